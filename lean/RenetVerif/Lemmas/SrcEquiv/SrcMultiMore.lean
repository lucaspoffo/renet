/-
  Helper lemmas for transporting the multi-client theorems of `Props/C11E.lean`, `Props/C11L.lean`, `Props/C01M.lean`
  along the simulation `SrcMulti.mrun_sim` / `mrun_sim_conv` to the generated system `GMulti`.
-/
import RenetVerif.Lemmas.SrcEquiv.SrcMulti
namespace RenetVerif.SrcMulti
open RenetVerif RenetVerif.RustSem RenetVerif.C RenetVerif.System RenetVerif.MultiSystem RenetVerif.SrcEquiv RenetVerif.SrcSystem
open Src.renet.remote_connection Src.renet.server

theorem mrunInRangeFrom_prefix : ∀ (ops1 ops2 : List MOp) (m : MSys), MRunInRangeFrom m (ops1 ++ ops2) → MRunInRangeFrom m ops1 := by
  intro ops1
  induction ops1 with
  | nil => intro _ _ _; trivial
  | cons op ops ih =>
    intro ops2 m h
    obtain ⟨h1, h2, h3⟩ := h
    refine ⟨h1, h2, ?_⟩
    cases hs : m.step op with
    | none => trivial
    | some m' => rw [hs] at h3; exact ih ops2 m' h3

theorem mrunInRange_prefix (P : Params) (ops1 ops2 : List MOp) (h : MRunInRange P (ops1 ++ ops2)) : MRunInRange P ops1 :=
  ⟨h.1, mrunInRangeFrom_prefix ops1 ops2 _ h.2⟩

theorem msim_of_runs (P : Params) (ops ext : List MOp) (m : MSys) (g : GMulti) (hm : (MSys.init P).run ops = some m)
    (hg : GMulti.exec P ops = some g) (hrg : MRunInRange P (ops ++ ext)) : SimMulti m g := by
  obtain ⟨g', e', sim⟩ := mrun_sim P ops m (mrunInRange_prefix P ops ext hrg) hm
  rw [hg] at e'; cases e'
  exact sim

theorem mext_sim (P : Params) (ops ext : List MOp) (m m' : MSys) (g : GMulti) (hm : (MSys.init P).run ops = some m)
    (hg : GMulti.exec P ops = some g) (hu : m.run ext = some m') (hrg : MRunInRange P (ops ++ ext)) :
    ∃ u, GMulti.exec P (ops ++ ext) = some u ∧ SimMulti m g ∧ SimMulti m' u := by
  have hrun : (MSys.init P).run (ops ++ ext) = some m' := by rw [MSys.run_append, hm]; exact hu
  obtain ⟨u, e, simu⟩ := mrun_sim P _ m' hrg hrun
  exact ⟨u, e, msim_of_runs P ops ext m g hm hg hrg, simu⟩

theorem mrun_of_exec (P : Params) (ops ext : List MOp) (m : MSys) (u : GMulti) (hm : (MSys.init P).run ops = some m)
    (hu : GMulti.exec P (ops ++ ext) = some u) (hrg : MRunInRange P (ops ++ ext)) :
    ∃ m', m.run ext = some m' ∧ SimMulti m' u := by
  obtain ⟨m', hm', sim⟩ := mrun_sim_conv P _ u hrg hu
  rw [MSys.run_append, hm] at hm'
  exact ⟨m', hm', sim⟩

theorem glink_of_model {m : MSys} {g : GMulti} (sim : SimMulti m g) {i : Nat} {l : Link} (h : m.links i = some l) :
    ∃ gl, g.links i = some gl ∧ SimLink l gl := by
  rcases (sim.links i).cases with ⟨hn, -⟩ | ⟨l', gl, hl, hg, hs⟩
  · rw [h] at hn
    cases hn
  · rw [h] at hl
    cases hl
    exact ⟨gl, hg, hs⟩

/-- **client `i` is connected in the generated state `u`**: `gc` is the server's generated connection for `i` (field
    `connections`), `gl` everything else that belongs to `i` (`u.links i`); the generated `is_disconnected` of the server-side
    connection and of the remote endpoint return `false`; no hostile bytes were handed to the server under id `i`. -/
structure GLive (u : GMulti) (i : Nat) (gc : RenetClient) (gl : GLink) : Prop where
  conn : gconn? u.server i = some gc
  link : u.links i = some gl
  srvLive : (RenetClient.is_disconnected gc : Res Empty Bool) = .ok false
  cliLive : (RenetClient.is_disconnected gl.cl : Res Empty Bool) = .ok false
  clean : gl.tainted = false

theorem glive_model {m : MSys} {g : GMulti} (sim : SimMulti m g) {i : Nat} {gc : RenetClient} {gl : GLink}
    (h : GLive g i gc gl) {c : Conn} {l : Link} (hconn : conn? m.server i = some c) (hml : m.links i = some l) :
    SimLink l gl ∧ l.tainted = false ∧ c.isDisconnected = false ∧ l.cl.isDisconnected = false := by
  obtain ⟨l', hl', hsl⟩ := link_of_sim sim h.link
  rw [hml] at hl'; cases hl'
  obtain ⟨mrss, hS⟩ := sim.server
  obtain ⟨mrs, hcl⟩ := hsl.cl
  have hc := h.conn
  rw [hS, gconn_repr, hconn] at hc
  have hs := h.srvLive
  rw [← Option.some.inj hc] at hs
  have hb := h.cliLive
  rw [hcl] at hb
  exact ⟨hsl, by rw [← hsl.tainted]; exact h.clean, model_live_of_repr hs, model_live_of_repr hb⟩

theorem glive_of_model {m : MSys} {u : GMulti} (sim : SimMulti m u) {i : Nat} {c : Conn} {l : Link}
    (hconn : conn? m.server i = some c) (hml : m.links i = some l) (hda : c.isDisconnected = false)
    (hdb : l.cl.isDisconnected = false) (hcl : l.tainted = false) :
    ∃ gc gl, GLive u i gc gl ∧ SimLink l gl := by
  obtain ⟨mrss, hS⟩ := sim.server
  obtain ⟨gl, hu, hsl⟩ := glink_of_model sim hml
  obtain ⟨mrs, hgcl⟩ := hsl.cl
  refine ⟨reprConn (mrss i) c, gl, ⟨?_, hu, is_disconnected_of_repr _ _ hda, ?_, ?_⟩, hsl⟩
  · rw [hS, gconn_repr, hconn]; rfl
  · rw [hgcl]; exact is_disconnected_of_repr _ _ hdb
  · rw [hsl.tainted]; exact hcl

/-- "each at least once, none more often than addressed", from "obtained is a permutation of the log" and "the log is a
    sub-sequence of what was addressed" -/
theorem gcount_facts {obt sub adr : List GBytes} (hd : obt.Perm sub) (hs : sub.Sublist adr) :
    ∀ x ∈ sub, 1 ≤ obt.count x ∧ obt.count x ≤ adr.count x := by
  intro x hx
  rw [hd.count_eq x]
  exact ⟨List.count_pos_iff.mpr hx, hs.count_le x⟩

theorem count_map_toNats (L : List Bytes) (x : Bytes) : (L.map toNats).count (toNats x) = L.count x := by
  induction L with
  | nil => rfl
  | cons a L ih =>
    simp only [List.map_cons, List.count_cons, ih]
    congr 1
    by_cases h : a = x
    · subst h; simp
    · have : toNats a ≠ toNats x := fun e => h (toNats_inj e)
      simp [h, this]

/-- two generated connections represent the same model connection: they agree up to the field `most_recent_message_id` of the
    reliable receive channels (bookkeeping of the generated code the model does not have; `reprConn`, ConnRepr.lean) -/
def SameConn (a b : RenetClient) : Prop := ∃ c mrs1 mrs2, a = reprConn mrs1 c ∧ b = reprConn mrs2 c

structure GSameLink (a b : GLink) : Prop where
  cl : SameConn a.cl b.cl
  last : SameConn a.last b.last
  outS : a.outS = b.outS
  outC : a.outC = b.outC
  subS : a.subS = b.subS
  subSU : a.subSU = b.subSU
  obtC : a.obtC = b.obtC
  subC : a.subC = b.subC
  subCU : a.subCU = b.subCU
  obtS : a.obtS = b.obtS
  delivC : a.delivC = b.delivC
  delivS : a.delivS = b.delivS
  tainted : a.tainted = b.tainted

def SameOpt {α : Type} (R : α → α → Prop) : Option α → Option α → Prop
  | none, none => True
  | some a, some b => R a b
  | _, _ => False

/-- **the generated states `g1`, `g2` agree on everything about client `i`**: its slot in the server's connection table
    (absent in both, or present in both and the same connection) and its link (absent in both, or the same) -/
def GSameView (g1 g2 : GMulti) (i : Nat) : Prop :=
  SameOpt SameConn (gconn? g1.server i) (gconn? g2.server i) ∧ SameOpt GSameLink (g1.links i) (g2.links i)

theorem gsameLink_of_sim {l : Link} {a b : GLink} (h1 : SimLink l a) (h2 : SimLink l b) : GSameLink a b := by
  obtain ⟨m1, e1⟩ := h1.cl
  obtain ⟨m2, e2⟩ := h2.cl
  obtain ⟨n1, f1⟩ := h1.last
  obtain ⟨n2, f2⟩ := h2.last
  exact ⟨⟨_, _, _, e1, e2⟩, ⟨_, _, _, f1, f2⟩, by rw [h1.outS, h2.outS], by rw [h1.outC, h2.outC],
    funext fun k => by rw [h1.subS, h2.subS], funext fun k => by rw [h1.subSU, h2.subSU],
    funext fun k => by rw [h1.obtC, h2.obtC], funext fun k => by rw [h1.subC, h2.subC],
    funext fun k => by rw [h1.subCU, h2.subCU], funext fun k => by rw [h1.obtS, h2.obtS],
    by rw [h1.delivC, h2.delivC], by rw [h1.delivS, h2.delivS], by rw [h1.tainted, h2.tainted]⟩

theorem gsameView_of_sim {m1 m2 : MSys} {g1 g2 : GMulti} (sim1 : SimMulti m1 g1) (sim2 : SimMulti m2 g2) {i : Nat}
    (hv : m1.view i = m2.view i) : GSameView g1 g2 i := by
  have hc : conn? m1.server i = conn? m2.server i := congrArg LV.conn hv
  have hl : m1.links i = m2.links i := congrArg LV.link hv
  obtain ⟨s1, e1⟩ := sim1.server
  obtain ⟨s2, e2⟩ := sim2.server
  refine ⟨?_, ?_⟩
  · rw [e1, e2, gconn_repr, gconn_repr, hc]
    cases conn? m2.server i with
    | none => trivial
    | some c => exact ⟨c, _, _, rfl, rfl⟩
  · have r1 := sim1.links i
    rw [hl] at r1
    rcases (sim2.links i).cases with ⟨hm, h2⟩ | ⟨l, b, hm, h2, s2⟩
    · rw [hm] at r1
      rcases r1.cases with ⟨-, h1⟩ | ⟨_, _, e, -⟩
      · rw [h1, h2]
        trivial
      · cases e
    · rw [hm] at r1
      rcases r1.cases with ⟨e, -⟩ | ⟨l', a, e, h1, s1⟩
      · cases e
      · cases e
        rw [h1, h2]
        exact gsameLink_of_sim s1 s2

end RenetVerif.SrcMulti
