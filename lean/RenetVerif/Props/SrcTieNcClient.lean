/-
  Source tie, group NcClient: `renetcode/src/client.rs` `NetcodeClient::{new, is_connecting, is_connected, is_disconnected,
  current_time, client_id, time_since_last_received_packet, disconnect_reason, server_addr, disconnect, process_packet,
  generate_payload_packet, update_internal_state, generate_packet, update}` + `Packet::connection_request_from_token`
  ↔ `NetcodeClient` of `Netcode/Client.lean`.  The AEAD is a parameter on both sides (see `SrcTieNcCodec.lean`).

  * `reprNC out c` is the generated client; `out` — the scratch buffer `[u8; NETCODE_MAX_PACKET_BYTES]`, which the model does
    not keep — is a parameter; the sending functions leave SOME buffer of the same length (`∃ out'`).  The four methods that
    return `&mut self.out[..len]` return the slice by value (manifest `BORROWED_RETURN_OK`); `process_packet` returns its
    `&'a [u8]` payload (a slice of the caller's buffer, decrypted in place) by value, with the buffer (`∃ buf'`;
    `nc_client_process_packet_len`: of the same length).
  * `new`: `ClientAuthentication::Secure { connect_token }` ↔ the model's `new`; `Unsecure { .. }` generates a token first
    (`ConnectToken::generate`, group NcTokenGen) from the four explicit random values `rand1..rand4` (manifest
    `RANDOM_SOURCES`; parameters of the generated `new`, unused for `Secure`).
  * `update_internal_state`: the Rust `Err(e)` carries the state it leaves behind (the model returns `(some e, c')`).
    Hypotheses: `connect_token.timeout_seconds < 2^31` (an `i32`; the model keeps an `Int`) and
    `server_addr_index + 1 < 2^64` (a `usize`; the index stays below 32 along every run).
  * `match (packet, &self.state) { (A, X | Y) => .. }`: the or-pattern inside the tuple is distributed (`(A, X) | (A, Y)`).
-/
import RenetVerif.Lemmas.SrcEquiv.NcClient
import RenetVerif.Props.SrcTieNcTokenGen
namespace RenetVerif.SrcTie
open RenetVerif RenetVerif.SrcEquiv RenetVerif.RustSem RenetVerif.Netcode
open Src.renetcode.client

theorem nc_client_new_secure (a : AEAD) (ct : Nat) (tok : Netcode.ConnectToken) (r1 r2 r3 r4 : List Nat) :
    SameOutcome (@Src.renetcode.client.NetcodeClient.new (aeadOf a) ct (.Secure (reprTok tok)) r1 r2 r3 r4)
      (mapRes (reprNC (List.replicate C.NETCODE_MAX_PACKET_BYTES 0)) reprNErr (Netcode.NetcodeClient.new ct tok)) := by
  unfold Src.renetcode.client.NetcodeClient.new Netcode.NetcodeClient.new
  have hsa : (reprTok tok).server_addresses = reprAddrs tok.serverAddresses := rfl
  simp only [Exec.bind_eq, Exec.pure_eq, Exec.bind_val', hsa, rp_new_eq, Exec.call_ok]
  cases hl : tok.serverAddresses with
  | nil => exact trivial
  | cons x r =>
    cases x with
    | none => exact trivial
    | some addr =>
      simp only [reprAddrs, List.map_cons, Option.map_some, RustSem.index, List.getElem?_cons_zero, RustSem.unwrap, Exec.bind_val',
        Exec.run_val, List.head?_cons, mapRes, SameOutcome]
      simp only [reprNC, reprCSt, RustSem.repeat_, reprTok, hl, reprAddrs, List.map_cons, Option.map_some, toNats_replicate]
      rfl
/-- `NetcodeClient::new` with `ClientAuthentication::Unsecure`: a token for the one server address, 300 s to expire, 15 s
    time-out, all-zero private key, generated from the four explicit random values -/
theorem nc_client_new_unsecure (a : AEAD) (ct pid cid : Nat) (addr : Addr) (ud : Option Bytes) (r1 r2 r3 r4 : Bytes) :
    SameOutcome (@Src.renetcode.client.NetcodeClient.new (aeadOf a) ct (.Unsecure pid cid (reprAddr addr) (ud.map toNats))
        (toNats r1) (toNats r2) (toNats r3) (toNats r4))
      (match Netcode.ConnectToken.generate a ct pid 300 cid 15 [addr] (ud.getD r3) r1 r2 r4 (List.replicate C.NETCODE_KEY_BYTES 0) with
       | .ok tok => mapRes (reprNC (List.replicate C.NETCODE_MAX_PACKET_BYTES 0)) reprNErr (Netcode.NetcodeClient.new ct tok)
       | .err e => .err (reprNErr (.tokenGenerationError e))
       | .panic m => .panic m) := by
  unfold Src.renetcode.client.NetcodeClient.new
  have hgen := nc_connect_token_generate a ct pid 300 cid 15 [addr] ud (List.replicate C.NETCODE_KEY_BYTES 0) r1 r2 r3 r4
  have hkey : RustSem.repeat_ 0 Src.renetcode.NETCODE_KEY_BYTES = toNats (List.replicate C.NETCODE_KEY_BYTES 0) := by
    rw [toNats_replicate]; rfl
  simp only [Exec.bind_eq, Exec.pure_eq, hkey]
  have hl1 : [reprAddr addr] = [addr].map reprAddr := rfl
  rw [hl1]
  refine hgen.map_elim (fun e hm hg => ?_) (fun mm msg hm hg => ?_) (fun tok hm hg => ?_)
  · rw [hm, hg]
    exact rfl
  · rw [hm, hg]
    exact trivial
  · rw [hm, hg]
    exact nc_client_new_secure a ct tok [] [] [] []

theorem nc_client_is_connecting {ε : Type} (out : List Nat) (c : Netcode.NetcodeClient) :
    (NetcodeClient.is_connecting (reprNC out c) : Res ε _) = .ok c.isConnecting := by
  unfold NetcodeClient.is_connecting Netcode.NetcodeClient.isConnecting
  rw [reprNC_state]
  cases c.state <;> rfl
theorem nc_client_is_connected {ε : Type} (out : List Nat) (c : Netcode.NetcodeClient) :
    (NetcodeClient.is_connected (reprNC out c) : Res ε _) = .ok c.isConnected := by
  unfold NetcodeClient.is_connected Netcode.NetcodeClient.isConnected
  rw [reprNC_state]
  cases c.state <;> rfl
theorem nc_client_is_disconnected {ε : Type} (out : List Nat) (c : Netcode.NetcodeClient) :
    (NetcodeClient.is_disconnected (reprNC out c) : Res ε _) = .ok c.isDisconnected := by
  unfold NetcodeClient.is_disconnected Netcode.NetcodeClient.isDisconnected
  rw [reprNC_state]
  cases c.state <;> rfl
theorem nc_client_current_time {ε : Type} (out : List Nat) (c : Netcode.NetcodeClient) :
    (NetcodeClient.current_time' (reprNC out c) : Res ε _) = .ok c.currentTime := rfl
theorem nc_client_client_id {ε : Type} (out : List Nat) (c : Netcode.NetcodeClient) :
    (NetcodeClient.client_id' (reprNC out c) : Res ε _) = .ok c.clientId := rfl
theorem nc_client_server_addr {ε : Type} (out : List Nat) (c : Netcode.NetcodeClient) :
    (NetcodeClient.server_addr' (reprNC out c) : Res ε _) = .ok (reprAddr c.serverAddr) := rfl
theorem nc_client_disconnect_reason {ε : Type} (out : List Nat) (c : Netcode.NetcodeClient) :
    (NetcodeClient.disconnect_reason (reprNC out c) : Res ε _) = .ok (c.disconnectReason.map reprDR) := by
  unfold NetcodeClient.disconnect_reason Netcode.NetcodeClient.disconnectReason
  rw [reprNC_state]
  cases c.state <;> simp [reprCSt, Exec.bind_eq, Exec.pure_eq, Exec.bind_val', Exec.bind_ret', Exec.run_val, Exec.run_ret]
/-- `Duration - Duration` panics when the receive time lies in the future of the client clock -/
theorem nc_client_time_since_last_received_packet {ε : Type} (out : List Nat) (c : Netcode.NetcodeClient) :
    SameOutcome (NetcodeClient.time_since_last_received_packet (reprNC out c) : Res ε _)
      (mapRes (fun o => o) (fun e => nomatch e) c.timeSinceLastReceivedPacket) := by
  unfold NetcodeClient.time_since_last_received_packet Netcode.NetcodeClient.timeSinceLastReceivedPacket
  have h1 : (reprNC out c).current_time = c.currentTime := rfl
  have h2 : (reprNC out c).last_packet_received_time = c.lastPacketReceivedTime := rfl
  simp only [h1, h2, RustSem.Duration.sub, Res.csub]
  by_cases h : c.lastPacketReceivedTime ≤ c.currentTime
  · simp [h, Exec.run_val, mapRes, SameOutcome]
  · simp [h, Exec.run_panic, mapRes, SameOutcome]

/-- `disconnect`: the state becomes `Disconnected(DisconnectedByClient)` also when the encode fails -/
theorem nc_client_disconnect (a : AEAD) (hl : a.Laws) (out : List Nat) (hout : out.length = C.NETCODE_MAX_PACKET_BYTES)
    (c : Netcode.NetcodeClient) :
    CliSendOut (c.disconnect a).2 (c.disconnect a).1 (@Src.renetcode.client.NetcodeClient.disconnect (aeadOf a) (reprNC out c)) := by
  unfold Src.renetcode.client.NetcodeClient.disconnect Netcode.NetcodeClient.disconnect
  simp only [Exec.bind_eq, Exec.pure_eq]
  refine (cli_enc a hl .disconnect .Disconnect rfl out hout c).elim (fun bytes buf' hme hge htake hblen => ?_)
    (fun e st hme hge hst => ?_) (fun mm msg hme hge => ?_)
  · rw [hme, hge, Exec.callFrom_ok, Exec.bind_val', Exec.bind_skip (RustSem.slice _ _ _ _) _ _ (slice_of_take buf' bytes htake _)]
    exact Exists.intro buf' ⟨hblen, rfl⟩
  · rw [hme, hge]
    exact Exists.intro st ⟨hst, rfl⟩
  · rw [hme, hge]
    exact Exists.intro msg rfl
theorem nc_client_process_packet_len {ε : Type} (a : AEAD) (hl : a.Laws) (out : List Nat) (c : Netcode.NetcodeClient) (buffer : Bytes)
    (hbl : buffer.length + 16 < 2 ^ 64) :
    CliPktOutL buffer.length out (c.processPacket a buffer)
      (@Src.renetcode.client.NetcodeClient.process_packet (aeadOf a) ε (reprNC out c) (toNats buffer)) := by
  unfold Src.renetcode.client.NetcodeClient.process_packet Netcode.NetcodeClient.processPacket
  have hdec0 := nc_packet_decode_len a hl buffer hbl c.connectToken.protocolId (some c.connectToken.serverToClientKey)
    (some c.replayProtection)
  have hdec : DecOutL buffer.length (Netcode.Packet.decode a buffer c.connectToken.protocolId (some c.connectToken.serverToClientKey)
        (some c.replayProtection))
      (@Src.renetcode.packet.Packet.decode (aeadOf a) (toNats buffer) (reprNC out c).connect_token.protocol_id
        (some (reprNC out c).connect_token.server_to_client_key) (some (reprNC out c).replay_protection)) := hdec0
  obtain ⟨w', hw⟩ := NS.decode_rp_some a buffer c.connectToken.protocolId (some c.connectToken.serverToClientKey) c.replayProtection
  generalize hM : Netcode.Packet.decode a buffer c.connectToken.protocolId (some c.connectToken.serverToClientKey)
    (some c.replayProtection) = M at hdec hw ⊢
  obtain ⟨r, rp⟩ := M
  simp only [] at hdec hw ⊢
  subst hw
  simp only [Exec.bind_eq, Exec.pure_eq, Option.getD_some]
  cases r with
  | panic m =>
    obtain ⟨msg, hg⟩ := hdec
    rw [hg]
    exact Exists.intro msg rfl
  | err e =>
    obtain ⟨buf', hbl', hg⟩ := hdec
    rw [hg]
    exact Exists.intro buf' ⟨hbl', rfl⟩
  | ok v =>
    obtain ⟨sq, packet⟩ := v
    obtain ⟨buf', hbl', hg⟩ := hdec
    rw [hg, attempt2_ok', Exec.bind_val', Exec.bind_skip _ _ (reprRP w') ?h1,
      Exec.bind_skip _ _ (buf', reprNC out { c with replayProtection := w' }, reprNP packet) ?h2]
    case h1 => rfl
    case h2 => rfl
    simp only []
    rw [reprNC_state]
    cases packet <;> cases hst : c.state <;> exact Exists.intro buf' ⟨hbl', rfl⟩

/-- `process_packet` for EVERY byte sequence: the replay window is written back also when the decode fails (the error is
    swallowed); the state machine on (packet, state) -/
theorem nc_client_process_packet {ε : Type} (a : AEAD) (hl : a.Laws) (out : List Nat) (c : Netcode.NetcodeClient) (buffer : Bytes)
    (hbl : buffer.length + 16 < 2 ^ 64) :
    CliPktOut out (c.processPacket a buffer)
      (@Src.renetcode.client.NetcodeClient.process_packet (aeadOf a) ε (reprNC out c) (toNats buffer)) := by
  have h := nc_client_process_packet_len (ε := ε) a hl out c buffer hbl
  unfold CliPktOut
  unfold CliPktOutL at h
  split at h
  · obtain ⟨b, _, hg⟩ := h; exact ⟨b, hg⟩
  · exact h
  · exact h
theorem nc_client_generate_payload_packet (a : AEAD) (hl : a.Laws) (out : List Nat) (hout : out.length = C.NETCODE_MAX_PACKET_BYTES)
    (c : Netcode.NetcodeClient) (payload : Bytes) :
    CliGenOut c (c.generatePayloadPacket a payload)
      (@Src.renetcode.client.NetcodeClient.generate_payload_packet (aeadOf a) (reprNC out c) (toNats payload)) := by
  unfold Src.renetcode.client.NetcodeClient.generate_payload_packet Netcode.NetcodeClient.generatePayloadPacket
  have hlen : RustSem.len (toNats payload) = payload.length := toNats_length payload
  have hK : Src.renetcode.NETCODE_MAX_PAYLOAD_BYTES = C.NETCODE_MAX_PAYLOAD_BYTES := rfl
  have hcn : Src.renetcode.client.ClientState.Connected = reprCSt .connected := rfl
  simp only [Exec.bind_eq, Exec.pure_eq]
  rw [hlen, hK, reprNC_state, hcn]
  by_cases hp : payload.length > C.NETCODE_MAX_PAYLOAD_BYTES
  · rw [if_pos (decide_eq_true hp), if_pos hp]
    exact Exists.intro out ⟨hout, rfl⟩
  rw [if_neg (mt of_decide_eq_true hp), if_neg hp, Exec.bind_val']
  by_cases hst : c.state ≠ .connected
  · have hst' : reprCSt c.state ≠ reprCSt .connected := fun h => hst (reprCSt_inj h)
    rw [if_pos (decide_eq_true hst'), if_pos hst]
    exact Exists.intro out ⟨hout, rfl⟩
  have hst' : ¬ reprCSt c.state ≠ reprCSt .connected := fun h => hst fun e => h (congrArg reprCSt e)
  rw [if_neg (mt of_decide_eq_true hst'), if_neg hst, Exec.bind_val']
  refine (cli_enc a hl (.payload payload) (.Payload _) rfl out hout c).elim (fun bytes buf' hme hge htake hblen => ?_)
    (fun e st hme hge hst2 => ?_) (fun mm msg hme hge => ?_)
  · rw [hme, hge, Exec.callFrom_ok, Exec.bind_val', Res.bind_ok, reprNC_sequence]
    refine incU64_elim c.sequence (fun hgi hmi => ?_) (fun hgi hmi => ?_)
    · rw [hgi, hmi]
      exact Exists.intro _ rfl
    · rw [hgi, hmi, Exec.bind_val', Exec.bind_skip (RustSem.slice _ _ _ _) _ _ (slice_of_take buf' bytes htake _)]
      exact Exists.intro buf' ⟨hblen, rfl⟩
  · rw [hme, hge]
    exact Exists.intro st ⟨hst2, rfl⟩
  · rw [hme, hge]
    exact Exists.intro msg rfl
/-- `update_internal_state`: clock, time-out (`last_packet_received_time + timeout < now`), token expiry, fail-over to the next
    server address of the token, `NoMoreServers`; panics ↔ panics (Duration overflow / underflow, address index) -/
theorem nc_client_update_internal_state (out : List Nat) (c : Netcode.NetcodeClient) (hto : c.connectToken.timeoutSeconds < 2 ^ 31)
    (hidx : c.serverAddrIndex + 1 < 2 ^ 64) (dt : Nat) :
    CliUpdOut out (c.updateInternalState dt) (Src.renetcode.client.NetcodeClient.update_internal_state (reprNC out c) dt) := by
  unfold Src.renetcode.client.NetcodeClient.update_internal_state Netcode.NetcodeClient.updateInternalState
  have hfs : RustSem.Duration.from_secs = fromSecs := by
    funext n; unfold RustSem.Duration.from_secs fromSecs NS_PER_SEC; rfl
  rw [hfs]
  generalize fromSecs = fs
  have hct : (reprNC out c).current_time = c.currentTime := rfl
  simp only [Exec.bind_eq, Exec.pure_eq]
  rw [hct]
  refine durAdd_elim c.currentTime dt (fun hgd hmd => ?_) (fun hgd hmd => ?_)
  · rw [hgd, hmd]
    exact Exists.intro _ rfl
  rw [hgd, hmd, Exec.bind_val', Res.bind_ok]
  have hts : (reprNC out c).connect_token.timeout_seconds = c.connectToken.timeoutSeconds := rfl
  have hlr : (reprNC out c).last_packet_received_time = c.lastPacketReceivedTime := rfl
  rw [hts, hlr]
  refine timed_out_elim c.lastPacketReceivedTime (c.currentTime + dt) c.connectToken.timeoutSeconds hto fs (fun hg hm => ?_)
    (fun to hg hm => ?_)
  · rw [hg, hm]
    exact Exists.intro _ rfl
  rw [hg, hm, Res.bind_ok, Exec.bind_val']
  have hcst : (reprNC out c).connect_start_time = c.connectStartTime := rfl
  have hexp : (reprNC out c).connect_token.expire_timestamp = c.connectToken.expireTimestamp := rfl
  have hcre : (reprNC out c).connect_token.create_timestamp = c.connectToken.createTimestamp := rfl
  have hsai : (reprNC out c).server_addr_index = c.serverAddrIndex := rfl
  have hsas : (reprNC out c).connect_token.server_addresses = reprAddrs c.connectToken.serverAddresses := rfl
  have hsecs : ∀ t, RustSem.Duration.as_secs t = asSecs t := fun _ => rfl
  have hsat : ∀ x y : Nat, RustSem.saturating_sub 64 x y = x - y := fun _ _ => rfl
  rw [reprNC_state]
  cases hst : c.state with
  | disconnected r => exact rfl
  | connected => cases to <;> exact rfl
  | sendingConnectionRequest | sendingConnectionResponse =>
    simp only [reprCSt]
    rw [hcst]
    unfold RustSem.Duration.sub Res.csub
    by_cases hle : c.connectStartTime ≤ c.currentTime + dt
    case neg =>
      rw [if_neg hle, if_neg hle]
      exact Exists.intro _ rfl
    rw [if_pos hle, if_pos hle, Exec.bind_val', Res.bind_ok, hsecs, hsat, hexp, hcre]
    by_cases hexpd : asSecs (c.currentTime + dt - c.connectStartTime) ≥ c.connectToken.expireTimestamp - c.connectToken.createTimestamp
    case pos =>
      rw [if_pos (decide_eq_true hexpd), if_pos hexpd]
      exact rfl
    rw [if_neg (mt of_decide_eq_true hexpd), if_neg hexpd, Exec.bind_val']
    cases to with
    | false => exact rfl
    | true =>
      simp only [if_true, reduceCtorEq, decide_false, decide_true, Bool.false_eq_true, if_false]
      rw [Exec.bind_val', hsai, add_val hidx, Exec.bind_val']
      have hK : C.NETCODE_TOKEN_MAX_ADDRESSES = 32 := rfl
      rw [hK]
      by_cases h32 : c.serverAddrIndex + 1 ≥ 32
      case pos =>
        rw [if_pos (decide_eq_true h32), if_pos h32]
        exact rfl
      rw [if_neg (mt of_decide_eq_true h32), Exec.bind_val', if_neg h32, hsas]
      cases hget : c.connectToken.serverAddresses[c.serverAddrIndex + 1]? with
      | none =>
        rw [index_panic (by simp [reprAddrs, hget])]
        exact Exists.intro _ rfl
      | some oa =>
        rw [index_val (x := oa.map reprAddr) (by simp [reprAddrs, hget]), Exec.bind_val']
        cases oa <;> exact rfl
/-- `generate_packet`: send-rate test, connection request / response / keep-alive by state, `sequence += 1` after a
    successful encode (a failed encode is swallowed) -/
theorem nc_client_generate_packet {ε : Type} (a : AEAD) (hl : a.Laws) (out : List Nat) (hout : out.length = C.NETCODE_MAX_PACKET_BYTES)
    (c : Netcode.NetcodeClient) :
    CliTickOut (c.generatePacket a) (@Src.renetcode.client.NetcodeClient.generate_packet (aeadOf a) ε (reprNC out c)) := by
  unfold Src.renetcode.client.NetcodeClient.generate_packet Netcode.NetcodeClient.generatePacket
  have hlps : (reprNC out c).last_packet_send_time = c.lastPacketSendTime := rfl
  have hct : (reprNC out c).current_time = c.currentTime := rfl
  have hsr : (reprNC out c).send_rate = c.sendRate := rfl
  simp only [Exec.bind_eq, Exec.pure_eq]
  rw [hlps, reprNC_state]
  -- too soon to send?  If not, both cases go on in the same way
  cases hl0 : c.lastPacketSendTime
  case' none =>
    simp only []
    rw [Exec.bind_val', Res.pure_eq, Res.bind_ok]
    simp only [Bool.false_eq_true, if_false]
  case' some t =>
    simp only []
    rw [hct, hsr]
    unfold RustSem.Duration.sub Res.csub
    by_cases hle : t ≤ c.currentTime
    case neg =>
      rw [if_neg hle, if_neg hle]
      exact Exists.intro _ rfl
    rw [if_pos hle, if_pos hle, Exec.bind_val', Res.bind_ok, Res.pure_eq, Res.bind_ok]
    by_cases hsoon : c.currentTime - t < c.sendRate
    case pos =>
      rw [if_pos (decide_eq_true hsoon), if_pos (decide_eq_true hsoon)]
      exact Exists.intro out ⟨hout, rfl⟩
    rw [if_neg (mt of_decide_eq_true hsoon), if_neg (mt of_decide_eq_true hsoon), Exec.bind_val', Exec.bind_val']
  all_goals
    cases hst : c.state with
    | disconnected r =>
      simp only [reprCSt, Bool.false_eq_true, if_false, Exec.bind_val', reprNC_state, hst]
      exact Exists.intro out ⟨hout, rfl⟩
    | sendingConnectionRequest =>
      exact nc_send_tail a hl out hout { c with state := .sendingConnectionRequest, lastPacketSendTime := some c.currentTime }
        _ _ rfl _ _ _
    | sendingConnectionResponse =>
      exact nc_send_tail a hl out hout { c with state := .sendingConnectionResponse, lastPacketSendTime := some c.currentTime }
        (.response c.challengeTokenSequence c.challengeTokenData) _ rfl _ _ _
    | connected =>
      exact nc_send_tail a hl out hout { c with state := .connected, lastPacketSendTime := some c.currentTime }
        (.keepAlive 0 0) _ rfl _ _ _
theorem nc_client_update {ε : Type} (a : AEAD) (hl : a.Laws) (out : List Nat) (hout : out.length = C.NETCODE_MAX_PACKET_BYTES)
    (c : Netcode.NetcodeClient) (hto : c.connectToken.timeoutSeconds < 2 ^ 31) (hidx : c.serverAddrIndex + 1 < 2 ^ 64) (dt : Nat) :
    CliTickOut (c.update a dt) (@Src.renetcode.client.NetcodeClient.update (aeadOf a) ε (reprNC out c) dt) := by
  unfold Src.renetcode.client.NetcodeClient.update Netcode.NetcodeClient.update
  have h := nc_client_update_internal_state out c hto hidx dt
  simp only [Exec.bind_eq, Exec.pure_eq]
  cases hm : c.updateInternalState dt with
  | panic m =>
    rw [hm] at h
    obtain ⟨msg, hg⟩ := h
    rw [hg]
    exact Exists.intro msg rfl
  | err e => exact nomatch e
  | ok v =>
    obtain ⟨e, c'⟩ := v
    rw [hm] at h
    cases e with
    | some e =>
      rw [show Src.renetcode.client.NetcodeClient.update_internal_state (reprNC out c) dt = _ from h]
      exact Exists.intro out ⟨hout, rfl⟩
    | none =>
      rw [show Src.renetcode.client.NetcodeClient.update_internal_state (reprNC out c) dt = _ from h, attempt_ok', Exec.bind_val',
        Res.bind_ok]
      simp only []
      rw [Exec.bind_val']
      have hgp := nc_client_generate_packet (ε := ε) a hl out hout c'
      cases hmg : c'.generatePacket a with
      | panic m =>
        rw [hmg] at hgp
        obtain ⟨msg, hg⟩ := hgp
        rw [hg]
        exact Exists.intro msg rfl
      | err e => exact nomatch e
      | ok v =>
        obtain ⟨r, c2⟩ := v
        rw [hmg] at hgp
        obtain ⟨out', hol, hg⟩ := hgp
        rw [hg]
        exact Exists.intro out' ⟨hol, rfl⟩

/-! ### the generated definitions on concrete values (toy AEAD) -/

/-- a connected client (sequence 6, time-out 5 s, last heard of at t = 0) at t = 4 s, scratch buffer of 40 sevens -/
def exCli : SNetcodeClient :=
  ⟨.Connected, 4, 0, none, 0, 4000000000, 6, .v4 [10, 0, 0, 1] 7, 0,
   ⟨4, [], 9, 0, 100, [], [some (.v4 [10, 0, 0, 1] 7)], List.replicate 32 1, List.replicate 32 2, [], 5⟩,
   0, [], 0, 0, 250000000, reprRP RP.new, List.replicate 40 7⟩

/-- 1 s later: not timed out (0 + 5 s is not `< 5 s`), a keep-alive with sequence 6 goes out -/
example : (match @NetcodeClient.update (aeadOf AEAD.toy) Empty exCli 1000000000 with
    | .ok (c, r) => (r, c.sequence, c.last_packet_send_time, c.state) ==
        (some ([20, 6, 0, 0, 0, 0, 0, 0, 0, 0] ++ List.replicate 16 0, .v4 [10, 0, 0, 1] 7), 7, some 5000000000, .Connected)
    | _ => false) = true := by decide +kernel
/-- 2 s later: timed out -/
example : (match @NetcodeClient.update (aeadOf AEAD.toy) Empty exCli 2000000000 with
    | .ok (c, r) => (r, c.sequence, c.state) == (none, 6, .Disconnected .ConnectionTimedOut)
    | _ => false) = true := by decide +kernel
/-- a `Disconnect` packet (sequence 3) from the server -/
example : (match @NetcodeClient.process_packet (aeadOf AEAD.toy) Empty exCli ([22, 3] ++ List.replicate 16 0) with
    | .ok (c, _, r) => (r, c.state, c.replay_protection.most_recent_sequence) == (none, .Disconnected .DisconnectedByServer, 3)
    | _ => false) = true := by decide +kernel
example : (match @NetcodeClient.generate_payload_packet (aeadOf AEAD.toy) exCli [9, 8, 7] with
    | .ok (c, r) => (r, c.sequence, c.last_packet_send_time) ==
        ((.v4 [10, 0, 0, 1] 7, [21, 6, 9, 8, 7] ++ List.replicate 16 0), 7, some 4000000000)
    | _ => false) = true := by decide +kernel

end RenetVerif.SrcTie
