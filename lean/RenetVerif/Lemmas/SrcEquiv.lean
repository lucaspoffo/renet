/-
  Helper lemmas for the source tie, all groups (an umbrella module; the per-group modules are what
  the property checks import).
-/
import RenetVerif.Lemmas.SrcEquiv.Replay
import RenetVerif.Lemmas.SrcEquiv.Prefix
import RenetVerif.Lemmas.SrcEquiv.Slice
import RenetVerif.Lemmas.SrcEquiv.Packet
import RenetVerif.Lemmas.SrcEquiv.Acks
import RenetVerif.Lemmas.SrcEquiv.TokenTable
import RenetVerif.Lemmas.SrcEquiv.NcSerialize
import RenetVerif.Lemmas.SrcEquiv.NcToken
import RenetVerif.Lemmas.SrcEquiv.NcSequence
import RenetVerif.Lemmas.SrcEquiv.SendUnrel
import RenetVerif.Lemmas.SrcEquiv.RecvUnrel
import RenetVerif.Lemmas.SrcEquiv.SendRel
import RenetVerif.Lemmas.SrcEquiv.RecvRel
import RenetVerif.Lemmas.SrcEquiv.NcPacket
import RenetVerif.Lemmas.SrcEquiv.NcAddr
import RenetVerif.Lemmas.SrcEquiv.NcConnToken
import RenetVerif.Lemmas.SrcEquiv.Conn
import RenetVerif.Lemmas.SrcEquiv.ConnSend
import RenetVerif.Lemmas.SrcEquiv.ConnRecv
import RenetVerif.Lemmas.SrcEquiv.Server
import RenetVerif.Lemmas.SrcEquiv.NcCodec
import RenetVerif.Lemmas.SrcEquiv.NcServer
import RenetVerif.Lemmas.SrcEquiv.NcServerSend
import RenetVerif.Lemmas.SrcEquiv.NcServerRecv
import RenetVerif.Lemmas.SrcEquiv.NcTokenGen
import RenetVerif.Lemmas.SrcEquiv.NcClient
import RenetVerif.Lemmas.SrcEquiv.TrSocket
import RenetVerif.Lemmas.SrcEquiv.TrServer
import RenetVerif.Lemmas.SrcEquiv.TrClient
import RenetVerif.Lemmas.SrcEquiv.TrInv
import RenetVerif.Lemmas.SrcEquiv.InvBridge
import RenetVerif.Lemmas.SrcEquiv.SendTimeInv
import RenetVerif.Lemmas.SrcEquiv.SendBridge
import RenetVerif.Lemmas.SrcEquiv.TrClosed
