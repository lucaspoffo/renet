/-
  HISTORY-LEVEL netcode CLIENT theorems on the GENERATED code (`Generated/Src/NcClient.lean`, translated from
  `renetcode/src/client.rs`).  Every theorem has a GENERATED RUN in its hypothesis (`GNcC.exec`: generated
  `NetcodeClient::new`, then generated `update` / `process_packet` / `generate_payload_packet` / `disconnect` calls with
  arbitrary arguments, `Lemmas/SrcEquiv/SrcNcClientSystem.lean`) and concludes about the generated client struct, the generated
  query functions, or the outputs of the generated calls.  Each is proved by transporting a model theorem along the
  simulation `crun_sim_conv`.
-/
import RenetVerif.Lemmas.SrcEquiv.SrcNcClientSystem
import RenetVerif.Lemmas.SrcCorollariesNc
import RenetVerif.Props.C18U
import RenetVerif.Props.C18V
import RenetVerif.Props.C07
import RenetVerif.Props.C04
import RenetVerif.Props.SrcNcClientRuns
import RenetVerif.Lemmas.SrcEquiv.SrcNcClientSeal
set_option linter.unusedVariables false
namespace RenetVerif.SrcPropsNcClientHistory
open RenetVerif RenetVerif.SrcEquiv RenetVerif.RustSem RenetVerif.Netcode RenetVerif.SrcNcClientSystem RenetVerif.NcLive3

/-- **`g` is reached by a generated client run** from the generated `NetcodeClient::new`, in range -/
inductive GCReach (a : AEAD) : GNcC → Prop
  | exec {ct : Nat} {tok : Netcode.ConnectToken} {r1 r2 r3 r4 : List Nat} {ops : List CliOp} {g : GNcC} :
      CliInRange tok ops → GNcC.exec a ct tok r1 r2 r3 r4 ops = some g → GCReach a g

/-- the simulation relation in the vocabulary of `Lemmas/SrcCorollariesNc.lean` -/
theorem _root_.RenetVerif.SrcNcClientSystem.SimNcC.repr {m : MNcC} {g : GNcC} (h : SimNcC m g) :
    SrcCorNc.CliRepr g.cli m.cli := by
  obtain ⟨out, ho, hs⟩ := h.cli
  rw [hs]; exact ⟨ho, rfl⟩

theorem gcreach_model {a : AEAD} (hl : a.Laws) {g : GNcC} (h : GCReach a g) : ∃ m, CliInv m.cli ∧ SimNcC m g := by
  cases h with
  | exec hr hg =>
    obtain ⟨m, hm, hsim⟩ := crun_sim_conv a hl _ _ _ _ _ _ _ g hr hg
    exact ⟨m, inv_mexec hr.1 hm, hsim⟩

/-! ## C07, client half: no byte string makes the generated client unwind -/

theorem exec_append {a : AEAD} {ct : Nat} {tok : Netcode.ConnectToken} {r1 r2 r3 r4 : List Nat} {ops0 ops : List CliOp}
    {g : GNcC} (hg : GNcC.exec a ct tok r1 r2 r3 r4 ops0 = some g) :
    GNcC.exec a ct tok r1 r2 r3 r4 (ops0 ++ ops) = g.run a ops := by
  unfold GNcC.exec at hg ⊢
  cases h0 : GNcC.init a ct tok r1 r2 r3 r4 with
  | none => rw [h0] at hg; cases hg
  | some g0 =>
    rw [h0] at hg
    simp only [GNcC.run_append, hg, Option.bind_some]

theorem exec_append_none {a : AEAD} {ct : Nat} {tok : Netcode.ConnectToken} {r1 r2 r3 r4 : List Nat} {ops0 ops : List CliOp}
    (hg : GNcC.exec a ct tok r1 r2 r3 r4 ops0 = none) : GNcC.exec a ct tok r1 r2 r3 r4 (ops0 ++ ops) = none := by
  unfold GNcC.exec at hg ⊢
  cases h0 : GNcC.init a ct tok r1 r2 r3 r4 with
  | none => rfl
  | some g0 =>
    rw [h0] at hg
    simp only [GNcC.run_append, hg, Option.bind_none]

theorem packet_step_model {a : AEAD} (hl : a.Laws) {m : MNcC} {g : GNcC} (hi : CliInv m.cli) (hsim : SimNcC m g) (buf : Bytes)
    (hb : buf.length + 16 < 2 ^ 64) :
    ∃ p c' g', m.cli.processPacket a buf = .ok (p, c') ∧ g.step a (.packet buf) = some g' ∧
      SimNcC ⟨c', m.outs ++ [.received p]⟩ g' := by
  have hs := cstep_sim a hl hi hsim (.packet buf) hb
  obtain ⟨p, c', hp⟩ := C07.client_process_packet_total a m.cli buf
  have hm : m.step a (.packet buf) = some ⟨c', m.outs ++ [.received p]⟩ := by
    unfold MNcC.step mcstep
    simp only [hp]
  rw [hm] at hs
  obtain ⟨g', e, hsim'⟩ := hs
  exact ⟨p, c', g', hp, e, hsim'⟩

/-- **C07 `client_process_packet_total` after any generated run**: in every state reachable by a generated client run, the
    generated `process_packet` returns normally for EVERY byte string (shorter than `2^64 - 16` bytes).
    (Transports `C07.client_process_packet_total` = `NetcodeClient.processPacket_total`; no model-side hypothesis.) -/
theorem packet_total {a : AEAD} (hl : a.Laws) {g : GNcC} (h : GCReach a g) (buf : Bytes) (hb : buf.length + 16 < 2 ^ 64) :
    ∃ g', g.step a (.packet buf) = some g' ∧ GCReach a g' := by
  obtain ⟨m, hi, hsim⟩ := gcreach_model hl h
  obtain ⟨p, c', g', -, e, -⟩ := packet_step_model hl hi hsim buf hb
  refine ⟨g', e, ?_⟩
  cases h with
  | @exec ct tok r1 r2 r3 r4 ops g hr hg =>
    refine .exec (ops := ops ++ [.packet buf]) ⟨hr.1, fun o ho => ?_⟩ (by rw [exec_append hg]; simp only [GNcC.run, e])
    rcases List.mem_append.mp ho with h1 | h1
    · exact hr.2 o h1
    · rw [List.mem_singleton] at h1; subst h1; exact hb

/-- **… over traces**: a generated client run continued by ANY sequence of datagrams (each shorter than `2^64 - 16` bytes) handed
    to the generated `process_packet` never unwinds. -/
theorem packets_total {a : AEAD} (hl : a.Laws) : ∀ (bufs : List Bytes) {g : GNcC}, GCReach a g →
    (∀ b ∈ bufs, b.length + 16 < 2 ^ 64) → ∃ g', g.run a (bufs.map .packet) = some g' ∧ GCReach a g' := by
  intro bufs
  induction bufs with
  | nil => intro g h _; exact ⟨g, rfl, h⟩
  | cons b bufs ih =>
    intro g h hb
    obtain ⟨g1, e1, h1⟩ := packet_total hl h b (hb b List.mem_cons_self)
    obtain ⟨g', e', h'⟩ := ih h1 (fun x hx => hb x (List.mem_cons_of_mem _ hx))
    exact ⟨g', by simp only [List.map_cons, GNcC.run, e1, e'], h'⟩

/-- **`GNcC.exec … ≠ none`** for a generated execution extended by hostile datagrams: if the generated execution of `ops` from
    `new` succeeds (in range), so does the execution of `ops` followed by any datagrams. -/
theorem exec_packets_ne_none {a : AEAD} (hl : a.Laws) {ct : Nat} {tok : Netcode.ConnectToken} {r1 r2 r3 r4 : List Nat}
    {ops : List CliOp} {g : GNcC} (hr : CliInRange tok ops) (hg : GNcC.exec a ct tok r1 r2 r3 r4 ops = some g)
    (bufs : List Bytes) (hb : ∀ b ∈ bufs, b.length + 16 < 2 ^ 64) :
    GNcC.exec a ct tok r1 r2 r3 r4 (ops ++ bufs.map .packet) ≠ none := by
  obtain ⟨g', e', -⟩ := packets_total hl bufs (.exec hr hg) hb
  rw [exec_append hg, e']
  exact fun h => nomatch h

/-! ## C18U: a fresh connected client is never timed out, over every generated client trace -/

theorem isConnected_of {c : Netcode.NetcodeClient} (h : c.state = .connected) : c.isConnected = true := by
  unfold Netcode.NetcodeClient.isConnected; rw [h]; rfl
theorem isDisconnected_of {c : Netcode.NetcodeClient} (h : c.state = .connected) : c.isDisconnected = false := by
  unfold Netcode.NetcodeClient.isDisconnected; rw [h]

/-- **C18U `client_never_timed_out` over every generated client trace** (from any pair of related states).  The generated state
    `g` represents the model client `m.cli` (`SimNcC`, e.g. by `crun_sim` / `gcreach_model`), which satisfies `CliInv` and is
    `Connected`.  `ops` is ANY trace of `update(d)` / `process_packet(any bytes)` / `generate_payload_packet(p)` calls (in
    range) that the generated code runs to its end.  The trace hypothesis `CFresh` is stated on the related model client: at
    every `update(d)` the token's timeout is not positive or `now + d ≤ last + timeout` (`last`: the time of the most recent
    datagram authentic for the client), and no datagram is the server's authentic Disconnect packet; forged / replayed /
    malformed datagrams are unconstrained.
    Then the generated `is_connected()` returns `true`, `is_disconnected()` `false`, `disconnect_reason()` `None`; the generated
    struct still holds the same connect token, client id, server address and address index; and its
    `last_packet_received_time` is exactly the ghost timer `cLastRun` (forged / replayed datagrams did not move it).
    (Transports `C18U.client_never_timed_out`.) -/
theorem client_never_timed_out {a : AEAD} (hl : a.Laws) {m : MNcC} {g g' : GNcC} (hi : CliInv m.cli) (hsim : SimNcC m g)
    {ops : List COp} (hr : CliOpsInRange (ops.map ofC)) (hrun : g.run a (ops.map ofC) = some g')
    (hst : m.cli.state = .connected) (hfresh : CFresh a m.cli m.cli.lastPacketReceivedTime ops) :
    (Src.renetcode.client.NetcodeClient.is_connected g'.cli : Res Empty _) = .ok true ∧
    (Src.renetcode.client.NetcodeClient.is_disconnected g'.cli : Res Empty _) = .ok false ∧
    (Src.renetcode.client.NetcodeClient.disconnect_reason g'.cli : Res Empty _) = .ok none ∧
    g'.cli.connect_token = g.cli.connect_token ∧ g'.cli.client_id = g.cli.client_id ∧
    g'.cli.server_addr = g.cli.server_addr ∧ g'.cli.server_addr_index = g.cli.server_addr_index ∧
    g'.cli.last_packet_received_time = cLastRun a m.cli m.cli.lastPacketReceivedTime ops := by
  obtain ⟨m', hm', hsim'⟩ := crun_sim_conv_of a hl _ hi hsim hr hrun
  obtain ⟨rs, hro⟩ := mcrun_runCOps ops hm'
  obtain ⟨h1, h2, hk, h4⟩ := C18U.client_never_timed_out a hst hfresh hro
  have hr0 := hsim.repr
  have hr' := hsim'.repr
  refine ⟨?_, ?_, ?_, by rw [hr'.token, hr0.token, hk.tok], ?_, by rw [hr'.server_addr, hr0.server_addr, hk.srv], ?_, ?_⟩
  · rw [hr'.2, SrcTie.nc_client_is_connected, isConnected_of h1]
  · rw [hr'.2, SrcTie.nc_client_is_disconnected, isDisconnected_of h1]
  · rw [hr'.2, SrcTie.nc_client_disconnect_reason, h2]; rfl
  · rw [hr'.2, hr0.2]; exact hk.id
  · rw [hr'.addr_index, hr0.addr_index]; exact hk.idx
  · rw [hr'.recv_time]; exact h4

/-- the hypotheses of `client_never_timed_out` from `new`, as one decidable check: the model execution of `ops0` from `new`
    succeeds in a `Connected` client for which `ops` is `CFresh` -/
def cFreshAfterB (a : AEAD) (ct : Nat) (tok : Netcode.ConnectToken) (ops0 : List CliOp) (ops : List COp) : Bool :=
  match MNcC.exec a ct tok ops0 with
  | some m => decide (m.cli.state = .connected) && cFreshB a m.cli m.cli.lastPacketReceivedTime ops
  | none => false

/-- **… from the generated `NetcodeClient::new`**, with the model-side hypotheses in checkable form: the generated execution of
    `ops0` (e.g. the handshake) and then of the trace `ops` succeeds; the model execution of `ops0` ends `Connected` and `ops` is
    `CFresh` for it.  Then after the whole generated execution the generated client is connected, with the token it started
    the trace with. -/
theorem client_never_timed_out_check {a : AEAD} (hl : a.Laws) {ct : Nat} {tok : Netcode.ConnectToken} {r1 r2 r3 r4 : List Nat}
    {ops0 : List CliOp} {ops : List COp} (hB : cFreshAfterB a ct tok ops0 ops = true) (hr0 : CliInRange tok ops0)
    (hr : CliOpsInRange (ops.map ofC)) (hsome : (GNcC.exec a ct tok r1 r2 r3 r4 (ops0 ++ ops.map ofC)).isSome = true) :
    ∃ g g', GNcC.exec a ct tok r1 r2 r3 r4 ops0 = some g ∧ GNcC.exec a ct tok r1 r2 r3 r4 (ops0 ++ ops.map ofC) = some g' ∧
      (Src.renetcode.client.NetcodeClient.is_connected g'.cli : Res Empty _) = .ok true ∧
      (Src.renetcode.client.NetcodeClient.disconnect_reason g'.cli : Res Empty _) = .ok none ∧
      g'.cli.connect_token = g.cli.connect_token := by
  unfold cFreshAfterB at hB
  split at hB
  · rename_i m hm
    simp only [Bool.and_eq_true, decide_eq_true_eq] at hB
    obtain ⟨g, hg, hsim⟩ := crun_sim a hl ct tok r1 r2 r3 r4 ops0 m hr0 hm
    obtain ⟨g', hg'⟩ := Option.isSome_iff_exists.mp hsome
    have hrun : g.run a (ops.map ofC) = some g' := by rw [← exec_append hg]; exact hg'
    have := client_never_timed_out hl (inv_mexec hr0.1 hm) hsim hr hrun hB.1 hB.2
    exact ⟨g, g', hg, hg', this.1, this.2.2.1, this.2.2.2.1⟩
  · cases hB

/-- **C18U `timer_moves_iff_authentic` after any generated run**: the generated client `g.cli` represents the `Connected` model
    client `m.cli`; the datagram is not the server's authentic Disconnect.  Then after the generated `process_packet` the
    generated client is still connected, and its `last_packet_received_time` moved — to its clock — exactly when the datagram
    was `CAuthentic` (decoded under the server-to-client key, passed the replay window, KeepAlive or Payload).
    (Transports `C18U.timer_moves_iff_authentic`.) -/
theorem timer_moves_iff_authentic {a : AEAD} (hl : a.Laws) {m : MNcC} {g g' : GNcC} (hi : CliInv m.cli) (hsim : SimNcC m g)
    {buf : Bytes} (hb : buf.length + 16 < 2 ^ 64) (hst : m.cli.state = .connected) (hnd : ¬ CAuthDisconnect a m.cli buf)
    (hstep : g.step a (.packet buf) = some g') :
    (Src.renetcode.client.NetcodeClient.is_connected g'.cli : Res Empty _) = .ok true ∧
    (CAuthentic a m.cli buf → g'.cli.last_packet_received_time = g.cli.current_time) ∧
    (¬ CAuthentic a m.cli buf → g'.cli.last_packet_received_time = g.cli.last_packet_received_time) := by
  obtain ⟨p, c', g'', hp, e, hsim'⟩ := packet_step_model hl hi hsim buf hb
  rw [hstep] at e; cases e
  obtain ⟨h1, h2, h3⟩ := C18U.timer_moves_iff_authentic hst hnd hp
  obtain ⟨out, _, hs0⟩ := hsim.cli
  obtain ⟨out', _, hs'⟩ := hsim'.cli
  rw [hs0, hs']
  exact ⟨by rw [SrcTie.nc_client_is_connected, isConnected_of h1], h2, h3⟩

/-! ## C04, client half: a replayed datagram surfaces no payload, after any generated run -/

/-- **C04 `client_replay_rejected` after any generated run**: `g.cli` represents `m.cli`; once the client's replay window (read
    on the related model client) reports the sequence number of `buf` as received, the generated `process_packet` surfaces no
    payload for `buf` — the accepted datagram, any copy, any modification that keeps the sequence bytes.
    (Transports `C04.client_replay_rejected`.) -/
theorem client_replay_rejected {a : AEAD} (hl : a.Laws) {m : MNcC} {g : GNcC} (hi : CliInv m.cli) (hsim : SimNcC m g)
    {buf : Bytes} (hb : buf.length + 16 < 2 ^ 64)
    (hdup : m.cli.replayProtection.alreadyReceived (Netcode.Packet.wireSeq buf) = true)
    {c' : SNetcodeClient} {buf' p : List Nat} :
    @Src.renetcode.client.NetcodeClient.process_packet (aeadOf a) Empty g.cli (toNats buf) ≠ .ok (c', buf', some p) := by
  intro hp
  obtain ⟨⟨q, c1⟩, hm, -, -, hq⟩ := (SrcCorNc.cli_process_packet_tie (ε := Empty) a hl hsim.repr buf hb).pull_ok hp
  cases q with
  | none => cases hq
  | some q0 => exact C04.client_replay_rejected a hdup q0 c1 hm

/-! ## non-vacuity: a concrete generated client run (world of `Lemmas/NcExamples.lean`, AEAD `Ex.a` with `Netcode.NS.Ex.laws_a`)

  The generated `NetcodeClient::new(0, Secure { tokenA }, ..)`, the handshake (`update(0)` → connection request; the server's
  challenge; `update(250 ms)` → response; the server's keep-alive: connected), then `C18U.traceCl` (clock steps up to the
  time-out boundary, the authentic keep-alive, a forged one, its replay, a Challenge, a payload), then hostile datagrams.
  Evaluated by the kernel on the generated code.

  Operation lists: `Props/SrcNcClientRuns.lean`.  The runs of `Props/SrcPropsNcClientTrace.lean` and
  `Props/SrcPropsNcClientTotal.lean` start from the same `new` with the same handshake: `ex_cli_all` evaluates them with the
  run above (`ReadTrace`, `ReadTotal`: what those files read off it). -/
section Examples
open NS.Ex SrcNcClientSeal

def okOr {α : Type} (d : α) : Res Empty α → α
  | .ok x => x
  | _ => d

def shapeC : GCOut → String × Nat
  | .sent none => ("sent", 0)
  | .sent (some x) => ("sent", x.1.length)
  | .received none => ("received", 0)
  | .received (some p) => ("received", p.length + 1)
  | .payload r => ("payload", r.2.length)
  | .payloadErr _ => ("payloadErr", 0)
  | .disconnected r => ("disconnected", r.2.length)
  | .disconnectErr _ => ("disconnectErr", 0)

/-- the generated run of `SrcPropsNcClientTrace.exOps`: **it surfaces three payloads**, sequence numbers 3, 5, 4; **its seal
    log**: the response (1), the keep-alive is not due, the payload (2), the `Disconnect` datagram (3) — the connection request
    (sequence number 0) is sent in the clear; the operations are in range -/
def ReadTrace : Prop :=
  (GNcC.exec NS.Ex.a 0 tokenA [] [] [] [] SrcPropsNcClientTrace.exOps).map (fun g => gsurf SrcPropsNcClientTrace.exOps g.outs) =
      some [(C04C.pl3, [9, 9]), (C04C.pl5, [5]), (C04C.pl4, [4, 4, 4])] ∧
    (GNcC.init NS.Ex.a 0 tokenA [] [] [] []).map
        (fun g0 => (gclog NS.Ex.a g0 SrcPropsNcClientTrace.exOps).map fun e => (e.seq, e.datagram.length)) =
      some [(1, 326), (2, 19), (3, 18)] ∧
    CliInRange tokenA SrcPropsNcClientTrace.exOps

instance : Decidable ReadTrace := by unfold ReadTrace; infer_instance

open SrcPropsNcClientTotal in
/-- what is read off the generated code for `Props/SrcPropsNcClientTotal.lean`.  The generated constructor returns `Ok`.
    **The run of `gOps`** (agrees with `gen_trace_total` and with the model run `C07C.ex_run`): request 1078 bytes, response
    326, three payloads surfaced, the outgoing payload (19 bytes), the Disconnect datagram (18 bytes), nothing for the hostile
    datagrams, the two documented errors, a second Disconnect datagram; the generated clock and counter.
    **The excluded points panic on the generated code as well**: after the handshake, generated `update` past `Duration::MAX`
    panics, up to `Duration::MAX` it returns (the last datagram came long ago: the client times out); generated
    `generate_payload_packet` / `update` with the counter at `u64::MAX` panic, the generated `disconnect` does not, and one
    below `u64::MAX` `generate_payload_packet` returns.
    **The clock bound is tight**: one second below `Duration::MAX` with a datagram just received and a 5 s timeout the generated
    `update(0)` panics (`last_packet_received_time + timeout`); with exactly 5 s of room it returns. -/
def ReadTotal : Prop :=
  (GNcC.init NS.Ex.a 0 tokenA [] [] [] []).isSome = true ∧
    (GNcC.exec NS.Ex.a 0 tokenA [] [] [] [] gOps).map
        (fun g => (g.outs.map shapeC, g.cli.current_time, g.cli.sequence)) =
      some ([("sent", 1078), ("received", 0), ("sent", 326), ("received", 0),
        ("received", 3), ("received", 2), ("received", 0), ("received", 0), ("received", 0), ("payload", 19), ("sent", 0),
        ("received", 4), ("received", 0), ("disconnected", 18), ("received", 0),
        ("received", 0), ("received", 0), ("payloadErr", 0), ("payloadErr", 0), ("sent", 0),
        ("disconnected", 18)], 250000000 + 1000 + 10 ^ 18, 3) ∧
    gConn.map (fun g => ((g.step NS.Ex.a (.update (DURATION_MAX - 250000000 + 1))).isSome,
        (g.step NS.Ex.a (.update (DURATION_MAX - 250000000))).isSome,
        (GNcC.step NS.Ex.a { g with cli := { g.cli with sequence := U64_MAX } } (.sendPayload [1])).isSome,
        (GNcC.step NS.Ex.a { g with cli := { g.cli with sequence := U64_MAX } } (.update (10 ^ 9))).isSome,
        (GNcC.step NS.Ex.a { g with cli := { g.cli with sequence := U64_MAX } } .disconnect).isSome,
        (GNcC.step NS.Ex.a { g with cli := { g.cli with sequence := U64_MAX - 1 } } (.sendPayload [1])).isSome)) =
      some (false, true, false, false, true, true) ∧
    gConn.map (fun g => (((gLate g (10 ^ 9)).step NS.Ex.a (.update 0)).isSome,
      ((gLate g (5 * 10 ^ 9)).step NS.Ex.a (.update 0)).isSome)) = some (false, true)

instance : Decidable ReadTotal := by unfold ReadTotal; infer_instance

set_option maxRecDepth 100000 in
/-- everything read off the generated client, in one kernel evaluation of the generated code.
    **The run of `exCliOps` succeeds**: request (1078 bytes), nothing surfaced for the challenge, response (326 bytes), …, the payload datagram (20 bytes), …, the Disconnect packet (18 bytes); at the end the
    generated `is_disconnected()` is `true`.  The run of the handshake and `C18U.traceCl` alone succeeds; the model execution of
    the handshake from `new` ends `Connected`, and `C18U.traceCl` is `CFresh` for it.  The operations are in range. -/
theorem ex_cli_all :
    (GNcC.exec NS.Ex.a 0 tokenA [] [] [] [] exCliOps).map
        (fun g => (g.outs.map shapeC, okOr false (Src.renetcode.client.NetcodeClient.is_disconnected g.cli))) =
      some ([("sent", 1078), ("received", 0), ("sent", 326), ("received", 0),
        ("sent", 26), ("received", 0), ("sent", 26), ("received", 0), ("received", 0), ("received", 0), ("payload", 20),
        ("sent", 0), ("received", 0), ("received", 0), ("payload", 19), ("disconnected", 18)], true) ∧
    ((GNcC.exec NS.Ex.a 0 tokenA [] [] [] [] (hsCli ++ C18U.traceCl.map ofC)).isSome = true ∧
      cFreshAfterB NS.Ex.a 0 tokenA hsCli C18U.traceCl = true) ∧
    (CliInRange tokenA hsCli ∧ CliOpsInRange (C18U.traceCl.map ofC)) ∧ ReadTrace ∧ ReadTotal := by
  decide +kernel

set_option maxRecDepth 100000 in
theorem ex_cli_run : (GNcC.exec NS.Ex.a 0 tokenA [] [] [] [] exCliOps).map
      (fun g => (g.outs.map shapeC, okOr false (Src.renetcode.client.NetcodeClient.is_disconnected g.cli))) =
    some ([("sent", 1078), ("received", 0), ("sent", 326), ("received", 0),
      ("sent", 26), ("received", 0), ("sent", 26), ("received", 0), ("received", 0), ("received", 0), ("payload", 20),
      ("sent", 0), ("received", 0), ("received", 0), ("payload", 19), ("disconnected", 18)], true) := ex_cli_all.1

theorem hsCli_inRange : CliInRange tokenA hsCli := ex_cli_all.2.2.1.1
theorem traceCl_inRange : CliOpsInRange (C18U.traceCl.map ofC) := ex_cli_all.2.2.1.2

set_option maxRecDepth 100000 in
theorem ex_cli_fresh : cFreshAfterB NS.Ex.a 0 tokenA hsCli C18U.traceCl = true := ex_cli_all.2.1.2
set_option maxRecDepth 100000 in
theorem ex_cli_trace_runs : (GNcC.exec NS.Ex.a 0 tokenA [] [] [] [] (hsCli ++ C18U.traceCl.map ofC)).isSome = true :=
  ex_cli_all.2.1.1

example : ∃ g g', GNcC.exec NS.Ex.a 0 tokenA [] [] [] [] hsCli = some g ∧
    GNcC.exec NS.Ex.a 0 tokenA [] [] [] [] (hsCli ++ C18U.traceCl.map ofC) = some g' ∧
    (Src.renetcode.client.NetcodeClient.is_connected g'.cli : Res Empty _) = .ok true ∧
    (Src.renetcode.client.NetcodeClient.disconnect_reason g'.cli : Res Empty _) = .ok none ∧
    g'.cli.connect_token = g.cli.connect_token :=
  client_never_timed_out_check Netcode.NS.Ex.laws_a ex_cli_fresh hsCli_inRange traceCl_inRange ex_cli_trace_runs

example (bufs : List Bytes) (hb : ∀ b ∈ bufs, b.length + 16 < 2 ^ 64) :
    GNcC.exec NS.Ex.a 0 tokenA [] [] [] [] (hsCli ++ bufs.map .packet) ≠ none := by
  have h := ex_cli_trace_runs
  cases hg : GNcC.exec NS.Ex.a 0 tokenA [] [] [] [] hsCli with
  | none =>
    rw [exec_append_none hg] at h; cases h
  | some g => exact exec_packets_ne_none Netcode.NS.Ex.laws_a hsCli_inRange hg bufs hb

end Examples

end RenetVerif.SrcPropsNcClientHistory
