/-
  The real cipher satisfies the AEAD laws.

  `chacha2 : AEAD` is ChaCha20-Poly1305 / XChaCha20-Poly1305 as implemented in
  `RenetVerif/Netcode/ChaCha2.lean`; `chacha2_laws : chacha2.Laws`.

  The laws are purely functional (round trip + lengths); they hold whatever the block function and
  the Poly1305 accumulator compute, because
    * `chacha20` XORs each data byte with a keystream byte that depends only on
      (key, nonce, counter, position)            → length preserving, involutive;
    * the tag is a literal 16-element list        → `|tag| = 16`;
    * `tagEq t t = true` whenever `|t| = 16`      → `open` accepts what `seal` produced.
  In addition `tagEq_iff` shows the comparison is exact (true iff the tags are EQUAL 16-byte strings),
  which gives the characterisation `openK_eq_some_iff`: `open` returns `some p` only on
  `ct ++ tagOf … ct` with `p` the decryption of `ct`.
-/
import RenetVerif.Netcode.Aead
import RenetVerif.Netcode.ChaCha2

namespace RenetVerif.ChaChaLaws
open RenetVerif RenetVerif.Netcode RenetVerif.ChaCha2

def chacha2 : AEAD where
  «seal» := ChaCha2.seal
  «open» := ChaCha2.open
  xseal := ChaCha2.xseal
  xopen := ChaCha2.xopen

theorem xorGo_length (key nonce : ByteArray) (ctr : UInt32) (ks d : List UInt8) :
    (xorGo key nonce ctr ks d).length = d.length := by
  induction d generalizing ctr ks with
  | nil => cases ks <;> simp [xorGo]
  | cons x xs ih =>
    cases ks with
    | cons k ks => simp [xorGo, ih]
    | nil =>
      simp only [xorGo]
      split
      · simp [ih]
      · rfl

theorem xorGo_xorGo (key nonce : ByteArray) (ctr : UInt32) (ks d : List UInt8) :
    xorGo key nonce ctr ks (xorGo key nonce ctr ks d) = d := by
  induction d generalizing ctr ks with
  | nil => cases ks <;> simp [xorGo]
  | cons x xs ih =>
    cases ks with
    | cons k ks => simp [xorGo, ih, UInt8.xor_assoc]
    | nil =>
      simp only [xorGo]
      split
      · next k ks' hb => simp [xorGo, hb, ih, UInt8.xor_assoc]
      · next hb => simp [xorGo, hb]

theorem chacha20_length (key : ByteArray) (ctr : UInt32) (nonce : ByteArray) (d : List UInt8) :
    (chacha20 key ctr nonce d).length = d.length :=
  xorGo_length key nonce ctr [] d

theorem chacha20_chacha20 (key : ByteArray) (ctr : UInt32) (nonce : ByteArray) (d : List UInt8) :
    chacha20 key ctr nonce (chacha20 key ctr nonce d) = d :=
  xorGo_xorGo key nonce ctr [] d

theorem tagBytes_length (t : Nat) : (tagBytes t).length = 16 := rfl

theorem poly1305_length (key msg : ByteArray) : (poly1305 key msg).length = 16 := rfl

theorem tagOf_length (key nonce : ByteArray) (aad ct : List UInt8) :
    (tagOf key nonce aad ct).length = 16 := rfl

theorem tagDiff_self (t : List UInt8) : tagDiff t t = 0 := by
  induction t with
  | nil => rfl
  | cons a as ih => simp [tagDiff, ih]

theorem tagEq_self (t : List UInt8) (h : t.length = 16) : tagEq t t = true := by
  simp [tagEq, tagDiff_self, h]

theorem tagDiff_eq_zero_iff (a b : List UInt8) (h : a.length = b.length) :
    tagDiff a b = 0 ↔ a = b := by
  induction a generalizing b with
  | nil => cases b with
    | nil => simp [tagDiff]
    | cons _ _ => simp at h
  | cons x xs ih =>
    cases b with
    | nil => simp at h
    | cons y ys =>
      have h' : xs.length = ys.length := by simpa using h
      simp [tagDiff, ih ys h']

theorem tagEq_iff (a b : List UInt8) : tagEq a b = true ↔ a = b ∧ a.length = 16 := by
  simp only [tagEq, Bool.and_eq_true, beq_iff_eq]
  constructor
  · rintro ⟨⟨hd, ha⟩, hb⟩
    exact ⟨(tagDiff_eq_zero_iff a b (by omega)).mp hd, ha⟩
  · rintro ⟨rfl, ha⟩
    exact ⟨⟨tagDiff_self a, ha⟩, ha⟩

theorem sealK_length (key nonce : ByteArray) (aad pt : List UInt8) :
    (sealK key nonce aad pt).length = pt.length + 16 := by
  simp [sealK, chacha20_length, tagOf_length]

theorem openK_sealK (key nonce : ByteArray) (aad pt : List UInt8) :
    openK key nonce aad (sealK key nonce aad pt) = some pt := by
  have hl := sealK_length key nonce aad pt
  have hct : (chacha20 key 1 nonce pt).length = pt.length := chacha20_length ..
  have htake : (sealK key nonce aad pt).take ((sealK key nonce aad pt).length - 16)
      = chacha20 key 1 nonce pt := by
    rw [hl, Nat.add_sub_cancel, ← hct]; simp [sealK]
  have hdrop : (sealK key nonce aad pt).drop ((sealK key nonce aad pt).length - 16)
      = tagOf key nonce aad (chacha20 key 1 nonce pt) := by
    rw [hl, Nat.add_sub_cancel, ← hct]; simp [sealK]
  unfold openK
  simp only [htake, hdrop]
  rw [if_neg (by omega), tagEq_self _ (tagOf_length ..)]
  simp [chacha20_chacha20]

theorem openK_length (key nonce : ByteArray) (aad c p : List UInt8)
    (h : openK key nonce aad c = some p) : p.length + 16 = c.length := by
  unfold openK at h
  simp only at h
  split at h
  · cases h
  · split at h
    · cases h
      rw [chacha20_length, List.length_take]; omega
    · cases h

theorem openK_eq_some_iff (key nonce : ByteArray) (aad c p : List UInt8) :
    openK key nonce aad c = some p ↔ c = sealK key nonce aad p := by
  constructor
  · intro h
    have hlen := openK_length key nonce aad c p h
    unfold openK at h
    simp only at h
    rw [if_neg (by omega)] at h
    split at h
    · next ht =>
      cases h
      rw [tagEq_iff] at ht
      simp only [sealK, chacha20_chacha20]
      rw [← ht.1, List.take_append_drop]
    · cases h
  · rintro rfl; exact openK_sealK ..

theorem chacha2_laws : chacha2.Laws where
  open_seal _ _ _ _ := openK_sealK ..
  seal_length _ _ _ _ := sealK_length ..
  open_length _ _ _ _ _ h := openK_length _ _ _ _ _ h
  xopen_xseal _ _ _ _ := openK_sealK ..
  xseal_length _ _ _ _ := sealK_length ..
  xopen_length _ _ _ _ _ h := openK_length _ _ _ _ _ h

theorem open_eq_some_iff (k n ad c p : Bytes) :
    chacha2.open k n ad c = some p ↔ c = chacha2.seal k n ad p :=
  openK_eq_some_iff ..

theorem xopen_eq_some_iff (k n ad c p : Bytes) :
    chacha2.xopen k n ad c = some p ↔ c = chacha2.xseal k n ad p :=
  openK_eq_some_iff ..

theorem chacha_laws_of_eq (h : AEAD.chacha = chacha2) : AEAD.chacha.Laws := h ▸ chacha2_laws

/-- **the real cipher of the driver (ChaCha20-Poly1305 / XChaCha20-Poly1305, `Netcode/ChaCha2.lean`, validated
    against the RFC vectors and differentially against the RustCrypto crate on every run) satisfies the functional
    laws every netcode theorem assumes** -/
theorem _root_.RenetVerif.Netcode.AEAD.chacha_laws : AEAD.chacha.Laws := chacha2_laws

#print axioms chacha2_laws
#print axioms open_eq_some_iff
#print axioms xopen_eq_some_iff

end RenetVerif.ChaChaLaws
