/-
  `handle_connection_request` (renetcode/src/server.rs), executed once: `hcr_cases` lists what the call can return —
  a check fails, the token is not accepted, or the request is `Accepted` and answered (`HcrReply`) from the state the
  token-entry table step leaves.  `hcr_spec` is the same in the vocabulary of `HcrOut`; every other fact about the
  call is a case analysis of one of the two.
-/
import RenetVerif.Netcode.Server
import RenetVerif.Netcode.Client
import RenetVerif.Lemmas.ResMonad
import RenetVerif.Lemmas.NcPacket
import RenetVerif.Lemmas.NcToken
namespace RenetVerif.Netcode
namespace NS
open RenetVerif

/-- `Res.bind_ok` / `Res.pure_eq` as ordinary rewrite rules.  (The originals are `rfl`-lemmas; `simp` then leaves the
    step to the kernel's definitional unfolding, which may run into `incU64 x …` / `x + 250000000` and unfold the
    literal in unary.) -/
theorem bind_ok' {ε α β} (a : α) (f : α → Res ε β) : (Res.ok a >>= f) = f a := Res.bind_ok a f
theorem pure_eq' {ε α} (a : α) : (pure a : Res ε α) = .ok a := Res.pure_eq a
theorem bind_err' {ε α β} (e : ε) (f : α → Res ε β) : (Res.err e >>= f) = Res.err e := Res.bind_err e f

theorem bind_ne_panic {ε α β} {x : Res ε α} {f : α → Res ε β} {m : String}
    (hx : x ≠ .panic m) (hf : ∀ a, f a ≠ .panic m) : (x >>= f) ≠ .panic m :=
  fun h => (Res.bind_panic_iff.mp h).elim hx fun ⟨a, _, ha⟩ => hf a ha

theorem encode_ne_panic (a : AEAD) (p : Packet) (cap pid : Nat) (crypto : Option (Nat × Bytes)) (m : String) :
    p.encode a cap pid crypto ≠ .panic m := by
  unfold Packet.encode
  split
  · refine bind_ne_panic (NcAead.io?_ne_panic _ _) fun w => bind_ne_panic (NcAead.io?_ne_panic _ _) fun w' => by simp
  · split
    · simp
    · refine bind_ne_panic (NcAead.io?_ne_panic _ _) fun w => ?_
      simp only
      refine bind_ne_panic (NcAead.io?_ne_panic _ _) fun w' => ?_
      split <;> simp

theorem generate_ne_panic (a : AEAD) (id : Nat) (ud : Bytes) (cs : Nat) (k : Bytes) (m : String) :
    ChallengeToken.generate a id ud cs k ≠ .panic m := by
  rw [NcAead.Token.ch_generate]
  split <;> nofun

theorem incU64_out_dup {ε} {x : Nat} {site : String} {X : Res ε Nat} (h : (incU64 x site : Res ε Nat) = X) :
    X = .ok (x + 1) ∨ (X = .panic site ∧ ¬ x < U64_MAX) := incU64_out h

theorem lift_ok {α} (s : NetcodeServer) (x : α) : NetcodeServer.lift s (.ok x : NRes α) = .ok x := rfl
theorem lift_err {α} (s : NetcodeServer) (e : NetcodeError) : NetcodeServer.lift s (.err e : NRes α) = .err (e, s) := rfl

abbrev Entries := List (Option ConnectTokenEntry)

theorem scanEntries_spec (mac : Bytes) : ∀ (es : Entries) (k : Nat) (st : NetcodeServer.EntryScan),
    (∀ e, (NetcodeServer.scanEntries mac es k st).matchingEntry = some e →
        st.matchingEntry = some e ∨ (some e ∈ es ∧ e.mac = mac)) ∧
    ((NetcodeServer.scanEntries mac es k st).matchingEntry = none →
        st.matchingEntry = none ∧ ∀ e, some e ∈ es → e.mac ≠ mac)
  | [], k, st => by simp [NetcodeServer.scanEntries]
  | none :: rest, k, st => by
    -- the loop body touches `matchingEntry` only in its first `if`: the other fields' updates drop out
    simp only [NetcodeServer.scanEntries]
    refine ⟨fun e he => ?_, fun hn => ?_⟩
    · have := (scanEntries_spec mac rest (k + 1) _).1 e he
      simp only [apply_ite NetcodeServer.EntryScan.matchingEntry, ite_self] at this
      exact this.imp id fun h => ⟨List.mem_cons_of_mem _ h.1, h.2⟩
    · have := (scanEntries_spec mac rest (k + 1) _).2 hn
      simp only [apply_ite NetcodeServer.EntryScan.matchingEntry, ite_self] at this
      exact ⟨this.1, fun e he => this.2 e (by simpa using he)⟩
  | some e0 :: rest, k, st => by
    simp only [NetcodeServer.scanEntries]
    refine ⟨fun e he => ?_, fun hn => ?_⟩
    · have := (scanEntries_spec mac rest (k + 1) _).1 e he
      simp only [apply_ite NetcodeServer.EntryScan.matchingEntry, ite_self] at this
      rcases this with h | h
      · by_cases hm : e0.mac = mac
        · rw [if_pos hm] at h; cases h; exact Or.inr ⟨List.mem_cons_self, hm⟩
        · rw [if_neg hm] at h; exact Or.inl h
      · exact Or.inr ⟨List.mem_cons_of_mem _ h.1, h.2⟩
    · have := (scanEntries_spec mac rest (k + 1) _).2 hn
      simp only [apply_ite NetcodeServer.EntryScan.matchingEntry, ite_self] at this
      by_cases hm : e0.mac = mac
      · rw [if_pos hm] at this; cases this.1
      · rw [if_neg hm] at this
        refine ⟨this.1, fun e he => ?_⟩
        rcases List.mem_cons.mp he with h | h
        · cases h; exact hm
        · exact this.2 e h

/-- `find_or_add_connect_token_entry`: either an entry with this MAC exists (table untouched; the answer is whether its
    address is the caller's), or none exists and the new entry is written over some index (answer `true`). -/
theorem findOrAdd_spec (s : NetcodeServer) (ne : ConnectTokenEntry) :
    (∃ e, some e ∈ s.connectTokenEntries ∧ e.mac = ne.mac ∧
        s.findOrAddConnectTokenEntry ne = (s, decide (e.address = ne.address))) ∨
    ((∀ e, some e ∈ s.connectTokenEntries → e.mac ≠ ne.mac) ∧
      ∃ k, s.findOrAddConnectTokenEntry ne = ({ s with connectTokenEntries := s.connectTokenEntries.set k (some ne) }, true)) := by
  have hs := scanEntries_spec ne.mac s.connectTokenEntries 0 ⟨DURATION_MAX, 0, false, none⟩
  unfold NetcodeServer.findOrAddConnectTokenEntry
  simp only
  cases hm : (NetcodeServer.scanEntries ne.mac s.connectTokenEntries 0 ⟨DURATION_MAX, 0, false, none⟩).matchingEntry with
  | some e =>
    left
    rcases hs.1 e hm with h | h
    · cases h
    · exact ⟨e, h.1, h.2, rfl⟩
  | none =>
    right
    exact ⟨(hs.2 hm).2, _, rfl⟩

theorem findOrAdd_false {s : NetcodeServer} {ne : ConnectTokenEntry} (h : (s.findOrAddConnectTokenEntry ne).2 = false) :
    (s.findOrAddConnectTokenEntry ne).1 = s := by
  rcases findOrAdd_spec s ne with ⟨e, _, _, heq⟩ | ⟨_, k, heq⟩
  · rw [heq]
  · rw [heq] at h; cases h

/-- the MAC of a private connect token: its last 16 bytes -/
def tokenMac (data : Bytes) : Bytes := data.drop (C.NETCODE_CONNECT_TOKEN_PRIVATE_BYTES - C.NETCODE_MAC_BYTES)

/-- the half-open session `handle_connection_request` stores for a token `t` presented from `addr` -/
def mkPending (now : Nat) (addr : Addr) (expire : Nat) (t : PrivateConnectToken) : Connection :=
  { confirmed := false, sequence := 0, clientId := t.clientId
    lastPacketReceivedTime := now, lastPacketSendTime := now, addr
    state := .pendingResponse, sendKey := t.serverToClientKey
    receiveKey := t.clientToServerKey, timeoutSeconds := t.timeoutSeconds
    expireTimestamp := expire, userData := t.userData, replayProtection := RP.new }

def TokenOpens (a : AEAD) (s : NetcodeServer) (expire : Nat) (xnonce data : Bytes) (t : PrivateConnectToken) : Prop :=
  ∃ plain, a.xopen s.connectKey xnonce (PrivateConnectToken.additionalData s.protocolId expire) data = some plain ∧
    PrivateConnectToken.read (plain ++ data.drop plain.length) = some t

/-- Every check a connection request (fields `v pid expire xnonce data`, source `addr`) passes before the server
    answers it with a challenge or a denial. -/
structure Accepted (a : AEAD) (s : NetcodeServer) (addr : Addr) (v : Bytes) (pid expire : Nat) (xnonce data : Bytes)
    (t : PrivateConnectToken) : Prop where
  version : v = C.NETCODE_VERSION_INFO
  protocol : pid = s.protocolId
  unexpired : asSecs s.currentTime < expire
  opens : TokenOpens a s expire xnonce data t
  host : s.secure = true → ∃ x, some x ∈ t.serverAddresses ∧ x ∈ s.publicAddresses
  addrFree : findClientByAddr s.clients addr = none
  idFree : findClientById s.clients t.clientId = none
  room : (pendingFind s.pendingClients addr).isSome ∨ s.pendingClients.length < C.NETCODE_MAX_PENDING_CLIENTS
  /-- the token-to-address binding: no entry of the table carries this token's MAC with another address -/
  binding : (s.findOrAddConnectTokenEntry ⟨s.currentTime, addr, tokenMac data⟩).2 = true

/-- the token-entry table after an accepted request: untouched, or the new entry written where no entry had its MAC -/
def EntryStep (s s1 : NetcodeServer) (ne : ConnectTokenEntry) : Prop :=
  s1 = s ∨ ((∀ e, some e ∈ s.connectTokenEntries → e.mac ≠ ne.mac) ∧
            ∃ k, s1 = { s with connectTokenEntries := s.connectTokenEntries.set k (some ne) })

inductive HcrOut (a : AEAD) (s : NetcodeServer) (addr : Addr) (v : Bytes) (pid expire : Nat) (xnonce data : Bytes) :
    NetcodeServer.SRes → Prop
  /-- a check failed (the request is not `Accepted`): nothing changes -/
  | err (e : NetcodeError) : (∀ t, ¬ Accepted a s addr v pid expire xnonce data t) →
      HcrOut a s addr v pid expire xnonce data (.err (e, s))
  /-- already connected / pending map full / token bound to another address (not `Accepted`): nothing changes -/
  | none : (∀ t, ¬ Accepted a s addr v pid expire xnonce data t) →
      HcrOut a s addr v pid expire xnonce data (.ok (.none, s))
  | deniedErr (t : PrivateConnectToken) (s1 : NetcodeServer) (e : NetcodeError) :
      Accepted a s addr v pid expire xnonce data t → EntryStep s s1 ⟨s.currentTime, addr, tokenMac data⟩ →
      countConnected s.clients ≥ s.maxClients →
      Packet.connectionDenied.encode a C.NETCODE_MAX_PACKET_BYTES s.protocolId
        (some (s.globalSequence, t.serverToClientKey)) = .err e →
      HcrOut a s addr v pid expire xnonce data
        (.err (e, { s1 with pendingClients := pendingRemove s1.pendingClients addr }))
  /-- the server is full: the half-open session of this address (if any) is dropped, `ConnectionDenied` goes out -/
  | denied (t : PrivateConnectToken) (s1 : NetcodeServer) (out : Bytes) :
      Accepted a s addr v pid expire xnonce data t → EntryStep s s1 ⟨s.currentTime, addr, tokenMac data⟩ →
      countConnected s.clients ≥ s.maxClients →
      Packet.connectionDenied.encode a C.NETCODE_MAX_PACKET_BYTES s.protocolId
        (some (s.globalSequence, t.serverToClientKey)) = .ok out →
      HcrOut a s addr v pid expire xnonce data
        (.ok (.packetToSend addr out, { s1 with pendingClients := pendingRemove s1.pendingClients addr
                                                globalSequence := s.globalSequence + 1 }))
  | challengeErr (t : PrivateConnectToken) (s1 : NetcodeServer) (e : NetcodeError) :
      Accepted a s addr v pid expire xnonce data t → EntryStep s s1 ⟨s.currentTime, addr, tokenMac data⟩ →
      countConnected s.clients < s.maxClients →
      (ChallengeToken.generate a t.clientId t.userData (s.challengeSequence + 1) s.challengeKey = .err e ∨
        ∃ pkt, ChallengeToken.generate a t.clientId t.userData (s.challengeSequence + 1) s.challengeKey = .ok pkt ∧
          pkt.encode a C.NETCODE_MAX_PACKET_BYTES s.protocolId (some (s.globalSequence, t.serverToClientKey)) = .err e) →
      HcrOut a s addr v pid expire xnonce data
        (.err (e, { s1 with challengeSequence := s.challengeSequence + 1 }))
  /-- a challenge goes out and the half-open session of this address is (re)created from the token -/
  | challenge (t : PrivateConnectToken) (s1 : NetcodeServer) (pkt : Packet) (out : Bytes) :
      Accepted a s addr v pid expire xnonce data t → EntryStep s s1 ⟨s.currentTime, addr, tokenMac data⟩ →
      countConnected s.clients < s.maxClients →
      ChallengeToken.generate a t.clientId t.userData (s.challengeSequence + 1) s.challengeKey = .ok pkt →
      pkt.encode a C.NETCODE_MAX_PACKET_BYTES s.protocolId (some (s.globalSequence, t.serverToClientKey)) = .ok out →
      HcrOut a s addr v pid expire xnonce data
        (.ok (.packetToSend addr out,
              { s1 with challengeSequence := s.challengeSequence + 1, globalSequence := s.globalSequence + 1
                        pendingClients := pendingSet s1.pendingClients addr (mkPending s.currentTime addr expire t) }))

theorem tokenOpens_unique {a : AEAD} {s : NetcodeServer} {expire : Nat} {xnonce data : Bytes}
    {t t' : PrivateConnectToken} (h : TokenOpens a s expire xnonce data t) (h' : TokenOpens a s expire xnonce data t') :
    t = t' := by
  obtain ⟨p, h1, h2⟩ := h
  obtain ⟨p', h1', h2'⟩ := h'
  rw [h1] at h1'; cases h1'
  rw [h2] at h2'; cases h2'; rfl

theorem EntryStep.writes {s s1 : NetcodeServer} {ne : ConnectTokenEntry} (h : EntryStep s s1 ne) :
    ∃ es, s1 = { s with connectTokenEntries := es } := by
  rcases h with rfl | ⟨-, k, rfl⟩ <;> exact ⟨_, rfl⟩

theorem entryStep_findOrAdd (s : NetcodeServer) (ne : ConnectTokenEntry) :
    EntryStep s (s.findOrAddConnectTokenEntry ne).1 ne := by
  rcases findOrAdd_spec s ne with ⟨e, _, _, heq⟩ | ⟨hn, k, heq⟩
  · rw [heq]; exact Or.inl rfl
  · rw [heq]; exact Or.inr ⟨hn, k, rfl⟩

theorem tokenDecode_cases (a : AEAD) (s : NetcodeServer) (expire : Nat) (xnonce data : Bytes) :
    (data.length < C.NETCODE_MAC_BYTES ∧
      ∃ m, PrivateConnectToken.decode a data s.protocolId expire xnonce s.connectKey = .panic m) ∨
    (C.NETCODE_MAC_BYTES ≤ data.length ∧
      ((∃ e, PrivateConnectToken.decode a data s.protocolId expire xnonce s.connectKey = .err e ∧
          ∀ t, ¬ TokenOpens a s expire xnonce data t) ∨
       ∃ t, PrivateConnectToken.decode a data s.protocolId expire xnonce s.connectKey = .ok t ∧
          TokenOpens a s expire xnonce data t)) := by
  unfold PrivateConnectToken.decode
  by_cases hd : data.length < C.NETCODE_MAC_BYTES
  · rw [if_pos hd]; exact Or.inl ⟨hd, _, rfl⟩
  rw [if_neg hd]
  refine Or.inr ⟨by omega, ?_⟩
  cases hxo : a.xopen s.connectKey xnonce (PrivateConnectToken.additionalData s.protocolId expire) data with
  | none => exact Or.inl ⟨_, rfl, fun t ⟨p, h1, _⟩ => by rw [hxo] at h1; cases h1⟩
  | some plain =>
    dsimp only
    cases hrd : PrivateConnectToken.read (plain ++ data.drop plain.length) with
    | none =>
      refine Or.inl ⟨_, rfl, fun t ⟨p, h1, h2⟩ => ?_⟩
      rw [hxo] at h1; cases h1; rw [hrd] at h2; cases h2
    | some t => exact Or.inr ⟨t, rfl, plain, hxo, hrd⟩

structure Checked (a : AEAD) (s : NetcodeServer) (v : Bytes) (pid expire : Nat) (xnonce data : Bytes)
    (t : PrivateConnectToken) : Prop where
  version : v = C.NETCODE_VERSION_INFO
  protocol : pid = s.protocolId
  unexpired : asSecs s.currentTime < expire
  decodes : PrivateConnectToken.decode a data s.protocolId expire xnonce s.connectKey = .ok t

/-- the right side is the four tests `handle_connection_request` makes after the header checks, as the code writes them -/
theorem accepted_iff {a : AEAD} {s : NetcodeServer} {addr : Addr} {v : Bytes} {pid expire : Nat} {xnonce data : Bytes}
    {t : PrivateConnectToken} (hchk : Checked a s v pid expire xnonce data t)
    (hopens : TokenOpens a s expire xnonce data t) :
    Accepted a s addr v pid expire xnonce data t ↔
      ¬ (s.secure = true ∧ (!t.serverAddresses.any fun h =>
          match h with
          | some x => s.publicAddresses.contains x
          | none => false) = true) ∧
      ¬ ((findClientById s.clients t.clientId).isSome = true ∨ (findClientByAddr s.clients addr).isSome = true) ∧
      ¬ ((pendingFind s.pendingClients addr).isNone = true ∧
          s.pendingClients.length ≥ C.NETCODE_MAX_PENDING_CLIENTS) ∧
      (s.findOrAddConnectTokenEntry ⟨s.currentTime, addr, tokenMac data⟩).2 = true := by
  constructor
  · intro ha
    refine ⟨fun h => ?_, fun h => ?_, fun h => ?_, ha.binding⟩
    · obtain ⟨x, hx1, hx2⟩ := ha.host h.1
      have h2 := h.2
      simp only [Bool.not_eq_true', List.any_eq_false] at h2
      have := h2 (some x) hx1
      simp [hx2] at this
    · rw [ha.idFree, ha.addrFree] at h
      simp at h
    · rcases ha.room with h' | h'
      · have h1 := h.1
        cases hpf : pendingFind s.pendingClients addr with
        | none => rw [hpf] at h'; cases h'
        | some q => rw [hpf] at h1; cases h1
      · have := h.2; omega
  · rintro ⟨hhost, hfree, hroom, hb⟩
    refine ⟨hchk.version, hchk.protocol, hchk.unexpired, hopens, ?_, ?_, ?_, ?_, hb⟩
    · intro hs
      simp only [hs, true_and, Bool.not_eq_true', Bool.not_eq_false] at hhost
      rw [List.any_eq_true] at hhost
      obtain ⟨h, hh, hc⟩ := hhost
      cases h with
      | none => simp at hc
      | some x => exact ⟨x, hh, by simpa using hc⟩
    · cases h : findClientByAddr s.clients addr with
      | none => rfl
      | some p => simp [h] at hfree
    · cases h : findClientById s.clients t.clientId with
      | none => rfl
      | some p => simp [h] at hfree
    · cases h : pendingFind s.pendingClients addr with
      | some p => left; rfl
      | none =>
        right
        simp only [h, Option.isNone_none, true_and] at hroom
        omega

/-- the answer to an accepted request, computed in the state `s1` that the token-entry table step leaves: a denial
    when the server is full, else a challenge -/
inductive HcrReply (a : AEAD) (s1 : NetcodeServer) (addr : Addr) (expire : Nat) (t : PrivateConnectToken) :
    NetcodeServer.SRes → Prop
  | deniedErr (e : NetcodeError) : countConnected s1.clients ≥ s1.maxClients →
      Packet.connectionDenied.encode a C.NETCODE_MAX_PACKET_BYTES s1.protocolId
        (some (s1.globalSequence, t.serverToClientKey)) = .err e →
      HcrReply a s1 addr expire t (.err (e, { s1 with pendingClients := pendingRemove s1.pendingClients addr }))
  | denied (out : Bytes) : countConnected s1.clients ≥ s1.maxClients →
      Packet.connectionDenied.encode a C.NETCODE_MAX_PACKET_BYTES s1.protocolId
        (some (s1.globalSequence, t.serverToClientKey)) = .ok out →
      HcrReply a s1 addr expire t
        (.ok (.packetToSend addr out, { s1 with pendingClients := pendingRemove s1.pendingClients addr
                                                globalSequence := s1.globalSequence + 1 }))
  | challengeErr (e : NetcodeError) : countConnected s1.clients < s1.maxClients →
      (ChallengeToken.generate a t.clientId t.userData (s1.challengeSequence + 1) s1.challengeKey = .err e ∨
        ∃ pkt, ChallengeToken.generate a t.clientId t.userData (s1.challengeSequence + 1) s1.challengeKey = .ok pkt ∧
          pkt.encode a C.NETCODE_MAX_PACKET_BYTES s1.protocolId (some (s1.globalSequence, t.serverToClientKey)) = .err e) →
      HcrReply a s1 addr expire t (.err (e, { s1 with challengeSequence := s1.challengeSequence + 1 }))
  | challenge (pkt : Packet) (out : Bytes) : countConnected s1.clients < s1.maxClients →
      ChallengeToken.generate a t.clientId t.userData (s1.challengeSequence + 1) s1.challengeKey = .ok pkt →
      pkt.encode a C.NETCODE_MAX_PACKET_BYTES s1.protocolId (some (s1.globalSequence, t.serverToClientKey)) = .ok out →
      HcrReply a s1 addr expire t
        (.ok (.packetToSend addr out,
              { s1 with challengeSequence := s1.challengeSequence + 1, globalSequence := s1.globalSequence + 1
                        pendingClients := pendingSet s1.pendingClients addr (mkPending s1.currentTime addr expire t) }))
  | overflow (m : String) : ¬ (s1.globalSequence < U64_MAX ∧ s1.challengeSequence < U64_MAX) →
      HcrReply a s1 addr expire t (.panic m)

/-- what `handle_connection_request` can return: an error or `Ok(None)` with the state unchanged, or the answer to an
    `Accepted` request from the state `find_or_add_connect_token_entry` returned -/
def HcrCases (a : AEAD) (s : NetcodeServer) (addr : Addr) (v : Bytes) (pid expire : Nat) (xnonce data : Bytes)
    (R : NetcodeServer.SRes) : Prop :=
  ((∀ t, ¬ Accepted a s addr v pid expire xnonce data t) ∧ ∃ e, R = .err (e, s)) ∨
  (data.length < C.NETCODE_MAC_BYTES ∧ ∃ m, R = .panic m) ∨
  ∃ t, Checked a s v pid expire xnonce data t ∧
    (((∀ t', ¬ Accepted a s addr v pid expire xnonce data t') ∧ R = .ok (.none, s)) ∨
     (Accepted a s addr v pid expire xnonce data t ∧
        HcrReply a (s.findOrAddConnectTokenEntry ⟨s.currentTime, addr, tokenMac data⟩).1 addr expire t R))

theorem hcr_cases (a : AEAD) (s : NetcodeServer) (addr : Addr) (v : Bytes) (pid expire : Nat) (xnonce data : Bytes) :
    HcrCases a s addr v pid expire xnonce data
      (NetcodeServer.handleConnectionRequest a s addr v pid expire xnonce data) := by
  unfold NetcodeServer.handleConnectionRequest
  by_cases hv : v ≠ C.NETCODE_VERSION_INFO
  · rw [if_pos hv]; exact Or.inl ⟨fun t ha => hv ha.version, _, rfl⟩
  rw [if_neg hv]
  by_cases hp : pid ≠ s.protocolId
  · rw [if_pos hp]; exact Or.inl ⟨fun t ha => hp ha.protocol, _, rfl⟩
  rw [if_neg hp]
  by_cases hx : asSecs s.currentTime ≥ expire
  · rw [if_pos hx]; exact Or.inl ⟨fun t ha => by have := ha.unexpired; omega, _, rfl⟩
  rw [if_neg hx]
  rcases tokenDecode_cases a s expire xnonce data with ⟨hd, m, hdec⟩ | ⟨-, ⟨e, hdec, hno⟩ | ⟨t, hdec, hopens⟩⟩
  · rw [hdec]; exact Or.inr (Or.inl ⟨hd, m, rfl⟩)
  · rw [hdec]; exact Or.inl ⟨fun t ha => hno t ha.opens, _, rfl⟩
  have hchk : Checked a s v pid expire xnonce data t := ⟨by simpa using hv, by simpa using hp, by omega, hdec⟩
  have hiff := accepted_iff (addr := addr) hchk hopens
  have hno : ¬ Accepted a s addr v pid expire xnonce data t → ∀ t', ¬ Accepted a s addr v pid expire xnonce data t' :=
    fun h t' ha => h (tokenOpens_unique hopens ha.opens ▸ ha)
  rw [hdec]
  dsimp only
  -- from here on the table step is a variable: the rest of the goal is small
  generalize hfa : s.findOrAddConnectTokenEntry _ = fa
  have hfa' : s.findOrAddConnectTokenEntry ⟨s.currentTime, addr, tokenMac data⟩ = fa := hfa
  -- `iteInduction` with its motive given peels one `if` and leaves the rest alone (`split` simplifies the whole goal)
  refine iteInduction (motive := HcrCases a s addr v pid expire xnonce data)
    (fun h => Or.inl ⟨hno fun ha => (hiff.1 ha).1 h, _, rfl⟩) fun hhost => ?_
  refine iteInduction (motive := HcrCases a s addr v pid expire xnonce data)
    (fun h => Or.inr (Or.inr ⟨t, hchk, Or.inl ⟨hno fun ha => (hiff.1 ha).2.1 h, rfl⟩⟩)) fun hfree => ?_
  refine iteInduction (motive := HcrCases a s addr v pid expire xnonce data)
    (fun h => Or.inr (Or.inr ⟨t, hchk, Or.inl ⟨hno fun ha => (hiff.1 ha).2.2.1 h, rfl⟩⟩)) fun hroom => ?_
  rw [hfa'] at hiff
  obtain ⟨s1, added⟩ := fa
  dsimp only
  cases added with
  | false =>
    rw [if_pos (show (!false) = true from rfl)]
    have hs1 : s1 = s := by have := findOrAdd_false (s := s) (by rw [hfa']); rwa [hfa'] at this
    rw [hs1]
    exact Or.inr (Or.inr ⟨t, hchk, Or.inl ⟨hno fun ha => Bool.false_ne_true (hiff.1 ha).2.2.2, rfl⟩⟩)
  | true =>
    rw [if_neg (show ¬ (!true) = true from Bool.false_ne_true)]
    have hacc : Accepted a s addr v pid expire xnonce data t := hiff.2 ⟨hhost, hfree, hroom, rfl⟩
    refine Or.inr (Or.inr ⟨t, hchk, Or.inr ⟨hacc, ?_⟩⟩)
    rw [hfa']
    dsimp only
    refine iteInduction (motive := HcrReply a s1 addr expire t) (fun hfull => ?_) fun hfull => ?_
    · cases hen : Packet.connectionDenied.encode a C.NETCODE_MAX_PACKET_BYTES s1.protocolId
          (some (s1.globalSequence, t.serverToClientKey)) with
      | panic m => exact absurd hen (encode_ne_panic _ _ _ _ _ _)
      | err e => exact .deniedErr e hfull hen
      | ok out =>
        simp only [lift_ok, bind_ok']
        generalize hinc : (incU64 s1.globalSequence _ : Res (NetcodeError × NetcodeServer) Nat) = X
        rcases incU64_out hinc with rfl | ⟨rfl, hn⟩
        · exact .denied out hfull hen
        · exact .overflow _ fun h => hn h.1
    · generalize hinc : (incU64 s1.challengeSequence _ : Res (NetcodeError × NetcodeServer) Nat) = X
      rcases incU64_out hinc with rfl | ⟨rfl, hn⟩
      case inr => exact .overflow _ fun h => hn h.2
      simp only [bind_ok']
      cases hgen : ChallengeToken.generate a t.clientId t.userData (s1.challengeSequence + 1) s1.challengeKey with
      | panic m => exact absurd hgen (generate_ne_panic _ _ _ _ _ _)
      | err e => exact .challengeErr e (by omega) (Or.inl hgen)
      | ok pkt =>
        simp only [lift_ok, bind_ok']
        cases hen : pkt.encode a C.NETCODE_MAX_PACKET_BYTES s1.protocolId
            (some (s1.globalSequence, t.serverToClientKey)) with
        | panic m => exact absurd hen (encode_ne_panic _ _ _ _ _ _)
        | err e => exact .challengeErr e (by omega) (Or.inr ⟨pkt, hgen, hen⟩)
        | ok out =>
          simp only [lift_ok, bind_ok']
          generalize hinc2 : (incU64 s1.globalSequence _ : Res (NetcodeError × NetcodeServer) Nat) = X2
          rcases incU64_out hinc2 with rfl | ⟨rfl, hn⟩
          · exact .challenge pkt out (by omega) hgen hen
          · exact .overflow _ fun h => hn h.1

/-- the answer in the vocabulary of `HcrOut` (which speaks of the state before the token-entry table step) -/
theorem HcrReply.out {a : AEAD} {s s1 : NetcodeServer} {addr : Addr} {v : Bytes} {pid expire : Nat} {xnonce data : Bytes}
    {t : PrivateConnectToken} {R : NetcodeServer.SRes} (hacc : Accepted a s addr v pid expire xnonce data t)
    (hs : EntryStep s s1 ⟨s.currentTime, addr, tokenMac data⟩) (h : HcrReply a s1 addr expire t R) :
    HcrOut a s addr v pid expire xnonce data R ∨
      ((∃ m, R = .panic m) ∧ ¬ (s.globalSequence < U64_MAX ∧ s.challengeSequence < U64_MAX)) := by
  have hs' := hs
  rcases hs' with rfl | ⟨_, k, rfl⟩ <;> cases h with
  | deniedErr e hfull hen => exact Or.inl (.deniedErr t _ e hacc hs hfull hen)
  | denied out hfull hen => exact Or.inl (.denied t _ out hacc hs hfull hen)
  | challengeErr e hfull hgen => exact Or.inl (.challengeErr t _ e hacc hs hfull hgen)
  | challenge pkt out hfull hgen hen => exact Or.inl (.challenge t _ pkt out hacc hs hfull hgen hen)
  | overflow m hn => exact Or.inr ⟨⟨m, rfl⟩, hn⟩

/-- `handle_connection_request` on a token blob long enough to carry a MAC (true of every decoded request: 1024 bytes):
    its outcome is one of `HcrOut`; the only way to unwind is a full `u64` counter. -/
theorem hcr_spec (a : AEAD) (s : NetcodeServer) (addr : Addr) (v : Bytes) (pid expire : Nat) (xnonce data : Bytes)
    (hd : C.NETCODE_MAC_BYTES ≤ data.length) :
    HcrOut a s addr v pid expire xnonce data (NetcodeServer.handleConnectionRequest a s addr v pid expire xnonce data) ∨
      ((∃ m, NetcodeServer.handleConnectionRequest a s addr v pid expire xnonce data = .panic m) ∧
        ¬ (s.globalSequence < U64_MAX ∧ s.challengeSequence < U64_MAX)) := by
  have h := hcr_cases a s addr v pid expire xnonce data
  generalize NetcodeServer.handleConnectionRequest a s addr v pid expire xnonce data = R at h ⊢
  rcases h with ⟨hno, e, rfl⟩ | ⟨hlt, -⟩ | ⟨t, -, ⟨hno, rfl⟩ | ⟨hacc, hrep⟩⟩
  · exact Or.inl (.err e hno)
  · omega
  · exact Or.inl (.none hno)
  · exact hrep.out hacc (entryStep_findOrAdd s _)

end NS
end RenetVerif.Netcode
