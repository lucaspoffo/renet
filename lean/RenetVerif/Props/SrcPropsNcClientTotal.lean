/-
  Whole-trace TOTALITY of the netcode client on the GENERATED code (`Generated/Src/NcClient.lean`, translated from
  `renetcode/src/client.rs`), and the `ClientAuthentication::Unsecure` start.

  Every theorem is about GENERATED runs (`GNcC`: generated `NetcodeClient::new`, then generated `update` / `process_packet` /
  `generate_payload_packet` / `disconnect` calls with arbitrary arguments, `Lemmas/SrcEquiv/SrcNcClientSystem.lean`); the hand
  model (`Netcode/Client.lean`, `Props/C07C.lean`, `Lemmas/NcClientTotal.lean`) occurs inside proofs only — except in
  `gen_run_total`, the "from any pair of related states" form, whose start is given by the simulation relation.

    (2) `gen_trace_total`            generated `new(ct, Secure { tok })` returned `Ok`, the token has its 32 address slots and an
                                     `i32` timeout, the datagrams are shorter than `2^64 - 16` bytes, and the trace is inside the
                                     head room (`ct + Σ d + timeout ≤ Duration::MAX`, at most `u64::MAX` sending calls): NO
                                     generated call of the trace panics (`GNcC.exec … = some g`); the generated clock is
                                     `ct + Σ d`, the generated counter at most the number of sending calls, the token is kept,
                                     one result is logged per call, `generate_payload_packet` returned `Ok`,
                                     `Err(PayloadAboveLimit)` or `Err(ClientNotConnected)` and `disconnect` returned `Ok`;
        `gen_trace_total_of_read`    the same from token BYTES `ConnectToken::read` accepts: the generated `new` succeeds too;
        `gen_run_total`              the same from any generated state related to a model client satisfying the invariants;
    (3) `initU_eq_init` / `execU_eq_exec`   generated `new(ct, Unsecure { protocol_id, client_id, server_addr, user_data })` with the
                                     four explicit random values IS the generated `new(ct, Secure { tok })` for the token
                                     `ConnectToken::generate` makes of them (same result, same struct), so every `GNcC`
                                     theorem holds from that start:
        `gen_trace_total_unsecure`, `payloads_at_most_once_unsecure`, `client_nonces_strict_from_new_unsecure`.
-/
import RenetVerif.Props.SrcPropsNcClientTrace
import RenetVerif.Props.C07C
namespace RenetVerif.SrcPropsNcClientTotal
open RenetVerif RenetVerif.SrcEquiv RenetVerif.RustSem RenetVerif.Netcode RenetVerif.Netcode.Packet
open RenetVerif.SrcNcClientSystem RenetVerif.SrcNcClientSeal RenetVerif.NcAead RenetVerif.NcClientTrace
open RenetVerif.SrcPropsNcClientHistory RenetVerif.NcClientTotal

def gdur : CliOp → Nat
  | .update d => d
  | _ => 0

/-- the calls that may advance the packet counter -/
def gsends : CliOp → Nat
  | .update _ => 1
  | .sendPayload _ => 1
  | _ => 0

def gTotalDur (ops : List CliOp) : Nat := (ops.map gdur).sum
def gTotalSends (ops : List CliOp) : Nat := (ops.map gsends).sum

/-- **the head room of a generated trace started at clock `now`, counter `seq`, with a token of timeout `tmoNs` nanoseconds**
    (decidable): `now + Σ d + timeout ≤ Duration::MAX` and `seq + #(update | generate_payload_packet calls) ≤ u64::MAX` -/
def GHeadRoom (now seq tmoNs : Nat) (ops : List CliOp) : Prop :=
  now + gTotalDur ops + tmoNs ≤ DURATION_MAX ∧ seq + gTotalSends ops ≤ U64_MAX

instance (now seq tmoNs : Nat) (ops : List CliOp) : Decidable (GHeadRoom now seq tmoNs ops) := by
  unfold GHeadRoom; infer_instance

/-- the timeout of a token as a duration (`Duration::from_secs(timeout_seconds as u64)` where it is read: only when positive) -/
def tokTmo (tok : Netcode.ConnectToken) : Nat := fromSecs tok.timeoutSeconds.toNat

/-- **the documented results** of the generated calls, as far as they can be read off the result alone:
    `generate_payload_packet` returns `Ok`, `Err(PayloadAboveLimit)` or `Err(ClientNotConnected)`; `disconnect` returns `Ok` -/
def GDoc : GCOut → Prop
  | .payloadErr e => e = .PayloadAboveLimit ∨ e = .ClientNotConnected
  | .disconnectErr _ => False
  | _ => True

instance (o : GCOut) : Decidable (GDoc o) := by cases o <;> unfold GDoc <;> infer_instance

abbrev toC : CliOp → Cl.COp := toCl

def toM : Out → MCOut
  | .sent o => .sent o
  | .received p => .received p
  | .payload r => .payload r
  | .payloadErr e => .payloadErr e
  | .disconnected r => .disconnected r
  | .disconnectErr e => .disconnectErr e

theorem dur_toC (op : CliOp) : dur (toCl op) = gdur op := by cases op <;> rfl
theorem sends_toC (op : CliOp) : sends (toCl op) = gsends op := by cases op <;> rfl

theorem mcstep_tstep (a : AEAD) (c : Netcode.NetcodeClient) (op : CliOp) :
    mcstep a c op = (tstep a c (toCl op)).map (fun x => (toM x.1, x.2)) := by
  cases op with
  | update d =>
    simp only [mcstep, tstep, toCl]
    cases c.update a d with
    | ok x => rfl
    | err e => exact nomatch e
    | panic m => rfl
  | packet buf =>
    simp only [mcstep, tstep, toCl]
    cases c.processPacket a buf with
    | ok x => rfl
    | err e => exact nomatch e
    | panic m => rfl
  | sendPayload p =>
    simp only [mcstep, tstep, toCl]
    cases c.generatePayloadPacket a p with
    | ok x => rfl
    | err e => rfl
    | panic m => rfl
  | disconnect =>
    simp only [mcstep, tstep, toCl]
    cases (c.disconnect a).1 with
    | ok x => rfl
    | err e => rfl
    | panic m => rfl

theorem gdoc_of_documented {a : AEAD} {c : Netcode.NetcodeClient} {op : Cl.COp} {o : Out} (h : Documented a c op o) :
    GDoc (reprMCOut (toM o)) := by
  cases op <;> cases o <;> simp only [Documented] at h <;> simp only [toM, reprMCOut, GDoc]
  · rcases h with ⟨-, rfl⟩ | ⟨-, -, rfl⟩
    · exact Or.inl rfl
    · exact Or.inr rfl

theorem mrun_trun (a : AEAD) : ∀ (ops : List CliOp) (m : MNcC),
    m.run a ops = (trun a m.cli (ops.map toCl)).map fun x => ⟨x.1, m.outs ++ x.2.map fun y => toM y.2.2⟩
  | [], m => by simp only [MNcC.run, List.map_nil, trun, Option.map_some, List.append_nil]
  | op :: ops, m => by
    simp only [MNcC.run, MNcC.step, mcstep_tstep, List.map_cons, trun]
    cases tstep a m.cli (toCl op) with
    | none => rfl
    | some x =>
      simp only [Option.map_some, mrun_trun a ops]
      cases trun a x.2 (ops.map toCl) with
      | none => rfl
      | some y => simp only [Option.map_some, List.map_cons, List.append_assoc, List.singleton_append]

theorem totalDur_toC (ops : List CliOp) : totalDur (ops.map toCl) = gTotalDur ops := by
  simp only [totalDur, gTotalDur, List.map_map, Function.comp_def, dur_toC]
theorem totalSends_toC (ops : List CliOp) : totalSends (ops.map toCl) = gTotalSends ops := by
  simp only [totalSends, gTotalSends, List.map_map, Function.comp_def, sends_toC]

/-- **the model system inside the head room runs to its end** (`NcClientTotal.trun_total`, read on `MNcC`) -/
theorem mrun_total (a : AEAD) (ops : List CliOp) (m : MNcC) (hinv : CTInv m.cli)
    (hh : GHeadRoom m.cli.currentTime m.cli.sequence (tmo m.cli) ops) :
    ∃ m' rs, m.run a ops = some m' ∧ m'.outs = m.outs ++ rs ∧ rs.length = ops.length ∧ (∀ r ∈ rs, GDoc (reprMCOut r)) ∧
      CTInv m'.cli ∧ m'.cli.currentTime = m.cli.currentTime + gTotalDur ops ∧ m.cli.sequence ≤ m'.cli.sequence ∧
      m'.cli.sequence ≤ m.cli.sequence + gTotalSends ops ∧ m'.cli.connectToken = m.cli.connectToken := by
  obtain ⟨c', log, hrun, hi', t', s1, s2, k', hl, hdocs⟩ :=
    trun_total a (ops.map toCl) hinv (by rw [HeadRoom, totalDur_toC, totalSends_toC]; exact hh)
  rw [totalDur_toC] at t'
  rw [totalSends_toC] at s2
  refine ⟨⟨c', _⟩, log.map fun y => toM y.2.2, by rw [mrun_trun, hrun]; rfl, rfl, ?_, ?_, hi', t', s1, s2, k'⟩
  · rw [List.length_map, ← List.length_map (f := fun x => x.2.1), hl, List.length_map]
  · intro r hr
    obtain ⟨y, hy, rfl⟩ := List.mem_map.mp hr
    exact gdoc_of_documented (hdocs y hy).2

/-- **no generated call of a trace inside the head room panics — from any pair of related states**: the generated state `g`
    represents the model client `m.cli` (`SimNcC`, e.g. by `crun_sim` / `gcreach_model`), which satisfies the invariant `CliInv`
    of the closed ties and the trace invariant `CTInv`; `ops` is ANY trace of `update(d)` / `process_packet(any bytes)` /
    `generate_payload_packet(p)` / `disconnect()` calls, in range and inside the head room read off the GENERATED clock and
    counter and the token's timeout.  Then the generated run reaches its end; the generated clock advanced by exactly `Σ d`, the generated counter by at
    most the number of sending calls, the generated token is unchanged, one result per call was logged and each is documented;
    the end state is again related to a model client satisfying both invariants. -/
theorem gen_run_total {a : AEAD} (hl : a.Laws) {m : MNcC} {g : GNcC} (hi : CliInv m.cli) (hct : CTInv m.cli)
    (hsim : SimNcC m g) {ops : List CliOp} (hr : CliOpsInRange ops)
    (hh : GHeadRoom g.cli.current_time g.cli.sequence (tokTmo m.cli.connectToken) ops) :
    ∃ g', g.run a ops = some g' ∧
      g'.cli.current_time = g.cli.current_time + gTotalDur ops ∧
      g.cli.sequence ≤ g'.cli.sequence ∧ g'.cli.sequence ≤ g.cli.sequence + gTotalSends ops ∧
      g'.cli.connect_token = g.cli.connect_token ∧
      (∃ rs, g'.outs = g.outs ++ rs ∧ rs.length = ops.length ∧ ∀ r ∈ rs, GDoc r) ∧
      ∃ m', SimNcC m' g' ∧ CliInv m'.cli ∧ CTInv m'.cli := by
  obtain ⟨out, hout, hs⟩ := hsim.cli
  have hh' : GHeadRoom m.cli.currentTime m.cli.sequence (tmo m.cli) ops := by rw [hs] at hh; exact hh
  obtain ⟨m', rs, hrun, ho, hlen, hd, hi', t', s1, s2, k'⟩ := mrun_total a ops m hct hh'
  obtain ⟨g', hg, hsim'⟩ := crun_sim_of a hl ops hi hsim hr hrun
  obtain ⟨out', hout', hs'⟩ := hsim'.cli
  refine ⟨g', hg, ?_, ?_, ?_, ?_, ⟨rs.map reprMCOut, ?_, by rw [List.length_map, hlen], ?_⟩, m', hsim', inv_mrun ops hi hrun, hi'⟩
  · rw [hs, hs']; exact t'
  · rw [hs, hs']; exact s1
  · rw [hs, hs']; exact s2
  · rw [hs, hs']
    show reprTok m'.cli.connectToken = reprTok m.cli.connectToken
    rw [k']
  · rw [hsim'.outs, hsim.outs, ho, List.map_append]
  · intro r hr
    obtain ⟨x, hx, rfl⟩ := List.mem_map.mp hr
    exact hd x hx

/-- **`gen_trace_total`: no generated call of a trace in range panics, from the generated `NetcodeClient::new`.**
    Hypotheses (all decidable on concrete data): the generated `new(ct, Secure { tok }, ..)` returned `Ok` (`GNcC.init … = some _`);
    the token has its 32 address slots and an `i32` timeout (what `ConnectToken::read` guarantees, `gen_trace_total_of_read`);
    the datagrams handed to `process_packet` are shorter than `2^64 - 16` bytes — otherwise ARBITRARY; the head room
    `ct + Σ d + timeout ≤ Duration::MAX` (the token's own `timeout_seconds`) and
    `#(update | generate_payload_packet calls) ≤ u64::MAX`.
    Then the generated execution reaches its end: no generated `update` / `process_packet` / `generate_payload_packet` /
    `disconnect` call panicked; the generated clock is `ct + Σ d`, the generated counter at most the number of sending calls, the
    generated struct holds the token, one result was logged per call, and `generate_payload_packet` returned only `Ok`,
    `Err(PayloadAboveLimit)`, `Err(ClientNotConnected)`, `disconnect` only `Ok`. -/
theorem gen_trace_total {a : AEAD} (hl : a.Laws) {ct : Nat} {tok : Netcode.ConnectToken} {r1 r2 r3 r4 : List Nat} {g0 : GNcC}
    (h0 : GNcC.init a ct tok r1 r2 r3 r4 = some g0)
    (hlen : Netcode.C.NETCODE_TOKEN_MAX_ADDRESSES ≤ tok.serverAddresses.length) {ops : List CliOp} (hr : CliInRange tok ops)
    (hh : GHeadRoom ct 0 (tokTmo tok) ops) :
    ∃ g, GNcC.exec a ct tok r1 r2 r3 r4 ops = some g ∧
      g.cli.current_time = ct + gTotalDur ops ∧ g.cli.sequence ≤ gTotalSends ops ∧ g.cli.connect_token = reprTok tok ∧
      g.outs.length = ops.length ∧ (∀ r ∈ g.outs, GDoc r) ∧ GCReach a g := by
  obtain ⟨c0, hnew, hm0, hsim0, hout0⟩ := SrcPropsNcClientTrace.cinit_model h0
  obtain ⟨hct, t0, s0, k0⟩ := ctinv_new_of hlen hr.1 hnew
  obtain ⟨out, hout, hs⟩ := hsim0.cli
  have hh0 : GHeadRoom g0.cli.current_time g0.cli.sequence (tokTmo c0.connectToken) ops := by
    rw [hs]
    show GHeadRoom c0.currentTime c0.sequence (tokTmo c0.connectToken) ops
    rw [t0, s0, k0]; exact hh
  obtain ⟨g, hg, h1, -, h3, h4, ⟨rs, h5, h6, h7⟩, -⟩ := gen_run_total hl (inv_minit hr.1 hm0) hct hsim0 hr.2 hh0
  have hexec : GNcC.exec a ct tok r1 r2 r3 r4 ops = some g := by
    unfold GNcC.exec; rw [h0]; exact hg
  rw [hs] at h1 h3 h4
  refine ⟨g, hexec, ?_, ?_, ?_, ?_, ?_, .exec hr hexec⟩
  · rw [h1]; show c0.currentTime + _ = _; rw [t0]
  · have : g.cli.sequence ≤ c0.sequence + gTotalSends ops := h3
    rw [s0, Nat.zero_add] at this; exact this
  · rw [h4]; show reprTok c0.connectToken = _; rw [k0]
  · rw [h5, hout0, List.nil_append, h6]
  · intro r hr'
    rw [h5, hout0, List.nil_append] at hr'
    exact h7 r hr'

/-- **… from token BYTES**: for a token `ConnectToken::read` accepts, the generated `new` returns `Ok` as well — the whole generated
    execution `new; ops` exists for every trace in range inside the head room -/
theorem gen_trace_total_of_read {a : AEAD} (hl : a.Laws) {src : Bytes} {tok : Netcode.ConnectToken}
    (hread : Netcode.ConnectToken.read src = .ok tok) (ct : Nat) (r1 r2 r3 r4 : List Nat) {ops : List CliOp}
    (hr : CliOpsInRange ops) (hh : GHeadRoom ct 0 (tokTmo tok) ops) :
    ∃ g, GNcC.exec a ct tok r1 r2 r3 r4 ops = some g ∧
      g.cli.current_time = ct + gTotalDur ops ∧ g.cli.sequence ≤ gTotalSends ops ∧ g.cli.connect_token = reprTok tok ∧
      g.outs.length = ops.length ∧ (∀ r ∈ g.outs, GDoc r) ∧ GCReach a g := by
  obtain ⟨c, hc, hinv, -, -, hk⟩ := C07C.client_new_ctinv hread ct
  have h := cinit_sim a ct tok r1 r2 r3 r4
  have hm : MNcC.init ct tok = some ⟨c, []⟩ := by unfold MNcC.init; rw [hc]
  rw [hm] at h
  obtain ⟨g0, h0, -⟩ := h
  have ha := hinv.cinv.addrs
  have hto := hinv.cinv.timeout
  rw [hk] at ha hto
  exact gen_trace_total hl h0 ha ⟨hto, hr⟩ hh

/-- generated `NetcodeClient::new(ct, ClientAuthentication::Unsecure { protocol_id, client_id, server_addr, user_data }, r1..r4)`;
    `r1..r4`: the four random values the Rust code draws (client-to-server key, server-to-client key, user data when none is
    given, nonce), explicit parameters of the generated function -/
def GNcC.initU (a : AEAD) (ct pid cid : Nat) (addr : Addr) (ud : Option Bytes) (r1 r2 r3 r4 : Bytes) : Option GNcC :=
  match @Src.renetcode.client.NetcodeClient.new (aeadOf a) ct (.Unsecure pid cid (reprAddr addr) (ud.map toNats))
      (toNats r1) (toNats r2) (toNats r3) (toNats r4) with
  | .ok c => some { cli := c, outs := [] }
  | _ => none

def GNcC.execU (a : AEAD) (ct pid cid : Nat) (addr : Addr) (ud : Option Bytes) (r1 r2 r3 r4 : Bytes) (ops : List CliOp) :
    Option GNcC :=
  match GNcC.initU a ct pid cid addr ud r1 r2 r3 r4 with
  | some g => g.run a ops
  | none => none

/-- the token the `Unsecure` constructor generates: 300 s to expiry, timeout 15 s, the one server address, the all-zero key -/
def unsecureToken (a : AEAD) (ct pid cid : Nat) (addr : Addr) (ud : Option Bytes) (r1 r2 r3 r4 : Bytes) :
    Res TokenGenErr Netcode.ConnectToken :=
  Netcode.ConnectToken.generate a ct pid 300 cid 15 [addr] (ud.getD r3) r1 r2 r4 (List.replicate Netcode.C.NETCODE_KEY_BYTES 0)

def ofNew : Res SNErr SNetcodeClient → Option GNcC
  | .ok c => some { cli := c, outs := [] }
  | _ => none

theorem so_mapRes_init {X Y : Res SNErr SNetcodeClient} {R : NRes Netcode.NetcodeClient} {f : Netcode.NetcodeClient → SNetcodeClient}
    (hx : SameOutcome X (mapRes f reprNErr R)) (hy : SameOutcome Y (mapRes f reprNErr R)) : ofNew X = ofNew Y := by
  cases hR : R with
  | ok c => rw [hx.map_ok hR, hy.map_ok hR]
  | err e => rw [hx.map_err hR, hy.map_err hR]
  | panic m =>
    obtain ⟨m1, e1⟩ := hx.map_panic hR
    obtain ⟨m2, e2⟩ := hy.map_panic hR
    rw [e1, e2]
    rfl

/-- **the `Unsecure` constructor is the `Secure` constructor on the generated token**: same `Ok` struct, or both fail -/
theorem initU_eq_init (a : AEAD) {ct pid cid : Nat} {addr : Addr} {ud : Option Bytes} {r1 r2 r3 r4 : Bytes}
    {tok : Netcode.ConnectToken} (hgen : unsecureToken a ct pid cid addr ud r1 r2 r3 r4 = .ok tok) (s1 s2 s3 s4 : List Nat) :
    GNcC.initU a ct pid cid addr ud r1 r2 r3 r4 = GNcC.init a ct tok s1 s2 s3 s4 := by
  have tu := SrcTie.nc_client_new_unsecure a ct pid cid addr ud r1 r2 r3 r4
  unfold unsecureToken at hgen
  rw [hgen] at tu
  dsimp only at tu
  have := so_mapRes_init tu (SrcTie.nc_client_new_secure a ct tok s1 s2 s3 s4)
  exact this

theorem execU_eq_exec (a : AEAD) {ct pid cid : Nat} {addr : Addr} {ud : Option Bytes} {r1 r2 r3 r4 : Bytes}
    {tok : Netcode.ConnectToken} (hgen : unsecureToken a ct pid cid addr ud r1 r2 r3 r4 = .ok tok) (s1 s2 s3 s4 : List Nat)
    (ops : List CliOp) :
    GNcC.execU a ct pid cid addr ud r1 r2 r3 r4 ops = GNcC.exec a ct tok s1 s2 s3 s4 ops := by
  unfold GNcC.execU GNcC.exec
  rw [initU_eq_init a hgen s1 s2 s3 s4]
  rfl

theorem unsecureToken_shape {a : AEAD} {ct pid cid : Nat} {addr : Addr} {ud : Option Bytes} {r1 r2 r3 r4 : Bytes}
    {tok : Netcode.ConnectToken} (hgen : unsecureToken a ct pid cid addr ud r1 r2 r3 r4 = .ok tok) :
    tok.serverAddresses = some addr :: List.replicate 31 none ∧ tok.timeoutSeconds = 15 ∧ tok.protocolId = pid ∧
      tok.clientId = cid ∧ tok.clientToServerKey = r1 ∧ tok.serverToClientKey = r2 := by
  unfold unsecureToken Netcode.ConnectToken.generate at hgen
  simp only at hgen
  split at hgen
  · cases hgen
  · have hp : Netcode.PrivateConnectToken.generate cid 15 [addr] (ud.getD r3) r1 r2 =
        .ok { clientId := cid, timeoutSeconds := 15, serverAddresses := some addr :: List.replicate 31 none,
              clientToServerKey := r1, serverToClientKey := r2, userData := ud.getD r3 } := rfl
    rw [hp] at hgen
    simp only [Res.bind_ok] at hgen
    rw [Res.bind_ok_iff] at hgen
    obtain ⟨pd, -, hgen⟩ := hgen
    cases hgen
    exact ⟨rfl, rfl, rfl, rfl, rfl, rfl⟩

theorem initU_isSome (a : AEAD) {ct pid cid : Nat} {addr : Addr} {ud : Option Bytes} {r1 r2 r3 r4 : Bytes}
    {tok : Netcode.ConnectToken} (hgen : unsecureToken a ct pid cid addr ud r1 r2 r3 r4 = .ok tok) :
    ∃ g0, GNcC.initU a ct pid cid addr ud r1 r2 r3 r4 = some g0 := by
  obtain ⟨hsa, -⟩ := unsecureToken_shape hgen
  rw [initU_eq_init a hgen [] [] [] []]
  have h := cinit_sim a ct tok [] [] [] []
  have hm : ∃ m0, MNcC.init ct tok = some m0 := by
    unfold MNcC.init
    rw [Cl.new_ok.mpr ⟨addr, by rw [hsa]; rfl, rfl⟩]
    exact ⟨_, rfl⟩
  obtain ⟨m0, hm⟩ := hm
  rw [hm] at h
  obtain ⟨g0, e, -⟩ := h
  exact ⟨g0, e⟩

/-- **`gen_trace_total` from the `Unsecure` constructor**: token generation from the four random values succeeded (always, for
    values of the sizes the Rust code draws and a clock below `u64::MAX - 300` s); the datagrams are shorter than `2^64 - 16`
    bytes; the head room with the constructor's fixed timeout of 15 s.  Then the generated `new(ct, Unsecure { .. })` returns `Ok` and NO generated call of the trace panics;
    clock, counter and results as in `gen_trace_total`. -/
theorem gen_trace_total_unsecure {a : AEAD} (hl : a.Laws) {ct pid cid : Nat} {addr : Addr} {ud : Option Bytes}
    {r1 r2 r3 r4 : Bytes} {tok : Netcode.ConnectToken} (hgen : unsecureToken a ct pid cid addr ud r1 r2 r3 r4 = .ok tok)
    {ops : List CliOp} (hr : CliOpsInRange ops) (hh : GHeadRoom ct 0 (fromSecs 15) ops) :
    ∃ g, GNcC.execU a ct pid cid addr ud r1 r2 r3 r4 ops = some g ∧
      g.cli.current_time = ct + gTotalDur ops ∧ g.cli.sequence ≤ gTotalSends ops ∧ g.cli.connect_token = reprTok tok ∧
      g.outs.length = ops.length ∧ (∀ r ∈ g.outs, GDoc r) := by
  obtain ⟨hsa, hto, -⟩ := unsecureToken_shape hgen
  obtain ⟨g0, h0⟩ := initU_isSome a hgen
  rw [initU_eq_init a hgen [] [] [] []] at h0
  obtain ⟨g, hg, h1, h2, h3, h4, h5, -⟩ := gen_trace_total hl h0 (by rw [hsa, List.length_cons, List.length_replicate]; decide)
    ⟨by rw [hto]; decide, hr⟩ (by unfold tokTmo; rw [hto]; exact hh)
  exact ⟨g, by rw [execU_eq_exec a hgen [] [] [] []]; exact hg, h1, h2, h3, h4, h5⟩

/-- **`payloads_at_most_once` from the `Unsecure` constructor** -/
theorem payloads_at_most_once_unsecure {a : AEAD} (hl : a.Laws) {ct pid cid : Nat} {addr : Addr} {ud : Option Bytes}
    {r1 r2 r3 r4 : Bytes} {tok : Netcode.ConnectToken} (hgen : unsecureToken a ct pid cid addr ud r1 r2 r3 r4 = .ok tok)
    {ops : List CliOp} {g : GNcC} (hr : CliOpsInRange ops) (hg : GNcC.execU a ct pid cid addr ud r1 r2 r3 r4 ops = some g) :
    (SrcPropsNcClientTrace.gsurfSeqs (gsurf ops g.outs)).Nodup ∧
    (∀ x ∈ gsurf ops g.outs, x.1 ∈ gBufs ops ∧ ∃ p, x.2 = toNats p ∧ SealedOpen a x.1 pid r2 .payload p) ∧
    g.cli.connect_token = reprTok tok ∧
    g.cli.replay_protection = reprRP (Recv.run a pid r2 (gBufs ops)).window ∧
    (∀ s ∈ SrcPropsNcClientTrace.gsurfSeqs (gsurf ops g.outs),
      (Src.renetcode.replay_protection.ReplayProtection.already_received g.cli.replay_protection s : Res Empty Bool)
        = .ok true) := by
  obtain ⟨-, hto, hp, -, -, hk⟩ := unsecureToken_shape hgen
  rw [execU_eq_exec a hgen [] [] [] []] at hg
  obtain ⟨p1, p2, p3, p4, -, p6⟩ := SrcPropsNcClientTrace.payloads_at_most_once hl ⟨by rw [hto]; decide, hr⟩ hg
  rw [hp, hk] at p2 p4
  exact ⟨p1, p2, p3, p4, p6⟩

/-- **`client_nonces_strict_from_new` from the `Unsecure` constructor**: the counter starts at 0; every datagram the
    generated client seals in the run is under the drawn client-to-server key `r1`, with strictly increasing sequence numbers (a
    repeated `Disconnect` datagram aside) -/
theorem client_nonces_strict_from_new_unsecure {a : AEAD} (hl : a.Laws) {ct pid cid : Nat} {addr : Addr} {ud : Option Bytes}
    {r1 r2 r3 r4 : Bytes} {tok : Netcode.ConnectToken} (hgen : unsecureToken a ct pid cid addr ud r1 r2 r3 r4 = .ok tok)
    {ops : List CliOp} {g : GNcC} (hr : CliOpsInRange ops) (hg : GNcC.execU a ct pid cid addr ud r1 r2 r3 r4 ops = some g) :
    ∃ g0, GNcC.initU a ct pid cid addr ud r1 r2 r3 r4 = some g0 ∧ g0.cli.sequence = 0 ∧
      (∀ e ∈ gclog a g0 ops, e.key = toNats r1) ∧
      (gclog a g0 ops).Pairwise (fun e e' => e.seq < e'.seq ∨ e' = e) ∧
      (∀ e ∈ gclog a g0 ops, ∀ e' ∈ gclog a g0 ops, e.seq = e'.seq → e = e') := by
  obtain ⟨-, hto, -, -, hk, -⟩ := unsecureToken_shape hgen
  rw [execU_eq_exec a hgen [] [] [] []] at hg
  obtain ⟨g0, h0, n0, n1, n2, n3, -⟩ :=
    SrcPropsNcClientTrace.client_nonces_strict_from_new hl ⟨by rw [hto]; decide, hr⟩ hg
  rw [hk] at n1
  exact ⟨g0, by rw [initU_eq_init a hgen [] [] [] []]; exact h0, n0, n1, n2, n3⟩

/-! ## non-vacuity: concrete generated client runs (world of `Lemmas/NcExamples.lean`, AEAD `Ex.a` with `Netcode.NS.Ex.laws_a`),
    evaluated by the kernel on the generated code -/
section Examples
open NS.Ex

example : gOps.map toC = C07C.exOps := rfl

theorem gOps_facts :
    (CliInRange tokenA gOps ∧ GHeadRoom 0 0 (tokTmo tokenA) gOps ∧ GHeadRoom 0 0 (fromSecs 15) gOps) ∧
    0 + gTotalDur gOps = 250000000 + 1000 + 10 ^ 18 ∧ gTotalSends gOps ≤ 7 ∧ gOps.length = 21 := by
  decide +kernel

theorem gOps_inRange : CliInRange tokenA gOps := gOps_facts.1.1
theorem gOps_headRoom : GHeadRoom 0 0 (tokTmo tokenA) gOps := gOps_facts.1.2.1
theorem gOps_headRoomU : GHeadRoom 0 0 (fromSecs 15) gOps := gOps_facts.1.2.2

set_option maxRecDepth 100000 in
theorem ex_init : (GNcC.init NS.Ex.a 0 tokenA [] [] [] []).isSome = true := ex_cli_all.2.2.2.2.1

/-- **`gen_trace_total` on that generated run**: by the theorem — not by evaluation — no generated call panics -/
example : ∃ g, GNcC.exec NS.Ex.a 0 tokenA [] [] [] [] gOps = some g ∧ g.cli.current_time = 250000000 + 1000 + 10 ^ 18 ∧
    g.cli.sequence ≤ 7 ∧ g.cli.connect_token = reprTok tokenA ∧ g.outs.length = 21 ∧ ∀ r ∈ g.outs, GDoc r := by
  cases h0 : GNcC.init NS.Ex.a 0 tokenA [] [] [] [] with
  | none => have := ex_init; rw [h0] at this; cases this
  | some g0 =>
    obtain ⟨g, h1, h2, h3, h4, h5, h6, -⟩ := gen_trace_total Netcode.NS.Ex.laws_a h0 (by decide) gOps_inRange gOps_headRoom
    obtain ⟨-, hdur, hsends, hlen⟩ := gOps_facts
    exact ⟨g, h1, h2.trans hdur, Nat.le_trans h3 hsends, h4, h5.trans hlen, h6⟩

set_option maxRecDepth 100000 in
theorem ex_gen_run : (GNcC.exec NS.Ex.a 0 tokenA [] [] [] [] gOps).map
      (fun g => (g.outs.map shapeC, g.cli.current_time, g.cli.sequence)) =
    some ([("sent", 1078), ("received", 0), ("sent", 326), ("received", 0),
      ("received", 3), ("received", 2), ("received", 0), ("received", 0), ("received", 0), ("payload", 19), ("sent", 0),
      ("received", 4), ("received", 0), ("disconnected", 18), ("received", 0),
      ("received", 0), ("received", 0), ("payloadErr", 0), ("payloadErr", 0), ("sent", 0),
      ("disconnected", 18)], 250000000 + 1000 + 10 ^ 18, 3) := ex_cli_all.2.2.2.2.2.1

/-- `gen_trace_total_of_read` on the token BYTES (`C07C.tokenA_read`): the generated `new` and the whole trace, any random values -/
example (r1 r2 r3 r4 : List Nat) : ∃ g, GNcC.exec NS.Ex.a 0 tokenA r1 r2 r3 r4 gOps = some g ∧ g.outs.length = gOps.length :=
  let ⟨g, h1, _, _, _, h5, _⟩ := gen_trace_total_of_read Netcode.NS.Ex.laws_a C07C.tokenA_read 0 r1 r2 r3 r4 gOps_inRange.2 gOps_headRoom
  ⟨g, h1, h5⟩

/-- that run continued (the state `gen_trace_total` reaches is a reached state, `packets_total` of
    Props/SrcPropsNcClientHistory.lean): ANY further datagrams do not unwind either -/
example (bufs : List Bytes) (hb : ∀ b ∈ bufs, b.length + 16 < 2 ^ 64) :
    ∃ g, GNcC.exec NS.Ex.a 0 tokenA [] [] [] [] (gOps ++ bufs.map .packet) = some g := by
  cases h0 : GNcC.init NS.Ex.a 0 tokenA [] [] [] [] with
  | none => have := ex_init; rw [h0] at this; cases this
  | some g0 =>
    obtain ⟨g, h1, -, -, -, -, -, hreach⟩ := gen_trace_total Netcode.NS.Ex.laws_a h0 (by decide) gOps_inRange gOps_headRoom
    obtain ⟨g', e', -⟩ := packets_total Netcode.NS.Ex.laws_a bufs hreach hb
    exact ⟨g', by rw [exec_append h1]; exact e'⟩

set_option maxRecDepth 100000 in
theorem ex_gen_excluded :
    gConn.map (fun g => ((g.step NS.Ex.a (.update (DURATION_MAX - 250000000 + 1))).isSome,
      (g.step NS.Ex.a (.update (DURATION_MAX - 250000000))).isSome,
      (GNcC.step NS.Ex.a { g with cli := { g.cli with sequence := U64_MAX } } (.sendPayload [1])).isSome,
      (GNcC.step NS.Ex.a { g with cli := { g.cli with sequence := U64_MAX } } (.update (10 ^ 9))).isSome,
      (GNcC.step NS.Ex.a { g with cli := { g.cli with sequence := U64_MAX } } .disconnect).isSome,
      (GNcC.step NS.Ex.a { g with cli := { g.cli with sequence := U64_MAX - 1 } } (.sendPayload [1])).isSome)) =
    some (false, true, false, false, true, true) := ex_cli_all.2.2.2.2.2.2.1

set_option maxRecDepth 100000 in
theorem ex_gen_deadline :
    gConn.map (fun g => (((gLate g (10 ^ 9)).step NS.Ex.a (.update 0)).isSome,
      ((gLate g (5 * 10 ^ 9)).step NS.Ex.a (.update 0)).isSome)) = some (false, true) := ex_cli_all.2.2.2.2.2.2.2

/-! ### the `Unsecure` start: `new(0, Unsecure { protocol_id: 42, client_id: 11, server_addr, user_data: None })` with the random
    values `kc2s`, `ks2c` (keys), `udA` (user data), `xnA` (nonce) -/

def tokU : ConnectToken := C07C.okOr tokenA (unsecureToken NS.Ex.a 0 42 11 srvAddr none kc2s ks2c udA xnA)

set_option maxRecDepth 100000 in
/-- the generated `Unsecure` constructor and the run from it: the token it makes is `tokU`, which is
    not `tokenA` (300 s to expiry, timeout 15 s, sealed under the all-zero key); **the run of `gOps`** shows the same handshake
    and session (the toy AEAD of this world does not bind the key), three payloads surfaced -/
theorem exU_all :
    (unsecureToken NS.Ex.a 0 42 11 srvAddr none kc2s ks2c udA xnA = .ok tokU ∧
      tokU.expireTimestamp = 300 ∧ tokU.timeoutSeconds = 15 ∧ tokU ≠ tokenA) ∧
    (GNcC.execU NS.Ex.a 0 42 11 srvAddr none kc2s ks2c udA xnA gOps).map
        (fun g => (g.outs.map shapeC, g.cli.current_time, g.cli.sequence)) =
      some ([("sent", 1078), ("received", 0), ("sent", 326), ("received", 0),
        ("received", 3), ("received", 2), ("received", 0), ("received", 0), ("received", 0), ("payload", 19), ("sent", 0),
        ("received", 4), ("received", 0), ("disconnected", 18), ("received", 0),
        ("received", 0), ("received", 0), ("payloadErr", 0), ("payloadErr", 0), ("sent", 0),
        ("disconnected", 18)], 250000000 + 1000 + 10 ^ 18, 3) ∧
    (GNcC.execU NS.Ex.a 0 42 11 srvAddr none kc2s ks2c udA xnA gOps).map (fun g => gsurf gOps g.outs) =
      some [(C04C.pl3, [9, 9]), (C04C.pl5, [5]), (C04C.pl4, [4, 4, 4])] := by
  decide +kernel

set_option maxRecDepth 100000 in
theorem tokU_gen : unsecureToken NS.Ex.a 0 42 11 srvAddr none kc2s ks2c udA xnA = .ok tokU := exU_all.1.1

example : tokU.expireTimestamp = 300 ∧ tokU.timeoutSeconds = 15 ∧ tokU ≠ tokenA := exU_all.1.2

/-- `gen_trace_total_unsecure` on the trace: by the theorem, the generated `new(.., Unsecure ..)` returns `Ok` and no generated
    call panics -/
example : ∃ g, GNcC.execU NS.Ex.a 0 42 11 srvAddr none kc2s ks2c udA xnA gOps = some g ∧
    g.cli.current_time = 250000000 + 1000 + 10 ^ 18 ∧ g.cli.connect_token = reprTok tokU ∧ g.outs.length = 21 ∧
    ∀ r ∈ g.outs, GDoc r := by
  obtain ⟨g, h1, h2, -, h4, h5, h6⟩ := gen_trace_total_unsecure Netcode.NS.Ex.laws_a tokU_gen gOps_inRange.2 gOps_headRoomU
  exact ⟨g, h1, h2.trans gOps_facts.2.1, h4, h5.trans gOps_facts.2.2.2, h6⟩

set_option maxRecDepth 100000 in
theorem ex_gen_run_unsecure : (GNcC.execU NS.Ex.a 0 42 11 srvAddr none kc2s ks2c udA xnA gOps).map
      (fun g => (g.outs.map shapeC, g.cli.current_time, g.cli.sequence)) =
    some ([("sent", 1078), ("received", 0), ("sent", 326), ("received", 0),
      ("received", 3), ("received", 2), ("received", 0), ("received", 0), ("received", 0), ("payload", 19), ("sent", 0),
      ("received", 4), ("received", 0), ("disconnected", 18), ("received", 0),
      ("received", 0), ("received", 0), ("payloadErr", 0), ("payloadErr", 0), ("sent", 0),
      ("disconnected", 18)], 250000000 + 1000 + 10 ^ 18, 3) := exU_all.2.1

set_option maxRecDepth 100000 in
theorem ex_gen_surf_unsecure : (GNcC.execU NS.Ex.a 0 42 11 srvAddr none kc2s ks2c udA xnA gOps).map
      (fun g => gsurf gOps g.outs) = some [(C04C.pl3, [9, 9]), (C04C.pl5, [5]), (C04C.pl4, [4, 4, 4])] := exU_all.2.2

/-- `payloads_at_most_once_unsecure` and `client_nonces_strict_from_new_unsecure` on that run -/
example : ∃ g, GNcC.execU NS.Ex.a 0 42 11 srvAddr none kc2s ks2c udA xnA gOps = some g ∧
    (gsurf gOps g.outs).length = 3 ∧ (SrcPropsNcClientTrace.gsurfSeqs (gsurf gOps g.outs)).Nodup ∧
    g.cli.replay_protection = reprRP (Recv.run NS.Ex.a 42 ks2c (gBufs gOps)).window := by
  have h := ex_gen_surf_unsecure
  cases hg : GNcC.execU NS.Ex.a 0 42 11 srvAddr none kc2s ks2c udA xnA gOps with
  | none => rw [hg] at h; cases h
  | some g =>
    rw [hg] at h
    simp only [Option.map_some, Option.some.injEq] at h
    obtain ⟨p1, -, -, p4, -⟩ := payloads_at_most_once_unsecure Netcode.NS.Ex.laws_a tokU_gen gOps_inRange.2 hg
    exact ⟨g, rfl, by rw [h]; rfl, p1, p4⟩
example : ∃ g0, GNcC.initU NS.Ex.a 0 42 11 srvAddr none kc2s ks2c udA xnA = some g0 ∧ g0.cli.sequence = 0 ∧
    (∀ e ∈ gclog NS.Ex.a g0 gOps, e.key = toNats kc2s) ∧
    (gclog NS.Ex.a g0 gOps).Pairwise (fun e e' => e.seq < e'.seq ∨ e' = e) := by
  have h := ex_gen_run_unsecure
  cases hg : GNcC.execU NS.Ex.a 0 42 11 srvAddr none kc2s ks2c udA xnA gOps with
  | none => rw [hg] at h; cases h
  | some g =>
    obtain ⟨g0, h0, n0, n1, n2, -⟩ := client_nonces_strict_from_new_unsecure Netcode.NS.Ex.laws_a tokU_gen gOps_inRange.2 hg
    exact ⟨g0, h0, n0, n1, n2⟩

end Examples

end RenetVerif.SrcPropsNcClientTotal
