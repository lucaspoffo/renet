/-
  Unreliable RECEIVE channel: generated `ReceiveChannelUnreliable::{new, process_message, process_slice,
  discard_incomplete_old_slices, receive_message}` agree with `RecvUnrel` of `Renet/Channels.lean`.
  The two `BTreeMap`s are key-sorted association lists on both sides (`RustSem.Map` / `SMap`).
  The ties themselves are in `Props/SrcTieRecvUnrel.lean`.
-/
import RenetVerif.Generated.Src.RecvUnrel
import RenetVerif.Lemmas.SrcEquiv.Prims
import RenetVerif.Lemmas.SrcEquiv.CommonRepr
import RenetVerif.Lemmas.SrcEquiv.Slice
import RenetVerif.Lemmas.SrcEquiv.ChanLemmas
import RenetVerif.Lemmas.SrcEquiv.Loops
import RenetVerif.Lemmas.SrcEquiv.SliceTable
import RenetVerif.Props.SrcTieSlice
namespace RenetVerif.SrcEquiv
open RenetVerif RenetVerif.RustSem

section RecvUnrel
open Src.renet.channel.unreliable
def reprRU (r : RecvUnrel) : ReceiveChannelUnreliable :=
  ⟨r.ch, r.messages.map toNats, reprSlices r.slices, r.lastReceived, r.maxMem, r.mem⟩

abbrev SRU := ReceiveChannelUnreliable

def ruOut : Res (ChanErr × RecvUnrel) RecvUnrel → Res (SChannelError × SRU) (SRU × Unit) :=
  mapRes (fun r' => (reprRU r', ())) (fun e => (reprCE e.1, reprRU e.2))

theorem process_slice_has (r : RecvUnrel) (sl : Slice) (now : Nat) (c : SliceCtor)
    (hf : SMap.find? r.slices sl.messageId = some c) (hs : MSorted r.slices) (hc : CtorOk c) (hmem : r.mem < 2 ^ 64) :
    SameOutcome (ReceiveChannelUnreliable.process_slice (reprRU r) (reprSlice sl) now) (ruOut (r.processSlice sl now)) := by
  have hcont : SMap.contains r.slices sl.messageId = true := by simp [SMap.contains, hf]
  have hgf : RustSem.Map.find? (reprSlices r.slices) sl.messageId = some (reprSC sl.messageId c) := by
    rw [find_reprSlices, hf]; rfl
  unfold ReceiveChannelUnreliable.process_slice RecvUnrel.processSlice
  simp only [reprRU, reprSlice, contains_reprSlices, hcont, Bool.not_true, Bool.false_eq_true, if_false, if_true, Exec.bind_eq,
    Exec.pure_eq, Exec.bind_val', RustSem.Map.index, hgf, hf]
  have hnum : (reprSC sl.messageId c).num_slices = c.numSlices := rfl
  rw [hnum]
  by_cases hne : c.numSlices ≠ sl.numSlices
  · simp only [hne, ne_eq, not_false_eq_true, decide_true, if_true, Exec.bind_err', Exec.run_err, ruOut, mapRes,
      SameOutcome, reprCE, reprRU]
  have heq : c.numSlices = sl.numSlices := by simpa using hne
  simp only [hne, decide_false, Bool.false_eq_true, if_false, Exec.bind_val']
  -- the call into the slice constructor (group Slice)
  have htie := SrcTie.slice_constructor_process_slice' sl.messageId c sl.sliceIndex sl.payload hc.size hc.recv
  cases hm : c.processSlice sl.sliceIndex sl.payload with
  | panic st =>
    obtain ⟨st', hsc⟩ := htie.map_panic hm
    simp only [hsc, Exec.callFrom_panic, Exec.bind_panic', Exec.run_panic, ruOut, mapRes, SameOutcome]
  | err e =>
    have hsc := htie.map_err hm
    simp only [hsc, Exec.callFrom, Exec.bind_err', Exec.run_err, ruOut, mapRes, SameOutcome, reprRU, insert_reprSlices,
      SMap.insert_same ((msorted_iff _).mp hs) hf]
  | ok y =>
    obtain ⟨c', o⟩ := y
    have hsc := htie.map_ok hm
    simp only [hsc, Exec.callFrom_ok, Exec.bind_val']
    cases o with
    | none =>
      simp only [Option.map_none, Exec.bind_val', Exec.run_val, ruOut, mapRes, SameOutcome, Res.pure_eq, reprRU,
        insert_reprSlices, map_insert_eq r.lastReceived]
    | some m =>
      have hpl := payload_len_le c _ _ c' m hc.data hm
      have hS : Src.renet.packet.SLICE_SIZE = C.SLICE_SIZE := rfl
      have hmul : sl.numSlices * C.SLICE_SIZE < 2 ^ 64 := by rw [← heq]; exact hc.size
      have hlen : RustSem.len (toNats m) = m.length := by simp [RustSem.len, toNats]
      simp only [Option.map_some, hS, mul_val hmul, Exec.bind_val', hlen, Res.csub, heq]
      by_cases hsub : sl.numSlices * C.SLICE_SIZE ≤ r.mem
      · have hadd : r.mem - sl.numSlices * C.SLICE_SIZE + m.length < 2 ^ 64 := by rw [← heq]; rw [← heq] at hsub; omega
        simp only [sub_val hsub, Exec.bind_val', add_val hadd, Exec.run_val, hsub, if_true, Res.bind_ok, Res.pure_eq, ruOut,
          mapRes, SameOutcome, reprRU, insert_reprSlices, remove_reprSlices, SMap.erase_insert ((msorted_iff _).mp hs), map_remove_eq r.lastReceived,
          RustSem.push, List.map_append, List.map_cons, List.map_nil]
      · simp only [sub_panic hsub, Exec.bind_panic', Exec.run_panic, hsub, if_false, Res.bind_panic, ruOut, mapRes,
          SameOutcome]

def reserved (r : RecvUnrel) (sl : Slice) : RecvUnrel :=
  { r with mem := r.mem + sl.numSlices * C.SLICE_SIZE,
           slices := SMap.insert r.slices sl.messageId (SliceCtor.new sl.numSlices) }

/-- ids whose last slice is older than the limit (first loop) -/
def lostIds (now : Nat) (l : SMap Nat) : List Nat :=
  (l.filter (fun (p : Nat × Nat) => now - p.2 ≥ C.DISCARD_FRAGMENT_AFTER_NS)).map (·.1)

theorem lost_loop {ε ρ : Type} (now : Nat) (body : Nat × Nat → List Nat → Exec ε ρ (List Nat))
    (hb : ∀ k t acc, t ≤ now → body (k, t) acc = .val (if now - t ≥ C.DISCARD_FRAGMENT_AFTER_NS then acc ++ [k] else acc)) :
    ∀ (l : SMap Nat) (acc : List Nat), (∀ p ∈ l, p.2 ≤ now) →
      RustSem.forEach l acc body = .val (acc ++ lostIds now l) := by
  intro l
  induction l with
  | nil => intro acc _; simp [RustSem.forEach, lostIds]
  | cons p r ih =>
    obtain ⟨k, t⟩ := p
    intro acc h
    have ht : t ≤ now := h (k, t) (by simp)
    rw [RustSem.forEach, hb k t acc ht, Exec.bind_val', ih _ (fun q hq => h q (by simp [hq]))]
    simp only [lostIds, List.filter_cons]
    by_cases hd : now - t ≥ C.DISCARD_FRAGMENT_AFTER_NS
    · simp [hd]
    · simp [hd]

/-- one round of the second loop -/
def discardStep (id : Nat) (r : RecvUnrel) : Res Empty RecvUnrel :=
  match SMap.find? r.slices id with
  | none => .panic "unreliable.rs discarded slice should exist"
  | some c => do
    let mem ← Res.csub r.mem (c.numSlices * C.SLICE_SIZE) "unreliable.rs memory_usage_bytes -= num_slices * SLICE_SIZE (discard)"
    pure { r with lastReceived := SMap.erase r.lastReceived id, slices := SMap.erase r.slices id, mem := mem }

theorem discardLoop_cons (id : Nat) (rest : List Nat) (r : RecvUnrel) :
    discardLoop (id :: rest) r = (discardStep id r >>= discardLoop rest) := by
  rw [discardLoop]
  unfold discardStep
  cases SMap.find? r.slices id with
  | none => rfl
  | some c =>
    simp only
    cases (Res.csub r.mem (c.numSlices * C.SLICE_SIZE)
      "unreliable.rs memory_usage_bytes -= num_slices * SLICE_SIZE (discard)" : Res Empty Nat) <;> rfl

/-- every constructor in the table has a size that fits `usize` -/
def SizesOk (r : RecvUnrel) : Prop := ∀ p ∈ r.slices, p.2.numSlices * C.SLICE_SIZE < 2 ^ 64

/-- the table only shrinks -/
theorem sizesOk_discardStep {id : Nat} {r r' : RecvUnrel} (hr : SizesOk r) (hm : discardStep id r = .ok r') : SizesOk r' := by
  unfold discardStep at hm
  cases hfd : SMap.find? r.slices id with
  | none => rw [hfd] at hm; cases hm
  | some c =>
    rw [hfd] at hm
    simp only [Res.csub] at hm
    split at hm
    · simp only [Res.bind_ok, Res.pure_eq] at hm
      injection hm with hm; subst hm
      intro p hp
      exact hr p (SMap.mem_erase hp)
    · cases hm

/-- outcome of `discard_incomplete_old_slices` predicted by the model (`Res Empty`: no `Err`) -/
def discardOut {ε : Type} : Res Empty RecvUnrel → Res ε (SRU × Unit) → Prop
  | .ok b, .ok a => a = (reprRU b, ())
  | .panic _, .panic _ => True
  | _, _ => False

theorem discard_finish {ε : Type} (g : Exec ε (SRU × Unit) SRU) (m : Res Empty RecvUnrel)
    (h : Follows (fun t b => t = reprRU b) g m) : discardOut m ((g.bind fun self => Exec.val (self, ())).run) :=
  h.elim (fun _ _ _ ht => ht ▸ rfl) fun _ _ => trivial

end RecvUnrel
end RenetVerif.SrcEquiv
