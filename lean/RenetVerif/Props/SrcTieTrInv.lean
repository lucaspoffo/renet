/-
  Source tie, transports: the abstract netcode hypotheses of `SrcTieTrServer.lean` / `SrcTieTrClient.lean` instantiated.

  * `NcInv a NS.ServerInv`: the connection-table invariant of the model `NetcodeServer` (`Lemmas/NcTable.lean`,
    `Lemmas/NcTablePP.lean`: established by `NetcodeServer::new`, kept by `update`, `process_packet` (every address, every
    datagram), `update_client`, `disconnect`, `generate_payload_packet`) implies every per-call hypothesis of the
    `NetcodeServer` ties (token-entry table not empty, `i32` time-outs, no pending connection in state `Disconnected`).
    So the server transport theorems hold from `NetcodeServerTransport::new` on with NO netcode-side hypothesis left:
    `tr_update_inv`, `tr_send_packets_inv`, `tr_disconnect_all_inv`.
  * `NcCInv a CliInv`: for the client, `CliInv` (the token's time-out is an `i32`; `server_addr_index ≤ 32`, and `< 32`
    while not disconnected) is established by `NetcodeClient::new` and kept by `process_packet`, `update`,
    `generate_payload_packet`, `disconnect`: `ctr_update_inv`, `ctr_send_packets_inv`.
  The renet side stays the abstract simulation (`RnSim` / `RcSim`; `rn_sim_of_inv` / `rc_sim_of_inv`).
-/
import RenetVerif.Lemmas.SrcEquiv.TrInv
import RenetVerif.Props.SrcTieTrServer
import RenetVerif.Props.SrcTieTrClient
namespace RenetVerif.SrcTie
open RenetVerif RenetVerif.SrcEquiv RenetVerif.RustSem RenetVerif.Netcode RenetVerif.Transport
open Src.renet_netcode.server Src.renet_netcode.client

theorem nc_inv_server_inv (a : AEAD) : NcInv a NS.ServerInv :=
  { ent := fun h => h.entriesPos
    to := fun h => h.timeouts
    pend := fun h => h.pendLive
    update := fun dt h hu => NS.update_inv h hu
    pp := fun addr buf h hp => NS.ppOut_inv h (NS.pp_ok h hp)
    uc := fun id h hu => NS.updateClient_inv h hu
    disc := fun id h hd => NS.disconnect_inv h hd
    gen := fun id p h hg => NS.generatePayload_inv h hg }
theorem server_inv_new {t m pid : Nat} {pa : List Addr} {sec : Bool} {k ck : Bytes} {s : Netcode.NetcodeServer}
    (h : Netcode.NetcodeServer.new t m pid pa sec k ck = .ok s) : NS.ServerInv s := (NS.new_inv h).1

theorem tr_update_inv (a : AEAD) (hl : a.Laws) {R : Server → SRenetServer → Prop} (hsim : RnSim R) (g : ServerGlue)
    (gr : SRenetServer) (hi : NS.ServerInv g.netcode) (hr : R g.renet gr) (duration : Nat) (inbox : List Dgram)
    (hin : inbox.length + 1 < 2 ^ 64) (out : Array Dgram) (o buf : List Nat) (ho : o.length = C.NETCODE_MAX_PACKET_BYTES)
    (hb : buf.length = C.TRANSPORT_SERVER_BUFFER) :
    TrOut R NS.ServerInv [] C.TRANSPORT_SERVER_BUFFER
      (serverUpdateFrom a g duration (inbox.map (recvFrom C.TRANSPORT_SERVER_BUFFER)) out)
      (@NetcodeServerTransport.update (aeadOf a) (trR inbox out o g.netcode buf) duration gr) :=
  tr_update a hl hsim (nc_inv_server_inv a) g gr hi hr duration inbox hin out o buf ho hb
theorem tr_send_packets_inv {ε : Type} (a : AEAD) (hl : a.Laws) {R : Server → SRenetServer → Prop} (hsim : RnSim R)
    (g : ServerGlue) (gr : SRenetServer) (hi : NS.ServerInv g.netcode) (hr : R g.renet gr) (inbox : List Dgram)
    (out : Array Dgram) (o buf : List Nat) (ho : o.length = C.NETCODE_MAX_PACKET_BYTES) :
    TrOut (ε := ε) R NS.ServerInv inbox buf.length (serverSendLoop a g g.renet.clientsId out)
      (@NetcodeServerTransport.send_packets (aeadOf a) ε (trR inbox out o g.netcode buf) gr) :=
  tr_send_packets a hl hsim (nc_inv_server_inv a) g gr hi hr inbox out o buf ho
theorem tr_disconnect_all_inv {ε : Type} (a : AEAD) (hl : a.Laws) {R : Server → SRenetServer → Prop} (hsim : RnSim R)
    (g : ServerGlue) (gr : SRenetServer) (hi : NS.ServerInv g.netcode) (hr : R g.renet gr) (inbox : List Dgram)
    (out : Array Dgram) (o buf : List Nat) (ho : o.length = C.NETCODE_MAX_PACKET_BYTES) :
    TrOut (ε := ε) R NS.ServerInv inbox buf.length (serverIdLoop (fun ns id => ns.disconnect a id) g g.netcode.clientsId out)
      (@NetcodeServerTransport.disconnect_all (aeadOf a) ε (trR inbox out o g.netcode buf) gr) :=
  tr_disconnect_all a hl hsim (nc_inv_server_inv a) g gr hi hr inbox out o buf ho

theorem nc_cinv_cli_inv (a : AEAD) : NcCInv a CliInv :=
  { to := fun h => h.tmo
    idx := fun h => by
      have := h.idx
      have h32 : C.NETCODE_TOKEN_MAX_ADDRESSES = 32 := rfl
      omega
    pp := fun buf h hp => h.frame (cli_pp_frame hp)
    update := fun dt h hu => cli_update_inv h hu
    gen := fun p h hg => h.frame (cli_gpp_frame hg)
    disc := fun h => h.of_dead rfl h.idx rfl }
theorem cli_inv_new {ct : Nat} {tok : Netcode.ConnectToken} {c : Netcode.NetcodeClient} (ht : tok.timeoutSeconds < 2 ^ 31)
    (h : Netcode.NetcodeClient.new ct tok = .ok c) : CliInv c := by
  obtain ⟨_, _, rfl⟩ := NcAead.Cl.new_ok.mp h
  exact ⟨ht, Nat.zero_le _, fun _ => (by decide : 0 < C.NETCODE_TOKEN_MAX_ADDRESSES)⟩

theorem ctr_update_inv (a : AEAD) (hl : a.Laws) {R : Conn → SRenetClient → Prop} (hsim : RcSim R) (g : ClientGlue)
    (gr : SRenetClient) (hi : CliInv g.netcode) (hr : R g.renet gr) (duration : Nat) (inbox : List Dgram)
    (hin : inbox.length + 1 < 2 ^ 64) (out : Array Dgram) (o buf : List Nat) (ho : o.length = C.NETCODE_MAX_PACKET_BYTES)
    (hb : buf.length = C.TRANSPORT_CLIENT_BUFFER) :
    match clientUpdateFrom a g duration (inbox.map (recvFrom C.TRANSPORT_CLIENT_BUFFER)) out with
    | .ok r => ∃ rest, rest.map (recvFrom C.TRANSPORT_CLIENT_BUFFER) = r.rest ∧
        CliTrOut R CliInv C.TRANSPORT_CLIENT_BUFFER r.result r.g r.out rest
          (@NetcodeClientTransport.update (aeadOf a) (ctrR inbox out o g.netcode buf) duration gr)
    | .err e => nomatch e
    | .panic _ => ∃ msg, @NetcodeClientTransport.update (aeadOf a) (ctrR inbox out o g.netcode buf) duration gr = .panic msg :=
  ctr_update a hl hsim (nc_cinv_cli_inv a) g gr hi hr duration inbox hin out o buf ho hb
theorem ctr_send_packets_inv (a : AEAD) (hl : a.Laws) {R : Conn → SRenetClient → Prop} (hsim : RcSim R) (g : ClientGlue)
    (gr : SRenetClient) (hi : CliInv g.netcode) (hr : R g.renet gr) (inbox : List Dgram) (out : Array Dgram)
    (o buf : List Nat) (ho : o.length = C.NETCODE_MAX_PACKET_BYTES) :
    match clientSendPacketsFrom a g out with
    | .ok (res, g', out') => CliTrOut R CliInv buf.length res g' out' inbox
        (@NetcodeClientTransport.send_packets (aeadOf a) (ctrR inbox out o g.netcode buf) gr)
    | .err e => nomatch e
    | .panic _ => ∃ msg, @NetcodeClientTransport.send_packets (aeadOf a) (ctrR inbox out o g.netcode buf) gr = .panic msg :=
  ctr_send_packets a hl hsim (nc_cinv_cli_inv a) g gr hi hr inbox out o buf ho

end RenetVerif.SrcTie
