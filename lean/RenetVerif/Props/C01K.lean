/-
  C01 — LIVENESS, the closed k-ROUND bound (budget smaller than the backlog), at SYSTEM level.

  Props/C01L.lean proves what ONE lossless round does — everything when the per-tick budget covers the whole backlog
  (`round_delivers`, `bounded_delivery`), the covered prefix otherwise (`progress_per_tick_partial`) — and that B's
  acknowledgements release what was delivered (`acks_release_after_round`).  Here these are ITERATED into one
  theorem about k rounds.  Definitions and proofs: Lemmas/LivenessK.lean.

  A FULL LOSSLESS ROUND for the reliable channel `ch` from A to B, with parameters `r : RoundP`, is the operation list

      r.ops ch  =  updA r.dt ; flushA ; deliverToB k (k ∈ r.ks) ; recvB ch (r.n times) ; flushB ; deliverToA r.ai

  A's clock advances; A flushes; the network hands B the datagrams of that flush; B's application drains the
  channel; B flushes; the network hands A the last datagram of that flush (B's ack packet).
  `roundsOps ch rs` concatenates the rounds `rs`.

  STANDING HYPOTHESES, on the state `s` the first round starts from (any state reachable by `Sys.run`):
    neither endpoint is disconnected; H3 `Room (s.submitted ch) rB` (B's receive channel has room for every submitted
    message that has not arrived yet — see C01L; it is PRESERVED by the rounds, so it is assumed only once).
  PER-ROUND SIDE CONDITIONS `Rounds cfg ch Sched s rs`: for every round `r`, in the state `s'` the previous rounds lead
  to (`RoundOK`) and the state `su` after its `updA` (`TickOK`):
    timer     `r.dt ≥ resend_time` of the channel (so everything stored is due: H1 by `due_after_update`),
    drain     `r.n` calls suffice: `|submitted| ≤ |obtained| + r.n`,
    counters  `CountersOK cfg su`, `su.a.CountersOK` (nothing reaches 2^62 in this flush),
    all/exact `r.ks` lists exactly the datagrams of this flush (any order, repetitions allowed): lossless,
    cap       B holds fewer than ACK_RANGE_CAP = 64 pending ack ranges (beyond it the Rust code forgets to acknowledge),
    back      after the drain B's counters are in range, B has something to acknowledge, and `r.ai` is the index of
              the last datagram of B's flush,
    sched     the scheduling hypothesis `Sched su` of the theorem at hand:
                `SchedBytes ch B su`  H4 (the flush carries only channel `ch` and acks) and H2 in the form
                                      `B ≤ availAtTurn su.a ch` (at least `B` bytes are left at the channel's turn);
                `SchedCount ch q su`  H4 and H2 for the `q` oldest entries: `backlog (unacked.take q) ≤ availAtTurn`;
                nothing               for a configuration whose only A → B channel is `ch` (`Single cfg ch`): there
                                      `availAtTurn = available_bytes_per_tick` and H4 is automatic.
  The side conditions of later rounds are stated as implications (`∀ v, s.run (r.ops ch) = some v → …`): that the run
  does not panic is a CONCLUSION.  They are decidable (Lemmas/LivenessK.lean Part 6): on concrete states the kernel
  evaluates them.

  WHAT "THE BUDGET COVERS A MESSAGE" MEANS.  `backlog` (C01L) counts a small message with its length and a sliced
  message with `SLICE_SIZE` per slice not yet acknowledged — the code accepts a slice only while
  `available_bytes ≥ SLICE_SIZE`, whatever its real length.  The UNITS of transmission (`Live.pendTx`) are the small
  messages and the single slices, in id order, the slices of one message in the order of its slice loop (from the
  round-robin cursor); every unit costs at most `SLICE_SIZE`.  A flush that is offered `B` bytes emits the longest
  prefix of units whose cost fits (`LiveK.greedy_head`) — all of them, or so many that less than one unit of budget is
  unused.  A sliced message larger than the budget is thus sent over several rounds; what was acknowledged is not sent
  again.

  RESULTS (ReliableOrdered channel unless said otherwise).
    k_round_delivery         every round offers the channel at least `B ≥ SLICE_SIZE` bytes: after `k ≥ 1` rounds with
                             `k * (B - SLICE_SIZE + 1) ≥ backlog`, `obtained = submitted`, in order, nothing panicked,
                             nobody disconnected.  ANY messages, small or sliced.
    k_round_delivery_single  the same for a single-channel configuration: `B = available_bytes_per_tick ≥ SLICE_SIZE`,
                             no H2/H4 hypothesis at all.
    k_round_delivery_cost    sharper when all stored entries are cheap: every entry costs at most `c`, every round
                             offers at least `B ≥ c` bytes (`B < SLICE_SIZE` allowed): `k * (B - c + 1) ≥ backlog`.
    k_round_delivery_entries counting entries instead of bytes: every round covers the `q ≥ 1` oldest entries (q = 1:
                             "the budget covers the oldest stored message"): `k * q ≥` number of stored entries.
    k_round_delivery_unordered
                             ReliableUnordered channel, same hypotheses and bound as `k_round_delivery`: `obtained`
                             is a permutation of `submitted` (C02's liveness clause).  (All of LivenessK is generic in
                             the channel kind — `KindOf`, `Delivered` —; only this instance is restated here.)
    full_round               one full round covering the `q` oldest entries: both endpoints stay live, H3 is kept,
                             `obtained` stays a prefix of `submitted`, only uncovered entries remain in A's `unacked`,
                             none more expensive; if all entries were covered, `obtained = submitted`.

  NOT PROVED (what the names do not promise).
    * Tightness.  A round is credited with `B - SLICE_SIZE + 1` bytes (resp. `B - c + 1`), the worst case of the greedy
      prefix, not with what it really carried; `ExS` and `ExB` below finish one round before the bound.
    * The `back` side condition `pendingAcks ≠ []` and the counter conditions are assumed per round here; Props/C01KC.lean
      (`k_round_delivery_closed2`) derives them from a description of the schedule and a bound on the initial counters.
-/
import RenetVerif.Props.C01KRuns
namespace RenetVerif.C01K
open RenetVerif C RenetVerif.System RenetVerif.Live RenetVerif.LiveK

/-- **C01 liveness, k rounds (bytes, any messages).**  From any reachable state with both endpoints live and room at B
    (H3): if every one of the full lossless rounds `rs` offers channel `ch` at least `B ≥ SLICE_SIZE` bytes at its turn
    and carries nothing else (`SchedBytes`), then after `k = rs.length ≥ 1` rounds with
    `k * (B - SLICE_SIZE + 1) ≥ backlog` nothing has panicked, both endpoints are live, and B's application has
    obtained exactly the submitted messages, in order. -/
theorem k_round_delivery (cfg : Cfg) (ops : List SysOp) (s : Sys) (hr : (Sys.init cfg).run ops = some s)
    (hda : s.a.isDisconnected = false) (hdb : s.b.isDisconnected = false)
    (ch : Nat) (ho : cfg.Ordered ch) (sA : SendRel) (hfA : SMap.find? s.a.sendRel ch = some sA)
    (rB : RecvRel) (hfB : SMap.find? s.b.recvRel ch = some rB) (H3 : Room (s.submitted ch) rB)
    (B : Nat) (hSB : SLICE_SIZE ≤ B)
    (rs : List RoundP) (hR : Rounds cfg ch (SchedBytes ch B) s rs)
    (hk1 : rs ≠ []) (hk : backlog sA.unacked ≤ rs.length * (B - SLICE_SIZE + 1)) :
    ∃ u, s.run (roundsOps ch rs) = some u ∧ u.a.isDisconnected = false ∧ u.b.isDisconnected = false ∧
      u.submitted ch = s.submitted ch ∧ u.obtained ch = s.submitted ch :=
  rounds_bytes_any_inv (Standing.of_reach hr hda hdb hfA hfB H3) true ho B hSB (SchedBytes ch B) (fun _ _ h => h) rs hR hk1 hk

/-- **C01 liveness, k rounds, single-channel configuration**: the only A → B channel is the ReliableOrdered channel
    `ch`; the budget is `available_bytes_per_tick ≥ SLICE_SIZE`; no scheduling hypothesis is left (`Sched = True`). -/
theorem k_round_delivery_single (cfg : Cfg) (ops : List SysOp) (s : Sys) (hr : (Sys.init cfg).run ops = some s)
    (hda : s.a.isDisconnected = false) (hdb : s.b.isDisconnected = false)
    (ch : Nat) (hsingle : Single cfg ch) (sA : SendRel) (hfA : SMap.find? s.a.sendRel ch = some sA)
    (rB : RecvRel) (hfB : SMap.find? s.b.recvRel ch = some rB) (H3 : Room (s.submitted ch) rB)
    (hSB : SLICE_SIZE ≤ cfg.budget)
    (rs : List RoundP) (hR : Rounds cfg ch (fun _ => True) s rs)
    (hk1 : rs ≠ []) (hk : backlog sA.unacked ≤ rs.length * (cfg.budget - SLICE_SIZE + 1)) :
    ∃ u, s.run (roundsOps ch rs) = some u ∧ u.a.isDisconnected = false ∧ u.b.isDisconnected = false ∧
      u.submitted ch = s.submitted ch ∧ u.obtained ch = s.submitted ch :=
  rounds_bytes_any_single_inv (Standing.of_reach hr hda hdb hfA hfB H3) hsingle hSB rs hR hk1 hk

/-- **C02 liveness, k rounds (ReliableUnordered channel).**  The same bound: every round offers channel `ch` at least
    `B ≥ SLICE_SIZE` bytes; after `k ≥ 1` rounds with `k * (B - SLICE_SIZE + 1) ≥ backlog` B's application has
    obtained every submitted message exactly once (a permutation of the submission log). -/
theorem k_round_delivery_unordered (cfg : Cfg) (ops : List SysOp) (s : Sys) (hr : (Sys.init cfg).run ops = some s)
    (hda : s.a.isDisconnected = false) (hdb : s.b.isDisconnected = false)
    (ch : Nat) (ho : cfg.Unordered ch) (sA : SendRel) (hfA : SMap.find? s.a.sendRel ch = some sA)
    (rB : RecvRel) (hfB : SMap.find? s.b.recvRel ch = some rB) (H3 : Room (s.submitted ch) rB)
    (B : Nat) (hSB : SLICE_SIZE ≤ B)
    (rs : List RoundP) (hR : Rounds cfg ch (SchedBytes ch B) s rs)
    (hk1 : rs ≠ []) (hk : backlog sA.unacked ≤ rs.length * (B - SLICE_SIZE + 1)) :
    ∃ u, s.run (roundsOps ch rs) = some u ∧ u.a.isDisconnected = false ∧ u.b.isDisconnected = false ∧
      u.submitted ch = s.submitted ch ∧ (u.obtained ch).Perm (s.submitted ch) :=
  rounds_bytes_any_inv (Standing.of_reach hr hda hdb hfA hfB H3) false ho B hSB (SchedBytes ch B) (fun _ _ h => h) rs hR hk1 hk

/-- **k rounds, cheap entries.**  Every stored entry costs at most `c` bytes and every round offers channel `ch` at
    least `B ≥ c` bytes: `k = rs.length ≥ 1` rounds with `k * (B - c + 1) ≥ backlog` deliver everything. -/
theorem k_round_delivery_cost (cfg : Cfg) (ops : List SysOp) (s : Sys) (hr : (Sys.init cfg).run ops = some s)
    (hda : s.a.isDisconnected = false) (hdb : s.b.isDisconnected = false)
    (ch : Nat) (ho : cfg.Ordered ch) (sA : SendRel) (hfA : SMap.find? s.a.sendRel ch = some sA)
    (rB : RecvRel) (hfB : SMap.find? s.b.recvRel ch = some rB) (H3 : Room (s.submitted ch) rB)
    (B c : Nat) (hcB : c ≤ B) (hcost : ∀ x ∈ sA.unacked, entryCost x.2 ≤ c)
    (rs : List RoundP) (hR : Rounds cfg ch (SchedBytes ch B) s rs)
    (hk1 : rs ≠ []) (hk : backlog sA.unacked ≤ rs.length * (B - c + 1)) :
    ∃ u, s.run (roundsOps ch rs) = some u ∧ u.a.isDisconnected = false ∧ u.b.isDisconnected = false ∧
      u.submitted ch = s.submitted ch ∧ u.obtained ch = s.submitted ch :=
  MultiLiveK.rounds_bytes_inv cfg s (MultiLiveK.goodK_reach hr) hda hdb ch true ho sA hfA rB hfB H3 B c hcB hcost (SchedBytes ch B) (fun _ _ h => h) rs hR hk1 hk

/-- **k rounds, entry count.**  Every round offers channel `ch` a budget that covers the `q` oldest entries of A's
    `unacked` (`SchedCount`; `q = 1`: the oldest stored message): `k = rs.length ≥ 1` rounds with `k * q ≥` number of
    stored entries deliver everything. -/
theorem k_round_delivery_entries (cfg : Cfg) (ops : List SysOp) (s : Sys) (hr : (Sys.init cfg).run ops = some s)
    (hda : s.a.isDisconnected = false) (hdb : s.b.isDisconnected = false)
    (ch : Nat) (ho : cfg.Ordered ch) (sA : SendRel) (hfA : SMap.find? s.a.sendRel ch = some sA)
    (rB : RecvRel) (hfB : SMap.find? s.b.recvRel ch = some rB) (H3 : Room (s.submitted ch) rB)
    (q : Nat) (rs : List RoundP) (hR : Rounds cfg ch (SchedCount ch q) s rs)
    (hk1 : rs ≠ []) (hk : sA.unacked.length ≤ rs.length * q) :
    ∃ u, s.run (roundsOps ch rs) = some u ∧ u.a.isDisconnected = false ∧ u.b.isDisconnected = false ∧
      u.submitted ch = s.submitted ch ∧ u.obtained ch = s.submitted ch :=
  rounds_count_inv (Standing.of_reach hr hda hdb hfA hfB H3) true ho q rs hR hk1 hk

/-- **One full lossless round** covering the `q` oldest entries of A's `unacked` on channel `ch`. -/
theorem full_round (cfg : Cfg) (ops : List SysOp) (s : Sys) (hr : (Sys.init cfg).run ops = some s)
    (hda : s.a.isDisconnected = false) (hdb : s.b.isDisconnected = false)
    (ch : Nat) (ho : cfg.Ordered ch) (sA : SendRel) (hfA : SMap.find? s.a.sendRel ch = some sA)
    (rB : RecvRel) (hfB : SMap.find? s.b.recvRel ch = some rB) (H3 : Room (s.submitted ch) rB)
    (dt : Nat) (hdt : sA.resend ≤ dt) (su : Sys) (hsu : s.step (.updA dt) = some su)
    (hc : CountersOK cfg su) (hcA : su.a.CountersOK)
    (q : Nat) (H2 : backlog (sA.unacked.take q) ≤ availAtTurn su.a ch)
    (H4 : ∀ p ∈ flushPk su.a, OnlyCh ch p)
    (ks : List Nat) (hks1 : ∀ k ∈ newIdx su, k ∈ ks) (hks2 : ∀ k ∈ ks, k ∈ newIdx su)
    (n : Nat) (hn : (s.submitted ch).length ≤ (s.obtained ch).length + n)
    (hcap : su.b.pendingAcks.length + ks.length < ACK_RANGE_CAP)
    (ai : Nat)
    (hB : ∀ u, su.run (roundOps ch ks n) = some u → u.b.CountersOK ∧ u.b.pendingAcks ≠ [] ∧ ai = ackIdx u) :
    ∃ v, s.run (fullRoundOps ch dt ks n ai) = some v ∧
      v.a.isDisconnected = false ∧ v.b.isDisconnected = false ∧ v.submitted = s.submitted ∧
      s.obtained ch <+: v.obtained ch ∧ v.obtained ch <+: s.submitted ch ∧
      (∃ rB', SMap.find? v.b.recvRel ch = some rB' ∧ Room (s.submitted ch) rB') ∧
      (∃ sA', SMap.find? v.a.sendRel ch = some sA' ∧
        ∀ x ∈ sA'.unacked, ∃ u0, (x.1, u0) ∈ sA.unacked.drop q ∧ entryCost x.2 ≤ entryCost u0) ∧
      (sA.unacked.drop q = [] → v.obtained ch = s.submitted ch) := by
  obtain ⟨v, sA', rB', h1, h4, hst', h5, h6, ⟨-, hemb, -⟩, h9⟩ :=
    full_round_inv (Standing.of_reach hr hda hdb hfA hfB H3) true ho dt hdt su hsu hc hcA q H2 H4 ks hks1 hks2 n hn hcap ai hB
  refine ⟨v, h1, hst'.liveA, hst'.liveB, h4, h5, h6 rfl, ⟨rB', hst'.findB, by rw [← h4]; exact hst'.room⟩,
    ⟨sA', hst'.findA, ?_⟩, h9⟩
  intro x hx
  obtain ⟨u0, h0, hs0⟩ := hemb x hx
  exact ⟨u0, h0, entryCost_le_of_shrunk hs0⟩

/-! ## non-vacuity: concrete runs evaluated by the kernel

  `ExS` (defined and run in Props/C01KRuns.lean) — single-channel configuration, 3000 bytes per tick; a 3-byte message and
  a 3700-byte message (4 slices, cost 4800): backlog 4803 > 3000.  `k_round_delivery_single`:
  `k * (3000 - 1200 + 1) ≥ 4803` holds for `k = 3`. -/
namespace ExS

theorem run_s : (Sys.init cfg).run ops = some s := some_getD all.1.1.1 _
theorem find_sA : SMap.find? s.a.sendRel 0 = some sA := some_getD all.1.1.2.1 _
theorem find_rB : SMap.find? s.b.recvRel 0 = some rB := some_getD all.1.1.2.2 _

theorem single0 : Single cfg 0 := ⟨_, _, rfl⟩

theorem start : s.a.isDisconnected = false ∧ s.b.isDisconnected = false ∧ Room (s.submitted 0) rB ∧
    backlog sA.unacked = 4803 ∧ sA.unacked.map (fun x => (x.1, entryCost x.2)) = [(0, 3), (1, 4800)] ∧
    availAtTurn s.a 0 = 3000 ∧ s.submitted 0 = [m0, m1] ∧ s.obtained 0 = [] := all.1.2.1

theorem rounds : Rounds cfg 0 (fun _ => True) s [r1, r2, r3] := all.1.2.2.1

theorem delivered : ∃ u, s.run (roundsOps 0 [r1, r2, r3]) = some u ∧ u.a.isDisconnected = false ∧
    u.b.isDisconnected = false ∧ u.submitted 0 = s.submitted 0 ∧ u.obtained 0 = s.submitted 0 :=
  k_round_delivery_single cfg ops s run_s start.1 start.2.1 0 single0 sA find_sA rB find_rB start.2.2.1 (by decide)
    [r1, r2, r3] rounds (by simp) (by rw [start.2.2.2.1]; decide)

example : (s.run (roundsOps 0 [r1])).map (fun u => (u.obtained 0,
      (SMap.find? u.a.sendRel 0).map (fun x => x.unacked.map (fun e => (e.1, entryCost e.2))))) =
      some ([m0], some [(1, 2400)]) ∧
    (s.run (roundsOps 0 [r1, r2])).map (fun u => (u.obtained 0, (SMap.find? u.a.sendRel 0).map (·.unacked.length))) =
      some ([m0, m1], some 0) := all.1.2.2.2

end ExS

/-! `ExK` — the configuration of `C01L.ExP`: 1300 bytes per tick; A submits a 3-byte message (entry 0, cost 3) and a
    1300-byte message (entry 1: two slices, cost 2400).  The backlog (2403 bytes) exceeds the budget; two entries are
    stored, every round covers the oldest one (`q = 1`), so `k_round_delivery_entries` gives `k = 2` rounds.
    (In round 2 entry 1 costs only 1200 bytes: round 1 carried its slice 0 in the 1297 bytes left over, and B
    acknowledged it.  The byte bound `k_round_delivery` would ask for `k * 101 ≥ 2403` here.) -/
namespace ExK

def cfg : Cfg := ⟨1300, [⟨0, .ordered, 100000, 100⟩], [⟨0, .ordered, 100000, 100⟩]⟩
def m0 : Bytes := [1, 2, 3]
def m1 : Bytes := List.replicate 1200 7 ++ List.replicate 100 9
def ops : List SysOp := [.sendA 0 m0, .sendA 0 m1]
def r1 : RoundP := ⟨1000, [0, 1], 2, 0⟩
def r2 : RoundP := ⟨1000, [2, 3], 2, 1⟩

def s : Sys := ((Sys.init cfg).run ops).getD (Sys.init cfg)
def sA : SendRel := (SMap.find? s.a.sendRel 0).getD (SendRel.new 0 0 0)
def rB : RecvRel := (SMap.find? s.b.recvRel 0).getD (RecvRel.new 0 true)

/-- the whole scenario: `ops` runs and channel 0 exists at both ends; the standing hypotheses
    and the numbers; the side conditions of both rounds; after round 1 `[m0]` is obtained and
    entry 1 costs 1200 bytes, after round 2 both messages are obtained and A stores nothing -/
theorem all :
    (((Sys.init cfg).run ops).isSome = true ∧ (SMap.find? s.a.sendRel 0).isSome = true ∧
      (SMap.find? s.b.recvRel 0).isSome = true) ∧
    (s.a.isDisconnected = false ∧ s.b.isDisconnected = false ∧ Room (s.submitted 0) rB ∧
      sA.unacked.length = 2 ∧ backlog sA.unacked = 2403 ∧ availAtTurn s.a 0 = 1300 ∧
      s.submitted 0 = [m0, m1] ∧ s.obtained 0 = []) ∧
    Rounds cfg 0 (SchedCount 0 1) s [r1, r2] ∧
    ((s.run (roundsOps 0 [r1])).map (fun u => (u.obtained 0,
        (SMap.find? u.a.sendRel 0).map (fun x => x.unacked.map (fun e => (e.1, entryCost e.2))))) =
        some ([m0], some [(1, 1200)]) ∧
      (s.run (roundsOps 0 [r1, r2])).map (fun u => (u.obtained 0, (SMap.find? u.a.sendRel 0).map (·.unacked.length))) =
        some ([m0, m1], some 0)) := by
  decide +kernel

theorem run_s : (Sys.init cfg).run ops = some s := some_getD all.1.1 _
theorem find_sA : SMap.find? s.a.sendRel 0 = some sA := some_getD all.1.2.1 _
theorem find_rB : SMap.find? s.b.recvRel 0 = some rB := some_getD all.1.2.2 _

theorem ordered0 : cfg.Ordered 0 := ⟨⟨_, List.mem_singleton.mpr rfl, rfl, rfl⟩, by decide⟩

theorem start : s.a.isDisconnected = false ∧ s.b.isDisconnected = false ∧ Room (s.submitted 0) rB ∧
    sA.unacked.length = 2 ∧ backlog sA.unacked = 2403 ∧ availAtTurn s.a 0 = 1300 ∧
    s.submitted 0 = [m0, m1] ∧ s.obtained 0 = [] := all.2.1

theorem rounds : Rounds cfg 0 (SchedCount 0 1) s [r1, r2] := all.2.2.1

theorem delivered : ∃ u, s.run (roundsOps 0 [r1, r2]) = some u ∧ u.a.isDisconnected = false ∧
    u.b.isDisconnected = false ∧ u.submitted 0 = s.submitted 0 ∧ u.obtained 0 = s.submitted 0 :=
  k_round_delivery_entries cfg ops s run_s start.1 start.2.1 0 ordered0 sA find_sA rB find_rB start.2.2.1 1 [r1, r2]
    rounds (by simp) (by rw [start.2.2.2.1]; decide)

example : (s.run (roundsOps 0 [r1])).map (fun u => (u.obtained 0,
      (SMap.find? u.a.sendRel 0).map (fun x => x.unacked.map (fun e => (e.1, entryCost e.2))))) =
      some ([m0], some [(1, 1200)]) ∧
    (s.run (roundsOps 0 [r1, r2])).map (fun u => (u.obtained 0, (SMap.find? u.a.sendRel 0).map (·.unacked.length))) =
      some ([m0, m1], some 0) := all.2.2.2

end ExK

/-! `ExB` — 1000 bytes per tick (less than one slice); A submits five 400-byte messages: backlog 2000 bytes, every entry
    costs `c = 400`.  `k_round_delivery_cost` with `B = 1000`: `k * (1000 - 400 + 1) ≥ 2000` holds for `k = 4`.
    (The run needs three rounds — two messages fit per tick, packed into one datagram —; the fourth finds nothing left
    to send but A's ack packet.)  The first three rounds satisfy `k_round_delivery_entries` with `q = 2`: `3 * 2 ≥ 5`. -/
namespace ExB

def cfg : Cfg := ⟨1000, [⟨0, .ordered, 100000, 100⟩], [⟨0, .ordered, 100000, 100⟩]⟩
def msg (b : UInt8) : Bytes := List.replicate 400 b
def ops : List SysOp := [.sendA 0 (msg 1), .sendA 0 (msg 2), .sendA 0 (msg 3), .sendA 0 (msg 4), .sendA 0 (msg 5)]
def r1 : RoundP := ⟨1000, [0], 5, 0⟩
def r2 : RoundP := ⟨1000, [1, 2], 5, 1⟩
def r3 : RoundP := ⟨1000, [3, 4], 5, 2⟩
def r4 : RoundP := ⟨1000, [5], 5, 3⟩

def s : Sys := ((Sys.init cfg).run ops).getD (Sys.init cfg)
def sA : SendRel := (SMap.find? s.a.sendRel 0).getD (SendRel.new 0 0 0)
def rB : RecvRel := (SMap.find? s.b.recvRel 0).getD (RecvRel.new 0 true)

/-- the whole scenario: `ops` runs and channel 0 exists at both ends; the standing hypotheses
    and the numbers; the side conditions of the four rounds with `SchedBytes 0 1000` and of the first
    three with `SchedCount 0 2`; 2, 4, 5 messages are obtained after 1, 2, 3 rounds -/
theorem all :
    (((Sys.init cfg).run ops).isSome = true ∧ (SMap.find? s.a.sendRel 0).isSome = true ∧
      (SMap.find? s.b.recvRel 0).isSome = true) ∧
    (s.a.isDisconnected = false ∧ s.b.isDisconnected = false ∧ Room (s.submitted 0) rB ∧
      sA.unacked.length = 5 ∧ backlog sA.unacked = 2000 ∧ (∀ x ∈ sA.unacked, entryCost x.2 ≤ 400) ∧
      s.obtained 0 = []) ∧
    (Rounds cfg 0 (SchedBytes 0 1000) s [r1, r2, r3, r4] ∧ Rounds cfg 0 (SchedCount 0 2) s [r1, r2, r3]) ∧
    ((s.run (roundsOps 0 [r1])).map (fun u => (u.obtained 0).length) = some 2 ∧
      (s.run (roundsOps 0 [r1, r2])).map (fun u => (u.obtained 0).length) = some 4 ∧
      (s.run (roundsOps 0 [r1, r2, r3])).map (fun u => u.obtained 0 == u.submitted 0) = some true) := by
  decide +kernel

theorem run_s : (Sys.init cfg).run ops = some s := some_getD all.1.1 _
theorem find_sA : SMap.find? s.a.sendRel 0 = some sA := some_getD all.1.2.1 _
theorem find_rB : SMap.find? s.b.recvRel 0 = some rB := some_getD all.1.2.2 _

theorem ordered0 : cfg.Ordered 0 := ⟨⟨_, List.mem_singleton.mpr rfl, rfl, rfl⟩, by decide⟩

theorem start : s.a.isDisconnected = false ∧ s.b.isDisconnected = false ∧ Room (s.submitted 0) rB ∧
    sA.unacked.length = 5 ∧ backlog sA.unacked = 2000 ∧ (∀ x ∈ sA.unacked, entryCost x.2 ≤ 400) ∧
    s.obtained 0 = [] := all.2.1

theorem rounds4 : Rounds cfg 0 (SchedBytes 0 1000) s [r1, r2, r3, r4] := all.2.2.1.1

theorem delivered : ∃ u, s.run (roundsOps 0 [r1, r2, r3, r4]) = some u ∧ u.a.isDisconnected = false ∧
    u.b.isDisconnected = false ∧ u.submitted 0 = s.submitted 0 ∧ u.obtained 0 = s.submitted 0 :=
  k_round_delivery_cost cfg ops s run_s start.1 start.2.1 0 ordered0 sA find_sA rB find_rB start.2.2.1 1000 400 (by decide)
    start.2.2.2.2.2.1 [r1, r2, r3, r4] rounds4 (by simp) (by rw [start.2.2.2.2.1]; decide)

theorem rounds3 : Rounds cfg 0 (SchedCount 0 2) s [r1, r2, r3] := all.2.2.1.2

theorem delivered3 : ∃ u, s.run (roundsOps 0 [r1, r2, r3]) = some u ∧ u.a.isDisconnected = false ∧
    u.b.isDisconnected = false ∧ u.submitted 0 = s.submitted 0 ∧ u.obtained 0 = s.submitted 0 :=
  k_round_delivery_entries cfg ops s run_s start.1 start.2.1 0 ordered0 sA find_sA rB find_rB start.2.2.1 2
    [r1, r2, r3] rounds3 (by simp) (by rw [start.2.2.2.1]; decide)

example : (s.run (roundsOps 0 [r1])).map (fun u => (u.obtained 0).length) = some 2 ∧
    (s.run (roundsOps 0 [r1, r2])).map (fun u => (u.obtained 0).length) = some 4 ∧
    (s.run (roundsOps 0 [r1, r2, r3])).map (fun u => u.obtained 0 == u.submitted 0) = some true := all.2.2.2

end ExB

/-! `ExU` (defined and run in Props/C01KRuns.lean) — a ReliableUnordered channel, 3000 bytes per tick; a 3700-byte
    message (4 slices), a 3-byte and a 2-byte message: backlog 4805.  `k_round_delivery_unordered`:
    `3 * (3000 - 1200 + 1) ≥ 4805`. -/
namespace ExU

theorem run_s : (Sys.init cfg).run ops = some s := some_getD all.1.1.1 _
theorem find_sA : SMap.find? s.a.sendRel 0 = some sA := some_getD all.1.1.2.1 _
theorem find_rB : SMap.find? s.b.recvRel 0 = some rB := some_getD all.1.1.2.2 _

theorem unordered0 : cfg.Unordered 0 := ⟨⟨_, List.mem_singleton.mpr rfl, rfl, rfl⟩, by decide⟩

theorem start : s.a.isDisconnected = false ∧ s.b.isDisconnected = false ∧ Room (s.submitted 0) rB ∧
    backlog sA.unacked = 4805 ∧ s.submitted 0 = [m0, m1, m2] ∧ s.obtained 0 = [] := all.1.2.1

theorem rounds : Rounds cfg 0 (SchedBytes 0 3000) s [r1, r2, r3] := all.1.2.2.1

theorem delivered : ∃ u, s.run (roundsOps 0 [r1, r2, r3]) = some u ∧ u.a.isDisconnected = false ∧
    u.b.isDisconnected = false ∧ u.submitted 0 = s.submitted 0 ∧ (u.obtained 0).Perm (s.submitted 0) :=
  k_round_delivery_unordered cfg ops s run_s start.1 start.2.1 0 unordered0 sA find_sA rB find_rB start.2.2.1 3000
    (by decide) [r1, r2, r3] rounds (by simp) (by rw [start.2.2.2.1]; decide)

/-- what the kernel computes: the small messages after round 1, the sliced one after round 2 -/
example : (s.run (roundsOps 0 [r1])).map (fun u => u.obtained 0) = some [m1, m2] ∧
    (s.run (roundsOps 0 [r1, r2])).map (fun u => u.obtained 0) = some [m1, m2, m0] := all.1.2.2.2

end ExU

end RenetVerif.C01K
