/-
  `renetcode/src/packet.rs` `ChallengeToken::{new, read, write}` over the cursor models agree with the reader /
  writer steps the model uses in `Netcode.ChallengeToken.{generate, decode}` (`Wr.writeAll (leBytes id 8)`,
  `Wr.writeAll user_data`; `readU64`, `readN NETCODE_USER_DATA_BYTES`).
  The ties themselves are in `Props/SrcTieNcToken.lean`.
-/
import RenetVerif.Generated.Src.NcToken
import RenetVerif.Lemmas.SrcEquiv.NcSerialize
namespace RenetVerif.SrcEquiv
open RenetVerif RenetVerif.RustSem

section NcToken
open Netcode
open Src.renetcode.packet

abbrev SChallengeToken := Src.renetcode.packet.ChallengeToken
def reprCT (t : Netcode.ChallengeToken) : SChallengeToken := ⟨t.clientId, toNats t.userData⟩

/-- the model's challenge-token reader (as inlined in `Netcode.ChallengeToken.decode`) -/
def readCT (src : Bytes) : Option (Netcode.ChallengeToken × Bytes) :=
  match readU64 src with
  | none => none
  | some (cid, r) =>
    match readN C.NETCODE_USER_DATA_BYTES r with
    | none => none
    | some (ud, r2) => some (⟨cid, ud⟩, r2)

/-- the model's challenge-token writer (as inlined in `Netcode.ChallengeToken.generate`) -/
def writeCT (t : Netcode.ChallengeToken) (w : Wr) : Option Wr :=
  match w.writeAll (leBytes t.clientId 8) with
  | none => none
  | some w1 => w1.writeAll t.userData

end NcToken
end RenetVerif.SrcEquiv
