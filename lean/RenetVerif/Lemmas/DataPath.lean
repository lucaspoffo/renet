/-
  Receive-side data path of one channel under an adversarial network (C01/C02/C03):
  `WF` (sortedness of a table read on its entries), the op/run model (`RecvOp`, `step`, `run`; `UOp`, `ustep`, `urun`),
  the specification of `RecvRel.processMessage/processSlice` against a submission log (`SameQ`, `Accept`, `SlicesOK`), the
  ordered and unordered invariants (`OrdInv`, `UnordInv`), the unreliable-channel invariant (`UInv`), and the
  correspondence between packets and op sequences.
-/
import RenetVerif.Lemmas.Reassembly
import RenetVerif.Renet.Conn
import RenetVerif.Lemmas.SMap
import RenetVerif.Lemmas.RecvSteps
namespace RenetVerif.DataPath
open RenetVerif C Reasm

section SMapLemmas
variable {α : Type}

def WF (m : SMap α) : Prop := m.Pairwise (fun a b => a.1 < b.1)

theorem wf_iff {m : SMap α} : WF m ↔ SMap.Sorted m := SMap.sorted_iff_pairwise.symm

theorem wf_nil : WF ([] : SMap α) := List.Pairwise.nil

theorem WF.nodup {m : SMap α} (h : WF m) : (SMap.keys m).Nodup := (wf_iff.mp h).nodup

theorem wf_insert {m : SMap α} (h : WF m) (k : Nat) (v : α) : WF (SMap.insert m k v) :=
  wf_iff.mpr (SMap.sorted_insert (wf_iff.mp h) k v)

theorem wf_erase {m : SMap α} (h : WF m) (k : Nat) : WF (SMap.erase m k) :=
  wf_iff.mpr (SMap.sorted_erase (wf_iff.mp h) k)

end SMapLemmas

/-! ### the receiving side of one reliable channel under an adversarial network -/

def GenuineMsg (L : List Bytes) (id : Nat) (m : Bytes) : Prop := L[id]? = some m

/-- `sl` is one of the slices the sender cuts out of a logged message -/
def GenuineSlice (L : List Bytes) (sl : Slice) : Prop :=
  ∃ m, L[sl.messageId]? = some m ∧ m.length > SLICE_SIZE ∧ sl.numSlices = divCeil m.length SLICE_SIZE ∧
       sl.sliceIndex < sl.numSlices ∧ sl.payload = sliceBytes m sl.numSlices sl.sliceIndex

/-- what can happen to the receiving channel: the network hands over (a copy of) a small-message entry
    or a slice, or the application asks for the next message -/
inductive RecvOp where
  | msg (id : Nat) (m : Bytes)
  | slice (sl : Slice)
  | recv
  deriving Repr, DecidableEq

def Genuine (L : List Bytes) : RecvOp → Prop
  | .msg id m => GenuineMsg L id m
  | .slice sl => GenuineSlice L sl
  | .recv => True

/-- channel state, ghost list of everything the application has obtained so far, and whether the
    connection has been torn down (a channel error disconnects; `receive_message` on a disconnected
    connection returns nothing, and no further packet is processed) -/
structure RunSt where
  r : RecvRel
  obtained : List Bytes
  dead : Bool
  deriving Repr, DecidableEq

def step (st : RunSt) (op : RecvOp) : RunSt :=
  if st.dead then st else
  match op with
  | .msg id m =>
    match st.r.processMessage m id with
    | .ok r' => { st with r := r' }
    | .err _ => { st with dead := true }
    | .panic _ => { st with dead := true }
  | .slice sl =>
    match st.r.processSlice sl with
    | .ok r' => { st with r := r' }
    | .err _ => { st with dead := true }
    | .panic _ => { st with dead := true }
  | .recv =>
    match st.r.receive with
    | .ok (r', some m) => { st with r := r', obtained := st.obtained ++ [m] }
    | .ok (r', none) => { st with r := r' }
    | .err _ => { st with dead := true }
    | .panic _ => { st with dead := true }

def run (r0 : RecvRel) (ops : List RecvOp) : RunSt := ops.foldl step ⟨r0, [], false⟩

/-- every reassembly in progress belongs to a logged message and agrees with it -/
def SlicesOK (L : List Bytes) (r : RecvRel) : Prop :=
  WF r.slices ∧ ∀ id c, SMap.find? r.slices id = some c →
    ∃ m, L[id]? = some m ∧ m.length > SLICE_SIZE ∧ CtorAgrees m c

/-- `r'` has the queue of `r`: cursor, kind, stored messages and remembered ids (memory account and reassemblies are free) -/
structure SameQ (r r' : RecvRel) : Prop where
  oldest : r'.oldest = r.oldest
  ordered : r'.ordered = r.ordered
  messages : r'.messages = r.messages
  received : r'.received = r.received

theorem SameQ.refl (r : RecvRel) : SameQ r r := ⟨rfl, rfl, rfl, rfl⟩

theorem SameQ.trans {a b c : RecvRel} (h : SameQ a b) (h' : SameQ b c) : SameQ a c :=
  ⟨h'.oldest.trans h.oldest, h'.ordered.trans h.ordered, h'.messages.trans h.messages, h'.received.trans h.received⟩

theorem SameQ.have_iff {r r' : RecvRel} (h : SameQ r r') (j : Nat) : Live.Have r' j ↔ Live.Have r j := by
  unfold Live.Have; rw [h.oldest, h.ordered, h.messages, h.received]

theorem SameQ.push {r r' : RecvRel} (h : SameQ r r') (id : Nat) (m : Bytes) : SameQ (r.push id m) (r'.push id m) := by
  refine ⟨h.oldest, h.ordered, ?_, ?_⟩
  · show SMap.insert _ _ _ = _; rw [h.messages]; rfl
  · show (if _ then _ else _) = _; rw [h.ordered, h.received]; rfl

theorem have_push (r : RecvRel) (id : Nat) (m : Bytes) (j : Nat) : Live.Have (r.push id m) j ↔ Live.Have r j ∨ j = id := by
  unfold Live.Have RecvRel.push
  cases r.ordered <;> simp [SMap.contains_insert, or_comm, or_left_comm]

/-- the effect on the queue of offering the complete message `(id, m)` to the channel:
    ignored, or queued when it has not arrived before -/
def Accept (r r' : RecvRel) (id : Nat) (m : Bytes) : Prop :=
  SameQ r r' ∨ (¬ Live.Have r id ∧ SameQ (r.push id m) r')

theorem accept_refl (r : RecvRel) (id : Nat) (m : Bytes) : Accept r r id m := .inl (.refl r)

theorem Accept.oldest {r r' : RecvRel} {id : Nat} {m : Bytes} (h : Accept r r' id m) : r'.oldest = r.oldest :=
  h.elim (·.oldest) (·.2.oldest)

theorem Accept.ordered {r r' : RecvRel} {id : Nat} {m : Bytes} (h : Accept r r' id m) : r'.ordered = r.ordered :=
  h.elim (·.ordered) (·.2.ordered)

theorem Accept.congr {r r1 r2 r' : RecvRel} {id : Nat} {m : Bytes} (h : Accept r1 r2 id m) (a : SameQ r r1) (b : SameQ r2 r') :
    Accept r r' id m := by
  rcases h with hq | ⟨hn, hq⟩
  · exact .inl (a.trans (hq.trans b))
  · exact .inr ⟨fun hv => hn ((a.have_iff id).mpr hv), (a.push id m).trans (hq.trans b)⟩

theorem processMessage_ok {r r' : RecvRel} {m : Bytes} {id : Nat} (h : r.processMessage m id = .ok r') :
    Accept r r' id m ∧ r'.slices = r.slices ∧ r'.mem ≤ r.mem + m.length ∧ r'.maxMem = r.maxMem ∧ Live.Have r' id := by
  rw [RecvRel.processMessage_eq] at h
  split at h
  · cases h; exact ⟨accept_refl _ _ _, rfl, Nat.le_add_right _ _, rfl, ‹_›⟩
  · rename_i hn
    split at h
    · cases h
    · cases h; exact ⟨.inr ⟨hn, .refl _⟩, rfl, Nat.le_refl _, rfl, (have_push ..).mpr (.inr rfl)⟩

theorem processMessage_err {r r' : RecvRel} {m : Bytes} {id : Nat} {e : ChanErr}
    (h : r.processMessage m id = .err (e, r')) : e = .maxMemory ∧ r' = r ∧ r.mem + m.length > r.maxMem := by
  rw [RecvRel.processMessage_eq] at h
  split at h
  · cases h
  · split at h <;> cases h
    exact ⟨rfl, rfl, ‹_›⟩

theorem processMessage_push {r : RecvRel} {m : Bytes} {id : Nat} (hn : ¬ Live.Have r id)
    (hroom : r.mem + m.length ≤ r.maxMem) : r.processMessage m id = .ok (r.push id m) := by
  rw [RecvRel.processMessage_eq, if_neg hn, if_neg (by omega)]

theorem processMessage_no_panic (r : RecvRel) (m : Bytes) (id : Nat) (s : String) :
    r.processMessage m id ≠ .panic s := by
  rw [RecvRel.processMessage_eq]
  split
  · exact fun h => nomatch h
  · split <;> exact fun h => nomatch h

def SliceOf (m : Bytes) (sl : Slice) : Prop :=
  m.length > SLICE_SIZE ∧ sl.numSlices = divCeil m.length SLICE_SIZE ∧
    sl.sliceIndex < sl.numSlices ∧ sl.payload = sliceBytes m sl.numSlices sl.sliceIndex

theorem ctor_slice {m : Bytes} {sl : Slice} {c : SliceCtor} (g : SliceOf m sl) (hag : CtorAgrees m c) :
    c.numSlices = sl.numSlices ∧ ∃ c' out, c.processSlice sl.sliceIndex sl.payload = .ok (c', out) ∧
      c'.received = c.received.set sl.sliceIndex true ∧ (out = none → CtorAgrees m c') ∧
      (∀ m', out = some m' → m' = m) ∧ (out ≠ none ↔ ∀ i, i < sl.numSlices → c'.received[i]? = some true) := by
  obtain ⟨hlen, hn, hi, hp⟩ := g
  obtain ⟨c', out, hproc, hrecv, -, hnone, hsome, hiff⟩ :=
    processSlice_genuine (m := m) (by omega) hag (idx := sl.sliceIndex) (by rw [← hn]; exact hi)
  rw [hp, hn]
  exact ⟨hag.numSlices, c', out, hproc, hrecv, fun h => (hnone h).1, hsome, hiff⟩

theorem slicesOK_insert {L : List Bytes} {r r' : RecvRel} {id : Nat} {c : SliceCtor} {m : Bytes}
    (hs : SlicesOK L r) (hL : L[id]? = some m) (hlen : m.length > SLICE_SIZE) (hc : CtorAgrees m c)
    (hr : r'.slices = SMap.insert r.slices id c) : SlicesOK L r' := by
  unfold SlicesOK
  rw [hr]
  exact ⟨wf_insert hs.1 _ _, SMap.forall_find?_insert (fun j x _ => hs.2 j x) ⟨m, hL, hlen, hc⟩⟩

theorem reserveStep_ok {L : List Bytes} {r r1 : RecvRel} {sl : Slice} {m : Bytes}
    (hs : SlicesOK L r) (hL : L[sl.messageId]? = some m) (hlen : m.length > SLICE_SIZE)
    (hn : sl.numSlices = divCeil m.length SLICE_SIZE) (h : r.reserveStep sl = .ok r1) :
    SlicesOK L r1 ∧ SameQ r r1 := by
  rcases r.reserveStep_cases sl with ⟨-, e⟩ | ⟨-, ⟨-, e⟩ | ⟨-, e⟩⟩ <;> cases e.symm.trans h
  · exact ⟨hs, .refl r⟩
  · exact ⟨slicesOK_insert hs hL hlen (by rw [hn]; exact agrees_new m) rfl, rfl, rfl, rfl, rfl⟩

theorem sliceStep_ok {L : List Bytes} {r r' : RecvRel} {sl : Slice} {m : Bytes}
    (hs : SlicesOK L r) (hL : L[sl.messageId]? = some m) (g : SliceOf m sl) (h : r.sliceStep sl = .ok r') :
    SlicesOK L r' ∧ Accept r r' sl.messageId m := by
  unfold RecvRel.sliceStep at h
  split at h
  · cases h
  · rename_i c hfind
    obtain ⟨m', hL', -, hag⟩ := hs.2 _ _ hfind
    rw [hL] at hL'; cases hL'
    obtain ⟨hcn, c', out, hproc, -, hnone, hsome, -⟩ := ctor_slice g hag
    rw [if_neg (by simp [hcn]), hproc] at h
    cases out with
    | none =>
      cases h
      exact ⟨slicesOK_insert hs hL g.1 (hnone rfl) rfl, .inl ⟨rfl, rfl, rfl, rfl⟩⟩
    | some mm =>
      cases hsome mm rfl
      obtain ⟨mem, -, h⟩ := Res.bind_ok_iff.mp h
      obtain ⟨r3, hpm, h⟩ := Res.bind_ok_iff.mp h
      cases h
      obtain ⟨hacc, hsl, -⟩ := processMessage_ok hpm
      have hw := wf_insert hs.1 sl.messageId c'
      refine ⟨⟨?_, ?_⟩, hacc.congr ⟨rfl, rfl, rfl, rfl⟩ ⟨rfl, rfl, rfl, rfl⟩⟩
      · dsimp only; rw [hsl]; exact wf_erase hw _
      · -- the emptied constructor `c'` is inserted and erased again: it is never looked up
        intro id c0 hf
        dsimp only at hf
        rw [hsl, SMap.find?_erase hw.nodup, SMap.find?_insert] at hf
        split at hf
        · cases hf
        · exact hs.2 id c0 hf

theorem processSlice_ok {L : List Bytes} {r r' : RecvRel} {sl : Slice}
    (hs : SlicesOK L r) (g : GenuineSlice L sl) (h : r.processSlice sl = .ok r') :
    SlicesOK L r' ∧ ∃ m, L[sl.messageId]? = some m ∧ Accept r r' sl.messageId m := by
  obtain ⟨m, hL, g⟩ := g
  rw [RecvRel.processSlice_eq] at h
  split at h
  · cases h; exact ⟨hs, m, hL, accept_refl _ _ _⟩
  · split at h
    · cases h; exact ⟨hs, m, hL, accept_refl _ _ _⟩
    · obtain ⟨r1, hh, h⟩ := Res.bind_ok_iff.mp h
      obtain ⟨hs1, a⟩ := reserveStep_ok hs hL g.1 g.2.1 hh
      obtain ⟨hs', hacc⟩ := sliceStep_ok hs1 hL g h
      exact ⟨hs', m, hL, hacc.congr a (.refl r')⟩

theorem slicesOK_new (L : List Bytes) (maxMem : Nat) (o : Bool) : SlicesOK L (RecvRel.new maxMem o) :=
  ⟨wf_nil, by intro id c h; simp [RecvRel.new] at h⟩

theorem foldl_inv {σ ω : Type} (f : σ → ω → σ) (P : σ → Prop) (G : ω → Prop)
    (hstep : ∀ s o, P s → G o → P (f s o)) :
    ∀ (ops : List ω) (s : σ), P s → (∀ o ∈ ops, G o) → P (ops.foldl f s) := by
  intro ops
  induction ops with
  | nil => intro s h _; exact h
  | cons o ops ih =>
    intro s h hg
    exact ih _ (hstep s o h (hg o (by simp))) (fun o' ho => hg o' (by simp [ho]))

theorem step_pres {L : List Bytes} {P : RunSt → Prop} (hsl : ∀ st, P st → SlicesOK L st.r)
    (hdead : ∀ st, P st → P { st with dead := true })
    (hacc : ∀ st r' id m, P st → L[id]? = some m → SlicesOK L r' → Accept st.r r' id m → P { st with r := r' })
    (hrecv : ∀ st r' out, P st → st.r.receive = .ok (r', out) →
      P { st with r := r', obtained := st.obtained ++ out.toList })
    (st : RunSt) (op : RecvOp) (hinv : P st) (g : Genuine L op) : P (step st op) := by
  unfold step
  split
  · exact hinv
  · cases op with
    | msg id m =>
      dsimp only
      split
      · rename_i r' h
        obtain ⟨ha, hs, -⟩ := processMessage_ok h
        exact hacc st r' id m hinv g (by unfold SlicesOK; rw [hs]; exact hsl st hinv) ha
      · exact hdead st hinv
      · exact hdead st hinv
    | slice sl =>
      dsimp only
      split
      · rename_i r' h
        obtain ⟨hs', m, hL, ha⟩ := processSlice_ok (hsl st hinv) g h
        exact hacc st r' _ m hinv hL hs' ha
      · exact hdead st hinv
      · exact hdead st hinv
    | recv =>
      dsimp only
      split
      · rename_i r' m h
        simpa using hrecv st r' (some m) hinv h
      · rename_i r' h
        simpa using hrecv st r' none hinv h
      · exact hdead st hinv
      · exact hdead st hinv

structure OrdInv (L : List Bytes) (st : RunSt) : Prop where
  ord : st.r.ordered = true
  wfM : WF st.r.messages
  msgs : ∀ id x, SMap.find? st.r.messages id = some x → L[id]? = some x ∧ st.r.oldest ≤ id
  slices : SlicesOK L st.r
  obt : st.obtained = L.take st.r.oldest

theorem ord_init (L : List Bytes) (maxMem : Nat) : OrdInv L ⟨RecvRel.new maxMem true, [], false⟩ :=
  ⟨rfl, wf_nil, by intro id x h; simp [RecvRel.new] at h, slicesOK_new _ _ _, by simp [RecvRel.new]⟩

theorem ord_accept {L : List Bytes} {st : RunSt} {r' : RecvRel} {id : Nat} {m : Bytes}
    (hinv : OrdInv L st) (hL : L[id]? = some m) (hs' : SlicesOK L r') (hacc : Accept st.r r' id m) :
    OrdInv L { st with r := r' } := by
  obtain ⟨i1, i2, i3, _, i5⟩ := hinv
  refine ⟨hacc.ordered.trans i1, ?_, ?_, hs', by dsimp only; rw [hacc.oldest]; exact i5⟩
  · dsimp only
    rcases hacc with hq | ⟨_, hq⟩
    · rw [hq.messages]; exact i2
    · rw [hq.messages]; exact wf_insert i2 _ _
  · dsimp only
    rw [hacc.oldest]
    rcases hacc with hq | ⟨hn, hq⟩
    · rw [hq.messages]; exact i3
    · have hlt : ¬ id < st.r.oldest := fun h => hn (.inl h)
      rw [hq.messages]; exact SMap.forall_find?_insert (fun j x _ => i3 j x) ⟨hL, by omega⟩

theorem next_ord_eq {r : RecvRel} (ho : r.ordered = true) {id : Nat} {x : Bytes} (hn : r.next = some (id, x)) :
    id = r.oldest ∧ SMap.find? r.messages r.oldest = some x := by
  rw [(RecvRel.next_ord ho).1] at hn
  cases hf : SMap.find? r.messages r.oldest with
  | none => rw [hf] at hn; cases hn
  | some y => rw [hf] at hn; cases hn; exact ⟨rfl, rfl⟩

/-- the cursor does not run past the log: it only moves past a stored message, and stored messages are logged ones -/
theorem ord_receive {L : List Bytes} {st : RunSt} {r' : RecvRel} {out : Option Bytes}
    (hinv : OrdInv L st) (h : st.r.receive = .ok (r', out)) :
    OrdInv L { st with r := r', obtained := st.obtained ++ out.toList } ∧
      (st.r.oldest ≤ L.length → r'.oldest ≤ L.length) := by
  obtain ⟨i1, i2, i3, i4, i5⟩ := hinv
  rcases RecvRel.receive_ok_iff.mp h with ⟨-, rfl, rfl⟩ | ⟨id, x, hn, -, rfl, rfl⟩
  · exact ⟨⟨i1, i2, i3, i4, by simpa using i5⟩, id⟩
  · obtain ⟨rfl, hfind⟩ := next_ord_eq i1 hn
    have ho : (st.r.pop st.r.oldest x).oldest = st.r.oldest + 1 := (RecvRel.next_ord i1).2 _ _
    have hL := (i3 _ _ hfind).1
    refine ⟨⟨i1, wf_erase i2 _, ?_, i4, ?_⟩, fun _ => by rw [ho]; exact (List.getElem?_eq_some_iff.mp hL).1⟩
    · intro id y hf
      dsimp only at hf ⊢
      rw [ho]
      rw [show (st.r.pop st.r.oldest x).messages = SMap.erase st.r.messages st.r.oldest from rfl,
        SMap.find?_erase i2.nodup] at hf
      split at hf
      · cases hf
      · have := i3 id y hf; exact ⟨this.1, by omega⟩
    · dsimp only
      rw [ho, i5, List.take_add_one, hL]

/-- the ordered invariant travels with the cursor bound, which holds of a new channel (`oldest = 0`) -/
theorem ord_step (L : List Bytes) (st : RunSt) (op : RecvOp) (hinv : OrdInv L st ∧ st.r.oldest ≤ L.length)
    (g : Genuine L op) : OrdInv L (step st op) ∧ (step st op).r.oldest ≤ L.length :=
  step_pres (P := fun st => OrdInv L st ∧ st.r.oldest ≤ L.length) (fun _ h => h.1.slices)
    (fun _ h => ⟨⟨h.1.ord, h.1.wfM, h.1.msgs, h.1.slices, h.1.obt⟩, h.2⟩)
    (fun _ _ _ _ h hL hs' ha => ⟨ord_accept h.1 hL hs' ha, ha.oldest ▸ h.2⟩)
    (fun _ _ _ h hr => ⟨(ord_receive h.1 hr).1, (ord_receive h.1 hr).2 h.2⟩) st op hinv g

structure UnordInv (L : List Bytes) (st : RunSt) : Prop where
  ord : st.r.ordered = false
  wfM : WF st.r.messages
  msgs : ∀ id x, SMap.find? st.r.messages id = some x →
    L[id]? = some x ∧ (id < st.r.oldest ∨ id ∈ st.r.received)
  slices : SlicesOK L st.r
  obt : ∃ ids : List Nat, ids.Nodup ∧ st.obtained.map some = ids.map (fun id => L[id]?) ∧
    ∀ id ∈ ids, (id < st.r.oldest ∨ id ∈ st.r.received) ∧ SMap.find? st.r.messages id = none

theorem unord_init (L : List Bytes) (maxMem : Nat) : UnordInv L ⟨RecvRel.new maxMem false, [], false⟩ :=
  ⟨rfl, wf_nil, by intro id x h; simp [RecvRel.new] at h, slicesOK_new _ _ _,
   ⟨[], List.nodup_nil, rfl, by intro id h; cases h⟩⟩

theorem unord_accept {L : List Bytes} {st : RunSt} {r' : RecvRel} {id : Nat} {m : Bytes}
    (hinv : UnordInv L st) (hL : L[id]? = some m) (hs' : SlicesOK L r') (hacc : Accept st.r r' id m) :
    UnordInv L { st with r := r' } := by
  obtain ⟨i1, i2, i3, _, ids, j1, j2, j3⟩ := hinv
  have ho := hacc.oldest
  rcases hacc with hq | ⟨hn, hq⟩
  · exact ⟨hq.ordered.trans i1, by dsimp only; rw [hq.messages]; exact i2,
      by dsimp only; rw [hq.messages, ho, hq.received]; exact i3,
      hs', ids, j1, j2, by dsimp only; rw [hq.messages, ho, hq.received]; exact j3⟩
  · have hm : r'.messages = SMap.insert st.r.messages id m := hq.messages
    have hr : r'.received = id :: st.r.received := by rw [hq.received]; simp [RecvRel.push, i1]
    -- not arrived, on an unordered channel: neither behind the cursor nor remembered
    have hnew : ¬ (id < st.r.oldest ∨ id ∈ st.r.received) := fun h =>
      hn (h.imp_right fun h => by rw [if_neg (by simp [i1])]; exact h)
    refine ⟨hq.ordered.trans i1, by dsimp only; rw [hm]; exact wf_insert i2 _ _, ?_, hs', ids, j1, j2, ?_⟩
    · dsimp only
      rw [hm, ho, hr]
      exact SMap.forall_find?_insert
        (fun j x _ hf => ⟨(i3 j x hf).1, (i3 j x hf).2.imp_right (List.mem_cons_of_mem _)⟩)
        ⟨hL, Or.inr List.mem_cons_self⟩
    · intro id' hid
      dsimp only
      have := j3 id' hid
      rw [ho, hr, hm, SMap.find?_insert]
      -- `id` was not yet accepted, `id'` was
      have hne : ¬ id = id' := fun he => hnew (he ▸ this.1)
      rw [if_neg hne]
      exact ⟨this.1.imp_right (List.mem_cons_of_mem _), this.2⟩

theorem unord_receive {L : List Bytes} {st : RunSt} {r' : RecvRel} {out : Option Bytes}
    (hinv : UnordInv L st) (h : st.r.receive = .ok (r', out)) :
    UnordInv L { st with r := r', obtained := st.obtained ++ out.toList } := by
  obtain ⟨i1, i2, i3, i4, ids, j1, j2, j3⟩ := hinv
  rcases RecvRel.receive_ok_iff.mp h with ⟨-, rfl, rfl⟩ | ⟨id, x, hn, -, rfl, rfl⟩
  · exact ⟨i1, i2, i3, i4, ids, j1, by simpa using j2, j3⟩
  · have hf := RecvRel.next_find hn
    obtain ⟨-, ho, hrec⟩ := st.r.pop_keeps id x
    have hmono : ∀ k, (k < st.r.oldest ∨ k ∈ st.r.received) →
        (k < (st.r.pop id x).oldest ∨ k ∈ (st.r.pop id x).received) :=
      fun k hk => hk.elim (fun hlt => Or.inl (Nat.lt_of_lt_of_le hlt ho)) (hrec k)
    have hidL := i3 id x hf
    have hq : ∀ k, SMap.find? (st.r.pop id x).messages k = if id = k then none else SMap.find? st.r.messages k :=
      fun k => SMap.find?_erase i2.nodup id k
    refine ⟨i1, wf_erase i2 _, ?_, i4, ids ++ [id], ?_, ?_, ?_⟩
    · intro k y hk
      rw [hq k] at hk
      split at hk
      · cases hk
      · exact ⟨(i3 k y hk).1, hmono k (i3 k y hk).2⟩
    · rw [List.nodup_append]
      refine ⟨j1, by simp, ?_⟩
      intro a ha b hb
      simp only [List.mem_singleton] at hb
      subst hb
      intro e; subst e
      have := (j3 a ha).2
      rw [hf] at this; cases this
    · simp only [List.map_append, Option.toList_some, List.map_cons, List.map_nil, j2, hidL.1]
    · intro k hk
      simp only [List.mem_append, List.mem_singleton] at hk
      rw [hq k]
      rcases hk with hk | rfl
      · refine ⟨hmono k (j3 k hk).1, ?_⟩
        split
        · rfl
        · exact (j3 k hk).2
      · exact ⟨hmono _ hidL.2, if_pos rfl⟩

theorem unord_step (L : List Bytes) (st : RunSt) (op : RecvOp) (hinv : UnordInv L st) (g : Genuine L op) :
    UnordInv L (step st op) :=
  step_pres (fun _ h => h.slices) (fun _ h => ⟨h.ord, h.wfM, h.msgs, h.slices, h.obt⟩)
    (fun _ _ _ _ h hL hs' ha => unord_accept h hL hs' ha) (fun _ _ _ h hr => unord_receive h hr) st op hinv g

theorem unord_run (L : List Bytes) (maxMem : Nat) (ops : List RecvOp) (hg : ∀ op ∈ ops, Genuine L op) :
    UnordInv L (run (RecvRel.new maxMem false) ops) :=
  foldl_inv step (UnordInv L) (Genuine L) (unord_step L) ops _ (unord_init L maxMem) hg

/-! ### what "obtained at pairwise distinct positions of the log" gives

  `o.map some = ids.map (L[·]?)` with `ids.Nodup` is the conclusion about an unordered channel (`UnordInv.obt`): every
  position named is one of the log, so `o` has no more entries than `L`, and no entry more often than `L` has it (hence only
  entries of `L`). -/

theorem once_lt {o L : List Bytes} {ids : List Nat} (h : o.map some = ids.map (fun id => L[id]?)) :
    ∀ id ∈ ids, id < L.length := by
  intro id hid
  have : L[id]? ∈ o.map some := h ▸ List.mem_map.mpr ⟨id, hid, rfl⟩
  obtain ⟨x, -, hx⟩ := List.mem_map.mp this
  exact (List.getElem?_eq_some_iff.mp hx.symm).1

theorem once_mono {o L L' : List Bytes} {ids : List Nat} (hL : L <+: L') (h : o.map some = ids.map (fun id => L[id]?)) :
    o.map some = ids.map (fun id => L'[id]?) := by
  obtain ⟨t, rfl⟩ := hL
  exact h.trans (List.map_congr_left fun id hid => (List.getElem?_append_left (once_lt h id hid)).symm)

theorem once_length {o L : List Bytes} {ids : List Nat} (hn : ids.Nodup) (h : o.map some = ids.map (fun id => L[id]?)) :
    o.length ≤ L.length := by
  rw [← List.length_map (f := some), h, List.length_map, ← List.length_range (n := L.length)]
  exact hn.length_le_of_subset fun id hid => List.mem_range.mpr (once_lt h id hid)

theorem count_map_some (l : List Bytes) (x : Bytes) : (l.map some).count (some x) = l.count x := by
  induction l with
  | nil => rfl
  | cons y t ih => simp [List.count_cons, ih]

theorem range_map_get (L : List Bytes) : (List.range L.length).map (fun k => L[k]?) = L.map some := by
  apply List.ext_getElem?
  intro k
  by_cases hk : k < L.length
  · simp [hk]
  · simp [hk]

theorem once_count {o L : List Bytes} {ids : List Nat} (hn : ids.Nodup)
    (h : o.map some = ids.map (fun k => L[k]?)) (x : Bytes) : o.count x ≤ L.count x := by
  let p : Nat → Bool := fun k => L[k]? == some x
  have e1 : o.count x = (ids.filter p).length := by
    rw [← count_map_some o x, h, List.count, List.countP_map, List.countP_eq_length_filter]
    rfl
  have e2 : L.count x = ((List.range L.length).filter p).length := by
    rw [← count_map_some L x, ← range_map_get, List.count, List.countP_map, List.countP_eq_length_filter]
    rfl
  rw [e1, e2]
  apply List.Nodup.length_le_of_subset (hn.sublist List.filter_sublist)
  intro k hk
  obtain ⟨hk, hp⟩ := List.mem_filter.mp hk
  exact List.mem_filter.mpr ⟨List.mem_range.mpr (once_lt h k hk), hp⟩

theorem once_mem {α : Type} {o L : List α} {ids : List Nat} (h : o.map some = ids.map (fun id => L[id]?)) :
    ∀ x ∈ o, x ∈ L := fun x hx => by
  obtain ⟨id, -, e⟩ := List.mem_map.mp (h ▸ List.mem_map_of_mem (f := some) hx)
  exact List.mem_of_getElem? e

/-! ### no head-of-line blocking (unordered) -/

theorem unord_receive_head {r : RecvRel} {id : Nat} {x : Bytes} {rest : SMap Bytes}
    (ho : r.ordered = false) (hm : r.messages = (id, x) :: rest) (hmem : x.length ≤ r.mem) :
    ∃ r', r.receive = .ok (r', some x) ∧ r'.messages = rest := by
  have hn : r.next = some (id, x) := by rw [RecvRel.next, if_neg (by simp [ho]), hm]; rfl
  refine ⟨_, RecvRel.receive_ok_iff.mpr (.inr ⟨id, x, hn, hmem, rfl, rfl⟩), ?_⟩
  have := (RecvRel.pop_unord ho hn).1
  rw [hm] at this
  exact (List.cons.inj this).2.symm

theorem unord_msg_queued {r : RecvRel} {id : Nat} {m : Bytes}
    (ho : r.ordered = false) (hlt : ¬ id < r.oldest) (hnr : id ∉ r.received)
    (hmem : r.mem + m.length ≤ r.maxMem) :
    ∃ r', r.processMessage m id = .ok r' ∧ SMap.find? r'.messages id = some m := by
  exact ⟨_, processMessage_push (fun h => h.elim hlt (by rw [if_neg (by simp [ho])]; exact hnr)) hmem,
    by simp [RecvRel.push, SMap.find?_insert]⟩

/-! ### the receiving side of one unreliable channel -/

/-- what can happen to an unreliable receiving channel: a small message or a slice arrives (at time
    `now`), the application asks for a message, or `update` discards stale reassemblies -/
inductive UOp where
  | msg (m : Bytes)
  | slice (sl : Slice) (now : Nat)
  | recv
  | discard (now : Nat)
  deriving Repr, DecidableEq

/-- `S`: every message ever passed to `send_message` on the channel.  `idOf`: the message the sender
    numbered with a given sliced-message id (it uses a fresh id for every sliced message, so all
    slices carrying the same id belong to the same message). -/
def GenuineU (S : List Bytes) (idOf : Nat → Option Bytes) : UOp → Prop
  | .msg m => m ∈ S
  | .slice sl _ => ∃ m, idOf sl.messageId = some m ∧ m ∈ S ∧ m.length > SLICE_SIZE ∧
      sl.numSlices = divCeil m.length SLICE_SIZE ∧ sl.sliceIndex < sl.numSlices ∧
      sl.payload = sliceBytes m sl.numSlices sl.sliceIndex
  | .recv => True
  | .discard _ => True

/-- channel state, ghost list of everything obtained, ghost list of every (message id, slice index)
    the network has handed over so far, disconnected flag -/
structure URunSt where
  r : RecvUnrel
  obtained : List Bytes
  seen : List (Nat × Nat)
  dead : Bool
  deriving Repr, DecidableEq

def ustep (st : URunSt) (op : UOp) : URunSt :=
  if st.dead then st else
  match op with
  | .msg m => { st with r := st.r.processMessage m }
  | .slice sl now =>
    match st.r.processSlice sl now with
    | .ok r' => { st with r := r', seen := st.seen ++ [(sl.messageId, sl.sliceIndex)] }
    | .err _ => { st with dead := true }
    | .panic _ => { st with dead := true }
  | .recv =>
    match st.r.receive with
    | .ok (r', some m) => { st with r := r', obtained := st.obtained ++ [m] }
    | .ok (r', none) => { st with r := r' }
    | .err _ => { st with dead := true }
    | .panic _ => { st with dead := true }
  | .discard now =>
    match st.r.discardOld now with
    | .ok r' => { st with r := r' }
    | .err _ => { st with dead := true }
    | .panic _ => { st with dead := true }

def urun (r0 : RecvUnrel) (ops : List UOp) : URunSt := ops.foldl ustep ⟨r0, [], [], false⟩

structure UInv (S : List Bytes) (idOf : Nat → Option Bytes) (st : URunSt) : Prop where
  msgs : ∀ x ∈ st.r.messages, x ∈ S
  wfS : WF st.r.slices
  slices : ∀ id c, SMap.find? st.r.slices id = some c →
    ∃ m, idOf id = some m ∧ m ∈ S ∧ m.length > SLICE_SIZE ∧ CtorAgrees m c
  marks : ∀ id c, SMap.find? st.r.slices id = some c → ∀ j, c.received[j]? = some true → (id, j) ∈ st.seen
  obt : ∀ x ∈ st.obtained, x ∈ S

/-- state-level part of `UInv` (everything but `obtained`) -/
structure UInvR (S : List Bytes) (idOf : Nat → Option Bytes) (seen : List (Nat × Nat)) (r : RecvUnrel) : Prop where
  msgs : ∀ x ∈ r.messages, x ∈ S
  wfS : WF r.slices
  slices : ∀ id c, SMap.find? r.slices id = some c →
    ∃ m, idOf id = some m ∧ m ∈ S ∧ m.length > SLICE_SIZE ∧ CtorAgrees m c
  marks : ∀ id c, SMap.find? r.slices id = some c → ∀ j, c.received[j]? = some true → (id, j) ∈ seen

section
variable {S : List Bytes} {idOf : Nat → Option Bytes} {seen : List (Nat × Nat)}

theorem uInvR_seen_mono {r : RecvUnrel}
    (hinv : UInvR S idOf seen r) (p : Nat × Nat) : UInvR S idOf (seen ++ [p]) r :=
  ⟨hinv.msgs, hinv.wfS, hinv.slices, fun id c hf j hj => List.mem_append_left _ (hinv.marks id c hf j hj)⟩

theorem uInvR_insert {r r' : RecvUnrel}
    {id : Nat} {c : SliceCtor} {m : Bytes} (hinv : UInvR S idOf seen r)
    (hs : r'.slices = SMap.insert r.slices id c) (hm : r'.messages = r.messages)
    (hid : idOf id = some m) (hS : m ∈ S) (hlen : m.length > SLICE_SIZE) (hc : CtorAgrees m c)
    (hmark : ∀ j, c.received[j]? = some true → (id, j) ∈ seen) : UInvR S idOf seen r' := by
  refine ⟨by rw [hm]; exact hinv.msgs, ?_, ?_, ?_⟩
  · rw [hs]; exact wf_insert hinv.wfS _ _
  · rw [hs]; exact SMap.forall_find?_insert (fun j x _ => hinv.slices j x) ⟨m, hid, hS, hlen, hc⟩
  · rw [hs]; exact SMap.forall_find?_insert (fun j x _ => hinv.marks j x) hmark

theorem uInvR_erase {r r' : RecvUnrel}
    (hinv : UInvR S idOf seen r) (id : Nat) (hs : r'.slices = SMap.erase r.slices id)
    (hm : ∀ x ∈ r'.messages, x ∈ S) : UInvR S idOf seen r' := by
  refine ⟨hm, ?_, ?_, ?_⟩
  · rw [hs]; exact wf_erase hinv.wfS _
  · rw [hs]; exact SMap.forall_find?_erase hinv.wfS.nodup _ hinv.slices
  · rw [hs]; exact SMap.forall_find?_erase hinv.wfS.nodup _ hinv.marks

theorem usliceStep_ok {r r' : RecvUnrel}
    {sl : Slice} {now : Nat} {m : Bytes} (hinv : UInvR S idOf seen r)
    (hid : idOf sl.messageId = some m) (hS : m ∈ S) (g : SliceOf m sl) (h : r.sliceStep sl now = .ok r') :
    UInvR S idOf (seen ++ [(sl.messageId, sl.sliceIndex)]) r' ∧
    (r'.messages = r.messages ∨
      (r'.messages = r.messages ++ [m] ∧
        ∀ j, j < sl.numSlices → (sl.messageId, j) ∈ seen ++ [(sl.messageId, sl.sliceIndex)])) := by
  unfold RecvUnrel.sliceStep at h
  split at h
  · cases h
  · rename_i c hfind
    obtain ⟨m', hid', -, -, hag⟩ := hinv.slices _ _ hfind
    rw [hid] at hid'; cases hid'
    obtain ⟨hcn, c', out, hproc, hrecv, hnone, hsome, hiff⟩ := ctor_slice g hag
    rw [if_neg (by simp [hcn]), hproc] at h
    have hmark : ∀ j, c'.received[j]? = some true → (sl.messageId, j) ∈ seen ++ [(sl.messageId, sl.sliceIndex)] := by
      intro j hj
      rw [hrecv, List.getElem?_set] at hj
      split at hj
      · subst_vars; simp
      · exact List.mem_append_left _ (hinv.marks _ _ hfind j hj)
    have hinv' := uInvR_seen_mono hinv (sl.messageId, sl.sliceIndex)
    cases out with
    | none =>
      cases h
      exact ⟨uInvR_insert hinv' rfl rfl hid hS g.1 (hnone rfl) hmark, Or.inl rfl⟩
    | some mm =>
      cases hsome mm rfl
      obtain ⟨mem, -, h⟩ := Res.bind_ok_iff.mp h
      cases h
      refine ⟨uInvR_erase hinv' _ rfl ?_, Or.inr ⟨rfl, fun j hj => hmark j (hiff.1 (by simp) j hj)⟩⟩
      intro x hx
      rcases List.mem_append.1 hx with hx | hx
      · exact hinv.msgs x hx
      · cases List.mem_singleton.1 hx; exact hS

theorem uprocessSlice_ok {S : List Bytes} {idOf : Nat → Option Bytes} {seen : List (Nat × Nat)} {r r' : RecvUnrel}
    {sl : Slice} {now : Nat} (hinv : UInvR S idOf seen r) (g : GenuineU S idOf (.slice sl now))
    (h : r.processSlice sl now = .ok r') :
    UInvR S idOf (seen ++ [(sl.messageId, sl.sliceIndex)]) r' ∧
    (r'.messages = r.messages ∨
      ∃ m, idOf sl.messageId = some m ∧ m ∈ S ∧ r'.messages = r.messages ++ [m] ∧
        ∀ j, j < sl.numSlices → (sl.messageId, j) ∈ seen ++ [(sl.messageId, sl.sliceIndex)]) := by
  obtain ⟨m, hid, hS, g⟩ := g
  -- once the constructor exists (it did, or it has just been created empty) the slice is fed to it
  have fin : ∀ {r1 : RecvUnrel}, UInvR S idOf seen r1 → r1.messages = r.messages → r1.sliceStep sl now = .ok r' →
      UInvR S idOf (seen ++ [(sl.messageId, sl.sliceIndex)]) r' ∧
      (r'.messages = r.messages ∨
        ∃ m, idOf sl.messageId = some m ∧ m ∈ S ∧ r'.messages = r.messages ++ [m] ∧
          ∀ j, j < sl.numSlices → (sl.messageId, j) ∈ seen ++ [(sl.messageId, sl.sliceIndex)]) := by
    intro r1 hinv1 hm1 h1
    obtain ⟨hinv', hcase⟩ := usliceStep_ok hinv1 hid hS g h1
    exact ⟨hinv', hcase.imp (fun hc => hc.trans hm1) fun ⟨hc, hall⟩ => ⟨m, hid, hS, by rw [hc, hm1], hall⟩⟩
  rw [RecvUnrel.processSlice_eq] at h
  split at h
  · exact fin hinv rfl h
  · split at h
    · cases h; exact ⟨uInvR_seen_mono hinv _, Or.inl rfl⟩
    · refine fin (r1 := { r with mem := _, slices := _ })
        (uInvR_insert hinv rfl rfl hid hS g.1 (by rw [g.2.1]; exact agrees_new m) ?_) rfl h
      intro j hj
      simp [SliceCtor.new, List.getElem?_replicate] at hj

theorem discardLoop_ok (l : List Nat) (r r' : RecvUnrel) (h : discardLoop l r = .ok r') (hinv : UInvR S idOf seen r) :
    UInvR S idOf seen r' :=
  discardLoop_pres (fun _ id _ hq => uInvR_erase hq id rfl hq.msgs) l r r' h hinv

end

theorem uinv_of {S : List Bytes} {idOf : Nat → Option Bytes} {st : URunSt} (h : UInv S idOf st) :
    UInvR S idOf st.seen st.r := ⟨h.msgs, h.wfS, h.slices, h.marks⟩

theorem uinv_mk {S : List Bytes} {idOf : Nat → Option Bytes} {st : URunSt} (h : UInvR S idOf st.seen st.r)
    (ho : ∀ x ∈ st.obtained, x ∈ S) : UInv S idOf st := ⟨h.msgs, h.wfS, h.slices, h.marks, ho⟩

theorem uinv_init (S : List Bytes) (idOf : Nat → Option Bytes) (ch maxMem : Nat) :
    UInv S idOf ⟨RecvUnrel.new ch maxMem, [], [], false⟩ :=
  ⟨(by intro x h; cases h), wf_nil, (by intro id c h; simp [RecvUnrel.new] at h),
   (by intro id c h; simp [RecvUnrel.new] at h), (by intro x h; cases h)⟩

theorem uinv_receive {S : List Bytes} {idOf : Nat → Option Bytes} {st : URunSt} {r' : RecvUnrel} {out : Option Bytes}
    (hinv : UInv S idOf st) (h : st.r.receive = .ok (r', out)) :
    UInv S idOf { st with r := r', obtained := st.obtained ++ out.toList } := by
  unfold RecvUnrel.receive at h
  split at h
  · cases h
    exact ⟨hinv.msgs, hinv.wfS, hinv.slices, hinv.marks, by simpa using hinv.obt⟩
  · rename_i x rest hm
    obtain ⟨mem, -, h⟩ := Res.bind_ok_iff.mp h
    cases h
    have hmsgs := hinv.msgs
    rw [hm] at hmsgs
    refine ⟨fun y hy => hmsgs y (List.mem_cons_of_mem _ hy), hinv.wfS, hinv.slices, hinv.marks, ?_⟩
    intro y hy
    rcases List.mem_append.1 hy with hy | hy
    · exact hinv.obt y hy
    · cases List.mem_singleton.1 hy
      exact hmsgs _ List.mem_cons_self

theorem ustep_inv (S : List Bytes) (idOf : Nat → Option Bytes) (st : URunSt) (op : UOp)
    (hinv : UInv S idOf st) (g : GenuineU S idOf op) : UInv S idOf (ustep st op) := by
  -- a failed operation only sets `dead`, which the invariant does not mention
  have hdead : UInv S idOf { st with dead := true } := uinv_mk (uinv_of (st := st) hinv) hinv.obt
  unfold ustep
  split
  · exact hinv
  · cases op with
    | msg m =>
      dsimp only
      unfold RecvUnrel.processMessage
      split
      · exact hinv
      · refine ⟨?_, hinv.wfS, hinv.slices, hinv.marks, hinv.obt⟩
        intro x hx
        rcases List.mem_append.1 hx with hx | hx
        · exact hinv.msgs x hx
        · cases List.mem_singleton.1 hx
          exact g
    | slice sl now =>
      dsimp only
      split
      · rename_i r' h
        exact uinv_mk (uprocessSlice_ok (uinv_of hinv) g h).1 hinv.obt
      · exact hdead
      · exact hdead
    | recv =>
      dsimp only
      split
      · rename_i r' m h
        simpa using uinv_receive hinv h
      · rename_i r' h
        simpa using uinv_receive hinv h
      · exact hdead
      · exact hdead
    | discard now =>
      dsimp only
      split
      · rename_i r' h
        exact uinv_mk (discardLoop_ok _ _ _ h (uinv_of hinv)) hinv.obt
      · exact hdead
      · exact hdead

theorem uinv_run (S : List Bytes) (idOf : Nat → Option Bytes) (ch maxMem : Nat) (ops : List UOp)
    (hg : ∀ op ∈ ops, GenuineU S idOf op) : UInv S idOf (urun (RecvUnrel.new ch maxMem) ops) :=
  foldl_inv ustep (UInv S idOf) (GenuineU S idOf) (ustep_inv S idOf) ops _ (uinv_init S idOf ch maxMem) hg

theorem seen_from_ops : ∀ (ops : List UOp) (st : URunSt) (p : Nat × Nat), p ∈ (ops.foldl ustep st).seen →
    p ∈ st.seen ∨ ∃ sl now, UOp.slice sl now ∈ ops ∧ (sl.messageId, sl.sliceIndex) = p
  | [], st, p, h => Or.inl h
  | op :: ops, st, p, h => by
    rw [List.foldl_cons] at h
    rcases seen_from_ops ops (ustep st op) p h with h1 | ⟨sl, now, hm, he⟩
    · unfold ustep at h1
      split at h1
      · exact Or.inl h1
      · cases op with
        | msg m => exact Or.inl h1
        | slice sl now =>
          dsimp only at h1
          split at h1
          · dsimp only at h1
            rw [List.mem_append] at h1
            rcases h1 with h1 | h1
            · exact Or.inl h1
            · simp only [List.mem_singleton] at h1
              exact Or.inr ⟨sl, now, by simp, h1.symm⟩
          · exact Or.inl h1
          · exact Or.inl h1
        | recv =>
          dsimp only at h1
          split at h1 <;> exact Or.inl h1
        | discard now =>
          dsimp only at h1
          split at h1 <;> exact Or.inl h1
    · exact Or.inr ⟨sl, now, List.mem_cons_of_mem _ hm, he⟩


/-! ### packets as op sequences (`Conn.processPacket` dispatch) -/

theorem foldl_step_dead (ops : List RecvOp) (st : RunSt) (h : st.dead = true) : ops.foldl step st = st := by
  induction ops with
  | nil => rfl
  | cons op ops ih =>
    rw [List.foldl_cons]
    have : step st op = st := by unfold step; rw [if_pos h]
    rw [this, ih]

/-- on a channel error the run is dead and holds the state the error carries (which `Conn.processPacket` stores before
    disconnecting) -/
theorem relMsgLoop_as_ops : ∀ (msgs : List (Nat × Bytes)) (r : RecvRel) (o : List Bytes),
    (∀ r', Conn.relMsgLoop r msgs = .ok r' →
      (msgs.map (fun p => RecvOp.msg p.1 p.2)).foldl step ⟨r, o, false⟩ = ⟨r', o, false⟩) ∧
    (∀ e r', Conn.relMsgLoop r msgs = .err (e, r') →
      (msgs.map (fun p => RecvOp.msg p.1 p.2)).foldl step ⟨r, o, false⟩ = ⟨r', o, true⟩) ∧
    (∀ s, Conn.relMsgLoop r msgs ≠ .panic s)
  | [], r, o => by
    refine ⟨?_, ?_, ?_⟩
    · intro r' h; simp only [Conn.relMsgLoop] at h; cases h; rfl
    · intro e r' h; simp only [Conn.relMsgLoop] at h; cases h
    · intro s h; simp only [Conn.relMsgLoop] at h; cases h
  | (id, m) :: rest, r, o => by
    simp only [Conn.relMsgLoop, List.map_cons, List.foldl_cons]
    have hstep : step ⟨r, o, false⟩ (.msg id m) = match r.processMessage m id with
        | .ok r' => ⟨r', o, false⟩
        | .err _ => ⟨r, o, true⟩
        | .panic _ => ⟨r, o, true⟩ := by
      unfold step; rw [if_neg (by simp)]
    rw [hstep]
    cases hpm : r.processMessage m id with
    | ok r1 =>
      dsimp only
      exact relMsgLoop_as_ops rest r1 o
    | err e =>
      obtain ⟨e1, r1⟩ := e
      obtain ⟨-, rfl, -⟩ := processMessage_err hpm
      dsimp only
      refine ⟨?_, ?_, ?_⟩
      · intro r' h; cases h
      · intro e' r' h; cases h; exact foldl_step_dead _ _ rfl
      · intro s h; cases h
    | panic s => exact absurd hpm (processMessage_no_panic _ _ _ _)

theorem foldl_ustep_msgs : ∀ (msgs : List Bytes) (r : RecvUnrel) (o : List Bytes) (seen : List (Nat × Nat)),
    (msgs.map UOp.msg).foldl ustep ⟨r, o, seen, false⟩ = ⟨msgs.foldl RecvUnrel.processMessage r, o, seen, false⟩
  | [], _, _, _ => rfl
  | m :: rest, r, o, seen => by
    simp only [List.map_cons, List.foldl_cons]
    have : ustep ⟨r, o, seen, false⟩ (.msg m) = ⟨r.processMessage m, o, seen, false⟩ := by
      unfold ustep; rw [if_neg (by simp)]
    rw [this]
    exact foldl_ustep_msgs rest _ o seen

end RenetVerif.DataPath
