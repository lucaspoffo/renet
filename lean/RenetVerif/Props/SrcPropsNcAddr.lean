/-
  C07 (hostile input never panics) stated DIRECTLY about the generated `read_server_addresses` of
  `Generated/Src/NcAddr.lean` (derived from `renetcode/src/token.rs`).  The model reader
  (`Netcode.readServerAddresses : Bytes → Option …`, total by its type) appears only in the proof: `SrcTie.nc_addr_read` (Props/SrcTieNcAddr.lean).
-/
import RenetVerif.Props.SrcTieNcAddr
import RenetVerif.Lemmas.SrcCorollaries
namespace RenetVerif.SrcCor
open RenetVerif RenetVerif.SrcEquiv RenetVerif.RustSem

theorem rcur_ofNats (l : List Nat) (hl : BytesOk l) (pos : Nat) (hpos : pos ≤ l.length) :
    rcur (ofNats l) ((ofNats l).drop pos) = ⟨l, pos⟩ := by
  have hlen : (ofNats l).length = l.length := by simp [ofNats]
  simp only [rcur, toNats_ofNats hl, List.length_drop, hlen]
  congr 1
  omega

end RenetVerif.SrcCor

namespace RenetVerif.SrcProps
open RenetVerif RenetVerif.SrcEquiv RenetVerif.SrcTie RenetVerif.SrcCor RenetVerif.RustSem
open Src.renetcode.token

/-- **C07, `read_server_addresses` never panics**: on EVERY byte list and every cursor position inside it — any
    announced count (clamped to the 32 slots), any address type byte, truncated records — the generated reader returns
    the address array or an `io::Error`. -/
theorem nc_read_server_addresses_never_panics (l : List Nat) (hl : BytesOk l) (pos : Nat) (hpos : pos ≤ l.length) :
    NoPanic (read_server_addresses ⟨l, pos⟩) := by
  have h := nc_addr_read (rest := (ofNats l).drop pos) (buf := ofNats l) (List.drop_suffix _ _)
  rw [rcur_ofNats l hl pos hpos] at h
  rw [← noPanic_forget, h]
  cases Netcode.readServerAddresses ((ofNats l).drop pos) with
  | none => exact noPanic_err _
  | some x => exact noPanic_ok _

example : NoPanic (read_server_addresses ⟨[33, 0, 0, 0] ++ (List.replicate 33 [1, 10, 0, 0, 1, 1, 0]).flatten, 0⟩) :=
  nc_read_server_addresses_never_panics _ (by decide +kernel) 0 (Nat.zero_le _)
/-- hostile inputs evaluated on the generated text: count 2^32-1 with no records, unknown address type, empty input -/
example : (read_server_addresses ⟨[255, 255, 255, 255], 0⟩).forget = .err .opaque := by decide +kernel
example : (read_server_addresses ⟨[1, 0, 0, 0, 9, 1, 2, 3, 4, 5, 6], 0⟩).forget = .err .opaque := by decide +kernel
example : (read_server_addresses ⟨[], 0⟩).forget = .err .opaque := by decide +kernel
example : okSnd (read_server_addresses ⟨[1, 0, 0, 0, 1, 127, 0, 0, 1, 0x88, 0x13, 99], 0⟩) =
    some (some (.v4 [127, 0, 0, 1] 5000) :: List.replicate 31 none) := by decide +kernel

end RenetVerif.SrcProps
