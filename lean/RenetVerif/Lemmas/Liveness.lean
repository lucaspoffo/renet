/-
  LIVENESS of the reliable channels (the "once the network delivers again …" halves of C01 / C02).

  A round theorem `x_inv` is about any state that satisfies the invariants, as one predicate on states that every step
  preserves: `GoodL` (Part 7), with `InvL` for the way back `GoodK` (Part 13); `x` is the same theorem about a state
  reachable from `Sys.init`.  Part 8 says once what the states in between the legs of a round are (`Round`).
-/
import RenetVerif.Lemmas.System
import RenetVerif.Lemmas.ConnInv
import RenetVerif.Lemmas.SrcEquiv.SendTimeInv
import RenetVerif.Props.C06
namespace RenetVerif.Live
open RenetVerif C RenetVerif.System RenetVerif.DataPath RenetVerif.Reasm

/-! ## Part 1 — the backlog of a reliable send channel, and the transmissions it asks for -/

def unackedIdx (n : Nat) (ak : List Bool) : List Nat := (List.range n).filter (fun i => !(ak.getD i false))

/-- a slice costs `SLICE_SIZE` whatever its real length: the code's admission test for a slice is
    `available_bytes >= SLICE_SIZE` -/
def entryCost : Unacked → Nat
  | .small m _ => m.length
  | .sliced _ n _ _ ak _ => SLICE_SIZE * (unackedIdx n ak).length

def backlog : SMap Unacked → Nat
  | [] => 0
  | (_, u) :: r => entryCost u + backlog r

@[simp] theorem backlog_nil : backlog [] = 0 := rfl
@[simp] theorem backlog_cons (k : Nat) (u : Unacked) (r : SMap Unacked) : backlog ((k, u) :: r) = entryCost u + backlog r := rfl

theorem backlog_append : ∀ (a b : SMap Unacked), backlog (a ++ b) = backlog a + backlog b
  | [], b => by simp
  | (k, u) :: a, b => by simp only [List.cons_append, backlog_cons, backlog_append a b]; omega

def EntryDue (now resend : Nat) : Unacked → Prop
  | .small _ ls => smallDue now resend ls = true
  | .sliced _ n _ _ ak ls => ∀ i, i < n → ak.getD i false = false → smallDue now resend (ls.getD i none) = true

def AllDue (now resend : Nat) (un : SMap Unacked) : Prop := ∀ x ∈ un, EntryDue now resend x.2

instance (now resend : Nat) (u : Unacked) : Decidable (EntryDue now resend u) := by
  cases u <;> unfold EntryDue <;> infer_instance

instance (now resend : Nat) (un : SMap Unacked) : Decidable (AllDue now resend un) := by
  unfold AllDue; infer_instance

def _root_.RenetVerif.Tx.In (ps : List Packet) (ch : Nat) : Tx → Prop
  | .small id m => ∃ sq msgs, Packet.smallReliable sq ch msgs ∈ ps ∧ (id, m) ∈ msgs
  | .slice id m n i => ∃ sq, Packet.reliableSlice sq ch ⟨id, i, n, sliceBytes m n i⟩ ∈ ps

theorem _root_.RenetVerif.Tx.In.mono {ps ps' : List Packet} (h : ∀ p ∈ ps, p ∈ ps') {ch : Nat} :
    ∀ {t : Tx}, t.In ps ch → t.In ps' ch
  | .small .., ⟨sq, msgs, h1, h2⟩ => ⟨sq, msgs, h _ h1, h2⟩
  | .slice .., ⟨sq, h1⟩ => ⟨sq, h _ h1⟩

theorem loop_idx_perm (n start : Nat) : ((List.range n).map fun i0 => (start + i0) % n).Perm (List.range n) := by
  refine (List.perm_ext_iff_of_nodup (nodup_loop_idx n start) List.nodup_range).mpr fun a => ?_
  rw [List.mem_range, List.mem_map]
  constructor
  · rintro ⟨i0, hi0, rfl⟩
    exact Nat.mod_lt _ (Nat.lt_of_le_of_lt (Nat.zero_le _) (List.mem_range.mp hi0))
  · intro ha
    obtain ⟨i0, hi0, e⟩ := exists_loop_index start n a ha
    exact ⟨i0, List.mem_range.mpr hi0, e⟩

theorem loop_filter_length (n start : Nat) (p : Nat → Bool) :
    (((List.range n).map fun i0 => (start + i0) % n).filter p).length = ((List.range n).filter p).length :=
  ((loop_idx_perm n start).filter p).length_eq

/-! ### the transmissions a backlog asks for

  The backlog is the sum of what its pending transmissions need (`backlog_eq_pendTx`); when everything is due they are the
  flagged candidates of the scan (`relCands_of_due`), and the packets of the flush carry what the scan takes (`taken_in`). -/

/-- the transmissions an entry still asks for, in the order of the slice loop -/
def _root_.RenetVerif.Unacked.pend (id : Nat) : Unacked → List Tx
  | .small m _ => [.small id m]
  | .sliced m n _ nx ak _ =>
    (((List.range n).map fun i0 => (nx + i0) % n).filter fun i => !(ak.getD i false)).map (.slice id m n)

def pendTx (un : SMap Unacked) : List Tx := un.flatMap fun x => x.2.pend x.1

/-- the slice loop visits every index once: what a sliced entry asks for are its un-acknowledged slices -/
theorem mem_pend_sliced {id n na nx : Nat} {m : Bytes} {ak : List Bool} {ls : List (Option Nat)} {t : Tx} :
    t ∈ (Unacked.sliced m n na nx ak ls).pend id ↔ ∃ i, i < n ∧ ak.getD i false = false ∧ t = .slice id m n i := by
  simp only [Unacked.pend, List.mem_map, List.mem_filter, List.mem_range]
  constructor
  · rintro ⟨i, ⟨⟨i0, hi0, rfl⟩, hak⟩, rfl⟩
    exact ⟨_, Nat.mod_lt _ (by omega), by simpa using hak, rfl⟩
  · rintro ⟨i, hi, hak, rfl⟩
    obtain ⟨i0, hi0, rfl⟩ := exists_loop_index nx n i hi
    exact ⟨_, ⟨⟨i0, hi0, rfl⟩, by simpa using hak⟩, rfl⟩

theorem mem_pendTx_small {un : SMap Unacked} {id : Nat} {m : Bytes} :
    .small id m ∈ pendTx un ↔ ∃ ls, (id, Unacked.small m ls) ∈ un := by
  simp only [pendTx, List.mem_flatMap]
  constructor
  · rintro ⟨⟨id', u⟩, hu, ht⟩
    cases u with
    | small m' ls => simp only [Unacked.pend, List.mem_singleton, Tx.small.injEq] at ht; obtain ⟨rfl, rfl⟩ := ht; exact ⟨ls, hu⟩
    | sliced m' n na nx ak ls => simp [Unacked.pend] at ht
  · rintro ⟨ls, hu⟩
    exact ⟨_, hu, List.mem_singleton.mpr rfl⟩

theorem mem_pendTx_slice {un : SMap Unacked} {id n i : Nat} {m : Bytes} :
    .slice id m n i ∈ pendTx un ↔
      ∃ na nx ak ls, (id, Unacked.sliced m n na nx ak ls) ∈ un ∧ i < n ∧ ak.getD i false = false := by
  simp only [pendTx, List.mem_flatMap]
  constructor
  · rintro ⟨⟨id', u⟩, hu, ht⟩
    cases u with
    | small m' ls => simp [Unacked.pend] at ht
    | sliced m' n' na nx ak ls =>
      obtain ⟨i', hi, hak, e⟩ := mem_pend_sliced.mp ht
      cases e
      exact ⟨na, nx, ak, ls, hu, hi, hak⟩
  · rintro ⟨na, nx, ak, ls, hu, hi, hak⟩
    exact ⟨_, hu, mem_pend_sliced.mpr ⟨i, hi, hak, rfl⟩⟩

theorem cands_of_due {now resend id : Nat} : ∀ {u : Unacked}, EntryDue now resend u →
    ((u.cands now resend id).filter (·.2)).map (·.1) = u.pend id
  | .small m ls, h => by
    have h : smallDue now resend ls = true := h
    simp [Unacked.cands, Unacked.pend, h]
  | .sliced m n na nx ak ls, h => by
    simp only [Unacked.cands, sliceCands, Unacked.pend, List.filter_map, List.map_map]
    congr 1
    refine List.filter_congr fun i0 hi0 => ?_
    have := h ((nx + i0) % n) (Nat.mod_lt _ (by have := List.mem_range.mp hi0; omega))
    simp only [Function.comp]
    cases hak : ak.getD ((nx + i0) % n) false
    · rw [this hak]; rfl
    · rfl

theorem relCands_of_due {now resend : Nat} : ∀ {un : SMap Unacked}, AllDue now resend un →
    ((relCands now resend un).filter (·.2)).map (·.1) = pendTx un
  | [], _ => rfl
  | (id, u) :: r, h => by
    rw [relCands_cons, List.filter_append, List.map_append, cands_of_due (h _ (List.mem_cons_self ..)),
      relCands_of_due fun x hx => h x (List.mem_cons_of_mem _ hx)]
    simp [pendTx]

theorem mem_relCands_of_due {now resend : Nat} {un : SMap Unacked} (h : AllDue now resend un) {t : Tx} :
    (t, true) ∈ relCands now resend un ↔ t ∈ pendTx un := by
  rw [← relCands_of_due h, List.mem_map]
  exact ⟨fun h => ⟨_, List.mem_filter.mpr ⟨h, rfl⟩, rfl⟩, fun ⟨⟨t', d⟩, hx, e⟩ => by
    obtain ⟨hx, hd⟩ := List.mem_filter.mp hx
    cases e
    cases (show d = true from hd)
    exact hx⟩

theorem needSum_eq (C : List (Tx × Bool)) : needSum C = (((C.filter (·.2)).map (·.1)).map Tx.need).sum := by
  rw [needSum, List.map_map]; rfl

theorem backlog_eq_pendTx : ∀ (un : SMap Unacked), backlog un = ((pendTx un).map Tx.need).sum
  | [] => rfl
  | (id, .small m ls) :: r => by
    rw [backlog_cons, backlog_eq_pendTx r]
    simp [pendTx, Unacked.pend, entryCost, Tx.need]
  | (id, .sliced m n na nx ak ls) :: r => by
    rw [backlog_cons, backlog_eq_pendTx r]
    have e : ((((List.range n).map fun i0 => (nx + i0) % n).filter fun i => !(ak.getD i false)).map (Tx.slice id m n)).map Tx.need
        = List.replicate (unackedIdx n ak).length SLICE_SIZE := by
      rw [unackedIdx, ← loop_filter_length n nx, List.map_map, ← List.map_const']
      rfl
    simp only [pendTx, List.flatMap_cons, Unacked.pend, List.map_append, List.sum_append, e, List.sum_replicate_nat, entryCost]
    rw [Nat.mul_comm]

theorem taken_in (s : SendRel) (seq avail now : Nat) :
    ∀ t ∈ greedy (relCands now s.resend s.unacked) avail, t.In (s.getPackets seq avail now).2.1 s.ch
  | .small .., ht => SendRel.taken_small rfl ht
  | .slice .., ht => SendRel.taken_slice rfl ht

/-! ## Part 2 — the receive channel: what has arrived stays arrived, and every delivered entry arrives -/

def HaveSlice (r : RecvRel) (id i : Nat) : Prop :=
  Have r id ∨ ∃ c, SMap.find? r.slices id = some c ∧ c.received[i]? = some true

/-- `r'` is at least as far along as `r`: what has arrived has arrived, and a reassembly in progress has been completed
    or goes on with every slice it held.  Every call on a receive channel leads to such a state; it is what keeps
    `HaveSlice` (hence `Arrived`) and lets `pend` only fall. -/
def Advanced (r r' : RecvRel) : Prop :=
  (∀ j, Have r j → Have r' j) ∧ ∀ j c, SMap.find? r.slices j = some c →
    Have r' j ∨ ∃ c', SMap.find? r'.slices j = some c' ∧ ∀ i : Nat, c.received[i]? = some true → c'.received[i]? = some true

theorem Advanced.of_slices {r r' : RecvRel} (hh : ∀ j, Have r j → Have r' j) (hs : r'.slices = r.slices) : Advanced r r' :=
  ⟨hh, fun _ c hc => Or.inr ⟨c, hs ▸ hc, fun _ h => h⟩⟩

theorem Advanced.haveSlice {r r' : RecvRel} (g : Advanced r r') {j i : Nat} (h : HaveSlice r j i) : HaveSlice r' j i := by
  rcases h with h | ⟨c, hc, hi⟩
  · exact Or.inl (g.1 j h)
  · exact (g.2 j c hc).imp_right fun ⟨c', hc', hset⟩ => ⟨c', hc', hset i hi⟩

theorem Advanced.contains {r r' : RecvRel} (g : Advanced r r') {j : Nat} (hj : SMap.contains r.slices j = true) :
    SMap.contains r'.slices j = true ∨ Have r' j := by
  obtain ⟨c, hc⟩ := SMap.contains_iff_find?.mp hj
  exact (g.2 j c hc).symm.imp_left fun ⟨c', hc', _⟩ => SMap.contains_iff_find?.mpr ⟨c', hc'⟩

theorem have_of_accept {r r' : RecvRel} {id : Nat} {m : Bytes} (h : Accept r r' id m) : ∀ j, Have r j → Have r' j := by
  intro j hj
  rcases h with hq | ⟨-, hq⟩
  · exact (hq.have_iff j).mpr hj
  · exact (hq.have_iff j).mpr ((have_push ..).mpr (.inl hj))

theorem processMessage_have {r r' : RecvRel} {m : Bytes} {id : Nat} (h : r.processMessage m id = .ok r') :
    Have r' id ∧ (∀ j, Have r j → Have r' j) ∧ r'.slices = r.slices ∧ r'.maxMem = r.maxMem ∧
      r'.mem ≤ r.mem + m.length := by
  obtain ⟨ha, hs, hm, hx, hv⟩ := processMessage_ok h
  exact ⟨hv, have_of_accept ha, hs, hx, hm⟩

theorem relMsgLoop_have : ∀ (msgs : List (Nat × Bytes)) (r r' : RecvRel), Conn.relMsgLoop r msgs = .ok r' →
    (∀ x ∈ msgs, Have r' x.1) ∧ (∀ j, Have r j → Have r' j) ∧ r'.slices = r.slices
  | [], r, r', h => by
    simp only [Conn.relMsgLoop, Res.ok.injEq] at h; subst h
    exact ⟨fun _ h => (by cases h), fun _ h => h, rfl⟩
  | (id, m) :: rest, r, r', h => by
    simp only [Conn.relMsgLoop] at h
    cases hp : r.processMessage m id with
    | ok r1 =>
      rw [hp] at h
      obtain ⟨a1, a2, a3, -⟩ := processMessage_have hp
      obtain ⟨b1, b2, b3⟩ := relMsgLoop_have rest _ _ h
      refine ⟨?_, fun j hj => b2 j (a2 j hj), b3.trans a3⟩
      intro x hx
      rcases List.mem_cons.mp hx with rfl | hx
      · exact b2 _ a1
      · exact b1 x hx
    | err e => rw [hp] at h; cases h
    | panic s => rw [hp] at h; cases h

theorem receive_have {r r' : RecvRel} {out : Option Bytes} (hw : DataPath.WF r.messages) (h : r.receive = .ok (r', out)) :
    Advanced r r' := by
  rcases RecvRel.receive_ok_iff.mp h with ⟨-, rfl, -⟩ | ⟨id, x, hn, -, rfl, -⟩
  · exact .of_slices (fun _ h => h) rfl
  · obtain ⟨-, ho, hrec⟩ := r.pop_keeps id x
    refine .of_slices (fun j hj => ?_) rfl
    rcases hj with hj | hj
    · exact Or.inl (Nat.lt_of_lt_of_le hj ho)
    · by_cases hord : r.ordered = true
      · rw [if_pos hord] at hj
        by_cases e : j = id
        · subst e; exact Or.inl (RecvRel.next_lt_pop hord hn)
        · refine Or.inr ?_
          show if r.ordered = true then SMap.contains (SMap.erase r.messages id) j = true else _
          rw [if_pos hord]
          unfold SMap.contains at hj ⊢
          rw [SMap.find?_erase hw.nodup, if_neg (fun c => e c.symm)]; exact hj
      · rw [if_neg hord] at hj
        exact (hrec j hj).imp_right fun hx => by
          show if r.ordered = true then _ else j ∈ (r.pop id x).received
          rw [if_neg hord]; exact hx

theorem exists_not_true_of_count_lt : ∀ (l : List Bool), l.count true < l.length → ∃ i, i < l.length ∧ l[i]? ≠ some true
  | [], h => by simp at h
  | b :: r, h => by
    cases b with
    | false => exact ⟨0, by simp, by simp⟩
    | true =>
      simp only [List.count_cons_self, List.length_cons] at h
      obtain ⟨i, h1, h2⟩ := exists_not_true_of_count_lt r (by omega)
      exact ⟨i + 1, by simp; omega, by simpa using h2⟩

theorem have_of_all_slices {L : List Bytes} {r : RecvRel} (hs : SlicesOK L r) (hi : r.WInv) {id : Nat} {m : Bytes}
    (hL : L[id]? = some m) (hlen : SLICE_SIZE < m.length)
    (hall : ∀ i, i < divCeil m.length SLICE_SIZE → HaveSlice r id i) : Have r id := by
  cases hf : SMap.find? r.slices id with
  | none =>
    rcases hall 0 (divCeil_pos m.length (by omega)) with h | ⟨c, hc, -⟩
    · exact h
    · rw [hf] at hc; cases hc
  | some c =>
    obtain ⟨m', hL', hlen', hag⟩ := hs.2 _ _ hf
    rw [hL] at hL'; cases hL'
    have hcinv : c.Inv := by
      rcases hi.slicesOk.of_find? hf with h0 | h
      · have := hag.numSlices
        have hp := divCeil_pos m.length (by omega)
        omega
      · exact h
    obtain ⟨_, h2, h3, h4, _⟩ := hcinv
    obtain ⟨i, hi1, hi2⟩ := exists_not_true_of_count_lt c.received (by omega)
    rcases hall i (by rw [← hag.numSlices, ← h2]; exact hi1) with h | ⟨c', hc', hi'⟩
    · exact h
    · rw [hf] at hc'; cases hc'
      exact absurd hi' hi2

/-! ## Part 3 — memory: when the receive channel has room for what is still to come, nothing is refused -/

/-- bytes of the receive channel's memory budget that message `id` of the log will still claim: nothing when it has
    arrived; its length when it is small; `num_slices * SLICE_SIZE` (the reservation made for a NEW slice constructor)
    when it is sliced and no reassembly is in progress (a reassembly in progress is already accounted in `mem`) -/
def pend (L : List Bytes) (r : RecvRel) (id : Nat) : Nat :=
  match L[id]? with
  | none => 0
  | some m =>
    if Have r id then 0
    else if m.length ≤ SLICE_SIZE then m.length
    else if SMap.contains r.slices id = true then 0
    else divCeil m.length SLICE_SIZE * SLICE_SIZE

def psum (L : List Bytes) (r : RecvRel) : Nat := ((List.range L.length).map (pend L r)).sum

def Room (L : List Bytes) (r : RecvRel) : Prop := r.mem + psum L r ≤ r.maxMem

instance (L : List Bytes) (r : RecvRel) : Decidable (Room L r) := by unfold Room; infer_instance

theorem sum_map_le {f g : Nat → Nat} : ∀ {l : List Nat}, (∀ j ∈ l, f j ≤ g j) → (l.map f).sum ≤ (l.map g).sum
  | [], _ => Nat.le_refl _
  | a :: r, h => by
    have h1 := h a (List.mem_cons_self ..)
    have h2 := sum_map_le (l := r) (fun j hj => h j (List.mem_cons_of_mem _ hj))
    simp only [List.map_cons, List.sum_cons]; omega

theorem sum_map_le_sub {f g : Nat → Nat} {k X : Nat} (hX : f k + X ≤ g k) :
    ∀ {l : List Nat}, (∀ j ∈ l, f j ≤ g j) → k ∈ l → (l.map f).sum + X ≤ (l.map g).sum
  | [], _, hk => by cases hk
  | a :: r, h, hk => by
    simp only [List.map_cons, List.sum_cons]
    by_cases e : a = k
    · subst e
      have h2 := sum_map_le (l := r) (fun j hj => h j (List.mem_cons_of_mem _ hj))
      omega
    · have h1 := h a (List.mem_cons_self ..)
      have hk' : k ∈ r := by
        rcases List.mem_cons.mp hk with e' | e'
        · exact absurd e'.symm e
        · exact e'
      have h2 := sum_map_le_sub hX (l := r) (fun j hj => h j (List.mem_cons_of_mem _ hj)) hk'
      omega

theorem le_sum_map {f : Nat → Nat} {k : Nat} : ∀ {l : List Nat}, k ∈ l → f k ≤ (l.map f).sum
  | [], hk => by cases hk
  | a :: r, hk => by
    simp only [List.map_cons, List.sum_cons]
    rcases List.mem_cons.mp hk with e | e
    · subst e; omega
    · have := le_sum_map (f := f) e; omega

theorem pend_le {L : List Bytes} {r r' : RecvRel} (g : Advanced r r') (id : Nat) : pend L r' id ≤ pend L r id := by
  unfold pend
  cases L[id]? with
  | none => exact Nat.le_refl _
  | some m =>
    dsimp only
    by_cases h' : Have r' id
    · rw [if_pos h']; exact Nat.zero_le _
    · have h0 : ¬ Have r id := fun h => h' (g.1 _ h)
      rw [if_neg h', if_neg h0]
      split
      · exact Nat.le_refl _
      · by_cases c : SMap.contains r.slices id = true
        · rcases g.contains c with c' | c'
          · rw [if_pos c', if_pos c]; exact Nat.le_refl _
          · exact absurd c' h'
        · rw [if_neg c]; split
          · exact Nat.zero_le _
          · exact Nat.le_refl _

theorem pend_have {L : List Bytes} {r : RecvRel} {id : Nat} (h : Have r id) : pend L r id = 0 := by
  unfold pend
  cases L[id]? with
  | none => rfl
  | some m => dsimp only; rw [if_pos h]

theorem psum_le {L : List Bytes} {r r' : RecvRel} (g : Advanced r r') : psum L r' ≤ psum L r :=
  sum_map_le (fun j _ => pend_le g j)

theorem psum_le_sub {L : List Bytes} {r r' : RecvRel} (g : Advanced r r') {id X : Nat} (hid : id < L.length)
    (hX : pend L r' id + X ≤ pend L r id) : psum L r' + X ≤ psum L r :=
  sum_map_le_sub hX (fun j _ => pend_le g j) (List.mem_range.mpr hid)

theorem pend_le_psum {L : List Bytes} {r : RecvRel} {id : Nat} (hid : id < L.length) : pend L r id ≤ psum L r :=
  le_sum_map (List.mem_range.mpr hid)

theorem processMessage_room {L : List Bytes} {r : RecvRel} {id : Nat} {m : Bytes} (hg : L[id]? = some m)
    (hsm : m.length ≤ SLICE_SIZE) (hroom : Room L r) :
    ∃ r', r.processMessage m id = .ok r' ∧ Room L r' := by
  by_cases hv : Have r id
  · exact ⟨r, by rw [RecvRel.processMessage_eq, if_pos hv], hroom⟩
  · have hid : id < L.length := (List.getElem?_eq_some_iff.mp hg).1
    have hp : pend L r id = m.length := by
      unfold pend; rw [hg]; dsimp only; rw [if_neg hv, if_pos hsm]
    have hle := pend_le_psum (L := L) (r := r) hid
    unfold Room at hroom
    have e := processMessage_push (m := m) hv (by omega)
    have hm : (r.push id m).mem = r.mem + m.length ∧ (r.push id m).maxMem = r.maxMem := ⟨rfl, rfl⟩
    obtain ⟨a1, a2, a3, -⟩ := processMessage_have e
    refine ⟨_, e, ?_⟩
    unfold Room
    have := psum_le_sub (L := L) (.of_slices a2 a3) hid (X := m.length)
      (by rw [pend_have a1, hp]; omega)
    omega

theorem relMsgLoop_room {L : List Bytes} : ∀ (msgs : List (Nat × Bytes)) (r : RecvRel),
    (∀ x ∈ msgs, L[x.1]? = some x.2 ∧ x.2.length ≤ SLICE_SIZE) → Room L r →
    ∃ r', Conn.relMsgLoop r msgs = .ok r' ∧ Room L r'
  | [], r, _, hroom => ⟨r, rfl, hroom⟩
  | (id, m) :: rest, r, hg, hroom => by
    obtain ⟨g1, g2⟩ := hg (id, m) (List.mem_cons_self ..)
    obtain ⟨r1, e1, hr1⟩ := processMessage_room g1 g2 hroom
    obtain ⟨r2, e2, hr2⟩ := relMsgLoop_room rest r1 (fun x hx => hg x (List.mem_cons_of_mem _ hx)) hr1
    refine ⟨r2, ?_, hr2⟩
    simp only [Conn.relMsgLoop, e1]
    exact e2

theorem receive_room {L : List Bytes} {r r' : RecvRel} {out : Option Bytes} (hw : DataPath.WF r.messages)
    (hroom : Room L r) (h : r.receive = .ok (r', out)) : Room L r' := by
  have hps := psum_le (L := L) (receive_have hw h)
  have hmem : r'.mem ≤ r.mem ∧ r'.maxMem = r.maxMem := by
    rcases RecvRel.receive_ok_iff.mp h with ⟨-, rfl, -⟩ | ⟨id, x, -, -, rfl, -⟩
    · exact ⟨Nat.le_refl _, rfl⟩
    · exact ⟨Nat.sub_le _ _, rfl⟩
  unfold Room at hroom ⊢
  omega

theorem processSlice_of_have {r : RecvRel} (sl : Slice) (hmh : MsgsHave r) :
    r.processSlice sl = if Have r sl.messageId then .ok r else r.reserveStep sl >>= fun r1 => r1.sliceStep sl := by
  rw [RecvRel.processSlice_eq]
  by_cases hv : Have r sl.messageId
  · rw [if_pos hv]
    by_cases h1 : SMap.contains r.messages sl.messageId = true ∨ sl.messageId < r.oldest
    · rw [if_pos h1]
    · have h2 : ¬ r.ordered = true ∧ r.received.contains sl.messageId = true := by
        rcases hv with hv | hv
        · exact absurd (Or.inr hv) h1
        · by_cases ho : r.ordered = true
          · rw [if_pos ho] at hv; exact absurd (Or.inl hv) h1
          · rw [if_neg ho] at hv; exact ⟨ho, by simpa using hv⟩
      rw [if_neg h1, if_pos h2]
  · have h1 : ¬ (SMap.contains r.messages sl.messageId = true ∨ sl.messageId < r.oldest) := by
      rintro (h | h)
      · exact hv (hmh _ h)
      · exact hv (Or.inl h)
    have h2 : ¬ (¬ r.ordered = true ∧ r.received.contains sl.messageId = true) := by
      rintro ⟨ha, hb⟩
      exact hv (Or.inr (by rw [if_neg ha]; simpa using hb))
    rw [if_neg hv, if_neg h1, if_neg h2]

theorem reserveStep_inv {r r1 : RecvRel} {sl : Slice} (h : r.reserveStep sl = .ok r1) :
    r1.maxMem = r.maxMem ∧ (∃ c, SMap.find? r1.slices sl.messageId = some c) ∧
    (∀ j c, SMap.find? r.slices j = some c → SMap.find? r1.slices j = some c) ∧
    ((SMap.contains r.slices sl.messageId = true ∧ r1.slices = r.slices ∧ r1.mem = r.mem) ∨
     (¬ SMap.contains r.slices sl.messageId = true ∧
       SMap.find? r1.slices sl.messageId = some (SliceCtor.new sl.numSlices) ∧
       r1.mem = r.mem + sl.numSlices * SLICE_SIZE ∧ r1.mem ≤ r.maxMem)) := by
  rcases r.reserveStep_cases sl with ⟨hc, e⟩ | ⟨hc, ⟨-, e⟩ | ⟨hm, e⟩⟩ <;> cases e.symm.trans h
  · exact ⟨rfl, SMap.contains_iff_find?.mp hc, fun _ _ h => h, Or.inl ⟨hc, rfl, rfl⟩⟩
  · have hf : SMap.find? (SMap.insert r.slices sl.messageId (SliceCtor.new sl.numSlices)) sl.messageId =
        some (SliceCtor.new sl.numSlices) := by rw [SMap.find?_insert, if_pos rfl]
    refine ⟨rfl, ⟨_, hf⟩, ?_, Or.inr ⟨hc, hf, rfl, hm⟩⟩
    intro j c hj
    dsimp only
    rw [SMap.find?_insert]
    by_cases e : sl.messageId = j
    · subst e; exact absurd (SMap.contains_iff_find?.mpr ⟨c, hj⟩) hc
    · rw [if_neg e]; exact hj

theorem sliceStep_genuine {L : List Bytes} {r : RecvRel} {sl : Slice} {m : Bytes} {c : SliceCtor}
    (hs : SlicesOK L r) (hL : L[sl.messageId]? = some m) (g : SliceOf m sl)
    (hfind : SMap.find? r.slices sl.messageId = some c) :
    c.numSlices = sl.numSlices ∧ ∃ c', (∀ i : Nat, c.received[i]? = some true → c'.received[i]? = some true) ∧
      c'.received[sl.sliceIndex]? = some true ∧
      (r.sliceStep sl = .ok { r with slices := SMap.insert r.slices sl.messageId c' } ∨
       r.sliceStep sl =
         if c.numSlices * SLICE_SIZE ≤ r.mem then
           ({ r with mem := r.mem - c.numSlices * SLICE_SIZE, slices := SMap.insert r.slices sl.messageId c' } :
              RecvRel).processMessage m sl.messageId >>= fun r3 =>
            pure { r3 with slices := SMap.erase r3.slices sl.messageId }
         else .panic "reliable.rs memory_usage_bytes -= num_slices * SLICE_SIZE") := by
  obtain ⟨m', hL', -, hag⟩ := hs.2 _ _ hfind
  rw [hL] at hL'; cases hL'
  obtain ⟨hcn, c', out, hproc, hrecv, -, hsome, -⟩ := ctor_slice g hag
  have hidx : sl.sliceIndex < c.received.length := by rw [hag.recvLen, ← g.2.1]; exact g.2.2.1
  refine ⟨hcn, c', ?_, ?_, ?_⟩
  · intro i hi
    rw [hrecv, List.getElem?_set]
    by_cases e : sl.sliceIndex = i
    · rw [if_pos e, if_pos hidx]
    · rw [if_neg e]; exact hi
  · rw [hrecv, List.getElem?_set, if_pos rfl, if_pos hidx]
  · unfold RecvRel.sliceStep
    rw [hfind]
    dsimp only
    rw [if_neg (by simp [hcn]), hproc]
    cases out with
    | none => exact Or.inl rfl
    | some mm =>
      cases hsome mm rfl
      refine Or.inr ?_
      unfold Res.csub
      by_cases hle : c.numSlices * SLICE_SIZE ≤ r.mem
      · rw [if_pos hle, if_pos hle]; rfl
      · rw [if_neg hle, if_neg hle]; rfl

theorem pend_unstarted {L : List Bytes} {r : RecvRel} {id : Nat} {m : Bytes} (hL : L[id]? = some m)
    (hlen : SLICE_SIZE < m.length) (hv : ¬ Have r id) (hc : ¬ SMap.contains r.slices id = true) :
    pend L r id = divCeil m.length SLICE_SIZE * SLICE_SIZE := by
  unfold pend
  rw [hL]
  dsimp only
  rw [if_neg hv, if_neg (by omega), if_neg hc]

theorem pend_haveSlice {L : List Bytes} {r : RecvRel} {id i : Nat} {m : Bytes} (hL : L[id]? = some m)
    (hlen : SLICE_SIZE < m.length) (h : HaveSlice r id i) : pend L r id = 0 := by
  rcases h with h | ⟨c, hc, -⟩
  · exact pend_have h
  · unfold pend
    rw [hL]
    dsimp only
    by_cases hv : Have r id
    · rw [if_pos hv]
    · rw [if_neg hv, if_neg (by omega), if_pos (SMap.contains_iff_find?.mpr ⟨c, hc⟩)]

theorem processSlice_spec {L : List Bytes} {r r' : RecvRel} {sl : Slice} (hs : SlicesOK L r) (hmh : MsgsHave r)
    (g : GenuineSlice L sl) (h : r.processSlice sl = .ok r') :
    HaveSlice r' sl.messageId sl.sliceIndex ∧ Advanced r r' ∧ r'.maxMem = r.maxMem ∧
      r'.mem ≤ r.mem + pend L r sl.messageId := by
  obtain ⟨-, m0, -, hacc⟩ := processSlice_ok hs g h
  have hmono := have_of_accept hacc
  obtain ⟨m, hL, g⟩ := g
  rw [processSlice_of_have sl hmh] at h
  by_cases hv : Have r sl.messageId
  · rw [if_pos hv] at h
    cases h
    exact ⟨Or.inl hv, .of_slices (fun _ h => h) rfl, rfl, Nat.le_add_right _ _⟩
  rw [if_neg hv] at h
  obtain ⟨r1, hh, h⟩ := Res.bind_ok_iff.mp h
  obtain ⟨hs1, -⟩ := reserveStep_ok hs hL g.1 g.2.1 hh
  obtain ⟨hmax1, ⟨c, hfind⟩, hkeep, hmem1⟩ := reserveStep_inv hh
  have hmem : r1.mem ≤ r.mem + pend L r sl.messageId := by
    rcases hmem1 with ⟨-, -, e⟩ | ⟨hc, -, e, -⟩
    · omega
    · rw [pend_unstarted hL g.1 hv hc, ← g.2.1]; omega
  obtain ⟨hcn, c', hset, hself, ht | ht⟩ := sliceStep_genuine hs1 hL g hfind
  · cases ht.symm.trans h
    refine ⟨Or.inr ⟨c', by dsimp only; rw [SMap.find?_insert, if_pos rfl], hself⟩, ⟨hmono, ?_⟩, hmax1, hmem⟩
    intro j c0 hc0
    right
    have h1 := hkeep j c0 hc0
    dsimp only
    rw [SMap.find?_insert]
    by_cases e : sl.messageId = j
    · subst e
      rw [hfind] at h1; cases h1
      exact ⟨c', if_pos rfl, hset⟩
    · rw [if_neg e]; exact ⟨c0, h1, fun _ h => h⟩
  · rw [ht] at h
    by_cases hle : c.numSlices * SLICE_SIZE ≤ r1.mem
    · rw [if_pos hle] at h
      obtain ⟨r3, hpm, h⟩ := Res.bind_ok_iff.mp h
      cases h
      obtain ⟨hv3, -, hsl3, hmax3, hmem3⟩ := processMessage_have hpm
      have hvr : Have ({ r3 with slices := SMap.erase r3.slices sl.messageId } : RecvRel) sl.messageId :=
        (SameQ.have_iff ⟨rfl, rfl, rfl, rfl⟩ _).mpr hv3
      have hK : m.length ≤ c.numSlices * SLICE_SIZE := by rw [hcn, g.2.1]; exact divCeil_mul_ge m.length
      refine ⟨Or.inl hvr, ⟨hmono, ?_⟩, hmax3.trans hmax1, ?_⟩
      · intro j c0 hc0
        by_cases e : sl.messageId = j
        · subst e; exact Or.inl hvr
        · refine Or.inr ⟨c0, ?_, fun _ h => h⟩
          dsimp only
          rw [hsl3]
          dsimp only
          rw [SMap.find?_erase (wf_insert hs1.1 _ _).nodup, if_neg e, SMap.find?_insert, if_neg e]
          exact hkeep j c0 hc0
      · dsimp only at hmem3 ⊢
        omega
    · rw [if_neg hle] at h; cases h

/-- `hacct`: the reservation of a reassembly in progress is part of `mem` (exact accounting, C09). -/
theorem processSlice_room {L : List Bytes} {r : RecvRel} {sl : Slice} (hs : SlicesOK L r) (hmh : MsgsHave r)
    (hacct : ∀ c, SMap.find? r.slices sl.messageId = some c → c.numSlices * SLICE_SIZE ≤ r.mem)
    (g : GenuineSlice L sl) (hroom : Room L r) :
    ∃ r', r.processSlice sl = .ok r' ∧ Room L r' := by
  have hg := g
  obtain ⟨m, hL, g⟩ := g
  have hid : sl.messageId < L.length := (List.getElem?_eq_some_iff.mp hL).1
  have hle := pend_le_psum (L := L) (r := r) hid
  unfold Room at hroom
  have hex : ∃ r', r.processSlice sl = .ok r' := by
    rw [processSlice_of_have sl hmh]
    by_cases hv : Have r sl.messageId
    · rw [if_pos hv]; exact ⟨r, rfl⟩
    rw [if_neg hv]
    have hhead : ∃ r1, r.reserveStep sl = .ok r1 := by
      rcases r.reserveStep_cases sl with ⟨-, e⟩ | ⟨hc, ⟨hm, -⟩ | ⟨-, e⟩⟩
      · exact ⟨_, e⟩
      · rw [pend_unstarted hL g.1 hv hc, ← g.2.1] at hle; omega
      · exact ⟨_, e⟩
    obtain ⟨r1, hh⟩ := hhead
    obtain ⟨hs1, a⟩ := reserveStep_ok hs hL g.1 g.2.1 hh
    obtain ⟨hmax1, ⟨c, hfind⟩, -, hmem1⟩ := reserveStep_inv hh
    obtain ⟨hcn, c', -, -, ht | ht⟩ := sliceStep_genuine hs1 hL g hfind
    · exact ⟨_, Res.bind_ok_iff.mpr ⟨r1, hh, ht⟩⟩
    · -- the reservation of `c` is in `r1.mem`, and the message is no longer than the reservation
      have hacc1 : c.numSlices * SLICE_SIZE ≤ r1.mem ∧ r1.mem ≤ r.maxMem := by
        rcases hmem1 with ⟨-, e1, e2⟩ | ⟨-, e1, e2, e3⟩
        · rw [e1] at hfind; rw [e2]; exact ⟨hacct c hfind, by omega⟩
        · rw [e1] at hfind; cases hfind
          exact ⟨by rw [e2]; dsimp only [SliceCtor.new]; omega, e3⟩
      have hK : m.length ≤ c.numSlices * SLICE_SIZE := by rw [hcn, g.2.1]; exact divCeil_mul_ge m.length
      rw [if_pos hacc1.1] at ht
      have e3 := processMessage_push
        (r := { r1 with mem := r1.mem - c.numSlices * SLICE_SIZE, slices := SMap.insert r1.slices sl.messageId c' })
        (m := m) (id := sl.messageId) (fun h => hv ((a.have_iff _).mp h)) (by dsimp only; omega)
      rw [e3] at ht
      exact ⟨_, Res.bind_ok_iff.mpr ⟨r1, hh, ht⟩⟩
  obtain ⟨r', h⟩ := hex
  obtain ⟨hA, hadv, hmax, hmem⟩ := processSlice_spec hs hmh hg h
  refine ⟨r', h, ?_⟩
  have := psum_le_sub (L := L) hadv hid (X := pend L r sl.messageId) (by rw [pend_haveSlice hL g.1 hA]; omega)
  unfold Room
  omega

/-! ## Part 4 — one connection: frame facts, what holds of every reachable connection, and one flush -/

theorem flush_frame {c c' : Conn} {bs : List Bytes} (h : c.getPacketsToSend = .ok (c', bs)) : c'.now = c.now := by
  rcases Conn.flush_cases h with ⟨-, rfl, -⟩ | ⟨_, _, _, o⟩
  · rfl
  · exact o.now

theorem reach_conn {b : Nat} {sd rc : List ChanCfg} {c : Conn} (hr : C08.Reach b sd rc c) :
    c.Inv ∧ (Conn.fromChannels b sd rc).SameChans c ∧ SrcEquiv.TInv c ∧ c.budget = b := by
  -- the last three are kept by every call but `update` (`Kept`)
  have K := (CI.sameChans_kept (Conn.fromChannels b sd rc)).and (SrcEquiv.tinv_kept.and (Kept.budget .all b))
  induction hr with
  | init => exact ⟨CI.fromChannels_invP _ _ _, Conn.SameChans.refl _, SrcEquiv.tinv_fromChannels _ _ _, rfl⟩
  | sendMessage _ hs ih => exact ⟨(CI.sendMessage_invP ih.1 hs).1, K.sendMessage ih.2 trivial hs⟩
  | receiveMessage _ hs ih => exact ⟨(CI.receiveMessage_invP ih.1 hs).1, K.receiveMessage ih.2 hs⟩
  | update _ hs ih =>
    obtain ⟨hi, hsc, ht, hb⟩ := ih
    obtain ⟨i', sc'⟩ := CI.update_invP hi hs
    exact ⟨i', hsc.trans sc', SrcEquiv.tinv_update ht hs, (Conn.update_frame hs).budget.trans hb⟩
  | flush _ hs ih => exact ⟨(CI.getPacketsToSend_invP ih.1 hs).1, K.getPacketsToSend trivial ih.2 hs⟩
  | packet _ hs ih => exact ⟨(CI.processPacket_invP goodP_winv ih.1 hs).1, K.processPacket trivial ih.2 hs⟩
  | disconnect _ ih => exact ⟨ih.1.disconnectWith _, K.disconnectWith ih.2 _⟩
  | connected _ ih => exact ⟨ih.1.setConnected, K.setConnected ih.2⟩
  | connecting _ ih => exact ⟨ih.1.setConnecting, K.setConnecting ih.2⟩

theorem allDue_of_stamped {now dt : Nat} {s : SendRel} (h : SrcEquiv.RelTOk now s) (hdt : s.resend ≤ dt) :
    AllDue (now + dt) s.resend s.unacked := by
  have key : ∀ (o : Option Nat), (∀ t, o = some t → t ≤ now) → smallDue (now + dt) s.resend o = true := by
    intro o ho
    cases o with
    | none => rfl
    | some t =>
      have := ho t rfl
      simp only [smallDue, Bool.not_eq_eq_eq_not, Bool.not_true, decide_eq_false_iff_not, Nat.not_lt]
      omega
  intro x hx
  have h0 := h x hx
  obtain ⟨k, u⟩ := x
  cases u with
  | small m ls => exact key ls h0
  | sliced m n na nx ak ls =>
    refine fun i _ _ => key _ fun t ht => ?_
    rw [List.getD_eq_getElem?_getD] at ht
    cases hj : ls[i]? with
    | none => rw [hj] at ht; cases ht
    | some o =>
      rw [hj] at ht
      exact h0.2 o (List.mem_of_getElem? hj) t ht

/-- the part of the per-tick budget that is left when the channel loop reaches reliable channel `ch`: the budget
    minus what the channels configured before it have just taken (0 if the loop panics before) -/
def availAtTurn (c : Conn) (ch : Nat) : Nat :=
  match Conn.chanLoop c.now (c.order.takeWhile (fun x => x != (true, ch))) (c.sendRel, c.sendUnrel, [], c.packetSeq, c.budget) with
  | .ok (_, _, _, _, avail) => avail
  | _ => 0

theorem dropWhile_of_mem {x : Bool × Nat} : ∀ {l : List (Bool × Nat)}, x ∈ l →
    ∃ post, l.dropWhile (fun y => y != x) = x :: post
  | [], h => by cases h
  | a :: r, h => by
    by_cases e : a = x
    · subst e; exact ⟨r, by simp [List.dropWhile]⟩
    · have hx : x ∈ r := by
        rcases List.mem_cons.mp h with e' | e'
        · exact absurd e'.symm e
        · exact e'
      obtain ⟨post, hp⟩ := dropWhile_of_mem hx
      exact ⟨post, by rw [List.dropWhile_cons, if_pos (by simpa using e)]; exact hp⟩

theorem not_mem_takeWhile_ne {x : Bool × Nat} : ∀ (l : List (Bool × Nat)), x ∉ l.takeWhile (fun y => y != x)
  | [] => by simp
  | a :: r => by
    rw [List.takeWhile_cons]
    split
    · next h =>
      intro hm
      rcases List.mem_cons.mp hm with e | e
      · subst e; simp at h
      · exact not_mem_takeWhile_ne r e
    · simp

theorem chanLoop_find_other (now ch : Nat) : ∀ (ord : List (Bool × Nat)) (st st' : ChanSt), (true, ch) ∉ ord →
    Conn.chanLoop now ord st = .ok st' → SMap.find? st'.1 ch = SMap.find? st.1 ch
  | [], st, st', _, h => by
    simp only [Conn.chanLoop, Res.ok.injEq] at h; subst h; rfl
  | (true, c0) :: rest, (sr, su, pk, seq, avail), st', hn, h => by
    rw [chanLoop_rel_step] at h
    split at h
    · cases h
    · have hne : c0 ≠ ch := by
        intro e; subst e; exact hn (List.mem_cons_self ..)
      rw [chanLoop_find_other now ch rest _ st' (fun hm => hn (List.mem_cons_of_mem _ hm)) h]
      dsimp only
      rw [SMap.find?_insert, if_neg hne]
  | (false, c0) :: rest, (sr, su, pk, seq, avail), st', hn, h => by
    rw [chanLoop_unrel_step] at h
    split at h
    · cases h
    · rw [chanLoop_find_other now ch rest _ st' (fun hm => hn (List.mem_cons_of_mem _ hm)) h]

theorem flush_contains {c : Conn} (hinv : c.Inv) (hcnt : c.CountersOK) (hd : c.isDisconnected = false) {ch : Nat}
    {sA : SendRel} (hf : SMap.find? c.sendRel ch = some sA) (hord : (true, ch) ∈ c.order) :
    ∀ t ∈ greedy (relCands c.now sA.resend sA.unacked) (availAtTurn c ch), t.In (flushPk c) ch := by
  obtain ⟨c', bs, e, hst, -⟩ := Conn.getPacketsToSend_fits c (CI.flushInv_of hinv hcnt) hcnt.seq
  have hd' : c'.isDisconnected = false := by rw [isDisconnected_congr hst]; exact hd
  rcases Conn.flush_cases e with ⟨hd1, -⟩ | ⟨pk0, seq0, avail, o⟩
  · rw [hd] at hd1; cases hd1
  · have hl := o.loop
    have hsub : ∀ p ∈ pk0, p ∈ flushPk c := by
      intro p hp; rw [(o.pk_of_live hd').1]; unfold withAck; split
      · exact hp
      · exact List.mem_append_left _ hp
    obtain ⟨posto, hdrop⟩ := dropWhile_of_mem hord
    have hsplit : c.order = c.order.takeWhile (fun x => x != (true, ch)) ++ (true, ch) :: posto := by
      rw [← hdrop]; exact (List.takeWhile_append_dropWhile ..).symm
    have hnot : (true, ch) ∉ c.order.takeWhile (fun x => x != (true, ch)) := not_mem_takeWhile_ne _
    unfold availAtTurn
    rw [hsplit] at hl
    generalize c.order.takeWhile (fun x => x != (true, ch)) = preo at *
    rw [chanLoop_append] at hl
    obtain ⟨⟨sr1, su1, pk1, seq1, avail1⟩, hl1, hl2⟩ := Res.bind_ok_iff.mp hl
    rw [hl1]
    dsimp only
    have hf1 : SMap.find? sr1 ch = some sA := by
      have := chanLoop_find_other c.now ch preo _ _ hnot hl1
      dsimp only at this; rw [this]; exact hf
    rw [chanLoop_rel_step, hf1] at hl2
    dsimp only at hl2
    obtain ⟨ps, hps', -⟩ := chanLoop_numbering hl2
    intro t ht
    have hin := taken_in sA seq1 avail1 c.now t ht
    rw [(hinv.send.chans ch sA hf).2] at hin
    exact hin.mono fun p hp => hsub p (by rw [hps']; exact List.mem_append_left _ (List.mem_append_right _ hp))

theorem flush_covers {c : Conn} (hinv : c.Inv) (hcnt : c.CountersOK) (hd : c.isDisconnected = false) {ch : Nat}
    {sA : SendRel} (hf : SMap.find? c.sendRel ch = some sA) (hord : (true, ch) ∈ c.order)
    {pre post : SMap Unacked} (hun : sA.unacked = pre ++ post) (hdue : AllDue c.now sA.resend pre)
    (hav : backlog pre ≤ availAtTurn c ch) : ∀ t ∈ pendTx pre, t.In (flushPk c) ch := by
  intro t ht
  refine flush_contains hinv hcnt hd hf hord t ?_
  -- the candidates of `pre` come first in the scan and the budget covers all they demand: every due one is taken
  have hfit : SlicedFit pre := fun id m n na nx ak ls hx => by
    obtain ⟨-, o2, -⟩ := (hinv.send.chans ch sA hf).1.entries _ (by rw [hun]; exact List.mem_append_left _ hx)
    rw [o2]; exact divCeil_mul_ge _
  rw [hun, relCands_append, greedy_append]
  exact List.mem_append_left _ (greedy_all (cost_le_need_relCands hfit)
    (by rw [needSum_eq, relCands_of_due hdue, ← backlog_eq_pendTx]; exact hav) t ((mem_relCands_of_due hdue).mpr ht))

/-! ## Part 5 — the system: every datagram handed to a live B has arrived in B's channel state -/

def SmallLens : Packet → Prop
  | .smallReliable _ _ msgs => ∀ x ∈ msgs, x.2.length ≤ SLICE_SIZE
  | _ => True

def Arrived (R : SMap RecvRel) : Packet → Prop
  | .smallReliable _ ch msgs => ∃ r, SMap.find? R ch = some r ∧ ∀ x ∈ msgs, Have r x.1
  | .reliableSlice _ ch sl => ∃ r, SMap.find? R ch = some r ∧ HaveSlice r sl.messageId sl.sliceIndex
  | _ => True

structure InvD (s : Sys) (pkA : List Packet) : Prop where
  lens : ∀ p ∈ pkA, SmallLens p
  arr : s.b.isDisconnected = false → ∀ k ∈ s.deliveredToB, ∀ p, pkA[k]? = some p → Arrived s.b.recvRel p

theorem invD_init (cfg : Cfg) : InvD (Sys.init cfg) [] :=
  ⟨fun _ h => (by cases h), fun _ _ h => (by cases h)⟩

theorem arrived_insert {R : SMap RecvRel} {ch0 : Nat} {r0 r1 : RecvRel} (hf : SMap.find? R ch0 = some r0)
    (g : Advanced r0 r1) {p : Packet} (h : Arrived R p) : Arrived (SMap.insert R ch0 r1) p := by
  cases p with
  | smallReliable sq ch msgs =>
    obtain ⟨r, hr, hm⟩ := h
    by_cases e : ch0 = ch
    · subst e
      rw [hf] at hr; cases hr
      exact ⟨r1, by rw [SMap.find?_insert, if_pos rfl], fun x hx => g.1 _ (hm x hx)⟩
    · exact ⟨r, by rw [SMap.find?_insert, if_neg e]; exact hr, hm⟩
  | reliableSlice sq ch sl =>
    obtain ⟨r, hr, hm⟩ := h
    by_cases e : ch0 = ch
    · subst e
      rw [hf] at hr; cases hr
      exact ⟨r1, by rw [SMap.find?_insert, if_pos rfl], g.haveSlice hm⟩
    · exact ⟨r, by rw [SMap.find?_insert, if_neg e]; exact hr, hm⟩
  | smallUnreliable _ _ _ => trivial
  | unreliableSlice _ _ _ => trivial
  | ack _ _ => trivial

theorem chanBS_tables {L : List Bytes} {r : RecvRel} {o : List Bytes} (h : ChanBS L ⟨r, o, false⟩) :
    DataPath.WF r.messages ∧ SlicesOK L r ∧ MsgsHave r := by
  have hm : MsgsHave r := msgsHave_of_pending fun ho id hc => by
    obtain ⟨x, hx⟩ := SMap.contains_iff_find?.mp hc
    exact ((h.2 ho).msgs id x hx).2
  cases ho : r.ordered with
  | true => exact ⟨(h.1 ho).1.wfM, (h.1 ho).1.slices, hm⟩
  | false => exact ⟨(h.2 ho).wfM, (h.2 ho).slices, hm⟩

theorem smallLens_getPackets {s : SendRel} (hi : s.Inv) (seq avail now : Nat) :
    ∀ p ∈ (s.getPackets seq avail now).2.1, SmallLens p := by
  intro p hp
  have hg := SendRel.getPackets_genuine (s := s) (seq := seq) (avail := avail) (now := now)
    (s' := (s.getPackets seq avail now).1) (ps := (s.getPackets seq avail now).2.1)
    (seq' := (s.getPackets seq avail now).2.2.1) (avail' := (s.getPackets seq avail now).2.2.2) rfl p hp
  cases p with
  | smallReliable sq c msgs =>
    intro x hx
    obtain ⟨ls, hm⟩ := hg.2 x hx
    exact hi.entries _ hm
  | reliableSlice _ _ _ => trivial
  | smallUnreliable _ _ _ => trivial
  | unreliableSlice _ _ _ => trivial
  | ack _ _ => trivial

theorem smallLens_of_not_rel {p : Packet} (h : isRel p = false) : SmallLens p := by
  cases p with
  | smallReliable _ _ _ => cases h
  | reliableSlice _ _ _ => trivial
  | smallUnreliable _ _ _ => trivial
  | unreliableSlice _ _ _ => trivial
  | ack _ _ => trivial

theorem pk_len {cfg : Cfg} {s : Sys} {pkA : List Packet} (h1 : Inv1 cfg s pkA) : pkA.length = s.outA.length := by
  simpa using congrArg List.length h1.encA

theorem receiveMessage_live {c c' : Conn} {ch : Nat} {m : Option Bytes} {r : RecvRel} (hd : c.isDisconnected = false)
    (hf : SMap.find? c.recvRel ch = some r) (h : c.receiveMessage ch = .ok (c', m)) :
    ∃ r', r.receive = .ok (r', m) ∧ c' = { c with recvRel := SMap.insert c.recvRel ch r' } := by
  rcases Conn.receiveMessage_outcomes h with ⟨hd', -, -⟩ | ⟨-, r0, r', hf0, hr, e⟩ | ⟨-, hn, -⟩
  · rw [hd] at hd'; cases hd'
  · rw [hf] at hf0; cases hf0; exact ⟨r', hr, e⟩
  · rw [hf] at hn; cases hn

theorem arrived_of_not_rel {R : SMap RecvRel} {p : Packet} (h : isRel p = false) : Arrived R p := by
  cases p with
  | smallReliable _ _ _ => cases h
  | reliableSlice _ _ _ => cases h
  | smallUnreliable _ _ _ => trivial
  | unreliableSlice _ _ _ => trivial
  | ack _ _ => trivial

theorem invD_step {cfg : Cfg} {s s' : Sys} {pkA : List Packet} {op : SysOp} (h1 : Inv1 cfg s pkA) (h2 : Inv2 cfg s pkA)
    (hD : InvD s pkA) (hs : s.step op = some s') : InvD s' (nextPk s op pkA) := by
  have hlen := pk_len h1
  cases stepped hs with
  | sendA _ | updA _ | deliverToA _ _ => exact ⟨hD.lens, hD.arr⟩
  | updB hm =>
    have e1 := (Conn.update_frame hm).recvRel
    have e2 := (Conn.update_frame hm).status
    refine ⟨hD.lens, fun hlive k hk p hp => ?_⟩
    dsimp only at hlive hk ⊢
    rw [e1]
    exact hD.arr (by rw [← isDisconnected_congr e2]; exact hlive) k hk p hp
  | flushB hm =>
    obtain ⟨-, -, -, -, e1, -, e2⟩ := flush_facts hm
    refine ⟨hD.lens, fun hlive k hk p hp => ?_⟩
    dsimp only at hlive hk ⊢
    rw [e1]
    exact hD.arr (e2 hlive) k hk p hp
  | @flushA a' _ hm =>
    have hnew : ∀ p ∈ flushPk s.a, SmallLens p :=
      (flush_presI (fun _ _ => True) SmallLens a'.packetSeq h1.invA.1 (fun _ _ _ _ _ _ _ => trivial)
        (fun ch s0 seq avail hi _ _ _ => smallLens_getPackets hi seq avail s.a.now)
        (fun su seq avail p hp => smallLens_of_not_rel (unrel_not_rel su seq avail p hp))
        (fun _ => trivial) hm (Nat.le_refl _) (fun _ _ _ => trivial)).2
    refine ⟨fun p hp => (List.mem_append.mp hp).elim (hD.lens p) (hnew p), fun hlive k hk p hp => ?_⟩
    dsimp only at hlive hk ⊢
    have hk' := h1.delivB k hk
    simp only [nextPk] at hp
    rw [List.getElem?_append_left (by omega)] at hp
    exact hD.arr hlive k hk p hp
  | @recvB ch _ _ hm =>
    refine ⟨hD.lens, fun hlive k hk p hp => ?_⟩
    dsimp only at hlive hk ⊢
    rcases Conn.receiveMessage_outcomes hm with ⟨hd, rfl, -⟩ | ⟨hd, r, r', hf, hr, rfl⟩ | ⟨hd, -, rU, rU', -, -, rfl⟩
    · exact hD.arr hlive k hk p hp
    · have hbs := (h2.recvB hd).2 ch r hf
      exact arrived_insert hf (receive_have (chanBS_tables hbs).1 hr) (hD.arr hd k hk p hp)
    · exact hD.arr hd k hk p hp
  | @deliverToB _ _ b' hb hm =>
    refine ⟨hD.lens, fun hlive k hk p hp => ?_⟩
    dsimp only at hlive hk ⊢
    simp only [nextPk] at hp
    rcases processPacket_data hm with hdis | ⟨hd, p', hdec, heff⟩
    · rw [hlive] at hdis; cases hdis
    · obtain ⟨hgen, p0, hp0, -, -, hrel⟩ := decoded_genuine h1 h2 hb hdec
      have heff' : (∀ k ∈ s.deliveredToB, ∀ p, pkA[k]? = some p → Arrived b'.recvRel p) ∧ (isRel p' = true → Arrived b'.recvRel p') := by
        cases p' with
        | smallReliable sq ch msgs =>
          obtain ⟨-, r, r', hf, hl, e⟩ := heff
          obtain ⟨a1, a2, a3⟩ := relMsgLoop_have msgs r r' hl
          rw [e]
          exact ⟨fun k hk p hp => arrived_insert hf (.of_slices a2 a3) (hD.arr hd k hk p hp),
            fun _ => ⟨r', by rw [SMap.find?_insert, if_pos rfl], a1⟩⟩
        | reliableSlice sq ch sl =>
          obtain ⟨-, r, r', hf, hl, e⟩ := heff
          have hbs := (h2.recvB hd).2 ch r hf
          obtain ⟨a1, a2, -⟩ := processSlice_spec (chanBS_tables hbs).2.1 (chanBS_tables hbs).2.2 hgen hl
          rw [e]
          exact ⟨fun k hk p hp => arrived_insert hf a2 (hD.arr hd k hk p hp),
            fun _ => ⟨r', by rw [SMap.find?_insert, if_pos rfl], a1⟩⟩
        | smallUnreliable _ _ _ =>
          rw [heff.1]
          exact ⟨hD.arr hd, fun h => (by cases h)⟩
        | unreliableSlice _ _ _ =>
          rw [heff.1]
          exact ⟨hD.arr hd, fun h => (by cases h)⟩
        | ack _ _ =>
          rw [heff.1]
          exact ⟨hD.arr hd, fun h => (by cases h)⟩
      rcases List.mem_append.mp hk with hk | hk
      · exact heff'.1 k hk p hp
      · simp only [List.mem_singleton] at hk
        subst hk
        rw [hp0] at hp; cases hp
        cases hr : isRel p with
        | true =>
          have := hrel hr
          subst this
          exact heff'.2 hr
        | false => exact arrived_of_not_rel hr

/-! ## Part 6 — ReliableUnordered: everything that has arrived is queued or has been obtained -/

/-- the messages the application has obtained are EXACTLY those that have arrived and are no longer queued -/
def UFull (L : List Bytes) (r : RecvRel) (o : List Bytes) : Prop :=
  ∃ ids : List Nat, ids.Nodup ∧ o.map some = ids.map (fun id => L[id]?) ∧
    ∀ id, id ∈ ids ↔ (Have r id ∧ SMap.find? r.messages id = none)

theorem ufull_mono {L L' : List Bytes} {r : RecvRel} {o : List Bytes} (hL : L <+: L') (h : UFull L r o) : UFull L' r o := by
  obtain ⟨ids, h1, h2, h3⟩ := h
  exact ⟨ids, h1, once_mono hL h2, h3⟩

theorem ufull_new (L : List Bytes) (maxMem : Nat) : UFull L (RecvRel.new maxMem false) [] := by
  refine ⟨[], List.nodup_nil, rfl, ?_⟩
  intro id
  constructor
  · intro h; cases h
  · rintro ⟨h, -⟩
    rcases h with h | h
    · simp [RecvRel.new] at h
    · simp [RecvRel.new] at h

theorem ufull_accept {L : List Bytes} {r r' : RecvRel} {o : List Bytes} {id : Nat} {m : Bytes}
    (h : UFull L r o) (hacc : Accept r r' id m) : UFull L r' o := by
  obtain ⟨ids, h1, h2, h3⟩ := h
  refine ⟨ids, h1, h2, ?_⟩
  intro j
  rw [h3 j]
  rcases hacc with hq | ⟨hnh, hq⟩
  · rw [hq.have_iff j, hq.messages]
  · rw [hq.have_iff j, have_push, hq.messages]
    show _ ↔ _ ∧ SMap.find? (SMap.insert r.messages id m) j = none
    rw [SMap.find?_insert]
    constructor
    · rintro ⟨hj, hn⟩
      have hne : ¬ id = j := fun e => hnh (e ▸ hj)
      exact ⟨Or.inl hj, by rw [if_neg hne]; exact hn⟩
    · rintro ⟨hj, hn⟩
      by_cases e : id = j
      · rw [if_pos e] at hn; cases hn
      · rw [if_neg e] at hn
        rcases hj with hj | hj
        · exact ⟨hj, hn⟩
        · exact absurd hj.symm e

theorem ufull_receive {L : List Bytes} {r r' : RecvRel} {o : List Bytes} {out : Option Bytes} (i1 : r.ordered = false)
    (i2 : DataPath.WF r.messages)
    (i3 : ∀ id x, SMap.find? r.messages id = some x → L[id]? = some x ∧ (id < r.oldest ∨ id ∈ r.received))
    (h : UFull L r o) (hr : r.receive = .ok (r', out)) : UFull L r' (o ++ out.toList) := by
  obtain ⟨ids, h1, h2, h3⟩ := h
  rcases RecvRel.receive_ok_iff.mp hr with ⟨-, rfl, rfl⟩ | ⟨id, x, hn, -, rfl, rfl⟩
  · exact ⟨ids, h1, by simpa using h2, h3⟩
  · obtain ⟨hmsgs, hhave⟩ := RecvRel.pop_unord i1 hn
    have hhead := RecvRel.next_find hn
    have hidL := i3 id x hhead
    have hq : ∀ k, SMap.find? (r.pop id x).messages k = if id = k then none else SMap.find? r.messages k :=
      fun k => SMap.find?_erase i2.nodup id k
    -- the message handed out joins `ids`: it has arrived and is no longer queued
    refine ⟨ids ++ [id], ?_, ?_, ?_⟩
    · rw [List.nodup_append]
      refine ⟨h1, by simp, ?_⟩
      intro a ha b hb
      simp only [List.mem_singleton] at hb
      subst hb
      intro e; subst e
      have := ((h3 a).mp ha).2
      rw [hhead] at this; cases this
    · simp only [List.map_append, Option.toList_some, List.map_cons, List.map_nil, h2, hidL.1]
    · intro j
      rw [hhave j, hq j]
      simp only [List.mem_append, List.mem_singleton]
      constructor
      · rintro (hj | rfl)
        · obtain ⟨a, b⟩ := (h3 j).mp hj
          have hne : ¬ id = j := by intro e; subst e; rw [hhead] at b; cases b
          exact ⟨a, by rw [if_neg hne]; exact b⟩
        · refine ⟨?_, if_pos rfl⟩
          unfold Have; rw [if_neg (by simp [i1])]; exact hidL.2
      · rintro ⟨a, b⟩
        by_cases e : id = j
        · exact Or.inr e.symm
        · rw [if_neg e] at b
          exact Or.inl ((h3 j).mpr ⟨a, b⟩)

def InvF (s : Sys) : Prop :=
  s.b.isDisconnected = false → ∀ ch r, SMap.find? s.b.recvRel ch = some r → r.ordered = false →
    UFull (s.submitted ch) r (s.obtained ch)

theorem invF_init (cfg : Cfg) : InvF (Sys.init cfg) := by
  intro _ ch r hf ho
  obtain ⟨c, -, -, -, rfl⟩ := SMap.find?_foldl_filter hf
  simp only [RecvRel.new] at ho
  simp only [Sys.init]
  rw [ho]
  exact ufull_new _ _

theorem ufull_step (L : List Bytes) (st : RunSt) (op : RecvOp) (h : UnordInv L st ∧ UFull L st.r st.obtained)
    (g : Genuine L op) : UnordInv L (step st op) ∧ UFull L (step st op).r (step st op).obtained :=
  step_pres (P := fun st => UnordInv L st ∧ UFull L st.r st.obtained) (fun _ h => h.1.slices)
    (fun _ h => ⟨⟨h.1.ord, h.1.wfM, h.1.msgs, h.1.slices, h.1.obt⟩, h.2⟩)
    (fun _ _ _ _ h hL hs' ha => ⟨unord_accept h.1 hL hs' ha, ufull_accept h.2 ha⟩)
    (fun _ _ _ h hr => ⟨unord_receive h.1 hr,
      ufull_receive h.1.ord h.1.wfM h.1.msgs h.2 hr⟩) st op h g

theorem invF_step {cfg : Cfg} {s s' : Sys} {pkA : List Packet} {op : SysOp} (h1 : Inv1 cfg s pkA) (h2 : Inv2 cfg s pkA)
    (hF : InvF s) (hs : s.step op = some s') : InvF s' := by
  -- a step acts on a receive channel of a live B as genuine operations of `DataPath.step`: `UFull` travels along
  have key : ∀ {ch : Nat} {r0 r1 : RecvRel} {obt' : List Bytes} (ops : List RecvOp), s.b.isDisconnected = false →
      SMap.find? s.b.recvRel ch = some r0 → (∀ op ∈ ops, Genuine (s.submitted ch) op) →
      ops.foldl step ⟨r0, s.obtained ch, false⟩ = ⟨r1, obt', false⟩ → r1.ordered = false →
      UFull (s.submitted ch) r1 obt' := by
    intro ch r0 r1 obt' ops hd hf0 hops hrun ho
    have hbs := (h2.recvB hd).2 ch r0 hf0
    have ho0 : r0.ordered = false := by
      have := (chanBS_foldl _ _ _ hbs hops).2
      rw [hrun] at this
      exact this.symm.trans ho
    have := foldl_inv step _ _ (ufull_step (s.submitted ch)) _ _ ⟨hbs.2 ho0, hF hd ch r0 hf0 ho0⟩ hops
    rw [hrun] at this
    exact this.2
  cases stepped hs with
  | sendA _ =>
    intro hlive c r hf ho
    exact ufull_mono (ite_push_prefix _ _ _ _ c) (hF hlive c r hf ho)
  | updA _ | deliverToA _ _ | flushA _ => exact hF
  | updB hm =>
    have e1 := (Conn.update_frame hm).recvRel
    have e2 := (Conn.update_frame hm).status
    intro hlive c r hf ho
    dsimp only at hlive hf ⊢
    rw [e1] at hf
    exact hF (by rw [← isDisconnected_congr e2]; exact hlive) c r hf ho
  | flushB hm =>
    obtain ⟨-, -, -, -, e1, -, e2⟩ := flush_facts hm
    intro hlive c r hf ho
    dsimp only at hlive hf ⊢
    rw [e1] at hf
    exact hF (e2 hlive) c r hf ho
  | @recvB ch _ m hm =>
    obtain ⟨ho1, ho2⟩ := obtained_recv s.obtained ch m
    generalize m.elim s.obtained (push s.obtained ch) = obt' at ho1 ho2 ⊢
    intro hlive c r hf ho
    dsimp only at hlive hf ⊢
    rcases Conn.receiveMessage_outcomes hm with ⟨hd, rfl, rfl⟩ | ⟨hd, r0, r1, hf0, hr, rfl⟩ | ⟨hd, hn, rU, rU', -, -, rfl⟩
    · rw [obtained_none ho1 ho2]; exact hF hlive c r hf ho
    · dsimp only at hf
      rw [SMap.find?_insert] at hf
      split at hf
      · next e =>
        subst e; cases hf
        rw [ho1]
        exact key [.recv] hd hf0 (fun op hop => by cases List.mem_singleton.mp hop; trivial) (step_recv_eq hr) ho
      · next e =>
        rw [ho2 c (fun e' => e e'.symm)]
        exact hF hd c r hf ho
    · dsimp only at hf
      have hne : c ≠ ch := by intro e'; subst e'; rw [hn] at hf; cases hf
      rw [ho2 c hne]
      exact hF hd c r hf ho
  | deliverToB hb hm =>
    intro hlive c r hf ho
    dsimp only at hlive hf ⊢
    rcases processPacket_data hm with hdis | ⟨hd, p', hdec, heff⟩
    · rw [hlive] at hdis; cases hdis
    · obtain ⟨hgen, -⟩ := decoded_genuine h1 h2 hb hdec
      cases p' with
      | smallReliable sq ch msgs =>
        obtain ⟨-, r0, r1, hf0, hl, e⟩ := heff
        rw [e, SMap.find?_insert] at hf
        split at hf
        · next e' =>
          subst e'; cases hf
          exact key _ hd hf0 (fun op hop => by obtain ⟨x, hx, rfl⟩ := List.mem_map.mp hop; exact hgen x hx)
            ((relMsgLoop_as_ops msgs r0 _).1 r hl) ho
        · exact hF hd c r hf ho
      | reliableSlice sq ch sl =>
        obtain ⟨-, r0, r1, hf0, hl, e⟩ := heff
        rw [e, SMap.find?_insert] at hf
        split at hf
        · next e' =>
          subst e'; cases hf
          exact key [.slice sl] hd hf0 (fun op hop => by cases List.mem_singleton.mp hop; exact hgen) (step_slice_eq hl) ho
        · exact hF hd c r hf ho
      | smallUnreliable _ _ _ => rw [heff.1] at hf; exact hF hd c r hf ho
      | unreliableSlice _ _ _ => rw [heff.1] at hf; exact hF hd c r hf ho
      | ack _ _ => rw [heff.1] at hf; exact hF hd c r hf ho

/-! ## Part 7 — the invariants together, and the legs of a round: deliveries, drains -/

structure AllInv (cfg : Cfg) (s : Sys) (pkA : List Packet) : Prop where
  i1 : Inv1 cfg s pkA
  i2 : Inv2 cfg s pkA
  iR : InvR cfg s pkA
  iD : InvD s pkA
  iF : InvF s

theorem allInv_step {cfg : Cfg} {s s' : Sys} {pkA : List Packet} {op : SysOp} (h : AllInv cfg s pkA)
    (hs : s.step op = some s') (hc : CountersOK cfg s') : AllInv cfg s' (nextPk s op pkA) :=
  ⟨inv1_step h.i1 hs, inv2_step h.i1 h.i2 hs hc, invR_step h.i1 h.iR hs, invD_step h.i1 h.i2 h.iD hs,
    invF_step h.i1 h.i2 h.iF hs⟩

end RenetVerif.Live

namespace RenetVerif.MultiLive
open RenetVerif C RenetVerif.System RenetVerif.Live

/-- the invariants of `System.system_inv` that liveness uses, plus `InvD` (what was handed to a live B has arrived)
    and `InvF` (unordered channels: obtained = arrived and no longer queued); the layer-2 ones under `CountersOK` -/
def GoodL (cfg : Cfg) (s : Sys) : Prop :=
  ∃ pkA, Inv1 cfg s pkA ∧ InvR cfg s pkA ∧
    (CountersOK cfg s → Inv2 cfg s pkA ∧ InvD s pkA ∧ InvF s)

theorem goodL_init (cfg : Cfg) : GoodL cfg (Sys.init cfg) :=
  ⟨[], inv1_init cfg, invR_init cfg, fun _ => ⟨inv2_init cfg, invD_init cfg, invF_init cfg⟩⟩

theorem goodL_step {cfg : Cfg} {s s' : Sys} {op : SysOp} (h : GoodL cfg s) (hs : s.step op = some s') : GoodL cfg s' := by
  obtain ⟨pkA, h1, h3, h2⟩ := h
  refine ⟨nextPk s op pkA, inv1_step h1 hs, invR_step h1 h3 hs, fun hc => ?_⟩
  obtain ⟨i2, iD, iF⟩ := h2 (counters_step hs hc)
  exact ⟨inv2_step h1 i2 hs hc, invD_step h1 i2 iD hs, invF_step h1 i2 iF hs⟩

theorem goodL_idle {cfg : Cfg} {s s' : Sys} (h : GoodL cfg s) (hi : Idle cfg s s') : GoodL cfg s' := by
  obtain ⟨pkA, h1, h3, h2⟩ := h
  refine ⟨pkA, inv1_idle h1 hi, invR_idle h3 hi, fun hc => ?_⟩
  obtain ⟨i2, iD, iF⟩ := h2 (hc.of_idle hi)
  refine ⟨inv2_idle i2 hi, ?_⟩
  cases hi with
  | a _ _ => exact ⟨⟨iD.lens, iD.arr⟩, iF⟩
  | b _ hl => exact ⟨⟨iD.lens, fun hd => iD.arr (hl hd)⟩, fun hd => iF (hl hd)⟩

theorem allInv_of_goodL {cfg : Cfg} {s : Sys} (h : GoodL cfg s) (hc : CountersOK cfg s) : ∃ pkA, AllInv cfg s pkA := by
  obtain ⟨pkA, h1, h3, h2⟩ := h
  obtain ⟨i2, iD, iF⟩ := h2 hc
  exact ⟨pkA, h1, i2, h3, iD, iF⟩

theorem goodL_reach {cfg : Cfg} {ops : List SysOp} {s : Sys} (hr : (Sys.init cfg).run ops = some s) : GoodL cfg s :=
  run_induction (I := fun _ x => GoodL cfg x) ops 0 (fun _ h hs => goodL_step h hs) (goodL_init cfg) hr

end RenetVerif.MultiLive

namespace RenetVerif.Live
open RenetVerif C RenetVerif.System RenetVerif.DataPath RenetVerif.Reasm

theorem allInv_reach (cfg : Cfg) (ops : List SysOp) (s : Sys) (hr : (Sys.init cfg).run ops = some s)
    (hc : CountersOK cfg s) : ∃ pkA, AllInv cfg s pkA :=
  MultiLive.allInv_of_goodL (MultiLive.goodL_reach hr) hc

theorem countersOK_congr {cfg : Cfg} {s t : Sys} (h1 : t.a.packetSeq = s.a.packetSeq) (h2 : t.submitted = s.submitted)
    (h3 : t.submittedU = s.submittedU) (hc : CountersOK cfg s) : CountersOK cfg t :=
  ⟨hc.chan, by rw [h1]; exact hc.seq, by rw [h2]; exact hc.ids, by rw [h2]; exact hc.lens, by rw [h3]; exact hc.lensU⟩

theorem nextPk_onB {s : Sys} {op : SysOp} (hB : onB op = true) (pk : List Packet) : nextPk s op pk = pk := by
  cases op with
  | flushA => cases hB
  | _ => rfl

/-- **Induction along a run of B-side operations.**  A's side, the logs and hence the counters hypothesis do not move,
    so the invariants travel along by themselves; `P i s` is what is known of the state reached after `i` operations. -/
theorem runB_induct {cfg : Cfg} (P : Nat → Sys → Prop) (ops : List SysOp) (i : Nat) (s u : Sys) (pk : List Packet)
    (hB : ∀ op ∈ ops, onB op = true)
    (hstep : ∀ j s s' op, op ∈ ops → AllInv cfg s pk → CountersOK cfg s → AllInv cfg s' pk → P j s → s.step op = some s' →
      P (j + 1) s')
    (hA : AllInv cfg s pk) (hc : CountersOK cfg s) (hP : P i s) (hr : s.run ops = some u) :
    AllInv cfg u pk ∧ CountersOK cfg u ∧ u.a = s.a ∧ u.submitted = s.submitted ∧ P (i + ops.length) u :=
  run_induction (I := fun j x => AllInv cfg x pk ∧ CountersOK cfg x ∧ x.a = s.a ∧ x.submitted = s.submitted ∧ P j x) ops i
    (fun {j x x' op} hop ⟨hA, hc, a3, a5, hP⟩ hs => by
      obtain ⟨f1, -, f3, f4⟩ := (step_leaves hs).1 (hB op hop)
      have hc1 : CountersOK cfg x' := countersOK_congr (by rw [f1]) f3 f4 hc
      have hA1 : AllInv cfg x' pk := nextPk_onB (hB op hop) pk ▸ allInv_step hA hs hc1
      exact ⟨hA1, hc1, f1.trans a3, f3.trans a5, hstep j x x' op hop hA hc hA1 hP hs⟩)
    ⟨hA, hc, rfl, rfl, hP⟩ hr

theorem deliver_onB (ks : List Nat) : ∀ op ∈ ks.map SysOp.deliverToB, onB op = true := by
  intro op hop
  obtain ⟨k, -, rfl⟩ := List.mem_map.mp hop
  rfl

theorem drain_onB (ch n : Nat) : ∀ op ∈ List.replicate n (SysOp.recvB ch), onB op = true := by
  intro op hop
  rw [(List.mem_replicate.mp hop).2]
  rfl

theorem deliver_frame : ∀ (ks : List Nat) (s t : Sys), s.run (ks.map SysOp.deliverToB) = some t →
    t.obtained = s.obtained ∧ t.deliveredToB = s.deliveredToB ++ ks
  | [], s, t, h => by cases run_nil h; exact ⟨rfl, by simp⟩
  | k :: ks, s, t, h => by
    obtain ⟨s1, hs, h1⟩ := run_cons h
    obtain ⟨a6, a7⟩ := deliver_frame ks s1 t h1
    cases stepped hs
    exact ⟨a6, by rw [a7]; simp⟩

theorem deliver_total (cfg : Cfg) : ∀ (ks : List Nat) (s : Sys) (pkA : List Packet), Inv1 cfg s pkA →
    (∀ k ∈ ks, k < s.outA.length) → ∃ t, s.run (ks.map SysOp.deliverToB) = some t
  | [], s, _, _, _ => ⟨s, rfl⟩
  | k :: ks, s, pkA, h1, hk => by
    have hk0 := hk k (List.mem_cons_self ..)
    obtain ⟨b', e, -⟩ := CI.processPacket_totalP goodP_winv (reach_conn h1.reachB).1 (s.outA[k]'hk0)
    have hs : s.step (.deliverToB k) = some { s with b := b', deliveredToB := s.deliveredToB ++ [k] } := by
      simp only [Sys.step, List.getElem?_eq_getElem hk0, e]
    obtain ⟨t, ht⟩ := deliver_total cfg ks _ _ (inv1_step h1 hs) (fun k' hk' => hk k' (List.mem_cons_of_mem _ hk'))
    exact ⟨t, by simp only [List.map_cons, Sys.run, hs]; exact ht⟩

theorem recv_step_total {cfg : Cfg} {s : Sys} {pkA : List Packet} (h1 : Inv1 cfg s pkA) {ch : Nat} (hch : s.b.hasRecv ch) :
    ∃ s1, s.step (.recvB ch) = some s1 ∧ s1.b.hasRecv ch ∧ s1.b.isDisconnected = s.b.isDisconnected := by
  obtain ⟨b', m, e, -, hst, hsc⟩ := CI.receiveMessage_totalP (reach_conn h1.reachB).1 ch hch
  have hch' : b'.hasRecv ch := (hsc.hasRecv ch).mpr hch
  cases m with
  | none => exact ⟨{ s with b := b' }, by simp only [Sys.step, e], hch', isDisconnected_congr hst⟩
  | some x => exact ⟨{ s with b := b', obtained := push s.obtained ch x }, by simp only [Sys.step, e], hch', isDisconnected_congr hst⟩

theorem drain_total (cfg : Cfg) (ch : Nat) : ∀ (n : Nat) (s : Sys) (pkA : List Packet), Inv1 cfg s pkA → s.b.hasRecv ch →
    ∃ u, s.run (List.replicate n (SysOp.recvB ch)) = some u ∧ u.a = s.a ∧ u.submitted = s.submitted ∧
      u.submittedU = s.submittedU ∧ u.outA = s.outA ∧ u.b.isDisconnected = s.b.isDisconnected
  | 0, s, _, _, _ => ⟨s, rfl, rfl, rfl, rfl, rfl, rfl⟩
  | n + 1, s, pkA, h1, hch => by
    obtain ⟨s1, hs, hch1, hd1⟩ := recv_step_total h1 hch
    obtain ⟨b1, b2, b4, b5⟩ := (step_leaves hs).1 rfl
    obtain ⟨u, hu, a1, a2, a3, a4, a5⟩ := drain_total cfg ch n s1 _ (inv1_step h1 hs) hch1
    exact ⟨u, by simp only [List.replicate_succ, Sys.run, hs]; exact hu, a1.trans b1, a2.trans b4, a3.trans b5,
      a4.trans b2, a5.trans hd1⟩

theorem receive_ordered {r r' : RecvRel} {m : Option Bytes} (ho : r.ordered = true) (h : r.receive = .ok (r', m)) :
    r'.ordered = true ∧ r.oldest ≤ r'.oldest ∧ (SMap.contains r.messages r.oldest = true → r'.oldest = r.oldest + 1) := by
  obtain ⟨hn, hp⟩ := RecvRel.next_ord ho
  rcases RecvRel.receive_ok_iff.mp h with ⟨hnone, rfl, -⟩ | ⟨id, x, -, -, rfl, -⟩
  · refine ⟨ho, Nat.le_refl _, fun hc => ?_⟩
    obtain ⟨v, hv⟩ := SMap.contains_iff_find?.mp hc
    rw [hn, hv] at hnone; cases hnone
  · exact ⟨ho, by rw [hp]; exact Nat.le_succ _, fun _ => hp id x⟩

/-- **Induction along a drain of channel `ch` at a live B.**  Each call is one `receive` on the channel's state, whose
    message table is well-formed; `Q i r` is what is known of that state after `i` calls. -/
theorem drain_induct {cfg : Cfg} {ch n : Nat} {t u : Sys} {pk : List Packet} {rt : RecvRel} (Q : Nat → RecvRel → Prop)
    (hstep : ∀ i r r' m, DataPath.WF r.messages → r.receive = .ok (r', m) → Q i r → Q (i + 1) r')
    (hA : AllInv cfg t pk) (hc : CountersOK cfg t) (hlive : t.b.isDisconnected = false)
    (hrt : SMap.find? t.b.recvRel ch = some rt) (hQ : Q 0 rt) (hrun : t.run (List.replicate n (SysOp.recvB ch)) = some u) :
    AllInv cfg u pk ∧ u.submitted = t.submitted ∧
      ∃ ru, SMap.find? u.b.recvRel ch = some ru ∧ u.b.isDisconnected = false ∧ Q n ru := by
  obtain ⟨hAu, -, -, hsub, ru, hru, hlu, hQu⟩ := runB_induct
    (fun i x => ∃ r, SMap.find? x.b.recvRel ch = some r ∧ x.b.isDisconnected = false ∧ Q i r)
    _ 0 t u pk (drain_onB ch n) (by
      rintro i x x' op hop hAx - - ⟨r, hr, hl, hq⟩ hs
      rw [(List.mem_replicate.mp hop).2] at hs
      cases stepped hs with
      | @recvB _ b' m hm =>
        obtain ⟨r', hrec, rfl⟩ := receiveMessage_live hl hr hm
        exact ⟨r', by dsimp only; rw [SMap.find?_insert, if_pos rfl], hl,
          hstep i r r' m (chanBS_tables ((hAx.i2.recvB hl).2 ch r hr)).1 hrec hq⟩)
    hA hc ⟨rt, hrt, hlive, hQ⟩ hrun
  rw [List.length_replicate, Nat.zero_add] at hQu
  exact ⟨hAu, hsub, ru, hru, hlu, hQu⟩

/-- the cursor moves by one with every call as long as the message under it has arrived -/
theorem drain_ordered {cfg : Cfg} {ch j n : Nat} {t u : Sys} {pk : List Packet} {rt : RecvRel} (hA : AllInv cfg t pk)
    (hc : CountersOK cfg t) (hlive : t.b.isDisconnected = false) (hrt : SMap.find? t.b.recvRel ch = some rt)
    (ho : rt.ordered = true) (hv : ∀ id, id < j → Have rt id) (hn : j ≤ (t.obtained ch).length + n) (hrun : t.run (List.replicate n (SysOp.recvB ch)) = some u) :
    (t.submitted ch).take j <+: u.obtained ch ∧ u.obtained ch <+: t.submitted ch := by
  obtain ⟨hAu, hsub, ru, hru, hlu, hou, -, hmin⟩ := drain_induct
    (fun i r => r.ordered = true ∧ (∀ id, id < j → Have r id) ∧ min (rt.oldest + i) j ≤ r.oldest) (by
      rintro i r r' m hw hrec ⟨ho, hv, hmin⟩
      obtain ⟨o1, o2, o3⟩ := receive_ordered ho hrec
      obtain ⟨m1, -⟩ := receive_have hw hrec
      refine ⟨o1, fun id hid => m1 id (hv id hid), ?_⟩
      by_cases hlt : r.oldest < j
      · -- the message at the cursor has arrived, so it is in the queue and this call takes it
        have hcont : SMap.contains r.messages r.oldest = true := by
          rcases hv r.oldest hlt with hh | hh
          · omega
          · rw [if_pos ho] at hh; exact hh
        have := o3 hcont
        omega
      · omega)
    hA hc hlive hrt ⟨ho, hv, by omega⟩ hrun
  -- the cursor is the number of messages obtained: at `t` …
  obtain ⟨hot, hle⟩ := ((hA.i2.recvB hlive).2 ch rt hrt).1 ho
  have hold : rt.oldest = (t.obtained ch).length := by
    have := hot.obt
    have hle' : rt.oldest ≤ (t.submitted ch).length := hle
    dsimp only at this
    rw [this, List.length_take]; omega
  -- … and at `u`
  have hobt := (((hAu.i2.recvB hlu).2 ch ru hru).1 hou).1.obt
  dsimp only at hobt
  rw [hsub] at hobt
  rw [hobt]
  exact ⟨List.take_prefix_take_left (by omega), List.take_prefix _ _⟩

theorem receive_unordered {r r' : RecvRel} {m : Option Bytes} (ho : r.ordered = false) (h : r.receive = .ok (r', m)) :
    r'.ordered = false ∧ r'.messages = r.messages.drop 1 := by
  rcases RecvRel.receive_ok_iff.mp h with ⟨hnone, rfl, -⟩ | ⟨id, x, hn, -, rfl, -⟩
  · refine ⟨ho, ?_⟩
    rw [RecvRel.next, if_neg (by simp [ho])] at hnone
    rw [List.head?_eq_none_iff.mp hnone]; rfl
  · exact ⟨ho, by rw [(RecvRel.pop_unord ho hn).1]; rfl⟩

theorem sum_le_of_nodup_subset {α : Type} (w : α → Nat) : ∀ (l1 l2 : List α), l1.Nodup → (∀ x ∈ l1, x ∈ l2) →
    (l1.map w).sum ≤ (l2.map w).sum
  | [], _, _, _ => Nat.zero_le _
  | x :: r, l2, hn, hsub => by
    obtain ⟨a, b, rfl⟩ := List.append_of_mem (hsub x (List.mem_cons_self ..))
    have hx : x ∉ r := (List.nodup_cons.mp hn).1
    have ih := sum_le_of_nodup_subset w r (a ++ b) (List.nodup_cons.mp hn).2 (by
      intro y hy
      have := hsub y (List.mem_cons_of_mem _ hy)
      simp only [List.mem_append, List.mem_cons] at this ⊢
      rcases this with h | rfl | h
      · exact Or.inl h
      · exact absurd hy hx
      · exact Or.inr h)
    simp only [List.map_append, List.map_cons, List.sum_append, List.sum_cons] at ih ⊢
    omega

theorem queue_bound {L : List Bytes} {r : RecvRel} {o : List Bytes} (hinv : UnordInv L ⟨r, o, false⟩) (hF : UFull L r o) :
    r.messages.length + o.length ≤ L.length := by
  obtain ⟨ids, h1, h2, h3⟩ := hF
  have hlen : o.length = ids.length := by simpa using congrArg List.length h2
  have hall : (SMap.keys r.messages ++ ids).Nodup := by
    rw [List.nodup_append]
    refine ⟨hinv.wfM.nodup, h1, ?_⟩
    intro a ha b hb e
    subst e
    obtain ⟨x, hx, rfl⟩ := List.mem_map.mp ha
    have hf : SMap.find? r.messages x.1 = some x.2 := by
      have hs : SI.Sorted r.messages := hinv.wfM
      exact SI.mem_find?_of_sorted hs hx
    have := ((h3 x.1).mp hb).2
    rw [hf] at this; cases this
  have hbound : ∀ x ∈ SMap.keys r.messages ++ ids, x < L.length := by
    intro x hx
    rcases List.mem_append.mp hx with hx | hx
    · obtain ⟨y, hy, rfl⟩ := List.mem_map.mp hx
      have hs : SI.Sorted r.messages := hinv.wfM
      have := (hinv.msgs y.1 y.2 (SI.mem_find?_of_sorted hs hy)).1
      exact (List.getElem?_eq_some_iff.mp this).1
    · exact once_lt h2 x hx
  have := hall.length_le_of_subset fun x hx => List.mem_range.mpr (hbound x hx)
  simp only [List.length_append, SMap.keys, List.length_map, List.length_range] at this
  omega

theorem perm_of_ufull {L : List Bytes} {r : RecvRel} {o : List Bytes} (hF : UFull L r o) (hm : r.messages = [])
    (hv : ∀ id, id < L.length → Have r id) : o.Perm L := by
  obtain ⟨ids, h1, h2, h3⟩ := hF
  have hp : ids.Perm (List.range L.length) := by
    rw [List.perm_ext_iff_of_nodup h1 List.nodup_range]
    intro a
    rw [List.mem_range]
    constructor
    · exact once_lt h2 a
    · intro ha
      exact (h3 a).mpr ⟨hv a ha, by rw [hm]; rfl⟩
  have h4 : (o.map some).Perm (L.map some) := by
    rw [h2, ← range_map_get]
    exact hp.map _
  have h5 := h4.map (fun x : Option Bytes => x.getD [])
  simpa [List.map_map, Function.comp_def] using h5

/-- each call removes the head of the queue, the queue and the obtained messages together never exceed the log, so after
    `n` calls the queue is empty -/
theorem drain_unordered {cfg : Cfg} {ch n : Nat} {t u : Sys} {pk : List Packet} {rt : RecvRel} (hA : AllInv cfg t pk)
    (hc : CountersOK cfg t) (hlive : t.b.isDisconnected = false) (hrt : SMap.find? t.b.recvRel ch = some rt)
    (ho : rt.ordered = false) (hv : ∀ id, id < (t.submitted ch).length → Have rt id)
    (hn : (t.submitted ch).length ≤ (t.obtained ch).length + n)
    (hrun : t.run (List.replicate n (SysOp.recvB ch)) = some u) : (u.obtained ch).Perm (t.submitted ch) := by
  obtain ⟨hAu, hsub, ru, hru, hlu, hou, hmsg, hvu⟩ := drain_induct
    (fun i r => r.ordered = false ∧ r.messages = rt.messages.drop i ∧ ∀ id, id < (t.submitted ch).length → Have r id) (by
      rintro i r r' m hw hrec ⟨ho, hmsg, hv⟩
      obtain ⟨o1, o2⟩ := receive_unordered ho hrec
      obtain ⟨m1, -⟩ := receive_have hw hrec
      exact ⟨o1, by rw [o2, hmsg, List.drop_drop], fun id hid => m1 id (hv id hid)⟩)
    hA hc hlive hrt ⟨ho, rfl, hv⟩ hrun
  have hqb := queue_bound (((hA.i2.recvB hlive).2 ch rt hrt).2 ho) (hA.iF hlive ch rt hrt ho)
  have hfu := hAu.iF hlu ch ru hru hou
  rw [hsub] at hfu
  exact perm_of_ufull hfu (by rw [hmsg]; exact List.drop_eq_nil_of_le (by omega)) hvu

theorem have_of_released {cfg : Cfg} {t : Sys} {pk : List Packet} (hT : AllInv cfg t pk) (hlive : t.b.isDisconnected = false)
    {ch : Nat} {rt : RecvRel} (hrt : SMap.find? t.b.recvRel ch = some rt) {id : Nat} {m : Bytes}
    (hL : (t.submitted ch)[id]? = some m) (hrel : Released t.deliveredToB pk ch id m) : Have rt id := by
  have hbs := (hT.i2.recvB hlive).2 ch rt hrt
  by_cases hsmall : m.length ≤ SLICE_SIZE
  · obtain ⟨k, hk, sq, msgs, hp, hin⟩ := hrel.1 hsmall
    obtain ⟨r, hr, hall⟩ := hT.iD.arr hlive k hk _ hp
    rw [hrt] at hr; cases hr
    obtain ⟨x, hx, rfl⟩ := List.mem_map.mp hin
    exact hall x hx
  · refine have_of_all_slices (chanBS_tables hbs).2.1 ((reach_conn hT.i1.reachB).1.recvRel_find hrt) hL (by omega) ?_
    intro i hi
    obtain ⟨k, hk, sq, sl, hp, e1, e2⟩ := hrel.2 (by omega) i hi
    obtain ⟨r, hr, hall⟩ := hT.iD.arr hlive k hk _ hp
    rw [hrt] at hr; cases hr
    rw [← e1, ← e2]; exact hall

/-! ## Part 8 — the lossless round -/

theorem order_mem {b : Nat} {sd rc : List ChanCfg} {c : Conn} (hr : C08.Reach b sd rc c) {ch : Nat} {sA : SendRel}
    (hf : SMap.find? c.sendRel ch = some sA) : (true, ch) ∈ c.order := by
  obtain ⟨-, hsc, -⟩ := reach_conn hr
  rw [hsc.order]
  have h0 : (SMap.find? (Conn.fromChannels b sd rc).sendRel ch).isSome = true := by rw [← hsc.sendRel ch, hf]; rfl
  obtain ⟨s0, hs0⟩ := Option.isSome_iff_exists.mp h0
  obtain ⟨cc, hm, hk, h1, -⟩ := SMap.find?_foldl_filter hs0
  exact List.mem_map.mpr ⟨cc, hm, by rw [h1, hk]⟩

theorem hasRecv_of_relKind {cfg : Cfg} {s : Sys} {pkA : List Packet} (h1 : Inv1 cfg s pkA) {ch : Nat} {k : Bool}
    (hk : RelKind cfg ch = some k) : s.b.hasRecv ch := by
  left
  obtain ⟨-, hsc, -⟩ := reach_conn h1.reachB
  have h0 : (SMap.find? (Sys.init cfg).b.recvRel ch).isSome = true := by
    unfold RelKind at hk
    cases hf : SMap.find? (Sys.init cfg).b.recvRel ch with
    | none => rw [hf] at hk; cases hk
    | some r => rfl
  have := hsc.recvRel ch
  intro hn
  rw [hn] at this
  simp only [Sys.init] at h0
  rw [h0] at this; cases this

def newIdx (s : Sys) : List Nat := List.range' s.outA.length (flushPk s.a).length

def roundOps (ch : Nat) (ks : List Nat) (n : Nat) : List SysOp :=
  SysOp.flushA :: (ks.map SysOp.deliverToB ++ List.replicate n (SysOp.recvB ch))

theorem flush_len {c c' : Conn} {bs : List Bytes} (e : c.getPacketsToSend = .ok (c', bs)) :
    bs.length = (flushPk c).length := by
  have := congrArg List.length (flush_facts e).1
  simpa using this.symm

theorem mem_newIdx {s : Sys} {k : Nat} :
    k ∈ newIdx s ↔ s.outA.length ≤ k ∧ k < s.outA.length + (flushPk s.a).length := List.mem_range'_1

theorem new_mem_newIdx {cfg : Cfg} {s : Sys} {pkA : List Packet} (h1 : Inv1 cfg s pkA) {i : Nat}
    (hi : i < (flushPk s.a).length) : pkA.length + i ∈ newIdx s := by
  rw [mem_newIdx, pk_len h1]; omega

theorem recvChan_of_relKind {cfg : Cfg} {t : Sys} {pk : List Packet} (h2 : Inv2 cfg t pk)
    (hlive : t.b.isDisconnected = false) {ch : Nat} {k : Bool} (hrk : RelKind cfg ch = some k) :
    ∃ rt, SMap.find? t.b.recvRel ch = some rt ∧ rt.ordered = k := by
  have hk := (h2.recvB hlive).1 ch
  rw [hrk] at hk
  cases hrt : SMap.find? t.b.recvRel ch with
  | none => rw [hrt] at hk; cases hk
  | some rt => rw [hrt] at hk; exact ⟨rt, rfl, Option.some.inj hk⟩

def OnlyCh (ch : Nat) : Packet → Prop
  | .smallReliable _ c _ => c = ch
  | .reliableSlice _ c _ => c = ch
  | .ack _ _ => True
  | _ => False

instance (ch : Nat) (p : Packet) : Decidable (OnlyCh ch p) := by
  cases p <;> unfold OnlyCh <;> infer_instance

theorem processPacket_feedRel {c : Conn} {bytes : Bytes} {p : Packet} {ch : Nat} {f : RecvRel → RecvRelRes} {r r' : RecvRel}
    (hd : c.isDisconnected = false) (hp : Packet.fromBytes bytes = .ok p)
    (hdis : ∀ c0 : Conn, c0.dispatch c.now p = c0.feedRel ch f)
    (hf : SMap.find? c.recvRel ch = some r) (hl : f r = .ok r') :
    c.processPacket bytes =
      .ok { c with pendingAcks := Acks.add ACK_RANGE_CAP p.sequence c.pendingAcks, recvRel := SMap.insert c.recvRel ch r' } := by
  rw [Conn.processPacket_live hd hp, hdis]
  simp only [Conn.feedRel, Conn.feed, hf, hl]

theorem deliver_step_live {cfg : Cfg} {t t1 : Sys} {pk : List Packet} (hA : AllInv cfg t pk) {ch k : Nat} {p : Packet}
    (hp : pk[k]? = some p) (hoc : OnlyCh ch p) (hack : ∀ sq l, p = .ack sq l → Acks.WF l)
    (hlive : t.b.isDisconnected = false) {rt : RecvRel} (hrt : SMap.find? t.b.recvRel ch = some rt)
    (hroom : Room (t.submitted ch) rt) (hs : t.step (.deliverToB k) = some t1) :
    t1.b.isDisconnected = false ∧ ∃ rt1, SMap.find? t1.b.recvRel ch = some rt1 ∧ Room (t.submitted ch) rt1 := by
  have hmem : p ∈ pk := List.mem_of_getElem? hp
  cases stepped hs with
  | @deliverToB _ bytes b' hb hm =>
    dsimp only
    have hbs := (hA.i2.recvB hlive).2 ch rt hrt
    cases p with
    | smallReliable sq c msgs =>
      have hcc : c = ch := hoc
      subst hcc
      obtain ⟨bytes', hb', hdec⟩ := decode_lookup hA.i1 hA.i2 hp rfl
      rw [hb] at hb'; cases hb'
      have hgen : ∀ x ∈ msgs, (t.submitted c)[x.1]? = some x.2 := hA.i1.genA _ hmem
      have hlens : ∀ x ∈ msgs, x.2.length ≤ SLICE_SIZE := hA.iD.lens _ hmem
      obtain ⟨r', hl, hroom'⟩ := relMsgLoop_room msgs rt (fun x hx => ⟨hgen x hx, hlens x hx⟩) hroom
      rw [processPacket_feedRel hlive hdec (fun _ => rfl) hrt hl] at hm
      cases hm
      exact ⟨hlive, r', by dsimp only; rw [SMap.find?_insert, if_pos rfl], hroom'⟩
    | reliableSlice sq c sl =>
      have hcc : c = ch := hoc
      subst hcc
      obtain ⟨bytes', hb', hdec⟩ := decode_lookup hA.i1 hA.i2 hp rfl
      rw [hb] at hb'; cases hb'
      have hgen : GenuineSlice (t.submitted c) sl := hA.i1.genA _ hmem
      have hinv : rt.WInv := (reach_conn hA.i1.reachB).1.recvRel_find hrt
      obtain ⟨r', hl, hroom'⟩ := processSlice_room (chanBS_tables hbs).2.1 (chanBS_tables hbs).2.2
        (by
          intro c0 hc0
          have h1 := SMap.le_sumBy_of_mem SliceCtor.reserved (SMap.mem_of_find? hc0)
          have h2 := hinv.acct
          have h3 : c0.reserved = c0.numSlices * SLICE_SIZE := rfl
          omega)
        hgen hroom
      rw [processPacket_feedRel hlive hdec (fun _ => rfl) hrt hl] at hm
      cases hm
      exact ⟨hlive, r', by dsimp only; rw [SMap.find?_insert, if_pos rfl], hroom'⟩
    | ack sq l =>
      obtain ⟨b0, hb0, he⟩ := enc_lookup' hA.i1.encA hp
      rw [hb] at hb0; cases hb0
      have hdec := SI.enc_ack_decodes (hack sq l rfl) he
      obtain ⟨L, c', -, e, -, eff, -, -⟩ := SI.Conn.processPacket_ack_spec hA.i1.invB.1 hlive hdec
      rw [e] at hm; cases hm
      refine ⟨by rw [isDisconnected_congr eff.frame.2.2.1]; exact hlive, rt, ?_, hroom⟩
      rw [eff.frame.1]; exact hrt
    | smallUnreliable _ _ _ => exact hoc.elim
    | unreliableSlice _ _ _ => exact hoc.elim

theorem deliver_live (cfg : Cfg) (ch : Nat) (F : List Packet) (hF : ∀ p ∈ F, OnlyCh ch p)
    (hFack : ∀ sq l, Packet.ack sq l ∈ F → Acks.WF l) (ks : List Nat) (t t' : Sys) (pk : List Packet) (rt : RecvRel)
    (hA : AllInv cfg t pk) (hc : CountersOK cfg t) (hks : ∀ k ∈ ks, ∃ p ∈ F, pk[k]? = some p)
    (hlive : t.b.isDisconnected = false) (hrt : SMap.find? t.b.recvRel ch = some rt) (hroom : Room (t.submitted ch) rt)
    (hrun : t.run (ks.map SysOp.deliverToB) = some t') :
    t'.b.isDisconnected = false ∧ ∃ rt', SMap.find? t'.b.recvRel ch = some rt' ∧ Room (t.submitted ch) rt' := by
  refine (runB_induct (fun _ x => x.submitted = t.submitted ∧ x.b.isDisconnected = false ∧
      ∃ r, SMap.find? x.b.recvRel ch = some r ∧ Room (t.submitted ch) r) _ 0 t t' pk (deliver_onB ks) ?_ hA hc
    ⟨rfl, hlive, rt, hrt, hroom⟩ hrun).2.2.2.2.2
  rintro - x x' op hop hAx - - ⟨hsub, hl, r, hr, hroom⟩ hs
  obtain ⟨k, hk, rfl⟩ := List.mem_map.mp hop
  obtain ⟨p, hpF, hp⟩ := hks k hk
  obtain ⟨hl1, r1, hr1, hroom1⟩ := deliver_step_live hAx hp (hF p hpF) (fun sq l e => hFack sq l (e ▸ hpF)) hl hr
    (hsub ▸ hroom) hs
  exact ⟨((step_leaves hs).1 rfl).2.2.1.trans hsub, hl1, r1, hr1, hsub ▸ hroom1⟩

theorem round_inv {s u : Sys} {ch : Nat} {ks : List Nat} {n : Nat} (hu : s.run (roundOps ch ks n) = some u) :
    ∃ a1 bs t, s.a.getPacketsToSend = .ok (a1, bs) ∧
      ({ s with a := a1, outA := s.outA ++ bs } : Sys).run (ks.map SysOp.deliverToB) = some t ∧
      t.run (List.replicate n (SysOp.recvB ch)) = some u := by
  obtain ⟨s1, hs1, hu1⟩ := run_cons hu
  cases stepped hs1 with
  | @flushA a1 bs e =>
    obtain ⟨t, ht, hu'⟩ := run_append hu1
    exact ⟨a1, bs, t, e, ht, hu'⟩

/-- **A lossless round** `flushA ; deliverToB k (k ∈ ks) ; recvB ch (n times)` from the state `s` with packet list `pkA`:
    the flush returns `(a1, bs)`, `t` is the state after the deliveries, `u` the state after the drain.  What a theorem
    about rounds has to know of the states in between: the invariants and the counters hypothesis hold at each of them,
    A's side is `a1` from the flush on, the logs do not move, B's application has not been served before `t`, and exactly
    `ks` have been handed over. -/
structure Round (cfg : Cfg) (s : Sys) (pkA : List Packet) (ch : Nat) (ks : List Nat) (n : Nat) (a1 : Conn)
    (bs : List Bytes) (t u : Sys) : Prop where
  inv0 : AllInv cfg s pkA
  cntA : s.a.CountersOK
  live0 : s.a.isDisconnected = false
  flush : s.a.getPacketsToSend = .ok (a1, bs)
  liveA : a1.isDisconnected = false
  runT : ({ s with a := a1, outA := s.outA ++ bs } : Sys).run (ks.map SysOp.deliverToB) = some t
  runU : t.run (List.replicate n (SysOp.recvB ch)) = some u
  inv1 : AllInv cfg { s with a := a1, outA := s.outA ++ bs } (pkA ++ flushPk s.a)
  cnt1 : CountersOK cfg { s with a := a1, outA := s.outA ++ bs }
  invT : AllInv cfg t (pkA ++ flushPk s.a)
  cntT : CountersOK cfg t
  invU : AllInv cfg u (pkA ++ flushPk s.a)
  cntU : CountersOK cfg u
  ta : t.a = a1
  ua : u.a = a1
  tsub : t.submitted = s.submitted
  usub : u.submitted = s.submitted
  tobt : t.obtained = s.obtained
  tdel : t.deliveredToB = s.deliveredToB ++ ks
  ulive : u.b.isDisconnected = t.b.isDisconnected
  uacks : u.b.pendingAcks = t.b.pendingAcks

theorem recv_run_b (ch n : Nat) (t u : Sys) (h : t.run (List.replicate n (SysOp.recvB ch)) = some u) :
    u.b.pendingAcks = t.b.pendingAcks ∧ u.b.isDisconnected = t.b.isDisconnected := by
  refine run_induction (I := fun _ x => x.b.pendingAcks = t.b.pendingAcks ∧ x.b.isDisconnected = t.b.isDisconnected) _ 0
    (fun hop ⟨a1, a2⟩ hs => ?_) ⟨rfl, rfl⟩ h
  rw [(List.mem_replicate.mp hop).2] at hs
  cases stepped hs with
  | @recvB _ b' m hm =>
    refine ⟨(SI.Conn.receiveMessage_same hm).2.trans a1, Eq.trans ?_ a2⟩
    rcases Conn.receiveMessage_outcomes hm with ⟨-, rfl, -⟩ | ⟨-, r, r', -, -, rfl⟩ | ⟨-, -, r, r', -, -, rfl⟩
    · rfl
    · rfl
    · rfl

theorem round_anatomy {cfg : Cfg} {s t u : Sys} {pkA : List Packet} (hA : AllInv cfg s pkA) (hc : CountersOK cfg s)
    (hcA : s.a.CountersOK) (hda : s.a.isDisconnected = false) {ch n : Nat} {ks : List Nat} {a1 : Conn} {bs : List Bytes}
    (e : s.a.getPacketsToSend = .ok (a1, bs))
    (ht : ({ s with a := a1, outA := s.outA ++ bs } : Sys).run (ks.map SysOp.deliverToB) = some t)
    (hu : t.run (List.replicate n (SysOp.recvB ch)) = some u) : Round cfg s pkA ch ks n a1 bs t u := by
  obtain ⟨a1', bs', e', hst, -, hps⟩ :=
    Conn.getPacketsToSend_fits s.a (CI.flushInv_of (reach_conn hA.i1.reachA).1 hcA) hcA.seq
  cases e.symm.trans e'
  have hc1 : CountersOK cfg { s with a := a1, outA := s.outA ++ bs } :=
    ⟨hc.chan, Nat.le_trans hps hcA.seq, hc.ids, hc.lens, hc.lensU⟩
  have hA1 := allInv_step hA (step_flushA e) hc1
  obtain ⟨hAt, hct, ta, tsub, -⟩ := runB_induct (fun _ _ => True) _ 0 _ t _ (deliver_onB ks)
    (fun _ _ _ _ _ _ _ _ _ _ => trivial) hA1 hc1 trivial ht
  obtain ⟨hAu, hcu, ua, usub, -⟩ := runB_induct (fun _ _ => True) _ 0 t u _ (drain_onB ch n)
    (fun _ _ _ _ _ _ _ _ _ _ => trivial) hAt hct trivial hu
  obtain ⟨g6, g7⟩ := deliver_frame ks _ t ht
  obtain ⟨r1, r2⟩ := recv_run_b ch n t u hu
  exact ⟨hA, hcA, hda, e, by rw [isDisconnected_congr hst]; exact hda, ht, hu, hA1, hc1, hAt, hct, hAu, hcu, ta,
    ua.trans ta, tsub, usub.trans tsub, g6, g7, r2, r1⟩

theorem round_of_run {cfg : Cfg} {s u : Sys} (hg : MultiLive.GoodL cfg s) (hc : CountersOK cfg s) (hcA : s.a.CountersOK)
    (hda : s.a.isDisconnected = false) {ch n : Nat} {ks : List Nat} (hu : s.run (roundOps ch ks n) = some u) :
    ∃ pkA a1 bs t, Round cfg s pkA ch ks n a1 bs t u := by
  obtain ⟨pkA, hA⟩ := MultiLive.allInv_of_goodL hg hc
  obtain ⟨a1, bs, t, e, ht, hu'⟩ := round_inv hu
  exact ⟨pkA, a1, bs, t, round_anatomy hA hc hcA hda e ht hu'⟩

theorem round_total {cfg : Cfg} {s : Sys} (hg : MultiLive.GoodL cfg s) (hc : CountersOK cfg s) (hcA : s.a.CountersOK)
    (hda : s.a.isDisconnected = false) {ch : Nat} {k : Bool} (hrk : RelKind cfg ch = some k) {ks : List Nat}
    (hks : ∀ k ∈ ks, k < s.outA.length + (flushPk s.a).length) (n : Nat) :
    ∃ pkA a1 bs t u, Round cfg s pkA ch ks n a1 bs t u := by
  obtain ⟨pkA, hA⟩ := MultiLive.allInv_of_goodL hg hc
  obtain ⟨a1, bs, e, -⟩ := Conn.getPacketsToSend_fits s.a (CI.flushInv_of (reach_conn hA.i1.reachA).1 hcA) hcA.seq
  obtain ⟨t, ht⟩ := deliver_total cfg ks _ _ (inv1_step hA.i1 (step_flushA e)) (by
    intro k hk; dsimp only; rw [List.length_append, flush_len e]; exact hks k hk)
  have R0 := round_anatomy (ch := ch) (n := 0) hA hc hcA hda e ht rfl
  obtain ⟨u, hu, -⟩ := drain_total cfg ch n t _ R0.invT.i1 (hasRecv_of_relKind R0.invT.i1 hrk)
  exact ⟨pkA, a1, bs, t, u, round_anatomy hA hc hcA hda e ht hu⟩

theorem newIdx_packet {cfg : Cfg} {s : Sys} {pkA : List Packet} (h1 : Inv1 cfg s pkA) {k : Nat} (hk : k ∈ newIdx s) :
    ∃ p ∈ flushPk s.a, (pkA ++ flushPk s.a)[k]? = some p := by
  obtain ⟨h1', h2⟩ := mem_newIdx.mp hk
  rw [← pk_len h1] at h1' h2
  have hlt : k - pkA.length < (flushPk s.a).length := by omega
  refine ⟨(flushPk s.a)[k - pkA.length], List.getElem_mem _, ?_⟩
  rw [List.getElem?_append_right (by omega)]
  exact List.getElem?_eq_getElem hlt

theorem flush_idx {cfg : Cfg} {s : Sys} {pkA : List Packet} (h1 : Inv1 cfg s pkA) {p : Packet} (hp : p ∈ flushPk s.a) :
    ∃ k ∈ newIdx s, (pkA ++ flushPk s.a)[k]? = some p := by
  obtain ⟨i, hi⟩ := List.mem_iff_getElem?.mp hp
  refine ⟨pkA.length + i, new_mem_newIdx h1 (List.getElem?_eq_some_iff.mp hi).1, ?_⟩
  rw [List.getElem?_append_right (by omega)]
  have : pkA.length + i - pkA.length = i := by omega
  rw [this]; exact hi

namespace Round
variable {cfg : Cfg} {s t u : Sys} {pkA : List Packet} {ch n : Nat} {ks : List Nat} {a1 : Conn} {bs : List Bytes}

theorem run_t (R : Round cfg s pkA ch ks n a1 bs t u) : s.run (SysOp.flushA :: ks.map SysOp.deliverToB) = some t := by
  simp only [Sys.run, step_flushA R.flush]; exact R.runT

theorem run_u (R : Round cfg s pkA ch ks n a1 bs t u) : s.run (roundOps ch ks n) = some u := by
  simp only [roundOps, Sys.run, step_flushA R.flush]
  rw [Sys.run_append, R.runT]; exact R.runU

theorem liveU (R : Round cfg s pkA ch ks n a1 bs t u) : u.a.isDisconnected = false := by
  rw [R.ua]; exact R.liveA

/-- A message `< j` is either no longer stored by A — then all its packets were handed to B in an earlier round (C08) —
    or stored in `pre` — then what is still pending of it is in this flush; what is handed to a live B has arrived. -/
theorem arrived (R : Round cfg s pkA ch ks n a1 bs t u) {sA : SendRel} (hfA : SMap.find? s.a.sendRel ch = some sA)
    {pre post : SMap Unacked} (hun : sA.unacked = pre ++ post) {j : Nat} (hj : ∀ x ∈ post, j ≤ x.1)
    (H1 : AllDue s.a.now sA.resend pre) (H2 : backlog pre ≤ availAtTurn s.a ch) (hks : ∀ k ∈ newIdx s, k ∈ ks)
    (hlive : t.b.isDisconnected = false) {rt : RecvRel} (hrt : SMap.find? t.b.recvRel ch = some rt) :
    ∀ id, id < j → id < (s.submitted ch).length → Have rt id := by
  intro id hidj hidL
  have hA := R.inv0
  have hcar := flush_covers (reach_conn hA.i1.reachA).1 R.cntA R.live0 hfA (order_mem hA.i1.reachA hfA) hun H1 H2
  obtain ⟨hg, -⟩ := hA.i1.chanA ch sA hfA
  have hrel := hA.iR.relA ch sA hfA
  have hinvA := (hA.i1.invA.1.chans ch sA hfA).1
  have hpfx : pkA <+: pkA ++ flushPk s.a := List.prefix_append _ _
  have hdel : ∀ k ∈ s.deliveredToB, k ∈ t.deliveredToB := fun k hk => by rw [R.tdel]; exact List.mem_append_left _ hk
  have newDelivered : ∀ p ∈ flushPk s.a, ∃ k ∈ t.deliveredToB, (pkA ++ flushPk s.a)[k]? = some p := by
    intro p hp
    obtain ⟨k, hk, hpk⟩ := flush_idx hA.i1 hp
    exact ⟨k, by rw [R.tdel]; exact List.mem_append_right _ (hks k hk), hpk⟩
  have hLid : (s.submitted ch)[id]? = some (s.submitted ch)[id] := List.getElem?_eq_getElem hidL
  generalize (s.submitted ch)[id] = m at hLid
  have inPre : ∀ u, (id, u) ∈ sA.unacked → (id, u) ∈ pre := by
    intro u hu
    rw [hun] at hu
    rcases List.mem_append.mp hu with h | h
    · exact h
    · have := hj _ h; dsimp only at this; omega
  -- every packet needed for message `id` has been handed to B: in an earlier round, or with this flush
  refine have_of_released R.invT hlive hrt (by rw [R.tsub]; exact hLid) ?_
  cases hfu : SMap.find? sA.unacked id with
  | none => exact (hrel.gone id m hLid hfu).mono hdel hpfx
  | some u =>
    have hmem := SMap.mem_of_find? hfu
    have hgen := hg.gen _ hmem
    dsimp only at hgen
    rw [hLid] at hgen
    have hmu : u.msg = m := (Option.some.inj hgen).symm
    cases u with
    | small m' ls =>
      simp only [Unacked.msg] at hmu; subst hmu
      obtain ⟨sq, msgs, hp, hin⟩ := hcar (.small id m') (mem_pendTx_small.mpr ⟨ls, inPre _ hmem⟩)
      obtain ⟨k, hk, hpk⟩ := newDelivered _ hp
      have hlen : m'.length ≤ SLICE_SIZE := hinvA.entries _ hmem
      exact ⟨fun _ => ⟨k, hk, sq, msgs, hpk, List.mem_map.mpr ⟨(id, m'), hin, rfl⟩⟩, fun h => absurd h (by omega)⟩
    | sliced m' n na nx ak ls =>
      simp only [Unacked.msg] at hmu; subst hmu
      obtain ⟨o1, o2, o3, -⟩ := hinvA.find_ok hfu
      refine ⟨fun h => absurd o1 (by omega), fun _ i hi => ?_⟩
      rw [← o2] at hi
      rcases hrel.marked id m' n na nx ak ls hfu i hi with hpend | hdl
      · obtain ⟨m2, n2, k2, nx2, a2, ls2, hf2, ha2⟩ := hpend
        rw [hfu] at hf2; cases hf2
        have hak : ak.getD i false = false := by rw [List.getD_eq_getElem?_getD, ha2]; rfl
        obtain ⟨sq, hp⟩ := hcar (.slice id m' n i) (mem_pendTx_slice.mpr ⟨na, nx, ak, ls, inPre _ hmem, hi, hak⟩)
        obtain ⟨k, hk, hpk⟩ := newDelivered _ hp
        exact ⟨k, hk, sq, _, hpk, rfl, rfl⟩
      · exact hdl.mono hdel hpfx

theorem live (R : Round cfg s pkA ch ks n a1 bs t u) (hdb : s.b.isDisconnected = false) {rB : RecvRel}
    (hfB : SMap.find? s.b.recvRel ch = some rB) (H3 : Room (s.submitted ch) rB) (H4 : ∀ p ∈ flushPk s.a, OnlyCh ch p)
    (hks : ∀ k ∈ ks, k ∈ newIdx s) :
    t.b.isDisconnected = false ∧ ∃ rt, SMap.find? t.b.recvRel ch = some rt ∧ Room (s.submitted ch) rt := by
  have hFack : ∀ sq l, Packet.ack sq l ∈ flushPk s.a → Acks.WF l := by
    intro sq l hm
    obtain ⟨sq', e'⟩ := flush_acks R.flush _ hm rfl
    cases e'
    exact R.inv0.i1.invA.2
  exact deliver_live cfg ch (flushPk s.a) H4 hFack ks { s with a := a1, outA := s.outA ++ bs } t _ rB R.inv1 R.cnt1
    (fun k hk => newIdx_packet R.inv0.i1 (hks k hk)) hdb hfB H3 R.runT

end Round

/-! ## Part 9 — the round theorems -/

end RenetVerif.Live

namespace RenetVerif.LiveK
open RenetVerif C RenetVerif.System

def KindOf (cfg : Cfg) (ch : Nat) : Bool → Prop
  | true => cfg.Ordered ch
  | false => cfg.Unordered ch

def Delivered : Bool → List Bytes → List Bytes → Prop
  | true, obt, sub => obt = sub
  | false, obt, sub => obt.Perm sub

end RenetVerif.LiveK

namespace RenetVerif.Live
open RenetVerif C RenetVerif.System RenetVerif.DataPath RenetVerif.Reasm
open RenetVerif.LiveK

theorem relKind_of_kind {cfg : Cfg} {ch : Nat} : ∀ {ord : Bool}, KindOf cfg ch ord → RelKind cfg ch = some ord
  | true, h => relKind_ordered h
  | false, h => relKind_unordered h

theorem Round.delivered {cfg : Cfg} {s t u : Sys} {pkA : List Packet} {ch n : Nat} {ks : List Nat}
    {a1 : Conn} {bs : List Bytes} (R : Round cfg s pkA ch ks n a1 bs t u) {ord : Bool} (ho : KindOf cfg ch ord)
    {sA : SendRel} (hfA : SMap.find? s.a.sendRel ch = some sA) (q : Nat)
    (H1 : AllDue s.a.now sA.resend (sA.unacked.take q)) (H2 : backlog (sA.unacked.take q) ≤ availAtTurn s.a ch)
    (hks : ∀ k ∈ newIdx s, k ∈ ks) (hn : (s.submitted ch).length ≤ (s.obtained ch).length + n)
    (hdb : u.b.isDisconnected = false) :
    (ord = true → u.obtained ch <+: s.submitted ch) ∧
      (sA.unacked.drop q = [] → Delivered ord (u.obtained ch) (s.submitted ch)) := by
  have hlt : t.b.isDisconnected = false := R.ulive.symm.trans hdb
  obtain ⟨rt, hrt, hord⟩ := recvChan_of_relKind R.invT.i2 hlt (relKind_of_kind ho)
  have hun : sA.unacked = sA.unacked.take q ++ sA.unacked.drop q := (List.take_append_drop q _).symm
  cases ord with
  | true =>
    -- the drain hands out a prefix whatever has arrived (`j = 0`); with nothing left uncovered the whole log has
    by_cases hnil : sA.unacked.drop q = []
    · obtain ⟨p1, p2⟩ := drain_ordered (j := (s.submitted ch).length) R.invT R.cntT hlt hrt hord
        (fun id hid => R.arrived hfA hun (by rw [hnil]; exact fun _ h => by cases h) H1 H2 hks hlt hrt id hid hid)
        (by rw [R.tobt]; exact hn) R.runU
      rw [R.tsub] at p1 p2
      rw [List.take_length] at p1
      exact ⟨fun _ => p2, fun _ => p2.eq_of_length (Nat.le_antisymm p2.length_le p1.length_le)⟩
    · obtain ⟨-, p2⟩ := drain_ordered (j := 0) R.invT R.cntT hlt hrt hord (fun id hid => absurd hid (Nat.not_lt_zero _))
        (Nat.zero_le _) R.runU
      rw [R.tsub] at p2
      exact ⟨fun _ => p2, fun h => absurd h hnil⟩
  | false =>
    refine ⟨fun h => (by cases h), fun hnil => ?_⟩
    have := drain_unordered R.invT R.cntT hlt hrt hord
      (fun id hid => R.arrived (j := (s.submitted ch).length) hfA hun (by rw [hnil]; exact fun _ h => by cases h) H1 H2
        hks hlt hrt id (by rw [← R.tsub]; exact hid) (by rw [← R.tsub]; exact hid))
      (by rw [R.tsub, R.tobt]; exact hn) R.runU
    rwa [R.tsub] at this

/-- **Progress per lossless round (ordered channel, prefix form).**  `pre` = the entries of A's `unacked` with the
    smallest ids, all due (H1) and covered by the budget the channel is offered (H2); `j` = a message id below all
    other stored entries.  After `flushA`, delivery of (at least) the datagrams of that flush, and enough
    `receive_message` calls: nothing panics, A stays live, and unless B has been disconnected B's application has
    obtained the first `j` submitted messages (and, always, only a prefix of the submitted ones). -/
theorem round_progress_inv {cfg : Cfg} {s : Sys} (hg : MultiLive.GoodL cfg s)
    (hc : CountersOK cfg s) (hcA : s.a.CountersOK) (hda : s.a.isDisconnected = false)
    (ch : Nat) (ho : cfg.Ordered ch) (sA : SendRel) (hfA : SMap.find? s.a.sendRel ch = some sA)
    (pre post : SMap Unacked) (hun : sA.unacked = pre ++ post) (j : Nat) (hj : ∀ x ∈ post, j ≤ x.1)
    (hjL : j ≤ (s.submitted ch).length)
    (H1 : AllDue s.a.now sA.resend pre) (H2 : backlog pre ≤ availAtTurn s.a ch)
    (ks : List Nat) (hks1 : ∀ k ∈ newIdx s, k ∈ ks) (hks2 : ∀ k ∈ ks, k < s.outA.length + (flushPk s.a).length)
    (n : Nat) (hn : j ≤ (s.obtained ch).length + n) :
    ∃ t u, s.run (SysOp.flushA :: ks.map SysOp.deliverToB) = some t ∧ t.run (List.replicate n (SysOp.recvB ch)) = some u ∧
      s.run (roundOps ch ks n) = some u ∧
      u.submitted = s.submitted ∧ u.a.isDisconnected = false ∧ u.b.isDisconnected = t.b.isDisconnected ∧
      (u.b.isDisconnected = false → (s.submitted ch).take j <+: u.obtained ch ∧ u.obtained ch <+: s.submitted ch) := by
  have hrk := relKind_ordered ho
  obtain ⟨pkA, a1, bs, t, u, R⟩ := round_total hg hc hcA hda hrk hks2 n
  refine ⟨t, u, R.run_t, R.runU, R.run_u, R.usub, R.liveU, R.ulive, fun hliveu => ?_⟩
  have hlivet : t.b.isDisconnected = false := R.ulive.symm.trans hliveu
  obtain ⟨rt, hrt, hord⟩ := recvChan_of_relKind R.invT.i2 hlivet hrk
  have := drain_ordered R.invT R.cntT hlivet hrt hord
    (fun id hid => R.arrived hfA hun hj H1 H2 hks1 hlivet hrt id hid (by omega)) (by rw [R.tobt]; exact hn) R.runU
  rwa [R.tsub] at this

theorem round_live_inv {cfg : Cfg} {s : Sys} (hg : MultiLive.GoodL cfg s)
    (hc : CountersOK cfg s) (hcA : s.a.CountersOK) (hda : s.a.isDisconnected = false) (hdb : s.b.isDisconnected = false)
    (ch : Nat) (rB : RecvRel) (hfB : SMap.find? s.b.recvRel ch = some rB)
    (H3 : Room (s.submitted ch) rB) (H4 : ∀ p ∈ flushPk s.a, OnlyCh ch p)
    (ks : List Nat) (hks : ∀ k ∈ ks, k ∈ newIdx s) (t : Sys)
    (hrun : s.run (SysOp.flushA :: ks.map SysOp.deliverToB) = some t) : t.b.isDisconnected = false := by
  obtain ⟨pkA, hA⟩ := MultiLive.allInv_of_goodL hg hc
  obtain ⟨s1, hs1, hrun1⟩ := run_cons hrun
  cases stepped hs1 with
  | flushA e => exact ((round_anatomy (ch := ch) (n := 0) hA hc hcA hda e hrun1 rfl).live hdb hfB H3 H4 hks).1

/-- **One lossless round on a reliable channel of kind `ord`**, the whole backlog due (H1) and covered by the budget
    (H2): nothing panics, A stays live, and unless B has been disconnected everything submitted is `Delivered`. -/
theorem round_delivered_inv {cfg : Cfg} {s : Sys} (hg : MultiLive.GoodL cfg s)
    (hc : CountersOK cfg s) (hcA : s.a.CountersOK) (hda : s.a.isDisconnected = false)
    (ch : Nat) {ord : Bool} (ho : KindOf cfg ch ord) (sA : SendRel) (hfA : SMap.find? s.a.sendRel ch = some sA)
    (H1 : AllDue s.a.now sA.resend sA.unacked) (H2 : backlog sA.unacked ≤ availAtTurn s.a ch)
    (ks : List Nat) (hks1 : ∀ k ∈ newIdx s, k ∈ ks) (hks2 : ∀ k ∈ ks, k < s.outA.length + (flushPk s.a).length)
    (n : Nat) (hn : (s.submitted ch).length ≤ (s.obtained ch).length + n) :
    ∃ t u, s.run (SysOp.flushA :: ks.map SysOp.deliverToB) = some t ∧ t.run (List.replicate n (SysOp.recvB ch)) = some u ∧
      s.run (roundOps ch ks n) = some u ∧
      u.submitted = s.submitted ∧ u.a.isDisconnected = false ∧ u.b.isDisconnected = t.b.isDisconnected ∧
      (u.b.isDisconnected = false → Delivered ord (u.obtained ch) (s.submitted ch)) := by
  obtain ⟨pkA, a1, bs, t, u, R⟩ := round_total hg hc hcA hda (relKind_of_kind ho) hks2 n
  refine ⟨t, u, R.run_t, R.runU, R.run_u, R.usub, R.liveU, R.ulive, fun hl => ?_⟩
  exact (R.delivered ho hfA sA.unacked.length (by rw [List.take_length]; exact H1) (by rw [List.take_length]; exact H2)
    hks1 hn hl).2 (List.drop_length ..)

/-- … and with room at B (H3) for a flush that carries only channel `ch` (H4), B is not disconnected
    (`round_live_inv`), so everything is `Delivered` -/
theorem round_delivers_any_inv {cfg : Cfg} {s : Sys} (hg : MultiLive.GoodL cfg s)
    (hc : CountersOK cfg s) (hcA : s.a.CountersOK) (hda : s.a.isDisconnected = false) (hdb : s.b.isDisconnected = false)
    (ch : Nat) {ord : Bool} (ho : KindOf cfg ch ord) (sA : SendRel) (hfA : SMap.find? s.a.sendRel ch = some sA)
    (rB : RecvRel) (hfB : SMap.find? s.b.recvRel ch = some rB)
    (H1 : AllDue s.a.now sA.resend sA.unacked) (H2 : backlog sA.unacked ≤ availAtTurn s.a ch)
    (H3 : Room (s.submitted ch) rB) (H4 : ∀ p ∈ flushPk s.a, OnlyCh ch p)
    (ks : List Nat) (hks1 : ∀ k ∈ newIdx s, k ∈ ks) (hks2 : ∀ k ∈ ks, k ∈ newIdx s)
    (n : Nat) (hn : (s.submitted ch).length ≤ (s.obtained ch).length + n) :
    ∃ u, s.run (roundOps ch ks n) = some u ∧ u.a.isDisconnected = false ∧ u.b.isDisconnected = false ∧
      u.submitted = s.submitted ∧ Delivered ord (u.obtained ch) (s.submitted ch) := by
  obtain ⟨t, u, ht, -, hu, e1, e2, e3, hcon⟩ := round_delivered_inv hg hc hcA hda ch ho sA hfA H1 H2 ks hks1
    (fun k hk => (mem_newIdx.mp (hks2 k hk)).2) n hn
  have hlu : u.b.isDisconnected = false := e3.trans (round_live_inv hg hc hcA hda hdb ch rB hfB H3 H4 ks hks2 t ht)
  exact ⟨u, hu, e2, hlu, e1, hcon hlu⟩

/-- **C01 liveness: one lossless round delivers everything (ReliableOrdered).**
    From any state reachable by `Sys.run (Sys.init cfg) ops` whose counters are in range, both endpoints live, if
    * (H1) every entry of A's `unacked` on channel `ch` is due at A's current time,
    * (H2) the budget left for channel `ch` at its turn in the channel loop covers the backlog,
    * (H3) B's receive channel has room for every submitted message that has not arrived yet,
    * (H4) the flush carries only packets of channel `ch` (and possibly A's ack packet),
    then after `flushA`, delivery of exactly the datagrams of that flush (`ks`: any order, repetitions allowed) and
    enough `receive_message` calls, nothing has panicked, both endpoints are still live, and B's application has
    obtained exactly the submitted messages, in order. -/
theorem round_delivers (cfg : Cfg) (ops : List SysOp) (s : Sys) (hr : (Sys.init cfg).run ops = some s)
    (hc : CountersOK cfg s) (hcA : s.a.CountersOK) (hda : s.a.isDisconnected = false) (hdb : s.b.isDisconnected = false)
    (ch : Nat) (ho : cfg.Ordered ch) (sA : SendRel) (hfA : SMap.find? s.a.sendRel ch = some sA)
    (rB : RecvRel) (hfB : SMap.find? s.b.recvRel ch = some rB)
    (H1 : AllDue s.a.now sA.resend sA.unacked) (H2 : backlog sA.unacked ≤ availAtTurn s.a ch)
    (H3 : Room (s.submitted ch) rB) (H4 : ∀ p ∈ flushPk s.a, OnlyCh ch p)
    (ks : List Nat) (hks1 : ∀ k ∈ newIdx s, k ∈ ks) (hks2 : ∀ k ∈ ks, k ∈ newIdx s)
    (n : Nat) (hn : (s.submitted ch).length ≤ (s.obtained ch).length + n) :
    ∃ u, s.run (roundOps ch ks n) = some u ∧ u.a.isDisconnected = false ∧ u.b.isDisconnected = false ∧
      u.submitted ch = s.submitted ch ∧ u.obtained ch = s.submitted ch := by
  obtain ⟨u, hu, e1, e2, e3, e4⟩ := round_delivers_any_inv (ord := true) (MultiLive.goodL_reach hr) hc hcA hda hdb ch ho sA hfA
    rB hfB H1 H2 H3 H4 ks hks1 hks2 n hn
  exact ⟨u, hu, e1, e2, by rw [e3], e4⟩

theorem round_delivers_unordered_live (cfg : Cfg) (ops : List SysOp) (s : Sys) (hr : (Sys.init cfg).run ops = some s)
    (hc : CountersOK cfg s) (hcA : s.a.CountersOK) (hda : s.a.isDisconnected = false) (hdb : s.b.isDisconnected = false)
    (ch : Nat) (ho : cfg.Unordered ch) (sA : SendRel) (hfA : SMap.find? s.a.sendRel ch = some sA)
    (rB : RecvRel) (hfB : SMap.find? s.b.recvRel ch = some rB)
    (H1 : AllDue s.a.now sA.resend sA.unacked) (H2 : backlog sA.unacked ≤ availAtTurn s.a ch)
    (H3 : Room (s.submitted ch) rB) (H4 : ∀ p ∈ flushPk s.a, OnlyCh ch p)
    (ks : List Nat) (hks1 : ∀ k ∈ newIdx s, k ∈ ks) (hks2 : ∀ k ∈ ks, k ∈ newIdx s)
    (n : Nat) (hn : (s.submitted ch).length ≤ (s.obtained ch).length + n) :
    ∃ u, s.run (roundOps ch ks n) = some u ∧ u.a.isDisconnected = false ∧ u.b.isDisconnected = false ∧
      u.submitted ch = s.submitted ch ∧ (u.obtained ch).Perm (s.submitted ch) := by
  obtain ⟨u, hu, e1, e2, e3, e4⟩ := round_delivers_any_inv (ord := false) (MultiLive.goodL_reach hr) hc hcA hda hdb ch ho
    sA hfA rB hfB H1 H2 H3 H4 ks hks1 hks2 n hn
  exact ⟨u, hu, e1, e2, by rw [e3], e4⟩

/-! ## Part 10 — waiting for the resend timer, and the one-tick bound -/

theorem updA_step {cfg : Cfg} {s : Sys} {pkA : List Packet} (h1 : Inv1 cfg s pkA) (dt : Nat) :
    ∃ su, s.step (.updA dt) = some su := by
  obtain ⟨a', e, -⟩ := CI.update_totalP (reach_conn h1.reachA).1 dt
  exact ⟨{ s with a := a' }, by simp only [Sys.step, e]⟩

theorem updA_frame {s su : Sys} {dt : Nat} (hsu : s.step (.updA dt) = some su) :
    su.a.now = s.a.now + dt ∧ su.a.sendRel = s.a.sendRel ∧ su.a.isDisconnected = s.a.isDisconnected ∧
    su.a.packetSeq = s.a.packetSeq ∧ su.b = s.b ∧ su.submitted = s.submitted ∧ su.submittedU = s.submittedU ∧
    su.obtained = s.obtained ∧ su.outA = s.outA := by
  cases stepped hsu with
  | @updA _ a' hm =>
    obtain ⟨e1, -, e3, -⟩ := Conn.update_frame hm
    exact ⟨(Conn.update_frame hm).now, e1, isDisconnected_congr (Conn.update_frame hm).status, e3, rfl, rfl, rfl, rfl, rfl⟩

theorem due_after_update_inv {cfg : Cfg} {s : Sys} {pkA : List Packet} (h1 : Inv1 cfg s pkA)
    (ch : Nat) (sA : SendRel) (hfA : SMap.find? s.a.sendRel ch = some sA) (dt : Nat) (hdt : sA.resend ≤ dt)
    (su : Sys) (hsu : s.step (.updA dt) = some su) :
    SMap.find? su.a.sendRel ch = some sA ∧ AllDue su.a.now sA.resend sA.unacked := by
  obtain ⟨e1, e2, -⟩ := updA_frame hsu
  rw [e1, e2]
  exact ⟨hfA, allDue_of_stamped ((reach_conn h1.reachA).2.2.1.rel (ch, sA) (SMap.mem_of_find? hfA)) hdt⟩

/-- **(H1 holds after waiting.)**  In a reachable state, once A's clock has advanced by at least the channel's
    `resend_time`, every entry of `unacked` — every small message, every un-acknowledged slice — is due. -/
theorem due_after_update (cfg : Cfg) (ops : List SysOp) (s : Sys) (hr : (Sys.init cfg).run ops = some s)
    (ch : Nat) (sA : SendRel) (hfA : SMap.find? s.a.sendRel ch = some sA) (dt : Nat) (hdt : sA.resend ≤ dt)
    (su : Sys) (hsu : s.step (.updA dt) = some su) :
    SMap.find? su.a.sendRel ch = some sA ∧ AllDue su.a.now sA.resend sA.unacked := by
  obtain ⟨pkA, h1, -⟩ := system_inv cfg ops s hr
  exact due_after_update_inv h1 ch sA hfA dt hdt su hsu

theorem run_snoc {cfg : Cfg} {ops : List SysOp} {s su : Sys} {op : SysOp} (hr : (Sys.init cfg).run ops = some s)
    (hs : s.step op = some su) : (Sys.init cfg).run (ops ++ [op]) = some su := by
  rw [Sys.run_append, hr]
  simp only [Option.bind_some, Sys.run, hs]

/-- **C01 liveness, bound: ONE lossless tick after the resend time has elapsed.**
    From any reachable state with both endpoints live: let A's clock advance by `dt ≥ resend_time` (`updA dt`, giving
    `su`); if at that moment the budget covers the backlog of channel `ch` (H2), the flush carries only that channel
    (H4), B's channel has room (H3) and the counters are in range, then `flushA`, delivery of that flush's datagrams
    and enough `receive_message` calls complete the delivery: `obtained = submitted`. -/
theorem bounded_delivery (cfg : Cfg) (ops : List SysOp) (s : Sys) (hr : (Sys.init cfg).run ops = some s)
    (hda : s.a.isDisconnected = false) (hdb : s.b.isDisconnected = false)
    (ch : Nat) (ho : cfg.Ordered ch) (sA : SendRel) (hfA : SMap.find? s.a.sendRel ch = some sA)
    (rB : RecvRel) (hfB : SMap.find? s.b.recvRel ch = some rB)
    (dt : Nat) (hdt : sA.resend ≤ dt) (su : Sys) (hsu : s.step (.updA dt) = some su)
    (hc : CountersOK cfg su) (hcA : su.a.CountersOK)
    (H2 : backlog sA.unacked ≤ availAtTurn su.a ch)
    (H3 : Room (s.submitted ch) rB) (H4 : ∀ p ∈ flushPk su.a, OnlyCh ch p)
    (ks : List Nat) (hks1 : ∀ k ∈ newIdx su, k ∈ ks) (hks2 : ∀ k ∈ ks, k ∈ newIdx su)
    (n : Nat) (hn : (s.submitted ch).length ≤ (s.obtained ch).length + n) :
    ∃ u, s.run (SysOp.updA dt :: roundOps ch ks n) = some u ∧ u.a.isDisconnected = false ∧ u.b.isDisconnected = false ∧
      u.submitted ch = s.submitted ch ∧ u.obtained ch = s.submitted ch := by
  obtain ⟨hfu, hdue⟩ := due_after_update cfg ops s hr ch sA hfA dt hdt su hsu
  obtain ⟨-, -, e3, -, e5, e6, -, e8, -⟩ := updA_frame hsu
  obtain ⟨u, hu, a1, a2, a3, a4⟩ := round_delivers cfg (ops ++ [.updA dt]) su (run_snoc hr hsu) hc hcA
    (by rw [e3]; exact hda) (by rw [e5]; exact hdb) ch ho sA hfu rB (by rw [e5]; exact hfB) hdue H2
    (by rw [e6]; exact H3) H4 ks hks1 hks2 n (by rw [e6, e8]; exact hn)
  refine ⟨u, by simp only [Sys.run, hsu]; exact hu, a1, a2, by rw [a3, e6], by rw [a4, e6]⟩

theorem obtained_step {s s' : Sys} {op : SysOp} (hs : s.step op = some s') (ch : Nat) :
    s.obtained ch <+: s'.obtained ch := by
  cases stepped hs with
  | @recvB c _ m _ =>
    obtain ⟨ho1, ho2⟩ := obtained_recv s.obtained c m
    dsimp only
    by_cases e : ch = c
    · subst e; rw [ho1]; exact List.prefix_append _ _
    · rw [ho2 ch e]; exact List.prefix_refl _
  | sendA _ | updA _ | updB _ | flushA _ | flushB _ | deliverToB _ _ | deliverToA _ _ => exact List.prefix_refl _

theorem obtained_run (ch : Nat) (ops : List SysOp) (x y : Sys) (h : x.run ops = some y) : x.obtained ch <+: y.obtained ch :=
  run_induction (I := fun _ z => x.obtained ch <+: z.obtained ch) ops 0 (fun _ h hs => h.trans (obtained_step hs ch))
    (List.prefix_refl _) h

/-- **Progress per tick when the budget covers only part of the backlog.**  Same round after `updA dt`, but only the
    entries `pre` with the smallest ids are covered by the budget: unless B gets disconnected (no H3/H4 assumed here),
    B's application obtains at least the first `j` submitted messages, `j` being any id below the uncovered entries;
    what it obtains is always a prefix of what was submitted.  (Nothing is lost on the way: `nothing_lost`.) -/
theorem progress_per_tick_partial (cfg : Cfg) (ops : List SysOp) (s : Sys) (hr : (Sys.init cfg).run ops = some s)
    (hda : s.a.isDisconnected = false)
    (ch : Nat) (ho : cfg.Ordered ch) (sA : SendRel) (hfA : SMap.find? s.a.sendRel ch = some sA)
    (dt : Nat) (hdt : sA.resend ≤ dt) (su : Sys) (hsu : s.step (.updA dt) = some su)
    (hc : CountersOK cfg su) (hcA : su.a.CountersOK)
    (pre post : SMap Unacked) (hun : sA.unacked = pre ++ post) (j : Nat) (hj : ∀ x ∈ post, j ≤ x.1)
    (hjL : j ≤ (s.submitted ch).length) (H2 : backlog pre ≤ availAtTurn su.a ch)
    (ks : List Nat) (hks1 : ∀ k ∈ newIdx su, k ∈ ks) (hks2 : ∀ k ∈ ks, k < su.outA.length + (flushPk su.a).length)
    (n : Nat) (hn : j ≤ (s.obtained ch).length + n) :
    ∃ u, s.run (SysOp.updA dt :: roundOps ch ks n) = some u ∧ u.a.isDisconnected = false ∧
      u.submitted ch = s.submitted ch ∧ s.obtained ch <+: u.obtained ch ∧
      (u.b.isDisconnected = false → (s.submitted ch).take j <+: u.obtained ch ∧ u.obtained ch <+: s.submitted ch) := by
  obtain ⟨hfu, hdue⟩ := due_after_update cfg ops s hr ch sA hfA dt hdt su hsu
  obtain ⟨-, -, e3, -, e5, e6, -, e8, -⟩ := updA_frame hsu
  obtain ⟨t, u, ht, hut, hu, a1, a2, a3, a4⟩ := round_progress_inv (MultiLive.goodL_reach (run_snoc hr hsu)) hc hcA
    (by rw [e3]; exact hda) ch ho sA hfu pre post hun j hj (by rw [e6]; exact hjL)
    (fun x hx => hdue x (by rw [hun]; exact List.mem_append_left _ hx)) H2 ks hks1 hks2 n (by rw [e8]; exact hn)
  refine ⟨u, by simp only [Sys.run, hsu]; exact hu, a2, by rw [a1, e6], ?_, by rw [e6] at a4; exact a4⟩
  have := obtained_run ch _ su u hu
  rw [e8] at this
  exact this

/-- **Nothing is lost.**  In every reachable state with B live, each submitted message of a reliable channel is still
    stored in A's `unacked` (and will be retransmitted) or has completely arrived at B — so a tick that could not
    carry a message (budget, loss) merely postpones it. -/
theorem nothing_lost (cfg : Cfg) (ops : List SysOp) (s : Sys) (hr : (Sys.init cfg).run ops = some s)
    (hc : CountersOK cfg s) (hdb : s.b.isDisconnected = false)
    (ch : Nat) (sA : SendRel) (hfA : SMap.find? s.a.sendRel ch = some sA)
    (rB : RecvRel) (hfB : SMap.find? s.b.recvRel ch = some rB) (id : Nat) (hid : id < (s.submitted ch).length) :
    (∃ u, SMap.find? sA.unacked id = some u ∧ u.msg = (s.submitted ch)[id]) ∨ Have rB id := by
  obtain ⟨pkA, hA⟩ := allInv_reach cfg ops s hr hc
  cases hfu : SMap.find? sA.unacked id with
  | some u =>
    left
    have := (hA.i1.chanA ch sA hfA).1.gen _ (SMap.mem_of_find? hfu)
    dsimp only at this
    rw [List.getElem?_eq_getElem hid] at this
    exact ⟨u, rfl, (Option.some.inj this).symm⟩
  | none =>
    right
    exact have_of_released hA hdb hfB (List.getElem?_eq_getElem hid)
      ((hA.iR.relA ch sA hfA).gone id _ (List.getElem?_eq_getElem hid) hfu)


/-! ### the single-channel configuration: H2 is `backlog ≤ cfg.budget`, H4 is automatic -/

def Single (cfg : Cfg) (ch : Nat) : Prop := ∃ mm rs, cfg.send = [⟨ch, .ordered, mm, rs⟩]

theorem single_ordered {cfg : Cfg} {ch : Nat} (h : Single cfg ch) : cfg.Ordered ch := by
  obtain ⟨mm, rs, e⟩ := h
  refine ⟨⟨_, by rw [e]; exact List.mem_singleton.mpr rfl, rfl, rfl⟩, ?_⟩
  intro c hc _
  rw [e] at hc
  rw [List.mem_singleton.mp hc]
  intro h; cases h

theorem single_order {cfg : Cfg} {ch : Nat} (h : Single cfg ch) {s : Sys} {pkA : List Packet} (h1 : Inv1 cfg s pkA) :
    s.a.order = [(true, ch)] := by
  obtain ⟨mm, rs, e⟩ := h
  rw [(reach_conn h1.reachA).2.1.order]
  simp only [Conn.fromChannels, e, List.map_cons, List.map_nil]
  rfl

theorem single_avail {cfg : Cfg} {ch : Nat} (h : Single cfg ch) {s : Sys} {pkA : List Packet} (h1 : Inv1 cfg s pkA) :
    availAtTurn s.a ch = cfg.budget := by
  unfold availAtTurn
  rw [single_order h h1]
  simp only [List.takeWhile_cons, bne_self_eq_false, Bool.false_eq_true, ↓reduceIte, Conn.chanLoop]
  exact (reach_conn h1.reachA).2.2.2

theorem single_only {c : Conn} (hinv : c.SendInv) {ch : Nat} (hord : c.order = [(true, ch)]) :
    ∀ p ∈ flushPk c, OnlyCh ch p := by
  intro p hp
  unfold flushPk at hp
  split at hp
  · cases hp
  · rw [hord, chanLoop_rel_step] at hp
    cases hf : SMap.find? c.sendRel ch with
    | none => rw [hf] at hp; cases hp
    | some sA =>
      rw [hf] at hp
      simp only [Conn.chanLoop] at hp
      split at hp
      · rcases mem_withAck hp with h | rfl
        · simp only [List.nil_append] at h
          have hg := SendRel.getPackets_genuine (s := sA) (seq := c.packetSeq) (avail := c.budget) (now := c.now)
            (s' := (sA.getPackets c.packetSeq c.budget c.now).1) (ps := (sA.getPackets c.packetSeq c.budget c.now).2.1)
            (seq' := (sA.getPackets c.packetSeq c.budget c.now).2.2.1)
            (avail' := (sA.getPackets c.packetSeq c.budget c.now).2.2.2) rfl p h
          have hc := (hinv.chans ch sA hf).2
          cases p with
          | smallReliable _ _ _ => exact hg.1.trans hc
          | reliableSlice _ _ _ => exact hg.1.trans hc
          | smallUnreliable _ _ _ => exact hg.elim
          | unreliableSlice _ _ _ => exact hg.elim
          | ack _ _ => trivial
        · trivial
      · cases hp

/-! ## Part 11 — the acknowledgement path back: what an ack packet releases at the sender -/

/-- ack processing only releases: what is gone stays gone, a slice that is not pending does not become pending -/
def AckMono (s s' : SendRel) : Prop :=
  (∀ j, SMap.find? s.unacked j = none → SMap.find? s'.unacked j = none) ∧ (∀ j i, s'.Pending j i → s.Pending j i) ∧
  (∀ j u', SMap.find? s'.unacked j = some u' → ∃ u, SMap.find? s.unacked j = some u ∧ u.Kin u')

theorem AckMono.refl (s : SendRel) : AckMono s s := ⟨fun _ h => h, fun _ _ h => h, fun _ u h => ⟨u, h, Unacked.Kin.refl u⟩⟩

theorem AckMono.trans {a b c : SendRel} (h1 : AckMono a b) (h2 : AckMono b c) : AckMono a c :=
  ⟨fun j h => h2.1 j (h1.1 j h), fun j i h => h1.2.1 j i (h2.2.1 j i h), fun j u' h => by
    obtain ⟨u1, hu1, k1⟩ := h2.2.2 j u' h
    obtain ⟨u0, hu0, k0⟩ := h1.2.2 j u1 hu1
    exact ⟨u0, hu0, k0.trans k1⟩⟩

def ConnAckMono (c c' : Conn) : Prop :=
  ∀ ch s, SMap.find? c.sendRel ch = some s → ∃ s', SMap.find? c'.sendRel ch = some s' ∧ AckMono s s'

theorem ConnAckMono.refl (c : Conn) : ConnAckMono c c := fun _ s h => ⟨s, h, AckMono.refl _⟩

theorem ConnAckMono.trans {a b c : Conn} (h1 : ConnAckMono a b) (h2 : ConnAckMono b c) : ConnAckMono a c := by
  intro ch s hs
  obtain ⟨s1, hs1, m1⟩ := h1 ch s hs
  obtain ⟨s2, hs2, m2⟩ := h2 ch s1 hs1
  exact ⟨s2, hs2, m1.trans m2⟩

/-- what acknowledging a recorded packet achieves: the small messages it carried are released; the slice it carried
    is no longer pending (marked acknowledged, or its message released) -/
def Eff (c' : Conn) : SentInfo → Prop
  | .relMsgs ch ids => ∃ s', SMap.find? c'.sendRel ch = some s' ∧ ∀ id ∈ ids, SMap.find? s'.unacked id = none
  | .relSlice ch id idx => ∃ s', SMap.find? c'.sendRel ch = some s' ∧ ¬ s'.Pending id idx
  | _ => True

theorem Eff.mono {c c' : Conn} (hm : ConnAckMono c c') : ∀ {info : SentInfo}, Eff c info → Eff c' info
  | .relMsgs ch ids, ⟨s, hs, hg⟩ => by
    obtain ⟨s', hs', m⟩ := hm ch s hs
    exact ⟨s', hs', fun id hid => m.1 id (hg id hid)⟩
  | .relSlice ch id idx, ⟨s, hs, hg⟩ => by
    obtain ⟨s', hs', m⟩ := hm ch s hs
    exact ⟨s', hs', fun hp => hg (m.2.1 id idx hp)⟩
  | .none, _ => trivial
  | .ack _, _ => trivial

theorem ackMono_of_eff {S : SMap (Nat × SentInfo)} {L : List Nat} {ch : Nat} {s s' : SendRel} (hi : s.Inv)
    (h : SI.ChanEff S L ch s s') : AckMono s s' := by
  refine ⟨h.gone, h.back, fun j u' hj => ?_⟩
  cases hf : SMap.find? s.unacked j with
  | none => rw [h.gone j hf] at hj; cases hj
  | some u => exact hf ▸ h.step.2.2.2 j u' (hi.find_lt hf) hj

theorem connAckMono_of_eff {S : SMap (Nat × SentInfo)} {L : List Nat} {c c' : Conn} (hi : c.SendInv)
    (h : SI.ConnEff S L c c') : ConnAckMono c c' := by
  intro ch s hs
  obtain ⟨s', hs', e⟩ := h.chan ch s hs
  exact ⟨s', hs', ackMono_of_eff (hi.chans ch s hs).1 e⟩

theorem eff_of_connEff {L : List Nat} {c c' : Conn} (hi : c.SendInv) (h : SI.ConnEff c.sent L c c') {seq t : Nat}
    {info : SentInfo} (hs : seq ∈ L) (hv : SMap.find? c.sent seq = some (t, info)) : Eff c' info := by
  have hinfo := (hi.sentOK _ (SMap.mem_of_find? hv)).2
  cases info with
  | relMsgs ch ids =>
    obtain ⟨s, hf, -⟩ := hinfo ch rfl
    obtain ⟨s', hs', e⟩ := h.chan ch s hf
    exact ⟨s', hs', e.doneMsgs seq hs t ids hv⟩
  | relSlice ch id idx =>
    obtain ⟨s, hf, -⟩ := hinfo ch rfl
    obtain ⟨s', hs', e⟩ := h.chan ch s hf
    exact ⟨s', hs', e.doneSlice seq hs t id idx hv⟩
  | none => trivial
  | ack _ => trivial

theorem processPacket_ack_forward {c c' : Conn} {bytes : Bytes} {aseq : Nat} {ranges : List AckRange} (h : c.SendInv)
    (hd : c.isDisconnected = false) (hp : Packet.fromBytes bytes = .ok (.ack aseq ranges))
    (he : c.processPacket bytes = .ok c') :
    ConnAckMono c c' ∧ c'.isDisconnected = false ∧
      ∀ seq t info, Acks.Mem seq ranges → SMap.find? c.sent seq = some (t, info) → Eff c' info := by
  obtain ⟨L, c2, -, e2, -, eff, hmem, -⟩ := SI.Conn.processPacket_ack_spec h hd hp
  rw [he] at e2; cases e2
  have h0 : ({ c with pendingAcks := Acks.add ACK_RANGE_CAP aseq c.pendingAcks } : Conn).SendInv :=
    h.same ⟨rfl, rfl, rfl, rfl, rfl⟩
  have hm := connAckMono_of_eff h0 eff
  exact ⟨hm, by rw [isDisconnected_congr eff.frame.2.2.1]; exact hd,
    fun seq t info hm hv => eff_of_connEff h0 eff ((hmem seq).mpr ⟨⟨_, hv⟩, hm⟩) hv⟩

/-! ## Part 12 — the acknowledgement round at system level -/

/-- index in `outB` of the last datagram B's next flush emits (its ack packet, when it has pending acks) -/
def ackIdx (u : Sys) : Nat := u.outB.length + (flushPk u.b).length - 1

/-- **The acknowledgement round.**  From a state that satisfies `Inv1`, with both endpoints live and B holding pending acks: B
    flushes (its last datagram is the ack packet carrying exactly its pending list, C08) and that datagram is handed
    to A.  Nothing panics, A stays live, and for every packet sequence number in B's pending list that A still has in
    its sent table, A releases what that packet carried (`Eff`): small messages leave `unacked`, a slice stops
    being pending.  Nothing else changes in A's reliable send channels except by releasing (`ConnAckMono`). -/
theorem acks_release_inv {cfg : Cfg} {u : Sys} {pkA : List Packet} (h1 : Inv1 cfg u pkA)
    (hda : u.a.isDisconnected = false) (hdb : u.b.isDisconnected = false) (hcB : u.b.CountersOK)
    (hne : u.b.pendingAcks ≠ []) :
    ∃ v, u.run [.flushB, .deliverToA (ackIdx u)] = some v ∧ v.a.isDisconnected = false ∧
      v.submitted = u.submitted ∧ v.obtained = u.obtained ∧ ConnAckMono u.a v.a ∧ v.a.SendInv ∧
      ∀ seq t info, Acks.Mem seq u.b.pendingAcks → SMap.find? u.a.sent seq = some (t, info) → Eff v.a info := by
  obtain ⟨b1, bs, e, -, hst, -⟩ := CI.getPacketsToSend_totalP (reach_conn h1.reachB).1 hcB
  have hlive1 : b1.isDisconnected = false := by rw [isDisconnected_congr hst]; exact hdb
  have hlen := flush_len e
  -- the flush is not empty: it ends with the ack packet
  have hbs : bs ≠ [] := by
    obtain ⟨pk0, seq0, avail, o⟩ := Conn.flush_live hdb e
    have hfp := (o.pk_of_live hlive1).1
    unfold withAck at hfp
    rw [if_neg (by rw [List.isEmpty_iff]; exact hne)] at hfp
    intro hnil
    rw [hnil, hfp] at hlen
    simp at hlen
  obtain ⟨seq0, b, hlast, hdec⟩ := SI.Conn.getPacketsToSend_wire_ack h1.invB.1 h1.invB.2 hdb hne e hbs
  have hs1 : u.step .flushB = some { u with b := b1, outB := u.outB ++ bs } := by simp only [Sys.step, e]
  have hidx : (u.outB ++ bs)[ackIdx u]? = some b := by
    have hpos : 0 < bs.length := List.length_pos_iff.mpr hbs
    unfold ackIdx
    rw [← hlen, List.getElem?_append_right (by omega)]
    rw [List.getLast?_eq_getElem?] at hlast
    have : u.outB.length + bs.length - 1 - u.outB.length = bs.length - 1 := by omega
    rw [this]; exact hlast
  obtain ⟨L, a', -, ea, ia, -, -, -⟩ := SI.Conn.processPacket_ack_spec h1.invA.1 hda hdec
  obtain ⟨hm, hl', heff⟩ := processPacket_ack_forward h1.invA.1 hda hdec ea
  have hs2 : ({ u with b := b1, outB := u.outB ++ bs } : Sys).step (.deliverToA (ackIdx u)) =
      some { u with b := b1, outB := u.outB ++ bs, a := a' } := by
    simp only [Sys.step, hidx, ea]
  refine ⟨{ u with b := b1, outB := u.outB ++ bs, a := a' }, ?_, hl', rfl, rfl, hm, ia, heff⟩
  simp only [Sys.run, hs1, hs2]

/-! ## Part 13 — B keeps the sequence numbers of the round in its pending-ack list -/

/-! ### the largest sequence number B ever claimed in an ack packet was a packet A had emitted before -/

def InvL (s : Sys) : Prop :=
  s.b.isDisconnected = false → ∀ seq t largest, SMap.find? s.b.sent seq = some (t, SentInfo.ack largest) → largest < s.a.packetSeq

theorem invL_init (cfg : Cfg) : InvL (Sys.init cfg) := by
  intro _ seq t largest hf
  simp [Sys.init, Conn.fromChannels] at hf

theorem invL_step {cfg : Cfg} {s s' : Sys} {pkA : List Packet} {op : SysOp} (h1 : Inv1 cfg s pkA) (hR : InvR cfg s pkA)
    (hL : InvL s) (hs : s.step op = some s') : InvL s' := by
  cases stepped hs with
  | sendA hm =>
    intro hl seq t lg hf
    dsimp only at hl hf ⊢
    rw [(SL.Conn.sendMessage_frame hm).2.2.2.2.2.1]; exact hL hl seq t lg hf
  | updA hm =>
    intro hl seq t lg hf
    dsimp only at hl hf ⊢
    rw [(Conn.update_frame hm).packetSeq]; exact hL hl seq t lg hf
  | flushA hm =>
    intro hl seq t lg hf
    exact Nat.lt_of_lt_of_le (hL hl seq t lg hf) (flush_facts hm).2.2.2.1
  | deliverToA _ hm =>
    intro hl seq t lg hf
    dsimp only at hl hf ⊢
    rw [(SL.Conn.processPacket_fixed hm).2.2]; exact hL hl seq t lg hf
  | recvB hm =>
    intro hl seq t lg hf
    dsimp only at hl hf ⊢
    rw [(SI.Conn.receiveMessage_same hm).1.2.2.1] at hf
    refine hL ?_ seq t lg hf
    rcases Conn.receiveMessage_outcomes hm with ⟨hd, rfl, -⟩ | ⟨hd, -⟩ | ⟨hd, -⟩
    · exact hl
    · exact hd
    · exact hd
  | @updB dt _ hm =>
    intro hl seq t lg hf
    dsimp only at hl hf ⊢
    have e2 := (Conn.update_frame hm).status
    have e6 := (Conn.update_frame hm).sent
    -- `update` only drops entries of the sent table
    have hsub := List.dropWhile_sublist (l := s.b.sent) (fun (_, (t, _)) => s.b.now + dt - t ≥ DISCARD_AFTER_NS)
    have hmem : (seq, (t, SentInfo.ack lg)) ∈ s.b.sent := by
      apply hsub.subset
      rw [← e6]; exact SMap.mem_of_find? hf
    exact hL (by rw [← isDisconnected_congr e2]; exact hl) seq t lg (SI.mem_find?_of_sorted h1.invB.1.sentSorted hmem)
  | deliverToB _ hm =>
    intro hl seq t lg hf
    have p1 := C08.sent_table_only_shrinks_on_process _ _ _ h1.invB.1 hm
    have p2 := (SL.Conn.processPacket_statusStep hm).was_live
    exact hL (p2 hl) seq t lg (p1 _ _ hf)
  | flushB hm =>
    intro hl seq t lg hf
    dsimp only at hl hf ⊢
    have hlive : s.b.isDisconnected = false := (flush_facts hm).2.2.2.2.2.2 hl
    rcases (flush_sent hm hl).1 h1.invB.1 seq t _ hf with hold | ⟨p, hp, hps, hpi⟩
    · exact hL hlive seq t lg hold
    · -- a new entry: the ack packet of this flush
      cases p <;> have hi := Conn.sentInfoOf_ok.mp hpi
      case smallReliable | reliableSlice | smallUnreliable | unreliableSlice => cases hi
      case ack sq ranges =>
        obtain ⟨sq', e'⟩ := flush_acks hm _ hp rfl
        cases e'
        obtain ⟨s0, e, hlast, hge, hi⟩ := hi
        cases hi
        -- `largest` is the end of B's last pending range, a sequence number A has emitted
        have hin := List.mem_of_getLast? hlast
        have hpos := Acks.wf_mem_nonempty h1.invB.2 _ hin
        simp only at hpos
        have hmem : Acks.Mem (e - 1) s.b.pendingAcks :=
          Acks.mem_iff_exists.mpr ⟨(s0, e), hin, by simp only; omega, by simp only; omega⟩
        obtain ⟨k, hk, p, hpk, hsq⟩ := hR.ackB _ hmem
        have := h1.seqA.2 p (List.mem_of_getElem? hpk)
        omega

end RenetVerif.Live

/-! ### the invariants as one predicate on states

  What the liveness proofs need of "reachable from `Sys.init`" is the invariants, and that a step leads to a state of
  the same kind.  `GoodK` says just that.  What follows in this file and the k-round development of
  Lemmas/LivenessK.lean are therefore proved of any state that satisfies `GoodK`: a state reachable from `Sys.init`
  (`goodK_reach`), or either projection of an untainted link of the multi-client system, for which Lemmas/MultiLive.lean
  and Lemmas/MultiLiveK.lean establish `GoodL` and `GoodK` — hence the namespaces. -/


namespace RenetVerif.MultiLiveK
open RenetVerif C RenetVerif.System RenetVerif.Live RenetVerif.MultiLive

def GoodK (cfg : Cfg) (s : Sys) : Prop := GoodL cfg s ∧ InvL s

theorem goodK_init (cfg : Cfg) : GoodK cfg (Sys.init cfg) := ⟨goodL_init cfg, invL_init cfg⟩

theorem goodK_step {cfg : Cfg} {s s' : Sys} {op : SysOp} (h : GoodK cfg s) (hs : s.step op = some s') : GoodK cfg s' := by
  obtain ⟨hg, hL⟩ := h
  obtain ⟨pkA, h1, hR, -⟩ := id hg
  exact ⟨goodL_step hg hs, invL_step h1 hR hL hs⟩

theorem goodK_idle {cfg : Cfg} {s s' : Sys} (h : GoodK cfg s) (hi : Idle cfg s s') : GoodK cfg s' := by
  refine ⟨goodL_idle h.1 hi, ?_⟩
  cases hi with
  | a _ _ => exact h.2
  | b _ hl => exact fun hd => h.2 (hl hd)

theorem goodK_run {cfg : Cfg} (ops : List SysOp) {s s' : Sys} (h : GoodK cfg s) (hr : s.run ops = some s') : GoodK cfg s' :=
  run_induction (I := fun _ x => GoodK cfg x) ops 0 (fun _ h hs => goodK_step h hs) h hr

theorem goodK_reach {cfg : Cfg} {ops : List SysOp} {s : Sys} (hr : (Sys.init cfg).run ops = some s) : GoodK cfg s :=
  goodK_run ops (goodK_init cfg) hr

end RenetVerif.MultiLiveK

namespace RenetVerif.Live
open RenetVerif C RenetVerif.System RenetVerif.DataPath RenetVerif.Reasm
open RenetVerif.MultiLive RenetVerif.MultiLiveK

theorem deliver_step_pending {cfg : Cfg} {t t1 : Sys} {pk : List Packet} (h1 : Inv1 cfg t pk) {k lo : Nat}
    (hb : ∀ seq tt largest, SMap.find? t.b.sent seq = some (tt, SentInfo.ack largest) → largest < lo)
    (hcap : t.b.pendingAcks.length < ACK_RANGE_CAP) (hs : t.step (.deliverToB k) = some t1)
    (hl1 : t1.b.isDisconnected = false) :
    t1.b.pendingAcks.length ≤ t.b.pendingAcks.length + 1 ∧
    (∀ seq tt largest, SMap.find? t1.b.sent seq = some (tt, SentInfo.ack largest) → largest < lo) ∧
    (∀ x, lo ≤ x → Acks.Mem x t.b.pendingAcks → Acks.Mem x t1.b.pendingAcks) ∧
    (∀ p, pk[k]? = some p → lo ≤ p.sequence → Acks.Mem p.sequence t1.b.pendingAcks) := by
  cases stepped hs with
  | @deliverToB _ bytes b' hbytes hm =>
    dsimp only at hl1 ⊢
    have hwf := h1.invB.2
    obtain ⟨p0, hp0, he⟩ := enc_lookup h1.encA hbytes
    have hsent := C08.sent_table_only_shrinks_on_process _ _ _ h1.invB.1 hm
    have hb' : ∀ seq tt largest, SMap.find? b'.sent seq = some (tt, SentInfo.ack largest) → largest < lo :=
      fun seq tt lg hf => hb seq tt lg (hsent _ _ hf)
    rcases processPacket_data hm with hdis | ⟨hd, p', hdec, -⟩
    · rw [hl1] at hdis; cases hdis
    · -- the sequence number is added, then the ack loop prunes below `lo` only (`SI.Conn.processPacket_acks`)
      rcases (SI.Conn.processPacket_acks h1.invB.1 hwf hm).2 with ⟨-, hk | ⟨e, hk⟩⟩ | ⟨p2, hdec2, hlen, m⟩
      · rw [hd] at hk; cases hk
      · rw [hdec] at hk; cases hk
      · cases hdec.symm.trans hdec2
        have hadd := Acks.add_mem_iff ACK_RANGE_CAP p'.sequence _ hwf hcap
        have hkeep : ∀ x, lo ≤ x → Acks.Mem x (Acks.add ACK_RANGE_CAP p'.sequence t.b.pendingAcks) →
            Acks.Mem x b'.pendingAcks :=
          fun x hx => (m x).2 fun seq tt g hf => Nat.lt_of_lt_of_le (hb seq tt g hf) hx
        refine ⟨Nat.le_trans hlen (Acks.add_length_le _ _ _ hwf), fun seq tt lg hf => hb seq tt lg (hsent _ _ hf),
          fun x hx hmx => hkeep x hx ((hadd x).mpr (Or.inl hmx)), ?_⟩
        intro p hp hlo
        rw [hp0] at hp; cases hp
        have hseq : p'.sequence = p0.sequence := (fromBytes_of_enc he hdec).1
        rw [← hseq] at hlo ⊢
        exact hkeep _ hlo ((hadd _).mpr (Or.inr rfl))

theorem deliver_live_back (cfg : Cfg) (ks : List Nat) (t t' : Sys) (pk : List Packet) (h1 : Inv1 cfg t pk)
    (h : t.run (ks.map SysOp.deliverToB) = some t') (hl : t'.b.isDisconnected = false) : t.b.isDisconnected = false := by
  refine (run_induction (I := fun _ x => (∃ pk, Inv1 cfg x pk) ∧ (x.b.isDisconnected = false → t.b.isDisconnected = false))
    _ 0 (fun hop ⟨⟨_, h1⟩, hb⟩ hs => ⟨⟨_, inv1_step h1 hs⟩, fun hl1 => hb ?_⟩) ⟨⟨pk, h1⟩, id⟩ h).2 hl
  obtain ⟨k, -, rfl⟩ := List.mem_map.mp hop
  cases stepped hs with
  | @deliverToB _ bytes b' _ hm => exact (SL.Conn.processPacket_statusStep hm).was_live hl1

theorem deliver_pending (cfg : Cfg) (lo : Nat) : ∀ (ks : List Nat) (t t' : Sys) (pk : List Packet), Inv1 cfg t pk →
    (∀ seq tt largest, SMap.find? t.b.sent seq = some (tt, SentInfo.ack largest) → largest < lo) →
    t.b.pendingAcks.length + ks.length < ACK_RANGE_CAP → t.run (ks.map SysOp.deliverToB) = some t' →
    t'.b.isDisconnected = false →
    t'.b.pendingAcks.length ≤ t.b.pendingAcks.length + ks.length ∧
    (∀ x, lo ≤ x → Acks.Mem x t.b.pendingAcks → Acks.Mem x t'.b.pendingAcks) ∧
    (∀ k ∈ ks, ∀ p, pk[k]? = some p → lo ≤ p.sequence → Acks.Mem p.sequence t'.b.pendingAcks)
  | [], t, t', _, _, _, _, h, _ => by
    cases run_nil h
    exact ⟨Nat.le_refl _, fun _ _ hx => hx, fun _ hk => (by cases hk)⟩
  | k :: ks, t, t', pk, h1, hb, hcap, h, hl => by
    obtain ⟨t1, hs, hr1⟩ := run_cons h
    have h11 : Inv1 cfg t1 pk := inv1_step h1 hs
    have hl1 := deliver_live_back cfg ks t1 t' _ h11 hr1 hl
    simp only [List.length_cons] at hcap ⊢
    obtain ⟨a1, a2, a3, a4⟩ := deliver_step_pending h1 hb (by omega) hs hl1
    obtain ⟨b0, b1, b2⟩ := deliver_pending cfg lo ks t1 t' pk h11 a2 (by omega) hr1 hl
    refine ⟨by omega, fun x hx hm => b1 x hx (a3 x hx hm), ?_⟩
    intro k' hk' p hp hlo
    rcases List.mem_cons.mp hk' with rfl | hk'
    · exact b1 _ hlo (a4 p hp hlo)
    · exact b2 k' hk' p hp hlo

/-- **B keeps the sequence numbers of the flush.**  While fewer than ACK_RANGE_CAP ack ranges are in play, every
    sequence number handed to a live B is appended to its pending list and stays there: `acked_largest`, run when an ack
    packet of B's own is acknowledged, only drops numbers below A's counter at the start of the round (`InvL`). -/
theorem Round.pending {cfg : Cfg} {s t u : Sys} {pkA : List Packet} {ch n : Nat} {ks : List Nat} {a1 : Conn} {bs : List Bytes}
    (R : Round cfg s pkA ch ks n a1 bs t u) (hL : InvL s) (hcap : s.b.pendingAcks.length + ks.length < ACK_RANGE_CAP)
    (hks : ∀ k ∈ newIdx s, k ∈ ks) (hdb : u.b.isDisconnected = false) :
    ∀ p ∈ flushPk s.a, Acks.Mem p.sequence u.b.pendingAcks := by
  have hlt : t.b.isDisconnected = false := R.ulive.symm.trans hdb
  have hl1 := deliver_live_back cfg ks _ t _ R.inv1.i1 R.runT hlt
  obtain ⟨-, -, hnew⟩ := deliver_pending cfg s.a.packetSeq ks _ t _ R.inv1.i1 (hL hl1) hcap R.runT hlt
  intro p hp
  obtain ⟨k, hk, hpk⟩ := flush_idx R.inv0.i1 hp
  rw [R.uacks]
  exact hnew k (hks k hk) p hpk ((flush_facts R.flush).2.2.1 p hp).1

/-- what a flush followed by ack processing may do to a stored entry: same payload, same slice count, and no slice
    that was acknowledged becomes un-acknowledged -/
def Shrunk : Unacked → Unacked → Prop
  | .small m _, .small m' _ => m = m'
  | .sliced m n _ _ ak _, .sliced m' n' _ _ ak' _ =>
    m = m' ∧ n = n' ∧ ak'.length = n ∧ ∀ i, i < n → ak'.getD i false = false → ak.getD i false = false
  | _, _ => False

theorem shrunk_of_sim : ∀ {a b c : Unacked}, a.Sim b → Shrunk b c → Shrunk a c
  | .small .., .small .., .small .., h1, h2 => by
    simp only [Unacked.Sim] at h1; simp only [Shrunk] at h2 ⊢; exact h1.trans h2
  | .sliced .., .sliced .., .sliced .., h1, h2 => by
    obtain ⟨rfl, rfl, rfl, rfl, -⟩ := h1; exact h2
  | .small .., .sliced .., _, h1, _ => h1.elim
  | .sliced .., .small .., _, h1, _ => h1.elim
  | .small .., .small .., .sliced .., _, h2 => h2.elim
  | .sliced .., .sliced .., .small .., _, h2 => h2.elim

theorem shrunk_of_ack {s1 s' : SendRel} (hi' : s'.Inv) (hm : AckMono s1 s') {id : Nat} {u' : Unacked}
    (hf : SMap.find? s'.unacked id = some u') :
    ∃ u1, SMap.find? s1.unacked id = some u1 ∧ Shrunk u1 u' := by
  obtain ⟨u1, hf1, hkin⟩ := hm.2.2 id u' hf
  refine ⟨u1, hf1, ?_⟩
  cases u' with
  | small m' ls' =>
    cases u1 with
    | small m1 ls1 => exact hkin
    | sliced => exact hkin.elim
  | sliced m' n' k' nx' ak' ls' =>
    cases u1 with
    | small => exact hkin.elim
    | sliced m1 n1 k1 nx1 ak1 ls1 =>
      obtain ⟨rfl, rfl⟩ := hkin
      obtain ⟨-, -, o3, -⟩ := hi'.find_ok hf
      refine ⟨rfl, rfl, o3, ?_⟩
      intro i hin hfalse
      have hget : ak'[i]? = some false := by
        rw [List.getD_eq_getElem?_getD, List.getElem?_eq_getElem (by omega)] at hfalse
        rw [List.getElem?_eq_getElem (by omega)]
        simpa using hfalse
      obtain ⟨m3, n3, k3, nx3, a3, ls3, hf3, ha3⟩ := hm.2.1 id i ⟨_, _, _, _, _, _, hf, hget⟩
      rw [hf1] at hf3; cases hf3
      rw [List.getD_eq_getElem?_getD, ha3]; rfl

theorem pend_of_shrunk {id : Nat} : ∀ {u0 u' : Unacked}, Shrunk u0 u' → ∀ t ∈ u'.pend id, t ∈ u0.pend id
  | .small .., .small .., h, t, ht => by cases (show _ = _ from h); exact ht
  | .sliced .., .sliced .., ⟨rfl, rfl, _, hsub⟩, t, ht => by
    obtain ⟨i, hi, hak, rfl⟩ := mem_pend_sliced.mp ht
    exact mem_pend_sliced.mpr ⟨i, hi, hsub i hi hak, rfl⟩
  | .small .., .sliced .., h, _, _ => h.elim
  | .sliced .., .small .., h, _, _ => h.elim

theorem exists_pend {s : SendRel} (hi : s.Inv) {x : Nat × Unacked} (hx : x ∈ s.unacked) : ∃ t, t ∈ x.2.pend x.1 := by
  obtain ⟨id, u⟩ := x
  cases u with
  | small m ls => exact ⟨_, List.mem_singleton.mpr rfl⟩
  | sliced m n na nx ak ls =>
    obtain ⟨-, -, o3, -, o5, o6⟩ := hi.entries _ hx
    obtain ⟨i, hi1, hi2⟩ := exists_not_true_of_count_lt ak (by omega)
    refine ⟨.slice id m n i, mem_pend_sliced.mpr ⟨i, by omega, ?_, rfl⟩⟩
    rw [List.getD_eq_getElem?_getD, List.getElem?_eq_getElem hi1] at *
    cases hb : ak[i] with
    | false => rfl
    | true => rw [hb] at hi2; exact absurd rfl hi2

namespace Round
variable {cfg : Cfg} {s t u : Sys} {pkA : List Packet} {ch n : Nat} {ks : List Nat} {a1 : Conn} {bs : List Bytes}

/-- **The acknowledgement round after a lossless round.**  B, live and with its counters in range, holds the sequence
    numbers of the round's data packets in its pending list (`hpend`).  After B's flush and the delivery of its ack
    datagram every entry A stores on channel `ch` is one it stored before the round, `Shrunk`, and whatever the flush
    CARRIED is released: a transmission that was in a packet of the flush is asked for no more. -/
theorem acked (R : Round cfg s pkA ch ks n a1 bs t u) {sA : SendRel} (hfA : SMap.find? s.a.sendRel ch = some sA)
    (hdb : u.b.isDisconnected = false) (hcB : u.b.CountersOK) (hne : u.b.pendingAcks ≠ [])
    (hpend : ∀ p ∈ flushPk s.a, isRel p = true → Acks.Mem p.sequence u.b.pendingAcks) :
    ∃ v sA', u.run [.flushB, .deliverToA (ackIdx u)] = some v ∧ v.a.isDisconnected = false ∧
      v.submitted = u.submitted ∧ v.obtained = u.obtained ∧
      SMap.find? v.a.sendRel ch = some sA' ∧ sA'.Inv ∧
      (∀ x ∈ sA'.unacked, ∃ u0, (x.1, u0) ∈ sA.unacked ∧ Shrunk u0 x.2) ∧
      ∀ t : Tx, t.In (flushPk s.a) ch → t ∉ pendTx sA'.unacked := by
  have hA := R.inv0
  obtain ⟨v, hv, hlv, hsub, hobt, hmono, hinvv, heff⟩ := acks_release_inv R.invU.i1 R.liveU hdb hcB hne
  -- A's channel after the flush (`sA1`) and after the ack (`sA'`)
  obtain ⟨-, -, hget, -⟩ := SI.Conn.getPacketsToSend_spec hA.i1.invA.1 hA.i1.invA.2 R.flush
  obtain ⟨sA1, hf1, -⟩ := hget.keeps hfA
  obtain ⟨hsim, -⟩ := hget.2 ch sA sA1 hfA hf1
  obtain ⟨sA', hf', hm'⟩ := hmono ch sA1 (by rw [R.ua]; exact hf1)
  obtain ⟨hinv', -⟩ := hinvv.chans ch sA' hf'
  have hrec := (flush_sent R.flush R.liveA).2
  have effOf : ∀ p ∈ flushPk s.a, isRel p = true → ∀ info, Conn.sentInfoOf p = .ok info → Eff v.a info := by
    intro p hp hrel info hinfo
    obtain ⟨info', hi', hfs⟩ := hrec p hp
    rw [hinfo] at hi'; cases hi'
    exact heff p.sequence _ info (hpend p hp hrel) (by rw [R.ua]; exact hfs)
  refine ⟨v, sA', hv, hlv, hsub, hobt, hf', hinv', ?_, ?_⟩
  · rintro ⟨id, u'⟩ hx
    obtain ⟨u1, hfind1, hsh⟩ := shrunk_of_ack hinv' hm' (SI.mem_find?_of_sorted hinv'.sorted hx)
    rcases hsim.find id with ⟨-, h2⟩ | ⟨u0, u1', hfind0, h2, hs01⟩
    · rw [hfind1] at h2; cases h2
    · rw [hfind1] at h2; cases h2
      exact ⟨u0, SMap.mem_of_find? hfind0, shrunk_of_sim hs01 hsh⟩
  · rintro (⟨id, m⟩ | ⟨id, m, n', i⟩) hin ht
    · obtain ⟨sq, msgs, hp, hin⟩ := hin
      obtain ⟨s2, hs2, hgone⟩ := effOf _ hp rfl (.relMsgs ch (msgs.map (·.1))) rfl
      rw [hf'] at hs2; cases hs2
      obtain ⟨ls, hx⟩ := mem_pendTx_small.mp ht
      have := hgone id (List.mem_map.mpr ⟨(id, m), hin, rfl⟩)
      rw [SI.mem_find?_of_sorted hinv'.sorted hx] at this
      cases this
    · obtain ⟨sq, hp⟩ := hin
      obtain ⟨s2, hs2, hnp⟩ := effOf _ hp rfl (.relSlice ch id i) rfl
      rw [hf'] at hs2; cases hs2
      obtain ⟨na, nx, ak, ls, hx, hi, hak⟩ := mem_pendTx_slice.mp ht
      obtain ⟨-, -, hlen, -⟩ := hinv'.entries _ hx
      refine hnp ⟨_, _, _, _, _, _, SI.mem_find?_of_sorted hinv'.sorted hx, ?_⟩
      rw [List.getD_eq_getElem?_getD, List.getElem?_eq_getElem (by omega)] at hak
      rw [List.getElem?_eq_getElem (by omega)]
      exact congrArg some hak

/-- The entries `pre` that the budget covered (H1, H2) were carried by the flush, so once what the flush carried is
    released (`hgone`) none of them is stored any more: an entry that is still stored comes from `post`. -/
theorem left_uncovered (R : Round cfg s pkA ch ks n a1 bs t u) {sA : SendRel} (hfA : SMap.find? s.a.sendRel ch = some sA)
    {pre post : SMap Unacked} (hun : sA.unacked = pre ++ post)
    (H1 : AllDue s.a.now sA.resend pre) (H2 : backlog pre ≤ availAtTurn s.a ch) {sA' : SendRel} (hinv' : sA'.Inv)
    (hgone : ∀ t : Tx, t.In (flushPk s.a) ch → t ∉ pendTx sA'.unacked)
    {x : Nat × Unacked} (hx : x ∈ sA'.unacked) {u0 : Unacked} (h0 : (x.1, u0) ∈ sA.unacked) (hsh : Shrunk u0 x.2) :
    (x.1, u0) ∈ post := by
  have hcar := flush_covers (reach_conn R.inv0.i1.reachA).1 R.cntA R.live0 hfA
    (order_mem R.inv0.i1.reachA hfA) hun H1 H2
  rw [hun] at h0
  refine (List.mem_append.mp h0).elim (fun hmem0 => False.elim ?_) (fun h => h)
  -- what is still stored asks for a transmission; the entry of `pre` asked for it, so the flush carried it
  obtain ⟨t, ht⟩ := exists_pend hinv' hx
  exact hgone t (hcar t (List.mem_flatMap.mpr ⟨_, hmem0, pend_of_shrunk hsh t ht⟩)) (List.mem_flatMap.mpr ⟨_, hx, ht⟩)

end Round

/-- **No livelock of the budget by delivered messages**, the pending-list fact being a hypothesis.  After a lossless
    round that covered the entries `pre` of channel `ch`'s backlog (H1, H2), if B — still live, counters in range —
    holds the sequence numbers of that flush's data packets in its pending-ack list (`hpend`: some pending range covers
    each of them), then after B's next flush and the delivery of its ack datagram A's `unacked` on `ch` holds only
    entries of the uncovered rest `post`: with `post = []` the next tick retransmits nothing.
    (`hpend` follows from the round itself: `Round.pending`, used in `acks_release_after_round`.) -/
theorem acks_release_prefix_inv (cfg : Cfg) (s : Sys) (hg : GoodL cfg s)
    (hc : CountersOK cfg s) (hcA : s.a.CountersOK) (hda : s.a.isDisconnected = false)
    (ch : Nat) (sA : SendRel) (hfA : SMap.find? s.a.sendRel ch = some sA)
    (pre post : SMap Unacked) (hun : sA.unacked = pre ++ post)
    (H1 : AllDue s.a.now sA.resend pre) (H2 : backlog pre ≤ availAtTurn s.a ch)
    (ks : List Nat) (n : Nat) (u : Sys) (hu : s.run (roundOps ch ks n) = some u)
    (hdb : u.b.isDisconnected = false) (hcB : u.b.CountersOK) (hne : u.b.pendingAcks ≠ [])
    (hpend : ∀ p ∈ flushPk s.a, isRel p = true → ∃ r ∈ u.b.pendingAcks, r.1 ≤ p.sequence ∧ p.sequence < r.2) :
    ∃ v, u.run [.flushB, .deliverToA (ackIdx u)] = some v ∧ v.a.isDisconnected = false ∧
      ∃ sA', SMap.find? v.a.sendRel ch = some sA' ∧ ∀ x ∈ sA'.unacked, ∃ u0, (x.1, u0) ∈ post := by
  obtain ⟨pkA, a1, bs, t, R⟩ := round_of_run hg hc hcA hda hu
  obtain ⟨v, sA', hv, hlv, -, -, hf', hinv', hemb, hgone⟩ := R.acked hfA hdb hcB hne
    (fun p hp hrel => Acks.mem_iff_exists.mpr (hpend p hp hrel))
  refine ⟨v, hv, hlv, sA', hf', fun x hx => ?_⟩
  obtain ⟨u0, h0, hsh⟩ := hemb x hx
  exact ⟨u0, R.left_uncovered hfA hun H1 H2 hinv' hgone hx h0 hsh⟩

/-- **No livelock of the budget by delivered messages.**  A lossless round that
    covers the entries `pre` of channel `ch`'s backlog (H1, H2; `ks` = datagram indices including those of this
    flush), B still live afterwards and fewer than ACK_RANGE_CAP pending ack ranges in play; then after B's next flush
    and the delivery of its ack datagram, A's `unacked` on `ch` holds only entries of the uncovered rest `post`:
    what was delivered is not retransmitted and does not use up the budget of later ticks. -/
theorem acks_release_after_round (cfg : Cfg) (ops : List SysOp) (s : Sys) (hr : (Sys.init cfg).run ops = some s)
    (hc : CountersOK cfg s) (hcA : s.a.CountersOK) (hda : s.a.isDisconnected = false)
    (ch : Nat) (sA : SendRel) (hfA : SMap.find? s.a.sendRel ch = some sA)
    (pre post : SMap Unacked) (hun : sA.unacked = pre ++ post)
    (H1 : AllDue s.a.now sA.resend pre) (H2 : backlog pre ≤ availAtTurn s.a ch)
    (ks : List Nat) (hks1 : ∀ k ∈ newIdx s, k ∈ ks) (n : Nat) (u : Sys) (hu : s.run (roundOps ch ks n) = some u)
    (hdb : u.b.isDisconnected = false) (hcB : u.b.CountersOK) (hne : u.b.pendingAcks ≠ [])
    (hcap : s.b.pendingAcks.length + ks.length < ACK_RANGE_CAP) :
    ∃ v, u.run [.flushB, .deliverToA (ackIdx u)] = some v ∧ v.a.isDisconnected = false ∧
      ∃ sA', SMap.find? v.a.sendRel ch = some sA' ∧ ∀ x ∈ sA'.unacked, ∃ u0, (x.1, u0) ∈ post := by
  have hg := goodK_reach hr
  obtain ⟨pkA, a1, bs, t, R⟩ := round_of_run hg.1 hc hcA hda hu
  -- `hpend` of `acks_release_prefix_inv` from the round itself: B keeps the sequence numbers of the flush while
  -- fewer than ACK_RANGE_CAP ack ranges are in play (`Round.pending`, `InvL`)
  exact acks_release_prefix_inv cfg s hg.1 hc hcA hda ch sA hfA pre post hun H1 H2 ks n u hu hdb hcB hne
    (fun p hp _ => Acks.mem_iff_exists.mp (R.pending hg.2 hcap hks1 hdb p hp))

end RenetVerif.Live
