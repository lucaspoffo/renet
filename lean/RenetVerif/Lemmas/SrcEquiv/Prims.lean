/-
  Step lemmas for the RustSem primitives, shared by the source-tie helper files (one per group of Rust functions, so
  that an edit of one Rust function only breaks the properties that depend on that function).
-/
import RenetVerif.Base.RustSem
import RenetVerif.Netcode.Replay
import RenetVerif.Netcode.Wire
import RenetVerif.Renet.Channels
import RenetVerif.Renet.Packet
namespace RenetVerif.SrcEquiv
open RenetVerif RenetVerif.RustSem

section prims
variable {ε ρ α β σ : Type}
theorem add_val {w a b : Nat} {s : String} (h : a + b < 2 ^ w) : (RustSem.add w a b s : Exec ε ρ Nat) = .val (a + b) :=
  if_pos h
theorem add_panic {w a b : Nat} {s : String} (h : ¬ a + b < 2 ^ w) : (RustSem.add w a b s : Exec ε ρ Nat) = .panic s :=
  if_neg h
theorem sub_val {w a b : Nat} {s : String} (h : b ≤ a) : (RustSem.sub w a b s : Exec ε ρ Nat) = .val (a - b) :=
  if_pos h
theorem sub_panic {w a b : Nat} {s : String} (h : ¬ b ≤ a) : (RustSem.sub w a b s : Exec ε ρ Nat) = .panic s :=
  if_neg h
theorem mul_val {w a b : Nat} {s : String} (h : a * b < 2 ^ w) : (RustSem.mul w a b s : Exec ε ρ Nat) = .val (a * b) :=
  if_pos h
theorem mul_panic {w a b : Nat} {s : String} (h : ¬ a * b < 2 ^ w) : (RustSem.mul w a b s : Exec ε ρ Nat) = .panic s :=
  if_neg h
theorem rem_val {w a b : Nat} {s : String} (h : b ≠ 0) : (RustSem.rem w a b s : Exec ε ρ Nat) = .val (a % b) :=
  if_neg h
theorem shr_val {w a n : Nat} {s : String} (h : n < w) : (RustSem.shr w a n s : Exec ε ρ Nat) = .val (a >>> n) :=
  if_pos h
theorem shl_val {w a n : Nat} {s : String} (h : n < w) : (RustSem.shl w a n s : Exec ε ρ Nat) = .val ((a <<< n) % 2 ^ w) :=
  if_pos h
theorem index_val {l : List α} {i : Nat} {x : α} {s : String} (h : l[i]? = some x) :
    (RustSem.index l i s : Exec ε ρ α) = .val x := by
  rw [RustSem.index, h]
theorem index_panic {l : List α} {i : Nat} {s : String} (h : l[i]? = none) :
    (RustSem.index l i s : Exec ε ρ α) = .panic s := by
  rw [RustSem.index, h]
theorem set_val {l : List α} {i : Nat} {x : α} {s : String} (h : i < l.length) :
    (RustSem.set l i x s : Exec ε ρ (List α)) = .val (l.set i x) :=
  if_pos h
theorem index_append_cons (pre rest : List α) (x : α) (s : String) :
    (RustSem.index (pre ++ x :: rest) pre.length s : Exec ε ρ α) = .val x :=
  index_val (by rw [List.getElem?_append_right (Nat.le_refl _), Nat.sub_self]; rfl)
theorem set_append_cons (pre rest : List α) (x y : α) (s : String) :
    (RustSem.set (pre ++ x :: rest) pre.length y s : Exec ε ρ (List α)) = .val (pre ++ y :: rest) := by
  rw [set_val (by rw [List.length_append, List.length_cons]; omega), List.set_append_right _ _ (Nat.le_refl _), Nat.sub_self]
  rfl
theorem slice_val {l : List α} {a b : Nat} {s : String} (h : a ≤ b ∧ b ≤ l.length) :
    (RustSem.slice l a b s : Exec ε ρ (List α)) = .val ((l.take b).drop a) :=
  if_pos h
theorem copy_val {l src : List α} {a b : Nat} {s : String} (h : a ≤ b ∧ b ≤ l.length ∧ src.length = b - a) :
    (RustSem.copy_from_slice l a b src s : Exec ε ρ (List α)) = .val (l.take a ++ src ++ l.drop b) :=
  if_pos h
theorem unwrap_some (x : α) (site : String) : (RustSem.unwrap (some x) site : Exec ε ρ α) = .val x := rfl
theorem cast_of_lt {w x : Nat} (h : x < 2 ^ w) : RustSem.cast w x = x := Nat.mod_eq_of_lt h

theorem Exec.bind_val' (a : α) (f : α → Exec ε ρ β) : (Exec.val a).bind f = f a := rfl
/-- skip a statement that is known to evaluate to `a` (stated for the whole statement, so that `rw` can pick it
    without spelling out its text) -/
theorem Exec.bind_skip (x : Exec ε ρ α) (f : α → Exec ε ρ β) (a : α) (h : x = .val a) : x.bind f = f a := by
  rw [h]; rfl
theorem Exec.bind_ret' (r : ρ) (f : α → Exec ε ρ β) : (Exec.ret r : Exec ε ρ α).bind f = .ret r := rfl
theorem Exec.bind_err' (e : ε) (f : α → Exec ε ρ β) : (Exec.err e : Exec ε ρ α).bind f = .err e := rfl
theorem Exec.bind_panic' (s : String) (f : α → Exec ε ρ β) : (Exec.panic s : Exec ε ρ α).bind f = .panic s := rfl
theorem Exec.bind_assoc' {γ : Type} (x : Exec ε ρ α) (f : α → Exec ε ρ β) (g : β → Exec ε ρ γ) :
    (x.bind f).bind g = x.bind (fun a => (f a).bind g) := by cases x <;> rfl
theorem Exec.callFrom_ok {ε' : Type} (k : ε' → Res ε ε) (a : α) : (Exec.callFrom k (.ok a) : Exec ε ρ α) = .val a := rfl
theorem Exec.callFrom_panic {ε' : Type} (k : ε' → Res ε ε) (s : String) :
    (Exec.callFrom k (.panic s : Res ε' α) : Exec ε ρ α) = .panic s := rfl
theorem Exec.callFrom_err {ε' : Type} (k : ε' → Res ε ε) (e : ε') (e' : ε) (h : k e = .ok e') :
    (Exec.callFrom k (.err e : Res ε' α) : Exec ε ρ α) = .err e' := by
  simp [Exec.callFrom, h]
/-! ### forgetting the state carried by errors
  A `Result` fn with `&mut` state has outcome type `Res (E × State) (State × T)`.  Where the model does not track the
  state after an error (cursors), the equivalence is stated for the outcome with the error state forgotten. -/
section forget
variable {σ : Type}
def _root_.RenetVerif.Res.forget : Res (ε × σ) α → Res ε α
  | .ok a => .ok a
  | .err e => .err e.1
  | .panic s => .panic s
def _root_.RenetVerif.RustSem.Exec.forget : Exec (ε × σ) ρ α → Exec ε ρ α
  | .val a => .val a
  | .ret r => .ret r
  | .err e => .err e.1
  | .panic s => .panic s
theorem forget_ok_inv {r : Res (ε × σ) α} {a : α} (h : r.forget = .ok a) : r = .ok a := by
  cases r <;> cases h
  rfl
theorem forget_err_inv {r : Res (ε × σ) α} {e : ε} (h : r.forget = .err e) : ∃ st, r = .err (e, st) := by
  rcases r with x | ⟨e', st⟩ | m <;> cases h
  exact ⟨st, rfl⟩
theorem Exec.forget_val (a : α) : (Exec.val a : Exec (ε × σ) ρ α).forget = .val a := rfl
theorem Exec.forget_ret (r : ρ) : (Exec.ret r : Exec (ε × σ) ρ α).forget = .ret r := rfl
theorem Exec.forget_err (e : ε × σ) : (Exec.err e : Exec (ε × σ) ρ α).forget = .err e.1 := rfl
theorem Exec.forget_panic (s : String) : (Exec.panic s : Exec (ε × σ) ρ α).forget = .panic s := rfl
theorem Exec.forget_run (x : Exec (ε × σ) ρ ρ) : x.run.forget = x.forget.run := by cases x <;> rfl
theorem Exec.forget_bind (x : Exec (ε × σ) ρ α) (f : α → Exec (ε × σ) ρ β) :
    (x.bind f).forget = x.forget.bind (fun a => (f a).forget) := by cases x <;> rfl
theorem Exec.forget_ite (c : Prop) [Decidable c] (a b : Exec (ε × σ) ρ α) :
    (if c then a else b).forget = if c then a.forget else b.forget := by split <;> rfl
theorem forEach_forget {τ γ : Type} (l : List γ) (init : τ) (body : γ → τ → Exec (ε × σ) ρ τ) :
    (RustSem.forEach l init body).forget = RustSem.forEach l init (fun x st => (body x st).forget) := by
  induction l generalizing init with
  | nil => rfl
  | cons x r ih =>
    rw [RustSem.forEach, Exec.forget_bind, RustSem.forEach]
    congr 1
    funext st
    exact ih st
theorem forRange_loop_forget {τ : Type} (body : Nat → τ → Exec (ε × σ) ρ τ) (n i : Nat) (st : τ) :
    (RustSem.forRange.loop body n i st).forget = RustSem.forRange.loop (fun j s => (body j s).forget) n i st := by
  induction n generalizing i st with
  | zero => rfl
  | succ n ih =>
    rw [RustSem.forRange.loop, Exec.forget_bind, RustSem.forRange.loop]
    congr 1
    funext s
    exact ih (i + 1) s
theorem forRange_forget {τ : Type} (lo hi : Nat) (init : τ) (body : Nat → τ → Exec (ε × σ) ρ τ) :
    (RustSem.forRange lo hi init body).forget = RustSem.forRange lo hi init (fun j s => (body j s).forget) :=
  forRange_loop_forget body _ _ _
/-- `callee(..)?` whose error conversion `conv` always succeeds (`From` impls do), callee without error state -/
theorem callFrom_forget {ε' : Type} (conv : ε' → ε) (k : ε' → Res (ε × σ) (ε × σ)) (k0 : ε' → Res ε ε) (st : ε' → σ)
    (hk : ∀ e, k e = .ok (conv e, st e)) (hk0 : ∀ e, k0 e = .ok (conv e)) (r : Res ε' α) :
    (Exec.callFrom k r : Exec (ε × σ) ρ α).forget = Exec.callFrom k0 r := by
  cases r with
  | ok a => rfl
  | err e => simp [Exec.callFrom, hk, hk0, Exec.forget]
  | panic s => rfl
/-- `callee(..)?` that keeps the error and its state, then the state forgotten -/
theorem callFrom_keep_forget (r : Res (ε × σ) α) :
    (Exec.callFrom (fun err => Res.ok (err.1, err.2)) r : Exec (ε × σ) ρ α).forget = Exec.call r.forget := by
  cases r <;> rfl
/-- `callee(..)?` whose error conversion drops the state -/
theorem callFrom_fst (r : Res (ε × σ) α) : (Exec.callFrom (fun err => Res.ok err.1) r : Exec ε ρ α) = Exec.call r.forget := by
  cases r <;> rfl
theorem forget_add (w a b : Nat) (s : String) : (RustSem.add w a b s : Exec (ε × σ) ρ Nat).forget = RustSem.add w a b s := by
  unfold RustSem.add; split <;> rfl
theorem forget_sub (w a b : Nat) (s : String) : (RustSem.sub w a b s : Exec (ε × σ) ρ Nat).forget = RustSem.sub w a b s := by
  unfold RustSem.sub; split <;> rfl
theorem forget_mul (w a b : Nat) (s : String) : (RustSem.mul w a b s : Exec (ε × σ) ρ Nat).forget = RustSem.mul w a b s := by
  unfold RustSem.mul; split <;> rfl
theorem forget_unwrap (o : Option α) (s : String) : (RustSem.unwrap o s : Exec (ε × σ) ρ α).forget = RustSem.unwrap o s := by
  cases o <;> rfl
theorem forget_index (l : List α) (i : Nat) (s : String) : (RustSem.index l i s : Exec (ε × σ) ρ α).forget = RustSem.index l i s := by
  unfold RustSem.index; split <;> rfl
end forget

/-- a `Result` call inspected by the caller (`Exec.attempt`), known up to the state its `Err` carries -/
theorem attempt_forget_ok {ε ρ ε' σ α : Type} (r : Res (ε' × σ) (σ × α)) (s : σ) (a : α) (h : r.forget = .ok (s, a)) :
    (Exec.attempt r : Exec ε ρ _) = .val (s, .ok a) := by
  cases r with
  | ok v => cases v; simp only [Res.forget] at h; cases h; rfl
  | err e => simp [Res.forget] at h
  | panic m => simp [Res.forget] at h

theorem attempt_forget_err {ε ρ ε' σ α : Type} (r : Res (ε' × σ) (σ × α)) (e : ε') (h : r.forget = .err e) :
    ∃ s, (Exec.attempt r : Exec ε ρ _) = .val (s, .error e) := by
  cases r with
  | ok v => simp [Res.forget] at h
  | err e' => obtain ⟨e1, s⟩ := e'; simp only [Res.forget] at h; cases h; exact ⟨s, rfl⟩
  | panic m => simp [Res.forget] at h

/-- `if c { return r; }` followed by `k` -/
theorem Exec.run_guard (c : Prop) [Decidable c] (r : ρ) (k : Exec ε ρ ρ) :
    ((if c then Exec.ret r else Exec.val ()) >>= fun _ => k).run = if c then .ok r else k.run := by
  split <;> rfl

theorem forRange_succ {lo hi : Nat} (h : lo < hi) (init : σ) (body : Nat → σ → Exec ε ρ σ) :
    RustSem.forRange lo hi init body = (body lo init).bind (fun st => RustSem.forRange (lo + 1) hi st body) := by
  unfold RustSem.forRange
  have : hi - lo = (hi - (lo + 1)) + 1 := by omega
  rw [this, RustSem.forRange.loop]
/-- map the outcome of a generated function to the model's types (panic sites are kept) -/
def mapRes {ε ε' α β : Type} (f : α → β) (g : ε → ε') : Res ε α → Res ε' β
  | .ok a => .ok (f a)
  | .err e => .err (g e)
  | .panic s => .panic s

/-- same outcome: equal `ok` values, equal `err` values, panic iff panic (the site text is not compared:
    the model and the generated code name their panic sites differently) -/
def SameOutcome {ε α : Type} : Res ε α → Res ε α → Prop
  | .ok a, .ok b => a = b
  | .err a, .err b => a = b
  | .panic _, .panic _ => True
  | _, _ => False
end prims

section SameOutcome
variable {ε ε' α β : Type} {x : Res ε' β}

theorem SameOutcome.of_eq {y : Res ε' β} (h : x = y) : SameOutcome x y := by
  subst h; cases x <;> simp [SameOutcome]
theorem SameOutcome.eq_ok {b : β} (h : SameOutcome x (.ok b)) : x = .ok b := by
  cases x <;> simp [SameOutcome] at h; rw [h]
theorem SameOutcome.eq_err {e : ε'} (h : SameOutcome x (.err e)) : x = .err e := by
  cases x <;> simp [SameOutcome] at h; rw [h]
theorem SameOutcome.panics {s : String} (h : SameOutcome x (.panic s)) : ∃ m, x = .panic m := by
  cases x <;> simp [SameOutcome] at h; exact ⟨_, rfl⟩

variable {y : Res ε α} {f : α → β} {g : ε → ε'}

theorem SameOutcome.map_ok {a : α} (h : SameOutcome x (mapRes f g y)) (hy : y = .ok a) : x = .ok (f a) := by
  subst hy; exact h.eq_ok
theorem SameOutcome.map_err {e : ε} (h : SameOutcome x (mapRes f g y)) (hy : y = .err e) : x = .err (g e) := by
  subst hy; exact h.eq_err
theorem SameOutcome.map_panic {s : String} (h : SameOutcome x (mapRes f g y)) (hy : y = .panic s) : ∃ m, x = .panic m := by
  subst hy; exact h.panics

/-- the failures come first: they are disposed of at once -/
theorem SameOutcome.map_elim {P : Prop} (h : SameOutcome x (mapRes f g y)) (herr : ∀ e, y = .err e → x = .err (g e) → P)
    (hpanic : ∀ s m, y = .panic s → x = .panic m → P) (hok : ∀ a, y = .ok a → x = .ok (f a) → P) : P := by
  cases hy : y with
  | ok a => exact hok a hy (h.map_ok hy)
  | err e => exact herr e hy (h.map_err hy)
  | panic s =>
    obtain ⟨m, hx⟩ := h.map_panic hy
    exact hpanic s m hy hx

theorem SameOutcome.map_cases {y : Res Empty α} {g : Empty → ε'} (h : SameOutcome x (mapRes f g y)) :
    (∃ a, y = .ok a ∧ x = .ok (f a)) ∨ ∃ s m, y = .panic s ∧ x = .panic m :=
  h.map_elim (fun e => nomatch e) (fun s m hy hx => .inr ⟨s, m, hy, hx⟩) fun a hy hx => .inl ⟨a, hy, hx⟩

end SameOutcome

/-! ## byte lists: model `Bytes` (List UInt8) ↔ generated `List Nat` -/
section bytes
def toNats (b : Bytes) : List Nat := b.map UInt8.toNat
theorem toNats_replicate (n : Nat) : toNats (List.replicate n 0) = List.replicate n 0 := by
  simp [toNats]
theorem toNats_length (b : Bytes) : (toNats b).length = b.length := by simp [toNats]

/-- bytes of the generated code are `Nat`s: well-formed when `< 256` -/
def BytesOk (l : List Nat) : Prop := ∀ b ∈ l, b < 256
instance (l : List Nat) : Decidable (BytesOk l) := by unfold BytesOk; infer_instance
def ofNats (l : List Nat) : Bytes := l.map UInt8.ofNat

theorem toNats_ofNats {l : List Nat} (h : BytesOk l) : toNats (ofNats l) = l := by
  induction l with
  | nil => rfl
  | cons b r ih =>
    have hb : b < 256 := h b (by simp)
    have hr : BytesOk r := fun x hx => h x (by simp [hx])
    simp only [toNats, ofNats, List.map_cons, List.map_map] at ih ⊢
    rw [ih hr]
    simp [UInt8.toNat_ofNat', Nat.mod_eq_of_lt hb]
theorem bytesOk_toNats (b : Bytes) : BytesOk (toNats b) := by
  intro x hx
  simp only [toNats, List.mem_map] at hx
  obtain ⟨y, _, rfl⟩ := hx
  exact y.toNat_lt
theorem ofNats_toNats (b : Bytes) : ofNats (toNats b) = b := by
  induction b with
  | nil => rfl
  | cons x r ih =>
    simp only [ofNats, toNats, List.map_cons, List.map_map] at ih ⊢
    rw [ih]; simp


theorem toNats_inj {a b : Bytes} (h : toNats a = toNats b) : a = b := by
  have := congrArg ofNats h
  rwa [ofNats_toNats, ofNats_toNats] at this

theorem toNats_take (b : Bytes) (n : Nat) : toNats (b.take n) = (toNats b).take n := by simp [toNats, List.map_take]
theorem toNats_drop (b : Bytes) (n : Nat) : toNats (b.drop n) = (toNats b).drop n := by simp [toNats, List.map_drop]
theorem toNats_append (a b : Bytes) : toNats (a ++ b) = toNats a ++ toNats b := by simp [toNats]

end bytes

/-! ## writers: a fixed buffer with a write position (`octets::OctetsMut`, `io::Cursor<&mut [u8]>`)

A generated writer is rewritten call by call (`W_chain`, `forEach_chain`) into ONE `K.W e c (all the bytes)`. -/
section writer

structure WBuf (σ : Type) where
  buf : σ → List Nat
  pos : σ → Nat
  make : List Nat → Nat → σ
  buf_mk : ∀ b p, buf (make b p) = b
  pos_mk : ∀ b p, pos (make b p) = p
  eta : ∀ c, make (buf c) (pos c) = c

variable {σ ε ρ β : Type} (K : WBuf σ)

def WBuf.Inv (c : σ) : Prop := K.pos c ≤ (K.buf c).length

/-- the cursor after `xs` has been written at its position -/
def WBuf.put (c : σ) (xs : List Nat) : σ :=
  K.make ((K.buf c).take (K.pos c) ++ xs ++ (K.buf c).drop (K.pos c + xs.length)) (K.pos c + xs.length)

/-- specification of a write of `xs`: done, or the error `e` when they do not fit -/
def WBuf.W (e : ε) (c : σ) (xs : List Nat) : Exec ε ρ σ :=
  if K.pos c + xs.length ≤ (K.buf c).length then .val (K.put c xs) else .err e

variable {K} {c : σ} {xs : List Nat}

theorem WBuf.put_inv (h : K.pos c + xs.length ≤ (K.buf c).length) : K.Inv (K.put c xs) := by
  simp only [WBuf.Inv, WBuf.put, K.buf_mk, K.pos_mk, List.length_append, List.length_take, List.length_drop]; omega

theorem WBuf.put_length (h : K.pos c + xs.length ≤ (K.buf c).length) : (K.buf (K.put c xs)).length = (K.buf c).length := by
  simp only [WBuf.put, K.buf_mk, List.length_append, List.length_take, List.length_drop]; omega

theorem WBuf.put_nil (c : σ) : K.put c [] = c := by
  simp [WBuf.put, K.eta]

theorem WBuf.put_put {ys : List Nat} (h : K.pos c + xs.length ≤ (K.buf c).length) :
    K.put (K.put c xs) ys = K.put c (xs ++ ys) := by
  have hl : ((K.buf c).take (K.pos c) ++ xs).length = K.pos c + xs.length := by
    rw [List.length_append, List.length_take]; omega
  simp only [WBuf.put, K.buf_mk, K.pos_mk, List.length_append]
  rw [List.take_left' hl, ← List.drop_drop (i := ys.length), List.drop_left' hl, List.drop_drop, List.append_assoc _ xs ys,
    Nat.add_assoc]

theorem WBuf.W_nil {e : ε} (h : K.Inv c) : (K.W e c [] : Exec ε ρ σ) = .val c := by
  rw [WBuf.W, if_pos (show K.pos c + ([] : List Nat).length ≤ _ from h), WBuf.put_nil]

theorem WBuf.W_chain (e : ε) (xs ys : List Nat) (f g : σ → Exec ε ρ β)
    (h : ∀ c', K.Inv c' → f c' = (K.W e c' ys).bind g) :
    (K.W e c xs).bind f = (K.W e c (xs ++ ys)).bind g := by
  unfold WBuf.W
  by_cases h1 : K.pos c + xs.length ≤ (K.buf c).length
  · rw [if_pos h1, Exec.bind_val', h _ (WBuf.put_inv h1)]
    unfold WBuf.W
    have hp : K.pos (K.put c xs) = K.pos c + xs.length := K.pos_mk _ _
    rw [WBuf.put_length h1, hp, WBuf.put_put h1, List.length_append, Nat.add_assoc]
  · rw [if_neg h1, if_neg (by rw [List.length_append]; omega)]
    rfl

theorem WBuf.W_start {e : ε} (hc : K.Inv c) (f : σ → Exec ε ρ β) : f c = (K.W e c []).bind f := by
  rw [WBuf.W_nil hc]; rfl

theorem WBuf.forEach_chain {α : Type} (e : ε) (l : List α) (f : α → List Nat) (body : α → σ → Exec ε ρ σ)
    (hbody : ∀ x ∈ l, ∀ c', K.Inv c' → body x c' = K.W e c' (f x)) (xs : List Nat) (c : σ) (k : σ → Exec ε ρ β) :
    (K.W e c xs).bind (fun c' => (RustSem.forEach l c' body).bind k) = (K.W e c (xs ++ (l.map f).flatten)).bind k := by
  induction l generalizing xs with
  | nil => simp [RustSem.forEach, Exec.bind_val']
  | cons x r ih =>
    rw [WBuf.W_chain e xs (f x) _ (fun st => (RustSem.forEach r st body).bind k) fun c' hc' => by
      rw [RustSem.forEach, Exec.bind_assoc', hbody x (by simp) c' hc'], ih (fun y hy => hbody y (by simp [hy]))]
    simp [List.append_assoc]

end writer

end RenetVerif.SrcEquiv
