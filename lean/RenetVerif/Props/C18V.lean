/-
  C18 — Netcode liveness in general position, beyond Props/C18T.lean: reordering inside a round, iteration to a third
  address, interleaved traffic of other clients during the handshake.

  A.  the client walks through the server list of its token (`failover_walks_list`, any number `k ≤ 31` of silent
      servers, induction over the list): every silent server is given up in the first `update` after the token's
      time-out has passed since the previous fail-over (`AttOK` / `AttOK'` are the exact conditions the model checks),
      each fail-over re-arms the timers and sends a fresh request to the next listed address in the same call
      (`FailoverStep`), and the server behind the `(k+1)`-th address completes the handshake.  Complements: all listed
      servers silent — `Disconnected(ConnectionRequestTimedOut)` exactly in the `update` in which the last time-out
      fires (`failover_exhausts_list`), and it stays so (`disconnected_stays`); the token's window (which the
      implementation counts from the start of the *current attempt*: `connect_start_time` is reset by every
      fail-over) closes first — `Disconnected(ConnectTokenExpired)` (`failover_token_expires`).

  B.  the handshake theorems of C18T with bystanders (`handshake_with_bystanders`, `handshake_despite_loss_with_bystanders`):
      between any two of the server's own steps of a round (`update`, `process_packet` of this client's datagram,
      `update_client`) the server processes an arbitrary finite list of operations that do not concern this client
      (`NotMine`: datagrams from other addresses — requests, responses, payloads, junk —, `update_client` /
      `disconnect` / `generate_payload_packet` of other ids).  Frame lemma: `bystander_frame`.  Hypothesis `BysOK`
      (`roundOK_spelled_out`): the blocks run, none connects this client's id, and when this client's request arrives
      there is `Room` (a pending place, the token not bound to another address, a free slot), when its response arrives
      a free slot.  The capacity hypothesis is necessary: `bystander_rounds` (the one-slot server).

  C.  duplication / reordering of the handshake's own datagrams (`handshake_despite_duplication`,
      `late_challenge_ignored`, `established_despite_duplicates`).

  Lemmas: Lemmas/NcLive4.lean (the walk through silent servers, the frame lemma, the rounds with bystanders).  Nothing is
  assumed of the AEAD beyond `AEAD.Laws`.
-/
import RenetVerif.Lemmas.NcLive4
import RenetVerif.Props.C18T
namespace RenetVerif.C18V
open RenetVerif RenetVerif.Netcode RenetVerif.Netcode.NS RenetVerif.NcLive2 RenetVerif.NcLive4

/-! ## A. walking through the server list

  Vocabulary (Lemmas/NcLive4.lean; `TokOK`, `CliReq`, `SrvOpen`, `round`, `runRounds`, `Established`: Props/C18T.lean):
  * `Attempt` = `⟨seg, f, d, next⟩` — one attempt at a silent server: the rounds `seg` (any fates and lengths) during
    which the time-out does not fire, then the round `(f, d)` in whose `update(d)` it fires and the client moves to the
    address `next`; `walkSched atts` — the schedule of a list of attempts;
  * `WalkOK c atts` — the timing: the first attempt satisfies `AttOK c` (measured from the client's current timers),
    every later one `AttOK' τ W` with `τ` the token's time-out in ns and `W` its window in s (`walkOK_cons`,
    `attOK_iff`, `attOK'_iff` below);
  * `Listed addrs i l` — the addresses `l` are the entries `i, i+1, …` of the token's server list;
  * `FailoverStep … w before x idx from` — the fail-over that ends attempt `x` (`failoverStep_iff` below). -/

section A
variable {a : AEAD} {s0 : NetcodeServer} {addr me : Addr} {t : PrivateConnectToken} {expire : Nat} {xnonce : Bytes}

theorem walkOK_cons {c : NetcodeClient} {x : Attempt} {rest : List Attempt} :
    WalkOK c (x :: rest) ↔ AttOK c x ∧ ∀ y ∈ rest, AttOK' (tmo c) (tokenWindow c) y := Iff.rfl

/-- the first attempt: with `τ` = the token's time-out, no time-out while `seg` runs (`now + |seg| ≤ last_received + τ`),
    the time-out has passed at the next update (`last_received + τ < now + |seg| + d`), and the token's window, counted
    from `connect_start_time`, is still open then -/
theorem attOK_iff {c : NetcodeClient} {x : Attempt} : AttOK c x ↔
    c.currentTime + totalTime x.seg ≤ c.lastPacketReceivedTime + tmo c ∧
    c.lastPacketReceivedTime + tmo c < c.currentTime + totalTime x.seg + x.d ∧
    asSecs (c.currentTime + totalTime x.seg + x.d - c.connectStartTime) < tokenWindow c :=
  ⟨fun h => ⟨h.1, h.2, h.3⟩, fun h => ⟨h.1, h.2.1, h.2.2⟩⟩

/-- an attempt that starts with a fail-over at time `T_j`: the next fail-over happens at `T_j + |seg| + d`, the first
    update later than `T_j + τ` (`|seg| ≤ τ < |seg| + d`), provided less than `W` seconds have passed since `T_j` -/
theorem attOK'_iff {τ W : Nat} {x : Attempt} : AttOK' τ W x ↔
    totalTime x.seg ≤ τ ∧ τ < totalTime x.seg + x.d ∧ asSecs (totalTime x.seg + x.d) < W :=
  ⟨fun h => ⟨h.1, h.2, h.3⟩, fun h => ⟨h.1, h.2.1, h.2.2⟩⟩

/-- **what a fail-over is**: after `before ++ x.seg` the client `cb` is still in `SendingConnectionRequest` towards
    `from` (index `idx` of the list); its `update(x.d)` emits the connection request addressed to `x.next` and returns
    `failedOver cb x.d x.next` (all three timers equal to the new clock value); the round leaves the server with its
    clock advanced and nothing else. -/
theorem failoverStep_iff {id : Nat} {w : NetcodeClient × NetcodeServer} {before : List (Fate × Nat)} {x : Attempt}
    {idx : Nat} {from_ : Addr} : FailoverStep a s0 addr me t expire xnonce id w before x idx from_ ↔
    ∃ cb sb, runRounds a addr me id (before ++ x.seg) w = some (cb, sb) ∧ cb.state = .sendingConnectionRequest ∧
      cb.serverAddrIndex = idx ∧ cb.serverAddr = from_ ∧
      cb.currentTime = w.1.currentTime + totalTime before + totalTime x.seg ∧
      cb.update a x.d = .ok (some (requestBytes a s0 t expire xnonce, x.next),
        { cb with currentTime := cb.currentTime + x.d, state := .sendingConnectionRequest
                  serverAddrIndex := cb.serverAddrIndex + 1, serverAddr := x.next
                  connectStartTime := cb.currentTime + x.d, lastPacketSendTime := some (cb.currentTime + x.d)
                  lastPacketReceivedTime := cb.currentTime + x.d, challengeTokenSequence := 0
                  sequence := cb.sequence + 1 }) ∧
      round a addr me id x.f x.d (cb, sb) = some (failedOver cb x.d x.next, srvTick sb x.d) := Iff.rfl

/-- **`failover_walks_list`** — a token listing `k + 1` addresses (`k = atts.length + 1 ≤ 31` fail-overs), the first
    `k` servers silent, the last one (`me`) answering.

    The client `c0` (request phase, any index `i` into the list, time-out positive) talks to an address that is not
    this server's; neither are the addresses `atts.map next`, the entries `i+1 …` of the token's list; the entry after
    them is `me` (`hl`, `hlme`).  The schedule is `walkSched (atts ++ [last])` followed by one delivered round `d₂`:
    attempt after attempt, quiet rounds (in which the client keeps re-sending its request at the send rate, to no
    avail) and the round in which the time-out fires (`hw`: the exact timing).  The server `s` behind `me` is open for
    this client (`hs`) and only ticks meanwhile.  `hd₂…`, `hclk`, `hsclk`, `hsexp`, `hseq`, `hg`, `hch`: the last
    attempt fits the token's time-out and window, the server's clock stays below the token's expiry second, no
    clock / counter overflows.

    Then: every one of the `atts.length` fail-overs to a silent server happens as `FailoverStep` says — the `j`-th in
    the first `update` after the time-out has passed since the `(j-1)`-th, at `c0.now + |walkSched (first j attempts)|`;
    after `last.seg` the client `c1` is still asking the last silent address (index `i + atts.length`); its
    `update(last.d)` fails over to `me` and sends the request there, `me`'s server answers with the challenge in the
    same round (`c2`: response phase, index `i + atts.length + 1`, `connect_start_time` = the time of that fail-over);
    the round `d₂` completes the handshake: `Established`. -/
theorem failover_walks_list (hT : TokOK a s0 t expire xnonce) (atts : List Attempt) (last : Attempt) {d₂ : Nat}
    {c0 : NetcodeClient} {s : NetcodeServer} (hc : CliReq a s0 t expire xnonce c0)
    (hpos : c0.connectToken.timeoutSeconds > 0) (h1 : c0.connectStartTime ≤ c0.currentTime)
    (h2 : c0.lastPacketReceivedTime ≤ c0.currentTime) (hw : WalkOK c0 (atts ++ [last]))
    (hlf : last.f = .delivered) (hlme : last.next = me) (hne : c0.serverAddr ≠ me) (hnme : ∀ x ∈ atts, x.next ≠ me)
    (hl : Listed c0.connectToken.serverAddresses (c0.serverAddrIndex + 1) ((atts ++ [last]).map (·.next)))
    (hidx : c0.serverAddrIndex + atts.length + 1 < Netcode.C.NETCODE_TOKEN_MAX_ADDRESSES)
    (hs : SrvOpen a s0 addr t expire xnonce s)
    (hd₂c : d₂ ≤ tmo c0) (hd₂w : asSecs d₂ < tokenWindow c0)
    (hd₂s : t.timeoutSeconds ≤ 0 ∨ d₂ ≤ fromSecs t.timeoutSeconds.toNat)
    (hclk : c0.currentTime + totalTime (walkSched (atts ++ [last])) + d₂ + tmo c0 ≤ DURATION_MAX)
    (hsclk : s.currentTime + totalTime (walkSched (atts ++ [last])) + d₂ + fromSecs (2 ^ 31) ≤ DURATION_MAX)
    (hsexp : asSecs (s.currentTime + totalTime (walkSched (atts ++ [last])) + d₂) < expire)
    (hseq : c0.sequence + (walkSched (atts ++ [last])).length + 1 < U64_MAX)
    (hg : s.globalSequence + 2 < U64_MAX) (hch : s.challengeSequence + 2 < U64_MAX) :
    ∃ c1 s1 c2 s2 c3 s3, runRounds a addr me t.clientId (walkSched atts ++ last.seg) (c0, s) = some (c1, s1) ∧
      c1.state = .sendingConnectionRequest ∧ c1.serverAddr = lastAddr c0.serverAddr (atts.map (·.next)) ∧
      c1.serverAddrIndex = c0.serverAddrIndex + atts.length ∧
      c1.update a last.d = .ok (some (requestBytes a s0 t expire xnonce, me), failedOver c1 last.d me) ∧
      round a addr me t.clientId .delivered last.d (c1, s1) = some (c2, s2) ∧
      c2.state = .sendingConnectionResponse ∧ c2.serverAddr = me ∧
      c2.serverAddrIndex = c0.serverAddrIndex + atts.length + 1 ∧
      c2.connectStartTime = c0.currentTime + totalTime (walkSched (atts ++ [last])) ∧
      c2.currentTime = c0.currentTime + totalTime (walkSched (atts ++ [last])) ∧
      round a addr me t.clientId .delivered d₂ (c2, s2) = some (c3, s3) ∧
      runRounds a addr me t.clientId (walkSched (atts ++ [last]) ++ [(.delivered, d₂)]) (c0, s) = some (c3, s3) ∧
      Established addr t expire c3 s3 ∧ s3.isClientConnected t.clientId = true ∧
      c3.currentTime = c0.currentTime + totalTime (walkSched (atts ++ [last])) + d₂ ∧
      s3.currentTime = s.currentTime + totalTime (walkSched (atts ++ [last])) + d₂ ∧
      ∀ pre x post, atts = pre ++ x :: post →
        FailoverStep a s0 addr me t expire xnonce t.clientId (c0, s) (walkSched pre) x (c0.serverAddrIndex + pre.length)
          (lastAddr c0.serverAddr (pre.map (·.next))) :=
  walk_connects hT atts last hc hpos h1 h2 hw hlf hlme hne hnme hl hidx hs hd₂c hd₂w hd₂s hclk hsclk hsexp hseq hg hch

/-- the single step, for both connecting states: the time-out fires, the token's window is open, no address is left —
    `Disconnected(ConnectionRequestTimedOut)` from the request phase, `Disconnected(ConnectionResponseTimedOut)` from
    the response phase; nothing is sent -/
theorem gives_up (a : AEAD) {c : NetcodeClient} {d : Nat} (hst : Connecting c) (hok : ClockOK c d)
    (hwin : asSecs (c.currentTime + d - c.connectStartTime) < tokenWindow c) (hto : CTimedOut c (c.currentTime + d))
    (hlast : Netcode.C.NETCODE_TOKEN_MAX_ADDRESSES ≤ c.serverAddrIndex + 1 ∨
      c.connectToken.serverAddresses[c.serverAddrIndex + 1]? = some none) :
    c.update a d = .ok (none,
      { c with currentTime := c.currentTime + d
               state := .disconnected (if c.state = .sendingConnectionResponse then .connectionResponseTimedOut
                                       else .connectionRequestTimedOut)
               serverAddrIndex := c.serverAddrIndex + 1 }) := by
  unfold NetcodeClient.update
  rw [client_connecting_eq hst hok]
  simp only [if_neg (Nat.not_le.mpr hwin), if_pos hto]
  rcases hlast with h | h
  · rw [if_pos h]; rfl
  · split
    · rfl
    · rw [h]; rfl

/-- **`failover_exhausts_list`** — all listed servers silent.  After the walk through `atts` (as above, all
    fail-overs as `FailoverStep` says) the client `cb` asks the last listed address — the next entry of the list is
    empty, or the list is used up (`hlast`); `last.seg` passes quietly; in the `update(last.d)` in which the time-out
    fires the client ends `Disconnected(ConnectionRequestTimedOut)` (`gaveUp`: clock advanced, index + 1, everything
    else unchanged) and emits nothing.  It was still `SendingConnectionRequest` before that very call: the
    disconnection happens exactly at the last time-out.  (`last.next` plays no role.  The server `s` of the rounds is
    the world's other half; all that is asked of it is that it does not hold a session of `id` and that its clock
    does not overflow.) -/
theorem failover_exhausts_list (hT : TokOK a s0 t expire xnonce) {id : Nat} (atts : List Attempt) (last : Attempt)
    {c0 : NetcodeClient} {s : NetcodeServer} (hc : CliReq a s0 t expire xnonce c0)
    (hpos : c0.connectToken.timeoutSeconds > 0) (h1 : c0.connectStartTime ≤ c0.currentTime)
    (h2 : c0.lastPacketReceivedTime ≤ c0.currentTime) (hw : WalkOK c0 (atts ++ [last]))
    (hclk : c0.currentTime + totalTime (walkSched (atts ++ [last])) + tmo c0 ≤ DURATION_MAX)
    (hseq : c0.sequence + (walkSched (atts ++ [last])).length < U64_MAX + 1) (hne : c0.serverAddr ≠ me)
    (hl : Listed c0.connectToken.serverAddresses (c0.serverAddrIndex + 1) (atts.map (·.next)))
    (hidx : c0.serverAddrIndex + atts.length < Netcode.C.NETCODE_TOKEN_MAX_ADDRESSES)
    (hnme : ∀ x ∈ atts, x.next ≠ me)
    (hlast : Netcode.C.NETCODE_TOKEN_MAX_ADDRESSES ≤ c0.serverAddrIndex + atts.length + 1 ∨
      c0.connectToken.serverAddresses[c0.serverAddrIndex + atts.length + 1]? = some none)
    (hid : findClientById s.clients id = none)
    (hsclk : s.currentTime + totalTime (walkSched (atts ++ [last])) ≤ DURATION_MAX) :
    ∃ cb sb s', runRounds a addr me id (walkSched atts ++ last.seg) (c0, s) = some (cb, sb) ∧
      cb.state = .sendingConnectionRequest ∧ cb.serverAddr = lastAddr c0.serverAddr (atts.map (·.next)) ∧
      cb.serverAddrIndex = c0.serverAddrIndex + atts.length ∧
      cb.currentTime + last.d = c0.currentTime + totalTime (walkSched (atts ++ [last])) ∧
      cb.update a last.d = .ok (none, gaveUp cb last.d) ∧
      runRounds a addr me id (walkSched (atts ++ [last])) (c0, s) = some (gaveUp cb last.d, s') ∧
      (gaveUp cb last.d).state = .disconnected .connectionRequestTimedOut ∧
      ∀ pre x post, atts = pre ++ x :: post →
        FailoverStep a s0 addr me t expire xnonce id (c0, s) (walkSched pre) x (c0.serverAddrIndex + pre.length)
          (lastAddr c0.serverAddr (pre.map (·.next))) := by
  obtain ⟨cb, sb, hrun, hcb, htok, hsrv, hix, htm, _, hok, hwin, hto, hag, hst, _, hsteps⟩ := walk_last_attempt
    (addr := addr) (me := me) (id := id) hT atts last hc hpos h1 h2 hw hclk hseq hne hl hidx hnme hid hsclk
  have hcu := gives_up a (Or.inl hcb.st) hok hwin hto (by rw [htok, hix]; exact hlast)
  have hround := round_unheard (addr := addr) (me := me) (f := last.f) hcu (up_none a addr me _ _)
    (by rw [hag.clients]; exact hid) (by rw [hst]; exact hsclk)
  refine ⟨cb, sb, srvTick sb last.d, hrun, hcb.st, hsrv, hix, htm, hcu, ?_, ?_, hsteps⟩
  · rw [walkSched_snoc, ← List.append_assoc, runRounds_append, hrun]
    simp only [Option.bind_some, runRounds, hround]
  · show NetcodeClient.state (gaveUp cb last.d) = _
    simp only [hcb.st]
    rfl

/-- **once disconnected, always disconnected, same reason**: every later `update(d)` only advances the clock and sends
    nothing (the reason is never overwritten, no second time-out is taken) -/
theorem disconnected_stays (a : AEAD) {c : NetcodeClient} {r : DisconnectReason} {d : Nat}
    (hst : c.state = .disconnected r) (hclk : c.currentTime + d ≤ DURATION_MAX)
    (hrecv : c.lastPacketReceivedTime + tmo c ≤ DURATION_MAX) :
    c.update a d = .ok (none, { c with currentTime := c.currentTime + d }) := NcLive4.disconnected_stays a hst hclk hrecv

/-- **`failover_token_expires`** — the token's window closes first.  After the walk through `atts`, the rounds `seg`
    pass quietly (`ExpOK`: no time-out, `(now − connect_start).secs < expire − create` still), and the following
    `update(d)` finds `(now − connect_start).secs ≥ expire − create`: the client ends
    `Disconnected(ConnectTokenExpired)` and sends nothing — whether or not the time-out would have fired in the same
    call (the expiry test comes first).  `connect_start` is the time of the last fail-over (`Walked.fresh`): the
    implementation grants the token's full window to every attempt. -/
theorem failover_token_expires (hT : TokOK a s0 t expire xnonce) {id : Nat} (atts : List Attempt)
    (seg : List (Fate × Nat)) (f : Fate) (d : Nat) {c0 : NetcodeClient} {s : NetcodeServer}
    (hc : CliReq a s0 t expire xnonce c0) (hpos : c0.connectToken.timeoutSeconds > 0)
    (h1 : c0.connectStartTime ≤ c0.currentTime) (h2 : c0.lastPacketReceivedTime ≤ c0.currentTime)
    (hw : WalkOK c0 atts)
    (hx : ∀ cw, Walked c0 (atts.map (·.next)) (walkSched atts).length (totalTime (walkSched atts)) cw → ExpOK cw seg d)
    (hclk : c0.currentTime + totalTime (walkSched atts) + totalTime seg + d + tmo c0 ≤ DURATION_MAX)
    (hseq : c0.sequence + (walkSched atts).length + seg.length < U64_MAX + 1) (hne : c0.serverAddr ≠ me)
    (hl : Listed c0.connectToken.serverAddresses (c0.serverAddrIndex + 1) (atts.map (·.next)))
    (hidx : c0.serverAddrIndex + atts.length < Netcode.C.NETCODE_TOKEN_MAX_ADDRESSES)
    (hnme : ∀ x ∈ atts, x.next ≠ me) (hid : findClientById s.clients id = none)
    (hsclk : s.currentTime + totalTime (walkSched atts) + totalTime seg + d ≤ DURATION_MAX) :
    ∃ cb sb s', runRounds a addr me id (walkSched atts ++ seg) (c0, s) = some (cb, sb) ∧
      cb.state = .sendingConnectionRequest ∧ cb.serverAddrIndex = c0.serverAddrIndex + atts.length ∧
      cb.currentTime = c0.currentTime + totalTime (walkSched atts) + totalTime seg ∧
      cb.update a d = .ok (none, { cb with currentTime := cb.currentTime + d, state := .disconnected .connectTokenExpired }) ∧
      runRounds a addr me id (walkSched atts ++ seg ++ [(f, d)]) (c0, s) =
        some ({ cb with currentTime := cb.currentTime + d, state := .disconnected .connectTokenExpired }, s') := by
  obtain ⟨cw, sw, hrun, hcw, hwalk, hag, _, _⟩ := walk_silent (addr := addr) (me := me) (id := id) hT atts hc hpos h1 h2
    hw (Nat.le_trans (Nat.add_le_add_right (Nat.le_trans (Nat.le_add_right _ _) (Nat.le_add_right _ _)) _) hclk)
    (Nat.lt_of_add_right_lt hseq) hne hl hidx hnme hid (Nat.le_of_add_right_le (Nat.le_of_add_right_le hsclk))
  obtain ⟨e1, e2, e3⟩ := hx cw hwalk
  have hτ : tmo cw = tmo c0 := by unfold tmo; rw [hwalk.tok]
  have hwt := hwalk.time
  have hcbud : CBudget cw (totalTime seg) :=
    ⟨by show _ + tmo cw ≤ _; rw [hτ, hwt]; exact Nat.le_trans (Nat.add_le_add_right (Nat.le_add_right _ _) _) hclk,
      hwalk.start, hwalk.recv, e2, e1⟩
  obtain ⟨cb, sb, hrun2, hcb, hsame, htm, hsq, _, hag2, _⟩ := silent_run (addr := addr) (me := me) (id := id) hT seg hcw
    hcbud (Nat.le_refl _) (Nat.lt_of_le_of_lt (Nat.add_le_add_right hwalk.seq _) hseq)
    (walk_ends_elsewhere hne hnme hwalk) (by rw [hag.clients]; exact hid)
    (by rw [hag.time]; exact Nat.le_of_add_right_le hsclk)
  have hcbt : cb.currentTime = c0.currentTime + totalTime (walkSched atts) + totalTime seg := by rw [htm, hwt]
  have hle : c0.currentTime + totalTime (walkSched atts) ≤ cb.currentTime + d := by
    rw [hcbt]; exact Nat.le_trans (Nat.le_add_right _ _) (Nat.le_add_right _ _)
  have hok : ClockOK cb d := by
    refine ⟨by rw [hcbt]; exact Nat.le_of_add_right_le hclk, ?_, ?_⟩
    · rw [hsame.start]; exact Nat.le_trans hwalk.start (hwt ▸ hle)
    · show cb.lastPacketReceivedTime + tmo cb ≤ DURATION_MAX
      have e : tmo cb = tmo c0 := by unfold tmo; rw [hsame.tok, hwalk.tok]
      rw [hsame.recv, e]
      exact Nat.le_trans (Nat.add_le_add_right (Nat.le_trans hwalk.recv (hwt ▸ hle)) _) (hcbt ▸ hclk)
  have hcu := client_update_of_error a <| client_token_expired (Or.inl hcb.st) hok (by
    have : tokenWindow cb = tokenWindow cw := by unfold tokenWindow; rw [hsame.tok]
    rw [this, htm, hsame.start]; exact e3)
  have hround := round_unheard (addr := addr) (me := me) (f := f) hcu (up_none a addr me _ _)
    (by rw [hag2.clients, hag.clients]; exact hid) (by rw [hag2.time, hag.time]; exact hsclk)
  refine ⟨cb, sb, srvTick sb d, ?_, hcb.st, by rw [hsame.idx, hwalk.idx, List.length_map], hcbt, hcu, ?_⟩
  · rw [runRounds_append, hrun]; exact hrun2
  · rw [List.append_assoc, runRounds_append, hrun]
    simp only [Option.bind_some, runRounds_append, hrun2, runRounds, hround]

end A

/-! ## B. the handshake while the server serves others

  Vocabulary: `RoundSpec` = `⟨b1, b2, b3, f, d⟩` (a round of `d` ns with fate `f` and the three bystander blocks),
  `roundB` / `runRoundsB` (the rounds of C18T with the blocks inserted; `roundB_without_bystanders`),
  `Core s0 addr t s` (configuration of `s0`, `ServerInv`, nobody connected from `addr`, id `t.clientId` not
  connected — `SrvOpen` without its three capacity clauses), `Room` (those three clauses), `BysOK` (the bystander
  hypothesis), `costB` (number of rounds and bystander operations: room in the `u64` counters). -/

section B
variable {a : AEAD} {s0 : NetcodeServer} {addr me : Addr} {t : PrivateConnectToken} {expire : Nat} {xnonce : Bytes}

theorem roundB_without_bystanders (a : AEAD) (addr me : Addr) (id : Nat) (f : Fate) (d : Nat)
    (w : NetcodeClient × NetcodeServer) : roundB a addr me id ⟨[], [], [], f, d⟩ w = round a addr me id f d w := by
  unfold roundB round
  simp only [runBy, runOps, Option.map_some]
  cases w.2.update d with
  | ok s1 =>
    cases w.1.update a d with
    | ok p =>
      obtain ⟨out, c1⟩ := p
      simp only
      cases up a addr me f out s1 with
      | none => rfl
      | some q => rfl
    | err e => exact e.elim
    | panic m => rfl
  | err e => exact e.elim
  | panic m => rfl

theorem notMine_iff {addr : Addr} {id : Nat} :
    (∀ ad buf, NotMine addr id (.packet ad buf) ↔ ad ≠ addr) ∧ (∀ i, NotMine addr id (.updateClient i) ↔ i ≠ id) ∧
    (∀ i, NotMine addr id (.disconnect i) ↔ i ≠ id) ∧ (∀ i p, NotMine addr id (.sendPayload i p) ↔ i ≠ id) ∧
    (∀ d, ¬ NotMine addr id (.update d)) ∧ (∀ m, ¬ NotMine addr id (.setMaxClients m)) :=
  ⟨fun _ _ => Iff.rfl, fun _ => Iff.rfl, fun _ => Iff.rfl, fun _ _ => Iff.rfl, fun _ h => h, fun _ h => h⟩

/-- **`bystander_frame`** — the frame lemma.  A block `b` of bystander operations, run from a state satisfying
    `ServerInv`, preserves for the client `(addr, id)`: the configuration (keys, protocol id, public addresses,
    `max_clients`), the invariant, the clock, the half-open session stored for `addr` (if any), its own session —
    the slot holding a session with id `id` and address `addr` is left *exactly* as it is — and "nobody is connected
    from `addr`"; each of the two global counters grows by at most `b.length`; and the id stays unconnected as long
    as no operation reports `ClientConnected id` (`Quiet`). -/
theorem bystander_frame {a : AEAD} {addr : Addr} {id : Nat} (b : List Op) {s s' : NetcodeServer} {rs : List ServerResult}
    (hi : ServerInv s) (hm : ∀ op ∈ b, NotMine addr id op) (hr : runOps a s b = some (rs, s')) :
    (SameCfg s s' ∧ ServerInv s' ∧ s'.currentTime = s.currentTime ∧
      pendingFind s'.pendingClients addr = pendingFind s.pendingClients addr ∧
      (∀ i cn, At s.clients i cn → cn.clientId = id → cn.addr = addr → At s'.clients i cn) ∧
      (findClientByAddr s.clients addr = none → findClientByAddr s'.clients addr = none) ∧
      s'.globalSequence ≤ s.globalSequence + b.length ∧ s'.challengeSequence ≤ s.challengeSequence + b.length) ∧
    (findClientById s.clients id = none → Quiet id rs → findClientById s'.clients id = none) := by
  obtain ⟨f, hid⟩ := block_frame b hi hm hr
  exact ⟨⟨f.cfg, f.inv, f.time, f.pend, f.slots.mine,
    fun h => findAddr_none.mpr (f.slots.addrFree (findAddr_none.mp h)), f.gLe, f.cLe⟩, hid⟩

/-- **the bystander hypothesis of one round, spelled out** (`roundOKB` is its computable form): from the world `w`,
    every operation of the three blocks is `NotMine`; `b1` runs to its end (`sa`) from the server's state, `b2` from
    the state after the `update` (`sb`: the state in which the client's datagram, if it gets through, arrives), `b3`
    from the state after that datagram has been processed; no result announces a connection of this client's id; and
    if the datagram the client's `update` emits goes to this server and is not lost, then `Arr`: a request finds
    `Room`, a response finds a free slot (unless the server already holds the session). -/
theorem roundOK_spelled_out {x : RoundSpec} {w : NetcodeClient × NetcodeServer}
    (h : roundOKB a s0 addr me t expire xnonce x w = true) :
    (∀ op ∈ x.b1 ++ x.b2 ++ x.b3, NotMine addr t.clientId op) ∧
    ∃ rs1 sa, runOps a w.2 x.b1 = some (rs1, sa) ∧ Quiet t.clientId rs1 ∧
    ∃ rs2 sb, runOps a (srvTick sa x.d) x.b2 = some (rs2, sb) ∧ Quiet t.clientId rs2 ∧
    ∀ out c1, w.1.update a x.d = .ok (out, c1) →
      (∀ dg, out = some (dg, me) → x.f ≠ .upLost →
        (w.1.state = .sendingConnectionRequest → Room a s0 addr t expire xnonce sb) ∧
        (w.1.state = .sendingConnectionResponse → findClientById sb.clients t.clientId = none →
          countConnected sb.clients < sb.maxClients)) ∧
      ∀ r s2, up a addr me x.f out sb = some (r, s2) →
        ∃ rs3 sc, runOps a s2 x.b3 = some (rs3, sc) ∧ Quiet t.clientId rs3 := roundOK_elim h

theorem room_iff {s : NetcodeServer} : Room a s0 addr t expire xnonce s ↔
    (pendingRemove s.pendingClients addr).length < Netcode.C.NETCODE_MAX_PENDING_CLIENTS ∧
    (∀ e, some e ∈ s.connectTokenEntries → e.mac = tokenMac (sealedPriv a s0 t expire xnonce) → e.address = addr) ∧
    countConnected s.clients < s.maxClients :=
  ⟨fun h => ⟨h.1, h.2, h.3⟩, fun h => ⟨h.1, h.2.1, h.2.2⟩⟩

theorem bysOK_step {x : RoundSpec} {rest : List RoundSpec} {w : NetcodeClient × NetcodeServer} :
    BysOK a s0 addr me t expire xnonce (x :: rest) w ↔
      roundOKB a s0 addr me t expire xnonce x w = true ∧
      ∀ w', roundB a addr me t.clientId x w = some w' → BysOK a s0 addr me t expire xnonce rest w' := bysOK_cons

theorem core_of_open {s : NetcodeServer} (h : SrvOpen a s0 addr t expire xnonce s) :
    Core s0 addr t s ∧ Room a s0 addr t expire xnonce s := ⟨Core.ofOpen h, Room.ofOpen h⟩

/-- **`handshake_with_bystanders`** (`C18T.handshake_through_update` in general position) — two delivered rounds of
    arbitrary lengths connect both sides whatever the server does for others in between: before its `update`, between
    the `update` and the arrival of this client's datagram, between that and the per-client tick, in both rounds
    (`x₁`, `x₂ : RoundSpec`).  `hs`: at the start nobody is connected from `addr` and the id is not connected.
    `hby`: the bystander hypothesis (`roundOK_spelled_out`) — in particular `Room` when the request arrives and a
    free slot when the response arrives.  `hb`: the budgets of `C18T`, with room in the counters for the bystander
    operations as well (`costB`). -/
theorem handshake_with_bystanders (hT : TokOK a s0 t expire xnonce) {c0 : NetcodeClient} {s : NetcodeServer}
    {x₁ x₂ : RoundSpec} (hc : CliReq a s0 t expire xnonce c0) (hsend : c0.lastPacketSendTime = none)
    (hme : c0.serverAddr = me) (hs : Core s0 addr t s) (hf₁ : x₁.f = .delivered) (hf₂ : x₂.f = .delivered)
    (hb : Budget t expire c0 s (x₁.d + x₂.d) (costB [x₁, x₂]))
    (hby : BysOK a s0 addr me t expire xnonce [x₁, x₂] (c0, s)) :
    ∃ c1 s1 c2 s2, roundB a addr me t.clientId x₁ (c0, s) = some (c1, s1) ∧
      c1.state = .sendingConnectionResponse ∧ roundB a addr me t.clientId x₂ (c1, s1) = some (c2, s2) ∧
      Established addr t expire c2 s2 ∧ s2.isClientConnected t.clientId = true ∧
      c2.currentTime = c0.currentTime + x₁.d + x₂.d ∧ s2.currentTime = s.currentTime + x₁.d + x₂.d := by
  have hcost : costB [x₁, x₂] = (0 + 1 + x₂.ops) + 1 + x₁.ops := by simp only [costB]; omega
  rw [hcost] at hb
  obtain ⟨hok1, hnext⟩ := bysOK_cons.mp hby
  obtain ⟨c1, s1, hr1, hc1, hs1, hp1, hb1, hls1, hme1, _, ht1, hst1⟩ := roundB_req_delivered (me := me) hT hc hs hb
    (Nat.le_add_right _ _) hf₁ hme (gateOpen_of_none hsend) hok1
  rw [Nat.add_sub_cancel_left] at hb1
  obtain ⟨hok2, _⟩ := bysOK_cons.mp (hnext _ hr1)
  obtain ⟨c2, s2, hr2, hest, ht2, hst2⟩ := roundB_resp_delivered (me := me) hT hc1 hs1 hp1 hb1 (Nat.le_refl _) hf₂ hme1
    (gateOpen_of_none hls1) hok2
  exact ⟨c1, s1, c2, s2, hr1, hc1.st, hr2, hest, hest.isClientConnected, by rw [ht2, ht1], by rw [hst2, hst1]⟩

/-- **`handshake_despite_loss_with_bystanders`** (`C18T.handshake_despite_loss` in general position) — any number of
    rounds in which the client hears nothing, a delivered round, again lossy rounds (lost responses, or the lost
    keep-alive of `ClientConnected`), a delivered round (both at least the send rate long): connected after exactly the
    schedule's time — every round with its three bystander blocks. -/
theorem handshake_despite_loss_with_bystanders (hT : TokOK a s0 t expire xnonce) {c0 : NetcodeClient}
    {s : NetcodeServer} {l₁ l₂ : List RoundSpec} {x₁ x₂ : RoundSpec} (hc : CliReq a s0 t expire xnonce c0)
    (hme : c0.serverAddr = me) (hs : Core s0 addr t s) (hl₁ : LossyB l₁) (hl₂ : LossyB l₂)
    (hf₁ : x₁.f = .delivered) (hf₂ : x₂.f = .delivered) (hr₁ : c0.sendRate ≤ x₁.d) (hr₂ : c0.sendRate ≤ x₂.d)
    (hr₂' : Netcode.C.NETCODE_SEND_RATE_NS ≤ x₂.d)
    (hb : Budget t expire c0 s (totalTimeB (l₁ ++ x₁ :: (l₂ ++ [x₂]))) (costB (l₁ ++ x₁ :: (l₂ ++ [x₂]))))
    (hby : BysOK a s0 addr me t expire xnonce (l₁ ++ x₁ :: (l₂ ++ [x₂])) (c0, s)) :
    ∃ c' s', runRoundsB a addr me t.clientId (l₁ ++ x₁ :: (l₂ ++ [x₂])) (c0, s) = some (c', s') ∧
      Established addr t expire c' s' ∧ s'.isClientConnected t.clientId = true ∧
      c'.currentTime = c0.currentTime + totalTimeB (l₁ ++ x₁ :: (l₂ ++ [x₂])) ∧
      s'.currentTime = s.currentTime + totalTimeB (l₁ ++ x₁ :: (l₂ ++ [x₂])) := by
  have hT1 : totalTimeB (l₁ ++ x₁ :: (l₂ ++ [x₂])) = totalTimeB l₁ + (x₁.d + (totalTimeB l₂ + x₂.d)) := by
    rw [totalTimeB_append]; simp only [totalTimeB, totalTimeB_append]; omega
  have hC1 : costB (l₁ ++ x₁ :: (l₂ ++ [x₂])) = ((0 + 1 + x₂.ops + costB l₂) + 1 + x₁.ops) + costB l₁ := by
    rw [costB_append]; simp only [costB, costB_append]; omega
  rw [hT1, hC1] at hb
  rw [hT1]
  obtain ⟨c1, s1, hrun1, hc1, hs1, hb1, hsame1, ht1, hst1⟩ := run_lossyB (Q := fun _ _ => Core s0 addr t)
    (roundB_req_lossy (me := me) hT) l₁ hc hs hb (Nat.le_add_right _ _) hl₁ (bysOK_prefix hby)
  rw [Nat.add_sub_cancel_left] at hb1
  have hby1 := bysOK_append hby hrun1
  obtain ⟨hok1, hnext1⟩ := bysOK_cons.mp hby1
  obtain ⟨c2, s2, hr2, hc2, hs2, hp2, hb2, hls2, hme2, hrate2, ht2, hst2⟩ := roundB_req_delivered (me := me) hT hc1 hs1 hb1
    (Nat.le_add_right _ _) hf₁ (by rw [hsame1.srv]; exact hme)
    (gateOpen_of_rate (by rw [hsame1.rate]; exact hr₁) hc1.sendLe) hok1
  rw [Nat.add_sub_cancel_left] at hb2
  have hby2 := hnext1 _ hr2
  have hby2' : BysOK a s0 addr me t expire xnonce l₂ (c2, s2) := bysOK_prefix hby2
  obtain ⟨c3, s3, hrun3, hc3, hs3, hb3, hsame3, ht3, hst3⟩ := run_lossyB (Q := RespB s0 addr t expire)
    (roundB_resp_quiet (me := me) hT) l₂ (N := 0 + 1 + x₂.ops) hc2 (Or.inl ⟨hs2, hp2⟩) hb2 (Nat.le_add_right _ _) hl₂ hby2'
  rw [Nat.add_sub_cancel_left] at hb3 hs3
  obtain ⟨hok3, _⟩ := bysOK_cons.mp (bysOK_append hby2 hrun3)
  obtain ⟨c4, s4, hr4, hest, ht4, hst4⟩ := roundB_resp_final (me := me) hT hc3 hs3 hb3 (Nat.le_refl _) hf₂
    (by rw [hsame3.srv]; exact hme2)
    (gateOpen_of_rate (by rw [hsame3.rate, hrate2, hsame1.rate]; exact hr₂) hc3.sendLe) hr₂' hok3
  refine ⟨c4, s4, ?_, hest, hest.isClientConnected, by rw [ht4, ht3, ht2, ht1]; simp only [Nat.add_assoc],
    by rw [hst4, hst3, hst2, hst1]; simp only [Nat.add_assoc]⟩
  rw [runRoundsB_append, hrun1]
  simp only [Option.bind_some, runRoundsB, hr2, runRoundsB_append, hrun3, hr4]

/-- **an established connection is not disturbed by bystander operations** (the server still holds the session, with
    the token's identity, after any block) -/
theorem established_survives_bystanders {c : NetcodeClient} {s s' : NetcodeServer} {b : List Op}
    {rs : List ServerResult} (h : Established addr t expire c s) (hm : ∀ op ∈ b, NotMine addr t.clientId op)
    (hr : runOps a s b = some (rs, s')) : Established addr t expire c s' := by
  obtain ⟨h1, h2, i, cn, h3, h4⟩ := h
  obtain ⟨f, _⟩ := block_frame b h2 hm hr
  obtain ⟨e1, e2, _⟩ := identT_fields h4
  exact ⟨h1, f.inv, i, cn, f.slots.mine i cn h3 e1 e2, h4⟩

end B

section C
variable {a : AEAD} {s0 : NetcodeServer} {addr me : Addr} {t : PrivateConnectToken} {expire : Nat} {xnonce : Bytes}

/-- **`late_challenge_ignored`** — a client in `SendingConnectionResponse` or `Connected` that receives a(nother)
    challenge of the server (the answer to a duplicated or retransmitted request, arriving late) does not change at
    all: challenges are not subject to the replay window, and `process_packet` has no case for them in these states. -/
theorem late_challenge_ignored (hl : a.Laws) {c : NetcodeClient} {s : NetcodeServer} {t : PrivateConnectToken}
    (hst : c.state = .sendingConnectionResponse ∨ c.state = .connected)
    (hkey : c.connectToken.serverToClientKey = t.serverToClientKey) (hpid : c.connectToken.protocolId = s.protocolId)
    (hg : s.globalSequence < 2 ^ 64) (hcs : s.challengeSequence + 1 < 2 ^ 64) (hud : t.userData.length = 256) :
    c.processPacket a (challengeBytes a s t) = .ok (none, c) := NcLive4.late_challenge_ignored hl hst hkey hpid hg hcs hud

/-- **`handshake_despite_duplication`** — round 1 delivered; then the network delivers the request datagram a second
    time: the server answers with a second challenge (next challenge sequence number) and re-creates the half-open
    session; that challenge reaches the client after it has moved to `SendingConnectionResponse` and is ignored; round
    2: the client's response, which echoes the *first* challenge token, still connects (the server checks the token's
    id and user data, not its sequence number). -/
theorem handshake_despite_duplication (hT : TokOK a s0 t expire xnonce) {c0 : NetcodeClient} {s : NetcodeServer}
    {d₁ d₂ : Nat} (hc : CliReq a s0 t expire xnonce c0) (hsend : c0.lastPacketSendTime = none)
    (hme : c0.serverAddr = me) (hs : SrvOpen a s0 addr t expire xnonce s) (hb : Budget t expire c0 s (d₁ + d₂) 3) :
    ∃ c1 s1 s1' c2 s2, round a addr me t.clientId .delivered d₁ (c0, s) = some (c1, s1) ∧
      c1.state = .sendingConnectionResponse ∧
      s1.processPacket a addr (requestBytes a s0 t expire xnonce) =
        .ok (.packetToSend addr (challengeBytes a s1 t), s1') ∧
      c1.processPacket a (challengeBytes a s1 t) = .ok (none, c1) ∧
      round a addr me t.clientId .delivered d₂ (c1, s1') = some (c2, s2) ∧
      Established addr t expire c2 s2 ∧ s2.isClientConnected t.clientId = true ∧
      c2.currentTime = c0.currentTime + d₁ + d₂ ∧ s2.currentTime = s.currentTime + d₁ + d₂ :=
  NcLive4.handshake_despite_duplication hT hc hsend hme hs hb

/-- **after the connection**: a duplicated response is ignored by the server (the session stays as it is) and a late
    challenge — of this server in any later state `sx` — is ignored by the connected client -/
theorem established_despite_duplicates (hT : TokOK a s0 t expire xnonce) {c : NetcodeClient} {s sx : NetcodeServer}
    {T N D cs seq : Nat} (hcst : c.state = .connected) (htok : TokenFor a s0 t expire xnonce c.connectToken)
    (hsc : SrvConn s0 addr t expire T N D s) (hg : s.globalSequence < U64_MAX) (hch : s.challengeSequence < U64_MAX)
    (hcs : cs < 2 ^ 64) (hseq : seq < 2 ^ 64) (hcfg : SameCfg s0 sx) (hgx : sx.globalSequence < 2 ^ 64)
    (hcx : sx.challengeSequence + 1 < 2 ^ 64) :
    (∃ s', s.processPacket a addr (Packet.sealedBytes a (.response cs (challengeToken a s0 t.clientId t.userData cs))
        s0.protocolId seq t.clientToServerKey) = .ok (.none, s') ∧ SrvConn s0 addr t expire T N D s') ∧
    c.processPacket a (challengeBytes a sx t) = .ok (none, c) :=
  NcLive4.established_despite_duplicates hT hcst htok hsc hg hch hcs hseq hcfg hgx hcx

end C

/-! ## examples: the hypotheses are satisfiable (worlds of Lemmas/NcExamples.lean, Props/C18P.lean, Props/C18T.lean) -/
section Examples
open Ex C18T

/-! ### A: a token listing three addresses; the servers behind the first two are silent, `sC` listens on the third -/
def srv3 : Addr := .v4 [127, 0, 0, 3] 5002
def addrs3 : List (Option Addr) := some srvAddr :: some srv2 :: some srv3 :: List.replicate 29 none
def privG : PrivateConnectToken := ⟨11, 5, addrs3, kc2s, ks2c, udA⟩
def sC : NetcodeServer := { s0 with publicAddresses := [srv3] }
def cG : NetcodeClient :=
  { cA0 with connectToken := { tokenA with serverAddresses := addrs3
                                           privateData := sealedPriv AEAD.toy sC privG 30 xnA } }

theorem privG_wf : NcAead.Token.PTokenWF privG :=
  ⟨by decide, by decide, by decide,
    ⟨[srvAddr, srv2, srv3], by simp, by decide,
      by intro x hx; simp at hx; rcases hx with rfl | rfl | rfl <;> decide, rfl⟩,
    List.length_replicate, List.length_replicate, List.length_replicate⟩
theorem sC_empty : EmptyServer sC := ⟨rfl, by decide, rfl, 3, by decide, rfl⟩
theorem tokOK_G : TokOK AEAD.toy sC privG 30 xnA :=
  ⟨AEAD.toy_laws, privG_wf, rfl, by decide, by decide, fun _ => ⟨srv3, by simp [privG, addrs3], by simp [sC]⟩⟩
theorem cliReq_cG : CliReq AEAD.toy sC privG 30 xnA cG :=
  ⟨rfl, ⟨rfl, rfl, rfl, rfl, rfl, rfl⟩, (fun _ e => by cases e), rp_new_fresh⟩
theorem srvOpen_sC : SrvOpen AEAD.toy sC addrA privG 30 xnA sC :=
  srvOpen_of_fresh sC_empty.inv rfl rfl rfl (by decide) (by decide +kernel) (by decide)

def att1 : Attempt := ⟨[(.delivered, 2500000000), (.upLost, 2500000000)], .delivered, 250000000, srv2⟩
def att2 : Attempt := ⟨[(.downLost, 2500000000), (.delivered, 2500000000)], .delivered, 250000000, srv3⟩

example : ∃ c1 s1 c2 s2 c3 s3,
    runRounds AEAD.toy addrA srv3 privG.clientId (walkSched [att1] ++ att2.seg) (cG, sC) = some (c1, s1) ∧
    c1.state = .sendingConnectionRequest ∧ c1.serverAddr = srv2 ∧ c1.serverAddrIndex = 1 ∧
    round AEAD.toy addrA srv3 privG.clientId .delivered 250000000 (c1, s1) = some (c2, s2) ∧
    c2.state = .sendingConnectionResponse ∧ c2.serverAddr = srv3 ∧ c2.serverAddrIndex = 2 ∧
    c2.connectStartTime = 10500000000 ∧
    Established addrA privG 30 c3 s3 ∧ c3.currentTime = 10750000000 ∧
    FailoverStep AEAD.toy sC addrA srv3 privG 30 xnA privG.clientId (cG, sC) [] att1 0 srvAddr := by
  obtain ⟨c1, s1, c2, s2, c3, s3, h1, h2, h3, h4, _, h6, h7, h8, h9, h10, _, _, _, h14, _, h16, _, h18⟩ :=
    failover_walks_list (me := srv3) (d₂ := 250000000) tokOK_G [att1] att2 cliReq_cG (by decide) (by decide) (by decide)
      (by decide) rfl rfl (by decide) (by decide) (by decide +kernel) (by decide) srvOpen_sC (by decide) (by decide)
      (Or.inr (by decide)) (by decide) (by decide) (by decide) (by decide) (by decide) (by decide)
  exact ⟨c1, s1, c2, s2, c3, s3, h1, h2, h3, h4, h6, h7, h8, h9, h10, h14, h16, h18 [] att1 [] rfl⟩

/-- the two-address token of C18T (`cF2`: `srvAddr`, `srv2`), both servers silent (the rounds are played against `s0`,
    taken to listen on `srv3`, which the token does not list): fail-over to `srv2` at 5.25 s, gives up at 10.5 s -/
def attLast : Attempt := ⟨[(.delivered, 5000000000)], .upLost, 250000000, srv3⟩

example : ∃ cb sb s', runRounds AEAD.toy addrA srv3 11 (walkSched [att1] ++ attLast.seg) (cF2, s0) = some (cb, sb) ∧
    cb.state = .sendingConnectionRequest ∧ cb.serverAddr = srv2 ∧ cb.serverAddrIndex = 1 ∧
    cb.currentTime + 250000000 = 10500000000 ∧
    cb.update AEAD.toy 250000000 = .ok (none, gaveUp cb 250000000) ∧
    runRounds AEAD.toy addrA srv3 11 (walkSched [att1, attLast]) (cF2, s0) = some (gaveUp cb 250000000, s') ∧
    (gaveUp cb 250000000).state = .disconnected .connectionRequestTimedOut := by
  obtain ⟨cb, sb, s', h1, h2, h3, h4, h5, h6, h7, h8, _⟩ := failover_exhausts_list (me := srv3) (addr := addrA) (id := 11)
    (s := s0) tokOK_F [att1] attLast cliReq_cF2 (by decide) (by decide) (by decide) (by decide) (by decide) (by decide)
    (by decide) (by decide +kernel) (by decide) (by decide) (Or.inr (by decide +kernel)) rfl (by decide)
  exact ⟨cb, sb, s', h1, h2, h3, h4, h5, h6, h7, h8⟩

example : ({ cF2 with state := .disconnected .connectionRequestTimedOut } : NetcodeClient).update AEAD.toy 1000000000 =
    .ok (none, { cF2 with state := .disconnected .connectionRequestTimedOut, currentTime := 1000000000 }) :=
  disconnected_stays AEAD.toy rfl (by decide) (by decide)

/-- a token whose window (3 s) is shorter than its time-out (5 s): after 2 s of silence the `update(1 s)` finds the
    window closed -/
def cX : NetcodeClient :=
  { cA0 with connectToken := { tokenA with expireTimestamp := 3, privateData := sealedPriv AEAD.toy s0 privA 3 xnA } }
theorem tokOK_X : TokOK AEAD.toy s0 privA 3 xnA :=
  ⟨AEAD.toy_laws, C18P.privA_wf, rfl, by decide, by decide, fun _ => ⟨srvAddr, by simp [privA], by simp [s0]⟩⟩
theorem cliReq_cX : CliReq AEAD.toy s0 privA 3 xnA cX :=
  ⟨rfl, ⟨rfl, rfl, rfl, rfl, rfl, rfl⟩, (fun _ e => by cases e), rp_new_fresh⟩

example : ∃ cb sb s', runRounds AEAD.toy addrA srv2 11 ([] ++ [(.delivered, 2000000000)]) (cX, s0) = some (cb, sb) ∧
    cb.state = .sendingConnectionRequest ∧
    runRounds AEAD.toy addrA srv2 11 ([] ++ [(.delivered, 2000000000)] ++ [(.delivered, 1000000000)]) (cX, s0) =
      some ({ cb with currentTime := cb.currentTime + 1000000000, state := .disconnected .connectTokenExpired }, s') := by
  obtain ⟨cb, sb, s', h1, h2, _, _, _, h6⟩ := failover_token_expires (me := srv2) (addr := addrA) (id := 11) (s := s0)
    tokOK_X [] [(.delivered, 2000000000)] .delivered 1000000000 cliReq_cX (by decide) (by decide) (by decide) trivial
    (fun cw hw => by rw [hw.same rfl]; exact ⟨Or.inr (by decide), by decide, by decide⟩) (by decide) (by decide)
    (by decide) trivial (by decide) (fun _ h => by cases h) rfl (by decide)
  exact ⟨cb, sb, s', h1, h2, h6⟩

/-! ### B: client A's handshake with `s0` (2 slots) while client B (id 12, `addrB`) connects, receives a payload, is
    ticked and disconnected, and junk arrives from `addrB`.  The AEAD is `Ex.a` (the toy cipher whose private-token
    tag depends on the xnonce: with `AEAD.toy`'s constant tag all tokens have the same MAC, B's request would bind
    "the" token to `addrB`, and `Room` would fail for A — the last example of this part). -/

def cTa : NetcodeClient :=
  { cA0 with connectToken := { tokenA with privateData := sealedPriv Ex.a s0 privA 30 xnA } }
theorem tokOK_a : TokOK Ex.a s0 privA 30 xnA :=
  ⟨laws_a, C18P.privA_wf, rfl, by decide, by decide, fun _ => ⟨srvAddr, by simp [privA], by simp [s0]⟩⟩
theorem cliReq_cTa : CliReq Ex.a s0 privA 30 xnA cTa :=
  ⟨rfl, ⟨rfl, rfl, rfl, rfl, rfl, rfl⟩, (fun _ e => by cases e), rp_new_fresh⟩
theorem srvOpen_a : SrvOpen Ex.a s0 addrA privA 30 xnA s0 :=
  srvOpen_of_fresh s0_empty.inv rfl rfl rfl (by decide) (by decide +kernel) (by decide)
theorem core_s0 : Core s0 addrA privA s0 := Core.ofOpen srvOpen_a

/-- B's request and response (B answers challenge number 1, with sequence number 1) -/
def reqBt : Bytes := requestBytes Ex.a s0 privB 30 xnB
def respBt : Bytes := Packet.sealedBytes Ex.a (.response 1 (challengeToken Ex.a s0 12 udB 1)) 42 1 kBc2s

/-- round 1 (100 ms): B's request before the server's `update`; junk from `addrB` and a tick of id 12 before A's
    request arrives; B's response (B gets slot 0) before A's per-client tick -/
def xr1 : RoundSpec :=
  ⟨[.packet addrB reqBt], [.packet addrB [1, 2, 3], .updateClient 12], [.packet addrB respBt], .delivered, 100000000⟩
/-- round 2 (16 ms): a payload for B, a tick of B, and B is disconnected -/
def xr2 : RoundSpec := ⟨[.sendPayload 12 [9, 9]], [.updateClient 12], [.disconnect 12], .delivered, 16000000⟩

/-- B2: A's first request is lost while B's request arrives; A's second request gets through (after junk and B's
    response: B connected); A's response is lost once, its answer once (the server holds A's session, B is ticked and
    gets a payload); the last round (250 ms) delivers the tick's keep-alive: connected after 1.25 s -/
def lossySched : List RoundSpec :=
  [⟨[.packet addrB reqBt], [], [], .upLost, 250000000⟩] ++
   ⟨[.packet addrB [1, 2, 3]], [.packet addrB respBt], [.updateClient 12], .delivered, 250000000⟩ ::
   ([⟨[.sendPayload 12 [9, 9]], [], [.updateClient 12], .upLost, 250000000⟩,
     ⟨[], [.packet addrB [7]], [.sendPayload 12 [8]], .downLost, 250000000⟩] ++
    [⟨[.updateClient 12], [.disconnect 12], [.packet addrB reqBt], .delivered, 250000000⟩])

def sOne : NetcodeServer := { s0 with clients := [none], maxClients := 1 }

/-- B completes its handshake before A's request arrives (block `b1`) -/
def xFull : RoundSpec := ⟨[.packet addrB reqBt, .packet addrB respBt], [], [], .delivered, 100000000⟩

/-- everything this part reads off the rounds played with `Ex.a`, in one kernel evaluation.  From `(cTa, s0)`: the
    bystander hypothesis holds of `[xr1, xr2]`, B really connects in round 1 (the blocks are not no-ops), and the
    hypothesis holds of `lossySched`.  From the one-slot `(cTa, sOne)`, round `xFull`: the server is full when A's
    request arrives, `Room` fails (`roundOKB = false`), the request is answered with `ConnectionDenied` and A ends
    `Disconnected(ConnectionDenied)`.  From `(cTa, sOne)`, round `xr1` and an empty round: A's request is challenged
    while the slot is still free; B's response takes the slot before A's response arrives (block `b3` of round 1): no
    free slot at that arrival (`bysOKB = false`), `ConnectionDenied`, A ends `Disconnected(ConnectionDenied)`. -/
theorem bystander_rounds :
    (BysOK Ex.a s0 addrA srvAddr privA 30 xnA [xr1, xr2] (cTa, s0) ∧
      (roundB Ex.a addrA srvAddr 11 xr1 (cTa, s0)).map (fun w => w.2.isClientConnected 12) = some true ∧
      BysOK Ex.a s0 addrA srvAddr privA 30 xnA lossySched (cTa, s0)) ∧
    (roundOKB Ex.a sOne addrA srvAddr privA 30 xnA xFull (cTa, sOne) = false ∧
      (roundB Ex.a addrA srvAddr 11 xFull (cTa, sOne)).map (fun w => (w.1.state, w.2.isClientConnected 11)) =
        some (.disconnected .connectionDenied, false)) ∧
    (roundOKB Ex.a sOne addrA srvAddr privA 30 xnA xr1 (cTa, sOne) = true ∧
      bysOKB Ex.a sOne addrA srvAddr privA 30 xnA [xr1, ⟨[], [], [], .delivered, 16000000⟩] (cTa, sOne) = false ∧
      (runRoundsB Ex.a addrA srvAddr 11 [xr1, ⟨[], [], [], .delivered, 16000000⟩] (cTa, sOne)).map
        (fun w => (w.1.state, w.2.isClientConnected 11)) = some (.disconnected .connectionDenied, false)) := by
  decide +kernel

theorem bys_ok : BysOK Ex.a s0 addrA srvAddr privA 30 xnA [xr1, xr2] (cTa, s0) := bystander_rounds.1.1

example : (roundB Ex.a addrA srvAddr 11 xr1 (cTa, s0)).map (fun w => w.2.isClientConnected 12) = some true :=
  bystander_rounds.1.2.1

example : ∃ c1 s1 c2 s2, roundB Ex.a addrA srvAddr privA.clientId xr1 (cTa, s0) = some (c1, s1) ∧
    c1.state = .sendingConnectionResponse ∧ roundB Ex.a addrA srvAddr privA.clientId xr2 (c1, s1) = some (c2, s2) ∧
    Established addrA privA 30 c2 s2 ∧ s2.isClientConnected privA.clientId = true ∧
    c2.currentTime = cTa.currentTime + 100000000 + 16000000 ∧
    s2.currentTime = s0.currentTime + 100000000 + 16000000 :=
  handshake_with_bystanders (me := srvAddr) tokOK_a cliReq_cTa rfl rfl core_s0 rfl rfl
    ⟨⟨by decide, by decide, by decide, by decide, Or.inr (by decide)⟩, by decide, by decide, Or.inr (by decide),
      by decide, by decide, by decide⟩ bys_ok

theorem lossy_ok : BysOK Ex.a s0 addrA srvAddr privA 30 xnA lossySched (cTa, s0) := bystander_rounds.1.2.2

example : ∃ c' s', runRoundsB Ex.a addrA srvAddr privA.clientId lossySched (cTa, s0) = some (c', s') ∧
    Established addrA privA 30 c' s' ∧ s'.isClientConnected privA.clientId = true ∧
    c'.currentTime = cTa.currentTime + totalTimeB lossySched ∧ s'.currentTime = s0.currentTime + totalTimeB lossySched :=
  handshake_despite_loss_with_bystanders (me := srvAddr) tokOK_a cliReq_cTa rfl core_s0 (by decide) (by decide) rfl rfl
    (by decide) (by decide) (by decide)
    ⟨⟨by decide, by decide, by decide, by decide, Or.inr (by decide)⟩, by decide, by decide, Or.inr (by decide),
      by decide, by decide, by decide⟩ lossy_ok

/-! the capacity hypothesis is necessary: the one-slot server `sOne` -/

example : roundOKB Ex.a sOne addrA srvAddr privA 30 xnA xFull (cTa, sOne) = false ∧
    (roundB Ex.a addrA srvAddr 11 xFull (cTa, sOne)).map (fun w => (w.1.state, w.2.isClientConnected 11)) =
      some (.disconnected .connectionDenied, false) := bystander_rounds.2.1

example : roundOKB Ex.a sOne addrA srvAddr privA 30 xnA xr1 (cTa, sOne) = true ∧
    bysOKB Ex.a sOne addrA srvAddr privA 30 xnA [xr1, ⟨[], [], [], .delivered, 16000000⟩] (cTa, sOne) = false ∧
    (runRoundsB Ex.a addrA srvAddr 11 [xr1, ⟨[], [], [], .delivered, 16000000⟩] (cTa, sOne)).map
      (fun w => (w.1.state, w.2.isClientConnected 11)) = some (.disconnected .connectionDenied, false) :=
  bystander_rounds.2.2

/-- **the token-binding clause of `Room` is necessary too**: under `AEAD.toy` all private tokens carry the same MAC;
    B's request binds it to `addrB`, `Room` fails for A, whose (delivered) request is dropped without an answer -/
example : roundOKB AEAD.toy s0 addrA srvAddr privA 30 xnA
      ⟨[.packet addrB (requestBytes AEAD.toy s0 privB 30 xnB)], [], [], .delivered, 100000000⟩ (C18P.cT, s0) = false ∧
    (roundB AEAD.toy addrA srvAddr 11
      ⟨[.packet addrB (requestBytes AEAD.toy s0 privB 30 xnB)], [], [], .delivered, 100000000⟩ (C18P.cT, s0)).map
        (fun w => w.1.state) = some .sendingConnectionRequest := by
  decide +kernel

/-! ### C: the duplicated request in the world of C18T (`AEAD.toy`, `s0`, `C18P.cT`) -/

example : ∃ c1 s1 s1' c2 s2, round AEAD.toy addrA srvAddr privA.clientId .delivered 100000000 (C18P.cT, s0) = some (c1, s1) ∧
    c1.state = .sendingConnectionResponse ∧
    s1.processPacket AEAD.toy addrA (requestBytes AEAD.toy s0 privA 30 xnA) =
      .ok (.packetToSend addrA (challengeBytes AEAD.toy s1 privA), s1') ∧
    c1.processPacket AEAD.toy (challengeBytes AEAD.toy s1 privA) = .ok (none, c1) ∧
    round AEAD.toy addrA srvAddr privA.clientId .delivered 16000000 (c1, s1') = some (c2, s2) ∧
    Established addrA privA 30 c2 s2 ∧ s2.isClientConnected privA.clientId = true ∧
    c2.currentTime = C18P.cT.currentTime + 100000000 + 16000000 ∧
    s2.currentTime = s0.currentTime + 100000000 + 16000000 :=
  handshake_despite_duplication (me := srvAddr) tokOK_toy cliReq_cT rfl rfl srvOpen_s0
    ⟨⟨by decide, by decide, by decide, by decide, Or.inr (by decide)⟩, by decide, by decide, Or.inr (by decide),
      by decide, by decide, by decide⟩

end Examples

end RenetVerif.C18V
