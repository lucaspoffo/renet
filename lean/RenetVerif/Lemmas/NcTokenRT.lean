/-
  Byte-level decode → re-encode → decode for the two netcode records whose readers do not consume their whole
  buffer: `PrivateConnectToken::read` (1024-byte buffer) and the reader inside `ChallengeToken::decode`
  (300-byte buffer).  Both readers are characterised exactly, plain and sealed.  The count field of the address array is
  free: the announced count is clamped to 32 by `.take(n)`, so it is NOT determined when 32 hosts follow.
-/
import RenetVerif.Lemmas.NcAead
namespace RenetVerif.NcTokenRT
open RenetVerif RenetVerif.Netcode RenetVerif.NcAead RenetVerif.NcAead.Token

/-- the hosts of an address array, in order (what `write_server_addresses` iterates over) -/
def hostsOf (addrs : AddrArray) : List Addr := addrs.filterMap fun x => x

/-- the address section with `num` in the count field instead of the number of hosts -/
def addrsBytesN (addrs : AddrArray) (num : Nat) : Bytes := leBytes num 4 ++ hostsBytes (hostsOf addrs)

theorem addrsBytesN_self (addrs : AddrArray) : addrsBytesN addrs (hostsOf addrs).length = addrsBytes addrs := rfl

theorem hostsOf_compact (hosts : List Addr) (n : Nat) :
    hostsOf (hosts.map some ++ List.replicate n (none : Option Addr)) = hosts := filterMap_compact hosts n

theorem count_determined {num k : Nat} (hm : min num 32 = k) (hk : k < 32) : num = k := by omega

/-- the serialisation with `num` in the host-count field (`ptBytes t` is the case `num` = number of hosts) -/
def ptBytesN (t : PrivateConnectToken) (num : Nat) : Bytes :=
  leBytes t.clientId 8 ++ (i32le t.timeoutSeconds ++ (addrsBytesN t.serverAddresses num ++
  (t.clientToServerKey ++ (t.serverToClientKey ++ t.userData))))

theorem ptBytesN_self (t : PrivateConnectToken) : ptBytesN t (hostsOf t.serverAddresses).length = ptBytes t := rfl

/-- **`PrivateConnectToken::read`, exactly**: `b` is read to `t` iff `t` is well-formed and `b` is the
    serialisation of `t` — with any count field that clamps to the number of hosts — followed by anything. -/
theorem pt_read_iff (b : Bytes) (t : PrivateConnectToken) :
    PrivateConnectToken.read b = some t ↔
      PTokenWF t ∧ ∃ num rest, num < 2 ^ 32 ∧ min num 32 = (hostsOf t.serverAddresses).length ∧
        b = ptBytesN t num ++ rest := by
  rw [Token.pt_read_iff]
  simp only [ptBytesN, addrsBytesN, hostsOf, List.append_assoc]

theorem ptBytesN_length (t : PrivateConnectToken) (num : Nat) : (ptBytesN t num).length = (ptBytes t).length := by
  simp [ptBytesN, ptBytes, addrsBytesN, addrsBytes, hostsOf]

theorem ptBytesN_take12 (t : PrivateConnectToken) (num : Nat) : (ptBytesN t num).take 12 = (ptBytes t).take 12 := by
  have e : ∀ x : Bytes, (leBytes t.clientId 8 ++ (i32le t.timeoutSeconds ++ x)).take 12 =
      leBytes t.clientId 8 ++ i32le t.timeoutSeconds := by
    intro x
    rw [← List.append_assoc, List.take_left' (by simp [i32le_length])]
  simp only [ptBytesN, ptBytes]
  rw [e, e]

theorem drop16_aux (a1 a2 c h x : Bytes) (h1 : a1.length = 8) (h2 : a2.length = 4) (hc : c.length = 4) :
    (a1 ++ (a2 ++ ((c ++ h) ++ x))).drop 16 = h ++ x := by
  have e : a1 ++ (a2 ++ ((c ++ h) ++ x)) = (a1 ++ a2 ++ c) ++ (h ++ x) := by simp only [List.append_assoc]
  rw [e, List.drop_left' (by simp [h1, h2, hc])]

theorem ptBytesN_drop16 (t : PrivateConnectToken) (num : Nat) : (ptBytesN t num).drop 16 = (ptBytes t).drop 16 := by
  simp only [ptBytesN, ptBytes, addrsBytesN, addrsBytes, hostsOf]
  rw [drop16_aux _ _ _ _ _ (by simp) (i32le_length _) (by simp), drop16_aux _ _ _ _ _ (by simp) (i32le_length _) (by simp)]

/-- exact length of the meaningful prefix: 336 fixed bytes plus the host entries (7 per IPv4, 19 per IPv6 host) -/
theorem ptBytes_length_eq {t : PrivateConnectToken} (h : PTokenWF t) :
    (ptBytes t).length = 336 + (hostsBytes (hostsOf t.serverAddresses)).length := by
  simp only [ptBytes, addrsBytes, hostsOf, List.length_append, leBytes_length, i32le_length, h.c2s, h.s2c, h.userData]
  omega

theorem hostsBytes_length_ge (hosts : List Addr) (h : ∀ x ∈ hosts, x.WF) : 7 * hosts.length ≤ (hostsBytes hosts).length := by
  induction hosts with
  | nil => simp [hostsBytes]
  | cons x tl ih =>
    have := ih (fun y hy => h y (by simp [hy]))
    have hx := h x (by simp)
    have : 7 ≤ (addrBytes x).length := by
      cases x <;> obtain ⟨h1, _⟩ := hx <;> simp [addrBytes, h1]
    simp only [hostsBytes, List.length_append, List.length_cons]; omega

theorem ptBytes_length_ge {t : PrivateConnectToken} (h : PTokenWF t) : 343 ≤ (ptBytes t).length := by
  rw [ptBytes_length_eq h]
  obtain ⟨hosts, hne, _, hwf, e⟩ := h.compact
  rw [e, hostsOf_compact]
  have := hostsBytes_length_ge hosts hwf
  have : 1 ≤ hosts.length := by cases hosts with
    | nil => exact absurd rfl hne
    | cons => simp
  omega

/-- what `writeTo` puts into a buffer that is large enough (`encode` uses 1024 ≥ 944) -/
theorem pt_writeTo_out {t : PrivateConnectToken} (h : PTokenWF t) (cap : Nat) (hc : 944 ≤ cap) :
    t.writeTo (Wr.new cap) = some ⟨cap, ptBytes t⟩ := by
  have := ptBytes_length h
  rw [pt_writeTo_eq, Wr.writeAll_eq, if_pos (by simp [Netcode.Wr.new]; omega)]
  simp [Netcode.Wr.new]

theorem take_prefix_eq {b p : Bytes} (h : b.take p.length = p) : b = p ++ b.drop p.length := by
  conv => lhs; rw [← List.take_append_drop p.length b, h]

theorem xseal_inj {a : AEAD} (hl : a.Laws) {k n ad p p' : Bytes} (h : a.xseal k n ad p = a.xseal k n ad p') : p = p' := by
  have := congrArg (a.xopen k n ad) h
  rw [hl.xopen_xseal, hl.xopen_xseal] at this
  exact Option.some.inj this

theorem seal_inj {a : AEAD} (hl : a.Laws) {k n ad p p' : Bytes} (h : a.seal k n ad p = a.seal k n ad p') : p = p' := by
  have := congrArg (a.open k n ad) h
  rw [hl.open_seal, hl.open_seal] at this
  exact Option.some.inj this

/-- sealing the serialisation followed by ANY padding (and with any admissible count field) opens to the token -/
theorem pt_decode_padded (a : AEAD) (hl : a.Laws) {t : PrivateConnectToken} (h : PTokenWF t) {num : Nat}
    (hn : num < 2 ^ 32) (hm : min num 32 = (hostsOf t.serverAddresses).length) (pad : Bytes)
    (proto expire : Nat) (xnonce key : Bytes) :
    PrivateConnectToken.decode a
      (a.xseal key xnonce (PrivateConnectToken.additionalData proto expire) (ptBytesN t num ++ pad))
      proto expire xnonce key = .ok t := by
  rw [Bind.pt_decode_iff]
  refine ⟨by rw [hl.xseal_length]; omega, _, hl.xopen_xseal _ _ _ _, ?_⟩
  rw [pt_read_iff]
  exact ⟨h, num, _, hn, hm, List.append_assoc _ _ _⟩

/-- the reader inside `ChallengeToken::decode` (run over decrypted part ‖ stale tag bytes) -/
def chRead (b : Bytes) : Option ChallengeToken := do
  let (cid, r) ← readU64 b
  let (ud, _) ← readN C.NETCODE_USER_DATA_BYTES r
  pure ⟨cid, ud⟩

/-- what `generate_challenge` writes at the front of its zeroed 300-byte buffer -/
def chBytes (t : ChallengeToken) : Bytes := leBytes t.clientId 8 ++ t.userData

/-- field widths of the Rust type: u64 client id, `[u8; 256]` user data -/
structure ChWF (t : ChallengeToken) : Prop where
  clientId : t.clientId < 2 ^ 64
  userData : t.userData.length = 256

instance (t : ChallengeToken) : Decidable (ChWF t) :=
  decidable_of_iff (t.clientId < 2 ^ 64 ∧ t.userData.length = 256) ⟨fun h => ⟨h.1, h.2⟩, fun h => ⟨h.1, h.2⟩⟩

theorem ch_decode_eq (a : AEAD) (data : Bytes) (tseq : Nat) (ckey : Bytes) :
    ChallengeToken.decode a data tseq ckey =
      (Netcode.Packet.openBody a ckey tseq [] data >>= fun plain => io? (chRead (plain ++ data.drop plain.length))) := rfl

theorem chBytes_length {t : ChallengeToken} (h : ChWF t) : (chBytes t).length = 264 := by
  simp [chBytes, h.userData]

/-- **the challenge token reader, exactly**: `b` is read to `t` iff `t` has the field widths and `b` is
    client id (8 bytes LE) ‖ user data (256 bytes) followed by anything -/
theorem chRead_iff (b : Bytes) (t : ChallengeToken) :
    chRead b = some t ↔ ChWF t ∧ ∃ rest, b = chBytes t ++ rest := by
  simp only [chRead, Option.bind_eq_bind, Option.bind_eq_some_iff, Option.pure_def, Option.some.injEq, Prod.exists,
    readU64, readU_iff, readN_iff, chBytes]
  constructor
  · rintro ⟨cid, r1, ⟨h1, rfl⟩, ud, r2, ⟨h2, rfl⟩, rfl⟩
    exact ⟨⟨by simpa using h1, h2⟩, r2, by rw [List.append_assoc]⟩
  · rintro ⟨hwf, rest, rfl⟩
    exact ⟨_, _, ⟨by simpa using hwf.clientId, by rw [List.append_assoc]⟩, _, _, ⟨hwf.userData, rfl⟩, rfl⟩

/-- `ChallengeToken::decode`, exactly (no assumption on the AEAD) -/
theorem ch_decode_iff (a : AEAD) (data : Bytes) (tseq : Nat) (ckey : Bytes) (t : ChallengeToken) :
    ChallengeToken.decode a data tseq ckey = .ok t ↔
      16 ≤ data.length ∧ ∃ plain, a.open ckey (Netcode.Packet.nonce tseq) [] data = some plain ∧
        chRead (plain ++ data.drop plain.length) = some t := Bind.ch_decode_iff

theorem ch_decode_padded (a : AEAD) (hl : a.Laws) {t : ChallengeToken} (h : ChWF t) (pad : Bytes) (tseq : Nat) (ckey : Bytes) :
    ChallengeToken.decode a (a.seal ckey (Netcode.Packet.nonce tseq) [] (chBytes t ++ pad)) tseq ckey = .ok t := by
  rw [ch_decode_iff]
  refine ⟨by rw [hl.seal_length]; omega, _, hl.open_seal _ _ _ _, ?_⟩
  rw [chRead_iff]
  exact ⟨h, _, List.append_assoc _ _ _⟩

theorem chPlain_eq (t : ChallengeToken) (h : ChWF t) : chPlain t.clientId t.userData = chBytes t ++ List.replicate 20 0 := by
  simp [chPlain, chBytes, h.userData]

theorem ptBytesN_count (t : PrivateConnectToken) (num : Nat) : ((ptBytesN t num).drop 12).take 4 = leBytes num 4 := by
  have e : ptBytesN t num = (leBytes t.clientId 8 ++ i32le t.timeoutSeconds) ++ (leBytes num 4 ++
      (hostsBytes (hostsOf t.serverAddresses) ++ (t.clientToServerKey ++ (t.serverToClientKey ++ t.userData)))) := by
    simp only [ptBytesN, addrsBytesN, List.append_assoc]
  rw [e, List.drop_left' (by simp [i32le_length]), List.take_left' (by simp)]

theorem pt_read_take {b : Bytes} {t : PrivateConnectToken} (h : PrivateConnectToken.read b = some t) :
    (ptBytes t).length ≤ b.length ∧ ∃ num, num < 2 ^ 32 ∧ min num 32 = (hostsOf t.serverAddresses).length ∧
      b.take (ptBytes t).length = ptBytesN t num := by
  obtain ⟨_, num, rest, hn, hm, rfl⟩ := (pt_read_iff b t).1 h
  refine ⟨by rw [List.length_append, ptBytesN_length]; omega, num, hn, hm, ?_⟩
  rw [← ptBytesN_length t num, List.take_left' rfl]

theorem leBytes_ne {n m k : Nat} (hn : n < 256 ^ k) (hm : m < 256 ^ k) (h : n ≠ m) : leBytes n k ≠ leBytes m k :=
  fun e => h (leBytes_inj hn hm e)

theorem ptBytesN_ne (t : PrivateConnectToken) {n m : Nat} (hn : n < 2 ^ 32) (hm : m < 2 ^ 32) (h : n ≠ m) :
    ptBytesN t n ≠ ptBytesN t m := by
  intro e
  have := congrArg (fun x => (x.drop 12).take 4) e
  simp only [ptBytesN_count] at this
  exact leBytes_ne (by simpa using hn) (by simpa using hm) h this

end RenetVerif.NcTokenRT
