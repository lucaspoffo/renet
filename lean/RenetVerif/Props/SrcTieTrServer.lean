/-
  Source tie, group TrServer: `renet_netcode/src/server.rs` (`handle_server_result`,
  `NetcodeServerTransport::{new, addresses, max_clients, set_max_clients, connected_clients, user_data, client_addr,
  time_since_last_received_packet, disconnect_all, update, send_packets}`) and `renet_netcode/src/lib.rs`
  (`NetcodeTransportError` and its `From` impls) ↔ `Transport/Glue.lean` (`handleServerResult`, `serverDisconnectAll`,
  `serverUpdate`, `serverSendPackets`).

  * The `UdpSocket` is the model socket `RustSem.UdpSocket` (header of `Base/RustSem.lean`): `recv_from` pops the next
    event of the socket's script (`inbox`; no event = `WouldBlock`) and copies a datagram, cut to the buffer's size, into
    the buffer; `send_to` appends to the socket's log and does not fail; `&UdpSocket` is threaded as state.  `sockR inbox out`
    is the socket whose script is the datagrams `inbox` and whose log is `out`; the glue model's input is
    `inbox.map (recvFrom TRANSPORT_SERVER_BUFFER)` — the theorems prove that cut.
  * The methods take the `RenetServer` by `&mut`.  What they need from it is the simulation `RnSim R` (a relation `R`
    between the model `Server` and the generated `RenetServer`, kept by `process_packet_from`, `add_connection`,
    `remove_connection`, `get_packets_to_send`, with `clients_id` / `disconnections_id` in the model's key order);
    `rn_sim_of_inv` derives it from the theorems of `SrcTieServer.lean` for any invariant that implies their per-call
    hypotheses (`MSorted`, `CfgOk`, `ProcOk`, `SendOk`).  Likewise `NcInv a I`: an invariant of the model `NetcodeServer`
    that implies the per-call hypotheses of `SrcTieNcServer{Query,Send,Recv}.lean` (token-entry table not empty, `i32`
    time-outs, no pending connection in state `Disconnected`) and is kept by the model's operations.
  * `loop { match recv_from … }` is `whileFuel` with the manifest fuel `self.socket.pending() + 1` (`pending()` = the
    length of the script; model-only): one event is consumed per round, the theorems prove that the fuel-exhaustion site
    is never reached.  Hypothesis `inbox.length + 1 < 2^64` (the fuel expression is evaluated in `u64`).
  * The receive buffer and the netcode scratch buffer are left existentially quantified with their lengths
    (`process_packet` decrypts in place in `self.buffer[..len]`; its length is preserved: `PktOut`).
  * The glue model logs per call (`#[]`); the generated code appends to the socket's log.  The theorems are stated from an
    arbitrary log `out` (`serverIdLoop … out`, `serverUpdateFrom … out`, `serverSendLoop … out`); the model's top-level
    definitions are the case `out = #[]` (`*_model` lemmas, by `rfl`).
  * Socket errors are outside the glue model: `tr_recv_error` states, on the generated loop body, what each error kind does.
-/
import RenetVerif.Lemmas.SrcEquiv.TrServer
namespace RenetVerif.SrcTie
open RenetVerif RenetVerif.SrcEquiv RenetVerif.RustSem RenetVerif.Netcode RenetVerif.Transport
open Src.renet_netcode.server

/-- `handle_server_result`: nothing / `send_to(addr, payload)` / `process_packet_from` (an `Err(ClientNotFound)` is only
    logged) / `add_connection` then `send_to` / `remove_connection` then `send_to` of the optional packet -/
theorem tr_handle_server_result {ε : Type} {R : Server → SRenetServer → Prop} (hsim : RnSim R) {rs : Server} {g : SRenetServer}
    (h : R rs g) (r : Netcode.ServerResult) (inbox : List Dgram) (out : Array Dgram) :
    GlueOut R inbox (handleServerResult r rs out) (handle_server_result (reprNSR r) (sockR inbox out) g : Res ε _) :=
  handle_server_result_on hsim.on h r (fun _ _ _ => trivial) inbox out

/-- `disconnect_all`: `disconnect` + `handle_server_result` for every connected netcode client, in slot order -/
theorem tr_disconnect_all {ε : Type} (a : AEAD) (hl : a.Laws) {R : Server → SRenetServer → Prop} (hsim : RnSim R)
    {I : Netcode.NetcodeServer → Prop} (hinv : NcInv a I) (g : ServerGlue) (gr : SRenetServer) (hi : I g.netcode)
    (hr : R g.renet gr) (inbox : List Dgram) (out : Array Dgram) (o buf : List Nat) (ho : o.length = C.NETCODE_MAX_PACKET_BYTES) :
    TrOut (ε := ε) R I inbox buf.length (serverIdLoop (fun ns id => ns.disconnect a id) g g.netcode.clientsId out)
      (@NetcodeServerTransport.disconnect_all (aeadOf a) ε (trR inbox out o g.netcode buf) gr) :=
  tr_disconnect_all_on a hl hsim.on hinv (handleInv_true _) g gr hi hr inbox out o buf ho trivial
theorem tr_disconnect_all_model (a : AEAD) (g : ServerGlue) :
    serverDisconnectAll a g = serverIdLoop (fun ns id => ns.disconnect a id) g g.netcode.clientsId #[] := rfl

/-- `update`: `NetcodeServer::update`; every queued datagram (cut to the buffer) through `process_packet` and
    `handle_server_result`, in arrival order, until the socket would block; `update_client` for every connected client
    (slot order); `disconnect` for every disconnected renet connection (key order).  Always `Ok(())` without socket errors;
    the socket's queue is empty afterwards. -/
theorem tr_update (a : AEAD) (hl : a.Laws) {R : Server → SRenetServer → Prop} (hsim : RnSim R)
    {I : Netcode.NetcodeServer → Prop} (hinv : NcInv a I) (g : ServerGlue) (gr : SRenetServer) (hi : I g.netcode)
    (hr : R g.renet gr) (duration : Nat) (inbox : List Dgram) (hin : inbox.length + 1 < 2 ^ 64) (out : Array Dgram)
    (o buf : List Nat) (ho : o.length = C.NETCODE_MAX_PACKET_BYTES) (hb : buf.length = C.TRANSPORT_SERVER_BUFFER) :
    TrOut R I [] C.TRANSPORT_SERVER_BUFFER
      (serverUpdateFrom a g duration (inbox.map (recvFrom C.TRANSPORT_SERVER_BUFFER)) out)
      (@NetcodeServerTransport.update (aeadOf a) (trR inbox out o g.netcode buf) duration gr) :=
  tr_update_on a hl hsim.on hinv (handleInv_true _) (handleInv_true _) (handleInv_true _) g gr hi hr duration inbox hin out o buf
    ho hb (fun _ _ => ⟨trivial, fun _ _ _ => ⟨trivial, fun _ _ _ => trivial⟩⟩)
theorem tr_update_model (a : AEAD) (g : ServerGlue) (duration : Nat) (inbox : List Dgram) :
    serverUpdate a g duration inbox = serverUpdateFrom a g duration inbox #[] := rfl

/-- `send_packets`: for every connected renet client (key order) `get_packets_to_send(..).unwrap()` (panics for an unknown
    id), each packet through `generate_payload_packet` and `send_to`; the first error abandons the rest of that client -/
theorem tr_send_packets {ε : Type} (a : AEAD) (hl : a.Laws) {R : Server → SRenetServer → Prop} (hsim : RnSim R)
    {I : Netcode.NetcodeServer → Prop} (hinv : NcInv a I) (g : ServerGlue) (gr : SRenetServer) (hi : I g.netcode)
    (hr : R g.renet gr) (inbox : List Dgram) (out : Array Dgram) (o buf : List Nat) (ho : o.length = C.NETCODE_MAX_PACKET_BYTES) :
    TrOut (ε := ε) R I inbox buf.length (serverSendLoop a g g.renet.clientsId out)
      (@NetcodeServerTransport.send_packets (aeadOf a) ε (trR inbox out o g.netcode buf) gr) :=
  tr_send_packets_on (Q := fun _ _ _ => True) a hl hsim.on hinv ⟨fun _ => trivial, fun _ _ _ => trivial⟩ g gr hi hr inbox out o
    buf ho trivial
theorem tr_send_packets_model (a : AEAD) (g : ServerGlue) :
    serverSendPackets a g = serverSendLoop a g g.renet.clientsId #[] := rfl

/-- socket errors in `update`'s receive loop (about the GENERATED loop body; the glue model has no socket errors):
    `WouldBlock` / `Interrupted` → `break`, `ConnectionReset` → `continue`, anything else → `Err(IO(e))` -/
theorem tr_recv_error [RustSem.Aead] (e : RustSem.IoError) (evs : List RustSem.RecvEvent)
    (log : List (RustSem.SocketAddr × List Nat)) (ns : SNetcodeServer) (buf : List Nat) (gr : SRenetServer) :
    recvBody ((⟨⟨.error e :: evs, log⟩, ns, buf⟩ : SServerTransport), gr) =
      match e with
      | .wouldBlock => .ret (.brk (⟨⟨evs, log⟩, ns, buf⟩, gr))
      | .interrupted => .ret (.brk (⟨⟨evs, log⟩, ns, buf⟩, gr))
      | .connectionReset => .ret (.cont (⟨⟨evs, log⟩, ns, buf⟩, gr))
      | .opaque => .err (.IO .opaque, (⟨⟨evs, log⟩, ns, buf⟩, gr)) := by
  cases e <;> rfl
/-- `recvBody` is the loop body of the generated `update` -/
theorem tr_update_loop_body [RustSem.Aead] (self : SServerTransport) (duration : Nat) (server : SRenetServer) :
    NetcodeServerTransport.update self duration server = Exec.run
      ((Exec.call (Src.renetcode.server.NetcodeServer.update self.netcode_server duration)).bind fun t1 =>
        (Exec.call (RustSem.UdpSocket.pending ({ self with netcode_server := t1.1 } : SServerTransport).socket)).bind fun t2 =>
        (RustSem.add 64 t2 1 "renet_netcode/src/server.rs:NetcodeServerTransport::update: self.socket.pending() + 1").bind fun t3 =>
        (RustSem.whileFuel t3 "renet_netcode/src/server.rs:NetcodeServerTransport::update: fuel exhausted"
          (({ self with netcode_server := t1.1 } : SServerTransport), server) recvBody).bind fun x =>
        (Exec.call (Src.renetcode.server.NetcodeServer.clients_id x.1.netcode_server)).bind fun t11 =>
        (RustSem.forEach t11 x (idBody (fun s id => Src.renetcode.server.NetcodeServer.update_client s id))).bind fun y =>
        (Exec.call (Src.renet.server.RenetServer.disconnections_id y.2)).bind fun t14 =>
        (RustSem.forEach t14 y (idBody (fun s id => Src.renetcode.server.NetcodeServer.disconnect s id))).bind fun z =>
        Exec.val (z.1, z.2, ())) := update_unfold self duration server

/-- `new`: `set_nonblocking(true)?`, `NetcodeServer::new` (panics above `NETCODE_MAX_CLIENTS`), zeroed receive buffer -/
theorem tr_new (ct mc pid : Nat) (addrs : List Addr) (secure : Bool) (pk ck : Bytes) (inbox : List Dgram) (out : Array Dgram) :
    match Netcode.NetcodeServer.new ct mc pid addrs secure pk ck with
    | .ok s => NetcodeServerTransport.new ⟨ct, mc, pid, addrs.map reprAddr, reprAuth secure pk⟩ (sockR inbox out) (toNats ck)
        = .ok (trR inbox out (List.replicate C.NETCODE_MAX_PACKET_BYTES 0) s (List.replicate C.TRANSPORT_SERVER_BUFFER 0))
    | .err e => nomatch e
    | .panic _ => ∃ msg, NetcodeServerTransport.new ⟨ct, mc, pid, addrs.map reprAddr, reprAuth secure pk⟩ (sockR inbox out) (toNats ck)
        = .panic msg := by
  have h := SrcTie.nc_server_new (ε := RustSem.IoError) ct mc pid addrs secure pk ck
  unfold NetcodeServerTransport.new
  simp only [Exec.bind_eq, Exec.pure_eq, RustSem.UdpSocket.set_nonblocking, Exec.callFrom_ok, Exec.bind_val']
  cases hm : Netcode.NetcodeServer.new ct mc pid addrs secure pk ck with
  | err e => exact nomatch e
  | panic m =>
    rw [hm] at h
    obtain ⟨msg, hg⟩ := h.panics
    rw [hg, Exec.call_panic, Exec.bind_panic']
    exact ⟨_, rfl⟩
  | ok s =>
    rw [hm] at h
    rw [h.eq_ok, Exec.call_ok, Exec.bind_val']
    rfl

theorem tr_addresses {ε : Type} (inbox : List Dgram) (out : Array Dgram) (o : List Nat) (s : Netcode.NetcodeServer) (buf : List Nat) :
    (NetcodeServerTransport.addresses (trR inbox out o s buf) : Res ε _) = .ok (s.addresses.map reprAddr) := rfl
theorem tr_max_clients {ε : Type} (inbox : List Dgram) (out : Array Dgram) (o : List Nat) (s : Netcode.NetcodeServer) (buf : List Nat) :
    (NetcodeServerTransport.max_clients (trR inbox out o s buf) : Res ε _) = .ok s.maxClients := rfl
theorem tr_set_max_clients {ε : Type} (inbox : List Dgram) (out : Array Dgram) (o : List Nat) (s : Netcode.NetcodeServer)
    (buf : List Nat) (n : Nat) :
    (NetcodeServerTransport.set_max_clients (trR inbox out o s buf) n : Res ε _) = .ok (trR inbox out o (s.setMaxClients n) buf, ()) := by
  unfold NetcodeServerTransport.set_max_clients
  simp only [trR, Exec.bind_eq, Exec.pure_eq, SrcTie.nc_server_set_max_clients, Exec.call_ok, Exec.bind_val', Exec.run_val]
theorem tr_connected_clients {ε : Type} (inbox : List Dgram) (out : Array Dgram) (o : List Nat) (s : Netcode.NetcodeServer)
    (buf : List Nat) :
    (NetcodeServerTransport.connected_clients (trR inbox out o s buf) : Res ε _) = .ok s.connectedClients := by
  unfold NetcodeServerTransport.connected_clients
  simp only [trR, SrcTie.nc_server_connected_clients, Exec.call_ok, Exec.run_val]
theorem tr_user_data {ε : Type} (inbox : List Dgram) (out : Array Dgram) (o : List Nat) (s : Netcode.NetcodeServer) (buf : List Nat)
    (id : Nat) :
    (NetcodeServerTransport.user_data (trR inbox out o s buf) id : Res ε _) = .ok ((s.userData id).map toNats) := by
  unfold NetcodeServerTransport.user_data
  simp only [trR, SrcTie.nc_server_user_data, Exec.call_ok, Exec.run_val]
theorem tr_client_addr {ε : Type} (inbox : List Dgram) (out : Array Dgram) (o : List Nat) (s : Netcode.NetcodeServer) (buf : List Nat)
    (id : Nat) :
    (NetcodeServerTransport.client_addr (trR inbox out o s buf) id : Res ε _) = .ok ((s.clientAddr id).map reprAddr) := by
  unfold NetcodeServerTransport.client_addr
  simp only [trR, SrcTie.nc_server_client_addr, Exec.call_ok, Exec.run_val]
theorem tr_time_since_last_received_packet {ε : Type} (inbox : List Dgram) (out : Array Dgram) (o : List Nat)
    (s : Netcode.NetcodeServer) (buf : List Nat) (id : Nat) :
    SameOutcome (NetcodeServerTransport.time_since_last_received_packet (trR inbox out o s buf) id : Res ε _)
      (mapRes (fun x => x) (fun e => nomatch e) (s.timeSinceLastReceivedPacket id)) := by
  have h := SrcTie.nc_server_time_since_last_received_packet (ε := ε) o s id
  unfold NetcodeServerTransport.time_since_last_received_packet
  simp only [trR]
  cases hm : s.timeSinceLastReceivedPacket id with
  | err e => exact nomatch e
  | panic m =>
    rw [hm] at h
    obtain ⟨msg, hg⟩ := h.panics
    rw [hg]; simp [SameOutcome, mapRes, Exec.call, Exec.run]
  | ok v =>
    rw [hm] at h
    rw [h.eq_ok]; simp [SameOutcome, mapRes, Exec.call, Exec.run]

theorem rn_sim_of_inv (Inv : Server → Prop) (hsort : ∀ s, Inv s → MSorted s.conns) (hcfg : ∀ s, Inv s → CfgOk s)
    (hproc : ∀ s, Inv s → ∀ bytes id c, SMap.find? s.conns id = some c → ProcOk c bytes)
    (hsend : ∀ s, Inv s → ∀ id c, SMap.find? s.conns id = some c → SendOk c)
    (hppf : ∀ s, Inv s → ∀ bytes id s' b, s.processPacketFrom bytes id = .ok (s', b) → Inv s')
    (hadd : ∀ s, Inv s → ∀ id, Inv (s.addConnection id)) (hrem : ∀ s, Inv s → ∀ id, Inv (s.removeConnection id))
    (hgp : ∀ s, Inv s → ∀ id s' ps, s.getPacketsToSend id = .ok (s', ps) → Inv s') :
    RnSim (fun s g => Inv s ∧ ∃ mrss, g = reprServer mrss s) :=
  (rnSimOn_of_inv Inv _ hsort hcfg (fun s h bytes id c _ => hproc s h bytes id c) (fun s h id c _ => hsend s h id c) hppf hadd
    hrem hgp).closed

/-! ### the model socket on concrete values -/

/-- a 5-byte datagram into a 3-byte buffer: cut to 3 bytes; the event is consumed -/
example : RustSem.UdpSocket.recv_from ⟨[.dgram (.v4 [10, 0, 0, 1] 7) [1, 2, 3, 4, 5]], []⟩ [0, 0, 0] =
    .ok (⟨[], []⟩, [1, 2, 3], (3, .v4 [10, 0, 0, 1] 7)) := by decide +kernel
/-- a 2-byte datagram into a 4-byte buffer: the rest of the buffer keeps its contents -/
example : RustSem.UdpSocket.recv_from ⟨[.dgram (.v4 [10, 0, 0, 1] 7) [1, 2]], []⟩ [9, 9, 9, 9] =
    .ok (⟨[], []⟩, [1, 2, 9, 9], (2, .v4 [10, 0, 0, 1] 7)) := by decide +kernel
example : RustSem.UdpSocket.recv_from ⟨[], []⟩ [0, 0] = .err (.wouldBlock, (⟨[], []⟩, [0, 0])) := by decide +kernel
example : RustSem.UdpSocket.send_to ⟨[], [(.v4 [1, 1, 1, 1] 1, [5])]⟩ [6, 7] (.v4 [10, 0, 0, 1] 7) =
    .ok (⟨[], [(.v4 [1, 1, 1, 1] 1, [5]), (.v4 [10, 0, 0, 1] 7, [6, 7])]⟩, 2) := by decide +kernel

end RenetVerif.SrcTie
