/-
  More history-level netcode SERVER theorems on the GENERATED code (continuation of `Props/SrcPropsNcHistory.lean`; same
  conventions: a generated run `GReach a g` in the hypothesis, conclusions about the generated state / outputs).

    * C10 `no_second_connected`, `log_replays` over the event log of a generated run;
    * C04, server half, after any generated run: `server_replay_rejected`, `server_payload_only_if_opened` (per call; the
      whole-run at-most-once statement: Props/C04H.lean `payload_once_per_session`, for generated runs
      Props/SrcPropsNcPayloadOnce.lean `src_payload_once_per_session`).
-/
import RenetVerif.Props.SrcPropsNcHistory
import RenetVerif.Props.C04
namespace RenetVerif.SrcPropsNcHistory
open RenetVerif RenetVerif.SrcEquiv RenetVerif.RustSem RenetVerif.Netcode RenetVerif.Netcode.NS RenetVerif.SrcNcSystem
open Src.renetcode.server
open RenetVerif.SrcCorNc (slot_of_repr slot_to_repr reprNSR_payload)

theorem reprEvent_connected {e : Event} {id : Nat} {ad : RustSem.SocketAddr} {ud : List Nat}
    (h : reprEvent e = .connected id ad ud) : ∃ ad0 ud0, e = .connected id ad0 ud0 ∧ ad = reprAddr ad0 ∧ ud = toNats ud0 := by
  cases e <;> simp only [reprEvent, GEvent.connected.injEq, reduceCtorEq] at h
  obtain ⟨rfl, rfl, rfl⟩ := h
  exact ⟨_, _, rfl, rfl, rfl⟩

/-- **C10 `no_second_connected` over a generated run**: in the event log of a generated run there is no second
    `ClientConnected id ..` before the `ClientDisconnected id addr` that ends the first (an id is never connected twice).
    (Transports `C10.no_second_connected`.) -/
theorem no_second_connected {a : AEAD} (hl : a.Laws) {g : GNc} (h : GReach a g) {pre mid post : List GEvent} {id : Nat}
    {ad ad' : RustSem.SocketAddr} {ud ud' : List Nat}
    (he : g.events = pre ++ .connected id ad ud :: (mid ++ .connected id ad' ud' :: post)) :
    GEvent.disconnected id ad ∈ mid := by
  obtain ⟨m, hg, hsim⟩ := greach_model hl h
  rw [events_sim hsim] at he
  obtain ⟨pre', e, mid', e', post', hsplit, -, hee, rfl, hee', -⟩ := map_eq_split2 he
  obtain ⟨ad1, ud1, rfl, rfl, rfl⟩ := reprEvent_connected hee
  obtain ⟨ad2, ud2, rfl, rfl, rfl⟩ := reprEvent_connected hee'
  have hr := hg.reach
  rw [hsplit] at hr
  exact List.mem_map.mpr ⟨_, C10.no_second_connected hr, rfl⟩

/-- a connected session as the application knows it, over the generated types -/
abbrev GSess := Nat × RustSem.SocketAddr × List Nat

/-- replaying a generated event log against the set of live sessions (mirror of `NS.replay`): `connected id addr ud` is
    admissible only when neither `id` nor `addr` is live; `disconnected id addr` only when a live session has that id and
    address, and ends it; `none` = the log breaks the discipline -/
def gReplay : List GEvent → List GSess → Option (List GSess)
  | [], L => some L
  | .connected id ad ud :: rest, L =>
    if L.any (fun x => x.1 = id ∨ x.2.1 = ad) then none else gReplay rest (L ++ [(id, ad, ud)])
  | .disconnected id ad :: rest, L =>
    if L.any (fun x => x.1 = id ∧ x.2.1 = ad) then gReplay rest (L.filter fun x => ¬ (x.1 = id ∧ x.2.1 = ad)) else none

def reprSess (x : Sess) : GSess := (x.1, reprAddr x.2.1, toNats x.2.2)

theorem gReplay_repr : ∀ (l : List Event) (L : List Sess),
    gReplay (l.map reprEvent) (L.map reprSess) = (replay l L).map (List.map reprSess)
  | [], L => rfl
  | .connected id ad ud :: rest, L => by
    simp only [List.map_cons, reprEvent, gReplay, replay, List.any_map]
    have e : (L.any ((fun x : GSess => decide (x.1 = id ∨ x.2.1 = reprAddr ad)) ∘ reprSess)) =
        L.any (fun x => decide (x.1 = id ∨ x.2.1 = ad)) := by
      congr 1; funext x; simp only [Function.comp, reprSess, reprAddr_eq_iff]
    rw [e]
    split
    · rfl
    · have := gReplay_repr rest (L ++ [(id, ad, ud)])
      simpa [reprSess] using this
  | .disconnected id ad :: rest, L => by
    simp only [List.map_cons, reprEvent, gReplay, replay, List.any_map]
    have e : (L.any ((fun x : GSess => decide (x.1 = id ∧ x.2.1 = reprAddr ad)) ∘ reprSess)) =
        L.any (fun x => decide (x.1 = id ∧ x.2.1 = ad)) := by
      congr 1; funext x; simp only [Function.comp, reprSess, reprAddr_eq_iff]
    rw [e]
    split
    · have := gReplay_repr rest (L.filter fun x => ¬ (x.1 = id ∧ x.2.1 = ad))
      rw [← this]
      congr 1
      rw [List.filter_map]
      congr 1
      apply List.filter_congr
      intro x _
      simp only [Function.comp, reprSess, reprAddr_eq_iff]
    · rfl

/-- **C10 `log_replays` over a generated run**: the event log of a generated run replays against the live-session set
    (`gReplay`), the sessions it leaves live have pairwise distinct ids and pairwise distinct addresses, and they are exactly
    the occupied slots of the generated struct (id, address, user data).  (Transports `C10.log_replays`.) -/
theorem log_replays {a : AEAD} (hl : a.Laws) {g : GNc} (h : GReach a g) :
    ∃ L, gReplay g.events [] = some L ∧ (L.map (·.1)).Nodup ∧ (L.map (·.2.1)).Nodup ∧
      ∀ id ad ud, (id, ad, ud) ∈ L ↔
        ∃ (i : Nat) (c : SConnection), g.srv.clients[i]? = some (some c) ∧ c.client_id = id ∧ c.addr = ad ∧ c.user_data = ud := by
  obtain ⟨m, hg, hsim⟩ := greach_model hl h
  obtain ⟨o, ho', hs⟩ := hsim.srv
  obtain ⟨L, hL, hd, hag⟩ := C10.log_replays hg.reach
  have hrep := gReplay_repr m.events []
  rw [hL] at hrep
  refine ⟨L.map reprSess, by rw [events_sim hsim]; exact hrep, ?_, ?_, fun id ad ud => ?_⟩
  · rw [List.map_map]
    exact hd.1
  · rw [List.map_map]
    have : ((fun x : GSess => x.2.1) ∘ reprSess) = reprAddr ∘ (fun x : Sess => x.2.1) := rfl
    rw [this, ← List.map_map]
    exact hd.2.map reprAddr (fun x y hxy h => hxy (reprAddr_inj h))
  · constructor
    · intro hm
      obtain ⟨x, hx, he⟩ := List.mem_map.mp hm
      obtain ⟨id0, ad0, ud0⟩ := x
      simp only [reprSess, Prod.mk.injEq] at he
      obtain ⟨rfl, rfl, rfl⟩ := he
      obtain ⟨i, c, hc, h1, h2, h3⟩ := (hag id0 ad0 ud0).mp hx
      exact ⟨i, reprNConn c, slot_to_repr hsim.repr hc, h1, by show reprAddr c.addr = _; rw [h2], by show toNats c.userData = _; rw [h3]⟩
    · rintro ⟨i, gc, hc, h1, h2, h3⟩
      obtain ⟨c, hat, rfl⟩ := slot_of_repr hsim.repr hc
      have := (hag c.clientId c.addr c.userData).mpr ⟨i, c, hat, rfl, rfl, rfl⟩
      rw [← h1, ← h2, ← h3]
      exact List.mem_map.mpr ⟨_, this, rfl⟩

/-- **C04 `server_payload_only_if_opened` after any generated run**: `g` is reached by a generated run (counters with room).
    If the generated `process_packet` surfaces `Payload cid p` for a datagram from `addr`, then — on the model state `s` that
    `g.srv` represents — `addr` is the address of a connected client `c` in some slot, `cid` is its id, the datagram opened
    under `c`'s receive key to exactly `p`, and `c`'s replay window had not seen the datagram's sequence number.
    (Transports `C04.server_payload_only_if_opened`.) -/
theorem server_payload_only_if_opened {a : AEAD} (hl : a.Laws) {g : GNc} (h : GReach a g)
    (hgs : g.srv.global_sequence < 2 ^ 64 - 1) (hcs : g.srv.challenge_sequence < 2 ^ 64 - 1) {addr : Addr} {buf : Bytes}
    (hb : buf.length + 16 < 2 ^ 64) {srv' : SNetcodeServer} {buf' : List Nat} {cid : Nat} {p : List Nat}
    (hp : @NetcodeServer.process_packet (aeadOf a) Empty g.srv (reprAddr addr) (toNats buf) = .ok (srv', buf', .Payload cid p)) :
    ∃ s, (∃ out, out.length = Netcode.C.NETCODE_MAX_PACKET_BYTES ∧ g.srv = reprNS out s) ∧
    ∃ slot c p0, p = toNats p0 ∧ findClientByAddr s.clients addr = some (slot, c) ∧ c.state = .connected ∧ cid = c.clientId ∧
      g.srv.clients[slot]? = some (some (reprNConn c)) ∧
      Netcode.Packet.SealedOpen a buf s.protocolId c.receiveKey .payload p0 ∧
      c.replayProtection.alreadyReceived (Netcode.Packet.wireSeq buf) = false := by
  obtain ⟨m, hg, hsim, o, ho', hs, r, s', hm, hR⟩ := greach_pp hl h hb hp
  obtain ⟨p0, rfl, rfl⟩ := reprNSR_payload hR.symm
  rw [hs] at hgs hcs
  obtain ⟨slot, c, hf, hst, hcid, hso, hfresh, -⟩ :=
    C04.server_payload_only_if_opened a (sinv_of hg.reach.inv hgs hcs) hm
  refine ⟨m.srv, ⟨o, ho', hs⟩, slot, c, _, rfl, hf, hst, hcid, ?_, hso, hfresh⟩
  exact slot_to_repr hsim.repr (SrcTie.nc_find_client_by_addr_slot hf)

/-- **C04 `server_replay_rejected` after any generated run**: once the window of the session connected from `addr` (read on
    the model state `s` that `g.srv` represents) reports the sequence number of `buf` as received, the generated
    `process_packet` surfaces NO payload for `buf` — the accepted datagram, any copy, any modification that keeps the
    sequence bytes.  (Transports `C04.server_replay_rejected`.) -/
theorem server_replay_rejected {a : AEAD} (hl : a.Laws) {g : GNc} (h : GReach a g)
    (hgs : g.srv.global_sequence < 2 ^ 64 - 1) (hcs : g.srv.challenge_sequence < 2 ^ 64 - 1) {addr : Addr} {buf : Bytes}
    (hb : buf.length + 16 < 2 ^ 64)
    (hdup : ∀ s out, g.srv = reprNS out s → ∃ slot c, findClientByAddr s.clients addr = some (slot, c) ∧
      c.replayProtection.alreadyReceived (Netcode.Packet.wireSeq buf) = true)
    {srv' : SNetcodeServer} {buf' : List Nat} {cid : Nat} {p : List Nat} :
    @NetcodeServer.process_packet (aeadOf a) Empty g.srv (reprAddr addr) (toNats buf) ≠ .ok (srv', buf', .Payload cid p) := by
  intro hp
  obtain ⟨m, hg, hsim, o, ho', hs, r, s', hm, hR⟩ := greach_pp hl h hb hp
  obtain ⟨p0, rfl, rfl⟩ := reprNSR_payload hR.symm
  obtain ⟨slot, c, hf, hd⟩ := hdup m.srv o hs
  rw [hs] at hgs hcs
  exact C04.server_replay_rejected a (sinv_of hg.reach.inv hgs hcs) hf hd _ _ _ hm

end RenetVerif.SrcPropsNcHistory
