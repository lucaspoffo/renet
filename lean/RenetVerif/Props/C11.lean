/-
  C11 — A message sent to one client is obtained only by that client, a broadcast is obtained exactly
  once by every currently connected client (minus the excluded one for broadcast_except), and a message
  a client sent is obtained only under that client's id.  Misbehaviour, disconnection or a stalled
  ordered stream of one client or channel never delays, drops or corrupts traffic of other clients or
  other channels.

  This file: the frame / isolation half (which state each operation can touch and read).  The
  per-connection delivery guarantees (what a channel does with a message) are separate properties.

  Model: Renet/Conn.lean (`RenetClient`), Renet/Server.lean (`RenetServer`).
  Vocabulary (Lemmas/ServerLemmas.lean, namespace `RenetVerif.SL`):
    `Server.viewAt j r` / `Server.slotAt j r` – of a result `r`, client `j`'s connection afterwards (plus the output)
    `Res.outOf r`                              – of a result `r`, the output only
    `Conn.SendFrame ch`, `Conn.RecvFrame ch`   – all send / receive channels other than `ch` are unchanged
    `Conn.SameSendSide`, `Conn.SameRecvSide`, `Conn.SameFixed` – groups of unchanged fields
-/
import RenetVerif.Lemmas.ServerLemmas
namespace RenetVerif.C11
open RenetVerif RenetVerif.SL

/-! ### Per-client frames of the server -/

/-- `send_message(i, ch, m)`: applies `Conn.sendMessage ch m` to client `i`'s connection (nothing if `i`
    is unknown); every other client, the event queue and the configuration are untouched. -/
theorem send_only_to_addressee (s s' : Server) (i ch : Nat) (m : Bytes) (h : s.sendMessage i ch m = .ok s') :
    (∀ j, j ≠ i → SMap.find? s'.conns j = SMap.find? s.conns j) ∧ s'.events = s.events ∧
    ((SMap.find? s.conns i = none ∧ s' = s) ∨
     (∃ c c', SMap.find? s.conns i = some c ∧ c.sendMessage ch m = .ok c' ∧ SMap.find? s'.conns i = some c')) :=
  let ⟨a, _, hi⟩ := Server.sendMessage_spec h
  ⟨a.others, a.events, hi⟩

/-- `receive_message(i, ch)`: the message returned is the one `Conn.receiveMessage ch` yields on client
    `i`'s own connection (none if `i` is unknown); every other client is untouched. -/
theorem receive_only_from_addressee (s s' : Server) (i ch : Nat) (out : Option Bytes)
    (h : s.receiveMessage i ch = .ok (s', out)) :
    (∀ j, j ≠ i → SMap.find? s'.conns j = SMap.find? s.conns j) ∧ s'.events = s.events ∧
    ((SMap.find? s.conns i = none ∧ s' = s ∧ out = none) ∨
     (∃ c c', SMap.find? s.conns i = some c ∧ c.receiveMessage ch = .ok (c', out) ∧
        SMap.find? s'.conns i = some c')) :=
  let ⟨a, _, hi⟩ := Server.receiveMessage_spec h
  ⟨a.others, a.events, hi⟩

/-- `get_packets_to_send(i)`: the packets are those of client `i`'s own connection. -/
theorem packets_only_from_addressee (s s' : Server) (i : Nat) (out : Option (List Bytes))
    (h : s.getPacketsToSend i = .ok (s', out)) :
    (∀ j, j ≠ i → SMap.find? s'.conns j = SMap.find? s.conns j) ∧ s'.events = s.events ∧
    ((SMap.find? s.conns i = none ∧ s' = s ∧ out = none) ∨
     (∃ c c' ps, SMap.find? s.conns i = some c ∧ c.getPacketsToSend = .ok (c', ps) ∧ out = some ps ∧
        SMap.find? s'.conns i = some c')) :=
  let ⟨a, _, hi⟩ := Server.getPacketsToSend_spec h
  ⟨a.others, a.events, hi⟩

/-- `process_packet_from(bytes, i)`: whatever the bytes are, they are processed by client `i`'s own
    connection and touch no other client ("a message a client sent is obtained only under that id"). -/
theorem packet_only_to_sender_slot (s s' : Server) (bytes : Bytes) (i : Nat) (out : Bool)
    (h : s.processPacketFrom bytes i = .ok (s', out)) :
    (∀ j, j ≠ i → SMap.find? s'.conns j = SMap.find? s.conns j) ∧ s'.events = s.events ∧
    ((SMap.find? s.conns i = none ∧ s' = s ∧ out = false) ∨
     (∃ c c', SMap.find? s.conns i = some c ∧ c.processPacket bytes = .ok c' ∧ out = true ∧
        SMap.find? s'.conns i = some c')) :=
  let ⟨a, _, hi⟩ := Server.processPacketFrom_spec h
  ⟨a.others, a.events, hi⟩

/-- `disconnect(i)`: only client `i`'s connection changes. -/
theorem disconnect_only_addressee (s : Server) (i : Nat) :
    (∀ j, j ≠ i → SMap.find? (s.disconnect i).conns j = SMap.find? s.conns j) ∧
    (s.disconnect i).events = s.events ∧
    SMap.find? (s.disconnect i).conns i = (SMap.find? s.conns i).map (·.disconnectWith .byServer) :=
  let ⟨a, _, hi⟩ := Server.disconnect_spec s i
  ⟨a.others, a.events, hi⟩

/-- The output of a client-addressed operation and that client's next connection state are functions
    of that client's current connection alone: two servers that agree on client `j` (and differ
    arbitrarily elsewhere) behave identically towards `j`. -/
theorem addressed_ops_local (s1 s2 : Server) (j : Nat) (h : SMap.find? s1.conns j = SMap.find? s2.conns j) :
    (∀ ch, Server.viewAt j (s1.receiveMessage j ch) = Server.viewAt j (s2.receiveMessage j ch)) ∧
    Server.viewAt j (s1.getPacketsToSend j) = Server.viewAt j (s2.getPacketsToSend j) ∧
    (∀ bytes, Server.viewAt j (s1.processPacketFrom bytes j) = Server.viewAt j (s2.processPacketFrom bytes j)) ∧
    (∀ ch m, Server.slotAt j (s1.sendMessage j ch m) = Server.slotAt j (s2.sendMessage j ch m)) := by
  refine ⟨fun ch => ?_, ?_, fun bytes => ?_, fun ch m => ?_⟩
  · unfold Server.receiveMessage
    rw [h]
    cases hf : SMap.find? s2.conns j with
    | none => simp [Server.viewAt, h, hf]
    | some c =>
      dsimp only
      cases c.receiveMessage ch <;> simp [Server.viewAt, SMap.find?_insert_self]
  · unfold Server.getPacketsToSend
    rw [h]
    cases hf : SMap.find? s2.conns j with
    | none => simp [Server.viewAt, h, hf]
    | some c =>
      dsimp only
      cases c.getPacketsToSend <;> simp [Server.viewAt, SMap.find?_insert_self]
  · unfold Server.processPacketFrom
    rw [h]
    cases hf : SMap.find? s2.conns j with
    | none => simp [Server.viewAt, h, hf]
    | some c =>
      dsimp only
      cases c.processPacket bytes <;> simp [Server.viewAt, SMap.find?_insert_self]
  · unfold Server.sendMessage
    rw [h]
    cases hf : SMap.find? s2.conns j with
    | none => simp [Server.slotAt, h, hf]
    | some c =>
      dsimp only
      cases c.sendMessage ch m <;> simp [Server.slotAt, SMap.find?_insert_self]

theorem receive_output (s : Server) (i ch : Nat) :
    Res.outOf (s.receiveMessage i ch) =
      match SMap.find? s.conns i with
      | none => .ok none
      | some c => Res.outOf (c.receiveMessage ch) := by
  unfold Server.receiveMessage
  cases SMap.find? s.conns i with
  | none => rfl
  | some c =>
    dsimp only
    cases c.receiveMessage ch <;> rfl

/-- Isolation of clients over whole runs: whatever sequence of client-addressed operations is executed
    for clients other than `j` (garbage or hostile packets from them, their disconnection, removal,
    re-adding, their local-client processing, sends and receives), client `j`'s connection is
    bit-identical afterwards – hence by `addressed_ops_local` everything `j` subsequently sends,
    receives and emits is what it would have been without them. -/
theorem other_clients_cannot_interfere (ops : List SrvOp) (st st' : SrvState) (j : Nat)
    (h : runSrv st ops = .ok st') (hall : ∀ op ∈ ops, ∃ i, op.target = some i ∧ i ≠ j) :
    SMap.find? st'.1.conns j = SMap.find? st.1.conns j :=
  runSrv_pres (P := fun s => SMap.find? s.1.conns j = SMap.find? st.1.conns j) ops st st'
    (fun op ho _ _ hp e => by
      obtain ⟨i, ht, hne⟩ := hall op ho
      rw [(SrvOp.apply_spec e).frame i ht j (Ne.symm hne), hp])
    rfl h

/-- `broadcast_message(ch, m)`: exactly `Conn.sendMessage ch m` on every connection in the table, once
    each; no client appears or disappears; no event. -/
theorem broadcast_reaches_everyone (s s' : Server) (ch : Nat) (m : Bytes) (h : s.broadcast ch m = .ok s') :
    s'.events = s.events ∧
    ∀ j, (SMap.find? s.conns j = none → SMap.find? s'.conns j = none) ∧
         (∀ c, SMap.find? s.conns j = some c →
            ∃ c', c.sendMessage ch m = .ok c' ∧ SMap.find? s'.conns j = some c') :=
  let ⟨e, _, hj⟩ := Server.broadcast_spec h
  ⟨e, hj⟩

/-- `broadcast_message_except(ex, ch, m)`: the same for every `j ≠ ex`, and the identity on `ex`. -/
theorem broadcastExcept_skips_one (s s' : Server) (ex ch : Nat) (m : Bytes)
    (h : s.broadcastExcept ex ch m = .ok s') :
    s'.events = s.events ∧ SMap.find? s'.conns ex = SMap.find? s.conns ex ∧
    ∀ j, j ≠ ex → (SMap.find? s.conns j = none → SMap.find? s'.conns j = none) ∧
         (∀ c, SMap.find? s.conns j = some c →
            ∃ c', c.sendMessage ch m = .ok c' ∧ SMap.find? s'.conns j = some c') :=
  let ⟨e, _, hex, hj⟩ := Server.broadcastExcept_spec h
  ⟨e, hex, hj⟩

/-- `update(dt)` and `disconnect_all` act on each connection separately. -/
theorem update_pointwise (s s' : Server) (dt : Nat) (h : s.update dt = .ok s') :
    s'.events = s.events ∧
    ∀ j, (SMap.find? s.conns j = none → SMap.find? s'.conns j = none) ∧
         (∀ c, SMap.find? s.conns j = some c → ∃ c', c.update dt = .ok c' ∧ SMap.find? s'.conns j = some c') :=
  let ⟨e, _, hj⟩ := Server.update_spec h
  ⟨e, hj⟩

theorem disconnectAll_pointwise (s : Server) (j : Nat) :
    SMap.find? s.disconnectAll.conns j = (SMap.find? s.conns j).map (·.disconnectWith .byServer) :=
  Server.disconnectAll_find s j

/-! ### Per-channel frames of a connection -/

/-- `send_message(ch, m)` changes send channel `ch` (and the status, if that channel overflows) and
    nothing else: every other send channel, every receive channel, the sent-packet table, the pending
    acks, the sequence counter. -/
theorem send_touches_one_channel (c c' : Conn) (ch : Nat) (m : Bytes) (h : c.sendMessage ch m = .ok c') :
    (∀ ch', ch' ≠ ch → SMap.find? c'.sendRel ch' = SMap.find? c.sendRel ch' ∧
                       SMap.find? c'.sendUnrel ch' = SMap.find? c.sendUnrel ch') ∧
    c'.recvRel = c.recvRel ∧ c'.recvUnrel = c.recvUnrel ∧ c'.sent = c.sent ∧
    c'.pendingAcks = c.pendingAcks ∧ c'.packetSeq = c.packetSeq ∧
    c'.now = c.now ∧ c'.order = c.order ∧ c'.budget = c.budget := Conn.sendMessage_frame h

/-- `receive_message(ch)` changes receive channel `ch` and nothing else (not even the status). -/
theorem receive_touches_one_channel (c c' : Conn) (ch : Nat) (out : Option Bytes)
    (h : c.receiveMessage ch = .ok (c', out)) :
    (∀ ch', ch' ≠ ch → SMap.find? c'.recvRel ch' = SMap.find? c.recvRel ch' ∧
                       SMap.find? c'.recvUnrel ch' = SMap.find? c.recvUnrel ch') ∧
    (c'.sendRel = c.sendRel ∧ c'.sendUnrel = c.sendUnrel ∧ c'.sent = c.sent ∧ c'.packetSeq = c.packetSeq) ∧
    c'.pendingAcks = c.pendingAcks ∧ c'.status = c.status ∧
    (c'.now = c.now ∧ c'.order = c.order ∧ c'.budget = c.budget) := Conn.receiveMessage_frame h

/-- … and reads nothing else: what it returns is determined by the disconnected flag and receive
    channel `ch`. -/
theorem receive_reads_one_channel (c1 c2 : Conn) (ch : Nat) (hs : c1.isDisconnected = c2.isDisconnected)
    (h1 : SMap.find? c1.recvRel ch = SMap.find? c2.recvRel ch)
    (h2 : SMap.find? c1.recvUnrel ch = SMap.find? c2.recvUnrel ch) :
    Res.outOf (c1.receiveMessage ch) = Res.outOf (c2.receiveMessage ch) := by
  unfold Conn.receiveMessage
  rw [hs, h1, h2]
  split
  · rfl
  · split
    · rename_i r _
      cases r.receive <;> rfl
    · split
      · rename_i r _
        cases r.receive <;> rfl
      · rfl

/-- A data packet (any of the four kinds) addressed to channel `ch` changes receive channel `ch`, the
    pending acks and possibly the status; no other receive channel and nothing on the send side. -/
theorem data_packet_touches_one_channel (c c' : Conn) (bytes : Bytes) (p : Packet) (ch : Nat)
    (hp : Packet.fromBytes bytes = .ok p) (hch : Packet.dataChannel p = some ch) (h : c.processPacket bytes = .ok c') :
    (∀ ch', ch' ≠ ch → SMap.find? c'.recvRel ch' = SMap.find? c.recvRel ch' ∧
                       SMap.find? c'.recvUnrel ch' = SMap.find? c.recvUnrel ch') ∧
    (c'.sendRel = c.sendRel ∧ c'.sendUnrel = c.sendUnrel ∧ c'.sent = c.sent ∧ c'.packetSeq = c.packetSeq) ∧
    (c'.now = c.now ∧ c'.order = c.order ∧ c'.budget = c.budget) := Conn.processPacket_data_frame hp hch h

/-- An ack packet touches no receive channel and never changes the status; an undecodable packet
    changes nothing but the status. -/
theorem ack_packet_touches_no_receive_channel (c c' : Conn) (bytes : Bytes) (seq : Nat) (ranges : List AckRange)
    (hp : Packet.fromBytes bytes = .ok (.ack seq ranges)) (h : c.processPacket bytes = .ok c') :
    c'.recvRel = c.recvRel ∧ c'.recvUnrel = c.recvUnrel ∧ c'.status = c.status ∧
    (c'.now = c.now ∧ c'.order = c.order ∧ c'.budget = c.budget) :=
  let ⟨a, b, s, f, _⟩ := Conn.processPacket_ack_frame hp h
  ⟨a, b, s, f⟩

theorem garbage_packet_only_disconnects (c : Conn) (bytes : Bytes) (e : SerErr)
    (hp : Packet.fromBytes bytes = .error e) :
    c.processPacket bytes = .ok (c.disconnectWith (.packetDeser e)) := Conn.processPacket_garbage hp

/-- Isolation of channels, in the form that is true of the code: traffic for channel `ch'` (a data
    packet for it, or draining it with `receive_message`) does not change what `receive_message(ch)`
    returns for any other channel `ch` — PROVIDED the connection was not disconnected by it.
    The proviso cannot be dropped, see `channel_error_kills_other_channels` below. -/
theorem other_channel_cannot_interfere_partial (c c' : Conn) (ch ch' : Nat) (hne : ch ≠ ch')
    (hframe : Conn.RecvFrame ch' c c') (hstatus : c'.isDisconnected = c.isDisconnected) :
    Res.outOf (c'.receiveMessage ch) = Res.outOf (c.receiveMessage ch) :=
  receive_reads_one_channel c' c ch hstatus (hframe ch hne).1 (hframe ch hne).2

section Examples

def cfg : List ChanCfg := [⟨0, .ordered, 1000, 300⟩, ⟨1, .unreliable, 1000, 0⟩]
def srv2 : Server := ((Server.new 60000 cfg cfg).addConnection 1).addConnection 2
def client : Conn := (Server.new 60000 cfg cfg).newClient.setConnected

/-- sending to client 1 changes client 1 and leaves client 2 exactly as it was -/
example : Server.slotAt 2 (srv2.sendMessage 1 0 [7]) = .ok (SMap.find? srv2.conns 2) ∧
          Server.slotAt 1 (srv2.sendMessage 1 0 [7]) ≠ .ok (SMap.find? srv2.conns 1) := by decide

/-- broadcast_except 1: client 1 untouched, client 2 gets the message queued -/
example : Server.slotAt 1 (srv2.broadcastExcept 1 0 [7]) = .ok (SMap.find? srv2.conns 1) ∧
          Server.slotAt 2 (srv2.broadcastExcept 1 0 [7]) = Server.slotAt 2 (srv2.sendMessage 2 0 [7]) ∧
          Server.slotAt 2 (srv2.broadcast 0 [7]) = Server.slotAt 2 (srv2.sendMessage 2 0 [7]) ∧
          Server.slotAt 1 (srv2.broadcast 0 [7]) = Server.slotAt 1 (srv2.sendMessage 1 0 [7]) := by decide

/-- client 2 sends [5,6] on the ordered channel; client 1 sends garbage and is disconnected for it.
    The message is obtained under id 2 and only there; client 1's slot yields nothing. -/
def demoClients : Res Empty (Option Bytes × Option Bytes × Option Bytes) := do
  let cl ← client.sendMessage 0 [5, 6]
  let (_, pkts) ← cl.getPacketsToSend
  let (s, _) ← srv2.processPacketFrom [255] 1
  let (s, _) ← Server.feedServer s 2 pkts
  let (s, m1) ← s.receiveMessage 1 0
  let (s, m2) ← s.receiveMessage 2 0
  let (_, m2') ← s.receiveMessage 2 0
  pure (m1, m2, m2')

example : demoClients = .ok (none, some [5, 6], none) := by decide

/-- COUNTER-EXAMPLE to unconditional channel isolation (this is renet's behaviour, mirrored by the
    model): a message [42] is already queued on the unreliable channel 1; then one undecodable packet
    (or any channel error on channel 0) disconnects the connection, and `receive_message(1)` yields
    nothing any more — the queued message of the healthy channel is lost to the application. -/
def demoChannels : Res Empty (Option Bytes × Option Bytes) := do
  let cl ← client.sendMessage 1 [42]
  let (_, pkts) ← cl.getPacketsToSend
  let c ← Server.feedClient (Server.new 60000 cfg cfg).newConn.setConnected pkts
  let (_, before) ← c.receiveMessage 1
  let c ← c.processPacket [255]
  let (_, after) ← c.receiveMessage 1
  pure (before, after)

theorem channel_error_kills_other_channels : demoChannels = .ok (some [42], none) := by decide

end Examples

end RenetVerif.C11
