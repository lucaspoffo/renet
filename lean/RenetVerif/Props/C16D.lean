/-
  C16 (second clause) — any byte string that the message-layer packet decoder accepts re-encodes
  to bytes that decode to the same value.  The bytes themselves need not be equal: the decoder
  accepts non-canonical (over-long) varints and ignores trailing bytes.
-/
import RenetVerif.Lemmas.DecodeWF
namespace RenetVerif.C16D

/-- A decoded varint is always in the range the writer accepts (≤ 2^62-1), and reading it
    consumes at least one byte. -/
theorem varint_get_bound (b : Bytes) (v : Nat) (r : Bytes) (h : Varint.get b = some (v, r)) :
    v ≤ Varint.MAX ∧ r.length < b.length := by
  obtain ⟨len, h1, h2, rfl, hv⟩ := Varint.get_eq_some h
  rw [List.length_drop]
  exact ⟨hv, by omega⟩

/-- Every output of the decoder is well-formed: all integer fields are within the varint / u8 /
    u16 range, slice counts and sizes respect the limits the decoder checks, and an ack range list
    is non-empty, ascending, non-adjacent, with non-empty ranges. -/
theorem decode_wf (b : Bytes) (p : Packet) (rest : Bytes) (h : Packet.decode b = .ok (p, rest)) :
    p.WF := Packet.decode_wf b p rest h

/-- Whatever `Packet::from_bytes` accepts serialises again without panic or error, and the new
    bytes deserialise to the same packet. -/
theorem decode_reencode (b : Bytes) (p : Packet) (h : Packet.fromBytes b = .ok p) :
    ∃ b', p.enc = .ok b' ∧ Packet.fromBytes b' = .ok p :=
  Packet.fromBytes_enc _ (Packet.fromBytes_wf h)

/-- … and re-encoding is idempotent from then on: the second-generation bytes re-encode to
    themselves. -/
theorem reencode_fixpoint (b : Bytes) (p : Packet) (h : Packet.fromBytes b = .ok p) :
    ∃ b', p.enc = .ok b' ∧ ∀ p', Packet.fromBytes b' = .ok p' → p'.enc = .ok b' := by
  obtain ⟨b', he, hd⟩ := decode_reencode b p h
  refine ⟨b', he, ?_⟩
  intro p' hp'
  rw [hd] at hp'
  cases hp'
  exact he

/-- non-vacuity, and the bytes really can differ: an ack packet whose sequence number 7 is written
    as a two-byte varint (`0x40 0x07`) is accepted; its re-encoding uses the one-byte form, is
    shorter than the input, and decodes to the same packet. -/
example :
    Packet.fromBytes [4, 0x40, 7, 5, 2, 0] = .ok (.ack 7 [(3, 6)]) ∧
    (Packet.ack 7 [(3, 6)]).enc = .ok [4, 7, 5, 2, 0] ∧
    ([4, 7, 5, 2, 0] : Bytes) ≠ [4, 0x40, 7, 5, 2, 0] ∧
    Packet.fromBytes [4, 7, 5, 2, 0] = .ok (.ack 7 [(3, 6)]) := by
  refine ⟨rfl, by decide, by decide, rfl⟩

/-- trailing bytes are ignored by the decoder and therefore dropped by the re-encoding -/
example :
    Packet.fromBytes [1, 9, 3, 0, 1, 2, 0xAA, 0xBB, 0xFF, 0xFF] = .ok (.smallUnreliable 9 3 [[0xAA, 0xBB]]) ∧
    (Packet.smallUnreliable 9 3 [[0xAA, 0xBB]]).enc = .ok [1, 9, 3, 0, 1, 2, 0xAA, 0xBB] := by
  refine ⟨rfl, by decide⟩

end RenetVerif.C16D
