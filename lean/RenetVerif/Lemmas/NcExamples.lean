/-
  A concrete world for the `example`s of the netcode Props files: toy AEAD, one server (2 slots), a client with a token
  sealed under the server's key, the four handshake datagrams.  All values are written out (compactly); that they are
  what the model computes is checked at the end of the file (`world`: one model step per fact, one kernel evaluation).
-/
import RenetVerif.Lemmas.NcTimeout
import RenetVerif.Lemmas.NcHandshake
import RenetVerif.Lemmas.NcEq
namespace RenetVerif.Netcode
namespace NS.Ex
open RenetVerif

/-! Equality tests the kernel can run quickly: the derived `DecidableEq RP` goes through `Vector`/`Array` equality
    (6 s per comparison in the kernel); comparing the underlying lists takes 0.4 s. -/

instance (priority := high) fastRPEq : DecidableEq RP := fun _ _ => decidable_of_iff _ GlueEq.rp_eq_iff.symm

instance (priority := high) fastConnEq : DecidableEq Connection :=
  fun _ _ => decidable_of_iff _ Connection.ext_iff.symm

/-- (named, in this namespace: a `deriving instance` here could clash with one in another file) -/
instance serverEq : DecidableEq NetcodeServer := fun _ _ => decidable_of_iff _ NetcodeServer.ext_iff.symm

instance clientEq : DecidableEq NetcodeClient := fun _ _ => decidable_of_iff _ NetcodeClient.ext_iff.symm

/-- (named: instance search builds a term of bounded size, and `world` below compares many results of these types) -/
instance stepEq : DecidableEq (Option (ServerResult × NetcodeServer)) := inferInstance
instance updateEq : DecidableEq (Res Empty (Option (Bytes × Addr) × NetcodeClient)) := inferInstance
instance processEq : DecidableEq (Res Empty (Option Bytes × NetcodeClient)) := inferInstance
instance decodeEq : DecidableEq (NRes (Nat × Packet) × Option RP) := inferInstance

/-- The toy AEAD of the model (identity cipher) with one change: the last tag byte of the 24-byte-nonce variant is
    the first nonce byte, so that two connect tokens (different xnonces) have different MACs.  (With a constant tag
    every token would look like "the same token" to the token-to-address table.) -/
def a : AEAD where
  «seal» _ _ _ p := p ++ List.replicate 16 0
  «open» _ _ _ c :=
    if c.length < 16 then none
    else if c.drop (c.length - 16) = List.replicate 16 0 then some (c.take (c.length - 16)) else none
  xseal _ n _ p := p ++ (List.replicate 15 0 ++ [n.headD 0])
  xopen _ n _ c :=
    if c.length < 16 then none
    else if c.drop (c.length - 16) = List.replicate 15 0 ++ [n.headD 0] then some (c.take (c.length - 16)) else none
theorem laws_a : a.Laws := by
  have hlen : ∀ (t c p : Bytes), t.length = 16 → (if c.length < 16 then none
      else if c.drop (c.length - 16) = t then some (c.take (c.length - 16)) else none) = some p →
      p.length + 16 = c.length := by
    intro t c p _ h
    by_cases hc : c.length < 16
    · simp [hc] at h
    · simp only [hc, if_false] at h
      split at h
      · cases h; simp [List.length_take]; omega
      · cases h
  refine ⟨?_, ?_, ?_, ?_, ?_, ?_⟩
  · intro k n ad p; simp [a]
  · intro k n ad p; simp [a]
  · intro k n ad c p h; exact hlen _ c p (by simp) h
  · intro k n ad p; simp [a]
  · intro k n ad p; simp [a]
  · intro k n ad c p h; exact hlen _ c p (by simp) h
def srvAddr : Addr := .v4 [127, 0, 0, 1] 5000
def addrA : Addr := .v4 [10, 0, 0, 2] 4000
def addrB : Addr := .v4 [10, 0, 0, 3] 4001
def key : Bytes := List.replicate 32 7
def ckey : Bytes := List.replicate 32 9
def udA : Bytes := List.replicate 256 1
def kc2s : Bytes := List.replicate 32 3
def ks2c : Bytes := List.replicate 32 4
def xnA : Bytes := List.replicate 24 5
def macA : Bytes := List.replicate 15 0 ++ [5]
def macB : Bytes := List.replicate 15 0 ++ [15]

/-- what `NetcodeServer::new(now = 0, max_clients = 2, protocol 42, [srvAddr], Secure{key})` returns, except that the
    token-entry table has 3 entries instead of 2048 (kernel evaluation of a scan over 2048 lazily updated records
    overflows the kernel's stack; no theorem used in the examples reads the table's length) -/
def s0 : NetcodeServer :=
  { clients := [none, none], pendingClients := [], connectTokenEntries := [none, none, none], protocolId := 42
    connectKey := key, maxClients := 2, challengeSequence := 0, challengeKey := ckey, publicAddresses := [srvAddr]
    currentTime := 0, globalSequence := 2 ^ 63, secure := true }

theorem s0_empty : EmptyServer s0 := ⟨rfl, by decide, rfl, 3, by decide, rfl⟩

/-- the private token of client A (id 11, timeout 5 s) -/
def privA : PrivateConnectToken := ⟨11, 5, some srvAddr :: List.replicate 31 none, kc2s, ks2c, udA⟩
/-- its serialisation, zero-padded to 1008 bytes, and the toy tag (15 zeros, first xnonce byte) -/
def privDataA : Bytes :=
  leBytes 11 8 ++ [5, 0, 0, 0] ++ [1, 0, 0, 0] ++ [1, 127, 0, 0, 1, 136, 19] ++ kc2s ++ ks2c ++ udA ++ List.replicate 680 0 ++ [5]

def tokenA : ConnectToken :=
  { clientId := 11, versionInfo := C.NETCODE_VERSION_INFO, protocolId := 42, createTimestamp := 0, expireTimestamp := 30
    xnonce := xnA, serverAddresses := some srvAddr :: List.replicate 31 none, clientToServerKey := kc2s
    serverToClientKey := ks2c, privateData := privDataA, timeoutSeconds := 5 }

def cA0 : NetcodeClient :=
  { sequence := 0, clientId := 11, serverAddr := srvAddr, serverAddrIndex := 0, challengeTokenSequence := 0
    state := .sendingConnectionRequest, connectStartTime := 0, lastPacketSendTime := none, lastPacketReceivedTime := 0
    currentTime := 0, maxClients := 0, clientIndex := 0, sendRate := C.NETCODE_SEND_RATE_NS
    challengeTokenData := List.replicate 300 0, connectToken := tokenA, replayProtection := RP.new }

/-- the four handshake datagrams -/
def reqA : Bytes := 0 :: (C.NETCODE_VERSION_INFO ++ leBytes 42 8 ++ leBytes 30 8 ++ xnA ++ privDataA)
def chalTokA : Bytes := leBytes 11 8 ++ udA ++ List.replicate 36 0
def chalA : Bytes := 130 :: (leBytes (2 ^ 63) 8 ++ leBytes 1 8 ++ chalTokA ++ List.replicate 16 0)
def respA : Bytes := 19 :: 1 :: (leBytes 1 8 ++ chalTokA ++ List.replicate 16 0)
def kaA : Bytes := 20 :: 0 :: (leBytes 0 4 ++ leBytes 2 4 ++ List.replicate 16 0)

/-- client A after sending the request / receiving the challenge / sending the response / receiving the keep-alive -/
def cA1 : NetcodeClient := { cA0 with sequence := 1, lastPacketSendTime := some 0 }
def cA2 : NetcodeClient :=
  { cA1 with challengeTokenSequence := 1, lastPacketSendTime := none, challengeTokenData := chalTokA
             state := .sendingConnectionResponse }
def cA3 : NetcodeClient := { cA2 with currentTime := 250000000, sequence := 2, lastPacketSendTime := some 250000000 }
def cA4 : NetcodeClient :=
  { cA3 with lastPacketReceivedTime := 250000000, maxClients := 2, clientIndex := 0, state := .connected
             replayProtection := RP.new.advance 0 }

/-- the half-open, then connected session of A on the server -/
def pendA : Connection := mkPending 0 addrA 30 privA
def connA : Connection := promoted pendA RP.new 0

/-- server after A's request, after A's response -/
def s1 : NetcodeServer :=
  { s0 with challengeSequence := 1, globalSequence := 2 ^ 63 + 1
            connectTokenEntries := [some ⟨0, addrA, macA⟩, none, none]
            pendingClients := [(addrA, pendA)] }
def s2 : NetcodeServer := { s1 with pendingClients := [], clients := [some connA, none] }

def udB : Bytes := List.replicate 256 2
def kBc2s : Bytes := List.replicate 32 13
def kBs2c : Bytes := List.replicate 32 14
def xnB : Bytes := List.replicate 24 15
def privB : PrivateConnectToken := ⟨12, 5, some srvAddr :: List.replicate 31 none, kBc2s, kBs2c, udB⟩
def privDataB : Bytes :=
  leBytes 12 8 ++ [5, 0, 0, 0] ++ [1, 0, 0, 0] ++ [1, 127, 0, 0, 1, 136, 19] ++ kBc2s ++ kBs2c ++ udB ++ List.replicate 680 0 ++ [15]
def reqB : Bytes := 0 :: (C.NETCODE_VERSION_INFO ++ leBytes 42 8 ++ leBytes 30 8 ++ xnB ++ privDataB)
def chalTokB : Bytes := leBytes 12 8 ++ udB ++ List.replicate 36 0
def respB : Bytes := 19 :: 1 :: (leBytes 2 8 ++ chalTokB ++ List.replicate 16 0)
def pendB : Connection := mkPending 0 addrB 30 privB
def connB : Connection := promoted pendB RP.new 0

/-- run a list of operations; `none` = one of them unwound -/
def run (s : NetcodeServer) : List Op → Option NetcodeServer
  | [] => some s
  | op :: rest => match step a s op with
    | some (_, s') => run s' rest
    | none => none

def results (s : NetcodeServer) : List Op → List ServerResult
  | [] => []
  | op :: rest => match step a s op with
    | some (r, s') => r :: results s' rest
    | none => []

def f0 : NetcodeServer := { s0 with clients := [none], maxClients := 1 }
theorem f0_empty : EmptyServer f0 := ⟨rfl, by decide, rfl, 3, by decide, rfl⟩

/-- both requests arrive while the slot is free, then both responses: A gets the slot, B is denied -/
def raceOps : List Op := [.packet addrA reqA, .packet addrB reqB, .packet addrA respA, .packet addrB respB]

def kaA1 : Bytes := 20 :: 0 :: (leBytes 0 4 ++ leBytes 1 4 ++ List.replicate 16 0)
def chalB : Bytes := 130 :: (leBytes (2 ^ 63 + 1) 8 ++ leBytes 2 8 ++ chalTokB ++ List.replicate 16 0)
def deniedB : Bytes := 129 :: (leBytes (2 ^ 63 + 2) 8 ++ List.replicate 16 0)

/-- the one-slot server with A's, then both handshakes half-open, then with A connected -/
def f1 : NetcodeServer :=
  { f0 with challengeSequence := 1, globalSequence := 2 ^ 63 + 1
            connectTokenEntries := [some ⟨0, addrA, macA⟩, none, none], pendingClients := [(addrA, pendA)] }
def f2 : NetcodeServer :=
  { f0 with challengeSequence := 2, globalSequence := 2 ^ 63 + 2
            connectTokenEntries := [some ⟨0, addrA, macA⟩, some ⟨0, addrB, macB⟩, none]
            pendingClients := [(addrA, pendA), (addrB, pendB)] }
def f3 : NetcodeServer := { f2 with pendingClients := [(addrB, pendB)], clients := [some connA] }
def f4 : NetcodeServer := { f3 with pendingClients := [], globalSequence := 2 ^ 63 + 3 }

/-- server `s2` (A connected) later: a keep-alive of A arrives, time passes -/
def kaFromA : Bytes := 20 :: 2 :: (leBytes 0 4 ++ leBytes 0 4 ++ List.replicate 16 0)
def s2k : NetcodeServer := { s2 with clients := [some (refreshed connA (RP.new.advance 2) 0), none] }

def discA : Bytes := 22 :: 1 :: List.replicate 16 0
def s3 : NetcodeServer := { s2 with clients := [none, none] }

/-- the same request with the last tag byte of the private token changed -/
def privDataT : Bytes := privDataA.dropLast ++ [6]
def reqT : Bytes := 0 :: (C.NETCODE_VERSION_INFO ++ leBytes 42 8 ++ leBytes 30 8 ++ xnA ++ privDataT)

/-- servers differing from `s0` in one parameter -/
def sLate : NetcodeServer := { s0 with currentTime := 30000000000 }
def sPid : NetcodeServer := { s0 with protocolId := 43 }
def sHost : NetcodeServer := { s0 with publicAddresses := [addrB] }
theorem sLate_empty : EmptyServer sLate := ⟨rfl, by decide, rfl, 3, by decide, rfl⟩
theorem sPid_empty : EmptyServer sPid := ⟨rfl, by decide, rfl, 3, by decide, rfl⟩
theorem sHost_empty : EmptyServer sHost := ⟨rfl, by decide, rfl, 3, by decide, rfl⟩

/-- a response from A's address echoing a challenge token for another id / user data -/
def respBad : Bytes := 19 :: 1 :: (leBytes 1 8 ++ chalTokB ++ List.replicate 16 0)

/-- `s2` (A connected, receive timer 0, timeout 5 s) after 5 s, and one nanosecond later -/
def s2at5 : NetcodeServer := { s2 with currentTime := 5000000000 }
def s2late : NetcodeServer := { s2 with currentTime := 5000000001 }

/-- a keep-alive shaped datagram from A's address whose tag is wrong -/
def forgedKa : Bytes := 20 :: 3 :: (leBytes 0 4 ++ leBytes 0 4 ++ List.replicate 15 0 ++ [1])

/-- a client holding a token with two server addresses -/
def srv2 : Addr := .v4 [127, 0, 0, 2] 5001
def cF : NetcodeClient :=
  { cA0 with connectToken := { tokenA with serverAddresses := some srvAddr :: some srv2 :: List.replicate 30 none } }

def runLog (s : NetcodeServer) : List Op → Option (NetcodeServer × List Event)
  | [] => some (s, [])
  | op :: rest => match step a s op with
    | some (r, s') => (runLog s' rest).map fun x => (x.1, eventOf r ++ x.2)
    | none => none

theorem reach_runLog : ∀ (ops : List Op) {s s' : NetcodeServer} {log evs : List Event}, Reach a s log →
    runLog s ops = some (s', evs) → Reach a s' (log ++ evs)
  | [], s, s', log, evs, hr, h => by
    simp only [runLog, Option.some.injEq, Prod.mk.injEq] at h
    obtain ⟨rfl, rfl⟩ := h
    simpa using hr
  | op :: rest, s, s', log, evs, hr, h => by
    simp only [runLog] at h
    cases hs : step a s op with
    | none => rw [hs] at h; cases h
    | some x =>
      obtain ⟨r, s1⟩ := x
      rw [hs] at h
      simp only [Option.map_eq_some_iff, Prod.mk.injEq] at h
      obtain ⟨⟨s2, evs2⟩, h2, rfl, rfl⟩ := h
      have := reach_runLog rest (.step hr hs) h2
      simpa [List.append_assoc] using this

/-- A disconnects (server side), connects again with the same token from the same address, and is disconnected again;
    the second response echoes challenge sequence 2 -/
def respA2 : Bytes := 19 :: 1 :: (leBytes 2 8 ++ chalTokA ++ List.replicate 16 0)
def againOps : List Op := [.disconnect 11, .packet addrA reqA, .packet addrA respA2, .disconnect 11]

/-- a payload datagram from A (sequence 2), and the server's view of it -/
def payFromA : Bytes := 21 :: 2 :: ([1, 2, 3] ++ List.replicate 16 0)
def payToA : Bytes := 21 :: 1 :: ([9, 9] ++ List.replicate 16 0)

/-- a server without sessions whose (3-entry) token table is full -/
def e1 : ConnectTokenEntry := ⟨1, addrA, macA⟩
def e2 : ConnectTokenEntry := ⟨2, addrB, macB⟩
def e3 : ConnectTokenEntry := ⟨3, addrB, List.replicate 15 0 ++ [25]⟩
def sFull : NetcodeServer := { s0 with connectTokenEntries := [some e1, some e2, some e3], currentTime := 4 }

theorem sFull_inv : ServerInv sFull := by
  have h0 := s0_empty.inv
  obtain ⟨h1, h2, h3, h4, h5, _, _, h8, h9⟩ := h0
  refine ⟨h1, ?_, ?_, h4, h5, by decide, ?_, h8, h9⟩
  · intro i c hc; exact (h2 i c hc).mono (by decide)
  · intro p hp; cases hp
  · intro i j ei ej hi hj he
    have distinct : ∀ i < 3, ∀ j < 3, ∀ ei ∈ sFull.connectTokenEntries[i]?.join,
        ∀ ej ∈ sFull.connectTokenEntries[j]?.join, ei.mac = ej.mac → i = j := by
      decide +kernel
    exact distinct i (List.getElem?_eq_some_iff.mp hi).1 j (List.getElem?_eq_some_iff.mp hj).1 ei (by rw [hi]; rfl)
      ej (by rw [hj]; rfl) he

/-- Every model step of this world.  In this order: A's token and client, and the handshake of A with the two-slot
    server; the race of A and B for the one slot, the same race on `s0` with the limit lowered to 1 first (both get a
    slot), and a request arriving when the global sequence has no room (the arithmetic check of the debug profile
    unwinds); `s2` later (a keep-alive, a payload each way; a disconnect, and a second session; time passing); what the
    decoder and the token readers make of the datagrams (A's request at protocol id 0: requests are not sealed at
    packet level). -/
theorem world :
    ((ConnectToken.generate a 0 42 30 11 5 [srvAddr] udA kc2s ks2c xnA key = .ok tokenA ∧
        NetcodeClient.new 0 tokenA = .ok cA0) ∧
      ((cA0.update a 0 = .ok (some (reqA, srvAddr), cA1) ∧
          step a s0 (.packet addrA reqA) = some (.packetToSend addrA chalA, s1)) ∧
        (cA1.processPacket a chalA = .ok (none, cA2) ∧
          cA2.update a 250000000 = .ok (some (respA, srvAddr), cA3)) ∧
        (step a s1 (.packet addrA respA) = some (.clientConnected 11 addrA udA kaA, s2) ∧
          cA3.processPacket a kaA = .ok (none, cA4)))) ∧
    ((step a f0 (.packet addrA reqA) = some (.packetToSend addrA chalA, f1) ∧
        step a f1 (.packet addrB reqB) = some (.packetToSend addrB chalB, f2) ∧
        step a f2 (.packet addrA respA) = some (.clientConnected 11 addrA udA kaA1, f3) ∧
        step a f3 (.packet addrB respB) = some (.packetToSend addrB deniedB, f4)) ∧
      ((run s0 [.setMaxClients 1, .packet addrA reqA, .packet addrB reqB, .packet addrA respA, .packet addrB respB]).map
          (fun s => (s.connectedClients, s.maxClients, s.clientsId)) = some (2, 1, [11, 12]) ∧
        step a { s0 with globalSequence := U64_MAX } (.packet addrA reqA) = none)) ∧
    ((step a s2 (.packet addrA kaFromA) = some (.none, s2k) ∧
        s2.processPacket a addrA payFromA = .ok (.payload 11 [1, 2, 3], s2k) ∧
        s2.generatePayloadPacket a 11 [9, 9] =
          .ok ((addrA, payToA), { s2 with clients := [some (sentKeepAlive connA 0), none] })) ∧
      (step a s2 (.disconnect 11) = some (.clientDisconnected 11 addrA (some discA), s3) ∧
        (runLog s2 againOps).map (·.2) =
          some [.disconnected 11 addrA, .connected 11 addrA udA, .disconnected 11 addrA]) ∧
      (step a s2 (.update 5000000000) = some (.none, s2at5) ∧
        step a s2 (.update 5000000001) = some (.none, s2late))) ∧
    ((((Packet.decode a reqA 0 none none).1 =
            .ok (0, .connectionRequest C.NETCODE_VERSION_INFO 42 30 xnA privDataA) ∧
          (Packet.decode a reqT 42 none none).1 =
            .ok (0, .connectionRequest C.NETCODE_VERSION_INFO 42 30 xnA privDataT)) ∧
        (a.xopen [] xnA (PrivateConnectToken.additionalData 42 30) privDataA = some (privDataA.take 1008) ∧
          PrivateConnectToken.read (privDataA.take 1008 ++ privDataA.drop (privDataA.take 1008).length) = some privA)) ∧
      ((Packet.decode a respA 42 (some kc2s) (some RP.new) =
            (.ok (1, .response 1 chalTokA), some RP.new) ∧
          ChallengeToken.decode a chalTokA 1 ckey = .ok ⟨11, udA⟩) ∧
        (Packet.decode a respBad 42 (some kc2s) (some RP.new) =
            (.ok (1, .response 1 chalTokB), some RP.new) ∧
          ChallengeToken.decode a chalTokB 1 ckey = .ok ⟨12, udB⟩))) := by
  decide +kernel

theorem tokenA_generated :
    ConnectToken.generate a 0 42 30 11 5 [srvAddr] udA kc2s ks2c xnA key = .ok tokenA := world.1.1.1
theorem cA0_new : NetcodeClient.new 0 tokenA = .ok cA0 := world.1.1.2

theorem cA_request : cA0.update a 0 = .ok (some (reqA, srvAddr), cA1) := world.1.2.1.1
theorem s_request : step a s0 (.packet addrA reqA) = some (.packetToSend addrA chalA, s1) := world.1.2.1.2
theorem cA_challenge : cA1.processPacket a chalA = .ok (none, cA2) := world.1.2.2.1.1
theorem cA_response : cA2.update a 250000000 = .ok (some (respA, srvAddr), cA3) := world.1.2.2.1.2
theorem s_response : step a s1 (.packet addrA respA) = some (.clientConnected 11 addrA udA kaA, s2) := world.1.2.2.2.1
theorem cA_keepalive : cA3.processPacket a kaA = .ok (none, cA4) := world.1.2.2.2.2
theorem inv_s2 : ServerInv s2 := step_inv (step_inv s0_empty.inv s_request) s_response

theorem f_reqA : step a f0 (.packet addrA reqA) = some (.packetToSend addrA chalA, f1) := world.2.1.1.1
theorem f_reqB : step a f1 (.packet addrB reqB) = some (.packetToSend addrB chalB, f2) := world.2.1.1.2.1
theorem f_respA : step a f2 (.packet addrA respA) = some (.clientConnected 11 addrA udA kaA1, f3) := world.2.1.1.2.2.1
theorem f_respB : step a f3 (.packet addrB respB) = some (.packetToSend addrB deniedB, f4) := world.2.1.1.2.2.2

theorem s_keepalive : step a s2 (.packet addrA kaFromA) = some (.none, s2k) := world.2.2.1.1.1
theorem s_payload : s2.processPacket a addrA payFromA = .ok (.payload 11 [1, 2, 3], s2k) := world.2.2.1.1.2.1
theorem s_sendPayload : s2.generatePayloadPacket a 11 [9, 9] =
    .ok ((addrA, payToA), { s2 with clients := [some (sentKeepAlive connA 0), none] }) := world.2.2.1.1.2.2
theorem s_disconnect : step a s2 (.disconnect 11) = some (.clientDisconnected 11 addrA (some discA), s3) :=
  world.2.2.1.2.1.1
theorem again_events : (runLog s2 againOps).map (·.2) =
    some [.disconnected 11 addrA, .connected 11 addrA udA, .disconnected 11 addrA] := world.2.2.1.2.1.2
theorem s_wait5 : step a s2 (.update 5000000000) = some (.none, s2at5) := world.2.2.1.2.2.1
theorem s_wait5' : step a s2 (.update 5000000001) = some (.none, s2late) := world.2.2.1.2.2.2

/-- A's request, as the decoder sees it (for any protocol id: requests are not sealed at packet level) -/
theorem reqA_decodes (pid : Nat) : (Packet.decode a reqA pid none none).1 =
    .ok (0, .connectionRequest C.NETCODE_VERSION_INFO 42 30 xnA privDataA) := by
  have h : ∀ pid, Packet.decode a reqA pid none none = Packet.decode a reqA 0 none none := by
    intro pid; rw [Packet.decode_eq_wire, Packet.decode_eq_wire]
  rw [h]; exact world.2.2.2.1.1.1
theorem reqT_decodes : (Packet.decode a reqT 42 none none).1 =
    .ok (0, .connectionRequest C.NETCODE_VERSION_INFO 42 30 xnA privDataT) := world.2.2.2.1.1.2

theorem privA_opens (s : NetcodeServer) (hp : s.protocolId = 42) : TokenOpens a s 30 xnA privDataA privA := by
  refine ⟨privDataA.take 1008, ?_, world.2.2.2.1.2.2⟩
  rw [hp]
  exact world.2.2.2.1.2.1

theorem respA_decodes : Packet.decode a respA 42 (some kc2s) (some RP.new) =
    (.ok (1, .response 1 chalTokA), some RP.new) := world.2.2.2.2.1.1
theorem chalTokA_opens : ChallengeToken.decode a chalTokA 1 ckey = .ok ⟨11, udA⟩ := world.2.2.2.2.1.2
theorem respBad_decodes : Packet.decode a respBad 42 (some kc2s) (some RP.new) =
    (.ok (1, .response 1 chalTokB), some RP.new) := world.2.2.2.2.2.1
theorem chalTokB_opens : ChallengeToken.decode a chalTokB 1 ckey = .ok ⟨12, udB⟩ := world.2.2.2.2.2.2

end NS.Ex
end RenetVerif.Netcode
