/-
  The FULL STACK of `Lemmas/FullStack.lean` (`FS`: client `NetcodeClientTransport` + `RenetClient`, server
  `NetcodeServerTransport` + `RenetServer`, 14 operations `FSOp`), rebuilt over the GENERATED code: `GFS` holds the generated
  transports (each with its model socket, its generated `NetcodeClient` / `NetcodeServer` and its receive buffer), the generated
  `RenetClient` and the generated `RenetServer`; `GFS.step` mirrors `FS.step` operation by operation and calls only generated
  functions:
      cliSend / cliRecv / cliTick / cliDisconnect              RenetClient::{send_message, receive_message, update, disconnect}
      cliUpdate d inbox / cliSendPackets / cliTransportDisconnect   NetcodeClientTransport::{update, send_packets, disconnect}
      srvSend / srvRecv / srvTick / srvDisconnect               RenetServer::{send_message(cid,…), receive_message(cid,…), update, disconnect(cid)}
      srvUpdate d inbox / srvSendPackets / srvDisconnectAll     NetcodeServerTransport::{update, send_packets, disconnect_all}
  The AEAD of the generated netcode is `aeadOf a` (the model AEAD `a` on `List Nat`).  THE SOCKET is the environment: before a
  transport call the adversary's `inbox` becomes the socket's script (`update`) and the socket's log is emptied (the network has
  taken what was sent); after `send_packets` the log is appended to the ghost history `emC` / `emS`.

  THE DATAGRAM CUT.  The generated `recv_from` cuts a datagram to the transport's buffer; the glue model takes the already-cut
  inbox.  So a generated operation `op` corresponds to the model operation `cutOp op` (`inbox.map (recvFrom BUFFER)`).

  The ghost records `sealedC` / `sealedS` of `FS` (one per successful `generate_payload_packet`) only serve to STATE the
  hypothesis `NoForgeryRunD`; they are not mirrored in `GFS` (the hypothesis stays on the model run).
-/
import RenetVerif.Lemmas.SrcEquiv.SrcMulti
import RenetVerif.Lemmas.FullStack
import RenetVerif.Props.SrcTieTrClosed
import RenetVerif.Props.SrcTieTrLocal
namespace RenetVerif.SrcFullStack
open RenetVerif RenetVerif.RustSem RenetVerif.C RenetVerif.System RenetVerif.Netcode RenetVerif.Transport RenetVerif.FullStack
open RenetVerif.SrcEquiv RenetVerif.SrcSystem RenetVerif.SrcMulti
open Src.renet.remote_connection Src.renet.server Src.renet_netcode.server Src.renet_netcode.client

abbrev GDgram := RustSem.SocketAddr × List Nat

structure GFS where
  tc : SClientTransport
  rc : SRenetClient
  ts : SServerTransport
  rs : SRenetServer
  /-- ghost: every datagram the client's / the server's `send_packets` handed to the socket, in order -/
  emC : List GDgram
  emS : List GDgram
  /-- ghost: `packet_sequence` of the server's `RenetClient` for `cid`, as of the last moment it was in the table -/
  ySeq : Nat
  subC : Nat → List GBytes
  subCU : Nat → List GBytes
  obtS : Nat → List GBytes
  subS : Nat → List GBytes
  subSU : Nat → List GBytes
  obtC : Nat → List GBytes

def sockOf (inbox : List Dgram) : RustSem.UdpSocket := sockR inbox #[]

def clearLog (s : RustSem.UdpSocket) : RustSem.UdpSocket := ⟨s.inbox, []⟩

/-- mirror of `FullStack.trackSeq` (reads the field `connections` of the generated server) -/
def gtrackSeq (cid : Nat) (rs : SRenetServer) (old : Nat) : Nat :=
  match gconn? rs cid with
  | some y => y.packet_sequence
  | none => old

/-- one operation through the generated functions only (mirror of `FS.step`); `none` = a generated function panicked.
    An `Err(..)` of a client transport call is a normal return (the model's `Except`). -/
def GFS.step (a : AEAD) (cid : Nat) (g : GFS) : FSOp → Option GFS
  | .cliSend ch m =>
    match (RenetClient.send_message g.rc ch (toNats m) : Res Empty _) with
    | .ok (r', _) => some { g with rc := r'
                                   subC := if gAccepted g.rc r' ch then gpush g.subC ch (toNats m) else g.subC
                                   subCU := if gOfferedU g.rc ch then gpush g.subCU ch (toNats m) else g.subCU }
    | _ => none
  | .cliRecv ch =>
    match (RenetClient.receive_message g.rc ch : Res Empty _) with
    | .ok (r', some m) => some { g with rc := r', obtC := gpush g.obtC ch m }
    | .ok (r', none) => some { g with rc := r' }
    | _ => none
  | .cliTick dt =>
    match (RenetClient.update g.rc dt : Res Empty _) with
    | .ok (r', _) => some { g with rc := r' }
    | _ => none
  | .cliDisconnect =>
    match (RenetClient.disconnect g.rc : Res Empty _) with
    | .ok (r', _) => some { g with rc := r' }
    | _ => none
  | .cliUpdate d inbox =>
    match @NetcodeClientTransport.update (aeadOf a) { g.tc with socket := sockOf inbox } d g.rc with
    | .ok (t', r', _) => some { g with tc := t', rc := r' }
    | .err (_, (t', r')) => some { g with tc := t', rc := r' }
    | .panic _ => none
  | .cliSendPackets =>
    match @NetcodeClientTransport.send_packets (aeadOf a) { g.tc with socket := clearLog g.tc.socket } g.rc with
    | .ok (t', r', _) => some { g with tc := t', rc := r', emC := g.emC ++ t'.socket.outbox }
    | .err (_, (t', r')) => some { g with tc := t', rc := r', emC := g.emC ++ t'.socket.outbox }
    | .panic _ => none
  | .cliTransportDisconnect =>
    match (@NetcodeClientTransport.disconnect (aeadOf a) Empty { g.tc with socket := clearLog g.tc.socket }) with
    | .ok (t', _) => some { g with tc := t' }
    | _ => none
  | .srvDisconnectAll =>
    match (@NetcodeServerTransport.disconnect_all (aeadOf a) Empty { g.ts with socket := clearLog g.ts.socket } g.rs) with
    | .ok (t', r', _) => some { g with ts := t', rs := r', ySeq := gtrackSeq cid r' g.ySeq }
    | _ => none
  | .srvSend ch m =>
    match (RenetServer.send_message g.rs cid ch (toNats m) : Res Empty _) with
    | .ok (rs', _) =>
      let acc := match gconn? g.rs cid, gconn? rs' cid with
        | some y0, some y1 => gAccepted y0 y1 ch
        | _, _ => false
      let off := match gconn? g.rs cid with
        | some y0 => gOfferedU y0 ch
        | none => false
      some { g with rs := rs', ySeq := gtrackSeq cid rs' g.ySeq
                    subS := if acc then gpush g.subS ch (toNats m) else g.subS
                    subSU := if off then gpush g.subSU ch (toNats m) else g.subSU }
    | _ => none
  | .srvRecv ch =>
    match (RenetServer.receive_message g.rs cid ch : Res Empty _) with
    | .ok (rs', some m) => some { g with rs := rs', ySeq := gtrackSeq cid rs' g.ySeq, obtS := gpush g.obtS ch m }
    | .ok (rs', none) => some { g with rs := rs', ySeq := gtrackSeq cid rs' g.ySeq }
    | _ => none
  | .srvTick dt =>
    match (RenetServer.update g.rs dt : Res Empty _) with
    | .ok (rs', _) => some { g with rs := rs', ySeq := gtrackSeq cid rs' g.ySeq }
    | _ => none
  | .srvDisconnect =>
    match (RenetServer.disconnect g.rs cid : Res Empty _) with
    | .ok (rs', _) => some { g with rs := rs', ySeq := gtrackSeq cid rs' g.ySeq }
    | _ => none
  | .srvUpdate d inbox =>
    match @NetcodeServerTransport.update (aeadOf a) { g.ts with socket := sockOf inbox } d g.rs with
    | .ok (t', r', _) => some { g with ts := t', rs := r', ySeq := gtrackSeq cid r' g.ySeq }
    | _ => none
  | .srvSendPackets =>
    match (@NetcodeServerTransport.send_packets (aeadOf a) Empty { g.ts with socket := clearLog g.ts.socket } g.rs) with
    | .ok (t', r', _) => some { g with ts := t', rs := r', ySeq := gtrackSeq cid r' g.ySeq, emS := g.emS ++ t'.socket.outbox }
    | _ => none

def GFS.run (a : AEAD) (cid : Nat) (g : GFS) : List FSOp → Option GFS
  | [] => some g
  | op :: ops =>
    match g.step a cid op with
    | some g' => g'.run a cid ops
    | none => none

def cutOp : FSOp → FSOp
  | .cliUpdate d inbox => .cliUpdate d (inbox.map (recvFrom C.TRANSPORT_CLIENT_BUFFER))
  | .srvUpdate d inbox => .srvUpdate d (inbox.map (recvFrom C.TRANSPORT_SERVER_BUFFER))
  | op => op

def reprDgram (d : Dgram) : GDgram := (reprAddr d.1, toNats d.2)

/-- generated state `g` represents model state `fs`: the transports are `ctrR` / `trR` of the model netcode states (some
    socket script and log, scratch buffer of `NETCODE_MAX_PACKET_BYTES`, receive buffer of the transport's size), the renet
    endpoints are `reprConn` / `reprServer`, ghost histories and logs agree up to `toNats` -/
structure SimFS (fs : FS) (g : GFS) : Prop where
  tc : ∃ rest out o buf, o.length = C.NETCODE_MAX_PACKET_BYTES ∧ buf.length = C.TRANSPORT_CLIENT_BUFFER ∧
    g.tc = ctrR rest out o fs.c.netcode buf
  rc : ∃ mrs, g.rc = reprConn mrs fs.c.renet
  ts : ∃ rest out o buf, o.length = C.NETCODE_MAX_PACKET_BYTES ∧ buf.length = C.TRANSPORT_SERVER_BUFFER ∧
    g.ts = trR rest out o fs.s.netcode buf
  rs : ∃ mrss, g.rs = reprServer mrss fs.s.renet
  emC : g.emC = fs.emC.map reprDgram
  emS : g.emS = fs.emS.map reprDgram
  ySeq : g.ySeq = fs.ySeq
  subC : ∀ ch, g.subC ch = (fs.subC ch).map toNats
  subCU : ∀ ch, g.subCU ch = (fs.subCU ch).map toNats
  obtS : ∀ ch, g.obtS ch = (fs.obtS ch).map toNats
  subS : ∀ ch, g.subS ch = (fs.subS ch).map toNats
  subSU : ∀ ch, g.subSU ch = (fs.subSU ch).map toNats
  obtC : ∀ ch, g.obtC ch = (fs.obtC ch).map toNats

/-- the model invariants the ties need: the renet invariants of `SrcSystem` / `SrcMulti`, the netcode table invariant
    `NS.ServerInv` and the netcode client invariant `CliInv` (`Lemmas/SrcEquiv/TrInv.lean`) -/
structure FSGood (fs : FS) : Prop where
  cli : EpGood fs.c.renet
  srv : SGood fs.s.renet
  ncC : CliInv fs.c.netcode
  ncS : NS.ServerInv fs.s.netcode

/-! ## the per-call transport ties

  The transport ties (`SrcTieTrServer/TrClient/TrInv/TrClosed.lean`) are stated for an abstract simulation `RcSim R` /
  `RnSim R` that must be CLOSED under `process_packet`, `get_packets_to_send`, … for every input; `TrClosed` instantiates it with
  a range predicate `Rg` that is closed under those operations (`RangeClosed Rg`).  Here the conclusion of those ties, for ONE
  call, with the fixed relations `RcRel` / `RsRel` ("model invariants ∧ generated = repr (model)"), is a named hypothesis of the
  step simulation (`OpTie`); `opTie_of_closed` derives it from `RangeClosed Rg`. -/

-- the relations of the ties are `SrcEquiv.RcRel` / `SrcEquiv.RsRel` (`Lemmas/SrcEquiv/TrLocal.lean`):
--   `RcRel c g := EpGood c ∧ ∃ mrs, g = reprConn mrs c`,  `RsRel s g := SGood s ∧ ∃ mrss, g = reprServer mrss s`

def CliUpdateTie (a : AEAD) (g : ClientGlue) (d : Nat) (inbox : List Dgram) : Prop :=
  ∀ (mrs : Nat → Nat) (o buf : List Nat), o.length = C.NETCODE_MAX_PACKET_BYTES → buf.length = C.TRANSPORT_CLIENT_BUFFER →
    match clientUpdateFrom a g d (inbox.map (recvFrom C.TRANSPORT_CLIENT_BUFFER)) #[] with
    | .ok r => ∃ rest, CliTrOut RcRel CliInv C.TRANSPORT_CLIENT_BUFFER r.result r.g r.out rest
        (@NetcodeClientTransport.update (aeadOf a) (ctrR inbox #[] o g.netcode buf) d (reprConn mrs g.renet))
    | .err e => nomatch e
    | .panic _ => ∃ msg, @NetcodeClientTransport.update (aeadOf a) (ctrR inbox #[] o g.netcode buf) d (reprConn mrs g.renet) = .panic msg

def CliSendTie (a : AEAD) (g : ClientGlue) : Prop :=
  ∀ (mrs : Nat → Nat) (rest : List Dgram) (o buf : List Nat), o.length = C.NETCODE_MAX_PACKET_BYTES →
    match clientSendPacketsFrom a g #[] with
    | .ok (res, g', out') => CliTrOut RcRel CliInv buf.length res g' out' rest
        (@NetcodeClientTransport.send_packets (aeadOf a) (ctrR rest #[] o g.netcode buf) (reprConn mrs g.renet))
    | .err e => nomatch e
    | .panic _ => ∃ msg, @NetcodeClientTransport.send_packets (aeadOf a) (ctrR rest #[] o g.netcode buf) (reprConn mrs g.renet) = .panic msg

def SrvUpdateTie (a : AEAD) (g : ServerGlue) (d : Nat) (inbox : List Dgram) : Prop :=
  ∀ (mrss : Nat → Nat → Nat) (o buf : List Nat), o.length = C.NETCODE_MAX_PACKET_BYTES → buf.length = C.TRANSPORT_SERVER_BUFFER →
    TrOut RsRel NS.ServerInv [] C.TRANSPORT_SERVER_BUFFER
      (serverUpdateFrom a g d (inbox.map (recvFrom C.TRANSPORT_SERVER_BUFFER)) #[])
      (@NetcodeServerTransport.update (aeadOf a) (trR inbox #[] o g.netcode buf) d (reprServer mrss g.renet))

def SrvSendTie (a : AEAD) (g : ServerGlue) : Prop :=
  ∀ (mrss : Nat → Nat → Nat) (rest : List Dgram) (o buf : List Nat), o.length = C.NETCODE_MAX_PACKET_BYTES →
    TrOut (ε := Empty) RsRel NS.ServerInv rest buf.length (serverSendLoop a g g.renet.clientsId #[])
      (@NetcodeServerTransport.send_packets (aeadOf a) Empty (trR rest #[] o g.netcode buf) (reprServer mrss g.renet))

def SrvDiscAllTie (a : AEAD) (g : ServerGlue) : Prop :=
  ∀ (mrss : Nat → Nat → Nat) (rest : List Dgram) (o buf : List Nat), o.length = C.NETCODE_MAX_PACKET_BYTES →
    TrOut (ε := Empty) RsRel NS.ServerInv rest buf.length
      (serverIdLoop (fun ns id => ns.disconnect a id) g g.netcode.clientsId #[])
      (@NetcodeServerTransport.disconnect_all (aeadOf a) Empty (trR rest #[] o g.netcode buf) (reprServer mrss g.renet))

/-- the tie hypothesis of one operation (nothing for the application-level calls and for `NetcodeClientTransport::disconnect`) -/
def OpTie (a : AEAD) (fs : FS) : FSOp → Prop
  | .cliUpdate d inbox => CliUpdateTie a fs.c d inbox
  | .cliSendPackets => CliSendTie a fs.c
  | .srvUpdate d inbox => SrvUpdateTie a fs.s d inbox
  | .srvSendPackets => SrvSendTie a fs.s
  | .srvDisconnectAll => SrvDiscAllTie a fs.s
  | _ => True

def SrvInRange (s : Server) : Prop := ∀ x ∈ s.conns, ConnInRange x.2

/-- what the ties of one operation need of the state it starts from: the endpoint(s) the application-level call works on in
    range (`SrcSystem.ConnInRange`), messages shorter than `2^63`, clocks within `Duration::MAX`, fewer than `2^64 - 1` queued
    datagrams -/
def FSOpInRange (fs : FS) : FSOp → Prop
  | .cliSend _ m => m.length < 2 ^ 63 ∧ ConnInRange fs.c.renet
  | .cliRecv _ => ConnInRange fs.c.renet
  | .cliTick dt => ConnInRange fs.c.renet ∧ fs.c.renet.now + dt ≤ RustSem.Duration.MAX
  | .srvSend _ m => m.length < 2 ^ 63 ∧ SrvInRange fs.s.renet
  | .srvRecv _ => SrvInRange fs.s.renet
  | .srvTick dt => SrvInRange fs.s.renet ∧ ∀ x ∈ fs.s.renet.conns, x.2.now + dt ≤ RustSem.Duration.MAX
  | .cliUpdate _ inbox => inbox.length + 1 < 2 ^ 64
  | .srvUpdate _ inbox => inbox.length + 1 < 2 ^ 64
  | _ => True

instance (s : Server) : Decidable (SrvInRange s) := by unfold SrvInRange; infer_instance
instance (fs : FS) (op : FSOp) : Decidable (FSOpInRange fs op) := by cases op <;> unfold FSOpInRange <;> infer_instance

theorem gtrackSeq_repr (mrss : Nat → Nat → Nat) (cid : Nat) (s : Server) (old : Nat) :
    gtrackSeq cid (reprServer mrss s) old = trackSeq cid s old := by
  unfold gtrackSeq trackSeq
  rw [gconn_repr]
  unfold MultiSystem.conn?
  cases SMap.find? s.conns cid <;> rfl

theorem ctrR_setSocket (rest inbox : List Dgram) (out : Array Dgram) (o : List Nat) (nc : NetcodeClient) (buf : List Nat) :
    ({ ctrR rest out o nc buf with socket := sockOf inbox } : SClientTransport) = ctrR inbox #[] o nc buf := rfl
theorem ctrR_clearLog (rest : List Dgram) (out : Array Dgram) (o : List Nat) (nc : NetcodeClient) (buf : List Nat) :
    ({ ctrR rest out o nc buf with socket := clearLog (ctrR rest out o nc buf).socket } : SClientTransport) = ctrR rest #[] o nc buf := rfl
theorem trR_setSocket (rest inbox : List Dgram) (out : Array Dgram) (o : List Nat) (ns : NetcodeServer) (buf : List Nat) :
    ({ trR rest out o ns buf with socket := sockOf inbox } : SServerTransport) = trR inbox #[] o ns buf := rfl
theorem trR_clearLog (rest : List Dgram) (out : Array Dgram) (o : List Nat) (ns : NetcodeServer) (buf : List Nat) :
    ({ trR rest out o ns buf with socket := clearLog (trR rest out o ns buf).socket } : SServerTransport) = trR rest #[] o ns buf := rfl

theorem ctrR_outbox (rest : List Dgram) (out : Array Dgram) (o : List Nat) (nc : NetcodeClient) (buf : List Nat) :
    (ctrR rest out o nc buf).socket.outbox = out.toList.map reprDgram := rfl
theorem trR_outbox (rest : List Dgram) (out : Array Dgram) (o : List Nat) (ns : NetcodeServer) (buf : List Nat) :
    (trR rest out o ns buf).socket.outbox = out.toList.map reprDgram := rfl

theorem gacc_repr (mrss : Nat → Nat → Nat) (s s' : Server) (cid ch : Nat) :
    (match gconn? (reprServer mrss s) cid, gconn? (reprServer mrss s') cid with
      | some y0, some y1 => gAccepted y0 y1 ch
      | _, _ => false) =
    (match SMap.find? s.conns cid, SMap.find? s'.conns cid with
      | some y0, some y1 => accepted y0 y1 ch
      | _, _ => false) := by
  rw [gconn_repr, gconn_repr]
  unfold MultiSystem.conn?
  cases SMap.find? s.conns cid with
  | none => rfl
  | some y0 =>
    cases SMap.find? s'.conns cid with
    | none => rfl
    | some y1 => exact gAccepted_repr _ _ y0 y1 ch

theorem goff_repr (mrss : Nat → Nat → Nat) (s : Server) (cid ch : Nat) :
    (match gconn? (reprServer mrss s) cid with
      | some y0 => gOfferedU y0 ch
      | none => false) =
    (match SMap.find? s.conns cid with
      | some y0 => offeredU y0 ch
      | none => false) := by
  rw [gconn_repr]
  unfold MultiSystem.conn?
  cases SMap.find? s.conns cid with
  | none => rfl
  | some y0 => exact gOfferedU_repr _ y0 ch

theorem clientDisconnectFrom_inv {a : AEAD} {g g' : ClientGlue} {out out' : Array Dgram}
    (h : clientDisconnectFrom a g out = .ok (g', out')) (hi : CliInv g.netcode) : CliInv g'.netcode ∧ g'.renet = g.renet := by
  unfold clientDisconnectFrom at h
  split at h
  · cases h; exact ⟨hi, rfl⟩
  · simp only at h
    split at h
    · cases h
    · cases h; exact ⟨(SrcTie.nc_cinv_cli_inv a).disc hi, rfl⟩
    · cases h; exact ⟨(SrcTie.nc_cinv_cli_inv a).disc hi, rfl⟩

theorem trOut_cases {ε : Type} {rest : List Dgram} {bl : Nat} {M : Res Empty (ServerGlue × Array Dgram)}
    {X : Res ε (SServerTransport × SRenetServer × Unit)} (T : TrOut RsRel NS.ServerInv rest bl M X) :
    (∃ g' out' o' buf' mrss', M = .ok (g', out') ∧ o'.length = C.NETCODE_MAX_PACKET_BYTES ∧ buf'.length = bl ∧
      NS.ServerInv g'.netcode ∧ SGood g'.renet ∧ X = .ok (trR rest out' o' g'.netcode buf', reprServer mrss' g'.renet, ())) ∨
    ∃ msg msg', M = .panic msg ∧ X = .panic msg' := by
  unfold TrOut at T
  cases M with
  | ok v =>
    obtain ⟨o', buf', gr', ho', hb', hI, ⟨hgd, mrss', rfl⟩, e⟩ := T
    exact .inl ⟨v.1, v.2, o', buf', mrss', rfl, ho', hb', hI, hgd, e⟩
  | err e => exact nomatch e
  | panic msg =>
    obtain ⟨msg', e⟩ := T
    exact .inr ⟨msg, msg', rfl, e⟩

theorem fstep_sim_tr (a : AEAD) (cid : Nat) {fs : FS} {g : GFS} (hg : FSGood fs) (sim : SimFS fs g) (op : FSOp)
    (ht : OpTie a fs op)
    (hk : match op with
      | .cliUpdate .. | .cliSendPackets | .srvUpdate .. | .srvSendPackets | .srvDisconnectAll => True
      | _ => False) :
    match fs.step a cid (cutOp op) with
    | some fs' => ∃ g', g.step a cid op = some g' ∧ SimFS fs' g' ∧ FSGood fs'
    | none => g.step a cid op = none := by
  obtain ⟨restC, outC, oC, bufC, hoC, hbC, htc⟩ := sim.tc
  obtain ⟨mrs, hrc⟩ := sim.rc
  obtain ⟨rest, out, o, buf, ho, hb, hts⟩ := sim.ts
  obtain ⟨mrss, hrs⟩ := sim.rs
  have eC : ({ g.tc with socket := clearLog g.tc.socket } : SClientTransport) = ctrR restC #[] oC fs.c.netcode bufC := by
    rw [htc]; rfl
  have eS : ({ g.ts with socket := clearLog g.ts.socket } : SServerTransport) = trR rest #[] o fs.s.netcode buf := by
    rw [hts]; rfl
  cases op with
  | cliUpdate d inbox =>
    have e0 : ({ g.tc with socket := sockOf inbox } : SClientTransport) = ctrR inbox #[] oC fs.c.netcode bufC := by
      rw [htc]; rfl
    have T := ht mrs oC bufC hoC hbC
    simp only [cutOp, FS.step, GFS.step, e0, hrc, SrcTie.ctr_update_model]
    cases hm : clientUpdateFrom a fs.c d (inbox.map (recvFrom C.TRANSPORT_CLIENT_BUFFER)) #[] with
    | ok r =>
      rw [hm] at T
      obtain ⟨rest', o', buf', gr', ho', hb', hI, ⟨hgd, mrs', hgr⟩, hgen⟩ := T
      rw [hgen]
      -- `Ok` and `Err` of the transport call leave the same state
      cases r.result
      all_goals exact ⟨_, rfl, { sim with tc := ⟨rest', r.out, o', buf', ho', hb', rfl⟩, rc := ⟨mrs', hgr⟩ },
        { hg with cli := hgd, ncC := hI }⟩
    | err e => exact nomatch e
    | panic msg =>
      rw [hm] at T
      obtain ⟨m', e⟩ := T
      rw [e]
  | cliSendPackets =>
    have T := ht mrs restC oC bufC hoC
    simp only [cutOp, FS.step, GFS.step, eC, hrc]
    rw [show clientSendPackets a fs.c = clientSendPacketsFrom a fs.c #[] from rfl]
    cases hm : clientSendPacketsFrom a fs.c #[] with
    | ok v =>
      obtain ⟨res, g', out'⟩ := v
      rw [hm] at T
      obtain ⟨o', buf', gr', ho', hb', hI, ⟨hgd, mrs', hgr⟩, hgen⟩ := T
      rw [hgen]
      have hem : g.emC ++ (ctrR restC out' o' g'.netcode buf').socket.outbox = (fs.emC ++ out'.toList).map reprDgram := by
        rw [ctrR_outbox, sim.emC, List.map_append]
      cases res
      all_goals exact ⟨_, rfl, { sim with
          tc := ⟨restC, out', o', buf', ho', by rw [hb', hbC], rfl⟩, rc := ⟨mrs', hgr⟩, emC := hem },
        { hg with cli := hgd, ncC := hI }⟩
    | err e => exact nomatch e
    | panic msg =>
      rw [hm] at T
      obtain ⟨m', e⟩ := T
      rw [e]
  | srvUpdate d inbox =>
    have e0 : ({ g.ts with socket := sockOf inbox } : SServerTransport) = trR inbox #[] o fs.s.netcode buf := by
      rw [hts]; rfl
    simp only [cutOp, FS.step, GFS.step, e0, hrs]
    rcases trOut_cases (ht mrss o buf ho hb) with ⟨g', out', o', buf', mrss', hm, ho', hb', hI, hgd, e⟩ | ⟨_, _, hm, e⟩
    · rw [show serverUpdate a fs.s d _ = _ from hm, e]
      simp only [gtrackSeq_repr, sim.ySeq]
      exact ⟨_, rfl, { sim with ts := ⟨[], out', o', buf', ho', hb', rfl⟩, rs := ⟨mrss', rfl⟩, ySeq := rfl },
        { hg with srv := hgd, ncS := hI }⟩
    · rw [show serverUpdate a fs.s d _ = _ from hm, e]
  | srvSendPackets =>
    simp only [cutOp, FS.step, GFS.step, eS, hrs]
    rcases trOut_cases (ht mrss rest o buf ho) with ⟨g', out', o', buf', mrss', hm, ho', hb', hI, hgd, e⟩ | ⟨_, _, hm, e⟩
    · rw [show serverSendPackets a fs.s = _ from hm, e]
      simp only [gtrackSeq_repr, sim.ySeq]
      refine ⟨_, rfl, { sim with
          ts := ⟨rest, out', o', buf', ho', by rw [hb', hb], rfl⟩, rs := ⟨mrss', rfl⟩, ySeq := rfl, emS := ?_ },
        { hg with srv := hgd, ncS := hI }⟩
      show g.emS ++ (trR rest out' o' g'.netcode buf').socket.outbox = (fs.emS ++ out'.toList).map reprDgram
      rw [trR_outbox, sim.emS, List.map_append]
    · rw [show serverSendPackets a fs.s = _ from hm, e]
  | srvDisconnectAll =>
    simp only [cutOp, FS.step, GFS.step, eS, hrs]
    rcases trOut_cases (ht mrss rest o buf ho) with ⟨g', out', o', buf', mrss', hm, ho', hb', hI, hgd, e⟩ | ⟨_, _, hm, e⟩
    · rw [show serverDisconnectAll a fs.s = _ from hm, e]
      simp only [gtrackSeq_repr, sim.ySeq]
      exact ⟨_, rfl, { sim with ts := ⟨rest, out', o', buf', ho', by rw [hb', hb], rfl⟩, rs := ⟨mrss', rfl⟩, ySeq := rfl },
        { hg with srv := hgd, ncS := hI }⟩
    · rw [show serverDisconnectAll a fs.s = _ from hm, e]
  | _ => exact hk.elim

/-! ## the per-call ties from the LOCAL condition of the call (`SrcTieTrLocal.lean`) -/

/-- the local condition of one transport call: `ConnInRange` at every model state the glue loop of THIS call reaches where a
    renet `process_packet(_from)` / `get_packets_to_send` is made (decidable; nothing for the other nine operations) -/
def OpLocalOk (a : AEAD) (fs : FS) : FSOp → Prop
  | .cliUpdate _ inbox => CliUpdateOk a fs.c (inbox.map (recvFrom C.TRANSPORT_CLIENT_BUFFER))
  | .cliSendPackets =>
    match fs.c.netcode.disconnectReason with
    | none => ConnInRange fs.c.renet
    | some _ => True
  | .srvUpdate d inbox => SrvUpdateOk a fs.s d (inbox.map (recvFrom C.TRANSPORT_SERVER_BUFFER)) #[]
  | .srvSendPackets => SendLoopOk a fs.s fs.s.renet.clientsId #[]
  | .srvDisconnectAll => IdLoopOk (fun ns id => ns.disconnect a id) fs.s fs.s.netcode.clientsId #[]
  | _ => True

instance (a : AEAD) (fs : FS) (op : FSOp) : Decidable (OpLocalOk a fs op) := by
  cases op <;> unfold OpLocalOk <;> try infer_instance
  cases fs.c.netcode.disconnectReason <;> infer_instance

theorem opTie_of_local (a : AEAD) (hl : a.Laws) {fs : FS} (hg : FSGood fs) (op : FSOp) (hrg : FSOpInRange fs op)
    (hloc : OpLocalOk a fs op) : OpTie a fs op := by
  cases op with
  | cliUpdate d inbox =>
    intro mrs o buf ho hb
    have T := SrcTie.ctr_update_local a hl fs.c mrs hg.ncC hg.cli d inbox hrg #[] o buf ho hb hloc
    cases hm : clientUpdateFrom a fs.c d (inbox.map (recvFrom C.TRANSPORT_CLIENT_BUFFER)) #[] with
    | ok r =>
      rw [hm] at T
      obtain ⟨rest, -, h⟩ := T
      exact ⟨rest, h⟩
    | err e => exact nomatch e
    | panic msg => rw [hm] at T; exact T
  | cliSendPackets =>
    intro mrs rest o buf ho
    exact SrcTie.ctr_send_packets_local a hl fs.c mrs hg.ncC hg.cli rest #[] o buf ho
      (fun h => by simp only [OpLocalOk, h] at hloc; exact hloc)
  | srvUpdate d inbox =>
    intro mrss o buf ho hb
    exact SrcTie.tr_update_local a hl fs.s mrss hg.ncS hg.srv d inbox hrg #[] o buf ho hb hloc
  | srvSendPackets =>
    intro mrss rest o buf ho
    exact SrcTie.tr_send_packets_local (ε := Empty) a hl fs.s mrss hg.ncS hg.srv rest #[] o buf ho hloc
  | srvDisconnectAll =>
    intro mrss rest o buf ho
    exact SrcTie.tr_disconnect_all_local (ε := Empty) a hl fs.s mrss hg.ncS hg.srv rest #[] o buf ho hloc
  | _ => trivial

theorem fstep_sim (a : AEAD) (hl : a.Laws) (cid : Nat) {fs : FS} {g : GFS} (hg : FSGood fs) (sim : SimFS fs g) (op : FSOp)
    (hrg : FSOpInRange fs op) (ht : OpTie a fs op) :
    match fs.step a cid (cutOp op) with
    | some fs' => ∃ g', g.step a cid op = some g' ∧ SimFS fs' g' ∧ FSGood fs'
    | none => g.step a cid op = none := by
  obtain ⟨mrs, hrc⟩ := sim.rc
  obtain ⟨mrss, hrs⟩ := sim.rs
  have hsg := hg.srv
  cases op with
  | cliSend ch m =>
    simp only [cutOp, FS.step, GFS.step, hrc]
    rcases (ep_send mrs hg.cli hrg.2 ch m hrg.1).map_cases with ⟨r', hm, e⟩ | ⟨_, _, hm, e⟩
    · rw [hm, e]
      exact ⟨_, rfl, { sim with
          rc := ⟨mrs, rfl⟩
          subC := gpush_if_map (gAccepted_repr _ _ _ _ _) sim.subC ch m
          subCU := gpush_if_map (gOfferedU_repr _ _ _) sim.subCU ch m },
        { hg with cli := hg.cli.sendMessage hm }⟩
    · rw [hm, e]
  | cliRecv ch =>
    simp only [cutOp, FS.step, GFS.step, hrc]
    rcases (ep_receive mrs hg.cli hrg ch).map_cases with ⟨⟨r', o⟩, hm, e⟩ | ⟨_, _, hm, e⟩
    · rw [hm, e]
      cases o with
      | none => exact ⟨_, rfl, { sim with rc := ⟨mrs, rfl⟩ }, { hg with cli := hg.cli.receiveMessage hm }⟩
      | some msg =>
        exact ⟨_, rfl, { sim with rc := ⟨mrs, rfl⟩, obtC := gpush_map _ _ sim.obtC ch msg },
          { hg with cli := hg.cli.receiveMessage hm }⟩
    · rw [hm, e]
  | cliTick dt =>
    simp only [cutOp, FS.step, GFS.step, hrc]
    rcases (ep_update mrs hg.cli hrg.1 dt hrg.2).map_cases with ⟨r', hm, e⟩ | ⟨_, _, hm, e⟩
    · rw [hm, e]
      exact ⟨_, rfl, { sim with rc := ⟨mrs, rfl⟩ }, { hg with cli := hg.cli.update hm }⟩
    · rw [hm, e]
  | cliDisconnect =>
    simp only [cutOp, FS.step, GFS.step, hrc, SrcTie.conn_disconnect (ε := Empty) mrs fs.c.renet]
    exact ⟨_, rfl, { sim with rc := ⟨mrs, rfl⟩ }, { hg with cli := hg.cli.disconnectWith _ }⟩
  | cliTransportDisconnect =>
    obtain ⟨rest, out, o, buf, ho, hb, htc⟩ := sim.tc
    have e0 : ({ g.tc with socket := clearLog g.tc.socket } : SClientTransport) = ctrR rest #[] o fs.c.netcode buf := by
      rw [htc]; rfl
    have tie := SrcTie.ctr_disconnect (ε := Empty) a hl fs.c.netcode fs.c.renet rest #[] o buf ho
    simp only [cutOp, FS.step, GFS.step, e0, SrcTie.ctr_disconnect_model]
    cases hm : clientDisconnectFrom a ⟨fs.c.netcode, fs.c.renet⟩ #[] with
    | ok v =>
      obtain ⟨g', out'⟩ := v
      rw [hm] at tie
      obtain ⟨o', ho', hren, hgen⟩ := tie
      obtain ⟨hci, hre⟩ := clientDisconnectFrom_inv hm hg.ncC
      rw [hgen]
      refine ⟨_, rfl, { sim with tc := ⟨rest, out', o', buf, ho', hb, rfl⟩, rc := ⟨mrs, ?_⟩ },
        { hg with cli := ?_, ncC := hci }⟩
      · show g.rc = reprConn mrs g'.renet
        rw [hren]; exact hrc
      · show EpGood g'.renet
        rw [hren]; exact hg.cli
    | err e => exact nomatch e
    | panic msg =>
      rw [hm] at tie
      obtain ⟨m', e⟩ := tie
      rw [e]
  | srvSend ch m =>
    simp only [cutOp, FS.step, GFS.step, hrs]
    have tie := SrcTie.server_send_message (ε := Empty) mrss fs.s.renet cid ch m hsg.sorted
      (fun c hf => sendMsgOk_of (hsg.find hf) (hrg.2 (cid, c) (SMap.mem_of_find? hf)) ch m hrg.1)
    rcases tie.map_cases with ⟨rs', hm, e⟩ | ⟨_, _, hm, e⟩
    · rw [hm, e]
      simp only [gtrackSeq_repr, sim.ySeq]
      exact ⟨_, rfl, { sim with
          rs := ⟨mrss, rfl⟩
          ySeq := rfl
          subS := gpush_if_map (gacc_repr mrss fs.s.renet rs' cid ch) sim.subS ch m
          subSU := gpush_if_map (goff_repr mrss fs.s.renet cid ch) sim.subSU ch m },
        { hg with srv := hsg.sendMessage hm }⟩
    · rw [hm, e]
  | srvRecv ch =>
    simp only [cutOp, FS.step, GFS.step, hrs]
    have tie := SrcTie.server_receive_message (ε := Empty) mrss fs.s.renet cid ch hsg.sorted
      (fun c hf => recvOk_of (hsg.find hf) (hrg (cid, c) (SMap.mem_of_find? hf)) ch)
    rcases tie.map_cases with ⟨⟨rs', o⟩, hm, e⟩ | ⟨_, _, hm, e⟩
    · rw [hm, e]
      cases o with
      | none =>
        simp only [Option.map_none, gtrackSeq_repr, sim.ySeq]
        exact ⟨_, rfl, { sim with rs := ⟨mrss, rfl⟩, ySeq := rfl }, { hg with srv := hsg.receiveMessage hm }⟩
      | some msg =>
        simp only [Option.map_some, gtrackSeq_repr, sim.ySeq]
        exact ⟨_, rfl, { sim with rs := ⟨mrss, rfl⟩, ySeq := rfl, obtS := gpush_map _ _ sim.obtS ch msg },
          { hg with srv := hsg.receiveMessage hm }⟩
    · rw [hm, e]
  | srvTick dt =>
    simp only [cutOp, FS.step, GFS.step, hrs]
    have tie := SrcTie.server_update (ε := Empty) mrss fs.s.renet dt
      (fun p hp => updateOk_of (hsg.conns p hp) (hrg.1 p hp) dt (hrg.2 p hp))
    rcases tie.map_cases with ⟨rs', hm, e⟩ | ⟨_, _, hm, e⟩
    · rw [hm, e]
      simp only [gtrackSeq_repr, sim.ySeq]
      exact ⟨_, rfl, { sim with rs := ⟨mrss, rfl⟩, ySeq := rfl }, { hg with srv := hsg.update hm }⟩
    · rw [hm, e]
  | srvDisconnect =>
    simp only [cutOp, FS.step, GFS.step, hrs, SrcTie.server_disconnect (ε := Empty) mrss fs.s.renet cid hsg.sorted,
      gtrackSeq_repr, sim.ySeq]
    exact ⟨_, rfl, { sim with rs := ⟨mrss, rfl⟩, ySeq := rfl }, { hg with srv := hsg.disconnect cid }⟩
  | _ => exact fstep_sim_tr a cid hg sim _ ht trivial

/-- **the side condition of a run** (decidable): before every operation (as far as the model run on the cut inboxes gets)
    the range condition `FSOpInRange` of the state and the local condition `OpLocalOk` of the transport call -/
def FSRunOK (a : AEAD) (cid : Nat) (fs : FS) : List FSOp → Prop
  | [] => True
  | op :: ops => FSOpInRange fs op ∧ OpLocalOk a fs op ∧
      match fs.step a cid (cutOp op) with
      | some fs' => FSRunOK a cid fs' ops
      | none => True

instance decFSRunOK (a : AEAD) (cid : Nat) : ∀ (fs : FS) (ops : List FSOp), Decidable (FSRunOK a cid fs ops)
  | _, [] => isTrue trivial
  | fs, op :: ops => by
    unfold FSRunOK
    have : Decidable (match fs.step a cid (cutOp op) with | some fs' => FSRunOK a cid fs' ops | none => True) := by
      cases fs.step a cid (cutOp op) with
      | none => exact isTrue trivial
      | some fs' => exact decFSRunOK a cid fs' ops
    infer_instance

/-- the state-range part alone -/
def FSRunInRange (a : AEAD) (cid : Nat) (fs : FS) : List FSOp → Prop
  | [] => True
  | op :: ops => FSOpInRange fs op ∧
      match fs.step a cid (cutOp op) with
      | some fs' => FSRunInRange a cid fs' ops
      | none => True

instance decFSRunInRange (a : AEAD) (cid : Nat) : ∀ (fs : FS) (ops : List FSOp), Decidable (FSRunInRange a cid fs ops)
  | _, [] => isTrue trivial
  | fs, op :: ops => by
    unfold FSRunInRange
    have : Decidable (match fs.step a cid (cutOp op) with | some fs' => FSRunInRange a cid fs' ops | none => True) := by
      cases fs.step a cid (cutOp op) with
      | none => exact isTrue trivial
      | some fs' => exact decFSRunInRange a cid fs' ops
    infer_instance

theorem frun_sim_from (a : AEAD) (hl : a.Laws) (cid : Nat) : ∀ (ops : List FSOp) (fs : FS) (g : GFS), FSGood fs → SimFS fs g →
    FSRunOK a cid fs ops →
    match fs.run a cid (ops.map cutOp) with
    | some fs' => ∃ g', g.run a cid ops = some g' ∧ SimFS fs' g' ∧ FSGood fs'
    | none => g.run a cid ops = none := by
  intro ops
  induction ops with
  | nil => intro fs g hg hsim _; exact ⟨g, rfl, hsim, hg⟩
  | cons op ops ih =>
    intro fs g hg hsim hok
    obtain ⟨hrg, hloc, hrest⟩ := hok
    have hstep := fstep_sim a hl cid hg hsim op hrg (opTie_of_local a hl hg op hrg hloc)
    simp only [List.map_cons, FS.run, GFS.run]
    cases hs : fs.step a cid (cutOp op) with
    | none =>
      rw [hs] at hstep
      simp only [hstep]
    | some fs' =>
      rw [hs] at hstep hrest
      obtain ⟨g', e, hsim', hg'⟩ := hstep
      simp only [e]
      exact ih fs' g' hg' hsim' hrest

theorem frun_sim (a : AEAD) (hl : a.Laws) (cid : Nat) (ops : List FSOp) (fs0 fs : FS) (g0 : GFS) (hg : FSGood fs0)
    (hsim : SimFS fs0 g0) (hok : FSRunOK a cid fs0 ops) (hr : fs0.run a cid (ops.map cutOp) = some fs) :
    ∃ g, g0.run a cid ops = some g ∧ SimFS fs g ∧ FSGood fs := by
  have := frun_sim_from a hl cid ops fs0 g0 hg hsim hok
  rw [hr] at this
  exact this

theorem frun_sim_conv (a : AEAD) (hl : a.Laws) (cid : Nat) (ops : List FSOp) (fs0 : FS) (g0 g : GFS) (hg : FSGood fs0)
    (hsim : SimFS fs0 g0) (hok : FSRunOK a cid fs0 ops) (hr : g0.run a cid ops = some g) :
    ∃ fs, fs0.run a cid (ops.map cutOp) = some fs ∧ SimFS fs g ∧ FSGood fs := by
  have := frun_sim_from a hl cid ops fs0 g0 hg hsim hok
  cases hm : fs0.run a cid (ops.map cutOp) with
  | none => rw [hm] at this; rw [hr] at this; cases this
  | some fs =>
    rw [hm] at this
    obtain ⟨g', e, hs, hgd⟩ := this
    rw [hr] at e; cases e
    exact ⟨fs, rfl, hs, hgd⟩

/-- the canonical generated representation of a model state (zeroed buffers, empty sockets) -/
def gOf (fs : FS) : GFS :=
  { tc := ctrR [] #[] (List.replicate C.NETCODE_MAX_PACKET_BYTES 0) fs.c.netcode (List.replicate C.TRANSPORT_CLIENT_BUFFER 0)
    rc := reprConn (fun _ => 0) fs.c.renet
    ts := trR [] #[] (List.replicate C.NETCODE_MAX_PACKET_BYTES 0) fs.s.netcode (List.replicate C.TRANSPORT_SERVER_BUFFER 0)
    rs := reprServer (fun _ _ => 0) fs.s.renet
    emC := fs.emC.map reprDgram, emS := fs.emS.map reprDgram, ySeq := fs.ySeq
    subC := fun ch => (fs.subC ch).map toNats, subCU := fun ch => (fs.subCU ch).map toNats
    obtS := fun ch => (fs.obtS ch).map toNats, subS := fun ch => (fs.subS ch).map toNats
    subSU := fun ch => (fs.subSU ch).map toNats, obtC := fun ch => (fs.obtC ch).map toNats }

theorem simFS_gOf (fs : FS) : SimFS fs (gOf fs) :=
  ⟨⟨[], #[], _, _, List.length_replicate, List.length_replicate, rfl⟩, ⟨_, rfl⟩,
   ⟨[], #[], _, _, List.length_replicate, List.length_replicate, rfl⟩, ⟨_, rfl⟩, rfl, rfl, rfl, fun _ => rfl, fun _ => rfl,
   fun _ => rfl, fun _ => rfl, fun _ => rfl, fun _ => rfl⟩

/-! ## the counter hypotheses of `Props/C20F.lean`, on the generated state -/

structure GCountersUp (cfg : Cfg) (g : GFS) : Prop where
  chan : ∀ c ∈ cfg.send, c.id < 256
  seq : g.rc.packet_sequence ≤ Varint.MAX + 1
  ids : ∀ c ∈ cfg.send, (g.subC c.id).length ≤ Varint.MAX + 1
  lens : ∀ c ∈ cfg.send, ∀ m ∈ g.subC c.id, m.length ≤ MAX_NUM_SLICES * SLICE_SIZE
  lensU : ∀ c ∈ cfg.send, ∀ m ∈ g.subCU c.id, m.length ≤ MAX_NUM_SLICES * SLICE_SIZE

structure GCountersDown (cfg : Cfg) (g : GFS) : Prop where
  chan : ∀ c ∈ cfg.recv, c.id < 256
  seq : g.ySeq ≤ Varint.MAX + 1
  ids : ∀ c ∈ cfg.recv, (g.subS c.id).length ≤ Varint.MAX + 1
  lens : ∀ c ∈ cfg.recv, ∀ m ∈ g.subS c.id, m.length ≤ MAX_NUM_SLICES * SLICE_SIZE
  lensU : ∀ c ∈ cfg.recv, ∀ m ∈ g.subSU c.id, m.length ≤ MAX_NUM_SLICES * SLICE_SIZE

instance (cfg : Cfg) (g : GFS) : Decidable (GCountersUp cfg g) :=
  decidable_of_iff (_ ∧ _ ∧ _ ∧ _ ∧ _)
    ⟨fun h => ⟨h.1, h.2.1, h.2.2.1, h.2.2.2.1, h.2.2.2.2⟩, fun h => ⟨h.chan, h.seq, h.ids, h.lens, h.lensU⟩⟩
instance (cfg : Cfg) (g : GFS) : Decidable (GCountersDown cfg g) :=
  decidable_of_iff (_ ∧ _ ∧ _ ∧ _ ∧ _)
    ⟨fun h => ⟨h.1, h.2.1, h.2.2.1, h.2.2.2.1, h.2.2.2.2⟩, fun h => ⟨h.chan, h.seq, h.ids, h.lens, h.lensU⟩⟩

theorem countersUp_of_sim {cfg : Cfg} {fs : FS} {g : GFS} (sim : SimFS fs g) (hc : GCountersUp cfg g) : CountersUp cfg fs := by
  obtain ⟨mrs, hrc⟩ := sim.rc
  refine ⟨hc.chan, ?_, fun c hcs => length_le_of_map (sim.subC c.id) (hc.ids c hcs),
    fun c hcs => len_le_of_map (sim.subC c.id) (hc.lens c hcs), fun c hcs => len_le_of_map (sim.subCU c.id) (hc.lensU c hcs)⟩
  have h := hc.seq
  rw [hrc] at h
  exact h

theorem countersDown_of_sim {cfg : Cfg} {fs : FS} {g : GFS} (sim : SimFS fs g) (hc : GCountersDown cfg g) :
    CountersDown cfg fs := by
  refine ⟨hc.chan, ?_, fun c hcs => length_le_of_map (sim.subS c.id) (hc.ids c hcs),
    fun c hcs => len_le_of_map (sim.subS c.id) (hc.lens c hcs), fun c hcs => len_le_of_map (sim.subSU c.id) (hc.lensU c hcs)⟩
  rw [← sim.ySeq]
  exact hc.seq

/-! ## the per-call ties from the closed ties of `SrcTieTrClosed.lean`

  For a range predicate `Rg` with `RangeClosed Rg` (it implies the range conditions and is kept by `process_packet`,
  `get_packets_to_send`, `disconnect_with_reason`, `set_connected`, `set_connecting` on EVERY input) that holds of the client's
  connection, of every connection of the server table and of a fresh connection, every `OpTie` holds.
  CAVEAT: `RangeClosed Rg` asks `Rg` to survive arbitrarily long sequences of `process_packet` / `get_packets_to_send`, along
  which `packet_sequence` grows without bound while `Rg` must imply `flushSeq ≤ 2^60`; so for a LIVE connection no such `Rg`
  holds, and this derivation is of use only for connections that are already disconnected.  For live sessions the ties come
  from the local condition of the ONE call (`opTie_of_local`). -/

theorem rangeClosed_nodup {Rg : Conn → Prop} (hR : RangeClosed Rg) : RangeClosed (fun c => Rg c ∧ RecvNodup c) :=
  ⟨fun h => hR.send h.1, fun h => hR.recv h.1, fun h => hR.sendB h.1, fun h r => ⟨hR.dw h.1 r, h.2.disconnectWith r⟩,
   fun h => ⟨hR.sc h.1, h.2.setConnected⟩, fun h => ⟨hR.sg h.1, h.2.setConnecting⟩,
   fun h hr => ⟨hR.pp h.1 hr, recvNodup_kept.processPacket trivial h.2 hr⟩, fun h hr => ⟨hR.gp h.1 hr, recvNodup_kept.getPacketsToSend trivial h.2 hr⟩⟩

theorem connGood_of {Rg : Conn → Prop} {c : Conn} (h : EpGood c) (hr : Rg c) : ConnGood (fun c => Rg c ∧ RecvNodup c) c :=
  ⟨h.sinv, h.sorted, h.tinv, hr, h.nodup⟩
theorem epGood_of_connGood {Rg : Conn → Prop} {c : Conn} (h : ConnGood (fun c => Rg c ∧ RecvNodup c) c) : EpGood c :=
  ⟨h.sinv, h.sorted, h.tinv, h.rg.2⟩

theorem serverGood_of {Rg : Conn → Prop} {s : Server} (h : SGood s) (hr : ∀ x ∈ s.conns, Rg x.2)
    (hf : Rg s.newConn.setConnected) : ServerGood (fun c => Rg c ∧ RecvNodup c) s :=
  ⟨h.sorted, h.cfg, fun x hx => connGood_of (h.conns x hx) (hr x hx), hf, (epGood_newConn s).nodup⟩
theorem sGood_of_serverGood {Rg : Conn → Prop} {s : Server} (h : ServerGood (fun c => Rg c ∧ RecvNodup c) s) : SGood s :=
  ⟨h.sorted, h.cfg, fun x hx => epGood_of_connGood (h.conns x hx)⟩

theorem cliTrOut_mono {R R' : Conn → SRenetClient → Prop} {I : NetcodeClient → Prop} {bl : Nat} {res : Except TransportError Unit}
    {g' : ClientGlue} {out' : Array Dgram} {rest : List Dgram} {x : Res CTrErr (SClientTransport × SRenetClient × Unit)}
    (himp : ∀ c g, R c g → R' c g) (h : CliTrOut R I bl res g' out' rest x) : CliTrOut R' I bl res g' out' rest x := by
  obtain ⟨o', buf', gr', h1, h2, h3, h4, h5⟩ := h
  exact ⟨o', buf', gr', h1, h2, h3, himp _ _ h4, h5⟩

theorem trOut_mono {ε : Type} {R R' : Server → SRenetServer → Prop} {I : NetcodeServer → Prop} {inbox : List Dgram} {bl : Nat}
    {m : Res Empty (ServerGlue × Array Dgram)} {x : Res ε (SServerTransport × SRenetServer × Unit)}
    (himp : ∀ s g, R s g → R' s g) (h : TrOut R I inbox bl m x) : TrOut R' I inbox bl m x := by
  unfold TrOut at h ⊢
  cases m with
  | ok v =>
    obtain ⟨g', out'⟩ := v
    obtain ⟨o', buf', gr', h1, h2, h3, h4, h5⟩ := h
    exact ⟨o', buf', gr', h1, h2, h3, himp _ _ h4, h5⟩
  | err e => exact nomatch e
  | panic msg => exact h

/-- the per-call ties from a run-closed range predicate (see the caveat above) -/
theorem opTie_of_closed (a : AEAD) (hl : a.Laws) {Rg : Conn → Prop} (hR : RangeClosed Rg) {fs : FS} (hg : FSGood fs)
    (hc : Rg fs.c.renet) (hs : ∀ x ∈ fs.s.renet.conns, Rg x.2) (hf : Rg fs.s.renet.newConn.setConnected) (op : FSOp)
    (hrg : FSOpInRange fs op) : OpTie a fs op := by
  have hR' := rangeClosed_nodup hR
  have hcg := connGood_of hg.cli hc
  have hsg := serverGood_of hg.srv hs hf
  have hci : ∀ c g, (ConnGood (fun c => Rg c ∧ RecvNodup c) c ∧ ∃ mrs, g = reprConn mrs c) → RcRel c g :=
    fun c g h => ⟨epGood_of_connGood h.1, h.2⟩
  have hsi : ∀ s g, (ServerGood (fun c => Rg c ∧ RecvNodup c) s ∧ ∃ mrss, g = reprServer mrss s) → RsRel s g :=
    fun s g h => ⟨sGood_of_serverGood h.1, h.2⟩
  cases op with
  | cliUpdate d inbox =>
    intro mrs o buf ho hb
    have T := SrcTie.ctr_update_closed a hl hR' fs.c mrs hg.ncC hcg d inbox hrg #[] o buf ho hb
    cases hm : clientUpdateFrom a fs.c d (inbox.map (recvFrom C.TRANSPORT_CLIENT_BUFFER)) #[] with
    | ok r =>
      rw [hm] at T
      obtain ⟨rest, -, h⟩ := T
      exact ⟨rest, cliTrOut_mono hci h⟩
    | err e => exact nomatch e
    | panic msg => rw [hm] at T; exact T
  | cliSendPackets =>
    intro mrs rest o buf ho
    have T := SrcTie.ctr_send_packets_closed a hl hR' fs.c mrs hg.ncC hcg rest #[] o buf ho
    cases hm : clientSendPacketsFrom a fs.c #[] with
    | ok v =>
      obtain ⟨res, g', out'⟩ := v
      rw [hm] at T
      exact cliTrOut_mono hci T
    | err e => exact nomatch e
    | panic msg => rw [hm] at T; exact T
  | srvUpdate d inbox =>
    intro mrss o buf ho hb
    exact trOut_mono hsi (SrcTie.tr_update_closed a hl hR' fs.s mrss hg.ncS hsg d inbox hrg #[] o buf ho hb)
  | srvSendPackets =>
    intro mrss rest o buf ho
    exact trOut_mono hsi (SrcTie.tr_send_packets_closed (ε := Empty) a hl hR' fs.s mrss hg.ncS hsg rest #[] o buf ho)
  | srvDisconnectAll =>
    intro mrss rest o buf ho
    exact trOut_mono hsi (SrcTie.tr_disconnect_all_closed (ε := Empty) a hl hR' fs.s mrss hg.ncS hsg rest #[] o buf ho)
  | _ => trivial

/-! ## the model invariants through one transport `update` (read off the local ties) -/

theorem srvUpdate_good (a : AEAD) (hl : a.Laws) {g g' : ServerGlue} {out : Array Dgram} (d : Nat) (inbox : List Dgram)
    (hi : NS.ServerInv g.netcode) (hg : SGood g.renet) (hin : inbox.length + 1 < 2 ^ 64)
    (hok : SrvUpdateOk a g d (inbox.map (recvFrom C.TRANSPORT_SERVER_BUFFER)) #[])
    (hm : serverUpdate a g d (inbox.map (recvFrom C.TRANSPORT_SERVER_BUFFER)) = .ok (g', out)) :
    NS.ServerInv g'.netcode ∧ SGood g'.renet := by
  have T := SrcTie.tr_update_local a hl g (fun _ _ => 0) hi hg d inbox hin #[] (List.replicate C.NETCODE_MAX_PACKET_BYTES 0)
    (List.replicate C.TRANSPORT_SERVER_BUFFER 0) List.length_replicate List.length_replicate hok
  unfold TrOut at T
  have hm' : serverUpdateFrom a g d (inbox.map (recvFrom C.TRANSPORT_SERVER_BUFFER)) #[] = .ok (g', out) := hm
  rw [hm'] at T
  obtain ⟨_, _, _, _, _, hI, ⟨hgd, _⟩, _⟩ := T
  exact ⟨hI, hgd⟩

theorem cliUpdate_good (a : AEAD) (hl : a.Laws) {g : ClientGlue} {r : ClientOut} (d : Nat) (inbox : List Dgram)
    (hi : CliInv g.netcode) (hg : EpGood g.renet) (hin : inbox.length + 1 < 2 ^ 64)
    (hok : CliUpdateOk a g (inbox.map (recvFrom C.TRANSPORT_CLIENT_BUFFER)))
    (hm : clientUpdate a g d (inbox.map (recvFrom C.TRANSPORT_CLIENT_BUFFER)) = .ok r) :
    CliInv r.g.netcode ∧ EpGood r.g.renet := by
  have T := SrcTie.ctr_update_local a hl g (fun _ => 0) hi hg d inbox hin #[] (List.replicate C.NETCODE_MAX_PACKET_BYTES 0)
    (List.replicate C.TRANSPORT_CLIENT_BUFFER 0) List.length_replicate List.length_replicate hok
  rw [← SrcTie.ctr_update_model, hm] at T
  obtain ⟨_, _, _, _, _, _, _, hI, ⟨hgd, _⟩, _⟩ := T
  exact ⟨hI, hgd⟩

end RenetVerif.SrcFullStack
