/-
  `renetcode/src/token.rs` (group NcTokenGen): `PrivateConnectToken::generate`, `ConnectToken::generate` against
  `Netcode/Token.lean`.  The calls of `generate_random_bytes()` are explicit parameters `rand1 ..` of the generated
  definitions, in textual order of the call sites; the model takes the same bytes as arguments.
  The ties themselves are in `Props/SrcTieNcTokenGen.lean`.
-/
import RenetVerif.Generated.Src.NcTokenGen
import RenetVerif.Lemmas.SrcEquiv.NcCodec
namespace RenetVerif.SrcEquiv
open RenetVerif RenetVerif.RustSem RenetVerif.Netcode

section NcTokenGen

/-- the `for (i, addr) in server_addresses.into_iter().enumerate()` loop: slots `i ..` of the array are filled in order -/
theorem fill_loop {ε ρ : Type} (site : String) : ∀ (addrs : List Addr) (i : Nat) (arr : List (Option RustSem.SocketAddr)),
    i + addrs.length ≤ arr.length →
    (RustSem.forEach (RustSem.enumerate.go i (addrs.map reprAddr)) arr (fun (x : Nat × RustSem.SocketAddr) (st : List (Option RustSem.SocketAddr)) =>
        (RustSem.set st x.1 (some x.2) site : Exec ε ρ _).bind fun t1 => Exec.val t1))
      = .val (arr.take i ++ addrs.map (fun x => some (reprAddr x)) ++ arr.drop (i + addrs.length)) := by
  intro addrs
  induction addrs with
  | nil => intro i arr _; simp [RustSem.enumerate.go, RustSem.forEach]
  | cons x r ih =>
    intro i arr h
    simp only [List.length_cons] at h
    simp only [List.map_cons, RustSem.enumerate.go, RustSem.forEach]
    rw [set_val (by omega), Exec.bind_val', Exec.bind_val', ih (i + 1) _ (by simp only [List.length_set]; omega)]
    congr 1
    have h1 : (arr.set i (some (reprAddr x))).take (i + 1) = arr.take i ++ [some (reprAddr x)] := by
      rw [List.take_add_one, List.take_set_of_le (Nat.le_refl i), List.getElem?_set_self (by omega)]; rfl
    have h2 : (arr.set i (some (reprAddr x))).drop (i + 1 + r.length) = arr.drop (i + (r.length + 1)) := by
      rw [List.drop_set_of_lt (by omega)]
      congr 1; omega
    rw [h1, h2]
    simp [List.append_assoc]

end NcTokenGen
end RenetVerif.SrcEquiv
