/-
  C13, last clause: "… at most NETCODE_MAX_PACKET_BYTES (1400), the size of the transports' receive buffers.
  Otherwise the transport would drop that client's traffic every tick."

  The transports read the socket with `recv_from(&mut self.buffer)`, which cuts a longer datagram to the
  buffer (`Transport.recvFrom`, applied by the transport driver to everything a model socket hands out).  The
  buffer sizes are read from renet_netcode's source on every run (`Generated/Consts`).  Every datagram either
  netcode endpoint emits passes `recvFrom` unchanged, for both transports, so truncation never happens to
  genuine traffic — for any payload within the limit, any sequence number, any key.
-/
import RenetVerif.Props.C13N
import RenetVerif.Transport.Glue
namespace RenetVerif.C13T
open RenetVerif RenetVerif.Netcode RenetVerif.Netcode.Packet RenetVerif.Transport

theorem recvFrom_id_of_le {cap : Nat} (d : Dgram) (h : d.2.length ≤ cap) : recvFrom cap d = d := by
  unfold recvFrom
  rw [List.take_of_length_le h]

/-- a datagram of at most NETCODE_MAX_PACKET_BYTES is handed to the netcode layer whole by both transports -/
theorem recv_from_keeps_every_datagram (d : Dgram) (h : d.2.length ≤ Netcode.C.NETCODE_MAX_PACKET_BYTES) :
    recvFrom RenetVerif.C.TRANSPORT_SERVER_BUFFER d = d ∧ recvFrom RenetVerif.C.TRANSPORT_CLIENT_BUFFER d = d :=
  ⟨recvFrom_id_of_le d (Nat.le_trans h C13N.transport_buffers_hold_max_datagram.1),
   recvFrom_id_of_le d (Nat.le_trans h C13N.transport_buffers_hold_max_datagram.2)⟩

/-- server → client: whatever `generate_payload_packet` of the server emits reaches the client's netcode layer
    byte for byte -/
theorem server_payload_datagram_received_whole (a : AEAD) (hl : a.Laws) {s s' : NetcodeServer} {cid : Nat}
    {payload out : Bytes} {addr src : Addr}
    (h : NetcodeServer.generatePayloadPacket a s cid payload = .ok ((addr, out), s')) :
    recvFrom RenetVerif.C.TRANSPORT_CLIENT_BUFFER (src, out) = (src, out) :=
  (recv_from_keeps_every_datagram (src, out) (C13N.server_generate_payload_packet a hl h)).2

/-- client → server -/
theorem client_payload_datagram_received_whole (a : AEAD) (hl : a.Laws) {c c' : NetcodeClient}
    {payload out : Bytes} {addr src : Addr}
    (h : NetcodeClient.generatePayloadPacket a c payload = .ok ((addr, out), c')) :
    recvFrom RenetVerif.C.TRANSPORT_SERVER_BUFFER (src, out) = (src, out) :=
  (recv_from_keeps_every_datagram (src, out) (C13N.client_generate_payload_packet a hl h)).1

/-- handshake, keep-alive and disconnect datagrams of the server (`update_client`, `disconnect`,
    `process_packet` answers) -/
theorem server_control_datagram_received_whole (a : AEAD) (hl : a.Laws) {p : Netcode.Packet} {cap proto : Nat}
    {crypto : Option (Nat × Bytes)} {out : Bytes} {src : Addr}
    (h : Netcode.Packet.encode a p cap proto crypto = .ok out) (hc : cap ≤ Netcode.C.NETCODE_MAX_PACKET_BYTES) :
    recvFrom RenetVerif.C.TRANSPORT_CLIENT_BUFFER (src, out) = (src, out) ∧
    recvFrom RenetVerif.C.TRANSPORT_SERVER_BUFFER (src, out) = (src, out) :=
  have hle : out.length ≤ Netcode.C.NETCODE_MAX_PACKET_BYTES := Nat.le_trans (C13N.encode_fits_buffer a hl h) hc
  ⟨(recv_from_keeps_every_datagram (src, out) hle).2, (recv_from_keeps_every_datagram (src, out) hle).1⟩

/-! ### non-vacuity, and the witness that a smaller buffer would lose traffic -/

/-- the largest legal payload (1300 bytes) under a sequence number that takes all 8 bytes: a 1325-byte datagram survives -/
example : recvFrom RenetVerif.C.TRANSPORT_CLIENT_BUFFER
      (.v4 [1, 2, 3, 4] 5, sealedBytes AEAD.toy (.payload C13N.big) 42 (2 ^ 63) C13N.key)
    = (.v4 [1, 2, 3, 4] 5, sealedBytes AEAD.toy (.payload C13N.big) 42 (2 ^ 63) C13N.key) :=
  (recv_from_keeps_every_datagram _ (C13N.payload_encodes AEAD.toy AEAD.toy_laws C13N.big C13N.big_len 42 (2 ^ 63) C13N.key).2.2).2

/-- a receive buffer of NETCODE_MAX_PAYLOAD_BYTES (1300) would cut that datagram: the bound is needed -/
example : (recvFrom Netcode.C.NETCODE_MAX_PAYLOAD_BYTES
      ((.v4 [1, 2, 3, 4] 5 : Addr), sealedBytes AEAD.toy (.payload C13N.big) 42 (2 ^ 63) C13N.key)).2.length = 1300 := by
  decide +kernel

end RenetVerif.C13T
