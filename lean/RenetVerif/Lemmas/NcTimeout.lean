/-
  Netcode time-outs (safety / single-step half of property C18): server-side session time-out and keep-alive,
  expiry of half-open sessions, which datagrams refresh a session's receive timer, client-side time-outs and failover.
-/
import RenetVerif.Lemmas.NcTableEvents
namespace RenetVerif.Netcode
namespace NS
open RenetVerif

theorem server_timeout (a : AEAD) {s : NetcodeServer} {id i : Nat} {c : Connection} (hi : ServerInv s)
    (hc : At s.clients i c) (hid : c.clientId = id) (hclock : s.currentTime + fromSecs (2 ^ 31) ≤ DURATION_MAX)
    (hto : c.timeoutSeconds > 0 ∧ c.lastPacketReceivedTime + fromSecs c.timeoutSeconds.toNat < s.currentTime) :
    ∃ o, s.updateClient a id = .ok (.clientDisconnected id c.addr o, { s with clients := s.clients.set i none }) := by
  have hf : findClientSlotById s.clients id = some i := hi.slots.findSlot_iff.mpr ⟨c, hc, hid⟩
  have hok := hi.slotsOK i c hc
  have hns : fromSecs c.timeoutSeconds.toNat ≤ fromSecs (2 ^ 31) := by
    unfold fromSecs
    apply Nat.mul_le_mul_right
    have := hok.tmo
    omega
  have h1 := hok.recv
  rcases updateClient_cases a hf hc with ⟨_, o, _, e⟩ | ⟨hnt, _⟩ | ⟨_, hn | ⟨hnt, _⟩⟩
  · exact ⟨o, e⟩
  · exact absurd hto hnt
  · exact absurd (by omega) hn
  · exact absurd hto hnt

theorem server_timeout_packet (a : AEAD) {s s' : NetcodeServer} {id i : Nat} {c : Connection} {ad : Addr}
    {o : Option Bytes} (hi : ServerInv s) (hc : At s.clients i c) (hid : c.clientId = id)
    (h : s.updateClient a id = .ok (.clientDisconnected id ad o, s')) :
    ad = c.addr ∧ TimedOut c s.currentTime ∧ s' = { s with clients := s.clients.set i none } ∧
    (∀ out, Packet.disconnect.encode a C.NETCODE_MAX_PACKET_BYTES s.protocolId (some (c.sequence, c.sendKey)) = .ok out →
      o = some out) := by
  have hf : findClientSlotById s.clients id = some i := hi.slots.findSlot_iff.mpr ⟨c, hc, hid⟩
  have hst : c.state ≠ .disconnected := by rw [hi.slots.conn i c hc]; nofun
  rcases updateClient_cases a hf hc with ⟨hto, o', ho, e⟩ | ⟨_, _, ⟨e, -⟩ | ⟨out, _, _, _, e⟩⟩ | ⟨⟨m, e⟩, _⟩ <;>
    rw [e] at h <;> cases h
  exact ⟨rfl, hto.resolve_right hst, rfl, fun out hen => (ho out).mp hen⟩

theorem no_spurious_timeout {c : Connection} {now : Nat}
    (h : c.timeoutSeconds ≤ 0 ∨ now ≤ c.lastPacketReceivedTime + fromSecs c.timeoutSeconds.toNat) :
    ¬ TimedOut c now := by
  rintro ⟨h1, h2⟩
  rcases h with h | h <;> omega

theorem pending_expire {s s' : NetcodeServer} {d : Nat} (h : s.update d = .ok s') :
    s'.currentTime = s.currentTime + d ∧ s'.clients = s.clients ∧
    (∀ p, p ∈ s'.pendingClients ↔ p ∈ s.pendingClients ∧ asSecs (s.currentTime + d) ≤ p.2.expireTimestamp) ∧
    (∀ x p, pendingFind s.pendingClients x = some p → asSecs (s.currentTime + d) > p.expireTimestamp →
      (s.pendingClients.map (·.1)).Nodup → pendingFind s'.pendingClients x = none) := by
  rw [update_ok h]
  refine ⟨rfl, rfl, ?_, ?_⟩
  · intro p
    simp only [List.mem_filter, Bool.not_eq_true', decide_eq_false_iff_not, Nat.not_lt]
  · intro x p hp hexp hnd
    rw [pendingFind_none]
    intro q hq hx
    simp only [List.mem_filter, Bool.not_eq_true', decide_eq_false_iff_not, Nat.not_lt] at hq
    -- the only entry with key `x` is `(x, p)`, and it is filtered out
    have := pendingFind_of_mem hnd (ad := q.1) (p := q.2) hq.1
    rw [hx, hp] at this
    cases this
    omega

def Authentic (a : AEAD) (s : NetcodeServer) (c : Connection) (buf : Bytes) : Prop :=
  ∃ sq pk w', Packet.decode a buf s.protocolId (some c.receiveKey) (some c.replayProtection) = (.ok (sq, pk), some w') ∧
    (pk.packetType = .keepAlive ∨ pk.packetType = .payload)

/-- `process_packet` seen from one session's slot.  The timer clause is exact — moved (to the server's clock) iff the datagram
    came from the session's address and is `Authentic` — so that either direction can be read off it. -/
theorem pp_session {a : AEAD} {s s' : NetcodeServer} {addr : Addr} {buf : Bytes} {r : ServerResult}
    (hi : ServerInv s) (ho : PPOut a s addr buf r s') {i : Nat} {c : Connection} (hc : At s.clients i c) :
    (c.addr = addr ∧ s'.clients = s.clients.set i none ∧ ∃ sq w',
      Packet.decode a buf s.protocolId (some c.receiveKey) (some c.replayProtection) = (.ok (sq, .disconnect), some w')) ∨
    (∃ c', At s'.clients i c' ∧ ident c' = ident c ∧ (∀ ad o, r ≠ .clientDisconnected c.clientId ad o) ∧
      ((c.addr = addr ∧ Authentic a s c buf ∧ c'.lastPacketReceivedTime = s.currentTime) ∨
        (¬ (c.addr = addr ∧ Authentic a s c buf) ∧ c'.lastPacketReceivedTime = c.lastPacketReceivedTime))) := by
  have hlt := at_lt hc
  by_cases had : c.addr = addr
  · -- the datagram comes from the session's address: it is decoded under the session's key and window
    have hfa : findClientByAddr s.clients addr = some (i, c) := hi.slots.findAddr_iff.mpr ⟨had, hc⟩
    have mine : ∀ {j : Nat} {cj : Connection}, findClientByAddr s.clients addr = some (j, cj) → j = i ∧ cj = c :=
      fun h => Prod.mk.inj (Option.some.inj (h.symm.trans hfa))
    have nodec : ∀ {x : Res NetcodeError (Nat × Packet)} {w' : RP},
        Packet.decode a buf s.protocolId (some c.receiveKey) (some c.replayProtection) = (x, some w') →
        (∀ sq pk, x = .ok (sq, pk) → pk.packetType ≠ .keepAlive ∧ pk.packetType ≠ .payload) →
        ¬ (c.addr = addr ∧ Authentic a s c buf) := by
      rintro x w' hdec hx ⟨-, sq, pk, w'', hd, hk⟩
      rw [hdec] at hd
      cases hd
      exact hk.elim (hx sq pk rfl).1 (hx sq pk rfl).2
    cases ho with
    | short hs =>
      refine Or.inr ⟨c, hc, rfl, nofun, Or.inr ⟨?_, rfl⟩⟩
      rintro ⟨-, sq, pk, w', hdec, -⟩
      exact absurd hs (Packet.not_short_of_ok (congrArg Prod.fst hdec))
    | connErr j cj e w' hfa' hdec =>
      obtain ⟨rfl, rfl⟩ := mine hfa'
      exact Or.inr ⟨_, at_set_self hlt, rfl, nofun, Or.inr ⟨nodec hdec nofun, rfl⟩⟩
    | connDisconnect j cj sq w' hfa' hdec =>
      obtain ⟨rfl, rfl⟩ := mine hfa'
      exact Or.inl ⟨had, rfl, sq, w', hdec⟩
    | connPayload j cj sq p w' hfa' hdec =>
      obtain ⟨rfl, rfl⟩ := mine hfa'
      exact Or.inr ⟨refreshed cj w' s.currentTime, at_set_self hlt, rfl, nofun,
        Or.inl ⟨had, ⟨sq, _, w', hdec, Or.inr rfl⟩, rfl⟩⟩
    | connKeepAlive j cj sq ci mc w' hfa' hdec =>
      obtain ⟨rfl, rfl⟩ := mine hfa'
      exact Or.inr ⟨refreshed cj w' s.currentTime, at_set_self hlt, rfl, nofun,
        Or.inl ⟨had, ⟨sq, _, w', hdec, Or.inl rfl⟩, rfl⟩⟩
    | connOther j cj sq pk w' hfa' hdec h1 h2 h3 =>
      obtain ⟨rfl, rfl⟩ := mine hfa'
      refine Or.inr ⟨_, at_set_self hlt, rfl, nofun, Or.inr ⟨nodec hdec ?_, rfl⟩⟩
      intro sq' pk' e
      cases e
      exact ⟨h3, h2⟩
    | pendErr _ _ _ hfa' | pendOther _ _ _ _ hfa' | respRejected _ _ _ _ _ hfa' | respDropped _ _ _ _ _ hfa'
    | respFull _ _ _ _ _ _ hfa' | newErr _ hfa' | pendRequest _ _ _ _ _ _ _ _ _ _ _ hfa'
    | newRequest _ _ _ _ _ _ _ _ _ hfa' | respConnected _ _ _ _ _ _ _ hfa' =>
      rw [hfa] at hfa'
      cases hfa'
  · -- a datagram from another address does not touch the session (`SlotStep.keeps`); had it been reported
    -- disconnected, its slot would be free
    have hk := (ppOut_slots hi ho).keeps hc had
    refine Or.inr ⟨c, hk, rfl, fun ad o hr => ?_, Or.inr ⟨fun h => had h.1, rfl⟩⟩
    have ht := (ppOut_slots hi ho).tableStep
    rw [hr] at ht
    obtain ⟨j, cj, hj, hidj, -, hset⟩ := ht
    obtain rfl := hi.slots.ids j i cj c hj hc hidj
    rw [hset] at hk
    exact (at_set_none hk).2 rfl

theorem refresh_only_authentic {a : AEAD} {s s' : NetcodeServer} {addr : Addr} {buf : Bytes} {r : ServerResult}
    (hi : ServerInv s) (h : s.processPacket a addr buf = .ok (r, s')) {i : Nat} {c c' : Connection}
    (hc : At s.clients i c) (hc' : At s'.clients i c') :
    c'.lastPacketReceivedTime = c.lastPacketReceivedTime ∨
    (c.addr = addr ∧ Authentic a s c buf ∧ c'.lastPacketReceivedTime = s.currentTime ∧ ident c' = ident c) := by
  rcases pp_session hi (pp_ok hi h) hc with ⟨-, hset, -⟩ | ⟨c'', hc'', hident, -, ⟨had, hau, htm⟩ | ⟨-, htm⟩⟩
  · rw [hset] at hc'
    exact absurd rfl (at_set_none hc').2
  · cases at_inj hc' hc''
    exact Or.inr ⟨had, hau, htm, hident⟩
  · cases at_inj hc' hc''
    exact Or.inl htm

/-- the client's time-out test at time `now` -/
def CTimedOut (c : NetcodeClient) (now : Nat) : Prop :=
  c.connectToken.timeoutSeconds > 0 ∧
    c.lastPacketReceivedTime + fromSecs c.connectToken.timeoutSeconds.toNat < now

instance (c : NetcodeClient) (now : Nat) : Decidable (CTimedOut c now) := by unfold CTimedOut; infer_instance

/-- no `Duration` arithmetic of `update(d)` overflows / underflows -/
structure ClockOK (c : NetcodeClient) (d : Nat) : Prop where
  clock : c.currentTime + d ≤ DURATION_MAX
  start : c.connectStartTime ≤ c.currentTime + d
  recv : c.lastPacketReceivedTime + fromSecs c.connectToken.timeoutSeconds.toNat ≤ DURATION_MAX

/-- the time-out flag computed by `update_internal_state` -/
theorem client_timedOut_eq (c : NetcodeClient) (now : Nat) (hr : c.lastPacketReceivedTime +
    fromSecs c.connectToken.timeoutSeconds.toNat ≤ DURATION_MAX) :
    (if c.connectToken.timeoutSeconds > 0 then do
        let deadline ← (durAdd c.lastPacketReceivedTime (fromSecs c.connectToken.timeoutSeconds.toNat)
                         "client.rs update_internal_state: last_packet_received_time + timeout" : Res Empty Nat)
        pure (decide (deadline < now))
      else pure false : Res Empty Bool) = .ok (decide (CTimedOut c now)) := by
  unfold CTimedOut
  by_cases h : c.connectToken.timeoutSeconds > 0
  · rw [if_pos h, durAdd_ok hr]
    simp only [bind_ok', pure_eq', h, true_and]
  · rw [if_neg h]
    simp only [pure_eq', h, false_and, decide_false]

theorem client_timeout (a : AEAD) {c : NetcodeClient} {d : Nat} (hst : c.state = .connected) (hok : ClockOK c d)
    (hto : CTimedOut c (c.currentTime + d)) :
    c.update a d = .ok (none, { c with currentTime := c.currentTime + d, state := .disconnected .connectionTimedOut }) := by
  unfold NetcodeClient.update NetcodeClient.updateInternalState
  rw [durAdd_ok hok.clock]
  simp only [bind_ok']
  rw [client_timedOut_eq c (c.currentTime + d) hok.recv]
  simp only [bind_ok', hst, decide_eq_true hto, if_true, pure_eq']

/-- Of `ClockOK` it needs the clock and the receive deadline, not the connect-start side condition. -/
theorem client_no_timeout {c : NetcodeClient} {d : Nat} (hst : c.state = .connected)
    (hclock : c.currentTime + d ≤ DURATION_MAX)
    (hrecv : c.lastPacketReceivedTime + fromSecs c.connectToken.timeoutSeconds.toNat ≤ DURATION_MAX)
    (hto : ¬ CTimedOut c (c.currentTime + d)) :
    c.updateInternalState d = .ok (none, { c with currentTime := c.currentTime + d }) := by
  unfold NetcodeClient.updateInternalState
  rw [durAdd_ok hclock]
  simp only [bind_ok']
  rw [client_timedOut_eq c (c.currentTime + d) hrecv]
  simp only [bind_ok', hst, decide_eq_false hto, Bool.false_eq_true, if_false, pure_eq']

theorem client_dead {c : NetcodeClient} {r : DisconnectReason} {d : Nat} (hst : c.state = .disconnected r)
    (hclock : c.currentTime + d ≤ DURATION_MAX)
    (hrecv : c.lastPacketReceivedTime + fromSecs c.connectToken.timeoutSeconds.toNat ≤ DURATION_MAX) :
    c.updateInternalState d = .ok (some (.disconnected r), { c with currentTime := c.currentTime + d }) := by
  unfold NetcodeClient.updateInternalState
  rw [durAdd_ok hclock]
  simp only [bind_ok']
  rw [client_timedOut_eq c (c.currentTime + d) hrecv]
  simp only [bind_ok', hst, pure_eq']

def Connecting (c : NetcodeClient) : Prop :=
  c.state = .sendingConnectionRequest ∨ c.state = .sendingConnectionResponse

/-- seconds the connect token allows for the handshake -/
def tokenWindow (c : NetcodeClient) : Nat := c.connectToken.expireTimestamp - c.connectToken.createTimestamp

theorem client_connecting_eq {c : NetcodeClient} {d : Nat} (hst : Connecting c) (hok : ClockOK c d) :
    c.updateInternalState d =
      (let c1 : NetcodeClient := { c with currentTime := c.currentTime + d }
       if asSecs (c.currentTime + d - c.connectStartTime) ≥ tokenWindow c then
         .ok (some .expired, { c1 with state := .disconnected .connectTokenExpired })
       else if CTimedOut c (c.currentTime + d) then
         let reason := if c.state = .sendingConnectionResponse then DisconnectReason.connectionResponseTimedOut
                       else DisconnectReason.connectionRequestTimedOut
         let c2 : NetcodeClient := { c1 with state := .disconnected reason, serverAddrIndex := c.serverAddrIndex + 1 }
         if c.serverAddrIndex + 1 ≥ C.NETCODE_TOKEN_MAX_ADDRESSES then .ok (some .noMoreServers, c2) else
         match c.connectToken.serverAddresses[c.serverAddrIndex + 1]? with
         | none => .panic "client.rs update_internal_state: server_addresses[index]"
         | some none => .ok (some .noMoreServers, c2)
         | some (some serverAddress) =>
           .ok (none, { c2 with state := .sendingConnectionRequest, serverAddr := serverAddress
                                connectStartTime := c.currentTime + d, lastPacketSendTime := none
                                lastPacketReceivedTime := c.currentTime + d, challengeTokenSequence := 0 })
       else .ok (none, c1)) := by
  unfold NetcodeClient.updateInternalState
  rw [durAdd_ok hok.clock]
  simp only [bind_ok']
  rw [client_timedOut_eq c (c.currentTime + d) hok.recv]
  simp only [bind_ok']
  rcases hst with hst | hst
  · simp only [hst, Res.csub_ok hok.start, bind_ok', tokenWindow, pure_eq', decide_eq_true_eq, reduceCtorEq, if_false]
    rfl
  · simp only [hst, Res.csub_ok hok.start, bind_ok', tokenWindow, pure_eq', decide_eq_true_eq, if_true]
    rfl

theorem failover {c : NetcodeClient} {d : Nat} {next : Addr} (hst : Connecting c) (hok : ClockOK c d)
    (hwin : asSecs (c.currentTime + d - c.connectStartTime) < tokenWindow c)
    (hto : CTimedOut c (c.currentTime + d))
    (hnext : c.connectToken.serverAddresses[c.serverAddrIndex + 1]? = some (some next))
    (hidx : c.serverAddrIndex + 1 < C.NETCODE_TOKEN_MAX_ADDRESSES) :
    ∃ c', c.updateInternalState d = .ok (none, c') ∧ c'.state = .sendingConnectionRequest ∧ c'.serverAddr = next ∧
      c'.serverAddrIndex = c.serverAddrIndex + 1 ∧ c'.connectStartTime = c.currentTime + d ∧
      c'.lastPacketReceivedTime = c.currentTime + d ∧ c'.lastPacketSendTime = none ∧
      c'.currentTime = c.currentTime + d ∧ c'.connectToken = c.connectToken ∧ c'.sequence = c.sequence := by
  rw [client_connecting_eq hst hok]
  simp only [if_neg (Nat.not_le.mpr hwin), if_pos hto, if_neg (Nat.not_le.mpr hidx), hnext]
  exact ⟨_, rfl, rfl, rfl, rfl, rfl, rfl, rfl, rfl, rfl, rfl⟩

theorem client_connect_timeout {c : NetcodeClient} {d : Nat} (hst : Connecting c) (hok : ClockOK c d)
    (hwin : asSecs (c.currentTime + d - c.connectStartTime) < tokenWindow c)
    (hto : CTimedOut c (c.currentTime + d))
    (hlast : C.NETCODE_TOKEN_MAX_ADDRESSES ≤ c.serverAddrIndex + 1 ∨
      c.connectToken.serverAddresses[c.serverAddrIndex + 1]? = some none) :
    ∃ c', c.updateInternalState d = .ok (some .noMoreServers, c') ∧
      c'.state = .disconnected (if c.state = .sendingConnectionResponse then .connectionResponseTimedOut
                                else .connectionRequestTimedOut) := by
  rw [client_connecting_eq hst hok]
  simp only [if_neg (Nat.not_le.mpr hwin), if_pos hto]
  rcases hlast with h | h
  · rw [if_pos h]; exact ⟨_, rfl, rfl⟩
  · split
    · exact ⟨_, rfl, rfl⟩
    · rw [h]; exact ⟨_, rfl, rfl⟩

theorem client_token_expired {c : NetcodeClient} {d : Nat} (hst : Connecting c) (hok : ClockOK c d)
    (hwin : tokenWindow c ≤ asSecs (c.currentTime + d - c.connectStartTime)) :
    c.updateInternalState d =
      .ok (some .expired, { c with currentTime := c.currentTime + d, state := .disconnected .connectTokenExpired }) := by
  rw [client_connecting_eq hst hok]
  simp only [if_pos hwin]

theorem client_connecting_continues {c : NetcodeClient} {d : Nat} (hst : Connecting c) (hok : ClockOK c d)
    (hwin : asSecs (c.currentTime + d - c.connectStartTime) < tokenWindow c)
    (hto : ¬ CTimedOut c (c.currentTime + d)) :
    c.updateInternalState d = .ok (none, { c with currentTime := c.currentTime + d }) := by
  rw [client_connecting_eq hst hok]
  simp only [if_neg (Nat.not_le.mpr hwin), if_neg hto]

theorem client_update_of_quiet (a : AEAD) {c c' : NetcodeClient} {d : Nat}
    (h : c.updateInternalState d = .ok (none, c')) : c.update a d = c'.generatePacket a := by
  unfold NetcodeClient.update; rw [h]; rfl

theorem client_update_of_error (a : AEAD) {c c' : NetcodeClient} {d : Nat} {e : NetcodeError}
    (h : c.updateInternalState d = .ok (some e, c')) : c.update a d = .ok (none, c') := by
  unfold NetcodeClient.update; rw [h]; rfl

end NS
end RenetVerif.Netcode
