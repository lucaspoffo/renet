/-
  The loops of the generated code against a recursion of the model, once: a loop goes round while the body falls through
  (or `continue`s) to a state related to the model's next one, and ends the way the body leaves it.
  Then the common case of a model without `Err` (`Follows`): the loop over a list and the loop over the positions of a
  key-sorted table.
-/
import RenetVerif.Lemmas.SrcEquiv.Prims
namespace RenetVerif.SrcEquiv
open RenetVerif RenetVerif.RustSem

section Loops
variable {ε ρ τ σ μ α β : Type}

/-- `x` is not a value: whatever follows it is skipped -/
def Skips (x : Exec ε ρ τ) : Prop := ∀ k : τ → Exec ε ρ τ, x.bind k = x

theorem skips_ret (r : ρ) : Skips (.ret r : Exec ε ρ τ) := fun _ => rfl
theorem skips_err (e : ε) : Skips (.err e : Exec ε ρ τ) := fun _ => rfl
theorem skips_panic (s : String) : Skips (.panic s : Exec ε ρ τ) := fun _ => rfl

/-- `for x in list`: `R l t s` relates the generated loop state `t` to the model's `s` with `l` still to come.  A round
    either falls through to related states with the model's recursion one element on (`.inl`), or leaves the loop, and
    then its outcome is judged against what the model makes of the whole rest (`.inr`).  `run s₀ l₀ = …` is the model's
    result for the whole loop, for the hypotheses that speak of it. -/
@[elab_as_elim]
theorem forEach_elim {motive : Exec ε ρ τ → μ → Prop} (R : List α → τ → σ → Prop) (run : σ → List α → μ) (g : α → β)
    (body : β → τ → Exec ε ρ τ) (l₀ : List α) (t₀ : τ) (s₀ : σ) (h : R l₀ t₀ s₀)
    (done : ∀ t s, R [] t s → run s₀ l₀ = run s [] → motive (.val t) (run s []))
    (step : ∀ a l t s, R (a :: l) t s → run s₀ l₀ = run s (a :: l) →
      (∃ t' s', body (g a) t = .val t' ∧ R l t' s' ∧ run s (a :: l) = run s' l) ∨
      (Skips (body (g a) t) ∧ motive (body (g a) t) (run s (a :: l)))) :
    motive (RustSem.forEach (l₀.map g) t₀ body) (run s₀ l₀) := by
  suffices ∀ l t s, R l t s → run s₀ l₀ = run s l → motive (RustSem.forEach (l.map g) t body) (run s l) from
    this l₀ t₀ s₀ h rfl
  intro l
  induction l with
  | nil => exact done
  | cons a l ih =>
    intro t s h e
    rw [List.map_cons, RustSem.forEach]
    rcases step a l t s h e with ⟨t', s', hb, hR, hrun⟩ | ⟨hl, hm⟩
    · rw [hb, Exec.bind_val', hrun]
      exact ih t' s' hR (e.trans hrun)
    · rw [hl]
      exact hm

/-- how a loop with `continue` / `break` ends when its body leaves it with `x` -/
def exitOut : Exec ε (LoopExit ρ τ) τ → Exec ε ρ τ
  | .val t | .ret (.cont t) | .ret (.brk t) => .val t
  | .ret (.ret r) => .ret r
  | .err e => .err e
  | .panic s => .panic s

/-- the body ends the loop: `break`, `return`, `Err`, panic -/
def EndsLoop : Exec ε (LoopExit ρ τ) τ → Prop
  | .val _ | .ret (.cont _) => False
  | _ => True

/-- a loop body goes on to the next round in state `v`: it falls through, or it leaves with `continue` -/
def GoesOn (x : Exec ε (LoopExit ρ τ) τ) (v : τ) : Prop := x = .val v ∨ x = .ret (.cont v)

theorem goesOn_val (v : τ) : GoesOn (.val v : Exec ε (LoopExit ρ τ) τ) v := .inl rfl
theorem goesOn_cont (v : τ) : GoesOn (.ret (.cont v) : Exec ε (LoopExit ρ τ) τ) v := .inr rfl

/-- `while` on fuel against a recursion of the model whose argument gets smaller (`sz`): the fuel suffices when it
    exceeds the size at the start. -/
@[elab_as_elim]
theorem whileFuel_elim {motive : Exec ε ρ τ → μ → Prop} (R : τ → σ → Prop) (run : σ → μ) (sz : σ → Nat)
    (body : τ → Exec ε (LoopExit ρ τ) τ) (fuel : Nat) (site : String) (t₀ : τ) (s₀ : σ) (h : R t₀ s₀) (hf : sz s₀ < fuel)
    (step : ∀ t s, R t s → run s₀ = run s →
      (∃ t' s', GoesOn (body t) t' ∧ R t' s' ∧ sz s' < sz s ∧ run s = run s') ∨
      (EndsLoop (body t) ∧ motive (exitOut (body t)) (run s))) :
    motive (RustSem.whileFuel fuel site t₀ body) (run s₀) := by
  suffices ∀ fuel t s, R t s → run s₀ = run s → sz s < fuel → motive (RustSem.whileFuel fuel site t body) (run s) from
    this fuel t₀ s₀ h rfl hf
  intro fuel
  induction fuel with
  | zero => exact fun _ _ _ _ hf => absurd hf (Nat.not_lt_zero _)
  | succ n ih =>
    intro t s h e hf
    rw [RustSem.whileFuel]
    rcases step t s h e with ⟨t', s', hb, hR, hlt, hrun⟩ | ⟨hl, hm⟩
    · rw [hrun]
      rcases hb with hb | hb <;> rw [hb] <;> exact ih t' s' hR (e.trans hrun) (by omega)
    · revert hl hm
      cases body t with
      | val t' => exact False.elim
      | ret x =>
        cases x with
        | cont t' => exact False.elim
        | _ => exact fun _ hm => hm
      | _ => exact fun _ hm => hm

end Loops

/-- The generated statement `x` goes the way the model outcome says: to a value that `R` relates to the model's where the
    model returns, to a panic where the model panics (the sites are not compared; these models have no error outcome). -/
def Follows {ε ρ σ τ : Type} (R : τ → σ → Prop) (x : Exec ε ρ τ) : Res Empty σ → Prop
  | .ok s => ∃ t, x = .val t ∧ R t s
  | .panic _ => ∃ m, x = .panic m
  | .err e => nomatch e

section Follows
variable {ε ρ σ τ : Type} {R : τ → σ → Prop}

@[elab_as_elim]
theorem Follows.elim {motive : Exec ε ρ τ → Res Empty σ → Prop} {x : Exec ε ρ τ} {m : Res Empty σ} (hx : Follows R x m)
    (ok : ∀ t s, m = .ok s → R t s → motive (.val t) (.ok s)) (panic : ∀ m' st, motive (.panic m') (.panic st)) :
    motive x m := by
  cases m with
  | ok s => obtain ⟨t, rfl, hR⟩ := hx; exact ok t s rfl hR
  | panic st => obtain ⟨m', rfl⟩ := hx; exact panic m' st
  | err e => exact nomatch e

theorem Follows.eq_val {x : Exec ε ρ τ} {f : σ → τ} {s : σ} (h : Follows (fun t s => t = f s) x (.ok s)) : x = .val (f s) := by
  obtain ⟨_, h, rfl⟩ := h
  exact h

theorem follows_call {x : Res ε τ} {m : Res Empty σ} {f : σ → τ} (h : SameOutcome x (mapRes f (fun e => nomatch e) m)) :
    Follows (fun t s => t = f s) (Exec.call x : Exec ε ρ τ) m := by
  cases m with
  | ok s => cases x <;> simp [mapRes, SameOutcome] at h; exact ⟨_, rfl, h⟩
  | panic st => cases x <;> simp [mapRes, SameOutcome] at h; exact ⟨_, rfl⟩
  | err e => exact nomatch e

/-- `Ok s l`: what the body needs of the model state `s` with the elements `l` still to come. -/
theorem forEach_follows {α β : Type} (g : α → β) (step : σ → α → Res Empty σ) (run : σ → List α → Res Empty σ)
    (Ok : σ → List α → Prop) (body : β → τ → Exec ε ρ τ)
    (run_nil : ∀ s, run s [] = .ok s) (run_cons : ∀ s a l, run s (a :: l) = step s a >>= fun s' => run s' l)
    (ok_cons : ∀ s a l s', Ok s (a :: l) → step s a = .ok s' → Ok s' l)
    (hb : ∀ s a l t, Ok s (a :: l) → R t s → Follows R (body (g a) t) (step s a))
    (l : List α) {l' : List β} (hl : l' = l.map g) (s : σ) (t : τ) (hok : Ok s l) (hR : R t s) :
    Follows R (RustSem.forEach l' t body) (run s l) := by
  subst hl
  induction l generalizing s t with
  | nil => rw [run_nil]; exact ⟨t, rfl, hR⟩
  | cons a l ih =>
    rw [run_cons, List.map_cons, RustSem.forEach]
    exact (hb s a l t hok hR).elim (fun t' s' hs hR' => ih s' t' (ok_cons s a l s' hok hs) hR') fun _ _ => ⟨_, rfl⟩

/-- The loops over `values_mut()` / `iter_mut()` of a key-sorted table; `W` builds the generated state around the table. -/
theorem forRange_table {α : Type} (W : SMap α → τ) (f : Nat → α → Res Empty α) (P : Nat → α → Prop)
    (run : SMap α → Res Empty (SMap α)) (body : Nat → τ → Exec ε ρ τ) (run_nil : run [] = .ok [])
    (run_cons : ∀ k c rest, run ((k, c) :: rest) = f k c >>= fun c' => run rest >>= fun rest' => pure ((k, c') :: rest'))
    (hb : ∀ (pre : SMap α) (k : Nat) (c : α) (rest : SMap α), P k c →
      Follows (fun t c' => t = W (pre ++ (k, c') :: rest)) (body pre.length (W (pre ++ (k, c) :: rest))) (f k c))
    (m : SMap α) (n : Nat) (hn : n = m.length) (hP : ∀ p ∈ m, P p.1 p.2) :
    Follows (fun t m' => t = W m') (RustSem.forRange 0 n (W m) body) (run m) := by
  suffices h : ∀ (rest pre : SMap α), (∀ p ∈ rest, P p.1 p.2) →
      Follows (fun t rest' => t = W (pre ++ rest')) (RustSem.forRange.loop body rest.length pre.length (W (pre ++ rest)))
        (run rest) by
    subst hn; exact h m [] hP
  intro rest
  induction rest with
  | nil => intro pre _; rw [run_nil]; exact ⟨_, rfl, rfl⟩
  | cons p rest ih =>
    intro pre hP
    obtain ⟨k, c⟩ := p
    rw [run_cons, List.length_cons, RustSem.forRange.loop]
    refine (hb pre k c rest (hP (k, c) (by simp))).elim ?_ fun _ _ => ⟨_, rfl⟩
    rintro _ c' _ rfl
    rw [Exec.bind_val', Res.bind_ok]
    have h2 := ih (pre ++ [(k, c')]) (fun q hq => hP q (by simp [hq]))
    simp only [List.length_append, List.length_cons, List.length_nil, List.append_assoc, List.cons_append,
      List.nil_append] at h2
    exact h2.elim (fun _ rest' _ ht => ⟨_, rfl, ht⟩) fun _ _ => ⟨_, rfl⟩

end Follows
end RenetVerif.SrcEquiv
