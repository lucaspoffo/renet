/-
  C13 (packets fit), C09 (memory accounting) and C14 (byte budget, "dropped whole") stated DIRECTLY about the generated
  `SendChannelUnreliable::{send_message, get_packets_to_send}` of `Generated/Src/SendUnrel.lean`
  (derived from `renet/src/channel/unreliable.rs`) and, for C13, the generated `Packet::to_bytes`.
  The model (`SendUnrel`, `unrelLoop`, `unrelTaken`) appears only in the proofs:
  `SrcTieSendUnrel` (generated = model) ∘ `Props/C13`, `Props/C14`.

  `WfSU c seq` is intrinsic: queued bytes are bytes, the memory counter covers the queued bytes, and the `u64`/`usize`
  counters cannot overflow while the queue is flushed (`needG` bounds the number of packets).
-/
import RenetVerif.Props.SrcTieSendUnrel
import RenetVerif.Props.SrcPropsPacket
import RenetVerif.Props.C13
import RenetVerif.Props.C14
namespace RenetVerif.SrcCor
open RenetVerif RenetVerif.SrcEquiv RenetVerif.SrcTie RenetVerif.RustSem
open Src.renet.channel.unreliable

def qBytesG (q : List (List Nat)) : Nat := (q.map List.length).sum
/-- upper bound on the packets one flush of the queue emits: `⌈len/SLICE_SIZE⌉ + 1` per message -/
def needG (q : List (List Nat)) : Nat := (q.map fun m => divCeil m.length C.SLICE_SIZE + 1).sum

/-- intrinsic well-formedness of a generated unreliable send channel for a flush starting at `*packet_sequence = seq` -/
def WfSU (c : SendChannelUnreliable) (seq : Nat) : Prop :=
  (∀ m ∈ c.unreliable_messages, BytesOk m) ∧ qBytesG c.unreliable_messages ≤ c.memory_usage_bytes ∧
  c.memory_usage_bytes < 2 ^ 64 ∧ seq + needG c.unreliable_messages + 1 < 2 ^ 64 ∧
  c.sliced_message_id + c.unreliable_messages.length < 2 ^ 64

/-- the budget scan of the flush: a queued message is taken iff the budget left at its turn covers its whole length -/
def takenG : List (List Nat) → Nat → List (List Nat)
  | [], _ => []
  | m :: r, avail => if avail < m.length then takenG r avail else m :: takenG r (avail - m.length)

def smallMsgsG : SPacket → List (List Nat)
  | .SmallUnreliable _ _ msgs => msgs
  | _ => []

/-- message payload bytes a generated packet carries (what `available_bytes` is charged for) -/
def payloadBytesG : SPacket → Nat
  | .SmallReliable _ _ msgs => (msgs.map fun x => x.2.length).sum
  | .SmallUnreliable _ _ msgs => (msgs.map List.length).sum
  | .ReliableSlice _ _ sl => sl.payload.length
  | .UnreliableSlice _ _ sl => sl.payload.length
  | .Ack _ _ => 0

theorem qBytes_ofNats (q : List (List Nat)) : qBytes (q.map ofNats) = qBytesG q := by
  simp [qBytes, qBytesG, Function.comp_def, ofNats_length]

theorem need_ofNats (q : List (List Nat)) : need (q.map ofNats) = needG q := by
  simp [need, needG, Function.comp_def, ofNats_length]

theorem unrelSmallSum_ofNats (q : List (List Nat)) : unrelSmallSum (q.map ofNats) = qBytesG q := by
  simp [unrelSmallSum, qBytesG, Function.comp_def, ofNats_length]

theorem wfSU_abs {c : SendChannelUnreliable} {seq : Nat} (h : WfSU c seq) : WfSendUnrel (absSU c) seq := by
  obtain ⟨_, h2, h3, h4, h5⟩ := h
  refine ⟨?_, h3, ?_, ?_⟩
  · simpa [absSU, qBytes_ofNats] using h2
  · simpa [absSU, need_ofNats] using h4
  · simpa [absSU] using h5

theorem unrelTaken_ofNats : ∀ (q : List (List Nat)) (a : Nat), unrelTaken (q.map ofNats) a = (takenG q a).map ofNats
  | [], _ => rfl
  | m :: r, a => by
    simp only [List.map_cons, unrelTaken, takenG, ofNats_length]
    split
    · exact unrelTaken_ofNats r a
    · simp only [List.map_cons, unrelTaken_ofNats r (a - m.length)]

theorem payloadBytesG_repr (p : RenetVerif.Packet) : payloadBytesG (reprPacket p) = payloadBytes p := by
  cases p <;> simp [payloadBytesG, reprPacket, payloadBytes, reprSlice, Function.comp_def, toNats_length]

theorem payloadSumG_repr (ps : List RenetVerif.Packet) :
    ((ps.map reprPacket).map payloadBytesG).sum = payloadSum ps := by
  simp [payloadSum, Function.comp_def, payloadBytesG_repr]

theorem smallMsgsG_repr (p : RenetVerif.Packet) : smallMsgsG (reprPacket p) = p.unrelMsgs.map toNats := by
  cases p <;> simp [smallMsgsG, reprPacket, Packet.unrelMsgs]

theorem flatMap_smallMsgsG_repr (ps : List RenetVerif.Packet) :
    (ps.map reprPacket).flatMap smallMsgsG = (ps.flatMap Packet.unrelMsgs).map toNats := by
  induction ps with
  | nil => rfl
  | cons p r ih => simp only [List.map_cons, List.flatMap_cons, List.map_append, ih, smallMsgsG_repr]

theorem takenG_bytesOk : ∀ (q : List (List Nat)) (a : Nat), (∀ m ∈ q, BytesOk m) → ∀ m ∈ takenG q a, BytesOk m
  | [], _, _, m, hm => by cases hm
  | x :: r, a, h, m, hm => by
    simp only [takenG] at hm
    split at hm
    · exact takenG_bytesOk r a (fun y hy => h y (by simp [hy])) m hm
    · rcases List.mem_cons.1 hm with rfl | hm
      · exact h _ (by simp)
      · exact takenG_bytesOk r _ (fun y hy => h y (by simp [hy])) m hm

theorem map_toNats_ofNats' (l : List (List Nat)) (h : ∀ m ∈ l, BytesOk m) : (l.map ofNats).map toNats = l :=
  map_toNats_ofNats l h

/-- the sender's slice `i` of `n` of a message, on `List Nat` -/
def sliceOfG (msg : List Nat) (n i : Nat) : List Nat :=
  (msg.drop (i * C.SLICE_SIZE)).take ((if i = n - 1 then msg.length else (i + 1) * C.SLICE_SIZE) - i * C.SLICE_SIZE)

theorem toNats_sliceBytes_su (msg : List Nat) (hb : BytesOk msg) (n i : Nat) :
    toNats (sliceBytes (ofNats msg) n i) = sliceOfG msg n i := toNats_sliceBytes_ofNats msg hb n i

theorem su_get_packets {ε : Type} (c : SendChannelUnreliable) (seq avail : Nat) (h : WfSU c seq) :
    (SendChannelUnreliable.get_packets_to_send c seq avail : Res ε _) =
      .ok (reprSU ((absSU c).getPackets seq avail).1, ((absSU c).getPackets seq avail).2.2.1,
           ((absSU c).getPackets seq avail).2.2.2, ((absSU c).getPackets seq avail).2.1.map reprPacket) := by
  have := send_unrel_get_packets_to_send (ε := ε) (absSU c) seq avail (wfSU_abs h)
  rwa [SrcTie.send_unrel_repr_abs c h.1] at this

/-- the same with the model's result named (so that later steps do not unfold it) -/
theorem su_get_packets' {ε : Type} (c : SendChannelUnreliable) (seq avail : Nat) (h : WfSU c seq) :
    ∃ s' ps seq' avail', (absSU c).getPackets seq avail = (s', ps, seq', avail') ∧
      (SendChannelUnreliable.get_packets_to_send c seq avail : Res ε _) =
        .ok (reprSU s', seq', avail', ps.map reprPacket) :=
  ⟨_, _, _, _, rfl, su_get_packets c seq avail h⟩

end RenetVerif.SrcCor

namespace RenetVerif.SrcProps
open RenetVerif RenetVerif.SrcEquiv RenetVerif.SrcTie RenetVerif.SrcCor RenetVerif.RustSem
open Src.renet.channel.unreliable

/-- **C13, unreliable channel.**  On a well-formed channel whose queued messages have machine-representable length
    (`≤ 2^62-1`) and whose slice-id counter stays in the varint domain, the generated `get_packets_to_send` returns
    normally and — provided the returned `*packet_sequence` is at most `2^62` — EVERY packet of the returned list is
    serialised by the generated `to_bytes` into any buffer of at least `NETCODE_MAX_PAYLOAD_BYTES` (1300) bytes, using at
    most 1300 of them: no `Err`, no panic. -/
theorem send_unrel_packets_fit {ε : Type} (c : SendChannelUnreliable) (seq avail : Nat) (h : WfSU c seq)
    (hlen : ∀ m ∈ c.unreliable_messages, m.length ≤ Varint.MAX)
    (hid : c.sliced_message_id + c.unreliable_messages.length ≤ Varint.MAX + 1) :
    ∃ c' seq' avail' ps, (SendChannelUnreliable.get_packets_to_send c seq avail : Res ε _) = .ok (c', seq', avail', ps) ∧
      (seq' ≤ Varint.MAX + 1 → ∀ gp ∈ ps, ∀ buf : List Nat, C.NETCODE_MAX_PAYLOAD_BYTES ≤ buf.length →
        ∃ b' n, Src.renet.packet.Packet.to_bytes gp (OctetsMut.with_slice buf) = .ok (b', n) ∧
          n ≤ C.NETCODE_MAX_PAYLOAD_BYTES) := by
  obtain ⟨s', ps, seq', avail', hG, hgen⟩ := su_get_packets' (ε := ε) c seq avail h
  refine ⟨_, _, _, _, hgen, ?_⟩
  intro hseq gp hgp buf hbuf
  obtain ⟨p, hp, rfl⟩ := List.mem_map.1 hgp
  have hq : ∀ m ∈ (absSU c).queue, m.length ≤ Varint.MAX := by
    intro m hm
    simp only [absSU, List.mem_map] at hm
    obtain ⟨x, hx, rfl⟩ := hm
    simpa [ofNats_length] using hlen x hx
  have hsid : s'.slicedId ≤ Varint.MAX + 1 := by
    have := C13.unreliable_sliced_id hG
    simp only [absSU, List.length_map] at this
    omega
  obtain ⟨b, hb, hsz⟩ := C13.unreliable_sizes hG hq hsid hseq p hp
  have hle : b.length ≤ C.NETCODE_MAX_PAYLOAD_BYTES := by
    have h1 := C13.small_unreliable_bound_fits
    have h2 := C13.slice_bound_fits
    rcases hsz with ⟨_, _, _, hl⟩ | ⟨_, _, _, hl⟩ <;> omega
  obtain ⟨b', hw⟩ := to_bytes_of_enc p b hb buf (by omega)
  exact ⟨b', b.length, hw, hle⟩

/-- **C09, `send_message` keeps the counter exact.**  If `memory_usage_bytes` equals the sum of the queued lengths, it
    still does after the generated `send_message` — which either queues the message at the back and adds its length,
    or (memory limit) leaves the channel unchanged.  No panic while the counter fits `usize`. -/
theorem send_unrel_send_message_accounting {ε : Type} (c : SendChannelUnreliable) (m : List Nat)
    (hq : ∀ x ∈ c.unreliable_messages, BytesOk x) (hm : BytesOk m)
    (hexact : c.memory_usage_bytes = qBytesG c.unreliable_messages) (hfit : c.memory_usage_bytes + m.length < 2 ^ 64) :
    ∃ c1, (SendChannelUnreliable.send_message c m : Res ε _) = .ok (c1, ()) ∧
      c1.memory_usage_bytes = qBytesG c1.unreliable_messages ∧
      (c1 = c ∨
       (c1 = { c with unreliable_messages := c.unreliable_messages ++ [m],
                      memory_usage_bytes := c.memory_usage_bytes + m.length } ∧
        c.memory_usage_bytes + m.length ≤ c.max_memory_usage_bytes)) := by
  have he := send_unrel_send_message (ε := ε) (absSU c) (ofNats m) (by simpa [absSU, ofNats_length] using hfit)
  rw [SrcTie.send_unrel_repr_abs c hq, toNats_ofNats hm] at he
  refine ⟨_, he, ?_⟩
  unfold SendUnrel.sendMessage
  by_cases hl : (absSU c).mem + (ofNats m).length > (absSU c).maxMem
  · rw [if_pos hl, SrcTie.send_unrel_repr_abs c hq]
    exact ⟨hexact, .inl rfl⟩
  · rw [if_neg hl]
    simp only [absSU, ofNats_length] at hl
    simp only [reprSU, absSU, List.map_append, List.map_cons, List.map_nil, toNats_ofNats hm,
      map_toNats_ofNats c.unreliable_messages hq, ofNats_length]
    exact ⟨by simp [qBytesG, hexact], .inr ⟨trivial, by omega⟩⟩

/-- **C09, the flush returns the accounting to zero.**  On a well-formed channel the generated `get_packets_to_send`
    empties the queue and subtracts exactly the queued bytes from `memory_usage_bytes`; with an exact counter the
    result is `0` (= the sum over the now empty queue).  The limit and the channel id are untouched. -/
theorem send_unrel_flush_accounting {ε : Type} (c : SendChannelUnreliable) (seq avail : Nat) (h : WfSU c seq) :
    ∃ c' seq' avail' ps, (SendChannelUnreliable.get_packets_to_send c seq avail : Res ε _) = .ok (c', seq', avail', ps) ∧
      c'.unreliable_messages = [] ∧
      c'.memory_usage_bytes = c.memory_usage_bytes - qBytesG c.unreliable_messages ∧
      (c.memory_usage_bytes = qBytesG c.unreliable_messages → c'.memory_usage_bytes = 0) ∧
      c'.max_memory_usage_bytes = c.max_memory_usage_bytes ∧ c'.channel_id = c.channel_id := by
  obtain ⟨s', ps, seq', avail', hG, hgen⟩ := su_get_packets' (ε := ε) c seq avail h
  refine ⟨_, _, _, _, hgen, ?_⟩
  obtain ⟨h1, h2, h3, h4⟩ := SendUnrel.getPackets_drains hG
  have hb := (C14.unreliable_budget hG).2.2.2.2.2.2
  simp only [absSU, unrelSmallSum_ofNats] at h2 hb
  refine ⟨by simp [reprSU, h1], by simpa [reprSU] using h2, fun he => by simpa [reprSU] using hb he,
    by simpa [reprSU, absSU] using h4, by simpa [reprSU, absSU] using h3⟩

/-- **C09, send then flush.**  Queue a message with the generated `send_message`, then flush with the generated
    `get_packets_to_send`: `memory_usage_bytes` is the sum of the queued lengths in between and `0` afterwards. -/
theorem send_unrel_send_then_flush {ε : Type} (c : SendChannelUnreliable) (m : List Nat) (seq avail : Nat)
    (hq : ∀ x ∈ c.unreliable_messages, BytesOk x) (hm : BytesOk m)
    (hexact : c.memory_usage_bytes = qBytesG c.unreliable_messages) (hfit : c.memory_usage_bytes + m.length < 2 ^ 64)
    (hseq : seq + needG (c.unreliable_messages ++ [m]) + 1 < 2 ^ 64)
    (hsid : c.sliced_message_id + c.unreliable_messages.length + 1 < 2 ^ 64) :
    ∃ c1 c2 seq' avail' ps, (SendChannelUnreliable.send_message c m : Res ε _) = .ok (c1, ()) ∧
      c1.memory_usage_bytes = qBytesG c1.unreliable_messages ∧
      (SendChannelUnreliable.get_packets_to_send c1 seq avail : Res ε _) = .ok (c2, seq', avail', ps) ∧
      c2.unreliable_messages = [] ∧ c2.memory_usage_bytes = 0 := by
  obtain ⟨c1, hs, hex1, hcase⟩ := send_unrel_send_message_accounting (ε := ε) c m hq hm hexact hfit
  have hneed : needG c.unreliable_messages ≤ needG (c.unreliable_messages ++ [m]) := by
    simp [needG, List.sum_append]
  have hwf : WfSU c1 seq := by
    rcases hcase with rfl | ⟨rfl, _⟩
    · exact ⟨hq, by omega, by omega, by omega, by omega⟩
    · refine ⟨?_, by dsimp only at hex1 ⊢; omega, by dsimp only; omega, hseq, by simp; omega⟩
      intro x hx
      rcases List.mem_append.1 hx with hx | hx
      · exact hq x hx
      · simp only [List.mem_cons, List.not_mem_nil, or_false] at hx; rw [hx]; exact hm
  obtain ⟨c2, seq', avail', ps, hg, he, _, hz, _⟩ := send_unrel_flush_accounting (ε := ε) c1 seq avail hwf
  exact ⟨c1, c2, seq', avail', ps, hs, hex1, hg, he, hz hex1⟩

/-- **C14, unreliable channel: the budget never grows, messages are sent or dropped whole.**  On a well-formed channel
    the generated `get_packets_to_send` returns normally; the new `*available_bytes` is the old one minus exactly the
    payload bytes of the returned packets (so it never increases); the messages sent are exactly `takenG queue avail`
    — scan the queue in order, take a message iff the budget left at its turn covers its whole length: their lengths
    add up to the payload emitted, and the small ones (`≤ SLICE_SIZE`) are, in queue order, exactly the contents of the
    `SmallUnreliable` packets.  Packets are numbered consecutively. -/
theorem send_unrel_budget {ε : Type} (c : SendChannelUnreliable) (seq avail : Nat) (h : WfSU c seq) :
    ∃ c' seq' avail' ps, (SendChannelUnreliable.get_packets_to_send c seq avail : Res ε _) = .ok (c', seq', avail', ps) ∧
      avail' ≤ avail ∧ (ps.map payloadBytesG).sum + avail' = avail ∧
      (ps.map payloadBytesG).sum = qBytesG (takenG c.unreliable_messages avail) ∧
      ps.flatMap smallMsgsG =
        (takenG c.unreliable_messages avail).filter (fun m => decide (m.length ≤ C.SLICE_SIZE)) ∧
      seq' = seq + ps.length := by
  obtain ⟨s', ps, seq', avail', hG, hgen⟩ := su_get_packets' (ε := ε) c seq avail h
  refine ⟨_, _, _, _, hgen, ?_⟩
  obtain ⟨hb1, _, hb3, hb4, _⟩ := C14.unreliable_budget hG
  obtain ⟨hd1, hd2, _⟩ := C14.unreliable_dropped_whole hG
  have hq : (absSU c).queue = c.unreliable_messages.map ofNats := rfl
  rw [hq, unrelTaken_ofNats] at hd1 hd2
  rw [unrelSmallSum_ofNats] at hd2
  refine ⟨hb3, by rw [payloadSumG_repr]; exact hb1, by rw [payloadSumG_repr]; exact hd2, ?_, by simpa using hb4⟩
  have hok := takenG_bytesOk c.unreliable_messages avail h.1
  rw [flatMap_smallMsgsG_repr, hd1, List.filter_map, map_toNats_ofNats _ (fun m hm => hok m (List.mem_filter.1 hm).1)]
  congr 1; funext m; simp [ofNats_length]

/-- **C14, a large message is sent whole.**  Every message the budget scan takes that is longer than `SLICE_SIZE` appears
    in the returned packets as the COMPLETE set of its `n = ⌈len/SLICE_SIZE⌉` slices — one `UnreliableSlice` packet per
    index `j < n`, all with the same sliced-message id, slice `j` carrying bytes `j*SLICE_SIZE ..` of the message. -/
theorem send_unrel_large_sent_whole {ε : Type} (c : SendChannelUnreliable) (seq avail : Nat) (h : WfSU c seq) :
    ∃ c' seq' avail' ps, (SendChannelUnreliable.get_packets_to_send c seq avail : Res ε _) = .ok (c', seq', avail', ps) ∧
      ∀ m ∈ takenG c.unreliable_messages avail, C.SLICE_SIZE < m.length →
        ∃ id, ∀ j, j < divCeil m.length C.SLICE_SIZE →
          ∃ sq, Src.renet.packet.Packet.UnreliableSlice sq c.channel_id
            ⟨id, j, divCeil m.length C.SLICE_SIZE, sliceOfG m (divCeil m.length C.SLICE_SIZE) j⟩ ∈ ps := by
  obtain ⟨s', ps, seq', avail', hG, hgen⟩ := su_get_packets' (ε := ε) c seq avail h
  refine ⟨_, _, _, _, hgen, ?_⟩
  obtain ⟨_, _, hd3⟩ := C14.unreliable_dropped_whole hG
  intro m hm hlen
  have hmb : BytesOk m := takenG_bytesOk c.unreliable_messages avail h.1 m hm
  have hq : (absSU c).queue = c.unreliable_messages.map ofNats := rfl
  have hm' : ofNats m ∈ unrelTaken (absSU c).queue avail := by
    rw [hq, unrelTaken_ofNats]; exact List.mem_map_of_mem hm
  obtain ⟨id, hid⟩ := hd3 (ofNats m) hm' (by rw [ofNats_length]; exact hlen)
  refine ⟨id, fun j hj => ?_⟩
  obtain ⟨sq, hsq⟩ := hid j (by rw [ofNats_length]; exact hj)
  refine ⟨sq, ?_⟩
  have := List.mem_map_of_mem (f := reprPacket) hsq
  simpa [reprPacket, reprSlice, ofNats_length, toNats_sliceBytes_su m hmb, absSU] using this

/-! ### examples (evaluated on the generated text) -/

/-- a channel with a 2-byte, a 1201-byte and a 3-byte message queued, counter exact -/
def exSU : SendChannelUnreliable := ⟨3, [[1, 2], List.replicate 1201 7, [4, 5, 6]], 4, 5000, 1206⟩

/-- one kernel evaluation on the example channel: the side conditions of the theorems, and the flush with budget 1203 -/
theorem exSU_facts :
    (WfSU exSU 10 ∧ ∀ m ∈ exSU.unreliable_messages, m.length ≤ Varint.MAX) ∧
    (SendChannelUnreliable.get_packets_to_send exSU 10 1203 : Res Empty _) =
      .ok (⟨3, [], 5, 5000, 0⟩, 13, 0,
        [.UnreliableSlice 10 3 ⟨4, 0, 2, List.replicate 1200 7⟩, .UnreliableSlice 11 3 ⟨4, 1, 2, [7]⟩,
         .SmallUnreliable 12 3 [[1, 2]]]) ∧
    takenG exSU.unreliable_messages 1203 = [[1, 2], List.replicate 1201 7] := by
  unfold WfSU
  decide +kernel

theorem exSU_wf : WfSU exSU 10 := exSU_facts.1.1

set_option maxRecDepth 100000 in
/-- budget 1203: the 2-byte and the 1201-byte message are sent whole, the 3-byte one is dropped whole (budget left 0);
    queue empty and counter back to 0 -/
example : (SendChannelUnreliable.get_packets_to_send exSU 10 1203 : Res Empty _) =
    .ok (⟨3, [], 5, 5000, 0⟩, 13, 0,
      [.UnreliableSlice 10 3 ⟨4, 0, 2, List.replicate 1200 7⟩, .UnreliableSlice 11 3 ⟨4, 1, 2, [7]⟩,
       .SmallUnreliable 12 3 [[1, 2]]]) := exSU_facts.2.1
set_option maxRecDepth 100000 in
example : takenG exSU.unreliable_messages 1203 = [[1, 2], List.replicate 1201 7] := exSU_facts.2.2
/-- every packet of that flush serialises into a 1300-byte buffer (instance of the theorem, and evaluated) -/
example : ∃ c' seq' avail' ps, (SendChannelUnreliable.get_packets_to_send exSU 10 1203 : Res Empty _) =
      .ok (c', seq', avail', ps) ∧
    (seq' ≤ Varint.MAX + 1 → ∀ gp ∈ ps, ∀ buf : List Nat, C.NETCODE_MAX_PAYLOAD_BYTES ≤ buf.length →
      ∃ b' n, Src.renet.packet.Packet.to_bytes gp (OctetsMut.with_slice buf) = .ok (b', n) ∧
        n ≤ C.NETCODE_MAX_PAYLOAD_BYTES) :=
  send_unrel_packets_fit exSU 10 1203 exSU_wf exSU_facts.1.2 (by decide)
set_option maxRecDepth 100000 in
example : okSnd (Src.renet.packet.Packet.to_bytes (.UnreliableSlice 10 3 ⟨4, 0, 2, List.replicate 1200 7⟩)
    (OctetsMut.with_slice (List.replicate 1300 0))) = some 1208 := by decide +kernel
/-- send then flush on the generated functions: counter 2 + 3 = 5 in between, 0 afterwards -/
example : ((SendChannelUnreliable.send_message ⟨0, [[1, 2]], 0, 100, 2⟩ [7, 8, 9] >>= fun r =>
    (.ok r.1.memory_usage_bytes : Res Empty Nat))) = .ok 5 := by decide +kernel
example : ((SendChannelUnreliable.send_message ⟨0, [[1, 2]], 0, 100, 2⟩ [7, 8, 9] >>= fun r =>
    SendChannelUnreliable.get_packets_to_send r.1 0 1000 >>= fun q =>
      (.ok (q.1.memory_usage_bytes, q.1.unreliable_messages.length) : Res Empty (Nat × Nat)))) = .ok (0, 0) := by
  decide +kernel

end RenetVerif.SrcProps
