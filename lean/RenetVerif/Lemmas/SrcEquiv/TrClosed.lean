/-
  The states of the closed instances of the simulations `RcSim` / `RnSim` (`Props/SrcTieTrClosed.lean`): a connection with the
  model invariants (`Conn.SInv`, `ChanSorted`, `TInv`) and a range predicate `Rg` (`ConnGood`), a server table of such
  connections (`ServerGood`).  The invariants are established by `from_channels` / `RenetServer::new` and kept by every
  operation; what is left as a hypothesis is `RangeClosed Rg`: the range predicate implies the range conditions (`SendRange`,
  budgets ≤ 2^63) and holds along the run (counters cannot be invariant: they grow; `Rg` is e.g. membership in the states of
  a bounded run).
-/
import RenetVerif.Lemmas.SrcEquiv.SendBridge
import RenetVerif.Lemmas.SrcEquiv.TrServer
import RenetVerif.Lemmas.SrcEquiv.TrClient
namespace RenetVerif.SrcEquiv
open RenetVerif RenetVerif.RustSem RenetVerif.C

structure RangeClosed (Rg : Conn → Prop) : Prop where
  send : ∀ {c : Conn}, Rg c → SendRange c
  recv : ∀ {c : Conn}, Rg c → RecvBudgetOk c
  sendB : ∀ {c : Conn}, Rg c → SendBudgetOk c
  dw : ∀ {c : Conn}, Rg c → ∀ r, Rg (c.disconnectWith r)
  sc : ∀ {c : Conn}, Rg c → Rg c.setConnected
  sg : ∀ {c : Conn}, Rg c → Rg c.setConnecting
  pp : ∀ {c c' : Conn} {bytes : Bytes}, Rg c → c.processPacket bytes = .ok c' → Rg c'
  gp : ∀ {c c' : Conn} {ps : List Bytes}, Rg c → c.getPacketsToSend = .ok (c', ps) → Rg c'

structure ConnGood (Rg : Conn → Prop) (c : Conn) : Prop where
  sinv : c.SInv
  sorted : ChanSorted c
  tinv : TInv c
  rg : Rg c

theorem ConnGood.disconnectWith {Rg : Conn → Prop} (hR : RangeClosed Rg) {c : Conn} (h : ConnGood Rg c) (r : Reason) :
    ConnGood Rg (c.disconnectWith r) :=
  ⟨h.sinv.disconnectWith r, h.sorted.disconnectWith r, h.tinv.disconnectWith r, hR.dw h.rg r⟩
theorem ConnGood.setConnected {Rg : Conn → Prop} (hR : RangeClosed Rg) {c : Conn} (h : ConnGood Rg c) :
    ConnGood Rg c.setConnected :=
  ⟨h.sinv.setConnected, h.sorted.setConnected, h.tinv.setConnected, hR.sc h.rg⟩
theorem ConnGood.setConnecting {Rg : Conn → Prop} (hR : RangeClosed Rg) {c : Conn} (h : ConnGood Rg c) :
    ConnGood Rg c.setConnecting :=
  ⟨h.sinv.setConnecting, h.sorted.setConnecting, h.tinv.setConnecting, hR.sg h.rg⟩

theorem ConnGood.processPacket {Rg : Conn → Prop} (hR : RangeClosed Rg) {c c' : Conn} {bytes : Bytes} (h : ConnGood Rg c)
    (hr : c.processPacket bytes = .ok c') : ConnGood Rg c' :=
  ⟨(CI.processPacket_invP goodP_inv h.sinv hr).1, chanSorted_kept.processPacket trivial h.sorted hr,
    tinv_kept.processPacket trivial h.tinv hr, hR.pp h.rg hr⟩

theorem ConnGood.getPacketsToSend {Rg : Conn → Prop} (hR : RangeClosed Rg) {c c' : Conn} {ps : List Bytes}
    (h : ConnGood Rg c) (hr : c.getPacketsToSend = .ok (c', ps)) : ConnGood Rg c' :=
  ⟨(CI.getPacketsToSend_invP h.sinv hr).1, chanSorted_kept.getPacketsToSend trivial h.sorted hr, tinv_kept.getPacketsToSend trivial h.tinv hr, hR.gp h.rg hr⟩

structure ServerGood (Rg : Conn → Prop) (s : Server) : Prop where
  sorted : MSorted s.conns
  cfg : CfgOk s
  conns : ∀ x ∈ s.conns, ConnGood Rg x.2
  fresh : Rg s.newConn.setConnected

theorem ServerGood.withConn {Rg : Conn → Prop} {s : Server} (h : ServerGood Rg s) (id : Nat) {c' : Conn} (hc : ConnGood Rg c')
    (ev : List Event) : ServerGood Rg { s with conns := SMap.insert s.conns id c', events := ev } :=
  ⟨SMap.sorted_insert h.sorted _ _, ⟨h.cfg.su, h.cfg.sr, h.cfg.ru, h.cfg.rr⟩, SMap.forall_mem_insert h.conns id hc, h.fresh⟩

end RenetVerif.SrcEquiv
