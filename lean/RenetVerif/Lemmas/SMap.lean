/-
  What the operations of `SMap` do.

  `find?` reads the first binding of a key, `insert` puts a binding at its place among ascending keys (replacing the
  one that is there), `erase` drops the first binding of a key.  What `find?` returns after `insert` holds of every
  list; what it returns after `erase` needs the keys distinct (`(keys m).Nodup`); where `insert` puts a binding that
  replaces one (`insert_same`, `erase_insert`, `sumBy_insert_present`) needs them ascending (`Sorted`).
-/
import RenetVerif.Base.SMap
namespace RenetVerif.SMap
variable {α : Type}

def sumBy (f : α → Nat) : SMap α → Nat
  | [] => 0
  | (_, v) :: r => f v + sumBy f r

def Sorted (m : SMap α) : Prop := (keys m).Pairwise (· < ·)

@[simp] theorem keys_nil : keys ([] : SMap α) = [] := rfl
@[simp] theorem keys_cons (k : Nat) (v : α) (r : SMap α) : keys ((k, v) :: r) = k :: keys r := rfl
@[simp] theorem sumBy_nil (f : α → Nat) : sumBy f ([] : SMap α) = 0 := rfl
@[simp] theorem sumBy_cons (f : α → Nat) (k : Nat) (v : α) (r : SMap α) :
    sumBy f ((k, v) :: r) = f v + sumBy f r := rfl
@[simp] theorem find?_nil (k : Nat) : find? ([] : SMap α) k = none := rfl
theorem find?_cons (k' : Nat) (v : α) (r : SMap α) (k : Nat) :
    find? ((k', v) :: r) k = if k' = k then some v else find? r k := rfl

theorem mem_keys_of_mem {m : SMap α} {k : Nat} {v : α} (h : (k, v) ∈ m) : k ∈ keys m :=
  List.mem_map.mpr ⟨(k, v), h, rfl⟩

theorem find?_eq_none_iff {m : SMap α} {k : Nat} : find? m k = none ↔ k ∉ keys m := by
  induction m with
  | nil => simp
  | cons p r ih =>
    obtain ⟨k', v⟩ := p
    simp only [find?_cons, keys_cons, List.mem_cons]
    split <;> grind

theorem find?_none_of_forall_ne {m : SMap α} {k : Nat} (h : ∀ x ∈ m, x.1 ≠ k) : find? m k = none := by
  rw [find?_eq_none_iff]
  intro hk
  obtain ⟨x, hx, e⟩ := List.mem_map.mp hk
  exact h x hx e

theorem mem_of_find? {m : SMap α} {k : Nat} {v : α} (h : find? m k = some v) : (k, v) ∈ m := by
  induction m with
  | nil => simp at h
  | cons p r ih =>
    obtain ⟨k', v'⟩ := p
    simp only [find?_cons] at h
    split at h
    · cases h; subst_vars; simp
    · simp [ih h]

theorem find?_ne_none_of_mem {m : SMap α} {k : Nat} {v : α} (h : (k, v) ∈ m) : find? m k ≠ none :=
  fun hn => find?_eq_none_iff.mp hn (mem_keys_of_mem h)

theorem find?_of_mem_nodup {m : SMap α} {k : Nat} {v : α} (hn : (keys m).Nodup) (h : (k, v) ∈ m) :
    find? m k = some v := by
  induction m with
  | nil => cases h
  | cons p r ih =>
    obtain ⟨k0, v0⟩ := p
    rw [keys_cons, List.nodup_cons] at hn
    rw [find?_cons]
    rcases List.mem_cons.mp h with e | h
    · cases e; rw [if_pos rfl]
    · have hne : k0 ≠ k := fun e => hn.1 (e ▸ mem_keys_of_mem h)
      rw [if_neg hne, ih hn.2 h]

theorem find?_of_sublist {m m' : SMap α} (hn : (keys m).Nodup) (hsub : m'.Sublist m) {k : Nat} {v : α}
    (h : find? m' k = some v) : find? m k = some v :=
  find?_of_mem_nodup hn (hsub.subset (mem_of_find? h))

theorem eq_nil_of_find?_eq_none {m : SMap α} (h : ∀ k, find? m k = none) : m = [] := by
  cases m with
  | nil => rfl
  | cons p r =>
    obtain ⟨k, v⟩ := p
    have := h k
    simp [find?_cons] at this

theorem contains_iff {m : SMap α} {k : Nat} : contains m k = true ↔ k ∈ keys m := by
  have := find?_eq_none_iff (m := m) (k := k)
  unfold contains
  cases h : find? m k <;> simp_all

theorem contains_iff_find? {m : SMap α} {k : Nat} : contains m k = true ↔ ∃ v, find? m k = some v :=
  Option.isSome_iff_exists

theorem contains_eq_false_iff {m : SMap α} {k : Nat} : contains m k = false ↔ find? m k = none := by
  unfold contains
  cases h : find? m k <;> simp

theorem not_contains_iff {m : SMap α} {k : Nat} : ¬ contains m k = true ↔ find? m k = none := by
  rw [Bool.not_eq_true, contains_eq_false_iff]

theorem find?_map (f : Nat → α → α) (m : SMap α) (j : Nat) :
    find? (m.map (fun (k, c) => (k, f k c))) j = (find? m j).map (f j) := by
  induction m with
  | nil => rfl
  | cons p r ih =>
    obtain ⟨k', v'⟩ := p
    simp only [List.map_cons, find?_cons]
    split
    · subst_vars; rfl
    · exact ih

theorem keys_map (f : Nat → α → α) (m : SMap α) :
    keys (m.map (fun (k, c) => (k, f k c))) = keys m := by
  induction m with
  | nil => rfl
  | cons p r ih =>
    obtain ⟨k', v'⟩ := p
    simp only [List.map_cons, keys_cons, ih]

theorem sorted_nil : Sorted ([] : SMap α) := List.Pairwise.nil

theorem sorted_cons {k : Nat} {v : α} {r : SMap α} :
    Sorted ((k, v) :: r) ↔ (∀ k' ∈ keys r, k < k') ∧ Sorted r := by
  simp [Sorted, List.pairwise_cons]

theorem sorted_iff_pairwise {m : SMap α} : Sorted m ↔ m.Pairwise (fun a b => a.1 < b.1) :=
  List.pairwise_map

theorem Sorted.nodup {m : SMap α} (hs : Sorted m) : (keys m).Nodup :=
  hs.imp Nat.ne_of_lt

theorem sorted_tail {p : Nat × α} {r : SMap α} (hs : Sorted (p :: r)) : Sorted r :=
  (List.pairwise_cons.mp hs).2

theorem find?_tail_none {k0 : Nat} {v0 : α} {r : SMap α} (hs : Sorted ((k0, v0) :: r)) {k : Nat} (hk : k ≤ k0) :
    find? r k = none := by
  rw [find?_eq_none_iff]
  intro hm; have := (sorted_cons.mp hs).1 _ hm; omega

theorem sorted_length_le (N : Nat) {m : SMap α} (hs : Sorted m) {lo : Nat} (hb : ∀ x ∈ m, lo ≤ x.1 ∧ x.1 < N) :
    m.length ≤ N - lo := by
  induction m generalizing lo with
  | nil => exact Nat.zero_le _
  | cons p r ih =>
    obtain ⟨k, v⟩ := p
    rw [sorted_cons] at hs
    have hk := hb (k, v) List.mem_cons_self
    have := ih hs.2 (lo := k + 1) fun x hx => ⟨hs.1 x.1 (mem_keys_of_mem hx), (hb x (List.mem_cons_of_mem _ hx)).2⟩
    simp only [List.length_cons]
    simp only at hk
    omega

theorem find?_insert (m : SMap α) (k : Nat) (v : α) (k' : Nat) :
    find? (insert m k v) k' = if k = k' then some v else find? m k' := by
  induction m with
  | nil => simp [insert, find?_cons]
  | cons p r ih =>
    obtain ⟨k0, v0⟩ := p
    simp only [insert]
    split
    · simp [find?_cons]
    · split
      · subst_vars; simp only [find?_cons]; split <;> rfl
      · simp only [find?_cons, ih]; grind

theorem find?_insert_self (m : SMap α) (k : Nat) (v : α) : find? (insert m k v) k = some v := by
  rw [find?_insert, if_pos rfl]

theorem find?_insert_ne (m : SMap α) (v : α) {k k' : Nat} (h : k ≠ k') : find? (insert m k v) k' = find? m k' := by
  rw [find?_insert, if_neg h]

theorem find?_insert_ne_none (m : SMap α) (k : Nat) (v : α) (k' : Nat) (h : find? m k' ≠ none) :
    find? (insert m k v) k' ≠ none := by
  rw [find?_insert]
  split
  · exact Option.some_ne_none v
  · exact h

theorem isSome_find?_insert {m : SMap α} {k : Nat} {v : α} (hf : find? m k = some v) (v' : α) (k' : Nat) :
    (find? (insert m k v') k').isSome = (find? m k').isSome := by
  rw [find?_insert]
  split
  · subst_vars; rw [hf]; rfl
  · rfl

theorem contains_insert {m : SMap α} {k : Nat} {v : α} {k' : Nat} :
    contains (insert m k v) k' = true ↔ k' = k ∨ contains m k' = true := by
  unfold contains
  rw [find?_insert]
  split
  · subst_vars; simp
  · rename_i h; simp [Ne.symm h]

theorem forall_find?_insert {Q : Nat → α → Prop} {m : SMap α} {k : Nat} {v : α}
    (h : ∀ j x, j ≠ k → find? m j = some x → Q j x) (hv : Q k v) :
    ∀ j x, find? (insert m k v) j = some x → Q j x := by
  intro j x hf
  rw [find?_insert] at hf
  split at hf
  · cases hf; subst_vars; exact hv
  · rename_i hne; exact h j x (Ne.symm hne) hf

theorem mem_keys_insert {m : SMap α} {k : Nat} {v : α} {k' : Nat} :
    k' ∈ keys (insert m k v) ↔ k' = k ∨ k' ∈ keys m := by
  rw [← contains_iff, ← contains_iff, contains_insert]

theorem mem_insert {m : SMap α} {k : Nat} {v : α} {p : Nat × α} (h : p ∈ insert m k v) : p = (k, v) ∨ p ∈ m := by
  induction m with
  | nil => simp [insert] at h; exact Or.inl h
  | cons q r ih =>
    obtain ⟨k0, v0⟩ := q
    simp only [insert] at h
    split at h
    · exact List.mem_cons.mp h
    · split at h
      · exact (List.mem_cons.mp h).imp_right (List.mem_cons_of_mem _)
      · rcases List.mem_cons.mp h with rfl | h
        · exact Or.inr (List.mem_cons_self ..)
        · exact (ih h).imp_right (List.mem_cons_of_mem _)

theorem forall_mem_insert {Q : α → Prop} {m : SMap α} (h : ∀ x ∈ m, Q x.2) (k : Nat) {v : α} (hv : Q v) :
    ∀ x ∈ insert m k v, Q x.2 := by
  intro x hx
  rcases mem_insert hx with rfl | hx
  · exact hv
  · exact h x hx

theorem sorted_insert {m : SMap α} (hs : Sorted m) (k : Nat) (v : α) : Sorted (insert m k v) := by
  induction m with
  | nil => simp [insert, Sorted]
  | cons p r ih =>
    obtain ⟨k0, v0⟩ := p
    have hs' := sorted_cons.mp hs
    simp only [insert]
    split
    · rw [sorted_cons]
      refine ⟨?_, hs⟩
      intro k' hk'
      simp only [keys_cons, List.mem_cons] at hk'
      rcases hk' with rfl | hk'
      · assumption
      · have := hs'.1 _ hk'; omega
    · split
      · subst_vars; rw [sorted_cons]; exact hs'
      · rw [sorted_cons]
        refine ⟨?_, ih hs'.2⟩
        intro k' hk'
        rw [mem_keys_insert] at hk'
        rcases hk' with rfl | hk'
        · omega
        · exact hs'.1 _ hk'

theorem insert_above (m : SMap α) (k : Nat) (v : α) (h : ∀ x ∈ m, x.1 < k) : insert m k v = m ++ [(k, v)] := by
  induction m with
  | nil => rfl
  | cons p r ih =>
    obtain ⟨k0, v0⟩ := p
    have h0 : k0 < k := h (k0, v0) (List.mem_cons_self ..)
    simp only [insert, List.cons_append]
    rw [if_neg (by omega), if_neg (by omega), ih fun x hx => h x (List.mem_cons_of_mem _ hx)]

theorem insert_insert (m : SMap α) (k : Nat) (v w : α) : insert (insert m k v) k w = insert m k w := by
  induction m with
  | nil => simp [insert]
  | cons p r ih =>
    obtain ⟨k', v'⟩ := p
    simp only [insert]
    by_cases h1 : k < k'
    · simp [h1, insert]
    · by_cases h2 : k = k'
      · subst h2; simp [insert]
      · simp [h1, h2, insert, ih]

theorem insert_same {m : SMap α} (hs : Sorted m) {k : Nat} {v : α} (hf : find? m k = some v) : insert m k v = m := by
  induction m with
  | nil => cases hf
  | cons p r ih =>
    obtain ⟨k', v'⟩ := p
    simp only [find?_cons] at hf
    simp only [insert]
    by_cases h : k' = k
    · subst h
      rw [if_pos rfl] at hf
      cases hf
      simp
    · rw [if_neg h] at hf
      have hlt : k' < k := (sorted_cons.mp hs).1 k (mem_keys_of_mem (mem_of_find? hf))
      rw [if_neg (by omega), if_neg (by omega), ih (sorted_tail hs) hf]

theorem erase_sublist (m : SMap α) (k : Nat) : (erase m k).Sublist m := by
  induction m with
  | nil => exact List.Sublist.refl _
  | cons q r ih =>
    obtain ⟨k0, v0⟩ := q
    simp only [erase]
    split
    · exact List.sublist_cons_self _ _
    · exact ih.cons_cons _

theorem mem_erase {m : SMap α} {k : Nat} {p : Nat × α} (h : p ∈ erase m k) : p ∈ m :=
  (erase_sublist m k).subset h

theorem mem_keys_erase {m : SMap α} {k k' : Nat} (h : k' ∈ keys (erase m k)) : k' ∈ keys m :=
  ((erase_sublist m k).map _).subset h

theorem sorted_erase {m : SMap α} (hs : Sorted m) (k : Nat) : Sorted (erase m k) :=
  List.Pairwise.sublist ((erase_sublist m k).map _) hs

theorem find?_erase_ne (m : SMap α) {k k' : Nat} (h : k ≠ k') : find? (erase m k) k' = find? m k' := by
  induction m with
  | nil => simp [erase]
  | cons p r ih =>
    obtain ⟨k0, v0⟩ := p
    simp only [erase]
    split
    · subst_vars; simp [find?_cons, h]
    · simp only [find?_cons, ih]

theorem erase_of_find?_none {m : SMap α} {k : Nat} (h : find? m k = none) : erase m k = m := by
  induction m with
  | nil => rfl
  | cons p r ih =>
    obtain ⟨k0, v0⟩ := p
    simp only [find?_cons] at h
    split at h
    · cases h
    · simp only [erase]; rw [if_neg (by assumption), ih h]

theorem find?_erase_none (m : SMap α) {k k' : Nat} (h : find? m k' = none) : find? (erase m k) k' = none := by
  rw [find?_eq_none_iff] at h ⊢
  exact fun hk => h (mem_keys_erase hk)

theorem find?_erase_self {m : SMap α} (hn : (keys m).Nodup) (k : Nat) : find? (erase m k) k = none := by
  induction m with
  | nil => simp [erase]
  | cons p r ih =>
    obtain ⟨k0, v0⟩ := p
    rw [keys_cons, List.nodup_cons] at hn
    simp only [erase]
    split
    · subst_vars; exact find?_eq_none_iff.mpr hn.1
    · simp only [find?_cons]; rw [if_neg (by assumption)]; exact ih hn.2

theorem find?_erase {m : SMap α} (hn : (keys m).Nodup) (k k' : Nat) :
    find? (erase m k) k' = if k = k' then none else find? m k' := by
  split
  · rename_i h; subst h; exact find?_erase_self hn k
  · rename_i h; exact find?_erase_ne m h

theorem find?_erase_some {m : SMap α} (hn : (keys m).Nodup) {k k' : Nat} {v : α}
    (h : find? (erase m k) k' = some v) : k ≠ k' ∧ find? m k' = some v := by
  rw [find?_erase hn] at h
  split at h
  · cases h
  · rename_i hne; exact ⟨hne, h⟩

theorem forall_find?_erase {Q : Nat → α → Prop} {m : SMap α} (hn : (keys m).Nodup) (k : Nat)
    (h : ∀ j x, find? m j = some x → Q j x) : ∀ j x, find? (erase m k) j = some x → Q j x :=
  fun j x hf => h j x (find?_erase_some hn hf).2

theorem contains_erase {m : SMap α} (hn : (keys m).Nodup) {k k' : Nat} :
    contains (erase m k) k' = true ↔ k' ≠ k ∧ contains m k' = true := by
  unfold contains
  rw [find?_erase hn]
  split
  · subst_vars; simp
  · rename_i h; simp [Ne.symm h]

theorem erase_insert {m : SMap α} (hs : Sorted m) (k : Nat) (v : α) : erase (insert m k v) k = erase m k := by
  induction m with
  | nil => simp [insert, erase]
  | cons p r ih =>
    obtain ⟨k0, v0⟩ := p
    simp only [insert]
    split
    · have hn := find?_tail_none hs (k := k) (by omega)
      simp only [erase, if_true]
      rw [if_neg (by omega), erase_of_find?_none hn]
    · split
      · subst_vars; simp [erase]
      · simp only [erase]
        rw [if_neg (by omega), if_neg (by omega), ih (sorted_tail hs)]

theorem le_sumBy_of_mem (f : α → Nat) {m : SMap α} {k : Nat} {v : α} (h : (k, v) ∈ m) : f v ≤ sumBy f m := by
  induction m with
  | nil => cases h
  | cons p r ih =>
    obtain ⟨k0, v0⟩ := p
    rcases List.mem_cons.mp h with he | he
    · cases he; simp only [sumBy_cons]; omega
    · have := ih he; simp only [sumBy_cons]; omega

theorem sumBy_erase_present (f : α → Nat) {m : SMap α} {k : Nat} {old : α} (h : find? m k = some old) :
    sumBy f (erase m k) + f old = sumBy f m := by
  induction m with
  | nil => simp at h
  | cons p r ih =>
    obtain ⟨k0, v0⟩ := p
    simp only [find?_cons] at h
    simp only [erase]
    split
    · rw [if_pos (by assumption)] at h; cases h
      simp only [sumBy_cons]; omega
    · rw [if_neg (by assumption)] at h
      have := ih h
      simp only [sumBy_cons]; omega

theorem sumBy_insert_absent (f : α → Nat) {m : SMap α} {k : Nat} (v : α) (h : find? m k = none) :
    sumBy f (insert m k v) = sumBy f m + f v := by
  induction m with
  | nil => simp [insert]
  | cons p r ih =>
    obtain ⟨k0, v0⟩ := p
    simp only [find?_cons] at h
    split at h
    · cases h
    · simp only [insert]
      split
      · simp only [sumBy_cons]; omega
      · split
        · omega
        · simp only [sumBy_cons, ih h]; omega

theorem sumBy_insert_present (f : α → Nat) {m : SMap α} (hs : Sorted m) {k : Nat} {old : α} (v : α)
    (h : find? m k = some old) : sumBy f (insert m k v) + f old = sumBy f m + f v := by
  induction m with
  | nil => simp at h
  | cons p r ih =>
    obtain ⟨k0, v0⟩ := p
    simp only [insert]
    split
    · -- k < k0: impossible, k would have to occur in the tail
      have hn := find?_tail_none hs (k := k) (by omega)
      simp only [find?_cons] at h
      rw [if_neg (by omega), hn] at h; cases h
    · split
      · subst_vars
        simp only [find?_cons, if_true] at h
        cases h
        simp only [sumBy_cons]; omega
      · simp only [find?_cons] at h
        rw [if_neg (by omega)] at h
        have := ih (sorted_tail hs) h
        simp only [sumBy_cons]; omega

section foldl
variable {β : Type} (key : β → Nat) (val : β → α)

theorem sorted_foldl_insert (l : List β) {m0 : SMap α} (h : Sorted m0) :
    Sorted (l.foldl (fun m c => insert m (key c) (val c)) m0) := by
  induction l generalizing m0 with
  | nil => exact h
  | cons c r ih => exact ih (sorted_insert h _ _)

theorem mem_foldl_insert (l : List β) {m0 : SMap α} {x : Nat × α}
    (h : x ∈ l.foldl (fun m c => insert m (key c) (val c)) m0) : x ∈ m0 ∨ ∃ c ∈ l, x = (key c, val c) := by
  induction l generalizing m0 with
  | nil => exact Or.inl h
  | cons c l ih =>
    rcases ih h with h1 | ⟨c', hc', e⟩
    · rcases mem_insert h1 with e | h2
      · exact Or.inr ⟨c, List.mem_cons_self .., e⟩
      · exact Or.inl h2
    · exact Or.inr ⟨c', List.mem_cons_of_mem _ hc', e⟩

theorem forall_mem_foldl_insert {Q : α → Prop} (hv : ∀ c, Q (val c)) (l : List β) {m0 : SMap α}
    (h0 : ∀ x ∈ m0, Q x.2) : ∀ x ∈ l.foldl (fun m c => insert m (key c) (val c)) m0, Q x.2 := by
  intro x hx
  rcases mem_foldl_insert key val l hx with h | ⟨c, -, rfl⟩
  · exact h0 x h
  · exact hv c

theorem find?_foldl_insert (l : List β) {m0 : SMap α} {k : Nat} {v : α}
    (h : find? (l.foldl (fun m c => insert m (key c) (val c)) m0) k = some v) :
    find? m0 k = some v ∨ ∃ c ∈ l, key c = k ∧ val c = v := by
  induction l generalizing m0 with
  | nil => exact Or.inl h
  | cons c l ih =>
    rcases ih h with h1 | ⟨c', hc', h2⟩
    · rw [find?_insert] at h1
      split at h1
      · rename_i e; cases h1; exact Or.inr ⟨c, List.mem_cons_self .., e, rfl⟩
      · exact Or.inl h1
    · exact Or.inr ⟨c', List.mem_cons_of_mem _ hc', h2⟩

theorem contains_foldl_insert (l : List β) (m0 : SMap α) (j : Nat) :
    contains (l.foldl (fun m c => insert m (key c) (val c)) m0) j = true ↔ contains m0 j = true ∨ j ∈ l.map key := by
  induction l generalizing m0 with
  | nil => simp
  | cons c r ih =>
    rw [List.foldl_cons, ih, contains_insert, List.map_cons, List.mem_cons]
    constructor
    · rintro ((h | h) | h)
      · exact Or.inr (Or.inl h)
      · exact Or.inl h
      · exact Or.inr (Or.inr h)
    · rintro (h | h | h)
      · exact Or.inl (Or.inr h)
      · exact Or.inl (Or.inl h)
      · exact Or.inr h

/-- the shape of a channel table of `Conn.fromChannels` -/
theorem find?_foldl_filter {key : β → Nat} {val : β → α} {p : β → Bool} {l : List β} {k : Nat} {v : α}
    (h : find? ((l.filter p).foldl (fun m c => insert m (key c) (val c)) []) k = some v) :
    ∃ c ∈ l, p c = true ∧ key c = k ∧ v = val c := by
  rcases find?_foldl_insert key val _ h with h0 | ⟨c, hc, h1, h2⟩
  · cases h0
  · exact ⟨c, (List.mem_filter.mp hc).1, (List.mem_filter.mp hc).2, h1, h2.symm⟩

theorem contains_foldl_filter {key : β → Nat} {val : β → α} {p : β → Bool} {l : List β} {c : β} (hc : c ∈ l)
    (hp : p c = true) : contains ((l.filter p).foldl (fun m c => insert m (key c) (val c)) []) (key c) = true :=
  (contains_foldl_insert key val _ _ _).mpr (Or.inr (List.mem_map.mpr ⟨c, List.mem_filter.mpr ⟨hc, hp⟩, rfl⟩))

end foldl

/-! ### deciding a clause that is guarded by a lookup -/

instance decGuard {α : Type} (o : Option α) (P : α → Prop) [∀ a, Decidable (P a)] :
    Decidable (∀ a, o = some a → P a) :=
  match o with
  | none => isTrue (fun _ h => nomatch h)
  | some a => decidable_of_iff (P a) ⟨fun h _ e => Option.some.inj e ▸ h, fun h => h a rfl⟩

instance decFound {α : Type} (m : SMap α) (P : Nat → α → Prop) [∀ k a, Decidable (P k a)] :
    Decidable (∀ k a, find? m k = some a → P k a) :=
  decidable_of_iff (∀ x ∈ (m : List (Nat × α)), ∀ a, find? m x.1 = some a → P x.1 a)
    ⟨fun h k a hf => h (k, a) (mem_of_find? hf) a hf, fun h x _ a hf => h x.1 a hf⟩

end RenetVerif.SMap
