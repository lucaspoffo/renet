/-
  The netcode SERVER TRACE SYSTEM over the GENERATED code (`Generated/Src/NcServer*.lean`, translated from
  `renetcode/src/server.rs`): the state of `GNc` holds a generated `NetcodeServer` struct, created by the generated
  `NetcodeServer::new` and driven only through the generated `process_packet`, `update`, `update_client`, `disconnect`,
  `generate_payload_packet`, `set_max_clients`, plus the ghost logs the model-level history theorems speak about:

    * `results`  — every `ServerResult` the generated functions returned, in order (`generate_payload_packet`: `Ok((addr, bytes))`
                   is recorded as `PacketToSend addr bytes`, `Err(_)` as `None`; `update` / `set_max_clients`: `None`) — the
                   event log (`ClientConnected` / `ClientDisconnected`), the surfaced payloads (`Payload`) and everything the
                   server emitted (`PacketToSend`, the packets inside `ClientConnected` / `ClientDisconnected`) are projections;
    * `arrivals` — every datagram handed to `process_packet`, with its source address and the generated state it met
                   (mirror of `NS.Arrival` / `NS.ReachH`).

  The operations are `NS.Op` (the op type of `NS.step`, `NS.Reach`, `NS.ReachH`, `NcBinding.Steps`, `NcLive2.runOps`): ANY
  address, ANY byte string, any ids / durations / limits, in any order.  `MNc` is the same system over the model
  (`NS.step`); `SimNc` relates the two: generated server = `reprNS out (model server)` for SOME scratch buffer `out` of
  `NETCODE_MAX_PACKET_BYTES` bytes (the model does not keep the buffer), result logs equal up to `reprNSR`, arrival logs
  related entry by entry.

  `run_sim` / `run_sim_conv` / `exec_sim`: under the range side condition `OpsInRange ops` (every datagram handed to
  `process_packet` is shorter than `2^64 - 16` bytes — the ONLY thing the closed ties need beyond the model invariant
  `NS.ServerInv` and `a.Laws`: clock overflow, sequence-counter overflow, … unwind on BOTH sides, the ties match panics) the
  generated run and the model run succeed together (`none` = some call unwinds) and end in related states.
-/
import RenetVerif.Props.SrcTieNcServerRecv
import RenetVerif.Props.SrcTieNcServerSend
import RenetVerif.Props.SrcTieNcServerQuery
import RenetVerif.Lemmas.NcTablePP
import RenetVerif.Lemmas.NcTableEvents
import RenetVerif.Lemmas.NcHandshake
namespace RenetVerif.SrcNcSystem
open RenetVerif RenetVerif.SrcEquiv RenetVerif.RustSem RenetVerif.Netcode RenetVerif.Netcode.NS
open Src.renetcode.server

/-- a datagram handed to the generated `process_packet`, with the generated server it met -/
structure GArrival where
  srv : SNetcodeServer
  addr : RustSem.SocketAddr
  buf : List Nat

structure GNc where
  srv : SNetcodeServer
  results : List SServerResult
  arrivals : List GArrival

/-- the parameters of `NetcodeServer::new`: the fields of `ServerConfig`, and the bytes `generate_random_bytes()` returns
    for the challenge key (`rand1` of the generated definition) -/
structure NcCfg where
  currentTime : Nat
  maxClients : Nat
  protocolId : Nat
  publicAddresses : List Addr
  secure : Bool
  privateKey : Bytes
  challengeKey : Bytes

/-- generated `NetcodeServer::new` (`none`: its `panic!` fired) -/
def GNc.init (c : NcCfg) : Option GNc :=
  match (Src.renetcode.server.NetcodeServer.new
      ⟨c.currentTime, c.maxClients, c.protocolId, c.publicAddresses.map reprAddr, reprAuth c.secure c.privateKey⟩
      (toNats c.challengeKey) : Res Empty _) with
  | .ok s => some { srv := s, results := [], arrivals := [] }
  | _ => none

/-- one operation, through the generated functions only; `none` = the generated function panicked -/
def GNc.step (a : AEAD) (g : GNc) : Op → Option GNc
  | .packet addr buf =>
    match @NetcodeServer.process_packet (aeadOf a) Empty g.srv (reprAddr addr) (toNats buf) with
    | .ok (srv', _, r) =>
      some { srv := srv', results := g.results ++ [r], arrivals := g.arrivals ++ [⟨g.srv, reprAddr addr, toNats buf⟩] }
    | _ => none
  | .update d =>
    match (Src.renetcode.server.NetcodeServer.update g.srv d : Res Empty _) with
    | .ok (srv', _) => some { g with srv := srv', results := g.results ++ [.None] }
    | _ => none
  | .updateClient id =>
    match @NetcodeServer.update_client (aeadOf a) Empty g.srv id with
    | .ok (srv', r) => some { g with srv := srv', results := g.results ++ [r] }
    | _ => none
  | .disconnect id =>
    match @Src.renetcode.server.NetcodeServer.disconnect (aeadOf a) Empty g.srv id with
    | .ok (srv', r) => some { g with srv := srv', results := g.results ++ [r] }
    | _ => none
  | .setMaxClients n =>
    match (NetcodeServer.set_max_clients g.srv n : Res Empty _) with
    | .ok (srv', _) => some { g with srv := srv', results := g.results ++ [.None] }
    | _ => none
  | .sendPayload id p =>
    match @NetcodeServer.generate_payload_packet (aeadOf a) g.srv id (toNats p) with
    | .ok (srv', (ad, out)) => some { g with srv := srv', results := g.results ++ [.PacketToSend ad out] }
    | .err (_, srv') => some { g with srv := srv', results := g.results ++ [.None] }
    | .panic _ => none

def GNc.run (a : AEAD) (g : GNc) : List Op → Option GNc
  | [] => some g
  | op :: ops =>
    match g.step a op with
    | some g' => g'.run a ops
    | none => none

def GNc.exec (a : AEAD) (c : NcCfg) (ops : List Op) : Option GNc :=
  match GNc.init c with
  | some g => g.run a ops
  | none => none

/-! ## the model system (`NS.step`) with the same ghost logs -/

structure MNc where
  srv : Netcode.NetcodeServer
  results : List Netcode.ServerResult
  arrivals : List Arrival

def MNc.init (c : NcCfg) : Option MNc :=
  match Netcode.NetcodeServer.new c.currentTime c.maxClients c.protocolId c.publicAddresses c.secure c.privateKey
      c.challengeKey with
  | .ok s => some { srv := s, results := [], arrivals := [] }
  | _ => none

def MNc.step (a : AEAD) (m : MNc) (op : Op) : Option MNc :=
  match NS.step a m.srv op with
  | some (r, s') => some { srv := s', results := m.results ++ [r], arrivals := m.arrivals ++ arrivalOf m.srv op }
  | none => none

def MNc.run (a : AEAD) (m : MNc) : List Op → Option MNc
  | [] => some m
  | op :: ops =>
    match m.step a op with
    | some m' => m'.run a ops
    | none => none

def MNc.exec (a : AEAD) (c : NcCfg) (ops : List Op) : Option MNc :=
  match MNc.init c with
  | some m => m.run a ops
  | none => none

inductive Forall₂ {α β : Type} (R : α → β → Prop) : List α → List β → Prop
  | nil : Forall₂ R [] []
  | cons {x : α} {y : β} {l1 : List α} {l2 : List β} : R x y → Forall₂ R l1 l2 → Forall₂ R (x :: l1) (y :: l2)

/-- a generated arrival is the representation of a model arrival (for some scratch buffer) -/
def ArrRel (ga : GArrival) (ar : Arrival) : Prop :=
  (∃ out, out.length = C.NETCODE_MAX_PACKET_BYTES ∧ ga.srv = reprNS out ar.s) ∧ ga.addr = reprAddr ar.addr ∧
    ga.buf = toNats ar.buf

structure SimNc (m : MNc) (g : GNc) : Prop where
  srv : ∃ out, out.length = C.NETCODE_MAX_PACKET_BYTES ∧ g.srv = reprNS out m.srv
  results : g.results = m.results.map reprNSR
  arrivals : Forall₂ ArrRel g.arrivals m.arrivals

/-- **the range side condition**: a datagram handed to `process_packet` has fewer than `2^64 - 16` bytes (a Rust slice has at
    most `isize::MAX` bytes).  Nothing else: ids, durations, limits, addresses and the contents of the datagrams are
    arbitrary; arithmetic overflow of the clock or of a sequence counter unwinds on both sides. -/
def OpInRange : Op → Prop
  | .packet _ buf => buf.length + 16 < 2 ^ 64
  | _ => True

def OpsInRange (ops : List Op) : Prop := ∀ op ∈ ops, OpInRange op

instance (op : Op) : Decidable (OpInRange op) := by cases op <;> unfold OpInRange <;> infer_instance
instance (ops : List Op) : Decidable (OpsInRange ops) := by unfold OpsInRange; infer_instance

theorem forall2_append {α β : Type} {R : α → β → Prop} : ∀ {l1 l1' : List α} {l2 l2' : List β},
    Forall₂ R l1 l2 → Forall₂ R l1' l2' → Forall₂ R (l1 ++ l1') (l2 ++ l2') := by
  intro l1 l1' l2 l2' h h'
  induction h with
  | nil => exact h'
  | cons hab _ ih => exact .cons hab ih

theorem forall2_mem_left {α β : Type} {R : α → β → Prop} {l1 : List α} {l2 : List β} (h : Forall₂ R l1 l2) {x : α}
    (hx : x ∈ l1) : ∃ y ∈ l2, R x y := by
  induction h with
  | nil => cases hx
  | cons hab _ ih =>
    rcases List.mem_cons.mp hx with rfl | hx
    · exact ⟨_, List.mem_cons_self, hab⟩
    · obtain ⟨y, hy, hr⟩ := ih hx; exact ⟨y, List.mem_cons_of_mem _ hy, hr⟩

theorem forall2_mem_right {α β : Type} {R : α → β → Prop} {l1 : List α} {l2 : List β} (h : Forall₂ R l1 l2) {y : β}
    (hy : y ∈ l2) : ∃ x ∈ l1, R x y := by
  induction h with
  | nil => cases hy
  | cons hab _ ih =>
    rcases List.mem_cons.mp hy with rfl | hy
    · exact ⟨_, List.mem_cons_self, hab⟩
    · obtain ⟨x, hx, hr⟩ := ih hy; exact ⟨x, List.mem_cons_of_mem _ hx, hr⟩

theorem SimNc.next {m : MNc} {g : GNc} (hsim : SimNc m g) (op : Op) {s' : Netcode.NetcodeServer} {out' : List Nat}
    (ho' : out'.length = C.NETCODE_MAX_PACKET_BYTES) (r : Netcode.ServerResult) :
    SimNc ⟨s', m.results ++ [r], m.arrivals ++ arrivalOf m.srv op⟩
      ⟨reprNS out' s', g.results ++ [reprNSR r],
        match op with
        | .packet addr buf => g.arrivals ++ [⟨g.srv, reprAddr addr, toNats buf⟩]
        | _ => g.arrivals⟩ := by
  refine ⟨⟨out', ho', rfl⟩, by simp only [hsim.results, List.map_append, List.map_cons, List.map_nil], ?_⟩
  cases op with
  | packet addr buf => exact forall2_append hsim.arrivals (.cons ⟨hsim.srv, rfl, rfl⟩ .nil)
  | _ => simpa only [arrivalOf, List.append_nil] using hsim.arrivals

theorem step_sim (a : AEAD) (hl : a.Laws) {m : MNc} {g : GNc} (hi : ServerInv m.srv) (hsim : SimNc m g) (op : Op)
    (hop : OpInRange op) :
    match m.step a op with
    | some m' => ∃ g', g.step a op = some g' ∧ SimNc m' g'
    | none => g.step a op = none := by
  obtain ⟨gs, gres, garr⟩ := g
  obtain ⟨out, hout, hs⟩ := hsim.srv
  dsimp only at hs
  subst hs
  cases op with
  | packet addr buf =>
    have tie := SrcTie.nc_server_process_packet (ε := Empty) a hl out hout m.srv hi.entriesPos addr buf hop
    unfold MNc.step NS.step GNc.step
    dsimp only
    generalize m.srv.processPacket a addr buf = M at tie ⊢
    rcases M with ⟨r, s'⟩ | e | msg
    · obtain ⟨out', buf', ho', e⟩ := tie
      rw [e]
      exact ⟨_, rfl, hsim.next (.packet addr buf) ho' r⟩
    · exact nomatch e
    · obtain ⟨m', e⟩ := tie
      rw [e]
  | update d =>
    have tie := SrcTie.nc_server_update (ε := Empty) out m.srv d hi.pendLive
    unfold MNc.step NS.step GNc.step
    dsimp only
    generalize m.srv.update d = M at tie ⊢
    rcases M with s' | e | msg
    · rw [tie.eq_ok]
      exact ⟨_, rfl, hsim.next (.update d) hout .none⟩
    · exact nomatch e
    · obtain ⟨m', e⟩ := tie.panics
      rw [e]
  | updateClient id =>
    have tie := SrcTie.nc_server_update_client (ε := Empty) a hl out hout m.srv hi.timeouts id
    unfold MNc.step NS.step GNc.step
    dsimp only
    generalize m.srv.updateClient a id = M at tie ⊢
    rcases M with ⟨r, s'⟩ | e | msg
    · obtain ⟨out', ho', e⟩ := tie
      rw [e]
      exact ⟨_, rfl, hsim.next (.updateClient id) ho' r⟩
    · exact nomatch e
    · obtain ⟨m', e⟩ := tie
      rw [e]
  | disconnect id =>
    have tie := SrcTie.nc_server_disconnect (ε := Empty) a hl out hout m.srv id
    unfold MNc.step NS.step GNc.step
    dsimp only
    generalize m.srv.disconnect a id = M at tie ⊢
    rcases M with ⟨r, s'⟩ | e | msg
    · obtain ⟨out', ho', e⟩ := tie
      rw [e]
      exact ⟨_, rfl, hsim.next (.disconnect id) ho' r⟩
    · exact nomatch e
    · obtain ⟨m', e⟩ := tie
      rw [e]
  | setMaxClients n =>
    simp only [MNc.step, NS.step, GNc.step, SrcTie.nc_server_set_max_clients]
    exact ⟨_, rfl, hsim.next (.setMaxClients n) hout .none⟩
  | sendPayload id p =>
    have tie := SrcTie.nc_server_generate_payload_packet a hl out hout m.srv id p
    unfold MNc.step NS.step GNc.step
    dsimp only
    generalize m.srv.generatePayloadPacket a id p = M at tie ⊢
    rcases M with ⟨⟨ad, bytes⟩, s'⟩ | e | msg
    · obtain ⟨out', ho', e⟩ := tie
      rw [e]
      exact ⟨_, rfl, hsim.next (.sendPayload id p) ho' (.packetToSend ad bytes)⟩
    · obtain ⟨out', ho', e⟩ := tie
      rw [e]
      exact ⟨_, rfl, hsim.next (.sendPayload id p) ho' .none⟩
    · obtain ⟨m', e⟩ := tie
      rw [e]

theorem mstep_inv {a : AEAD} {m m' : MNc} {op : Op} (h : m.step a op = some m') :
    ∃ r, NS.step a m.srv op = some (r, m'.srv) ∧ m'.results = m.results ++ [r] ∧
      m'.arrivals = m.arrivals ++ arrivalOf m.srv op := by
  unfold MNc.step at h
  cases hs : NS.step a m.srv op with
  | none => rw [hs] at h; cases h
  | some x => rw [hs] at h; cases h; exact ⟨x.1, rfl, rfl, rfl⟩

theorem MNc.run_preserves {a : AEAD} {P : MNc → Prop} (hP : ∀ {m m' : MNc} {op : Op}, P m → m.step a op = some m' → P m') :
    ∀ (ops : List Op) {m m' : MNc}, P m → m.run a ops = some m' → P m' := by
  intro ops
  induction ops with
  | nil => intro m m' hp h; cases h; exact hp
  | cons op ops ih =>
    intro m m' hp h
    simp only [MNc.run] at h
    cases hs : m.step a op with
    | none => rw [hs] at h; cases h
    | some m1 => rw [hs] at h; exact ih (hP hp hs) h

theorem inv_mstep {a : AEAD} {m m' : MNc} {op : Op} (hi : ServerInv m.srv) (h : m.step a op = some m') : ServerInv m'.srv := by
  obtain ⟨r, hs, -, -⟩ := mstep_inv h
  exact step_inv hi hs

theorem inv_mrun {a : AEAD} : ∀ (ops : List Op) {m m' : MNc}, ServerInv m.srv → m.run a ops = some m' → ServerInv m'.srv :=
  MNc.run_preserves (P := fun m => ServerInv m.srv) inv_mstep

theorem run_sim_from (a : AEAD) (hl : a.Laws) : ∀ (ops : List Op) (m : MNc) (g : GNc), ServerInv m.srv → SimNc m g →
    OpsInRange ops →
    match m.run a ops with
    | some m' => ∃ g', g.run a ops = some g' ∧ SimNc m' g'
    | none => g.run a ops = none := by
  intro ops
  induction ops with
  | nil => intro m g _ hsim _; exact ⟨g, rfl, hsim⟩
  | cons op ops ih =>
    intro m g hi hsim hrg
    have hstep := step_sim a hl hi hsim op (hrg op List.mem_cons_self)
    simp only [MNc.run, GNc.run]
    cases hs : m.step a op with
    | none =>
      rw [hs] at hstep
      simp only [hstep]
    | some m' =>
      rw [hs] at hstep
      obtain ⟨g', e, hsim'⟩ := hstep
      simp only [e]
      exact ih m' g' (inv_mstep hi hs) hsim' (fun o ho => hrg o (List.mem_cons_of_mem _ ho))

theorem run_sim_of (a : AEAD) (hl : a.Laws) (ops : List Op) {m m' : MNc} {g : GNc} (hi : ServerInv m.srv) (hsim : SimNc m g)
    (hr : OpsInRange ops) (hm : m.run a ops = some m') : ∃ g', g.run a ops = some g' ∧ SimNc m' g' := by
  have := run_sim_from a hl ops m g hi hsim hr
  rw [hm] at this
  exact this

theorem run_sim_conv_of (a : AEAD) (hl : a.Laws) (ops : List Op) {m : MNc} {g g' : GNc} (hi : ServerInv m.srv)
    (hsim : SimNc m g) (hr : OpsInRange ops) (hg : g.run a ops = some g') : ∃ m', m.run a ops = some m' ∧ SimNc m' g' := by
  have := run_sim_from a hl ops m g hi hsim hr
  rw [hg] at this
  split at this
  · rename_i m' hm
    obtain ⟨_, e, hsim'⟩ := this
    cases e
    exact ⟨m', hm, hsim'⟩
  · cases this

def MNc.events (m : MNc) : List Event := m.results.flatMap eventOf

/-- what the model-level history theorems need of a state of the model system: it is `NS.Reach`able with the events of its
    result log, and `NS.ReachH`able with its arrival log -/
structure MGood (a : AEAD) (m : MNc) : Prop where
  reach : Reach a m.srv m.events
  reachH : ReachH a m.srv m.arrivals

theorem mgood_step {a : AEAD} {m m' : MNc} {op : Op} (hg : MGood a m) (h : m.step a op = some m') : MGood a m' := by
  obtain ⟨r, hs, hres, harr⟩ := mstep_inv h
  exact ⟨by simpa [MNc.events, hres, List.flatMap_append] using Reach.step hg.reach hs, harr ▸ .step hg.reachH hs⟩

theorem mgood_run {a : AEAD} : ∀ (ops : List Op) {m m' : MNc}, MGood a m → m.run a ops = some m' → MGood a m' :=
  MNc.run_preserves mgood_step

theorem mgood_empty (a : AEAD) {s : Netcode.NetcodeServer} (h : EmptyServer s) : MGood a ⟨s, [], []⟩ :=
  ⟨.init h, .init h⟩

theorem mgood_init (a : AEAD) {c : NcCfg} {m0 : MNc} (h : MNc.init c = some m0) : MGood a m0 := by
  unfold MNc.init at h
  split at h
  · rename_i s hs; cases h; exact mgood_empty a (new_inv hs).2.2.2.2.2.1
  · cases h

theorem mgood_exec {a : AEAD} {c : NcCfg} {ops : List Op} {m : MNc} (h : MNc.exec a c ops = some m) : MGood a m := by
  unfold MNc.exec at h
  cases h0 : MNc.init c with
  | none => rw [h0] at h; cases h
  | some m0 => rw [h0] at h; exact mgood_run ops (mgood_init a h0) h

/-- the scratch buffer of the generated initial state: 1400 zero bytes -/
theorem init_sim (c : NcCfg) :
    match MNc.init c with
    | some m0 => ∃ g0, GNc.init c = some g0 ∧ SimNc m0 g0
    | none => GNc.init c = none := by
  have tie := SrcTie.nc_server_new (ε := Empty) c.currentTime c.maxClients c.protocolId c.publicAddresses c.secure
    c.privateKey c.challengeKey
  simp only [MNc.init, GNc.init]
  generalize Netcode.NetcodeServer.new c.currentTime c.maxClients c.protocolId c.publicAddresses c.secure c.privateKey
    c.challengeKey = M at tie ⊢
  rcases M with s | e | msg
  · rw [tie.eq_ok]
    exact ⟨_, rfl, ⟨_, List.length_replicate, rfl⟩, rfl, .nil⟩
  · exact nomatch e
  · obtain ⟨m', e⟩ := tie.panics
    rw [e]

theorem exec_sim (a : AEAD) (hl : a.Laws) (c : NcCfg) (ops : List Op) (hr : OpsInRange ops) :
    match MNc.exec a c ops with
    | some m => ∃ g, GNc.exec a c ops = some g ∧ SimNc m g
    | none => GNc.exec a c ops = none := by
  have h0 := init_sim c
  simp only [MNc.exec, GNc.exec]
  cases hm : MNc.init c with
  | none => rw [hm] at h0; simp only [h0]
  | some m0 =>
    rw [hm] at h0
    obtain ⟨g0, e0, hsim0⟩ := h0
    simp only [e0]
    exact run_sim_from a hl ops m0 g0 (mgood_init a hm).reach.inv hsim0 hr

theorem run_sim (a : AEAD) (hl : a.Laws) (c : NcCfg) (ops : List Op) (m : MNc) (hr : OpsInRange ops)
    (hm : MNc.exec a c ops = some m) : ∃ g, GNc.exec a c ops = some g ∧ SimNc m g := by
  have := exec_sim a hl c ops hr
  rw [hm] at this
  exact this

theorem run_sim_conv (a : AEAD) (hl : a.Laws) (c : NcCfg) (ops : List Op) (g : GNc) (hr : OpsInRange ops)
    (hg : GNc.exec a c ops = some g) : ∃ m, MNc.exec a c ops = some m ∧ SimNc m g := by
  have := exec_sim a hl c ops hr
  rw [hg] at this
  split at this
  · rename_i m hm
    obtain ⟨_, e, hsim⟩ := this
    cases e
    exact ⟨m, hm, hsim⟩
  · cases this

theorem MNc.run_append (a : AEAD) : ∀ (ops1 ops2 : List Op) (m : MNc),
    m.run a (ops1 ++ ops2) = (m.run a ops1).bind (fun m1 => m1.run a ops2) := by
  intro ops1
  induction ops1 with
  | nil => intro ops2 m; rfl
  | cons op ops ih =>
    intro ops2 m
    simp only [List.cons_append, MNc.run]
    cases m.step a op with
    | none => rfl
    | some m1 => exact ih ops2 m1

theorem GNc.run_append (a : AEAD) : ∀ (ops1 ops2 : List Op) (g : GNc),
    g.run a (ops1 ++ ops2) = (g.run a ops1).bind (fun g1 => g1.run a ops2) := by
  intro ops1
  induction ops1 with
  | nil => intro ops2 g; rfl
  | cons op ops ih =>
    intro ops2 g
    simp only [List.cons_append, GNc.run]
    cases g.step a op with
    | none => rfl
    | some g1 => exact ih ops2 g1

theorem opsInRange_append {ops1 ops2 : List Op} (h : OpsInRange (ops1 ++ ops2)) : OpsInRange ops1 ∧ OpsInRange ops2 :=
  ⟨fun o ho => h o (List.mem_append_left _ ho), fun o ho => h o (List.mem_append_right _ ho)⟩

end RenetVerif.SrcNcSystem
