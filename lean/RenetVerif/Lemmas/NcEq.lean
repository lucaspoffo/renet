/-
  Equality of the netcode records field by field, for the equality tests that proofs evaluate in the kernel
  (`GlueEq`, the example world `NS.Ex`).
-/
import RenetVerif.Netcode.Server
import RenetVerif.Netcode.Client
namespace RenetVerif.GlueEq
open RenetVerif RenetVerif.Netcode

attribute [local ext] RP Connection NetcodeClient NetcodeServer

theorem rp_eq_iff {x y : RP} : x = y ↔ x.mostRecent = y.mostRecent ∧ x.received.toList = y.received.toList := by
  rw [RP.ext_iff, Vector.toList_inj]

end RenetVerif.GlueEq
