/-
  Source tie: the well-formedness hypotheses of the RECEIVE path hold in the reachable states.

  `ProcOk c bytes` — the hypothesis of `conn_process_packet` (`SrcTieConnRecv.lean`) and, per connection, of
  `server_process_packet_from` (`SrcTieServer.lean`) — follows, for EVERY byte sequence, from
    * the model invariant `Conn.SInv` (`Lemmas/ConnInv.lean`: established by `from_channels`, kept by every operation on
      every input — `fromChannels_invP`, `processPacket_totalP`, `getPacketsToSend_invP`, …),
    * `ChanSorted c`: the four channel tables are key-sorted — established by `from_channels`, kept by `send_message`,
      `receive_message`, `update`, `process_packet`, `get_packets_to_send`, the status setters (proved here),
    * the configured budgets being at most `2^63` bytes (`RecvBudgetOk`, `SendBudgetOk`; counter-range conditions on the
      configuration: no operation changes a budget),
    * no recorded send time lying in the future (the second clause of `TimeOK`, `Lemmas/AckFinal.lean`: `timeOK_fresh`,
      `timeOK_apply`).
  In particular the per-packet hypotheses `DispatchOk` (sorted slice tables, `CtorOk`, `RelMsgsOk` / `UnrelMsgsOk`,
  `AckLoopOk` for the whole ack loop) are discharged: what the decoder accepts (`Packet.WF`) is in range.
  The send path (`SendOk`, `UpdateOk`): `send_ok_of_inv` / `update_ok_of_inv` in `Props/SrcTieTrClosed.lean`, from `Conn.InvP`,
  the invariant `TInv` of `Lemmas/SrcEquiv/SendTimeInv.lean` (time stamps of unacked entries `≤ now`, next slice index `≤ n`)
  and the range condition `SendRange`.
-/
import RenetVerif.Lemmas.SrcEquiv.InvBridge
import RenetVerif.Props.SrcTieConnRecv
import RenetVerif.Props.SrcTieServer
namespace RenetVerif.SrcTie
open RenetVerif RenetVerif.SrcEquiv RenetVerif.RustSem
open Src.renet.remote_connection

theorem chan_sorted_from_channels (budget : Nat) (send recv : List ChanCfg) :
    ChanSorted (Conn.fromChannels budget send recv) :=
  ⟨SMap.sorted_foldl_insert _ _ _ SMap.sorted_nil, SMap.sorted_foldl_insert _ _ _ SMap.sorted_nil,
   SMap.sorted_foldl_insert _ _ _ SMap.sorted_nil, SMap.sorted_foldl_insert _ _ _ SMap.sorted_nil⟩
theorem chan_sorted_send_message {c c' : Conn} {ch : Nat} {m : Bytes} (h : ChanSorted c) (hr : c.sendMessage ch m = .ok c') :
    ChanSorted c' := chanSorted_kept.sendMessage h trivial hr
theorem chan_sorted_receive_message {c c' : Conn} {ch : Nat} {o : Option Bytes} (h : ChanSorted c)
    (hr : c.receiveMessage ch = .ok (c', o)) : ChanSorted c' := chanSorted_kept.receiveMessage h hr
theorem chan_sorted_update {c c' : Conn} {dt : Nat} (h : ChanSorted c) (hr : c.update dt = .ok c') : ChanSorted c' := by
  obtain ⟨ru, h1, rfl⟩ := Conn.update_outcome hr
  refine ⟨h.sendRel, h.sendUnrel, h.recvRel, ?_⟩
  show MSorted ru
  unfold MSorted
  rw [discardAll_keys _ _ _ h1]
  exact h.recvUnrel
theorem chan_sorted_process_packet {c c' : Conn} {bytes : Bytes} (h : ChanSorted c) (hr : c.processPacket bytes = .ok c') :
    ChanSorted c' := chanSorted_kept.processPacket trivial h hr
theorem chan_sorted_get_packets_to_send {c c' : Conn} {bs : List Bytes} (h : ChanSorted c)
    (hr : c.getPacketsToSend = .ok (c', bs)) : ChanSorted c' := chanSorted_kept.getPacketsToSend trivial h hr
theorem chan_sorted_disconnect_with {c : Conn} (h : ChanSorted c) (r : Reason) : ChanSorted (c.disconnectWith r) :=
  h.disconnectWith r
theorem chan_sorted_set_connected {c : Conn} (h : ChanSorted c) : ChanSorted c.setConnected := h.setConnected
theorem chan_sorted_set_connecting {c : Conn} (h : ChanSorted c) : ChanSorted c.setConnecting := h.setConnecting

theorem ctor_ok_of_inv {k : SliceCtor} (h : k.Inv) (hsz : k.numSlices * C.SLICE_SIZE < 2 ^ 64) : CtorOk k := by
  refine ⟨hsz, ?_, h.data_upper⟩
  obtain ⟨h1, _, _, h4, _⟩ := h
  have hS : C.SLICE_SIZE = 1200 := rfl
  rw [hS] at hsz
  omega
theorem sliceOk_of_slices {P : SliceCtor → Prop} (hP : ∀ k, P k → k.Inv) {slices : SMap SliceCtor} {mem maxMem : Nat}
    (hok : SlicesOk P slices) (hacct : SMap.sumBy SliceCtor.reserved slices ≤ mem) (hb : mem ≤ maxMem) (hm : maxMem ≤ 2 ^ 63)
    (sl : Slice) (hn : sl.numSlices ≤ C.MAX_NUM_SLICES) :
    MSorted slices ∧ mem + sl.numSlices * C.SLICE_SIZE < 2 ^ 64 ∧
      ∀ k, SMap.find? slices sl.messageId = some k → CtorOk k := by
  have hS : C.SLICE_SIZE = 1200 := rfl
  have hN : C.MAX_NUM_SLICES = 1000000 := rfl
  refine ⟨hok.1, ?_, fun k hk => ?_⟩
  · rw [hS]; rw [hN] at hn
    have : sl.numSlices * 1200 ≤ 1000000 * 1200 := Nat.mul_le_mul_right _ hn
    omega
  · have hle := SMap.le_sumBy_of_mem SliceCtor.reserved (SMap.mem_of_find? hk)
    refine ctor_ok_of_inv (hP k (hok.of_find? hk)) ?_
    have hle' : k.numSlices * C.SLICE_SIZE ≤ SMap.sumBy SliceCtor.reserved slices := hle
    omega

theorem ack_loop_ok_of_inv (l : List Nat) (c : Conn) (h : AckInv c) : AckLoopOk c l := by
  induction l generalizing c with
  | nil => trivial
  | cons seq rest ih => exact ⟨ackOneOk_of_inv h seq, fun c' hc' => ih c' (ackOne_ackInv h hc')⟩
theorem dispatch_ok_of_inv {c : Conn} (hi : c.SInv) (hs : ChanSorted c) (hb : RecvBudgetOk c) (hsb : SendBudgetOk c)
    (ht : ∀ k v, SMap.find? c.sent k = some v → v.1 ≤ c.now) {p : Packet} (hw : p.WF) : DispatchOk c p := by
  cases p with
  | smallReliable seq ch msgs =>
    obtain ⟨_, _, _, h4⟩ := hw
    refine ⟨hs.recvRel, fun r hr => ?_⟩
    have hm := SMap.mem_of_find? hr
    exact relMsgsOk_of_inv msgs r (hi.recvRel _ hm) (hb.rel _ hm) h4
  | smallUnreliable seq ch msgs =>
    obtain ⟨_, _, _, h4⟩ := hw
    refine ⟨hs.recvUnrel, fun r hr => ?_⟩
    have hm := SMap.mem_of_find? hr
    exact unrelMsgsOk_of_inv msgs r (hi.recvUnrel _ hm) (hb.unrel _ hm) h4
  | reliableSlice seq ch sl =>
    obtain ⟨_, _, _, _, _, h6, _⟩ := hw
    refine ⟨hs.recvRel, fun r hr => ?_⟩
    have hm := SMap.mem_of_find? hr
    have hri := hi.recvRel _ hm
    exact sliceOk_of_slices (fun k h => h) hri.slicesOk (by rw [hri.acct]; omega) hri.budget (hb.rel _ hm) sl h6
  | unreliableSlice seq ch sl =>
    obtain ⟨_, _, _, _, _, h6, _⟩ := hw
    intro r hr
    have hm := SMap.mem_of_find? hr
    have hri := hi.recvUnrel _ hm
    exact sliceOk_of_slices (fun k h => h) hri.slicesOk (by rw [hri.acct]; omega) hri.budget (hb.unrel _ hm) sl h6
  | ack seq ranges =>
    intro acks _
    exact ack_loop_ok_of_inv acks c ⟨hi.send, hs.sendRel, ht, hi.acksLen, hi.acksBound, hsb⟩
theorem proc_ok_of_inv {c : Conn} (hi : c.SInv) (hs : ChanSorted c) (hb : RecvBudgetOk c) (hsb : SendBudgetOk c)
    (ht : ∀ k v, SMap.find? c.sent k = some v → v.1 ≤ c.now) (bytes : Bytes) : ProcOk c bytes := by
  refine ⟨hi.acksLen, fun p hp => ?_⟩
  have hw : p.WF := Packet.fromBytes_wf hp
  have hv := varint_max_lt
  have hseqM : p.sequence ≤ Varint.MAX := by
    cases p <;> (simp only [Packet.WF] at hw; simp only [Packet.sequence]; omega)
  refine ⟨by omega, ?_⟩
  obtain ⟨a1, a2, a3⟩ := CI.acks_add hi.acksWF hi.acksLen hi.acksBound hseqM
  have hi' : Conn.SInv { c with pendingAcks := Acks.add C.ACK_RANGE_CAP p.sequence c.pendingAcks } :=
    ⟨⟨hi.send.chans, hi.send.sentSorted, hi.send.sentOK, hi.send.order⟩, a1, a2, a3, hi.recvRel, hi.recvUnrel, hi.sendUnrel⟩
  exact dispatch_ok_of_inv hi' ⟨hs.sendRel, hs.sendUnrel, hs.recvRel, hs.recvUnrel⟩ ⟨hb.rel, hb.unrel⟩ hsb ht hw

/-- `process_packet` for EVERY byte sequence, with the hypothesis `ProcOk` replaced by invariants of the state -/
theorem conn_process_packet_inv {ε : Type} (mrs : Nat → Nat) (c : Conn) (bytes : Bytes) (hi : c.SInv) (hs : ChanSorted c)
    (hb : RecvBudgetOk c) (hsb : SendBudgetOk c) (ht : ∀ k v, SMap.find? c.sent k = some v → v.1 ≤ c.now) :
    ∃ mrs', SameOutcome (RenetClient.process_packet (reprConn mrs c) (toNats bytes) : Res ε _)
      (mapRes (fun c' => (reprConn mrs' c', ())) (fun e => nomatch e) (c.processPacket bytes)) :=
  conn_process_packet mrs c bytes (proc_ok_of_inv hi hs hb hsb ht bytes)

/-- the same for the server: `process_packet_from` for every byte sequence and every client id -/
theorem server_process_packet_from_inv (mrss : Nat → Nat → Nat) (s : Server) (bytes : Bytes) (id : Nat) (hs : MSorted s.conns)
    (hc : ∀ c, SMap.find? s.conns id = some c → c.SInv ∧ ChanSorted c ∧ RecvBudgetOk c ∧ SendBudgetOk c ∧
      ∀ k v, SMap.find? c.sent k = some v → v.1 ≤ c.now) :
    ∃ mrss', SameOutcome (Src.renet.server.RenetServer.process_packet_from (reprServer mrss s) (toNats bytes) id)
      (srvOut mrss' (fun _ : Unit => ())
        (match s.processPacketFrom bytes id with
         | .ok (s', true) => .ok (s', some ())
         | .ok (s', false) => .ok (s', none)
         | .panic m => .panic m
         | .err e => nomatch e)) :=
  server_process_packet_from mrss s bytes id hs (fun c hf => by
    obtain ⟨h1, h2, h3, h4, h5⟩ := hc c hf
    exact proc_ok_of_inv h1 h2 h3 h4 h5 bytes)

end RenetVerif.SrcTie
