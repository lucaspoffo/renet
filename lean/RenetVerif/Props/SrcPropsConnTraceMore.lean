/-
  C13 / C06 / C12 — THE REMAINING API-TRACE STATEMENTS ABOUT THE GENERATED `RenetClient`.

  Setting as in `Props/SrcPropsConnTrace.lean`: `GConn.exec cfg ops = some g` — the GENERATED `from_channels` and every
  generated call of the API trace `ops` (`send_message`, `receive_message`, `update`, `get_packets_to_send`, `process_packet`
  with ARBITRARY bytes, `set_connected`, `set_connecting`, `disconnect`, `disconnect_due_to_transport`, in any order) returned
  normally and ended in `g`; `CRunInRange cfg ops` is the decidable range side condition of the source tie.

    (a) `src_flush_never_changes_status`   along a WHOLE trace, no `get_packets_to_send` step changes `connection_status` /
                                           `disconnect_reason`, and all its datagrams are ≤ 1300 bytes;
        `src_step_status`                  one step from any reachable state: which operation can change the status, to what;
        `src_cause_sufficient`             the converse for the four causes that do not depend on a channel's content;
        `src_disconnect_has_cause`         whole trace: a `Disconnected r` status was produced by ONE identifiable step of the
                                           trace from a live state, and that step is `process_packet` (3 reasons),
                                           `send_message` (1 reason), `disconnect` or `disconnect_due_to_transport` — `GCause`;
        `src_never_self_disconnects`       hence never `PacketSerialization`, never `DisconnectedByServer`, and a trace without
                                           those four operations never disconnects (`src_quiet_trace_stays_live`);
    (b) `src_step_panics_iff`              one generated call from any reachable state panics IFF the connection is not
                                           disconnected and the call names a channel id that is not configured (for its
                                           direction); per function: `src_send_message_panics_iff`,
                                           `src_receive_message_panics_iff`, `src_other_calls_never_panic`.

  Proofs: `Lemmas/SrcEquiv/SrcConnMore.lean` (model side) + the two-way simulation `crun_sim` / `crun_sim_conv`.
-/
import RenetVerif.Lemmas.SrcEquiv.SrcConnMore
import RenetVerif.Lemmas.SrcEquiv.SrcConnTransfer
import RenetVerif.Props.SrcPropsConnTrace
set_option maxRecDepth 100000
set_option linter.unusedVariables false
set_option linter.unusedSimpArgs false
namespace RenetVerif.SrcPropsConnTraceMore
open RenetVerif RenetVerif.RustSem RenetVerif.C RenetVerif.System RenetVerif.SrcEquiv RenetVerif.SrcSystem RenetVerif.SrcConnSystem
open RenetVerif.SrcConnMore RenetVerif.SrcPropsConnTrace
open Src.renet.remote_connection

/-- **why operation `op`, called on the live generated client `cl` (created from `cfg`), can leave it `Disconnected r`.**
    * `process_packet bytes`:
        `PacketDeserialization e`      — the generated `Packet::from_bytes` on a fresh cursor over `bytes` returns `Err(e)`;
        `ReceivedInvalidChannelId ch`  — `bytes` decode (generated decoder) and `ch` is missing in one of the two generated
                                          receive tables;
        `ReceiveChannelError ch e`     — `bytes` decode and `ch` is a configured receive channel (the channel refused the content);
    * `send_message ch m`: `SendChannelError ch ReliableChannelMaxMemoryReached` — `ch` is in the generated reliable send table
      and `memory_usage_bytes + m.len() > max_memory_usage_bytes`;
    * `disconnect`: `DisconnectedByClient`;  `disconnect_due_to_transport`: `Transport`;
    * every other operation (`receive_message`, `update`, `get_packets_to_send`, `set_connected`, `set_connecting`): none. -/
def GCause (cfg : Cfg) (cl : RenetClient) : COp → SReason → Prop
  | .process b, r =>
      (∃ e st, r = .PacketDeserialization e ∧
        Src.renet.packet.Packet.from_bytes (RustSem.Octets.with_slice (toNats b)) = .err (e, st)) ∨
      (∃ ch p, r = .ReceivedInvalidChannelId ch ∧ GDecodes (toNats b) p ∧
        (RustSem.Map.find? cl.receive_reliable_channels ch = none ∨ RustSem.Map.find? cl.receive_unreliable_channels ch = none)) ∨
      (∃ ch e p, r = .ReceiveChannelError ch e ∧ GDecodes (toNats b) p ∧ ch ∈ cfg.recv.map (·.id))
  | .send ch m, r =>
      r = .SendChannelError ch .ReliableChannelMaxMemoryReached ∧
      ∃ s, RustSem.Map.find? cl.send_reliable_channels ch = some s ∧ s.memory_usage_bytes + m.length > s.max_memory_usage_bytes
  | .disconnect, r => r = .DisconnectedByClient
  | .disconnectTransport, r => r = .Transport
  | _, _ => False

def COp.canDisconnect : COp → Bool
  | .process _ | .send _ _ | .disconnect | .disconnectTransport => true
  | _ => false

theorem GCause.canDisconnect {cfg : Cfg} {cl : RenetClient} {op : COp} {r : SReason} (h : GCause cfg cl op r) :
    COp.canDisconnect op = true := by
  cases op <;> first | rfl | exact h.elim

theorem GCause.not_self {cfg : Cfg} {cl : RenetClient} {op : COp} {r : SReason} (h : GCause cfg cl op r) :
    (∀ e, r ≠ .PacketSerialization e) ∧ r ≠ .DisconnectedByServer := by
  cases op with
  | process b =>
    rcases h with ⟨e, st, rfl, -⟩ | ⟨ch, p, rfl, -⟩ | ⟨ch, e, p, rfl, -⟩ <;> exact ⟨fun _ hx => (nomatch hx), fun hx => (nomatch hx)⟩
  | send ch m => obtain ⟨rfl, -⟩ := h; exact ⟨fun _ hx => (nomatch hx), fun hx => (nomatch hx)⟩
  | disconnect => cases h; exact ⟨fun _ hx => (nomatch hx), fun hx => (nomatch hx)⟩
  | disconnectTransport => cases h; exact ⟨fun _ hx => (nomatch hx), fun hx => (nomatch hx)⟩
  | recv ch => exact h.elim
  | update dt => exact h.elim
  | flush => exact h.elim
  | setConnected => exact h.elim
  | setConnecting => exact h.elim

theorem from_bytes_err {b : Bytes} {e : SerErr} (h : Packet.fromBytes b = .error e) :
    ∃ st, Src.renet.packet.Packet.from_bytes (RustSem.Octets.with_slice (toNats b)) = .err (reprSerErr e, st) := by
  have := SrcTie.packet_from_bytes_fresh b
  rw [h] at this
  cases hx : Src.renet.packet.Packet.from_bytes (RustSem.Octets.with_slice (toNats b)) with
  | ok v => rw [hx] at this; simp [Res.forget, mapRes] at this
  | err e' =>
    obtain ⟨e1, st⟩ := e'
    rw [hx] at this
    simp only [Res.forget, mapRes, Res.err.injEq, id] at this
    exact ⟨st, by rw [this]⟩
  | panic m => rw [hx] at this; simp [Res.forget, mapRes] at this

theorem gcause_of_mcause (cfg : Cfg) {pre : List COp} {t : MTr} {g : GConn} (ht : (MTr.init cfg).run pre = some t)
    (sim : SimConn t g) {op : COp} {r : Reason} (h : MCause t.c op r) : GCause cfg g.cl op (reprReason r) := by
  cases h with
  | deser hp =>
    obtain ⟨st, e⟩ := from_bytes_err hp
    exact Or.inl ⟨_, st, rfl, e⟩
  | @invalidChannel _ _ ch hp hch hf =>
    refine Or.inr (Or.inl ⟨_, _, rfl, gdecodes_of_fromBytes hp, ?_⟩)
    rcases hf with hf | hf
    · obtain ⟨mr, e⟩ := sim.recvRel ch
      exact .inl (by rw [e, hf]; rfl)
    · exact .inr (by rw [sim.recvUnrel, hf]; rfl)
  | recvChan e hp hch hr =>
    exact Or.inr (Or.inr ⟨_, _, _, rfl, gdecodes_of_fromBytes hp, (hasRecv_run_iff cfg pre t ht _).mp hr⟩)
  | @sendChan ch m s hf hmem => exact ⟨rfl, reprSR s, by rw [sim.sendRel, hf]; rfl, hmem⟩
  | byClient => rfl
  | transport => rfl

theorem reprStatus_disc {s : Status} {r : SReason} (h : reprStatus s = .Disconnected r) :
    ∃ r0, s = .disconnected r0 ∧ reprReason r0 = r := by
  cases s with
  | connected => cases h
  | connecting => cases h
  | disconnected r0 => exact ⟨r0, rfl, by cases h; rfl⟩

/-- **C13 on the generated code, whole trace: no flush changes the status.**  Along ANY API trace `ops` of the generated
    `RenetClient` (in range), for EVERY `get_packets_to_send` step of it (`ops = pre ++ flush :: post`): with `g1` / `g2` the
    generated states before / after that call, `connection_status` is unchanged, the generated `disconnect_reason` returns the
    same, the call appended exactly its returned datagrams `bs` to the log, and every datagram is at most 1300 bytes long.  In
    particular no flush ever disconnects the connection with `PacketSerialization`. -/
theorem src_flush_never_changes_status (cfg : Cfg) (ops : List COp) (g : GConn) (hg : GConn.exec cfg ops = some g)
    (hrg : CRunInRange cfg ops) (pre post : List COp) (hsplit : ops = pre ++ .flush :: post) :
    ∃ g1 g2 bs, GConn.exec cfg pre = some g1 ∧ GConn.exec cfg (pre ++ [.flush]) = some g2 ∧
      g2.cl.connection_status = g1.cl.connection_status ∧
      (RenetClient.disconnect_reason g2.cl : Res Empty _) = RenetClient.disconnect_reason g1.cl ∧
      g2.flushes = g1.flushes ++ [bs] ∧ (∀ b ∈ bs, b.length ≤ 1300) ∧ g2.run post = some g := by
  subst hsplit
  obtain ⟨t, ht, -⟩ := crun_sim_conv cfg _ g hrg hg
  obtain ⟨t1, t2, bs, a1, a2, a3, a4, a5, a6⟩ := mtr_flush_steps pre post (MTr.init cfg) t (epGood_init cfg) hrg.2 ht
  obtain ⟨g1, g2, e1, e2, sim1, sim2⟩ := push_split cfg hrg a1 a2
  refine ⟨g1, g2, bs.map toNats, e1, e2, ?_, ?_, sim1.flushes_snoc sim2 a4, ?_, ?_⟩
  · rw [sim1.status, sim2.status, a3]
  · rw [sim1.reason, sim2.reason]
    unfold Conn.disconnectReason; rw [a3]
  · intro b hb
    obtain ⟨b0, hb0, rfl⟩ := List.mem_map.mp hb
    rw [toNats_length]; exact a5 b0 hb0
  · have : GConn.exec cfg ((pre ++ [.flush]) ++ post) = some g := by rw [List.append_assoc]; exact hg
    rw [GConn.exec_append, e2] at this
    exact this

/-- **one step from any reachable state: which generated call can change `connection_status`, and to what.**  `g` reached by
    ANY run, `g'` after one more operation `op` (any operation, any bytes).  Then `connection_status` is unchanged — or `g` was not
    disconnected and: `op = set_connected` and the status is `Connected`; or `op = set_connecting` and it is `Connecting`; or it
    is `Disconnected r` with a cause `GCause cfg g.cl op r` (so `op` is `process_packet`, `send_message`, `disconnect` or
    `disconnect_due_to_transport`).  `receive_message`, `update`, `get_packets_to_send` NEVER change the status. -/
theorem src_step_status (cfg : Cfg) (ops : List COp) (op : COp) (g g' : GConn) (hg : GConn.exec cfg ops = some g)
    (hg' : GConn.exec cfg (ops ++ [op]) = some g') (hrg : CRunInRange cfg (ops ++ [op])) :
    g'.cl.connection_status = g.cl.connection_status ∨
    ((RenetClient.is_disconnected g.cl : Res Empty Bool) = .ok false ∧
      ((op = .setConnected ∧ g'.cl.connection_status = .Connected) ∨
       (op = .setConnecting ∧ g'.cl.connection_status = .Connecting) ∨
       ∃ r, g'.cl.connection_status = .Disconnected r ∧ GCause cfg g.cl op r)) := by
  obtain ⟨t, t', ht, hs, sim, sim', hgood, hr, -⟩ := behind_step cfg ops op g g' hrg hg hg'
  rcases mtr_step_cause hgood hr hs with e | ⟨hd, hcase⟩
  · left; rw [sim.status, sim'.status, e]
  · right
    refine ⟨by rw [sim.isDisc, hd], ?_⟩
    rcases hcase with ⟨e1, e2⟩ | ⟨e1, e2⟩ | ⟨r, e1, e2⟩
    · exact Or.inl ⟨e1, by rw [sim'.status, e2]; rfl⟩
    · exact Or.inr (Or.inl ⟨e1, by rw [sim'.status, e2]; rfl⟩)
    · exact Or.inr (Or.inr ⟨reprReason r, by rw [sim'.status, e1]; rfl, gcause_of_mcause cfg ht sim e2⟩)

theorem fromBytes_of_err {b : Bytes} {e : SSerErr} {st : RustSem.Octets}
    (h : Src.renet.packet.Packet.from_bytes (RustSem.Octets.with_slice (toNats b)) = .err (e, st)) :
    ∃ e0, Packet.fromBytes b = .error e0 ∧ reprSerErr e0 = e := by
  have := SrcTie.packet_from_bytes_fresh b
  rw [h] at this
  cases hp : Packet.fromBytes b with
  | ok p => rw [hp] at this; simp [Res.forget, mapRes] at this
  | error e0 =>
    rw [hp] at this
    simp only [Res.forget, mapRes, Res.err.injEq, id] at this
    exact ⟨e0, rfl, this.symm⟩

/-- **the four content-independent causes are also SUFFICIENT** (so for them `GCause` is an exact characterisation): from a
    reachable state `g` whose generated `is_disconnected` returns `false`, after one more operation `op`:
    `disconnect` ⇒ `Disconnected(DisconnectedByClient)`; `disconnect_due_to_transport` ⇒ `Disconnected(Transport)`;
    `process_packet bytes` with the generated `Packet::from_bytes` failing with `e` ⇒ `Disconnected(PacketDeserialization(e))`;
    `send_message ch m` with `ch` in the generated reliable send table and `memory_usage_bytes + m.len() > max_memory_usage_bytes`
    ⇒ `Disconnected(SendChannelError(ch, ReliableChannelMaxMemoryReached))`.
    (`ReceivedInvalidChannelId` / `ReceiveChannelError` depend on the decoded packet and the receive channel's content; their
    necessity is `src_step_status`, their occurrence is shown by the kernel-checked `Ex.causes`.) -/
theorem src_cause_sufficient (cfg : Cfg) (ops : List COp) (op : COp) (g g' : GConn) (hg : GConn.exec cfg ops = some g)
    (hg' : GConn.exec cfg (ops ++ [op]) = some g') (hrg : CRunInRange cfg (ops ++ [op]))
    (hlive : (RenetClient.is_disconnected g.cl : Res Empty Bool) = .ok false) :
    (op = .disconnect → g'.cl.connection_status = .Disconnected .DisconnectedByClient) ∧
    (op = .disconnectTransport → g'.cl.connection_status = .Disconnected .Transport) ∧
    (∀ b e st, op = .process b →
      Src.renet.packet.Packet.from_bytes (RustSem.Octets.with_slice (toNats b)) = .err (e, st) →
      g'.cl.connection_status = .Disconnected (.PacketDeserialization e)) ∧
    (∀ ch m s, op = .send ch m → RustSem.Map.find? g.cl.send_reliable_channels ch = some s →
      s.memory_usage_bytes + m.length > s.max_memory_usage_bytes →
      g'.cl.connection_status = .Disconnected (.SendChannelError ch .ReliableChannelMaxMemoryReached)) := by
  obtain ⟨t, t', -, hs, sim, sim', -, -, -⟩ := behind_step cfg ops op g g' hrg hg hg'
  rw [sim.isDisc] at hlive
  obtain ⟨c1, c2, c3, c4⟩ := mtr_step_cause_conv (Res.ok.inj hlive) hs
  refine ⟨fun e => ?_, fun e => ?_, fun b e st eo hx => ?_, fun ch m s eo hf hmem => ?_⟩
  · rw [sim'.status, c1 e]; rfl
  · rw [sim'.status, c2 e]; rfl
  · obtain ⟨e0, hp, rfl⟩ := fromBytes_of_err hx
    rw [sim'.status, c3 b e0 eo hp]; rfl
  · obtain ⟨s0, hm, rfl⟩ := map_eq_some' ((sim.sendRel ch).symm.trans hf)
    rw [sim'.status, c4 ch m s0 eo hm hmem]; rfl

/-- **a disconnect has a cause (C06 / C12 on the generated code, whole trace).**  If, after ANY API trace `ops` of the generated
    `RenetClient` from `from_channels`, the generated `connection_status` is `Disconnected r`, then the trace splits at ONE
    operation `op` (`ops = pre ++ op :: post`) such that: before `op` the generated `is_disconnected` returns `false`, right after
    `op` the status is `Disconnected r` — the same `r` as at the end — and `op` has a cause for `r`:
    `process_packet` (`PacketDeserialization` / `ReceivedInvalidChannelId` / `ReceiveChannelError`, each with its witness),
    `send_message` (`SendChannelError(ch, ReliableChannelMaxMemoryReached)`, the budget really exceeded), `disconnect`
    (`DisconnectedByClient`) or `disconnect_due_to_transport` (`Transport`).  No `update`, `receive_message`,
    `get_packets_to_send` or status call is ever the cause. -/
theorem src_disconnect_has_cause (cfg : Cfg) (ops : List COp) (g : GConn) (hg : GConn.exec cfg ops = some g)
    (hrg : CRunInRange cfg ops) (r : SReason) (hd : g.cl.connection_status = .Disconnected r) :
    ∃ pre op post g1 g2, ops = pre ++ op :: post ∧ GConn.exec cfg pre = some g1 ∧ GConn.exec cfg (pre ++ [op]) = some g2 ∧
      (RenetClient.is_disconnected g1.cl : Res Empty Bool) = .ok false ∧
      g2.cl.connection_status = .Disconnected r ∧ GCause cfg g1.cl op r := by
  obtain ⟨t, ht, sim⟩ := crun_sim_conv cfg ops g hrg hg
  rw [sim.status] at hd
  obtain ⟨r0, hst, rfl⟩ := reprStatus_disc hd
  obtain ⟨pre, op, post, t1, t2, e, h1, h2, h3, h4, h5⟩ :=
    mtr_run_cause r0 ops (MTr.init cfg) t (epGood_init cfg) hrg.2 rfl ht hst
  obtain ⟨g1, g2, e1, e2, sim1, sim2⟩ := push_split cfg (e ▸ hrg) h1 h2
  exact ⟨pre, op, post, g1, g2, e, e1, e2, by rw [sim1.isDisc, h3], by rw [sim2.status, h4]; rfl,
    gcause_of_mcause cfg h1 sim1 h5⟩

/-- **the generated client never disconnects itself with `PacketSerialization`, and never reports `DisconnectedByServer`**:
    in NO state reached by ANY API trace (in range). -/
theorem src_never_self_disconnects (cfg : Cfg) (ops : List COp) (g : GConn) (hg : GConn.exec cfg ops = some g)
    (hrg : CRunInRange cfg ops) :
    (∀ e, g.cl.connection_status ≠ .Disconnected (.PacketSerialization e)) ∧
    g.cl.connection_status ≠ .Disconnected .DisconnectedByServer := by
  refine ⟨fun e hd => ?_, fun hd => ?_⟩
  · obtain ⟨pre, op, post, g1, g2, -, -, -, -, -, hc⟩ := src_disconnect_has_cause cfg ops g hg hrg _ hd
    exact hc.not_self.1 e rfl
  · obtain ⟨pre, op, post, g1, g2, -, -, -, -, -, hc⟩ := src_disconnect_has_cause cfg ops g hg hrg _ hd
    exact hc.not_self.2 rfl

/-- **a trace made only of `receive_message`, `update`, `get_packets_to_send`, `set_connected`, `set_connecting` never
    disconnects the generated client** -/
theorem src_quiet_trace_stays_live (cfg : Cfg) (ops : List COp) (g : GConn) (hg : GConn.exec cfg ops = some g)
    (hrg : CRunInRange cfg ops) (hq : ∀ op ∈ ops, COp.canDisconnect op = false) :
    (RenetClient.is_disconnected g.cl : Res Empty Bool) = .ok false := by
  obtain ⟨t, ht, sim⟩ := crun_sim_conv cfg ops g hrg hg
  rw [sim.isDisc]
  cases hd : t.c.isDisconnected with
  | false => rfl
  | true =>
    obtain ⟨r0, hst⟩ := (SL.Conn.isDisconnected_iff _).mp hd
    obtain ⟨pre, op, post, g1, g2, e, -, -, -, -, hc⟩ :=
      src_disconnect_has_cause cfg ops g hg hrg (reprReason r0) (by rw [sim.status, hst]; rfl)
    have := hq op (by rw [e]; exact List.mem_append_right _ (List.mem_cons_self ..))
    rw [hc.canDisconnect] at this; cases this

/-- **panics only on an invalid channel id, as an equivalence.**  `g` reached by ANY run; `op` any operation, in range
    (`CRunInRange cfg (ops ++ [op])`: the connection's counters in range before the call, a submitted message shorter than `2^63`,
    the clock within `Duration::MAX`).  The generated call PANICS (`g.step op = none`) if and only if the generated
    `is_disconnected` returns `false` and `op` is a `send_message` / `receive_message` whose channel id is not among the
    configured send / receive channels (`COpValid`). -/
theorem src_step_panics_iff (cfg : Cfg) (ops : List COp) (g : GConn) (hg : GConn.exec cfg ops = some g) (op : COp)
    (hrg : CRunInRange cfg (ops ++ [op])) :
    g.step op = none ↔ ((RenetClient.is_disconnected g.cl : Res Empty Bool) = .ok false ∧ ¬ COpValid cfg op) := by
  obtain ⟨t, ht, sim, hgood, hr, hop, -⟩ := push_step cfg ops op g hrg hg
  have hstep := cstep_sim hgood sim hr op hop
  have h1 : g.step op = none ↔ t.step op = none := by
    cases hs : t.step op with
    | none => rw [hs] at hstep; simp [hstep]
    | some t' => rw [hs] at hstep; obtain ⟨g', e, -⟩ := hstep; simp [e]
  have h2 : CI.ChanValid t.c op.toConnOp ↔ COpValid cfg op := by
    cases op <;> first | exact Iff.rfl | exact hasSend_run_iff cfg ops t ht _ | exact hasRecv_run_iff cfg ops t ht _
  rw [h1, mtr_step_none_iff hgood hr op, h2, sim.isDisc]
  constructor
  · rintro ⟨a, b⟩; exact ⟨by rw [a], b⟩
  · rintro ⟨a, b⟩; exact ⟨Res.ok.inj a, b⟩

/-- **`send_message` panics iff the connection is not disconnected and `ch` is not a configured send channel** (any reachable
    state, any message shorter than `2^63` bytes) -/
theorem src_send_message_panics_iff (cfg : Cfg) (ops : List COp) (g : GConn) (hg : GConn.exec cfg ops = some g)
    (ch : Nat) (m : Bytes) (hrg : CRunInRange cfg (ops ++ [.send ch m])) :
    (∃ msg, (RenetClient.send_message g.cl ch (toNats m) : Res Empty _) = .panic msg) ↔
      ((RenetClient.is_disconnected g.cl : Res Empty Bool) = .ok false ∧ ch ∉ cfg.send.map (·.id)) := by
  refine Iff.trans ?_ (src_step_panics_iff cfg ops g hg (.send ch m) hrg)
  simp only [GConn.step]
  cases hm : (RenetClient.send_message g.cl ch (toNats m) : Res Empty _) with
  | ok x => simp
  | err e => exact nomatch e
  | panic s => simp

/-- **`receive_message` panics iff the connection is not disconnected and `ch` is not a configured receive channel** -/
theorem src_receive_message_panics_iff (cfg : Cfg) (ops : List COp) (g : GConn) (hg : GConn.exec cfg ops = some g)
    (ch : Nat) (hrg : CRunInRange cfg (ops ++ [.recv ch])) :
    (∃ msg, (RenetClient.receive_message g.cl ch : Res Empty _) = .panic msg) ↔
      ((RenetClient.is_disconnected g.cl : Res Empty Bool) = .ok false ∧ ch ∉ cfg.recv.map (·.id)) := by
  refine Iff.trans ?_ (src_step_panics_iff cfg ops g hg (.recv ch) hrg)
  simp only [GConn.step]
  cases hm : (RenetClient.receive_message g.cl ch : Res Empty _) with
  | ok x => simp
  | err e => exact nomatch e
  | panic s => simp

/-- **the other seven generated calls never panic** from any reachable state (in range): `update`, `get_packets_to_send`,
    `process_packet` on ANY bytes, `set_connected`, `set_connecting`, `disconnect`, `disconnect_due_to_transport` -/
theorem src_other_calls_never_panic (cfg : Cfg) (ops : List COp) (g : GConn) (hg : GConn.exec cfg ops = some g) (op : COp)
    (hop : (∀ ch m, op ≠ .send ch m) ∧ ∀ ch, op ≠ .recv ch) (hrg : CRunInRange cfg (ops ++ [op])) :
    ∃ g', g.step op = some g' := by
  have hv : COpValid cfg op := by
    cases op <;> first | trivial | exact absurd rfl (hop.1 _ _) | exact absurd rfl (hop.2 _)
  cases hs : g.step op with
  | some g' => exact ⟨g', rfl⟩
  | none => exact absurd hv ((src_step_panics_iff cfg ops g hg op hrg).mp hs).2

/-! ## non-vacuity: executed by the kernel ON THE GENERATED CODE

  Configuration, live phase `ops1` (state `g1`: connected, two flushes done), hostile phase `opsH` (state `gH`: disconnected by
  garbage) and the continuation `ext` of `SrcPropsConnTrace.Ex`. -/
namespace Ex
open RenetVerif.SrcPropsConnTrace.Ex

/-- a data packet for channel 9, which is not configured -/
abbrev strayPkt : Bytes := C06.Ex.bytesOf (.smallReliable 13 9 [(0, [7])])
/-- a message larger than the 10000-byte budget of reliable channel 0 -/
abbrev huge : Bytes := List.replicate 10001 7
abbrev quiet : List COp := [.setConnected, .recv 0, .update 7, .flush, .setConnecting, .flush, .recv 2, .update 1000000, .setConnected]

/-- everything below that is computed, in ONE kernel evaluation.  On the model: the range condition of the live phase followed
    by the over-budget `send_message`, by `send_message(7, …)`, by `receive_message(5)`, of the hostile phase followed by
    `send_message(7, …)`, and of the quiet trace.  On the generated code, after the live phase: the four kinds of cause;
    `is_disconnected`; the generated calls themselves — on the live `g1`, `send_message(7, …)` and `receive_message(5)` panic
    (7, 5 not configured), `send_message(2, …)` does not; on the disconnected `gH`, `send_message(7, …)` does NOT panic (early
    return) -/
theorem all :
    (CRunInRange cfg (ops1 ++ [.send 0 huge]) ∧ CRunInRange cfg (ops1 ++ [.send 7 [1]]) ∧ CRunInRange cfg (ops1 ++ [.recv 5]) ∧
      CRunInRange cfg (opsH ++ [.send 7 [1]]) ∧ CRunInRange cfg quiet) ∧
    ((GConn.exec cfg (ops1 ++ [.process C06.Ex.garbage])).map (·.cl.connection_status) =
        some (.Disconnected (.PacketDeserialization .InvalidPacketType)) ∧
      (GConn.exec cfg (ops1 ++ [.process strayPkt])).map (·.cl.connection_status) =
        some (.Disconnected (.ReceivedInvalidChannelId 9)) ∧
      (GConn.exec cfg (ops1 ++ [.process C06.Ex.hostileSlice])).map (·.cl.connection_status) =
        some (.Disconnected (.ReceiveChannelError 1 .InvalidSliceMessage)) ∧
      (GConn.exec cfg (ops1 ++ [.send 0 huge])).map (·.cl.connection_status) =
        some (.Disconnected (.SendChannelError 0 .ReliableChannelMaxMemoryReached)) ∧
      (GConn.exec cfg (ops1 ++ [.disconnect])).map (·.cl.connection_status) = some (.Disconnected .DisconnectedByClient) ∧
      (GConn.exec cfg (ops1 ++ [.disconnectTransport])).map (·.cl.connection_status) = some (.Disconnected .Transport)) ∧
    (RenetClient.is_disconnected g1.cl : Res Empty Bool) = .ok false ∧
    (g1.step (.send 7 [1]) = none ∧ g1.step (.recv 5) = none ∧ (g1.step (.send 2 [1])).isSome = true ∧
      (gH.step (.send 7 [1])).isSome = true ∧ (gH.step (.recv 5)).isSome = true) := by
  decide +kernel

theorem causes :
    (GConn.exec cfg (ops1 ++ [.process C06.Ex.garbage])).map (·.cl.connection_status) =
      some (.Disconnected (.PacketDeserialization .InvalidPacketType)) ∧
    (GConn.exec cfg (ops1 ++ [.process strayPkt])).map (·.cl.connection_status) =
      some (.Disconnected (.ReceivedInvalidChannelId 9)) ∧
    (GConn.exec cfg (ops1 ++ [.process C06.Ex.hostileSlice])).map (·.cl.connection_status) =
      some (.Disconnected (.ReceiveChannelError 1 .InvalidSliceMessage)) ∧
    (GConn.exec cfg (ops1 ++ [.send 0 huge])).map (·.cl.connection_status) =
      some (.Disconnected (.SendChannelError 0 .ReliableChannelMaxMemoryReached)) ∧
    (GConn.exec cfg (ops1 ++ [.disconnect])).map (·.cl.connection_status) = some (.Disconnected .DisconnectedByClient) ∧
    (GConn.exec cfg (ops1 ++ [.disconnectTransport])).map (·.cl.connection_status) = some (.Disconnected .Transport) :=
  all.2.1

/-- **`src_flush_never_changes_status` applied** to the second flush of the whole trace `opsH ++ ext` (the last operation of
    `ops1`) and to the first flush of `ext`, on the disconnected connection -/
example : ∃ g1' g2 bs, GConn.exec cfg (ops1.dropLast) = some g1' ∧ GConn.exec cfg (ops1.dropLast ++ [.flush]) = some g2 ∧
    g2.cl.connection_status = g1'.cl.connection_status ∧
    (RenetClient.disconnect_reason g2.cl : Res Empty _) = RenetClient.disconnect_reason g1'.cl ∧
    g2.flushes = g1'.flushes ++ [bs] ∧ (∀ b ∈ bs, b.length ≤ 1300) ∧ g2.run (opsH.drop 13 ++ ext) = some gE :=
  src_flush_never_changes_status cfg (opsH ++ ext) gE grunE inRange ops1.dropLast (opsH.drop 13 ++ ext) rfl
example : ∃ g1' g2 bs, GConn.exec cfg (opsH ++ [.setConnected]) = some g1' ∧
    GConn.exec cfg (opsH ++ [.setConnected] ++ [.flush]) = some g2 ∧
    g2.cl.connection_status = g1'.cl.connection_status ∧
    (RenetClient.disconnect_reason g2.cl : Res Empty _) = RenetClient.disconnect_reason g1'.cl ∧
    g2.flushes = g1'.flushes ++ [bs] ∧ (∀ b ∈ bs, b.length ≤ 1300) ∧ g2.run (ext.drop 2) = some gE :=
  src_flush_never_changes_status cfg (opsH ++ ext) gE grunE inRange (opsH ++ [COp.setConnected]) (ext.drop 2) rfl

/-- **`src_disconnect_has_cause` applied** to the end of the whole trace: the reason `PacketDeserialization(InvalidPacketType)`
    of `gE` has a cause inside the trace (it is the garbage datagram of `opsH`; everything after it is absorbed) -/
example : ∃ pre op post g1' g2, opsH ++ ext = pre ++ op :: post ∧ GConn.exec cfg pre = some g1' ∧
    GConn.exec cfg (pre ++ [op]) = some g2 ∧ (RenetClient.is_disconnected g1'.cl : Res Empty Bool) = .ok false ∧
    g2.cl.connection_status = .Disconnected (.PacketDeserialization .InvalidPacketType) ∧
    GCause cfg g1'.cl op (.PacketDeserialization .InvalidPacketType) :=
  src_disconnect_has_cause cfg (opsH ++ ext) gE grunE inRange _ gfacts.2.2.2.2.2.1

/-- **`src_step_status` applied** to the over-budget `send_message` and to the stray packet after the live phase: the third
    alternative holds (the first two are excluded by the computed statuses), so the theorem yields the witnesses -/
example : ∃ r, r = Src.renet.error.DisconnectReason.SendChannelError 0 .ReliableChannelMaxMemoryReached ∧ GCause cfg g1.cl (.send 0 huge) r := by
  obtain ⟨g', hex, hst⟩ := Option.map_eq_some_iff.mp causes.2.2.2.1
  rcases src_step_status cfg ops1 (.send 0 huge) g1 g' grun1 hex all.1.1 with h | ⟨-, ⟨h, -⟩ | ⟨h, -⟩ | ⟨r, h1, h2⟩⟩
  · rw [hst, gfacts.2.2.1] at h; cases h
  · cases h
  · cases h
  · rw [hst] at h1; cases h1; exact ⟨_, rfl, h2⟩

/-- **`src_cause_sufficient` applied** after the live phase: the over-budget `send_message` (reliable channel 0 holds 1204 of
    10000 bytes, the message has 10001) must disconnect with `SendChannelError(0, ReliableChannelMaxMemoryReached)` -/
example : ∀ g', GConn.exec cfg (ops1 ++ [.send 0 huge]) = some g' →
    g'.cl.connection_status = .Disconnected (.SendChannelError 0 .ReliableChannelMaxMemoryReached) := by
  intro g' hg'
  obtain ⟨s, hf, hs⟩ := Option.map_eq_some_iff.mp SrcPropsConnTrace.Ex.all.2.2.2.2.2.1
  obtain ⟨h1, h2⟩ := Prod.mk.inj hs
  have hlen : huge.length = 10001 := List.length_replicate
  exact (src_cause_sufficient cfg ops1 (.send 0 huge) g1 g' grun1 hg' all.1.1 all.2.2.1).2.2.2 0 huge s rfl hf (by omega)

example : (∀ e, gE.cl.connection_status ≠ .Disconnected (.PacketSerialization e)) ∧
    gE.cl.connection_status ≠ .Disconnected .DisconnectedByServer := src_never_self_disconnects cfg _ gE grunE inRange
example : ∃ g, GConn.exec cfg quiet = some g ∧ (RenetClient.is_disconnected g.cl : Res Empty Bool) = .ok false := by
  obtain ⟨g, hg⟩ := src_never_panics cfg quiet (by decide) all.1.2.2.2.2
  exact ⟨g, hg, src_quiet_trace_stays_live cfg quiet g hg all.1.2.2.2.2 (by decide)⟩

/-- **`src_step_panics_iff`, both directions, with the kernel's own evaluation of the generated call next to it.**
    On the live `g1`: `send_message(7, …)` and `receive_message(5)` panic (7, 5 not configured), `send_message(2, …)` does not.
    On the disconnected `gH`: `send_message(7, …)` does NOT panic (early return) — the liveness conjunct is necessary. -/
example : g1.step (.send 7 [1]) = none :=
  (src_step_panics_iff cfg ops1 g1 grun1 (.send 7 [1]) all.1.2.1).mpr ⟨all.2.2.1, by decide⟩
example : g1.step (.send 7 [1]) = none ∧ g1.step (.recv 5) = none ∧ (g1.step (.send 2 [1])).isSome = true ∧
    (gH.step (.send 7 [1])).isSome = true ∧ (gH.step (.recv 5)).isSome = true := all.2.2.2
example : (RenetClient.is_disconnected g1.cl : Res Empty Bool) = .ok false ∧ ¬ COpValid cfg (.recv 5) :=
  (src_step_panics_iff cfg ops1 g1 grun1 (.recv 5) all.1.2.2.1).mp all.2.2.2.2.1
example : ∃ msg, (RenetClient.send_message g1.cl 7 (toNats [1]) : Res Empty _) = .panic msg :=
  (src_send_message_panics_iff cfg ops1 g1 grun1 7 [1] all.1.2.1).mpr ⟨all.2.2.1, by decide⟩
example : ∃ msg, (RenetClient.receive_message g1.cl 5 : Res Empty _) = .panic msg :=
  (src_receive_message_panics_iff cfg ops1 g1 grun1 5 all.1.2.2.1).mpr ⟨all.2.2.1, by decide⟩
/-- the disconnected connection does not panic on the unknown id: the right-hand side fails, hence so does the left -/
example : ¬ ∃ msg, (RenetClient.send_message gH.cl 7 (toNats [1]) : Res Empty _) = .panic msg := fun h => by
  have hd := ((src_send_message_panics_iff cfg opsH gH grunH 7 [1] all.1.2.2.2.1).mp h).1
  rw [SrcPropsConnTrace.Ex.all.2.2.2.2.1] at hd
  cases hd
example : ∃ g', g1.step (.process C06.Ex.hostileSlice) = some g' :=
  src_other_calls_never_panic cfg ops1 g1 grun1 _ ⟨fun _ _ h => (nomatch h), fun _ h => (nomatch h)⟩
    SrcPropsConnTrace.Ex.all.1.2.2.1

end Ex

end RenetVerif.SrcPropsConnTraceMore
