/-
  Writers and readers over the `io::Cursor` models with the state carried by errors forgotten (`Res.forget`): the model
  of the netcode (de)serialisers (`Netcode.Wr`, `readN` …) does not track the cursor after an `io::Error`.

  Writers: `WC c xs` is the specification "write the bytes `xs` at the position of `c`" (`io::ErrorKind::WriteZero` when
  they do not fit); a generated writer is rewritten step by step (`step_write_all`, `step_writer`, `curK.forEach_chain`)
  into ONE `WC c (all the bytes)`; on the model side a sequence of `Wr.writeAll`s is one `writeAll` of the
  concatenation (`NcAead.Wr.writeAll_append`).  `wres_wcur` links the two.
  Readers: `rdF buf f (model reader result)` predicts a generated reader's outcome (`step_reader`).
-/
import RenetVerif.Lemmas.SrcEquiv.NcSerialize
namespace RenetVerif.SrcEquiv
open RenetVerif RenetVerif.RustSem

section IoCursor
open Netcode
variable {ρ β : Type}

/-- `io::Cursor<&mut [u8]>` is a buffer with a write position -/
@[reducible] def curK : WBuf WriteCursor := ⟨(·.buf), (·.pos), .mk, fun _ _ => rfl, fun _ _ => rfl, fun _ => rfl⟩
abbrev cwrite := curK.put
abbrev CInv := curK.Inv
abbrev WC (c : WriteCursor) (xs : List Nat) : Exec IoError ρ WriteCursor := curK.W .opaque c xs

/-- the same as the result of a writer fn -/
def wres (c : WriteCursor) (xs : List Nat) : Res IoError (WriteCursor × Unit) :=
  if c.pos + xs.length ≤ c.buf.length then .ok (cwrite c xs, ()) else .err .opaque

theorem call_wres (c : WriteCursor) (ys : List Nat) :
    (Exec.call (wres c ys) : Exec IoError ρ (WriteCursor × Unit)) = (WC c ys).bind fun c' => .val (c', ()) := by
  unfold wres WC WBuf.W
  split <;> rfl

theorem write_all_wres {c : WriteCursor} (hc : CInv c) (ys : List Nat) :
    (WriteCursor.write_all c ys).forget = wres c ys := by
  unfold WriteCursor.write_all wres cwrite WBuf.put
  have hc : c.pos ≤ c.buf.length := hc
  by_cases h : ys.length ≤ c.buf.length - c.pos
  · rw [if_pos h, if_pos (by omega)]; rfl
  · rw [if_neg h, if_neg (by omega)]; rfl

/-- a call `f(writer, ..)?` of a translated writer whose outcome (error state forgotten) is `wres` of some bytes -/
theorem step_writer {c : WriteCursor} (xs ys : List Nat)
    (r : WriteCursor → Res (IoError × WriteCursor) (WriteCursor × Unit))
    (hr : ∀ c', CInv c' → (r c').forget = wres c' ys) (k : WriteCursor × Unit → Exec IoError ρ β) :
    (WC c xs).bind (fun c' => ((Exec.callFrom (fun err => Res.ok (err.1, err.2)) (r c')
        : Exec (IoError × WriteCursor) ρ (WriteCursor × Unit)).forget).bind k)
      = (WC c (xs ++ ys)).bind (fun c' => k (c', ())) :=
  curK.W_chain _ _ _ _ _ fun c' hc' => by rw [callFrom_keep_forget, hr c' hc', call_wres, Exec.bind_assoc']; rfl

theorem step_write_all {c : WriteCursor} (xs ys : List Nat) (k : WriteCursor × Unit → Exec IoError ρ β) :
    (WC c xs).bind (fun c' => ((Exec.callFrom (fun err => Res.ok (err.1, err.2)) (WriteCursor.write_all c' ys)
        : Exec (IoError × WriteCursor) ρ (WriteCursor × Unit)).forget).bind k)
      = (WC c (xs ++ ys)).bind (fun c' => k (c', ())) :=
  step_writer xs ys (fun c' => WriteCursor.write_all c' ys) (fun _ hc' => write_all_wres hc' ys) k

theorem WC_finish {c : WriteCursor} (bytes : List Nat) :
    ((WC c bytes).bind (fun c' => (Exec.val (c', ()) : Exec IoError (WriteCursor × Unit) (WriteCursor × Unit)))).run
      = wres c bytes := by
  unfold WC WBuf.W wres
  split <;> rfl

theorem writeAll_le {w w' : Wr} {b : Bytes} (h : w.writeAll b = some w') : w'.out.length ≤ w'.cap := by
  have := writeAll_out h; omega

theorem cinv_wcur (w : Wr) (tail : List Nat) : CInv (wcur w tail) := by
  simp [CInv, WBuf.Inv, wcur, toNats_length]

theorem wres_wcur {w : Wr} {tail : List Nat} (h : WrOk w tail) (bs : Bytes) :
    wres (wcur w tail) (toNats bs) =
      match w.writeAll bs with
      | some w' => .ok (wcur w' (tail.drop bs.length), ())
      | none => .err .opaque := by
  rw [← write_all_wres (cinv_wcur _ _), (wcur_write_all h bs).1]
  cases w.writeAll bs <;> rfl

def rdF {α γ : Type} (buf : Bytes) (f : α → γ) : Option (α × Bytes) → Res IoError (ReadCursor × γ)
  | some (a, r) => .ok (rcur buf r, f a)
  | none => .err .opaque

theorem rdRes_forget {α γ : Type} (buf : Bytes) (f : α → γ) (o : Option (α × Bytes)) :
    (rdRes buf f o).forget = rdF buf f o := by
  cases o with
  | none => rfl
  | some x => obtain ⟨a, r⟩ := x; rfl

theorem read_exact_forget {rest buf : Bytes} (h : rest <:+ buf) (n : Nat) :
    (ReadCursor.read_exact (rcur buf rest) n).forget = rdF buf toNats (readN n rest) := by
  rw [read_exact_rcur h]
  unfold readN
  split <;> rfl

theorem readN_suffix' {n : Nat} {rest b r buf : Bytes} (h : readN n rest = some (b, r)) (hs : rest <:+ buf) : r <:+ buf :=
  (readN_suffix h).trans hs

theorem readU_suffix_buf {n v : Nat} {rest r buf : Bytes} (h : readU n rest = some (v, r)) (hs : rest <:+ buf) :
    r <:+ buf :=
  (readU_suffix h).trans hs

def rdBind {α γ ε : Type} (buf : Bytes) (f : α → γ) (m : Option (α × Bytes)) (e : ε)
    (k : ReadCursor × γ → Exec ε ρ β) : Exec ε ρ β :=
  match m with
  | some (a, r') => k (rcur buf r', f a)
  | none => .err e

/-- `let x = reader(src)?;` (error state forgotten): the model reader's value and rest, or the `io::Error` -/
theorem step_reader {α γ ε : Type} {buf : Bytes} (f : α → γ) (m : Option (α × Bytes))
    (r : Res (IoError × ReadCursor) (ReadCursor × γ)) (hr : r.forget = rdF buf f m)
    (conv : IoError → ε) (kerr : IoError × ReadCursor → Res (ε × ReadCursor) (ε × ReadCursor))
    (hk : ∀ e, ∃ st, kerr e = .ok (conv e.1, st))
    (k : ReadCursor × γ → Exec ε ρ β) :
    ((Exec.callFrom kerr r : Exec (ε × ReadCursor) ρ (ReadCursor × γ)).forget).bind k =
      rdBind buf f m (conv .opaque) k := by
  cases r with
  | panic s => cases m <;> cases hr
  | ok y =>
    cases m with
    | none => cases hr
    | some x => cases hr; rfl
  | err e =>
    cases m with
    | some x => cases hr
    | none =>
      obtain ⟨st, hst⟩ := hk e
      obtain ⟨e1, st1⟩ := e
      cases hr
      simp only [Exec.callFrom, hst, Exec.forget, Exec.bind, rdBind]

end IoCursor
end RenetVerif.SrcEquiv
