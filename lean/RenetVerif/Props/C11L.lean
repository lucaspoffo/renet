/-
  C11 (with C01 / C02), LIVENESS with several clients — "a broadcast is obtained EXACTLY ONCE by every currently
  connected client …  Misbehaviour, disconnection or a stalled ordered stream of one client or channel never delays,
  drops or corrupts traffic of other clients or other channels."

  Props/C11E.lean proves the safety half in the multi-client system `MSys` (Lemmas/MultiSystem.lean): a client obtains
  nothing more often than it was addressed to it (`broadcast_exactly_once_partial` = AT MOST once).  This file proves
  the other half: AT LEAST once, within ONE lossless round on the link of that client alone, from ANY reachable state
  and whatever happens to the other clients meanwhile.

  THE ROUND FOR CLIENT `i` on channel `ch` (`roundFor i ch ks n`, Lemmas/MultiLive.lean):

      srvFlush i ; deliverToCli i k (k ∈ ks) ; cliRecv i ch (n times)

  the server's `get_packets_to_send(i)`, the network of `i` handing datagrams of the server → `i` emission history to
  client `i`, client `i`'s application asking `n` times for a message.  "After the resend time has elapsed": the
  server's `update(dt)` (`srvUpdate dt`) with `dt ≥ resend_time` precedes the round.

  WHAT IS ASSUMED — about client `i` only, on the state `m` the tick starts from (ANY state reachable by ANY run `ops`
  of `MSys`: losses, reordering, duplication, other clients hostile / disconnected / removed / stalled):
    * the link of `i` is untainted (no hostile bytes in `i`'s name in its current session: `At P ops m i l`), `i` is
      in the server table (`conn? m.server i = some c`), neither end of the link is disconnected;
    * with `cu` = the table entry after the tick (`c.update dt = .ok cu`): the hypotheses of `C01L.bounded_delivery`,
      per link — counters in range (`CountersOK`, `cu.CountersOK`), H2 the per-tick budget left at the channel's turn
      covers the backlog, H3 the client's receive channel has room (`Room (l.subS ch) rB`), H4 the flush carries only
      channel `ch` and acks; `ks` = exactly the datagrams of this flush (`flushIdx l cu`), any order, repetitions
      allowed; `n` calls suffice.
  NOTHING is assumed about any other client.  The theorems speak about EVERY operation list `ops'` whose local trace for
  `i` (`MultiSystem.trace i ops'`: the operations addressed to `i`, the broadcasts that include `i`, the server's
  updates; everything else erased) is "tick, flush for `i`, deliveries `ks`, `n` receives" — i.e. the tick and the round
  of `i` INTERLEAVED WITH ANY operations that concern other clients only: their datagrams lost, duplicated, garbage in
  their name, their disconnection or removal in the middle, `broadcast_except(i)` traffic filling their channels — and
  that runs (`m.run ops' = some m''`: no model function panics on the OTHER clients' operations; that the operations
  of `i` itself do not panic is a conclusion, `round_delivers_to_client`).

  WHAT IS CONCLUDED: both ends of the link of `i` are still live and client `i`'s application has obtained EXACTLY the
  log `l.subS ch` — every message the server application addressed to `i` on `ch` (`send_message(i)`, each broadcast
  issued while `i` was connected and not excluded) that the reliable channel accepted (`addressed_is_logged`) —
  ReliableOrdered: in order (`broadcast_exactly_once`); ReliableUnordered: a permutation
  (`broadcast_exactly_once_unordered`); so every logged message is obtained at least once and (C11E) at most as often
  as it was addressed to `i`.

  HOW.  (A) The round theorems of Lemmas/Liveness.lean (`…_inv`) are about any state that satisfies the invariants the
  liveness proofs rest on (Inv1, Inv2, InvR, InvD, InvF; as one predicate on states `GoodL`), not only about
  `System.Sys`-reachable ones.  (B) Lemmas/MultiLive.lean: `GoodL` is preserved by every step `VStep` of a bidirectional
  link, so it holds for both projections of every untainted link of every reachable `MSys` state (`reachL`); (C) a
  `System.Sys` round on the projection of `i` IS the `MSys` round of `i` (`MultiLiveK.lift`, `run_local_down`), and
  `MultiSystem.run_view`/`lvrun_filter` make the view of `i` a function of its local trace alone (`MultiLiveK.view_of_trace`).

  NOT lifted here: the k-round bound of Props/C01K (budget smaller than the backlog).  Lemmas/LivenessK.lean iterates
  the rounds over states that satisfy `GoodK` (`GoodL` plus `InvL`); Props/C01M.lean lifts it.  The one-round budget
  hypothesis H2 is met by the examples below.
-/
import RenetVerif.Lemmas.MultiLiveK
import RenetVerif.Lemmas.RunRange
import RenetVerif.Props.C11E
namespace RenetVerif.C11L
open RenetVerif C RenetVerif.System RenetVerif.MultiSystem RenetVerif.Live RenetVerif.LiveK RenetVerif.MultiLive
  RenetVerif.MultiLiveK RenetVerif.C11E

def dirDown (c : Conn) (l : Link) : Sys := down ⟨some c, some l⟩ l

/-- the indices the datagrams of the next flush of the table entry `c` get in the emission history `l.outS` -/
def flushIdx (l : Link) (c : Conn) : List Nat := List.range' l.outS.length (flushPk c).length

theorem projDown_eq {m : MSys} {i : Nat} {c : Conn} {l : Link} (hc : conn? m.server i = some c) (hl : m.links i = some l) :
    projDown m i l = dirDown c l := by
  unfold projDown dirDown; rw [view_some hc hl]

theorem dirDown_tick {c cu : Conn} {l : Link} {dt : Nat} (hcu : c.update dt = .ok cu) :
    (dirDown c l).step (.updA dt) = some (dirDown cu l) := by
  simp only [Sys.step, dirDown, down, LV.srv, Option.getD_some, hcu]

theorem tick_inv {cfg : Cfg} {s su : Sys} {dt ch : Nat} {sA : SendRel} (g0 : GoodL cfg s) (hs : s.step (.updA dt) = some su)
    (hfA : SMap.find? s.a.sendRel ch = some sA) (hdt : sA.resend ≤ dt) :
    GoodL cfg su ∧ SMap.find? su.a.sendRel ch = some sA ∧ AllDue su.a.now sA.resend sA.unacked ∧
      su.a.isDisconnected = s.a.isDisconnected := by
  obtain ⟨pk0, i1, -⟩ := id g0
  obtain ⟨hfu, hdue⟩ := due_after_update_inv i1 ch sA hfA dt hdt su hs
  exact ⟨goodL_step g0 hs, hfu, hdue, (updA_frame hs).2.2.1⟩

theorem count_facts {obt sub adr : List Bytes} (ord : Bool) (hd : LiveK.Delivered ord obt sub) (hs : sub.Sublist adr) :
    ∀ x ∈ sub, 1 ≤ obt.count x ∧ obt.count x ≤ adr.count x := by
  intro x hx
  have e : obt.count x = sub.count x := by
    cases ord with
    | true => have : obt = sub := hd; rw [this]
    | false => have : obt.Perm sub := hd; exact this.count_eq x
  rw [e]
  exact ⟨List.count_pos_iff.mpr hx, hs.count_le x⟩

section Theorems
variable {P : Params} {ops : List MOp} {m : MSys} {i : Nat} {l : Link}

/-- **What the log `subS` is.**  Every operation that addresses a message `x` to client `i` on channel `ch`
    (`send_message(i, ch, x)`, `broadcast_message(ch, x)`, `broadcast_message_except(ex, ch, x)` with `ex ≠ i`) while
    `i` is in the table runs `send_message` on `i`'s table entry and appends `x` to the log `subS ch` of `i`'s link
    iff the reliable channel accepted it (`accepted`: the entry was live, `ch` is a reliable send channel, and
    `send_message` did not disconnect it). -/
theorem addressed_is_logged {m' : MSys} {op : MOp} {ch : Nat} {x : Bytes} {c : Conn} (hw : m.WF P)
    (hs : m.step op = some m')
    (hop : op = .srvSend i ch x ∨ op = .broadcast ch x ∨ ∃ ex, ex ≠ i ∧ op = .broadcastExcept ex ch x)
    (hc : conn? m.server i = some c) (hl : m.links i = some l) :
    ∃ c' l', c.sendMessage ch x = .ok c' ∧ conn? m'.server i = some c' ∧ m'.links i = some l' ∧
      l'.subS ch = (if accepted c c' ch then l.subS ch ++ [x] else l.subS ch) ∧ l'.obtC = l.obtC ∧ l'.cl = l.cl := by
  have ha : op.act i = .sSend ch x := by
    rcases hop with rfl | rfl | ⟨ex, hne, rfl⟩
    · simp [MOp.act]
    · rfl
    · have : ¬ i = ex := fun e => hne e.symm
      simp [MOp.act, this]
  have hv := step_view hw hs i
  have hv0 := view_some hc hl
  rw [hv0, ha] at hv
  simp only [LV.apply] at hv
  split at hv
  · rename_i c' hc'
    have e := (Option.some.inj hv).symm
    exact ⟨c', _, hc', congrArg LV.conn e, congrArg LV.link e, logS_subS l c c' ch x, rfl, rfl⟩
  · cases hv

theorem at_after_others (h : At P ops m i l) {opsJ : List MOp} {mJ : MSys} (hJ : ∀ op ∈ opsJ, ∃ j, target op = some j ∧ j ≠ i)
    (hrJ : m.run opsJ = some mJ) :
    mJ.view i = m.view i ∧ At P (ops ++ opsJ) mJ i l ∧ ∀ ch, addressedTo i ch (ops ++ opsJ) = addressedTo i ch ops := by
  have hvJ : mJ.view i = m.view i := faults_are_local_run i h.run hrJ hJ
  refine ⟨hvJ, ⟨?_, (congrArg LV.link hvJ).trans h.link, h.clean⟩, fun ch => ?_⟩
  · rw [MSys.run_append, h.run]; exact hrJ
  · have hnil : addressedTo i ch opsJ = [] :=
      addressedTo_nil_of_skip (fun op hop => let ⟨j, hj, hne⟩ := hJ op hop; act_skip_of_target hj hne) ch
    unfold addressedTo at hnil ⊢
    rw [List.flatMap_append, hnil, List.append_nil]

/-- **What a run of one direction's projection delivers, every interleaving delivers on the link**: each logged message
    at least once, and at most as often as the run `ops` said it (`reach`: the log is a sub-sequence of what was addressed
    to `i`, resp. of what `i` submitted). -/
theorem link_delivered (d : Dir) (h : At P ops m i l) {c : Conn} (hconn : conn? m.server i = some c)
    {sops : List SysOp} {u : Sys} (hu : (d.sys c l).run sops = some u)
    (ha : u.a.isDisconnected = false) (hb : u.b.isDisconnected = false) {ch : Nat} {ord : Bool}
    (hs : u.submitted ch = d.sub l ch) (hd : Delivered ord (u.obtained ch) (d.sub l ch))
    {ops' : List MOp} (ht : trace i ops' = sops.map d.lact) {m'' : MSys} (hr : m.run ops' = some m'') :
    ∃ c'' l'', (conn? m''.server i = some c'' ∧ m''.links i = some l'' ∧ c''.isDisconnected = false ∧
      l''.cl.isDisconnected = false ∧ l''.tainted = false ∧ d.sub l'' ch = d.sub l ch ∧
      Delivered ord (d.obt l'' ch) (d.sub l ch) ∧
      ∀ x ∈ d.sub l ch, 1 ≤ (d.obt l'' ch).count x ∧ (d.obt l'' ch).count x ≤ (d.said i ch ops).count x) ∧
      d.sub l'' = u.submitted := by
  obtain ⟨l', b1, b2, b3⟩ := view_of_trace d (reach_wf P ops m h.run) hconn h.link sops u hu ops' ht hr
  cases d with
  | down =>
    rw [← b2] at hb hs hd
    exact ⟨u.a, l', ⟨congrArg LV.conn b1, congrArg LV.link b1, ha, hb, b3.trans h.clean, hs, hd,
      count_facts ord hd (h.ok.subS ch)⟩, congrArg Sys.submitted b2⟩
  | up =>
    rw [← b2] at ha hs hd
    exact ⟨u.b, l', ⟨congrArg LV.conn b1, congrArg LV.link b1, hb, ha, b3.trans h.clean, hs, hd,
      count_facts ord hd (h.ok.subC ch)⟩, congrArg Sys.submitted b2⟩

/-- **The tick and one lossless round on one direction of the link of client `i`, either channel kind, any
    interleaving.**  `su` is the projection after the submitting end's `update(dt)`, `dt ≥ resend_time`; the hypotheses
    are those of `C01L.bounded_delivery` for that direction. -/
theorem tick_round_link (d : Dir) (h : At P ops m i l) (c : Conn) (hconn : conn? m.server i = some c)
    (hda : (d.sys c l).a.isDisconnected = false) (hdb : (d.sys c l).b.isDisconnected = false)
    (ch : Nat) (ord : Bool) (ho : KindOf (d.cfg P) ch ord) (sA : SendRel)
    (hfA : SMap.find? (d.sys c l).a.sendRel ch = some sA)
    (rB : RecvRel) (hfB : SMap.find? (d.sys c l).b.recvRel ch = some rB)
    (dt : Nat) (hdt : sA.resend ≤ dt) (su : Sys) (hsu : (d.sys c l).step (.updA dt) = some su)
    (hc : CountersOK (d.cfg P) su) (hcA : su.a.CountersOK)
    (H2 : backlog sA.unacked ≤ availAtTurn su.a ch) (H3 : Room (d.sub l ch) rB) (H4 : ∀ p ∈ flushPk su.a, OnlyCh ch p)
    (ks : List Nat) (hks1 : ∀ k ∈ newIdx su, k ∈ ks) (hks2 : ∀ k ∈ ks, k ∈ newIdx su)
    (n : Nat) (hn : (d.sub l ch).length ≤ (d.obt l ch).length + n) :
    (∃ u, (d.sys c l).run (SysOp.updA dt :: roundOps ch ks n) = some u) ∧
    ∀ (ops' : List MOp), trace i ops' = (SysOp.updA dt :: roundOps ch ks n).map d.lact →
      ∀ (m'' : MSys), m.run ops' = some m'' →
      ∃ c'' l'', conn? m''.server i = some c'' ∧ m''.links i = some l'' ∧ c''.isDisconnected = false ∧
        l''.cl.isDisconnected = false ∧ l''.tainted = false ∧ d.sub l'' = d.sub l ∧
        Delivered ord (d.obt l'' ch) (d.sub l ch) ∧
        ∀ x ∈ d.sub l ch, 1 ≤ (d.obt l'' ch).count x ∧ (d.obt l'' ch).count x ≤ (d.said i ch ops).count x := by
  have g0 : GoodL (d.cfg P) (d.sys c l) := (goodK_dir d h.run hconn h.link h.clean).1
  obtain ⟨gu, hfu, hdue, e3⟩ := tick_inv g0 hsu hfA hdt
  obtain ⟨-, -, -, -, e5, e6, -, e8, -⟩ := updA_frame hsu
  have es : su.submitted = d.sub l := e6.trans (by cases d <;> rfl)
  have eo : su.obtained = d.obt l := e8.trans (by cases d <;> rfl)
  have key : ∃ u, su.run (roundOps ch ks n) = some u ∧ u.a.isDisconnected = false ∧ u.b.isDisconnected = false ∧
      u.submitted = su.submitted ∧ Delivered ord (u.obtained ch) (su.submitted ch) := by
    exact round_delivers_any_inv gu hc hcA (e3.trans hda) (by rw [e5]; exact hdb) ch ho sA hfu rB (by rw [e5]; exact hfB)
      hdue H2 (by rw [es]; exact H3) H4 ks hks1 hks2 n (by rw [es, eo]; exact hn)
  obtain ⟨u, hu, a1, a2, a3, a4⟩ := key
  have hrun : (d.sys c l).run (SysOp.updA dt :: roundOps ch ks n) = some u := by
    simp only [Sys.run, hsu]; exact hu
  refine ⟨⟨u, hrun⟩, fun ops' ht m'' hr => ?_⟩
  obtain ⟨c'', l'', ⟨q1, q2, q3, q4, q5, -, q7, q8⟩, q9⟩ :=
    link_delivered d h hconn hrun a1 a2 (by rw [a3, es]) (by rw [← es]; exact a4) ht hr
  exact ⟨c'', l'', q1, q2, q3, q4, q5, q9.trans (a3.trans es), q7, q8⟩

/-- **One lossless round for client `i` alone, from any reachable state (ReliableOrdered; H1 as a hypothesis).**
    The operations of the round do not panic, both ends of the link stay live, the client has obtained exactly the
    log `l.subS ch`, in order — and every operation list with the same local trace for `i` (the round interleaved with
    arbitrary operations that concern other clients only) ends in the same view of `i`. -/
theorem round_delivers_to_client (h : At P ops m i l) (c : Conn) (hconn : conn? m.server i = some c)
    (hc : CountersOK P.down (dirDown c l)) (hcA : c.CountersOK)
    (hda : c.isDisconnected = false) (hdb : l.cl.isDisconnected = false)
    (ch : Nat) (ho : P.down.Ordered ch) (sA : SendRel) (hfA : SMap.find? c.sendRel ch = some sA)
    (rB : RecvRel) (hfB : SMap.find? l.cl.recvRel ch = some rB)
    (H1 : AllDue c.now sA.resend sA.unacked) (H2 : backlog sA.unacked ≤ availAtTurn c ch)
    (H3 : Room (l.subS ch) rB) (H4 : ∀ p ∈ flushPk c, OnlyCh ch p)
    (ks : List Nat) (hks1 : ∀ k ∈ flushIdx l c, k ∈ ks) (hks2 : ∀ k ∈ ks, k ∈ flushIdx l c)
    (n : Nat) (hn : (l.subS ch).length ≤ (l.obtC ch).length + n) :
    ∃ m' c' l', m.run (roundFor i ch ks n) = some m' ∧ conn? m'.server i = some c' ∧ m'.links i = some l' ∧
      c'.isDisconnected = false ∧ l'.cl.isDisconnected = false ∧ l'.tainted = false ∧ l'.subS = l.subS ∧
      l'.obtC ch = l.subS ch ∧
      ∀ ops' m'', trace i ops' = trace i (roundFor i ch ks n) → m.run ops' = some m'' → m''.view i = m'.view i := by
  have hw := reach_wf P ops m h.run
  have g0 : GoodL P.down (dirDown c l) := (goodK_dir .down h.run hconn h.link h.clean).1
  obtain ⟨u, hu, a1, a2, a3, a4⟩ := round_delivers_any_inv (ord := true) g0 hc hcA hda hdb ch ho sA hfA rB hfB H1 H2 H3 H4 ks hks1 hks2 n hn
  have hloc : ∀ o ∈ roundOps ch ks n, LocalD o := fun o ho => by
    simp only [roundOps, List.mem_cons, List.mem_append, List.mem_map, List.mem_replicate] at ho
    rcases ho with rfl | ⟨k, -, rfl⟩ | ⟨-, rfl⟩ <;> trivial
  obtain ⟨m', l', hr, hv', b2, b3⟩ := run_local_down hw hconn h.link (roundOps ch ks n) hloc u hu
  rw [roundOps_map] at hr
  rw [← b2] at a2 a3 a4
  exact ⟨m', u.a, l', hr, congrArg LV.conn hv', congrArg LV.link hv', a1, a2, b3.trans h.clean, a3, a4,
    fun ops' m'' ht hr'' => run_agree i hw hw rfl hr'' (roundOps_map i ch ks n ▸ hr) ht⟩

/-- **Broadcast reaches every connected client: the liveness half (ReliableOrdered).**  From ANY reachable state `m`,
    for every client `i` whose link is untainted and live on both ends: let the server's clock advance by
    `dt ≥ resend_time` and run ONE lossless round for client `i` ALONE — in ANY interleaving `ops'` with operations
    that concern other clients only.  Under the hypotheses of `C01L.bounded_delivery` for the link of `i`, afterwards
    both ends of the link are live and client `i` has obtained EXACTLY the messages addressed to it so far (the log
    `l.subS ch`, see `addressed_is_logged`), in order: each of them at least once, none more often than the run `ops`
    addressed it to `i` (`C11E.broadcast_exactly_once_partial`). -/
theorem broadcast_exactly_once (h : At P ops m i l) (c : Conn) (hconn : conn? m.server i = some c)
    (hda : c.isDisconnected = false) (hdb : l.cl.isDisconnected = false)
    (ch : Nat) (ho : P.down.Ordered ch) (sA : SendRel) (hfA : SMap.find? c.sendRel ch = some sA)
    (rB : RecvRel) (hfB : SMap.find? l.cl.recvRel ch = some rB)
    (dt : Nat) (hdt : sA.resend ≤ dt) (cu : Conn) (hcu : c.update dt = .ok cu)
    (hc : CountersOK P.down (dirDown cu l)) (hcA : cu.CountersOK)
    (H2 : backlog sA.unacked ≤ availAtTurn cu ch) (H3 : Room (l.subS ch) rB) (H4 : ∀ p ∈ flushPk cu, OnlyCh ch p)
    (ks : List Nat) (hks1 : ∀ k ∈ flushIdx l cu, k ∈ ks) (hks2 : ∀ k ∈ ks, k ∈ flushIdx l cu)
    (n : Nat) (hn : (l.subS ch).length ≤ (l.obtC ch).length + n)
    (ops' : List MOp) (ht : trace i ops' = trace i (.srvUpdate dt :: roundFor i ch ks n))
    (m'' : MSys) (hr : m.run ops' = some m'') :
    ∃ c'' l'', conn? m''.server i = some c'' ∧ m''.links i = some l'' ∧ c''.isDisconnected = false ∧
      l''.cl.isDisconnected = false ∧ l''.tainted = false ∧ l''.subS = l.subS ∧ l''.obtC ch = l.subS ch ∧
      ∀ x ∈ l.subS ch, 1 ≤ (l''.obtC ch).count x ∧ (l''.obtC ch).count x ≤ (addressedTo i ch ops).count x :=
  (tick_round_link .down h c hconn hda hdb ch true ho sA hfA rB hfB dt hdt (dirDown cu l) (dirDown_tick hcu) hc hcA
    H2 H3 H4 ks hks1 hks2 n hn).2 ops' (ht.trans (trace_tick_round i ch dt ks n)) m'' hr

/-- **The same on a ReliableUnordered channel (C02's liveness clause):** the client has obtained a PERMUTATION of the
    log — every message addressed to it exactly as often as it was logged. -/
theorem broadcast_exactly_once_unordered (h : At P ops m i l) (c : Conn) (hconn : conn? m.server i = some c)
    (hda : c.isDisconnected = false) (hdb : l.cl.isDisconnected = false)
    (ch : Nat) (ho : P.down.Unordered ch) (sA : SendRel) (hfA : SMap.find? c.sendRel ch = some sA)
    (rB : RecvRel) (hfB : SMap.find? l.cl.recvRel ch = some rB)
    (dt : Nat) (hdt : sA.resend ≤ dt) (cu : Conn) (hcu : c.update dt = .ok cu)
    (hc : CountersOK P.down (dirDown cu l)) (hcA : cu.CountersOK)
    (H2 : backlog sA.unacked ≤ availAtTurn cu ch) (H3 : Room (l.subS ch) rB) (H4 : ∀ p ∈ flushPk cu, OnlyCh ch p)
    (ks : List Nat) (hks1 : ∀ k ∈ flushIdx l cu, k ∈ ks) (hks2 : ∀ k ∈ ks, k ∈ flushIdx l cu)
    (n : Nat) (hn : (l.subS ch).length ≤ (l.obtC ch).length + n)
    (ops' : List MOp) (ht : trace i ops' = trace i (.srvUpdate dt :: roundFor i ch ks n))
    (m'' : MSys) (hr : m.run ops' = some m'') :
    ∃ c'' l'', conn? m''.server i = some c'' ∧ m''.links i = some l'' ∧ c''.isDisconnected = false ∧
      l''.cl.isDisconnected = false ∧ l''.tainted = false ∧ l''.subS = l.subS ∧ (l''.obtC ch).Perm (l.subS ch) ∧
      ∀ x ∈ l.subS ch, 1 ≤ (l''.obtC ch).count x ∧ (l''.obtC ch).count x ≤ (addressedTo i ch ops).count x :=
  (tick_round_link .down h c hconn hda hdb ch false ho sA hfA rB hfB dt hdt (dirDown cu l) (dirDown_tick hcu) hc hcA
    H2 H3 H4 ks hks1 hks2 n hn).2 ops' (ht.trans (trace_tick_round i ch dt ks n)) m'' hr

/-- **… as C01 words it: "unless the client has been disconnected"** (no H3 / H4; the flush may carry other channels
    too, `ks` may contain ANY datagrams of the emission history — stale ones, repetitions — as long as those of this
    flush are among them).  Nothing panics on the link of `i`, the server side stays live, and unless client `i` has
    been disconnected it has obtained exactly the log, in order. -/
theorem broadcast_exactly_once_unless_disconnected (h : At P ops m i l) (c : Conn) (hconn : conn? m.server i = some c)
    (hda : c.isDisconnected = false)
    (ch : Nat) (ho : P.down.Ordered ch) (sA : SendRel) (hfA : SMap.find? c.sendRel ch = some sA)
    (dt : Nat) (hdt : sA.resend ≤ dt) (cu : Conn) (hcu : c.update dt = .ok cu)
    (hc : CountersOK P.down (dirDown cu l)) (hcA : cu.CountersOK)
    (H2 : backlog sA.unacked ≤ availAtTurn cu ch)
    (ks : List Nat) (hks1 : ∀ k ∈ flushIdx l cu, k ∈ ks) (hks2 : ∀ k ∈ ks, k < l.outS.length + (flushPk cu).length)
    (n : Nat) (hn : (l.subS ch).length ≤ (l.obtC ch).length + n)
    (ops' : List MOp) (ht : trace i ops' = trace i (.srvUpdate dt :: roundFor i ch ks n))
    (m'' : MSys) (hr : m.run ops' = some m'') :
    ∃ c'' l'', conn? m''.server i = some c'' ∧ m''.links i = some l'' ∧ c''.isDisconnected = false ∧
      l''.tainted = false ∧ l''.subS = l.subS ∧ (l''.cl.isDisconnected = false → l''.obtC ch = l.subS ch) := by
  have g0 : GoodL P.down (dirDown c l) := (goodK_dir .down h.run hconn h.link h.clean).1
  have hs : (dirDown c l).step (.updA dt) = some (dirDown cu l) := dirDown_tick hcu
  obtain ⟨gu, hfu, hdue, e3⟩ := tick_inv g0 hs hfA hdt
  obtain ⟨t, u, -, -, hu, e1, e2, -, hcon⟩ := round_progress_inv (s := dirDown cu l) gu hc hcA (e3.trans hda) ch ho sA hfu
    sA.unacked [] (by simp) (l.subS ch).length (fun _ h => by cases h) (Nat.le_refl _) hdue H2 ks hks1 hks2 n hn
  have hrun : (dirDown c l).run (SysOp.updA dt :: roundOps ch ks n) = some u := by
    simp only [Sys.run, hs]; exact hu
  obtain ⟨l', b1, b2, b3⟩ := view_of_trace .down (reach_wf P ops m h.run) hconn h.link _ u hrun ops'
    (ht.trans (trace_tick_round i ch dt ks n)) hr
  refine ⟨u.a, l', congrArg LV.conn b1, congrArg LV.link b1, e2, b3.trans h.clean, (congrArg Sys.submitted b2).trans e1, ?_⟩
  intro hl
  rw [show l'.cl = u.b from congrArg Sys.b b2] at hl
  rw [show l'.obtC = u.obtained from congrArg Sys.obtained b2]
  obtain ⟨p1, p2⟩ := hcon hl
  have p1' : l.subS ch <+: u.obtained ch := by
    have : (dirDown cu l).submitted ch = l.subS ch := rfl
    rw [this, List.take_length] at p1; exact p1
  exact p2.eq_of_length (Nat.le_antisymm p2.length_le p1'.length_le)

/-- **Single-channel configuration** (the only server → client channel is the ReliableOrdered channel `ch`): the
    budget hypothesis is just `backlog ≤ available_bytes_per_tick`, H4 is automatic, the datagrams of the flush are
    handed over in emission order. -/
theorem broadcast_exactly_once_single (h : At P ops m i l) (c : Conn) (hconn : conn? m.server i = some c)
    (hda : c.isDisconnected = false) (hdb : l.cl.isDisconnected = false)
    (ch : Nat) (hsingle : Single P.down ch) (sA : SendRel) (hfA : SMap.find? c.sendRel ch = some sA)
    (rB : RecvRel) (hfB : SMap.find? l.cl.recvRel ch = some rB)
    (dt : Nat) (hdt : sA.resend ≤ dt) (cu : Conn) (hcu : c.update dt = .ok cu)
    (hc : CountersOK P.down (dirDown cu l)) (hcA : cu.CountersOK)
    (H2 : backlog sA.unacked ≤ P.budget) (H3 : Room (l.subS ch) rB)
    (n : Nat) (hn : (l.subS ch).length ≤ (l.obtC ch).length + n)
    (ops' : List MOp) (ht : trace i ops' = trace i (.srvUpdate dt :: roundFor i ch (flushIdx l cu) n))
    (m'' : MSys) (hr : m.run ops' = some m'') :
    ∃ c'' l'', conn? m''.server i = some c'' ∧ m''.links i = some l'' ∧ c''.isDisconnected = false ∧
      l''.cl.isDisconnected = false ∧ l''.tainted = false ∧ l''.subS = l.subS ∧ l''.obtC ch = l.subS ch ∧
      ∀ x ∈ l.subS ch, 1 ≤ (l''.obtC ch).count x ∧ (l''.obtC ch).count x ≤ (addressedTo i ch ops).count x := by
  have g0 : GoodL P.down (dirDown c l) := (goodK_dir .down h.run hconn h.link h.clean).1
  obtain ⟨pkU, hU, -⟩ := goodL_step g0 (dirDown_tick (l := l) hcu)
  have hav : availAtTurn cu ch = P.budget := single_avail hsingle hU
  exact broadcast_exactly_once h c hconn hda hdb ch (single_ordered hsingle) sA hfA rB hfB dt hdt cu hcu hc hcA
    (by rw [hav]; exact H2) H3 (single_only hU.invA.1 (single_order hsingle hU)) (flushIdx l cu) (fun _ hk => hk)
    (fun _ hk => hk) n hn ops' ht m'' hr

/-- **A stalled or misbehaving client does not delay the others.**  Same hypotheses on client `i` as
    `broadcast_exactly_once`, stated on the reachable state `m`.  Then let ANYTHING happen to the other clients first
    (`opsJ`: any operations whose target is a client `j ≠ i` — client `j` never receives a datagram, its ordered stream
    stalled forever; hostile bytes in its name; its disconnection by the server because its send channel ran full,
    `ReliableChannelMaxMemoryReached`; its removal …), and let the tick and the round of `i` be interleaved with more
    of the same (`ops'`, incl. `broadcast_except(i)` traffic that fills the others' channels): the outcome for `i` is
    exactly that of `broadcast_exactly_once` — everything addressed to `i` is obtained, in order, in this ONE round. -/
theorem stalled_client_does_not_delay_others (h : At P ops m i l) (c : Conn) (hconn : conn? m.server i = some c)
    (hda : c.isDisconnected = false) (hdb : l.cl.isDisconnected = false)
    (ch : Nat) (ho : P.down.Ordered ch) (sA : SendRel) (hfA : SMap.find? c.sendRel ch = some sA)
    (rB : RecvRel) (hfB : SMap.find? l.cl.recvRel ch = some rB)
    (dt : Nat) (hdt : sA.resend ≤ dt) (cu : Conn) (hcu : c.update dt = .ok cu)
    (hc : CountersOK P.down (dirDown cu l)) (hcA : cu.CountersOK)
    (H2 : backlog sA.unacked ≤ availAtTurn cu ch) (H3 : Room (l.subS ch) rB) (H4 : ∀ p ∈ flushPk cu, OnlyCh ch p)
    (ks : List Nat) (hks1 : ∀ k ∈ flushIdx l cu, k ∈ ks) (hks2 : ∀ k ∈ ks, k ∈ flushIdx l cu)
    (n : Nat) (hn : (l.subS ch).length ≤ (l.obtC ch).length + n)
    (opsJ : List MOp) (hJ : ∀ op ∈ opsJ, ∃ j, target op = some j ∧ j ≠ i) (mJ : MSys) (hrJ : m.run opsJ = some mJ)
    (ops' : List MOp) (ht : trace i ops' = trace i (.srvUpdate dt :: roundFor i ch ks n))
    (m'' : MSys) (hr : mJ.run ops' = some m'') :
    mJ.view i = m.view i ∧
    ∃ c'' l'', conn? m''.server i = some c'' ∧ m''.links i = some l'' ∧ c''.isDisconnected = false ∧
      l''.cl.isDisconnected = false ∧ l''.tainted = false ∧ l''.subS = l.subS ∧ l''.obtC ch = l.subS ch ∧
      ∀ x ∈ l.subS ch, 1 ≤ (l''.obtC ch).count x ∧ (l''.obtC ch).count x ≤ (addressedTo i ch ops).count x := by
  obtain ⟨hvJ, hAt, hadr⟩ := at_after_others h hJ hrJ
  have := broadcast_exactly_once hAt c ((congrArg LV.conn hvJ).trans hconn) hda hdb ch ho sA hfA rB hfB dt hdt cu hcu hc hcA
    H2 H3 H4 ks hks1 hks2 n hn ops' ht m'' hr
  rw [hadr] at this
  exact ⟨hvJ, this⟩

end Theorems

/-! ## non-vacuity: concrete runs, evaluated by the kernel AND covered by the theorems -/

def okD {ε α : Type} (x : Res ε α) (d : α) : α := match x with | .ok a => a | _ => d
def isOkB {ε α : Type} (x : Res ε α) : Bool := match x with | .ok _ => true | _ => false
theorem ok_okD {ε α : Type} {x : Res ε α} (h : isOkB x = true) (d : α) : x = .ok (okD x d) := by
  cases x with
  | ok a => rfl
  | err e => cases h
  | panic p => cases h

/-! `Ex0` — literally the final state of `C11E.Ex` (three clients; client 2 hostile, disconnected, removed; the
    datagram that carried [60] to client 1 LOST), no acknowledgement in between: after the tick the server's flush for
    client 1 retransmits [10], [20], [30], [60] on channel 0 AND [40] on channel 1 (`outS[4]`, `outS[5]`) and emits an
    ack packet (`outS[6]`) — H4 does not hold, so `broadcast_exactly_once_unless_disconnected` is the theorem that
    applies.  One lossless round for client 1 alone; meanwhile client 3 is fed a replayed datagram and disconnects. -/
namespace Ex0

def P : Params := C11E.Ex.P
def ops : List MOp := C11E.Ex.ops
def m : MSys := C11E.Ex.fin
def l : Link := C11E.Ex.l1
theorem at1 : At P ops m 1 l := C11E.Ex.at1
def c : Conn := (conn? m.server 1).getD l.last
def cu : Conn := okD (c.update 1000) c
def sA : SendRel := (SMap.find? c.sendRel 0).getD (SendRel.new 0 0 0)
/-- the round of client 1 hands over the new datagrams 6, 4, 5 and — again — the stale datagram 1 -/
def ops' : List MOp :=
  [.srvUpdate 1000, .deliverToCli 3 2, .srvFlush 1, .deliverToCli 1 6, .deliverToCli 1 4, .cliDisconnect 3,
   .deliverToCli 1 1, .deliverToCli 1 5, .cliRecv 1 0]
def fin : MSys := (m.run ops').getD m

/-- The state `m` and the run from it.  Client 1 has a table entry that the tick updates, and
    its channel 0; the hypotheses of `broadcast_exactly_once_unless_disconnected` for client 1 (the server end live, the
    timer, H2, the indices of the flush, [60] logged and not yet obtained) and that H4 fails; the counters; the run to `fin`
    returns normally, client 1 was not disconnected, and what the kernel computes there;
    the run stays in the range of the source tie -/
theorem all :
    ((conn? m.server 1).isSome = true ∧ isOkB (c.update 1000) = true ∧ (SMap.find? c.sendRel 0).isSome = true) ∧
    (c.isDisconnected = false ∧ sA.resend ≤ 1000 ∧ backlog sA.unacked ≤ availAtTurn cu 0 ∧
      flushIdx l cu = [4, 5, 6] ∧ l.outS.length + (flushPk cu).length = 7 ∧
      l.subS 0 = [[10], [20], [30], [60]] ∧ l.obtC 0 = [[10], [20], [30]] ∧
      ¬ (∀ p ∈ flushPk cu, OnlyCh 0 p)) ∧
    (CountersOK P.down (dirDown cu l) ∧ CI.countersOKb cu = true) ∧
    (m.run ops').isSome = true ∧
    (fin.links 1).map (fun l => l.cl.isDisconnected) = some false ∧
    (fin.links 1).map (fun l => (l.obtC 0, l.obtC 1, l.delivC)) =
      some ([[10], [20], [30], [60]], [[40]], [0, 1, 6, 4, 1, 5]) ∧
    SrcMulti.MRunInRange P (ops ++ ops') := by
  decide +kernel

theorem conn1 : conn? m.server 1 = some c := some_getD all.1.1 _
theorem upd : c.update 1000 = .ok cu := ok_okD all.1.2.1 _
theorem find_sA : SMap.find? c.sendRel 0 = some sA := some_getD all.1.2.2 _

theorem facts : c.isDisconnected = false ∧ sA.resend ≤ 1000 ∧ backlog sA.unacked ≤ availAtTurn cu 0 ∧
    flushIdx l cu = [4, 5, 6] ∧ l.outS.length + (flushPk cu).length = 7 ∧
    l.subS 0 = [[10], [20], [30], [60]] ∧ l.obtC 0 = [[10], [20], [30]] ∧
    ¬ (∀ p ∈ flushPk cu, OnlyCh 0 p) := all.2.1

theorem counters : CountersOK P.down (dirDown cu l) := all.2.2.1.1
theorem countersA : cu.CountersOK := CI.countersOK_of_b all.2.2.1.2
theorem run' : m.run ops' = some fin := some_getD all.2.2.2.1 _

theorem client1_has_60_unless_disconnected :
    ∃ c'' l'', conn? fin.server 1 = some c'' ∧ fin.links 1 = some l'' ∧ c''.isDisconnected = false ∧
      l''.tainted = false ∧ l''.subS = l.subS ∧ (l''.cl.isDisconnected = false → l''.obtC 0 = l.subS 0) :=
  broadcast_exactly_once_unless_disconnected at1 c conn1 facts.1 0 C11E.Ex.ordered0 sA find_sA 1000 facts.2.1 cu upd
    counters countersA facts.2.2.1 [6, 4, 1, 5]
    (by rw [facts.2.2.2.1]; decide) (by rw [facts.2.2.2.2.1]; decide) 1
    (by rw [facts.2.2.2.2.2.1, facts.2.2.2.2.2.2.1]; decide)
    ops' (by decide) fin run'

theorem live1 : (fin.links 1).map (fun l => l.cl.isDisconnected) = some false := all.2.2.2.2.1

example : ∃ l'', fin.links 1 = some l'' ∧ l''.obtC 0 = [[10], [20], [30], [60]] := by
  obtain ⟨_, l'', -, hl, -, -, -, himp⟩ := client1_has_60_unless_disconnected
  refine ⟨l'', hl, ?_⟩
  have hlive := live1
  rw [hl] at hlive
  rw [himp (Option.some.inj hlive)]
  exact facts.2.2.2.2.2.1

example : (fin.links 1).map (fun l => (l.obtC 0, l.obtC 1, l.delivC)) =
    some ([[10], [20], [30], [60]], [[40]], [0, 1, 6, 4, 1, 5]) := all.2.2.2.2.2.1

theorem inRange : SrcMulti.MRunInRange P (ops ++ ops') := all.2.2.2.2.2.2

end Ex0

/-! `Ex1` — the run `C11E.Ex.ops` continued.  There: three clients; client 2 was fed garbage, disconnected and removed;
    the server broadcast [60]; the datagram for client 3 arrived, the one for client 1 was LOST (client 1 has obtained
    [10], [20], [30] of its log [10], [20], [30], [60]).  Here client 1 first acknowledges what it received earlier
    (`cliFlush 1`, `deliverToSrv 1 1`; so that only [60] is left in the server's `unacked` for client 1 and the next
    flush carries channel 0 only: H4).  State `m`.  Then the tick (`srvUpdate 1000`, resend time 100 ns) and ONE
    lossless round for client 1 ALONE: the flush emits `outS[4]` ([60] again) and `outS[5]` (an ack packet). -/
namespace Ex1

def P : Params := C11E.Ex.P
theorem ordered0 : P.down.Ordered 0 := C11E.Ex.ordered0

def ops : List MOp := C11E.Ex.ops ++ [.cliFlush 1, .deliverToSrv 1 1]
def m : MSys := ((MSys.init P).run ops).getD (MSys.init P)
def l : Link := (m.links 1).getD (Link.fresh P)
def c : Conn := (conn? m.server 1).getD l.last
def cu : Conn := okD (c.update 1000) c
def sA : SendRel := (SMap.find? c.sendRel 0).getD (SendRel.new 0 0 0)
def rB : RecvRel := (SMap.find? l.cl.recvRel 0).getD (RecvRel.new 0 true)
/-- the tick and the round of client 1 (datagrams handed over in the order 5, 4), interleaved with what happens to the
    others meanwhile: garbage in client 3's name (which disconnects its slot), client 3 disconnecting and being
    removed, garbage in the name of the removed client 2, a stale datagram replayed to client 3 -/
def ops' : List MOp :=
  [.hostile 3 [255], .srvUpdate 1000, .cliDisconnect 3, .srvFlush 1, .deliverToCli 1 5, .hostile 2 [1],
   .deliverToCli 3 0, .deliverToCli 1 4, .remove 3, .cliRecv 1 0]
def fin : MSys := (m.run ops').getD m
def mu : MSys := (m.step (.srvUpdate 1000)).getD m
def sAu : SendRel := (SMap.find? cu.sendRel 0).getD (SendRel.new 0 0 0)

/-- The run to `m` and the tick.  The run returns normally, client 1 has an untainted link, a
    table entry that the tick updates, and its channel 0 on both ends; the hypotheses of `broadcast_exactly_once` for
    client 1 (both ends live, the timer, H2 (backlog = the one byte of [60]), H3, H4, the indices of the flush, and where
    client 1 stands: [60] is logged, not yet obtained); the counters; the tick alone does not panic, and after it the
    table entry `cu` is live, all of its channel 0 is due and within the budget -/
theorem all :
    ((((MSys.init P).run ops).isSome = true ∧ (m.links 1).isSome = true ∧ l.tainted = false) ∧
      (conn? m.server 1).isSome = true ∧ isOkB (c.update 1000) = true ∧ (SMap.find? c.sendRel 0).isSome = true ∧
      (SMap.find? l.cl.recvRel 0).isSome = true) ∧
    ((c.isDisconnected = false ∧ l.cl.isDisconnected = false ∧ sA.resend ≤ 1000 ∧
        backlog sA.unacked ≤ availAtTurn cu 0 ∧ Room (l.subS 0) rB ∧ (∀ p ∈ flushPk cu, OnlyCh 0 p) ∧
        flushIdx l cu = [4, 5] ∧ l.subS 0 = [[10], [20], [30], [60]] ∧ l.obtC 0 = [[10], [20], [30]] ∧
        backlog sA.unacked = 1 ∧ sA.unacked.map (·.1) = [3]) ∧
      CountersOK P.down (dirDown cu l) ∧ CI.countersOKb cu = true) ∧
    (m.step (.srvUpdate 1000)).isSome = true ∧ (SMap.find? cu.sendRel 0).isSome = true ∧
    (cu.isDisconnected = false ∧ AllDue cu.now sAu.resend sAu.unacked ∧ backlog sAu.unacked ≤ availAtTurn cu 0) ∧
    SrcMulti.MRunInRange P ((ops ++ [.srvUpdate 1000]) ++ MultiLive.roundFor 1 0 [4, 5] 1) := by
  decide +kernel

/-- the run from `m` to `fin` returns normally, and what the kernel computes there: client 1 obtained [10], [20], [30],
    [60]; the datagrams 5 and 4 were handed over; client 3 is gone, client 1's slot is connected;
    the run stays in the range of the source tie -/
theorem final :
    (m.run ops').isSome = true ∧
    ((fin.links 1).map (fun l => (l.obtC 0, l.subS 0, l.delivC, l.tainted, l.cl.isDisconnected)) =
        some ([[10], [20], [30], [60]], [[10], [20], [30], [60]], [0, 1, 5, 4], false, false) ∧
      (conn? fin.server 1).map (·.status) = some .connected ∧ (conn? fin.server 3).map (·.status) = none) ∧
    SrcMulti.MRunInRange P (ops ++ ops') := by
  decide +kernel

theorem run : (MSys.init P).run ops = some m := some_getD all.1.1.1 _
theorem link : m.links 1 = some l := some_getD all.1.1.2.1 _
theorem at1 : At P ops m 1 l := ⟨run, link, all.1.1.2.2⟩
theorem conn1 : conn? m.server 1 = some c := some_getD all.1.2.1 _
theorem upd : c.update 1000 = .ok cu := ok_okD all.1.2.2.1 _
theorem find_sA : SMap.find? c.sendRel 0 = some sA := some_getD all.1.2.2.2.1 _
theorem find_rB : SMap.find? l.cl.recvRel 0 = some rB := some_getD all.1.2.2.2.2 _

theorem facts : c.isDisconnected = false ∧ l.cl.isDisconnected = false ∧ sA.resend ≤ 1000 ∧
    backlog sA.unacked ≤ availAtTurn cu 0 ∧ Room (l.subS 0) rB ∧ (∀ p ∈ flushPk cu, OnlyCh 0 p) ∧
    flushIdx l cu = [4, 5] ∧ l.subS 0 = [[10], [20], [30], [60]] ∧ l.obtC 0 = [[10], [20], [30]] ∧
    backlog sA.unacked = 1 ∧ sA.unacked.map (·.1) = [3] := all.2.1.1

theorem counters : CountersOK P.down (dirDown cu l) := all.2.1.2.1
theorem countersA : cu.CountersOK := CI.countersOK_of_b all.2.1.2.2
theorem run' : m.run ops' = some fin := some_getD final.1 _

theorem client1_has_everything :
    ∃ c'' l'', conn? fin.server 1 = some c'' ∧ fin.links 1 = some l'' ∧ c''.isDisconnected = false ∧
      l''.cl.isDisconnected = false ∧ l''.tainted = false ∧ l''.subS = l.subS ∧ l''.obtC 0 = l.subS 0 ∧
      ∀ x ∈ l.subS 0, 1 ≤ (l''.obtC 0).count x ∧ (l''.obtC 0).count x ≤ (addressedTo 1 0 ops).count x :=
  broadcast_exactly_once at1 c conn1 facts.1 facts.2.1 0 ordered0 sA find_sA rB find_rB 1000 facts.2.2.1 cu upd
    counters countersA facts.2.2.2.1 facts.2.2.2.2.1 facts.2.2.2.2.2.1 [5, 4]
    (by rw [facts.2.2.2.2.2.2.1]; decide) (by rw [facts.2.2.2.2.2.2.1]; decide) 1
    (by rw [facts.2.2.2.2.2.2.2.1, facts.2.2.2.2.2.2.2.2.1]; decide)
    ops' (by decide) fin run'

example : ∃ l'', fin.links 1 = some l'' ∧ (l''.obtC 0).count [60] = 1 := by
  obtain ⟨_, l'', -, hl, -, -, -, -, -, hcnt⟩ := client1_has_everything
  have hx : [60] ∈ l.subS 0 := by rw [facts.2.2.2.2.2.2.2.1]; decide
  obtain ⟨h1, h2⟩ := hcnt [60] hx
  have h3 : (addressedTo 1 0 ops).count [60] = 1 := by decide
  exact ⟨l'', hl, by omega⟩

example : (fin.links 1).map (fun l => (l.obtC 0, l.subS 0, l.delivC, l.tainted, l.cl.isDisconnected)) =
      some ([[10], [20], [30], [60]], [[10], [20], [30], [60]], [0, 1, 5, 4], false, false) ∧
    (conn? fin.server 1).map (·.status) = some .connected ∧ (conn? fin.server 3).map (·.status) = none :=
  final.2.1

theorem inRange : SrcMulti.MRunInRange P (ops ++ ops') := final.2.2

theorem step_mu : m.step (.srvUpdate 1000) = some mu := some_getD all.2.2.1 _
theorem run_mu : (MSys.init P).run (ops ++ [.srvUpdate 1000]) = some mu := by
  rw [MSys.run_append, run]; simp only [Option.bind_some, MSys.run, step_mu]
theorem viewU : conn? mu.server 1 = some cu ∧ mu.links 1 = some l := by
  obtain ⟨cu', h1, h2, h3, -⟩ := srvUpdate_down (reach_wf P ops m run) step_mu conn1 link
  rw [upd] at h1
  cases h1
  exact ⟨h2, h3⟩
theorem find_sAu : SMap.find? cu.sendRel 0 = some sAu := some_getD all.2.2.2.1 _
theorem factsU : cu.isDisconnected = false ∧ AllDue cu.now sAu.resend sAu.unacked ∧
    backlog sAu.unacked ≤ availAtTurn cu 0 := all.2.2.2.2.1
theorem inRangeT : SrcMulti.MRunInRange P ((ops ++ [.srvUpdate 1000]) ++ MultiLive.roundFor 1 0 [4, 5] 1) := all.2.2.2.2.2

/-- the round of client 1 with nothing else going on does not panic either (`round_delivers_to_client`, applied to the
    state after the tick) -/
example : ∃ m' c' l', mu.run (roundFor 1 0 [4, 5] 1) = some m' ∧ conn? m'.server 1 = some c' ∧ m'.links 1 = some l' ∧
      c'.isDisconnected = false ∧ l'.cl.isDisconnected = false ∧ l'.tainted = false ∧ l'.subS = l.subS ∧
      l'.obtC 0 = l.subS 0 ∧
      ∀ ops' m'', trace 1 ops' = trace 1 (roundFor 1 0 [4, 5] 1) → mu.run ops' = some m'' → m''.view 1 = m'.view 1 :=
  round_delivers_to_client ⟨run_mu, viewU.2, at1.clean⟩ cu viewU.1 counters countersA factsU.1 facts.2.1 0
    ordered0 sAu find_sAu rB find_rB factsU.2.1 factsU.2.2 facts.2.2.2.2.1 facts.2.2.2.2.2.1 [4, 5]
    (by rw [facts.2.2.2.2.2.2.1]; decide) (by rw [facts.2.2.2.2.2.2.1]; decide) 1
    (by rw [facts.2.2.2.2.2.2.2.1, facts.2.2.2.2.2.2.2.2.1]; decide)

end Ex1

/-! `ExU` — the ReliableUnordered channel 1 of `C11E.Ex.P`.  Clients 1 and 2 connect; the server broadcasts a
    1300-byte message (two slices) and [71] on channel 1, and [72] by `broadcast_except(1)`.  It flushes for both;
    client 2's first datagram arrives, client 1's three datagrams are ALL LOST.  State `m`.  The tick; one lossless
    round for client 1 alone, the datagrams handed over in the order small packet, slice 1, slice 0, slice 1 again. -/
namespace ExU

def P : Params := C11E.Ex.P
def big : Bytes := List.replicate 1200 7 ++ List.replicate 100 9
def ops : List MOp :=
  [.addClient 1, .addClient 2, .broadcast 1 big, .broadcast 1 [71], .broadcastExcept 1 1 [72], .srvFlush 1, .srvFlush 2,
   .deliverToCli 2 0]
set_option maxRecDepth 100000 in
def m : MSys := ((MSys.init P).run ops).getD (MSys.init P)
def l : Link := (m.links 1).getD (Link.fresh P)
def c : Conn := (conn? m.server 1).getD l.last
def cu : Conn := okD (c.update 1000) c
def sA : SendRel := (SMap.find? c.sendRel 1).getD (SendRel.new 0 0 0)
def rB : RecvRel := (SMap.find? l.cl.recvRel 1).getD (RecvRel.new 0 true)
def ops' : List MOp :=
  [.cliRecv 2 1, .srvUpdate 1000, .srvFlush 1, .deliverToCli 1 5, .hostile 2 [3], .deliverToCli 1 4, .deliverToCli 1 3,
   .deliverToCli 1 4, .cliRecv 1 1, .srvDisconnect 2, .cliRecv 1 1]
set_option maxRecDepth 100000 in
def fin : MSys := (m.run ops').getD m

set_option maxRecDepth 100000 in
/-- Both runs.  The run to `m` returns normally, client 1 has an untainted link, a table entry that
    the tick updates, and its channel 1 on both ends; the hypotheses of `broadcast_exactly_once_unordered` for client 1
    (both ends live, the timer, H2: the backlog is the 2401 bytes of both messages, H3, H4, the indices of the flush;
    nothing obtained, nothing delivered yet); the counters; the run to `fin` returns normally and what the kernel
    computes there: both messages obtained, [72] (not addressed to client 1) is not among them;
    the run stays in the range of the source tie -/
theorem all :
    (((MSys.init P).run ops).isSome = true ∧ (m.links 1).isSome = true ∧ l.tainted = false) ∧
    ((conn? m.server 1).isSome = true ∧ isOkB (c.update 1000) = true ∧ (SMap.find? c.sendRel 1).isSome = true ∧
      (SMap.find? l.cl.recvRel 1).isSome = true) ∧
    (c.isDisconnected = false ∧ l.cl.isDisconnected = false ∧ sA.resend ≤ 1000 ∧
      backlog sA.unacked ≤ availAtTurn cu 1 ∧ Room (l.subS 1) rB ∧ (∀ p ∈ flushPk cu, OnlyCh 1 p) ∧
      flushIdx l cu = [3, 4, 5] ∧ l.subS 1 = [big, [71]] ∧ l.obtC 1 = [] ∧ l.delivC = [] ∧
      backlog sA.unacked = 2401) ∧
    (CountersOK P.down (dirDown cu l) ∧ CI.countersOKb cu = true) ∧
    (m.run ops').isSome = true ∧
    (fin.links 1).map (fun l => (l.obtC 1, l.delivC)) = some ([big, [71]], [5, 4, 3, 4]) ∧
    SrcMulti.MRunInRange P (ops ++ ops') := by
  decide +kernel

theorem run : (MSys.init P).run ops = some m := some_getD all.1.1 _
theorem link : m.links 1 = some l := some_getD all.1.2.1 _
theorem at1 : At P ops m 1 l := ⟨run, link, all.1.2.2⟩
theorem conn1 : conn? m.server 1 = some c := some_getD all.2.1.1 _
theorem upd : c.update 1000 = .ok cu := ok_okD all.2.1.2.1 _
theorem find_sA : SMap.find? c.sendRel 1 = some sA := some_getD all.2.1.2.2.1 _
theorem find_rB : SMap.find? l.cl.recvRel 1 = some rB := some_getD all.2.1.2.2.2 _

theorem facts : c.isDisconnected = false ∧ l.cl.isDisconnected = false ∧ sA.resend ≤ 1000 ∧
    backlog sA.unacked ≤ availAtTurn cu 1 ∧ Room (l.subS 1) rB ∧ (∀ p ∈ flushPk cu, OnlyCh 1 p) ∧
    flushIdx l cu = [3, 4, 5] ∧ l.subS 1 = [big, [71]] ∧ l.obtC 1 = [] ∧ l.delivC = [] ∧
    backlog sA.unacked = 2401 := all.2.2.1

theorem counters : CountersOK P.down (dirDown cu l) := all.2.2.2.1.1
theorem countersA : cu.CountersOK := CI.countersOK_of_b all.2.2.2.1.2
theorem run' : m.run ops' = some fin := some_getD all.2.2.2.2.1 _

theorem client1_has_everything :
    ∃ c'' l'', conn? fin.server 1 = some c'' ∧ fin.links 1 = some l'' ∧ c''.isDisconnected = false ∧
      l''.cl.isDisconnected = false ∧ l''.tainted = false ∧ l''.subS = l.subS ∧ (l''.obtC 1).Perm (l.subS 1) ∧
      ∀ x ∈ l.subS 1, 1 ≤ (l''.obtC 1).count x ∧ (l''.obtC 1).count x ≤ (addressedTo 1 1 ops).count x :=
  broadcast_exactly_once_unordered at1 c conn1 facts.1 facts.2.1 1 C11E.Ex.unordered1 sA find_sA rB find_rB 1000
    facts.2.2.1 cu upd counters countersA facts.2.2.2.1 facts.2.2.2.2.1 facts.2.2.2.2.2.1 [5, 4, 3, 4]
    (by rw [facts.2.2.2.2.2.2.1]; decide) (by rw [facts.2.2.2.2.2.2.1]; decide) 2
    (by rw [facts.2.2.2.2.2.2.2.1, facts.2.2.2.2.2.2.2.2.1]; decide)
    ops' (by decide) fin run'

set_option maxRecDepth 100000 in
example : (fin.links 1).map (fun l => (l.obtC 1, l.delivC)) = some ([big, [71]], [5, 4, 3, 4]) := all.2.2.2.2.2.1

theorem inRange : SrcMulti.MRunInRange P (ops ++ ops') := all.2.2.2.2.2.2

end ExU

/-! `ExStall` — a STALLED client.  Server → client channel 0: ReliableOrdered with `max_memory_usage_bytes = 10`.
    Clients 1 and 2 connect.  The server broadcasts three 4-byte messages.  Client 1 receives, drains and acknowledges
    the first two.  Client 2's network delivers NOTHING, ever (`delivC = []`): its ordered stream is stalled, nothing
    is acknowledged, and the third broadcast does not fit the server's send channel for client 2 any more — the
    server disconnects client 2 with `SendChannelError(0, ReliableChannelMaxMemoryReached)`.  The datagram that carries
    the third message to client 1 is LOST.  State `m`.  Then: more operations for client 2 (`opsJ`), the tick, and
    one lossless round for client 1 interleaved with still more of them (`ops'`, including a `broadcast_except(1)`
    and the removal of client 2): client 1 obtains the third message in this round. -/
namespace ExStall

def P : Params := ⟨60000, [⟨0, .ordered, 10, 100⟩], [⟨0, .ordered, 100000, 100⟩]⟩
def ops : List MOp :=
  [.addClient 1, .addClient 2,
   .broadcast 0 [1, 2, 3, 4], .srvFlush 1, .srvFlush 2, .deliverToCli 1 0, .cliRecv 1 0, .cliFlush 1, .deliverToSrv 1 0,
   .broadcast 0 [5, 6, 7, 8], .srvFlush 1, .srvFlush 2, .deliverToCli 1 1, .cliRecv 1 0, .cliFlush 1, .deliverToSrv 1 1,
   .broadcast 0 [9, 10, 11, 12], .srvFlush 1, .srvFlush 2]
def m : MSys := ((MSys.init P).run ops).getD (MSys.init P)
def l : Link := (m.links 1).getD (Link.fresh P)
def c : Conn := (conn? m.server 1).getD l.last
def cu : Conn := okD (c.update 1000) c
def sA : SendRel := (SMap.find? c.sendRel 0).getD (SendRel.new 0 0 0)
def rB : RecvRel := (SMap.find? l.cl.recvRel 0).getD (RecvRel.new 0 true)

/-- The run to `m`.  It returns normally, client 1 has an untainted link, a table entry that the
    tick updates, and its channel 0 on both ends; the hypotheses of `stalled_client_does_not_delay_others` for client 1
    (both ends live, the timer, H2 with the whole budget available, H3, H4, the indices of the flush); the counters; and
    the situation: client 2 is stalled and has been disconnected by the server because its send channel ran full; client 1
    is fine, the third message is logged for it and not yet obtained -/
theorem all :
    ((((MSys.init P).run ops).isSome = true ∧ (m.links 1).isSome = true ∧ l.tainted = false) ∧
      (conn? m.server 1).isSome = true ∧ isOkB (c.update 1000) = true ∧ (SMap.find? c.sendRel 0).isSome = true ∧
      (SMap.find? l.cl.recvRel 0).isSome = true) ∧
    ((c.isDisconnected = false ∧ l.cl.isDisconnected = false ∧ sA.resend ≤ 1000 ∧
        backlog sA.unacked ≤ availAtTurn cu 0 ∧ Room (l.subS 0) rB ∧ (∀ p ∈ flushPk cu, OnlyCh 0 p) ∧
        flushIdx l cu = [5, 6]) ∧
      availAtTurn cu 0 = P.budget ∧ CountersOK P.down (dirDown cu l) ∧ CI.countersOKb cu = true) ∧
    (m.links 2).map (fun l => (l.delivC, l.obtC 0, l.subS 0)) = some ([], [], [[1, 2, 3, 4], [5, 6, 7, 8]]) ∧
    (conn? m.server 2).map (·.disconnectReason) = some (some (.sendChan 0 .maxMemory)) ∧
    (conn? m.server 1).map (·.status) = some .connected ∧
    l.subS 0 = [[1, 2, 3, 4], [5, 6, 7, 8], [9, 10, 11, 12]] ∧ l.obtC 0 = [[1, 2, 3, 4], [5, 6, 7, 8]] ∧
    l.delivC = [0, 1] ∧ l.outS.length = 5 := by
  decide +kernel

theorem run : (MSys.init P).run ops = some m := some_getD all.1.1.1 _
theorem link : m.links 1 = some l := some_getD all.1.1.2.1 _
theorem at1 : At P ops m 1 l := ⟨run, link, all.1.1.2.2⟩
theorem conn1 : conn? m.server 1 = some c := some_getD all.1.2.1 _
theorem upd : c.update 1000 = .ok cu := ok_okD all.1.2.2.1 _
theorem find_sA : SMap.find? c.sendRel 0 = some sA := some_getD all.1.2.2.2.1 _
theorem find_rB : SMap.find? l.cl.recvRel 0 = some rB := some_getD all.1.2.2.2.2 _

theorem ordered0 : P.down.Ordered 0 := by unfold Cfg.Ordered; decide
theorem single_avail_eq : availAtTurn cu 0 = P.budget := all.2.1.2.1

theorem situation :
    (m.links 2).map (fun l => (l.delivC, l.obtC 0, l.subS 0)) = some ([], [], [[1, 2, 3, 4], [5, 6, 7, 8]]) ∧
    (conn? m.server 2).map (·.disconnectReason) = some (some (.sendChan 0 .maxMemory)) ∧
    (conn? m.server 1).map (·.status) = some .connected ∧
    l.subS 0 = [[1, 2, 3, 4], [5, 6, 7, 8], [9, 10, 11, 12]] ∧ l.obtC 0 = [[1, 2, 3, 4], [5, 6, 7, 8]] ∧
    l.delivC = [0, 1] ∧ l.outS.length = 5 := all.2.2

theorem facts : c.isDisconnected = false ∧ l.cl.isDisconnected = false ∧ sA.resend ≤ 1000 ∧
    backlog sA.unacked ≤ availAtTurn cu 0 ∧ Room (l.subS 0) rB ∧ (∀ p ∈ flushPk cu, OnlyCh 0 p) ∧
    flushIdx l cu = [5, 6] := all.2.1.1

theorem counters : CountersOK P.down (dirDown cu l) := all.2.1.2.2.1
theorem countersA : cu.CountersOK := CI.countersOK_of_b all.2.1.2.2.2

/-- before the tick: the server flushes for the dead slot 2, client 2's application polls in vain, garbage arrives in
    client 2's name -/
def opsJ : List MOp := [.srvFlush 2, .cliRecv 2 0, .hostile 2 [7], .cliUpdate 2 5]
def mJ : MSys := (m.run opsJ).getD m
/-- the tick and the round of client 1, interleaved with a `broadcast_except(1)`, more polling by client 2 and its
    removal -/
def ops' : List MOp :=
  [.srvUpdate 1000, .broadcastExcept 1 0 [42], .srvFlush 1, .cliRecv 2 0, .deliverToCli 1 6, .deliverToCli 1 5,
   .remove 2, .srvSend 2 0 [43], .cliRecv 1 0]
def fin : MSys := (mJ.run ops').getD mJ

/-- both runs return normally, and what the kernel computes at the end: client 1 obtained all three broadcasts, each
    exactly once, in order; client 2 — stalled, disconnected, removed — obtained nothing;
    the run stays in the range of the source tie -/
theorem runs :
    ((m.run opsJ).isSome = true ∧ (mJ.run ops').isSome = true) ∧
    ((fin.links 1).map (fun l => (l.obtC 0, l.delivC, l.cl.isDisconnected)) =
        some ([[1, 2, 3, 4], [5, 6, 7, 8], [9, 10, 11, 12]], [0, 1, 6, 5], false) ∧
      (fin.links 2).map (fun l => (l.obtC 0, l.delivC)) = some ([], []) ∧
      (conn? fin.server 2).map (·.status) = none) ∧
    SrcMulti.MRunInRange P (ops ++ (opsJ ++ ops')) := by
  decide +kernel
theorem runJ : m.run opsJ = some mJ := some_getD runs.1.1 _
theorem run' : mJ.run ops' = some fin := some_getD runs.1.2 _

theorem client1_not_delayed :
    mJ.view 1 = m.view 1 ∧
    ∃ c'' l'', conn? fin.server 1 = some c'' ∧ fin.links 1 = some l'' ∧ c''.isDisconnected = false ∧
      l''.cl.isDisconnected = false ∧ l''.tainted = false ∧ l''.subS = l.subS ∧ l''.obtC 0 = l.subS 0 ∧
      ∀ x ∈ l.subS 0, 1 ≤ (l''.obtC 0).count x ∧ (l''.obtC 0).count x ≤ (addressedTo 1 0 ops).count x :=
  stalled_client_does_not_delay_others at1 c conn1 facts.1 facts.2.1 0 ordered0 sA find_sA rB find_rB 1000 facts.2.2.1
    cu upd counters countersA facts.2.2.2.1 facts.2.2.2.2.1 facts.2.2.2.2.2.1 [6, 5]
    (by rw [facts.2.2.2.2.2.2]; decide) (by rw [facts.2.2.2.2.2.2]; decide) 1
    (by rw [situation.2.2.2.1, situation.2.2.2.2.1]; decide)
    opsJ (by decide) mJ runJ ops' (by decide) fin run'

example : (fin.links 1).map (fun l => (l.obtC 0, l.delivC, l.cl.isDisconnected)) =
      some ([[1, 2, 3, 4], [5, 6, 7, 8], [9, 10, 11, 12]], [0, 1, 6, 5], false) ∧
    (fin.links 2).map (fun l => (l.obtC 0, l.delivC)) = some ([], []) ∧
    (conn? fin.server 2).map (·.status) = none := runs.2.1

theorem inRange : SrcMulti.MRunInRange P (ops ++ (opsJ ++ ops')) := runs.2.2

/-- the single-channel form (`P` has one server → client channel): H2 is `backlog ≤ 60000`, no H4 -/
theorem single0 : Single P.down 0 := ⟨_, _, rfl⟩
def opsS : List MOp :=
  [.srvFlush 2, .srvUpdate 1000, .hostile 2 [9], .srvFlush 1, .deliverToCli 1 5, .deliverToCli 1 6, .cliRecv 1 0]
def finS : MSys := (m.run opsS).getD m
theorem runsS : (m.run opsS).isSome = true ∧ SrcMulti.MRunInRange P (ops ++ opsS) := by decide +kernel
theorem runS : m.run opsS = some finS := some_getD runsS.1 _
theorem inRangeS : SrcMulti.MRunInRange P (ops ++ opsS) := runsS.2
example :
    ∃ c'' l'', conn? finS.server 1 = some c'' ∧ finS.links 1 = some l'' ∧ c''.isDisconnected = false ∧
      l''.cl.isDisconnected = false ∧ l''.tainted = false ∧ l''.subS = l.subS ∧ l''.obtC 0 = l.subS 0 ∧
      ∀ x ∈ l.subS 0, 1 ≤ (l''.obtC 0).count x ∧ (l''.obtC 0).count x ≤ (addressedTo 1 0 ops).count x :=
  broadcast_exactly_once_single at1 c conn1 facts.1 facts.2.1 0 single0 sA find_sA rB find_rB 1000 facts.2.2.1
    cu upd counters countersA (by have := facts.2.2.2.1; rw [single_avail_eq] at this; exact this) facts.2.2.2.2.1 1
    (by rw [situation.2.2.2.1, situation.2.2.2.2.1]; decide)
    opsS (by rw [facts.2.2.2.2.2.2]; decide) finS runS

/-- `addressed_is_logged` applied: one more broadcast in state `m` is accepted by client 1's channel (4 + 2 ≤ 10
    bytes) and logged for client 1; for client 2 (disconnected) `send_message` is a no-op and nothing is logged -/
def mB : MSys := (m.step (.broadcast 0 [13, 14])).getD m
def cB : Conn := okD (c.sendMessage 0 [13, 14]) c
theorem broadcastB :
    (m.step (.broadcast 0 [13, 14])).isSome = true ∧ isOkB (c.sendMessage 0 [13, 14]) = true ∧ accepted c cB 0 = true ∧
    (mB.links 2).map (fun l => l.subS 0) = (m.links 2).map (fun l => l.subS 0) ∧
    SrcMulti.MRunInRange P (ops ++ [.broadcast 0 [13, 14]]) := by
  decide +kernel
theorem stepB : m.step (.broadcast 0 [13, 14]) = some mB := some_getD broadcastB.1 _
theorem sendB : c.sendMessage 0 [13, 14] = .ok cB := ok_okD broadcastB.2.1 _
theorem accB : accepted c cB 0 = true := broadcastB.2.2.1
example : ∃ l', mB.links 1 = some l' ∧ l'.subS 0 = l.subS 0 ++ [[13, 14]] ∧ l'.obtC = l.obtC := by
  obtain ⟨c', l', h1, -, h3, h4, h5, -⟩ :=
    addressed_is_logged (reach_wf P ops m run) stepB (Or.inr (Or.inl rfl)) conn1 link
  rw [sendB] at h1
  rw [← Res.ok.inj h1, accB] at h4
  exact ⟨l', h3, h4, h5⟩
example : (mB.links 2).map (fun l => l.subS 0) = (m.links 2).map (fun l => l.subS 0) := broadcastB.2.2.2.1

theorem inRangeB : SrcMulti.MRunInRange P (ops ++ [.broadcast 0 [13, 14]]) := broadcastB.2.2.2.2

end ExStall

end RenetVerif.C11L
