/-
  HELPERS for `Props/SrcPropsConnTraceMore.lean` — the model side of

    * "a status change has a cause": which operation of an API trace (`SrcConnSystem.COp`) can change the status of a
      connection, to what, and why (`MCause`, `mtr_step_cause`, `mtr_run_cause`);
    * "a flush never changes the status", along a whole run (`mtr_flush_steps`);
    * "a call panics iff it names a channel id that is not configured, on a live connection"
      (`mtr_step_none_iff`, `hasSend_run_iff`, `hasRecv_run_iff`).

  Everything here is about the hand model `Conn` / the model trace system `MTr`; the transfer to the GENERATED `RenetClient`
  is in the Props file (through `SrcConnSystem.crun_sim` / `crun_sim_conv`).
-/
import RenetVerif.Lemmas.SrcEquiv.SrcConnSystem
import RenetVerif.Props.C06
import RenetVerif.Props.C12
import RenetVerif.Props.C13
namespace RenetVerif.SrcConnMore
open RenetVerif RenetVerif.RustSem RenetVerif.C RenetVerif.System RenetVerif.SrcEquiv RenetVerif.SrcSystem RenetVerif.SrcConnSystem
open Src.renet.remote_connection

theorem dw_fresh {c0 c : Conn} (r : Reason) (hs : c.status = c0.status) (hd : c0.isDisconnected = false) :
    (c.disconnectWith r).status = .disconnected r :=
  CI.dw_status_live ((isDisconnected_congr hs).trans hd) r

/-- **why an operation can disconnect a live connection `c`, and with which reason** (model side) -/
inductive MCause (c : Conn) : COp → Reason → Prop
  /-- `process_packet`: the datagram does not decode -/
  | deser {b : Bytes} {e : SerErr} : Packet.fromBytes b = .error e → MCause c (.process b) (.packetDeser e)
  /-- `process_packet`: a data packet for a channel id that is not in the receive table of its kind -/
  | invalidChannel {b : Bytes} {p : Packet} {ch : Nat} : Packet.fromBytes b = .ok p → SL.Packet.dataChannel p = some ch →
      (SMap.find? c.recvRel ch = none ∨ SMap.find? c.recvUnrel ch = none) → MCause c (.process b) (.invalidChannel ch)
  /-- `process_packet`: the receive channel `ch` (which exists) rejected the packet's content -/
  | recvChan {b : Bytes} {p : Packet} {ch : Nat} (e : ChanErr) : Packet.fromBytes b = .ok p →
      SL.Packet.dataChannel p = some ch → c.hasRecv ch → MCause c (.process b) (.recvChan ch e)
  /-- `send_message`: the reliable channel's memory budget would be exceeded -/
  | sendChan {ch : Nat} {m : Bytes} {s : SendRel} : SMap.find? c.sendRel ch = some s → s.mem + m.length > s.maxMem →
      MCause c (.send ch m) (.sendChan ch .maxMemory)
  | byClient : MCause c .disconnect .byClient
  | transport : MCause c .disconnectTransport .transport

theorem processPacket_cause {c c' : Conn} {b : Bytes} (hd : c.isDisconnected = false) (h : c.processPacket b = .ok c') :
    c'.status = c.status ∨ ∃ r, c'.status = .disconnected r ∧ MCause c (.process b) r := by
  cases hp : Packet.fromBytes b with
  | error e =>
    rw [Conn.processPacket_garbage hp] at h; cases h
    exact Or.inr ⟨_, dw_fresh _ rfl hd, .deser hp⟩
  | ok p =>
    -- a data packet: its table lacks the channel, or the channel takes the content, or it refuses it
    have hfeed : ∀ {α : Type} {tbl : SMap α} {put : SMap α → Conn} {c1 : Conn} {ch : Nat} {f : α → Res (ChanErr × α) α},
        Conn.feed tbl put c1 ch f = .ok c' → c1.status = c.status → (∀ m, (put m).status = c.status) →
        (SMap.find? tbl ch = none → SMap.find? c.recvRel ch = none ∨ SMap.find? c.recvUnrel ch = none) →
        (SMap.find? tbl ch ≠ none → c.hasRecv ch) → SL.Packet.dataChannel p = some ch →
        c'.status = c.status ∨ ∃ r, c'.status = .disconnected r ∧ MCause c (.process b) r := by
      intro α tbl put c1 ch f h1 hs1 hs hn hy hch
      rcases Conn.feed_cases h1 with ⟨hf, rfl⟩ | ⟨r, r', hf, ⟨-, rfl⟩ | ⟨e, -, rfl⟩⟩
      · exact Or.inr ⟨_, dw_fresh _ hs1 hd, .invalidChannel hp hch (hn hf)⟩
      · exact Or.inl (hs _)
      · exact Or.inr ⟨_, dw_fresh _ (hs _) hd, .recvChan _ hp hch (hy (by rw [hf]; simp))⟩
    have h0 := h
    rw [Conn.processPacket_live hd hp] at h
    cases p <;> dsimp only [Conn.dispatch] at h
    case ack => exact Or.inl (SL.Conn.processPacket_ack_frame hp h0).2.2.1
    case smallReliable | reliableSlice => exact hfeed h rfl (fun _ => rfl) Or.inl Or.inl rfl
    case smallUnreliable | unreliableSlice => exact hfeed h rfl (fun _ => rfl) Or.inr Or.inr rfl

theorem sendMessage_cause {c c' : Conn} {ch : Nat} {m : Bytes} (hd : c.isDisconnected = false)
    (h : c.sendMessage ch m = .ok c') :
    c'.status = c.status ∨ ∃ r, c'.status = .disconnected r ∧ MCause c (.send ch m) r := by
  rcases Conn.sendMessage_outcomes h with ⟨hd', -⟩ | ⟨-, s, hs, ⟨s', -, rfl⟩ | ⟨e, he, rfl⟩⟩ | ⟨-, -, sU, -, rfl⟩
  · rw [hd] at hd'; cases hd'
  · exact Or.inl rfl
  · obtain ⟨rfl, hmem⟩ := CI.sendRel_refusal he
    exact Or.inr ⟨_, dw_fresh _ rfl hd, .sendChan hs hmem⟩
  · exact Or.inl rfl

theorem mtr_step_cause {t t' : MTr} {op : COp} (hg : EpGood t.c) (hr : ConnInRange t.c) (h : t.step op = some t') :
    t'.c.status = t.c.status ∨
    (t.c.isDisconnected = false ∧
      ((op = .setConnected ∧ t'.c.status = .connected) ∨ (op = .setConnecting ∧ t'.c.status = .connecting) ∨
        ∃ r, t'.c.status = .disconnected r ∧ MCause t.c op r)) := by
  cases hd : t.c.isDisconnected with
  | true =>
    obtain ⟨r, hst⟩ := (SL.Conn.isDisconnected_iff _).mp hd
    left
    rw [C12.status_first_reason t.c t'.c op.toConnOp r (mtr_step_conn h) hst, hst]
  | false =>
    cases MTr.Step.of h with
    | send hm =>
      rcases sendMessage_cause hd hm with e | e
      · exact Or.inl e
      · exact Or.inr ⟨rfl, Or.inr (Or.inr e)⟩
    | recv hm => exact Or.inl (SL.Conn.receiveMessage_frame hm).2.2.2.1
    | update hm => exact Or.inl ((Conn.update_frame hm).status)
    | flush hm => exact Or.inl (flush_inRange hg hr hm).1
    | process hm =>
      rcases processPacket_cause hd hm with e | e
      · exact Or.inl e
      · exact Or.inr ⟨rfl, Or.inr (Or.inr e)⟩
    | setConnected =>
      refine Or.inr ⟨rfl, Or.inl ⟨rfl, ?_⟩⟩
      show (t.c.setConnected).status = _
      unfold Conn.setConnected; rw [hd]; rfl
    | setConnecting =>
      refine Or.inr ⟨rfl, Or.inr (Or.inl ⟨rfl, ?_⟩)⟩
      show (t.c.setConnecting).status = _
      unfold Conn.setConnecting; rw [hd]; rfl
    | disconnect => exact Or.inr ⟨rfl, Or.inr (Or.inr ⟨_, dw_fresh _ rfl hd, .byClient⟩)⟩
    | disconnectTransport => exact Or.inr ⟨rfl, Or.inr (Or.inr ⟨_, dw_fresh _ rfl hd, .transport⟩)⟩

/-- conversely, for the four causes that do not depend on the content of a channel: the cause is sufficient -/
theorem mtr_step_cause_conv {t t' : MTr} {op : COp} (hd : t.c.isDisconnected = false) (h : t.step op = some t') :
    (op = .disconnect → t'.c.status = .disconnected .byClient) ∧
    (op = .disconnectTransport → t'.c.status = .disconnected .transport) ∧
    (∀ b e, op = .process b → Packet.fromBytes b = .error e → t'.c.status = .disconnected (.packetDeser e)) ∧
    (∀ ch m s, op = .send ch m → SMap.find? t.c.sendRel ch = some s → s.mem + m.length > s.maxMem →
      t'.c.status = .disconnected (.sendChan ch .maxMemory)) := by
  refine ⟨?_, ?_, ?_, ?_⟩
  · rintro rfl; cases h; exact dw_fresh _ rfl hd
  · rintro rfl; cases h; exact dw_fresh _ rfl hd
  · rintro b e rfl hp
    simp only [MTr.step, Conn.processPacket_garbage hp] at h
    cases h; exact dw_fresh _ rfl hd
  · rintro ch m s rfl hf hmem
    have e : t.c.sendMessage ch m = .ok (t.c.disconnectWith (.sendChan ch .maxMemory)) := by
      unfold Conn.sendMessage
      rw [hd]
      simp only [Bool.false_eq_true, if_false, hf]
      unfold SendRel.sendMessage
      rw [if_pos hmem]
    simp only [MTr.step, e] at h
    cases h; exact dw_fresh _ rfl hd

theorem mtr_run_keeps (r : Reason) (ext : List COp) (t t' : MTr) (h : t.c.status = .disconnected r)
    (hr : t.run ext = some t') : t'.c.status = .disconnected r :=
  MTr.run_induction (I := fun t _ => t.c.status = .disconnected r)
    (fun t op _ t1 h hs => C12.status_first_reason t.c t1.c op.toConnOp r (mtr_step_conn hs) h) ext t t' h hr

theorem mtr_run_cause (r : Reason) : ∀ (ops : List COp) (t0 t : MTr), EpGood t0.c → CRunInRangeFrom t0 ops →
    t0.c.isDisconnected = false → t0.run ops = some t → t.c.status = .disconnected r →
    ∃ pre op post t1 t2, ops = pre ++ op :: post ∧ t0.run pre = some t1 ∧ t1.step op = some t2 ∧
      t1.c.isDisconnected = false ∧ t2.c.status = .disconnected r ∧ MCause t1.c op r
  | [], t0, t, _, _, hd, hr, hst => by cases hr; exact absurd hst (CI.status_live_ne hd r)
  | op :: ops, t0, t, hg, hrg, hd, hr, hst => by
    obtain ⟨t1, hs, hr⟩ := MTr.run_cons hr
    obtain ⟨hrange, -, hrest⟩ := crunInRangeFrom_cons hrg hs
    cases hd1 : t1.c.isDisconnected with
    | true =>
      -- the first step disconnects: the reason it gives is the final one
      obtain ⟨r1, hst1⟩ := (SL.Conn.isDisconnected_iff _).mp hd1
      have hfin := mtr_run_keeps r1 ops t1 t hst1 hr
      rw [hst] at hfin
      cases hfin
      rcases mtr_step_cause hg hrange hs with e | ⟨-, ⟨-, e⟩ | ⟨-, e⟩ | ⟨r', e1, e2⟩⟩
      · rw [e] at hst1; exact absurd hst1 (CI.status_live_ne hd r)
      · rw [e] at hst1; cases hst1
      · rw [e] at hst1; cases hst1
      · rw [e1] at hst1; cases hst1
        exact ⟨[], op, ops, t0, t1, rfl, rfl, hs, hd, e1, e2⟩
    | false =>
      obtain ⟨pre, op', post, t1', t2', e, h1, h2, h3, h4, h5⟩ :=
        mtr_run_cause r ops t1 t (epGood_step hg hs) hrest hd1 hr hst
      refine ⟨op :: pre, op', post, t1', t2', by rw [e]; rfl, ?_, h2, h3, h4, h5⟩
      simp only [MTr.run, hs]; exact h1

theorem mtr_flush_steps (pre post : List COp) (t0 t : MTr) (hg : EpGood t0.c)
    (hrg : CRunInRangeFrom t0 (pre ++ .flush :: post)) (hr : t0.run (pre ++ .flush :: post) = some t) :
    ∃ t1 t2 bs, t0.run pre = some t1 ∧ t1.step .flush = some t2 ∧ t2.c.status = t1.c.status ∧
      t2.flushes = t1.flushes ++ [bs] ∧ (∀ b ∈ bs, b.length ≤ NETCODE_MAX_PAYLOAD_BYTES) ∧ t2.run post = some t := by
  rw [MTr.run_append] at hr
  cases h1 : t0.run pre with
  | none => rw [h1] at hr; cases hr
  | some t1 =>
    rw [h1] at hr
    obtain ⟨t2, hs, hr⟩ := MTr.run_cons hr
    cases MTr.Step.of hs with
    | @flush _ bs hm =>
      obtain ⟨hst, hfit⟩ := flush_inRange (epGood_run pre t0 t1 hg h1) (crunInRangeFrom_suffix pre h1 hrg).1 hm
      exact ⟨t1, _, bs, rfl, hs, hst, rfl, hfit, hr⟩

theorem cfg_id_of_find {α : Type} (val : ChanCfg → α) (p : ChanCfg → Bool) (cfgs : List ChanCfg) (k : Nat)
    (h : SMap.find? ((cfgs.filter p).foldl (fun m c => SMap.insert m c.id (val c)) []) k ≠ none) :
    k ∈ cfgs.map (·.id) := by
  cases hv : SMap.find? ((cfgs.filter p).foldl (fun m c => SMap.insert m c.id (val c)) []) k with
  | none => exact absurd hv h
  | some v =>
    rcases SMap.mem_foldl_insert (fun c : ChanCfg => c.id) val _ (SMap.mem_of_find? hv) with h0 | ⟨c, hc, e⟩
    · cases h0
    · exact List.mem_map.mpr ⟨c, (List.mem_filter.mp hc).1, (Prod.mk.inj e).1.symm⟩

theorem fromChannels_hasSend_iff (budget : Nat) (send recv : List ChanCfg) (ch : Nat) :
    (Conn.fromChannels budget send recv).hasSend ch ↔ ch ∈ send.map (·.id) :=
  ⟨fun h => h.elim (cfg_id_of_find _ _ send ch) (cfg_id_of_find _ _ send ch), CI.fromChannels_hasSend budget send recv ch⟩

theorem fromChannels_hasRecv_iff (budget : Nat) (send recv : List ChanCfg) (ch : Nat) :
    (Conn.fromChannels budget send recv).hasRecv ch ↔ ch ∈ recv.map (·.id) :=
  ⟨fun h => h.elim (cfg_id_of_find _ _ recv ch) (cfg_id_of_find _ _ recv ch), CI.fromChannels_hasRecv budget send recv ch⟩

theorem hasSend_run_iff (cfg : Cfg) (ops : List COp) (t : MTr) (h : (MTr.init cfg).run ops = some t) (ch : Nat) :
    t.c.hasSend ch ↔ ch ∈ cfg.send.map (·.id) :=
  ((mtr_run_same ops (MTr.init cfg) t (CI.fromChannels_invP ..) h).2.hasSend ch).trans (fromChannels_hasSend_iff _ _ _ ch)

theorem hasRecv_run_iff (cfg : Cfg) (ops : List COp) (t : MTr) (h : (MTr.init cfg).run ops = some t) (ch : Nat) :
    t.c.hasRecv ch ↔ ch ∈ cfg.recv.map (·.id) :=
  ((mtr_run_same ops (MTr.init cfg) t (CI.fromChannels_invP ..) h).2.hasRecv ch).trans (fromChannels_hasRecv_iff _ _ _ ch)

theorem mtr_step_none_iff {t : MTr} (hg : EpGood t.c) (hr : ConnInRange t.c) (op : COp) :
    t.step op = none ↔ (t.c.isDisconnected = false ∧ ¬ CI.ChanValid t.c op.toConnOp) := by
  have hi : t.c.Inv := CI.sinv_inv hg.sinv
  cases op with
  | send ch m =>
    show _ ↔ (t.c.isDisconnected = false ∧ ¬ t.c.hasSend ch)
    rw [← C06.sendMessage_panics_only_on_invalid_channel t.c hi ch m]
    simp only [MTr.step]
    cases hm : t.c.sendMessage ch m with
    | ok c' => simp
    | err e => exact nomatch e
    | panic s => simp
  | recv ch =>
    show _ ↔ (t.c.isDisconnected = false ∧ ¬ t.c.hasRecv ch)
    rw [← C06.receiveMessage_panics_only_on_invalid_channel t.c hi ch]
    simp only [MTr.step]
    cases hm : t.c.receiveMessage ch with
    | ok x => simp
    | err e => exact nomatch e
    | panic s => simp
  | update dt =>
    obtain ⟨c1, e1, -⟩ := C06.update_total t.c hi dt
    simp [MTr.step, e1, CI.ChanValid, COp.toConnOp]
  | flush =>
    obtain ⟨c1, o, e1, -⟩ := C06.getPacketsToSend_total t.c hi (countersOK_of_inRange hr)
    simp [MTr.step, e1, CI.ChanValid, COp.toConnOp]
  | process b =>
    obtain ⟨c1, e1, -⟩ := C06.processPacket_total t.c hi b
    simp [MTr.step, e1, CI.ChanValid, COp.toConnOp]
  | setConnected => simp [MTr.step, CI.ChanValid, COp.toConnOp]
  | setConnecting => simp [MTr.step, CI.ChanValid, COp.toConnOp]
  | disconnect => simp [MTr.step, CI.ChanValid, COp.toConnOp]
  | disconnectTransport => simp [MTr.step, CI.ChanValid, COp.toConnOp]

end RenetVerif.SrcConnMore
