/-
  C. slice constructor.
  (split of the source-tie helper lemmas so that an edit of one Rust function only breaks the properties that
  depend on that function; the ties themselves are in `Props/SrcTieSlice.lean`)
-/
import RenetVerif.Generated.Src.Slice
import RenetVerif.Lemmas.SrcEquiv.Prims
import RenetVerif.Lemmas.SrcEquiv.CommonRepr
namespace RenetVerif.SrcEquiv
open RenetVerif RenetVerif.RustSem

section C
open Src.renet.channel.slice_constructor

def reprSC (mid : Nat) (c : SliceCtor) : SliceConstructor := ⟨mid, c.numSlices, c.numReceived, c.received, toNats c.data⟩

theorem toNats_resize (d : Bytes) (n : Nat) : toNats (resize d n) = RustSem.resize (toNats d) n 0 := by
  simp [toNats, resize, RustSem.resize]

/-- `sliced_data[start..end].copy_from_slice(bytes)` against the model's `setRange` -/
theorem copy_setRange {ε ε' ρ β : Type} (f : β → ρ) (g : ε' → ε) (dd bytes : Bytes) (a : Nat) (st st' : String)
    (k : List Nat → Exec ε ρ ρ) (k' : Bytes → Res ε' β) (hk : ∀ x, SameOutcome (k (toNats x)).run (mapRes f g (k' x))) :
    SameOutcome ((RustSem.copy_from_slice (toNats dd) a (a + bytes.length) (toNats bytes) st).bind k).run
      (mapRes f g (setRange dd a bytes st' >>= k')) := by
  unfold RustSem.copy_from_slice setRange
  simp only [toNats_length]
  by_cases hle : a + bytes.length ≤ dd.length
  · rw [if_pos (by omega), if_pos hle]
    have e : List.take a (toNats dd) ++ toNats bytes ++ List.drop (a + bytes.length) (toNats dd)
        = toNats (List.take a dd ++ bytes ++ List.drop (a + bytes.length) dd) := by
      simp only [toNats, List.map_append, List.map_take, List.map_drop]
    rw [e]
    exact hk _
  · rw [if_neg (by omega), if_neg hle]
    trivial

/-- abstraction: generated `SliceConstructor` ↦ model `SliceCtor` (the model does not store `message_id`) -/
def absSC (st : SliceConstructor) : SliceCtor :=
  ⟨st.num_slices, st.num_received_slices, st.received, ofNats st.sliced_data⟩

/-- well-formed source state: data bytes are bytes, `num_slices * SLICE_SIZE` and the receive counter fit `usize` -/
def WfSC (st : SliceConstructor) : Prop :=
  BytesOk st.sliced_data ∧ st.num_slices * C.SLICE_SIZE < 2 ^ 64 ∧ st.num_received_slices + 1 < 2 ^ 64
instance (st : SliceConstructor) : Decidable (WfSC st) := by unfold WfSC; infer_instance

theorem reprSC_absSC (st : SliceConstructor) (h : BytesOk st.sliced_data) : reprSC st.message_id (absSC st) = st := by
  cases st; simp only [reprSC, absSC] at h ⊢; rw [toNats_ofNats h]
theorem absSC_reprSC (mid : Nat) (c : SliceCtor) : absSC (reprSC mid c) = c := by
  cases c; simp [absSC, reprSC, ofNats_toNats]
end C

end RenetVerif.SrcEquiv
