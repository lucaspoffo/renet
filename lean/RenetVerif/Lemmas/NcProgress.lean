/-
  Netcode handshake progress (the step lemmas of property C18) under `AEAD.Laws`:
  request ⇒ challenge + half-open session ⇒ (client) SendingConnectionResponse ⇒ response ⇒ ClientConnected + keep-alive
  ⇒ (client) Connected.
-/
import RenetVerif.Lemmas.NcHandshake
import RenetVerif.Lemmas.NcTimeout
import RenetVerif.Lemmas.NcWire
import RenetVerif.Lemmas.NcAead
namespace RenetVerif.NcLive2
open RenetVerif RenetVerif.Netcode RenetVerif.Netcode.NS

/-! ## what a request needs of the token-entry table and of the pending map -/

/-- the token-to-address binding lets `addr` use the token with this MAC: every recorded entry with the MAC carries
    `addr` -/
def Bound (s : NetcodeServer) (addr : Addr) (mac : Bytes) : Prop :=
  ∀ e, some e ∈ s.connectTokenEntries → e.mac = mac → e.address = addr

theorem bound_binding {s : NetcodeServer} {addr : Addr} {mac : Bytes} (h : Bound s addr mac) (tm : Nat) :
    (s.findOrAddConnectTokenEntry ⟨tm, addr, mac⟩).2 = true := by
  rcases findOrAdd_spec s ⟨tm, addr, mac⟩ with ⟨e, he, hm, heq⟩ | ⟨_, k, heq⟩
  · rw [heq]
    have := h e he hm
    simp only [this, decide_true]
  · rw [heq]

theorem bound_of_binding {s : NetcodeServer} {addr : Addr} {mac : Bytes} (hok : EntriesOK s.connectTokenEntries)
    (tm : Nat) (h : (s.findOrAddConnectTokenEntry ⟨tm, addr, mac⟩).2 = true) : Bound s addr mac := by
  intro e he hm
  apply Classical.byContradiction
  intro hne
  rw [findOrAdd_other_addr hok (ne := ⟨tm, addr, mac⟩) he hm hne] at h
  cases h

theorem bound_entryStep {s s1 : NetcodeServer} {addr : Addr} {mac : Bytes} {tm : Nat} (h : Bound s addr mac)
    (hs : EntryStep s s1 ⟨tm, addr, mac⟩) : Bound s1 addr mac := by
  rcases hs with rfl | ⟨_, k, rfl⟩
  · exact h
  · intro e he hm
    rcases List.mem_or_eq_of_mem_set he with h1 | h1
    · exact h e h1 hm
    · cases h1; rfl

/-- the configuration of a server (what no operation of this file changes) -/
structure SameCfg (s0 s : NetcodeServer) : Prop where
  connectKey : s.connectKey = s0.connectKey
  protocolId : s.protocolId = s0.protocolId
  challengeKey : s.challengeKey = s0.challengeKey
  secure : s.secure = s0.secure
  publicAddresses : s.publicAddresses = s0.publicAddresses
  maxClients : s.maxClients = s0.maxClients

theorem SameCfg.refl (s : NetcodeServer) : SameCfg s s := ⟨rfl, rfl, rfl, rfl, rfl, rfl⟩
theorem SameCfg.trans {s0 s1 s2 : NetcodeServer} (h1 : SameCfg s0 s1) (h2 : SameCfg s1 s2) : SameCfg s0 s2 :=
  ⟨h2.1.trans h1.1, h2.2.trans h1.2, h2.3.trans h1.3, h2.4.trans h1.4, h2.5.trans h1.5, h2.6.trans h1.6⟩

theorem SameCfg.frame {s0 s : NetcodeServer} (h : SameCfg s0 s) (cl : Slots) (m : Pending) (tm : Nat) :
    SameCfg s0 { s with clients := cl, pendingClients := m, currentTime := tm } :=
  ⟨h.1, h.2, h.3, h.4, h.5, h.6⟩

theorem pendingRemove_of_none {m : Pending} {ad : Addr} (h : pendingFind m ad = none) : pendingRemove m ad = m := by
  unfold pendingRemove
  rw [List.filter_eq_self]
  intro p hp
  simp only [decide_eq_true_eq]
  exact pendingFind_none.mp h p hp


/-- the room condition of `handle_connection_request`, from "fewer than the maximum *other* half-open sessions" -/
theorem room_of_others {m : Pending} {ad : Addr} (h : (pendingRemove m ad).length < C.NETCODE_MAX_PENDING_CLIENTS) :
    (pendingFind m ad).isSome ∨ m.length < C.NETCODE_MAX_PENDING_CLIENTS := by
  cases hp : pendingFind m ad with
  | some p => left; rfl
  | none => right; rw [pendingRemove_of_none hp] at h; exact h

end RenetVerif.NcLive2

namespace RenetVerif.Netcode
namespace NS
open RenetVerif RenetVerif.NcAead.Token RenetVerif.NcLive2

/-! ## the datagrams of an honest handshake -/

/-- the private token `t` sealed under the server's connect key (what `ConnectToken::generate` puts in `private_data`) -/
def sealedPriv (a : AEAD) (s : NetcodeServer) (t : PrivateConnectToken) (expire : Nat) (xnonce : Bytes) : Bytes :=
  a.xseal s.connectKey xnonce (PrivateConnectToken.additionalData s.protocolId expire) (ptPlain t)

def requestPacket (a : AEAD) (s : NetcodeServer) (t : PrivateConnectToken) (expire : Nat) (xnonce : Bytes) : Packet :=
  .connectionRequest C.NETCODE_VERSION_INFO s.protocolId expire xnonce (sealedPriv a s t expire xnonce)

def requestBytes (a : AEAD) (s : NetcodeServer) (t : PrivateConnectToken) (expire : Nat) (xnonce : Bytes) : Bytes :=
  0 :: (requestPacket a s t expire xnonce).body

def challengeToken (a : AEAD) (s : NetcodeServer) (id : Nat) (ud : Bytes) (cs : Nat) : Bytes :=
  a.seal s.challengeKey (Packet.nonce cs) [] (chPlain id ud)

def challengeBytes (a : AEAD) (s : NetcodeServer) (t : PrivateConnectToken) : Bytes :=
  Packet.sealedBytes a (.challenge (s.challengeSequence + 1)
      (challengeToken a s t.clientId t.userData (s.challengeSequence + 1)))
    s.protocolId s.globalSequence t.serverToClientKey

theorem sealedPriv_length (a : AEAD) (hl : a.Laws) (s : NetcodeServer) {t : PrivateConnectToken} (hwf : PTokenWF t)
    (expire : Nat) (xnonce : Bytes) : (sealedPriv a s t expire xnonce).length = 1024 := by
  unfold sealedPriv; rw [hl.xseal_length, ptPlain_length hwf]

theorem chPlain_length {id : Nat} {ud : Bytes} (hud : ud.length = 256) : (chPlain id ud).length = 284 := by
  unfold chPlain
  simp only [List.length_append, List.length_replicate, hud]
  have : (leBytes id 8).length = 8 := RenetVerif.Netcode.leBytes_length id 8
  omega

theorem challengeToken_length (a : AEAD) (hl : a.Laws) (s : NetcodeServer) (id : Nat) {ud : Bytes}
    (hud : ud.length = 256) (cs : Nat) : (challengeToken a s id ud cs).length = 300 := by
  unfold challengeToken; rw [hl.seal_length, chPlain_length hud]

theorem requestPacket_wf (a : AEAD) (hl : a.Laws) (s : NetcodeServer) {t : PrivateConnectToken} (hwf : PTokenWF t)
    {expire : Nat} {xnonce : Bytes} (hxn : xnonce.length = 24) (hexp : expire < 2 ^ 64) (hpid : s.protocolId < 2 ^ 64) :
    (requestPacket a s t expire xnonce).WF :=
  ⟨rfl, hpid, hexp, hxn, sealedPriv_length a hl s hwf expire xnonce⟩

theorem sealedPriv_opens (a : AEAD) (hl : a.Laws) (s : NetcodeServer) {t : PrivateConnectToken} (hwf : PTokenWF t)
    (expire : Nat) (xnonce : Bytes) : TokenOpens a s expire xnonce (sealedPriv a s t expire xnonce) t := by
  refine ⟨ptPlain t, hl.xopen_xseal _ _ _ _, ?_⟩
  unfold ptPlain
  rw [List.append_assoc]
  exact pt_read_bytes hwf _

theorem challenge_encode (a : AEAD) (hl : a.Laws) (s : NetcodeServer) {t : PrivateConnectToken}
    (hud : t.userData.length = 256) :
    (Packet.challenge (s.challengeSequence + 1) (a.seal s.challengeKey (Packet.nonce (s.challengeSequence + 1)) []
        (chPlain t.clientId t.userData))).encode a C.NETCODE_MAX_PACKET_BYTES s.protocolId
      (some (s.globalSequence, t.serverToClientKey)) = .ok (challengeBytes a s t) :=
  Packet.encode_sealed_fits a _ _ _ _ _ (by simp [Packet.packetType]) (by
    have := challengeToken_length a hl s t.clientId hud (s.challengeSequence + 1)
    unfold challengeToken at this
    simp only [Packet.body, List.length_append, leBytes_length, this]
    decide)

/-! ## server, step 1 — a valid request is answered with a challenge -/

/-- **request ⇒ challenge, again and again**: a request carrying a well-formed token `t` sealed under the server's key
    is answered with a challenge whether or not the source address already has a half-open session (a retransmitted
    or duplicated request) and whether or not the token is already bound to this address.  The half-open session is
    (re)created from the token, stamped with the current time. -/
theorem request_challenged (a : AEAD) (hl : a.Laws) {s : NetcodeServer} {addr : Addr} {t : PrivateConnectToken}
    {expire : Nat} {xnonce : Bytes} (hi : ServerInv s) (hg : s.globalSequence < U64_MAX)
    (hc : s.challengeSequence < U64_MAX) (hwf : PTokenWF t) (hxn : xnonce.length = 24) (hexp : expire < 2 ^ 64)
    (hpid : s.protocolId < 2 ^ 64) (hnow : asSecs s.currentTime < expire)
    (hhost : s.secure = true → ∃ x, some x ∈ t.serverAddresses ∧ x ∈ s.publicAddresses)
    (hfa : findClientByAddr s.clients addr = none) (hfi : findClientById s.clients t.clientId = none)
    (hroom : (pendingRemove s.pendingClients addr).length < C.NETCODE_MAX_PENDING_CLIENTS)
    (hbound : Bound s addr (tokenMac (sealedPriv a s t expire xnonce)))
    (hlt : countConnected s.clients < s.maxClients) :
    ∃ s', s.processPacket a addr (requestBytes a s t expire xnonce) = .ok (.packetToSend addr (challengeBytes a s t), s') ∧
      pendingFind s'.pendingClients addr = some (mkPending s.currentTime addr expire t) ∧
      pendingRemove s'.pendingClients addr = pendingRemove s.pendingClients addr ∧
      s'.clients = s.clients ∧ s'.challengeSequence = s.challengeSequence + 1 ∧
      s'.globalSequence = s.globalSequence + 1 ∧ SameCfg s s' ∧ s'.currentTime = s.currentTime ∧
      Bound s' addr (tokenMac (sealedPriv a s t expire xnonce)) ∧ ServerInv s' := by
  have hdec : (Packet.decode a (requestBytes a s t expire xnonce) s.protocolId none none).1 =
      .ok (0, .connectionRequest C.NETCODE_VERSION_INFO s.protocolId expire xnonce (sealedPriv a s t expire xnonce)) := by
    rw [show requestBytes a s t expire xnonce = 0 :: (requestPacket a s t expire xnonce).body from rfl,
      Packet.decode_request_bytes a rfl (requestPacket_wf a hl s hwf hxn hexp hpid)]
    rfl
  -- the request is `handle_connection_request`'s business, in a state that differs from `s` at most in the half-open
  -- session of `addr`
  have hppi := ppi_request hfa hdec
  obtain ⟨m, hm, hrm, hrem⟩ : ∃ m : Pending, met s addr = { s with pendingClients := m } ∧
      ((pendingFind m addr).isSome ∨ m.length < C.NETCODE_MAX_PENDING_CLIENTS) ∧
      pendingRemove m addr = pendingRemove s.pendingClients addr := by
    unfold met
    split
    · exact ⟨_, rfl, Or.inl (by simp only [pendingFind_set, if_true, Option.isSome_some]), pendingRemove_pendingSet _ _ _⟩
    · exact ⟨_, rfl, room_of_others hroom, rfl⟩
  rw [hm] at hppi
  have hpp : ∀ {r s'}, NetcodeServer.handleConnectionRequest a { s with pendingClients := m } addr C.NETCODE_VERSION_INFO
      s.protocolId expire xnonce (sealedPriv a s t expire xnonce) = .ok (r, s') →
      s.processPacket a addr (requestBytes a s t expire xnonce) = .ok (r, s') := fun h => by
    unfold NetcodeServer.processPacket
    rw [hppi, h]
  have hcr := hcr_spec a { s with pendingClients := m } addr C.NETCODE_VERSION_INFO s.protocolId expire xnonce
    (sealedPriv a s t expire xnonce) (by rw [sealedPriv_length a hl s hwf]; decide)
  generalize NetcodeServer.handleConnectionRequest a { s with pendingClients := m } addr C.NETCODE_VERSION_INFO
    s.protocolId expire xnonce (sealedPriv a s t expire xnonce) = R at hcr hpp
  rcases hcr with hcr | ⟨-, hn⟩
  case inr => exact absurd ⟨hg, hc⟩ hn
  have hbx : Bound { s with pendingClients := m } addr (tokenMac (sealedPriv a s t expire xnonce)) := hbound
  have hacc : Accepted a { s with pendingClients := m } addr C.NETCODE_VERSION_INFO s.protocolId expire xnonce
      (sealedPriv a s t expire xnonce) t :=
    ⟨rfl, rfl, hnow, sealedPriv_opens a hl s hwf expire xnonce, hhost, hfa, hfi, hrm, bound_binding hbx _⟩
  have hgen := ch_generate_eq a t.clientId t.userData hwf.userData (s.challengeSequence + 1) s.challengeKey
  have hen := challenge_encode a hl s hwf.userData
  cases hcr with
  | err e hno => exact absurd hacc (hno t)
  | none hno => exact absurd hacc (hno t)
  | deniedErr t' s1 e _ _ hfull => exact absurd hlt (Nat.not_lt.mpr hfull)
  | denied t' s1 out _ _ hfull => exact absurd hlt (Nat.not_lt.mpr hfull)
  | challengeErr t' s1 e hacc' hstep _ hcause =>
    cases tokenOpens_unique hacc'.opens hacc.opens
    rcases hcause with h | ⟨pkt, h1, h2⟩
    · cases hgen.symm.trans h
    · cases hgen.symm.trans h1
      cases hen.symm.trans h2
  | challenge t' s1 pkt out hacc' hstep _ hgen' hen' =>
    cases tokenOpens_unique hacc'.opens hacc.opens
    cases hgen.symm.trans hgen'
    cases hen.symm.trans hen'
    have hb1 : Bound s1 addr (tokenMac (sealedPriv a s t expire xnonce)) := bound_entryStep hbx hstep
    obtain ⟨es, rfl⟩ := hstep.writes
    refine ⟨_, hpp rfl, ?_, ?_, rfl, rfl, rfl, ⟨rfl, rfl, rfl, rfl, rfl, rfl⟩, rfl, hb1, ppOut_inv hi (pp_ok hi (hpp rfl))⟩
    · simp only [pendingFind_set, if_true]
    · show pendingRemove (pendingSet m addr _) addr = _
      rw [pendingRemove_pendingSet, hrem]

/-! ## client, step 2 — the challenge moves it to `SendingConnectionResponse` -/

/-- **Progress, challenge ⇒ SendingConnectionResponse.**  A client in `SendingConnectionRequest` whose token carries
    the server-to-client key sealed in `t` and the server's protocol id stores the challenge and changes state. -/
theorem progress_challenge (a : AEAD) (hl : a.Laws) {c : NetcodeClient} {s : NetcodeServer} {t : PrivateConnectToken}
    (hst : c.state = .sendingConnectionRequest) (hkey : c.connectToken.serverToClientKey = t.serverToClientKey)
    (hpid : c.connectToken.protocolId = s.protocolId) (hg : s.globalSequence < 2 ^ 64)
    (hcs : s.challengeSequence + 1 < 2 ^ 64) (hud : t.userData.length = 256) :
    c.processPacket a (challengeBytes a s t) =
      .ok (none, { c with challengeTokenSequence := s.challengeSequence + 1, lastPacketReceivedTime := c.currentTime
                          lastPacketSendTime := none
                          challengeTokenData := challengeToken a s t.clientId t.userData (s.challengeSequence + 1)
                          state := .sendingConnectionResponse }) := by
  have hdec := Packet.decode_sealedBytes a
    (.challenge (s.challengeSequence + 1) (challengeToken a s t.clientId t.userData (s.challengeSequence + 1)))
    s.protocolId s.globalSequence t.serverToClientKey hl hg (by simp [Packet.packetType])
    ⟨hcs, challengeToken_length a hl s t.clientId hud _⟩ (some c.replayProtection) rfl
  unfold NetcodeClient.processPacket
  rw [hkey, hpid]
  unfold challengeBytes
  rw [hdec]
  simp only [Packet.stepWindow, Packet.packetType, PacketType.applyReplayProtection, Option.map_some,
    Bool.false_eq_true, if_false, Option.getD_some, hst]

/-- **`generate_packet` with the send-rate gate open** (nothing sent yet, or the last packet at least `send_rate` old): the
    packet of the client's state goes out, sealed with the current counter, which then moves on -/
theorem generatePacket_sends (a : AEAD) {c : NetcodeClient} {p : Packet} {out : Bytes}
    (hgate : ∀ tm, c.lastPacketSendTime = some tm → tm ≤ c.currentTime ∧ c.sendRate ≤ c.currentTime - tm)
    (hp : NcAead.Cl.genPacket c = some p)
    (hen : p.encode a C.NETCODE_MAX_PACKET_BYTES c.connectToken.protocolId
      (some (c.sequence, c.connectToken.clientToServerKey)) = .ok out) (hseq : c.sequence < U64_MAX) :
    c.generatePacket a = .ok (some (out, c.serverAddr),
      { c with lastPacketSendTime := some c.currentTime, sequence := c.sequence + 1 }) := by
  unfold NetcodeClient.generatePacket
  unfold NcAead.Cl.genPacket at hp
  cases hls : c.lastPacketSendTime with
  | none =>
    cases hst : c.state <;> rw [hst] at hp <;> cases hp <;>
      simp only [bind_ok', pure_eq', Bool.false_eq_true, if_false, if_true, hen, incU64_ok hseq]
  | some tm =>
    obtain ⟨h1, h2⟩ := hgate tm hls
    cases hst : c.state <;> rw [hst] at hp <;> cases hp <;>
      simp only [Res.csub_ok h1, decide_eq_false (Nat.not_lt.mpr h2), bind_ok', pure_eq', Bool.false_eq_true, if_false,
        if_true, hen, incU64_ok hseq]

def responseBytes (a : AEAD) (c : NetcodeClient) : Bytes :=
  Packet.sealedBytes a (.response c.challengeTokenSequence c.challengeTokenData) c.connectToken.protocolId c.sequence
    c.connectToken.clientToServerKey

/-- **Progress, the client sends the response** (gate open: after the challenge the send timer is cleared). -/
theorem progress_send_response (a : AEAD) {c : NetcodeClient}
    (hst : c.state = .sendingConnectionResponse)
    (hgate : ∀ tm, c.lastPacketSendTime = some tm → tm ≤ c.currentTime ∧ c.sendRate ≤ c.currentTime - tm)
    (hseq : c.sequence < U64_MAX) (htd : c.challengeTokenData.length = 300) :
    c.generatePacket a = .ok (some (responseBytes a c, c.serverAddr),
      { c with lastPacketSendTime := some c.currentTime, sequence := c.sequence + 1 }) :=
  generatePacket_sends a hgate (by rw [NcAead.Cl.genPacket, hst])
    (Packet.encode_sealed_fits a _ _ _ _ _ (by simp [Packet.packetType])
      (by simp only [Packet.body, List.length_append, leBytes_length, htd]; decide)) hseq

/-! ## server, step 3 — the response connects -/

theorem firstFree_of_count {s : NetcodeServer} (hi : ServerInv s) (hlt : countConnected s.clients < s.maxClients) :
    ∃ i, firstFreeSlot s.clients = some i := by
  cases hf : firstFreeSlot s.clients with
  | some i => exact ⟨i, rfl⟩
  | none =>
    have := firstFree_none_count.mp hf
    have := hi.maxLe
    omega

/-- the keep-alive that accompanies `ClientConnected` for slot `i` -/
def connectKeepAlive (a : AEAD) (s : NetcodeServer) (p : Connection) (i : Nat) : Bytes :=
  Packet.sealedBytes a (.keepAlive (i % 2 ^ 32) (s.maxClients % 2 ^ 32)) s.protocolId p.sequence p.sendKey

theorem connectKeepAlive_encode (a : AEAD) (s : NetcodeServer) (cn : Connection) (i : Nat) :
    (Packet.keepAlive (i % 2 ^ 32) (s.maxClients % 2 ^ 32)).encode a C.NETCODE_MAX_PACKET_BYTES s.protocolId
      (some (cn.sequence, cn.sendKey)) = .ok (connectKeepAlive a s cn i) :=
  Packet.encode_sealed_fits a _ _ _ _ _ (by simp [Packet.packetType])
    (by simp only [Packet.body, List.length_append, leBytes_length]; decide)

/-- **response ⇒ ClientConnected + keep-alive**, with the new server state written out: the half-open session `p` of
    `addr`, a response sealed under its client-to-server key echoing the challenge token the server seals for
    `(p.clientId, p.userData)`, `p.clientId` not connected, slot `i` the first free one.  `process_packet` is run forward:
    every test on its way is decided by a hypothesis. -/
theorem response_connects_eq (a : AEAD) (hl : a.Laws) {s : NetcodeServer} {addr : Addr} {p : Connection} {i seq cs : Nat}
    (hi : ServerInv s) (hfa : findClientByAddr s.clients addr = none) (hpf : pendingFind s.pendingClients addr = some p)
    (hid : findClientById s.clients p.clientId = none) (hff : firstFreeSlot s.clients = some i)
    (hud : p.userData.length = 256) (hcid : p.clientId < 2 ^ 64) (hcs : cs < 2 ^ 64) (hseq : seq < 2 ^ 64) :
    s.processPacket a addr
        (Packet.sealedBytes a (.response cs (challengeToken a s p.clientId p.userData cs)) s.protocolId seq p.receiveKey) =
      .ok (.clientConnected p.clientId addr p.userData (connectKeepAlive a s p i),
           { s with pendingClients := pendingRemove s.pendingClients addr
                    clients := s.clients.set i (some (promoted p p.replayProtection s.currentTime)) }) := by
  have hdec := Packet.decode_sealedBytes a (.response cs (challengeToken a s p.clientId p.userData cs))
    s.protocolId seq p.receiveKey hl hseq (by simp [Packet.packetType])
    ⟨hcs, challengeToken_length a hl s p.clientId hud _⟩ (some p.replayProtection) rfl
  have hlen : ¬ (Packet.sealedBytes a (.response cs (challengeToken a s p.clientId p.userData cs)) s.protocolId seq
      p.receiveKey).length < 2 + C.NETCODE_MAC_BYTES := Packet.not_short_of_ok (congrArg Prod.fst hdec)
  have hct : ChallengeToken.decode a (challengeToken a s p.clientId p.userData cs) cs s.challengeKey =
      .ok ⟨p.clientId, p.userData⟩ := ch_decode_generate a hl p.clientId p.userData hcid hud cs s.challengeKey
  -- a half-open session has not sent anything yet
  have hps : p.sequence = 0 := (hi.pend (addr, p) (pendingFind_mem hpf)).seq
  have hka := connectKeepAlive_encode a s p i
  rw [hps] at hka
  have hslot : findClientSlotById s.clients p.clientId = none := findSlot_none.mpr hid
  unfold NetcodeServer.processPacket NetcodeServer.processPacketInternal
  rw [if_neg hlen]
  simp only [hfa, hpf, hdec, Packet.stepWindow, Packet.packetType, PacketType.applyReplayProtection, Option.map_some,
    Bool.false_eq_true, if_false, Option.getD_some, pendingSet_pendingSet, hct, lift_ok, bind_ok', ne_eq, not_true_eq_false,
    or_self, pendingRemove_pendingSet, hslot, Option.isSome_none, hff, hps, hka,
    incU64_ok (show 0 < U64_MAX by decide), pure_eq', promoted]

/-! ## client, step 4 — the keep-alive makes it `Connected` -/

theorem progress_keepalive (a : AEAD) (hl : a.Laws) {c : NetcodeClient} {s : NetcodeServer} {p : Connection} {i : Nat}
    (hst : c.state = .sendingConnectionResponse) (hkey : c.connectToken.serverToClientKey = p.sendKey)
    (hpid : c.connectToken.protocolId = s.protocolId) (hseq : p.sequence < 2 ^ 64)
    (hfresh : c.replayProtection.alreadyReceived p.sequence = false) :
    c.processPacket a (connectKeepAlive a s p i) =
      .ok (none, { c with replayProtection := c.replayProtection.advance p.sequence
                          lastPacketReceivedTime := c.currentTime, maxClients := s.maxClients % 2 ^ 32
                          clientIndex := i % 2 ^ 32, state := .connected }) := by
  have hdec := Packet.decode_sealedBytes a (.keepAlive (i % 2 ^ 32) (s.maxClients % 2 ^ 32))
    s.protocolId p.sequence p.sendKey hl hseq (by simp [Packet.packetType])
    ⟨Nat.mod_lt _ (by decide), Nat.mod_lt _ (by decide)⟩ (some c.replayProtection)
    (by simp [Packet.isDup, Packet.packetType, PacketType.applyReplayProtection, hfresh])
  unfold NetcodeClient.processPacket
  rw [hkey, hpid]
  unfold connectKeepAlive
  rw [hdec]
  simp only [Packet.stepWindow, Packet.packetType, PacketType.applyReplayProtection, Option.map_some,
    if_true, Option.getD_some, hst]

/-! ## client, step 0 — the request; and the lossless four-message exchange -/

/-- the client's token agrees with the private token `t` sealed for server `s` -/
structure TokenFor (a : AEAD) (s : NetcodeServer) (t : PrivateConnectToken) (expire : Nat) (xnonce : Bytes)
    (ct : ConnectToken) : Prop where
  pid : ct.protocolId = s.protocolId
  exp : ct.expireTimestamp = expire
  xn : ct.xnonce = xnonce
  priv : ct.privateData = sealedPriv a s t expire xnonce
  c2s : ct.clientToServerKey = t.clientToServerKey
  s2c : ct.serverToClientKey = t.serverToClientKey

/-- **Progress, the client sends the request** (gate open: no packet sent yet, or the last one `send_rate` old). -/
theorem progress_send_request (a : AEAD) (hl : a.Laws) {c : NetcodeClient} {s : NetcodeServer}
    {t : PrivateConnectToken} {expire : Nat} {xnonce : Bytes} (htok : TokenFor a s t expire xnonce c.connectToken)
    (hwf : PTokenWF t) (hxn : xnonce.length = 24) (hst : c.state = .sendingConnectionRequest)
    (hgate : ∀ tm, c.lastPacketSendTime = some tm → tm ≤ c.currentTime ∧ c.sendRate ≤ c.currentTime - tm)
    (hseq : c.sequence < U64_MAX) :
    c.generatePacket a = .ok (some (requestBytes a s t expire xnonce, c.serverAddr),
      { c with lastPacketSendTime := some c.currentTime, sequence := c.sequence + 1 }) := by
  refine generatePacket_sends a hgate (by rw [NcAead.Cl.genPacket, hst]) ?_ hseq
  rw [Packet.encode_request_eq, htok.pid, htok.exp, htok.xn, htok.priv]
  have := sealedPriv_length a hl s hwf expire xnonce
  rw [if_pos]
  · rfl
  · simp only [Packet.body, List.length_append, leBytes_length, this, hxn]
    decide

theorem gate_of_none {c : NetcodeClient} (h : c.lastPacketSendTime = none) :
    ∀ tm, c.lastPacketSendTime = some tm → tm ≤ c.currentTime ∧ c.sendRate ≤ c.currentTime - tm :=
  fun tm e => by rw [h] at e; cases e

/-- the client after sending the request / storing the challenge / sending the response -/
abbrev clientSent (c : NetcodeClient) : NetcodeClient :=
  { c with lastPacketSendTime := some c.currentTime, sequence := c.sequence + 1 }
abbrev clientChallenged (a : AEAD) (s : NetcodeServer) (t : PrivateConnectToken) (c : NetcodeClient) : NetcodeClient :=
  { c with challengeTokenSequence := s.challengeSequence + 1, lastPacketReceivedTime := c.currentTime
           lastPacketSendTime := none
           challengeTokenData := challengeToken a s t.clientId t.userData (s.challengeSequence + 1)
           state := .sendingConnectionResponse }

theorem _root_.RenetVerif.NcLive2.challengeToken_cfg (a : AEAD) {s0 s : NetcodeServer} (h : SameCfg s0 s) (id : Nat)
    (ud : Bytes) (cs : Nat) : challengeToken a s id ud cs = challengeToken a s0 id ud cs := by
  unfold challengeToken; rw [h.challengeKey]

/-- **`handshake_round_partial`** — the lossless four-message exchange connects both sides.  An honest client (state
    `SendingConnectionRequest`, nothing sent yet, window not containing sequence 0) holding a token for server `s`
    (private part `t`, well-formed, sealed under the server's key, unexpired, (secure) listing a public address of the
    server), talking from an address that is neither connected nor half-open, `t.clientId` not connected, room in the
    pending map, token not bound elsewhere, fewer than `max_clients` connected:
      request → `PacketToSend addr challenge` → client in `SendingConnectionResponse` → response →
      `ClientConnected t.clientId addr t.userData keep-alive` → client `Connected`,
    and the server's slot table then holds a session with exactly the token's id, that address and the token's user
    data.  The exchange driven through `update(d)` (elapsed time, send-rate gate), retransmission after loss /
    duplication and the time bound: Props/C18T.lean (`handshake_through_update`, `handshake_despite_loss`); the step
    lemmas `progress_*` apply to every retry individually. -/
theorem handshake_round_partial (a : AEAD) (hl : a.Laws) {s : NetcodeServer} {c0 : NetcodeClient} {addr : Addr}
    {t : PrivateConnectToken} {expire : Nat} {xnonce : Bytes}
    (hi : ServerInv s) (hg : s.globalSequence + 1 < U64_MAX) (hc : s.challengeSequence + 1 < U64_MAX)
    (hwf : PTokenWF t) (hxn : xnonce.length = 24) (hexp : expire < 2 ^ 64) (hpid : s.protocolId < 2 ^ 64)
    (hnow : asSecs s.currentTime < expire)
    (hhost : s.secure = true → ∃ x, some x ∈ t.serverAddresses ∧ x ∈ s.publicAddresses)
    (hfa : findClientByAddr s.clients addr = none) (hfi : findClientById s.clients t.clientId = none)
    (hpf : pendingFind s.pendingClients addr = none)
    (hroom : s.pendingClients.length < C.NETCODE_MAX_PENDING_CLIENTS)
    (hbind : (s.findOrAddConnectTokenEntry ⟨s.currentTime, addr, tokenMac (sealedPriv a s t expire xnonce)⟩).2 = true)
    (hlt : countConnected s.clients < s.maxClients)
    (htok : TokenFor a s t expire xnonce c0.connectToken) (hst : c0.state = .sendingConnectionRequest)
    (hsend : c0.lastPacketSendTime = none) (hseq : c0.sequence + 1 < U64_MAX)
    (hrp : c0.replayProtection.alreadyReceived 0 = false) :
    ∃ req c1 chal s1 c2 resp c3 ka s2 c4 i cn,
      c0.generatePacket a = .ok (some (req, c0.serverAddr), c1) ∧
      s.processPacket a addr req = .ok (.packetToSend addr chal, s1) ∧
      c1.processPacket a chal = .ok (none, c2) ∧ c2.state = .sendingConnectionResponse ∧
      c2.generatePacket a = .ok (some (resp, c0.serverAddr), c3) ∧
      s1.processPacket a addr resp = .ok (.clientConnected t.clientId addr t.userData ka, s2) ∧
      c3.processPacket a ka = .ok (none, c4) ∧ c4.state = .connected ∧
      At s2.clients i cn ∧ cn.clientId = t.clientId ∧ cn.addr = addr ∧ cn.userData = t.userData ∧
      s2.isClientConnected t.clientId = true := by
  have hU : U64_MAX = 2 ^ 64 - 1 := rfl
  have h0 := progress_send_request a hl htok hwf hxn hst (gate_of_none hsend) (by omega)
  obtain ⟨s1, h1, hp1, -, hcl1, -, -, hcfg, -, -, hi1⟩ :=
    request_challenged a hl (addr := addr) hi (by omega) (by omega) hwf hxn hexp hpid hnow hhost hfa hfi
      (by rw [pendingRemove_of_none hpf]; exact hroom) (bound_of_binding hi.entries _ hbind) hlt
  have h2 := progress_challenge a hl (s := s) (t := t) (c := clientSent c0) hst htok.s2c htok.pid
    (by omega) (by omega) hwf.userData
  have h3 := progress_send_response a (c := clientChallenged a s t (clientSent c0))
    rfl (gate_of_none rfl) (by show c0.sequence + 1 < U64_MAX; omega) (challengeToken_length a hl s t.clientId hwf.userData _)
  obtain ⟨i, hff⟩ := firstFree_of_count hi hlt
  have h4 := response_connects_eq a hl (s := s1) (addr := addr)
    (p := mkPending s.currentTime addr expire t) (i := i) (seq := c0.sequence + 1) (cs := s.challengeSequence + 1)
    hi1 (by rw [hcl1]; exact hfa) hp1 (by rw [hcl1]; exact hfi)
    (by rw [hcl1]; exact hff) hwf.userData hwf.clientId (by omega) (by omega)
  have h5 := progress_keepalive a hl (s := s1) (p := mkPending s.currentTime addr expire t) (i := i)
    (c := clientSent (clientChallenged a s t (clientSent c0)))
    rfl htok.s2c (by rw [hcfg.protocolId]; exact htok.pid) (by show (0 : Nat) < 2 ^ 64; decide) hrp
  have hlt_i : i < s1.clients.length := by
    rw [hcl1]; exact (List.getElem?_eq_some_iff.mp (firstFree_some hff)).1
  -- the response datagram of the client is the one `response_connects_eq` talks about
  have hresp : responseBytes a (clientChallenged a s t (clientSent c0)) =
      Packet.sealedBytes a (.response (s.challengeSequence + 1)
        (challengeToken a s1 t.clientId t.userData (s.challengeSequence + 1))) s1.protocolId (c0.sequence + 1)
        t.clientToServerKey := by
    unfold responseBytes
    simp only
    rw [htok.pid, htok.c2s, hcfg.protocolId, challengeToken_cfg a hcfg]
  simp only [mkPending] at h4
  rw [← hresp] at h4
  refine ⟨_, _, _, s1, _, _, _, _, _, _, i, promoted (mkPending s.currentTime addr expire t) RP.new s1.currentTime,
    h0, h1, h2, rfl, h3, h4, h5, rfl, at_set_self hlt_i, rfl, rfl, rfl, ?_⟩
  rw [isClientConnected_iff]
  exact ⟨i, _, at_set_self hlt_i, rfl⟩

end NS
end RenetVerif.Netcode
