/-
  The `Res` monad as a proof sees it: when a bind returns normally, returns an error, unwinds; when the checked
  arithmetic of the models (`Res.csub`, `incU64`, `durAdd`) returns normally.
-/
import RenetVerif.Base.Res
import RenetVerif.Netcode.Util
namespace RenetVerif.Res

theorem bind_ok_iff {ε α β : Type} {x : Res ε α} {f : α → Res ε β} {b : β} :
    (x >>= f) = .ok b ↔ ∃ a, x = .ok a ∧ f a = .ok b := by
  cases x <;> simp

theorem bind_err_iff {ε α β : Type} {x : Res ε α} {f : α → Res ε β} {e : ε} :
    (x >>= f) = .err e ↔ x = .err e ∨ ∃ a, x = .ok a ∧ f a = .err e := by
  cases x <;> simp

theorem bind_panic_iff {ε α β : Type} {x : Res ε α} {f : α → Res ε β} {m : String} :
    (x >>= f) = .panic m ↔ x = .panic m ∨ ∃ a, x = .ok a ∧ f a = .panic m := by
  cases x <;> simp

theorem csub_ok_iff {ε} {a b v : Nat} {site : String} : (csub a b site : Res ε Nat) = .ok v ↔ b ≤ a ∧ v = a - b := by
  unfold csub
  split
  · next hle => simp only [Res.ok.injEq, hle, true_and, eq_comm]
  · next hlt => simp only [reduceCtorEq, hlt, false_and]

theorem csub_ok {ε} {a b : Nat} {site : String} (h : b ≤ a) : (csub a b site : Res ε Nat) = .ok (a - b) :=
  csub_ok_iff.2 ⟨h, rfl⟩

end RenetVerif.Res

namespace RenetVerif.Netcode

theorem incU64_ok_iff {ε} {x y : Nat} {site : String} : (incU64 x site : Res ε Nat) = .ok y ↔ x < U64_MAX ∧ y = x + 1 := by
  unfold incU64
  split
  · next h => simp only [Res.ok.injEq, Nat.lt_of_succ_le h, true_and, eq_comm]
  · next h => simp only [reduceCtorEq, show ¬ x < U64_MAX from h, false_and]

theorem incU64_ok {ε} {x : Nat} {site : String} (h : x < U64_MAX) : (incU64 x site : Res ε Nat) = .ok (x + 1) :=
  incU64_ok_iff.2 ⟨h, rfl⟩

theorem incU64_out {ε} {x : Nat} {site : String} {X : Res ε Nat} (h : (incU64 x site : Res ε Nat) = X) :
    X = .ok (x + 1) ∨ (X = .panic site ∧ ¬ x < U64_MAX) := by
  unfold incU64 at h
  split at h
  · left; exact h.symm
  · right; exact ⟨h.symm, by omega⟩

theorem durAdd_ok_iff {ε} {x y z : Nat} {site : String} :
    (durAdd x y site : Res ε Nat) = .ok z ↔ x + y ≤ DURATION_MAX ∧ z = x + y := by
  unfold durAdd
  split
  · next h => simp only [Res.ok.injEq, h, true_and, eq_comm]
  · next h => simp only [reduceCtorEq, h, false_and]

theorem durAdd_ok {ε} {x y : Nat} {site : String} (h : x + y ≤ DURATION_MAX) : (durAdd x y site : Res ε Nat) = .ok (x + y) :=
  durAdd_ok_iff.2 ⟨h, rfl⟩

theorem durAdd_out {ε} {x y : Nat} {site : String} {X : Res ε Nat} (h : (durAdd x y site : Res ε Nat) = X) :
    X = .ok (x + y) ∨ (X = .panic site ∧ ¬ x + y ≤ DURATION_MAX) := by
  unfold durAdd at h
  split at h
  · left; exact h.symm
  · right; exact ⟨h.symm, by assumption⟩

end RenetVerif.Netcode
