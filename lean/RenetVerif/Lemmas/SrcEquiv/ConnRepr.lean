/-
  Representation of the model connection `Conn` (Renet/Conn.lean) as the generated `RenetClient` (group ConnTypes),
  shared by the groups Conn, ConnSend and ConnRecv.  The channel tables (`HashMap<u8, _>`, only keyed access and the
  whitelisted `values_mut()`) are key-sorted association lists on both sides; the receive-reliable table needs the
  (never read) `most_recent_message_id` of each channel: `mrs : channel id → value`.
-/
import RenetVerif.Generated.Src.ConnTypes
import RenetVerif.Lemmas.SrcEquiv.Prims
import RenetVerif.Lemmas.SrcEquiv.CommonRepr
import RenetVerif.Lemmas.SrcEquiv.ChanLemmas
import RenetVerif.Lemmas.SrcEquiv.SendUnrel
import RenetVerif.Lemmas.SrcEquiv.RecvUnrel
import RenetVerif.Lemmas.SrcEquiv.SendRel
import RenetVerif.Lemmas.SrcEquiv.RecvRel
import RenetVerif.Lemmas.SrcEquiv.Acks
import RenetVerif.Renet.Conn
namespace RenetVerif.SrcEquiv
open RenetVerif RenetVerif.RustSem
open Src.renet.remote_connection

abbrev SReason := Src.renet.error.DisconnectReason

def reprReason : Reason → SReason
  | .transport => .Transport
  | .byClient => .DisconnectedByClient
  | .byServer => .DisconnectedByServer
  | .packetSer e => .PacketSerialization (reprSerErr e)
  | .packetDeser e => .PacketDeserialization (reprSerErr e)
  | .invalidChannel ch => .ReceivedInvalidChannelId ch
  | .sendChan ch e => .SendChannelError ch (reprCE e)
  | .recvChan ch e => .ReceiveChannelError ch (reprCE e)

def reprStatus : Status → RenetConnectionStatus
  | .connected => .Connected
  | .connecting => .Connecting
  | .disconnected r => .Disconnected (reprReason r)

def reprInfo : SentInfo → PacketSentInfo
  | .none => .None
  | .relMsgs ch ids => .ReliableMessages ch ids
  | .relSlice ch id idx => .ReliableSliceMessage ch id idx
  | .ack l => .Ack l

def reprSentEntry (x : Nat × SentInfo) : PacketSent := ⟨x.1, reprInfo x.2⟩

def reprOrd (x : Bool × Nat) : ChannelOrder := if x.1 then .Reliable x.2 else .Unreliable x.2

def reprRecvRel (mrs : Nat → Nat) (m : SMap RecvRel) : RustSem.Map Src.renet.channel.reliable.ReceiveChannelReliable :=
  m.map fun p => (p.1, reprRR (mrs p.1) p.2)

def reprConn (mrs : Nat → Nat) (c : Conn) : RenetClient :=
  ⟨c.packetSeq, c.now, mapVals reprSentEntry c.sent, c.pendingAcks.map ackR, c.order.map reprOrd,
   mapVals reprSU c.sendUnrel, mapVals reprRU c.recvUnrel, mapVals reprSR c.sendRel, reprRecvRel mrs c.recvRel,
   c.budget, reprStatus c.status⟩

theorem find_reprRecvRel (mrs : Nat → Nat) (m : SMap RecvRel) (k : Nat) :
    RustSem.Map.find? (reprRecvRel mrs m) k = (SMap.find? m k).map (reprRR (mrs k)) :=
  find_map_keyed reprRR mrs m k

theorem contains_reprRecvRel (mrs : Nat → Nat) (m : SMap RecvRel) (k : Nat) :
    RustSem.Map.contains_key (reprRecvRel mrs m) k = (SMap.find? m k).isSome := by
  simp [RustSem.Map.contains_key, find_reprRecvRel]

theorem reprRecvRel_congr (mrs mrs' : Nat → Nat) (m : SMap RecvRel) (h : ∀ p ∈ m, mrs p.1 = mrs' p.1) :
    reprRecvRel mrs m = reprRecvRel mrs' m := by
  apply List.map_congr_left
  intro p hp
  rw [h p hp]

theorem insert_reprRecvRel (mrs : Nat → Nat) (m : SMap RecvRel) (k mr : Nat) (r : RecvRel) (hs : MSorted m) :
    RustSem.Map.insert (reprRecvRel mrs m) k (reprRR mr r) =
      reprRecvRel (fun j => if j = k then mr else mrs j) (SMap.insert m k r) :=
  insert_map_keyed reprRR mrs m k mr r hs

theorem insert_reprRecvRel_same (mrs : Nat → Nat) (m : SMap RecvRel) (k : Nat) (r : RecvRel) (hs : MSorted m) :
    RustSem.Map.insert (reprRecvRel mrs m) k (reprRR (mrs k) r) = reprRecvRel mrs (SMap.insert m k r) := by
  rw [insert_reprRecvRel mrs m k (mrs k) r hs]
  apply reprRecvRel_congr
  intro p _
  show (if p.1 = k then mrs k else mrs p.1) = mrs p.1
  split
  · rename_i h; rw [h]
  · rfl

end RenetVerif.SrcEquiv
