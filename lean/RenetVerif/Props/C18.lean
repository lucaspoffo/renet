/-
  C18 — Netcode liveness, the safety / single-step half: silent peers time out (both sides), half-open sessions vanish
  when their token expires, a peer whose authentic packets keep arriving is not timed out, forged or replayed packets
  do not postpone a time-out; client failover to the next server address.
  (The handshake-progress half — request ⇒ challenge ⇒ response ⇒ ClientConnected + keep-alive ⇒ Connected under
  `AEAD.Laws` — is in Props/C18P.lean; it uses the wire round-trip lemmas of Lemmas/NcWire.lean / NcAead.lean.)

  Model: RenetVerif/Netcode/Server.lean, Client.lean (renetcode/src/{server,client}.rs; repaired: D12 — only authentic
  KeepAlive / Payload packets refresh a session's receive timer; D11 — `set_max_clients` grows the slot list).
  Proofs: Lemmas/NcTimeout.lean.  `ServerInv`: Lemmas/NcTable.lean (the C10 invariant).  Durations are nanoseconds.
-/
import RenetVerif.Lemmas.NcExamples
namespace RenetVerif.C18
open RenetVerif RenetVerif.Netcode RenetVerif.Netcode.NS

/-- **`server_timeout`** — a connected peer from which no authentic packet arrived for more than the token's timeout
    (`timeout_seconds > 0` and `last_packet_received_time + timeout < now`) is disconnected by the next
    `update_client`: the slot is freed and `ClientDisconnected id addr` is reported.
    (`hclock`: the clock is not within 2^31 s of `Duration::MAX` — otherwise the deadline addition would unwind.) -/
theorem server_timeout (a : AEAD) {s : NetcodeServer} {id i : Nat} {c : Connection} (hi : ServerInv s)
    (hc : At s.clients i c) (hid : c.clientId = id) (hclock : s.currentTime + fromSecs (2 ^ 31) ≤ DURATION_MAX)
    (hto : c.timeoutSeconds > 0 ∧ c.lastPacketReceivedTime + fromSecs c.timeoutSeconds.toNat < s.currentTime) :
    ∃ o, s.updateClient a id = .ok (.clientDisconnected id c.addr o, { s with clients := s.clients.set i none }) :=
  NS.server_timeout a hi hc hid hclock hto

/-- conversely `update_client` reports `ClientDisconnected` only for a timed-out session, frees exactly its slot, and
    the accompanying datagram is that session's `Disconnect` packet whenever it encodes -/
theorem server_timeout_only (a : AEAD) {s s' : NetcodeServer} {id i : Nat} {c : Connection} {ad : Addr}
    {o : Option Bytes} (hi : ServerInv s) (hc : At s.clients i c) (hid : c.clientId = id)
    (h : s.updateClient a id = .ok (.clientDisconnected id ad o, s')) :
    ad = c.addr ∧ TimedOut c s.currentTime ∧ s' = { s with clients := s.clients.set i none } ∧
    (∀ out, Packet.disconnect.encode a Netcode.C.NETCODE_MAX_PACKET_BYTES s.protocolId (some (c.sequence, c.sendKey)) = .ok out →
      o = some out) := server_timeout_packet a hi hc hid h

/-- **a connected session that is not timed out is kept** (result: nothing, or a keep-alive to its address) -/
theorem server_keeps (a : AEAD) {s s' : NetcodeServer} {id i : Nat} {c : Connection} {r : ServerResult}
    (hi : ServerInv s) (hc : At s.clients i c) (hid : c.clientId = id) (hnt : ¬ TimedOut c s.currentTime)
    (h : s.updateClient a id = .ok (r, s')) :
    sessions s'.clients = sessions s.clients ∧ (r = .none ∨ ∃ out, r = .packetToSend c.addr out) := by
  rcases updateClient_spec a hi hc hid with ⟨hto, _⟩ | ⟨_, ⟨e, -⟩ | ⟨out, _, _, e⟩⟩ | ⟨⟨m, e⟩, _⟩
  · exact absurd hto hnt
  · rw [e] at h; cases h; exact ⟨rfl, Or.inl rfl⟩
  · rw [e] at h; cases h; exact ⟨sessions_set_same hc rfl, Or.inr ⟨out, rfl⟩⟩
  · rw [e] at h; cases h

/-- **`no_spurious_timeout`** — if the receive timer was refreshed at time `t` and `now ≤ t + timeout` (or the token's
    timeout is not positive) the session is not timed out -/
theorem no_spurious_timeout {c : Connection} {now : Nat}
    (h : c.timeoutSeconds ≤ 0 ∨ now ≤ c.lastPacketReceivedTime + fromSecs c.timeoutSeconds.toNat) :
    ¬ TimedOut c now := NS.no_spurious_timeout h

/-- **`pending_expire`** — `update(d)` advances the clock by `d`, leaves the slots alone and keeps exactly the
    half-open sessions with `now.secs ≤ expire_timestamp`: a half-open session vanishes at the first update after its
    token's expiry second -/
theorem pending_expire {s s' : NetcodeServer} {d : Nat} (h : s.update d = .ok s') :
    s'.currentTime = s.currentTime + d ∧ s'.clients = s.clients ∧
    (∀ p, p ∈ s'.pendingClients ↔ p ∈ s.pendingClients ∧ asSecs (s.currentTime + d) ≤ p.2.expireTimestamp) ∧
    (∀ x p, pendingFind s.pendingClients x = some p → asSecs (s.currentTime + d) > p.expireTimestamp →
      (s.pendingClients.map (·.1)).Nodup → pendingFind s'.pendingClients x = none) := NS.pending_expire h

/-- **`refresh_only_authentic`** — `process_packet` moves the receive timer of a connected slot only when the datagram
    came from that session's address and decoded, under that session's receive key and replay window, to a KeepAlive
    or a Payload (`Authentic`); the timer then becomes the current time and the session's identity is unchanged.
    Everything else — forged (the AEAD does not open), replayed (sequence already in the window), type-0 junk
    (connection requests decode without key), Challenge / Response / Denied kinds, datagrams from other addresses —
    leaves it as it is. -/
theorem refresh_only_authentic {a : AEAD} {s s' : NetcodeServer} {addr : Addr} {buf : Bytes} {r : ServerResult}
    (hi : ServerInv s) (h : s.processPacket a addr buf = .ok (r, s')) {i : Nat} {c c' : Connection}
    (hc : At s.clients i c) (hc' : At s'.clients i c') :
    c'.lastPacketReceivedTime = c.lastPacketReceivedTime ∨
    (c.addr = addr ∧ Authentic a s c buf ∧ c'.lastPacketReceivedTime = s.currentTime ∧ ident c' = ident c) :=
  NS.refresh_only_authentic hi h hc hc'

/-- `Authentic` means: the AEAD opened the body under the session's receive key with nonce = the datagram's sequence
    number and AAD = version ‖ protocol id ‖ prefix byte, **and** the replay window had not seen that sequence number -/
theorem authentic_means {a : AEAD} {s : NetcodeServer} {c : Connection} {buf : Bytes} (h : Authentic a s c buf) :
    ∃ pfx rest sq body plain, buf = pfx :: rest ∧
      Packet.readSequence rest (pfx.toNat / 16) = some (sq, body) ∧
      a.open c.receiveKey (Packet.nonce sq) (Packet.additionalData pfx s.protocolId) body = some plain ∧
      c.replayProtection.alreadyReceived sq = false := by
  obtain ⟨sq, pk, w', hdec, hk⟩ := h
  rcases Packet.decode_ok hdec with ⟨-, -, -, -, hpt, -⟩ | ⟨k, ty, plain, hkey, hso, hdup, rfl, hr, -⟩
  · rcases hk with hk | hk <;> rw [hk] at hpt <;> cases hpt
  · cases hkey
    obtain ⟨pfx, sb, ct, rfl, e1, hsb, h8, -, e4, e5, -⟩ := Packet.wire_split hso
    have hopen := hso.opened
    rw [e1, e4, e5] at hopen
    rw [e4] at hdup
    refine ⟨pfx, sb ++ ct, leVal sb, ct, plain, rfl, hsb ▸ NcAead.Packet.readSequence_append sb ct h8, hopen, ?_⟩
    have hty : ty.applyReplayProtection = true := by
      rw [← (Packet.read_ok hr).2.1]
      rcases hk with hk | hk <;> rw [hk] <;> rfl
    rw [Packet.isDup_some, hty, Bool.true_and] at hdup
    exact hdup

/-- **forged or replayed packets do not postpone a time-out**: a datagram whose body the AEAD does not open under the
    session's key, or whose sequence number the window has already seen, is not `Authentic` -/
theorem forged_or_replayed_not_authentic {a : AEAD} {s : NetcodeServer} {c : Connection} {buf : Bytes}
    (h : ∀ pfx rest sq body, buf = pfx :: rest → Packet.readSequence rest (pfx.toNat / 16) = some (sq, body) →
      a.open c.receiveKey (Packet.nonce sq) (Packet.additionalData pfx s.protocolId) body = none ∨
      c.replayProtection.alreadyReceived sq = true) : ¬ Authentic a s c buf := by
  intro hau
  obtain ⟨pfx, rest, sq, body, plain, hb, hrs, hop, hw⟩ := authentic_means hau
  rcases h pfx rest sq body hb hrs with h1 | h1
  · rw [h1] at hop; cases hop
  · rw [h1] at hw; cases hw

/-- an `Authentic` datagram from a connected address does refresh that session's timer (and changes no session) -/
theorem authentic_refreshes {a : AEAD} {s : NetcodeServer} {addr : Addr} {buf : Bytes} (hi : ServerInv s)
    (hg : s.globalSequence < U64_MAX) (hcs : s.challengeSequence < U64_MAX) {i : Nat} {c : Connection}
    (hc : At s.clients i c) (had : c.addr = addr) (hau : Authentic a s c buf) :
    ∃ r s' c', s.processPacket a addr buf = .ok (r, s') ∧ At s'.clients i c' ∧
      c'.lastPacketReceivedTime = s.currentTime ∧ ident c' = ident c ∧ sessions s'.clients = sessions s.clients := by
  obtain ⟨sq, pk, w', hdec, hk⟩ := hau
  have h := pp_from_connected (hi.slots.findAddr_iff.mpr ⟨had, hc⟩) (hi.slots.conn i c hc) hdec
  have hlt := at_lt hc
  cases pk with
  | payload p => exact ⟨_, _, _, h, at_set_self hlt, rfl, rfl, sessions_set_same hc rfl⟩
  | keepAlive ci mc => exact ⟨_, _, _, h, at_set_self hlt, rfl, rfl, sessions_set_same hc rfl⟩
  | _ => rcases hk with hk | hk <;> cases hk

/-- **`never_timed_out_partial`** — one round of "a peer from which authentic packets keep arriving within every
    timeout period is never timed out": after an authentic packet at time `t` (timer := t), an `update_client` at any
    `now ≤ t + timeout` keeps the session.  The whole-trace statement (arbitrary interleaving of other operations
    between the refresh and the `update_client`): Props/C18T.lean, `never_timed_out`. -/
theorem never_timed_out_partial (a : AEAD) {s s' : NetcodeServer} {id i : Nat} {c : Connection} {r : ServerResult}
    (hi : ServerInv s) (hc : At s.clients i c) (hid : c.clientId = id)
    (hfresh : s.currentTime ≤ c.lastPacketReceivedTime + fromSecs c.timeoutSeconds.toNat)
    (h : s.updateClient a id = .ok (r, s')) :
    sessions s'.clients = sessions s.clients ∧ (r = .none ∨ ∃ out, r = .packetToSend c.addr out) :=
  server_keeps a hi hc hid (NS.no_spurious_timeout (Or.inr hfresh)) h

/-- **`client_timeout`** — a connected client that received nothing decodable for more than the token's timeout
    disconnects at the next `update` with reason `ConnectionTimedOut` and sends nothing.
    (`ClockOK`: none of the three `Duration` operations of `update(d)` overflows.) -/
theorem client_timeout (a : AEAD) {c : NetcodeClient} {d : Nat} (hst : c.state = .connected) (hok : ClockOK c d)
    (hto : CTimedOut c (c.currentTime + d)) :
    c.update a d = .ok (none, { c with currentTime := c.currentTime + d, state := .disconnected .connectionTimedOut }) :=
  NS.client_timeout a hst hok hto

/-- a connected client that is not timed out stays connected -/
theorem client_keeps {c : NetcodeClient} {d : Nat} (hst : c.state = .connected) (hok : ClockOK c d)
    (hto : ¬ CTimedOut c (c.currentTime + d)) :
    c.updateInternalState d = .ok (none, { c with currentTime := c.currentTime + d }) :=
  client_no_timeout hst hok.clock hok.recv hto

/-- **`failover`** — a connecting client (request or response phase) whose current server stayed silent for the
    timeout, with token time left, moves to the next listed server address and starts over there: state
    `SendingConnectionRequest`, fresh connect-start / receive timers, send timer cleared (so the request goes out in
    the same `update`) -/
theorem failover {c : NetcodeClient} {d : Nat} {next : Addr} (hst : Connecting c) (hok : ClockOK c d)
    (hwin : asSecs (c.currentTime + d - c.connectStartTime) < tokenWindow c)
    (hto : CTimedOut c (c.currentTime + d))
    (hnext : c.connectToken.serverAddresses[c.serverAddrIndex + 1]? = some (some next))
    (hidx : c.serverAddrIndex + 1 < Netcode.C.NETCODE_TOKEN_MAX_ADDRESSES) :
    ∃ c', c.updateInternalState d = .ok (none, c') ∧ c'.state = .sendingConnectionRequest ∧ c'.serverAddr = next ∧
      c'.serverAddrIndex = c.serverAddrIndex + 1 ∧ c'.connectStartTime = c.currentTime + d ∧
      c'.lastPacketReceivedTime = c.currentTime + d ∧ c'.lastPacketSendTime = none ∧
      c'.currentTime = c.currentTime + d ∧ c'.connectToken = c.connectToken ∧ c'.sequence = c.sequence :=
  NS.failover hst hok hwin hto hnext hidx

/-- no further address: `Disconnected(ConnectionRequestTimedOut)` resp. `Disconnected(ConnectionResponseTimedOut)`
    (the call returns `NoMoreServers`) -/
theorem client_connect_timeout {c : NetcodeClient} {d : Nat} (hst : Connecting c) (hok : ClockOK c d)
    (hwin : asSecs (c.currentTime + d - c.connectStartTime) < tokenWindow c)
    (hto : CTimedOut c (c.currentTime + d))
    (hlast : Netcode.C.NETCODE_TOKEN_MAX_ADDRESSES ≤ c.serverAddrIndex + 1 ∨
      c.connectToken.serverAddresses[c.serverAddrIndex + 1]? = some none) :
    ∃ c', c.updateInternalState d = .ok (some .noMoreServers, c') ∧
      c'.state = .disconnected (if c.state = .sendingConnectionResponse then .connectionResponseTimedOut
                                else .connectionRequestTimedOut) := NS.client_connect_timeout hst hok hwin hto hlast

/-- the token's lifetime is over before the handshake completed: `Disconnected(ConnectTokenExpired)` -/
theorem client_token_expired {c : NetcodeClient} {d : Nat} (hst : Connecting c) (hok : ClockOK c d)
    (hwin : tokenWindow c ≤ asSecs (c.currentTime + d - c.connectStartTime)) :
    c.updateInternalState d =
      .ok (some .expired, { c with currentTime := c.currentTime + d, state := .disconnected .connectTokenExpired }) :=
  NS.client_token_expired hst hok hwin

/-- neither expired nor timed out: the connecting client keeps its state (and `update` goes on to resend) -/
theorem client_connecting_continues {c : NetcodeClient} {d : Nat} (hst : Connecting c) (hok : ClockOK c d)
    (hwin : asSecs (c.currentTime + d - c.connectStartTime) < tokenWindow c)
    (hto : ¬ CTimedOut c (c.currentTime + d)) :
    c.updateInternalState d = .ok (none, { c with currentTime := c.currentTime + d }) :=
  NS.client_connecting_continues hst hok hwin hto

/-- the client's receive timer moves only on a datagram that decoded under the server-to-client key and the client's
    replay window (so forged / replayed datagrams do not postpone the client's time-out either) -/
theorem client_refresh_only_decoded {a : AEAD} {c c' : NetcodeClient} {buf : Bytes} {r : Option Bytes}
    (h : c.processPacket a buf = .ok (r, c')) (hne : c'.lastPacketReceivedTime ≠ c.lastPacketReceivedTime) :
    ∃ sq pk w', Packet.decode a buf c.connectToken.protocolId (some c.connectToken.serverToClientKey)
        (some c.replayProtection) = (.ok (sq, pk), w') ∧ c'.lastPacketReceivedTime = c.currentTime := by
  unfold NetcodeClient.processPacket at h
  cases hdec : Packet.decode a buf c.connectToken.protocolId (some c.connectToken.serverToClientKey)
      (some c.replayProtection) with
  | mk res rp =>
    rw [hdec] at h
    simp only at h
    cases res with
    | panic m => cases h
    | err e => simp only [Res.ok.injEq, Prod.mk.injEq] at h; rw [← h.2] at hne; exact absurd rfl hne
    | ok sp =>
      obtain ⟨sq, pk⟩ := sp
      refine ⟨sq, pk, rp, rfl, ?_⟩
      simp only at h
      split at h <;> simp only [Res.ok.injEq, Prod.mk.injEq] at h <;> rw [← h.2] at hne ⊢ <;>
        first | rfl | exact absurd rfl hne

/-! ## examples (toy AEAD `Ex.a`, world of Lemmas/NcExamples.lean; A's timeout is 5 s) -/
section Examples
open Ex

theorem inv_s2late : ServerInv s2late := step_inv inv_s2 s_wait5'
theorem inv_s2at5 : ServerInv s2at5 := step_inv inv_s2 s_wait5

/-- 5 s + 1 ns after A's last packet: timed out -/
example : ∃ o, s2late.updateClient a 11 =
    .ok (.clientDisconnected 11 addrA o, { s2late with clients := s2late.clients.set 0 none }) :=
  server_timeout a inv_s2late (c := connA) rfl rfl (by decide) (by decide)
/-- exactly 5 s after: kept -/
example : ∀ r s', s2at5.updateClient a 11 = .ok (r, s') → sessions s'.clients = sessions s2at5.clients :=
  fun r s' h => (never_timed_out_partial a inv_s2at5 (i := 0) (c := connA) rfl rfl (by decide) h).1

/-- the half-open session of `s1` (token expiry second 30) survives an update to 30.9 s, not one to 31 s -/
example : ∀ s', s1.update 30900000000 = .ok s' → (addrA, pendA) ∈ s'.pendingClients :=
  fun s' h => ((pending_expire h).2.2.1 (addrA, pendA)).mpr ⟨by simp [s1], by decide⟩
example : ∀ s', s1.update 31000000000 = .ok s' → pendingFind s'.pendingClients addrA = none :=
  fun s' h => (pending_expire h).2.2.2 addrA pendA (by decide +kernel) (by decide) (by decide +kernel)

/-- A's keep-alive (sequence 2) is authentic and refreshes the timer; the same datagram again is a replay -/
example : Authentic a s2 connA kaFromA := ⟨2, .keepAlive 0 0, RP.new.advance 2, by decide +kernel, Or.inl rfl⟩
example : (s2k.processPacket a addrA kaFromA).isPanic = false ∧
    ¬ Authentic a s2k (refreshed connA (RP.new.advance 2) 0) kaFromA := by
  refine ⟨by decide +kernel, ?_⟩
  rintro ⟨sq, pk, w', hd, _⟩
  have : (Packet.decode a kaFromA 42 (some kc2s) (some (RP.new.advance 2))).1 = .err .duplicatedSequence := by
    decide +kernel
  have hd' : (Packet.decode a kaFromA 42 (some kc2s) (some (RP.new.advance 2))).1 = .ok (sq, pk) := by
    have := congrArg Prod.fst hd; exact this
  rw [this] at hd'; cases hd'
/-- a datagram with a wrong tag is not authentic and leaves the timer alone -/
example : ∀ r s' c', s2late.processPacket a addrA forgedKa = .ok (r, s') → At s'.clients 0 c' →
    c'.lastPacketReceivedTime = connA.lastPacketReceivedTime := by
  intro r s' c' h hc'
  rcases refresh_only_authentic inv_s2late h (i := 0) (c := connA) rfl hc' with h1 | ⟨_, ⟨sq, pk, w', hd, _⟩, _⟩
  · exact h1
  · have : (Packet.decode a forgedKa 42 (some kc2s) (some RP.new)).1 = .err .cryptoError := by decide +kernel
    have hd' : (Packet.decode a forgedKa 42 (some kc2s) (some RP.new)).1 = .ok (sq, pk) := by
      have := congrArg Prod.fst hd; exact this
    rw [this] at hd'; cases hd'

/-- client A, connected, last packet at 0.25 s, silent server: times out 5 s + 1 ns later -/
example : cA4.update a 5000000001 =
    .ok (none, { cA4 with currentTime := 5250000001, state := .disconnected .connectionTimedOut }) :=
  client_timeout a rfl ⟨by decide, by decide, by decide⟩ (by decide)
/-- … and stays connected at exactly 5 s -/
example : cA4.updateInternalState 5000000000 = .ok (none, { cA4 with currentTime := 5250000000 }) :=
  client_keeps rfl ⟨by decide, by decide, by decide⟩ (by decide)

/-- a requesting client whose first server is silent for 5 s + 1 ns moves to the second listed address -/
example : ∃ c', cF.updateInternalState 5000000001 = .ok (none, c') ∧ c'.state = .sendingConnectionRequest ∧
    c'.serverAddr = srv2 ∧ c'.serverAddrIndex = 1 := by
  obtain ⟨c', h1, h2, h3, h4, _⟩ := failover (c := cF) (d := 5000000001) (next := srv2) (Or.inl rfl)
    ⟨by decide, by decide, by decide⟩ (by decide) (by decide) (by decide +kernel) (by decide)
  exact ⟨c', h1, h2, h3, h4⟩
/-- with a single listed address it gives up: `ConnectionRequestTimedOut` -/
example : ∃ c', cA0.updateInternalState 5000000001 = .ok (some .noMoreServers, c') ∧
    c'.state = .disconnected .connectionRequestTimedOut :=
  client_connect_timeout (c := cA0) (Or.inl rfl) ⟨by decide, by decide, by decide⟩ (by decide) (by decide)
    (Or.inr (by decide +kernel))
/-- after the token's 30 s: `ConnectTokenExpired` -/
example : cA0.updateInternalState 30000000000 =
    .ok (some .expired, { cA0 with currentTime := 30000000000, state := .disconnected .connectTokenExpired }) :=
  client_token_expired (Or.inl rfl) ⟨by decide, by decide, by decide⟩ (by decide)

/-- the converse direction and the keep-alive case on the same states -/
example : ∀ ad o s', s2late.updateClient a 11 = .ok (.clientDisconnected 11 ad o, s') →
    ad = addrA ∧ TimedOut connA s2late.currentTime :=
  fun ad o s' h => ⟨(server_timeout_only a inv_s2late (i := 0) (c := connA) rfl rfl h).1,
    (server_timeout_only a inv_s2late (i := 0) (c := connA) rfl rfl h).2.1⟩
example : ∀ r s', s2at5.updateClient a 11 = .ok (r, s') → r = .none ∨ ∃ out, r = .packetToSend addrA out :=
  fun r s' h => (server_keeps a inv_s2at5 (i := 0) (c := connA) rfl rfl (by decide) h).2
example : ¬ TimedOut connA 5000000000 := no_spurious_timeout (Or.inr (by decide))
example : ∃ pfx rest sq body plain, kaFromA = pfx :: rest ∧
    Packet.readSequence rest (pfx.toNat / 16) = some (sq, body) ∧
    a.open connA.receiveKey (Packet.nonce sq) (Packet.additionalData pfx s2.protocolId) body = some plain ∧
    connA.replayProtection.alreadyReceived sq = false :=
  authentic_means ⟨2, .keepAlive 0 0, RP.new.advance 2, by decide +kernel, Or.inl rfl⟩
/-- the forged keep-alive: the AEAD does not open it -/
example : ¬ Authentic a s2 connA forgedKa := forged_or_replayed_not_authentic (by
  intro pfx rest sq body hb hrs
  simp only [forgedKa, List.cons.injEq] at hb
  obtain ⟨rfl, rfl⟩ := hb
  have h1 : Packet.readSequence (3 :: (leBytes 0 4 ++ leBytes 0 4 ++ List.replicate 15 0 ++ [1])) ((20 : UInt8).toNat / 16)
      = some (3, leBytes 0 4 ++ leBytes 0 4 ++ List.replicate 15 0 ++ [1]) := by decide +kernel
  rw [h1] at hrs
  simp only [Option.some.injEq, Prod.mk.injEq] at hrs
  obtain ⟨rfl, rfl⟩ := hrs
  left
  decide +kernel)
example : ∃ r s' c', s2.processPacket a addrA kaFromA = .ok (r, s') ∧ At s'.clients 0 c' ∧
    c'.lastPacketReceivedTime = s2.currentTime ∧ ident c' = ident connA ∧ sessions s'.clients = sessions s2.clients :=
  authentic_refreshes inv_s2 (by decide) (by decide) (i := 0) (c := connA) rfl rfl
    ⟨2, .keepAlive 0 0, RP.new.advance 2, by decide +kernel, Or.inl rfl⟩
/-- a requesting client 1 s into its 30 s token, 5 s timeout: goes on -/
example : cA0.updateInternalState 1000000000 = .ok (none, { cA0 with currentTime := 1000000000 }) :=
  client_connecting_continues (Or.inl rfl) ⟨by decide, by decide, by decide⟩ (by decide) (by decide)
/-- the keep-alive moved client A's receive timer (`cA3` → `cA4`): it decoded under the server-to-client key -/
example : ∃ sq pk w', Packet.decode a kaA cA3.connectToken.protocolId (some cA3.connectToken.serverToClientKey)
    (some cA3.replayProtection) = (.ok (sq, pk), w') ∧ cA4.lastPacketReceivedTime = cA3.currentTime :=
  client_refresh_only_decoded cA_keepalive (by decide)

end Examples
end RenetVerif.C18
