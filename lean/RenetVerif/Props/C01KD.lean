/-
  C01 — LIVENESS, the k-ROUND bound: "the flush of a round is non-empty" (a schedule fact in Props/C01KC.lean) is
  DERIVED for every round that starts with a non-empty backlog.  Definitions and proofs: Lemmas/FlushCount.lean.

  THE CIRCLE: in C01KC `su.a.CountersOK` (`flushSeq ≤ 2^62`) is derived from "the flush is non-empty", while every
  lemma that shows the flush non-empty assumes `CountersOK`.  It is broken by a bound on the NUMBER of packets of one
  flush that needs no hypothesis at all:

  (1) `flush_count` / `flush_seq_units`.  `Conn.units c` = over the channel order: for a reliable send channel the
      stored small messages + the slice counts `n` of the stored sliced messages + 1, for an unreliable one the queued
      small messages + the slice counts of the queued sliced ones + 1.  One flush emits at most `units + 1` packets
      (ack packet included), so `flushSeq ≤ packetSeq + units + 1` from the send-side invariant alone.
      Two remarks on the unit count, both deliberate over-approximations (upper bounds, never used as equalities):
        * a stored sliced message counts all its `n` slices, not only the un-acknowledged ones;
        * `+ 1` per channel, not per connection: the code flushes the small-message accumulator when
          `small_messages_bytes + serialized_size > SLICE_SIZE` WITHOUT testing that it is non-empty, so the first small
          message of a flush whose serialised size alone exceeds `SLICE_SIZE` (payload 1198..1200 bytes) emits an
          EMPTY `SmallReliable` packet before its own — one stored small message, two packets (`empty_small_packet`).
      Units never grow except by `send_message` (`FlushCount.keptC_units`): ack processing releases, a flush re-stamps.
  (2) `flush_nonempty`: in a reachable state, after `update dt` with `dt ≥ resend_time`, a NON-EMPTY backlog on channel
      `ch`, `SLICE_SIZE` bytes of budget at its turn and head-room `packetSeq + units + 1 ≤ 2^62` give
      `flushPk su.a ≠ []` — no hypothesis on the code's counters after the initial state.
  (3) `k_round_delivery_closed3_partial` (+ `_unordered`, `_single`): the k-round theorems with
        `RoundsSched3` = `RoundsSched2` where `r.ks ≠ []` is asked ONLY of a round that starts with an EMPTY backlog,
        `HeadRoom3`    = `HeadRoom2` with `seqA : packetSeq + k * (units + 1) ≤ 2^62` (units of the INITIAL state).
      `one_round_delivery_closed3`: one round from a non-empty backlog — NO clause about `r.ks` being non-empty.

  WHAT REMAINS, and why.  A round that starts with an EMPTY backlog (the bound `k * (B - SLICE_SIZE + 1) ≥ backlog`
  is not sharp, so trailing rounds may find nothing to send: round 3 of the example below) still needs `r.ks ≠ []` as
  a schedule fact: A's flush then consists of at most its ack packet, `Rounds.back` (Props/C01K) demands that B holds
  something to acknowledge in EVERY round, and with `r.ks = []` and an empty `outB` the operation `deliverToA r.ai`
  of the round is not even defined.  The k-round theorem whose round list is cut at the first round with an empty
  backlog, with no such clause: Props/C01KE.lean, `k_round_delivery_closed4`.  The coarse `acks` inequality (with
  `kTotal`, repetitions counted) stays for the reason given in note (B) of Props/C01KC.lean.
  The theorems are proved from `C01K.k_round_delivery` through `FlushCount.rounds_of_sched3` (as the `_closed2` ones go
  through `rounds_of_sched2`), NOT through `k_round_delivery_closed2`: `HeadRoom2.seqA` counts the datagrams the
  schedule hands over WITH repetitions (`kTotal`), which `k * (units + 1)` does not bound.
-/
import RenetVerif.Props.C01KC
import RenetVerif.Lemmas.FlushCount
namespace RenetVerif.C01KD
open RenetVerif C RenetVerif.System RenetVerif.Live RenetVerif.LiveK RenetVerif.LiveKC RenetVerif.FlushCount

/-- **One flush emits at most `units + 1` packets** (the `+ 1`: the ack packet).  No hypothesis. -/
theorem flush_count (c : Conn) : (flushPk c).length ≤ c.units + 1 := by
  unfold flushPk
  split
  · exact Nat.zero_le _
  · cases hl : Conn.chanLoop c.now c.order (c.sendRel, c.sendUnrel, [], c.packetSeq, c.budget) with
    | ok r =>
      obtain ⟨sr, su, pk0, seq0, avail⟩ := r
      obtain ⟨hcnt, -⟩ := FlushCount.chanLoop_count _ _ _ _ _ _ _ _ _ _ _ _ hl
      simp only [List.length_nil, Nat.zero_add] at hcnt
      dsimp only
      unfold Conn.units
      split
      · split
        · omega
        · simp only [List.length_append, List.length_cons, List.length_nil]; omega
      · exact Nat.zero_le _
    | err e => exact e.elim
    | panic m => exact Nat.zero_le _

/-- **The channel loop appends at most `ordUnits` packets**, whatever the maps, the order and the budget. -/
theorem chanLoop_count (now : Nat) (ord : List (Bool × Nat)) (sr sr' : SMap SendRel) (su su' : SMap SendUnrel)
    (pk pk' : List Packet) (seq avail seq' avail' : Nat)
    (h : Conn.chanLoop now ord (sr, su, pk, seq, avail) = .ok (sr', su', pk', seq', avail')) :
    pk'.length ≤ pk.length + ordUnits sr su ord :=
  (FlushCount.chanLoop_count now ord sr su pk seq avail sr' su' pk' seq' avail' h).1

/-- **`flushSeq ≤ packetSeq + units + 1` in every reachable state, for both endpoints** — no counter hypothesis. -/
theorem flush_seq_units (cfg : Cfg) (ops : List SysOp) (s : Sys) (hr : (Sys.init cfg).run ops = some s) :
    s.a.flushSeq ≤ s.a.packetSeq + s.a.units + 1 ∧ s.b.flushSeq ≤ s.b.packetSeq + s.b.units + 1 := by
  obtain ⟨pk, h1, -⟩ := system_inv cfg ops s hr
  exact ⟨flushSeq_le_units _, flushSeq_le_units _⟩

/-- operations other than `sendA` never raise A's units -/
theorem units_mono (cfg : Cfg) (ops : List SysOp) (s : Sys) (hr : (Sys.init cfg).run ops = some s)
    (ops' : List SysOp) (s' : Sys) (hr' : s.run ops' = some s') (hno : ∀ op ∈ ops', ∀ ch m, op ≠ .sendA ch m) :
    s'.a.units ≤ s.a.units := by
  obtain ⟨pk, h1, -⟩ := system_inv cfg ops s hr
  exact units_run cfg ops' s s' pk h1 hr' hno

/-- **A's flush is non-empty.**  Reachable `s`, A live, channel `ch` stores something, the clock advances by at least the
    resend time, `SLICE_SIZE` bytes are left at the channel's turn; head-room on `s`: static counters and
    `packetSeq + units + 1 ≤ 2^62`.  Then A's counters are in range after the update and its flush emits a packet. -/
theorem flush_nonempty (cfg : Cfg) (ops : List SysOp) (s : Sys) (hr : (Sys.init cfg).run ops = some s)
    (hda : s.a.isDisconnected = false) (ch : Nat) (sA : SendRel) (hfA : SMap.find? s.a.sendRel ch = some sA)
    (hne : sA.unacked ≠ []) (dt : Nat) (hdt : sA.resend ≤ dt) (su : Sys) (hsu : s.step (.updA dt) = some su)
    (hav : SLICE_SIZE ≤ availAtTurn su.a ch)
    (hst : StaticOK s.a) (hseq : s.a.packetSeq + s.a.units + 1 ≤ Varint.MAX + 1) :
    su.a.CountersOK ∧ flushPk su.a ≠ [] := by
  obtain ⟨hcA, -, -, h⟩ := tick_facts cfg ch ops s hr hda sA hfA dt hdt su hsu hst hseq
  exact ⟨hcA, h hne hav⟩

/-- **C01 liveness, k rounds, side conditions closed (3).**  As `C01KC.k_round_delivery_closed2`, without
    `r.ks ≠ []` for every round that starts with a non-empty backlog (derived: `flush_nonempty`); A's head-room is
    `s.a.packetSeq + k * (s.a.units + 1) ≤ 2^62`.  REMAINING: standing hypotheses; `RoundsSched3` (timer, drain,
    `SchedBytes`, all/exact, `r.ai = ackIdx u`, and `r.ks ≠ []` only for a round starting with an EMPTY backlog);
    `HeadRoom3` on the initial state.
    `_partial`: the clause `r.ks ≠ []` stays for rounds that start with an EMPTY backlog (see WHAT REMAINS in the
    header; `one_round_delivery_closed3` has no such clause). -/
theorem k_round_delivery_closed3_partial (cfg : Cfg) (ops : List SysOp) (s : Sys) (hr : (Sys.init cfg).run ops = some s)
    (hda : s.a.isDisconnected = false) (hdb : s.b.isDisconnected = false)
    (ch : Nat) (ho : cfg.Ordered ch) (sA : SendRel) (hfA : SMap.find? s.a.sendRel ch = some sA)
    (rB : RecvRel) (hfB : SMap.find? s.b.recvRel ch = some rB) (H3 : Room (s.submitted ch) rB)
    (B : Nat) (hSB : SLICE_SIZE ≤ B)
    (rs : List RoundP) (hRS : RoundsSched3 ch (SchedBytes ch B) s rs) (hH : HeadRoom3 cfg s rs)
    (hk1 : rs ≠ []) (hk : backlog sA.unacked ≤ rs.length * (B - SLICE_SIZE + 1)) :
    ∃ u, s.run (roundsOps ch rs) = some u ∧ u.a.isDisconnected = false ∧ u.b.isDisconnected = false ∧
      u.submitted ch = s.submitted ch ∧ u.obtained ch = s.submitted ch :=
  C01K.k_round_delivery cfg ops s hr hda hdb ch ho sA hfA rB hfB H3 B hSB rs
    (rounds_of_sched3 cfg ch true ho (SchedBytes ch B) (fun _ _ _ h => ⟨h.1, Nat.le_trans hSB h.2⟩)
      rs ops s sA rB hr (Standing.of_reach hr hda hdb hfA hfB H3) hRS hH)
    hk1 hk

/-- **Single-channel configuration, side conditions closed (3).**  No scheduling hypothesis.  `_partial` for the same
    reason as `k_round_delivery_closed3_partial`: `r.ks ≠ []` stays for rounds starting with an empty backlog. -/
theorem k_round_delivery_single_closed3_partial (cfg : Cfg) (ops : List SysOp) (s : Sys) (hr : (Sys.init cfg).run ops = some s)
    (hda : s.a.isDisconnected = false) (hdb : s.b.isDisconnected = false)
    (ch : Nat) (hsingle : Single cfg ch) (sA : SendRel) (hfA : SMap.find? s.a.sendRel ch = some sA)
    (rB : RecvRel) (hfB : SMap.find? s.b.recvRel ch = some rB) (H3 : Room (s.submitted ch) rB)
    (hSB : SLICE_SIZE ≤ cfg.budget)
    (rs : List RoundP) (hRS : RoundsSched3 ch (fun _ => True) s rs) (hH : HeadRoom3 cfg s rs)
    (hk1 : rs ≠ []) (hk : backlog sA.unacked ≤ rs.length * (cfg.budget - SLICE_SIZE + 1)) :
    ∃ u, s.run (roundsOps ch rs) = some u ∧ u.a.isDisconnected = false ∧ u.b.isDisconnected = false ∧
      u.submitted ch = s.submitted ch ∧ u.obtained ch = s.submitted ch :=
  C01K.k_round_delivery_single cfg ops s hr hda hdb ch hsingle sA hfA rB hfB H3 hSB rs
    (rounds_of_sched3 cfg ch true (single_ordered hsingle) (fun _ => True)
      (fun ops' su hr' _ => by
        obtain ⟨pkU, hU, -⟩ := system_inv cfg ops' su hr'
        exact ⟨single_only hU.invA.1 (single_order hsingle hU), by rw [single_avail hsingle hU]; exact hSB⟩)
      rs ops s sA rB hr (Standing.of_reach hr hda hdb hfA hfB H3) hRS hH)
    hk1 hk

/-- **C02 liveness, k rounds (ReliableUnordered), side conditions closed (3).**  `_partial` for the same reason as
    `k_round_delivery_closed3_partial`: `r.ks ≠ []` stays for rounds starting with an empty backlog. -/
theorem k_round_delivery_unordered_closed3_partial (cfg : Cfg) (ops : List SysOp) (s : Sys) (hr : (Sys.init cfg).run ops = some s)
    (hda : s.a.isDisconnected = false) (hdb : s.b.isDisconnected = false)
    (ch : Nat) (ho : cfg.Unordered ch) (sA : SendRel) (hfA : SMap.find? s.a.sendRel ch = some sA)
    (rB : RecvRel) (hfB : SMap.find? s.b.recvRel ch = some rB) (H3 : Room (s.submitted ch) rB)
    (B : Nat) (hSB : SLICE_SIZE ≤ B)
    (rs : List RoundP) (hRS : RoundsSched3 ch (SchedBytes ch B) s rs) (hH : HeadRoom3 cfg s rs)
    (hk1 : rs ≠ []) (hk : backlog sA.unacked ≤ rs.length * (B - SLICE_SIZE + 1)) :
    ∃ u, s.run (roundsOps ch rs) = some u ∧ u.a.isDisconnected = false ∧ u.b.isDisconnected = false ∧
      u.submitted ch = s.submitted ch ∧ (u.obtained ch).Perm (s.submitted ch) :=
  C01K.k_round_delivery_unordered cfg ops s hr hda hdb ch ho sA hfA rB hfB H3 B hSB rs
    (rounds_of_sched3 cfg ch false ho (SchedBytes ch B) (fun _ _ _ h => ⟨h.1, Nat.le_trans hSB h.2⟩)
      rs ops s sA rB hr (Standing.of_reach hr hda hdb hfA hfB H3) hRS hH)
    hk1 hk

/-- **ONE round from a non-empty backlog: no hypothesis about `r.ks` being non-empty.**  The schedule facts
    `RoundSched0` are timer, drain, `SchedBytes`, all/exact and `r.ai = ackIdx u`; the head-room is
    `packetSeq + units + 1 ≤ 2^62` (and B's, and the ack cap).  One round offering `B ≥ backlog + SLICE_SIZE - 1` bytes
    delivers everything. -/
theorem one_round_delivery_closed3 (cfg : Cfg) (ops : List SysOp) (s : Sys) (hr : (Sys.init cfg).run ops = some s)
    (hda : s.a.isDisconnected = false) (hdb : s.b.isDisconnected = false)
    (ch : Nat) (ho : cfg.Ordered ch) (sA : SendRel) (hfA : SMap.find? s.a.sendRel ch = some sA)
    (hne : sA.unacked ≠ [])
    (rB : RecvRel) (hfB : SMap.find? s.b.recvRel ch = some rB) (H3 : Room (s.submitted ch) rB)
    (B : Nat) (hSB : SLICE_SIZE ≤ B)
    (r : RoundP) (hRS : RoundSched0 ch (SchedBytes ch B) s r) (hH : HeadRoom3 cfg s [r])
    (hk : backlog sA.unacked ≤ B - SLICE_SIZE + 1) :
    ∃ u, s.run (roundsOps ch [r]) = some u ∧ u.a.isDisconnected = false ∧ u.b.isDisconnected = false ∧
      u.submitted ch = s.submitted ch ∧ u.obtained ch = s.submitted ch :=
  k_round_delivery_closed3_partial cfg ops s hr hda hdb ch ho sA hfA rB hfB H3 B hSB [r] (roundsSched3_one hRS hfA hne) hH
    (by simp) (by simpa using hk)

/-! ## non-vacuity

  `C01K.ExS`: 3000 bytes per tick vs. a 3-byte message and a 3700-byte sliced message (4 slices), backlog 4803, `k = 3`.
  `s.a.units = 1 + 4 + 1 = 6`, so the head-room is `0 + 3 * 7 ≤ 2^62`, `0 + 3 ≤ 2^62`, `0 + 7 < 64`.  Rounds 1 and 2
  start with a non-empty backlog (2 resp. 1 stored entries): `r.ks ≠ []` is DERIVED there.  Round 3 starts with an
  empty backlog (everything was delivered after two rounds; the bound asks for three): there the schedule facts still
  ask for `r3.ks = [6] ≠ []` — the datagram is A's ack packet; they are those of `C01KC.ExS`. -/
namespace ExS
open C01K.ExS

theorem roundsSched3 : RoundsSched3 0 (fun _ => True) s [r1, r2, r3] :=
  roundsSched3_of_roundsSched2 _ _ C01KC.ExS.roundsSched2

theorem headRoom3 : HeadRoom3 cfg s [r1, r2, r3] := all.2.2.1.1

/-- the numbers behind `headRoom3`, the packets of the three flushes of A (`≤ units + 1 = 7`), and the stored entries
    at the start of rounds 1, 2, 3 -/
example : s.a.units = 6 ∧ s.a.packetSeq = 0 ∧ s.a.flushSeq = 4 ∧
    ((s.step (.updA 1000)).map (fun su => (flushPk su.a).length)) = some 3 ∧
    sA.unacked.length = 2 ∧
    (s.run (roundsOps 0 [r1])).map (fun u => (SMap.find? u.a.sendRel 0).map (fun x => (x.unacked.length, u.a.units))) =
      some (some (1, 5)) ∧
    (s.run (roundsOps 0 [r1, r2])).map (fun u => (SMap.find? u.a.sendRel 0).map (fun x => (x.unacked.length, u.a.units))) =
      some (some (0, 1)) := all.2.2.1.2.1

/-- **`k_round_delivery_single_closed3_partial` applied with `k = 3`**: `4803 ≤ 3 * (3000 - 1200 + 1)` -/
theorem delivered3 : ∃ u, s.run (roundsOps 0 [r1, r2, r3]) = some u ∧ u.a.isDisconnected = false ∧
    u.b.isDisconnected = false ∧ u.submitted 0 = s.submitted 0 ∧ u.obtained 0 = s.submitted 0 :=
  k_round_delivery_single_closed3_partial cfg ops s run_s start.1 start.2.1 0 single0 sA find_sA rB find_rB start.2.2.1 (by decide)
    [r1, r2, r3] roundsSched3 headRoom3 (by simp) (by rw [start.2.2.2.1]; decide)

/-- `flush_nonempty` on the first round of that run: the hypotheses hold, so does the conclusion -/
example : ∃ su, s.step (.updA 1000) = some su ∧ su.a.CountersOK ∧ flushPk su.a ≠ [] := by
  obtain ⟨pk, h1, -⟩ := system_inv cfg ops s run_s
  obtain ⟨su, hsu⟩ := updA_step h1 1000
  have hav : SLICE_SIZE ≤ availAtTurn su.a 0 := by
    obtain ⟨pku, h1u, -⟩ := system_inv cfg _ su (run_snoc run_s hsu)
    rw [single_avail single0 h1u]; decide
  obtain ⟨hne, hdt, hseq⟩ := all.2.2.1.2.2
  exact ⟨su, hsu, flush_nonempty cfg ops s run_s start.1 0 sA find_sA hne 1000 hdt su hsu hav headRoom3.staticA hseq⟩

end ExS

/-! `C01K.ExU` — ReliableUnordered channel, reverse order, one datagram twice in round 2: `kTotal = 8` -/
namespace ExU
open C01K.ExU

theorem roundsSched3 : RoundsSched3 0 (SchedBytes 0 3000) s [r1, r2, r3] :=
  roundsSched3_of_roundsSched2 _ _ (roundsSched2_of_roundsSched _ _ C01KC.ExU.roundsSched)

theorem delivered3 : ∃ u, s.run (roundsOps 0 [r1, r2, r3]) = some u ∧ u.a.isDisconnected = false ∧
    u.b.isDisconnected = false ∧ u.submitted 0 = s.submitted 0 ∧ (u.obtained 0).Perm (s.submitted 0) :=
  k_round_delivery_unordered_closed3_partial cfg ops s run_s start.1 start.2.1 0 unordered0 sA find_sA rB find_rB start.2.2.1 3000
    (by decide) [r1, r2, r3] roundsSched3 all.2.1.2.2.2 (by simp) (by rw [start.2.2.2.1]; decide)

end ExU

/-! one round, nothing assumed about `r.ks`: 3000 bytes per tick, one 3-byte message (backlog 3 ≤ 3000 - 1200 + 1);
    the schedule hands B the datagram(s) of A's flush — `roundSched0b` does NOT test that there is one -/
namespace Ex1

def cfg : Cfg := ⟨3000, [⟨0, .ordered, 100000, 100⟩], [⟨0, .ordered, 100000, 100⟩]⟩
def ops : List SysOp := [.sendA 0 [1, 2, 3]]
def r : RoundP := ⟨1000, [0], 1, 0⟩
def s : Sys := ((Sys.init cfg).run ops).getD (Sys.init cfg)
def sA : SendRel := (SMap.find? s.a.sendRel 0).getD (SendRel.new 0 0 0)
def rB : RecvRel := (SMap.find? s.b.recvRel 0).getD (RecvRel.new 0 true)

/-- the state `s` and the round `r`: `ops` runs and channel 0 exists at both ends; the standing
    hypotheses and the numbers; the checkers of `RoundSched0` and of the head-room accept -/
theorem all :
    (((Sys.init cfg).run ops).isSome = true ∧ (SMap.find? s.a.sendRel 0).isSome = true ∧
      (SMap.find? s.b.recvRel 0).isSome = true) ∧
    (s.a.isDisconnected = false ∧ s.b.isDisconnected = false ∧ Room (s.submitted 0) rB ∧
      backlog sA.unacked = 3 ∧ sA.unacked ≠ [] ∧ s.a.units = 2) ∧
    roundSched0b 0 (fun su => decide (SchedBytes 0 3000 su)) s r = true ∧ HeadRoom3 cfg s [r] := by
  decide +kernel

theorem run_s : (Sys.init cfg).run ops = some s := some_getD all.1.1 _
theorem find_sA : SMap.find? s.a.sendRel 0 = some sA := some_getD all.1.2.1 _
theorem find_rB : SMap.find? s.b.recvRel 0 = some rB := some_getD all.1.2.2 _

theorem delivered : ∃ u, s.run (roundsOps 0 [r]) = some u ∧ u.a.isDisconnected = false ∧
    u.b.isDisconnected = false ∧ u.submitted 0 = s.submitted 0 ∧ u.obtained 0 = s.submitted 0 := by
  obtain ⟨-, ⟨hda, hdb, H3, hk, hne, -⟩, hRS, hH⟩ := all
  exact one_round_delivery_closed3 cfg ops s run_s hda hdb 0 (single_ordered ⟨_, _, rfl⟩) sA find_sA hne rB find_rB H3 3000
    (by decide) r (roundSched0_of_b (fun _ => of_decide_eq_true) hRS) hH (by rw [hk]; decide)

end Ex1

/-! the empty `SmallReliable` packet behind the `+ 1` per reliable channel: ONE stored small message of 1200 bytes (its
    serialised size 1200 + 2 + 1 exceeds `SLICE_SIZE`) makes the channel emit TWO packets, the first with no message -/
theorem empty_small_packet :
    ((SendRel.new 0 100 100000).sendMessage (List.replicate 1200 7)).toOption.map
      (fun s => (mapUnits s.unacked, relUnits s, (s.getPackets 5 3000 0).2.1.map
        (fun p => match p with | .smallReliable sq _ msgs => (sq, msgs.length) | _ => (0, 99)))) =
      some (1, 2, [(5, 0), (6, 1)]) := by decide +kernel

end RenetVerif.C01KD
