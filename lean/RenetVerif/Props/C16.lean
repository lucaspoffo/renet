/-
  C16 — wire formats round-trip; an acknowledgement packet denotes exactly the recorded set.
  (renet message-layer part; the netcode/token part is in Props/C16N.lean)
-/
import RenetVerif.Lemmas.PacketRT
import RenetVerif.Lemmas.Acks
namespace RenetVerif.C16

/-- QUIC varints: decoding the canonical encoding of any value the library can write (≤ 2^62-1),
    followed by arbitrary bytes, yields the value and those bytes. -/
theorem varint_roundtrip (v : Nat) (rest : Bytes) (h : v ≤ Varint.MAX) :
    Varint.get (Varint.enc v ++ rest) = some (v, rest) := Varint.get_enc v rest h

/-- Every well-formed message-layer packet (all five kinds, any field magnitudes up to 2^62-1, any
    number < 65536 of messages of any length, any well-formed range list) serialises without
    failure and deserialises to itself. -/
theorem packet_roundtrip (p : Packet) (h : p.WF) :
    ∃ b, p.enc = .ok b ∧ Packet.fromBytes b = .ok p := Packet.fromBytes_enc p h

/-- … also through the fixed-size buffer: whenever `to_bytes` succeeds the result decodes to `p`,
    and it fails with `BufferTooShort` (never a panic) exactly when the encoding exceeds the buffer. -/
theorem packet_roundtrip_buffer (cap : Nat) (p : Packet) (h : p.WF) :
    (∃ b, p.toBytes cap = .ok b ∧ b.length ≤ cap ∧ Packet.fromBytes b = .ok p) ∨
    (p.toBytes cap = .err .bufferTooShort ∧ ∃ b, p.enc = .ok b ∧ cap < b.length) := by
  obtain ⟨b, hb, hd⟩ := packet_roundtrip p h
  by_cases hc : b.length ≤ cap
  · left; exact ⟨b, by simp [Packet.toBytes, hb, hc], hc, hd⟩
  · right; exact ⟨by simp [Packet.toBytes, hb, hc], b, hb, by omega⟩

/-- The pending-ack list an endpoint keeps is always sorted, disjoint and non-adjacent, whatever
    sequence numbers arrive in whatever order, and however acknowledgements of acknowledgements
    trim it. -/
theorem pending_acks_wf (cap : Nat) (l : List AckRange) (h : Acks.WF l) (seq largest : Nat) :
    Acks.WF (Acks.add cap seq l) ∧ Acks.WF (Acks.ackedLargest largest l) :=
  ⟨Acks.add_wf cap seq l h, Acks.ackedLargest_wf largest l h⟩

/-- Recording a sequence number adds exactly that number to the denoted set (below the range cap;
    at the cap the oldest range is dropped, `C08.pending_acks_only_received` bounds that case). -/
theorem pending_acks_exact (cap seq : Nat) (l : List AckRange) (h : Acks.WF l) (hl : l.length < cap) (x : Nat) :
    Acks.Mem x (Acks.add cap seq l) ↔ (Acks.Mem x l ∨ x = seq) := Acks.add_mem_iff cap seq l h hl x

/-- An ack packet built from a well-formed pending list decodes to exactly that list — so it denotes
    exactly the recorded set. -/
theorem ack_packet_denotes (seq : Nat) (l : List AckRange) (hs : seq ≤ Varint.MAX) (hne : l ≠ [])
    (h : Acks.WF l) (hb : ∀ r ∈ l, r.2 ≤ Varint.MAX + 1) :
    ∃ b, (Packet.ack seq l).enc = .ok b ∧ Packet.fromBytes b = .ok (Packet.ack seq l) :=
  packet_roundtrip (.ack seq l) ⟨hs, Acks.ackWF_of_wf l hne h hb⟩

/-- non-vacuity: a concrete non-trivial pending list (single-element range, gap of exactly one)
    meets the hypotheses, and a concrete packet of each kind is well-formed. -/
example : Acks.WF [(0, 1), (2, 5), (7, 8)] ∧ (∀ r ∈ [((0 : Nat), (1 : Nat)), (2, 5), (7, 8)], r.2 ≤ Varint.MAX + 1) := by
  refine ⟨by simp [Acks.WF], ?_⟩
  intro r hr; simp at hr; rcases hr with rfl | rfl | rfl <;> simp [Varint.MAX]
example : (Packet.smallReliable 16384 2 [(63, [1, 2, 3]), (64, [])]).WF := by
  refine ⟨by simp [Varint.MAX], by omega, by simp, ?_⟩
  intro x hx; simp at hx; rcases hx with rfl | rfl <;> simp [Varint.MAX]
example : (Packet.reliableSlice 5 2 ⟨0, 1, 2, [9]⟩).WF := by
  simp [Packet.WF, Varint.MAX, C.MAX_NUM_SLICES, C.SLICE_SIZE]

end RenetVerif.C16
