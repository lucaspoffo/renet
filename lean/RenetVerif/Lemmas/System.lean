/-
  A two-endpoint SYSTEM built from the validated model functions, and the invariants that compose the
  per-function results (sender side: Lemmas/Flush, Lemmas/SendInv; wire: Lemmas/PacketRT, Lemmas/DecodeWF;
  receiver side: Lemmas/DataPath) into end-to-end statements (Props/C01S.lean).

  The system is a proof-side wrapper, not part of the validated model: endpoint `a` and endpoint `b` are
  two `Conn`s; every operation calls exactly one model function; the "network" is the pair of emission
  histories `outA`/`outB`, from which ANY already-emitted datagram may be handed to the peer at any time
  (loss = never handed over, duplication = handed over twice, delay/reordering = any order).
  Ghost fields record what the sending application submitted and what the receiving application obtained.
-/
import RenetVerif.Lemmas.DataPath
import RenetVerif.Lemmas.Flush
import RenetVerif.Lemmas.SendInv
import RenetVerif.Lemmas.Kept
import RenetVerif.Lemmas.PacketRT
import RenetVerif.Lemmas.DecodeWF
import RenetVerif.Lemmas.ResMonad
import RenetVerif.Props.C08
namespace RenetVerif.System
open RenetVerif C

/-- `send`: channels A → B (A's send configuration = B's receive configuration); `recv`: channels B → A -/
structure Cfg where
  budget : Nat
  send : List ChanCfg
  recv : List ChanCfg

structure Sys where
  a : Conn
  b : Conn
  /-- every datagram ever emitted by A resp. B, in emission order -/
  outA : List Bytes
  outB : List Bytes
  /-- ghost: per channel id, the messages A's application submitted that the reliable channel accepted -/
  submitted : Nat → List Bytes
  /-- ghost: per channel id, the messages A's application passed to `send_message` on the UNRELIABLE channel of that id
      (whether the queue kept them or dropped them for lack of memory) -/
  submittedU : Nat → List Bytes
  /-- ghost: per channel id, the messages B's application obtained -/
  obtained : Nat → List Bytes
  /-- ghost: indices into `outA` of the datagrams handed to B so far -/
  deliveredToB : List Nat

inductive SysOp where
  | sendA (ch : Nat) (m : Bytes)
  | recvB (ch : Nat)
  | updA (dt : Nat)
  | updB (dt : Nat)
  | flushA
  | flushB
  | deliverToB (k : Nat)
  | deliverToA (k : Nat)
  deriving Repr, DecidableEq

def push (f : Nat → List Bytes) (ch : Nat) (m : Bytes) : Nat → List Bytes :=
  fun c => if c = ch then f c ++ [m] else f c

def Sys.init (cfg : Cfg) : Sys :=
  { a := Conn.fromChannels cfg.budget cfg.send cfg.recv
    b := Conn.fromChannels cfg.budget cfg.recv cfg.send
    outA := [], outB := [], submitted := fun _ => [], submittedU := fun _ => [], obtained := fun _ => [], deliveredToB := [] }

/-- the message was accepted into `unacked` of reliable channel `ch` -/
def accepted (a a' : Conn) (ch : Nat) : Bool :=
  !a.isDisconnected && (SMap.find? a.sendRel ch).isSome && !a'.isDisconnected

def offeredU (a : Conn) (ch : Nat) : Bool :=
  !a.isDisconnected && (SMap.find? a.sendRel ch).isNone && (SMap.find? a.sendUnrel ch).isSome

/-- one operation; `none` = the model function panicked or the index is out of range -/
def Sys.step (s : Sys) : SysOp → Option Sys
  | .sendA ch m =>
    match s.a.sendMessage ch m with
    | .ok a' => some { s with a := a', submitted := if accepted s.a a' ch then push s.submitted ch m else s.submitted,
                              submittedU := if offeredU s.a ch then push s.submittedU ch m else s.submittedU }
    | _ => none
  | .recvB ch =>
    match s.b.receiveMessage ch with
    | .ok (b', some m) => some { s with b := b', obtained := push s.obtained ch m }
    | .ok (b', none) => some { s with b := b' }
    | _ => none
  | .updA dt =>
    match s.a.update dt with
    | .ok a' => some { s with a := a' }
    | _ => none
  | .updB dt =>
    match s.b.update dt with
    | .ok b' => some { s with b := b' }
    | _ => none
  | .flushA =>
    match s.a.getPacketsToSend with
    | .ok (a', bs) => some { s with a := a', outA := s.outA ++ bs }
    | _ => none
  | .flushB =>
    match s.b.getPacketsToSend with
    | .ok (b', bs) => some { s with b := b', outB := s.outB ++ bs }
    | _ => none
  | .deliverToB k =>
    match s.outA[k]? with
    | none => none
    | some bytes =>
      match s.b.processPacket bytes with
      | .ok b' => some { s with b := b', deliveredToB := s.deliveredToB ++ [k] }
      | _ => none
  | .deliverToA k =>
    match s.outB[k]? with
    | none => none
    | some bytes =>
      match s.a.processPacket bytes with
      | .ok a' => some { s with a := a' }
      | _ => none

def Sys.run (s : Sys) : List SysOp → Option Sys
  | [] => some s
  | op :: ops =>
    match s.step op with
    | some s' => s'.run ops
    | none => none

inductive Step (s : Sys) : SysOp → Sys → Prop
  | sendA {ch : Nat} {m : Bytes} {a' : Conn} : s.a.sendMessage ch m = .ok a' → Step s (.sendA ch m)
      { s with a := a', submitted := if accepted s.a a' ch then push s.submitted ch m else s.submitted,
               submittedU := if offeredU s.a ch then push s.submittedU ch m else s.submittedU }
  /-- both outcomes of `receive_message` (a message, or none): `obtained_recv` says what the new `obtained` is -/
  | recvB {ch : Nat} {b' : Conn} {mo : Option Bytes} : s.b.receiveMessage ch = .ok (b', mo) → Step s (.recvB ch)
      { s with b := b', obtained := mo.elim s.obtained (push s.obtained ch) }
  | updA {dt : Nat} {a' : Conn} : s.a.update dt = .ok a' → Step s (.updA dt) { s with a := a' }
  | updB {dt : Nat} {b' : Conn} : s.b.update dt = .ok b' → Step s (.updB dt) { s with b := b' }
  | flushA {a' : Conn} {bs : List Bytes} : s.a.getPacketsToSend = .ok (a', bs) → Step s .flushA
      { s with a := a', outA := s.outA ++ bs }
  | flushB {b' : Conn} {bs : List Bytes} : s.b.getPacketsToSend = .ok (b', bs) → Step s .flushB
      { s with b := b', outB := s.outB ++ bs }
  | deliverToB {k : Nat} {bytes : Bytes} {b' : Conn} : s.outA[k]? = some bytes → s.b.processPacket bytes = .ok b' →
      Step s (.deliverToB k) { s with b := b', deliveredToB := s.deliveredToB ++ [k] }
  | deliverToA {k : Nat} {bytes : Bytes} {a' : Conn} : s.outB[k]? = some bytes → s.a.processPacket bytes = .ok a' →
      Step s (.deliverToA k) { s with a := a' }

theorem stepped {s s' : Sys} {op : SysOp} (hs : s.step op = some s') : Step s op s' := by
  cases op with
  | sendA ch m =>
    simp only [Sys.step] at hs
    split at hs
    · rename_i a' hm
      cases hs; exact .sendA hm
    · cases hs
  | recvB ch =>
    simp only [Sys.step] at hs
    split at hs
    · rename_i b' m hm
      cases hs; exact .recvB hm
    · rename_i b' hm
      cases hs; exact .recvB hm
    · cases hs
  | updA dt =>
    simp only [Sys.step] at hs
    split at hs
    · rename_i a' hm
      cases hs; exact .updA hm
    · cases hs
  | updB dt =>
    simp only [Sys.step] at hs
    split at hs
    · rename_i b' hm
      cases hs; exact .updB hm
    · cases hs
  | flushA =>
    simp only [Sys.step] at hs
    split at hs
    · rename_i a' bs hm
      cases hs; exact .flushA hm
    · cases hs
  | flushB =>
    simp only [Sys.step] at hs
    split at hs
    · rename_i b' bs hm
      cases hs; exact .flushB hm
    · cases hs
  | deliverToB k =>
    simp only [Sys.step] at hs
    split at hs
    · cases hs
    · rename_i bytes hb
      split at hs
      · rename_i b' hm
        cases hs; exact .deliverToB hb hm
      · cases hs
  | deliverToA k =>
    simp only [Sys.step] at hs
    split at hs
    · cases hs
    · rename_i bytes hb
      split at hs
      · rename_i a' hm
        cases hs; exact .deliverToA hb hm
      · cases hs

def onB : SysOp → Bool
  | .recvB _ | .updB _ | .flushB | .deliverToB _ => true
  | _ => false

theorem step_leaves {s s' : Sys} {op : SysOp} (hs : s.step op = some s') :
    (onB op = true → s'.a = s.a ∧ s'.outA = s.outA ∧ s'.submitted = s.submitted ∧ s'.submittedU = s.submittedU) ∧
    (onB op = false → s'.b = s.b ∧ s'.outB = s.outB ∧ s'.obtained = s.obtained ∧ s'.deliveredToB = s.deliveredToB) ∧
    ((∀ ch m, op ≠ .sendA ch m) → s'.submitted = s.submitted ∧ s'.submittedU = s.submittedU) ∧
    (op ≠ .flushA → s'.outA = s.outA) ∧ (op ≠ .flushB → s'.outB = s.outB) ∧
    ((∀ ch, op ≠ .recvB ch) → s'.obtained = s.obtained) ∧
    ((∀ k, op ≠ .deliverToB k) → s'.deliveredToB = s.deliveredToB) := by
  cases stepped hs <;> simp [onB]

theorem step_flushA {s : Sys} {a' : Conn} {bs : List Bytes} (e : s.a.getPacketsToSend = .ok (a', bs)) :
    s.step .flushA = some { s with a := a', outA := s.outA ++ bs } := by
  simp only [Sys.step, e]

theorem Sys.run_append (s : Sys) : ∀ (a b : List SysOp), s.run (a ++ b) = (s.run a).bind (fun s' => s'.run b) := by
  intro a
  induction a generalizing s with
  | nil => intro b; rfl
  | cons op ops ih =>
    intro b
    simp only [List.cons_append, Sys.run]
    cases s.step op with
    | none => rfl
    | some s1 => exact ih s1 b

theorem run_nil {s s' : Sys} (h : s.run [] = some s') : s' = s := (Option.some.inj h).symm

theorem run_cons {s s' : Sys} {op : SysOp} {ops : List SysOp} (h : s.run (op :: ops) = some s') :
    ∃ s1, s.step op = some s1 ∧ s1.run ops = some s' := by
  simp only [Sys.run] at h
  cases hs : s.step op with
  | none => rw [hs] at h; cases h
  | some s1 => rw [hs] at h; exact ⟨s1, rfl, h⟩

theorem run_append {s u : Sys} {a b : List SysOp} (h : s.run (a ++ b) = some u) :
    ∃ t, s.run a = some t ∧ t.run b = some u := by
  rw [Sys.run_append] at h
  cases ht : s.run a with
  | none => rw [ht] at h; cases h
  | some t => rw [ht] at h; exact ⟨t, rfl, h⟩

/-- `I i x` is what is known of the state `x` reached after `i` operations.  (A predicate that does not count
    the operations, `I := fun _ x => …`, is "what every step keeps"; one that mentions the first state says how far the
    run has moved from it.) -/
theorem run_induction {I : Nat → Sys → Prop} : ∀ (ops : List SysOp) (i : Nat) {s s' : Sys},
    (∀ {j : Nat} {x x' : Sys} {op : SysOp}, op ∈ ops → I j x → x.step op = some x' → I (j + 1) x') →
    I i s → s.run ops = some s' → I (i + ops.length) s'
  | [], _, _, _, _, h, hr => by cases run_nil hr; exact h
  | op :: ops, i, _, _, hstep, h, hr => by
    obtain ⟨s1, hs, hr⟩ := run_cons hr
    rw [List.length_cons, Nat.add_comm ops.length, ← Nat.add_assoc]
    exact run_induction ops (i + 1) (fun ho => hstep (List.mem_cons_of_mem _ ho)) (hstep (List.mem_cons_self ..) h hs) hr

theorem push_same (f : Nat → List Bytes) (ch : Nat) (m : Bytes) : push f ch m ch = f ch ++ [m] := by
  simp [push]

theorem push_other (f : Nat → List Bytes) {ch ch' : Nat} (m : Bytes) (h : ch' ≠ ch) : push f ch m ch' = f ch' := by
  simp [push, h]

theorem push_prefix (f : Nat → List Bytes) (ch : Nat) (m : Bytes) : ∀ c, f c <+: push f ch m c := by
  intro c
  unfold push
  split
  · exact List.prefix_append _ _
  · exact List.prefix_refl _

theorem obtained_recv (o : Nat → List Bytes) (ch : Nat) (mo : Option Bytes) :
    mo.elim o (push o ch) ch = o ch ++ mo.toList ∧ ∀ c, c ≠ ch → mo.elim o (push o ch) c = o c := by
  cases mo with
  | none => exact ⟨(List.append_nil _).symm, fun _ _ => rfl⟩
  | some m => exact ⟨push_same o ch m, fun c e => push_other o m e⟩

theorem obtained_none {o o' : Nat → List Bytes} {ch : Nat} (h1 : o' ch = o ch ++ (none : Option Bytes).toList)
    (h2 : ∀ c, c ≠ ch → o' c = o c) : o' = o := by
  funext c
  by_cases e : c = ch
  · subst e; rw [h1]; exact List.append_nil _
  · exact h2 c e

theorem ite_push_prefix (b : Bool) (f : Nat → List Bytes) (ch : Nat) (m : Bytes) :
    ∀ c, f c <+: (if b then push f ch m else f) c := by
  intro c
  split
  · exact push_prefix f ch m c
  · exact List.prefix_refl _

theorem prefix_getElem? {α : Type} {L L' : List α} (h : L <+: L') {i : Nat} {x : α} (hx : L[i]? = some x) :
    L'[i]? = some x := by
  obtain ⟨t, rfl⟩ := h
  obtain ⟨hi, _⟩ := List.getElem?_eq_some_iff.mp hx
  rw [List.getElem?_append_left hi]; exact hx

theorem disconnectWith_of_disconnected {c : Conn} (r : Reason) (h : c.isDisconnected = true) : c.disconnectWith r = c := by
  unfold Conn.disconnectWith; rw [if_pos h]

/-! ## what each model call does to the fields the system invariants talk about -/

theorem sendMessage_cases {c c' : Conn} {ch : Nat} {m : Bytes} (h : c.sendMessage ch m = .ok c') :
    (accepted c c' ch = true ∧ ∃ s s', SMap.find? c.sendRel ch = some s ∧ s.sendMessage m = .ok s' ∧
        c' = { c with sendRel := SMap.insert c.sendRel ch s' }) ∨
    (accepted c c' ch = false ∧ c'.sendRel = c.sendRel) := by
  rcases Conn.sendMessage_outcomes h with ⟨hd, rfl⟩ | ⟨hd, s, hf, ⟨s', hs, rfl⟩ | ⟨e, -, rfl⟩⟩ | ⟨hd, hf, sU, -, rfl⟩
  · exact Or.inr ⟨by simp [accepted, hd], rfl⟩
  · have : ({ c with sendRel := SMap.insert c.sendRel ch s' } : Conn).isDisconnected = c.isDisconnected := rfl
    exact Or.inl ⟨by simp [accepted, this, hd, hf], s, s', hf, hs, rfl⟩
  · exact Or.inr ⟨by simp [accepted, SL.Conn.disconnectWith_isDisconnected], (c.disconnectWith_same _).1.1⟩
  · exact Or.inr ⟨by simp [accepted, hf], rfl⟩

theorem sendMessage_casesU {c c' : Conn} {ch : Nat} {m : Bytes} (h : c.sendMessage ch m = .ok c') :
    (offeredU c ch = true ∧ ∃ sU, SMap.find? c.sendUnrel ch = some sU ∧
        c'.sendUnrel = SMap.insert c.sendUnrel ch (sU.sendMessage m)) ∨
    (offeredU c ch = false ∧ c'.sendUnrel = c.sendUnrel) := by
  rcases Conn.sendMessage_outcomes h with ⟨hd, rfl⟩ | ⟨hd, s, hf, ⟨s', hs, rfl⟩ | ⟨e, -, rfl⟩⟩ | ⟨hd, hf, sU, hfu, rfl⟩
  · exact Or.inr ⟨by simp [offeredU, hd], rfl⟩
  · exact Or.inr ⟨by simp [offeredU, hf], rfl⟩
  · exact Or.inr ⟨by simp [offeredU, hf], (c.disconnectWith_same _).1.2.1⟩
  · exact Or.inl ⟨by simp [offeredU, hd, hf, hfu], sU, hfu, rfl⟩

theorem processPacket_data {c c' : Conn} {bytes : Bytes} (h : c.processPacket bytes = .ok c') :
    c'.isDisconnected = true ∨
    (c.isDisconnected = false ∧ ∃ p, Packet.fromBytes bytes = .ok p ∧
      match p with
      | .smallReliable _ ch msgs => c'.recvUnrel = c.recvUnrel ∧
          ∃ r r', SMap.find? c.recvRel ch = some r ∧ Conn.relMsgLoop r msgs = .ok r' ∧
            c'.recvRel = SMap.insert c.recvRel ch r'
      | .reliableSlice _ ch sl => c'.recvUnrel = c.recvUnrel ∧
          ∃ r r', SMap.find? c.recvRel ch = some r ∧ r.processSlice sl = .ok r' ∧ c'.recvRel = SMap.insert c.recvRel ch r'
      | .smallUnreliable _ ch msgs => c'.recvRel = c.recvRel ∧ ∃ r, SMap.find? c.recvUnrel ch = some r ∧
          c'.recvUnrel = SMap.insert c.recvUnrel ch (msgs.foldl RecvUnrel.processMessage r)
      | .unreliableSlice _ ch sl => c'.recvRel = c.recvRel ∧
          ∃ r r', SMap.find? c.recvUnrel ch = some r ∧ r.processSlice sl c.now = .ok r' ∧
            c'.recvUnrel = SMap.insert c.recvUnrel ch r'
      | .ack .. => c'.recvRel = c.recvRel ∧ c'.recvUnrel = c.recvUnrel) := by
  cases hd : c.isDisconnected with
  | true => rw [Conn.processPacket_dead hd] at h; cases h; exact Or.inl hd
  | false =>
    cases hp : Packet.fromBytes bytes with
    | error e =>
      rw [Conn.processPacket_garbage hp] at h
      cases h; exact Or.inl (SL.Conn.disconnectWith_isDisconnected _ _)
    | ok p =>
      refine Or.imp_right (fun y => ⟨rfl, p, rfl, y⟩) ?_
      have hfeed : ∀ {α : Type} {tbl : SMap α} {put : SMap α → Conn} {c1 : Conn} {ch : Nat} {f : α → Res (ChanErr × α) α},
          Conn.feed tbl put c1 ch f = .ok c' → c'.isDisconnected = true ∨
            ∃ r r', SMap.find? tbl ch = some r ∧ f r = .ok r' ∧ c' = put (SMap.insert tbl ch r') := by
        intro α tbl put c1 ch f h1
        rcases Conn.feed_cases h1 with ⟨-, rfl⟩ | ⟨r, r', hf, ⟨hr, rfl⟩ | ⟨e, -, rfl⟩⟩
        · exact Or.inl (SL.Conn.disconnectWith_isDisconnected _ _)
        · exact Or.inr ⟨r, r', hf, hr, rfl⟩
        · exact Or.inl (SL.Conn.disconnectWith_isDisconnected _ _)
      have h0 := h
      rw [Conn.processPacket_live hd hp] at h
      cases p <;> dsimp only [Conn.dispatch] at h
      -- the connection fed has recorded the sequence number; its channels are those of `c`
      case smallReliable | reliableSlice | unreliableSlice =>
        exact (hfeed h).imp_right fun ⟨r, r', hf, hr, e⟩ => by subst e; exact ⟨rfl, r, r', hf, hr, rfl⟩
      case smallUnreliable =>
        exact (hfeed h).imp_right fun ⟨r, r', hf, hr, e⟩ => by subst e; cases hr; exact ⟨rfl, r, hf, rfl⟩
      case ack =>
        obtain ⟨e1, e2, -⟩ := SL.Conn.processPacket_ack_frame hp h0
        exact Or.inr ⟨e1, e2⟩

theorem find_insert_push {α : Type} {P : Nat → List Bytes → α → Prop} {M : SMap α} {sub : Nat → List Bytes} {ch : Nat}
    {m : Bytes} {v : α} (hold : ∀ c x, SMap.find? M c = some x → P c (sub c) x) (hnew : P ch (sub ch ++ [m]) v) :
    ∀ c x, SMap.find? (SMap.insert M ch v) c = some x → P c (push sub ch m c) x :=
  SMap.forall_find?_insert (fun c x e hx => by rw [push_other _ _ e]; exact hold c x hx) (by rw [push_same]; exact hnew)

theorem processPacket_pres (P : Nat → SendRel → Prop)
    (hm : ∀ ch s id s', P ch s → s.processMessageAck id = .ok s' → P ch s')
    (hs : ∀ ch s id idx s', P ch s → s.processSliceAck id idx = .ok s' → P ch s')
    {c c' : Conn} {bytes : Bytes} (h : c.processPacket bytes = .ok c')
    (hc : ∀ ch s, SMap.find? c.sendRel ch = some s → P ch s) :
    ∀ ch s, SMap.find? c'.sendRel ch = some s → P ch s :=
  ((ChanKept.all (O := ⟨fun _ => False, True, fun _ => False⟩) (Pr := P) (Pu := fun _ _ => True)
    { msgAck := fun _ hp e => hm _ _ _ _ hp e, sliceAck := fun _ hp e => hs _ _ _ _ _ hp e }).processPacket trivial
    ⟨hc, fun _ _ _ => trivial⟩ h).1

def encO (p : Packet) : Option Bytes :=
  match p.enc with
  | .ok b => some b
  | _ => none

theorem toBytes_encO {p : Packet} {cap : Nat} {b : Bytes} (h : p.toBytes cap = .ok b) : encO p = some b := by
  simp [encO, (Packet.toBytes_ok_iff.mp h).1]

theorem serialiseAll_enc (pk : List Packet) (bs : List Bytes) (h : Conn.serialiseAll pk = .ok bs) :
    pk.map encO = bs.map some :=
  map_eq_map_of (fun _ _ e => toBytes_encO e) (Conn.serialiseAll_ok_iff.mp h)

theorem encO_some {p : Packet} {b : Bytes} (h : encO p = some b) : p.enc = .ok b := by
  unfold encO at h
  split at h
  · cases h; assumption
  · cases h

theorem enc_lookup {pk : List Packet} {bs : List Bytes} (h : pk.map encO = bs.map some) {k : Nat} {b : Bytes}
    (hb : bs[k]? = some b) : ∃ p, pk[k]? = some p ∧ p.enc = .ok b := by
  have h1 : (bs.map some)[k]? = some (some b) := by rw [List.getElem?_map, hb]; rfl
  rw [← h, List.getElem?_map] at h1
  cases hp : pk[k]? with
  | none => rw [hp] at h1; cases h1
  | some p =>
    rw [hp] at h1
    simp only [Option.map_some, Option.some.injEq] at h1
    exact ⟨p, rfl, encO_some h1⟩

/-! ## wire: what the bytes of an encoded packet decode to -/

/-- `p'` is what a decoder can read from the encoding of `p`: the same kind and sequence number, the channel id cut to a
    byte, of the messages a prefix, the same slice; of an ack packet only that it is one with that sequence number -/
inductive Cut : Packet → Packet → Prop
  | smallReliable (seq ch : Nat) (msgs : List (Nat × Bytes)) (k : Nat) :
    Cut (.smallReliable seq ch msgs) (.smallReliable seq (UInt8.ofNat ch).toNat (msgs.take k))
  | smallUnreliable (seq ch : Nat) (msgs : List Bytes) (k : Nat) :
    Cut (.smallUnreliable seq ch msgs) (.smallUnreliable seq (UInt8.ofNat ch).toNat (msgs.take k))
  | reliableSlice (seq ch : Nat) (sl : Slice) :
    Cut (.reliableSlice seq ch sl) (.reliableSlice seq (UInt8.ofNat ch).toNat sl)
  | unreliableSlice (seq ch : Nat) (sl : Slice) :
    Cut (.unreliableSlice seq ch sl) (.unreliableSlice seq (UInt8.ofNat ch).toNat sl)
  | ack (seq : Nat) (ranges ranges' : List AckRange) : Cut (.ack seq ranges) (.ack seq ranges')

/-- The channel id and the message count are the two fields the encoder writes truncated; no well-formedness of `p` is
    assumed.  The data kinds are read off `Packet.decode_enc_data`; of an ack packet the decoder's branch for tag 4 is
    followed to its end, where it builds an ack packet with the sequence number it read first. -/
theorem dec_enc_cut {p p' : Packet} {b : Bytes} (he : p.enc = .ok b) (hd : Packet.fromBytes b = .ok p') : Cut p p' := by
  have heq := Packet.decode_enc_data he []
  rw [List.append_nil] at heq
  obtain ⟨r, hdec⟩ := Packet.fromBytes_ok hd
  cases p with
  | smallReliable seq ch msgs =>
    obtain ⟨_, -, e⟩ := heq
    rw [e] at hdec; cases hdec
    exact .smallReliable ..
  | smallUnreliable seq ch msgs =>
    obtain ⟨_, -, e⟩ := heq
    rw [e] at hdec; cases hdec
    exact .smallUnreliable ..
  | reliableSlice seq ch sl =>
    rw [heq] at hdec
    repeat' split at hdec
    all_goals cases hdec
    exact .reliableSlice ..
  | unreliableSlice seq ch sl =>
    rw [heq] at hdec
    repeat' split at hdec
    all_goals cases hdec
    exact .unreliableSlice ..
  | ack seq ranges =>
    obtain ⟨⟨hs, ls, le, d, hrev, -⟩, rfl⟩ := Packet.enc_ok_iff.1 he
    simp only [Packet.bytes, hrev, Packet.decode, List.append_assoc, List.cons_append, List.nil_append, getU8_cons, bind,
      Except.bind, show (4 : UInt8).toNat = 4 from rfl, getVarint_enc _ hs] at hdec
    repeat' split at hdec
    all_goals cases hdec
    exact .ack ..

def isRel : Packet → Bool
  | .smallReliable .. => true
  | .reliableSlice .. => true
  | _ => false

theorem fromBytes_of_enc {p p' : Packet} {b : Bytes} (he : p.enc = .ok b) (hd : Packet.fromBytes b = .ok p') :
    p'.sequence = p.sequence ∧ isRel p' = isRel p ∧ SI.isAckPkt p' = SI.isAckPkt p := by
  cases dec_enc_cut he hd <;> exact ⟨rfl, rfl, rfl⟩

theorem fromBytes_of_enc_wf {p p' : Packet} {b : Bytes} (hw : p.WF) (he : p.enc = .ok b)
    (hd : Packet.fromBytes b = .ok p') : p' = p := by
  obtain ⟨b', h1, h2⟩ := Packet.fromBytes_enc p hw
  rw [he] at h1; cases h1
  rw [hd] at h2; cases h2; rfl

/-! ## sender side: the channel agrees with the ghost submission log -/

/-- reliable send channel `s` against the log `L` of accepted submissions -/
structure ChanG (L : List Bytes) (s : SendRel) : Prop where
  nid : s.nextId = L.length
  gen : ∀ x ∈ s.unacked, L[x.1]? = some x.2.msg

theorem chanG_new (ch resend maxMem : Nat) : ChanG [] (SendRel.new ch resend maxMem) :=
  ⟨rfl, fun _ h => by cases h⟩

theorem newSliced_msg (m : Bytes) : (Unacked.newSliced m).msg = m := rfl

theorem chanG_send {L : List Bytes} {s s' : SendRel} {m : Bytes} (h : ChanG L s) (hs : s.sendMessage m = .ok s') :
    ChanG (L ++ [m]) s' := by
  obtain ⟨-, rfl⟩ := SendRel.sendMessage_ok hs
  refine ⟨by simp [h.nid], ?_⟩
  intro x hx
  dsimp only at hx
  rcases SMap.mem_insert hx with rfl | hx
  · dsimp only
    rw [h.nid, List.getElem?_concat_length]
    split <;> rfl
  · exact prefix_getElem? (List.prefix_append _ _) (h.gen x hx)

theorem chanG_msgAck {L : List Bytes} {s s' : SendRel} {id : Nat} (h : ChanG L s) (hs : s.processMessageAck id = .ok s') :
    ChanG L s' := by
  obtain ⟨-, e, -, -, hm⟩ := SI.SendRel.processMessageAck_mem hs
  exact ⟨e.trans h.nid, fun x hx => h.gen x (hm x hx)⟩

theorem chanG_sliceAck {L : List Bytes} {s s' : SendRel} {id idx : Nat} (h : ChanG L s)
    (hs : s.processSliceAck id idx = .ok s') : ChanG L s' := by
  obtain ⟨-, e, -, -, hm⟩ := SI.SendRel.processSliceAck_mem hs
  refine ⟨e.trans h.nid, fun x hx => ?_⟩
  rcases hm x hx with hx | ⟨m, n, k, nx, ak, ls, hy, rfl⟩
  · exact h.gen x hx
  · exact h.gen (id, .sliced m n k nx ak ls) hy

theorem chanG_getPackets {L : List Bytes} {s : SendRel} (h : ChanG L s) (hi : s.Inv) (seq avail now : Nat) :
    ChanG L (s.getPackets seq avail now).1 := by
  obtain ⟨-, -, -, hn, hsim, -⟩ := SI.SendRel.getPackets_spec hi seq avail now
  refine ⟨hn.trans h.nid, ?_⟩
  intro x' hx'
  obtain ⟨x, hx, h1, h2⟩ := SI.MapSim.mem hsim x' hx'
  rw [← h1, ← h2.kin.msg]
  exact h.gen x hx

/-- what a packet may carry on the reliable channels, relative to the submission logs -/
def PktGen (sub : Nat → List Bytes) : Packet → Prop
  | .smallReliable _ ch msgs => ∀ x ∈ msgs, DataPath.GenuineMsg (sub ch) x.1 x.2
  | .reliableSlice _ ch sl => DataPath.GenuineSlice (sub ch) sl
  | _ => True

theorem PktGen.mono {sub sub' : Nat → List Bytes} (h : ∀ ch, sub ch <+: sub' ch) : ∀ {p : Packet}, PktGen sub p → PktGen sub' p
  | .smallReliable _ ch msgs, hp => fun x hx => prefix_getElem? (h ch) (hp x hx)
  | .reliableSlice _ ch sl, hp => by
    obtain ⟨m, h1, h2⟩ := hp
    exact ⟨m, prefix_getElem? (h ch) h1, h2⟩
  | .smallUnreliable .., _ => trivial
  | .unreliableSlice .., _ => trivial
  | .ack .., _ => trivial

theorem getPackets_pktGen {sub : Nat → List Bytes} {ch : Nat} {s : SendRel} (h : ChanG (sub ch) s) (hi : s.Inv)
    (hc : s.ch = ch) (seq avail now : Nat) : ∀ p ∈ (s.getPackets seq avail now).2.1, PktGen sub p := by
  intro p hp
  have hg := SendRel.getPackets_genuine (s := s) (seq := seq) (avail := avail) (now := now) rfl p hp
  cases p with
  | smallReliable sq c msgs =>
    obtain ⟨rfl, hm⟩ := hg
    intro x hx
    obtain ⟨ls, hmem⟩ := hm x hx
    rw [hc]
    exact h.gen _ hmem
  | reliableSlice sq c sl =>
    obtain ⟨rfl, m, na, nx, ak, ls, hmem, hidx, hpay⟩ := hg
    have hok := hi.entries _ hmem
    obtain ⟨o1, o2, -⟩ := hok
    rw [hc]
    exact ⟨m, h.gen _ hmem, o1, o2, hidx, hpay⟩
  | smallUnreliable _ _ _ => trivial
  | unreliableSlice _ _ _ => trivial
  | ack _ _ => trivial

/-- static facts about channel `ch` and its log under which the reliable packets of a flush are well formed -/
structure Stat (L : List Bytes) (ch : Nat) : Prop where
  chan : ch < 256
  ids : L.length ≤ Varint.MAX + 1
  lens : ∀ m ∈ L, m.length ≤ MAX_NUM_SLICES * SLICE_SIZE

theorem getPackets_pktWF {L : List Bytes} {ch : Nat} {s : SendRel} (h : ChanG L s) (hi : s.Inv) (hc : s.ch = ch)
    (hst : Stat L ch) (seq avail now : Nat) (hseq : (s.getPackets seq avail now).2.2.1 ≤ Varint.MAX + 1) :
    ∀ p ∈ (s.getPackets seq avail now).2.1, p.WF := by
  have hlen : ∀ x ∈ s.unacked, x.2.msg.length ≤ MAX_NUM_SLICES * SLICE_SIZE := by
    intro x hx
    exact hst.lens _ (List.mem_of_getElem? (h.gen x hx))
  have hwf := hi.wf (fun x hx => by have := hlen x hx; unfold MAX_NUM_SLICES SLICE_SIZE at this; unfold Varint.MAX; omega)
  exact SendRel.getPackets_wf (s := s) (seq := seq) (avail := avail) (now := now) rfl hwf
    (by rw [hc]; exact hst.chan) (by rw [h.nid]; exact hst.ids) hseq (hwf.slices_le hlen)

/-! ## receiver side: the per-channel invariants of Lemmas/DataPath, made monotone in the log -/

open DataPath in
/-- the ordered-channel invariant together with "nothing beyond the log has been consumed" (needed for the log to
    be allowed to grow), resp. the unordered-channel invariant -/
def ChanBS (L : List Bytes) (st : RunSt) : Prop :=
  (st.r.ordered = true → OrdInv L st ∧ st.r.oldest ≤ L.length) ∧
  (st.r.ordered = false → UnordInv L st)

open DataPath in
theorem slicesOK_mono {L L' : List Bytes} {r : RecvRel} (hL : L <+: L') (h : SlicesOK L r) : SlicesOK L' r := by
  refine ⟨h.1, ?_⟩
  intro id c hc
  obtain ⟨m', h1, h2⟩ := h.2 id c hc
  exact ⟨m', prefix_getElem? hL h1, h2⟩

open DataPath in
theorem ordInv_mono {L L' : List Bytes} {st : RunSt} (hL : L <+: L') (h : OrdInv L st) (hb : st.r.oldest ≤ L.length) :
    OrdInv L' st := by
  refine ⟨h.ord, h.wfM, ?_, slicesOK_mono hL h.slices, ?_⟩
  · intro id x hx
    obtain ⟨a, b⟩ := h.msgs id x hx
    exact ⟨prefix_getElem? hL a, b⟩
  · obtain ⟨t, rfl⟩ := hL
    rw [h.obt, List.take_append_of_le_length hb]

open DataPath in
theorem unordInv_mono {L L' : List Bytes} {st : RunSt} (hL : L <+: L') (h : UnordInv L st) : UnordInv L' st := by
  refine ⟨h.ord, h.wfM, ?_, slicesOK_mono hL h.slices, ?_⟩
  · intro id x hx
    obtain ⟨a, b⟩ := h.msgs id x hx
    exact ⟨prefix_getElem? hL a, b⟩
  · obtain ⟨ids, h1, h2, h3⟩ := h.obt
    exact ⟨ids, h1, DataPath.once_mono hL h2, h3⟩

theorem chanBS_mono {L L' : List Bytes} {st : DataPath.RunSt} (hL : L <+: L') (h : ChanBS L st) : ChanBS L' st :=
  ⟨fun ho => ⟨ordInv_mono hL (h.1 ho).1 (h.1 ho).2, Nat.le_trans (h.1 ho).2 hL.length_le⟩,
   fun ho => unordInv_mono hL (h.2 ho)⟩

open DataPath in
/-- the `ordered` flag is part of both invariants, so an invariant-preserving transition cannot flip it -/
theorem chanBS_step (L : List Bytes) (st : RunSt) (op : RecvOp) (h : ChanBS L st) (g : Genuine L op) :
    ChanBS L (step st op) ∧ (step st op).r.ordered = st.r.ordered := by
  cases ho : st.r.ordered with
  | true =>
    have h3 := ord_step L st op (h.1 ho) g
    exact ⟨⟨fun _ => h3, fun hf => (by rw [h3.1.ord] at hf; cases hf)⟩, h3.1.ord⟩
  | false =>
    have h3 := unord_step L st op (h.2 ho) g
    exact ⟨⟨fun hf => (by rw [h3.ord] at hf; cases hf), fun _ => h3⟩, h3.ord⟩

open DataPath in
theorem chanBS_foldl (L : List Bytes) (ops : List RecvOp) (st : RunSt) (h : ChanBS L st) (g : ∀ op ∈ ops, Genuine L op) :
    ChanBS L (ops.foldl step st) ∧ (ops.foldl step st).r.ordered = st.r.ordered :=
  foldl_inv step (fun s => ChanBS L s ∧ s.r.ordered = st.r.ordered) (Genuine L)
    (fun s op hs go => ⟨(chanBS_step L s op hs.1 go).1, (chanBS_step L s op hs.1 go).2.trans hs.2⟩) ops st ⟨h, rfl⟩ g

/-! ## one flush, at connection level -/

/-- the packets whose encodings the next `get_packets_to_send` hands to the transport (none when the connection is
    disconnected or serialisation fails) -/
def flushPk (c : Conn) : List Packet :=
  if c.isDisconnected then [] else
  match Conn.chanLoop c.now c.order (c.sendRel, c.sendUnrel, [], c.packetSeq, c.budget) with
  | .ok (_, _, pk0, seq0, _) =>
    match Conn.serialiseAll (if c.pendingAcks.isEmpty then pk0 else pk0 ++ [Packet.ack seq0 c.pendingAcks]) with
    | .ok _ => if c.pendingAcks.isEmpty then pk0 else pk0 ++ [Packet.ack seq0 c.pendingAcks]
    | _ => []
  | _ => []

theorem relMapFit_of_inv {c : Conn} (h : c.SendInv) : RelMapFit c.sendRel := by
  intro ch s hs id m n na nx ak ls hm
  obtain ⟨-, o2, -⟩ := (h.chans ch s hs).1.entries _ hm
  rw [o2]; exact divCeil_mul_ge _

theorem flushPk_dead {c : Conn} (hd : c.isDisconnected = true) : flushPk c = [] := by
  unfold flushPk; rw [if_pos hd]

theorem flushPk_live {c : Conn} {pk : List Packet} (hd : c.isDisconnected = false) (h : c.flushPackets = .ok pk) :
    flushPk c = match Conn.serialiseAll pk with
      | .ok _ => pk
      | _ => [] := by
  obtain ⟨sr, su, pk0, seq0, avail, hl, rfl⟩ := Conn.flushPackets_ok h
  unfold flushPk; rw [hd, hl]; rfl

theorem _root_.RenetVerif.Conn.FlushOut.pk {c c' : Conn} {bs : List Bytes} {pk0 : List Packet} {seq0 avail : Nat}
    (o : c.FlushOut c' bs pk0 seq0 avail) :
    (Conn.serialiseAll (withAck pk0 seq0 c.pendingAcks) = .ok bs ∧ flushPk c = withAck pk0 seq0 c.pendingAcks ∧
      c'.isDisconnected = false) ∨
    (bs = [] ∧ flushPk c = [] ∧ c'.isDisconnected = true) := by
  have hf := flushPk_live o.live o.flushPackets
  rcases o.out with ⟨hok, hst⟩ | ⟨rfl, e, herr, hst⟩
  · exact Or.inl ⟨hok, by rw [hf, hok], by unfold Conn.isDisconnected; rw [hst]; exact o.live⟩
  · exact Or.inr ⟨rfl, by rw [hf, herr], by unfold Conn.isDisconnected; rw [hst]⟩

theorem _root_.RenetVerif.Conn.FlushOut.pk_of_live {c c' : Conn} {bs : List Bytes} {pk0 : List Packet} {seq0 avail : Nat}
    (o : c.FlushOut c' bs pk0 seq0 avail) (hd' : c'.isDisconnected = false) :
    flushPk c = withAck pk0 seq0 c.pendingAcks ∧ Conn.serialiseAll (withAck pk0 seq0 c.pendingAcks) = .ok bs := by
  rcases o.pk with ⟨hok, hf, -⟩ | ⟨-, -, hdis⟩
  · exact ⟨hf, hok⟩
  · rw [hd'] at hdis; cases hdis

theorem _root_.RenetVerif.Conn.FlushOut.forall_flushPk {c c' : Conn} {bs : List Bytes} {pk0 : List Packet} {seq0 avail : Nat}
    (o : c.FlushOut c' bs pk0 seq0 avail) {Q : Packet → Prop} (h0 : ∀ p ∈ pk0, Q p)
    (hack : c.pendingAcks ≠ [] → Q (Packet.ack seq0 c.pendingAcks)) : ∀ p ∈ flushPk c, Q p := by
  rcases o.pk with ⟨-, hf, -⟩ | ⟨-, hf, -⟩ <;> rw [hf]
  · exact forall_withAck h0 hack
  · exact fun _ hp => by cases hp

theorem flush_facts {c c' : Conn} {bs : List Bytes} (h : c.getPacketsToSend = .ok (c', bs)) :
    (flushPk c).map encO = bs.map some ∧
    ((flushPk c).map Packet.sequence).Pairwise (· < ·) ∧
    (∀ p ∈ flushPk c, c.packetSeq ≤ p.sequence ∧ p.sequence < c'.packetSeq) ∧
    c.packetSeq ≤ c'.packetSeq ∧ c'.recvRel = c.recvRel ∧ c'.pendingAcks = c.pendingAcks ∧
    (c'.isDisconnected = false → c.isDisconnected = false) := by
  rcases Conn.flush_cases h with ⟨hd, rfl, rfl⟩ | ⟨pk0, seq0, avail, o⟩
  · rw [flushPk_dead hd]
    exact ⟨rfl, List.Pairwise.nil, fun _ hp => (by cases hp), Nat.le_refl _, rfl, rfl, fun h => h⟩
  · have hnum := o.toFlushed.numbered
    have hle : c.packetSeq ≤ c'.packetSeq := by have := hnum.2; omega
    rcases o.pk with ⟨hok, hf, -⟩ | ⟨rfl, hf, -⟩
    · rw [hf]
      exact ⟨serialiseAll_enc _ _ hok, by rw [hnum.1]; exact List.pairwise_lt_range' _, hnum.bounds, hle, o.recvRel,
        o.pendingAcks, fun _ => o.live⟩
    · rw [hf]
      exact ⟨rfl, List.Pairwise.nil, fun _ hp => (by cases hp), hle, o.recvRel, o.pendingAcks, fun _ => o.live⟩

theorem flush_pres (P : Nat → SendRel → Prop) (Q : Packet → Prop) (B : Nat) {c c' : Conn} {bs : List Bytes}
    (hkeep : ∀ ch s seq avail, P ch s → P ch (s.getPackets seq avail c.now).1)
    (hrel : ∀ ch s seq avail, P ch s → (s.getPackets seq avail c.now).2.2.1 ≤ B → ∀ p ∈ (s.getPackets seq avail c.now).2.1, Q p)
    (hunrel : ∀ (s : SendUnrel) seq avail, ∀ p ∈ (s.getPackets seq avail).2.1, Q p)
    (hack : ∀ seq, Q (Packet.ack seq c.pendingAcks))
    (h : c.getPacketsToSend = .ok (c', bs)) (hb : c'.packetSeq ≤ B)
    (hc : ∀ ch s, SMap.find? c.sendRel ch = some s → P ch s) :
    (∀ ch s, SMap.find? c'.sendRel ch = some s → P ch s) ∧ ∀ p ∈ flushPk c, Q p := by
  rcases Conn.flush_cases h with ⟨hd, rfl, -⟩ | ⟨pk0, seq0, avail, o⟩
  · rw [flushPk_dead hd]
    exact ⟨hc, fun _ hp => (by cases hp)⟩
  · obtain ⟨h1, h2⟩ := (ChanKept.all (O := ⟨fun _ => False, False, (· = c.now)⟩) (Pr := P) (Pu := fun _ _ => True)
      { flush := fun seq avail _ e hp => e ▸ hkeep _ _ seq avail hp }).flush
      (fun _ _ ch s seq avail a hs => hrel ch s seq avail (a.1 ch s hs)) (fun _ _ _ s seq avail _ _ _ => hunrel s seq avail) rfl
      ⟨hc, fun _ _ _ => trivial⟩ o hb
    exact ⟨h1.1, o.forall_flushPk h2 (fun _ => hack _)⟩

theorem flush_presI (P : Nat → SendRel → Prop) (Q : Packet → Prop) (B : Nat) {c c' : Conn} {bs : List Bytes} (hI : c.SendInv)
    (hkeep : ∀ ch s seq avail, s.Inv → s.ch = ch → P ch s → P ch (s.getPackets seq avail c.now).1)
    (hrel : ∀ ch s seq avail, s.Inv → s.ch = ch → P ch s → (s.getPackets seq avail c.now).2.2.1 ≤ B →
      ∀ p ∈ (s.getPackets seq avail c.now).2.1, Q p)
    (hunrel : ∀ (s : SendUnrel) seq avail, ∀ p ∈ (s.getPackets seq avail).2.1, Q p)
    (hack : ∀ seq, Q (Packet.ack seq c.pendingAcks))
    (h : c.getPacketsToSend = .ok (c', bs)) (hb : c'.packetSeq ≤ B)
    (hc : ∀ ch s, SMap.find? c.sendRel ch = some s → P ch s) :
    (∀ ch s, SMap.find? c'.sendRel ch = some s → P ch s) ∧ ∀ p ∈ flushPk c, Q p := by
  obtain ⟨g1, g2⟩ := flush_pres (fun ch s => (s.Inv ∧ s.ch = ch) ∧ P ch s) Q B
    (fun ch s seq avail hp =>
      have hs := SI.SendRel.getPackets_spec hp.1.1 seq avail c.now
      ⟨⟨hs.1, hs.2.1.1.trans hp.1.2⟩, hkeep ch s seq avail hp.1.1 hp.1.2 hp.2⟩)
    (fun ch s seq avail hp => hrel ch s seq avail hp.1.1 hp.1.2 hp.2) hunrel hack h hb
    (fun ch s hf => ⟨hI.chans ch s hf, hc ch s hf⟩)
  exact ⟨fun ch s hf => (g1 ch s hf).2, g2⟩

/-! ## system invariants, layer 1 (unconditional): sender bookkeeping and the packets on the wire -/

theorem unrel_kind (s : SendUnrel) (seq avail : Nat) :
    ∀ p ∈ (s.getPackets seq avail).2.1, isRel p = false ∧ SI.isAckPkt p = false := by
  intro p hp
  have := (SendUnrel.getPackets_emitted (s := s) (seq := seq) (avail := avail) rfl).2 p hp
  cases p with
  | smallReliable _ _ _ => exact this.elim
  | reliableSlice _ _ _ => exact this.elim
  | smallUnreliable _ _ _ => exact ⟨rfl, rfl⟩
  | unreliableSlice _ _ _ => exact ⟨rfl, rfl⟩
  | ack _ _ => exact this.elim

theorem unrel_not_rel (s : SendUnrel) (seq avail : Nat) : ∀ p ∈ (s.getPackets seq avail).2.1, isRel p = false :=
  fun p hp => (unrel_kind s seq avail p hp).1

theorem pktGen_of_not_rel {sub : Nat → List Bytes} {p : Packet} (h : isRel p = false) : PktGen sub p := by
  cases p with
  | smallReliable _ _ _ => cases h
  | reliableSlice _ _ _ => cases h
  | smallUnreliable _ _ _ => trivial
  | unreliableSlice _ _ _ => trivial
  | ack _ _ => trivial

/-- the packet list that mirrors `outA` after one more operation -/
def nextPk (s : Sys) (op : SysOp) (pkA : List Packet) : List Packet :=
  match op with
  | .flushA => pkA ++ flushPk s.a
  | _ => pkA

structure Inv1 (cfg : Cfg) (s : Sys) (pkA : List Packet) : Prop where
  reachA : C08.Reach cfg.budget cfg.send cfg.recv s.a
  reachB : C08.Reach cfg.budget cfg.recv cfg.send s.b
  chanA : ∀ ch sA, SMap.find? s.a.sendRel ch = some sA → ChanG (s.submitted ch) sA ∧ ∃ c ∈ cfg.send, c.id = ch
  /-- `outA` is, datagram for datagram, the encoding of the ghost packet list `pkA` -/
  encA : pkA.map encO = s.outA.map some
  seqA : (pkA.map Packet.sequence).Pairwise (· < ·) ∧ ∀ p ∈ pkA, p.sequence < s.a.packetSeq
  genA : ∀ p ∈ pkA, PktGen s.submitted p
  delivB : ∀ k ∈ s.deliveredToB, k < s.outA.length

theorem Inv1.invA {cfg : Cfg} {s : Sys} {pkA : List Packet} (h : Inv1 cfg s pkA) : s.a.SendInv ∧ Acks.WF s.a.pendingAcks :=
  C08.reach_inv h.reachA

theorem Inv1.invB {cfg : Cfg} {s : Sys} {pkA : List Packet} (h : Inv1 cfg s pkA) : s.b.SendInv ∧ Acks.WF s.b.pendingAcks :=
  C08.reach_inv h.reachB

theorem inv1_init (cfg : Cfg) : Inv1 cfg (Sys.init cfg) [] := by
  refine ⟨.init, .init, ?_, rfl, ⟨List.Pairwise.nil, fun _ h => (by cases h)⟩, fun _ h => (by cases h), fun _ h => (by cases h)⟩
  intro ch sA hf
  obtain ⟨c, hc, -, h1, rfl⟩ := SMap.find?_foldl_filter hf
  exact ⟨chanG_new _ _ _, c, hc, h1⟩


theorem inv1_step {cfg : Cfg} {s s' : Sys} {pkA : List Packet} {op : SysOp} (h : Inv1 cfg s pkA)
    (hs : s.step op = some s') : Inv1 cfg s' (nextPk s op pkA) := by
  cases stepped hs with
  | @sendA ch m a' hm =>
    have hseq := (SL.Conn.sendMessage_frame hm).2.2.2.2.2.1
    rcases sendMessage_cases hm with ⟨hacc, s0, s1, hf, hsend, rfl⟩ | ⟨hacc, hsr⟩
    · refine ⟨.sendMessage h.reachA hm, h.reachB, ?_, h.encA, h.seqA, ?_, h.delivB⟩
      · dsimp only
        rw [hacc, if_pos rfl]
        exact find_insert_push (P := fun c L sA => ChanG L sA ∧ ∃ c' ∈ cfg.send, c'.id = c) h.chanA
          ⟨chanG_send (h.chanA ch s0 hf).1 hsend, (h.chanA ch s0 hf).2⟩
      · dsimp only
        rw [hacc, if_pos rfl]
        exact fun p hp => (h.genA p hp).mono (push_prefix _ _ _)
    · refine ⟨.sendMessage h.reachA hm, h.reachB, ?_, h.encA, ⟨h.seqA.1, by dsimp only; rw [hseq]; exact h.seqA.2⟩, ?_, h.delivB⟩
      · dsimp only
        rw [hacc, hsr]
        exact h.chanA
      · dsimp only
        rw [hacc]
        exact h.genA
  | recvB hm => exact ⟨h.reachA, .receiveMessage h.reachB hm, h.chanA, h.encA, h.seqA, h.genA, h.delivB⟩
  | updA hm =>
    obtain ⟨e1, -, e3, -⟩ := Conn.update_frame hm
    exact ⟨.update h.reachA hm, h.reachB, by dsimp only; rw [e1]; exact h.chanA, h.encA,
      ⟨h.seqA.1, by dsimp only; rw [e3]; exact h.seqA.2⟩, h.genA, h.delivB⟩
  | updB hm => exact ⟨h.reachA, .update h.reachB hm, h.chanA, h.encA, h.seqA, h.genA, h.delivB⟩
  | @flushA a' bs hm =>
    obtain ⟨f1, f2, f3, f4, -⟩ := flush_facts hm
    obtain ⟨g1, g2⟩ := flush_presI (fun ch sA => ChanG (s.submitted ch) sA ∧ ∃ c ∈ cfg.send, c.id = ch)
      (PktGen s.submitted) a'.packetSeq h.invA.1
      (fun ch sA seq avail hi _ hp => ⟨chanG_getPackets hp.1 hi seq avail s.a.now, hp.2⟩)
      (fun ch sA seq avail hi hch hp _ => getPackets_pktGen hp.1 hi hch seq avail s.a.now)
      (fun sU seq avail p hp => pktGen_of_not_rel (unrel_not_rel sU seq avail p hp))
      (fun _ => trivial) hm (Nat.le_refl _) h.chanA
    refine ⟨.flush h.reachA hm, h.reachB, g1, ?_, ⟨?_, ?_⟩, ?_, ?_⟩
    · simp only [nextPk, List.map_append, h.encA, f1]
    · simp only [nextPk, List.map_append, List.pairwise_append]
      refine ⟨h.seqA.1, f2, ?_⟩
      intro x hx y hy
      obtain ⟨p, hp, rfl⟩ := List.mem_map.mp hx
      obtain ⟨q, hq, rfl⟩ := List.mem_map.mp hy
      have := h.seqA.2 p hp
      have := (f3 q hq).1
      omega
    · intro p hp
      simp only [nextPk, List.mem_append] at hp
      rcases hp with hp | hp
      · have := h.seqA.2 p hp
        dsimp only; omega
      · exact (f3 p hp).2
    · intro p hp
      simp only [nextPk, List.mem_append] at hp
      rcases hp with hp | hp
      · exact h.genA p hp
      · exact g2 p hp
    · intro k hk
      have := h.delivB k hk
      simp only [List.length_append]; omega
  | flushB hm => exact ⟨h.reachA, .flush h.reachB hm, h.chanA, h.encA, h.seqA, h.genA, h.delivB⟩
  | @deliverToB k bytes b' hb hm =>
    refine ⟨h.reachA, .packet h.reachB hm, h.chanA, h.encA, h.seqA, h.genA, ?_⟩
    intro k' hk'
    simp only [List.mem_append, List.mem_singleton] at hk'
    rcases hk' with hk' | rfl
    · exact h.delivB k' hk'
    · exact (List.getElem?_eq_some_iff.mp hb).1
  | deliverToA hb hm =>
    have hps := (SL.Conn.processPacket_fixed hm).2.2
    refine ⟨.packet h.reachA hm, h.reachB, ?_, h.encA, ⟨h.seqA.1, by dsimp only; rw [hps]; exact h.seqA.2⟩, h.genA, h.delivB⟩
    exact processPacket_pres (fun ch sA => ChanG (s.submitted ch) sA ∧ ∃ c ∈ cfg.send, c.id = ch)
      (fun ch sA id sA' hp hh => ⟨chanG_msgAck hp.1 hh, hp.2⟩)
      (fun ch sA id idx sA' hp hh => ⟨chanG_sliceAck hp.1 hh, hp.2⟩) hm h.chanA

/-! ## the counter-range hypothesis, and its monotonicity along a run -/

/-- Everything the wire format has to carry is in range: channel ids are bytes (they are `u8` in the Rust code),
    A's packet sequence counter and message-id counters have not passed 2^62 (the varint limit, where the Rust
    encoder hits `unreachable!`), and no message submitted on a reliable (`lens`) or unreliable (`lensU`) channel
    needs more than `MAX_NUM_SLICES` slices (1.2 GB; the receiver rejects larger slice counts).  All of them only
    ever get harder to satisfy as a run proceeds, so they are stated for the state at hand and hold for every
    earlier state of the run (`counters_step`). -/
structure CountersOK (cfg : Cfg) (s : Sys) : Prop where
  chan : ∀ c ∈ cfg.send, c.id < 256
  seq : s.a.packetSeq ≤ Varint.MAX + 1
  ids : ∀ c ∈ cfg.send, (s.submitted c.id).length ≤ Varint.MAX + 1
  lens : ∀ c ∈ cfg.send, ∀ m ∈ s.submitted c.id, m.length ≤ MAX_NUM_SLICES * SLICE_SIZE
  lensU : ∀ c ∈ cfg.send, ∀ m ∈ s.submittedU c.id, m.length ≤ MAX_NUM_SLICES * SLICE_SIZE

instance (cfg : Cfg) (s : Sys) : Decidable (CountersOK cfg s) :=
  decidable_of_iff (_ ∧ _ ∧ _ ∧ _ ∧ _)
    ⟨fun h => ⟨h.1, h.2.1, h.2.2.1, h.2.2.2.1, h.2.2.2.2⟩, fun h => ⟨h.chan, h.seq, h.ids, h.lens, h.lensU⟩⟩

theorem step_mono {s s' : Sys} {op : SysOp} (hs : s.step op = some s') :
    s.a.packetSeq ≤ s'.a.packetSeq ∧ (∀ ch, s.submitted ch <+: s'.submitted ch) ∧
    (∀ ch, s.submittedU ch <+: s'.submittedU ch) := by
  have r : ∀ {f : Nat → List Bytes} ch, f ch <+: f ch := fun _ => List.prefix_refl _
  cases stepped hs with
  | sendA hm =>
    exact ⟨Nat.le_of_eq ((SL.Conn.sendMessage_frame hm).2.2.2.2.2.1).symm, ite_push_prefix _ _ _ _, ite_push_prefix _ _ _ _⟩
  | updA hm => exact ⟨Nat.le_of_eq (Conn.update_frame hm).packetSeq.symm, r, r⟩
  | flushA hm => exact ⟨(flush_facts hm).2.2.2.1, r, r⟩
  | deliverToA _ hm => exact ⟨Nat.le_of_eq ((SL.Conn.processPacket_fixed hm).2.2).symm, r, r⟩
  | recvB _ | updB _ | flushB _ | deliverToB _ _ => exact ⟨Nat.le_refl _, r, r⟩

theorem counters_step {cfg : Cfg} {s s' : Sys} {op : SysOp} (hs : s.step op = some s') (hc : CountersOK cfg s') :
    CountersOK cfg s := by
  obtain ⟨m1, m2, m4⟩ := step_mono hs
  refine ⟨hc.chan, Nat.le_trans m1 hc.seq, fun c hcm => Nat.le_trans (m2 c.id).length_le (hc.ids c hcm), ?_, ?_⟩
  · intro c hcm m hm
    exact hc.lens c hcm m ((m2 c.id).subset hm)
  · intro c hcm m hm
    exact hc.lensU c hcm m ((m4 c.id).subset hm)

/-! ## system invariants, layer 2 (under `CountersOK`): the wire round trip and the receiver -/

/-- reliability kind of B's receive channel `ch`, read off the initial state: `some true` = ordered,
    `some false` = unordered, `none` = not a reliable channel -/
def RelKind (cfg : Cfg) (ch : Nat) : Option Bool := (SMap.find? (Sys.init cfg).b.recvRel ch).map (·.ordered)

/-- the end-to-end statement about one channel: what B's application obtained, against what A's submitted -/
def Concl : Option Bool → List Bytes → List Bytes → Prop
  | some true, L, o => o <+: L
  | some false, L, o => ∃ ids : List Nat, ids.Nodup ∧ o.map some = ids.map (fun id => L[id]?)
  | none, _, _ => True

theorem concl_mono {k : Option Bool} {L L' o : List Bytes} (hL : L <+: L') (h : Concl k L o) : Concl k L' o := by
  cases k with
  | none => trivial
  | some b =>
    cases b with
    | true => exact List.IsPrefix.trans h hL
    | false =>
      obtain ⟨ids, h1, h2⟩ := h
      exact ⟨ids, h1, DataPath.once_mono hL h2⟩

theorem concl_of_chanBS {L o : List Bytes} {r : RecvRel} (h : ChanBS L ⟨r, o, false⟩) : Concl (some r.ordered) L o := by
  cases ho : r.ordered with
  | true =>
    have := (h.1 ho).1.obt
    dsimp only at this
    show o <+: L
    rw [this]; exact List.take_prefix _ _
  | false =>
    obtain ⟨ids, h1, h2, -⟩ := (h.2 ho).obt
    exact ⟨ids, h1, h2⟩

structure Inv2 (cfg : Cfg) (s : Sys) (pkA : List Packet) : Prop where
  /-- the reliable packets A emitted are well formed, so B decodes exactly them -/
  wfA : ∀ p ∈ pkA, isRel p = true → p.WF
  /-- while B is live, each of its reliable receive channels satisfies the DataPath invariant for the
      log of the same channel id, with `obtained` as the ghost output -/
  recvB : s.b.isDisconnected = false →
    (∀ ch, (SMap.find? s.b.recvRel ch).map (·.ordered) = RelKind cfg ch) ∧
    ∀ ch r, SMap.find? s.b.recvRel ch = some r → ChanBS (s.submitted ch) ⟨r, s.obtained ch, false⟩
  concl : ∀ ch, Concl (RelKind cfg ch) (s.submitted ch) (s.obtained ch)

theorem inv2_init (cfg : Cfg) : Inv2 cfg (Sys.init cfg) [] := by
  have hch : ∀ ch r, SMap.find? (Sys.init cfg).b.recvRel ch = some r → ChanBS [] ⟨r, [], false⟩ := by
    intro ch r hf
    obtain ⟨c, -, -, -, rfl⟩ := SMap.find?_foldl_filter hf
    cases hk : (c.kind == Kind.ordered) with
    | true => exact ⟨fun _ => ⟨DataPath.ord_init [] c.maxMem, Nat.le_refl _⟩, fun hf => (by cases hf)⟩
    | false => exact ⟨fun hf => (by cases hf), fun _ => DataPath.unord_init [] c.maxMem⟩
  refine ⟨fun _ h => (by cases h), fun _ => ⟨fun _ => rfl, hch⟩, ?_⟩
  intro ch
  unfold RelKind
  cases hf : SMap.find? (Sys.init cfg).b.recvRel ch with
  | none => trivial
  | some r => exact concl_of_chanBS (hch ch r hf)

theorem isDisconnected_congr {c c' : Conn} (h : c'.status = c.status) : c'.isDisconnected = c.isDisconnected := by
  unfold Conn.isDisconnected; rw [h]

theorem step_recv_eq {r r' : RecvRel} {o : List Bytes} {m : Option Bytes} (h : r.receive = .ok (r', m)) :
    DataPath.step ⟨r, o, false⟩ .recv = ⟨r', o ++ m.toList, false⟩ := by
  unfold DataPath.step
  rw [if_neg (by simp)]
  dsimp only
  rw [h]
  cases m <;> simp

theorem step_slice_eq {r r' : RecvRel} {o : List Bytes} {sl : Slice} (h : r.processSlice sl = .ok r') :
    DataPath.step ⟨r, o, false⟩ (.slice sl) = ⟨r', o, false⟩ := by
  unfold DataPath.step
  rw [if_neg (by simp)]
  dsimp only
  rw [h]

open DataPath in
theorem recv_ops {K : Nat → Option Bool} {sub obt obt' : Nat → List Bytes} {R : SMap RecvRel} {ch0 : Nat}
    {r0 r1 : RecvRel} (ops : List RecvOp)
    (hold : (∀ ch, (SMap.find? R ch).map (·.ordered) = K ch) ∧
      ∀ ch r, SMap.find? R ch = some r → ChanBS (sub ch) ⟨r, obt ch, false⟩)
    (hf : SMap.find? R ch0 = some r0) (hg : ∀ op ∈ ops, Genuine (sub ch0) op)
    (hrun : ops.foldl step ⟨r0, obt ch0, false⟩ = ⟨r1, obt' ch0, false⟩)
    (hoth : ∀ ch, ch ≠ ch0 → obt' ch = obt ch) :
    ((∀ ch, (SMap.find? (SMap.insert R ch0 r1) ch).map (·.ordered) = K ch) ∧
      ∀ ch r, SMap.find? (SMap.insert R ch0 r1) ch = some r → ChanBS (sub ch) ⟨r, obt' ch, false⟩) ∧
    Concl (K ch0) (sub ch0) (obt' ch0) := by
  obtain ⟨hnew, hord⟩ := chanBS_foldl (sub ch0) ops _ (hold.2 ch0 r0 hf) hg
  rw [hrun] at hnew hord
  have hK : K ch0 = some r1.ordered := by rw [← hold.1 ch0, hf, hord]; rfl
  refine ⟨⟨?_, ?_⟩, hK ▸ concl_of_chanBS hnew⟩
  · intro ch
    rw [SMap.find?_insert]
    split
    · rename_i e; subst e
      exact hK.symm
    · exact hold.1 ch
  · exact SMap.forall_find?_insert (fun ch r e hr => by rw [hoth ch e]; exact hold.2 ch r hr) hnew

theorem decoded_genuine {cfg : Cfg} {s : Sys} {pkA : List Packet} (h1 : Inv1 cfg s pkA) (h2 : Inv2 cfg s pkA)
    {k : Nat} {bytes : Bytes} (hb : s.outA[k]? = some bytes) {p' : Packet} (hd : Packet.fromBytes bytes = .ok p') :
    PktGen s.submitted p' ∧ ∃ p, pkA[k]? = some p ∧ p.enc = .ok bytes ∧ p'.sequence = p.sequence ∧ (isRel p = true → p' = p) := by
  obtain ⟨p, hp, he⟩ := enc_lookup h1.encA hb
  have hmem : p ∈ pkA := List.mem_of_getElem? hp
  obtain ⟨hsq, hrel, -⟩ := fromBytes_of_enc he hd
  cases hr : isRel p with
  | true =>
    have : p' = p := fromBytes_of_enc_wf (h2.wfA p hmem hr) he hd
    subst this
    exact ⟨h1.genA _ hmem, _, hp, he, rfl, fun _ => rfl⟩
  | false =>
    rw [hr] at hrel
    exact ⟨pktGen_of_not_rel hrel, p, hp, he, hsq, fun h => (by rw [hr] at h; cases h)⟩

theorem inv2_step {cfg : Cfg} {s s' : Sys} {pkA : List Packet} {op : SysOp} (h1 : Inv1 cfg s pkA) (h2 : Inv2 cfg s pkA)
    (hs : s.step op = some s') (hc : CountersOK cfg s') : Inv2 cfg s' (nextPk s op pkA) := by
  cases stepped hs with
  | @sendA ch m a' _ =>
    have hpre := ite_push_prefix (accepted s.a a' ch) s.submitted ch m
    exact ⟨h2.wfA, fun hd => ⟨(h2.recvB hd).1, fun c r hr => chanBS_mono (hpre c) ((h2.recvB hd).2 c r hr)⟩,
      fun c => concl_mono (hpre c) (h2.concl c)⟩
  | @recvB ch _ mo hm =>
    obtain ⟨ho1, ho2⟩ := obtained_recv s.obtained ch mo
    generalize mo.elim s.obtained (push s.obtained ch) = obt' at ho1 ho2 ⊢
    rcases Conn.receiveMessage_outcomes hm with ⟨hd, rfl, rfl⟩ | ⟨hd, r, r', hf, hrecv, rfl⟩ | ⟨hd, hf, rU, rU', -, -, rfl⟩
    · rw [obtained_none ho1 ho2]
      exact ⟨h2.wfA, h2.recvB, h2.concl⟩
    · obtain ⟨hupd, hcon⟩ := recv_ops (K := RelKind cfg) (obt' := obt') [.recv] (h2.recvB hd) hf
        (fun op hop => by rw [List.mem_singleton.mp hop]; trivial) (by rw [ho1]; exact step_recv_eq hrecv) ho2
      refine ⟨h2.wfA, fun _ => hupd, ?_⟩
      intro c
      dsimp only
      by_cases e : c = ch
      · subst e; exact hcon
      · rw [ho2 c e]; exact h2.concl c
    · obtain ⟨f1, f2⟩ := h2.recvB hd
      have hk : RelKind cfg ch = none := by rw [← f1 ch, hf]; rfl
      refine ⟨h2.wfA, ?_, ?_⟩
      · intro _
        dsimp only
        refine ⟨f1, ?_⟩
        intro c r hr
        have e : c ≠ ch := by intro e; subst e; rw [hf] at hr; cases hr
        rw [ho2 c e]; exact f2 c r hr
      · intro c
        dsimp only
        by_cases e : c = ch
        · subst e; rw [hk]; trivial
        · rw [ho2 c e]; exact h2.concl c
  | updB hm =>
    have e1 := (Conn.update_frame hm).recvRel
    have e2 := (Conn.update_frame hm).status
    refine ⟨h2.wfA, ?_, h2.concl⟩
    intro hd
    dsimp only at hd ⊢
    rw [isDisconnected_congr e2] at hd
    rw [e1]; exact h2.recvB hd
  | flushA hm =>
    refine ⟨?_, h2.recvB, h2.concl⟩
    obtain ⟨-, g2⟩ := flush_presI (fun ch sA => ChanG (s.submitted ch) sA ∧ Stat (s.submitted ch) ch)
      (fun p => isRel p = true → p.WF) (Varint.MAX + 1) h1.invA.1
      (fun ch sA seq avail hi _ hp => ⟨chanG_getPackets hp.1 hi seq avail s.a.now, hp.2⟩)
      (fun ch sA seq avail hi hch hp hseq p hpm _ => getPackets_pktWF hp.1 hi hch hp.2 seq avail s.a.now hseq p hpm)
      (fun sU seq avail p hp hr => by rw [unrel_not_rel sU seq avail p hp] at hr; cases hr)
      (fun _ hr => by cases hr) hm hc.seq
      (fun ch sA hf => by
        obtain ⟨hg, c, hcm, rfl⟩ := h1.chanA ch sA hf
        exact ⟨hg, hc.chan c hcm, hc.ids c hcm, hc.lens c hcm⟩)
    intro p hp
    simp only [nextPk, List.mem_append] at hp
    rcases hp with hp | hp
    · exact h2.wfA p hp
    · exact g2 p hp
  | flushB hm =>
    obtain ⟨-, -, -, -, f5, -, f7⟩ := flush_facts hm
    refine ⟨h2.wfA, ?_, h2.concl⟩
    intro hd
    dsimp only at hd ⊢
    rw [f5]; exact h2.recvB (f7 hd)
  | deliverToB hb hm =>
    refine ⟨h2.wfA, ?_, h2.concl⟩
    intro hd'
    dsimp only at hd' ⊢
    rcases processPacket_data hm with hdis | ⟨hd, p', hdec, hmatch⟩
    · rw [hdis] at hd'; cases hd'
    · obtain ⟨hgen, -⟩ := decoded_genuine h1 h2 hb hdec
      cases p' with
      | smallReliable sq ch msgs =>
        obtain ⟨-, r, r', hf, hloop, hrr⟩ := hmatch
        rw [hrr]
        refine (recv_ops (K := RelKind cfg) (obt' := s.obtained) _ (h2.recvB hd) hf ?_
          ((DataPath.relMsgLoop_as_ops msgs r _).1 r' hloop) (fun _ _ => rfl)).1
        intro op hop
        obtain ⟨x, hx, rfl⟩ := List.mem_map.mp hop
        exact hgen x hx
      | reliableSlice sq ch sl =>
        obtain ⟨-, r, r', hf, hps, hrr⟩ := hmatch
        rw [hrr]
        exact (recv_ops (K := RelKind cfg) (obt' := s.obtained) [.slice sl] (h2.recvB hd) hf
          (fun op hop => by rw [List.mem_singleton.mp hop]; exact hgen) (step_slice_eq hps) (fun _ _ => rfl)).1
      | smallUnreliable sq ch msgs => rw [hmatch.1]; exact h2.recvB hd
      | unreliableSlice sq ch sl => rw [hmatch.1]; exact h2.recvB hd
      | ack sq ranges => rw [hmatch.1]; exact h2.recvB hd
  | updA _ | deliverToA _ _ => exact ⟨h2.wfA, h2.recvB, h2.concl⟩

/-! ## reading the channel kind off the configuration -/

/-- channel id `ch` is configured (A → B) as ReliableOrdered: some entry says so, and no entry with that id says
    ReliableUnordered (with unique ids, as the Rust constructor asserts, the second part is vacuous) -/
def Cfg.Ordered (cfg : Cfg) (ch : Nat) : Prop :=
  (∃ c ∈ cfg.send, c.id = ch ∧ c.kind = .ordered) ∧ ∀ c ∈ cfg.send, c.id = ch → c.kind ≠ .unordered

def Cfg.Unordered (cfg : Cfg) (ch : Nat) : Prop :=
  (∃ c ∈ cfg.send, c.id = ch ∧ c.kind = .unordered) ∧ ∀ c ∈ cfg.send, c.id = ch → c.kind ≠ .ordered

theorem relKind_of_cfg (cfg : Cfg) (ch : Nat) (b : Bool)
    (hex : ∃ c ∈ cfg.send, c.id = ch ∧ c.kind ≠ .unreliable)
    (hall : ∀ c ∈ cfg.send, c.id = ch → c.kind ≠ .unreliable → (c.kind == .ordered) = b) : RelKind cfg ch = some b := by
  unfold RelKind
  obtain ⟨c0, hc0, hid0, hk0⟩ := hex
  obtain ⟨r, hf⟩ : ∃ r, SMap.find? (Sys.init cfg).b.recvRel ch = some r :=
    SMap.contains_iff_find?.mp (hid0 ▸ SMap.contains_foldl_filter hc0 (by simpa using hk0))
  rw [hf]
  obtain ⟨c, hcm, hck, h1, rfl⟩ := SMap.find?_foldl_filter hf
  simp only [Option.map_some, RecvRel.new, Option.some.injEq]
  exact hall c hcm h1 (by simpa using hck)

theorem relKind_ordered {cfg : Cfg} {ch : Nat} (h : cfg.Ordered ch) : RelKind cfg ch = some true := by
  obtain ⟨⟨c, hc, hid, hk⟩, hall⟩ := h
  refine relKind_of_cfg cfg ch true ⟨c, hc, hid, by rw [hk]; decide⟩ ?_
  intro c' hc' hid' hk'
  have := hall c' hc' hid'
  cases hkk : c'.kind with
  | ordered => rfl
  | unordered => exact absurd hkk this
  | unreliable => exact absurd hkk hk'

theorem relKind_unordered {cfg : Cfg} {ch : Nat} (h : cfg.Unordered ch) : RelKind cfg ch = some false := by
  obtain ⟨⟨c, hc, hid, hk⟩, hall⟩ := h
  refine relKind_of_cfg cfg ch false ⟨c, hc, hid, by rw [hk]; decide⟩ ?_
  intro c' hc' hid' hk'
  have := hall c' hc' hid'
  cases hkk : c'.kind with
  | ordered => exact absurd hkk this
  | unordered => rfl
  | unreliable => exact absurd hkk hk'

/-! ## layer 3 (C08): a message leaves `unacked` only after its packets were handed to the peer -/

theorem sentInfo_relMsgs {p : Packet} {ch : Nat} {ids : List Nat} (h : Conn.sentInfoOf p = .ok (.relMsgs ch ids)) :
    ∃ sq msgs, p = .smallReliable sq ch msgs ∧ ids = msgs.map (·.1) := by
  cases p <;> have e := Conn.sentInfoOf_ok.mp h
  case smallReliable => cases e; exact ⟨_, _, rfl, rfl⟩
  case ack => obtain ⟨_, _, -, -, e⟩ := e; cases e
  case reliableSlice | smallUnreliable | unreliableSlice => cases e

theorem sentInfo_relSlice {p : Packet} {ch id idx : Nat} (h : Conn.sentInfoOf p = .ok (.relSlice ch id idx)) :
    ∃ sq sl, p = .reliableSlice sq ch sl ∧ sl.messageId = id ∧ sl.sliceIndex = idx := by
  cases p <;> have e := Conn.sentInfoOf_ok.mp h
  case reliableSlice => cases e; exact ⟨_, _, rfl, rfl, rfl⟩
  case ack => obtain ⟨_, _, -, -, e⟩ := e; cases e
  case smallReliable | smallUnreliable | unreliableSlice => cases e

theorem seq_inj : ∀ {pk : List Packet}, (pk.map Packet.sequence).Pairwise (· < ·) → ∀ {p q : Packet}, p ∈ pk → q ∈ pk →
    p.sequence = q.sequence → p = q
  | [], _, _, _, hp, _, _ => by cases hp
  | x :: rest, hpw, p, q, hp, hq, he => by
    simp only [List.map_cons, List.pairwise_cons] at hpw
    simp only [List.mem_cons] at hp hq
    rcases hp with rfl | hp <;> rcases hq with rfl | hq
    · rfl
    · have := hpw.1 _ (List.mem_map.mpr ⟨q, hq, rfl⟩); omega
    · have := hpw.1 _ (List.mem_map.mpr ⟨p, hp, rfl⟩); omega
    · exact seq_inj hpw.2 hp hq he

theorem enc_mem {pk : List Packet} {bs : List Bytes} (h : pk.map encO = bs.map some) {b : Bytes} (hb : b ∈ bs) :
    ∃ p ∈ pk, p.enc = .ok b := by
  obtain ⟨k, hk, rfl⟩ := List.mem_iff_getElem.mp hb
  obtain ⟨p, hp, he⟩ := enc_lookup h (List.getElem?_eq_getElem hk)
  exact ⟨p, List.mem_of_getElem? hp, he⟩

theorem flush_sent {c c' : Conn} {bs : List Bytes} (h : c.getPacketsToSend = .ok (c', bs)) (hd' : c'.isDisconnected = false) :
    (c.SendInv → ∀ seq t info, SMap.find? c'.sent seq = some (t, info) →
      SMap.find? c.sent seq = some (t, info) ∨ ∃ p ∈ flushPk c, p.sequence = seq ∧ Conn.sentInfoOf p = .ok info) ∧
    ∀ p ∈ flushPk c, ∃ info, Conn.sentInfoOf p = .ok info ∧ SMap.find? c'.sent p.sequence = some (c.now, info) := by
  have hpw := (flush_facts h).2.1
  rcases Conn.flush_cases h with ⟨hd, rfl, -⟩ | ⟨pk0, seq0, avail, o⟩
  · rw [flushPk_dead hd]
    exact ⟨fun _ _ _ _ hf => Or.inl hf, fun _ hp => nomatch hp⟩
  · rw [(o.pk_of_live hd').1] at hpw ⊢
    obtain ⟨-, r4, r2⟩ := SI.Conn.recordSent_spec _ _ _ _ o.sent
    refine ⟨fun hinv seq t info hf => ?_, r4 hpw⟩
    rcases (r2 hinv.sentSorted).2 _ (SMap.mem_of_find? hf) with hold | ⟨p, hp, hp1, -, hp2⟩
    · exact Or.inl (SI.mem_find?_of_sorted hinv.sentSorted hold)
    · exact Or.inr ⟨p, hp, hp1.symm, hp2⟩

/-- a packet with sequence number `x` was handed to B -/
def DelivSeq (D : List Nat) (pkA : List Packet) (x : Nat) : Prop :=
  ∃ k ∈ D, ∃ p, pkA[k]? = some p ∧ p.sequence = x

def SmallDeliv (D : List Nat) (pkA : List Packet) (ch id : Nat) : Prop :=
  ∃ k ∈ D, ∃ sq msgs, pkA[k]? = some (.smallReliable sq ch msgs) ∧ id ∈ msgs.map (·.1)

def SliceDeliv (D : List Nat) (pkA : List Packet) (ch id i : Nat) : Prop :=
  ∃ k ∈ D, ∃ sq sl, pkA[k]? = some (.reliableSlice sq ch sl) ∧ sl.messageId = id ∧ sl.sliceIndex = i

/-- every packet needed to rebuild message `m` (id `id` of channel `ch`) was handed to B -/
def Released (D : List Nat) (pkA : List Packet) (ch id : Nat) (m : Bytes) : Prop :=
  (m.length ≤ SLICE_SIZE → SmallDeliv D pkA ch id) ∧
  (SLICE_SIZE < m.length → ∀ i, i < divCeil m.length SLICE_SIZE → SliceDeliv D pkA ch id i)

theorem DelivSeq.mono {D D' : List Nat} {pk pk' : List Packet} (hD : ∀ k ∈ D, k ∈ D') (hp : pk <+: pk') {x : Nat}
    (h : DelivSeq D pk x) : DelivSeq D' pk' x := by
  obtain ⟨k, hk, p, h1, h2⟩ := h
  exact ⟨k, hD k hk, p, prefix_getElem? hp h1, h2⟩

theorem SmallDeliv.mono {D D' : List Nat} {pk pk' : List Packet} (hD : ∀ k ∈ D, k ∈ D') (hp : pk <+: pk') {ch id : Nat}
    (h : SmallDeliv D pk ch id) : SmallDeliv D' pk' ch id := by
  obtain ⟨k, hk, sq, msgs, h1, h2⟩ := h
  exact ⟨k, hD k hk, sq, msgs, prefix_getElem? hp h1, h2⟩

theorem SliceDeliv.mono {D D' : List Nat} {pk pk' : List Packet} (hD : ∀ k ∈ D, k ∈ D') (hp : pk <+: pk') {ch id i : Nat}
    (h : SliceDeliv D pk ch id i) : SliceDeliv D' pk' ch id i := by
  obtain ⟨k, hk, sq, sl, h1, h2⟩ := h
  exact ⟨k, hD k hk, sq, sl, prefix_getElem? hp h1, h2⟩

theorem Released.mono {D D' : List Nat} {pk pk' : List Packet} (hD : ∀ k ∈ D, k ∈ D') (hp : pk <+: pk') {ch id : Nat}
    {m : Bytes} (h : Released D pk ch id m) : Released D' pk' ch id m :=
  ⟨fun hl => (h.1 hl).mono hD hp, fun hl i hi => (h.2 hl i hi).mono hD hp⟩

/-- release evidence for one reliable send channel: every logged message that is no longer stored was released with
    cause; every slice of a stored sliced message is still pending or its packet was handed to B -/
structure RelEv (D : List Nat) (pkA : List Packet) (L : List Bytes) (ch : Nat) (sA : SendRel) : Prop where
  gone : ∀ id m, L[id]? = some m → SMap.find? sA.unacked id = none → Released D pkA ch id m
  marked : ∀ id m n k nx a ls, SMap.find? sA.unacked id = some (.sliced m n k nx a ls) → ∀ i, i < n →
    sA.Pending id i ∨ SliceDeliv D pkA ch id i

theorem RelEv.mono {D D' : List Nat} {pk pk' : List Packet} (hD : ∀ k ∈ D, k ∈ D') (hp : pk <+: pk') {L : List Bytes}
    {ch : Nat} {sA : SendRel} (h : RelEv D pk L ch sA) : RelEv D' pk' L ch sA :=
  ⟨fun id m h1 h2 => (h.gone id m h1 h2).mono hD hp,
   fun id m n k nx a ls hf i hi => (h.marked id m n k nx a ls hf i hi).imp (fun x => x) (fun x => x.mono hD hp)⟩

theorem relEv_new (D : List Nat) (pk : List Packet) (ch c resend maxMem : Nat) : RelEv D pk [] ch (SendRel.new c resend maxMem) :=
  ⟨fun id m h _ => by simp at h, fun id m n k nx a ls hf => by simp [SendRel.new] at hf⟩

theorem relEv_send {D : List Nat} {pk : List Packet} {L : List Bytes} {ch : Nat} {s s' : SendRel} {m : Bytes}
    (h : RelEv D pk L ch s) (hg : ChanG L s) (hs : s.sendMessage m = .ok s') : RelEv D pk (L ++ [m]) ch s' := by
  have hnid := hg.nid
  obtain ⟨-, rfl⟩ := SendRel.sendMessage_ok hs
  constructor
  · intro id m' hL hf
    dsimp only at hf
    rw [SMap.find?_insert] at hf
    by_cases he : s.nextId = id
    · rw [if_pos he] at hf; cases hf
    · rw [if_neg he] at hf
      have hlt := (List.getElem?_eq_some_iff.mp hL).1
      rw [List.length_append, List.length_singleton] at hlt
      rw [List.getElem?_append_left (by omega)] at hL
      exact h.gone id m' hL hf
  · intro id m' n k nx a ls hf i hi'
    dsimp only at hf
    rw [SMap.find?_insert] at hf
    by_cases he : s.nextId = id
    · -- the new entry: a sliced message none of whose slices is acknowledged
      rw [if_pos he] at hf
      by_cases hb : m.length > SLICE_SIZE
      · rw [if_pos hb] at hf; cases hf
        exact Or.inl ⟨_, _, _, _, _, _, by dsimp only; rw [SMap.find?_insert, if_pos he, if_pos hb]; rfl,
          by rw [List.getElem?_replicate, if_pos hi']⟩
      · rw [if_neg hb] at hf; cases hf
    · rw [if_neg he] at hf
      rcases h.marked id m' n k nx a ls hf i hi' with ⟨m2, n2, k2, nx2, a2, ls2, hf2, ha2⟩ | hd
      · exact Or.inl ⟨m2, n2, k2, nx2, a2, ls2, by dsimp only; rw [SMap.find?_insert, if_neg he]; exact hf2, ha2⟩
      · exact Or.inr hd

theorem relEv_getPackets {D : List Nat} {pk : List Packet} {L : List Bytes} {ch : Nat} {s : SendRel}
    (h : RelEv D pk L ch s) (hi : s.Inv) (seq avail now : Nat) : RelEv D pk L ch (s.getPackets seq avail now).1 := by
  have hsim : SI.MapSim s.unacked (s.getPackets seq avail now).1.unacked :=
    (SI.SendRel.getPackets_spec hi seq avail now).2.2.2.2.1
  constructor
  · intro id m hL hf
    rcases hsim.find id with ⟨h1, -⟩ | ⟨u, u', -, h2, -⟩
    · exact h.gone id m hL h1
    · rw [hf] at h2; cases h2
  · intro id m n k nx a ls hf i hi'
    rcases hsim.find id with ⟨-, h2⟩ | ⟨u, u', h1, h2, h3⟩
    · rw [hf] at h2; cases h2
    · rw [hf] at h2; cases h2
      cases u with
      | small => exact h3.elim
      | sliced m0 n0 k0 nx0 a0 ls0 =>
        obtain ⟨rfl, rfl, rfl, rfl, -⟩ := h3
        exact (h.marked id _ _ _ _ _ _ h1 i hi').imp (fun hp => SI.MapSim.pending hsim hp) (fun x => x)

structure InvR (cfg : Cfg) (s : Sys) (pkA : List Packet) : Prop where
  sentA : s.a.isDisconnected = false → ∀ seq t info, SMap.find? s.a.sent seq = some (t, info) →
    ∃ p ∈ pkA, p.sequence = seq ∧ Conn.sentInfoOf p = .ok info
  ackB : ∀ x, Acks.Mem x s.b.pendingAcks → DelivSeq s.deliveredToB pkA x
  ackOutB : ∀ b ∈ s.outB, ∀ aseq ranges, Packet.fromBytes b = .ok (.ack aseq ranges) →
    ∀ x, Acks.Mem x ranges → DelivSeq s.deliveredToB pkA x
  relA : ∀ ch sA, SMap.find? s.a.sendRel ch = some sA → RelEv s.deliveredToB pkA (s.submitted ch) ch sA

theorem invR_init (cfg : Cfg) : InvR cfg (Sys.init cfg) [] := by
  refine ⟨?_, ?_, fun _ h => (by cases h), ?_⟩
  · intro _ seq t info hf
    simp [Sys.init, Conn.fromChannels] at hf
  · intro x hx
    simp [Sys.init, Conn.fromChannels] at hx
  · intro ch sA hf
    obtain ⟨c, -, -, -, rfl⟩ := SMap.find?_foldl_filter hf
    exact relEv_new _ _ _ _ _ _

/-- the ack chain: a sequence number covered by an ack packet B emitted, and recorded in A's sent table, is the
    number of a packet of A that was handed to B — and the table entry describes that very packet -/
theorem ack_chain {cfg : Cfg} {s : Sys} {pkA : List Packet} (h1 : Inv1 cfg s pkA) (hR : InvR cfg s pkA)
    {bytes : Bytes} (hb : bytes ∈ s.outB) {aseq : Nat} {ranges : List AckRange}
    (hp : Packet.fromBytes bytes = .ok (.ack aseq ranges)) (hd : s.a.isDisconnected = false)
    {seq t : Nat} {info : SentInfo} (hm : Acks.Mem seq ranges) (hf : SMap.find? s.a.sent seq = some (t, info)) :
    ∃ k ∈ s.deliveredToB, ∃ p, pkA[k]? = some p ∧ p.sequence = seq ∧ Conn.sentInfoOf p = .ok info := by
  obtain ⟨k, hk, p1, hp1, hs1⟩ := hR.ackOutB bytes hb aseq ranges hp seq hm
  obtain ⟨p2, hp2, hs2, hi2⟩ := hR.sentA hd seq t info hf
  have : p1 = p2 := seq_inj h1.seqA.1 (List.mem_of_getElem? hp1) hp2 (hs1.trans hs2.symm)
  subst this
  exact ⟨k, hk, p1, hp1, hs1, hi2⟩

theorem relEv_ack {cfg : Cfg} {s : Sys} {pkA : List Packet} (h1 : Inv1 cfg s pkA) (hR : InvR cfg s pkA)
    {bytes : Bytes} (hb : bytes ∈ s.outB) {a' : Conn} (hm : s.a.processPacket bytes = .ok a')
    (hG' : ∀ ch sA, SMap.find? a'.sendRel ch = some sA → ChanG (s.submitted ch) sA) (hI' : a'.SendInv) :
    ∀ ch sA', SMap.find? a'.sendRel ch = some sA' → RelEv s.deliveredToB pkA (s.submitted ch) ch sA' := by
  intro ch sA' hf'
  have hI := h1.invA.1
  rcases SI.Conn.processPacket_eff hI hm with hsame | ⟨aseq, ranges, L, hd, hp, hL, hch, hno⟩
  · rw [hsame] at hf'; exact hR.relA ch sA' hf'
  · have chain : ∀ seq ∈ L, ∀ t info, SMap.find? s.a.sent seq = some (t, info) →
        ∃ k ∈ s.deliveredToB, ∃ p, pkA[k]? = some p ∧ p.sequence = seq ∧ Conn.sentInfoOf p = .ok info :=
      fun seq hs t info hf => ack_chain h1 hR hb hp hd (hL seq hs) hf
    have chainSlice : ∀ seq ∈ L, ∀ t id i, SMap.find? s.a.sent seq = some (t, .relSlice ch id i) →
        SliceDeliv s.deliveredToB pkA ch id i := by
      intro seq hs t id i hf
      obtain ⟨k, hk, p, hpk, -, hinfo⟩ := chain seq hs t _ hf
      obtain ⟨sq, sl, rfl, e1, e2⟩ := sentInfo_relSlice hinfo
      exact ⟨k, hk, sq, sl, hpk, e1, e2⟩
    cases hpre : SMap.find? s.a.sendRel ch with
    | none => rw [hno ch hpre] at hf'; cases hf'
    | some sA =>
      obtain ⟨s2, hs2, eff⟩ := hch ch sA hpre
      rw [hf'] at hs2; cases hs2
      have hold := hR.relA ch sA hpre
      have hG := (h1.chanA ch sA hpre).1
      have hiA := (hI.chans ch sA hpre).1
      have hiA' := (hI'.chans ch sA' hf').1
      have hGA' := hG' ch sA' hf'
      constructor
      · intro id m hLm hnone
        cases hfu : SMap.find? sA.unacked id with
        | none => exact hold.gone id m hLm hfu
        | some u =>
          have hum : u.msg = m := by
            have := hG.gen _ (SMap.mem_of_find? hfu)
            rw [hLm] at this; exact (Option.some.inj this).symm
          have hok := hiA.find_ok hfu
          obtain ⟨seq, hs, t, info, hfs, hn⟩ := eff.just id (by rw [hfu]; simp) hnone
          cases u with
          | small m0 ls =>
            simp only [Unacked.msg] at hum; subst hum
            have hlen : m0.length ≤ SLICE_SIZE := hok
            refine ⟨fun _ => ?_, fun hl => by omega⟩
            rcases hn with ⟨ids, rfl, hid⟩ | ⟨idx, rfl⟩
            · obtain ⟨k, hk, p, hpk, -, hinfo⟩ := chain seq hs t _ hfs
              obtain ⟨sq, msgs, rfl, rfl⟩ := sentInfo_relMsgs hinfo
              exact ⟨k, hk, sq, msgs, hpk, hid⟩
            · obtain ⟨s0, hs0, hi0⟩ := (hI.sentOK _ (SMap.mem_of_find? hfs)).2 ch rfl
              rw [hpre] at hs0; cases hs0
              exact (hi0.2 _ hfu).elim
          | sliced m0 n k nx a ls =>
            simp only [Unacked.msg] at hum; subst hum
            obtain ⟨o1, o2, -⟩ := hok
            refine ⟨fun hl => by omega, fun _ i hi' => ?_⟩
            rw [← o2] at hi'
            rcases hold.marked id _ _ _ _ _ _ hfu i hi' with hpend | hdel
            · rcases eff.pend id i hpend with ⟨m2, n2, k2, nx2, a2, ls2, hf2, -⟩ | ⟨seq2, hs2, t2, hf2⟩
              · rw [hnone] at hf2; cases hf2
              · exact chainSlice seq2 hs2 t2 id i hf2
            · exact hdel
      · intro id m n k nx a ls hfs' i hi'
        cases hfu : SMap.find? sA.unacked id with
        | none => rw [eff.gone id hfu] at hfs'; cases hfs'
        | some u =>
          have hLm := hGA'.gen _ (SMap.mem_of_find? hfs')
          have hum := hG.gen _ (SMap.mem_of_find? hfu)
          simp only [Unacked.msg] at hLm
          rw [hLm] at hum
          have hum' : u.msg = m := (Option.some.inj hum).symm
          obtain ⟨p1, p2, -⟩ := hiA'.find_ok hfs'
          have hok := hiA.find_ok hfu
          cases u with
          | small m0 ls0 =>
            simp only [Unacked.msg] at hum'; subst hum'
            have : m0.length ≤ SLICE_SIZE := hok
            omega
          | sliced m0 n0 k0 nx0 a0 ls0 =>
            simp only [Unacked.msg] at hum'; subst hum'
            obtain ⟨-, o2, -⟩ := hok
            have hn : n0 = n := o2.trans p2.symm
            subst hn
            rcases hold.marked id _ _ _ _ _ _ hfu i hi' with hpend | hdel
            · rcases eff.pend id i hpend with hp' | ⟨seq2, hs2, t2, hf2⟩
              · exact Or.inl hp'
              · exact Or.inr (chainSlice seq2 hs2 t2 id i hf2)
            · exact Or.inr hdel

theorem rel_only_rel (s : SendRel) (seq avail now : Nat) : ∀ p ∈ (s.getPackets seq avail now).2.1, isRel p = true := by
  intro p hp
  have := SendRel.getPackets_genuine (s := s) (seq := seq) (avail := avail) (now := now) rfl p hp
  cases p with
  | ack _ _ => exact this.elim
  | smallReliable _ _ _ => rfl
  | reliableSlice _ _ _ => rfl
  | smallUnreliable _ _ _ => exact this.elim
  | unreliableSlice _ _ _ => exact this.elim

theorem not_ack_of_rel {p : Packet} (h : isRel p = true) : SI.isAckPkt p = false := by
  cases p <;> first | rfl | cases h

theorem flush_acks {c c' : Conn} {bs : List Bytes} (h : c.getPacketsToSend = .ok (c', bs)) :
    ∀ p ∈ flushPk c, SI.isAckPkt p = true → ∃ sq, p = Packet.ack sq c.pendingAcks :=
  (flush_pres (fun _ _ => True) (fun p => SI.isAckPkt p = true → ∃ sq, p = Packet.ack sq c.pendingAcks) c'.packetSeq
    (fun _ _ _ _ _ => trivial)
    (fun _ sA seq avail _ _ p hp ha => by rw [not_ack_of_rel (rel_only_rel sA seq avail c.now p hp)] at ha; cases ha)
    (fun sU seq avail p hp ha => by rw [(unrel_kind sU seq avail p hp).2] at ha; cases ha)
    (fun sq _ => ⟨sq, rfl⟩) h (Nat.le_refl _) (fun _ _ _ => trivial)).2

theorem invR_step {cfg : Cfg} {s s' : Sys} {pkA : List Packet} {op : SysOp} (h1 : Inv1 cfg s pkA) (hR : InvR cfg s pkA)
    (hs : s.step op = some s') : InvR cfg s' (nextPk s op pkA) := by
  have h1' := inv1_step h1 hs
  cases stepped hs with
  | @sendA ch _ _ hm =>
    have e1 := (SL.Conn.sendMessage_frame hm).2.2.2.1
    have e2 := (SL.Conn.sendMessage_statusStep hm).was_live
    refine ⟨fun hd => by dsimp only at hd ⊢; rw [e1]; exact hR.sentA (e2 hd), hR.ackB, hR.ackOutB, ?_⟩
    dsimp only
    rcases sendMessage_cases hm with ⟨hacc, s0, s1, hf, hsend, rfl⟩ | ⟨hacc, hsr⟩
    · rw [hacc, if_pos rfl]
      exact find_insert_push (P := fun c L sA => RelEv s.deliveredToB pkA L c sA) hR.relA
        (relEv_send (hR.relA ch s0 hf) (h1.chanA ch s0 hf).1 hsend)
    · rw [hacc, hsr]
      exact hR.relA
  | recvB hm =>
    exact ⟨hR.sentA, by dsimp only; rw [(SI.Conn.receiveMessage_same hm).2]; exact hR.ackB, hR.ackOutB, hR.relA⟩
  | updA hm =>
    obtain ⟨e1, -, -, -, -, e6⟩ := Conn.update_frame hm
    have e7 := (Conn.update_frame hm).status
    refine ⟨?_, hR.ackB, hR.ackOutB, by dsimp only; rw [e1]; exact hR.relA⟩
    intro hd seq t info hf
    dsimp only at hd hf
    rw [isDisconnected_congr e7] at hd
    rw [e6] at hf
    exact hR.sentA hd seq t info (SMap.find?_of_sublist h1.invA.1.sentSorted.nodup (List.dropWhile_sublist _) hf)
  | updB hm =>
    exact ⟨hR.sentA, by dsimp only; rw [(Conn.update_frame hm).pendingAcks]; exact hR.ackB, hR.ackOutB, hR.relA⟩
  | @flushA a' _ hm =>
    have hpre : pkA <+: pkA ++ flushPk s.a := List.prefix_append _ _
    have hD : ∀ k ∈ s.deliveredToB, k ∈ s.deliveredToB := fun _ h => h
    refine ⟨?_, fun x hx => (hR.ackB x hx).mono hD hpre,
      fun b hb aseq ranges hp x hx => (hR.ackOutB b hb aseq ranges hp x hx).mono hD hpre, ?_⟩
    · intro hd seq t info hf
      dsimp only at hd hf
      simp only [nextPk]
      rcases (flush_sent hm hd).1 h1.invA.1 seq t info hf with hold | ⟨p, hp, hp1, hp2⟩
      · obtain ⟨p, hp, hp1, hp2⟩ := hR.sentA ((flush_facts hm).2.2.2.2.2.2 hd) seq t info hold
        exact ⟨p, List.mem_append_left _ hp, hp1, hp2⟩
      · exact ⟨p, List.mem_append_right _ hp, hp1, hp2⟩
    · obtain ⟨g1, -⟩ := flush_presI (fun ch sA => RelEv s.deliveredToB pkA (s.submitted ch) ch sA) (fun _ => True)
        a'.packetSeq h1.invA.1 (fun ch sA seq avail hi _ hp => relEv_getPackets hp hi seq avail s.a.now)
        (fun _ _ _ _ _ _ _ _ _ _ => trivial) (fun _ _ _ _ _ => trivial) (fun _ => trivial) hm (Nat.le_refl _) hR.relA
      exact fun ch sA hf => (g1 ch sA hf).mono hD hpre
  | flushB hm =>
    obtain ⟨f1, -, -, -, -, f6, -⟩ := flush_facts hm
    refine ⟨hR.sentA, by dsimp only; rw [f6]; exact hR.ackB, ?_, hR.relA⟩
    intro b hb aseq ranges hp x hx
    dsimp only at hb ⊢
    rw [List.mem_append] at hb
    rcases hb with hb | hb
    · exact hR.ackOutB b hb aseq ranges hp x hx
    · obtain ⟨p, hpm, he⟩ := enc_mem f1 hb
      have hack : SI.isAckPkt p = true := (fromBytes_of_enc he hp).2.2.symm
      obtain ⟨sq, rfl⟩ := flush_acks hm p hpm hack
      have := SI.enc_ack_decodes h1.invB.2 he
      rw [hp] at this
      simp only [Except.ok.injEq, Packet.ack.injEq] at this
      rw [this.2] at hx
      exact hR.ackB x hx
  | @deliverToB k bytes b' hb hm =>
    have hD : ∀ j ∈ s.deliveredToB, j ∈ s.deliveredToB ++ [k] := fun j hj => List.mem_append_left _ hj
    have hpre : pkA <+: pkA := List.prefix_refl _
    refine ⟨hR.sentA, ?_, fun b hb aseq ranges hp x hx => (hR.ackOutB b hb aseq ranges hp x hx).mono hD hpre,
      fun ch sA hf => (hR.relA ch sA hf).mono hD hpre⟩
    intro x hx
    dsimp only at hx ⊢
    rcases (C08.pending_acks_only_received s.b b' bytes h1.invB.1 h1.invB.2 hm).2 x hx with hold | ⟨p', hdec, rfl⟩
    · exact (hR.ackB x hold).mono hD hpre
    · obtain ⟨p, hp, he⟩ := enc_lookup h1.encA hb
      exact ⟨k, by simp, p, hp, (fromBytes_of_enc he hdec).1.symm⟩
  | deliverToA hb hm =>
    have e1 := C08.sent_table_only_shrinks_on_process _ _ _ h1.invA.1 hm
    have e2 := (SL.Conn.processPacket_statusStep hm).was_live
    refine ⟨fun hd seq t info hf => hR.sentA (e2 hd) seq t info (e1 _ _ hf), hR.ackB, hR.ackOutB, ?_⟩
    exact relEv_ack h1 hR (List.mem_of_getElem? hb) hm (fun ch sA hf => (h1'.chanA ch sA hf).1) h1'.invA.1

theorem enc_lookup' {pk : List Packet} {bs : List Bytes} (h : pk.map encO = bs.map some) {k : Nat} {p : Packet}
    (hp : pk[k]? = some p) : ∃ b, bs[k]? = some b ∧ p.enc = .ok b := by
  have h1 : (pk.map encO)[k]? = some (encO p) := by rw [List.getElem?_map, hp]; rfl
  rw [h, List.getElem?_map] at h1
  cases hb : bs[k]? with
  | none => rw [hb] at h1; cases h1
  | some b =>
    rw [hb] at h1
    simp only [Option.map_some, Option.some.injEq] at h1
    exact ⟨b, rfl, encO_some h1.symm⟩

theorem decode_lookup {cfg : Cfg} {s : Sys} {pkA : List Packet} (h1 : Inv1 cfg s pkA) (h2 : Inv2 cfg s pkA)
    {k : Nat} {p : Packet} (hp : pkA[k]? = some p) (hr : isRel p = true) :
    ∃ bytes, s.outA[k]? = some bytes ∧ Packet.fromBytes bytes = .ok p := by
  obtain ⟨b, hb, he⟩ := enc_lookup' h1.encA hp
  obtain ⟨b', h3, h4⟩ := Packet.fromBytes_enc p (h2.wfA p (List.mem_of_getElem? hp) hr)
  rw [he] at h3; cases h3
  exact ⟨b, hb, h4⟩

theorem some_getD {α : Type} {o : Option α} (h : o.isSome = true) (d : α) : o = some (o.getD d) := by
  cases o with
  | none => cases h
  | some x => rfl

/-! ## unreliable channels, sender side -/

/-- what a packet may carry on the unreliable channels: `SU ch` = every message offered to unreliable channel `ch`,
    `Lg ch` = the messages that were assigned the sliced-message ids 0, 1, 2, … of that channel (a fresh id per
    sliced message, so all slices carrying one id belong to one message); `K` = valid channel ids -/
def UGen (K : Nat → Prop) (SU Lg : Nat → List Bytes) : Packet → Prop
  | .smallUnreliable _ ch msgs => K ch ∧ msgs.length < 65536 ∧ ∀ m ∈ msgs, m ∈ SU ch
  | .unreliableSlice _ ch sl => K ch ∧ ∃ m, (Lg ch)[sl.messageId]? = some m ∧ m ∈ SU ch ∧ m.length > SLICE_SIZE ∧
      sl.numSlices = divCeil m.length SLICE_SIZE ∧ sl.sliceIndex < sl.numSlices ∧
      sl.payload = sliceBytes m sl.numSlices sl.sliceIndex
  | _ => True

theorem UGen.mono {K : Nat → Prop} {SU SU' Lg Lg' : Nat → List Bytes} (hS : ∀ ch, SU ch <+: SU' ch)
    (hL : ∀ ch, Lg ch <+: Lg' ch) : ∀ {p : Packet}, UGen K SU Lg p → UGen K SU' Lg' p
  | .smallUnreliable _ ch msgs, hp => ⟨hp.1, hp.2.1, fun m hm => (hS ch).subset (hp.2.2 m hm)⟩
  | .unreliableSlice _ ch sl, hp => by
    obtain ⟨hk, m, h1, h2, h3⟩ := hp
    exact ⟨hk, m, prefix_getElem? (hL ch) h1, (hS ch).subset h2, h3⟩
  | .smallReliable .., _ => trivial
  | .reliableSlice .., _ => trivial
  | .ack .., _ => trivial

structure ChanU (K : Nat → Prop) (SU Lg : List Bytes) (ch : Nat) (sU : SendUnrel) : Prop where
  key : K ch
  chid : sU.ch = ch
  sid : sU.slicedId = Lg.length
  queue : ∀ m ∈ sU.queue, m ∈ SU
  log : ∀ m ∈ Lg, m ∈ SU ∧ SLICE_SIZE < m.length

theorem chanU_mono {K : Nat → Prop} {SU Lg : List Bytes} {ch : Nat} {sU : SendUnrel} (h : ChanU K SU Lg ch sU) (m : Bytes) :
    ChanU K (SU ++ [m]) Lg ch sU :=
  ⟨h.key, h.chid, h.sid, fun x hx => List.mem_append_left _ (h.queue x hx),
   fun x hx => ⟨List.mem_append_left _ (h.log x hx).1, (h.log x hx).2⟩⟩

theorem chanU_send {K : Nat → Prop} {SU Lg : List Bytes} {ch : Nat} {sU : SendUnrel} (h : ChanU K SU Lg ch sU) (m : Bytes) :
    ChanU K (SU ++ [m]) Lg ch (sU.sendMessage m) := by
  unfold SendUnrel.sendMessage
  split
  · exact chanU_mono h m
  · refine ⟨h.key, h.chid, h.sid, fun x hx => ?_, (chanU_mono h m).log⟩
    exact List.mem_append.mpr ((List.mem_append.mp hx).imp_left (h.queue x))

/-- the slice-id log grows by the sliced messages `T` of this flush -/
theorem chanU_getPackets {K : Nat → Prop} (SU Lg : Nat → List Bytes) {ch : Nat} {sU : SendUnrel}
    (h : ChanU K (SU ch) (Lg ch) ch sU) (seq avail : Nat) :
    ∃ T, ChanU K (SU ch) (Lg ch ++ T) ch (sU.getPackets seq avail).1 ∧
      ∀ Lg' : Nat → List Bytes, Lg' ch = Lg ch ++ T → ∀ p ∈ (sU.getPackets seq avail).2.1, UGen K SU Lg' p := by
  obtain ⟨T, h1, h2, h3⟩ := SendUnrel.getPackets_log sU seq avail
  refine ⟨T, ⟨h.key, ?_, ?_, ?_, ?_⟩, ?_⟩
  · rw [SendUnrel.getPackets_eq]; exact h.chid
  · rw [h1, h.sid]; simp
  · rw [SendUnrel.getPackets_eq]; intro m hm; cases hm
  · intro m hm
    rw [List.mem_append] at hm
    rcases hm with hm | hm
    · exact h.log m hm
    · exact ⟨h.queue m (h2 m hm).1, (h2 m hm).2⟩
  · intro Lg' hL p hp
    obtain ⟨hok, hu⟩ := h3 p hp
    cases p with
    | smallUnreliable sq c msgs =>
      obtain ⟨rfl, hsum, hm⟩ := hok
      have := unrelSerSum_ge msgs
      refine ⟨by rw [h.chid]; exact h.key, by unfold SLICE_SIZE at hsum; omega, ?_⟩
      intro m hmm
      rw [h.chid]; exact h.queue m (hm m hmm).1
    | unreliableSlice sq c sl =>
      obtain ⟨rfl, hge, -, -, -, -, -, hi, -⟩ := hok
      obtain ⟨m, hT, hn, hpay⟩ := hu
      have hmT : m ∈ T := List.mem_of_getElem? hT
      refine ⟨by rw [h.chid]; exact h.key, m, ?_, by rw [h.chid]; exact h.queue m (h2 m hmT).1, (h2 m hmT).2, hn, hi, hpay⟩
      rw [h.chid, hL, List.getElem?_append_right (by rw [← h.sid]; exact hge), ← h.sid]
      exact hT
    | smallReliable _ _ _ => exact hok.elim
    | reliableSlice _ _ _ => exact hok.elim
    | ack _ _ => exact hok.elim

theorem uGen_of_rel {K : Nat → Prop} {SU Lg : Nat → List Bytes} {p : Packet} (h : isRel p = true) : UGen K SU Lg p := by
  cases p with
  | smallReliable _ _ _ => trivial
  | reliableSlice _ _ _ => trivial
  | ack _ _ => trivial
  | smallUnreliable _ _ _ => cases h
  | unreliableSlice _ _ _ => cases h

theorem chanLoop_U (K : Nat → Prop) (SU : Nat → List Bytes) (now : Nat) {ord : List (Bool × Nat)} {st fin : ChanSt}
    {Lg : Nat → List Bytes} (h : Conn.chanLoop now ord st = .ok fin)
    (hc : ∀ ch sU, SMap.find? st.2.1 ch = some sU → ChanU K (SU ch) (Lg ch) ch sU) (hq : ∀ p ∈ st.2.2.1, UGen K SU Lg p) :
    ∃ Lg' : Nat → List Bytes, (∀ ch, Lg ch <+: Lg' ch) ∧
      (∀ ch sU, SMap.find? fin.2.1 ch = some sU → ChanU K (SU ch) (Lg' ch) ch sU) ∧ ∀ p ∈ fin.2.2.1, UGen K SU Lg' p := by
  refine chanLoop_rel (fun st fin => ∀ Lg : Nat → List Bytes,
      (∀ ch sU, SMap.find? st.2.1 ch = some sU → ChanU K (SU ch) (Lg ch) ch sU) → (∀ p ∈ st.2.2.1, UGen K SU Lg p) →
      ∃ Lg' : Nat → List Bytes, (∀ ch, Lg ch <+: Lg' ch) ∧
        (∀ ch sU, SMap.find? fin.2.1 ch = some sU → ChanU K (SU ch) (Lg' ch) ch sU) ∧ ∀ p ∈ fin.2.2.1, UGen K SU Lg' p)
    (fun _ Lg hc hq => ⟨Lg, fun _ => List.prefix_refl _, hc, hq⟩)
    (fun _ _ _ h1 h2 Lg hc hq =>
      let ⟨Lg1, e1, c1, q1⟩ := h1 Lg hc hq
      let ⟨Lg2, e2, c2, q2⟩ := h2 Lg1 c1 q1
      ⟨Lg2, fun ch => (e1 ch).trans (e2 ch), c2, q2⟩) now ?_ ?_ ord st fin h Lg hc hq
  · intro sr su pk seq avail ch s _ Lg hc hq
    refine ⟨Lg, fun _ => List.prefix_refl _, hc, fun p hp => (List.mem_append.mp hp).elim (hq p) (fun hp => ?_)⟩
    exact uGen_of_rel (rel_only_rel s seq avail now p hp)
  · intro sr su pk seq avail ch s hf Lg hc hq
    obtain ⟨T, hT1, hT2⟩ := chanU_getPackets SU Lg (hc ch s hf) seq avail
    have hext : ∀ c, Lg c <+: (fun c => if c = ch then Lg ch ++ T else Lg c) c := by
      intro c
      dsimp only
      by_cases e : c = ch
      · rw [if_pos e, e]; exact List.prefix_append _ _
      · rw [if_neg e]; exact List.prefix_refl _
    refine ⟨fun c => if c = ch then Lg ch ++ T else Lg c, hext, ?_, ?_⟩
    · exact SMap.forall_find?_insert (fun c sU e hsU => by dsimp only; rw [if_neg e]; exact hc c sU hsU)
        (by dsimp only; rw [if_pos rfl]; exact hT1)
    · intro p hp
      rcases List.mem_append.mp hp with hp | hp
      · exact (hq p hp).mono (fun _ => List.prefix_refl _) hext
      · exact hT2 _ (if_pos rfl) p hp

theorem flush_U (K : Nat → Prop) (SU Lg : Nat → List Bytes) {c c' : Conn} {bs : List Bytes}
    (h : c.getPacketsToSend = .ok (c', bs))
    (hc : ∀ ch sU, SMap.find? c.sendUnrel ch = some sU → ChanU K (SU ch) (Lg ch) ch sU) :
    ∃ Lg' : Nat → List Bytes, (∀ ch, Lg ch <+: Lg' ch) ∧
      (∀ ch sU, SMap.find? c'.sendUnrel ch = some sU → ChanU K (SU ch) (Lg' ch) ch sU) ∧ ∀ p ∈ flushPk c, UGen K SU Lg' p := by
  rcases Conn.flush_cases h with ⟨hd, rfl, -⟩ | ⟨pk0, seq0, avail, o⟩
  · rw [flushPk_dead hd]
    exact ⟨Lg, fun _ => List.prefix_refl _, hc, fun _ hp => (by cases hp)⟩
  · obtain ⟨Lg', e1, e2, e3⟩ := chanLoop_U K SU c.now o.loop hc (fun _ hp => by cases hp)
    exact ⟨Lg', e1, e2, o.forall_flushPk e3 (fun _ => trivial)⟩

/-! ## unreliable channels, receiver side -/

theorem discardAll_find (now : Nat) : ∀ (m m' : SMap RecvUnrel), Conn.discardAll now m = .ok m' →
    ∀ ch r', SMap.find? m' ch = some r' → ∃ r, SMap.find? m ch = some r ∧ r.discardOld now = .ok r'
  | [], m', h, ch, r', hf => by
    simp only [Conn.discardAll, Res.ok.injEq] at h; subst h
    simp [SMap.find?] at hf
  | (k, r) :: rest, m', h, ch, r', hf => by
    obtain ⟨r1, h1, h⟩ := Res.bind_ok_iff.mp h
    obtain ⟨rest', h2, h⟩ := Res.bind_ok_iff.mp h
    cases h
    simp only [SMap.find?] at hf ⊢
    split at hf
    · rename_i e
      cases hf
      rw [if_pos e]; exact ⟨r, rfl, h1⟩
    · rename_i e
      rw [if_neg e]
      exact discardAll_find now rest rest' h2 ch r' hf

open DataPath in
/-- the DataPath invariant of one unreliable receive channel, with `obtained` as ghost output and some ghost record
    `seen` of the slices handed over so far -/
def ChanBU (S Lg : List Bytes) (r : RecvUnrel) (o : List Bytes) : Prop :=
  ∃ seen, UInv S (fun id => Lg[id]?) ⟨r, o, seen, false⟩

open DataPath in
theorem uInv_mono {S S' Lg Lg' : List Bytes} {st : URunSt} (hS : S <+: S') (hL : Lg <+: Lg')
    (h : UInv S (fun id => Lg[id]?) st) : UInv S' (fun id => Lg'[id]?) st := by
  refine ⟨fun x hx => hS.subset (h.msgs x hx), h.wfS, ?_, h.marks, fun x hx => hS.subset (h.obt x hx)⟩
  intro id c hc
  obtain ⟨m, h1, h2, h3⟩ := h.slices id c hc
  exact ⟨m, prefix_getElem? hL h1, hS.subset h2, h3⟩

theorem chanBU_mono {S S' Lg Lg' : List Bytes} {r : RecvUnrel} {o : List Bytes} (hS : S <+: S') (hL : Lg <+: Lg')
    (h : ChanBU S Lg r o) : ChanBU S' Lg' r o := by
  obtain ⟨seen, hs⟩ := h
  exact ⟨seen, uInv_mono hS hL hs⟩

open DataPath in
theorem chanBU_new (S Lg : List Bytes) (ch maxMem : Nat) : ChanBU S Lg (RecvUnrel.new ch maxMem) [] :=
  ⟨[], uinv_init S _ ch maxMem⟩

open DataPath in
theorem chanBU_msgs {S Lg : List Bytes} {r : RecvUnrel} {o : List Bytes} (h : ChanBU S Lg r o) (msgs : List Bytes)
    (hg : ∀ m ∈ msgs, m ∈ S) : ChanBU S Lg (msgs.foldl RecvUnrel.processMessage r) o := by
  obtain ⟨seen, hs⟩ := h
  refine ⟨seen, ?_⟩
  rw [← foldl_ustep_msgs msgs r o seen]
  refine foldl_inv ustep (UInv S _) (GenuineU S _) (ustep_inv S _) _ _ hs ?_
  intro op hop
  obtain ⟨m, hm, rfl⟩ := List.mem_map.mp hop
  exact hg m hm

open DataPath in
theorem chanBU_slice {S Lg : List Bytes} {r r' : RecvUnrel} {o : List Bytes} (h : ChanBU S Lg r o) {sl : Slice} {now : Nat}
    (hg : GenuineU S (fun id => Lg[id]?) (.slice sl now)) (hp : r.processSlice sl now = .ok r') : ChanBU S Lg r' o := by
  obtain ⟨seen, hs⟩ := h
  exact ⟨_, uinv_mk (st := ⟨r', o, _, false⟩) (uprocessSlice_ok (uinv_of hs) hg hp).1 hs.obt⟩

open DataPath in
theorem chanBU_discard {S Lg : List Bytes} {r r' : RecvUnrel} {o : List Bytes} (h : ChanBU S Lg r o) {now : Nat}
    (hp : r.discardOld now = .ok r') : ChanBU S Lg r' o := by
  obtain ⟨seen, hs⟩ := h
  exact ⟨seen, uinv_mk (st := ⟨r', o, seen, false⟩) (discardLoop_ok _ _ _ hp (uinv_of hs)) hs.obt⟩

open DataPath in
theorem chanBU_recv {S Lg : List Bytes} {r r' : RecvUnrel} {o : List Bytes} {m : Option Bytes} (h : ChanBU S Lg r o)
    (hp : r.receive = .ok (r', m)) : ChanBU S Lg r' (o ++ m.toList) := by
  obtain ⟨seen, hs⟩ := h
  exact ⟨seen, uinv_receive hs hp⟩

open DataPath in
theorem chanBU_obt {S Lg : List Bytes} {r : RecvUnrel} {o : List Bytes} (h : ChanBU S Lg r o) : ∀ x ∈ o, x ∈ S := by
  obtain ⟨seen, hs⟩ := h
  exact hs.obt

/-! ## system invariants, layer U: the unreliable channels end to end -/

def KCfg (cfg : Cfg) (ch : Nat) : Prop := ∃ c ∈ cfg.send, c.id = ch

/-- sender part (unconditional), relative to the ghost slice-id logs `Lg` -/
structure InvUA (cfg : Cfg) (s : Sys) (pkA : List Packet) (Lg : Nat → List Bytes) : Prop where
  chanU : ∀ ch sU, SMap.find? s.a.sendUnrel ch = some sU → ChanU (KCfg cfg) (s.submittedU ch) (Lg ch) ch sU
  genU : ∀ p ∈ pkA, UGen (KCfg cfg) s.submittedU Lg p

/-- receiver part (under `CountersOK`): while B is live every unreliable receive channel that `receive_message`
    actually serves (no reliable channel of the same id) satisfies the DataPath invariant; and the end-to-end
    conclusion -/
structure InvUB (cfg : Cfg) (s : Sys) (Lg : Nat → List Bytes) : Prop where
  recvBU : s.b.isDisconnected = false → ∀ ch r, SMap.find? s.b.recvUnrel ch = some r → RelKind cfg ch = none →
    ChanBU (s.submittedU ch) (Lg ch) r (s.obtained ch)
  conclU : ∀ ch, RelKind cfg ch = none → ∀ x ∈ s.obtained ch, x ∈ s.submittedU ch

theorem invUA_init (cfg : Cfg) : InvUA cfg (Sys.init cfg) [] (fun _ => []) := by
  refine ⟨?_, fun _ h => (by cases h)⟩
  intro ch sU hf
  obtain ⟨c, hc, -, h1, rfl⟩ := SMap.find?_foldl_filter hf
  exact ⟨⟨c, hc, h1⟩, h1, rfl, fun _ h => (by cases h), fun _ h => (by cases h)⟩

theorem invUB_init (cfg : Cfg) : InvUB cfg (Sys.init cfg) (fun _ => []) := by
  refine ⟨?_, fun _ _ _ h => (by cases h)⟩
  intro _ ch r hf _
  obtain ⟨c, -, -, -, rfl⟩ := SMap.find?_foldl_filter hf
  exact chanBU_new _ _ _ _

theorem invUA_step {cfg : Cfg} {s s' : Sys} {pkA : List Packet} {op : SysOp} {Lg : Nat → List Bytes}
    (hU : InvUA cfg s pkA Lg) (hs : s.step op = some s') :
    ∃ Lg' : Nat → List Bytes, (∀ ch, Lg ch <+: Lg' ch) ∧ InvUA cfg s' (nextPk s op pkA) Lg' := by
  have hrefl : ∀ ch, Lg ch <+: Lg ch := fun _ => List.prefix_refl _
  cases stepped hs with
  | @sendA ch m a' hm =>
    refine ⟨Lg, hrefl, ?_⟩
    rcases sendMessage_casesU hm with ⟨hoff, sU, hf, hsu⟩ | ⟨hoff, hsu⟩
    · constructor
      · dsimp only
        rw [hoff, if_pos rfl, hsu]
        exact find_insert_push (P := fun c L sU => ChanU (KCfg cfg) L (Lg c) c sU) hU.chanU (chanU_send (hU.chanU ch sU hf) m)
      · dsimp only
        rw [hoff, if_pos rfl]
        exact fun p hp => (hU.genU p hp).mono (push_prefix _ _ _) hrefl
    · constructor
      · dsimp only
        rw [hoff, hsu]
        exact hU.chanU
      · dsimp only
        rw [hoff]
        exact hU.genU
  | updA hm => exact ⟨Lg, hrefl, by dsimp only; rw [(Conn.update_frame hm).sendUnrel]; exact hU.chanU, hU.genU⟩
  | flushA hm =>
    obtain ⟨Lg', e1, e2, e3⟩ := flush_U (KCfg cfg) s.submittedU Lg hm hU.chanU
    refine ⟨Lg', e1, e2, ?_⟩
    intro p hp
    simp only [nextPk, List.mem_append] at hp
    rcases hp with hp | hp
    · exact (hU.genU p hp).mono (fun _ => List.prefix_refl _) e1
    · exact e3 p hp
  | deliverToA _ hm =>
    exact ⟨Lg, hrefl, by dsimp only; rw [(SL.Conn.processPacket_fixed hm).2.1]; exact hU.chanU, hU.genU⟩
  | recvB _ | updB _ | flushB _ | deliverToB _ _ => exact ⟨Lg, hrefl, hU.chanU, hU.genU⟩

/-- of an unreliable data packet the decoder reads the channel id (a byte), a prefix of the messages, the slice
    (`dec_enc_cut`) -/
theorem decoded_genuineU {cfg : Cfg} {s : Sys} {pkA : List Packet} {Lg : Nat → List Bytes} (h1 : Inv1 cfg s pkA)
    (hU : InvUA cfg s pkA Lg) (hc : CountersOK cfg s) {k : Nat} {bytes : Bytes} (hb : s.outA[k]? = some bytes)
    {p' : Packet} (hd : Packet.fromBytes bytes = .ok p') : UGen (KCfg cfg) s.submittedU Lg p' := by
  obtain ⟨p, hp, he⟩ := enc_lookup h1.encA hb
  have hg := hU.genU p (List.mem_of_getElem? hp)
  have hbyte : ∀ {ch : Nat}, KCfg cfg ch → (UInt8.ofNat ch).toNat = ch := fun ⟨c, hcm, e⟩ => by
    have := hc.chan c hcm
    rw [UInt8.toNat_ofNat']; omega
  cases dec_enc_cut he hd with
  | smallUnreliable sq ch msgs j =>
    obtain ⟨hk, hl, hm⟩ := hg
    rw [hbyte hk]
    exact ⟨hk, Nat.lt_of_le_of_lt (List.take_sublist _ _).length_le hl, fun m hmm => hm m (List.mem_of_mem_take hmm)⟩
  | unreliableSlice sq ch sl => rw [hbyte hg.1]; exact hg
  | smallReliable _ _ _ _ | reliableSlice _ _ _ | ack _ _ _ => trivial

theorem flush_recvU {c c' : Conn} {bs : List Bytes} (h : c.getPacketsToSend = .ok (c', bs)) : c'.recvUnrel = c.recvUnrel := by
  rcases Conn.flush_cases h with ⟨-, rfl, -⟩ | ⟨_, _, _, o⟩
  · rfl
  · exact o.recvUnrel

theorem invUB_mono {cfg : Cfg} {s : Sys} {Lg Lg' : Nat → List Bytes} (hL : ∀ ch, Lg ch <+: Lg' ch) (h : InvUB cfg s Lg) :
    InvUB cfg s Lg' :=
  ⟨fun hd ch r hf hk => chanBU_mono (List.prefix_refl _) (hL ch) (h.recvBU hd ch r hf hk), h.conclU⟩

theorem invUB_step {cfg : Cfg} {s s' : Sys} {pkA : List Packet} {op : SysOp} {Lg : Nat → List Bytes}
    (h1 : Inv1 cfg s pkA) (h2 : Inv2 cfg s pkA) (hUA : InvUA cfg s pkA Lg) (hUB : InvUB cfg s Lg)
    (hs : s.step op = some s') (hc : CountersOK cfg s) : InvUB cfg s' Lg := by
  cases stepped hs with
  | @sendA ch m _ _ =>
    have hpre := ite_push_prefix (offeredU s.a ch) s.submittedU ch m
    exact ⟨fun hd c r hf hk => chanBU_mono (hpre c) (List.prefix_refl _) (hUB.recvBU hd c r hf hk),
      fun c hk x hx => (hpre c).subset (hUB.conclU c hk x hx)⟩
  | @recvB ch _ mo hm =>
    obtain ⟨ho1, ho2⟩ := obtained_recv s.obtained ch mo
    generalize mo.elim s.obtained (push s.obtained ch) = obt' at ho1 ho2 ⊢
    rcases Conn.receiveMessage_outcomes hm with ⟨hd, rfl, rfl⟩ | ⟨hd, r, r', hf, hrecv, rfl⟩ | ⟨hd, hf, rU, rU', hfu, hrecv, rfl⟩
    · rw [obtained_none ho1 ho2]
      exact ⟨hUB.recvBU, hUB.conclU⟩
    · have hk : RelKind cfg ch ≠ none := by
        rw [← (h2.recvB hd).1 ch, hf]; simp
      refine ⟨?_, ?_⟩
      · intro hd' c rU hfu hkc
        have e : c ≠ ch := fun e => hk (e ▸ hkc)
        dsimp only at hfu ⊢
        rw [ho2 c e]
        exact hUB.recvBU hd c rU hfu hkc
      · intro c hkc
        have e : c ≠ ch := fun e => hk (e ▸ hkc)
        dsimp only
        rw [ho2 c e]
        exact hUB.conclU c hkc
    · have hk : RelKind cfg ch = none := by rw [← (h2.recvB hd).1 ch, hf]; rfl
      have hnew : ChanBU (s.submittedU ch) (Lg ch) rU' (obt' ch) := by
        rw [ho1]; exact chanBU_recv (hUB.recvBU hd ch rU hfu hk) hrecv
      refine ⟨?_, ?_⟩
      · exact fun _ => SMap.forall_find?_insert (fun c r e hfr hkc => by dsimp only; rw [ho2 c e]; exact hUB.recvBU hd c r hfr hkc) (fun _ => hnew)
      · intro c hkc
        dsimp only
        by_cases e : c = ch
        · subst e; exact chanBU_obt hnew
        · rw [ho2 c e]; exact hUB.conclU c hkc
  | updB hm =>
    obtain ⟨ru, hdisc, rfl⟩ := Conn.update_outcome hm
    refine ⟨?_, hUB.conclU⟩
    intro hd c r' hf hk
    obtain ⟨r, hfr, hdis⟩ := discardAll_find _ _ _ hdisc c r' hf
    exact chanBU_discard (hUB.recvBU hd c r hfr hk) hdis
  | flushB hm =>
    obtain ⟨-, -, -, -, -, -, f7⟩ := flush_facts hm
    refine ⟨?_, hUB.conclU⟩
    intro hd
    dsimp only at hd ⊢
    rw [flush_recvU hm]; exact hUB.recvBU (f7 hd)
  | @deliverToB k _ _ hb hm =>
    refine ⟨?_, hUB.conclU⟩
    intro hd'
    dsimp only at hd' ⊢
    rcases processPacket_data hm with hdis | ⟨hd, p', hdec, hmatch⟩
    · rw [hdis] at hd'; cases hd'
    · have hgen := decoded_genuineU h1 hUA hc hb hdec
      have hold := hUB.recvBU hd
      cases p' with
      | smallUnreliable sq ch msgs =>
        obtain ⟨-, r, hf, hrr⟩ := hmatch
        rw [hrr]
        exact SMap.forall_find?_insert (Q := fun c r => RelKind cfg c = none → ChanBU (s.submittedU c) (Lg c) r (s.obtained c))
          (fun k x _ => hold k x)
          (fun hkc => chanBU_msgs (hold ch r hf hkc) msgs hgen.2.2)
      | unreliableSlice sq ch sl =>
        obtain ⟨-, r, r', hf, hps, hrr⟩ := hmatch
        rw [hrr]
        exact SMap.forall_find?_insert (Q := fun c r => RelKind cfg c = none → ChanBU (s.submittedU c) (Lg c) r (s.obtained c))
          (fun k x _ => hold k x)
          (fun hkc => chanBU_slice (hold ch r hf hkc) hgen.2 hps)
      | smallReliable sq ch msgs => rw [hmatch.1]; exact hold
      | reliableSlice sq ch sl => rw [hmatch.1]; exact hold
      | ack sq ranges => rw [hmatch.2]; exact hold
  | updA _ | flushA _ | deliverToA _ _ => exact ⟨hUB.recvBU, hUB.conclU⟩

/-- layer U as one statement about the state: some assignment of sliced-message ids to messages makes both parts hold -/
def InvU (cfg : Cfg) (s : Sys) (pkA : List Packet) : Prop :=
  ∃ Lg : Nat → List Bytes, InvUA cfg s pkA Lg ∧ (CountersOK cfg s → InvUB cfg s Lg)

theorem invU_init (cfg : Cfg) : InvU cfg (Sys.init cfg) [] := ⟨_, invUA_init cfg, fun _ => invUB_init cfg⟩

theorem invU_step {cfg : Cfg} {s s' : Sys} {pkA : List Packet} {op : SysOp} (h1 : Inv1 cfg s pkA)
    (h2 : CountersOK cfg s → Inv2 cfg s pkA) (hU : InvU cfg s pkA) (hs : s.step op = some s') :
    InvU cfg s' (nextPk s op pkA) := by
  obtain ⟨Lg, hA, hB⟩ := hU
  obtain ⟨Lg', hL, hA'⟩ := invUA_step hA hs
  refine ⟨Lg', hA', ?_⟩
  intro hc'
  have hc := counters_step hs hc'
  exact invUB_mono hL (invUB_step h1 (h2 hc) hA (hB hc) hs hc)

/-! ## the calls of the other direction of a link

  On a bidirectional link endpoint A also obtains messages, endpoint B also submits them, and either may change its
  status.  Such a call writes A's receive tables and status, resp. B's send tables and status, and nothing else, and
  that is none of what the invariants read of that endpoint — but for "it is live", which such a call never makes
  true: `Idle`.  The new endpoint is written as a record update so that every other field is the old one by
  reduction. -/

inductive Idle (cfg : Cfg) (s : Sys) : Sys → Prop
  | a {rr : SMap RecvRel} {ru : SMap RecvUnrel} {st : Status} :
      (C08.Reach cfg.budget cfg.send cfg.recv s.a →
        C08.Reach cfg.budget cfg.send cfg.recv { s.a with recvRel := rr, recvUnrel := ru, status := st }) →
      (({ s.a with status := st } : Conn).isDisconnected = false → s.a.isDisconnected = false) →
      Idle cfg s { s with a := { s.a with recvRel := rr, recvUnrel := ru, status := st } }
  | b {sr : SMap SendRel} {su : SMap SendUnrel} {st : Status} :
      (C08.Reach cfg.budget cfg.recv cfg.send s.b →
        C08.Reach cfg.budget cfg.recv cfg.send { s.b with sendRel := sr, sendUnrel := su, status := st }) →
      (({ s.b with status := st } : Conn).isDisconnected = false → s.b.isDisconnected = false) →
      Idle cfg s { s with b := { s.b with sendRel := sr, sendUnrel := su, status := st } }

theorem receiveMessage_eq {c c' : Conn} {ch : Nat} {mo : Option Bytes} (h : c.receiveMessage ch = .ok (c', mo)) :
    ∃ rr ru, c' = { c with recvRel := rr, recvUnrel := ru } := by
  rcases Conn.receiveMessage_outcomes h with ⟨-, rfl, -⟩ | ⟨-, r, r', -, -, rfl⟩ | ⟨-, -, r, r', -, -, rfl⟩
  · exact ⟨_, _, rfl⟩
  · exact ⟨_, _, rfl⟩
  · exact ⟨_, _, rfl⟩

theorem sendMessage_eq {c c' : Conn} {ch : Nat} {m : Bytes} (h : c.sendMessage ch m = .ok c') :
    ∃ sr su st, c' = { c with sendRel := sr, sendUnrel := su, status := st } ∧
      (({ c with status := st } : Conn).isDisconnected = false → c.isDisconnected = false) := by
  rcases Conn.sendMessage_outcomes h with ⟨-, rfl⟩ | ⟨hd, s, -, ⟨s', -, rfl⟩ | ⟨e, -, rfl⟩⟩ | ⟨hd, -, sU, -, rfl⟩
  · exact ⟨_, _, _, rfl, id⟩
  · exact ⟨_, _, _, rfl, fun _ => hd⟩
  · obtain ⟨st, e, -⟩ := Conn.status_eq c (.disconnected (.sendChan ch e))
    exact ⟨_, _, st, e, fun _ => hd⟩
  · exact ⟨_, _, _, rfl, fun _ => hd⟩

/-- a change of status of endpoint A (`disconnect_with_reason`, `set_connected`, `set_connecting`) -/
theorem idle_statusA (cfg : Cfg) (s : Sys) (st : Status) {a' : Conn}
    (e : a' = if s.a.isDisconnected then s.a else { s.a with status := st })
    (hr : C08.Reach cfg.budget cfg.send cfg.recv s.a → C08.Reach cfg.budget cfg.send cfg.recv a') :
    Idle cfg s { s with a := a' } := by
  obtain ⟨st', e', hl⟩ := Conn.status_eq s.a st
  rw [e'] at e
  subst e
  exact .a hr hl

theorem idle_statusB (cfg : Cfg) (s : Sys) (st : Status) {b' : Conn}
    (e : b' = if s.b.isDisconnected then s.b else { s.b with status := st })
    (hr : C08.Reach cfg.budget cfg.recv cfg.send s.b → C08.Reach cfg.budget cfg.recv cfg.send b') :
    Idle cfg s { s with b := b' } := by
  obtain ⟨st', e', hl⟩ := Conn.status_eq s.b st
  rw [e'] at e
  subst e
  exact .b hr hl

theorem CountersOK.of_idle {cfg : Cfg} {s s' : Sys} (hc : CountersOK cfg s') (hi : Idle cfg s s') : CountersOK cfg s := by
  cases hi with
  | a _ _ | b _ _ => exact ⟨hc.chan, hc.seq, hc.ids, hc.lens, hc.lensU⟩

theorem inv1_idle {cfg : Cfg} {s s' : Sys} {pkA : List Packet} (h : Inv1 cfg s pkA) (hi : Idle cfg s s') :
    Inv1 cfg s' pkA := by
  cases hi with
  | a hr _ => exact ⟨hr h.reachA, h.reachB, h.chanA, h.encA, h.seqA, h.genA, h.delivB⟩
  | b hr _ => exact ⟨h.reachA, hr h.reachB, h.chanA, h.encA, h.seqA, h.genA, h.delivB⟩

theorem inv2_idle {cfg : Cfg} {s s' : Sys} {pkA : List Packet} (h : Inv2 cfg s pkA) (hi : Idle cfg s s') :
    Inv2 cfg s' pkA := by
  cases hi with
  | a _ _ => exact ⟨h.wfA, h.recvB, h.concl⟩
  | b _ hl => exact ⟨h.wfA, fun hd => h.recvB (hl hd), h.concl⟩

theorem invR_idle {cfg : Cfg} {s s' : Sys} {pkA : List Packet} (h : InvR cfg s pkA) (hi : Idle cfg s s') :
    InvR cfg s' pkA := by
  cases hi with
  | a _ hl => exact ⟨fun hd => h.sentA (hl hd), h.ackB, h.ackOutB, h.relA⟩
  | b _ _ => exact ⟨h.sentA, h.ackB, h.ackOutB, h.relA⟩

theorem invU_idle {cfg : Cfg} {s s' : Sys} {pkA : List Packet} (h : InvU cfg s pkA) (hi : Idle cfg s s') :
    InvU cfg s' pkA := by
  obtain ⟨Lg, hA, hB⟩ := h
  refine ⟨Lg, ?_, fun hc => ?_⟩
  · cases hi with
    | a _ _ | b _ _ => exact ⟨hA.chanU, hA.genU⟩
  · have hB := hB (hc.of_idle hi)
    cases hi with
    | a _ _ => exact ⟨hB.recvBU, hB.conclU⟩
    | b _ hl => exact ⟨fun hd => hB.recvBU (hl hd), hB.conclU⟩

/-! ## the invariants as one predicate on states, along every run -/

def Good (cfg : Cfg) (s : Sys) : Prop :=
  ∃ pkA, Inv1 cfg s pkA ∧ (CountersOK cfg s → Inv2 cfg s pkA) ∧ InvR cfg s pkA ∧ InvU cfg s pkA

theorem good_init (cfg : Cfg) : Good cfg (Sys.init cfg) :=
  ⟨[], inv1_init cfg, fun _ => inv2_init cfg, invR_init cfg, invU_init cfg⟩

theorem good_step {cfg : Cfg} {s s' : Sys} {op : SysOp} (h : Good cfg s) (hs : s.step op = some s') : Good cfg s' := by
  obtain ⟨pkA, h1, h2, h3, h4⟩ := h
  exact ⟨nextPk s op pkA, inv1_step h1 hs, fun hc => inv2_step h1 (h2 (counters_step hs hc)) hs hc,
    invR_step h1 h3 hs, invU_step h1 h2 h4 hs⟩

theorem good_idle {cfg : Cfg} {s s' : Sys} (h : Good cfg s) (hi : Idle cfg s s') : Good cfg s' := by
  obtain ⟨pkA, h1, h2, h3, h4⟩ := h
  exact ⟨pkA, inv1_idle h1 hi, fun hc => inv2_idle (h2 (hc.of_idle hi)) hi, invR_idle h3 hi, invU_idle h4 hi⟩

theorem system_inv (cfg : Cfg) (ops : List SysOp) (s : Sys) (hr : (Sys.init cfg).run ops = some s) : Good cfg s :=
  run_induction (I := fun _ x => Good cfg x) ops 0 (fun _ h hs => good_step h hs) (good_init cfg) hr

theorem counters_run {cfg : Cfg} (ops : List SysOp) {s s' : Sys} (hr : s.run ops = some s') (hc : CountersOK cfg s') :
    CountersOK cfg s :=
  run_induction (I := fun _ x => CountersOK cfg x → CountersOK cfg s) ops 0 (fun _ hb hs hc => hb (counters_step hs hc)) id
    hr hc

def Cfg.Unreliable (cfg : Cfg) (ch : Nat) : Prop := ∀ c ∈ cfg.send, c.id = ch → c.kind = .unreliable

theorem relKind_unreliable {cfg : Cfg} {ch : Nat} (h : cfg.Unreliable ch) : RelKind cfg ch = none := by
  unfold RelKind
  cases hf : SMap.find? (Sys.init cfg).b.recvRel ch with
  | none => rfl
  | some r =>
    obtain ⟨c, hcm, hck, h1, -⟩ := SMap.find?_foldl_filter hf
    rw [h c hcm h1] at hck
    exact absurd hck (by decide)

/-! ## the end-to-end conclusions, read off `Good` -/

/-- the three end-to-end conclusions for one direction: `cfg.send` = the sender's channel list, `sub` / `subU` what the
    sending application submitted, `obt` what the receiving application obtained (messages of type `α`: `Bytes` in the
    model, `List Nat` on the generated side) -/
def Guarantees {α : Type} (cfg : Cfg) (sub subU obt : Nat → List α) : Prop :=
  (∀ ch, cfg.Ordered ch → obt ch <+: sub ch) ∧
  (∀ ch, cfg.Unordered ch → ∃ ids : List Nat, ids.Nodup ∧ (obt ch).map some = ids.map (fun id => (sub ch)[id]?)) ∧
  (∀ ch, cfg.Unreliable ch → ∀ x ∈ obt ch, x ∈ subU ch)

theorem good_guarantees {cfg : Cfg} {s : Sys} (hg : Good cfg s) (hc : CountersOK cfg s) :
    Guarantees cfg s.submitted s.submittedU s.obtained := by
  obtain ⟨pkA, -, h2, -, Lg, -, hB⟩ := hg
  refine ⟨fun ch ho => ?_, fun ch hu => ?_, fun ch hk => (hB hc).conclU ch (relKind_unreliable hk)⟩
  · have := (h2 hc).concl ch
    rw [relKind_ordered ho] at this
    exact this
  · have := (h2 hc).concl ch
    rw [relKind_unordered hu] at this
    exact this

/-- C03 from C01 and C02 -/
theorem Guarantees.integrity {α : Type} {cfg : Cfg} {sub subU obt : Nat → List α} (h : Guarantees cfg sub subU obt) :
    (∀ ch, cfg.Ordered ch ∨ cfg.Unordered ch → ∀ x ∈ obt ch, x ∈ sub ch) ∧
    (∀ ch, cfg.Unreliable ch → ∀ x ∈ obt ch, x ∈ subU ch) :=
  ⟨fun ch hk => hk.elim (fun ho => (h.1 ch ho).subset) (fun hu => let ⟨_, _, he⟩ := h.2.1 ch hu; DataPath.once_mem he), h.2.2⟩

theorem sliceDeliv_decodes {cfg : Cfg} {s : Sys} {pkA : List Packet} (h1 : Inv1 cfg s pkA) (h2 : Inv2 cfg s pkA)
    {ch id i : Nat} {m : Bytes} (hm : (s.submitted ch)[id]? = some m) (h : SliceDeliv s.deliveredToB pkA ch id i) :
    ∃ k ∈ s.deliveredToB, ∃ bytes sq, s.outA[k]? = some bytes ∧
      Packet.fromBytes bytes = .ok (.reliableSlice sq ch
        ⟨id, i, divCeil m.length SLICE_SIZE, sliceBytes m (divCeil m.length SLICE_SIZE) i⟩) := by
  obtain ⟨k, hk, sq, sl, hp, e1, e2⟩ := h
  obtain ⟨bytes, hb, hd⟩ := decode_lookup h1 h2 hp rfl
  refine ⟨k, hk, bytes, sq, hb, ?_⟩
  obtain ⟨m', g1, -, g3, -, g5⟩ : DataPath.GenuineSlice (s.submitted ch) sl := h1.genA _ (List.mem_of_getElem? hp)
  rw [e1, hm] at g1
  cases g1
  rw [hd]
  cases sl
  simp only at e1 e2 g3 g5
  subst e1 e2 g3 g5
  rfl

/-- C08: a message that was issued and is no longer stored was handed to B, packet by packet -/
theorem good_release {cfg : Cfg} {s : Sys} (hg : Good cfg s) (hc : CountersOK cfg s) (ch : Nat) (sA : SendRel)
    (hf : SMap.find? s.a.sendRel ch = some sA) (id : Nat) (hid : id < sA.nextId)
    (hrel : SMap.find? sA.unacked id = none) :
    ∃ m, (s.submitted ch)[id]? = some m ∧
      (m.length ≤ SLICE_SIZE → ∃ k ∈ s.deliveredToB, ∃ bytes sq msgs, s.outA[k]? = some bytes ∧
          Packet.fromBytes bytes = .ok (.smallReliable sq ch msgs) ∧ (id, m) ∈ msgs) ∧
      (SLICE_SIZE < m.length → ∀ i, i < divCeil m.length SLICE_SIZE → ∃ k ∈ s.deliveredToB, ∃ bytes sq,
          s.outA[k]? = some bytes ∧
          Packet.fromBytes bytes = .ok (.reliableSlice sq ch
            ⟨id, i, divCeil m.length SLICE_SIZE, sliceBytes m (divCeil m.length SLICE_SIZE) i⟩)) := by
  obtain ⟨pkA, h1, h2, h3, -⟩ := hg
  have h2 := h2 hc
  have hlt : id < (s.submitted ch).length := by rw [← (h1.chanA ch sA hf).1.nid]; exact hid
  have hm := List.getElem?_eq_getElem hlt
  obtain ⟨r1, r2⟩ := (h3.relA ch sA hf).gone id _ hm hrel
  refine ⟨_, hm, fun hl => ?_, fun hl i hi => sliceDeliv_decodes h1 h2 hm (r2 hl i hi)⟩
  obtain ⟨k, hk, sq, msgs, hp, hin⟩ := r1 hl
  obtain ⟨bytes, hb, hd⟩ := decode_lookup h1 h2 hp rfl
  refine ⟨k, hk, bytes, sq, msgs, hb, hd, ?_⟩
  obtain ⟨x, hx, rfl⟩ := List.mem_map.mp hin
  have hgen : (s.submitted ch)[x.1]? = some x.2 := h1.genA _ (List.mem_of_getElem? hp) x hx
  rw [hm] at hgen
  rw [show ((s.submitted ch)[x.1]) = x.2 from Option.some.inj hgen]
  exact hx

end RenetVerif.System
