/-
  C19 — No traffic amplification towards addresses that have not proven themselves.

  "For any datagram from an address without a completed handshake the netcode server sends at most one datagram back,
   only to that same address, and it is strictly smaller than the datagram received; datagrams that do not carry a
   valid connect token or a valid response get no answer at all."

  Proofs: Lemmas/NcWire.lean (`ppOut_reply`).  "Without a completed handshake" = no slot of `clients` holds the
  address (`findClientByAddr = none`).  A `ServerResult` carries at most one datagram (`ServerResult.datagram`).
  Sizes need the AEAD length law (`AEAD.Laws.seal_length` for what the server seals, `open_length` for the lower bound
  on a datagram that opened as a response); everything else holds for any AEAD.
    request  ≥ 1 + 13+8+8+24+1024 = 1078 bytes    reply: challenge ≤ 1+8+8+300+16 = 333, denied ≤ 25
    response ≥ 1 + 0 + 8+300 + 16 = 325 bytes     reply: keep-alive ≤ 1+8+8+16 = 33,   denied ≤ 25
-/
import RenetVerif.Lemmas.NcWire
namespace RenetVerif.C19
open RenetVerif RenetVerif.Netcode RenetVerif.Netcode.Packet RenetVerif.Netcode.NetcodeServer

theorem request_min_eq : 1 + REQUEST_BODY = 1078 := by decide
theorem request_reply_max_eq : REQUEST_REPLY_MAX = 333 := by decide
theorem response_min_eq : RESPONSE_MIN = 325 := by decide
theorem response_reply_max_eq : RESPONSE_REPLY_MAX = 33 := by decide
theorem request_reply_smaller : REQUEST_REPLY_MAX < 1 + REQUEST_BODY := by decide
theorem response_reply_smaller : RESPONSE_REPLY_MAX < RESPONSE_MIN := by decide

/-- Main statement.  For a source address that is not connected, `process_packet` returns normally with `None`, or — only
    for a valid request resp. a valid response — with one datagram addressed to the source, bounded as stated.
    `ValidRequest`: the datagram (≥ 1078 bytes) parses as a connection request with the right version and protocol id,
    not expired, whose private token opens under the server's connect key.
    `ValidResponse`: the datagram opens under the pending connection's key as a response whose challenge token opens
    under the challenge key and names the pending client (and is ≥ 325 bytes long). -/
theorem no_amplification (a : AEAD) {n : Nat} {s : NetcodeServer} (hinv : SInv (n + 1) s) (addr : Addr) (buf : Bytes)
    (hf : findClientByAddr s.clients addr = none) :
    ∃ r s', processPacket a s addr buf = .ok (r, s') ∧ SInv n s' ∧
      (Reply a.Laws (ValidRequest a s buf) addr REQUEST_REPLY_MAX r ∨
       Reply a.Laws (ValidResponse a s addr buf) addr RESPONSE_REPLY_MAX r) := by
  obtain ⟨r, s', h, hs⟩ := processPacket_total a hinv addr buf
  refine ⟨r, s', h, hs, ?_⟩
  rcases NS.pp_cases h with ⟨ho, -⟩ | ⟨i, c, _, _, _, hfa, -⟩
  · exact ppOut_reply hf ho
  · rw [hf] at hfa
    cases hfa

theorem reply_datagram {L V : Prop} {addr : Addr} {bound : Nat} {r : ServerResult} (hr : Reply L V addr bound r)
    {out : Bytes} (ho : r.datagram = some out) :
    V ∧ (r = .packetToSend addr out ∨ ∃ id ud, r = .clientConnected id addr ud out) ∧ (L → out.length ≤ bound) := by
  rcases hr with rfl | ⟨hv, ⟨o, rfl, hb⟩ | ⟨id, ud, o, rfl, hb⟩⟩
  · cases ho
  · cases ho
    exact ⟨hv, Or.inl rfl, hb⟩
  · cases ho
    exact ⟨hv, Or.inr ⟨id, ud, rfl⟩, hb⟩

/-- only to that same address -/
theorem reply_to_same_address (a : AEAD) {n : Nat} {s s' : NetcodeServer} (hinv : SInv (n + 1) s) {addr : Addr}
    {buf : Bytes} (hf : findClientByAddr s.clients addr = none) {r : ServerResult}
    (h : processPacket a s addr buf = .ok (r, s')) {out : Bytes} (ho : r.datagram = some out) :
    r = .packetToSend addr out ∨ ∃ id ud, r = .clientConnected id addr ud out := by
  obtain ⟨r', s'', h', _, hr⟩ := no_amplification a hinv addr buf hf
  rw [h] at h'; cases h'
  rcases hr with hr | hr
  · exact (reply_datagram hr ho).2.1
  · exact (reply_datagram hr ho).2.1

/-- strictly smaller than the datagram received -/
theorem reply_strictly_smaller (a : AEAD) (hl : a.Laws) {n : Nat} {s s' : NetcodeServer} (hinv : SInv (n + 1) s)
    {addr : Addr} {buf : Bytes} (hf : findClientByAddr s.clients addr = none) {r : ServerResult}
    (h : processPacket a s addr buf = .ok (r, s')) {out : Bytes} (ho : r.datagram = some out) :
    out.length < buf.length := by
  obtain ⟨r', s'', h', _, hr⟩ := no_amplification a hinv addr buf hf
  rw [h] at h'; cases h'
  rcases hr with hr | hr
  · obtain ⟨hv, _, hb⟩ := reply_datagram hr ho
    exact Nat.lt_of_lt_of_le (Nat.lt_of_le_of_lt (hb hl) request_reply_smaller) hv.1
  · obtain ⟨hv, _, hb⟩ := reply_datagram hr ho
    exact Nat.lt_of_lt_of_le (Nat.lt_of_le_of_lt (hb hl) response_reply_smaller) (hv.1 hl)

/-- no valid connect token, no valid response: no answer (and nobody connects) -/
theorem no_answer_unless_valid (a : AEAD) {n : Nat} {s s' : NetcodeServer} (hinv : SInv (n + 1) s) {addr : Addr}
    {buf : Bytes} (hf : findClientByAddr s.clients addr = none) {r : ServerResult}
    (h : processPacket a s addr buf = .ok (r, s'))
    (hreq : ¬ ValidRequest a s buf) (hresp : ¬ ValidResponse a s addr buf) : r = .none := by
  obtain ⟨r', s'', h', _, hr⟩ := no_amplification a hinv addr buf hf
  rw [h] at h'; cases h'
  rcases hr with hr | hr <;> rcases hr with hr | ⟨hv, _⟩
  · exact hr
  · exact absurd hv hreq
  · exact hr
  · exact absurd hv hresp

/-- in particular every datagram that fails `decode` (under the pending session of its address, if any) gets no answer -/
theorem no_answer_to_undecodable (a : AEAD) (s : NetcodeServer) (addr : Addr) (buf : Bytes)
    (hf : findClientByAddr s.clients addr = none)
    (hdec : match pendingFind s.pendingClients addr with
      | some c => ∃ e, (decode a buf s.protocolId (some c.receiveKey) (some c.replayProtection)).1 = .err e
      | none => ∃ e, (decode a buf s.protocolId none none).1 = .err e) :
    ∃ s', processPacket a s addr buf = .ok (.none, s') := by
  have hso : sessionOf s addr = pendingFind s.pendingClients addr := by unfold sessionOf; rw [hf]
  cases hp : pendingFind s.pendingClients addr with
  | some c =>
    rw [hp] at hdec hso
    obtain ⟨e, he⟩ := hdec
    generalize hD : decode a buf s.protocolId (some c.receiveKey) (some c.replayProtection) = D at he
    obtain ⟨r, rp'⟩ := D
    dsimp only at he; subst he
    exact ⟨_, processPacket_decode_err a s addr buf hso hD⟩
  | none =>
    rw [hp] at hdec hso
    obtain ⟨e, he⟩ := hdec
    exact ⟨s, processPacket_unknown_err a s addr buf hso he⟩

/-! ### non-vacuity: a handshake with the toy AEAD -/
section examples

def okOr {ε α : Type} (d : α) : Res ε α → α
  | .ok a => a
  | _ => d

def srvAddr : Addr := .v4 [127, 0, 0, 1] 5000
def cliAddr : Addr := .v4 [10, 0, 0, 2] 4000
def pk : Bytes := List.replicate 32 1
def srv0 : NetcodeServer :=
  { clients := [none, none], pendingClients := [], connectTokenEntries := [none, none, none, none], protocolId := 42,
    connectKey := pk, maxClients := 2, challengeSequence := 0, challengeKey := List.replicate 32 2,
    publicAddresses := [srvAddr], currentTime := 0, globalSequence := 2 ^ 63, secure := true }
theorem srv0_inv : SInv 3 srv0 := ⟨by decide, by decide, fun x hx => by cases hx⟩
theorem srv0_find : findClientByAddr srv0.clients cliAddr = none := rfl

def emptyTok : ConnectToken :=
  { clientId := 0, versionInfo := [], protocolId := 0, createTimestamp := 0, expireTimestamp := 0, xnonce := [],
    serverAddresses := [], clientToServerKey := [], serverToClientKey := [], privateData := [], timeoutSeconds := 0 }
/-- a connect token for client 77 sealed (toy) under the server's key -/
def tok : ConnectToken := okOr emptyTok
  (ConnectToken.generate AEAD.toy 0 42 30 77 15 [srvAddr] (List.replicate 256 9) (List.replicate 32 3)
    (List.replicate 32 4) (List.replicate 24 5) pk)
/-- the client's connection request: 1078 bytes -/
def req : Bytes := okOr [] (encode AEAD.toy
  (.connectionRequest Netcode.C.NETCODE_VERSION_INFO tok.protocolId tok.expireTimestamp tok.xnonce tok.privateData) 1400 42 none)
/-- the request has 1078 bytes and is answered with a 333-byte challenge
    to the sender; with one flipped bit in the private token, like 1078 zero bytes, it is answered with nothing -/
theorem req_outcomes :
    req.length = 1078 ∧
    (match processPacket AEAD.toy srv0 cliAddr req with
      | .ok (.packetToSend to out, _) => some (to, out.length)
      | _ => none) = some (cliAddr, 333) ∧
    (match processPacket AEAD.toy srv0 cliAddr (req.set 1077 1) with | .ok (r, _) => some r | _ => none)
      = some .none ∧
    (match processPacket AEAD.toy srv0 cliAddr (List.replicate 1078 0) with | .ok (r, _) => some r | _ => none)
      = some .none := by
  decide +kernel

example : req.length = 1078 := req_outcomes.1

example : ∃ r s', processPacket AEAD.toy srv0 cliAddr req = .ok (r, s') ∧ SInv 2 s' ∧
    (Reply AEAD.toy.Laws (ValidRequest AEAD.toy srv0 req) cliAddr REQUEST_REPLY_MAX r ∨
     Reply AEAD.toy.Laws (ValidResponse AEAD.toy srv0 cliAddr req) cliAddr RESPONSE_REPLY_MAX r) :=
  no_amplification AEAD.toy srv0_inv cliAddr req srv0_find

example : (match processPacket AEAD.toy srv0 cliAddr req with
    | .ok (.packetToSend to out, _) => some (to, out.length)
    | _ => none) = some (cliAddr, 333) := req_outcomes.2.1
example : (match processPacket AEAD.toy srv0 cliAddr (req.set 1077 1) with | .ok (r, _) => some r | _ => none)
    = some .none := req_outcomes.2.2.1
example : (match processPacket AEAD.toy srv0 cliAddr (List.replicate 1078 0) with | .ok (r, _) => some r | _ => none)
    = some .none := req_outcomes.2.2.2

end examples

end RenetVerif.C19
