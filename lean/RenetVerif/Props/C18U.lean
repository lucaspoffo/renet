/-
  C18 — Netcode liveness, the steady state of an established session (what Props/C18.lean, C18P.lean, C18T.lean leave
  open).

  A.  `client_never_timed_out`: the CLIENT-side analogue of `C18T.never_timed_out`.  Over every trace of client
      operations (`COp`: `update(d)`, `process_packet` on ANY bytes, `generate_payload_packet`, in any interleaving) a
      connected client that is fresh — most recent authentic packet at most `timeout` old — at every `update`, and
      that receives no authentic Disconnect packet, stays `Connected` with its token (keys, protocol id, timeout), id
      and server address.  The receive timer is *exactly* the ghost timer "time of the last authentic KeepAlive /
      Payload": forged / replayed / malformed datagrams move neither.

  B.  `session_stays_alive`: keep-alive traffic alone keeps BOTH ends connected.  From an `Established` pair whose two
      sides are in step (`Linked`), after ANY number `n` of lossless rounds (`NcLive2.round`: `server.update(d)`;
      `client.update(d)` → its keep-alive to the server's `process_packet`; `server.update_client(id)` → its
      keep-alive to the client's `process_packet`) of length `d` with both send rates `≤ d ≤` timeout, the pair is
      `Established` and in step again, and the server reported nothing but keep-alives to send.
      `session_stays_alive_lossy`: any schedule of `delivered` / `upLost` / `downLost` rounds in which each side's
      silence stays within its timeout (`SchedOK`).  `connect_and_stay_alive`: handshake (C18T B1) + schedule, all
      hypotheses on the initial states.

  C.  `silent_peer_times_out_once`: the `update_client` that finds the session timed out reports
      `ClientDisconnected id` — and over the rest of ANY trace in which no new handshake of `id` completes nothing
      reports it again; `update_client id` returns `None` from then on.

  Sign conventions checked against client.rs / server.rs: `timeout_seconds > 0 && last + timeout < now` (strict; a
  non-positive timeout disables the time-out), client gate `now - last_send < send_rate ⇒ nothing`, server keep-alive
  due when `last_send + NETCODE_SEND_RATE ≤ now`.  Proofs: Lemmas/NcLive3.lean; nothing is assumed of the AEAD beyond
  `AEAD.Laws`.
-/
import RenetVerif.Lemmas.NcLive3
import RenetVerif.Props.C18T
namespace RenetVerif.C18U
open RenetVerif RenetVerif.Netcode RenetVerif.Netcode.NS RenetVerif.NcLive2 RenetVerif.NcLive3

/-! ## A. a fresh connected client is never timed out — whole traces -/

/-- **`client_never_timed_out`** — a client at which authentic packets of the server keep arriving within every
    timeout period is never timed out.

    `ops` is any trace of client operations run from a `Connected` client `c` (`runCOps`: the trace runs to its end,
    results `rs`, final state `c'`).  `CFresh a c c.lastPacketReceivedTime ops` is the trace hypothesis
    (`cFresh_step`, `allowed_*`, `lastAfter_*` below spell it out): with `last` := the time, on the client's clock, of
    the most recent datagram that was `CAuthentic` — decoded under the server-to-client key, passed the replay
    window, KeepAlive or Payload —, initially the client's receive timer,
      * at every `update(d)`: the token's timeout is not positive, or `now + d ≤ last + timeout`;
      * no datagram decodes, under that key and window, to a Disconnect packet.
    Everything else is unconstrained: forged / replayed / malformed datagrams, other packet kinds, payloads.

    Then the client is still `Connected` (no disconnect reason), with the same connect token — hence the same keys,
    protocol id and timeout —, client id, server address and index, send rate; sequence number and clock only grew;
    and its receive timer equals the ghost timer at the end of the trace (`cLastRun`). -/
theorem client_never_timed_out (a : AEAD) {c c' : NetcodeClient} {ops : List COp} {rs : List COut}
    (hst : c.state = .connected) (hfresh : CFresh a c c.lastPacketReceivedTime ops)
    (hrun : runCOps a c ops = some (rs, c')) :
    c'.state = .connected ∧ c'.disconnectReason = none ∧ CKeeps c c' ∧
      c'.lastPacketReceivedTime = cLastRun a c c.lastPacketReceivedTime ops := by
  obtain ⟨h1, h2, _, h4⟩ := crun_keeps ops hst (Nat.le_refl _) hfresh hrun
  refine ⟨h1, ?_, h2, (h4 rfl).symm⟩
  unfold NetcodeClient.disconnectReason
  rw [h1]

/-- … with a ghost timer that is only known to be a lower bound of the receive timer -/
theorem client_never_timed_out_from (a : AEAD) {c c' : NetcodeClient} {ops : List COp} {rs : List COut} {last : Nat}
    (hst : c.state = .connected) (hlast : last ≤ c.lastPacketReceivedTime) (hfresh : CFresh a c last ops)
    (hrun : runCOps a c ops = some (rs, c')) :
    c'.state = .connected ∧ CKeeps c c' ∧ cLastRun a c last ops ≤ c'.lastPacketReceivedTime := by
  obtain ⟨h1, h2, h3, _⟩ := crun_keeps ops hst hlast hfresh hrun
  exact ⟨h1, h2, h3⟩

/-- … and so at every point of the trace: the client is never `Disconnected _` -/
theorem client_never_timed_out_throughout (a : AEAD) {c c₁ : NetcodeClient} {ops₁ ops₂ : List COp} {rs₁ : List COut}
    (hst : c.state = .connected) (hfresh : CFresh a c c.lastPacketReceivedTime (ops₁ ++ ops₂))
    (hrun : runCOps a c ops₁ = some (rs₁, c₁)) :
    c₁.state = .connected ∧ c₁.isDisconnected = false ∧ CKeeps c c₁ := by
  obtain ⟨h1, _, h3, _⟩ := client_never_timed_out a hst (cFresh_prefix hfresh) hrun
  refine ⟨h1, ?_, h3⟩
  unfold NetcodeClient.isDisconnected
  rw [h1]

theorem cFresh_step {a : AEAD} {c : NetcodeClient} {last : Nat} {op : COp} {rest : List COp} :
    CFresh a c last (op :: rest) ↔
      cOpAllowed a c last op = true ∧
      ∀ r c', cstep a c op = some (r, c') → CFresh a c' (cLastAfter a c last op) rest := cFresh_cons

theorem allowed_update {a : AEAD} {c : NetcodeClient} {last d : Nat} :
    cOpAllowed a c last (.update d) = true ↔
      (c.connectToken.timeoutSeconds ≤ 0 ∨
        c.currentTime + d ≤ last + fromSecs c.connectToken.timeoutSeconds.toNat) := by
  simp only [cOpAllowed, decide_eq_true_eq]
  exact Iff.rfl
theorem allowed_packet {a : AEAD} {c : NetcodeClient} {last : Nat} {buf : Bytes} :
    cOpAllowed a c last (.packet buf) = true ↔ ¬ CAuthDisconnect a c buf := by
  simp only [cOpAllowed, Bool.not_eq_true', ← cAuthDisconnectB_iff]
  cases cAuthDisconnectB a c buf <;> simp
theorem allowed_sendPayload {a : AEAD} {c : NetcodeClient} {last : Nat} {p : Bytes} :
    cOpAllowed a c last (.sendPayload p) = true := rfl

theorem lastAfter_packet {a : AEAD} {c : NetcodeClient} {last : Nat} {buf : Bytes} :
    (CAuthentic a c buf → cLastAfter a c last (.packet buf) = c.currentTime) ∧
    (¬ CAuthentic a c buf → cLastAfter a c last (.packet buf) = last) := by
  rw [cLastAfter_packet, ← cAuthenticB_iff]
  exact ⟨fun h => if_pos h, fun h => if_neg h⟩
theorem lastAfter_other {a : AEAD} {c : NetcodeClient} {last : Nat} {op : COp} (h : ∀ buf, op ≠ .packet buf) :
    cLastAfter a c last op = last := by
  cases op with
  | packet buf => exact absurd rfl (h buf)
  | _ => rfl

/-- **the real timer follows the ghost timer**: `process_packet` on a connected client moves the receive timer
    exactly when the datagram is `CAuthentic` (then to `now`); any other datagram that is not the authentic Disconnect
    leaves the client `Connected` with its timer untouched -/
theorem timer_moves_iff_authentic {a : AEAD} {c c' : NetcodeClient} {buf : Bytes} {r : Option Bytes}
    (hst : c.state = .connected) (hnd : ¬ CAuthDisconnect a c buf) (h : c.processPacket a buf = .ok (r, c')) :
    c'.state = .connected ∧
    (CAuthentic a c buf → c'.lastPacketReceivedTime = c.currentTime) ∧
    (¬ CAuthentic a c buf → c'.lastPacketReceivedTime = c.lastPacketReceivedTime) := by
  rcases (pp_connected hst h).2 with ⟨hd, _⟩ | ⟨_, h6, h7⟩
  · exact absurd (cAuthDisconnectB_iff.mp hd) hnd
  · rw [h7, ← cAuthenticB_iff]
    exact ⟨h6, fun h => if_pos h, fun h => if_neg h⟩

/-- `CAuthentic` means: the AEAD opened the body under the server-to-client key with nonce = the datagram's sequence
    number and AAD = version ‖ protocol id ‖ prefix byte, **and** the client's replay window had not seen that
    sequence number -/
theorem authentic_means {a : AEAD} {c : NetcodeClient} {buf : Bytes} (h : CAuthentic a c buf) :
    ∃ ty plain, Packet.SealedOpen a buf c.connectToken.protocolId c.connectToken.serverToClientKey ty plain ∧
      (ty = .keepAlive ∨ ty = .payload) ∧
      c.replayProtection.alreadyReceived (Packet.wireSeq buf) = false := by
  obtain ⟨sq, pk, hdec, hk⟩ := h
  have hd : cDecode a c buf = (.ok (sq, pk), (cDecode a c buf).2) := by rw [← hdec]
  unfold cDecode at hd
  rcases Packet.decode_ok hd with ⟨_, _, _, _, hpk, _⟩ | ⟨k, ty, plain, hkey, hso, hdup, hsq, hread, _⟩
  · rcases hk with hk | hk <;> rw [hk] at hpk <;> cases hpk
  · cases hkey
    have hty : pk.packetType = ty := (Packet.read_ok hread).2.1
    refine ⟨ty, plain, hso, by rw [← hty]; exact hk, ?_⟩
    rw [Packet.isDup_some] at hdup
    have hp : ty.applyReplayProtection = true := by
      rw [← hty]; rcases hk with hk | hk <;> rw [hk] <;> rfl
    rw [hp, Bool.true_and] at hdup
    rw [← hsq]; exact hdup

/-- **forged or replayed datagrams do not postpone the client's time-out**: a datagram whose body the AEAD does not
    open under the server-to-client key, or whose sequence number the window has already seen, is not `CAuthentic` -/
theorem forged_or_replayed_not_authentic {a : AEAD} {c : NetcodeClient} {buf : Bytes}
    (h : a.open c.connectToken.serverToClientKey (Packet.nonce (Packet.wireSeq buf))
          (Packet.additionalData (Packet.wirePrefix buf) c.connectToken.protocolId) (Packet.wireBody buf) = none ∨
      c.replayProtection.alreadyReceived (Packet.wireSeq buf) = true) : ¬ CAuthentic a c buf := by
  intro hau
  obtain ⟨ty, plain, hso, _, hw⟩ := authentic_means hau
  rcases h with h | h
  · rw [hso.opened] at h; cases h
  · rw [h] at hw; cases hw

/-! ## B. keep-alive traffic keeps both ends alive

  Vocabulary (Lemmas/NcLive2.lean, NcLive3.lean):
  * `Established addr t expire c s` — the client is `Connected`, the server (`ServerInv`) holds a session with the
    identity the token `t` gives (id, user data, keys, timeout, expiry) and address `addr`;
  * `Linked me t c s` — the two sides are in step: the client's token carries `t`'s keys and the server's protocol
    id, it talks to `me`, its timers are not in the future, each replay window is open above the peer's next sequence
    number.  (What the handshake establishes: `connect_and_stay_alive` needs no such hypothesis.)
  * `runRoundsEv a addr me id sched (c, s)` — `NcLive2.runRounds` also returning what the server reported, two
    results per round (`process_packet`, `update_client`); `Quiet addr r`: `r` is `None` or `PacketToSend addr _`;
  * `Within tmo x` — `tmo ≤ 0` (no time-out) or `x ≤ tmo` seconds. -/

section B
variable {a : AEAD} {addr me : Addr} {t : PrivateConnectToken} {expire : Nat}

theorem quiet_not_disconnect {r : ServerResult} (h : Quiet addr r) (id : Nat) (ad : Addr) (o : Option Bytes) :
    r ≠ .clientDisconnected id ad o := by
  rcases h with rfl | ⟨ka, rfl⟩ <;> (intro e; cases e)

/-- **`session_stays_alive_lossy`** — any schedule of rounds (`delivered`, `upLost`, `downLost`; any lengths ≥ the
    two send rates) keeps an established, linked pair up, provided `SchedOK`: counted from `ec` / `es` (how long ago
    the client / the server last heard its peer), the client's silence — reset by every `delivered` round — stays
    within the client's timeout at each of its `update`s, and the server's silence — reset by every round that is not
    `upLost` — stays within the session's timeout at the `update_client` of every `upLost` round.
    Range hypotheses (checked arithmetic in the model, as in the Rust debug build): both sequence numbers have room
    for one packet per round, both clocks for the schedule's duration plus the timeout addition.

    Then the schedule runs (`runRoundsEv`, hence `runRounds`) and ends with the pair `Established` and `Linked`
    again, the client `Connected` without disconnect reason, the id connected on the server; both clocks advanced by
    exactly the schedule's duration; every one of the `2 * rounds` server results is quiet — no `ClientDisconnected`
    for anybody. -/
theorem session_stays_alive_lossy (hl : a.Laws) {c : NetcodeClient} {s : NetcodeServer} {sched : List (Fate × Nat)}
    {ec es : Nat} (hE : Established addr t expire c s) (hL : Linked me t c s)
    (hec : c.currentTime ≤ c.lastPacketReceivedTime + ec)
    (hes : ∀ cn, findClientById s.clients t.clientId = some cn → s.currentTime ≤ cn.lastPacketReceivedTime + es)
    (hok : SchedOK c.sendRate c.connectToken.timeoutSeconds t.timeoutSeconds ec es sched)
    (hcseq : c.sequence + sched.length < U64_MAX)
    (hsseq : ∀ cn, findClientById s.clients t.clientId = some cn → cn.sequence + sched.length < U64_MAX)
    (hcclk : c.currentTime + totalTime sched + fromSecs c.connectToken.timeoutSeconds.toNat ≤ DURATION_MAX)
    (hsclk : s.currentTime + totalTime sched + fromSecs (2 ^ 31) ≤ DURATION_MAX) :
    ∃ c' s' evs, runRoundsEv a addr me t.clientId sched (c, s) = some ((c', s'), evs) ∧
      runRounds a addr me t.clientId sched (c, s) = some (c', s') ∧
      Established addr t expire c' s' ∧ Linked me t c' s' ∧
      c'.state = .connected ∧ c'.disconnectReason = none ∧ s'.isClientConnected t.clientId = true ∧
      c'.currentTime = c.currentTime + totalTime sched ∧ s'.currentTime = s.currentTime + totalTime sched ∧
      (∀ r ∈ evs, Quiet addr r) ∧ (∀ id ad o, ServerResult.clientDisconnected id ad o ∉ evs) ∧
      evs.length = 2 * sched.length := by
  have hst : Steady a addr me t expire c ec es (0 + sched.length) c s :=
    steady_of_established hE hL hec (by omega) fun cn h => ⟨by have := hsseq cn h; omega, hes cn h⟩
  obtain ⟨c', s', evs, hr, hst', ht, hs, hq, hlen⟩ := steady_run hl sched hst hok hcclk hsclk
  have hE' := hst'.established
  refine ⟨c', s', evs, hr, by rw [runRounds_of_ev, hr]; rfl, hE', hst'.linked, hst'.cst, ?_, hE'.isClientConnected, ht, hs,
    hq, fun id ad o hm => quiet_not_disconnect (hq _ hm) id ad o rfl, hlen⟩
  unfold NetcodeClient.disconnectReason
  rw [hst'.cst]

/-- … and so after every prefix of the schedule: the pair is `Established` at every round boundary -/
theorem session_stays_alive_lossy_throughout (hl : a.Laws) {c : NetcodeClient} {s : NetcodeServer}
    {sched₁ sched₂ : List (Fate × Nat)} {ec es : Nat} (hE : Established addr t expire c s) (hL : Linked me t c s)
    (hec : c.currentTime ≤ c.lastPacketReceivedTime + ec)
    (hes : ∀ cn, findClientById s.clients t.clientId = some cn → s.currentTime ≤ cn.lastPacketReceivedTime + es)
    (hok : SchedOK c.sendRate c.connectToken.timeoutSeconds t.timeoutSeconds ec es (sched₁ ++ sched₂))
    (hcseq : c.sequence + (sched₁ ++ sched₂).length < U64_MAX)
    (hsseq : ∀ cn, findClientById s.clients t.clientId = some cn → cn.sequence + (sched₁ ++ sched₂).length < U64_MAX)
    (hcclk : c.currentTime + totalTime (sched₁ ++ sched₂) + fromSecs c.connectToken.timeoutSeconds.toNat ≤ DURATION_MAX)
    (hsclk : s.currentTime + totalTime (sched₁ ++ sched₂) + fromSecs (2 ^ 31) ≤ DURATION_MAX) :
    ∃ c₁ s₁, runRounds a addr me t.clientId sched₁ (c, s) = some (c₁, s₁) ∧ Established addr t expire c₁ s₁ ∧
      c₁.disconnectReason = none ∧ s₁.isClientConnected t.clientId = true := by
  rw [List.length_append] at hcseq hsseq
  rw [totalTime_append] at hcclk hsclk
  obtain ⟨c₁, s₁, _, _, h2, h3, _, _, h5, h6, _⟩ := session_stays_alive_lossy (me := me) hl hE hL hec hes
    (schedOK_prefix hok) (by omega) (fun cn h => by have := hsseq cn h; omega) (by omega) (by omega)
  exact ⟨c₁, s₁, h2, h3, h5, h6⟩

/-- **`session_stays_alive`** — `n` lossless rounds of `d` nanoseconds each, for ANY `n`: with the client's send rate
    and `NETCODE_SEND_RATE` at most `d` (each side's gate is open in each round, so each round carries a keep-alive in
    both directions) and `d` within the client's timeout — counted, for the first round, from when the client last
    heard the server (`hfirst`; non-strict, as the model's test is `last + timeout < now`).  The server side needs
    no condition on `d`: it tests the session's timer in `update_client`, after the round's keep-alive arrived.
    Range hypotheses: sequence numbers `+ n`, clocks `+ n * d` (plus the timeout addition). -/
theorem session_stays_alive (hl : a.Laws) {c : NetcodeClient} {s : NetcodeServer} {n d : Nat}
    (hE : Established addr t expire c s) (hL : Linked me t c s)
    (hrc : c.sendRate ≤ d) (hrs : Netcode.C.NETCODE_SEND_RATE_NS ≤ d)
    (hfirst : Within c.connectToken.timeoutSeconds (c.currentTime - c.lastPacketReceivedTime + d))
    (hcseq : c.sequence + n < U64_MAX)
    (hsseq : ∀ cn, findClientById s.clients t.clientId = some cn → cn.sequence + n < U64_MAX)
    (hcclk : c.currentTime + n * d + fromSecs c.connectToken.timeoutSeconds.toNat ≤ DURATION_MAX)
    (hsclk : s.currentTime + n * d + fromSecs (2 ^ 31) ≤ DURATION_MAX) :
    ∃ c' s' evs, runRoundsEv a addr me t.clientId (List.replicate n (.delivered, d)) (c, s) = some ((c', s'), evs) ∧
      runRounds a addr me t.clientId (List.replicate n (.delivered, d)) (c, s) = some (c', s') ∧
      Established addr t expire c' s' ∧ Linked me t c' s' ∧
      c'.state = .connected ∧ c'.disconnectReason = none ∧ s'.isClientConnected t.clientId = true ∧
      c'.currentTime = c.currentTime + n * d ∧ s'.currentTime = s.currentTime + n * d ∧
      (∀ r ∈ evs, Quiet addr r) ∧ (∀ id ad o, ServerResult.clientDisconnected id ad o ∉ evs) ∧
      evs.length = 2 * n := by
  have hd : Within c.connectToken.timeoutSeconds d := by
    rcases hfirst with h | h
    · exact Or.inl h
    · exact Or.inr (by omega)
  have hok : SchedOK c.sendRate c.connectToken.timeoutSeconds t.timeoutSeconds
      (c.currentTime - c.lastPacketReceivedTime) s.currentTime (List.replicate n (.delivered, d)) :=
    schedOK_replicate hrc hrs hd n hfirst
  have h := session_stays_alive_lossy (me := me) hl hE hL (ec := c.currentTime - c.lastPacketReceivedTime)
    (es := s.currentTime) (by omega) (fun _ _ => Nat.le_add_left _ _) hok
    (by rw [List.length_replicate]; exact hcseq) (by rw [List.length_replicate]; exact hsseq)
    (by rw [totalTime_replicate]; exact hcclk) (by rw [totalTime_replicate]; exact hsclk)
  rw [totalTime_replicate, List.length_replicate] at h
  exact h

/-- **`connect_and_stay_alive`** — the whole life of a session with all hypotheses on the *initial* states: a client
    that has not sent anything yet and an open server (`C18T.handshake_through_update`'s hypotheses) connect in two
    delivered rounds `d₁`, `d₂`, and then survive any schedule satisfying `SchedOK` (from silence 0 on both sides).
    `Budget`: the handshake fits the token's window / time-out and the counters have room for the handshake and one
    packet per later round. -/
theorem connect_and_stay_alive {s0 : NetcodeServer} {xnonce : Bytes} (hT : TokOK a s0 t expire xnonce)
    {c0 : NetcodeClient} {s : NetcodeServer} {d₁ d₂ : Nat} {sched : List (Fate × Nat)}
    (hc : CliReq a s0 t expire xnonce c0) (hsend : c0.lastPacketSendTime = none) (hme : c0.serverAddr = me)
    (hs : SrvOpen a s0 addr t expire xnonce s) (hb : Budget t expire c0 s (d₁ + d₂) (sched.length + 2))
    (hok : SchedOK c0.sendRate c0.connectToken.timeoutSeconds t.timeoutSeconds 0 0 sched)
    (hcclk : c0.currentTime + d₁ + d₂ + totalTime sched + fromSecs c0.connectToken.timeoutSeconds.toNat ≤ DURATION_MAX)
    (hsclk : s.currentTime + d₁ + d₂ + totalTime sched + fromSecs (2 ^ 31) ≤ DURATION_MAX) :
    ∃ c2 s2 c' s' evs,
      runRounds a addr me t.clientId [(.delivered, d₁), (.delivered, d₂)] (c0, s) = some (c2, s2) ∧
      Established addr t expire c2 s2 ∧
      runRoundsEv a addr me t.clientId sched (c2, s2) = some ((c', s'), evs) ∧
      runRounds a addr me t.clientId ([(.delivered, d₁), (.delivered, d₂)] ++ sched) (c0, s) = some (c', s') ∧
      Established addr t expire c' s' ∧ c'.state = .connected ∧ s'.isClientConnected t.clientId = true ∧
      c'.currentTime = c0.currentTime + d₁ + d₂ + totalTime sched ∧
      s'.currentTime = s.currentTime + d₁ + d₂ + totalTime sched ∧
      (∀ r ∈ evs, Quiet addr r) ∧ (∀ id ad o, ServerResult.clientDisconnected id ad o ∉ evs) := by
  obtain ⟨c1, s1, c2, s2, hr1, -, hr2, hst, ht, hs'⟩ := handshake_steady (me := me) (d₁ := d₁) (d₂ := d₂)
    (N := 0 + sched.length) hT hc hsend hme hs (by rw [Nat.zero_add]; exact hb)
  obtain ⟨c', s', evs, hr, hst', ht', hs'', hq, _⟩ := steady_run hT.laws sched hst hok (by rw [ht]; exact hcclk)
    (by rw [hs']; exact hsclk)
  have h12 : runRounds a addr me t.clientId [(.delivered, d₁), (.delivered, d₂)] (c0, s) = some (c2, s2) :=
    runRounds_two hr1 hr2
  have hE' := hst'.established
  refine ⟨c2, s2, c', s', evs, h12, hst.established, hr, ?_, hE', hst'.cst, hE'.isClientConnected, by rw [ht', ht],
    by rw [hs'', hs'], hq, fun id ad o hm => quiet_not_disconnect (hq _ hm) id ad o rfl⟩
  rw [runRounds_append, h12, Option.bind_some, runRounds_of_ev, hr]
  rfl

end B

/-! ## C. a silent peer is reported exactly once -/

/-- **`silent_peer_times_out_once`** — the server has not heard an authentic packet of client `id` (slot `i`, session
    `c`) for more than the token's timeout: `timeout_seconds > 0` and `last_packet_received_time + timeout < now`
    (`C18T.never_timed_out` covers the time before).  Run `update_client id` and then ANY trace `post` of server
    operations in which no new handshake of `id` completes (`hnc`: no result is `ClientConnected id`).  Then the first
    result is `ClientDisconnected id addr` and it is the only such report of the whole trace — **exactly once** —;
    afterwards `id` is not connected, and `update_client id` returns `None` and changes nothing (the slot is free). -/
theorem silent_peer_times_out_once (a : AEAD) {s s' : NetcodeServer} {id i : Nat} {c : Connection} {post : List Op}
    {rs : List ServerResult} (hi : ServerInv s) (hc : At s.clients i c) (hid : c.clientId = id)
    (hclock : s.currentTime + fromSecs (2 ^ 31) ≤ DURATION_MAX)
    (hto : c.timeoutSeconds > 0 ∧ c.lastPacketReceivedTime + fromSecs c.timeoutSeconds.toNat < s.currentTime)
    (hrun : runOps a s (.updateClient id :: post) = some (rs, s'))
    (hnc : ∀ ad ud ka, ServerResult.clientConnected id ad ud ka ∉ rs) :
    ∃ o rs', rs = .clientDisconnected id c.addr o :: rs' ∧
      (∀ ad o', ServerResult.clientDisconnected id ad o' ∉ rs') ∧
      s'.isClientConnected id = false ∧ s'.updateClient a id = .ok (.none, s') ∧ ServerInv s' := by
  obtain ⟨r, s1, rs', hs, hr, rfl⟩ := runOps_cons hrun
  obtain ⟨o, hu⟩ := NS.server_timeout a hi hc hid hclock hto
  have hs1 := step_inv hi hs
  simp only [step, hu, Option.some.injEq, Prod.mk.injEq] at hs
  obtain ⟨rfl, rfl⟩ := hs
  have hn : NotConn id (s.clients.set i none) := by rw [← hid]; exact notConn_dropped hi hc
  obtain ⟨h1, h2, h3⟩ := run_notConn post hs1 hn hr fun ad ud ka hm => hnc ad ud ka (List.mem_cons_of_mem _ hm)
  exact ⟨o, rs', rfl, h1, notConn_isClientConnected h2, updateClient_absent a (findSlot_none.mpr (findById_none.mpr h2)), h3⟩

/-- … preceded by any trace in which the session was fresh: no report before, one at the time-out, none after -/
theorem fresh_then_silent_once (a : AEAD) {s s₁ s' : NetcodeServer} {id i : Nat} {c : Connection}
    {pre post : List Op} {rs₁ rs : List ServerResult} (hi : ServerInv s) (hc : At s.clients i c) (hid : c.clientId = id)
    (hfresh : Fresh a id s c.lastPacketReceivedTime pre) (hpre : runOps a s pre = some (rs₁, s₁))
    (hclock : s₁.currentTime + fromSecs (2 ^ 31) ≤ DURATION_MAX)
    (hto : ∀ c₁, At s₁.clients i c₁ →
      c₁.timeoutSeconds > 0 ∧ c₁.lastPacketReceivedTime + fromSecs c₁.timeoutSeconds.toNat < s₁.currentTime)
    (hrun : runOps a s₁ (.updateClient id :: post) = some (rs, s'))
    (hnc : ∀ ad ud ka, ServerResult.clientConnected id ad ud ka ∉ rs) :
    (∀ ad o, ServerResult.clientDisconnected id ad o ∉ rs₁) ∧
    ∃ o rs', rs = .clientDisconnected id c.addr o :: rs' ∧
      (∀ ad o', ServerResult.clientDisconnected id ad o' ∉ rs') ∧
      s'.isClientConnected id = false ∧ s'.updateClient a id = .ok (.none, s') := by
  obtain ⟨⟨c₁, hc₁, hident⟩, _, hnd, hi₁⟩ := C18T.never_timed_out a hi hc hid hfresh hpre
  obtain ⟨o, rs', h1, h2, h3, h4, _⟩ := silent_peer_times_out_once a hi₁ hc₁ (by rw [ident_id hident, hid]) hclock
    (hto c₁ hc₁) hrun hnc
  exact ⟨hnd, o, rs', by rw [h1, ident_addr hident], h2, h3, h4⟩

/-! ## examples: the hypotheses are satisfiable -/
section Examples
open Ex

/-! ### A — client A of Lemmas/NcExamples.lean (`cA4`: connected at 0.25 s, receive timer 0.25 s, timeout 5 s, replay
    window holding sequence 0), AEAD `Ex.a` -/

/-- the server's keep-alive with sequence number 1; a keep-alive-shaped datagram with a wrong tag; the server's
    Disconnect packet with sequence number 2 -/
def kaS1 : Bytes := 20 :: 1 :: (leBytes 0 4 ++ leBytes 2 4 ++ List.replicate 16 0)
def forgedS : Bytes := 20 :: 2 :: (leBytes 0 4 ++ leBytes 2 4 ++ List.replicate 15 0 ++ [1])
def discS : Bytes := 22 :: 2 :: List.replicate 16 0

/-- 4 s pass, the authentic keep-alive arrives (`last` := 4.25 s), 5 more seconds pass (now 9.25 s = `last` + timeout:
    the boundary), a forged keep-alive, the same keep-alive again (replay), a Challenge (wrong kind for a connected
    client), a payload is sent, a zero-length update -/
def traceCl : List COp :=
  [.update 4000000000, .packet kaS1, .update 5000000000, .packet forgedS, .packet kaS1, .packet chalA,
   .sendPayload [7, 7], .update 0]

/-- that trace in one kernel evaluation; the ghost timer at its end is 4.25 s: only the first delivery of the keep-alive
    counted -/
theorem traceCl_ok : CFresh Ex.a cA4 cA4.lastPacketReceivedTime traceCl ∧ (runCOps Ex.a cA4 traceCl).isSome = true ∧
    cLastRun Ex.a cA4 cA4.lastPacketReceivedTime traceCl = 4250000000 := by
  decide +kernel
theorem traceCl_fresh : CFresh Ex.a cA4 cA4.lastPacketReceivedTime traceCl := traceCl_ok.1
theorem traceCl_runs : (runCOps Ex.a cA4 traceCl).isSome = true := traceCl_ok.2.1

example : ∃ rs c', runCOps Ex.a cA4 traceCl = some (rs, c') ∧ c'.state = .connected ∧ c'.disconnectReason = none ∧
    CKeeps cA4 c' ∧ c'.lastPacketReceivedTime = cLastRun Ex.a cA4 cA4.lastPacketReceivedTime traceCl := by
  cases h : runCOps Ex.a cA4 traceCl with
  | none => have := traceCl_runs; rw [h] at this; cases this
  | some x =>
    obtain ⟨rs, c'⟩ := x
    exact ⟨rs, c', rfl, client_never_timed_out Ex.a rfl traceCl_fresh h⟩
example : cLastRun Ex.a cA4 cA4.lastPacketReceivedTime traceCl = 4250000000 := traceCl_ok.2.2
example : ∀ rs c', runCOps Ex.a cA4 (traceCl.take 5) = some (rs, c') → c'.isDisconnected = false :=
  fun rs c' h => (client_never_timed_out_throughout Ex.a (ops₁ := traceCl.take 5) (ops₂ := traceCl.drop 5) rfl
    (by rw [List.take_append_drop]; exact traceCl_fresh) h).2.1
/-- not vacuous the other way: without the keep-alive the second update is not fresh (and indeed times the client
    out); the server's Disconnect packet is not allowed -/
example : ¬ CFresh Ex.a cA4 cA4.lastPacketReceivedTime [.update 4000000000, .update 5000000000] := by decide +kernel
example : ¬ CFresh Ex.a cA4 cA4.lastPacketReceivedTime [.packet discS] := by decide +kernel
example : (match cA4.update Ex.a 5000000001 with
    | .ok (_, c') => c'.state
    | _ => .connected) = .disconnected .connectionTimedOut := by decide +kernel
/-- the keep-alive is authentic for `cA4`, the forged one is not (the AEAD does not open it) -/
example : CAuthentic Ex.a cA4 kaS1 := cAuthenticB_iff.mp (by decide +kernel)
example : ¬ CAuthentic Ex.a cA4 forgedS := forged_or_replayed_not_authentic (Or.inl (by decide +kernel))

/-! ### B — the model's toy AEAD (`AEAD.toy_laws`), server `s0`, client `C18P.cT` with token `privA` (timeout 5 s) -/

/-- handshake in two rounds of 250 ms, then: a delivered round, a round whose answer is lost (2 s), a round lost on
    the way up (2 s: the client has now heard nothing for 4 s), a delivered round of 1 s (5 s = the timeout, the
    boundary) — both sides connected after 5.75 s, and the server never reported a disconnect -/
def schedB : List (Fate × Nat) :=
  [(.delivered, 250000000), (.downLost, 2000000000), (.upLost, 2000000000), (.delivered, 1000000000)]

example : ∃ c2 s2 c' s' evs,
    runRounds AEAD.toy addrA srvAddr privA.clientId [(.delivered, 250000000), (.delivered, 250000000)] (C18P.cT, s0) =
      some (c2, s2) ∧
    Established addrA privA 30 c2 s2 ∧
    runRoundsEv AEAD.toy addrA srvAddr privA.clientId schedB (c2, s2) = some ((c', s'), evs) ∧
    runRounds AEAD.toy addrA srvAddr privA.clientId
      ([(.delivered, 250000000), (.delivered, 250000000)] ++ schedB) (C18P.cT, s0) = some (c', s') ∧
    Established addrA privA 30 c' s' ∧ c'.state = .connected ∧ s'.isClientConnected privA.clientId = true ∧
    c'.currentTime = C18P.cT.currentTime + 250000000 + 250000000 + totalTime schedB ∧
    s'.currentTime = s0.currentTime + 250000000 + 250000000 + totalTime schedB ∧
    (∀ r ∈ evs, Quiet addrA r) ∧ (∀ id ad o, ServerResult.clientDisconnected id ad o ∉ evs) :=
  connect_and_stay_alive (me := srvAddr) C18T.tokOK_toy C18T.cliReq_cT rfl rfl C18T.srvOpen_s0
    ⟨⟨by decide, by decide, by decide, by decide, Or.inr (by decide)⟩, by decide, by decide, Or.inr (by decide),
      by decide, by decide, by decide⟩
    (by decide) (by decide) (by decide)

/-- the schedule condition is not vacuous: one more second of silence on the way down breaks it -/
example : ¬ SchedOK C18P.cT.sendRate C18P.cT.connectToken.timeoutSeconds privA.timeoutSeconds 0 0
    [(.delivered, 250000000), (.downLost, 2000000000), (.upLost, 2000000000), (.delivered, 1000000001)] := by decide

/-- `session_stays_alive` for every `n` up to a million: after the handshake, `n` lossless rounds of one second keep
    the pair established (hypotheses discharged from the `Steady` state the handshake ends in) -/
example : ∃ c2 s2, runRounds AEAD.toy addrA srvAddr privA.clientId [(.delivered, 250000000), (.delivered, 250000000)]
      (C18P.cT, s0) = some (c2, s2) ∧
    ∀ n, n ≤ 1000000 → ∃ c' s', runRounds AEAD.toy addrA srvAddr privA.clientId
        (List.replicate n (.delivered, 1000000000)) (c2, s2) = some (c', s') ∧
      Established addrA privA 30 c' s' ∧ c'.disconnectReason = none ∧
      s'.isClientConnected privA.clientId = true := by
  obtain ⟨c1, s1, c2, s2, hr1, -, hr2, hst, ht, hs'⟩ := handshake_steady (me := srvAddr) (d₁ := 250000000)
    (d₂ := 250000000) (N := 1000000) C18T.tokOK_toy C18T.cliReq_cT rfl rfl C18T.srvOpen_s0
    ⟨⟨by decide, by decide, by decide, by decide, Or.inr (by decide)⟩, by decide, by decide, Or.inr (by decide),
      by decide, by decide, by decide⟩
  refine ⟨c2, s2, runRounds_two hr1 hr2, fun n hn => ?_⟩
  have hL := hst.linked
  have hD : DURATION_MAX = 18446744073709551616000000000 - 1 := by decide
  have hF : fromSecs C18P.cT.connectToken.timeoutSeconds.toNat = 5000000000 := by decide
  have hF2 : fromSecs (2 ^ 31) = 2147483648000000000 := by decide
  have hU : U64_MAX = 18446744073709551615 := by decide
  have h0 : C18P.cT.currentTime = 0 := rfl
  have h0' : s0.currentTime = 0 := rfl
  have hcs := hst.cseq
  obtain ⟨i, cn, hat, hid, _, _, _, hsq⟩ := hst.sess
  have hf : findClientById s2.clients privA.clientId = some cn :=
    hst.inv.slots.findById_iff.mpr ⟨(identT_fields hid).1, i, hat⟩
  obtain ⟨c', s', evs, _, hrun, hE, _, _, hdr, hconn, _⟩ := session_stays_alive (me := srvAddr) (n := n)
    (d := 1000000000) AEAD.toy_laws hst.established hL (by rw [hst.rate]; decide) (by decide)
    (by rw [hst.tok]
        have := hst.heard
        have e : c2.currentTime - c2.lastPacketReceivedTime = 0 := by omega
        rw [e]; decide)
    (by omega) (fun cn' e => by rw [hf] at e; cases e; omega)
    (by rw [hst.tok, hF, ht, h0]; omega) (by rw [hs', h0', hF2]; omega)
  exact ⟨c', s', hrun, hE, hdr, hconn⟩

/-! ### C — server `s2late` of Lemmas/NcExamples.lean: A (id 11, slot 0, timeout 5 s) last heard at 0, now 5 s + 1 ns -/

/-- the tick that finds A timed out, then: time passes, another tick, A's (now orphaned) keep-alive, a tick, an
    explicit `disconnect 11`, B's connection request -/
def traceC : List Op :=
  [.updateClient 11, .update 1000000000, .updateClient 11, .packet addrA kaFromA, .updateClient 11, .disconnect 11,
   .packet addrB reqB]

theorem traceC_results : (runOps Ex.a s2late traceC).map (·.1) =
    some [.clientDisconnected 11 addrA (some discA), .none, .none, .none, .none, .none, .packetToSend addrB chalB] := by
  decide +kernel

example : ∃ rs s', runOps Ex.a s2late traceC = some (rs, s') ∧
    ∃ o rs', rs = .clientDisconnected 11 addrA o :: rs' ∧
      (∀ ad o', ServerResult.clientDisconnected 11 ad o' ∉ rs') ∧
      s'.isClientConnected 11 = false ∧ s'.updateClient Ex.a 11 = .ok (.none, s') := by
  have hres := traceC_results
  cases h : runOps Ex.a s2late traceC with
  | none => rw [h] at hres; cases hres
  | some x =>
    obtain ⟨rs, s'⟩ := x
    rw [h] at hres
    simp only [Option.map_some, Option.some.injEq] at hres
    obtain ⟨o, rs', h1, h2, h3, h4, _⟩ := silent_peer_times_out_once Ex.a C18.inv_s2late (i := 0) (c := connA) rfl rfl
      (by decide) (by decide) h (by rw [hres]; intro ad ud ka hm; simp at hm)
    exact ⟨rs, s', rfl, o, rs', h1, h2, h3, h4⟩

end Examples

end RenetVerif.C18U
