/-
  C07 — renetcode survives hostile datagrams and tokens: no panic, no state change.

  "Whatever datagram is handed to a netcode server (from any source address, known or unknown) or client, and whatever
   bytes are parsed as a connect token, the call returns normally.  A datagram that is not authentic for the session
   it addresses changes nothing observable: no client connects or disconnects, no payload surfaces, no timeout is
   refreshed, and genuine traffic afterwards is still accepted."

  Proofs: Lemmas/NcWire.lean.  The model marks every Rust partial operation (`buffer[0]`, `split_at_mut`, `unwrap`,
  checked arithmetic, `unreachable!`) as `Res.panic`; "returns normally" = the result is not `panic`.

  State conditions that are needed (and sufficient):
    server  `SInv n`  : `global_sequence`, `challenge_sequence` and every pending `sequence` are at least `n` below
                        `u64::MAX` (each `process_packet` uses up at most one; `new` starts at 2^63, so `n ≤ 2^63-1`);
    client  `CInv`    : time stamps not in the future, 32 address slots, `timeout_seconds < 2^31` (all established by
                        `ConnectToken::read` + `NetcodeClient::new`, kept by `process_packet` and `update`); for
                        `update` also: clock below `Duration::MAX` minus the largest timeout, `sequence < u64::MAX`.
  No hypothesis on the AEAD is needed for totality.

  "Not authentic" at function level = `Packet::decode` under the session of the source address returns an error
  (or, for the never-authenticated connection request, its private token does not pass).  Exact list of what may
  still change:
    * the session's replay window, in one case: an *authentic* keep-alive whose plaintext is shorter than 8 bytes
      (only the key holder can make one) — `malformed_keepalive_advances_window`;
    * a pending entry's `last_packet_received_time` after a connection-request-shaped datagram from its address
      (never read before the response path overwrites it).
-/
import RenetVerif.Lemmas.NcWire
namespace RenetVerif.C07
open RenetVerif RenetVerif.Netcode RenetVerif.Netcode.Packet

/-! ### 1. returns normally -/

/-- `Packet::decode`: every byte string, with or without key, with or without window (repaired defects D4, D5, D6) -/
theorem decode_total (a : AEAD) (buf : Bytes) (proto : Nat) (key : Option Bytes) (rp : Option RP) (m : String) :
    (decode a buf proto key rp).1 ≠ .panic m :=
  Packet.decode_total a buf proto key rp m

/-- `ConnectToken::read`: every byte string -/
theorem connect_token_read_total (src : Bytes) (m : String) : ConnectToken.read src ≠ .panic m := by
  unfold ConnectToken.read
  refine NS.bind_ne_panic (NcAead.io?_ne_panic _ _) fun _ => NS.bind_ne_panic (NcAead.io?_ne_panic _ _) fun _ => ?_
  dsimp only
  split
  · nofun
  exact NS.bind_ne_panic (NcAead.io?_ne_panic _ _) fun _ => NS.bind_ne_panic (NcAead.io?_ne_panic _ _) fun _ =>
    NS.bind_ne_panic (NcAead.io?_ne_panic _ _) fun _ => NS.bind_ne_panic (NcAead.io?_ne_panic _ _) fun _ =>
    NS.bind_ne_panic (NcAead.io?_ne_panic _ _) fun _ => NS.bind_ne_panic (NcAead.io?_ne_panic _ _) fun _ =>
    NS.bind_ne_panic (NcAead.io?_ne_panic _ _) fun _ => NS.bind_ne_panic (NcAead.io?_ne_panic _ _) fun _ =>
    NS.bind_ne_panic (NcAead.io?_ne_panic _ _) fun _ => nofun

/-- `NetcodeClient::new` on a token `read` accepted (repaired defect D7: a token without server address is rejected
    by `read`), and the client invariant holds -/
theorem client_new_total {src : Bytes} {t : ConnectToken} (h : ConnectToken.read src = .ok t) (now : Nat) :
    ∃ c, NetcodeClient.new now t = .ok c ∧ NetcodeClient.CInv c := by
  obtain ⟨c, hc⟩ := NetcodeClient.new_of_read h now
  refine ⟨c, hc, ?_⟩
  obtain ⟨_, _, _, _, _, _, hlen, _, _, _, _, _, hto⟩ := (NcAead.Token.ct_read_wf h).base
  obtain ⟨_, _, rfl⟩ := NcAead.Cl.new_ok.mp hc
  exact ⟨Nat.le_refl _, fun t h => (by cases h), Nat.le_refl _, Nat.le_of_eq hlen.symm, hto⟩

/-- `NetcodeServer::process_packet`: every source address, byte string and state with counter room -/
theorem server_process_packet_total (a : AEAD) {n : Nat} {s : NetcodeServer} (hinv : NetcodeServer.SInv (n + 1) s)
    (addr : Addr) (buf : Bytes) :
    ∃ r s', NetcodeServer.processPacket a s addr buf = .ok (r, s') ∧ NetcodeServer.SInv n s' :=
  NetcodeServer.processPacket_total a hinv addr buf

theorem server_inv_new {now maxClients proto : Nat} {addrs : List Addr} {secure : Bool} {pk ck : Bytes}
    {s : NetcodeServer} (h : NetcodeServer.new now maxClients proto addrs secure pk ck = .ok s) {n : Nat}
    (hn : Netcode.C.NETCODE_GLOBAL_SEQUENCE_START + n ≤ U64_MAX) : NetcodeServer.SInv n s := by
  obtain ⟨-, -, -, hp, -, -, -, hg, hc⟩ := NS.new_inv h
  refine ⟨by rw [hg]; exact hn, by rw [hc]; omega, fun x hx => ?_⟩
  rw [hp] at hx
  cases hx

theorem server_budget : Netcode.C.NETCODE_GLOBAL_SEQUENCE_START + (2 ^ 63 - 1) ≤ U64_MAX := by decide

/-- `NetcodeClient::process_packet`: every byte string, every state -/
theorem client_process_packet_total (a : AEAD) (c : NetcodeClient) (buf : Bytes) :
    ∃ r c', NetcodeClient.processPacket a c buf = .ok (r, c') :=
  NetcodeClient.processPacket_total a c buf

theorem client_inv_process_packet (a : AEAD) {c c' : NetcodeClient} {buf : Bytes} {r : Option Bytes}
    (hinv : NetcodeClient.CInv c) (h : NetcodeClient.processPacket a c buf = .ok (r, c')) :
    NetcodeClient.CInv c' ∧ c'.sequence = c.sequence ∧ c'.currentTime = c.currentTime :=
  NetcodeClient.processPacket_cinv a hinv h

/-- `NetcodeClient::update` (repaired defect D8: `expire - create` saturates) -/
theorem client_update_total (a : AEAD) (c : NetcodeClient) (d : Nat) (hinv : NetcodeClient.CInv c)
    (ht : c.currentTime + d + NetcodeClient.TIMEOUT_MAX_NS ≤ DURATION_MAX) (hseq : c.sequence + 1 ≤ U64_MAX) :
    ∃ r c', NetcodeClient.update a c d = .ok (r, c') ∧ NetcodeClient.CInv c' :=
  NetcodeClient.update_total a c d hinv ht hseq

/-! ### 2. not authentic ⇒ nothing observable changes -/

open NetcodeServer in
/-- Server, source address with a session (connected or pending): if `decode` under that session fails, the result is
    `None` and the state is unchanged — except for the authentic malformed keep-alive, where exactly the session's window
    is advanced. -/
theorem server_decode_error_noop (a : AEAD) (s : NetcodeServer) (addr : Addr) (buf : Bytes) {c : Connection}
    (hs : sessionOf s addr = some c) {e : NetcodeError}
    (hdec : (decode a buf s.protocolId (some c.receiveKey) (some c.replayProtection)).1 = .err e) :
    processPacket a s addr buf = .ok (.none, s) ∨
    (e = .ioError ∧ ∃ plain, SealedOpen a buf s.protocolId c.receiveKey .keepAlive plain ∧ plain.length < 8 ∧
      c.replayProtection.alreadyReceived (wireSeq buf) = false ∧
      processPacket a s addr buf = .ok (.none, withWindow s addr (c.replayProtection.advance (wireSeq buf)))) := by
  have hD : decode a buf _ _ _ = (.err e, _) := Prod.ext hdec rfl
  rcases decode_err hD with h | ⟨k, plain, hk, hso, hd, hlen, he, hw⟩
  · exact Or.inl (processPacket_decode_err_unchanged a s addr buf hs (h ▸ hD))
  · cases hk
    rw [isDup_some] at hd
    exact Or.inr ⟨he, plain, hso, hlen, by simpa [PacketType.applyReplayProtection] using hd,
      by rw [processPacket_decode_err a s addr buf hs hD, hw]; rfl⟩

open NetcodeServer in
/-- Server, unknown source address: a datagram that does not decode (only a connection request can) gets `None`,
    nothing changes -/
theorem server_unknown_address_noop (a : AEAD) (s : NetcodeServer) (addr : Addr) (buf : Bytes)
    (hs : sessionOf s addr = none) {e : NetcodeError} (hdec : (decode a buf s.protocolId none none).1 = .err e) :
    processPacket a s addr buf = .ok (.none, s) :=
  processPacket_unknown_err a s addr buf hs hdec

open NetcodeServer in
/-- Server: a connection request (unauthenticated by design) whose version / protocol id / expiry / private token does
    not pass, from an address that is not connected: `None`; nothing changes, except the receive time of a pending
    entry at that address. -/
theorem server_invalid_request_noop (a : AEAD) (s : NetcodeServer) (addr : Addr) (buf : Bytes)
    (hf : findClientByAddr s.clients addr = none) {v : Bytes} {pid e : Nat} {x data : Bytes}
    (hread : Packet.read .connectionRequest (buf.drop 1) = .ok (.connectionRequest v pid e x data))
    (ht : wireType buf = 0) (h18 : 18 ≤ buf.length) (hinv : InvalidRequest a s v pid e x data) :
    processPacket a s addr buf =
      .ok (.none, match pendingFind s.pendingClients addr with
                  | some c => touchPending s addr c
                  | none => s) := by
  have hdl : data.length = C.NETCODE_CONNECT_TOKEN_PRIVATE_BYTES := (Packet.read_ok hread).2.2.1.2.2.2.2
  have hdec : (Packet.decode a buf s.protocolId none none).1 = .ok (0, .connectionRequest v pid e x data) := by
    rw [Packet.decode_request_shape a _ _ _ h18 ht, hread]
    rfl
  have hinv' : InvalidRequest a (NS.met s addr) v pid e x data := by
    unfold NS.met
    split <;> exact hinv
  obtain ⟨e', he'⟩ := handleConnectionRequest_invalid a (NS.met s addr) addr (by rw [hdl]; decide) hinv'
  unfold processPacket
  rw [NS.ppi_request hf hdec, he']
  unfold NS.met
  cases pendingFind s.pendingClients addr <;> rfl

open NetcodeServer in
/-- Server (repaired defect D12): any datagram of connection-request shape from the address of a connected client —
    valid token or not — yields `None` and changes nothing; `last_packet_received_time` does not move. -/
theorem server_request_from_connected_noop (a : AEAD) (s : NetcodeServer) (addr : Addr) (buf : Bytes)
    {slot : Nat} {c : Connection} (hf : findClientByAddr s.clients addr = some (slot, c)) (ht : wireType buf = 0) :
    processPacket a s addr buf = .ok (.none, s) := by
  unfold processPacket processPacketInternal
  by_cases h18 : buf.length < 2 + C.NETCODE_MAC_BYTES
  · rw [if_pos h18]
  rw [if_neg h18, hf]
  dsimp only
  have hset : ∀ w, w = some c.replayProtection →
      ({ s with clients := s.clients.set slot (some { c with replayProtection := w.getD c.replayProtection }) } :
        NetcodeServer) = s := by
    intro w hw
    rw [hw, Option.getD_some, connection_eta, set_found_self hf]
  rw [Packet.decode_request_shape a _ _ _ (Nat.le_of_not_lt h18) ht]
  rcases Packet.read_eq .connectionRequest (buf.drop 1) with ⟨_, hr⟩ | ⟨_, p, hr, hpt, _⟩
  · rw [hr]
    dsimp only [Res.bind_err]
    rw [hset _ rfl]
  · rw [hr]
    simp only [Res.bind_ok, Res.pure_eq]
    rw [hset _ rfl]
    cases p with
    | connectionRequest v pid e x d => cases c.state <;> rfl
    | _ => cases hpt

open NetcodeClient in
/-- Client: if `decode` fails nothing surfaces and the client is unchanged, with the same single exception. -/
theorem client_decode_error_noop (a : AEAD) (c : NetcodeClient) (buf : Bytes) {e : NetcodeError}
    (hdec : (decode a buf c.connectToken.protocolId (some c.connectToken.serverToClientKey)
      (some c.replayProtection)).1 = .err e) :
    processPacket a c buf = .ok (none, c) ∨
    (e = .ioError ∧ ∃ plain,
      SealedOpen a buf c.connectToken.protocolId c.connectToken.serverToClientKey .keepAlive plain ∧ plain.length < 8 ∧
      c.replayProtection.alreadyReceived (wireSeq buf) = false ∧
      processPacket a c buf = .ok (none, c.withWindow (c.replayProtection.advance (wireSeq buf)))) := by
  have hD : decode a buf _ _ _ = (.err e, _) := Prod.ext hdec rfl
  rcases decode_err hD with h | ⟨k, plain, hk, hso, hd, hlen, he, hw⟩
  · exact Or.inl (processPacket_decode_err_unchanged a c buf (h ▸ hD))
  · cases hk
    rw [isDup_some] at hd
    exact Or.inr ⟨he, plain, hso, hlen, by simpa [PacketType.applyReplayProtection] using hd,
      by rw [processPacket_decode_err a c buf hD, hw]; rfl⟩

/-! ### witnesses (toy AEAD) -/
section examples

def key : Bytes := List.replicate 32 7

/-- The exception is real: a keep-alive prefix (0x14: type 4, one sequence byte), sequence 9, a 4-byte plaintext that
    the (toy) AEAD accepts: `decode` says `IoError` and the window has moved to 9. -/
theorem malformed_keepalive_advances_window :
    (decode AEAD.toy (0x14 :: 9 :: ([1, 2, 3, 4] ++ List.replicate 16 0)) 42 (some key) (some RP.new)).1 = .err .ioError ∧
    (decode AEAD.toy (0x14 :: 9 :: ([1, 2, 3, 4] ++ List.replicate 16 0)) 42 (some key) (some RP.new)).2.map (·.mostRecent)
      = some 9 := by
  decide +kernel

/-- the inputs of the repaired defects: D4 (prefix announcing 9 sequence bytes), D5 (18 bytes, prefix 0x85),
    D6 (sequence 2^64-1) -/
example : (decode AEAD.toy (0x95 :: List.replicate 39 0) 42 (some key) (some RP.new)).1 = .err .ioError := by decide +kernel
example : (decode AEAD.toy (0x85 :: List.replicate 17 0) 42 (some key) (some RP.new)).1 = .err .packetTooSmall := by
  decide +kernel
example : (decode AEAD.toy (0x85 :: (List.replicate 8 0xFF ++ List.replicate 16 0xAA)) 42 (some key) (some RP.new)).1
    = .err .cryptoError := by decide +kernel
/-- D7: a connect token announcing zero server addresses is rejected by `read` -/
example : ConnectToken.read (leBytes 1 8 ++ Netcode.C.NETCODE_VERSION_INFO ++ leBytes 42 8 ++ leBytes 0 8 ++ leBytes 30 8 ++
    List.replicate 24 0 ++ List.replicate 1024 0 ++ leBytes 15 4 ++ leBytes 0 4 ++ List.replicate 64 0) = .err .ioError := by
  decide +kernel

/-! a server with one connected client (id 77) and one pending handshake -/
def cliAddr : Addr := .v4 [10, 0, 0, 2] 4000
def pendAddr : Addr := .v4 [10, 0, 0, 3] 4001
def otherAddr : Addr := .v4 [10, 0, 0, 9] 4009
def conn : Connection :=
  { confirmed := true, clientId := 77, state := .connected, sendKey := List.replicate 32 4, receiveKey := key,
    userData := [], addr := cliAddr, lastPacketReceivedTime := 0, lastPacketSendTime := 0, timeoutSeconds := 15,
    sequence := 0, expireTimestamp := 30, replayProtection := RP.new }
def pend : Connection :=
  { confirmed := false, clientId := 78, state := .pendingResponse, sendKey := List.replicate 32 5,
    receiveKey := List.replicate 32 6, userData := [], addr := pendAddr, lastPacketReceivedTime := 0,
    lastPacketSendTime := 0, timeoutSeconds := 15, sequence := 0, expireTimestamp := 30, replayProtection := RP.new }
def srv : NetcodeServer :=
  { clients := [none, some conn], pendingClients := [(pendAddr, pend)], connectTokenEntries := [none, none],
    protocolId := 42, connectKey := List.replicate 32 1, maxClients := 2, challengeSequence := 0,
    challengeKey := List.replicate 32 2, publicAddresses := [.v4 [127, 0, 0, 1] 5000], currentTime := 1000,
    globalSequence := 2 ^ 63, secure := true }

theorem srv_inv : NetcodeServer.SInv 1 srv :=
  ⟨by decide, by decide, fun x hx => by simp [srv] at hx; subst hx; decide⟩

/-- a payload-shaped forgery -/
def forged : Bytes := 0x15 :: 3 :: List.replicate 20 0xFF
/-- 1078 zero bytes: connection-request shape, invalid version -/
def junkRequest : Bytes := List.replicate 1078 0

example : ∃ r s', NetcodeServer.processPacket AEAD.toy srv cliAddr forged = .ok (r, s') ∧ NetcodeServer.SInv 0 s' :=
  server_process_packet_total AEAD.toy srv_inv cliAddr forged

/-- forgery to the connected client's address, to the pending address, from an unknown address: `None`, same state -/
example : NetcodeServer.processPacket AEAD.toy srv cliAddr forged = .ok (.none, srv) :=
  (server_decode_error_noop AEAD.toy srv cliAddr forged (c := conn) rfl (e := .cryptoError) (by decide +kernel)).resolve_right
    (by rintro ⟨h, _⟩; cases h)
example : NetcodeServer.processPacket AEAD.toy srv pendAddr forged = .ok (.none, srv) :=
  (server_decode_error_noop AEAD.toy srv pendAddr forged (c := pend) rfl (e := .cryptoError) (by decide +kernel)).resolve_right
    (by rintro ⟨h, _⟩; cases h)
example : NetcodeServer.processPacket AEAD.toy srv otherAddr forged = .ok (.none, srv) :=
  server_unknown_address_noop AEAD.toy srv otherAddr forged rfl (e := .unavailablePrivateKey) (by decide +kernel)

/-- D12's input: 1078 zero bytes from the connected client's address -/
example : NetcodeServer.processPacket AEAD.toy srv cliAddr junkRequest = .ok (.none, srv) :=
  server_request_from_connected_noop AEAD.toy srv cliAddr junkRequest (slot := 1) (c := conn) rfl (by decide +kernel)

/-- the same junk from an unknown address: nothing; from the pending address: only the pending receive time -/
theorem junk_read : Packet.read .connectionRequest (junkRequest.drop 1) =
    .ok (.connectionRequest (List.replicate 13 0) 0 0 (List.replicate 24 0) (List.replicate 1024 0)) := by decide +kernel
example : NetcodeServer.processPacket AEAD.toy srv otherAddr junkRequest = .ok (.none, srv) :=
  server_invalid_request_noop AEAD.toy srv otherAddr junkRequest rfl junk_read (by decide +kernel) (by decide +kernel)
    (Or.inl (by decide))
example : NetcodeServer.processPacket AEAD.toy srv pendAddr junkRequest =
    .ok (.none, NetcodeServer.touchPending srv pendAddr pend) :=
  server_invalid_request_noop AEAD.toy srv pendAddr junkRequest rfl junk_read (by decide +kernel) (by decide +kernel)
    (Or.inl (by decide))

/-- The counter hypothesis of `server_process_packet_total` is needed: with `global_sequence = u64::MAX` a valid
    connection request makes `global_sequence += 1` overflow (a panic in the debug profile; unreachable in practice:
    2^63 datagrams after start). -/
def okOr {ε α : Type} (d : α) : Res ε α → α
  | .ok a => a
  | _ => d
def emptyTok : ConnectToken :=
  { clientId := 0, versionInfo := [], protocolId := 0, createTimestamp := 0, expireTimestamp := 0, xnonce := [],
    serverAddresses := [], clientToServerKey := [], serverToClientKey := [], privateData := [], timeoutSeconds := 0 }
def goodTok : ConnectToken := okOr emptyTok
  (ConnectToken.generate AEAD.toy 0 42 30 79 15 [.v4 [127, 0, 0, 1] 5000] (List.replicate 256 9) (List.replicate 32 3)
    (List.replicate 32 4) (List.replicate 24 5) (List.replicate 32 1))
def goodRequest : Bytes := okOr [] (encode AEAD.toy
  (.connectionRequest Netcode.C.NETCODE_VERSION_INFO goodTok.protocolId goodTok.expireTimestamp goodTok.xnonce
    goodTok.privateData) 1400 42 none)
/-- the request is generated once and handed to both servers (one kernel evaluation) -/
theorem goodRequest_outcomes :
    (NetcodeServer.processPacket AEAD.toy { srv with globalSequence := 2 ^ 64 - 1 } otherAddr goodRequest).isPanic = true ∧
    (NetcodeServer.processPacket AEAD.toy srv otherAddr goodRequest).isPanic = false := by
  decide +kernel
theorem counter_overflow_panics :
    (NetcodeServer.processPacket AEAD.toy { srv with globalSequence := 2 ^ 64 - 1 } otherAddr goodRequest).isPanic = true :=
  goodRequest_outcomes.1
example : (NetcodeServer.processPacket AEAD.toy srv otherAddr goodRequest).isPanic = false := goodRequest_outcomes.2

/-! a client in its first state -/
def tok : ConnectToken :=
  { clientId := 77, versionInfo := Netcode.C.NETCODE_VERSION_INFO, protocolId := 42, createTimestamp := 0,
    expireTimestamp := 30, xnonce := List.replicate 24 0,
    serverAddresses := some (.v4 [127, 0, 0, 1] 5000) :: List.replicate 31 none,
    clientToServerKey := List.replicate 32 6, serverToClientKey := key, privateData := List.replicate 1024 0,
    timeoutSeconds := 15 }
def cli : NetcodeClient :=
  { state := .sendingConnectionRequest, clientId := 77, connectStartTime := 5, lastPacketSendTime := none,
    lastPacketReceivedTime := 5, currentTime := 5, sequence := 0, serverAddr := .v4 [127, 0, 0, 1] 5000,
    serverAddrIndex := 0, connectToken := tok, challengeTokenSequence := 0,
    challengeTokenData := List.replicate 300 0, maxClients := 0, clientIndex := 0,
    sendRate := Netcode.C.NETCODE_SEND_RATE_NS, replayProtection := RP.new }
example : NetcodeClient.new 5 tok = .ok cli := rfl
theorem cli_inv : NetcodeClient.CInv cli :=
  ⟨by decide, fun t h => (by cases h), by decide, by decide, by decide⟩

example : ∃ r c', NetcodeClient.update AEAD.toy cli 1000000 = .ok (r, c') ∧ NetcodeClient.CInv c' :=
  client_update_total AEAD.toy cli 1000000 cli_inv (by decide) (by decide)
example : NetcodeClient.processPacket AEAD.toy cli forged = .ok (none, cli) :=
  (client_decode_error_noop AEAD.toy cli forged (e := .cryptoError) (by decide +kernel)).resolve_right
    (by rintro ⟨h, _⟩; cases h)

end examples

end RenetVerif.C07
