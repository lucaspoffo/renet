/-
  The serialised connect token (public part and the private part `PrivateConnectToken`) and the challenge token of
  `Netcode/Token.lean`, `Netcode/Wire.lean` (renetcode/src/token.rs, packet.rs) as byte strings: what the writers produce
  (`ctBytes`, `ptBytes`, `addrsBytes`), what the readers accept (iffs), and the closed forms of `encode` / `generate`.
-/
import RenetVerif.Lemmas.NcPacket
namespace RenetVerif.NcAead
open RenetVerif RenetVerif.Netcode

namespace Token

def addrBytes : Addr → Bytes
  | .v4 ip port => leBytes C.NETCODE_ADDRESS_IPV4 1 ++ (ip ++ leBytes port 2)
  | .v6 ip port => leBytes C.NETCODE_ADDRESS_IPV6 1 ++ (ip ++ leBytes port 2)

def hostsBytes : List Addr → Bytes
  | [] => []
  | h :: rest => addrBytes h ++ hostsBytes rest

/-- the bytes `write_server_addresses` produces -/
def addrsBytes (addrs : AddrArray) : Bytes :=
  leBytes (addrs.filterMap fun x => x).length 4 ++ hostsBytes (addrs.filterMap fun x => x)

theorem Wr.writeAll_some_le {w w' : Netcode.Wr} {b : Bytes} (h : w.writeAll b = some w') : w'.out.length ≤ w'.cap := by
  rw [Wr.writeAll_eq] at h
  split at h
  · cases h; simpa using by assumption
  · cases h

theorem go_eq (hosts : List Addr) (w : Netcode.Wr) (hw : w.out.length ≤ w.cap) :
    writeServerAddresses.go w hosts = w.writeAll (hostsBytes hosts) := by
  induction hosts generalizing w with
  | nil => simp [writeServerAddresses.go, hostsBytes, Wr.writeAll_eq, hw]
  | cons h rest ih =>
    have hstep : writeServerAddresses.go w (h :: rest) =
        (w.writeAll (addrBytes h) >>= fun w' => writeServerAddresses.go w' rest) := by
      cases h <;>
        simp only [writeServerAddresses.go, addrBytes, Addr.port, ← Wr.writeAll_append, Option.bind_eq_bind,
          Option.bind_assoc]
    rw [hstep, hostsBytes, ← Wr.writeAll_append]
    cases hq : w.writeAll (addrBytes h) with
    | none => rfl
    | some w' =>
      simp only [Option.bind_eq_bind, Option.bind_some]
      exact ih w' (Wr.writeAll_some_le hq)

theorem writeServerAddresses_eq (addrs : AddrArray) (w : Netcode.Wr) :
    writeServerAddresses w addrs = w.writeAll (addrsBytes addrs) := by
  unfold addrsBytes
  rw [← Wr.writeAll_append]
  show (w.writeAll (leBytes (addrs.filterMap fun x => x).length 4) >>= fun w =>
    writeServerAddresses.go w (addrs.filterMap fun x => x)) = _
  cases hq : w.writeAll (leBytes (addrs.filterMap fun x => x).length 4) with
  | none => rfl
  | some w' =>
    simp only [Option.bind_eq_bind, Option.bind_some]
    exact go_eq _ w' (Wr.writeAll_some_le hq)

/-- one entry of the address list, as the loop of `read_server_addresses` reads it -/
def readAddr (src : Bytes) : Option (Addr × Bytes) := do
  let (ty, r) ← readU8 src
  if ty = C.NETCODE_ADDRESS_IPV4 then
    let (ip, r) ← readN 4 r
    let (port, r) ← readU16 r
    pure (.v4 ip port, r)
  else if ty = C.NETCODE_ADDRESS_IPV6 then
    let (ip, r) ← readN 16 r
    let (port, r) ← readU16 r
    pure (.v6 ip port, r)
  else none

theorem readAddrLoop_succ (n : Nat) (src : Bytes) :
    readAddrLoop (n + 1) src = (readAddr src >>= fun xr => readAddrLoop n xr.2 >>= fun lr => pure (some xr.1 :: lr.1, lr.2)) := by
  simp only [readAddrLoop, readAddr, Option.bind_eq_bind, Option.bind_assoc]
  refine congrArg _ (funext fun ⟨ty, r⟩ => ?_)
  dsimp only
  split
  · simp only [Option.bind_assoc, Option.pure_def, Option.bind_some]
  split
  · simp only [Option.bind_assoc, Option.pure_def, Option.bind_some]
  split <;> rfl

theorem readAddr_iff {src r : Bytes} {x : Addr} : readAddr src = some (x, r) ↔ x.WF ∧ src = addrBytes x ++ r := by
  have hne : C.NETCODE_ADDRESS_IPV6 ≠ C.NETCODE_ADDRESS_IPV4 := by decide
  simp only [readAddr, Option.bind_eq_bind, Option.bind_eq_some_iff, Prod.exists, readU8, readU16, readU_iff]
  constructor
  · rintro ⟨ty, r1, ⟨-, rfl⟩, h⟩
    split at h
    · subst ty
      simp only [Option.bind_eq_some_iff, Prod.exists, readN_iff, readU_iff, Option.pure_def, Option.some.injEq,
        Prod.mk.injEq] at h
      obtain ⟨ip, r2, ⟨h1, rfl⟩, port, r3, ⟨h2, rfl⟩, rfl, rfl⟩ := h
      exact ⟨⟨h1, by simpa using h2⟩, by simp [addrBytes]⟩
    split at h
    · subst ty
      simp only [Option.bind_eq_some_iff, Prod.exists, readN_iff, readU_iff, Option.pure_def, Option.some.injEq,
        Prod.mk.injEq] at h
      obtain ⟨ip, r2, ⟨h1, rfl⟩, port, r3, ⟨h2, rfl⟩, rfl, rfl⟩ := h
      exact ⟨⟨h1, by simpa using h2⟩, by simp [addrBytes]⟩
    · cases h
  · rintro ⟨hw, rfl⟩
    cases x with
    | v4 ip port =>
      refine ⟨C.NETCODE_ADDRESS_IPV4, _, ⟨by decide, by simp only [addrBytes, List.append_assoc]; rfl⟩, ?_⟩
      simp only [if_true, Option.bind_eq_some_iff, Prod.exists, readN_iff, readU_iff, Option.pure_def, Option.some.injEq,
        Prod.mk.injEq]
      exact ⟨_, _, ⟨hw.1, rfl⟩, _, _, ⟨by simpa using hw.2, rfl⟩, rfl, rfl⟩
    | v6 ip port =>
      refine ⟨C.NETCODE_ADDRESS_IPV6, _, ⟨by decide, by simp only [addrBytes, List.append_assoc]; rfl⟩, ?_⟩
      simp only [hne, if_true, if_false, Option.bind_eq_some_iff, Prod.exists, readN_iff, readU_iff, Option.pure_def,
        Option.some.injEq, Prod.mk.injEq]
      exact ⟨_, _, ⟨hw.1, rfl⟩, _, _, ⟨by simpa using hw.2, rfl⟩, rfl, rfl⟩

theorem readAddrLoop_iff : ∀ (n : Nat) {src r : Bytes} {l : List (Option Addr)},
    readAddrLoop n src = some (l, r) ↔
      ∃ hosts : List Addr, l = hosts.map some ∧ hosts.length = n ∧ (∀ x ∈ hosts, x.WF) ∧ src = hostsBytes hosts ++ r
  | 0, src, r, l => by
    simp only [readAddrLoop, Option.some.injEq, Prod.mk.injEq, List.length_eq_zero_iff]
    constructor
    · rintro ⟨rfl, rfl⟩; exact ⟨[], rfl, rfl, nofun, rfl⟩
    · rintro ⟨_, rfl, rfl, -, rfl⟩; exact ⟨rfl, rfl⟩
  | n + 1, src, r, l => by
    simp only [readAddrLoop_succ, Option.bind_eq_bind, Option.bind_eq_some_iff, Prod.exists, readAddr_iff,
      readAddrLoop_iff n, Option.pure_def, Option.some.injEq, Prod.mk.injEq]
    constructor
    · rintro ⟨x, r1, ⟨hx, rfl⟩, _, _, ⟨hosts, rfl, hl, hw, rfl⟩, rfl, rfl⟩
      exact ⟨x :: hosts, rfl, by simp [hl], List.forall_mem_cons.2 ⟨hx, hw⟩, by simp [hostsBytes]⟩
    · rintro ⟨hosts, rfl, hl, hw, rfl⟩
      cases hosts with
      | nil => cases hl
      | cons x tl =>
        exact ⟨x, _, ⟨hw x List.mem_cons_self, by simp only [hostsBytes, List.append_assoc]⟩, _, r,
          ⟨tl, rfl, Nat.succ.inj hl, fun y hy => hw y (List.mem_cons_of_mem _ hy), rfl⟩, rfl, rfl⟩

/-- prefix-compact address array: `n ≥ 1` hosts in slots `0..n-1`, nothing behind them
    (the only shape `generate` builds; `write` does not record the positions of empty slots) -/
def Compact (addrs : AddrArray) : Prop :=
  ∃ hosts : List Addr, hosts ≠ [] ∧ hosts.length ≤ C.NETCODE_TOKEN_MAX_ADDRESSES ∧ (∀ x ∈ hosts, x.WF) ∧
    addrs = hosts.map some ++ List.replicate (C.NETCODE_TOKEN_MAX_ADDRESSES - hosts.length) none

theorem filterMap_compact (hosts : List Addr) (n : Nat) :
    (hosts.map some ++ List.replicate n (none : Option Addr)).filterMap (fun x => x) = hosts := by
  induction hosts with
  | nil => induction n with
    | zero => rfl
    | succ n ih => simp [List.replicate_succ]
  | cons h tl ih => simpa using ih

/-- `read_server_addresses`: the array is prefix-compact; the bytes are a count field that clamps to the number of
    hosts (`.take(n)`: with 32 hosts the field itself is not determined), then the hosts -/
theorem readServerAddresses_iff {src r : Bytes} {arr : AddrArray} :
    readServerAddresses src = some (arr, r) ↔
      Compact arr ∧ ∃ num, num < 2 ^ 32 ∧ min num 32 = (arr.filterMap fun x => x).length ∧
        src = leBytes num 4 ++ (hostsBytes (arr.filterMap fun x => x) ++ r) := by
  have h32 : C.NETCODE_TOKEN_MAX_ADDRESSES = 32 := rfl
  simp only [readServerAddresses, Option.bind_eq_bind, Option.bind_eq_some_iff, Prod.exists, readU32, readU_iff,
    readAddrLoop_iff]
  constructor
  · rintro ⟨num, r1, ⟨hn, rfl⟩, l, r2, ⟨hosts, rfl, hl, hw, rfl⟩, h⟩
    split at h
    · rename_i x hhead
      cases h
      have hc : Compact (hosts.map some ++ List.replicate (C.NETCODE_TOKEN_MAX_ADDRESSES - (hosts.map some).length) none) :=
        ⟨hosts, by rintro rfl; simp [h32, List.replicate_succ] at hhead, by omega, hw, by simp⟩
      exact ⟨hc, num, by simpa using hn, by rw [filterMap_compact, hl, h32], by rw [filterMap_compact]⟩
    · cases h
  · rintro ⟨⟨hosts, hne, hlen, hw, rfl⟩, num, hn, hm, rfl⟩
    rw [filterMap_compact] at hm ⊢
    refine ⟨num, _, ⟨by simpa using hn, rfl⟩, _, r, ⟨hosts, rfl, by omega, hw, rfl⟩, ?_⟩
    cases hosts with
    | nil => exact absurd rfl hne
    | cons h tl => simp

theorem readServerAddresses_addrsBytes {addrs : AddrArray} (h : Compact addrs) (rest : Bytes) :
    readServerAddresses (addrsBytes addrs ++ rest) = some (addrs, rest) := by
  have h32 : (addrs.filterMap fun x => x).length ≤ 32 := by
    obtain ⟨hosts, -, hl, -, rfl⟩ := h
    rw [filterMap_compact]; exact hl
  exact readServerAddresses_iff.2 ⟨h, (addrs.filterMap fun x => x).length, by omega, by omega,
    by rw [addrsBytes, List.append_assoc]⟩

theorem addrBytes_length {x : Addr} (h : x.WF) : (addrBytes x).length ≤ 19 := by
  cases x <;> obtain ⟨h1, _⟩ := h <;> simp [addrBytes, h1]

theorem hostsBytes_length (hosts : List Addr) (h : ∀ x ∈ hosts, x.WF) : (hostsBytes hosts).length ≤ 19 * hosts.length := by
  induction hosts with
  | nil => simp [hostsBytes]
  | cons x tl ih =>
    have := addrBytes_length (h x (by simp))
    have := ih (fun y hy => h y (by simp [hy]))
    simp only [hostsBytes, List.length_append, List.length_cons]; omega

theorem addrsBytes_length {addrs : AddrArray} (h : Compact addrs) : (addrsBytes addrs).length ≤ 612 := by
  obtain ⟨hosts, _, hlen, hwf, rfl⟩ := h
  have h32 : C.NETCODE_TOKEN_MAX_ADDRESSES = 32 := rfl
  have := hostsBytes_length hosts hwf
  simp only [addrsBytes, filterMap_compact, List.length_append, leBytes_length]; omega

/-- the bytes `ConnectToken::write` produces -/
def ctBytes (t : ConnectToken) : Bytes :=
  leBytes t.clientId 8 ++ (t.versionInfo ++ (leBytes t.protocolId 8 ++ (leBytes t.createTimestamp 8 ++
  (leBytes t.expireTimestamp 8 ++ (t.xnonce ++ (t.privateData ++ (i32le t.timeoutSeconds ++
  (addrsBytes t.serverAddresses ++ (t.clientToServerKey ++ t.serverToClientKey)))))))))

theorem ct_writeTo_eq (t : ConnectToken) (w : Netcode.Wr) : t.writeTo w = w.writeAll (ctBytes t) := by
  simp only [ConnectToken.writeTo, writeServerAddresses_eq, Wr.writeAll_append, ctBytes]

/-- What a connect token must satisfy to survive `write`/`read`: the field widths of its Rust type
    (`ConnectToken.WF` of the model), the library's version string (`read` rejects any other), and a
    prefix-compact, non-empty address array. -/
structure CTokenWF (t : ConnectToken) : Prop where
  base : t.WF
  version : t.versionInfo = C.NETCODE_VERSION_INFO
  compact : Compact t.serverAddresses

theorem ctBytes_length {t : ConnectToken} (h : CTokenWF t) : (ctBytes t).length ≤ ConnectToken.MAX_BYTES := by
  obtain ⟨⟨_, h2, _, _, _, h6, _, _, h9, h10, h11, _, _⟩, _, hc⟩ := h
  have := addrsBytes_length hc
  simp only [ctBytes, List.length_append, leBytes_length, h2, h6, h9, h10, h11, i32le_length,
    C.NETCODE_CONNECT_TOKEN_XNONCE_BYTES, RenetVerif.C.NETCODE_CONNECT_TOKEN_XNONCE_BYTES,
    C.NETCODE_CONNECT_TOKEN_PRIVATE_BYTES, RenetVerif.C.NETCODE_CONNECT_TOKEN_PRIVATE_BYTES,
    C.NETCODE_KEY_BYTES, RenetVerif.C.NETCODE_KEY_BYTES, ConnectToken.MAX_BYTES]
  omega

theorem ct_write_eq {t : ConnectToken} (h : CTokenWF t) : t.write = .ok (ctBytes t) := by
  have := ctBytes_length h
  unfold ConnectToken.write
  rw [ct_writeTo_eq, Wr.writeAll_eq, if_pos (by simp [Netcode.Wr.new]; omega)]
  simp [io?, Netcode.Wr.new]

theorem ct_read_bytes {t : ConnectToken} (h : CTokenWF t) (rest : Bytes) :
    ConnectToken.read (ctBytes t ++ rest) = .ok t := by
  obtain ⟨⟨h1, _, h3, h4, h5, h6, _, _, h9, h10, h11, h12, h13⟩, hv, hc⟩ := h
  simp only [ConnectToken.read, ctBytes, List.append_assoc, io?, Res.bind_ok, readU64_leBytes _ h1,
    readN_append' C.NETCODE_VERSION_INFO _ (show _ = 13 from rfl),
    readU64_leBytes _ h3, readU64_leBytes _ h4, readU64_leBytes _ h5, readN_append' _ _ h6, readN_append' _ _ h11,
    readI32_i32le _ h12 h13, readServerAddresses_addrsBytes hc, readN_append' _ _ h9, readN_append' _ _ h10, hv, ne_eq,
    not_true_eq_false, if_false, Res.pure_eq]
  rw [← hv]

def ptBytes (t : PrivateConnectToken) : Bytes :=
  leBytes t.clientId 8 ++ (i32le t.timeoutSeconds ++ (addrsBytes t.serverAddresses ++
  (t.clientToServerKey ++ (t.serverToClientKey ++ t.userData))))

structure PTokenWF (t : PrivateConnectToken) : Prop where
  clientId : t.clientId < 2 ^ 64
  timeout_lo : -(2 ^ 31 : Int) ≤ t.timeoutSeconds
  timeout_hi : t.timeoutSeconds < 2 ^ 31
  compact : Compact t.serverAddresses
  c2s : t.clientToServerKey.length = 32
  s2c : t.serverToClientKey.length = 32
  userData : t.userData.length = 256

theorem pt_writeTo_eq (t : PrivateConnectToken) (w : Netcode.Wr) : t.writeTo w = w.writeAll (ptBytes t) := by
  simp only [PrivateConnectToken.writeTo, writeServerAddresses_eq, Wr.writeAll_append, ptBytes]

theorem ptBytes_length {t : PrivateConnectToken} (h : PTokenWF t) : (ptBytes t).length ≤ 944 := by
  have := addrsBytes_length h.compact
  simp only [ptBytes, List.length_append, leBytes_length, i32le_length, h.c2s, h.s2c, h.userData]
  omega

/-- Round trip and well-formedness of what the reader returns are its two directions. -/
theorem pt_read_iff {src : Bytes} {t : PrivateConnectToken} :
    PrivateConnectToken.read src = some t ↔
      PTokenWF t ∧ ∃ num rest, num < 2 ^ 32 ∧ min num 32 = (t.serverAddresses.filterMap fun x => x).length ∧
        src = leBytes t.clientId 8 ++ (i32le t.timeoutSeconds ++ (leBytes num 4 ++
          (hostsBytes (t.serverAddresses.filterMap fun x => x) ++
          (t.clientToServerKey ++ (t.serverToClientKey ++ (t.userData ++ rest)))))) := by
  simp only [PrivateConnectToken.read, Option.bind_eq_bind, Option.bind_eq_some_iff, Option.pure_def, Option.some.injEq,
    Prod.exists, readU64, readU_iff, readI32_iff, readServerAddresses_iff, readN_iff]
  constructor
  · rintro ⟨cid, r1, ⟨h1, rfl⟩, to, r2, ⟨h2, rfl⟩, sa, r3, ⟨h3, num, hn, hm, rfl⟩, k1, r4, ⟨h4, rfl⟩, k2, r5, ⟨h5, rfl⟩,
      ud, r6, ⟨h6, rfl⟩, rfl⟩
    exact ⟨⟨by simpa using h1, h2.1, h2.2, h3, h4, h5, h6⟩, num, r6, hn, hm, rfl⟩
  · rintro ⟨hw, num, rest, hn, hm, rfl⟩
    exact ⟨_, _, ⟨by simpa using hw.clientId, rfl⟩, _, _, ⟨⟨hw.timeout_lo, hw.timeout_hi⟩, rfl⟩, _, _,
      ⟨hw.compact, num, hn, hm, rfl⟩, _, _, ⟨hw.c2s, rfl⟩, _, _, ⟨hw.s2c, rfl⟩, _, _, ⟨hw.userData, rfl⟩, rfl⟩

theorem pt_read_bytes {t : PrivateConnectToken} (h : PTokenWF t) (rest : Bytes) :
    PrivateConnectToken.read (ptBytes t ++ rest) = some t := by
  have h32 : (t.serverAddresses.filterMap fun x => x).length ≤ 32 := by
    obtain ⟨hosts, -, hl, -, e⟩ := h.compact
    rw [e, filterMap_compact]; exact hl
  exact pt_read_iff.2 ⟨h, (t.serverAddresses.filterMap fun x => x).length, rest, by omega, by omega,
    by simp only [ptBytes, addrsBytes, List.append_assoc]⟩

theorem pt_read_wf {src : Bytes} {t : PrivateConnectToken} (h : PrivateConnectToken.read src = some t) : PTokenWF t :=
  (pt_read_iff.1 h).1

theorem take_pad (b : Bytes) (n m : Nat) (hb : b.length ≤ n) (hn : n ≤ m) :
    (b ++ List.replicate (m - b.length) (0 : UInt8)).take n = b ++ List.replicate (n - b.length) 0 := by
  rw [List.take_append, List.take_of_length_le hb, List.take_replicate]
  congr 2; omega

/-- the plaintext `PrivateConnectToken::encode` seals: the serialised token, zero-padded to 1008 bytes -/
def ptPlain (t : PrivateConnectToken) : Bytes := ptBytes t ++ List.replicate (1008 - (ptBytes t).length) 0

theorem pt_encode_eq (a : AEAD) {t : PrivateConnectToken} (h : PTokenWF t) (proto expire : Nat) (xnonce key : Bytes) :
    t.encode a proto expire xnonce key =
      .ok (a.xseal key xnonce (PrivateConnectToken.additionalData proto expire) (ptPlain t)) := by
  have hlen := ptBytes_length h
  unfold PrivateConnectToken.encode
  rw [pt_writeTo_eq, Wr.writeAll_eq,
    if_pos (by simp [Netcode.Wr.new, C.NETCODE_CONNECT_TOKEN_PRIVATE_BYTES, RenetVerif.C.NETCODE_CONNECT_TOKEN_PRIVATE_BYTES]; omega)]
  simp only [Netcode.Wr.new, List.nil_append, C.NETCODE_CONNECT_TOKEN_PRIVATE_BYTES,
    RenetVerif.C.NETCODE_CONNECT_TOKEN_PRIVATE_BYTES, C.NETCODE_MAC_BYTES, RenetVerif.C.NETCODE_MAC_BYTES]
  rw [take_pad _ 1008 1024 (by omega) (by omega)]
  rfl

theorem pt_decode_encode (a : AEAD) (hl : a.Laws) {t : PrivateConnectToken} (h : PTokenWF t) (proto expire : Nat)
    (xnonce key : Bytes) :
    PrivateConnectToken.decode a (a.xseal key xnonce (PrivateConnectToken.additionalData proto expire) (ptPlain t))
      proto expire xnonce key = .ok t := by
  unfold PrivateConnectToken.decode
  rw [if_neg (by rw [hl.xseal_length]; simp [C.NETCODE_MAC_BYTES, RenetVerif.C.NETCODE_MAC_BYTES]), hl.xopen_xseal]
  simp only [ptPlain, List.append_assoc]
  rw [pt_read_bytes h]

theorem ptPlain_length {t : PrivateConnectToken} (h : PTokenWF t) : (ptPlain t).length = 1008 := by
  have := ptBytes_length h
  simp [ptPlain]; omega

def chPlain (clientId : Nat) (userData : Bytes) : Bytes :=
  (leBytes clientId 8 ++ userData) ++ List.replicate (284 - (leBytes clientId 8 ++ userData).length) 0

/-- `Packet::generate_challenge` in closed form: id and user data at the front of a zeroed 300-byte buffer, of which the
    first 284 bytes are sealed -/
theorem ch_generate (a : AEAD) (clientId : Nat) (userData : Bytes) (cseq : Nat) (ckey : Bytes) :
    ChallengeToken.generate a clientId userData cseq ckey =
      if 8 + userData.length ≤ 300 then
        .ok (.challenge cseq (a.seal ckey (Netcode.Packet.nonce cseq) []
          (((leBytes clientId 8 ++ userData) ++ List.replicate (300 - (8 + userData.length)) 0).take 284)))
      else .err .ioError := by
  unfold ChallengeToken.generate
  have h300 : C.NETCODE_CHALLENGE_TOKEN_BYTES = 300 := rfl
  have h16 : C.NETCODE_MAC_BYTES = 16 := rfl
  rw [Wr.writeAll_eq, if_pos (by simp [Netcode.Wr.new, h300])]
  simp only [io?, Res.bind_ok]
  rw [Wr.writeAll_eq]
  simp only [Netcode.Wr.new, List.nil_append, leBytes_length, h300]
  by_cases h : 8 + userData.length ≤ 300
  · rw [if_pos h, if_pos h]
    simp only [Res.bind_ok, List.length_append, leBytes_length, h300, h16, Res.pure_eq, Netcode.Packet.sealBody]
  · rw [if_neg h, if_neg h]
    rfl

theorem ch_generate_ok {a : AEAD} {clientId : Nat} {userData : Bytes} {cseq : Nat} {ckey : Bytes} {pkt : Netcode.Packet}
    (h : ChallengeToken.generate a clientId userData cseq ckey = .ok pkt) :
    ∃ d, pkt = .challenge cseq d ∧ (a.Laws → d.length = C.NETCODE_CHALLENGE_TOKEN_BYTES) := by
  rw [ch_generate] at h
  split at h
  · cases h
    refine ⟨_, rfl, fun hl => ?_⟩
    rw [hl.seal_length, List.length_take, List.length_append, List.length_append, List.length_replicate, leBytes_length]
    show min 284 _ + 16 = 300
    omega
  · cases h

theorem ch_generate_eq (a : AEAD) (clientId : Nat) (userData : Bytes) (hud : userData.length = 256)
    (cseq : Nat) (ckey : Bytes) :
    ChallengeToken.generate a clientId userData cseq ckey =
      .ok (.challenge cseq (a.seal ckey (Netcode.Packet.nonce cseq) [] (chPlain clientId userData))) := by
  rw [ch_generate, if_pos (by omega), show 8 + userData.length = (leBytes clientId 8 ++ userData).length by simp,
    take_pad _ 284 300 (by simp [hud]) (by omega)]
  rfl

theorem ch_decode_generate (a : AEAD) (hl : a.Laws) (clientId : Nat) (userData : Bytes) (hc : clientId < 2 ^ 64)
    (hud : userData.length = 256) (cseq : Nat) (ckey : Bytes) :
    ChallengeToken.decode a (a.seal ckey (Netcode.Packet.nonce cseq) [] (chPlain clientId userData)) cseq ckey =
      .ok ⟨clientId, userData⟩ := by
  unfold ChallengeToken.decode Netcode.Packet.openBody
  rw [if_neg (by rw [hl.seal_length]; simp [C.NETCODE_MAC_BYTES, RenetVerif.C.NETCODE_MAC_BYTES]), hl.open_seal]
  simp only [Res.bind_ok, chPlain, List.append_assoc]
  rw [readU64_leBytes _ hc]
  simp only [Option.bind_eq_bind, Option.bind_some]
  rw [readN_append' _ _ (show userData.length = C.NETCODE_USER_DATA_BYTES from hud)]
  rfl

theorem pt_generate_ok {clientId : Nat} {timeout : Int} {addrs : List Addr} {ud c2s s2c : Bytes}
    {t : PrivateConnectToken} (hg : PrivateConnectToken.generate clientId timeout addrs ud c2s s2c = .ok t) :
    addrs ≠ [] ∧ addrs.length ≤ C.NETCODE_TOKEN_MAX_ADDRESSES ∧
    t = { clientId := clientId, timeoutSeconds := timeout, clientToServerKey := c2s, serverToClientKey := s2c, userData := ud
          serverAddresses := addrs.map some ++ List.replicate (C.NETCODE_TOKEN_MAX_ADDRESSES - addrs.length) none } := by
  unfold PrivateConnectToken.generate at hg
  split at hg
  · cases hg
  · rename_i hlen
    split at hg
    · cases hg
    · rename_i hne
      cases hg
      exact ⟨fun h => by subst h; simp at hne, Nat.le_of_not_lt hlen, rfl⟩

theorem pt_generate_wf {clientId : Nat} {timeout : Int} {addrs : List Addr} {ud c2s s2c : Bytes}
    {t : PrivateConnectToken}
    (hg : PrivateConnectToken.generate clientId timeout addrs ud c2s s2c = .ok t)
    (hc : clientId < 2 ^ 64) (ht1 : -(2 ^ 31 : Int) ≤ timeout) (ht2 : timeout < 2 ^ 31)
    (ha : ∀ x ∈ addrs, x.WF) (hud : ud.length = 256) (hk1 : c2s.length = 32) (hk2 : s2c.length = 32) :
    PTokenWF t := by
  obtain ⟨hne, hle, rfl⟩ := pt_generate_ok hg
  exact ⟨hc, ht1, ht2, ⟨addrs, hne, hle, ha, rfl⟩, hk1, hk2, hud⟩

theorem compact_length {addrs : AddrArray} (h : Compact addrs) : addrs.length = C.NETCODE_TOKEN_MAX_ADDRESSES := by
  obtain ⟨hosts, _, hlen, _, rfl⟩ := h
  simp; omega

theorem compact_wf {addrs : AddrArray} (h : Compact addrs) : ∀ a ∈ addrs, ∀ x, a = some x → x.WF := by
  obtain ⟨hosts, _, _, hwf, rfl⟩ := h
  intro a ha x hx
  subst hx
  simp only [List.mem_append, List.mem_map, List.mem_replicate] at ha
  rcases ha with ⟨y, hy, h⟩ | ⟨_, h⟩
  · cases h; exact hwf _ hy
  · cases h

theorem ct_read_wf {src : Bytes} {t : ConnectToken} (h : ConnectToken.read src = .ok t) : CTokenWF t := by
  unfold ConnectToken.read at h
  simp only [Res.bind_ok_iff, io?_eq_ok, Prod.exists, readU64, readU_iff, readN_iff] at h
  obtain ⟨cid, r1, ⟨h1, -⟩, v, r2, ⟨h2, -⟩, h⟩ := h
  by_cases hv : v = C.NETCODE_VERSION_INFO
  · rw [if_neg (fun hn => hn hv)] at h
    simp only [Res.bind_ok_iff, io?_eq_ok, Prod.exists, readU_iff, readN_iff, readI32_iff,
      readServerAddresses_iff] at h
    obtain ⟨pid, r3, ⟨h3, -⟩, ct, r4, ⟨h4, -⟩, et, r5, ⟨h5, -⟩, xn, r6, ⟨h6, -⟩, pd, r7, ⟨h7, -⟩, to, r8, ⟨h8, -⟩,
      sa, r9, ⟨hc, -⟩, k1, r10, ⟨h10, -⟩, k2, r11, ⟨h11, -⟩, h⟩ := h
    cases h
    exact ⟨⟨by simpa using h1, h2, by simpa using h3, by simpa using h4, by simpa using h5, h6, compact_length hc,
      compact_wf hc, h10, h11, h7, h8.1, h8.2⟩, hv, hc⟩
  · rw [if_pos hv] at h
    cases h

end Token

end RenetVerif.NcAead
