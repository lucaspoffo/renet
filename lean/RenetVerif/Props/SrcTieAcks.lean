/-
  Source tie, group Acks: `renet/src/remote_connection.rs` `RenetClient::{add_pending_ack, acked_largest}`
  ↔ `Acks.add 64` / `Acks.ackedLargest` of `Renet/Acks.lean`.  `RenetClient` is the struct of group ConnTypes (without
  its statistics fields); the two methods change nothing but `pending_acks`:
  `absAcks` : generated struct ↦ model list of half-open ranges, `reprAcks base l` : `base` with the pending acks `l`.
  The equivalences hold for ALL range lists (not only `Acks.WF` ones) of length ≤ 64 (the cap the code maintains).
-/
import RenetVerif.Lemmas.SrcEquiv.Acks
namespace RenetVerif.SrcTie
open RenetVerif RenetVerif.SrcEquiv RenetVerif.RustSem
open Src.renet.remote_connection

/-- `add_pending_ack(sequence)` for `sequence < u64::MAX` on a list of at most 64 ranges: never panics and yields
    exactly `Acks.add 64 sequence` -/
theorem acks_add_pending_ack {ε : Type} (c : RenetClient) (sequence : Nat) (hs : sequence < 2 ^ 64 - 1)
    (hlen : c.pending_acks.length ≤ 64) :
    (RenetClient.add_pending_ack c sequence : Res ε (RenetClient × Unit)) =
      .ok (reprAcks c (Acks.add 64 sequence (absAcks c)), ()) := by
  have h := add_pending_ack_eq (ε := ε) (base := c) (absAcks c) sequence (by omega) (by simpa [absAcks] using hlen)
  rwa [reprAcks_absAcks] at h

/-- at `sequence = u64::MAX` the checked `sequence + 1` overflows: panic, unless the first range already contains
    the sequence (then the state is returned unchanged) -/
theorem acks_add_pending_ack_u64_max {ε : Type} (base : RenetClient) (l : List AckRange) :
    match l with
    | [] => ∃ site, (RenetClient.add_pending_ack (reprAcks base l) (2 ^ 64 - 1) : Res ε _) = .panic site
    | (s, e) :: _ =>
      if s ≤ 2 ^ 64 - 1 ∧ 2 ^ 64 - 1 < e then
        (RenetClient.add_pending_ack (reprAcks base l) (2 ^ 64 - 1) : Res ε _) = .ok (reprAcks base l, ())
      else ∃ site, (RenetClient.add_pending_ack (reprAcks base l) (2 ^ 64 - 1) : Res ε _) = .panic site := by
  have hov : ¬ (2 ^ 64 - 1 + 1 < 2 ^ 64) := by decide
  cases l with
  | nil =>
    simp only
    unfold RenetClient.add_pending_ack
    simp only [reprAcks, List.map_nil, RustSem.is_empty, List.isEmpty_nil, if_true, add_panic hov, Exec.bind_eq,
      Exec.bind_panic', Exec.run_panic]
    exact ⟨_, rfl⟩
  | cons x rest =>
    obtain ⟨s, e⟩ := x
    simp only
    have hstep : (RenetClient.add_pending_ack (reprAcks base ((s, e) :: rest)) (2 ^ 64 - 1) : Res ε _) =
        if s ≤ 2 ^ 64 - 1 ∧ 2 ^ 64 - 1 < e then .ok (reprAcks base ((s, e) :: rest), ())
        else .panic "renet/src/remote_connection.rs:RenetClient::add_pending_ack: sequence + 1" := by
      unfold RenetClient.add_pending_ack
      have hne : RustSem.is_empty (reprAcks base ((s, e) :: rest)).pending_acks = false := by simp [reprAcks, RustSem.is_empty]
      have hl : RustSem.len (reprAcks base ((s, e) :: rest)).pending_acks = rest.length + 1 := by simp [reprAcks, RustSem.len]
      simp only [hne, Bool.false_eq_true, if_false, Exec.bind_eq, Exec.pure_eq, Exec.bind_val', hl,
        forRange_succ (Nat.succ_pos _)]
      simp only [reprAcks, List.map_cons, index_val0, Exec.bind_val', RustSem.Range.contains, ackR, add_panic hov]
      by_cases h : s ≤ 2 ^ 64 - 1 ∧ 2 ^ 64 - 1 < e
      · simp only [h, and_self, decide_true, if_true, Exec.bind_ret', Exec.run_ret]
      · simp only [h, decide_false, Bool.false_eq_true, if_false, Exec.bind_val', Exec.bind_panic', Exec.run_panic]
    rw [hstep]
    split
    · rfl
    · exact ⟨_, rfl⟩

/-- `acked_largest(largest_ack)` (the `while` loop, run on the manifest fuel `pending_acks.len() + 1`): for range ends
    that are `u64` values it never panics — in particular the fuel is never exhausted — and yields
    `Acks.ackedLargest` -/
theorem acks_acked_largest {ε : Type} (c : RenetClient) (largest_ack : Nat)
    (hb : ∀ r ∈ c.pending_acks, r.«end» < 2 ^ 64) (hfit : c.pending_acks.length + 1 < 2 ^ 64) :
    (RenetClient.acked_largest c largest_ack : Res ε (RenetClient × Unit)) =
      .ok (reprAcks c (Acks.ackedLargest largest_ack (absAcks c)), ()) := by
  have h := acked_largest_eq (ε := ε) (base := c) (absAcks c) largest_ack
    (by intro r hr; simp only [absAcks, List.mem_map] at hr; obtain ⟨x, hx, rfl⟩ := hr; exact hb x hx)
    (by simpa [absAcks] using hfit)
  rwa [reprAcks_absAcks] at h

/-- the distinguished fuel site of the translated `while` loop is unreachable -/
theorem acks_acked_largest_fuel_suffices {ε : Type} (c : RenetClient) (largest_ack : Nat)
    (hb : ∀ r ∈ c.pending_acks, r.«end» < 2 ^ 64) (hfit : c.pending_acks.length + 1 < 2 ^ 64) :
    (RenetClient.acked_largest c largest_ack : Res ε (RenetClient × Unit)) ≠
      .panic "renet/src/remote_connection.rs:RenetClient::acked_largest: fuel exhausted" := by
  rw [acks_acked_largest c largest_ack hb hfit]; intro h; cases h

/-- a client without channels -/
def exClient (acks : List RustSem.Range) : RenetClient := ⟨0, 0, [], acks, [], [], [], [], [], 0, .Connecting⟩

/-! the sequence of the Rust unit test `pending_acks`: 3, 4, 2, 0, 7, 1 -/
example : (RenetClient.add_pending_ack (exClient []) 3 : Res Empty _) = .ok ((exClient [⟨3, 4⟩]), ()) := by decide +kernel
example : (RenetClient.add_pending_ack (exClient [⟨3, 4⟩]) 4 : Res Empty _) = .ok ((exClient [⟨3, 5⟩]), ()) := by decide +kernel
example : (RenetClient.add_pending_ack (exClient [⟨3, 5⟩]) 2 : Res Empty _) = .ok ((exClient [⟨2, 5⟩]), ()) := by decide +kernel
example : (RenetClient.add_pending_ack (exClient [⟨2, 5⟩]) 0 : Res Empty _) = .ok ((exClient [⟨0, 1⟩, ⟨2, 5⟩]), ()) := by decide +kernel
example : (RenetClient.add_pending_ack (exClient [⟨0, 1⟩, ⟨2, 5⟩]) 7 : Res Empty _) = .ok ((exClient [⟨0, 1⟩, ⟨2, 5⟩, ⟨7, 8⟩]), ()) := by
  decide +kernel
example : (RenetClient.add_pending_ack (exClient [⟨0, 1⟩, ⟨2, 5⟩, ⟨7, 8⟩]) 1 : Res Empty _) = .ok ((exClient [⟨0, 5⟩, ⟨7, 8⟩]), ()) := by
  decide +kernel
example : (RenetClient.acked_largest (exClient [⟨0, 5⟩, ⟨7, 8⟩, ⟨10, 12⟩]) 7 : Res Empty _) = .ok ((exClient [⟨10, 12⟩]), ()) := by
  decide +kernel
example : (RenetClient.acked_largest (exClient [⟨0, 5⟩, ⟨7, 10⟩]) 7 : Res Empty _) = .ok ((exClient [⟨8, 10⟩]), ()) := by decide +kernel

end RenetVerif.SrcTie
