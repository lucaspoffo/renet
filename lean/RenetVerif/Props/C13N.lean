/-
  C13 (netcode half) — every datagram produced by the netcode layer for a payload of at most
  NETCODE_MAX_PAYLOAD_BYTES, or for its own handshake / keep-alive / disconnect packets, is at most
  NETCODE_MAX_PACKET_BYTES (1400) long.
  C16N (section `C16N` below; the property file is Props/C16N.lean) — the netcode wire format round-trips:
  `decode (encode p) = p` for every packet kind.

  Proofs: Lemmas/NcWire.lean.  Layout of a sealed datagram (`sealedBytes`):
      prefix (1) ‖ sequence (1..8 little-endian bytes, as many as the value needs) ‖ seal(body) (|body| + 16)
  and of a connection request:  0x00 ‖ body (13 + 8 + 8 + 24 + 1024).
  All sizes use the AEAD length law `AEAD.Laws.seal_length` (ciphertext = plaintext + 16-byte tag).

  Two complementary statements:
    * `encode_fits_buffer`: whatever `Packet::encode` returns fits the buffer it was given; every call site of the
      netcode layer passes a buffer of NETCODE_MAX_PACKET_BYTES, hence the function-level bounds of section 2;
    * encoding *succeeds* for payloads up to NETCODE_MAX_PAYLOAD_BYTES (`payload_encodes`) and for every
      handshake packet (sizes of section 1), i.e. nothing is dropped for lack of room.
-/
import RenetVerif.Lemmas.NcWire
import RenetVerif.Lemmas.NcClientTotal
namespace RenetVerif.C13N
open RenetVerif RenetVerif.Netcode RenetVerif.Netcode.Packet

theorem max_payload_fits :
    1 + 8 + Netcode.C.NETCODE_MAX_PAYLOAD_BYTES + Netcode.C.NETCODE_MAC_BYTES ≤ Netcode.C.NETCODE_MAX_PACKET_BYTES := by decide
theorem request_fits : 1 + REQUEST_BODY ≤ Netcode.C.NETCODE_MAX_PACKET_BYTES := by decide
theorem challenge_fits :
    1 + 8 + (8 + Netcode.C.NETCODE_CHALLENGE_TOKEN_BYTES) + Netcode.C.NETCODE_MAC_BYTES ≤ Netcode.C.NETCODE_MAX_PACKET_BYTES := by
  decide
theorem mac_is_16 : Netcode.C.NETCODE_MAC_BYTES = 16 := by decide
theorem request_body_eq : REQUEST_BODY = 1077 := by decide

/-! ### 1. sizes by packet kind -/

/-- plaintext length of each kind (well-formed values: Rust's fixed-size arrays) -/
theorem body_length {p : Packet} (h : p.WF) :
    p.body.length = match p with
      | .connectionRequest .. => REQUEST_BODY
      | .challenge .. | .response .. => 8 + Netcode.C.NETCODE_CHALLENGE_TOKEN_BYTES
      | .keepAlive .. => 8
      | .payload b => b.length
      | .connectionDenied | .disconnect => 0 := by
  cases p with
  | connectionRequest v pid e x d =>
    obtain ⟨hv, _, _, hx, hd⟩ := h
    simp only [body, List.length_append, leBytes_length, hv, hx, hd, REQUEST_BODY]; omega
  | challenge s d => simp only [body, List.length_append, leBytes_length, h.2]
  | response s d => simp only [body, List.length_append, leBytes_length, h.2]
  | keepAlive i m => simp [body]
  | payload b => rfl
  | connectionDenied => rfl
  | disconnect => rfl

/-- a sealed datagram is exactly `1 + seqbytes + |body| + 16` long, `1 ≤ seqbytes ≤ 8` -/
theorem sealed_size (a : AEAD) (hl : a.Laws) (p : Packet) (proto seq : Nat) (key : Bytes) :
    (sealedBytes a p proto seq key).length = 1 + sequenceBytesRequired seq + p.body.length + 16 ∧
    1 ≤ sequenceBytesRequired seq ∧ sequenceBytesRequired seq ≤ 8 :=
  ⟨sealed_length a p proto seq key hl, sbr_pos seq, sbr_le seq⟩

/-- `encode` of a sealed kind: succeeds iff the buffer has room, and then returns `sealedBytes` -/
theorem encode_sealed (a : AEAD) (p : Packet) (cap proto seq : Nat) (key : Bytes)
    (hp : p.packetType ≠ .connectionRequest) :
    encode a p cap proto (some (seq, key)) =
      if 1 + sequenceBytesRequired seq + p.body.length + 16 ≤ cap then .ok (sealedBytes a p proto seq key)
      else .err .ioError :=
  encode_sealed_eq a p cap proto seq key hp

/-- a connection request is `1 + |body|` = 1078 bytes, exactly -/
theorem encode_request (a : AEAD) {v : Bytes} {pid e : Nat} {x d : Bytes} (h : (connectionRequest v pid e x d).WF)
    (proto : Nat) (crypto : Option (Nat × Bytes)) :
    ∃ out, encode a (connectionRequest v pid e x d) Netcode.C.NETCODE_MAX_PACKET_BYTES proto crypto = .ok out ∧
      out.length = 1 + REQUEST_BODY := by
  have hb := body_length h
  dsimp only at hb
  have := request_fits
  rw [encode_request_eq, if_pos (by rw [hb]; exact this)]
  exact ⟨_, rfl, by simp only [List.length_cons, hb]; omega⟩

/-- every handshake / keep-alive / disconnect packet encodes into the 1400-byte buffer; sizes:
    challenge, response ≤ 333; keep-alive ≤ 33; denied, disconnect ≤ 25 -/
theorem handshake_encodes (a : AEAD) (hl : a.Laws) {p : Packet} (h : p.WF) (hp : p.packetType ≠ .connectionRequest)
    (hnp : ∀ b, p ≠ .payload b) (proto seq : Nat) (key : Bytes) :
    encode a p Netcode.C.NETCODE_MAX_PACKET_BYTES proto (some (seq, key)) = .ok (sealedBytes a p proto seq key) ∧
    (sealedBytes a p proto seq key).length ≤ (match p with
      | .challenge .. | .response .. => 333
      | .keepAlive .. => 33
      | _ => 25) := by
  have hb := body_length h
  -- every sealed kind whose body has `n` bytes, `n + 25` within the buffer, encodes into at most `n + 25` bytes
  have ok : ∀ n, p.body.length = n → n + 25 ≤ Netcode.C.NETCODE_MAX_PACKET_BYTES →
      encode a p Netcode.C.NETCODE_MAX_PACKET_BYTES proto (some (seq, key)) = .ok (sealedBytes a p proto seq key) ∧
      (sealedBytes a p proto seq key).length ≤ n + 25 := by
    rintro n rfl hn
    have := encode_sealed_ok a hl p _ proto seq key hp hn
    exact ⟨this.1, this.2.2⟩
  cases p with
  | connectionRequest v pid e x d => exact absurd rfl hp
  | payload b => exact absurd rfl (hnp b)
  | challenge s d => exact ok _ hb (by decide)
  | response s d => exact ok _ hb (by decide)
  | keepAlive i m => exact ok _ hb (by decide)
  | connectionDenied => exact ok _ hb (by decide)
  | disconnect => exact ok _ hb (by decide)

/-- a payload of at most NETCODE_MAX_PAYLOAD_BYTES always encodes, into `1 + seqbytes + |p| + 16 ≤ 1400` bytes -/
theorem payload_encodes (a : AEAD) (hl : a.Laws) (p : Bytes) (hp : p.length ≤ Netcode.C.NETCODE_MAX_PAYLOAD_BYTES)
    (proto seq : Nat) (key : Bytes) :
    encode a (.payload p) Netcode.C.NETCODE_MAX_PACKET_BYTES proto (some (seq, key)) =
      .ok (sealedBytes a (.payload p) proto seq key) ∧
    (sealedBytes a (.payload p) proto seq key).length = 1 + sequenceBytesRequired seq + p.length + 16 ∧
    (sealedBytes a (.payload p) proto seq key).length ≤ Netcode.C.NETCODE_MAX_PACKET_BYTES := by
  have hfit := max_payload_fits
  have hmac : Netcode.C.NETCODE_MAC_BYTES = 16 := rfl
  have := encode_sealed_ok a hl (.payload p) Netcode.C.NETCODE_MAX_PACKET_BYTES proto seq key (by intro h; cases h)
    (by simp only [body]; omega)
  simp only [body] at this
  exact ⟨this.1, this.2.1, by omega⟩

theorem encode_fits_buffer (a : AEAD) (hl : a.Laws) {p : Packet} {cap proto : Nat} {crypto : Option (Nat × Bytes)}
    {out : Bytes} (h : encode a p cap proto crypto = .ok out) : out.length ≤ cap :=
  encode_le_cap a hl h

/-! ### 2. every function of the netcode layer that emits a datagram -/

theorem server_generate_payload_packet (a : AEAD) (hl : a.Laws) {s s' : NetcodeServer} {cid : Nat} {payload out : Bytes}
    {addr : Addr} (h : NetcodeServer.generatePayloadPacket a s cid payload = .ok ((addr, out), s')) :
    out.length ≤ Netcode.C.NETCODE_MAX_PACKET_BYTES :=
  NetcodeServer.idOut_size hl (NS.generatePayload_idOut h) rfl

/-- `update_client` (keep-alive or disconnect packet) -/
theorem server_update_client (a : AEAD) (hl : a.Laws) {s s' : NetcodeServer} {cid : Nat} {r : ServerResult}
    (h : NetcodeServer.updateClient a s cid = .ok (r, s')) {out : Bytes} (ho : r.datagram = some out) :
    out.length ≤ Netcode.C.NETCODE_MAX_PACKET_BYTES :=
  NetcodeServer.idOut_size hl (NS.updateClient_ok h) ho

theorem server_disconnect (a : AEAD) (hl : a.Laws) {s s' : NetcodeServer} {cid : Nat} {r : ServerResult}
    (h : NetcodeServer.disconnect a s cid = .ok (r, s')) {out : Bytes} (ho : r.datagram = some out) :
    out.length ≤ Netcode.C.NETCODE_MAX_PACKET_BYTES :=
  NetcodeServer.idOut_size hl (NS.disconnect_ok (mk := fun _ => .disconnect) h) ho

theorem reply_datagram_le {L V : Prop} {addr : Addr} {bound : Nat} {r : ServerResult}
    (h : NetcodeServer.Reply L V addr bound r) (hl : L) {out : Bytes} (ho : r.datagram = some out) :
    out.length ≤ bound := by
  rcases h with rfl | ⟨-, ⟨o, rfl, hb⟩ | ⟨id, ud, o, rfl, hb⟩⟩
  · cases ho
  · cases ho; exact hb hl
  · cases ho; exact hb hl

/-- `process_packet` (challenge, denied, keep-alive on connect): at most 333 bytes; connected addresses get nothing -/
theorem server_process_packet (a : AEAD) (hl : a.Laws) {n : Nat} {s s' : NetcodeServer}
    (hinv : NetcodeServer.SInv (n + 1) s) {addr : Addr} {buf : Bytes} {r : ServerResult}
    (h : NetcodeServer.processPacket a s addr buf = .ok (r, s')) {out : Bytes} (ho : r.datagram = some out) :
    out.length ≤ NetcodeServer.REQUEST_REPLY_MAX := by
  rcases NS.pp_cases h with ⟨hp, -⟩ | ⟨_, _, _, _, _, -, -, -, rfl, -⟩
  · cases hf : findClientByAddr s.clients addr with
    | none =>
      rcases NetcodeServer.ppOut_reply hf hp with hr | hr
      · exact reply_datagram_le hr hl ho
      · exact Nat.le_trans (reply_datagram_le hr hl ho) (by decide)
    | some sc =>
      rw [NetcodeServer.ppOut_connected_quiet hf hp] at ho
      cases ho
  · cases ho

theorem client_generate_payload_packet (a : AEAD) (hl : a.Laws) {c c' : NetcodeClient} {payload out : Bytes}
    {addr : Addr} (h : NetcodeClient.generatePayloadPacket a c payload = .ok ((addr, out), c')) :
    out.length ≤ Netcode.C.NETCODE_MAX_PACKET_BYTES :=
  encode_le_cap a hl (NcAead.Cl.payload_spec h).2.2.2.2

/-- … and it succeeds for every payload up to the limit on a connected client -/
theorem client_generate_payload_packet_ok (a : AEAD) (hl : a.Laws) (c : NetcodeClient) (hst : c.state = .connected)
    (payload : Bytes) (hp : payload.length ≤ Netcode.C.NETCODE_MAX_PAYLOAD_BYTES) (hseq : c.sequence + 1 ≤ U64_MAX) :
    ∃ out c', NetcodeClient.generatePayloadPacket a c payload = .ok ((c.serverAddr, out), c') ∧
      out.length ≤ Netcode.C.NETCODE_MAX_PACKET_BYTES := by
  have h := NcClientTotal.send_eq a c payload
  rw [if_neg (by omega), if_neg (by rw [hst]; simp), if_pos hseq] at h
  exact ⟨_, _, h, client_generate_payload_packet a hl h⟩

/-- `update` (connection request, response, keep-alive) -/
theorem client_update (a : AEAD) (hl : a.Laws) {c c' : NetcodeClient} {d : Nat} {out : Bytes} {addr : Addr}
    (h : NetcodeClient.update a c d = .ok (some (out, addr), c')) : out.length ≤ Netcode.C.NETCODE_MAX_PACKET_BYTES := by
  obtain ⟨e, c1, -, hh | ⟨-, hg⟩⟩ := NcAead.Cl.update_eq h
  · cases hh.2.1
  · obtain ⟨-, -, p, -, henc⟩ := (NcAead.Cl.gen_spec hg).2.2.2.2 out addr rfl
    exact encode_le_cap a hl henc

theorem client_disconnect (a : AEAD) (hl : a.Laws) (c : NetcodeClient) {addr : Addr} {out : Bytes}
    (h : (NetcodeClient.disconnect a c).1 = .ok (addr, out)) : out.length ≤ Netcode.C.NETCODE_MAX_PACKET_BYTES :=
  encode_le_cap a hl ((NcAead.Cl.disconnect_spec a c).2.2.2 addr out h)

/-! ### C16N: wire round trip -/

/-- sealed kinds: what `encode` returns decodes — same protocol id, same key, a window that has not seen the sequence —
    to the packet and its sequence number; the window is advanced for keep-alive, payload and disconnect -/
theorem roundtrip_sealed (a : AEAD) (hl : a.Laws) {p : Packet} (hwf : p.WF) (hp : p.packetType ≠ .connectionRequest)
    {cap proto seq : Nat} (hs : seq < 2 ^ 64) (key : Bytes) {out : Bytes}
    (henc : encode a p cap proto (some (seq, key)) = .ok out) (rp : Option RP)
    (hfresh : ∀ w, rp = some w → p.packetType.applyReplayProtection = true → w.alreadyReceived seq = false) :
    decode a out proto (some key) rp = (.ok (seq, p), stepWindow p.packetType seq rp) := by
  rw [(encode_ok_sealed hp henc).1]
  refine decode_sealedBytes a p proto seq key hl hs hp hwf rp ?_
  cases rp with
  | none => rfl
  | some w =>
    rw [isDup_some]
    cases hpr : p.packetType.applyReplayProtection with
    | false => rfl
    | true => rw [hfresh w rfl hpr]; rfl

/-- connection request (sent in clear, sequence 0, no key needed) -/
theorem roundtrip_request (a : AEAD) {p : Packet} (hwf : p.WF) (hp : p.packetType = .connectionRequest)
    {cap proto : Nat} {crypto : Option (Nat × Bytes)} {out : Bytes} (henc : encode a p cap proto crypto = .ok out)
    (proto' : Nat) (key : Option Bytes) (rp : Option RP) :
    decode a out proto' key rp = (.ok (0, p), rp) := by
  cases p with
  | connectionRequest v pid e x d =>
    rw [encode_request_eq] at henc
    split at henc
    · cases henc; exact decode_request_bytes a hp hwf proto' key rp
    · cases henc
  | _ => cases hp

/-! ### 3. the transports' receive buffers (`renet_netcode`: `NetcodeServerTransport.buffer`,
`NetcodeClientTransport.buffer`; sizes read from the source by `tools/gen_consts.py`)

`UdpSocket::recv_from` truncates a datagram that is longer than the buffer it is given, and a truncated
datagram fails authentication, so the peer's traffic would be dropped every tick. Every datagram either
side emits fits the buffer of the transport that receives it. -/

theorem transport_buffers_hold_max_datagram :
    Netcode.C.NETCODE_MAX_PACKET_BYTES ≤ RenetVerif.C.TRANSPORT_SERVER_BUFFER ∧
    Netcode.C.NETCODE_MAX_PACKET_BYTES ≤ RenetVerif.C.TRANSPORT_CLIENT_BUFFER := by decide

/-- the largest datagram that really occurs (a 1300-byte payload under the largest sequence number,
1325 bytes) fits both receive buffers -/
theorem transport_buffers_hold_largest_payload_datagram (a : AEAD) (hl : a.Laws) (p : Bytes)
    (hp : p.length = Netcode.C.NETCODE_MAX_PAYLOAD_BYTES) (proto seq : Nat) (key : Bytes) :
    (sealedBytes a (.payload p) proto seq key).length ≤ RenetVerif.C.TRANSPORT_SERVER_BUFFER ∧
    (sealedBytes a (.payload p) proto seq key).length ≤ RenetVerif.C.TRANSPORT_CLIENT_BUFFER :=
  ⟨Nat.le_trans (payload_encodes a hl p (Nat.le_of_eq hp) proto seq key).2.2 transport_buffers_hold_max_datagram.1,
   Nat.le_trans (payload_encodes a hl p (Nat.le_of_eq hp) proto seq key).2.2 transport_buffers_hold_max_datagram.2⟩

theorem client_datagram_fits_server_buffer (a : AEAD) (hl : a.Laws) {c c' : NetcodeClient} {payload out : Bytes}
    {addr : Addr} (h : NetcodeClient.generatePayloadPacket a c payload = .ok ((addr, out), c')) :
    out.length ≤ RenetVerif.C.TRANSPORT_SERVER_BUFFER :=
  Nat.le_trans (client_generate_payload_packet a hl h) transport_buffers_hold_max_datagram.1

theorem server_datagram_fits_client_buffer (a : AEAD) (hl : a.Laws) {s s' : NetcodeServer} {cid : Nat}
    {payload out : Bytes} {addr : Addr}
    (h : NetcodeServer.generatePayloadPacket a s cid payload = .ok ((addr, out), s')) :
    out.length ≤ RenetVerif.C.TRANSPORT_CLIENT_BUFFER :=
  Nat.le_trans (server_generate_payload_packet a hl h) transport_buffers_hold_max_datagram.2

section examples

def key : Bytes := List.replicate 32 7
def big : Bytes := List.replicate 1300 0xAB
theorem big_len : big.length ≤ Netcode.C.NETCODE_MAX_PAYLOAD_BYTES := by decide +kernel

/-- the largest payload with the largest sequence: 1 + 8 + 1300 + 16 = 1325 bytes -/
example : (sealedBytes AEAD.toy (.payload big) 42 (2 ^ 63) key).length = 1325 := by decide +kernel
example : encode AEAD.toy (.payload big) Netcode.C.NETCODE_MAX_PACKET_BYTES 42 (some (2 ^ 63, key)) =
    .ok (sealedBytes AEAD.toy (.payload big) 42 (2 ^ 63) key) :=
  (payload_encodes AEAD.toy AEAD.toy_laws big big_len 42 (2 ^ 63) key).1
/-- one byte more than the limit would still fit the buffer; 1376 bytes (+25) would not -/
example : (encode AEAD.toy (.payload (List.replicate 1376 0)) 1400 42 (some (2 ^ 63, key))) = .err .ioError := by
  decide +kernel

/-- keep-alive with a one-byte and an eight-byte sequence: 26 and 33 bytes -/
example : (sealedBytes AEAD.toy (.keepAlive 1 2) 42 0 key).length = 26 ∧
    (sealedBytes AEAD.toy (.keepAlive 1 2) 42 (2 ^ 63) key).length = 33 := by decide +kernel
example : (keepAlive 1 2).WF := by decide
example : decode AEAD.toy (sealedBytes AEAD.toy (.keepAlive 1 2) 42 5 key) 42 (some key) none
    = (.ok (5, .keepAlive 1 2), none) :=
  roundtrip_sealed AEAD.toy AEAD.toy_laws (p := .keepAlive 1 2) (by decide) (by decide) (cap := 1400) (by decide) key
    (by decide +kernel) none (by intro w h; cases h)
example : (challenge 7 (List.replicate 300 1)).WF := by decide +kernel
example : (connectionRequest Netcode.C.NETCODE_VERSION_INFO 42 30 (List.replicate 24 5) (List.replicate 1024 6)).WF := by
  decide +kernel

end examples

end RenetVerif.C13N
