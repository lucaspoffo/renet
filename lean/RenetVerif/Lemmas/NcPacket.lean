/-
  The byte level of renetcode (`renetcode/src/packet.rs`, `serialize.rs`): little-endian integers, the cursor reader and
  the bounded writer, prefix byte and sequence bytes, `Packet::write` / `read`, and `Packet::encode` / `decode`.

  Every reader inverts its writer exactly on the values of the Rust type: `readN_iff`, `readU_iff`, `readI32_iff` say so
  for the primitives, and a format's reader is taken apart by rewriting with them.  `Packet::read` has a closed form per
  kind (`read_keepAlive` …; `read_eq`, `read_prefix`).  `Packet::decode` is one equation, `decode_eq_wire`, in terms of the header
  functions of a datagram (`wireType`, `wireSeqLen`, `wireSeq`, `wireBody`); `decode_cases`, `decode_ok`, `decode_err`
  and the round trips are read off it.
-/
import RenetVerif.Netcode.Client
import RenetVerif.Netcode.Server
import RenetVerif.Lemmas.ResMonad

namespace RenetVerif.NcAead
open RenetVerif RenetVerif.Netcode

@[simp] theorem leBytes_length (n k : Nat) : (leBytes n k).length = k := by
  induction k generalizing n with
  | zero => rfl
  | succ k ih => simp [leBytes, ih]

theorem leVal_lt (b : Bytes) : leVal b < 256 ^ b.length := by
  induction b with
  | nil => simp [leVal]
  | cons x r ih =>
    have hx : x.toNat < 256 := x.toNat_lt
    simp only [leVal, List.length_cons, Nat.pow_succ]
    omega

theorem leVal_leBytes (n k : Nat) : leVal (leBytes n k) = n % 256 ^ k := by
  induction k generalizing n with
  | zero => simp [leBytes, leVal, Nat.mod_one]
  | succ k ih =>
    simp only [leBytes, leVal, ih, UInt8.toNat_ofNat']
    have : n % 256 % (2 ^ 7 * 2) = n % 256 := by omega
    rw [this, Nat.pow_succ, Nat.mul_comm (256 ^ k) 256, Nat.mod_mul]

theorem leVal_leBytes_of_lt {n k : Nat} (h : n < 256 ^ k) : leVal (leBytes n k) = n := by
  rw [leVal_leBytes, Nat.mod_eq_of_lt h]

theorem leBytes_leVal (b : Bytes) : leBytes (leVal b) b.length = b := by
  induction b with
  | nil => rfl
  | cons x r ih =>
    have hx : x.toNat < 256 := x.toNat_lt
    simp only [leVal, List.length_cons, leBytes]
    have h1 : (x.toNat + 256 * leVal r) % 256 = x.toNat := by omega
    have h2 : (x.toNat + 256 * leVal r) / 256 = leVal r := by omega
    rw [h1, h2, ih]
    simp

theorem leBytes_inj {n m k : Nat} (hn : n < 256 ^ k) (hm : m < 256 ^ k) (h : leBytes n k = leBytes m k) : n = m := by
  have := congrArg leVal h
  rwa [leVal_leBytes_of_lt hn, leVal_leBytes_of_lt hm] at this

theorem leVal_inj {b c : Bytes} (hl : b.length = c.length) (h : leVal b = leVal c) : b = c := by
  rw [← leBytes_leVal b, ← leBytes_leVal c, h, hl]

theorem take_leBytes (n : Nat) {k m : Nat} (h : k ≤ m) : (leBytes n m).take k = leBytes n k := by
  induction k generalizing n m with
  | zero => simp [leBytes]
  | succ k ih =>
    cases m with
    | zero => omega
    | succ m => simp [leBytes, ih (n / 256) (Nat.le_of_succ_le_succ h)]

theorem readN_iff {n : Nat} {src b r : Bytes} : readN n src = some (b, r) ↔ b.length = n ∧ src = b ++ r := by
  unfold readN
  constructor
  · intro h
    split at h
    · cases h
    · cases h
      exact ⟨by rw [List.length_take]; omega, (List.take_append_drop n src).symm⟩
  · rintro ⟨rfl, rfl⟩
    simp

theorem readU_iff {n : Nat} {src r : Bytes} {v : Nat} :
    readU n src = some (v, r) ↔ v < 256 ^ n ∧ src = leBytes v n ++ r := by
  unfold readU
  constructor
  · intro h
    split at h
    · cases h
    · rename_i b r' hn
      cases h
      obtain ⟨rfl, rfl⟩ := readN_iff.1 hn
      exact ⟨leVal_lt b, by rw [leBytes_leVal]⟩
  · rintro ⟨hv, rfl⟩
    rw [readN_iff.2 ⟨leBytes_length v n, rfl⟩]
    simp only [leVal_leBytes_of_lt hv]

theorem readI32_iff {src r : Bytes} {t : Int} :
    readI32 src = some (t, r) ↔ (-(2 ^ 31 : Int) ≤ t ∧ t < 2 ^ 31) ∧ src = i32le t ++ r := by
  unfold readI32
  constructor
  · intro h
    split at h
    · cases h
    · rename_i v r' hu
      cases h
      obtain ⟨hv, rfl⟩ := readU_iff.1 hu
      have hv : v < 2 ^ 32 := by simpa using hv
      unfold i32le i32OfU32
      split
      · exact ⟨by omega, by congr 2; omega⟩
      · exact ⟨by omega, by congr 2; omega⟩
  · rintro ⟨⟨h1, h2⟩, rfl⟩
    unfold i32le
    rw [readU_iff.2 ⟨by omega, rfl⟩]
    simp only [i32OfU32, Option.some.injEq, Prod.mk.injEq, and_true]
    split <;> omega

theorem readN_append' {n : Nat} (b r : Bytes) (h : b.length = n) : readN n (b ++ r) = some (b, r) :=
  readN_iff.2 ⟨h, rfl⟩

theorem readU64_leBytes {n : Nat} (r : Bytes) (h : n < 2 ^ 64) : readU64 (leBytes n 8 ++ r) = some (n, r) :=
  readU_iff.2 ⟨by simpa using h, rfl⟩

theorem readI32_i32le {t : Int} (r : Bytes) (h1 : -(2 ^ 31 : Int) ≤ t) (h2 : t < 2 ^ 31) :
    readI32 (i32le t ++ r) = some (t, r) := readI32_iff.2 ⟨⟨h1, h2⟩, rfl⟩

theorem i32le_length (t : Int) : (i32le t).length = 4 := by simp [i32le]

theorem io?_eq_ok {α} {o : Option α} {x : α} : io? o = .ok x ↔ o = some x := by
  cases o <;> simp [io?]

theorem io?_ne_panic {α} (o : Option α) (m : String) : io? o ≠ .panic m := by
  cases o <;> simp [io?]

namespace Wr
theorem writeAll_eq (w : Netcode.Wr) (b : Bytes) :
    w.writeAll b = if w.out.length + b.length ≤ w.cap then some ⟨w.cap, w.out ++ b⟩ else none := rfl

theorem writeAll_append (w : Netcode.Wr) (b1 b2 : Bytes) :
    (w.writeAll b1 >>= fun w => w.writeAll b2) = w.writeAll (b1 ++ b2) := by
  simp only [writeAll_eq]
  by_cases h1 : w.out.length + b1.length ≤ w.cap
  · simp only [h1, if_true, Option.bind_eq_bind, Option.bind_some, List.length_append, List.append_assoc]
    by_cases h2 : w.out.length + b1.length + b2.length ≤ w.cap
    · have : w.out.length + (b1.length + b2.length) ≤ w.cap := by omega
      simp [h2, this]
    · have : ¬ w.out.length + (b1.length + b2.length) ≤ w.cap := by omega
      simp [h2, this]
  · have : ¬ w.out.length + (b1 ++ b2).length ≤ w.cap := by simp; omega
    simp only [h1, this, if_false]; rfl

theorem writeAll_nil (w : Netcode.Wr) (hw : w.out.length ≤ w.cap) : w.writeAll [] = some w := by
  simp [writeAll_eq, hw]
end Wr

namespace Packet
open Netcode.Packet

theorem sbr_go_bounds (s k : Nat) : 1 ≤ sequenceBytesRequired.go s k ∧ sequenceBytesRequired.go s k ≤ max 1 k := by
  induction k with
  | zero => simp [sequenceBytesRequired.go]
  | succ k ih =>
    unfold sequenceBytesRequired.go
    split
    · omega
    · omega

theorem lt_pow_of_digit_zero {s k : Nat} (h : s < 256 ^ (k + 1)) (hz : s / 256 ^ k % 256 = 0) : s < 256 ^ k := by
  have hd : s / 256 ^ k < 256 := by
    rw [Nat.div_lt_iff_lt_mul (Nat.pow_pos (by decide))]
    rw [Nat.pow_succ, Nat.mul_comm] at h; exact h
  have : s / 256 ^ k = 0 := by
    generalize s / 256 ^ k = d at hz hd; omega
  rcases Nat.div_eq_zero_iff.1 this with h' | h'
  · have := Nat.pow_pos (n := k) (show 0 < 256 by decide); omega
  · exact h'

theorem sbr_go_lt (s k : Nat) (h : s < 256 ^ k) : s < 256 ^ sequenceBytesRequired.go s k := by
  induction k with
  | zero => simp [sequenceBytesRequired.go] at *; omega
  | succ k ih =>
    unfold sequenceBytesRequired.go
    split
    · exact h
    · rename_i hz
      have hz : s / 256 ^ k % 256 = 0 := by simpa using hz
      exact ih (lt_pow_of_digit_zero h hz)

/-- minimality: more than one byte is announced only if the top announced byte is non-zero -/
theorem sbr_go_min (s k : Nat) (h : 1 < sequenceBytesRequired.go s k) :
    256 ^ (sequenceBytesRequired.go s k - 1) ≤ s := by
  induction k with
  | zero => simp [sequenceBytesRequired.go] at h
  | succ k ih =>
    unfold sequenceBytesRequired.go at h ⊢
    split
    · rename_i hz
      simp only [Nat.add_sub_cancel]
      have hp := Nat.pow_pos (n := k) (show 0 < 256 by decide)
      by_cases hlt : s < 256 ^ k
      · rw [Nat.div_eq_of_lt hlt] at hz; simp at hz
      · omega
    · rename_i hz
      rw [if_neg hz] at h
      exact ih h

theorem sbr_pos (s : Nat) : 1 ≤ sequenceBytesRequired s := (sbr_go_bounds s 8).1
theorem sbr_le (s : Nat) : sequenceBytesRequired s ≤ 8 := by
  have := (sbr_go_bounds s 8).2; unfold sequenceBytesRequired; omega
theorem sbr_lt {s : Nat} (h : s < 2 ^ 64) : s < 256 ^ sequenceBytesRequired s :=
  sbr_go_lt s 8 (by simpa using h)
/-- the sequence bytes `write_sequence` emits -/
def seqBytes (seq : Nat) : Bytes := (leBytes seq 8).take (sequenceBytesRequired seq)

theorem seqBytes_eq (seq : Nat) : seqBytes seq = leBytes seq (sequenceBytesRequired seq) :=
  take_leBytes seq (sbr_le seq)

@[simp] theorem seqBytes_length (seq : Nat) : (seqBytes seq).length = sequenceBytesRequired seq := by
  rw [seqBytes_eq, leBytes_length]

theorem readSequence_leBytes {seq k : Nat} (rest : Bytes) (hk : k ≤ 8) (h : seq < 256 ^ k) :
    readSequence (leBytes seq k ++ rest) k = some (seq, rest) := by
  unfold readSequence
  rw [if_neg (by omega), readN_append' _ _ (leBytes_length seq k)]
  simp [leVal_leBytes_of_lt h]

theorem readSequence_seqBytes {seq : Nat} (rest : Bytes) (h : seq < 2 ^ 64) :
    readSequence (seqBytes seq ++ rest) (sequenceBytesRequired seq) = some (seq, rest) := by
  rw [seqBytes_eq]; exact readSequence_leBytes rest (sbr_le seq) (sbr_lt h)

theorem readSequence_append (sb ct : Bytes) (h : sb.length ≤ 8) :
    readSequence (sb ++ ct) sb.length = some (leVal sb, ct) := by
  unfold readSequence
  rw [if_neg (by omega), readN_append' sb ct rfl]

theorem id_le (p : Netcode.Packet) : p.id ≤ 6 := by cases p <;> simp [Netcode.Packet.id, packetType, PacketType.toNat]

theorem fromU8_toNat (ty : PacketType) : PacketType.fromU8 ty.toNat = .ok ty := by cases ty <;> rfl

theorem fromU8_ok {v : Nat} {ty : PacketType} (h : PacketType.fromU8 v = .ok ty) : v = ty.toNat := by
  unfold PacketType.fromU8 at h
  split at h <;> cases h <;> rfl

theorem decodePrefix_encodePrefix (p : Netcode.Packet) (seq : Nat) :
    decodePrefix (encodePrefix p.id seq) = (p.id, sequenceBytesRequired seq) := by
  have h1 := id_le p
  have h2 := sbr_le seq
  simp only [decodePrefix, encodePrefix, UInt8.toNat_ofNat', Prod.mk.injEq]
  omega

/-- the bytes `Packet::write` produces -/
def body : Netcode.Packet → Bytes
  | .connectionRequest v pid e x d => v ++ (leBytes pid 8 ++ (leBytes e 8 ++ (x ++ d)))
  | .challenge s d | .response s d => leBytes s 8 ++ d
  | .keepAlive i m => leBytes i 4 ++ leBytes m 4
  | .payload b => b
  | .connectionDenied | .disconnect => []

/-- the datagram `Packet::encode` produces for a sealed kind: prefix ‖ sequence bytes ‖ seal(body) -/
def sealedDatagram (a : AEAD) (p : Netcode.Packet) (proto seq : Nat) (key : Bytes) : Bytes :=
  encodePrefix p.id seq ::
    (seqBytes seq ++ a.seal key (nonce seq) (additionalData (encodePrefix p.id seq) proto) (body p))

theorem id_eq (p : Netcode.Packet) : p.id = p.packetType.toNat := rfl

end Packet
end RenetVerif.NcAead

namespace RenetVerif.Netcode

export NcAead (leBytes_length)

theorem leVal_take_lt (b : Bytes) {k m : Nat} (h : k ≤ m) : leVal (b.take k) < 256 ^ m := by
  have hl : (b.take k).length ≤ m := by rw [List.length_take]; omega
  exact Nat.lt_of_lt_of_le (NcAead.leVal_lt _) (Nat.pow_le_pow_right (by decide) hl)

theorem readN_eq_none {n : Nat} {src : Bytes} : readN n src = none ↔ src.length < n := by
  unfold readN; split <;> simp [*]

theorem readU_leBytes {n k : Nat} (r : Bytes) (h : n < 256 ^ k) : readU k (leBytes n k ++ r) = some (n, r) :=
  NcAead.readU_iff.2 ⟨h, rfl⟩

namespace Packet
export NcAead.Packet (sbr_pos sbr_le)

theorem mac_eq : C.NETCODE_MAC_BYTES = 16 := rfl

/-- the bytes `Packet::write` produces -/
def body : Packet → Bytes
  | connectionRequest v pid e x d => v ++ (leBytes pid 8 ++ (leBytes e 8 ++ (x ++ d)))
  | challenge s d | response s d => leBytes s 8 ++ d
  | keepAlive i m => leBytes i 4 ++ leBytes m 4
  | payload b => b
  | connectionDenied | disconnect => []

def sealedBytes (a : AEAD) (p : Packet) (proto seq : Nat) (key : Bytes) : Bytes :=
  encodePrefix p.id seq :: (leBytes seq (sequenceBytesRequired seq) ++
    a.seal key (nonce seq) (additionalData (encodePrefix p.id seq) proto) p.body)

theorem write_eq (p : Packet) (w : Wr) (hw : w.out.length ≤ w.cap) : p.write w = w.writeAll p.body := by
  cases p <;> simp only [write, body, NcAead.Wr.writeAll_append]
  all_goals (simp [NcAead.Wr.writeAll_eq, hw])

theorem encode_nonreq (a : AEAD) (p : Packet) (cap proto seq : Nat) (key : Bytes)
    (hp : p.packetType ≠ .connectionRequest) :
    p.encode a cap proto (some (seq, key)) =
      (do
        let pfx := encodePrefix p.id seq
        let w ← io? ((Wr.new cap).writeAll [pfx])
        let (w, _) := writeSequence w seq
        let start := w.pos
        let w ← io? (p.write w)
        let «end» := w.pos
        if cap < «end» + C.NETCODE_MAC_BYTES then .err .ioError
        else
          let aad := additionalData pfx proto
          pure (w.out.take start ++ sealBody a key seq aad (w.out.drop start))) := by
  cases p <;> first | rfl | exact absurd rfl hp

open NcAead.Packet (seqBytes seqBytes_eq seqBytes_length) in
/-- Exact form of `Packet::encode` for the six sealed kinds: it succeeds iff prefix, sequence bytes, body and
    tag fit into the buffer, and then returns `sealedBytes`; a short write of the sequence bytes
    (which `write_sequence` does not report) always ends in `IoError`. -/
theorem encode_sealed_eq (a : AEAD) (p : Packet) (cap proto seq : Nat) (key : Bytes)
    (hp : p.packetType ≠ .connectionRequest) :
    encode a p cap proto (some (seq, key)) =
      if 1 + sequenceBytesRequired seq + p.body.length + 16 ≤ cap then .ok (sealedBytes a p proto seq key)
      else .err .ioError := by
  rw [encode_nonreq a p cap proto seq key hp]
  have hk1 := sbr_pos seq
  have hk8 := sbr_le seq
  by_cases hc0 : cap = 0
  · subst hc0
    simp [Wr.new, NcAead.Wr.writeAll_eq, io?]
  have h1 : (Wr.new cap).writeAll [encodePrefix p.id seq] = some ⟨cap, [encodePrefix p.id seq]⟩ := by
    simp [Wr.new, NcAead.Wr.writeAll_eq]; omega
  simp only [h1, io?, Res.bind_ok, writeSequence, Wr.write, Wr.pos, ← NcAead.Packet.seqBytes.eq_1, seqBytes_length,
    List.length_cons, List.length_nil, Nat.zero_add]
  rw [write_eq _ _ (by simp; omega)]
  simp only [NcAead.Wr.writeAll_eq, List.length_append, List.length_cons, List.length_nil, List.length_take,
    seqBytes_length, Nat.zero_add, mac_eq]
  by_cases hm : 1 + sequenceBytesRequired seq + p.body.length + 16 ≤ cap
  · -- everything fits: the sequence bytes are written whole
    rw [show min (sequenceBytesRequired seq) (cap - 1) = sequenceBytesRequired seq by omega, Nat.min_self,
      if_pos (by omega), if_pos hm, List.take_of_length_le (Nat.le_of_eq (seqBytes_length _))]
    have hl : ([encodePrefix p.id seq] ++ seqBytes seq).length = 1 + sequenceBytesRequired seq := by simp; omega
    simp only [Res.bind_ok]
    rw [if_neg (by rw [List.length_append, hl]; omega), List.take_left' hl, List.drop_left' hl, sealedBytes, ← seqBytes_eq]
    rfl
  · -- otherwise the body does not fit behind the (possibly cut) sequence bytes, or the tag does not fit behind the body
    rw [if_neg hm]
    by_cases hb : 1 + min (min (sequenceBytesRequired seq) (cap - 1)) (sequenceBytesRequired seq) + p.body.length ≤ cap
    · simp only [if_pos hb, Res.bind_ok]
      rw [if_pos]
      simp only [List.length_append, List.length_cons, List.length_nil, List.length_take, seqBytes_length]
      omega
    · rw [if_neg hb]; rfl

theorem encode_sealed_fits (a : AEAD) (p : Packet) (cap proto seq : Nat) (key : Bytes)
    (hp : p.packetType ≠ .connectionRequest) (hb : p.body.length + 25 ≤ cap) :
    encode a p cap proto (some (seq, key)) = .ok (sealedBytes a p proto seq key) := by
  have := sbr_le seq
  rw [encode_sealed_eq a p cap proto seq key hp, if_pos (by omega)]

theorem encode_ok_sealed {a : AEAD} {p : Packet} {cap proto seq : Nat} {key out : Bytes}
    (hp : p.packetType ≠ .connectionRequest) (h : encode a p cap proto (some (seq, key)) = .ok out) :
    out = sealedBytes a p proto seq key ∧ 1 + sequenceBytesRequired seq + p.body.length + 16 ≤ cap := by
  rw [encode_sealed_eq a p cap proto seq key hp] at h
  split at h
  · cases h
    exact ⟨rfl, by assumption⟩
  · cases h

/-- a connection request is written in the clear: type byte 0 (no sequence length) ‖ body -/
theorem encode_request_eq (a : AEAD) (v : Bytes) (pid e : Nat) (x d : Bytes) (cap proto : Nat)
    (crypto : Option (Nat × Bytes)) :
    encode a (connectionRequest v pid e x d) cap proto crypto =
      if 1 + (connectionRequest v pid e x d).body.length ≤ cap then .ok (0 :: (connectionRequest v pid e x d).body)
      else .err .ioError := by
  simp only [encode, Packet.id, packetType, PacketType.toNat]
  by_cases h0 : cap = 0
  · subst h0; simp [Wr.new, NcAead.Wr.writeAll_eq, io?]
  · have hw1 : (Wr.new cap).writeAll [UInt8.ofNat 0] = some ⟨cap, [0]⟩ := by
      simp [Wr.new, NcAead.Wr.writeAll_eq]; omega
    simp only [hw1, io?, Res.bind_ok]
    rw [write_eq _ _ (by simp; omega)]
    simp only [NcAead.Wr.writeAll_eq, List.length_cons, List.length_nil]
    by_cases hb : 0 + 1 + (connectionRequest v pid e x d).body.length ≤ cap
    · have : 1 + (connectionRequest v pid e x d).body.length ≤ cap := by omega
      simp [hb]
    · have : ¬ 1 + (connectionRequest v pid e x d).body.length ≤ cap := by omega
      simp only [hb, if_false]; rfl

def wirePrefix (buf : Bytes) : UInt8 := buf.headD 0
def wireType (buf : Bytes) : Nat := (wirePrefix buf).toNat % 16
def wireSeqLen (buf : Bytes) : Nat := (wirePrefix buf).toNat / 16
/-- the sequence number a sealed datagram carries (bound into nonce and, through its length, the AAD) -/
def wireSeq (buf : Bytes) : Nat := leVal ((buf.drop 1).take (wireSeqLen buf))
def wireBody (buf : Bytes) : Bytes := buf.drop (1 + wireSeqLen buf)

/-- the datagram is of sealed kind `ty`, long enough, and its body opens to `plain` under `k` with the nonce and
    additional data its header determines -/
structure SealedOpen (a : AEAD) (buf : Bytes) (proto : Nat) (k : Bytes) (ty : PacketType) (plain : Bytes) : Prop where
  len18 : 18 ≤ buf.length
  kind : PacketType.fromU8 (wireType buf) = .ok ty
  not_request : ty ≠ .connectionRequest
  seq_len : wireSeqLen buf ≤ 8
  len : 1 + wireSeqLen buf + 16 ≤ buf.length
  opened : a.open k (nonce (wireSeq buf)) (additionalData (wirePrefix buf) proto) (wireBody buf) = some plain

/-- window update of a successful open -/
def stepWindow (ty : PacketType) (seq : Nat) (rp : Option RP) : Option RP :=
  rp.map fun w => if ty.applyReplayProtection then w.advance seq else w

/-- the replay check `decode` performs before opening -/
def isDup (ty : PacketType) (seq : Nat) (rp : Option RP) : Bool :=
  match rp with
  | some w => ty.applyReplayProtection && w.alreadyReceived seq
  | none => false

theorem fromU8_no_panic (v : Nat) (m : String) : PacketType.fromU8 v ≠ .panic m := by
  unfold PacketType.fromU8; split <;> simp

theorem wireSeq_lt {buf : Bytes} (h : wireSeqLen buf ≤ 8) : wireSeq buf < 2 ^ 64 :=
  leVal_take_lt _ h

theorem stepWindow_eq (ty : PacketType) (seq : Nat) (rp : Option RP) :
    (match rp with
      | some w => if ty.applyReplayProtection = true then some (w.advance seq) else some w
      | none => none) = stepWindow ty seq rp := by
  cases rp with
  | none => rfl
  | some w => simp only [stepWindow, Option.map]; split <;> rfl

theorem readN_eq (n : Nat) (src : Bytes) :
    readN n src = if src.length < n then none else some (src.take n, src.drop n) := rfl

theorem readU_eq (n : Nat) (src : Bytes) :
    readU n src = if src.length < n then none else some (leVal (src.take n), src.drop n) := by
  unfold readU; rw [readN_eq]; by_cases h : src.length < n <;> simp [h]

@[simp] theorem read_payload (src : Bytes) : read .payload src = .ok (.payload src) := rfl
@[simp] theorem read_denied (src : Bytes) : read .connectionDenied src = .ok .connectionDenied := rfl
@[simp] theorem read_disconnect (src : Bytes) : read .disconnect src = .ok .disconnect := rfl

theorem readN_bind {β} (n : Nat) (src : Bytes) (f : Bytes × Bytes → Option β) :
    (readN n src >>= f) = if src.length < n then none else f (src.take n, src.drop n) := by
  rw [readN_eq]; by_cases h : src.length < n <;> simp [h]

theorem readU_bind {β} (n : Nat) (src : Bytes) (f : Nat × Bytes → Option β) :
    (readU n src >>= f) = if src.length < n then none else f (leVal (src.take n), src.drop n) := by
  rw [readU_eq]; by_cases h : src.length < n <;> simp [h]

/-- two length checks in a row, the second on what the first left, are one check of the sum: with `readN_bind` and
    `readU_bind` this turns a sequence of reads into a single comparison -/
theorem ite_lt_add {β} (l n m : Nat) (x : Option β) :
    (if l < n then none else if l - n < m then none else x) = if l < n + m then none else x := by
  by_cases h1 : l < n
  · rw [if_pos h1, if_pos (by omega)]
  · rw [if_neg h1]
    by_cases h2 : l - n < m
    · rw [if_pos h2, if_pos (by omega)]
    · rw [if_neg h2, if_neg (by omega)]

theorem io?_ite {α} (c : Prop) [Decidable c] (x : α) :
    io? (if c then none else pure x) = if c then .err .ioError else .ok x := by
  split <;> rfl

theorem read_keepAlive (src : Bytes) :
    read .keepAlive src = if src.length < 8 then .err .ioError
      else .ok (.keepAlive (leVal (src.take 4)) (leVal ((src.drop 4).take 4))) := by
  simp only [read, readU32, readU_bind, List.length_drop, ite_lt_add, io?_ite]
  rfl

theorem read_challenge (src : Bytes) :
    read .challenge src = if src.length < 8 + C.NETCODE_CHALLENGE_TOKEN_BYTES then .err .ioError
      else .ok (.challenge (leVal (src.take 8)) ((src.drop 8).take C.NETCODE_CHALLENGE_TOKEN_BYTES)) := by
  simp only [read, readU64, readU_bind, readN_bind, List.length_drop, ite_lt_add, io?_ite]
  rfl

theorem read_response (src : Bytes) :
    read .response src = if src.length < 8 + C.NETCODE_CHALLENGE_TOKEN_BYTES then .err .ioError
      else .ok (.response (leVal (src.take 8)) ((src.drop 8).take C.NETCODE_CHALLENGE_TOKEN_BYTES)) := by
  simp only [read, readU64, readU_bind, readN_bind, List.length_drop, ite_lt_add, io?_ite]
  rfl

theorem xnonce_eq : C.NETCODE_CONNECT_TOKEN_XNONCE_BYTES = 24 := rfl
theorem private_eq : C.NETCODE_CONNECT_TOKEN_PRIVATE_BYTES = 1024 := rfl
theorem challenge_eq : C.NETCODE_CHALLENGE_TOKEN_BYTES = 300 := rfl

def REQUEST_BODY : Nat := 13 + 8 + 8 + C.NETCODE_CONNECT_TOKEN_XNONCE_BYTES + C.NETCODE_CONNECT_TOKEN_PRIVATE_BYTES

theorem read_request (src : Bytes) :
    read .connectionRequest src = if src.length < REQUEST_BODY then .err .ioError
      else .ok (.connectionRequest (src.take 13) (leVal ((src.drop 13).take 8)) (leVal ((src.drop 21).take 8))
                 ((src.drop 29).take C.NETCODE_CONNECT_TOKEN_XNONCE_BYTES)
                 ((src.drop (29 + C.NETCODE_CONNECT_TOKEN_XNONCE_BYTES)).take C.NETCODE_CONNECT_TOKEN_PRIVATE_BYTES)) := by
  simp only [read, readU64, readU_bind, readN_bind, List.length_drop, List.drop_drop, ite_lt_add, io?_ite]
  rfl

/-- least plaintext length `Packet::read` accepts for a kind -/
def minBody : PacketType → Nat
  | .connectionRequest => REQUEST_BODY
  | .challenge | .response => 8 + C.NETCODE_CHALLENGE_TOKEN_BYTES
  | .keepAlive => 8
  | _ => 0

/-- the two outcomes of a parser that fails exactly on short input -/
theorem ite_short_cases {l n : Nat} {p : Packet} {Q : Packet → Prop} (hQ : n ≤ l → Q p) :
    (l < n ∧ (if l < n then (.err .ioError : NRes Packet) else .ok p) = .err .ioError) ∨
    (n ≤ l ∧ ∃ q, (if l < n then (.err .ioError : NRes Packet) else .ok p) = .ok q ∧ Q q) := by
  by_cases h : l < n
  · exact .inl ⟨h, if_pos h⟩
  · exact .inr ⟨Nat.le_of_not_lt h, p, if_neg h, hQ (Nat.le_of_not_lt h)⟩

theorem read_eq (ty : PacketType) (src : Bytes) :
    (src.length < minBody ty ∧ read ty src = .err .ioError) ∨
    (minBody ty ≤ src.length ∧ ∃ p, read ty src = .ok p ∧ p.packetType = ty ∧ p.WF ∧
      (ty = .payload → p = .payload src)) := by
  cases ty with
  | connectionRequest =>
    rw [read_request]
    refine ite_short_cases fun h => ⟨rfl, ?_, nofun⟩
    simp only [minBody, REQUEST_BODY, xnonce_eq, private_eq] at h
    refine ⟨?_, leVal_take_lt _ (Nat.le_refl 8), leVal_take_lt _ (Nat.le_refl 8), ?_, ?_⟩ <;>
      simp [List.length_take, xnonce_eq, private_eq] <;> omega
  | challenge =>
    rw [read_challenge]
    refine ite_short_cases fun h => ⟨rfl, ⟨leVal_take_lt _ (Nat.le_refl 8), ?_⟩, nofun⟩
    simp only [minBody] at h
    simp [List.length_take]; omega
  | response =>
    rw [read_response]
    refine ite_short_cases fun h => ⟨rfl, ⟨leVal_take_lt _ (Nat.le_refl 8), ?_⟩, nofun⟩
    simp only [minBody] at h
    simp [List.length_take]; omega
  | keepAlive =>
    rw [read_keepAlive]
    exact ite_short_cases fun _ => ⟨rfl, ⟨leVal_take_lt _ (Nat.le_refl 4), leVal_take_lt _ (Nat.le_refl 4)⟩, nofun⟩
  | payload => exact .inr ⟨Nat.zero_le _, _, rfl, rfl, trivial, fun _ => rfl⟩
  | connectionDenied => exact .inr ⟨Nat.zero_le _, _, rfl, rfl, trivial, nofun⟩
  | disconnect => exact .inr ⟨Nat.zero_le _, _, rfl, rfl, trivial, nofun⟩

theorem read_no_panic (ty : PacketType) (src : Bytes) (m : String) : read ty src ≠ .panic m := by
  rcases read_eq ty src with ⟨_, h⟩ | ⟨_, p, h, _⟩ <;> rw [h] <;> simp

theorem read_ok {ty : PacketType} {src : Bytes} {p : Packet} (h : read ty src = .ok p) :
    minBody ty ≤ src.length ∧ p.packetType = ty ∧ p.WF ∧ (ty = .payload → p = .payload src) := by
  rcases read_eq ty src with ⟨_, h'⟩ | ⟨hl, p', h', h2, h3, h4⟩
  · rw [h'] at h; cases h
  · rw [h'] at h; cases h; exact ⟨hl, h2, h3, h4⟩

theorem read_err {ty : PacketType} {src : Bytes} {e : NetcodeError} (h : read ty src = .err e) :
    src.length < minBody ty ∧ e = .ioError := by
  rcases read_eq ty src with ⟨hl, h'⟩ | ⟨hl, p', h', _⟩
  · rw [h'] at h; cases h; exact ⟨hl, rfl⟩
  · rw [h'] at h; cases h

theorem leBytes_take (src : Bytes) {k : Nat} (h : k ≤ src.length) : leBytes (leVal (src.take k)) k = src.take k := by
  have := NcAead.leBytes_leVal (src.take k)
  rwa [List.length_take, Nat.min_eq_left h] at this

theorem take_drop_add (l : Bytes) (a b : Nat) : (l.drop a).take b ++ l.drop (a + b) = l.drop a := by
  rw [← List.drop_drop, List.take_append_drop]

theorem read_prefix {ty : PacketType} {src : Bytes} {p : Packet} (h : read ty src = .ok p) :
    ∃ rest, src = p.body ++ rest ∧ (ty = .payload → rest = []) := by
  have hl := (read_ok h).1
  cases ty with
  | payload => cases h; exact ⟨[], by simp [body], fun _ => rfl⟩
  | connectionDenied | disconnect => cases h; exact ⟨src, rfl, nofun⟩
  | keepAlive =>
    simp only [minBody] at hl
    rw [read_keepAlive, if_neg (by omega)] at h
    cases h
    refine ⟨src.drop (4 + 4), ?_, nofun⟩
    rw [body, leBytes_take src (by omega), leBytes_take (src.drop 4) (by rw [List.length_drop]; omega),
      List.append_assoc, take_drop_add, List.take_append_drop]
  | challenge =>
    simp only [minBody] at hl
    rw [read_challenge, if_neg (by omega)] at h
    cases h
    refine ⟨src.drop (8 + C.NETCODE_CHALLENGE_TOKEN_BYTES), ?_, nofun⟩
    rw [body, leBytes_take src (by omega), List.append_assoc, take_drop_add, List.take_append_drop]
  | response =>
    simp only [minBody] at hl
    rw [read_response, if_neg (by omega)] at h
    cases h
    refine ⟨src.drop (8 + C.NETCODE_CHALLENGE_TOKEN_BYTES), ?_, nofun⟩
    rw [body, leBytes_take src (by omega), List.append_assoc, take_drop_add, List.take_append_drop]
  | connectionRequest =>
    rw [read_request, if_neg (by simp only [minBody] at hl; omega)] at h
    cases h
    simp only [minBody, REQUEST_BODY, xnonce_eq, private_eq] at hl
    refine ⟨src.drop (29 + C.NETCODE_CONNECT_TOKEN_XNONCE_BYTES + C.NETCODE_CONNECT_TOKEN_PRIVATE_BYTES), ?_, nofun⟩
    rw [body, leBytes_take (src.drop 13) (by rw [List.length_drop]; omega),
      leBytes_take (src.drop 21) (by rw [List.length_drop]; omega)]
    simp only [List.append_assoc]
    rw [take_drop_add, take_drop_add, show (src.drop 21).take 8 ++ src.drop 29 = src.drop 21 from take_drop_add src 21 8,
      show (src.drop 13).take 8 ++ src.drop 21 = src.drop 13 from take_drop_add src 13 8, List.take_append_drop]

/-- `Packet::read` inverts `Packet::write` on well-formed packets (trailing bytes are ignored for every kind
    but the payload, whose body is the whole rest) -/
theorem read_body (p : Packet) (h : p.WF) (rest : Bytes) (hr : p.packetType = .payload → rest = []) :
    read p.packetType (p.body ++ rest) = .ok p := by
  cases p with
  | payload b => simp [packetType] at hr; subst hr; simp [read, packetType, body]
  | connectionDenied | disconnect => rfl
  | keepAlive i m =>
    obtain ⟨h1, h2⟩ := h
    simp only [read, packetType, body, List.append_assoc]
    simp [readU32, readU_leBytes _ (show i < 256 ^ 4 from h1), readU_leBytes _ (show m < 256 ^ 4 from h2), io?]
  | challenge s d | response s d =>
    obtain ⟨h1, h2⟩ := h
    simp only [read, packetType, body, List.append_assoc]
    simp [NcAead.readU64_leBytes _ h1, NcAead.readN_append' d rest h2, io?]
  | connectionRequest v pid e x d =>
    obtain ⟨h1, h2, h3, h4, h5⟩ := h
    simp only [read, packetType, body, List.append_assoc]
    simp [NcAead.readN_append' v _ h1, NcAead.readU64_leBytes _ h2, NcAead.readU64_leBytes _ h3, NcAead.readN_append' x _ h4,
      NcAead.readN_append' d rest h5, io?]

theorem wire_cons (pfx : UInt8) (rest : Bytes) :
    wirePrefix (pfx :: rest) = pfx ∧ wireType (pfx :: rest) = pfx.toNat % 16 ∧ wireSeqLen (pfx :: rest) = pfx.toNat / 16 ∧
    wireSeq (pfx :: rest) = leVal (rest.take (pfx.toNat / 16)) ∧ wireBody (pfx :: rest) = rest.drop (pfx.toNat / 16) :=
  ⟨rfl, rfl, rfl, rfl, by rw [wireBody, Nat.add_comm, List.drop_succ_cons]; rfl⟩

/-- `Packet::decode`, the checks in the order the code makes them -/
theorem decode_eq_wire (a : AEAD) (buf : Bytes) (proto : Nat) (key : Option Bytes) (rp : Option RP) :
    decode a buf proto key rp =
      if buf.length < 18 then (.err .packetTooSmall, rp) else
      match PacketType.fromU8 (wireType buf) with
      | .err e => (.err e, rp)
      | .panic s => (.panic s, rp)
      | .ok ty =>
        if ty = .connectionRequest then (read .connectionRequest (buf.drop 1) >>= fun p => pure (0, p), rp) else
        match key with
        | none => (.err .unavailablePrivateKey, rp)
        | some k =>
          if 8 < wireSeqLen buf ∨ buf.length < 1 + wireSeqLen buf then (.err .ioError, rp)
          else if buf.length < 1 + wireSeqLen buf + 16 then (.err .packetTooSmall, rp)
          else if isDup ty (wireSeq buf) rp then (.err .duplicatedSequence, rp)
          else match a.open k (nonce (wireSeq buf)) (additionalData (wirePrefix buf) proto) (wireBody buf) with
            | none => (.err .cryptoError, rp)
            | some plain => (read ty plain >>= fun p => pure (wireSeq buf, p), stepWindow ty (wireSeq buf) rp) := by
  unfold decode
  rw [show 2 + C.NETCODE_MAC_BYTES = 18 from rfl]
  by_cases h18 : buf.length < 18
  · rw [if_pos h18, if_pos h18]
  rw [if_neg h18, if_neg h18]
  cases buf with
  | nil => exact absurd (Nat.zero_lt_succ _) h18
  | cons pfx rest =>
    obtain ⟨e1, e2, e3, e4, e5⟩ := wire_cons pfx rest
    rw [e1, e2, e3, e4, e5]
    simp only [decodePrefix, List.drop_one, List.tail_cons]
    cases PacketType.fromU8 (pfx.toNat % 16) with
    | err e => rfl
    | panic m => rfl
    | ok ty =>
      dsimp only
      by_cases hreq : ty = .connectionRequest
      · rw [if_pos hreq, if_pos hreq]
      rw [if_neg hreq, if_neg hreq]
      cases key with
      | none => rfl
      | some k =>
        dsimp only
        have hlen : (pfx :: rest).length = rest.length + 1 := rfl
        simp only [readSequence, readN]
        by_cases h8 : 8 < pfx.toNat / 16
        · rw [if_pos h8, if_pos (Or.inl h8)]
        by_cases hn : rest.length < pfx.toNat / 16
        · rw [if_neg h8, if_pos hn, if_pos (Or.inr (by omega))]
        rw [if_neg h8, if_neg hn, if_neg (by omega)]
        dsimp only
        by_cases hl : (pfx :: rest).length < 1 + pfx.toNat / 16 + C.NETCODE_MAC_BYTES
        · rw [if_pos hl, if_pos (show (pfx :: rest).length < 1 + pfx.toNat / 16 + 16 from hl)]
        rw [if_neg hl, if_neg (show ¬ (pfx :: rest).length < 1 + pfx.toNat / 16 + 16 from hl), openBody,
          if_neg (show ¬ (rest.drop (pfx.toNat / 16)).length < C.NETCODE_MAC_BYTES by
            rw [mac_eq] at hl ⊢; rw [List.length_drop]; omega)]
        cases rp with
        | none =>
          dsimp only [isDup]
          rw [if_neg Bool.false_ne_true]
          cases a.open k (nonce (leVal (rest.take (pfx.toNat / 16)))) (additionalData pfx proto) (rest.drop (pfx.toNat / 16)) <;> rfl
        | some w =>
          dsimp only [isDup]
          by_cases hd : (ty.applyReplayProtection && w.alreadyReceived (leVal (rest.take (pfx.toNat / 16)))) = true
          · simp only [hd, if_true]
          simp only [hd]
          cases a.open k (nonce (leVal (rest.take (pfx.toNat / 16)))) (additionalData pfx proto) (rest.drop (pfx.toNat / 16)) with
          | none => rfl
          | some plain => dsimp only [stepWindow, Option.map]; rw [apply_ite some]


theorem decode_short {a : AEAD} {buf : Bytes} {proto : Nat} {key : Option Bytes} {rp : Option RP}
    (h : buf.length < 2 + C.NETCODE_MAC_BYTES) : decode a buf proto key rp = (.err .packetTooSmall, rp) := by
  unfold decode
  rw [if_pos h]

theorem decode_request_shape (a : AEAD) {buf : Bytes} (proto : Nat) (key : Option Bytes) (rp : Option RP)
    (h18 : 18 ≤ buf.length) (ht : wireType buf = 0) :
    decode a buf proto key rp = (read .connectionRequest (buf.drop 1) >>= fun p => pure (0, p), rp) := by
  rw [decode_eq_wire, if_neg (by omega), ht]
  rfl

theorem not_short_of_ok {a : AEAD} {buf : Bytes} {proto : Nat} {key : Option Bytes} {rp : Option RP} {x : Nat × Packet}
    (h : (decode a buf proto key rp).1 = .ok x) : ¬ buf.length < 2 + C.NETCODE_MAC_BYTES := fun hs => by
  rw [decode_short hs] at h
  cases h

/-- `decode`, all cases.  Either an error with the window untouched, or a connection request (never
    authenticated, window untouched, whatever key and window the decoder is given), or a sealed datagram that passed
    the replay check and opened: then the window is stepped and the result is whatever `Packet::read` makes of the
    plaintext. -/
theorem decode_cases (a : AEAD) (buf : Bytes) (proto : Nat) (key : Option Bytes) (rp : Option RP) :
    (∃ e, decode a buf proto key rp = (.err e, rp)) ∨
    (18 ≤ buf.length ∧ wireType buf = 0 ∧ ∀ key' rp',
      decode a buf proto key' rp' = (read .connectionRequest (buf.drop 1) >>= fun p => pure (0, p), rp')) ∨
    (∃ k ty plain, key = some k ∧ SealedOpen a buf proto k ty plain ∧ isDup ty (wireSeq buf) rp = false ∧
      decode a buf proto key rp =
        (read ty plain >>= fun p => pure (wireSeq buf, p), stepWindow ty (wireSeq buf) rp)) := by
  have hd := fun key' rp' => decode_eq_wire a buf proto key' rp'
  by_cases h18 : buf.length < 18
  · exact .inl ⟨_, by rw [hd, if_pos h18]⟩
  simp only [if_neg h18] at hd
  cases hty : PacketType.fromU8 (wireType buf) with
  | panic m => exact absurd hty (fromU8_no_panic _ _)
  | err e => exact .inl ⟨e, by rw [hd, hty]⟩
  | ok ty =>
    simp only [hty] at hd
    by_cases hreq : ty = .connectionRequest
    · subst hreq
      exact .inr (.inl ⟨Nat.le_of_not_lt h18, NcAead.Packet.fromU8_ok hty, fun key' rp' => by rw [hd, if_pos rfl]⟩)
    simp only [if_neg hreq] at hd
    cases key with
    | none => exact .inl ⟨_, hd none rp⟩
    | some k =>
      have hd := hd (some k) rp
      dsimp only at hd
      by_cases h1 : 8 < wireSeqLen buf ∨ buf.length < 1 + wireSeqLen buf
      · exact .inl ⟨_, by rw [hd, if_pos h1]⟩
      by_cases h2 : buf.length < 1 + wireSeqLen buf + 16
      · exact .inl ⟨_, by rw [hd, if_neg h1, if_pos h2]⟩
      cases hdup : isDup ty (wireSeq buf) rp with
      | true => exact .inl ⟨_, by rw [hd, if_neg h1, if_neg h2, hdup, if_pos rfl]⟩
      | false =>
        rw [if_neg h1, if_neg h2, hdup, if_neg Bool.false_ne_true] at hd
        cases ho : a.open k (nonce (wireSeq buf)) (additionalData (wirePrefix buf) proto) (wireBody buf) with
        | none => exact .inl ⟨_, by rw [hd, ho]⟩
        | some plain =>
          rw [ho] at hd
          exact .inr (.inr ⟨k, ty, plain, rfl,
            ⟨Nat.le_of_not_lt h18, hty, hreq, Nat.le_of_not_lt fun h => h1 (.inl h), Nat.le_of_not_lt h2, ho⟩, hdup, hd⟩)

theorem wire_split {a : AEAD} {buf : Bytes} {proto : Nat} {k : Bytes} {ty : PacketType} {plain : Bytes}
    (h : SealedOpen a buf proto k ty plain) :
    ∃ pfx sb ct, buf = pfx :: (sb ++ ct) ∧ wirePrefix buf = pfx ∧ sb.length = pfx.toNat / 16 ∧ sb.length ≤ 8 ∧
      16 ≤ ct.length ∧ wireSeq buf = leVal sb ∧ wireBody buf = ct ∧ PacketType.fromU8 (pfx.toNat % 16) = .ok ty := by
  obtain ⟨h18, hkind, -, hs8, hlen, -⟩ := h
  cases buf with
  | nil => cases h18
  | cons pfx rest =>
    obtain ⟨e1, -, e3, e4, e5⟩ := wire_cons pfx rest
    rw [e3] at hs8 hlen
    rw [List.length_cons] at hlen
    have hsb : (rest.take (pfx.toNat / 16)).length = pfx.toNat / 16 := by rw [List.length_take]; omega
    exact ⟨pfx, rest.take (pfx.toNat / 16), rest.drop (pfx.toNat / 16), by rw [List.take_append_drop], e1, hsb,
      by omega, by rw [List.length_drop]; omega, e4, e5, hkind⟩

theorem decode_of_sealedOpen {a : AEAD} {buf : Bytes} {proto : Nat} {k : Bytes} {ty : PacketType} {plain : Bytes}
    (rp : Option RP) (hso : SealedOpen a buf proto k ty plain) (hd : isDup ty (wireSeq buf) rp = false) :
    decode a buf proto (some k) rp =
      (read ty plain >>= fun p => pure (wireSeq buf, p), stepWindow ty (wireSeq buf) rp) := by
  rw [decode_eq_wire, if_neg (by have := hso.len18; omega), hso.kind]
  dsimp only
  rw [if_neg hso.not_request, if_neg (by have := hso.seq_len; have := hso.len; omega),
    if_neg (by have := hso.len; omega), hd, if_neg Bool.false_ne_true, hso.opened]


theorem stepWindow_unprotected {ty : PacketType} (h : ty.applyReplayProtection = false) (seq : Nat) (rp : Option RP) :
    stepWindow ty seq rp = rp := by
  cases rp <;> simp [stepWindow, h]

theorem stepWindow_protected {ty : PacketType} (h : ty.applyReplayProtection = true) (seq : Nat) (rp : Option RP) :
    stepWindow ty seq rp = rp.map (·.advance seq) := by
  cases rp <;> simp [stepWindow, h]

theorem isDup_some (ty : PacketType) (seq : Nat) (w : RP) :
    isDup ty seq (some w) = (ty.applyReplayProtection && w.alreadyReceived seq) := rfl

/-- C07: `Packet::decode` returns normally on every byte string, key option and window. -/
theorem decode_total (a : AEAD) (buf : Bytes) (proto : Nat) (key : Option Bytes) (rp : Option RP) (m : String) :
    (decode a buf proto key rp).1 ≠ .panic m := by
  have hb : ∀ (ty : PacketType) (src : Bytes) (sq : Nat),
      (read ty src >>= fun p => (pure (sq, p) : NRes (Nat × Packet))) ≠ .panic m := fun ty src sq h =>
    (Res.bind_panic_iff.mp h).elim (read_no_panic ty src m) fun ⟨_, _, h'⟩ => nomatch h'
  rcases decode_cases a buf proto key rp with ⟨e, h⟩ | ⟨_, _, h⟩ | ⟨k, ty, plain, _, _, _, h⟩
  · rw [h]; nofun
  · rw [h]; exact hb _ _ _
  · rw [h]; exact hb _ _ _

theorem decode_ne_panic {a : AEAD} {buf : Bytes} {proto : Nat} {key : Option Bytes} {rp : Option RP} (m : String)
    (rp' : Option RP) : decode a buf proto key rp ≠ (.panic m, rp') :=
  fun h => decode_total a buf proto key rp m (by rw [h])

theorem decode_ok {a : AEAD} {buf : Bytes} {proto : Nat} {key : Option Bytes} {rp rp' : Option RP}
    {seq : Nat} {p : Packet} (h : decode a buf proto key rp = (.ok (seq, p), rp')) :
    (rp' = rp ∧ seq = 0 ∧ wireType buf = 0 ∧ 1 + REQUEST_BODY ≤ buf.length ∧
      p.packetType = .connectionRequest ∧ p.WF ∧ read .connectionRequest (buf.drop 1) = .ok p) ∨
    (∃ k ty plain, key = some k ∧ SealedOpen a buf proto k ty plain ∧ isDup ty seq rp = false ∧
      seq = wireSeq buf ∧ read ty plain = .ok p ∧ rp' = stepWindow ty seq rp) := by
  rcases decode_cases a buf proto key rp with ⟨e, h'⟩ | ⟨_, ht, h'⟩ | ⟨k, ty, plain, hk, hso, hd, h'⟩
  · rw [h'] at h; cases h
  · rw [h'] at h
    obtain ⟨hb, rfl⟩ := Prod.mk.inj h
    obtain ⟨q, hr, hq⟩ := Res.bind_ok_iff.1 hb
    cases hq
    obtain ⟨hl, hp1, hp2, _⟩ := read_ok hr
    exact .inl ⟨rfl, rfl, ht, by simp only [minBody, List.length_drop] at hl; omega, hp1, hp2, hr⟩
  · rw [h'] at h
    obtain ⟨hb, rfl⟩ := Prod.mk.inj h
    obtain ⟨q, hr, hq⟩ := Res.bind_ok_iff.1 hb
    cases hq
    exact .inr ⟨k, ty, plain, hk, hso, hd, rfl, hr, rfl⟩

/-- the error results of `decode`: the window is the one passed in, except for an authentic keep-alive whose
    plaintext is shorter than 8 bytes (window advanced before the body is parsed; `IoError`). -/
theorem decode_err {a : AEAD} {buf : Bytes} {proto : Nat} {key : Option Bytes} {rp rp' : Option RP}
    {e : NetcodeError} (h : decode a buf proto key rp = (.err e, rp')) :
    rp' = rp ∨
    (∃ k plain, key = some k ∧ SealedOpen a buf proto k .keepAlive plain ∧
      isDup .keepAlive (wireSeq buf) rp = false ∧ plain.length < 8 ∧ e = .ioError ∧
      rp' = rp.map (·.advance (wireSeq buf))) := by
  rcases decode_cases a buf proto key rp with ⟨e, h'⟩ | ⟨_, ht, h'⟩ | ⟨k, ty, plain, hk, hso, hd, h'⟩
  · rw [h'] at h; cases h; exact .inl rfl
  · rw [h'] at h; exact .inl (Prod.mk.inj h).2.symm
  · rw [h'] at h
    obtain ⟨hb, rfl⟩ := Prod.mk.inj h
    rcases Res.bind_err_iff.1 hb with hr | ⟨q, _, hq⟩
    · obtain ⟨hl, rfl⟩ := read_err hr
      cases ty with
      | keepAlive => exact .inr ⟨k, plain, hk, hso, hd, hl, rfl, stepWindow_protected rfl _ _⟩
      | connectionRequest => exact absurd rfl hso.not_request
      | challenge | response => exact .inl (stepWindow_unprotected rfl _ _)
      | connectionDenied | payload | disconnect => simp [minBody] at hl
    · cases hq

/-! ## wire round trip (C04 converse, C16 netcode half) -/

theorem sealed_length (a : AEAD) (p : Packet) (proto seq : Nat) (key : Bytes) (hl : a.Laws) :
    (sealedBytes a p proto seq key).length = 1 + sequenceBytesRequired seq + p.body.length + 16 := by
  simp only [sealedBytes, List.length_cons, List.length_append, leBytes_length, hl.seal_length]; omega

theorem decode_sealedBytes (a : AEAD) (p : Packet) (proto seq : Nat) (key : Bytes) (hl : a.Laws) (hs : seq < 2 ^ 64)
    (hp : p.packetType ≠ .connectionRequest) (hwf : p.WF) (rp : Option RP) (hd : isDup p.packetType seq rp = false) :
    decode a (sealedBytes a p proto seq key) proto (some key) rp = (.ok (seq, p), stepWindow p.packetType seq rp) := by
  have hpfx := NcAead.Packet.decodePrefix_encodePrefix p seq
  simp only [decodePrefix, Prod.mk.injEq] at hpfx
  obtain ⟨e1, e2, e3, e4, e5⟩ := wire_cons (encodePrefix p.id seq) (leBytes seq (sequenceBytesRequired seq) ++
    a.seal key (nonce seq) (additionalData (encodePrefix p.id seq) proto) p.body)
  have h8 := sbr_le seq
  have h1 := sbr_pos seq
  have hlen := sealed_length a p proto seq key hl
  have hsq : wireSeq (sealedBytes a p proto seq key) = seq := by
    rw [sealedBytes, e4, hpfx.2, List.take_left' (leBytes_length _ _), NcAead.leVal_leBytes_of_lt (NcAead.Packet.sbr_lt hs)]
  have hso : SealedOpen a (sealedBytes a p proto seq key) proto key p.packetType p.body :=
    ⟨by omega, by rw [sealedBytes, e2, hpfx.1]; exact NcAead.Packet.fromU8_toNat _, hp,
      by rw [sealedBytes, e3, hpfx.2]; exact h8, by rw [hlen, sealedBytes, e3, hpfx.2]; omega,
      by rw [hsq]; rw [sealedBytes, e1, e5, hpfx.2, List.drop_left' (leBytes_length _ _)]; exact hl.open_seal _ _ _ _⟩
  rw [decode_of_sealedOpen rp hso (by rw [hsq]; exact hd), hsq]
  have hr := read_body p hwf [] (fun _ => rfl)
  rw [List.append_nil] at hr
  rw [hr]
  rfl

theorem decode_request_bytes (a : AEAD) {p : Packet} (hp : p.packetType = .connectionRequest) (hwf : p.WF)
    (proto : Nat) (key : Option Bytes) (rp : Option RP) :
    decode a (0 :: p.body) proto key rp = (.ok (0, p), rp) := by
  have hr := read_body p hwf [] (fun h => nomatch hp.symm.trans h)
  rw [List.append_nil, hp] at hr
  have hlen : REQUEST_BODY ≤ p.body.length := (read_ok hr).1
  rw [decode_eq_wire, if_neg (by rw [List.length_cons]; unfold REQUEST_BODY at hlen; omega)]
  simp only [wireType, wirePrefix, List.headD_cons, PacketType.fromU8, List.drop_one, List.tail_cons, hr]
  rfl

end Packet
end RenetVerif.Netcode

namespace RenetVerif.NcAead
open RenetVerif RenetVerif.Netcode

/-! ## what `decode` returns, in the words of `NcAead.Packet` -/
namespace Packet
open Netcode.Packet

theorem body_eq (p : Netcode.Packet) : body p = p.body := by cases p <;> rfl

theorem sealedDatagram_eq (a : AEAD) (p : Netcode.Packet) (proto seq : Nat) (key : Bytes) :
    sealedDatagram a p proto seq key = sealedBytes a p proto seq key := by
  rw [sealedBytes, sealedDatagram, seqBytes_eq, body_eq]

theorem leVal_lt_u64 {sb : Bytes} (h : sb.length ≤ 8) : leVal sb < 2 ^ 64 :=
  Nat.lt_of_lt_of_le (leVal_lt sb) (Nat.pow_le_pow_right (by decide) h)

/-- Decoder outputs are well-formed (every field has the width of its Rust type). -/
theorem decode_wf {a : AEAD} {buffer : Bytes} {proto : Nat} {key : Option Bytes} {rp rp' : Option RP} {sq : Nat}
    {p : Netcode.Packet} (h : Netcode.Packet.decode a buffer proto key rp = (.ok (sq, p), rp')) :
    p.WF ∧ sq < 2 ^ 64 := by
  rcases decode_ok h with ⟨-, rfl, -, -, -, hwf, -⟩ | ⟨k, ty, plain, -, hso, -, rfl, hr, -⟩
  · exact ⟨hwf, by decide⟩
  · exact ⟨(read_ok hr).2.2.1, wireSeq_lt hso.seq_len⟩

/-- Any datagram that decodes re-encodes (same sequence, key, protocol id; any buffer at least 8 bytes larger
    than the datagram: the canonical encoding may spend up to 8 sequence bytes where the datagram spent
    fewer) to bytes that decode to the same sequence and packet. -/
theorem decode_reencode {a : AEAD} (hl : a.Laws) {buffer : Bytes} {proto : Nat} {key : Option Bytes}
    {rp rp' : Option RP} {sq : Nat} {p : Netcode.Packet}
    (h : Netcode.Packet.decode a buffer proto key rp = (.ok (sq, p), rp')) (cap : Nat) (hcap : buffer.length + 8 ≤ cap) :
    ∃ bytes', p.encode a cap proto (key.map fun k => (sq, k)) = .ok bytes' ∧
      Netcode.Packet.decode a bytes' proto key none = (.ok (sq, p), none) := by
  obtain ⟨hwf, hsq⟩ := decode_wf h
  rcases decode_ok h with ⟨-, rfl, -, -, hpt, -, hr⟩ | ⟨k, ty, plain, rfl, hso, -, rfl, hr, -⟩
  · obtain ⟨rest', hrest, -⟩ := read_prefix hr
    cases p with
    | connectionRequest v pid e x d =>
      refine ⟨_, ?_, decode_request_bytes a rfl hwf proto key none⟩
      rw [Netcode.Packet.encode_request_eq, if_pos]
      have := congrArg List.length hrest
      rw [List.length_drop, List.length_append] at this
      omega
    | _ => cases hpt
  · obtain rfl : p.packetType = ty := (read_ok hr).2.1
    obtain ⟨rest', hplain, -⟩ := read_prefix hr
    refine ⟨sealedBytes a p proto (wireSeq buffer) k, ?_,
      decode_sealedBytes a p proto _ k hl hsq hso.not_request hwf none rfl⟩
    rw [Option.map_some, encode_sealed_eq a p cap proto _ k hso.not_request, if_pos]
    have h1 := hl.open_length _ _ _ _ _ hso.opened
    have h2 := congrArg List.length hplain
    rw [List.length_append] at h2
    have h3 := sbr_le (wireSeq buffer)
    have h4 := hso.len
    rw [wireBody, List.length_drop] at h1
    omega

end Packet

end RenetVerif.NcAead
