/-
  Reliable SEND channel: generated `UnackedMessage::new_sliced`, `SendChannelReliable::{new, available_memory,
  can_send_message, send_message, get_packets_to_send, process_message_ack, process_slice_message_ack}` agree with
  `SendRel` of `Renet/Channels.lean`.  The `BTreeMap<u64, UnackedMessage>` is a key-sorted association list on both
  sides (`RustSem.Map` / `SMap`).  The ties themselves are in `Props/SrcTieSendRel.lean`.
-/
import RenetVerif.Generated.Src.SendRel
import RenetVerif.Lemmas.SrcEquiv.Prims
import RenetVerif.Lemmas.SrcEquiv.CommonRepr
import RenetVerif.Lemmas.SrcEquiv.ChanLemmas
import RenetVerif.Lemmas.SrcEquiv.Loops
namespace RenetVerif.SrcEquiv
open RenetVerif RenetVerif.RustSem

section SendRel
open Src.renet.channel.reliable

abbrev SUnacked := Src.renet.channel.reliable.UnackedMessage

def reprU : Unacked → SUnacked
  | .small m ls => .Small (toNats m) ls
  | .sliced m n a nx acked ls => .Sliced (toNats m) n a nx acked ls

/-- model table ↦ generated `BTreeMap<u64, UnackedMessage>` -/
def reprUM (m : SMap Unacked) : RustSem.Map SUnacked := m.map fun p => (p.1, reprU p.2)

def reprSR (s : SendRel) : SendChannelReliable := ⟨s.ch, reprUM s.unacked, s.nextId, s.resend, s.maxMem, s.mem⟩

theorem find_reprUM (m : SMap Unacked) (k : Nat) :
    RustSem.Map.find? (reprUM m) k = (SMap.find? m k).map reprU := find_mapVals reprU m k

theorem contains_reprUM (m : SMap Unacked) (k : Nat) :
    RustSem.Map.contains_key (reprUM m) k = (SMap.find? m k).isSome := by
  simp [RustSem.Map.contains_key, find_reprUM]

theorem insert_reprUM (m : SMap Unacked) (k : Nat) (u : Unacked) :
    RustSem.Map.insert (reprUM m) k (reprU u) = reprUM (SMap.insert m k u) := insert_mapVals reprU m k u

theorem insert_reprUM_sliced (t : SMap Unacked) (k : Nat) (m : Bytes) (n a nx : Nat) (acked : List Bool) (ls : List (Option Nat)) :
    RustSem.Map.insert (reprUM t) k (UnackedMessage.Sliced (toNats m) n a nx acked ls)
      = reprUM (SMap.insert t k (.sliced m n a nx acked ls)) := insert_reprUM t k (.sliced m n a nx acked ls)
theorem insert_reprUM_small (t : SMap Unacked) (k : Nat) (m : Bytes) (ls : Option Nat) :
    RustSem.Map.insert (reprUM t) k (UnackedMessage.Small (toNats m) ls)
      = reprUM (SMap.insert t k (.small m ls)) := insert_reprUM t k (.small m ls)

theorem remove_reprUM (m : SMap Unacked) (k : Nat) :
    RustSem.Map.remove (reprUM m) k = reprUM (SMap.erase m k) := remove_mapVals reprU m k

/-! ### get_packets_to_send: the model's loops as single steps -/

abbrev SlSt := List (Option Nat) × Nat × GP

/-- is a (re)send due?  (`last_sent` empty, or at least `resend_time` ago) -/
def dueAt (now resend : Nat) : Option Nat → Bool
  | some t => !decide (now - t < resend)
  | none => true

/-- one round of `slicedLoop` once the budget check has passed -/
def slStep (ch id now resend : Nat) (msg : Bytes) (n start : Nat) (acked : List Bool) (i0 : Nat) : SlSt → SlSt
  | (lastSent, next, gp) =>
    let i := (start + i0) % n
    if acked.getD i false then (lastSent, next, gp) else
    if dueAt now resend (lastSent.getD i none) = false then (lastSent, next, gp) else
    (lastSent.set i (some now), i + 1 % n,
      { gp with
        avail := gp.avail - (sliceBytes msg n i).length,
        packets := gp.packets ++ [Packet.reliableSlice gp.seq ch ⟨id, i, n, sliceBytes msg n i⟩],
        seq := gp.seq + 1 })

theorem slicedLoop_cons (ch id now resend : Nat) (msg : Bytes) (n start : Nat) (acked : List Bool) (i0 : Nat)
    (rest : List Nat) (st : SlSt) :
    slicedLoop ch id now resend msg n start acked (i0 :: rest) st =
      if st.2.2.avail < C.SLICE_SIZE then st
      else slicedLoop ch id now resend msg n start acked rest (slStep ch id now resend msg n start acked i0 st) := by
  obtain ⟨ls, nx, gp⟩ := st
  rw [slicedLoop]
  simp only [slStep, dueAt]
  split
  · rfl
  · split
    · rfl
    · cases hd : ls.getD ((start + i0) % n) none with
      | none => simp
      | some t =>
        by_cases hlt : now - t < resend <;> simp [hlt]

def relStep (ch now resend : Nat) : Nat × Unacked → GP → (Nat × Unacked) × GP
  | (id, .small m lastSent), gp =>
    if gp.avail < m.length ∨ dueAt now resend lastSent = false then ((id, .small m lastSent), gp) else
    let gp := { gp with avail := gp.avail - m.length }
    let ser := m.length + varintLen m.length + varintLen id
    let gp := if gp.smallBytes + ser > C.SLICE_SIZE then flushSmall ch gp else gp
    ((id, .small m (some now)), { gp with smallBytes := gp.smallBytes + ser, small := gp.small ++ [(id, m)] })
  | (id, .sliced m n numAcked next acked lastSent), gp =>
    let r := slicedLoop ch id now resend m n next acked (List.range n) (lastSent, next, gp)
    ((id, .sliced m n numAcked r.2.1 acked r.1), r.2.2)

theorem relLoop_cons (ch now resend : Nat) (p : Nat × Unacked) (rest : SMap Unacked) (gp : GP) :
    relLoop ch now resend (p :: rest) gp =
      ((relStep ch now resend p gp).1 :: (relLoop ch now resend rest (relStep ch now resend p gp).2).1,
       (relLoop ch now resend rest (relStep ch now resend p gp).2).2) := by
  obtain ⟨id, u⟩ := p
  cases u with
  | small m ls =>
    cases ls with
    | none =>
      simp only [relLoop, relStep, dueAt]
      by_cases h : gp.avail < m.length <;> simp [h]
    | some t =>
      simp only [relLoop, relStep, dueAt]
      by_cases h : gp.avail < m.length <;> by_cases h2 : now - t < resend <;> simp [h, h2]
  | sliced m n a nx acked ls =>
    simp only [relLoop, relStep]

/-- what `get_packets_to_send` relies on for one table entry: sizes that fit the integer types, no `last_sent` in
    the future, and for a sliced message vectors of `num_slices` entries over a payload of that many slices -/
def UWf (now : Nat) : Nat × Unacked → Prop
  | (id, .small m ls) => id ≤ Varint.MAX ∧ m.length ≤ Varint.MAX ∧ ∀ t, ls = some t → t ≤ now
  | (_, .sliced m n _ nx acked ls) =>
    acked.length = n ∧ ls.length = n ∧ (n - 1) * C.SLICE_SIZE ≤ m.length ∧ m.length ≤ n * C.SLICE_SIZE ∧
    n * C.SLICE_SIZE < 2 ^ 64 ∧ nx + n < 2 ^ 64 ∧ ∀ t ∈ ls, ∀ t', t = some t' → t' ≤ now

/-- packets the table can produce at most (bound for the `packet_sequence` counter) -/
def needR : SMap Unacked → Nat
  | [] => 0
  | (_, .small ..) :: r => 1 + needR r
  | (_, .sliced _ n ..) :: r => n + needR r

/-- invariant of the slice loop with `k` rounds to go -/
structure SInv (now n L : Nat) (sm0 : List (Nat × Bytes)) (smb0 k : Nat) (st : SlSt) : Prop where
  len : st.1.length = n
  past : ∀ t ∈ st.1, ∀ t', t = some t' → t' ≤ now
  seq : st.2.2.seq + k ≤ L
  small : st.2.2.small = sm0
  smallBytes : st.2.2.smallBytes = smb0

theorem SInv.weaken {now n L : Nat} {sm0 : List (Nat × Bytes)} {smb0 k k' : Nat} {st : SlSt}
    (h : SInv now n L sm0 smb0 k st) (hk : k' ≤ k) : SInv now n L sm0 smb0 k' st :=
  ⟨h.len, h.past, by have := h.seq; omega, h.small, h.smallBytes⟩

theorem SInv_step {now n L : Nat} {sm0 : List (Nat × Bytes)} {smb0 k : Nat} {st : SlSt}
    (ch id resend : Nat) (msg : Bytes) (start : Nat) (acked : List Bool) (i0 : Nat)
    (h : SInv now n L sm0 smb0 (k + 1) st) : SInv now n L sm0 smb0 k (slStep ch id now resend msg n start acked i0 st) := by
  obtain ⟨ls, nx, gp⟩ := st
  obtain ⟨h1, h2, h3, h4, h5⟩ := h
  simp only at h1 h2 h3 h4 h5
  simp only [slStep]
  split
  · exact ⟨h1, h2, by simp only; omega, h4, h5⟩
  · split
    · exact ⟨h1, h2, by simp only; omega, h4, h5⟩
    · refine ⟨by simp [h1], ?_, by simp only; omega, h4, h5⟩
      intro t ht t' ht'
      rcases List.mem_or_eq_of_mem_set ht with hm | rfl
      · exact h2 t hm t' ht'
      · cases ht'; exact Nat.le_refl _

theorem slicedLoop_inv {now n L : Nat} {sm0 : List (Nat × Bytes)} {smb0 : Nat}
    (ch id resend : Nat) (msg : Bytes) (start : Nat) (acked : List Bool) :
    ∀ (l : List Nat) (st : SlSt), SInv now n L sm0 smb0 l.length st →
      SInv now n L sm0 smb0 0 (slicedLoop ch id now resend msg n start acked l st) := by
  intro l
  induction l with
  | nil => intro st h; rw [slicedLoop]; exact h
  | cons i0 r ih =>
    intro st h
    rw [slicedLoop_cons]
    split
    · exact h.weaken (Nat.zero_le _)
    · exact ih _ (SInv_step ch id resend msg start acked i0 h)

/-- invariant of the `'messages` loop before the entries `rest` -/
structure RInv (gp : GP) (rest : SMap Unacked) : Prop where
  seq : gp.seq + needR rest + 1 < 2 ^ 64
  small : gp.smallBytes < 2 ^ 63

theorem RInv_step {now : Nat} (ch resend : Nat) (p : Nat × Unacked) (rest : SMap Unacked) (gp : GP)
    (hwf : UWf now p) (h : RInv gp (p :: rest)) : RInv (relStep ch now resend p gp).2 rest := by
  obtain ⟨id, u⟩ := p
  obtain ⟨h1, h2⟩ := h
  cases u with
  | small m ls =>
    obtain ⟨w1, w2, _⟩ := hwf
    simp only [needR] at h1
    have hv1 := varintLen_le m.length
    have hv2 := varintLen_le id
    unfold Varint.MAX at w1 w2
    simp only [relStep]
    split
    · exact ⟨by simp only; omega, h2⟩
    · split
      · exact ⟨by simp only [flushSmall]; omega, by simp only [flushSmall]; omega⟩
      · rename_i hb
        simp only [C.SLICE_SIZE] at hb
        exact ⟨by simp only; omega, by simp only; omega⟩
  | sliced m n a nx acked ls =>
    simp only [needR] at h1
    simp only [relStep]
    have hi : SInv now n (gp.seq + n) gp.small gp.smallBytes (List.range n).length (ls, nx, gp) :=
      ⟨hwf.2.1, hwf.2.2.2.2.2.2, by simp, rfl, rfl⟩
    have hf := slicedLoop_inv ch id resend m nx acked (List.range n) (ls, nx, gp) hi
    exact ⟨by have := hf.seq; omega, by rw [hf.smallBytes]; exact h2⟩

theorem RInv_loop {now : Nat} (ch resend : Nat) : ∀ (rest : SMap Unacked) (gp : GP),
    (∀ q ∈ rest, UWf now q) → RInv gp rest → RInv (relLoop ch now resend rest gp).2 [] := by
  intro rest
  induction rest with
  | nil => intro gp _ h; simpa [relLoop] using h
  | cons p r ih =>
    intro gp hwf h
    rw [relLoop_cons]
    exact ih _ (fun q hq => hwf q (by simp [hq])) (RInv_step ch resend p r gp (hwf p (by simp)) h)

abbrev SigI := Nat × Nat × List SPacket × SendChannelReliable
abbrev SigO := Nat × Nat × List SPacket × SendChannelReliable × List (Nat × List Nat) × Nat

/-- the generated channel with table `t` (only the table changes during `get_packets_to_send`) -/
def chanOf (s0 : SendRel) (t : SMap Unacked) : SendChannelReliable :=
  ⟨s0.ch, reprUM t, s0.nextId, s0.resend, s0.maxMem, s0.mem⟩

/-- the table while the slice loop works on the entry after `pre` -/
def tableAt (pre : SMap Unacked) (id : Nat) (m : Bytes) (n a : Nat) (acked : List Bool) (post : SMap Unacked)
    (st : SlSt) : SMap Unacked :=
  pre ++ (id, .sliced m n a st.2.1 acked st.1) :: post

/-- tuple `(available_bytes, packet_sequence, packets, self)` of the generated slice loop -/
def innerSt (s0 : SendRel) (pre : SMap Unacked) (id : Nat) (m : Bytes) (n a : Nat) (acked : List Bool)
    (post : SMap Unacked) (st : SlSt) : SigI :=
  (st.2.2.avail, st.2.2.seq, st.2.2.packets.map reprPacket, chanOf s0 (tableAt pre id m n a acked post st))

/-- tuple `(available_bytes, packet_sequence, packets, self, small_messages, small_messages_bytes)` of the generated
    `'messages` loop -/
def outerSt (s0 : SendRel) (t : SMap Unacked) (gp : GP) : SigO :=
  (gp.avail, gp.seq, gp.packets.map reprPacket, chanOf s0 t, gp.small.map (fun x => (x.1, toNats x.2)), gp.smallBytes)

theorem index_reprUM_at {ε ρ : Type} (pre : SMap Unacked) (p : Nat × Unacked) (post : SMap Unacked) (site : String) :
    (RustSem.index (reprUM (pre ++ p :: post)) pre.length site : Exec ε ρ _) = .val (p.1, reprU p.2) := by
  apply index_val
  simp [reprUM]

theorem set_reprUM_sliced {ε ρ : Type} (pre : SMap Unacked) (p : Nat × Unacked) (post : SMap Unacked) (site : String)
    (id : Nat) (m : Bytes) (n a nx : Nat) (acked : List Bool) (ls : List (Option Nat)) :
    (RustSem.set (reprUM (pre ++ p :: post)) pre.length (id, UnackedMessage.Sliced (toNats m) n a nx acked ls) site
      : Exec ε ρ _) = .val (reprUM (pre ++ (id, .sliced m n a nx acked ls) :: post)) := by
  rw [set_val (by simp [reprUM])]
  simp [reprUM, reprU]

theorem set_reprUM_small {ε ρ : Type} (pre : SMap Unacked) (p : Nat × Unacked) (post : SMap Unacked) (site : String)
    (id : Nat) (m : Bytes) (ls : Option Nat) :
    (RustSem.set (reprUM (pre ++ p :: post)) pre.length (id, UnackedMessage.Small (toNats m) ls) site
      : Exec ε ρ _) = .val (reprUM (pre ++ (id, .small m ls) :: post)) := by
  rw [set_val (by simp [reprUM])]
  simp [reprUM, reprU]

/-- does the slice loop leave with `continue 'messages` (budget below one slice)? -/
def slicedExit (ch id now resend : Nat) (msg : Bytes) (n start : Nat) (acked : List Bool) : List Nat → SlSt → Bool
  | [], _ => false
  | i0 :: rest, st =>
    if st.2.2.avail < C.SLICE_SIZE then true
    else slicedExit ch id now resend msg n start acked rest (slStep ch id now resend msg n start acked i0 st)

/-- the slice loop `for i in 0..*num_slices`: ends normally or with `continue 'messages`, both in the model's state -/
theorem sliced_loop {ε ρ : Type} (s0 : SendRel) (pre post : SMap Unacked) (id now : Nat) (m : Bytes) (n a start : Nat)
    (acked : List Bool) (L : Nat) (sm0 : List (Nat × Bytes)) (smb0 : Nat)
    (body : Nat → SigI → Exec ε (LoopExit (LoopExit ρ SigO) SigI) SigI)
    (hb : ∀ (i0 k : Nat) (st : SlSt), i0 < n → SInv now n L sm0 smb0 (k + 1) st →
      (st.2.2.avail < C.SLICE_SIZE →
        body i0 (innerSt s0 pre id m n a acked post st) =
          .ret (.ret (.cont (outerSt s0 (tableAt pre id m n a acked post st) st.2.2)))) ∧
      (¬ st.2.2.avail < C.SLICE_SIZE →
        GoesOn (body i0 (innerSt s0 pre id m n a acked post st))
          (innerSt s0 pre id m n a acked post (slStep s0.ch id now s0.resend m n start acked i0 st)))) :
    ∀ (k i0 : Nat) (st : SlSt), i0 + k ≤ n → SInv now n L sm0 smb0 k st →
      RustSem.forRangeExit.loop body k i0 (innerSt s0 pre id m n a acked post st) =
        if slicedExit s0.ch id now s0.resend m n start acked (List.range' i0 k) st then
          .ret (.cont (outerSt s0
            (tableAt pre id m n a acked post (slicedLoop s0.ch id now s0.resend m n start acked (List.range' i0 k) st))
            (slicedLoop s0.ch id now s0.resend m n start acked (List.range' i0 k) st).2.2))
        else
          .val (innerSt s0 pre id m n a acked post
            (slicedLoop s0.ch id now s0.resend m n start acked (List.range' i0 k) st)) := by
  intro k
  induction k with
  | zero =>
    intro i0 st _ _
    simp [RustSem.forRangeExit.loop, List.range', slicedLoop, slicedExit]
  | succ k ih =>
    intro i0 st hi hinv
    obtain ⟨hA, hB⟩ := hb i0 k st (by omega) hinv
    rw [RustSem.forRangeExit.loop, List.range', slicedLoop_cons, slicedExit]
    by_cases hav : st.2.2.avail < C.SLICE_SIZE
    · rw [hA hav, if_pos hav, if_pos hav]
      simp
    · rw [if_neg hav, if_neg hav]
      rcases hB hav with h | h <;> rw [h] <;>
        exact ih (i0 + 1) _ (by omega) (SInv_step s0.ch id s0.resend m start acked i0 hinv)

/-- the `'messages` loop over the positions of the table -/
theorem rel_loop {ε ρ : Type} (s0 : SendRel) (now : Nat)
    (body : Nat → SigO → Exec ε (LoopExit ρ SigO) SigO)
    (hb : ∀ (pre : SMap Unacked) (p : Nat × Unacked) (post : SMap Unacked) (gp : GP), UWf now p → RInv gp (p :: post) →
      GoesOn (body pre.length (outerSt s0 (pre ++ p :: post) gp))
        (outerSt s0 (pre ++ (relStep s0.ch now s0.resend p gp).1 :: post) (relStep s0.ch now s0.resend p gp).2)) :
    ∀ (post pre : SMap Unacked) (gp : GP) (i : Nat), i = pre.length → (∀ q ∈ post, UWf now q) → RInv gp post →
      RustSem.forRangeExit.loop body post.length i (outerSt s0 (pre ++ post) gp) =
        .val (outerSt s0 (pre ++ (relLoop s0.ch now s0.resend post gp).1) (relLoop s0.ch now s0.resend post gp).2) := by
  intro post
  induction post with
  | nil =>
    intro pre gp i _ _ _
    simp [RustSem.forRangeExit.loop, relLoop]
  | cons p post ih =>
    intro pre gp i hi hwf hinv
    subst hi
    have hp := hwf p (by simp)
    have hstep := RInv_step s0.ch s0.resend p post gp hp hinv
    have hwf' : ∀ q ∈ post, UWf now q := fun q hq => hwf q (by simp [hq])
    have key := ih (pre ++ [(relStep s0.ch now s0.resend p gp).1]) (relStep s0.ch now s0.resend p gp).2 (pre.length + 1)
      (by simp) hwf' hstep
    simp only [List.append_assoc, List.singleton_append] at key
    rw [List.length_cons, RustSem.forRangeExit.loop, relLoop_cons]
    rcases hb pre p post gp hp hinv with h | h <;> rw [h] <;> exact key

theorem acc_next (m : List Nat) (n a nx : Nat) (acked : List Bool) (ls : List (Option Nat)) :
    UnackedMessage.Sliced.next_slice_to_send? (UnackedMessage.Sliced m n a nx acked ls) = some nx := rfl
theorem acc_num (m : List Nat) (n a nx : Nat) (acked : List Bool) (ls : List (Option Nat)) :
    UnackedMessage.Sliced.num_slices? (UnackedMessage.Sliced m n a nx acked ls) = some n := rfl
theorem acc_acked (m : List Nat) (n a nx : Nat) (acked : List Bool) (ls : List (Option Nat)) :
    UnackedMessage.Sliced.acked? (UnackedMessage.Sliced m n a nx acked ls) = some acked := rfl
theorem acc_last (m : List Nat) (n a nx : Nat) (acked : List Bool) (ls : List (Option Nat)) :
    UnackedMessage.Sliced.last_sent? (UnackedMessage.Sliced m n a nx acked ls) = some ls := rfl
theorem acc_msg (m : List Nat) (n a nx : Nat) (acked : List Bool) (ls : List (Option Nat)) :
    UnackedMessage.Sliced.message? (UnackedMessage.Sliced m n a nx acked ls) = some m := rfl
theorem dsub_val {ε ρ : Type} {a b : Nat} {site : String} (h : b ≤ a) :
    (RustSem.Duration.sub a b site : Exec ε ρ Nat) = .val (a - b) := by
  simp [RustSem.Duration.sub, h]

/-- The resend check of both kinds of entry, stated on the `match` the generated function was compiled to, so that `simp`
    finds it there. -/
theorem due_check {ε ρ : Type} (now resend : Nat) (o : Option Nat) (x : ρ) (site : String)
    (dec : ∀ d, Decidable (d < resend)) (ho : ∀ t, o = some t → t ≤ now) :
    (SendChannelReliable.get_packets_to_send.match_1 (fun _ => Exec ε ρ Unit) o
      (fun t => (RustSem.Duration.sub now t site).bind fun d =>
        (if @decide (d < resend) (dec d) = true then Exec.ret x else Exec.val ()).bind fun _ => Exec.val ())
      fun _ => Exec.val ()) = if dueAt now resend o = false then .ret x else .val () := by
  cases o with
  | none => rfl
  | some t =>
    simp only [dsub_val (ho t rfl), Exec.bind_val', dueAt]
    by_cases h : now - t < resend <;> simp [h, Exec.bind_ret', Exec.bind_val']

theorem ite_val {ε ρ α : Type} (c : Prop) [Decidable c] (a b : α) :
    (if c then Exec.val a else Exec.val b : Exec ε ρ α) = .val (if c then a else b) := by
  split <;> rfl

theorem getElem?_getD {α : Type} {l : List α} {i : Nat} (d : α) (h : i < l.length) : l[i]? = some (l.getD i d) := by
  rw [List.getD_eq_getElem?_getD, List.getElem?_eq_getElem h]; rfl

theorem slice_bounds {n i : Nat} (hi : i < n) (h64 : n * C.SLICE_SIZE < 2 ^ 64) :
    i * C.SLICE_SIZE < 2 ^ 64 ∧ i + 1 < 2 ^ 64 ∧ (i + 1) * C.SLICE_SIZE < 2 ^ 64 ∧ i + 1 % n < 2 ^ 64 := by
  have := Nat.mod_le 1 n
  simp only [C.SLICE_SIZE] at *
  omega

theorem sliceBytes_len_le (m : Bytes) (n i : Nat) (hi : i < n) (h4 : m.length ≤ n * C.SLICE_SIZE) :
    (sliceBytes m n i).length ≤ C.SLICE_SIZE := by
  unfold sliceBytes
  simp only [List.length_take, List.length_drop, C.SLICE_SIZE] at *
  split <;> omega

/-- `message.slice(start..end)` of `get_packets_to_send` is slice `i` of `n` of the model -/
theorem slice_sliceBytes {ε ρ : Type} (m : Bytes) (n i : Nat) (site : String) (hi : i < n)
    (h3 : (n - 1) * C.SLICE_SIZE ≤ m.length) :
    (RustSem.slice (toNats m) (i * C.SLICE_SIZE) (if i = n - 1 then m.length else (i + 1) * C.SLICE_SIZE) site
      : Exec ε ρ _) = .val (toNats (sliceBytes m n i)) := by
  have hab : i * C.SLICE_SIZE ≤ (if i = n - 1 then m.length else (i + 1) * C.SLICE_SIZE) ∧
      (if i = n - 1 then m.length else (i + 1) * C.SLICE_SIZE) ≤ m.length := by
    simp only [C.SLICE_SIZE] at h3 ⊢
    split <;> omega
  rw [slice_toNats m _ _ site hab.1 hab.2]
  rfl

end SendRel
end RenetVerif.SrcEquiv
