/-
  C16 (wire round trip) and C06 (hostile bytes never panic) stated DIRECTLY about the generated
  `renet::packet::Packet::{to_bytes, from_bytes}` of `Generated/Src/Packet.lean` (derived from `renet/src/packet.rs`).
  The model (`RenetVerif.Packet`, `Packet.enc/decode`) appears only in the proofs:
  `SrcTiePacket` (generated = model) ∘ `Props/C16.packet_roundtrip`.

  `WfPacket gp` is an intrinsic, decidable-by-inspection predicate on the GENERATED packet type: what every packet the
  library builds satisfies (varint fields ≤ 2^62-1, channel id a `u8`, < 65536 messages, payload bytes `< 256`, slice
  counts / sizes within the limits `from_bytes` enforces, ack ranges ascending non-empty non-adjacent).
-/
import RenetVerif.Props.SrcTiePacket
import RenetVerif.Props.C16
import RenetVerif.Lemmas.SrcCorollaries
namespace RenetVerif.SrcCor
open RenetVerif RenetVerif.SrcEquiv RenetVerif.RustSem

def absSlice (s : Src.renet.packet.Slice) : Slice := ⟨s.message_id, s.slice_index, s.num_slices, ofNats s.payload⟩

def absPacket : SPacket → RenetVerif.Packet
  | .SmallReliable s c m => .smallReliable s c (m.map fun x => (x.1, ofNats x.2))
  | .SmallUnreliable s c m => .smallUnreliable s c (m.map ofNats)
  | .ReliableSlice s c sl => .reliableSlice s c (absSlice sl)
  | .UnreliableSlice s c sl => .unreliableSlice s c (absSlice sl)
  | .Ack s r => .ack s (pairs r)

def PacketBytesOk : SPacket → Prop
  | .SmallReliable _ _ m => ∀ x ∈ m, BytesOk x.2
  | .SmallUnreliable _ _ m => ∀ x ∈ m, BytesOk x
  | .ReliableSlice _ _ sl => BytesOk sl.payload
  | .UnreliableSlice _ _ sl => BytesOk sl.payload
  | .Ack _ _ => True

/-- intrinsic well-formedness of a generated packet (`Varint.MAX = 2^62-1`, `C.SLICE_SIZE = 1200`,
    `C.MAX_NUM_SLICES` are the constants extracted from the Rust source) -/
def WfPacket : SPacket → Prop
  | .SmallReliable seq ch msgs => seq ≤ Varint.MAX ∧ ch < 256 ∧ msgs.length < 65536 ∧
      ∀ x ∈ msgs, x.1 ≤ Varint.MAX ∧ x.2.length ≤ Varint.MAX ∧ BytesOk x.2
  | .SmallUnreliable seq ch msgs => seq ≤ Varint.MAX ∧ ch < 256 ∧ msgs.length < 65536 ∧
      ∀ x ∈ msgs, x.length ≤ Varint.MAX ∧ BytesOk x
  | .ReliableSlice seq ch sl => seq ≤ Varint.MAX ∧ ch < 256 ∧ sl.message_id ≤ Varint.MAX ∧ sl.slice_index ≤ Varint.MAX ∧
      1 ≤ sl.num_slices ∧ sl.num_slices ≤ C.MAX_NUM_SLICES ∧ 1 ≤ sl.payload.length ∧ sl.payload.length ≤ C.SLICE_SIZE ∧
      BytesOk sl.payload
  | .UnreliableSlice seq ch sl => seq ≤ Varint.MAX ∧ ch < 256 ∧ sl.message_id ≤ Varint.MAX ∧
      sl.slice_index ≤ Varint.MAX ∧ 1 ≤ sl.num_slices ∧ sl.num_slices ≤ C.MAX_NUM_SLICES ∧
      sl.payload.length ≤ Varint.MAX ∧ BytesOk sl.payload
  | .Ack seq ranges => seq ≤ Varint.MAX ∧ ranges ≠ [] ∧ RangesWF ranges ∧ ∀ r ∈ ranges, r.«end» ≤ Varint.MAX + 1

theorem reprSlice_absSlice (s : Src.renet.packet.Slice) (h : BytesOk s.payload) : reprSlice (absSlice s) = s := by
  cases s; simp only [reprSlice, absSlice]; rw [toNats_ofNats h]

theorem absSlice_reprSlice (s : Slice) : absSlice (reprSlice s) = s := by
  cases s; simp only [reprSlice, absSlice]; rw [ofNats_toNats]

theorem reprRange_pairs (l : List RustSem.Range) : (pairs l).map reprRange = l := map_range_pairs l

theorem pairs_reprRange (l : List AckRange) : pairs (l.map reprRange) = l := pairs_map_range l

theorem map_pair_toNats_ofNats (m : List (Nat × List Nat)) (h : ∀ x ∈ m, BytesOk x.2) :
    (m.map fun x => (x.1, ofNats x.2)).map (fun x => (x.1, toNats x.2)) = m :=
  map_map_cancel m fun x hx => congrArg (Prod.mk x.1) (toNats_ofNats (h x hx))

theorem reprPacket_absPacket (gp : SPacket) (h : PacketBytesOk gp) : reprPacket (absPacket gp) = gp := by
  cases gp with
  | SmallReliable s c m => simp only [absPacket, reprPacket]; rw [map_pair_toNats_ofNats m h]
  | SmallUnreliable s c m => simp only [absPacket, reprPacket]; rw [map_toNats_ofNats m h]
  | ReliableSlice s c sl => simp only [absPacket, reprPacket]; rw [reprSlice_absSlice sl h]
  | UnreliableSlice s c sl => simp only [absPacket, reprPacket]; rw [reprSlice_absSlice sl h]
  | Ack s r => simp only [absPacket, reprPacket]; rw [reprRange_pairs]

theorem absPacket_reprPacket (p : RenetVerif.Packet) : absPacket (reprPacket p) = p := by
  cases p with
  | smallReliable s c m => simp [absPacket, reprPacket, Function.comp_def, ofNats_toNats]
  | smallUnreliable s c m => simp [absPacket, reprPacket, Function.comp_def, ofNats_toNats]
  | reliableSlice s c sl => simp only [absPacket, reprPacket, absSlice_reprSlice]
  | unreliableSlice s c sl => simp only [absPacket, reprPacket, absSlice_reprSlice]
  | ack s r => simp only [absPacket, reprPacket, pairs_reprRange]

theorem wfPacket_bytesOk {gp : SPacket} (h : WfPacket gp) : PacketBytesOk gp := by
  cases gp with
  | SmallReliable s c m => exact fun x hx => (h.2.2.2 x hx).2.2
  | SmallUnreliable s c m => exact fun x hx => (h.2.2.2 x hx).2
  | ReliableSlice s c sl => exact h.2.2.2.2.2.2.2.2
  | UnreliableSlice s c sl => exact h.2.2.2.2.2.2.2
  | Ack s r => trivial

theorem wf_absPacket {gp : SPacket} (h : WfPacket gp) : (absPacket gp).WF := by
  cases gp with
  | SmallReliable s c m =>
    obtain ⟨h1, h2, h3, h4⟩ := h
    refine ⟨h1, h2, by simpa using h3, ?_⟩
    intro x hx
    simp only [List.mem_map] at hx
    obtain ⟨y, hy, rfl⟩ := hx
    exact ⟨(h4 y hy).1, by simpa [ofNats_length] using (h4 y hy).2.1⟩
  | SmallUnreliable s c m =>
    obtain ⟨h1, h2, h3, h4⟩ := h
    refine ⟨h1, h2, by simpa using h3, ?_⟩
    intro x hx
    simp only [List.mem_map] at hx
    obtain ⟨y, hy, rfl⟩ := hx
    simpa [ofNats_length] using (h4 y hy).1
  | ReliableSlice s c sl =>
    obtain ⟨h1, h2, h3, h4, h5, h6, h7, h8, _⟩ := h
    exact ⟨h1, h2, h3, h4, h5, h6, by simpa [absSlice, ofNats_length] using h7, by simpa [absSlice, ofNats_length] using h8⟩
  | UnreliableSlice s c sl =>
    obtain ⟨h1, h2, h3, h4, h5, h6, h7, _⟩ := h
    exact ⟨h1, h2, h3, h4, h5, h6, by simpa [absSlice, ofNats_length] using h7⟩
  | Ack s r =>
    obtain ⟨h1, h2, h3, h4⟩ := h
    refine ⟨h1, Acks.ackWF_of_wf _ (by simpa [pairs] using h2) ((rangesWF_iff r).1 h3) ?_⟩
    intro x hx
    simp only [pairs, List.mem_map] at hx
    obtain ⟨y, hy, rfl⟩ := hx
    exact h4 y hy

theorem to_bytes_of_enc (p : RenetVerif.Packet) (bytes : Bytes) (henc : p.enc = .ok bytes) (buf : List Nat)
    (hfit : bytes.length ≤ buf.length) :
    ∃ b', Src.renet.packet.Packet.to_bytes (reprPacket p) (OctetsMut.with_slice buf) = .ok (b', bytes.length) := by
  have ht := SrcTie.packet_to_bytes p (OctetsMut.with_slice buf) (Nat.zero_le _) bytes henc
  simp only [OctetsMut.with_slice, Nat.zero_add] at ht
  rw [if_pos hfit] at ht
  exact ⟨_, forget_ok_inv ht⟩

theorem roundtrip_repr (p : RenetVerif.Packet) (hwf : p.WF) (buf : List Nat) (b' : OctetsMut) (n : Nat)
    (hw : Src.renet.packet.Packet.to_bytes (reprPacket p) (OctetsMut.with_slice buf) = .ok (b', n)) :
    n ≤ buf.length ∧ b'.off = n ∧ b'.buf.length = buf.length ∧
    Src.renet.packet.Packet.from_bytes (Octets.with_slice (b'.buf.take n)) = .ok (⟨b'.buf.take n, n⟩, reprPacket p) := by
  obtain ⟨bytes, henc, hdec⟩ := RenetVerif.Packet.decode_enc p hwf
  have hd : RenetVerif.Packet.decode bytes = .ok (p, []) := by simpa using hdec []
  have hl : (toNats bytes).length = bytes.length := toNats_length _
  have ht := SrcTie.packet_to_bytes p (OctetsMut.with_slice buf) (Nat.zero_le _) bytes henc
  rw [hw] at ht
  simp only [OctetsMut.with_slice, Nat.zero_add, List.take_zero, List.nil_append] at ht
  split at ht
  · rename_i hfit
    obtain ⟨rfl, rfl⟩ := Prod.mk.inj (Res.ok.inj ht)
    have hf := SrcTie.packet_from_bytes [] bytes
    rw [hd] at hf
    refine ⟨hfit, rfl, by simp [hl]; omega, ?_⟩
    simp only [List.take_left' hl]
    exact forget_ok_inv hf
  · cases ht

end RenetVerif.SrcCor

namespace RenetVerif.SrcProps
open RenetVerif RenetVerif.SrcEquiv RenetVerif.SrcTie RenetVerif.SrcCor RenetVerif.RustSem

/-- **C16/C06, `to_bytes` is total on well-formed packets.**  On a fresh buffer of ANY size the generated `to_bytes`
    does not panic; its only failure is `Err(BufferTooShort)`. -/
theorem packet_to_bytes_total (gp : SPacket) (h : WfPacket gp) (buf : List Nat) :
    (∃ b' n, Src.renet.packet.Packet.to_bytes gp (OctetsMut.with_slice buf) = .ok (b', n)) ∨
    (∃ b', Src.renet.packet.Packet.to_bytes gp (OctetsMut.with_slice buf) = .err (.BufferTooShort, b')) := by
  obtain ⟨bytes, henc, _⟩ := C16.packet_roundtrip _ (wf_absPacket h)
  have ht := packet_to_bytes (absPacket gp) (OctetsMut.with_slice buf) (Nat.zero_le _) bytes henc
  rw [reprPacket_absPacket gp (wfPacket_bytesOk h)] at ht
  split at ht
  · exact .inl ⟨_, _, forget_ok_inv ht⟩
  · exact .inr (forget_err_inv ht)

/-- **C16, round trip of the generated code.**  Whenever the generated `to_bytes` of a well-formed packet succeeds on a
    fresh buffer, writing `n` bytes, the generated `from_bytes` on exactly those `n` bytes returns the packet
    (and has consumed all `n` bytes). -/
theorem packet_roundtrip (gp : SPacket) (h : WfPacket gp) (buf : List Nat) (b' : OctetsMut) (n : Nat)
    (hw : Src.renet.packet.Packet.to_bytes gp (OctetsMut.with_slice buf) = .ok (b', n)) :
    n ≤ buf.length ∧ b'.off = n ∧ b'.buf.length = buf.length ∧
    Src.renet.packet.Packet.from_bytes (Octets.with_slice (b'.buf.take n)) = .ok (⟨b'.buf.take n, n⟩, gp) := by
  have := roundtrip_repr (absPacket gp) (wf_absPacket h) buf b' n
    (by rw [reprPacket_absPacket gp (wfPacket_bytesOk h)]; exact hw)
  rwa [reprPacket_absPacket gp (wfPacket_bytesOk h)] at this

/-- both together: on a fresh buffer of ANY size a well-formed packet is either written and read back as itself, or
    rejected with `Err(BufferTooShort)` (for the packets the channels build the second case does not occur on a buffer
    of 1300 bytes: `SrcPropsSendUnrel.send_unrel_packets_fit`, `SrcPropsSendRel.send_rel_packets_roundtrip`). -/
theorem packet_roundtrip_exists (gp : SPacket) (h : WfPacket gp) (buf : List Nat) :
    (∃ b' n, Src.renet.packet.Packet.to_bytes gp (OctetsMut.with_slice buf) = .ok (b', n) ∧
      Src.renet.packet.Packet.from_bytes (Octets.with_slice (b'.buf.take n)) = .ok (⟨b'.buf.take n, n⟩, gp)) ∨
    (∃ b', Src.renet.packet.Packet.to_bytes gp (OctetsMut.with_slice buf) = .err (.BufferTooShort, b')) := by
  rcases packet_to_bytes_total gp h buf with ⟨b', n, hw⟩ | he
  · exact .inl ⟨b', n, hw, (packet_roundtrip gp h buf b' n hw).2.2.2⟩
  · exact .inr he

/-- **C06, hostile input.**  The generated `from_bytes` never panics: on EVERY byte list (every element `< 256`) and
    every cursor position inside it, it returns a packet or an `Err`. -/
theorem packet_from_bytes_never_panics (l : List Nat) (hl : BytesOk l) (off : Nat) (hoff : off ≤ l.length) :
    NoPanic (Src.renet.packet.Packet.from_bytes ⟨l, off⟩) := by
  have h := packet_from_bytes ((ofNats l).take off) ((ofNats l).drop off)
  rw [List.take_append_drop, toNats_ofNats hl] at h
  have hlen : ((ofNats l).take off).length = off := by simp [ofNats_length]; omega
  rw [hlen] at h
  rw [← noPanic_forget, h]
  cases RenetVerif.Packet.decode ((ofNats l).drop off) with
  | ok x => exact noPanic_ok _
  | error e => exact noPanic_err _

/-- … in particular on a fresh cursor over a received datagram -/
theorem packet_from_bytes_fresh_never_panics (l : List Nat) (hl : BytesOk l) :
    NoPanic (Src.renet.packet.Packet.from_bytes (Octets.with_slice l)) :=
  packet_from_bytes_never_panics l hl 0 (Nat.zero_le _)

/-- an accepted packet consumed a prefix of the input: the returned cursor is over the same bytes and within bounds -/
theorem packet_from_bytes_cursor (l : List Nat) (hl : BytesOk l) (c : Octets) (gp : SPacket)
    (h : Src.renet.packet.Packet.from_bytes (Octets.with_slice l) = .ok (c, gp)) : c.buf = l ∧ c.off ≤ l.length := by
  have hf := packet_from_bytes [] (ofNats l)
  simp only [List.nil_append, List.length_nil, toNats_ofNats hl] at hf
  unfold Octets.with_slice at h
  rw [h] at hf
  split at hf
  · obtain ⟨rfl, _⟩ := Prod.mk.inj (Res.ok.inj hf)
    exact ⟨rfl, by simp [ofNats_length]⟩
  · cases hf

/-! ### examples (evaluated on the generated text) -/

def exSmall : SPacket := .SmallReliable 300 1 [(7, [9, 9, 9]), (16384, [])]
def exSlice : SPacket := .ReliableSlice 5 2 ⟨70000, 1, 2, [1, 2, 3]⟩
def exAck : SPacket := .Ack 300 [⟨10, 20⟩, ⟨35, 40⟩]

theorem exSmall_wf : WfPacket exSmall := by
  unfold exSmall WfPacket
  decide
theorem exSlice_wf : WfPacket exSlice := by
  unfold exSlice WfPacket
  decide
theorem exAck_wf : WfPacket exAck := by
  unfold exAck WfPacket
  decide

def rtrip (gp : SPacket) (buf : List Nat) : Option (Octets × SPacket) :=
  match Src.renet.packet.Packet.to_bytes gp (OctetsMut.with_slice buf) with
  | .ok r =>
    (match Src.renet.packet.Packet.from_bytes (Octets.with_slice (r.1.buf.take r.2)) with
     | .ok x => some x
     | _ => none)
  | _ => none

/-- the round trip computed on the generated functions … -/
example : (rtrip exSmall (List.replicate 1400 0)).map Prod.snd = some exSmall := by decide +kernel
example : (rtrip exSlice (List.replicate 1400 0)).map Prod.snd = some exSlice := by decide +kernel
example : (rtrip exSlice (List.replicate 1400 0)).map (·.1.off) = some 13 := by decide +kernel
/-- … and as an instance of the theorem -/
example : ∃ b' n, Src.renet.packet.Packet.to_bytes exAck (OctetsMut.with_slice (List.replicate 9 0)) = .ok (b', n) ∧
    Src.renet.packet.Packet.from_bytes (Octets.with_slice (b'.buf.take n)) = .ok (⟨b'.buf.take n, n⟩, exAck) := by
  have hok : Src.renet.packet.Packet.to_bytes exAck (OctetsMut.with_slice (List.replicate 9 0)) =
      .ok (⟨[4, 0x41, 0x2c, 39, 4, 1, 14, 9, 0], 8⟩, 8) := by decide +kernel
  exact ⟨_, _, hok, (packet_roundtrip exAck exAck_wf _ _ _ hok).2.2.2⟩
/-- a buffer that is too short: `Err(BufferTooShort)`, no panic -/
example : Src.renet.packet.Packet.to_bytes exAck (OctetsMut.with_slice (List.replicate 7 0)) =
    .err (.BufferTooShort, ⟨[4, 0x41, 0x2c, 39, 4, 1, 14], 7⟩) := by decide +kernel
/-- hostile inputs: truncated varint, unknown packet type, slice count 0, ack range running backwards -/
example : NoPanic (Src.renet.packet.Packet.from_bytes (Octets.with_slice [4, 0x41])) :=
  packet_from_bytes_fresh_never_panics _ (by decide)
example : Src.renet.packet.Packet.from_bytes (Octets.with_slice [9]) = .err (.InvalidPacketType, ⟨[9], 1⟩) := by decide +kernel
example : Src.renet.packet.Packet.from_bytes (Octets.with_slice [2, 5, 1, 7, 0, 0, 1, 9]) =
    .err (.InvalidNumSlices, ⟨[2, 5, 1, 7, 0, 0, 1, 9], 6⟩) := by decide +kernel
example : (Src.renet.packet.Packet.from_bytes (Octets.with_slice [4, 1, 0, 5, 9])).forget = .err .InvalidAckRange := by decide +kernel

end RenetVerif.SrcProps
