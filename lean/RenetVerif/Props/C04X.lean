/-
  C04X: the RESET POINT of the ghost list `NS.addrBufs ad tr` of `Props/C04W.lean`, as theorems over `NS.step` (model level).

  `addrBufs ad tr` restarts exactly at the `process_packet` calls from `ad` answered with `PacketToSend`: that is the point
  where the half-open session of `ad` is (re)created or dropped.  One step at a time (any server satisfying `ServerInv`, in
  particular every `ReachT` state; projections of `NS.ppOut_sender`, Lemmas/NcSessionWindow.lean):

    `toSend_resets`        a `PacketToSend` answer to a datagram from `addr`: `addr` is not connected before or after, the
                           answer goes to `addr`, the slot table is untouched, and the half-open session of `addr` afterwards
                           is ABSENT (denial) or has a NEW window `RP.new` (challenge: created / replaced);
    `no_toSend_keeps_pending`  any other answer: a half-open session of `addr` afterwards is NOT new — it is the one `addr`
                           had before, same receive key, and the datagram was either too short for `decode` (window unchanged)
                           or was handed to `Packet.decode` under THAT receive key and window, giving the stored window;
    `no_toSend_keeps_slot` … and a connected session of `addr` afterwards continues a connected or half-open session of `addr`
                           from before with the same receive key, the datagram decoded under that key (or too short).
    `step_reset_point_partial`  the three over `NS.step` on a `ReachT` state.

  NOT proved here (hence `_partial`): the whole-run statement (induction of these step facts along `ReachT`, giving "`addrBufs`
  = the datagrams decoded under the entry's key since its creation" as one theorem), and the frame facts for the operations
  other than `process_packet` and for addresses other than the sender (they are inside `step_winInv`, not restated here).
-/
import RenetVerif.Lemmas.NcSessionWindow
import RenetVerif.Props.C04W
namespace RenetVerif.C04X
open RenetVerif RenetVerif.Netcode RenetVerif.Netcode.NS RenetVerif.Netcode.Packet RenetVerif.NcClientTrace

/-- **A `PacketToSend` answer resets.** -/
theorem toSend_resets {a : AEAD} {s s' : NetcodeServer} {addr : Addr} {buf : Bytes} {r : ServerResult}
    (hi : ServerInv s) (ho : PPOut a s addr buf r s') (hr : isToSend r = true) :
    findClientByAddr s.clients addr = none ∧ s'.clients = s.clients ∧ (∃ out, r = .packetToSend addr out) ∧
    (pendingFind s'.pendingClients addr = none ∨
      ∃ q, pendingFind s'.pendingClients addr = some q ∧ q.replayProtection = RP.new) := by
  rcases ppOut_sender hi ho with ⟨-, h⟩ | ⟨hn, -⟩
  · exact h
  · rw [hr] at hn
    cases hn

/-- **Any other answer keeps the half-open session of the sender** (if there is one afterwards): same receive key, and the
    datagram went through `decode` under that key. -/
theorem no_toSend_keeps_pending {a : AEAD} {s s' : NetcodeServer} {addr : Addr} {buf : Bytes} {r : ServerResult}
    (hi : ServerInv s) (ho : PPOut a s addr buf r s') (hr : isToSend r = false) {q : Connection}
    (hq : pendingFind s'.pendingClients addr = some q) :
    ∃ p, pendingFind s.pendingClients addr = some p ∧ q.receiveKey = p.receiveKey ∧
      DecodedUnder a s.protocolId buf p.receiveKey p.replayProtection q.replayProtection := by
  rcases ppOut_sender hi ho with ⟨ht, -⟩ | ⟨-, h, -⟩
  · rw [hr] at ht
    cases ht
  · exact h q hq

/-- **… and keeps the connected session of the sender** (if there is one afterwards): it continues a connected or a half-open
    session of the sender with the same receive key, the datagram decoded under that key. -/
theorem no_toSend_keeps_slot {a : AEAD} {s s' : NetcodeServer} {addr : Addr} {buf : Bytes} {r : ServerResult}
    (hi : ServerInv s) (ho : PPOut a s addr buf r s') (hr : isToSend r = false) {j : Nat} {c' : Connection}
    (hc' : At s'.clients j c') (ha : c'.addr = addr) :
    (∃ c, At s.clients j c ∧ c.addr = addr ∧ c'.receiveKey = c.receiveKey ∧
      DecodedUnder a s.protocolId buf c.receiveKey c.replayProtection c'.replayProtection) ∨
    (∃ p, findClientByAddr s.clients addr = none ∧ pendingFind s.pendingClients addr = some p ∧
      c'.receiveKey = p.receiveKey ∧
      DecodedUnder a s.protocolId buf p.receiveKey p.replayProtection c'.replayProtection) := by
  rcases ppOut_sender hi ho with ⟨ht, -⟩ | ⟨-, -, h⟩
  · rw [hr] at ht
    cases ht
  · exact (h j c' hc' ha).imp (fun ⟨c, h1, h2, _, h3, h4⟩ => ⟨c, h1, h2, h3, h4⟩)
      fun ⟨p, h1, h2, h3, h4, _⟩ => ⟨p, h1, h2, h3, h4⟩

/-- **The reset point of the ghost list, over `NS.step` on any reachable state.**  The ghost list of `addr` is emptied by this
    step iff the answer is `PacketToSend` (`addrBufs_snoc_reset` / `addrBufs_snoc_self`); in that case `addr` has no connected
    session and its half-open session is absent or NEW; otherwise every session of `addr` after the step continues one from
    before under the same receive key, with the datagram handed to `decode` under that key (appended to the ghost list iff long
    enough).  `_partial`: one step, sender address only; the run-level induction is not done here (see the file header). -/
theorem step_reset_point_partial {a : AEAD} {s s' : NetcodeServer} {tr : Trace} {addr : Addr} {buf : Bytes} {r : ServerResult}
    (h : ReachT a s tr) (hs : step a s (.packet addr buf) = some (r, s')) :
    (isToSend r = true →
      addrBufs addr (tr ++ [(.packet addr buf, r)]) = [] ∧
      findClientByAddr s.clients addr = none ∧ findClientByAddr s'.clients addr = none ∧
      (∃ out, r = .packetToSend addr out) ∧
      (pendingFind s'.pendingClients addr = none ∨
        ∃ q, pendingFind s'.pendingClients addr = some q ∧ q.replayProtection = RP.new)) ∧
    (isToSend r = false →
      addrBufs addr (tr ++ [(.packet addr buf, r)]) = addrBufs addr tr ++ dg buf ∧
      (∀ q, pendingFind s'.pendingClients addr = some q →
        ∃ p, pendingFind s.pendingClients addr = some p ∧ q.receiveKey = p.receiveKey ∧
          DecodedUnder a s.protocolId buf p.receiveKey p.replayProtection q.replayProtection) ∧
      (∀ j c', At s'.clients j c' → c'.addr = addr →
        (∃ c, At s.clients j c ∧ c.addr = addr ∧ c'.receiveKey = c.receiveKey ∧
          DecodedUnder a s.protocolId buf c.receiveKey c.replayProtection c'.replayProtection) ∨
        (∃ p, findClientByAddr s.clients addr = none ∧ pendingFind s.pendingClients addr = some p ∧
          c'.receiveKey = p.receiveKey ∧
          DecodedUnder a s.protocolId buf p.receiveKey p.replayProtection c'.replayProtection))) := by
  have hi := h.inv
  have ho : PPOut a s addr buf r s' := pp_ok hi (pp_of_step.mp hs)
  refine ⟨fun hr => ?_, fun hr => ?_⟩
  · obtain ⟨h1, h2, h3, h4⟩ := toSend_resets hi ho hr
    exact ⟨addrBufs_snoc_reset _ _ _ hr, h1, by rw [h2]; exact h1, h3, h4⟩
  · exact ⟨addrBufs_snoc_self _ _ _ hr, fun q hq => no_toSend_keeps_pending hi ho hr hq,
      fun j c' hc' ha => no_toSend_keeps_slot hi ho hr hc' ha⟩

/-! ### non-vacuity (example world `Lemmas/NcExamples.lean`): the request of client A is answered with a challenge
    (`PacketToSend`, reset: the half-open session has the NEW window); the payload datagram that follows is answered with
    `None` and the half-open session continues under the same key -/
section Examples
open Ex C04H C04W

theorem ex_step1 : (step Ex.a s0 (.packet addrA reqA)).map (·.1) = some (.packetToSend addrA chalA) := by
  rw [s_request]; rfl

example : ∃ s', step Ex.a s0 (.packet addrA reqA) = some (.packetToSend addrA chalA, s') ∧
    addrBufs addrA ([] ++ [(Op.packet addrA reqA, ServerResult.packetToSend addrA chalA)]) = [] ∧
    findClientByAddr s'.clients addrA = none ∧
    (pendingFind s'.pendingClients addrA = none ∨
      ∃ q, pendingFind s'.pendingClients addrA = some q ∧ q.replayProtection = RP.new) := by
  have h := ex_step1
  cases hs : step Ex.a s0 (.packet addrA reqA) with
  | none => rw [hs] at h; cases h
  | some x =>
    obtain ⟨r, s'⟩ := x
    rw [hs] at h
    simp only [Option.map_some, Option.some.injEq] at h
    subst h
    obtain ⟨h1, _, h3, _, h5⟩ := (step_reset_point_partial (ReachT.init (a := Ex.a) s0_empty) hs).1 rfl
    exact ⟨s', rfl, h1, h3, h5⟩

/-- two steps, kernel-executed: the second answer is `None` and `addrA` still has a half-open session -/
theorem ex_step2 : ((step Ex.a s0 (.packet addrA reqA)).bind (fun x => (step Ex.a x.2 (.packet addrA payFromA)).map
    (fun y => (y.1, (pendingFind y.2.pendingClients addrA).isSome)))) = some (.none, true) := pend_run.2

/-- the non-reset branch: the payload datagram after the request is answered with `None`; the half-open session of `addrA`
    continues under the same key, the datagram decoded under it -/
example : ∃ tr s s' r, ReachT Ex.a s tr ∧ step Ex.a s (.packet addrA payFromA) = some (r, s') ∧ isToSend r = false ∧
    ∃ q p, pendingFind s'.pendingClients addrA = some q ∧ pendingFind s.pendingClients addrA = some p ∧
      q.receiveKey = p.receiveKey ∧
      DecodedUnder Ex.a s.protocolId payFromA p.receiveKey p.replayProtection q.replayProtection := by
  have h := ex_step2
  cases hs : step Ex.a s0 (.packet addrA reqA) with
  | none => rw [hs] at h; cases h
  | some x =>
    obtain ⟨r, s1⟩ := x
    have hr1 : ReachT Ex.a s1 ([] ++ [(Op.packet addrA reqA, r)]) := .step (.init s0_empty) hs
    rw [hs, Option.bind_some] at h
    cases hs2 : step Ex.a s1 (.packet addrA payFromA) with
    | none => rw [hs2] at h; cases h
    | some y =>
      obtain ⟨r2, s2⟩ := y
      rw [hs2] at h
      simp only [Option.map_some, Option.some.injEq, Prod.mk.injEq] at h
      have hr2 : isToSend r2 = false := by rw [h.1]; rfl
      cases hq : pendingFind s2.pendingClients addrA with
      | none => rw [hq] at h; exact absurd h.2 (by simp)
      | some q =>
        obtain ⟨p, hp1, hp2, hp3⟩ := ((step_reset_point_partial hr1 hs2).2 hr2).2.1 q hq
        exact ⟨_, s1, s2, r2, hr1, hs2, hr2, q, p, hq, hp1, hp2, hp3⟩

end Examples

end RenetVerif.C04X
