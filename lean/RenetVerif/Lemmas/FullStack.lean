/-
  FULL STACK: renet channels over the netcode transport glue over an adversarial datagram network.

  Three families of results exist separately:
    (1) `Lemmas/System.lean` / `Props/C01S.lean` : channel guarantees for two `Conn`s exchanging the renet packets the
        peer emitted, in any order, any number of times or never (one direction of application traffic);
    (2) `Lemmas/NcAead.lean`, `Props/C04.lean`   : what a netcode endpoint surfaces opened under the session key;
    (3) `Lemmas/GlueInv.lean`, `Props/C20.lean`   : the UDP transport glue routes netcode payloads to the right
        `RenetClient` and seals exactly what `get_packets_to_send` returned.
  This file composes them by a simulation argument, in three layers:

    Part 1  `xstep`   the system of `Lemmas/System.lean` extended by the operations a bidirectional, transport-driven
                      session needs and `Sys` lacks: application `send` on B, application `receive` on A, and the
                      status-only calls `disconnect_with(reason)` / `set_connected` / `set_connecting` on either side.
                      All four invariant layers of `system_inv` are preserved (`xstep_inv`).
    Part 2  `Duo`     two `Conn`s X (the client's `RenetClient`) and Y (the server's `RenetClient` for that client)
                      with ghost logs for BOTH directions; its two views `v1` (A = X, B = Y) and `v2` (A = Y, B = X)
                      are `xstep` systems, so every `Duo` run satisfies the end-to-end conclusions in both directions.
    Part 3  `FS`      the full stack for one session: `ClientGlue` + `ServerGlue`, application calls, transport
                      `update` with an ADVERSARIAL inbox, transport `send_packets`; ghost logs.  Every `FS` step is
                      matched by a (possibly empty) `Duo` run (`step_sim`), under the per-run hypotheses `runOK`
                      (= `NoForgeryRun` + `SingleSessionRun`, see there); `full_stack` is the composition.
            3e        the ghost seal records are records of datagrams `send_packets` really emitted.
    Part 4  `KeyInv`  from an `Established` session (mirrored keys) the key part of `NoForgeryRun` is an invariant of
                      every run without re-connection, so the hypothesis can be stated on datagrams alone
                      (`NoForgeryRunD`, `noForgery_of_D`).
-/
import RenetVerif.Lemmas.MultiSystem
import RenetVerif.Lemmas.GlueInv
import RenetVerif.Lemmas.NcAead
namespace RenetVerif.FullStack
open RenetVerif C RenetVerif.System

/-! ## Part 1 : the extended two-endpoint system -/

/-- the status-only calls on a `RenetClient` -/
inductive StOp where
  | dw (r : Reason)
  | conn
  | conning
  deriving Repr, DecidableEq

def StOp.ap : StOp → Conn → Conn
  | .dw r, c => c.disconnectWith r
  | .conn, c => c.setConnected
  | .conning, c => c.setConnecting

/-- the ghost logs of `sendB` / `recvA` belong to the OTHER direction, i.e. to the mirrored view -/
inductive XOp where
  | sys (op : SysOp)
  | sendB (ch : Nat) (m : Bytes)
  | recvA (ch : Nat)
  | stA (o : StOp)
  | stB (o : StOp)
  deriving Repr, DecidableEq

def xstep (s : Sys) : XOp → Option Sys
  | .sys op => s.step op
  | .sendB ch m =>
    match s.b.sendMessage ch m with
    | .ok b' => some { s with b := b' }
    | _ => none
  | .recvA ch =>
    match s.a.receiveMessage ch with
    | .ok (a', _) => some { s with a := a' }
    | _ => none
  | .stA o => some { s with a := o.ap s.a }
  | .stB o => some { s with b := o.ap s.b }

def xrun (s : Sys) : List XOp → Option Sys
  | [] => some s
  | op :: ops =>
    match xstep s op with
    | some s' => xrun s' ops
    | none => none

theorem xrun_append (s : Sys) : ∀ (l1 l2 : List XOp), xrun s (l1 ++ l2) = (xrun s l1).bind (fun s' => xrun s' l2) := by
  intro l1
  induction l1 generalizing s with
  | nil => intro l2; rfl
  | cons op l1 ih =>
    intro l2
    dsimp only [List.cons_append, xrun]
    cases xstep s op with
    | none => rfl
    | some s' => exact ih s' l2

def SInv (cfg : Cfg) (s : Sys) : Prop :=
  ∃ pkA, Inv1 cfg s pkA ∧ (CountersOK cfg s → Inv2 cfg s pkA) ∧ InvR cfg s pkA ∧ InvU cfg s pkA

theorem xstep_cases {cfg : Cfg} {s s' : Sys} {op : XOp} (hs : xstep s op = some s') :
    (∃ o, s.step o = some s') ∨ Idle cfg s s' := by
  cases op with
  | sys op => exact .inl ⟨op, hs⟩
  | sendB ch m =>
    dsimp only [xstep] at hs
    split at hs <;> cases hs
    rename_i b' h
    obtain ⟨sr, su, st, rfl, hl⟩ := sendMessage_eq h
    exact .inr (.b (.sendMessage · h) hl)
  | recvA ch =>
    dsimp only [xstep] at hs
    split at hs <;> cases hs
    rename_i a' mo h
    obtain ⟨rr, ru, rfl⟩ := receiveMessage_eq h
    exact .inr (.a (.receiveMessage · h) id)
  | stA o =>
    cases hs
    cases o
    · exact .inr (idle_statusA cfg s _ rfl .disconnect)
    · exact .inr (idle_statusA cfg s _ rfl .connected)
    · exact .inr (idle_statusA cfg s _ rfl .connecting)
  | stB o =>
    cases hs
    cases o
    · exact .inr (idle_statusB cfg s _ rfl .disconnect)
    · exact .inr (idle_statusB cfg s _ rfl .connected)
    · exact .inr (idle_statusB cfg s _ rfl .connecting)

theorem xstep_inv {cfg : Cfg} {s s' : Sys} {op : XOp} (h : SInv cfg s) (hs : xstep s op = some s') : SInv cfg s' :=
  (xstep_cases hs).elim (fun ⟨_, ho⟩ => good_step h ho) (good_idle h)

theorem xrun_inv {cfg : Cfg} : ∀ (ops : List XOp) (s s' : Sys), SInv cfg s → xrun s ops = some s' → SInv cfg s' := by
  intro l
  induction l with
  | nil =>
    intro s s' h hr
    cases hr; exact h
  | cons op ops ih =>
    intro s s' h hr
    dsimp only [xrun] at hr
    cases hs : xstep s op with
    | none => rw [hs] at hr; cases hr
    | some s1 => rw [hs] at hr; exact ih s1 s' (xstep_inv h hs) hr


/-! ## Part 2 : two connections, both directions

    `v1` : A = x, B = y — application traffic X → Y (`subX`, `subXU`, `obtY`);
    `v2` : A = y, B = x — application traffic Y → X (`subY`, `subYU`, `obtX`). -/

structure Duo where
  x : Conn
  y : Conn
  /-- every renet packet `get_packets_to_send` of X resp. Y returned, in order -/
  outX : List Bytes
  outY : List Bytes
  subX : Nat → List Bytes
  subXU : Nat → List Bytes
  obtY : Nat → List Bytes
  subY : Nat → List Bytes
  subYU : Nat → List Bytes
  obtX : Nat → List Bytes
  /-- indices into `outX` of the packets handed to Y so far / into `outY` handed to X -/
  delY : List Nat
  delX : List Nat

def Duo.swap (d : Duo) : Duo :=
  { x := d.y, y := d.x, outX := d.outY, outY := d.outX, subX := d.subY, subXU := d.subYU, obtY := d.obtX,
    subY := d.subX, subYU := d.subXU, obtX := d.obtY, delY := d.delX, delX := d.delY }

theorem Duo.swap_swap (d : Duo) : d.swap.swap = d := rfl

def Duo.v1 (d : Duo) : Sys :=
  { a := d.x, b := d.y, outA := d.outX, outB := d.outY, submitted := d.subX, submittedU := d.subXU,
    obtained := d.obtY, deliveredToB := d.delY }

def Duo.v2 (d : Duo) : Sys := d.swap.v1

def Cfg.swap (cfg : Cfg) : Cfg := ⟨cfg.budget, cfg.recv, cfg.send⟩

def Duo.init (cfg : Cfg) : Duo :=
  { x := Conn.fromChannels cfg.budget cfg.send cfg.recv, y := Conn.fromChannels cfg.budget cfg.recv cfg.send,
    outX := [], outY := [], subX := fun _ => [], subXU := fun _ => [], obtY := fun _ => [],
    subY := fun _ => [], subYU := fun _ => [], obtX := fun _ => [], delY := [], delX := [] }

theorem Duo.init_v1 (cfg : Cfg) : (Duo.init cfg).v1 = Sys.init cfg := rfl
theorem Duo.init_v2 (cfg : Cfg) : (Duo.init cfg).v2 = Sys.init (Cfg.swap cfg) := rfl

inductive SOp where
  | send (ch : Nat) (m : Bytes)
  | recv (ch : Nat)
  | upd (dt : Nat)
  | flush
  /-- hand the `k`-th packet the PEER emitted to this side's `process_packet` -/
  | deliver (k : Nat)
  | st (o : StOp)
  deriving Repr, DecidableEq

def Duo.stepX (d : Duo) : SOp → Option Duo
  | .send ch m =>
    match d.x.sendMessage ch m with
    | .ok x' => some { d with x := x', subX := if accepted d.x x' ch then push d.subX ch m else d.subX,
                              subXU := if offeredU d.x ch then push d.subXU ch m else d.subXU }
    | _ => none
  | .recv ch =>
    match d.x.receiveMessage ch with
    | .ok (x', some m) => some { d with x := x', obtX := push d.obtX ch m }
    | .ok (x', none) => some { d with x := x' }
    | _ => none
  | .upd dt =>
    match d.x.update dt with
    | .ok x' => some { d with x := x' }
    | _ => none
  | .flush =>
    match d.x.getPacketsToSend with
    | .ok (x', bs) => some { d with x := x', outX := d.outX ++ bs }
    | _ => none
  | .deliver k =>
    match d.outY[k]? with
    | none => none
    | some bytes =>
      match d.x.processPacket bytes with
      | .ok x' => some { d with x := x', delX := d.delX ++ [k] }
      | _ => none
  | .st o => some { d with x := o.ap d.x }

def SOp.asA : SOp → XOp
  | .send ch m => .sys (.sendA ch m)
  | .recv ch => .recvA ch
  | .upd dt => .sys (.updA dt)
  | .flush => .sys .flushA
  | .deliver k => .sys (.deliverToA k)
  | .st o => .stA o

def SOp.asB : SOp → XOp
  | .send ch m => .sendB ch m
  | .recv ch => .sys (.recvB ch)
  | .upd dt => .sys (.updB dt)
  | .flush => .sys .flushB
  | .deliver k => .sys (.deliverToB k)
  | .st o => .stB o

theorem stepX_views (d : Duo) (op : SOp) :
    (d.stepX op).map Duo.v1 = xstep d.v1 op.asA ∧ (d.stepX op).map Duo.v2 = xstep d.v2 op.asB := by
  cases op with
  | send ch m =>
    dsimp only [Duo.stepX, SOp.asA, SOp.asB, xstep, Sys.step, Duo.v2, Duo.v1, Duo.swap]
    cases d.x.sendMessage ch m <;> exact ⟨rfl, rfl⟩
  | recv ch =>
    dsimp only [Duo.stepX, SOp.asA, SOp.asB, xstep, Sys.step, Duo.v2, Duo.v1, Duo.swap]
    cases d.x.receiveMessage ch with
    | ok v => obtain ⟨x', m⟩ := v; cases m <;> exact ⟨rfl, rfl⟩
    | err e => exact ⟨rfl, rfl⟩
    | panic m => exact ⟨rfl, rfl⟩
  | upd dt =>
    dsimp only [Duo.stepX, SOp.asA, SOp.asB, xstep, Sys.step, Duo.v2, Duo.v1, Duo.swap]
    cases d.x.update dt <;> exact ⟨rfl, rfl⟩
  | flush =>
    dsimp only [Duo.stepX, SOp.asA, SOp.asB, xstep, Sys.step, Duo.v2, Duo.v1, Duo.swap]
    cases d.x.getPacketsToSend with
    | ok v => obtain ⟨x', bs⟩ := v; exact ⟨rfl, rfl⟩
    | err e => exact ⟨rfl, rfl⟩
    | panic m => exact ⟨rfl, rfl⟩
  | deliver k =>
    dsimp only [Duo.stepX, SOp.asA, SOp.asB, xstep, Sys.step, Duo.v2, Duo.v1, Duo.swap]
    cases d.outY[k]? with
    | none => exact ⟨rfl, rfl⟩
    | some bytes => dsimp only; cases d.x.processPacket bytes <;> exact ⟨rfl, rfl⟩
  | st o => exact ⟨rfl, rfl⟩

inductive Side where
  | X
  | Y
  deriving Repr, DecidableEq

abbrev DOp := Side × SOp

def Duo.step (d : Duo) : DOp → Option Duo
  | (.X, op) => d.stepX op
  | (.Y, op) => (d.swap.stepX op).map Duo.swap

def Duo.run (d : Duo) : List DOp → Option Duo
  | [] => some d
  | op :: ops =>
    match d.step op with
    | some d' => d'.run ops
    | none => none

theorem Duo.run_append (d : Duo) : ∀ (l1 l2 : List DOp), d.run (l1 ++ l2) = (d.run l1).bind (fun d' => d'.run l2) := by
  intro l1
  induction l1 generalizing d with
  | nil => intro l2; rfl
  | cons op l1 ih =>
    intro l2
    dsimp only [List.cons_append, Duo.run]
    cases d.step op with
    | none => rfl
    | some d' => exact ih d' l2

theorem Duo.run_single {d d' : Duo} {op : DOp} (h : d.step op = some d') : d.run [op] = some d' := by
  simp only [Duo.run, h]

theorem Duo.run_trans {d d1 d2 : Duo} {l1 l2 : List DOp} (h1 : d.run l1 = some d1) (h2 : d1.run l2 = some d2) :
    d.run (l1 ++ l2) = some d2 := by
  rw [Duo.run_append, h1]; exact h2

def DInv (cfg : Cfg) (d : Duo) : Prop := SInv cfg d.v1 ∧ SInv (Cfg.swap cfg) d.v2

theorem dInv_init (cfg : Cfg) : DInv cfg (Duo.init cfg) :=
  ⟨good_init cfg, good_init (Cfg.swap cfg)⟩

theorem dstep_inv {cfg : Cfg} {d d' : Duo} {op : DOp} (h : DInv cfg d) (hs : d.step op = some d') : DInv cfg d' := by
  obtain ⟨sd, op⟩ := op
  cases sd with
  | X =>
    obtain ⟨e1, e2⟩ := stepX_views d op
    rw [show d.stepX op = some d' from hs] at e1 e2
    exact ⟨xstep_inv h.1 e1.symm, xstep_inv h.2 e2.symm⟩
  | Y =>
    obtain ⟨d1, hx, rfl⟩ := Option.map_eq_some_iff.mp (show (d.swap.stepX op).map Duo.swap = some d' from hs)
    obtain ⟨e1, e2⟩ := stepX_views d.swap op
    rw [hx] at e1 e2
    exact ⟨xstep_inv (s' := d1.swap.v1) h.1 e2.symm, xstep_inv (s' := d1.swap.v2) h.2 e1.symm⟩

theorem drun_inv {cfg : Cfg} : ∀ (ops : List DOp) (d d' : Duo), DInv cfg d → d.run ops = some d' → DInv cfg d' := by
  intro l
  induction l with
  | nil =>
    intro d d' h hr
    cases hr; exact h
  | cons op ops ih =>
    intro d d' h hr
    dsimp only [Duo.run] at hr
    cases hs : d.step op with
    | none => rw [hs] at hr; cases hr
    | some d1 => rw [hs] at hr; exact ih d1 d' (dstep_inv h hs) hr


/-! ## Part 3 : the full stack for one session -/
open RenetVerif.Netcode RenetVerif.Transport

/-! ### 3a. ghost seal records and what opens -/

/-- ghost record of one successful `generate_payload_packet`: the key and protocol id it sealed under, the renet packet
    it was given, the datagram it returned -/
structure Sealed where
  key : Bytes
  proto : Nat
  plain : Bytes
  dgram : Bytes
  deriving DecidableEq, Repr

def SealOK (a : AEAD) (e : Sealed) : Prop :=
  ∃ seq, seq < 2 ^ 64 ∧ e.dgram = NcAead.Packet.sealedDatagram a (.payload e.plain) e.proto seq e.key

/-- the records of the client's `for packet in packets { generate_payload_packet(packet) }` (stops at the first error) -/
def sealsC (a : AEAD) (nc : NetcodeClient) : List Bytes → List Sealed
  | [] => []
  | p :: rest =>
    match nc.generatePayloadPacket a p with
    | .ok ((_, d), nc') =>
      ⟨nc.connectToken.clientToServerKey, nc.connectToken.protocolId, p, d⟩ :: sealsC a nc' rest
    | _ => []

theorem cSealed_recs {a : AEAD} {nc nc' : NetcodeClient} {ps : List Bytes} {ds : List Dgram} {e : Option NetcodeError}
    (h : GI.CSealed a nc ps ds nc' e) :
    nc'.connectToken = nc.connectToken ∧ ∀ x ∈ sealsC a nc ps, SealOK a x ∧ x.plain ∈ ps ∧ x.dgram ∈ ds.map (·.2) ∧
      x.key = nc.connectToken.clientToServerKey ∧ x.proto = nc.connectToken.protocolId := by
  induction h with
  | nil nc => exact ⟨rfl, fun x hx => by cases hx⟩
  | stop he =>
    refine ⟨rfl, fun x hx => ?_⟩
    simp only [sealsC, he] at hx
    cases hx
  | @cons nc nc1 nc2 p ps d ds e hg _ ih =>
    obtain ⟨addr, dg⟩ := d
    obtain ⟨-, -, e1, hlt, henc⟩ := NcAead.Cl.payload_spec hg
    have t1 : nc1.connectToken = nc.connectToken := by rw [e1]
    refine ⟨ih.1.trans t1, fun x hx => ?_⟩
    simp only [sealsC, hg] at hx
    rcases List.mem_cons.mp hx with rfl | hx
    · refine ⟨⟨nc.sequence, by omega, ?_⟩, List.mem_cons_self, List.mem_cons_self, rfl, rfl⟩
      have := NcAead.encode_sealOf (by simp [Netcode.Packet.packetType]) henc
      rw [NcAead.sealOf_datagram] at this
      exact this
    · obtain ⟨k1, k2, k3, k4⟩ := ih.2 x hx
      rw [← t1]
      exact ⟨k1, List.mem_cons_of_mem _ k2, List.mem_cons_of_mem _ k3, k4⟩

/-- the records of the server's `for packet in packets { generate_payload_packet(client_id, packet) }` -/
def sealsS (a : AEAD) (id : Nat) (ns : NetcodeServer) : List Bytes → List Sealed
  | [] => []
  | p :: rest =>
    match ns.generatePayloadPacket a id p with
    | .ok ((_, d), ns') =>
      ⟨((findClientById ns.clients id).map (·.sendKey)).getD [], ns.protocolId, p, d⟩ :: sealsS a id ns' rest
    | _ => []

theorem srvGen_spec {a : AEAD} {s s' : NetcodeServer} {id : Nat} {pl out : Bytes} {addr : Addr}
    (h : s.generatePayloadPacket a id pl = .ok ((addr, out), s')) :
    ∃ c, findClientById s.clients id = some c ∧ some c ∈ s.clients ∧ c.clientId = id ∧ c.sequence < U64_MAX ∧
      (Netcode.Packet.payload pl).encode a C.NETCODE_MAX_PACKET_BYTES s.protocolId (some (c.sequence, c.sendKey)) = .ok out := by
  have ho := NS.generatePayload_idOut h
  generalize hr : ServerResult.packetToSend addr out = r at ho
  cases ho with
  | idle => cases hr
  | ended => cases hr
  | @sent i c out' hf hc hid hlt henc =>
    cases hr
    obtain ⟨c', hc', -, hb⟩ := NS.findSlot_some hf
    obtain rfl : c' = c := Option.some.inj (Option.some.inj (hc'.symm.trans hc))
    exact ⟨c', hb, NS.at_mem hc, hid, hlt, henc⟩

theorem sealed_recs {a : AEAD} {id : Nat} {ns ns' : NetcodeServer} {ps : List Bytes} {ds : List Dgram}
    (h : GI.Sealed a id ns ps ds ns') :
    ∀ x ∈ sealsS a id ns ps, SealOK a x ∧ x.plain ∈ ps ∧ x.dgram ∈ ds.map (·.2) ∧
      x.proto = ns.protocolId ∧ ∃ rk, (id, rk, x.key) ∈ GI.sessions ns.clients := by
  induction h with
  | nil ns => exact fun x hx => by cases hx
  | abandon he =>
    intro x hx
    simp only [sealsS, he] at hx
    cases hx
  | @cons ns ns1 ns2 p ps d ds hg _ ih =>
    obtain ⟨addr, dg⟩ := d
    obtain ⟨k1, -⟩ := GI.generatePayloadPacket_post hg
    intro x hx
    simp only [sealsS, hg] at hx
    rcases List.mem_cons.mp hx with rfl | hx
    · obtain ⟨c, hb, hmem, hid, hlt, henc⟩ := srvGen_spec hg
      rw [hb]
      refine ⟨⟨c.sequence, Nat.lt_trans hlt (by decide), ?_⟩, List.mem_cons_self, List.mem_cons_self, rfl,
        c.receiveKey, GI.mem_sessions.mpr ⟨c, hmem, by rw [GI.sess, hid]; rfl⟩⟩
      have := NcAead.encode_sealOf (by simp [Netcode.Packet.packetType]) henc
      rw [NcAead.sealOf_datagram] at this
      exact this
    · obtain ⟨m1, m2, m3, m4, rk, m5⟩ := ih x hx
      exact ⟨m1, List.mem_cons_of_mem _ m2, List.mem_cons_of_mem _ m3, m4.trans k1.2, rk, k1.1 ▸ m5⟩

def hasRec (L : List Sealed) (buf key : Bytes) (proto : Nat) : Bool :=
  L.any fun e => e.dgram == buf && e.key == key && e.proto == proto

theorem hasRec_iff {L : List Sealed} {buf key : Bytes} {proto : Nat} :
    hasRec L buf key proto = true ↔ ∃ e ∈ L, e.dgram = buf ∧ e.key = key ∧ e.proto = proto := by
  simp [hasRec, List.any_eq_true, and_assoc]

theorem srv_payload_plain {a : AEAD} (hl : a.Laws) {ns ns' : NetcodeServer} {addr : Addr} {buf p : Bytes} {id : Nat}
    (h : ns.processPacket a addr buf = .ok (.payload id p, ns')) :
    ∃ slot c, findClientByAddr ns.clients addr = some (slot, c) ∧
      ∀ e, SealOK a e → e.dgram = buf → e.key = c.receiveKey → e.proto = ns.protocolId → p = e.plain := by
  obtain ⟨slot, c, sq, rp, hf, -, -, hdec⟩ := GI.processPacket_auth h
  refine ⟨slot, c, hf, ?_⟩
  intro e ⟨seq, hseq, hd⟩ hb hk hp
  rw [← hb, hd, ← hk, ← hp] at hdec
  exact NcAead.Bind.decode_sealed_payload hl hseq hdec

theorem cli_payload_plain {a : AEAD} (hl : a.Laws) {nc nc' : NetcodeClient} {buf p : Bytes}
    (h : nc.processPacket a buf = .ok (some p, nc')) (e : Sealed) (hok : SealOK a e) (hb : e.dgram = buf)
    (hk : e.key = nc.connectToken.serverToClientKey) (hp : e.proto = nc.connectToken.protocolId) : p = e.plain := by
  obtain ⟨-, sq, rp, hdec, -⟩ := NetcodeClient.processPacket_payload_inv a h
  obtain ⟨seq, hseq, hd⟩ := hok
  rw [← hb, hd, ← hk, ← hp] at hdec
  exact NcAead.Bind.decode_sealed_payload hl hseq hdec


/-! ### 3b. the system

  One session: client id `cid`.  `c` = the client's `NetcodeClientTransport` + `RenetClient`; `s` = the server's
  `NetcodeServerTransport` + `RenetServer` (which may hold other clients as well).  Everything below `emS` is ghost. -/

structure FS where
  c : ClientGlue
  s : ServerGlue
  /-- every datagram (destination, bytes) the client's / the server's `send_packets` handed to the socket, in order -/
  emC : List Dgram
  emS : List Dgram
  /-- one record per successful `generate_payload_packet` of the client's `send_packets` / of the server's `send_packets`
      for client `cid` -/
  sealedC : List Sealed
  sealedS : List Sealed
  /-- `packet_sequence` of the server's `RenetClient` for `cid`, as of the last moment it was in the table -/
  ySeq : Nat
  /-- client → server: accepted by a reliable channel / passed to an unreliable channel / obtained by the server's
      application from client `cid` -/
  subC : Nat → List Bytes
  subCU : Nat → List Bytes
  obtS : Nat → List Bytes
  /-- server → client `cid` -/
  subS : Nat → List Bytes
  subSU : Nat → List Bytes
  obtC : Nat → List Bytes

inductive FSOp where
  /-- `RenetClient::send_message / receive_message / update / disconnect` on the client -/
  | cliSend (ch : Nat) (m : Bytes)
  | cliRecv (ch : Nat)
  | cliTick (dt : Nat)
  | cliDisconnect
  /-- `NetcodeClientTransport::update(duration)` with the datagrams the ADVERSARY queued at the client's socket -/
  | cliUpdate (d : Nat) (inbox : List Dgram)
  | cliSendPackets
  /-- `NetcodeClientTransport::disconnect` -/
  | cliTransportDisconnect
  /-- `RenetServer::send_message(cid, ..) / receive_message(cid, ..) / update / disconnect(cid)` -/
  | srvSend (ch : Nat) (m : Bytes)
  | srvRecv (ch : Nat)
  | srvTick (dt : Nat)
  | srvDisconnect
  /-- `NetcodeServerTransport::update(duration)` with the datagrams the ADVERSARY queued at the server's socket -/
  | srvUpdate (d : Nat) (inbox : List Dgram)
  | srvSendPackets
  /-- `NetcodeServerTransport::disconnect_all` -/
  | srvDisconnectAll
  deriving Repr, DecidableEq

def trackSeq (cid : Nat) (rs : Server) (old : Nat) : Nat :=
  match SMap.find? rs.conns cid with
  | some y => y.packetSeq
  | none => old

def cliSeals (a : AEAD) (g : ClientGlue) : List Sealed :=
  match g.netcode.disconnectReason with
  | some _ => []
  | none =>
    match g.renet.getPacketsToSend with
    | .ok (_, ps) => sealsC a g.netcode ps
    | _ => []

/-- the ghost records of the server's `send_packets` for client `cid` (mirrors `serverSendLoop`) -/
def srvSeals (a : AEAD) (cid : Nat) (g : ServerGlue) : List Nat → List Sealed
  | [] => []
  | id :: rest =>
    match g.renet.getPacketsToSend id with
    | .ok (rs, some ps) =>
      match serverSendClient a g.netcode id ps #[] with
      | .ok (ns, _) => (if id = cid then sealsS a id g.netcode ps else []) ++ srvSeals a cid ⟨ns, rs⟩ rest
      | _ => []
    | _ => []

/-- one operation; `none` = a model function panicked (the Rust code would unwind) -/
def FS.step (a : AEAD) (cid : Nat) (fs : FS) : FSOp → Option FS
  | .cliSend ch m =>
    match fs.c.renet.sendMessage ch m with
    | .ok r' => some { fs with c := { fs.c with renet := r' }
                               subC := if accepted fs.c.renet r' ch then push fs.subC ch m else fs.subC
                               subCU := if offeredU fs.c.renet ch then push fs.subCU ch m else fs.subCU }
    | _ => none
  | .cliRecv ch =>
    match fs.c.renet.receiveMessage ch with
    | .ok (r', some m) => some { fs with c := { fs.c with renet := r' }, obtC := push fs.obtC ch m }
    | .ok (r', none) => some { fs with c := { fs.c with renet := r' } }
    | _ => none
  | .cliTick dt =>
    match fs.c.renet.update dt with
    | .ok r' => some { fs with c := { fs.c with renet := r' } }
    | _ => none
  | .cliDisconnect => some { fs with c := { fs.c with renet := fs.c.renet.disconnectWith .byClient } }
  | .cliUpdate d inbox =>
    match clientUpdate a fs.c d inbox with
    | .ok o => some { fs with c := o.g }
    | _ => none
  | .cliSendPackets =>
    match clientSendPackets a fs.c with
    | .ok (_, g', out) => some { fs with c := g', emC := fs.emC ++ out.toList, sealedC := fs.sealedC ++ cliSeals a fs.c }
    | _ => none
  | .cliTransportDisconnect =>
    match clientDisconnect a fs.c with
    | .ok (g', _) => some { fs with c := g' }
    | _ => none
  | .srvDisconnectAll =>
    match serverDisconnectAll a fs.s with
    | .ok (g', _) => some { fs with s := g', ySeq := trackSeq cid g'.renet fs.ySeq }
    | _ => none
  | .srvSend ch m =>
    match fs.s.renet.sendMessage cid ch m with
    | .ok rs' =>
      let acc := match SMap.find? fs.s.renet.conns cid, SMap.find? rs'.conns cid with
        | some y0, some y1 => accepted y0 y1 ch
        | _, _ => false
      let off := match SMap.find? fs.s.renet.conns cid with
        | some y0 => offeredU y0 ch
        | none => false
      some { fs with s := { fs.s with renet := rs' }, ySeq := trackSeq cid rs' fs.ySeq
                     subS := if acc then push fs.subS ch m else fs.subS
                     subSU := if off then push fs.subSU ch m else fs.subSU }
    | _ => none
  | .srvRecv ch =>
    match fs.s.renet.receiveMessage cid ch with
    | .ok (rs', some m) => some { fs with s := { fs.s with renet := rs' }, ySeq := trackSeq cid rs' fs.ySeq
                                          obtS := push fs.obtS ch m }
    | .ok (rs', none) => some { fs with s := { fs.s with renet := rs' }, ySeq := trackSeq cid rs' fs.ySeq }
    | _ => none
  | .srvTick dt =>
    match fs.s.renet.update dt with
    | .ok rs' => some { fs with s := { fs.s with renet := rs' }, ySeq := trackSeq cid rs' fs.ySeq }
    | _ => none
  | .srvDisconnect =>
    some { fs with s := { fs.s with renet := fs.s.renet.disconnect cid }
                   ySeq := trackSeq cid (fs.s.renet.disconnect cid) fs.ySeq }
  | .srvUpdate d inbox =>
    match serverUpdate a fs.s d inbox with
    | .ok (g', _) => some { fs with s := g', ySeq := trackSeq cid g'.renet fs.ySeq }
    | _ => none
  | .srvSendPackets =>
    match serverSendPackets a fs.s with
    | .ok (g', out) => some { fs with s := g', ySeq := trackSeq cid g'.renet fs.ySeq, emS := fs.emS ++ out.toList
                                      sealedS := fs.sealedS ++ srvSeals a cid fs.s fs.s.renet.clientsId }
    | _ => none

def FS.run (a : AEAD) (cid : Nat) (fs : FS) : List FSOp → Option FS
  | [] => some fs
  | op :: ops =>
    match fs.step a cid op with
    | some fs' => fs'.run a cid ops
    | none => none

theorem FS.run_append (a : AEAD) (cid : Nat) (fs : FS) : ∀ (l1 l2 : List FSOp),
    fs.run a cid (l1 ++ l2) = (fs.run a cid l1).bind (fun fs' => fs'.run a cid l2) := by
  intro l1
  induction l1 generalizing fs with
  | nil => intro l2; rfl
  | cons op l1 ih =>
    intro l2
    dsimp only [List.cons_append, FS.run]
    cases fs.step a cid op with
    | none => rfl
    | some fs' => exact ih fs' l2

theorem FS.run_cons {a : AEAD} {cid : Nat} {fs fs' : FS} {op : FSOp} {ops : List FSOp}
    (h : fs.run a cid (op :: ops) = some fs') : ∃ fs1, fs.step a cid op = some fs1 ∧ fs1.run a cid ops = some fs' := by
  dsimp only [FS.run] at h
  split at h
  · exact ⟨_, ‹_›, h⟩
  · cases h

/-- `FS.step`, read backwards: the call that returned and the state it leaves.  Both outcomes of a `receive_message`
    are one alternative (`mo`). -/
inductive FS.Stepped (a : AEAD) (cid : Nat) (fs : FS) : FSOp → FS → Prop
  | cliSend {ch : Nat} {m : Bytes} {r' : Conn} (h : fs.c.renet.sendMessage ch m = .ok r') :
      FS.Stepped a cid fs (.cliSend ch m)
        { fs with c := { fs.c with renet := r' }
                  subC := if accepted fs.c.renet r' ch then push fs.subC ch m else fs.subC
                  subCU := if offeredU fs.c.renet ch then push fs.subCU ch m else fs.subCU }
  | cliRecv {ch : Nat} {r' : Conn} {mo : Option Bytes} (h : fs.c.renet.receiveMessage ch = .ok (r', mo)) :
      FS.Stepped a cid fs (.cliRecv ch)
        { fs with c := { fs.c with renet := r' }, obtC := mo.elim fs.obtC (push fs.obtC ch) }
  | cliTick {dt : Nat} {r' : Conn} (h : fs.c.renet.update dt = .ok r') :
      FS.Stepped a cid fs (.cliTick dt) { fs with c := { fs.c with renet := r' } }
  | cliDisconnect :
      FS.Stepped a cid fs .cliDisconnect { fs with c := { fs.c with renet := fs.c.renet.disconnectWith .byClient } }
  | cliUpdate {d : Nat} {inbox : List Dgram} {o : ClientOut} (h : clientUpdate a fs.c d inbox = .ok o) :
      FS.Stepped a cid fs (.cliUpdate d inbox) { fs with c := o.g }
  | cliSendPackets {res : Except TransportError Unit} {g' : ClientGlue} {out : Array Dgram}
      (h : clientSendPackets a fs.c = .ok (res, g', out)) :
      FS.Stepped a cid fs .cliSendPackets
        { fs with c := g', emC := fs.emC ++ out.toList, sealedC := fs.sealedC ++ cliSeals a fs.c }
  | cliTransportDisconnect {g' : ClientGlue} {out : Array Dgram} (h : clientDisconnect a fs.c = .ok (g', out)) :
      FS.Stepped a cid fs .cliTransportDisconnect { fs with c := g' }
  | srvSend {ch : Nat} {m : Bytes} {rs' : Server} (h : fs.s.renet.sendMessage cid ch m = .ok rs') :
      FS.Stepped a cid fs (.srvSend ch m)
        { fs with s := { fs.s with renet := rs' }, ySeq := trackSeq cid rs' fs.ySeq
                  subS := if (match SMap.find? fs.s.renet.conns cid, SMap.find? rs'.conns cid with
                    | some y0, some y1 => accepted y0 y1 ch
                    | _, _ => false) then push fs.subS ch m else fs.subS
                  subSU := if (match SMap.find? fs.s.renet.conns cid with
                    | some y0 => offeredU y0 ch
                    | none => false) then push fs.subSU ch m else fs.subSU }
  | srvRecv {ch : Nat} {rs' : Server} {mo : Option Bytes} (h : fs.s.renet.receiveMessage cid ch = .ok (rs', mo)) :
      FS.Stepped a cid fs (.srvRecv ch)
        { fs with s := { fs.s with renet := rs' }, ySeq := trackSeq cid rs' fs.ySeq
                  obtS := mo.elim fs.obtS (push fs.obtS ch) }
  | srvTick {dt : Nat} {rs' : Server} (h : fs.s.renet.update dt = .ok rs') :
      FS.Stepped a cid fs (.srvTick dt) { fs with s := { fs.s with renet := rs' }, ySeq := trackSeq cid rs' fs.ySeq }
  | srvDisconnect :
      FS.Stepped a cid fs .srvDisconnect
        { fs with s := { fs.s with renet := fs.s.renet.disconnect cid }
                  ySeq := trackSeq cid (fs.s.renet.disconnect cid) fs.ySeq }
  | srvUpdate {d : Nat} {inbox : List Dgram} {g' : ServerGlue} {out : Array Dgram}
      (h : serverUpdate a fs.s d inbox = .ok (g', out)) :
      FS.Stepped a cid fs (.srvUpdate d inbox) { fs with s := g', ySeq := trackSeq cid g'.renet fs.ySeq }
  | srvSendPackets {g' : ServerGlue} {out : Array Dgram} (h : serverSendPackets a fs.s = .ok (g', out)) :
      FS.Stepped a cid fs .srvSendPackets
        { fs with s := g', ySeq := trackSeq cid g'.renet fs.ySeq, emS := fs.emS ++ out.toList
                  sealedS := fs.sealedS ++ srvSeals a cid fs.s fs.s.renet.clientsId }
  | srvDisconnectAll {g' : ServerGlue} {out : Array Dgram} (h : serverDisconnectAll a fs.s = .ok (g', out)) :
      FS.Stepped a cid fs .srvDisconnectAll { fs with s := g', ySeq := trackSeq cid g'.renet fs.ySeq }

theorem FS.stepped {a : AEAD} {cid : Nat} {fs fs' : FS} {op : FSOp} (hs : fs.step a cid op = some fs') :
    FS.Stepped a cid fs op fs' := by
  cases op with
  | cliDisconnect | srvDisconnect =>
    cases hs
    constructor
  | cliRecv ch =>
    dsimp only [FS.step] at hs
    split at hs <;> cases hs <;> exact .cliRecv ‹_›
  | srvRecv ch =>
    dsimp only [FS.step] at hs
    split at hs <;> cases hs <;> exact .srvRecv ‹_›
  | _ =>
    dsimp only [FS.step] at hs
    split at hs <;> cases hs
    constructor
    assumption

/-! ### the per-run hypotheses

  **`NoForgery`** (authenticity, never a law of the AEAD): whenever a netcode endpoint's `process_packet` surfaces a
  payload for this session in this run, the datagram it was given is one the PEER's `generate_payload_packet` returned
  earlier in this run (a ghost record of `sealedC` / `sealedS`), sealed under the key and protocol id the receiver
  opened it with.  This is integrity of ciphertexts relative to the run, for the two session keys: a third party who
  knew a key could seal under it, so key secrecy enters exactly here and nowhere else.  Replays of genuine datagrams
  satisfy it by definition; truncated, bit-flipped or fabricated datagrams satisfy it when they do not open.

  **`SingleSession`**: the server's netcode never reports `ClientConnected(cid)` in this run — the session is not
  re-opened after the server dropped it.  (Known finding K1: after the server side of a session ends, replaying the
  handshake datagrams re-opens it with the same keys and a fresh replay window and a fresh `RenetClient`; old datagrams
  are then surfaced into fresh channels.  While the session is in the netcode table the report is impossible anyway,
  `GI.TStep`.)

  Both are Bool-valued functions of the state and the adversary's inbox, so that concrete runs are checked by
  evaluation. -/

def srvResOK (cid : Nat) (L : List Sealed) (ns : NetcodeServer) (addr : Addr) (buf : Bytes) : ServerResult → Bool
  | .payload id _ =>
    if id = cid then
      match findClientByAddr ns.clients addr with
      | some (_, c) => hasRec L buf c.receiveKey ns.protocolId
      | none => false
    else true
  | .clientConnected id _ _ _ => id ≠ cid
  | _ => true

/-- the netcode state is threaded through; it never depends on renet -/
def srvInboxOK (a : AEAD) (cid : Nat) (L : List Sealed) : NetcodeServer → List Dgram → Bool
  | _, [] => true
  | ns, (addr, buf) :: rest =>
    match ns.processPacket a addr buf with
    | .ok (r, ns') => srvResOK cid L ns addr buf r && srvInboxOK a cid L ns' rest
    | _ => true

def cliInboxOK (a : AEAD) (L : List Sealed) : NetcodeClient → List Dgram → Bool
  | _, [] => true
  | nc, (addr, buf) :: rest =>
    if addr ≠ nc.serverAddr then cliInboxOK a L nc rest else
    match nc.processPacket a buf with
    | .ok (some _, nc') =>
      hasRec L buf nc.connectToken.serverToClientKey nc.connectToken.protocolId && cliInboxOK a L nc' rest
    | .ok (none, nc') => cliInboxOK a L nc' rest
    | _ => true

def opOK (a : AEAD) (cid : Nat) (fs : FS) : FSOp → Bool
  | .srvUpdate d inbox =>
    match fs.s.netcode.update d with
    | .ok ns0 => srvInboxOK a cid fs.sealedC ns0 inbox
    | _ => true
  | .cliUpdate _ inbox =>
    match fs.c.netcode.disconnectReason, fs.c.renet.disconnectReason with
    | none, none => cliInboxOK a fs.sealedS fs.c.netcode inbox
    | _, _ => true
  | _ => true

/-- the hypotheses hold at every `update` of the run -/
def runOK (a : AEAD) (cid : Nat) (fs : FS) : List FSOp → Bool
  | [] => true
  | op :: ops =>
    opOK a cid fs op &&
    match fs.step a cid op with
    | some fs' => runOK a cid fs' ops
    | none => true


/-! the two hypotheses separately (`runOK` is their conjunction, `runOK_eq`) -/

def srvResNF (cid : Nat) (L : List Sealed) (ns : NetcodeServer) (addr : Addr) (buf : Bytes) : ServerResult → Bool
  | .payload id _ =>
    if id = cid then
      match findClientByAddr ns.clients addr with
      | some (_, c) => hasRec L buf c.receiveKey ns.protocolId
      | none => false
    else true
  | _ => true

def srvResSS (cid : Nat) : ServerResult → Bool
  | .clientConnected id _ _ _ => id ≠ cid
  | _ => true

theorem srvResOK_eq (cid : Nat) (L : List Sealed) (ns : NetcodeServer) (addr : Addr) (buf : Bytes) (r : ServerResult) :
    srvResOK cid L ns addr buf r = (srvResNF cid L ns addr buf r && srvResSS cid r) := by
  cases r <;> simp [srvResOK, srvResNF, srvResSS]

def srvInboxNF (a : AEAD) (cid : Nat) (L : List Sealed) : NetcodeServer → List Dgram → Bool
  | _, [] => true
  | ns, (addr, buf) :: rest =>
    match ns.processPacket a addr buf with
    | .ok (r, ns') => srvResNF cid L ns addr buf r && srvInboxNF a cid L ns' rest
    | _ => true

def srvInboxSS (a : AEAD) (cid : Nat) : NetcodeServer → List Dgram → Bool
  | _, [] => true
  | ns, (addr, buf) :: rest =>
    match ns.processPacket a addr buf with
    | .ok (r, ns') => srvResSS cid r && srvInboxSS a cid ns' rest
    | _ => true

theorem and4 (p q r s : Bool) : ((p && q) && (r && s)) = ((p && r) && (q && s)) := by
  cases p <;> cases q <;> cases r <;> cases s <;> rfl

theorem srvInboxOK_eq (a : AEAD) (cid : Nat) (L : List Sealed) : ∀ (l : List Dgram) (ns : NetcodeServer),
    srvInboxOK a cid L ns l = (srvInboxNF a cid L ns l && srvInboxSS a cid ns l) := by
  intro l
  induction l with
  | nil =>
    intro _
    exact rfl
  | cons x rest ih =>
    intro ns
    obtain ⟨addr, buf⟩ := x
    dsimp only [srvInboxOK, srvInboxNF, srvInboxSS]
    cases ns.processPacket a addr buf with
    | ok v =>
      obtain ⟨r, ns'⟩ := v
      simp only
      rw [srvResOK_eq, ih ns', and4]
    | err e => rfl
    | panic m => rfl

def opNF (a : AEAD) (cid : Nat) (fs : FS) : FSOp → Bool
  | .srvUpdate d inbox =>
    match fs.s.netcode.update d with
    | .ok ns0 => srvInboxNF a cid fs.sealedC ns0 inbox
    | _ => true
  | .cliUpdate _ inbox =>
    match fs.c.netcode.disconnectReason, fs.c.renet.disconnectReason with
    | none, none => cliInboxOK a fs.sealedS fs.c.netcode inbox
    | _, _ => true
  | _ => true

def opSS (a : AEAD) (cid : Nat) (fs : FS) : FSOp → Bool
  | .srvUpdate d inbox =>
    match fs.s.netcode.update d with
    | .ok ns0 => srvInboxSS a cid ns0 inbox
    | _ => true
  | _ => true

theorem opOK_eq (a : AEAD) (cid : Nat) (fs : FS) (op : FSOp) : opOK a cid fs op = (opNF a cid fs op && opSS a cid fs op) := by
  cases op <;> simp only [opOK, opNF, opSS, Bool.and_true]
  case srvUpdate d inbox =>
    cases fs.s.netcode.update d with
    | ok ns0 => exact srvInboxOK_eq a cid _ inbox ns0
    | err e => rfl
    | panic m => rfl

def runNF (a : AEAD) (cid : Nat) (fs : FS) : List FSOp → Bool
  | [] => true
  | op :: ops =>
    opNF a cid fs op &&
    match fs.step a cid op with
    | some fs' => runNF a cid fs' ops
    | none => true

def runSS (a : AEAD) (cid : Nat) (fs : FS) : List FSOp → Bool
  | [] => true
  | op :: ops =>
    opSS a cid fs op &&
    match fs.step a cid op with
    | some fs' => runSS a cid fs' ops
    | none => true

theorem runOK_eq (a : AEAD) (cid : Nat) : ∀ (ops : List FSOp) (fs : FS),
    runOK a cid fs ops = (runNF a cid fs ops && runSS a cid fs ops) := by
  intro l
  induction l with
  | nil =>
    intro _
    exact rfl
  | cons op ops ih =>
    intro fs
    dsimp only [runOK, runNF, runSS]
    rw [opOK_eq]
    cases fs.step a cid op with
    | none => simp
    | some fs' => simp only; rw [ih fs', and4]

/-- **`NoForgeryRun`**: whenever, in this run, `NetcodeServer::process_packet` surfaces `Payload{client_id = cid}` or
    the client's `NetcodeClient::process_packet` surfaces a payload, the datagram it was given is the datagram of a
    ghost record of the PEER's `generate_payload_packet` made earlier in this run, sealed under the key and protocol id
    the receiver opened it with. -/
def NoForgeryRun (a : AEAD) (cid : Nat) (fs : FS) (ops : List FSOp) : Prop := runNF a cid fs ops = true

/-- **`SingleSessionRun`**: `NetcodeServer::process_packet` never returns `ClientConnected{client_id = cid}` in this run. -/
def SingleSessionRun (a : AEAD) (cid : Nat) (fs : FS) (ops : List FSOp) : Prop := runSS a cid fs ops = true

instance (a : AEAD) (cid : Nat) (fs : FS) (ops : List FSOp) : Decidable (NoForgeryRun a cid fs ops) :=
  inferInstanceAs (Decidable (_ = true))
instance (a : AEAD) (cid : Nat) (fs : FS) (ops : List FSOp) : Decidable (SingleSessionRun a cid fs ops) :=
  inferInstanceAs (Decidable (_ = true))

theorem run_prefix {a : AEAD} {cid : Nat} {P : FS → FSOp → Bool} {R : FS → List FSOp → Bool} (hnil : ∀ fs, R fs [] = true)
    (hcons : ∀ fs op ops, R fs (op :: ops) =
      (P fs op && match fs.step a cid op with
        | some fs' => R fs' ops
        | none => true)) :
    ∀ (l1 l2 : List FSOp) (fs : FS), R fs (l1 ++ l2) = true → R fs l1 = true := by
  intro l
  induction l with
  | nil =>
    intro _ fs _
    exact hnil fs
  | cons op l1 ih =>
    intro l2 fs h
    rw [List.cons_append, hcons, Bool.and_eq_true] at h
    rw [hcons, Bool.and_eq_true]
    refine ⟨h.1, ?_⟩
    cases hs : fs.step a cid op with
    | none => rfl
    | some fs' => rw [hs] at h; exact ih l2 fs' h.2

theorem runNF_prefix (a : AEAD) (cid : Nat) : ∀ (l1 l2 : List FSOp) (fs : FS),
    runNF a cid fs (l1 ++ l2) = true → runNF a cid fs l1 = true :=
  run_prefix (fun _ => rfl) (fun _ _ _ => rfl)

theorem runSS_prefix (a : AEAD) (cid : Nat) : ∀ (l1 l2 : List FSOp) (fs : FS),
    runSS a cid fs (l1 ++ l2) = true → runSS a cid fs l1 = true :=
  run_prefix (fun _ => rfl) (fun _ _ _ => rfl)

theorem runOK_split {a : AEAD} {cid : Nat} {fs : FS} {ops : List FSOp} (h : runOK a cid fs ops = true) :
    NoForgeryRun a cid fs ops ∧ SingleSessionRun a cid fs ops := by
  rw [runOK_eq, Bool.and_eq_true] at h
  exact h

theorem runOK_of {a : AEAD} {cid : Nat} {fs : FS} {ops : List FSOp} (h1 : NoForgeryRun a cid fs ops)
    (h2 : SingleSessionRun a cid fs ops) : runOK a cid fs ops = true := by
  rw [runOK_eq, h1, h2]; rfl

/-! ### 3c. every `FS` step is a `Duo` run -/

def Only : Side → Duo → Duo → Prop
  | .X, d, d' => ∃ x dl, d' = { d with x := x, delX := dl }
  | .Y, d, d' => ∃ y dl, d' = { d with y := y, delY := dl }

theorem Only.refl {sd : Side} (d : Duo) : Only sd d d := by
  cases sd <;> exact ⟨_, _, rfl⟩
theorem Only.trans {sd : Side} {d d1 d2 : Duo} (h1 : Only sd d d1) (h2 : Only sd d1 d2) : Only sd d d2 := by
  cases sd <;> obtain ⟨_, _, rfl⟩ := h1 <;> obtain ⟨_, _, rfl⟩ := h2 <;> exact ⟨_, _, rfl⟩

theorem stepY_deliver {d : Duo} {k : Nat} {p : Bytes} {y' : Conn} (hk : d.outX[k]? = some p)
    (hp : d.y.processPacket p = .ok y') :
    d.step (.Y, .deliver k) = some { d with y := y', delY := d.delY ++ [k] } := by
  simp only [Duo.step, Duo.stepX, Duo.swap, hk, hp]
  rfl

theorem stepX_deliver {d : Duo} {k : Nat} {p : Bytes} {x' : Conn} (hk : d.outY[k]? = some p)
    (hp : d.x.processPacket p = .ok x') :
    d.step (.X, .deliver k) = some { d with x := x', delX := d.delX ++ [k] } := by
  simp only [Duo.step, Duo.stepX, hk, hp]

structure SrvRel (cid : Nat) (rs : Server) (d : Duo) : Prop where
  sorted : SL.SMap.Sorted rs.conns
  conn : SMap.find? rs.conns cid = some d.y ∨ SMap.find? rs.conns cid = none

theorem SrvRel.entry {cid : Nat} {rs : Server} {d : Duo} (h : SrvRel cid rs d) {c : Conn}
    (hf : SMap.find? rs.conns cid = some c) : c = d.y := by
  rcases h.conn with hy | hn
  · rw [hf] at hy
    exact Option.some.inj hy
  · rw [hf] at hn
    cases hn

/-- what the simulation needs to know about a `ServerResult` that `handle_server_result` is about to process -/
def ResGood (cid : Nat) (L : List Bytes) : ServerResult → Prop
  | .payload id p => id = cid → p ∈ L
  | .clientConnected id _ _ _ => id ≠ cid
  | _ => True

def YRun (cid : Nat) (d : Duo) (rs' : Server) : Prop :=
  ∃ dops d', d.run dops = some d' ∧ SrvRel cid rs' d' ∧ Only .Y d d' ∧ d'.y.packetSeq = d.y.packetSeq

theorem handle_sim {cid : Nat} {r : ServerResult} {rs rs' : Server} {out out' : Array Dgram} {d : Duo}
    (h : handleServerResult r rs out = .ok (rs', out')) (hr : ResGood cid d.outX r)
    (hs : SrvRel cid rs d) :
    YRun cid d rs' := by
  have hsorted := GI.handle_sorted h hs.sorted
  have hren := GI.handle_renet h
  -- unless the result is a payload for `cid` that finds its entry, the `Duo` state stays and so does the entry of `cid`
  have stay : (SMap.find? rs'.conns cid = SMap.find? rs.conns cid ∨ SMap.find? rs'.conns cid = none) →
      YRun cid d rs' := by
    intro hf
    refine ⟨[], d, rfl, ⟨hsorted, ?_⟩, .refl d, rfl⟩
    rcases hf with e | e
    · rw [e]; exact hs.conn
    · exact Or.inr e
  cases r with
  | none =>
    obtain rfl : rs' = rs := hren
    exact stay (Or.inl rfl)
  | packetToSend addr p =>
    obtain rfl : rs' = rs := hren
    exact stay (Or.inl rfl)
  | payload id p =>
    obtain ⟨ok, hp⟩ := hren
    obtain ⟨ad, q, hc⟩ := SL.Server.processPacketFrom_spec hp
    by_cases e : id = cid
    · subst e
      rcases hc with ⟨-, e1, -⟩ | ⟨c, c', hf, hpp, -, hf'⟩
      · exact stay (Or.inl (by rw [e1]))
      · obtain rfl := hs.entry hf
        obtain ⟨k, hk⟩ := List.getElem?_of_mem (hr rfl)
        exact ⟨[(.Y, .deliver k)], _, Duo.run_single (stepY_deliver hk hpp), ⟨hsorted, Or.inl hf'⟩,
          ⟨_, _, rfl⟩, (SL.Conn.processPacket_fixed hpp).2.2⟩
    · exact stay (Or.inl (ad.others cid (fun e' => e e'.symm)))
  | clientConnected id addr ud p =>
    have e : id ≠ cid := hr
    obtain rfl : rs' = rs.addConnection id := hren
    exact stay (Or.inl (SL.addConnection_frame rs id cid (fun e' => e e'.symm)))
  | clientDisconnected id addr p =>
    obtain rfl : rs' = rs.removeConnection id := hren
    by_cases e : id = cid
    · subst e
      exact stay (Or.inr (GI.removeConnection_find_self rs hs.sorted id))
    · exact stay (Or.inl (SL.removeConnection_frame rs id cid (fun e' => e e'.symm)))

/-- a loop of `update`: netcode call, `handle_server_result`, … — under a per-call condition `OK` that yields
    `ResGood` for each result -/
theorem handleLoop_sim {cid : Nat} {α : Type} {d : Duo}
    (f : NetcodeServer → α → Res Empty (ServerResult × NetcodeServer)) (OK : NetcodeServer → List α → Prop)
    (hstep : ∀ ns x rest r ns', OK ns (x :: rest) → f ns x = .ok (r, ns') → ResGood cid d.outX r ∧ OK ns' rest) :
    ∀ (l : List α) (g g' : ServerGlue) (out out' : Array Dgram),
    GI.handleLoop f g l out = .ok (g', out') → OK g.netcode l → SrvRel cid g.renet d →
    YRun cid d g'.renet := by
  intro l g g' out out' h hok hs
  -- `YRun cid d ·` is itself what every iteration keeps
  refine (GI.handleLoop_preserves (f := f) (I := fun g l => OK g.netcode l ∧ YRun cid d g.renet) ?_
    l g g' out out' h ⟨hok, [], d, rfl, hs, .refl d, rfl⟩).2
  rintro g x rest r ns rs out out1 ⟨hok, l1, d1, r1, s1, y1, q1⟩ h1 h2
  obtain ⟨hg, hok'⟩ := hstep _ _ _ _ _ hok h1
  have e : d1.outX = d.outX := by
    obtain ⟨y, dl, rfl⟩ := y1
    rfl
  obtain ⟨l2, d2, r2, s2, y2, q2⟩ := handle_sim h2 (e ▸ hg) s1
  exact ⟨hok', l1 ++ l2, d2, Duo.run_trans r1 r2, s2, y1.trans y2, q2.trans q1⟩


theorem srvInboxOK_step {a : AEAD} (hl : a.Laws) {cid : Nat} {L : List Sealed} {d : Duo}
    (hL : ∀ e ∈ L, SealOK a e ∧ e.plain ∈ d.outX) :
    ∀ (ns : NetcodeServer) (x : Dgram) (rest : List Dgram) (r : ServerResult) (ns' : NetcodeServer),
    srvInboxOK a cid L ns (x :: rest) = true → GI.ppF a ns x = .ok (r, ns') →
    ResGood cid d.outX r ∧ srvInboxOK a cid L ns' rest = true := by
  intro ns x rest r ns' hok h1
  obtain ⟨addr, buf⟩ := x
  dsimp only [srvInboxOK] at hok
  have h1' : ns.processPacket a addr buf = .ok (r, ns') := h1
  rw [h1'] at hok
  simp only [Bool.and_eq_true] at hok
  refine ⟨?_, hok.2⟩
  have hres := hok.1
  cases r with
  | payload id p =>
    intro e
    subst e
    simp only [srvResOK, if_true] at hres
    obtain ⟨slot, c, hf, hplain⟩ := srv_payload_plain hl h1'
    rw [hf] at hres
    obtain ⟨e, he, e1, e2, e3⟩ := hasRec_iff.mp hres
    rw [hplain e (hL e he).1 e1 e2 e3]
    exact (hL e he).2
  | clientConnected id addr' ud p =>
    dsimp only [srvResOK] at hres
    show id ≠ cid
    exact of_decide_eq_true hres
  | _ => trivial

theorem ResGood.of_notSession {cid : Nat} {L : List Bytes} {r : ServerResult} (h : NS.NotSession r) :
    ResGood cid L r := by
  cases r with
  | payload id p => exact (h.2 id p rfl).elim
  | clientConnected id ad ud p => exact (h.1 id ad ud p rfl).elim
  | _ => trivial

/-- a loop of calls that name a client id: nothing is delivered, at most Y's table entry goes -/
theorem idLoop_sim {cid : Nat} {f : NetcodeServer → Nat → Res Empty (ServerResult × NetcodeServer)}
    (hf : ∀ {ns x r ns'}, f ns x = .ok (r, ns') → NS.NotSession r) {l : List Nat} {g g' : ServerGlue}
    {out out' : Array Dgram} {d : Duo} (h : GI.handleLoop f g l out = .ok (g', out')) (hs : SrvRel cid g.renet d) :
    YRun cid d g'.renet :=
  handleLoop_sim f (fun _ _ => True) (fun _ _ _ _ _ _ hx => ⟨.of_notSession (hf hx), trivial⟩) l g g' out out' h trivial hs

theorem dcF_quiet {a : AEAD} {ns ns' : NetcodeServer} {x : Nat} {r : ServerResult} (hx : GI.dcF a ns x = .ok (r, ns')) :
    NS.NotSession r := (NS.disconnect_ok (mk := fun _ => .disconnect) hx).quiet.result

theorem serverDisconnectAll_sim {a : AEAD} {cid : Nat} {g g' : ServerGlue} {out : Array Dgram} {d : Duo}
    (h : serverDisconnectAll a g = .ok (g', out)) (hs : SrvRel cid g.renet d) :
    YRun cid d g'.renet := by
  rw [GI.serverDisconnectAll_eq] at h
  exact idLoop_sim dcF_quiet h hs

/-- **`NetcodeServerTransport::update` is a run of deliveries of emitted packets to Y** (and possibly the removal of
    Y's table entry), under the run hypotheses for its inbox -/
theorem serverUpdate_sim {a : AEAD} (hl : a.Laws) {cid : Nat} {L : List Sealed} {g g' : ServerGlue} {dt : Nat}
    {inbox : List Dgram} {out : Array Dgram} {d : Duo} (h : serverUpdate a g dt inbox = .ok (g', out))
    (hok : (match g.netcode.update dt with
      | .ok ns0 => srvInboxOK a cid L ns0 inbox
      | _ => true) = true)
    (hL : ∀ e ∈ L, SealOK a e ∧ e.plain ∈ d.outX) (hs : SrvRel cid g.renet d) :
    YRun cid d g'.renet := by
  obtain ⟨ns0, g1, out1, g2, out2, h0, l1, l2, l3⟩ := GI.serverUpdate_unfold h
  rw [h0] at hok
  simp only at hok
  obtain ⟨o1, d1, r1, s1, y1, q1⟩ := handleLoop_sim (cid := cid) (GI.ppF a)
    (fun ns l => srvInboxOK a cid L ns l = true) (srvInboxOK_step hl hL) inbox _ g1 _ out1 l1 hok hs
  obtain ⟨o2, d2, r2, s2, y2, q2⟩ := idLoop_sim (fun hx => (NS.updateClient_ok hx).quiet.result) l2 s1
  obtain ⟨o3, d3, r3, s3, y3, q3⟩ := idLoop_sim dcF_quiet l3 s2
  exact ⟨o1 ++ (o2 ++ o3), d3, Duo.run_trans r1 (Duo.run_trans r2 r3), s3, y1.trans (y2.trans y3),
    q3.trans (q2.trans q1)⟩

theorem sendClient_out_irrel (a : AEAD) (id : Nat) : ∀ (ps : List Bytes) (ns ns' : NetcodeServer) (out out' o2 : Array Dgram),
    serverSendClient a ns id ps out = .ok (ns', out') → ∃ o2', serverSendClient a ns id ps o2 = .ok (ns', o2') := by
  intro l
  induction l with
  | nil =>
    intro ns ns' out out' o2 h
    cases h; exact ⟨o2, rfl⟩
  | cons p rest ih =>
    intro ns ns' out out' o2 h
    dsimp only [serverSendClient] at h ⊢
    split at h
    · cases h
    · cases h
      exact ⟨o2, rfl⟩
    · rename_i addr dg ns1 hg
      exact ih ns1 ns' _ out' _ h

theorem srvSeals_cons {a : AEAD} {cid id : Nat} {g : ServerGlue} {rs : Server} {ps : List Bytes} {ns : NetcodeServer}
    {out out1 : Array Dgram} {rest : List Nat} (h1 : g.renet.getPacketsToSend id = .ok (rs, some ps))
    (h2 : serverSendClient a g.netcode id ps out = .ok (ns, out1)) :
    srvSeals a cid g (id :: rest) =
      (if id = cid then sealsS a id g.netcode ps else []) ++ srvSeals a cid ⟨ns, rs⟩ rest := by
  obtain ⟨o2', h2'⟩ := sendClient_out_irrel a id ps _ _ _ _ #[] h2
  simp only [srvSeals, h1, h2']

theorem stepY_flush {d : Duo} {y' : Conn} {bs : List Bytes} (h : d.y.getPacketsToSend = .ok (y', bs)) :
    d.step (.Y, .flush) = some { d with y := y', outY := d.outY ++ bs } := by
  simp only [Duo.step, Duo.stepX, Duo.swap, h]
  rfl

/-- **the server's `send_packets` is a run of flushes of Y**; its ghost records are sound and wrap flushed packets -/
theorem serverSendLoop_sim {a : AEAD} {cid : Nat} :
    ∀ (l : List Nat) (g g' : ServerGlue) (out out' : Array Dgram) (d : Duo),
    serverSendLoop a g l out = .ok (g', out') → SrvRel cid g.renet d →
    ∃ dops d', d.run dops = some d' ∧ SrvRel cid g'.renet d' ∧
      (∃ y oy, d' = { d with y := y, outY := d.outY ++ oy }) ∧
      (∀ e ∈ srvSeals a cid g l, SealOK a e ∧ e.plain ∈ d'.outY) ∧
      SL.QuietC g.renet.conns g'.renet.conns ∧ (SMap.find? g.renet.conns cid = none → d' = d) := by
  intro l
  induction l with
  | nil =>
    intro g g' out out' d h hs
    cases h
    exact ⟨[], d, rfl, hs, ⟨d.y, [], by simp⟩, fun e he => (by cases he), SL.QuietC.refl _, fun _ => rfl⟩
  | cons id rest ih =>
    intro g g' out out' d h hs
    obtain ⟨rs, ps, ns, out1, h1, h2, h3⟩ := GI.sendLoop_cons h
    obtain ⟨ad, q, hc⟩ := SL.Server.getPacketsToSend_spec h1
    obtain ⟨ds, -, hsl⟩ := GI.sendClient_sealed a id ps _ _ _ _ h2
    rw [srvSeals_cons h1 h2]
    by_cases e : id = cid
    · subst e
      rcases hc with ⟨-, -, e2⟩ | ⟨c, c', ps', hf, hg, e2, hf'⟩
      · cases e2
      · cases e2
        obtain rfl := hs.entry hf
        have hs1 : SrvRel id rs { d with y := c', outY := d.outY ++ ps } := ⟨q.sorted hs.sorted, Or.inl hf'⟩
        obtain ⟨o2, d2, r2, s2, ⟨y2, oy2, e2⟩, hse, q2, -⟩ := ih _ g' out1 out' _ h3 hs1
        refine ⟨(.Y, .flush) :: o2, d2, ?_, s2, ⟨y2, ps ++ oy2, by rw [e2]; simp⟩, ?_, q.trans q2, ?_⟩
        · simp only [Duo.run, stepY_flush hg]; exact r2
        · intro x hx
          rw [if_pos rfl] at hx
          rcases List.mem_append.mp hx with hx | hx
          · obtain ⟨k1, k2, -⟩ := sealed_recs hsl x hx
            refine ⟨k1, ?_⟩
            rw [e2]
            simp only [List.mem_append]
            exact Or.inl (Or.inr k2)
          · exact hse x hx
        · intro hn; rw [hf] at hn; cases hn
    · have hs1 : SrvRel cid rs d := ⟨q.sorted hs.sorted, by rw [ad.others cid (fun e' => e e'.symm)]; exact hs.conn⟩
      obtain ⟨o2, d2, r2, s2, fr, hse, q2, hnone⟩ := ih _ g' out1 out' d h3 hs1
      refine ⟨o2, d2, r2, s2, fr, ?_, q.trans q2, ?_⟩
      · intro x hx
        rw [if_neg e, List.nil_append] at hx
        exact hse x hx
      · intro hn
        exact hnone (by rw [ad.others cid (fun e' => e e'.symm)]; exact hn)

theorem clientRecvLoop_sim {a : AEAD} (hl : a.Laws) {L : List Sealed} :
    ∀ (l : List Dgram) (g g' : ClientGlue) (d : Duo), clientRecvLoop a g l = .ok g' →
    cliInboxOK a L g.netcode l = true → (∀ e ∈ L, SealOK a e ∧ e.plain ∈ d.outY) → d.x = g.renet →
    ∃ dops d', d.run dops = some d' ∧ d'.x = g'.renet ∧ Only .X d d' := by
  intro l
  induction l with
  | nil =>
    intro g g' d h _ _ hx
    cases h
    exact ⟨[], d, rfl, hx, .refl d⟩
  | cons x rest ih =>
    intro g g' d h hok hL hx
    obtain ⟨addr, buf⟩ := x
    rw [GI.clientRecvLoop_cons] at h
    dsimp only [cliInboxOK] at hok
    split at h
    · rename_i hne
      rw [if_pos hne] at hok
      exact ih g g' d h hok hL hx
    · rename_i hne
      rw [if_neg hne] at hok
      obtain ⟨⟨p, nc⟩, h1, h2⟩ := Res.bind_ok_iff.mp h
      obtain ⟨rc, h3, h4⟩ := Res.bind_ok_iff.mp h2
      rw [h1] at hok
      cases p with
      | none =>
        cases h3
        exact ih _ g' d h4 hok hL hx
      | some p =>
        obtain ⟨_, h3, e⟩ := Res.bind_ok_iff.mp h3
        cases e
        simp only [Bool.and_eq_true] at hok
        obtain ⟨e, he, e1, e2, e3⟩ := hasRec_iff.mp hok.1
        have hp := cli_payload_plain hl h1 e (hL e he).1 e1 e2 e3
        obtain ⟨k, hk⟩ := List.getElem?_of_mem (hL e he).2
        rw [← hp] at hk
        have hstep := stepX_deliver (d := d) hk (by rw [hx]; exact h3)
        obtain ⟨l2, d2, r2, x2, f2⟩ := ih ⟨nc, rc⟩ g' { d with x := rc, delX := d.delX ++ [k] }
          h4 hok.2 hL rfl
        refine ⟨(.X, .deliver k) :: l2, d2, ?_, x2, .trans ⟨_, _, rfl⟩ f2⟩
        simp only [Duo.run, hstep]
        exact r2

theorem mirror_sim (g : ClientGlue) (d : Duo) (hx : d.x = g.renet) :
    ∃ dops d', d.run dops = some d' ∧ d'.x = GI.mirror g ∧ Only .X d d' := by
  unfold GI.mirror
  split
  · exact ⟨[(.X, .st .conn)], { d with x := d.x.setConnected }, rfl, by rw [hx], ⟨_, d.delX, rfl⟩⟩
  · split
    · exact ⟨[(.X, .st .conning)], { d with x := d.x.setConnecting }, rfl, by rw [hx], ⟨_, d.delX, rfl⟩⟩
    · exact ⟨[], d, rfl, hx, .refl d⟩

/-- **`NetcodeClientTransport::update`**: `disconnect_due_to_transport`, or nothing, or the status mirror followed by a
    run of deliveries of emitted packets to X -/
theorem clientUpdate_sim {a : AEAD} (hl : a.Laws) {L : List Sealed} {g : ClientGlue} {dt : Nat} {inbox : List Dgram}
    {o : ClientOut} {d : Duo} (h : clientUpdate a g dt inbox = .ok o)
    (hok : (match g.netcode.disconnectReason, g.renet.disconnectReason with
      | none, none => cliInboxOK a L g.netcode inbox
      | _, _ => true) = true)
    (hL : ∀ e ∈ L, SealOK a e ∧ e.plain ∈ d.outY) (hx : d.x = g.renet) :
    ∃ dops d', d.run dops = some d' ∧ d'.x = o.g.renet ∧ Only .X d d' := by
  cases hn : g.netcode.disconnectReason with
  | some reason =>
    rw [GI.clientUpdate_netcode_disconnected hn] at h
    cases h
    exact ⟨[(.X, .st (.dw .transport))], { d with x := d.x.disconnectWith .transport }, rfl, by rw [hx],
      ⟨_, d.delX, rfl⟩⟩
  | none =>
    cases hr : g.renet.disconnectReason with
    | some error =>
      rw [GI.clientUpdate_renet_disconnected hn hr] at h
      cases h
      exact ⟨[], d, rfl, hx, .refl d⟩
    | none =>
      rw [hn, hr] at hok
      simp only at hok
      rw [GI.clientUpdate_alive hn hr] at h
      obtain ⟨g1, h1, h2⟩ := Res.bind_ok_iff.mp h
      obtain ⟨⟨o', nc⟩, h3, h4⟩ := Res.bind_ok_iff.mp h2
      obtain ⟨l1, d1, r1, x1, f1⟩ := mirror_sim g d hx
      have hL1 : ∀ e ∈ L, SealOK a e ∧ e.plain ∈ d1.outY := by
        obtain ⟨x, dl, rfl⟩ := f1
        exact hL
      obtain ⟨l2, d2, r2, x2, f2⟩ := clientRecvLoop_sim hl inbox { g with renet := GI.mirror g } g1 d1 h1 hok hL1 x1
      refine ⟨l1 ++ l2, d2, Duo.run_trans r1 r2, ?_, f1.trans f2⟩
      rw [x2]
      cases o' with
      | none => cases h4; rfl
      | some v => obtain ⟨pkt, addr⟩ := v; cases h4; rfl

theorem stepX_flush {d : Duo} {x' : Conn} {bs : List Bytes} (h : d.x.getPacketsToSend = .ok (x', bs)) :
    d.step (.X, .flush) = some { d with x := x', outX := d.outX ++ bs } := by
  simp only [Duo.step, Duo.stepX, h]

/-- **the client's `send_packets`** is a flush of X (or nothing, when netcode is disconnected); its ghost records are
    sound and wrap flushed packets -/
theorem clientSendPackets_sim {a : AEAD} {g g' : ClientGlue} {res : Except TransportError Unit} {out : Array Dgram}
    {d : Duo} (h : clientSendPackets a g = .ok (res, g', out)) (hx : d.x = g.renet) :
    ∃ dops d', d.run dops = some d' ∧ d'.x = g'.renet ∧ (∃ x ox, d' = { d with x := x, outX := d.outX ++ ox }) ∧
      ∀ e ∈ cliSeals a g, SealOK a e ∧ e.plain ∈ d'.outX := by
  cases hn : g.netcode.disconnectReason with
  | some reason =>
    rw [GI.clientSendPackets_disconnected hn] at h
    cases h
    refine ⟨[], d, rfl, hx, ⟨d.x, [], by simp⟩, ?_⟩
    intro e he
    simp only [cliSeals, hn] at he
    cases he
  | none =>
    obtain ⟨ps, e, hg, hsl, -⟩ := GI.clientSendPackets_alive hn h
    refine ⟨[(.X, .flush)], _, Duo.run_single (stepX_flush (by rw [hx]; exact hg)), rfl, ⟨_, ps, rfl⟩, ?_⟩
    intro x hx'
    simp only [cliSeals, hn, hg] at hx'
    obtain ⟨k1, k2, -⟩ := (cSealed_recs hsl).2 x hx'
    exact ⟨k1, List.mem_append_right _ k2⟩


theorem clientDisconnect_frame {a : AEAD} {g g' : ClientGlue} {out : Array Dgram}
    (h : clientDisconnect a g = .ok (g', out)) :
    g'.renet = g.renet ∧ g'.netcode.connectToken = g.netcode.connectToken := by
  rw [GI.clientDisconnect_spec] at h
  split at h <;> cases h <;> exact ⟨rfl, rfl⟩

/-- the simulation relation: X is the client's `RenetClient`, Y is the server's entry for `cid` while there is one,
    the ghost logs coincide, every ghost seal record is sound and wraps a packet the `Duo` side emitted -/
structure Rel (a : AEAD) (cid : Nat) (fs : FS) (d : Duo) : Prop where
  x : d.x = fs.c.renet
  srv : SrvRel cid fs.s.renet d
  yseq : fs.ySeq = d.y.packetSeq
  subC : d.subX = fs.subC
  subCU : d.subXU = fs.subCU
  obtS : d.obtY = fs.obtS
  subS : d.subY = fs.subS
  subSU : d.subYU = fs.subSU
  obtC : d.obtX = fs.obtC
  sealC : ∀ e ∈ fs.sealedC, SealOK a e ∧ e.plain ∈ d.outX
  sealS : ∀ e ∈ fs.sealedS, SealOK a e ∧ e.plain ∈ d.outY

theorem trackSeq_some {cid : Nat} {rs : Server} {y : Conn} (h : SMap.find? rs.conns cid = some y) (old : Nat) :
    trackSeq cid rs old = y.packetSeq := by simp only [trackSeq, h]
theorem trackSeq_none {cid : Nat} {rs : Server} (h : SMap.find? rs.conns cid = none) (old : Nat) :
    trackSeq cid rs old = old := by simp only [trackSeq, h]

theorem trackSeq_rel {cid : Nat} {rs : Server} {d : Duo} (hs : SrvRel cid rs d) {old : Nat} (h : old = d.y.packetSeq) :
    trackSeq cid rs old = d.y.packetSeq := by
  rcases hs.conn with hy | hn
  · exact trackSeq_some hy old
  · rw [trackSeq_none hn old]; exact h

theorem stepY_send {d : Duo} {ch : Nat} {m : Bytes} {y' : Conn} (h : d.y.sendMessage ch m = .ok y') :
    d.step (.Y, .send ch m) = some { d with y := y', subY := if accepted d.y y' ch then push d.subY ch m else d.subY,
                                            subYU := if offeredU d.y ch then push d.subYU ch m else d.subYU } := by
  simp only [Duo.step, Duo.stepX, Duo.swap, h]
  rfl

theorem stepY_recv {d : Duo} {ch : Nat} {mo : Option Bytes} {y' : Conn} (h : d.y.receiveMessage ch = .ok (y', mo)) :
    d.step (.Y, .recv ch) = some { d with y := y', obtY := mo.elim d.obtY (push d.obtY ch) } := by
  cases mo <;> simp only [Duo.step, Duo.stepX, Duo.swap, h] <;> rfl

theorem stepY_upd {d : Duo} {dt : Nat} {y' : Conn} (h : d.y.update dt = .ok y') :
    d.step (.Y, .upd dt) = some { d with y := y' } := by
  simp only [Duo.step, Duo.stepX, Duo.swap, h]
  rfl

theorem Rel.intro {a : AEAD} {cid : Nat} {fs : FS} {y : Conn} {outX outY : List Bytes} {delY delX : List Nat}
    (hs : SL.SMap.Sorted fs.s.renet.conns)
    (hc : SMap.find? fs.s.renet.conns cid = some y ∨ SMap.find? fs.s.renet.conns cid = none)
    (hq : fs.ySeq = y.packetSeq) (hC : ∀ e ∈ fs.sealedC, SealOK a e ∧ e.plain ∈ outX)
    (hS : ∀ e ∈ fs.sealedS, SealOK a e ∧ e.plain ∈ outY) :
    Rel a cid fs ⟨fs.c.renet, y, outX, outY, fs.subC, fs.subCU, fs.obtS, fs.subS, fs.subSU, fs.obtC, delY, delX⟩ :=
  ⟨rfl, ⟨hs, hc⟩, hq, rfl, rfl, rfl, rfl, rfl, rfl, hC, hS⟩

theorem step_sim {a : AEAD} (hl : a.Laws) {cfg : Cfg} {cid : Nat} {fs fs' : FS} {d : Duo} {op : FSOp}
    (h : Rel a cid fs d) (hi : DInv cfg d) (hok : opOK a cid fs op = true) (hs : fs.step a cid op = some fs') :
    ∃ dops d', d.run dops = some d' ∧ Rel a cid fs' d' := by
  obtain ⟨x, y, outX, outY, subX, subXU, obtY, subY, subYU, obtX, delY, delX⟩ := d
  obtain ⟨hx, hsrv, hyseq, e1, e2, e3, e4, e5, e6, hsC, hsS⟩ := h
  dsimp only at hx hyseq e1 e2 e3 e4 e5 e6 hsC hsS
  subst hx e1 e2 e3 e4 e5 e6
  cases FS.stepped hs with
  | @cliSend ch m r' hm =>
    exact ⟨[(.X, .send ch m)], _, Duo.run_single (by simp only [Duo.step, Duo.stepX, hm]; rfl),
      .intro hsrv.sorted hsrv.conn hyseq hsC hsS⟩
  | @cliRecv ch r' mo hm =>
    exact ⟨[(.X, .recv ch)], _, Duo.run_single (by cases mo <;> simp only [Duo.step, Duo.stepX, hm] <;> rfl),
      .intro hsrv.sorted hsrv.conn hyseq hsC hsS⟩
  | @cliTick dt r' hm =>
    exact ⟨[(.X, .upd dt)], _, Duo.run_single (by simp only [Duo.step, Duo.stepX, hm]; rfl),
      .intro hsrv.sorted hsrv.conn hyseq hsC hsS⟩
  | cliDisconnect =>
    exact ⟨[(.X, .st (.dw .byClient))], _, rfl, .intro hsrv.sorted hsrv.conn hyseq hsC hsS⟩
  | cliUpdate ho =>
    dsimp only [opOK] at hok
    obtain ⟨l, d', r, hx', ⟨x', dl, rfl⟩⟩ := clientUpdate_sim hl (d := ⟨fs.c.renet, y, outX, outY, fs.subC, fs.subCU, fs.obtS, fs.subS, fs.subSU, fs.obtC, delY, delX⟩)
      ho hok hsS rfl
    cases hx'
    exact ⟨l, _, r, .intro hsrv.sorted hsrv.conn hyseq hsC hsS⟩
  | cliSendPackets ho =>
    obtain ⟨l, d', r, hx', ⟨x', ox, rfl⟩, hnew⟩ := clientSendPackets_sim
      (d := ⟨fs.c.renet, y, outX, outY, fs.subC, fs.subCU, fs.obtS, fs.subS, fs.subSU, fs.obtC, delY, delX⟩) ho rfl
    cases hx'
    refine ⟨l, _, r, .intro hsrv.sorted hsrv.conn hyseq (fun e he => ?_) hsS⟩
    rcases List.mem_append.mp he with he | he
    · exact ⟨(hsC e he).1, List.mem_append_left _ (hsC e he).2⟩
    · exact hnew e he
  | cliTransportDisconnect ho =>
    obtain ⟨er, -⟩ := clientDisconnect_frame ho
    exact ⟨[], _, rfl, er ▸ .intro hsrv.sorted hsrv.conn hyseq hsC hsS⟩
  | @srvSend ch m rs' hm =>
    obtain ⟨ad, q, hc⟩ := SL.Server.sendMessage_spec hm
    rcases hc with ⟨hf, e⟩ | ⟨c, c', hf, hsm, hf'⟩
    · subst e
      refine ⟨[], _, rfl, ?_⟩
      simp only [hf, Bool.false_eq_true, if_false]
      exact .intro hsrv.sorted hsrv.conn ((trackSeq_none hf _).trans hyseq) hsC hsS
    · obtain rfl : c = y := hsrv.entry hf
      refine ⟨[(.Y, .send ch m)], _, Duo.run_single (stepY_send hsm), ?_⟩
      simp only [hf, hf']
      exact .intro (q.sorted hsrv.sorted) (Or.inl hf') (trackSeq_some hf' _) hsC hsS
  | @srvRecv ch rs' mo hm =>
    obtain ⟨ad, q, hc⟩ := SL.Server.receiveMessage_spec hm
    rcases hc with ⟨hf, rfl, rfl⟩ | ⟨c, c', hf, hsm, hf'⟩
    · exact ⟨[], _, rfl, .intro hsrv.sorted hsrv.conn ((trackSeq_none hf _).trans hyseq) hsC hsS⟩
    · obtain rfl : c = y := hsrv.entry hf
      exact ⟨[(.Y, .recv ch)], _, Duo.run_single (stepY_recv hsm),
        .intro (q.sorted hsrv.sorted) (Or.inl hf') (trackSeq_some hf' _) hsC hsS⟩
  | @srvTick dt rs' hm =>
    obtain ⟨-, q, hc⟩ := SL.Server.update_spec hm
    rcases hsrv.conn with hy | hn
    · obtain ⟨c', hu, hf'⟩ := (hc cid).2 _ hy
      exact ⟨[(.Y, .upd dt)], _, Duo.run_single (stepY_upd hu),
        .intro (q.sorted hsrv.sorted) (Or.inl hf') (trackSeq_some hf' _) hsC hsS⟩
    · have hf' := (hc cid).1 hn
      exact ⟨[], _, rfl,
        .intro (q.sorted hsrv.sorted) (Or.inr hf') ((trackSeq_none hf' _).trans hyseq) hsC hsS⟩
  | srvDisconnect =>
    obtain ⟨-, q, hf'⟩ := SL.Server.disconnect_spec fs.s.renet cid
    rcases hsrv.conn with hy | hn
    · rw [hy] at hf'
      exact ⟨[(.Y, .st (.dw .byServer))], _, rfl,
        .intro (q.sorted hsrv.sorted) (Or.inl hf') (trackSeq_some hf' _) hsC hsS⟩
    · rw [hn] at hf'
      exact ⟨[], _, rfl,
        .intro (q.sorted hsrv.sorted) (Or.inr hf') ((trackSeq_none hf' _).trans hyseq) hsC hsS⟩
  | srvUpdate ho =>
    dsimp only [opOK] at hok
    obtain ⟨l, d', r, s', ⟨y', dl, rfl⟩, hq⟩ := serverUpdate_sim hl ho hok hsC hsrv
    exact ⟨l, _, r, .intro s'.sorted s'.conn (trackSeq_rel s' (hyseq.trans hq.symm)) hsC hsS⟩
  | srvDisconnectAll ho =>
    obtain ⟨l, d', r, s', ⟨y', dl, rfl⟩, hq⟩ := serverDisconnectAll_sim ho hsrv
    exact ⟨l, _, r, .intro s'.sorted s'.conn (trackSeq_rel s' (hyseq.trans hq.symm)) hsC hsS⟩
  | srvSendPackets ho =>
    obtain ⟨l, d', r, s', ⟨y', oy, rfl⟩, hnew, q, hnone⟩ := serverSendLoop_sim _ _ _ _ _ _ ho hsrv
    refine ⟨l, _, r, .intro s'.sorted s'.conn ?_ hsC (fun e he => ?_)⟩
    · rcases hsrv.conn with hy | hn
      · obtain ⟨c', hc', -⟩ := q.present cid _ hy
        obtain rfl := s'.entry hc'
        exact trackSeq_some hc' _
      · rw [show y' = y from congrArg Duo.y (hnone hn)]
        exact (trackSeq_none (q.absent cid hn) _).trans hyseq
    · rcases List.mem_append.mp he with he | he
      · exact ⟨(hsS e he).1, List.mem_append_left _ (hsS e he).2⟩
      · exact hnew e he

/-! ### 3d. runs, the established state, the conclusions -/

theorem run_sim {a : AEAD} (hl : a.Laws) {cfg : Cfg} {cid : Nat} :
    ∀ (ops : List FSOp) (fs fs' : FS) (d : Duo), Rel a cid fs d → DInv cfg d → runOK a cid fs ops = true →
    fs.run a cid ops = some fs' → ∃ d', Rel a cid fs' d' ∧ DInv cfg d' := by
  intro l
  induction l with
  | nil =>
    intro fs fs' d h hi _ hr
    cases hr
    exact ⟨d, h, hi⟩
  | cons op ops ih =>
    intro fs fs' d h hi hok hr
    obtain ⟨fs1, hs, hr⟩ := FS.run_cons hr
    simp only [runOK, hs, Bool.and_eq_true] at hok
    obtain ⟨l, d1, r1, h1⟩ := step_sim hl h hi hok.1 hs
    exact ih fs1 fs' d1 h1 (drun_inv l d d1 hi r1) hok.2 hr

/-- a `RenetClient` as its constructor leaves it, possibly after `set_connected` -/
def FreshConn (budget : Nat) (send recv : List ChanCfg) (c : Conn) : Prop :=
  c = Conn.fromChannels budget send recv ∨ c = (Conn.fromChannels budget send recv).setConnected

/-- the message-layer part of "established": both `RenetClient`s of the session are freshly configured from the
    same `ConnectionConfig` (`cfg.send` = client → server channels, `cfg.recv` = server → client channels, one
    `available_bytes_per_tick`), the server's is in its table (keyed without repetition) under `cid`; all ghost
    logs are empty -/
structure RenetFresh (cfg : Cfg) (cid : Nat) (fs : FS) : Prop where
  cli : FreshConn cfg.budget cfg.send cfg.recv fs.c.renet
  sorted : SL.SMap.Sorted fs.s.renet.conns
  srv : ∃ y, SMap.find? fs.s.renet.conns cid = some y ∧ FreshConn cfg.budget cfg.recv cfg.send y
  ySeq : fs.ySeq = 0
  sealedC : fs.sealedC = []
  sealedS : fs.sealedS = []
  subC : fs.subC = fun _ => []
  subCU : fs.subCU = fun _ => []
  obtS : fs.obtS = fun _ => []
  subS : fs.subS = fun _ => []
  subSU : fs.subSU = fun _ => []
  obtC : fs.obtC = fun _ => []

theorem dInv_fresh {cfg : Cfg} {x y : Conn} (hx : FreshConn cfg.budget cfg.send cfg.recv x)
    (hy : FreshConn cfg.budget cfg.recv cfg.send y) : DInv cfg { Duo.init cfg with x := x, y := y } := by
  rcases hx with rfl | rfl <;> rcases hy with rfl | rfl
  · exact dInv_init cfg
  · exact drun_inv [(.Y, .st .conn)] _ _ (dInv_init cfg) rfl
  · exact drun_inv [(.X, .st .conn)] _ _ (dInv_init cfg) rfl
  · exact drun_inv [(.X, .st .conn), (.Y, .st .conn)] _ _ (dInv_init cfg) rfl

theorem freshConn_packetSeq {budget : Nat} {send recv : List ChanCfg} {c : Conn} (h : FreshConn budget send recv c) :
    c.packetSeq = 0 := by
  rcases h with rfl | rfl <;> rfl

theorem rel_of_fresh (a : AEAD) {cfg : Cfg} {cid : Nat} {fs : FS} (h : RenetFresh cfg cid fs) :
    ∃ d, Rel a cid fs d ∧ DInv cfg d := by
  obtain ⟨y, hf, hy⟩ := h.srv
  refine ⟨{ Duo.init cfg with x := fs.c.renet, y := y }, ?_, dInv_fresh h.cli hy⟩
  refine ⟨rfl, ⟨h.sorted, Or.inl hf⟩, by rw [h.ySeq]; exact (freshConn_packetSeq hy).symm, h.subC.symm, h.subCU.symm,
    h.obtS.symm, h.subS.symm, h.subSU.symm, h.obtC.symm, ?_, ?_⟩
  · intro e he; rw [h.sealedC] at he; cases he
  · intro e he; rw [h.sealedS] at he; cases he

/-- **Established session** for client `cid`: the message layer is fresh (`RenetFresh`), and on the netcode layer the
    client is `Connected`, the server holds a connected slot for `cid` whose keys mirror the client's (the slot's receive
    key is the client's send key and vice versa), both use the same protocol id; nothing has been emitted yet.
    (`full_stack`, stated with the keyed hypothesis `NoForgeryRun`, uses only the `RenetFresh` part; the key agreement is
    what lets the hypothesis be weakened to the datagram-level `NoForgeryRunD`, Part 4, and what makes genuine
    datagrams open at all — the examples.) -/
structure Established (cfg : Cfg) (cid : Nat) (fs : FS) : Prop extends RenetFresh cfg cid fs where
  cliConnected : fs.c.netcode.state = .connected
  cliId : fs.c.netcode.connectToken.clientId = cid
  slot : ∃ (i : Nat) (conn : Connection), fs.s.netcode.clients[i]? = some (some conn) ∧ conn.clientId = cid ∧ conn.state = .connected ∧
    conn.receiveKey = fs.c.netcode.connectToken.clientToServerKey ∧
    conn.sendKey = fs.c.netcode.connectToken.serverToClientKey
  /-- no other slot holds `cid` with other keys (ids are unique in the table anyway: `GI.LockStep.nodup`) -/
  slotKeys : ∀ o ∈ fs.s.netcode.clients, ∀ conn : Connection, o = some conn → conn.clientId = cid →
    conn.receiveKey = fs.c.netcode.connectToken.clientToServerKey ∧
    conn.sendKey = fs.c.netcode.connectToken.serverToClientKey
  proto : fs.s.netcode.protocolId = fs.c.netcode.connectToken.protocolId
  emC : fs.emC = []
  emS : fs.emS = []

def FS.start (c : ClientGlue) (s : ServerGlue) : FS :=
  { c := c, s := s, emC := [], emS := [], sealedC := [], sealedS := [], ySeq := 0,
    subC := fun _ => [], subCU := fun _ => [], obtS := fun _ => [], subS := fun _ => [], subSU := fun _ => [],
    obtC := fun _ => [] }

/-- `Established` from facts a kernel evaluation can check (the client's slot is slot 0, the server's table holds
    only this client) -/
theorem established_of {cfg : Cfg} {cid : Nat} {c : ClientGlue} {s : ServerGlue}
    (h : c.renet = (Conn.fromChannels cfg.budget cfg.send cfg.recv).setConnected ∧
      s.renet.conns = [(cid, (Conn.fromChannels cfg.budget cfg.recv cfg.send).setConnected)] ∧
      c.netcode.state = .connected ∧ c.netcode.connectToken.clientId = cid ∧
      (s.netcode.clients[0]?).map (fun o => o.map fun x => (x.clientId, x.state, x.receiveKey, x.sendKey)) =
        some (some (cid, .connected, c.netcode.connectToken.clientToServerKey,
          c.netcode.connectToken.serverToClientKey)) ∧
      s.netcode.protocolId = c.netcode.connectToken.protocolId ∧
      s.netcode.clients.all (fun o => match o with
        | some x => x.clientId != cid || (x.receiveKey == c.netcode.connectToken.clientToServerKey &&
            x.sendKey == c.netcode.connectToken.serverToClientKey)
        | none => true) = true) : Established cfg cid (FS.start c s) := by
  obtain ⟨f1, f2, f3, f4, f5, f6, f7⟩ := h
  have hsorted : SL.SMap.Sorted s.renet.conns := by
    rw [f2]
    exact SL.SMap.sorted_insert [] cid _ SL.SMap.sorted_nil
  have hfind : SMap.find? s.renet.conns cid = some (Conn.fromChannels cfg.budget cfg.recv cfg.send).setConnected := by
    rw [f2]
    simp [SMap.find?]
  refine { cli := Or.inr f1, sorted := hsorted, srv := ⟨_, hfind, Or.inr rfl⟩, ySeq := rfl, sealedC := rfl,
           sealedS := rfl, subC := rfl, subCU := rfl, obtS := rfl, subS := rfl, subSU := rfl, obtC := rfl,
           cliConnected := f3, cliId := f4, slot := ?_, slotKeys := ?_, proto := f6, emC := rfl, emS := rfl }
  · cases hc : s.netcode.clients[0]? with
    | none => rw [hc] at f5; cases f5
    | some o =>
      cases o with
      | none => rw [hc] at f5; cases f5
      | some conn =>
        rw [hc] at f5
        simp only [Option.map_some, Option.some.injEq, Prod.mk.injEq] at f5
        exact ⟨0, conn, hc, f5.1, f5.2.1, f5.2.2.1, f5.2.2.2⟩
  · intro o ho conn e hid
    subst e
    have := List.all_eq_true.mp f7 _ ho
    simp only [hid, bne_self_eq_false, Bool.false_or, Bool.and_eq_true, beq_iff_eq] at this
    exact this

/-- the counter-range side conditions of `CountersOK` (C01S), for the client → server direction, on the FINAL state -/
structure CountersUp (cfg : Cfg) (fs : FS) : Prop where
  chan : ∀ c ∈ cfg.send, c.id < 256
  seq : fs.c.renet.packetSeq ≤ Varint.MAX + 1
  ids : ∀ c ∈ cfg.send, (fs.subC c.id).length ≤ Varint.MAX + 1
  lens : ∀ c ∈ cfg.send, ∀ m ∈ fs.subC c.id, m.length ≤ MAX_NUM_SLICES * SLICE_SIZE
  lensU : ∀ c ∈ cfg.send, ∀ m ∈ fs.subCU c.id, m.length ≤ MAX_NUM_SLICES * SLICE_SIZE

structure CountersDown (cfg : Cfg) (fs : FS) : Prop where
  chan : ∀ c ∈ cfg.recv, c.id < 256
  seq : fs.ySeq ≤ Varint.MAX + 1
  ids : ∀ c ∈ cfg.recv, (fs.subS c.id).length ≤ Varint.MAX + 1
  lens : ∀ c ∈ cfg.recv, ∀ m ∈ fs.subS c.id, m.length ≤ MAX_NUM_SLICES * SLICE_SIZE
  lensU : ∀ c ∈ cfg.recv, ∀ m ∈ fs.subSU c.id, m.length ≤ MAX_NUM_SLICES * SLICE_SIZE

instance (cfg : Cfg) (fs : FS) : Decidable (CountersUp cfg fs) :=
  decidable_of_iff (_ ∧ _ ∧ _ ∧ _ ∧ _)
    ⟨fun h => ⟨h.1, h.2.1, h.2.2.1, h.2.2.2.1, h.2.2.2.2⟩, fun h => ⟨h.chan, h.seq, h.ids, h.lens, h.lensU⟩⟩
instance (cfg : Cfg) (fs : FS) : Decidable (CountersDown cfg fs) :=
  decidable_of_iff (_ ∧ _ ∧ _ ∧ _ ∧ _)
    ⟨fun h => ⟨h.1, h.2.1, h.2.2.1, h.2.2.2.1, h.2.2.2.2⟩, fun h => ⟨h.chan, h.seq, h.ids, h.lens, h.lensU⟩⟩

theorem rel_concl {a : AEAD} {cfg : Cfg} {cid : Nat} {fs : FS} {d : Duo} (h : Rel a cid fs d) (hi : DInv cfg d) :
    (CountersUp cfg fs → Guarantees cfg fs.subC fs.subCU fs.obtS) ∧
    (CountersDown cfg fs → Guarantees (Cfg.swap cfg) fs.subS fs.subSU fs.obtC) := by
  obtain ⟨x, y, outX, outY, subX, subXU, obtY, subY, subYU, obtX, delY, delX⟩ := d
  obtain ⟨hx, -, hyseq, e1, e2, e3, e4, e5, e6, -, -⟩ := h
  dsimp only at hx hyseq e1 e2 e3 e4 e5 e6
  subst hx e1 e2 e3 e4 e5 e6
  exact ⟨fun hc => good_guarantees hi.1 ⟨hc.chan, hc.seq, hc.ids, hc.lens, hc.lensU⟩,
    fun hc => good_guarantees hi.2 ⟨hc.chan, hyseq ▸ hc.seq, hc.ids, hc.lens, hc.lensU⟩⟩

/-- **The composition.**  After every finite run of the full stack from a state whose message layer is freshly
    established, in which the run hypotheses hold at every transport `update`, the channel guarantees of C01S hold
    end to end in both directions (each under the counter-range conditions for that direction). -/
theorem full_stack {a : AEAD} (hl : a.Laws) {cfg : Cfg} {cid : Nat} {fs0 fs : FS} {ops : List FSOp}
    (he : RenetFresh cfg cid fs0) (hr : fs0.run a cid ops = some fs) (hok : runOK a cid fs0 ops = true) :
    (CountersUp cfg fs → Guarantees cfg fs.subC fs.subCU fs.obtS) ∧
    (CountersDown cfg fs → Guarantees (Cfg.swap cfg) fs.subS fs.subSU fs.obtC) := by
  obtain ⟨d0, h0, i0⟩ := rel_of_fresh a he
  obtain ⟨d, h, hi⟩ := run_sim hl ops fs0 fs d0 h0 i0 hok hr
  exact rel_concl h hi


/-! ### 3e. the ghost records are records of EMITTED datagrams

  `sealedC` / `sealedS` are defined by re-running `generate_payload_packet` next to `send_packets`; this section ties
  them to the socket: the datagram of every record was handed to `send_to` by that `send_packets` call (`emC` / `emS`). -/

theorem clientSendPackets_recs {a : AEAD} {g g' : ClientGlue} {res : Except TransportError Unit} {out : Array Dgram}
    (h : clientSendPackets a g = .ok (res, g', out)) :
    g'.netcode.connectToken = g.netcode.connectToken ∧ ∀ x ∈ cliSeals a g, x.dgram ∈ out.toList.map (·.2) ∧
      x.key = g.netcode.connectToken.clientToServerKey ∧ x.proto = g.netcode.connectToken.protocolId := by
  cases hn : g.netcode.disconnectReason with
  | some r =>
    rw [GI.clientSendPackets_disconnected hn] at h
    cases h
    refine ⟨rfl, fun x hx => ?_⟩
    simp only [cliSeals, hn] at hx
    cases hx
  | none =>
    obtain ⟨ps, e, hg, hsl, -⟩ := GI.clientSendPackets_alive hn h
    simp only [cliSeals, hn, hg]
    exact ⟨(cSealed_recs hsl).1, fun x hx => ((cSealed_recs hsl).2 x hx).2.2⟩

theorem serverSendLoop_recs (a : AEAD) (cid : Nat) : ∀ (l : List Nat) (g g' : ServerGlue) (out out' : Array Dgram),
    serverSendLoop a g l out = .ok (g', out') →
    GI.Kept g.netcode.clients g.netcode.protocolId g'.netcode ∧ (∀ y ∈ out.toList, y ∈ out'.toList) ∧
    ∀ x ∈ srvSeals a cid g l, x.dgram ∈ out'.toList.map (·.2) ∧ x.proto = g.netcode.protocolId ∧
      ∃ rk, (cid, rk, x.key) ∈ GI.sessions g.netcode.clients := by
  intro l
  induction l with
  | nil =>
    intro g g' out out' h
    cases h
    exact ⟨⟨rfl, rfl⟩, fun _ hy => hy, fun x hx => by cases hx⟩
  | cons id rest ih =>
    intro g g' out out' h
    obtain ⟨rs, ps, ns, out1, h1, h2, h3⟩ := GI.sendLoop_cons h
    obtain ⟨ds, e1, hsl⟩ := GI.sendClient_sealed a id ps _ _ _ _ h2
    have k1 := hsl.kept
    obtain ⟨k2, n1, n2⟩ := ih _ g' out1 out' h3
    rw [e1] at n1
    refine ⟨⟨k2.1.trans k1.1, k2.2.trans k1.2⟩, fun y hy => n1 y (List.mem_append_left _ hy), fun x hx => ?_⟩
    rw [srvSeals_cons h1 h2] at hx
    rcases List.mem_append.mp hx with hx | hx
    · by_cases e : id = cid
      · subst e
        rw [if_pos rfl] at hx
        obtain ⟨-, -, m3, m4, m5⟩ := sealed_recs hsl x hx
        obtain ⟨y, hy, e⟩ := List.mem_map.mp m3
        exact ⟨List.mem_map.mpr ⟨y, n1 y (List.mem_append_right _ hy), e⟩, m4, m5⟩
      · rw [if_neg e] at hx
        cases hx
    · obtain ⟨m3, m4, rk, m5⟩ := n2 x hx
      exact ⟨m3, m4.trans k1.2, rk, k1.1 ▸ m5⟩

def Emitted (fs : FS) : Prop :=
  (∀ e ∈ fs.sealedC, e.dgram ∈ fs.emC.map (·.2)) ∧ (∀ e ∈ fs.sealedS, e.dgram ∈ fs.emS.map (·.2))

theorem step_emitted {a : AEAD} {cid : Nat} {fs fs' : FS} {op : FSOp} (h : Emitted fs)
    (hs : fs.step a cid op = some fs') : Emitted fs' := by
  cases FS.stepped hs with
  | cliSendPackets ho =>
    refine ⟨?_, h.2⟩
    intro e he
    simp only [List.map_append, List.mem_append]
    rcases List.mem_append.mp he with he | he
    · exact Or.inl (h.1 e he)
    · exact Or.inr ((clientSendPackets_recs ho).2 e he).1
  | srvSendPackets ho =>
    refine ⟨h.1, ?_⟩
    intro e he
    simp only [List.map_append, List.mem_append]
    rcases List.mem_append.mp he with he | he
    · exact Or.inl (h.2 e he)
    · exact Or.inr ((serverSendLoop_recs a cid _ _ _ _ _ ho).2.2 e he).1
  | cliSend _ | cliRecv _ | cliTick _ | cliDisconnect | cliUpdate _ | cliTransportDisconnect _ | srvSend _ | srvRecv _
  | srvTick _ | srvDisconnect | srvUpdate _ | srvDisconnectAll _ => exact h

theorem emitted_of_fresh {cfg : Cfg} {cid : Nat} {fs : FS} (h : RenetFresh cfg cid fs) : Emitted fs :=
  ⟨fun e he => (by rw [h.sealedC] at he; cases he), fun e he => (by rw [h.sealedS] at he; cases he)⟩


/-! ## Part 4 : the key-free formulation of `NoForgeryRun`

  `NoForgeryRun` names the key and protocol id the receiver opened a datagram with.  From an `Established` session —
  where the server's slot for `cid` mirrors the keys of the client's connect token — and under `SingleSessionRun`, the
  key part is an invariant of the run and the hypothesis can be stated on datagrams alone (`NoForgeryRunD`: whatever
  surfaces a payload for this session is a copy of a datagram the peer's `generate_payload_packet` returned earlier in
  this run).  The invariant: the client's connect token never changes; every slot of the server's netcode table that
  holds client id `cid` carries the token's keys; the server's protocol id is the token's; hence every ghost record
  was sealed under the token's key for its direction. -/

def KI (cid : Nat) (tok : ConnectToken) (cl : List (Option Connection)) (proto : Nat) : Prop :=
  proto = tok.protocolId ∧ ∀ t ∈ GI.sessions cl, t.1 = cid → t.2 = (tok.clientToServerKey, tok.serverToClientKey)

theorem KI.slot {cid : Nat} {tok : ConnectToken} {cl : List (Option Connection)} {p : Nat} (h : KI cid tok cl p)
    {c : Connection} (hc : some c ∈ cl) (hid : c.clientId = cid) :
    c.receiveKey = tok.clientToServerKey ∧ c.sendKey = tok.serverToClientKey := by
  have := h.2 _ (GI.mem_sessions.mpr ⟨c, hc, rfl⟩) hid
  exact ⟨congrArg Prod.fst this, congrArg Prod.snd this⟩

theorem KI.kept {cid : Nat} {tok : ConnectToken} {cl : List (Option Connection)} {p : Nat} (h : KI cid tok cl p)
    {s' : NetcodeServer} (hs : GI.Kept cl p s') : KI cid tok s'.clients s'.protocolId := by
  unfold KI
  rw [hs.1, hs.2]
  exact h

/-- every session but the one a `ClientConnected` reports keeps id and keys (`GI.TStepS`) -/
theorem KI.tstep {cid : Nat} {tok : ConnectToken} {cl cl' : List (Option Connection)} {p : Nat} {r : ServerResult}
    (h : KI cid tok cl p) (ht : GI.TStepS cl cl' r) (hr : srvResSS cid r = true) : KI cid tok cl' p := by
  obtain ⟨hp, h⟩ := h
  refine ⟨hp, fun t hm hid => ?_⟩
  cases r with
  | clientConnected id ad ud pk =>
    obtain ⟨-, kk, l1, l2, e1, e2⟩ := ht
    rw [e1] at h
    rw [e2] at hm
    rcases List.mem_append.mp hm with hm | hm
    · exact h t (List.mem_append_left _ hm) hid
    · rcases List.mem_cons.mp hm with rfl | hm
      · exact absurd hid (of_decide_eq_true hr)
      · exact h t (List.mem_append_right _ hm) hid
  | clientDisconnected id ad pk =>
    obtain ⟨kk, l1, l2, e1, e2⟩ := ht
    rw [e1] at h
    rw [e2] at hm
    rcases List.mem_append.mp hm with hm | hm
    · exact h t (List.mem_append_left _ hm) hid
    · exact h t (List.mem_append_right _ (List.mem_cons_of_mem _ hm)) hid
  | payload id pk => exact h t (ht.1 ▸ hm) hid
  | none => exact h t (ht ▸ hm) hid
  | packetToSend ad pk => exact h t (ht ▸ hm) hid

theorem ki_processPacket {cid : Nat} {tok : ConnectToken} {a : AEAD} {s s' : NetcodeServer} {addr : Addr} {buf : Bytes}
    {r : ServerResult} (hk : KI cid tok s.clients s.protocolId) (h : s.processPacket a addr buf = .ok (r, s'))
    (hr : srvResSS cid r = true) : KI cid tok s'.clients s'.protocolId := by
  obtain ⟨ht, hp, -⟩ := GI.processPacket_post h
  rw [hp]
  exact hk.tstep ht hr

theorem ki_update {cid : Nat} {tok : ConnectToken} {s s' : NetcodeServer} {d : Nat} (hk : KI cid tok s.clients s.protocolId)
    (h : s.update d = .ok s') : KI cid tok s'.clients s'.protocolId := by
  rw [NS.update_ok h]
  exact hk

/-- `update_client`, `disconnect`: a call that names a client id connects nobody -/
theorem ki_idOut {cid : Nat} {tok : ConnectToken} {a : AEAD} {s s' : NetcodeServer} {id : Nat} {mk : Nat → Netcode.Packet}
    {r : ServerResult} (hk : KI cid tok s.clients s.protocolId) (ho : NS.IdOut a s id mk r s') :
    KI cid tok s'.clients s'.protocolId := by
  obtain ⟨ht, hp⟩ := GI.tsteps_of_idOut ho
  rw [hp]
  refine hk.tstep ht ?_
  cases r with
  | clientConnected id ad ud pk => exact absurd rfl (ho.writes.2 id ad ud pk)
  | _ => rfl

theorem dcLoop_ki {a : AEAD} {cid : Nat} {tok : ConnectToken} {l : List Nat} {g g' : ServerGlue} {out out' : Array Dgram}
    (h : GI.handleLoop (GI.dcF a) g l out = .ok (g', out')) (hk : KI cid tok g.netcode.clients g.netcode.protocolId) :
    KI cid tok g'.netcode.clients g'.netcode.protocolId :=
  GI.handleLoop_preserves (I := fun g _ => KI cid tok g.netcode.clients g.netcode.protocolId)
    (fun _ _ _ _ _ _ _ _ hkk hx _ => ki_idOut hkk (NS.disconnect_ok (mk := fun _ => .disconnect) hx)) l g g' out out' h hk

theorem serverUpdate_ki {a : AEAD} {cid : Nat} {tok : ConnectToken} {g g' : ServerGlue} {dt : Nat} {inbox : List Dgram}
    {out : Array Dgram} (h : serverUpdate a g dt inbox = .ok (g', out))
    (hss : (match g.netcode.update dt with
      | .ok ns0 => srvInboxSS a cid ns0 inbox
      | _ => true) = true)
    (hk : KI cid tok g.netcode.clients g.netcode.protocolId) : KI cid tok g'.netcode.clients g'.netcode.protocolId := by
  obtain ⟨ns0, g1, out1, g2, out2, h0, l1, l2, l3⟩ := GI.serverUpdate_unfold h
  rw [h0] at hss
  simp only at hss
  have hk0 := ki_update hk h0
  have hk1 := GI.handleLoop_preserves (f := GI.ppF a)
    (I := fun g l => srvInboxSS a cid g.netcode l = true ∧ KI cid tok g.netcode.clients g.netcode.protocolId)
    (by
      intro g x rest r ns rs out out1 ⟨hok, hkk⟩ hx _
      obtain ⟨addr, buf⟩ := x
      have hx' : g.netcode.processPacket a addr buf = .ok (r, ns) := hx
      dsimp only [srvInboxSS] at hok
      rw [hx'] at hok
      simp only [Bool.and_eq_true] at hok
      exact ⟨hok.2, ki_processPacket hkk hx' hok.1⟩)
    inbox _ g1 _ out1 l1 ⟨hss, hk0⟩
  have hk2 := GI.handleLoop_preserves (f := GI.ucF a) (I := fun g _ => KI cid tok g.netcode.clients g.netcode.protocolId)
    (fun _ _ _ _ _ _ _ _ hkk hx _ => ki_idOut hkk (NS.updateClient_ok hx)) _ g1 g2 out1 out2 l2 hk1.2
  exact dcLoop_ki l3 hk2

theorem serverDisconnectAll_ki {a : AEAD} {cid : Nat} {tok : ConnectToken} {g g' : ServerGlue} {out : Array Dgram}
    (h : serverDisconnectAll a g = .ok (g', out)) (hk : KI cid tok g.netcode.clients g.netcode.protocolId) :
    KI cid tok g'.netcode.clients g'.netcode.protocolId := by
  rw [GI.serverDisconnectAll_eq] at h
  exact dcLoop_ki h hk

theorem tok_update {a : AEAD} {c c' : NetcodeClient} {d : Nat} {o : Option (Bytes × Addr)}
    (h : NetcodeClient.update a c d = .ok (o, c')) : c'.connectToken = c.connectToken := by
  obtain ⟨e, c1, h1, h2⟩ := NcAead.Cl.update_eq h
  have t1 := (NcAead.Cl.uis_spec h1).1
  rcases h2 with ⟨-, -, rfl⟩ | ⟨-, h2⟩
  · exact t1
  · rw [(NcAead.Cl.gen_spec h2).1, t1]

theorem clientRecvLoop_tok (a : AEAD) : ∀ (l : List Dgram) (g g' : ClientGlue), clientRecvLoop a g l = .ok g' →
    g'.netcode.connectToken = g.netcode.connectToken := by
  intro l
  induction l with
  | nil =>
    intro g g' h
    cases h; rfl
  | cons x rest ih =>
    intro g g' h
    obtain ⟨addr, buf⟩ := x
    rw [GI.clientRecvLoop_cons] at h
    split at h
    · exact ih g g' h
    · obtain ⟨⟨p, nc⟩, h1, h2⟩ := Res.bind_ok_iff.mp h
      obtain ⟨rc, -, h4⟩ := Res.bind_ok_iff.mp h2
      rw [ih _ g' h4]; exact (NcAead.Cl.recv_spec h1).1

theorem clientUpdate_tok {a : AEAD} {g : ClientGlue} {dt : Nat} {inbox : List Dgram} {o : ClientOut}
    (h : clientUpdate a g dt inbox = .ok o) : o.g.netcode.connectToken = g.netcode.connectToken := by
  cases hn : g.netcode.disconnectReason with
  | some reason =>
    rw [GI.clientUpdate_netcode_disconnected hn] at h
    cases h; rfl
  | none =>
    cases hr : g.renet.disconnectReason with
    | some error =>
      rw [GI.clientUpdate_renet_disconnected hn hr] at h
      cases h; rfl
    | none =>
      rw [GI.clientUpdate_alive hn hr] at h
      obtain ⟨g1, h1, h2⟩ := Res.bind_ok_iff.mp h
      obtain ⟨⟨o', nc⟩, h3, h4⟩ := Res.bind_ok_iff.mp h2
      have t1 := clientRecvLoop_tok a inbox _ g1 h1
      have t2 := tok_update h3
      cases o' with
      | none => cases h4; exact t2.trans t1
      | some v => obtain ⟨pkt, addr⟩ := v; cases h4; exact t2.trans t1


structure KeyInv (cid : Nat) (tok : ConnectToken) (fs : FS) : Prop where
  tokC : fs.c.netcode.connectToken = tok
  srv : KI cid tok fs.s.netcode.clients fs.s.netcode.protocolId
  recC : ∀ e ∈ fs.sealedC, e.key = tok.clientToServerKey ∧ e.proto = tok.protocolId
  recS : ∀ e ∈ fs.sealedS, e.key = tok.serverToClientKey ∧ e.proto = tok.protocolId

theorem keyInv_of_established {cfg : Cfg} {cid : Nat} {fs : FS} (h : Established cfg cid fs) :
    KeyInv cid fs.c.netcode.connectToken fs :=
  ⟨rfl,
    ⟨h.proto, fun t ht hid => by
      obtain ⟨c, hc, rfl⟩ := GI.mem_sessions.mp ht
      obtain ⟨e1, e2⟩ := h.slotKeys _ hc c rfl hid
      exact Prod.ext e1 e2⟩,
    fun e he => (by rw [h.sealedC] at he; cases he), fun e he => (by rw [h.sealedS] at he; cases he)⟩

theorem step_keyInv {a : AEAD} {cid : Nat} {tok : ConnectToken} {fs fs' : FS} {op : FSOp} (h : KeyInv cid tok fs)
    (hss : opSS a cid fs op = true) (hs : fs.step a cid op = some fs') : KeyInv cid tok fs' := by
  cases FS.stepped hs with
  | cliSend _ | cliRecv _ | cliTick _ | cliDisconnect | srvSend _ | srvRecv _ | srvTick _ | srvDisconnect =>
    exact ⟨h.tokC, h.srv, h.recC, h.recS⟩
  | cliUpdate ho => exact ⟨(clientUpdate_tok ho).trans h.tokC, h.srv, h.recC, h.recS⟩
  | cliTransportDisconnect ho => exact ⟨(clientDisconnect_frame ho).2.trans h.tokC, h.srv, h.recC, h.recS⟩
  | cliSendPackets ho =>
    obtain ⟨t1, hrec⟩ := clientSendPackets_recs ho
    refine ⟨t1.trans h.tokC, h.srv, ?_, h.recS⟩
    intro e he
    rcases List.mem_append.mp he with he | he
    · exact h.recC e he
    · rw [← h.tokC]
      exact (hrec e he).2
  | srvUpdate ho => exact ⟨h.tokC, serverUpdate_ki ho hss h.srv, h.recC, h.recS⟩
  | srvDisconnectAll ho => exact ⟨h.tokC, serverDisconnectAll_ki ho h.srv, h.recC, h.recS⟩
  | srvSendPackets ho =>
    obtain ⟨hkept, -, hrec⟩ := serverSendLoop_recs a cid _ _ _ _ _ ho
    refine ⟨h.tokC, h.srv.kept hkept, h.recC, ?_⟩
    intro e he
    rcases List.mem_append.mp he with he | he
    · exact h.recS e he
    · obtain ⟨-, hp, rk, hm⟩ := hrec e he
      exact ⟨(Prod.mk.inj (h.srv.2 _ hm rfl)).2, hp.trans h.srv.1⟩

def srvResNFD (cid : Nat) (L : List Sealed) (buf : Bytes) : ServerResult → Bool
  | .payload id _ => if id = cid then L.any (fun e => e.dgram == buf) else true
  | _ => true

def srvInboxNFD (a : AEAD) (cid : Nat) (L : List Sealed) : NetcodeServer → List Dgram → Bool
  | _, [] => true
  | ns, (addr, buf) :: rest =>
    match ns.processPacket a addr buf with
    | .ok (r, ns') => srvResNFD cid L buf r && srvInboxNFD a cid L ns' rest
    | _ => true

def cliInboxNFD (a : AEAD) (L : List Sealed) : NetcodeClient → List Dgram → Bool
  | _, [] => true
  | nc, (addr, buf) :: rest =>
    if addr ≠ nc.serverAddr then cliInboxNFD a L nc rest else
    match nc.processPacket a buf with
    | .ok (some _, nc') => L.any (fun e => e.dgram == buf) && cliInboxNFD a L nc' rest
    | .ok (none, nc') => cliInboxNFD a L nc' rest
    | _ => true

def opNFD (a : AEAD) (cid : Nat) (fs : FS) : FSOp → Bool
  | .srvUpdate d inbox =>
    match fs.s.netcode.update d with
    | .ok ns0 => srvInboxNFD a cid fs.sealedC ns0 inbox
    | _ => true
  | .cliUpdate _ inbox =>
    match fs.c.netcode.disconnectReason, fs.c.renet.disconnectReason with
    | none, none => cliInboxNFD a fs.sealedS fs.c.netcode inbox
    | _, _ => true
  | _ => true

def runNFD (a : AEAD) (cid : Nat) (fs : FS) : List FSOp → Bool
  | [] => true
  | op :: ops =>
    opNFD a cid fs op &&
    match fs.step a cid op with
    | some fs' => runNFD a cid fs' ops
    | none => true

theorem runNFD_prefix (a : AEAD) (cid : Nat) : ∀ (l1 l2 : List FSOp) (fs : FS),
    runNFD a cid fs (l1 ++ l2) = true → runNFD a cid fs l1 = true :=
  run_prefix (fun _ => rfl) (fun _ _ _ => rfl)

/-- **`NoForgeryRunD`** (datagram level): whenever, in this run, `NetcodeServer::process_packet` surfaces
    `Payload{client_id = cid}` or the client's `NetcodeClient::process_packet` surfaces a payload, the datagram it was
    given is byte-identical to one the PEER's `generate_payload_packet` returned earlier in this run (for this session). -/
def NoForgeryRunD (a : AEAD) (cid : Nat) (fs : FS) (ops : List FSOp) : Prop := runNFD a cid fs ops = true

instance (a : AEAD) (cid : Nat) (fs : FS) (ops : List FSOp) : Decidable (NoForgeryRunD a cid fs ops) :=
  inferInstanceAs (Decidable (_ = true))

theorem any_dgram {L : List Sealed} {buf : Bytes} (h : L.any (fun e => e.dgram == buf) = true) :
    ∃ e ∈ L, e.dgram = buf := by
  obtain ⟨e, he, hb⟩ := List.any_eq_true.mp h
  exact ⟨e, he, by simpa using hb⟩

theorem srvInboxNF_of_D {a : AEAD} {cid : Nat} {tok : ConnectToken} {L : List Sealed}
    (hL : ∀ e ∈ L, e.key = tok.clientToServerKey ∧ e.proto = tok.protocolId) :
    ∀ (inbox : List Dgram) (ns : NetcodeServer), KI cid tok ns.clients ns.protocolId →
    srvInboxSS a cid ns inbox = true → srvInboxNFD a cid L ns inbox = true → srvInboxNF a cid L ns inbox = true := by
  intro l
  induction l with
  | nil =>
    intro _ _ _ _
    exact rfl
  | cons x rest ih =>
    intro ns hk hss hd
    obtain ⟨addr, buf⟩ := x
    dsimp only [srvInboxSS] at hss
    dsimp only [srvInboxNFD] at hd
    dsimp only [srvInboxNF]
    cases hx : ns.processPacket a addr buf with
    | panic m => rfl
    | err e => exact e.elim
    | ok v =>
      obtain ⟨r, ns'⟩ := v
      rw [hx] at hss hd
      simp only [Bool.and_eq_true] at hss hd ⊢
      refine ⟨?_, ih ns' (ki_processPacket hk hx hss.1) hss.2 hd.2⟩
      cases r with
      | payload id p =>
        dsimp only [srvResNF]
        split
        · rename_i e
          obtain ⟨slot, client, sq, rp, hf, hid, -, -⟩ := GI.processPacket_auth hx
          rw [hf]
          have hres := hd.1
          simp only [srvResNFD, if_pos e] at hres
          obtain ⟨x, hxL, hxb⟩ := any_dgram hres
          have hmem : some client ∈ ns.clients := NS.at_mem (NS.findAddr_some hf).1
          have hkeys := hk.slot hmem (hid.trans e)
          exact hasRec_iff.mpr ⟨x, hxL, hxb, by rw [(hL x hxL).1, hkeys.1], by rw [(hL x hxL).2, hk.1]⟩
        · rfl
      | _ => rfl

theorem cliInboxOK_of_D {a : AEAD} {tok : ConnectToken} {L : List Sealed}
    (hL : ∀ e ∈ L, e.key = tok.serverToClientKey ∧ e.proto = tok.protocolId) : ∀ (inbox : List Dgram) (nc : NetcodeClient),
    nc.connectToken = tok → cliInboxNFD a L nc inbox = true → cliInboxOK a L nc inbox = true := by
  intro l
  induction l with
  | nil =>
    intro _ _ _
    exact rfl
  | cons x rest ih =>
    intro nc ht hd
    obtain ⟨addr, buf⟩ := x
    dsimp only [cliInboxNFD] at hd
    dsimp only [cliInboxOK]
    split
    · rename_i hne
      rw [if_pos hne] at hd
      exact ih nc ht hd
    · rename_i hne
      rw [if_neg hne] at hd
      cases hx : nc.processPacket a buf with
      | panic m => rfl
      | err e => exact e.elim
      | ok v =>
        obtain ⟨p, nc'⟩ := v
        rw [hx] at hd
        have ht' : nc'.connectToken = tok := (NcAead.Cl.recv_spec hx).1.trans ht
        cases p with
        | none => exact ih nc' ht' hd
        | some p =>
          simp only [Bool.and_eq_true] at hd ⊢
          obtain ⟨x, hxL, hxb⟩ := any_dgram hd.1
          exact ⟨hasRec_iff.mpr ⟨x, hxL, hxb, by rw [(hL x hxL).1, ht], by rw [(hL x hxL).2, ht]⟩,
            ih nc' ht' hd.2⟩

theorem opNF_of_D {a : AEAD} {cid : Nat} {tok : ConnectToken} {fs : FS} {op : FSOp} (h : KeyInv cid tok fs)
    (hss : opSS a cid fs op = true) (hd : opNFD a cid fs op = true) : opNF a cid fs op = true := by
  cases op with
  | srvUpdate d inbox =>
    dsimp only [opSS] at hss
    dsimp only [opNFD] at hd
    dsimp only [opNF]
    cases hu : fs.s.netcode.update d with
    | panic m => rfl
    | err e => exact e.elim
    | ok ns0 =>
      rw [hu] at hss hd
      exact srvInboxNF_of_D h.recC inbox ns0 (ki_update h.srv hu) hss hd
  | cliUpdate d inbox =>
    dsimp only [opNFD] at hd
    dsimp only [opNF]
    cases hn : fs.c.netcode.disconnectReason with
    | some r => rfl
    | none =>
      cases hr : fs.c.renet.disconnectReason with
      | some r => rfl
      | none =>
        rw [hn, hr] at hd
        exact cliInboxOK_of_D h.recS inbox _ h.tokC hd
  | _ => rfl

theorem runNF_of_D {a : AEAD} {cid : Nat} {tok : ConnectToken} : ∀ (ops : List FSOp) (fs : FS), KeyInv cid tok fs →
    runSS a cid fs ops = true → runNFD a cid fs ops = true → runNF a cid fs ops = true := by
  intro l
  induction l with
  | nil =>
    intro _ _ _ _
    exact rfl
  | cons op ops ih =>
    intro fs h hss hd
    simp only [runSS, Bool.and_eq_true] at hss
    simp only [runNFD, Bool.and_eq_true] at hd
    simp only [runNF, Bool.and_eq_true]
    refine ⟨opNF_of_D h hss.1 hd.1, ?_⟩
    cases hs : fs.step a cid op with
    | none => rfl
    | some fs' =>
      rw [hs] at hss hd
      exact ih fs' (step_keyInv h hss.1 hs) hss.2 hd.2

/-- **from an established session, the key part of `NoForgeryRun` is an invariant**: the datagram-level hypothesis
    suffices -/
theorem noForgery_of_D {a : AEAD} {cfg : Cfg} {cid : Nat} {fs0 : FS} {ops : List FSOp} (he : Established cfg cid fs0)
    (hss : SingleSessionRun a cid fs0 ops) (hd : NoForgeryRunD a cid fs0 ops) : NoForgeryRun a cid fs0 ops :=
  runNF_of_D ops fs0 (keyInv_of_established he) hss hd

end RenetVerif.FullStack
