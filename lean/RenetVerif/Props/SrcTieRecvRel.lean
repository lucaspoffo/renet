/-
  Source tie, group RecvRel: `renet/src/channel/reliable.rs`
  `ReceiveChannelReliable::{new, process_message, process_slice, receive_message}`
  ↔ `RecvRel` of `Renet/Channels.lean` (`RecvRel.new/processMessage/processSlice/receive`).

  `reprRR mr r` maps a model state to the generated struct: `messages` (`BTreeMap`) and `slices` (`HashMap`, only keyed
  access is translated) are association lists sorted by key on both sides (`RustSem.Map` / `SMap`; `MSorted` = strictly
  ascending keys; a generated `SliceConstructor` stores its key as `message_id`); `ReliableOrder::Unordered`'s
  `BTreeSet<u64>` is `setOf r.received`, the ascending list of the model's duplicate-free `received`.  The Rust field
  `most_recent_message_id` is written but never read and not part of the model: it is the parameter `mr` (`mrNext` after
  `process_message`, existentially quantified after `process_slice`).
  `process_message` / `process_slice` are `&mut self` methods returning `Result`: their `Err` carries the state they leave
  behind exactly like the model's `.err (e, r)`.  `SameOutcome` compares `ok` / `err` values exactly and panics up to the
  text of the site.
-/
import RenetVerif.Lemmas.SrcEquiv.RecvRel
namespace RenetVerif.SrcTie
open RenetVerif RenetVerif.SrcEquiv RenetVerif.RustSem
open Src.renet.channel.reliable

theorem recv_rel_new {ε : Type} (maxMem : Nat) (ordered : Bool) :
    (ReceiveChannelReliable.new maxMem ordered : Res ε _) = .ok (reprRR 0 (RecvRel.new maxMem ordered)) := by
  cases ordered <;> rfl

/-- `process_message` (ordered: `if let Entry::Vacant(entry) = self.messages.entry(id)`; unordered: the `BTreeSet` of
    received ids): the model's new state, or `ReliableChannelMaxMemoryReached` with the model's state left behind -/
theorem recv_rel_process_message (mr : Nat) (r : RecvRel) (m : Bytes) (id : Nat) (hmem : r.mem + m.length < 2 ^ 64) :
    ReceiveChannelReliable.process_message (reprRR mr r) (toNats m) id =
      mapRes (fun r' => (reprRR (mrNext r mr id) r', ())) (fun e => (reprCE e.1, reprRR (mrNext r mr id) e.2))
        (r.processMessage m id) := by
  unfold ReceiveChannelReliable.process_message RecvRel.processMessage
  have hl : RustSem.len (toNats m) = m.length := by simp [RustSem.len, toNats]
  simp only [reprRR, Exec.bind_eq, Exec.pure_eq, hl]
  by_cases hold : id < r.oldest
  · simp [hold, Exec.bind_ret', Exec.run_ret, mapRes, mrNext]
  simp only [hold, decide_false, Bool.false_eq_true, if_false, Exec.bind_val']
  cases hord : r.ordered with
  | true =>
    simp only [reprOrder, hord, if_true, contains_mapVals, add_val hmem, Exec.bind_val']
    cases hc : SMap.contains r.messages id with
    | true => simp [Exec.bind_val', Exec.run_val, mapRes, hord]
    | false =>
      by_cases hfit : r.mem + m.length > r.maxMem
      · simp [hfit, Exec.bind_err', Exec.run_err, mapRes, hord, reprCE]
      · simp [hfit, Exec.bind_val', Exec.run_val, mapRes, insert_mapVals]
  | false =>
    simp only [reprOrder, hord, Bool.false_eq_true, if_false, ReliableOrder.Unordered.most_recent_message_id?,
      ReliableOrder.Unordered.received_messages?, ReliableOrder.Unordered.set_most_recent_message_id,
      ReliableOrder.Unordered.set_received_messages, RustSem.unwrap, Exec.bind_val']
    by_cases hlt : mr < id
    · simp only [hlt, decide_true, if_true, Exec.bind_val', contains_setOf, add_val hmem]
      have hn : mrNext r mr id = id := by simp [mrNext, hold, hord, hlt]
      rw [hn]
      cases hc : r.received.contains id with
      | true => simp [Exec.bind_val', Exec.run_val, mapRes, hord]
      | false =>
        by_cases hfit : r.mem + m.length > r.maxMem
        · simp [hfit, Exec.bind_err', Exec.run_err, mapRes, hord, reprCE]
        · simp [hfit, Exec.bind_val', Exec.run_val, mapRes, insert_mapVals, setOf]
    · simp only [hlt, decide_false, Bool.false_eq_true, if_false, Exec.bind_val', contains_setOf, add_val hmem]
      have hn : mrNext r mr id = mr := by simp [mrNext, hold, hord, hlt]
      rw [hn]
      cases hc : r.received.contains id with
      | true => simp [Exec.bind_val', Exec.run_val, mapRes, hord]
      | false =>
        by_cases hfit : r.mem + m.length > r.maxMem
        · simp [hfit, Exec.bind_err', Exec.run_err, mapRes, hord, reprCE]
        · simp [hfit, Exec.bind_val', Exec.run_val, mapRes, insert_mapVals, setOf]

theorem rr_process_slice_has (mr : Nat) (r : RecvRel) (sl : Slice) (c : SliceCtor)
    (hf : SMap.find? r.slices sl.messageId = some c) (hs : MSorted r.slices) (hc : CtorOk c) (hmem : r.mem < 2 ^ 64) :
    ∃ mr', SameOutcome (ReceiveChannelReliable.process_slice (reprRR mr r) (reprSlice sl)) (rrOut mr' (r.processSlice sl)) := by
  have hcont : SMap.contains r.slices sl.messageId = true := by simp [SMap.contains, hf]
  have hgf : RustSem.Map.find? (reprSlices r.slices) sl.messageId = some (reprSC sl.messageId c) := by
    rw [find_reprSlices, hf]; rfl
  by_cases hk : Known r sl.messageId
  · exact ⟨mr, rr_process_slice_known mr r sl hk⟩
  obtain ⟨h1a, h1b, h1, h2⟩ := not_known hk
  unfold ReceiveChannelReliable.process_slice RecvRel.processSlice
  simp only [reprRR, reprSlice, contains_mapVals, Exec.bind_eq, Exec.pure_eq, h1a, h1b, decide_false, Bool.or_false,
    Bool.false_eq_true, if_false, Exec.bind_val']
  rw [Exec.bind_skip _ _ () ?hsk]
  case hsk => exact order_check mr r sl.messageId _ h2
  have hnum : (reprSC sl.messageId c).num_slices = c.numSlices := rfl
  simp only [contains_reprSlices, hcont, Bool.not_true, Bool.false_eq_true, if_false, if_true, Exec.bind_val',
    RustSem.Map.index, hgf, hf, hnum, Res.pure_eq, Res.bind_ok, h2, or_self]
  by_cases hne : c.numSlices ≠ sl.numSlices
  · refine ⟨mr, ?_⟩
    simp only [hne, ne_eq, not_false_eq_true, decide_true, if_true, Exec.bind_err', Exec.run_err, rrOut, mapRes,
      SameOutcome, reprCE, reprRR]
  have heq : c.numSlices = sl.numSlices := by simpa using hne
  simp only [hne, decide_false, Bool.false_eq_true, if_false, Exec.bind_val']
  -- the call into the slice constructor (group Slice)
  have htie := slice_constructor_process_slice' sl.messageId c sl.sliceIndex sl.payload hc.size hc.recv
  cases hm : c.processSlice sl.sliceIndex sl.payload with
  | panic st =>
    obtain ⟨st', hsc⟩ := htie.map_panic hm
    refine ⟨mr, ?_⟩
    simp only [hsc, Exec.callFrom_panic, Exec.bind_panic', Exec.run_panic, rrOut, mapRes, SameOutcome]
  | err e =>
    have hsc := htie.map_err hm
    refine ⟨mr, ?_⟩
    simp only [hsc, Exec.callFrom, Exec.bind_err', Exec.run_err, rrOut, mapRes, SameOutcome, reprRR, insert_reprSlices,
      SMap.insert_same ((msorted_iff _).mp hs) hf]
  | ok y =>
    obtain ⟨c', o⟩ := y
    have hsc := htie.map_ok hm
    simp only [hsc, Exec.callFrom_ok, Exec.bind_val']
    cases o with
    | none =>
      refine ⟨mr, ?_⟩
      simp only [Option.map_none, Exec.bind_val', Exec.run_val, rrOut, mapRes, SameOutcome, reprRR,
        insert_reprSlices, reprOrder]
    | some m =>
      have hpl := payload_len_le c _ _ c' m hc.data hm
      have hS : Src.renet.packet.SLICE_SIZE = C.SLICE_SIZE := rfl
      have hmul : sl.numSlices * C.SLICE_SIZE < 2 ^ 64 := by rw [← heq]; exact hc.size
      simp only [Option.map_some, hS, mul_val hmul, Exec.bind_val', Res.csub, heq]
      by_cases hsub : sl.numSlices * C.SLICE_SIZE ≤ r.mem
      · simp only [sub_val hsub, Exec.bind_val', hsub, if_true, Res.bind_ok, insert_reprSlices]
        have hmem2 : r.mem - sl.numSlices * C.SLICE_SIZE + m.length < 2 ^ 64 := by rw [heq] at hpl; omega
        obtain ⟨r2, hr2⟩ : ∃ r2 : RecvRel, r2 =
            { r with slices := SMap.insert r.slices sl.messageId c', mem := r.mem - sl.numSlices * C.SLICE_SIZE } :=
          ⟨_, rfl⟩
        have hmem2' : r2.mem + m.length < 2 ^ 64 := by rw [hr2]; exact hmem2
        have hst : (⟨reprSlices (SMap.insert r.slices sl.messageId c'), mapVals toNats r.messages, r.oldest,
              reprOrder mr r, r.mem - sl.numSlices * C.SLICE_SIZE, r.maxMem⟩ : SRR) = reprRR mr r2 := by
          rw [hr2]; rfl
        rw [hst, recv_rel_process_message mr r2 m sl.messageId hmem2', ← hr2]
        refine ⟨mrNext r2 mr sl.messageId, ?_⟩
        cases hpm : RecvRel.processMessage r2 m sl.messageId with
        | ok r3 =>
          simp only [mapRes, Exec.callFrom_ok, Exec.bind_val', Exec.run_val, rrOut, Res.bind_ok, SameOutcome, reprRR,
            remove_reprSlices, reprOrder]
        | err e =>
          simp only [mapRes, Exec.callFrom, Exec.bind_err', Exec.run_err, rrOut, Res.bind_err, SameOutcome]
        | panic st =>
          simp only [mapRes, Exec.callFrom_panic, Exec.bind_panic', Exec.run_panic, rrOut, Res.bind_panic, SameOutcome]
      · refine ⟨mr, ?_⟩
        simp only [sub_panic hsub, Exec.bind_panic', Exec.run_panic, hsub, if_false, Res.bind_panic, rrOut, mapRes,
          SameOutcome]

def rrReserved (r : RecvRel) (sl : Slice) : RecvRel :=
  { r with mem := r.mem + sl.numSlices * C.SLICE_SIZE,
           slices := SMap.insert r.slices sl.messageId (SliceCtor.new sl.numSlices) }

/-- `process_slice` on a state with a sorted slice table, a memory counter that cannot overflow when the slice's
    message is reserved, and (if the message is already being assembled) a constructor of sane size: same new state
    (including the nested `process_message` of a completed message), same error WITH the same state left behind, and a
    panic exactly when the model panics -/
theorem recv_rel_process_slice (mr : Nat) (r : RecvRel) (sl : Slice) (hs : MSorted r.slices)
    (hmem : r.mem + sl.numSlices * C.SLICE_SIZE < 2 ^ 64)
    (hctor : ∀ c, SMap.find? r.slices sl.messageId = some c → CtorOk c) :
    ∃ mr', SameOutcome (ReceiveChannelReliable.process_slice (reprRR mr r) (reprSlice sl))
      (mapRes (fun r' => (reprRR mr' r', ())) (fun e => (reprCE e.1, reprRR mr' e.2)) (r.processSlice sl)) := by
  cases hf : SMap.find? r.slices sl.messageId with
  | some c => exact rr_process_slice_has mr r sl c hf hs (hctor c hf) (by omega)
  | none =>
    have hcont : SMap.contains r.slices sl.messageId = false := by simp [SMap.contains, hf]
    have hS : Src.renet.packet.SLICE_SIZE = C.SLICE_SIZE := rfl
    have hmul : sl.numSlices * C.SLICE_SIZE < 2 ^ 64 := by omega
    by_cases hk : Known r sl.messageId
    · exact ⟨mr, rr_process_slice_known mr r sl hk⟩
    obtain ⟨h1a, h1b, h1, h2⟩ := not_known hk
    have hskip := fun X => order_check mr r sl.messageId X h2
    by_cases hfit : r.mem + sl.numSlices * C.SLICE_SIZE > r.maxMem
    · refine ⟨mr, ?_⟩
      unfold ReceiveChannelReliable.process_slice RecvRel.processSlice
      simp only [reprRR, reprSlice, contains_mapVals, h1a, h1b, decide_false, Bool.or_false, Bool.false_eq_true, if_false,
        Exec.bind_eq, Exec.pure_eq, Exec.bind_val', h2]
      rw [Exec.bind_skip _ _ () ?hsk]
      case hsk => exact hskip _
      simp only [contains_reprSlices, hcont, Bool.not_false, if_true, Bool.false_eq_true, if_false, hS,
        mul_val hmul, add_val hmem, Exec.bind_val', hfit, decide_true, Exec.bind_err', Exec.run_err, mapRes,
        SameOutcome, Res.bind_err, reprCE, or_self]
    · -- both sides continue as on the reserved state
      have hro : reprOrder mr (rrReserved r sl) = reprOrder mr r := rfl
      have hc1 : SMap.contains (SMap.insert r.slices sl.messageId (SliceCtor.new sl.numSlices)) sl.messageId = true := by
        simp [SMap.contains, SMap.find?_insert_self]
      have hgen : ReceiveChannelReliable.process_slice (reprRR mr r) (reprSlice sl)
          = ReceiveChannelReliable.process_slice (reprRR mr (rrReserved r sl)) (reprSlice sl) := by
        unfold ReceiveChannelReliable.process_slice
        simp only [reprRR, hro, reprSlice, contains_mapVals, Exec.bind_eq, Exec.pure_eq]
        simp only [rrReserved, h1a, h1b, decide_false, Bool.or_false, Bool.false_eq_true, if_false, Exec.bind_val']
        rw [Exec.bind_skip _ _ () ?k1]
        case k1 => exact hskip _
        rw [Exec.bind_skip _ _ () ?k2]
        case k2 => exact hskip _
        simp only [contains_reprSlices, hcont, hc1, Bool.not_false, Bool.not_true, if_true,
          Bool.false_eq_true, if_false, hS, mul_val hmul, add_val hmem, Exec.bind_val', hfit,
          decide_false, slice_constructor_new sl.messageId sl.numSlices hmul, Exec.call_ok, insert_reprSlices]
      have hmod : r.processSlice sl = (rrReserved r sl).processSlice sl := by
        unfold RecvRel.processSlice
        simp only [rrReserved, hcont, h1, h2, Bool.false_eq_true, if_false, hfit, hc1, if_true]
      rw [hgen, hmod]
      refine rr_process_slice_has mr (rrReserved r sl) sl (SliceCtor.new sl.numSlices) (SMap.find?_insert_self _ _ _)
        (SMap.sorted_insert hs _ _) (ctorOk_new _ hmul) ?_
      simp only [rrReserved]; omega

/-- `receive_message` (ordered: `remove(&oldest)?`; unordered: `pop_first()?` and the `while` loop over the set, whose
    manifest fuel `received_messages.len() + 1` is proved sufficient): the model's new state and message; panics exactly
    when the model does -/
theorem recv_rel_receive_message {ε : Type} (mr : Nat) (r : RecvRel) (ho : r.oldest + r.received.length + 1 < 2 ^ 64)
    (hnd : r.received.Nodup) :
    SameOutcome (ReceiveChannelReliable.receive_message (reprRR mr r) : Res ε _)
      (mapRes (fun x => (reprRR mr x.1, x.2.map toNats)) (fun e => nomatch e) r.receive) := by
  unfold ReceiveChannelReliable.receive_message RecvRel.receive
  cases hord : r.ordered with
  | true =>
    simp only [reprRR, reprOrder, hord, if_true, find_mapVals, remove_mapVals, Exec.bind_eq, Exec.pure_eq]
    cases hf : SMap.find? r.messages r.oldest with
    | none =>
      simp [RustSem.try_option, Exec.bind_ret', Exec.run_ret, mapRes, SameOutcome, hord,
        SMap.erase_of_find?_none hf]
    | some m =>
      have hl : RustSem.len (toNats m) = m.length := by simp [RustSem.len, toNats]
      have h1 : r.oldest + 1 < 2 ^ 64 := by omega
      simp only [Option.map_some, RustSem.try_option, Exec.bind_val', add_val h1, hl, Res.csub]
      by_cases hm : m.length ≤ r.mem
      · simp [sub_val hm, Exec.bind_val', Exec.run_val, hm, mapRes, SameOutcome]
      · simp [sub_panic hm, Exec.bind_panic', Exec.run_panic, hm, mapRes, SameOutcome]
  | false =>
    simp only [reprRR, reprOrder, hord, Bool.false_eq_true, if_false, Exec.bind_eq, Exec.pure_eq]
    cases hmsg : r.messages with
    | nil => simp [mapVals, RustSem.Map.first?, RustSem.Map.without_first, RustSem.try_option, Exec.bind_ret',
        Exec.run_ret, mapRes, SameOutcome, hord, hmsg]
    | cons p rest =>
      obtain ⟨id, m⟩ := p
      have hl : RustSem.len (toNats m) = m.length := by simp [RustSem.len, toNats]
      simp only [mapVals, List.map_cons, RustSem.Map.first?, List.head?_cons, RustSem.Map.without_first, List.tail_cons,
        RustSem.try_option, Exec.bind_val', hl]
      by_cases heq : r.oldest = id
      · have hlen := length_setOf r.received hnd
        have hfuel : (setOf r.received).length + 1 < 2 ^ 64 := by omega
        simp only [heq, decide_true, if_true, ReliableOrder.Unordered.received_messages?, RustSem.unwrap,
          Exec.bind_val', RustSem.len, add_val hfuel]
        have hst : (⟨reprSlices r.slices, List.map (fun p : Nat × Bytes => (p.fst, toNats p.snd)) rest, id,
              .Unordered mr (setOf r.received), r.mem, r.maxMem⟩ : SRR)
            = advSt ⟨reprSlices r.slices, List.map (fun p : Nat × Bytes => (p.fst, toNats p.snd)) rest, 0, .Ordered,
                r.mem, r.maxMem⟩ mr id r.received := rfl
        rw [hst, hlen, advance_loop _ mr _ _ ?hb r.received.length r.received id _ rfl hnd (Nat.lt_succ_self _)
          (by omega)]
        case hb =>
          intro o rec hn ho'
          simp only [advSt, Exec.bind_val', contains_setOf, ReliableOrder.Unordered.set_received_messages,
            remove_setOf _ _ hn]
          cases hc : rec.contains o with
          | true => simp [add_val (ho' hc), Exec.bind_val']
          | false => simp
        simp only [Exec.bind_val', advSt, Res.csub]
        by_cases hm : m.length ≤ r.mem
        · simp [sub_val hm, Exec.bind_val', Exec.run_val, hm, mapRes, SameOutcome]
        · simp [sub_panic hm, Exec.bind_panic', Exec.run_panic, hm, mapRes, SameOutcome]
      · simp only [heq, decide_false, Bool.false_eq_true, if_false, Exec.bind_val', Res.csub]
        by_cases hm : m.length ≤ r.mem
        · simp [sub_val hm, Exec.bind_val', Exec.run_val, hm, mapRes, SameOutcome]
        · simp [sub_panic hm, Exec.bind_panic', Exec.run_panic, hm, mapRes, SameOutcome]

/-- ordered: a new message is stored; a duplicate is ignored -/
example : ReceiveChannelReliable.process_message ⟨[], [], 0, .Ordered, 0, 10⟩ [1, 2] 3 =
    .ok (⟨[], [(3, [1, 2])], 0, .Ordered, 2, 10⟩, ()) := by decide +kernel
example : ReceiveChannelReliable.process_message ⟨[], [(3, [1, 2])], 0, .Ordered, 2, 10⟩ [9] 3 =
    .ok (⟨[], [(3, [1, 2])], 0, .Ordered, 2, 10⟩, ()) := by decide +kernel
/-- unordered, memory limited: `Err`, but `most_recent_message_id` has already been advanced -/
example : ReceiveChannelReliable.process_message ⟨[], [], 0, .Unordered 1 [1], 9, 10⟩ [1, 2] 5 =
    .err (.ReliableChannelMaxMemoryReached, ⟨[], [], 0, .Unordered 5 [1], 9, 10⟩) := by decide +kernel
example : ReceiveChannelReliable.process_message ⟨[], [], 0, .Unordered 1 [1, 7], 0, 10⟩ [1, 2] 5 =
    .ok (⟨[], [(5, [1, 2])], 0, .Unordered 5 [1, 5, 7], 2, 10⟩, ()) := by decide +kernel
/-- ordered receive: only the oldest pending id is handed out -/
example : (ReceiveChannelReliable.receive_message ⟨[], [(1, [7])], 0, .Ordered, 1, 10⟩ : Res Empty _) =
    .ok (⟨[], [(1, [7])], 0, .Ordered, 1, 10⟩, none) := by decide +kernel
example : (ReceiveChannelReliable.receive_message ⟨[], [(0, [5]), (1, [7])], 0, .Ordered, 2, 10⟩ : Res Empty _) =
    .ok (⟨[], [(1, [7])], 1, .Ordered, 1, 10⟩, some [5]) := by decide +kernel
/-- unordered receive of the oldest pending id: ids 0, 1, 2 were received, so `oldest` advances to 3 -/
example : (ReceiveChannelReliable.receive_message ⟨[], [(0, [5])], 0, .Unordered 4 [0, 1, 2, 4], 1, 10⟩ : Res Empty _) =
    .ok (⟨[], [], 3, .Unordered 4 [4], 0, 10⟩, some [5]) := by decide +kernel
/-- a one-slice message completes at once: reserved, released, handed to `process_message`, constructor removed -/
example : ReceiveChannelReliable.process_slice ⟨[], [], 0, .Ordered, 0, 5000⟩ ⟨7, 0, 1, [1, 2, 3]⟩ =
    .ok (⟨[], [(7, [1, 2, 3])], 0, .Ordered, 3, 5000⟩, ()) := by decide +kernel
/-- unordered: a slice of a message that was already delivered is ignored -/
example : ReceiveChannelReliable.process_slice ⟨[], [], 0, .Unordered 7 [7], 0, 5000⟩ ⟨7, 0, 1, [1, 2, 3]⟩ =
    .ok (⟨[], [], 0, .Unordered 7 [7], 0, 5000⟩, ()) := by decide +kernel
/-- a slice whose `num_slices` disagrees with the constructor: `Err` carrying the unchanged state -/
example : ReceiveChannelReliable.process_slice
      ⟨[(7, ⟨7, 2, 0, [false, false], List.replicate 2400 0⟩)], [], 0, .Ordered, 2400, 5000⟩ ⟨7, 0, 3, [1]⟩ =
    .err (.InvalidSliceMessage, ⟨[(7, ⟨7, 2, 0, [false, false], List.replicate 2400 0⟩)], [], 0, .Ordered, 2400, 5000⟩) := by
  decide +kernel

end RenetVerif.SrcTie
