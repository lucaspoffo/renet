/-
  Source tie, group NcCrypto: the four functions of `renetcode/src/crypto.rs`, TRANSLATED from the Rust text
  (`Generated/Src/NcCrypto.lean`, over the RustCrypto primitives of `Base/RustSemCrypto.lean`), equal the hand-written
  `RustSem.encrypt_in_place` / `dencrypted_in_place` / `encrypt_in_place_xnonce` / `dencrypted_in_place_xnonce` of
  `Base/RustSem.lean` that every other generated group calls.  Helper lemmas; headline statements in
  `Props/SrcTieNcCrypto.lean`.
-/
import RenetVerif.Generated.Src.NcCrypto
import RenetVerif.Lemmas.SrcEquiv.Prims
namespace RenetVerif.SrcEquiv.NcCrypto
open RenetVerif RenetVerif.RustSem

section prims
variable {ε ρ α β : Type}

theorem to_le_bytes_64_length (x : Nat) : (RustSem.to_le_bytes 64 x).length = 8 := by
  simp [RustSem.to_le_bytes, RustSem.leBytes]

theorem bindp (s : String) (f : α → Exec ε ρ β) : ((Exec.panic s : Exec ε ρ α) >>= f) = .panic s := rfl
theorem binde (e : ε) (f : α → Exec ε ρ β) : ((Exec.err e : Exec ε ρ α) >>= f) = .err e := rfl

theorem splice_val {l v : List α} {a b : Nat} {s : String} (h : a ≤ b ∧ b ≤ l.length) :
    (RustSem.splice l a b v s : Exec ε ρ (List α)) = .val (l.take a ++ v ++ l.drop b) :=
  if_pos h
theorem copy_panic {l src : List α} {a b : Nat} {s : String} (h : ¬ (a ≤ b ∧ b ≤ l.length ∧ src.length = b - a)) :
    (RustSem.copy_from_slice l a b src s : Exec ε ρ (List α)) = .panic s :=
  if_neg h

theorem from_slice_ok {n : Nat} {s : List Nat} {site : String} (h : s.length = n) :
    (RustSem.GenericArray.from_slice n s site : Res ε (List Nat)) = .ok s :=
  if_pos h
theorem from_slice_panic {n : Nat} {s : List Nat} {site : String} (h : s.length ≠ n) :
    (RustSem.GenericArray.from_slice n s site : Res ε (List Nat)) = .panic site :=
  if_neg h
end prims

/-- `let mut nonce = [0; 12]; nonce[4..12].copy_from_slice(&sequence.to_le_bytes());` never panics and yields
    `RustSem.crypto_nonce sequence` = `[0,0,0,0] ++ LE64(sequence)` -/
theorem nonce_build {ε ρ : Type} (sequence : Nat) (site : String) :
    (RustSem.copy_from_slice (RustSem.repeat_ 0 12) 4 12 (RustSem.to_le_bytes 64 sequence) site : Exec ε ρ (List Nat)) =
      .val (RustSem.crypto_nonce sequence) := by
  rw [copy_val (by simp [RustSem.repeat_, to_le_bytes_64_length])]
  simp [RustSem.repeat_, RustSem.crypto_nonce, List.replicate]

theorem crypto_nonce_length (sequence : Nat) : (RustSem.crypto_nonce sequence).length = 12 := by
  simp [RustSem.crypto_nonce, to_le_bytes_64_length]

theorem leBytes_inj {k : Nat} : ∀ {x y : Nat}, x < 256 ^ k → y < 256 ^ k → RustSem.leBytes x k = RustSem.leBytes y k → x = y := by
  induction k with
  | zero => intro x y hx hy _; exact (Nat.lt_one_iff.mp hx).trans (Nat.lt_one_iff.mp hy).symm
  | succ k ih =>
    intro x y hx hy h
    simp only [RustSem.leBytes, List.cons.injEq] at h
    rw [Nat.pow_succ, Nat.mul_comm] at hx hy
    rw [← Nat.div_add_mod x 256, ← Nat.div_add_mod y 256, h.1,
      ih (Nat.div_lt_of_lt_mul hx) (Nat.div_lt_of_lt_mul hy) h.2]

theorem crypto_nonce_inj {s1 s2 : Nat} (h1 : s1 < 2 ^ 64) (h2 : s2 < 2 ^ 64)
    (h : RustSem.crypto_nonce s1 = RustSem.crypto_nonce s2) : s1 = s2 := by
  simp only [RustSem.crypto_nonce, RustSem.to_le_bytes, List.append_cancel_left_eq] at h
  exact leBytes_inj (k := 8) (by simpa using h1) (by simpa using h2) h

section fns
variable [a : RustSem.Aead]

omit a in
theorem mac_bytes : Src.renetcode.NETCODE_MAC_BYTES = 16 := rfl

omit a in
/-- `buffer.split_at_mut(len - 16)`: both halves are valid ranges -/
theorem head_ok (buffer : List Nat) : 0 ≤ buffer.length - 16 ∧ buffer.length - 16 ≤ buffer.length :=
  ⟨Nat.zero_le _, Nat.sub_le _ _⟩
omit a in
theorem tag_ok (buffer : List Nat) : buffer.length - 16 ≤ buffer.length ∧ buffer.length ≤ buffer.length :=
  ⟨Nat.sub_le _ _, Nat.le_refl _⟩

/-- `encrypt_in_place`, buffer shorter than the MAC: the subtraction underflows (same site as the hand-written version) -/
theorem encrypt_in_place_short (buffer : List Nat) (sequence : Nat) (key aad : List Nat) (h : buffer.length < 16) :
    Src.renetcode.crypto.encrypt_in_place buffer sequence key aad = RustSem.encrypt_in_place buffer sequence key aad := by
  simp only [Src.renetcode.crypto.encrypt_in_place, RustSem.encrypt_in_place, if_pos h, nonce_build, Exec.bind_val,
    RustSem.Nonce.from, from_slice_ok (crypto_nonce_length sequence), Exec.call, RustSem.len, mac_bytes,
    sub_panic (Nat.not_le.mpr h), bindp, Exec.run]

omit a in
/-- the statements after the detached encryption (`S` = what `seal` returned, of the length of the buffer): the
    ciphertext goes to `buffer[..len-16]`, the tag to `buffer[len-16..]`; the buffer is then exactly `S` -/
theorem encrypt_tail {ε : Type} (buffer S : List Nat) (s1 s2 s3 : String) (h16 : 16 ≤ buffer.length)
    (hs : S.length = buffer.length) :
    ((do
        let t10 ← RustSem.splice buffer 0 (buffer.length - 16) (List.take (buffer.length - 16) S) s1
        let t11 ← RustSem.slice t10 (buffer.length - 16) t10.length s1
        let t12 ← RustSem.copy_from_slice t11 0 t11.length (List.drop (buffer.length - 16) S) s2
        let t13 ← RustSem.splice t10 (buffer.length - 16) t10.length t12 s3
        pure (t13, ())) : Exec ε (List Nat × Unit) (List Nat × Unit)).run = Res.ok (S, ()) := by
  have hA : (S.take (buffer.length - 16)).length = buffer.length - 16 := by rw [List.length_take]; omega
  have hB : (buffer.drop (buffer.length - 16)).length = 16 := by rw [List.length_drop]; omega
  have hD : (S.drop (buffer.length - 16)).length = 16 - 0 := by rw [List.length_drop]; omega
  have hl : (S.take (buffer.length - 16) ++ buffer.drop (buffer.length - 16)).length = buffer.length := by
    rw [List.length_append, hA, hB]; omega
  -- `t10 = take S ++ drop buffer`
  rw [splice_val (head_ok buffer), Exec.bind_val, List.take_zero, List.nil_append, hl]
  -- `t11`: the last 16 bytes of `t10`
  rw [slice_val ⟨Nat.sub_le _ _, Nat.le_of_eq hl.symm⟩, Exec.bind_val, List.take_of_length_le (Nat.le_of_eq hl),
    List.drop_left' hA, hB]
  -- `t12`: the last 16 bytes of `S`
  rw [copy_val ⟨Nat.zero_le _, Nat.le_of_eq hB.symm, hD⟩, Exec.bind_val, List.take_zero, List.nil_append,
    List.drop_of_length_le (Nat.le_of_eq hB), List.append_nil]
  -- `t13 = take S ++ drop S`
  rw [splice_val ⟨Nat.sub_le _ _, Nat.le_of_eq hl.symm⟩, Exec.bind_val, List.take_left' hA,
    List.drop_of_length_le (Nat.le_of_eq hl), List.append_nil, List.take_append_drop]
  rfl

theorem encrypt_in_place_long (buffer : List Nat) (sequence : Nat) (key aad : List Nat) (h : ¬ buffer.length < 16)
    (hk : key.length = 32)
    (hs : (a.seal key (RustSem.crypto_nonce sequence) aad (buffer.take (buffer.length - 16))).length = buffer.length) :
    Src.renetcode.crypto.encrypt_in_place buffer sequence key aad = RustSem.encrypt_in_place buffer sequence key aad := by
  have h16 : 16 ≤ buffer.length := Nat.le_of_not_lt h
  generalize hS : a.seal key (RustSem.crypto_nonce sequence) aad (buffer.take (buffer.length - 16)) = S at hs
  have htk : (List.take (buffer.length - 16) buffer).length = buffer.length - 16 :=
    List.length_take_of_le (Nat.sub_le _ _)
  simp only [Src.renetcode.crypto.encrypt_in_place, RustSem.encrypt_in_place, if_neg h, nonce_build, Exec.bind_val,
    RustSem.Nonce.from, from_slice_ok (crypto_nonce_length sequence), Exec.call, RustSem.len, mac_bytes,
    sub_val h16, RustSem.Key.from_slice, from_slice_ok hk, RustSem.ChaCha20Poly1305.new, slice_val (head_ok buffer),
    List.drop_zero, RustSem.ChaCha20Poly1305.encrypt_in_place_detached, Exec.callFrom, htk, hS]
  exact encrypt_tail buffer S _ _ _ h16 hs

theorem encrypt_in_place_xnonce_short (buffer xnonce key aad : List Nat) (h : buffer.length < 16) :
    Src.renetcode.crypto.encrypt_in_place_xnonce buffer xnonce key aad = RustSem.encrypt_in_place_xnonce buffer xnonce key aad := by
  simp only [Src.renetcode.crypto.encrypt_in_place_xnonce, RustSem.encrypt_in_place_xnonce, if_pos h,
    RustSem.len, mac_bytes, sub_panic (Nat.not_le.mpr h), bindp, Exec.run]

theorem encrypt_in_place_xnonce_long (buffer xnonce key aad : List Nat) (h : ¬ buffer.length < 16)
    (hx : xnonce.length = 24) (hk : key.length = 32)
    (hs : (a.xseal key xnonce aad (buffer.take (buffer.length - 16))).length = buffer.length) :
    Src.renetcode.crypto.encrypt_in_place_xnonce buffer xnonce key aad = RustSem.encrypt_in_place_xnonce buffer xnonce key aad := by
  have h16 : 16 ≤ buffer.length := Nat.le_of_not_lt h
  generalize hS : a.xseal key xnonce aad (buffer.take (buffer.length - 16)) = S at hs
  have htk : (List.take (buffer.length - 16) buffer).length = buffer.length - 16 :=
    List.length_take_of_le (Nat.sub_le _ _)
  simp only [Src.renetcode.crypto.encrypt_in_place_xnonce, RustSem.encrypt_in_place_xnonce, if_neg h, Exec.bind_val,
    RustSem.XNonce.from_slice, from_slice_ok hx, Exec.call, RustSem.len, mac_bytes,
    sub_val h16, RustSem.Key.from_slice, from_slice_ok hk, RustSem.XChaCha20Poly1305.new, slice_val (head_ok buffer),
    List.drop_zero, RustSem.XChaCha20Poly1305.encrypt_in_place_detached, Exec.callFrom, htk, hS]
  exact encrypt_tail buffer S _ _ _ h16 hs

omit a in
theorem tag_half_length (buffer : List Nat) (h16 : 16 ≤ buffer.length) :
    (List.drop (buffer.length - 16) (List.take buffer.length buffer)).length = 16 := by
  simp only [List.length_drop, List.length_take]; omega

omit a in
theorem halves (buffer : List Nat) :
    List.take (buffer.length - 16) buffer ++ List.drop (buffer.length - 16) (List.take buffer.length buffer) = buffer := by
  simp

omit a in
/-- the statements after the detached decryption; `o` is what `open` returned for the whole buffer -/
theorem decrypt_tail (buffer : List Nat) (o : Option (List Nat)) (s : String) :
    ((do
        let t11 ← Exec.callFrom
          (fun err => Res.ok (err.1, List.take 0 buffer ++ err.2 ++ List.drop (buffer.length - 16) buffer))
          (match o with
           | some p => Res.ok (p, ())
           | none => Res.err (CryptoError.opaque, List.take (buffer.length - 16) buffer))
        let t12 ← RustSem.splice buffer 0 (buffer.length - 16) t11.1 s
        pure (t12, ())) : Exec (CryptoError × List Nat) (List Nat × Unit) (List Nat × Unit)).run =
      match o with
      | some p => .ok (p ++ buffer.drop (buffer.length - 16), ())
      | none => .err (.opaque, buffer) := by
  cases o with
  | none => simp only [Exec.callFrom, binde, Exec.run, List.take_zero, List.nil_append, List.take_append_drop]
  | some p =>
    simp only [Exec.callFrom, Exec.bind_val, splice_val (head_ok buffer), Exec.pure_eq, Exec.run, List.take_zero,
      List.nil_append]

theorem dencrypted_in_place_short (buffer : List Nat) (sequence : Nat) (key aad : List Nat) (h : buffer.length < 16) :
    Src.renetcode.crypto.dencrypted_in_place buffer sequence key aad = RustSem.dencrypted_in_place buffer sequence key aad := by
  simp only [Src.renetcode.crypto.dencrypted_in_place, RustSem.dencrypted_in_place, if_pos h, nonce_build, Exec.bind_val,
    RustSem.Nonce.from, from_slice_ok (crypto_nonce_length sequence), Exec.call, RustSem.len, mac_bytes,
    sub_panic (Nat.not_le.mpr h), bindp, Exec.run]

theorem dencrypted_in_place_long (buffer : List Nat) (sequence : Nat) (key aad : List Nat) (h : ¬ buffer.length < 16)
    (hk : key.length = 32) :
    Src.renetcode.crypto.dencrypted_in_place buffer sequence key aad = RustSem.dencrypted_in_place buffer sequence key aad := by
  have h16 : 16 ≤ buffer.length := Nat.le_of_not_lt h
  simp only [Src.renetcode.crypto.dencrypted_in_place, RustSem.dencrypted_in_place, if_neg h, nonce_build, Exec.bind_val,
    RustSem.Nonce.from, from_slice_ok (crypto_nonce_length sequence), Exec.call, RustSem.len, mac_bytes,
    sub_val h16, RustSem.Key.from_slice, from_slice_ok hk, RustSem.ChaCha20Poly1305.new, slice_val (head_ok buffer),
    slice_val (tag_ok buffer), List.drop_zero, RustSem.Tag.from_slice, from_slice_ok (tag_half_length buffer h16),
    RustSem.ChaCha20Poly1305.decrypt_in_place_detached, halves]
  exact decrypt_tail buffer _ _

theorem dencrypted_in_place_xnonce_short (buffer xnonce key aad : List Nat) (hx : xnonce.length = 24) (h : buffer.length < 16) :
    Src.renetcode.crypto.dencrypted_in_place_xnonce buffer xnonce key aad = RustSem.dencrypted_in_place_xnonce buffer xnonce key aad := by
  simp only [Src.renetcode.crypto.dencrypted_in_place_xnonce, RustSem.dencrypted_in_place_xnonce, if_pos h,
    RustSem.XNonce.from_slice, from_slice_ok hx, Exec.call, Exec.bind_val, RustSem.len, mac_bytes,
    sub_panic (Nat.not_le.mpr h), bindp, Exec.run]

theorem dencrypted_in_place_xnonce_long (buffer xnonce key aad : List Nat) (h : ¬ buffer.length < 16)
    (hx : xnonce.length = 24) (hk : key.length = 32) :
    Src.renetcode.crypto.dencrypted_in_place_xnonce buffer xnonce key aad = RustSem.dencrypted_in_place_xnonce buffer xnonce key aad := by
  have h16 : 16 ≤ buffer.length := Nat.le_of_not_lt h
  simp only [Src.renetcode.crypto.dencrypted_in_place_xnonce, RustSem.dencrypted_in_place_xnonce, if_neg h, Exec.bind_val,
    RustSem.XNonce.from_slice, from_slice_ok hx, Exec.call, RustSem.len, mac_bytes,
    sub_val h16, RustSem.Key.from_slice, from_slice_ok hk, RustSem.XChaCha20Poly1305.new, slice_val (head_ok buffer),
    slice_val (tag_ok buffer), List.drop_zero, RustSem.Tag.from_slice, from_slice_ok (tag_half_length buffer h16),
    RustSem.XChaCha20Poly1305.decrypt_in_place_detached, halves]
  exact decrypt_tail buffer _ _

end fns
end RenetVerif.SrcEquiv.NcCrypto
