/-
  C04 over WHOLE SERVER RUNS (model level) — "each genuine payload is surfaced at most once per session, and only if it
  opened under that session's receive key", for every interleaving of the public operations of `NetcodeServer`.

  A run: `NS.ReachT a s tr` — `s` is reached from an empty server (`NetcodeServer::new` returns one, `reachT_new`) by any list
  of `NS.step` operations (`process_packet` on ANY datagram from ANY address, `update`, `update_client`, `disconnect`,
  `set_max_clients`, `generate_payload_packet`, arbitrary arguments, any order); `tr` is the trace: the list of
  (operation, returned `ServerResult`).  Proofs: Lemmas/NcSessionWindow.lean (the invariant `NS.WinInv` carried along the run).

  A session of client id `id`: the stretch of the trace after a `ClientConnected id ..` result up to the next one
  (`NS.sessPayloads id tr` = the (datagram, surfaced bytes) pairs of the `Payload id ..` results of the CURRENT session, i.e.
  since the last `ClientConnected id`; a `Payload id` result can only occur while `id` occupies a slot, so between two
  `ClientConnected id` results the payloads are those of one stay in the slot table).  Earlier sessions are covered because
  every prefix of a run is a run (`payload_once_per_session` is stated for two arbitrary positions of the trace).

  Excluded point (as in C04): the sequence number `2^64-1` equals the window's EMPTY marker (`C04.sentinel_collision`).
  That the stored window EQUALS the `Recv.run` window of the datagrams decoded for that slot: Props/C04W.lean,
  `session_window_is_recv_window`.  The theorems below give the window invariant `RP.Inv` with a ghost list containing every
  surfaced sequence number, which is what at-most-once needs (the window a session starts with is the one its half-open
  predecessor accumulated, not `RP.new`).
-/
import RenetVerif.Lemmas.NcSessionWindow
import RenetVerif.Props.C04C
import RenetVerif.Lemmas.NcExamples
import RenetVerif.Props.C04
namespace RenetVerif.C04H
open RenetVerif RenetVerif.Netcode RenetVerif.Netcode.NS

theorem reachT_new {a : AEAD} {t m pid : Nat} {pa : List Addr} {sec : Bool} {k ck : Bytes} {s : NetcodeServer}
    (h : NetcodeServer.new t m pid pa sec k ck = .ok s) : ReachT a s [] := .init (new_inv h).2.2.2.2.2.1

/-- **The stored window of a session, after any run.**  For every occupied slot (session `c`) there is a ghost list
    `accepted` with `RP.Inv c.replayProtection accepted` such that every datagram whose payload was surfaced in the current
    session of `c.clientId` has its sequence number in `accepted`, opened under `c.receiveKey` (nonce = its own sequence
    number, additional data = version ‖ protocol id ‖ its own prefix byte) to exactly the surfaced bytes, and — unless its
    sequence number is `2^64-1` — is now rejected by the stored window. -/
theorem session_window {a : AEAD} {s : NetcodeServer} {tr : Trace} (h : ReachT a s tr) {i : Nat} {c : Connection}
    (hc : At s.clients i c) :
    ∃ accepted, RP.Inv c.replayProtection accepted ∧ ∀ bp ∈ sessPayloads c.clientId tr,
      Packet.wireSeq bp.1 ∈ accepted ∧ Packet.SealedOpen a bp.1 s.protocolId c.receiveKey .payload bp.2 ∧
      (Packet.wireSeq bp.1 ≠ 2 ^ 64 - 1 → c.replayProtection.alreadyReceived (Packet.wireSeq bp.1) = true) := by
  obtain ⟨hw, -, hmem⟩ := h.winInv.slot i c hc
  have hacc := (Packet.Recv.good_run a s.protocolId c.receiveKey (addrBufs c.addr tr)).inv
  rw [← hw] at hacc
  exact ⟨_, hacc, fun bp hbp => ⟨(hmem bp hbp).1, (hmem bp hbp).2, fun hne => RP.no_reaccept hacc (hmem bp hbp).1 hne⟩⟩

/-- the windows of the half-open sessions satisfy the window invariant too (a connected session inherits this window) -/
theorem pending_window {a : AEAD} {s : NetcodeServer} {tr : Trace} (h : ReachT a s tr) {x : Addr × Connection}
    (hx : x ∈ s.pendingClients) : ∃ accepted, RP.Inv x.2.replayProtection accepted :=
  ⟨_, by
    rw [h.winInv.pend x.1 x.2 (pendingFind_of_mem h.inv.pendKeys hx)]
    exact (Packet.Recv.good_run a s.protocolId x.2.receiveKey (addrBufs x.1 tr)).inv⟩

/-- **At most once per session, after any run**: the sequence numbers (`2^64-1` excluded) of the datagrams whose payloads were
    surfaced in the current session of `id` are pairwise distinct. -/
theorem session_payload_once {a : AEAD} {s : NetcodeServer} {tr : Trace} (h : ReachT a s tr) (id : Nat) :
    (seqsOf (sessPayloads id tr)).Nodup := by
  obtain ⟨key, bufs, hsub, -⟩ := h.winInv.surf id
  rw [show seqsOf (sessPayloads id tr) = _ from (C04C.protectedSeqs_asSurf _).symm]
  exact (C04C.protectedSeqs_sublist hsub).nodup (Packet.Recv.good_run a s.protocolId key bufs).nodup

/-- **Authentic, one key per session**: all payloads surfaced in the current session of `id` are the plaintexts of their
    datagrams under ONE key (`session_window`: the receive key of the slot while the session lasts). -/
theorem session_payloads_authentic {a : AEAD} {s : NetcodeServer} {tr : Trace} (h : ReachT a s tr) (id : Nat) :
    ∃ key, ∀ bp ∈ sessPayloads id tr, Packet.SealedOpen a bp.1 s.protocolId key .payload bp.2 :=
  let ⟨key, _, _, hk⟩ := h.winInv.surf id; ⟨key, hk⟩

/-- with `C04.NoForgery` for that key: every payload of the session is what the peer sealed under that sequence number -/
theorem session_payloads_genuine {a : AEAD} {s : NetcodeServer} {tr : Trace} (h : ReachT a s tr) {i : Nat} {c : Connection}
    (hc : At s.clients i c) {sealed : Nat → UInt8 → Bytes → Prop}
    (hnf : C04.NoForgery a s.protocolId c.receiveKey ((sessPayloads c.clientId tr).map (·.1)) sealed) :
    ∀ bp ∈ sessPayloads c.clientId tr, sealed (Packet.wireSeq bp.1) (Packet.wirePrefix bp.1) bp.2 := by
  intro bp hbp
  obtain ⟨acc, _, hmem⟩ := session_window h hc
  exact hnf bp.1 (List.mem_map.mpr ⟨bp, hbp, rfl⟩) bp.2 (hmem bp hbp).2.1.opened

theorem payload_only_from_packet {a : AEAD} {s : NetcodeServer} {tr : Trace} (h : ReachT a s tr) {op : Op} {id : Nat}
    {p : Bytes} (hm : (op, ServerResult.payload id p) ∈ tr) : ∃ ad buf, op = .packet ad buf := by
  induction h with
  | init _ => cases hm
  | step hr hs ih =>
    rcases List.mem_append.mp hm with hm | hm
    · exact ih hm
    · simp only [List.mem_singleton, Prod.mk.injEq] at hm
      obtain ⟨rfl, rfl⟩ := hm
      rcases step_packet_or_quiet hs with ⟨addr, buf, e, -⟩ | ⟨-, hq⟩
      · exact ⟨addr, buf, e⟩
      · exact absurd rfl (hq.result.2 id p)

theorem sessPayloads_append (id : Nat) (t1 t2 : Trace) :
    sessPayloads id (t1 ++ t2) = t2.foldl (sessStep id) (sessPayloads id t1) := by
  simp [sessPayloads, List.foldl_append]

/-- **At most once per session, any two positions of any run.**  If two `Payload id ..` results of a run (for the datagrams
    `bj`, later `bk`) have no `ClientConnected id ..` result between them (same session), then the datagrams carry different
    sequence numbers (unless it is `2^64-1`) — no datagram, copy of it, or modification keeping its sequence bytes is surfaced
    twice — and both opened under one and the same key to exactly the surfaced bytes. -/
theorem payload_once_per_session {a : AEAD} {s : NetcodeServer} {tr pre mid post : Trace} (h : ReachT a s tr)
    {id : Nat} {adj adk : Addr} {bj bk pj pk : Bytes}
    (he : tr = pre ++ (.packet adj bj, .payload id pj) :: (mid ++ (.packet adk bk, .payload id pk) :: post))
    (hmid : ∀ x ∈ mid, ∀ ad ud o, x.2 ≠ .clientConnected id ad ud o) :
    (Packet.wireSeq bj ≠ 2 ^ 64 - 1 → Packet.wireSeq bk ≠ Packet.wireSeq bj) ∧
    ∃ key, Packet.SealedOpen a bj s.protocolId key .payload pj ∧ Packet.SealedOpen a bk s.protocolId key .payload pk := by
  have e : tr = (pre ++ (Op.packet adj bj, ServerResult.payload id pj) ::
      (mid ++ [(Op.packet adk bk, ServerResult.payload id pk)])) ++ post := by
    rw [he]; simp
  obtain ⟨s1, h1, hp⟩ := h.prefix _ _ e
  obtain ⟨M, hM⟩ := foldl_sessStep_suffix mid ((bj, pj) :: sessPayloads id pre) hmid
  have hL : sessPayloads id (pre ++ (Op.packet adj bj, ServerResult.payload id pj) ::
      (mid ++ [(Op.packet adk bk, ServerResult.payload id pk)])) = (bk, pk) :: (M ++ (bj, pj) :: sessPayloads id pre) := by
    rw [sessPayloads_append, List.foldl_cons, sessStep_payload, if_pos rfl, List.foldl_append, hM, List.foldl_cons,
      List.foldl_nil, sessStep_payload, if_pos rfl]
  have hnd := session_payload_once h1 id
  obtain ⟨key, hkey⟩ := session_payloads_authentic h1 id
  rw [hL] at hnd hkey
  rw [hp] at hkey
  refine ⟨fun hne heq => ?_, key, hkey (bj, pj) (by simp), hkey (bk, pk) (by simp)⟩
  rw [seqsOf_cons, if_pos (by rw [heq]; exact hne)] at hnd
  refine (List.nodup_cons.mp hnd).1 (mem_seqsOf.mpr ⟨⟨(bj, pj), by simp, heq.symm⟩, by rw [heq]; exact hne⟩)

/-- **Replay rejected after any run**: a datagram carrying the sequence number of one whose payload was surfaced in the
    current session of the client connected from `addr` surfaces NO payload when presented (from that address) to the state the
    run ended in.  (`SInv 1`: the server's own packet counters have room, see C07.) -/
theorem replay_rejected_after_run {a : AEAD} {s : NetcodeServer} {tr : Trace} (h : ReachT a s tr)
    (hinv : NetcodeServer.SInv 1 s) {addr : Addr} {slot : Nat} {c : Connection}
    (hf : findClientByAddr s.clients addr = some (slot, c)) {bp : Bytes × Bytes} (hbp : bp ∈ sessPayloads c.clientId tr)
    {buf : Bytes} (hseq : Packet.wireSeq buf = Packet.wireSeq bp.1) (hne : Packet.wireSeq buf ≠ 2 ^ 64 - 1)
    (cid : Nat) (p : Bytes) (s' : NetcodeServer) : NetcodeServer.processPacket a s addr buf ≠ .ok (.payload cid p, s') := by
  obtain ⟨acc, _, hmem⟩ := session_window h (findAddr_some hf).1
  exact C04.server_replay_rejected a hinv hf (by rw [hseq]; exact (hmem bp hbp).2.2 (by rw [← hseq]; exact hne)) cid p s'

/-! ### non-vacuity: a model run on the example world (`Lemmas/NcExamples.lean`, toy AEAD `Ex.a`)

  request, response (→ `ClientConnected 11`), payload seq 2, ITS REPLAY, a hostile datagram, payload seq 3, a copy of the seq-2
  datagram with other content (same sequence byte), `update_client`, a payload to the client. -/
section Examples
open Ex

def pay3 : Bytes := 21 :: 3 :: ([4, 5] ++ List.replicate 16 0)
/-- same sequence byte as `payFromA` (2), other content -/
def pay2' : Bytes := 21 :: 2 :: ([8, 8, 8, 8] ++ List.replicate 16 0)
def hostile : Bytes := 21 :: 7 :: List.replicate 30 255

def exOps : List Op :=
  [.packet addrA reqA, .packet addrA respA, .packet addrA payFromA, .packet addrA payFromA, .packet addrA hostile,
   .packet addrA pay3, .packet addrA pay2', .updateClient 11, .sendPayload 11 [9, 9]]

/-- the model run in one kernel evaluation: its results — each genuine payload once, nothing for the replay, the forgery and
    the modified copy — and the slot of `addrA` in its final state (id, receive key, newest accepted sequence number) -/
theorem ex_run :
    (runT Ex.a s0 exOps).map (fun x => x.1.map (·.2)) =
      some [.packetToSend addrA chalA, .clientConnected 11 addrA udA kaA, .payload 11 [1, 2, 3], .none, .none,
        .payload 11 [4, 5], .none, .none, .packetToSend addrA (21 :: 1 :: ([9, 9] ++ List.replicate 16 0))] ∧
    (runT Ex.a s0 exOps).map (fun x =>
      ((findClientByAddr x.2.clients addrA).map (fun y => (y.2.clientId, y.2.receiveKey, y.2.replayProtection.mostRecent)),
        x.2.protocolId)) = some (some (11, kc2s, 3), 42) := by
  decide +kernel

theorem ex_results : (runT Ex.a s0 exOps).map (fun x => x.1.map (·.2)) =
    some [.packetToSend addrA chalA, .clientConnected 11 addrA udA kaA, .payload 11 [1, 2, 3], .none, .none,
      .payload 11 [4, 5], .none, .none, .packetToSend addrA (21 :: 1 :: ([9, 9] ++ List.replicate 16 0))] := ex_run.1

theorem ex_trace : ∃ tr s, runT Ex.a s0 exOps = some (tr, s) ∧ ReachT Ex.a s tr ∧
    tr = exOps.zip [.packetToSend addrA chalA, .clientConnected 11 addrA udA kaA, .payload 11 [1, 2, 3], .none, .none,
      .payload 11 [4, 5], .none, .none, .packetToSend addrA (21 :: 1 :: ([9, 9] ++ List.replicate 16 0))] := by
  have h := ex_results
  cases hr : runT Ex.a s0 exOps with
  | none => rw [hr] at h; cases h
  | some x =>
    obtain ⟨tr, s⟩ := x
    rw [hr] at h
    have hreach := reachT_runT exOps (ReachT.init (a := Ex.a) s0_empty) hr
    rw [List.nil_append] at hreach
    have hz := runT_zip exOps hr
    simp only [Option.map_some, Option.some.injEq] at h
    rw [h] at hz
    exact ⟨tr, s, rfl, hreach, hz⟩

theorem ex_sess : ∃ tr s, ReachT Ex.a s tr ∧ sessPayloads 11 tr = [(pay3, [4, 5]), (payFromA, [1, 2, 3])] := by
  obtain ⟨tr, s, _, hr, rfl⟩ := ex_trace
  exact ⟨_, s, hr, rfl⟩

/-- `session_payload_once`, `session_payloads_authentic` on that run: the session of id 11 surfaced the sequence numbers 3 and
    2, once each -/
example : ∃ tr s, ReachT Ex.a s tr ∧ seqsOf (sessPayloads 11 tr) = [3, 2] ∧ (seqsOf (sessPayloads 11 tr)).Nodup ∧
    ∃ key, ∀ bp ∈ sessPayloads 11 tr, Packet.SealedOpen Ex.a bp.1 s.protocolId key .payload bp.2 := by
  obtain ⟨tr, s, hr, hL⟩ := ex_sess
  exact ⟨tr, s, hr, by rw [hL]; decide +kernel, session_payload_once hr 11, session_payloads_authentic hr 11⟩

/-- `session_window` on that run: the slot of id 11 is occupied at the end, and both surfaced datagrams are rejected by its
    stored window -/
example : ∃ tr s i c, ReachT Ex.a s tr ∧ At s.clients i c ∧ c.clientId = 11 ∧
    ∀ bp ∈ sessPayloads 11 tr, c.replayProtection.alreadyReceived (Packet.wireSeq bp.1) = true := by
  obtain ⟨tr, s, hrun, hr, rfl⟩ := ex_trace
  have h := ex_run.2
  rw [hrun] at h
  simp only [Option.map_some, Option.some.injEq, Prod.mk.injEq] at h
  cases hf : findClientByAddr s.clients addrA with
  | none => rw [hf] at h; cases h.1
  | some y =>
    obtain ⟨i, c⟩ := y
    rw [hf] at h
    simp only [Option.map_some, Option.some.injEq, Prod.mk.injEq] at h
    obtain ⟨⟨h, -, -⟩, -⟩ := h
    obtain ⟨acc, _, hmem⟩ := session_window hr (findAddr_some hf).1
    refine ⟨_, s, i, c, hr, (findAddr_some hf).1, h, fun bp hbp => ?_⟩
    refine (hmem bp (by rw [h]; exact hbp)).2.2 ?_
    change bp ∈ [(pay3, [4, 5]), (payFromA, [1, 2, 3])] at hbp
    simp only [List.mem_cons, List.mem_nil_iff, or_false] at hbp
    rcases hbp with rfl | rfl <;> decide +kernel

/-- `payload_once_per_session` on that run, positions 2 (`payFromA`) and 5 (`pay3`) -/
example : Packet.wireSeq pay3 ≠ Packet.wireSeq payFromA := by
  obtain ⟨tr, s, _, hr, he⟩ := ex_trace
  refine (payload_once_per_session (pre := [(.packet addrA reqA, .packetToSend addrA chalA),
      (.packet addrA respA, .clientConnected 11 addrA udA kaA)])
    (mid := [(.packet addrA payFromA, .none), (.packet addrA hostile, .none)]) hr (by rw [he]; rfl) ?_).1 (by decide +kernel)
  intro x hx ad ud o
  simp only [List.mem_cons, List.mem_nil_iff, or_false] at hx
  rcases hx with rfl | rfl <;> simp

end Examples

end RenetVerif.C04H
