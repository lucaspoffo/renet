/-
  `RenetClient::update` and `RenetClient::process_packet` (group ConnRecv) against `Conn.update` / `Conn.processPacket`
  of `Renet/Conn.lean`.  The ties themselves are in `Props/SrcTieConnRecv.lean`.
-/
import RenetVerif.Generated.Src.ConnRecv
import RenetVerif.Lemmas.SrcEquiv.Prims
import RenetVerif.Lemmas.SrcEquiv.CommonRepr
import RenetVerif.Lemmas.SrcEquiv.ChanLemmas
import RenetVerif.Lemmas.SrcEquiv.ConnRepr
import RenetVerif.Lemmas.SrcEquiv.Conn
import RenetVerif.Lemmas.SrcEquiv.Packet
import RenetVerif.Lemmas.SrcEquiv.Acks
import RenetVerif.Lemmas.SrcEquiv.RecvUnrel
import RenetVerif.Lemmas.SrcEquiv.RecvRel
import RenetVerif.Lemmas.SrcEquiv.SendRel
import RenetVerif.Props.SrcTieConn
namespace RenetVerif.SrcEquiv
open RenetVerif RenetVerif.RustSem

section ConnRecv
open Src.renet.remote_connection

/-- the generated client during `update`: clock advanced, this receive-unreliable table -/
def connU (mrs : Nat → Nat) (c0 : Conn) (now : Nat) (ru : SMap RecvUnrel) : RenetClient :=
  ⟨c0.packetSeq, now, mapVals reprSentEntry c0.sent, c0.pendingAcks.map ackR, c0.order.map reprOrd,
   mapVals reprSU c0.sendUnrel, mapVals reprRU ru, mapVals reprSR c0.sendRel, reprRecvRel mrs c0.recvRel,
   c0.budget, reprStatus c0.status⟩

/-- `for (&k, v) in map.iter() { if p { acc.push(k) } else { break } }` -/
theorem takeWhile_loop {ε ρ α : Type} (p : Nat × α → Bool) (body : Nat × α → List Nat → Exec ε (LoopExit ρ (List Nat)) (List Nat))
    (Q : Nat × α → Prop)
    (hb : ∀ x acc, Q x → body x acc = if p x then .val (acc ++ [x.1]) else .ret (.brk acc)) :
    ∀ (l : List (Nat × α)) (acc : List Nat), (∀ x ∈ l, Q x) →
      RustSem.forEachExit l acc body = .val (acc ++ (l.takeWhile p).map (·.1)) := by
  intro l
  induction l with
  | nil => intro acc _; simp [RustSem.forEachExit]
  | cons x rest ih =>
    intro acc hQ
    rw [RustSem.forEachExit, hb x acc (hQ x (by simp))]
    have ih' := fun a => ih a (fun y hy => hQ y (by simp [hy]))
    cases hp : p x with
    | true => simp [hp, ih']
    | false => simp [hp]

theorem remove_prefix {α : Type} (p : Nat × α → Bool) (l : List (Nat × α)) :
    ((l.takeWhile p).map (·.1)).foldl RustSem.Map.remove l = l.dropWhile p := by
  induction l with
  | nil => rfl
  | cons x rest ih =>
    obtain ⟨k, v⟩ := x
    cases hp : p (k, v) with
    | true => simp [hp, RustSem.Map.remove, ih]
    | false => simp [hp]

theorem forEach_foldl {ε ρ σ α : Type} (f : σ → α → σ) (body : α → σ → Exec ε ρ σ) (hb : ∀ x st, body x st = .val (f st x)) :
    ∀ (l : List α) (st : σ), RustSem.forEach l st body = .val (l.foldl f st) := by
  intro l
  induction l with
  | nil => intro st; rfl
  | cons x r ih => intro st; rw [RustSem.forEach, hb, Exec.bind_val', ih]; rfl

theorem index_mid_vals {ε ρ α β : Type} (f : α → β) (pre : SMap α) (k : Nat) (r : α) (rest : SMap α) (site : String) :
    (RustSem.index (mapVals f (pre ++ (k, r) :: rest)) pre.length site : Exec ε ρ _) = .val (k, f r) := by
  have h : (mapVals f (pre ++ (k, r) :: rest))[pre.length]? = some (k, f r) := by
    simp [mapVals]
  exact index_val h

theorem set_mid_vals {ε ρ α β : Type} (f : α → β) (pre : SMap α) (k : Nat) (r r' : α) (rest : SMap α) (site : String) :
    (RustSem.set (mapVals f (pre ++ (k, r) :: rest)) pre.length (k, f r') site : Exec ε ρ _)
      = .val (mapVals f (pre ++ (k, r') :: rest)) := by
  have hl : pre.length < (mapVals f (pre ++ (k, r) :: rest)).length := by simp [mapVals]
  rw [set_val hl]
  congr 1
  simp [mapVals]

theorem follows_discard {ε ρ : Type} (r : RecvUnrel) (now : Nat) (hpast : ∀ p ∈ r.lastReceived, p.2 ≤ now) (hsz : SizesOk r) :
    Follows (fun t r' => t = (reprRU r', ()))
      (Exec.call (Src.renet.channel.unreliable.ReceiveChannelUnreliable.discard_incomplete_old_slices (reprRU r) now : Res ε _)
        : Exec ε ρ _) (r.discardOld now) := by
  have hd := SrcTie.recv_unrel_discard_incomplete_old_slices (ε := ε) r now hpast hsz
  revert hd
  generalize (Src.renet.channel.unreliable.ReceiveChannelUnreliable.discard_incomplete_old_slices (reprRU r) now : Res ε _) = x
  cases r.discardOld now with
  | err e => exact nomatch e
  | ok r' => cases x <;> simp [discardOut, Follows, Exec.call]
  | panic st => cases x <;> simp [discardOut, Follows, Exec.call]

/-- the generated client at the end of `update` with this `sent_packets` table -/
def connUS (mrs : Nat → Nat) (c0 : Conn) (now : Nat) (ru : SMap RecvUnrel) (sp : RustSem.Map PacketSent) : RenetClient :=
  ⟨c0.packetSeq, now, sp, c0.pendingAcks.map ackR, c0.order.map reprOrd,
   mapVals reprSU c0.sendUnrel, mapVals reprRU ru, mapVals reprSR c0.sendRel, reprRecvRel mrs c0.recvRel,
   c0.budget, reprStatus c0.status⟩

theorem foldl_remove_sent (mrs : Nat → Nat) (c0 : Conn) (now : Nat) (ru : SMap RecvUnrel) (ks : List Nat) :
    ∀ (sp : RustSem.Map PacketSent),
      ks.foldl (fun (st : RenetClient) k => { st with sent_packets := RustSem.Map.remove st.sent_packets k })
        (connUS mrs c0 now ru sp) = connUS mrs c0 now ru (ks.foldl RustSem.Map.remove sp) := by
  induction ks with
  | nil => intro sp; rfl
  | cons k r ih => intro sp; simp only [List.foldl_cons]; exact ih _

/-- hypotheses of `update`: the advanced clock is a `Duration`; receive times and send times are not in its future;
    the sizes of the slice constructors fit `usize` -/
structure UpdateOk (c : Conn) (dt : Nat) : Prop where
  clock : c.now + dt ≤ RustSem.Duration.MAX
  past : ∀ p ∈ c.recvUnrel, ∀ q ∈ p.2.lastReceived, q.2 ≤ c.now + dt
  sizes : ∀ p ∈ c.recvUnrel, SizesOk p.2
  sent : ∀ p ∈ c.sent, p.2.1 ≤ c.now + dt

theorem packet_sequence_eq {ε : Type} (p : Packet) :
    (Src.renet.packet.Packet.sequence (reprPacket p) : Res ε Nat) = .ok p.sequence := by
  cases p <;> rfl

theorem attempt_cases {ε ρ εg σg E σm : Type} {x : Res (εg × σg) (σg × Unit)} {m : Res (E × σm) σm} {f : σm → σg} {g : E → εg}
    (h : SameOutcome x (mapRes (fun r => (f r, ())) (fun e => (g e.1, f e.2)) m)) :
    (∃ r, m = .ok r ∧ (Exec.attempt x : Exec ε ρ _) = .val (f r, .ok ())) ∨
    (∃ e r, m = .err (e, r) ∧ (Exec.attempt x : Exec ε ρ _) = .val (f r, .error (g e))) ∨
    (∃ st s, m = .panic st ∧ (Exec.attempt x : Exec ε ρ _) = .panic s) := by
  cases m with
  | ok r => exact .inl ⟨r, rfl, by rw [h.eq_ok]; rfl⟩
  | err er => exact .inr (.inl ⟨er.1, er.2, rfl, by rw [h.eq_err]; rfl⟩)
  | panic st =>
    obtain ⟨s, hs⟩ := h.panics
    exact .inr (.inr ⟨st, s, rfl, by rw [hs]; rfl⟩)

/-- the dispatch on the decoded packet (the `match` of `Conn.processPacket`, as a function of the client after
    `add_pending_ack`) -/
def dispatchM (c : Conn) : Packet → Res Empty Conn
  | .smallReliable _ ch msgs =>
    match SMap.find? c.recvRel ch with
    | none => .ok (c.disconnectWith (.invalidChannel ch))
    | some r =>
      match Conn.relMsgLoop r msgs with
      | .ok r' => .ok { c with recvRel := SMap.insert c.recvRel ch r' }
      | .err (e, r') => .ok ({ c with recvRel := SMap.insert c.recvRel ch r' }.disconnectWith (.recvChan ch e))
      | .panic s => .panic s
  | .smallUnreliable _ ch msgs =>
    match SMap.find? c.recvUnrel ch with
    | none => .ok (c.disconnectWith (.invalidChannel ch))
    | some r => .ok { c with recvUnrel := SMap.insert c.recvUnrel ch (msgs.foldl RecvUnrel.processMessage r) }
  | .reliableSlice _ ch sl =>
    match SMap.find? c.recvRel ch with
    | none => .ok (c.disconnectWith (.invalidChannel ch))
    | some r =>
      match r.processSlice sl with
      | .ok r' => .ok { c with recvRel := SMap.insert c.recvRel ch r' }
      | .err (e, r') => .ok ({ c with recvRel := SMap.insert c.recvRel ch r' }.disconnectWith (.recvChan ch e))
      | .panic s => .panic s
  | .unreliableSlice _ ch sl =>
    match SMap.find? c.recvUnrel ch with
    | none => .ok (c.disconnectWith (.invalidChannel ch))
    | some r =>
      match r.processSlice sl c.now with
      | .ok r' => .ok { c with recvUnrel := SMap.insert c.recvUnrel ch r' }
      | .err (e, r') => .ok ({ c with recvUnrel := SMap.insert c.recvUnrel ch r' }.disconnectWith (.recvChan ch e))
      | .panic s => .panic s
  | .ack _ ranges => do
    let acks ← Conn.newAcks c.sent ranges
    Conn.ackLoop c acks

theorem processPacket_dispatch (c : Conn) (bytes : Bytes) :
    c.processPacket bytes =
      if c.isDisconnected then .ok c else
      match Packet.fromBytes bytes with
      | .error e => .ok (c.disconnectWith (.packetDeser e))
      | .ok p => dispatchM { c with pendingAcks := Acks.add C.ACK_RANGE_CAP p.sequence c.pendingAcks } p := by
  unfold Conn.processPacket
  cases c.isDisconnected with
  | true => rfl
  | false =>
    cases Packet.fromBytes bytes with
    | error e => rfl
    | ok p => cases p <;> rfl

def withRR (c : Conn) (ch : Nat) (r : RecvRel) : Conn := { c with recvRel := SMap.insert c.recvRel ch r }
def withRU (c : Conn) (ch : Nat) (r : RecvUnrel) : Conn := { c with recvUnrel := SMap.insert c.recvUnrel ch r }
def withSR (c : Conn) (ch : Nat) (s : SendRel) : Conn := { c with sendRel := SMap.insert c.sendRel ch s }
def withSent (c : Conn) (sent : SMap (Nat × SentInfo)) : Conn := { c with sent := sent }

/-- along `relMsgLoop`: the memory counter of the channel has room for every message -/
def RelMsgsOk : RecvRel → List (Nat × Bytes) → Prop
  | _, [] => True
  | r, (id, m) :: rest => r.mem + m.length < 2 ^ 64 ∧ ∀ r', r.processMessage m id = .ok r' → RelMsgsOk r' rest

def UnrelMsgsOk : RecvUnrel → List Bytes → Prop
  | _, [] => True
  | r, m :: rest => r.mem + m.length < 2 ^ 64 ∧ UnrelMsgsOk (r.processMessage m) rest

theorem contains_rr (mrs : Nat → Nat) (c : Conn) (ch : Nat) :
    RustSem.Map.contains_key (reprConn mrs c).receive_reliable_channels ch = (SMap.find? c.recvRel ch).isSome :=
  contains_reprRecvRel mrs c.recvRel ch

theorem contains_ru (mrs : Nat → Nat) (c : Conn) (ch : Nat) :
    RustSem.Map.contains_key (reprConn mrs c).receive_unreliable_channels ch = (SMap.find? c.recvUnrel ch).isSome :=
  contains_mapVals reprRU c.recvUnrel ch

theorem find_rr (mrs : Nat → Nat) (c : Conn) (ch : Nat) (r : RecvRel) :
    RustSem.Map.find? (reprConn mrs (withRR c ch r)).receive_reliable_channels ch = some (reprRR (mrs ch) r) :=
  (find_reprRecvRel mrs _ ch).trans (congrArg _ (SMap.find?_insert_self c.recvRel ch r))

theorem find_ru (mrs : Nat → Nat) (c : Conn) (ch : Nat) (r : RecvUnrel) :
    RustSem.Map.find? (reprConn mrs (withRU c ch r)).receive_unreliable_channels ch = some (reprRU r) :=
  (find_mapVals reprRU _ ch).trans (congrArg _ (SMap.find?_insert_self c.recvUnrel ch r))

theorem find_sr (mrs : Nat → Nat) (c : Conn) (ch : Nat) (s : SendRel) :
    RustSem.Map.find? (reprConn mrs (withSR c ch s)).send_reliable_channels ch = some (reprSR s) :=
  (find_mapVals reprSR _ ch).trans (congrArg _ (SMap.find?_insert_self c.sendRel ch s))

theorem set_rr (mrs : Nat → Nat) (c : Conn) (ch mr : Nat) (r r' : RecvRel) (hs : MSorted c.recvRel) :
    ({ (reprConn mrs (withRR c ch r)) with
        receive_reliable_channels := RustSem.Map.insert (reprConn mrs (withRR c ch r)).receive_reliable_channels ch (reprRR mr r') } : RenetClient)
      = reprConn (fun j => if j = ch then mr else mrs j) (withRR c ch r') := by
  have h : (reprConn mrs (withRR c ch r)).receive_reliable_channels = reprRecvRel mrs (SMap.insert c.recvRel ch r) := rfl
  rw [h, insert_reprRecvRel mrs _ ch mr r' (SMap.sorted_insert hs _ _), SMap.insert_insert]
  rfl

theorem set_ru (mrs : Nat → Nat) (c : Conn) (ch : Nat) (r r' : RecvUnrel) :
    ({ (reprConn mrs (withRU c ch r)) with
        receive_unreliable_channels := RustSem.Map.insert (reprConn mrs (withRU c ch r)).receive_unreliable_channels ch (reprRU r') } : RenetClient)
      = reprConn mrs (withRU c ch r') := by
  have h : (reprConn mrs (withRU c ch r)).receive_unreliable_channels = mapVals reprRU (SMap.insert c.recvUnrel ch r) := rfl
  rw [h, insert_mapVals, SMap.insert_insert]
  rfl

theorem set_sr (mrs : Nat → Nat) (c : Conn) (ch : Nat) (s s' : SendRel) :
    ({ (reprConn mrs (withSR c ch s)) with
        send_reliable_channels := RustSem.Map.insert (reprConn mrs (withSR c ch s)).send_reliable_channels ch (reprSR s') } : RenetClient)
      = reprConn mrs (withSR c ch s') := by
  have h : (reprConn mrs (withSR c ch s)).send_reliable_channels = mapVals reprSR (SMap.insert c.sendRel ch s) := rfl
  rw [h, insert_mapVals, SMap.insert_insert]
  rfl

theorem withRR_same (c : Conn) (ch : Nat) (r : RecvRel) (hs : MSorted c.recvRel) (hf : SMap.find? c.recvRel ch = some r) :
    withRR c ch r = c := by
  unfold withRR; rw [SMap.insert_same ((msorted_iff _).mp hs) hf]
theorem withRU_same (c : Conn) (ch : Nat) (r : RecvUnrel) (hs : MSorted c.recvUnrel) (hf : SMap.find? c.recvUnrel ch = some r) :
    withRU c ch r = c := by
  unfold withRU; rw [SMap.insert_same ((msorted_iff _).mp hs) hf]
theorem withSR_same (c : Conn) (ch : Nat) (s : SendRel) (hs : MSorted c.sendRel) (hf : SMap.find? c.sendRel ch = some s) :
    withSR c ch s = c := by
  unfold withSR; rw [SMap.insert_same ((msorted_iff _).mp hs) hf]

theorem foldl_push_keys {α : Type} (t : List (Nat × α)) (acc : List Nat) :
    t.foldl (fun a x => a ++ [x.1]) acc = acc ++ t.map (·.1) := by
  induction t generalizing acc with
  | nil => simp
  | cons x r ih => simp [ih, List.append_assoc]

theorem filter_mapVals_keys {α β : Type} (f : α → β) (m : SMap α) (q : Nat → Bool) :
    ((mapVals f m).filter (fun kv => q kv.1)).map (·.1) = (m.filter (fun kv => q kv.1)).map (·.1) := by
  induction m with
  | nil => rfl
  | cons p r ih =>
    simp only [mapVals, List.map_cons, List.filter_cons] at ih ⊢
    cases q p.1 <;> simp [ih]

/-- the generated code appends to an accumulator, the model prepends to the result of the remaining ranges -/
theorem new_acks_loop {ε ρ : Type} (sent : SMap (Nat × SentInfo)) (body : RustSem.Range → List Nat → Exec ε ρ (List Nat))
    (hb : ∀ (s e : Nat) (acc : List Nat),
      if s > e then ∃ st, body ⟨s, e⟩ acc = .panic st
      else body ⟨s, e⟩ acc = .val (acc ++ (sent.filter (fun kv => decide (s ≤ kv.1 ∧ kv.1 < e))).map (·.1))) :
    ∀ (ranges : List AckRange) (acc : List Nat),
      Follows (fun t l => t = acc ++ l) (RustSem.forEach (ranges.map reprRange) acc body) (Conn.newAcks sent ranges) := by
  intro ranges
  induction ranges with
  | nil => intro acc; exact ⟨acc, rfl, (List.append_nil acc).symm⟩
  | cons x rest ih =>
    intro acc
    obtain ⟨s, e⟩ := x
    have h1 := hb s e acc
    simp only [Conn.newAcks, List.map_cons, RustSem.forEach, reprRange]
    by_cases hse : s > e
    · rw [if_pos hse] at h1 ⊢
      obtain ⟨st, h1⟩ := h1
      exact ⟨st, by rw [h1]; rfl⟩
    · rw [if_neg hse] at h1 ⊢
      rw [h1, Exec.bind_val']
      exact (ih _).elim (fun _ l _ ht => ⟨_, rfl, by rw [ht, List.append_assoc]⟩) fun _ _ => ⟨_, rfl⟩

/-- one acked packet: its send time is not in the future; the counters touched by its bookkeeping have room -/
def AckOneOk (c : Conn) (seq : Nat) : Prop :=
  ∀ t info, SMap.find? c.sent seq = some (t, info) → t ≤ c.now ∧
    match info with
    | .relMsgs _ _ => MSorted c.sendRel
    | .relSlice ch id _ => ∀ s, SMap.find? c.sendRel ch = some s → MSorted s.unacked ∧
        ∀ m n a nx acked ls, SMap.find? s.unacked id = some (.sliced m n a nx acked ls) → a + 1 < 2 ^ 64
    | .ack _ => (∀ r ∈ c.pendingAcks, r.2 < 2 ^ 64) ∧ c.pendingAcks.length + 1 < 2 ^ 64
    | .none => True

def AckLoopOk : Conn → List Nat → Prop
  | _, [] => True
  | c, seq :: rest => AckOneOk c seq ∧ ∀ c', Conn.ackOne c seq = .ok c' → AckLoopOk c' rest

/-- what `process_packet` needs from the client after `add_pending_ack`, per kind of packet -/
def DispatchOk (c : Conn) : Packet → Prop
  | .smallReliable _ ch msgs => MSorted c.recvRel ∧ ∀ r, SMap.find? c.recvRel ch = some r → RelMsgsOk r msgs
  | .smallUnreliable _ ch msgs => MSorted c.recvUnrel ∧ ∀ r, SMap.find? c.recvUnrel ch = some r → UnrelMsgsOk r msgs
  | .reliableSlice _ ch sl => MSorted c.recvRel ∧ ∀ r, SMap.find? c.recvRel ch = some r →
      MSorted r.slices ∧ r.mem + sl.numSlices * C.SLICE_SIZE < 2 ^ 64 ∧
        ∀ k, SMap.find? r.slices sl.messageId = some k → CtorOk k
  | .unreliableSlice _ ch sl => ∀ r, SMap.find? c.recvUnrel ch = some r →
      MSorted r.slices ∧ r.mem + sl.numSlices * C.SLICE_SIZE < 2 ^ 64 ∧
        ∀ k, SMap.find? r.slices sl.messageId = some k → CtorOk k
  | .ack _ ranges => ∀ acks, Conn.newAcks c.sent ranges = .ok acks → AckLoopOk c acks

structure ProcOk (c : Conn) (bytes : Bytes) : Prop where
  acks : c.pendingAcks.length ≤ 64
  pkt : ∀ p, Packet.fromBytes bytes = .ok p → p.sequence + 1 < 2 ^ 64 ∧
    DispatchOk { c with pendingAcks := Acks.add C.ACK_RANGE_CAP p.sequence c.pendingAcks } p

end ConnRecv
end RenetVerif.SrcEquiv
