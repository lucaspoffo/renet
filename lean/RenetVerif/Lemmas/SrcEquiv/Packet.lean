/-
  D/E. `Packet::to_bytes` / `Packet::from_bytes` over the octets model; headline statements in `Props/SrcTiePacket.lean`.
-/
import RenetVerif.Generated.Src.Packet
import RenetVerif.Lemmas.SrcEquiv.Prims
import RenetVerif.Lemmas.SrcEquiv.CommonRepr
import RenetVerif.Lemmas.DecodeWF
namespace RenetVerif.SrcEquiv
open RenetVerif RenetVerif.RustSem

/-! ## D. `Packet::to_bytes` over the octets model -/
section D
open Src.renet.packet

/-- `OctetsMut` is a buffer with a write position -/
@[reducible] def octK : WBuf OctetsMut := ⟨(·.buf), (·.off), .mk, fun _ _ => rfl, fun _ _ => rfl, fun _ => rfl⟩
abbrev OInv := octK.Inv
abbrev owrite := octK.put
/-- specification of a successful/failed write of `xs` -/
abbrev W {ρ : Type} (b : OctetsMut) (xs : List Nat) : Exec SSerErr ρ OctetsMut := octK.W .BufferTooShort b xs

theorem conv_bts {ε} (e : BufferTooShortError) :
    (SerializationError.from_BufferTooShortError e : Res ε SSerErr) = .ok .BufferTooShort := rfl

theorem beBytes_length (v n : Nat) : (RustSem.beBytes v n).length = n := by
  induction n with
  | zero => rfl
  | succ k ih => simp [RustSem.beBytes, ih]

theorem callFrom_putBE {ρ} (b : OctetsMut) (v len : Nat) :
    (Exec.callFrom SerializationError.from_BufferTooShortError (OctetsMut.putBE b v len) : Exec SSerErr ρ _)
      = (W b (RustSem.beBytes v len)).bind (fun b' => .val (b', ())) := by
  unfold OctetsMut.putBE W WBuf.W
  simp only [beBytes_length]
  by_cases h : b.buf.length < b.off + len
  · have h' : ¬ b.off + len ≤ b.buf.length := by omega
    rw [if_pos h, if_neg h']; rfl
  · have h' : b.off + len ≤ b.buf.length := by omega
    rw [if_neg h, if_pos h']; simp only [Exec.callFrom, Exec.bind_val', WBuf.put, beBytes_length]

theorem callFrom_put_bytes {ρ} (b : OctetsMut) (v : List Nat) (hb : OInv b) :
    (Exec.callFrom SerializationError.from_BufferTooShortError (OctetsMut.put_bytes b v) : Exec SSerErr ρ _)
      = (W b v).bind (fun b' => .val (b', ())) := by
  unfold OctetsMut.put_bytes W WBuf.W OctetsMut.cap
  have hb : b.off ≤ b.buf.length := hb
  by_cases h : b.buf.length - b.off < v.length
  · have h' : ¬ b.off + v.length ≤ b.buf.length := by omega
    rw [if_pos h, if_neg h']; rfl
  · have h' : b.off + v.length ≤ b.buf.length := by omega
    rw [if_neg h, if_pos h']
    by_cases h0 : v.length = 0
    · have : v = [] := List.eq_nil_of_length_eq_zero h0
      subst this
      simp [Exec.callFrom, Exec.bind_val', WBuf.put_nil]
    · rw [if_neg h0]; simp only [Exec.callFrom, Exec.bind_val', WBuf.put]

theorem orAt_owrite (b : OctetsMut) (y m : Nat) (r : List Nat) (hb : OInv b) :
    (owrite b (y :: r)).orAt b.off m = owrite b ((y ||| m) :: r) := by
  obtain ⟨buf, off⟩ := b
  have hb : off ≤ buf.length := hb
  have hl : (List.take off buf).length = off := by simp; omega
  have hg : (List.take off buf ++ (y :: r) ++ List.drop (off + (y :: r).length) buf)[off]? = some y := by
    rw [List.append_assoc, List.getElem?_append_right (by omega), hl]; simp
  simp only [OctetsMut.orAt, owrite, WBuf.put, hg]
  congr 1
  rw [List.append_assoc, List.set_append_right _ _ (by omega), hl]
  simp

theorem or_top2 (x k : Nat) (hx : x < 64) : x ||| (k * 64) = x + k * 64 := by
  have : k * 64 = k <<< 6 := by rw [Nat.shiftLeft_eq]
  rw [this, Nat.or_comm, ← Nat.shiftLeft_add_eq_or_of_lt (by simpa using hx)]; omega

theorem toNats_beBytes (v n : Nat) : toNats (Varint.beBytes v n) = RustSem.beBytes v n := by
  induction n with
  | zero => rfl
  | succ k ih =>
    simp only [toNats, Varint.beBytes, List.map_cons, RustSem.beBytes] at ih ⊢
    rw [ih]; simp [UInt8.toNat_ofNat']

theorem beBytes_add_mul (x : Nat) : ∀ k c, RustSem.beBytes (x + c * 256 ^ k) k = RustSem.beBytes x k
  | 0, _ => rfl
  | k + 1, c => by
    rw [RustSem.beBytes, RustSem.beBytes, Nat.pow_succ, Nat.mul_comm (256 ^ k), ← Nat.mul_assoc, beBytes_add_mul x k,
      Nat.add_mul_div_right _ _ (Nat.pow_pos (by decide)), Nat.add_mul_mod_self_right]

/-- `buf[0] |= t << 6` on a freshly written big-endian `x` whose top two bits are clear -/
theorem orAt_beBytes {b : OctetsMut} (hb : OInv b) {x y k : Nat} (t : Nat) (hx : x < 64 * 256 ^ k) (ht : t < 4)
    (hy : y = x + t * 64 * 256 ^ k) :
    (owrite b (RustSem.beBytes x (k + 1))).orAt b.off (t * 64) = owrite b (RustSem.beBytes y (k + 1)) := by
  have hp : 0 < 256 ^ k := Nat.pow_pos (by decide)
  have hd : x / 256 ^ k < 64 := (Nat.div_lt_iff_lt_mul hp).mpr hx
  subst hy
  rw [RustSem.beBytes, RustSem.beBytes, orAt_owrite _ _ _ _ hb, Nat.mod_eq_of_lt (Nat.lt_trans hd (by decide)), or_top2 _ t hd,
    beBytes_add_mul, Nat.add_mul_div_right _ _ hp, Nat.mod_eq_of_lt (by omega)]

theorem putBE_ok {b : OctetsMut} {n : Nat} (x : Nat) (h : b.off + n ≤ b.buf.length) :
    OctetsMut.putBE b x n = .ok (owrite b (RustSem.beBytes x n), ()) := by
  unfold OctetsMut.putBE
  rw [if_neg (by omega)]
  simp only [owrite, WBuf.put, beBytes_length]

theorem callFrom_put_len {ρ} {b : OctetsMut} (hb : OInv b) {len : Nat} {xs : List Nat} (hl : xs.length = len)
    (put : Res BufferTooShortError (OctetsMut × Unit)) (hput : b.off + len ≤ b.buf.length → put = .ok (owrite b xs, ())) :
    (Exec.callFrom SerializationError.from_BufferTooShortError (if b.cap < len then .err .mk else put) : Exec SSerErr ρ _)
      = (W b xs).bind (fun b' => .val (b', ())) := by
  unfold W WBuf.W OctetsMut.cap
  have hb : b.off ≤ b.buf.length := hb
  rw [hl]
  by_cases hf : b.off + len ≤ b.buf.length
  · rw [if_neg (by omega), if_pos hf, hput hf]
    rfl
  · rw [if_pos (by omega), if_neg hf]
    rfl

theorem callFrom_put_varint {ρ} (b : OctetsMut) (v : Nat) (hb : OInv b) (hv : v ≤ Varint.MAX) :
    (Exec.callFrom SerializationError.from_BufferTooShortError (OctetsMut.put_varint b v) : Exec SSerErr ρ _)
      = (W b (toNats (Varint.enc v))).bind (fun b' => .val (b', ())) := by
  unfold Varint.MAX at hv
  unfold OctetsMut.put_varint RustSem.varint_len Varint.enc
  by_cases h1 : v ≤ 63
  · simp only [h1, if_true, toNats_beBytes]
    exact callFrom_put_len hb (beBytes_length _ 1) _ (fun hf => by
      rw [OctetsMut.put_u8, putBE_ok _ hf, Nat.mod_eq_of_lt (by omega)])
  by_cases h2 : v ≤ 16383
  · simp only [h1, h2, if_true, if_false, toNats_beBytes]
    exact callFrom_put_len hb (beBytes_length _ 2) _ (fun hf => by
      rw [OctetsMut.put_u16, putBE_ok _ hf]
      exact congrArg (fun b' => Res.ok (b', ())) (orAt_beBytes hb 1 (by omega) (by decide) (by omega)))
  by_cases h3 : v ≤ 1073741823
  · simp only [h1, h2, h3, if_true, if_false, toNats_beBytes]
    exact callFrom_put_len hb (beBytes_length _ 4) _ (fun hf => by
      rw [OctetsMut.put_u32, putBE_ok _ hf]
      exact congrArg (fun b' => Res.ok (b', ())) (orAt_beBytes hb 2 (by omega) (by decide) (by omega)))
  · simp only [h1, h2, h3, hv, if_true, if_false, toNats_beBytes]
    exact callFrom_put_len hb (beBytes_length _ 8) _ (fun hf => by
      rw [OctetsMut.put_u64, putBE_ok _ hf]
      exact congrArg (fun b' => Res.ok (b', ())) (orAt_beBytes hb 3 (by omega) (by decide) (by omega)))

abbrev conv := @SerializationError.from_BufferTooShortError SSerErr

/-- `put_…(..)?` / `get_…(..)?` on an octets method that fails without touching the cursor: with the error state
    forgotten it is the plain conversion of the error -/
theorem cf_forget {ρ α σ : Type} (st : σ) (r : Res BufferTooShortError α) :
    (Exec.callFrom (fun err => Res.bind (SerializationError.from_BufferTooShortError err) (fun e' => Res.ok (e', st))) r :
      Exec (SSerErr × σ) ρ α).forget = Exec.callFrom conv r := by
  cases r <;> rfl

theorem step_varint {ρ β} {b : OctetsMut} {v : Nat} (hv : v ≤ Varint.MAX) (xs : List Nat)
    (k : OctetsMut × Unit → Exec SSerErr ρ β) :
    (W b xs).bind (fun b' => (Exec.callFrom conv (OctetsMut.put_varint b' v)).bind k)
      = (W b (xs ++ toNats (Varint.enc v))).bind (fun b' => k (b', ())) :=
  octK.W_chain _ _ _ _ _ (fun b' hb' => by rw [callFrom_put_varint b' v hb' hv, Exec.bind_assoc']; rfl)

theorem step_u8 {ρ β} {b : OctetsMut} (v : Nat) (xs : List Nat)
    (k : OctetsMut × Unit → Exec SSerErr ρ β) :
    (W b xs).bind (fun b' => (Exec.callFrom conv (OctetsMut.put_u8 b' v)).bind k)
      = (W b (xs ++ [v % 256])).bind (fun b' => k (b', ())) :=
  octK.W_chain _ _ _ _ _ (fun b' _ => by
    rw [OctetsMut.put_u8, callFrom_putBE, Exec.bind_assoc']; simp [RustSem.beBytes]; rfl)

theorem step_u16 {ρ β} {b : OctetsMut} (v : Nat) (xs : List Nat)
    (k : OctetsMut × Unit → Exec SSerErr ρ β) :
    (W b xs).bind (fun b' => (Exec.callFrom conv (OctetsMut.put_u16 b' v)).bind k)
      = (W b (xs ++ [v / 256 % 256, v % 256])).bind (fun b' => k (b', ())) :=
  octK.W_chain _ _ _ _ _ (fun b' _ => by
    rw [OctetsMut.put_u16, callFrom_putBE, Exec.bind_assoc']; simp [RustSem.beBytes]; rfl)

theorem step_bytes {ρ β} {b : OctetsMut} (v : List Nat) (xs : List Nat)
    (k : OctetsMut × Unit → Exec SSerErr ρ β) :
    (W b xs).bind (fun b' => (Exec.callFrom conv (OctetsMut.put_bytes b' v)).bind k)
      = (W b (xs ++ v)).bind (fun b' => k (b', ())) :=
  octK.W_chain _ _ _ _ _ (fun b' hb' => by rw [callFrom_put_bytes b' v hb', Exec.bind_assoc']; rfl)

theorem start_u8 {ρ β} {b : OctetsMut} (hb : OInv b) (v : Nat) (k : OctetsMut × Unit → Exec SSerErr ρ β) :
    (Exec.callFrom conv (OctetsMut.put_u8 b v)).bind k = (W b [v % 256]).bind (fun b' => k (b', ())) :=
  (octK.W_start hb fun b' => (Exec.callFrom conv (OctetsMut.put_u8 b' v)).bind k).trans (step_u8 v [] k)

theorem start_varint {ρ β} {b : OctetsMut} (hb : OInv b) {v : Nat} (hv : v ≤ Varint.MAX)
    (k : OctetsMut × Unit → Exec SSerErr ρ β) :
    (Exec.callFrom conv (OctetsMut.put_varint b v)).bind k = (W b (toNats (Varint.enc v))).bind (fun b' => k (b', ())) :=
  (octK.W_start hb fun b' => (Exec.callFrom conv (OctetsMut.put_varint b' v)).bind k).trans (step_varint hv [] k)

theorem cast64_of_le_max {v : Nat} (h : v ≤ Varint.MAX) : RustSem.cast 64 v = v :=
  cast_of_lt (Nat.lt_of_le_of_lt h (by decide))
theorem len_toNats (x : Bytes) : RustSem.len (toNats x) = x.length := by simp [RustSem.len, toNats]

/-- the result of `to_bytes` when the body wrote `bytes` -/
def finish (b : OctetsMut) (bytes : List Nat) : Res SSerErr (OctetsMut × Nat) :=
  if b.off + bytes.length ≤ b.buf.length then .ok (owrite b bytes, bytes.length) else .err .BufferTooShort

theorem finish_eq {b : OctetsMut} (bytes : List Nat) (site : String) :
    ((W b bytes).bind fun b' =>
      (RustSem.sub 64 (OctetsMut.cap b) (OctetsMut.cap b') site).bind fun t => Exec.val (b', t)).run
      = finish b bytes := by
  unfold W WBuf.W finish
  by_cases h : b.off + bytes.length ≤ b.buf.length
  · rw [if_pos h, if_pos h, Exec.bind_val']
    have hl : (owrite b bytes).buf.length = b.buf.length := octK.put_length h
    have : OctetsMut.cap (owrite b bytes) ≤ OctetsMut.cap b := by
      unfold OctetsMut.cap; rw [hl]; simp [owrite, WBuf.put]; omega
    rw [sub_val this, Exec.bind_val', Exec.run_val]
    congr 2
    unfold OctetsMut.cap; rw [hl]; simp [owrite, WBuf.put]; omega
  · rw [if_neg h, if_neg h]; rfl

theorem Exec.bind_val_id {ε ρ α} (x : Exec ε ρ α) : x.bind Exec.val = x := by cases x <;> rfl

theorem toNats_smallRelBytes (msgs : List (Nat × Bytes)) : toNats (smallRelBytes msgs) =
    (msgs.map fun x => toNats (Varint.enc x.1) ++ toNats (Varint.enc x.2.length) ++ toNats x.2).flatten := by
  induction msgs with
  | nil => rfl
  | cons x r ih => simp [smallRelBytes, toNats_append, ih]

theorem toNats_smallUnrelBytes (msgs : List Bytes) : toNats (smallUnrelBytes msgs) =
    (msgs.map fun x => toNats (Varint.enc x.length) ++ toNats x).flatten := by
  induction msgs with
  | nil => rfl
  | cons x r ih => simp [smallUnrelBytes, toNats_append, ih]

/-- value of `previous_range_start` after the ack loop -/
def lastStart (prev : Nat) : List AckRange → Nat
  | [] => prev
  | (s, _) :: r => lastStart s r

theorem ack_loop {ρ β} (rest : List AckRange)
    (body : RustSem.Range → OctetsMut × Nat → Exec SSerErr ρ (OctetsMut × Nat))
    (hbody : ∀ (s e prev : Nat) (b' : OctetsMut), OInv b' → s < e → e < prev → prev ≤ Varint.MAX + 1 →
      body ⟨s, e⟩ (b', prev) =
        (W b' (toNats (Varint.enc (prev - e - 1)) ++ toNats (Varint.enc (e - 1 - s)))).bind (fun b'' => .val (b'', s)))
    (prev : Nat) (hp : prev ≤ Varint.MAX + 1) (h : DescWF prev rest) (xs : List Nat) (b : OctetsMut)
    (k : OctetsMut × Nat → Exec SSerErr ρ β) :
    (W b xs).bind (fun b' => (RustSem.forEach (rest.map reprRange) (b', prev) body).bind k)
      = (W b (xs ++ toNats (ackRestBytes prev rest))).bind (fun b' => k (b', lastStart prev rest)) := by
  induction rest generalizing prev xs with
  | nil => simp [RustSem.forEach, Exec.bind_val', lastStart, ackRestBytes, toNats]
  | cons x r ih =>
    obtain ⟨s, e⟩ := x
    obtain ⟨h1, h2, h3⟩ := h
    rw [octK.W_chain _ xs (toNats (Varint.enc (prev - e - 1)) ++ toNats (Varint.enc (e - 1 - s))) _
      (fun st => (RustSem.forEach (r.map reprRange) (st, s) body).bind k) fun b' hb' => by
        rw [List.map_cons, RustSem.forEach, Exec.bind_assoc']
        show (body ⟨s, e⟩ (b', prev)).bind _ = _
        rw [hbody s e prev b' hb' h1 h2 hp, Exec.bind_assoc']
        rfl,
      ih s (by omega) h3]
    simp [toNats, lastStart, ackRestBytes, List.append_assoc]

theorem to_bytes_eq (p : RenetVerif.Packet) (b : OctetsMut) (hb : OInv b) (bytes : Bytes) (henc : p.enc = .ok bytes) :
    (Src.renet.packet.Packet.to_bytes (reprPacket p) b).forget = finish b (toNats bytes) := by
  obtain ⟨h, rfl⟩ := Packet.enc_ok_iff.1 henc
  unfold Src.renet.packet.Packet.to_bytes
  cases p with
  | reliableSlice seq ch sl | unreliableSlice seq ch sl =>
    obtain ⟨hv0, hv1, hv2, hv3, hv4⟩ := h
    simp only [reprPacket, reprSlice, Exec.bind_eq, Exec.pure_eq]
    rw [Exec.forget_run]
    simp only [Exec.forget_bind, Exec.forget_val, cf_forget, forget_sub]
    simp only [cast64_of_le_max hv2, cast64_of_le_max hv3, cast64_of_le_max hv4, len_toNats,
      start_u8 hb, step_u8, step_varint hv0, step_varint hv1, step_varint hv2, step_varint hv3, step_varint hv4, step_bytes,
      Exec.bind_assoc', Exec.bind_val']
    rw [finish_eq]
    congr 1
    simp [toNats, Packet.bytes, Slice.bytes]
  | smallReliable seq ch msgs =>
    obtain ⟨hv0, hm⟩ := h
    simp only [reprPacket, Exec.bind_eq, Exec.pure_eq]
    rw [Exec.forget_run]
    simp only [Exec.forget_bind, Exec.forget_val, forEach_forget, cf_forget, forget_sub]
    simp only [start_u8 hb, step_u8, step_u16, step_varint hv0, Exec.bind_assoc']
    rw [octK.forEach_chain _ _ (fun x => toNats (Varint.enc x.1) ++ toNats (Varint.enc x.2.length) ++ x.2)]
    · rw [finish_eq]
      congr 1
      simp [Packet.bytes, toNats, u16be, RustSem.cast, RustSem.len, Function.comp_def]
      exact ⟨by omega, by simpa [toNats] using (toNats_smallRelBytes msgs).symm⟩
    · intro x hx b' hb'
      obtain ⟨y, hy, rfl⟩ := List.mem_map.mp hx
      obtain ⟨hy1, hy2⟩ := hm y hy
      simp only [len_toNats, cast64_of_le_max hy2, start_varint hb' hy1, step_varint hy2, step_bytes, Exec.bind_val_id,
        toNats_length]
  | smallUnreliable seq ch msgs =>
    obtain ⟨hv0, hm⟩ := h
    simp only [reprPacket, Exec.bind_eq, Exec.pure_eq]
    rw [Exec.forget_run]
    simp only [Exec.forget_bind, Exec.forget_val, forEach_forget, cf_forget, forget_sub]
    simp only [start_u8 hb, step_u8, step_u16, step_varint hv0, Exec.bind_assoc']
    rw [octK.forEach_chain _ _ (fun x => toNats (Varint.enc x.length) ++ x)]
    · rw [finish_eq]
      congr 1
      simp [Packet.bytes, toNats, u16be, RustSem.cast, RustSem.len, Function.comp_def]
      exact ⟨by omega, by simpa [toNats] using (toNats_smallUnrelBytes msgs).symm⟩
    · intro x hx b' hb'
      obtain ⟨y, hy, rfl⟩ := List.mem_map.mp hx
      have hy2 := hm y hy
      simp only [len_toNats, cast64_of_le_max hy2, start_varint hb' hy2, step_bytes, Exec.bind_val_id, toNats_length]
  | ack seq ranges =>
    obtain ⟨hv0, ls, le, rest, hrev, hlt, hle, hd⟩ := h
    have := hd.length_le
    obtain ⟨hvd, c1, c2, hva, hvc, hs⟩ : rest.length ≤ Varint.MAX ∧ 1 ≤ le ∧ ls ≤ le - 1 ∧ le - 1 ≤ Varint.MAX ∧
        le - 1 - ls ≤ Varint.MAX ∧ ls ≤ Varint.MAX + 1 := by omega
    have hrev' : (ranges.map reprRange).reverse = reprRange (ls, le) :: rest.map reprRange := by
      rw [← List.map_reverse, hrev]; rfl
    simp only [reprPacket, Exec.bind_eq, Exec.pure_eq, hrev', List.head?_cons, List.tail_cons, RustSem.unwrap, reprRange]
    rw [Exec.forget_run]
    simp only [Exec.forget_bind, Exec.forget_val, forEach_forget, cf_forget, forget_sub]
    have hl : RustSem.len (List.map reprRange rest) = rest.length := by
      simp [RustSem.len]
    simp only [start_u8 hb, step_varint hv0, Exec.bind_assoc', Exec.bind_val', sub_val c1, sub_val c2, hl,
      cast64_of_le_max hvd, step_varint hva, step_varint hvc, step_varint hvd]
    rw [ack_loop rest _ ?hbody ls hs hd]
    case hbody =>
      intro s e prev b' hb' k1 k2 k3
      obtain ⟨c1, c2, c3, c4, c5, c6⟩ : e ≤ prev ∧ 1 ≤ prev - e ∧ 1 ≤ e ∧ s ≤ e - 1 ∧ prev - e - 1 ≤ Varint.MAX ∧
          e - 1 - s ≤ Varint.MAX := by omega
      simp only [sub_val c1, sub_val c2, sub_val c3, sub_val c4, Exec.bind_val', start_varint hb' c5, step_varint c6]
    rw [finish_eq]
    congr 1
    simp [toNats, Packet.bytes, hrev]
end D

/-! ## E. `Packet::from_bytes` over the octets model -/
section E
open Src.renet.packet

/-- read cursor over `buf` whose unread rest is `rest` -/
def cur (buf rest : Bytes) : Octets := ⟨toNats buf, buf.length - rest.length⟩

theorem cur_drop {rest buf : Bytes} (h : rest <:+ buf) : (cur buf rest).buf.drop (cur buf rest).off = toNats rest := by
  obtain ⟨pre, rfl⟩ := h
  simp [cur, toNats]

theorem cur_cap {rest buf : Bytes} (h : rest <:+ buf) : (cur buf rest).cap = rest.length := by
  have := h.length_le
  simp [cur, Octets.cap, toNats]; omega

theorem cur_advance {rest buf : Bytes} (h : rest <:+ buf) (n : Nat) (hn : n ≤ rest.length) :
    ({ cur buf rest with off := (cur buf rest).off + n } : Octets) = cur buf (rest.drop n) := by
  have := h.length_le
  simp only [cur, List.length_drop]
  congr 1; omega

/-- specification of a read step: run the model reader `d` on the rest -/
def Rd {ρ α β : Type} (d : Bytes → Except SerErr (α × Bytes)) (f : α → β) (buf rest : Bytes) : Exec SSerErr ρ (Octets × β) :=
  match d rest with
  | .ok (a, r) => .val (cur buf r, f a)
  | .error e => .err (reprSerErr e)

/-- the same on the level of the octets model (`BufferTooShortError` only) -/
def RdRaw {α β : Type} (d : Bytes → Except SerErr (α × Bytes)) (f : α → β) (buf rest : Bytes) :
    Res BufferTooShortError (Octets × β) :=
  match d rest with
  | .ok (a, r) => .ok (cur buf r, f a)
  | .error _ => .err .mk

theorem callFrom_RdRaw {ρ α β : Type} (d : Bytes → Except SerErr (α × Bytes)) (f : α → β) (buf rest : Bytes)
    (hd : ∀ e, d rest = .error e → e = .bufferTooShort) :
    (Exec.callFrom conv (RdRaw d f buf rest) : Exec SSerErr ρ _) = Rd d f buf rest := by
  unfold RdRaw Rd
  cases h : d rest with
  | ok x => rfl
  | error e => rw [hd e h]; rfl

theorem beVal_toNats (l : Bytes) (acc : Nat) :
    (toNats l).foldl (fun acc x => acc * 256 + x) acc = Varint.beVal l acc := by
  induction l generalizing acc with
  | nil => rfl
  | cons x r ih => simp only [toNats, List.map_cons, List.foldl_cons, Varint.beVal] at ih ⊢; exact ih _

theorem peekBE_cur {rest buf : Bytes} (h : rest <:+ buf) (n : Nat) :
    Octets.peekBE (cur buf rest) n = if rest.length < n then .err .mk else .ok (Varint.beVal (rest.take n) 0) := by
  unfold Octets.peekBE
  rw [cur_drop h, toNats_length]
  by_cases hn : rest.length < n
  · rw [if_pos hn, if_pos hn]
  · rw [if_neg hn, if_neg hn]
    congr 1
    have : (toNats rest).take n = toNats (rest.take n) := by simp [toNats, List.map_take]
    rw [this]; exact beVal_toNats _ 0

theorem getBE_cur {rest buf : Bytes} (h : rest <:+ buf) (n : Nat) :
    Octets.getBE (cur buf rest) n =
      if rest.length < n then .err .mk else .ok (cur buf (rest.drop n), Varint.beVal (rest.take n) 0) := by
  unfold Octets.getBE
  rw [peekBE_cur h]
  by_cases hn : rest.length < n
  · rw [if_pos hn, if_pos hn]
  · rw [if_neg hn, if_neg hn]
    simp only
    rw [cur_advance h n (by omega)]

theorem parse_len (first : UInt8) :
    (RustSem.varint_parse_len first.toNat : Res BufferTooShortError Nat) = .ok (Varint.tagLen (first.toNat / 64)) := by
  have h : first.toNat / 64 < 4 := Nat.div_lt_of_lt_mul first.toNat_lt
  unfold RustSem.varint_parse_len
  rw [Nat.shiftRight_eq_div_pow]
  change (match first.toNat / 64 with | 0 => _ | 1 => _ | 2 => _ | 3 => _ | _ => _) = _
  generalize first.toNat / 64 = t at h
  match t, h with
  | 0, _ | 1, _ | 2, _ | 3, _ => rfl

theorem get_varint_raw {rest buf : Bytes} (h : rest <:+ buf) :
    Octets.get_varint (cur buf rest) = RdRaw getVarint id buf rest := by
  unfold Octets.get_varint RdRaw getVarint
  rw [peekBE_cur h]
  cases rest with
  | nil => rfl
  | cons first r =>
    have ht : first.toNat / 64 < 4 := Nat.div_lt_of_lt_mul first.toNat_lt
    rw [if_neg (by simp), Varint.get_cons]
    simp only [List.take_succ_cons, List.take_zero, Varint.beVal, Nat.zero_mul, Nat.zero_add, parse_len, cur_cap h]
    by_cases hl : Varint.tagLen (first.toNat / 64) > (first :: r).length
    · rw [if_pos hl, if_pos hl]
    rw [if_neg hl, if_neg hl]
    have hget := getBE_cur h (Varint.tagLen (first.toNat / 64))
    rw [if_neg (by omega)] at hget
    have hmask : ∀ (x k : Nat), x &&& (2 ^ k - 1) = x % 2 ^ k := fun x k => Nat.and_two_pow_sub_one_eq_mod x k
    generalize hc : first.toNat / 64 = t at ht hget hl
    -- the four arms of the Rust `match len`
    match t, ht with
    | 0, _ =>
      simp only [Varint.tagLen, Octets.get_u8] at hget ⊢
      rw [hget]
      simp only [List.take_succ_cons, List.take_zero, Varint.beVal, Nat.zero_mul, Nat.zero_add, id]
      rw [Nat.mod_eq_of_lt (by omega)]
    | 1, _ =>
      simp only [Varint.tagLen, Octets.get_u16] at hget ⊢
      rw [hget]
      exact congrArg (fun v => Res.ok (_, v)) (hmask _ 14)
    | 2, _ =>
      simp only [Varint.tagLen, Octets.get_u32] at hget ⊢
      rw [hget]
      exact congrArg (fun v => Res.ok (_, v)) (hmask _ 30)
    | 3, _ =>
      simp only [Varint.tagLen, Octets.get_u64] at hget ⊢
      rw [hget]
      exact congrArg (fun v => Res.ok (_, v)) (hmask _ 62)

theorem getVarint_err {rest : Bytes} {e : SerErr} (h : getVarint rest = .error e) : e = .bufferTooShort := by
  unfold getVarint at h
  split at h
  · injection h with h; exact h.symm
  · cases h

theorem getBytesVar_err {rest : Bytes} {e : SerErr} (h : getBytesVar rest = .error e) : e = .bufferTooShort := by
  unfold getBytesVar at h
  cases hv : getVarint rest with
  | error e' => rw [hv] at h; injection h with h; rw [← h]; exact getVarint_err hv
  | ok x =>
    obtain ⟨len, r1⟩ := x
    rw [hv] at h
    simp only at h
    split at h
    · injection h with h; exact h.symm
    · cases h

theorem get_bytes_var_raw {rest buf : Bytes} (h : rest <:+ buf) :
    (Octets.get_bytes_with_varint_length (cur buf rest)).forget =
      RdRaw getBytesVar (fun m => (⟨toNats m, 0⟩ : Octets)) buf rest := by
  unfold Octets.get_bytes_with_varint_length
  rw [get_varint_raw h]
  unfold RdRaw getBytesVar
  cases hv : getVarint rest with
  | error e => rfl
  | ok x =>
    obtain ⟨len, r1⟩ := x
    obtain ⟨hs, hlt⟩ := getVarint_ok hv
    have hs1 : r1 <:+ buf := hs.trans h
    simp only [id]
    unfold Octets.get_bytes
    rw [cur_cap hs1, Nat.mod_eq_of_lt (Nat.lt_of_le_of_lt hlt (by decide))]
    by_cases hl : r1.length < len
    · rw [if_pos hl, if_pos hl]; rfl
    · rw [if_neg hl, if_neg hl]
      simp only [Res.forget]
      rw [cur_advance hs1 len (by omega), cur_drop hs1]
      congr 3
      simp [toNats, List.map_take]

theorem get_u8_cur {ρ} {rest buf : Bytes} (h : rest <:+ buf) :
    (Exec.callFrom conv (Octets.get_u8 (cur buf rest)) : Exec SSerErr ρ _) = Rd getU8 id buf rest := by
  unfold Octets.get_u8 Rd
  rw [getBE_cur h]
  cases rest with
  | nil => rfl
  | cons x r => simp [getU8, Varint.beVal, Exec.callFrom]

theorem get_u16_cur {ρ} {rest buf : Bytes} (h : rest <:+ buf) :
    (Exec.callFrom conv (Octets.get_u16 (cur buf rest)) : Exec SSerErr ρ _) = Rd getU16 id buf rest := by
  unfold Octets.get_u16 Rd
  rw [getBE_cur h]
  match rest with
  | [] => rfl
  | [_] => rfl
  | x :: y :: r =>
    rw [if_neg (by simp)]
    simp [getU16, Varint.beVal, Exec.callFrom]

theorem get_varint_cur {ρ} {rest buf : Bytes} (h : rest <:+ buf) :
    (Exec.callFrom conv (Octets.get_varint (cur buf rest)) : Exec SSerErr ρ _) = Rd getVarint id buf rest := by
  rw [get_varint_raw h, callFrom_RdRaw _ _ _ _ (fun e he => getVarint_err he)]
/-- `callee(..)?` for the octets method whose error carries the advanced cursor -/
theorem cf_forget_state {ρ α σ τ : Type} (F : BufferTooShortError × τ → σ) (r : Res (BufferTooShortError × τ) α) :
    (Exec.callFrom (fun err => Res.bind (SerializationError.from_BufferTooShortError err.1) (fun e' => Res.ok (e', F err))) r :
      Exec (SSerErr × σ) ρ α).forget = Exec.callFrom conv r.forget := by
  cases r <;> rfl

theorem get_bytes_var_cur {ρ} {rest buf : Bytes} (h : rest <:+ buf) :
    (Exec.callFrom conv (Octets.get_bytes_with_varint_length (cur buf rest)).forget : Exec SSerErr ρ _)
      = Rd getBytesVar (fun m => (⟨toNats m, 0⟩ : Octets)) buf rest := by
  rw [get_bytes_var_raw h, callFrom_RdRaw _ _ _ _ (fun e he => getBytesVar_err he)]

/-- outcome of `from_bytes` predicted by the model decoder -/
def fromModel (buf : Bytes) : Except SerErr (RenetVerif.Packet × Bytes) → Res SSerErr (Octets × Src.renet.packet.Packet)
  | .ok (p, r) => .ok (cur buf r, reprPacket p)
  | .error e => .err (reprSerErr e)

theorem ebind_ok {ε α β} (a : α) (f : α → Except ε β) : (Except.ok a >>= f) = f a := rfl
theorem ebind_err {ε α β} (e : ε) (f : α → Except ε β) : ((Except.error e : Except ε α) >>= f) = Except.error e := rfl
theorem fromModel_err (buf : Bytes) (e : SerErr) : fromModel buf (.error e) = .err (reprSerErr e) := rfl

/-- `n` rounds of a model reader, results in reading order -/
def iter {α : Type} (step : Bytes → Except SerErr (α × Bytes)) : Nat → Bytes → Except SerErr (List α × Bytes)
  | 0, r => .ok ([], r)
  | n + 1, r =>
    match step r with
    | .error e => .error e
    | .ok (a, r1) =>
      match iter step n r1 with
      | .error e => .error e
      | .ok (l, r2) => .ok (a :: l, r2)

theorem iter_suffix {α : Type} {step : Bytes → Except SerErr (α × Bytes)}
    (hsuf : ∀ r a r', step r = .ok (a, r') → r' <:+ r) :
    ∀ n r l r', iter step n r = .ok (l, r') → r' <:+ r := by
  intro n
  induction n with
  | zero =>
    intro r l r' h
    cases h
    exact List.suffix_refl _
  | succ n ih =>
    intro r l r' h
    unfold iter at h
    split at h
    · cases h
    · rename_i a r1 hs
      split at h
      · cases h
      · rename_i l1 r2 hi
        cases h
        exact (ih _ _ _ hi).trans (hsuf _ _ _ hs)

/-- a `for _ in 0..n` loop that reads one element per round and pushes it -/
theorem loop_read {ρ α τ : Type} (buf : Bytes) (step : Bytes → Except SerErr (α × Bytes))
    (hsuf : ∀ r a r', step r = .ok (a, r') → r' <:+ r) (g : α → τ)
    (body : Nat → Octets × List τ → Exec SSerErr ρ (Octets × List τ))
    (hbody : ∀ i r acc, r <:+ buf → body i (cur buf r, acc) =
      match step r with
      | .ok (a, r') => .val (cur buf r', acc ++ [g a])
      | .error e => .err (reprSerErr e)) :
    ∀ n i r acc, r <:+ buf → RustSem.forRange.loop body n i (cur buf r, acc) =
      match iter step n r with
      | .ok (l, r') => .val (cur buf r', acc ++ l.map g)
      | .error e => .err (reprSerErr e) := by
  intro n
  induction n with
  | zero => intro i r acc _; simp [RustSem.forRange.loop, iter]
  | succ n ih =>
    intro i r acc hr
    rw [RustSem.forRange.loop, hbody i r acc hr]
    unfold iter
    cases hs : step r with
    | error e => rfl
    | ok x =>
      obtain ⟨a, r1⟩ := x
      simp only [Exec.bind_val']
      rw [ih (i + 1) r1 (acc ++ [g a]) ((hsuf _ _ _ hs).trans hr)]
      cases hi : iter step n r1 with
      | error e => rfl
      | ok y => obtain ⟨l, r2⟩ := y; simp

def stepRel (r : Bytes) : Except SerErr ((Nat × Bytes) × Bytes) :=
  match getVarint r with
  | .error e => .error e
  | .ok (id, r1) =>
    match getBytesVar r1 with
    | .error e => .error e
    | .ok (m, r2) => .ok ((id, m), r2)

theorem stepRel_suffix (r : Bytes) (a : Nat × Bytes) (r' : Bytes) (h : stepRel r = .ok (a, r')) : r' <:+ r := by
  unfold stepRel at h
  split at h
  · cases h
  · rename_i id r1 h1
    split at h
    · cases h
    · rename_i m r2 h2
      cases h
      exact (getBytesVar_ok h2).1.trans (getVarint_ok h1).1

theorem decSmallRel_iter (n : Nat) (r : Bytes) : decSmallRel n r = iter stepRel n r := by
  induction n generalizing r with
  | zero => rfl
  | succ n ih =>
    rw [decSmallRel, iter, stepRel]
    cases getVarint r with
    | error e => rfl
    | ok x =>
      simp only [ebind_ok]
      cases getBytesVar x.2 with
      | error e => rfl
      | ok y =>
        simp only [ebind_ok]
        rw [ih y.2]
        cases iter stepRel n y.2 with
        | error e => rfl
        | ok z => rfl

theorem decSmallUnrel_iter (n : Nat) (r : Bytes) : decSmallUnrel n r = iter getBytesVar n r := by
  induction n generalizing r with
  | zero => rfl
  | succ n ih =>
    unfold decSmallUnrel iter
    cases h2 : getBytesVar r with
    | error e => rfl
    | ok y =>
      obtain ⟨m, r2⟩ := y
      simp only [ebind_ok]
      rw [ih r2]
      cases iter getBytesVar n r2 with
      | error e => simp only [ebind_err]
      | ok z => simp only [ebind_ok]; rfl

/-- one round of the ack loop of the model decoder -/
def ackStep (prev : Nat) (r : Bytes) : Except SerErr (AckRange × Bytes) :=
  match getVarint r with
  | .error e => .error e
  | .ok (gap, r1) =>
    if prev < 2 + gap then .error .invalidAckRange
    else
      match getVarint r1 with
      | .error e => .error e
      | .ok (size, r2) =>
        if prev - gap - 2 < size then .error .invalidAckRange
        else .ok ((prev - gap - 2 - size, prev - gap - 2 + 1), r2)

theorem decAckRest_succ (n prev : Nat) (r : Bytes) (acc : List AckRange) :
    decAckRest (n + 1) prev r acc =
      match ackStep prev r with
      | .error e => .error e
      | .ok (x, r') => decAckRest n x.1 r' (x :: acc) := by
  rw [decAckRest]
  unfold ackStep
  cases h1 : getVarint r with
  | error e => rfl
  | ok x =>
    obtain ⟨gap, r1⟩ := x
    simp only [ebind_ok]
    by_cases hg : prev < 2 + gap
    · rw [if_pos hg, if_pos hg]
    · rw [if_neg hg, if_neg hg]
      cases h2 : getVarint r1 with
      | error e => rfl
      | ok y =>
        obtain ⟨size, r2⟩ := y
        simp only [ebind_ok]
        by_cases hz : prev - gap - 2 < size
        · rw [if_pos hz, if_pos hz]
        · rw [if_neg hz, if_neg hz]

theorem ackStep_ok {prev : Nat} {r r' : Bytes} {x : AckRange} (h : ackStep prev r = .ok (x, r')) :
    r' <:+ r ∧ x.1 ≤ prev := by
  unfold ackStep at h
  split at h
  · cases h
  · rename_i gap r1 h1
    split at h
    · cases h
    · split at h
      · cases h
      · rename_i size r2 h2
        split at h
        · cases h
        · cases h
          exact ⟨(getVarint_ok h2).1.trans (getVarint_ok h1).1, by simp only; omega⟩

theorem loop_ack {ρ β : Type} (buf : Bytes)
    (body : Nat → List RustSem.Range × Octets × Nat → Exec SSerErr ρ (List RustSem.Range × Octets × Nat))
    (hbody : ∀ i vec r prev, r <:+ buf → prev < 2 ^ 62 → body i (vec, cur buf r, prev) =
      match ackStep prev r with
      | .ok (x, r') => .val (vec ++ [reprRange x], cur buf r', x.1)
      | .error e => .err (reprSerErr e))
    (k : List RustSem.Range × Octets × Nat → Exec SSerErr ρ β)
    (hk : ∀ v b p p', k (v, b, p) = k (v, b, p')) :
    ∀ n i vec r prev acc, r <:+ buf → prev < 2 ^ 62 → acc.map reprRange = vec.reverse →
      (RustSem.forRange.loop body n i (vec, cur buf r, prev)).bind k =
        match decAckRest n prev r acc with
        | .ok (ranges, r') => k ((ranges.map reprRange).reverse, cur buf r', 0)
        | .error e => .err (reprSerErr e) := by
  intro n
  induction n with
  | zero =>
    intro i vec r prev acc _ _ hacc
    simp only [RustSem.forRange.loop, decAckRest, Exec.bind_val', hacc, List.reverse_reverse]
    exact hk _ _ _ _
  | succ n ih =>
    intro i vec r prev acc hr hp hacc
    rw [RustSem.forRange.loop, hbody i vec r prev hr hp, decAckRest_succ]
    cases hs : ackStep prev r with
    | error e => rfl
    | ok y =>
      obtain ⟨x, r'⟩ := y
      obtain ⟨hsuf, hle⟩ := ackStep_ok hs
      simp only [Exec.bind_val']
      exact ih (i + 1) (vec ++ [reprRange x]) r' x.1 (x :: acc) (hsuf.trans hr) (Nat.lt_of_le_of_lt hle hp)
        (by simp [hacc])

theorem rd_read {α β : Type} {P : α → Prop} {d : Bytes → Except SerErr (α × Bytes)} {f : α → β} {buf : Bytes}
    {x : Bytes → Exec SSerErr (Octets × Src.renet.packet.Packet) (Octets × β)}
    (hx : ∀ {rest}, rest <:+ buf → x rest = Rd d f buf rest)
    (hd : ∀ {rest a r}, d rest = .ok (a, r) → r <:+ rest ∧ P a) {rest : Bytes} (hs : rest <:+ buf)
    {k : Octets × β → Exec SSerErr (Octets × Src.renet.packet.Packet) (Octets × Src.renet.packet.Packet)}
    {m : α × Bytes → Except SerErr (RenetVerif.Packet × Bytes)}
    (hk : ∀ a r, r <:+ buf → P a → (k (cur buf r, f a)).run = fromModel buf (m (a, r))) :
    ((x rest).bind k).run = fromModel buf (d rest >>= m) := by
  rw [hx hs]
  unfold Rd
  cases h : d rest with
  | error e => rfl
  | ok y => exact hk y.1 y.2 ((hd h).1.trans hs) (hd h).2

/-- `if bad { return Err(e) }` against the model's `if bad then .error e'` -/
theorem guard_step {buf : Bytes} {c : Bool} {p : Prop} [Decidable p] (hc : c = true ↔ p) {e : SSerErr} {e' : SerErr}
    {k : Unit → Exec SSerErr (Octets × Src.renet.packet.Packet) (Octets × Src.renet.packet.Packet)}
    {m : Except SerErr (RenetVerif.Packet × Bytes)} (hk : ¬ p → (k ()).run = fromModel buf m)
    (he : reprSerErr e' = e := by rfl) :
    ((if c then Exec.err e else Exec.val ()).bind k).run = fromModel buf (if p then .error e' else m) := by
  by_cases hp : p
  · rw [if_pos (hc.mpr hp), if_pos hp, ← he]
    rfl
  · rw [if_neg (mt hc.mp hp), if_neg hp]
    exact hk hp

theorem from_bytes_eq (buf rest : Bytes) (hs : rest <:+ buf) :
    (Src.renet.packet.Packet.from_bytes (cur buf rest)).forget = fromModel buf (Packet.decode rest) := by
  unfold Src.renet.packet.Packet.from_bytes Packet.decode
  simp only [Exec.bind_eq, Exec.pure_eq]
  rw [Exec.forget_run]
  simp only [Exec.forget_bind, cf_forget]
  refine rd_read get_u8_cur getU8_ok hs (fun ty r0 hs0 _ => ?_)
  simp only [id]
  match ty with
  | 3 =>
    simp only
    simp only [Exec.forget_bind, Exec.forget_val, Exec.forget_err, Exec.forget_ite, cf_forget, cf_forget_state]
    refine rd_read get_varint_cur getVarint_ok hs0 (fun seq r1 hs1 hv1 => ?_)
    refine rd_read get_u8_cur getU8_ok hs1 (fun ch r2 hs2 hv2 => ?_)
    refine rd_read get_varint_cur getVarint_ok hs2 (fun mid r3 hs3 hv3 => ?_)
    refine rd_read get_varint_cur getVarint_ok hs3 (fun idx r4 hs4 hv4 => ?_)
    refine rd_read get_varint_cur getVarint_ok hs4 (fun n r5 hs5 hv5 => ?_)
    simp only [id, cast64_of_le_max hv4, cast64_of_le_max hv5]
    refine guard_step ?_ (fun _ => ?_)
    · simp [C.MAX_NUM_SLICES]
    refine rd_read get_bytes_var_cur getBytesVar_ok hs5 (fun m r6 _ _ => ?_)
    simp only [Exec.run_val, Octets.to_vec, List.drop_zero]
    rfl
  | 2 =>
    simp only
    simp only [Exec.forget_bind, Exec.forget_val, Exec.forget_err, Exec.forget_ite, cf_forget, cf_forget_state]
    refine rd_read get_varint_cur getVarint_ok hs0 (fun seq r1 hs1 hv1 => ?_)
    refine rd_read get_u8_cur getU8_ok hs1 (fun ch r2 hs2 hv2 => ?_)
    refine rd_read get_varint_cur getVarint_ok hs2 (fun mid r3 hs3 hv3 => ?_)
    refine rd_read get_varint_cur getVarint_ok hs3 (fun idx r4 hs4 hv4 => ?_)
    refine rd_read get_varint_cur getVarint_ok hs4 (fun n r5 hs5 hv5 => ?_)
    simp only [id, cast64_of_le_max hv4, cast64_of_le_max hv5]
    refine guard_step ?_ (fun _ => ?_)
    · simp [C.MAX_NUM_SLICES]
    refine rd_read get_bytes_var_cur getBytesVar_ok hs5 (fun m r6 _ _ => ?_)
    simp only [Octets.is_empty, Octets.len, Octets.to_vec, List.drop_zero, toNats_length,
      show Src.renet.packet.SLICE_SIZE = C.SLICE_SIZE from rfl]
    refine guard_step ?_ (fun _ => ?_)
    · simp
    refine guard_step ?_ (fun _ => ?_)
    · simp
    rfl
  | n + 5 => rfl
  | 0 =>
    simp only
    simp only [Exec.forget_bind, Exec.forget_val, forRange_forget, cf_forget, cf_forget_state]
    refine rd_read get_varint_cur getVarint_ok hs0 (fun seq r1 hs1 hv1 => ?_)
    refine rd_read get_u8_cur getU8_ok hs1 (fun ch r2 hs2 hv2 => ?_)
    refine rd_read get_u16_cur getU16_ok hs2 (fun n r3 hs3 hv3 => ?_)
    simp only [id, RustSem.forRange, Nat.sub_zero]
    rw [loop_read buf stepRel stepRel_suffix (fun x => (x.1, toNats x.2)) _ ?hbody n 0 r3 [] hs3]
    case hbody =>
      intro i r acc hr
      simp only
      rw [get_varint_cur hr, stepRel]
      unfold Rd
      cases g1 : getVarint r with
      | error e => rfl
      | ok x =>
        obtain ⟨mid, q1⟩ := x
        have hq1 := (getVarint_ok g1).1.trans hr
        simp only [Exec.bind_val', id]
        rw [get_bytes_var_cur hq1]
        unfold Rd
        cases getBytesVar q1 with
        | error e => rfl
        | ok y => simp only [Exec.bind_val', Octets.to_vec, List.drop_zero, RustSem.push]
    rw [decSmallRel_iter]
    cases iter stepRel n r3 with
    | error e => rfl
    | ok z => obtain ⟨l, r4⟩ := z; simp only [Exec.bind_val', Exec.run_val, List.nil_append, ebind_ok]; rfl
  | 1 =>
    simp only
    simp only [Exec.forget_bind, Exec.forget_val, forRange_forget, cf_forget, cf_forget_state]
    refine rd_read get_varint_cur getVarint_ok hs0 (fun seq r1 hs1 hv1 => ?_)
    refine rd_read get_u8_cur getU8_ok hs1 (fun ch r2 hs2 hv2 => ?_)
    refine rd_read get_u16_cur getU16_ok hs2 (fun n r3 hs3 hv3 => ?_)
    simp only [id, RustSem.forRange, Nat.sub_zero]
    rw [loop_read buf getBytesVar (fun r a r' h => (getBytesVar_ok h).1) toNats _ ?hbody n 0 r3 [] hs3]
    case hbody =>
      intro i r acc hr
      simp only
      rw [get_bytes_var_cur hr]; unfold Rd
      cases g2 : getBytesVar r with
      | error e => rfl
      | ok y =>
        obtain ⟨m, q2⟩ := y
        simp only [Exec.bind_val', Octets.to_vec, List.drop_zero, RustSem.push]
    rw [decSmallUnrel_iter]
    cases iter getBytesVar n r3 with
    | error e => rfl
    | ok z => obtain ⟨l, r4⟩ := z; simp only [Exec.bind_val', Exec.run_val, List.nil_append, ebind_ok]; rfl
  | 4 =>
    simp only
    simp only [Exec.forget_bind, Exec.forget_val, Exec.forget_err, Exec.forget_ite, forRange_forget, cf_forget, forget_add,
      forget_sub]
    refine rd_read get_varint_cur getVarint_ok hs0 (fun seq r1 hs1 hv1 => ?_)
    refine rd_read get_varint_cur getVarint_ok hs1 (fun fe r2 hs2 hv2 => ?_)
    refine rd_read get_varint_cur getVarint_ok hs2 (fun fsz r3 hs3 hv3 => ?_)
    refine rd_read get_varint_cur getVarint_ok hs3 (fun nr r4 hs4 hv4 => ?_)
    simp only [id]
    unfold Varint.MAX at hv2
    refine guard_step ?_ (fun hlt => ?_)
    · simp
    rw [sub_val (by omega), add_val (show fe + 1 < 2 ^ 64 by omega), Exec.bind_val', Exec.bind_val']
    simp only [RustSem.forRange, Nat.sub_zero, RustSem.push, List.nil_append]
    rw [loop_ack buf _ ?hbody _ (fun _ _ _ _ => rfl) nr 0 _ r4 (fe - fsz) [(fe - fsz, fe + 1)] hs4 (by omega) rfl]
    case hbody =>
      intro i vec r prev hr hp
      simp only
      rw [get_varint_cur hr]; unfold Rd ackStep
      cases g1 : getVarint r with
      | error e => rfl
      | ok x =>
        obtain ⟨gap, q1⟩ := x
        obtain ⟨hq1', hgap⟩ := getVarint_ok g1
        unfold Varint.MAX at hgap
        have hq1 := hq1'.trans hr
        simp only [Exec.bind_val', id, add_val (show 2 + gap < 2 ^ 64 by omega)]
        by_cases hg : prev < 2 + gap
        · rw [if_pos (by simpa using hg), if_pos hg]; rfl
        rw [if_neg (by simpa using hg), if_neg hg, Exec.bind_val', sub_val (show gap ≤ prev by omega), Exec.bind_val',
          sub_val (show 2 ≤ prev - gap by omega), Exec.bind_val']
        rw [get_varint_cur hq1]; unfold Rd
        cases g2 : getVarint q1 with
        | error e => rfl
        | ok y =>
          obtain ⟨size, q2⟩ := y
          simp only [Exec.bind_val', id]
          by_cases hz : prev - gap - 2 < size
          · rw [if_pos (by simpa using hz), if_pos hz]; rfl
          rw [if_neg (by simpa using hz), if_neg hz, Exec.bind_val', sub_val (by omega),
            add_val (show prev - gap - 2 + 1 < 2 ^ 64 by omega)]
          rfl
    cases decAckRest nr (fe - fsz) r4 [(fe - fsz, fe + 1)] with
    | error e => rfl
    | ok z =>
      obtain ⟨ranges, r5⟩ := z
      simp only [Exec.run_val, List.reverse_reverse, ebind_ok]; rfl
end E

end RenetVerif.SrcEquiv
