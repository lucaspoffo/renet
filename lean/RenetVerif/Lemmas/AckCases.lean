/-
  What a call of `process_message_ack`, `process_slice_message_ack` or `ackOne` that returned did, with no invariant assumed,
  and the two ack loops as closures of one step.
-/
import RenetVerif.Renet.Conn
import RenetVerif.Lemmas.ResMonad
namespace RenetVerif
open SMap

theorem SendRel.processMessageAck_cases {s s' : SendRel} {id : Nat} (h : s.processMessageAck id = .ok s') :
    (find? s.unacked id = none ∧ s' = s) ∨
    ∃ m ls, find? s.unacked id = some (.small m ls) ∧ m.length ≤ s.mem ∧
      s' = { s with unacked := erase s.unacked id, mem := s.mem - m.length } := by
  unfold SendRel.processMessageAck at h
  split at h
  · next hf => cases h; exact Or.inl ⟨hf, rfl⟩
  · next m ls hf =>
    obtain ⟨v, hv, h⟩ := Res.bind_ok_iff.mp h
    obtain ⟨hle, rfl⟩ := Res.csub_ok_iff.mp hv
    cases h
    exact Or.inr ⟨m, ls, hf, hle, rfl⟩
  · cases h

theorem SendRel.processSliceAck_cases {s s' : SendRel} {id idx : Nat} (h : s.processSliceAck id idx = .ok s') :
    (find? s.unacked id = none ∧ s' = s) ∨
    ∃ m n k nx acked ls, find? s.unacked id = some (.sliced m n k nx acked ls) ∧
      ((acked[idx]? = some true ∧ s' = s) ∨
       (acked[idx]? = some false ∧ k + 1 = n ∧ m.length ≤ s.mem ∧
          s' = { s with unacked := erase s.unacked id, mem := s.mem - m.length }) ∨
       (acked[idx]? = some false ∧ k + 1 ≠ n ∧
          s' = { s with unacked := SMap.insert s.unacked id (.sliced m n (k + 1) nx (acked.set idx true) ls) })) := by
  unfold SendRel.processSliceAck at h
  split at h
  · next hf => cases h; exact Or.inl ⟨hf, rfl⟩
  · cases h
  · next m n k nx acked ls hf =>
    refine Or.inr ⟨m, n, k, nx, acked, ls, hf, ?_⟩
    split at h
    · cases h
    · next ht => cases h; exact Or.inl ⟨ht, rfl⟩
    · next hb =>
      dsimp only at h
      split at h
      · next c =>
        obtain ⟨v, hv, h⟩ := Res.bind_ok_iff.mp h
        obtain ⟨hle, rfl⟩ := Res.csub_ok_iff.mp hv
        cases h
        exact Or.inr (Or.inl ⟨hb, c, hle, rfl⟩)
      · next c => cases h; exact Or.inr (Or.inr ⟨hb, c, rfl⟩)

namespace Conn

theorem ackMsgLoop_rel (R : SendRel → SendRel → Prop) (hrefl : ∀ s, R s s) (htrans : ∀ {a b c}, R a b → R b c → R a c)
    (hone : ∀ {s id s'}, s.processMessageAck id = .ok s' → R s s') :
    ∀ (ids : List Nat) {s s' : SendRel}, ackMsgLoop s ids = .ok s' → R s s'
  | [], s, s', h => by cases h; exact hrefl s
  | id :: rest, s, s', h => by
    obtain ⟨s1, h1, h⟩ := Res.bind_ok_iff.mp h
    exact htrans (hone h1) (ackMsgLoop_rel R hrefl htrans hone rest h)

theorem ackOne_cases {c c' : Conn} {seq : Nat} (h : c.ackOne seq = .ok c') :
    ∃ t info, find? c.sent seq = some (t, info) ∧
      match info with
      | .relMsgs ch ids => ∃ s s', find? c.sendRel ch = some s ∧ ackMsgLoop s ids = .ok s' ∧
          c' = { c with sent := erase c.sent seq, sendRel := SMap.insert c.sendRel ch s' }
      | .relSlice ch id idx => ∃ s s', find? c.sendRel ch = some s ∧ s.processSliceAck id idx = .ok s' ∧
          c' = { c with sent := erase c.sent seq, sendRel := SMap.insert c.sendRel ch s' }
      | .ack largest => c' = { c with sent := erase c.sent seq, pendingAcks := Acks.ackedLargest largest c.pendingAcks }
      | .none => c' = { c with sent := erase c.sent seq } := by
  unfold ackOne at h
  split at h
  · cases h
  · next t info hf =>
    refine ⟨t, info, hf, ?_⟩
    cases info with
    | none => cases h; rfl
    | ack largest => cases h; rfl
    | relMsgs ch ids =>
      dsimp only at h ⊢
      split at h
      · cases h
      · next s hs =>
        obtain ⟨s', hl, h⟩ := Res.bind_ok_iff.mp h
        cases h
        exact ⟨s, s', hs, hl, rfl⟩
    | relSlice ch id idx =>
      dsimp only at h ⊢
      split at h
      · cases h
      · next s hs =>
        obtain ⟨s', hl, h⟩ := Res.bind_ok_iff.mp h
        cases h
        exact ⟨s, s', hs, hl, rfl⟩

theorem ackOne_acks {c c' : Conn} {seq : Nat} (h : c.ackOne seq = .ok c') :
    c'.sent = erase c.sent seq ∧ (c'.pendingAcks = c.pendingAcks ∨
      ∃ t largest, find? c.sent seq = some (t, .ack largest) ∧ c'.pendingAcks = Acks.ackedLargest largest c.pendingAcks) := by
  obtain ⟨t, info, hv, h⟩ := ackOne_cases h
  cases info with
  | none => obtain rfl := h; exact ⟨rfl, Or.inl rfl⟩
  | ack l => obtain rfl := h; exact ⟨rfl, Or.inr ⟨t, l, hv, rfl⟩⟩
  | relMsgs ch ids => obtain ⟨s, s', -, -, rfl⟩ := h; exact ⟨rfl, Or.inl rfl⟩
  | relSlice ch id idx => obtain ⟨s, s', -, -, rfl⟩ := h; exact ⟨rfl, Or.inl rfl⟩

theorem ackLoop_rel (R : Conn → Conn → Prop) (hrefl : ∀ c, R c c) (htrans : ∀ {a b c}, R a b → R b c → R a c)
    (hone : ∀ {c seq c'}, c.ackOne seq = .ok c' → R c c') :
    ∀ (L : List Nat) {c c' : Conn}, ackLoop c L = .ok c' → R c c'
  | [], c, c', h => by cases h; exact hrefl c
  | seq :: rest, c, c', h => by
    obtain ⟨c1, h1, h⟩ := Res.bind_ok_iff.mp h
    exact htrans (hone h1) (ackLoop_rel R hrefl htrans hone rest h)

end Conn
end RenetVerif
