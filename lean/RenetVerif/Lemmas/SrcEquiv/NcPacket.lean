/-
  renetcode packets: generated `Packet::{packet_type, id, write, read}` of `renetcode/src/packet.rs` (the netcode
  `Packet<'a>`, not renet's `Packet`) agree with `Netcode.Packet.{packetType, id, write, read}` of `Netcode/Wire.lean`
  over the cursor models of group NcSerialize.  The ties themselves are in `Props/SrcTieNcPacket.lean`.
-/
import RenetVerif.Generated.Src.NcPacket
import RenetVerif.Lemmas.SrcEquiv.NcSerialize
namespace RenetVerif.SrcEquiv
open RenetVerif RenetVerif.RustSem

section NcPacket
open Netcode

abbrev SNcPacket := Src.renetcode.packet.Packet

def reprPT : Netcode.PacketType → Src.renetcode.packet.PacketType
  | .connectionRequest => .ConnectionRequest
  | .connectionDenied => .ConnectionDenied
  | .challenge => .Challenge
  | .response => .Response
  | .keepAlive => .KeepAlive
  | .payload => .Payload
  | .disconnect => .Disconnect

def reprNP : Netcode.Packet → SNcPacket
  | .connectionRequest v pid e x d => .ConnectionRequest (toNats v) pid e (toNats x) (toNats d)
  | .connectionDenied => .ConnectionDenied
  | .challenge s d => .Challenge s (toNats d)
  | .response s d => .Response s (toNats d)
  | .keepAlive i m => .KeepAlive i m
  | .payload p => .Payload (toNats p)
  | .disconnect => .Disconnect

theorem to_le_bytes32 (x : Nat) : RustSem.to_le_bytes 32 x = toNats (Netcode.leBytes x 4) := leBytes_repr 4 x

/-- outcome of a generated writer predicted by the model writer: on success the cursor of the model's writer (the
    unwritten tail shortened by what was written), on failure some `io::Error` -/
def WOut (w0 : Wr) (tail0 : List Nat) (m : Option Wr) (r : Res (IoError × WriteCursor) (WriteCursor × Unit)) : Prop :=
  match m with
  | some w' => r = .ok (wcur w' (tail0.drop (w'.out.length - w0.out.length)), ())
  | none => ∃ c, r = .err (.opaque, c)

theorem wfull_len {w : Wr} {tail : List Nat} (h : WrOk w tail) {b : Bytes} (hf : w.writeAll b = none) :
    (wfull w tail b).buf.length = w.cap := by
  unfold Wr.writeAll at hf
  unfold WrOk at h
  split at hf
  · cases hf
  · simp only [wfull, List.length_append, toNats_length, List.length_take]; omega

/-- a model writer only appends, within its capacity -/
def Ext (w w' : Wr) : Prop := w'.cap = w.cap ∧ (∃ b, w'.out = w.out ++ b) ∧ (w.out.length ≤ w.cap → w'.out.length ≤ w.cap)

theorem ext_refl (w : Wr) : Ext w w := ⟨rfl, ⟨[], (List.append_nil _).symm⟩, id⟩
theorem ext_writeAll {w w' : Wr} {b : Bytes} (h : w.writeAll b = some w') : Ext w w' := by
  obtain ⟨h1, h2, h3⟩ := writeAll_out h
  exact ⟨h2, ⟨b, h1⟩, fun _ => h3⟩
theorem ext_trans {w1 w2 w3 : Wr} (h12 : Ext w1 w2) (h23 : Ext w2 w3) : Ext w1 w3 := by
  obtain ⟨c1, ⟨b1, o1⟩, l1⟩ := h12
  obtain ⟨c2, ⟨b2, o2⟩, l2⟩ := h23
  exact ⟨by rw [c2, c1], ⟨b1 ++ b2, by rw [o2, o1, List.append_assoc]⟩, fun h => by rw [c1] at l2; exact l2 (l1 h)⟩

/-- `WOut`, with what `Packet::encode` needs of a writer besides: the model writer has only appended within its capacity,
    and the cursor that an `Err` carries still has a buffer of the capacity's length -/
def WOutX (w0 : Wr) (tail0 : List Nat) (m : Option Wr) (r : Res (IoError × WriteCursor) (WriteCursor × Unit)) : Prop :=
  match m with
  | some w' => r = .ok (wcur w' (tail0.drop (w'.out.length - w0.out.length)), ()) ∧ Ext w0 w'
  | none => ∃ c, r = .err (.opaque, c) ∧ c.buf.length = w0.cap

theorem WOutX.wout {w0 : Wr} {tail0 : List Nat} {m : Option Wr} {r : Res (IoError × WriteCursor) (WriteCursor × Unit)}
    (h : WOutX w0 tail0 m r) : WOut w0 tail0 m r := by
  cases m with
  | some w' => exact h.1
  | none =>
    obtain ⟨c, hc, _⟩ := h
    exact ⟨c, hc⟩

/-- a chain of `write_all`s (`writer.write_all(b)?; rest`), `n` bytes after the writer `w0` that `WOutX` refers to -/
theorem write_all_chain {w0 w : Wr} {tail0 : List Nat} (n : Nat) (hn : w.out.length = w0.out.length + n)
    (h : WrOk w (tail0.drop n)) (he : Ext w0 w) (b : Bytes)
    (k : WriteCursor × Unit → Exec (IoError × WriteCursor) (WriteCursor × Unit) WriteCursor) (mk : Wr → Option Wr)
    (hk : ∀ w1, w1.out.length = w0.out.length + (n + b.length) → WrOk w1 (tail0.drop (n + b.length)) → Ext w0 w1 →
      WOutX w0 tail0 (mk w1) ((k (wcur w1 (tail0.drop (n + b.length)), ())).bind fun wr => Exec.val (wr, ())).run) :
    WOutX w0 tail0 ((w.writeAll b).bind mk)
      (((Exec.callFrom (fun err => Res.ok (err.1, err.2)) (WriteCursor.write_all (wcur w (tail0.drop n)) (toNats b))).bind
        k).bind fun wr => Exec.val (wr, ())).run := by
  rw [(wcur_write_all h b).1]
  cases h1 : w.writeAll b with
  | none => exact ⟨_, rfl, (wfull_len h h1).trans he.1⟩
  | some w1 =>
    have hok := (wcur_write_all h b).2 w1 h1
    rw [List.drop_drop] at hok
    simp only [Exec.callFrom_ok, Exec.bind_val', Option.bind_some, List.drop_drop]
    exact hk w1 (by rw [(writeAll_out h1).1, List.length_append]; omega) hok (ext_trans he (ext_writeAll h1))

theorem write_all_last {w0 w : Wr} {tail0 : List Nat} (n : Nat) (hn : w.out.length = w0.out.length + n)
    (h : WrOk w (tail0.drop n)) (he : Ext w0 w) (b : Bytes) :
    WOutX w0 tail0 (w.writeAll b)
      (((Exec.callFrom (fun err => Res.ok (err.1, err.2)) (WriteCursor.write_all (wcur w (tail0.drop n)) (toNats b))).bind
        fun t => (Exec.val t.1 : Exec (IoError × WriteCursor) (WriteCursor × Unit) WriteCursor)).bind
          fun wr => Exec.val (wr, ())).run := by
  rw [← Option.bind_fun_some (w.writeAll b)]
  refine write_all_chain n hn h he b _ some fun w1 h1 _ he1 => ?_
  have e : w1.out.length - w0.out.length = n + b.length := by omega
  simp only [WOutX, Exec.bind_val', Exec.run_val, e, true_and]
  exact he1

theorem np_write_x {w : Wr} {tail : List Nat} (h : WrOk w tail) (p : Netcode.Packet) :
    WOutX w tail (p.write w) (Src.renetcode.packet.Packet.write (reprNP p) (wcur w tail)) := by
  unfold Src.renetcode.packet.Packet.write
  cases p with
  | connectionRequest v pid e x d =>
    simp only [reprNP, Netcode.Packet.write, to_le_bytes64, Exec.bind_eq, Exec.pure_eq]
    refine write_all_chain 0 rfl h (ext_refl w) v _ _ fun w1 h1 hok1 he1 => ?_
    refine write_all_chain _ h1 hok1 he1 (leBytes pid 8) _ _ fun w2 h2 hok2 he2 => ?_
    refine write_all_chain _ h2 hok2 he2 (leBytes e 8) _ _ fun w3 h3 hok3 he3 => ?_
    refine write_all_chain _ h3 hok3 he3 x _ _ fun w4 h4 hok4 he4 => ?_
    exact write_all_last _ h4 hok4 he4 d
  | challenge s d | response s d =>
    simp only [reprNP, Netcode.Packet.write, to_le_bytes64, Exec.bind_eq, Exec.pure_eq]
    refine write_all_chain 0 rfl h (ext_refl w) (leBytes s 8) _ _ fun w1 h1 hok1 he1 => ?_
    exact write_all_last _ h1 hok1 he1 d
  | keepAlive i m =>
    simp only [reprNP, Netcode.Packet.write, to_le_bytes32, Exec.bind_eq, Exec.pure_eq]
    refine write_all_chain 0 rfl h (ext_refl w) (leBytes i 4) _ _ fun w1 h1 hok1 he1 => ?_
    exact write_all_last _ h1 hok1 he1 (leBytes m 4)
  | payload b =>
    simp only [reprNP, Netcode.Packet.write, Exec.bind_eq, Exec.pure_eq]
    exact write_all_last 0 rfl h (ext_refl w) b
  | connectionDenied | disconnect =>
    simp only [reprNP, Netcode.Packet.write, WOutX, Exec.bind_eq, Exec.pure_eq, Exec.bind_val', Exec.run_val, Nat.sub_self,
      List.drop_zero, true_and]
    exact ext_refl w

theorem rcur_new (src : Bytes) : ReadCursor.new (toNats src) = rcur src src := by
  simp [ReadCursor.new, rcur]

/-- `let t = reader(src)?; k t` against `let (a, r) ← m; mk (a, r)` of the model, both under `io?` -/
theorem read_step {α γ : Type} {rest buf : Bytes} {f : α → γ} {m : Option (α × Bytes)}
    (hsuf : ∀ a r, m = some (a, r) → r <:+ rest) (h : rest <:+ buf)
    (k : ReadCursor × γ → Exec IoError SNcPacket SNcPacket) (mk : α × Bytes → Option Netcode.Packet)
    (hk : ∀ a r, r <:+ buf →
      SameOutcome (k (rcur buf r, f a)).run (mapRes reprNP (fun _ => IoError.opaque) (io? (mk (a, r))))) :
    SameOutcome ((Exec.callFrom (fun err => Res.ok err.1) (rdRes buf f m)).bind k).run
      (mapRes reprNP (fun _ => IoError.opaque) (io? (m.bind mk))) := by
  cases m with
  | none => exact rfl
  | some x => exact hk x.1 x.2 ((hsuf _ _ rfl).trans h)

end NcPacket
end RenetVerif.SrcEquiv
