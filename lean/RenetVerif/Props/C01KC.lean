/-
  C01 — LIVENESS, the k-ROUND bound with the per-round side conditions CLOSED.

  Props/C01K.lean proves: from any reachable state with both ends live and receiver room, `k` full lossless rounds
  with `k * (B - SLICE_SIZE + 1) ≥ backlog` leave `obtained = submitted` — under PER-ROUND side conditions
  `Rounds cfg ch Sched s rs`, some of which are facts about the CODE's state in every round (counter ranges of both
  endpoints, B's pending-ack list non-empty and below the cap of 64 ranges) that C01K only assumes.
  Here those are DERIVED.  Definitions and proofs: Lemmas/LivenessKClosed.lean.

  WHAT REMAINS as hypotheses besides the standing ones of C01K (reachable, both ends live, H3 room at B):

  (a) SCHEDULE FACTS, per round — `RoundsSched ch Sched s rs` — what the ENVIRONMENT does:
        timer     `r.dt ≥ resend_time`,
        drain     `r.n` receive calls suffice,
        sched     the scheduling hypothesis `Sched su` of the theorem (H2/H4; nothing for a single-channel cfg),
        all/exact `r.ks` lists exactly the datagrams of this round's flush of A (lossless; any order, repetitions),
        nonempty  `r.ks ≠ []`: the round hands B at least one datagram (a fact about the schedule list; with `exact`
                  it says A's flush emitted something — NOT derived from "the backlog is non-empty", see (C)),
        back      `r.ai = ackIdx u`: the datagram handed to A is the last one of B's flush, and
                  `(flushPk u.b).length = 1`: B's flush is a single datagram — B's application has no traffic of
                  its own (the mirror image of H4; assumed by the `…_closed` theorems, derived by the `…_closed2`
                  ones, see (A)).
  (b) HEAD-ROOM on the INITIAL state `s` of the rounds — `HeadRoom cfg s rs` — with `K = kTotal rs` the number of
      datagrams the schedule hands to B over all rounds (`Σ r.ks.length`, repetitions counted) and `k = rs.length`:
        sys      `CountersOK cfg s`            (channel ids are bytes, `packet_sequence ≤ 2^62`, submission logs in range),
        staticA/B `StaticOK s.a`, `StaticOK s.b` (message-id counters and memory limits of the send channels ≤ 2^62),
        seqA     `s.a.packetSeq + K + k ≤ 2^62`  (A emits at most `|r.ks| + 1` datagrams in round `r`),
        seqB     `s.b.packetSeq + 2 * k ≤ 2^62`,
        acks     `s.b.pendingAcks.length + K < ACK_RANGE_CAP = 64`.

  WHAT IS DERIVED of C01K's `Rounds` (all per round, all about the code's state):
        counters   `CountersOK cfg su`            derived (submission logs do not move; A's sequence from `seqA`)
        countersA  `su.a.CountersOK`              derived: static part is invariant under everything a round does
                                                  (`step_frame`); `flushSeq ≤ packetSeq + |flush| + 1` holds WITHOUT any
                                                  counter hypothesis once the flush is non-empty (`flushSeq_le`)
        back.1     `u.b.CountersOK`               derived the same way (B's sequence from `seqB`)
        back.2     `u.b.pendingAcks ≠ []`         derived: B parsed a datagram of the flush (`Round.pending`)
        cap        `su.b.pendingAcks.length + |r.ks| < 64`   derived from the ONE initial inequality `acks`
                                                  (each datagram adds at most one range; B's flush and A do not add any).

  THE `…_closed2` THEOREMS (Lemmas/LivenessKClosed2.lean), and what is left out.
  (A) "B's flush is one datagram" is derived: `SysOp` has no `sendB`, so in every state reachable from
      `Sys.init cfg` B's send side is idle (`SendIdle`, `idleB_reach`: invariant of `Sys.run`; `process_packet` reaches the
      send side only through the ack loop, which does nothing on an empty `unacked` map; the flush of an idle
      connection emits nothing from its channels).  Hence `flushSeq ≤ packetSeq + 1` for B without any hypothesis
      (`flushSeq_idle`), and B's flush is exactly the ack packet (`flushPk_idle_one`, `flushB_one_reach`).
      `RoundsSched2` = `RoundsSched` minus that conjunct; `HeadRoom2` = `HeadRoom` with
      `seqB : s.b.packetSeq + rs.length ≤ 2^62` (ONE datagram of B per round, not two).
  (B) LEFT OUT: the sharp form of `acks` (`s.b.pendingAcks.length + k < 64`, one new range per ROUND because the
      sequence numbers of a flush are consecutive).  It cannot be had on top of C01K: the `_closed` theorems go through
      `Rounds`, whose clause `TickOK.cap` IS the coarse per-round inequality
      `su.b.pendingAcks.length + r.ks.length < 64` (with repetitions), consumed by `LiveK.full_round_inv` →
      `deliver_pending` → `Acks.add_mem_iff`, which needs the list below the cap at EVERY delivery.
      The sharp hypothesis `s.b.pendingAcks.length + rs.length < 64` does not imply it (empty list, one round with 64
      datagrams), and it is not even true that the code stays below the cap under it: the datagrams of a flush may
      arrive in any order, and after the even-numbered ones of a block of `n` consecutive sequence numbers the list
      holds `n/2` more ranges — above 64 `add_pending_ack` drops the OLDEST range (`capFront`), i.e. B forgets to
      acknowledge.  "One range per round" holds only for the state after the COMPLETE block; obtaining it needs
      (i) the canonical-form lemma for WF range lists and (ii) re-proving `full_round` with a cap on the intermediate
      states of the delivery (a hypothesis on the ORDER, e.g. in-order delivery).  The same applies to "distinct
      datagrams": `TickOK.cap` counts `r.ks.length`.  The coarse `acks : s.b.pendingAcks.length + kTotal rs < 64` stays.
  (C) `r.ks ≠ []` is a hypothesis of every theorem of this file.  It is not derived here from "backlog non-empty and
      `SLICE_SIZE ≤ B`" because the derivation of `su.a.CountersOK` (`flushSeq ≤ packetSeq + |flush| + 1`) USES
      `nonempty` (a non-empty `flushPk` certifies that serialisation did not fail), while every lemma that shows the
      flush non-empty (`flush_covers`, `flush_contains`) assumes `CountersOK`.  In the case
      `r.ks = []` ∧ `flushPk su.a = []` the sub-case "channel loop returned packets but serialisation failed because
      the sequence number passed 2^62" can only be excluded by a bound on the NUMBER of packets one channel loop
      emits (`chanLoop_budget` gives `seq' = seq + |ps|` but no bound on `|ps|`; the budget does not bound it — empty
      messages are free).  That bound is `C01KD.flush_count`: Props/C01KD.lean derives `r.ks ≠ []` for every round that
      starts with a non-empty backlog (`flush_nonempty`, `k_round_delivery_closed3_partial`), and Props/C01KE.lean
      has no such clause at all, on a round list cut at the first round with an empty backlog
      (`k_round_delivery_closed4`).
-/
import RenetVerif.Props.C01K
import RenetVerif.Lemmas.LivenessKClosed
import RenetVerif.Lemmas.LivenessKClosed2
namespace RenetVerif.C01KC
open RenetVerif C RenetVerif.System RenetVerif.Live RenetVerif.LiveK RenetVerif.LiveKC

/-- **C01 liveness, k rounds (bytes, any messages), side conditions closed.**  Same conclusion as
    `C01K.k_round_delivery`.  Hypotheses: the standing ones; the SCHEDULE facts `RoundsSched` (timer, drain,
    `SchedBytes` = H4 + `B ≤ availAtTurn`, all/exact, `r.ks ≠ []`, `r.ai = ackIdx u`, B's flush is one datagram);
    the HEAD-ROOM `HeadRoom cfg s rs` on the initial state; `k ≥ 1`, `k * (B - SLICE_SIZE + 1) ≥ backlog`.
    DERIVED here for every round, assumed by C01K: `CountersOK cfg su`, `su.a.CountersOK`,
    `u.b.CountersOK`, `u.b.pendingAcks ≠ []`, and the per-round ack cap `su.b.pendingAcks.length + |r.ks| < 64`. -/
theorem k_round_delivery_closed (cfg : Cfg) (ops : List SysOp) (s : Sys) (hr : (Sys.init cfg).run ops = some s)
    (hda : s.a.isDisconnected = false) (hdb : s.b.isDisconnected = false)
    (ch : Nat) (ho : cfg.Ordered ch) (sA : SendRel) (hfA : SMap.find? s.a.sendRel ch = some sA)
    (rB : RecvRel) (hfB : SMap.find? s.b.recvRel ch = some rB) (H3 : Room (s.submitted ch) rB)
    (B : Nat) (hSB : SLICE_SIZE ≤ B)
    (rs : List RoundP) (hRS : RoundsSched ch (SchedBytes ch B) s rs) (hH : HeadRoom cfg s rs)
    (hk1 : rs ≠ []) (hk : backlog sA.unacked ≤ rs.length * (B - SLICE_SIZE + 1)) :
    ∃ u, s.run (roundsOps ch rs) = some u ∧ u.a.isDisconnected = false ∧ u.b.isDisconnected = false ∧
      u.submitted ch = s.submitted ch ∧ u.obtained ch = s.submitted ch :=
  C01K.k_round_delivery cfg ops s hr hda hdb ch ho sA hfA rB hfB H3 B hSB rs
    (rounds_of_sched cfg ch true ho (SchedBytes ch B) (fun _ _ _ h => h.1) rs ops s sA rB hr hda hdb hfA hfB H3 hRS hH)
    hk1 hk

/-- **Single-channel configuration, side conditions closed.**  Same conclusion as `C01K.k_round_delivery_single`; no
    scheduling hypothesis (`Sched = True`).  Hypotheses besides the standing ones: the schedule facts `RoundsSched`
    and the head-room `HeadRoom` on the initial state.  DERIVED, assumed by C01K: all per-round counter conditions
    (`CountersOK cfg su`, `su.a.CountersOK`, `u.b.CountersOK`), `u.b.pendingAcks ≠ []`, and the per-round ack cap. -/
theorem k_round_delivery_single_closed (cfg : Cfg) (ops : List SysOp) (s : Sys) (hr : (Sys.init cfg).run ops = some s)
    (hda : s.a.isDisconnected = false) (hdb : s.b.isDisconnected = false)
    (ch : Nat) (hsingle : Single cfg ch) (sA : SendRel) (hfA : SMap.find? s.a.sendRel ch = some sA)
    (rB : RecvRel) (hfB : SMap.find? s.b.recvRel ch = some rB) (H3 : Room (s.submitted ch) rB)
    (hSB : SLICE_SIZE ≤ cfg.budget)
    (rs : List RoundP) (hRS : RoundsSched ch (fun _ => True) s rs) (hH : HeadRoom cfg s rs)
    (hk1 : rs ≠ []) (hk : backlog sA.unacked ≤ rs.length * (cfg.budget - SLICE_SIZE + 1)) :
    ∃ u, s.run (roundsOps ch rs) = some u ∧ u.a.isDisconnected = false ∧ u.b.isDisconnected = false ∧
      u.submitted ch = s.submitted ch ∧ u.obtained ch = s.submitted ch :=
  C01K.k_round_delivery_single cfg ops s hr hda hdb ch hsingle sA hfA rB hfB H3 hSB rs
    (rounds_of_sched cfg ch true (single_ordered hsingle) (fun _ => True)
      (fun ops' su hr' _ => by
        obtain ⟨pkU, hU, -⟩ := system_inv cfg ops' su hr'
        exact single_only hU.invA.1 (single_order hsingle hU))
      rs ops s sA rB hr hda hdb hfA hfB H3 hRS hH)
    hk1 hk

/-- **C02 liveness, k rounds (ReliableUnordered channel), side conditions closed.**  Same conclusion as
    `C01K.k_round_delivery_unordered` (`obtained` is a permutation of `submitted`).  Hypotheses and derived side
    conditions as in `k_round_delivery_closed`. -/
theorem k_round_delivery_unordered_closed (cfg : Cfg) (ops : List SysOp) (s : Sys) (hr : (Sys.init cfg).run ops = some s)
    (hda : s.a.isDisconnected = false) (hdb : s.b.isDisconnected = false)
    (ch : Nat) (ho : cfg.Unordered ch) (sA : SendRel) (hfA : SMap.find? s.a.sendRel ch = some sA)
    (rB : RecvRel) (hfB : SMap.find? s.b.recvRel ch = some rB) (H3 : Room (s.submitted ch) rB)
    (B : Nat) (hSB : SLICE_SIZE ≤ B)
    (rs : List RoundP) (hRS : RoundsSched ch (SchedBytes ch B) s rs) (hH : HeadRoom cfg s rs)
    (hk1 : rs ≠ []) (hk : backlog sA.unacked ≤ rs.length * (B - SLICE_SIZE + 1)) :
    ∃ u, s.run (roundsOps ch rs) = some u ∧ u.a.isDisconnected = false ∧ u.b.isDisconnected = false ∧
      u.submitted ch = s.submitted ch ∧ (u.obtained ch).Perm (s.submitted ch) :=
  C01K.k_round_delivery_unordered cfg ops s hr hda hdb ch ho sA hfA rB hfB H3 B hSB rs
    (rounds_of_sched cfg ch false ho (SchedBytes ch B) (fun _ _ _ h => h.1) rs ops s sA rB hr hda hdb hfA hfB H3 hRS hH)
    hk1 hk

/-- **k rounds, cheap entries, side conditions closed** (`C01K.k_round_delivery_cost`). -/
theorem k_round_delivery_cost_closed (cfg : Cfg) (ops : List SysOp) (s : Sys) (hr : (Sys.init cfg).run ops = some s)
    (hda : s.a.isDisconnected = false) (hdb : s.b.isDisconnected = false)
    (ch : Nat) (ho : cfg.Ordered ch) (sA : SendRel) (hfA : SMap.find? s.a.sendRel ch = some sA)
    (rB : RecvRel) (hfB : SMap.find? s.b.recvRel ch = some rB) (H3 : Room (s.submitted ch) rB)
    (B c : Nat) (hcB : c ≤ B) (hcost : ∀ x ∈ sA.unacked, entryCost x.2 ≤ c)
    (rs : List RoundP) (hRS : RoundsSched ch (SchedBytes ch B) s rs) (hH : HeadRoom cfg s rs)
    (hk1 : rs ≠ []) (hk : backlog sA.unacked ≤ rs.length * (B - c + 1)) :
    ∃ u, s.run (roundsOps ch rs) = some u ∧ u.a.isDisconnected = false ∧ u.b.isDisconnected = false ∧
      u.submitted ch = s.submitted ch ∧ u.obtained ch = s.submitted ch :=
  C01K.k_round_delivery_cost cfg ops s hr hda hdb ch ho sA hfA rB hfB H3 B c hcB hcost rs
    (rounds_of_sched cfg ch true ho (SchedBytes ch B) (fun _ _ _ h => h.1) rs ops s sA rB hr hda hdb hfA hfB H3 hRS hH)
    hk1 hk

/-- **k rounds, entry count, side conditions closed** (`C01K.k_round_delivery_entries`). -/
theorem k_round_delivery_entries_closed (cfg : Cfg) (ops : List SysOp) (s : Sys) (hr : (Sys.init cfg).run ops = some s)
    (hda : s.a.isDisconnected = false) (hdb : s.b.isDisconnected = false)
    (ch : Nat) (ho : cfg.Ordered ch) (sA : SendRel) (hfA : SMap.find? s.a.sendRel ch = some sA)
    (rB : RecvRel) (hfB : SMap.find? s.b.recvRel ch = some rB) (H3 : Room (s.submitted ch) rB)
    (q : Nat) (rs : List RoundP) (hRS : RoundsSched ch (SchedCount ch q) s rs) (hH : HeadRoom cfg s rs)
    (hk1 : rs ≠ []) (hk : sA.unacked.length ≤ rs.length * q) :
    ∃ u, s.run (roundsOps ch rs) = some u ∧ u.a.isDisconnected = false ∧ u.b.isDisconnected = false ∧
      u.submitted ch = s.submitted ch ∧ u.obtained ch = s.submitted ch :=
  C01K.k_round_delivery_entries cfg ops s hr hda hdb ch ho sA hfA rB hfB H3 q rs
    (rounds_of_sched cfg ch true ho (SchedCount ch q) (fun _ _ _ h => h.1) rs ops s sA rB hr hda hdb hfA hfB H3 hRS hH)
    hk1 hk

/-! ## "B's flush is one datagram" derived (`RoundsSched2`, `HeadRoom2`) -/

/-- **C01 liveness, k rounds, side conditions closed (2).**  As `k_round_delivery_closed`; DERIVED in addition: the
    conjunct `(flushPk u.b).length = 1` of the schedule facts (B is idle in every reachable state), and B's
    head-room is `s.b.packetSeq + rs.length ≤ 2^62`.  REMAINING: standing hypotheses; `RoundsSched2` (timer, drain,
    `SchedBytes`, all/exact, `r.ks ≠ []`, `r.ai = ackIdx u`); `HeadRoom2` on the initial state. -/
theorem k_round_delivery_closed2 (cfg : Cfg) (ops : List SysOp) (s : Sys) (hr : (Sys.init cfg).run ops = some s)
    (hda : s.a.isDisconnected = false) (hdb : s.b.isDisconnected = false)
    (ch : Nat) (ho : cfg.Ordered ch) (sA : SendRel) (hfA : SMap.find? s.a.sendRel ch = some sA)
    (rB : RecvRel) (hfB : SMap.find? s.b.recvRel ch = some rB) (H3 : Room (s.submitted ch) rB)
    (B : Nat) (hSB : SLICE_SIZE ≤ B)
    (rs : List RoundP) (hRS : RoundsSched2 ch (SchedBytes ch B) s rs) (hH : HeadRoom2 cfg s rs)
    (hk1 : rs ≠ []) (hk : backlog sA.unacked ≤ rs.length * (B - SLICE_SIZE + 1)) :
    ∃ u, s.run (roundsOps ch rs) = some u ∧ u.a.isDisconnected = false ∧ u.b.isDisconnected = false ∧
      u.submitted ch = s.submitted ch ∧ u.obtained ch = s.submitted ch :=
  C01K.k_round_delivery cfg ops s hr hda hdb ch ho sA hfA rB hfB H3 B hSB rs
    (rounds_of_sched2 cfg ch true ho (SchedBytes ch B) (fun _ _ _ h => h.1) rs ops s sA rB hr hda hdb hfA hfB H3 hRS hH)
    hk1 hk

/-- **Single-channel configuration, side conditions closed (2).**  As `k_round_delivery_single_closed` with
    `RoundsSched2` / `HeadRoom2`: no scheduling hypothesis, no hypothesis on B's flush. -/
theorem k_round_delivery_single_closed2 (cfg : Cfg) (ops : List SysOp) (s : Sys) (hr : (Sys.init cfg).run ops = some s)
    (hda : s.a.isDisconnected = false) (hdb : s.b.isDisconnected = false)
    (ch : Nat) (hsingle : Single cfg ch) (sA : SendRel) (hfA : SMap.find? s.a.sendRel ch = some sA)
    (rB : RecvRel) (hfB : SMap.find? s.b.recvRel ch = some rB) (H3 : Room (s.submitted ch) rB)
    (hSB : SLICE_SIZE ≤ cfg.budget)
    (rs : List RoundP) (hRS : RoundsSched2 ch (fun _ => True) s rs) (hH : HeadRoom2 cfg s rs)
    (hk1 : rs ≠ []) (hk : backlog sA.unacked ≤ rs.length * (cfg.budget - SLICE_SIZE + 1)) :
    ∃ u, s.run (roundsOps ch rs) = some u ∧ u.a.isDisconnected = false ∧ u.b.isDisconnected = false ∧
      u.submitted ch = s.submitted ch ∧ u.obtained ch = s.submitted ch :=
  C01K.k_round_delivery_single cfg ops s hr hda hdb ch hsingle sA hfA rB hfB H3 hSB rs
    (rounds_of_sched2 cfg ch true (single_ordered hsingle) (fun _ => True)
      (fun ops' su hr' _ => by
        obtain ⟨pkU, hU, -⟩ := system_inv cfg ops' su hr'
        exact single_only hU.invA.1 (single_order hsingle hU))
      rs ops s sA rB hr hda hdb hfA hfB H3 hRS hH)
    hk1 hk

/-- **C02 liveness, k rounds (ReliableUnordered), side conditions closed (2).**  As `k_round_delivery_unordered_closed`
    with `RoundsSched2` / `HeadRoom2`. -/
theorem k_round_delivery_unordered_closed2 (cfg : Cfg) (ops : List SysOp) (s : Sys) (hr : (Sys.init cfg).run ops = some s)
    (hda : s.a.isDisconnected = false) (hdb : s.b.isDisconnected = false)
    (ch : Nat) (ho : cfg.Unordered ch) (sA : SendRel) (hfA : SMap.find? s.a.sendRel ch = some sA)
    (rB : RecvRel) (hfB : SMap.find? s.b.recvRel ch = some rB) (H3 : Room (s.submitted ch) rB)
    (B : Nat) (hSB : SLICE_SIZE ≤ B)
    (rs : List RoundP) (hRS : RoundsSched2 ch (SchedBytes ch B) s rs) (hH : HeadRoom2 cfg s rs)
    (hk1 : rs ≠ []) (hk : backlog sA.unacked ≤ rs.length * (B - SLICE_SIZE + 1)) :
    ∃ u, s.run (roundsOps ch rs) = some u ∧ u.a.isDisconnected = false ∧ u.b.isDisconnected = false ∧
      u.submitted ch = s.submitted ch ∧ (u.obtained ch).Perm (s.submitted ch) :=
  C01K.k_round_delivery_unordered cfg ops s hr hda hdb ch ho sA hfA rB hfB H3 B hSB rs
    (rounds_of_sched2 cfg ch false ho (SchedBytes ch B) (fun _ _ _ h => h.1) rs ops s sA rB hr hda hdb hfA hfB H3 hRS hH)
    hk1 hk

/-- **k rounds, cheap entries, side conditions closed (2)** -/
theorem k_round_delivery_cost_closed2 (cfg : Cfg) (ops : List SysOp) (s : Sys) (hr : (Sys.init cfg).run ops = some s)
    (hda : s.a.isDisconnected = false) (hdb : s.b.isDisconnected = false)
    (ch : Nat) (ho : cfg.Ordered ch) (sA : SendRel) (hfA : SMap.find? s.a.sendRel ch = some sA)
    (rB : RecvRel) (hfB : SMap.find? s.b.recvRel ch = some rB) (H3 : Room (s.submitted ch) rB)
    (B c : Nat) (hcB : c ≤ B) (hcost : ∀ x ∈ sA.unacked, entryCost x.2 ≤ c)
    (rs : List RoundP) (hRS : RoundsSched2 ch (SchedBytes ch B) s rs) (hH : HeadRoom2 cfg s rs)
    (hk1 : rs ≠ []) (hk : backlog sA.unacked ≤ rs.length * (B - c + 1)) :
    ∃ u, s.run (roundsOps ch rs) = some u ∧ u.a.isDisconnected = false ∧ u.b.isDisconnected = false ∧
      u.submitted ch = s.submitted ch ∧ u.obtained ch = s.submitted ch :=
  C01K.k_round_delivery_cost cfg ops s hr hda hdb ch ho sA hfA rB hfB H3 B c hcB hcost rs
    (rounds_of_sched2 cfg ch true ho (SchedBytes ch B) (fun _ _ _ h => h.1) rs ops s sA rB hr hda hdb hfA hfB H3 hRS hH)
    hk1 hk

/-- **k rounds, entry count, side conditions closed (2)** -/
theorem k_round_delivery_entries_closed2 (cfg : Cfg) (ops : List SysOp) (s : Sys) (hr : (Sys.init cfg).run ops = some s)
    (hda : s.a.isDisconnected = false) (hdb : s.b.isDisconnected = false)
    (ch : Nat) (ho : cfg.Ordered ch) (sA : SendRel) (hfA : SMap.find? s.a.sendRel ch = some sA)
    (rB : RecvRel) (hfB : SMap.find? s.b.recvRel ch = some rB) (H3 : Room (s.submitted ch) rB)
    (q : Nat) (rs : List RoundP) (hRS : RoundsSched2 ch (SchedCount ch q) s rs) (hH : HeadRoom2 cfg s rs)
    (hk1 : rs ≠ []) (hk : sA.unacked.length ≤ rs.length * q) :
    ∃ u, s.run (roundsOps ch rs) = some u ∧ u.a.isDisconnected = false ∧ u.b.isDisconnected = false ∧
      u.submitted ch = s.submitted ch ∧ u.obtained ch = s.submitted ch :=
  C01K.k_round_delivery_entries cfg ops s hr hda hdb ch ho sA hfA rB hfB H3 q rs
    (rounds_of_sched2 cfg ch true ho (SchedCount ch q) (fun _ _ _ h => h.1) rs ops s sA rB hr hda hdb hfA hfB H3 hRS hH)
    hk1 hk

/-! ## non-vacuity: the example `C01K.ExS` (3000 bytes per tick vs. a 3700-byte sliced message, backlog 4803, `k = 3`)

  The schedule facts are evaluated along the run, the head-room on the initial state (both in `C01K.ExS.all`, Props/
  C01KRuns.lean): `kTotal [r1, r2, r3] = 3 + 3 + 1 = 7`, A's and B's packet sequences are 0, B's pending list is empty:
  `0 + 7 + 3 ≤ 2^62`, `0 + 6 ≤ 2^62`, `0 + 7 < 64`. -/
namespace ExS
open C01K.ExS

theorem roundsSched : RoundsSched 0 (fun _ => True) s [r1, r2, r3] := all.2.1.1

theorem headRoom : HeadRoom cfg s [r1, r2, r3] := all.2.1.2.1.1

/-- the numbers behind `headRoom` -/
example : kTotal [r1, r2, r3] = 7 ∧ s.a.packetSeq = 0 ∧ s.b.packetSeq = 0 ∧ s.b.pendingAcks = [] := all.2.1.2.2

/-- **`k_round_delivery_single_closed` applied with `k = 3`**: `4803 ≤ 3 * (3000 - 1200 + 1)` -/
theorem delivered : ∃ u, s.run (roundsOps 0 [r1, r2, r3]) = some u ∧ u.a.isDisconnected = false ∧
    u.b.isDisconnected = false ∧ u.submitted 0 = s.submitted 0 ∧ u.obtained 0 = s.submitted 0 :=
  k_round_delivery_single_closed cfg ops s run_s start.1 start.2.1 0 single0 sA find_sA rB find_rB start.2.2.1 (by decide)
    [r1, r2, r3] roundsSched headRoom (by simp) (by rw [start.2.2.2.1]; decide)

/-- the schedule facts WITHOUT "B's flush is one datagram" … -/
theorem roundsSched2 : RoundsSched2 0 (fun _ => True) s [r1, r2, r3] := roundsSched2_of_roundsSched _ _ roundsSched

/-- … and the head-room with one datagram of B per round: `0 + 7 + 3 ≤ 2^62`, `0 + 3 ≤ 2^62`, `0 + 7 < 64` -/
theorem headRoom2 : HeadRoom2 cfg s [r1, r2, r3] := all.2.1.2.1.2

/-- **`k_round_delivery_single_closed2` applied with `k = 3`** -/
theorem delivered2 : ∃ u, s.run (roundsOps 0 [r1, r2, r3]) = some u ∧ u.a.isDisconnected = false ∧
    u.b.isDisconnected = false ∧ u.submitted 0 = s.submitted 0 ∧ u.obtained 0 = s.submitted 0 :=
  k_round_delivery_single_closed2 cfg ops s run_s start.1 start.2.1 0 single0 sA find_sA rB find_rB start.2.2.1 (by decide)
    [r1, r2, r3] roundsSched2 headRoom2 (by simp) (by rw [start.2.2.2.1]; decide)

end ExS

/-! `C01K.ExU` — ReliableUnordered channel, datagrams handed over in reverse order, one of them twice in round 2
    (`r2.ks = [5, 4, 3, 4]`): repetitions count in `kTotal = 3 + 4 + 1 = 8`. -/
namespace ExU
open C01K.ExU

theorem roundsSched : RoundsSched 0 (SchedBytes 0 3000) s [r1, r2, r3] := all.2.1.1

theorem headRoom : HeadRoom cfg s [r1, r2, r3] := all.2.1.2.1

/-- **`k_round_delivery_unordered_closed` applied with `B = 3000`, `k = 3`** -/
theorem delivered : ∃ u, s.run (roundsOps 0 [r1, r2, r3]) = some u ∧ u.a.isDisconnected = false ∧
    u.b.isDisconnected = false ∧ u.submitted 0 = s.submitted 0 ∧ (u.obtained 0).Perm (s.submitted 0) :=
  k_round_delivery_unordered_closed cfg ops s run_s start.1 start.2.1 0 unordered0 sA find_sA rB find_rB start.2.2.1 3000
    (by decide) [r1, r2, r3] roundsSched headRoom (by simp) (by rw [start.2.2.2.1]; decide)

/-- **`k_round_delivery_unordered_closed2`** on the same run (`RoundsSched2` from `RoundsSched`) -/
theorem delivered2 : ∃ u, s.run (roundsOps 0 [r1, r2, r3]) = some u ∧ u.a.isDisconnected = false ∧
    u.b.isDisconnected = false ∧ u.submitted 0 = s.submitted 0 ∧ (u.obtained 0).Perm (s.submitted 0) :=
  k_round_delivery_unordered_closed2 cfg ops s run_s start.1 start.2.1 0 unordered0 sA find_sA rB find_rB start.2.2.1 3000
    (by decide) [r1, r2, r3] (roundsSched2_of_roundsSched _ _ roundsSched) all.2.1.2.2.1 (by simp)
    (by rw [start.2.2.2.1]; decide)

end ExU

end RenetVerif.C01KC
