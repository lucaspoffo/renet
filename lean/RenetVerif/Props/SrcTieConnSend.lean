/-
  Source tie, group ConnSend: `renet/src/remote_connection.rs` `RenetClient::get_packets_to_send`
  ↔ `Conn.getPacketsToSend` of `Renet/Conn.lean`.

  The whole function is covered: the early return of a disconnected client, the loop over `channel_send_order`
  (`get_mut(channel_id).unwrap()` on the send tables, the calls into `SendChannelReliable::get_packets_to_send` /
  `SendChannelUnreliable::get_packets_to_send` with the shared packet sequence and byte budget, `append`), the ack
  packet, the `sent_packets` bookkeeping (one entry per packet; `ack_ranges.last().unwrap()`, `last_range.end - 1`)
  and the serialisation of every packet through `Packet::to_bytes` into the 1400-byte scratch buffer
  (`OctetsMut::with_slice(&mut buffer)`, `bytes_sent += len as u64`, `buffer[..len].to_vec()`), a serialisation error
  disconnecting the client and returning no packets.  The statistics statement
  (`self.stats.sent_packets(..)`, an ignored field) is dropped.
  `reprConn mrs c` as in `SrcTieConn.lean`; the result is the new client and the serialised packets.
-/
import RenetVerif.Lemmas.SrcEquiv.ConnSend
namespace RenetVerif.SrcTie
open RenetVerif RenetVerif.SrcEquiv RenetVerif.RustSem
open Src.renet.remote_connection

/-- `SendOk c` (decidable along the model's run): what keeps the Rust integers in range —
    * `ChanLoopOk`: for each channel of the send order, in the state the model's loop reaches it: the hypotheses of the
      channel theorems (`SrcTieSendRel` / `SrcTieSendUnrel`: unacked entries well formed against the clock, the
      packet sequence has room for the packets that will be built, memory counters consistent);
    * after the loop: the sequence has room for the ack packet, every packet of the tick has a defined model
      encoding (varints `< 2^62`, ack ranges non-empty and ordered) and `bytes_sent: u64` cannot overflow.
    A missing channel, an empty or zero-ended last ack range are NOT excluded: both sides panic there. -/
theorem conn_get_packets_to_send {ε : Type} (mrs : Nat → Nat) (c : Conn) (hok : SendOk c) :
    SameOutcome (RenetClient.get_packets_to_send (reprConn mrs c) : Res ε _)
      (mapRes (fun x => (reprConn mrs x.1, x.2.map toNats)) (fun e => nomatch e) c.getPacketsToSend) := by
  unfold RenetClient.get_packets_to_send Conn.getPacketsToSend
  simp only [conn_is_disconnected, Exec.call_ok, Exec.bind_eq, Exec.pure_eq, Exec.bind_val']
  cases hd : c.isDisconnected with
  | true => rfl
  | false =>
    simp only [Bool.false_eq_true, if_false, Exec.bind_val']
    refine (forEach_follows (R := fun t st => t = chanSt mrs c st) reprOrd (fun st o => Conn.chanLoop c.now [o] st)
      (fun st l => Conn.chanLoop c.now l st) (fun st l => ChanLoopOk c.now l st) _ (fun _ => rfl)
      (fun st o l => chanLoop_cons c.now o l st) (fun st o l st' => chanLoopOk_cons c.now o l st st') ?_ c.order rfl _ _
      hok.1 rfl).elim ?_ fun _ _ => trivial
    · rintro ⟨sr, su, pk, seq, avail⟩ ⟨rel, ch⟩ rest _ hok1 rfl
      cases rel with
      | true =>
        simp only [reprOrd, if_true, chanSt, connW, Conn.chanLoop, RustSem.Map.index, find_mapVals]
        cases hf : SMap.find? sr ch with
        | none => exact ⟨_, rfl⟩
        | some s =>
          obtain ⟨hwf, hseq, _⟩ := hok1 s hf
          simp only [Option.map_some, Exec.bind_val', send_rel_get_packets_to_send s seq avail c.now hwf hseq, Exec.call_ok,
            insert_mapVals, RustSem.extend_from_slice]
          exact ⟨_, rfl, by simp only [List.map_append]⟩
      | false =>
        simp only [reprOrd, Bool.false_eq_true, if_false, chanSt, connW, Conn.chanLoop, RustSem.Map.index, find_mapVals]
        cases hf : SMap.find? su ch with
        | none => exact ⟨_, rfl⟩
        | some s =>
          obtain ⟨h1, h2, h3, h4, _⟩ := hok1 s hf
          simp only [Option.map_some, Exec.bind_val', send_unrel_get_packets_to_send s seq avail ⟨h1, h2, h3, h4⟩, Exec.call_ok,
            insert_mapVals, RustSem.extend_from_slice]
          exact ⟨_, rfl, by simp only [List.map_append]⟩
    rintro _ ⟨sr, su, pk, seq, avail⟩ hcl rfl
    obtain ⟨hseq1, henc, hlen⟩ := hok.2 sr su pk seq avail hcl
    simp only [chanSt, Exec.bind_val', Res.bind_ok]
    -- the ack packet
    rw [Exec.bind_skip _ _ ((tickPackets c pk seq).map reprPacket,
      connW mrs c sr su (if c.pendingAcks.isEmpty then seq else seq + 1) c.sent) ?hack]
    case hack =>
      have he : RustSem.is_empty (connW mrs c sr su seq c.sent).pending_acks = c.pendingAcks.isEmpty := by
        simp only [connW, RustSem.is_empty]; cases c.pendingAcks <;> rfl
      rw [he]
      cases hpe : c.pendingAcks.isEmpty with
      | true => simp [tickPackets, hpe]
      | false =>
        simp only [Bool.not_false, if_true, connW, add_val hseq1, Exec.bind_val', tickPackets, hpe,
          Bool.false_eq_true, if_false, RustSem.push, List.map_append, List.map_cons, List.map_nil, reprPacket]
        rfl
    have htp : (if c.pendingAcks.isEmpty then (pk, seq) else (pk ++ [Packet.ack seq c.pendingAcks], seq + 1))
        = (tickPackets c pk seq, if c.pendingAcks.isEmpty then seq else seq + 1) := by
      unfold tickPackets; split <;> rfl
    rw [htp]
    generalize (if c.pendingAcks.isEmpty then seq else seq + 1) = seq'
    have hnow : (connW mrs c sr su seq' c.sent).current_time = c.now := rfl
    simp only [hnow]
    refine (forEach_follows (R := fun t sent => t = connW mrs c sr su seq' sent) reprPacket
      (fun sent p => Conn.recordSent c.now [p] sent) (fun sent l => Conn.recordSent c.now l sent) (fun _ _ => True) _
      (fun _ => rfl) (fun sent p l => recordSent_cons c.now p l sent) (fun _ _ _ _ _ _ => trivial) ?_
      (tickPackets c pk seq) rfl c.sent _ trivial rfl).elim ?_ fun _ _ => trivial
    · rintro sent p _ _ _ rfl
      cases p with
      | smallReliable sq ch msgs =>
        refine ⟨_, rfl, ?_⟩
        simp only [List.map_map]
        exact connW_record mrs c sr su seq' sent sq c.now (.relMsgs ch (msgs.map (·.1)))
      | reliableSlice sq ch sl => exact ⟨_, rfl, connW_record mrs c sr su seq' sent sq c.now (.relSlice ch sl.messageId sl.sliceIndex)⟩
      | smallUnreliable sq ch msgs => exact ⟨_, rfl, connW_record mrs c sr su seq' sent sq c.now .none⟩
      | unreliableSlice sq ch sl => exact ⟨_, rfl, connW_record mrs c sr su seq' sent sq c.now .none⟩
      | ack sq ranges =>
        simp only [reprPacket, connW, Conn.recordSent, Conn.sentInfoOf,
          Packet.sequence, List.getLast?_map]
        cases hl : ranges.getLast? with
        | none => exact ⟨_, rfl⟩
        | some r =>
          obtain ⟨a, e⟩ := r
          simp only [Option.map_some, RustSem.unwrap, Exec.bind_val', reprRange, Res.csub, RustSem.sub]
          by_cases h1 : 1 ≤ e
          · simp only [h1, if_true, Exec.bind_val', Res.bind_ok, Res.pure_eq]
            exact ⟨_, rfl, connW_record mrs c sr su seq' sent sq c.now (.ack (e - 1))⟩
          · simp only [h1, if_false, Exec.bind_panic', Res.bind_panic]
            exact ⟨_, rfl⟩
    rintro _ sent' _ rfl
    simp only [Exec.bind_val', Res.bind_ok]
    generalize hc' : (⟨seq', c.now, sent', c.pendingAcks, c.order, su, c.recvUnrel, sr, c.recvRel, c.budget, c.status⟩ : Conn) = c'
    rw [show connW mrs c sr su seq' sent' = reprConn mrs c' by rw [← hc']; rfl]
    have hS : C.SER_BUFFER = 1400 := rfl
    generalize hfs : RustSem.forEach _ _ _ = fs
    refine ser_loop (reprConn mrs c') (fun e => reprConn mrs (c'.disconnectWith (.packetSer e))) _ (tickPackets c pk seq)
      (RustSem.repeat_ 0 1400) 0 fs (Conn.serialiseAll (tickPackets c pk seq)) hfs rfl (List.length_replicate ..) henc ?_ ?_
      (fun _ _ bs => rfl) fun e => rfl
    · have : (tickPackets c pk seq).length ≤ pk.length + 1 := by
        unfold tickPackets; split <;> simp
      have := Nat.mul_le_mul_right C.SER_BUFFER this
      omega
    intro p buf total bs bytes hbuf hp htot
    have h := SrcEquiv.to_bytes_eq p (OctetsMut.with_slice buf) (Nat.zero_le _) bytes hp
    simp only [SrcEquiv.finish, OctetsMut.with_slice, Nat.zero_add, toNats_length, hbuf] at h
    by_cases hfit : bytes.length ≤ C.SER_BUFFER
    · rw [if_pos hfit] at h
      rw [if_pos hfit]
      simp only [OctetsMut.with_slice, attempt_forget_ok _ _ _ h, Exec.bind_val']
      have hlt : bytes.length < 2 ^ 64 := by rw [hS] at hfit; omega
      have hadd : total + bytes.length < 2 ^ 64 := by rw [hS] at hfit htot; omega
      simp only [cast_of_lt hlt, add_val hadd, Exec.bind_val']
      have hob : (owrite { buf := buf, off := 0 } (toNats bytes)).buf = bufAfter buf bytes := by
        simp [owrite, WBuf.put, bufAfter, toNats_length]
      have hsl : ∀ site, (RustSem.slice (bufAfter buf bytes) 0 bytes.length site
          : Exec ε (RenetClient × List (List Nat)) _) = .val (toNats bytes) := by
        intro site
        have hl : bytes.length ≤ (bufAfter buf bytes).length := by
          simp only [bufAfter, List.length_append, toNats_length]; omega
        have ht : List.take bytes.length (bufAfter buf bytes) = toNats bytes := by
          simp only [bufAfter]
          rw [List.take_append_of_le_length (by rw [toNats_length]; exact Nat.le_refl _), List.take_of_length_le]
          rw [toNats_length]; exact Nat.le_refl _
        simp [RustSem.slice, hl, ht]
      simp only [hob, hsl, Exec.bind_val', RustSem.push, List.map_append, List.map_cons, List.map_nil]
    · rw [if_neg hfit] at h
      rw [if_neg hfit]
      obtain ⟨s', hs'⟩ := attempt_forget_err (ε := ε) (ρ := RenetClient × List (List Nat)) _ _ h
      simp only [OctetsMut.with_slice] at hs' ⊢
      rw [hs']
      have hd := conn_disconnect_with_reason (ε := ε) mrs c' (.packetSer .bufferTooShort)
      simp only [reprReason, reprSerErr] at hd
      simp only [Exec.bind_val', hd, Exec.call_ok, Exec.bind_ret']

/-- a connected client at t = 1000 ns, next packet sequence 5: one reliable channel with one queued, never sent message
    and the pending ack range 3..5 -/
def exSend : RenetClient :=
  ⟨5, 1000, [], [⟨3, 5⟩], [.Reliable 1], [], [], [(1, ⟨1, [(0, .Small [7, 8] none)], 1, 100, 4, 2⟩)], [], 60000, .Connected⟩

/-- packet 5 carries the message (now marked as sent at 1000), packet 6 the acks; both are recorded in `sent_packets` -/
example : (RenetClient.get_packets_to_send exSend : Res Empty _) =
    .ok ({ exSend with
            packet_sequence := 7,
            sent_packets := [(5, ⟨1000, .ReliableMessages 1 [0]⟩), (6, ⟨1000, .Ack 4⟩)],
            send_reliable_channels := [(1, ⟨1, [(0, .Small [7, 8] (some 1000))], 1, 100, 4, 2⟩)] },
         [[0, 5, 1, 0, 1, 0, 2, 7, 8], [4, 6, 4, 1, 0]]) := by decide +kernel
/-- a disconnected client sends nothing and does not change -/
example : (RenetClient.get_packets_to_send { exSend with connection_status := .Disconnected .Transport } : Res Empty _) =
    .ok ({ exSend with connection_status := .Disconnected .Transport }, []) := by decide +kernel
/-- a channel of the send order that is missing from the table: `unwrap()` panics -/
example : ∃ s, (RenetClient.get_packets_to_send { exSend with channel_send_order := [.Reliable 2] } : Res Empty _) = .panic s :=
  ⟨_, rfl⟩
/-- a last ack range ending at 0: `last_range.end - 1` underflows -/
example : ∃ s, (RenetClient.get_packets_to_send { exSend with pending_acks := [⟨0, 0⟩] } : Res Empty _) = .panic s :=
  ⟨_, rfl⟩

end RenetVerif.SrcTie
