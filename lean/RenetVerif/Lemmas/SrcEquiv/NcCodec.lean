/-
  Sealing / opening on top of the (de)serialisers (group NcCodec): `Packet::{encode, decode, generate_challenge}`,
  `ChallengeToken::decode`, `PrivateConnectToken::{encode, decode}` against `Netcode/Wire.lean` / `Netcode/Token.lean`.
  The AEAD is the abstract parameter of both sides: the model's `a : AEAD` (over `Bytes`) instantiates the generated
  code's `[RustSem.Aead]` (over `List Nat`) through `aeadOf a`.
-/
import RenetVerif.Generated.Src.NcCodec
import RenetVerif.Netcode.Token
import RenetVerif.Lemmas.SrcEquiv.Prims
import RenetVerif.Lemmas.SrcEquiv.IoCursor
import RenetVerif.Lemmas.SrcEquiv.NcSerialize
import RenetVerif.Lemmas.SrcEquiv.NcSequence
import RenetVerif.Lemmas.SrcEquiv.NcToken
import RenetVerif.Lemmas.SrcEquiv.NcConnToken
import RenetVerif.Lemmas.SrcEquiv.NcPacket
import RenetVerif.Lemmas.SrcEquiv.Replay
import RenetVerif.Lemmas.SrcEquiv.Prefix
import RenetVerif.Props.SrcTieNcPacket
namespace RenetVerif.SrcEquiv
open RenetVerif RenetVerif.RustSem RenetVerif.Netcode

section NcCodec

@[reducible] def aeadOf (a : AEAD) : RustSem.Aead where
  «seal» k n ad p := toNats (a.seal (ofNats k) (ofNats n) (ofNats ad) (ofNats p))
  «open» k n ad c := (a.open (ofNats k) (ofNats n) (ofNats ad) (ofNats c)).map toNats
  xseal k n ad p := toNats (a.xseal (ofNats k) (ofNats n) (ofNats ad) (ofNats p))
  xopen k n ad c := (a.xopen (ofNats k) (ofNats n) (ofNats ad) (ofNats c)).map toNats

theorem aead_seal_eq (a : AEAD) (k n ad p : List Nat) :
    @Aead.seal (aeadOf a) k n ad p = toNats (a.seal (ofNats k) (ofNats n) (ofNats ad) (ofNats p)) := rfl
theorem aead_open_eq (a : AEAD) (k n ad c : List Nat) :
    @Aead.open (aeadOf a) k n ad c = (a.open (ofNats k) (ofNats n) (ofNats ad) (ofNats c)).map toNats := rfl
theorem aead_xseal_eq (a : AEAD) (k n ad p : List Nat) :
    @Aead.xseal (aeadOf a) k n ad p = toNats (a.xseal (ofNats k) (ofNats n) (ofNats ad) (ofNats p)) := rfl
theorem aead_xopen_eq (a : AEAD) (k n ad c : List Nat) :
    @Aead.xopen (aeadOf a) k n ad c = (a.xopen (ofNats k) (ofNats n) (ofNats ad) (ofNats c)).map toNats := rfl

theorem crypto_nonce_eq (sequence : Nat) : RustSem.crypto_nonce sequence = toNats (Packet.nonce sequence) := by
  simp [RustSem.crypto_nonce, Packet.nonce, to_le_bytes64, toNats]

/-- `encrypt_in_place` on `plain ‖ 16 bytes` -/
theorem encrypt_in_place_eq (a : AEAD) (buffer : Bytes) (sequence : Nat) (key aad : Bytes) (h : 16 ≤ buffer.length) :
    @RustSem.encrypt_in_place (aeadOf a) (toNats buffer) sequence (toNats key) (toNats aad)
      = .ok (toNats (Packet.sealBody a key sequence aad (buffer.take (buffer.length - 16))), ()) := by
  have hn : ¬ buffer.length < 16 := by omega
  simp only [RustSem.encrypt_in_place, toNats_length, hn, if_false, aead_seal_eq, crypto_nonce_eq, ofNats_toNats, Packet.sealBody,
    toNats_length, ← toNats_take]

theorem dencrypted_in_place_eq (a : AEAD) (buffer : Bytes) (sequence : Nat) (key aad : Bytes) :
    @RustSem.dencrypted_in_place (aeadOf a) (toNats buffer) sequence (toNats key) (toNats aad)
      = if buffer.length < 16 then .panic "renetcode/src/crypto.rs:dencrypted_in_place: buffer.len() - NETCODE_MAC_BYTES"
        else match a.open key (Packet.nonce sequence) aad buffer with
          | some p => .ok (toNats (p ++ buffer.drop (buffer.length - 16)), ())
          | none => .err (.opaque, toNats buffer) := by
  simp only [RustSem.dencrypted_in_place, aead_open_eq, crypto_nonce_eq, ofNats_toNats, toNats_length]
  by_cases h : buffer.length < 16
  · simp [h]
  · simp only [h, if_false]
    cases a.open key (Packet.nonce sequence) aad buffer <;> simp [toNats_append, toNats_drop]


abbrev SNErr := Src.renetcode.error.NetcodeError
abbrev STGErr := Src.renetcode.token.TokenGenerationError

def reprTGE : TokenGenErr → STGErr
  | .maxHostCount => .MaxHostCount
  | .cryptoError => .CryptoError
  | .ioError => .IoError .opaque
  | .noServerAddressAvailable => .NoServerAddressAvailable

def reprDR : DisconnectReason → Src.renetcode.client.DisconnectReason
  | .connectTokenExpired => .ConnectTokenExpired
  | .connectionTimedOut => .ConnectionTimedOut
  | .connectionResponseTimedOut => .ConnectionResponseTimedOut
  | .connectionRequestTimedOut => .ConnectionRequestTimedOut
  | .connectionDenied => .ConnectionDenied
  | .disconnectedByClient => .DisconnectedByClient
  | .disconnectedByServer => .DisconnectedByServer

/-- model error ↦ generated `NetcodeError` (the payload of `IoError` is the one-point `io::Error`) -/
def reprNErr : NetcodeError → SNErr
  | .unavailablePrivateKey => .UnavailablePrivateKey
  | .invalidPacketType => .InvalidPacketType
  | .invalidProtocolID => .InvalidProtocolID
  | .invalidVersion => .InvalidVersion
  | .packetTooSmall => .PacketTooSmall
  | .payloadAboveLimit => .PayloadAboveLimit
  | .duplicatedSequence => .DuplicatedSequence
  | .noMoreServers => .NoMoreServers
  | .expired => .Expired
  | .disconnected r => .Disconnected (reprDR r)
  | .cryptoError => .CryptoError
  | .notInHostList => .NotInHostList
  | .clientNotFound => .ClientNotFound
  | .clientNotConnected => .ClientNotConnected
  | .ioError => .IoError .opaque
  | .tokenGenerationError e => .TokenGenerationError (reprTGE e)


theorem copy_whole {ε ρ α : Type} (l src : List α) (site : String) (h : src.length = l.length) :
    (RustSem.copy_from_slice l 0 (RustSem.len l) src site : Exec ε ρ _) = .val src := by
  have hc : 0 ≤ RustSem.len l ∧ RustSem.len l ≤ l.length ∧ src.length = RustSem.len l - 0 := by
    simp [RustSem.len, h]
  simp only [RustSem.copy_from_slice, hc, and_self, if_true]
  simp [RustSem.len]

/-- `let mut out = [0; n]; out.copy_from_slice(b)` -/
theorem copy_zeroed {ε ρ : Type} (n : Nat) (b : Bytes) (h : b.length = n) (site : String) :
    (RustSem.copy_from_slice (RustSem.repeat_ 0 n) 0 (RustSem.len (RustSem.repeat_ 0 n)) (toNats b) site : Exec ε ρ _)
      = .val (toNats b) :=
  copy_whole _ _ _ (by rw [toNats_length, RustSem.repeat_, List.length_replicate, h])

theorem ne_from_crypto {ε : Type} (e : CryptoError) :
    (Src.renetcode.error.NetcodeError.from_CryptoError e : Res ε _) = .ok .CryptoError := rfl
theorem ne_from_io {ε : Type} (e : IoError) :
    (Src.renetcode.error.NetcodeError.from_Error e : Res ε _) = .ok (.IoError e) := rfl

theorem wcur_new (n : Nat) : RustSem.WriteCursor.new (RustSem.repeat_ 0 n) = wcur (Wr.new n) (List.replicate n 0) := by
  simp [RustSem.WriteCursor.new, RustSem.repeat_, wcur, Wr.new, toNats]

theorem wrok_new (n : Nat) : WrOk (Wr.new n) (List.replicate n 0) := by simp [WrOk, Wr.new]

theorem wcur_buf_zero (w : Wr) (n k : Nat) (hk : k = w.out.length) :
    (wcur w ((List.replicate n (0 : Nat)).drop k)).buf = toNats (w.out ++ List.replicate (n - w.out.length) 0) := by
  subst hk
  simp [wcur, toNats_append, toNats_replicate, List.drop_replicate]


theorem tge_from_crypto {ε : Type} (e : CryptoError) :
    (Src.renetcode.token.TokenGenerationError.from_CryptoError e : Res ε _) = .ok .CryptoError := rfl
theorem tge_from_io {ε : Type} (e : IoError) :
    (Src.renetcode.token.TokenGenerationError.from_Error e : Res ε _) = .ok (.IoError e) := rfl

theorem encrypt_in_place_xnonce_eq (a : AEAD) (buffer xnonce key aad : Bytes) (h : 16 ≤ buffer.length) :
    @RustSem.encrypt_in_place_xnonce (aeadOf a) (toNats buffer) (toNats xnonce) (toNats key) (toNats aad)
      = .ok (toNats (a.xseal key xnonce aad (buffer.take (buffer.length - 16))), ()) := by
  have hn : ¬ buffer.length < 16 := by omega
  simp only [RustSem.encrypt_in_place_xnonce, toNats_length, hn, if_false, aead_xseal_eq, ofNats_toNats, ← toNats_take]

theorem dencrypted_in_place_xnonce_eq (a : AEAD) (buffer xnonce key aad : Bytes) :
    @RustSem.dencrypted_in_place_xnonce (aeadOf a) (toNats buffer) (toNats xnonce) (toNats key) (toNats aad)
      = if buffer.length < 16 then .panic "renetcode/src/crypto.rs:dencrypted_in_place_xnonce: buffer.len() - NETCODE_MAC_BYTES"
        else match a.xopen key xnonce aad buffer with
          | some p => .ok (toNats (p ++ buffer.drop (buffer.length - 16)), ())
          | none => .err (.opaque, toNats buffer) := by
  simp only [RustSem.dencrypted_in_place_xnonce, aead_xopen_eq, ofNats_toNats, toNats_length]
  by_cases h : buffer.length < 16
  · simp [h]
  · simp only [h, if_false]
    cases a.xopen key xnonce aad buffer <;> simp [toNats_append, toNats_drop]

theorem rd_ok_inv {ε σ γ β : Type} {r : Res (ε × σ) (γ × β)} {v : β} (h : mapRes (fun x => x.2) id r.forget = .ok v) :
    ∃ c, r = .ok (c, v) := by
  rcases r with ⟨c, v'⟩ | x | m <;> cases h
  exact ⟨c, rfl⟩
theorem rd_err_inv {ε σ γ β : Type} {r : Res (ε × σ) (γ × β)} {e : ε} (h : mapRes (fun x => x.2) id r.forget = .err e) :
    ∃ st, r = .err (e, st) := by
  rcases r with x | ⟨e', st⟩ | m <;> cases h
  exact ⟨st, rfl⟩

/-- outcome of `Packet::encode` into `buffer` (its length = the model's `cap`): the length and the encoded prefix of the
    buffer; an `Err` carries some buffer state -/
def EncOut (cap : Nat) (m : NRes Bytes) (g : Res (SNErr × List Nat) (List Nat × Nat)) : Prop :=
  match m with
  | .ok bytes => ∃ buf', g = .ok (buf', bytes.length) ∧ buf'.take bytes.length = toNats bytes ∧ buf'.length = cap
  | .err e => ∃ st, g = .err (reprNErr e, st) ∧ st.length = cap
  | .panic _ => ∃ msg, g = .panic msg

/-- an elimination rule rather than a disjunction: `cases` with a large goal as its motive is slow -/
theorem EncOut.elim {cap : Nat} {m : NRes Bytes} {g : Res (SNErr × List Nat) (List Nat × Nat)} {P : Prop} (h : EncOut cap m g)
    (hok : ∀ bytes buf', m = .ok bytes → g = .ok (buf', bytes.length) → buf'.take bytes.length = toNats bytes →
      buf'.length = cap → P)
    (herr : ∀ e st, m = .err e → g = .err (reprNErr e, st) → st.length = cap → P)
    (hpanic : ∀ mm msg, m = .panic mm → g = .panic msg → P) : P := by
  cases m with
  | ok bytes => obtain ⟨buf', hg, h1, h2⟩ := h; exact hok bytes buf' rfl hg h1 h2
  | err e => obtain ⟨st, hg, hs⟩ := h; exact herr e st rfl hg hs
  | panic mm => obtain ⟨msg, hg⟩ := h; exact hpanic mm msg rfl hg

theorem wcur_of_buffer (b : List Nat) : RustSem.WriteCursor.new b = wcur (Wr.new b.length) b := by
  simp [RustSem.WriteCursor.new, wcur, Wr.new, toNats]
theorem wrok_of_buffer (b : List Nat) : WrOk (Wr.new b.length) b := by simp [WrOk, Wr.new]

theorem to_le_bytes8 (x : UInt8) : RustSem.to_le_bytes 8 x.toNat = toNats [x] := by
  have h : x.toNat < 256 := x.toNat_lt
  simp [RustSem.to_le_bytes, RustSem.leBytes, toNats, Nat.mod_eq_of_lt h]

theorem ext_write (w : Wr) (b : Bytes) : Ext w (w.write b).1 := by
  refine ⟨rfl, ⟨b.take (min b.length (w.cap - w.out.length)), rfl⟩, fun h => ?_⟩
  simp only [Wr.write, List.length_append, List.length_take]
  omega

/-- list bookkeeping of the in-place seal: `B` is the buffer, `[s, e)` the plaintext, `sealed` what `seal` returned -/
theorem seal_splice {α : Type} (B sealed : List α) (s e : Nat) (hse : s ≤ e) (he : e + 16 ≤ B.length)
    (hs : sealed.length = (e - s) + 16) :
    (B.take s ++ sealed ++ B.drop (e + 16)).take ((B.take e).take s ++ sealed).length = (B.take e).take s ++ sealed ∧
    (B.take s ++ sealed ++ B.drop (e + 16)).length = B.length ∧
    ((B.take e).take s ++ sealed).length = e + 16 ∧
    ((B.take (e + 16)).drop s).take (((B.take (e + 16)).drop s).length - 16) = (B.take e).drop s := by
  have h1 : (B.take e).take s = B.take s := by rw [List.take_take]; congr 1; omega
  refine ⟨?_, ?_, ?_, ?_⟩
  · rw [h1]; exact List.take_left' rfl
  · simp only [List.length_append, List.length_take, List.length_drop, hs]; omega
  · rw [h1]; simp only [List.length_append, List.length_take, hs]; omega
  · have hl : ((B.take (e + 16)).drop s).length = e + 16 - s := by simp; omega
    rw [hl]
    have : e + 16 - s - 16 = e - s := by omega
    rw [this]
    simp only [List.drop_take, List.take_take]
    congr 1
    omega

/-- `encrypt_in_place` on `plain ‖ 16 arbitrary numbers` (the tag area is overwritten, its old content is not read) -/
theorem encrypt_in_place_junk (a : AEAD) (plain : Bytes) (junk : List Nat) (hj : junk.length = 16) (sequence : Nat)
    (key aad : Bytes) :
    @RustSem.encrypt_in_place (aeadOf a) (toNats plain ++ junk) sequence (toNats key) (toNats aad)
      = .ok (toNats (Packet.sealBody a key sequence aad plain), ()) := by
  have hn : ¬ (toNats plain ++ junk).length < 16 := by rw [List.length_append, hj]; omega
  have ht : (toNats plain ++ junk).take ((toNats plain ++ junk).length - 16) = toNats plain := by
    rw [List.length_append, hj, Nat.add_sub_cancel]; exact List.take_left' rfl
  simp only [RustSem.encrypt_in_place, hn, if_false, aead_seal_eq, crypto_nonce_eq, ofNats_toNats, Packet.sealBody, ht]

/-- the branch of `Packet.encode` for every packet but a connection request -/
def encodeSealed (a : AEAD) (p : Netcode.Packet) (cap : Nat) (protocolId : Nat) (crypto : Option (Nat × Bytes)) : NRes Bytes :=
  match crypto with
  | none => .err .unavailablePrivateKey
  | some (sequence, key) => do
    let pfx := Packet.encodePrefix p.id sequence
    let w ← io? ((Wr.new cap).writeAll [pfx])
    let (w, _) := Packet.writeSequence w sequence
    let start := w.pos
    let w ← io? (p.write w)
    let «end» := w.pos
    if cap < «end» + C.NETCODE_MAC_BYTES then .err .ioError
    else
      let aad := Packet.additionalData pfx protocolId
      pure (w.out.take start ++ Packet.sealBody a key sequence aad (w.out.drop start))

theorem encode_not_cr (a : AEAD) (p : Netcode.Packet) (hnc : p.packetType ≠ .connectionRequest) (cap pid : Nat)
    (crypto : Option (Nat × Bytes)) :
    Netcode.Packet.encode a p cap pid crypto = encodeSealed a p cap pid crypto := by
  cases p with
  | connectionRequest v pd e x d => exact absurd rfl hnc
  | _ => rfl

abbrev DecE := SNErr × (List Nat × Option Src.renetcode.replay_protection.ReplayProtection)
abbrev DecR := List Nat × Option Src.renetcode.replay_protection.ReplayProtection × (Nat × SNcPacket)

/-- outcome of `Packet::decode`: the model's result and replay window; the buffer (decrypted in place) is some state of
    the same length `L` -/
def DecOutL (L : Nat) (m : NRes (Nat × Netcode.Packet) × Option RP)
    (g : Res (SNErr × (List Nat × Option Src.renetcode.replay_protection.ReplayProtection))
      (List Nat × Option Src.renetcode.replay_protection.ReplayProtection × (Nat × SNcPacket))) : Prop :=
  match m.1 with
  | .ok (sq, p) => ∃ buf', buf'.length = L ∧ g = .ok (buf', m.2.map reprRP, (sq, reprNP p))
  | .err e => ∃ buf', buf'.length = L ∧ g = .err (reprNErr e, (buf', m.2.map reprRP))
  | .panic _ => ∃ msg, g = .panic msg

/-- outcome of `Packet::decode`: the model's result and replay window; the buffer (decrypted in place) is some state -/
def DecOut (m : NRes (Nat × Netcode.Packet) × Option RP)
    (g : Res (SNErr × (List Nat × Option Src.renetcode.replay_protection.ReplayProtection))
      (List Nat × Option Src.renetcode.replay_protection.ReplayProtection × (Nat × SNcPacket))) : Prop :=
  match m.1 with
  | .ok (sq, p) => ∃ buf', g = .ok (buf', m.2.map reprRP, (sq, reprNP p))
  | .err e => ∃ buf', g = .err (reprNErr e, (buf', m.2.map reprRP))
  | .panic _ => ∃ msg, g = .panic msg

theorem DecOutL.weaken {L : Nat} {m : NRes (Nat × Netcode.Packet) × Option RP}
    {g : Res (SNErr × (List Nat × Option Src.renetcode.replay_protection.ReplayProtection))
      (List Nat × Option Src.renetcode.replay_protection.ReplayProtection × (Nat × SNcPacket))} (h : DecOutL L m g) : DecOut m g := by
  unfold DecOutL at h
  unfold DecOut
  split at h
  · obtain ⟨b, _, hg⟩ := h; exact ⟨b, hg⟩
  · obtain ⟨b, _, hg⟩ := h; exact ⟨b, hg⟩
  · exact h

/-- `&buffer[n..]` -/
theorem slice_drop {ε ρ : Type} (d : Bytes) (n : Nat) (h : n ≤ d.length) (site : String) :
    (RustSem.slice (toNats d) n d.length site : Exec ε ρ _) = .val (toNats (d.drop n)) := by
  rw [RustSem.slice, if_pos ⟨h, by rw [toNats_length]; exact Nat.le_refl _⟩,
    List.take_of_length_le (by rw [toNats_length]; exact Nat.le_refl _), toNats_drop]

theorem from_u8_repr (v : Nat) :
    Src.renetcode.packet.PacketType.from_u8 v = mapRes reprPT reprNErr (Netcode.PacketType.fromU8 v) := by
  rcases v with _|_|_|_|_|_|_|n <;> rfl

theorem absPT_reprPT (t : Netcode.PacketType) : absPT (reprPT t) = t := by cases t <;> rfl

theorem readSequence_ok {rest body : Bytes} {sl sq : Nat} (h : Packet.readSequence rest sl = some (sq, body)) :
    sl ≤ 8 ∧ sl ≤ rest.length ∧ body = rest.drop sl ∧ sq < 2 ^ 64 := by
  unfold Packet.readSequence at h
  split at h
  · cases h
  next h8 =>
    obtain ⟨hlt, rfl⟩ := NcAead.readU_iff.1 h
    have hl := NcAead.leBytes_length sq sl
    exact ⟨by omega, by rw [List.length_append]; omega, (List.drop_left' hl).symm,
      Nat.lt_of_lt_of_le hlt (Nat.pow_le_pow_right (by decide) (show sl ≤ 8 by omega))⟩

/-- the window `Packet.decode` leaves after a successful `open` (its inline `match`, named) -/
def advOf (ty : Netcode.PacketType) (sq : Nat) : Option RP → Option RP
  | some w => if ty.applyReplayProtection then some (w.advance sq) else some w
  | none => none

/-- the only error of `Packet::read` is an `io::Error`; `q` is the generated packet type as the call site spells it -/
theorem packet_read_elim (ty : Netcode.PacketType) (q : Src.renetcode.packet.PacketType) (hq : reprPT ty = q) (src : Bytes)
    {P : Prop}
    (herr : Netcode.Packet.read ty src = .err .ioError → Src.renetcode.packet.Packet.read q (toNats src) = .err .opaque → P)
    (hpanic : ∀ mm msg, Netcode.Packet.read ty src = .panic mm → Src.renetcode.packet.Packet.read q (toNats src) = .panic msg → P)
    (hok : ∀ p, Netcode.Packet.read ty src = .ok p → Src.renetcode.packet.Packet.read q (toNats src) = .ok (reprNP p) → P) :
    P := by
  subst hq
  refine (SrcTie.nc_packet_read ty src).map_elim (fun e hm hg => ?_) hpanic hok
  cases (Netcode.Packet.read_err hm).2
  exact herr hm hg

end NcCodec
end RenetVerif.SrcEquiv
