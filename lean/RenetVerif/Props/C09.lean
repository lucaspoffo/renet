/-
  C09 — "For every channel the memory accounted to it stays between zero and the configured maximum; send-side
  bytes come back when messages are acknowledged (reliable) or flushed (unreliable), receive-side bytes when
  messages are handed to the application, and incomplete unreliable fragments stop counting after 3 s without
  progress.  Hence when all submitted reliable messages have been received and acknowledged, every channel again
  offers its whole budget, and a connection whose traffic stays within budget and whose application drains
  promptly is never disconnected for exhausted channel memory, however packets were lost, duplicated or
  reordered on the way."

  Proofs: Lemmas/ConnInv.lean over the invariant `Conn.Inv` of C06 (which every operation preserves on every
  input: Props/C06.lean).  Sections:
    (a) bounds and exact accounting            (b) send side: bytes come back on ack / flush
    (c) receive side: bytes come back on receive   (d) stale unreliable fragments
    (e) quiescence                             (f) delivered messages are ignored forever (repaired defect D1)
    (g) refusals and memory disconnects only for over-budget traffic
  Counters are natural numbers in the model, so "≥ 0" is the statement that no checked subtraction ever fails —
  i.e. the no-panic theorems of C06; the equalities below are what makes them succeed.
-/
import RenetVerif.Lemmas.ConnInv
import RenetVerif.Lemmas.ResMonad
import RenetVerif.Props.C06
namespace RenetVerif.C09
open RenetVerif C

/-! ## (a) bounds and exact accounting -/

/-- in every state satisfying the invariant, for all four channel kinds: the counter equals the bytes actually
    held (unacknowledged messages / queued messages / deliverable messages plus `num_slices * SLICE_SIZE` per
    partially reassembled message) and is at most the configured maximum -/
theorem memory_exact_and_bounded (c : Conn) (h : c.Inv) :
    (∀ ch s, SMap.find? c.sendRel ch = some s → s.mem = SI.msum s.unacked ∧ s.mem ≤ s.maxMem) ∧
    (∀ ch s, SMap.find? c.sendUnrel ch = some s → s.mem = sumLen s.queue ∧ s.mem ≤ s.maxMem) ∧
    (∀ ch r, SMap.find? c.recvRel ch = some r →
      r.mem = SMap.sumBy List.length r.messages + SMap.sumBy SliceCtor.reserved r.slices ∧ r.mem ≤ r.maxMem) ∧
    (∀ ch r, SMap.find? c.recvUnrel ch = some r →
      r.mem = sumLen r.messages + SMap.sumBy SliceCtor.reserved r.slices ∧ r.mem ≤ r.maxMem) :=
  C06.memory_within_budget c h

/-- `channel_available_memory` is exactly the rest of the budget -/
theorem available_is_rest_of_budget (c : Conn) (h : c.Inv) :
    (∀ ch s, SMap.find? c.sendRel ch = some s → c.availableMemory ch = .ok (s.maxMem - SI.msum s.unacked)) ∧
    (∀ ch s, SMap.find? c.sendRel ch = none → SMap.find? c.sendUnrel ch = some s →
      c.availableMemory ch = .ok (s.maxMem - sumLen s.queue)) := by
  constructor
  · intro ch s hf
    simp only [Conn.availableMemory, hf, SendRel.available, (h.sendRel_find hf).1.mem]
  · intro ch s hn hf
    simp only [Conn.availableMemory, hn, hf, SendUnrel.available, (h.sendUnrel_find hf).1]

/-! ## (b) send side -/

/-- Reliable: across `process_packet` (any bytes) a channel's counter never grows, stays exact, and a message that
    was not stored before is not stored after; so bytes come back exactly for the messages that leave `unacked` —
    which happens only through a matching acknowledgement (C08 `release_only_by_ack`). -/
theorem reliable_bytes_return_on_ack (c c' : Conn) (bytes : Bytes) (h : c.Inv) (hp : c.processPacket bytes = .ok c')
    (ch : Nat) (s : SendRel) (hs : SMap.find? c.sendRel ch = some s) :
    ∃ s', SMap.find? c'.sendRel ch = some s' ∧ s'.maxMem = s.maxMem ∧
      s.mem = SI.msum s.unacked ∧ s'.mem = SI.msum s'.unacked ∧ s'.mem ≤ s.mem ∧
      (∀ id, SMap.find? s.unacked id = none → SMap.find? s'.unacked id = none) ∧
      (s'.mem < s.mem → ∃ id, SMap.find? s.unacked id ≠ none ∧ SMap.find? s'.unacked id = none) := by
  -- a datagram that is no ack packet leaves the channel as it is, which is the empty effect
  obtain ⟨s', hs', L, eff⟩ : ∃ s', SMap.find? c'.sendRel ch = some s' ∧ ∃ L, SI.ChanEff c.sent L ch s s' := by
    rcases SI.Conn.processPacket_eff h.send hp with hsame | ⟨-, -, L, -, -, -, heff, -⟩
    · exact ⟨s, by rw [hsame]; exact hs, [], SI.ChanEff.refl _ _ _⟩
    · obtain ⟨s', hs', eff⟩ := heff ch s hs
      exact ⟨s', hs', L, eff⟩
  have i := SI.Conn.processPacket_inv h.send hp
  exact ⟨s', hs', eff.step.2.1, (h.sendRel_find hs).1.mem, (i.chans ch s' hs').1.mem, eff.memLe, eff.gone, eff.memLt⟩

/-- Reliable: a flush neither releases nor charges anything -/
theorem reliable_bytes_unchanged_by_flush (c c' : Conn) (out : List Bytes) (h : c.Inv)
    (hr : c.getPacketsToSend = .ok (c', out)) (ch : Nat) (s : SendRel) (hs : SMap.find? c.sendRel ch = some s) :
    ∃ s', SMap.find? c'.sendRel ch = some s' ∧ s'.mem = s.mem ∧ s'.maxMem = s.maxMem := by
  obtain ⟨-, -, g, -⟩ := SI.Conn.getPacketsToSend_spec h.send h.acksWF hr
  obtain ⟨s', h1, h2, h3, -⟩ := g.keeps hs
  exact ⟨s', h1, h2, h3⟩

/-- Unreliable: after every flush of a live connection, every unreliable send channel of the send order is empty
    and accounts zero bytes (sent or dropped — nothing waits) -/
theorem unreliable_bytes_return_on_flush (c c' : Conn) (out : List Bytes) (h : c.Inv) (hd : c.isDisconnected = false)
    (hr : c.getPacketsToSend = .ok (c', out)) (ch : Nat) (hch : (false, ch) ∈ c.order) (s' : SendUnrel)
    (hs' : SMap.find? c'.sendUnrel ch = some s') : s'.queue = [] ∧ s'.mem = 0 :=
  let ⟨_, _, _, o⟩ := Conn.flush_live hd hr
  (CI.chanLoop_unrel _ _ _ _ o.loop h.sendUnrel).2.2 ch hch s' hs'

/-- … and the send order of a connection built by `fromChannels` (and evolved by any operations, which keep the
    channel tables' key sets) contains every unreliable send channel -/
theorem unreliable_channels_all_in_order (budget : Nat) (send recv : List ChanCfg) (c : Conn)
    (hsc : (Conn.fromChannels budget send recv).SameChans c) (ch : Nat) (s : SendUnrel)
    (hf : SMap.find? c.sendUnrel ch = some s) : (false, ch) ∈ c.order := by
  rw [hsc.order]
  have h1 := hsc.sendUnrel ch
  rw [hf] at h1
  cases hg : SMap.find? (Conn.fromChannels budget send recv).sendUnrel ch with
  | none => rw [hg] at h1; cases h1
  | some s0 =>
    obtain ⟨cfg, hc1, hc2, h2, -⟩ := SMap.find?_foldl_filter hg
    simp only [Conn.fromChannels, List.mem_map]
    refine ⟨cfg, hc1, ?_⟩
    have : cfg.kind = .unreliable := by simpa using hc2
    simp [this, h2]

/-! ## (c) receive side -/

theorem reliable_receive_returns_bytes (r r' : RecvRel) (m : Bytes) (h : r.receive = .ok (r', some m)) :
    r.mem = r'.mem + m.length ∧ r'.maxMem = r.maxMem ∧ r'.slices = r.slices := by
  rcases RecvRel.receive_ok_iff.mp h with ⟨-, -, e⟩ | ⟨id, m0, -, hle, rfl, e⟩
  · cases e
  · cases e; exact ⟨by show r.mem = r.mem - m.length + m.length; omega, rfl, rfl⟩

theorem unreliable_receive_returns_bytes (r r' : RecvUnrel) (m : Bytes) (h : r.receive = .ok (r', some m)) :
    r.mem = r'.mem + m.length ∧ r'.maxMem = r.maxMem ∧ r'.slices = r.slices ∧ r.messages = m :: r'.messages := by
  unfold RecvUnrel.receive at h
  split at h
  · cases h
  · rename_i m0 rest hm
    simp only [Res.csub] at h
    split at h
    · simp only [Res.bind_ok, Res.pure_eq, Res.ok.injEq, Prod.mk.injEq, Option.some.injEq] at h
      obtain ⟨rfl, rfl⟩ := h
      exact ⟨by dsimp only; omega, rfl, rfl, hm⟩
    · cases h

theorem receive_nothing_changes_nothing (r r' : RecvRel) (u u' : RecvUnrel) :
    (r.receive = .ok (r', none) → r' = r) ∧ (u.receive = .ok (u', none) → u' = u) := by
  constructor <;> intro h
  · rcases RecvRel.receive_ok_iff.mp h with ⟨-, e, -⟩ | ⟨id, m0, -, -, -, e⟩
    · exact e
    · cases e
  · unfold RecvUnrel.receive at h
    split at h
    · cases h; rfl
    · simp only [Res.csub] at h
      split at h
      · simp only [Res.bind_ok, Res.pure_eq, Res.ok.injEq, Prod.mk.injEq] at h
        obtain ⟨-, h2⟩ := h; cases h2
      · cases h

/-- connection level: `receive_message` handing out `m` lowers the counter of channel `ch` by exactly `m.length` -/
theorem receiveMessage_returns_bytes (c c' : Conn) (ch : Nat) (m : Bytes)
    (h : c.receiveMessage ch = .ok (c', some m)) :
    (∃ r r', SMap.find? c.recvRel ch = some r ∧ SMap.find? c'.recvRel ch = some r' ∧
        r.mem = r'.mem + m.length ∧ r'.maxMem = r.maxMem) ∨
    (∃ r r', SMap.find? c.recvUnrel ch = some r ∧ SMap.find? c'.recvUnrel ch = some r' ∧
        r.mem = r'.mem + m.length ∧ r'.maxMem = r.maxMem) := by
  rcases Conn.receiveMessage_outcomes h with ⟨-, -, e⟩ | ⟨-, r, r', hf, hr, rfl⟩ | ⟨-, -, r, r', hf, hr, rfl⟩
  · cases e
  · obtain ⟨a, b, -⟩ := reliable_receive_returns_bytes _ _ _ hr
    exact Or.inl ⟨r, r', hf, by rw [SMap.find?_insert, if_pos rfl], a, b⟩
  · obtain ⟨a, b, -⟩ := unreliable_receive_returns_bytes _ _ _ hr
    exact Or.inr ⟨r, r', hf, by rw [SMap.find?_insert, if_pos rfl], a, b⟩

/-! ## (d) stale unreliable fragments -/

/-- After `update`, in every unreliable receive channel every time stamp still stored is younger than
    `DISCARD_FRAGMENT_AFTER_NS`; every stored constructor of a partially received message has such a time stamp …
    (continued in `stale_fragments_stop_counting`) -/
theorem no_stale_timestamp_after_update (c c' : Conn) (dt : Nat) (h : c.Inv) (hu : c.update dt = .ok c') :
    ∀ ch r', SMap.find? c'.recvUnrel ch = some r' →
      ∀ id t, SMap.find? r'.lastReceived id = some t → c'.now - t < DISCARD_FRAGMENT_AFTER_NS := by
  obtain ⟨c2, e, i, -, hnow, -, n0, f0⟩ := CI.update_totalP h dt
  rw [e] at hu; cases hu
  intro ch r' hr' id t ht
  cases hf : SMap.find? c.recvUnrel ch with
  | none => rw [n0 ch hf] at hr'; cases hr'
  | some r =>
    obtain ⟨r2, ed, hr2⟩ := f0 ch r hf
    rw [hr'] at hr2; cases hr2
    have hri := h.recvUnrel_find hf
    have hri' := i.recvUnrel_find hr'
    have hold : SMap.find? r.lastReceived id = some t := by
      rw [RecvUnrel.discardOld_eq] at ed
      exact CI.discardLoop_last_mono _ r r' hri.lastSorted ed id t ht
    rw [hnow]
    apply Classical.byContradiction
    intro hge
    have hgone := RecvUnrel.discardOld_removes_staleP r r' hri (c.now + dt) id t hold (by omega) ed
    have hin := hri'.lastSub id (SMap.contains_iff_find?.mpr ⟨_, ht⟩)
    rw [SMap.contains_eq_false_iff.mpr hgone] at hin
    cases hin

/-- … so a fragment whose last slice arrived `DISCARD_FRAGMENT_AFTER_NS` or longer ago is gone after `update`,
    and since the accounting equality holds again, its `num_slices * SLICE_SIZE` bytes no longer count -/
theorem stale_fragments_stop_counting (c c' : Conn) (dt : Nat) (h : c.Inv) (hu : c.update dt = .ok c')
    (ch : Nat) (r : RecvUnrel) (hr : SMap.find? c.recvUnrel ch = some r) (id t : Nat)
    (ht : SMap.find? r.lastReceived id = some t) (hold : c.now + dt - t ≥ DISCARD_FRAGMENT_AFTER_NS) :
    ∃ r', SMap.find? c'.recvUnrel ch = some r' ∧ SMap.find? r'.slices id = none ∧
      r'.mem = sumLen r'.messages + SMap.sumBy SliceCtor.reserved r'.slices ∧ r'.maxMem = r.maxMem := by
  obtain ⟨c2, e, i, -, -, -, -, f0⟩ := CI.update_totalP h dt
  rw [e] at hu; cases hu
  obtain ⟨r', ed, hr'⟩ := f0 ch r hr
  refine ⟨r', hr', RecvUnrel.discardOld_removes_staleP r r' (h.recvUnrel_find hr) _ id t ht hold ed,
    (i.recvUnrel_find hr').acct, ?_⟩
  rw [RecvUnrel.discardOld_eq] at ed
  exact discardLoop_pres (Q := fun r1 => r1.maxMem = r.maxMem) (fun _ _ _ hq => hq) _ r r' ed rfl

/-! ## (e) quiescence -/

/-- When nothing is unacknowledged, nothing is queued, nothing waits for the application and nothing is partially
    reassembled, every counter is zero and every send channel offers its whole budget again -/
theorem quiescent_full_budget (c : Conn) (h : c.Inv)
    (h1 : ∀ ch s, SMap.find? c.sendRel ch = some s → s.unacked = [])
    (h2 : ∀ ch s, SMap.find? c.sendUnrel ch = some s → s.queue = [])
    (h3 : ∀ ch r, SMap.find? c.recvRel ch = some r → r.messages = [] ∧ r.slices = [])
    (h4 : ∀ ch r, SMap.find? c.recvUnrel ch = some r → r.messages = [] ∧ r.slices = []) :
    (∀ ch s, SMap.find? c.sendRel ch = some s → s.mem = 0 ∧ c.availableMemory ch = .ok s.maxMem) ∧
    (∀ ch s, SMap.find? c.sendUnrel ch = some s → s.mem = 0 ∧
      (SMap.find? c.sendRel ch = none → c.availableMemory ch = .ok s.maxMem)) ∧
    (∀ ch r, SMap.find? c.recvRel ch = some r → r.mem = 0) ∧
    (∀ ch r, SMap.find? c.recvUnrel ch = some r → r.mem = 0) := by
  refine ⟨fun ch s hf => ?_, fun ch s hf => ?_, fun ch r hf => ?_, fun ch r hf => ?_⟩
  · have hm : s.mem = 0 := by rw [(h.sendRel_find hf).1.mem, h1 ch s hf]; rfl
    refine ⟨hm, ?_⟩
    simp only [Conn.availableMemory, hf, SendRel.available, hm, Nat.sub_zero]
  · have hm : s.mem = 0 := by rw [(h.sendUnrel_find hf).1, h2 ch s hf]; rfl
    refine ⟨hm, fun hn => ?_⟩
    simp only [Conn.availableMemory, hn, hf, SendUnrel.available, hm, Nat.sub_zero]
  · exact RecvRel.quiescent r (h.recvRel_find hf) (h3 ch r hf).1 (h3 ch r hf).2
  · exact RecvUnrel.quiescent r (h.recvUnrel_find hf) (h4 ch r hf).1 (h4 ch r hf).2

/-! ## (f) delivered or complete messages are ignored entirely (repaired defect D1) -/

/-- a slice of a message that is complete and waiting, below the cursor, or (unordered) already delivered: the
    channel state is returned unchanged — no reservation is made -/
theorem slice_of_finished_message_ignored (r : RecvRel) (sl : Slice)
    (h : SMap.contains r.messages sl.messageId = true ∨ sl.messageId < r.oldest ∨
      (r.ordered = false ∧ sl.messageId ∈ r.received)) : r.processSlice sl = .ok r :=
  CI.recvRel_processSlice_ignored r sl h

theorem copy_of_finished_message_ignored (r : RecvRel) (m : Bytes) (id : Nat)
    (h : id < r.oldest ∨ (r.ordered = true ∧ SMap.contains r.messages id = true) ∨
      (r.ordered = false ∧ id ∈ r.received)) : r.processMessage m id = .ok r :=
  CI.recvRel_processMessage_ignored r m id h

/-- **Once handed to the application, ignored forever**: after any later history of the channel (`RecvRel.Steps`:
    messages and slices accepted, ignored or refused; the application draining), every slice or copy of the
    delivered message leaves the channel state unchanged.  Ordered and unordered channels. -/
theorem delivered_ignored_forever (r r1 r2 : RecvRel) (m : Bytes) (hi : r.WInv)
    (hrecv : r.receive = .ok (r1, some m)) (hsteps : RecvRel.Steps r1 r2) :
    ∃ id, SMap.find? r.messages id = some m ∧
      (∀ sl : Slice, sl.messageId = id → r2.processSlice sl = .ok r2) ∧ (∀ m', r2.processMessage m' id = .ok r2) :=
  CI.delivered_ignored_forever hi hrecv hsteps

/-! ## (g) only over-budget traffic is refused -/

/-- reliable receive channel: `ReliableChannelMaxMemoryReached` only for a message that does not fit into what is
    left, or for the FIRST slice seen of a message whose reservation does not fit; never for an existing
    constructor, never at completion; the channel state is unchanged by the refusal -/
theorem refusal_only_over_budget (r : RecvRel) (h : r.WInv) :
    (∀ m id r', r.processMessage m id = .err (.maxMemory, r') → r' = r ∧ r.mem + m.length > r.maxMem) ∧
    (∀ sl r', r.processSlice sl = .err (.maxMemory, r') →
      r' = r ∧ SMap.contains r.slices sl.messageId = false ∧ r.mem + sl.numSlices * SLICE_SIZE > r.maxMem) := by
  obtain ⟨a, b⟩ := CI.refusal_only_over_budget ctorPred_winv r h
  exact ⟨a, fun sl r' => b sl r' (SliceCtor.new_winv _)⟩

/-- unreliable receive channel: never a memory error (what does not fit is dropped silently) -/
theorem unreliable_never_refuses (r : RecvUnrel) (sl : Slice) (now : Nat) (e : ChanErr) (r' : RecvUnrel)
    (h : r.processSlice sl now = .err (e, r')) : e = .invalidSlice := by
  rw [RecvUnrel.processSlice_eq] at h
  have key : ∀ r0 : RecvUnrel, r0.sliceStep sl now = .err (e, r') → e = .invalidSlice := by
    intro r0 h0
    unfold RecvUnrel.sliceStep at h0
    split at h0
    · cases h0
    · split at h0
      · cases h0; rfl
      · split at h0
        · cases h0
        · rename_i e0 he0
          cases h0
          exact CI.ctor_err_invalid he0
        · simp only [Res.csub] at h0
          split at h0
          · cases h0
          · cases h0
        · cases h0
  split at h
  · exact key _ h
  · split at h
    · cases h
    · exact key _ h

/-- **Connection level, receiving.**  `process_packet` leaves a live connection disconnected with
    `ReceiveChannelError(ch, ReliableChannelMaxMemoryReached)` only if the packet's small messages together exceed
    the free budget of reliable channel `ch`, or it is the first slice seen of a message whose reservation exceeds
    it.  Lost, duplicated or reordered packets of in-budget traffic can therefore not cause it: duplicates are
    ignored ((f)), later slices of a message being reassembled need no new memory, completion releases more than
    it takes. -/
theorem memory_disconnect_only_over_budget (c c' : Conn) (h : c.Inv) (bytes : Bytes) (ch : Nat)
    (hd : c.isDisconnected = false) (e : c.processPacket bytes = .ok c')
    (hs : c'.status = .disconnected (.recvChan ch .maxMemory)) :
    ∃ r, SMap.find? c.recvRel ch = some r ∧
      ((∃ seq msgs, Packet.fromBytes bytes = .ok (.smallReliable seq ch msgs) ∧
          r.mem + relSmallSum msgs > r.maxMem) ∨
       (∃ seq sl, Packet.fromBytes bytes = .ok (.reliableSlice seq ch sl) ∧
          SMap.contains r.slices sl.messageId = false ∧ r.mem + sl.numSlices * SLICE_SIZE > r.maxMem)) := by
  cases hp : Packet.fromBytes bytes with
  | error e0 =>
    rw [Conn.processPacket_garbage hp] at e; cases e
    cases CI.dw_status_eq hs hd
  | ok p =>
    cases p with
    | ack aseq ranges =>
      obtain ⟨L, c2, -, e2, -, eff, -, -⟩ := SI.Conn.processPacket_ack_spec h.send hd hp
      rw [e2] at e; cases e
      obtain ⟨-, -, f3, -⟩ := eff.frame
      rw [f3] at hs
      exact absurd hs (CI.status_live_ne hd _)
    | smallReliable seq ch0 msgs =>
      simp only [Conn.processPacket_live hd hp, Conn.dispatch] at e
      obtain ⟨rfl, r, r', hf, hl⟩ := CI.feed_refused e (fun _ => hd) hd hs
      exact ⟨r, hf, Or.inl ⟨seq, msgs, rfl, (CI.relMsgLoop_refusal msgs r _ r' hl).2⟩⟩
    | smallUnreliable seq ch0 msgs =>
      simp only [Conn.processPacket_live hd hp, Conn.dispatch] at e
      obtain ⟨-, r, r', -, hl⟩ := CI.feed_refused e (fun _ => hd) hd hs
      cases hl
    | reliableSlice seq ch0 sl =>
      have hn := (Packet.fromBytes_numSlices bytes _ hp seq ch0 sl (Or.inl rfl)).1
      simp only [Conn.processPacket_live hd hp, Conn.dispatch] at e
      obtain ⟨rfl, r, r', hf, hl⟩ := CI.feed_refused e (fun _ => hd) hd hs
      obtain ⟨-, b1, b2⟩ := (CI.refusal_only_over_budget goodP_winv.pred r (h.recvRel_find hf)).2 sl r' (goodP_winv.new _ hn) hl
      exact ⟨r, hf, Or.inr ⟨seq, sl, rfl, b1, b2⟩⟩
    | unreliableSlice seq ch0 sl =>
      simp only [Conn.processPacket_live hd hp, Conn.dispatch] at e
      obtain ⟨-, r, r', -, hl⟩ := CI.feed_refused e (fun _ => hd) hd hs
      cases unreliable_never_refuses r sl c.now _ r' hl

/-- **Connection level, sending.**  `send_message` disconnects a live connection with `SendChannelError` only when
    the message exceeds what is left of that reliable channel's budget (`channel_available_memory`) -/
theorem send_disconnect_only_over_budget (c c' : Conn) (ch ch' : Nat) (m : Bytes) (e : ChanErr)
    (hd : c.isDisconnected = false) (h : c.sendMessage ch m = .ok c')
    (hs : c'.status = .disconnected (.sendChan ch' e)) :
    ch' = ch ∧ e = .maxMemory ∧ ∃ s, SMap.find? c.sendRel ch = some s ∧ s.mem + m.length > s.maxMem := by
  rcases Conn.sendMessage_outcomes h with ⟨hd', -⟩ | ⟨-, s, hf, ⟨s', -, rfl⟩ | ⟨e0, he0, rfl⟩⟩ | ⟨-, -, sU, -, rfl⟩
  · rw [hd] at hd'; cases hd'
  · exact absurd hs (CI.status_live_ne hd _)
  · have := CI.dw_status_eq hs hd
    simp only [Status.disconnected.injEq, Reason.sendChan.injEq] at this
    obtain ⟨rfl, rfl⟩ := this
    obtain ⟨a, b⟩ := CI.sendRel_refusal he0
    exact ⟨rfl, a, s, hf, b⟩
  · exact absurd hs (CI.status_live_ne hd _)

/-- no other operation can produce a memory disconnect: `update`, `receive_message`, `get_packets_to_send` (with
    counters in range) leave the status unchanged -/
theorem other_operations_never_disconnect (c : Conn) (h : c.Inv) :
    (∀ dt c', c.update dt = .ok c' → c'.status = c.status) ∧
    (∀ ch c' m, c.receiveMessage ch = .ok (c', m) → c'.status = c.status) ∧
    (c.CountersOK → ∃ c' out, c.getPacketsToSend = .ok (c', out) ∧ c'.status = c.status) := by
  refine ⟨fun dt c' e => (Conn.update_frame e).status, fun ch c' m e => (SL.Conn.receiveMessage_frame e).2.2.2.1,
    fun hc => ?_⟩
  obtain ⟨c', out, e, -, s, -⟩ := CI.getPacketsToSend_totalP h hc
  exact ⟨c', out, e, s⟩

/-! ## non-vacuity: one run exhibiting every clause -/
namespace Ex

def cfg : List ChanCfg :=
  [⟨0, .ordered, 10000, 100⟩, ⟨1, .unordered, 10000, 100⟩, ⟨2, .unreliable, 10000, 0⟩]
def bytesOf (p : Packet) : Bytes := match p.toBytes SER_BUFFER with | .ok b => b | _ => []
def big : Bytes := List.replicate 1201 7
def full : Bytes := List.replicate 1200 5

def c0 : Conn := Conn.fromChannels 60000 cfg cfg

def ops : List SL.ConnOp :=
  [ .setConnected, .sendMessage 0 [1, 2, 3], .sendMessage 0 big, .sendMessage 2 [9, 9],      -- 4: queued
    .getPacketsToSend,                                                                         -- 5: flushed
    .processPacket (bytesOf (.ack 20 [(0, 3)])),                                               -- 6: all three packets acked
    .processPacket (bytesOf (.reliableSlice 21 1 ⟨5, 0, 2, full⟩)),
    .processPacket (bytesOf (.unreliableSlice 22 2 ⟨3, 0, 3, full⟩)),
    .processPacket (bytesOf (.smallReliable 23 1 [(2, [7, 7, 7])])),                           -- 9: buffered
    .receiveMessage 1,                                                                         -- 10: message 2 delivered
    .processPacket (bytesOf (.reliableSlice 24 1 ⟨2, 0, 2, full⟩)),                            -- 11: late duplicate of message 2
    .update 3000000000,                                                                        -- 12: fragment of message 3 stale
    .processPacket (bytesOf (.reliableSlice 25 1 ⟨5, 1, 2, [1]⟩)), .receiveMessage 1 ]         -- 14: message 5 completed, delivered

def st (k : Nat) : Conn := match SL.Conn.runOps c0 (ops.take k) with | .ok c => c | _ => c0

theorem ops_valid : ∀ op ∈ ops, CI.ChanValid c0 op := by decide +kernel

def sendMem (c : Conn) : Option Nat × Option Nat :=
  ((SMap.find? c.sendRel 0).map (·.mem), (SMap.find? c.sendUnrel 2).map (·.mem))
def recvMem (c : Conn) : Option Nat × Option Nat :=
  ((SMap.find? c.recvRel 1).map (·.mem), (SMap.find? c.recvUnrel 2).map (·.mem))

/-- what the examples for (b)–(e) read off the run, in one kernel evaluation: the counters are in range at every flush
    of every prefix; the memory trace; the concrete hypotheses of (b) at states 4 and 5, of (c) at state 9, of (d) at
    state 11, of (e) at state 14 -/
theorem all :
    (∀ k ∈ List.range 15, CI.FlushOK c0 (ops.take k)) ∧
    (sendMem (st 4) = (some 1204, some 2) ∧ sendMem (st 5) = (some 1204, some 0) ∧ sendMem (st 6) = (some 0, some 0) ∧
      recvMem (st 9) = (some 2403, some 3600) ∧ recvMem (st 10) = (some 2400, some 3600) ∧
      recvMem (st 11) = (some 2400, some 3600) ∧ recvMem (st 12) = (some 2400, some 0) ∧
      recvMem (st 14) = (some 0, some 0) ∧ (st 14).status = .connected) ∧
    ((st 4).isDisconnected = false ∧ (SMap.find? (st 4).sendUnrel 2).isSome = true ∧ CI.countersOKb (st 4) = true ∧
      (SMap.find? (st 5).sendRel 0).isSome = true ∧
      (match (st 9).receiveMessage 1 with | .ok (_, m) => m | _ => none) = some [7, 7, 7] ∧
      (SMap.find? (st 11).recvUnrel 2).map (·.lastReceived) = some [(3, 0)] ∧
      (st 11).now + 3000000000 - 0 ≥ DISCARD_FRAGMENT_AFTER_NS) ∧
    ((st 14).sendRel.all (fun x => x.2.unacked.isEmpty) = true ∧
      (st 14).sendUnrel.all (fun x => x.2.queue.isEmpty) = true ∧
      (st 14).recvRel.all (fun x => x.2.messages.isEmpty && x.2.slices.isEmpty) = true ∧
      (st 14).recvUnrel.all (fun x => x.2.messages.isEmpty && x.2.slices.isEmpty) = true ∧
      (st 14).availableMemory 0 = .ok 10000 ∧ (st 14).availableMemory 2 = .ok 10000) := by
  decide +kernel

theorem st_inv (k : Nat) (hk : k ≤ 14) : (st k).Inv ∧ c0.SameChans (st k) := by
  obtain ⟨c', e, i, sc⟩ := CI.runOps_totalP goodP_winv (ops.take k) c0 (CI.fromChannels_invP _ _ _)
    (fun op ho => ops_valid op (List.mem_of_mem_take ho))
    (all.1 k (List.mem_range.mpr (by omega)))
  have hst : st k = c' := by simp only [st, e]
  rw [hst]
  exact ⟨i, sc⟩

/-- (b): 1204 reliable and 2 unreliable bytes charged; the flush returns the unreliable ones, the ack the reliable
    ones.  (c): 2403 → 2400 when the 3-byte message is handed over.  (f): the late duplicate slice of the delivered
    message 2 changes nothing (before the fix it reserved another 2400 bytes forever).  (d): the 3600 bytes of the
    stale unreliable fragment stop counting at t = 3 s.  (c) again: completion and delivery return the rest. -/
example :
    sendMem (st 4) = (some 1204, some 2) ∧ sendMem (st 5) = (some 1204, some 0) ∧ sendMem (st 6) = (some 0, some 0) ∧
    recvMem (st 9) = (some 2403, some 3600) ∧ recvMem (st 10) = (some 2400, some 3600) ∧
    recvMem (st 11) = (some 2400, some 3600) ∧ recvMem (st 12) = (some 2400, some 0) ∧
    recvMem (st 14) = (some 0, some 0) ∧ (st 14).status = .connected := all.2.1

/-- hypotheses of (b) `unreliable_bytes_return_on_flush` at state 4: live connection, channel 2 in the send order
    (also by `unreliable_channels_all_in_order`), the flush returns -/
example : (st 4).Inv ∧ (st 4).isDisconnected = false ∧ (false, 2) ∈ (st 4).order ∧
    ∃ c' out, (st 4).getPacketsToSend = .ok (c', out) := by
  obtain ⟨hlive, hchan, hcnt, -⟩ := all.2.2.1
  obtain ⟨s, hs⟩ := Option.isSome_iff_exists.mp hchan
  obtain ⟨c', out, e, -⟩ := CI.getPacketsToSend_totalP (st_inv 4 (by omega)).1 (CI.countersOK_of_b hcnt)
  exact ⟨(st_inv 4 (by omega)).1, hlive,
    unreliable_channels_all_in_order 60000 cfg cfg (st 4) (st_inv 4 (by omega)).2 2 s hs, c', out, e⟩

/-- hypotheses of (b) `reliable_bytes_return_on_ack` at state 5, channel 0 -/
example : (st 5).Inv ∧ (∃ c', (st 5).processPacket (bytesOf (.ack 20 [(0, 3)])) = .ok c') ∧
    (SMap.find? (st 5).sendRel 0).isSome = true := by
  refine ⟨(st_inv 5 (by omega)).1, ?_, all.2.2.1.2.2.2.1⟩
  obtain ⟨c', e, -⟩ := CI.processPacket_totalP goodP_winv (st_inv 5 (by omega)).1 (bytesOf (.ack 20 [(0, 3)]))
  exact ⟨c', e⟩

/-- hypothesis of (c): at state 9 `receive_message(1)` hands out the 3-byte message -/
example : (match (st 9).receiveMessage 1 with | .ok (_, m) => m | _ => none) = some [7, 7, 7] :=
  all.2.2.1.2.2.2.2.1

/-- hypotheses of (d) `stale_fragments_stop_counting` at state 11 with `dt = 3 s`: the fragment of message 3 on
    unreliable channel 2 was last touched at t = 0 -/
example : (st 11).Inv ∧ (SMap.find? (st 11).recvUnrel 2).map (·.lastReceived) = some [(3, 0)] ∧
    (st 11).now + 3000000000 - 0 ≥ DISCARD_FRAGMENT_AFTER_NS ∧
    (∃ c', (st 11).update 3000000000 = .ok c') := by
  obtain ⟨-, -, -, -, -, hlast, hage⟩ := all.2.2.1
  obtain ⟨c', e, -⟩ := CI.update_totalP (st_inv 11 (by omega)).1 3000000000
  exact ⟨(st_inv 11 (by omega)).1, hlast, hage, c', e⟩

theorem forall_find_of_all {α : Type} (p : α → Bool) (m : SMap α) (h : m.all (fun x => p x.2) = true) :
    ∀ k v, SMap.find? m k = some v → p v = true := by
  intro k v hf
  exact List.all_eq_true.mp h _ (SMap.mem_of_find? hf)

/-- hypotheses of (e) `quiescent_full_budget` at the end of the run: everything acknowledged, flushed, delivered
    or discarded — and (by the theorem) every channel offers its whole budget of 10000 bytes again -/
example : (st 14).Inv ∧
    (∀ ch s, SMap.find? (st 14).sendRel ch = some s → s.unacked = []) ∧
    (∀ ch s, SMap.find? (st 14).sendUnrel ch = some s → s.queue = []) ∧
    (∀ ch r, SMap.find? (st 14).recvRel ch = some r → r.messages = [] ∧ r.slices = []) ∧
    (∀ ch r, SMap.find? (st 14).recvUnrel ch = some r → r.messages = [] ∧ r.slices = []) ∧
    (st 14).availableMemory 0 = .ok 10000 ∧ (st 14).availableMemory 2 = .ok 10000 := by
  obtain ⟨hsr, hsu, hrr, hru, hav0, hav2⟩ := all.2.2.2
  refine ⟨(st_inv 14 (by omega)).1, ?_, ?_, ?_, ?_, hav0, hav2⟩
  · intro ch s hf
    exact List.isEmpty_iff.mp (forall_find_of_all (fun s : SendRel => s.unacked.isEmpty) _ hsr ch s hf)
  · intro ch s hf
    exact List.isEmpty_iff.mp (forall_find_of_all (fun s : SendUnrel => s.queue.isEmpty) _ hsu ch s hf)
  · intro ch r hf
    have := forall_find_of_all (fun r : RecvRel => r.messages.isEmpty && r.slices.isEmpty) _ hrr ch r hf
    simp only [Bool.and_eq_true, List.isEmpty_iff] at this
    exact this
  · intro ch r hf
    have := forall_find_of_all (fun r : RecvUnrel => r.messages.isEmpty && r.slices.isEmpty) _ hru ch r hf
    simp only [Bool.and_eq_true, List.isEmpty_iff] at this
    exact this

/-! ### (f) on the unordered channel of state 9 -/

def exR : RecvRel := (SMap.find? (st 9).recvRel 1).getD (RecvRel.new 0 false)
def exR1 : RecvRel := match exR.receive with | .ok (r, _) => r | _ => exR
def dupSlice : Slice := ⟨2, 0, 2, full⟩
def exR2 : RecvRel := match exR1.processMessage [4, 4] 9 with | .ok r => r | _ => exR1

/-- what the examples for (f) and (g) read off states 9 and 4: the unordered channel of
    state 9 and its two steps; the refusals -/
theorem st9_facts :
    (SMap.find? (st 9).recvRel 1 = some exR ∧ exR.ordered = false ∧ exR.receive = .ok (exR1, some [7, 7, 7]) ∧
      (∀ k ∈ exR.messages.map (·.1), k = 2) ∧ exR1.processMessage [4, 4] 9 = .ok exR2 ∧ exR2.mem = 2402) ∧
    ((match (st 9).processPacket (bytesOf (.reliableSlice 30 1 ⟨8, 0, 9, full⟩)) with
      | .ok c => some c.status | _ => none) = some (.disconnected (.recvChan 1 .maxMemory)) ∧
      (match (st 4).sendMessage 0 (List.replicate 9000 1) with
       | .ok c => some c.status | _ => none) = some (.disconnected (.sendChan 0 .maxMemory)) ∧
      (st 9).isDisconnected = false ∧ (st 4).isDisconnected = false) ∧
    ((match (st 9).processPacket (bytesOf (.reliableSlice 30 1 ⟨5, 1, 9, full⟩)) with
      | .ok c => some c.status | _ => none) = some (.disconnected (.recvChan 1 .invalidSlice)) ∧
      (match (st 9).processPacket (bytesOf (.reliableSlice 30 1 ⟨8, 0, 6, full⟩)) with
       | .ok c => some (c.status, recvMem c) | _ => none) = some (.connected, (some 9603, some 3600))) := by
  decide +kernel

theorem exR_winv : exR.WInv :=
  (st_inv 9 (by omega)).1.recvRel_find st9_facts.1.1

/-- hypotheses of `delivered_ignored_forever`: unordered channel holding a partially reassembled message and the
    3-byte message 2; message 2 is delivered; another message (id 9) arrives; then a slice of message 2 shows up
    — and, by the theorem, is ignored: `exR2` is returned unchanged (still 2402 bytes) -/
example : exR.WInv ∧ exR.ordered = false ∧ exR.receive = .ok (exR1, some [7, 7, 7]) ∧ RecvRel.Steps exR1 exR2 ∧
    dupSlice.messageId = 2 ∧ exR2.mem = 2402 ∧ exR2.processSlice dupSlice = .ok exR2 := by
  obtain ⟨-, hord, hrecv, hall, hstep, hmem⟩ := st9_facts.1
  have hsteps : RecvRel.Steps exR1 exR2 := .message (Or.inl hstep) (.refl _)
  obtain ⟨id, hid, hign, -⟩ := delivered_ignored_forever exR exR1 exR2 [7, 7, 7] exR_winv hrecv hsteps
  have hid2 : id = 2 := hall id (List.mem_map.mpr ⟨_, SMap.mem_of_find? hid, rfl⟩)
  exact ⟨exR_winv, hord, hrecv, hsteps, rfl, hmem, hign dupSlice (by rw [hid2]; rfl)⟩

/-! ### (g) over-budget traffic, and only that, is refused -/

/-- a first slice announcing 9 slices (10800 bytes) on a channel with 10000 bytes: refused, the connection is
    disconnected with exactly the reason the theorem talks about; a 9000-byte reliable message on top of 1204
    unacknowledged bytes likewise on the send side -/
example :
    (match (st 9).processPacket (bytesOf (.reliableSlice 30 1 ⟨8, 0, 9, full⟩)) with
     | .ok c => some c.status | _ => none) = some (.disconnected (.recvChan 1 .maxMemory)) ∧
    (match (st 4).sendMessage 0 (List.replicate 9000 1) with
     | .ok c => some c.status | _ => none) = some (.disconnected (.sendChan 0 .maxMemory)) ∧
    (st 9).isDisconnected = false ∧ (st 4).isDisconnected = false := st9_facts.2.1

/-- whereas the same 9-slice announcement for the message already being reassembled (id 5) is not a memory
    problem at all (it is rejected as inconsistent), and a 6-slice first slice (7200 bytes) is accepted on top of the
    2403 bytes in use (9603 ≤ 10000): the bound is on `mem + reservation`, as stated -/
example :
    (match (st 9).processPacket (bytesOf (.reliableSlice 30 1 ⟨5, 1, 9, full⟩)) with
     | .ok c => some c.status | _ => none) = some (.disconnected (.recvChan 1 .invalidSlice)) ∧
    (match (st 9).processPacket (bytesOf (.reliableSlice 30 1 ⟨8, 0, 6, full⟩)) with
     | .ok c => some (c.status, recvMem c) | _ => none) = some (.connected, (some 9603, some 3600)) :=
  st9_facts.2.2

end Ex
end RenetVerif.C09
