/-
  Source tie, group ConnRecv: `renet/src/remote_connection.rs` `RenetClient::{update, process_packet}`
  ↔ `Conn.update` / `Conn.processPacket` of `Renet/Conn.lean`.

  `update`: the clock (`self.current_time += duration`, a `Duration` addition that panics on overflow), the loop
  `for ch in self.receive_unreliable_channels.values_mut() { ch.discard_incomplete_old_slices(now) }` — a `HashMap`
  iteration accepted under the manifest entry HASHMAP_VALUES_MUT_OK ("each iteration touches only its own value"; the
  translator checks that the body assigns nothing but through the loop variable and cannot leave early; the generated
  loop visits the key-sorted table front to back) — and the pruning of `sent_packets`: the `BTreeMap::iter()` loop with the
  nested `const DISCARD_AFTER`, the `Duration` subtraction and the `break`, then the `remove` loop.
  `process_packet`: early return when disconnected, `Packet::from_bytes` on an `Octets` cursor (its `Err` disconnects
  with `PacketDeserialization`), `add_pending_ack(packet.sequence())`, and the five arms — the `let Some(channel) =
  ….get_mut(&channel_id) else { disconnect; return }` lookups, the message loops with `if let Err(error) =
  channel.process_message(..)` (disconnect with `ReceiveChannelError`, keeping what the channel did before failing),
  the slice arms, and the `Ack` arm: `sent_packets.range(range)` (panics when `start > end`), the `remove(..).unwrap()`,
  the rtt subtraction `self.current_time - sent_packet.sent_at` (kept for its panic; `rtt` / `stats` are ignored
  fields), `process_message_ack` / `process_slice_message_ack` on `send_reliable_channels.get_mut(..).unwrap()` and
  `acked_largest`.
  `reprConn mrs c` as in `SrcTieConn.lean`; after `process_packet` the never-read `most_recent_message_id`s may have
  changed, hence `∃ mrs'`.
-/
import RenetVerif.Lemmas.SrcEquiv.ConnRecv
namespace RenetVerif.SrcTie
open RenetVerif RenetVerif.SrcEquiv RenetVerif.RustSem
open Src.renet.remote_connection

/-- `update` under `UpdateOk c dt`: the advanced clock is a `Duration` (`c.now + dt ≤ Duration::MAX`); the receive
    times of the unreliable channels' slice constructors and the send times in `sent_packets` are not in its future
    (otherwise a `Duration` subtraction panics); the constructors' sizes fit `usize`.  Panics of
    `discard_incomplete_old_slices` are matched with the model's. -/
theorem conn_update {ε : Type} (mrs : Nat → Nat) (c : Conn) (dt : Nat) (hok : UpdateOk c dt) :
    SameOutcome (RenetClient.update (reprConn mrs c) dt : Res ε _)
      (mapRes (fun c' => (reprConn mrs c', ())) (fun e => nomatch e) (c.update dt)) := by
  unfold RenetClient.update Conn.update
  simp only [Exec.bind_eq, Exec.pure_eq]
  have hadd : ∀ site, (RustSem.Duration.add (reprConn mrs c).current_time dt site
      : Exec ε (RenetClient × Unit) Nat) = .val (c.now + dt) := by
    intro site; simp [RustSem.Duration.add, reprConn, hok.clock]
  simp only [hadd, Exec.bind_val']
  refine (forRange_table (connU mrs c (c.now + dt)) (fun _ r => r.discardOld (c.now + dt))
    (fun _ r => (∀ q ∈ r.lastReceived, q.2 ≤ c.now + dt) ∧ SizesOk r) (Conn.discardAll _) _ rfl (fun _ _ _ => rfl) ?hb
    c.recvUnrel _ (by simp [RustSem.len, reprConn, mapVals]) fun p hp => ⟨hok.past p hp, hok.sizes p hp⟩).elim
    ?_ fun _ _ => trivial
  case hb =>
    intro pre k r rest hP
    have hru : ∀ m, (connU mrs c (c.now + dt) m).receive_unreliable_channels = mapVals reprRU m := fun _ => rfl
    have hct : ∀ m, (connU mrs c (c.now + dt) m).current_time = c.now + dt := fun _ => rfl
    simp only [hru, hct, index_mid_vals, Exec.bind_val']
    refine (follows_discard r _ hP.1 hP.2).elim ?_ fun _ _ => ⟨_, rfl⟩
    rintro _ r' _ rfl
    simp only [Exec.bind_val', set_mid_vals]
    exact ⟨_, rfl, rfl⟩
  rintro _ ru _ rfl
  simp only [Exec.bind_val', Res.bind_ok]
  have hsp : (connU mrs c (c.now + dt) ru).sent_packets = mapVals reprSentEntry c.sent := rfl
  have hct : (connU mrs c (c.now + dt) ru).current_time = c.now + dt := rfl
  simp only [hsp, hct]
  rw [takeWhile_loop (fun x : Nat × PacketSent => decide (c.now + dt - x.2.sent_at ≥ C.DISCARD_AFTER_NS)) _
    (fun x => x.2.sent_at ≤ c.now + dt) ?hbt (mapVals reprSentEntry c.sent) [] ?hq]
  case hbt =>
    intro x acc hx
    have hfs : RustSem.Duration.from_secs 3 = C.DISCARD_AFTER_NS := by decide
    simp only [RustSem.Duration.sub, hx, if_true, Exec.bind_val', hfs, RustSem.push]
  case hq =>
    intro x hx
    simp only [mapVals, List.mem_map] at hx
    obtain ⟨y, hy, rfl⟩ := hx
    exact hok.sent y hy
  simp only [Exec.bind_val', List.nil_append]
  rw [forEach_foldl (fun (st : RenetClient) k => { st with sent_packets := RustSem.Map.remove st.sent_packets k }) _
    (fun _ _ => rfl)]
  have hcu : connU mrs c (c.now + dt) ru = connUS mrs c (c.now + dt) ru (mapVals reprSentEntry c.sent) := rfl
  rw [hcu, foldl_remove_sent, remove_prefix]
  simp only [Exec.bind_val', Exec.run_val, mapRes, Res.pure_eq, SameOutcome]
  simp only [mapVals, List.dropWhile_map, connUS, reprConn, reprSentEntry]
  rfl

/-- `process_packet` for EVERY byte sequence, under `ProcOk c bytes`: at most 64 pending ack ranges (the cap that
    `add_pending_ack` maintains); and IF the bytes decode to a packet `p`: `p.sequence + 1 < 2^64`, and for the client
    after `add_pending_ack` (`DispatchOk`) —
    * message packets: the addressed table is key-sorted and the channel's memory counter has room for every message
      along the model's loop (`RelMsgsOk` / `UnrelMsgsOk`);
    * slice packets: the hypotheses of the channel theorems (`SrcTieRecvRel` / `SrcTieRecvUnrel`: sorted slice table,
      room for the reservation, a constructor of sane size);
    * ack packets: for every newly acked packet along the model's loop (`AckLoopOk`): its send time is not in the
      future, and the counters its bookkeeping touches have room (`AckOneOk`).
    Unknown channel ids, undecodable bytes and channel errors are NOT excluded: both sides disconnect with the same
    reason; a reversed ack range, a missing send channel or a model panic of a channel make both sides panic. -/
theorem conn_process_packet {ε : Type} (mrs : Nat → Nat) (c : Conn) (bytes : Bytes) (hok : ProcOk c bytes) :
    ∃ mrs', SameOutcome (RenetClient.process_packet (reprConn mrs c) (toNats bytes) : Res ε _)
      (mapRes (fun c' => (reprConn mrs' c', ())) (fun e => nomatch e) (c.processPacket bytes)) := by
  rw [processPacket_dispatch]
  unfold RenetClient.process_packet
  simp only [conn_is_disconnected, Exec.call_ok, Exec.bind_eq, Exec.pure_eq, Exec.bind_val']
  cases hd : c.isDisconnected with
  | true => exact ⟨mrs, rfl⟩
  | false =>
    simp only [Bool.false_eq_true, if_false, Exec.bind_val']
    have hfb := from_bytes_eq bytes bytes (List.suffix_refl _)
    have hcur : cur bytes bytes = Octets.with_slice (toNats bytes) := by simp [cur, Octets.with_slice]
    rw [hcur] at hfb
    have hpk := hok.pkt
    unfold Packet.fromBytes at hpk ⊢
    cases hdec : Packet.decode bytes with
    | error e =>
      rw [hdec] at hfb
      simp only [fromModel] at hfb
      obtain ⟨s', hs'⟩ := attempt_forget_err (ε := ε) (ρ := RenetClient × Unit) _ _ hfb
      rw [hs']
      have hdw := conn_disconnect_with_reason (ε := ε) mrs c (.packetDeser e)
      simp only [reprReason] at hdw
      refine ⟨mrs, ?_⟩
      simp [Exec.bind_val', hdw, Exec.call_ok, Exec.bind_ret', Exec.run_ret, mapRes, SameOutcome]
    | ok x =>
      obtain ⟨p, r⟩ := x
      rw [hdec] at hfb hpk
      simp only [fromModel] at hfb
      rw [attempt_forget_ok _ _ _ hfb]
      obtain ⟨hsq, hdo⟩ := hpk p rfl
      have hadd := add_pending_ack_eq (ε := ε) (base := reprConn mrs c) c.pendingAcks p.sequence hsq hok.acks
      have hbase : reprAcks (reprConn mrs c) c.pendingAcks = reprConn mrs c := rfl
      rw [hbase] at hadd
      simp only [Exec.bind_val', packet_sequence_eq, Exec.call_ok, hadd]
      have hr1 : reprAcks (reprConn mrs c) (Acks.add 64 p.sequence c.pendingAcks)
          = reprConn mrs { c with pendingAcks := Acks.add C.ACK_RANGE_CAP p.sequence c.pendingAcks } := rfl
      rw [hr1]
      generalize ({ c with pendingAcks := Acks.add C.ACK_RANGE_CAP p.sequence c.pendingAcks } : Conn) = c1 at hdo ⊢
      clear hadd hr1 hbase hfb hdec hsq
      have hinv : ∀ ch, (RenetClient.disconnect_with_reason (reprConn mrs c1) (.ReceivedInvalidChannelId ch) : Res ε _)
          = .ok (reprConn mrs (c1.disconnectWith (.invalidChannel ch)), ()) :=
        fun ch => conn_disconnect_with_reason mrs c1 (.invalidChannel ch)
      have hrecv : ∀ (mrs : Nat → Nat) (c : Conn) ch e,
          (RenetClient.disconnect_with_reason (reprConn mrs c) (.ReceiveChannelError ch (reprCE e)) : Res ε _)
            = .ok (reprConn mrs (c.disconnectWith (.recvChan ch e)), ()) :=
        fun mrs c ch e => conn_disconnect_with_reason mrs c (.recvChan ch e)
      cases p with
      | smallReliable sq ch msgs =>
        simp only [reprPacket, dispatchM, DispatchOk] at hdo ⊢
        obtain ⟨hs, hro⟩ := hdo
        rw [contains_rr]
        cases hf : SMap.find? c1.recvRel ch with
        | none => exact ⟨mrs, by simp only [Option.isSome_none, Bool.false_eq_true, if_false, hinv]; rfl⟩
        | some r0 =>
          simp only [Option.isSome_some, if_true]
          rw [show reprConn mrs c1 = reprConn mrs (withRR c1 ch r0) by rw [withRR_same c1 ch r0 hs hf]]
          -- the loop over the messages returns from the function at the first channel error
          refine forEach_elim (fun l t r => RelMsgsOk r l ∧ ∃ mrs, t = reprConn mrs (withRR c1 ch r)) Conn.relMsgLoop
            (fun x : Nat × Bytes => (x.1, toNats x.2)) _ msgs _ r0 ⟨hro r0 hf, mrs, rfl⟩
            (fun _ r' ⟨_, mrs', ht⟩ _ => ⟨mrs', ht ▸ rfl⟩) ?_
          rintro ⟨id, m⟩ l _ r ⟨hok, mrs, rfl⟩ _
          simp only [RustSem.Map.index, find_rr, Exec.bind_val', Conn.relMsgLoop]
          rcases attempt_cases (ε := ε) (ρ := RenetClient × Unit)
              (SameOutcome.of_eq (recv_rel_process_message (mrs ch) r m id hok.1)) with
            ⟨r', hp, hat⟩ | ⟨e, r', hp, hat⟩ | ⟨st, s, hp, hat⟩
          · rw [hp, hat]
            exact .inl ⟨_, r', by simp only [Exec.bind_val', set_rr _ _ _ _ _ _ hs]; rfl, ⟨hok.2 r' hp, _, rfl⟩, rfl⟩
          · rw [hp, hat]
            simp only [Exec.bind_val', set_rr _ _ _ _ _ _ hs, hrecv, Exec.call_ok]
            exact .inr ⟨skips_ret _, _, rfl⟩
          · rw [hp, hat]
            exact .inr ⟨skips_panic _, mrs, trivial⟩
      | smallUnreliable sq ch msgs =>
        simp only [reprPacket, dispatchM, DispatchOk] at hdo ⊢
        obtain ⟨hs, hro⟩ := hdo
        rw [contains_ru]
        cases hf : SMap.find? c1.recvUnrel ch with
        | none => exact ⟨mrs, by simp only [Option.isSome_none, Bool.false_eq_true, if_false, hinv]; rfl⟩
        | some r0 =>
          simp only [Option.isSome_some, if_true]
          rw [show reprConn mrs c1 = reprConn mrs (withRU c1 ch r0) by rw [withRU_same c1 ch r0 hs hf],
            Exec.bind_skip _ _ (reprConn mrs (withRU c1 ch (msgs.foldl RecvUnrel.processMessage r0))) ?loop]
          · exact ⟨mrs, rfl⟩
          refine Follows.eq_val (f := fun r => reprConn mrs (withRU c1 ch r)) (forEach_follows toNats
            (fun r m => .ok (r.processMessage m)) (fun r l => .ok (l.foldl RecvUnrel.processMessage r)) UnrelMsgsOk _
            (fun _ => rfl) (fun _ _ _ => rfl) (fun _ _ _ _ h hs => by cases hs; exact h.2) ?_ msgs rfl r0 _ (hro r0 hf) rfl)
          rintro r m _ _ hok rfl
          simp only [RustSem.Map.index, find_ru, Exec.bind_val', recv_unrel_process_message r m hok.1, Exec.call_ok, set_ru]
          exact ⟨_, rfl, rfl⟩
      | reliableSlice sq ch sl =>
        simp only [reprPacket, dispatchM, DispatchOk] at hdo ⊢
        obtain ⟨hs, hro⟩ := hdo
        rw [contains_rr]
        cases hf : SMap.find? c1.recvRel ch with
        | none => exact ⟨mrs, by simp only [Option.isSome_none, Bool.false_eq_true, if_false, hinv]; rfl⟩
        | some r0 =>
          obtain ⟨hsl, hmem, hctor⟩ := hro r0 hf
          obtain ⟨mr', hps⟩ := recv_rel_process_slice (mrs ch) r0 sl hsl hmem hctor
          simp only [Option.isSome_some, if_true]
          rw [show reprConn mrs c1 = reprConn mrs (withRR c1 ch r0) by rw [withRR_same c1 ch r0 hs hf]]
          simp only [RustSem.Map.index, find_rr, Exec.bind_val']
          rcases attempt_cases (ε := ε) (ρ := RenetClient × Unit) hps with
            ⟨r', hp, hat⟩ | ⟨e, r', hp, hat⟩ | ⟨st, s, hp, hat⟩
          · rw [hp, hat]
            exact ⟨_, by simp only [Exec.bind_val', set_rr _ _ _ _ _ _ hs]; rfl⟩
          · rw [hp, hat]
            exact ⟨_, by simp only [Exec.bind_val', set_rr _ _ _ _ _ _ hs, hrecv, Exec.call_ok]; rfl⟩
          · rw [hp, hat]
            exact ⟨mrs, trivial⟩
      | unreliableSlice sq ch sl =>
        simp only [reprPacket, dispatchM, DispatchOk] at hdo ⊢
        rw [contains_ru]
        cases hf : SMap.find? c1.recvUnrel ch with
        | none => exact ⟨mrs, by simp only [Option.isSome_none, Bool.false_eq_true, if_false, hinv]; rfl⟩
        | some r0 =>
          obtain ⟨hsl, hmem, hctor⟩ := hdo r0 hf
          have hps := recv_unrel_process_slice r0 sl c1.now hsl hmem hctor
          have hru : (reprConn mrs c1).receive_unreliable_channels = mapVals reprRU c1.recvUnrel := rfl
          have hnow : (reprConn mrs c1).current_time = c1.now := rfl
          simp only [Option.isSome_some, if_true, RustSem.Map.index, hru, hnow, find_mapVals, hf, Option.map_some,
            Exec.bind_val']
          refine ⟨mrs, ?_⟩
          rcases attempt_cases (ε := ε) (ρ := RenetClient × Unit) hps with
            ⟨r', hp, hat⟩ | ⟨e, r', hp, hat⟩ | ⟨st, s, hp, hat⟩
          · rw [hp, hat]
            simp only [Exec.bind_val', insert_mapVals]
            rfl
          · rw [hp, hat]
            simp only [Exec.bind_val', insert_mapVals]
            erw [hrecv mrs (withRU c1 ch r') ch e]
            rfl
          · rw [hp, hat]
            trivial
      | ack sq ranges =>
        simp only [reprPacket, dispatchM, DispatchOk] at hdo ⊢
        refine ⟨mrs, ?_⟩
        refine (new_acks_loop c1.sent _ ?_ ranges []).elim ?_ fun _ _ => trivial
        · intro s e acc
          have hsp : (reprConn mrs c1).sent_packets = mapVals reprSentEntry c1.sent := rfl
          simp only [hsp, RustSem.Map.range]
          by_cases hse : s > e
          · simp only [hse, if_true, Exec.bind_panic']; exact ⟨_, rfl⟩
          · simp only [hse, if_false, Exec.bind_val', RustSem.push]
            rw [forEach_foldl (fun a (x : Nat × PacketSent) => a ++ [x.1]) _ (fun _ _ => rfl), foldl_push_keys,
              filter_mapVals_keys reprSentEntry c1.sent (fun k => decide (s ≤ k ∧ k < e))]
        rintro acks _ hn rfl
        simp only [Exec.bind_val', Res.bind_ok]
        refine (forEach_follows (R := fun t c => t = reprConn mrs c) id Conn.ackOne Conn.ackLoop AckLoopOk _ (fun _ => rfl)
          (fun _ _ _ => rfl) (fun _ _ _ _ h hs => h.2 _ hs) ?_ acks (List.map_id acks).symm c1 _ (hdo acks hn) rfl).elim
          ?_ fun _ _ => trivial
        · rintro c seq _ _ hok1 rfl
          have hsp : (reprConn mrs c).sent_packets = mapVals reprSentEntry c.sent := rfl
          have hct : (reprConn mrs c).current_time = c.now := rfl
          have hsr : (reprConn mrs c).send_reliable_channels = mapVals reprSR c.sendRel := rfl
          simp only [id_eq, hsp, hct, find_mapVals, Conn.ackOne]
          cases hf : SMap.find? c.sent seq with
          | none => exact ⟨_, rfl⟩
          | some ti =>
            obtain ⟨t, info⟩ := ti
            obtain ⟨ht, hinfo⟩ := hok1.1 t info hf
            simp only [Option.map_some, RustSem.unwrap, Exec.bind_val', reprSentEntry, RustSem.Duration.sub, ht, if_true,
              remove_mapVals]
            cases info with
            | none => exact ⟨_, rfl, rfl⟩
            | relMsgs ch ids =>
              simp only [reprInfo, RustSem.Map.index, hsr, find_mapVals] at hinfo ⊢
              cases hs : SMap.find? c.sendRel ch with
              | none => exact ⟨_, rfl⟩
              | some s0 =>
                simp only [Option.map_some, Exec.bind_val']
                refine (forEach_follows (R := fun t s => t = reprConn mrs (withSR (withSent c (SMap.erase c.sent seq)) ch s))
                  id (fun s id => s.processMessageAck id) Conn.ackMsgLoop (fun _ _ => True) _ (fun _ => rfl)
                  (fun _ _ _ => rfl) (fun _ _ _ _ _ _ => trivial) ?_ ids (List.map_id ids).symm s0 _ trivial
                  (by rw [withSR_same (withSent c (SMap.erase c.sent seq)) ch s0 hinfo hs]; rfl)).elim ?_ fun _ _ => ⟨_, rfl⟩
                · rintro s id _ _ _ rfl
                  simp only [id_eq, find_sr, Exec.bind_val']
                  refine (follows_call (send_rel_process_message_ack s id)).elim ?_ fun _ _ => ⟨_, rfl⟩
                  rintro _ s' _ rfl
                  simp only [Exec.bind_val', set_sr]
                  exact ⟨_, rfl, rfl⟩
                rintro _ s' _ rfl
                exact ⟨_, rfl, rfl⟩
            | relSlice ch id idx =>
              simp only [reprInfo, RustSem.Map.index, hsr, find_mapVals] at hinfo ⊢
              cases hs : SMap.find? c.sendRel ch with
              | none => exact ⟨_, rfl⟩
              | some s0 =>
                obtain ⟨hsu, hnx⟩ := hinfo s0 hs
                simp only [Option.map_some, Exec.bind_val']
                refine (follows_call (send_rel_process_slice_message_ack s0 id idx hsu hnx)).elim ?_ fun _ _ => ⟨_, rfl⟩
                rintro _ s' _ rfl
                simp only [Exec.bind_val', insert_mapVals]
                exact ⟨_, rfl, rfl⟩
            | ack largest =>
              simp only [reprInfo] at hinfo ⊢
              erw [acked_largest_eq (base := reprConn mrs (withSent c (SMap.erase c.sent seq))) c.pendingAcks largest
                hinfo.1 hinfo.2]
              exact ⟨_, rfl, rfl⟩
        rintro _ c' _ rfl
        rfl

/-- a connected client at t = 5 s: packet 5 (reliable message 0 of channel 1, sent at 1 s) and packet 6 (an ack packet,
    sent at 4 s) are in flight; ack range 3..5 pending; receive channels 0 (unreliable) and 1 (reliable ordered) -/
def exRecv : RenetClient :=
  ⟨7, 5000000000, [(5, ⟨1000000000, .ReliableMessages 1 [0]⟩), (6, ⟨4000000000, .Ack 4⟩)], [⟨3, 5⟩], [.Reliable 1],
   [], [(0, ⟨0, [], [], [], 100, 0⟩)], [(1, ⟨1, [(0, .Small [7, 8] (some 1000000000))], 1, 100, 4, 2⟩)],
   [(1, ⟨[], [], 0, .Ordered, 0, 100⟩)], 60000, .Connected⟩

/-- one more second: packet 5 is 5 s old (≥ 3 s) and is forgotten; packet 6 (2 s old) stops the scan -/
example : (RenetClient.update exRecv 1000000000 : Res Empty _) =
    .ok ({ exRecv with current_time := 6000000000, sent_packets := [(6, ⟨4000000000, .Ack 4⟩)] }, ()) := by
  decide +kernel
example : (RenetClient.update exRecv Duration.MAX : Res Empty _) =
    .panic "renet/src/remote_connection.rs:RenetClient::update: self.current_time += duration" := by decide +kernel

/-- `Ack { sequence: 9, ranges: [5..6] }`: sequence 9 is queued for acking, packet 5 is acked, so message 0 leaves the
    send channel and its 2 bytes are released -/
example : (RenetClient.process_packet exRecv [4, 9, 5, 0, 0] : Res Empty _) =
    .ok ({ exRecv with
            sent_packets := [(6, ⟨4000000000, .Ack 4⟩)], pending_acks := [⟨3, 5⟩, ⟨9, 10⟩],
            send_reliable_channels := [(1, ⟨1, [], 1, 100, 4, 0⟩)] }, ()) := by decide +kernel
/-- `SmallReliable { sequence: 9, channel_id: 1, messages: [(0, [1, 2])] }` -/
example : (RenetClient.process_packet exRecv [0, 9, 1, 0, 1, 0, 2, 1, 2] : Res Empty _) =
    .ok ({ exRecv with
            pending_acks := [⟨3, 5⟩, ⟨9, 10⟩],
            receive_reliable_channels := [(1, ⟨[], [(0, [1, 2])], 0, .Ordered, 2, 100⟩)] }, ()) := by decide +kernel
/-- `SmallUnreliable` for channel 0 / for the unknown channel 3 (the sequence is acked before the lookup fails) -/
example : (RenetClient.process_packet exRecv [1, 9, 0, 0, 1, 2, 1, 2] : Res Empty _) =
    .ok ({ exRecv with
            pending_acks := [⟨3, 5⟩, ⟨9, 10⟩],
            receive_unreliable_channels := [(0, ⟨0, [[1, 2]], [], [], 100, 2⟩)] }, ()) := by decide +kernel
example : (RenetClient.process_packet exRecv [1, 9, 3, 0, 1, 2, 1, 2] : Res Empty _) =
    .ok ({ exRecv with
            pending_acks := [⟨3, 5⟩, ⟨9, 10⟩],
            connection_status := .Disconnected (.ReceivedInvalidChannelId 3) }, ()) := by decide +kernel
/-- an unknown packet type: disconnected, nothing acked -/
example : (RenetClient.process_packet exRecv [9] : Res Empty _) =
    .ok ({ exRecv with connection_status := .Disconnected (.PacketDeserialization .InvalidPacketType) }, ()) := by
  decide +kernel

end RenetVerif.SrcTie
