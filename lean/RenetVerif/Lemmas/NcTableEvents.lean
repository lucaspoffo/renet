/-
  Netcode server: the slot-table footprint of every operation (`SlotStep`: the one slot written and the event reported;
  `TableStep` is the same read by the result), what an operation other than `process_packet` can do at all
  (`QuietStep`), reachable states (`Reach`, with a ghost log of the ClientConnected / ClientDisconnected results), the
  event discipline, lookups, capacity (property C10).
-/
import RenetVerif.Lemmas.NcTablePP
namespace RenetVerif.Netcode
namespace NS
open RenetVerif

/-! ## Part 4 : what one operation does to the slot table -/

/-- The footprint of an operation on the slot table, as announced by its result:
    * `ClientConnected id addr ud` : a free slot receives a session with exactly that id, address and user data, and
      neither the id nor the address was connected before;
    * `ClientDisconnected id addr` : the slot that held the session with that id (and that address) is freed;
    * anything else : the sessions (id, address, user data, keys, timeout of every slot) are untouched. -/
def TableStep (cl cl' : Slots) : ServerResult → Prop
  | .clientConnected id ad ud _ =>
      ∃ i c, cl[i]? = some none ∧ cl' = cl.set i (some c) ∧ c.clientId = id ∧ c.addr = ad ∧ c.userData = ud ∧
        ∀ j cj, At cl j cj → cj.clientId ≠ id ∧ cj.addr ≠ ad
  | .clientDisconnected id ad _ => ∃ i c, At cl i c ∧ c.clientId = id ∧ c.addr = ad ∧ cl' = cl.set i none
  | _ => sessions cl' = sessions cl

theorem hcr_clients {a : AEAD} {s : NetcodeServer} {addr : Addr} {v : Bytes} {pid expire : Nat} {xnonce data : Bytes}
    {R : NetcodeServer.SRes} {r : ServerResult} {s' : NetcodeServer}
    (ho : HcrOut a s addr v pid expire xnonce data R) (hr : HcrRes R r s') :
    s'.clients = s.clients ∧ (r = .none ∨ ∃ out, r = .packetToSend addr out) := by
  rcases hcrOut_cases ho hr with ⟨-, rfl, rfl⟩ | ⟨t, s1, -, hstep, hans⟩
  · exact ⟨rfl, Or.inl rfl⟩
  obtain ⟨es, rfl⟩ := hstep.writes
  cases hans with
  | deniedQuiet | challengeQuiet => exact ⟨rfl, Or.inl rfl⟩
  | denied out | challenge _ out => exact ⟨rfl, Or.inr ⟨out, rfl⟩⟩

theorem ppOut_payload {a : AEAD} {s : NetcodeServer} {addr : Addr} {buf : Bytes} {id : Nat} {p : Bytes}
    {s' : NetcodeServer} (ho : PPOut a s addr buf (.payload id p) s') :
    ∃ i c sq w', At s.clients i c ∧ c.clientId = id ∧ c.addr = addr ∧
      Packet.decode a buf s.protocolId (some c.receiveKey) (some c.replayProtection) = (.ok (sq, .payload p), some w') := by
  generalize hr : ServerResult.payload id p = r at ho
  cases ho with
  | connPayload i c sq p' w' hfa hdec =>
    cases hr
    exact ⟨i, c, sq, w', (findAddr_some hfa).1, rfl, (findAddr_some hfa).2, hdec⟩
  | pendRequest p' sq v pid expire xnonce data w' R _ _ hfa hpf hdec hout hres =>
    subst hr
    rcases (hcr_clients hout hres).2 with h | ⟨_, h⟩ <;> cases h
  | newRequest sq v pid expire xnonce data R _ _ hfa hpf hdec hout hres =>
    subst hr
    rcases (hcr_clients hout hres).2 with h | ⟨_, h⟩ <;> cases h
  | _ => cases hr

theorem hcr_writes {a : AEAD} {s : NetcodeServer} {addr : Addr} {v : Bytes} {pid expire : Nat} {xnonce data : Bytes}
    {R : NetcodeServer.SRes} {r : ServerResult} {s' : NetcodeServer}
    (ho : HcrOut a s addr v pid expire xnonce data R) (hr : HcrRes R r s') :
    ∃ es pd g cs, s' = { s with connectTokenEntries := es, pendingClients := pd, globalSequence := g
                                challengeSequence := cs } ∧
      (∀ ad, ad ≠ addr → pendingFind pd ad = pendingFind s.pendingClients ad) ∧
      g ≤ s.globalSequence + 1 ∧ cs ≤ s.challengeSequence + 1 := by
  rcases hcrOut_cases ho hr with ⟨-, -, rfl⟩ | ⟨t, s1, -, hstep, hans⟩
  · exact ⟨_, _, _, _, rfl, fun _ _ => rfl, Nat.le_succ _, Nat.le_succ _⟩
  rcases hstep with rfl | ⟨-, k, rfl⟩ <;> cases hans <;>
    exact ⟨_, _, _, _, rfl, fun ad hne => by simp only [pendingFind_filter_ne, pendingFind_set, if_neg hne], by simp, by simp⟩

theorem ppOut_writes {a : AEAD} {s : NetcodeServer} {addr : Addr} {buf : Bytes} {r : ServerResult} {s' : NetcodeServer}
    (ho : PPOut a s addr buf r s') :
    ∃ cl es pd g cs, s' = { s with clients := cl, connectTokenEntries := es, pendingClients := pd, globalSequence := g
                                   challengeSequence := cs } ∧
      (∀ ad, ad ≠ addr → pendingFind pd ad = pendingFind s.pendingClients ad) ∧
      g ≤ s.globalSequence + 1 ∧ cs ≤ s.challengeSequence + 1 := by
  have pset : ∀ (x : Connection) ad, ad ≠ addr →
      pendingFind (pendingSet s.pendingClients addr x) ad = pendingFind s.pendingClients ad :=
    fun x ad hne => by rw [pendingFind_set, if_neg hne]
  have prem : ∀ ad, ad ≠ addr → pendingFind (pendingRemove s.pendingClients addr) ad = pendingFind s.pendingClients ad :=
    fun ad hne => by rw [pendingFind_filter_ne, if_neg hne]
  cases ho with
  | pendErr | pendOther | respRejected => exact ⟨_, _, _, _, _, rfl, pset _, Nat.le_succ _, Nat.le_succ _⟩
  | respDropped | respConnected => exact ⟨_, _, _, _, _, rfl, prem, Nat.le_succ _, Nat.le_succ _⟩
  | respFull => exact ⟨_, _, _, _, _, rfl, prem, Nat.le_refl _, Nat.le_succ _⟩
  | pendRequest p sq v pid expire xnonce data w' R _ _ hfa hpf hdec hout hres =>
    obtain ⟨es, pd, g, cs, rfl, hp, hg, hc⟩ := hcr_writes hout hres
    exact ⟨_, _, _, _, _, rfl, fun ad hne => (hp ad hne).trans (pset _ ad hne), hg, hc⟩
  | newRequest sq v pid expire xnonce data R _ _ hfa hpf hdec hout hres =>
    obtain ⟨es, pd, g, cs, rfl, hp, hg, hc⟩ := hcr_writes hout hres
    exact ⟨_, _, _, _, _, rfl, hp, hg, hc⟩
  | _ => exact ⟨_, _, _, _, _, rfl, fun _ _ => rfl, Nat.le_succ _, Nat.le_succ _⟩

/-- what the application sees of the connection table -/
inductive Event where
  | connected (id : Nat) (addr : Addr) (userData : Bytes)
  | disconnected (id : Nat) (addr : Addr)
  deriving DecidableEq, Repr

def eventOf : ServerResult → List Event
  | .clientConnected id ad ud _ => [.connected id ad ud]
  | .clientDisconnected id ad _ => [.disconnected id ad]
  | _ => []

/-- **What one operation does to the slot table**, with the events its result reports (`eventOf`): nothing; or the
    session in one slot — one the operation `touches`: the session connected from the datagram's source address, resp.
    the session with the client id the operation names — is replaced by one of the same identity whose send counter
    moved by at most one, or is dropped (`disconnected`); or a free slot receives a session (one that `fills`) that has
    sent at most one packet and whose id and address were not connected (`connected`). -/
inductive SlotStep (touches fills : Connection → Prop) (cl : Slots) : Slots → List Event → Prop
  | same : SlotStep touches fills cl cl []
  | rewrite {i : Nat} {c : Connection} (c' : Connection) : At cl i c → touches c → ident c' = ident c →
      c'.sequence ≤ c.sequence + 1 → SlotStep touches fills cl (cl.set i (some c')) []
  | drop {i : Nat} {c : Connection} : At cl i c → touches c →
      SlotStep touches fills cl (cl.set i none) [.disconnected c.clientId c.addr]
  | fill {i : Nat} (p : Connection) : cl[i]? = some none → fills p → p.sequence ≤ 1 →
      (∀ j cj, At cl j cj → cj.clientId ≠ p.clientId ∧ cj.addr ≠ p.addr) →
      SlotStep touches fills cl (cl.set i (some p)) [.connected p.clientId p.addr p.userData]

theorem ppOut_slots {a : AEAD} {s : NetcodeServer} {addr : Addr} {buf : Bytes} {r : ServerResult} {s' : NetcodeServer}
    (hi : ServerInv s) (ho : PPOut a s addr buf r s') :
    SlotStep (·.addr = addr) (·.addr = addr) s.clients s'.clients (eventOf r) := by
  cases ho with
  | connErr i c _ _ hfa | connPayload i c _ _ _ hfa | connKeepAlive i c _ _ _ _ hfa | connOther i c _ _ _ hfa =>
    exact .rewrite _ (findAddr_some hfa).1 (findAddr_some hfa).2 rfl (Nat.le_succ _)
  | connDisconnect i c sq w' hfa =>
    obtain ⟨hc, rfl⟩ := findAddr_some hfa
    exact .drop hc rfl
  | respConnected p sq ts td w' i out hfa hpf hdec hct hid hff hen =>
    have hp := hi.pend (addr, p) (pendingFind_mem hpf)
    obtain rfl : p.addr = addr := hp.key
    exact .fill (promoted p w' s.currentTime) (firstFree_some hff) rfl
      (by show p.sequence + 1 ≤ 1; rw [hp.seq]; exact Nat.le_refl 1)
      fun j cj hj => ⟨findById_none.mp hid j cj hj, findAddr_none.mp hfa j cj hj⟩
  | pendRequest p sq v pid expire xnonce data w' R _ _ hfa hpf hdec hout hres =>
    obtain ⟨h1, rfl | ⟨out, rfl⟩⟩ := hcr_clients hout hres <;> rw [h1] <;> exact .same
  | newRequest sq v pid expire xnonce data R _ _ hfa hpf hdec hout hres =>
    obtain ⟨h1, rfl | ⟨out, rfl⟩⟩ := hcr_clients hout hres <;> rw [h1] <;> exact .same
  | _ => exact .same

theorem IdOut.slots {a : AEAD} {s s' : NetcodeServer} {id : Nat} {mk : Nat → Packet} {r : ServerResult}
    (ho : IdOut a s id mk r s') : SlotStep (·.clientId = id) (fun _ => False) s.clients s'.clients (eventOf r) := by
  cases ho with
  | idle => exact .same
  | ended o _ hc hid => subst hid; exact .drop hc rfl
  | sent out _ hc hid => exact .rewrite _ hc hid rfl (Nat.le_refl _)

theorem SlotStep.tableStep {t f : Connection → Prop} {cl cl' : Slots} {r : ServerResult}
    (h : SlotStep t f cl cl' (eventOf r)) : TableStep cl cl' r := by
  cases r with
  | clientConnected id ad ud out =>
    cases h with
    | fill p hfree _ _ hfresh => exact ⟨_, p, hfree, rfl, rfl, rfl, rfl, hfresh⟩
  | clientDisconnected id ad out =>
    cases h with
    | drop hc => exact ⟨_, _, hc, rfl, rfl, rfl⟩
  | _ =>
    cases h with
    | same => exact rfl
    | rewrite c' hc _ hid => exact sessions_set_same hc hid

theorem SlotStep.length {t f : Connection → Prop} {cl cl' : Slots} {ev : List Event} (h : SlotStep t f cl cl' ev) : cl'.length = cl.length := by
  cases h <;> simp

theorem SlotStep.before {t f : Connection → Prop} {cl cl' : Slots} {ev : List Event} (h : SlotStep t f cl cl' ev) {j : Nat}
    {c' : Connection} (hc : At cl' j c') (ht : ∀ c, ident c' = ident c → ¬ t c) (hf : ¬ f c') : At cl j c' := by
  cases h with
  | same => exact hc
  | rewrite x _ htc hid =>
    rcases at_set_some hc with ⟨-, rfl⟩ | ⟨-, hj⟩
    · exact absurd htc (ht _ hid)
    · exact hj
  | drop => exact (at_set_none hc).1
  | fill p _ hfp =>
    rcases at_set_some hc with ⟨-, rfl⟩ | ⟨-, hj⟩
    · exact absurd hfp hf
    · exact hj

theorem SlotStep.keeps {t f : Connection → Prop} {cl cl' : Slots} {ev : List Event} (h : SlotStep t f cl cl' ev) {j : Nat}
    {c : Connection} (hc : At cl j c) (ht : ¬ t c) : At cl' j c := by
  cases h with
  | same => exact hc
  | rewrite x hi hti => exact at_set_of_ne (fun e => ht (at_inj (e ▸ hi) hc ▸ hti)) hc
  | drop hi hti => exact at_set_of_ne (fun e => ht (at_inj (e ▸ hi) hc ▸ hti)) hc
  | fill p hfree =>
    refine at_set_of_ne (fun e => ?_) hc
    subst e; unfold At at hc; rw [hfree] at hc; cases hc

/-! ## Part 5 : reachable states and the event log -/

/-- the public operations of `NetcodeServer` -/
inductive Op where
  | packet (addr : Addr) (buf : Bytes)
  | update (duration : Nat)
  | updateClient (clientId : Nat)
  | disconnect (clientId : Nat)
  | setMaxClients (maxClients : Nat)
  | sendPayload (clientId : Nat) (payload : Bytes)

/-- one operation; `none` = the call unwinds.  (`generate_payload_packet` returning `Err` leaves the state as it is.) -/
def step (a : AEAD) (s : NetcodeServer) : Op → Option (ServerResult × NetcodeServer)
  | .packet addr buf => match s.processPacket a addr buf with
    | .ok x => some x
    | _ => none
  | .update d => match s.update d with
    | .ok s' => some (.none, s')
    | _ => none
  | .updateClient id => match s.updateClient a id with
    | .ok x => some x
    | _ => none
  | .disconnect id => match s.disconnect a id with
    | .ok x => some x
    | _ => none
  | .setMaxClients m => some (.none, s.setMaxClients m)
  | .sendPayload id p => match s.generatePayloadPacket a id p with
    | .ok ((ad, out), s') => some (.packetToSend ad out, s')
    | .err _ => some (.none, s)
    | .panic _ => none

/-- the packet an operation sends from slot `i` when it sends one to its client: the payload, else a keep-alive -/
def Op.sends (s : NetcodeServer) : Op → Nat → Packet
  | .sendPayload _ p, _ => .payload p
  | _, i => keepAliveOf s i

def Op.client : Op → Option Nat
  | .updateClient id | .disconnect id | .sendPayload id _ => some id
  | _ => none

/-- reading a successful call off the `match` by which `step` turns an unwinding into `none` (stated at the result
    type of the server calls: only then is this `match` the very one `step` unfolds to) -/
theorem ok_of_match_some {x : Res Empty (ServerResult × NetcodeServer)} {y : ServerResult × NetcodeServer}
    (h : (match x with | .ok v => some v | _ => none) = some y) : x = .ok y := by
  cases x with
  | ok v => cases h; rfl
  | err e => exact e.elim
  | panic m => cases h

theorem pp_of_step {a : AEAD} {s : NetcodeServer} {ad : Addr} {buf : Bytes} {x : ServerResult × NetcodeServer} :
    step a s (.packet ad buf) = some x ↔ s.processPacket a ad buf = .ok x :=
  ⟨ok_of_match_some, fun h => by simp only [step, h]⟩

theorem step_cases {a : AEAD} {s s' : NetcodeServer} {op : Op} {r : ServerResult} (h : step a s op = some (r, s')) :
    (∃ addr buf, op = .packet addr buf ∧ s.processPacket a addr buf = .ok (r, s')) ∨
    (∃ d, op = .update d ∧ r = .none ∧ s.update d = .ok s') ∨
    (∃ m, op = .setMaxClients m ∧ r = .none ∧ s' = s.setMaxClients m) ∨
    ((∀ addr buf, op ≠ .packet addr buf) ∧ ∃ id, op.client = some id ∧ IdOut a s id (op.sends s) r s') := by
  cases op with
  | packet addr buf => exact Or.inl ⟨addr, buf, rfl, ok_of_match_some h⟩
  | update d =>
    simp only [step] at h
    cases hp : s.update d with
    | ok x => rw [hp] at h; cases h; exact Or.inr (Or.inl ⟨d, rfl, rfl, hp⟩)
    | err e => exact e.elim
    | panic m => rw [hp] at h; cases h
  | updateClient id => exact Or.inr (Or.inr (Or.inr ⟨nofun, id, rfl, updateClient_ok (ok_of_match_some h)⟩))
  | disconnect id => exact Or.inr (Or.inr (Or.inr ⟨nofun, id, rfl, disconnect_ok (ok_of_match_some h)⟩))
  | setMaxClients m => cases h; exact Or.inr (Or.inr (Or.inl ⟨m, rfl, rfl, rfl⟩))
  | sendPayload id p =>
    simp only [step] at h
    cases hp : s.generatePayloadPacket a id p with
    | ok x =>
      obtain ⟨⟨ad, out⟩, s''⟩ := x
      rw [hp] at h; cases h; exact Or.inr (Or.inr (Or.inr ⟨nofun, id, rfl, generatePayload_idOut hp⟩))
    | err e => rw [hp] at h; cases h; exact Or.inr (Or.inr (Or.inr ⟨nofun, id, rfl, .idle⟩))
    | panic m => rw [hp] at h; cases h

theorem step_inv {a : AEAD} {s s' : NetcodeServer} {op : Op} {r : ServerResult} (hi : ServerInv s)
    (h : step a s op = some (r, s')) : ServerInv s' := by
  rcases step_cases h with ⟨addr, buf, -, hp⟩ | ⟨d, -, -, hu⟩ | ⟨m, -, -, rfl⟩ | ⟨-, id, -, ho⟩
  · exact ppOut_inv hi (pp_ok hi hp)
  · exact update_inv hi hu
  · exact setMaxClients_inv hi m
  · exact ho.inv hi

/-- a growth of the slot list by free slots (what `set_max_clients` may do) -/
def Grown (cl cl' : Slots) : Prop := ∃ n, cl' = cl ++ List.replicate n none

theorem step_slots {a : AEAD} {s s' : NetcodeServer} {op : Op} {r : ServerResult} (hi : ServerInv s)
    (h : step a s op = some (r, s')) :
    (∃ m, op = .setMaxClients m ∧ r = .none ∧ s' = s.setMaxClients m) ∨
    (TableStep s.clients s'.clients r ∧ s'.maxClients = s.maxClients) := by
  rcases step_cases h with ⟨addr, buf, -, hp⟩ | ⟨d, -, rfl, hu⟩ | hm | ⟨-, id, -, ho⟩
  · obtain ⟨cl, es, pd, g, cs, rfl, -⟩ := ppOut_writes (pp_ok hi hp)
    exact Or.inr ⟨(ppOut_slots hi (pp_ok hi hp)).tableStep, rfl⟩
  · rw [update_ok hu]; exact Or.inr ⟨rfl, rfl⟩
  · exact Or.inl hm
  · obtain ⟨⟨cl, e⟩, -⟩ := ho.writes
    exact Or.inr ⟨ho.slots.tableStep, by rw [e]⟩

theorem step_table {a : AEAD} {s s' : NetcodeServer} {op : Op} {r : ServerResult} (hi : ServerInv s)
    (h : step a s op = some (r, s')) : TableStep s.clients s'.clients r ∨ (r = .none ∧ Grown s.clients s'.clients) := by
  rcases step_slots hi h with ⟨m, -, rfl, rfl⟩ | ⟨ht, -⟩
  · exact Or.inr ⟨rfl, _, (setMaxClients_eq s m).2.1⟩
  · exact Or.inl ht

abbrev NotSession (r : ServerResult) : Prop :=
  (∀ id ad ud o, r ≠ .clientConnected id ad ud o) ∧ ∀ id p, r ≠ .payload id p

theorem notSession_none : NotSession .none := ⟨nofun, nofun⟩

theorem notSession_toSend (ad : Addr) (out : Bytes) : NotSession (.packetToSend ad out) := ⟨nofun, nofun⟩

theorem notSession_disconnected (id : Nat) (ad : Addr) (o : Option Bytes) : NotSession (.clientDisconnected id ad o) :=
  ⟨nofun, nofun⟩

/-- all a session, the pending map and the token-entry table can see of an operation other than `process_packet` -/
structure QuietStep (s : NetcodeServer) (r : ServerResult) (s' : NetcodeServer) : Prop where
  result : NotSession r
  proto : s'.protocolId = s.protocolId
  slot : ∀ i c', At s'.clients i c' → ∃ c, At s.clients i c ∧ c'.clientId = c.clientId ∧ c'.receiveKey = c.receiveKey ∧
    c'.addr = c.addr ∧ c'.replayProtection = c.replayProtection
  pend : ∀ y ∈ s'.pendingClients, y ∈ s.pendingClients
  entries : s'.connectTokenEntries = s.connectTokenEntries

theorem QuietStep.same {s : NetcodeServer} {r : ServerResult} (hr : NotSession r) : QuietStep s r s :=
  ⟨hr, rfl, fun _ c' hc' => ⟨c', hc', rfl, rfl, rfl, rfl⟩, fun _ hy => hy, rfl⟩

theorem QuietStep.setSlot {s : NetcodeServer} {r : ServerResult} (hr : NotSession r) {i : Nat} {c : Connection}
    (hc : At s.clients i c) {x : Option Connection}
    (hx : ∀ c', x = some c' → c'.clientId = c.clientId ∧ c'.receiveKey = c.receiveKey ∧ c'.addr = c.addr ∧
      c'.replayProtection = c.replayProtection) :
    QuietStep s r { s with clients := s.clients.set i x } := by
  refine ⟨hr, rfl, fun j c' hc' => ?_, fun _ hy => hy, rfl⟩
  rw [at_set] at hc'
  split at hc'
  · rename_i hij; subst hij
    exact ⟨c, hc, hx c' hc'.2⟩
  · exact ⟨c', hc', rfl, rfl, rfl, rfl⟩

theorem IdOut.quiet {a : AEAD} {s s' : NetcodeServer} {id : Nat} {mk : Nat → Packet} {r : ServerResult}
    (ho : IdOut a s id mk r s') : QuietStep s r s' := by
  cases ho with
  | idle => exact .same notSession_none
  | ended o _ hc => exact .setSlot (notSession_disconnected _ _ _) hc nofun
  | sent out _ hc => exact .setSlot (notSession_toSend _ _) hc fun c' e => by cases e; exact ⟨rfl, rfl, rfl, rfl⟩

theorem step_packet_or_quiet {a : AEAD} {s s' : NetcodeServer} {op : Op} {r : ServerResult}
    (hs : step a s op = some (r, s')) :
    (∃ addr buf, op = .packet addr buf ∧ s.processPacket a addr buf = .ok (r, s')) ∨
      ((∀ ad buf, op ≠ .packet ad buf) ∧ QuietStep s r s') := by
  rcases step_cases hs with hp | ⟨d, rfl, rfl, hu⟩ | ⟨m, rfl, rfl, rfl⟩ | ⟨hop, id, -, ho⟩
  · exact Or.inl hp
  · rw [update_ok hu]
    exact Or.inr ⟨nofun, notSession_none, rfl, fun _ c' hc' => ⟨c', hc', rfl, rfl, rfl, rfl⟩,
      fun _ hy => (List.mem_filter.mp hy).1, rfl⟩
  · obtain ⟨-, e2, e3, e4, -⟩ := setMaxClients_eq s m
    refine Or.inr ⟨nofun, notSession_none, rfl, fun i c' hc' => ?_, fun y hy => e3 ▸ hy, e4⟩
    rw [e2] at hc'
    exact ⟨c', at_append_none.mp hc', rfl, rfl, rfl, rfl⟩
  · exact Or.inr ⟨hop, ho.quiet⟩

/-- a connected session as the application knows it -/
abbrev Sess := Nat × Addr × Bytes

/-- Replaying a log against the set of live sessions; `none` = the log breaks the discipline:
    `connected id addr ud` needs `id` and `addr` not live; `disconnected id addr` needs a live session with that id
    and address, and ends it. -/
def replay : List Event → List Sess → Option (List Sess)
  | [], L => some L
  | .connected id ad ud :: rest, L =>
    if L.any (fun x => x.1 = id ∨ x.2.1 = ad) then none else replay rest (L ++ [(id, ad, ud)])
  | .disconnected id ad :: rest, L =>
    if L.any (fun x => x.1 = id ∧ x.2.1 = ad) then replay rest (L.filter fun x => ¬ (x.1 = id ∧ x.2.1 = ad)) else none

theorem replay_append : ∀ (l1 l2 : List Event) (L : List Sess),
    replay (l1 ++ l2) L = (replay l1 L).bind (replay l2)
  | [], l2, L => rfl
  | .connected id ad ud :: rest, l2, L => by
    simp only [List.cons_append, replay]
    split
    · rfl
    · exact replay_append rest l2 _
  | .disconnected id ad :: rest, l2, L => by
    simp only [List.cons_append, replay]
    split
    · exact replay_append rest l2 _
    · rfl

theorem replay_append_some {l1 l2 : List Event} {L L' : List Sess} :
    replay (l1 ++ l2) L = some L' ↔ ∃ M, replay l1 L = some M ∧ replay l2 M = some L' := by
  rw [replay_append, Option.bind_eq_some_iff]

theorem replay_connected_cons {id : Nat} {ad : Addr} {ud : Bytes} {rest : List Event} {L L' : List Sess} :
    replay (.connected id ad ud :: rest) L = some L' ↔
      (∀ x ∈ L, x.1 ≠ id ∧ x.2.1 ≠ ad) ∧ replay rest (L ++ [(id, ad, ud)]) = some L' := by
  simp only [replay, List.any_eq_true, decide_eq_true_eq]
  split
  · rename_i h
    obtain ⟨x, hx, hor⟩ := h
    exact ⟨nofun, fun h' => absurd hor (not_or.mpr (h'.1 x hx))⟩
  · rename_i h
    exact ⟨fun h' => ⟨fun x hx => not_or.mp fun hor => h ⟨x, hx, hor⟩, h'⟩, fun h' => h'.2⟩

theorem replay_disconnected_cons {id : Nat} {ad : Addr} {rest : List Event} {L L' : List Sess} :
    replay (.disconnected id ad :: rest) L = some L' ↔
      (∃ x ∈ L, x.1 = id ∧ x.2.1 = ad) ∧ replay rest (L.filter fun x => ¬ (x.1 = id ∧ x.2.1 = ad)) = some L' := by
  simp only [replay, List.any_eq_true, decide_eq_true_eq]
  split
  · rename_i h; exact ⟨fun h' => ⟨h, h'⟩, fun h' => h'.2⟩
  · rename_i h; exact ⟨nofun, fun h' => absurd h'.1 h⟩

def Agree (cl : Slots) (L : List Sess) : Prop :=
  ∀ id ad ud, (id, ad, ud) ∈ L ↔ ∃ i c, At cl i c ∧ c.clientId = id ∧ c.addr = ad ∧ c.userData = ud

theorem sess_of_sessions {cl cl' : Slots} (h : sessions cl' = sessions cl) {id : Nat} {ad : Addr} {ud : Bytes} :
    (∃ i c, At cl' i c ∧ c.clientId = id ∧ c.addr = ad ∧ c.userData = ud) →
    ∃ i c, At cl i c ∧ c.clientId = id ∧ c.addr = ad ∧ c.userData = ud := by
  rintro ⟨i, c, hc, h1, h2, h3⟩
  obtain ⟨c', hc', hi⟩ := at_sessions h hc
  simp only [ident, Ident.mk.injEq] at hi
  exact ⟨i, c', hc', by rw [hi.1, h1], by rw [hi.2.1, h2], by rw [hi.2.2.1, h3]⟩

theorem agree_of_sessions {cl cl' : Slots} {L : List Sess} (h : sessions cl' = sessions cl) (ha : Agree cl L) :
    Agree cl' L :=
  fun id ad ud => (ha id ad ud).trans ⟨sess_of_sessions h.symm, sess_of_sessions h⟩

theorem agree_grown {cl cl' : Slots} {L : List Sess} (h : Grown cl cl') (ha : Agree cl L) : Agree cl' L := by
  obtain ⟨n, rfl⟩ := h
  intro id ad ud
  rw [ha id ad ud]
  constructor
  · rintro ⟨i, c, hc, h⟩; exact ⟨i, c, at_append_none.mpr hc, h⟩
  · rintro ⟨i, c, hc, h⟩; exact ⟨i, c, at_append_none.mp hc, h⟩

theorem agree_step {cl cl' : Slots} {L : List Sess} {r : ServerResult} (hs : SlotsOK cl) (ha : Agree cl L)
    (ht : TableStep cl cl' r) : ∃ L', replay (eventOf r) L = some L' ∧ Agree cl' L' := by
  cases r with
  | clientConnected id ad ud out =>
    obtain ⟨i, c, hfree, rfl, hid, had, hud, hfresh⟩ := ht
    have hany : ∀ x ∈ L, x.1 ≠ id ∧ x.2.1 ≠ ad := by
      rintro ⟨id', ad', ud'⟩ hx
      obtain ⟨j, cj, hj, h1, h2, -⟩ := (ha id' ad' ud').mp hx
      exact ⟨h1 ▸ (hfresh j cj hj).1, h2 ▸ (hfresh j cj hj).2⟩
    refine ⟨L ++ [(id, ad, ud)], replay_connected_cons.mpr ⟨hany, rfl⟩, ?_⟩
    intro id' ad' ud'
    simp only [List.mem_append, List.mem_singleton, Prod.mk.injEq]
    rw [ha id' ad' ud']
    have hlt : i < cl.length := (List.getElem?_eq_some_iff.mp hfree).1
    constructor
    · rintro (⟨j, cj, hj, h⟩ | ⟨rfl, rfl, rfl⟩)
      · refine ⟨j, cj, at_set_of_ne ?_ hj, h⟩
        intro e; subst e
        unfold At at hj; rw [hfree] at hj; simp at hj
      · exact ⟨i, c, at_set_self hlt, hid, had, hud⟩
    · rintro ⟨j, cj, hj, h1, h2, h3⟩
      rcases at_set_some hj with ⟨_, rfl⟩ | ⟨_, hj'⟩
      · right; exact ⟨by rw [← h1, hid], by rw [← h2, had], by rw [← h3, hud]⟩
      · left; exact ⟨j, cj, hj', h1, h2, h3⟩
  | clientDisconnected id ad out =>
    obtain ⟨i, c, hc, hid, had, rfl⟩ := ht
    have hany : ∃ x ∈ L, x.1 = id ∧ x.2.1 = ad :=
      ⟨(id, ad, c.userData), (ha id ad c.userData).mpr ⟨i, c, hc, hid, had, rfl⟩, rfl, rfl⟩
    refine ⟨L.filter fun x => ¬ (x.1 = id ∧ x.2.1 = ad), replay_disconnected_cons.mpr ⟨hany, rfl⟩, ?_⟩
    intro id' ad' ud'
    simp only [List.mem_filter, decide_eq_true_eq]
    rw [ha id' ad' ud']
    constructor
    · rintro ⟨⟨j, cj, hj, h1, h2, h3⟩, hne⟩
      refine ⟨j, cj, at_set_of_ne ?_ hj, h1, h2, h3⟩
      intro e; subst e
      have := at_inj hc hj; subst this
      exact hne ⟨by rw [← h1, hid], by rw [← h2, had]⟩
    · rintro ⟨j, cj, hj, h1, h2, h3⟩
      obtain ⟨hj', hne⟩ := at_set_none hj
      refine ⟨⟨j, cj, hj', h1, h2, h3⟩, ?_⟩
      rintro ⟨e1, _⟩
      exact hne (hs.ids i j c cj hc hj' (by rw [hid, h1, e1]))
  | _ => exact ⟨L, rfl, agree_of_sessions ht ha⟩

/-- States reachable from an empty server (in particular from `NetcodeServer::new`, `Reach.new`) by the public
    operations (any inputs, any interleaving), with the log of the `ClientConnected` / `ClientDisconnected` results
    returned so far. -/
inductive Reach (a : AEAD) : NetcodeServer → List Event → Prop
  | init {s : NetcodeServer} : EmptyServer s → Reach a s []
  | step {s s' : NetcodeServer} {log : List Event} {op : Op} {r : ServerResult} :
      Reach a s log → step a s op = some (r, s') → Reach a s' (log ++ eventOf r)

theorem Reach.new {a : AEAD} {t m pid : Nat} {pa : List Addr} {sec : Bool} {k ck : Bytes} {s : NetcodeServer}
    (h : NetcodeServer.new t m pid pa sec k ck = .ok s) : Reach a s [] := .init (new_inv h).2.2.2.2.2.1

theorem Reach.inv {a : AEAD} {s : NetcodeServer} {log : List Event} (h : Reach a s log) : ServerInv s := by
  induction h with
  | init h => exact h.inv
  | step _ hs ih => exact step_inv ih hs

theorem Reach.log {a : AEAD} {s : NetcodeServer} {log : List Event} (h : Reach a s log) :
    ∃ L, replay log [] = some L ∧ Agree s.clients L := by
  induction h with
  | init h =>
    refine ⟨[], rfl, ?_⟩
    intro id ad ud
    rw [h.clients]
    simp only [List.not_mem_nil, false_iff, not_exists, not_and]
    intro i c hc
    exact absurd hc at_replicate
  | step hr hs ih =>
    obtain ⟨L, hL, ha⟩ := ih
    have hi := hr.inv
    rw [replay_append, hL]
    rcases step_table hi hs with ht | ⟨rfl, hg⟩
    · exact agree_step hi.slots ha ht
    · exact ⟨L, rfl, agree_grown hg ha⟩

/-! ### what a replayable log looks like -/

def Distinct (L : List Sess) : Prop := (L.map (·.1)).Nodup ∧ (L.map (·.2.1)).Nodup

theorem nodup_map_concat {κ : Type} {f : Sess → κ} {L : List Sess} {y : Sess} (h : (L.map f).Nodup)
    (hn : ∀ x ∈ L, f x ≠ f y) : ((L ++ [y]).map f).Nodup := by
  rw [List.map_append, List.nodup_append]
  refine ⟨h, by simp, fun p hp q hq => ?_⟩
  obtain ⟨x, hx, rfl⟩ := List.mem_map.mp hp
  rw [List.map_singleton, List.mem_singleton] at hq
  exact hq ▸ hn x hx

theorem replay_distinct : ∀ (l : List Event) (L L' : List Sess), replay l L = some L' → Distinct L → Distinct L'
  | [], L, L', h, hd => by obtain rfl : L = L' := Option.some.inj h; exact hd
  | .connected id ad ud :: rest, L, L', h, hd => by
    obtain ⟨hn, h⟩ := replay_connected_cons.mp h
    exact replay_distinct rest _ L' h
      ⟨nodup_map_concat hd.1 fun x hx => (hn x hx).1, nodup_map_concat hd.2 fun x hx => (hn x hx).2⟩
  | .disconnected id ad :: rest, L, L', h, hd =>
    replay_distinct rest _ L' (replay_disconnected_cons.mp h).2
      ⟨hd.1.sublist (List.filter_sublist.map _), hd.2.sublist (List.filter_sublist.map _)⟩

theorem replay_mem_origin : ∀ (l : List Event) (L L' : List Sess) (x : Sess), replay l L = some L' → x ∈ L' →
    (x ∈ L ∧ Event.disconnected x.1 x.2.1 ∉ l) ∨
    ∃ l1 l2, l = l1 ++ Event.connected x.1 x.2.1 x.2.2 :: l2 ∧ Event.disconnected x.1 x.2.1 ∉ l2
  | [], L, L', x, h, hx => by
    obtain rfl : L = L' := Option.some.inj h
    exact Or.inl ⟨hx, List.not_mem_nil⟩
  | .connected id ad ud :: rest, L, L', x, h, hx => by
    rcases replay_mem_origin rest _ L' x (replay_connected_cons.mp h).2 hx with ⟨hm, hn⟩ | ⟨l1, l2, e, hn⟩
    · rcases List.mem_append.mp hm with hm | hm
      · exact Or.inl ⟨hm, by simp [hn]⟩
      · obtain rfl := List.mem_singleton.mp hm
        exact Or.inr ⟨[], rest, rfl, hn⟩
    · exact Or.inr ⟨.connected id ad ud :: l1, l2, by rw [e]; rfl, hn⟩
  | .disconnected id ad :: rest, L, L', x, h, hx => by
    rcases replay_mem_origin rest _ L' x (replay_disconnected_cons.mp h).2 hx with ⟨hm, hn⟩ | ⟨l1, l2, e, hn⟩
    · simp only [List.mem_filter, decide_eq_true_eq] at hm
      refine Or.inl ⟨hm.1, ?_⟩
      simp only [List.mem_cons, Event.disconnected.injEq, not_or]
      exact ⟨fun e => hm.2 ⟨e.1, e.2⟩, hn⟩
    · exact Or.inr ⟨.disconnected id ad :: l1, l2, by rw [e]; rfl, hn⟩

theorem replay_mem_persist : ∀ (l : List Event) (L L' : List Sess) (x : Sess), replay l L = some L' → x ∈ L →
    Event.disconnected x.1 x.2.1 ∉ l → x ∈ L'
  | [], L, L', x, h, hx, _ => by obtain rfl : L = L' := Option.some.inj h; exact hx
  | .connected id ad ud :: rest, L, L', x, h, hx, hn =>
    replay_mem_persist rest _ L' x (replay_connected_cons.mp h).2 (List.mem_append_left _ hx)
      fun hm => hn (List.mem_cons_of_mem _ hm)
  | .disconnected id ad :: rest, L, L', x, h, hx, hn => by
    refine replay_mem_persist rest _ L' x (replay_disconnected_cons.mp h).2 ?_ fun hm => hn (List.mem_cons_of_mem _ hm)
    simp only [List.mem_filter, decide_eq_true_eq]
    refine ⟨hx, ?_⟩
    rintro ⟨e1, e2⟩
    exact hn (by rw [e1, e2]; simp)

theorem distinct_id_eq : ∀ {L : List Sess}, (L.map (·.1)).Nodup → ∀ {x y : Sess}, x ∈ L → y ∈ L → x.1 = y.1 → x = y
  | [], _, _, _, hx, _, _ => by cases hx
  | a :: rest, hd, x, y, hx, hy, h => by
    simp only [List.map_cons, List.nodup_cons, List.mem_map, not_exists, not_and] at hd
    simp only [List.mem_cons] at hx hy
    rcases hx with rfl | hx <;> rcases hy with rfl | hy
    · rfl
    · exact absurd h.symm (hd.1 y hy)
    · exact absurd h (hd.1 x hx)
    · exact distinct_id_eq hd.2 hx hy h

theorem findById_map_iff {cl : Slots} (hs : SlotsOK cl) {β : Type} (f : Connection → β) {id : Nat} {y : β} :
    (findClientById cl id).map f = some y ↔ ∃ i c, At cl i c ∧ c.clientId = id ∧ f c = y := by
  simp only [Option.map_eq_some_iff]
  constructor
  · rintro ⟨c, hc, rfl⟩
    obtain ⟨h1, i, h2⟩ := hs.findById_iff.mp hc
    exact ⟨i, c, h2, h1, rfl⟩
  · rintro ⟨i, c, h2, h1, rfl⟩
    exact ⟨c, hs.findById_iff.mpr ⟨h1, i, h2⟩, rfl⟩

theorem clientAddr_iff {s : NetcodeServer} (hs : SlotsOK s.clients) {id : Nat} {ad : Addr} :
    s.clientAddr id = some ad ↔ ∃ i c, At s.clients i c ∧ c.clientId = id ∧ c.addr = ad :=
  findById_map_iff hs _

theorem userData_iff {s : NetcodeServer} (hs : SlotsOK s.clients) {id : Nat} {ud : Bytes} :
    s.userData id = some ud ↔ ∃ i c, At s.clients i c ∧ c.clientId = id ∧ c.userData = ud :=
  findById_map_iff hs _

theorem isClientConnected_iff {s : NetcodeServer} {id : Nat} :
    s.isClientConnected id = true ↔ ∃ i c, At s.clients i c ∧ c.clientId = id := by
  unfold NetcodeServer.isClientConnected
  rw [findSlot_isSome]
  cases h : findClientById s.clients id with
  | none =>
    simp only [Option.isSome_none, Bool.false_eq_true, false_iff, not_exists, not_and]
    exact findById_none.mp h
  | some c =>
    obtain ⟨h1, i, h2⟩ := findById_some h
    simp only [Option.isSome_some, true_iff]
    exact ⟨i, c, h2, h1⟩

theorem clientsId_nodup {s : NetcodeServer} (hs : SlotsOK s.clients) : s.clientsId.Nodup := by
  unfold NetcodeServer.clientsId
  rw [List.nodup_iff_pairwise_ne]
  have key : ∀ (cl : Slots), (∀ i j ci cj, At cl i ci → At cl j cj → ci.clientId = cj.clientId → i = j) →
      List.Pairwise (· ≠ ·) (cl.filterMap fun c => c.map (·.clientId)) := by
    intro cl
    induction cl with
    | nil => intro _; simp
    | cons x rest ih =>
      intro h
      have hrest := ih (fun i j ci cj hi hj he => by
        have := h (i + 1) (j + 1) ci cj (by simpa using hi) (by simpa using hj) he
        omega)
      cases x with
      | none => simpa [List.filterMap_cons] using hrest
      | some c =>
        simp only [List.filterMap_cons, Option.map_some, List.pairwise_cons]
        refine ⟨?_, hrest⟩
        intro id hid
        simp only [List.mem_filterMap, Option.map_eq_some_iff] at hid
        obtain ⟨x, hx, c', rfl, rfl⟩ := hid
        obtain ⟨j, hj⟩ := mem_at hx
        intro e
        have := h 0 (j + 1) c c' (by simp) (by simpa using hj) e
        omega
  exact key s.clients hs.ids

theorem Reach.lookups {a : AEAD} {s : NetcodeServer} {log : List Event} {L : List Sess} (hr : Reach a s log)
    (hL : replay log [] = some L) (id : Nat) :
    (∀ ad, s.clientAddr id = some ad ↔ ∃ ud, (id, ad, ud) ∈ L) ∧
    (∀ ud, s.userData id = some ud ↔ ∃ ad, (id, ad, ud) ∈ L) ∧
    (s.isClientConnected id = true ↔ ∃ ad ud, (id, ad, ud) ∈ L) ∧
    (∀ ad ud, s.clientAddr id = some ad → s.userData id = some ud → (id, ad, ud) ∈ L) := by
  obtain ⟨L', hL', ha⟩ := hr.log
  rw [hL] at hL'; cases hL'
  have hs := hr.inv.slots
  refine ⟨?_, ?_, ?_, ?_⟩
  · intro ad
    rw [clientAddr_iff hs]
    constructor
    · rintro ⟨i, c, h1, h2, h3⟩; exact ⟨c.userData, (ha id ad c.userData).mpr ⟨i, c, h1, h2, h3, rfl⟩⟩
    · rintro ⟨ud, h⟩; obtain ⟨i, c, h1, h2, h3, _⟩ := (ha id ad ud).mp h; exact ⟨i, c, h1, h2, h3⟩
  · intro ud
    rw [userData_iff hs]
    constructor
    · rintro ⟨i, c, h1, h2, h3⟩; exact ⟨c.addr, (ha id c.addr ud).mpr ⟨i, c, h1, h2, rfl, h3⟩⟩
    · rintro ⟨ad, h⟩; obtain ⟨i, c, h1, h2, _, h4⟩ := (ha id ad ud).mp h; exact ⟨i, c, h1, h2, h4⟩
  · rw [isClientConnected_iff]
    constructor
    · rintro ⟨i, c, h1, h2⟩; exact ⟨c.addr, c.userData, (ha id c.addr c.userData).mpr ⟨i, c, h1, h2, rfl, rfl⟩⟩
    · rintro ⟨ad, ud, h⟩; obtain ⟨i, c, h1, h2, _, _⟩ := (ha id ad ud).mp h; exact ⟨i, c, h1, h2⟩
  · intro ad ud h1 h2
    obtain ⟨i, c, hc, hid, had⟩ := (clientAddr_iff hs).mp h1
    obtain ⟨j, c', hc', hid', hud⟩ := (userData_iff hs).mp h2
    have : i = j := hs.ids i j c c' hc hc' (by rw [hid, hid'])
    subst this
    have := at_inj hc hc'; subst this
    exact (ha id ad ud).mpr ⟨i, c, hc, hid, had, hud⟩

theorem tableStep_length {cl cl' : Slots} {r : ServerResult} (h : TableStep cl cl' r) : cl'.length = cl.length := by
  cases r with
  | clientConnected id ad ud out => obtain ⟨i, c, _, rfl, _⟩ := h; simp
  | clientDisconnected id ad out => obtain ⟨i, c, _, _, _, rfl⟩ := h; simp
  | _ => rw [← sessions_length, h, sessions_length]

/-- States reachable without ever lowering the client limit: `set_max_clients m` is only used with
    `m ≥ max_clients` (values above `NETCODE_MAX_CLIENTS` are clamped by the implementation). -/
inductive ReachNL (a : AEAD) : NetcodeServer → Prop
  | init {s : NetcodeServer} : EmptyServer s → ReachNL a s
  | step {s s' : NetcodeServer} {op : Op} {r : ServerResult} :
      ReachNL a s → step a s op = some (r, s') → (∀ m, op = .setMaxClients m → s.maxClients ≤ m) → ReachNL a s'

theorem ReachNL.reach {a : AEAD} {s : NetcodeServer} (h : ReachNL a s) : ∃ log, Reach a s log := by
  induction h with
  | init h => exact ⟨[], .init h⟩
  | step _ hs _ ih => obtain ⟨log, hl⟩ := ih; exact ⟨_, .step hl hs⟩

theorem ReachNL.count_le_max {a : AEAD} {s : NetcodeServer} (h : ReachNL a s) :
    s.clients.length = s.maxClients ∧ countConnected s.clients ≤ s.maxClients := by
  have key : s.clients.length = s.maxClients := by
    induction h with
    | init h => rw [h.clients, List.length_replicate]
    | @step s s' op r hr hs hnl ih =>
      obtain ⟨log, hl⟩ := hr.reach
      have hi := hl.inv
      rcases step_slots hi hs with ⟨m, rfl, -, rfl⟩ | ⟨ht, hm⟩
      · obtain ⟨e1, e2, _⟩ := setMaxClients_eq s m
        have hm := hnl m rfl
        have hle := hi.lenLe
        rw [e1, e2, List.length_append, List.length_replicate]
        omega
      · rw [hm, ← ih]; exact tableStep_length ht
  exact ⟨key, key ▸ count_le_length _⟩

/-! ### a full server refuses further handshakes without disturbing existing sessions -/

def IsDenied (a : AEAD) (s : NetcodeServer) (out : Bytes) : Prop :=
  ∃ key, Packet.connectionDenied.encode a C.NETCODE_MAX_PACKET_BYTES s.protocolId (some (s.globalSequence, key)) = .ok out

theorem hcr_full {a : AEAD} {s : NetcodeServer} {addr : Addr} {v : Bytes} {pid expire : Nat} {xnonce data : Bytes}
    {R : NetcodeServer.SRes} {r : ServerResult} {s' : NetcodeServer}
    (ho : HcrOut a s addr v pid expire xnonce data R) (hr : HcrRes R r s')
    (hfull : countConnected s.clients ≥ s.maxClients) :
    s'.clients = s.clients ∧ (r = .none ∨ ∃ out, r = .packetToSend addr out ∧ IsDenied a s out) ∧
    pendingFind s'.pendingClients addr = none ∨ (s' = s ∧ r = .none) := by
  rcases hcrOut_cases ho hr with ⟨-, rfl, rfl⟩ | ⟨t, s1, -, hstep, hans⟩
  · exact Or.inr ⟨rfl, rfl⟩
  obtain ⟨es, rfl⟩ := hstep.writes
  cases hans with
  | deniedQuiet =>
    exact Or.inl ⟨rfl, Or.inl rfl, by simp only [pendingFind_filter_ne, if_true]⟩
  | denied out _ hen =>
    exact Or.inl ⟨rfl, Or.inr ⟨out, rfl, _, hen⟩, by simp only [pendingFind_filter_ne, if_true]⟩
  | challengeQuiet hlt | challenge _ _ hlt => omega

/-- **No free slot** (when the limit was never lowered: exactly when `connected ≥ max_clients`): whatever arrives from
    an address that is not connected — request, response, junk — leaves every slot as it is; the answer is nothing or
    a `ConnectionDenied` to that address. -/
theorem processPacket_full {a : AEAD} {s s' : NetcodeServer} {addr : Addr} {buf : Bytes} {r : ServerResult}
    (hi : ServerInv s) (hff : firstFreeSlot s.clients = none) (hna : findClientByAddr s.clients addr = none)
    (h : s.processPacket a addr buf = .ok (r, s')) :
    s'.clients = s.clients ∧ (r = .none ∨ ∃ out, r = .packetToSend addr out ∧ IsDenied a s out) := by
  have hfull : countConnected s.clients ≥ s.maxClients := by
    rw [firstFree_none_count.mp hff]; exact hi.maxLe
  have ho := pp_ok hi h
  cases ho with
  | connErr i c e w' hfa => cases hna.symm.trans hfa
  | connDisconnect i c sq w' hfa => cases hna.symm.trans hfa
  | connPayload i c sq p w' hfa => cases hna.symm.trans hfa
  | connKeepAlive i c sq ci mc w' hfa => cases hna.symm.trans hfa
  | connOther i c sq pk w' hfa => cases hna.symm.trans hfa
  | pendRequest p sq v pid expire xnonce data w' R _ _ hfa hpf hdec hout hres =>
    rcases hcr_full hout hres hfull with ⟨h1, h2, _⟩ | ⟨rfl, rfl⟩
    · exact ⟨h1, h2⟩
    · exact ⟨rfl, Or.inl rfl⟩
  | respFull p sq ts td w' out hfa hpf hdec _ _ _ hen => exact ⟨rfl, Or.inr ⟨out, rfl, _, hen⟩⟩
  | respConnected p sq ts td w' i out hfa hpf hdec hct hid hff' hen => cases hff.symm.trans hff'
  | newRequest sq v pid expire xnonce data R _ _ hfa hpf hdec hout hres =>
    rcases hcr_full hout hres hfull with ⟨h1, h2, _⟩ | ⟨rfl, rfl⟩
    · exact ⟨h1, h2⟩
    · exact ⟨rfl, Or.inl rfl⟩
  | _ => exact ⟨rfl, Or.inl rfl⟩

end NS
end RenetVerif.Netcode
