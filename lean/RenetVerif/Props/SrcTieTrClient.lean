/-
  Source tie, group TrClient: `renet_netcode/src/client.rs`
  (`NetcodeClientTransport::{new, client_id, time_since_last_received_packet, disconnect, disconnect_reason, send_packets,
  update}`) ↔ `Transport/Glue.lean` (`clientDisconnect`, `clientSendPackets`, `clientUpdate`).  `addr()` (`local_addr`) is
  not translated.

  * Socket, logs (`*From … out`, the model's definitions are the case `#[]`), fuel and buffers: as in `SrcTieTrServer.lean`.
  * What the methods need from the `RenetClient` is the simulation `RcSim R` (`rc_sim_of_inv` derives it from the theorems
    of `SrcTieConn{,Recv,Send}.lean` for any invariant implying `ProcOk` / `SendOk`); from the `NetcodeClient` the
    invariant `NcCInv a I` (`i32` time-out of the token, `server_addr_index + 1 < 2^64`).
  * `let packet = match self.socket.recv_from(&mut self.buffer) { Ok((len, addr)) => { …; &mut self.buffer[..len] } … }`:
    `packet` is the sub-slice `self.buffer[..len]` (read with `slice`, written back with `splice` after
    `process_packet` decrypted in it); the other arms leave (`break` / `return Err`).
  * `update`'s early returns (`Err(Netcode(Disconnected(reason)))` after `disconnect_due_to_transport`; the renet client
    disconnected: netcode `disconnect`, its packet sent, `Err(Renet(reason))` — or `Err(Netcode(e))` when the encode
    fails) do not read the socket: the queue is left as it is (`rest`).
-/
import RenetVerif.Lemmas.SrcEquiv.TrClient
namespace RenetVerif.SrcTie
open RenetVerif RenetVerif.SrcEquiv RenetVerif.RustSem RenetVerif.Netcode RenetVerif.Transport
open Src.renet_netcode.client

/-- `disconnect`: nothing for a disconnected netcode client; else `Disconnected(DisconnectedByClient)` and the `Disconnect`
    packet goes out (a failed encode / send is ignored) -/
theorem ctr_disconnect {ε : Type} (a : AEAD) (hl : a.Laws) (nc : Netcode.NetcodeClient) (rc : Conn) (inbox : List Dgram)
    (out : Array Dgram) (o buf : List Nat) (ho : o.length = C.NETCODE_MAX_PACKET_BYTES) :
    match clientDisconnectFrom a ⟨nc, rc⟩ out with
    | .ok (g', out') => ∃ o', o'.length = C.NETCODE_MAX_PACKET_BYTES ∧ g'.renet = rc ∧
        (@NetcodeClientTransport.disconnect (aeadOf a) ε (ctrR inbox out o nc buf)) = .ok (ctrR inbox out' o' g'.netcode buf, ())
    | .err e => nomatch e
    | .panic _ => ∃ msg, (@NetcodeClientTransport.disconnect (aeadOf a) ε (ctrR inbox out o nc buf)) = .panic msg := by
  unfold NetcodeClientTransport.disconnect clientDisconnectFrom
  have hd := SrcTie.nc_client_disconnect a hl o ho nc
  simp only [ctrR, Exec.bind_eq, Exec.pure_eq, SrcTie.nc_client_is_disconnected, Exec.call_ok, Exec.bind_val']
  cases hdis : nc.isDisconnected with
  | true =>
    simp only [if_true, Exec.bind_ret', Exec.run_ret, Res.pure_eq]
    exact ⟨o, ho, trivial, rfl⟩
  | false =>
    simp only [Bool.false_eq_true, if_false, Exec.bind_val']
    generalize hM : nc.disconnect a = M at hd ⊢
    obtain ⟨r, nc'⟩ := M
    simp only [] at hd ⊢
    cases r with
    | panic m =>
      obtain ⟨msg, hg⟩ := hd
      simp only [hg, attempt_panic', Exec.bind_panic', Exec.run_panic]
      exact ⟨_, rfl⟩
    | err e =>
      obtain ⟨o', ho', hg⟩ := hd
      simp only [hg, attempt_err', Exec.bind_val', Exec.run_val, Res.pure_eq]
      exact ⟨o', ho', trivial, rfl⟩
    | ok v =>
      obtain ⟨addr, pkt⟩ := v
      obtain ⟨o', ho', hg⟩ := hd
      simp only [hg, attempt_ok', Exec.bind_val', send_to_eq, Exec.run_val, Res.pure_eq]
      exact ⟨o', ho', trivial, rfl⟩
theorem ctr_disconnect_model (a : AEAD) (g : ClientGlue) : clientDisconnect a g = clientDisconnectFrom a g #[] := by
  unfold clientDisconnect clientDisconnectFrom
  split
  · rfl
  · simp only []
    cases (g.netcode.disconnect a).1 with
    | panic m => rfl
    | err e => rfl
    | ok v => rfl

/-- `send_packets`: `Err(Netcode(Disconnected(reason)))` for a disconnected netcode client; else the renet packets go through
    `generate_payload_packet` and `send_to`; the first netcode error ends the call with `Err(Netcode(e))` (the packets sent
    so far stay sent, the renet client has handed out all its packets) -/
theorem ctr_send_packets (a : AEAD) (hl : a.Laws) {R : Conn → SRenetClient → Prop} (hsim : RcSim R)
    {I : Netcode.NetcodeClient → Prop} (hinv : NcCInv a I) (g : ClientGlue) (gr : SRenetClient) (hi : I g.netcode)
    (hr : R g.renet gr) (inbox : List Dgram) (out : Array Dgram) (o buf : List Nat) (ho : o.length = C.NETCODE_MAX_PACKET_BYTES) :
    match clientSendPacketsFrom a g out with
    | .ok (res, g', out') => CliTrOut R I buf.length res g' out' inbox
        (@NetcodeClientTransport.send_packets (aeadOf a) (ctrR inbox out o g.netcode buf) gr)
    | .err e => nomatch e
    | .panic _ => ∃ msg, @NetcodeClientTransport.send_packets (aeadOf a) (ctrR inbox out o g.netcode buf) gr = .panic msg :=
  ctr_send_packets_on a hl hsim.on hinv g gr hi hr inbox out o buf ho (fun _ => trivial)
theorem ctr_send_packets_model (a : AEAD) (g : ClientGlue) : clientSendPackets a g = clientSendPacketsFrom a g #[] := rfl

/-- `update`: the two early returns; else the renet status follows the netcode state, every queued datagram from the
    server's address (cut to the buffer) goes through `process_packet` and a payload on to `RenetClient::process_packet`
    (datagrams from other addresses are dropped), then `NetcodeClient::update` and the packet it asks to send -/
theorem ctr_update (a : AEAD) (hl : a.Laws) {R : Conn → SRenetClient → Prop} (hsim : RcSim R)
    {I : Netcode.NetcodeClient → Prop} (hinv : NcCInv a I) (g : ClientGlue) (gr : SRenetClient) (hi : I g.netcode)
    (hr : R g.renet gr) (duration : Nat) (inbox : List Dgram) (hin : inbox.length + 1 < 2 ^ 64) (out : Array Dgram)
    (o buf : List Nat) (ho : o.length = C.NETCODE_MAX_PACKET_BYTES) (hb : buf.length = C.TRANSPORT_CLIENT_BUFFER) :
    match clientUpdateFrom a g duration (inbox.map (recvFrom C.TRANSPORT_CLIENT_BUFFER)) out with
    | .ok r => ∃ rest, rest.map (recvFrom C.TRANSPORT_CLIENT_BUFFER) = r.rest ∧
        CliTrOut R I C.TRANSPORT_CLIENT_BUFFER r.result r.g r.out rest
          (@NetcodeClientTransport.update (aeadOf a) (ctrR inbox out o g.netcode buf) duration gr)
    | .err e => nomatch e
    | .panic _ => ∃ msg, @NetcodeClientTransport.update (aeadOf a) (ctrR inbox out o g.netcode buf) duration gr = .panic msg :=
  ctr_update_on (Q := fun _ _ => True) a hl hsim.on hinv ⟨fun _ _ _ => trivial, fun _ _ => trivial⟩ g gr hi hr duration inbox hin
    out o buf ho hb trivial
theorem ctr_update_model (a : AEAD) (g : ClientGlue) (duration : Nat) (inbox : List Dgram) :
    clientUpdate a g duration inbox = clientUpdateFrom a g duration inbox #[] := by
  unfold clientUpdate clientUpdateFrom
  cases g.netcode.disconnectReason with
  | some reason => rfl
  | none =>
    cases g.renet.disconnectReason with
    | some error =>
      simp only []
      cases (g.netcode.disconnect a).1 with
      | panic m => rfl
      | err e => rfl
      | ok v => rfl
    | none => rfl

/-- socket errors in `update`'s receive loop (about the GENERATED loop body): `WouldBlock` / `Interrupted` → `break`,
    anything else (also `ConnectionReset`) → `Err(IO(e))` -/
theorem ctr_recv_error [RustSem.Aead] (e : RustSem.IoError) (evs : List RustSem.RecvEvent)
    (log : List (RustSem.SocketAddr × List Nat)) (nc : SNetcodeClient) (buf : List Nat) (gr : SRenetClient) :
    recvBodyC (gr, (⟨⟨.error e :: evs, log⟩, nc, buf⟩ : SClientTransport)) =
      match e with
      | .wouldBlock => .ret (.brk (gr, ⟨⟨evs, log⟩, nc, buf⟩))
      | .interrupted => .ret (.brk (gr, ⟨⟨evs, log⟩, nc, buf⟩))
      | .connectionReset => .err (.IO .connectionReset, (⟨⟨evs, log⟩, nc, buf⟩, gr))
      | .opaque => .err (.IO .opaque, (⟨⟨evs, log⟩, nc, buf⟩, gr)) := by
  cases e <;> rfl

/-- `new` with a connect token: `set_nonblocking(true)?`, `NetcodeClient::new(..)?`, zeroed receive buffer -/
theorem ctr_new_secure (a : AEAD) (ct : Nat) (tok : Netcode.ConnectToken) (r1 r2 r3 r4 : List Nat) (inbox : List Dgram)
    (out : Array Dgram) :
    SameOutcome (@NetcodeClientTransport.new (aeadOf a) ct (.Secure (reprTok tok)) (sockR inbox out) r1 r2 r3 r4)
      (mapRes (fun c => ctrR inbox out (List.replicate C.NETCODE_MAX_PACKET_BYTES 0) c (List.replicate C.TRANSPORT_CLIENT_BUFFER 0))
        reprNErr (Netcode.NetcodeClient.new ct tok)) := by
  have h := SrcTie.nc_client_new_secure a ct tok r1 r2 r3 r4
  unfold NetcodeClientTransport.new
  simp only [Exec.bind_eq, Exec.pure_eq, RustSem.UdpSocket.set_nonblocking, Exec.callFrom_ok, Exec.bind_val']
  cases hm : Netcode.NetcodeClient.new ct tok with
  | err e =>
    rw [hm] at h
    rw [h.eq_err]; rfl
  | panic m =>
    rw [hm] at h
    obtain ⟨msg, hg⟩ := h.panics
    rw [hg]; simp [SameOutcome, mapRes, Exec.call, Exec.bind, Exec.run]
  | ok c =>
    rw [hm] at h
    rw [h.eq_ok]; rfl
theorem ctr_client_id {ε : Type} (inbox : List Dgram) (out : Array Dgram) (o : List Nat) (c : Netcode.NetcodeClient) (buf : List Nat) :
    (NetcodeClientTransport.client_id (ctrR inbox out o c buf) : Res ε _) = .ok c.clientId := rfl
theorem ctr_disconnect_reason {ε : Type} (inbox : List Dgram) (out : Array Dgram) (o : List Nat) (c : Netcode.NetcodeClient)
    (buf : List Nat) :
    (NetcodeClientTransport.disconnect_reason (ctrR inbox out o c buf) : Res ε _) = .ok (c.disconnectReason.map reprDR) := by
  unfold NetcodeClientTransport.disconnect_reason
  simp only [ctrR, SrcTie.nc_client_disconnect_reason, Exec.call_ok, Exec.run_val]
theorem ctr_time_since_last_received_packet {ε : Type} (inbox : List Dgram) (out : Array Dgram) (o : List Nat)
    (c : Netcode.NetcodeClient) (buf : List Nat) :
    SameOutcome (NetcodeClientTransport.time_since_last_received_packet (ctrR inbox out o c buf) : Res ε _)
      (mapRes (fun x => x) (fun e => nomatch e) c.timeSinceLastReceivedPacket) := by
  have h := SrcTie.nc_client_time_since_last_received_packet (ε := ε) o c
  unfold NetcodeClientTransport.time_since_last_received_packet
  simp only [ctrR]
  cases hm : c.timeSinceLastReceivedPacket with
  | err e => exact nomatch e
  | panic m =>
    rw [hm] at h
    obtain ⟨msg, hg⟩ := h.panics
    rw [hg]; simp [SameOutcome, mapRes, Exec.call, Exec.run]
  | ok v =>
    rw [hm] at h
    rw [h.eq_ok]; simp [SameOutcome, mapRes, Exec.call, Exec.run]

theorem rc_sim_of_inv (Inv : Conn → Prop) (hproc : ∀ c, Inv c → ∀ bytes, ProcOk c bytes) (hsend : ∀ c, Inv c → SendOk c)
    (hdw : ∀ c, Inv c → ∀ r, Inv (c.disconnectWith r)) (hsc : ∀ c, Inv c → Inv c.setConnected)
    (hsg : ∀ c, Inv c → Inv c.setConnecting) (hpp : ∀ c, Inv c → ∀ bytes c', c.processPacket bytes = .ok c' → Inv c')
    (hgp : ∀ c, Inv c → ∀ c' ps, c.getPacketsToSend = .ok (c', ps) → Inv c') :
    RcSim (fun c g => Inv c ∧ ∃ mrs, g = reprConn mrs c) :=
  (rcSimOn_of_inv Inv _ (fun c h _ => hproc c h) (fun c h _ => hsend c h) hdw hsc hsg hpp hgp).closed

end RenetVerif.SrcTie
