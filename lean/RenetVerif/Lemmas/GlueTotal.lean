/-
  No unwinding of the SERVER transport glue (renet_netcode/src/server.rs, model `Transport/Glue.lean`):
  `NetcodeServerTransport::update` and `::send_packets` return normally for every inbox, under
    * the netcode connection-table invariant `NS.ServerInv` (Lemmas/NcTable.lean),
    * room in the `u64` sequence counters of the netcode server for the datagrams this call can emit (`Room`),
    * the netcode clock staying below `Duration::MAX` minus the largest time-out (`update` only),
    * the renet invariant `Server.InvP P` (`GoodP P`) and the key order of the renet connection table (`RnOK`),
    * for `send_packets`: the renet wire counters in range (`Conn.CountersOK`, what `get_packets_to_send` needs),
  and all of these hold again afterwards (with the counter room reduced by what was budgeted).

  Not covered: an a-priori (state-independent) bound on `sendBudget` — the number of datagrams one `send_packets`
  emits is what renet's `get_packets_to_send` returns on the current state; socket errors (`send_to`, `recv_from`) are
  outside the model.
-/
import RenetVerif.Lemmas.GlueInv
import RenetVerif.Lemmas.NcTablePP
namespace RenetVerif.GlueTotal
open RenetVerif RenetVerif.Netcode RenetVerif.Transport RenetVerif.GI

/-! ## Part 1 : counters -/

/-- the largest time-out a connect token can carry (`i32` seconds), in nanoseconds -/
abbrev TMO_MAX_NS : Nat := fromSecs (2 ^ 31)

/-- every `u64` sequence counter of the netcode server (global, challenge, one per connected client) can be
    incremented `n` more times.  (Half-open sessions have sequence 0: `NS.PendOK.seq`.) -/
structure Room (n : Nat) (s : NetcodeServer) : Prop where
  global : s.globalSequence + n ≤ U64_MAX
  challenge : s.challengeSequence + n ≤ U64_MAX
  seqs : ∀ i c, NS.At s.clients i c → c.sequence + n ≤ U64_MAX

theorem Room.mono {n m : Nat} {s : NetcodeServer} (h : Room n s) (hm : m ≤ n) : Room m s :=
  ⟨by have := h.global; omega, by have := h.challenge; omega, fun i c hc => by have := h.seqs i c hc; omega⟩

/-- what one netcode server call may do: the clock and the number of slots stay, every counter grows by at most one
    (a freshly connected client starts at 1) -/
structure Frame (s s' : NetcodeServer) : Prop where
  time : s'.currentTime = s.currentTime
  len : s'.clients.length = s.clients.length
  global : s'.globalSequence ≤ s.globalSequence + 1
  challenge : s'.challengeSequence ≤ s.challengeSequence + 1
  seqs : ∀ j c', NS.At s'.clients j c' → c'.sequence ≤ 1 ∨ ∃ c, NS.At s.clients j c ∧ c'.sequence ≤ c.sequence + 1

theorem Frame.room {n : Nat} {s s' : NetcodeServer} (f : Frame s s') (h : Room (n + 1) s) : Room n s' := by
  refine ⟨?_, ?_, fun j c' hc => ?_⟩
  · have := f.global; have := h.global; omega
  · have := f.challenge; have := h.challenge; omega
  · rcases f.seqs j c' hc with h1 | ⟨c, hc0, h1⟩
    · have := h.global; omega
    · have := h.seqs j c hc0; omega

theorem Frame.of_step {s s' : NetcodeServer} {t f : Connection → Prop} {ev : List NS.Event}
    (h : NS.SlotStep t f s.clients s'.clients ev) (ht : s'.currentTime = s.currentTime)
    (hg : s'.globalSequence ≤ s.globalSequence + 1)
    (hq : s'.challengeSequence ≤ s.challengeSequence + 1) : Frame s s' := by
  refine ⟨ht, h.length, hg, hq, fun j c' hc => ?_⟩
  have keep : ∀ {c' : Connection}, NS.At s.clients j c' →
      c'.sequence ≤ 1 ∨ ∃ c, NS.At s.clients j c ∧ c'.sequence ≤ c.sequence + 1 :=
    fun h => Or.inr ⟨_, h, Nat.le_succ _⟩
  generalize s'.clients = cl' at h hc
  cases h with
  | same => exact keep hc
  | rewrite x hx _ _ hsq =>
    rcases NS.at_set_some hc with ⟨rfl, rfl⟩ | ⟨-, hj⟩
    · exact Or.inr ⟨_, hx, hsq⟩
    · exact keep hj
  | drop => exact keep (NS.at_set_none hc).1
  | fill p _ _ hsq =>
    rcases NS.at_set_some hc with ⟨-, rfl⟩ | ⟨-, hj⟩
    · exact Or.inl hsq
    · exact keep hj

/-! ## Part 2 : the netcode calls -/

theorem ppOut_frame {a : AEAD} {s : NetcodeServer} {addr : Addr} {buf : Bytes} {r : ServerResult} {s' : NetcodeServer}
    (hi : NS.ServerInv s) (ho : NS.PPOut a s addr buf r s') : Frame s s' := by
  obtain ⟨cl, es, pd, g, cs, rfl, -, hg, hc⟩ := NS.ppOut_writes ho
  exact .of_step (NS.ppOut_slots hi ho) rfl hg hc

theorem idOut_frame {a : AEAD} {s s' : NetcodeServer} {id : Nat} {mk : Nat → Netcode.Packet} {r : ServerResult}
    (ho : NS.IdOut a s id mk r s') : Frame s s' := by
  have hs := ho.slots
  obtain ⟨⟨cl, rfl⟩, -⟩ := ho.writes
  exact .of_step hs rfl (Nat.le_succ _) (Nat.le_succ _)

structure NcOK (L T n : Nat) (s : NetcodeServer) : Prop where
  inv : NS.ServerInv s
  room : Room n s
  len : s.clients.length = L
  time : s.currentTime = T

theorem NcOK.mono {L T n m : Nat} {s : NetcodeServer} (h : NcOK L T n s) (hm : m ≤ n) : NcOK L T m s :=
  ⟨h.inv, h.room.mono hm, h.len, h.time⟩

theorem NcOK.step {L T n : Nat} {s s' : NetcodeServer} (h : NcOK L T (n + 1) s) (hi : NS.ServerInv s')
    (f : Frame s s') : NcOK L T n s' :=
  ⟨hi, f.room h.room, f.len.trans h.len, f.time.trans h.time⟩

theorem pp_ok (a : AEAD) {L T n : Nat} {s : NetcodeServer} (h : NcOK L T (n + 1) s) (addr : Addr) (buf : Bytes) :
    ∃ r s', s.processPacket a addr buf = .ok (r, s') ∧ NcOK L T n s' := by
  have hg : s.globalSequence < U64_MAX := by have := h.room.global; omega
  have hc : s.challengeSequence < U64_MAX := by have := h.room.challenge; omega
  obtain ⟨r, s', e, ho⟩ := NS.pp_spec a h.inv hg hc addr buf
  exact ⟨r, s', e, h.step (NS.ppOut_inv h.inv ho) (ppOut_frame h.inv ho)⟩

theorem uc_ok (a : AEAD) {L T n : Nat} (hT : T + TMO_MAX_NS ≤ DURATION_MAX) {s : NetcodeServer}
    (h : NcOK L T (n + 1) s) (id : Nat) : ∃ r s', s.updateClient a id = .ok (r, s') ∧ NcOK L T n s' := by
  have hh : NS.Headroom s :=
    ⟨by have := h.room.global; omega, by have := h.room.challenge; omega,
      fun i c hc => by have := h.room.seqs i c hc; omega, by rw [h.time]; exact hT⟩
  obtain ⟨r, s', e⟩ := NS.updateClient_ne_panic a id h.inv hh
  exact ⟨r, s', e, h.step (NS.updateClient_inv h.inv e) (idOut_frame (NS.updateClient_ok e))⟩

theorem dc_ok (a : AEAD) {L T n : Nat} {s : NetcodeServer} (h : NcOK L T n s) (id : Nat) :
    ∃ r s', s.disconnect a id = .ok (r, s') ∧ NcOK L T n s' := by
  rcases NS.disconnect_spec a s id with ⟨_, e⟩ | ⟨i, c, o, _, _, _, _, e⟩
  · exact ⟨_, _, e, h⟩
  · refine ⟨_, _, e, h.inv.dropSlot i, ⟨h.room.global, h.room.challenge, fun j c' hc' => ?_⟩, ?_, h.time⟩
    · exact h.room.seqs j c' (NS.at_set_none hc').1
    · show (s.clients.set i none).length = L
      rw [List.length_set]; exact h.len

theorem gp_cases (a : AEAD) {L T n : Nat} {s : NetcodeServer} (h : NcOK L T (n + 1) s) (id : Nat) (p : Bytes) :
    (∃ e, s.generatePayloadPacket a id p = .err e) ∨
    ∃ ad dg s', s.generatePayloadPacket a id p = .ok ((ad, dg), s') ∧ NcOK L T n s' := by
  cases hgp : s.generatePayloadPacket a id p with
  | err e => exact Or.inl ⟨e, rfl⟩
  | panic m =>
    exact absurd hgp (NS.generatePayload_ne_panic a id p (fun i c hc => by have := h.room.seqs i c hc; omega) m)
  | ok v =>
    obtain ⟨⟨ad, dg⟩, s'⟩ := v
    exact Or.inr ⟨ad, dg, s', rfl, h.step (NS.generatePayload_inv h.inv hgp) (idOut_frame (NS.generatePayload_idOut hgp))⟩

theorem upd_ok {L n : Nat} {s : NetcodeServer} (d : Nat) (hi : NS.ServerInv s) (hr : Room n s)
    (hl : s.clients.length = L) (hd : s.currentTime + d ≤ DURATION_MAX) :
    ∃ s', s.update d = .ok s' ∧ NcOK L (s.currentTime + d) n s' := by
  obtain ⟨s', h0⟩ := NS.update_ne_panic (s := s) (d := d) hd
  have hi' := NS.update_inv hi h0
  have e0 := NS.update_ok h0
  subst e0
  exact ⟨_, h0, hi', ⟨hr.global, hr.challenge, hr.seqs⟩, hl, rfl⟩

/-! ## Part 3 : the renet side and the loops -/

structure RnOK (P : SliceCtor → Prop) (rs : Server) : Prop where
  inv : rs.InvP P
  sorted : SL.SMap.Sorted rs.conns

theorem handle_ok {P : SliceCtor → Prop} (hP : GoodP P) (rs : Server) (r : ServerResult) (out : Array Dgram)
    (hr : RnOK P rs) : ∃ rs' out', handleServerResult r rs out = .ok (rs', out') ∧ RnOK P rs' := by
  obtain ⟨rs', out', e, hi'⟩ := handle_total hP hr.inv r out
  exact ⟨rs', out', e, hi', handle_sorted e hr.sorted⟩

theorem clientsId_length_le (s : NetcodeServer) : s.clientsId.length ≤ s.clients.length := by
  unfold NetcodeServer.clientsId
  exact List.length_filterMap_le _ _

/-- **`NetcodeServerTransport::update` never unwinds**, whatever is queued at the socket.
    Hypotheses: netcode table invariant; every sequence counter has room for `n` + one increment per slot (keep-alives)
    + one per queued datagram (challenges, denials, first keep-alives); the clock after the step stays
    `TMO_MAX_NS` below `Duration::MAX`; renet invariant.  All of them hold again afterwards, with room `n`. -/
theorem serverUpdate_total {P : SliceCtor → Prop} (hP : GoodP P) (a : AEAD) {g : ServerGlue} (d : Nat)
    (inbox : List Dgram) {n : Nat} (hinv : NS.ServerInv g.netcode)
    (hroom : Room (n + g.netcode.clients.length + inbox.length) g.netcode)
    (hclock : g.netcode.currentTime + d + TMO_MAX_NS ≤ DURATION_MAX) (hr : RnOK P g.renet) :
    ∃ g' out, serverUpdate a g d inbox = .ok (g', out) ∧
      NcOK g.netcode.clients.length (g.netcode.currentTime + d) n g'.netcode ∧ RnOK P g'.renet := by
  obtain ⟨ns0, h0, k0⟩ := upd_ok d hinv hroom rfl (by omega)
  obtain ⟨g1, out1, h1, k1, r1⟩ := handleLoop_total (handle_ok hP) (f := ppF a)
    (NcOK g.netcode.clients.length (g.netcode.currentTime + d))
    (fun _ _ x hj => pp_ok a hj x.1 x.2) inbox { g with netcode := ns0 } #[] _ k0 hr
  have k1' : NcOK g.netcode.clients.length (g.netcode.currentTime + d) (n + g1.netcode.clientsId.length) g1.netcode := by
    refine k1.mono ?_
    have := clientsId_length_le g1.netcode
    rw [k1.len] at this
    omega
  obtain ⟨g2, out2, h2, k2, r2⟩ := handleLoop_total (handle_ok hP) (f := ucF a)
    (NcOK g.netcode.clients.length (g.netcode.currentTime + d))
    (fun _ _ x hj => uc_ok a hclock hj x) g1.netcode.clientsId g1 out1 n k1' r1
  obtain ⟨g3, out3, h3, k3, r3⟩ := handleLoop_total0 (handle_ok hP) (f := dcF a)
    (NcOK g.netcode.clients.length (g.netcode.currentTime + d) n)
    (fun _ x hj => dc_ok a hj x) g2.renet.disconnectionsId g2 out2 k2 r2
  refine ⟨g3, out3, ?_, k3, r3⟩
  simp only [serverUpdate, recvLoop_eq, idLoop_eq, h0, NS.bind_ok']
  rw [h1]
  simp only [NS.bind_ok']
  rw [h2]
  simp only [NS.bind_ok']
  exact h3

/-- `disconnect_all` never unwinds and keeps the invariants (cf. `C20.server_disconnect_all_total`) -/
theorem serverDisconnectAll_total' {P : SliceCtor → Prop} (hP : GoodP P) (a : AEAD) {g : ServerGlue} {L T n : Nat}
    (hk : NcOK L T n g.netcode) (hr : RnOK P g.renet) :
    ∃ g' out, serverDisconnectAll a g = .ok (g', out) ∧ NcOK L T n g'.netcode ∧ RnOK P g'.renet := by
  rw [serverDisconnectAll_eq]
  exact handleLoop_total0 (handle_ok hP) (f := dcF a) (NcOK L T n) (fun _ x hj => dc_ok a hj x) _ g #[] hk hr

/-- the same with the table invariant alone (no counter is touched) -/
theorem serverDisconnectAll_inv {P : SliceCtor → Prop} (hP : GoodP P) (a : AEAD) {g : ServerGlue}
    (hk : NS.ServerInv g.netcode) (hr : RnOK P g.renet) :
    ∃ g' out, serverDisconnectAll a g = .ok (g', out) ∧ NS.ServerInv g'.netcode ∧ RnOK P g'.renet := by
  rw [serverDisconnectAll_eq]
  refine handleLoop_total0 (handle_ok hP) (f := dcF a) NS.ServerInv (fun ns x hj => ?_) _ g #[] hk hr
  obtain ⟨r, s', e⟩ := disconnect_total a ns x
  exact ⟨r, s', e, NS.disconnect_inv hj e⟩

def connPackets (c : Conn) : Nat :=
  match c.getPacketsToSend with
  | .ok (_, ps) => ps.length
  | _ => 0

def pktsOf (rs : Server) (id : Nat) : Nat :=
  match SMap.find? rs.conns id with
  | some c => connPackets c
  | none => 0

/-- the number of datagrams one `send_packets` can emit: what the connections reported connected have to send -/
def sendBudget (rs : Server) : Nat := (rs.clientsId.map (pktsOf rs)).sum

theorem sendClient_total (a : AEAD) (id : Nat) {L T : Nat} :
    ∀ (ps : List Bytes) (ns : NetcodeServer) (out : Array Dgram) (n : Nat), NcOK L T (n + ps.length) ns →
    ∃ ns' out', serverSendClient a ns id ps out = .ok (ns', out') ∧ NcOK L T n ns' := by
  intro l
  induction l with
  | nil =>
    intro ns out n h
    exact ⟨ns, out, rfl, h⟩
  | cons p rest ih =>
    intro ns out n h
    have h' : NcOK L T (n + rest.length + 1) ns := by
      rw [List.length_cons, ← Nat.add_assoc] at h; exact h
    rcases gp_cases a h' id p with ⟨e, he⟩ | ⟨ad, dg, s', he, k'⟩
    · refine ⟨ns, out, ?_, h.mono (Nat.le_add_right _ _)⟩
      simp only [serverSendClient, he]
      rfl
    · obtain ⟨ns', out', e2, k2⟩ := ih s' (out.push (ad, dg)) n k'
      refine ⟨ns', out', ?_, k2⟩
      simp only [serverSendClient, he]
      exact e2

theorem renet_clientsId_nodup {rs : Server} (hs : SL.SMap.Sorted rs.conns) : rs.clientsId.Nodup := by
  unfold Server.clientsId
  have h1 : ((rs.conns.filter (·.2.isConnected)).map (·.1)).Pairwise (· < ·) :=
    List.Pairwise.sublist (List.Sublist.map _ List.filter_sublist) hs
  exact h1.imp (fun h => Nat.ne_of_lt h)

theorem sendLoop_total {P : SliceCtor → Prop} (a : AEAD) {L T : Nat} (l : List Nat) :
    ∀ (g : ServerGlue) (out : Array Dgram) (n : Nat), l.Nodup →
    (∀ id ∈ l, SMap.contains g.renet.conns id = true) →
    (∀ id ∈ l, ∀ c, SMap.find? g.renet.conns id = some c → c.CountersOK) →
    NcOK L T (n + (l.map (pktsOf g.renet)).sum) g.netcode → RnOK P g.renet →
    ∃ g' out', serverSendLoop a g l out = .ok (g', out') ∧ NcOK L T n g'.netcode ∧ RnOK P g'.renet := by
  induction l with
  | nil => exact fun g out n _ _ _ hk hr => ⟨g, out, rfl, hk, hr⟩
  | cons id rest ih =>
    intro g out n hnd hcon hcnt hk hr
    obtain ⟨rs, o, eg, i', -⟩ := CI.server_getPacketsToSend_totalP hr.inv id (hcnt id List.mem_cons_self)
    obtain ⟨ad, q, hc⟩ := SL.Server.getPacketsToSend_spec eg
    rcases hc with ⟨hn, -⟩ | ⟨c, c', ps, hf, hg, rfl, -⟩
    · have := hcon id List.mem_cons_self
      rw [SMap.contains, hn] at this
      cases this
    have hp : pktsOf g.renet id = ps.length := by
      simp only [pktsOf, connPackets, hf, hg]
    have hoth : ∀ j ∈ rest, SMap.find? rs.conns j = SMap.find? g.renet.conns j :=
      fun j hj => ad.others j fun e => (List.nodup_cons.mp hnd).1 (e ▸ hj)
    have hsum : (rest.map (pktsOf rs)).sum = (rest.map (pktsOf g.renet)).sum := by
      congr 1
      apply List.map_congr_left
      intro j hj
      simp only [pktsOf, hoth j hj]
    have hk' : NcOK L T (n + (rest.map (pktsOf g.renet)).sum + ps.length) g.netcode := by
      refine hk.mono ?_
      simp only [List.map_cons, List.sum_cons, hp]
      omega
    obtain ⟨ns1, out1, e1, k1⟩ := sendClient_total a id ps g.netcode out _ hk'
    obtain ⟨g', out', e2, k2, r2⟩ := ih ⟨ns1, rs⟩ out1 n (List.nodup_cons.mp hnd).2
      (fun j hj => (q.contains j).trans (hcon j (List.mem_cons_of_mem _ hj)))
      (fun j hj c0 hc0 => hcnt j (List.mem_cons_of_mem _ hj) c0 (by rw [← hoth j hj]; exact hc0))
      (by rw [hsum]; exact k1) ⟨i', q.sorted hr.sorted⟩
    refine ⟨g', out', ?_, k2, r2⟩
    simp only [serverSendLoop, eg, NS.bind_ok', e1]
    exact e2

/-- **`NetcodeServerTransport::send_packets` never unwinds.**
    Hypotheses: netcode table invariant, slots/clock as recorded by `NcOK`; every sequence counter has room for `n` +
    the number of packets renet has to send (`sendBudget`); renet invariant; the renet wire counters of every connection
    in range (`CountersOK`: message ids and packet sequence below 2^62).  `NcOK … n` and `RnOK` hold again afterwards. -/
theorem serverSendPackets_total {P : SliceCtor → Prop} (a : AEAD) {g : ServerGlue} {L T n : Nat}
    (hk : NcOK L T (n + sendBudget g.renet) g.netcode) (hr : RnOK P g.renet)
    (hcnt : ∀ id ∈ g.renet.clientsId, ∀ c, SMap.find? g.renet.conns id = some c → c.CountersOK) :
    ∃ g' out, serverSendPackets a g = .ok (g', out) ∧ NcOK L T n g'.netcode ∧ RnOK P g'.renet :=
  sendLoop_total a g.renet.clientsId g #[] n (renet_clientsId_nodup hr.sorted)
    (fun _ hid => contains_of_mem_clientsId hid) hcnt hk hr

/-! ## Part 4 : traces -/

structure TInv (P : SliceCtor → Prop) (st : GState) : Prop where
  nc : NS.ServerInv st.1.netcode
  rn : RnOK P st.1.renet

def opRange (st : GState) : GlueOp → Prop
  | .update d inbox =>
    st.1.netcode.currentTime + d + TMO_MAX_NS ≤ DURATION_MAX ∧
    Room (st.1.netcode.clients.length + inbox.length) st.1.netcode
  | .sendPackets =>
    Room (sendBudget st.1.renet) st.1.netcode ∧
    ∀ id ∈ st.1.renet.clientsId, ∀ c, SMap.find? st.1.renet.conns id = some c → c.CountersOK
  | .disconnectAll => True
  | .app _ => True

def TPre (a : AEAD) (st : GState) : List GlueOp → Prop
  | [] => True
  | op :: rest => opValid st op ∧ opRange st op ∧ ∀ st', op.apply a st = .ok st' → TPre a st' rest

theorem GlueOp.apply_total {P : SliceCtor → Prop} (hP : GoodP P) (a : AEAD) {st : GState} {op : GlueOp}
    (hi : TInv P st) (hv : opValid st op) (hg : opRange st op) : ∃ st', op.apply a st = .ok st' ∧ TInv P st' := by
  obtain ⟨g, popped⟩ := st
  obtain ⟨hnc, hrn⟩ := hi
  cases op with
  | update d inbox =>
    obtain ⟨h1, h2⟩ := hg
    obtain ⟨g', out, e, k, r⟩ := serverUpdate_total hP a d inbox (n := 0) hnc (by rw [Nat.zero_add]; exact h2) h1 hrn
    exact ⟨(g', popped), by simp only [GlueOp.apply, e, NS.bind_ok']; rfl, k.inv, r⟩
  | sendPackets =>
    obtain ⟨h1, h2⟩ := hg
    obtain ⟨g', out, e, k, r⟩ := serverSendPackets_total (P := P) a (g := g) (n := 0)
      ⟨hnc, by rw [Nat.zero_add]; exact h1, rfl, rfl⟩ hrn h2
    exact ⟨(g', popped), by simp only [GlueOp.apply, e, NS.bind_ok']; rfl, k.inv, r⟩
  | disconnectAll =>
    obtain ⟨g', out, e, k, r⟩ := serverDisconnectAll_inv hP a hnc hrn
    exact ⟨(g', popped), by simp only [GlueOp.apply, e, NS.bind_ok']; rfl, k, r⟩
  | app sop =>
    obtain ⟨ha, hsv⟩ := hv
    obtain ⟨st2, e, i2⟩ := CI.srvApply_totalP hP (st := (g.renet, popped)) hrn.inv sop hsv
    obtain ⟨q, _⟩ := appOp_quiet ha e
    exact ⟨({ g with renet := st2.1 }, st2.2), by simp only [GlueOp.apply, e, NS.bind_ok']; rfl, hnc, i2, q.sorted hrn.sorted⟩

theorem runGlue_total {P : SliceCtor → Prop} (hP : GoodP P) (a : AEAD) :
    ∀ (ops : List GlueOp) (st : GState), TInv P st → TPre a st ops → ∃ st', runGlue a st ops = .ok st' ∧ TInv P st' := by
  intro l
  induction l with
  | nil =>
    intro st hi _
    exact ⟨st, rfl, hi⟩
  | cons op rest ih =>
    intro st hi hp
    obtain ⟨st1, e1, i1⟩ := GlueOp.apply_total hP a hi hp.1 hp.2.1
    obtain ⟨st2, e2, i2⟩ := ih st1 i1 (hp.2.2 st1 e1)
    refine ⟨st2, ?_, i2⟩
    simp only [runGlue, e1]
    exact e2

theorem tpre_gpre (a : AEAD) : ∀ (ops : List GlueOp) (st : GState), TPre a st ops → GPre a st ops
  | [], _, _ => trivial
  | _ :: rest, _, h => ⟨h.1, fun st' e => tpre_gpre a rest st' (h.2.2 st' e)⟩

theorem tInv_fresh {P : SliceCtor → Prop} {now maxClients pid : Nat} {addrs : List Addr} {secure : Bool} {pk ck : Bytes}
    {ns : NetcodeServer} (h : NetcodeServer.new now maxClients pid addrs secure pk ck = .ok ns) (budget : Nat)
    (sc cc : List ChanCfg) : TInv P ({ netcode := ns, renet := Server.new budget sc cc }, []) :=
  ⟨(NS.new_inv h).1, CI.server_new_invP budget sc cc, SL.SMap.sorted_nil⟩

/-! ### executable checkers for the range conditions (for concrete examples) -/

def roomb (n : Nat) (s : NetcodeServer) : Bool :=
  decide (s.globalSequence + n ≤ U64_MAX) && decide (s.challengeSequence + n ≤ U64_MAX) &&
  s.clients.all fun x => match x with
    | some c => decide (c.sequence + n ≤ U64_MAX)
    | none => true

theorem room_of_b {n : Nat} {s : NetcodeServer} (h : roomb n s = true) : Room n s := by
  simp only [roomb, Bool.and_eq_true, decide_eq_true_eq, List.all_eq_true] at h
  obtain ⟨⟨h1, h2⟩, h3⟩ := h
  refine ⟨h1, h2, fun i c hc => ?_⟩
  have := h3 (some c) (NS.at_mem hc)
  simpa using this

def countersb (rs : Server) : Bool := rs.conns.all fun x => CI.countersOKb x.2

theorem counters_of_b {rs : Server} (h : countersb rs = true) :
    ∀ id c, SMap.find? rs.conns id = some c → c.CountersOK := by
  intro id c hf
  simp only [countersb, List.all_eq_true] at h
  exact CI.countersOK_of_b (h (id, c) (SMap.mem_of_find? hf))

def opRangeb (st : GState) : GlueOp → Bool
  | .update d inbox =>
    decide (st.1.netcode.currentTime + d + TMO_MAX_NS ≤ DURATION_MAX) &&
    roomb (st.1.netcode.clients.length + inbox.length) st.1.netcode
  | .sendPackets => roomb (sendBudget st.1.renet) st.1.netcode && countersb st.1.renet
  | .disconnectAll => true
  | .app _ => true

theorem opRange_of_b {st : GState} {op : GlueOp} (h : opRangeb st op = true) : opRange st op := by
  cases op with
  | update d inbox =>
    simp only [opRangeb, Bool.and_eq_true, decide_eq_true_eq] at h
    exact ⟨h.1, room_of_b h.2⟩
  | sendPackets =>
    simp only [opRangeb, Bool.and_eq_true] at h
    exact ⟨room_of_b h.1, fun id _ c hc => counters_of_b h.2 id c hc⟩
  | disconnectAll => trivial
  | app sop => trivial

def tpreb (a : AEAD) (st : GState) : List GlueOp → Bool
  | [] => true
  | op :: rest =>
    opValidb st op && opRangeb st op &&
    match op.apply a st with
    | .ok st' => tpreb a st' rest
    | _ => true

theorem tpre_of_b (a : AEAD) : ∀ (ops : List GlueOp) (st : GState), tpreb a st ops = true → TPre a st ops := by
  intro l
  induction l with
  | nil =>
    intro _ _
    exact trivial
  | cons op rest ih =>
    intro st h
    simp only [tpreb, Bool.and_eq_true] at h
    refine ⟨opValid_of_b h.1.1, opRange_of_b h.1.2, fun st' e => ?_⟩
    have h2 := h.2
    rw [e] at h2
    exact ih st' h2

end RenetVerif.GlueTotal
