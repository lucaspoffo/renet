/-
  HOW MANY PACKETS ONE FLUSH EMITS — helper lemmas for Props/C01KD.lean (item (C) of Props/C01KC.lean).

  `chanLoop_numbering` gives `seq' = seq + |ps|` for the channel loop of `get_packets_to_send`, but no bound on `|ps|`
  (the byte budget does not bound it: empty messages are free).  Here:

  Part 1  UNITS.  `entryUnits` (a stored small message: 1; a stored sliced message: its number of slices `n` — an
          upper bound of the un-acknowledged ones), `relUnits s = Σ entryUnits + 1` (the `+ 1`: the small-message
          accumulator is flushed once more at the end, and the FIRST small message can flush an EMPTY accumulator
          when its serialised size alone exceeds `SLICE_SIZE`), `unrelUnits s = Σ over the queue (slices of a sliced
          message, 1 for a small one) + 1`, `Conn.units c = Σ over c.order` of the units of the channel found there.
          `chanLoop_count`: the channel loop appends at most `ordUnits order sr su` packets — NO hypothesis.
          `flushSeq_le_units`: `c.flushSeq ≤ c.packetSeq + c.units + 1` — NO hypothesis.
  Part 2  units do not grow: `process_packet` (the two ack operations: `relUnits_ack`), `update`, `get_packets_to_send` (`UnitsLe`): `units ≤ N` is an
          instance of `LiveKC.KeptC` (`keptC_units`), so at system level no operation other than `sendA` raises the
          units of A (`units_run`).
  Part 3  a reliable channel with a non-empty due backlog that is offered `SLICE_SIZE` bytes has a transmission taken
          by the scan (`greedy_ne_nil`), hence the flush of the connection is non-empty (`flushPk_ne_nil`).
  Part 4  head-room in units (`HeadRoom3`: `packetSeq + k * (units + 1) ≤ 2^62`), and schedule facts that demand `r.ks ≠ []`
          ONLY for a round that starts with an EMPTY backlog (`round_of_sched0`, `TickSched3`, `rounds_of_sched3`).
-/
import RenetVerif.Lemmas.LivenessKClosed2
namespace RenetVerif.FlushCount
open RenetVerif C RenetVerif.System RenetVerif.DataPath RenetVerif.Live RenetVerif.LiveK RenetVerif.LiveKC

/-! ## Part 1 — units, and the number of packets of one flush -/

/-- packets one stored entry can cause in one flush: a small message at most one flush of the accumulator, a sliced
    message at most one packet per slice -/
def entryUnits : Unacked → Nat
  | .small .. => 1
  | .sliced _ n .. => n

def mapUnits : SMap Unacked → Nat
  | [] => 0
  | (_, u) :: r => entryUnits u + mapUnits r

@[simp] theorem mapUnits_nil : mapUnits [] = 0 := rfl
@[simp] theorem mapUnits_cons (k : Nat) (u : Unacked) (r : SMap Unacked) :
    mapUnits ((k, u) :: r) = entryUnits u + mapUnits r := rfl

def relUnits (s : SendRel) : Nat := mapUnits s.unacked + 1

/-- packets one queued unreliable message can cause: its slices, or one flush of the accumulator -/
def msgUnits (m : Bytes) : Nat := if m.length > SLICE_SIZE then divCeil m.length SLICE_SIZE else 1

def queueUnits : List Bytes → Nat
  | [] => 0
  | m :: r => msgUnits m + queueUnits r

def unrelUnits (s : SendUnrel) : Nat := queueUnits s.queue + 1

def optRel (o : Option SendRel) : Nat := match o with | some s => relUnits s | none => 0
def optUnrel (o : Option SendUnrel) : Nat := match o with | some s => unrelUnits s | none => 0

def chanUnits (sr : SMap SendRel) (su : SMap SendUnrel) : Bool × Nat → Nat
  | (true, ch) => optRel (SMap.find? sr ch)
  | (false, ch) => optUnrel (SMap.find? su ch)

def ordUnits (sr : SMap SendRel) (su : SMap SendUnrel) : List (Bool × Nat) → Nat
  | [] => 0
  | x :: r => chanUnits sr su x + ordUnits sr su r

/-- **units of a connection**: over the channel order, stored small messages + slices of stored sliced messages + 1
    per reliable channel, queued unreliable messages (slices for a sliced one) + 1 per unreliable channel -/
def _root_.RenetVerif.Conn.units (c : Conn) : Nat := ordUnits c.sendRel c.sendUnrel c.order

theorem length_relCands (now resend : Nat) : ∀ (un : SMap Unacked), (relCands now resend un).length = mapUnits un
  | [] => rfl
  | (id, .small m ls) :: r => by
    rw [relCands_cons, List.length_append, length_relCands now resend r, mapUnits_cons]
    rfl
  | (id, .sliced m n na nx ak ls) :: r => by
    rw [relCands_cons, List.length_append, length_relCands now resend r, mapUnits_cons, Unacked.cands, sliceCands,
      List.length_map, List.length_range]
    rfl

theorem length_pack_le (ch : Nat) : ∀ (T : List Tx) (g : GP), (T.foldl (packStep ch) g).packets.length ≤ g.packets.length + T.length
  | [], g => Nat.le_refl _
  | .small id m :: T, g => by
    have := length_pack_le ch T (takeSmall ch id m g)
    rw [List.foldl_cons, List.length_cons]
    rcases packets_takeSmall ch id m g with e | e <;> rw [e] at this
    · exact Nat.le_trans this (by omega)
    · rw [List.length_append] at this
      exact Nat.le_trans this (by simp only [List.length_cons, List.length_nil]; omega)
  | .slice id m n i :: T, g => by
    have := length_pack_le ch T (sliceStep ch id m n i g)
    rw [List.foldl_cons, List.length_cons]
    refine Nat.le_trans this ?_
    simp only [sliceStep, List.length_append, List.length_cons, List.length_nil]
    omega

/-- **one flush of a reliable send channel emits at most `relUnits` packets** (no hypothesis): one per item taken, and
    the small-message accumulator is flushed once more at the end -/
theorem getPackets_rel_count (s : SendRel) (seq avail now : Nat) :
    (s.getPackets seq avail now).2.1.length ≤ relUnits s := by
  rw [SendRel.getPackets_scan]
  dsimp only
  have h1 := length_pack_le s.ch (greedy (relCands now s.resend s.unacked) avail) ⟨[], [], 0, seq, avail⟩
  have h2 := length_greedy_le (relCands now s.resend s.unacked) avail
  rw [length_relCands] at h2
  unfold relUnits
  rcases finishRel_packets s.ch ((greedy (relCands now s.resend s.unacked) avail).foldl (packStep s.ch) ⟨[], [], 0, seq, avail⟩)
    with e | e <;> rw [e]
  · exact Nat.le_trans h1 (by simp only [List.length_nil]; omega)
  · rw [List.length_append]
    simp only [List.length_cons, List.length_nil] at h1 ⊢
    omega

/-- the flush rewrites time stamps and cursors only: the units of the stored entries are unchanged -/
theorem mapUnits_relSent (now resend : Nat) : ∀ (un : SMap Unacked) (a : Nat), mapUnits (relSent now resend un a) = mapUnits un
  | [], _ => rfl
  | (id, .small m ls) :: r, a => by rw [relSent, mapUnits_cons, mapUnits_cons, mapUnits_relSent now resend r]; rfl
  | (id, .sliced m n na nx ak ls) :: r, a => by rw [relSent, mapUnits_cons, mapUnits_cons, mapUnits_relSent now resend r]; rfl

theorem getPackets_rel_units (s : SendRel) (seq avail now : Nat) :
    relUnits (s.getPackets seq avail now).1 = relUnits s := by
  rw [SendRel.getPackets_scan]
  unfold relUnits
  dsimp only
  rw [mapUnits_relSent]

def pendU (l : List Bytes) : Nat := if l.isEmpty then 0 else 1

theorem pendU_le (l : List Bytes) : pendU l ≤ 1 := by unfold pendU; split <;> omega

theorem unrelLoop_count (ch : Nat) : ∀ (q : List Bytes) (g : GPU),
    (unrelLoop ch q g).packets.length + pendU (unrelLoop ch q g).small ≤ g.packets.length + 1 + queueUnits q
  | [], g => by
    have := pendU_le g.small
    simp only [unrelLoop, queueUnits]; omega
  | m :: rest, g => by
    rw [unrelLoop_cons]
    simp only [queueUnits, msgUnits]
    split
    · have := unrelLoop_count ch rest (unrelDrop m g)
      have e : (unrelDrop m g).packets = g.packets := rfl
      rw [e] at this
      split <;> omega
    · split
      · next h2 =>
        have := unrelLoop_count ch rest (unrelSliced ch m g)
        have e : (unrelSliced ch m g).packets.length = g.packets.length + divCeil m.length SLICE_SIZE := by
          simp only [unrelSliced, List.length_append, unrelSlices_length, List.length_range]
        rw [e] at this
        omega
      · next h2 =>
        have := unrelLoop_count ch rest (unrelSmall ch m g)
        have e : (unrelSmall ch m g).packets.length ≤ g.packets.length + 1 := by
          unfold unrelSmall
          split
          · simp [pushUnrel, flushUnrel, chargeU]
          · simp [pushUnrel, chargeU]
        omega

theorem finishUnrel_count (ch : Nat) (g : GPU) : (finishUnrel ch g).packets.length = g.packets.length + pendU g.small := by
  unfold finishUnrel pendU
  split
  · rfl
  · simp

theorem getPackets_unrel_count (s : SendUnrel) (seq avail : Nat) :
    (s.getPackets seq avail).2.1.length ≤ unrelUnits s ∧ unrelUnits (s.getPackets seq avail).1 ≤ unrelUnits s := by
  rw [SendUnrel.getPackets_eq]
  dsimp only
  rw [finishUnrel_count]
  have := unrelLoop_count s.ch s.queue ⟨[], [], 0, seq, avail, s.slicedId, s.mem⟩
  simp only [List.length_nil] at this
  unfold unrelUnits
  dsimp only [queueUnits]
  omega

def UnitsLe (sr' : SMap SendRel) (su' : SMap SendUnrel) (sr : SMap SendRel) (su : SMap SendUnrel) : Prop :=
  (∀ ch, optRel (SMap.find? sr' ch) ≤ optRel (SMap.find? sr ch)) ∧
  (∀ ch, optUnrel (SMap.find? su' ch) ≤ optUnrel (SMap.find? su ch))

theorem UnitsLe.refl (sr : SMap SendRel) (su : SMap SendUnrel) : UnitsLe sr su sr su :=
  ⟨fun _ => Nat.le_refl _, fun _ => Nat.le_refl _⟩

theorem UnitsLe.trans {a1 b1 c1 : SMap SendRel} {a2 b2 c2 : SMap SendUnrel} (h1 : UnitsLe a1 a2 b1 b2)
    (h2 : UnitsLe b1 b2 c1 c2) : UnitsLe a1 a2 c1 c2 :=
  ⟨fun ch => Nat.le_trans (h1.1 ch) (h2.1 ch), fun ch => Nat.le_trans (h1.2 ch) (h2.2 ch)⟩

/-- `f` is `optRel` or `optUnrel` -/
theorem units_insert_le {α : Type} (f : Option α → Nat) {t : SMap α} {ch : Nat} {s s' : α} (hf : SMap.find? t ch = some s)
    (h : f (some s') ≤ f (some s)) (k : Nat) : f (SMap.find? (SMap.insert t ch s') k) ≤ f (SMap.find? t k) := by
  rw [SMap.find?_insert]
  split
  · next e => subst e; rw [hf]; exact h
  · exact Nat.le_refl _

theorem ordUnits_mono {sr' sr : SMap SendRel} {su' su : SMap SendUnrel} (h : UnitsLe sr' su' sr su) :
    ∀ (ord : List (Bool × Nat)), ordUnits sr' su' ord ≤ ordUnits sr su ord
  | [] => Nat.le_refl _
  | (true, ch) :: r => by
    have := ordUnits_mono h r
    have := h.1 ch
    simp only [ordUnits, chanUnits]; omega
  | (false, ch) :: r => by
    have := ordUnits_mono h r
    have := h.2 ch
    simp only [ordUnits, chanUnits]; omega

theorem chanLoop_count (now : Nat) : ∀ (ord : List (Bool × Nat)) (sr : SMap SendRel) (su : SMap SendUnrel)
    (pk : List Packet) (seq avail : Nat) (sr' : SMap SendRel) (su' : SMap SendUnrel) (pk' : List Packet)
    (seq' avail' : Nat),
    Conn.chanLoop now ord (sr, su, pk, seq, avail) = .ok (sr', su', pk', seq', avail') →
    pk'.length ≤ pk.length + ordUnits sr su ord ∧ UnitsLe sr' su' sr su
  | [], sr, su, pk, seq, avail, sr', su', pk', seq', avail', h => by
    simp only [Conn.chanLoop, Res.ok.injEq, Prod.mk.injEq] at h
    obtain ⟨rfl, rfl, rfl, -, -⟩ := h
    exact ⟨Nat.le_add_right _ _, UnitsLe.refl _ _⟩
  | (true, ch0) :: rest, sr, su, pk, seq, avail, sr', su', pk', seq', avail', h => by
    rw [chanLoop_rel_step] at h
    split at h
    · cases h
    · rename_i s hs
      obtain ⟨i1, i2⟩ := chanLoop_count now rest _ _ _ _ _ _ _ _ _ _ h
      have hle : UnitsLe (SMap.insert sr ch0 (s.getPackets seq avail now).1) su sr su :=
        ⟨units_insert_le optRel hs (Nat.le_of_eq (getPackets_rel_units s seq avail now)), fun _ => Nat.le_refl _⟩
      have h1 := getPackets_rel_count s seq avail now
      have h2 := ordUnits_mono hle rest
      refine ⟨?_, i2.trans hle⟩
      simp only [ordUnits, chanUnits, hs, optRel, List.length_append] at i1 ⊢
      omega
  | (false, ch0) :: rest, sr, su, pk, seq, avail, sr', su', pk', seq', avail', h => by
    rw [chanLoop_unrel_step] at h
    split at h
    · cases h
    · rename_i s hs
      obtain ⟨i1, i2⟩ := chanLoop_count now rest _ _ _ _ _ _ _ _ _ _ h
      obtain ⟨h1, h3⟩ := getPackets_unrel_count s seq avail
      have hle : UnitsLe sr (SMap.insert su ch0 (s.getPackets seq avail).1) sr su :=
        ⟨fun _ => Nat.le_refl _, units_insert_le optUnrel hs h3⟩
      have h2 := ordUnits_mono hle rest
      refine ⟨?_, i2.trans hle⟩
      simp only [ordUnits, chanUnits, hs, optUnrel, List.length_append] at i1 ⊢
      omega

/-- **the sequence number after a flush**, ack packet included: `flushSeq ≤ packetSeq + units + 1`: no invariant,
    no counter hypothesis, no non-emptiness (`seq' = seq + |ps|` is `chanLoop_numbering`). -/
theorem flushSeq_le_units (c : Conn) : c.flushSeq ≤ c.packetSeq + c.units + 1 := by
  rcases flushSeq_cases c with ⟨h, -⟩ | ⟨_, _, pk0, _, hl, hs, -⟩
  · omega
  · obtain ⟨hcnt, -⟩ := chanLoop_count _ _ _ _ _ _ _ _ _ _ _ _ hl
    simp only [List.length_nil, Nat.zero_add] at hcnt
    unfold Conn.units
    omega

/-! ## Part 2 — units do not grow (everything but `send_message`) -/

theorem mapUnits_eq_sumBy : ∀ (l : SMap Unacked), mapUnits l = SMap.sumBy entryUnits l
  | [] => rfl
  | (k, u) :: r => by rw [mapUnits_cons, mapUnits_eq_sumBy r]; rfl

/-- neither ack operation raises the units of a reliable send channel: it erases an entry, or stores a sliced entry with one more
    ack bit under the key it was found at -/
theorem relUnits_ack {s s' : SendRel} {id : Nat} (hi : s.Inv)
    (h : s.processMessageAck id = .ok s' ∨ ∃ idx, s.processSliceAck id idx = .ok s') : relUnits s' ≤ relUnits s := by
  unfold relUnits
  rw [mapUnits_eq_sumBy, mapUnits_eq_sumBy]
  rcases h with h | ⟨idx, h⟩
  · rcases SendRel.processMessageAck_cases h with ⟨-, rfl⟩ | ⟨m, ls, hf, -, rfl⟩
    · exact Nat.le_refl _
    · have := SMap.sumBy_erase_present entryUnits hf
      dsimp only; omega
  · rcases SendRel.processSliceAck_cases h with
      ⟨-, rfl⟩ | ⟨m, n, k, nx, ak, ls, hf, ⟨-, rfl⟩ | ⟨-, -, -, rfl⟩ | ⟨-, -, rfl⟩⟩
    · exact Nat.le_refl _
    · exact Nat.le_refl _
    · have := SMap.sumBy_erase_present entryUnits hf
      dsimp only; omega
    · have := SMap.sumBy_insert_present entryUnits (SI.sorted_iff.mp hi.sorted) (.sliced m n (k + 1) nx (ak.set idx true) ls) hf
      dsimp only [entryUnits] at this ⊢; omega

theorem units_congr {c c' : Conn} (h1 : c'.sendRel = c.sendRel) (h2 : c'.sendUnrel = c.sendUnrel) (h3 : c'.order = c.order) :
    c'.units = c.units := by unfold Conn.units; rw [h1, h2, h3]

/-- `process_packet` does not raise the units of the send side: it reaches the reliable send channels through the two
    ack operations only (`System.processPacket_pres`), and leaves the unreliable ones and the order alone -/
theorem packet_units {c c' : Conn} {bytes : Bytes} (hinv : c.SendInv) (h : c.processPacket bytes = .ok c') :
    c'.units ≤ c.units := by
  have hP := processPacket_pres (fun ch s => s.Inv ∧ relUnits s ≤ optRel (SMap.find? c.sendRel ch))
    (fun ch s id s' hp e => ⟨(SI.SendRel.processMessageAck_keeps hp.1 e).1, Nat.le_trans (relUnits_ack hp.1 (Or.inl e)) hp.2⟩)
    (fun ch s id idx s' hp e =>
      ⟨(SI.SendRel.processSliceAck_keeps hp.1 e).1, Nat.le_trans (relUnits_ack hp.1 (Or.inr ⟨idx, e⟩)) hp.2⟩)
    h (fun ch s hf => ⟨(hinv.chans ch s hf).1, by rw [hf]; exact Nat.le_refl _⟩)
  obtain ⟨⟨-, a3, -⟩, a2, -⟩ := SL.Conn.processPacket_fixed h
  unfold Conn.units
  rw [a3]
  refine ordUnits_mono ⟨fun ch => ?_, fun ch => by rw [a2]; exact Nat.le_refl _⟩ c.order
  cases hf' : SMap.find? c'.sendRel ch with
  | none => exact Nat.zero_le _
  | some s' => exact (hP ch s' hf').2

theorem flush_units {c c' : Conn} {out : List Bytes} (h : c.getPacketsToSend = .ok (c', out)) : c'.units ≤ c.units := by
  rcases Conn.flush_cases h with ⟨-, rfl, -⟩ | ⟨_, _, _, o⟩
  · exact Nat.le_refl _
  · obtain ⟨-, a2⟩ := chanLoop_count _ _ _ _ _ _ _ _ _ _ _ _ o.loop
    unfold Conn.units
    rw [o.order]
    exact ordUnits_mono a2 c.order

/-- no operation other than `sendA` raises the units of A (`KeptC.step`, `KeptC.run`) -/
theorem keptC_units (N : Nat) : KeptC (fun c => c.units ≤ N) :=
  ⟨fun h1 h2 h3 h => by rw [units_congr h1 h2 h3]; exact h, fun h q => Nat.le_trans (flush_units h) q,
    fun hi h q => Nat.le_trans (packet_units hi h) q⟩

theorem units_run (cfg : Cfg) (ops : List SysOp) (s s' : Sys) (pk : List Packet) (h1 : Inv1 cfg s pk)
    (h : s.run ops = some s') (hno : ∀ op ∈ ops, ∀ ch m, op ≠ .sendA ch m) : s'.a.units ≤ s.a.units :=
  ((keptC_units s.a.units).run cfg ops s s' pk h1 h).1 hno (Nat.le_refl _)

/-! ## Part 3 — a non-empty due backlog that is offered `SLICE_SIZE` bytes emits a packet -/

theorem greedy_ne_nil : ∀ {C : List (Tx × Bool)} {a : Nat} {t : Tx}, (t, true) ∈ C → (∀ t, (t, true) ∈ C → t.need ≤ a) →
    greedy C a ≠ []
  | (t0, d) :: C, a, t, ht, hn => by
    cases d with
    | true =>
      rw [greedy_take ⟨rfl, hn t0 (List.mem_cons_self ..)⟩]
      exact List.cons_ne_nil _ _
    | false =>
      rw [greedy_skip (fun c => by cases c.1)]
      rcases List.mem_cons.mp ht with e | ht
      · cases e
      · exact greedy_ne_nil ht fun x hx => hn x (List.mem_cons_of_mem _ hx)

/-- **the flush of a live connection is non-empty** when a reliable channel in the channel order has a non-empty due
    backlog and at least `SLICE_SIZE` bytes of budget are left at its turn: the backlog asks for a transmission, no
    transmission needs more than `SLICE_SIZE`, so the scan takes one, and the flush carries it -/
theorem flushPk_ne_nil {c : Conn} (hinv : c.Inv) (hcnt : c.CountersOK) (hd : c.isDisconnected = false) {ch : Nat}
    {sA : SendRel} (hf : SMap.find? c.sendRel ch = some sA) (hord : (true, ch) ∈ c.order)
    (hne : sA.unacked ≠ []) (hdue : AllDue c.now sA.resend sA.unacked) (hav : SLICE_SIZE ≤ availAtTurn c ch) :
    flushPk c ≠ [] := by
  have htake := flush_contains hinv hcnt hd hf hord
  have hi := (hinv.send.chans ch sA hf).1
  obtain ⟨x, hx⟩ := List.exists_mem_of_ne_nil _ hne
  obtain ⟨t, ht⟩ := exists_pend hi hx
  obtain ⟨t', ht'⟩ := List.exists_mem_of_ne_nil _ (greedy_ne_nil (a := availAtTurn c ch)
    ((mem_relCands_of_due hdue).mpr (List.mem_flatMap.mpr ⟨_, hx, ht⟩))
    fun t h => Nat.le_trans (need_le_slice hi t ((mem_relCands_of_due hdue).mp h)) hav)
  have hin := htake t' ht'
  cases t' with
  | small id' m' =>
    obtain ⟨sq, msgs, hp, -⟩ := hin
    exact List.ne_nil_of_mem hp
  | slice id' m' n' i' =>
    obtain ⟨sq, hp⟩ := hin
    exact List.ne_nil_of_mem hp

/-! ## Part 4 — schedule facts WITHOUT "the round hands B a datagram"; head-room in units -/

/-- head-room on the initial state; differs from `HeadRoom2` in `seqA`: `units + 1` sequence numbers per round, where
    `units` is read off the INITIAL state (instead of one per datagram the schedule hands over, plus one per round) -/
structure HeadRoom3 (cfg : Cfg) (s : Sys) (rs : List RoundP) : Prop where
  sys : CountersOK cfg s
  staticA : StaticOK s.a
  staticB : StaticOK s.b
  seqA : s.a.packetSeq + rs.length * (s.a.units + 1) ≤ Varint.MAX + 1
  seqB : s.b.packetSeq + rs.length ≤ Varint.MAX + 1
  acks : s.b.pendingAcks.length + kTotal rs < ACK_RANGE_CAP

theorem roundP_ops_nosend (ch : Nat) (r : RoundP) : ∀ op ∈ r.ops ch, ∀ c m, op ≠ .sendA c m := by
  intro op hop c m e
  subst e
  simp [RoundP.ops, fullRoundOps, roundOps] at hop

/-- **A's counters and the non-emptiness of its flush, for one round** — the step that breaks the circle of note (C):
    `su.a.CountersOK` from the unit bound (no non-emptiness needed), then the flush is non-empty. -/
theorem tick_facts (cfg : Cfg) (ch : Nat) (ops : List SysOp) (s : Sys) (hr : (Sys.init cfg).run ops = some s)
    (hda : s.a.isDisconnected = false) (sA : SendRel) (hfA : SMap.find? s.a.sendRel ch = some sA)
    (dt : Nat) (hdt : sA.resend ≤ dt) (su : Sys) (hsu : s.step (.updA dt) = some su)
    (hst : StaticOK s.a) (hseq : s.a.packetSeq + s.a.units + 1 ≤ Varint.MAX + 1) :
    su.a.CountersOK ∧ su.a.units ≤ s.a.units ∧ su.a.flushSeq ≤ s.a.packetSeq + s.a.units + 1 ∧
    (sA.unacked ≠ [] → SLICE_SIZE ≤ availAtTurn su.a ch → flushPk su.a ≠ []) := by
  obtain ⟨pk, h1, -⟩ := system_inv cfg ops s hr
  have hrsu := run_snoc hr hsu
  obtain ⟨pku, h1u, -⟩ := system_inv cfg _ su hrsu
  obtain ⟨-, -, e3, e4, -⟩ := updA_frame hsu
  have hun := ((keptC_units s.a.units).step h1 hsu).1 (by intro c m e; cases e) (Nat.le_refl _)
  have hfs := flushSeq_le_units su.a
  have hcA : su.a.CountersOK :=
    countersOK_of_static ((keptC_static.step h1 hsu).1 (by intro c m e; cases e) hst) (by omega)
  refine ⟨hcA, hun, by omega, ?_⟩
  intro hne hav
  obtain ⟨hfu, hdue⟩ := due_after_update cfg ops s hr ch sA hfA dt hdt su hsu
  exact flushPk_ne_nil (reach_conn h1u.reachA).1 hcA (by rw [e3]; exact hda) hfu (order_mem h1u.reachA hfu) hne hdue hav

theorem ks_ne_of_flush {su : Sys} {ks : List Nat} (hall : ∀ k ∈ newIdx su, k ∈ ks) (hne : flushPk su.a ≠ []) : ks ≠ [] := by
  have hk : su.outA.length ∈ newIdx su := by
    unfold newIdx
    rw [List.mem_range'_1]
    have : 0 < (flushPk su.a).length := List.length_pos_iff.mpr hne
    omega
  exact List.ne_nil_of_mem (hall _ hk)

/-- `r.ks ≠ []` is asked (`hks`) only of a round that starts with an EMPTY backlog: otherwise A's flush emits something
    (`tick_facts`), and the units of A do not grow along the round (`units_run`). -/
theorem round_of_sched0 (cfg : Cfg) (ch : Nat) (Sched : Sys → Prop)
    (hS : ∀ ops' su, (Sys.init cfg).run ops' = some su → Sched su →
      (∀ p ∈ flushPk su.a, OnlyCh ch p) ∧ SLICE_SIZE ≤ availAtTurn su.a ch)
    (r : RoundP) (rs : List RoundP) (ops : List SysOp) (s : Sys) (sA : SendRel) (rB : RecvRel)
    (hr : (Sys.init cfg).run ops = some s) (hst : Standing cfg ch s sA rB) (hks : sA.unacked = [] → r.ks ≠ [])
    (hsch : RoundSched0 ch Sched s r) (hH : HeadRoom3 cfg s (r :: rs)) :
    RoundOK cfg ch Sched s r ∧ ∀ v, s.run (r.ops ch) = some v → HeadRoom3 cfg v rs := by
  obtain ⟨pk, h1, -⟩ := system_inv cfg ops s hr
  obtain ⟨su, hsu⟩ := updA_step h1 r.dt
  have tk := hsch.tick su hsu
  have hseqA := hH.seqA
  have hseqB := hH.seqB
  have hacks := hH.acks
  simp only [kTotal, List.length_cons] at hseqA hseqB hacks
  rw [Nat.succ_mul] at hseqA
  generalize hX : rs.length * (s.a.units + 1) = X at hseqA
  obtain ⟨H4, hav⟩ := hS _ su (run_snoc hr hsu) tk.sched
  obtain ⟨-, -, hfs, hne⟩ := tick_facts cfg ch ops s hr hst.liveA sA hst.findA r.dt (hsch.timer sA hst.findA) su hsu hH.staticA (by omega)
  have hks' : r.ks ≠ [] := by
    by_cases hemp : sA.unacked = []
    · exact hks hemp
    · exact ks_ne_of_flush tk.all (hne hemp hav)
  obtain ⟨hok, hafter⟩ := round_closed cfg ch Sched r ops s sA rB hr hst hsch su hsu H4 hks'
    hH.sys hH.staticA hH.staticB (by omega) (by omega) (by omega)
  refine ⟨hok, fun v hv => ?_⟩
  obtain ⟨hc, hstA, hstB, x1, x2, x3⟩ := hafter v hv
  have hunv := units_run cfg (r.ops ch) s v _ h1 hv (roundP_ops_nosend ch r)
  have hmul : rs.length * (v.a.units + 1) ≤ X := by
    rw [← hX]; exact Nat.mul_le_mul_left _ (by omega)
  exact ⟨hc, hstA, hstB, by omega, by omega, by omega⟩

/-- the schedule facts of one round, seen from the state `su` A's flush starts from.  Differs from `TickSched2` in
    `nonempty0`: `r.ks ≠ []` is demanded ONLY when the round starts with an EMPTY backlog on channel `ch` (then A's flush
    need not emit anything, but `TickOK.back` still wants B to hold something to acknowledge); for a round that starts
    with a non-empty backlog it is derived (`flushPk_ne_nil`). -/
structure TickSched3 (ch : Nat) (Sched : Sys → Prop) (su : Sys) (r : RoundP) : Prop where
  sched : Sched su
  all : ∀ k ∈ newIdx su, k ∈ r.ks
  exact : ∀ k ∈ r.ks, k ∈ newIdx su
  nonempty0 : (∀ sA, SMap.find? su.a.sendRel ch = some sA → sA.unacked = []) → r.ks ≠ []
  back : ∀ u, su.run (roundOps ch r.ks r.n) = some u → r.ai = ackIdx u

structure RoundSched3 (ch : Nat) (Sched : Sys → Prop) (s : Sys) (r : RoundP) : Prop where
  timer : ∀ sA, SMap.find? s.a.sendRel ch = some sA → sA.resend ≤ r.dt
  drain : (s.submitted ch).length ≤ (s.obtained ch).length + r.n
  tick : ∀ su, s.step (.updA r.dt) = some su → TickSched3 ch Sched su r

def RoundsSched3 (ch : Nat) (Sched : Sys → Prop) : Sys → List RoundP → Prop
  | _, [] => True
  | s, r :: rs => RoundSched3 ch Sched s r ∧ ∀ v, s.run (r.ops ch) = some v → RoundsSched3 ch Sched v rs

theorem RoundSched3.sched0 {ch : Nat} {Sched : Sys → Prop} {s : Sys} {r : RoundP} (h : RoundSched3 ch Sched s r) :
    RoundSched0 ch Sched s r :=
  ⟨h.timer, h.drain, fun su hsu => ⟨(h.tick su hsu).sched, (h.tick su hsu).all, (h.tick su hsu).exact, (h.tick su hsu).back⟩⟩

/-- **Closing the side conditions, third step**: as `rounds_of_sched2`, but `r.ks ≠ []` is derived for every round that
    starts with a non-empty backlog (`hS`: the scheduling hypothesis yields H4 and `SLICE_SIZE` bytes at the channel's
    turn), and A's head-room is `packetSeq + k * (units + 1) ≤ 2^62` on the initial state. -/
theorem rounds_of_sched3 (cfg : Cfg) (ch : Nat) (ord : Bool) (ho : KindOf cfg ch ord) (Sched : Sys → Prop)
    (hS : ∀ ops' su, (Sys.init cfg).run ops' = some su → Sched su →
      (∀ p ∈ flushPk su.a, OnlyCh ch p) ∧ SLICE_SIZE ≤ availAtTurn su.a ch) :
    ∀ (rs : List RoundP) (ops : List SysOp) (s : Sys) (sA : SendRel) (rB : RecvRel),
      (Sys.init cfg).run ops = some s → Standing cfg ch s sA rB →
      RoundsSched3 ch Sched s rs → HeadRoom3 cfg s rs → Rounds cfg ch Sched s rs := by
  intro rs ops s sA rB hr hst hRS hH
  refine rounds_of_round cfg ch ord ho Sched (fun o su h1 h2 => (hS o su h1 h2).1)
    (fun s rs => RoundsSched3 ch Sched s rs ∧ HeadRoom3 cfg s rs) ?_ rs ops s sA rB hr hst ⟨hRS, hH⟩
  intro r rs ops s sA rB hr hst ⟨⟨hsch, hnext⟩, hH⟩
  obtain ⟨hok, hhead⟩ := round_of_sched0 cfg ch Sched hS r rs ops s sA rB hr hst (by
      intro hemp
      obtain ⟨pk, h1, -⟩ := system_inv cfg ops s hr
      obtain ⟨su, hsu⟩ := updA_step h1 r.dt
      obtain ⟨-, e2, -⟩ := updA_frame hsu
      exact (hsch.tick su hsu).nonempty0 (fun sA' hf' => by rw [e2, hst.findA] at hf'; cases hf'; exact hemp))
    hsch.sched0 hH
  exact ⟨hok, fun v hv => ⟨hnext v hv, hhead v hv⟩⟩

instance (cfg : Cfg) (s : Sys) (rs : List RoundP) : Decidable (HeadRoom3 cfg s rs) :=
  decidable_of_iff (_ ∧ _ ∧ _ ∧ _ ∧ _ ∧ _)
    ⟨fun h => ⟨h.1, h.2.1, h.2.2.1, h.2.2.2.1, h.2.2.2.2.1, h.2.2.2.2.2⟩,
     fun h => ⟨h.sys, h.staticA, h.staticB, h.seqA, h.seqB, h.acks⟩⟩

def tickSched3b (ch : Nat) (schedb : Sys → Bool) (su : Sys) (r : RoundP) : Bool :=
  schedb su && decide (∀ k ∈ newIdx su, k ∈ r.ks) && decide (∀ k ∈ r.ks, k ∈ newIdx su) &&
  (match SMap.find? su.a.sendRel ch with
   | some sA => !sA.unacked.isEmpty || !r.ks.isEmpty
   | none => !r.ks.isEmpty) &&
  (match su.run (roundOps ch r.ks r.n) with
   | some u => decide (r.ai = ackIdx u)
   | none => true)

def roundSched3b (ch : Nat) (schedb : Sys → Bool) (s : Sys) (r : RoundP) : Bool :=
  (match SMap.find? s.a.sendRel ch with
   | some sA => decide (sA.resend ≤ r.dt)
   | none => true) &&
  decide ((s.submitted ch).length ≤ (s.obtained ch).length + r.n) &&
  (match s.step (.updA r.dt) with
   | some su => tickSched3b ch schedb su r
   | none => true)

def roundsSched3b (ch : Nat) (schedb : Sys → Bool) : Sys → List RoundP → Bool
  | _, [] => true
  | s, r :: rs => roundSched3b ch schedb s r &&
    (match s.run (r.ops ch) with
     | some v => roundsSched3b ch schedb v rs
     | none => true)

theorem roundsSched3_of_roundsSched2 {ch : Nat} {Sched : Sys → Prop} : ∀ (rs : List RoundP) (s : Sys),
    RoundsSched2 ch Sched s rs → RoundsSched3 ch Sched s rs
  | [], _, _ => trivial
  | r :: rs, s, h => by
    refine ⟨⟨h.1.timer, h.1.drain, fun su hsu => ?_⟩, fun v hv => roundsSched3_of_roundsSched2 rs v (h.2 v hv)⟩
    have tk := h.1.tick su hsu
    exact ⟨tk.sched, tk.all, tk.exact, fun _ => tk.nonempty, tk.back⟩

theorem roundsSched3_one {ch : Nat} {Sched : Sys → Prop} {s : Sys} {r : RoundP} (h : RoundSched0 ch Sched s r)
    {sA : SendRel} (hfA : SMap.find? s.a.sendRel ch = some sA) (hne : sA.unacked ≠ []) : RoundsSched3 ch Sched s [r] := by
  refine ⟨⟨h.timer, h.drain, fun su hsu => ?_⟩, fun _ _ => trivial⟩
  have tk := h.tick su hsu
  obtain ⟨-, e2, -⟩ := updA_frame hsu
  exact ⟨tk.sched, tk.all, tk.exact, fun hall => absurd (hall sA (by rw [e2]; exact hfA)) hne, tk.back⟩

def roundSched0b (ch : Nat) (schedb : Sys → Bool) (s : Sys) (r : RoundP) : Bool :=
  (match SMap.find? s.a.sendRel ch with
   | some sA => decide (sA.resend ≤ r.dt)
   | none => true) &&
  decide ((s.submitted ch).length ≤ (s.obtained ch).length + r.n) &&
  (match s.step (.updA r.dt) with
   | some su => schedb su && decide (∀ k ∈ newIdx su, k ∈ r.ks) && decide (∀ k ∈ r.ks, k ∈ newIdx su) &&
      (match su.run (roundOps ch r.ks r.n) with
       | some u => decide (r.ai = ackIdx u)
       | none => true)
   | none => true)

theorem roundSched0_of_b {ch : Nat} {Sched : Sys → Prop} {schedb : Sys → Bool}
    (hS : ∀ su, schedb su = true → Sched su) {s : Sys} {r : RoundP} (h : roundSched0b ch schedb s r = true) :
    RoundSched0 ch Sched s r := by
  simp only [roundSched0b, Bool.and_eq_true, decide_eq_true_eq] at h
  obtain ⟨⟨h1, h2⟩, h3⟩ := h
  refine ⟨?_, h2, ?_⟩
  · intro sA hf
    rw [hf] at h1
    simpa using h1
  · intro su hsu
    rw [hsu] at h3
    simp only [Bool.and_eq_true, decide_eq_true_eq] at h3
    obtain ⟨⟨⟨a1, a2⟩, a3⟩, a4⟩ := h3
    refine ⟨hS su a1, a2, a3, ?_⟩
    intro u hu
    rw [hu] at a4
    simpa using a4

end RenetVerif.FlushCount
