/-
  C01/C02's exactly-once kernel and C06 stated DIRECTLY about the generated
  `ReceiveChannelReliable::process_message` of `Generated/Src/RecvRel.lean` (derived from
  `renet/src/channel/reliable.rs`).  The model (`RecvRel`) appears only in the proofs:
  `SrcTieRecvRel` (generated = model) ∘ `Props/C09.copy_of_finished_message_ignored` (the duplicate filter that
  C01/C02's at-most-once delivery rests on) / `DataPath.processMessage_no_panic`.

  `WfRR c` is intrinsic: stored bytes are bytes, every slice constructor carries its map key as `message_id`, and the
  `BTreeSet` of received ids is ascending.  `most_recent_message_id` (inside `ReliableOrder::Unordered`) is written by the
  Rust code but never read; "unchanged" below means: unchanged except possibly for that field (`SameButMR`).
-/
import RenetVerif.Props.SrcTieRecvRel
import RenetVerif.Props.SrcPropsRecvUnrel
import RenetVerif.Props.SrcPropsPacket
import RenetVerif.Props.C09
import RenetVerif.Lemmas.DataPath
import RenetVerif.Lemmas.SrcCorollaries
namespace RenetVerif.SrcCor
open RenetVerif RenetVerif.SrcEquiv RenetVerif.SrcTie RenetVerif.RustSem
open Src.renet.channel.reliable

def isOrdered : ReliableOrder → Bool
  | .Ordered => true
  | .Unordered .. => false
def receivedOf : ReliableOrder → List Nat
  | .Ordered => []
  | .Unordered _ s => s
def mrOf : ReliableOrder → Nat
  | .Ordered => 0
  | .Unordered mr _ => mr

def absRR (c : ReceiveChannelReliable) : RecvRel :=
  ⟨c.slices.map (fun p => (p.1, absSC p.2)), c.messages.map (fun p => (p.1, ofNats p.2)), c.oldest_pending_message_id,
   isOrdered c.reliable_order, receivedOf c.reliable_order, c.memory_usage_bytes, c.max_memory_usage_bytes⟩

def WfRR (c : ReceiveChannelReliable) : Prop :=
  (∀ p ∈ c.messages, BytesOk p.2) ∧ (∀ p ∈ c.slices, p.2.message_id = p.1 ∧ BytesOk p.2.sliced_data) ∧
  (receivedOf c.reliable_order).Pairwise (· < ·)

/-- the message id was already delivered, or is already waiting (ordered) / was already received (unordered) -/
def DupG (c : ReceiveChannelReliable) (id : Nat) : Prop :=
  id < c.oldest_pending_message_id ∨
  (isOrdered c.reliable_order = true ∧ RustSem.Map.contains_key c.messages id = true) ∨
  (isOrdered c.reliable_order = false ∧ id ∈ receivedOf c.reliable_order)

/-- equal except possibly for the never-read `most_recent_message_id` -/
def SameButMR (c c' : ReceiveChannelReliable) : Prop :=
  c'.slices = c.slices ∧ c'.messages = c.messages ∧ c'.oldest_pending_message_id = c.oldest_pending_message_id ∧
  c'.memory_usage_bytes = c.memory_usage_bytes ∧ c'.max_memory_usage_bytes = c.max_memory_usage_bytes ∧
  isOrdered c'.reliable_order = isOrdered c.reliable_order ∧ receivedOf c'.reliable_order = receivedOf c.reliable_order

theorem setOf_sorted : ∀ (s : List Nat), s.Pairwise (· < ·) → setOf s = s
  | [], _ => rfl
  | [x], _ => rfl
  | x :: y :: r, h => by
    have hr := setOf_sorted (y :: r) (List.Pairwise.of_cons h)
    show RustSem.Set.insert (setOf (y :: r)) x = _
    rw [hr]
    have hxy : x < y := (List.pairwise_cons.1 h).1 y (by simp)
    simp [RustSem.Set.insert, hxy]

theorem mapVals_abs (l : RustSem.Map (List Nat)) (h : ∀ p ∈ l, BytesOk p.2) :
    mapVals toNats (l.map fun p => (p.1, ofNats p.2)) = l := map_pair_toNats_ofNats l h

theorem reprRR_absRR (c : ReceiveChannelReliable) (h : WfRR c) : reprRR (mrOf c.reliable_order) (absRR c) = c := by
  cases c with
  | mk sl msgs old ord mem mx =>
    simp only [reprRR, absRR]
    rw [reprSlices_abs sl h.2.1, mapVals_abs msgs h.1]
    congr 1
    cases ord with
    | Ordered => rfl
    | Unordered mr s =>
      simp only [reprOrder, isOrdered, receivedOf, mrOf, Bool.false_eq_true, if_false]
      rw [setOf_sorted s h.2.2]

theorem wfRR_repr (mr : Nat) (r : RecvRel) : WfRR (reprRR mr r) := by
  refine ⟨?_, ?_, ?_⟩
  · intro p hp
    simp only [reprRR, mapVals, List.mem_map] at hp
    obtain ⟨q, _, rfl⟩ := hp
    exact bytesOk_toNats _
  · intro p hp
    simp only [reprRR, reprSlices, List.mem_map] at hp
    obtain ⟨q, _, rfl⟩ := hp
    exact ⟨rfl, bytesOk_toNats _⟩
  · simp only [reprRR, reprOrder]
    split
    · exact List.Pairwise.nil
    · exact sorted_setOf r.received

theorem dup_ignored_repr (mr : Nat) (r : RecvRel) (m : Bytes) (id : Nat) (hfit : r.mem + m.length < 2 ^ 64)
    (hd : id < r.oldest ∨ (r.ordered = true ∧ SMap.contains r.messages id = true) ∨
      (r.ordered = false ∧ id ∈ r.received)) :
    ReceiveChannelReliable.process_message (reprRR mr r) (toNats m) id = .ok (reprRR (mrNext r mr id) r, ()) := by
  rw [recv_rel_process_message mr r m id hfit, C09.copy_of_finished_message_ignored r m id hd]
  rfl

theorem sameButMR_repr (mr mr' : Nat) (r : RecvRel) : SameButMR (reprRR mr r) (reprRR mr' r) := by
  refine ⟨rfl, rfl, rfl, rfl, rfl, ?_, ?_⟩ <;> simp only [reprRR, reprOrder] <;> split <;> rfl

theorem dup_after_ok {r r' : RecvRel} {m : Bytes} {id : Nat} (h : r.processMessage m id = .ok r') :
    id < r'.oldest ∨ (r'.ordered = true ∧ SMap.contains r'.messages id = true) ∨
      (r'.ordered = false ∧ id ∈ r'.received) := by
  unfold RecvRel.processMessage at h
  split at h
  · rename_i hlt; cases h; exact .inl hlt
  · split at h
    · rename_i hord
      split at h
      · rename_i hc; cases h; exact .inr (.inl ⟨hord, hc⟩)
      · split at h
        · cases h
        · cases h
          exact .inr (.inl ⟨hord, SMap.contains_insert.2 (.inl rfl)⟩)
    · rename_i hord
      split at h
      · rename_i hc; cases h
        exact .inr (.inr ⟨by simpa using hord, by simpa using hc⟩)
      · split at h
        · cases h
        · cases h
          exact .inr (.inr ⟨by simpa using hord, by simp⟩)

theorem dupG_repr (mr : Nat) (r : RecvRel) (id : Nat) :
    DupG (reprRR mr r) id ↔ (id < r.oldest ∨ (r.ordered = true ∧ SMap.contains r.messages id = true) ∨
      (r.ordered = false ∧ id ∈ r.received)) := by
  cases ho : r.ordered <;> simp [DupG, reprRR, reprOrder, isOrdered, receivedOf, contains_mapVals, mem_setOf, ho]

theorem process_message_abs (c : ReceiveChannelReliable) (h : WfRR c) (m : List Nat) (hm : BytesOk m) (id : Nat)
    (hfit : c.memory_usage_bytes + m.length < 2 ^ 64) :
    ReceiveChannelReliable.process_message c m id =
      mapRes (fun r' => (reprRR (mrNext (absRR c) (mrOf c.reliable_order) id) r', ()))
        (fun e => (reprCE e.1, reprRR (mrNext (absRR c) (mrOf c.reliable_order) id) e.2))
        ((absRR c).processMessage (ofNats m) id) := by
  have htie := recv_rel_process_message (mrOf c.reliable_order) (absRR c) (ofNats m) id
    (by simpa [absRR, ofNats] using hfit)
  rwa [reprRR_absRR c h, toNats_ofNats hm] at htie

/-- a slice of this message id is ignored: the message is complete and waiting, already delivered (below the cursor),
    or (unordered) already received -/
def DupSliceG (c : ReceiveChannelReliable) (id : Nat) : Prop :=
  RustSem.Map.contains_key c.messages id = true ∨ id < c.oldest_pending_message_id ∨
  (isOrdered c.reliable_order = false ∧ id ∈ receivedOf c.reliable_order)

/-- the slice table is a `BTreeMap`/`HashMap` with ascending keys whose constructors have sane sizes -/
def SlicesOkG (c : ReceiveChannelReliable) : Prop :=
  (c.slices.map Prod.fst).Pairwise (· < ·) ∧
  ∀ p ∈ c.slices, p.2.num_slices * C.SLICE_SIZE < 2 ^ 64 ∧ p.2.num_received_slices + 1 < 2 ^ 64 ∧
    p.2.sliced_data.length ≤ p.2.num_slices * C.SLICE_SIZE

end RenetVerif.SrcCor

namespace RenetVerif.SrcProps
open RenetVerif RenetVerif.SrcEquiv RenetVerif.SrcTie RenetVerif.SrcCor RenetVerif.RustSem
open Src.renet.channel.reliable

/-- **C01/C02 kernel, duplicates are ignored.**  On a well-formed channel, the generated `process_message` for an id that
    was already delivered (below `oldest_pending_message_id`), is already waiting (ordered channel) or was already
    received (unordered channel) returns `Ok` and leaves the channel unchanged — no second copy is stored, no memory is
    charged (only the never-read `most_recent_message_id` may move). -/
theorem recv_rel_duplicate_ignored (c : ReceiveChannelReliable) (h : WfRR c) (m : List Nat) (hm : BytesOk m) (id : Nat)
    (hfit : c.memory_usage_bytes + m.length < 2 ^ 64) (hd : DupG c id) :
    ∃ c', ReceiveChannelReliable.process_message c m id = .ok (c', ()) ∧ SameButMR c c' := by
  have hc := reprRR_absRR c h
  have hd' := (dupG_repr _ _ id).1 (by rw [hc]; exact hd)
  have := dup_ignored_repr (mrOf c.reliable_order) (absRR c) (ofNats m) id (by simpa [absRR, ofNats] using hfit) hd'
  rw [hc, toNats_ofNats hm] at this
  refine ⟨_, this, ?_⟩
  have hs := sameButMR_repr (mrOf c.reliable_order) (mrNext (absRR c) (mrOf c.reliable_order) id) (absRR c)
  rwa [hc] at hs

/-- **C01/C02 kernel, exactly once.**  After ANY successful generated `process_message(m, id)` on a well-formed
    channel — whether it stored the message or ignored it — every further `process_message(m2, id)` with the same id is
    ignored: `Ok`, channel unchanged.  So a message id enters the channel at most once, however often its packet is
    retransmitted. -/
theorem recv_rel_second_copy_ignored (c : ReceiveChannelReliable) (h : WfRR c) (m : List Nat) (hm : BytesOk m)
    (id : Nat) (hfit : c.memory_usage_bytes + m.length < 2 ^ 64) (c1 : ReceiveChannelReliable)
    (h1 : ReceiveChannelReliable.process_message c m id = .ok (c1, ()))
    (m2 : List Nat) (hm2 : BytesOk m2) (hfit2 : c1.memory_usage_bytes + m2.length < 2 ^ 64) :
    WfRR c1 ∧ DupG c1 id ∧
      ∃ c2, ReceiveChannelReliable.process_message c1 m2 id = .ok (c2, ()) ∧ SameButMR c1 c2 := by
  have htie := process_message_abs c h m hm id hfit
  rw [h1] at htie
  cases hp : (absRR c).processMessage (ofNats m) id with
  | err e => rw [hp] at htie; cases htie
  | panic s => rw [hp] at htie; cases htie
  | ok r' =>
    rw [hp] at htie
    obtain ⟨rfl, _⟩ := Prod.mk.inj (Res.ok.inj htie)
    have hwf1 := wfRR_repr (mrNext (absRR c) (mrOf c.reliable_order) id) r'
    have hdg := (dupG_repr (mrNext (absRR c) (mrOf c.reliable_order) id) r' id).2 (dup_after_ok hp)
    exact ⟨hwf1, hdg, recv_rel_duplicate_ignored _ hwf1 m2 hm2 id hfit2 hdg⟩

/-- **C01/C02 kernel (repaired defect D1), slices of a finished message are ignored.**  On a well-formed channel, the
    generated `process_slice` for a slice whose message is complete and waiting, already delivered, or (unordered)
    already received returns `Ok` and leaves the channel unchanged: no constructor is created, no memory reserved. -/
theorem recv_rel_duplicate_slice_ignored (c : ReceiveChannelReliable) (h : WfRR c) (hs : SlicesOkG c)
    (sl : Src.renet.packet.Slice) (hb : BytesOk sl.payload)
    (hfit : c.memory_usage_bytes + sl.num_slices * C.SLICE_SIZE < 2 ^ 64) (hd : DupSliceG c sl.message_id) :
    ∃ c', ReceiveChannelReliable.process_slice c sl = .ok (c', ()) ∧ SameButMR c c' := by
  have hc := reprRR_absRR c h
  have hd' : SMap.contains (absRR c).messages (absSlice sl).messageId = true ∨ (absSlice sl).messageId < (absRR c).oldest ∨
      ((absRR c).ordered = false ∧ (absSlice sl).messageId ∈ (absRR c).received) := by
    rcases hd with h1 | h1 | ⟨h1, h2⟩
    · left
      rw [← hc, reprRR] at h1
      show SMap.contains (absRR c).messages sl.message_id = true
      simpa [contains_mapVals] using h1
    · exact .inr (.inl h1)
    · exact .inr (.inr ⟨h1, h2⟩)
  have hsorted : MSorted (absRR c).slices := by
    simpa [MSorted, absRR, Function.comp_def] using hs.1
  have hctor : ∀ ct, SMap.find? (absRR c).slices (absSlice sl).messageId = some ct → CtorOk ct := by
    intro ct hf
    have hm := SMap.mem_of_find? hf
    simp only [absRR, List.mem_map] at hm
    obtain ⟨q, hq, he⟩ := hm
    have hq' := hs.2 q hq
    have : ct = absSC q.2 := (Prod.mk.inj he).2.symm
    subst this
    exact ⟨hq'.1, hq'.2.1, by simpa [absSC, ofNats] using hq'.2.2⟩
  obtain ⟨mr', htie⟩ := recv_rel_process_slice (mrOf c.reliable_order) (absRR c) (absSlice sl) hsorted
    (by simpa [absRR, absSlice] using hfit) hctor
  rw [hc, reprSlice_absSlice sl hb, C09.slice_of_finished_message_ignored (absRR c) (absSlice sl) hd'] at htie
  refine ⟨_, htie.eq_ok, ?_⟩
  have hsm := sameButMR_repr (mrOf c.reliable_order) mr' (absRR c)
  rwa [hc] at hsm

/-- **C06, `process_message` never panics** on a well-formed channel: it returns `Ok` or
    `Err(ReliableChannelMaxMemoryReached)`. -/
theorem recv_rel_process_message_never_panics (c : ReceiveChannelReliable) (h : WfRR c) (m : List Nat) (hm : BytesOk m)
    (id : Nat) (hfit : c.memory_usage_bytes + m.length < 2 ^ 64) :
    NoPanic (ReceiveChannelReliable.process_message c m id) := by
  rw [process_message_abs c h m hm id hfit, noPanic_mapRes]
  exact fun s => DataPath.processMessage_no_panic _ _ _ s

/-! ### examples (evaluated on the generated text) -/

/-- ordered: store id 3, then a different payload under the same id is ignored -/
example : (ReceiveChannelReliable.process_message ⟨[], [], 0, .Ordered, 0, 10⟩ [1, 2] 3 >>= fun r =>
    ReceiveChannelReliable.process_message r.1 [9, 9, 9] 3) = .ok (⟨[], [(3, [1, 2])], 0, .Ordered, 2, 10⟩, ()) := by
  decide +kernel
/-- unordered: id 5 was received (and already handed out): a retransmission is ignored, memory stays 0 -/
example : ReceiveChannelReliable.process_message ⟨[], [], 0, .Unordered 7 [1, 5, 7], 0, 10⟩ [4] 5 =
    .ok (⟨[], [], 0, .Unordered 7 [1, 5, 7], 0, 10⟩, ()) := by decide +kernel
/-- below the cursor -/
example : ReceiveChannelReliable.process_message ⟨[], [], 4, .Ordered, 0, 10⟩ [4] 3 =
    .ok (⟨[], [], 4, .Ordered, 0, 10⟩, ()) := by decide +kernel
/-- a slice of message 7, which is complete and waiting: ignored, nothing reserved -/
example : ReceiveChannelReliable.process_slice ⟨[], [(7, [1, 2, 3])], 0, .Ordered, 3, 5000⟩ ⟨7, 0, 2, List.replicate 1200 9⟩ =
    .ok (⟨[], [(7, [1, 2, 3])], 0, .Ordered, 3, 5000⟩, ()) := by decide +kernel
example : ∃ c', ReceiveChannelReliable.process_message ⟨[], [], 0, .Unordered 7 [1, 5, 7], 0, 10⟩ [4] 5 = .ok (c', ()) ∧
    SameButMR ⟨[], [], 0, .Unordered 7 [1, 5, 7], 0, 10⟩ c' :=
  recv_rel_duplicate_ignored _ ⟨(by intro p hp; cases hp), (by intro p hp; cases hp), (by decide)⟩ [4] (by decide) 5
    (by decide) (.inr (.inr ⟨rfl, by decide⟩))

end RenetVerif.SrcProps
