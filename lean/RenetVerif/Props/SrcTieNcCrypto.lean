/-
  Source tie, group NcCrypto: `renetcode/src/crypto.rs` (`encrypt_in_place`, `dencrypted_in_place`,
  `encrypt_in_place_xnonce`, `dencrypted_in_place_xnonce`), translated from the Rust text into
  `Generated/Src/NcCrypto.lean` ↔ the hand-written `RustSem.encrypt_in_place` … of `Base/RustSem.lean` that the generated
  NcCodec / NcToken code (and through it every netcode theorem) calls.  With these theorems the hand-written versions are
  consequences of the source text: the nonce construction (`nonce[4..12] = sequence.to_le_bytes()`), the split at
  `len - NETCODE_MAC_BYTES` and the place of the tag are checked against `crypto.rs` on every run.

  What remains trusted is the RustCrypto interface itself (`Base/RustSemCrypto.lean`): `from_slice` checks a length,
  detached encryption / decryption are `seal` / `open` of the abstract `RustSem.Aead` with the tag split off / appended.

  Hypotheses, and where they come from:
    * `key.length = 32`, `xnonce.length = 24`: the Rust parameter types `&[u8; 32]`, `&[u8; 24]` (lists carry no
      length; `Key::from_slice` / `XNonce::from_slice` check it at run time, see `src_encrypt_in_place_bad_key`);
      `buffer`, `aad` (`&mut [u8]`, `&[u8]`), `sequence` are arbitrary (no bound on `sequence` is needed here);
    * encryption only: the ONE value `seal key nonce aad plaintext` that the call computes has the length of the buffer
      (= plaintext + 16-byte tag).  This is an instance of the length law of every real AEAD; the hand-written version
      returns `seal …` as the new buffer whatever its length, the Rust code writes a `Tag` (16 bytes) behind a ciphertext
      of the plaintext's length, so without it the two cannot agree.  Decryption needs no such hypothesis.
  The equalities are exact: same result buffer, same error (with the same buffer state), the same panic at the same site.
-/
import RenetVerif.Lemmas.SrcEquiv.NcCrypto
namespace RenetVerif.SrcTie.NcCrypto
open RenetVerif RenetVerif.RustSem RenetVerif.SrcEquiv.NcCrypto

/-! ## a toy AEAD for the non-vacuity examples (satisfies the length law; `open` inverts `seal`) -/
namespace Toy
def pad (k n : List Nat) : Nat := (k.sum + n.sum) % 256
def tagOf (k n a c : List Nat) : List Nat := List.replicate 15 ((k.sum + n.sum + a.sum) % 256) ++ [c.sum % 256]
def sealWith (salt : Nat) (k n a p : List Nat) : List Nat :=
  let c := p.map (fun x => (x + pad k n + salt) % 256)
  c ++ tagOf k n a c
def openWith (salt : Nat) (k n a ct : List Nat) : Option (List Nat) :=
  if ct.length < 16 then none
  else
    let c := ct.take (ct.length - 16)
    if ct.drop (ct.length - 16) = tagOf k n a c then some (c.map (fun x => (x + 512 - pad k n - salt) % 256)) else none
@[reducible] def aead : RustSem.Aead where
  «seal» := sealWith 0
  «open» := openWith 0
  xseal := sealWith 1
  xopen := openWith 1
def key : List Nat := List.replicate 32 7
def xnonce : List Nat := List.replicate 24 9
/-- 5 bytes of plaintext and room for the tag -/
def buf : List Nat := [1, 2, 3, 4, 5] ++ List.replicate 16 0
end Toy

section tie
variable [a : RustSem.Aead]

/-- generated `encrypt_in_place` = hand-written `RustSem.encrypt_in_place`, for every buffer, sequence, aad and every
    32-byte key, provided the sealed text has the length of the buffer (see the header) -/
theorem src_encrypt_in_place (buffer : List Nat) (sequence : Nat) (key aad : List Nat) (hk : key.length = 32)
    (hs : 16 ≤ buffer.length →
      (a.seal key (RustSem.crypto_nonce sequence) aad (buffer.take (buffer.length - 16))).length = buffer.length) :
    Src.renetcode.crypto.encrypt_in_place buffer sequence key aad = RustSem.encrypt_in_place buffer sequence key aad := by
  by_cases h : buffer.length < 16
  · exact encrypt_in_place_short buffer sequence key aad h
  · exact encrypt_in_place_long buffer sequence key aad h hk (hs (by omega))

/-- generated `dencrypted_in_place` = hand-written `RustSem.dencrypted_in_place` (every buffer, sequence, aad, every
    32-byte key; nothing is assumed about the AEAD) -/
theorem src_dencrypted_in_place (buffer : List Nat) (sequence : Nat) (key aad : List Nat) (hk : key.length = 32) :
    Src.renetcode.crypto.dencrypted_in_place buffer sequence key aad = RustSem.dencrypted_in_place buffer sequence key aad := by
  by_cases h : buffer.length < 16
  · exact dencrypted_in_place_short buffer sequence key aad h
  · exact dencrypted_in_place_long buffer sequence key aad h hk

theorem src_encrypt_in_place_xnonce (buffer xnonce key aad : List Nat) (hx : xnonce.length = 24) (hk : key.length = 32)
    (hs : 16 ≤ buffer.length → (a.xseal key xnonce aad (buffer.take (buffer.length - 16))).length = buffer.length) :
    Src.renetcode.crypto.encrypt_in_place_xnonce buffer xnonce key aad = RustSem.encrypt_in_place_xnonce buffer xnonce key aad := by
  by_cases h : buffer.length < 16
  · exact encrypt_in_place_xnonce_short buffer xnonce key aad h
  · exact encrypt_in_place_xnonce_long buffer xnonce key aad h hx hk (hs (by omega))

theorem src_dencrypted_in_place_xnonce (buffer xnonce key aad : List Nat) (hx : xnonce.length = 24) (hk : key.length = 32) :
    Src.renetcode.crypto.dencrypted_in_place_xnonce buffer xnonce key aad =
      RustSem.dencrypted_in_place_xnonce buffer xnonce key aad := by
  by_cases h : buffer.length < 16
  · exact dencrypted_in_place_xnonce_short buffer xnonce key aad hx h
  · exact dencrypted_in_place_xnonce_long buffer xnonce key aad h hx hk

/-- the hypothesis `key.length = 32` is what the Rust type gives and is really used: with any other length the generated
    code panics in `Key::from_slice` (the hand-written version never looks at the length of the key) -/
theorem src_encrypt_in_place_bad_key (buffer : List Nat) (sequence : Nat) (key aad : List Nat) (h16 : 16 ≤ buffer.length)
    (hk : key.length ≠ 32) :
    Src.renetcode.crypto.encrypt_in_place buffer sequence key aad =
      .panic "chacha20poly1305: Key::from_slice: slice length is not 32" := by
  simp only [Src.renetcode.crypto.encrypt_in_place, nonce_build, Exec.bind_val,
    RustSem.Nonce.from, from_slice_ok (crypto_nonce_length sequence), Exec.call, RustSem.len, mac_bytes,
    SrcEquiv.sub_val h16, RustSem.Key.from_slice, from_slice_panic hk,
    SrcEquiv.slice_val (head_ok buffer), bindp, Exec.run]

end tie

/-! ### non-vacuity: runs of the GENERATED code on the toy AEAD (hypotheses of the theorems hold for these inputs) -/
section nonvacuity
attribute [local instance] Toy.aead

example : Toy.key.length = 32 ∧
    (Toy.aead.seal Toy.key (RustSem.crypto_nonce 0x0102030405060708) [42] (Toy.buf.take (Toy.buf.length - 16))).length = Toy.buf.length ∧
    Src.renetcode.crypto.encrypt_in_place Toy.buf 0x0102030405060708 Toy.key [42] =
      .ok ([5, 6, 7, 8, 9, 46, 46, 46, 46, 46, 46, 46, 46, 46, 46, 46, 46, 46, 46, 46, 35], ()) := by decide +kernel
example : Src.renetcode.crypto.encrypt_in_place Toy.buf 0x0102030405060708 Toy.key [42] =
    RustSem.encrypt_in_place Toy.buf 0x0102030405060708 Toy.key [42] := by decide +kernel
example : Src.renetcode.crypto.encrypt_in_place [1, 2, 3] 5 Toy.key [] =
    .panic "renetcode/src/crypto.rs:encrypt_in_place: buffer.len() - NETCODE_MAC_BYTES" ∧
    RustSem.encrypt_in_place [1, 2, 3] 5 Toy.key [] =
    .panic "renetcode/src/crypto.rs:encrypt_in_place: buffer.len() - NETCODE_MAC_BYTES" := by decide +kernel
/-- `src_dencrypted_in_place`: the generated decryption opens what the generated encryption sealed (the tag bytes stay) … -/
example : Src.renetcode.crypto.dencrypted_in_place
      [5, 6, 7, 8, 9, 46, 46, 46, 46, 46, 46, 46, 46, 46, 46, 46, 46, 46, 46, 46, 35] 0x0102030405060708 Toy.key [42] =
    .ok ([1, 2, 3, 4, 5, 46, 46, 46, 46, 46, 46, 46, 46, 46, 46, 46, 46, 46, 46, 46, 35], ()) := by decide +kernel
/-- … rejects another sequence number / a forged tag with `Err`, the buffer unchanged -/
example : Src.renetcode.crypto.dencrypted_in_place
      [5, 6, 7, 8, 9, 46, 46, 46, 46, 46, 46, 46, 46, 46, 46, 46, 46, 46, 46, 46, 35] 0x0102030405060709 Toy.key [42] =
    .err (.opaque, [5, 6, 7, 8, 9, 46, 46, 46, 46, 46, 46, 46, 46, 46, 46, 46, 46, 46, 46, 46, 35]) := by decide +kernel
example : Src.renetcode.crypto.dencrypted_in_place [1, 2, 3] 5 Toy.key [] =
    .panic "renetcode/src/crypto.rs:dencrypted_in_place: buffer.len() - NETCODE_MAC_BYTES" := by decide +kernel
example : Toy.xnonce.length = 24 ∧
    (Toy.aead.xseal Toy.key Toy.xnonce [42] (Toy.buf.take (Toy.buf.length - 16))).length = Toy.buf.length ∧
    Src.renetcode.crypto.encrypt_in_place_xnonce Toy.buf Toy.xnonce Toy.key [42] =
      .ok ([186, 187, 188, 189, 190, 226, 226, 226, 226, 226, 226, 226, 226, 226, 226, 226, 226, 226, 226, 226, 172], ()) ∧
    Src.renetcode.crypto.dencrypted_in_place_xnonce
      [186, 187, 188, 189, 190, 226, 226, 226, 226, 226, 226, 226, 226, 226, 226, 226, 226, 226, 226, 226, 172] Toy.xnonce Toy.key [42] =
      .ok ([1, 2, 3, 4, 5, 226, 226, 226, 226, 226, 226, 226, 226, 226, 226, 226, 226, 226, 226, 226, 172], ()) := by
  decide +kernel
example : Src.renetcode.crypto.dencrypted_in_place_xnonce
      [186, 187, 188, 189, 190, 226, 226, 226, 226, 226, 226, 226, 226, 226, 226, 226, 226, 226, 226, 226, 173] Toy.xnonce Toy.key [42] =
    .err (.opaque, [186, 187, 188, 189, 190, 226, 226, 226, 226, 226, 226, 226, 226, 226, 226, 226, 226, 226, 226, 226, 173]) := by
  decide +kernel
example : Src.renetcode.crypto.encrypt_in_place Toy.buf 1 [1, 2, 3] [] =
    .panic "chacha20poly1305: Key::from_slice: slice length is not 32" := by decide +kernel

end nonvacuity

/-! ## corollaries for property C17 (nonces): what the generated `encrypt_in_place` hands to the AEAD (the RustCrypto crate) -/
section c17
variable [a : RustSem.Aead]

/-- The generated `encrypt_in_place` consults the AEAD with exactly: the key UNCHANGED, the nonce
    `[0,0,0,0] ++ LE64(sequence)`, the aad UNCHANGED, the plaintext `buffer[..len-16]`; the new buffer is what `seal`
    returned for that query. -/
theorem src_encrypt_in_place_query (buffer : List Nat) (sequence : Nat) (key aad : List Nat) (hk : key.length = 32)
    (h16 : 16 ≤ buffer.length)
    (hs : (a.seal key ([0, 0, 0, 0] ++ RustSem.to_le_bytes 64 sequence) aad (buffer.take (buffer.length - 16))).length
      = buffer.length) :
    Src.renetcode.crypto.encrypt_in_place buffer sequence key aad =
      .ok (a.seal key ([0, 0, 0, 0] ++ RustSem.to_le_bytes 64 sequence) aad (buffer.take (buffer.length - 16)), ()) := by
  rw [src_encrypt_in_place buffer sequence key aad hk (fun _ => hs)]
  simp only [RustSem.encrypt_in_place, if_neg (show ¬ buffer.length < 16 by omega), RustSem.crypto_nonce]

/-- Ciphertext and tag positions: the first `len - 16` bytes of the new buffer are the ciphertext, the LAST 16 bytes are
    the tag, where (ciphertext, tag) is what the crate operation `encrypt_in_place_detached` returns for the plaintext
    `buffer[..len-16]`; the length of the buffer does not change. -/
theorem src_encrypt_in_place_tag_last16 (buffer : List Nat) (sequence : Nat) (key aad : List Nat) (hk : key.length = 32)
    (h16 : 16 ≤ buffer.length)
    (hs : (a.seal key (RustSem.crypto_nonce sequence) aad (buffer.take (buffer.length - 16))).length = buffer.length) :
    ∃ ct tag b,
      RustSem.ChaCha20Poly1305.encrypt_in_place_detached ⟨key⟩ (RustSem.crypto_nonce sequence) aad
        (buffer.take (buffer.length - 16)) = .ok (ct, tag) ∧
      Src.renetcode.crypto.encrypt_in_place buffer sequence key aad = .ok (b, ()) ∧
      b.length = buffer.length ∧ tag.length = 16 ∧
      b.take (buffer.length - 16) = ct ∧ b.drop (buffer.length - 16) = tag := by
  refine ⟨_, _, _, rfl, ?_, hs, ?_, ?_, ?_⟩
  · rw [src_encrypt_in_place buffer sequence key aad hk (fun _ => hs)]
    simp only [RustSem.encrypt_in_place, if_neg (show ¬ buffer.length < 16 by omega)]
  · simp only [List.length_drop, List.length_take, hs]; omega
  · simp
  · simp

omit a in
/-- Two AEADs that answer that one query alike make the generated `encrypt_in_place` return the same result: the
    function depends on the AEAD through the single call `seal key nonce aad plaintext` only. -/
theorem src_encrypt_in_place_single_query (a1 a2 : RustSem.Aead) (buffer : List Nat) (sequence : Nat) (key aad : List Nat)
    (hk : key.length = 32) (h16 : 16 ≤ buffer.length)
    (hq : a1.seal key (RustSem.crypto_nonce sequence) aad (buffer.take (buffer.length - 16)) =
      a2.seal key (RustSem.crypto_nonce sequence) aad (buffer.take (buffer.length - 16)))
    (hs : (a1.seal key (RustSem.crypto_nonce sequence) aad (buffer.take (buffer.length - 16))).length = buffer.length) :
    @Src.renetcode.crypto.encrypt_in_place a1 buffer sequence key aad =
      @Src.renetcode.crypto.encrypt_in_place a2 buffer sequence key aad := by
  rw [@src_encrypt_in_place a1 buffer sequence key aad hk (fun _ => hs),
    @src_encrypt_in_place a2 buffer sequence key aad hk (fun _ => hq ▸ hs)]
  simp only [RustSem.encrypt_in_place, if_neg (show ¬ buffer.length < 16 by omega), hq]

omit a in
/-- The nonce is injective in the sequence number over the whole `u64` range … -/
theorem src_nonce_injective {s1 s2 : Nat} (h1 : s1 < 2 ^ 64) (h2 : s2 < 2 ^ 64)
    (h : [0, 0, 0, 0] ++ RustSem.to_le_bytes 64 s1 = [0, 0, 0, 0] ++ RustSem.to_le_bytes 64 s2) : s1 = s2 :=
  crypto_nonce_inj h1 h2 h

/-- … so two generated `encrypt_in_place` calls with different sequence numbers never hand the same nonce to the AEAD:
    the queries (as in `src_encrypt_in_place_query`) differ in their nonce component, whatever key / aad / buffers. -/
theorem src_encrypt_in_place_nonces_distinct {s1 s2 : Nat} (h1 : s1 < 2 ^ 64) (h2 : s2 < 2 ^ 64) (hne : s1 ≠ s2)
    (b1 b2 key aad1 aad2 : List Nat) (hk : key.length = 32) (hb1 : 16 ≤ b1.length) (hb2 : 16 ≤ b2.length)
    (hs1 : (a.seal key ([0, 0, 0, 0] ++ RustSem.to_le_bytes 64 s1) aad1 (b1.take (b1.length - 16))).length = b1.length)
    (hs2 : (a.seal key ([0, 0, 0, 0] ++ RustSem.to_le_bytes 64 s2) aad2 (b2.take (b2.length - 16))).length = b2.length) :
    ∃ n1 n2, n1 ≠ n2 ∧
      Src.renetcode.crypto.encrypt_in_place b1 s1 key aad1 = .ok (a.seal key n1 aad1 (b1.take (b1.length - 16)), ()) ∧
      Src.renetcode.crypto.encrypt_in_place b2 s2 key aad2 = .ok (a.seal key n2 aad2 (b2.take (b2.length - 16)), ()) :=
  ⟨_, _, fun h => hne (src_nonce_injective h1 h2 h),
    src_encrypt_in_place_query b1 s1 key aad1 hk hb1 hs1, src_encrypt_in_place_query b2 s2 key aad2 hk hb2 hs2⟩

end c17

section c17_nonvacuity
attribute [local instance] Toy.aead

example : [0, 0, 0, 0] ++ RustSem.to_le_bytes 64 0x0102030405060708 = [0, 0, 0, 0, 8, 7, 6, 5, 4, 3, 2, 1] := by decide +kernel
/-- hypotheses of `src_encrypt_in_place_query` / `_tag_last16` / `_single_query` / `_nonces_distinct` for the toy runs -/
example : Toy.key.length = 32 ∧ 16 ≤ Toy.buf.length ∧
    (Toy.aead.seal Toy.key ([0, 0, 0, 0] ++ RustSem.to_le_bytes 64 7) [42] (Toy.buf.take (Toy.buf.length - 16))).length = Toy.buf.length ∧
    (Toy.aead.seal Toy.key ([0, 0, 0, 0] ++ RustSem.to_le_bytes 64 8) [] (Toy.buf.take (Toy.buf.length - 16))).length = Toy.buf.length ∧
    (7 : Nat) < 2 ^ 64 ∧ (8 : Nat) < 2 ^ 64 := by decide +kernel
example : ∃ b, Src.renetcode.crypto.encrypt_in_place Toy.buf 7 Toy.key [42] = .ok (b, ()) ∧
    b.drop 5 = Toy.tagOf Toy.key (RustSem.crypto_nonce 7) [42] (b.take 5) ∧ b.length = 21 :=
  ⟨Toy.sealWith 0 Toy.key (RustSem.crypto_nonce 7) [42] [1, 2, 3, 4, 5], by decide +kernel⟩
/-- the bound `< 2^64` of `src_nonce_injective` is needed (a `u64` cannot exceed it): beyond it the nonce wraps -/
example : [0, 0, 0, 0] ++ RustSem.to_le_bytes 64 0 = [0, 0, 0, 0] ++ RustSem.to_le_bytes 64 (2 ^ 64) := by decide +kernel

end c17_nonvacuity

end RenetVerif.SrcTie.NcCrypto
