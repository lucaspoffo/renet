/-
  Source tie, group NcServerQuery (types in group NcServerTypes): `renetcode/src/server.rs`
  `find_client_by_id`, `find_client_slot_by_id`, `NetcodeServer::{addresses, current_time, user_data,
  time_since_last_received_packet, client_addr, clients_slot, clients_id_iter, clients_id, max_clients, set_max_clients,
  connected_clients, is_client_connected, update}` ↔ `NetcodeServer` of `Netcode/Server.lean`.

  `reprNS out s` is the generated server: `clients: Box<[Option<Connection>]>` is the list of slots,
  `pending_clients: HashMap<SocketAddr, Connection>` the association list `RustSem.AMap` (see the header of
  `Base/RustSem.lean`: unspecified iteration order, never exposed), `connect_token_entries` the entry list, and `out` —
  the scratch buffer `[u8; NETCODE_MAX_PACKET_BYTES]`, which the model does not keep — a parameter.
  The methods `current_time` / `max_clients` share their names with fields: their Lean names carry a `'`.
  `update`: `values_mut()` over the `HashMap` under the manifest whitelist (each round touches only its own pending
  connection; checked by the translator), then `retain` with a pure predicate.
-/
import RenetVerif.Lemmas.SrcEquiv.NcServer
namespace RenetVerif.SrcTie
open RenetVerif RenetVerif.SrcEquiv RenetVerif.RustSem RenetVerif.Netcode
open Src.renetcode.server

theorem nc_find_client_by_id {ε : Type} (clients : List (Option Netcode.Connection)) (id : Nat) :
    (find_client_by_id (clients.map (Option.map reprNConn)) id : Res ε _) = .ok ((findClientById clients id).map reprNConn) := by
  unfold find_client_by_id
  simp only [Exec.pure_eq, Exec.run_val]
  congr 1
  induction clients with
  | nil => rfl
  | cons c rest ih =>
    cases c with
    | none => simpa [findClientById] using ih
    | some c =>
      simp only [List.map_cons, Option.map_some, List.filterMap_cons, List.find?_cons, findClientById]
      by_cases h : c.clientId = id
      · simp [h, reprNConn]
      · simp only [reprNConn, h, decide_false, if_false]; exact ih
/-- `find_map` over `iter().enumerate()` with the guarded arm `Some(c) if c.client_id == client_id` -/
theorem nc_find_client_slot_by_id {ε : Type} (clients : List (Option Netcode.Connection)) (id : Nat) :
    (find_client_slot_by_id (clients.map (Option.map reprNConn)) id : Res ε _) = .ok (findClientSlotById clients id) := by
  unfold find_client_slot_by_id findClientSlotById RustSem.enumerate
  simp only [Exec.pure_eq]
  rw [find_mapM_slot id _ ?hs ?hn clients 0]
  case hs =>
    intro i c
    by_cases h : c.clientId = id <;> simp [reprNConn, h]
  case hn => intro i; rfl
  rfl

theorem nc_server_addresses {ε : Type} (out : List Nat) (s : Netcode.NetcodeServer) :
    (NetcodeServer.addresses (reprNS out s) : Res ε _) = .ok (s.addresses.map reprAddr) := rfl
theorem nc_server_current_time {ε : Type} (out : List Nat) (s : Netcode.NetcodeServer) :
    (NetcodeServer.current_time' (reprNS out s) : Res ε _) = .ok s.currentTime := rfl
theorem nc_server_max_clients {ε : Type} (out : List Nat) (s : Netcode.NetcodeServer) :
    (NetcodeServer.max_clients' (reprNS out s) : Res ε _) = .ok s.maxClients := rfl
theorem nc_server_user_data {ε : Type} (out : List Nat) (s : Netcode.NetcodeServer) (id : Nat) :
    (NetcodeServer.user_data (reprNS out s) id : Res ε _) = .ok ((s.userData id).map toNats) := by
  unfold NetcodeServer.user_data Netcode.NetcodeServer.userData
  simp only [reprNS_clients, nc_find_client_by_id, Exec.call_ok, Exec.bind_eq, Exec.pure_eq, Exec.bind_val']
  cases findClientById s.clients id <;> simp [Exec.bind_val', Exec.bind_ret', Exec.run_val, Exec.run_ret, reprNConn]
theorem nc_server_client_addr {ε : Type} (out : List Nat) (s : Netcode.NetcodeServer) (id : Nat) :
    (NetcodeServer.client_addr (reprNS out s) id : Res ε _) = .ok ((s.clientAddr id).map reprAddr) := by
  unfold NetcodeServer.client_addr Netcode.NetcodeServer.clientAddr
  simp only [reprNS_clients, nc_find_client_by_id, Exec.call_ok, Exec.bind_eq, Exec.pure_eq, Exec.bind_val']
  cases findClientById s.clients id <;> simp [Exec.bind_val', Exec.bind_ret', Exec.run_val, Exec.run_ret, reprNConn]
/-- `Duration - Duration` panics when the client's receive time lies in the future of the server clock -/
theorem nc_server_time_since_last_received_packet {ε : Type} (out : List Nat) (s : Netcode.NetcodeServer) (id : Nat) :
    SameOutcome (NetcodeServer.time_since_last_received_packet (reprNS out s) id : Res ε _)
      (mapRes (fun o => o) (fun e => nomatch e) (s.timeSinceLastReceivedPacket id)) := by
  unfold NetcodeServer.time_since_last_received_packet Netcode.NetcodeServer.timeSinceLastReceivedPacket
  have ht : (reprNS out s).current_time = s.currentTime := rfl
  simp only [reprNS_clients, ht, nc_find_client_by_id, Exec.call_ok, Exec.bind_eq, Exec.pure_eq, Exec.bind_val']
  cases findClientById s.clients id with
  | none => simp [Exec.bind_val', Exec.run_val, mapRes, SameOutcome]
  | some c =>
    simp only [Option.map_some, reprNConn, RustSem.Duration.sub, Res.csub]
    by_cases h : c.lastPacketReceivedTime ≤ s.currentTime
    · simp [h, Exec.bind_val', Exec.bind_ret', Exec.run_ret, mapRes, SameOutcome]
    · simp [h, Exec.bind_panic', Exec.run_panic, mapRes, SameOutcome]
theorem nc_server_is_client_connected {ε : Type} (out : List Nat) (s : Netcode.NetcodeServer) (id : Nat) :
    (NetcodeServer.is_client_connected (reprNS out s) id : Res ε _) = .ok (s.isClientConnected id) := by
  unfold NetcodeServer.is_client_connected Netcode.NetcodeServer.isClientConnected
  simp only [reprNS_clients, nc_find_client_slot_by_id, Exec.call_ok, Exec.bind_eq, Exec.pure_eq, Exec.bind_val', Exec.run_val]
theorem nc_server_connected_clients {ε : Type} (out : List Nat) (s : Netcode.NetcodeServer) :
    (NetcodeServer.connected_clients (reprNS out s) : Res ε _) = .ok s.connectedClients := by
  unfold NetcodeServer.connected_clients Netcode.NetcodeServer.connectedClients countConnected
  simp only [reprNS_clients, Exec.pure_eq, Exec.run_val, RustSem.len]
  congr 1
  induction s.clients with
  | nil => rfl
  | cons c r ih => cases c <;> simp [ih]
theorem nc_server_clients_id_iter {ε : Type} (out : List Nat) (s : Netcode.NetcodeServer) :
    (NetcodeServer.clients_id_iter (reprNS out s) : Res ε _) = .ok s.clientsId := by
  unfold NetcodeServer.clients_id_iter Netcode.NetcodeServer.clientsId
  simp only [reprNS_clients, Exec.pure_eq, Exec.run_val]
  congr 1
  induction s.clients with
  | nil => rfl
  | cons c r ih => cases c <;> simp [ih, reprNConn]
/-- slot order (a `Box<[..]>`, not a HashMap: the order is specified) -/
theorem nc_server_clients_id {ε : Type} (out : List Nat) (s : Netcode.NetcodeServer) :
    (NetcodeServer.clients_id (reprNS out s) : Res ε _) = .ok s.clientsId := by
  unfold NetcodeServer.clients_id
  simp [nc_server_clients_id_iter, Exec.call_ok, Exec.run_val]
theorem nc_server_clients_slot {ε : Type} (out : List Nat) (s : Netcode.NetcodeServer) :
    (NetcodeServer.clients_slot (reprNS out s) : Res ε _) = .ok s.clientsSlot := by
  unfold NetcodeServer.clients_slot Netcode.NetcodeServer.clientsSlot RustSem.enumerate
  simp only [reprNS_clients, Exec.pure_eq]
  rw [filter_mapM_slots _ ?hb]
  case hb => intro i o; cases o <;> rfl
  exact congrArg Res.ok (List.map_id _)
/-- `set_max_clients`: capped at `NETCODE_MAX_CLIENTS`; the slot table grows (`mem::take` / `resize`), never shrinks -/
theorem nc_server_set_max_clients {ε : Type} (out : List Nat) (s : Netcode.NetcodeServer) (n : Nat) :
    (NetcodeServer.set_max_clients (reprNS out s) n : Res ε _) = .ok (reprNS out (s.setMaxClients n), ()) := by
  unfold NetcodeServer.set_max_clients Netcode.NetcodeServer.setMaxClients
  have hm : Src.renetcode.NETCODE_MAX_CLIENTS = C.NETCODE_MAX_CLIENTS := rfl
  simp only [reprNS_clients, hm, Exec.bind_eq, Exec.pure_eq, RustSem.len, List.length_map]
  by_cases h : min n C.NETCODE_MAX_CLIENTS > s.clients.length
  · simp only [h, decide_true, if_true, Exec.bind_val', Exec.run_val, RustSem.resize]
    simp [reprNS, List.take_of_length_le, Nat.le_of_lt h]
  · simp only [h, decide_false, Bool.false_eq_true, if_false, Exec.bind_val', Exec.run_val]
    rfl
/-- `update`: the clock (panic on `Duration` overflow) and the expiry of pending connections.  Hypothesis: no pending
    connection is in state `Disconnected` (the Rust code marks the expired ones `Disconnected` and then drops every
    `Disconnected` one; the model drops the expired ones) — an invariant: pending connections are created
    `PendingResponse`. -/
theorem nc_server_update {ε : Type} (out : List Nat) (s : Netcode.NetcodeServer) (dt : Nat)
    (hst : ∀ p ∈ s.pendingClients, p.2.state ≠ .disconnected) :
    SameOutcome (Src.renetcode.server.NetcodeServer.update (reprNS out s) dt : Res ε _)
      (mapRes (fun s' => (reprNS out s', ())) (fun e => nomatch e) (s.update dt)) := by
  unfold Src.renetcode.server.NetcodeServer.update Netcode.NetcodeServer.update
  have ht : (reprNS out s).current_time = s.currentTime := rfl
  simp only [ht, Exec.bind_eq, Exec.pure_eq, RustSem.Duration.add, durAdd]
  have hmax : RustSem.Duration.MAX = DURATION_MAX := by decide
  rw [hmax]
  by_cases hov : s.currentTime + dt ≤ DURATION_MAX
  · simp only [hov, if_true, Exec.bind_val', Res.bind_ok]
    generalize hfr : RustSem.forRange 0 _ _ _ = fr
    have hl := pend_loop (ε := ε) (ρ := SNetcodeServer × Unit) out s (s.currentTime + dt)
      (fun c => if RustSem.Duration.as_secs (s.currentTime + dt) > c.expire_timestamp
        then { c with state := Src.renetcode.server.ConnectionState.Disconnected } else c) _
      (s.pendingClients.map fun (p : Addr × Netcode.Connection) => (reprAddr p.1, reprNConn p.2)) fr hfr ?hb
    case hb =>
      intro pre k c rest
      simp only [nsU_pending, nsU_time, index_append_cons, Exec.bind_val']
      by_cases hexp : RustSem.Duration.as_secs (s.currentTime + dt) > c.expire_timestamp
      · simp only [hexp, decide_true, if_true, set_append_cons, Exec.bind_val']
        rfl
      · simp only [hexp, decide_false, Bool.false_eq_true, if_false]
    clear hfr
    rw [hl]
    simp only [Exec.bind_val', Exec.run_val, mapRes, Res.pure_eq, SameOutcome]
    simp only [nsU]
    rw [filter_marked (s.currentTime + dt) s.pendingClients hst]
    rfl
  · simp [hov, Exec.bind_panic', Exec.run_panic, mapRes, SameOutcome]

/-- a pending connection (expires at second 5) and the 3-slot server holding it at t = 4 s, one connected client in slot 1 -/
def exPend : SConnection :=
  ⟨false, 9, .PendingResponse, [1], [2], [3], .v4 [10, 0, 0, 1] 7, 0, 0, 5, 0, 5, ⟨0, []⟩⟩
def exNS : SNetcodeServer :=
  ⟨[none, some { exPend with client_id := 4, state := .Connected }, none], [(.v4 [10, 0, 0, 1] 7, exPend)], [], 1, [], 3, 0, [],
   [], 4000000000, 0, false, []⟩

example : (find_client_slot_by_id exNS.clients 4 : Res Empty _) = .ok (some 1) := by decide +kernel
example : (NetcodeServer.clients_slot exNS : Res Empty _) = .ok [1] := by decide +kernel
example : (NetcodeServer.clients_id exNS : Res Empty _) = .ok [4] := by decide +kernel
/-- 1 s later the clock shows 5 s (not yet `> 5`): the pending connection stays; 2 s later it is dropped -/
example : (Src.renetcode.server.NetcodeServer.update exNS 1000000000 : Res Empty _) =
    .ok ({ exNS with current_time := 5000000000 }, ()) := by decide +kernel
example : (Src.renetcode.server.NetcodeServer.update exNS 2000000000 : Res Empty _) =
    .ok ({ exNS with current_time := 6000000000, pending_clients := [] }, ()) := by decide +kernel
example : (NetcodeServer.set_max_clients exNS 5 : Res Empty _) =
    .ok ({ exNS with clients := exNS.clients ++ [none, none], max_clients := 5 }, ()) := by decide +kernel

end RenetVerif.SrcTie
