/-
  C11 — the MULTI-CLIENT system, ABOUT THE GENERATED CODE: the remaining safety theorems of `Props/C11E.lean`.

  `Props/SrcPropsMulti.lean` transfers `to_one_only_one`, `addressed_to_others_never_obtained`, `not_addressed_never_obtained`,
  `from_one_under_its_id`, `obtained_under_id_only_if_sent_by_it` to the generated system `GMulti`
  (`Lemmas/SrcEquiv/SrcMulti.lean`).  This file transfers the rest, along `SrcMulti.mrun_sim_conv`:

    * `src_broadcast_exactly_once_partial`, `src_from_one_at_most_once` — nothing is obtained more often than it was addressed /
      submitted (hypothesis `GCountersDown` / `GCountersUp` read off the GENERATED state, as in `SrcPropsMulti`);
    * `src_faults_are_local`, `src_faults_are_local_run`, `src_non_interference` — operations addressed to other clients leave
      the generated view of client `i` unchanged; two generated runs with the same local trace for `i` end in the same
      generated view of `i`.  "The same view" is `SrcMulti.GSameView`: the same slot in the server's table and the same link,
      where two generated connections count as the same iff they represent the same model connection, i.e. agree up to the
      field `most_recent_message_id` of the reliable receive channels (`SrcMulti.SameConn`; the simulation relation leaves
      this bookkeeping field free), and all emission histories, ghost logs, delivery records and taint flags are EQUAL.

    * `src_release_only_after_delivery_per_client` — C08 per client: a message released by the server's generated send channel
      for `i` was handed to client `i` by `i`'s own network (read by the generated decoder, `GDecodes`).

  All hypotheses are on the generated runs (`GMulti.exec P ops = some g`) and the range side condition `MRunInRange`; no
  hypothesis is on a model state.
-/
import RenetVerif.Lemmas.SrcEquiv.SrcMultiMore
import RenetVerif.Props.SrcPropsMulti
namespace RenetVerif.SrcPropsMultiMore
open RenetVerif C RenetVerif.System RenetVerif.MultiSystem RenetVerif.SrcEquiv RenetVerif.SrcSystem RenetVerif.SrcMulti
open RenetVerif.C11E

/-- **A broadcast is obtained at most once per client (generated code; reliable kinds)** — transports
    `C11E.broadcast_exactly_once_partial`.  No message is obtained by client `i`'s application more often than the operations
    of the run addressed it to `i`, whatever the networks duplicate or replay. -/
theorem src_broadcast_exactly_once_partial (P : Params) (ops : List MOp) (g : GMulti) (i : Nat) (gl : GLink)
    (hr : GMulti.exec P ops = some g) (hl : g.links i = some gl) (hclean : gl.tainted = false)
    (hrg : MRunInRange P ops) (hc : GCountersDown P g i gl) (ch : Nat)
    (hk : P.down.Ordered ch ∨ P.down.Unordered ch) (x : Bytes) :
    (gl.obtC ch).count (toNats x) ≤ (addressedTo i ch ops).count x := by
  obtain ⟨m, l, sim, hsl, hat⟩ := SrcPropsMulti.model_at hr hl hclean hrg
  rw [hsl.obtC, count_map_toNats]
  exact C11E.broadcast_exactly_once_partial hat (countersDown_of_sim sim hsl hc) ch hk x

/-- **… the other direction (generated code)** — transports `C11E.from_one_at_most_once`: nothing is obtained by the server
    application under id `i` more often than client `i` submitted it. -/
theorem src_from_one_at_most_once (P : Params) (ops : List MOp) (g : GMulti) (i : Nat) (gl : GLink)
    (hr : GMulti.exec P ops = some g) (hl : g.links i = some gl) (hclean : gl.tainted = false)
    (hrg : MRunInRange P ops) (hc : GCountersUp P gl) (ch : Nat)
    (hk : P.up.Ordered ch ∨ P.up.Unordered ch) (x : Bytes) :
    (gl.obtS ch).count (toNats x) ≤ (sentBy i ch ops).count x := by
  obtain ⟨m, l, sim, hsl, hat⟩ := SrcPropsMulti.model_at hr hl hclean hrg
  rw [hsl.obtS, count_map_toNats]
  exact C11E.from_one_at_most_once hat (countersUp_of_sim (m := m) (i := i) hsl hc) ch hk x

/-- **Non-interference (whole generated runs)** — transports `C11E.non_interference`.  Two executions of the generated code
    whose LOCAL TRACES for client `i` coincide (the operations addressed to `i`, the broadcasts that include `i`, the server's
    `update`s; everything addressed to other clients erased) end in generated states that agree on everything about client
    `i` (`GSameView`): the fault schedules, hostile packets, disconnections and traffic of all other clients may differ
    arbitrarily between the two runs. -/
theorem src_non_interference (P : Params) (ops1 ops2 : List MOp) (g1 g2 : GMulti) (i : Nat)
    (h1 : GMulti.exec P ops1 = some g1) (h2 : GMulti.exec P ops2 = some g2)
    (hrg1 : MRunInRange P ops1) (hrg2 : MRunInRange P ops2) (ht : trace i ops1 = trace i ops2) :
    GSameView g1 g2 i := by
  obtain ⟨m1, hm1, sim1⟩ := mrun_sim_conv P ops1 g1 hrg1 h1
  obtain ⟨m2, hm2, sim2⟩ := mrun_sim_conv P ops2 g2 hrg2 h2
  exact gsameView_of_sim sim1 sim2 (C11E.non_interference i hm1 hm2 ht).1

/-- **Faults are local (generated runs)** — transports `C11E.faults_are_local_run`.  A generated run extended by ANY operations
    addressed to other clients `j ≠ i` — hostile bytes in `j`'s name, any delivery (loss, duplication, reordering) on `j`'s
    network, `j`'s disconnection or removal, `j`'s own traffic — ends with the same generated view of `i`. -/
theorem src_faults_are_local_run (P : Params) (pre ops' : List MOp) (g g' : GMulti) (i : Nat)
    (h1 : GMulti.exec P pre = some g) (h2 : GMulti.exec P (pre ++ ops') = some g')
    (hrg : MRunInRange P (pre ++ ops')) (hall : ∀ op ∈ ops', ∃ j, target op = some j ∧ j ≠ i) :
    GSameView g' g i := by
  obtain ⟨m, hm, sim⟩ := mrun_sim_conv P pre g (mrunInRange_prefix P pre ops' hrg) h1
  obtain ⟨m', hm', sim'⟩ := mrun_of_exec P pre ops' m g' hm h2 hrg
  exact gsameView_of_sim sim' sim (C11E.faults_are_local_run i hm hm' hall)

/-- **Faults are local (one generated step)** — transports `C11E.faults_are_local`: one operation addressed to a client
    `j ≠ i` leaves the generated view of `i` unchanged. -/
theorem src_faults_are_local (P : Params) (pre : List MOp) (op : MOp) (g g' : GMulti) (i j : Nat)
    (h1 : GMulti.exec P pre = some g) (h2 : GMulti.exec P (pre ++ [op]) = some g')
    (hrg : MRunInRange P (pre ++ [op])) (htg : target op = some j) (hne : j ≠ i) :
    GSameView g' g i :=
  src_faults_are_local_run P pre [op] g g' i h1 h2 hrg (fun o ho => by
    rw [List.mem_singleton] at ho; subst ho; exact ⟨j, htg, hne⟩)

/-- **C08 per client, on the generated code** (server → client direction) — transports
    `C11E.release_only_after_delivery_per_client`.  `sA` is the GENERATED reliable send channel `ch` of the server's generated
    connection for `i` (field `connections`; the ghost copy `last` once the connection was removed); message `id` has been
    issued and is no longer in `sA.unacked_messages`.  Then every packet needed to rebuild it was handed to client `i` by
    `i`'s own network, and the GENERATED decoder `Packet::from_bytes` (`GDecodes`) reads it from the delivered datagram; acks
    forged in another client's name cannot touch it. -/
theorem src_release_only_after_delivery_per_client (P : Params) (ops : List MOp) (g : GMulti) (i : Nat) (gl : GLink)
    (hr : GMulti.exec P ops = some g) (hl : g.links i = some gl) (hclean : gl.tainted = false)
    (hrg : MRunInRange P ops) (hc : GCountersDown P g i gl) (ch : Nat)
    (sA : Src.renet.channel.reliable.SendChannelReliable)
    (hf : RustSem.Map.find? ((gconn? g.server i).getD gl.last).send_reliable_channels ch = some sA) (id : Nat)
    (hid : id < sA.next_reliable_message_id) (hrel : RustSem.Map.find? sA.unacked_messages id = none) :
    ∃ x, (gl.subS ch)[id]? = some x ∧
      (x.length ≤ SLICE_SIZE → ∃ k ∈ gl.delivC, ∃ bytes sq msgs, gl.outS[k]? = some bytes ∧
          GDecodes bytes (.SmallReliable sq ch msgs) ∧ (id, x) ∈ msgs) ∧
      (SLICE_SIZE < x.length → ∀ j, j < divCeil x.length SLICE_SIZE → ∃ k ∈ gl.delivC, ∃ bytes sq,
          gl.outS[k]? = some bytes ∧
          GDecodes bytes (.ReliableSlice sq ch
            ⟨id, j, divCeil x.length SLICE_SIZE, gSliceBytes x (divCeil x.length SLICE_SIZE) j⟩)) := by
  obtain ⟨m, l, sim, hsl, hat⟩ := SrcPropsMulti.model_at hr hl hclean hrg
  obtain ⟨mrs, hA⟩ := srv_repr sim hsl (i := i)
  rw [hA] at hf
  simp only [reprConn, find_mapVals, Option.map_eq_some_iff] at hf
  obtain ⟨sM, hfm, rfl⟩ := hf
  obtain ⟨x, hx, h1, h2⟩ := C11E.release_only_after_delivery_per_client hat (countersDown_of_sim sim hsl hc) ch sM hfm id hid
    (unacked_none_of_repr hrel)
  refine ⟨toNats x, by rw [hsl.subS, List.getElem?_map, hx]; rfl, ?_, ?_⟩
  · intro hlen
    rw [toNats_length] at hlen
    obtain ⟨k, hk, bytes, sq, msgs, hb, hd, hin⟩ := h1 hlen
    exact ⟨k, by rw [hsl.delivC]; exact hk, toNats bytes, sq, _, by rw [hsl.outS, List.getElem?_map, hb]; rfl,
      gdecodes_of_fromBytes hd, List.mem_map.mpr ⟨(id, x), hin, rfl⟩⟩
  · intro hlen j hj
    rw [toNats_length] at hlen hj
    obtain ⟨k, hk, bytes, sq, hb, hd⟩ := h2 hlen j hj
    refine ⟨k, by rw [hsl.delivC]; exact hk, toNats bytes, sq, by rw [hsl.outS, List.getElem?_map, hb]; rfl, ?_⟩
    have := gdecodes_of_fromBytes hd
    simp only [reprPacket, reprSlice, toNats_sliceBytes] at this
    rw [toNats_length]
    exact this

theorem sameView_logs {g1 g2 : GMulti} {i : Nat} (h : GSameView g1 g2 i) {a : GLink} (ha : g1.links i = some a) :
    ∃ b, g2.links i = some b ∧ a.obtC = b.obtC ∧ a.subS = b.subS ∧ a.obtS = b.obtS ∧ a.subC = b.subC ∧
      a.outS = b.outS ∧ a.outC = b.outC ∧ a.delivC = b.delivC ∧ a.delivS = b.delivS ∧ a.tainted = b.tainted := by
  have h2 := h.2
  rw [ha] at h2
  cases hb : g2.links i with
  | none => rw [hb] at h2; exact h2.elim
  | some b =>
    rw [hb] at h2
    have s : GSameLink a b := h2
    exact ⟨b, rfl, s.obtC, s.subS, s.obtS, s.subC, s.outS, s.outC, s.delivC, s.delivS, s.tainted⟩

/-! ## non-vacuity: the run of `C11E.Ex` ON THE GENERATED CODE (`SrcPropsMulti.Ex`) -/
namespace Ex
open RenetVerif.SrcPropsMulti.Ex

/-- [60] was broadcast once: client 3 obtained it at most once; [41] went to client 3 only, once -/
example : (gl3.obtC 0).count (toNats [60]) ≤ 1 :=
  src_broadcast_exactly_once_partial P ops gfin 3 gl3 grun glink3 clean3 inRange gcountersD3 0 (Or.inl C11E.Ex.ordered0) [60]
example : (gl3.obtC 1).count (toNats [41]) ≤ 1 :=
  src_broadcast_exactly_once_partial P ops gfin 3 gl3 grun glink3 clean3 inRange gcountersD3 1 (Or.inr C11E.Ex.unordered1) [41]
/-- what the generated server obtained under id 1: [11] at most once -/
example : (gl1.obtS 0).count (toNats [11]) ≤ 1 :=
  src_from_one_at_most_once P ops gfin 1 gl1 grun glink1 clean1 inRange gcountersU1 0 (Or.inl C11E.Ex.upOrdered0) [11]

/-- the run with everything addressed to client 2 erased (`C11E.Ex.opsNo2`: no hostile bytes, no disconnection, no removal
    of client 2), executed by the kernel on the generated code -/
abbrev opsNo2 := C11E.Ex.opsNo2
def gNo2 : GMulti := (GMulti.exec P opsNo2).getD gzero
theorem runNo2 : MRunInRange P opsNo2 ∧ (GMulti.exec P opsNo2).isSome = true := by decide +kernel
theorem inRangeNo2 : MRunInRange P opsNo2 := runNo2.1
theorem grunNo2 : GMulti.exec P opsNo2 = some gNo2 := some_getD runNo2.2 _

/-- **`src_non_interference` applied**: clients 1 and 3 cannot tell the two generated runs apart -/
theorem same1 : GSameView gfin gNo2 1 := src_non_interference P ops opsNo2 gfin gNo2 1 grun grunNo2 inRange inRangeNo2 (by decide)
theorem same3 : GSameView gfin gNo2 3 := src_non_interference P ops opsNo2 gfin gNo2 3 grun grunNo2 inRange inRangeNo2 (by decide)

example : ∃ b, gNo2.links 3 = some b ∧ b.obtC = gl3.obtC ∧ b.delivC = gl3.delivC := by
  obtain ⟨b, hb, e1, -, -, -, -, -, e2, -⟩ := sameView_logs same3 glink3
  exact ⟨b, hb, e1.symm, e2.symm⟩

/-- **`src_faults_are_local` applied**: the hostile datagram in client 2's name (operation 12 of the run) changes nothing
    for client 1 -/
abbrev pre := C11E.Ex.pre
def gmid : GMulti := (GMulti.exec P pre).getD gzero
def gmid' : GMulti := (GMulti.exec P (pre ++ [.hostile 2 [255]])).getD gzero
theorem runPre : (GMulti.exec P pre).isSome = true ∧ (GMulti.exec P (pre ++ [.hostile 2 [255]])).isSome = true ∧
    MRunInRange P (pre ++ [.hostile 2 [255]]) := by
  decide +kernel
theorem grunPre : GMulti.exec P pre = some gmid := some_getD runPre.1 _
theorem grunPre' : GMulti.exec P (pre ++ [.hostile 2 [255]]) = some gmid' := some_getD runPre.2.1 _
example : GSameView gmid' gmid 1 :=
  src_faults_are_local P pre (.hostile 2 [255]) gmid gmid' 1 2 grunPre grunPre' runPre.2.2 rfl (by decide)

end Ex

/-
  NOT transferred: `C11E.per_client_system_inv` as such (its conclusion is the model invariant package `Inv1`/`Inv2`/`InvR`/`InvU`
  of the projections; its consequences above and in `SrcPropsMulti` are transferred, its clauses that have a reading on generated
  states are in `Props/SrcPropsMultiInv.lean` and `Props/SrcPropsMultiInvUp.lean`), `C11E.ordered_in_submission_order` / `obtained_only_if_addressed` (contained in `SrcPropsMulti.src_to_one_only_one`),
  and a non-vacuity example for `src_release_only_after_delivery_per_client`.
-/

end RenetVerif.SrcPropsMultiMore
