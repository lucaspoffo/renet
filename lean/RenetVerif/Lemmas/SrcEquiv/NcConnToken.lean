/-
  Connect tokens: generated `ConnectToken::{write, read}`, `PrivateConnectToken::{write, read}` and `get_additional_data`
  of `renetcode/src/token.rs` agree with `Netcode.ConnectToken.{writeTo, read}`, `Netcode.PrivateConnectToken.{writeTo,
  read, additionalData}` of `Netcode/Token.lean` over the cursor models (error state forgotten, see `IoCursor.lean`).
  The ties themselves are in `Props/SrcTieNcConnToken.lean`.
-/
import RenetVerif.Generated.Src.NcConnToken
import RenetVerif.Lemmas.SrcEquiv.NcSerialize
import RenetVerif.Lemmas.SrcEquiv.IoCursor
import RenetVerif.Lemmas.SrcEquiv.AddrRepr
import RenetVerif.Lemmas.SrcEquiv.NcAddr
set_option linter.unusedSimpArgs false
namespace RenetVerif.SrcEquiv
open RenetVerif RenetVerif.RustSem

section NcConnToken
open Netcode

abbrev SConnectToken := Src.renetcode.token.ConnectToken
abbrev SPrivateConnectToken := Src.renetcode.token.PrivateConnectToken

def reprTok (t : Netcode.ConnectToken) : SConnectToken :=
  ⟨t.clientId, toNats t.versionInfo, t.protocolId, t.createTimestamp, t.expireTimestamp, toNats t.xnonce,
   reprAddrs t.serverAddresses, toNats t.clientToServerKey, toNats t.serverToClientKey, toNats t.privateData, t.timeoutSeconds⟩

def reprPTok (t : Netcode.PrivateConnectToken) : SPrivateConnectToken :=
  ⟨t.clientId, t.timeoutSeconds, reprAddrs t.serverAddresses, toNats t.clientToServerKey, toNats t.serverToClientKey,
   toNats t.userData⟩

def tokBytes (t : Netcode.ConnectToken) : Bytes :=
  Netcode.leBytes t.clientId 8 ++ t.versionInfo ++ Netcode.leBytes t.protocolId 8 ++ Netcode.leBytes t.createTimestamp 8 ++
  Netcode.leBytes t.expireTimestamp 8 ++ t.xnonce ++ t.privateData ++ i32le t.timeoutSeconds ++ addrsBytes t.serverAddresses ++
  t.clientToServerKey ++ t.serverToClientKey

def ptokBytes (t : Netcode.PrivateConnectToken) : Bytes :=
  Netcode.leBytes t.clientId 8 ++ i32le t.timeoutSeconds ++ addrsBytes t.serverAddresses ++ t.clientToServerKey ++
  t.serverToClientKey ++ t.userData

theorem i32_to_le_bytes_eq (x : Int) : RustSem.i32_to_le_bytes x = toNats (i32le x) := by
  simp [RustSem.i32_to_le_bytes, i32le, leBytes_repr]

theorem tok_writeTo_eq (t : Netcode.ConnectToken) (w : Wr) : t.writeTo w = w.writeAll (tokBytes t) := by
  rw [NcAead.Token.ct_writeTo_eq]
  simp [tokBytes, NcAead.Token.ctBytes, addrsBytes_eq, List.append_assoc]

theorem ptok_writeTo_eq (t : Netcode.PrivateConnectToken) (w : Wr) : t.writeTo w = w.writeAll (ptokBytes t) := by
  rw [NcAead.Token.pt_writeTo_eq]
  simp [ptokBytes, NcAead.Token.ptBytes, addrsBytes_eq, List.append_assoc]

theorem tok_write_forget (c : WriteCursor) (hc : CInv c) (t : Netcode.ConnectToken) (hlen : t.serverAddresses.length < 2 ^ 32) :
    (Src.renetcode.token.ConnectToken.write (reprTok t) c).forget = wres c (toNats (tokBytes t)) := by
  unfold Src.renetcode.token.ConnectToken.write
  simp only [reprTok, Exec.bind_eq, Exec.pure_eq, to_le_bytes64, i32_to_le_bytes_eq]
  rw [Exec.forget_run]
  simp only [Exec.forget_bind, Exec.forget_val]
  rw [curK.W_start (e := .opaque) hc (fun c' => ((Exec.callFrom _ (WriteCursor.write_all c' _)).forget).bind _)]
  simp only [step_write_all]
  rw [step_writer _ (toNats (addrsBytes t.serverAddresses)) (fun c' => Src.renetcode.token.write_server_addresses c' _)
    (fun c' hc' => write_server_addresses_forget c' hc' t.serverAddresses hlen)]
  simp only [step_write_all]
  rw [WC_finish]
  refine congrArg (wres c) ?_
  simp [tokBytes, toNats, List.append_assoc]

theorem ptok_write_forget (c : WriteCursor) (hc : CInv c) (t : Netcode.PrivateConnectToken)
    (hlen : t.serverAddresses.length < 2 ^ 32) :
    (Src.renetcode.token.PrivateConnectToken.write (reprPTok t) c).forget = wres c (toNats (ptokBytes t)) := by
  unfold Src.renetcode.token.PrivateConnectToken.write
  simp only [reprPTok, Exec.bind_eq, Exec.pure_eq, to_le_bytes64, i32_to_le_bytes_eq]
  rw [Exec.forget_run]
  simp only [Exec.forget_bind, Exec.forget_val]
  rw [curK.W_start (e := .opaque) hc (fun c' => ((Exec.callFrom _ (WriteCursor.write_all c' _)).forget).bind _)]
  simp only [step_write_all]
  rw [step_writer _ (toNats (addrsBytes t.serverAddresses)) (fun c' => Src.renetcode.token.write_server_addresses c' _)
    (fun c' hc' => write_server_addresses_forget c' hc' t.serverAddresses hlen)]
  simp only [step_write_all]
  rw [WC_finish]
  refine congrArg (wres c) ?_
  simp [ptokBytes, toNats, List.append_assoc]

theorem readI32_suffix_buf {v : Int} {rest r buf : Bytes} (h : readI32 rest = some (v, r)) (hs : rest <:+ buf) : r <:+ buf :=
  List.IsSuffix.trans ⟨_, (NcAead.readI32_iff.1 h).2.symm⟩ hs

/-! ### read

Both sides read field after field; after each field both are stuck on the same model reader, and a failed read ends
both. -/

/-- model error ↦ generated `NetcodeError` (the two errors `ConnectToken::read` produces) -/
def tokErr : Netcode.NetcodeError → Src.renetcode.error.NetcodeError
  | .invalidVersion => .InvalidVersion
  | _ => .IoError .opaque

/-- `?` on an `io::Result` in a fn that returns `Result<_, NetcodeError>` -/
theorem kerr_netcode (e : IoError × ReadCursor) :
    ∃ st, (fun err : IoError × ReadCursor =>
        Res.bind (Src.renetcode.error.NetcodeError.from_Error err.1) (fun e' => Res.ok (e', err.2))
          : IoError × ReadCursor → Res (Src.renetcode.error.NetcodeError × ReadCursor) (Src.renetcode.error.NetcodeError × ReadCursor)) e
      = .ok (Src.renetcode.error.NetcodeError.IoError e.1, st) := ⟨e.2, rfl⟩

theorem io?_some_bind {α β : Type} (a : α) (K : α → NRes β) : (io? (some a) >>= K) = K a := rfl

end NcConnToken
end RenetVerif.SrcEquiv
