/-
  Source tie, group RecvUnrel: `renet/src/channel/unreliable.rs`
  `ReceiveChannelUnreliable::{new, process_message, process_slice, discard_incomplete_old_slices, receive_message}`
  ↔ `RecvUnrel` of `Renet/Channels.lean` (`RecvUnrel.new/processMessage/processSlice/discardOld/receive`).

  `reprRU` maps a model state to the generated struct.  The two `BTreeMap`s are association lists sorted by key on both
  sides (`RustSem.Map` / `SMap`; `MSorted` = strictly ascending keys); a generated `SliceConstructor` stores its key as
  `message_id`.  `process_slice` is a `&mut self` method returning `Result`: its `Err` carries the state it leaves
  behind (memory already reserved, constructor inserted) exactly like the model's `.err (e, r)`.  `SameOutcome` /
  `discardOut` compare `ok` / `err` values exactly and panics up to the text of the site.
-/
import RenetVerif.Lemmas.SrcEquiv.RecvUnrel
namespace RenetVerif.SrcTie
open RenetVerif RenetVerif.SrcEquiv RenetVerif.RustSem
open Src.renet.channel.unreliable

theorem recv_unrel_new {ε : Type} (channelId maxMem : Nat) :
    (ReceiveChannelUnreliable.new channelId maxMem : Res ε _) = .ok (reprRU (RecvUnrel.new channelId maxMem)) := rfl

/-- `process_message`: the model's new state (unchanged on the memory-limited `log::warn!` + `return` path) -/
theorem recv_unrel_process_message {ε : Type} (r : RecvUnrel) (m : Bytes) (h : r.mem + m.length < 2 ^ 64) :
    (ReceiveChannelUnreliable.process_message (reprRU r) (toNats m) : Res ε _) = .ok (reprRU (r.processMessage m), ()) := by
  unfold ReceiveChannelUnreliable.process_message RecvUnrel.processMessage
  have hl : RustSem.len (toNats m) = m.length := by simp [RustSem.len, toNats]
  simp only [reprRU, hl, add_val h, Exec.bind_eq, Exec.bind_val', Exec.pure_eq]
  by_cases hm : r.mem + m.length > r.maxMem
  · simp only [hm, decide_true, if_true, Exec.bind_ret', Exec.run_ret]
  · simp [hm, Exec.bind_val', Exec.run_val, RustSem.push, toNats]

theorem recv_unrel_receive_message {ε : Type} (r : RecvUnrel) :
    (ReceiveChannelUnreliable.receive_message (reprRU r) : Res ε _) =
      match r.receive with
      | .ok (r', o) => .ok (reprRU r', o.map toNats)
      | .err e => nomatch e
      | .panic _ => .panic "renet/src/channel/unreliable.rs:ReceiveChannelUnreliable::receive_message: self.memory_usage_bytes -= message.len()" := by
  unfold ReceiveChannelUnreliable.receive_message RecvUnrel.receive
  cases hq : r.messages with
  | nil => simp [reprRU, hq, Exec.bind_eq, Exec.bind_val', Exec.pure_eq, Exec.run_val]
  | cons m rest =>
    have hl : RustSem.len (toNats m) = m.length := by simp [RustSem.len, toNats]
    simp only [reprRU, hq, List.map_cons, List.head?_cons, List.tail_cons, hl, Exec.bind_eq, Exec.pure_eq, Res.csub]
    by_cases hm : m.length ≤ r.mem
    · simp [hm, sub_val hm, Exec.bind_val', Exec.bind_ret', Exec.run_ret, toNats]
    · simp [hm, sub_panic hm, Exec.bind_panic', Exec.run_panic]

/-- `process_slice` on a state with a sorted slice table, a memory counter that cannot overflow when the slice's
    message is reserved, and (if the message is already being assembled) a constructor of sane size: same new state,
    same `InvalidSliceMessage` error WITH the same state left behind, and a panic exactly when the model panics -/
theorem recv_unrel_process_slice (r : RecvUnrel) (sl : Slice) (now : Nat) (hs : MSorted r.slices)
    (hmem : r.mem + sl.numSlices * C.SLICE_SIZE < 2 ^ 64)
    (hctor : ∀ c, SMap.find? r.slices sl.messageId = some c → CtorOk c) :
    SameOutcome (ReceiveChannelUnreliable.process_slice (reprRU r) (reprSlice sl) now)
      (mapRes (fun r' => (reprRU r', ())) (fun e => (reprCE e.1, reprRU e.2)) (r.processSlice sl now)) := by
  cases hf : SMap.find? r.slices sl.messageId with
  | some c => exact process_slice_has r sl now c hf hs (hctor c hf) (by omega)
  | none =>
    have hcont : SMap.contains r.slices sl.messageId = false := by simp [SMap.contains, hf]
    have hS : Src.renet.packet.SLICE_SIZE = C.SLICE_SIZE := rfl
    have hmul : sl.numSlices * C.SLICE_SIZE < 2 ^ 64 := by omega
    by_cases hfit : r.mem + sl.numSlices * C.SLICE_SIZE > r.maxMem
    · -- memory limited: dropped, state unchanged
      unfold ReceiveChannelUnreliable.process_slice RecvUnrel.processSlice
      simp only [reprRU, reprSlice, contains_reprSlices, hcont, Bool.not_false, if_true, Bool.false_eq_true, if_false, hS,
        mul_val hmul, add_val hmem, Exec.bind_eq, Exec.pure_eq, Exec.bind_val', hfit, decide_true, Exec.bind_ret',
        Exec.run_ret, mapRes, SameOutcome]
    · -- both sides continue as on the reserved state
      have hgen : ReceiveChannelUnreliable.process_slice (reprRU r) (reprSlice sl) now
          = ReceiveChannelUnreliable.process_slice (reprRU (reserved r sl)) (reprSlice sl) now := by
        have hc1 : SMap.contains (SMap.insert r.slices sl.messageId (SliceCtor.new sl.numSlices)) sl.messageId = true := by
          simp [SMap.contains, SMap.find?_insert_self]
        unfold ReceiveChannelUnreliable.process_slice
        simp only [reprRU, reserved, reprSlice, contains_reprSlices, hcont, hc1, Bool.not_false, Bool.not_true, if_true,
          Bool.false_eq_true, if_false, hS, mul_val hmul, add_val hmem, Exec.bind_eq, Exec.pure_eq, Exec.bind_val', hfit,
          decide_false, slice_constructor_new sl.messageId sl.numSlices hmul, Exec.call_ok, insert_reprSlices]
      have hmod : r.processSlice sl now = (reserved r sl).processSlice sl now := by
        have hc1 : SMap.contains (SMap.insert r.slices sl.messageId (SliceCtor.new sl.numSlices)) sl.messageId = true := by
          simp [SMap.contains, SMap.find?_insert_self]
        unfold RecvUnrel.processSlice
        simp only [hcont, Bool.false_eq_true, if_false, hfit, reserved, hc1, if_true]
      rw [hgen, hmod]
      refine process_slice_has (reserved r sl) sl now (SliceCtor.new sl.numSlices) (SMap.find?_insert_self _ _ _)
        (SMap.sorted_insert hs _ _) (ctorOk_new _ hmul) ?_
      simp only [reserved]; omega

/-- `discard_incomplete_old_slices` when the recorded receive times are not in the future and the table's constructors
    have sizes that fit `usize`: the model's new state, or a panic exactly when the model panics -/
theorem recv_unrel_discard_incomplete_old_slices {ε : Type} (r : RecvUnrel) (now : Nat)
    (hpast : ∀ p ∈ r.lastReceived, p.2 ≤ now) (hsz : SizesOk r) :
    discardOut (r.discardOld now) (ReceiveChannelUnreliable.discard_incomplete_old_slices (reprRU r) now : Res ε _) := by
  unfold ReceiveChannelUnreliable.discard_incomplete_old_slices RecvUnrel.discardOld
  simp only [Exec.bind_eq, Exec.pure_eq]
  have hlr : (reprRU r).slices_last_received = r.lastReceived := rfl
  rw [hlr, lost_loop now _ ?hb r.lastReceived [] hpast]
  case hb =>
    intro k t acc ht
    have hfs : RustSem.Duration.from_secs 3 = C.DISCARD_FRAGMENT_AFTER_NS := rfl
    simp only [RustSem.Duration.sub, if_pos ht, Exec.bind_val', RustSem.push, hfs]
    by_cases hd : now - t ≥ C.DISCARD_FRAGMENT_AFTER_NS
    · simp [hd]
    · simp [hd]
  simp only [Exec.bind_val', List.nil_append]
  have hlost : (r.lastReceived.filter (fun x => match x with | (_, t) => decide (now - t ≥ C.DISCARD_FRAGMENT_AFTER_NS))).map (·.1)
      = lostIds now r.lastReceived := by
    unfold lostIds; congr 2
  rw [hlost]
  apply discard_finish
  refine forEach_follows (R := fun t b => t = reprRU b) (fun x => x) (fun r id => discardStep id r) (fun r l => discardLoop l r)
    (fun r _ => SizesOk r) _ (fun _ => rfl) (fun r id l => discardLoop_cons id l r) (fun _ _ _ _ h hs => sizesOk_discardStep h hs)
    ?hb2 _ (List.map_id' _).symm r _ hsz rfl
  rintro r' id _ _ hr' rfl
  unfold discardStep
  simp only [reprRU, map_remove_eq r'.lastReceived, find_reprSlices, remove_reprSlices]
  cases hfd : SMap.find? r'.slices id with
  | none => simp [RustSem.unwrap, Exec.bind, Follows]
  | some c =>
    have hsz' : c.numSlices * C.SLICE_SIZE < 2 ^ 64 := hr' (id, c) (SMap.mem_of_find? hfd)
    have hS : Src.renet.packet.SLICE_SIZE = C.SLICE_SIZE := rfl
    have hn : (reprSC id c).num_slices = c.numSlices := rfl
    simp only [Option.map_some, RustSem.unwrap, Exec.bind_val', hn, hS, mul_val hsz', Res.csub]
    by_cases hsub : c.numSlices * C.SLICE_SIZE ≤ r'.mem
    · simp [sub_val hsub, Exec.bind_val', hsub, Follows]
    · simp [sub_panic hsub, Exec.bind_panic', hsub, Follows]

example : (ReceiveChannelUnreliable.process_message ⟨0, [[1]], [], [], 10, 1⟩ [2, 3] : Res Empty _) =
    .ok (⟨0, [[1], [2, 3]], [], [], 10, 3⟩, ()) := by decide +kernel
example : (ReceiveChannelUnreliable.receive_message ⟨0, [[1], [2, 3]], [], [], 10, 3⟩ : Res Empty _) =
    .ok (⟨0, [[2, 3]], [], [], 10, 2⟩, some [1]) := by decide +kernel
/-- a one-slice message completes at once: memory reserved, released, the 3 payload bytes accounted -/
example : ReceiveChannelUnreliable.process_slice ⟨0, [], [], [], 5000, 0⟩ ⟨7, 0, 1, [1, 2, 3]⟩ 100 =
    .ok (⟨0, [[1, 2, 3]], [], [], 5000, 3⟩, ()) := by decide +kernel
/-- the first of two slices: constructor and receive time are recorded, 2400 bytes reserved -/
example : ReceiveChannelUnreliable.process_slice ⟨0, [], [], [], 5000, 0⟩ ⟨7, 0, 2, List.replicate 1200 9⟩ 100 =
    .ok (⟨0, [], [(7, ⟨7, 2, 1, [true, false], List.replicate 1200 9 ++ List.replicate 1200 0⟩)], [(7, 100)], 5000, 2400⟩, ()) := by
  decide +kernel
/-- memory limited: the slice is dropped and the state unchanged -/
example : ReceiveChannelUnreliable.process_slice ⟨0, [], [], [], 1000, 0⟩ ⟨7, 0, 1, [1, 2, 3]⟩ 100 =
    .ok (⟨0, [], [], [], 1000, 0⟩, ()) := by decide +kernel
/-- a slice whose `num_slices` disagrees with the constructor: `Err` carrying the unchanged state -/
example : ReceiveChannelUnreliable.process_slice
      ⟨0, [], [(7, ⟨7, 2, 0, [false, false], List.replicate 2400 0⟩)], [], 5000, 2400⟩ ⟨7, 0, 3, [1]⟩ 100 =
    .err (.InvalidSliceMessage, ⟨0, [], [(7, ⟨7, 2, 0, [false, false], List.replicate 2400 0⟩)], [], 5000, 2400⟩) := by
  decide +kernel
/-- an incomplete message older than 3 s is discarded and its memory released -/
example : (ReceiveChannelUnreliable.discard_incomplete_old_slices
      ⟨0, [], [(7, ⟨7, 2, 1, [true, false], List.replicate 2400 0⟩)], [(7, 1000)], 5000, 2400⟩ 3000001000 : Res Empty _) =
    .ok (⟨0, [], [], [], 5000, 0⟩, ()) := by decide +kernel

end RenetVerif.SrcTie
