/-
  Netcode SERVER properties (C19, C05, C10, C07, C04, C18, C17) stated DIRECTLY about the generated
  `Src.renetcode.server.NetcodeServer` functions of `Generated/Src/NcServer*.lean` (the Lean text the translator derives
  from the current `renetcode/src/server.rs`).  The hand model (`Netcode.NetcodeServer`) appears only in the proofs:
  `SrcTieNcServer{Recv,Send,Query}` (generated = model on representable states) ∘ `Props/C19, C05, C10, C07, C04, C18, C17`.

  How states are constrained (said again in each doc comment):
    * `WfS g`       — `g` is the image `reprNS out s` of SOME model state (all byte lists hold bytes, addresses are
                      `AddrOk`, replay windows have 256 entries, scratch buffer of `NETCODE_MAX_PACKET_BYTES`): representability only.
    * `SeqRoom n g` — INTRINSIC: the `u64` counters `global_sequence`, `challenge_sequence` and every pending `sequence`
                      are at least `n` below `u64::MAX` (the model's `SInv n`).
    * `GInv g`      — "`g` = repr of a model state satisfying the model invariant `NS.ServerInv`" (Props/C10: distinct ids /
                      addresses, timers not in the future, pending map well-formed, token table not empty, …); its
                      intrinsic consequences on `g.clients` are `table_distinct`.
  Inputs are intrinsic: `BytesOk` byte lists, `AddrOk` addresses, datagrams shorter than `2^64 - 16` bytes.
  The AEAD is the abstract parameter `a` (`aeadOf a` on the generated side) with the length laws `a.Laws` (needed by the tie:
  `open` / `seal` change the length by the 16 tag bytes); nothing is assumed about authenticity.
  Pre-state facts are read off the generated state with the generated code's own functions (`find_client_mut_by_addr`,
  `find_client_by_id`, `AMap.find?` = `HashMap::get`, `Packet::decode`, `ChallengeToken::decode`,
  `PrivateConnectToken::decode`, `ReplayProtection::already_received` / `advance_sequence`, `Packet::encode`); post-states are
  given as record updates of the pre-state (`{ g with out := g'.out, … }`: the scratch buffer is SOME buffer afterwards).

  Contents
    C19  no_amplification (+ same address, strictly smaller: `ReplyBound`), no_answer_undecodable_unknown,
         no_answer_unless_valid (`GValidRequest` / `GValidResponse`); no_answer_undecodable_pending stands below, after
         C07 decode_error_noop_pending, whose first half it is
    C05  connected_only_if, rejected_request (`GRejected`: expired / foreign protocol / version / tampered or foreign key /
         wrong host), token_address_binding_partial
    C10  TableOK (intrinsic), table_distinct, inv_new, {process_packet, update_client, disconnect, update,
         generate_payload}_inv, full_refuses (`GIsDenied`)
    C07  process_packet_total / _no_panic, decode_error_noop_{connected,pending}, request_from_connected_noop,
         invalid_request_noop  (+ C19 no_answer_undecodable_unknown = unknown-address no-op)
    C04  payload_only_if_opened, replay_rejected, genuine_accepted
    C18  update_client_spec, server_timeout, server_timeout_only, server_keeps, no_spurious_timeout
    C17  generate_payload_spec, update_client_spec (keep-alive / disconnect nonce), session_nonces_consecutive (runs)
    concrete instances at the end.
-/
import RenetVerif.Lemmas.SrcCorollariesNc
import RenetVerif.Props.C19
import RenetVerif.Props.C10
import RenetVerif.Props.C07
import RenetVerif.Props.C04
import RenetVerif.Props.C05
import RenetVerif.Props.C17
import RenetVerif.Props.C18
namespace RenetVerif.SrcPropsNc.Server
open RenetVerif RenetVerif.SrcEquiv RenetVerif.SrcTie RenetVerif.SrcCor RenetVerif.SrcCorNc RenetVerif.RustSem
open RenetVerif.Netcode
open Src.renetcode.server

/-- INTRINSIC counter room (the model's `SInv n`): each `process_packet` uses up at most one of each -/
def SeqRoom (n : Nat) (g : SNetcodeServer) : Prop :=
  g.global_sequence + n ≤ U64_MAX ∧ g.challenge_sequence + n ≤ U64_MAX ∧
  ∀ x ∈ g.pending_clients, x.2.sequence + n ≤ U64_MAX

theorem seqRoom_iff {n : Nat} {g : SNetcodeServer} {s : Netcode.NetcodeServer} (hr : SrvRepr g s) :
    SeqRoom n g ↔ NetcodeServer.SInv n s := by
  unfold SeqRoom NetcodeServer.SInv
  rw [hr.global_sequence, hr.challenge_sequence, hr.pending]
  constructor
  · rintro ⟨h1, h2, h3⟩
    exact ⟨h1, h2, fun x hx => h3 (reprAddr x.1, reprNConn x.2) (List.mem_map.2 ⟨x, hx, rfl⟩)⟩
  · rintro ⟨h1, h2, h3⟩
    refine ⟨h1, h2, fun x hx => ?_⟩
    obtain ⟨y, hy, rfl⟩ := List.mem_map.1 hx
    exact h3 y hy

/-- `g` = repr of a model state satisfying the connection-table invariant `NS.ServerInv` of Props/C10 -/
def GInv (g : SNetcodeServer) : Prop := ∃ s, SrvRepr g s ∧ NS.ServerInv s

theorem GInv.wf {g : SNetcodeServer} (h : GInv g) : WfS g := let ⟨s, hr, _⟩ := h; ⟨s, hr⟩

theorem inv_pp {a : AEAD} {s s' : Netcode.NetcodeServer} {addr : Addr} {buf : Bytes} {r : Netcode.ServerResult}
    (hinv : NS.ServerInv s) (hm : s.processPacket a addr buf = .ok (r, s')) : NS.ServerInv s' :=
  C10.inv_step (a := a) (op := .packet addr buf) (r := r) hinv (NS.pp_of_step.mpr hm)

theorem inputs_repr {ga : RustSem.SocketAddr} (hga : AddrOk ga) {gbuf : List Nat} (hb : BytesOk gbuf)
    (hbl : gbuf.length + 16 < 2 ^ 64) :
    ∃ addr buf, ga = reprAddr addr ∧ gbuf = toNats buf ∧ buf.length + 16 < 2 ^ 64 := by
  obtain ⟨addr, rfl⟩ := (addrOk_iff ga).1 hga
  obtain ⟨buf, rfl⟩ := (bytesOk_iff gbuf).1 hb
  rw [toNats_length] at hbl
  exact ⟨addr, buf, rfl, rfl, hbl⟩

/-! ## C19 — no amplification -/

/-- sizes of a reply `o` to the datagram `gbuf`: the answer to a connection request (≥ 1078 bytes) has at most 333 bytes
    (a `Challenge`; `ConnectionDenied`: 25), the answer to a response (≥ 325 bytes) at most 33 (a `KeepAlive`) -/
def ReplyBound (o gbuf : List Nat) : Prop :=
  (o.length ≤ 333 ∧ 1078 ≤ gbuf.length) ∨ (o.length ≤ 33 ∧ 325 ≤ gbuf.length)

theorem ReplyBound.lt {o gbuf : List Nat} (h : ReplyBound o gbuf) : o.length < gbuf.length := by
  unfold ReplyBound at h; omega

theorem reply_repr {L V : Prop} (hl : L) {addr : Addr} {bound : Nat} {gbuf : List Nat} {r : Netcode.ServerResult}
    (h : NetcodeServer.Reply L V addr bound r) (hB : V → ∀ o : Bytes, o.length ≤ bound → ReplyBound (toNats o) gbuf) :
    reprNSR r = .None ∨ (∃ o, reprNSR r = .PacketToSend (reprAddr addr) o ∧ ReplyBound o gbuf) ∨
      ∃ id ud o, reprNSR r = .ClientConnected id (reprAddr addr) ud o ∧ ReplyBound o gbuf := by
  rcases h with rfl | ⟨hv, ⟨o, rfl, hbd⟩ | ⟨id, ud, o, rfl, hbd⟩⟩
  · exact .inl rfl
  · exact .inr (.inl ⟨toNats o, rfl, hB hv o (hbd hl)⟩)
  · exact .inr (.inr ⟨id, toNats ud, toNats o, rfl, hB hv o (hbd hl)⟩)

/-- **C19 `no_amplification` + `reply_to_same_address` + `reply_strictly_smaller`, on the generated `process_packet`.**
    State: `WfS g` (representable), INTRINSIC counter room `SeqRoom (n+1) g`, token table not empty.
    For a datagram from an address that is not connected (the generated finder returns `None`), the generated
    `process_packet` returns normally; the result is `ServerResult::None`, or ONE datagram addressed to the source address:
    a `PacketToSend` or the keep-alive of a `ClientConnected`, of at most 333 bytes for a datagram of at least 1078
    (request) or at most 33 bytes for a datagram of at least 325 (response) — `ReplyBound`, hence strictly smaller
    than the datagram received (`ReplyBound.lt`).  One unit of counter room is used up. -/
theorem no_amplification {ε : Type} (a : AEAD) (hl : a.Laws) {n : Nat} {g : SNetcodeServer} (hw : WfS g)
    (hroom : SeqRoom (n + 1) g) (hent : 0 < g.connect_token_entries.length) {ga : RustSem.SocketAddr} (hga : AddrOk ga)
    {gbuf : List Nat} (hb : BytesOk gbuf) (hbl : gbuf.length + 16 < 2 ^ 64)
    (hf : (find_client_mut_by_addr g.clients ga : Res ε _) = .ok none) :
    ∃ g' buf' gr, @NetcodeServer.process_packet (aeadOf a) ε g ga gbuf = .ok (g', buf', gr) ∧ WfS g' ∧ SeqRoom n g' ∧
      (gr = .None ∨ (∃ o, gr = .PacketToSend ga o ∧ ReplyBound o gbuf) ∨
        ∃ id ud o, gr = .ClientConnected id ga ud o ∧ ReplyBound o gbuf) := by
  obtain ⟨s, hr⟩ := hw
  obtain ⟨addr, buf, rfl, rfl, hbl'⟩ := inputs_repr hga hb hbl
  obtain ⟨r, s', hm, hinv', hrep⟩ :=
    C19.no_amplification a ((seqRoom_iff hr).1 hroom) addr buf ((find_by_addr_none hr).1 hf)
  obtain ⟨⟨g', buf', _⟩, hg, hr', rfl⟩ := (process_packet_tie (ε := ε) a hl hr (hr.entries_pos.1 hent) addr buf hbl').push_ok hm
  refine ⟨g', buf', _, hg, ⟨s', hr'⟩, (seqRoom_iff hr').2 hinv', ?_⟩
  have e0 := C19.request_min_eq
  have e3 := C19.response_min_eq
  have e1 := C19.request_reply_max_eq
  have e2 := C19.response_reply_max_eq
  rcases hrep with hrep | hrep
  · refine reply_repr hl hrep fun hv o ho => .inl ?_
    have := hv.1
    rw [toNats_length, toNats_length]
    omega
  · refine reply_repr hl hrep fun hv o ho => .inr ?_
    have := hv.1 hl
    rw [toNats_length, toNats_length]
    omega

abbrev decodeWith (a : AEAD) (gbuf : List Nat) (pid : Nat) (gc : SConnection) : SDecRes :=
  @Src.renetcode.packet.Packet.decode (aeadOf a) gbuf pid (some gc.receive_key) (some gc.replay_protection)
/-- without key / window: what the server does for an unknown address -/
abbrev decodeBare (a : AEAD) (gbuf : List Nat) (pid : Nat) : SDecRes :=
  @Src.renetcode.packet.Packet.decode (aeadOf a) gbuf pid none none

/-- **C19 `no_answer_to_undecodable`, unknown address** (neither connected nor pending): if the generated
    `Packet::decode` without key returns `Err` (only a connection request decodes without key), the answer is
    `ServerResult::None` and the server is unchanged up to its scratch buffer (= C07 `server_unknown_address_noop`). -/
theorem no_answer_undecodable_unknown {ε : Type} (a : AEAD) (hl : a.Laws) {g : SNetcodeServer} (hw : WfS g)
    (hent : 0 < g.connect_token_entries.length) {ga : RustSem.SocketAddr} (hga : AddrOk ga)
    {gbuf : List Nat} (hb : BytesOk gbuf) (hbl : gbuf.length + 16 < 2 ^ 64)
    (hf : (find_client_mut_by_addr g.clients ga : Res ε _) = .ok none)
    (hp : RustSem.AMap.find? g.pending_clients ga = none) {ge : SNErr}
    {st : List Nat × Option Src.renetcode.replay_protection.ReplayProtection}
    (hdec : decodeBare a gbuf g.protocol_id = .err (ge, st)) :
    ∃ g' buf', @NetcodeServer.process_packet (aeadOf a) ε g ga gbuf = .ok (g', buf', .None) ∧
      g' = { g with out := g'.out } := by
  obtain ⟨s, hr⟩ := hw
  obtain ⟨addr, buf, rfl, rfl, hbl'⟩ := inputs_repr hga hb hbl
  rw [hr.protocol_id] at hdec
  obtain ⟨e, rp', hD, _, _⟩ := decode_pull_err a hl buf hbl' s.protocolId none none hdec
  have hs : NetcodeServer.sessionOf s addr = none := by
    unfold NetcodeServer.sessionOf; rw [(find_by_addr_none hr).1 hf]; exact Option.map_eq_none_iff.1 ((hr.pendingFind addr).symm.trans hp)
  have hm := C07.server_unknown_address_noop a s addr buf hs (e := e) (by rw [hD])
  obtain ⟨⟨g', buf', _⟩, hg, hr', rfl⟩ := (process_packet_tie (ε := ε) a hl hr (hr.entries_pos.1 hent) addr buf hbl').push_ok hm
  exact ⟨g', buf', hg, same_of_repr hr hr'⟩

/-- the datagram is a VALID connection request for `g`, in generated terms: the generated `Packet::decode` (no key) reads a
    `ConnectionRequest` with the right version and protocol id, not expired, whose private token the generated
    `PrivateConnectToken::decode` opens under the server's `connect_key` -/
def GValidRequest (a : AEAD) (g : SNetcodeServer) (gbuf : List Nat) : Prop :=
  ∃ dbuf drp sq gv pid e gx gd tok,
    decodeBare a gbuf g.protocol_id = .ok (dbuf, drp, (sq, .ConnectionRequest gv pid e gx gd)) ∧
    gv = Src.renetcode.NETCODE_VERSION_INFO ∧ pid = g.protocol_id ∧ RustSem.Duration.as_secs g.current_time < e ∧
    @Src.renetcode.token.PrivateConnectToken.decode (aeadOf a) gd g.protocol_id e gx g.connect_key = .ok tok

/-- the datagram is a VALID response from `ga`: `ga` has a pending entry `gp`, the generated `Packet::decode` under `gp`'s key
    and window reads a `Response(ts, td)`, and the generated `ChallengeToken::decode` opens `td` under the challenge key to
    `gp`'s client id and user data -/
def GValidResponse (a : AEAD) (g : SNetcodeServer) (ga : RustSem.SocketAddr) (gbuf : List Nat) : Prop :=
  ∃ gp dbuf w' sq ts gtd ct, RustSem.AMap.find? g.pending_clients ga = some gp ∧
    decodeWith a gbuf g.protocol_id gp = .ok (dbuf, w', (sq, .Response ts gtd)) ∧
    @Src.renetcode.packet.ChallengeToken.decode (aeadOf a) gtd ts g.challenge_key = .ok ct ∧
    ct.client_id = gp.client_id ∧ ct.user_data = gp.user_data

/-- **C19 `no_answer_unless_valid`, on the generated `process_packet`.**  State: `WfS g`, INTRINSIC `SeqRoom (n+1) g`, token
    table not empty.  A datagram from an address that is not connected which is neither a valid connection request
    (`GValidRequest`) nor a valid response (`GValidResponse`) gets no answer — and nobody connects: `ServerResult::None`. -/
theorem no_answer_unless_valid {ε : Type} (a : AEAD) (hl : a.Laws) {n : Nat} {g : SNetcodeServer} (hw : WfS g)
    (hroom : SeqRoom (n + 1) g) (hent : 0 < g.connect_token_entries.length) {ga : RustSem.SocketAddr} (hga : AddrOk ga)
    {gbuf : List Nat} (hb : BytesOk gbuf) (hbl : gbuf.length + 16 < 2 ^ 64)
    (hf : (find_client_mut_by_addr g.clients ga : Res ε _) = .ok none)
    (hreq : ¬ GValidRequest a g gbuf) (hresp : ¬ GValidResponse a g ga gbuf)
    {g' : SNetcodeServer} {buf' : List Nat} {gr : SServerResult}
    (h : @NetcodeServer.process_packet (aeadOf a) ε g ga gbuf = .ok (g', buf', gr)) : gr = .None := by
  obtain ⟨s, hr⟩ := hw
  obtain ⟨addr, buf, rfl, rfl, hbl'⟩ := inputs_repr hga hb hbl
  obtain ⟨⟨r, s'⟩, hm, -, rfl⟩ := (process_packet_tie a hl hr (hr.entries_pos.1 hent) addr buf hbl').pull_ok h
  have hr0 : r = .none := by
    refine C19.no_answer_unless_valid a ((seqRoom_iff hr).1 hroom) ((find_by_addr_none hr).1 hf) hm ?_ ?_
    · rintro ⟨hlen, ht, v, pid, e, x, data, hread, hver, hpid, hexp, tok, htok⟩
      apply hreq
      have e0 := C19.request_min_eq
      have hD : Netcode.Packet.decode a buf s.protocolId none none = (.ok (0, .connectionRequest v pid e x data), none) := by
        rw [Netcode.Packet.decode_request_shape a s.protocolId none none (by omega) ht, hread]; rfl
      obtain ⟨dbuf, hgd⟩ := decode_push_ok a hl buf hbl' s.protocolId none none hD
      have hdl := (NetcodeServer.request_of_decode hD).2.2.2
      refine ⟨dbuf, none, 0, toNats v, pid, e, toNats x, toNats data, reprPTok tok, ?_, by rw [hver, ← version_info_eq], ?_, ?_, ?_⟩
      · rw [hr.protocol_id]; exact hgd
      · rw [hpid, hr.protocol_id]
      · rw [hr.current_time]; exact Nat.lt_of_not_ge hexp
      · rw [hr.protocol_id, hr.connect_key]
        obtain ⟨_, hg, rfl⟩ := (ptok_decode_tie a hl hdl s.protocolId e x s.connectKey).push_ok htok
        exact hg
    · rintro ⟨_, pending, seq, ts, td, ct, hpf, hdec1, hct, hid, hud⟩
      apply hresp
      obtain ⟨dbuf, rp', hgd⟩ := decode_push_ok' a hl buf hbl' s.protocolId (some pending.receiveKey)
        (some pending.replayProtection) hdec1
      have hwf := (NcAead.Packet.decode_wf (Prod.ext hdec1 rfl)).1.2
      refine ⟨reprNConn pending, dbuf, rp', seq, ts, toNats td, reprCT ct, ?_, ?_, ?_, hid, by
        show toNats ct.userData = toNats pending.userData; rw [hud]⟩
      · rw [hr.pendingFind, hpf]; rfl
      · rw [hr.protocol_id]; exact hgd
      · rw [hr.challenge_key]; exact challenge_push a hl hwf ts s.challengeKey hct
  rw [hr0]; rfl

/-! ## C05 — only a valid, unexpired, untampered connect token from its own address connects -/

/-- a pending connection promoted to a session; `sequence + 1`: the keep-alive that goes out with `ClientConnected` used one -/
def gPromoted (gp : SConnection) (w : Src.renetcode.replay_protection.ReplayProtection) (now : Nat) : SConnection :=
  { gp with replay_protection := w, last_packet_received_time := now, state := .Connected, last_packet_send_time := now
            sequence := gp.sequence + 1 }

/-- **C05 `connected_only_if`, on the generated `process_packet`.**  State: `GInv g` (= repr of a model state satisfying
    `NS.ServerInv`).  If the generated `process_packet` on a datagram from `ga` reports `ClientConnected id ga' ud ka`, then
      * `ga' = ga`; the generated pending map has an entry `gp` for `ga` with `gp.client_id = id`, `gp.user_data = ud`;
      * neither `ga` (generated finder) nor `id` (`find_client_by_id`) was connected;
      * the generated `Packet::decode` of the datagram under `gp`'s receive key and window returns a `Response(ts, td)`
        and a window `w'`;
      * the generated `ChallengeToken::decode` of `td` under the server's `challenge_key` returns EXACTLY `(id, ud)`;
      * slot `i` was free and now holds `gPromoted gp w' now`,
        every other slot is as before, and the pending entry of `ga` is removed. -/
theorem connected_only_if {ε : Type} (a : AEAD) (hl : a.Laws) {g : SNetcodeServer} (hg : GInv g)
    {ga : RustSem.SocketAddr} (hga : AddrOk ga) {gbuf : List Nat} (hb : BytesOk gbuf) (hbl : gbuf.length + 16 < 2 ^ 64)
    {g' : SNetcodeServer} {buf' : List Nat} {id : Nat} {ga' : RustSem.SocketAddr} {gud gka : List Nat}
    (h : @NetcodeServer.process_packet (aeadOf a) ε g ga gbuf = .ok (g', buf', .ClientConnected id ga' gud gka)) :
    ga' = ga ∧ ∃ gp, RustSem.AMap.find? g.pending_clients ga = some gp ∧ gp.client_id = id ∧ gp.user_data = gud ∧
      gp.addr = ga ∧
      (find_client_mut_by_addr g.clients ga : Res ε _) = .ok none ∧ (find_client_by_id g.clients id : Res ε _) = .ok none ∧
      ∃ dbuf w' sq ts gtd, decodeWith a gbuf g.protocol_id gp = .ok (dbuf, some w', (sq, .Response ts gtd)) ∧
        @Src.renetcode.packet.ChallengeToken.decode (aeadOf a) gtd ts g.challenge_key = .ok ⟨id, gud⟩ ∧
        ∃ i, g.clients[i]? = some none ∧
          g'.clients = g.clients.set i (some (gPromoted gp w' g.current_time)) ∧
          g'.pending_clients = RustSem.AMap.remove g.pending_clients ga := by
  obtain ⟨s, hr, hinv⟩ := hg
  obtain ⟨addr, buf, rfl, rfl, hbl'⟩ := inputs_repr hga hb hbl
  obtain ⟨⟨r, s'⟩, hm, hr', hres⟩ := (process_packet_tie a hl hr hinv.entriesPos addr buf hbl').pull_ok h
  obtain ⟨addr', ud, ka, rfl, rfl, rfl, rfl⟩ := reprNSR_clientConnected hres.symm
  obtain ⟨e1, p, sq, ts, td, w', i, hpf, hpid, hpud, hpad, hfa, hfi, hdec, hct, hfree, hcl, hpend, _⟩ :=
    C05.connected_only_if hinv hm
  refine ⟨by rw [e1], reprNConn p, ?_, hpid, by rw [← hpud]; rfl, by rw [← hpad]; rfl, (find_by_addr_none hr).2 hfa, ?_, ?_⟩
  · rw [hr.pendingFind, hpf]; rfl
  · rw [hr.clients, nc_find_client_by_id, hfi]; rfl
  · obtain ⟨dbuf, hgd⟩ := decode_push_ok a hl buf hbl' s.protocolId (some p.receiveKey) (some p.replayProtection) hdec
    have hwf := (NcAead.Packet.decode_wf hdec).1.2
    refine ⟨dbuf, reprRP w', sq, ts, toNats td, ?_, ?_, i, ?_, ?_, ?_⟩
    · rw [hr.protocol_id]; exact hgd
    · rw [hr.challenge_key]; exact challenge_push a hl hwf ts s.challengeKey hct
    · rw [hr.clients, List.getElem?_map, NS.firstFree_some hfree]; rfl
    · rw [hr'.clients, hcl, List.map_set, ← hr.clients, hr.current_time]; rfl
    · rw [hr'.pending, hpend, hr.pending]
      exact (amap_remove addr s.pendingClients).symm

/-- a reason for which a connection request with the fields `gv pid e gx gd` (as the generated `Packet::decode` returns
    them) is refused by the server `g`, in generated terms: wrong version, foreign protocol id, expired
    (`expire ≤ now.as_secs()`), the private token does not decode under the server's `connect_key` (tampered ciphertext /
    tag / public expiry / protocol id, or sealed with a foreign key: the generated `PrivateConnectToken::decode` returns
    `Err`), or — secure servers — it decodes but lists none of the server's public addresses (wrong host) -/
def GRejected (a : AEAD) (g : SNetcodeServer) (gv : List Nat) (pid e : Nat) (gx gd : List Nat) : Prop :=
  gv ≠ Src.renetcode.NETCODE_VERSION_INFO ∨ pid ≠ g.protocol_id ∨ e ≤ RustSem.Duration.as_secs g.current_time ∨
  (∃ ge, @Src.renetcode.token.PrivateConnectToken.decode (aeadOf a) gd g.protocol_id e gx g.connect_key = .err ge) ∨
  (g.secure = true ∧ ∃ gt, @Src.renetcode.token.PrivateConnectToken.decode (aeadOf a) gd g.protocol_id e gx g.connect_key
      = .ok gt ∧ ∀ x, some x ∈ gt.server_addresses → x ∉ g.public_addresses)

theorem request_pull (a : AEAD) (hl : a.Laws) (buf : Bytes) (hbl : buf.length + 16 < 2 ^ 64) (proto : Nat)
    {dbuf : List Nat} {drp : Option Src.renetcode.replay_protection.ReplayProtection} {sq : Nat} {gv gx gd : List Nat}
    {pid e : Nat} (hdec : decodeBare a (toNats buf) proto = .ok (dbuf, drp, (sq, .ConnectionRequest gv pid e gx gd))) :
    ∃ v x d rp', gv = toNats v ∧ gx = toNats x ∧ gd = toNats d ∧
      Netcode.Packet.decode a buf proto none none = (.ok (0, .connectionRequest v pid e x d), rp') := by
  obtain ⟨p, rp', hD, hp, _⟩ := decode_pull_ok a hl buf hbl proto none none hdec
  obtain ⟨v, x, d, rfl, rfl, rfl, rfl⟩ := reprNP_request hp.symm
  rcases Packet.decode_ok hD with ⟨_, rfl, _⟩ | ⟨k, _, _, hk, _⟩
  · exact ⟨v, x, d, rp', rfl, rfl, rfl, hD⟩
  · cases hk

theorem refused_repr {g g' : SNetcodeServer} {s s' : Netcode.NetcodeServer} (hr : SrvRepr g s) (hr' : SrvRepr g' s')
    (hses : NS.sessions s'.clients = NS.sessions s.clients)
    (hpend : ∀ y p', pendingFind s'.pendingClients y = some p' →
      ∃ p, pendingFind s.pendingClients y = some p ∧ NS.ident p' = NS.ident p) :
    g'.clients.map (Option.map gIdent) = g.clients.map (Option.map gIdent) ∧
      ∀ gy gp', RustSem.AMap.find? g'.pending_clients gy = some gp' →
        ∃ gp, RustSem.AMap.find? g.pending_clients gy = some gp ∧ gIdent gp' = gIdent gp := by
  refine ⟨by rw [hr'.clients, hr.clients, gSessions_repr, gSessions_repr, hses], fun gy gp' hfy => ?_⟩
  rw [hr'.pending] at hfy
  obtain ⟨y, rfl⟩ := amap_find_key hfy
  rw [← hr'.pending] at hfy
  obtain ⟨c', hc', rfl⟩ := pending_session hr' hfy
  obtain ⟨c0, hc0, hid⟩ := hpend y c' hc'
  refine ⟨reprNConn c0, by rw [hr.pendingFind, hc0]; rfl, ?_⟩
  rw [gIdent_repr, gIdent_repr, hid]

theorem grejected_not_accepted {a : AEAD} (hl : a.Laws) {g : SNetcodeServer} {s : Netcode.NetcodeServer} (hr : SrvRepr g s)
    {addr : Addr} {v x d : Bytes} {pid e : Nat} (hd : d.length = C.NETCODE_CONNECT_TOKEN_PRIVATE_BYTES)
    (h : GRejected a g (toNats v) pid e (toNats x) (toNats d)) (t : PrivateConnectToken) :
    ¬ NS.Accepted a s addr v pid e x d t := by
  have h16 : C.NETCODE_MAC_BYTES ≤ d.length := by rw [hd]; decide
  rw [GRejected, hr.protocol_id, hr.current_time, hr.connect_key] at h
  rcases h with h | h | h | ⟨ge, h⟩ | ⟨hs, gt, h, hh⟩
  · exact fun ha => h (by rw [ha.version, version_info_eq])
  · exact C05.foreign_protocol h t
  · exact C05.expired h t
  · obtain ⟨e', he', -⟩ := (ptok_decode_tie a hl hd s.protocolId e x s.connectKey).pull_err h
    intro ha
    rw [(tokenOpens_iff_decode h16).1 ha.opens] at he'; cases he'
  · obtain ⟨t0, ht0, rfl⟩ := (ptok_decode_tie a hl hd s.protocolId e x s.connectKey).pull_ok h
    have hs' : s.secure = true := by rw [hr.2] at hs; exact hs
    refine C05.wrong_host hs' ((tokenOpens_iff_decode h16).2 ht0) (fun y hy hmem => ?_) t
    refine hh (reprAddr y) ?_ ?_
    · exact List.mem_map.2 ⟨some y, hy, rfl⟩
    · rw [hr.2]; exact List.mem_map.2 ⟨y, hmem, rfl⟩

/-- **C05 `rejected_request` (+ `expired`, `foreign_protocol`, `tampered_or_foreign_key`, `wrong_host`), on the generated
    `process_packet`.**  State: `GInv g`.  If the generated `Packet::decode` (no key) reads the datagram as a connection
    request whose fields are `GRejected` (expired / foreign protocol / wrong version / private token not opening under the
    server key / wrong host), then `process_packet` answers `ServerResult::None`, the sessions in the slots are as before
    (`gIdent` of every slot), and every pending entry afterwards was there before with the same identity: nobody
    connects, no half-open session is created. -/
theorem rejected_request {ε : Type} (a : AEAD) (hl : a.Laws) {g : SNetcodeServer} (hg : GInv g)
    {ga : RustSem.SocketAddr} (hga : AddrOk ga) {gbuf : List Nat} (hb : BytesOk gbuf) (hbl : gbuf.length + 16 < 2 ^ 64)
    {dbuf : List Nat} {drp : Option Src.renetcode.replay_protection.ReplayProtection} {sq : Nat} {gv gx gd : List Nat}
    {pid e : Nat} (hdec : decodeBare a gbuf g.protocol_id = .ok (dbuf, drp, (sq, .ConnectionRequest gv pid e gx gd)))
    (hrej : GRejected a g gv pid e gx gd) {g' : SNetcodeServer} {buf' : List Nat} {gr : SServerResult}
    (h : @NetcodeServer.process_packet (aeadOf a) ε g ga gbuf = .ok (g', buf', gr)) :
    gr = .None ∧ GInv g' ∧ g'.clients.map (Option.map gIdent) = g.clients.map (Option.map gIdent) ∧
      ∀ gy gp', RustSem.AMap.find? g'.pending_clients gy = some gp' →
        ∃ gp, RustSem.AMap.find? g.pending_clients gy = some gp ∧ gIdent gp' = gIdent gp := by
  obtain ⟨s, hr, hinv⟩ := hg
  obtain ⟨addr, buf, rfl, rfl, hbl'⟩ := inputs_repr hga hb hbl
  rw [hr.protocol_id] at hdec
  obtain ⟨v, x, d, rp', rfl, rfl, rfl, hD⟩ := request_pull a hl buf hbl' s.protocolId hdec
  have hdl := (NetcodeServer.request_of_decode hD).2.2.2
  obtain ⟨⟨r, s'⟩, hm, hr', rfl⟩ := (process_packet_tie a hl hr hinv.entriesPos addr buf hbl').pull_ok h
  obtain ⟨rfl, hses, hpend⟩ := C05.rejected_request hinv hm (by rw [hD]) (grejected_not_accepted hl hr hdl hrej)
  exact ⟨rfl, ⟨s', hr', inv_pp hinv hm⟩, refused_repr hr hr' hses hpend⟩

/-- **C05 `token_address_binding_partial`, on the generated `process_packet`.**  State: `GInv g`.  A connection request
    whose token MAC (the last 16 bytes of the 1024-byte private token) is recorded in the generated token-entry table
    with ANOTHER address is refused from this address: `None`, same sessions, no new half-open session.
    MISSING (as in Props/C05): the table has `NETCODE_TOKEN_ENTRIES` = 2048 entries without expiry and overwrites the
    oldest one when full, so after 2048 OTHER accepted tokens the binding of a still unexpired token is forgotten
    (`C05.binding_lost_when_full`); the clause "a token used from one address never connects from another" holds only
    while its entry is in the table — which is what this theorem states. -/
theorem token_address_binding_partial {ε : Type} (a : AEAD) (hl : a.Laws) {g : SNetcodeServer} (hg : GInv g)
    {ga : RustSem.SocketAddr} (hga : AddrOk ga) {gbuf : List Nat} (hb : BytesOk gbuf) (hbl : gbuf.length + 16 < 2 ^ 64)
    {dbuf : List Nat} {drp : Option Src.renetcode.replay_protection.ReplayProtection} {sq : Nat} {gv gx gd : List Nat}
    {pid e : Nat} (hdec : decodeBare a gbuf g.protocol_id = .ok (dbuf, drp, (sq, .ConnectionRequest gv pid e gx gd)))
    {ge : Src.renetcode.server.ConnectTokenEntry} (he : some ge ∈ g.connect_token_entries)
    (hmac : ge.mac = gd.drop (Src.renetcode.NETCODE_CONNECT_TOKEN_PRIVATE_BYTES - Src.renetcode.NETCODE_MAC_BYTES))
    (hother : ge.address ≠ ga) {g' : SNetcodeServer} {buf' : List Nat} {gr : SServerResult}
    (h : @NetcodeServer.process_packet (aeadOf a) ε g ga gbuf = .ok (g', buf', gr)) :
    gr = .None ∧ GInv g' ∧ g'.clients.map (Option.map gIdent) = g.clients.map (Option.map gIdent) ∧
      ∀ gy gp', RustSem.AMap.find? g'.pending_clients gy = some gp' →
        ∃ gp, RustSem.AMap.find? g.pending_clients gy = some gp ∧ gIdent gp' = gIdent gp := by
  obtain ⟨s, hr, hinv⟩ := hg
  obtain ⟨addr, buf, rfl, rfl, hbl'⟩ := inputs_repr hga hb hbl
  rw [hr.protocol_id] at hdec
  obtain ⟨v, x, d, rp', rfl, rfl, rfl, hD⟩ := request_pull a hl buf hbl' s.protocolId hdec
  rw [hr.entries] at he
  obtain ⟨oe, hoe, hoe2⟩ := List.mem_map.1 he
  cases oe with
  | none => cases hoe2
  | some e0 =>
    simp only [Option.map_some, Option.some.injEq] at hoe2
    subst hoe2
    have hm0 : e0.mac = NS.tokenMac d := by
      have h1 : toNats e0.mac = (toNats d).drop (C.NETCODE_CONNECT_TOKEN_PRIVATE_BYTES - C.NETCODE_MAC_BYTES) := hmac
      rw [← toNats_drop] at h1
      exact toNats_inj h1
    have ha0 : e0.address ≠ addr := fun hh => hother (by show reprAddr e0.address = _; rw [hh])
    obtain ⟨⟨r, s'⟩, hm, hr', rfl⟩ := (process_packet_tie a hl hr hinv.entriesPos addr buf hbl').pull_ok h
    obtain ⟨rfl, hses, hpend⟩ := C05.token_address_binding_partial hinv hm (by rw [hD]) hoe hm0 ha0
    exact ⟨rfl, ⟨s', hr', inv_pp hinv hm⟩, refused_repr hr hr' hses hpend⟩

/-! ## C10 — the connection table: unique ids, unique addresses, bounded; a full server refuses -/

/-- INTRINSIC table invariant of a generated server: the connected slots hold pairwise distinct `client_id`s and pairwise
    distinct `addr`s, all in state `Connected`; the connected clients do not outnumber the slots;
    `max_clients ≤ #slots ≤ NETCODE_MAX_CLIENTS`. -/
def TableOK (g : SNetcodeServer) : Prop :=
  (∀ (i j : Nat) (ci cj : SConnection), g.clients[i]? = some (some ci) → g.clients[j]? = some (some cj) →
    ci.client_id = cj.client_id → i = j) ∧
  (∀ (i j : Nat) (ci cj : SConnection), g.clients[i]? = some (some ci) → g.clients[j]? = some (some cj) →
    ci.addr = cj.addr → i = j) ∧
  (∀ (i : Nat) (c : SConnection), g.clients[i]? = some (some c) → c.state = .Connected) ∧
  (g.clients.filter Option.isSome).length ≤ g.clients.length ∧
  g.max_clients ≤ g.clients.length ∧ g.clients.length ≤ Src.renetcode.NETCODE_MAX_CLIENTS

theorem table_distinct {g : SNetcodeServer} (hg : GInv g) : TableOK g := by
  obtain ⟨s, hr, hinv⟩ := hg
  refine ⟨?_, ?_, ?_, List.length_filter_le _ _, ?_, ?_⟩
  · intro i j ci cj hi hj hid
    obtain ⟨c1, h1, rfl⟩ := slot_of_repr hr hi
    obtain ⟨c2, h2, rfl⟩ := slot_of_repr hr hj
    exact hinv.slots.ids i j c1 c2 h1 h2 hid
  · intro i j ci cj hi hj had
    obtain ⟨c1, h1, rfl⟩ := slot_of_repr hr hi
    obtain ⟨c2, h2, rfl⟩ := slot_of_repr hr hj
    exact hinv.slots.addrs i j c1 c2 h1 h2 (reprAddr_inj had)
  · intro i c hi
    obtain ⟨c1, h1, rfl⟩ := slot_of_repr hr hi
    have := hinv.slots.conn i c1 h1
    show reprCS c1.state = .Connected
    rw [this]; rfl
  · rw [hr.max_clients, hr.clients, List.length_map]; exact hinv.maxLe
  · rw [hr.clients, List.length_map]; exact hinv.lenLe

theorem ginv_step {a : AEAD} {s s' : Netcode.NetcodeServer} {op : NS.Op} {r : Netcode.ServerResult}
    (hinv : NS.ServerInv s) (hs : NS.step a s op = some (r, s')) {g' : SNetcodeServer} (hr' : SrvRepr g' s') :
    GInv g' ∧ TableOK g' :=
  have hg : GInv g' := ⟨s', hr', C10.inv_step hinv hs⟩
  ⟨hg, table_distinct hg⟩

/-- **C10 `inv_new`**: the generated `NetcodeServer::new` (random challenge key as explicit parameter), when it returns
    `Ok`, establishes the invariant: `GInv`, hence `TableOK`; `max_clients` slots. -/
theorem inv_new {ε : Type} (ct mc pid : Nat) (addrs : List Addr) (secure : Bool) (pk ck : Bytes) {g : SNetcodeServer}
    (h : (Src.renetcode.server.NetcodeServer.new ⟨ct, mc, pid, addrs.map reprAddr, reprAuth secure pk⟩ (toNats ck) : Res ε _)
      = .ok g) : GInv g ∧ TableOK g ∧ g.clients.length = g.max_clients := by
  have t := nc_server_new (ε := ε) ct mc pid addrs secure pk ck
  rw [h] at t
  cases hm : Netcode.NetcodeServer.new ct mc pid addrs secure pk ck with
  | ok s =>
    rw [hm] at t
    have hg : g = reprNS (List.replicate C.NETCODE_MAX_PACKET_BYTES 0) s := t
    obtain ⟨hinv, _, hlen⟩ := C10.inv_new hm
    have hr : SrvRepr g s := by rw [hg]; exact srvRepr_mk (List.length_replicate ..) s
    exact ⟨⟨s, hr, hinv⟩, table_distinct ⟨s, hr, hinv⟩, by rw [hr.clients, List.length_map, hlen, hr.max_clients]⟩
  | err e => exact e.elim
  | panic m => rw [hm] at t; exact t.elim

/-- **C10 `inv_step`, `process_packet`**: for every source address and every datagram, whatever the generated
    `process_packet` returns, the post-state satisfies `GInv` (hence `TableOK`: ids and addresses of the connected slots
    pairwise distinct, count ≤ slots). -/
theorem process_packet_inv {ε : Type} (a : AEAD) (hl : a.Laws) {g : SNetcodeServer} (hg : GInv g)
    {ga : RustSem.SocketAddr} (hga : AddrOk ga) {gbuf : List Nat} (hb : BytesOk gbuf) (hbl : gbuf.length + 16 < 2 ^ 64)
    {g' : SNetcodeServer} {buf' : List Nat} {gr : SServerResult}
    (h : @NetcodeServer.process_packet (aeadOf a) ε g ga gbuf = .ok (g', buf', gr)) : GInv g' ∧ TableOK g' := by
  obtain ⟨s, hr, hinv⟩ := hg
  obtain ⟨addr, buf, rfl, rfl, hbl'⟩ := inputs_repr hga hb hbl
  obtain ⟨⟨r, s'⟩, hm, hr', -⟩ := (process_packet_tie a hl hr hinv.entriesPos addr buf hbl').pull_ok h
  exact ginv_step (a := a) (op := .packet addr buf) (r := r) hinv (NS.pp_of_step.mpr hm) hr'

/-- **C10 `inv_step`, `update_client`** -/
theorem update_client_inv {ε : Type} (a : AEAD) (hl : a.Laws) {g : SNetcodeServer} (hg : GInv g) (id : Nat)
    {g' : SNetcodeServer} {gr : SServerResult}
    (h : @NetcodeServer.update_client (aeadOf a) ε g id = .ok (g', gr)) : GInv g' ∧ TableOK g' := by
  obtain ⟨s, hr, hinv⟩ := hg
  obtain ⟨⟨r, s'⟩, hm, hr', -⟩ := (update_client_tie (ε := ε) a hl hr hinv.timeouts id).pull_ok h
  exact ginv_step (a := a) (op := .updateClient id) (r := r) hinv (by simp only [NS.step, hm]) hr'

/-- **C10 `inv_step`, `disconnect`** -/
theorem disconnect_inv {ε : Type} (a : AEAD) (hl : a.Laws) {g : SNetcodeServer} (hg : GInv g) (id : Nat)
    {g' : SNetcodeServer} {gr : SServerResult}
    (h : @Src.renetcode.server.NetcodeServer.disconnect (aeadOf a) ε g id = .ok (g', gr)) : GInv g' ∧ TableOK g' := by
  obtain ⟨s, hr, hinv⟩ := hg
  obtain ⟨⟨r, s'⟩, hm, hr', -⟩ := (disconnect_tie (ε := ε) a hl hr id).pull_ok h
  exact ginv_step (a := a) (op := .disconnect id) (r := r) hinv (by simp only [NS.step, hm]) hr'

/-- **C10 `inv_step`, `update`** (no AEAD involved) -/
theorem update_inv {ε : Type} {g : SNetcodeServer} (hg : GInv g) (dt : Nat) {g' : SNetcodeServer}
    (h : (Src.renetcode.server.NetcodeServer.update g dt : Res ε _) = .ok (g', ())) : GInv g' ∧ TableOK g' := by
  obtain ⟨s, hr, hinv⟩ := hg
  obtain ⟨s', hm, hr'⟩ := (update_tie (ε := ε) hr hinv.pendLive dt).pull_ok h
  exact ginv_step (a := AEAD.toy) (op := .update dt) (r := .none) hinv (by simp only [NS.step, hm]) hr'

/-- **C10 `inv_step`, `generate_payload_packet`**: after `Ok` and after `Err` (the state carried by the `Err`) -/
theorem generate_payload_inv (a : AEAD) (hl : a.Laws) {g : SNetcodeServer} (hg : GInv g) (id : Nat) {gp : List Nat}
    (hb : BytesOk gp) :
    (∀ g' x, @NetcodeServer.generate_payload_packet (aeadOf a) g id gp = .ok (g', x) → GInv g' ∧ TableOK g') ∧
    (∀ e g', @NetcodeServer.generate_payload_packet (aeadOf a) g id gp = .err (e, g') → GInv g' ∧ TableOK g') := by
  obtain ⟨s, hr, hinv⟩ := hg
  obtain ⟨payload, rfl⟩ := (bytesOk_iff gp).1 hb
  have t := generate_payload_tie a hl hr id payload
  refine ⟨fun g' x h => ?_, fun e g' h => ?_⟩
  · obtain ⟨⟨⟨addr, out⟩, s'⟩, hm, hr', -⟩ := t.pull_ok h
    exact ginv_step (a := a) (op := .sendPayload id payload) (r := .packetToSend addr out) hinv
      (by simp only [NS.step, hm]) hr'
  · obtain ⟨-, -, -, hr'⟩ := t.pull_err h
    exact ⟨⟨s, hr', hinv⟩, table_distinct ⟨s, hr', hinv⟩⟩

/-- the datagram `o` is what the generated `Packet::encode` makes of a `ConnectionDenied` packet (into the server's scratch
    buffer) under the server's protocol id and global sequence number and some key -/
def GIsDenied (a : AEAD) (g : SNetcodeServer) (o : List Nat) : Prop :=
  ∃ key : List Nat, GEncodes a g .ConnectionDenied g.global_sequence key o

/-- **C10 `full_refuses`, on the generated `process_packet`.**  State: `GInv g`.  When no slot is free (every entry of
    `g.clients` is `Some`) a datagram from an address that is not connected — request, response, anything — changes no
    slot; the answer is `None` or one `PacketToSend` to that address carrying a `ConnectionDenied` packet (`GIsDenied`). -/
theorem full_refuses {ε : Type} (a : AEAD) (hl : a.Laws) {g : SNetcodeServer} (hg : GInv g)
    (hfull : ∀ i : Nat, g.clients[i]? ≠ some none)
    {ga : RustSem.SocketAddr} (hga : AddrOk ga) {gbuf : List Nat} (hb : BytesOk gbuf) (hbl : gbuf.length + 16 < 2 ^ 64)
    (hna : (find_client_mut_by_addr g.clients ga : Res ε _) = .ok none)
    {g' : SNetcodeServer} {buf' : List Nat} {gr : SServerResult}
    (h : @NetcodeServer.process_packet (aeadOf a) ε g ga gbuf = .ok (g', buf', gr)) :
    g'.clients = g.clients ∧ (gr = .None ∨ ∃ o, gr = .PacketToSend ga o ∧ GIsDenied a g o) := by
  obtain ⟨s, hr, hinv⟩ := hg
  obtain ⟨addr, buf, rfl, rfl, hbl'⟩ := inputs_repr hga hb hbl
  have hfull' : firstFreeSlot s.clients = none := by
    rw [NS.firstFree_none]
    intro i hi
    apply hfull i
    rw [hr.clients, List.getElem?_map, hi]; rfl
  obtain ⟨⟨r, s'⟩, hm, hr', rfl⟩ := (process_packet_tie a hl hr hinv.entriesPos addr buf hbl').pull_ok h
  obtain ⟨hcl, hres⟩ := C10.full_refuses hinv hfull' ((find_by_addr_none hr).1 hna) hm
  refine ⟨by rw [hr'.clients, hcl, hr.clients], ?_⟩
  rcases hres with rfl | ⟨out, rfl, key, hden⟩
  · exact .inl rfl
  · refine .inr ⟨toNats out, rfl, toNats key, ?_⟩
    rw [hr.global_sequence]
    exact gencodes_push a hl hr hden

/-! ## C07 — hostile datagrams: no panic, no state change -/

/-- **C07 `server_process_packet_total`, on the generated `process_packet`.**  State: `WfS g` (representable), INTRINSIC
    counter room `SeqRoom (n+1) g`, token table not empty.  For EVERY source address and EVERY datagram the generated
    function returns `Ok` — it never returns `.panic` —, and the post-state is representable with room `n`. -/
theorem process_packet_total {ε : Type} (a : AEAD) (hl : a.Laws) {n : Nat} {g : SNetcodeServer} (hw : WfS g)
    (hroom : SeqRoom (n + 1) g) (hent : 0 < g.connect_token_entries.length) {ga : RustSem.SocketAddr} (hga : AddrOk ga)
    {gbuf : List Nat} (hb : BytesOk gbuf) (hbl : gbuf.length + 16 < 2 ^ 64) :
    ∃ g' buf' gr, @NetcodeServer.process_packet (aeadOf a) ε g ga gbuf = .ok (g', buf', gr) ∧ WfS g' ∧ SeqRoom n g' := by
  obtain ⟨s, hr⟩ := hw
  obtain ⟨addr, buf, rfl, rfl, hbl'⟩ := inputs_repr hga hb hbl
  obtain ⟨r, s', hm, hinv'⟩ := C07.server_process_packet_total a ((seqRoom_iff hr).1 hroom) addr buf
  obtain ⟨⟨g', buf', _⟩, hg, hr', rfl⟩ := (process_packet_tie (ε := ε) a hl hr (hr.entries_pos.1 hent) addr buf hbl').push_ok hm
  exact ⟨g', buf', _, hg, ⟨s', hr'⟩, (seqRoom_iff hr').2 hinv'⟩

theorem process_packet_no_panic {ε : Type} (a : AEAD) (hl : a.Laws) {n : Nat} {g : SNetcodeServer} (hw : WfS g)
    (hroom : SeqRoom (n + 1) g) (hent : 0 < g.connect_token_entries.length) {ga : RustSem.SocketAddr} (hga : AddrOk ga)
    {gbuf : List Nat} (hb : BytesOk gbuf) (hbl : gbuf.length + 16 < 2 ^ 64) :
    NoPanic (@NetcodeServer.process_packet (aeadOf a) ε g ga gbuf) := by
  obtain ⟨g', buf', gr, h, _⟩ := process_packet_total (ε := ε) a hl hw hroom hent hga hb hbl
  exact noPanic_of_eq_ok h

/-- C07 `server_decode_error_noop` for the session `c` of the source address, connected or half-open, up to the place where
    the window is stored (`withWindow`): `None`; unchanged up to the scratch buffer, or — `IoError` only — the window replaced -/
theorem decode_error_noop_session {ε : Type} (a : AEAD) (hl : a.Laws) {g : SNetcodeServer} {s : Netcode.NetcodeServer}
    (hr : SrvRepr g s) (hent : 0 < s.connectTokenEntries.length) {addr : Addr} {buf : Bytes}
    (hbl : buf.length + 16 < 2 ^ 64) {c : Netcode.Connection} (hs : NetcodeServer.sessionOf s addr = some c) {ge : SNErr}
    {st : List Nat × Option Src.renetcode.replay_protection.ReplayProtection}
    (hdec : gDecode a buf s.protocolId (some c.receiveKey) (some c.replayProtection) = .err (ge, st)) :
    ∃ g' buf', @NetcodeServer.process_packet (aeadOf a) ε g (reprAddr addr) (toNats buf) = .ok (g', buf', .None) ∧
      ((st.2 = some (reprRP c.replayProtection) ∧ g' = { g with out := g'.out }) ∨
       (ge = .IoError .opaque ∧ ∃ w, st.2 = some (reprRP w) ∧ SrvRepr g' (NetcodeServer.withWindow s addr w))) := by
  obtain ⟨e, rp', hD, rfl, hst⟩ :=
    decode_pull_err a hl buf hbl s.protocolId (some c.receiveKey) (some c.replayProtection) hdec
  obtain ⟨⟨g', buf', _⟩, hg, hr', rfl⟩ := (process_packet_tie (ε := ε) a hl hr hent addr buf hbl).push_ok
    (NetcodeServer.processPacket_decode_err a s addr buf hs hD)
  refine ⟨g', buf', hg, ?_⟩
  rcases C04.decode_error_window hD with rfl | ⟨k, plain, hk, hso, hdup, hlen, he, rfl⟩
  · rw [Option.getD_some, NetcodeServer.withWindow_self hs] at hr'
    exact .inl ⟨hst, same_of_repr hr hr'⟩
  · exact .inr ⟨by rw [he]; rfl, c.replayProtection.advance (Packet.wireSeq buf), hst, hr'⟩

/-- **C07 `server_decode_error_noop`, connected session.**  State: `WfS g`, token table not empty.  The source address
    is connected in slot `i` (generated finder) holding `gc`; the generated `Packet::decode` under `gc`'s receive key and
    window returns `Err(ge)` handing back the window `st.2`.  Then `process_packet` answers `ServerResult::None` and
      * either the window came back untouched and the server is unchanged up to its scratch buffer,
      * or — only for `ge = IoError` (an authentic keep-alive with a short body, see C07) — exactly the window of slot
        `i` is replaced by the one `decode` handed back. -/
theorem decode_error_noop_connected {ε : Type} (a : AEAD) (hl : a.Laws) {g : SNetcodeServer} (hw : WfS g)
    (hent : 0 < g.connect_token_entries.length) {ga : RustSem.SocketAddr} (hga : AddrOk ga)
    {gbuf : List Nat} (hb : BytesOk gbuf) (hbl : gbuf.length + 16 < 2 ^ 64) {i : Nat} {gc : SConnection}
    (hf : (find_client_mut_by_addr g.clients ga : Res ε _) = .ok (some i)) (hi : g.clients[i]? = some (some gc))
    {ge : SNErr} {st : List Nat × Option Src.renetcode.replay_protection.ReplayProtection}
    (hdec : decodeWith a gbuf g.protocol_id gc = .err (ge, st)) :
    ∃ g' buf', @NetcodeServer.process_packet (aeadOf a) ε g ga gbuf = .ok (g', buf', .None) ∧
      ((st.2 = some gc.replay_protection ∧ g' = { g with out := g'.out }) ∨
       (ge = .IoError .opaque ∧ ∃ w, st.2 = some w ∧
          g' = { g with out := g'.out, clients := g.clients.set i (some { gc with replay_protection := w }) })) := by
  obtain ⟨s, hr⟩ := hw
  obtain ⟨addr, buf, rfl, rfl, hbl'⟩ := inputs_repr hga hb hbl
  obtain ⟨c, hfc, rfl⟩ := connected_session hr hf hi
  rw [hr.protocol_id] at hdec
  have hs : NetcodeServer.sessionOf s addr = some c := by unfold NetcodeServer.sessionOf; rw [hfc]
  obtain ⟨g', buf', hg, hcase⟩ := decode_error_noop_session (ε := ε) a hl hr (hr.entries_pos.1 hent) hbl' hs hdec
  refine ⟨g', buf', hg, ?_⟩
  rcases hcase with hsame | ⟨he, w, hst, hr'⟩
  · exact .inl hsame
  · refine .inr ⟨he, reprRP w, hst, ?_⟩
    simp only [NetcodeServer.withWindow, hfc] at hr'
    exact repr_set_client hr hr'

/-- **C07 `server_decode_error_noop`, pending session**: the same for an address with a half-open session `gp`
    (not connected): `None`; unchanged up to the scratch buffer, or — `IoError` only — the pending entry's window replaced. -/
theorem decode_error_noop_pending {ε : Type} (a : AEAD) (hl : a.Laws) {g : SNetcodeServer} (hw : WfS g)
    (hent : 0 < g.connect_token_entries.length) {ga : RustSem.SocketAddr} (hga : AddrOk ga)
    {gbuf : List Nat} (hb : BytesOk gbuf) (hbl : gbuf.length + 16 < 2 ^ 64)
    (hf : (find_client_mut_by_addr g.clients ga : Res ε _) = .ok none) {gp : SConnection}
    (hp : RustSem.AMap.find? g.pending_clients ga = some gp)
    {ge : SNErr} {st : List Nat × Option Src.renetcode.replay_protection.ReplayProtection}
    (hdec : decodeWith a gbuf g.protocol_id gp = .err (ge, st)) :
    ∃ g' buf', @NetcodeServer.process_packet (aeadOf a) ε g ga gbuf = .ok (g', buf', .None) ∧
      ((st.2 = some gp.replay_protection ∧ g' = { g with out := g'.out }) ∨
       (ge = .IoError .opaque ∧ ∃ w, st.2 = some w ∧
          g' = { g with out := g'.out,
                        pending_clients := RustSem.AMap.insert g.pending_clients ga { gp with replay_protection := w } })) := by
  obtain ⟨s, hr⟩ := hw
  obtain ⟨addr, buf, rfl, rfl, hbl'⟩ := inputs_repr hga hb hbl
  obtain ⟨c, hpc, rfl⟩ := pending_session hr hp
  have hf' := (find_by_addr_none hr).1 hf
  rw [hr.protocol_id] at hdec
  have hs : NetcodeServer.sessionOf s addr = some c := by unfold NetcodeServer.sessionOf; rw [hf', hpc]
  obtain ⟨g', buf', hg, hcase⟩ := decode_error_noop_session (ε := ε) a hl hr (hr.entries_pos.1 hent) hbl' hs hdec
  refine ⟨g', buf', hg, ?_⟩
  rcases hcase with hsame | ⟨he, w, hst, hr'⟩
  · exact .inl hsame
  · refine .inr ⟨he, reprRP w, hst, ?_⟩
    simp only [NetcodeServer.withWindow, hf', hpc] at hr'
    exact repr_set_pending hr hr'

/-- **C19 `no_answer_to_undecodable`, pending address.**  State: `WfS g`, token table not empty.  A datagram from an
    address that is not connected but has a half-open session `gp`, on which the generated `Packet::decode` under that
    session's key and window returns `Err`, gets no answer: `ServerResult::None` (the first half of C07
    `decode_error_noop_pending`). -/
theorem no_answer_undecodable_pending {ε : Type} (a : AEAD) (hl : a.Laws) {g : SNetcodeServer} (hw : WfS g)
    (hent : 0 < g.connect_token_entries.length) {ga : RustSem.SocketAddr} (hga : AddrOk ga)
    {gbuf : List Nat} (hb : BytesOk gbuf) (hbl : gbuf.length + 16 < 2 ^ 64)
    (hf : (find_client_mut_by_addr g.clients ga : Res ε _) = .ok none) {gp : SConnection}
    (hp : RustSem.AMap.find? g.pending_clients ga = some gp) {ge : SNErr}
    {st : List Nat × Option Src.renetcode.replay_protection.ReplayProtection}
    (hdec : decodeWith a gbuf g.protocol_id gp = .err (ge, st)) :
    ∃ g' buf', @NetcodeServer.process_packet (aeadOf a) ε g ga gbuf = .ok (g', buf', .None) :=
  let ⟨g', buf', h, _⟩ := decode_error_noop_pending (ε := ε) a hl hw hent hga hb hbl hf hp hdec
  ⟨g', buf', h⟩

/-- **C07 `server_request_from_connected_noop` (repaired defect D12), on the generated `process_packet`.**  State: `WfS g`,
    token table not empty.  ANY datagram of connection-request shape (type nibble 0) from the address of a connected
    client — valid token or not — yields `None` and changes nothing (up to the scratch buffer). -/
theorem request_from_connected_noop {ε : Type} (a : AEAD) (hl : a.Laws) {g : SNetcodeServer} (hw : WfS g)
    (hent : 0 < g.connect_token_entries.length) {ga : RustSem.SocketAddr} (hga : AddrOk ga)
    {gbuf : List Nat} (hb : BytesOk gbuf) (hbl : gbuf.length + 16 < 2 ^ 64) {i : Nat}
    (hf : (find_client_mut_by_addr g.clients ga : Res ε _) = .ok (some i)) (ht : gbuf.headD 0 % 16 = 0) :
    ∃ g' buf', @NetcodeServer.process_packet (aeadOf a) ε g ga gbuf = .ok (g', buf', .None) ∧
      g' = { g with out := g'.out } := by
  obtain ⟨s, hr⟩ := hw
  obtain ⟨addr, buf, rfl, rfl, hbl'⟩ := inputs_repr hga hb hbl
  obtain ⟨c, hfc⟩ := find_by_addr_some hr hf
  have ht' : Packet.wireType buf = 0 := by
    have h0 : (toNats buf).headD 0 = (buf.headD 0).toNat := by cases buf <;> rfl
    rw [h0] at ht; exact ht
  obtain ⟨⟨g', buf', _⟩, hg, hr', rfl⟩ := (process_packet_tie (ε := ε) a hl hr (hr.entries_pos.1 hent) addr buf hbl').push_ok
    (C07.server_request_from_connected_noop a s addr buf hfc ht')
  exact ⟨g', buf', hg, same_of_repr hr hr'⟩

def gTouched (gp : SConnection) (now : Nat) : SConnection := { gp with last_packet_received_time := now }

/-- **C07 `server_invalid_request_noop`, on the generated `process_packet`.**  State: `WfS g`, token table not empty.  A
    connection request (as the generated `Packet::decode` reads it; unauthenticated by design) whose version / protocol id
    / expiry / private token does not pass, from an address that is not connected: `None`; NOTHING changes, except the
    receive time of a pending entry at that address (never read before the response path overwrites it). -/
theorem invalid_request_noop {ε : Type} (a : AEAD) (hl : a.Laws) {g : SNetcodeServer} (hw : WfS g)
    (hent : 0 < g.connect_token_entries.length) {ga : RustSem.SocketAddr} (hga : AddrOk ga)
    {gbuf : List Nat} (hb : BytesOk gbuf) (hbl : gbuf.length + 16 < 2 ^ 64)
    (hf : (find_client_mut_by_addr g.clients ga : Res ε _) = .ok none)
    {dbuf : List Nat} {drp : Option Src.renetcode.replay_protection.ReplayProtection} {sq : Nat} {gv gx gd : List Nat}
    {pid e : Nat} (hdec : decodeBare a gbuf g.protocol_id = .ok (dbuf, drp, (sq, .ConnectionRequest gv pid e gx gd)))
    (hbad : gv ≠ Src.renetcode.NETCODE_VERSION_INFO ∨ pid ≠ g.protocol_id ∨ e ≤ RustSem.Duration.as_secs g.current_time ∨
      ∃ ge, @Src.renetcode.token.PrivateConnectToken.decode (aeadOf a) gd g.protocol_id e gx g.connect_key = .err ge) :
    ∃ g' buf', @NetcodeServer.process_packet (aeadOf a) ε g ga gbuf = .ok (g', buf', .None) ∧
      ((RustSem.AMap.find? g.pending_clients ga = none ∧ g' = { g with out := g'.out }) ∨
       ∃ gp, RustSem.AMap.find? g.pending_clients ga = some gp ∧
         g' = { g with out := g'.out
                       pending_clients := RustSem.AMap.insert g.pending_clients ga (gTouched gp g.current_time) }) := by
  obtain ⟨s, hr⟩ := hw
  obtain ⟨addr, buf, rfl, rfl, hbl'⟩ := inputs_repr hga hb hbl
  rw [hr.protocol_id] at hdec
  obtain ⟨v, x, d, rp', rfl, rfl, rfl, hD⟩ := request_pull a hl buf hbl' s.protocolId hdec
  obtain ⟨_, ⟨hlen, ht⟩, hread, hdl⟩ := NetcodeServer.request_of_decode hD
  have e0 := C19.request_min_eq
  have hinvalid : NetcodeServer.InvalidRequest a s v pid e x d := by
    rw [hr.protocol_id, hr.current_time, hr.connect_key] at hbad
    rcases hbad with h | h | h | ⟨ge, h⟩
    · exact .inl (fun hv => h (by rw [hv, version_info_eq]))
    · exact .inr (.inl h)
    · exact .inr (.inr (.inl h))
    · obtain ⟨e', he', -⟩ := (ptok_decode_tie a hl hdl s.protocolId e x s.connectKey).pull_err h
      exact .inr (.inr (.inr (fun tok ht => by rw [ht] at he'; cases he')))
  obtain ⟨⟨g', buf', _⟩, hg, hr', rfl⟩ := (process_packet_tie (ε := ε) a hl hr (hr.entries_pos.1 hent) addr buf hbl').push_ok
    (C07.server_invalid_request_noop a s addr buf ((find_by_addr_none hr).1 hf) hread ht (by omega) hinvalid)
  refine ⟨g', buf', hg, ?_⟩
  cases hpf : pendingFind s.pendingClients addr with
  | none =>
    rw [hpf] at hr'
    exact .inl ⟨by rw [hr.pendingFind, hpf]; rfl, same_of_repr hr hr'⟩
  | some c =>
    rw [hpf] at hr'
    refine .inr ⟨reprNConn c, by rw [hr.pendingFind, hpf]; rfl, ?_⟩
    exact hr.current_time ▸ repr_set_pending hr hr'

/-! ## C04 — payloads: only authentic ones surface, each at most once -/

/-- a connection after an accepted payload / keep-alive -/
def gReceived (gc : SConnection) (w : Src.renetcode.replay_protection.ReplayProtection) (now : Nat) : SConnection :=
  { gc with replay_protection := w, last_packet_received_time := now, confirmed := true }

/-- **C04 `server_payload_only_if_opened`, on the generated `process_packet`.**  State: `WfS g`, token table not empty.  If the generated `process_packet` surfaces `Payload(cid, p)` then: the source
    address is connected in some slot `i` (generated finder) holding `gc` in state `Connected` with `gc.client_id = cid`;
    the generated `Packet::decode` of the datagram under `gc`'s receive key and window returned `Payload(p)` with sequence
    `sq` = the sequence bytes of the datagram (`gWireSeq`) — so the AEAD opened the body under that key, nonce `sq` and
    the header's additional data —; the generated
    `already_received(gc.replay_protection, sq)` says `false`; and afterwards slot `i` holds `gc` with the window `decode`
    handed back (advanced by `sq`: it now reports `sq` as received — the EMPTY marker `2^64-1` aside, C04's excluded
    point) and receive timer := now — nothing else changes. -/
theorem payload_only_if_opened {ε : Type} (a : AEAD) (hl : a.Laws) {g : SNetcodeServer} (hw : WfS g)
    (hent : 0 < g.connect_token_entries.length) {ga : RustSem.SocketAddr} (hga : AddrOk ga)
    {gbuf : List Nat} (hb : BytesOk gbuf) (hbl : gbuf.length + 16 < 2 ^ 64)
    {g' : SNetcodeServer} {buf' : List Nat} {cid : Nat} {gp : List Nat}
    (h : @NetcodeServer.process_packet (aeadOf a) ε g ga gbuf = .ok (g', buf', .Payload cid gp)) :
    ∃ i gc, (find_client_mut_by_addr g.clients ga : Res ε _) = .ok (some i) ∧ g.clients[i]? = some (some gc) ∧
      gc.state = .Connected ∧ cid = gc.client_id ∧
      ∃ dbuf w' sq, decodeWith a gbuf g.protocol_id gc = .ok (dbuf, some w', (sq, .Payload gp)) ∧ sq = gWireSeq gbuf ∧
        (Src.renetcode.replay_protection.ReplayProtection.already_received gc.replay_protection sq : Res ε Bool) = .ok false ∧
        (sq ≠ 2 ^ 64 - 1 →
          (Src.renetcode.replay_protection.ReplayProtection.already_received w' sq : Res ε Bool) = .ok true) ∧
        g' = { g with out := g'.out, clients := g.clients.set i (some (gReceived gc w' g.current_time)) } := by
  obtain ⟨s, hr⟩ := hw
  obtain ⟨addr, buf, rfl, rfl, hbl'⟩ := inputs_repr hga hb hbl
  obtain ⟨⟨r, s'⟩, hm, hr', hres⟩ := (process_packet_tie a hl hr (hr.entries_pos.1 hent) addr buf hbl').pull_ok h
  obtain ⟨p, rfl, rfl⟩ := reprNSR_payload hres.symm
  obtain ⟨i, c, sq, rp', hf, hst, hcid, hdec, hs'⟩ :=
    NetcodeServer.processPacket_payload_inv a hm
  obtain ⟨k, hk, hsq, hso, hfresh, hrp⟩ := C04.payload_surfaced_only_if_opened hdec
  have hlt : sq < 2 ^ 64 := by rw [hsq]; exact Packet.wireSeq_lt hso.seq_len
  subst hrp
  obtain ⟨dbuf, hgd⟩ := decode_push_ok a hl buf hbl' s.protocolId (some c.receiveKey) (some c.replayProtection) hdec
  refine ⟨i, reprNConn c, ?_, slot_to_repr hr (nc_find_client_by_addr_slot hf), by show reprCS c.state = _; rw [hst]; rfl,
    hcid, dbuf, reprRP (c.replayProtection.advance sq), sq, ?_, by rw [gWireSeq_toNats, hsq], ?_, ?_, ?_⟩
  · rw [hr.clients, nc_find_client_mut_by_addr, hf]; rfl
  · rw [hr.protocol_id]; exact hgd
  · show (Src.renetcode.replay_protection.ReplayProtection.already_received (reprRP c.replayProtection) sq : Res ε Bool) = _
    rw [already_received_eq _ _ hlt, hfresh _ rfl]
  · intro hne
    rw [already_received_eq _ _ hlt, RP.alreadyReceived_advance_self _ hne]
  · rw [hs'] at hr'
    exact hr.current_time ▸ repr_set_client hr hr'

/-- **C04 `server_replay_rejected`, on the generated `process_packet`.**  Same state conditions.  Once the generated
    `already_received` of the window of the connected session `gc` (slot `i` of the source address) reports the sequence
    number the datagram carries as received, NO datagram carrying it surfaces a payload — the accepted datagram again,
    any copy, any modification that keeps the sequence bytes. -/
theorem replay_rejected {ε : Type} (a : AEAD) (hl : a.Laws) {g : SNetcodeServer} (hw : WfS g)
    (hroom : SeqRoom 1 g) (hent : 0 < g.connect_token_entries.length) {ga : RustSem.SocketAddr} (hga : AddrOk ga)
    {gbuf : List Nat} (hb : BytesOk gbuf) (hbl : gbuf.length + 16 < 2 ^ 64) {i : Nat} {gc : SConnection}
    (hf : (find_client_mut_by_addr g.clients ga : Res ε _) = .ok (some i)) (hi : g.clients[i]? = some (some gc))
    (hdup : (Src.renetcode.replay_protection.ReplayProtection.already_received gc.replay_protection (gWireSeq gbuf)
      : Res ε Bool) = .ok true) (g' : SNetcodeServer) (buf' : List Nat) (cid : Nat) (gp : List Nat) :
    @NetcodeServer.process_packet (aeadOf a) ε g ga gbuf ≠ .ok (g', buf', .Payload cid gp) := by
  intro h
  obtain ⟨i', gc', hf', hi', _, _, dbuf, w', sq, _, hsq, hfresh, _⟩ :=
    payload_only_if_opened (ε := ε) a hl hw hent hga hb hbl h
  rw [hf] at hf'
  cases hf'
  rw [hi] at hi'
  cases hi'
  subst hsq
  rw [hdup] at hfresh
  cases hfresh

/-- **C04 `server_genuine_accepted`, on the generated `process_packet`.**  State: `WfS g`, token table not empty.  The
    source address is connected in slot `i` holding `gc` in state `Connected`.  Let `o` be a genuine payload packet: what
    the generated `Packet::encode` makes of `Payload(gp)` under the server's protocol id, a `u64` sequence number `sq`
    and `gc`'s receive key.  If the generated `already_received(gc.replay_protection, sq)` says `false` then
    `process_packet` surfaces `Payload(gc.client_id, gp)`, and slot `i` afterwards holds `gc` with the window advanced by the
    generated `advance_sequence(sq)` and the receive timer := now — nothing else changes. -/
theorem genuine_accepted {ε : Type} (a : AEAD) (hl : a.Laws) {g : SNetcodeServer} (hw : WfS g)
    (hent : 0 < g.connect_token_entries.length) {ga : RustSem.SocketAddr} (hga : AddrOk ga) {i : Nat} {gc : SConnection}
    (hf : (find_client_mut_by_addr g.clients ga : Res ε _) = .ok (some i)) (hi : g.clients[i]? = some (some gc))
    (hst : gc.state = .Connected) {gp : List Nat} (hgp : BytesOk gp) {sq : Nat} (hsq : sq < 2 ^ 64) {o : List Nat}
    (henc : GEncodes a g (.Payload gp) sq gc.receive_key o)
    (hfresh : (Src.renetcode.replay_protection.ReplayProtection.already_received gc.replay_protection sq : Res ε Bool)
      = .ok false) :
    ∃ g' buf' w', (Src.renetcode.replay_protection.ReplayProtection.advance_sequence gc.replay_protection sq : Res ε _)
        = .ok (w', ()) ∧
      @NetcodeServer.process_packet (aeadOf a) ε g ga o = .ok (g', buf', .Payload gc.client_id gp) ∧
      g' = { g with out := g'.out, clients := g.clients.set i (some (gReceived gc w' g.current_time)) } := by
  obtain ⟨s, hr⟩ := hw
  obtain ⟨addr, rfl⟩ := (addrOk_iff ga).1 hga
  obtain ⟨p, rfl⟩ := (bytesOk_iff gp).1 hgp
  obtain ⟨c, hfc, rfl⟩ := connected_session hr hf hi
  have hst' : c.state = .connected := by
    have : reprCS c.state = .Connected := hst
    cases hcs : c.state <;> rw [hcs] at this <;> first | rfl | cases this
  obtain ⟨out, hme, rfl⟩ := gencodes_pull a hl hr (p := .payload p) (key := c.receiveKey) henc
  obtain ⟨hout, hlen⟩ := payload_encoded a hl hme
  have hfresh' : c.replayProtection.alreadyReceived sq = false :=
    Res.ok.inj ((already_received_eq (ε := ε) c.replayProtection sq hsq).symm.trans hfresh)
  have hm := C04.server_genuine_accepted a hl s addr hfc hst' p hsq hfresh'
  rw [← hout] at hm
  obtain ⟨⟨g', buf', _⟩, hg', hr', rfl⟩ := (process_packet_tie (ε := ε) a hl hr (hr.entries_pos.1 hent) addr out hlen).push_ok hm
  refine ⟨g', buf', reprRP (c.replayProtection.advance sq), advance_sequence_eq _ _ hsq, hg', ?_⟩
  exact hr.current_time ▸ repr_set_client hr hr'

/-! ## C18 (server half) and C17 (server half): `update_client`, `generate_payload_packet` -/

def GTimedOut (gc : SConnection) (now : Nat) : Prop :=
  gc.timeout_seconds > 0 ∧ gc.last_packet_received_time + RustSem.Duration.from_secs gc.timeout_seconds.toNat < now

instance (gc : SConnection) (now : Nat) : Decidable (GTimedOut gc now) := by unfold GTimedOut; infer_instance

/-- the session after a keep-alive / payload went out -/
def gSent (gc : SConnection) (now : Nat) : SConnection :=
  { gc with sequence := gc.sequence + 1, last_packet_send_time := now }

theorem from_secs_eq (n : Nat) : RustSem.Duration.from_secs n = fromSecs n := rfl

theorem gTimedOut_iff (c : Netcode.Connection) (now : Nat) : GTimedOut (reprNConn c) now ↔ NS.TimedOut c now := Iff.rfl

/-- **C18 `no_spurious_timeout`** (intrinsic arithmetic): a session whose receive timer was refreshed at `t` is not timed
    out at any `now ≤ t + timeout` (or when the token's timeout is not positive) -/
theorem no_spurious_timeout {gc : SConnection} {now : Nat}
    (h : gc.timeout_seconds ≤ 0 ∨ now ≤ gc.last_packet_received_time + RustSem.Duration.from_secs gc.timeout_seconds.toNat) :
    ¬ GTimedOut gc now := by
  rintro ⟨h1, h2⟩
  rcases h with h | h <;> omega

/-- **The generated `update_client`, completely** (image of the model's `UCOut`; basis of C18 `server_timeout`,
    `server_timeout_only`, `server_keeps` and of the keep-alive half of C17).  State: `GInv g`; slot `i` holds `gc` with
    `gc.client_id = id`.  Exactly one of:
      * `gc` is timed out: `ClientDisconnected id gc.addr o`, slot `i` freed, nothing else changes; if the generated
        `Packet::encode` of `Disconnect` under `(gc.sequence, gc.send_key)` yields `od` then `o = Some(od)`;
      * `gc` is not timed out: `None` with nothing changed, or — send timer due — `PacketToSend gc.addr o` where `o` is the
        generated encoding of `KeepAlive { i as u32, max_clients as u32 }` under `(gc.sequence, gc.send_key)`, and slot `i`
        then holds `gc` with `sequence + 1`, send timer := now;
      * `.panic` — only when the clock is within 2^31 s of `Duration::MAX` or `gc.sequence = u64::MAX`. -/
theorem update_client_spec {ε : Type} (a : AEAD) (hl : a.Laws) {g : SNetcodeServer} (hg : GInv g) {id i : Nat}
    {gc : SConnection} (hi : g.clients[i]? = some (some gc)) (hid : gc.client_id = id) :
    (GTimedOut gc g.current_time ∧ ∃ g' o, @NetcodeServer.update_client (aeadOf a) ε g id
        = .ok (g', .ClientDisconnected id gc.addr o) ∧ g' = { g with out := g'.out, clients := g.clients.set i none } ∧
        ∀ od, GEncodes a g .Disconnect gc.sequence gc.send_key od → o = some od) ∨
    (¬ GTimedOut gc g.current_time ∧
      ((∃ g', @NetcodeServer.update_client (aeadOf a) ε g id = .ok (g', .None) ∧ g' = { g with out := g'.out }) ∨
       ∃ g' o, gc.last_packet_send_time + Src.renetcode.NETCODE_SEND_RATE ≤ g.current_time ∧
         GEncodes a g (.KeepAlive (i % 2 ^ 32) (g.max_clients % 2 ^ 32)) gc.sequence gc.send_key o ∧
         @NetcodeServer.update_client (aeadOf a) ε g id = .ok (g', .PacketToSend gc.addr o) ∧
         g' = { g with out := g'.out, clients := g.clients.set i (some (gSent gc g.current_time)) })) ∨
    ((∃ m, @NetcodeServer.update_client (aeadOf a) ε g id = .panic m) ∧
      ¬ (g.current_time + RustSem.Duration.from_secs (2 ^ 31) ≤ RustSem.Duration.MAX ∧ gc.sequence < U64_MAX)) := by
  obtain ⟨s, hr, hinv⟩ := hg
  obtain ⟨c, hc, rfl⟩ := slot_of_repr hr hi
  have hid' : c.clientId = id := hid
  have hspec := NS.updateClient_spec a hinv hc hid'
  have hct := hr.current_time
  have t := update_client_tie (ε := ε) a hl hr hinv.timeouts id
  rcases hspec with ⟨hto, o, e⟩ | ⟨hnt, ⟨e, -⟩ | ⟨out, hdue, henc, e⟩⟩ | ⟨⟨m, e⟩, hno⟩
  · obtain ⟨⟨g', _⟩, hg', hr', rfl⟩ := t.push_ok e
    refine .inl ⟨by rw [hct]; exact hto, g', o.map toNats, hg', repr_set_client hr hr', ?_⟩
    intro od hod
    obtain ⟨out, hme, rfl⟩ := gencodes_pull a hl hr (p := .disconnect) (key := c.sendKey) hod
    have := (NS.server_timeout_packet a hinv hc hid' e).2.2.2 out hme
    rw [this]; rfl
  · obtain ⟨⟨g', _⟩, hg', hr', rfl⟩ := t.push_ok e
    exact .inr (.inl ⟨by rw [hct]; exact hnt, .inl ⟨g', hg', same_of_repr hr hr'⟩⟩)
  · obtain ⟨⟨g', _⟩, hg', hr', rfl⟩ := t.push_ok e
    refine .inr (.inl ⟨by rw [hct]; exact hnt, .inr ⟨g', toNats out, by rw [hct]; exact hdue, ?_, hg', ?_⟩⟩)
    · rw [hr.max_clients]; exact gencodes_push a hl hr henc
    · exact hct ▸ repr_set_client hr hr'
  · exact .inr (.inr ⟨t.push_panic e, by rw [hct]; exact hno⟩)

/-- **C18 `server_timeout`, on the generated `update_client`.**  State: `GInv g`; slot `i` holds `gc`, `gc.client_id = id`;
    the clock is not within 2^31 s of `Duration::MAX`.  A session from which nothing authentic arrived for more than its
    timeout (`GTimedOut`, intrinsic) is disconnected by the next generated `update_client`: `ClientDisconnected id addr`,
    the slot is freed, nothing else changes. -/
theorem server_timeout {ε : Type} (a : AEAD) (hl : a.Laws) {g : SNetcodeServer} (hg : GInv g) {id i : Nat}
    {gc : SConnection} (hi : g.clients[i]? = some (some gc)) (hid : gc.client_id = id)
    (hclock : g.current_time + RustSem.Duration.from_secs (2 ^ 31) ≤ RustSem.Duration.MAX)
    (hto : GTimedOut gc g.current_time) :
    ∃ g' o, @NetcodeServer.update_client (aeadOf a) ε g id = .ok (g', .ClientDisconnected id gc.addr o) ∧
      g' = { g with out := g'.out, clients := g.clients.set i none } := by
  obtain ⟨s, hr, hinv⟩ := hg
  obtain ⟨c, hc, rfl⟩ := slot_of_repr hr hi
  have hct := hr.current_time
  obtain ⟨o, hm⟩ := NS.server_timeout a hinv hc hid (by rw [← hct]; exact hclock) (by rw [← hct]; exact hto)
  obtain ⟨⟨g', _⟩, hg', hr', rfl⟩ := (update_client_tie (ε := ε) a hl hr hinv.timeouts id).push_ok hm
  exact ⟨g', o.map toNats, hg', repr_set_client hr hr'⟩

/-- **C18 `server_timeout_only`**: the generated `update_client` reports `ClientDisconnected` only for a timed-out session,
    with that session's address, and frees exactly its slot -/
theorem server_timeout_only {ε : Type} (a : AEAD) (hl : a.Laws) {g : SNetcodeServer} (hg : GInv g) {id i : Nat}
    {gc : SConnection} (hi : g.clients[i]? = some (some gc)) (hid : gc.client_id = id) {g' : SNetcodeServer}
    {gad : RustSem.SocketAddr} {o : Option (List Nat)}
    (h : @NetcodeServer.update_client (aeadOf a) ε g id = .ok (g', .ClientDisconnected id gad o)) :
    gad = gc.addr ∧ GTimedOut gc g.current_time ∧ g' = { g with out := g'.out, clients := g.clients.set i none } := by
  rcases update_client_spec (ε := ε) a hl hg hi hid with ⟨hto, g2, o2, e, hg2, _⟩ | ⟨_, ⟨g2, e, _⟩ | ⟨g2, o2, _, _, e, _⟩⟩ |
      ⟨⟨m, e⟩, _⟩
  · rw [e] at h
    simp only [Res.ok.injEq, Prod.mk.injEq, ServerResult.ClientDisconnected.injEq] at h
    obtain ⟨rfl, _, rfl, _⟩ := h
    exact ⟨rfl, hto, hg2⟩
  · rw [e] at h; simp at h
  · rw [e] at h; simp at h
  · rw [e] at h; cases h

/-- **C18 `server_keeps`** (with `no_spurious_timeout`: C18 `never_timed_out`, one round): a connected session that is
    not timed out is kept by the generated `update_client` — the sessions of all slots are as before; the result is
    `None` or a keep-alive `PacketToSend` to the session's address. -/
theorem server_keeps {ε : Type} (a : AEAD) (hl : a.Laws) {g : SNetcodeServer} (hg : GInv g) {id i : Nat}
    {gc : SConnection} (hi : g.clients[i]? = some (some gc)) (hid : gc.client_id = id)
    (hnt : ¬ GTimedOut gc g.current_time) {g' : SNetcodeServer} {gr : SServerResult}
    (h : @NetcodeServer.update_client (aeadOf a) ε g id = .ok (g', gr)) :
    g'.clients.map (Option.map gIdent) = g.clients.map (Option.map gIdent) ∧
      (gr = .None ∨ ∃ o, gr = .PacketToSend gc.addr o) := by
  obtain ⟨s, hr, hinv⟩ := hg
  obtain ⟨c, hc, rfl⟩ := slot_of_repr hr hi
  have hct := hr.current_time
  obtain ⟨⟨r, s'⟩, hm, hr', rfl⟩ := (update_client_tie (ε := ε) a hl hr hinv.timeouts id).pull_ok h
  obtain ⟨hses, hres⟩ := C18.server_keeps a hinv hc hid (by rw [← hct]; exact hnt) hm
  refine ⟨by rw [hr'.clients, hr.clients, gSessions_repr, gSessions_repr, hses], ?_⟩
  rcases hres with rfl | ⟨out, rfl⟩
  · exact .inl rfl
  · exact .inr ⟨toNats out, rfl⟩

/-- **C17 (server), `generate_payload_packet`: the nonce discipline of one call.**  State: `GInv g`.  When the generated
    `generate_payload_packet(id, p)` returns `Ok((addr, o))` then `id` is connected in some slot `i` holding `gc`;
    `addr = gc.addr`; `o` is the generated encoding of `Payload(p)` under `(gc.sequence, gc.send_key)` — the sequence number is
    the nonce —; and afterwards slot `i` holds `gc` with `sequence + 1` (send timer := now; key unchanged), nothing
    else changes.  So consecutive datagrams sealed for a session carry `n, n+1, n+2, …` under one key. -/
theorem generate_payload_spec (a : AEAD) (hl : a.Laws) {g : SNetcodeServer} (hg : GInv g) (id : Nat) {gp : List Nat}
    (hb : BytesOk gp) {g' : SNetcodeServer} {gad : RustSem.SocketAddr} {o : List Nat}
    (h : @NetcodeServer.generate_payload_packet (aeadOf a) g id gp = .ok (g', (gad, o))) :
    ∃ i gc, g.clients[i]? = some (some gc) ∧ gc.client_id = id ∧ gad = gc.addr ∧
      GEncodes a g (.Payload gp) gc.sequence gc.send_key o ∧
      g' = { g with out := g'.out, clients := g.clients.set i (some (gSent gc g.current_time)) } := by
  obtain ⟨s, hr, hinv⟩ := hg
  obtain ⟨payload, rfl⟩ := (bytesOk_iff gp).1 hb
  have hct := hr.current_time
  obtain ⟨⟨⟨addr, out⟩, s'⟩, hm, hr', e⟩ := (generate_payload_tie a hl hr id payload).pull_ok h
  cases e
  obtain ⟨i, c, _, hc, hid, had, henc, rfl⟩ := NS.generatePayload_ok hm
  refine ⟨i, reprNConn c, slot_to_repr hr hc, hid, by rw [had]; rfl, gencodes_push a hl hr henc, ?_⟩
  exact hct ▸ repr_set_client hr hr'

/-! ### C17, run level: the datagrams sealed for one session carry consecutive sequence numbers under one key -/

/-- `o` is what the generated `Packet::encode` makes of `pkt` into SOME `NETCODE_MAX_PACKET_BYTES`-byte buffer under protocol
    id `pid`, sequence number `sq`, key `key` (`GEncodes` without reference to a server state) -/
def PEncodes (a : AEAD) (pid : Nat) (pkt : SNcPacket) (sq : Nat) (key o : List Nat) : Prop :=
  ∃ buffer st : List Nat, buffer.length = C.NETCODE_MAX_PACKET_BYTES ∧
    @Src.renetcode.packet.Packet.encode (aeadOf a) pkt buffer pid (some (sq, key)) = .ok (st, o.length) ∧ st.take o.length = o

/-- the datagrams `outs` are the payload packets for `ps`, sealed under `key` with the sequence numbers `n, n+1, n+2, …` -/
def SealedSeq (a : AEAD) (pid : Nat) (key : List Nat) : Nat → List (List Nat) → List (List Nat) → Prop
  | _, [], [] => True
  | n, p :: ps, o :: outs => PEncodes a pid (.Payload p) n key o ∧ SealedSeq a pid key (n + 1) ps outs
  | _, _, _ => False

/-- call the generated `generate_payload_packet` for client `id` once per payload and collect the datagrams (`none` as
    soon as a call returns `Err` or panics) -/
def sendRun (a : AEAD) (id : Nat) : SNetcodeServer → List (List Nat) → Option (SNetcodeServer × List (List Nat))
  | g, [] => some (g, [])
  | g, p :: ps =>
    match @NetcodeServer.generate_payload_packet (aeadOf a) g id p with
    | .ok (g', (_, o)) => (sendRun a id g' ps).map fun r => (r.1, o :: r.2)
    | _ => none

/-- **C17 `server_session_nonces_strict`, on runs of the generated `generate_payload_packet`.**  State: `GInv g`; slot `i`
    holds `gc` with `gc.client_id = id` (send key `k`, counter `n`).  However many payloads are sent to the session, the
    datagrams are — in order — the generated encodings of the payloads under the ONE key `k` with the sequence numbers
    `n, n+1, n+2, …` (no nonce is used twice), and the session's counter ends at `n + #payloads` with the same key. -/
theorem session_nonces_consecutive (a : AEAD) (hl : a.Laws) (id i : Nat) :
    ∀ (ps : List (List Nat)) (g : SNetcodeServer) (gc : SConnection) {g' : SNetcodeServer} {outs : List (List Nat)},
      GInv g → g.clients[i]? = some (some gc) → gc.client_id = id → (∀ p ∈ ps, BytesOk p) →
      sendRun a id g ps = some (g', outs) →
      SealedSeq a g.protocol_id gc.send_key gc.sequence ps outs ∧ GInv g' ∧
        ∃ gc', g'.clients[i]? = some (some gc') ∧ gc'.sequence = gc.sequence + ps.length ∧
          gc'.send_key = gc.send_key ∧ gc'.client_id = id := by
  intro ps
  induction ps with
  | nil =>
    intro g gc g' outs hg hi hid _ h
    simp only [sendRun, Option.some.injEq, Prod.mk.injEq] at h
    obtain ⟨rfl, rfl⟩ := h
    exact ⟨trivial, hg, gc, hi, rfl, rfl, hid⟩
  | cons p ps ih =>
    intro g gc g' outs hg hi hid hbs h
    have hbp : BytesOk p := hbs p (by simp)
    have hbps : ∀ q ∈ ps, BytesOk q := fun q hq => hbs q (by simp [hq])
    simp only [sendRun] at h
    cases hgen : @NetcodeServer.generate_payload_packet (aeadOf a) g id p with
    | ok v =>
      obtain ⟨g1, ad, o⟩ := v
      rw [hgen] at h
      simp only [Option.map_eq_some_iff] at h
      obtain ⟨⟨g2, outs'⟩, hrun, hpair⟩ := h
      cases hpair
      obtain ⟨i', gc', hi', hid', _, henc, hg1⟩ := generate_payload_spec a hl hg id hbp hgen
      have hii : i' = i := (table_distinct hg).1 i' i gc' gc hi' hi (by rw [hid', hid])
      subst hii
      rw [hi] at hi'
      cases hi'
      have hg1inv : GInv g1 := ((generate_payload_inv a hl hg id hbp).1 g1 _ hgen).1
      have hi1 : g1.clients[i']? = some (some (gSent gc g.current_time)) := by
        rw [hg1]; exact List.getElem?_set_self (List.getElem?_eq_some_iff.1 hi).1
      have hpid : g1.protocol_id = g.protocol_id := by rw [hg1]
      obtain ⟨hseq, hginv, gcf, hf1, hf2, hf3, hf4⟩ := ih g1 (gSent gc g.current_time) hg1inv hi1 hid hbps hrun
      rw [hpid] at hseq
      refine ⟨⟨?_, hseq⟩, hginv, gcf, hf1, ?_, hf3, hf4⟩
      · obtain ⟨st, h1, h2⟩ := henc
        obtain ⟨s, hr, _⟩ := hg
        exact ⟨g.out, st, hr.1, h1, h2⟩
      · rw [hf2]; simp only [gSent, List.length_cons]; omega
    | err e => rw [hgen] at h; cases h
    | panic m => rw [hgen] at h; cases h

/-! ## concrete instances: the hypotheses are satisfiable (example states of Props/C19, C05/C10/C18 (`NcExamples`), C07, C04
    through the representation map, zeroed scratch buffer); evaluations run on the generated text -/
set_option maxRecDepth 100000
section examples
open NS.Ex

/-! ### C19 / C07: the fresh 2-slot server of Props/C19 and a client's 1078-byte connection request (toy AEAD) -/
def gC19 : SNetcodeServer := reprNS out0 C19.srv0
theorem gC19_repr : SrvRepr gC19 C19.srv0 := srvRepr_mk out0_len _
theorem req_len : C19.req.length = 1078 := by decide +kernel

example : ∃ g' buf' gr, @NetcodeServer.process_packet (aeadOf AEAD.toy) Empty gC19 (reprAddr C19.cliAddr) (toNats C19.req)
      = .ok (g', buf', gr) ∧ WfS g' ∧ SeqRoom 2 g' ∧
      (gr = .None ∨ (∃ o, gr = .PacketToSend (reprAddr C19.cliAddr) o ∧ ReplyBound o (toNats C19.req)) ∨
        ∃ id ud o, gr = .ClientConnected id (reprAddr C19.cliAddr) ud o ∧ ReplyBound o (toNats C19.req)) :=
  no_amplification AEAD.toy AEAD.toy_laws ⟨_, gC19_repr⟩ ((seqRoom_iff gC19_repr).2 C19.srv0_inv) (by decide)
    (addrOk_reprAddr _) (bytesOk_toNats _) (by rw [toNats_length, req_len]; decide)
    ((find_by_addr_none gC19_repr).2 C19.srv0_find)

/-- evaluated on the generated text: the valid request is answered with a 333-byte challenge to the sender -/
example : (match @NetcodeServer.process_packet (aeadOf AEAD.toy) Empty gC19 (reprAddr C19.cliAddr) (toNats C19.req) with
    | .ok (_, _, .PacketToSend to o) => some (to, o.length)
    | _ => none) = some (reprAddr C19.cliAddr, 333) := by decide +kernel

/-- 1078 zero bytes (invalid version) from the same address: total, and no answer -/
example : NoPanic (@NetcodeServer.process_packet (aeadOf AEAD.toy) Empty gC19 (reprAddr C19.cliAddr)
    (toNats (List.replicate 1078 0))) :=
  process_packet_no_panic AEAD.toy AEAD.toy_laws ⟨_, gC19_repr⟩ ((seqRoom_iff gC19_repr).2 C19.srv0_inv) (by decide)
    (addrOk_reprAddr _) (bytesOk_toNats _) (by rw [toNats_length]; decide)

/-! ### C05 / C10: the world of `Lemmas/NcExamples.lean` (AEAD `Ex.a`): `s1` = after A's request, `s2` = A connected -/
def g1 : SNetcodeServer := reprNS out0 s1
def g2 : SNetcodeServer := reprNS out0 s2
theorem g1_repr : SrvRepr g1 s1 := srvRepr_mk out0_len _
theorem g2_repr : SrvRepr g2 s2 := srvRepr_mk out0_len _
theorem g1_inv : GInv g1 := ⟨s1, g1_repr, C05.inv_s1⟩
theorem g2_inv : GInv g2 := ⟨s2, g2_repr, inv_s2⟩

/-- A's response at `g1`: the generated `process_packet` reports `ClientConnected 11 addrA udA` with the keep-alive `kaA` -/
theorem g1_response : ∃ g' buf', @NetcodeServer.process_packet (aeadOf a) Empty g1 (reprAddr addrA) (toNats respA)
    = .ok (g', buf', .ClientConnected 11 (reprAddr addrA) (toNats udA) (toNats kaA)) := by
  obtain ⟨⟨g', buf', _⟩, h, -, rfl⟩ := (process_packet_tie (ε := Empty) a laws_a g1_repr (by decide) addrA respA
    (by decide +kernel)).push_ok (NS.pp_of_step.mp s_response)
  exact ⟨g', buf', h⟩

/-- … and `connected_only_if` applies to it: pending entry for A with id 11, the datagram decodes (generated `decode`) as a
    `Response` whose challenge token the generated `ChallengeToken::decode` opens to exactly `(11, udA)` -/
example : ∃ gp, RustSem.AMap.find? g1.pending_clients (reprAddr addrA) = some gp ∧ gp.client_id = 11 ∧
    gp.user_data = toNats udA ∧
    ∃ dbuf w' sq ts gtd, decodeWith a (toNats respA) g1.protocol_id gp = .ok (dbuf, some w', (sq, .Response ts gtd)) ∧
      @Src.renetcode.packet.ChallengeToken.decode (aeadOf a) gtd ts g1.challenge_key = .ok ⟨11, toNats udA⟩ := by
  obtain ⟨g', buf', h⟩ := g1_response
  obtain ⟨_, gp, h1, h2, h3, _, _, _, dbuf, w', sq, ts, gtd, h4, h5, _⟩ :=
    connected_only_if (ε := Empty) a laws_a g1_inv (addrOk_reprAddr _) (bytesOk_toNats _)
      (by rw [toNats_length]; decide +kernel) h
  exact ⟨gp, h1, h2, h3, dbuf, w', sq, ts, gtd, h4, h5⟩

/-- expired token: the server's clock is at the expiry second (30 s); A's request is refused (C05 `expired`) -/
def gLate : SNetcodeServer := reprNS out0 sLate
theorem reqA_len : reqA.length + 16 < 2 ^ 64 := by decide +kernel
example : ∀ g' buf' gr, @NetcodeServer.process_packet (aeadOf a) Empty gLate (reprAddr addrA) (toNats reqA)
    = .ok (g', buf', gr) → gr = .None ∧ g'.clients.map (Option.map gIdent) = gLate.clients.map (Option.map gIdent) := by
  intro g' buf' gr h
  obtain ⟨dbuf, drp, hd⟩ := decode_push_ok' a laws_a reqA reqA_len 42 none none (reqA_decodes 42)
  have := rejected_request (ε := Empty) a laws_a ⟨sLate, srvRepr_mk out0_len _, sLate_empty.inv⟩ (addrOk_reprAddr _)
    (bytesOk_toNats _) (by rw [toNats_length]; exact reqA_len) hd (.inr (.inr (.inl (by decide)))) h
  exact ⟨this.1, this.2.2.1⟩
example : (match @NetcodeServer.process_packet (aeadOf a) Empty gLate (reprAddr addrA) (toNats reqA) with
    | .ok (_, _, r) => some r | _ => none) = some .None := by decide +kernel
/-- tampered token (last tag byte changed): the generated `PrivateConnectToken::decode` returns `Err` -/
example : GRejected a (reprNS out0 s0) (toNats C.NETCODE_VERSION_INFO) 42 30 (toNats xnA) (toNats privDataT) :=
  .inr (.inr (.inr (.inl ⟨.CryptoError, by decide +kernel⟩)))

/-- C10: the table invariant at `g2` (A connected) and after any datagram -/
example : TableOK g2 := table_distinct g2_inv
example : ∀ g' buf' gr, @NetcodeServer.process_packet (aeadOf a) Empty g2 (reprAddr addrB) (toNats reqB)
    = .ok (g', buf', gr) → GInv g' ∧ TableOK g' :=
  fun g' buf' gr h => process_packet_inv (ε := Empty) a laws_a g2_inv (addrOk_reprAddr _) (bytesOk_toNats _)
    (by rw [toNats_length]; decide +kernel) h
example : ∀ g' gr, @NetcodeServer.update_client (aeadOf a) Empty g2 11 = .ok (g', gr) → GInv g' ∧ TableOK g' :=
  fun _ _ h => update_client_inv (ε := Empty) a laws_a g2_inv 11 h
example : ∀ g', (Src.renetcode.server.NetcodeServer.update g2 1000 : Res Empty _) = .ok (g', ()) → GInv g' ∧ TableOK g' :=
  fun _ h => update_inv (ε := Empty) g2_inv 1000 h

/-- C10 `full_refuses`: the one-slot server `f3` (A connected, B half-open): B's response changes no slot and is answered
    with `ConnectionDenied` -/
def gF3 : SNetcodeServer := reprNS out0 f3
theorem gF3_inv : GInv gF3 := by
  obtain ⟨log, hl⟩ := C10.reachNL_f3.reach
  exact ⟨f3, srvRepr_mk out0_len _, hl.inv⟩
example : ∀ g' buf' gr, @NetcodeServer.process_packet (aeadOf a) Empty gF3 (reprAddr addrB) (toNats respB)
    = .ok (g', buf', gr) → g'.clients = gF3.clients ∧ (gr = .None ∨ ∃ o, gr = .PacketToSend (reprAddr addrB) o ∧ GIsDenied a gF3 o) :=
  fun g' buf' gr h => full_refuses (ε := Empty) a laws_a gF3_inv
    (by intro i; rcases i with _ | i <;> simp [gF3, reprNS, f3])
    (addrOk_reprAddr _) (bytesOk_toNats _) (by rw [toNats_length]; decide +kernel)
    ((find_by_addr_none (srvRepr_mk out0_len _)).2 (by decide +kernel)) h
example : (match @NetcodeServer.process_packet (aeadOf a) Empty gF3 (reprAddr addrB) (toNats respB) with
    | .ok (g', _, r) => some (r, g'.clients == gF3.clients) | _ => none)
    = some (.PacketToSend (reprAddr addrB) (toNats deniedB), true) := by decide +kernel

/-! ### C07 / C04: the server of Props/C07 (client 77 connected in slot 1, a pending handshake), toy AEAD -/
def gC07 : SNetcodeServer := reprNS out0 C07.srv
theorem gC07_repr : SrvRepr gC07 C07.srv := srvRepr_mk out0_len _
/-- a payload-shaped forgery to the connected client's address: the generated `decode` says `CryptoError`; nothing changes -/
example : ∃ g' buf', @NetcodeServer.process_packet (aeadOf AEAD.toy) Empty gC07 (reprAddr C07.cliAddr) (toNats C07.forged)
    = .ok (g', buf', .None) ∧ g' = { gC07 with out := g'.out } := by
  obtain ⟨g', buf', h, hcase⟩ := decode_error_noop_connected (ε := Empty) AEAD.toy AEAD.toy_laws ⟨_, gC07_repr⟩ (by decide)
    (addrOk_reprAddr C07.cliAddr) (bytesOk_toNats C07.forged) (by rw [toNats_length]; decide) (i := 1)
    (gc := reprNConn C07.conn) (by decide +kernel) (by decide +kernel) (ge := .CryptoError)
    (st := (toNats C07.forged, some (reprRP RP.new))) (by decide +kernel)
  rcases hcase with ⟨_, h2⟩ | ⟨h2, _⟩
  · exact ⟨g', buf', h, h2⟩
  · cases h2
/-- … and from an unknown address -/
example : ∃ g' buf', @NetcodeServer.process_packet (aeadOf AEAD.toy) Empty gC07 (reprAddr C07.otherAddr) (toNats C07.forged)
    = .ok (g', buf', .None) ∧ g' = { gC07 with out := g'.out } :=
  no_answer_undecodable_unknown (ε := Empty) AEAD.toy AEAD.toy_laws ⟨_, gC07_repr⟩ (by decide)
    (addrOk_reprAddr C07.otherAddr) (bytesOk_toNats C07.forged) (by rw [toNats_length]; decide) (by decide +kernel)
    (by decide +kernel) (ge := .UnavailablePrivateKey) (st := (toNats C07.forged, none)) (by decide +kernel)

/-- C04 on the server of Props/C04 (client 77 in slot 1): the genuine payload `[1,2,3]`, sequence 0 -/
def gC04 : SNetcodeServer := reprNS out0 C04.srv
theorem gC04_repr : SrvRepr gC04 C04.srv := srvRepr_mk out0_len _
theorem gC04_room : SeqRoom 1 gC04 := (seqRoom_iff gC04_repr).2 C04.srv_inv
theorem gC04_encodes : GEncodes AEAD.toy gC04 (.Payload [1, 2, 3]) 0 (reprNConn C04.conn).receive_key (toNats C04.d0) :=
  ⟨toNats C04.d0 ++ List.replicate (1400 - 21) 0, by decide +kernel⟩
example : GEncodes AEAD.toy gC04 (.Payload [1, 2, 3]) 0 (reprNConn C04.conn).receive_key (toNats C04.d0) := gC04_encodes
example : ∃ g' buf' w', (Src.renetcode.replay_protection.ReplayProtection.advance_sequence (reprRP RP.new) 0 : Res Empty _)
      = .ok (w', ()) ∧
    @NetcodeServer.process_packet (aeadOf AEAD.toy) Empty gC04 (reprAddr C04.cliAddr) (toNats C04.d0)
      = .ok (g', buf', .Payload 77 [1, 2, 3]) ∧
    g' = { gC04 with out := g'.out, clients := gC04.clients.set 1 (some (gReceived (reprNConn C04.conn) w' gC04.current_time)) } :=
  genuine_accepted (ε := Empty) AEAD.toy AEAD.toy_laws ⟨_, gC04_repr⟩ (by decide) (addrOk_reprAddr C04.cliAddr) (i := 1)
    (gc := reprNConn C04.conn) (by decide +kernel) (by decide +kernel) rfl (gp := [1, 2, 3]) (by decide) (sq := 0) (by decide)
    gC04_encodes (by decide +kernel)
/-- on the state after it the same datagram (sequence 0 now in the window) cannot surface a payload again -/
def gC04' : SNetcodeServer := reprNS out0 C04.srv'
example (g' : SNetcodeServer) (buf' : List Nat) (cid : Nat) (gp : List Nat) :
    @NetcodeServer.process_packet (aeadOf AEAD.toy) Empty gC04' (reprAddr C04.cliAddr) (toNats C04.d0)
      ≠ .ok (g', buf', .Payload cid gp) :=
  replay_rejected (ε := Empty) AEAD.toy AEAD.toy_laws ⟨C04.srv', srvRepr_mk out0_len _⟩
    ((seqRoom_iff (srvRepr_mk out0_len _)).2 ⟨by decide, by decide, fun x hx => by cases hx⟩) (by decide)
    (addrOk_reprAddr C04.cliAddr) (bytesOk_toNats C04.d0) (by rw [toNats_length]; decide +kernel) (i := 1)
    (gc := reprNConn (C04.conn.received (RP.new.advance 0) 1000)) (by decide +kernel) (by decide +kernel) (by decide +kernel)
    g' buf' cid gp

/-! ### C18 / C17: `s2late` (A's last packet 5 s + 1 ns ago, timeout 5 s), `s2at5` (exactly 5 s), `s2` -/
def gLate2 : SNetcodeServer := reprNS out0 s2late
def gAt5 : SNetcodeServer := reprNS out0 s2at5
theorem gLate2_inv : GInv gLate2 := ⟨s2late, srvRepr_mk out0_len _, C18.inv_s2late⟩
theorem gAt5_inv : GInv gAt5 := ⟨s2at5, srvRepr_mk out0_len _, C18.inv_s2at5⟩
/-- timed out: the generated `update_client(11)` frees slot 0 and reports `ClientDisconnected 11 addrA` -/
example : ∃ g' o, @NetcodeServer.update_client (aeadOf a) Empty gLate2 11
      = .ok (g', .ClientDisconnected 11 (reprAddr addrA) o) ∧
    g' = { gLate2 with out := g'.out, clients := gLate2.clients.set 0 none } :=
  server_timeout (ε := Empty) a laws_a gLate2_inv (i := 0) (gc := reprNConn connA) (by decide +kernel) rfl (by decide)
    (by decide)
/-- exactly 5 s: not timed out (`no_spurious_timeout`), kept -/
example : ¬ GTimedOut (reprNConn connA) gAt5.current_time := no_spurious_timeout (.inr (by decide))
example : ∀ g' gr, @NetcodeServer.update_client (aeadOf a) Empty gAt5 11 = .ok (g', gr) →
    g'.clients.map (Option.map gIdent) = gAt5.clients.map (Option.map gIdent) ∧
      (gr = .None ∨ ∃ o, gr = .PacketToSend (reprNConn connA).addr o) :=
  fun _ _ h => server_keeps (ε := Empty) a laws_a gAt5_inv (i := 0) (gc := reprNConn connA) (by decide +kernel) rfl
    (no_spurious_timeout (.inr (by decide))) h
example := update_client_spec (ε := Empty) a laws_a gAt5_inv (id := 11) (i := 0) (gc := reprNConn connA)
  (by decide +kernel) rfl
/-- evaluated: at 5 s the keep-alive (sequence 1 = A's session counter) goes out and the counter becomes 2 -/
example : (match @NetcodeServer.update_client (aeadOf a) Empty gAt5 11 with
    | .ok (g', .PacketToSend _ o) => some (o.take 2, g'.clients.map (Option.map (·.sequence)))
    | _ => none) = some ([20, 1], [some 2, none]) := by decide +kernel

/-- C17: `generate_payload_packet(11, [9, 9])` at `g2`: sealed under A's counter 1, which then becomes 2 -/
example : ∃ g' o, @NetcodeServer.generate_payload_packet (aeadOf a) g2 11 (toNats [9, 9]) = .ok (g', (reprAddr addrA, o)) ∧
    ∃ i gc, g2.clients[i]? = some (some gc) ∧ gc.client_id = 11 ∧ GEncodes a g2 (.Payload (toNats [9, 9])) gc.sequence gc.send_key o ∧
      g' = { g2 with out := g'.out, clients := g2.clients.set i (some (gSent gc g2.current_time)) } := by
  obtain ⟨⟨g', _⟩, hg, -, rfl⟩ := (generate_payload_tie a laws_a g2_repr 11 [9, 9]).push_ok s_sendPayload
  obtain ⟨i, gc, h1, h2, _, h4, h5⟩ := generate_payload_spec a laws_a g2_inv 11 (bytesOk_toNats [9, 9]) hg
  exact ⟨g', _, hg, i, gc, h1, h2, h4, h5⟩
example : (match @NetcodeServer.generate_payload_packet (aeadOf a) g2 11 [9, 9] with
    | .ok (g', (_, o)) => some (o, g'.clients.map (Option.map (·.sequence)))
    | _ => none) = some (toNats payToA, [some 2, none]) := by decide +kernel

/-- C17, run level: three payloads to A's session at `g2` (counter 1): sealed under 1, 2, 3 -/
example : ∀ g' outs, sendRun a 11 g2 [[9, 9], [1], [2, 3]] = some (g', outs) →
    SealedSeq a g2.protocol_id (reprNConn connA).send_key 1 [[9, 9], [1], [2, 3]] outs :=
  fun _ _ h => (session_nonces_consecutive a laws_a 11 0 _ g2 (reprNConn connA) g2_inv (by decide +kernel) rfl
    (by decide) h).1
example : (sendRun a 11 g2 [[9, 9], [1], [2, 3]]).map (fun r => (r.2.map (·.take 2), r.1.clients.map (Option.map (·.sequence))))
    = some ([[21, 1], [21, 2], [21, 3]], [some 4, none]) := by decide +kernel

end examples

end RenetVerif.SrcPropsNc.Server
