/-
  G1. netcode byte-level readers/writers without crypto: generated `renetcode/src/serialize.rs` (whole file) and
  `packet.rs` `read_sequence` / `get_additional_data` (`write_sequence`: group NcSequence) over the `io::Cursor` models of RustSem agree
  with `Netcode/Util.lean` (`readU64`, `readN`, `Wr`, …) and `Netcode/Wire.lean`.
  The ties themselves are in `Props/SrcTieNcSerialize.lean`.
-/
import RenetVerif.Generated.Src.NcSerialize
import RenetVerif.Lemmas.SrcEquiv.Prims
import RenetVerif.Lemmas.NcPacket
namespace RenetVerif.SrcEquiv
open RenetVerif RenetVerif.RustSem

section NcSerialize
open Netcode

/-- read cursor over `buf` whose unread rest is `rest` -/
def rcur (buf rest : Bytes) : ReadCursor := ⟨toNats buf, buf.length - rest.length⟩

theorem rcur_drop {rest buf : Bytes} (h : rest <:+ buf) : (rcur buf rest).buf.drop (rcur buf rest).pos = toNats rest := by
  obtain ⟨pre, rfl⟩ := h
  simp [rcur, toNats]

theorem read_exact_rcur {rest buf : Bytes} (h : rest <:+ buf) (n : Nat) :
    ReadCursor.read_exact (rcur buf rest) n =
      if rest.length < n then .err (.opaque, rcur buf []) else .ok (rcur buf (rest.drop n), toNats (rest.take n)) := by
  unfold ReadCursor.read_exact
  rw [rcur_drop h, toNats_length]
  by_cases hn : rest.length < n
  · rw [if_pos hn, if_pos hn]
    simp [rcur, toNats_length]
  · rw [if_neg hn, if_neg hn]
    have hl := h.length_le
    congr 2
    · simp only [rcur, List.length_drop]; congr 1; omega
    · simp [toNats, List.map_take]

/-- outcome of a generated reader predicted by a model reader -/
def rdRes {α β : Type} (buf : Bytes) (f : α → β) : Option (α × Bytes) → Res (IoError × ReadCursor) (ReadCursor × β)
  | some (a, r) => .ok (rcur buf r, f a)
  | none => .err (.opaque, rcur buf [])   -- `UnexpectedEof`: std leaves the cursor at the end of the buffer

/-- the same with an explicit cursor position for the error case -/
def rdResE {α β : Type} (buf : Bytes) (f : α → β) (errRest : Bytes) :
    Option (α × Bytes) → Res (IoError × ReadCursor) (ReadCursor × β)
  | some (a, r) => .ok (rcur buf r, f a)
  | none => .err (.opaque, rcur buf errRest)

theorem from_le_bytes_toNats (b : Bytes) : RustSem.from_le_bytes (toNats b) = leVal b := by
  induction b with
  | nil => rfl
  | cons x r ih => simp only [toNats, List.map_cons, RustSem.from_le_bytes, leVal] at ih ⊢; rw [ih]

theorem readN_suffix {n : Nat} {rest b r : Bytes} (h : readN n rest = some (b, r)) : r <:+ rest :=
  ⟨b, (NcAead.readN_iff.1 h).2.symm⟩

theorem readU_suffix {n v : Nat} {rest r : Bytes} (h : readU n rest = some (v, r)) : r <:+ rest :=
  ⟨_, (NcAead.readU_iff.1 h).2.symm⟩

theorem writeAll_out {w w' : Wr} {b : Bytes} (h : w.writeAll b = some w') :
    w'.out = w.out ++ b ∧ w'.cap = w.cap ∧ w'.out.length ≤ w.cap := by
  unfold Wr.writeAll at h
  split at h
  · cases h; simp; omega
  · cases h

theorem len_repeat {α : Type} (x : α) (n : Nat) : RustSem.len (RustSem.repeat_ x n) = n := by
  simp [RustSem.len, RustSem.repeat_]

/-- the shape shared by the readers of `serialize.rs` -/
theorem read_exact_then {γ : Type} {rest buf : Bytes} (h : rest <:+ buf) (n : Nat) (g : List Nat → γ) :
    ((Exec.callFrom (fun err => Res.ok (err.1, err.2)) (ReadCursor.read_exact (rcur buf rest) n)).bind fun t =>
        (Exec.val (t.1, g t.2) : Exec (IoError × ReadCursor) (ReadCursor × γ) (ReadCursor × γ))).run
      = rdRes buf (fun b => g (toNats b)) (readN n rest) := by
  rw [read_exact_rcur h]
  unfold readN
  by_cases hn : rest.length < n
  · rw [if_pos hn, if_pos hn]; rfl
  · rw [if_neg hn, if_neg hn]; rfl

theorem rdRes_readU (buf rest : Bytes) (n : Nat) :
    rdRes buf (fun b => RustSem.from_le_bytes (toNats b)) (readN n rest) = rdRes buf id (readU n rest) := by
  unfold readU
  cases readN n rest with
  | none => rfl
  | some x => simp only [rdRes, from_le_bytes_toNats, id]

theorem from_le_bytes_zeros (a : List Nat) (k : Nat) :
    RustSem.from_le_bytes (a ++ List.replicate k 0) = RustSem.from_le_bytes a := by
  induction a with
  | nil =>
    induction k with
    | zero => rfl
    | succ k ih => simp only [List.nil_append, List.replicate_succ, RustSem.from_le_bytes] at ih ⊢; rw [ih]
  | cons x r ih => simp only [List.cons_append, RustSem.from_le_bytes, ih]

/-- `Cursor<&mut [u8]>` after the model writer `w`: the written bytes, then `tail` (the still unwritten part of the
    buffer, `tail.length = w.cap - w.out.length`) -/
def wcur (w : Wr) (tail : List Nat) : WriteCursor := ⟨toNats w.out ++ tail, w.out.length⟩

def WrOk (w : Wr) (tail : List Nat) : Prop := w.out.length + tail.length = w.cap

theorem wcur_take (w : Wr) (tail : List Nat) : (wcur w tail).buf.take (wcur w tail).pos = toNats w.out :=
  List.take_left' (toNats_length _)

theorem wcur_drop (w : Wr) (tail : List Nat) (n : Nat) :
    (wcur w tail).buf.drop ((wcur w tail).pos + n) = tail.drop n := by
  simp only [wcur]
  rw [← toNats_length w.out, List.drop_length_add_append]

theorem wcur_room {w : Wr} {tail : List Nat} (h : WrOk w tail) :
    (wcur w tail).buf.length - (wcur w tail).pos = tail.length ∧ w.cap - w.out.length = tail.length := by
  unfold WrOk at h
  simp only [wcur, List.length_append, toNats_length]
  omega

theorem wcur_write {w : Wr} {tail : List Nat} (h : WrOk w tail) (b : Bytes) :
    WriteCursor.write (wcur w tail) (toNats b) =
      .ok (wcur (w.write b).1 (tail.drop (w.write b).2), (w.write b).2) ∧ WrOk (w.write b).1 (tail.drop (w.write b).2) := by
  unfold WriteCursor.write Wr.write
  simp only [wcur_take, wcur_drop, (wcur_room h).1, (wcur_room h).2, toNats_length]
  generalize hn : min b.length tail.length = n
  have hl : (w.out ++ b.take n).length = w.out.length + n := by
    rw [List.length_append, List.length_take]; omega
  constructor
  · simp only [wcur, hl, toNats, List.map_append, List.map_take]
  · unfold WrOk at *
    simp only [hl, List.length_drop]
    omega

/-- the cursor a failed `write_all` leaves behind: the buffer is filled to its end with the first bytes of `b` -/
def wfull (w : Wr) (tail : List Nat) (b : Bytes) : WriteCursor :=
  ⟨toNats w.out ++ (toNats b).take tail.length, w.out.length + tail.length⟩

theorem wcur_write_all {w : Wr} {tail : List Nat} (h : WrOk w tail) (b : Bytes) :
    WriteCursor.write_all (wcur w tail) (toNats b) =
      (match w.writeAll b with
       | some w' => .ok (wcur w' (tail.drop b.length), ())
       | none => .err (.opaque, wfull w tail b)) ∧
    (∀ w', w.writeAll b = some w' → WrOk w' (tail.drop b.length)) := by
  unfold WriteCursor.write_all Wr.writeAll
  simp only [wcur_take, wcur_drop, (wcur_room h).1, toNats_length]
  unfold WrOk at *
  by_cases hf : b.length ≤ tail.length
  · rw [if_pos hf, if_pos (by omega)]
    refine ⟨?_, ?_⟩
    · simp only [wcur, toNats, List.map_append, List.length_append]
    · intro w' hw'
      cases hw'
      simp only [List.length_append, List.length_drop]
      omega
  · rw [if_neg hf, if_neg (by omega)]
    refine ⟨?_, fun w' hw' => by cases hw'⟩
    simp only [wfull, wcur, List.length_append, toNats_length]
    congr 3
    omega

theorem leBytes_repr (k x : Nat) : RustSem.leBytes x k = toNats (Netcode.leBytes x k) := by
  induction k generalizing x with
  | zero => rfl
  | succ k ih =>
    simp only [RustSem.leBytes, Netcode.leBytes, toNats, List.map_cons, UInt8.toNat_ofNat'] at ih ⊢
    rw [ih, Nat.mod_mod]

theorem to_le_bytes64 (x : Nat) : RustSem.to_le_bytes 64 x = toNats (Netcode.leBytes x 8) := leBytes_repr 8 x

theorem version_info_eq : Src.renetcode.NETCODE_VERSION_INFO = toNats C.NETCODE_VERSION_INFO := by decide

end NcSerialize
end RenetVerif.SrcEquiv
