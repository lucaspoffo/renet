/-
  Equality tests for the states of the two glues, for proofs that compare a computed state with a written-out one by
  kernel evaluation (`C20.hs_end`).
-/
import RenetVerif.Transport.Glue
import RenetVerif.Lemmas.NcEq
namespace RenetVerif.GlueEq
open RenetVerif RenetVerif.Netcode RenetVerif.Transport

attribute [local ext] Server ClientGlue ServerGlue

/-! The derived `DecidableEq RP` (and with it the derived one of `Connection`) compares the windows as `Vector`s, which
    the kernel does slowly; the lists are compared instead.  Scoped: nothing outside a proof that opens this namespace
    elaborates differently. -/
scoped instance (priority := high) : DecidableEq RP := fun _ _ => decidable_of_iff _ rp_eq_iff.symm
scoped instance (priority := high) : DecidableEq Connection := fun _ _ => decidable_of_iff _ Connection.ext_iff.symm
scoped instance : DecidableEq NetcodeClient := fun _ _ => decidable_of_iff _ NetcodeClient.ext_iff.symm
scoped instance : DecidableEq NetcodeServer := fun _ _ => decidable_of_iff _ NetcodeServer.ext_iff.symm
scoped instance : DecidableEq Server := fun _ _ => decidable_of_iff _ Server.ext_iff.symm
scoped instance : DecidableEq ClientGlue := fun _ _ => decidable_of_iff _ ClientGlue.ext_iff.symm
scoped instance : DecidableEq ServerGlue := fun _ _ => decidable_of_iff _ ServerGlue.ext_iff.symm

end RenetVerif.GlueEq
