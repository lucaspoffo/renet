/-
  Reliable RECEIVE channel: generated `ReceiveChannelReliable::{new, process_message, process_slice, receive_message}`
  agree with `RecvRel` of `Renet/Channels.lean`.  `messages` (`BTreeMap`) and `slices` (`HashMap`, only keyed access)
  are key-sorted association lists on both sides; the `BTreeSet` of received ids is the ascending list `setOf` of the
  model's duplicate-free list `received`.  The Rust field `most_recent_message_id` is written but never read: the model
  does not have it, `reprRR` takes its value as a parameter.  The ties themselves are in `Props/SrcTieRecvRel.lean`.
-/
import RenetVerif.Generated.Src.RecvRel
import RenetVerif.Lemmas.SrcEquiv.Prims
import RenetVerif.Lemmas.SrcEquiv.CommonRepr
import RenetVerif.Lemmas.SrcEquiv.ChanLemmas
import RenetVerif.Lemmas.SrcEquiv.SliceTable
import RenetVerif.Props.SrcTieSlice
namespace RenetVerif.SrcEquiv
open RenetVerif RenetVerif.RustSem

section RecvRel
open Src.renet.channel.reliable

abbrev SRR := ReceiveChannelReliable

def reprOrder (mr : Nat) (r : RecvRel) : ReliableOrder :=
  if r.ordered then .Ordered else .Unordered mr (setOf r.received)

def reprRR (mr : Nat) (r : RecvRel) : SRR :=
  ⟨reprSlices r.slices, mapVals toNats r.messages, r.oldest, reprOrder mr r, r.mem, r.maxMem⟩

/-- `most_recent_message_id` after `process_message` -/
def mrNext (r : RecvRel) (mr id : Nat) : Nat :=
  if id < r.oldest ∨ r.ordered = true then mr else if mr < id then id else mr

/-- the generated channel during the `while received_messages.contains(&oldest)` loop -/
def advSt (base : SRR) (mr : Nat) (o : Nat) (rec : List Nat) : SRR :=
  { base with oldest_pending_message_id := o, reliable_order := .Unordered mr (setOf rec) }

theorem advance_loop {ε ρ : Type} (base : SRR) (mr : Nat) (site : String)
    (body : SRR → Exec ε (LoopExit ρ SRR) SRR)
    (hb : ∀ (o : Nat) (rec : List Nat), rec.Nodup → (rec.contains o = true → o + 1 < 2 ^ 64) →
      body (advSt base mr o rec) =
        if rec.contains o then .val (advSt base mr (o + 1) (rec.erase o)) else .ret (.brk (advSt base mr o rec))) :
    ∀ (n : Nat) (rec : List Nat) (o fuel : Nat), rec.length = n → rec.Nodup → n < fuel → o + n < 2 ^ 64 →
      RustSem.whileFuel fuel site (advSt base mr o rec) body =
        .val (advSt base mr (advanceOldest n o rec).1 (advanceOldest n o rec).2) := by
  intro n
  induction n with
  | zero =>
    intro rec o fuel hl hn hf ho
    obtain ⟨k, rfl⟩ : ∃ k, fuel = k + 1 := ⟨fuel - 1, by omega⟩
    have : rec = [] := List.eq_nil_of_length_eq_zero hl
    subst this
    rw [RustSem.whileFuel, hb o [] hn (by simp)]
    simp [advanceOldest]
  | succ n ih =>
    intro rec o fuel hl hn hf ho
    obtain ⟨k, rfl⟩ : ∃ k, fuel = k + 1 := ⟨fuel - 1, by omega⟩
    rw [RustSem.whileFuel, hb o rec hn (by intro; omega), advanceOldest]
    cases hc : rec.contains o with
    | true =>
      have hmem : o ∈ rec := by simpa using hc
      simp only [if_true]
      exact ih (rec.erase o) (o + 1) k (by rw [List.length_erase_of_mem hmem]; omega) (hn.erase o) (by omega) (by omega)
    | false => simp

def rrOut (mr : Nat) : Res (ChanErr × RecvRel) RecvRel → Res (SChannelError × SRR) (SRR × Unit) :=
  mapRes (fun r' => (reprRR mr r', ())) (fun e => (reprCE e.1, reprRR mr e.2))

/-- the slice is ignored: its message is queued or older than the oldest pending one, or (unordered) was received -/
def Known (r : RecvRel) (id : Nat) : Prop :=
  (SMap.contains r.messages id = true ∨ id < r.oldest) ∨ (¬ r.ordered = true ∧ r.received.contains id = true)

theorem rr_process_slice_known (mr : Nat) (r : RecvRel) (sl : Slice) (h : Known r sl.messageId) :
    SameOutcome (ReceiveChannelReliable.process_slice (reprRR mr r) (reprSlice sl)) (rrOut mr (r.processSlice sl)) := by
  unfold ReceiveChannelReliable.process_slice RecvRel.processSlice
  simp only [reprRR, reprSlice, contains_mapVals, Exec.bind_eq, Exec.pure_eq]
  by_cases h1 : SMap.contains r.messages sl.messageId = true ∨ sl.messageId < r.oldest
  · rcases h1 with h1 | h1 <;> simp [h1, Exec.bind_ret', Exec.run_ret, rrOut, mapRes, SameOutcome, reprRR]
  have h2 := h.resolve_left h1
  have h1a : SMap.contains r.messages sl.messageId = false := by
    cases h : SMap.contains r.messages sl.messageId <;> simp_all
  have h1b : ¬ sl.messageId < r.oldest := fun h => h1 (Or.inr h)
  have hord : r.ordered = false := by simpa using h2.1
  have hmemr : sl.messageId ∈ r.received := by simpa using h2.2
  simp [h1a, h1b, reprOrder, hord, contains_setOf, hmemr, Exec.bind_ret', Exec.run_ret, rrOut, mapRes, SameOutcome,
    reprRR, Exec.bind_val']

theorem not_known {r : RecvRel} {id : Nat} (h : ¬ Known r id) :
    SMap.contains r.messages id = false ∧ ¬ id < r.oldest ∧ ¬ (SMap.contains r.messages id = true ∨ id < r.oldest) ∧
      ¬ (¬ r.ordered = true ∧ r.received.contains id = true) := by
  obtain ⟨h1, h2⟩ := not_or.mp h
  refine ⟨?_, fun h => h1 (Or.inr h), h1, h2⟩
  cases hc : SMap.contains r.messages id <;> simp_all

/-- the `Unordered { received_messages, .. }` check passes on every state with this order and these ids -/
theorem order_check (mr : Nat) (r : RecvRel) (id : Nat) (X : SRR × Unit)
    (h2 : ¬ (¬ r.ordered = true ∧ r.received.contains id = true)) :
    (match reprOrder mr r with
      | ReliableOrder.Unordered _ received_messages =>
        ((if RustSem.Set.contains received_messages id = true then Exec.ret X else Exec.val ()) :
          Exec (SChannelError × SRR) (SRR × Unit) Unit).bind fun _ => Exec.val ()
      | _ => Exec.val ()) = Exec.val () := by
  cases hord : r.ordered with
  | true => simp [reprOrder, hord]
  | false =>
    have hc : r.received.contains id = false := by
      cases hc : r.received.contains id with
      | false => rfl
      | true => exact absurd ⟨by simp [hord], hc⟩ h2
    have hnm : id ∉ r.received := by
      intro hm; have : r.received.contains id = true := by simpa using hm
      rw [hc] at this; cases this
    simp [reprOrder, hord, contains_setOf, hnm, Exec.bind_val']

end RecvRel
end RenetVerif.SrcEquiv
