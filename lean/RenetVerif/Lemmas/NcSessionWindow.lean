/-
  Netcode server, WHOLE RUNS: the stored replay window of every session IS the `Recv.run` window of a ghost datagram list.

  `addrBufs ad tr` (ghost, a function of the trace alone): the datagrams of the `process_packet` calls from address `ad`, oldest
  first, that were long enough to reach `Packet::decode` (`2 + MAC` bytes), since the last call from `ad` that returned
  `PacketToSend`.  From a source address `process_packet` returns `PacketToSend` only when it answers a connection request
  (challenge: the half-open session of `ad` is (re)created with a NEW window) or denies one / a response (server full: the
  half-open session of `ad` is dropped).  Hence, for an address that HAS a session (half-open or connected), `addrBufs ad tr` is
  exactly the list of datagrams that reached `Packet::decode` under that session's receive key since the half-open entry was
  created (the entry existed without interruption since then: a later re-creation would have reset the list; the receive key
  is fixed when the entry is created and survives promotion to a slot).  One step of this is `ppOut_sender` (`SenderFate`: what
  a `process_packet` outcome does to the sessions of the sender); `ppOut_slots` / `ppOut_writes` are the frame for
  every other address.

  `WinInv a s tr` (carried along every run, `ReachT.winInv`):
    * every occupied slot `c` (`SlotWin`):  `c.replayProtection = (Recv.run a proto c.receiveKey (addrBufs c.addr tr)).window`,
      the payloads of the current session of `c.clientId` (`sessPayloads`) are, as (sequence number, `Payload`) pairs, a
      sub-list of `(Recv.run …).surfaced`, and each of their datagrams opened under `c.receiveKey`, its sequence number accepted;
    * every half-open session `p` stored under `ad`:  `p.replayProtection = (Recv.run a proto p.receiveKey (addrBufs ad tr)).window`;
    * for every id (connected or not) the payloads of its current session are a sub-list of the results of SOME `Recv.run`.
-/
import RenetVerif.Lemmas.NcSessionTrace
import RenetVerif.Lemmas.NcClientTrace
import RenetVerif.Lemmas.NcTimeout
namespace RenetVerif.Netcode
namespace NS
open RenetVerif RenetVerif.Netcode.Packet RenetVerif.NcClientTrace

def dg (buf : Bytes) : List Bytes := if buf.length < 2 + C.NETCODE_MAC_BYTES then [] else [buf]

def isToSend : ServerResult → Bool
  | .packetToSend _ _ => true
  | _ => false

def bufStep (ad : Addr) (L : List Bytes) (x : Op × ServerResult) : List Bytes :=
  match x.1 with
  | .packet ad' buf => if ad' = ad then (if isToSend x.2 then [] else L ++ dg buf) else L
  | _ => L

def addrBufs (ad : Addr) (tr : Trace) : List Bytes := tr.foldl (bufStep ad) []

theorem addrBufs_snoc (ad : Addr) (tr : Trace) (x : Op × ServerResult) :
    addrBufs ad (tr ++ [x]) = bufStep ad (addrBufs ad tr) x := by
  simp [addrBufs, List.foldl_append]

theorem addrBufs_snoc_packet (ad : Addr) (tr : Trace) (ad' : Addr) (buf : Bytes) (r : ServerResult) :
    addrBufs ad (tr ++ [(.packet ad' buf, r)]) =
      if ad' = ad then (if isToSend r then [] else addrBufs ad tr ++ dg buf) else addrBufs ad tr := by
  rw [addrBufs_snoc]; rfl

theorem addrBufs_snoc_other (ad : Addr) (tr : Trace) {op : Op} (r : ServerResult)
    (hop : ∀ ad' buf, op ≠ .packet ad' buf) : addrBufs ad (tr ++ [(op, r)]) = addrBufs ad tr := by
  rw [addrBufs_snoc]
  cases op with
  | packet ad' buf => exact absurd rfl (hop ad' buf)
  | _ => rfl

theorem addrBufs_snoc_ne (ad : Addr) (tr : Trace) {ad' : Addr} (buf : Bytes) (r : ServerResult) (hne : ad' ≠ ad) :
    addrBufs ad (tr ++ [(.packet ad' buf, r)]) = addrBufs ad tr := by
  rw [addrBufs_snoc_packet, if_neg hne]

theorem addrBufs_snoc_self (ad : Addr) (tr : Trace) (buf : Bytes) {r : ServerResult} (hr : isToSend r = false) :
    addrBufs ad (tr ++ [(.packet ad buf, r)]) = addrBufs ad tr ++ dg buf := by
  rw [addrBufs_snoc_packet, if_pos rfl, hr]; rfl

theorem addrBufs_snoc_reset (ad : Addr) (tr : Trace) (buf : Bytes) {r : ServerResult} (hr : isToSend r = true) :
    addrBufs ad (tr ++ [(.packet ad buf, r)]) = [] := by
  rw [addrBufs_snoc_packet, if_pos rfl, hr]; rfl

theorem recv_run_snoc (a : AEAD) (proto : Nat) (key : Bytes) (bufs : List Bytes) (b : Bytes) :
    Recv.run a proto key (bufs ++ [b]) = Recv.step a proto key (Recv.run a proto key bufs) b := by
  simp [Recv.run, List.foldl_append]

theorem run_dg_window {a : AEAD} {buf : Bytes} {proto : Nat} {k : Bytes} {w w' : RP} {res : NRes (Nat × Packet)}
    {bufs : List Bytes} (hdec : Packet.decode a buf proto (some k) (some w) = (res, some w'))
    (hw : w = (Recv.run a proto k bufs).window) : w' = (Recv.run a proto k (bufs ++ dg buf)).window := by
  unfold dg
  split
  · rename_i hs
    rw [Packet.decode_short hs] at hdec
    simp only [Prod.mk.injEq, Option.some.injEq] at hdec
    rw [List.append_nil, ← hdec.2, hw]
  · rw [recv_run_snoc, recv_step_window, ← hw, hdec]; rfl

theorem run_dg_sublist (a : AEAD) (proto : Nat) (k : Bytes) (bufs : List Bytes) (buf : Bytes) :
    (Recv.run a proto k bufs).surfaced.Sublist (Recv.run a proto k (bufs ++ dg buf)).surfaced := by
  unfold dg
  split
  · rw [List.append_nil]; exact List.Sublist.refl _
  · rw [recv_run_snoc]; exact recv_step_surfaced_suffix _ _ _ _ _

theorem recv_step_accepted (a : AEAD) (proto : Nat) (key : Bytes) (st : Recv) (b : Bytes) :
    ∀ x ∈ st.accepted, x ∈ (Recv.step a proto key st b).accepted := by
  intro x hx
  unfold Recv.step
  cases hdec : decode a b proto (some key) (some st.window) with
  | mk r w' => cases r <;> dsimp only <;> split <;> first | exact hx | exact List.mem_cons_of_mem _ hx

theorem run_dg_accepted (a : AEAD) (proto : Nat) (k : Bytes) (bufs : List Bytes) (buf : Bytes) :
    ∀ x ∈ (Recv.run a proto k bufs).accepted, x ∈ (Recv.run a proto k (bufs ++ dg buf)).accepted := by
  unfold dg
  split
  · rw [List.append_nil]; exact fun _ h => h
  · rw [recv_run_snoc]; exact recv_step_accepted _ _ _ _ _

theorem run_dg_payload {a : AEAD} {buf : Bytes} {proto : Nat} {k : Bytes} {w w' : RP} {sq : Nat} {p : Bytes}
    {bufs : List Bytes} (hdec : Packet.decode a buf proto (some k) (some w) = (.ok (sq, .payload p), some w'))
    (hw : w = (Recv.run a proto k bufs).window) :
    (Recv.run a proto k (bufs ++ dg buf)).surfaced = (wireSeq buf, Packet.payload p) :: (Recv.run a proto k bufs).surfaced ∧
    wireSeq buf ∈ (Recv.run a proto k (bufs ++ dg buf)).accepted ∧ SealedOpen a buf proto k .payload p := by
  subst hw
  obtain ⟨hsq, hso, -, -, -⟩ := decode_payload_inv hdec (Recv.good_run a proto k bufs).inv
  subst hsq
  unfold dg
  split
  · rename_i hs
    exact absurd hs (Packet.not_short_of_ok (congrArg Prod.fst hdec))
  · rw [recv_run_snoc]
    unfold Recv.step
    rw [hdec]
    exact ⟨rfl, List.mem_cons_self, hso⟩

end NS
end RenetVerif.Netcode
namespace RenetVerif.C04X
open RenetVerif RenetVerif.Netcode RenetVerif.Netcode.NS RenetVerif.Netcode.Packet RenetVerif.NcClientTrace

def DecodedUnder (a : AEAD) (proto : Nat) (buf : Bytes) (k : Bytes) (w w' : RP) : Prop :=
  (buf.length < 2 + C.NETCODE_MAC_BYTES ∧ w' = w) ∨
  (¬ buf.length < 2 + C.NETCODE_MAC_BYTES ∧ ∃ res, Packet.decode a buf proto (some k) (some w) = (res, some w'))

end RenetVerif.C04X
namespace RenetVerif.Netcode
namespace NS
open RenetVerif RenetVerif.Netcode.Packet RenetVerif.NcClientTrace RenetVerif.C04X

theorem decodedUnder_of_decode {a : AEAD} {proto : Nat} {buf k : Bytes} {w w' : RP} {res : NRes (Nat × Packet)}
    (h : Packet.decode a buf proto (some k) (some w) = (res, some w')) : DecodedUnder a proto buf k w w' := by
  by_cases hs : buf.length < 2 + C.NETCODE_MAC_BYTES
  · rw [Packet.decode_short hs] at h
    simp only [Prod.mk.injEq, Option.some.injEq] at h
    exact Or.inl ⟨hs, h.2.symm⟩
  · exact Or.inr ⟨hs, res, h⟩


theorem decodedUnder_run {a : AEAD} {proto : Nat} {buf k : Bytes} {w w' : RP} {bufs : List Bytes}
    (hd : DecodedUnder a proto buf k w w') (hw : w = (Recv.run a proto k bufs).window) :
    w' = (Recv.run a proto k (bufs ++ dg buf)).window := by
  rcases hd with ⟨hs, rfl⟩ | ⟨-, res, hdec⟩
  · rw [dg, if_pos hs, List.append_nil]; exact hw
  · exact run_dg_window hdec hw

theorem hcr_pendingFind {a : AEAD} {s : NetcodeServer} {addr : Addr} {v : Bytes} {pid expire : Nat} {xnonce data : Bytes}
    {R : NetcodeServer.SRes} {r : ServerResult} {s' : NetcodeServer}
    (ho : HcrOut a s addr v pid expire xnonce data R) (hr : HcrRes R r s') {q : Connection}
    (hf : pendingFind s'.pendingClients addr = some q) :
    (pendingFind s.pendingClients addr = some q ∧ isToSend r = false) ∨
    (q.replayProtection = RP.new ∧ isToSend r = true) := by
  rcases hcrOut_cases ho hr with ⟨-, rfl, rfl⟩ | ⟨t, s1, -, hstep, hans⟩
  · exact Or.inl ⟨hf, rfl⟩
  obtain ⟨es, rfl⟩ := hstep.writes
  cases hans with
  | deniedQuiet | denied =>
    dsimp only at hf
    rw [pendingFind_filter_ne, if_pos rfl] at hf
    cases hf
  | challengeQuiet => exact Or.inl ⟨hf, rfl⟩
  | challenge =>
    dsimp only at hf
    rw [pendingFind_set, if_pos rfl] at hf
    cases hf
    exact Or.inr ⟨rfl, rfl⟩

/-- **What a `process_packet` outcome does to the session of the sender.**  Answered with `PacketToSend`: the sender is not
    connected, the slot table is untouched, and its half-open session afterwards is absent or new.  Answered otherwise:
    a half-open session of the sender afterwards is the one it had before, a connected one continues the connected
    or half-open session it had before — same receive key, the datagram handed to `decode` under that key and the
    stored window. -/
def SenderFate (a : AEAD) (s s' : NetcodeServer) (addr : Addr) (buf : Bytes) (r : ServerResult) : Prop :=
  (isToSend r = true ∧ findClientByAddr s.clients addr = none ∧ s'.clients = s.clients ∧
    (∃ out, r = .packetToSend addr out) ∧
    (pendingFind s'.pendingClients addr = none ∨
      ∃ q, pendingFind s'.pendingClients addr = some q ∧ q.replayProtection = RP.new)) ∨
  (isToSend r = false ∧
    (∀ q, pendingFind s'.pendingClients addr = some q →
      ∃ p, pendingFind s.pendingClients addr = some p ∧ q.receiveKey = p.receiveKey ∧
          DecodedUnder a s.protocolId buf p.receiveKey p.replayProtection q.replayProtection) ∧
    (∀ j c', At s'.clients j c' → c'.addr = addr →
      (∃ c, At s.clients j c ∧ c.addr = addr ∧ c'.clientId = c.clientId ∧ c'.receiveKey = c.receiveKey ∧
          DecodedUnder a s.protocolId buf c.receiveKey c.replayProtection c'.replayProtection) ∨
      (∃ p, findClientByAddr s.clients addr = none ∧ pendingFind s.pendingClients addr = some p ∧
        c'.receiveKey = p.receiveKey ∧
          DecodedUnder a s.protocolId buf p.receiveKey p.replayProtection c'.replayProtection ∧
        ∃ ud ka, r = .clientConnected c'.clientId addr ud ka)))

theorem ppOut_sender {a : AEAD} {s s' : NetcodeServer} {addr : Addr} {buf : Bytes} {r : ServerResult}
    (hi : ServerInv s) (ho : PPOut a s addr buf r s') : SenderFate a s s' addr buf r := by
  -- a connected sender has no half-open session; its slot `i` is rewritten with the decoder's window
  have conn : ∀ {i : Nat} {c : Connection} {res : NRes (Nat × Packet)} {w' : RP},
      findClientByAddr s.clients addr = some (i, c) →
      Packet.decode a buf s.protocolId (some c.receiveKey) (some c.replayProtection) = (res, some w') →
      (∀ q, pendingFind s.pendingClients addr = some q → False) ∧
      ∀ (x : Connection) j c', At (s.clients.set i (some x)) j c' → c'.addr = addr →
        x.clientId = c.clientId → x.receiveKey = c.receiveKey → x.replayProtection = w' →
          ∃ c, At s.clients j c ∧ c.addr = addr ∧ c'.clientId = c.clientId ∧ c'.receiveKey = c.receiveKey ∧
          DecodedUnder a s.protocolId buf c.receiveKey c.replayProtection c'.replayProtection := by
    intro i c res w' hfa hdec
    obtain ⟨hc, hca⟩ := findAddr_some hfa
    refine ⟨fun q hq => (hi.pend (addr, q) (pendingFind_mem hq)).fresh i c hc hca, fun x j c' hat ha hid hk hw => ?_⟩
    rcases at_set_some hat with ⟨rfl, rfl⟩ | ⟨hne, hj⟩
    · exact ⟨c, hc, hca, hid, hk, by rw [hw]; exact decodedUnder_of_decode hdec⟩
    · exact absurd (hi.slots.addrs i j c c' hc hj (by rw [hca, ha])) hne
  -- the half-open session `p` of the sender is rewritten with the decoder's window
  have pend : ∀ {p x q : Connection} {res : NRes (Nat × Packet)} {w' : RP},
      pendingFind s.pendingClients addr = some p →
      Packet.decode a buf s.protocolId (some p.receiveKey) (some p.replayProtection) = (res, some w') →
      pendingFind (pendingSet s.pendingClients addr x) addr = some q →
      x.receiveKey = p.receiveKey → x.replayProtection = w' →
      ∃ p, pendingFind s.pendingClients addr = some p ∧ q.receiveKey = p.receiveKey ∧
          DecodedUnder a s.protocolId buf p.receiveKey p.replayProtection q.replayProtection := by
    intro p x q res w' hpf hdec hq hk hw
    rw [pendingFind_set, if_pos rfl] at hq
    cases hq
    exact ⟨p, hpf, hk, by rw [hw]; exact decodedUnder_of_decode hdec⟩
  -- a request is `handle_connection_request`'s business, from the state `s0` in which it finds the pending map
  have hcr : ∀ {s0 : NetcodeServer} {v : Bytes} {pid expire : Nat} {xnonce data : Bytes} {R : NetcodeServer.SRes},
      findClientByAddr s.clients addr = none → HcrOut a s0 addr v pid expire xnonce data R → HcrRes R r s' →
      s0.clients = s.clients →
      (∀ q, pendingFind s0.pendingClients addr = some q →
        ∃ p, pendingFind s.pendingClients addr = some p ∧ q.receiveKey = p.receiveKey ∧
          DecodedUnder a s.protocolId buf p.receiveKey p.replayProtection q.replayProtection) →
      SenderFate a s s' addr buf r := by
    intro s0 v pid expire xnonce data R hfa hout hres hcl hold
    obtain ⟨h1, h2⟩ := hcr_clients hout hres
    cases hr : isToSend r with
    | true =>
      refine Or.inl ⟨hr, hfa, h1.trans hcl, ?_, ?_⟩
      · rcases h2 with rfl | h2
        · cases hr
        · exact h2
      · cases hf : pendingFind s'.pendingClients addr with
        | none => exact Or.inl rfl
        | some q =>
          rcases hcr_pendingFind hout hres hf with ⟨_, hts⟩ | ⟨hnew, _⟩
          · rw [hts] at hr; cases hr
          · exact Or.inr ⟨q, rfl, hnew⟩
    | false =>
      refine Or.inr ⟨hr, fun q hq => ?_, fun j c' hc' ha => ?_⟩
      · rcases hcr_pendingFind hout hres hq with ⟨hf', _⟩ | ⟨_, hts⟩
        · exact hold q hf'
        · rw [hts] at hr; cases hr
      · rw [h1, hcl] at hc'
        exact (findAddr_none.mp hfa j c' hc' ha).elim
  -- neither before nor after is the sender connected; its half-open session is dropped
  have gone : findClientByAddr s.clients addr = none → s'.clients = s.clients →
      pendingFind s'.pendingClients addr = none → isToSend r = false → SenderFate a s s' addr buf r :=
    fun hfa hcl hpn hr => Or.inr ⟨hr, fun q hq => (nomatch hpn.symm.trans hq),
      fun j c' hc' ha => (findAddr_none.mp hfa j c' (hcl ▸ hc') ha).elim⟩
  cases ho with
  | short hs =>
    exact Or.inr ⟨rfl, fun q hq => ⟨q, hq, rfl, Or.inl ⟨hs, rfl⟩⟩, fun j c' hc' ha => Or.inl ⟨c', hc', ha, rfl, rfl, Or.inl ⟨hs, rfl⟩⟩⟩
  | connErr i c e w' hfa hdec | connKeepAlive i c sq ci mc w' hfa hdec | connOther i c sq pk w' hfa hdec _ _ _
  | connPayload i c sq p w' hfa hdec =>
    obtain ⟨h1, h2⟩ := conn hfa hdec
    exact Or.inr ⟨rfl, fun q hq => (h1 q hq).elim, fun j c' hc' ha => Or.inl (h2 _ j c' hc' ha rfl rfl rfl)⟩
  | connDisconnect i c sq w' hfa hdec =>
    obtain ⟨hc, hca⟩ := findAddr_some hfa
    refine Or.inr ⟨rfl, fun q hq => ((conn hfa hdec).1 q hq).elim, fun j c' hc' ha => ?_⟩
    obtain ⟨hj, hne⟩ := at_set_none hc'
    exact absurd (hi.slots.addrs i j c c' hc hj (by rw [hca, ha])) hne
  | pendErr p e w' hfa hpf hdec | pendOther p sq pk w' hfa hpf hdec _ _ | respRejected p sq ts td w' hfa hpf hdec _ =>
    exact Or.inr ⟨rfl, fun q hq => pend hpf hdec hq rfl rfl, fun j c' hc' ha => (findAddr_none.mp hfa j c' hc' ha).elim⟩
  | pendRequest p sq v pid expire xnonce data w' R _ _ hfa hpf hdec hout hres =>
    exact hcr hfa hout hres rfl fun q hq => pend hpf hdec hq rfl rfl
  | newRequest sq v pid expire xnonce data R _ _ hfa hpf hdec hout hres =>
    exact hcr hfa hout hres rfl fun q hq => nomatch hpf.symm.trans hq
  | respDropped p sq ts td w' hfa hpf hdec _ =>
    exact gone hfa rfl (by dsimp only; rw [pendingFind_filter_ne, if_pos rfl]) rfl
  | newErr e hfa hpf hdec => exact gone hfa rfl hpf rfl
  | respFull p sq ts td w' out hfa hpf hdec _ _ _ _ =>
    refine Or.inl ⟨rfl, hfa, rfl, ⟨out, rfl⟩, Or.inl ?_⟩
    dsimp only
    rw [pendingFind_filter_ne, if_pos rfl]
  | respConnected p sq ts td w' i out hfa hpf hdec hct hid hff hen =>
    refine Or.inr ⟨rfl, fun q hq => ?_, fun j c' hc' ha => ?_⟩
    · dsimp only at hq
      rw [pendingFind_filter_ne, if_pos rfl] at hq
      cases hq
    · rcases at_set_some hc' with ⟨rfl, rfl⟩ | ⟨hne, hj⟩
      · exact Or.inr ⟨p, hfa, hpf, rfl, decodedUnder_of_decode hdec, _, _, rfl⟩
      · exact (findAddr_none.mp hfa j c' hj ha).elim

structure SlotWin (a : AEAD) (proto : Nat) (tr : Trace) (id : Nat) (k : Bytes) (ad : Addr) (w : RP) : Prop where
  window : w = (Recv.run a proto k (addrBufs ad tr)).window
  surf : ((sessPayloads id tr).map asSurf).Sublist (Recv.run a proto k (addrBufs ad tr)).surfaced
  mem : ∀ bp ∈ sessPayloads id tr,
    wireSeq bp.1 ∈ (Recv.run a proto k (addrBufs ad tr)).accepted ∧ SealedOpen a bp.1 proto k .payload bp.2

theorem SlotWin.keep {a : AEAD} {proto : Nat} {tr : Trace} {id : Nat} {k : Bytes} {ad : Addr} {w : RP}
    (h : SlotWin a proto tr id k ad w) {x : Op × ServerResult} (hb : addrBufs ad (tr ++ [x]) = addrBufs ad tr)
    (hL : sessPayloads id (tr ++ [x]) = sessPayloads id tr ∨ sessPayloads id (tr ++ [x]) = []) :
    SlotWin a proto (tr ++ [x]) id k ad w := by
  constructor
  · rw [hb]; exact h.window
  · rw [hb]; rcases hL with e | e <;> rw [e]
    · exact h.surf
    · exact List.nil_sublist _
  · rw [hb]; rcases hL with e | e <;> rw [e]
    · exact h.mem
    · exact nofun

theorem SlotWin.fed {a : AEAD} {proto : Nat} {tr : Trace} {id : Nat} {k : Bytes} {ad : Addr} {w w' : RP} {buf : Bytes}
    (h : SlotWin a proto tr id k ad w) {x : Op × ServerResult}
    (hb : addrBufs ad (tr ++ [x]) = addrBufs ad tr ++ dg buf) (hd : DecodedUnder a proto buf k w w')
    (hL : sessPayloads id (tr ++ [x]) = sessPayloads id tr ∨ sessPayloads id (tr ++ [x]) = []) :
    SlotWin a proto (tr ++ [x]) id k ad w' := by
  constructor
  · rw [hb]; exact decodedUnder_run hd h.window
  · rw [hb]; rcases hL with e | e <;> rw [e]
    · exact h.surf.trans (run_dg_sublist _ _ _ _ _)
    · exact List.nil_sublist _
  · rw [hb]; rcases hL with e | e <;> rw [e]
    · exact fun bp hbp => ⟨run_dg_accepted _ _ _ _ _ _ (h.mem bp hbp).1, (h.mem bp hbp).2⟩
    · exact nofun

structure WinInv (a : AEAD) (s : NetcodeServer) (tr : Trace) : Prop where
  slot : ∀ i c, At s.clients i c → SlotWin a s.protocolId tr c.clientId c.receiveKey c.addr c.replayProtection
  pend : ∀ ad p, pendingFind s.pendingClients ad = some p →
    p.replayProtection = (Recv.run a s.protocolId p.receiveKey (addrBufs ad tr)).window
  surf : ∀ id, ∃ key bufs, ((sessPayloads id tr).map asSurf).Sublist (Recv.run a s.protocolId key bufs).surfaced ∧
    ∀ bp ∈ sessPayloads id tr, SealedOpen a bp.1 s.protocolId key .payload bp.2

theorem winInv_init (a : AEAD) {s : NetcodeServer} (h : EmptyServer s) : WinInv a s [] := by
  refine ⟨fun i c hc => ?_, fun ad p hf => ?_, fun id => ⟨[], [], List.Sublist.refl _, nofun⟩⟩
  · rw [h.clients] at hc
    exact absurd hc at_replicate
  · rw [h.pending] at hf; cases hf

theorem WinInv.quiet {a : AEAD} {s s' : NetcodeServer} {tr : Trace} {op : Op} {r : ServerResult} (hi : ServerInv s)
    (h : WinInv a s tr) (hq : QuietStep s r s') (hb : ∀ ad, addrBufs ad (tr ++ [(op, r)]) = addrBufs ad tr) :
    WinInv a s' (tr ++ [(op, r)]) := by
  have hL : ∀ id, sessPayloads id (tr ++ [(op, r)]) = sessPayloads id tr := fun id => by
    rw [sessPayloads_snoc, sessStep_other hq.result]
  refine ⟨fun i c' hc' => ?_, fun ad p hf => ?_, fun id => ?_⟩
  · obtain ⟨c, hc, e1, e2, e3, e4⟩ := hq.slot i c' hc'
    rw [hq.proto, e1, e2, e3, e4]
    exact (h.slot i c hc).keep (hb _) (Or.inl (hL _))
  · rw [hq.proto, hb]
    exact h.pend ad p (pendingFind_of_mem hi.pendKeys (hq.pend _ (pendingFind_mem hf)))
  · rw [hL, hq.proto]; exact h.surf id

/-- Sessions of other addresses are untouched (`ppOut_slots`, `ppOut_writes`) and see neither a datagram nor a payload of theirs; the
    sender's sessions continue as `ppOut_sender` says, its ghost list reset or fed as `addrBufs` is defined; a surfaced
    payload is the newest result of the sender's receive side (`run_dg_payload`). -/
theorem ppOut_winInv {a : AEAD} {s : NetcodeServer} {tr : Trace} {addr : Addr} {buf : Bytes} {r : ServerResult}
    {s' : NetcodeServer} (hi : ServerInv s) (h : WinInv a s tr) (ho : PPOut a s addr buf r s') :
    WinInv a s' (tr ++ [(.packet addr buf, r)]) := by
  obtain ⟨hproto, hpendO⟩ : s'.protocolId = s.protocolId ∧
      ∀ ad, ad ≠ addr → pendingFind s'.pendingClients ad = pendingFind s.pendingClients ad := by
    obtain ⟨cl, es, pd, g, cs, rfl, hp, -⟩ := ppOut_writes ho
    exact ⟨rfl, hp⟩
  have hfate := ppOut_sender hi ho
  -- a surfaced payload of `id`: the sender is the connected session of `id`, and with the datagram appended to its ghost
  -- list the payloads of the session are results of its receive side, each opened under its key
  have pay : ∀ id p, r = .payload id p → ∃ i c, At s.clients i c ∧ c.clientId = id ∧ c.addr = addr ∧
      (((buf, p) :: sessPayloads id tr).map asSurf).Sublist
        (Recv.run a s.protocolId c.receiveKey (addrBufs addr tr ++ dg buf)).surfaced ∧
      ∀ bp ∈ (buf, p) :: sessPayloads id tr,
        wireSeq bp.1 ∈ (Recv.run a s.protocolId c.receiveKey (addrBufs addr tr ++ dg buf)).accepted ∧
        SealedOpen a bp.1 s.protocolId c.receiveKey .payload bp.2 := by
    rintro id p rfl
    obtain ⟨i, c, sq, w', hc, rfl, rfl, hdec⟩ := ppOut_payload ho
    have hs := h.slot i c hc
    obtain ⟨hrun, hacc, hso⟩ := run_dg_payload hdec hs.window
    refine ⟨i, c, hc, rfl, rfl, ?_, fun bp hbp => ?_⟩
    · rw [hrun]; exact hs.surf.cons_cons _
    · rcases List.mem_cons.mp hbp with rfl | hbp
      · exact ⟨hacc, hso⟩
      · exact ⟨run_dg_accepted _ _ _ _ _ _ (hs.mem bp hbp).1, (hs.mem bp hbp).2⟩
  refine ⟨fun j c' hc' => ?_, fun ad q hf => ?_, fun id => ?_⟩
  · rw [hproto]
    by_cases ha : c'.addr = addr
    · -- a session of the sender
      rcases hfate with ⟨-, hfa, hcl, -⟩ | ⟨ht, -, hsl⟩
      · exact absurd ha (findAddr_none.mp hfa j c' (hcl ▸ hc'))
      have hb := addrBufs_snoc_self addr tr buf ht
      rw [ha]
      rcases hsl j c' hc' ha with ⟨c, hc, hca, hid, hk, hd⟩ | ⟨p, -, hpf, hk, hd, ud, ka, hr⟩
      · have hs := h.slot j c hc
        rw [hca] at hs
        rw [hid, hk]
        rcases sessPayloads_snoc_cases c.clientId tr (.packet addr buf) r with e | e | ⟨_, _, p, hop, hr, e⟩
        · exact hs.fed hb hd (Or.inl e)
        · exact hs.fed hb hd (Or.inr e)
        · cases hop
          obtain ⟨i, c0, hc0, hid0, hca0, hsub, hmem⟩ := pay _ p hr
          obtain rfl : i = j := hi.slots.addrs i j c0 c hc0 hc (hca0.trans hca.symm)
          cases at_inj hc0 hc
          exact ⟨by rw [hb]; exact decodedUnder_run hd hs.window, by rw [hb, e]; exact hsub, by rw [hb, e]; exact hmem⟩
      · -- a half-open session promoted: the session of its id starts
        have e : sessPayloads c'.clientId (tr ++ [(Op.packet addr buf, r)]) = [] := by
          rw [sessPayloads_snoc, hr, sessStep_connected, if_pos rfl]
        rw [hk]
        exact ⟨by rw [hb]; exact decodedUnder_run hd (h.pend addr p hpf), by rw [e]; exact List.nil_sublist _,
          by rw [e]; exact nofun⟩
    · -- a session of another address
      have hc := (ppOut_slots hi ho).before hc' (fun c e h => ha ((ident_addr e).trans h)) ha
      have hb := addrBufs_snoc_ne c'.addr tr buf r (Ne.symm ha)
      rcases sessPayloads_snoc_cases c'.clientId tr (.packet addr buf) r with e | e | ⟨_, _, p, -, hr, -⟩
      · exact (h.slot j c' hc).keep hb (Or.inl e)
      · exact (h.slot j c' hc).keep hb (Or.inr e)
      · -- a payload is surfaced for the session of the sender's address only
        obtain ⟨i, c0, hc0, hid0, hca0, -⟩ := pay _ p hr
        obtain rfl : i = j := hi.slots.ids i j c0 c' hc0 hc hid0
        cases at_inj hc0 hc
        exact absurd hca0 ha
  · rw [hproto]
    by_cases hne : ad = addr
    · subst hne
      rcases hfate with ⟨ht, -, -, -, hn | ⟨q', hq', hnew⟩⟩ | ⟨ht, hpe, -⟩
      · rw [hn] at hf; cases hf
      · cases hq'.symm.trans hf
        rw [addrBufs_snoc_reset _ _ _ ht, hnew]; rfl
      · obtain ⟨p, hpf, hk, hd⟩ := hpe q hf
        rw [addrBufs_snoc_self _ _ _ ht, hk]
        exact decodedUnder_run hd (h.pend _ p hpf)
    · rw [addrBufs_snoc_ne _ _ _ _ (Ne.symm hne)]
      exact h.pend ad q (hpendO ad hne ▸ hf)
  · rw [hproto]
    rcases sessPayloads_snoc_cases id tr (.packet addr buf) r with e | e | ⟨_, _, p, hop, hr, e⟩
    · rw [e]; exact h.surf id
    · rw [e]; exact ⟨[], [], List.nil_sublist _, nofun⟩
    · cases hop
      obtain ⟨i, c, -, -, -, hsub, hmem⟩ := pay id p hr
      rw [e]
      exact ⟨c.receiveKey, _, hsub, fun bp hbp => (hmem bp hbp).2⟩

theorem step_winInv {a : AEAD} {s s' : NetcodeServer} {tr : Trace} {op : Op} {r : ServerResult} (hi : ServerInv s)
    (h : WinInv a s tr) (hs : step a s op = some (r, s')) : WinInv a s' (tr ++ [(op, r)]) := by
  rcases step_packet_or_quiet hs with ⟨addr, buf, rfl, hp⟩ | ⟨hop, hq⟩
  · exact ppOut_winInv hi h (pp_ok hi hp)
  · exact h.quiet hi hq (fun ad => addrBufs_snoc_other ad tr r hop)

theorem ReachT.winInv {a : AEAD} {s : NetcodeServer} {tr : Trace} (h : ReachT a s tr) : WinInv a s tr := by
  induction h with
  | init h => exact winInv_init a h
  | step hr hs ih => exact step_winInv hr.inv ih hs

end NS
end RenetVerif.Netcode
