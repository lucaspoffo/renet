/-
  The token-entry table (`connect_token_entries`, renetcode/src/server.rs) by itself:
  `find_or_add_connect_token_entry` exactly — `tableAdd`, the slot rule `SlotFor` / `FirstEmpty` / `OldestAt`,
  `findOrAdd_new` — and the boundary between a table with room and a table without (`tableAdd_room`, `tableAdd_full`).
-/
import RenetVerif.Lemmas.NcRequest
namespace RenetVerif.NcBinding
open RenetVerif RenetVerif.Netcode RenetVerif.Netcode.NS

/-- the initial scan state of `find_or_add_connect_token_entry` -/
abbrev scan0 : NetcodeServer.EntryScan := ⟨DURATION_MAX, 0, false, none⟩

/-- the table after `find_or_add_connect_token_entry` (it reads nothing but the table) -/
def tableAdd (es : Entries) (ne : ConnectTokenEntry) : Entries :=
  match (NetcodeServer.scanEntries ne.mac es 0 scan0).matchingEntry with
  | some _ => es
  | none => es.set (NetcodeServer.scanEntries ne.mac es 0 scan0).oldestEntry (some ne)

theorem findOrAdd_entries (s : NetcodeServer) (ne : ConnectTokenEntry) :
    (s.findOrAddConnectTokenEntry ne).1.connectTokenEntries = tableAdd s.connectTokenEntries ne := by
  unfold NetcodeServer.findOrAddConnectTokenEntry tableAdd
  simp only
  split <;> rename_i h <;> simp only [scan0, h]

def FirstEmpty (es : Entries) (i : Nat) : Prop := es[i]? = some none ∧ ∀ j, j < i → es[j]? ≠ some none

/-- `i` is the slot `find_or_add_connect_token_entry` overwrites in a table without empty slot: the entry of minimal
    `time`, and among several of minimal time **the one with the lowest index** (the Rust loop replaces its candidate
    only on `e.time < min`, strictly).  `min` starts at `Duration::MAX`, so if no entry is older than that the
    candidate stays at its initial value, index 0. -/
def OldestAt (es : Entries) (i : Nat) : Prop :=
  (∃ e, es[i]? = some (some e) ∧ e.time < DURATION_MAX ∧
      (∀ (j : Nat) (e' : ConnectTokenEntry), j < i → es[j]? = some (some e') → e.time < e'.time) ∧
      (∀ (j : Nat) (e' : ConnectTokenEntry), es[j]? = some (some e') → e.time ≤ e'.time)) ∨
  (i = 0 ∧ ∀ e, some e ∈ es → DURATION_MAX ≤ e.time)

/-- the slot a new entry is written to: the first empty one; only if there is none, the oldest -/
def SlotFor (es : Entries) (i : Nat) : Prop :=
  FirstEmpty es i ∨ ((∀ x ∈ es, x ≠ none) ∧ OldestAt es i)

theorem scan_emptyTrue (mac : Bytes) : ∀ (es : Entries) (k : Nat) (st : NetcodeServer.EntryScan),
    st.emptyEntry = true →
    (NetcodeServer.scanEntries mac es k st).oldestEntry = st.oldestEntry
  | [], _, _, _ => rfl
  | none :: rest, k, st, h => by
    simp only [NetcodeServer.scanEntries, h, Bool.not_true, Bool.false_eq_true, if_false]
    exact scan_emptyTrue mac rest (k + 1) st h
  | some e0 :: rest, k, st, h => by
    simp only [NetcodeServer.scanEntries]
    split <;> simp only [h, Bool.not_true, Bool.false_eq_true, false_and, if_false]
    · exact scan_emptyTrue mac rest (k + 1) _ rfl
    · exact scan_emptyTrue mac rest (k + 1) _ h

theorem scan_firstEmpty (mac : Bytes) : ∀ (es : Entries) (k : Nat) (st : NetcodeServer.EntryScan) (j : Nat),
    st.emptyEntry = false → FirstEmpty es j →
    (NetcodeServer.scanEntries mac es k st).oldestEntry = k + j
  | [], _, _, j, _, hf => by simp [FirstEmpty] at hf
  | none :: rest, k, st, j, h, hf => by
    have hj : j = 0 := by
      cases j with
      | zero => rfl
      | succ j => exact absurd (by simp) (hf.2 0 (Nat.succ_pos _))
    subst hj
    simp only [NetcodeServer.scanEntries, h, Bool.not_false, if_true]
    rw [scan_emptyTrue mac rest (k + 1) _ rfl]
    rfl
  | some e0 :: rest, k, st, j, h, hf => by
    cases j with
    | zero => simp [FirstEmpty] at hf
    | succ j =>
      have hf' : FirstEmpty rest j := by
        refine ⟨by simpa using hf.1, fun j' hj' => ?_⟩
        have := hf.2 (j' + 1) (by omega)
        simpa using this
      simp only [NetcodeServer.scanEntries]
      rw [scan_firstEmpty mac rest (k + 1) _ j ?_ hf']
      · omega
      · split <;> split <;> simp only [h]


/-- the scan over a table without empty slot (started with `emptyEntry = false`): either nothing is older than the
    initial `min` and the candidate is unchanged, or the candidate is the first entry of minimal time -/
theorem scan_full (mac : Bytes) : ∀ (es : Entries) (k : Nat) (st : NetcodeServer.EntryScan),
    st.emptyEntry = false → (∀ x ∈ es, x ≠ none) →
    ((NetcodeServer.scanEntries mac es k st).oldestEntry = st.oldestEntry ∧
      (NetcodeServer.scanEntries mac es k st).min = st.min ∧ ∀ e, some e ∈ es → st.min ≤ e.time) ∨
    (∃ j e, es[j]? = some (some e) ∧ (NetcodeServer.scanEntries mac es k st).oldestEntry = k + j ∧
      (NetcodeServer.scanEntries mac es k st).min = e.time ∧ e.time < st.min ∧
      (∀ (j' : Nat) (e' : ConnectTokenEntry), j' < j → es[j']? = some (some e') → e.time < e'.time) ∧
      (∀ (j' : Nat) (e' : ConnectTokenEntry), es[j']? = some (some e') → e.time ≤ e'.time))
  | [], _, _, _, _ => Or.inl ⟨rfl, rfl, fun e he => by cases he⟩
  | none :: rest, _, _, _, hfull => absurd rfl (hfull none (by simp))
  | some e0 :: rest, k, st, h, hfull => by
    have hfull' : ∀ x ∈ rest, x ≠ none := fun x hx => hfull x (List.mem_cons_of_mem _ hx)
    -- one iteration: `k` becomes the candidate exactly when `e0` is older than the minimum so far
    obtain ⟨st', he, h1, h2⟩ : ∃ st' : NetcodeServer.EntryScan, NetcodeServer.scanEntries mac (some e0 :: rest) k st =
        NetcodeServer.scanEntries mac rest (k + 1) st' ∧ st'.emptyEntry = false ∧
        ((e0.time < st.min ∧ st'.oldestEntry = k ∧ st'.min = e0.time) ∨
          (¬ e0.time < st.min ∧ st'.oldestEntry = st.oldestEntry ∧ st'.min = st.min)) := by
      simp only [NetcodeServer.scanEntries]
      refine ⟨_, rfl, ?_, ?_⟩ <;> by_cases hm : e0.mac = mac <;> by_cases hlt : e0.time < st.min <;> simp [hm, hlt, h]
    rw [he]
    rcases scan_full mac rest (k + 1) st' h1 hfull' with ⟨a1, a2, a3⟩ | ⟨j, e, b1, b2, b3, b4, b5, b6⟩
    · -- no entry of `rest` is older than the minimum after `e0`
      rcases h2 with ⟨hlt, c1, c2⟩ | ⟨hlt, c1, c2⟩
      · refine Or.inr ⟨0, e0, rfl, by rw [a1, c1]; rfl, by rw [a2, c2], hlt, fun j' e' hj' => by omega, fun j' e' hj' => ?_⟩
        cases j' with
        | zero => simp only [List.getElem?_cons_zero, Option.some.injEq] at hj'; subst hj'; exact Nat.le_refl _
        | succ j' =>
          rw [List.getElem?_cons_succ] at hj'
          have := a3 e' (List.mem_iff_getElem?.mpr ⟨j', hj'⟩)
          omega
      · refine Or.inl ⟨by rw [a1, c1], by rw [a2, c2], fun e he' => ?_⟩
        simp only [List.mem_cons, Option.some.injEq] at he'
        rcases he' with rfl | he'
        · omega
        · have := a3 e he'; omega
    · -- some entry of `rest` is: it is older than `e0` as well
      have hb : e.time < st.min ∧ e.time < e0.time := by
        rcases h2 with ⟨hlt, -, c2⟩ | ⟨hlt, -, c2⟩ <;> rw [c2] at b4 <;> omega
      refine Or.inr ⟨j + 1, e, by rw [List.getElem?_cons_succ]; exact b1, by rw [b2]; omega, b3, hb.1,
        fun j' e' hj' hje => ?_, fun j' e' hje => ?_⟩
      · cases j' with
        | zero => simp only [List.getElem?_cons_zero, Option.some.injEq] at hje; subst hje; exact hb.2
        | succ j' => rw [List.getElem?_cons_succ] at hje; exact b5 j' e' (by omega) hje
      · cases j' with
        | zero => simp only [List.getElem?_cons_zero, Option.some.injEq] at hje; subst hje; omega
        | succ j' => rw [List.getElem?_cons_succ] at hje; exact b6 j' e' hje

theorem firstEmpty_or_full : ∀ (es : Entries), (∃ i, FirstEmpty es i) ∨ ∀ x ∈ es, x ≠ none
  | [] => Or.inr fun x hx => by cases hx
  | none :: rest => Or.inl ⟨0, rfl, fun j hj => by omega⟩
  | some e :: rest => by
    rcases firstEmpty_or_full rest with ⟨i, h1, h2⟩ | h
    · refine Or.inl ⟨i + 1, by simpa using h1, fun j hj => ?_⟩
      cases j with
      | zero => simp
      | succ j => simpa using h2 j (by omega)
    · refine Or.inr fun x hx => ?_
      simp only [List.mem_cons] at hx
      rcases hx with rfl | hx
      · simp
      · exact h x hx

theorem scan_slot (mac : Bytes) (es : Entries) : SlotFor es (NetcodeServer.scanEntries mac es 0 scan0).oldestEntry := by
  rcases firstEmpty_or_full es with ⟨i, hi⟩ | hfull
  · left
    rw [scan_firstEmpty mac es 0 scan0 i rfl hi, Nat.zero_add]
    exact hi
  · right
    refine ⟨hfull, ?_⟩
    rcases scan_full mac es 0 scan0 rfl hfull with ⟨a1, _, a3⟩ | ⟨j, e, b1, b2, _, b4, b5, b6⟩
    · right; exact ⟨a1, a3⟩
    · left
      rw [b2, Nat.zero_add]
      exact ⟨e, b1, b4, b5, b6⟩

theorem firstEmpty_unique {es : Entries} {i j : Nat} (hi : FirstEmpty es i) (hj : FirstEmpty es j) : i = j := by
  rcases Nat.lt_trichotomy i j with h | h | h
  · exact absurd hi.1 (hj.2 i h)
  · exact h
  · exact absurd hj.1 (hi.2 j h)

theorem oldestAt_unique {es : Entries} {i j : Nat} (hi : OldestAt es i) (hj : OldestAt es j) : i = j := by
  rcases hi with ⟨e, a1, a2, a3, a4⟩ | ⟨rfl, a⟩ <;> rcases hj with ⟨e', b1, b2, b3, b4⟩ | ⟨rfl, b⟩
  · rcases Nat.lt_trichotomy i j with h | h | h
    · have := b3 i e h a1; have := a4 j e' b1; omega
    · exact h
    · have := a3 j e' h b1; have := b4 i e a1; omega
  · have := b e (List.mem_iff_getElem?.mpr ⟨i, a1⟩); omega
  · have := a e' (List.mem_iff_getElem?.mpr ⟨j, b1⟩); omega
  · rfl

theorem slotFor_unique {es : Entries} {i j : Nat} (hi : SlotFor es i) (hj : SlotFor es j) : i = j := by
  rcases hi with hi | ⟨f, hi⟩ <;> rcases hj with hj | ⟨g, hj⟩
  · exact firstEmpty_unique hi hj
  · exact absurd rfl (g none (List.mem_iff_getElem?.mpr ⟨i, hi.1⟩))
  · exact absurd rfl (f none (List.mem_iff_getElem?.mpr ⟨j, hj.1⟩))
  · exact oldestAt_unique hi hj

theorem slotFor_lt {es : Entries} {i : Nat} (h : SlotFor es i) (hpos : 0 < es.length) : i < es.length := by
  rcases h with h | ⟨_, ⟨e, h, _⟩ | ⟨rfl, _⟩⟩
  · exact (List.getElem?_eq_some_iff.mp h.1).1
  · exact (List.getElem?_eq_some_iff.mp h).1
  · exact hpos

theorem tableAdd_match {es : Entries} {ne e : ConnectTokenEntry} (he : some e ∈ es) (hm : e.mac = ne.mac) :
    tableAdd es ne = es := by
  unfold tableAdd
  cases h : (NetcodeServer.scanEntries ne.mac es 0 scan0).matchingEntry with
  | some x => rfl
  | none => exact absurd hm ((scanEntries_spec ne.mac es 0 scan0).2 h |>.2 e he)

theorem scan_noMatch {es : Entries} {mac : Bytes} (hn : ∀ e, some e ∈ es → e.mac ≠ mac) :
    (NetcodeServer.scanEntries mac es 0 scan0).matchingEntry = none := by
  cases h : (NetcodeServer.scanEntries mac es 0 scan0).matchingEntry with
  | none => rfl
  | some x =>
    rcases (scanEntries_spec mac es 0 scan0).1 x h with h' | h'
    · cases h'
    · exact absurd h'.2 (hn x h'.1)

theorem tableAdd_new {es : Entries} {ne : ConnectTokenEntry} (hn : ∀ e, some e ∈ es → e.mac ≠ ne.mac) :
    ∃ i, SlotFor es i ∧ tableAdd es ne = es.set i (some ne) := by
  refine ⟨_, scan_slot ne.mac es, ?_⟩
  unfold tableAdd
  rw [scan_noMatch hn]

theorem findOrAdd_new {s : NetcodeServer} {ne : ConnectTokenEntry}
    (hn : ∀ e, some e ∈ s.connectTokenEntries → e.mac ≠ ne.mac) :
    ∃ i, SlotFor s.connectTokenEntries i ∧
      s.findOrAddConnectTokenEntry ne = ({ s with connectTokenEntries := s.connectTokenEntries.set i (some ne) }, true) := by
  refine ⟨_, scan_slot ne.mac s.connectTokenEntries, ?_⟩
  have h := scan_noMatch hn
  unfold NetcodeServer.findOrAddConnectTokenEntry
  simp only [scan0] at h ⊢
  simp only [h]

theorem tableAdd_length (es : Entries) (ne : ConnectTokenEntry) : (tableAdd es ne).length = es.length := by
  unfold tableAdd; split <;> simp



def occupied (es : Entries) : Nat := (es.filter Option.isSome).length

theorem occupied_le (es : Entries) : occupied es ≤ es.length := List.length_filter_le _ _

theorem occupied_full : ∀ {es : Entries}, (∀ x ∈ es, x ≠ none) → occupied es = es.length
  | [], _ => rfl
  | none :: _, h => absurd rfl (h none (by simp))
  | some e :: rest, h => by
    have := occupied_full (es := rest) fun x hx => h x (List.mem_cons_of_mem _ hx)
    simp only [occupied, List.filter_cons, Option.isSome_some, if_true, List.length_cons] at this ⊢
    omega

theorem firstEmpty_of_room {es : Entries} (h : occupied es < es.length) : ∃ i, FirstEmpty es i := by
  rcases firstEmpty_or_full es with h' | h'
  · exact h'
  · rw [occupied_full h'] at h; omega

theorem occupied_set : ∀ (es : Entries) (i : Nat) (x : Option ConnectTokenEntry) (ne : ConnectTokenEntry),
    es[i]? = some x → occupied (es.set i (some ne)) = occupied es + (if x.isSome then 0 else 1)
  | [], i, x, ne, h => by simp at h
  | y :: rest, 0, x, ne, h => by
    simp only [List.getElem?_cons_zero, Option.some.injEq] at h
    subst h
    cases y <;> simp [occupied]
  | y :: rest, i + 1, x, ne, h => by
    rw [List.getElem?_cons_succ] at h
    have := occupied_set rest i x ne h
    simp only [occupied, List.set_cons_succ, List.filter_cons] at this ⊢
    cases y <;> simp only [Option.isSome_none, Option.isSome_some, Bool.false_eq_true, if_false, if_true,
      List.length_cons] <;> omega

theorem tableAdd_room {es : Entries} {ne : ConnectTokenEntry} (hn : ∀ e, some e ∈ es → e.mac ≠ ne.mac)
    (hroom : occupied es < es.length) :
    ∃ i, FirstEmpty es i ∧ tableAdd es ne = es.set i (some ne) ∧
      (∀ (j : Nat) (e : ConnectTokenEntry), es[j]? = some (some e) → (tableAdd es ne)[j]? = some (some e)) ∧
      occupied (tableAdd es ne) = occupied es + 1 := by
  obtain ⟨i, hi⟩ := firstEmpty_of_room hroom
  obtain ⟨k, hk, ek⟩ := tableAdd_new hn
  have : k = i := slotFor_unique hk (Or.inl hi)
  subst this
  refine ⟨k, hi, ek, fun j e hj => ?_, ?_⟩
  · have hkj : k ≠ j := by
      intro h; subst h
      rw [hi.1] at hj; cases hj
    rw [ek, List.getElem?_set, if_neg hkj]; exact hj
  · rw [ek, occupied_set es k none ne hi.1]; rfl

theorem tableAdd_full {es : Entries} {ne : ConnectTokenEntry} (hn : ∀ e, some e ∈ es → e.mac ≠ ne.mac)
    (hfull : ∀ x ∈ es, x ≠ none) :
    ∃ i, OldestAt es i ∧ tableAdd es ne = es.set i (some ne) ∧
      (∀ j : Nat, j ≠ i → (tableAdd es ne)[j]? = es[j]?) ∧
      (0 < es.length → (tableAdd es ne)[i]? = some (some ne)) := by
  obtain ⟨k, hk, ek⟩ := tableAdd_new hn
  have hold : OldestAt es k := by
    rcases hk with hk | ⟨_, hk⟩
    · exact absurd rfl (hfull none (List.mem_iff_getElem?.mpr ⟨k, hk.1⟩))
    · exact hk
  refine ⟨k, hold, ek, fun j hj => ?_, fun hpos => ?_⟩
  · rw [ek, List.getElem?_set, if_neg (Ne.symm hj)]
  · rw [ek, List.getElem?_set, if_pos rfl, if_pos (slotFor_lt hk hpos)]


end RenetVerif.NcBinding
