/-
  C15, last clause, at connection level: "a reliable message (or slice) is never transmitted again after an
  acknowledgement for a packet carrying it (sent less than 3 s earlier) has been processed".

  Props/C15 (`acked_never`, `slice_not_early`) speaks about ONE flush of ONE reliable send channel.  This file supplies
  the connection-level link:

   1. processing an Ack packet that covers a sequence number `q` still recorded in `c.sent` releases what packet `q`
      carried (`ack_releases_msgs`, `ack_releases_slice`) and removes `q` from the table (`ack_erases_sent`);
   2. "released" (`Released`, `SliceAcked`) is stable under every connection operation (`holds_apply`, `run_inv`);
      message ids are allocated increasingly, so a released id is never reused (`C15A.released_id_not_reused`);
   3. hence no packet of any later flush carries the message / the slice (`quiet_after`);
   4. the proviso "(sent less than 3 s earlier)": an Ack that covers only sequence numbers absent from `c.sent`
      (never sent, already acknowledged, or pruned by `update` after `DISCARD_AFTER`) changes nothing on the send side
      (`C15A.stale_ack_changes_nothing`); whatever an Ack releases is justified by a recorded packet
      (`C15A.release_needs_recorded_packet`);
      `update` prunes entries older than 3 s (`update_prunes`).

  Invariant used: `Good c := c.SendInv ∧ Acks.WF c.pendingAcks` (holds in every reachable state: `C08.reach_inv`).
-/
import RenetVerif.Lemmas.Liveness
import RenetVerif.Props.C15
namespace RenetVerif.AckFinal
open RenetVerif C RenetVerif.SI

theorem getD_set_true {l : List Bool} {i : Nat} (j : Nat) (h : l.getD i false = true) :
    (l.set j true).getD i false = true := by
  rw [List.getD_eq_getElem?_getD] at h ⊢
  rw [List.getElem?_set]
  split
  · next e =>
    subst e
    split
    · rfl
    · next hlt =>
      rw [List.getElem?_eq_none (by omega)] at h
      cases h
  · exact h

theorem getD_true_of_not_false {l : List Bool} {i : Nat} (hi : i < l.length) (h : l[i]? ≠ some false) :
    l.getD i false = true := by
  rw [List.getD_eq_getElem?_getD, List.getElem?_eq_getElem hi] at *
  cases hb : l[i] with
  | true => rfl
  | false => rw [hb] at h; exact absurd rfl h

/-! ## 1. channel level: what "released" means and why it is stable -/

/-- message `id` was allocated by the channel and is no longer stored: its acknowledgement removed it -/
def MsgDone (s : SendRel) (id : Nat) : Prop := id < s.nextId ∧ SMap.find? s.unacked id = none

/-- slice `i` of message `id` needs no further transmission: the message was allocated and either is gone (all its
    slices acknowledged) or is still stored with the ack bit of slice `i` set -/
def SliceDone (s : SendRel) (id i : Nat) : Prop :=
  id < s.nextId ∧ (SMap.find? s.unacked id = none ∨
    ∃ m n k nx ak ls, SMap.find? s.unacked id = some (.sliced m n k nx ak ls) ∧ ak.getD i false = true)

theorem MsgDone.sliceDone {s : SendRel} {id : Nat} (h : MsgDone s id) (i : Nat) : SliceDone s id i := ⟨h.1, Or.inl h.2⟩

/-- a per-channel property that survives the four operations of a reliable send channel, a flush from time `T` on -/
structure Stable (T : Nat) (P : SendRel → Prop) : Prop where
  send : ∀ {s s' : SendRel} {m : Bytes}, s.Inv → P s → s.sendMessage m = .ok s' → P s'
  flush : ∀ {s : SendRel} (seq avail now : Nat), T ≤ now → s.Inv → P s → P (s.getPackets seq avail now).1
  msgAck : ∀ {s s' : SendRel} {id : Nat}, s.Inv → P s → s.processMessageAck id = .ok s' → P s'
  sliceAck : ∀ {s s' : SendRel} {id idx : Nat}, s.Inv → P s → s.processSliceAck id idx = .ok s' → P s'

def EntryOK (E : Unacked → Prop) (id : Nat) (s : SendRel) : Prop :=
  id < s.nextId ∧ (SMap.find? s.unacked id = none ∨ ∃ u, SMap.find? s.unacked id = some u ∧ E u)

theorem EntryOK.erase {E : Unacked → Prop} {s : SendRel} {id : Nat} (h : s.Inv) (hp : EntryOK E id s) (id' mem' : Nat) :
    EntryOK E id { s with unacked := SMap.erase s.unacked id', mem := mem' } := by
  refine ⟨hp.1, ?_⟩
  dsimp only
  rw [SMap.find?_erase h.sorted.nodup]
  split
  · exact Or.inl rfl
  · exact hp.2

/-- What is said of the entry of one allocated message (`P` is `EntryOK E id`) is stable when `E` survives what a flush
    from time `T` on does to an entry (`EntryStep`) and the setting of an ack bit: `send_message` stores under a new id,
    the ack of a whole message only erases, the ack of a slice erases or sets a bit. -/
theorem Stable.ofEntry {T id : Nat} {E : Unacked → Prop} {P : SendRel → Prop} (hP : ∀ s, P s ↔ EntryOK E id s)
    (hstep : ∀ {now resend : Nat} {u u' : Unacked}, T ≤ now → EntryStep now resend u u' → E u → E u')
    (hbit : ∀ {m : Bytes} {n k nx : Nat} {ak : List Bool} {ls : List (Option Nat)} (idx : Nat),
      E (.sliced m n k nx ak ls) → E (.sliced m n (k + 1) nx (ak.set idx true) ls)) : Stable T P where
  send := by
    intro s s' m h hp e
    have hp := (hP s).mp hp
    obtain ⟨-, st, -, -, -, hsame⟩ := SendRel.sendMessage_spec h e
    exact (hP s').mpr ⟨Nat.lt_of_lt_of_le hp.1 st.2.2.1, by rw [hsame id (Nat.ne_of_lt hp.1)]; exact hp.2⟩
  flush := by
    intro s seq avail now hT _ hp
    have hp := (hP s).mp hp
    refine (hP _).mpr ⟨by rw [(SendRel.getPackets_keeps (tuple4_eta (s.getPackets seq avail now))).2.2.1]; exact hp.1, ?_⟩
    rcases (SendRel.getPackets_entries (tuple4_eta (s.getPackets seq avail now))).find? id with ⟨-, h2⟩ | ⟨u, u', h1, h2, h3⟩
    · exact Or.inl h2
    · rcases hp.2 with hnone | ⟨u0, hu0, he⟩
      · rw [hnone] at h1; cases h1
      · rw [hu0] at h1; cases h1
        exact Or.inr ⟨u', h2, hstep hT h3 he⟩
  msgAck := by
    intro s s' id' h hp e
    have hp := (hP s).mp hp
    refine (hP s').mpr ?_
    rcases SendRel.processMessageAck_cases e with ⟨-, rfl⟩ | ⟨m, ls, -, -, rfl⟩
    · exact hp
    · exact hp.erase h _ _
  sliceAck := by
    intro s s' id' idx h hp e
    have hp := (hP s).mp hp
    refine (hP s').mpr ?_
    rcases SendRel.processSliceAck_cases e with
      ⟨-, rfl⟩ | ⟨m, n, k, nx, acked, ls, hf, ⟨-, rfl⟩ | ⟨-, -, -, rfl⟩ | ⟨-, -, rfl⟩⟩
    · exact hp
    · exact hp
    · exact hp.erase h _ _
    · refine ⟨hp.1, ?_⟩
      dsimp only
      rw [SMap.find?_insert]
      split
      · next e' =>
        subst e'
        rcases hp.2 with hnone | ⟨u, hu, he⟩
        · rw [hnone] at hf; cases hf
        · rw [hu] at hf; cases hf
          exact Or.inr ⟨_, rfl, hbit idx he⟩
      · exact hp.2

theorem msgDone_stable (id : Nat) : Stable 0 (fun s => MsgDone s id) :=
  .ofEntry (E := fun _ => False) (fun _ => ⟨fun h => ⟨h.1, Or.inl h.2⟩, fun h => ⟨h.1, h.2.elim (fun e => e) fun ⟨_, _, f⟩ => f.elim⟩⟩)
    (fun _ _ f => f) (fun _ f => f)

def UAcked (i : Nat) : Unacked → Prop
  | .sliced _ _ _ _ ak _ => ak.getD i false = true
  | .small .. => False

theorem sliceDone_stable (id i : Nat) : Stable 0 (fun s => SliceDone s id i) := by
  refine .ofEntry (E := UAcked i) (fun s => and_congr_right fun _ => or_congr_right ⟨?_, ?_⟩) ?_ (fun idx he => getD_set_true idx he)
  · exact fun ⟨m, n, k, nx, ak, ls, hf, hb⟩ => ⟨_, hf, hb⟩
  · rintro ⟨u, hf, hb⟩
    cases u with
    | small => exact hb.elim
    | sliced m n k nx ak ls => exact ⟨m, n, k, nx, ak, ls, hf, hb⟩
  · intro now resend u u' _ h3 he
    cases u with
    | small => exact he.elim
    | sliced m n k nx ak ls =>
      cases u' with
      | small => exact h3.elim
      | sliced m' n' k' nx' ak' ls' => exact h3.2.2.2.1 ▸ he

/-! ## 2. connection level: the invariant, "released", and its stability -/

/-- the send-side invariant plus well-formed pending acks; holds in every reachable state (`C08.reach_inv`) -/
def Good (c : Conn) : Prop := c.SendInv ∧ Acks.WF c.pendingAcks

def Holds (P : SendRel → Prop) (c : Conn) (ch : Nat) : Prop := ∃ s, SMap.find? c.sendRel ch = some s ∧ P s

/-- message `id` of reliable send channel `ch` has been acknowledged and released -/
def Released (c : Conn) (ch id : Nat) : Prop := Holds (fun s => MsgDone s id) c ch

/-- slice `i` of message `id` of reliable send channel `ch` has been acknowledged -/
def SliceAcked (c : Conn) (ch id i : Nat) : Prop := Holds (fun s => SliceDone s id i) c ch

theorem Released.sliceAcked {c : Conn} {ch id : Nat} (h : Released c ch id) (i : Nat) : SliceAcked c ch id i := by
  obtain ⟨s, hs, hp⟩ := h
  exact ⟨s, hs, hp.sliceDone i⟩

theorem holds_sendRel_eq {P : SendRel → Prop} {c c' : Conn} {ch : Nat} (hs : c'.sendRel = c.sendRel) (h : Holds P c ch) :
    Holds P c' ch := by
  obtain ⟨s, h1, h2⟩ := h
  exact ⟨s, by rw [hs]; exact h1, h2⟩

/-- what is kept of the send channels for the sake of `P` on channel `ch0`: every channel satisfies its invariant and
    knows its id (so that the packets of the other channels are told apart), channel `ch0` satisfies `P` -/
def PP (P : SendRel → Prop) (ch0 : Nat) : Nat → SendRel → Prop := fun ch s => s.Inv ∧ s.ch = ch ∧ (ch = ch0 → P s)

theorem Stable.chanKept {T : Nat} {P : SendRel → Prop} (hP : Stable T P) (ch0 : Nat) :
    ChanKept ⟨fun _ => True, True, (T ≤ ·)⟩ (PP P ch0) (fun _ _ => True) where
  send _ := fun ⟨hi, hc, hp⟩ e => ⟨(SendRel.sendMessage_spec hi e).1, (SendRel.sendMessage_spec hi e).2.1.1.trans hc,
    fun h => hP.send hi (hp h) e⟩
  msgAck _ := fun ⟨hi, hc, hp⟩ e => ⟨(SendRel.processMessageAck_keeps hi e).1, (SendRel.processMessageAck_keeps hi e).2.1.trans hc,
    fun h => hP.msgAck hi (hp h) e⟩
  sliceAck _ := fun ⟨hi, hc, hp⟩ e => ⟨(SendRel.processSliceAck_keeps hi e).1, (SendRel.processSliceAck_keeps hi e).2.1.trans hc,
    fun h => hP.sliceAck hi (hp h) e⟩
  flush seq avail now hT := fun ⟨hi, hc, hp⟩ => ⟨(SendRel.getPackets_spec hi seq avail now).1,
    (SendRel.getPackets_spec hi seq avail now).2.1.1.trans hc, fun h => hP.flush seq avail now hT hi (hp h)⟩

/-- the form of `Holds P c ch0` that the operations keep (`Stable.kept`) -/
def HoldsPP (P : SendRel → Prop) (ch0 : Nat) (c : Conn) : Prop :=
  SendAll (PP P ch0) (fun _ _ => True) c ∧ (SMap.find? c.sendRel ch0).isSome

theorem Stable.kept {T : Nat} {P : SendRel → Prop} (hP : Stable T P) (ch0 : Nat) :
    Kept ⟨fun _ => True, True, (T ≤ ·)⟩ (HoldsPP P ch0) :=
  (hP.chanKept ch0).all.and (Kept.hasSend _ ch0)

theorem pp_of_holds {P : SendRel → Prop} {c : Conn} {ch0 : Nat} (hi : c.SendInv) (hh : Holds P c ch0) : HoldsPP P ch0 c := by
  obtain ⟨s0, h0, hp⟩ := hh
  refine ⟨⟨fun ch s hs => ⟨(hi.chans ch s hs).1, (hi.chans ch s hs).2, ?_⟩, fun _ _ _ => trivial⟩, by rw [h0]; rfl⟩
  rintro rfl
  rw [hs] at h0; cases h0; exact hp

theorem HoldsPP.holds {P : SendRel → Prop} {c : Conn} {ch0 : Nat} (h : HoldsPP P ch0 c) : Holds P c ch0 := by
  cases hf : SMap.find? c.sendRel ch0 with
  | none => have := h.2; rw [hf] at this; cases this
  | some s => exact ⟨s, hf, (h.1.1 ch0 s hf).2.2 rfl⟩

def RelOn (ch0 : Nat) : Packet → Prop
  | .smallReliable _ c _ => c = ch0
  | .reliableSlice _ c _ => c = ch0
  | _ => False

theorem pktOK_relOn {ch ch0 : Nat} {U : SMap Unacked} : ∀ {p : Packet}, PktOK ch U p → RelOn ch0 p → ch = ch0
  | .smallReliable .., h, hr => h.1.symm.trans hr
  | .reliableSlice .., h, hr => h.1.symm.trans hr
  | .smallUnreliable .., h, _ => h.elim
  | .unreliableSlice .., h, _ => h.elim
  | .ack .., h, _ => h.elim

theorem not_relOn_of_not_rel {ch0 : Nat} : ∀ {p : Packet}, System.isRel p = false → ¬ RelOn ch0 p
  | .smallReliable .., h, _ => by cases h
  | .reliableSlice .., h, _ => by cases h
  | .smallUnreliable .., _, hr => hr
  | .unreliableSlice .., _, hr => hr
  | .ack .., _, hr => hr

/-- `P` on channel `ch0` keeps every emitted packet inside `Q`: the channel itself emits only `Q`-packets while `P`
    holds, and every packet that is not a reliable data packet of `ch0` is in `Q` anyway -/
structure Quiet (P : SendRel → Prop) (ch0 : Nat) (Q : Packet → Prop) : Prop where
  own : ∀ (s : SendRel) (seq avail now : Nat), s.Inv → P s → ∀ p ∈ (s.getPackets seq avail now).2.1, Q p
  other : ∀ p, ¬ RelOn ch0 p → Q p

theorem holds_flush {T : Nat} {P : SendRel → Prop} {Q : Packet → Prop} {ch0 : Nat} (hP : Stable T P) {c c' : Conn}
    {bs : List Bytes} (hown : ∀ (s : SendRel) (seq avail : Nat), s.Inv → P s → ∀ p ∈ (s.getPackets seq avail c.now).2.1, Q p)
    (hother : ∀ p, ¬ RelOn ch0 p → Q p) (hg : Good c) (hT : T ≤ c.now) (hh : Holds P c ch0)
    (hr : c.getPacketsToSend = .ok (c', bs)) : Holds P c' ch0 ∧ ∀ p ∈ System.flushPk c, Q p := by
  rcases Conn.flush_cases hr with ⟨hd, rfl, -⟩ | ⟨pk0, seq0, avail, o⟩
  · rw [System.flushPk_dead hd]
    exact ⟨hh, fun _ hp => (by cases hp)⟩
  · obtain ⟨h1, h2⟩ := (hP.kept ch0).flush (Q := Q) (B := c'.packetSeq)
      (fun _ _ ch s seq avail a hs _ p hmem => by
        obtain ⟨hi, hc, hp⟩ := a.1.1 ch s hs
        by_cases cc : ch = ch0
        · exact hown s seq avail hi (hp cc) p hmem
        · exact hother p (fun hrel => cc (hc.symm.trans (pktOK_relOn ((SendRel.getPackets_spec hi seq avail c.now).2.2.2.2.2 p hmem) hrel))))
      (fun _ _ _ su seq avail _ _ _ p hmem => hother p (not_relOn_of_not_rel (System.unrel_not_rel su seq avail p hmem)))
      hT (pp_of_holds hg.1 hh) o (Nat.le_refl _)
    exact ⟨h1.holds, o.forall_flushPk h2 (fun _ => hother _ (fun h => h))⟩

/-! ## 3. what "carries" means, and the two instances of `Quiet` (from the one-flush theorems of Props/C15) -/

/-- packet `p` carries message `id` of reliable channel `ch`: as one of the messages of a small-message packet, or as
    any slice of it -/
def CarriesMsg (ch id : Nat) : Packet → Prop
  | .smallReliable _ c msgs => c = ch ∧ ∃ x ∈ msgs, x.1 = id
  | .reliableSlice _ c sl => c = ch ∧ sl.messageId = id
  | _ => False

/-- packet `p` carries slice `i` of message `id` of reliable channel `ch` -/
def CarriesSlice (ch id i : Nat) : Packet → Prop
  | .reliableSlice _ c sl => c = ch ∧ sl.messageId = id ∧ sl.sliceIndex = i
  | _ => False

instance (ch id : Nat) (p : Packet) : Decidable (CarriesMsg ch id p) := by
  cases p <;> simp only [CarriesMsg] <;> infer_instance

instance (ch id i : Nat) (p : Packet) : Decidable (CarriesSlice ch id i p) := by
  cases p <;> simp only [CarriesSlice] <;> infer_instance

theorem CarriesSlice.carriesMsg {ch id i : Nat} : ∀ {p : Packet}, CarriesSlice ch id i p → CarriesMsg ch id p
  | .reliableSlice .., h => ⟨h.1, h.2.1⟩
  | .smallReliable .., h => h.elim
  | .smallUnreliable .., h => h.elim
  | .unreliableSlice .., h => h.elim
  | .ack .., h => h.elim

theorem CarriesMsg.relOn {ch id : Nat} : ∀ {p : Packet}, CarriesMsg ch id p → RelOn ch p
  | .reliableSlice .., h => h.1
  | .smallReliable .., h => h.1
  | .smallUnreliable .., h => h.elim
  | .unreliableSlice .., h => h.elim
  | .ack .., h => h.elim

/-- a released message is in no packet of a flush of its channel (`C15.acked_never`) -/
theorem quiet_msg (ch id : Nat) : Quiet (fun s => MsgDone s id) ch (fun p => ¬ CarriesMsg ch id p) where
  own := by
    intro s seq avail now _ hp p hmem hc
    obtain ⟨a, b⟩ := C15.acked_never (s := s) (seq := seq) (avail := avail) (now := now) rfl hp.2
    cases p with
    | smallReliable sq c msgs =>
      obtain ⟨-, x, hx, he⟩ := hc
      exact a sq c msgs hmem x hx he
    | reliableSlice sq c sl => exact b sq c sl hmem hc.2
    | smallUnreliable => exact hc
    | unreliableSlice => exact hc
    | ack => exact hc
  other := fun p hn hc => hn hc.relOn

/-- an acknowledged slice is in no packet of a flush of its channel (`C15.slice_not_early`, `C15.acked_never`) -/
theorem quiet_slice (ch id i : Nat) : Quiet (fun s => SliceDone s id i) ch (fun p => ¬ CarriesSlice ch id i p) where
  own := by
    intro s seq avail now hinv hp p hmem hc
    cases p with
    | reliableSlice sq c sl =>
      obtain ⟨-, hid, hidx⟩ := hc
      rcases hp.2 with hnone | ⟨m, n, k, nx, ak, ls, hf, hb⟩
      · exact (C15.acked_never (s := s) (seq := seq) (avail := avail) (now := now) rfl hnone).2 sq c sl hmem hid
      · exact (C15.slice_not_early (s := s) (seq := seq) (avail := avail) (now := now) rfl hf (Or.inl hb)).2
          hinv.sorted.nodup sq c sl hmem hid hidx
    | smallReliable => exact hc
    | smallUnreliable => exact hc
    | unreliableSlice => exact hc
    | ack => exact hc
  other := fun p hn hc => hn hc.carriesMsg.relOn

/-! ## 4. processing an acknowledgement -/

theorem ack_erases_sent {c c' : Conn} {bytes : Bytes} {aseq : Nat} {ranges : List AckRange} (hi : c.SendInv)
    (hd : c.isDisconnected = false) (hp : Packet.fromBytes bytes = .ok (.ack aseq ranges))
    (he : c.processPacket bytes = .ok c') {q : Nat} {v : Nat × SentInfo} (hq : SMap.find? c.sent q = some v)
    (hm : Acks.Mem q ranges) : SMap.find? c'.sent q = none := by
  obtain ⟨L, c2, -, e, -, -, hmem, hsent, -⟩ := Conn.processPacket_ack_spec hi hd hp
  cases e.symm.trans he
  rw [hsent q, if_pos ((hmem q).mpr ⟨⟨v, hq⟩, hm⟩)]

/-- **acknowledged small messages are released** -/
theorem ack_releases_msgs {c c' : Conn} {bytes : Bytes} {aseq : Nat} {ranges : List AckRange} (hi : c.SendInv)
    (hd : c.isDisconnected = false) (hp : Packet.fromBytes bytes = .ok (.ack aseq ranges))
    (he : c.processPacket bytes = .ok c') {q t ch : Nat} {ids : List Nat}
    (hq : SMap.find? c.sent q = some (t, .relMsgs ch ids)) (hm : Acks.Mem q ranges) :
    ∀ id ∈ ids, Released c' ch id := by
  obtain ⟨s, hs, hok⟩ := (hi.sentOK _ (SMap.mem_of_find? hq)).2 ch rfl
  obtain ⟨L, c2, -, e, -, eff, hmem, -⟩ := Conn.processPacket_ack_spec hi hd hp
  cases e.symm.trans he
  obtain ⟨s', hs', ce⟩ := eff.chan ch s hs
  intro id hid
  exact ⟨s', hs', Nat.lt_of_lt_of_le (hok id hid).1 ce.step.2.2.1,
    ce.doneMsgs q ((hmem q).mpr ⟨⟨_, hq⟩, hm⟩) t ids hq id hid⟩

/-- **an acknowledged slice is marked** (ack bit set), or its message is gone when that was the last unacked slice -/
theorem ack_releases_slice {c c' : Conn} {bytes : Bytes} {aseq : Nat} {ranges : List AckRange} (hi : c.SendInv)
    (hd : c.isDisconnected = false) (hp : Packet.fromBytes bytes = .ok (.ack aseq ranges))
    (he : c.processPacket bytes = .ok c') {q t ch id i : Nat}
    (hq : SMap.find? c.sent q = some (t, .relSlice ch id i)) (hm : Acks.Mem q ranges) :
    SliceAcked c' ch id i := by
  obtain ⟨s, hs, hok⟩ := (hi.sentOK _ (SMap.mem_of_find? hq)).2 ch rfl
  obtain ⟨L, c2, -, e, hi', eff, hmem, -⟩ := Conn.processPacket_ack_spec hi hd hp
  cases e.symm.trans he
  obtain ⟨s', hs', ce⟩ := eff.chan ch s hs
  have hnp := ce.doneSlice q ((hmem q).mpr ⟨⟨_, hq⟩, hm⟩) t id i hq
  refine ⟨s', hs', Nat.lt_of_lt_of_le hok.1 ce.step.2.2.1, ?_⟩
  cases hf : SMap.find? s'.unacked id with
  | none => exact Or.inl rfl
  | some u' =>
    obtain ⟨u, hu, hkin⟩ := ce.step.2.2.2 id u' hok.1 hf
    have hidx := hkin.sliceIdx (hok.2 u hu)
    cases u' with
    | small => exact hidx.elim
    | sliced m n k nx ak ls =>
      obtain ⟨-, -, o3, -⟩ := (hi'.chans ch s' hs').1.find_ok hf
      refine Or.inr ⟨m, n, k, nx, ak, ls, rfl, getD_true_of_not_false (by rw [o3]; exact hidx) ?_⟩
      intro hfalse
      exact hnp ⟨m, n, k, nx, ak, ls, hf, hfalse⟩

/-! ### the proviso "(sent less than 3 s earlier)" -/

def TimeMono (sent : SMap (Nat × SentInfo)) : Prop := List.Pairwise (fun a b => a.2.1 ≤ b.2.1) sent

theorem dropWhile_prunes (p : Nat × Nat × SentInfo → Bool)
    (hanti : ∀ x y : Nat × Nat × SentInfo, x.2.1 ≤ y.2.1 → p y = true → p x = true) :
    ∀ (l : SMap (Nat × SentInfo)), Sorted l → TimeMono l → ∀ (q : Nat) (v : Nat × SentInfo), (q, v) ∈ l → p (q, v) = true →
      SMap.find? (l.dropWhile p) q = none
  | [], _, _, _, _, h, _ => by cases h
  | x :: r, hs, hm, q, v, hmem, hp => by
    have hs' := sorted_cons.mp hs
    have hm' := List.pairwise_cons.mp hm
    rcases List.mem_cons.mp hmem with e | hmem
    · subst e
      rw [List.dropWhile_cons, if_pos hp]
      apply SMap.find?_none_of_forall_ne
      intro y hy
      exact Nat.ne_of_gt (hs'.1 y ((List.dropWhile_sublist p).subset hy))
    · have hx : p x = true := hanti x (q, v) (hm'.1 _ hmem) hp
      rw [List.dropWhile_cons, if_pos hx]
      exact dropWhile_prunes p hanti r hs'.2 hm'.2 q v hmem hp

/-- **`update` prunes after 3 s**: a recorded packet whose send time lies `DISCARD_AFTER` or more before the new clock
    value is no longer in the sent table (so, by `C15A.stale_ack_changes_nothing`, an acknowledgement for
    it arriving later has no effect) -/
theorem update_prunes {c c' : Conn} {dt : Nat} (hs : Sorted c.sent) (hm : TimeMono c.sent) (hr : c.update dt = .ok c')
    {q t : Nat} {info : SentInfo} (hq : SMap.find? c.sent q = some (t, info))
    (hold : DISCARD_AFTER_NS ≤ c.now + dt - t) : SMap.find? c'.sent q = none := by
  rw [(Conn.update_frame hr).sent]
  refine dropWhile_prunes _ ?_ c.sent hs hm q (t, info) (SMap.mem_of_find? hq) ?_
  · rintro ⟨k1, t1, i1⟩ ⟨k2, t2, i2⟩ hle hp
    simp only [decide_eq_true_eq, ge_iff_le] at hp ⊢ hle
    omega
  · simp only [decide_eq_true_eq, ge_iff_le]
    exact hold

def TimeOK (c : Conn) : Prop :=
  (∀ k1 k2 v1 v2, SMap.find? c.sent k1 = some v1 → SMap.find? c.sent k2 = some v2 → k1 ≤ k2 → v1.1 ≤ v2.1) ∧
  ∀ k v, SMap.find? c.sent k = some v → v.1 ≤ c.now

theorem TimeOK.timeMono {c : Conn} (hs : Sorted c.sent) (ht : TimeOK c) : TimeMono c.sent := by
  unfold TimeMono
  refine List.Pairwise.imp_of_mem ?_ hs
  intro a b ha hb hlt
  exact ht.1 a.1 b.1 a.2 b.2 (mem_find?_of_sorted hs ha) (mem_find?_of_sorted hs hb) (Nat.le_of_lt hlt)

theorem timeOK_fresh (budget : Nat) (send recv : List ChanCfg) : TimeOK (Conn.fromChannels budget send recv) :=
  ⟨fun _ _ _ _ h _ _ => (by cases h), fun _ _ h => (by cases h)⟩

theorem timeOK_shrink {c c' : Conn} (ht : TimeOK c)
    (hsub : ∀ k v, SMap.find? c'.sent k = some v → SMap.find? c.sent k = some v) (hnow : c.now ≤ c'.now) : TimeOK c' :=
  ⟨fun k1 k2 v1 v2 h1 h2 hle => ht.1 k1 k2 v1 v2 (hsub _ _ h1) (hsub _ _ h2) hle,
   fun k v h => Nat.le_trans (ht.2 k v (hsub _ _ h)) hnow⟩

theorem timeOK_same {c c' : Conn} (ht : TimeOK c) (hs : c'.sent = c.sent) (hnow : c'.now = c.now) : TimeOK c' :=
  timeOK_shrink ht (fun k v h => by rw [hs] at h; exact h) (Nat.le_of_eq hnow.symm)

theorem timeOK_flush {c c' : Conn} {bs : List Bytes} (hg : Good c) (ht : TimeOK c)
    (h : c.getPacketsToSend = .ok (c', bs)) : TimeOK c' := by
  have hnow : c'.now = c.now := Live.flush_frame h
  -- every entry of the new table is an old one, or is stamped `now` and numbered from `packetSeq` up
  have hcls : ∀ k v, SMap.find? c'.sent k = some v →
      SMap.find? c.sent k = some v ∨ (v.1 = c.now ∧ c.packetSeq ≤ k) := by
    rcases Conn.flush_cases h with ⟨-, rfl, -⟩ | ⟨pk0, seq0, avail, o⟩
    · exact fun k v hf => Or.inl hf
    · intro k v hf
      rcases ((SI.Conn.recordSent_spec _ _ _ _ o.sent).2.2 hg.1.sentSorted).2 _ (SMap.mem_of_find? hf) with
        hold | ⟨p, hp, hk, ht, -⟩
      · exact Or.inl (mem_find?_of_sorted hg.1.sentSorted hold)
      · exact Or.inr ⟨ht, (show k = p.sequence from hk) ▸ (o.toFlushed.numbered.bounds p hp).1⟩
  refine ⟨?_, ?_⟩
  · intro k1 k2 v1 v2 h1 h2 hle
    rcases hcls k1 v1 h1 with o1 | ⟨t1, g1⟩
    · rcases hcls k2 v2 h2 with o2 | ⟨t2, -⟩
      · exact ht.1 k1 k2 v1 v2 o1 o2 hle
      · rw [t2]; exact ht.2 k1 v1 o1
    · rcases hcls k2 v2 h2 with o2 | ⟨t2, -⟩
      · have := (hg.1.sentOK _ (SMap.mem_of_find? o2)).1
        simp only at this
        omega
      · rw [t1, t2]; exact Nat.le_refl _
  · intro k v hf
    rw [hnow]
    rcases hcls k v hf with o | ⟨t, -⟩
    · exact ht.2 k v o
    · rw [t]; exact Nat.le_refl _

theorem good_same {c c' : Conn} (hg : Good c) (hs : c.SendSame c') (ha : c'.pendingAcks = c.pendingAcks) : Good c' :=
  ⟨hg.1.same hs, by rw [ha]; exact hg.2⟩

theorem apply_pres {c c' : Conn} (hg : Good c) {op : SL.ConnOp} (e : op.apply c = .ok c') :
    Good c' ∧ (∀ {T : Nat} {P : SendRel → Prop} {ch0 : Nat}, Stable T P → T ≤ c.now → Holds P c ch0 → Holds P c' ch0) ∧
      (TimeOK c → TimeOK c') := by
  -- an operation that leaves the send side and the pending acks alone
  have same : ∀ {c' : Conn}, c.SendSame c' → c'.pendingAcks = c.pendingAcks → c'.now = c.now →
      Good c' ∧ (∀ {T : Nat} {P : SendRel → Prop} {ch0 : Nat}, Stable T P → T ≤ c.now → Holds P c ch0 → Holds P c' ch0) ∧
        (TimeOK c → TimeOK c') :=
    fun hs ha hn => ⟨good_same hg hs ha, fun _ _ hh => holds_sendRel_eq hs.1 hh, fun ht => timeOK_same ht hs.2.2.1 hn⟩
  cases op with
  | setConnected => cases e; obtain ⟨st, e⟩ := c.setConnected_eq; rw [e]; exact same ⟨rfl, rfl, rfl, rfl, rfl⟩ rfl rfl
  | setConnecting => cases e; obtain ⟨st, e⟩ := c.setConnecting_eq; rw [e]; exact same ⟨rfl, rfl, rfl, rfl, rfl⟩ rfl rfl
  | disconnect => cases e; obtain ⟨st, e⟩ := c.disconnectWith_eq .byClient; rw [e]; exact same ⟨rfl, rfl, rfl, rfl, rfl⟩ rfl rfl
  | disconnectWith r => cases e; obtain ⟨st, e⟩ := c.disconnectWith_eq r; rw [e]; exact same ⟨rfl, rfl, rfl, rfl, rfl⟩ rfl rfl
  | receiveMessage ch =>
    obtain ⟨m, hm⟩ := SL.Res.stateOf_ok e
    exact same (Conn.receiveMessage_same hm).1 (Conn.receiveMessage_same hm).2 (SL.Conn.receiveMessage_frame hm).2.2.2.2.1
  | sendMessage ch m =>
    exact ⟨⟨Conn.sendMessage_inv hg.1 e, by rw [(SL.Conn.sendMessage_frame e).2.2.2.2.1]; exact hg.2⟩,
      fun hP _ hh => ((hP.kept _).sendMessage (pp_of_holds hg.1 hh) trivial e).holds,
      fun ht => timeOK_same ht (SL.Conn.sendMessage_frame e).2.2.2.1 (SL.Conn.sendMessage_frame e).2.2.2.2.2.2.1⟩
  | processPacket b =>
    exact ⟨⟨Conn.processPacket_inv hg.1 e, (Conn.processPacket_acks hg.1 hg.2 e).1⟩,
      fun hP _ hh => ((hP.kept _).processPacket trivial (pp_of_holds hg.1 hh) e).holds,
      fun ht => timeOK_shrink ht (C08.sent_table_only_shrinks_on_process _ _ _ hg.1 e)
        (Nat.le_of_eq (SL.Conn.processPacket_fixed e).1.1.symm)⟩
  | getPacketsToSend =>
    obtain ⟨out, ho⟩ := SL.Res.stateOf_ok e
    obtain ⟨a, b, -⟩ := Conn.getPacketsToSend_spec hg.1 hg.2 ho
    -- `Q := True`: only the stability half of `holds_flush` is used here
    exact ⟨⟨a, by rw [b]; exact hg.2⟩,
      fun hP hT hh => (holds_flush (Q := fun _ => True) hP (fun _ _ _ _ _ _ _ => trivial) (fun _ _ => trivial) hg hT hh ho).1,
      fun ht => timeOK_flush hg ht ho⟩
  | update dt =>
    refine ⟨⟨Conn.update_inv hg.1 e, by rw [(Conn.update_frame e).pendingAcks]; exact hg.2⟩,
      fun _ _ hh => holds_sendRel_eq (Conn.update_frame e).sendRel hh,
      fun ht => timeOK_shrink ht (fun k v hf => ?_) (by rw [(Conn.update_frame e).now]; omega)⟩
    rw [(Conn.update_frame e).sent] at hf
    exact SMap.find?_of_sublist hg.1.sentSorted.nodup (List.dropWhile_sublist _) hf

theorem good_apply {c c' : Conn} (hg : Good c) {op : SL.ConnOp} (e : op.apply c = .ok c') : Good c' :=
  (apply_pres hg e).1

theorem holds_apply {T : Nat} {P : SendRel → Prop} (hP : Stable T P) {c c' : Conn} {ch0 : Nat} (hg : Good c) (hT : T ≤ c.now)
    (hh : Holds P c ch0) {op : SL.ConnOp} (e : op.apply c = .ok c') : Holds P c' ch0 :=
  (apply_pres hg e).2.1 hP hT hh

theorem timeOK_apply {c c' : Conn} (hg : Good c) (ht : TimeOK c) {op : SL.ConnOp} (e : op.apply c = .ok c') :
    TimeOK c' :=
  (apply_pres hg e).2.2 ht

theorem run_inv {P : SendRel → Prop} (hP : Stable 0 P) {ch0 : Nat} : ∀ (ops : List SL.ConnOp) (c c1 : Conn),
    Good c → Holds P c ch0 → SL.Conn.runOps c ops = .ok c1 → Good c1 ∧ Holds P c1 ch0 :=
  fun ops c c1 hg hh => SL.Conn.runOps_pres (P := fun c => Good c ∧ Holds P c ch0)
    (fun _ _ _ h e => ⟨good_apply h.1 e, holds_apply hP h.1 (Nat.zero_le _) h.2 e⟩) ops c c1 ⟨hg, hh⟩

theorem timeOK_run : ∀ (ops : List SL.ConnOp) (c c1 : Conn), Good c → TimeOK c → SL.Conn.runOps c ops = .ok c1 →
    Good c1 ∧ TimeOK c1 :=
  fun ops c c1 hg ht => SL.Conn.runOps_pres (P := fun c => Good c ∧ TimeOK c)
    (fun _ _ _ h e => ⟨good_apply h.1 e, timeOK_apply h.1 h.2 e⟩) ops c c1 ⟨hg, ht⟩

/-! ## 5. never retransmitted -/

/-- **Generic headline.**  If `P` holds of channel `ch0` in a good state, then after ANY finite sequence of public
    operations it still holds, and every flush from there emits only `Q`-packets: `flushPk c1` are the packets whose
    encodings the flush hands to the transport, one for one (`map encO = map some`). -/
theorem quiet_after {P : SendRel → Prop} {Q : Packet → Prop} {ch0 : Nat} (hP : Stable 0 P) (hQ : Quiet P ch0 Q)
    {c : Conn} (hg : Good c) (hh : Holds P c ch0) (ops : List SL.ConnOp) {c1 : Conn}
    (hrun : SL.Conn.runOps c ops = .ok c1) :
    Good c1 ∧ Holds P c1 ch0 ∧ ∀ c2 out, c1.getPacketsToSend = .ok (c2, out) →
      (∀ p ∈ System.flushPk c1, Q p) ∧ (System.flushPk c1).map System.encO = out.map some ∧
      ∀ b ∈ out, ∃ p ∈ System.flushPk c1, p.enc = .ok b ∧ Q p := by
  obtain ⟨hg1, hh1⟩ := run_inv hP ops c c1 hg hh hrun
  refine ⟨hg1, hh1, ?_⟩
  intro c2 out hf
  have hq := (holds_flush hP (fun s seq avail => hQ.own s seq avail c1.now) hQ.other hg1 (Nat.zero_le _) hh1 hf).2
  have henc := (System.flush_facts hf).1
  refine ⟨hq, henc, ?_⟩
  intro b hb
  obtain ⟨p, hp, he⟩ := System.enc_mem henc hb
  exact ⟨p, hp, he, hq p hp⟩

theorem runOps_cons {c c2 : Conn} {op : SL.ConnOp} {rest : List SL.ConnOp} :
    SL.Conn.runOps c (op :: rest) = .ok c2 ↔ ∃ c', op.apply c = .ok c' ∧ SL.Conn.runOps c' rest = .ok c2 := by
  cases h : op.apply c <;> simp [SL.Conn.runOps, h]

theorem runOps_split : ∀ (a b : List SL.ConnOp) (c c2 : Conn), SL.Conn.runOps c (a ++ b) = .ok c2 →
    ∃ c1, SL.Conn.runOps c a = .ok c1 ∧ SL.Conn.runOps c1 b = .ok c2
  | [], _, c, _, h => ⟨c, rfl, h⟩
  | op :: a, b, c, c2, h => by
    obtain ⟨c', h1, h⟩ := runOps_cons.mp h
    obtain ⟨c1, ha, hb⟩ := runOps_split a b c' c2 h
    exact ⟨c1, runOps_cons.mpr ⟨c', h1, ha⟩, hb⟩

theorem runOps_flush_inside {pre post : List SL.ConnOp} {c cN : Conn}
    (h : SL.Conn.runOps c (pre ++ SL.ConnOp.getPacketsToSend :: post) = .ok cN) :
    ∃ c1 c2 out, SL.Conn.runOps c pre = .ok c1 ∧ c1.getPacketsToSend = .ok (c2, out) ∧ SL.Conn.runOps c2 post = .ok cN := by
  obtain ⟨c1, h1, h2⟩ := runOps_split pre _ c cN h
  obtain ⟨c2, h3, h2⟩ := runOps_cons.mp h2
  obtain ⟨out, ho⟩ := SL.Res.stateOf_ok h3
  exact ⟨c1, c2, out, h1, ho, h2⟩

end RenetVerif.AckFinal
