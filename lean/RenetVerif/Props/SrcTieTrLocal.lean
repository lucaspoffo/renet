/-
  Source tie, transports, with a LOCAL renet-side condition (usable for LIVE sessions).

  `SrcTieTrClosed.lean` states the transport ties for a range predicate `Rg` with `RangeClosed Rg`.  That hypothesis cannot hold
  of a live connection: `RangeClosed.gp` keeps `Rg` along every `get_packets_to_send`, `RangeClosed.send` makes `Rg` imply
  `SendRange`, in particular `flushSeq ≤ 2^60`; but every flush of a connected `RenetClient` with a non-empty `pending_acks`
  emits an ack packet, i.e. increments `packet_sequence` by at least one, and leaves `pending_acks` non-empty; so from
  `Rg c` one gets `Rg (flush^n c)` and `packetSeq c + n ≤ flushSeq (flush^n c) ≤ 2^60` for every `n` — false for `n > 2^60`.
  (And `RangeClosed.pp` forces the same for a connection without pending acks: any well-formed packet makes them non-empty.)

  Here the renet side of each tie is: the model invariants (`SGood` / `EpGood`: ARE invariants, established by
  `RenetServer::new` / `from_channels` and kept by every operation) and the LOCAL condition of the one call, defined by recursion
  over the model's run of that call and decidable by evaluation (`Lemmas/SrcEquiv/TrLocal.lean`):
    `SrvUpdateOk`   every `process_packet_from` of the receive loop and of the two id loops finds its connection in `ConnInRange`
    `SendLoopOk`    the connection flushed in each round of `send_packets` is in `ConnInRange`
    `IdLoopOk`      (for `disconnect_all`; `disconnect` never surfaces a payload, so this is about nothing but is cheap)
    `CliUpdateOk`   every payload the client's receive loop surfaces finds the `RenetClient` in `ConnInRange`
    client `send_packets`: the `RenetClient` is in `ConnInRange` (when the netcode client is not disconnected)
  The netcode side is `NS.ServerInv` / `CliInv` as in `SrcTieTrInv.lean`.  `NetcodeClientTransport::disconnect` needs nothing
  (`ctr_disconnect`).  The relations: `RsRel s g := SGood s ∧ ∃ mrss, g = reprServer mrss s`,
  `RcRel c g := EpGood c ∧ ∃ mrs, g = reprConn mrs c`.
-/
import RenetVerif.Lemmas.SrcEquiv.TrLocal
namespace RenetVerif.SrcTie
open RenetVerif RenetVerif.SrcEquiv RenetVerif.RustSem RenetVerif.Netcode RenetVerif.Transport RenetVerif.SrcSystem RenetVerif.SrcMulti
open Src.renet_netcode.server Src.renet_netcode.client

/-- the graded simulations hold for the relations "model invariants ∧ generated = repr (model)" with no further hypothesis -/
theorem rn_sim_local : RnSimL RsRel :=
  have h := rnSimOn_of_inv SGood connOkAt (fun _ hi => hi.sorted) (fun _ hi => hi.cfg)
    (fun _ hi bytes _ _ hrg hf => procOk_of (hi.find hf) (connOkAt_find hrg hf) bytes)
    (fun _ hi _ _ hrg hf => sendOk_of (hi.find hf) (connOkAt_find hrg hf))
    (fun _ hi _ _ _ _ hm => hi.processPacketFrom hm) (fun _ hi id => hi.addConnection id)
    (fun _ hi id => hi.removeConnection id) (fun _ hi _ _ _ hm => hi.getPacketsToSend hm)
  ⟨h.ppf, h.add, h.remove, h.cids, h.dids, h.gpts⟩
theorem rc_sim_local : RcSimL RcRel :=
  have h := rcSimOn_of_inv EpGood ConnInRange (fun _ hi hrg => procOk_of hi hrg) (fun _ hi hrg => sendOk_of hi hrg)
    (fun _ hi r => hi.disconnectWith r) (fun _ hi => hi.setConnected)
    (fun _ hi => hi.setConnecting)
    (fun _ hi _ _ hm => hi.processPacket hm) (fun _ hi _ _ hm => hi.getPacketsToSend hm)
  ⟨h.reason, h.dtt, h.setc, h.setg, h.pp, h.gpts⟩

/-- `NetcodeServerTransport::update`, local condition `SrvUpdateOk` -/
theorem tr_update_local (a : AEAD) (hl : a.Laws) (g : ServerGlue) (mrss : Nat → Nat → Nat) (hi : NS.ServerInv g.netcode)
    (hg : SGood g.renet) (duration : Nat) (inbox : List Dgram) (hin : inbox.length + 1 < 2 ^ 64) (out : Array Dgram)
    (o buf : List Nat) (ho : o.length = C.NETCODE_MAX_PACKET_BYTES) (hb : buf.length = C.TRANSPORT_SERVER_BUFFER)
    (hok : SrvUpdateOk a g duration (inbox.map (recvFrom C.TRANSPORT_SERVER_BUFFER)) out) :
    TrOut RsRel NS.ServerInv [] C.TRANSPORT_SERVER_BUFFER
      (serverUpdateFrom a g duration (inbox.map (recvFrom C.TRANSPORT_SERVER_BUFFER)) out)
      (@NetcodeServerTransport.update (aeadOf a) (trR inbox out o g.netcode buf) duration (reprServer mrss g.renet)) :=
  by
  refine tr_update_on a hl rn_sim_local.on (nc_inv_server_inv a) (recvLoopOk_inv a) (idLoopOk_inv _) (idLoopOk_inv _) g _ hi
    ⟨hg, mrss, rfl⟩ duration inbox hin out o buf ho hb fun ns hm => ?_
  simp only [SrvUpdateOk, hm] at hok
  refine ⟨hok.1, fun g1 out1 hm1 => ?_⟩
  have hok1 := hok.2
  simp only [hm1] at hok1
  refine ⟨hok1.1, fun g2 out2 hm2 => ?_⟩
  have hok2 := hok1.2
  simp only [hm2] at hok2
  exact hok2

/-- `NetcodeServerTransport::send_packets`, local condition `SendLoopOk` -/
theorem tr_send_packets_local {ε : Type} (a : AEAD) (hl : a.Laws) (g : ServerGlue) (mrss : Nat → Nat → Nat)
    (hi : NS.ServerInv g.netcode) (hg : SGood g.renet) (inbox : List Dgram) (out : Array Dgram) (o buf : List Nat)
    (ho : o.length = C.NETCODE_MAX_PACKET_BYTES) (hok : SendLoopOk a g g.renet.clientsId out) :
    TrOut (ε := ε) RsRel NS.ServerInv inbox buf.length (serverSendLoop a g g.renet.clientsId out)
      (@NetcodeServerTransport.send_packets (aeadOf a) ε (trR inbox out o g.netcode buf) (reprServer mrss g.renet)) :=
  tr_send_packets_on a hl rn_sim_local.on (nc_inv_server_inv a) (sendLoopOk_inv a) g _ hi ⟨hg, mrss, rfl⟩ inbox out o buf ho hok

/-- `NetcodeServerTransport::disconnect_all`, local condition `IdLoopOk` -/
theorem tr_disconnect_all_local {ε : Type} (a : AEAD) (hl : a.Laws) (g : ServerGlue) (mrss : Nat → Nat → Nat)
    (hi : NS.ServerInv g.netcode) (hg : SGood g.renet) (inbox : List Dgram) (out : Array Dgram) (o buf : List Nat)
    (ho : o.length = C.NETCODE_MAX_PACKET_BYTES)
    (hok : IdLoopOk (fun ns id => ns.disconnect a id) g g.netcode.clientsId out) :
    TrOut (ε := ε) RsRel NS.ServerInv inbox buf.length (serverIdLoop (fun ns id => ns.disconnect a id) g g.netcode.clientsId out)
      (@NetcodeServerTransport.disconnect_all (aeadOf a) ε (trR inbox out o g.netcode buf) (reprServer mrss g.renet)) :=
  tr_disconnect_all_on a hl rn_sim_local.on (nc_inv_server_inv a) (idLoopOk_inv _) g _ hi ⟨hg, mrss, rfl⟩ inbox out o buf ho hok

/-- `NetcodeClientTransport::update`, local condition `CliUpdateOk` -/
theorem ctr_update_local (a : AEAD) (hl : a.Laws) (g : ClientGlue) (mrs : Nat → Nat) (hi : CliInv g.netcode) (hg : EpGood g.renet)
    (duration : Nat) (inbox : List Dgram) (hin : inbox.length + 1 < 2 ^ 64) (out : Array Dgram) (o buf : List Nat)
    (ho : o.length = C.NETCODE_MAX_PACKET_BYTES) (hb : buf.length = C.TRANSPORT_CLIENT_BUFFER)
    (hok : CliUpdateOk a g (inbox.map (recvFrom C.TRANSPORT_CLIENT_BUFFER))) :
    match clientUpdateFrom a g duration (inbox.map (recvFrom C.TRANSPORT_CLIENT_BUFFER)) out with
    | .ok r => ∃ rest, rest.map (recvFrom C.TRANSPORT_CLIENT_BUFFER) = r.rest ∧
        CliTrOut RcRel CliInv C.TRANSPORT_CLIENT_BUFFER r.result r.g r.out rest
          (@NetcodeClientTransport.update (aeadOf a) (ctrR inbox out o g.netcode buf) duration (reprConn mrs g.renet))
    | .err e => nomatch e
    | .panic _ => ∃ msg, @NetcodeClientTransport.update (aeadOf a) (ctrR inbox out o g.netcode buf) duration
        (reprConn mrs g.renet) = .panic msg :=
  ctr_update_on a hl rc_sim_local.on (nc_cinv_cli_inv a) (crecvLoopOk_inv a) g _ hi ⟨hg, mrs, rfl⟩ duration inbox hin out o buf ho hb
    hok

/-- `NetcodeClientTransport::send_packets`, local condition: the `RenetClient` in range when the netcode client is live -/
theorem ctr_send_packets_local (a : AEAD) (hl : a.Laws) (g : ClientGlue) (mrs : Nat → Nat) (hi : CliInv g.netcode)
    (hg : EpGood g.renet) (inbox : List Dgram) (out : Array Dgram) (o buf : List Nat)
    (ho : o.length = C.NETCODE_MAX_PACKET_BYTES) (hok : g.netcode.disconnectReason = none → ConnInRange g.renet) :
    match clientSendPacketsFrom a g out with
    | .ok (res, g', out') => CliTrOut RcRel CliInv buf.length res g' out' inbox
        (@NetcodeClientTransport.send_packets (aeadOf a) (ctrR inbox out o g.netcode buf) (reprConn mrs g.renet))
    | .err e => nomatch e
    | .panic _ => ∃ msg, @NetcodeClientTransport.send_packets (aeadOf a) (ctrR inbox out o g.netcode buf)
        (reprConn mrs g.renet) = .panic msg :=
  ctr_send_packets_on a hl rc_sim_local.on (nc_cinv_cli_inv a) g _ hi ⟨hg, mrs, rfl⟩ inbox out o buf ho hok

end RenetVerif.SrcTie
