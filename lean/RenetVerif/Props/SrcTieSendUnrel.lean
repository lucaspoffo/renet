/-
  Source tie, group SendUnrel: `renet/src/channel/unreliable.rs`
  `SendChannelUnreliable::{new, can_send_message, available_memory, send_message, get_packets_to_send}` ↔ `SendUnrel`
  of `Renet/Channels.lean` (`SendUnrel.new/canSend/available/sendMessage/getPackets`).

  `reprSU` maps a model state to the generated struct (`VecDeque<Bytes>` = list of byte lists), `absSU` back
  (`reprSU (absSU c) = c` when the queued bytes are bytes).  `get_packets_to_send(&mut self, &mut u64, &mut u64)`
  returns `(self, packet_sequence, available_bytes, packets)`; its `while let Some(m) = queue.pop_front()` loop runs on
  the manifest fuel `self.unreliable_messages.len() + 1`.
-/
import RenetVerif.Lemmas.SrcEquiv.SendUnrel
namespace RenetVerif.SrcTie
open RenetVerif RenetVerif.SrcEquiv RenetVerif.RustSem
open Src.renet.channel.unreliable

/-- well-formed state for `get_packets_to_send` with packet counter `seq`: the memory counter covers the queued
    bytes (in the reachable states it EQUALS their sum) and the counters cannot overflow while the queue is flushed
    (`need q` = Σ (⌈len/SLICE_SIZE⌉ + 1) bounds the number of packets) -/
def WfSendUnrel (s : SendUnrel) (seq : Nat) : Prop :=
  qBytes s.queue ≤ s.mem ∧ s.mem < 2 ^ 64 ∧ seq + need s.queue + 1 < 2 ^ 64 ∧ s.slicedId + s.queue.length < 2 ^ 64
instance (s : SendUnrel) (seq : Nat) : Decidable (WfSendUnrel s seq) := by unfold WfSendUnrel; infer_instance

theorem send_unrel_new {ε : Type} (channelId maxMem : Nat) :
    (SendChannelUnreliable.new channelId maxMem : Res ε _) = .ok (reprSU (SendUnrel.new channelId maxMem)) := rfl

theorem send_unrel_can_send_message {ε : Type} (s : SendUnrel) (sizeBytes : Nat) (h : sizeBytes + s.mem < 2 ^ 64) :
    (SendChannelUnreliable.can_send_message (reprSU s) sizeBytes : Res ε Bool) = .ok (s.canSend sizeBytes) := by
  unfold SendChannelUnreliable.can_send_message
  simp only [reprSU, add_val h, Exec.bind_eq, Exec.bind_val', Exec.pure_eq, Exec.run_val, SendUnrel.canSend]
  congr

theorem send_unrel_available_memory {ε : Type} (s : SendUnrel) (h : s.mem ≤ s.maxMem) :
    (SendChannelUnreliable.available_memory (reprSU s) : Res ε Nat) = .ok s.available := by
  unfold SendChannelUnreliable.available_memory
  simp only [reprSU, sub_val h, Exec.run_val, SendUnrel.available]

/-- `send_message`: the model's new state; in particular on the memory-limited path (`log::warn!` + `return`) the
    state is unchanged -/
theorem send_unrel_send_message {ε : Type} (s : SendUnrel) (m : Bytes) (h : s.mem + m.length < 2 ^ 64) :
    (SendChannelUnreliable.send_message (reprSU s) (toNats m) : Res ε _) = .ok (reprSU (s.sendMessage m), ()) := by
  unfold SendChannelUnreliable.send_message SendUnrel.sendMessage
  have hl : RustSem.len (toNats m) = m.length := by simp [RustSem.len, toNats]
  simp only [reprSU, hl, add_val h, Exec.bind_eq, Exec.bind_val', Exec.pure_eq,
    show Src.renet.packet.SLICE_SIZE = 1200 from rfl, RustSem.div, show (1200 : Nat) ≠ 0 by decide, if_false]
  by_cases hm : s.mem + m.length > s.maxMem
  · simp only [hm, decide_true, if_true, Exec.bind_ret', Exec.run_ret]
  · simp only [hm, decide_false, Bool.false_eq_true, if_false, Exec.bind_val']
    split <;> simp [Exec.bind_val', Exec.run_val, RustSem.push, toNats]

theorem send_unrel_send_message_memory_limited {ε : Type} (s : SendUnrel) (m : Bytes) (h : s.mem + m.length < 2 ^ 64)
    (hlim : s.mem + m.length > s.maxMem) :
    (SendChannelUnreliable.send_message (reprSU s) (toNats m) : Res ε _) = .ok (reprSU s, ()) := by
  rw [send_unrel_send_message s m h]; unfold SendUnrel.sendMessage; rw [if_pos hlim]

/-- `get_packets_to_send` on a well-formed state: no panic, and exactly the model's new state, new packet sequence,
    new byte budget and packet list -/
theorem send_unrel_get_packets_to_send {ε : Type} (s : SendUnrel) (seq avail : Nat) (h : WfSendUnrel s seq) :
    (SendChannelUnreliable.get_packets_to_send (reprSU s) seq avail : Res ε _) =
      .ok (reprSU (s.getPackets seq avail).1, (s.getPackets seq avail).2.2.1, (s.getPackets seq avail).2.2.2,
           (s.getPackets seq avail).2.1.map reprPacket) := by
  obtain ⟨hmem, hmemlt, hseq, hsid⟩ := h
  unfold SendChannelUnreliable.get_packets_to_send
  have hfuel : s.queue.length + 1 < 2 ^ 64 := by have := need_ge_length s.queue; omega
  have hl : RustSem.len (reprSU s).unreliable_messages = s.queue.length := by simp [RustSem.len, reprSU]
  simp only [hl, add_val hfuel, Exec.bind_eq, Exec.pure_eq, Exec.bind_val']
  have h0 : ((avail, seq, ([] : List SPacket), reprSU s, ([] : List (List Nat)), 0) :
      Nat × Nat × List SPacket × SendChannelUnreliable × List (List Nat) × Nat)
      = reprLoop s ⟨[], [], 0, seq, avail, s.slicedId, s.mem⟩ s.queue := rfl
  rw [h0, @whileFuel_elim _ _ _ _ _ (fun x m => x = .val m)
    (fun t (p : GPU × List Bytes) => t = reprLoop s p.1 p.2 ∧ LInv p.1 p.2) (fun p => reprLoop s (unrelLoop s.ch p.2 p.1) [])
    (fun p => p.2.length) _ _ _ _ (_, s.queue) ⟨rfl, hmem, hmemlt, hseq, hsid, Nat.zero_le _⟩ (Nat.lt_succ_self _) ?step]
  case step =>
    rintro _ ⟨g, rest⟩ ⟨rfl, hinv⟩ _
    dsimp only at hinv ⊢
    cases rest with
    | nil => exact .inr (by simp [reprLoop, EndsLoop, exitOut, unrelLoop])
    | cons m rest =>
    refine .inl ⟨_, (stepGPU s.ch g m, rest), ?_, ⟨rfl, LInv_step s.ch g m rest hinv⟩, Nat.lt_succ_self _,
      congrArg (reprLoop s · []) (unrelLoop_cons s.ch m rest g)⟩
    unfold GoesOn
    obtain ⟨i1, i2, i3, i4, i5⟩ := hinv
    simp only [qBytes, need, List.map_cons, List.sum_cons, List.length_cons] at i1 i3 i4
    have hml : RustSem.len (toNats m) = m.length := by simp [RustSem.len, toNats]
    have hmlt : m.length < 2 ^ 64 := by omega
    simp only [reprLoop, List.map_cons, List.head?_cons, List.tail_cons, hml, sub_val (show m.length ≤ g.mem by omega),
      Exec.bind_val', cast_of_lt hmlt, show Src.renet.packet.SLICE_SIZE = C.SLICE_SIZE from rfl]
    have hS : C.SLICE_SIZE = 1200 := rfl
    by_cases hA : g.avail < m.length
    · right
      simp only [hA, decide_true, if_true, Exec.bind_ret', stepGPU]
    simp only [hA, decide_false, Bool.false_eq_true, if_false, Exec.bind_val', sub_val (show m.length ≤ g.avail by omega)]
    left
    by_cases hB : m.length > C.SLICE_SIZE
    · -- sliced message
      simp only [hB, decide_true, if_true, div_ceil_1200, Exec.bind_val', RustSem.forRange, Nat.sub_zero]
      generalize hn : divCeil m.length C.SLICE_SIZE = n at *
      have hn1 : 1 ≤ n := by rw [← hn]; exact divCeil_pos hB
      have hlo : (n - 1) * C.SLICE_SIZE < m.length := by
        rw [← hn]; unfold divCeil; simp only [hS] at *; omega
      rw [slices_loop s.ch g.slicedId m n _ ?hb n 0 g.seq _ (by omega) (by omega)]
      case hb =>
        intro i sq pk hi hsq
        obtain ⟨h1, hle, hnl⟩ := slice_offsets hi hlo hmlt
        simp only [mul_val h1, Exec.bind_val', sub_val hn1]
        have hsl : sliceBytes m n i = (m.drop (i * C.SLICE_SIZE)).take
            ((if i = n - 1 then m.length else (i + 1) * C.SLICE_SIZE) - i * C.SLICE_SIZE) := rfl
        by_cases hlast : i = n - 1
        · simp only [hlast, decide_true, if_true, Exec.bind_val'] at hsl hle ⊢
          rw [slice_toNats m _ _ _ hle (Nat.le_refl _), Exec.bind_val', add_val hsq, Exec.bind_val']
          simp only [RustSem.push, reprPacket, reprSlice, hsl]
        · obtain ⟨h2, h3, hlt, hle'⟩ := hnl hlast
          simp only [hlast, decide_false, Bool.false_eq_true, if_false, add_val h2, mul_val h3, Exec.bind_val'] at hsl ⊢
          rw [slice_toNats m _ _ _ hlt hle', Exec.bind_val', add_val hsq, Exec.bind_val']
          simp only [RustSem.push, reprPacket, reprSlice, hsl]
      have hsid1 : g.slicedId + 1 < 2 ^ 64 := by omega
      simp only [Exec.bind_val', add_val hsid1, stepGPU, hA, hB, if_false, if_true, hn, List.range_eq_range',
        List.map_append]
    · -- small message
      have hB' : m.length ≤ C.SLICE_SIZE := by omega
      have hmax : m.length ≤ Varint.MAX := by unfold Varint.MAX; simp only [hS] at hB'; omega
      have hv := varintLen_le m.length
      have ha1 : m.length + varintLen m.length < 2 ^ 64 := by simp only [hS] at hB'; omega
      have ha2 : g.smallBytes + (m.length + varintLen m.length) < 2 ^ 64 := by simp only [hS] at hB'; omega
      simp only [hB, decide_false, Bool.false_eq_true, if_false, varint_len_eq _ hmax, Exec.call_ok, Exec.bind_val',
        add_val ha1, add_val ha2]
      by_cases hF : g.smallBytes + (m.length + varintLen m.length) > C.SLICE_SIZE
      · have hs1 : g.seq + 1 < 2 ^ 64 := by omega
        have ha3 : 0 + (m.length + varintLen m.length) < 2 ^ 64 := by omega
        simp only [hF, decide_true, if_true, Exec.bind_val', add_val hs1, add_val ha3, stepGPU, hA, hB, if_false,
          RustSem.push, List.map_append, List.map_cons, List.map_nil, reprPacket]
      · simp only [hF, decide_false, Bool.false_eq_true, if_false, Exec.bind_val', add_val ha2, stepGPU, hA, hB,
          RustSem.push, List.map_append, List.map_cons, List.map_nil]
  -- after the loop: the final packet for the remaining small messages
  simp only [Exec.bind_val', reprLoop, SendUnrel.getPackets]
  have hfin := LInv_loop s.ch s.queue ⟨[], [], 0, seq, avail, s.slicedId, s.mem⟩ ⟨hmem, hmemlt, hseq, hsid, Nat.zero_le _⟩
  generalize unrelLoop s.ch s.queue ⟨[], [], 0, seq, avail, s.slicedId, s.mem⟩ = g at hfin
  have hs1 : g.seq + 1 < 2 ^ 64 := by have := hfin.seq; simp only [need, List.map_nil, List.sum_nil] at this; omega
  have hemp : RustSem.is_empty (List.map toNats g.small) = g.small.isEmpty := by
    cases g.small <;> rfl
  rw [hemp]
  cases hsm : g.small.isEmpty with
  | true => simp [Exec.bind_val', Exec.run_val, reprSU]
  | false =>
    simp [Exec.bind_val', Exec.run_val, reprSU, add_val hs1, RustSem.push, reprPacket]

/-- the fuel of the translated `while let` loop is never exhausted -/
theorem send_unrel_get_packets_fuel_suffices {ε : Type} (s : SendUnrel) (seq avail : Nat) (h : WfSendUnrel s seq) :
    (SendChannelUnreliable.get_packets_to_send (reprSU s) seq avail : Res ε _) ≠
      .panic "renet/src/channel/unreliable.rs:SendChannelUnreliable::get_packets_to_send: fuel exhausted" := by
  rw [send_unrel_get_packets_to_send s seq avail h]; intro e; cases e

/-- every generated state whose queued bytes are bytes is the image of a model state -/
theorem send_unrel_repr_abs (c : SendChannelUnreliable) (h : ∀ m ∈ c.unreliable_messages, BytesOk m) :
    reprSU (absSU c) = c := by
  cases c with
  | mk ch q sid mx mem =>
    simp only [reprSU, absSU, List.map_map]
    congr 1
    have : ∀ l : List (List Nat), (∀ m ∈ l, BytesOk m) → List.map (toNats ∘ ofNats) l = l := by
      intro l hl
      induction l with
      | nil => rfl
      | cons x r ih =>
        simp only [List.map_cons, Function.comp_apply, toNats_ofNats (hl x (by simp))]
        rw [ih (fun m hm => hl m (by simp [hm]))]
    exact this q h

/-- two small messages and a budget that admits only the first: one `SmallUnreliable` packet, the second is dropped -/
example :
    (SendChannelUnreliable.get_packets_to_send ⟨3, [[1, 2], [4, 5, 6]], 0, 100, 5⟩ 10 2 : Res Empty _) =
      .ok (⟨3, [], 0, 100, 0⟩, 11, 0, [.SmallUnreliable 10 3 [[1, 2]]]) := by decide +kernel
/-- a 1201-byte message is cut into two slices with consecutive sequence numbers; the small message follows -/
example :
    (SendChannelUnreliable.get_packets_to_send ⟨0, [List.replicate 1201 7, [9]], 4, 5000, 1202⟩ 20 5000 : Res Empty _) =
      .ok (⟨0, [], 5, 5000, 0⟩, 23, 3798,
           [.UnreliableSlice 20 0 ⟨4, 0, 2, List.replicate 1200 7⟩, .UnreliableSlice 21 0 ⟨4, 1, 2, [7]⟩,
            .SmallUnreliable 22 0 [[9]]]) := by decide +kernel
example : (SendChannelUnreliable.send_message ⟨0, [], 0, 4, 3⟩ [1, 2] : Res Empty _) = .ok (⟨0, [], 0, 4, 3⟩, ()) := by
  decide +kernel
example : (SendChannelUnreliable.send_message ⟨0, [], 0, 5, 3⟩ [1, 2] : Res Empty _) = .ok (⟨0, [[1, 2]], 0, 5, 5⟩, ()) := by
  decide +kernel

end RenetVerif.SrcTie
