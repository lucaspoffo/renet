/-
  B. netcode prefix byte, sequence length, packet type.
  (split of the source-tie helper lemmas so that an edit of one Rust function only breaks the properties that
  depend on that function; the ties themselves are in `Props/SrcTiePrefix.lean`)
-/
import RenetVerif.Generated.Src.Prefix
import RenetVerif.Lemmas.SrcEquiv.Prims
import RenetVerif.Lemmas.NcPacket
namespace RenetVerif.SrcEquiv
open RenetVerif RenetVerif.RustSem

theorem and_byte_mask (x k : Nat) : x &&& (255 <<< (8 * k)) = 0 ↔ x / 256 ^ k % 256 = 0 := by
  have e : x &&& (255 <<< (8 * k)) = ((x >>> (8 * k)) &&& 255) <<< (8 * k) := by
    apply Nat.eq_of_testBit_eq
    intro i
    simp only [Nat.testBit_and, Nat.testBit_shiftLeft, Nat.testBit_shiftRight]
    by_cases h : i ≥ 8 * k
    · have : 8 * k + (i - 8 * k) = i := by omega
      simp [h, this]
    · simp [h]
  rw [e, Nat.shiftLeft_eq, Nat.mul_eq_zero]
  have h3 : (x >>> (8 * k)) &&& 255 = x / 256 ^ k % 256 := by
    rw [show (255 : Nat) = 2 ^ 8 - 1 by decide, Nat.and_two_pow_sub_one_eq_mod, Nat.shiftRight_eq_div_pow, Nat.pow_mul]
  rw [h3]
  simp

section B
open Netcode
open Src.renetcode.packet

/-- the loop of `sequence_bytes_required` with `k` rounds to go: the mask then selects byte `k - 1` (and is 0 when `k = 0`) -/
theorem sequence_bytes_required_loop {ε} (s : Nat) (s1 s2 : String) (k : Nat) (hk : k ≤ 8) :
    (Exec.run (do
      let _ ← RustSem.forRange (8 - k) 8 ((255 <<< (8 * k)) >>> 8) (fun i mask => (do
        let _ ← (if (decide ((RustSem.band s mask) ≠ 0x00)) then (do
            let t1 ← RustSem.sub 64 8 i s1
            Exec.ret t1)
          else pure ())
        let t2 ← RustSem.shr 64 mask 8 s2
        let mask := t2
        pure mask))
      pure 1) : Res ε Nat) = .ok (Packet.sequenceBytesRequired.go s k) := by
  induction k with
  | zero => rfl
  | succ k ih =>
    have hm : (255 <<< (8 * (k + 1))) >>> 8 = 255 <<< (8 * k) := by
      rw [Nat.mul_succ, Nat.shiftLeft_add, Nat.shiftLeft_shiftRight]
    have hi : 8 - (k + 1) + 1 = 8 - k := by omega
    have hsub : 8 - (8 - (k + 1)) = k + 1 := by omega
    have hc : decide (RustSem.band s (255 <<< (8 * k)) ≠ 0) = decide (s / 256 ^ k % 256 ≠ 0) := by
      simp only [RustSem.band, ne_eq, and_byte_mask]
    rw [forRange_succ (by omega), hm, hi, Packet.sequenceBytesRequired.go, hc]
    by_cases hz : s / 256 ^ k % 256 = 0
    · simpa only [ne_eq, hz, not_true_eq_false, decide_false, Bool.false_eq_true, if_false, Exec.bind_eq, Exec.pure_eq,
        Exec.bind_val', shr_val (show 8 < 64 by decide)] using ih (by omega)
    · simp only [ne_eq, hz, not_false_eq_true, decide_true, if_true, sub_val (Nat.sub_le 8 (k + 1)), hsub, Exec.bind_eq,
        Exec.bind_val', Exec.bind_ret', Exec.run_ret]

abbrev SPacketType := Src.renetcode.packet.PacketType
abbrev SNetcodeError := Src.renetcode.error.NetcodeError

def absPT : SPacketType → Netcode.PacketType
  | .ConnectionRequest => .connectionRequest | .ConnectionDenied => .connectionDenied | .Challenge => .challenge
  | .Response => .response | .KeepAlive => .keepAlive | .Payload => .payload | .Disconnect => .disconnect

def absDR : Src.renetcode.client.DisconnectReason → Netcode.DisconnectReason
  | .ConnectTokenExpired => .connectTokenExpired | .ConnectionTimedOut => .connectionTimedOut
  | .ConnectionResponseTimedOut => .connectionResponseTimedOut | .ConnectionRequestTimedOut => .connectionRequestTimedOut
  | .ConnectionDenied => .connectionDenied | .DisconnectedByClient => .disconnectedByClient
  | .DisconnectedByServer => .disconnectedByServer

def absTGE : Src.renetcode.token.TokenGenerationError → Netcode.TokenGenErr
  | .MaxHostCount => .maxHostCount | .CryptoError => .cryptoError | .IoError _ => .ioError
  | .NoServerAddressAvailable => .noServerAddressAvailable

def absErr : SNetcodeError → Netcode.NetcodeError
  | .UnavailablePrivateKey => .unavailablePrivateKey | .InvalidPacketType => .invalidPacketType
  | .InvalidProtocolID => .invalidProtocolID | .InvalidVersion => .invalidVersion | .PacketTooSmall => .packetTooSmall
  | .PayloadAboveLimit => .payloadAboveLimit | .DuplicatedSequence => .duplicatedSequence | .NoMoreServers => .noMoreServers
  | .Expired => .expired | .Disconnected r => .disconnected (absDR r) | .CryptoError => .cryptoError
  | .NotInHostList => .notInHostList | .ClientNotFound => .clientNotFound | .ClientNotConnected => .clientNotConnected
  | .IoError _ => .ioError | .TokenGenerationError e => .tokenGenerationError (absTGE e)

end B

end RenetVerif.SrcEquiv
