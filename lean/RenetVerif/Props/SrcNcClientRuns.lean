/-
  The concrete runs of the GENERATED netcode client (world of `Lemmas/NcExamples.lean`, AEAD `Ex.a`): the operation lists that
  `Props/SrcPropsNcClientHistory.lean`, `Props/SrcPropsNcClientTrace.lean` and `Props/SrcPropsNcClientTotal.lean` run from the
  generated `NetcodeClient::new(0, Secure { tokenA }, ..)`.  They stand together, ahead of the three files, because the runs share
  their start (`new` and the handshake `hsCli`): `SrcPropsNcClientHistory.ex_cli_all` evaluates them in one kernel evaluation.
-/
import RenetVerif.Lemmas.SrcEquiv.SrcNcClientSystem
import RenetVerif.Props.C18U
import RenetVerif.Props.C04C
namespace RenetVerif
open RenetVerif.SrcEquiv RenetVerif.RustSem RenetVerif.Netcode RenetVerif.SrcNcClientSystem RenetVerif.NcLive3
open NS.Ex

namespace SrcPropsNcClientHistory

def hsCli : List CliOp := [.update 0, .packet chalA, .update 250000000, .packet kaA]
def hostileC : Bytes := 21 :: 7 :: List.replicate 30 255
def exCliOps : List CliOp := hsCli ++ C18U.traceCl.map ofC ++ [.packet hostileC, .packet [], .sendPayload [1], .disconnect]

end SrcPropsNcClientHistory

namespace SrcPropsNcClientTrace

/-- the model-level example run of `Props/C04C.lean` as operations of the generated system: handshake, payloads 3 and 5, a
    replay, a forgery, a modified copy, an outgoing payload, a clock step, payload 4, 5 again, `disconnect`, payload 7 -/
def exOps : List CliOp :=
  [.update 0, .packet chalA, .update 250000000, .packet kaA,
   .packet C04C.pl3, .packet C04C.pl5, .packet C04C.pl3, .packet C04C.forgedP, .packet C04C.pl3mod, .sendPayload [1],
   .update 1000, .packet C04C.pl4, .packet C04C.pl5, .disconnect, .packet C04C.pl7]

end SrcPropsNcClientTrace

namespace SrcPropsNcClientTotal
open SrcPropsNcClientHistory

/-- the trace of `Props/C07C.lean` as operations of the generated system: the handshake and session of `Props/C04C.lean`
    (payloads, a replay, a forgery, an outgoing payload, `disconnect`), then hostile input, an over-long payload, a send while
    disconnected, a clock step of 10^9 s, a second `disconnect` -/
def gOps : List CliOp :=
  SrcPropsNcClientTrace.exOps ++ [.packet [], .packet (List.replicate 1500 255), .sendPayload (List.replicate 1301 0),
    .sendPayload [2], .update (10 ^ 18), .disconnect]

def gConn : Option GNcC := GNcC.exec NS.Ex.a 0 tokenA [] [] [] [] hsCli

def gLate (g : GNcC) (room : Nat) : GNcC :=
  { g with cli := { g.cli with current_time := DURATION_MAX - room, last_packet_received_time := DURATION_MAX - room } }

end SrcPropsNcClientTotal

end RenetVerif
