/-
  H. unreliable SEND channel: generated `SendChannelUnreliable::{new, can_send_message, available_memory,
  send_message, get_packets_to_send}` agree with `SendUnrel` of `Renet/Channels.lean`.
  The ties themselves are in `Props/SrcTieSendUnrel.lean`.
-/
import RenetVerif.Generated.Src.SendUnrel
import RenetVerif.Lemmas.SrcEquiv.Prims
import RenetVerif.Lemmas.SrcEquiv.CommonRepr
import RenetVerif.Lemmas.SrcEquiv.ChanLemmas
import RenetVerif.Lemmas.SrcEquiv.Loops
namespace RenetVerif.SrcEquiv
open RenetVerif RenetVerif.RustSem

section SendUnrel
open Src.renet.channel.unreliable

def reprSU (s : SendUnrel) : SendChannelUnreliable := ⟨s.ch, s.queue.map toNats, s.slicedId, s.maxMem, s.mem⟩
def absSU (c : SendChannelUnreliable) : SendUnrel :=
  ⟨c.channel_id, c.unreliable_messages.map ofNats, c.sliced_message_id, c.max_memory_usage_bytes, c.memory_usage_bytes⟩

theorem absSU_reprSU (s : SendUnrel) : absSU (reprSU s) = s := by
  cases s; simp [absSU, reprSU, Function.comp_def, ofNats_toNats]

def qBytes (l : List Bytes) : Nat := (l.map List.length).sum

/-- one round of `unrelLoop` -/
def stepGPU (ch : Nat) (g : GPU) (m : Bytes) : GPU :=
  let g := { g with mem := g.mem - m.length }
  if g.avail < m.length then g else
  let g := { g with avail := g.avail - m.length }
  if m.length > C.SLICE_SIZE then
    let n := divCeil m.length C.SLICE_SIZE
    { g with packets := g.packets ++ unrelSlices ch g.slicedId m n (List.range n) g.seq,
             seq := g.seq + n, slicedId := g.slicedId + 1 }
  else
    let ser := m.length + varintLen m.length
    let g := if g.smallBytes + ser > C.SLICE_SIZE then
        { g with packets := g.packets ++ [Packet.smallUnreliable g.seq ch g.small], small := [], smallBytes := 0, seq := g.seq + 1 }
      else g
    { g with smallBytes := g.smallBytes + ser, small := g.small ++ [m] }

theorem unrelLoop_cons (ch : Nat) (m : Bytes) (rest : List Bytes) (g : GPU) :
    unrelLoop ch (m :: rest) g = unrelLoop ch rest (stepGPU ch g m) := by
  rw [unrelLoop]
  unfold stepGPU
  simp only
  split
  · rfl
  · split <;> rfl

/-- packets the remaining queue can still produce (bound for the `packet_sequence` counter) -/
def need (l : List Bytes) : Nat := (l.map fun m => divCeil m.length C.SLICE_SIZE + 1).sum

/-- loop invariant: the memory counter covers the queued bytes, counters stay in `u64`/`usize` -/
structure LInv (g : GPU) (rest : List Bytes) : Prop where
  mem : qBytes rest ≤ g.mem
  memlt : g.mem < 2 ^ 64
  seq : g.seq + need rest + 1 < 2 ^ 64
  sid : g.slicedId + rest.length < 2 ^ 64
  small : g.smallBytes ≤ 1208

theorem LInv_step (ch : Nat) (g : GPU) (m : Bytes) (rest : List Bytes) (h : LInv g (m :: rest)) :
    LInv (stepGPU ch g m) rest := by
  obtain ⟨h1, h2, h3, h4, h5⟩ := h
  simp only [qBytes, need, List.map_cons, List.sum_cons, List.length_cons] at h1 h3 h4
  have hv := varintLen_le m.length
  unfold stepGPU
  simp only
  split
  · exact ⟨by simp only [qBytes]; omega, by simp only; omega, by simp only [need]; omega, by simp only; omega, h5⟩
  · split
    · exact ⟨by simp only [qBytes]; omega, by simp only; omega, by simp only [need]; omega, by simp only; omega, h5⟩
    · rename_i hs
      simp only [C.SLICE_SIZE] at hs
      split
      · refine ⟨by simp only [qBytes]; omega, by simp only; omega, ?_, by simp only; omega, by simp only; omega⟩
        simp only [need]
        have : 0 < divCeil m.length C.SLICE_SIZE + 1 := by omega
        omega
      · rename_i hb
        simp only [C.SLICE_SIZE] at hb
        exact ⟨by simp only [qBytes]; omega, by simp only; omega, by simp only [need]; omega, by simp only; omega,
          by simp only; omega⟩


/-- offsets of slice `i` of the `n` slices of a message of `len` bytes stay in `usize` and inside the message -/
theorem slice_offsets {len n i : Nat} (hi : i < n) (hlo : (n - 1) * C.SLICE_SIZE < len) (hlen : len < 2 ^ 64) :
    i * C.SLICE_SIZE < 2 ^ 64 ∧ i * C.SLICE_SIZE ≤ len ∧
      (i ≠ n - 1 → i + 1 < 2 ^ 64 ∧ (i + 1) * C.SLICE_SIZE < 2 ^ 64 ∧ i * C.SLICE_SIZE ≤ (i + 1) * C.SLICE_SIZE ∧
        (i + 1) * C.SLICE_SIZE ≤ len) := by
  simp only [C.SLICE_SIZE] at *
  omega

/-- the `for slice_index in 0..num_slices` loop -/
theorem slices_loop {ε ρ : Type} (ch id : Nat) (m : Bytes) (n : Nat)
    (body : Nat → Nat × List SPacket → Exec ε ρ (Nat × List SPacket))
    (hb : ∀ i sq pk, i < n → sq + 1 < 2 ^ 64 → body i (sq, pk) =
      .val (sq + 1, pk ++ [reprPacket (.unreliableSlice sq ch ⟨id, i, n, sliceBytes m n i⟩)])) :
    ∀ (k i sq : Nat) (pk : List SPacket), i + k ≤ n → sq + k < 2 ^ 64 →
      RustSem.forRange.loop body k i (sq, pk) =
        .val (sq + k, pk ++ (unrelSlices ch id m n (List.range' i k) sq).map reprPacket) := by
  intro k
  induction k with
  | zero => intro i sq pk _ _; simp [RustSem.forRange.loop, List.range', unrelSlices]
  | succ k ih =>
    intro i sq pk hi hs
    rw [RustSem.forRange.loop, hb i sq pk (by omega) (by omega), Exec.bind_val', ih (i + 1) (sq + 1) _ (by omega) (by omega)]
    simp only [List.range', unrelSlices, List.map_cons, List.append_assoc, List.singleton_append]
    congr 2
    omega

/-- the tuple `(available_bytes, packet_sequence, packets, self, small_messages, small_messages_bytes)` carried by the
    generated `while let` loop -/
def reprLoop (s0 : SendUnrel) (g : GPU) (rest : List Bytes) :
    Nat × Nat × List SPacket × SendChannelUnreliable × List (List Nat) × Nat :=
  (g.avail, g.seq, g.packets.map reprPacket, ⟨s0.ch, rest.map toNats, g.slicedId, s0.maxMem, g.mem⟩,
   g.small.map toNats, g.smallBytes)

theorem LInv_loop (ch : Nat) : ∀ (rest : List Bytes) (g : GPU), LInv g rest → LInv (unrelLoop ch rest g) [] := by
  intro rest
  induction rest with
  | nil => intro g h; simpa [unrelLoop] using h
  | cons m r ih => intro g h; rw [unrelLoop_cons]; exact ih _ (LInv_step ch g m r h)

theorem need_ge_length (l : List Bytes) : l.length ≤ need l := by
  induction l with
  | nil => simp [need]
  | cons m r ih => simp only [need, List.map_cons, List.sum_cons, List.length_cons] at ih ⊢; omega
end SendUnrel
end RenetVerif.SrcEquiv
