/-
  C17 — AEAD discipline of renetcode: sealed data is tamper-evident, no nonce is reused under a key.

  Statements are about the executable model `RenetVerif.Netcode` (validated against the Rust crate by differential
  testing), parametric in the AEAD.  Proofs: Lemmas/NcAead.lean, parts D–F.

  PART 1  binding.  `decode` (packets), `PrivateConnectToken::decode`, `ChallengeToken::decode` surface content only
          through ONE successful `open` whose inputs — key, nonce, AAD, ciphertext ‖ tag — together cover every bit
          of the datagram / token, the key, the protocol id and (tokens) the expiry.  Hence (no assumption on the
          AEAD): if ANY modification of datagram, key or protocol id is accepted, the AEAD opened a tuple
          different from the sealed one (`tamper_is_forgery`): tamper-evidence of the protocol reduces to
          ciphertext integrity of the AEAD.  Truncation below prefix + sequence bytes + tag is rejected before
          the AEAD is consulted.
          HONEST REMARKS, all machine-checked below:
            * `Auth` (range authenticity, a hypothesis on the instance) is satisfiable together with `Laws`:
              `AEAD.toy` satisfies it (`toy_auth`) — contrary to what one might expect, because `Auth` only says
              "what opens is in the range of `seal` under the same (k, n, ad)", and the toy's range does not
              depend on them.  So `decode_authentic` is not vacuous, but `Auth` is weak.
            * the strong notion, "only the logged tuples open" (`NoForgery`), contradicts `Laws` for every finite log
              (`laws_not_noForgery`); therefore NO theorem here assumes it, and "a flipped bit yields an error" is
              stated per datagram (`decode_rejects_of_open_none`: if `open` refuses the tuple, `decode` refuses
              the datagram) and as the reduction `tamper_is_forgery`.
            * that a wrong key / protocol id is *rejected* is a property of the AEAD, not of the packet code:
              with `AEAD.toy` the datagram opens under any key and protocol id (`toy_opens_under_other_key`).
            * the high nibble of a ConnectionRequest's prefix byte is not looked at (`request_prefix_nibble_free`);
              the request is not sealed as a whole — its sealed part and bound fields are covered by PART 1b.
  PART 2  nonces.  Ghost seal logs (pure functions next to the model: `cstep`/`clog` for the client,
          `sstep`/`strace`/`sessLog` for the server; every emitted datagram is tied to its record by
          `…_sound`).  Client: sequence numbers under the client-to-server key strictly increase, the only
          repetition is the identical `Disconnect` datagram of repeated `disconnect` calls.  Server: per session
          0, 1, 2, … without gap from the handshake-completing keep-alive to the final `Disconnect`; handshake
          replies use global_sequence, global_sequence + 1, … ≥ 2^63; so within one attempt + session no two seals
          share a nonce as long as the session has sent fewer than 2^63 datagrams (repaired defect D9).
  NOT covered: two *different* sessions that reuse one connect token (same keys, both counters from 0) — outside
          the scope "one connection attempt and the session that follows" of C17; it is the known finding K1 of C04.
          The session theorems are per slot: that two simultaneously living sessions have different send keys rests on
          tokens carrying independently drawn keys (and on the server refusing a second connection of one client id),
          which is not a statement about this code.  Handshake replies need no such proviso: their sequence numbers
          are unique server-wide, whatever the key.
-/
import RenetVerif.Lemmas.NcAead
namespace RenetVerif.C17
open RenetVerif RenetVerif.Netcode RenetVerif.NcAead

/-! ## PART 1 : binding -/

/-- **What `decode` passes to `open`.**  If `decode` returns a packet of a sealed kind, the datagram splits as
    prefix ‖ sequence bytes ‖ ciphertext (the number of sequence bytes being the prefix's high nibble), the returned
    sequence is the value of the datagram's own sequence bytes, and
    `open(key, 0⁴ ‖ sequence (LE), version ‖ protocol id ‖ prefix, ciphertext)` succeeded with a body that
    `Packet::read` parsed into the packet.  Every bit of the datagram is an input of that one call. -/
theorem decode_binds (a : AEAD) (buf : Bytes) (proto : Nat) (key : Bytes) (rp rp' : Option RP) (seq : Nat)
    (p : Netcode.Packet) (h : Netcode.Packet.decode a buf proto (some key) rp = (.ok (seq, p), rp'))
    (hp : p.packetType ≠ .connectionRequest) :
    ∃ pfx seqbytes ct body, buf = pfx :: (seqbytes ++ ct) ∧ seqbytes.length = pfx.toNat / 16 ∧ seqbytes.length ≤ 8 ∧
      seq = leVal seqbytes ∧ 16 ≤ ct.length ∧
      a.open key (Netcode.Packet.nonce seq) (Netcode.Packet.additionalData pfx proto) ct = some body ∧
      Netcode.Packet.read p.packetType body = .ok p := by
  obtain ⟨pfx, sb, ct, body, h1, h2, h3, h4, h5, _, _, h6, h7⟩ := Bind.decode_binds h hp
  exact ⟨pfx, sb, ct, body, h1, h2, h3, h4, h5, h6, h7⟩

theorem nonce_aad_injective :
    (∀ s s', s < 2 ^ 64 → s' < 2 ^ 64 → Netcode.Packet.nonce s = Netcode.Packet.nonce s' → s = s') ∧
    (∀ pfx pfx' proto proto', proto < 2 ^ 64 → proto' < 2 ^ 64 →
      Netcode.Packet.additionalData pfx proto = Netcode.Packet.additionalData pfx' proto' → pfx = pfx' ∧ proto = proto') :=
  ⟨fun _ _ h1 h2 h => Bind.nonce_inj h1 h2 h, fun _ _ _ _ h1 h2 h => Bind.additionalData_inj h1 h2 h⟩

/-- per datagram: if the AEAD refuses the tuple computed from (datagram, key, protocol id) — `Bind.openInput` is that
    tuple as a function of the datagram — then `decode` returns no packet of a sealed kind, whatever the window -/
theorem decode_rejects_of_open_none (a : AEAD) (buf : Bytes) (proto : Nat) (key : Bytes) (s : Nat) (ad c : Bytes)
    (hi : Bind.openInput buf proto = some (s, ad, c)) (ho : a.open key (Netcode.Packet.nonce s) ad c = none)
    (rp rp' : Option RP) (seq : Nat) (p : Netcode.Packet)
    (h : Netcode.Packet.decode a buf proto (some key) rp = (.ok (seq, p), rp')) :
    p.packetType = .connectionRequest := by
  apply Classical.byContradiction
  intro hp
  obtain ⟨pfx, sb, ct, body, _, _, _, _, _, _, hi', ho', _⟩ := Bind.decode_binds h hp
  rw [hi] at hi'
  cases hi'
  rw [ho] at ho'
  cases ho'

/-- **Tampering is forgery** (no assumption on the AEAD).  Let `D` be the datagram sealed for packet `p` with sequence
    `seq`, key `key`, protocol id `proto`.  If any triple (datagram, key, protocol id) different from (`D`, `key`,
    `proto`) — one bit flipped anywhere in `D`, `D` truncated or extended, another key, another protocol id — makes
    `decode` return a packet of a sealed kind, then `open` accepted a tuple (key, nonce, AAD, ciphertext ‖ tag)
    different from the one that was sealed. -/
theorem tamper_is_forgery (a : AEAD) (p : Netcode.Packet) (proto seq : Nat) (key : Bytes)
    (hseq : seq < 2 ^ 64) (hproto : proto < 2 ^ 64)
    (buf' key' : Bytes) (proto' : Nat) (hproto' : proto' < 2 ^ 64)
    (hne : (buf', key', proto') ≠ (NcAead.Packet.sealedDatagram a p proto seq key, key, proto))
    (rp rp' : Option RP) (seq' : Nat) (p' : Netcode.Packet)
    (h : Netcode.Packet.decode a buf' proto' (some key') rp = (.ok (seq', p'), rp'))
    (hp' : p'.packetType ≠ .connectionRequest) :
    ∃ n' ad' c' plain', a.open key' n' ad' c' = some plain' ∧
      (key', n', ad', c') ≠ Bind.sealedTuple a p proto seq key :=
  Bind.tamper_is_forgery a p proto seq key hseq hproto hproto' hne h hp'

/-- range authenticity, a HYPOTHESIS on an instance: what opens under (k, n, ad) is a `seal` output under (k, n, ad) -/
abbrev Auth := Bind.Auth

/-- under `Auth`, every datagram that decodes (sealed kind) was produced by `seal` under the same key, the sequence
    its own sequence bytes spell, the protocol id and its own prefix byte -/
theorem decode_authentic (a : AEAD) (hA : Auth a) (buf : Bytes) (proto : Nat) (key : Bytes) (rp rp' : Option RP)
    (seq : Nat) (p : Netcode.Packet) (h : Netcode.Packet.decode a buf proto (some key) rp = (.ok (seq, p), rp'))
    (hp : p.packetType ≠ .connectionRequest) :
    ∃ pfx seqbytes plain, seqbytes.length = pfx.toNat / 16 ∧ seq = leVal seqbytes ∧
      buf = pfx :: (seqbytes ++ a.seal key (Netcode.Packet.nonce seq) (Netcode.Packet.additionalData pfx proto) plain) := by
  obtain ⟨pfx, sb, ct, body, hb, hsb, _, hsq, _, _, _, ho, _⟩ := Bind.decode_binds h hp
  obtain ⟨plain, hc⟩ := hA key (Netcode.Packet.nonce seq) (Netcode.Packet.additionalData pfx proto) ct (by rw [ho]; simp)
  exact ⟨pfx, sb, plain, hsb, hsq, by rw [hb, hc]⟩

/-- `AEAD.toy` satisfies `Auth` (and `Laws`): the hypothesis is satisfiable, `decode_authentic` is not vacuous.
    (One might expect the toy to fail it; it does not, because `Auth` does not separate keys: the toy's `seal` ignores
    key, nonce and AAD, so the range of `seal` is the same under all of them.) -/
theorem toy_auth : Auth AEAD.toy ∧ AEAD.toy.Laws := by
  refine ⟨fun k n ad c h => ⟨c.take (c.length - 16), ?_⟩, AEAD.toy_laws⟩
  simp only [AEAD.toy] at h ⊢
  split at h
  · exact absurd rfl h
  · split at h
    · rename_i h1 h2
      rw [← h2, List.take_append_drop]
    · exact absurd rfl h

/-- "only logged tuples open" contradicts the functional laws for every finite log — so it is never assumed -/
theorem laws_not_noForgery (a : AEAD) (hl : a.Laws) (L : List (Bytes × Bytes × Bytes × Bytes)) : ¬ Bind.NoForgery a L :=
  Bind.laws_not_noForgery hl L

/-- key / protocol-id separation is the AEAD's job: the toy opens a datagram under another key and protocol id -/
theorem toy_opens_under_other_key :
    Netcode.Packet.decode AEAD.toy (NcAead.Packet.sealedDatagram AEAD.toy (.keepAlive 3 8) 7 5 [1, 2, 3]) 8 (some [9]) none =
      (.ok (5, .keepAlive 3 8), none) := by
  decide +kernel

/-- remark: the sequence-length nibble of a ConnectionRequest's prefix is not looked at (the request is not sealed) -/
theorem request_prefix_nibble_free :
    Netcode.Packet.decode AEAD.toy (0xF0 :: NcAead.Packet.body
        (.connectionRequest C.NETCODE_VERSION_INFO 7 9 (List.replicate 24 1) (List.replicate 1024 2))) 7 none none =
      (.ok (0, .connectionRequest C.NETCODE_VERSION_INFO 7 9 (List.replicate 24 1) (List.replicate 1024 2)), none) := by
  decide +kernel

theorem decode_short (a : AEAD) (buf : Bytes) (proto : Nat) (key : Option Bytes) (rp : Option RP) (h : buf.length < 18) :
    Netcode.Packet.decode a buf proto key rp = (.err .packetTooSmall, rp) := Bind.decode_short a buf proto key rp h

/-- A datagram of a sealed kind shorter than prefix + announced sequence bytes + 16-byte tag is rejected before the
    AEAD is consulted (the right-hand side does not mention `a`; the window is untouched): `PacketTooSmall`, or
    `IoError` when the prefix announces more than 8 sequence bytes. -/
theorem decode_truncated (a : AEAD) (pfx : UInt8) (rest : Bytes) (proto : Nat) (key : Bytes) (rp : Option RP)
    (ty : PacketType) (hty : PacketType.fromU8 (pfx.toNat % 16) = .ok ty) (hreq : ty ≠ .connectionRequest)
    (h : (pfx :: rest).length < 1 + pfx.toNat / 16 + 16) :
    Netcode.Packet.decode a (pfx :: rest) proto (some key) rp =
      (.err (if (pfx :: rest).length < 18 ∨ pfx.toNat / 16 ≤ 8 then .packetTooSmall else .ioError), rp) :=
  Bind.decode_truncated a pfx rest proto key rp ty hty hreq h

/-! ### PART 1b : tokens -/

/-- **Private connect token.**  `decode` surfaces a token only through
    `xopen(connect key, xnonce, version ‖ protocol id ‖ expiry, the whole sealed part)`. -/
theorem private_token_binds (a : AEAD) (buf : Bytes) (proto expire : Nat) (xnonce key : Bytes) (t : PrivateConnectToken)
    (h : PrivateConnectToken.decode a buf proto expire xnonce key = .ok t) :
    16 ≤ buf.length ∧ ∃ plain, a.xopen key xnonce (PrivateConnectToken.additionalData proto expire) buf = some plain ∧
      PrivateConnectToken.read (plain ++ buf.drop plain.length) = some t := Bind.pt_decode_iff.1 h

theorem private_token_rejected (a : AEAD) (buf : Bytes) (proto expire : Nat) (xnonce key : Bytes) (hl : 16 ≤ buf.length)
    (ho : a.xopen key xnonce (PrivateConnectToken.additionalData proto expire) buf = none) :
    PrivateConnectToken.decode a buf proto expire xnonce key = .err .cryptoError := by
  unfold PrivateConnectToken.decode
  rw [if_neg (by simp [C.NETCODE_MAC_BYTES, RenetVerif.C.NETCODE_MAC_BYTES]; omega), ho]

/-- **Tampering with a token is forgery**: the token AAD is injective in (protocol id, expiry), so any change of the
    sealed part, the protocol id, the expiry, the xnonce or the key that still decodes means `xopen` accepted a tuple
    different from the sealed one. -/
theorem private_token_tamper_is_forgery (a : AEAD) (plain : Bytes) (proto expire : Nat) (xnonce key : Bytes)
    (hp : proto < 2 ^ 64) (he : expire < 2 ^ 64)
    (buf' xnonce' key' : Bytes) (proto' expire' : Nat) (hp' : proto' < 2 ^ 64) (he' : expire' < 2 ^ 64)
    (hne : (buf', proto', expire', xnonce', key') ≠
      (a.xseal key xnonce (PrivateConnectToken.additionalData proto expire) plain, proto, expire, xnonce, key))
    (t : PrivateConnectToken) (h : PrivateConnectToken.decode a buf' proto' expire' xnonce' key' = .ok t) :
    ∃ ad' plain', a.xopen key' xnonce' ad' buf' = some plain' ∧
      (key', xnonce', ad', buf') ≠ (key, xnonce, PrivateConnectToken.additionalData proto expire,
        a.xseal key xnonce (PrivateConnectToken.additionalData proto expire) plain) := by
  obtain ⟨_, plain', ho, _⟩ := Bind.pt_decode_iff.1 h
  refine ⟨_, plain', ho, ?_⟩
  intro heq
  apply hne
  simp only [Prod.mk.injEq] at heq
  obtain ⟨hk, hx, had, hb⟩ := heq
  obtain ⟨h1, h2⟩ := Bind.pt_additionalData_inj hp' hp he' he had
  rw [hk, hx, hb, h1, h2]

/-- **The server's use of it.**  `handle_connection_request` does anything (`Ok`) only if the request's version is the
    library's, its protocol id is the server's, its expiry has not passed, and its sealed part opened under
    (connect key, the request's xnonce, version ‖ the server's protocol id ‖ the request's expiry) — the two public
    fields are bound twice, by comparison and as AAD. -/
theorem server_request_binds (a : AEAD) (s s' : NetcodeServer) (addr : Addr) (v : Bytes) (pid e : Nat) (x d : Bytes)
    (res : ServerResult) (h : NetcodeServer.handleConnectionRequest a s addr v pid e x d = .ok (res, s')) :
    v = C.NETCODE_VERSION_INFO ∧ pid = s.protocolId ∧ asSecs s.currentTime < e ∧
      ∃ t, PrivateConnectToken.decode a d s.protocolId e x s.connectKey = .ok t := by
  rcases NS.hcr_cases a s addr v pid e x d with ⟨_, e', hR⟩ | ⟨_, m, hR⟩ | ⟨t, hchk, _⟩
  · rw [hR] at h; cases h
  · rw [hR] at h; cases h
  · exact ⟨hchk.version, hchk.protocol, hchk.unexpired, t, hchk.decodes⟩

/-- … and if one of these fails, the call is an `Err` that leaves the server state untouched -/
theorem server_request_rejected (a : AEAD) (s s' : NetcodeServer) (addr : Addr) (v : Bytes) (pid e : Nat) (x d : Bytes)
    (err : NetcodeError)
    (hn : ¬ (v = C.NETCODE_VERSION_INFO ∧ pid = s.protocolId ∧ asSecs s.currentTime < e ∧
      ∃ t, PrivateConnectToken.decode a d s.protocolId e x s.connectKey = .ok t))
    (h : NetcodeServer.handleConnectionRequest a s addr v pid e x d = .err (err, s')) : s' = s := by
  rcases NS.hcr_cases a s addr v pid e x d with ⟨_, e', hR⟩ | ⟨_, m, hR⟩ | ⟨t, hchk, _⟩
  · rw [hR] at h; cases h; rfl
  · rw [hR] at h; cases h
  · exact absurd ⟨hchk.version, hchk.protocol, hchk.unexpired, t, hchk.decodes⟩ hn

/-- **Challenge token.**  `decode` surfaces a token only through
    `open(challenge key, nonce(token sequence), empty AAD, the whole 300-byte token)`. -/
theorem challenge_token_binds (a : AEAD) (data : Bytes) (tseq : Nat) (ckey : Bytes) (t : ChallengeToken)
    (h : ChallengeToken.decode a data tseq ckey = .ok t) :
    16 ≤ data.length ∧ ∃ plain, a.open ckey (Netcode.Packet.nonce tseq) [] data = some plain ∧
      (do let (cid, r) ← readU64 (plain ++ data.drop plain.length)
          let (ud, _) ← readN C.NETCODE_USER_DATA_BYTES r
          pure (⟨cid, ud⟩ : ChallengeToken)) = some t := Bind.ch_decode_iff.1 h

/-! ## PART 2 : nonces -/

/-- every datagram goes through `Packet::encode`; for a sealed kind, a successful `encode` returns the datagram of
    the ghost record (key, sequence, AAD, plaintext) = `sealOf p proto seq key` -/
theorem encode_is_logged (a : AEAD) (p : Netcode.Packet) (cap proto seq : Nat) (key out : Bytes)
    (hp : p.packetType ≠ .connectionRequest) (h : p.encode a cap proto (some (seq, key)) = .ok out) :
    out = (sealOf p proto seq key).datagram a ∧ (sealOf p proto seq key).key = key ∧ (sealOf p proto seq key).seq = seq ∧
    (sealOf p proto seq key).aad = Netcode.Packet.additionalData (Netcode.Packet.encodePrefix p.id seq) proto ∧
    (sealOf p proto seq key).plain = NcAead.Packet.body p :=
  ⟨encode_sealOf hp h, rfl, rfl, rfl, rfl⟩

/-- soundness of the client instrumentation: each datagram a run emits is the datagram of its ghost record, or (no
    record) a ConnectionRequest in the clear -/
theorem client_log_sound (a : AEAD) (c : NetcodeClient) (ops : List Cl.COp) :
    ∀ x ∈ Cl.ctrace a c ops, Cl.Sound a x.1 x.2 := by
  induction ops generalizing c with
  | nil => intro x hx; simp [Cl.ctrace] at hx
  | cons op ops ih =>
    intro x hx
    simp only [Cl.ctrace] at hx
    cases hs : Cl.cstep a c op with
    | none => rw [hs] at hx; simp at hx
    | some y =>
      obtain ⟨c', tr⟩ := y
      rw [hs] at hx
      simp only [List.mem_append] at hx
      rcases hx with hx | hx
      · exact (Cl.cstep_spec hs).sound x.1 x.2 hx
      · exact ih c' x hx

/-- **Client nonce discipline.**  Along any sequence of `update` / `generate_payload_packet` / `disconnect` /
    `process_packet` calls (until one unwinds), from any client state:
    every seal is under the client-to-server key of the client's connect token with a sequence number at least the
    client's counter at the start; sequence numbers strictly increase along the log, except that a later record may
    be identical to an earlier one — and once the client is disconnected every further record is the same
    `Disconnect` record; hence two records with the same sequence number are the same record (same key, AAD,
    plaintext — the same datagram). -/
theorem client_nonces_strict (a : AEAD) (c : NetcodeClient) (ops : List Cl.COp) :
    (∀ r ∈ Cl.clog a c ops, r.key = c.connectToken.clientToServerKey ∧ c.sequence ≤ r.seq) ∧
    (Cl.clog a c ops).Pairwise (fun r r' => r.seq < r'.seq ∨ r' = r) ∧
    (Cl.isDisc c → ∀ r ∈ Cl.clog a c ops, r = Cl.discRec c) ∧
    (∀ r ∈ Cl.clog a c ops, ∀ r' ∈ Cl.clog a c ops, r.seq = r'.seq → r = r') := by
  refine ⟨Cl.clog_key_ge a ops c, Cl.clog_strict a ops c, Cl.clog_disc a ops c, ?_⟩
  have h := (Cl.clog_strict a ops c).imp (S := fun r r' => r.seq = r'.seq → r = r') (by
    intro r r' hR hs
    rcases hR with hR | hR
    · omega
    · exact hR.symm)
  have h' : (Cl.clog a c ops).Pairwise (flip fun r r' => r.seq = r'.seq → r = r') :=
    h.imp (fun {x y} hxy hs => (hxy hs.symm).symm)
  intro r hr r' hr'
  exact List.Pairwise.forall_of_forall_of_flip (fun _ _ _ => rfl) h h' hr hr'

/-- a fresh client starts its counter at 0 (the first ConnectionRequest, sent in the clear, consumes 0) -/
theorem client_new_sequence (now : Nat) (t : ConnectToken) (c : NetcodeClient) (h : NetcodeClient.new now t = .ok c) :
    c.sequence = 0 ∧ c.connectToken = t ∧ c.state = .sendingConnectionRequest := Cl.new_sequence h

theorem server_log_sound (a : AEAD) (s : NetcodeServer) (ops : List Sv.SOp) :
    ∀ ev ∈ Sv.strace a s ops, Sv.EvSound a ev := by
  induction ops generalizing s with
  | nil => intro ev h; simp [Sv.strace] at h
  | cons op ops ih =>
    intro ev h
    simp only [Sv.strace] at h
    cases hs : Sv.sstep a s op with
    | none => rw [hs] at h; simp at h
    | some x =>
      obtain ⟨s', evs⟩ := x
      rw [hs] at h
      simp only [List.mem_append] at h
      rcases h with h | h
      · have hok := (Sv.sstep_spec hs).1
        match evs, hok, h with
        | [.hs seq out], hok, h =>
          simp only [List.mem_singleton] at h
          subst h
          obtain ⟨rfl, hh⟩ := hok
          obtain ⟨key, p, h1, h2⟩ := hh.sound
          exact ⟨key, p, _, h1, h2⟩
        | [.sess i r out], hok, h =>
          simp only [List.mem_singleton] at h
          subst h
          rcases hok with hh | hh
          · exact hh.sound
          · exact hh.sound
      · exact ih s' ev h

/-- completeness of the server instrumentation: the ghost events of a step are, in order, exactly the datagrams the
    model's own result of that call carries (`Sv.sout` reads them off `process_packet` / `update_client` /
    `generate_payload_packet` / `disconnect`); for the client this holds by construction of `Cl.cstep` -/
theorem server_log_complete (a : AEAD) (s s' : NetcodeServer) (op : Sv.SOp) (evs : List Sv.SEv)
    (h : Sv.sstep a s op = some (s', evs)) : evs.map Sv.SEv.out = Sv.sout a s op := (Sv.sstep_spec h).2

/-- **Session nonces.**  While the connection in slot `i` lives (send key `k`, counter `n`), the datagrams sealed for
    it — keep-alives, payloads, the final `Disconnect` on `disconnect` or time-out — are all under `k` and carry
    exactly `n, n+1, n+2, …`. -/
theorem server_session_nonces_strict (a : AEAD) (i : Nat) (s : NetcodeServer) (k : Bytes) (n : Nat)
    (h : Sv.sv s i = some (k, n)) (ops : List Sv.SOp) :
    (∀ r ∈ Sv.sessLog a i s ops, r.key = k) ∧
    (Sv.sessLog a i s ops).map (·.seq) = List.range' n (Sv.sessLog a i s ops).length :=
  Sv.sess_consecutive a i ops s k n h

theorem server_new_inv (now maxc proto : Nat) (addrs : List Addr) (secure : Bool) (pk ck : Bytes) (s : NetcodeServer)
    (h : NetcodeServer.new now maxc proto addrs secure pk ck = .ok s) :
    Sv.PendInv s ∧ s.globalSequence = 2 ^ 63 ∧ ∀ i, Sv.sv s i = none := by
  obtain ⟨-, hcl, -, hp, -, -, -, hg, -⟩ := NS.new_inv h
  refine ⟨fun x hx => (by rw [hp] at hx; cases hx), hg, fun i => ?_⟩
  simp only [Sv.sv, hcl, List.getD_eq_getElem?_getD]
  cases hh : (List.replicate maxc (none : Option Connection))[i]? with
  | none => rfl
  | some v =>
    have := List.mem_of_getElem? hh
    rw [List.mem_replicate] at this
    rw [this.2]; rfl

/-- **Handshake replies and the session that follows never share a nonce.**  Take any run `pre` from a state `s0`
    with global sequence ≥ 2^63 and pending counters 0 (e.g. a fresh server), then a step that opens a session in the
    free slot `i`, then any further run `ops`.  Then
      (1) the handshake replies (Challenge, Denied) of the whole run carry `g, g+1, g+2, …` with `g` the global
          sequence of `s0`: all ≥ 2^63, strictly increasing;
      (2) the records of the session — the handshake-completing keep-alive included — are under the session's send
          key and carry 0, 1, 2, … (so a session counter reaches 2^63 only after 2^63 datagrams);
      (3) hence none of the first 2^63 datagrams of the session shares its sequence number with any handshake reply,
          whichever key that reply was sealed under — in particular not under the session's own server-to-client
          key, which the Challenge of the same attempt used.  (Before the repair of D9 both counters started at 0.) -/
theorem handshake_nonces_disjoint (a : AEAD) (s0 : NetcodeServer) (hg : 2 ^ 63 ≤ s0.globalSequence) (hp0 : Sv.PendInv s0)
    (pre : List Sv.SOp) (s : NetcodeServer) (hrun : Sv.srun a s0 pre = some s)
    (op : Sv.SOp) (s' : NetcodeServer) (evs : List Sv.SEv) (hstep : Sv.sstep a s op = some (s', evs))
    (i : Nat) (k : Bytes) (n : Nat) (hfree : Sv.sv s i = none) (hocc : Sv.sv s' i = some (k, n)) (ops : List Sv.SOp) :
    let sess := Sv.sessRecs i evs ++ Sv.sessLog a i s' ops
    let hs := Sv.hsSeqs (Sv.strace a s0 (pre ++ op :: ops))
    hs = List.range' s0.globalSequence hs.length ∧ (∀ q ∈ hs, 2 ^ 63 ≤ q) ∧ hs.Pairwise (· < ·) ∧
    (∀ r ∈ sess, r.key = k) ∧ sess.map (·.seq) = List.range' 0 sess.length ∧
    (∀ r ∈ sess.take (2 ^ 63), ∀ q ∈ hs, r.seq ≠ q) := by
  intro sess hs
  have hp : Sv.PendInv s := (Sv.run_inv a pre s0 s hrun).1 hp0
  obtain ⟨h1, h2⟩ := Sv.attempt_consecutive hstep hfree hocc hp ops
  have hge := Sv.hs_ge a (pre ++ op :: ops) s0 hg
  refine ⟨Sv.hs_consecutive a _ s0, hge, Sv.hs_strict a _ s0, h1, h2, ?_⟩
  intro r hr q hq
  have hq' := hge q hq
  -- `r.seq` sits at some index `m < 2^63` of the session's sequence numbers, and the `m`-th of them is `m`
  have hr' : r.seq ∈ (sess.map (·.seq)).take (2 ^ 63) := by
    rw [← List.map_take]
    exact List.mem_map_of_mem hr
  obtain ⟨m, hm, hrm⟩ := List.mem_take_iff_getElem.mp hr'
  rw [List.getElem_of_eq h2 (Nat.lt_min.mp hm).2, List.getElem_range'] at hrm
  omega

/-! ### the hypotheses are met by concrete, non-trivial values (`AEAD.toy`) -/

section Examples
def c2s : Bytes := List.replicate 32 1
def s2c : Bytes := List.replicate 32 2
def connectKey : Bytes := List.replicate 32 3
def chKey : Bytes := List.replicate 32 4
def userData : Bytes := List.replicate 256 5
def xnonce : Bytes := List.replicate 24 6
def srvAddr : Addr := .v4 [127, 0, 0, 1] 5000
def cliAddr : Addr := .v4 [10, 0, 0, 2] 40000

/-- a connect token for client 5, protocol 77, expiring after 30 s, time-out 15 s -/
def exToken : Res TokenGenErr ConnectToken :=
  ConnectToken.generate AEAD.toy 0 77 30 5 15 [srvAddr] userData c2s s2c xnonce connectKey

/-- the challenge token the server issues first (challenge sequence 1) -/
def exChallengeData : Bytes := AEAD.toy.seal chKey (Netcode.Packet.nonce 1) [] (NcAead.Token.chPlain 5 userData)

/-- datagrams the server would send: a Challenge under global sequence 2^63, the connect keep-alive under 0 -/
def exChallenge : Bytes := NcAead.Packet.sealedDatagram AEAD.toy (.challenge 1 exChallengeData) 77 (2 ^ 63) s2c
def exKeepAlive : Bytes := NcAead.Packet.sealedDatagram AEAD.toy (.keepAlive 0 2) 77 0 s2c

/-- a client run: request (clear), challenge in, response (sealed), keep-alive in → connected, payload, keep-alive,
    disconnect twice, then attempts that emit nothing -/
def exClientOps : List Cl.COp :=
  [.update 0, .recv exChallenge, .update 250000000, .recv exKeepAlive, .send [1, 2, 3], .update 250000000,
   .disconnect, .disconnect, .send [9], .update 250000000]

def exClientSeqs : List Nat :=
  match exToken with
  | .ok t =>
    match NetcodeClient.new 0 t with
    | .ok c => (Cl.clog AEAD.toy c exClientOps).map (·.seq)
    | _ => []
  | _ => []

def exRequest : Bytes :=
  match exToken with
  | .ok t => 0 :: NcAead.Packet.body (.connectionRequest C.NETCODE_VERSION_INFO 77 t.expireTimestamp t.xnonce t.privateData)
  | _ => []
def exResponse : Bytes := NcAead.Packet.sealedDatagram AEAD.toy (.response 1 exChallengeData) 77 1 c2s

/-- a server run: the request twice (two Challenges), the response (session opens in slot 0, keep-alive), a payload,
    a tick, a keep-alive, the disconnect; then the limit is lowered to 0 and the same request is answered by Denied -/
def exServerOps : List Sv.SOp :=
  [.recv cliAddr exRequest, .recv cliAddr exRequest, .recv cliAddr exResponse, .send 5 [7, 7], .tick 250000000,
   .updateClient 5, .disconnect 5, .setMax 0, .recv cliAddr exRequest]

/-- the state `NetcodeServer::new 0 1 77 [srvAddr] true connectKey chKey` builds, except that the connect-token-entry
    table has 4 instead of 2048 slots (the kernel evaluator's recursion depth does not reach 2048; the theorems above
    hold for every state, this one included) -/
def exServer : Option NetcodeServer :=
  some { clients := [none], pendingClients := [], connectTokenEntries := List.replicate 4 none, protocolId := 77,
         connectKey := connectKey, maxClients := 1, challengeSequence := 0, challengeKey := chKey,
         publicAddresses := [srvAddr], currentTime := 0, globalSequence := C.NETCODE_GLOBAL_SEQUENCE_START, secure := true }

def exServerHs : List Nat := match exServer with
  | some s => Sv.hsSeqs (Sv.strace AEAD.toy s exServerOps)
  | none => []
def exServerSess : List Nat := match exServer with
  | some s => (Sv.sessRecs 0 (Sv.strace AEAD.toy s exServerOps)).map (·.seq)
  | none => []

/-- Both runs in one kernel evaluation.
    The client seals: response 1, payload 2, keep-alive 3, disconnect 4, the same disconnect 4 again (sequence 0 went to the
    request); the private part of its token opens on the server side; the challenge token opens.  The server's handshake
    and session sequence numbers; after two steps slot 0 is free, the third step occupies it. -/
theorem ex_runs :
    (exClientSeqs = [1, 2, 3, 4, 4] ∧
      (match exToken with
        | .ok t =>
          match PrivateConnectToken.decode AEAD.toy t.privateData 77 t.expireTimestamp t.xnonce connectKey with
          | .ok pt => decide (pt.clientId = 5 ∧ pt.serverToClientKey = s2c ∧ t.privateData.length = 1024)
          | _ => false
        | _ => false) = true ∧
      (ChallengeToken.decode AEAD.toy exChallengeData 1 chKey) = .ok ⟨5, userData⟩) ∧
    (exServerHs = [2 ^ 63, 2 ^ 63 + 1, 2 ^ 63 + 2] ∧ exServerSess = [0, 1, 2, 3] ∧
      (match exServer with
        | some s0 =>
          match Sv.srun AEAD.toy s0 (exServerOps.take 2) with
          | some s =>
            match Sv.sstep AEAD.toy s (.recv cliAddr exResponse) with
            | some (s', _) => decide (2 ^ 63 ≤ s0.globalSequence ∧ Sv.sv s 0 = none ∧ Sv.sv s' 0 = some (s2c, 1))
            | none => false
          | none => false
        | none => false) = true) := by
  decide +kernel

example : exClientSeqs = [1, 2, 3, 4, 4] := ex_runs.1.1

example : exServerHs = [2 ^ 63, 2 ^ 63 + 1, 2 ^ 63 + 2] := ex_runs.2.1
-- the hypotheses of `handshake_nonces_disjoint`: after two steps slot 0 is free, the third step occupies it
example : (match exServer with
    | some s0 =>
      match Sv.srun AEAD.toy s0 (exServerOps.take 2) with
      | some s =>
        match Sv.sstep AEAD.toy s (.recv cliAddr exResponse) with
        | some (s', _) => decide (2 ^ 63 ≤ s0.globalSequence ∧ Sv.sv s 0 = none ∧ Sv.sv s' 0 = some (s2c, 1))
        | none => false
      | none => false
    | none => false) = true := ex_runs.2.2.2
-- binding: a tampered datagram (one plaintext byte changed: the toy authenticates nothing) is accepted — the
-- hypotheses of `tamper_is_forgery` are satisfiable, its conclusion exhibits the forged tuple
example : Netcode.Packet.decode AEAD.toy ([0x14, 5] ++ ([2, 0, 0, 0] ++ [8, 0, 0, 0]) ++ List.replicate 16 0) 7 (some [1, 2, 3]) none =
      (.ok (5, .keepAlive 2 8), none) ∧
    ([0x14, 5] ++ ([2, 0, 0, 0] ++ [8, 0, 0, 0]) ++ List.replicate 16 0, [1, 2, 3], 7) ≠
      (NcAead.Packet.sealedDatagram AEAD.toy (.keepAlive 3 8) 7 5 [1, 2, 3], ([1, 2, 3] : Bytes), 7) := by
  decide +kernel
-- truncation: 19 bytes announcing 8 sequence bytes
example : PacketType.fromU8 ((0x84 : UInt8).toNat % 16) = .ok .keepAlive ∧
    ((0x84 : UInt8) :: List.replicate 18 0).length < 1 + (0x84 : UInt8).toNat / 16 + 16 := by decide
example : (match exToken with
    | .ok t =>
      match PrivateConnectToken.decode AEAD.toy t.privateData 77 t.expireTimestamp t.xnonce connectKey with
      | .ok pt => decide (pt.clientId = 5 ∧ pt.serverToClientKey = s2c ∧ t.privateData.length = 1024)
      | _ => false
    | _ => false) = true := ex_runs.1.2.1
example : (ChallengeToken.decode AEAD.toy exChallengeData 1 chKey) = .ok ⟨5, userData⟩ := ex_runs.1.2.2
example : exServerSess = [0, 1, 2, 3] := ex_runs.2.2.1
end Examples

end RenetVerif.C17
