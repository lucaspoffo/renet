/-
  C14 — the message payload bytes carried by the packets of one `get_packets_to_send` call never exceed
  `available_bytes_per_tick`; channels are served in configuration order, each later channel getting only what the
  earlier ones left.  What does not fit waits on reliable channels (slice by slice) and is dropped whole on
  unreliable ones.

  Lemmas: Lemmas/Flush.lean.  `payloadBytes` = sum of the message lengths of a small-message packet, the slice
  payload length of a slice packet, 0 for an ack packet.
-/
import RenetVerif.Lemmas.Flush
namespace RenetVerif.C14
open RenetVerif C

/-- Reliable channel, exact bookkeeping.  For one `get_packets_to_send(seq, avail, now)` of a reliable send channel:
    payload emitted + budget left = budget offered; the packets are numbered `seq, seq+1, …` and `seq'` is the next
    free number; nothing is removed from `unacked` ("what does not fit waits") and the memory accounting is untouched.
    Hypothesis `SlicedFit`: every sliced entry has `len ≤ num_slices * SLICE_SIZE` (true of `div_ceil`; without it the
    model's saturating subtraction would hide a Rust underflow — see `reliable_budget_needs_fit`). -/
theorem reliable_budget {s s' : SendRel} {seq avail now seq' avail' : Nat} {ps : List Packet}
    (h : s.getPackets seq avail now = (s', ps, seq', avail')) (hfit : SlicedFit s.unacked) :
    payloadSum ps + avail' = avail ∧ payloadSum ps ≤ avail ∧ avail' ≤ avail ∧
    seq' = seq + ps.length ∧ ps.map Packet.sequence = List.range' seq ps.length ∧
    SMap.keys s'.unacked = SMap.keys s.unacked ∧ s'.mem = s.mem := by
  have hb := SendRel.getPackets_budget h hfit
  have hq := SendRel.getPackets_seq h
  have hk := SendRel.getPackets_keeps h
  exact ⟨hb, by omega, by omega, hq.2, hq.1, hk.1, hk.2.1⟩

/-- `SlicedFit` follows from the channel invariant that `send_message` establishes and every flush preserves. -/
theorem fit_of_wf {s : SendRel} (h : s.WF) : SlicedFit s.unacked := h.fit

/-- Unreliable channel, exact bookkeeping: payload emitted + budget left = budget offered (dropped messages consume
    nothing); consecutive numbering; the queue is drained completely and, when the memory counter was exact
    (`mem = Σ queued lengths`), it returns to zero. -/
theorem unreliable_budget {s s' : SendUnrel} {seq avail seq' avail' : Nat} {ps : List Packet}
    (h : s.getPackets seq avail = (s', ps, seq', avail')) :
    payloadSum ps + avail' = avail ∧ payloadSum ps ≤ avail ∧ avail' ≤ avail ∧
    seq' = seq + ps.length ∧ ps.map Packet.sequence = List.range' seq ps.length ∧
    s'.queue = [] ∧ (s.mem = unrelSmallSum s.queue → s'.mem = 0) := by
  have hb := SendUnrel.getPackets_budget h
  have hq := SendUnrel.getPackets_seq h
  have hd := SendUnrel.getPackets_drains h
  exact ⟨hb, by omega, by omega, hq.2, hq.1, hd.1, fun e => by rw [hd.2.1, e]; omega⟩

/-- Unreliable channel, "dropped whole".  The messages sent are exactly `unrelTaken queue avail` (scan the queue in
    order; take a message iff the remaining budget covers its whole length): the small ones appear, in queue order,
    as the contents of the small-message packets; every large one appears as the complete set of its
    `div_ceil(len, SLICE_SIZE)` slices; the payload total is exactly the sum of the taken messages' lengths — so a
    message that was not taken contributes no byte, and it is gone from the queue (`unreliable_budget`). -/
theorem unreliable_dropped_whole {s s' : SendUnrel} {seq avail seq' avail' : Nat} {ps : List Packet}
    (h : s.getPackets seq avail = (s', ps, seq', avail')) :
    ps.flatMap Packet.unrelMsgs = (unrelTaken s.queue avail).filter (fun m => decide (m.length ≤ SLICE_SIZE)) ∧
    payloadSum ps = unrelSmallSum (unrelTaken s.queue avail) ∧
    (∀ m ∈ unrelTaken s.queue avail, SLICE_SIZE < m.length →
      ∃ id, ∀ j, j < divCeil m.length SLICE_SIZE →
        ∃ sq, Packet.unreliableSlice sq s.ch ⟨id, j, divCeil m.length SLICE_SIZE, sliceBytes m (divCeil m.length SLICE_SIZE) j⟩ ∈ ps) := by
  have hb := SendUnrel.getPackets_budget h
  rw [SendUnrel.getPackets_eq] at h
  cases h
  obtain ⟨h1, h2⟩ := unrelLoop_msgs s.ch s.queue ⟨[], [], 0, seq, avail, s.slicedId, s.mem⟩
  have hle := unrelTaken_sum_le s.queue avail
  have hfa := (finishUnrel_fields s.ch (unrelLoop s.ch s.queue ⟨[], [], 0, seq, avail, s.slicedId, s.mem⟩)).2.2
  refine ⟨?_, ?_, ?_⟩
  · rw [finishUnrel_msgs, h1]; simp [GPU.msgs]
  · rw [hfa, h2] at hb; simp only at hb; omega
  · intro m hm hbig
    obtain ⟨id, _, h3⟩ := unrelLoop_big_complete s.ch s.queue ⟨[], [], 0, seq, avail, s.slicedId, s.mem⟩ m hm hbig
    refine ⟨id, fun j hj => ?_⟩
    obtain ⟨sq, hsq⟩ := h3 j hj
    refine ⟨sq, ?_⟩
    unfold finishUnrel; split
    · exact hsq
    · exact List.mem_append_left _ hsq

/-- Connection level: the packets of one flush (`Conn.flushPackets`: channel packets in configuration order, then the
    ack packet; `get_packets_to_send` returns their serialisations, `flush_is_serialised`) carry at most
    `available_bytes_per_tick` bytes of message payload and are numbered consecutively from `packet_sequence`. -/
theorem connection_budget (c : Conn) (pk : List Packet) (hfit : RelMapFit c.sendRel) (h : c.flushPackets = .ok pk) :
    payloadSum pk ≤ c.budget ∧ pk.map Packet.sequence = List.range' c.packetSeq pk.length :=
  Conn.flushPackets_budget c pk hfit h

theorem flush_is_serialised (c c' : Conn) (bs : List Bytes) (hd : c.isDisconnected = false)
    (h : c.getPacketsToSend = .ok (c', bs)) :
    ∃ pk, c.flushPackets = .ok pk ∧ (Conn.serialiseAll pk = .ok bs ∨ (bs = [] ∧ ∃ e, Conn.serialiseAll pk = .err e)) :=
  Conn.getPacketsToSend_serialises c c' bs hd h

/-- Serving order: the channel loop threads one budget through the channels in configuration order.  For any split
    `order = pre ++ x :: post`, the channel `x` is offered exactly `budget − payload(packets of pre)`, and the loop
    continues from what `x` leaves (`chanLoop` on `x :: post` unfolds to `x`'s `get_packets_to_send(seq1, avail1)`). -/
theorem served_in_order (now : Nat) (pre post : List (Bool × Nat)) (x : Bool × Nat) (sr : SMap SendRel) (su : SMap SendUnrel)
    (seq budget : Nat) (fin : ChanSt) (hfit : RelMapFit sr)
    (h : Conn.chanLoop now (pre ++ x :: post) (sr, su, [], seq, budget) = .ok fin) :
    ∃ sr1 su1 pk1 seq1 avail1,
      Conn.chanLoop now pre (sr, su, [], seq, budget) = .ok (sr1, su1, pk1, seq1, avail1) ∧
      avail1 = budget - payloadSum pk1 ∧ payloadSum pk1 ≤ budget ∧
      Conn.chanLoop now (x :: post) (sr1, su1, pk1, seq1, avail1) = .ok fin :=
  chanLoop_offered now pre post x sr su seq budget fin hfit h

/-- the whole loop: payload of everything appended + budget left = budget offered -/
theorem channel_loop_budget (now : Nat) (order : List (Bool × Nat)) (sr : SMap SendRel) (su : SMap SendUnrel)
    (pk : List Packet) (seq avail : Nat) (sr' : SMap SendRel) (su' : SMap SendUnrel) (pk' : List Packet) (seq' avail' : Nat)
    (hfit : RelMapFit sr) (h : Conn.chanLoop now order (sr, su, pk, seq, avail) = .ok (sr', su', pk', seq', avail')) :
    ∃ ps, pk' = pk ++ ps ∧ payloadSum ps + avail' = avail ∧ seq' = seq + ps.length ∧
      ps.map Packet.sequence = List.range' seq ps.length ∧ RelMapFit sr' := by
  obtain ⟨ps, e, hb, hf⟩ := chanLoop_budget hfit h
  obtain ⟨ps', e', hn, hs⟩ := chanLoop_numbering h
  cases List.append_cancel_left (e'.symm.trans e)
  exact ⟨ps, e, hb, hs, hn, hf⟩

/-! ### non-vacuity and the necessity of `SlicedFit` -/

def mk (n : Nat) (b : UInt8) : Bytes := List.replicate n b
def okOr {ε α : Type} (d : α) : Res ε α → α
  | .ok a => a
  | _ => d

/-- a reliable channel holding a 5-byte, a 2500-byte (3 slices) and a 1199-byte message, built with `send_message` -/
def exRel : SendRel :=
  let s0 := SendRel.new 2 100 100000
  let s1 := (s0.sendMessage (mk 5 1)).toOption.getD s0
  let s2 := (s1.sendMessage (mk 2500 2)).toOption.getD s1
  (s2.sendMessage (mk 1199 3)).toOption.getD s2

set_option maxRecDepth 100000 in
/-- the state is non-trivial (three entries, one sliced) and meets the hypothesis; with a budget of 3000 two slices
    and the 5-byte message go out (2405 bytes), the third slice and the 1199-byte message wait -/
example : exRel.WFd ∧ SMap.keys exRel.unacked = [0, 1, 2] ∧
    payloadSum (exRel.getPackets 7 3000 50).2.1 = 2405 ∧ (exRel.getPackets 7 3000 50).2.2.2 = 595 ∧
    SMap.keys (exRel.getPackets 7 3000 50).1.unacked = [0, 1, 2] := by decide +kernel

example : SlicedFit exRel.unacked := fit_of_wf (SendRel.WFd.wf (by decide +kernel))

/-- an unreliable channel holding a 7-byte, a 1300-byte and a 3000-byte message -/
def exUnrel : SendUnrel :=
  (((SendUnrel.new 1 100000).sendMessage (mk 7 3)).sendMessage (mk 1300 4)).sendMessage (mk 3000 5)

set_option maxRecDepth 100000 in
/-- budget 1500: the 7-byte and the 1300-byte message are sent whole (1307 bytes), the 3000-byte one is dropped
    whole; queue empty and memory back to 0 afterwards -/
example : exUnrel.mem = unrelSmallSum exUnrel.queue ∧
    (unrelTaken exUnrel.queue 1500).map List.length = [7, 1300] ∧
    payloadSum (exUnrel.getPackets 0 1500).2.1 = 1307 ∧ (exUnrel.getPackets 0 1500).2.2.2 = 193 ∧
    (exUnrel.getPackets 0 1500).1.queue = [] ∧ (exUnrel.getPackets 0 1500).1.mem = 0 := by decide +kernel

/-- a connection built by running the model (reliable channel 0: 5 and 2500 bytes; unreliable channel 1: 7, 1300 and
    3000 bytes; budget 4000): the hypothesis of `connection_budget` holds, and the flush carries 3812 ≤ 4000 payload
    bytes — the reliable channel, served first, takes 2505; the unreliable one gets the remaining 1495, sends 7 + 1300
    and drops the 3000-byte message -/
def exConn : Conn :=
  let c := (Conn.fromChannels 4000 [⟨0, .ordered, 100000, 300⟩, ⟨1, .unreliable, 100000, 0⟩] []).setConnected
  let c := okOr c (c.sendMessage 0 (mk 5 1))
  let c := okOr c (c.sendMessage 0 (mk 2500 2))
  let c := okOr c (c.sendMessage 1 (mk 7 3))
  let c := okOr c (c.sendMessage 1 (mk 1300 4))
  okOr c (c.sendMessage 1 (mk 3000 5))

set_option maxRecDepth 100000 in
example : RelMapFit exConn.sendRel := (RelMapOKd.ok (by decide +kernel)).fit

set_option maxRecDepth 100000 in
example : (match exConn.flushPackets with
    | .ok pk => (pk.map payloadBytes, pk.map Packet.sequence)
    | _ => ([], [])) = ([1200, 1200, 100, 5, 1200, 100, 7], [0, 1, 2, 3, 4, 5, 6]) := by decide +kernel

/-- `SlicedFit` cannot be dropped from `reliable_budget`: in a state no execution of `send_message` produces (one
    slice announced for a 3000-byte message) the model emits a 3000-byte "slice" against a budget of 1200 — in Rust
    `available_bytes -= payload.len()` would underflow there. -/
def badRel : SendRel := ⟨2, [(0, .sliced (mk 3000 1) 1 0 0 [false] [none])], 1, 0, 10000, 3000⟩

theorem reliable_budget_needs_fit :
    payloadSum (badRel.getPackets 0 1200 0).2.1 = 3000 ∧ (badRel.getPackets 0 1200 0).2.2.2 = 0 := by decide +kernel

end RenetVerif.C14
