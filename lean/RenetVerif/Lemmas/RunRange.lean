/-
  The range side condition of the source tie, as a predicate of the MODEL run: the run stays where the generated code
  (fixed-width counters, `Duration`, `isize::MAX` allocations) agrees with the model.  `RunInRange cfg ops` for the two-endpoint
  system, `MRunInRange P ops` for the multi-client system; both decidable by evaluating the model run.  The simulations that
  use them are `SrcSystem.run_sim` and `SrcMulti.mrun_sim`; the scenarios of the model-level property files discharge them
  in the evaluation that runs the model.
-/
import RenetVerif.Lemmas.MultiSystem
import RenetVerif.Base.RustSem
namespace RenetVerif.SrcSystem
open RenetVerif RenetVerif.RustSem RenetVerif.C RenetVerif.System

/-- one endpoint in range: message-id / sliced-id counters and budgets of the send channels `≤ 2^60`, receive budgets
    `≤ 2^63`, the reliable receive cursor `oldest + |received| + 1 < 2^64`, the packet sequence after the next flush
    (`Conn.flushSeq`) `≤ 2^60`, and at most `2^50` packets in one flush -/
def ConnInRange (c : Conn) : Prop :=
  (∀ x ∈ c.sendRel, x.2.nextId ≤ 2 ^ 60 ∧ x.2.maxMem ≤ 2 ^ 60) ∧
  (∀ x ∈ c.sendUnrel, x.2.slicedId + x.2.queue.length ≤ 2 ^ 60 ∧ x.2.maxMem ≤ 2 ^ 60) ∧
  (∀ x ∈ c.recvRel, x.2.maxMem ≤ 2 ^ 63 ∧ x.2.oldest + x.2.received.length + 1 < 2 ^ 64) ∧
  (∀ x ∈ c.recvUnrel, x.2.maxMem ≤ 2 ^ 63) ∧
  c.flushSeq ≤ 2 ^ 60 ∧ c.flushSeq ≤ c.packetSeq + 2 ^ 50

/-- the operation-specific part: a submitted message is shorter than `2^63` bytes (`isize::MAX`, the Rust allocation
    limit), a clock step keeps the clock within `Duration::MAX` -/
def OpInRange (s : Sys) : SysOp → Prop
  | .sendA _ m => m.length < 2 ^ 63
  | .updA dt => s.a.now + dt ≤ RustSem.Duration.MAX
  | .updB dt => s.b.now + dt ≤ RustSem.Duration.MAX
  | _ => True

def RunInRangeFrom (s : Sys) : List SysOp → Prop
  | [] => True
  | op :: ops => ConnInRange s.a ∧ ConnInRange s.b ∧ OpInRange s op ∧
      match s.step op with
      | some s' => RunInRangeFrom s' ops
      | none => True

/-- distinct channel ids within the unreliable and within the reliable configs of each direction (otherwise an `assert!`
    of `from_channels` fires) -/
def CfgDistinct (cfg : Cfg) : Prop :=
  ((cfg.send.filter (·.kind == .unreliable)).map (·.id)).Nodup ∧ ((cfg.send.filter (·.kind != .unreliable)).map (·.id)).Nodup ∧
  ((cfg.recv.filter (·.kind == .unreliable)).map (·.id)).Nodup ∧ ((cfg.recv.filter (·.kind != .unreliable)).map (·.id)).Nodup

def RunInRange (cfg : Cfg) (ops : List SysOp) : Prop := CfgDistinct cfg ∧ RunInRangeFrom (Sys.init cfg) ops

instance (c : Conn) : Decidable (ConnInRange c) := by unfold ConnInRange; infer_instance
instance (s : Sys) (op : SysOp) : Decidable (OpInRange s op) := by cases op <;> unfold OpInRange <;> infer_instance
instance decRunInRangeFrom : ∀ (s : Sys) (ops : List SysOp), Decidable (RunInRangeFrom s ops)
  | _, [] => isTrue trivial
  | s, op :: ops => by
    unfold RunInRangeFrom
    have : Decidable (match s.step op with | some s' => RunInRangeFrom s' ops | none => True) := by
      cases s.step op with
      | none => exact isTrue trivial
      | some s' => exact decRunInRangeFrom s' ops
    infer_instance
instance (cfg : Cfg) : Decidable (CfgDistinct cfg) := by unfold CfgDistinct; infer_instance
instance (cfg : Cfg) (ops : List SysOp) : Decidable (RunInRange cfg ops) := by unfold RunInRange; infer_instance

end RenetVerif.SrcSystem

namespace RenetVerif.SrcMulti
open RenetVerif RenetVerif.RustSem RenetVerif.C RenetVerif.System RenetVerif.MultiSystem RenetVerif.SrcSystem

def linkOk (m : MSys) (id : Nat) (p : Conn → Prop) : Prop :=
  match m.links id with
  | some l => p l.cl
  | none => True

def MOpInRange (m : MSys) : MOp → Prop
  | .srvSend _ _ x => x.length < 2 ^ 63
  | .broadcast _ x => x.length < 2 ^ 63
  | .broadcastExcept _ _ x => x.length < 2 ^ 63
  | .cliSend id _ x => x.length < 2 ^ 63 ∧ linkOk m id ConnInRange
  | .srvUpdate dt => ∀ x ∈ m.server.conns, x.2.now + dt ≤ RustSem.Duration.MAX
  | .cliUpdate id dt => linkOk m id (fun c => ConnInRange c ∧ c.now + dt ≤ RustSem.Duration.MAX)
  | .cliRecv id _ => linkOk m id ConnInRange
  | .cliFlush id => linkOk m id ConnInRange
  | .deliverToCli id _ => linkOk m id ConnInRange
  | _ => True

def MRunInRangeFrom (m : MSys) : List MOp → Prop
  | [] => True
  | op :: ops => (∀ x ∈ m.server.conns, ConnInRange x.2) ∧ MOpInRange m op ∧
      match m.step op with
      | some m' => MRunInRangeFrom m' ops
      | none => True

def PDistinct (P : Params) : Prop :=
  ((P.sCh.filter (·.kind == .unreliable)).map (·.id)).Nodup ∧ ((P.sCh.filter (·.kind != .unreliable)).map (·.id)).Nodup ∧
  ((P.cCh.filter (·.kind == .unreliable)).map (·.id)).Nodup ∧ ((P.cCh.filter (·.kind != .unreliable)).map (·.id)).Nodup

def MRunInRange (P : Params) (ops : List MOp) : Prop := PDistinct P ∧ MRunInRangeFrom (MSys.init P) ops

instance (m : MSys) (id : Nat) (p : Conn → Prop) [DecidablePred p] : Decidable (linkOk m id p) := by
  unfold linkOk
  cases m.links id with
  | none => exact isTrue trivial
  | some l => exact inferInstanceAs (Decidable (p l.cl))
instance (m : MSys) (op : MOp) : Decidable (MOpInRange m op) := by cases op <;> unfold MOpInRange <;> infer_instance
instance decMRunInRangeFrom : ∀ (m : MSys) (ops : List MOp), Decidable (MRunInRangeFrom m ops)
  | _, [] => isTrue trivial
  | m, op :: ops => by
    unfold MRunInRangeFrom
    have : Decidable (match m.step op with | some m' => MRunInRangeFrom m' ops | none => True) := by
      cases m.step op with
      | none => exact isTrue trivial
      | some m' => exact decMRunInRangeFrom m' ops
    infer_instance
instance (P : Params) : Decidable (PDistinct P) := by unfold PDistinct; infer_instance
instance (P : Params) (ops : List MOp) : Decidable (MRunInRange P ops) := by unfold MRunInRange; infer_instance

end RenetVerif.SrcMulti
