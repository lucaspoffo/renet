/-
  Lemmas about one `get_packets_to_send` call ("flush"): budget bookkeeping (C14), resend timing and
  genuineness of what is emitted (C15), serialised size of what is emitted (C13).

  The reliable channel's loops are described once, as a scan (`relLoop_scan`, `SendRel.getPackets_scan`): which items
  are taken is `greedy` of the candidates and the budget, the accumulator is the fold of `packStep` over them, the map
  is `relSent`.  What is emitted, stamped, counted or guaranteed to be emitted is read off these three.
-/
import RenetVerif.Renet.Conn
import RenetVerif.Lemmas.SMap
import RenetVerif.Lemmas.Acks
import RenetVerif.Lemmas.ResMonad
namespace RenetVerif
open C

/-- what `available_bytes` is charged for -/
def payloadBytes : Packet → Nat
  | .smallReliable _ _ msgs => (msgs.map (fun x => x.2.length)).sum
  | .smallUnreliable _ _ msgs => (msgs.map List.length).sum
  | .reliableSlice _ _ sl => sl.payload.length
  | .unreliableSlice _ _ sl => sl.payload.length
  | .ack _ _ => 0

def payloadSum (ps : List Packet) : Nat := (ps.map payloadBytes).sum

@[simp] theorem payloadSum_nil : payloadSum [] = 0 := rfl
@[simp] theorem payloadSum_append (a b : List Packet) : payloadSum (a ++ b) = payloadSum a + payloadSum b := by
  simp [payloadSum, List.sum_append]
@[simp] theorem payloadSum_cons (a : Packet) (b : List Packet) : payloadSum (a :: b) = payloadBytes a + payloadSum b := by
  simp [payloadSum]

def relSmallSum (l : List (Nat × Bytes)) : Nat := (l.map (fun x => x.2.length)).sum
def unrelSmallSum (l : List Bytes) : Nat := (l.map List.length).sum

@[simp] theorem relSmallSum_nil : relSmallSum [] = 0 := rfl
@[simp] theorem relSmallSum_append (a b : List (Nat × Bytes)) : relSmallSum (a ++ b) = relSmallSum a + relSmallSum b := by
  simp [relSmallSum, List.sum_append]
@[simp] theorem unrelSmallSum_nil : unrelSmallSum [] = 0 := rfl
@[simp] theorem unrelSmallSum_append (a b : List Bytes) : unrelSmallSum (a ++ b) = unrelSmallSum a + unrelSmallSum b := by
  simp [unrelSmallSum, List.sum_append]

def Numbered (seq0 : Nat) (ps : List Packet) (seq : Nat) : Prop :=
  ps.map Packet.sequence = List.range' seq0 ps.length ∧ seq = seq0 + ps.length

theorem Numbered.nil (seq0 : Nat) : Numbered seq0 [] seq0 := ⟨rfl, rfl⟩

theorem Numbered.append {seq0 seq seq' : Nat} {ps qs : List Packet} (h1 : Numbered seq0 ps seq) (h2 : Numbered seq qs seq') :
    Numbered seq0 (ps ++ qs) seq' := by
  obtain ⟨a1, rfl⟩ := h1
  obtain ⟨a2, rfl⟩ := h2
  refine ⟨?_, by rw [List.length_append]; omega⟩
  rw [List.map_append, List.length_append, a1, a2, ← List.range'_append]
  simp

theorem Numbered.snoc {seq0 seq : Nat} {ps : List Packet} (h : Numbered seq0 ps seq) {p : Packet} (hp : p.sequence = seq) :
    Numbered seq0 (ps ++ [p]) (seq + 1) :=
  h.append ⟨by simp [hp], rfl⟩

theorem Numbered.bounds {seq0 seq : Nat} {ps : List Packet} (h : Numbered seq0 ps seq) :
    ∀ p ∈ ps, seq0 ≤ p.sequence ∧ p.sequence < seq := by
  intro p hp
  have : p.sequence ∈ ps.map Packet.sequence := List.mem_map.mpr ⟨p, hp, rfl⟩
  rw [h.1] at this
  have := List.mem_range'_1.mp this
  have := h.2
  omega

/-- the `if let Some(last_sent) … current_time - last_sent < resend_time { continue }` test -/
def smallDue (now resend : Nat) : Option Nat → Bool
  | some t => !decide (now - t < resend)
  | none => true

theorem smallDue_iff (now resend : Nat) (ls : Option Nat) :
    smallDue now resend ls = true ↔ (ls = none ∨ ∃ t, ls = some t ∧ resend ≤ now - t) := by
  cases ls with
  | none => simp [smallDue]
  | some t => simp [smallDue]

/-- `*available_bytes -= k` -/
def charge (k : Nat) (gp : GP) : GP := { gp with avail := gp.avail - k }

/-- serialised size of one small reliable message as computed by the channel -/
def relSer (id : Nat) (m : Bytes) : Nat := m.length + varintLen m.length + varintLen id

/-- `small_messages_bytes += serialized_size; small_messages.push((message_id, message))` -/
def pushSmall (id : Nat) (m : Bytes) (gp : GP) : GP :=
  { gp with smallBytes := gp.smallBytes + relSer id m, small := gp.small ++ [(id, m)] }

/-- body of the `Small` arm once the message is accepted -/
def takeSmall (ch id : Nat) (m : Bytes) (gp : GP) : GP :=
  pushSmall id m (if gp.smallBytes + relSer id m > SLICE_SIZE then flushSmall ch (charge m.length gp) else charge m.length gp)

/-- body of the slice loop once slice `i` is accepted -/
def sliceStep (ch id : Nat) (msg : Bytes) (n i : Nat) (gp : GP) : GP :=
  { gp with
    avail := gp.avail - (sliceBytes msg n i).length,
    packets := gp.packets ++ [Packet.reliableSlice gp.seq ch ⟨id, i, n, sliceBytes msg n i⟩],
    seq := gp.seq + 1 }

theorem slicedLoop_nil (ch id now resend : Nat) (msg : Bytes) (n start : Nat) (acked : List Bool)
    (st : List (Option Nat) × Nat × GP) : slicedLoop ch id now resend msg n start acked [] st = st := by
  obtain ⟨a, b, c⟩ := st; rfl

theorem slicedLoop_cons (ch id now resend : Nat) (msg : Bytes) (n start : Nat) (acked : List Bool)
    (i0 : Nat) (rest : List Nat) (ls : List (Option Nat)) (next : Nat) (gp : GP) :
    slicedLoop ch id now resend msg n start acked (i0 :: rest) (ls, next, gp) =
      if gp.avail < SLICE_SIZE then (ls, next, gp) else
      if acked.getD ((start + i0) % n) false = true ∨ smallDue now resend (ls.getD ((start + i0) % n) none) = false then
        slicedLoop ch id now resend msg n start acked rest (ls, next, gp)
      else
        slicedLoop ch id now resend msg n start acked rest
          (ls.set ((start + i0) % n) (some now), (start + i0) % n + 1 % n, sliceStep ch id msg n ((start + i0) % n) gp) := by
  simp only [slicedLoop]
  generalize acked.getD ((start + i0) % n) false = a
  generalize ls.getD ((start + i0) % n) none = q
  by_cases h1 : gp.avail < SLICE_SIZE
  · simp only [h1, ↓reduceIte]
  · simp only [h1, ↓reduceIte]
    cases a
    · cases q with
      | none => simp [smallDue, sliceStep]
      | some t => by_cases h3 : now - t < resend <;> simp [smallDue, sliceStep, h3]
    · simp

theorem relLoop_nil (ch now resend : Nat) (gp : GP) : relLoop ch now resend [] gp = ([], gp) := rfl

theorem relLoop_small (ch now resend id : Nat) (m : Bytes) (ls : Option Nat) (rest : SMap Unacked) (gp : GP) :
    relLoop ch now resend ((id, .small m ls) :: rest) gp =
      if gp.avail < m.length ∨ smallDue now resend ls = false then
        ((id, .small m ls) :: (relLoop ch now resend rest gp).1, (relLoop ch now resend rest gp).2)
      else
        ((id, .small m (some now)) :: (relLoop ch now resend rest (takeSmall ch id m gp)).1,
         (relLoop ch now resend rest (takeSmall ch id m gp)).2) := by
  cases ls <;> rfl

theorem relLoop_sliced (ch now resend id : Nat) (m : Bytes) (n na nx : Nat) (ak : List Bool) (ls : List (Option Nat))
    (rest : SMap Unacked) (gp : GP) :
    relLoop ch now resend ((id, .sliced m n na nx ak ls) :: rest) gp =
      let r := slicedLoop ch id now resend m n nx ak (List.range n) (ls, nx, gp)
      ((id, .sliced m n na r.2.1 ak r.1) :: (relLoop ch now resend rest r.2.2).1, (relLoop ch now resend rest r.2.2).2) := by
  simp only [relLoop]

/-- the final `if !small_messages.is_empty() { push }` -/
def finishRel (ch : Nat) (g : GP) : GP := if g.small.isEmpty then g else flushSmall ch g

theorem SendRel.sendMessage_ok {s s' : SendRel} {m : Bytes} (h : s.sendMessage m = .ok s') :
    s.mem + m.length ≤ s.maxMem ∧
    s' = { s with mem := s.mem + m.length, nextId := s.nextId + 1
                  unacked := SMap.insert s.unacked s.nextId
                    (if m.length > SLICE_SIZE then Unacked.newSliced m else .small m none) } := by
  unfold SendRel.sendMessage at h
  split at h
  · cases h
  · cases h; exact ⟨by omega, rfl⟩

theorem SendRel.getPackets_eq (s : SendRel) (seq avail now : Nat) :
    s.getPackets seq avail now =
      ({ s with unacked := (relLoop s.ch now s.resend s.unacked ⟨[], [], 0, seq, avail⟩).1 },
       (finishRel s.ch (relLoop s.ch now s.resend s.unacked ⟨[], [], 0, seq, avail⟩).2).packets,
       (finishRel s.ch (relLoop s.ch now s.resend s.unacked ⟨[], [], 0, seq, avail⟩).2).seq,
       (finishRel s.ch (relLoop s.ch now s.resend s.unacked ⟨[], [], 0, seq, avail⟩).2).avail) := by
  unfold SendRel.getPackets
  cases hu : s.unacked with
  | nil => simp [relLoop_nil, finishRel]; cases s; simp_all
  | cons x xs => simp [finishRel]

theorem sliceBytes_length (m : Bytes) (n i : Nat) :
    (sliceBytes m n i).length =
      min ((if i = n - 1 then m.length else (i + 1) * SLICE_SIZE) - i * SLICE_SIZE) (m.length - i * SLICE_SIZE) := by
  simp [sliceBytes]

theorem sliceBytes_length_le (m : Bytes) (n i : Nat) (h : m.length ≤ n * SLICE_SIZE) :
    (sliceBytes m n i).length ≤ SLICE_SIZE := by
  rw [sliceBytes_length]
  unfold SLICE_SIZE at *
  split
  · next hi => subst hi; omega
  · omega

theorem divCeil_mul_ge (a : Nat) : a ≤ divCeil a SLICE_SIZE * SLICE_SIZE := by
  unfold divCeil SLICE_SIZE; omega

theorem divCeil_pred_mul_lt (a : Nat) (h : 0 < a) : (divCeil a SLICE_SIZE - 1) * SLICE_SIZE < a := by
  unfold divCeil SLICE_SIZE; omega

theorem divCeil_pos (a : Nat) (h : 0 < a) : 0 < divCeil a SLICE_SIZE := by
  unfold divCeil SLICE_SIZE; omega

theorem divCeil_le (a : Nat) : divCeil a SLICE_SIZE ≤ a := by
  unfold divCeil SLICE_SIZE; omega

theorem divCeil_le_max {a : Nat} (h : a ≤ MAX_NUM_SLICES * SLICE_SIZE) : divCeil a SLICE_SIZE ≤ MAX_NUM_SLICES := by
  unfold divCeil SLICE_SIZE MAX_NUM_SLICES at *
  omega

theorem sliceBytes_length_pos (m : Bytes) (i : Nat) (h : 0 < m.length) (hi : i < divCeil m.length SLICE_SIZE) :
    0 < (sliceBytes m (divCeil m.length SLICE_SIZE) i).length := by
  rw [sliceBytes_length]
  have h1 := divCeil_pred_mul_lt m.length h
  unfold SLICE_SIZE at *
  generalize divCeil m.length 1200 = n at *
  split <;> omega

theorem sliceBytes_sum (m : Bytes) (h : 0 < m.length) :
    ((List.range (divCeil m.length SLICE_SIZE)).map (fun i => (sliceBytes m (divCeil m.length SLICE_SIZE) i).length)).sum
      = m.length := by
  have h1 := divCeil_pred_mul_lt m.length h
  have h2 := divCeil_mul_ge m.length
  have h3 := divCeil_pos m.length h
  generalize divCeil m.length SLICE_SIZE = n at *
  obtain ⟨k, rfl⟩ : ∃ k, n = k + 1 := ⟨n - 1, by omega⟩
  have full : ∀ j, j ≤ k → ((List.range j).map (fun i => (sliceBytes m (k + 1) i).length)).sum = j * SLICE_SIZE := by
    intro j
    induction j with
    | zero => intro _; simp
    | succ j ih =>
      intro hj
      rw [List.range_succ, List.map_append, List.sum_append, ih (by omega)]
      simp only [List.map_cons, List.map_nil, List.sum_cons, List.sum_nil, sliceBytes_length]
      unfold SLICE_SIZE at *
      have : ¬ j = k + 1 - 1 := by omega
      simp only [this, ↓reduceIte]
      have : (j + 1) * 1200 ≤ k * 1200 := Nat.mul_le_mul_right _ hj
      omega
  rw [List.range_succ, List.map_append, List.sum_append, full k (Nat.le_refl _)]
  simp only [List.map_cons, List.map_nil, List.sum_cons, List.sum_nil, sliceBytes_length]
  unfold SLICE_SIZE at *
  simp at *
  omega

theorem getD_set {α : Type} (l : List α) (i j : Nat) (a d : α) :
    (l.set i a).getD j d = if i = j ∧ i < l.length then a else l.getD j d := by
  simp only [List.getD_eq_getElem?_getD, List.getElem?_set]
  by_cases h : i = j
  · subst h
    by_cases h2 : i < l.length <;> simp [h2]
  · simp [h]

theorem mod_inj (start n i j : Nat) (hi : i < n) (hj : j < n) (h : (start + i) % n = (start + j) % n) : i = j := by
  rcases Nat.lt_trichotomy i j with hlt | heq | hgt
  · have := Nat.sub_mod_eq_zero_of_mod_eq h.symm
    have e : start + j - (start + i) = j - i := by omega
    rw [e, Nat.mod_eq_of_lt (by omega)] at this; omega
  · exact heq
  · have := Nat.sub_mod_eq_zero_of_mod_eq h
    have e : start + i - (start + j) = i - j := by omega
    rw [e, Nat.mod_eq_of_lt (by omega)] at this; omega

def Packet.relMsgs : Packet → List (Nat × Bytes)
  | .smallReliable _ _ msgs => msgs
  | _ => []

def GP.msgs (g : GP) : List (Nat × Bytes) := g.packets.flatMap Packet.relMsgs ++ g.small

theorem msgs_flushSmall (ch : Nat) (g : GP) : (flushSmall ch g).msgs = g.msgs := by
  simp [GP.msgs, flushSmall, Packet.relMsgs]

theorem msgs_takeSmall (ch id : Nat) (m : Bytes) (g : GP) : (takeSmall ch id m g).msgs = g.msgs ++ [(id, m)] := by
  unfold takeSmall
  split
  · simp [GP.msgs, pushSmall, charge, flushSmall, Packet.relMsgs]
  · simp [GP.msgs, pushSmall, charge]

theorem packets_takeSmall (ch id : Nat) (m : Bytes) (g : GP) :
    (takeSmall ch id m g).packets = g.packets ∨
    (takeSmall ch id m g).packets = g.packets ++ [Packet.smallReliable g.seq ch g.small] := by
  unfold takeSmall
  split
  · right; simp [pushSmall, charge, flushSmall]
  · left; simp [pushSmall, charge]

theorem msgs_sliceStep (ch id : Nat) (msg : Bytes) (n i : Nat) (g : GP) : (sliceStep ch id msg n i g).msgs = g.msgs := by
  simp [GP.msgs, sliceStep, Packet.relMsgs]

def Mono (g g' : GP) : Prop :=
  (∀ p ∈ g.packets, p ∈ g'.packets) ∧ (∀ x ∈ g.msgs, x ∈ g'.msgs) ∧ g'.avail ≤ g.avail

theorem Mono.refl (g : GP) : Mono g g := ⟨fun _ h => h, fun _ h => h, Nat.le_refl _⟩
theorem Mono.trans {a b c : GP} (h1 : Mono a b) (h2 : Mono b c) : Mono a c :=
  ⟨fun p hp => h2.1 p (h1.1 p hp), fun x hx => h2.2.1 x (h1.2.1 x hx), Nat.le_trans h2.2.2 h1.2.2⟩

theorem avail_takeSmall (ch id : Nat) (m : Bytes) (g : GP) : (takeSmall ch id m g).avail = g.avail - m.length := by
  unfold takeSmall; split <;> rfl

theorem Mono_takeSmall (ch id : Nat) (m : Bytes) (g : GP) : Mono g (takeSmall ch id m g) := by
  refine ⟨?_, ?_, ?_⟩
  · intro p hp
    rcases packets_takeSmall ch id m g with e | e <;> rw [e]
    · exact hp
    · exact List.mem_append_left _ hp
  · intro x hx; rw [msgs_takeSmall]; exact List.mem_append_left _ hx
  · rw [avail_takeSmall]; omega

theorem Mono_sliceStep (ch id : Nat) (msg : Bytes) (n i : Nat) (g : GP) : Mono g (sliceStep ch id msg n i g) := by
  refine ⟨?_, ?_, ?_⟩
  · intro p hp; simp only [sliceStep]; exact List.mem_append_left _ hp
  · intro x hx; rw [msgs_sliceStep]; exact hx
  · simp only [sliceStep]; omega

/-- every sliced entry has enough slices for its message (true of `div_ceil`) -/
def SlicedFit (un : SMap Unacked) : Prop :=
  ∀ id m n na nx ak ls, (id, Unacked.sliced m n na nx ak ls) ∈ un → m.length ≤ n * SLICE_SIZE

/-! ### one reliable flush as a scan: the candidates of `unacked` in loop order, each with its "due and not acknowledged" flag -/

/-- one transmission a reliable flush can make -/
inductive Tx where
  | small (id : Nat) (m : Bytes)
  | slice (id : Nat) (m : Bytes) (n i : Nat)

/-- the budget that must be left for the code to take the item -/
def Tx.need : Tx → Nat
  | .small _ m => m.length
  | .slice .. => SLICE_SIZE

/-- the budget taking it consumes -/
def Tx.cost : Tx → Nat
  | .small _ m => m.length
  | .slice _ m n i => (sliceBytes m n i).length

/-- the slot of the `last_sent` table a slice item stamps -/
def Tx.idx : Tx → Nat
  | .small .. => 0
  | .slice _ _ _ i => i

def costSum (T : List Tx) : Nat := (T.map Tx.cost).sum

theorem costSum_cons (t : Tx) (T : List Tx) : costSum (t :: T) = t.cost + costSum T := rfl

theorem costSum_append (A B : List Tx) : costSum (A ++ B) = costSum A + costSum B := by
  simp [costSum, List.sum_append]

def greedy : List (Tx × Bool) → Nat → List Tx
  | [], _ => []
  | (t, d) :: r, a => if d = true ∧ t.need ≤ a then t :: greedy r (a - t.cost) else greedy r a

theorem greedy_take {t : Tx} {d : Bool} {r : List (Tx × Bool)} {a : Nat} (h : d = true ∧ t.need ≤ a) :
    greedy ((t, d) :: r) a = t :: greedy r (a - t.cost) := by
  rw [greedy, if_pos h]

theorem greedy_skip {t : Tx} {d : Bool} {r : List (Tx × Bool)} {a : Nat} (h : ¬ (d = true ∧ t.need ≤ a)) :
    greedy ((t, d) :: r) a = greedy r a := by
  rw [greedy, if_neg h]

theorem greedy_append : ∀ (A B : List (Tx × Bool)) (a : Nat),
    greedy (A ++ B) a = greedy A a ++ greedy B (a - costSum (greedy A a))
  | [], B, a => by simp [greedy, costSum]
  | (t, d) :: A, B, a => by
    by_cases h : d = true ∧ t.need ≤ a
    · rw [List.cons_append, greedy_take h, greedy_take h, greedy_append A B, costSum_cons, Nat.sub_add_eq]
      rfl
    · rw [List.cons_append, greedy_skip h, greedy_skip h]
      exact greedy_append A B a

theorem mem_greedy : ∀ {C : List (Tx × Bool)} {a : Nat} {t : Tx}, t ∈ greedy C a → (t, true) ∈ C
  | (t0, d) :: C, a, t, h => by
    by_cases hc : d = true ∧ t0.need ≤ a
    · rw [greedy_take hc] at h
      rcases List.mem_cons.mp h with rfl | h
      · rw [← hc.1]
        exact List.mem_cons_self ..
      · exact List.mem_cons_of_mem _ (mem_greedy h)
    · rw [greedy_skip hc] at h
      exact List.mem_cons_of_mem _ (mem_greedy h)

theorem length_greedy_le : ∀ (C : List (Tx × Bool)) (a : Nat), (greedy C a).length ≤ C.length
  | [], _ => Nat.le_refl _
  | (t, d) :: C, a => by
    by_cases hc : d = true ∧ t.need ≤ a
    · rw [greedy_take hc]
      exact Nat.succ_le_succ (length_greedy_le C _)
    · rw [greedy_skip hc]
      exact Nat.le_succ_of_le (length_greedy_le C a)

theorem mem_greedy_of_turn {A B : List (Tx × Bool)} {t : Tx} {a : Nat} (h : t.need ≤ a - costSum (greedy A a)) :
    t ∈ greedy (A ++ (t, true) :: B) a := by
  rw [greedy_append, greedy_take ⟨rfl, h⟩]
  exact List.mem_append_right _ (List.mem_cons_self ..)

theorem mem_greedy_of_left {A B : List (Tx × Bool)} {t : Tx} {a : Nat}
    (h : t.need ≤ a - costSum (greedy (A ++ (t, true) :: B) a)) : t ∈ greedy (A ++ (t, true) :: B) a := by
  refine mem_greedy_of_turn ?_
  rw [greedy_append, costSum_append] at h
  omega

theorem greedy_of_lt : ∀ {C : List (Tx × Bool)} {a : Nat}, (∀ x ∈ C, a < x.1.need) → greedy C a = []
  | [], _, _ => rfl
  | (t, d) :: C, a, h => by
    rw [greedy_skip fun c => Nat.not_le_of_lt (h (t, d) (List.mem_cons_self ..)) c.2]
    exact greedy_of_lt fun x hx => h x (List.mem_cons_of_mem _ hx)

theorem costSum_greedy_le : ∀ {C : List (Tx × Bool)} {a : Nat}, (∀ x ∈ C, x.1.cost ≤ x.1.need) → costSum (greedy C a) ≤ a
  | [], _, _ => Nat.zero_le _
  | (t, d) :: C, a, h => by
    have h0 : t.cost ≤ t.need := h (t, d) (List.mem_cons_self ..)
    have hr := fun x hx => h x (List.mem_cons_of_mem _ hx)
    by_cases hc : d = true ∧ t.need ≤ a
    · have := costSum_greedy_le (C := C) (a := a - t.cost) hr
      rw [greedy_take hc, costSum_cons]
      omega
    · rw [greedy_skip hc]
      exact costSum_greedy_le hr

def needSum (C : List (Tx × Bool)) : Nat := ((C.filter (·.2)).map (·.1.need)).sum

theorem needSum_nil : needSum [] = 0 := rfl

theorem needSum_cons (t : Tx) (d : Bool) (C : List (Tx × Bool)) :
    needSum ((t, d) :: C) = (if d = true then t.need else 0) + needSum C := by
  cases d <;> simp [needSum]

theorem needSum_append (A B : List (Tx × Bool)) : needSum (A ++ B) = needSum A + needSum B := by
  simp [needSum, List.sum_append]

theorem greedy_all : ∀ {C : List (Tx × Bool)} {a : Nat}, (∀ x ∈ C, x.1.cost ≤ x.1.need) → needSum C ≤ a →
    ∀ t, (t, true) ∈ C → t ∈ greedy C a
  | (t0, d) :: C, a, hc, ha, t, ht => by
    have h0 : t0.cost ≤ t0.need := hc (t0, d) (List.mem_cons_self ..)
    have hc' := fun x hx => hc x (List.mem_cons_of_mem _ hx)
    rw [needSum_cons] at ha
    cases d with
    | false =>
      rw [greedy_skip (fun c => by cases c.1)]
      rcases List.mem_cons.mp ht with e | ht
      · cases e
      · exact greedy_all hc' (by simpa using ha) t ht
    | true =>
      rw [if_pos rfl] at ha
      rw [greedy_take ⟨rfl, by omega⟩]
      rcases List.mem_cons.mp ht with e | ht
      · cases e
        exact List.mem_cons_self ..
      · exact List.mem_cons_of_mem _ (greedy_all hc' (by omega) t ht)

def packStep (ch : Nat) (g : GP) : Tx → GP
  | .small id m => takeSmall ch id m g
  | .slice id m n i => sliceStep ch id m n i g

theorem avail_packStep (ch : Nat) (g : GP) : ∀ t : Tx, (packStep ch g t).avail = g.avail - t.cost
  | .small id m => avail_takeSmall ch id m g
  | .slice .. => rfl

theorem avail_pack (ch : Nat) : ∀ (T : List Tx) (g : GP), (T.foldl (packStep ch) g).avail = g.avail - costSum T
  | [], g => rfl
  | t :: T, g => by rw [List.foldl_cons, avail_pack ch T, avail_packStep, costSum_cons, Nat.sub_add_eq]

theorem pack_inv {ch : Nat} {I : GP → Prop} : ∀ (T : List Tx) {g : GP}, (∀ g, ∀ t ∈ T, I g → I (packStep ch g t)) →
    I g → I (T.foldl (packStep ch) g)
  | [], _, _, h => h
  | t :: T, _, hs, h =>
    pack_inv T (fun g t' ht' => hs g t' (List.mem_cons_of_mem _ ht')) (hs _ t (List.mem_cons_self ..) h)

theorem pack_mono (ch : Nat) : ∀ (T : List Tx) (g : GP), Mono g (T.foldl (packStep ch) g)
  | [], g => Mono.refl g
  | .small id m :: T, g => (Mono_takeSmall ch id m g).trans (pack_mono ch T _)
  | .slice id m n i :: T, g => (Mono_sliceStep ch id m n i g).trans (pack_mono ch T _)

theorem mem_pack_small {ch id : Nat} {m : Bytes} : ∀ {T : List Tx} {g : GP}, .small id m ∈ T →
    (id, m) ∈ (T.foldl (packStep ch) g).msgs
  | t :: T, g, h => by
    rcases List.mem_cons.mp h with rfl | h
    · exact (pack_mono ch T _).2.1 _ (by rw [packStep, msgs_takeSmall]; exact List.mem_append_right _ (List.mem_singleton.mpr rfl))
    · exact mem_pack_small (T := T) h

theorem mem_pack_slice {ch id n i : Nat} {m : Bytes} : ∀ {T : List Tx} {g : GP}, .slice id m n i ∈ T →
    ∃ sq, Packet.reliableSlice sq ch ⟨id, i, n, sliceBytes m n i⟩ ∈ (T.foldl (packStep ch) g).packets
  | t :: T, g, h => by
    rcases List.mem_cons.mp h with rfl | h
    · exact ⟨g.seq, (pack_mono ch T _).1 _ (List.mem_append_right _ (List.mem_singleton.mpr rfl))⟩
    · exact mem_pack_slice (T := T) h

def sliceCands (now resend id : Nat) (m : Bytes) (n start : Nat) (ak : List Bool) (ls : List (Option Nat)) (l : List Nat) :
    List (Tx × Bool) :=
  l.map fun i0 => (.slice id m n ((start + i0) % n),
    !(ak.getD ((start + i0) % n) false) && smallDue now resend (ls.getD ((start + i0) % n) none))

theorem mem_sliceCands {now resend id n start : Nat} {m : Bytes} {ak : List Bool} {ls : List (Option Nat)} {l : List Nat}
    {t : Tx} (h : (t, true) ∈ sliceCands now resend id m n start ak ls l) :
    ∃ i0 ∈ l, t = .slice id m n ((start + i0) % n) ∧ ak.getD ((start + i0) % n) false = false ∧
      smallDue now resend (ls.getD ((start + i0) % n) none) = true := by
  obtain ⟨i0, hi0, e⟩ := List.mem_map.mp h
  rw [Prod.mk.injEq] at e
  refine ⟨i0, hi0, e.1.symm, ?_⟩
  revert e
  cases ak.getD ((start + i0) % n) false <;> cases smallDue now resend (ls.getD ((start + i0) % n) none) <;> simp

/-- The loop tests a slot against the table it is stamping, the scan against the table it started with; they agree
    because the loop visits no slot twice (true of `0..n`, `nodup_loop_idx`). -/
theorem slicedLoop_scan (ch id now resend : Nat) (m : Bytes) (n start : Nat) (ak : List Bool) :
    ∀ (l : List Nat) (ls : List (Option Nat)) (next : Nat) (gp : GP),
    (l.map fun i0 => (start + i0) % n).Nodup →
    slicedLoop ch id now resend m n start ak l (ls, next, gp) =
      ((greedy (sliceCands now resend id m n start ak ls l) gp.avail).foldl (fun ls t => ls.set t.idx (some now)) ls,
       (greedy (sliceCands now resend id m n start ak ls l) gp.avail).foldl (fun _ t => t.idx + 1 % n) next,
       (greedy (sliceCands now resend id m n start ak ls l) gp.avail).foldl (packStep ch) gp) := by
  intro l
  induction l with
  | nil =>
    intro ls next gp _
    rw [slicedLoop_nil]
    rfl
  | cons i0 rest ih =>
    intro ls next gp hn
    rw [List.map_cons, List.nodup_cons] at hn
    rw [slicedLoop_cons]
    by_cases hlow : gp.avail < SLICE_SIZE
    · rw [if_pos hlow, greedy_of_lt]
      · rfl
      · intro x hx
        obtain ⟨j0, -, rfl⟩ := List.mem_map.mp hx
        exact hlow
    · rw [if_neg hlow]
      have hcs : sliceCands now resend id m n start ak ls (i0 :: rest) =
          (.slice id m n ((start + i0) % n), !(ak.getD ((start + i0) % n) false) &&
            smallDue now resend (ls.getD ((start + i0) % n) none)) :: sliceCands now resend id m n start ak ls rest := rfl
      rw [hcs]
      have hflag : (!(ak.getD ((start + i0) % n) false) && smallDue now resend (ls.getD ((start + i0) % n) none)) = true ↔
          ¬ (ak.getD ((start + i0) % n) false = true ∨ smallDue now resend (ls.getD ((start + i0) % n) none) = false) := by
        cases ak.getD ((start + i0) % n) false <;> cases smallDue now resend (ls.getD ((start + i0) % n) none) <;> decide
      by_cases hskip : ak.getD ((start + i0) % n) false = true ∨ smallDue now resend (ls.getD ((start + i0) % n) none) = false
      · rw [if_pos hskip, greedy_skip fun c => hflag.mp c.1 hskip]
        exact ih ls next gp hn.2
      · rw [if_neg hskip, greedy_take ⟨hflag.mpr hskip, Nat.le_of_not_lt hlow⟩, ih _ _ _ hn.2]
        have hc : sliceCands now resend id m n start ak (ls.set ((start + i0) % n) (some now)) rest =
            sliceCands now resend id m n start ak ls rest := by
          refine List.map_congr_left fun j0 hj => ?_
          have hne : ¬ ((start + i0) % n = (start + j0) % n ∧ (start + i0) % n < ls.length) :=
            fun c => hn.1 (List.mem_map.mpr ⟨j0, hj, c.1.symm⟩)
          rw [getD_set, if_neg hne]
        rw [hc]
        rfl

theorem nodup_loop_idx (n start : Nat) : ((List.range n).map fun i0 => (start + i0) % n).Nodup := by
  rw [List.Nodup, List.pairwise_map]
  exact (List.nodup_range (n := n)).imp_of_mem fun ha hb hne he =>
    hne (mod_inj start n _ _ (List.mem_range.mp ha) (List.mem_range.mp hb) he)

def Unacked.cands (now resend id : Nat) : Unacked → List (Tx × Bool)
  | .small m ls => [(.small id m, smallDue now resend ls)]
  | .sliced m n _ nx ak ls => sliceCands now resend id m n nx ak ls (List.range n)

/-- the entry after the items `T` of it were transmitted at `now` -/
def Unacked.sent (now : Nat) (T : List Tx) : Unacked → Unacked
  | .small m ls => .small m (if T.isEmpty then ls else some now)
  | .sliced m n na nx ak ls =>
    .sliced m n na (T.foldl (fun _ t => t.idx + 1 % n) nx) ak (T.foldl (fun ls t => ls.set t.idx (some now)) ls)

def relCands (now resend : Nat) (un : SMap Unacked) : List (Tx × Bool) := un.flatMap fun x => x.2.cands now resend x.1

/-- the map after a flush that was offered `a` bytes -/
def relSent (now resend : Nat) : SMap Unacked → Nat → SMap Unacked
  | [], _ => []
  | (id, u) :: r, a =>
    (id, u.sent now (greedy (u.cands now resend id) a)) :: relSent now resend r (a - costSum (greedy (u.cands now resend id) a))

theorem relCands_cons (now resend id : Nat) (u : Unacked) (r : SMap Unacked) :
    relCands now resend ((id, u) :: r) = u.cands now resend id ++ relCands now resend r := by
  simp [relCands]

theorem relCands_append (now resend : Nat) (a b : SMap Unacked) :
    relCands now resend (a ++ b) = relCands now resend a ++ relCands now resend b := by
  simp [relCands]

theorem cost_le_need_relCands {now resend : Nat} {un : SMap Unacked} (hfit : SlicedFit un) :
    ∀ x ∈ relCands now resend un, x.1.cost ≤ x.1.need := by
  intro x hx
  obtain ⟨⟨id, u⟩, hu, hx⟩ := List.mem_flatMap.mp hx
  cases u with
  | small m ls =>
    rw [List.mem_singleton.mp hx]
    exact Nat.le_refl _
  | sliced m n na nx ak ls =>
    obtain ⟨i0, -, rfl⟩ := List.mem_map.mp hx
    exact sliceBytes_length_le m n _ (hfit id m n na nx ak ls hu)

theorem mem_relCands_small {now resend id : Nat} {m : Bytes} {d : Bool} {un : SMap Unacked}
    (h : (.small id m, d) ∈ relCands now resend un) : ∃ ls, (id, Unacked.small m ls) ∈ un := by
  obtain ⟨⟨id', u⟩, hu, hx⟩ := List.mem_flatMap.mp h
  cases u with
  | small m' ls =>
    rw [Unacked.cands, List.mem_singleton, Prod.mk.injEq, Tx.small.injEq] at hx
    obtain ⟨⟨rfl, rfl⟩, -⟩ := hx
    exact ⟨ls, hu⟩
  | sliced m' n na nx ak ls =>
    obtain ⟨i0, -, e⟩ := List.mem_map.mp hx
    cases e

theorem relLoop_scan (ch now resend : Nat) : ∀ (un : SMap Unacked) (gp : GP),
    relLoop ch now resend un gp =
      (relSent now resend un gp.avail, (greedy (relCands now resend un) gp.avail).foldl (packStep ch) gp)
  | [], gp => rfl
  | (id, .small m ls) :: rest, gp => by
    have hcs : relCands now resend ((id, .small m ls) :: rest) =
        (.small id m, smallDue now resend ls) :: relCands now resend rest := relCands_cons ..
    rw [relLoop_small, hcs, relSent]
    by_cases hc : gp.avail < m.length ∨ smallDue now resend ls = false
    · have hno : ¬ (smallDue now resend ls = true ∧ (Tx.small id m).need ≤ gp.avail) := by
        rintro ⟨h1, h2⟩
        rcases hc with h | h
        · exact Nat.not_le_of_lt h h2
        · rw [h1] at h
          cases h
      rw [if_pos hc, greedy_skip hno, Unacked.cands, greedy_skip hno, relLoop_scan ch now resend rest gp]
      rfl
    · have hyes : smallDue now resend ls = true ∧ (Tx.small id m).need ≤ gp.avail :=
        ⟨Bool.of_not_eq_false fun hd => hc (Or.inr hd), Nat.le_of_not_lt fun c => hc (Or.inl c)⟩
      rw [if_neg hc, greedy_take hyes, Unacked.cands, greedy_take hyes, relLoop_scan ch now resend rest _, avail_takeSmall]
      rfl
  | (id, .sliced m n na nx ak ls) :: rest, gp => by
    rw [relLoop_sliced, relCands_cons, greedy_append, List.foldl_append]
    simp only [slicedLoop_scan ch id now resend m n nx ak (List.range n) ls nx gp (nodup_loop_idx n nx),
      relLoop_scan ch now resend rest, avail_pack, Unacked.cands, relSent, Unacked.sent]

theorem SendRel.getPackets_scan (s : SendRel) (seq avail now : Nat) :
    s.getPackets seq avail now =
      ({ s with unacked := relSent now s.resend s.unacked avail },
       (finishRel s.ch ((greedy (relCands now s.resend s.unacked) avail).foldl (packStep s.ch) ⟨[], [], 0, seq, avail⟩)).packets,
       (finishRel s.ch ((greedy (relCands now s.resend s.unacked) avail).foldl (packStep s.ch) ⟨[], [], 0, seq, avail⟩)).seq,
       avail - costSum (greedy (relCands now s.resend s.unacked) avail)) := by
  have e : ∀ G : GP, (finishRel s.ch G).avail = G.avail := fun G => by unfold finishRel; split <;> rfl
  simp only [SendRel.getPackets_eq, relLoop_scan, e, avail_pack]

/-- how one flush may change one entry of `unacked`: the message and the ack state stay; a `last_sent` slot is
    either untouched, or it was due (and unacked) and is now stamped with the current time -/
def EntryStep (now resend : Nat) : Unacked → Unacked → Prop
  | .small m ls, .small m' ls' => m' = m ∧ (ls' = ls ∨ (ls' = some now ∧ smallDue now resend ls = true))
  | .sliced m n na _ ak ls, .sliced m' n' na' _ ak' ls' =>
    m' = m ∧ n' = n ∧ na' = na ∧ ak' = ak ∧ ls'.length = ls.length ∧
    ∀ j, ls'.getD j none = ls.getD j none ∨
      (ls'.getD j none = some now ∧ smallDue now resend (ls.getD j none) = true ∧ ak.getD j false = false)
  | _, _ => False

def MapStep (R : Unacked → Unacked → Prop) : SMap Unacked → SMap Unacked → Prop
  | [], [] => True
  | (k, u) :: r, (k', u') :: r' => k' = k ∧ R u u' ∧ MapStep R r r'
  | _, _ => False

theorem MapStep.find? {R : Unacked → Unacked → Prop} : ∀ {a b : SMap Unacked}, MapStep R a b → ∀ k,
    (SMap.find? a k = none ∧ SMap.find? b k = none) ∨ ∃ u u', SMap.find? a k = some u ∧ SMap.find? b k = some u' ∧ R u u'
  | [], [], _, k => Or.inl ⟨rfl, rfl⟩
  | (k0, u) :: r, (k0', u') :: r', h, k => by
    obtain ⟨rfl, h1, h2⟩ := h
    simp only [SMap.find?]
    split
    · exact Or.inr ⟨u, u', rfl, rfl, h1⟩
    · exact MapStep.find? h2 k
  | [], _ :: _, h, _ => by cases h
  | _ :: _, [], h, _ => by cases h

theorem MapStep.mem {R : Unacked → Unacked → Prop} : ∀ {a b : SMap Unacked}, MapStep R a b → ∀ k u', (k, u') ∈ b →
    ∃ u, (k, u) ∈ a ∧ R u u'
  | [], [], _, _, _, h => by cases h
  | (k0, u) :: r, (k0', u0') :: r', h, k, u', hm => by
    obtain ⟨rfl, h1, h2⟩ := h
    simp only [List.mem_cons, Prod.mk.injEq] at hm
    rcases hm with ⟨rfl, rfl⟩ | hm
    · exact ⟨u, List.mem_cons_self .., h1⟩
    · obtain ⟨u2, a, b⟩ := MapStep.mem h2 k u' hm
      exact ⟨u2, List.mem_cons_of_mem _ a, b⟩
  | [], _ :: _, h, _, _, _ => by cases h
  | _ :: _, [], h, _, _, _ => by cases h

theorem MapStep.keys {R : Unacked → Unacked → Prop} : ∀ {a b : SMap Unacked}, MapStep R a b → SMap.keys b = SMap.keys a
  | [], [], _ => rfl
  | (_, _) :: _, (_, _) :: _, ⟨hk, _, h⟩ => by simp only [SMap.keys, List.map_cons, hk]; exact congrArg _ (MapStep.keys h)
  | [], _ :: _, h => by cases h
  | _ :: _, [], h => by cases h

theorem length_foldl_set {α : Type} (v : α) : ∀ (T : List Tx) (l : List α),
    (T.foldl (fun l t => l.set t.idx v) l).length = l.length
  | [], _ => rfl
  | t :: T, l => by rw [List.foldl_cons, length_foldl_set v T, List.length_set]

theorem getD_foldl_set {α : Type} (v d : α) (j : Nat) : ∀ (T : List Tx) (l : List α),
    (T.foldl (fun l t => l.set t.idx v) l).getD j d = l.getD j d ∨
    ((T.foldl (fun l t => l.set t.idx v) l).getD j d = v ∧ ∃ t ∈ T, t.idx = j)
  | [], _ => Or.inl rfl
  | t :: T, l => by
    rw [List.foldl_cons]
    rcases getD_foldl_set v d j T (l.set t.idx v) with h | ⟨h, t', ht', e⟩
    · rw [h, getD_set]
      split
      · next c => exact Or.inr ⟨rfl, t, List.mem_cons_self .., c.1⟩
      · exact Or.inl rfl
    · exact Or.inr ⟨h, t', List.mem_cons_of_mem _ ht', e⟩

theorem getD_foldl_set_mem {α : Type} (v d : α) : ∀ {T : List Tx} {l : List α} {t : Tx}, t ∈ T → t.idx < l.length →
    (T.foldl (fun l t => l.set t.idx v) l).getD t.idx d = v
  | t0 :: T, l, t, ht, hl => by
    rw [List.foldl_cons]
    rcases List.mem_cons.mp ht with rfl | ht
    · rcases getD_foldl_set v d t.idx T (l.set t.idx v) with h | h
      · rw [h, getD_set, if_pos ⟨rfl, hl⟩]
      · exact h.1
    · exact getD_foldl_set_mem v d ht (by rw [List.length_set]; exact hl)

theorem EntryStep.of_sent (now resend id a : Nat) : ∀ (u : Unacked),
    EntryStep now resend u (u.sent now (greedy (u.cands now resend id) a))
  | .small m ls => by
    refine ⟨rfl, ?_⟩
    cases hT : greedy (Unacked.cands now resend id (.small m ls)) a with
    | nil => exact Or.inl rfl
    | cons t T =>
      have : (t, true) ∈ [(Tx.small id m, smallDue now resend ls)] :=
        mem_greedy (a := a) (by rw [← Unacked.cands, hT]; exact List.mem_cons_self ..)
      rw [List.mem_singleton, Prod.mk.injEq] at this
      exact Or.inr ⟨rfl, this.2.symm⟩
  | .sliced m n na nx ak ls => by
    refine ⟨rfl, rfl, rfl, rfl, length_foldl_set _ _ _, fun j => ?_⟩
    refine (getD_foldl_set (some now) none j _ ls).imp_right fun ⟨h, t, ht, e⟩ => ?_
    obtain ⟨i0, -, rfl, h1, h2⟩ := mem_sliceCands (mem_greedy ht)
    subst e
    exact ⟨h, h2, h1⟩

theorem relSent_entries (now resend : Nat) : ∀ (un : SMap Unacked) (a : Nat),
    MapStep (EntryStep now resend) un (relSent now resend un a)
  | [], _ => trivial
  | (id, u) :: r, a => ⟨rfl, EntryStep.of_sent now resend id a u, relSent_entries now resend r _⟩

theorem mem_relSent {now resend : Nat} {x : Nat × Unacked} : ∀ {un : SMap Unacked} {a : Nat}, x ∈ relSent now resend un a →
    ∃ id u a', (id, u) ∈ un ∧ x = (id, u.sent now (greedy (u.cands now resend id) a'))
  | (id, u) :: r, a, h => by
    rcases List.mem_cons.mp h with rfl | h
    · exact ⟨id, u, a, List.mem_cons_self .., rfl⟩
    · obtain ⟨id', u', a', h1, h2⟩ := mem_relSent h
      exact ⟨id', u', a', List.mem_cons_of_mem _ h1, h2⟩

theorem SendRel.getPackets_entries {s s' : SendRel} {seq avail now seq' avail' : Nat} {ps : List Packet}
    (h : s.getPackets seq avail now = (s', ps, seq', avail')) : MapStep (EntryStep now s.resend) s.unacked s'.unacked := by
  rw [SendRel.getPackets_scan] at h
  cases h
  exact relSent_entries now s.resend s.unacked avail

theorem mem_greedy_relCands {now resend : Nat} {t : Tx} : ∀ {un : SMap Unacked} {a : Nat}, t ∈ greedy (relCands now resend un) a →
    ∃ id u a', (id, u) ∈ un ∧ t ∈ greedy (u.cands now resend id) a' ∧
      (id, u.sent now (greedy (u.cands now resend id) a')) ∈ relSent now resend un a
  | (id, u) :: r, a, h => by
    rw [relCands_cons, greedy_append] at h
    rcases List.mem_append.mp h with h | h
    · exact ⟨id, u, a, List.mem_cons_self .., h, List.mem_cons_self ..⟩
    · obtain ⟨id', u', a', h1, h2, h3⟩ := mem_greedy_relCands h
      exact ⟨id', u', a', List.mem_cons_of_mem _ h1, h2, List.mem_cons_of_mem _ h3⟩

def gpPay (g : GP) : Nat := payloadSum g.packets + relSmallSum g.small

theorem gpPay_flushSmall (ch : Nat) (g : GP) : gpPay (flushSmall ch g) = gpPay g := by
  simp [gpPay, flushSmall, payloadBytes, relSmallSum]

theorem gpPay_packStep (ch : Nat) (g : GP) : ∀ t : Tx, gpPay (packStep ch g t) = gpPay g + t.cost
  | .small id m => by
    show gpPay (takeSmall ch id m g) = _
    unfold takeSmall
    split
    · simp [gpPay, pushSmall, charge, flushSmall, payloadBytes, relSmallSum, Tx.cost]
    · simp [gpPay, pushSmall, charge, relSmallSum, Tx.cost]
      omega
  | .slice id m n i => by
    simp [gpPay, packStep, sliceStep, payloadBytes, Tx.cost]
    omega

theorem gpPay_pack (ch : Nat) : ∀ (T : List Tx) (g : GP), gpPay (T.foldl (packStep ch) g) = gpPay g + costSum T
  | [], g => rfl
  | t :: T, g => by rw [List.foldl_cons, gpPay_pack ch T, gpPay_packStep, costSum_cons, Nat.add_assoc]

theorem gpPay_finishRel (ch : Nat) (g : GP) : gpPay (finishRel ch g) = gpPay g := by
  unfold finishRel
  split
  · rfl
  · exact gpPay_flushSmall ch g

theorem finishRel_small (ch : Nat) (g : GP) : (finishRel ch g).small = [] := by
  unfold finishRel; split
  · next h => simpa using h
  · rfl

theorem finishRel_inv {ch : Nat} {I : GP → Prop} {g : GP} (hf : ∀ g, I g → I (flushSmall ch g)) (h : I g) :
    I (finishRel ch g) := by
  unfold finishRel; split
  · exact h
  · exact hf g h

/-- C14, reliable channel: the payload of the emitted packets plus what is left is exactly the budget offered. -/
theorem SendRel.getPackets_budget {s s' : SendRel} {seq avail now seq' avail' : Nat} {ps : List Packet}
    (h : s.getPackets seq avail now = (s', ps, seq', avail')) (hfit : SlicedFit s.unacked) :
    payloadSum ps + avail' = avail := by
  rw [SendRel.getPackets_scan] at h
  cases h
  have h1 := gpPay_finishRel s.ch ((greedy (relCands now s.resend s.unacked) avail).foldl (packStep s.ch) ⟨[], [], 0, seq, avail⟩)
  rw [gpPay_pack] at h1
  simp only [gpPay, finishRel_small, relSmallSum_nil, payloadSum_nil, Nat.add_zero, Nat.zero_add] at h1
  have h2 := costSum_greedy_le (a := avail) (cost_le_need_relCands (now := now) (resend := s.resend) hfit)
  omega

theorem numbered_packStep {seq0 ch : Nat} {g : GP} (h : Numbered seq0 g.packets g.seq) :
    ∀ t : Tx, Numbered seq0 (packStep ch g t).packets (packStep ch g t).seq
  | .small id m => by
    show Numbered seq0 (takeSmall ch id m g).packets (takeSmall ch id m g).seq
    unfold takeSmall
    split
    · exact h.snoc rfl
    · exact h
  | .slice id m n i => h.snoc rfl

theorem SendRel.getPackets_seq {s s' : SendRel} {seq avail now seq' avail' : Nat} {ps : List Packet}
    (h : s.getPackets seq avail now = (s', ps, seq', avail')) :
    ps.map Packet.sequence = List.range' seq ps.length ∧ seq' = seq + ps.length := by
  rw [SendRel.getPackets_scan] at h
  cases h
  exact finishRel_inv (I := fun g => Numbered seq g.packets g.seq) (fun _ hg => hg.snoc rfl)
    (pack_inv (I := fun g => Numbered seq g.packets g.seq) _ (fun g t _ hg => numbered_packStep hg t) (Numbered.nil seq))

/-- "what does not fit waits": a flush removes nothing from `unacked`, and does not touch the memory accounting. -/
theorem SendRel.getPackets_keeps {s s' : SendRel} {seq avail now seq' avail' : Nat} {ps : List Packet}
    (h : s.getPackets seq avail now = (s', ps, seq', avail')) :
    SMap.keys s'.unacked = SMap.keys s.unacked ∧ s'.mem = s.mem ∧ s'.nextId = s.nextId ∧ s'.ch = s.ch ∧
    s'.resend = s.resend ∧ s'.maxMem = s.maxMem := by
  rw [SendRel.getPackets_scan] at h
  cases h
  exact ⟨(relSent_entries _ _ _ _).keys, rfl, rfl, rfl, rfl, rfl⟩

/-- message popped and dropped: the budget cannot take it -/
def unrelDrop (m : Bytes) (g : GPU) : GPU := { g with mem := g.mem - m.length }

/-- message popped and sent as `div_ceil` slices -/
def unrelSliced (ch : Nat) (m : Bytes) (g : GPU) : GPU :=
  { g with
    mem := g.mem - m.length, avail := g.avail - m.length,
    packets := g.packets ++ unrelSlices ch g.slicedId m (divCeil m.length SLICE_SIZE)
      (List.range (divCeil m.length SLICE_SIZE)) g.seq,
    seq := g.seq + divCeil m.length SLICE_SIZE, slicedId := g.slicedId + 1 }

def flushUnrel (ch : Nat) (g : GPU) : GPU :=
  { g with packets := g.packets ++ [Packet.smallUnreliable g.seq ch g.small], small := [], smallBytes := 0, seq := g.seq + 1 }

def unrelSer (m : Bytes) : Nat := m.length + varintLen m.length

def pushUnrel (m : Bytes) (g : GPU) : GPU := { g with smallBytes := g.smallBytes + unrelSer m, small := g.small ++ [m] }

def chargeU (m : Bytes) (g : GPU) : GPU := { g with mem := g.mem - m.length, avail := g.avail - m.length }

/-- message popped and put into the small-message accumulator -/
def unrelSmall (ch : Nat) (m : Bytes) (g : GPU) : GPU :=
  pushUnrel m (if g.smallBytes + unrelSer m > SLICE_SIZE then flushUnrel ch (chargeU m g) else chargeU m g)

theorem unrelLoop_cons (ch : Nat) (m : Bytes) (rest : List Bytes) (g : GPU) :
    unrelLoop ch (m :: rest) g =
      if g.avail < m.length then unrelLoop ch rest (unrelDrop m g)
      else if m.length > SLICE_SIZE then unrelLoop ch rest (unrelSliced ch m g)
      else unrelLoop ch rest (unrelSmall ch m g) := by
  simp only [unrelLoop]
  by_cases h1 : g.avail < m.length
  · simp only [h1, ↓reduceIte]; rfl
  · simp only [h1, ↓reduceIte]
    by_cases h2 : m.length > SLICE_SIZE
    · simp only [h2, ↓reduceIte]; rfl
    · simp only [h2, ↓reduceIte]; rfl

theorem unrelSmall_fields (ch : Nat) (m : Bytes) (g : GPU) :
    (unrelSmall ch m g).avail = g.avail - m.length ∧ (unrelSmall ch m g).slicedId = g.slicedId := by
  unfold unrelSmall; split <;> exact ⟨rfl, rfl⟩

theorem unrelLoop_rel (R : GPU → GPU → Prop) (hrefl : ∀ g, R g g) (htrans : ∀ a b c, R a b → R b c → R a c) (ch : Nat) :
    ∀ (q : List Bytes) (g : GPU),
    (∀ g m, m ∈ q → g.avail < m.length → R g (unrelDrop m g)) →
    (∀ g m, m ∈ q → m.length ≤ g.avail → SLICE_SIZE < m.length → R g (unrelSliced ch m g)) →
    (∀ g m, m ∈ q → m.length ≤ g.avail → m.length ≤ SLICE_SIZE → R g (unrelSmall ch m g)) →
    R g (unrelLoop ch q g) := by
  intro q
  induction q with
  | nil => intro g _ _ _; exact hrefl _
  | cons m rest ih =>
    intro g h1 h2 h3
    have ih' := fun g' => ih g' (fun g m hm => h1 g m (List.mem_cons_of_mem _ hm))
      (fun g m hm => h2 g m (List.mem_cons_of_mem _ hm)) (fun g m hm => h3 g m (List.mem_cons_of_mem _ hm))
    rw [unrelLoop_cons]
    split
    · next h => exact htrans _ _ _ (h1 g m (List.mem_cons_self ..) h) (ih' _)
    · split
      · next h h' => exact htrans _ _ _ (h2 g m (List.mem_cons_self ..) (by omega) (by omega)) (ih' _)
      · next h h' => exact htrans _ _ _ (h3 g m (List.mem_cons_self ..) (by omega) (by omega)) (ih' _)

/-- the final `if !small_messages.is_empty() { push }` -/
def finishUnrel (ch : Nat) (g : GPU) : GPU :=
  if g.small.isEmpty then g else
    { g with packets := g.packets ++ [Packet.smallUnreliable g.seq ch g.small], small := [], seq := g.seq + 1 }

theorem SendUnrel.getPackets_eq (s : SendUnrel) (seq avail : Nat) :
    s.getPackets seq avail =
      ({ s with queue := [],
                slicedId := (finishUnrel s.ch (unrelLoop s.ch s.queue ⟨[], [], 0, seq, avail, s.slicedId, s.mem⟩)).slicedId,
                mem := (finishUnrel s.ch (unrelLoop s.ch s.queue ⟨[], [], 0, seq, avail, s.slicedId, s.mem⟩)).mem },
       (finishUnrel s.ch (unrelLoop s.ch s.queue ⟨[], [], 0, seq, avail, s.slicedId, s.mem⟩)).packets,
       (finishUnrel s.ch (unrelLoop s.ch s.queue ⟨[], [], 0, seq, avail, s.slicedId, s.mem⟩)).seq,
       (finishUnrel s.ch (unrelLoop s.ch s.queue ⟨[], [], 0, seq, avail, s.slicedId, s.mem⟩)).avail) := by
  unfold SendUnrel.getPackets finishUnrel
  rfl

theorem unrelSlices_length (ch id : Nat) (m : Bytes) (n : Nat) : ∀ (l : List Nat) (seq : Nat),
    (unrelSlices ch id m n l seq).length = l.length
  | [], _ => rfl
  | _ :: rest, seq => by simp [unrelSlices, unrelSlices_length ch id m n rest (seq + 1)]

theorem unrelSlices_payload (ch id : Nat) (m : Bytes) (n : Nat) : ∀ (l : List Nat) (seq : Nat),
    payloadSum (unrelSlices ch id m n l seq) = (l.map (fun i => (sliceBytes m n i).length)).sum
  | [], _ => rfl
  | _ :: rest, seq => by simp [unrelSlices, payloadBytes, unrelSlices_payload ch id m n rest (seq + 1)]

theorem unrelSlices_seq (ch id : Nat) (m : Bytes) (n : Nat) : ∀ (l : List Nat) (seq : Nat),
    (unrelSlices ch id m n l seq).map Packet.sequence = List.range' seq l.length
  | [], _ => rfl
  | _ :: rest, seq => by
    simp [unrelSlices, Packet.sequence, unrelSlices_seq ch id m n rest (seq + 1), List.range'_succ]

theorem mem_unrelSlices {ch id : Nat} {m : Bytes} {n : Nat} {p : Packet} : ∀ {l : List Nat} {seq : Nat},
    p ∈ unrelSlices ch id m n l seq → ∃ i ∈ l, ∃ sq, p = Packet.unreliableSlice sq ch ⟨id, i, n, sliceBytes m n i⟩
  | [], _, h => by simp [unrelSlices] at h
  | i :: rest, seq, h => by
    simp only [unrelSlices, List.mem_cons] at h
    rcases h with rfl | h
    · exact ⟨i, List.mem_cons_self .., seq, rfl⟩
    · obtain ⟨j, hj, sq, rfl⟩ := mem_unrelSlices h
      exact ⟨j, List.mem_cons_of_mem _ hj, sq, rfl⟩

theorem unrelSlices_complete (ch id : Nat) (m : Bytes) (n : Nat) : ∀ (l : List Nat) (seq : Nat) (i : Nat), i ∈ l →
    ∃ sq, Packet.unreliableSlice sq ch ⟨id, i, n, sliceBytes m n i⟩ ∈ unrelSlices ch id m n l seq
  | [], _, _, h => by cases h
  | j :: rest, seq, i, h => by
    simp only [List.mem_cons] at h
    rcases h with rfl | h
    · exact ⟨seq, by simp [unrelSlices]⟩
    · obtain ⟨sq, hsq⟩ := unrelSlices_complete ch id m n rest (seq + 1) i h
      exact ⟨sq, by simp [unrelSlices, hsq]⟩

def gpuTotal (g : GPU) : Nat := payloadSum g.packets + unrelSmallSum g.small + g.avail

theorem gpuTotal_unrelSliced (ch : Nat) (m : Bytes) (g : GPU) (h : m.length ≤ g.avail) (hpos : 0 < m.length) :
    gpuTotal (unrelSliced ch m g) = gpuTotal g := by
  simp only [gpuTotal, unrelSliced, payloadSum_append, unrelSlices_payload, sliceBytes_sum m hpos]
  omega

theorem gpuTotal_unrelSmall (ch : Nat) (m : Bytes) (g : GPU) (h : m.length ≤ g.avail) :
    gpuTotal (unrelSmall ch m g) = gpuTotal g := by
  unfold unrelSmall
  split
  · simp [gpuTotal, pushUnrel, chargeU, flushUnrel, payloadBytes, unrelSmallSum]; omega
  · simp [gpuTotal, pushUnrel, chargeU, unrelSmallSum]; omega

theorem unrelLoop_total (ch : Nat) (q : List Bytes) (g : GPU) : gpuTotal (unrelLoop ch q g) = gpuTotal g := by
  refine unrelLoop_rel (fun g g' => gpuTotal g' = gpuTotal g) (fun _ => rfl) (fun _ _ _ h1 h2 => h2.trans h1) ch q g ?_ ?_ ?_
  · intro g m _ _; rfl
  · intro g m _ h1 h2; exact gpuTotal_unrelSliced ch m g h1 (by omega)
  · intro g m _ h1 _; exact gpuTotal_unrelSmall ch m g h1

theorem gpuTotal_finishUnrel (ch : Nat) (g : GPU) : gpuTotal (finishUnrel ch g) = gpuTotal g := by
  unfold finishUnrel; split
  · rfl
  · simp [gpuTotal, payloadBytes, unrelSmallSum]

theorem finishUnrel_small (ch : Nat) (g : GPU) : (finishUnrel ch g).small = [] := by
  unfold finishUnrel; split
  · next h => simpa using h
  · rfl

/-- C14, unreliable channel: payload of the emitted packets plus what is left is exactly the budget offered
    (dropped messages consume nothing). -/
theorem SendUnrel.getPackets_budget {s s' : SendUnrel} {seq avail seq' avail' : Nat} {ps : List Packet}
    (h : s.getPackets seq avail = (s', ps, seq', avail')) : payloadSum ps + avail' = avail := by
  rw [SendUnrel.getPackets_eq] at h
  cases h
  have h1 := gpuTotal_finishUnrel s.ch (unrelLoop s.ch s.queue ⟨[], [], 0, seq, avail, s.slicedId, s.mem⟩)
  rw [unrelLoop_total] at h1
  simp only [gpuTotal, finishUnrel_small] at h1
  simpa using h1

theorem unrelSlices_numbered (ch id : Nat) (m : Bytes) (n : Nat) (l : List Nat) (seq : Nat) :
    Numbered seq (unrelSlices ch id m n l seq) (seq + l.length) :=
  ⟨by rw [unrelSlices_seq, unrelSlices_length], by rw [unrelSlices_length]⟩

theorem unrelLoop_seq {seq0 ch : Nat} (q : List Bytes) {g : GPU} (h : Numbered seq0 g.packets g.seq) :
    Numbered seq0 (unrelLoop ch q g).packets (unrelLoop ch q g).seq := by
  refine unrelLoop_rel (fun g g' => Numbered seq0 g.packets g.seq → Numbered seq0 g'.packets g'.seq) (fun _ h => h)
    (fun _ _ _ h1 h2 h => h2 (h1 h)) ch q g ?_ ?_ ?_ h
  · intro g m _ _ h; exact h
  · intro g m _ _ _ h
    have := h.append (unrelSlices_numbered ch g.slicedId m (divCeil m.length SLICE_SIZE)
      (List.range (divCeil m.length SLICE_SIZE)) g.seq)
    rwa [List.length_range] at this
  · intro g m _ _ _ h
    unfold unrelSmall
    split
    · exact h.snoc rfl
    · exact h

theorem numbered_finishUnrel {seq0 ch : Nat} {g : GPU} (h : Numbered seq0 g.packets g.seq) :
    Numbered seq0 (finishUnrel ch g).packets (finishUnrel ch g).seq := by
  unfold finishUnrel; split
  · exact h
  · exact h.snoc rfl

theorem SendUnrel.getPackets_seq {s s' : SendUnrel} {seq avail seq' avail' : Nat} {ps : List Packet}
    (h : s.getPackets seq avail = (s', ps, seq', avail')) :
    ps.map Packet.sequence = List.range' seq ps.length ∧ seq' = seq + ps.length := by
  rw [SendUnrel.getPackets_eq] at h
  cases h
  exact numbered_finishUnrel (unrelLoop_seq s.queue (Numbered.nil seq))

theorem unrelLoop_mem (ch : Nat) : ∀ (q : List Bytes) (g : GPU), (unrelLoop ch q g).mem = g.mem - unrelSmallSum q := by
  intro q
  induction q with
  | nil => intro g; simp [unrelLoop]
  | cons m rest ih =>
    intro g
    rw [unrelLoop_cons]
    have e : unrelSmallSum (m :: rest) = m.length + unrelSmallSum rest := by simp [unrelSmallSum]
    split
    · rw [ih]; simp only [unrelDrop, e]; omega
    · split
      · rw [ih]; simp only [unrelSliced, e]; omega
      · rw [ih]; unfold unrelSmall; split <;> simp only [pushUnrel, chargeU, flushUnrel, e] <;> omega

theorem finishUnrel_fields (ch : Nat) (g : GPU) :
    (finishUnrel ch g).mem = g.mem ∧ (finishUnrel ch g).slicedId = g.slicedId ∧ (finishUnrel ch g).avail = g.avail := by
  unfold finishUnrel; split <;> exact ⟨rfl, rfl, rfl⟩

/-- the queue is drained completely: sent or dropped, nothing waits; memory accounting returns to zero
    when it was exact before. -/
theorem SendUnrel.getPackets_drains {s s' : SendUnrel} {seq avail seq' avail' : Nat} {ps : List Packet}
    (h : s.getPackets seq avail = (s', ps, seq', avail')) :
    s'.queue = [] ∧ s'.mem = s.mem - unrelSmallSum s.queue ∧ s'.ch = s.ch ∧ s'.maxMem = s.maxMem := by
  rw [SendUnrel.getPackets_eq] at h
  cases h
  refine ⟨rfl, ?_, rfl, rfl⟩
  rw [(finishUnrel_fields _ _).1, unrelLoop_mem]

theorem tuple4_eta {α β γ δ : Type} (x : α × β × γ × δ) : x = (x.1, x.2.1, x.2.2.1, x.2.2.2) := rfl

def RelMapFit (sr : SMap SendRel) : Prop := ∀ ch s, SMap.find? sr ch = some s → SlicedFit s.unacked

theorem SendRel.getPackets_fit (s : SendRel) (seq avail now : Nat) (h : SlicedFit s.unacked) :
    SlicedFit (s.getPackets seq avail now).1.unacked := by
  intro id m n na nx ak ls hm
  obtain ⟨u, hu, hs⟩ := (SendRel.getPackets_entries (tuple4_eta (s.getPackets seq avail now))).mem id _ hm
  cases u with
  | small => exact hs.elim
  | sliced m0 n0 na0 nx0 ak0 ls0 =>
    obtain ⟨rfl, rfl, _⟩ := hs
    exact h id _ _ na0 nx0 ak0 ls0 hu

abbrev ChanSt := SMap SendRel × SMap SendUnrel × List Packet × Nat × Nat

theorem chanLoop_rel_step (now ch : Nat) (rest : List (Bool × Nat)) (sr : SMap SendRel) (su : SMap SendUnrel)
    (pk : List Packet) (seq avail : Nat) :
    Conn.chanLoop now ((true, ch) :: rest) (sr, su, pk, seq, avail) =
      match SMap.find? sr ch with
      | none => .panic "remote_connection.rs send_reliable_channels.get_mut(channel_id).unwrap()"
      | some s => Conn.chanLoop now rest (SMap.insert sr ch (s.getPackets seq avail now).1, su,
          pk ++ (s.getPackets seq avail now).2.1, (s.getPackets seq avail now).2.2.1, (s.getPackets seq avail now).2.2.2) := by
  simp only [Conn.chanLoop]
  cases SMap.find? _ ch <;> rfl

theorem chanLoop_unrel_step (now ch : Nat) (rest : List (Bool × Nat)) (sr : SMap SendRel) (su : SMap SendUnrel)
    (pk : List Packet) (seq avail : Nat) :
    Conn.chanLoop now ((false, ch) :: rest) (sr, su, pk, seq, avail) =
      match SMap.find? su ch with
      | none => .panic "remote_connection.rs send_unreliable_channels.get_mut(channel_id).unwrap()"
      | some s => Conn.chanLoop now rest (sr, SMap.insert su ch (s.getPackets seq avail).1,
          pk ++ (s.getPackets seq avail).2.1, (s.getPackets seq avail).2.2.1, (s.getPackets seq avail).2.2.2) := by
  simp only [Conn.chanLoop]
  cases SMap.find? _ ch <;> rfl

theorem chanLoop_rel (R : ChanSt → ChanSt → Prop) (hrefl : ∀ a, R a a) (htrans : ∀ a b c, R a b → R b c → R a c) (now : Nat)
    (hrel : ∀ sr su pk seq avail ch s, SMap.find? sr ch = some s →
      R (sr, su, pk, seq, avail) (SMap.insert sr ch (s.getPackets seq avail now).1, su,
        pk ++ (s.getPackets seq avail now).2.1, (s.getPackets seq avail now).2.2.1, (s.getPackets seq avail now).2.2.2))
    (hunrel : ∀ sr su pk seq avail ch s, SMap.find? su ch = some s →
      R (sr, su, pk, seq, avail) (sr, SMap.insert su ch (s.getPackets seq avail).1,
        pk ++ (s.getPackets seq avail).2.1, (s.getPackets seq avail).2.2.1, (s.getPackets seq avail).2.2.2)) :
    ∀ (order : List (Bool × Nat)) (st st' : ChanSt), Conn.chanLoop now order st = .ok st' → R st st' := by
  intro order
  induction order with
  | nil => intro st st' h; cases h; exact hrefl _
  | cons x rest ih =>
    intro st st' h
    obtain ⟨sr, su, pk, seq, avail⟩ := st
    obtain ⟨rel, ch⟩ := x
    cases rel with
    | true =>
      rw [chanLoop_rel_step] at h
      split at h
      · cases h
      · next s hs => exact htrans _ _ _ (hrel sr su pk seq avail ch s hs) (ih _ _ h)
    | false =>
      rw [chanLoop_unrel_step] at h
      split at h
      · cases h
      · next s hs => exact htrans _ _ _ (hunrel sr su pk seq avail ch s hs) (ih _ _ h)

theorem chanLoop_numbering {now : Nat} {order : List (Bool × Nat)} {sr sr' : SMap SendRel} {su su' : SMap SendUnrel}
    {pk pk' : List Packet} {seq avail seq' avail' : Nat}
    (h : Conn.chanLoop now order (sr, su, pk, seq, avail) = .ok (sr', su', pk', seq', avail')) :
    ∃ ps, pk' = pk ++ ps ∧ Numbered seq ps seq' :=
  chanLoop_rel (fun (_, _, pk, seq, _) (_, _, pk', seq', _) => ∃ ps, pk' = pk ++ ps ∧ Numbered seq ps seq')
    (fun ⟨_, _, _, seq, _⟩ => ⟨[], by simp, Numbered.nil seq⟩)
    (fun ⟨_, _, _, _, _⟩ ⟨_, _, _, _, _⟩ ⟨_, _, _, _, _⟩ ⟨ps1, e1, n1⟩ ⟨ps2, e2, n2⟩ =>
      ⟨ps1 ++ ps2, by rw [e2, e1, List.append_assoc], n1.append n2⟩)
    now (fun _ _ _ _ _ _ _ _ => ⟨_, rfl, SendRel.getPackets_seq (tuple4_eta _)⟩)
    (fun _ _ _ _ _ _ _ _ => ⟨_, rfl, SendUnrel.getPackets_seq (tuple4_eta _)⟩) order _ _ h

/-- C14: the packets appended carry exactly the part of the budget that is gone, when every sliced entry has enough
    slices for its message (`RelMapFit`, which the loop keeps) -/
theorem chanLoop_budget {now : Nat} {order : List (Bool × Nat)} {sr sr' : SMap SendRel} {su su' : SMap SendUnrel}
    {pk pk' : List Packet} {seq avail seq' avail' : Nat} (hfit : RelMapFit sr)
    (h : Conn.chanLoop now order (sr, su, pk, seq, avail) = .ok (sr', su', pk', seq', avail')) :
    ∃ ps, pk' = pk ++ ps ∧ payloadSum ps + avail' = avail ∧ RelMapFit sr' :=
  chanLoop_rel
    (fun (sr, _, pk, _, avail) (sr', _, pk', _, avail') => RelMapFit sr →
      ∃ ps, pk' = pk ++ ps ∧ payloadSum ps + avail' = avail ∧ RelMapFit sr')
    (fun ⟨_, _, _, _, _⟩ hfit => ⟨[], by simp, by simp, hfit⟩)
    (fun ⟨_, _, _, _, _⟩ ⟨_, _, _, _, _⟩ ⟨_, _, _, _, _⟩ h1 h2 hfit => by
      obtain ⟨ps1, rfl, b1, f1⟩ := h1 hfit
      obtain ⟨ps2, rfl, b2, f2⟩ := h2 f1
      dsimp only at b1 b2 ⊢
      exact ⟨ps1 ++ ps2, List.append_assoc .., by rw [payloadSum_append]; omega, f2⟩)
    now
    (fun sr _ _ seq avail ch s hs hfit => ⟨_, rfl, SendRel.getPackets_budget (tuple4_eta _) (hfit ch s hs),
      SMap.forall_find?_insert (fun ch s _ => hfit ch s) (SendRel.getPackets_fit s seq avail now (hfit ch s hs))⟩)
    (fun _ _ _ _ _ _ _ _ hfit => ⟨_, rfl, SendUnrel.getPackets_budget (tuple4_eta _), hfit⟩) order _ _ h hfit

theorem chanLoop_append (now : Nat) : ∀ (a b : List (Bool × Nat)) (st : ChanSt),
    Conn.chanLoop now (a ++ b) st = (Conn.chanLoop now a st >>= Conn.chanLoop now b) := by
  intro a
  induction a with
  | nil => intro b st; simp [Conn.chanLoop]
  | cons x rest ih =>
    intro b st
    obtain ⟨rel, ch⟩ := x
    obtain ⟨sr, su, pk, seq, avail⟩ := st
    cases rel with
    | true =>
      rw [List.cons_append, chanLoop_rel_step, chanLoop_rel_step]
      split
      · rfl
      · exact ih _ _
    | false =>
      rw [List.cons_append, chanLoop_unrel_step, chanLoop_unrel_step]
      split
      · rfl
      · exact ih _ _

theorem finishRel_packets (ch : Nat) (g : GP) :
    (finishRel ch g).packets = g.packets ∨ (finishRel ch g).packets = g.packets ++ [Packet.smallReliable g.seq ch g.small] := by
  unfold finishRel; split
  · exact Or.inl rfl
  · exact Or.inr rfl

/-- every small message in the accumulator and every packet comes from an item of `T` -/
def PackOK (ch : Nat) (T : List Tx) (g : GP) : Prop :=
  (∀ x ∈ g.small, .small x.1 x.2 ∈ T) ∧
  ∀ p ∈ g.packets, (∃ sq msgs, p = Packet.smallReliable sq ch msgs ∧ ∀ x ∈ msgs, .small x.1 x.2 ∈ T) ∨
    ∃ sq id m n i, p = Packet.reliableSlice sq ch ⟨id, i, n, sliceBytes m n i⟩ ∧ .slice id m n i ∈ T

theorem PackOK.flushSmall {ch : Nat} {T : List Tx} {g : GP} (h : PackOK ch T g) : PackOK ch T (flushSmall ch g) :=
  ⟨fun _ hx => (nomatch hx), fun p hp => (List.mem_append.mp hp).elim (h.2 p)
    fun hp => Or.inl ⟨_, _, List.mem_singleton.mp hp, h.1⟩⟩

theorem PackOK.step {ch : Nat} {T : List Tx} {g : GP} (h : PackOK ch T g) : ∀ {t : Tx}, t ∈ T → PackOK ch T (packStep ch g t)
  | .small id m, ht => by
    have push : ∀ g', PackOK ch T g' → PackOK ch T (pushSmall id m g') := fun g' h' =>
      ⟨fun x hx => (List.mem_append.mp hx).elim (h'.1 x) fun hx => by rw [List.mem_singleton.mp hx]; exact ht, h'.2⟩
    show PackOK ch T (takeSmall ch id m g)
    unfold takeSmall
    split
    · exact push _ (PackOK.flushSmall (g := charge m.length g) h)
    · exact push (charge m.length g) h
  | .slice id m n i, ht =>
    ⟨h.1, fun p hp => (List.mem_append.mp hp).elim (h.2 p)
      fun hp => Or.inr ⟨_, id, m, n, i, List.mem_singleton.mp hp, ht⟩⟩

theorem packOK_scan (ch : Nat) (T : List Tx) (seq avail : Nat) :
    PackOK ch T (finishRel ch (T.foldl (packStep ch) ⟨[], [], 0, seq, avail⟩)) :=
  finishRel_inv (fun _ hg => hg.flushSmall) (pack_inv (I := PackOK ch T) T (fun _ _ ht hg => hg.step ht)
    ⟨fun _ hx => (by cases hx), fun _ hp => (by cases hp)⟩)

/-- Everything one reliable flush emits, described against the `unacked` map before (`s`) and after (`s'`):
    * a small-message packet of this channel: every `(id, payload)` in it is a due `Small` entry of `unacked`,
      stamped `now` afterwards;
    * a slice packet of this channel: slice `i < n` of a `Sliced` entry of `unacked`, not yet acked, due,
      stamped `now` afterwards. -/
theorem SendRel.getPackets_emitted {s s' : SendRel} {seq avail now seq' avail' : Nat} {ps : List Packet}
    (h : s.getPackets seq avail now = (s', ps, seq', avail')) :
    ∀ p ∈ ps,
      (∃ sq msgs, p = Packet.smallReliable sq s.ch msgs ∧
        ∀ x ∈ msgs, ∃ ls, (x.1, Unacked.small x.2 ls) ∈ s.unacked ∧ smallDue now s.resend ls = true ∧
          (x.1, Unacked.small x.2 (some now)) ∈ s'.unacked) ∨
      (∃ sq id i m n na nx ak ls nx' ls', p = Packet.reliableSlice sq s.ch ⟨id, i, n, sliceBytes m n i⟩ ∧
        (id, Unacked.sliced m n na nx ak ls) ∈ s.unacked ∧ i < n ∧ ak.getD i false = false ∧
        smallDue now s.resend (ls.getD i none) = true ∧
        (id, Unacked.sliced m n na nx' ak ls') ∈ s'.unacked ∧
        (i < ls.length → ls'.getD i none = some now)) := by
  rw [SendRel.getPackets_scan] at h
  cases h
  intro p hp
  rcases (packOK_scan s.ch _ seq avail).2 p hp with ⟨sq, msgs, rfl, hm⟩ | ⟨sq, id, m, n, i, rfl, ht⟩
  · refine Or.inl ⟨sq, msgs, rfl, fun x hx => ?_⟩
    obtain ⟨id, u, a', hu, ht, hs⟩ := mem_greedy_relCands (hm x hx)
    cases u with
    | small m ls =>
      have hc := mem_greedy ht
      rw [Unacked.cands, List.mem_singleton, Prod.mk.injEq, Tx.small.injEq] at hc
      obtain ⟨⟨rfl, rfl⟩, hd⟩ := hc
      refine ⟨ls, hu, hd.symm, ?_⟩
      rw [Unacked.sent, if_neg (by intro c; rw [List.isEmpty_iff.mp c] at ht; cases ht)] at hs
      exact hs
    | sliced m n na nx ak ls =>
      obtain ⟨i0, -, e, -⟩ := mem_sliceCands (mem_greedy ht)
      cases e
  · refine Or.inr ?_
    obtain ⟨id', u, a', hu, ht, hs⟩ := mem_greedy_relCands ht
    cases u with
    | small m' ls =>
      have hc := mem_greedy ht
      rw [Unacked.cands, List.mem_singleton, Prod.mk.injEq] at hc
      cases hc.1
    | sliced m' n' na nx ak ls =>
      obtain ⟨i0, hi0, e, h1, h2⟩ := mem_sliceCands (mem_greedy ht)
      cases e
      have hn : 0 < n := Nat.lt_of_le_of_lt (Nat.zero_le _) (List.mem_range.mp hi0)
      exact ⟨sq, id, _, m, n, na, nx, ak, ls, _, _, rfl, hu, Nat.mod_lt _ hn, h1, h2, hs,
        fun hl => getD_foldl_set_mem (some now) none ht hl⟩

/-- what a packet of reliable channel `ch` may carry, relative to an `unacked` map -/
def GenuineRel (ch : Nat) (un : SMap Unacked) : Packet → Prop
  | .smallReliable _ c msgs => c = ch ∧ ∀ x ∈ msgs, ∃ ls, (x.1, Unacked.small x.2 ls) ∈ un
  | .reliableSlice _ c sl => c = ch ∧ ∃ m na nx ak ls, (sl.messageId, Unacked.sliced m sl.numSlices na nx ak ls) ∈ un ∧
      sl.sliceIndex < sl.numSlices ∧ sl.payload = sliceBytes m sl.numSlices sl.sliceIndex
  | _ => False

/-- the same with `find?` (what an ack-processing step looks up) -/
def GenuineRelFind (ch : Nat) (un : SMap Unacked) : Packet → Prop
  | .smallReliable _ c msgs => c = ch ∧ ∀ x ∈ msgs, ∃ ls, SMap.find? un x.1 = some (Unacked.small x.2 ls)
  | .reliableSlice _ c sl => c = ch ∧ ∃ m na nx ak ls, SMap.find? un sl.messageId = some (Unacked.sliced m sl.numSlices na nx ak ls) ∧
      sl.sliceIndex < sl.numSlices ∧ sl.payload = sliceBytes m sl.numSlices sl.sliceIndex
  | _ => False

/-- Genuineness: a reliable flush emits only small-message packets whose every `(id, payload)` is a `Small` entry of
    `unacked`, and slice packets that are slice `i < n` of a `Sliced` entry of `unacked` — nothing else.  In
    particular a message that an ack removed from `unacked` is never emitted again. -/
theorem SendRel.getPackets_genuine {s s' : SendRel} {seq avail now seq' avail' : Nat} {ps : List Packet}
    (h : s.getPackets seq avail now = (s', ps, seq', avail')) : ∀ p ∈ ps, GenuineRel s.ch s.unacked p := by
  intro p hp
  rcases SendRel.getPackets_emitted h p hp with ⟨sq, msgs, rfl, h1⟩ | ⟨sq, id, i, m, n, na, nx, ak, ls, nx', ls', rfl, h1, h2, _⟩
  · exact ⟨rfl, fun x hx => (h1 x hx).imp fun ls h => h.1⟩
  · exact ⟨rfl, m, na, nx, ak, ls, h1, h2, rfl⟩

theorem relLoop_genuine (ch now resend : Nat) (un : SMap Unacked) (seq avail : Nat) :
    ∀ p ∈ (finishRel ch (relLoop ch now resend un ⟨[], [], 0, seq, avail⟩).2).packets, GenuineRel ch un p := by
  have := SendRel.getPackets_genuine (s := ⟨ch, un, 0, resend, 0, 0⟩) (seq := seq) (avail := avail) (now := now)
    (SendRel.getPackets_eq _ seq avail now)
  exact this

theorem varintLen_eq (v : Nat) : (Varint.enc v).length = varintLen v := by
  simp only [varintLen, Varint.enc, Varint.len?, apply_ite List.length, Varint.beBytes_length, apply_ite (Option.getD · 8),
    Option.getD_some, Option.getD_none, ite_self]

/-- the steps by `if_pos`/`if_neg`: splitting the nested `if` at once is slow to check -/
theorem varintLen_bounds (v : Nat) : 1 ≤ varintLen v ∧ varintLen v ≤ 8 := by
  unfold varintLen Varint.len?
  by_cases h1 : v ≤ 63
  · rw [if_pos h1]; decide
  · rw [if_neg h1]
    by_cases h2 : v ≤ 16383
    · rw [if_pos h2]; decide
    · rw [if_neg h2]
      by_cases h3 : v ≤ 1073741823
      · rw [if_pos h3]; decide
      · rw [if_neg h3]
        by_cases h4 : v ≤ Varint.MAX
        · rw [if_pos h4]; decide
        · rw [if_neg h4]; decide

theorem varintLen_le (v : Nat) : varintLen v ≤ 8 := (varintLen_bounds v).2

theorem varintLen_pos (v : Nat) : 1 ≤ varintLen v := (varintLen_bounds v).1

theorem varintLen_small (v : Nat) (h : v ≤ 16383) : varintLen v ≤ 2 := by
  unfold varintLen Varint.len?; split
  · simp
  · simp

def relSerSum (l : List (Nat × Bytes)) : Nat := (l.map (fun x => relSer x.1 x.2)).sum
def unrelSerSum (l : List Bytes) : Nat := (l.map unrelSer).sum

@[simp] theorem relSerSum_nil : relSerSum [] = 0 := rfl
@[simp] theorem relSerSum_append (a b : List (Nat × Bytes)) : relSerSum (a ++ b) = relSerSum a + relSerSum b := by
  simp [relSerSum, List.sum_append]
@[simp] theorem unrelSerSum_nil : unrelSerSum [] = 0 := rfl
@[simp] theorem unrelSerSum_append (a b : List Bytes) : unrelSerSum (a ++ b) = unrelSerSum a + unrelSerSum b := by
  simp [unrelSerSum, List.sum_append]

theorem relSerSum_ge (l : List (Nat × Bytes)) : 2 * l.length ≤ relSerSum l := by
  induction l with
  | nil => simp
  | cons x r ih =>
    have h1 := varintLen_pos x.2.length
    have h2 := varintLen_pos x.1
    simp only [relSerSum, List.map_cons, List.sum_cons, List.length_cons, relSer] at *
    omega

theorem unrelSerSum_ge (l : List Bytes) : l.length ≤ unrelSerSum l := by
  induction l with
  | nil => simp
  | cons x r ih =>
    have h1 := varintLen_pos x.length
    simp only [unrelSerSum, List.map_cons, List.sum_cons, List.length_cons, unrelSer] at *
    omega

theorem smallRelBytes_length : ∀ msgs : List (Nat × Bytes), (smallRelBytes msgs).length = relSerSum msgs
  | [] => rfl
  | (id, m) :: r => by
    simp only [smallRelBytes, List.length_append, varintLen_eq, smallRelBytes_length r, relSerSum, List.map_cons,
      List.sum_cons, relSer]
    omega

theorem smallUnrelBytes_length : ∀ msgs : List Bytes, (smallUnrelBytes msgs).length = unrelSerSum msgs
  | [] => rfl
  | m :: r => by
    simp only [smallUnrelBytes, List.length_append, varintLen_eq, smallUnrelBytes_length r, unrelSerSum, List.map_cons,
      List.sum_cons, unrelSer]
    omega

theorem ackRestBytes_length_le : ∀ (d : List AckRange) (prev : Nat), (ackRestBytes prev d).length ≤ 16 * d.length
  | [], _ => Nat.le_refl _
  | (s, e) :: d, prev => by
    have := ackRestBytes_length_le d s
    have a1 := varintLen_le (prev - e - 1)
    have a2 := varintLen_le (e - 1 - s)
    simp only [ackRestBytes, List.length_append, varintLen_eq, List.length_cons]
    omega

/-- the size of the encoding as a flush accounts for it: exact for a data packet (type, sequence number, channel, then
    count and `relSerSum` / `unrelSerSum` of the messages, resp. the slice header and payload); for an ack packet with `k`
    ranges the bound `1 + 8 + 8 + 8 + 8 + 16 (k - 1)` -/
def Packet.encLen : Packet → Nat
  | .smallReliable seq _ msgs => 1 + varintLen seq + 1 + 2 + relSerSum msgs
  | .smallUnreliable seq _ msgs => 1 + varintLen seq + 1 + 2 + unrelSerSum msgs
  | .reliableSlice seq _ sl | .unreliableSlice seq _ sl =>
    1 + varintLen seq + 1 + varintLen sl.messageId + varintLen sl.sliceIndex + varintLen sl.numSlices +
      varintLen sl.payload.length + sl.payload.length
  | .ack _ ranges => 1 + 8 + 8 + 8 + 8 + 16 * (ranges.length - 1)

theorem Packet.bytes_length_le : ∀ p : Packet, p.bytes.length ≤ p.encLen
  | .smallReliable seq ch msgs => by
    simp only [Packet.bytes, Packet.encLen, List.length_append, varintLen_eq, smallRelBytes_length, u16be, List.length_cons,
      List.length_nil]
    omega
  | .smallUnreliable seq ch msgs => by
    simp only [Packet.bytes, Packet.encLen, List.length_append, varintLen_eq, smallUnrelBytes_length, u16be,
      List.length_cons, List.length_nil]
    omega
  | .reliableSlice seq ch sl | .unreliableSlice seq ch sl => by
    simp only [Packet.bytes, Packet.encLen, Slice.bytes, List.length_append, varintLen_eq, List.length_cons,
      List.length_nil]
    omega
  | .ack seq ranges => by
    have hrl : ranges.reverse.length = ranges.length := List.length_reverse
    simp only [Packet.bytes, Packet.encLen]
    cases hr : ranges.reverse with
    | nil => exact Nat.zero_le _
    | cons x d =>
      obtain ⟨ls, le⟩ := x
      rw [hr, List.length_cons] at hrl
      have := ackRestBytes_length_le d ls
      have a1 := varintLen_le seq
      have a2 := varintLen_le (le - 1)
      have a3 := varintLen_le (le - 1 - ls)
      have a4 := varintLen_le d.length
      simp only [List.length_append, varintLen_eq, List.length_cons, List.length_nil]
      omega

theorem Packet.Encodable.enc_le {p : Packet} (h : p.Encodable) : ∃ b, p.enc = .ok b ∧ b.length ≤ p.encLen :=
  ⟨p.bytes, Packet.enc_ok_iff.2 ⟨h, rfl⟩, p.bytes_length_le⟩

/-- well-formedness of one `unacked` entry as `send_message` creates it (`m.length ≤ 2^62-1` stands for "the length
    is a machine integer the wire format can carry") -/
def Unacked.WF : Unacked → Prop
  | .small m _ => m.length ≤ SLICE_SIZE
  | .sliced m n _ _ ak ls =>
    n = divCeil m.length SLICE_SIZE ∧ 0 < m.length ∧ m.length ≤ Varint.MAX ∧ ak.length = n ∧ ls.length = n

structure SendRel.WF (s : SendRel) : Prop where
  nodup : (SMap.keys s.unacked).Nodup
  ids : ∀ id u, (id, u) ∈ s.unacked → id < s.nextId
  entries : ∀ id u, (id, u) ∈ s.unacked → u.WF

theorem SendRel.WF.fit {s : SendRel} (h : s.WF) : SlicedFit s.unacked := by
  intro id m n na nx ak ls hm
  obtain ⟨rfl, _⟩ := h.entries _ _ hm
  exact divCeil_mul_ge _

theorem SendRel.WF.slices_le {s : SendRel} (h : s.WF) (hl : ∀ x ∈ s.unacked, x.2.msg.length ≤ MAX_NUM_SLICES * SLICE_SIZE) :
    ∀ id m n na nx ak ls, (id, Unacked.sliced m n na nx ak ls) ∈ s.unacked → n ≤ MAX_NUM_SLICES := by
  intro id m n na nx ak ls hm
  obtain ⟨rfl, _⟩ := h.entries _ _ hm
  exact divCeil_le_max (hl _ hm)

def SmallAcc (g : GP) : Prop :=
  g.smallBytes = relSerSum g.small ∧ g.smallBytes ≤ SLICE_SIZE + 10 ∧
  ∀ p ∈ g.packets, ∀ sq c msgs, p = Packet.smallReliable sq c msgs → relSerSum msgs ≤ SLICE_SIZE + 10

theorem SmallAcc_flushSmall (ch : Nat) (g : GP) (h : SmallAcc g) : SmallAcc (flushSmall ch g) := by
  obtain ⟨h1, h2, h3⟩ := h
  refine ⟨rfl, by simp [flushSmall], ?_⟩
  intro p hp sq c msgs e
  simp only [flushSmall, List.mem_append, List.mem_singleton] at hp
  rcases hp with hp | hp
  · exact h3 p hp sq c msgs e
  · rw [hp] at e; cases e; omega

theorem relSer_le (id : Nat) (m : Bytes) (h : m.length ≤ SLICE_SIZE) : relSer id m ≤ SLICE_SIZE + 10 := by
  have h1 := varintLen_small m.length (by unfold SLICE_SIZE at h; omega)
  have h2 := varintLen_le id
  unfold relSer; omega

theorem SmallAcc_takeSmall (ch id : Nat) (m : Bytes) (g : GP) (hm : m.length ≤ SLICE_SIZE) (h : SmallAcc g) :
    SmallAcc (takeSmall ch id m g) := by
  have hser := relSer_le id m hm
  unfold takeSmall
  split
  · obtain ⟨h1, h2, h3⟩ := SmallAcc_flushSmall ch (charge m.length g) h
    refine ⟨?_, ?_, h3⟩
    · simp only [pushSmall, relSerSum_append, h1]; simp [relSerSum]
    · simp only [pushSmall, flushSmall]; omega
  · next hc =>
    obtain ⟨h1, h2, h3⟩ := h
    refine ⟨?_, ?_, h3⟩
    · simp only [pushSmall, charge, relSerSum_append, h1]; simp [relSerSum]
    · simp only [pushSmall, charge] at *; omega

theorem SmallAcc_sliceStep (ch id : Nat) (msg : Bytes) (n i : Nat) (g : GP) (h : SmallAcc g) :
    SmallAcc (sliceStep ch id msg n i g) := by
  obtain ⟨h1, h2, h3⟩ := h
  refine ⟨h1, h2, ?_⟩
  intro p hp sq c msgs e
  simp only [sliceStep, List.mem_append, List.mem_singleton] at hp
  rcases hp with hp | hp
  · exact h3 p hp sq c msgs e
  · rw [hp] at e; cases e

theorem SendRel.getPackets_seq_le {s s' : SendRel} {seq avail now seq' avail' B : Nat} {ps : List Packet}
    (h : s.getPackets seq avail now = (s', ps, seq', avail')) (hseq : seq' ≤ B + 1) : ∀ p ∈ ps, p.sequence ≤ B :=
  fun p hp => Nat.le_of_lt_succ (Nat.lt_of_lt_of_le (Numbered.bounds (SendRel.getPackets_seq h) p hp).2 hseq)

theorem SendRel.getPackets_acc {s s' : SendRel} {seq avail now seq' avail' : Nat} {ps : List Packet}
    (h : s.getPackets seq avail now = (s', ps, seq', avail')) (hwf : s.WF) :
    ∀ p ∈ ps, ∀ sq c msgs, p = Packet.smallReliable sq c msgs → relSerSum msgs ≤ SLICE_SIZE + 10 := by
  rw [SendRel.getPackets_scan] at h
  cases h
  refine (finishRel_inv (SmallAcc_flushSmall s.ch) (pack_inv _ ?_ ⟨rfl, by simp, by simp⟩)).2.2
  intro g t ht hg
  cases t with
  | small id m =>
    obtain ⟨ls, hm⟩ := mem_relCands_small (mem_greedy ht)
    exact SmallAcc_takeSmall s.ch id m g (hwf.entries _ _ hm) hg
  | slice id m n i => exact SmallAcc_sliceStep s.ch id m n i g hg

theorem SendRel.WF.smallRelWF {s : SendRel} (hwf : s.WF) (hid : s.nextId ≤ Varint.MAX + 1) {msgs : List (Nat × Bytes)}
    (h : ∀ x ∈ msgs, ∃ ls, (x.1, Unacked.small x.2 ls) ∈ s.unacked) : SmallRelWF msgs := by
  intro x hx
  obtain ⟨ls, hmem⟩ := h x hx
  have a := hwf.ids _ _ hmem
  have b : x.2.length ≤ SLICE_SIZE := hwf.entries _ _ hmem
  unfold SLICE_SIZE at b; unfold Varint.MAX at *
  exact ⟨by omega, by omega⟩

def smallPacketBound : Nat := 12 + SLICE_SIZE + 10
def slicePacketBound : Nat := 1 + 8 + 1 + 8 + 8 + 8 + 2 + SLICE_SIZE

/-- C13, reliable channel: with counters in varint range, every packet of a flush encodes without panic; a
    small-message packet takes at most `12 + SLICE_SIZE + 10` bytes, a slice packet at most
    `1 + 8 + 1 + 8 + 8 + 8 + 2 + SLICE_SIZE`. -/
theorem SendRel.getPackets_sizes {s s' : SendRel} {seq avail now seq' avail' : Nat} {ps : List Packet}
    (h : s.getPackets seq avail now = (s', ps, seq', avail')) (hwf : s.WF)
    (hid : s.nextId ≤ Varint.MAX + 1) (hseq : seq' ≤ Varint.MAX + 1) :
    ∀ p ∈ ps, ∃ b, p.enc = .ok b ∧
      ((∃ sq msgs, p = Packet.smallReliable sq s.ch msgs ∧ b.length ≤ smallPacketBound) ∨
       (∃ sq sl, p = Packet.reliableSlice sq s.ch sl ∧ b.length ≤ slicePacketBound)) := by
  intro p hp
  have hsq := SendRel.getPackets_seq_le h hseq p hp
  have hem := SendRel.getPackets_emitted h p hp
  have hacc := SendRel.getPackets_acc h hwf p hp
  rcases hem with ⟨sq, msgs, rfl, h1⟩ | ⟨sq, id, i, m, n, na, nx, ak, ls, nx', ls', rfl, h1, h2, _⟩
  · obtain ⟨b, hb, hl⟩ := Packet.Encodable.enc_le (p := .smallReliable sq s.ch msgs)
      ⟨hsq, hwf.smallRelWF hid fun x hx => (h1 x hx).imp fun _ h => h.1⟩
    refine ⟨b, hb, Or.inl ⟨sq, msgs, rfl, ?_⟩⟩
    have := hacc sq s.ch msgs rfl
    have := varintLen_le sq
    simp only [Packet.encLen] at hl; unfold smallPacketBound; omega
  · have a := hwf.ids _ _ h1
    obtain ⟨hn, hpos, hmax, _, _⟩ := hwf.entries _ _ h1
    have hle := sliceBytes_length_le m n i (by rw [hn]; exact divCeil_mul_ge _)
    have hnle : n ≤ m.length := by rw [hn]; exact divCeil_le _
    obtain ⟨b, hb, hl⟩ := Packet.Encodable.enc_le (p := .reliableSlice sq s.ch ⟨id, i, n, sliceBytes m n i⟩)
      ⟨hsq, by simp only; omega, by simp only; omega, by simp only; omega,
        by simp only; unfold SLICE_SIZE at hle; unfold Varint.MAX; omega⟩
    refine ⟨b, hb, Or.inr ⟨sq, _, rfl, ?_⟩⟩
    have b1 := varintLen_le sq
    have b2 := varintLen_le id
    have b3 := varintLen_le i
    have b4 := varintLen_le n
    have b5 := varintLen_small (sliceBytes m n i).length (by unfold SLICE_SIZE at hle; omega)
    simp only [Packet.encLen] at hl; unfold slicePacketBound; omega

/-- … and, when no message needs more than `MAX_NUM_SLICES` slices (1.2 GB), every packet of a reliable flush is
    well-formed in the sense of the round-trip theorem (C16): the receiver decodes exactly what was sent. -/
theorem SendRel.getPackets_wf {s s' : SendRel} {seq avail now seq' avail' : Nat} {ps : List Packet}
    (h : s.getPackets seq avail now = (s', ps, seq', avail')) (hwf : s.WF) (hch : s.ch < 256)
    (hid : s.nextId ≤ Varint.MAX + 1) (hseq : seq' ≤ Varint.MAX + 1)
    (hbig : ∀ id m n na nx ak ls, (id, Unacked.sliced m n na nx ak ls) ∈ s.unacked → n ≤ MAX_NUM_SLICES) :
    ∀ p ∈ ps, p.WF := by
  intro p hp
  have hsq := SendRel.getPackets_seq_le h hseq p hp
  have hacc := SendRel.getPackets_acc h hwf p hp
  rcases SendRel.getPackets_emitted h p hp with ⟨sq, msgs, rfl, h1⟩ | ⟨sq, id, i, m, n, na, nx, ak, ls, nx', ls', rfl, h1, h2, _⟩
  · refine ⟨hsq, hch, ?_, hwf.smallRelWF hid fun x hx => (h1 x hx).imp fun _ h => h.1⟩
    have := hacc sq s.ch msgs rfl
    have := relSerSum_ge msgs
    unfold SLICE_SIZE at *; omega
  · have a := hwf.ids _ _ h1
    obtain ⟨hn, hpos, hmax, _, _⟩ := hwf.entries _ _ h1
    have hle := sliceBytes_length_le m n i (by rw [hn]; exact divCeil_mul_ge _)
    have hnle : n ≤ m.length := by rw [hn]; exact divCeil_le _
    have hp1 : 0 < (sliceBytes m n i).length := by
      subst hn; exact sliceBytes_length_pos m i hpos h2
    exact ⟨hsq, hch, by simp only; omega, by simp only; omega, by simp only; omega,
      hbig id m n na nx ak ls h1, hp1, hle⟩

def UnrelPktOK (ch : Nat) (q : List Bytes) (sid0 sid : Nat) (all : List Packet) : Packet → Prop
  | .smallUnreliable _ c msgs => c = ch ∧ unrelSerSum msgs ≤ SLICE_SIZE + 2 ∧ ∀ x ∈ msgs, x ∈ q ∧ x.length ≤ SLICE_SIZE
  | .unreliableSlice _ c sl => c = ch ∧ sid0 ≤ sl.messageId ∧ sl.messageId < sid ∧
      ∃ m ∈ q, SLICE_SIZE < m.length ∧ sl.numSlices = divCeil m.length SLICE_SIZE ∧ sl.sliceIndex < sl.numSlices ∧
        sl.payload = sliceBytes m sl.numSlices sl.sliceIndex ∧
        ∀ j, j < sl.numSlices →
          ∃ sq, Packet.unreliableSlice sq ch ⟨sl.messageId, j, sl.numSlices, sliceBytes m sl.numSlices j⟩ ∈ all
  | _ => False

theorem UnrelPktOK.mono {ch : Nat} {q : List Bytes} {sid0 sid sid' : Nat} {all all' : List Packet} {p : Packet}
    (h : UnrelPktOK ch q sid0 sid all p) (hs : sid ≤ sid') (ha : ∀ x ∈ all, x ∈ all') : UnrelPktOK ch q sid0 sid' all' p := by
  cases p with
  | smallUnreliable sq c msgs => exact h
  | unreliableSlice sq c sl =>
    obtain ⟨h1, h2, h3, m, hm, h4, h5, h6, h7, h8⟩ := h
    refine ⟨h1, h2, by omega, m, hm, h4, h5, h6, h7, ?_⟩
    intro j hj
    obtain ⟨sq', hsq⟩ := h8 j hj
    exact ⟨sq', ha _ hsq⟩
  | smallReliable _ _ _ => exact h
  | reliableSlice _ _ _ => exact h
  | ack _ _ => exact h

/-- the message a sliced-message id of this flush stands for: `T` lists the sliced messages in the order of their ids,
    from `sid0` on (so all slices under one id are cut from one message) -/
def UnrelSliceOf (sid0 : Nat) (T : List Bytes) : Packet → Prop
  | .unreliableSlice _ _ sl => ∃ m, T[sl.messageId - sid0]? = some m ∧ sl.numSlices = divCeil m.length SLICE_SIZE ∧
      sl.payload = sliceBytes m sl.numSlices sl.sliceIndex
  | _ => True

theorem UnrelSliceOf.append {sid0 : Nat} {T : List Bytes} (x : Bytes) : ∀ {p : Packet}, UnrelSliceOf sid0 T p → UnrelSliceOf sid0 (T ++ [x]) p
  | .unreliableSlice _ _ sl, ⟨m, h1, h2⟩ =>
    ⟨m, by rw [List.getElem?_append_left (List.getElem?_eq_some_iff.mp h1).1]; exact h1, h2⟩
  | .smallUnreliable .., _ => trivial
  | .smallReliable .., _ => trivial
  | .reliableSlice .., _ => trivial
  | .ack .., _ => trivial

/-- the loop of one unreliable flush, with the messages `T` it has cut into slices so far -/
def UnrelInv (ch : Nat) (q : List Bytes) (sid0 : Nat) (T : List Bytes) (g : GPU) : Prop :=
  g.smallBytes = unrelSerSum g.small ∧ g.smallBytes ≤ SLICE_SIZE + 2 ∧ (∀ x ∈ g.small, x ∈ q ∧ x.length ≤ SLICE_SIZE) ∧
  g.slicedId = sid0 + T.length ∧ (∀ m ∈ T, m ∈ q ∧ SLICE_SIZE < m.length) ∧
  ∀ p ∈ g.packets, UnrelPktOK ch q sid0 g.slicedId g.packets p ∧ UnrelSliceOf sid0 T p

theorem UnrelInv_flushUnrel (ch : Nat) (q : List Bytes) (sid0 : Nat) (T : List Bytes) (g : GPU) (h : UnrelInv ch q sid0 T g) :
    UnrelInv ch q sid0 T (flushUnrel ch g) := by
  obtain ⟨h1, h2, h3, h4, hT, h5⟩ := h
  refine ⟨rfl, by simp [flushUnrel], by simp [flushUnrel], h4, hT, ?_⟩
  intro p hp
  simp only [flushUnrel, List.mem_append, List.mem_singleton] at hp
  rcases hp with hp | rfl
  · exact ⟨(h5 p hp).1.mono (Nat.le_refl _) (fun x hx => List.mem_append_left _ hx), (h5 p hp).2⟩
  · exact ⟨⟨rfl, by omega, h3⟩, trivial⟩

theorem unrelSer_le (m : Bytes) (h : m.length ≤ SLICE_SIZE) : unrelSer m ≤ SLICE_SIZE + 2 := by
  have h1 := varintLen_small m.length (by unfold SLICE_SIZE at h; omega)
  unfold unrelSer; omega

theorem UnrelInv_unrelSmall (ch : Nat) (q : List Bytes) (sid0 : Nat) (T : List Bytes) (m : Bytes) (g : GPU) (hq : m ∈ q)
    (hm : m.length ≤ SLICE_SIZE) (h : UnrelInv ch q sid0 T g) : UnrelInv ch q sid0 T (unrelSmall ch m g) := by
  have hser := unrelSer_le m hm
  have hc : UnrelInv ch q sid0 T (chargeU m g) := h
  unfold unrelSmall
  split
  · obtain ⟨h1, h2, h3, h4, hT, h5⟩ := UnrelInv_flushUnrel ch q sid0 T (chargeU m g) hc
    refine ⟨?_, ?_, ?_, h4, hT, h5⟩
    · simp only [pushUnrel, unrelSerSum_append, h1]; simp [unrelSerSum]
    · simp only [pushUnrel, flushUnrel]; omega
    · intro x hx
      simp only [pushUnrel, List.mem_append, List.mem_singleton] at hx
      rcases hx with hx | rfl
      · exact h3 x hx
      · exact ⟨hq, hm⟩
  · next hcnd =>
    obtain ⟨h1, h2, h3, h4, hT, h5⟩ := hc
    refine ⟨?_, ?_, ?_, h4, hT, h5⟩
    · simp only [pushUnrel, unrelSerSum_append, h1]; simp [unrelSerSum]
    · simp only [pushUnrel, chargeU] at *; omega
    · intro x hx
      simp only [pushUnrel, List.mem_append, List.mem_singleton] at hx
      rcases hx with hx | rfl
      · exact h3 x hx
      · exact ⟨hq, hm⟩

theorem UnrelInv_unrelSliced (ch : Nat) (q : List Bytes) (sid0 : Nat) (T : List Bytes) (m : Bytes) (g : GPU) (hq : m ∈ q)
    (hm : SLICE_SIZE < m.length) (h : UnrelInv ch q sid0 T g) : UnrelInv ch q sid0 (T ++ [m]) (unrelSliced ch m g) := by
  obtain ⟨h1, h2, h3, h4, hT, h5⟩ := h
  refine ⟨h1, h2, h3, by simp only [unrelSliced, List.length_append, List.length_singleton]; omega, ?_, ?_⟩
  · intro x hx
    rcases List.mem_append.mp hx with hx | hx
    · exact hT x hx
    · rw [List.mem_singleton.mp hx]; exact ⟨hq, hm⟩
  intro p hp
  simp only [unrelSliced, List.mem_append] at hp
  rcases hp with hp | hp
  · exact ⟨(h5 p hp).1.mono (by simp only [unrelSliced]; omega) (fun x hx => by
      simp only [unrelSliced]; exact List.mem_append_left _ hx), (h5 p hp).2.append m⟩
  · obtain ⟨i, hi, sq, rfl⟩ := mem_unrelSlices hp
    refine ⟨⟨rfl, by dsimp only; omega, by simp only [unrelSliced]; omega, m, hq, hm, rfl, List.mem_range.mp hi, rfl, ?_⟩,
      m, by dsimp only; rw [h4, Nat.add_sub_cancel_left, List.getElem?_concat_length], rfl, rfl⟩
    intro j hj
    obtain ⟨sq', hsq⟩ := unrelSlices_complete ch g.slicedId m (divCeil m.length SLICE_SIZE)
      (List.range (divCeil m.length SLICE_SIZE)) g.seq j (List.mem_range.mpr hj)
    exact ⟨sq', by simp only [unrelSliced]; exact List.mem_append_right _ hsq⟩

theorem unrelLoop_inv (ch : Nat) (q : List Bytes) (sid0 : Nat) (g : GPU) {T : List Bytes} (h : UnrelInv ch q sid0 T g) :
    ∃ T', UnrelInv ch q sid0 T' (unrelLoop ch q g) := by
  refine unrelLoop_rel (fun g g' => ∀ T, UnrelInv ch q sid0 T g → ∃ T', UnrelInv ch q sid0 T' g') (fun _ T h => ⟨T, h⟩)
    (fun _ _ _ h1 h2 T h => let ⟨T1, u1⟩ := h1 T h; h2 T1 u1) ch q g ?_ ?_ ?_ T h
  · intro g m _ _ T h; exact ⟨T, h⟩
  · intro g m hm _ h2 T h; exact ⟨_, UnrelInv_unrelSliced ch q sid0 T m g hm h2 h⟩
  · intro g m hm _ h2 T h; exact ⟨T, UnrelInv_unrelSmall ch q sid0 T m g hm h2 h⟩

theorem UnrelInv_finishUnrel (ch : Nat) (q : List Bytes) (sid0 : Nat) (T : List Bytes) (g : GPU) (h : UnrelInv ch q sid0 T g) :
    ∀ p ∈ (finishUnrel ch g).packets,
      UnrelPktOK ch q sid0 (finishUnrel ch g).slicedId (finishUnrel ch g).packets p ∧ UnrelSliceOf sid0 T p := by
  unfold finishUnrel; split
  · exact h.2.2.2.2.2
  · exact (UnrelInv_flushUnrel ch q sid0 T g h).2.2.2.2.2

theorem SendUnrel.getPackets_log (s : SendUnrel) (seq avail : Nat) :
    ∃ T, (s.getPackets seq avail).1.slicedId = s.slicedId + T.length ∧ (∀ m ∈ T, m ∈ s.queue ∧ SLICE_SIZE < m.length) ∧
      ∀ p ∈ (s.getPackets seq avail).2.1,
        UnrelPktOK s.ch s.queue s.slicedId (s.getPackets seq avail).1.slicedId (s.getPackets seq avail).2.1 p ∧
          UnrelSliceOf s.slicedId T p := by
  rw [SendUnrel.getPackets_eq]
  obtain ⟨T, hinv⟩ := unrelLoop_inv s.ch s.queue s.slicedId ⟨[], [], 0, seq, avail, s.slicedId, s.mem⟩ (T := [])
    ⟨rfl, by simp, by simp, rfl, by simp, by simp⟩
  refine ⟨T, ?_, hinv.2.2.2.2.1, UnrelInv_finishUnrel s.ch s.queue s.slicedId T _ hinv⟩
  dsimp only
  rw [(finishUnrel_fields _ _).2.1]
  exact hinv.2.2.2.1

/-- Everything one unreliable flush emits: small-message packets whose messages are queued messages of at most
    `SLICE_SIZE` bytes; slice packets that are slice `i < n` of a queued message `m` longer than `SLICE_SIZE`,
    `n = div_ceil(len, SLICE_SIZE)`, under a fresh message id — and then all `n` slices of `m` are in this flush. -/
theorem SendUnrel.getPackets_emitted {s s' : SendUnrel} {seq avail seq' avail' : Nat} {ps : List Packet}
    (h : s.getPackets seq avail = (s', ps, seq', avail')) :
    s.slicedId ≤ s'.slicedId ∧ ∀ p ∈ ps, UnrelPktOK s.ch s.queue s.slicedId s'.slicedId ps p := by
  obtain ⟨T, h1, -, h3⟩ := SendUnrel.getPackets_log s seq avail
  rw [h] at h1 h3
  exact ⟨h1 ▸ Nat.le_add_right _ _, fun p hp => (h3 p hp).1⟩

theorem SendUnrel.getPackets_seq_le {s s' : SendUnrel} {seq avail seq' avail' B : Nat} {ps : List Packet}
    (h : s.getPackets seq avail = (s', ps, seq', avail')) (hseq : seq' ≤ B + 1) : ∀ p ∈ ps, p.sequence ≤ B :=
  fun p hp => Nat.le_of_lt_succ (Nat.lt_of_lt_of_le (Numbered.bounds (SendUnrel.getPackets_seq h) p hp).2 hseq)

def smallUnrelPacketBound : Nat := 12 + SLICE_SIZE + 2

/-- C13, unreliable channel: with counters in varint range (and message lengths machine-representable), every packet
    of a flush encodes without panic; small-message packets take at most `12 + SLICE_SIZE + 2` bytes, slice packets
    at most `1 + 8 + 1 + 8 + 8 + 8 + 2 + SLICE_SIZE`. -/
theorem SendUnrel.getPackets_sizes {s s' : SendUnrel} {seq avail seq' avail' : Nat} {ps : List Packet}
    (h : s.getPackets seq avail = (s', ps, seq', avail'))
    (hlen : ∀ m ∈ s.queue, m.length ≤ Varint.MAX)
    (hid : s'.slicedId ≤ Varint.MAX + 1) (hseq : seq' ≤ Varint.MAX + 1) :
    ∀ p ∈ ps, ∃ b, p.enc = .ok b ∧
      ((∃ sq msgs, p = Packet.smallUnreliable sq s.ch msgs ∧ b.length ≤ smallUnrelPacketBound) ∨
       (∃ sq sl, p = Packet.unreliableSlice sq s.ch sl ∧ b.length ≤ slicePacketBound)) := by
  intro p hp
  have hsq := SendUnrel.getPackets_seq_le h hseq p hp
  have hok := (SendUnrel.getPackets_emitted h).2 p hp
  cases p with
  | smallUnreliable sq c msgs =>
    obtain ⟨rfl, h1, h2⟩ := hok
    have hm : SmallUnrelWF msgs := by
      intro x hx
      have := (h2 x hx).2
      unfold SLICE_SIZE at this; unfold Varint.MAX; omega
    obtain ⟨b, hb, hl⟩ := Packet.Encodable.enc_le (p := .smallUnreliable sq s.ch msgs) ⟨hsq, hm⟩
    refine ⟨b, hb, Or.inl ⟨sq, msgs, rfl, ?_⟩⟩
    have := varintLen_le sq
    simp only [Packet.encLen] at hl; unfold smallUnrelPacketBound; omega
  | unreliableSlice sq c sl =>
    obtain ⟨rfl, h1, h2, m, hm, h3, h4, h5, h6, _⟩ := hok
    have hle : sl.payload.length ≤ SLICE_SIZE := by
      rw [h6]; exact sliceBytes_length_le m _ _ (by rw [h4]; exact divCeil_mul_ge _)
    have hnle : sl.numSlices ≤ m.length := by rw [h4]; exact divCeil_le _
    have hml := hlen m hm
    obtain ⟨b, hb, hl⟩ := Packet.Encodable.enc_le (p := .unreliableSlice sq s.ch sl)
      ⟨hsq, by omega, by omega, by omega, by unfold SLICE_SIZE at hle; unfold Varint.MAX; omega⟩
    refine ⟨b, hb, Or.inr ⟨sq, sl, rfl, ?_⟩⟩
    have b1 := varintLen_le sq
    have b2 := varintLen_le sl.messageId
    have b3 := varintLen_le sl.sliceIndex
    have b4 := varintLen_le sl.numSlices
    have b5 := varintLen_small sl.payload.length (by unfold SLICE_SIZE at hle; omega)
    simp only [Packet.encLen] at hl; unfold slicePacketBound; omega
  | smallReliable _ _ _ => exact hok.elim
  | reliableSlice _ _ _ => exact hok.elim
  | ack _ _ => exact hok.elim

/-! ### unreliable channel: exactly the greedily accepted messages are sent, each one whole (C14) -/

def unrelTaken : List Bytes → Nat → List Bytes
  | [], _ => []
  | m :: r, avail => if avail < m.length then unrelTaken r avail else m :: unrelTaken r (avail - m.length)

theorem unrelTaken_sum_le : ∀ (q : List Bytes) (a : Nat), unrelSmallSum (unrelTaken q a) ≤ a
  | [], _ => by simp [unrelTaken]
  | m :: r, a => by
    simp only [unrelTaken]
    split
    · exact unrelTaken_sum_le r a
    · have := unrelTaken_sum_le r (a - m.length)
      simp only [unrelSmallSum, List.map_cons, List.sum_cons] at *
      omega

theorem unrelTaken_sub : ∀ (q : List Bytes) (a : Nat), ∀ m ∈ unrelTaken q a, m ∈ q
  | [], _, m, h => by simp [unrelTaken] at h
  | x :: r, a, m, h => by
    simp only [unrelTaken] at h
    split at h
    · exact List.mem_cons_of_mem _ (unrelTaken_sub r a m h)
    · simp only [List.mem_cons] at h
      rcases h with rfl | h
      · exact List.mem_cons_self ..
      · exact List.mem_cons_of_mem _ (unrelTaken_sub r _ m h)

def Packet.unrelMsgs : Packet → List Bytes
  | .smallUnreliable _ _ msgs => msgs
  | _ => []

def GPU.msgs (g : GPU) : List Bytes := g.packets.flatMap Packet.unrelMsgs ++ g.small

theorem unrelSlices_msgs (ch id : Nat) (m : Bytes) (n : Nat) : ∀ (l : List Nat) (seq : Nat),
    (unrelSlices ch id m n l seq).flatMap Packet.unrelMsgs = []
  | [], _ => rfl
  | _ :: rest, seq => by simp [unrelSlices, Packet.unrelMsgs, unrelSlices_msgs ch id m n rest (seq + 1)]

theorem msgs_unrelSmall (ch : Nat) (m : Bytes) (g : GPU) : (unrelSmall ch m g).msgs = g.msgs ++ [m] := by
  unfold unrelSmall
  split
  · simp [GPU.msgs, pushUnrel, chargeU, flushUnrel, Packet.unrelMsgs]
  · simp [GPU.msgs, pushUnrel, chargeU]

theorem unrelLoop_msgs (ch : Nat) : ∀ (q : List Bytes) (g : GPU),
    (unrelLoop ch q g).msgs = g.msgs ++ (unrelTaken q g.avail).filter (fun m => decide (m.length ≤ SLICE_SIZE)) ∧
    (unrelLoop ch q g).avail = g.avail - unrelSmallSum (unrelTaken q g.avail) := by
  intro q
  induction q with
  | nil => intro g; simp [unrelLoop, unrelTaken]
  | cons m rest ih =>
    intro g
    rw [unrelLoop_cons]
    simp only [unrelTaken]
    split
    · exact ih (unrelDrop m g)
    · next hav =>
      split
      · next hbig =>
        obtain ⟨h1, h2⟩ := ih (unrelSliced ch m g)
        have e : ¬ m.length ≤ SLICE_SIZE := by omega
        refine ⟨?_, ?_⟩
        · rw [h1]; simp [GPU.msgs, unrelSliced, unrelSlices_msgs, e]
        · rw [h2]; simp only [unrelSliced, unrelSmallSum, List.map_cons, List.sum_cons]; omega
      · next hsmall =>
        obtain ⟨h1, h2⟩ := ih (unrelSmall ch m g)
        have e : m.length ≤ SLICE_SIZE := by omega
        have ea := (unrelSmall_fields ch m g).1
        refine ⟨?_, ?_⟩
        · rw [h1, msgs_unrelSmall, ea]; simp [e]
        · rw [h2, ea]; simp only [unrelSmallSum, List.map_cons, List.sum_cons]; omega

theorem unrelLoop_packets_mono (ch : Nat) (q : List Bytes) (g : GPU) : ∀ p ∈ g.packets, p ∈ (unrelLoop ch q g).packets := by
  refine unrelLoop_rel (fun g g' => ∀ p ∈ g.packets, p ∈ g'.packets) (fun _ _ h => h)
    (fun a b c h1 h2 p hp => h2 p (h1 p hp)) ch q g ?_ ?_ ?_
  · intro g m _ _ p hp; exact hp
  · intro g m _ _ _ p hp; simp only [unrelSliced]; exact List.mem_append_left _ hp
  · intro g m _ _ _ p hp
    unfold unrelSmall
    split
    · simp only [pushUnrel, flushUnrel, chargeU]; exact List.mem_append_left _ hp
    · exact hp

theorem unrelLoop_big_complete (ch : Nat) : ∀ (q : List Bytes) (g : GPU),
    ∀ m ∈ unrelTaken q g.avail, SLICE_SIZE < m.length →
    ∃ id, g.slicedId ≤ id ∧ ∀ j, j < divCeil m.length SLICE_SIZE →
      ∃ sq, Packet.unreliableSlice sq ch ⟨id, j, divCeil m.length SLICE_SIZE, sliceBytes m (divCeil m.length SLICE_SIZE) j⟩
        ∈ (unrelLoop ch q g).packets := by
  intro q
  induction q with
  | nil => intro g m hm; simp [unrelTaken] at hm
  | cons x rest ih =>
    intro g m hm hbig
    rw [unrelLoop_cons]
    simp only [unrelTaken] at hm
    split
    · next hav => simp only [hav, ↓reduceIte] at hm; exact ih (unrelDrop x g) m hm hbig
    · next hav =>
      simp only [hav, ↓reduceIte, List.mem_cons] at hm
      split
      · next hx =>
        rcases hm with rfl | hm
        · refine ⟨g.slicedId, Nat.le_refl _, fun j hj => ?_⟩
          obtain ⟨sq, hsq⟩ := unrelSlices_complete ch g.slicedId m (divCeil m.length SLICE_SIZE)
            (List.range (divCeil m.length SLICE_SIZE)) g.seq j (List.mem_range.mpr hj)
          exact ⟨sq, unrelLoop_packets_mono ch rest _ _ (by simp only [unrelSliced]; exact List.mem_append_right _ hsq)⟩
        · obtain ⟨id, h1, h2⟩ := ih (unrelSliced ch x g) m hm hbig
          exact ⟨id, by simp only [unrelSliced] at h1; omega, h2⟩
      · next hx =>
        obtain ⟨ea, es⟩ := unrelSmall_fields ch x g
        rcases hm with rfl | hm
        · omega
        · obtain ⟨id, h1, h2⟩ := ih (unrelSmall ch x g) m (by rw [ea]; exact hm) hbig
          exact ⟨id, by omega, h2⟩

theorem finishUnrel_msgs (ch : Nat) (g : GPU) :
    (finishUnrel ch g).packets.flatMap Packet.unrelMsgs = g.msgs := by
  unfold finishUnrel; split
  · next h => simp [GPU.msgs, List.isEmpty_iff.mp h]
  · simp [GPU.msgs, Packet.unrelMsgs]

theorem smallDue_false_of_lt {now resend t : Nat} (h : now - t < resend) : smallDue now resend (some t) = false := by
  simp [smallDue, h]

/-- C15 (every transmission is stamped; nothing but due unacked messages is transmitted): `find?` form of
    `getPackets_emitted` for small messages. -/
theorem SendRel.small_emitted {s s' : SendRel} {seq avail now seq' avail' : Nat} {ps : List Packet}
    (h : s.getPackets seq avail now = (s', ps, seq', avail')) (hn : (SMap.keys s.unacked).Nodup)
    {sq c : Nat} {msgs : List (Nat × Bytes)} (hp : Packet.smallReliable sq c msgs ∈ ps) :
    c = s.ch ∧ ∀ x ∈ msgs, ∃ ls, SMap.find? s.unacked x.1 = some (.small x.2 ls) ∧
      (ls = none ∨ ∃ t, ls = some t ∧ s.resend ≤ now - t) ∧
      SMap.find? s'.unacked x.1 = some (.small x.2 (some now)) := by
  have hn' : (SMap.keys s'.unacked).Nodup := by rw [(SendRel.getPackets_keeps h).1]; exact hn
  rcases SendRel.getPackets_emitted h _ hp with ⟨sq', msgs', e1, h1⟩ | ⟨sq', id', i, m', n, na, nx, ak, ls, nx', ls', e1, _⟩
  · cases e1
    refine ⟨rfl, fun x hx => ?_⟩
    obtain ⟨ls, hm, hd, hm'⟩ := h1 x hx
    exact ⟨ls, SMap.find?_of_mem_nodup hn hm, (smallDue_iff _ _ _).mp hd, SMap.find?_of_mem_nodup hn' hm'⟩
  · cases e1

/-- C15 / genuineness, `find?` form for slices: an emitted slice is slice `i < n` of the `Sliced` entry stored under
    its message id, was not acked and was due, and its slot is stamped `now` afterwards. -/
theorem SendRel.slice_emitted {s s' : SendRel} {seq avail now seq' avail' : Nat} {ps : List Packet}
    (h : s.getPackets seq avail now = (s', ps, seq', avail')) (hn : (SMap.keys s.unacked).Nodup)
    {sq c : Nat} {sl : Slice} (hp : Packet.reliableSlice sq c sl ∈ ps) :
    c = s.ch ∧ ∃ m na nx ak ls nx' ls',
      SMap.find? s.unacked sl.messageId = some (.sliced m sl.numSlices na nx ak ls) ∧
      sl.sliceIndex < sl.numSlices ∧ sl.payload = sliceBytes m sl.numSlices sl.sliceIndex ∧
      ak.getD sl.sliceIndex false = false ∧
      (ls.getD sl.sliceIndex none = none ∨ ∃ t, ls.getD sl.sliceIndex none = some t ∧ s.resend ≤ now - t) ∧
      SMap.find? s'.unacked sl.messageId = some (.sliced m sl.numSlices na nx' ak ls') ∧
      (sl.sliceIndex < ls.length → ls'.getD sl.sliceIndex none = some now) := by
  have hn' : (SMap.keys s'.unacked).Nodup := by rw [(SendRel.getPackets_keeps h).1]; exact hn
  rcases SendRel.getPackets_emitted h _ hp with ⟨sq', msgs', e, _⟩ | ⟨sq', id', i', m', n', na', nx', ak', ls', nx'', ls'', e, hm, hi, a, b, hm', hst⟩
  · cases e
  · cases e
    exact ⟨rfl, m', na', nx', ak', ls', nx'', ls'', SMap.find?_of_mem_nodup hn hm, hi, rfl, a,
      (smallDue_iff _ _ _).mp b, SMap.find?_of_mem_nodup hn' hm', hst⟩

/-! ### C15: liveness — an item the scan takes is transmitted by this flush -/

theorem Mono_finishRel (ch : Nat) (g : GP) : Mono g (finishRel ch g) := by
  unfold finishRel; split
  · exact Mono.refl g
  · exact ⟨fun p hp => List.mem_append_left _ hp, fun x hx => by rw [msgs_flushSmall]; exact hx, Nat.le_refl _⟩

theorem exists_loop_index (nx n i : Nat) (hi : i < n) : ∃ i0, i0 < n ∧ (nx + i0) % n = i := by
  have hr : nx % n < n := Nat.mod_lt _ (by omega)
  by_cases h : nx % n ≤ i
  · refine ⟨i - nx % n, by omega, ?_⟩
    rw [Nat.add_mod, Nat.mod_eq_of_lt (show i - nx % n < n by omega)]
    have : nx % n + (i - nx % n) = i := by omega
    rw [this, Nat.mod_eq_of_lt hi]
  · refine ⟨i + n - nx % n, by omega, ?_⟩
    rw [Nat.add_mod, Nat.mod_eq_of_lt (show i + n - nx % n < n by omega)]
    have : nx % n + (i + n - nx % n) = i + n := by omega
    rw [this, Nat.add_mod_right, Nat.mod_eq_of_lt hi]

theorem mem_packets_of_mem_msgs {g : GP} (hs : g.small = []) {x : Nat × Bytes} (hx : x ∈ g.msgs) :
    ∃ sq c msgs, Packet.smallReliable sq c msgs ∈ g.packets ∧ x ∈ msgs := by
  simp only [GP.msgs, hs, List.append_nil, List.mem_flatMap] at hx
  obtain ⟨p, hp, hxp⟩ := hx
  cases p with
  | smallReliable sq c msgs => exact ⟨sq, c, msgs, hp, hxp⟩
  | smallUnreliable _ _ _ => simp [Packet.relMsgs] at hxp
  | reliableSlice _ _ _ => simp [Packet.relMsgs] at hxp
  | unreliableSlice _ _ _ => simp [Packet.relMsgs] at hxp
  | ack _ _ => simp [Packet.relMsgs] at hxp

theorem SendRel.taken_small {s s' : SendRel} {seq avail now seq' avail' : Nat} {ps : List Packet}
    (h : s.getPackets seq avail now = (s', ps, seq', avail')) {id : Nat} {m : Bytes}
    (ht : .small id m ∈ greedy (relCands now s.resend s.unacked) avail) :
    ∃ sq msgs, Packet.smallReliable sq s.ch msgs ∈ ps ∧ (id, m) ∈ msgs := by
  rw [SendRel.getPackets_scan] at h
  cases h
  obtain ⟨sq, c, msgs, hp, hx⟩ := mem_packets_of_mem_msgs (finishRel_small s.ch _)
    ((Mono_finishRel s.ch _).2.1 _ (mem_pack_small (ch := s.ch) (g := ⟨[], [], 0, seq, avail⟩) ht))
  rcases (packOK_scan s.ch _ seq avail).2 _ hp with ⟨_, _, e, -⟩ | ⟨_, _, _, _, _, e, -⟩
  · cases e
    exact ⟨sq, msgs, hp, hx⟩
  · cases e

theorem SendRel.taken_slice {s s' : SendRel} {seq avail now seq' avail' : Nat} {ps : List Packet}
    (h : s.getPackets seq avail now = (s', ps, seq', avail')) {id n i : Nat} {m : Bytes}
    (ht : .slice id m n i ∈ greedy (relCands now s.resend s.unacked) avail) :
    ∃ sq, Packet.reliableSlice sq s.ch ⟨id, i, n, sliceBytes m n i⟩ ∈ ps := by
  rw [SendRel.getPackets_scan] at h
  cases h
  obtain ⟨sq, hsq⟩ := mem_pack_slice (ch := s.ch) (g := ⟨[], [], 0, seq, avail⟩) ht
  exact ⟨sq, (Mono_finishRel s.ch _).1 _ hsq⟩

theorem EntryStep.wf {now resend : Nat} {u u' : Unacked} (h : EntryStep now resend u u') (hw : u.WF) : u'.WF := by
  cases u with
  | small m ls =>
    cases u' with
    | small m' ls' => obtain ⟨rfl, _⟩ := h; exact hw
    | sliced => exact h.elim
  | sliced m n na nx ak ls =>
    cases u' with
    | small => exact h.elim
    | sliced m' n' na' nx' ak' ls' =>
      obtain ⟨rfl, rfl, rfl, rfl, hl, _⟩ := h
      obtain ⟨a, b, c, d, e⟩ := hw
      exact ⟨a, b, c, d, by rw [hl]; exact e⟩

theorem SendRel.getPackets_wf_preserved {s s' : SendRel} {seq avail now seq' avail' : Nat} {ps : List Packet}
    (h : s.getPackets seq avail now = (s', ps, seq', avail')) (hwf : s.WF) : s'.WF := by
  obtain ⟨hk, _, hid, _⟩ := SendRel.getPackets_keeps h
  have hstep := SendRel.getPackets_entries h
  refine ⟨by rw [hk]; exact hwf.nodup, ?_, ?_⟩
  · intro id u' hm
    obtain ⟨u, hu, _⟩ := hstep.mem id u' hm
    rw [hid]; exact hwf.ids id u hu
  · intro id u' hm
    obtain ⟨u, hu, hs⟩ := hstep.mem id u' hm
    exact hs.wf (hwf.entries id u hu)

def ackPacketBound : Nat := 1 + 8 + 8 + 8 + 8 + 16 * (ACK_RANGE_CAP - 1)

/-- side conditions on the constants: each per-kind bound is within the netcode payload limit, which is within the
    serialisation scratch buffer.  A changed constant breaks exactly the lemma concerned. -/
theorem smallPacketBound_le : smallPacketBound ≤ NETCODE_MAX_PAYLOAD_BYTES := by decide
theorem smallUnrelPacketBound_le : smallUnrelPacketBound ≤ NETCODE_MAX_PAYLOAD_BYTES := by decide
theorem slicePacketBound_le : slicePacketBound ≤ NETCODE_MAX_PAYLOAD_BYTES := by decide
theorem ackPacketBound_le : ackPacketBound ≤ NETCODE_MAX_PAYLOAD_BYTES := by decide
theorem payload_le_buffer : NETCODE_MAX_PAYLOAD_BYTES ≤ SER_BUFFER := by decide

def PktFits (p : Packet) : Prop := ∃ b, p.enc = .ok b ∧ b.length ≤ NETCODE_MAX_PAYLOAD_BYTES

def SI.isAckPkt : Packet → Bool
  | .ack .. => true
  | _ => false

theorem Packet.toBytes_ok_iff {p : Packet} {cap : Nat} {b : Bytes} :
    p.toBytes cap = .ok b ↔ p.enc = .ok b ∧ b.length ≤ cap := by
  unfold Packet.toBytes
  cases p.enc with
  | ok b' =>
    by_cases h : b'.length ≤ cap
    · simp only [Res.bind_ok, if_pos h, Res.pure_eq, Res.ok.injEq]
      exact ⟨(fun e => e ▸ ⟨rfl, h⟩), fun e => e.1⟩
    · simp only [Res.bind_ok, if_neg h, Res.ok.injEq]
      exact ⟨(fun e => nomatch e), fun e => absurd (e.1 ▸ e.2) h⟩
  | err e => exact ⟨(fun h => nomatch h), fun h => nomatch h.1⟩
  | panic m => exact ⟨(fun h => nomatch h), fun h => nomatch h.1⟩

theorem PktFits.toBytes {p : Packet} (h : PktFits p) :
    ∃ b, p.toBytes SER_BUFFER = .ok b ∧ b.length ≤ NETCODE_MAX_PAYLOAD_BYTES := by
  obtain ⟨b, hb, hl⟩ := h
  have := payload_le_buffer
  exact ⟨b, Packet.toBytes_ok_iff.mpr ⟨hb, by omega⟩, hl⟩

theorem SendRel.getPackets_fits {s s' : SendRel} {seq avail now seq' avail' : Nat} {ps : List Packet}
    (h : s.getPackets seq avail now = (s', ps, seq', avail')) (hwf : s.WF)
    (hid : s.nextId ≤ Varint.MAX + 1) (hseq : seq' ≤ Varint.MAX + 1) :
    ∀ p ∈ ps, PktFits p ∧ SI.isAckPkt p = false := by
  intro p hp
  have h1 := smallPacketBound_le
  have h2 := slicePacketBound_le
  obtain ⟨b, hb, ⟨sq, msgs, rfl, hl⟩ | ⟨sq, sl, rfl, hl⟩⟩ := SendRel.getPackets_sizes h hwf hid hseq p hp
  · exact ⟨⟨b, hb, by omega⟩, rfl⟩
  · exact ⟨⟨b, hb, by omega⟩, rfl⟩

theorem SendUnrel.getPackets_fits {s s' : SendUnrel} {seq avail seq' avail' : Nat} {ps : List Packet}
    (h : s.getPackets seq avail = (s', ps, seq', avail'))
    (hlen : ∀ m ∈ s.queue, m.length ≤ Varint.MAX)
    (hid : s'.slicedId ≤ Varint.MAX + 1) (hseq : seq' ≤ Varint.MAX + 1) :
    ∀ p ∈ ps, PktFits p ∧ SI.isAckPkt p = false := by
  intro p hp
  have h1 := smallUnrelPacketBound_le
  have h2 := slicePacketBound_le
  obtain ⟨b, hb, ⟨sq, msgs, rfl, hl⟩ | ⟨sq, sl, rfl, hl⟩⟩ := SendUnrel.getPackets_sizes h hlen hid hseq p hp
  · exact ⟨⟨b, hb, by omega⟩, rfl⟩
  · exact ⟨⟨b, hb, by omega⟩, rfl⟩

theorem unrelLoop_slicedId (ch : Nat) : ∀ (q : List Bytes) (g : GPU), (unrelLoop ch q g).slicedId ≤ g.slicedId + q.length := by
  intro q
  induction q with
  | nil => intro g; simp [unrelLoop]
  | cons m rest ih =>
    intro g
    rw [unrelLoop_cons]
    split
    · have := ih (unrelDrop m g); simp only [unrelDrop, List.length_cons] at *; omega
    · split
      · have := ih (unrelSliced ch m g); simp only [unrelSliced, List.length_cons] at *; omega
      · have := ih (unrelSmall ch m g)
        have es := (unrelSmall_fields ch m g).2
        rw [es] at this; simp only [List.length_cons]; omega

theorem SendUnrel.getPackets_slicedId {s s' : SendUnrel} {seq avail seq' avail' : Nat} {ps : List Packet}
    (h : s.getPackets seq avail = (s', ps, seq', avail')) : s'.slicedId ≤ s.slicedId + s.queue.length := by
  rw [SendUnrel.getPackets_eq] at h
  cases h
  rw [(finishUnrel_fields _ _).2.1]
  exact unrelLoop_slicedId s.ch s.queue _

def RelMapOK (sr : SMap SendRel) : Prop := ∀ ch s, SMap.find? sr ch = some s → s.WF ∧ s.nextId ≤ Varint.MAX + 1

def UnrelMapOK (su : SMap SendUnrel) : Prop :=
  ∀ ch s, SMap.find? su ch = some s → (∀ m ∈ s.queue, m.length ≤ Varint.MAX) ∧ s.slicedId + s.queue.length ≤ Varint.MAX + 1

theorem RelMapOK.fit {sr : SMap SendRel} (h : RelMapOK sr) : RelMapFit sr := fun ch s hs => (h ch s hs).1.fit

/-- `hr`, `hu` may assume that the single flush leaves the sequence counter at most `B`: the counter only grows, so the
    bound `hseq` at the end bounds it throughout. -/
theorem chanLoop_pres (now B : Nat) (J : SMap SendRel → SMap SendUnrel → Prop) (Q : Packet → Prop)
    (hr : ∀ sr su ch s seq avail, J sr su → SMap.find? sr ch = some s → (s.getPackets seq avail now).2.2.1 ≤ B →
      J (SMap.insert sr ch (s.getPackets seq avail now).1) su ∧ ∀ p ∈ (s.getPackets seq avail now).2.1, Q p)
    (hu : ∀ sr su ch s seq avail, J sr su → SMap.find? su ch = some s → (s.getPackets seq avail).2.2.1 ≤ B →
      J sr (SMap.insert su ch (s.getPackets seq avail).1) ∧ ∀ p ∈ (s.getPackets seq avail).2.1, Q p)
    {order : List (Bool × Nat)} {sr sr' : SMap SendRel} {su su' : SMap SendUnrel} {pk pk' : List Packet}
    {seq avail seq' avail' : Nat}
    (h : Conn.chanLoop now order (sr, su, pk, seq, avail) = .ok (sr', su', pk', seq', avail')) (hseq : seq' ≤ B)
    (hj : J sr su) : J sr' su' ∧ ∃ ps, pk' = pk ++ ps ∧ ∀ p ∈ ps, Q p := by
  refine (chanLoop_rel
    (fun (sr, su, pk, seq, _) (sr', su', pk', seq', _) => seq ≤ seq' ∧
      (seq' ≤ B → J sr su → J sr' su' ∧ ∃ ps, pk' = pk ++ ps ∧ ∀ p ∈ ps, Q p))
    ?_ ?_ now ?_ ?_ order _ _ h).2 hseq hj
  · intro ⟨sr, su, pk, seq, avail⟩
    exact ⟨Nat.le_refl _, fun _ a => ⟨a, [], by simp, by simp⟩⟩
  · intro ⟨sr, su, pk, seq, avail⟩ ⟨sr1, su1, pk1, seq1, avail1⟩ ⟨sr2, su2, pk2, seq2, avail2⟩ ⟨m1, h1⟩ ⟨m2, h2⟩
    refine ⟨Nat.le_trans m1 m2, fun hq a => ?_⟩
    obtain ⟨a1, ps1, rfl, p1⟩ := h1 (Nat.le_trans m2 hq) a
    obtain ⟨a2, ps2, rfl, p2⟩ := h2 hq a1
    exact ⟨a2, ps1 ++ ps2, List.append_assoc .., fun p hp => (List.mem_append.mp hp).elim (p1 p) (p2 p)⟩
  · intro sr su pk seq avail ch s hs
    refine ⟨Nat.le.intro (SendRel.getPackets_seq (tuple4_eta (s.getPackets seq avail now))).2.symm, fun hq a => ?_⟩
    obtain ⟨i, hp⟩ := hr sr su ch s seq avail a hs hq
    exact ⟨i, _, rfl, hp⟩
  · intro sr su pk seq avail ch s hs
    refine ⟨Nat.le.intro (SendUnrel.getPackets_seq (tuple4_eta (s.getPackets seq avail))).2.symm, fun hq a => ?_⟩
    obtain ⟨i, hp⟩ := hu sr su ch s seq avail a hs hq
    exact ⟨i, _, rfl, hp⟩

theorem SendRel.getPackets_ok (s : SendRel) (seq avail now : Nat) (h : s.WF ∧ s.nextId ≤ Varint.MAX + 1) :
    (s.getPackets seq avail now).1.WF ∧ (s.getPackets seq avail now).1.nextId ≤ Varint.MAX + 1 :=
  ⟨SendRel.getPackets_wf_preserved (tuple4_eta _) h.1, (SendRel.getPackets_keeps (tuple4_eta (s.getPackets seq avail now))).2.2.1 ▸ h.2⟩

theorem SendUnrel.getPackets_ok (s : SendUnrel) (seq avail : Nat) (h : s.slicedId + s.queue.length ≤ Varint.MAX + 1) :
    (∀ m ∈ (s.getPackets seq avail).1.queue, m.length ≤ Varint.MAX) ∧
    (s.getPackets seq avail).1.slicedId + (s.getPackets seq avail).1.queue.length ≤ Varint.MAX + 1 := by
  have hsid := SendUnrel.getPackets_slicedId (tuple4_eta (s.getPackets seq avail))
  rw [(SendUnrel.getPackets_drains (tuple4_eta (s.getPackets seq avail))).1]
  exact ⟨by simp, by simp only [List.length_nil]; omega⟩

theorem chanLoop_fits (now : Nat) : ∀ (order : List (Bool × Nat)) (sr : SMap SendRel) (su : SMap SendUnrel)
    (pk : List Packet) (seq avail : Nat) (sr' : SMap SendRel) (su' : SMap SendUnrel) (pk' : List Packet) (seq' avail' : Nat),
    RelMapOK sr → UnrelMapOK su →
    Conn.chanLoop now order (sr, su, pk, seq, avail) = .ok (sr', su', pk', seq', avail') → seq' ≤ Varint.MAX + 1 →
    ∃ ps, pk' = pk ++ ps ∧ (∀ p ∈ ps, PktFits p ∧ SI.isAckPkt p = false) ∧ RelMapOK sr' ∧ UnrelMapOK su' := by
  intro order sr su pk seq avail sr' su' pk' seq' avail' hr hu h hseq
  obtain ⟨⟨a, b⟩, ps, e, hp⟩ := chanLoop_pres now (Varint.MAX + 1) (fun sr su => RelMapOK sr ∧ UnrelMapOK su)
    (fun p => PktFits p ∧ SI.isAckPkt p = false)
    (fun sr _ ch s seq avail a hf hq => ⟨⟨SMap.forall_find?_insert (fun j x _ => a.1 j x) (s.getPackets_ok seq avail now (a.1 ch s hf)), a.2⟩,
      SendRel.getPackets_fits (tuple4_eta _) (a.1 ch s hf).1 (a.1 ch s hf).2 hq⟩)
    (fun _ su ch s seq avail a hf hq => ⟨⟨a.1, SMap.forall_find?_insert (fun j x _ => a.2 j x) (s.getPackets_ok seq avail (a.2 ch s hf).2)⟩,
      SendUnrel.getPackets_fits (tuple4_eta _) (a.2 ch s hf).1
        (by have := SendUnrel.getPackets_slicedId (tuple4_eta (s.getPackets seq avail)); have := (a.2 ch s hf).2; omega) hq⟩)
    h hseq ⟨hr, hu⟩
  exact ⟨ps, e, hp, a, b⟩

def ChansExist (order : List (Bool × Nat)) (sr : SMap SendRel) (su : SMap SendUnrel) : Prop :=
  ∀ x ∈ order, if x.1 = true then SMap.find? sr x.2 ≠ none else SMap.find? su x.2 ≠ none

theorem ChansExist.insert {x : Bool × Nat} {rest : List (Bool × Nat)} {sr sr' : SMap SendRel} {su su' : SMap SendUnrel}
    (h : ChansExist (x :: rest) sr su) (hr : ∀ k, SMap.find? sr k ≠ none → SMap.find? sr' k ≠ none)
    (hu : ∀ k, SMap.find? su k ≠ none → SMap.find? su' k ≠ none) : ChansExist rest sr' su' := by
  intro y hy
  have := h y (List.mem_cons_of_mem _ hy)
  by_cases c : y.1 = true
  · rw [if_pos c] at this ⊢; exact hr _ this
  · rw [if_neg c] at this ⊢; exact hu _ this

theorem chanLoop_ok (now : Nat) : ∀ (order : List (Bool × Nat)) (st : ChanSt), ChansExist order st.1 st.2.1 →
    ∃ r, Conn.chanLoop now order st = .ok r := by
  intro order
  induction order with
  | nil => intro st _; exact ⟨st, rfl⟩
  | cons x rest ih =>
    intro st hex
    obtain ⟨sr, su, pk, seq, avail⟩ := st
    obtain ⟨rel, ch⟩ := x
    have hx := hex (rel, ch) (List.mem_cons_self ..)
    cases rel with
    | true =>
      rw [chanLoop_rel_step]
      cases hs : SMap.find? sr ch with
      | none => exact absurd hs hx
      | some s => exact ih _ (hex.insert (SMap.find?_insert_ne_none sr ch _) (fun _ h => h))
    | false =>
      rw [chanLoop_unrel_step]
      cases hs : SMap.find? su ch with
      | none => exact absurd hs hx
      | some s => exact ih _ (hex.insert (fun _ h => h) (SMap.find?_insert_ne_none su ch _))

def withAck (pk : List Packet) (seq : Nat) (acks : List AckRange) : List Packet :=
  if acks.isEmpty then pk else pk ++ [Packet.ack seq acks]

theorem forall_withAck {P : Packet → Prop} {pk : List Packet} {seq : Nat} {acks : List AckRange}
    (hpk : ∀ p ∈ pk, P p) (hack : acks ≠ [] → P (Packet.ack seq acks)) : ∀ p ∈ withAck pk seq acks, P p := by
  cases acks with
  | nil => exact hpk
  | cons r l =>
    intro p hp
    rcases List.mem_append.mp hp with hp | hp
    · exact hpk p hp
    · rw [List.mem_singleton.mp hp]; exact hack (List.cons_ne_nil r l)

theorem mem_withAck {pk : List Packet} {seq : Nat} {acks : List AckRange} {p : Packet} (hp : p ∈ withAck pk seq acks) :
    p ∈ pk ∨ p = Packet.ack seq acks :=
  forall_withAck (P := fun p => p ∈ pk ∨ p = Packet.ack seq acks) (fun _ => Or.inl) (fun _ => Or.inr rfl) p hp

theorem SI.sentInfoOf_of_not_ack : ∀ {p : Packet}, SI.isAckPkt p = false → ∃ info, Conn.sentInfoOf p = .ok info
  | .smallReliable .., _ => ⟨_, rfl⟩
  | .smallUnreliable .., _ => ⟨_, rfl⟩
  | .reliableSlice .., _ => ⟨_, rfl⟩
  | .unreliableSlice .., _ => ⟨_, rfl⟩
  | .ack .., h => by cases h

theorem Conn.sentInfoOf_ok {p : Packet} {info : SentInfo} : Conn.sentInfoOf p = .ok info ↔
    match p with
    | .smallReliable _ ch msgs => info = .relMsgs ch (msgs.map (·.1))
    | .reliableSlice _ ch sl => info = .relSlice ch sl.messageId sl.sliceIndex
    | .smallUnreliable .. | .unreliableSlice .. => info = .none
    | .ack _ ranges => ∃ s e, ranges.getLast? = some (s, e) ∧ 1 ≤ e ∧ info = .ack (e - 1) := by
  cases p with
  | ack sq ranges =>
    simp only [Conn.sentInfoOf]
    cases hl : ranges.getLast? with
    | none => simp
    | some r =>
      obtain ⟨s, e⟩ := r
      by_cases he : 1 ≤ e
      · simp [Res.csub, he, eq_comm]; grind
      · simp [Res.csub, he]
  | _ => simp [Conn.sentInfoOf, eq_comm]

theorem sentInfoOf_ack {seq : Nat} {l : List AckRange} (hw : Acks.WF l) (hne : l ≠ []) :
    ∃ largest, Conn.sentInfoOf (.ack seq l) = .ok (.ack largest) := by
  cases hl : l.getLast? with
  | none => rw [List.getLast?_eq_none_iff] at hl; exact absurd hl hne
  | some r =>
    obtain ⟨s, e⟩ := r
    have : s < e := Acks.wf_mem_nonempty hw (s, e) (List.mem_of_getLast? hl)
    exact ⟨e - 1, Conn.sentInfoOf_ok.mpr ⟨s, e, hl, by omega, rfl⟩⟩

theorem recordSent_ok (now : Nat) : ∀ (pk : List Packet) (m : SMap (Nat × SentInfo)),
    (∀ p ∈ pk, ∃ info, Conn.sentInfoOf p = .ok info) → ∃ m', Conn.recordSent now pk m = .ok m'
  | [], m, _ => ⟨m, rfl⟩
  | p :: rest, m, h => by
    obtain ⟨info, hi⟩ := h p (List.mem_cons_self ..)
    simp only [Conn.recordSent, hi, Res.bind_ok]
    exact recordSent_ok now rest _ (fun q hq => h q (List.mem_cons_of_mem _ hq))

theorem map_eq_map_of {α β γ δ : Type} {f : α → γ} {g : β → γ} {f' : α → δ} {g' : β → δ}
    (H : ∀ a b, f a = g b → f' a = g' b) : ∀ {l : List α} {l' : List β}, l.map f = l'.map g → l.map f' = l'.map g'
  | [], [], _ => rfl
  | [], _ :: _, h => nomatch h
  | _ :: _, [], h => nomatch h
  | a :: l, b :: l', h => by
    rw [List.map_cons, List.map_cons, List.cons.injEq] at h
    rw [List.map_cons, List.map_cons, H a b h.1, map_eq_map_of H h.2]

theorem Conn.serialiseAll_ok_iff : ∀ {pk : List Packet} {bs : List Bytes},
    Conn.serialiseAll pk = .ok bs ↔ pk.map (Packet.toBytes SER_BUFFER) = bs.map .ok
  | [], bs => by
    simp only [Conn.serialiseAll, Res.ok.injEq, List.map_nil]
    exact ⟨(fun e => e ▸ rfl), fun e => (List.map_eq_nil_iff.mp e.symm).symm⟩
  | p :: rest, bs => by
    unfold Conn.serialiseAll
    constructor
    · intro h
      obtain ⟨b, h1, h⟩ := Res.bind_ok_iff.mp h
      obtain ⟨bs', h2, h⟩ := Res.bind_ok_iff.mp h
      cases h
      rw [List.map_cons, List.map_cons, h1, Conn.serialiseAll_ok_iff.mp h2]
    · intro h
      cases bs with
      | nil => cases h
      | cons b bs' =>
        rw [List.map_cons, List.map_cons, List.cons.injEq] at h
        rw [h.1, Conn.serialiseAll_ok_iff.mpr h.2]
        rfl

theorem serialiseAll_ok : ∀ (pk : List Packet), (∀ p ∈ pk, PktFits p) →
    ∃ bs, Conn.serialiseAll pk = .ok bs ∧ bs.length = pk.length ∧ ∀ b ∈ bs, b.length ≤ NETCODE_MAX_PAYLOAD_BYTES
  | [], _ => ⟨[], rfl, rfl, fun _ hb => nomatch hb⟩
  | p :: rest, h => by
    obtain ⟨b, hb, hl⟩ := (h p (List.mem_cons_self ..)).toBytes
    obtain ⟨bs, hbs, hn, hall⟩ := serialiseAll_ok rest (fun q hq => h q (List.mem_cons_of_mem _ hq))
    refine ⟨b :: bs, Conn.serialiseAll_ok_iff.mpr ?_, by rw [List.length_cons, List.length_cons, hn], ?_⟩
    · rw [List.map_cons, List.map_cons, hb, Conn.serialiseAll_ok_iff.mp hbs]
    · intro x hx
      rcases List.mem_cons.mp hx with rfl | hx
      · exact hl
      · exact hall x hx

structure Conn.FlushInv (c : Conn) : Prop where
  chans : ChansExist c.order c.sendRel c.sendUnrel
  rel : RelMapOK c.sendRel
  unrel : UnrelMapOK c.sendUnrel
  acksWF : Acks.WF c.pendingAcks
  acksLen : c.pendingAcks.length ≤ ACK_RANGE_CAP
  acksBound : ∀ r ∈ c.pendingAcks, r.2 ≤ Varint.MAX + 1

theorem ack_enc_le {seq : Nat} {l : List AckRange} (hs : seq ≤ Varint.MAX) (hne : l ≠ []) (hwf : Acks.WF l)
    (hlen : l.length ≤ ACK_RANGE_CAP) (hb : ∀ r ∈ l, r.2 ≤ Varint.MAX + 1) :
    AckWF l ∧ ∃ b, (Packet.ack seq l).enc = .ok b ∧ b.length ≤ ackPacketBound := by
  have hackwf := Acks.ackWF_of_wf l hne hwf hb
  obtain ⟨b, h1, h2⟩ := Packet.Encodable.enc_le (p := .ack seq l) ⟨hs, hackwf⟩
  simp only [Packet.encLen] at h2
  have : 16 * (l.length - 1) ≤ 16 * (ACK_RANGE_CAP - 1) := Nat.mul_le_mul_left _ (by omega)
  exact ⟨hackwf, b, h1, by unfold ackPacketBound; omega⟩

theorem Conn.FlushInv.ack_fits {c : Conn} (hinv : c.FlushInv) (hne : c.pendingAcks ≠ []) {seq : Nat} (hs : seq ≤ Varint.MAX) :
    AckWF c.pendingAcks ∧ PktFits (Packet.ack seq c.pendingAcks) :=
  let ⟨hackwf, b, hb, hl⟩ := ack_enc_le hs hne hinv.acksWF hinv.acksLen hinv.acksBound
  ⟨hackwf, b, hb, Nat.le_trans hl ackPacketBound_le⟩

/-- the value `packet_sequence` has after this flush if an ack packet is appended (0 if the channel loop panics) -/
def Conn.flushSeq (c : Conn) : Nat :=
  match Conn.chanLoop c.now c.order (c.sendRel, c.sendUnrel, [], c.packetSeq, c.budget) with
  | .ok (_, _, _, seq, _) => seq + 1
  | _ => 0

theorem Conn.flushSeq_of_loop {c : Conn} {sr : SMap SendRel} {su : SMap SendUnrel} {pk : List Packet} {seq avail : Nat}
    (h : Conn.chanLoop c.now c.order (c.sendRel, c.sendUnrel, [], c.packetSeq, c.budget) = .ok (sr, su, pk, seq, avail)) :
    c.flushSeq = seq + 1 := by
  simp only [Conn.flushSeq, h]

/-- the packets one `get_packets_to_send` builds before serialising them: channel packets in configuration order,
    then the ack packet -/
def Conn.flushPackets (c : Conn) : Res Empty (List Packet) :=
  match Conn.chanLoop c.now c.order (c.sendRel, c.sendUnrel, [], c.packetSeq, c.budget) with
  | .ok (_, _, pk, seq, _) => .ok (withAck pk seq c.pendingAcks)
  | .err e => .err e
  | .panic s => .panic s

theorem Conn.flushPackets_ok {c : Conn} {pks : List Packet} (h : c.flushPackets = .ok pks) : ∃ sr su pk seq avail,
    Conn.chanLoop c.now c.order (c.sendRel, c.sendUnrel, [], c.packetSeq, c.budget) = .ok (sr, su, pk, seq, avail) ∧
    pks = withAck pk seq c.pendingAcks := by
  unfold Conn.flushPackets at h
  split at h
  · cases h; exact ⟨_, _, _, _, _, ‹_›, rfl⟩
  · cases h
  · cases h

theorem Conn.getPacketsToSend_live {c : Conn} (hd : c.isDisconnected = false) :
    c.getPacketsToSend =
      (Conn.chanLoop c.now c.order (c.sendRel, c.sendUnrel, [], c.packetSeq, c.budget) >>= fun (sr, su, pk, seq, _) =>
        Conn.recordSent c.now (withAck pk seq c.pendingAcks) c.sent >>= fun sent =>
          match Conn.serialiseAll (withAck pk seq c.pendingAcks) with
          | .ok bs => .ok ({ c with sendRel := sr, sendUnrel := su, sent := sent,
                                    packetSeq := if c.pendingAcks.isEmpty then seq else seq + 1 }, bs)
          | .err e => .ok (({ c with sendRel := sr, sendUnrel := su, sent := sent,
                                     packetSeq := if c.pendingAcks.isEmpty then seq else seq + 1 } : Conn).disconnectWith
              (.packetSer e), [])
          | .panic s => .panic s) := by
  unfold Conn.getPacketsToSend withAck
  rw [hd, if_neg Bool.false_ne_true]
  congr 1
  funext ⟨sr, su, pk, seq, avail⟩
  cases c.pendingAcks.isEmpty <;> rfl

theorem Conn.disconnectWith_live {c : Conn} (hd : c.isDisconnected = false) (r : Reason) :
    c.disconnectWith r = { c with status := .disconnected r } := by
  unfold Conn.disconnectWith; rw [hd]; rfl

/-- What `get_packets_to_send` of a live connection has written to `c'` when it turns to serialisation: the channel
    loop left the two send tables, the channels' packets `pk0` and the counter `seq0`; `withAck pk0 seq0 c.pendingAcks`
    is recorded in the sent table.  Nothing is said of the status, which serialisation decides. -/
structure Conn.Flushed (c c' : Conn) (pk0 : List Packet) (seq0 avail : Nat) : Prop where
  live : c.isDisconnected = false
  loop : Conn.chanLoop c.now c.order (c.sendRel, c.sendUnrel, [], c.packetSeq, c.budget) =
    .ok (c'.sendRel, c'.sendUnrel, pk0, seq0, avail)
  sent : Conn.recordSent c.now (withAck pk0 seq0 c.pendingAcks) c.sent = .ok c'.sent
  packetSeq : c'.packetSeq = if c.pendingAcks.isEmpty then seq0 else seq0 + 1
  pendingAcks : c'.pendingAcks = c.pendingAcks
  recvRel : c'.recvRel = c.recvRel
  recvUnrel : c'.recvUnrel = c.recvUnrel
  now : c'.now = c.now
  budget : c'.budget = c.budget
  order : c'.order = c.order

/-- what a `get_packets_to_send` of a live connection that returned `(c', bs)` did: a failed serialisation is the only
    way the status changes -/
structure Conn.FlushOut (c c' : Conn) (bs : List Bytes) (pk0 : List Packet) (seq0 avail : Nat) : Prop
    extends Conn.Flushed c c' pk0 seq0 avail where
  out : (Conn.serialiseAll (withAck pk0 seq0 c.pendingAcks) = .ok bs ∧ c'.status = c.status) ∨
    (bs = [] ∧ ∃ e, Conn.serialiseAll (withAck pk0 seq0 c.pendingAcks) = .err e ∧ c'.status = .disconnected (.packetSer e))

theorem Conn.flush_cases {c c' : Conn} {bs : List Bytes} (h : c.getPacketsToSend = .ok (c', bs)) :
    (c.isDisconnected = true ∧ c' = c ∧ bs = []) ∨ ∃ pk0 seq0 avail, c.FlushOut c' bs pk0 seq0 avail := by
  cases hd : c.isDisconnected with
  | true =>
    unfold Conn.getPacketsToSend at h
    rw [hd, if_pos rfl] at h
    cases h; exact Or.inl ⟨rfl, rfl, rfl⟩
  | false =>
    rw [Conn.getPacketsToSend_live hd] at h
    obtain ⟨⟨sr, su, pk0, seq0, avail⟩, hl, h⟩ := Res.bind_ok_iff.mp h
    obtain ⟨sent, hs, h⟩ := Res.bind_ok_iff.mp h
    refine Or.inr ⟨pk0, seq0, avail, ?_⟩
    cases hser : Conn.serialiseAll (withAck pk0 seq0 c.pendingAcks) with
    | ok bs' => rw [hser] at h; cases h; exact ⟨⟨hd, hl, hs, rfl, rfl, rfl, rfl, rfl, rfl, rfl⟩, Or.inl ⟨hser, rfl⟩⟩
    | err e =>
      rw [hser] at h; cases h
      rw [Conn.disconnectWith_live (by exact hd)]
      exact ⟨⟨hd, hl, hs, rfl, rfl, rfl, rfl, rfl, rfl, rfl⟩, Or.inr ⟨rfl, e, hser, rfl⟩⟩
    | panic s => rw [hser] at h; cases h

theorem Conn.flush_live {c c' : Conn} {bs : List Bytes} (hd : c.isDisconnected = false)
    (h : c.getPacketsToSend = .ok (c', bs)) : ∃ pk0 seq0 avail, c.FlushOut c' bs pk0 seq0 avail :=
  (Conn.flush_cases h).resolve_left (fun ⟨hd', _⟩ => by rw [hd] at hd'; cases hd')

theorem Conn.FlushOut.flushPackets {c c' : Conn} {bs : List Bytes} {pk0 : List Packet} {seq0 avail : Nat}
    (o : c.FlushOut c' bs pk0 seq0 avail) : c.flushPackets = .ok (withAck pk0 seq0 c.pendingAcks) := by
  unfold Conn.flushPackets; rw [o.loop]

theorem Conn.FlushInv.packets_fit {c : Conn} (hinv : c.FlushInv) {sr : SMap SendRel} {su : SMap SendUnrel}
    {pk : List Packet} {seq avail : Nat}
    (hl : Conn.chanLoop c.now c.order (c.sendRel, c.sendUnrel, [], c.packetSeq, c.budget) = .ok (sr, su, pk, seq, avail))
    (hseq : seq ≤ Varint.MAX) :
    ∀ p ∈ withAck pk seq c.pendingAcks, PktFits p ∧ ∃ info, Conn.sentInfoOf p = .ok info := by
  obtain ⟨ps, h1, h2, -, -⟩ := chanLoop_fits c.now c.order _ _ _ _ _ _ _ _ _ _ hinv.rel hinv.unrel hl (by omega)
  rw [h1, List.nil_append]
  exact forall_withAck (fun p hp => ⟨(h2 p hp).1, SI.sentInfoOf_of_not_ack (h2 p hp).2⟩)
    (fun hne => ⟨(hinv.ack_fits hne hseq).2, let ⟨_, hl⟩ := sentInfoOf_ack (seq := seq) hinv.acksWF hne; ⟨_, hl⟩⟩)

/-- C13 at connection level: under the invariant, and while `packet_sequence` stays below 2^62, a flush never panics,
    never fails to serialise (the connection status is unchanged), and every datagram handed to the transport is at
    most `NETCODE_MAX_PAYLOAD_BYTES` long. -/
theorem Conn.getPacketsToSend_fits (c : Conn) (hinv : c.FlushInv) (hseq : c.flushSeq ≤ Varint.MAX + 1) :
    ∃ c' bs, c.getPacketsToSend = .ok (c', bs) ∧ c'.status = c.status ∧
      (∀ b ∈ bs, b.length ≤ NETCODE_MAX_PAYLOAD_BYTES) ∧ c'.packetSeq ≤ c.flushSeq := by
  obtain ⟨⟨sr, su, pk, seq, avail⟩, hr⟩ :=
    chanLoop_ok c.now c.order (c.sendRel, c.sendUnrel, [], c.packetSeq, c.budget) hinv.chans
  have hfs := Conn.flushSeq_of_loop hr
  cases hd : c.isDisconnected with
  | true =>
    obtain ⟨_, -, -, this⟩ := chanLoop_numbering hr
    exact ⟨c, [], by unfold Conn.getPacketsToSend; rw [hd]; rfl, rfl, by simp, by omega⟩
  | false =>
    have hfit := hinv.packets_fit hr (by omega)
    obtain ⟨m, hm⟩ := recordSent_ok c.now _ c.sent (fun p hp => (hfit p hp).2)
    obtain ⟨bs, hbs, -, hall⟩ := serialiseAll_ok _ (fun p hp => (hfit p hp).1)
    refine ⟨{ c with sendRel := sr, sendUnrel := su, sent := m,
                     packetSeq := if c.pendingAcks.isEmpty then seq else seq + 1 }, bs, ?_, rfl, hall, ?_⟩
    · rw [Conn.getPacketsToSend_live hd, hr]; simp only [Res.bind_ok, hm, hbs]
    · dsimp only; split <;> omega

theorem Conn.getPacketsToSend_serialises (c c' : Conn) (bs : List Bytes) (hd : c.isDisconnected = false)
    (h : c.getPacketsToSend = .ok (c', bs)) :
    ∃ pk, c.flushPackets = .ok pk ∧ (Conn.serialiseAll pk = .ok bs ∨ (bs = [] ∧ ∃ e, Conn.serialiseAll pk = .err e)) :=
  let ⟨_, _, _, o⟩ := Conn.flush_live hd h
  ⟨_, o.flushPackets, o.out.imp And.left (fun ⟨e0, e, he, _⟩ => ⟨e0, e, he⟩)⟩

/-- C14 at connection level: the message payload carried by all packets of one flush is at most
    `available_bytes_per_tick`; the packets are numbered consecutively from `packet_sequence`. -/
theorem Conn.flushPackets_budget (c : Conn) (pk : List Packet) (hfit : RelMapFit c.sendRel)
    (h : c.flushPackets = .ok pk) :
    payloadSum pk ≤ c.budget ∧ pk.map Packet.sequence = List.range' c.packetSeq pk.length := by
  obtain ⟨sr, su, pk0, seq, avail, hr, rfl⟩ := Conn.flushPackets_ok h
  obtain ⟨ps, h1, h4, h3⟩ := chanLoop_numbering hr
  obtain ⟨ps', h1', h2, -⟩ := chanLoop_budget hfit hr
  cases List.append_cancel_left (h1'.symm.trans h1)
  simp only [List.nil_append] at h1
  subst h1
  unfold withAck
  split
  · exact ⟨by omega, h4⟩
  · refine ⟨by simp [payloadBytes]; omega, ?_⟩
    simp only [List.map_append, List.map_cons, List.map_nil, List.length_append, List.length_cons, List.length_nil,
      h4, List.range'_1_concat, Packet.sequence, h3]

/-- C14, serving order: when the channel loop reaches the channel at position `pre.length` of the send order, the
    budget it is offered is exactly `available_bytes_per_tick` minus the payload of the packets the earlier channels
    produced; the rest of the loop continues from what that channel leaves. -/
theorem chanLoop_offered (now : Nat) (pre post : List (Bool × Nat)) (x : Bool × Nat) (sr : SMap SendRel) (su : SMap SendUnrel)
    (seq budget : Nat) (fin : ChanSt) (hfit : RelMapFit sr)
    (h : Conn.chanLoop now (pre ++ x :: post) (sr, su, [], seq, budget) = .ok fin) :
    ∃ sr1 su1 pk1 seq1 avail1,
      Conn.chanLoop now pre (sr, su, [], seq, budget) = .ok (sr1, su1, pk1, seq1, avail1) ∧
      avail1 = budget - payloadSum pk1 ∧ payloadSum pk1 ≤ budget ∧
      Conn.chanLoop now (x :: post) (sr1, su1, pk1, seq1, avail1) = .ok fin := by
  rw [chanLoop_append] at h
  obtain ⟨⟨sr1, su1, pk1, seq1, avail1⟩, hr, h⟩ := Res.bind_ok_iff.mp h
  obtain ⟨ps, h1, h2, _⟩ := chanLoop_budget hfit hr
  simp only [List.nil_append] at h1
  subst h1
  exact ⟨sr1, su1, pk1, seq1, avail1, hr, by omega, by omega, h⟩

/-! ### decidable forms of the invariants (to check concrete states by evaluation) -/

instance : DecidablePred Unacked.WF := fun u => by
  cases u <;> unfold Unacked.WF <;> infer_instance

def SendRel.WFd (s : SendRel) : Prop :=
  (SMap.keys s.unacked).Nodup ∧ (∀ x ∈ s.unacked, x.1 < s.nextId) ∧ (∀ x ∈ s.unacked, x.2.WF)

instance (s : SendRel) : Decidable s.WFd := by unfold SendRel.WFd; infer_instance

theorem SendRel.WFd.wf {s : SendRel} (h : s.WFd) : s.WF :=
  ⟨h.1, fun id u hm => h.2.1 (id, u) hm, fun id u hm => h.2.2 (id, u) hm⟩

def RelMapOKd (sr : SMap SendRel) : Prop := ∀ x ∈ sr, x.2.WFd ∧ x.2.nextId ≤ Varint.MAX + 1
def UnrelMapOKd (su : SMap SendUnrel) : Prop :=
  ∀ x ∈ su, (∀ m ∈ x.2.queue, m.length ≤ Varint.MAX) ∧ x.2.slicedId + x.2.queue.length ≤ Varint.MAX + 1

instance (sr : SMap SendRel) : Decidable (RelMapOKd sr) := by unfold RelMapOKd; infer_instance
instance (su : SMap SendUnrel) : Decidable (UnrelMapOKd su) := by unfold UnrelMapOKd; infer_instance

theorem RelMapOKd.ok {sr : SMap SendRel} (h : RelMapOKd sr) : RelMapOK sr := by
  intro ch s hs
  have := h (ch, s) (SMap.mem_of_find? hs)
  exact ⟨this.1.wf, this.2⟩

theorem UnrelMapOKd.ok {su : SMap SendUnrel} (h : UnrelMapOKd su) : UnrelMapOK su := by
  intro ch s hs
  exact h (ch, s) (SMap.mem_of_find? hs)

instance (order : List (Bool × Nat)) (sr : SMap SendRel) (su : SMap SendUnrel) : Decidable (ChansExist order sr su) := by
  unfold ChansExist; infer_instance

def acksWFb : List AckRange → Bool
  | [] => true
  | [r] => decide (r.1 < r.2)
  | r :: r2 :: rest => decide (r.1 < r.2) && decide (r.2 < r2.1) && acksWFb (r2 :: rest)

theorem acksWFb_wf : ∀ (l : List AckRange), acksWFb l = true → Acks.WF l
  | [], _ => trivial
  | [r], h => by simpa [acksWFb, Acks.WF] using h
  | r :: r2 :: rest, h => by
    simp only [acksWFb, Bool.and_eq_true, decide_eq_true_eq] at h
    exact ⟨h.1.1, h.1.2, acksWFb_wf (r2 :: rest) h.2⟩

/-- decidable sufficient condition for `Conn.FlushInv` -/
def Conn.FlushInvd (c : Conn) : Prop :=
  ChansExist c.order c.sendRel c.sendUnrel ∧ RelMapOKd c.sendRel ∧ UnrelMapOKd c.sendUnrel ∧
  acksWFb c.pendingAcks = true ∧ c.pendingAcks.length ≤ ACK_RANGE_CAP ∧ ∀ r ∈ c.pendingAcks, r.2 ≤ Varint.MAX + 1

instance (c : Conn) : Decidable c.FlushInvd := by unfold Conn.FlushInvd; infer_instance

theorem Conn.FlushInvd.inv {c : Conn} (h : c.FlushInvd) : c.FlushInv :=
  ⟨h.1, h.2.1.ok, h.2.2.1.ok, acksWFb_wf _ h.2.2.2.1, h.2.2.2.2.1, h.2.2.2.2.2⟩

end RenetVerif
