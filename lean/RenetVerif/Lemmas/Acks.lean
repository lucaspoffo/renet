import RenetVerif.Renet.Acks
import RenetVerif.Lemmas.PacketRT
namespace RenetVerif
namespace Acks

abbrev R := AckRange

/-- denotation: the set of sequence numbers covered by a range list -/
def Mem (x : Nat) : List R → Prop
  | [] => False
  | r :: l => (r.1 ≤ x ∧ x < r.2) ∨ Mem x l

/-- sorted ascending, non-empty ranges, non-adjacent: e_i < s_{i+1} -/
def WF : List R → Prop
  | [] => True
  | [r] => r.1 < r.2
  | r :: r2 :: rest => r.1 < r.2 ∧ r.2 < r2.1 ∧ WF (r2 :: rest)

@[simp] theorem mem_nil {x : Nat} : Mem x [] ↔ False := Iff.rfl
@[simp] theorem mem_cons {x : Nat} {r : R} {l : List R} : Mem x (r :: l) ↔ (r.1 ≤ x ∧ x < r.2) ∨ Mem x l := Iff.rfl

theorem mem_append {x : Nat} {a b : List R} : Mem x (a ++ b) ↔ Mem x a ∨ Mem x b := by
  induction a with
  | nil => simp
  | cons r a ih => simp only [List.cons_append, mem_cons, ih]; grind

theorem wf_cons_iff {r : R} {l : List R} : WF (r :: l) ↔ r.1 < r.2 ∧ WF l ∧ (∀ r2, l.head? = some r2 → r.2 < r2.1) := by
  cases l with
  | nil => simp [WF]
  | cons r2 rest =>
    show r.1 < r.2 ∧ r.2 < r2.1 ∧ WF (r2 :: rest) ↔ _
    constructor
    · intro h
      refine ⟨h.1, h.2.2, ?_⟩
      intro r' hr
      simp only [List.head?_cons, Option.some.injEq] at hr
      subst hr; exact h.2.1
    · intro h; exact ⟨h.1, h.2.2 r2 rfl, h.2.1⟩

theorem wf_tail {r : R} {l : List R} (h : WF (r :: l)) : WF l := (wf_cons_iff.mp h).2.1

theorem addAux_spec (seq : Nat) : ∀ (l : List R) (l' : List R), WF l → addAux seq l = some l' →
    WF l' ∧ (∀ x, Mem x l' ↔ (Mem x l ∨ x = seq)) ∧
    (∀ r, l.head? = some r → ∃ r', l'.head? = some r' ∧ (r'.1 = r.1 ∨ r'.1 = seq) ∧ (r'.1 ≤ r.1)) ∧
    l'.length ≤ l.length + 1
  | [], l', _, h => by simp [addAux] at h
  | (s, e) :: rest, l', hwf, h => by
    simp only [addAux] at h
    split at h
    · cases h
      simp only [wf_cons_iff, mem_cons] at hwf ⊢
      grind
    split at h
    · cases h
      simp only [wf_cons_iff, mem_cons] at hwf ⊢
      grind
    split at h
    · split at h
      · split at h
        · cases h
          simp only [wf_cons_iff, mem_cons] at hwf ⊢
          grind
        · cases h
          simp only [wf_cons_iff, mem_cons] at hwf ⊢
          grind
      · cases h
        simp only [wf_cons_iff, mem_cons, mem_nil] at hwf ⊢
        grind
    split at h
    · cases h
      simp only [wf_cons_iff, mem_cons] at hwf ⊢
      grind
    · cases hr : addAux seq rest with
      | none => simp [hr] at h
      | some l'' =>
        simp [hr] at h; cases h
        simp only [wf_cons_iff] at hwf
        obtain ⟨h1, h2, h3, h4⟩ := addAux_spec seq rest l'' hwf.2.1 hr
        simp only [wf_cons_iff]
        refine ⟨?_, ?_, ?_, ?_⟩
        · refine ⟨hwf.1, h1, ?_⟩
          intro r2 hr2
          cases rest with
          | nil => simp [addAux] at hr
          | cons r0 rest0 =>
            obtain ⟨r', hr', hh, _⟩ := h3 r0 rfl
            have := hwf.2.2 r0 rfl
            grind
        · intro x; simp only [mem_cons]; grind
        · grind
        · simp; omega

theorem addAux_none (seq : Nat) : ∀ (l : List R), WF l → addAux seq l = none → ∀ r ∈ l, r.2 < seq
  | [], _, _ => by simp
  | (s, e) :: rest, hwf, h => by
    simp only [addAux] at h
    split at h
    · cases h
    split at h
    · cases h
    split at h
    · split at h
      · split at h <;> cases h
      · cases h
    split at h
    · cases h
    rw [Option.map_eq_none_iff] at h
    have hse := (wf_cons_iff.mp hwf).1
    intro r hr
    rcases List.mem_cons.mp hr with rfl | hr
    · simp only at *
      omega
    · exact addAux_none seq rest (wf_tail hwf) h r hr

theorem capFront_id (cap : Nat) (l : List R) (h : l.length ≤ cap) : capFront cap l = l := by
  unfold capFront
  have : ¬ l.length > cap := by omega
  simp only [this, if_false]

theorem capFront_length (cap : Nat) (l : List R) (h : l.length ≤ cap + 1) : (capFront cap l).length ≤ cap := by
  unfold capFront
  by_cases c : l.length > cap
  · simp only [c, if_true, List.length_tail]; omega
  · simp only [c, if_false]; omega

theorem wf_append_singleton : ∀ (l : List R) (seq : Nat), WF l → (∀ r ∈ l, r.2 < seq) → WF (l ++ [(seq, seq + 1)])
  | [], seq, _, _ => by simp [WF]
  | [r], seq, h, hb => by
    have := hb r (by simp)
    simp only [List.cons_append, List.nil_append, WF] at h ⊢
    exact ⟨h, this, by omega⟩
  | r :: r2 :: rest, seq, h, hb => by
    simp only [List.cons_append, WF] at h ⊢
    refine ⟨h.1, h.2.1, ?_⟩
    have := wf_append_singleton (r2 :: rest) seq h.2.2 (fun x hx => hb x (by simp [hx]))
    simpa using this

theorem wf_capFront (cap : Nat) (l : List R) (h : WF l) : WF (capFront cap l) := by
  unfold capFront; split
  · cases l with
    | nil => simpa
    | cons r l => exact wf_tail h
  · exact h

theorem mem_capFront {cap x : Nat} {l : List R} (h : Mem x (capFront cap l)) : Mem x l := by
  unfold capFront at h
  split at h
  · cases l with
    | nil => exact h
    | cons r l => exact Or.inr h
  · exact h

theorem add_spec (cap seq : Nat) (l : List R) (h : WF l) :
    ∃ l', ((l = [] ∧ add cap seq l = l') ∨ add cap seq l = capFront cap l') ∧ WF l' ∧
      (∀ x, Mem x l' ↔ (Mem x l ∨ x = seq)) ∧ l'.length ≤ l.length + 1 := by
  unfold add
  cases l with
  | nil =>
    refine ⟨_, Or.inl ⟨rfl, rfl⟩, Nat.lt_succ_self seq, fun x => ?_, Nat.le_refl 1⟩
    simp only [mem_cons, mem_nil, or_false, false_or]
    omega
  | cons r l =>
    simp only
    cases ha : addAux seq (r :: l) with
    | some l' =>
      obtain ⟨h1, h2, _, h4⟩ := addAux_spec seq _ _ h ha
      exact ⟨l', Or.inr rfl, h1, h2, h4⟩
    | none =>
      refine ⟨_, Or.inr rfl, wf_append_singleton _ _ h (addAux_none seq _ h ha), fun x => ?_, by simp⟩
      simp only [mem_append, mem_cons, mem_nil, or_false]
      exact or_congr Iff.rfl (by omega)

theorem add_wf (cap seq : Nat) (l : List R) (h : WF l) : WF (add cap seq l) := by
  obtain ⟨l', he | he, hw, _, _⟩ := add_spec cap seq l h
  · rw [he.2]
    exact hw
  · rw [he]
    exact wf_capFront _ _ hw

/-- **the cap is an invariant on every path**, the insert path included (repaired defect D16) -/
theorem add_length (cap seq : Nat) (l : List R) (hc : 1 ≤ cap) (h : WF l) (hl : l.length ≤ cap) :
    (add cap seq l).length ≤ cap := by
  obtain ⟨l', ⟨rfl, he⟩ | he, _, _, hlen⟩ := add_spec cap seq l h
  · rw [he]
    exact Nat.le_trans hlen hc
  · rw [he]
    exact capFront_length _ _ (by omega)

theorem capFront_length_le (cap : Nat) (l : List R) : (capFront cap l).length ≤ l.length := by
  unfold capFront
  split
  · simp only [List.length_tail]; omega
  · exact Nat.le_refl _

theorem add_length_le (cap seq : Nat) (l : List R) (h : WF l) : (add cap seq l).length ≤ l.length + 1 := by
  obtain ⟨l', ⟨-, he⟩ | he, -, -, hlen⟩ := add_spec cap seq l h
  · rw [he]; exact hlen
  · rw [he]; exact Nat.le_trans (capFront_length_le cap l') hlen

/-- **nothing is acknowledged that was not received** -/
theorem add_mem_sub (cap seq : Nat) (l : List R) (h : WF l) (x : Nat) (hx : Mem x (add cap seq l)) :
    Mem x l ∨ x = seq := by
  obtain ⟨l', he | he, _, hm, _⟩ := add_spec cap seq l h
  · rw [he.2] at hx
    exact (hm x).mp hx
  · rw [he] at hx
    exact (hm x).mp (mem_capFront hx)

theorem add_mem_iff (cap seq : Nat) (l : List R) (h : WF l) (hl : l.length < cap) (x : Nat) :
    Mem x (add cap seq l) ↔ (Mem x l ∨ x = seq) := by
  obtain ⟨l', he | he, _, hm, hlen⟩ := add_spec cap seq l h
  · rw [he.2]
    exact hm x
  · rw [he, capFront_id _ _ (by omega)]
    exact hm x

theorem ackedLargest_wf (largest : Nat) : ∀ (l : List R), WF l → WF (ackedLargest largest l)
  | [], _ => by simp [ackedLargest, WF]
  | (s, e) :: rest, h => by
    simp only [ackedLargest]
    split
    · exact h
    · split
      · exact ackedLargest_wf largest rest (wf_tail h)
      · split
        · exact wf_tail h
        · rw [wf_cons_iff] at h ⊢
          refine ⟨by simp only; omega, h.2.1, h.2.2⟩

theorem ackedLargest_length (largest : Nat) : ∀ (l : List R), (ackedLargest largest l).length ≤ l.length
  | [] => by simp [ackedLargest]
  | (s, e) :: rest => by
    simp only [ackedLargest]
    split
    · exact Nat.le_refl _
    · split
      · have := ackedLargest_length largest rest; simp only [List.length_cons]; omega
      · split <;> simp

theorem wf_lt_of_mem : ∀ {r : R} {l : List R}, WF (r :: l) → ∀ r' ∈ l, r.2 < r'.1
  | _, y :: l, h, r', hr => by
    rw [wf_cons_iff] at h
    have hy := h.2.2 y rfl
    rcases List.mem_cons.mp hr with rfl | hr
    · exact hy
    · have := (wf_cons_iff.mp h.2.1).1
      have := wf_lt_of_mem h.2.1 r' hr
      omega

theorem descWF_snoc {s e : Nat} (hse : s < e) : ∀ {a : List R} {p : Nat}, DescWF p a → (∀ r ∈ a, e < r.1) → e < p →
    DescWF p (a ++ [(s, e)])
  | [], _, _, _, hp => ⟨hse, hp, trivial⟩
  | (ys, _) :: _, _, hd, hb, _ =>
    ⟨hd.1, hd.2.1, descWF_snoc hse hd.2.2 (fun r hr => hb r (List.mem_cons_of_mem _ hr)) (hb (ys, _) List.mem_cons_self)⟩

theorem descWF_of_wf : ∀ (l : List R) (prev : Nat), WF l → (∀ r ∈ l, r.2 < prev) → DescWF prev l.reverse
  | [], _, _, _ => trivial
  | (s, e) :: rest, prev, h, hb => by
    rw [List.reverse_cons]
    exact descWF_snoc (wf_cons_iff.mp h).1 (descWF_of_wf rest prev (wf_tail h) (fun r hr => hb r (List.mem_cons_of_mem _ hr)))
      (fun r hr => wf_lt_of_mem h r (List.mem_reverse.mp hr)) (hb (s, e) List.mem_cons_self)

theorem ackWF_of_wf (l : List R) (hne : l ≠ []) (h : WF l) (hb : ∀ r ∈ l, r.2 ≤ Varint.MAX + 1) : AckWF l := by
  have hd := descWF_of_wf l (Varint.MAX + 2) h (fun r hr => Nat.lt_succ_of_le (hb r hr))
  cases hrev : l.reverse with
  | nil => exact absurd (List.reverse_eq_nil_iff.mp hrev) hne
  | cons x d =>
    rw [hrev] at hd
    exact ⟨x.1, x.2, d, hrev, hd.1, Nat.le_of_lt_succ hd.2.1, hd.2.2⟩

theorem wf_mem_nonempty : ∀ {l : List AckRange}, WF l → ∀ r ∈ l, r.1 < r.2
  | [], _, _, h => by cases h
  | x :: rest, hw, r, h => by
    rw [wf_cons_iff] at hw
    simp only [List.mem_cons] at h
    rcases h with rfl | h
    · exact hw.1
    · exact wf_mem_nonempty hw.2.1 r h

theorem mem_iff_exists {x : Nat} : ∀ {l : List AckRange}, Mem x l ↔ ∃ r ∈ l, r.1 ≤ x ∧ x < r.2
  | [] => by simp
  | a :: t => by
    simp only [mem_cons, List.mem_cons, mem_iff_exists (l := t)]
    constructor
    · rintro (h | ⟨r, hr, h⟩)
      · exact ⟨a, Or.inl rfl, h⟩
      · exact ⟨r, Or.inr hr, h⟩
    · rintro ⟨r, rfl | hr, h⟩
      · exact Or.inl h
      · exact Or.inr ⟨r, hr, h⟩

theorem wf_above : ∀ {l : List AckRange} {r : AckRange}, WF (r :: l) → ∀ x, Mem x l → r.2 < x
  | [], _, _, _, hx => by cases hx
  | r2 :: t, r, hw, x, hx => by
    rw [wf_cons_iff] at hw
    have h1 := hw.2.2 r2 rfl
    simp only [mem_cons] at hx
    rcases hx with hx | hx
    · omega
    · have := wf_above hw.2.1 x hx
      have h3 := wf_mem_nonempty hw.2.1 r2 (by simp)
      omega

theorem ackedLargest_mem_iff (largest : Nat) : ∀ (l : List AckRange), WF l → ∀ x,
    Mem x (ackedLargest largest l) ↔ Mem x l ∧ largest < x
  | [], _, x => by simp [ackedLargest]
  | (s, e) :: rest, h, x => by
    have hab := wf_above h x
    have hse := (wf_cons_iff.mp h).1
    simp only at hab hse
    simp only [ackedLargest]
    split
    · -- everything covered lies above `s`
      simp only [mem_cons]
      constructor
      · rintro (hm | hm)
        · exact ⟨Or.inl hm, by omega⟩
        · exact ⟨Or.inr hm, by have := hab hm; omega⟩
      · exact fun hm => hm.1
    · split
      · -- the first range lies below `largest` and goes
        rw [ackedLargest_mem_iff largest rest (wf_tail h) x, mem_cons]
        constructor
        · exact fun hm => ⟨Or.inr hm.1, hm.2⟩
        · rintro ⟨hm | hm, hx⟩
          · simp only at hm; omega
          · exact ⟨hm, hx⟩
      · split
        · simp only [mem_cons]
          constructor
          · exact fun hm => ⟨Or.inr hm, by have := hab hm; omega⟩
          · rintro ⟨hm | hm, hx⟩
            · omega
            · exact hm
        · simp only [mem_cons]
          constructor
          · rintro (hm | hm)
            · exact ⟨Or.inl (by omega), by omega⟩
            · exact ⟨Or.inr hm, by have := hab hm; omega⟩
          · rintro ⟨hm | hm, hx⟩
            · exact Or.inl (by omega)
            · exact Or.inr hm

theorem wf_le_last : ∀ {l : List AckRange}, WF l → ∀ x, l.getLast? = some x → ∀ r ∈ l, r.2 ≤ x.2
  | [], _, _, _, _, hr => by cases hr
  | [a], _, x, hx, r, hr => by
    simp only [List.getLast?_singleton, Option.some.injEq] at hx
    simp only [List.mem_singleton] at hr
    subst hx hr; exact Nat.le_refl _
  | a :: b :: t, hw, x, hx, r, hr => by
    rw [wf_cons_iff] at hw
    have hx' : (b :: t).getLast? = some x := by simpa using hx
    have ih := wf_le_last hw.2.1 x hx'
    simp only [List.mem_cons] at hr
    rcases hr with rfl | hr
    · have h1 := hw.2.2 b rfl
      have h2 := wf_mem_nonempty hw.2.1 b (by simp)
      have h3 := ih b (by simp)
      omega
    · exact ih r (by simpa using hr)

theorem add_bound (cap seq B : Nat) (l : List R) (h : WF l) (hb : ∀ r ∈ l, r.2 ≤ B) (hs : seq < B) :
    ∀ r ∈ add cap seq l, r.2 ≤ B := by
  intro r hr
  have hne := wf_mem_nonempty (add_wf cap seq l h) r hr
  have hm : Mem (r.2 - 1) (add cap seq l) := mem_iff_exists.mpr ⟨r, hr, by omega, by omega⟩
  rcases add_mem_sub cap seq l h _ hm with h1 | h1
  · obtain ⟨r', hr', -, hx⟩ := mem_iff_exists.mp h1
    have := hb r' hr'
    omega
  · omega

theorem wf_reverse_append : ∀ (d : List AckRange) (prev : Nat) (acc : List AckRange), DescWF prev d → WF acc →
    (∀ r, acc.head? = some r → prev ≤ r.1) → WF (d.reverse ++ acc)
  | [], _, _, _, hw, _ => hw
  | (s, e) :: d, prev, acc, hd, hw, hh => by
    obtain ⟨h1, h2, h3⟩ := hd
    rw [List.reverse_cons, List.append_assoc]
    refine wf_reverse_append d s _ h3 ?_ (fun r hr => ?_)
    · rw [List.singleton_append, wf_cons_iff]
      exact ⟨h1, hw, fun r hr => Nat.lt_of_lt_of_le h2 (hh r hr)⟩
    · cases hr; exact Nat.le_refl _

theorem wf_of_ackWF {l : List AckRange} (h : AckWF l) : WF l := by
  obtain ⟨ls, le, d, hrev, hlt, -, hd⟩ := h
  have hl : l = d.reverse ++ [(ls, le)] := by
    rw [← List.reverse_reverse l, hrev, List.reverse_cons]
  rw [hl]
  exact wf_reverse_append d ls _ hd hlt (fun r hr => by cases hr; exact Nat.le_refl _)

end Acks
end RenetVerif
