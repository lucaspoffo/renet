/-
  C01 / C02 — LIVENESS halves, at SYSTEM level (the two-endpoint system of Lemmas/System.lean):

    C01 "Once the network delivers packets again and neither side has been disconnected, every submitted message is
         obtained within a bounded number of ticks."
    C02 "… once the network delivers again every submitted message is obtained within a bounded number of ticks."

  THE LOSSLESS ROUND.  For a reliable channel `ch` from A to B, a round is the operation list

      roundOps ch ks n  =  flushA ; deliverToB k (k ∈ ks) ; recvB ch  (n times)

  i.e. one `get_packets_to_send` of A, the network handing datagrams of `outA` to B, and B's application asking `n`
  times for a message.  `newIdx s` are the indices the datagrams of this flush get in `outA`.

  Hypotheses (all stated on the state `s` the round starts from; proofs and definitions in Lemmas/Liveness.lean):
    H1  `AllDue now resend unacked`     every entry of A's `unacked` is due: a small message was never sent or
                                        `now - last_sent ≥ resend_time`; for a sliced message every un-acknowledged slice.
                                        `due_after_update`: holds after `updA dt` with `dt ≥ resend_time` in every
                                        reachable state (time stamps never lie in the future: `Live.reach_conn`).
    H2  `backlog unacked ≤ availAtTurn s.a ch`
                                        `backlog` = Σ small message lengths + SLICE_SIZE per un-acknowledged slice (the
                                        code accepts a slice only when `available_bytes ≥ SLICE_SIZE`);
                                        `availAtTurn` = what is left of `available_bytes_per_tick` when the channel loop
                                        reaches `ch` (computed by running the loop over the channels configured before it);
                                        for a single-channel configuration it is `cfg.budget` (`bounded_delivery_single`).
    H3  `Room (submitted ch) rB`        B's receive channel: `mem + Σ pend ≤ max_memory`, where a submitted message
                                        that has not arrived yet counts its length (small) or `num_slices * SLICE_SIZE`
                                        (sliced, no reassembly in progress: the reservation a NEW constructor makes;
                                        a reassembly in progress is already in `mem`) — the cost notion of C09's
                                        `refusal_only_over_budget`.
    H4  `∀ p ∈ flushPk s.a, OnlyCh ch p`  the flush carries only packets of channel `ch` and A's ack packet (automatic
                                        in a single-channel configuration; otherwise: the other channels are idle).
    counters: `CountersOK cfg s` (as in C01S) and `s.a.CountersOK` (C06: nothing reaches 2^62 in this flush).

  RESULTS.
    round_progress            H1+H2 for a prefix `pre` of the backlog: no panic, A stays live, and UNLESS B HAS BEEN
                              DISCONNECTED the first `j` submitted messages are obtained; `ks` may be any datagrams of
                              `outA` (stale ones, repetitions, any order) as long as those of this flush are among them.
                              This is the clause of C01 as worded ("neither side has been disconnected").
    round_delivers            H1–H4, whole backlog: B is NOT disconnected and `obtained ch = submitted ch`.
    round_live                H3+H4: the round does not disconnect B.
    round_delivers_unordered(_live)   ReliableUnordered: `obtained ch` is a permutation of `submitted ch`.
    due_after_update, bounded_delivery, bounded_delivery_single
                              the bound: ONE lossless tick after the resend time has elapsed, when the budget covers
                              the backlog.
    progress_per_tick_partial, nothing_lost
                              budget covers only the entries with the smallest ids: those are delivered this tick;
                              every submitted message is still in A's `unacked` or has arrived at B.

    acks_release, acks_release_after_round(_all)
                              the way back: B's next flush ends with an ack packet carrying exactly its pending list
                              (C08); when A processes it, every covered packet still in A's sent table releases what it
                              carried (`Eff`).  After a round that covered the entries `pre` of the backlog, A's
                              `unacked` on `ch` holds only entries of the uncovered rest — EMPTY when the whole backlog
                              was covered — so delivered messages do not use up the budget of later ticks (no livelock).
                              Extra hypothesis: fewer than ACK_RANGE_CAP = 64 pending ack ranges at B
                              (`s.b.pendingAcks.length + ks.length < ACK_RANGE_CAP`): beyond the cap the Rust code drops
                              the oldest range, i.e. forgets to acknowledge.
                              `acks_release_next_round` is the same with the pending-list fact as an explicit hypothesis.

  The closed k-round bound for budget < backlog: Props/C01K.lean, `k_round_delivery`, which iterates
  `progress_per_tick_partial` and `acks_release_after_round`.  Without acknowledgements reaching A there is in general
  no such bound: the unacknowledged entries with the smallest ids are retransmitted first on every tick.
  H3 is necessary and is NOT implied by the sender's own admission control: see `ExMem` below.
-/
import RenetVerif.Lemmas.Liveness
import RenetVerif.Lemmas.RunRange
namespace RenetVerif.C01L
open RenetVerif C RenetVerif.System RenetVerif.Live

/-- **H1 holds after waiting.** -/
theorem due_after_update (cfg : Cfg) (ops : List SysOp) (s : Sys) (hr : (Sys.init cfg).run ops = some s)
    (ch : Nat) (sA : SendRel) (hfA : SMap.find? s.a.sendRel ch = some sA) (dt : Nat) (hdt : sA.resend ≤ dt)
    (su : Sys) (hsu : s.step (.updA dt) = some su) :
    SMap.find? su.a.sendRel ch = some sA ∧ AllDue su.a.now sA.resend sA.unacked :=
  Live.due_after_update cfg ops s hr ch sA hfA dt hdt su hsu

/-- **C01 liveness as worded: one lossless round, "unless B has been disconnected" (prefix form).** -/
theorem round_progress (cfg : Cfg) (ops : List SysOp) (s : Sys) (hr : (Sys.init cfg).run ops = some s)
    (hc : CountersOK cfg s) (hcA : s.a.CountersOK) (hda : s.a.isDisconnected = false)
    (ch : Nat) (ho : cfg.Ordered ch) (sA : SendRel) (hfA : SMap.find? s.a.sendRel ch = some sA)
    (pre post : SMap Unacked) (hun : sA.unacked = pre ++ post) (j : Nat) (hj : ∀ x ∈ post, j ≤ x.1)
    (hjL : j ≤ (s.submitted ch).length)
    (H1 : AllDue s.a.now sA.resend pre) (H2 : backlog pre ≤ availAtTurn s.a ch)
    (ks : List Nat) (hks1 : ∀ k ∈ newIdx s, k ∈ ks) (hks2 : ∀ k ∈ ks, k < s.outA.length + (flushPk s.a).length)
    (n : Nat) (hn : j ≤ (s.obtained ch).length + n) :
    ∃ t u, s.run (SysOp.flushA :: ks.map SysOp.deliverToB) = some t ∧ t.run (List.replicate n (SysOp.recvB ch)) = some u ∧
      s.run (roundOps ch ks n) = some u ∧
      u.submitted = s.submitted ∧ u.a.isDisconnected = false ∧ u.b.isDisconnected = t.b.isDisconnected ∧
      (u.b.isDisconnected = false → (s.submitted ch).take j <+: u.obtained ch ∧ u.obtained ch <+: s.submitted ch) :=
  round_progress_inv (MultiLive.goodL_reach hr) hc hcA hda ch ho sA hfA pre post hun j hj hjL H1 H2 ks hks1 hks2 n hn

/-- the whole backlog: unless B has been disconnected, everything submitted is obtained, in order -/
theorem round_delivers_unless_disconnected (cfg : Cfg) (ops : List SysOp) (s : Sys) (hr : (Sys.init cfg).run ops = some s)
    (hc : CountersOK cfg s) (hcA : s.a.CountersOK) (hda : s.a.isDisconnected = false)
    (ch : Nat) (ho : cfg.Ordered ch) (sA : SendRel) (hfA : SMap.find? s.a.sendRel ch = some sA)
    (H1 : AllDue s.a.now sA.resend sA.unacked) (H2 : backlog sA.unacked ≤ availAtTurn s.a ch)
    (ks : List Nat) (hks1 : ∀ k ∈ newIdx s, k ∈ ks) (hks2 : ∀ k ∈ ks, k < s.outA.length + (flushPk s.a).length)
    (n : Nat) (hn : (s.submitted ch).length ≤ (s.obtained ch).length + n) :
    ∃ u, s.run (roundOps ch ks n) = some u ∧ u.a.isDisconnected = false ∧ u.submitted ch = s.submitted ch ∧
      (u.b.isDisconnected = false → u.obtained ch = s.submitted ch) := by
  obtain ⟨t, u, -, -, hu, e1, e2, -, hcon⟩ := round_delivered_inv (ord := true) (MultiLive.goodL_reach hr) hc hcA hda ch ho sA hfA
    H1 H2 ks hks1 hks2 n hn
  exact ⟨u, hu, e2, by rw [e1], hcon⟩

/-- **H3 + H4: the round does not disconnect B** (any channel kind). -/
theorem round_live (cfg : Cfg) (ops : List SysOp) (s : Sys) (hr : (Sys.init cfg).run ops = some s)
    (hc : CountersOK cfg s) (hcA : s.a.CountersOK) (hda : s.a.isDisconnected = false) (hdb : s.b.isDisconnected = false)
    (ch : Nat) (sA : SendRel) (hfA : SMap.find? s.a.sendRel ch = some sA)
    (rB : RecvRel) (hfB : SMap.find? s.b.recvRel ch = some rB)
    (H3 : Room (s.submitted ch) rB) (H4 : ∀ p ∈ flushPk s.a, OnlyCh ch p)
    (ks : List Nat) (hks : ∀ k ∈ ks, k ∈ newIdx s) (t : Sys)
    (hrun : s.run (SysOp.flushA :: ks.map SysOp.deliverToB) = some t) : t.b.isDisconnected = false :=
  round_live_inv (MultiLive.goodL_reach hr) hc hcA hda hdb ch rB hfB H3 H4 ks hks t hrun

/-- **C01 liveness: one lossless round delivers everything (ReliableOrdered), H1–H4.** -/
theorem round_delivers (cfg : Cfg) (ops : List SysOp) (s : Sys) (hr : (Sys.init cfg).run ops = some s)
    (hc : CountersOK cfg s) (hcA : s.a.CountersOK) (hda : s.a.isDisconnected = false) (hdb : s.b.isDisconnected = false)
    (ch : Nat) (ho : cfg.Ordered ch) (sA : SendRel) (hfA : SMap.find? s.a.sendRel ch = some sA)
    (rB : RecvRel) (hfB : SMap.find? s.b.recvRel ch = some rB)
    (H1 : AllDue s.a.now sA.resend sA.unacked) (H2 : backlog sA.unacked ≤ availAtTurn s.a ch)
    (H3 : Room (s.submitted ch) rB) (H4 : ∀ p ∈ flushPk s.a, OnlyCh ch p)
    (ks : List Nat) (hks1 : ∀ k ∈ newIdx s, k ∈ ks) (hks2 : ∀ k ∈ ks, k ∈ newIdx s)
    (n : Nat) (hn : (s.submitted ch).length ≤ (s.obtained ch).length + n) :
    ∃ u, s.run (roundOps ch ks n) = some u ∧ u.a.isDisconnected = false ∧ u.b.isDisconnected = false ∧
      u.submitted ch = s.submitted ch ∧ u.obtained ch = s.submitted ch :=
  Live.round_delivers cfg ops s hr hc hcA hda hdb ch ho sA hfA rB hfB H1 H2 H3 H4 ks hks1 hks2 n hn

/-- **C02 liveness: one lossless round (ReliableUnordered), "unless B has been disconnected".** -/
theorem round_delivers_unordered (cfg : Cfg) (ops : List SysOp) (s : Sys) (hr : (Sys.init cfg).run ops = some s)
    (hc : CountersOK cfg s) (hcA : s.a.CountersOK) (hda : s.a.isDisconnected = false)
    (ch : Nat) (ho : cfg.Unordered ch) (sA : SendRel) (hfA : SMap.find? s.a.sendRel ch = some sA)
    (H1 : AllDue s.a.now sA.resend sA.unacked) (H2 : backlog sA.unacked ≤ availAtTurn s.a ch)
    (ks : List Nat) (hks1 : ∀ k ∈ newIdx s, k ∈ ks) (hks2 : ∀ k ∈ ks, k < s.outA.length + (flushPk s.a).length)
    (n : Nat) (hn : (s.submitted ch).length ≤ (s.obtained ch).length + n) :
    ∃ t u, s.run (SysOp.flushA :: ks.map SysOp.deliverToB) = some t ∧ t.run (List.replicate n (SysOp.recvB ch)) = some u ∧
      s.run (roundOps ch ks n) = some u ∧
      u.submitted = s.submitted ∧ u.a.isDisconnected = false ∧ u.b.isDisconnected = t.b.isDisconnected ∧
      (u.b.isDisconnected = false → (u.obtained ch).Perm (s.submitted ch)) :=
  round_delivered_inv (ord := false) (MultiLive.goodL_reach hr) hc hcA hda ch ho sA hfA H1 H2 ks hks1 hks2 n hn

/-- … and with H3/H4: every submitted message is obtained exactly once -/
theorem round_delivers_unordered_live (cfg : Cfg) (ops : List SysOp) (s : Sys) (hr : (Sys.init cfg).run ops = some s)
    (hc : CountersOK cfg s) (hcA : s.a.CountersOK) (hda : s.a.isDisconnected = false) (hdb : s.b.isDisconnected = false)
    (ch : Nat) (ho : cfg.Unordered ch) (sA : SendRel) (hfA : SMap.find? s.a.sendRel ch = some sA)
    (rB : RecvRel) (hfB : SMap.find? s.b.recvRel ch = some rB)
    (H1 : AllDue s.a.now sA.resend sA.unacked) (H2 : backlog sA.unacked ≤ availAtTurn s.a ch)
    (H3 : Room (s.submitted ch) rB) (H4 : ∀ p ∈ flushPk s.a, OnlyCh ch p)
    (ks : List Nat) (hks1 : ∀ k ∈ newIdx s, k ∈ ks) (hks2 : ∀ k ∈ ks, k ∈ newIdx s)
    (n : Nat) (hn : (s.submitted ch).length ≤ (s.obtained ch).length + n) :
    ∃ u, s.run (roundOps ch ks n) = some u ∧ u.a.isDisconnected = false ∧ u.b.isDisconnected = false ∧
      u.submitted ch = s.submitted ch ∧ (u.obtained ch).Perm (s.submitted ch) :=
  Live.round_delivers_unordered_live cfg ops s hr hc hcA hda hdb ch ho sA hfA rB hfB H1 H2 H3 H4 ks hks1 hks2 n hn

/-- **The bound: ONE lossless tick after the resend time has elapsed.** -/
theorem bounded_delivery (cfg : Cfg) (ops : List SysOp) (s : Sys) (hr : (Sys.init cfg).run ops = some s)
    (hda : s.a.isDisconnected = false) (hdb : s.b.isDisconnected = false)
    (ch : Nat) (ho : cfg.Ordered ch) (sA : SendRel) (hfA : SMap.find? s.a.sendRel ch = some sA)
    (rB : RecvRel) (hfB : SMap.find? s.b.recvRel ch = some rB)
    (dt : Nat) (hdt : sA.resend ≤ dt) (su : Sys) (hsu : s.step (.updA dt) = some su)
    (hc : CountersOK cfg su) (hcA : su.a.CountersOK)
    (H2 : backlog sA.unacked ≤ availAtTurn su.a ch)
    (H3 : Room (s.submitted ch) rB) (H4 : ∀ p ∈ flushPk su.a, OnlyCh ch p)
    (ks : List Nat) (hks1 : ∀ k ∈ newIdx su, k ∈ ks) (hks2 : ∀ k ∈ ks, k ∈ newIdx su)
    (n : Nat) (hn : (s.submitted ch).length ≤ (s.obtained ch).length + n) :
    ∃ u, s.run (SysOp.updA dt :: roundOps ch ks n) = some u ∧ u.a.isDisconnected = false ∧ u.b.isDisconnected = false ∧
      u.submitted ch = s.submitted ch ∧ u.obtained ch = s.submitted ch :=
  Live.bounded_delivery cfg ops s hr hda hdb ch ho sA hfA rB hfB dt hdt su hsu hc hcA H2 H3 H4 ks hks1 hks2 n hn

/-- the same for a configuration whose only A → B channel is the ReliableOrdered channel `ch`: H2 is
    `backlog ≤ available_bytes_per_tick`, H4 is automatic, the datagrams are handed over in emission order -/
theorem bounded_delivery_single (cfg : Cfg) (ops : List SysOp) (s : Sys) (hr : (Sys.init cfg).run ops = some s)
    (hda : s.a.isDisconnected = false) (hdb : s.b.isDisconnected = false)
    (ch : Nat) (hsingle : Single cfg ch) (sA : SendRel) (hfA : SMap.find? s.a.sendRel ch = some sA)
    (rB : RecvRel) (hfB : SMap.find? s.b.recvRel ch = some rB)
    (dt : Nat) (hdt : sA.resend ≤ dt) (su : Sys) (hsu : s.step (.updA dt) = some su)
    (hc : CountersOK cfg su) (hcA : su.a.CountersOK)
    (H2 : backlog sA.unacked ≤ cfg.budget) (H3 : Room (s.submitted ch) rB)
    (n : Nat) (hn : (s.submitted ch).length ≤ (s.obtained ch).length + n) :
    ∃ u, s.run (SysOp.updA dt :: roundOps ch (newIdx su) n) = some u ∧ u.a.isDisconnected = false ∧
      u.b.isDisconnected = false ∧ u.submitted ch = s.submitted ch ∧ u.obtained ch = s.submitted ch := by
  obtain ⟨pkU, hU, -⟩ := system_inv cfg _ su (run_snoc hr hsu)
  exact bounded_delivery cfg ops s hr hda hdb ch (single_ordered hsingle) sA hfA rB hfB dt hdt su hsu hc hcA
    (by rw [single_avail hsingle hU]; exact H2) H3 (single_only hU.invA.1 (single_order hsingle hU))
    (newIdx su) (fun _ h => h) (fun _ h => h) n hn

/-- **Budget covers only part of the backlog: monotone progress per tick.** -/
theorem progress_per_tick_partial (cfg : Cfg) (ops : List SysOp) (s : Sys) (hr : (Sys.init cfg).run ops = some s)
    (hda : s.a.isDisconnected = false)
    (ch : Nat) (ho : cfg.Ordered ch) (sA : SendRel) (hfA : SMap.find? s.a.sendRel ch = some sA)
    (dt : Nat) (hdt : sA.resend ≤ dt) (su : Sys) (hsu : s.step (.updA dt) = some su)
    (hc : CountersOK cfg su) (hcA : su.a.CountersOK)
    (pre post : SMap Unacked) (hun : sA.unacked = pre ++ post) (j : Nat) (hj : ∀ x ∈ post, j ≤ x.1)
    (hjL : j ≤ (s.submitted ch).length) (H2 : backlog pre ≤ availAtTurn su.a ch)
    (ks : List Nat) (hks1 : ∀ k ∈ newIdx su, k ∈ ks) (hks2 : ∀ k ∈ ks, k < su.outA.length + (flushPk su.a).length)
    (n : Nat) (hn : j ≤ (s.obtained ch).length + n) :
    ∃ u, s.run (SysOp.updA dt :: roundOps ch ks n) = some u ∧ u.a.isDisconnected = false ∧
      u.submitted ch = s.submitted ch ∧ s.obtained ch <+: u.obtained ch ∧
      (u.b.isDisconnected = false → (s.submitted ch).take j <+: u.obtained ch ∧ u.obtained ch <+: s.submitted ch) :=
  Live.progress_per_tick_partial cfg ops s hr hda ch ho sA hfA dt hdt su hsu hc hcA pre post hun j hj hjL H2 ks hks1 hks2 n hn

/-- **Nothing is lost**: a submitted message is still stored by A (and will be retransmitted) or has arrived at B. -/
theorem nothing_lost (cfg : Cfg) (ops : List SysOp) (s : Sys) (hr : (Sys.init cfg).run ops = some s)
    (hc : CountersOK cfg s) (hdb : s.b.isDisconnected = false)
    (ch : Nat) (sA : SendRel) (hfA : SMap.find? s.a.sendRel ch = some sA)
    (rB : RecvRel) (hfB : SMap.find? s.b.recvRel ch = some rB) (id : Nat) (hid : id < (s.submitted ch).length) :
    (∃ u, SMap.find? sA.unacked id = some u ∧ u.msg = (s.submitted ch)[id]) ∨ Have rB id :=
  Live.nothing_lost cfg ops s hr hc hdb ch sA hfA rB hfB id hid

/-- **The acknowledgement round**: `flushB ; deliverToA (ackIdx u)`. -/
theorem acks_release (cfg : Cfg) (ops : List SysOp) (u : Sys) (hr : (Sys.init cfg).run ops = some u)
    (hda : u.a.isDisconnected = false) (hdb : u.b.isDisconnected = false) (hcB : u.b.CountersOK)
    (hne : u.b.pendingAcks ≠ []) :
    ∃ v, u.run [.flushB, .deliverToA (ackIdx u)] = some v ∧ v.a.isDisconnected = false ∧
      v.submitted = u.submitted ∧ v.obtained = u.obtained ∧ ConnAckMono u.a v.a ∧ v.a.SendInv ∧
      ∀ seq t info, Acks.Mem seq u.b.pendingAcks → SMap.find? u.a.sent seq = some (t, info) → Eff v.a info :=
  let ⟨_, h1, _⟩ := system_inv cfg ops u hr
  acks_release_inv h1 hda hdb hcB hne

theorem nil_of_rest_nil {un : SMap Unacked} (h : ∀ x ∈ un, ∃ u0, (x.1, u0) ∈ ([] : SMap Unacked)) : un = [] := by
  rw [List.eq_nil_iff_forall_not_mem]
  intro x hx
  obtain ⟨u0, h0⟩ := h x hx
  cases h0

/-- **No livelock of the budget by delivered messages** — with the pending-list fact `hpend` as a hypothesis. -/
theorem acks_release_next_round (cfg : Cfg) (ops : List SysOp) (s : Sys) (hr : (Sys.init cfg).run ops = some s)
    (hc : CountersOK cfg s) (hcA : s.a.CountersOK) (hda : s.a.isDisconnected = false)
    (ch : Nat) (sA : SendRel) (hfA : SMap.find? s.a.sendRel ch = some sA)
    (H1 : AllDue s.a.now sA.resend sA.unacked) (H2 : backlog sA.unacked ≤ availAtTurn s.a ch)
    (ks : List Nat) (n : Nat) (u : Sys) (hu : s.run (roundOps ch ks n) = some u)
    (hdb : u.b.isDisconnected = false) (hcB : u.b.CountersOK) (hne : u.b.pendingAcks ≠ [])
    (hpend : ∀ p ∈ flushPk s.a, isRel p = true → ∃ r ∈ u.b.pendingAcks, r.1 ≤ p.sequence ∧ p.sequence < r.2) :
    ∃ v, u.run [.flushB, .deliverToA (ackIdx u)] = some v ∧ v.a.isDisconnected = false ∧
      ∃ sA', SMap.find? v.a.sendRel ch = some sA' ∧ sA'.unacked = [] := by
  obtain ⟨v, hv, hl, sA', hf', hall⟩ := acks_release_prefix_inv cfg s (MultiLive.goodL_reach hr) hc hcA hda ch sA hfA
    sA.unacked [] (by simp) H1 H2 ks n u hu hdb hcB hne hpend
  exact ⟨v, hv, hl, sA', hf', nil_of_rest_nil hall⟩

/-- **No livelock of the budget by delivered messages** (prefix form): after the round and the acknowledgement round,
    only entries of the uncovered rest `post` are left in A's `unacked`. -/
theorem acks_release_after_round (cfg : Cfg) (ops : List SysOp) (s : Sys) (hr : (Sys.init cfg).run ops = some s)
    (hc : CountersOK cfg s) (hcA : s.a.CountersOK) (hda : s.a.isDisconnected = false)
    (ch : Nat) (sA : SendRel) (hfA : SMap.find? s.a.sendRel ch = some sA)
    (pre post : SMap Unacked) (hun : sA.unacked = pre ++ post)
    (H1 : AllDue s.a.now sA.resend pre) (H2 : backlog pre ≤ availAtTurn s.a ch)
    (ks : List Nat) (hks1 : ∀ k ∈ newIdx s, k ∈ ks) (n : Nat) (u : Sys) (hu : s.run (roundOps ch ks n) = some u)
    (hdb : u.b.isDisconnected = false) (hcB : u.b.CountersOK) (hne : u.b.pendingAcks ≠ [])
    (hcap : s.b.pendingAcks.length + ks.length < ACK_RANGE_CAP) :
    ∃ v, u.run [.flushB, .deliverToA (ackIdx u)] = some v ∧ v.a.isDisconnected = false ∧
      ∃ sA', SMap.find? v.a.sendRel ch = some sA' ∧ ∀ x ∈ sA'.unacked, ∃ u0, (x.1, u0) ∈ post :=
  Live.acks_release_after_round cfg ops s hr hc hcA hda ch sA hfA pre post hun H1 H2 ks hks1 n u hu hdb hcB hne hcap

/-- the whole backlog: afterwards A has nothing left to retransmit on `ch` -/
theorem acks_release_after_round_all (cfg : Cfg) (ops : List SysOp) (s : Sys) (hr : (Sys.init cfg).run ops = some s)
    (hc : CountersOK cfg s) (hcA : s.a.CountersOK) (hda : s.a.isDisconnected = false)
    (ch : Nat) (sA : SendRel) (hfA : SMap.find? s.a.sendRel ch = some sA)
    (H1 : AllDue s.a.now sA.resend sA.unacked) (H2 : backlog sA.unacked ≤ availAtTurn s.a ch)
    (ks : List Nat) (hks1 : ∀ k ∈ newIdx s, k ∈ ks) (n : Nat) (u : Sys) (hu : s.run (roundOps ch ks n) = some u)
    (hdb : u.b.isDisconnected = false) (hcB : u.b.CountersOK) (hne : u.b.pendingAcks ≠ [])
    (hcap : s.b.pendingAcks.length + ks.length < ACK_RANGE_CAP) :
    ∃ v, u.run [.flushB, .deliverToA (ackIdx u)] = some v ∧ v.a.isDisconnected = false ∧
      ∃ sA', SMap.find? v.a.sendRel ch = some sA' ∧ sA'.unacked = [] := by
  obtain ⟨v, hv, hl, sA', hf', hall⟩ := acks_release_after_round cfg ops s hr hc hcA hda ch sA hfA sA.unacked [] (by simp)
    H1 H2 ks hks1 n u hu hdb hcB hne hcap
  exact ⟨v, hv, hl, sA', hf', nil_of_rest_nil hall⟩

theorem run_cons {s su : Sys} {op : SysOp} (h : s.step op = some su) (ops : List SysOp) : s.run (op :: ops) = su.run ops := by
  simp only [Sys.run, h]

/-! ## non-vacuity: concrete runs evaluated by the kernel

  `Ex` — one ReliableOrdered channel (id 0) each way, 60000 bytes per tick, resend time 100 ns.  A submits a 3-byte
  message and a 1300-byte message (two slices) and flushes (`outA[0..2]`); THE WHOLE FLUSH IS LOST.  State `s`.
  Then `updA 1000` (state `su`), `flushA` (`outA[3..5]`), delivery of `outA[3]`, `outA[4]`, `outA[5]`, two
  `receive_message` calls: `obtained = submitted`. -/
namespace Ex

def cfg : Cfg := ⟨60000, [⟨0, .ordered, 100000, 100⟩], [⟨0, .ordered, 100000, 100⟩]⟩
def m0 : Bytes := [1, 2, 3]
def m1 : Bytes := List.replicate 1200 7 ++ List.replicate 100 9

def ops : List SysOp := [.sendA 0 m0, .sendA 0 m1, .flushA]
def s : Sys := ((Sys.init cfg).run ops).getD (Sys.init cfg)
def su : Sys := (s.step (.updA 1000)).getD s
def sA : SendRel := (SMap.find? s.a.sendRel 0).getD (SendRel.new 0 0 0)
def rB : RecvRel := (SMap.find? s.b.recvRel 0).getD (RecvRel.new 0 true)

/-- the states `s` and `su` in one kernel evaluation: what `s` holds and which datagrams the next flush emits; the counters
    in `su`; the run, the step and the channel lookups succeed; H2, H3, H4 and the timer hypothesis of `bounded_delivery`:
    the backlog is 3 + 2 * 1200 bytes; the run, the tick and the round stay in the range of the source tie -/
theorem facts :
    (s.a.isDisconnected = false ∧ s.b.isDisconnected = false ∧ s.submitted 0 = [m0, m1] ∧ s.obtained 0 = [] ∧
      s.deliveredToB = [] ∧ s.outA.length = 3 ∧ sA.unacked.map (·.1) = [0, 1] ∧ newIdx su = [3, 4, 5]) ∧
    (su.a.packetSeq ≤ Varint.MAX + 1 ∧ (∀ c ∈ cfg.send, (su.submitted c.id).length ≤ Varint.MAX + 1) ∧
      (∀ c ∈ cfg.send, ∀ m ∈ su.submitted c.id, m.length ≤ MAX_NUM_SLICES * SLICE_SIZE) ∧
      (∀ c ∈ cfg.send, ∀ m ∈ su.submittedU c.id, m.length ≤ MAX_NUM_SLICES * SLICE_SIZE) ∧
      CI.countersOKb su.a = true) ∧
    (((Sys.init cfg).run ops).isSome = true ∧ (s.step (.updA 1000)).isSome = true ∧
      (SMap.find? s.a.sendRel 0).isSome = true ∧ (SMap.find? s.b.recvRel 0).isSome = true) ∧
    (backlog sA.unacked ≤ availAtTurn su.a 0 ∧ Room (s.submitted 0) rB ∧ (∀ p ∈ flushPk su.a, OnlyCh 0 p) ∧
      sA.resend ≤ 1000 ∧ backlog sA.unacked = 2403 ∧ availAtTurn su.a 0 = 60000) ∧
    SrcSystem.RunInRange cfg ((ops ++ [SysOp.updA 1000]) ++ roundOps 0 [3, 4, 5] 2) := by
  decide +kernel

theorem run_s : (Sys.init cfg).run ops = some s := some_getD facts.2.2.1.1 _
theorem step_su : s.step (.updA 1000) = some su := some_getD facts.2.2.1.2.1 _
theorem find_sA : SMap.find? s.a.sendRel 0 = some sA := some_getD facts.2.2.1.2.2.1 _
theorem find_rB : SMap.find? s.b.recvRel 0 = some rB := some_getD facts.2.2.1.2.2.2 _

theorem counters : CountersOK cfg su := ⟨by decide, facts.2.1.1, facts.2.1.2.1, facts.2.1.2.2.1, facts.2.1.2.2.2.1⟩
theorem ordered0 : cfg.Ordered 0 := ⟨⟨_, List.mem_singleton.mpr rfl, rfl, rfl⟩, by decide⟩
theorem single0 : Single cfg 0 := ⟨_, _, rfl⟩
theorem countersA : su.a.CountersOK := CI.countersOK_of_b facts.2.1.2.2.2.2

theorem hyps : backlog sA.unacked ≤ availAtTurn su.a 0 ∧ Room (s.submitted 0) rB ∧ (∀ p ∈ flushPk su.a, OnlyCh 0 p) ∧
    sA.resend ≤ 1000 ∧ backlog sA.unacked = 2403 ∧ availAtTurn su.a 0 = 60000 := facts.2.2.2.1
theorem inRange : SrcSystem.RunInRange cfg ((ops ++ [SysOp.updA 1000]) ++ roundOps 0 [3, 4, 5] 2) := facts.2.2.2.2

example : ∃ u, s.run (SysOp.updA 1000 :: roundOps 0 [3, 4, 5] 2) = some u ∧ u.a.isDisconnected = false ∧
    u.b.isDisconnected = false ∧ u.submitted 0 = s.submitted 0 ∧ u.obtained 0 = s.submitted 0 :=
  bounded_delivery cfg ops s run_s facts.1.1 facts.1.2.1 0 ordered0 sA find_sA rB find_rB 1000 hyps.2.2.2.1 su step_su
    counters countersA hyps.1 hyps.2.1 hyps.2.2.1 [3, 4, 5]
    (by rw [facts.1.2.2.2.2.2.2.2]; exact fun _ h => h) (by rw [facts.1.2.2.2.2.2.2.2]; exact fun _ h => h)
    2 (by rw [facts.1.2.2.1, facts.1.2.2.2.1]; decide)

/-- the same with the datagrams handed over in reverse order, one of them twice (order independence) -/
example : ∃ u, s.run (SysOp.updA 1000 :: roundOps 0 [5, 4, 3, 4] 2) = some u ∧ u.a.isDisconnected = false ∧
    u.b.isDisconnected = false ∧ u.submitted 0 = s.submitted 0 ∧ u.obtained 0 = s.submitted 0 :=
  bounded_delivery cfg ops s run_s facts.1.1 facts.1.2.1 0 ordered0 sA find_sA rB find_rB 1000 hyps.2.2.2.1 su step_su
    counters countersA hyps.1 hyps.2.1 hyps.2.2.1 [5, 4, 3, 4]
    (by rw [facts.1.2.2.2.2.2.2.2]; decide) (by rw [facts.1.2.2.2.2.2.2.2]; decide)
    2 (by rw [facts.1.2.2.1, facts.1.2.2.2.1]; decide)

example : ∃ u, s.run (SysOp.updA 1000 :: roundOps 0 (newIdx su) 2) = some u ∧ u.a.isDisconnected = false ∧
    u.b.isDisconnected = false ∧ u.submitted 0 = s.submitted 0 ∧ u.obtained 0 = s.submitted 0 :=
  bounded_delivery_single cfg ops s run_s facts.1.1 facts.1.2.1 0 single0 sA find_sA rB find_rB 1000 hyps.2.2.2.1 su step_su
    counters countersA (by rw [hyps.2.2.2.2.1]; decide) hyps.2.1 2 (by rw [facts.1.2.2.1, facts.1.2.2.2.1]; decide)

/-- the state after that round -/
def u : Sys := (su.run (roundOps 0 [3, 4, 5] 2)).getD su
def sAu : SendRel := (SMap.find? su.a.sendRel 0).getD (SendRel.new 0 0 0)

/-- the round from `su` and the acknowledgement round: the hypotheses of
    `acks_release_after_round_all`; the round succeeds, A's channel exists in `su`, B's counters after the round; what the
    kernel computes for the round: both messages obtained, three more datagrams emitted and delivered; and for the
    acknowledgement round: before the ack A stores both messages, afterwards none; its memory budget is back -/
theorem ackHyps :
    (su.a.isDisconnected = false ∧ AllDue su.a.now sAu.resend sAu.unacked ∧
      backlog sAu.unacked ≤ availAtTurn su.a 0 ∧ u.b.isDisconnected = false ∧ u.b.pendingAcks ≠ [] ∧
      su.b.pendingAcks.length + [3, 4, 5].length < ACK_RANGE_CAP ∧
      u.b.pendingAcks = [(3, 6)] ∧ ackIdx u = 0) ∧
    ((su.run (roundOps 0 [3, 4, 5] 2)).isSome = true ∧ (SMap.find? su.a.sendRel 0).isSome = true ∧
      CI.countersOKb u.b = true) ∧
    (su.run (roundOps 0 [3, 4, 5] 2)).map (fun u => (u.obtained 0, u.outA.length, u.deliveredToB)) =
      some ([m0, m1], 6, [3, 4, 5]) ∧
    ((SMap.find? u.a.sendRel 0).map (fun s => (s.unacked.map (·.1), s.available)) = some ([0, 1], 100000 - 1303) ∧
      ((u.run [.flushB, .deliverToA (ackIdx u)]).bind (fun v => SMap.find? v.a.sendRel 0)).map
        (fun s => (s.unacked.map (·.1), s.available)) = some ([], 100000)) := by
  decide +kernel

theorem run_u : su.run (roundOps 0 [3, 4, 5] 2) = some u := some_getD ackHyps.2.1.1 _
theorem run_su : (Sys.init cfg).run (ops ++ [SysOp.updA 1000]) = some su := run_snoc run_s step_su
theorem find_sAu : SMap.find? su.a.sendRel 0 = some sAu := some_getD ackHyps.2.1.2.1 _
theorem countersBu : u.b.CountersOK := CI.countersOK_of_b ackHyps.2.1.2.2

example : (s.run (SysOp.updA 1000 :: roundOps 0 [3, 4, 5] 2)).map (fun u => (u.obtained 0, u.outA.length, u.deliveredToB)) =
    some ([m0, m1], 6, [3, 4, 5]) := by
  rw [run_cons step_su]
  exact ackHyps.2.2.1

example : ∃ v, u.run [.flushB, .deliverToA (ackIdx u)] = some v ∧ v.a.isDisconnected = false ∧
    ∃ sA', SMap.find? v.a.sendRel 0 = some sA' ∧ sA'.unacked = [] :=
  acks_release_after_round_all cfg (ops ++ [SysOp.updA 1000]) su run_su counters countersA ackHyps.1.1 0 sAu find_sAu
    ackHyps.1.2.1 ackHyps.1.2.2.1 [3, 4, 5] (by rw [facts.1.2.2.2.2.2.2.2]; exact fun _ h => h) 2 u run_u ackHyps.1.2.2.2.1
    countersBu ackHyps.1.2.2.2.2.1 ackHyps.1.2.2.2.2.2.1

example : (SMap.find? u.a.sendRel 0).map (fun s => (s.unacked.map (·.1), s.available)) = some ([0, 1], 100000 - 1303) ∧
    ((u.run [.flushB, .deliverToA (ackIdx u)]).bind (fun v => SMap.find? v.a.sendRel 0)).map
      (fun s => (s.unacked.map (·.1), s.available)) = some ([], 100000) := ackHyps.2.2.2

end Ex

/-! `ExP` — the same two messages, but only 1300 bytes per tick: the budget covers the small message (entry 0, cost 3)
    and not the sliced one (cost 2400).  One tick delivers message 0 (`progress_per_tick_partial` with `pre` = entry 0,
    `j = 1`); in fact it also carries slice 0 of message 1 (1297 ≥ 1200 bytes were left), so a second tick — with the
    first still unacknowledged, message 0 is retransmitted as well and takes its 3 bytes — completes message 1. -/
namespace ExP

def cfg : Cfg := ⟨1300, [⟨0, .ordered, 100000, 100⟩], [⟨0, .ordered, 100000, 100⟩]⟩
def m0 : Bytes := [1, 2, 3]
def m1 : Bytes := List.replicate 1200 7 ++ List.replicate 100 9
def ops : List SysOp := [.sendA 0 m0, .sendA 0 m1]
def s : Sys := ((Sys.init cfg).run ops).getD (Sys.init cfg)
def su : Sys := (s.step (.updA 1000)).getD s
def sA : SendRel := (SMap.find? s.a.sendRel 0).getD (SendRel.new 0 0 0)

/-- the states `s` and `su`: what `s` holds, the split of A's `unacked` into entry 0 and the
    rest with their costs, and the budget of the tick; the counters in `su`; the run, the step and the channel lookup
    succeed -/
theorem facts :
    (s.a.isDisconnected = false ∧ s.submitted 0 = [m0, m1] ∧ s.obtained 0 = [] ∧ newIdx su = [0, 1] ∧
      sA.unacked = sA.unacked.take 1 ++ sA.unacked.drop 1 ∧ (∀ x ∈ sA.unacked.drop 1, 1 ≤ x.1) ∧
      backlog (sA.unacked.take 1) = 3 ∧ backlog sA.unacked = 2403 ∧ availAtTurn su.a 0 = 1300 ∧ sA.resend ≤ 1000) ∧
    (su.a.packetSeq ≤ Varint.MAX + 1 ∧ (∀ c ∈ cfg.send, (su.submitted c.id).length ≤ Varint.MAX + 1) ∧
      (∀ c ∈ cfg.send, ∀ m ∈ su.submitted c.id, m.length ≤ MAX_NUM_SLICES * SLICE_SIZE) ∧
      (∀ c ∈ cfg.send, ∀ m ∈ su.submittedU c.id, m.length ≤ MAX_NUM_SLICES * SLICE_SIZE) ∧
      CI.countersOKb su.a = true) ∧
    (((Sys.init cfg).run ops).isSome = true ∧ (s.step (.updA 1000)).isSome = true ∧
      (SMap.find? s.a.sendRel 0).isSome = true) := by
  decide +kernel

theorem run_s : (Sys.init cfg).run ops = some s := some_getD facts.2.2.1 _
theorem step_su : s.step (.updA 1000) = some su := some_getD facts.2.2.2.1 _
theorem find_sA : SMap.find? s.a.sendRel 0 = some sA := some_getD facts.2.2.2.2 _

theorem counters : CountersOK cfg su := ⟨by decide, facts.2.1.1, facts.2.1.2.1, facts.2.1.2.2.1, facts.2.1.2.2.2.1⟩
theorem ordered0 : cfg.Ordered 0 := ⟨⟨_, List.mem_singleton.mpr rfl, rfl, rfl⟩, by decide⟩
theorem countersA : su.a.CountersOK := CI.countersOK_of_b facts.2.1.2.2.2.2

example : ∃ u, s.run (SysOp.updA 1000 :: roundOps 0 [0, 1] 1) = some u ∧ u.a.isDisconnected = false ∧
    u.submitted 0 = s.submitted 0 ∧ s.obtained 0 <+: u.obtained 0 ∧
    (u.b.isDisconnected = false → (s.submitted 0).take 1 <+: u.obtained 0 ∧ u.obtained 0 <+: s.submitted 0) :=
  progress_per_tick_partial cfg ops s run_s facts.1.1 0 ordered0 sA find_sA 1000 facts.1.2.2.2.2.2.2.2.2.2 su step_su
    counters countersA (sA.unacked.take 1) (sA.unacked.drop 1) facts.1.2.2.2.2.1 1 facts.1.2.2.2.2.2.1
    (by rw [facts.1.2.1]; decide) (by rw [facts.1.2.2.2.2.2.2.1, facts.1.2.2.2.2.2.2.2.2.1]; decide) [0, 1]
    (by rw [facts.1.2.2.2.1]; exact fun _ h => h)
    (by
      have h := facts.1.2.2.2.1
      intro k hk
      have : k ∈ newIdx su := by rw [h]; exact hk
      unfold newIdx at this
      rw [List.mem_range'_1] at this; exact this.2)
    1 (by rw [facts.1.2.2.1]; decide)

/-- the state after that first tick (started from `su`) -/
def u1 : Sys := (su.run (roundOps 0 [0, 1] 1)).getD su
def sAu : SendRel := (SMap.find? su.a.sendRel 0).getD (SendRel.new 0 0 0)

/-- the first tick from `su` and what may follow it: the hypotheses of
    `acks_release_after_round`; the tick succeeds and A's channel exists in `su`; what the kernel computes: after the
    first tick `[m0]`, after a second tick (no acks in between) `[m0, m1]`; after the acknowledgement round A stores only
    message 1, and the next tick's budget goes to it alone -/
theorem afterTick :
    (su.a.isDisconnected = false ∧ sAu.unacked = sAu.unacked.take 1 ++ sAu.unacked.drop 1 ∧
      AllDue su.a.now sAu.resend (sAu.unacked.take 1) ∧ backlog (sAu.unacked.take 1) ≤ availAtTurn su.a 0 ∧
      u1.b.isDisconnected = false ∧ u1.b.pendingAcks ≠ [] ∧ su.b.pendingAcks.length + [0, 1].length < ACK_RANGE_CAP ∧
      (sAu.unacked.drop 1).map (·.1) = [1] ∧ CI.countersOKb u1.b = true) ∧
    ((su.run (roundOps 0 [0, 1] 1)).isSome = true ∧ (SMap.find? su.a.sendRel 0).isSome = true) ∧
    (u1.obtained 0 = [m0] ∧
      (u1.run (SysOp.updA 1000 :: roundOps 0 [2, 3] 1)).map (fun u => u.obtained 0) = some [m0, m1]) ∧
    ((u1.run [.flushB, .deliverToA (ackIdx u1)]).bind (fun v => SMap.find? v.a.sendRel 0)).map
      (fun s => s.unacked.map (·.1)) = some [1] := by
  decide +kernel

theorem run_u1 : su.run (roundOps 0 [0, 1] 1) = some u1 := some_getD afterTick.2.1.1 _
theorem run_su : (Sys.init cfg).run (ops ++ [SysOp.updA 1000]) = some su := run_snoc run_s step_su
theorem find_sAu : SMap.find? su.a.sendRel 0 = some sAu := some_getD afterTick.2.1.2 _

theorem ackHyps : su.a.isDisconnected = false ∧ sAu.unacked = sAu.unacked.take 1 ++ sAu.unacked.drop 1 ∧
    AllDue su.a.now sAu.resend (sAu.unacked.take 1) ∧ backlog (sAu.unacked.take 1) ≤ availAtTurn su.a 0 ∧
    u1.b.isDisconnected = false ∧ u1.b.pendingAcks ≠ [] ∧ su.b.pendingAcks.length + [0, 1].length < ACK_RANGE_CAP ∧
    (sAu.unacked.drop 1).map (·.1) = [1] ∧ CI.countersOKb u1.b = true := afterTick.1

example : (s.run (SysOp.updA 1000 :: roundOps 0 [0, 1] 1)).map (fun u => u.obtained 0) = some [m0] ∧
    (s.run (SysOp.updA 1000 :: roundOps 0 [0, 1] 1 ++ SysOp.updA 1000 :: roundOps 0 [2, 3] 1)).map (fun u => u.obtained 0)
      = some [m0, m1] := by
  obtain ⟨h1, h2⟩ := afterTick.2.2.1
  rw [Sys.run_append, run_cons step_su, run_u1, Option.map_some, Option.bind_some, h1]
  exact ⟨rfl, h2⟩

example : ∃ v, u1.run [.flushB, .deliverToA (ackIdx u1)] = some v ∧ v.a.isDisconnected = false ∧
    ∃ sA', SMap.find? v.a.sendRel 0 = some sA' ∧ ∀ x ∈ sA'.unacked, ∃ u0, (x.1, u0) ∈ sAu.unacked.drop 1 :=
  acks_release_after_round cfg (ops ++ [SysOp.updA 1000]) su run_su counters countersA ackHyps.1 0 sAu find_sAu
    (sAu.unacked.take 1) (sAu.unacked.drop 1) ackHyps.2.1 ackHyps.2.2.1 ackHyps.2.2.2.1 [0, 1]
    (by rw [facts.1.2.2.2.1]; exact fun _ h => h) 1 u1 run_u1 ackHyps.2.2.2.2.1
    (CI.countersOK_of_b ackHyps.2.2.2.2.2.2.2.2) ackHyps.2.2.2.2.2.1 ackHyps.2.2.2.2.2.2.1

example : ((u1.run [.flushB, .deliverToA (ackIdx u1)]).bind (fun v => SMap.find? v.a.sendRel 0)).map
    (fun s => s.unacked.map (·.1)) = some [1] := afterTick.2.2.2

end ExP

/-! `ExU` — the same scenario (two submissions, first flush lost, `updA 1000`) on a ReliableUnordered channel. -/
namespace ExU

def cfg : Cfg := ⟨60000, [⟨0, .unordered, 100000, 100⟩], [⟨0, .ordered, 100000, 100⟩]⟩
def m0 : Bytes := [1, 2, 3]
def m1 : Bytes := List.replicate 1200 7 ++ List.replicate 100 9
def ops : List SysOp := [.sendA 0 m0, .sendA 0 m1, .flushA, .updA 1000]
def s : Sys := ((Sys.init cfg).run ops).getD (Sys.init cfg)
def sA : SendRel := (SMap.find? s.a.sendRel 0).getD (SendRel.new 0 0 0)
def rB : RecvRel := (SMap.find? s.b.recvRel 0).getD (RecvRel.new 0 true)

/-- the state `s` and the round: what `s` holds and H1–H4; the counters; the run and the channel
    lookups succeed; what the kernel computes for two delivery orders; the run and the round stay in the range of the
    source tie -/
theorem facts :
    (s.a.isDisconnected = false ∧ s.b.isDisconnected = false ∧ s.submitted 0 = [m0, m1] ∧ s.obtained 0 = [] ∧
      newIdx s = [3, 4, 5] ∧ AllDue s.a.now sA.resend sA.unacked ∧ backlog sA.unacked ≤ availAtTurn s.a 0 ∧
      Room (s.submitted 0) rB ∧ (∀ p ∈ flushPk s.a, OnlyCh 0 p)) ∧
    (s.a.packetSeq ≤ Varint.MAX + 1 ∧ (∀ c ∈ cfg.send, (s.submitted c.id).length ≤ Varint.MAX + 1) ∧
      (∀ c ∈ cfg.send, ∀ m ∈ s.submitted c.id, m.length ≤ MAX_NUM_SLICES * SLICE_SIZE) ∧
      (∀ c ∈ cfg.send, ∀ m ∈ s.submittedU c.id, m.length ≤ MAX_NUM_SLICES * SLICE_SIZE) ∧
      CI.countersOKb s.a = true) ∧
    (((Sys.init cfg).run ops).isSome = true ∧ (SMap.find? s.a.sendRel 0).isSome = true ∧
      (SMap.find? s.b.recvRel 0).isSome = true) ∧
    ((s.run (roundOps 0 [4, 5, 3] 2)).map (fun u => u.obtained 0) = some [m0, m1] ∧
      (s.run (roundOps 0 [3, 4, 5] 2)).map (fun u => u.obtained 0) = some [m0, m1]) ∧
    SrcSystem.RunInRange cfg (ops ++ roundOps 0 [4, 5, 3] 2) := by
  decide +kernel

theorem run_s : (Sys.init cfg).run ops = some s := some_getD facts.2.2.1.1 _
theorem find_sA : SMap.find? s.a.sendRel 0 = some sA := some_getD facts.2.2.1.2.1 _
theorem find_rB : SMap.find? s.b.recvRel 0 = some rB := some_getD facts.2.2.1.2.2 _

theorem counters : CountersOK cfg s := ⟨by decide, facts.2.1.1, facts.2.1.2.1, facts.2.1.2.2.1, facts.2.1.2.2.2.1⟩
theorem unordered0 : cfg.Unordered 0 := ⟨⟨_, List.mem_singleton.mpr rfl, rfl, rfl⟩, by decide⟩
theorem countersA : s.a.CountersOK := CI.countersOK_of_b facts.2.1.2.2.2.2

/-- the datagrams handed over in the order slice 1, small packet, slice 0 -/
example : ∃ u, s.run (roundOps 0 [4, 5, 3] 2) = some u ∧ u.a.isDisconnected = false ∧ u.b.isDisconnected = false ∧
    u.submitted 0 = s.submitted 0 ∧ (u.obtained 0).Perm (s.submitted 0) :=
  round_delivers_unordered_live cfg ops s run_s counters countersA facts.1.1 facts.1.2.1 0 unordered0 sA find_sA rB find_rB
    facts.1.2.2.2.2.2.1 facts.1.2.2.2.2.2.2.1 facts.1.2.2.2.2.2.2.2.1 facts.1.2.2.2.2.2.2.2.2 [4, 5, 3]
    (by rw [facts.1.2.2.2.2.1]; decide) (by rw [facts.1.2.2.2.2.1]; decide) 2
    (by rw [facts.1.2.2.1, facts.1.2.2.2.1]; decide)

example : (s.run (roundOps 0 [4, 5, 3] 2)).map (fun u => u.obtained 0) = some [m0, m1] ∧
    (s.run (roundOps 0 [3, 4, 5] 2)).map (fun u => u.obtained 0) = some [m0, m1] := facts.2.2.2.1

theorem inRange : SrcSystem.RunInRange cfg (ops ++ roundOps 0 [4, 5, 3] 2) := facts.2.2.2.2

end ExU

/-! `ExMem` — H3 is necessary, and the sender's admission control does not imply it.  Symmetric configuration,
    `max_memory_usage_bytes = 1300` on both sides of channel 0.  A accepts a 1300-byte message (1300 ≤ 1300).  Its
    first slice makes B reserve `2 * SLICE_SIZE = 2400 > 1300` bytes: `ReliableChannelMaxMemoryReached`, B is
    disconnected — on a lossless network, with nothing else in flight.  (C01's liveness clause is stated for
    connections that have not been disconnected, so this is not a violation of C01 as worded; it is the reason why
    `round_delivers` needs H3 and why `round_progress` says "unless B has been disconnected".) -/
namespace ExMem

def cfg : Cfg := ⟨60000, [⟨0, .ordered, 1300, 100⟩], [⟨0, .ordered, 1300, 100⟩]⟩
def m : Bytes := List.replicate 1300 7

theorem receiver_refuses_accepted_message :
    ((Sys.init cfg).run [.sendA 0 m, .flushA, .deliverToB 0]).map
        (fun s => (s.submitted 0 == [m], s.a.isDisconnected, s.b.disconnectReason)) =
      some (true, false, some (.recvChan 0 .maxMemory)) := by decide +kernel

end ExMem

end RenetVerif.C01L
