import RenetVerif.Lemmas.Varint
import RenetVerif.Lemmas.ResMonad
namespace RenetVerif
open Varint

theorem putVarint_ok_iff {v : Nat} {b : Bytes} : putVarint v = .ok b ↔ v ≤ MAX ∧ b = enc v :=
  ⟨fun h => (by
    unfold putVarint at h; split at h
    · cases h; exact ⟨by assumption, rfl⟩
    · cases h),
   fun ⟨h, e⟩ => e ▸ (by simp [putVarint, h])⟩

theorem getVarint_enc {v : Nat} (rest : Bytes) (h : v ≤ MAX) : getVarint (enc v ++ rest) = .ok (v, rest) := by
  simp [getVarint, get_enc v rest h]

theorem getU8_cons (x : UInt8) (rest : Bytes) : getU8 (x :: rest) = .ok (x.toNat, rest) := rfl

theorem getU16_u16be (n : Nat) (rest : Bytes) : getU16 (u16be n ++ rest) = .ok (n % 65536, rest) := by
  simp [u16be, getU16, UInt8.toNat_ofNat']; omega

theorem getBytesVar_enc (m rest : Bytes) (h : m.length ≤ MAX) :
    getBytesVar (enc m.length ++ (m ++ rest)) = .ok (m, rest) := by
  simp [getBytesVar, getVarint_enc _ h]

def SmallRelWF (msgs : List (Nat × Bytes)) : Prop := ∀ x ∈ msgs, x.1 ≤ MAX ∧ x.2.length ≤ MAX
def SmallUnrelWF (msgs : List Bytes) : Prop := ∀ x ∈ msgs, x.length ≤ MAX

/-- descending chain below `prev`: non-empty ranges, each ending strictly below the previous start
    minus one (non-adjacent) -/
def DescWF : Nat → List AckRange → Prop
  | _, [] => True
  | prev, (s, e) :: d => s < e ∧ e < prev ∧ DescWF s d

/-- what the encoder needs of an ack list (stated on the reversed = newest-first list) -/
def AckWF (ranges : List AckRange) : Prop :=
  ∃ ls le d, ranges.reverse = (ls, le) :: d ∧ ls < le ∧ le ≤ MAX + 1 ∧ DescWF ls d

/-- the ranges of a chain are non-empty and disjoint below `prev`, so there are at most `prev` of them -/
theorem DescWF.length_le : ∀ {d : List AckRange} {prev : Nat}, DescWF prev d → d.length ≤ prev
  | [], _, _ => Nat.zero_le _
  | (s, _) :: _, _, ⟨h1, h2, h3⟩ => by
    have := DescWF.length_le h3
    simp only [List.length_cons]
    omega

/-! ## the encoder: when it returns, and what -/

def smallRelBytes : List (Nat × Bytes) → Bytes
  | [] => []
  | (id, m) :: r => enc id ++ enc m.length ++ m ++ smallRelBytes r

def smallUnrelBytes : List Bytes → Bytes
  | [] => []
  | m :: r => enc m.length ++ m ++ smallUnrelBytes r

def Slice.bytes (s : Slice) : Bytes :=
  enc s.messageId ++ enc s.sliceIndex ++ enc s.numSlices ++ enc s.payload.length ++ s.payload

def ackRestBytes (prev : Nat) : List AckRange → Bytes
  | [] => []
  | (s, e) :: r => enc (prev - e - 1) ++ enc (e - 1 - s) ++ ackRestBytes s r

/-- what `enc` returns when it returns -/
def Packet.bytes : Packet → Bytes
  | .smallReliable seq ch msgs => [0] ++ Varint.enc seq ++ [UInt8.ofNat ch] ++ u16be msgs.length ++ smallRelBytes msgs
  | .smallUnreliable seq ch msgs => [1] ++ Varint.enc seq ++ [UInt8.ofNat ch] ++ u16be msgs.length ++ smallUnrelBytes msgs
  | .reliableSlice seq ch sl => [2] ++ Varint.enc seq ++ [UInt8.ofNat ch] ++ sl.bytes
  | .unreliableSlice seq ch sl => [3] ++ Varint.enc seq ++ [UInt8.ofNat ch] ++ sl.bytes
  | .ack seq ranges =>
    match ranges.reverse with
    | [] => []
    | (ls, le) :: d =>
      [4] ++ Varint.enc seq ++ Varint.enc (le - 1) ++ Varint.enc (le - 1 - ls) ++ Varint.enc d.length ++ ackRestBytes ls d

def Slice.Encodable (s : Slice) : Prop :=
  s.messageId ≤ MAX ∧ s.sliceIndex ≤ MAX ∧ s.numSlices ≤ MAX ∧ s.payload.length ≤ MAX

/-- when `enc` returns: every varint fits; the channel id and the message count are written truncated, whatever they are -/
def Packet.Encodable : Packet → Prop
  | .smallReliable seq _ msgs => seq ≤ MAX ∧ SmallRelWF msgs
  | .smallUnreliable seq _ msgs => seq ≤ MAX ∧ SmallUnrelWF msgs
  | .reliableSlice seq _ sl | .unreliableSlice seq _ sl => seq ≤ MAX ∧ sl.Encodable
  | .ack seq ranges => seq ≤ MAX ∧ AckWF ranges

theorem encSmallRel_ok_iff : ∀ {msgs : List (Nat × Bytes)} {b : Bytes},
    encSmallRel msgs = .ok b ↔ SmallRelWF msgs ∧ b = smallRelBytes msgs
  | [], b => by simp [encSmallRel, SmallRelWF, smallRelBytes, eq_comm]
  | (id, m) :: r, b => by
    simp only [encSmallRel, Res.bind_ok_iff, putVarint_ok_iff, encSmallRel_ok_iff (msgs := r), Res.pure_eq, Res.ok.injEq,
      SmallRelWF, List.forall_mem_cons, smallRelBytes, and_assoc, exists_and_left, exists_eq_left, eq_comm (b := b)]

theorem encSmallUnrel_ok_iff : ∀ {msgs : List Bytes} {b : Bytes},
    encSmallUnrel msgs = .ok b ↔ SmallUnrelWF msgs ∧ b = smallUnrelBytes msgs
  | [], b => by simp [encSmallUnrel, SmallUnrelWF, smallUnrelBytes, eq_comm]
  | m :: r, b => by
    simp only [encSmallUnrel, Res.bind_ok_iff, putVarint_ok_iff, encSmallUnrel_ok_iff (msgs := r), Res.pure_eq, Res.ok.injEq,
      SmallUnrelWF, List.forall_mem_cons, smallUnrelBytes, and_assoc, exists_and_left, exists_eq_left, eq_comm (b := b)]

theorem encSlice_ok_iff {sl : Slice} {b : Bytes} : encSlice sl = .ok b ↔ sl.Encodable ∧ b = sl.bytes := by
  simp only [encSlice, Res.bind_ok_iff, putVarint_ok_iff, Res.pure_eq, Res.ok.injEq, Slice.Encodable, Slice.bytes, and_assoc,
    exists_and_left, exists_eq_left, eq_comm (b := b)]

/-- below a start that fits a varint, the loop over the older ranges returns exactly on the descending chains: the
    subtractions do not unwind, and gaps and sizes are below the start -/
theorem encAckRest_ok_iff : ∀ {d : List AckRange} {prev : Nat} {b : Bytes}, prev ≤ MAX + 1 →
    (encAckRest prev d = .ok b ↔ DescWF prev d ∧ b = ackRestBytes prev d)
  | [], _, b, _ => by simp [encAckRest, DescWF, ackRestBytes, eq_comm]
  | (s, e) :: d, prev, b, hp => by
    simp only [encAckRest, Res.bind_ok_iff, Res.csub_ok_iff, putVarint_ok_iff, Res.pure_eq, Res.ok.injEq, DescWF, ackRestBytes,
      and_assoc, exists_and_left, exists_eq_left, eq_comm (b := b)]
    constructor
    · rintro ⟨c1, c2, c3, c4, -, -, a, h, rfl⟩
      obtain ⟨h1, h2, hs⟩ : s < e ∧ e < prev ∧ s ≤ MAX + 1 := by omega
      obtain ⟨hd, rfl⟩ := (encAckRest_ok_iff hs).1 h
      exact ⟨h1, h2, hd, rfl⟩
    · rintro ⟨h1, h2, hd, rfl⟩
      obtain ⟨c1, c2, c3, c4, c5, c6, hs⟩ : e ≤ prev ∧ 1 ≤ prev - e ∧ 1 ≤ e ∧ s ≤ e - 1 ∧ prev - e - 1 ≤ MAX ∧ e - 1 - s ≤ MAX ∧
          s ≤ MAX + 1 := by omega
      exact ⟨c1, c2, c3, c4, c5, c6, _, (encAckRest_ok_iff hs).2 ⟨hd, rfl⟩, rfl⟩

theorem Packet.enc_ok_iff {p : Packet} {b : Bytes} : p.enc = .ok b ↔ p.Encodable ∧ b = p.bytes := by
  cases p with
  | ack seq ranges =>
    simp only [Packet.enc, Packet.Encodable, Packet.bytes, AckWF, Res.bind_ok_iff, putVarint_ok_iff, and_assoc, exists_and_left,
      exists_eq_left]
    refine and_congr_right fun hs => ?_
    cases ranges.reverse with
    | nil => simp
    | cons x d =>
      obtain ⟨ls, le⟩ := x
      simp only [Res.bind_ok_iff, Res.csub_ok_iff, putVarint_ok_iff, Res.pure_eq, Res.ok.injEq, and_assoc, exists_and_left,
        exists_eq_left, exists_eq_left', List.cons.injEq, Prod.mk.injEq, eq_comm (b := b)]
      constructor
      · rintro ⟨c1, c2, h1, -, -, a, h, rfl⟩
        obtain ⟨h2, h3, hs⟩ : ls < le ∧ le ≤ MAX + 1 ∧ ls ≤ MAX + 1 := by omega
        obtain ⟨hd, rfl⟩ := (encAckRest_ok_iff hs).1 h
        exact ⟨h2, h3, hd, rfl⟩
      · rintro ⟨h1, h2, hd, rfl⟩
        have := hd.length_le
        obtain ⟨c1, c2, c3, c4, c5, hs⟩ : 1 ≤ le ∧ ls ≤ le - 1 ∧ le - 1 ≤ MAX ∧ le - 1 - ls ≤ MAX ∧ d.length ≤ MAX ∧
            ls ≤ MAX + 1 := by omega
        exact ⟨c1, c2, c3, c4, c5, _, (encAckRest_ok_iff hs).2 ⟨hd, rfl⟩, rfl⟩
  | _ =>
    simp only [Packet.enc, Res.bind_ok_iff, putVarint_ok_iff, encSmallRel_ok_iff, encSmallUnrel_ok_iff, encSlice_ok_iff,
      Res.pure_eq, Res.ok.injEq, Packet.Encodable, Packet.bytes, and_assoc, exists_and_left, exists_eq_left, eq_comm (b := b)]

def Packet.WF : Packet → Prop
  | .smallReliable seq ch msgs => seq ≤ MAX ∧ ch < 256 ∧ msgs.length < 65536 ∧ SmallRelWF msgs
  | .smallUnreliable seq ch msgs => seq ≤ MAX ∧ ch < 256 ∧ msgs.length < 65536 ∧ SmallUnrelWF msgs
  | .reliableSlice seq ch sl => seq ≤ MAX ∧ ch < 256 ∧ sl.messageId ≤ MAX ∧ sl.sliceIndex ≤ MAX ∧
      1 ≤ sl.numSlices ∧ sl.numSlices ≤ C.MAX_NUM_SLICES ∧ 1 ≤ sl.payload.length ∧ sl.payload.length ≤ C.SLICE_SIZE
  | .unreliableSlice seq ch sl => seq ≤ MAX ∧ ch < 256 ∧ sl.messageId ≤ MAX ∧ sl.sliceIndex ≤ MAX ∧
      1 ≤ sl.numSlices ∧ sl.numSlices ≤ C.MAX_NUM_SLICES ∧ sl.payload.length ≤ MAX
  | .ack seq ranges => seq ≤ MAX ∧ AckWF ranges

theorem Packet.WF.encodable : ∀ {p : Packet}, p.WF → p.Encodable
  | .smallReliable .., h | .smallUnreliable .., h => ⟨h.1, h.2.2.2⟩
  | .reliableSlice .., ⟨h1, _, h3, h4, _, h6, _, h8⟩ =>
    ⟨h1, h3, h4, Nat.le_trans h6 (by decide), Nat.le_trans h8 (by decide)⟩
  | .unreliableSlice .., ⟨h1, _, h3, h4, _, h6, h7⟩ => ⟨h1, h3, h4, Nat.le_trans h6 (by decide), h7⟩
  | .ack .., h => h

theorem chByte {ch : Nat} (h : ch < 256) : (UInt8.ofNat ch).toNat = ch := by
  simp [UInt8.toNat_ofNat']; omega

/-! ## the decoder on what the encoder wrote -/

theorem decSmallRel_bytes : ∀ (msgs : List (Nat × Bytes)), SmallRelWF msgs → ∀ k, k ≤ msgs.length → ∀ rest,
    decSmallRel k (smallRelBytes msgs ++ rest) = .ok (msgs.take k, smallRelBytes (msgs.drop k) ++ rest)
  | _, _, 0, _, _ => rfl
  | [], _, k + 1, hk, _ => absurd hk (Nat.not_succ_le_zero k)
  | (id, m) :: xs, h, k + 1, hk, rest => by
    obtain ⟨⟨hid, hl⟩, hx⟩ := List.forall_mem_cons.1 h
    simp only [decSmallRel, smallRelBytes, List.append_assoc, bind, Except.bind, getVarint_enc _ hid, getBytesVar_enc _ _ hl,
      decSmallRel_bytes xs hx k (Nat.le_of_succ_le_succ hk) rest, List.take_succ_cons, List.drop_succ_cons]
    rfl

theorem decSmallUnrel_bytes : ∀ (msgs : List Bytes), SmallUnrelWF msgs → ∀ k, k ≤ msgs.length → ∀ rest,
    decSmallUnrel k (smallUnrelBytes msgs ++ rest) = .ok (msgs.take k, smallUnrelBytes (msgs.drop k) ++ rest)
  | _, _, 0, _, _ => rfl
  | [], _, k + 1, hk, _ => absurd hk (Nat.not_succ_le_zero k)
  | m :: xs, h, k + 1, hk, rest => by
    obtain ⟨hl, hx⟩ := List.forall_mem_cons.1 h
    simp only [decSmallUnrel, smallUnrelBytes, List.append_assoc, bind, Except.bind, getBytesVar_enc _ _ hl,
      decSmallUnrel_bytes xs hx k (Nat.le_of_succ_le_succ hk) rest, List.take_succ_cons, List.drop_succ_cons]
    rfl

theorem decAckRest_bytes : ∀ (d : List AckRange) (prev : Nat) (acc : List AckRange), prev ≤ MAX + 1 → DescWF prev d →
    ∀ rest, decAckRest d.length prev (ackRestBytes prev d ++ rest) acc = .ok (d.reverse ++ acc, rest)
  | [], _, _, _, _, _ => rfl
  | (s, e) :: d, prev, acc, hp, ⟨h1, h2, h3⟩, rest => by
    obtain ⟨hgap, hsize, d1, d2, e1, e2, e3, hs⟩ : prev - e - 1 ≤ MAX ∧ e - 1 - s ≤ MAX ∧ ¬ prev < 2 + (prev - e - 1) ∧
        ¬ e - 1 < e - 1 - s ∧ prev - (prev - e - 1) - 2 = e - 1 ∧ e - 1 - (e - 1 - s) = s ∧ e - 1 + 1 = e ∧ s ≤ MAX + 1 := by
      omega
    simp only [List.length_cons, decAckRest, ackRestBytes, List.append_assoc, bind, Except.bind, getVarint_enc _ hgap, d1,
      if_false, e1, getVarint_enc _ hsize, d2, e2, e3, decAckRest_bytes d s _ hs h3 rest, List.reverse_cons,
      List.singleton_append]

/-- **What the decoder reads from an encoding** (followed by anything), for the four kinds of data packet and whatever
    the packet: the channel id as the byte that was written; of the messages as many as their count modulo `2^16` says,
    the encoding of the others left unread; a slice as it is, when it passes the decoder's checks. -/
theorem Packet.decode_enc_data {p : Packet} {b : Bytes} (he : p.enc = .ok b) (rest : Bytes) :
    match p with
    | .smallReliable seq ch msgs => ∃ b', encSmallRel (msgs.drop (msgs.length % 65536)) = .ok b' ∧
        Packet.decode (b ++ rest) =
          .ok (.smallReliable seq (UInt8.ofNat ch).toNat (msgs.take (msgs.length % 65536)), b' ++ rest)
    | .smallUnreliable seq ch msgs => ∃ b', encSmallUnrel (msgs.drop (msgs.length % 65536)) = .ok b' ∧
        Packet.decode (b ++ rest) =
          .ok (.smallUnreliable seq (UInt8.ofNat ch).toNat (msgs.take (msgs.length % 65536)), b' ++ rest)
    | .reliableSlice seq ch sl => Packet.decode (b ++ rest) =
        if sl.numSlices = 0 ∨ sl.numSlices > C.MAX_NUM_SLICES then .error .invalidNumSlices
        else if sl.payload.isEmpty then .error .emptySlice
        else if sl.payload.length > C.SLICE_SIZE then .error .sliceSizeAboveLimit
        else .ok (.reliableSlice seq (UInt8.ofNat ch).toNat sl, rest)
    | .unreliableSlice seq ch sl => Packet.decode (b ++ rest) =
        if sl.numSlices = 0 ∨ sl.numSlices > C.MAX_NUM_SLICES then .error .invalidNumSlices
        else .ok (.unreliableSlice seq (UInt8.ofNat ch).toNat sl, rest)
    | .ack _ _ => True := by
  obtain ⟨h, rfl⟩ := Packet.enc_ok_iff.1 he
  cases p with
  | smallReliable seq ch msgs =>
    refine ⟨_, encSmallRel_ok_iff.2 ⟨fun x hx => h.2 x (List.mem_of_mem_drop hx), rfl⟩, ?_⟩
    simp only [Packet.bytes, Packet.decode, List.cons_append, List.nil_append, List.append_assoc, getU8_cons, bind, Except.bind,
      show (0 : UInt8).toNat = 0 from rfl, getVarint_enc _ h.1, getU16_u16be, decSmallRel_bytes msgs h.2 _ (Nat.mod_le _ _)]
    rfl
  | smallUnreliable seq ch msgs =>
    refine ⟨_, encSmallUnrel_ok_iff.2 ⟨fun x hx => h.2 x (List.mem_of_mem_drop hx), rfl⟩, ?_⟩
    simp only [Packet.bytes, Packet.decode, List.cons_append, List.nil_append, List.append_assoc, getU8_cons, bind, Except.bind,
      show (1 : UInt8).toNat = 1 from rfl, getVarint_enc _ h.1, getU16_u16be, decSmallUnrel_bytes msgs h.2 _ (Nat.mod_le _ _)]
    rfl
  | reliableSlice seq ch sl =>
    obtain ⟨hs, k1, k2, k3, k4⟩ := h
    simp only [Packet.bytes, Slice.bytes, Packet.decode, List.cons_append, List.nil_append, List.append_assoc, getU8_cons, bind,
      Except.bind, show (2 : UInt8).toNat = 2 from rfl, getVarint_enc _ hs, getVarint_enc _ k1, getVarint_enc _ k2,
      getVarint_enc _ k3, getBytesVar_enc _ _ k4]
    rfl
  | unreliableSlice seq ch sl =>
    obtain ⟨hs, k1, k2, k3, k4⟩ := h
    simp only [Packet.bytes, Slice.bytes, Packet.decode, List.cons_append, List.nil_append, List.append_assoc, getU8_cons, bind,
      Except.bind, show (3 : UInt8).toNat = 3 from rfl, getVarint_enc _ hs, getVarint_enc _ k1, getVarint_enc _ k2,
      getVarint_enc _ k3, getBytesVar_enc _ _ k4]
    rfl
  | ack => trivial

/-- Round trip: a well-formed packet encodes without panic, and decoding the encoding (followed by
    anything) gives back the packet and the remaining bytes. -/
theorem Packet.decode_enc (p : Packet) (h : p.WF) :
    ∃ b, p.enc = .ok b ∧ ∀ rest, Packet.decode (b ++ rest) = .ok (p, rest) := by
  have he := Packet.enc_ok_iff.2 ⟨h.encodable, rfl⟩
  refine ⟨_, he, fun rest => ?_⟩
  cases p with
  | smallReliable seq ch msgs =>
    obtain ⟨-, h2, h3, -⟩ := h
    obtain ⟨b', hb', hd⟩ := Packet.decode_enc_data he rest
    rw [Nat.mod_eq_of_lt h3, List.drop_length] at hb'
    cases hb'
    rw [hd, chByte h2, Nat.mod_eq_of_lt h3, List.take_length]
    rfl
  | smallUnreliable seq ch msgs =>
    obtain ⟨-, h2, h3, -⟩ := h
    obtain ⟨b', hb', hd⟩ := Packet.decode_enc_data he rest
    rw [Nat.mod_eq_of_lt h3, List.drop_length] at hb'
    cases hb'
    rw [hd, chByte h2, Nat.mod_eq_of_lt h3, List.take_length]
    rfl
  | reliableSlice seq ch sl =>
    obtain ⟨-, h2, -, -, h5, h6, h7, h8⟩ := h
    have hne : sl.payload.isEmpty = false := by
      cases hp : sl.payload with
      | nil => simp [hp] at h7
      | cons _ _ => rfl
    rw [Packet.decode_enc_data he rest, if_neg (by omega), hne, if_neg Bool.false_ne_true, if_neg (Nat.not_lt.mpr h8),
      chByte h2]
  | unreliableSlice seq ch sl =>
    obtain ⟨-, h2, -, -, h5, h6, -⟩ := h
    rw [Packet.decode_enc_data he rest, if_neg (by omega), chByte h2]
  | ack seq ranges =>
    obtain ⟨h1, ls, le, d, hrev, hlt, hle, hd⟩ := h
    have := hd.length_le
    obtain ⟨hle1, hsz, hlen, e1, e2, e3, hs⟩ : le - 1 ≤ MAX ∧ le - 1 - ls ≤ MAX ∧ d.length ≤ MAX ∧ ¬ le - 1 < le - 1 - ls ∧
        le - 1 - (le - 1 - ls) = ls ∧ le - 1 + 1 = le ∧ ls ≤ MAX + 1 := by omega
    have hr : d.reverse ++ [(ls, le)] = ranges := by
      rw [← List.reverse_cons, ← hrev, List.reverse_reverse]
    simp only [Packet.bytes, hrev, Packet.decode, List.cons_append, List.nil_append, List.append_assoc, getU8_cons, bind,
      Except.bind, show (4 : UInt8).toNat = 4 from rfl, getVarint_enc _ h1, getVarint_enc _ hle1, getVarint_enc _ hsz,
      getVarint_enc _ hlen, e1, if_false, e2, e3, decAckRest_bytes d ls _ hs hd rest, hr]
    rfl

theorem Packet.fromBytes_ok {b : Bytes} {p : Packet} (h : Packet.fromBytes b = .ok p) :
    ∃ r, Packet.decode b = .ok (p, r) := by
  unfold Packet.fromBytes at h
  split at h
  · cases h; exact ⟨_, ‹_›⟩
  · cases h

theorem Packet.fromBytes_enc (p : Packet) (h : p.WF) : ∃ b, p.enc = .ok b ∧ Packet.fromBytes b = .ok p := by
  obtain ⟨b, hb, hd⟩ := Packet.decode_enc p h
  refine ⟨b, hb, ?_⟩
  have := hd []
  simp only [List.append_nil] at this
  simp [Packet.fromBytes, this]

end RenetVerif
