/-
  C18 — Netcode liveness, the handshake-progress half (step lemmas under `AEAD.Laws`, and their composition for the
  lossless exchange).  The safety / time-out half is Props/C18.lean.

  request handed over + free capacity + valid token ⇒ `PacketToSend addr challenge` and a half-open session;
  challenge handed to the client ⇒ `SendingConnectionResponse`; its next packet is the response;
  response handed over + free slot ⇒ `ClientConnected id addr ud` + keep-alive; keep-alive handed to the client ⇒ `Connected`.

  Proofs: Lemmas/NcProgress.lean.  These use the wire round trip (`Packet.decode_sealedBytes`,
  `Packet.decode_request_bytes`, `Packet.encode_sealed_eq`, `Packet.encode_request_eq`: Lemmas/NcPacket.lean) and the token
  round trips (`pt_read_bytes`, `ch_generate_eq`, `ch_decode_generate`: Lemmas/NcToken.lean).  `AEAD.Laws` = seal/open are
  inverse and add 16 bytes; nothing else is assumed of the AEAD.
-/
import RenetVerif.Lemmas.NcProgress
import RenetVerif.Props.C05
namespace RenetVerif.C18P
open RenetVerif RenetVerif.Netcode RenetVerif.Netcode.NS RenetVerif.NcAead.Token

/-- **request ⇒ challenge.**  (`requestBytes a s t expire xnonce`: the request datagram for the private token `t`
    sealed under the server's key; `challengeBytes a s t`: the challenge the server seals for `(t.clientId, t.userData)`
    with its next challenge sequence number, under `t.serverToClientKey` and its global sequence number.) -/
theorem request_gets_challenge (a : AEAD) (hl : a.Laws) {s : NetcodeServer} {addr : Addr} {t : PrivateConnectToken}
    {expire : Nat} {xnonce : Bytes} (hi : ServerInv s) (hg : s.globalSequence < U64_MAX)
    (hc : s.challengeSequence < U64_MAX) (hwf : PTokenWF t) (hxn : xnonce.length = 24) (hexp : expire < 2 ^ 64)
    (hpid : s.protocolId < 2 ^ 64) (hnow : asSecs s.currentTime < expire)
    (hhost : s.secure = true → ∃ x, some x ∈ t.serverAddresses ∧ x ∈ s.publicAddresses)
    (hfa : findClientByAddr s.clients addr = none) (hfi : findClientById s.clients t.clientId = none)
    (hpf : pendingFind s.pendingClients addr = none)
    (hroom : s.pendingClients.length < Netcode.C.NETCODE_MAX_PENDING_CLIENTS)
    (hbind : (s.findOrAddConnectTokenEntry ⟨s.currentTime, addr, tokenMac (sealedPriv a s t expire xnonce)⟩).2 = true)
    (hlt : countConnected s.clients < s.maxClients) :
    ∃ s', s.processPacket a addr (requestBytes a s t expire xnonce) = .ok (.packetToSend addr (challengeBytes a s t), s') ∧
      pendingFind s'.pendingClients addr = some (mkPending s.currentTime addr expire t) ∧
      s'.clients = s.clients ∧ s'.challengeSequence = s.challengeSequence + 1 ∧
      s'.globalSequence = s.globalSequence + 1 ∧ s'.challengeKey = s.challengeKey ∧ s'.protocolId = s.protocolId ∧
      s'.maxClients = s.maxClients ∧ s'.currentTime = s.currentTime := by
  obtain ⟨s', h1, h2, -, h4, h5, h6, h7, h8, -⟩ := request_challenged a hl hi hg hc hwf hxn hexp hpid hnow hhost hfa hfi
    (by rw [NcLive2.pendingRemove_of_none hpf]; exact hroom) (NcLive2.bound_of_binding hi.entries _ hbind) hlt
  exact ⟨s', h1, h2, h4, h5, h6, h7.challengeKey, h7.protocolId, h7.maxClients, h8⟩

/-- **the client emits that request** (its first packet) -/
theorem client_sends_request (a : AEAD) (hl : a.Laws) {c : NetcodeClient} {s : NetcodeServer}
    {t : PrivateConnectToken} {expire : Nat} {xnonce : Bytes} (htok : TokenFor a s t expire xnonce c.connectToken)
    (hwf : PTokenWF t) (hxn : xnonce.length = 24)
    (hst : c.state = .sendingConnectionRequest) (hsend : c.lastPacketSendTime = none) (hseq : c.sequence < U64_MAX) :
    c.generatePacket a = .ok (some (requestBytes a s t expire xnonce, c.serverAddr),
      { c with lastPacketSendTime := some c.currentTime, sequence := c.sequence + 1 }) :=
  progress_send_request a hl htok hwf hxn hst (gate_of_none hsend) hseq

/-- **challenge ⇒ SendingConnectionResponse** -/
theorem challenge_moves_client (a : AEAD) (hl : a.Laws) {c : NetcodeClient} {s : NetcodeServer}
    {t : PrivateConnectToken} (hst : c.state = .sendingConnectionRequest)
    (hkey : c.connectToken.serverToClientKey = t.serverToClientKey)
    (hpid : c.connectToken.protocolId = s.protocolId) (hg : s.globalSequence < 2 ^ 64)
    (hcs : s.challengeSequence + 1 < 2 ^ 64) (hud : t.userData.length = 256) :
    c.processPacket a (challengeBytes a s t) =
      .ok (none, { c with challengeTokenSequence := s.challengeSequence + 1, lastPacketReceivedTime := c.currentTime
                          lastPacketSendTime := none
                          challengeTokenData := challengeToken a s t.clientId t.userData (s.challengeSequence + 1)
                          state := .sendingConnectionResponse }) :=
  progress_challenge a hl hst hkey hpid hg hcs hud

/-- **its next `update` emits the response** (the challenge cleared the send timer, so no send-rate wait) -/
theorem client_sends_response (a : AEAD) (hl : a.Laws) {c : NetcodeClient} {d : Nat}
    (hst : c.state = .sendingConnectionResponse) (hsend : c.lastPacketSendTime = none)
    (hseq : c.sequence < U64_MAX) (htd : c.challengeTokenData.length = 300) (hok : ClockOK c d)
    (hwin : asSecs (c.currentTime + d - c.connectStartTime) < tokenWindow c)
    (hto : ¬ CTimedOut c (c.currentTime + d)) :
    c.update a d = .ok (some (responseBytes a c, c.serverAddr),
      { c with currentTime := c.currentTime + d, lastPacketSendTime := some (c.currentTime + d)
               sequence := c.sequence + 1 }) := by
  rw [NS.client_update_of_quiet a (NS.client_connecting_continues (Or.inr hst) hok hwin hto)]
  exact progress_send_response a (c := { c with currentTime := c.currentTime + d }) hst (gate_of_none hsend) hseq htd

/-- **response + free slot ⇒ ClientConnected + keep-alive** -/
theorem response_connects (a : AEAD) (hl : a.Laws) {s : NetcodeServer} {addr : Addr} {p : Connection} {i seq cs : Nat}
    (hi : ServerInv s) (hg : s.globalSequence < U64_MAX) (hc : s.challengeSequence < U64_MAX)
    (hfa : findClientByAddr s.clients addr = none) (hpf : pendingFind s.pendingClients addr = some p)
    (hid : findClientById s.clients p.clientId = none) (hff : firstFreeSlot s.clients = some i)
    (hud : p.userData.length = 256) (hcid : p.clientId < 2 ^ 64) (hcs : cs < 2 ^ 64) (hseq : seq < 2 ^ 64) :
    ∃ s', s.processPacket a addr
        (Packet.sealedBytes a (.response cs (challengeToken a s p.clientId p.userData cs)) s.protocolId seq p.receiveKey) =
      .ok (.clientConnected p.clientId addr p.userData (connectKeepAlive a s p i), s') ∧
      s'.clients = s.clients.set i (some (promoted p p.replayProtection s.currentTime)) ∧
      s'.pendingClients = pendingRemove s.pendingClients addr :=
  ⟨_, response_connects_eq a hl hi hfa hpf hid hff hud hcid hcs hseq, rfl, rfl⟩

/-- **keep-alive ⇒ Connected** -/
theorem keepalive_connects_client (a : AEAD) (hl : a.Laws) {c : NetcodeClient} {s : NetcodeServer} {p : Connection}
    {i : Nat} (hst : c.state = .sendingConnectionResponse) (hkey : c.connectToken.serverToClientKey = p.sendKey)
    (hpid : c.connectToken.protocolId = s.protocolId) (hseq : p.sequence < 2 ^ 64)
    (hfresh : c.replayProtection.alreadyReceived p.sequence = false) :
    c.processPacket a (connectKeepAlive a s p i) =
      .ok (none, { c with replayProtection := c.replayProtection.advance p.sequence
                          lastPacketReceivedTime := c.currentTime, maxClients := s.maxClients % 2 ^ 32
                          clientIndex := i % 2 ^ 32, state := .connected }) :=
  progress_keepalive a hl hst hkey hpid hseq hfresh

/-- **`handshake_round_partial`** — the lossless four-message exchange connects both sides: the server reports
    `ClientConnected t.clientId addr t.userData`, holds a session with exactly that id, address and user data, and the
    client ends `Connected`.  The exchange driven through `update(d)` (elapsed time, send-rate gate), retransmission after
    loss, the time bound and failover to a second server: Props/C18T.lean (`handshake_through_update`,
    `handshake_despite_loss`, `failover_connects`); duplication: Props/C18V.lean (`handshake_despite_duplication`). -/
theorem handshake_round_partial (a : AEAD) (hl : a.Laws) {s : NetcodeServer} {c0 : NetcodeClient} {addr : Addr}
    {t : PrivateConnectToken} {expire : Nat} {xnonce : Bytes}
    (hi : ServerInv s) (hg : s.globalSequence + 1 < U64_MAX) (hc : s.challengeSequence + 1 < U64_MAX)
    (hwf : PTokenWF t) (hxn : xnonce.length = 24) (hexp : expire < 2 ^ 64) (hpid : s.protocolId < 2 ^ 64)
    (hnow : asSecs s.currentTime < expire)
    (hhost : s.secure = true → ∃ x, some x ∈ t.serverAddresses ∧ x ∈ s.publicAddresses)
    (hfa : findClientByAddr s.clients addr = none) (hfi : findClientById s.clients t.clientId = none)
    (hpf : pendingFind s.pendingClients addr = none)
    (hroom : s.pendingClients.length < Netcode.C.NETCODE_MAX_PENDING_CLIENTS)
    (hbind : (s.findOrAddConnectTokenEntry ⟨s.currentTime, addr, tokenMac (sealedPriv a s t expire xnonce)⟩).2 = true)
    (hlt : countConnected s.clients < s.maxClients)
    (htok : TokenFor a s t expire xnonce c0.connectToken) (hst : c0.state = .sendingConnectionRequest)
    (hsend : c0.lastPacketSendTime = none) (hseq : c0.sequence + 1 < U64_MAX)
    (hrp : c0.replayProtection.alreadyReceived 0 = false) :
    ∃ req c1 chal s1 c2 resp c3 ka s2 c4 i cn,
      c0.generatePacket a = .ok (some (req, c0.serverAddr), c1) ∧
      s.processPacket a addr req = .ok (.packetToSend addr chal, s1) ∧
      c1.processPacket a chal = .ok (none, c2) ∧ c2.state = .sendingConnectionResponse ∧
      c2.generatePacket a = .ok (some (resp, c0.serverAddr), c3) ∧
      s1.processPacket a addr resp = .ok (.clientConnected t.clientId addr t.userData ka, s2) ∧
      c3.processPacket a ka = .ok (none, c4) ∧ c4.state = .connected ∧
      At s2.clients i cn ∧ cn.clientId = t.clientId ∧ cn.addr = addr ∧ cn.userData = t.userData ∧
      s2.isClientConnected t.clientId = true :=
  NS.handshake_round_partial a hl hi hg hc hwf hxn hexp hpid hnow hhost hfa hfi hpf hroom hbind hlt htok hst hsend hseq hrp

/-! ## example: the model's toy AEAD (`AEAD.toy`, `AEAD.toy_laws`), the server `Ex.s0`, client A's private token -/
section Examples
open Ex

theorem privA_wf : PTokenWF privA :=
  ⟨by decide, by decide, by decide, ⟨[srvAddr], by simp, by decide, by intro x hx; simp at hx; subst hx; decide, rfl⟩,
    List.length_replicate, List.length_replicate, List.length_replicate⟩

/-- client A with its token's private part sealed by `AEAD.toy` -/
def cT : NetcodeClient :=
  { cA0 with connectToken := { tokenA with privateData := sealedPriv AEAD.toy s0 privA 30 xnA } }

example : ∃ req c1 chal s1 c2 resp c3 ka s2 c4 i cn,
      cT.generatePacket AEAD.toy = .ok (some (req, cT.serverAddr), c1) ∧
      s0.processPacket AEAD.toy addrA req = .ok (.packetToSend addrA chal, s1) ∧
      c1.processPacket AEAD.toy chal = .ok (none, c2) ∧ c2.state = .sendingConnectionResponse ∧
      c2.generatePacket AEAD.toy = .ok (some (resp, cT.serverAddr), c3) ∧
      s1.processPacket AEAD.toy addrA resp = .ok (.clientConnected 11 addrA udA ka, s2) ∧
      c3.processPacket AEAD.toy ka = .ok (none, c4) ∧ c4.state = .connected ∧
      At s2.clients i cn ∧ cn.clientId = 11 ∧ cn.addr = addrA ∧ cn.userData = udA ∧
      s2.isClientConnected 11 = true :=
  handshake_round_partial AEAD.toy AEAD.toy_laws (s := s0) (c0 := cT) (addr := addrA) (t := privA) (expire := 30)
    (xnonce := xnA) s0_empty.inv (by decide) (by decide) privA_wf rfl (by decide) (by decide) (by decide)
    (fun _ => ⟨srvAddr, by simp [privA], by simp [s0]⟩) rfl rfl rfl (by decide) (by decide +kernel) (by decide)
    ⟨rfl, rfl, rfl, rfl, rfl, rfl⟩ rfl rfl (by decide) (by decide +kernel)

/-- the single steps on the same values (`s1`, `pendA`, `cA3` of Lemmas/NcExamples.lean do not depend on the AEAD) -/
example : ∃ s', s0.processPacket AEAD.toy addrA (requestBytes AEAD.toy s0 privA 30 xnA) =
    .ok (.packetToSend addrA (challengeBytes AEAD.toy s0 privA), s') ∧
    pendingFind s'.pendingClients addrA = some pendA := by
  obtain ⟨s', h1, h2, _⟩ := request_gets_challenge AEAD.toy AEAD.toy_laws (s := s0) (addr := addrA) (t := privA)
    (expire := 30) (xnonce := xnA) s0_empty.inv (by decide) (by decide) privA_wf rfl (by decide) (by decide) (by decide)
    (fun _ => ⟨srvAddr, by simp [privA], by simp [s0]⟩) rfl rfl rfl (by decide) (by decide +kernel) (by decide)
  exact ⟨s', h1, h2⟩
example : cT.generatePacket AEAD.toy = .ok (some (requestBytes AEAD.toy s0 privA 30 xnA, srvAddr),
    { cT with lastPacketSendTime := some 0, sequence := 1 }) :=
  client_sends_request AEAD.toy AEAD.toy_laws (s := s0) (t := privA) ⟨rfl, rfl, rfl, rfl, rfl, rfl⟩ privA_wf rfl rfl rfl
    (by decide)
example : (cT.processPacket AEAD.toy (challengeBytes AEAD.toy s0 privA)).isPanic = false := by
  rw [challenge_moves_client AEAD.toy AEAD.toy_laws (c := cT) (s := s0) (t := privA) rfl rfl rfl (by decide) (by decide)
    List.length_replicate]
  rfl
example : ∃ s', s1.processPacket AEAD.toy addrA
    (Packet.sealedBytes AEAD.toy (.response 1 (challengeToken AEAD.toy s1 11 udA 1)) 42 1 kc2s) =
    .ok (.clientConnected 11 addrA udA (connectKeepAlive AEAD.toy s1 pendA 0), s') := by
  obtain ⟨s', h, _⟩ := response_connects AEAD.toy AEAD.toy_laws (s := s1) (addr := addrA) (p := pendA) (i := 0) (seq := 1)
    (cs := 1) C05.inv_s1 (by decide) (by decide) (by decide +kernel) (by decide +kernel) (by decide +kernel)
    (by decide +kernel) List.length_replicate (by decide) (by decide) (by decide)
  exact ⟨s', h⟩
example : (cA3.processPacket AEAD.toy (connectKeepAlive AEAD.toy s1 pendA 0)).isPanic = false := by
  rw [keepalive_connects_client AEAD.toy AEAD.toy_laws (c := cA3) (s := s1) (p := pendA) (i := 0) rfl rfl rfl
    (by decide) (by decide +kernel)]
  rfl
example : ∃ out c', cA2.update AEAD.toy 250000000 = .ok (some (out, srvAddr), c') ∧ c'.sequence = 2 :=
  ⟨_, _, client_sends_response AEAD.toy AEAD.toy_laws (c := cA2) (d := 250000000) rfl rfl (by decide)
    (by decide +kernel) ⟨by decide, by decide, by decide⟩ (by decide) (by decide), rfl⟩

end Examples
end RenetVerif.C18P
