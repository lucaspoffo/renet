/-
  `renet/src/server.rs` `RenetServer` (group Server) against `Server` of `Renet/Server.lean`.
  The ties themselves are in `Props/SrcTieServer.lean`.
-/
import RenetVerif.Generated.Src.Server
import RenetVerif.Renet.Server
import RenetVerif.Lemmas.SrcEquiv.Prims
import RenetVerif.Lemmas.SrcEquiv.CommonRepr
import RenetVerif.Lemmas.SrcEquiv.ChanLemmas
import RenetVerif.Lemmas.SrcEquiv.ConnRepr
import RenetVerif.Lemmas.SrcEquiv.Conn
import RenetVerif.Lemmas.SrcEquiv.ConnSend
import RenetVerif.Lemmas.SrcEquiv.ConnRecv
namespace RenetVerif.SrcEquiv
open RenetVerif RenetVerif.RustSem

section SrvTie
open Src.renet.remote_connection Src.renet.server

abbrev SEvent := Src.renet.server.ServerEvent

def reprEvent : Event → SEvent
  | .connected id => .ClientConnected id
  | .disconnected id r => .ClientDisconnected id (reprReason r)

/-- the connection table: every connection with its own `most_recent_message_id`s -/
def reprConns (mrss : Nat → Nat → Nat) (m : SMap Conn) : RustSem.Map RenetClient :=
  m.map fun p => (p.1, reprConn (mrss p.1) p.2)

def reprConfig (s : Server) : ConnectionConfig := ⟨s.budget, s.serverCh.map reprCfg, s.clientCh.map reprCfg⟩

def reprServer (mrss : Nat → Nat → Nat) (s : Server) : RenetServer :=
  ⟨reprConns mrss s.conns, reprConfig s, s.events.map reprEvent⟩

theorem conns_reprServer (mrss : Nat → Nat → Nat) (s : Server) : (reprServer mrss s).connections = reprConns mrss s.conns := rfl

def setMrs (mrss : Nat → Nat → Nat) (k : Nat) (mrs : Nat → Nat) : Nat → Nat → Nat := fun j => if j = k then mrs else mrss j

theorem find_reprConns (mrss : Nat → Nat → Nat) (m : SMap Conn) (k : Nat) :
    RustSem.Map.find? (reprConns mrss m) k = (SMap.find? m k).map (reprConn (mrss k)) :=
  find_map_keyed reprConn mrss m k

theorem contains_reprConns (mrss : Nat → Nat → Nat) (m : SMap Conn) (k : Nat) :
    RustSem.Map.contains_key (reprConns mrss m) k = (SMap.find? m k).isSome := by
  simp [RustSem.Map.contains_key, find_reprConns]

theorem insert_reprConns (mrss : Nat → Nat → Nat) (m : SMap Conn) (k : Nat) (mrs : Nat → Nat) (c : Conn) (hs : MSorted m) :
    RustSem.Map.insert (reprConns mrss m) k (reprConn mrs c) = reprConns (setMrs mrss k mrs) (SMap.insert m k c) :=
  insert_map_keyed reprConn mrss m k mrs c hs

theorem setMrs_same (mrss : Nat → Nat → Nat) (k : Nat) : setMrs mrss k (mrss k) = mrss := by
  funext j
  unfold setMrs
  split
  · rename_i h; rw [h]
  · rfl

theorem insert_reprConns_same (mrss : Nat → Nat → Nat) (m : SMap Conn) (k : Nat) (c : Conn) (hs : MSorted m) :
    RustSem.Map.insert (reprConns mrss m) k (reprConn (mrss k) c) = reprConns mrss (SMap.insert m k c) := by
  rw [insert_reprConns mrss m k (mrss k) c hs, setMrs_same]

theorem remove_reprConns (mrss : Nat → Nat → Nat) (m : SMap Conn) (k : Nat) :
    RustSem.Map.remove (reprConns mrss m) k = reprConns mrss (SMap.erase m k) :=
  remove_map_keyed reprConn mrss m k

/-- the channel configurations of the server never give a duplicated id (else `from_channels` trips an `assert!`) -/
structure CfgOk (s : Server) : Prop where
  su : ((s.serverCh.filter (·.kind == .unreliable)).map (·.id)).Nodup
  sr : ((s.serverCh.filter (·.kind != .unreliable)).map (·.id)).Nodup
  ru : ((s.clientCh.filter (·.kind == .unreliable)).map (·.id)).Nodup
  rr : ((s.clientCh.filter (·.kind != .unreliable)).map (·.id)).Nodup

theorem new_conn_eq {ε : Type} (s : Server) (hc : CfgOk s) :
    (RenetClient.new_from_server (reprConfig s) : Res ε _) = .ok (reprConn (fun _ => 0) s.newConn) :=
  SrcTie.conn_new_from_server s.budget s.serverCh s.clientCh hc.su hc.sr hc.ru hc.rr

/-! id lists (the generated code visits the key-sorted table front to back) -/

theorem filterM_conns {ε ρ : Type} (mrss : Nat → Nat → Nat) (g : Conn → Bool) (body : Nat × RenetClient → Exec ε ρ Bool)
    (hb : ∀ k c, body (k, reprConn (mrss k) c) = .val (g c)) :
    ∀ m : SMap Conn, RustSem.filterM (reprConns mrss m) body = .val (reprConns mrss (m.filter (fun p => g p.2))) := by
  intro m
  induction m with
  | nil => rfl
  | cons p r ih =>
    obtain ⟨k, c⟩ := p
    simp only [reprConns, List.map_cons, RustSem.filterM, List.filter_cons] at ih ⊢
    rw [hb, Exec.bind_val', ih, Exec.bind_val']
    cases g c <;> rfl

theorem keys_reprConns (mrss : Nat → Nat → Nat) (m : SMap Conn) :
    (reprConns mrss m).map (fun x => x.1) = m.map (·.1) := by
  simp [reprConns, List.map_map, Function.comp_def]

theorem server_clients_id_iter_eq {ε : Type} (mrss : Nat → Nat → Nat) (s : Server) :
    (RenetServer.clients_id_iter (reprServer mrss s) : Res ε _) = .ok s.clientsId := by
  unfold RenetServer.clients_id_iter Server.clientsId
  simp only [conns_reprServer, Exec.bind_eq, Exec.pure_eq]
  rw [filterM_conns mrss (fun c => c.isConnected) _ (fun k c => by simp [SrcTie.conn_is_connected, Exec.call_ok])]
  simp only [Exec.bind_val', Exec.run_val]
  exact congrArg Res.ok (keys_reprConns mrss _)

theorem server_disconnections_id_iter_eq {ε : Type} (mrss : Nat → Nat → Nat) (s : Server) :
    (RenetServer.disconnections_id_iter (reprServer mrss s) : Res ε _) = .ok s.disconnectionsId := by
  unfold RenetServer.disconnections_id_iter Server.disconnectionsId
  simp only [conns_reprServer, Exec.bind_eq, Exec.pure_eq]
  rw [filterM_conns mrss (fun c => c.isDisconnected) _ (fun k c => by simp [SrcTie.conn_is_disconnected, Exec.call_ok])]
  simp only [Exec.bind_val', Exec.run_val]
  exact congrArg Res.ok (keys_reprConns mrss _)

/-- what `get_packets_to_send` / `process_packet_from` return: `Err(ClientNotFound)` keeps the server -/
def srvOut {α β : Type} (mrss : Nat → Nat → Nat) (f : α → β) :
    Res Empty (Server × Option α) → Res (Src.renet.error.ClientNotFound × RenetServer) (RenetServer × β)
  | .ok (s', some a) => .ok (reprServer mrss s', f a)
  | .ok (s', none) => .err ({ }, reprServer mrss s')
  | .panic m => .panic m
  | .err e => nomatch e

/-! loops over the connection table (`values_mut()` / `iter_mut()`: positions of the key-sorted table) -/

def srvW (mrss : Nat → Nat → Nat) (s0 : Server) (m : SMap Conn) : RenetServer :=
  ⟨reprConns mrss m, reprConfig s0, s0.events.map reprEvent⟩

theorem conns_srvW (mrss : Nat → Nat → Nat) (s0 : Server) (m : SMap Conn) : (srvW mrss s0 m).connections = reprConns mrss m := rfl

theorem len_conns_srvW (mrss : Nat → Nat → Nat) (s0 : Server) (m : SMap Conn) :
    RustSem.len (srvW mrss s0 m).connections = m.length := by simp [RustSem.len, srvW, reprConns]

theorem index_mid_conns {ε ρ : Type} (mrss : Nat → Nat → Nat) (pre : SMap Conn) (k : Nat) (c : Conn) (rest : SMap Conn) (site : String) :
    (RustSem.index (reprConns mrss (pre ++ (k, c) :: rest)) pre.length site : Exec ε ρ _) = .val (k, reprConn (mrss k) c) := by
  have h : (reprConns mrss (pre ++ (k, c) :: rest))[pre.length]? = some (k, reprConn (mrss k) c) := by
    simp [reprConns]
  exact index_val h

theorem set_mid_conns {ε ρ : Type} (mrss : Nat → Nat → Nat) (pre : SMap Conn) (k : Nat) (c c' : Conn) (rest : SMap Conn) (site : String) :
    (RustSem.set (reprConns mrss (pre ++ (k, c) :: rest)) pre.length (k, reprConn (mrss k) c') site : Exec ε ρ _)
      = .val (reprConns mrss (pre ++ (k, c') :: rest)) := by
  have hl : pre.length < (reprConns mrss (pre ++ (k, c) :: rest)).length := by simp [reprConns]
  rw [set_val hl]
  congr 1
  simp [reprConns]

/-- `forRange_table` for a body that may also `continue` with the new entry in place -/
theorem forRangeExit_table {ε ρ τ α : Type} (W : SMap α → τ) (f : Nat → α → Res Empty α) (P : Nat → α → Prop)
    (run : SMap α → Res Empty (SMap α)) (body : Nat → τ → Exec ε (LoopExit ρ τ) τ) (run_nil : run [] = .ok [])
    (run_cons : ∀ k c rest, run ((k, c) :: rest) = f k c >>= fun c' => run rest >>= fun rest' => pure ((k, c') :: rest'))
    (hb : ∀ (pre : SMap α) (k : Nat) (c : α) (rest : SMap α), P k c →
      Follows (fun t c' => t = W (pre ++ (k, c') :: rest)) (body pre.length (W (pre ++ (k, c) :: rest))) (f k c) ∨
      ∃ c', f k c = .ok c' ∧ body pre.length (W (pre ++ (k, c) :: rest)) = .ret (.cont (W (pre ++ (k, c') :: rest))))
    (m : SMap α) (n : Nat) (hn : n = m.length) (hP : ∀ p ∈ m, P p.1 p.2) :
    Follows (fun t m' => t = W m') (RustSem.forRangeExit 0 n (W m) body) (run m) := by
  suffices h : ∀ (rest pre : SMap α), (∀ p ∈ rest, P p.1 p.2) →
      Follows (fun t rest' => t = W (pre ++ rest')) (RustSem.forRangeExit.loop body rest.length pre.length (W (pre ++ rest)))
        (run rest) by
    subst hn; exact h m [] hP
  intro rest
  induction rest with
  | nil => intro pre _; rw [run_nil]; exact ⟨_, rfl, rfl⟩
  | cons p rest ih =>
    intro pre hP
    obtain ⟨k, c⟩ := p
    have h2 := fun c' => ih (pre ++ [(k, c')]) (fun q hq => hP q (by simp [hq]))
    simp only [List.length_append, List.length_cons, List.length_nil, List.append_assoc, List.cons_append,
      List.nil_append] at h2
    have hgo : ∀ c', Follows (fun t rest' => t = W (pre ++ rest'))
        (RustSem.forRangeExit.loop body rest.length (pre.length + 1) (W (pre ++ (k, c') :: rest)))
        (run rest >>= fun rest' => pure ((k, c') :: rest')) :=
      fun c' => (h2 c').elim (fun _ rest' _ ht => ⟨_, rfl, ht⟩) fun _ _ => ⟨_, rfl⟩
    rw [run_cons, List.length_cons, RustSem.forRangeExit.loop]
    rcases hb pre k c rest (hP (k, c) (by simp)) with h1 | ⟨c', hf, h1⟩
    · refine h1.elim ?_ fun _ _ => ⟨_, rfl⟩
      rintro _ c' _ rfl
      exact hgo c'
    · rw [hf, h1]
      exact hgo c'

theorem mapConnsM_pure (g : Conn → Conn) (m : SMap Conn) :
    Server.mapConnsM (fun _ c => .ok (g c)) m = .ok (m.map fun p => (p.1, g p.2)) := by
  induction m with
  | nil => rfl
  | cons p r ih => obtain ⟨k, c⟩ := p; simp [Server.mapConnsM, ih]

/-- what `send_message` needs on one connection -/
def SendMsgOk (c : Conn) (ch : Nat) (m : Bytes) : Prop :=
  MSorted c.sendRel ∧
  (∀ x, SMap.find? c.sendRel ch = some x → x.mem + m.length < 2 ^ 64 ∧ x.nextId + 1 < 2 ^ 64) ∧
  (∀ x, SMap.find? c.sendUnrel ch = some x → x.mem + m.length < 2 ^ 64)

def FeedClientOk : Conn → List Bytes → Prop
  | _, [] => True
  | cl, p :: rest => ProcOk cl p ∧ ∀ cl', cl.processPacket p = .ok cl' → FeedClientOk cl' rest

def FeedServerOk (id : Nat) : Server → List Bytes → Prop
  | _, [] => True
  | s, p :: rest => (MSorted s.conns ∧ ∀ c, SMap.find? s.conns id = some c → ProcOk c p) ∧
      ∀ s', s.processPacketFrom p id = .ok (s', true) → FeedServerOk id s' rest

/-- hypotheses of `process_local_client` along the model's run -/
structure LocalOk (s : Server) (id : Nat) (cl : Conn) : Prop where
  sorted : MSorted s.conns
  send : ∀ c, SMap.find? s.conns id = some c → SendOk c
  run : ∀ s1 ps, s.getPacketsToSend id = .ok (s1, some ps) → FeedClientOk cl ps ∧
    ∀ cl1, Server.feedClient cl ps = .ok cl1 → SendOk cl1 ∧
      ∀ cl2 out, cl1.getPacketsToSend = .ok (cl2, out) → FeedServerOk id s1 out

def localOut (mrss : Nat → Nat → Nat) (mrs : Nat → Nat) :
    Res Empty (Server × Conn × Bool) →
      Res (Src.renet.error.ClientNotFound × (RenetServer × RenetClient)) (RenetServer × RenetClient × Unit)
  | .ok (s', cl', true) => .ok (reprServer mrss s', reprConn mrs cl', ())
  | .ok (s', cl', false) => .err ({ }, (reprServer mrss s', reprConn mrs cl'))
  | .panic m => .panic m
  | .err e => nomatch e


end SrvTie
end RenetVerif.SrcEquiv
