/-
  Source tie, group NcServerSend: `renetcode/src/server.rs` `find_client_mut_by_id`,
  `NetcodeServer::{generate_payload_packet, update_client, disconnect}` ↔ `NetcodeServer.{generatePayloadPacket,
  updateClient, disconnect}` of `Netcode/Server.lean`.  The AEAD is a parameter on both sides (see `SrcTieNcCodec.lean`).

  * `find_client_mut_by_id` returns `Option<&mut Connection>` into `clients`: a FINDER (header of `Base/RustSem.lean`) —
    the generated definition returns the POSITION of the slot (`RustSem.find_some_idx`), and at the call site the
    `&mut Connection` is the place `clients[i]` (read and written through index `i`).
  * The three methods encode into the server's scratch buffer `self.out: [u8; NETCODE_MAX_PACKET_BYTES]` and hand out
    `&self.out[..len]`; the generated definitions return that slice BY VALUE (`ServerResult` / the returned tuple are
    on the manifest lists `BORROWED_FIELDS_OK` / `BORROWED_RETURN_OK`: a shared borrow of a field that nothing writes
    while the result lives).  The model does not keep `out`; the theorems say that SOME buffer of the same length is left
    (`∃ out'`, `out'.length = NETCODE_MAX_PACKET_BYTES`), also after an `Err` and after a failed encode whose error is
    swallowed (`update_client`, `disconnect`).
  * `update_client`: `client.timeout_seconds as u64` on an `i32` is `RustSem.cast_i32 64` (sign extension); it is only
    evaluated for `timeout_seconds > 0`.  Hypothesis: the `timeout_seconds` of the connected clients are `< 2^31`
    (an `i32`; the model keeps an unbounded `Int`).
-/
import RenetVerif.Lemmas.SrcEquiv.NcServerSend
namespace RenetVerif.SrcTie
open RenetVerif RenetVerif.SrcEquiv RenetVerif.RustSem RenetVerif.Netcode
open Src.renetcode.server

/-- the finder: the slot of the first connected client with this id -/
theorem nc_find_client_mut_by_id {ε : Type} (clients : List (Option Netcode.Connection)) (id : Nat) :
    (find_client_mut_by_id (clients.map (Option.map reprNConn)) id : Res ε _) = .ok (findClientSlotById clients id) := by
  unfold find_client_mut_by_id findClientSlotById RustSem.find_some_idx
  simp only [Exec.pure_eq, Exec.run_val, find_some_idx_go]

/-- `generate_payload_packet`: `PayloadAboveLimit` / `ClientNotFound` / the encode error, with the server unchanged up to
    the scratch buffer; otherwise the client's address, the encoded packet, `sequence + 1` (overflow panics) and
    `last_packet_send_time := current_time` in the client's slot. -/
theorem nc_server_generate_payload_packet (a : AEAD) (hl : a.Laws) (out : List Nat)
    (hout : out.length = C.NETCODE_MAX_PACKET_BYTES) (s : Netcode.NetcodeServer) (id : Nat) (payload : Bytes) :
    GenOut s (s.generatePayloadPacket a id payload)
      (@NetcodeServer.generate_payload_packet (aeadOf a) (reprNS out s) id (toNats payload)) := by
  unfold NetcodeServer.generate_payload_packet Netcode.NetcodeServer.generatePayloadPacket
  have hlen : RustSem.len (toNats payload) = payload.length := toNats_length payload
  have hK : Src.renetcode.NETCODE_MAX_PAYLOAD_BYTES = C.NETCODE_MAX_PAYLOAD_BYTES := rfl
  simp only [hlen, hK, Exec.bind_eq, Exec.pure_eq]
  by_cases hp : payload.length > C.NETCODE_MAX_PAYLOAD_BYTES
  · rw [if_pos (decide_eq_true hp), if_pos hp]
    exact Exists.intro out ⟨hout, rfl⟩
  rw [if_neg (mt of_decide_eq_true hp), if_neg hp, Exec.bind_val', reprNS_clients, nc_find_client_mut_by_id, Exec.call_ok,
    Exec.bind_val']
  cases hf : findClientSlotById s.clients id with
  | none =>
    rw [find_slot_none hf]
    exact Exists.intro out ⟨hout, rfl⟩
  | some i =>
    obtain ⟨c, hi, hfc⟩ := find_slot_some hf
    have hilt := lt_of_getElem? hi
    rw [hfc]
    simp only [slot_bind hi, reprNS_out, reprNS_protocol_id, reprNConn_sequence, reprNConn_send_key]
    refine (enc_out_as a hl (.payload payload) (.Payload _) rfl out hout s.protocolId c.sequence c.sendKey).elim (fun bytes buf' hm hg htake hblen => ?_)
      (fun e st hm hg hst => ?_) (fun mm msg hm hg => ?_)
    · rw [hm, hg]
      simp only [Exec.callFrom_ok, Exec.bind_val']
      refine incU64_elim c.sequence (fun hgi hmi => ?_) (fun hgi hmi => ?_)
      · rw [hgi, hmi]
        exact Exists.intro _ rfl
      · rw [hgi, hmi, Exec.bind_val']
        simp only [reprNS_current_time]
        erw [set_some_bind hilt { c with sequence := c.sequence + 1 }]
        rw [slot_bind (List.getElem?_set_self hilt)]
        erw [set_some_bind (by simpa using hilt) { c with sequence := c.sequence + 1, lastPacketSendTime := s.currentTime }]
        rw [slot_bind (List.getElem?_set_self (by simpa using hilt)),
          Exec.bind_skip (RustSem.slice _ _ _ _) _ _ (slice_of_take buf' bytes htake _), List.set_set]
        exact Exists.intro buf' ⟨hblen, rfl⟩
    · rw [hm, hg]
      exact Exists.intro st ⟨hst, rfl⟩
    · rw [hm, hg]
      exact Exists.intro msg rfl

/-- `update_client`: nothing for an unknown id; a timed-out (`last_packet_received_time + timeout < current_time`,
    `Duration` overflow panics) or already `Disconnected` client is dropped from its slot and reported with a
    `Disconnect` packet (or without one when the encode fails); otherwise a `KeepAlive { slot as u32, max_clients as u32 }`
    when `last_packet_send_time + NETCODE_SEND_RATE ≤ current_time` (a failed encode leaves everything as it was and
    returns `None`). -/
theorem nc_server_update_client {ε : Type} (a : AEAD) (hl : a.Laws) (out : List Nat)
    (hout : out.length = C.NETCODE_MAX_PACKET_BYTES) (s : Netcode.NetcodeServer)
    (hto : ∀ c, some c ∈ s.clients → c.timeoutSeconds < 2 ^ 31) (id : Nat) :
    NsOut (s.updateClient a id) (@NetcodeServer.update_client (aeadOf a) ε (reprNS out s) id) := by
  unfold Src.renetcode.server.NetcodeServer.update_client Netcode.NetcodeServer.updateClient
  -- the big literals are abstracted first (the kernel must not meet `x + 250000000` / `x * 1000000000` in a defeq check)
  have hrate : Src.renetcode.NETCODE_SEND_RATE = C.NETCODE_SEND_RATE_NS := rfl
  have hfs : RustSem.Duration.from_secs = fromSecs := by
    funext n; unfold RustSem.Duration.from_secs fromSecs NS_PER_SEC; rfl
  rw [hrate, hfs]
  generalize C.NETCODE_SEND_RATE_NS = rate
  generalize fromSecs = fs
  simp only [reprNS_clients, nc_find_client_slot_by_id, Exec.call_ok, Exec.bind_eq, Exec.pure_eq, Exec.bind_val']
  cases hf : findClientSlotById s.clients id with
  | none => exact Exists.intro out ⟨hout, rfl⟩
  | some i =>
    obtain ⟨c, hi, _⟩ := find_slot_some hf
    have hilt := lt_of_getElem? hi
    have hc31 : c.timeoutSeconds < 2 ^ 31 := hto c (List.mem_of_getElem? hi)
    simp only []
    rw [getD_of hi, Exec.bind_val']
    simp only [slot_bind hi]
    rw [idx_clients hi, Exec.bind_val']
    simp only [Option.map_some, Option.isSome_some, if_true]
    rw [reprNConn_timeout_seconds, reprNConn_last_packet_received_time, reprNS_current_time]
    refine timed_out_elim c.lastPacketReceivedTime s.currentTime c.timeoutSeconds hc31 fs (fun hg hm => ?_) (fun to hg hm => ?_)
    · rw [hg, hm]
      exact Exists.intro _ rfl
    rw [hg, hm, Res.bind_ok, Exec.bind_val']
    -- the connection after the time-out step
    generalize hc' : (if to = true then ({ c with state := .disconnected } : Netcode.Connection) else c) = c'
    rw [Exec.bind_skip (ite (to = true) _ _) _ (reprNS out { s with clients := s.clients.set i (some c') }) ?hstep]
    case hstep =>
      subst hc'
      cases to with
      | false => rw [if_neg Bool.false_ne_true, if_neg Bool.false_ne_true, set_self hi]
      | true =>
        rw [if_pos rfl, if_pos rfl]
        erw [set_some_bind hilt { c with state := .disconnected }]
        rfl
    have hi' : (s.clients.set i (some c'))[i]? = some (some c') := List.getElem?_set_self hilt
    simp only [reprNS_clients, slot_bind hi', reprNConn_state, reprCS_disc, reprNConn_sequence, reprNConn_send_key,
      reprNConn_addr, reprNS_current_time, reprNS_out, reprNS_protocol_id]
    by_cases hd : c'.state = .disconnected
    · -- the client is dropped
      rw [if_pos (decide_eq_true hd), if_pos hd, set_none_bind _ _ (by simpa using hilt), List.set_set]
      refine (enc_out_as a hl .disconnect .Disconnect rfl out hout s.protocolId c'.sequence c'.sendKey).elim (fun bytes buf' hme hge htake hblen => ?_)
        (fun e st hme hge hst => ?_) (fun mm msg hme hge => ?_)
      · rw [hme, hge]
        simp only [Exec.attempt, Exec.bind_val', slice_of_take buf' bytes htake]
        exact Exists.intro buf' ⟨hblen, rfl⟩
      · rw [hme, hge]
        exact Exists.intro st ⟨hst, rfl⟩
      · rw [hme, hge]
        exact Exists.intro msg rfl
    · -- keep-alive
      have hto' : to = false := by
        cases to with
        | false => rfl
        | true => subst hc'; exact absurd rfl hd
      subst hto'
      rw [if_neg Bool.false_ne_true] at hc'
      subst hc'
      have hs1 : ({ s with clients := s.clients.set i (some c) } : Netcode.NetcodeServer) = s := by rw [set_self hi]
      rw [hs1, if_neg (mt of_decide_eq_true hd), if_neg hd, Exec.bind_val']
      simp only [reprNS_clients, slot_bind hi]
      rw [reprNConn_last_packet_send_time, reprNS_current_time]
      refine durAdd_elim c.lastPacketSendTime rate (fun hgd hmd => ?_) (fun hgd hmd => ?_)
      · rw [hgd, hmd]
        exact Exists.intro _ rfl
      rw [hgd, hmd, Exec.bind_val', Res.bind_ok]
      by_cases hdue : c.lastPacketSendTime + rate ≤ s.currentTime
      case neg =>
        rw [if_neg (mt of_decide_eq_true hdue), if_neg hdue]
        exact Exists.intro out ⟨hout, rfl⟩
      rw [if_pos (decide_eq_true hdue), if_pos hdue]
      simp only [reprNConn_sequence, reprNConn_send_key, reprNS_out, reprNS_protocol_id, reprNS_max_clients]
      refine (enc_out_as a hl (.keepAlive (i % 2 ^ 32) (s.maxClients % 2 ^ 32))
          (.KeepAlive (RustSem.cast 32 i) (RustSem.cast 32 s.maxClients)) rfl out hout s.protocolId c.sequence c.sendKey).elim (fun bytes buf' hme hge htake hblen => ?_)
        (fun e st hme hge hst => ?_) (fun mm msg hme hge => ?_)
      · rw [hme, hge, attempt_ok', Exec.bind_val', Exec.bind_val']
        simp only [slot_bind hi, reprNConn_sequence]
        refine incU64_elim c.sequence (fun hgi hmi => ?_) (fun hgi hmi => ?_)
        · rw [hgi, hmi]
          exact Exists.intro _ rfl
        · rw [hgi, hmi, Exec.bind_val']
          erw [set_some_bind hilt { c with sequence := c.sequence + 1 }]
          rw [slot_bind (List.getElem?_set_self hilt)]
          erw [set_some_bind (by simpa using hilt) { c with sequence := c.sequence + 1, lastPacketSendTime := s.currentTime }]
          rw [slot_bind (List.getElem?_set_self (by simpa using hilt)),
            Exec.bind_skip (RustSem.slice _ _ _ _) _ _ (slice_of_take buf' bytes htake _), List.set_set]
          exact Exists.intro buf' ⟨hblen, rfl⟩
      · rw [hme, hge]
        exact Exists.intro st ⟨hst, rfl⟩
      · rw [hme, hge]
        exact Exists.intro msg rfl

/-- `disconnect`: `take()` of the slot, then the `Disconnect` packet (reported without packet when the encode fails) -/
theorem nc_server_disconnect {ε : Type} (a : AEAD) (hl : a.Laws) (out : List Nat)
    (hout : out.length = C.NETCODE_MAX_PACKET_BYTES) (s : Netcode.NetcodeServer) (id : Nat) :
    NsOut (s.disconnect a id) (@Src.renetcode.server.NetcodeServer.disconnect (aeadOf a) ε (reprNS out s) id) := by
  unfold Src.renetcode.server.NetcodeServer.disconnect Netcode.NetcodeServer.disconnect
  simp only [reprNS_clients, nc_find_client_slot_by_id, Exec.call_ok, Exec.bind_eq, Exec.pure_eq, Exec.bind_val']
  cases hf : findClientSlotById s.clients id with
  | none => exact Exists.intro out ⟨hout, rfl⟩
  | some i =>
    obtain ⟨c, hi, _⟩ := find_slot_some hf
    simp only []
    rw [getD_of hi]
    simp only [slot_bind hi, set_none_bind _ _ (lt_of_getElem? hi), reprNS_out, reprNS_protocol_id, reprNConn_sequence,
      reprNConn_send_key, reprNConn_addr]
    refine (enc_out_as a hl .disconnect .Disconnect rfl out hout s.protocolId c.sequence c.sendKey).elim (fun bytes buf' hm hg htake hblen => ?_)
      (fun e st hm hg hst => ?_) (fun mm msg hm hg => ?_)
    · rw [hm, hg]
      simp only [Exec.attempt, Exec.bind_val', slice_of_take buf' bytes htake]
      exact Exists.intro buf' ⟨hblen, rfl⟩
    · rw [hm, hg]
      exact Exists.intro st ⟨hst, rfl⟩
    · rw [hm, hg]
      exact Exists.intro msg rfl

/-! ### the generated definitions on concrete values (toy AEAD: the tag is 16 zero bytes) -/

/-- client 4 in slot 1 of 3, sequence 6, time-out 5 s, last heard of and last written to at t = 0 -/
def exNcConn : SConnection :=
  ⟨true, 4, .Connected, List.replicate 32 1, List.replicate 32 2, [3], .v4 [10, 0, 0, 1] 7, 0, 0, 5, 6, 0, ⟨0, []⟩⟩
/-- the server at t = 4 s with a scratch buffer `out` -/
def exNcSrv (out : List Nat) : SNetcodeServer :=
  ⟨[none, some exNcConn, none], [], [], 9, [], 3, 0, [], [], 4000000000, 0, false, out⟩

example : (find_client_mut_by_id (exNcSrv []).clients 4 : Res Empty _) = .ok (some 1) := by decide +kernel
/-- t = 4 s: no time-out yet (0 + 5 s is not `< 4 s`), keep-alive due: `KeepAlive { 1, 3 }` with sequence 6 -/
example : @NetcodeServer.update_client (aeadOf AEAD.toy) Empty (exNcSrv (List.replicate 40 7)) 4 =
    .ok ({ exNcSrv ([20, 6, 1, 0, 0, 0, 3, 0, 0, 0] ++ List.replicate 16 0 ++ List.replicate 14 7) with
            clients := [none, some { exNcConn with sequence := 7, last_packet_send_time := 4000000000 }, none] },
         .PacketToSend (.v4 [10, 0, 0, 1] 7) ([20, 6, 1, 0, 0, 0, 3, 0, 0, 0] ++ List.replicate 16 0)) := by decide +kernel
/-- the same with a scratch buffer that is too small: the encode error is swallowed, nothing changes -/
example : @NetcodeServer.update_client (aeadOf AEAD.toy) Empty (exNcSrv []) 4 = .ok (exNcSrv [], .None) := by decide +kernel
/-- t = 6 s: timed out — the slot is emptied, a `Disconnect` packet goes out -/
example : @NetcodeServer.update_client (aeadOf AEAD.toy) Empty { exNcSrv (List.replicate 40 7) with current_time := 6000000000 } 4 =
    .ok ({ exNcSrv ([22, 6] ++ List.replicate 16 0 ++ List.replicate 22 7) with
            clients := [none, none, none], current_time := 6000000000 },
         .ClientDisconnected 4 (.v4 [10, 0, 0, 1] 7) (some ([22, 6] ++ List.replicate 16 0))) := by decide +kernel
example : @Src.renetcode.server.NetcodeServer.disconnect (aeadOf AEAD.toy) Empty (exNcSrv (List.replicate 40 7)) 4 =
    .ok ({ exNcSrv ([22, 6] ++ List.replicate 16 0 ++ List.replicate 22 7) with clients := [none, none, none] },
         .ClientDisconnected 4 (.v4 [10, 0, 0, 1] 7) (some ([22, 6] ++ List.replicate 16 0))) := by decide +kernel
example : @Src.renetcode.server.NetcodeServer.disconnect (aeadOf AEAD.toy) Empty (exNcSrv []) 4 =
    .ok ({ exNcSrv [] with clients := [none, none, none] }, .ClientDisconnected 4 (.v4 [10, 0, 0, 1] 7) none) := by
  decide +kernel
example : @NetcodeServer.generate_payload_packet (aeadOf AEAD.toy) (exNcSrv (List.replicate 40 7)) 4 [9, 8, 7] =
    .ok ({ exNcSrv ([21, 6, 9, 8, 7] ++ List.replicate 16 0 ++ List.replicate 19 7) with
            clients := [none, some { exNcConn with sequence := 7, last_packet_send_time := 4000000000 }, none] },
         (.v4 [10, 0, 0, 1] 7, [21, 6, 9, 8, 7] ++ List.replicate 16 0)) := by decide +kernel
example : @NetcodeServer.generate_payload_packet (aeadOf AEAD.toy) (exNcSrv [7]) 5 [9, 8, 7] =
    .err (.ClientNotFound, exNcSrv [7]) := by decide +kernel
example : @NetcodeServer.generate_payload_packet (aeadOf AEAD.toy) (exNcSrv [7]) 4 (List.replicate 1301 0) =
    .err (.PayloadAboveLimit, exNcSrv [7]) := by decide +kernel

end RenetVerif.SrcTie
