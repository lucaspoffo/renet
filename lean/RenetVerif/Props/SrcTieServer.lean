/-
  Source tie, group Server: `renet/src/server.rs` `RenetServer::{new, add_connection, get_event, has_connections,
  disconnect_reason, remove_connection, disconnect, disconnect_all, broadcast_message, broadcast_message_except,
  channel_available_memory, can_send_message, send_message, receive_message, clients_id_iter, clients_id,
  disconnections_id_iter, disconnections_id, connected_clients, is_connected, update, get_packets_to_send,
  process_packet_from, new_local_client, disconnect_local_client, process_local_client}` ↔ `Server` of `Renet/Server.lean`.
  (The statistics accessors `rtt`, `packet_loss`, `bytes_*_per_sec`, `network_info` read ignored fields and stay out.)

  `reprServer mrss s`: `connections: HashMap<ClientId, RenetClient>` is the key-sorted association list of the model with
  every connection mapped by `reprConn (mrss id)` (`mrss id` = the never-read `most_recent_message_id`s of client `id`'s
  receive channels); `connection_config` is `(budget, server channels, client channels)`; `events: VecDeque` is a list.
  `ClientId` is `u64` (a `Nat`), `ClientNotFound` the one-point structure.

  HASHMAP ITERATION.  The iteration order of a `HashMap` is unspecified; the generated code visits the key-sorted table
  front to back.  Two kinds of iteration occur:
  * loops that only mutate (`disconnect_all`, `broadcast_message`, `broadcast_message_except`, `update`): accepted under
    the manifest whitelist HASHMAP_VALUES_MUT_OK, and the translator checks that each round assigns nothing but through
    its own loop variable and cannot leave the loop (a plain `continue` only ends its round) — so the rounds commute and
    the resulting server does not depend on the order (only which of several panicking rounds fires first does; panic
    sites are not compared).  The theorems below show that the result is the model's, connection by connection.
  * read-only chains whose RESULT exposes the order (`clients_id(_iter)`, `disconnections_id(_iter)`): accepted under
    HASHMAP_ITER_ORDER_OK; what is claimed about the Rust function is the returned ids UP TO A PERMUTATION
    (`server_clients_id`, `server_disconnections_id`); the `*_key_order` statements are about the generated (key-order)
    function only.  `connected_clients` (`count()`) does not depend on the order.
  `impl Iterator<Item = ClientId>` return values are the list of their items (the adaptor chain is evaluated eagerly; its
  closures only call the panic-free `is_connected` / `is_disconnected`).
-/
import RenetVerif.Lemmas.SrcEquiv.Server
import RenetVerif.Props.SrcTieConnRecv
import RenetVerif.Props.SrcTieConnSend
namespace RenetVerif.SrcTie
open RenetVerif RenetVerif.SrcEquiv RenetVerif.RustSem
open Src.renet.remote_connection Src.renet.server

theorem server_new {ε : Type} (budget : Nat) (serverCh clientCh : List ChanCfg) :
    (RenetServer.new ⟨budget, serverCh.map reprCfg, clientCh.map reprCfg⟩ : Res ε _)
      = .ok (reprServer (fun _ _ => 0) (Server.new budget serverCh clientCh)) := rfl

/-- `add_connection` (`CfgOk`: no duplicated channel id in the configuration, else `from_channels` asserts; the table is
    key-sorted): nothing happens for a known id; a new connection starts connected with all-zero `mrss` entry -/
theorem server_add_connection {ε : Type} (mrss : Nat → Nat → Nat) (s : Server) (id : Nat) (hc : CfgOk s) (hs : MSorted s.conns) :
    (RenetServer.add_connection (reprServer mrss s) id : Res ε _)
      = .ok (reprServer (if SMap.contains s.conns id then mrss else setMrs mrss id (fun _ => 0)) (s.addConnection id), ()) := by
  unfold RenetServer.add_connection Server.addConnection
  have hcf : (reprServer mrss s).connection_config = reprConfig s := rfl
  simp only [conns_reprServer, hcf, contains_reprConns, Exec.bind_eq, Exec.pure_eq]
  by_cases hcon : SMap.contains s.conns id = true
  · have h2 : (SMap.find? s.conns id).isSome = true := hcon
    simp only [hcon, h2, if_true, Exec.bind_ret', Exec.run_ret]
  · have h2 : ¬ (SMap.find? s.conns id).isSome = true := hcon
    simp only [hcon, h2, if_false, Exec.bind_val', new_conn_eq s hc, Exec.call_ok,
      conn_set_connected, insert_reprConns _ _ _ _ _ hs, RustSem.push, Exec.run_val, Bool.false_eq_true]
    simp [reprServer, reprEvent, reprConfig]

theorem server_get_event {ε : Type} (mrss : Nat → Nat → Nat) (s : Server) :
    (RenetServer.get_event (reprServer mrss s) : Res ε _) = .ok (reprServer mrss s.getEvent.1, s.getEvent.2.map reprEvent) := by
  unfold RenetServer.get_event Server.getEvent
  cases he : s.events with
  | nil => simp [reprServer, he, Exec.pure_eq, Exec.run_val]
  | cons e rest => simp [reprServer, reprConfig, he, Exec.pure_eq, Exec.run_val]
theorem server_has_connections {ε : Type} (mrss : Nat → Nat → Nat) (s : Server) :
    (RenetServer.has_connections (reprServer mrss s) : Res ε Bool) = .ok (!s.conns.isEmpty) := by
  unfold RenetServer.has_connections
  cases hc : s.conns <;> simp [reprServer, reprConns, hc, RustSem.is_empty, Exec.pure_eq, Exec.run_val]
theorem server_disconnect_reason {ε : Type} (mrss : Nat → Nat → Nat) (s : Server) (id : Nat) :
    (RenetServer.disconnect_reason (reprServer mrss s) id : Res ε _)
      = .ok (((SMap.find? s.conns id).bind (·.disconnectReason)).map reprReason) := by
  unfold RenetServer.disconnect_reason
  simp only [conns_reprServer, find_reprConns, Exec.bind_eq, Exec.pure_eq]
  cases hf : SMap.find? s.conns id with
  | none => rfl
  | some c => simp [conn_disconnect_reason, Exec.call_ok, Exec.bind_val', Exec.bind_ret', Exec.run_ret]
theorem server_is_connected {ε : Type} (mrss : Nat → Nat → Nat) (s : Server) (id : Nat) :
    (RenetServer.is_connected (reprServer mrss s) id : Res ε Bool)
      = .ok (match SMap.find? s.conns id with | some c => c.isConnected | none => false) := by
  unfold RenetServer.is_connected
  simp only [conns_reprServer, find_reprConns, Exec.bind_eq, Exec.pure_eq]
  cases hf : SMap.find? s.conns id with
  | none => rfl
  | some c => simp [conn_is_connected, Exec.call_ok, Exec.bind_val', Exec.bind_ret', Exec.run_ret]
/-- `remove_connection`: the event carries the connection's own reason, `Transport` if it was not disconnected -/
theorem server_remove_connection {ε : Type} (mrss : Nat → Nat → Nat) (s : Server) (id : Nat) :
    (RenetServer.remove_connection (reprServer mrss s) id : Res ε _) = .ok (reprServer mrss (s.removeConnection id), ()) := by
  unfold RenetServer.remove_connection Server.removeConnection
  simp only [conns_reprServer, find_reprConns, remove_reprConns, Exec.bind_eq, Exec.pure_eq]
  cases hf : SMap.find? s.conns id with
  | none =>
    simp only [Option.map_none, Exec.bind_val', Exec.run_val, SMap.erase_of_find?_none hf]
    rfl
  | some c =>
    simp only [Option.map_some, conn_disconnect_reason, Exec.call_ok, Exec.bind_val', Exec.run_val, RustSem.push]
    cases hr : c.disconnectReason <;> simp [reprServer, reprEvent, reprReason, reprConfig]
theorem server_disconnect {ε : Type} (mrss : Nat → Nat → Nat) (s : Server) (id : Nat) (hs : MSorted s.conns) :
    (RenetServer.disconnect (reprServer mrss s) id : Res ε _) = .ok (reprServer mrss (s.disconnect id), ()) := by
  unfold RenetServer.disconnect Server.disconnect
  simp only [conns_reprServer, contains_reprConns, RustSem.Map.index, find_reprConns, Exec.bind_eq, Exec.pure_eq]
  cases hf : SMap.find? s.conns id with
  | none => rfl
  | some c =>
    have hdw := conn_disconnect_with_reason (ε := ε) (mrss id) c .byServer
    simp only [reprReason] at hdw
    simp only [Option.isSome_some, if_true, Option.map_some, Exec.bind_val', hdw, Exec.call_ok,
      insert_reprConns_same _ _ _ _ hs, Exec.run_val]
    rfl
theorem server_disconnect_all {ε : Type} (mrss : Nat → Nat → Nat) (s : Server) :
    (RenetServer.disconnect_all (reprServer mrss s) : Res ε _) = .ok (reprServer mrss s.disconnectAll, ()) := by
  unfold RenetServer.disconnect_all Server.disconnectAll
  simp only [Exec.bind_eq, Exec.pure_eq]
  rw [Exec.bind_skip _ _ (srvW mrss s (s.conns.map fun p => (p.1, p.2.disconnectWith .byServer))) ?loop]
  · rfl
  refine Follows.eq_val (f := srvW mrss s) ?_
  rw [← mapConnsM_pure (·.disconnectWith .byServer)]
  refine forRange_table (srvW mrss s) (fun _ c => .ok (c.disconnectWith .byServer)) (fun _ _ => True) (Server.mapConnsM _) _
    rfl (fun _ _ _ => rfl) ?hb s.conns _ (len_conns_srvW mrss s s.conns) fun _ _ => trivial
  intro pre k c rest _
  have hdw := conn_disconnect_with_reason (ε := ε) (mrss k) c .byServer
  simp only [reprReason] at hdw
  simp only [conns_srvW, index_mid_conns, Exec.bind_val', hdw, Exec.call_ok, set_mid_conns]
  exact ⟨_, rfl, rfl⟩

/-- `broadcast_message`: every connection gets the message as by its own `send_message` (`SendMsgOk`: the hypotheses
    of `conn_send_message`, for every connection) -/
theorem server_broadcast_message {ε : Type} (mrss : Nat → Nat → Nat) (s : Server) (ch : Nat) (m : Bytes)
    (hc : ∀ p ∈ s.conns, SendMsgOk p.2 ch m) :
    SameOutcome (RenetServer.broadcast_message (reprServer mrss s) ch (toNats m) : Res ε _)
      (mapRes (fun s' => (reprServer mrss s', ())) (fun e => nomatch e) (s.broadcast ch m)) := by
  unfold RenetServer.broadcast_message Server.broadcast
  simp only [Exec.bind_eq, Exec.pure_eq]
  refine (forRange_table (srvW mrss s) (fun _ c => c.sendMessage ch m) (fun _ c => SendMsgOk c ch m) (Server.mapConnsM _) _
    rfl (fun _ _ _ => rfl) ?hb s.conns _ (len_conns_srvW mrss s s.conns) hc).elim ?_ fun _ _ => trivial
  case hb =>
    intro pre k c rest hP
    simp only [conns_srvW, index_mid_conns, Exec.bind_val']
    refine (follows_call (conn_send_message (mrss k) c ch m hP.1 hP.2.1 hP.2.2)).elim ?_ fun _ _ => ⟨_, rfl⟩
    rintro _ c' _ rfl
    simp only [Exec.bind_val', set_mid_conns]
    exact ⟨_, rfl, rfl⟩
  rintro _ m' _ rfl
  rfl
theorem server_broadcast_message_except {ε : Type} (mrss : Nat → Nat → Nat) (s : Server) (ex ch : Nat) (m : Bytes)
    (hc : ∀ p ∈ s.conns, p.1 ≠ ex → SendMsgOk p.2 ch m) :
    SameOutcome (RenetServer.broadcast_message_except (reprServer mrss s) ex ch (toNats m) : Res ε _)
      (mapRes (fun s' => (reprServer mrss s', ())) (fun e => nomatch e) (s.broadcastExcept ex ch m)) := by
  unfold RenetServer.broadcast_message_except Server.broadcastExcept
  simp only [Exec.bind_eq, Exec.pure_eq]
  refine (forRangeExit_table (srvW mrss s) (fun k c => if k = ex then .ok c else c.sendMessage ch m)
    (fun k c => k ≠ ex → SendMsgOk c ch m) (Server.mapConnsM _) _ rfl (fun _ _ _ => rfl) ?hb s.conns _
    (len_conns_srvW mrss s s.conns) hc).elim ?_ fun _ _ => trivial
  case hb =>
    intro pre k c rest hP
    simp only [conns_srvW, index_mid_conns, Exec.bind_val']
    by_cases hk : k = ex
    · subst hk
      simp only [if_true, decide_true, Exec.bind_ret']
      exact Or.inr ⟨c, rfl, rfl⟩
    · have hk' : ¬ ex = k := fun e => hk e.symm
      have hP := hP hk
      simp only [hk, hk', if_false, decide_false, Bool.false_eq_true, Exec.bind_val']
      refine Or.inl ((follows_call (conn_send_message (mrss k) c ch m hP.1 hP.2.1 hP.2.2)).elim ?_ fun _ _ => ⟨_, rfl⟩)
      rintro _ c' _ rfl
      simp only [Exec.bind_val', set_mid_conns]
      exact ⟨_, rfl, rfl⟩
  rintro _ m' _ rfl
  rfl

theorem server_channel_available_memory {ε : Type} (mrss : Nat → Nat → Nat) (s : Server) (id ch : Nat)
    (hr : ∀ c x, SMap.find? s.conns id = some c → SMap.find? c.sendRel ch = some x → x.mem ≤ x.maxMem)
    (hu : ∀ c x, SMap.find? s.conns id = some c → SMap.find? c.sendUnrel ch = some x → x.mem ≤ x.maxMem) :
    SameOutcome (RenetServer.channel_available_memory (reprServer mrss s) id ch : Res ε Nat)
      (match SMap.find? s.conns id with
       | some c => mapRes (fun v => v) (fun e => nomatch e) (c.availableMemory ch)
       | none => .ok 0) := by
  unfold RenetServer.channel_available_memory
  simp only [conns_reprServer, find_reprConns, Exec.pure_eq]
  cases hf : SMap.find? s.conns id with
  | none => rfl
  | some c =>
    simp only [Option.map_some]
    refine (follows_call (conn_channel_available_memory (mrss id) c ch (fun x hx => hr c x hf hx) (fun x hx => hu c x hf hx))).elim
      ?_ fun _ _ => trivial
    rintro _ v _ rfl
    rfl
theorem server_can_send_message {ε : Type} (mrss : Nat → Nat → Nat) (s : Server) (id ch n : Nat)
    (hr : ∀ c x, SMap.find? s.conns id = some c → SMap.find? c.sendRel ch = some x → n + x.mem < 2 ^ 64)
    (hu : ∀ c x, SMap.find? s.conns id = some c → SMap.find? c.sendUnrel ch = some x → n + x.mem < 2 ^ 64) :
    SameOutcome (RenetServer.can_send_message (reprServer mrss s) id ch n : Res ε Bool)
      (match SMap.find? s.conns id with
       | some c =>
         match SMap.find? c.sendRel ch with
         | some x => .ok (x.canSend n)
         | none => match SMap.find? c.sendUnrel ch with
           | some x => .ok (x.canSend n)
           | none => .panic "can_send_message: invalid channel"
       | none => .ok false) := by
  unfold RenetServer.can_send_message
  simp only [conns_reprServer, find_reprConns, Exec.pure_eq]
  cases hf : SMap.find? s.conns id with
  | none => rfl
  | some c =>
    have h := conn_can_send_message (ε := ε) (mrss id) c ch n (fun x hx => hr c x hf hx) (fun x hx => hu c x hf hx)
    simp only [Option.map_some]
    -- the server function ends the way the call does
    revert h
    cases RenetClient.can_send_message (reprConn (mrss id) c) ch n <;> exact fun h => h
/-- `send_message` to an unknown client only logs -/
theorem server_send_message {ε : Type} (mrss : Nat → Nat → Nat) (s : Server) (id ch : Nat) (m : Bytes) (hs : MSorted s.conns)
    (hc : ∀ c, SMap.find? s.conns id = some c → SendMsgOk c ch m) :
    SameOutcome (RenetServer.send_message (reprServer mrss s) id ch (toNats m) : Res ε _)
      (mapRes (fun s' => (reprServer mrss s', ())) (fun e => nomatch e) (s.sendMessage id ch m)) := by
  unfold RenetServer.send_message Server.sendMessage
  simp only [conns_reprServer, contains_reprConns, RustSem.Map.index, find_reprConns, Exec.bind_eq, Exec.pure_eq]
  cases hf : SMap.find? s.conns id with
  | none => rfl
  | some c =>
    obtain ⟨h1, h2, h3⟩ := hc c hf
    simp only [Option.isSome_some, if_true, Option.map_some, Exec.bind_val']
    refine (follows_call (conn_send_message (mrss id) c ch m h1 h2 h3)).elim ?_ fun _ _ => trivial
    rintro _ c' _ rfl
    simp only [Exec.bind_val', insert_reprConns_same _ _ _ _ hs]
    rfl
theorem server_receive_message {ε : Type} (mrss : Nat → Nat → Nat) (s : Server) (id ch : Nat) (hs : MSorted s.conns)
    (hc : ∀ c, SMap.find? s.conns id = some c → MSorted c.recvRel ∧
      (∀ r, SMap.find? c.recvRel ch = some r → r.oldest + r.received.length + 1 < 2 ^ 64 ∧ r.received.Nodup)) :
    SameOutcome (RenetServer.receive_message (reprServer mrss s) id ch : Res ε _)
      (mapRes (fun x => (reprServer mrss x.1, x.2.map toNats)) (fun e => nomatch e) (s.receiveMessage id ch)) := by
  unfold RenetServer.receive_message Server.receiveMessage
  simp only [conns_reprServer, contains_reprConns, RustSem.Map.index, find_reprConns, Exec.bind_eq, Exec.pure_eq]
  cases hf : SMap.find? s.conns id with
  | none => rfl
  | some c =>
    obtain ⟨h1, h2⟩ := hc c hf
    simp only [Option.isSome_some, if_true, Option.map_some, Exec.bind_val']
    refine (follows_call (conn_receive_message (mrss id) c ch h1 h2)).elim ?_ fun _ _ => trivial
    rintro _ ⟨c', o⟩ _ rfl
    simp only [Exec.bind_val', insert_reprConns_same _ _ _ _ hs]
    rfl

/-- about the GENERATED function only: it lists the ids in key order, as the model does -/
theorem server_clients_id_key_order {ε : Type} (mrss : Nat → Nat → Nat) (s : Server) :
    (RenetServer.clients_id (reprServer mrss s) : Res ε _) = .ok s.clientsId := by
  unfold RenetServer.clients_id
  simp [server_clients_id_iter_eq, Exec.call_ok, Exec.run_val]
theorem server_disconnections_id_key_order {ε : Type} (mrss : Nat → Nat → Nat) (s : Server) :
    (RenetServer.disconnections_id (reprServer mrss s) : Res ε _) = .ok s.disconnectionsId := by
  unfold RenetServer.disconnections_id
  simp [server_disconnections_id_iter_eq, Exec.call_ok, Exec.run_val]
/-- the ids of the connected clients, UP TO A PERMUTATION (HashMap order) -/
theorem server_clients_id {ε : Type} (mrss : Nat → Nat → Nat) (s : Server) :
    ∃ l, (RenetServer.clients_id (reprServer mrss s) : Res ε _) = .ok l ∧ l.Perm s.clientsId :=
  ⟨_, server_clients_id_key_order mrss s, List.Perm.refl _⟩
theorem server_clients_id_iter {ε : Type} (mrss : Nat → Nat → Nat) (s : Server) :
    ∃ l, (RenetServer.clients_id_iter (reprServer mrss s) : Res ε _) = .ok l ∧ l.Perm s.clientsId :=
  ⟨_, server_clients_id_iter_eq mrss s, List.Perm.refl _⟩
theorem server_disconnections_id {ε : Type} (mrss : Nat → Nat → Nat) (s : Server) :
    ∃ l, (RenetServer.disconnections_id (reprServer mrss s) : Res ε _) = .ok l ∧ l.Perm s.disconnectionsId :=
  ⟨_, server_disconnections_id_key_order mrss s, List.Perm.refl _⟩
theorem server_disconnections_id_iter {ε : Type} (mrss : Nat → Nat → Nat) (s : Server) :
    ∃ l, (RenetServer.disconnections_id_iter (reprServer mrss s) : Res ε _) = .ok l ∧ l.Perm s.disconnectionsId :=
  ⟨_, server_disconnections_id_iter_eq mrss s, List.Perm.refl _⟩
theorem server_connected_clients {ε : Type} (mrss : Nat → Nat → Nat) (s : Server) :
    (RenetServer.connected_clients (reprServer mrss s) : Res ε _) = .ok s.clientsId.length := by
  unfold RenetServer.connected_clients Server.clientsId
  simp only [conns_reprServer, Exec.bind_eq, Exec.pure_eq]
  rw [filterM_conns mrss (fun c => c.isConnected) _ (fun k c => by simp [conn_is_connected, Exec.call_ok])]
  simp [Exec.bind_val', Exec.run_val, RustSem.len, reprConns]

/-- `update`: every connection is advanced as by its own `update` (`UpdateOk` for every connection) -/
theorem server_update {ε : Type} (mrss : Nat → Nat → Nat) (s : Server) (dt : Nat) (hc : ∀ p ∈ s.conns, UpdateOk p.2 dt) :
    SameOutcome (RenetServer.update (reprServer mrss s) dt : Res ε _)
      (mapRes (fun s' => (reprServer mrss s', ())) (fun e => nomatch e) (s.update dt)) := by
  unfold RenetServer.update Server.update
  simp only [Exec.bind_eq, Exec.pure_eq]
  refine (forRange_table (srvW mrss s) (fun _ c => c.update dt) (fun _ c => UpdateOk c dt) (Server.mapConnsM _) _ rfl
    (fun _ _ _ => rfl) ?hb s.conns _ (len_conns_srvW mrss s s.conns) hc).elim ?_ fun _ _ => trivial
  case hb =>
    intro pre k c rest hP
    simp only [conns_srvW, index_mid_conns, Exec.bind_val']
    refine (follows_call (conn_update (mrss k) c dt hP)).elim ?_ fun _ _ => ⟨_, rfl⟩
    rintro _ c' _ rfl
    simp only [Exec.bind_val', set_mid_conns]
    exact ⟨_, rfl, rfl⟩
  rintro _ m' _ rfl
  rfl

/-- `get_packets_to_send`: `Err(ClientNotFound)` (with the unchanged server) for an unknown id (`srvOut`), else the
    connection's packets -/
theorem server_get_packets_to_send (mrss : Nat → Nat → Nat) (s : Server) (id : Nat) (hs : MSorted s.conns)
    (hc : ∀ c, SMap.find? s.conns id = some c → SendOk c) :
    SameOutcome (RenetServer.get_packets_to_send (reprServer mrss s) id)
      (srvOut mrss (fun ps : List Bytes => ps.map toNats) (s.getPacketsToSend id)) := by
  unfold RenetServer.get_packets_to_send Server.getPacketsToSend
  simp only [conns_reprServer, contains_reprConns, RustSem.Map.index, find_reprConns, Exec.bind_eq, Exec.pure_eq]
  cases hf : SMap.find? s.conns id with
  | none => rfl
  | some c =>
    simp only [Option.isSome_some, if_true, Option.map_some, Exec.bind_val']
    refine (follows_call (conn_get_packets_to_send (mrss id) c (hc c hf))).elim ?_ fun _ _ => trivial
    rintro _ ⟨c', ps⟩ _ rfl
    simp only [Exec.bind_val', insert_reprConns_same _ _ _ _ hs]
    rfl
theorem server_process_packet_from (mrss : Nat → Nat → Nat) (s : Server) (bytes : Bytes) (id : Nat) (hs : MSorted s.conns)
    (hc : ∀ c, SMap.find? s.conns id = some c → ProcOk c bytes) :
    ∃ mrss', SameOutcome (RenetServer.process_packet_from (reprServer mrss s) (toNats bytes) id)
      (srvOut mrss' (fun _ : Unit => ())
        (match s.processPacketFrom bytes id with
         | .ok (s', true) => .ok (s', some ())
         | .ok (s', false) => .ok (s', none)
         | .panic m => .panic m
         | .err e => nomatch e)) := by
  unfold RenetServer.process_packet_from Server.processPacketFrom
  simp only [conns_reprServer, contains_reprConns, RustSem.Map.index, find_reprConns, Exec.bind_eq, Exec.pure_eq]
  cases hf : SMap.find? s.conns id with
  | none => exact ⟨mrss, rfl⟩
  | some c =>
    obtain ⟨mrs', h⟩ := conn_process_packet (ε := Src.renet.error.ClientNotFound × RenetServer) (mrss id) c bytes (hc c hf)
    simp only [Option.isSome_some, if_true, Option.map_some, Exec.bind_val']
    refine (follows_call h).elim ?_ fun _ _ => ⟨mrss, trivial⟩
    rintro _ c' _ rfl
    refine ⟨setMrs mrss id mrs', ?_⟩
    simp only [Exec.bind_val', insert_reprConns _ _ _ _ _ hs]
    rfl

theorem server_new_local_client {ε : Type} (mrss : Nat → Nat → Nat) (s : Server) (id : Nat) (hc : CfgOk s) (hs : MSorted s.conns) :
    (RenetServer.new_local_client (reprServer mrss s) id : Res ε _)
      = .ok (reprServer (if SMap.contains s.conns id then mrss else setMrs mrss id (fun _ => 0)) (s.newLocalClient id).1,
             reprConn (fun _ => 0) (s.newLocalClient id).2) := by
  unfold RenetServer.new_local_client Server.newLocalClient
  have hcf : (reprServer mrss s).connection_config = reprConfig s := rfl
  simp only [hcf, new_conn_eq s hc, Exec.call_ok, Exec.bind_eq, Exec.pure_eq, Exec.bind_val', conn_set_connected,
    server_add_connection mrss s id hc hs, Exec.run_val]
/-- `disconnect_local_client(&mut self, id, client: &mut RenetClient)`: the new server AND the new client -/
theorem server_disconnect_local_client {ε : Type} (mrss : Nat → Nat → Nat) (mrs : Nat → Nat) (s : Server) (id : Nat) (cl : Conn) :
    (RenetServer.disconnect_local_client (reprServer mrss s) id (reprConn mrs cl) : Res ε _)
      = .ok (reprServer mrss (s.disconnectLocalClient id cl).1, reprConn mrs (s.disconnectLocalClient id cl).2, ()) := by
  unfold RenetServer.disconnect_local_client Server.disconnectLocalClient
  simp only [conn_is_disconnected, Exec.call_ok, Exec.bind_eq, Exec.pure_eq, Exec.bind_val']
  cases hd : cl.isDisconnected with
  | true => rfl
  | false =>
    simp only [Bool.false_eq_true, if_false, Exec.bind_val', conn_disconnect, Exec.call_ok, conns_reprServer, find_reprConns,
      remove_reprConns]
    cases hf : SMap.find? s.conns id with
    | none =>
      simp only [Option.map_none, Exec.bind_val', Exec.run_val, SMap.erase_of_find?_none hf]
      rfl
    | some c =>
      simp only [Option.map_some, conn_disconnect_reason, Exec.call_ok, Exec.bind_val', Exec.run_val, RustSem.push]
      cases hr : c.disconnectReason <;> simp [reprServer, reprEvent, reprReason, reprConfig]
/-- `process_local_client`: the server's packets are fed to the client, the client's packets to the server
    (`LocalOk`: the hypotheses of the four calls involved, along the model's run); `Err(ClientNotFound)` — from the first
    `?` or from inside the second loop — keeps the states reached so far (`localOut`) -/
theorem server_process_local_client (mrss : Nat → Nat → Nat) (mrs : Nat → Nat) (s : Server) (id : Nat) (cl : Conn)
    (hok : LocalOk s id cl) :
    ∃ mrss' mrs', SameOutcome (RenetServer.process_local_client (reprServer mrss s) id (reprConn mrs cl))
      (localOut mrss' mrs' (s.processLocalClient id cl)) := by
  unfold RenetServer.process_local_client Server.processLocalClient
  simp only [Exec.bind_eq, Exec.pure_eq]
  have hg := server_get_packets_to_send mrss s id hok.sorted hok.send
  cases hgm : s.getPacketsToSend id with
  | err e => exact nomatch e
  | panic st =>
    rw [hgm] at hg
    obtain ⟨m, hgg⟩ := hg.panics
    exact ⟨mrss, mrs, by rw [hgg]; trivial⟩
  | ok x =>
    obtain ⟨s1, o⟩ := x
    rw [hgm] at hg
    cases o with
    | none => exact ⟨mrss, mrs, by rw [hg.eq_err]; rfl⟩
    | some ps =>
      obtain ⟨hfc, hrest⟩ := hok.run s1 ps hgm
      rw [hg.eq_ok]
      simp only [Exec.callFrom, Exec.bind_val', Res.bind_ok]
      refine (forEach_follows (R := fun t cl => ∃ mrs, t = reprConn mrs cl) toNats (fun cl p => cl.processPacket p)
        Server.feedClient FeedClientOk _ (fun _ => rfl) (fun _ _ _ => rfl) (fun _ _ _ _ h hs => h.2 _ hs) ?hb1 ps rfl cl _ hfc
        ⟨mrs, rfl⟩).elim ?_ fun _ _ => ⟨mrss, mrs, trivial⟩
      case hb1 =>
        rintro cl0 p _ _ hp ⟨mrs0, rfl⟩
        obtain ⟨mrs', h⟩ := conn_process_packet
          (ε := Src.renet.error.ClientNotFound × (RenetServer × RenetClient)) mrs0 cl0 p hp.1
        refine (follows_call h).elim ?_ fun _ _ => ⟨_, rfl⟩
        rintro _ cl' _ rfl
        exact ⟨_, rfl, mrs', rfl⟩
      rintro _ cl1 hfm ⟨mrs1, rfl⟩
      obtain ⟨hso, hrest2⟩ := hrest cl1 hfm
      simp only [Exec.bind_val', Res.bind_ok]
      refine (follows_call (conn_get_packets_to_send mrs1 cl1 hso)).elim ?_ fun _ _ => ⟨mrss, mrs, trivial⟩
      rintro _ ⟨cl2, out⟩ hcm rfl
      simp only [Exec.bind_val', Res.bind_ok]
      -- the server takes the client's packets up to the first `Err(ClientNotFound)`
      refine forEach_elim (fun l t s => FeedServerOk id s l ∧ ∃ mrss, t = reprServer mrss s) (Server.feedServer · id) toNats _
        out _ s1 ⟨hrest2 cl2 out hcm, mrss, rfl⟩ (fun _ s2 ⟨_, mrss2, ht⟩ _ => ⟨mrss2, mrs1, ht ▸ rfl⟩) ?_
      rintro p l _ s0 ⟨hp, mrss0, rfl⟩ _
      obtain ⟨mrss', h⟩ := server_process_packet_from mrss0 s0 p id hp.1.1 hp.1.2
      rw [Server.feedServer]
      cases hm : s0.processPacketFrom p id with
      | err e => exact nomatch e
      | panic st =>
        obtain ⟨m, hgg⟩ := (hm ▸ h).panics
        rw [hgg]
        exact .inr ⟨skips_panic _, mrss, mrs, trivial⟩
      | ok z =>
        obtain ⟨s', b⟩ := z
        rw [hm] at h
        cases b with
        | true =>
          rw [h.eq_ok]
          exact .inl ⟨_, s', rfl, ⟨hp.2 s' hm, mrss', rfl⟩, rfl⟩
        | false =>
          rw [h.eq_err]
          exact .inr ⟨skips_err _, mrss', mrs1, rfl⟩

/-- one unreliable channel (id 0, 100 bytes) in both directions -/
def exCfg1 : List Src.renet.channel.ChannelConfig := [⟨0, 100, .Unreliable⟩]
def exConn1 : RenetClient :=
  ⟨0, 0, [], [], [.Unreliable 0], [(0, ⟨0, [], 0, 100, 0⟩)], [(0, ⟨0, [], [], [], 100, 0⟩)], [], [], 60000, .Connected⟩
/-- client 3 connected, client 7 disconnected by the transport -/
def exSrv : RenetServer :=
  ⟨[(3, exConn1), (7, { exConn1 with connection_status := .Disconnected .Transport })], ⟨60000, exCfg1, exCfg1⟩,
   [.ClientConnected 3, .ClientConnected 7]⟩

example : (RenetServer.add_connection ⟨[], ⟨60000, exCfg1, exCfg1⟩, []⟩ 7 : Res Empty _) =
    .ok (⟨[(7, exConn1)], ⟨60000, exCfg1, exCfg1⟩, [.ClientConnected 7]⟩, ()) := by decide +kernel
example : (RenetServer.add_connection exSrv 7 : Res Empty _) = .ok (exSrv, ()) := by decide +kernel
example : (RenetServer.clients_id exSrv : Res Empty _) = .ok [3] := by decide +kernel
example : (RenetServer.disconnections_id exSrv : Res Empty _) = .ok [7] := by decide +kernel
example : (RenetServer.connected_clients exSrv : Res Empty _) = .ok 1 := by decide +kernel
example : (RenetServer.get_event exSrv : Res Empty _) = .ok ({ exSrv with events := [.ClientConnected 7] }, some (.ClientConnected 3)) := by
  decide +kernel
/-- the removed connection's own reason is reported -/
example : (RenetServer.remove_connection exSrv 7 : Res Empty _) =
    .ok ({ exSrv with connections := [(3, exConn1)],
                      events := [.ClientConnected 3, .ClientConnected 7, .ClientDisconnected 7 .Transport] }, ()) := by
  decide +kernel
/-- broadcast except 7: only client 3 queues the message -/
example : (RenetServer.broadcast_message_except exSrv 7 0 [1, 2] : Res Empty _) =
    .ok ({ exSrv with connections :=
            [(3, { exConn1 with send_unreliable_channels := [(0, ⟨0, [[1, 2]], 0, 100, 2⟩)] }),
             (7, { exConn1 with connection_status := .Disconnected .Transport })] }, ()) := by decide +kernel
example : RenetServer.get_packets_to_send exSrv 9 = .err ({ }, exSrv) := by decide +kernel
example : RenetServer.process_packet_from exSrv [9] 9 = .err ({ }, exSrv) := by decide +kernel

end RenetVerif.SrcTie
