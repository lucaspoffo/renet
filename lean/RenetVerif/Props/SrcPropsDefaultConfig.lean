/-
  The library's DEFAULT configuration (`ConnectionConfig::default()`, built from `DefaultChannel::config()`), ABOUT THE
  GENERATED CODE (group `Config`, `Generated/Src/Config.lean`, regenerated from `renet/src/channel/mod.rs` and
  `renet/src/remote_connection.rs` on every run).

  1. WHAT IT IS (`default_is`, `default_channels_are`, `default_channel_ids`): the generated functions return — without a
     panic — a closed term: three channels, ids 0 / 1 / 2, kinds Unreliable / ReliableUnordered / ReliableOrdered, 5 MiB
     each, 300 ms resend time, 60 000 bytes per tick, the same list in both directions; `u8::from(DefaultChannel::X)` is
     the id of the channel whose kind the name `X` promises.
  2. IT SATISFIES EVERY STATIC CONFIGURATION HYPOTHESIS of the headline theorems (one theorem per family, by evaluation):
     distinct ids per kind and direction (`CfgDistinct` / `PDistinct`: static conjunct of `RunInRange`, `CRunInRange`,
     `MRunInRange`), ids are bytes (`ChanBytes`, `GCountersOK.chan`), budgets in range (`ConnInRange` of the freshly built
     endpoints), the kind predicates `Cfg.Ordered 2` / `Cfg.Unordered 1` / `Cfg.Unreliable 0`, valid channel ids of API
     calls (`COpValid`), `SLICE_SIZE ≤` per-tick budget and `≤ availAtTurn` of the fresh connection at every reliable
     channel's turn, receive budgets = send budgets (static part of `Room`).
  3. HEADLINE THEOREMS INSTANTIATED for the default configuration with the configuration hypotheses gone
     (`default_ordered_prefix_end_to_end`, `default_unordered_once_end_to_end`, `default_integrity_unreliable_end_to_end`,
     `default_never_panics`, `default_datagrams_fit`, `default_emitted_roundtrip`).  What remains are the hypotheses on the
     RUN (`RunInRangeFrom` / `CRunInRangeFrom`: counters and clock in range along the run; counters of the final state).

  The hand model appears in statements only as the argument `defaultCfg` of the existing theorems' run functions; it is
  tied to the generated term by `default_is` / `gsys_init_default` (the endpoints of `GSys.init defaultCfg` ARE
  `RenetClient::new(ConnectionConfig::default())` and `RenetClient::new_from_server(ConnectionConfig::default())`).
-/
import RenetVerif.Lemmas.SrcEquiv.Config
import RenetVerif.Lemmas.SrcEquiv.SrcMulti
import RenetVerif.Props.SrcPropsSystem
import RenetVerif.Props.SrcPropsConnTrace
import RenetVerif.Props.SrcPropsConnTraceWF
namespace RenetVerif.SrcPropsDefaultConfig
open RenetVerif C RenetVerif.System RenetVerif.SrcEquiv RenetVerif.SrcSystem RenetVerif.SrcConnSystem
open RenetVerif.SrcEquiv.Config RenetVerif.FlushWF RenetVerif.Live
open RenetVerif.Src.renet.channel RenetVerif.Src.renet.remote_connection

/-- **`ConnectionConfig::default()` (generated) returns normally, and its value is the representation of `defaultCfg`**:
    60 000 bytes per tick and, in BOTH directions, the channel list of `DefaultChannel::config()`. -/
theorem default_is :
    (ConnectionConfig.default : Res Empty ConnectionConfig) =
      .ok { available_bytes_per_tick := defaultCfg.budget, server_channels_config := defaultCfg.send.map reprCfg,
            client_channels_config := defaultCfg.recv.map reprCfg } := by
  rw [default_eq, gDefaultConfig_repr]

/-- **the generated `DefaultChannel::config()` as a closed term** (evaluated on the generated definition): ids 0 / 1 / 2,
    5 · 1024 · 1024 bytes each, Unreliable / ReliableUnordered 300 ms / ReliableOrdered 300 ms (durations in ns). -/
theorem default_channels_are :
    (DefaultChannel.config : Res Empty (List ChannelConfig)) =
      .ok [⟨0, 5 * 1024 * 1024, .Unreliable⟩, ⟨1, 5 * 1024 * 1024, .ReliableUnordered (300 * 1000000)⟩,
           ⟨2, 5 * 1024 * 1024, .ReliableOrdered (300 * 1000000)⟩] := by decide +kernel

/-- … and `ConnectionConfig::default()` uses that list for both directions, with 60 000 bytes per tick -/
theorem default_both_directions :
    ∃ l, (DefaultChannel.config : Res Empty (List ChannelConfig)) = .ok l ∧
      (ConnectionConfig.default : Res Empty ConnectionConfig) = .ok ⟨60000, l, l⟩ := ⟨_, config_eq, default_eq⟩

/-- **`u8::from(DefaultChannel::X)` names the channel of kind `X`**: for every variant the generated conversion returns an
    id that the generated default configuration lists exactly once, with the delivery guarantee the variant's name
    promises (on the model side: `Cfg.Ordered` / `Cfg.Unordered` / `Cfg.Unreliable`, the hypotheses of C01 / C02 / C03). -/
theorem default_channel_ids (d : DefaultChannel) :
    ∃ id, (u8.from_DefaultChannel d : Res Empty Nat) = .ok id ∧
      (defaultCfg.send.filter (·.id == id)).map (·.kind) = [kindOf d] ∧
      (defaultCfg.recv.filter (·.id == id)).map (·.kind) = [kindOf d] := by
  cases d
  · exact ⟨0, rfl, by decide, by decide⟩
  · exact ⟨2, rfl, by decide, by decide⟩
  · exact ⟨1, rfl, by decide, by decide⟩

/-- the two endpoints of the generated two-endpoint system of `defaultCfg` are `RenetClient::new(default)` (A, the client)
    and `RenetClient::new_from_server(default)` (B, the server's connection object) -/
theorem gsys_init_default : ∃ d, (ConnectionConfig.default : Res Empty ConnectionConfig) = .ok d ∧
    GSys.init defaultCfg =
      match (RenetClient.new d : Res Empty _), (RenetClient.new_from_server d : Res Empty _) with
      | .ok a, .ok b =>
        some { a := a, b := b, outA := [], outB := [], submitted := fun _ => [], submittedU := fun _ => [],
               obtained := fun _ => [], deliveredToB := [] }
      | _, _ => none := by
  refine ⟨gDefaultConfig, default_eq, ?_⟩
  rw [new_default, new_from_server_default]
  rfl

/-- the single-endpoint trace system likewise starts from `RenetClient::new(default)` -/
theorem gconn_init_default : ∃ d, (ConnectionConfig.default : Res Empty ConnectionConfig) = .ok d ∧
    GConn.init defaultCfg = match (RenetClient.new d : Res Empty _) with | .ok c => some ⟨c, [], []⟩ | _ => none := by
  refine ⟨gDefaultConfig, default_eq, ?_⟩
  rw [new_default]
  rfl

/-- distinct channel ids per kind and direction: the static conjunct of `RunInRange` and `CRunInRange` (no `assert!` of
    `from_channels` fires) -/
theorem default_cfgDistinct : CfgDistinct defaultCfg := by decide +kernel

/-- the same for the multi-client server (`MRunInRange`), whose parameters are the two channel lists and the budget -/
theorem default_pDistinct : SrcMulti.PDistinct ⟨defaultCfg.budget, defaultCfg.send, defaultCfg.recv⟩ := by decide +kernel

/-- configured send channel ids are bytes (`ChanBytes`; also the field `chan` of `GCountersOK`) — in both directions -/
theorem default_chanBytes : ChanBytes defaultCfg ∧ ChanBytes ⟨defaultCfg.budget, defaultCfg.recv, defaultCfg.send⟩ := by
  decide +kernel

/-- budgets in range: both freshly built endpoints satisfy `ConnInRange` (send budgets `≤ 2^60`, receive budgets `≤ 2^63`,
    counters 0) — the static part of every `…RunInRangeFrom` -/
theorem default_init_inRange :
    ConnInRange (Sys.init defaultCfg).a ∧ ConnInRange (Sys.init defaultCfg).b ∧ ConnInRange (MTr.init defaultCfg).c := by
  decide +kernel

/-- the kind hypotheses of C01 / C02 / C03: channel 2 is ReliableOrdered, 1 ReliableUnordered, 0 Unreliable -/
theorem default_ordered : defaultCfg.Ordered 2 := by
  refine ⟨⟨_, List.mem_cons_of_mem _ (List.mem_cons_of_mem _ (List.mem_cons_self ..)), rfl, rfl⟩, ?_⟩
  decide
theorem default_unordered : defaultCfg.Unordered 1 := by
  refine ⟨⟨_, List.mem_cons_of_mem _ (List.mem_cons_self ..), rfl, rfl⟩, ?_⟩
  decide
theorem default_unreliable : defaultCfg.Unreliable 0 := by
  unfold Cfg.Unreliable; decide

/-- API calls on channel ids 0, 1, 2 use configured ids (`COpValid`, the hypothesis of `src_never_panics`) -/
def DefaultOp : COp → Prop
  | .send ch _ => ch < 3
  | .recv ch => ch < 3
  | _ => True

instance (op : COp) : Decidable (DefaultOp op) := by cases op <;> unfold DefaultOp <;> infer_instance

theorem default_opValid (op : COp) (h : DefaultOp op) : SrcPropsConnTrace.COpValid defaultCfg op := by
  have key : ∀ ch, ch < 3 → ch ∈ [0, 1, 2] := by decide
  cases op with
  | send ch m => exact key ch h
  | recv ch => exact key ch h
  | _ => trivial

/-- one slice fits the per-tick budget (`SLICE_SIZE ≤ B`, the hypothesis of the k-round delivery theorems with
    `B = available_bytes_per_tick`), and in the freshly built connection the budget left at the turn of EACH reliable channel
    is the whole 60 000 bytes (`SLICE_SIZE ≤ availAtTurn`) -/
theorem default_slice_fits :
    SLICE_SIZE ≤ defaultCfg.budget ∧
    availAtTurn (Conn.fromChannels defaultCfg.budget defaultCfg.send defaultCfg.recv) 1 = 60000 ∧
    availAtTurn (Conn.fromChannels defaultCfg.budget defaultCfg.send defaultCfg.recv) 2 = 60000 := by
  decide +kernel

/-- receive budgets = send budgets (the same list in both directions): the static part of `Room` — whatever fits the
    sender's `max_memory_usage_bytes` fits the receiver's -/
theorem default_symmetric :
    defaultCfg.recv = defaultCfg.send ∧
    ∀ c ∈ defaultCfg.send, ∃ c' ∈ defaultCfg.recv, c'.id = c.id ∧ c'.kind = c.kind ∧ c.maxMem ≤ c'.maxMem := by
  decide +kernel

/-- the resend time of the reliable channels is positive (a zero resend time would retransmit everything on every flush) and
    every budget holds at least one slice -/
theorem default_positive :
    ∀ c ∈ defaultCfg.send, (c.kind ≠ .unreliable → 0 < c.resend) ∧ SLICE_SIZE ≤ c.maxMem := by decide +kernel

/-! ## 2g. the same families, decided DIRECTLY ON THE GENERATED TERM

  `genCfg` reads the model configuration off whatever the generated `ConnectionConfig::default()` returns (`unreprCfg` is the
  inverse of `SrcEquiv.reprCfg`; the client's send list is `client_channels_config`, as in the generated `RenetClient::new`).
  Every theorem of this section is an evaluation of the generated definitions: change a default in the Rust source and
  exactly the affected ones stop checking (ids 2→1: `gen_cfgDistinct`; resend 300→0 ms and budget 5 MiB→0: `gen_positive`;
  all of them: `genCfg_is`). -/

def unreprCfg (c : ChannelConfig) : ChanCfg :=
  match c.send_type with
  | .Unreliable => ⟨c.channel_id, .unreliable, c.max_memory_usage_bytes, 0⟩
  | .ReliableOrdered r => ⟨c.channel_id, .ordered, c.max_memory_usage_bytes, r⟩
  | .ReliableUnordered r => ⟨c.channel_id, .unordered, c.max_memory_usage_bytes, r⟩

def genCfg : Cfg :=
  match (ConnectionConfig.default : Res Empty ConnectionConfig) with
  | .ok d => ⟨d.available_bytes_per_tick, d.client_channels_config.map unreprCfg, d.server_channels_config.map unreprCfg⟩
  | _ => ⟨0, [], []⟩

/-- the configuration read off the generated term is `defaultCfg` (all the theorems of sections 2 and 3 are about it) -/
theorem genCfg_is : genCfg.budget = defaultCfg.budget ∧ genCfg.send = defaultCfg.send ∧ genCfg.recv = defaultCfg.recv := by
  decide +kernel

theorem gen_returns : ∃ d, (ConnectionConfig.default : Res Empty ConnectionConfig) = .ok d ∧
    d.client_channels_config = genCfg.send.map reprCfg ∧ d.server_channels_config = genCfg.recv.map reprCfg ∧
    d.available_bytes_per_tick = genCfg.budget := ⟨_, default_eq, by decide +kernel, by decide +kernel, by decide +kernel⟩

theorem gen_cfgDistinct : CfgDistinct genCfg ∧ SrcMulti.PDistinct ⟨genCfg.budget, genCfg.send, genCfg.recv⟩ := by decide +kernel
theorem gen_chanBytes : ChanBytes genCfg ∧ ChanBytes ⟨genCfg.budget, genCfg.recv, genCfg.send⟩ := by decide +kernel
theorem gen_init_inRange :
    ConnInRange (Sys.init genCfg).a ∧ ConnInRange (Sys.init genCfg).b ∧ ConnInRange (MTr.init genCfg).c := by decide +kernel
theorem gen_kinds : (genCfg.send.filter (·.id == 2)).map (·.kind) = [.ordered] ∧
    (genCfg.send.filter (·.id == 1)).map (·.kind) = [.unordered] ∧
    (genCfg.send.filter (·.id == 0)).map (·.kind) = [.unreliable] ∧ genCfg.send.length = 3 := by decide +kernel
theorem gen_slice_fits : SLICE_SIZE ≤ genCfg.budget ∧
    availAtTurn (Conn.fromChannels genCfg.budget genCfg.send genCfg.recv) 1 = genCfg.budget ∧
    availAtTurn (Conn.fromChannels genCfg.budget genCfg.send genCfg.recv) 2 = genCfg.budget := by decide +kernel
theorem gen_symmetric : genCfg.recv = genCfg.send := by decide +kernel
theorem gen_positive :
    ∀ c ∈ genCfg.send, (c.kind ≠ .unreliable → 0 < c.resend) ∧ SLICE_SIZE ≤ c.maxMem := by decide +kernel

/-- the counters hypothesis of the end-to-end theorems WITHOUT its configuration field -/
structure DefaultCountersOK (g : GSys) : Prop where
  seq : g.a.packet_sequence ≤ Varint.MAX + 1
  ids : ∀ ch < 3, (g.submitted ch).length ≤ Varint.MAX + 1
  lens : ∀ ch < 3, ∀ m ∈ g.submitted ch, m.length ≤ MAX_NUM_SLICES * SLICE_SIZE
  lensU : ∀ ch < 3, ∀ m ∈ g.submittedU ch, m.length ≤ MAX_NUM_SLICES * SLICE_SIZE

theorem default_send_id_lt : ∀ c ∈ defaultCfg.send, c.id < 3 := by decide +kernel

theorem gcountersOK_of_default {g : GSys} (h : DefaultCountersOK g) : GCountersOK defaultCfg g :=
  ⟨default_chanBytes.1, h.seq, fun c hc => h.ids _ (default_send_id_lt c hc), fun c hc => h.lens _ (default_send_id_lt c hc),
   fun c hc => h.lensU _ (default_send_id_lt c hc)⟩

/-- **C01 for the default configuration.**  Two endpoints built by the generated `from_channels` from
    `ConnectionConfig::default()` (`gsys_init_default`), ANY schedule `ops` that the generated code runs through in range: on
    channel `u8::from(DefaultChannel::ReliableOrdered) = 2` what B's application obtained is a prefix of what A's submitted. -/
theorem default_ordered_prefix_end_to_end (ops : List SysOp) (g : GSys) (hr : GSys.exec defaultCfg ops = some g)
    (hrg : RunInRangeFrom (Sys.init defaultCfg) ops) (hc : DefaultCountersOK g) :
    g.obtained 2 <+: g.submitted 2 :=
  SrcPropsSystem.src_ordered_prefix_end_to_end defaultCfg ops g hr ⟨default_cfgDistinct, hrg⟩ (gcountersOK_of_default hc) 2
    default_ordered

/-- **C02 for the default configuration**: on channel `u8::from(DefaultChannel::ReliableUnordered) = 1` every obtained message
    is a submitted one, each at most once. -/
theorem default_unordered_once_end_to_end (ops : List SysOp) (g : GSys) (hr : GSys.exec defaultCfg ops = some g)
    (hrg : RunInRangeFrom (Sys.init defaultCfg) ops) (hc : DefaultCountersOK g) :
    ∃ ids : List Nat, ids.Nodup ∧ (g.obtained 1).map some = ids.map (fun id => (g.submitted 1)[id]?) :=
  SrcPropsSystem.src_unordered_once_end_to_end defaultCfg ops g hr ⟨default_cfgDistinct, hrg⟩ (gcountersOK_of_default hc) 1
    default_unordered

/-- **C03 for the default configuration**: on channel `u8::from(DefaultChannel::Unreliable) = 0` nothing is fabricated. -/
theorem default_integrity_unreliable_end_to_end (ops : List SysOp) (g : GSys) (hr : GSys.exec defaultCfg ops = some g)
    (hrg : RunInRangeFrom (Sys.init defaultCfg) ops) (hc : DefaultCountersOK g) :
    ∀ x ∈ g.obtained 0, x ∈ g.submittedU 0 :=
  SrcPropsSystem.src_integrity_unreliable_end_to_end defaultCfg ops g hr ⟨default_cfgDistinct, hrg⟩ (gcountersOK_of_default hc) 0
    default_unreliable

/-- **C06 for the default configuration**: a connection built from `ConnectionConfig::default()` runs ANY API trace on channel
    ids 0 / 1 / 2 — hostile byte strings to `process_packet` included — without a panic. -/
theorem default_never_panics (ops : List COp) (hv : ∀ op ∈ ops, DefaultOp op)
    (hrg : CRunInRangeFrom (MTr.init defaultCfg) ops) : ∃ g, GConn.exec defaultCfg ops = some g :=
  SrcPropsConnTrace.src_never_panics defaultCfg ops (fun op ho => default_opValid op (hv op ho)) ⟨default_cfgDistinct, hrg⟩

/-- **C13 for the default configuration**: every datagram of every flush is at most 1300 bytes long. -/
theorem default_datagrams_fit (ops : List COp) (g : GConn) (hg : GConn.exec defaultCfg ops = some g)
    (hrg : CRunInRangeFrom (MTr.init defaultCfg) ops) : ∀ bs ∈ g.flushes, ∀ b ∈ bs, b.length ≤ 1300 :=
  SrcPropsConnTrace.src_datagrams_fit defaultCfg ops g hg ⟨default_cfgDistinct, hrg⟩

/-- **C16 for the default configuration**: every emitted datagram is read back by the generated decoder as the packet it was
    written for (`ChanBytes` discharged). -/
theorem default_emitted_roundtrip (ops : List COp) (g : GConn) (hg : GConn.exec defaultCfg ops = some g)
    (hrg : CRunInRangeFrom (MTr.init defaultCfg) ops) (hl : MsgLenOK ops) :
    ∀ bs ∈ g.flushes, ∀ b ∈ bs, ∃ gp : SrcPropsConnTraceWF.GPacket,
      SrcPropsConnTraceWF.GSerialises gp b ∧ GDecodes b gp :=
  SrcPropsConnTraceWF.src_emitted_roundtrip defaultCfg ops g hg ⟨default_cfgDistinct, hrg⟩ default_chanBytes.1 hl

/-! ## non-vacuity: runs of the GENERATED code from the default configuration, executed by the kernel

  A message on each of the three default channels (the ordered one gets a second, 1300-byte = two-slice message), one flush
  (five datagrams: channel order 0, 1, 2 of `DefaultChannel::config()`), delivery with one datagram duplicated and the two
  slices swapped, receives, an ack flush back. -/
namespace Ex
def big : Bytes := List.replicate 1200 7 ++ List.replicate 100 9
def ops : List SysOp :=
  [.sendA 2 [1, 2, 3], .sendA 1 [9], .sendA 0 [7, 7], .sendA 2 big, .flushA,
   .deliverToB 0, .deliverToB 1, .deliverToB 1, .deliverToB 2, .deliverToB 4, .deliverToB 3,
   .recvB 0, .recvB 1, .recvB 2, .recvB 2, .recvB 2, .updA 1000, .flushB, .deliverToA 0]
def gfin : GSys := (GSys.exec defaultCfg ops).getD SrcPropsSystem.gzero

/-- the run: the generated code (constructor `from_channels` on the default channel lists included)
    runs through; the run hypothesis of the corollaries holds; the counters are in range and this is what happened -/
theorem all :
    (GSys.exec defaultCfg ops).isSome = true ∧ RunInRangeFrom (Sys.init defaultCfg) ops ∧
    (gfin.a.packet_sequence ≤ Varint.MAX + 1 ∧ (∀ ch < 3, (gfin.submitted ch).length ≤ Varint.MAX + 1) ∧
      (∀ ch < 3, ∀ m ∈ gfin.submitted ch, m.length ≤ MAX_NUM_SLICES * SLICE_SIZE) ∧
      (∀ ch < 3, ∀ m ∈ gfin.submittedU ch, m.length ≤ MAX_NUM_SLICES * SLICE_SIZE)) ∧
    (gfin.outA.length = 5 ∧ gfin.submitted 2 = [[1, 2, 3], toNats big] ∧ gfin.obtained 2 = [[1, 2, 3], toNats big] ∧
      gfin.submitted 1 = [[9]] ∧ gfin.obtained 1 = [[9]] ∧ gfin.submittedU 0 = [[7, 7]] ∧ gfin.obtained 0 = [[7, 7]]) := by
  decide +kernel

theorem inRange : RunInRangeFrom (Sys.init defaultCfg) ops := all.2.1
theorem grun : GSys.exec defaultCfg ops = some gfin := some_getD all.1 _
theorem gfacts :
    (gfin.a.packet_sequence ≤ Varint.MAX + 1 ∧ (∀ ch < 3, (gfin.submitted ch).length ≤ Varint.MAX + 1) ∧
      (∀ ch < 3, ∀ m ∈ gfin.submitted ch, m.length ≤ MAX_NUM_SLICES * SLICE_SIZE) ∧
      (∀ ch < 3, ∀ m ∈ gfin.submittedU ch, m.length ≤ MAX_NUM_SLICES * SLICE_SIZE)) ∧
    (gfin.outA.length = 5 ∧ gfin.submitted 2 = [[1, 2, 3], toNats big] ∧ gfin.obtained 2 = [[1, 2, 3], toNats big] ∧
      gfin.submitted 1 = [[9]] ∧ gfin.obtained 1 = [[9]] ∧ gfin.submittedU 0 = [[7, 7]] ∧ gfin.obtained 0 = [[7, 7]]) :=
  all.2.2
theorem gcounters : DefaultCountersOK gfin := ⟨gfacts.1.1, gfacts.1.2.1, gfacts.1.2.2.1, gfacts.1.2.2.2⟩

example : gfin.obtained 2 <+: gfin.submitted 2 := default_ordered_prefix_end_to_end ops gfin grun inRange gcounters
example : ∃ ids : List Nat, ids.Nodup ∧ (gfin.obtained 1).map some = ids.map (fun id => (gfin.submitted 1)[id]?) :=
  default_unordered_once_end_to_end ops gfin grun inRange gcounters
example : ∀ x ∈ gfin.obtained 0, x ∈ gfin.submittedU 0 :=
  default_integrity_unreliable_end_to_end ops gfin grun inRange gcounters

/-- an API trace of ONE default connection: messages on all three channels, a hostile byte string, two flushes -/
def cops : List COp :=
  [.setConnected, .send 2 [1, 2, 3], .send 1 big, .send 0 [7, 7], .recv 0, .flush, .process [255, 0, 1], .update 1000,
   .recv 2, .flush]
def cfin : GConn := (GConn.exec defaultCfg cops).getD SrcPropsConnTraceC08.Ex.gzero

/-- the trace: the generated code runs through; the hypotheses of the corollaries hold; the first
    flush returned four datagrams (unreliable small, two slices, reliable small) -/
theorem call :
    (GConn.exec defaultCfg cops).isSome = true ∧
    ((∀ op ∈ cops, DefaultOp op) ∧ CRunInRangeFrom (MTr.init defaultCfg) cops ∧ MsgLenOK cops) ∧
    (cfin.flushes.map (·.map (·.length)) ≠ [] ∧ (cfin.flushes.map (·.length)).sum ≥ 4) := by
  decide +kernel

theorem cvalid : ∀ op ∈ cops, DefaultOp op := call.2.1.1
theorem cinRange : CRunInRangeFrom (MTr.init defaultCfg) cops := call.2.1.2.1
theorem clen : MsgLenOK cops := call.2.1.2.2
theorem crun : GConn.exec defaultCfg cops = some cfin := some_getD call.1 _
theorem cfacts : cfin.flushes.map (·.map (·.length)) ≠ [] ∧ (cfin.flushes.map (·.length)).sum ≥ 4 := call.2.2

example : ∃ g, GConn.exec defaultCfg cops = some g := default_never_panics cops cvalid cinRange
example : ∀ bs ∈ cfin.flushes, ∀ b ∈ bs, b.length ≤ 1300 := default_datagrams_fit cops cfin crun cinRange
example : ∀ bs ∈ cfin.flushes, ∀ b ∈ bs, ∃ gp : SrcPropsConnTraceWF.GPacket,
    SrcPropsConnTraceWF.GSerialises gp b ∧ GDecodes b gp := default_emitted_roundtrip cops cfin crun cinRange clen

end Ex

end RenetVerif.SrcPropsDefaultConfig
