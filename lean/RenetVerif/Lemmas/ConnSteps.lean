/-
  What a call of `Conn` that returned has done, stated once and without any invariant: `disconnectWith`, `setConnected`
  and `setConnecting` write the status only; `send_message`, `receive_message` and `update` by their normal outcomes; `process_packet` as the dispatch of the
  decoded packet over `feedRel` / `feedUnrel`, with what these leave.  (`get_packets_to_send`: `Conn.flush_cases` in
  Lemmas/Flush.)  The frames, status facts and invariants of the other files are case analyses
  of these.
-/
import RenetVerif.Renet.Conn
import RenetVerif.Lemmas.ResMonad
namespace RenetVerif.Conn
open RenetVerif

/-- what `disconnect_with_reason`, `set_connected` and `set_connecting` do: a live connection gets the new status -/
theorem status_eq (c : Conn) (st : Status) :
    ∃ st', (if c.isDisconnected then c else { c with status := st }) = { c with status := st' } ∧
      (({ c with status := st' } : Conn).isDisconnected = false → c.isDisconnected = false) := by
  split
  · exact ⟨c.status, rfl, id⟩
  · rename_i hd
    exact ⟨st, rfl, fun _ => by simpa using hd⟩

theorem disconnectWith_eq (c : Conn) (r : Reason) : ∃ st, c.disconnectWith r = { c with status := st } :=
  (status_eq c _).imp fun _ h => h.1
theorem setConnected_eq (c : Conn) : ∃ st, c.setConnected = { c with status := st } := (status_eq c _).imp fun _ h => h.1
theorem setConnecting_eq (c : Conn) : ∃ st, c.setConnecting = { c with status := st } := (status_eq c _).imp fun _ h => h.1

theorem sendMessage_outcomes {c c' : Conn} {ch : Nat} {m : Bytes} (h : c.sendMessage ch m = .ok c') :
    (c.isDisconnected = true ∧ c' = c) ∨
    (c.isDisconnected = false ∧ ∃ s, SMap.find? c.sendRel ch = some s ∧
      ((∃ s', s.sendMessage m = .ok s' ∧ c' = { c with sendRel := SMap.insert c.sendRel ch s' }) ∨
       ∃ e, s.sendMessage m = .error e ∧ c' = c.disconnectWith (.sendChan ch e))) ∨
    (c.isDisconnected = false ∧ SMap.find? c.sendRel ch = none ∧ ∃ sU, SMap.find? c.sendUnrel ch = some sU ∧
      c' = { c with sendUnrel := SMap.insert c.sendUnrel ch (sU.sendMessage m) }) := by
  unfold Conn.sendMessage at h
  by_cases hd : c.isDisconnected = true
  · rw [if_pos hd] at h
    cases h; exact Or.inl ⟨hd, rfl⟩
  · rw [if_neg hd] at h
    have hd' : c.isDisconnected = false := by simpa using hd
    split at h
    · rename_i s hf
      split at h
      · rename_i s' hs
        cases h; exact Or.inr (Or.inl ⟨hd', s, hf, Or.inl ⟨s', hs, rfl⟩⟩)
      · rename_i e he
        cases h; exact Or.inr (Or.inl ⟨hd', s, hf, Or.inr ⟨e, he, rfl⟩⟩)
    · rename_i hf
      split at h
      · rename_i sU hfu
        cases h; exact Or.inr (Or.inr ⟨hd', hf, sU, hfu, rfl⟩)
      · cases h

theorem receiveMessage_outcomes {c c' : Conn} {ch : Nat} {m : Option Bytes} (h : c.receiveMessage ch = .ok (c', m)) :
    (c.isDisconnected = true ∧ c' = c ∧ m = none) ∨
    (c.isDisconnected = false ∧ ∃ r r', SMap.find? c.recvRel ch = some r ∧ r.receive = .ok (r', m) ∧
        c' = { c with recvRel := SMap.insert c.recvRel ch r' }) ∨
    (c.isDisconnected = false ∧ SMap.find? c.recvRel ch = none ∧ ∃ r r', SMap.find? c.recvUnrel ch = some r ∧
        r.receive = .ok (r', m) ∧ c' = { c with recvUnrel := SMap.insert c.recvUnrel ch r' }) := by
  unfold Conn.receiveMessage at h
  by_cases hd : c.isDisconnected = true
  · rw [if_pos hd] at h
    cases h
    exact Or.inl ⟨hd, rfl, rfl⟩
  · rw [if_neg hd] at h
    have hd' : c.isDisconnected = false := by simpa using hd
    split at h
    · rename_i r hf
      obtain ⟨⟨r', m'⟩, hr, h⟩ := Res.bind_ok_iff.mp h
      cases h
      exact Or.inr (Or.inl ⟨hd', r, r', hf, hr, rfl⟩)
    · rename_i hf
      split at h
      · rename_i r hfu
        obtain ⟨⟨r', m'⟩, hr, h⟩ := Res.bind_ok_iff.mp h
        cases h
        exact Or.inr (Or.inr ⟨hd', hf, r, r', hfu, hr, rfl⟩)
      · cases h

theorem update_outcome {c c' : Conn} {dt : Nat} (h : c.update dt = .ok c') :
    ∃ ru, discardAll (c.now + dt) c.recvUnrel = .ok ru ∧
      c' = { c with now := c.now + dt, recvUnrel := ru,
                    sent := c.sent.dropWhile (fun (_, (t, _)) => c.now + dt - t ≥ C.DISCARD_AFTER_NS) } := by
  unfold update at h
  obtain ⟨ru, hd, h⟩ := Res.bind_ok_iff.mp h
  cases h
  exact ⟨ru, hd, rfl⟩

/-- what `update` writes (the clock, the sent table; the unreliable receive channels: `update_outcome`) and what it
    leaves alone — every other lemma of this kind about `update` is a field of this one -/
structure Updated (c c' : Conn) (dt : Nat) : Prop where
  sendRel : c'.sendRel = c.sendRel
  sendUnrel : c'.sendUnrel = c.sendUnrel
  packetSeq : c'.packetSeq = c.packetSeq
  order : c'.order = c.order
  pendingAcks : c'.pendingAcks = c.pendingAcks
  sent : c'.sent = c.sent.dropWhile (fun (_, (t, _)) => c.now + dt - t ≥ C.DISCARD_AFTER_NS)
  now : c'.now = c.now + dt
  recvRel : c'.recvRel = c.recvRel
  status : c'.status = c.status
  budget : c'.budget = c.budget

theorem update_frame {c c' : Conn} {dt : Nat} (h : c.update dt = .ok c') : Updated c c' dt := by
  obtain ⟨ru, -, rfl⟩ := update_outcome h
  exact ⟨rfl, rfl, rfl, rfl, rfl, rfl, rfl, rfl, rfl, rfl⟩

/-- what `process_packet` does with a packet addressed to receive channel `ch` of one of the two receive tables (`tbl`,
    written back by `put`): run `f` on the channel object and store what it leaves; an unknown id, or an error of the
    channel, disconnects -/
def feed {α : Type} (tbl : SMap α) (put : SMap α → Conn) (c : Conn) (ch : Nat) (f : α → Res (ChanErr × α) α) :
    Res Empty Conn :=
  match SMap.find? tbl ch with
  | none => .ok (c.disconnectWith (.invalidChannel ch))
  | some r =>
    match f r with
    | .ok r' => .ok (put (SMap.insert tbl ch r'))
    | .err (e, r') => .ok ((put (SMap.insert tbl ch r')).disconnectWith (.recvChan ch e))
    | .panic s => .panic s

def feedRel (c : Conn) (ch : Nat) (f : RecvRel → RecvRelRes) : Res Empty Conn :=
  feed c.recvRel (fun m => { c with recvRel := m }) c ch f

def feedUnrel (c : Conn) (ch : Nat) (f : RecvUnrel → Res (ChanErr × RecvUnrel) RecvUnrel) : Res Empty Conn :=
  feed c.recvUnrel (fun m => { c with recvUnrel := m }) c ch f

/-- the dispatch on a decoded packet, on the connection that has recorded its sequence number (at time `now`) -/
def dispatch (c : Conn) (now : Nat) : Packet → Res Empty Conn
  | .smallReliable _ ch msgs => c.feedRel ch (relMsgLoop · msgs)
  | .smallUnreliable _ ch msgs => c.feedUnrel ch (fun r => .ok (msgs.foldl RecvUnrel.processMessage r))
  | .reliableSlice _ ch sl => c.feedRel ch (·.processSlice sl)
  | .unreliableSlice _ ch sl => c.feedUnrel ch (·.processSlice sl now)
  | .ack _ ranges => newAcks c.sent ranges >>= ackLoop c

theorem processPacket_dead {c : Conn} (hd : c.isDisconnected = true) (bytes : Bytes) :
    c.processPacket bytes = .ok c := by
  unfold processPacket; rw [if_pos hd]

theorem processPacket_live {c : Conn} {bytes : Bytes} {p : Packet} (hd : c.isDisconnected = false)
    (hp : Packet.fromBytes bytes = .ok p) :
    c.processPacket bytes =
      Conn.dispatch { c with pendingAcks := Acks.add C.ACK_RANGE_CAP p.sequence c.pendingAcks } c.now p := by
  simp only [processPacket, hd, hp, Bool.false_eq_true, if_false]
  -- the model and `feed` match on the same calls, each with matchers of its own
  cases p with
  | ack _ _ => rfl
  | smallReliable _ ch msgs =>
    simp only [dispatch, feedRel, feed]
    cases SMap.find? c.recvRel ch with
    | none => rfl
    | some r => dsimp only; cases relMsgLoop r msgs <;> rfl
  | reliableSlice _ ch sl =>
    simp only [dispatch, feedRel, feed]
    cases SMap.find? c.recvRel ch with
    | none => rfl
    | some r => dsimp only; cases r.processSlice sl <;> rfl
  | unreliableSlice _ ch sl =>
    simp only [dispatch, feedUnrel, feed]
    cases SMap.find? c.recvUnrel ch with
    | none => rfl
    | some r => dsimp only; cases r.processSlice sl c.now <;> rfl
  | smallUnreliable _ ch msgs =>
    simp only [dispatch, feedUnrel, feed]
    cases SMap.find? c.recvUnrel ch <;> rfl

theorem processPacket_garbage {c : Conn} {bytes : Bytes} {e : SerErr} (hp : Packet.fromBytes bytes = .error e) :
    c.processPacket bytes = .ok (c.disconnectWith (.packetDeser e)) := by
  unfold processPacket
  split
  · rename_i hd
    simp [disconnectWith, hd]
  · rw [hp]

/-- the channel is unknown, or it has taken what `f` left — and the connection is disconnected when `f` failed (an
    equation of `feedRel` or `feedUnrel` is one of `feed`) -/
theorem feed_cases {α : Type} {tbl : SMap α} {put : SMap α → Conn} {c c' : Conn} {ch : Nat}
    {f : α → Res (ChanErr × α) α} (h : feed tbl put c ch f = .ok c') :
    (SMap.find? tbl ch = none ∧ c' = c.disconnectWith (.invalidChannel ch)) ∨
    ∃ r r', SMap.find? tbl ch = some r ∧
      ((f r = .ok r' ∧ c' = put (SMap.insert tbl ch r')) ∨
       ∃ e, f r = .err (e, r') ∧ c' = (put (SMap.insert tbl ch r')).disconnectWith (.recvChan ch e)) := by
  unfold feed at h
  split at h
  · rename_i hf
    cases h; exact Or.inl ⟨hf, rfl⟩
  · rename_i r hf
    split at h
    · rename_i r' hr
      cases h; exact Or.inr ⟨r, r', hf, Or.inl ⟨hr, rfl⟩⟩
    · rename_i e r' hr
      cases h; exact Or.inr ⟨r, r', hf, Or.inr ⟨e, hr, rfl⟩⟩
    · cases h

theorem feed_frame {α : Type} {tbl : SMap α} {put : SMap α → Conn} {c c' : Conn} {ch : Nat} {f : α → Res (ChanErr × α) α}
    (hput : put tbl = c) (h : feed tbl put c ch f = .ok c') : ∃ m st, c' = { put m with status := st } := by
  rcases feed_cases h with ⟨-, rfl⟩ | ⟨r, r', -, ⟨-, rfl⟩ | ⟨e, -, rfl⟩⟩
  · exact ⟨tbl, hput ▸ c.disconnectWith_eq _⟩
  · exact ⟨_, _, rfl⟩
  · exact ⟨_, Conn.disconnectWith_eq _ _⟩

theorem feed_ok {α : Type} {tbl : SMap α} {put : SMap α → Conn} {c : Conn} {ch : Nat} {f : α → Res (ChanErr × α) α}
    (hf : ∀ r, SMap.find? tbl ch = some r → ∀ s, f r ≠ .panic s) : ∃ c', feed tbl put c ch f = .ok c' := by
  unfold feed
  cases hc : SMap.find? tbl ch with
  | none => exact ⟨_, rfl⟩
  | some r =>
    dsimp only
    cases hr : f r with
    | ok r' => exact ⟨_, rfl⟩
    | err x => exact ⟨_, rfl⟩
    | panic s => exact absurd hr (hf r hc s)

end RenetVerif.Conn
