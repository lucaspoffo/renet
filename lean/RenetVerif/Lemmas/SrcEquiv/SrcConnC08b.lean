/-
  Helper lemmas for `Props/SrcPropsConnTraceC08b.lean`: the invariant `SrcConnC08.SentEmitted` with the packet's
  well-formedness carried along (`SentEmitted WFits`), so that the datagram behind a `sent_packets` record can be read back
  with the decoder (`Packet.fromBytes_enc` needs `Packet.WF`).

  `WFits p b`: the packet `p` is WELL-FORMED (`Packet.WF`) and its datagram `b` is at most `SER_BUFFER` bytes long.
  `sentEmittedWF_step`: one step of the model trace system keeps `SentEmitted WFits`; a new record
  (`SrcConnC08.mtr_step_sent`) belongs to a packet of a flush, and `FlushWF.flush_step_wf` says the packets of one flush are
  well-formed under `WireInv`.  `sentEmittedWF_trace`: along runs from `fromChannels`, in range, with `MsgLenOK`.
-/
import RenetVerif.Lemmas.SrcEquiv.SrcConnC08
import RenetVerif.Lemmas.FlushWF
namespace RenetVerif.SrcConnC08b
open RenetVerif RenetVerif.RustSem RenetVerif.C RenetVerif.System RenetVerif.SrcEquiv RenetVerif.SrcSystem RenetVerif.SrcConnSystem
open RenetVerif.SI RenetVerif.SrcConnC08 RenetVerif.FlushWF
open Src.renet.remote_connection

def WFits (p : Packet) (b : Bytes) : Prop := b.length ≤ SER_BUFFER ∧ p.WF

theorem sentEmittedWF_step {t t' : MTr} {op : COp} (hg : EpGood t.c) (hr : ConnInRange t.c) (hw : WireInv t.c)
    (hs : t.step op = some t') (h : SentEmitted WFits t) : SentEmitted WFits t' :=
  sentEmitted_step hg hr hs (fun o hm hd p hp b hb => by
    obtain ⟨pk, hpk, hser, hwf, -, -⟩ := flush_step_wf hg hr hw hd hm
    have hlen := (flush_inRange hg hr hm).2 b hb
    have := payload_le_buffer
    rw [flushPk_live hd hpk, hser] at hp
    exact ⟨by omega, hwf p hp⟩) h

theorem sentEmittedWF_trace (cfg : Cfg) (ops : List COp) (t : MTr) (hcb : ChanBytes cfg)
    (hrg : CRunInRangeFrom (MTr.init cfg) ops) (hl : MsgLenOK ops) (hr : (MTr.init cfg).run ops = some t) :
    SentEmitted WFits t :=
  (MTr.run_induction
    (I := fun t ops => EpGood t.c ∧ WireInv t.c ∧ CRunInRangeFrom t ops ∧ MsgLenOK ops ∧ SentEmitted WFits t)
    (fun _ op _ _ ⟨hg, hw, hrg, hl, h⟩ hs =>
      ⟨epGood_step hg hs, wireInv_step hw (hl op (List.mem_cons_self ..)) hs, (crunInRangeFrom_cons hrg hs).2.2,
        fun o ho => hl o (List.mem_cons_of_mem _ ho), sentEmittedWF_step hg hrg.1 hw hs h⟩)
    ops _ t ⟨epGood_init cfg, wireInv_init cfg hcb, hrg, hl, sentEmitted_init _ cfg⟩ hr).2.2.2.2

/-- the `PacketSentInfo` that `get_packets_to_send` (remote_connection.rs, the `match &packet` before `sent_packets.insert`)
    records for a packet: the channel and message ids of a small reliable packet, channel / message id / slice index of a
    reliable slice packet, `None` for unreliable packets, the largest acknowledged sequence number for an Ack packet -/
def gRecordOf : Src.renet.packet.Packet → Option PacketSentInfo
  | .SmallReliable _ ch msgs => some (.ReliableMessages ch (msgs.map (·.1)))
  | .ReliableSlice _ ch sl => some (.ReliableSliceMessage ch sl.message_id sl.slice_index)
  | .SmallUnreliable .. => some .None
  | .UnreliableSlice .. => some .None
  | .Ack _ ranges => ranges.getLast?.map (fun r => .Ack (r.«end» - 1))

theorem gRecordOf_repr {p : Packet} {info : SentInfo} (h : Conn.sentInfoOf p = .ok info) :
    gRecordOf (reprPacket p) = some (reprInfo info) := by
  cases p <;> have e := Conn.sentInfoOf_ok.mp h
  case smallReliable =>
    cases e
    simp only [reprPacket, gRecordOf, reprInfo, List.map_map]
    rfl
  case reliableSlice | smallUnreliable | unreliableSlice => cases e; rfl
  case ack s r =>
    obtain ⟨a, e, hl, -, rfl⟩ := e
    simp only [reprPacket, gRecordOf, List.getLast?_map, hl]
    rfl

end RenetVerif.SrcConnC08b
