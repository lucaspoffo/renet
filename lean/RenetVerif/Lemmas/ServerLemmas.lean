/-
  Helper lemmas for C11 / C12: the status of a connection under every operation (`Keeps`: a reason stays;
  `StatusStep`: the status stays or a live connection becomes `Disconnected`), per-channel frames of `Conn` (case analyses of
  Lemmas/ConnSteps), per-client frames of `Server`, and what one operation of the server API does
  (`SrvOp.Spec`: a `Step` of table and event log, the frame of an addressed call, `QuietC` / `Calm` for every call that
  does not add or remove a connection).
-/
import RenetVerif.Renet.Server
import RenetVerif.Lemmas.SMap
import RenetVerif.Lemmas.ResMonad
import RenetVerif.Lemmas.AckCases
import RenetVerif.Lemmas.ConnSteps
import RenetVerif.Lemmas.Flush
namespace RenetVerif.SL
open RenetVerif

namespace SMap
open RenetVerif.SMap
variable {α : Type}

/-- keys strictly ascending (the `BTreeMap` / `HashMap` uniqueness invariant) -/
def Sorted (m : SMap α) : Prop := (keys m).Pairwise (· < ·)

@[simp] theorem keys_nil : keys ([] : SMap α) = [] := rfl
@[simp] theorem keys_cons (k : Nat) (v : α) (r : SMap α) : keys ((k, v) :: r) = k :: keys r := rfl

theorem sorted_iff {m : SMap α} : Sorted m ↔ RenetVerif.SMap.Sorted m := Iff.rfl

theorem sorted_nil : Sorted ([] : SMap α) := List.Pairwise.nil

theorem Sorted.nodup {m : SMap α} (h : Sorted m) : (keys m).Nodup := (sorted_iff.mp h).nodup

theorem sorted_insert (m : SMap α) (k : Nat) (v : α) (h : Sorted m) : Sorted (insert m k v) :=
  sorted_iff.mpr (RenetVerif.SMap.sorted_insert (sorted_iff.mp h) k v)

theorem sorted_erase (m : SMap α) (k : Nat) (h : Sorted m) : Sorted (erase m k) :=
  sorted_iff.mpr (RenetVerif.SMap.sorted_erase (sorted_iff.mp h) k)

end SMap

def Res.outOf {ε α β : Type} : Res ε (α × β) → Res ε β
  | .ok (_, b) => .ok b
  | .err e => .err e
  | .panic s => .panic s

def Res.stateOf {ε α β : Type} : Res ε (α × β) → Res ε α
  | .ok (a, _) => .ok a
  | .err e => .err e
  | .panic s => .panic s

namespace Conn
open RenetVerif.Conn

theorem isDisconnected_of_status {c : Conn} {r : Reason} (h : c.status = .disconnected r) :
    c.isDisconnected = true := by simp [isDisconnected, h]

theorem isDisconnected_iff (c : Conn) : c.isDisconnected = true ↔ ∃ r, c.status = .disconnected r := by
  unfold isDisconnected
  split <;> simp_all

theorem disconnectReason_eq (c : Conn) (r : Reason) (h : c.status = .disconnected r) :
    c.disconnectReason = some r := by simp [disconnectReason, h]

theorem disconnectReason_none (c : Conn) (h : c.isDisconnected = false) : c.disconnectReason = none := by
  unfold isDisconnected at h
  unfold disconnectReason
  split <;> simp_all

theorem disconnectWith_status (c : Conn) (r : Reason) :
    (c.disconnectWith r).status = if c.isDisconnected then c.status else .disconnected r := by
  unfold disconnectWith; split <;> rfl

theorem disconnectWith_isDisconnected (c : Conn) (r : Reason) : (c.disconnectWith r).isDisconnected = true := by
  unfold disconnectWith
  split
  · assumption
  · rfl

def Keeps (c c' : Conn) : Prop := ∀ r, c.status = .disconnected r → c'.status = .disconnected r

theorem Keeps.refl (c : Conn) : Keeps c c := fun _ h => h
theorem Keeps.trans {a b c : Conn} (h1 : Keeps a b) (h2 : Keeps b c) : Keeps a c := fun r h => h2 r (h1 r h)
theorem Keeps.of_status_eq {c c' : Conn} (h : c'.status = c.status) : Keeps c c' := fun r hr => by rw [h, hr]

theorem disconnectWith_of_disconnected {c : Conn} {r : Reason} (h : c.status = .disconnected r) (r' : Reason) :
    c.disconnectWith r' = c := by simp [disconnectWith, isDisconnected_of_status h]
theorem setConnected_of_disconnected {c : Conn} {r : Reason} (h : c.status = .disconnected r) :
    c.setConnected = c := by simp [setConnected, isDisconnected_of_status h]
theorem setConnecting_of_disconnected {c : Conn} {r : Reason} (h : c.status = .disconnected r) :
    c.setConnecting = c := by simp [setConnecting, isDisconnected_of_status h]
theorem sendMessage_of_disconnected {c : Conn} {r : Reason} (h : c.status = .disconnected r) (ch : Nat) (m : Bytes) :
    c.sendMessage ch m = .ok c := by simp [sendMessage, isDisconnected_of_status h]
theorem receiveMessage_of_disconnected {c : Conn} {r : Reason} (h : c.status = .disconnected r) (ch : Nat) :
    c.receiveMessage ch = .ok (c, none) := by simp [receiveMessage, isDisconnected_of_status h]
theorem processPacket_of_disconnected {c : Conn} {r : Reason} (h : c.status = .disconnected r) (b : Bytes) :
    c.processPacket b = .ok c := by simp [processPacket, isDisconnected_of_status h]
theorem getPacketsToSend_of_disconnected {c : Conn} {r : Reason} (h : c.status = .disconnected r) :
    c.getPacketsToSend = .ok (c, []) := by simp [getPacketsToSend, isDisconnected_of_status h]

/-- `update` is not guarded by the status, but never writes it -/
theorem update_keeps {c c' : Conn} {dt : Nat} (h : c.update dt = .ok c') : Keeps c c' :=
  Keeps.of_status_eq (update_frame h).status

end Conn

/-! ### every public operation of a connection, as data -/
inductive ConnOp where
  | setConnected
  | setConnecting
  | disconnect                       -- `RenetClient::disconnect` (reason DisconnectedByClient)
  | disconnectWith (r : Reason)      -- `disconnect_with_reason` (used by the transports and the server)
  | sendMessage (ch : Nat) (m : Bytes)
  | receiveMessage (ch : Nat)
  | processPacket (bytes : Bytes)
  | getPacketsToSend
  | update (dt : Nat)

def ConnOp.apply (c : Conn) : ConnOp → Res Empty Conn
  | .setConnected => .ok c.setConnected
  | .setConnecting => .ok c.setConnecting
  | .disconnect => .ok (c.disconnectWith .byClient)
  | .disconnectWith r => .ok (c.disconnectWith r)
  | .sendMessage ch m => c.sendMessage ch m
  | .receiveMessage ch => Res.stateOf (c.receiveMessage ch)
  | .processPacket b => c.processPacket b
  | .getPacketsToSend => Res.stateOf c.getPacketsToSend
  | .update dt => c.update dt

def Conn.runOps (c : Conn) : List ConnOp → Res Empty Conn
  | [] => .ok c
  | op :: rest =>
    match op.apply c with
    | .ok c' => Conn.runOps c' rest
    | .err e => .err e
    | .panic s => .panic s

theorem Res.stateOf_ok {ε α β : Type} {x : Res ε (α × β)} {a : α} (h : Res.stateOf x = .ok a) :
    ∃ b, x = .ok (a, b) := by
  unfold Res.stateOf at h
  split at h <;> simp at h
  subst h
  exact ⟨_, rfl⟩

theorem ConnOp.apply_of_disconnected {c : Conn} {r : Reason} (hr : c.status = .disconnected r) (op : ConnOp)
    (hop : ∀ dt, op ≠ .update dt) : op.apply c = .ok c := by
  cases op with
  | setConnected => simp [ConnOp.apply, Conn.setConnected_of_disconnected hr]
  | setConnecting => simp [ConnOp.apply, Conn.setConnecting_of_disconnected hr]
  | disconnect => simp [ConnOp.apply, Conn.disconnectWith_of_disconnected hr]
  | disconnectWith r => simp [ConnOp.apply, Conn.disconnectWith_of_disconnected hr]
  | sendMessage ch m => simp [ConnOp.apply, Conn.sendMessage_of_disconnected hr]
  | receiveMessage ch => simp [ConnOp.apply, Conn.receiveMessage_of_disconnected hr, Res.stateOf]
  | processPacket b => simp [ConnOp.apply, Conn.processPacket_of_disconnected hr]
  | getPacketsToSend => simp [ConnOp.apply, Conn.getPacketsToSend_of_disconnected hr, Res.stateOf]
  | update dt => exact absurd rfl (hop dt)

theorem Conn.runOps_pres {P : Conn → Prop} (hstep : ∀ c c' op, P c → ConnOp.apply c op = .ok c' → P c') :
    ∀ (ops : List ConnOp) (c c' : Conn), P c → Conn.runOps c ops = .ok c' → P c'
  | [], c, c', hp, h => by cases h; exact hp
  | op :: rest, c, c', hp, h => by
    unfold Conn.runOps at h
    split at h
    · rename_i c1 h1
      exact Conn.runOps_pres hstep rest c1 c' (hstep c c1 op hp h1) h
    · cases h
    · cases h

def Packet.dataChannel : Packet → Option Nat
  | .smallReliable _ ch _ | .smallUnreliable _ ch _ | .reliableSlice _ ch _ | .unreliableSlice _ ch _ => some ch
  | .ack .. => none

namespace Conn
open RenetVerif.Conn

def SameSendSide (c c' : Conn) : Prop :=
  c'.sendRel = c.sendRel ∧ c'.sendUnrel = c.sendUnrel ∧ c'.sent = c.sent ∧ c'.packetSeq = c.packetSeq

def SameFixed (c c' : Conn) : Prop := c'.now = c.now ∧ c'.order = c.order ∧ c'.budget = c.budget

def RecvFrame (ch : Nat) (c c' : Conn) : Prop :=
  ∀ ch', ch' ≠ ch → SMap.find? c'.recvRel ch' = SMap.find? c.recvRel ch' ∧
                    SMap.find? c'.recvUnrel ch' = SMap.find? c.recvUnrel ch'

def SendFrame (ch : Nat) (c c' : Conn) : Prop :=
  ∀ ch', ch' ≠ ch → SMap.find? c'.sendRel ch' = SMap.find? c.sendRel ch' ∧
                    SMap.find? c'.sendUnrel ch' = SMap.find? c.sendUnrel ch'

theorem sendMessage_frame {c c' : Conn} {ch : Nat} {m : Bytes} (h : c.sendMessage ch m = .ok c') :
    SendFrame ch c c' ∧ c'.recvRel = c.recvRel ∧ c'.recvUnrel = c.recvUnrel ∧ c'.sent = c.sent ∧
    c'.pendingAcks = c.pendingAcks ∧ c'.packetSeq = c.packetSeq ∧ SameFixed c c' := by
  rcases sendMessage_outcomes h with ⟨-, rfl⟩ | ⟨-, s, -, ⟨s', -, rfl⟩ | ⟨e, -, rfl⟩⟩ | ⟨-, -, sU, -, rfl⟩
  · exact ⟨fun _ _ => ⟨rfl, rfl⟩, rfl, rfl, rfl, rfl, rfl, rfl, rfl, rfl⟩
  · exact ⟨fun ch' hne => ⟨SMap.find?_insert_ne _ _ hne.symm, rfl⟩, rfl, rfl, rfl, rfl, rfl, rfl, rfl, rfl⟩
  · obtain ⟨st, e⟩ := c.disconnectWith_eq (.sendChan ch e)
    rw [e]
    exact ⟨fun _ _ => ⟨rfl, rfl⟩, rfl, rfl, rfl, rfl, rfl, rfl, rfl, rfl⟩
  · exact ⟨fun ch' hne => ⟨rfl, SMap.find?_insert_ne _ _ hne.symm⟩, rfl, rfl, rfl, rfl, rfl, rfl, rfl, rfl⟩

theorem receiveMessage_frame {c c' : Conn} {ch : Nat} {m : Option Bytes} (h : c.receiveMessage ch = .ok (c', m)) :
    RecvFrame ch c c' ∧ SameSendSide c c' ∧ c'.pendingAcks = c.pendingAcks ∧ c'.status = c.status ∧
    SameFixed c c' := by
  rcases receiveMessage_outcomes h with ⟨-, rfl, -⟩ | ⟨-, r, r', -, -, rfl⟩ | ⟨-, -, r, r', -, -, rfl⟩
  · simp [RecvFrame, SameSendSide, SameFixed]
  · exact ⟨fun ch' hne => ⟨SMap.find?_insert_ne _ _ hne.symm, rfl⟩, ⟨rfl, rfl, rfl, rfl⟩, rfl, rfl, rfl, rfl, rfl⟩
  · exact ⟨fun ch' hne => ⟨rfl, SMap.find?_insert_ne _ _ hne.symm⟩, ⟨rfl, rfl, rfl, rfl⟩, rfl, rfl, rfl, rfl, rfl⟩

/-- what an acknowledgement packet leaves alone -/
def SameRecvSide (c c' : Conn) : Prop :=
  c'.recvRel = c.recvRel ∧ c'.recvUnrel = c.recvUnrel ∧ c'.status = c.status ∧ SameFixed c c' ∧
  c'.sendUnrel = c.sendUnrel ∧ c'.packetSeq = c.packetSeq

theorem SameRecvSide.refl (c : Conn) : SameRecvSide c c := ⟨rfl, rfl, rfl, ⟨rfl, rfl, rfl⟩, rfl, rfl⟩
theorem SameRecvSide.trans {a b c : Conn} (h1 : SameRecvSide a b) (h2 : SameRecvSide b c) : SameRecvSide a c := by
  obtain ⟨a1, a2, a3, ⟨a4, a5, a6⟩, a7, a8⟩ := h1
  obtain ⟨b1, b2, b3, ⟨b4, b5, b6⟩, b7, b8⟩ := h2
  exact ⟨b1.trans a1, b2.trans a2, b3.trans a3, ⟨b4.trans a4, b5.trans a5, b6.trans a6⟩, b7.trans a7, b8.trans a8⟩

theorem ackOne_recv {c c' : Conn} {seq : Nat} (h : c.ackOne seq = .ok c') : SameRecvSide c c' := by
  obtain ⟨t, info, -, h⟩ := ackOne_cases h
  cases info with
  | none => obtain rfl := h; exact SameRecvSide.refl c
  | ack l => obtain rfl := h; exact SameRecvSide.refl c
  | relMsgs ch ids => obtain ⟨s, s', -, -, rfl⟩ := h; exact SameRecvSide.refl c
  | relSlice ch id idx => obtain ⟨s, s', -, -, rfl⟩ := h; exact SameRecvSide.refl c

theorem ackLoop_recv (l : List Nat) (c c' : Conn) (h : c.ackLoop l = .ok c') : SameRecvSide c c' :=
  ackLoop_rel SameRecvSide SameRecvSide.refl SameRecvSide.trans ackOne_recv l h

def StatusStep (c c' : Conn) : Prop :=
  c'.status = c.status ∨ (c.isDisconnected = false ∧ ∃ r, c'.status = .disconnected r)

theorem StatusStep.refl (c : Conn) : StatusStep c c := Or.inl rfl

theorem StatusStep.keeps {c c' : Conn} (h : StatusStep c c') : Keeps c c' := by
  intro r hr
  rcases h with h | ⟨hd, -⟩
  · rw [h, hr]
  · rw [isDisconnected_of_status hr] at hd; cases hd

theorem StatusStep.was_live {c c' : Conn} (h : StatusStep c c') (hl : c'.isDisconnected = false) :
    c.isDisconnected = false := by
  rcases h with h | ⟨hd, -⟩
  · unfold isDisconnected at hl ⊢
    rw [← h]; exact hl
  · exact hd

theorem StatusStep.trans {a b c : Conn} (h1 : StatusStep a b) (h2 : StatusStep b c) : StatusStep a c := by
  rcases h1 with h1 | ⟨hd, r, h1⟩
  · unfold StatusStep isDisconnected at *
    rw [← h1]
    exact h2
  · exact Or.inr ⟨hd, r, h2.keeps r h1⟩

theorem StatusStep.live {c c' : Conn} (h : StatusStep c c') (hc : c.status ≠ .connecting) : c'.status ≠ .connecting := by
  rcases h with h | ⟨-, r, h⟩
  · rw [h]; exact hc
  · rw [h]; exact fun e => nomatch e

theorem StatusStep.disconnectWith (c : Conn) (r : Reason) : StatusStep c (c.disconnectWith r) := by
  rw [StatusStep, disconnectWith_status]
  cases c.isDisconnected
  · exact Or.inr ⟨rfl, r, rfl⟩
  · exact Or.inl rfl

theorem sendMessage_statusStep {c c' : Conn} {ch : Nat} {m : Bytes} (h : c.sendMessage ch m = .ok c') :
    StatusStep c c' := by
  rcases sendMessage_outcomes h with ⟨-, rfl⟩ | ⟨-, s, -, ⟨s', -, rfl⟩ | ⟨e, -, rfl⟩⟩ | ⟨-, -, sU, -, rfl⟩
  · exact .refl _
  · exact Or.inl rfl
  · exact .disconnectWith c _
  · exact Or.inl rfl

theorem getPacketsToSend_statusStep {c c' : Conn} {out : List Bytes} (h : c.getPacketsToSend = .ok (c', out)) :
    StatusStep c c' := by
  rcases Conn.flush_cases h with ⟨-, rfl, -⟩ | ⟨_, _, _, o⟩
  · exact .refl _
  · rcases o.out with ⟨-, hs⟩ | ⟨-, e, -, hs⟩
    · exact Or.inl hs
    · exact Or.inr ⟨o.live, _, hs⟩

/-- what a data packet for channel `ch` may change: receive channel `ch`, the pending acks, the status -/
def DataFrame (ch : Nat) (c c' : Conn) : Prop := RecvFrame ch c c' ∧ SameSendSide c c' ∧ SameFixed c c'

/-- a connection fed a data packet for channel `ch`: the frame of the packet, and the status as it was or `Disconnected` -/
structure Fed (ch : Nat) (c c' : Conn) : Prop where
  frame : DataFrame ch c c'
  status : StatusStep c c'

theorem Fed.refl (ch : Nat) (c : Conn) : Fed ch c c :=
  ⟨⟨fun _ _ => ⟨rfl, rfl⟩, ⟨rfl, rfl, rfl, rfl⟩, rfl, rfl, rfl⟩, .refl c⟩

/-- a disconnect on top: it writes the status only, and only into `Disconnected` -/
theorem Fed.disconnectWith {ch : Nat} {c c' : Conn} (h : Fed ch c c') (r : Reason) : Fed ch c (c'.disconnectWith r) := by
  refine ⟨?_, h.status.trans (.disconnectWith c' r)⟩
  obtain ⟨st, e⟩ := c'.disconnectWith_eq r
  rw [e]
  exact h.frame

/-- a feed of either receive table, when writing channel `ch` of that table is within the frame -/
theorem feed_fed {α : Type} {tbl : SMap α} {put : SMap α → Conn} {c c' : Conn} {ch : Nat} {f : α → Res (ChanErr × α) α}
    (key : ∀ r, Fed ch c (put (SMap.insert tbl ch r))) (h : feed tbl put c ch f = .ok c') : Fed ch c c' := by
  rcases feed_cases h with ⟨-, rfl⟩ | ⟨r, r', -, ⟨-, rfl⟩ | ⟨e, -, rfl⟩⟩
  · exact (Fed.refl ch c).disconnectWith _
  · exact key _
  · exact (key _).disconnectWith _

/-- neither `DataFrame` nor `StatusStep` mentions the pending acks -/
theorem Fed.of_acks {ch : Nat} {c c' : Conn} {a : List AckRange} (h : Fed ch { c with pendingAcks := a } c') : Fed ch c c' :=
  ⟨h.frame, h.status⟩

/-- a data packet for channel `ch`: its sequence number is recorded in the pending acks, then the connection is fed -/
theorem processPacket_fed {c c' : Conn} {bytes : Bytes} {p : Packet} {ch : Nat}
    (hp : Packet.fromBytes bytes = .ok p) (hch : Packet.dataChannel p = some ch)
    (h : c.processPacket bytes = .ok c') : Fed ch c c' := by
  cases hd : c.isDisconnected with
  | true => rw [Conn.processPacket_dead hd] at h; cases h; exact .refl ch c
  | false =>
    rw [Conn.processPacket_live hd hp] at h
    have rel : ∀ (c0 : Conn) r, Fed ch c0 { c0 with recvRel := SMap.insert c0.recvRel ch r } := fun _ _ =>
      ⟨⟨fun ch' hne => ⟨SMap.find?_insert_ne _ _ hne.symm, rfl⟩, ⟨rfl, rfl, rfl, rfl⟩, rfl, rfl, rfl⟩, Or.inl rfl⟩
    have unrel : ∀ (c0 : Conn) r, Fed ch c0 { c0 with recvUnrel := SMap.insert c0.recvUnrel ch r } := fun _ _ =>
      ⟨⟨fun ch' hne => ⟨rfl, SMap.find?_insert_ne _ _ hne.symm⟩, ⟨rfl, rfl, rfl, rfl⟩, rfl, rfl, rfl⟩, Or.inl rfl⟩
    cases p <;> cases hch <;> dsimp only [Conn.dispatch] at h
    · exact (feed_fed (rel _) h).of_acks
    · exact (feed_fed (unrel _) h).of_acks
    · exact (feed_fed (rel _) h).of_acks
    · exact (feed_fed (unrel _) h).of_acks

theorem processPacket_data_frame {c c' : Conn} {bytes : Bytes} {p : Packet} {ch : Nat}
    (hp : Packet.fromBytes bytes = .ok p) (hch : Packet.dataChannel p = some ch)
    (h : c.processPacket bytes = .ok c') :
    DataFrame ch c c' := (processPacket_fed hp hch h).frame

theorem processPacket_ack_frame {c c' : Conn} {bytes : Bytes} {seq : Nat} {ranges : List AckRange}
    (hp : Packet.fromBytes bytes = .ok (.ack seq ranges)) (h : c.processPacket bytes = .ok c') :
    SameRecvSide c c' := by
  cases hd : c.isDisconnected with
  | true => rw [Conn.processPacket_dead hd] at h; cases h; exact SameRecvSide.refl c
  | false =>
    rw [Conn.processPacket_live hd hp] at h
    obtain ⟨acks, -, h⟩ := Res.bind_ok_iff.mp h
    -- the loop starts from `c` with the pending acks updated, which `SameRecvSide` does not mention
    exact (ackLoop_recv _ _ _ h :)

theorem processPacket_fixed {c c' : Conn} {bytes : Bytes} (h : c.processPacket bytes = .ok c') :
    SameFixed c c' ∧ c'.sendUnrel = c.sendUnrel ∧ c'.packetSeq = c.packetSeq := by
  cases hp : Packet.fromBytes bytes with
  | error e =>
    rw [Conn.processPacket_garbage hp] at h; cases h
    obtain ⟨st, e⟩ := c.disconnectWith_eq (.packetDeser e)
    rw [e]
    exact ⟨⟨rfl, rfl, rfl⟩, rfl, rfl⟩
  | ok p =>
    cases hch : Packet.dataChannel p with
    | some ch =>
      obtain ⟨-, ⟨-, a, -, b⟩, f⟩ := processPacket_data_frame hp hch h
      exact ⟨f, a, b⟩
    | none =>
      cases p <;> cases hch
      exact (processPacket_ack_frame hp h).2.2.2

theorem processPacket_statusStep {c c' : Conn} {bytes : Bytes} (h : c.processPacket bytes = .ok c') :
    StatusStep c c' := by
  cases hp : Packet.fromBytes bytes with
  | error e => rw [processPacket_garbage hp] at h; cases h; exact .disconnectWith c _
  | ok p =>
    cases hch : Packet.dataChannel p with
    | some ch => exact (processPacket_fed hp hch h).status
    | none =>
      cases p <;> cases hch
      exact Or.inl (processPacket_ack_frame hp h).2.2.1

end Conn

/-- `QuietC m m'`: same key set; every connection evolved by status-monotone steps -/
structure QuietC (m m' : SMap Conn) : Prop where
  sorted : SMap.Sorted m → SMap.Sorted m'
  absent : ∀ j, SMap.find? m j = none → SMap.find? m' j = none
  present : ∀ j c, SMap.find? m j = some c → ∃ c', SMap.find? m' j = some c' ∧ Conn.Keeps c c'

theorem QuietC.refl (m : SMap Conn) : QuietC m m :=
  ⟨id, fun _ h => h, fun _ c h => ⟨c, h, Conn.Keeps.refl c⟩⟩

theorem QuietC.trans {a b c : SMap Conn} (h1 : QuietC a b) (h2 : QuietC b c) : QuietC a c := by
  refine ⟨fun h => h2.sorted (h1.sorted h), fun j h => h2.absent j (h1.absent j h), ?_⟩
  intro j x hx
  obtain ⟨y, hy, k1⟩ := h1.present j x hx
  obtain ⟨z, hz, k2⟩ := h2.present j y hy
  exact ⟨z, hz, k1.trans k2⟩

theorem QuietC.contains {m m' : SMap Conn} (h : QuietC m m') (j : Nat) :
    SMap.contains m' j = SMap.contains m j := by
  unfold SMap.contains
  cases hf : SMap.find? m j with
  | none => rw [h.absent j hf]
  | some c =>
    obtain ⟨c', hc', _⟩ := h.present j c hf
    rw [hc']; rfl

theorem QuietC.replace {m : SMap Conn} {i : Nat} {c c' : Conn} (hf : SMap.find? m i = some c)
    (hk : Conn.Keeps c c') : QuietC m (SMap.insert m i c') := by
  refine ⟨SMap.sorted_insert m i c', ?_, ?_⟩
  · intro j hj
    have : j ≠ i := by intro e; subst e; rw [hf] at hj; cases hj
    rw [SMap.find?_insert_ne _ _ this.symm]; exact hj
  · intro j x hx
    by_cases e : j = i
    · subst e
      rw [hf] at hx; cases hx
      exact ⟨c', SMap.find?_insert_self _ _ _, hk⟩
    · exact ⟨x, by rw [SMap.find?_insert_ne _ _ (Ne.symm e)]; exact hx, Conn.Keeps.refl x⟩

/-- `Calm m m'`: every connection of `m` is still there, its status as it was or `Disconnected` -/
def Calm (m m' : SMap Conn) : Prop :=
  ∀ j c, SMap.find? m j = some c → ∃ c', SMap.find? m' j = some c' ∧ Conn.StatusStep c c'

theorem Calm.refl (m : SMap Conn) : Calm m m := fun _ c h => ⟨c, h, .refl c⟩

theorem Calm.trans {a b c : SMap Conn} (h1 : Calm a b) (h2 : Calm b c) : Calm a c := by
  intro j x hx
  obtain ⟨y, hy, s1⟩ := h1 j x hx
  obtain ⟨z, hz, s2⟩ := h2 j y hy
  exact ⟨z, hz, s1.trans s2⟩

namespace Server
open RenetVerif.Server

/-- an operation addressed to client `i`: events, configuration and every other client untouched -/
structure Addressed (i : Nat) (s s' : Server) : Prop where
  events : s'.events = s.events
  budget : s'.budget = s.budget
  serverCh : s'.serverCh = s.serverCh
  clientCh : s'.clientCh = s.clientCh
  others : ∀ j, j ≠ i → SMap.find? s'.conns j = SMap.find? s.conns j

theorem Addressed.refl (i : Nat) (s : Server) : Addressed i s s := ⟨rfl, rfl, rfl, rfl, fun _ _ => rfl⟩

theorem Addressed.trans {i : Nat} {a b c : Server} (h1 : Addressed i a b) (h2 : Addressed i b c) :
    Addressed i a c :=
  ⟨h2.events.trans h1.events, h2.budget.trans h1.budget, h2.serverCh.trans h1.serverCh,
   h2.clientCh.trans h1.clientCh, fun j hj => (h2.others j hj).trans (h1.others j hj)⟩

theorem Addressed.setConn (s : Server) (i : Nat) (c' : Conn) :
    Addressed i s { s with conns := SMap.insert s.conns i c' } :=
  ⟨rfl, rfl, rfl, rfl, fun _ hj => SMap.find?_insert_ne _ _ hj.symm⟩

theorem Addressed.calm {i : Nat} {s s' : Server} (a : Addressed i s s')
    (h : ∀ c, SMap.find? s.conns i = some c → ∃ c', SMap.find? s'.conns i = some c' ∧ Conn.StatusStep c c') :
    Calm s.conns s'.conns := by
  intro j c hc
  by_cases e : j = i
  · subst e; exact h c hc
  · exact ⟨c, by rw [a.others j e]; exact hc, .refl c⟩

theorem mapConnsM_spec (f : Nat → Conn → Res Empty Conn) : ∀ (m m' : SMap Conn), mapConnsM f m = .ok m' →
    SMap.keys m' = SMap.keys m ∧
    ∀ j, (SMap.find? m j = none → SMap.find? m' j = none) ∧
         (∀ c, SMap.find? m j = some c → ∃ c', f j c = .ok c' ∧ SMap.find? m' j = some c')
  | [], m', h => by
    cases h
    exact ⟨rfl, fun j => ⟨fun _ => rfl, fun c hc => by simp [SMap.find?] at hc⟩⟩
  | (k, c0) :: rest, m', h => by
    obtain ⟨c1, h1, h⟩ := Res.bind_ok_iff.mp h
    obtain ⟨rest', h2, h⟩ := Res.bind_ok_iff.mp h
    cases h
    obtain ⟨ihk, ih⟩ := mapConnsM_spec f rest rest' h2
    refine ⟨by simp [ihk], fun j => ?_⟩
    simp only [SMap.find?]
    split
    · subst_vars
      refine ⟨fun hh => ?_, fun c hc => ?_⟩
      · cases hh
      · cases hc; exact ⟨c1, h1, rfl⟩
    · exact ih j

theorem mapConnsM_quiet (f : Nat → Conn → Res Empty Conn)
    (hk : ∀ k c c', f k c = .ok c' → Conn.Keeps c c') {m m' : SMap Conn} (h : mapConnsM f m = .ok m') :
    QuietC m m' := by
  obtain ⟨hkeys, hp⟩ := mapConnsM_spec f m m' h
  refine ⟨fun hs => by unfold SMap.Sorted; rw [hkeys]; exact hs, fun j => (hp j).1, ?_⟩
  intro j c hc
  obtain ⟨c', h1, h2⟩ := (hp j).2 c hc
  exact ⟨c', h2, hk j c c' h1⟩

theorem disconnect_spec (s : Server) (i : Nat) :
    Addressed i s (s.disconnect i) ∧ QuietC s.conns (s.disconnect i).conns ∧
    SMap.find? (s.disconnect i).conns i = (SMap.find? s.conns i).map (·.disconnectWith .byServer) := by
  unfold disconnect
  cases hf : SMap.find? s.conns i with
  | none => exact ⟨Addressed.refl i s, QuietC.refl _, by simp [hf]⟩
  | some c =>
    exact ⟨Addressed.setConn s i _, QuietC.replace hf (Conn.StatusStep.disconnectWith c _).keeps,
      by simp [SMap.find?_insert_self]⟩

theorem sendMessage_spec {s s' : Server} {i ch : Nat} {m : Bytes} (h : s.sendMessage i ch m = .ok s') :
    Addressed i s s' ∧ QuietC s.conns s'.conns ∧
    ((SMap.find? s.conns i = none ∧ s' = s) ∨
     (∃ c c', SMap.find? s.conns i = some c ∧ c.sendMessage ch m = .ok c' ∧ SMap.find? s'.conns i = some c')) := by
  unfold sendMessage at h
  split at h
  · rename_i hf
    cases h
    exact ⟨Addressed.refl i s, QuietC.refl _, Or.inl ⟨hf, rfl⟩⟩
  · rename_i c hf
    obtain ⟨c', hc, h⟩ := Res.bind_ok_iff.mp h
    cases h
    exact ⟨Addressed.setConn s i c', QuietC.replace hf (Conn.sendMessage_statusStep hc).keeps,
      Or.inr ⟨c, c', hf, hc, SMap.find?_insert_self _ _ _⟩⟩

theorem receiveMessage_spec {s s' : Server} {i ch : Nat} {out : Option Bytes}
    (h : s.receiveMessage i ch = .ok (s', out)) :
    Addressed i s s' ∧ QuietC s.conns s'.conns ∧
    ((SMap.find? s.conns i = none ∧ s' = s ∧ out = none) ∨
     (∃ c c', SMap.find? s.conns i = some c ∧ c.receiveMessage ch = .ok (c', out) ∧
        SMap.find? s'.conns i = some c')) := by
  unfold receiveMessage at h
  split at h
  · rename_i hf
    cases h
    exact ⟨Addressed.refl i s, QuietC.refl _, Or.inl ⟨hf, rfl, rfl⟩⟩
  · rename_i c hf
    obtain ⟨⟨c', o⟩, hc, h⟩ := Res.bind_ok_iff.mp h
    cases h
    exact ⟨Addressed.setConn s i c', QuietC.replace hf (.of_status_eq (Conn.receiveMessage_frame hc).2.2.2.1),
      Or.inr ⟨c, c', hf, hc, SMap.find?_insert_self _ _ _⟩⟩

theorem getPacketsToSend_spec {s s' : Server} {i : Nat} {out : Option (List Bytes)}
    (h : s.getPacketsToSend i = .ok (s', out)) :
    Addressed i s s' ∧ QuietC s.conns s'.conns ∧
    ((SMap.find? s.conns i = none ∧ s' = s ∧ out = none) ∨
     (∃ c c' ps, SMap.find? s.conns i = some c ∧ c.getPacketsToSend = .ok (c', ps) ∧ out = some ps ∧
        SMap.find? s'.conns i = some c')) := by
  unfold getPacketsToSend at h
  split at h
  · rename_i hf
    cases h
    exact ⟨Addressed.refl i s, QuietC.refl _, Or.inl ⟨hf, rfl, rfl⟩⟩
  · rename_i c hf
    obtain ⟨⟨c', ps⟩, hc, h⟩ := Res.bind_ok_iff.mp h
    cases h
    exact ⟨Addressed.setConn s i c', QuietC.replace hf (Conn.getPacketsToSend_statusStep hc).keeps,
      Or.inr ⟨c, c', ps, hf, hc, rfl, SMap.find?_insert_self _ _ _⟩⟩

theorem processPacketFrom_spec {s s' : Server} {i : Nat} {bytes : Bytes} {out : Bool}
    (h : s.processPacketFrom bytes i = .ok (s', out)) :
    Addressed i s s' ∧ QuietC s.conns s'.conns ∧
    ((SMap.find? s.conns i = none ∧ s' = s ∧ out = false) ∨
     (∃ c c', SMap.find? s.conns i = some c ∧ c.processPacket bytes = .ok c' ∧ out = true ∧
        SMap.find? s'.conns i = some c')) := by
  unfold processPacketFrom at h
  split at h
  · rename_i hf
    cases h
    exact ⟨Addressed.refl i s, QuietC.refl _, Or.inl ⟨hf, rfl, rfl⟩⟩
  · rename_i c hf
    obtain ⟨c', hc, h⟩ := Res.bind_ok_iff.mp h
    cases h
    exact ⟨Addressed.setConn s i c', QuietC.replace hf (Conn.processPacket_statusStep hc).keeps,
      Or.inr ⟨c, c', hf, hc, rfl, SMap.find?_insert_self _ _ _⟩⟩

/-! the same calls read forwards: client `i` has connection `c` and the connection's call returns, so the entry is replaced -/

theorem sendMessage_at {s : Server} {i ch : Nat} {m : Bytes} {c c' : Conn} (hf : SMap.find? s.conns i = some c)
    (hc : c.sendMessage ch m = .ok c') : s.sendMessage i ch m = .ok { s with conns := SMap.insert s.conns i c' } := by
  rw [sendMessage, hf]; dsimp only; rw [hc]; rfl

theorem receiveMessage_at {s : Server} {i ch : Nat} {c c' : Conn} {out : Option Bytes} (hf : SMap.find? s.conns i = some c)
    (hc : c.receiveMessage ch = .ok (c', out)) :
    s.receiveMessage i ch = .ok ({ s with conns := SMap.insert s.conns i c' }, out) := by
  rw [receiveMessage, hf]; dsimp only; rw [hc]; rfl

theorem getPacketsToSend_at {s : Server} {i : Nat} {c c' : Conn} {ps : List Bytes} (hf : SMap.find? s.conns i = some c)
    (hc : c.getPacketsToSend = .ok (c', ps)) :
    s.getPacketsToSend i = .ok ({ s with conns := SMap.insert s.conns i c' }, some ps) := by
  rw [getPacketsToSend, hf]; dsimp only; rw [hc]; rfl

theorem processPacketFrom_at {s : Server} {i : Nat} {bytes : Bytes} {c c' : Conn} (hf : SMap.find? s.conns i = some c)
    (hc : c.processPacket bytes = .ok c') :
    s.processPacketFrom bytes i = .ok ({ s with conns := SMap.insert s.conns i c' }, true) := by
  rw [processPacketFrom, hf]; dsimp only; rw [hc]; rfl

theorem Addressed.calm_of {i : Nat} {s s' : Server} (a : Addressed i s s') {Q : Conn → Conn → Prop}
    (hQ : ∀ c c', Q c c' → Conn.StatusStep c c')
    (h : SMap.find? s.conns i = none ∨ ∃ c c', SMap.find? s.conns i = some c ∧ Q c c' ∧ SMap.find? s'.conns i = some c') :
    Calm s.conns s'.conns :=
  a.calm fun c hc => by
    rcases h with hn | ⟨c0, c', hf, hq, hs⟩
    · rw [hn] at hc; cases hc
    · rw [hf] at hc; cases hc
      exact ⟨c', hs, hQ _ _ hq⟩

theorem sendMessage_calm {s s' : Server} {i ch : Nat} {m : Bytes} (h : s.sendMessage i ch m = .ok s') :
    Calm s.conns s'.conns :=
  let ⟨a, _, e⟩ := sendMessage_spec h
  a.calm_of (Q := fun c c' => c.sendMessage ch m = .ok c') (fun _ _ => Conn.sendMessage_statusStep) (e.imp (·.1) fun x => x)

theorem receiveMessage_calm {s s' : Server} {i ch : Nat} {out : Option Bytes}
    (h : s.receiveMessage i ch = .ok (s', out)) : Calm s.conns s'.conns :=
  let ⟨a, _, e⟩ := receiveMessage_spec h
  a.calm_of (Q := fun c c' => c.receiveMessage ch = .ok (c', out))
    (fun _ _ hr => Or.inl (Conn.receiveMessage_frame hr).2.2.2.1) (e.imp (·.1) fun x => x)

theorem getPacketsToSend_calm {s s' : Server} {i : Nat} {out : Option (List Bytes)}
    (h : s.getPacketsToSend i = .ok (s', out)) : Calm s.conns s'.conns :=
  let ⟨a, _, e⟩ := getPacketsToSend_spec h
  a.calm_of (Q := fun c c' => ∃ ps, c.getPacketsToSend = .ok (c', ps))
    (fun _ _ ⟨_, hr⟩ => Conn.getPacketsToSend_statusStep hr)
    (e.imp (·.1) fun ⟨c, c', ps, hf, hr, _, hs⟩ => ⟨c, c', hf, ⟨ps, hr⟩, hs⟩)

theorem processPacketFrom_calm {s s' : Server} {i : Nat} {bytes : Bytes} {out : Bool}
    (h : s.processPacketFrom bytes i = .ok (s', out)) : Calm s.conns s'.conns :=
  let ⟨a, _, e⟩ := processPacketFrom_spec h
  a.calm_of (Q := fun c c' => c.processPacket bytes = .ok c') (fun _ _ => Conn.processPacket_statusStep)
    (e.imp (·.1) fun ⟨c, c', hf, hr, _, hs⟩ => ⟨c, c', hf, hr, hs⟩)

theorem getPacketsToSend_out (s : Server) (i : Nat) :
    Res.outOf (s.getPacketsToSend i) =
      match SMap.find? s.conns i with
      | none => .ok none
      | some c => match c.getPacketsToSend with
        | .ok (_, ps) => .ok (some ps)
        | .err e => .err e
        | .panic p => .panic p := by
  unfold getPacketsToSend
  cases SMap.find? s.conns i with
  | none => rfl
  | some c =>
    dsimp only
    cases c.getPacketsToSend <;> rfl

theorem processPacketFrom_out (s : Server) (bytes : Bytes) (i : Nat) :
    Res.outOf (s.processPacketFrom bytes i) =
      match SMap.find? s.conns i with
      | none => .ok false
      | some c => match c.processPacket bytes with
        | .ok _ => .ok true
        | .err e => .err e
        | .panic p => .panic p := by
  unfold processPacketFrom
  cases SMap.find? s.conns i with
  | none => rfl
  | some c =>
    dsimp only
    cases c.processPacket bytes <;> rfl

theorem disconnectAll_find (s : Server) (j : Nat) :
    SMap.find? s.disconnectAll.conns j = (SMap.find? s.conns j).map (·.disconnectWith .byServer) :=
  SMap.find?_map (fun (_ : Nat) (c : Conn) => c.disconnectWith .byServer) s.conns j

theorem disconnectAll_quiet (s : Server) : QuietC s.conns s.disconnectAll.conns := by
  refine ⟨?_, ?_, ?_⟩
  · intro hs
    unfold SMap.Sorted disconnectAll
    rw [SMap.keys_map (fun (_ : Nat) (c : Conn) => c.disconnectWith .byServer)]
    exact hs
  · intro j hj; rw [disconnectAll_find, hj]; rfl
  · intro j c hj
    rw [disconnectAll_find, hj]
    exact ⟨_, rfl, (Conn.StatusStep.disconnectWith c _).keeps⟩

theorem broadcast_spec {s s' : Server} {ch : Nat} {m : Bytes} (h : s.broadcast ch m = .ok s') :
    s'.events = s.events ∧ QuietC s.conns s'.conns ∧
    ∀ j, (SMap.find? s.conns j = none → SMap.find? s'.conns j = none) ∧
         (∀ c, SMap.find? s.conns j = some c →
            ∃ c', c.sendMessage ch m = .ok c' ∧ SMap.find? s'.conns j = some c') := by
  obtain ⟨cs, hm, h⟩ := Res.bind_ok_iff.mp h
  cases h
  exact ⟨rfl, mapConnsM_quiet _ (fun _ _ _ hh => (Conn.sendMessage_statusStep hh).keeps) hm, (mapConnsM_spec _ _ _ hm).2⟩

theorem broadcastExcept_spec {s s' : Server} {ex ch : Nat} {m : Bytes}
    (h : s.broadcastExcept ex ch m = .ok s') :
    s'.events = s.events ∧ QuietC s.conns s'.conns ∧
    SMap.find? s'.conns ex = SMap.find? s.conns ex ∧
    ∀ j, j ≠ ex → (SMap.find? s.conns j = none → SMap.find? s'.conns j = none) ∧
         (∀ c, SMap.find? s.conns j = some c →
            ∃ c', c.sendMessage ch m = .ok c' ∧ SMap.find? s'.conns j = some c') := by
  obtain ⟨cs, hm, h⟩ := Res.bind_ok_iff.mp h
  cases h
  have hp := (mapConnsM_spec _ _ _ hm).2
  refine ⟨rfl, mapConnsM_quiet _ ?_ hm, ?_, ?_⟩
  · intro k c c' hh
    split at hh
    · cases hh; exact Conn.Keeps.refl c
    · exact (Conn.sendMessage_statusStep hh).keeps
  · cases hf : SMap.find? s.conns ex with
    | none => exact (hp ex).1 hf
    | some c =>
      obtain ⟨c', h1, h2⟩ := (hp ex).2 c hf
      rw [if_pos rfl] at h1
      cases h1
      exact h2
  · intro j hj
    refine ⟨(hp j).1, fun c hc => ?_⟩
    obtain ⟨c', h1, h2⟩ := (hp j).2 c hc
    rw [if_neg hj] at h1
    exact ⟨c', h1, h2⟩

theorem update_spec {s s' : Server} {dt : Nat} (h : s.update dt = .ok s') :
    s'.events = s.events ∧ QuietC s.conns s'.conns ∧
    ∀ j, (SMap.find? s.conns j = none → SMap.find? s'.conns j = none) ∧
         (∀ c, SMap.find? s.conns j = some c →
            ∃ c', c.update dt = .ok c' ∧ SMap.find? s'.conns j = some c') := by
  obtain ⟨cs, hm, h⟩ := Res.bind_ok_iff.mp h
  cases h
  exact ⟨rfl, mapConnsM_quiet _ (fun _ _ _ hh => Conn.update_keeps hh) hm, (mapConnsM_spec _ _ _ hm).2⟩

theorem feedServer_spec : ∀ (ps : List Bytes) (s s' : Server) (i : Nat) (ok : Bool),
    feedServer s i ps = .ok (s', ok) → Addressed i s s' ∧ QuietC s.conns s'.conns ∧ Calm s.conns s'.conns
  | [], s, s', i, ok, h => by
    cases h; exact ⟨Addressed.refl i s, QuietC.refl _, Calm.refl _⟩
  | p :: rest, s, s', i, ok, h => by
    obtain ⟨⟨s1, ok1⟩, h1, h⟩ := Res.bind_ok_iff.mp h
    obtain ⟨a1, q1, -⟩ := processPacketFrom_spec h1
    have c1 := processPacketFrom_calm h1
    dsimp only at h
    split at h
    · obtain ⟨a2, q2, c2⟩ := feedServer_spec rest s1 s' i ok h
      exact ⟨a1.trans a2, q1.trans q2, c1.trans c2⟩
    · cases h
      exact ⟨a1, q1, c1⟩

theorem processLocalClient_spec {s s' : Server} {i : Nat} {cl cl' : Conn} {ok : Bool}
    (h : s.processLocalClient i cl = .ok (s', cl', ok)) :
    Addressed i s s' ∧ QuietC s.conns s'.conns ∧ Calm s.conns s'.conns := by
  obtain ⟨⟨s1, ps⟩, h1, h⟩ := Res.bind_ok_iff.mp h
  obtain ⟨a1, q1, -⟩ := getPacketsToSend_spec h1
  have c1 := getPacketsToSend_calm h1
  cases ps with
  | none =>
    cases h
    exact ⟨a1, q1, c1⟩
  | some ps =>
    obtain ⟨cl1, -, h⟩ := Res.bind_ok_iff.mp h
    obtain ⟨⟨cl2, out⟩, -, h⟩ := Res.bind_ok_iff.mp h
    obtain ⟨⟨s2, ok2⟩, h4, h⟩ := Res.bind_ok_iff.mp h
    cases h
    obtain ⟨a2, q2, c2⟩ := feedServer_spec out s1 s' i ok h4
    exact ⟨a1.trans a2, q1.trans q2, c1.trans c2⟩

end Server

/-- every public operation of `RenetServer`, as data.  The local-client operations take the client
    object as an arbitrary argument: nothing below depends on which one is passed. -/
inductive SrvOp where
  | add (id : Nat)
  | remove (id : Nat)
  | disconnect (id : Nat)
  | disconnectAll
  | broadcast (ch : Nat) (m : Bytes)
  | broadcastExcept (ex ch : Nat) (m : Bytes)
  | send (id ch : Nat) (m : Bytes)
  | receive (id ch : Nat)
  | update (dt : Nat)
  | getPacketsToSend (id : Nat)
  | processPacketFrom (bytes : Bytes) (id : Nat)
  | getEvent
  | newLocalClient (id : Nat)
  | disconnectLocalClient (id : Nat) (cl : Conn)
  | processLocalClient (id : Nat) (cl : Conn)

/-- the server together with the events `get_event` has already handed out (ghost state) -/
abbrev SrvState := Server × List Event

/-- all events ever pushed, in order -/
def eventLog (st : SrvState) : List Event := st.2 ++ st.1.events

def keepPopped (popped : List Event) : Res Empty Server → Res Empty SrvState
  | .ok s => .ok (s, popped)
  | .err e => .err e
  | .panic p => .panic p

def SrvOp.apply (st : SrvState) : SrvOp → Res Empty SrvState
  | .add id => .ok (st.1.addConnection id, st.2)
  | .remove id => .ok (st.1.removeConnection id, st.2)
  | .disconnect id => .ok (st.1.disconnect id, st.2)
  | .disconnectAll => .ok (st.1.disconnectAll, st.2)
  | .broadcast ch m => keepPopped st.2 (st.1.broadcast ch m)
  | .broadcastExcept ex ch m => keepPopped st.2 (st.1.broadcastExcept ex ch m)
  | .send id ch m => keepPopped st.2 (st.1.sendMessage id ch m)
  | .receive id ch => keepPopped st.2 (Res.stateOf (st.1.receiveMessage id ch))
  | .update dt => keepPopped st.2 (st.1.update dt)
  | .getPacketsToSend id => keepPopped st.2 (Res.stateOf (st.1.getPacketsToSend id))
  | .processPacketFrom b id => keepPopped st.2 (Res.stateOf (st.1.processPacketFrom b id))
  | .getEvent => .ok ((st.1.getEvent).1, st.2 ++ (st.1.getEvent).2.toList)
  | .newLocalClient id => .ok ((st.1.newLocalClient id).1, st.2)
  | .disconnectLocalClient id cl => .ok ((st.1.disconnectLocalClient id cl).1, st.2)
  | .processLocalClient id cl => keepPopped st.2 (Res.stateOf (st.1.processLocalClient id cl))

def runSrv (st : SrvState) : List SrvOp → Res Empty SrvState
  | [] => .ok st
  | op :: rest =>
    match op.apply st with
    | .ok st' => runSrv st' rest
    | .err e => .err e
    | .panic p => .panic p

theorem keepPopped_ok {popped : List Event} {x : Res Empty Server} {st' : SrvState}
    (h : keepPopped popped x = .ok st') : x = .ok st'.1 ∧ st'.2 = popped := by
  unfold keepPopped at h
  split at h <;> simp at h
  subst h
  exact ⟨rfl, rfl⟩

/-- what one operation can do to the connection table and the log -/
def Step (st st' : SrvState) : Prop :=
  (QuietC st.1.conns st'.1.conns ∧ eventLog st' = eventLog st) ∨
  (∃ id c0, SMap.find? st.1.conns id = none ∧ st'.1.conns = SMap.insert st.1.conns id c0 ∧
     eventLog st' = eventLog st ++ [.connected id]) ∨
  (∃ id c r, SMap.find? st.1.conns id = some c ∧ st'.1.conns = SMap.erase st.1.conns id ∧
     eventLog st' = eventLog st ++ [.disconnected id r] ∧ ∀ r0, c.status = .disconnected r0 → r = r0)

theorem Step.quiet_of {st st' : SrvState} (hq : QuietC st.1.conns st'.1.conns)
    (he : st'.1.events = st.1.events) (hp : st'.2 = st.2) : Step st st' :=
  Or.inl ⟨hq, by simp [eventLog, he, hp]⟩

theorem addConnection_step (s : Server) (popped : List Event) (id : Nat) :
    Step (s, popped) (s.addConnection id, popped) := by
  unfold Server.addConnection
  split
  · exact Step.quiet_of (QuietC.refl _) rfl rfl
  · rename_i hc
    refine Or.inr (Or.inl ⟨id, _, ?_, rfl, ?_⟩)
    · simpa [SMap.contains] using hc
    · simp [eventLog]

theorem erase_step (s : Server) (popped : List Event) (id : Nat) (c : Conn) (d : Reason)
    (hf : SMap.find? s.conns id = some c) :
    Step (s, popped)
      ({ s with conns := SMap.erase s.conns id,
                events := s.events ++ [.disconnected id (c.disconnectReason.getD d)] }, popped) :=
  Or.inr (Or.inr ⟨id, c, c.disconnectReason.getD d, hf, rfl, by simp [eventLog],
    fun r0 hr0 => by simp [Conn.disconnectReason_eq c r0 hr0]⟩)

def SrvOp.target : SrvOp → Option Nat
  | .add id | .remove id | .disconnect id | .send id _ _ | .receive id _ | .getPacketsToSend id
  | .processPacketFrom _ id | .newLocalClient id | .disconnectLocalClient id _ | .processLocalClient id _ => some id
  | .disconnectAll | .broadcast .. | .broadcastExcept .. | .update _ | .getEvent => none

theorem addConnection_frame (s : Server) (i j : Nat) (h : j ≠ i) :
    SMap.find? (s.addConnection i).conns j = SMap.find? s.conns j := by
  unfold Server.addConnection
  split
  · rfl
  · exact SMap.find?_insert_ne _ _ h.symm

theorem removeConnection_frame (s : Server) (i j : Nat) (h : j ≠ i) :
    SMap.find? (s.removeConnection i).conns j = SMap.find? s.conns j := by
  unfold Server.removeConnection
  split
  · rfl
  · exact SMap.find?_erase_ne _ h.symm

theorem disconnectLocalClient_frame (s : Server) (i j : Nat) (cl : Conn) (h : j ≠ i) :
    SMap.find? (s.disconnectLocalClient i cl).1.conns j = SMap.find? s.conns j := by
  unfold Server.disconnectLocalClient
  split
  · rfl
  · split
    · rfl
    · exact SMap.find?_erase_ne _ h.symm

/-- the four calls that add or remove a connection of the table themselves -/
def SrvOp.edits : SrvOp → Bool
  | .add _ | .remove _ | .newLocalClient _ | .disconnectLocalClient _ _ => true
  | _ => false

/-- what one operation does: a `Step` of table and log; an addressed operation leaves every other client alone; an
    operation that does not edit the table keeps its key set, pushes no event, and is `Calm` -/
structure SrvOp.Spec (op : SrvOp) (st st' : SrvState) : Prop where
  step : Step st st'
  frame : ∀ i, op.target = some i → ∀ j, j ≠ i → SMap.find? st'.1.conns j = SMap.find? st.1.conns j
  quiet : op.edits = false →
    QuietC st.1.conns st'.1.conns ∧ eventLog st' = eventLog st ∧ Calm st.1.conns st'.1.conns

theorem eventLog_eq {st st' : SrvState} (he : st'.1.events = st.1.events) (hp : st'.2 = st.2) :
    eventLog st' = eventLog st := by
  simp [eventLog, he, hp]

theorem SrvOp.Spec.of_addressed {op : SrvOp} {st st' : SrvState} {i : Nat} (ht : op.target = some i)
    (a : Server.Addressed i st.1 st'.1) (q : QuietC st.1.conns st'.1.conns) (hp : st'.2 = st.2)
    (hc : Calm st.1.conns st'.1.conns) : op.Spec st st' := by
  refine ⟨Step.quiet_of q a.events hp, fun i' ht' => ?_, fun _ => ⟨q, eventLog_eq a.events hp, hc⟩⟩
  cases ht.symm.trans ht'
  exact a.others

theorem SrvOp.Spec.of_quiet {op : SrvOp} {st st' : SrvState} (ht : op.target = none)
    (q : QuietC st.1.conns st'.1.conns) (he : st'.1.events = st.1.events) (hp : st'.2 = st.2)
    (hc : Calm st.1.conns st'.1.conns) : op.Spec st st' := by
  refine ⟨Step.quiet_of q he hp, fun i ht' => ?_, fun _ => ⟨q, eventLog_eq he hp, hc⟩⟩
  cases ht.symm.trans ht'

theorem SrvOp.apply_spec {st st' : SrvState} {op : SrvOp} (h : op.apply st = .ok st') : op.Spec st st' := by
  obtain ⟨s, popped⟩ := st
  cases op with
  | add id | newLocalClient id =>
    cases h
    exact ⟨addConnection_step s popped id, fun i ht j => by cases ht; exact addConnection_frame s _ j, nofun⟩
  | remove id =>
    cases h
    refine ⟨?_, fun i ht j => by cases ht; exact removeConnection_frame s _ j, nofun⟩
    unfold Server.removeConnection
    split
    · exact Step.quiet_of (QuietC.refl _) rfl rfl
    · rename_i c hf
      exact erase_step s popped id c _ hf
  | disconnectLocalClient id cl =>
    cases h
    refine ⟨?_, fun i ht j => by cases ht; exact disconnectLocalClient_frame s _ j cl, nofun⟩
    unfold Server.disconnectLocalClient
    split
    · exact Step.quiet_of (QuietC.refl _) rfl rfl
    · split
      · exact Step.quiet_of (QuietC.refl _) rfl rfl
      · rename_i c hf
        exact erase_step s popped id c _ hf
  | disconnect id =>
    cases h
    obtain ⟨a, q, hf⟩ := Server.disconnect_spec s id
    refine .of_addressed rfl a q rfl (a.calm fun c hc => ⟨_, ?_, .disconnectWith c .byServer⟩)
    show SMap.find? (s.disconnect id).conns id = _
    rw [hf, hc]; rfl
  | disconnectAll =>
    cases h
    refine .of_quiet rfl (Server.disconnectAll_quiet s) rfl rfl fun j c hc => ⟨_, ?_, .disconnectWith c .byServer⟩
    show SMap.find? s.disconnectAll.conns j = _
    rw [Server.disconnectAll_find, hc]; rfl
  | broadcast ch m =>
    obtain ⟨h1, h2⟩ := keepPopped_ok h
    obtain ⟨e, q, hp⟩ := Server.broadcast_spec h1
    refine .of_quiet rfl q e h2 fun j c hc => ?_
    obtain ⟨c', e1, e2⟩ := (hp j).2 c hc
    exact ⟨c', e2, Conn.sendMessage_statusStep e1⟩
  | broadcastExcept ex ch m =>
    obtain ⟨h1, h2⟩ := keepPopped_ok h
    obtain ⟨e, q, hex, hp⟩ := Server.broadcastExcept_spec h1
    refine .of_quiet rfl q e h2 fun j c hc => ?_
    by_cases e : j = ex
    · subst e
      exact ⟨c, by rw [hex]; exact hc, .refl c⟩
    · obtain ⟨c', e1, e2⟩ := (hp j e).2 c hc
      exact ⟨c', e2, Conn.sendMessage_statusStep e1⟩
  | update dt =>
    obtain ⟨h1, h2⟩ := keepPopped_ok h
    obtain ⟨e, q, hp⟩ := Server.update_spec h1
    refine .of_quiet rfl q e h2 fun j c hc => ?_
    obtain ⟨c', e1, e2⟩ := (hp j).2 c hc
    exact ⟨c', e2, Or.inl ((Conn.update_frame e1).status)⟩
  | send id ch m =>
    obtain ⟨h1, h2⟩ := keepPopped_ok h
    obtain ⟨a, q, -⟩ := Server.sendMessage_spec h1
    exact .of_addressed rfl a q h2 (Server.sendMessage_calm h1)
  | receive id ch =>
    obtain ⟨h1, h2⟩ := keepPopped_ok h
    obtain ⟨out, h3⟩ := Res.stateOf_ok h1
    obtain ⟨a, q, -⟩ := Server.receiveMessage_spec h3
    exact .of_addressed rfl a q h2 (Server.receiveMessage_calm h3)
  | getPacketsToSend id =>
    obtain ⟨h1, h2⟩ := keepPopped_ok h
    obtain ⟨out, h3⟩ := Res.stateOf_ok h1
    obtain ⟨a, q, -⟩ := Server.getPacketsToSend_spec h3
    exact .of_addressed rfl a q h2 (Server.getPacketsToSend_calm h3)
  | processPacketFrom b id =>
    obtain ⟨h1, h2⟩ := keepPopped_ok h
    obtain ⟨out, h3⟩ := Res.stateOf_ok h1
    obtain ⟨a, q, -⟩ := Server.processPacketFrom_spec h3
    exact .of_addressed rfl a q h2 (Server.processPacketFrom_calm h3)
  | processLocalClient id cl =>
    obtain ⟨h1, h2⟩ := keepPopped_ok h
    obtain ⟨⟨cl', ok⟩, h3⟩ := Res.stateOf_ok h1
    obtain ⟨a, q, cm⟩ := Server.processLocalClient_spec h3
    exact .of_addressed rfl a q h2 cm
  | getEvent =>
    cases h
    have hq : (s.getEvent).1.conns = s.conns := by
      unfold Server.getEvent
      split <;> rfl
    have hl : eventLog ((s.getEvent).1, popped ++ (s.getEvent).2.toList) = eventLog (s, popped) := by
      unfold Server.getEvent eventLog
      split
      · rename_i he
        have he' : s.events = [] := he
        simp [he']
      · rename_i e rest he
        have he' : s.events = e :: rest := he
        simp [he']
    exact ⟨Or.inl ⟨by rw [hq]; exact QuietC.refl _, hl⟩, (fun i ht => nomatch ht),
      fun _ => ⟨by rw [hq]; exact QuietC.refl _, hl, by rw [hq]; exact Calm.refl _⟩⟩

theorem SrvOp.apply_step {st st' : SrvState} {op : SrvOp} (h : op.apply st = .ok st') : Step st st' :=
  (SrvOp.apply_spec h).step

theorem runSrv_pres {P : SrvState → Prop} : ∀ (ops : List SrvOp) (st st' : SrvState),
    (∀ op ∈ ops, ∀ s s', P s → op.apply s = .ok s' → P s') → P st → runSrv st ops = .ok st' → P st'
  | [], st, st', _, hp, h => by cases h; exact hp
  | op :: rest, st, st', hstep, hp, h => by
    unfold runSrv at h
    split at h
    · rename_i st1 h1
      exact runSrv_pres rest st1 st' (fun o ho => hstep o (List.mem_cons_of_mem _ ho))
        (hstep op List.mem_cons_self st st1 hp h1) h
    · cases h
    · cases h

def Event.about (id : Nat) : Event → Bool
  | .connected i => i == id
  | .disconnected i _ => i == id

/-- `AltFrom b l`: starting in state `b` ("currently connected"), `l` strictly alternates -/
def AltFrom : Bool → List Event → Prop
  | _, [] => True
  | b, .connected _ :: r => b = false ∧ AltFrom true r
  | b, .disconnected _ _ :: r => b = true ∧ AltFrom false r

/-- ClientConnected, ClientDisconnected, ClientConnected, … starting with ClientConnected -/
def Alternates (l : List Event) : Prop := AltFrom false l

/-- state after the list (its last entry decides, `b` if empty) -/
def curState : Bool → List Event → Bool
  | b, [] => b
  | _, .connected _ :: r => curState true r
  | _, .disconnected _ _ :: r => curState false r

def lastIsConnected (l : List Event) : Bool :=
  match l.getLast? with
  | some (.connected _) => true
  | _ => false

theorem curState_snoc (b : Bool) (l : List Event) (e : Event) :
    curState b (l ++ [e]) = match e with | .connected _ => true | .disconnected _ _ => false := by
  induction l generalizing b with
  | nil => cases e <;> rfl
  | cons x r ih => cases x <;> simp [curState, ih]

theorem curState_false_eq (l : List Event) : curState false l = lastIsConnected l := by
  rcases List.eq_nil_or_concat l with rfl | ⟨r, e, rfl⟩
  · rfl
  · rw [List.concat_eq_append, curState_snoc]
    cases e <;> simp [lastIsConnected]

theorem altFrom_snoc (b : Bool) (l : List Event) (e : Event) :
    AltFrom b (l ++ [e]) ↔ AltFrom b l ∧
      (match e with | .connected _ => curState b l = false | .disconnected _ _ => curState b l = true) := by
  induction l generalizing b with
  | nil => cases e <;> simp [AltFrom, curState]
  | cons x r ih => cases x <;> simp [AltFrom, curState, ih, and_assoc]

def Event.isConnect : Event → Bool
  | .connected _ => true
  | .disconnected _ _ => false

theorem altFrom_append (b : Bool) (l1 l2 : List Event) :
    AltFrom b (l1 ++ l2) ↔ AltFrom b l1 ∧ AltFrom (curState b l1) l2 := by
  induction l1 generalizing b with
  | nil => simp [AltFrom, curState]
  | cons x r ih => cases x <;> simp [AltFrom, curState, ih, and_assoc]

theorem filter_snoc_about (id : Nat) (l : List Event) (e : Event) :
    (l ++ [e]).filter (Event.about id) = if Event.about id e then l.filter (Event.about id) ++ [e] else l.filter (Event.about id) := by
  simp [List.filter_append, List.filter_cons]
  split <;> simp

/-- the invariant: keys unique; per client the log alternates and its last entry says whether the
    client is in the table -/
def SrvInv (st : SrvState) : Prop :=
  SMap.Sorted st.1.conns ∧
  ∀ id, Alternates ((eventLog st).filter (Event.about id)) ∧
        curState false ((eventLog st).filter (Event.about id)) = SMap.contains st.1.conns id

theorem srvInv_new (budget : Nat) (sc cc : List ChanCfg) : SrvInv (Server.new budget sc cc, []) :=
  ⟨SMap.sorted_nil, fun _ => ⟨trivial, rfl⟩⟩

theorem Step.inv {st st' : SrvState} (hs : Step st st') (hi : SrvInv st) : SrvInv st' := by
  obtain ⟨hsorted, hall⟩ := hi
  rcases hs with ⟨q, hl⟩ | ⟨id0, c0, hf, hc, hl⟩ | ⟨id0, c, r, hf, hc, hl, _⟩
  · refine ⟨q.sorted hsorted, fun id => ?_⟩
    rw [hl, q.contains id]
    exact hall id
  · refine ⟨by rw [hc]; exact SMap.sorted_insert _ _ _ hsorted, fun id => ?_⟩
    obtain ⟨ha, hcur⟩ := hall id
    rw [hl, filter_snoc_about, hc]
    by_cases e : id0 = id
    · subst e
      have hcf : SMap.contains st.1.conns id0 = false := by simp [SMap.contains, hf]
      simp only [Event.about, beq_self_eq_true, if_true]
      refine ⟨?_, ?_⟩
      · unfold Alternates
        rw [altFrom_snoc]
        exact ⟨ha, by simp only; rw [hcur, hcf]⟩
      · rw [curState_snoc]
        simp [SMap.contains, SMap.find?_insert_self]
    · have : (id0 == id) = false := by simp [e]
      simp only [Event.about, this]
      refine ⟨ha, ?_⟩
      simp only [SMap.contains] at hcur ⊢
      rw [SMap.find?_insert_ne _ _ e]
      simpa using hcur
  · refine ⟨by rw [hc]; exact SMap.sorted_erase _ _ hsorted, fun id => ?_⟩
    obtain ⟨ha, hcur⟩ := hall id
    rw [hl, filter_snoc_about, hc]
    by_cases e : id0 = id
    · subst e
      have hcf : SMap.contains st.1.conns id0 = true := by simp [SMap.contains, hf]
      simp only [Event.about, beq_self_eq_true, if_true]
      refine ⟨?_, ?_⟩
      · unfold Alternates
        rw [altFrom_snoc]
        exact ⟨ha, by simp only; rw [hcur, hcf]⟩
      · rw [curState_snoc]
        simp [SMap.contains, SMap.find?_erase_self hsorted.nodup _]
    · have : (id0 == id) = false := by simp [e]
      simp only [Event.about, this]
      refine ⟨ha, ?_⟩
      simp only [SMap.contains] at hcur ⊢
      rw [SMap.find?_erase_ne _ e]
      simpa using hcur

theorem runSrv_inv : ∀ (ops : List SrvOp) (st st' : SrvState), runSrv st ops = .ok st' → SrvInv st → SrvInv st' :=
  fun ops st st' h hi => runSrv_pres ops st st' (fun _ _ _ _ hp e => (SrvOp.apply_step e).inv hp) hi h

/-- what has happened to client `id` (stored disconnected with `r`) in terms of the events `new`
    pushed since: still stored with `r` and no event, or the next event about it reports `r` -/
def FirstReasonOutcome (id : Nat) (r : Reason) (st' : SrvState) (new : List Event) : Prop :=
  (new.filter (Event.about id) = [] ∧ ∃ c', SMap.find? st'.1.conns id = some c' ∧ c'.status = .disconnected r) ∨
  (∃ tl, new.filter (Event.about id) = .disconnected id r :: tl)

theorem Step.first_reason {st st' : SrvState} (hs : Step st st') (hsorted : SMap.Sorted st.1.conns)
    {id : Nat} {c : Conn} {r : Reason} (hf : SMap.find? st.1.conns id = some c)
    (hr : c.status = .disconnected r) :
    (eventLog st' = eventLog st ∧ ∃ c', SMap.find? st'.1.conns id = some c' ∧ c'.status = .disconnected r) ∨
    (∃ e, eventLog st' = eventLog st ++ [e] ∧ Event.about id e = false ∧
       ∃ c', SMap.find? st'.1.conns id = some c' ∧ c'.status = .disconnected r) ∨
    (eventLog st' = eventLog st ++ [.disconnected id r] ∧ SMap.find? st'.1.conns id = none) := by
  rcases hs with ⟨q, hl⟩ | ⟨id0, c0, hf0, hc, hl⟩ | ⟨id0, c1, r1, hf0, hc, hl, hr1⟩
  · obtain ⟨c', h1, h2⟩ := q.present id c hf
    exact Or.inl ⟨hl, c', h1, h2 r hr⟩
  · have hne : id ≠ id0 := by intro e; subst e; rw [hf] at hf0; cases hf0
    refine Or.inr (Or.inl ⟨_, hl, ?_, c, ?_, hr⟩)
    · simp [Event.about, Ne.symm hne]
    · rw [hc, SMap.find?_insert_ne _ _ hne.symm]; exact hf
  · by_cases e : id = id0
    · subst e
      rw [hf] at hf0; cases hf0
      have := hr1 r hr
      subst this
      exact Or.inr (Or.inr ⟨hl, by rw [hc]; exact SMap.find?_erase_self hsorted.nodup _⟩)
    · refine Or.inr (Or.inl ⟨_, hl, ?_, c, ?_, hr⟩)
      · simp [Event.about, Ne.symm e]
      · rw [hc, SMap.find?_erase_ne _ (Ne.symm e)]; exact hf

theorem Step.log_extends {st st' : SrvState} (hs : Step st st') : ∃ new, eventLog st' = eventLog st ++ new := by
  rcases hs with ⟨_, hl⟩ | ⟨_, _, _, _, hl⟩ | ⟨_, _, _, _, _, hl, _⟩
  · exact ⟨[], by simp [hl]⟩
  · exact ⟨_, hl⟩
  · exact ⟨_, hl⟩

theorem runSrv_first_reason : ∀ (ops : List SrvOp) (st st' : SrvState), runSrv st ops = .ok st' →
    SrvInv st → ∀ (id : Nat) (c : Conn) (r : Reason), SMap.find? st.1.conns id = some c →
    c.status = .disconnected r →
    ∃ new, eventLog st' = eventLog st ++ new ∧ FirstReasonOutcome id r st' new := by
  intro ops st st' h hi id c r hf hr
  -- the outcome, together with `SrvInv`, is preserved by every step
  refine (runSrv_pres (P := fun s => SrvInv s ∧ ∃ new, eventLog s = eventLog st ++ new ∧ FirstReasonOutcome id r s new)
    ops st st' ?_ ⟨hi, [], by simp, Or.inl ⟨rfl, c, hf, hr⟩⟩ h).2
  rintro op - s s' ⟨hs, new, hn, ho⟩ e
  have hstep := SrvOp.apply_step e
  refine ⟨hstep.inv hs, ?_⟩
  rcases ho with ⟨hnone, c', hf', hr'⟩ | ⟨tl, htl⟩
  · rcases hstep.first_reason hs.1 hf' hr' with ⟨hl, hc⟩ | ⟨ev, hl, he, hc⟩ | ⟨hl, -⟩
    · exact ⟨new, by rw [hl, hn], Or.inl ⟨hnone, hc⟩⟩
    · exact ⟨new ++ [ev], by rw [hl, hn, List.append_assoc],
        Or.inl ⟨by simp [List.filter_append, hnone, he], hc⟩⟩
    · exact ⟨new ++ [.disconnected id r], by rw [hl, hn, List.append_assoc],
        Or.inr ⟨[], by simp [List.filter_append, hnone, Event.about]⟩⟩
  · obtain ⟨n1, hl⟩ := hstep.log_extends
    exact ⟨new ++ n1, by rw [hl, hn, List.append_assoc],
      Or.inr ⟨tl ++ n1.filter (Event.about id), by rw [List.filter_append, htl]; rfl⟩⟩

/-! ### Server: what a client-addressed operation returns and does to its client depends on that client only -/
namespace Server
open RenetVerif.Server

/-- the addressed client's new connection together with the output -/
def viewAt {β : Type} (j : Nat) : Res Empty (Server × β) → Res Empty (Option Conn × β)
  | .ok (s, b) => .ok (SMap.find? s.conns j, b)
  | .err e => .err e
  | .panic p => .panic p

def slotAt (j : Nat) : Res Empty Server → Res Empty (Option Conn)
  | .ok s => .ok (SMap.find? s.conns j)
  | .err e => .err e
  | .panic p => .panic p

end Server

end RenetVerif.SL
