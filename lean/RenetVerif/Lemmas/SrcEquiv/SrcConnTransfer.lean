/-
  How a theorem about `MTr` runs becomes a theorem about `GConn` runs.

  * what the simulation relation says about everything the statements read off the generated state (`SimConn.status`, `.isDisc`,
    `.reason`, `.sendRel`, `.sent`, `.flushes_snoc`, `.mem_flushes`, …);
  * which model run lies behind a generated run (`behind`), behind a run and a continuation of it (`behind_ext`), behind a run
    and one more call that returned (`behind_step`);
  * the other direction for one more call: the generated call returns when the model call does (`push_step`, `push_flush`).
-/
import RenetVerif.Lemmas.SrcEquiv.SrcConnSystem
namespace RenetVerif.SrcConnSystem
open RenetVerif RenetVerif.RustSem RenetVerif.C RenetVerif.System RenetVerif.SrcEquiv RenetVerif.SrcSystem
open Src.renet.remote_connection

theorem MTr.run_single {t t' : MTr} {op : COp} (h : t.run [op] = some t') : t.step op = some t' := by
  obtain ⟨t1, hs, h⟩ := MTr.run_cons h
  cases h; exact hs

theorem MTr.run_snoc {t0 t1 t2 : MTr} {pre : List COp} {op : COp} (h1 : t0.run pre = some t1) (h2 : t1.step op = some t2) :
    t0.run (pre ++ [op]) = some t2 := by
  rw [MTr.run_append, h1]; simp only [Option.bind_some, MTr.run, h2]

section read
variable {t : MTr} {g : GConn} (sim : SimConn t g)
include sim

theorem SimConn.status : g.cl.connection_status = reprStatus t.c.status := by
  obtain ⟨mrs, hC⟩ := sim.cl; rw [hC]; rfl

theorem SimConn.isDisc : (RenetClient.is_disconnected g.cl : Res Empty Bool) = .ok t.c.isDisconnected := by
  obtain ⟨mrs, hC⟩ := sim.cl; rw [hC, SrcTie.conn_is_disconnected]

theorem SimConn.reason : (RenetClient.disconnect_reason g.cl : Res Empty _) = .ok (t.c.disconnectReason.map reprReason) := by
  obtain ⟨mrs, hC⟩ := sim.cl; rw [hC, SrcTie.conn_disconnect_reason]

theorem SimConn.now : g.cl.current_time = t.c.now := by
  obtain ⟨mrs, hC⟩ := sim.cl; rw [hC]; rfl

theorem SimConn.budget : g.cl.available_bytes_per_tick = t.c.budget := by
  obtain ⟨mrs, hC⟩ := sim.cl; rw [hC]; rfl

theorem SimConn.seq : g.cl.packet_sequence = t.c.packetSeq := by
  obtain ⟨mrs, hC⟩ := sim.cl; rw [hC]; rfl

theorem SimConn.sendRel (ch : Nat) :
    RustSem.Map.find? g.cl.send_reliable_channels ch = (SMap.find? t.c.sendRel ch).map reprSR := by
  obtain ⟨mrs, hC⟩ := sim.cl; rw [hC]; exact find_mapVals ..

theorem SimConn.sendUnrel (ch : Nat) :
    RustSem.Map.find? g.cl.send_unreliable_channels ch = (SMap.find? t.c.sendUnrel ch).map reprSU := by
  obtain ⟨mrs, hC⟩ := sim.cl; rw [hC]; exact find_mapVals ..

theorem SimConn.recvUnrel (ch : Nat) :
    RustSem.Map.find? g.cl.receive_unreliable_channels ch = (SMap.find? t.c.recvUnrel ch).map reprRU := by
  obtain ⟨mrs, hC⟩ := sim.cl; rw [hC]; exact find_mapVals ..

theorem SimConn.recvRel (ch : Nat) :
    ∃ mr, RustSem.Map.find? g.cl.receive_reliable_channels ch = (SMap.find? t.c.recvRel ch).map (reprRR mr) := by
  obtain ⟨mrs, hC⟩ := sim.cl; rw [hC]; exact ⟨_, find_reprRecvRel ..⟩

theorem SimConn.sent (q : Nat) :
    RustSem.Map.find? g.cl.sent_packets q = (SMap.find? t.c.sent q).map reprSentEntry := by
  obtain ⟨mrs, hC⟩ := sim.cl; rw [hC]; exact find_mapVals ..

theorem SimConn.pendingAcks : g.cl.pending_acks = t.c.pendingAcks.map ackR := by
  obtain ⟨mrs, hC⟩ := sim.cl; rw [hC]; rfl

theorem SimConn.sendRelTable : g.cl.send_reliable_channels = mapVals reprSR t.c.sendRel := by
  obtain ⟨mrs, hC⟩ := sim.cl; rw [hC]; rfl

theorem SimConn.mem_flushes {bs : List GBytes} (h : bs ∈ g.flushes) : ∃ bs0 ∈ t.flushes, bs = bs0.map toNats := by
  rw [sim.flushes] at h
  obtain ⟨bs0, h0, rfl⟩ := List.mem_map.mp h
  exact ⟨bs0, h0, rfl⟩

end read

theorem map_eq_some' {α β : Type} {f : α → β} {o : Option α} {y : β} (h : o.map f = some y) : ∃ x, o = some x ∧ y = f x := by
  cases o with
  | none => cases h
  | some x => exact ⟨x, rfl, (Option.some.inj h).symm⟩

theorem SimConn.flushes_snoc {t t' : MTr} {g g' : GConn} (sim : SimConn t g) (sim' : SimConn t' g') {bs : List Bytes}
    (h : t'.flushes = t.flushes ++ [bs]) : g'.flushes = g.flushes ++ [bs.map toNats] := by
  rw [sim'.flushes, sim.flushes, h, List.map_append]; rfl

theorem behind (cfg : Cfg) (ops : List COp) (g : GConn) (hr : CRunInRange cfg ops) (hg : GConn.exec cfg ops = some g) :
    ∃ t, (MTr.init cfg).run ops = some t ∧ SimConn t g ∧ EpGood t.c := by
  obtain ⟨t, ht, sim⟩ := crun_sim_conv cfg ops g hr hg
  exact ⟨t, ht, sim, epGood_run ops _ t (epGood_init cfg) ht⟩

theorem behind_ext (cfg : Cfg) (ops ext : List COp) (g g' : GConn) (hr : CRunInRange cfg (ops ++ ext))
    (hg : GConn.exec cfg ops = some g) (hg' : GConn.exec cfg (ops ++ ext) = some g') :
    ∃ t t', (MTr.init cfg).run ops = some t ∧ t.run ext = some t' ∧ SimConn t g ∧ SimConn t' g' ∧ EpGood t.c ∧
      CRunInRangeFrom t ext := by
  obtain ⟨t, ht, sim, hgood⟩ := behind cfg ops g (crunInRange_prefix cfg ops ext hr) hg
  obtain ⟨t', ht', sim'⟩ := crun_sim_conv cfg _ g' hr hg'
  rw [MTr.run_append, ht] at ht'
  exact ⟨t, t', ht, ht', sim, sim', hgood, crunInRangeFrom_suffix ops ht hr.2⟩

theorem behind_step (cfg : Cfg) (ops : List COp) (op : COp) (g g' : GConn) (hr : CRunInRange cfg (ops ++ [op]))
    (hg : GConn.exec cfg ops = some g) (hg' : GConn.exec cfg (ops ++ [op]) = some g') :
    ∃ t t', (MTr.init cfg).run ops = some t ∧ t.step op = some t' ∧ SimConn t g ∧ SimConn t' g' ∧ EpGood t.c ∧
      ConnInRange t.c ∧ COpInRange t.c op := by
  obtain ⟨t, t', ht, ht', sim, sim', hgood, hrg⟩ := behind_ext cfg ops [op] g g' hr hg hg'
  exact ⟨t, t', ht, MTr.run_single ht', sim, sim', hgood, hrg.1, hrg.2.1⟩

theorem push_step (cfg : Cfg) (ops : List COp) (op : COp) (g : GConn) (hr : CRunInRange cfg (ops ++ [op]))
    (hg : GConn.exec cfg ops = some g) :
    ∃ t, (MTr.init cfg).run ops = some t ∧ SimConn t g ∧ EpGood t.c ∧ ConnInRange t.c ∧ COpInRange t.c op ∧
      ∀ t', t.step op = some t' → ∃ g', GConn.exec cfg (ops ++ [op]) = some g' ∧ SimConn t' g' := by
  obtain ⟨t, ht, sim, hgood⟩ := behind cfg ops g (crunInRange_prefix cfg ops _ hr) hg
  have hrg := crunInRangeFrom_suffix ops ht hr.2
  exact ⟨t, ht, sim, hgood, hrg.1, hrg.2.1, fun t' hs => crun_sim cfg _ t' hr (MTr.run_snoc ht hs)⟩

theorem push_split (cfg : Cfg) {pre post : List COp} {op : COp} {t1 t2 : MTr} (hr : CRunInRange cfg (pre ++ op :: post))
    (h1 : (MTr.init cfg).run pre = some t1) (h2 : t1.step op = some t2) :
    ∃ g1 g2, GConn.exec cfg pre = some g1 ∧ GConn.exec cfg (pre ++ [op]) = some g2 ∧ SimConn t1 g1 ∧ SimConn t2 g2 := by
  have hr2 : CRunInRange cfg (pre ++ [op]) :=
    crunInRange_prefix cfg (pre ++ [op]) post (by rw [List.append_assoc]; exact hr)
  obtain ⟨g1, e1, sim1⟩ := crun_sim cfg pre t1 (crunInRange_prefix cfg pre _ hr) h1
  obtain ⟨g2, e2, sim2⟩ := crun_sim cfg _ t2 hr2 (MTr.run_snoc h1 h2)
  exact ⟨g1, g2, e1, e2, sim1, sim2⟩

theorem push_flush (cfg : Cfg) (ops : List COp) (g : GConn) (hr : CRunInRange cfg (ops ++ [.flush]))
    (hg : GConn.exec cfg ops = some g) :
    ∃ t c1 bs1 g', (MTr.init cfg).run ops = some t ∧ SimConn t g ∧ EpGood t.c ∧ ConnInRange t.c ∧
      t.c.getPacketsToSend = .ok (c1, bs1) ∧ GConn.exec cfg (ops ++ [.flush]) = some g' ∧
      SimConn { t with c := c1, flushes := t.flushes ++ [bs1] } g' ∧ g'.flushes = g.flushes ++ [bs1.map toNats] := by
  obtain ⟨t, ht, sim, hgood, hrange, -, push⟩ := push_step cfg ops .flush g hr hg
  have hc := countersOK_of_inRange hrange
  obtain ⟨c1, bs1, e1, -⟩ := Conn.getPacketsToSend_fits t.c (CI.flushInv_of hgood.sinv hc) hc.seq
  obtain ⟨g', e', sim'⟩ := push { t with c := c1, flushes := t.flushes ++ [bs1] } (by simp only [MTr.step, e1])
  exact ⟨t, c1, bs1, g', ht, sim, hgood, hrange, e1, e', sim', sim.flushes_snoc sim' rfl⟩

end RenetVerif.SrcConnSystem
