/-
  Whole-trace TOTALITY of the model `NetcodeClient` (`Netcode/Client.lean`), `trun_total`: along ANY trace of API calls inside
  the head room `HeadRoom c ops` — `current_time + Σ d + tmo c ≤ Duration::MAX` (`tmo c`: the token's OWN timeout as a
  duration) and `sequence + #(update | send calls) ≤ u64::MAX` — no call unwinds and the trace invariant `CTInv` is kept:
  `NetcodeClient.CInv` (time stamps not in the future, the full 32-entry address array of a token read by
  `ConnectToken::read`, an `i32` timeout) plus "the packet counter is a `u64`".
-/
import RenetVerif.Lemmas.NcClientTrace
namespace RenetVerif.NcClientTotal
open RenetVerif RenetVerif.Netcode RenetVerif.Netcode.Packet RenetVerif.Netcode.NetcodeClient RenetVerif.NcAead
open RenetVerif.NcClientTrace

structure CTInv (c : NetcodeClient) : Prop where
  /-- what `update` needs (`C07.client_update_total`) -/
  cinv : CInv c
  seq_u64 : c.sequence ≤ U64_MAX

/-- `new` on a token with a first address, 32 address slots and an `i32` timeout (what `ConnectToken::read` guarantees) -/
theorem ctinv_new_of {t : ConnectToken} (hlen : C.NETCODE_TOKEN_MAX_ADDRESSES ≤ t.serverAddresses.length)
    (hto : t.timeoutSeconds < 2 ^ 31) {now : Nat} {c : NetcodeClient}
    (hc : NetcodeClient.new now t = .ok c) : CTInv c ∧ c.currentTime = now ∧ c.sequence = 0 ∧ c.connectToken = t := by
  obtain ⟨_, _, rfl⟩ := Cl.new_ok.mp hc
  exact ⟨⟨⟨Nat.le_refl _, fun t h => (by cases h), Nat.le_refl _, hlen, hto⟩, Nat.zero_le _⟩, rfl, rfl, rfl⟩

/-- the client's own time-out as a duration (`Duration::from_secs(connect_token.timeout_seconds as u64)`; 0 when not positive) -/
def tmo (c : NetcodeClient) : Nat := fromSecs c.connectToken.timeoutSeconds.toNat

theorem update_ct (a : AEAD) {c : NetcodeClient} (d : Nat) (hinv : CTInv c)
    (ht : c.currentTime + d + tmo c ≤ DURATION_MAX) (hseq : c.sequence + 1 ≤ U64_MAX) :
    ∃ o c', NetcodeClient.update a c d = .ok (o, c') ∧ CTInv c' ∧ c'.currentTime = c.currentTime + d ∧
      c.sequence ≤ c'.sequence ∧ c'.sequence ≤ c.sequence + 1 ∧ c'.connectToken = c.connectToken ∧
      (Cl.isDisc c → o = none) := by
  obtain ⟨o, c', h, hi, h1, h2, h3, h4⟩ := update_cinv a d hinv.cinv ht hseq
  exact ⟨o, c', h, ⟨hi, by omega⟩, h1, h2, h3, h4⟩

theorem pp_ct (a : AEAD) {c : NetcodeClient} (buf : Bytes) (hinv : CTInv c) :
    ∃ r c', processPacket a c buf = .ok (r, c') ∧ CTInv c' ∧ c'.currentTime = c.currentTime ∧ c'.sequence = c.sequence ∧
      c'.connectToken = c.connectToken ∧ (r ≠ none → c.state = .connected) := by
  obtain ⟨r, c', hp⟩ := processPacket_total a c buf
  obtain ⟨hci, hs, ht⟩ := processPacket_cinv a hinv.cinv hp
  refine ⟨r, c', hp, ⟨hci, by rw [hs]; exact hinv.seq_u64⟩, ht, hs, (Cl.recv_spec hp).1, fun hr => ?_⟩
  cases r with
  | none => exact absurd rfl hr
  | some p => exact (processPacket_payload_inv a hp).1

def afterSend (c : NetcodeClient) : NetcodeClient :=
  { c with sequence := c.sequence + 1, lastPacketSendTime := some c.currentTime }

def payloadDatagram (a : AEAD) (c : NetcodeClient) (pl : Bytes) : Bytes :=
  sealedBytes a (.payload pl) c.connectToken.protocolId c.sequence c.connectToken.clientToServerKey

def disconnectDatagram (a : AEAD) (c : NetcodeClient) : Bytes :=
  sealedBytes a .disconnect c.connectToken.protocolId c.sequence c.connectToken.clientToServerKey

theorem send_eq (a : AEAD) (c : NetcodeClient) (pl : Bytes) :
    generatePayloadPacket a c pl =
      if pl.length > C.NETCODE_MAX_PAYLOAD_BYTES then .err .payloadAboveLimit
      else if c.state ≠ .connected then .err .clientNotConnected
      else if c.sequence + 1 ≤ U64_MAX then .ok ((c.serverAddr, payloadDatagram a c pl), afterSend c)
      else .panic "client.rs generate_payload_packet: sequence += 1" := by
  unfold generatePayloadPacket
  -- the same two tests on both sides
  refine ite_congr rfl (fun _ => rfl) fun hlen => ite_congr rfl (fun _ => rfl) fun _ => ?_
  have hmax : C.NETCODE_MAX_PAYLOAD_BYTES + 25 ≤ C.NETCODE_MAX_PACKET_BYTES := by decide
  rw [encode_sealed_fits a (.payload pl) _ _ _ _ (fun hh => nomatch hh) (by show pl.length + 25 ≤ _; omega)]
  simp only [Res.bind_ok, incU64]
  split <;> rfl

theorem ctinv_afterSend {c : NetcodeClient} (hinv : CTInv c) (hseq : c.sequence + 1 ≤ U64_MAX) : CTInv (afterSend c) :=
  ⟨⟨hinv.cinv.start_le, fun t h => (by cases h; exact Nat.le_refl _), hinv.cinv.recv_le, hinv.cinv.addrs, hinv.cinv.timeout⟩,
    hseq⟩

theorem disconnect_eq (a : AEAD) (c : NetcodeClient) :
    NetcodeClient.disconnect a c =
      (.ok (c.serverAddr, disconnectDatagram a c), { c with state := .disconnected .disconnectedByClient }) := by
  unfold NetcodeClient.disconnect
  dsimp only
  rw [encode_sealed_fits a .disconnect _ _ _ _ (fun hh => nomatch hh) (by decide)]
  rfl

theorem ctinv_disconnect (a : AEAD) {c : NetcodeClient} (hinv : CTInv c) : CTInv (NetcodeClient.disconnect a c).2 :=
  ⟨⟨hinv.cinv.start_le, hinv.cinv.send_le, hinv.cinv.recv_le, hinv.cinv.addrs, hinv.cinv.timeout⟩, hinv.seq_u64⟩

inductive Out where
  | sent (o : Option (Bytes × Addr))
  | received (p : Option Bytes)
  | payload (r : Addr × Bytes)
  | payloadErr (e : NetcodeError)
  | disconnected (r : Addr × Bytes)
  | disconnectErr (e : NetcodeError)

def tstep (a : AEAD) (c : NetcodeClient) : Cl.COp → Option (Out × NetcodeClient)
  | .update d =>
    match c.update a d with
    | .ok (o, c') => some (.sent o, c')
    | _ => none
  | .recv buf =>
    match c.processPacket a buf with
    | .ok (p, c') => some (.received p, c')
    | _ => none
  | .send p =>
    match c.generatePayloadPacket a p with
    | .ok (r, c') => some (.payload r, c')
    | .err e => some (.payloadErr e, c)
    | .panic _ => none
  | .disconnect =>
    match (c.disconnect a).1 with
    | .ok r => some (.disconnected r, (c.disconnect a).2)
    | .err e => some (.disconnectErr e, (c.disconnect a).2)
    | .panic _ => none

def trun (a : AEAD) : NetcodeClient → List Cl.COp → Option (NetcodeClient × List (NetcodeClient × Cl.COp × Out))
  | c, [] => some (c, [])
  | c, op :: ops =>
    match tstep a c op with
    | none => none
    | some (o, c') =>
      match trun a c' ops with
      | none => none
      | some (c'', log) => some (c'', (c, op, o) :: log)

/-- **the documented outcomes** of a call `op` made in state `c`:
    `update` → `Ok(Option<(datagram, addr)>)`, nothing when disconnected;
    `process_packet` → `Option<payload>`, `Some` only when connected;
    `generate_payload_packet` → `Ok((server_addr, the sealed Payload datagram))` iff connected and `len ≤ NETCODE_MAX_PAYLOAD_BYTES` (1300), else
       `Err(PayloadAboveLimit)` (`len > 1300`) or `Err(ClientNotConnected)`;
    `disconnect` → `Ok((server_addr, the sealed Disconnect datagram))`, never `Err`. -/
def Documented (a : AEAD) (c : NetcodeClient) : Cl.COp → Out → Prop
  | .update _, .sent o => Cl.isDisc c → o = none
  | .recv _, .received p => p ≠ none → c.state = .connected
  | .send pl, .payload r =>
    pl.length ≤ C.NETCODE_MAX_PAYLOAD_BYTES ∧ c.state = .connected ∧ r = (c.serverAddr, payloadDatagram a c pl)
  | .send pl, .payloadErr e =>
    (pl.length > C.NETCODE_MAX_PAYLOAD_BYTES ∧ e = .payloadAboveLimit) ∨
    (pl.length ≤ C.NETCODE_MAX_PAYLOAD_BYTES ∧ c.state ≠ .connected ∧ e = .clientNotConnected)
  | .disconnect, .disconnected r => r = (c.serverAddr, disconnectDatagram a c)
  | _, _ => False

def dur : Cl.COp → Nat
  | .update d => d
  | _ => 0

/-- the calls that may use a sequence number and advance the counter: `update` (at most one packet) and `generate_payload_packet`
    (`disconnect` seals with the current number without advancing it) -/
def sends : Cl.COp → Nat
  | .update _ => 1
  | .send _ => 1
  | _ => 0

def totalDur (ops : List Cl.COp) : Nat := (ops.map dur).sum
def totalSends (ops : List Cl.COp) : Nat := (ops.map sends).sum

def HeadRoom (c : NetcodeClient) (ops : List Cl.COp) : Prop :=
  c.currentTime + totalDur ops + tmo c ≤ DURATION_MAX ∧ c.sequence + totalSends ops ≤ U64_MAX

instance (c : NetcodeClient) (ops : List Cl.COp) : Decidable (HeadRoom c ops) := by unfold HeadRoom; infer_instance

@[simp] theorem totalDur_cons (op : Cl.COp) (ops : List Cl.COp) : totalDur (op :: ops) = dur op + totalDur ops := by
  simp [totalDur]
@[simp] theorem totalSends_cons (op : Cl.COp) (ops : List Cl.COp) : totalSends (op :: ops) = sends op + totalSends ops := by
  simp [totalSends]

theorem tstep_total (a : AEAD) {c : NetcodeClient} (op : Cl.COp) (hinv : CTInv c)
    (ht : c.currentTime + dur op + tmo c ≤ DURATION_MAX) (hseq : c.sequence + sends op ≤ U64_MAX) :
    ∃ o c', tstep a c op = some (o, c') ∧ Documented a c op o ∧ CTInv c' ∧ c'.currentTime = c.currentTime + dur op ∧
      c.sequence ≤ c'.sequence ∧ c'.sequence ≤ c.sequence + sends op ∧ c'.connectToken = c.connectToken := by
  cases op with
  | update d =>
    obtain ⟨o, c', hu, hi, h1, h2, h3, h4, h5⟩ := update_ct a d hinv ht hseq
    exact ⟨.sent o, c', by simp only [tstep, hu], h5, hi, h1, h2, h3, h4⟩
  | recv buf =>
    obtain ⟨r, c', hp, hi, h1, h2, h3, h4⟩ := pp_ct a buf hinv
    exact ⟨.received r, c', by simp only [tstep, hp], h4, hi, h1, by omega, by omega, h3⟩
  | send pl =>
    have he := send_eq a c pl
    by_cases hlen : pl.length > C.NETCODE_MAX_PAYLOAD_BYTES
    · rw [if_pos hlen] at he
      exact ⟨.payloadErr .payloadAboveLimit, c, by simp only [tstep, he], Or.inl ⟨hlen, rfl⟩, hinv, rfl, Nat.le_refl _,
        Nat.le_add_right _ _, rfl⟩
    · rw [if_neg hlen] at he
      by_cases hst : c.state ≠ .connected
      · rw [if_pos hst] at he
        exact ⟨.payloadErr .clientNotConnected, c, by simp only [tstep, he], Or.inr ⟨by omega, hst, rfl⟩, hinv, rfl,
          Nat.le_refl _, Nat.le_add_right _ _, rfl⟩
      · have hseq' : c.sequence + 1 ≤ U64_MAX := hseq
        rw [if_neg hst, if_pos hseq'] at he
        exact ⟨.payload (c.serverAddr, payloadDatagram a c pl), afterSend c, by simp only [tstep, he],
          ⟨by omega, by simpa using hst, rfl⟩, ctinv_afterSend hinv hseq, rfl, Nat.le_succ _, Nat.le_refl _, rfl⟩
  | disconnect =>
    have he := disconnect_eq a c
    refine ⟨.disconnected (c.serverAddr, disconnectDatagram a c), (NetcodeClient.disconnect a c).2, ?_, rfl,
      ctinv_disconnect a hinv, rfl, Nat.le_refl _, Nat.le_refl _, rfl⟩
    simp only [tstep, he]

/-- **whole-trace totality** of the model client: from a client satisfying `CTInv`, along ANY trace of `update` (any duration),
    `process_packet` (ARBITRARY bytes), `generate_payload_packet` (any payload) and `disconnect` calls inside the head room, no
    call unwinds; the final client satisfies `CTInv`, holds the same token, its clock is `current_time + Σ d`, its counter moved
    by at most the number of sending calls, and every logged result is a documented outcome. -/
theorem trun_total (a : AEAD) : ∀ (ops : List Cl.COp) {c : NetcodeClient}, CTInv c → HeadRoom c ops →
    ∃ c' log, trun a c ops = some (c', log) ∧ CTInv c' ∧ c'.currentTime = c.currentTime + totalDur ops ∧
      c.sequence ≤ c'.sequence ∧ c'.sequence ≤ c.sequence + totalSends ops ∧ c'.connectToken = c.connectToken ∧
      log.map (·.2.1) = ops ∧ ∀ x ∈ log, CTInv x.1 ∧ Documented a x.1 x.2.1 x.2.2 := by
  intro ops
  induction ops with
  | nil =>
    intro c hinv _
    exact ⟨c, [], rfl, hinv, rfl, Nat.le_refl _, Nat.le_refl _, rfl, rfl, fun x hx => nomatch hx⟩
  | cons op ops ih =>
    intro c hinv hr
    obtain ⟨hr1, hr2⟩ := hr
    rw [totalDur_cons] at hr1
    rw [totalSends_cons] at hr2
    obtain ⟨o, c1, hs, hdoc, hi1, t1, s1, s2, k1⟩ := tstep_total a op hinv (by omega) (by omega)
    have hk : tmo c1 = tmo c := by unfold tmo; rw [k1]
    obtain ⟨c', log, hrun, hi', t', s1', s2', k', hl, hdocs⟩ := ih hi1 ⟨by omega, by omega⟩
    refine ⟨c', (c, op, o) :: log, by simp only [trun, hs, hrun], hi', by rw [totalDur_cons]; omega, by omega,
      by rw [totalSends_cons]; omega, by rw [k', k1], by simp only [List.map_cons, hl], ?_⟩
    intro x hx
    rcases List.mem_cons.mp hx with rfl | hx
    · exact ⟨hinv, hdoc⟩
    · exact hdocs x hx

def surfaced : Cl.COp → Out → Option (Bytes × Bytes)
  | .recv buf, .received (some p) => some (buf, p)
  | _, _ => none

theorem pstep_eq (a : AEAD) (c : NetcodeClient) (op : Cl.COp) :
    pstep a c op = (tstep a c op).map fun x => (x.2, surfaced op x.1) := by
  cases op with
  | update d =>
    simp only [pstep, tstep]
    rcases c.update a d with ⟨o, c'⟩ | e | m <;> rfl
  | recv buf =>
    simp only [pstep, tstep]
    rcases c.processPacket a buf with ⟨_ | p, c'⟩ | e | m <;> rfl
  | send pl =>
    simp only [pstep, tstep]
    rcases c.generatePayloadPacket a pl with ⟨r, c'⟩ | e | m <;> rfl
  | disconnect =>
    simp only [pstep, tstep]
    cases (NetcodeClient.disconnect a c).1 <;> rfl

theorem prun_eq (a : AEAD) : ∀ (ops : List Cl.COp) (c : NetcodeClient),
    prun a c ops = (trun a c ops).map fun x => (x.1, x.2.filterMap fun l => surfaced l.2.1 l.2.2)
  | [], _ => rfl
  | op :: ops, c => by
    simp only [prun, trun, pstep_eq]
    cases tstep a c op with
    | none => rfl
    | some x =>
      simp only [Option.map_some, prun_eq a ops x.2]
      cases trun a x.2 ops with
      | none => rfl
      | some y => cases h : surfaced op x.1 <;> simp [h]

end RenetVerif.NcClientTotal
