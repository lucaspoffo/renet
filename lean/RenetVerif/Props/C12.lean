/-
  C12 — Once a connection is disconnected it stays so and keeps the first reason: it emits no packets,
  accepts no packets and yields no messages, and no transport status call revives it.  A server reports
  for every client id an alternation ClientConnected, ClientDisconnected, ClientConnected, … in that
  order: never a disconnect without a preceding connect, never two connects without a disconnect between
  them, and a removal reports the reason the connection was first disconnected with (Transport if it was
  still healthy).

  Model: Renet/Conn.lean (`RenetClient`), Renet/Server.lean (`RenetServer`).
  Vocabulary (Lemmas/ServerLemmas.lean, namespace `RenetVerif.SL`):
    `ConnOp`, `ConnOp.apply`, `Conn.runOps`  – every public operation of a connection, as data
    `SrvOp`, `SrvOp.apply`, `runSrv`         – every public operation of the server, as data; the state is
                                               the server plus the events `get_event` already popped
    `eventLog st = popped ++ pending`        – all events ever pushed, in order
    `Alternates`, `lastIsConnected`          – see `alternates_first`, `alternates_no_repeat`
-/
import RenetVerif.Lemmas.ServerLemmas
namespace RenetVerif.C12
open RenetVerif RenetVerif.SL

/-! ### 1. Disconnected is absorbing and keeps the first reason -/

/-- A disconnected connection: the status calls of the transport (`set_connected`, `set_connecting`) and
    any further `disconnect` leave it untouched; `send_message` is ignored; `receive_message` yields
    nothing; `process_packet` accepts nothing (state unchanged); `get_packets_to_send` emits nothing;
    `update` (the one operation the code does not guard) keeps the status. -/
theorem disconnected_absorbing (c : Conn) (r : Reason) (h : c.status = .disconnected r) :
    c.setConnected = c ∧ c.setConnecting = c ∧ (∀ r', c.disconnectWith r' = c) ∧
    (∀ ch m, c.sendMessage ch m = .ok c) ∧
    (∀ ch, c.receiveMessage ch = .ok (c, none)) ∧
    (∀ bytes, c.processPacket bytes = .ok c) ∧
    c.getPacketsToSend = .ok (c, []) ∧
    (∀ dt c', c.update dt = .ok c' → c'.status = .disconnected r) :=
  ⟨Conn.setConnected_of_disconnected h, Conn.setConnecting_of_disconnected h,
   fun r' => Conn.disconnectWith_of_disconnected h r',
   fun ch m => Conn.sendMessage_of_disconnected h ch m,
   fun ch => Conn.receiveMessage_of_disconnected h ch,
   fun b => Conn.processPacket_of_disconnected h b,
   Conn.getPacketsToSend_of_disconnected h,
   fun _ _ hu => Conn.update_keeps hu r h⟩

theorem update_never_writes_status (c c' : Conn) (dt : Nat) (h : c.update dt = .ok c') :
    c'.status = c.status := (Conn.update_frame h).status

/-- One operation of any kind, with any arguments, on any connection: a disconnected status and its
    reason survive. -/
theorem status_first_reason (c c' : Conn) (op : ConnOp) (r : Reason)
    (h : op.apply c = .ok c') (hr : c.status = .disconnected r) : c'.status = .disconnected r := by
  cases op with
  | update dt => rw [(Conn.update_frame h).status]; exact hr
  | _ =>
    rw [ConnOp.apply_of_disconnected hr _ (fun _ e => ConnOp.noConfusion e)] at h
    cases h
    exact hr

/-- … and so for every sequence of operations. -/
theorem status_monotone (ops : List ConnOp) (c c' : Conn) (r : Reason)
    (h : Conn.runOps c ops = .ok c') (hr : c.status = .disconnected r) : c'.status = .disconnected r :=
  Conn.runOps_pres (P := Conn.Keeps c) (fun _ c1 op hk e => hk.trans fun r1 => status_first_reason _ c1 op r1 e) ops c c' (Conn.Keeps.refl c) h r hr

/-- The first reason wins: disconnect a live connection with `r`, then do anything (including
    disconnecting again with other reasons); the status is still `disconnected r`. -/
theorem first_reason_wins (c c' : Conn) (r : Reason) (ops : List ConnOp) (hc : c.isDisconnected = false)
    (h : Conn.runOps (c.disconnectWith r) ops = .ok c') : c'.status = .disconnected r := by
  apply status_monotone ops _ c' r h
  rw [Conn.disconnectWith_status, hc]; rfl

/-- Apart from `update` (which only advances the clock and expires bookkeeping), operations on a
    disconnected connection do not change it at all. -/
theorem disconnected_frozen (c : Conn) (r : Reason) (h : c.status = .disconnected r) (op : ConnOp)
    (hop : ∀ dt, op ≠ .update dt) : op.apply c = .ok c := ConnOp.apply_of_disconnected h op hop

/-! ### 2. Event alternation -/

/-- What `Alternates` says, part 1: the first event about a client is a connect ("never a disconnect
    without a preceding connect" – together with part 2). -/
theorem alternates_first (e : Event) (l : List Event) (h : Alternates (e :: l)) : Event.isConnect e = true := by
  cases e with
  | connected i => rfl
  | disconnected i r => exact absurd h.1 (by decide)

/-- What `Alternates` says, part 2: two consecutive events are of different kinds ("never two connects
    without a disconnect between them", and never two disconnects without a connect between them). -/
theorem alternates_no_repeat (l1 l2 : List Event) (a b : Event) (h : Alternates (l1 ++ a :: b :: l2)) :
    Event.isConnect a ≠ Event.isConnect b := by
  unfold Alternates at h
  rw [altFrom_append] at h
  have h2 := h.2
  cases a <;> cases b <;> simp [AltFrom, Event.isConnect] at h2 ⊢

/-- Starting from a fresh server, after any sequence of public operations with any arguments (that does
    not hit a documented panic of the API), for every client id: the events ever reported about it
    alternate connect / disconnect starting with a connect, and the last one is a connect exactly when
    the id is in the connection table. -/
theorem events_alternate (budget : Nat) (serverCh clientCh : List ChanCfg) (ops : List SrvOp)
    (st : SrvState) (h : runSrv (Server.new budget serverCh clientCh, []) ops = .ok st) (id : Nat) :
    Alternates ((eventLog st).filter (Event.about id)) ∧
    (lastIsConnected ((eventLog st).filter (Event.about id)) = true ↔ SMap.contains st.1.conns id = true) := by
  obtain ⟨_, hall⟩ := runSrv_inv ops _ st h (srvInv_new budget serverCh clientCh)
  obtain ⟨ha, hc⟩ := hall id
  rw [curState_false_eq] at hc
  exact ⟨ha, by rw [hc]⟩

/-- The invariant is inductive: it holds of the fresh server and every operation preserves it (so the
    statement above also holds for runs continued from any reachable state). -/
theorem events_invariant_step (st st' : SrvState) (op : SrvOp) (h : op.apply st = .ok st')
    (hi : SrvInv st) : SrvInv st' := (SrvOp.apply_step h).inv hi

-- `SMap.Sorted` in this file is the server table's `SL.SMap.Sorted` (inside `RenetVerif` the name would otherwise
-- be read as `RenetVerif.SMap.Sorted` of `Lemmas/SMap`, the same predicate under another name)
namespace SMap
export RenetVerif.SL.SMap (Sorted)
end SMap

/-- Ids in the table are unique in every reachable state. -/
theorem reachable_sorted (budget : Nat) (serverCh clientCh : List ChanCfg) (ops : List SrvOp)
    (st : SrvState) (h : runSrv (Server.new budget serverCh clientCh, []) ops = .ok st) :
    SMap.Sorted st.1.conns := (runSrv_inv ops _ st h (srvInv_new budget serverCh clientCh)).1

/-! ### 3. A removal reports the first reason -/

/-- `remove_connection` on a present id pushes exactly one event: `ClientDisconnected` with the stored
    reason if the connection is disconnected, `Transport` if it is still healthy. -/
theorem removeConnection_reports (s : Server) (id : Nat) (c : Conn) (h : SMap.find? s.conns id = some c) :
    (s.removeConnection id).events =
      s.events ++ [.disconnected id (match c.status with | .disconnected r => r | _ => .transport)] ∧
    (s.removeConnection id).conns = SMap.erase s.conns id := by
  simp only [Server.removeConnection, h, Conn.disconnectReason, and_true]
  cases c.status <;> rfl

/-- … and on an absent id it does nothing. -/
theorem removeConnection_absent (s : Server) (id : Nat) (h : SMap.find? s.conns id = none) :
    s.removeConnection id = s := by simp [Server.removeConnection, h]

/-- `disconnect_local_client` with a live client object and a present id: one `ClientDisconnected` event
    carrying the stored reason if there is one, else `DisconnectedByClient`. -/
theorem disconnectLocalClient_reports (s : Server) (id : Nat) (cl c : Conn) (hcl : cl.isDisconnected = false)
    (h : SMap.find? s.conns id = some c) :
    (s.disconnectLocalClient id cl).1.events =
      s.events ++ [.disconnected id (match c.status with | .disconnected r => r | _ => .byClient)] ∧
    (s.disconnectLocalClient id cl).1.conns = SMap.erase s.conns id ∧
    (s.disconnectLocalClient id cl).2.status = .disconnected .byClient := by
  simp only [Server.disconnectLocalClient, hcl, h, Conn.disconnectReason, Conn.disconnectWith]
  cases c.status <;> simp

/-- … with an already disconnected client object, or an absent id, the server is unchanged. -/
theorem disconnectLocalClient_noop (s : Server) (id : Nat) (cl : Conn)
    (h : cl.isDisconnected = true ∨ SMap.find? s.conns id = none) :
    (s.disconnectLocalClient id cl).1 = s := by
  unfold Server.disconnectLocalClient
  rcases h with h | h
  · simp [h]
  · split
    · rfl
    · simp [h]

/-- Combined with part 1: in a reachable state let client `id` be stored as disconnected with reason
    `r`.  Whatever the application does next (disconnect it again, feed it packets, send, update,
    remove it, re-add it, …), with `new` the events pushed since: either nothing was reported about
    `id` and it is still stored as disconnected with `r`, or the first event reported about `id` is
    `ClientDisconnected {id, r}`. -/
theorem removal_reports_first_reason (budget : Nat) (serverCh clientCh : List ChanCfg)
    (ops0 ops : List SrvOp) (st st' : SrvState)
    (h0 : runSrv (Server.new budget serverCh clientCh, []) ops0 = .ok st)
    (id : Nat) (c : Conn) (r : Reason)
    (hf : SMap.find? st.1.conns id = some c) (hr : c.status = .disconnected r)
    (h : runSrv st ops = .ok st') :
    ∃ new, eventLog st' = eventLog st ++ new ∧
      ((new.filter (Event.about id) = [] ∧
          ∃ c', SMap.find? st'.1.conns id = some c' ∧ c'.status = .disconnected r) ∨
       (∃ tl, new.filter (Event.about id) = .disconnected id r :: tl)) :=
  runSrv_first_reason ops st st' h (runSrv_inv ops0 _ st h0 (srvInv_new budget serverCh clientCh)) id c r hf hr

section Examples

def cfg : List ChanCfg := [⟨0, .ordered, 1000, 300⟩, ⟨1, .unreliable, 1000, 0⟩]
def srv0 : Server := Server.new 60000 cfg cfg
def conn0 : Conn := (Conn.fromChannels 60000 cfg cfg).setConnected

def logOf (x : Res Empty SrvState) : Option (List Event) :=
  match x with | .ok st => some (eventLog st) | _ => none
def statusOf (x : Res Empty Conn) : Option Status :=
  match x with | .ok c => some c.status | _ => none

/-- a live connection is killed by an undecodable packet; nothing afterwards changes the reason -/
example : statusOf (Conn.runOps conn0 [.sendMessage 0 [1, 2, 3], .processPacket [255], .setConnected,
      .disconnectWith .transport, .sendMessage 1 [9], .processPacket [255], .update 5, .getPacketsToSend,
      .disconnect, .setConnecting, .receiveMessage 0]) =
    some (.disconnected (.packetDeser .invalidPacketType)) := by decide

/-- two clients; 1 is disconnected by the server, then removed (reports DisconnectedByServer, not
    Transport), removed again (nothing), re-added; 2 is killed by a bad packet and removed. -/
example : logOf (runSrv (srv0, []) [.add 1, .add 2, .add 1, .disconnect 1, .send 2 0 [1, 2, 3], .remove 1,
      .remove 1, .getEvent, .add 1, .processPacketFrom [255] 2, .disconnect 2, .remove 2, .remove 7]) =
    some [.connected 1, .connected 2, .disconnected 1 .byServer, .connected 1,
          .disconnected 2 (.packetDeser .invalidPacketType)] := by decide

/-- a healthy connection is reported with Transport; a local client with DisconnectedByClient -/
example : logOf (runSrv (srv0, []) [.add 1, .newLocalClient 2, .remove 1, .disconnectLocalClient 2 conn0]) =
    some [.connected 1, .connected 2, .disconnected 1 .transport, .disconnected 2 .byClient] := by decide

end Examples

end RenetVerif.C12
