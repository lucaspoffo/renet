/-
  Transfer lemmas for `Props/SrcPropsNcServer.lean` / `Props/SrcPropsNcClient.lean`: the netcode property theorems (C04, C05,
  C07, C10, C17, C18, C19; proved over the hand-written model `Netcode/Server.lean`, `Netcode/Client.lean`) carried to
  statements about the GENERATED `Src.renetcode.server.NetcodeServer` / `Src.renetcode.client.NetcodeClient` functions
  (the Lean text the translator derives from the current `renetcode/src/{server,client}.rs`).

  * `SrvRepr g s` / `CliRepr g c`: the generated state `g` is the image of the model state (`reprNS g.out s` /
    `reprNC g.out c`) and its scratch buffer `out` has `NETCODE_MAX_PACKET_BYTES` entries.
  * inputs are intrinsic: `BytesOk` byte lists (entries `< 256`), `AddrOk` socket addresses (octets `< 256`, IPv6 flow
    info / scope id 0 — the model does not have them).
  * for each tied function a `*_tie` lemma: "model returns `ok` and the generated function returns the image, or both
    panic" (`process_packet`, `update_client`, `disconnect`, `update`, `generate_payload_packet`; client
    `process_packet`, `update`, `generate_packet`, `generate_payload_packet`), from the `SrcTie` theorems.
-/
import RenetVerif.Props.SrcTieNcServerQuery
import RenetVerif.Props.SrcTieNcServerSend
import RenetVerif.Props.SrcTieNcServerRecv
import RenetVerif.Props.SrcTieNcClient
import RenetVerif.Props.SrcTieNcCodec
import RenetVerif.Lemmas.ResMonad
import RenetVerif.Lemmas.SrcCorollaries
import RenetVerif.Lemmas.NcTablePP
import RenetVerif.Lemmas.NcWire
import RenetVerif.Lemmas.NcExamples
-- applying a tie stated with `SameOutcome` makes the elaborator unfold `SameOutcome` in search of further arguments, and
-- with it the generated function it is applied to
set_option maxRecDepth 10000
namespace RenetVerif.SrcCorNc
open RenetVerif RenetVerif.SrcEquiv RenetVerif.SrcTie RenetVerif.SrcCor RenetVerif.RustSem RenetVerif.Netcode
open Src.renetcode.server

def AddrOk : RustSem.SocketAddr → Prop
  | .v4 ip _ => BytesOk ip
  | .v6 ip _ fl sc => BytesOk ip ∧ fl = 0 ∧ sc = 0

def absAddr : RustSem.SocketAddr → Addr
  | .v4 ip port => .v4 (ofNats ip) port
  | .v6 ip port _ _ => .v6 (ofNats ip) port

theorem reprAddr_absAddr {ga : RustSem.SocketAddr} (h : AddrOk ga) : reprAddr (absAddr ga) = ga := by
  cases ga with
  | v4 ip port => simp only [absAddr, reprAddr, toNats_ofNats (show BytesOk ip from h)]
  | v6 ip port fl sc =>
    obtain ⟨h1, rfl, rfl⟩ := h
    simp only [absAddr, reprAddr, toNats_ofNats h1]

theorem addrOk_reprAddr (addr : Addr) : AddrOk (reprAddr addr) := by
  cases addr with
  | v4 ip port => exact bytesOk_toNats ip
  | v6 ip port => exact ⟨bytesOk_toNats ip, rfl, rfl⟩

theorem addrOk_iff (ga : RustSem.SocketAddr) : AddrOk ga ↔ ∃ addr, ga = reprAddr addr :=
  ⟨fun h => ⟨absAddr ga, (reprAddr_absAddr h).symm⟩, fun ⟨addr, e⟩ => e ▸ addrOk_reprAddr addr⟩

theorem bytesOk_iff (l : List Nat) : BytesOk l ↔ ∃ b : Bytes, l = toNats b :=
  ⟨fun h => ⟨ofNats l, (toNats_ofNats h).symm⟩, fun ⟨b, e⟩ => e ▸ bytesOk_toNats b⟩

def SrvRepr (g : SNetcodeServer) (s : Netcode.NetcodeServer) : Prop :=
  g.out.length = C.NETCODE_MAX_PACKET_BYTES ∧ g = reprNS g.out s

theorem srvRepr_mk {out : List Nat} (hout : out.length = C.NETCODE_MAX_PACKET_BYTES) (s : Netcode.NetcodeServer) :
    SrvRepr (reprNS out s) s := ⟨hout, rfl⟩

theorem SrvRepr.clients {g : SNetcodeServer} {s : Netcode.NetcodeServer} (h : SrvRepr g s) :
    g.clients = s.clients.map (Option.map reprNConn) := by rw [h.2]; rfl
theorem SrvRepr.pending {g : SNetcodeServer} {s : Netcode.NetcodeServer} (h : SrvRepr g s) :
    g.pending_clients = s.pendingClients.map (fun p => (reprAddr p.1, reprNConn p.2)) := by rw [h.2]; rfl
theorem SrvRepr.entries {g : SNetcodeServer} {s : Netcode.NetcodeServer} (h : SrvRepr g s) :
    g.connect_token_entries = s.connectTokenEntries.map (Option.map reprEntry) := by rw [h.2]; rfl
theorem SrvRepr.protocol_id {g : SNetcodeServer} {s : Netcode.NetcodeServer} (h : SrvRepr g s) :
    g.protocol_id = s.protocolId := by rw [h.2]; rfl
theorem SrvRepr.current_time {g : SNetcodeServer} {s : Netcode.NetcodeServer} (h : SrvRepr g s) :
    g.current_time = s.currentTime := by rw [h.2]; rfl
theorem SrvRepr.global_sequence {g : SNetcodeServer} {s : Netcode.NetcodeServer} (h : SrvRepr g s) :
    g.global_sequence = s.globalSequence := by rw [h.2]; rfl
theorem SrvRepr.challenge_sequence {g : SNetcodeServer} {s : Netcode.NetcodeServer} (h : SrvRepr g s) :
    g.challenge_sequence = s.challengeSequence := by rw [h.2]; rfl
theorem SrvRepr.challenge_key {g : SNetcodeServer} {s : Netcode.NetcodeServer} (h : SrvRepr g s) :
    g.challenge_key = toNats s.challengeKey := by rw [h.2]; rfl
theorem SrvRepr.connect_key {g : SNetcodeServer} {s : Netcode.NetcodeServer} (h : SrvRepr g s) :
    g.connect_key = toNats s.connectKey := by rw [h.2]; rfl
theorem SrvRepr.max_clients {g : SNetcodeServer} {s : Netcode.NetcodeServer} (h : SrvRepr g s) :
    g.max_clients = s.maxClients := by rw [h.2]; rfl
theorem SrvRepr.entries_pos {g : SNetcodeServer} {s : Netcode.NetcodeServer} (h : SrvRepr g s) :
    0 < g.connect_token_entries.length ↔ 0 < s.connectTokenEntries.length := by rw [h.entries, List.length_map]

/-- a generated server state the model can name (every byte list holds bytes, addresses are `AddrOk`, replay windows have
    256 entries, the scratch buffer has `NETCODE_MAX_PACKET_BYTES` entries) -/
def WfS (g : SNetcodeServer) : Prop := ∃ s, SrvRepr g s

theorem slot_of_repr {g : SNetcodeServer} {s : Netcode.NetcodeServer} (h : SrvRepr g s) {i : Nat} {gc : SConnection}
    (hi : g.clients[i]? = some (some gc)) : ∃ c, s.clients[i]? = some (some c) ∧ gc = reprNConn c := by
  rw [h.clients, List.getElem?_map] at hi
  generalize s.clients[i]? = x at hi ⊢
  rcases x with _ | _ | c <;> cases hi
  exact ⟨c, rfl, rfl⟩

theorem slot_to_repr {g : SNetcodeServer} {s : Netcode.NetcodeServer} (h : SrvRepr g s) {i : Nat} {c : Netcode.Connection}
    (hi : s.clients[i]? = some (some c)) : g.clients[i]? = some (some (reprNConn c)) := by
  rw [h.clients, List.getElem?_map, hi]; rfl

theorem reprNSR_none {r : Netcode.ServerResult} (h : reprNSR r = .None) : r = .none := by
  cases r with
  | none => rfl
  | _ => cases h
theorem reprNSR_packetToSend {r : Netcode.ServerResult} {ga : RustSem.SocketAddr} {o : List Nat}
    (h : reprNSR r = .PacketToSend ga o) : ∃ addr p, r = .packetToSend addr p ∧ ga = reprAddr addr ∧ o = toNats p := by
  cases r with
  | packetToSend addr p => cases h; exact ⟨addr, p, rfl, rfl, rfl⟩
  | _ => cases h
theorem reprNSR_payload {r : Netcode.ServerResult} {id : Nat} {o : List Nat}
    (h : reprNSR r = .Payload id o) : ∃ p, r = .payload id p ∧ o = toNats p := by
  cases r with
  | payload id' p => cases h; exact ⟨p, rfl, rfl⟩
  | _ => cases h
theorem reprNSR_clientConnected {r : Netcode.ServerResult} {id : Nat} {ga : RustSem.SocketAddr} {ud o : List Nat}
    (h : reprNSR r = .ClientConnected id ga ud o) :
    ∃ addr u p, r = .clientConnected id addr u p ∧ ga = reprAddr addr ∧ ud = toNats u ∧ o = toNats p := by
  cases r with
  | clientConnected id' addr u p => cases h; exact ⟨addr, u, p, rfl, rfl, rfl, rfl⟩
  | _ => cases h
theorem reprNSR_clientDisconnected {r : Netcode.ServerResult} {id : Nat} {ga : RustSem.SocketAddr} {o : Option (List Nat)}
    (h : reprNSR r = .ClientDisconnected id ga o) :
    ∃ addr p, r = .clientDisconnected id addr p ∧ ga = reprAddr addr ∧ o = p.map toNats := by
  cases r with
  | clientDisconnected id' addr p => cases h; exact ⟨addr, p, rfl, rfl, rfl⟩
  | _ => cases h

theorem find_by_addr_none {ε : Type} {g : SNetcodeServer} {s : Netcode.NetcodeServer} (h : SrvRepr g s) {addr : Addr} :
    (find_client_mut_by_addr g.clients (reprAddr addr) : Res ε _) = .ok none ↔ findClientByAddr s.clients addr = none := by
  rw [h.clients, nc_find_client_mut_by_addr]
  cases findClientByAddr s.clients addr <;> simp

theorem find_by_addr_some {ε : Type} {g : SNetcodeServer} {s : Netcode.NetcodeServer} (h : SrvRepr g s) {addr : Addr} {i : Nat}
    (hf : (find_client_mut_by_addr g.clients (reprAddr addr) : Res ε _) = .ok (some i)) :
    ∃ c, findClientByAddr s.clients addr = some (i, c) := by
  rw [h.clients, nc_find_client_mut_by_addr] at hf
  generalize findClientByAddr s.clients addr = x at hf ⊢
  rcases x with _ | ⟨j, c⟩ <;> cases hf
  exact ⟨c, rfl⟩

theorem find_slot_by_id {ε : Type} {g : SNetcodeServer} {s : Netcode.NetcodeServer} (h : SrvRepr g s) (id : Nat) :
    (find_client_mut_by_id g.clients id : Res ε _) = .ok (findClientSlotById s.clients id) := by
  rw [h.clients, nc_find_client_mut_by_id]

theorem SrvRepr.pendingFind {g : SNetcodeServer} {s : Netcode.NetcodeServer} (h : SrvRepr g s) (addr : Addr) :
    RustSem.AMap.find? g.pending_clients (reprAddr addr) = (Netcode.pendingFind s.pendingClients addr).map reprNConn := by
  rw [h.pending]; exact amap_find addr s.pendingClients

abbrev SrvPost {ρ γ : Type} (f : ρ → γ) (x : ρ × Netcode.NetcodeServer) (y : SNetcodeServer × γ) : Prop :=
  SrvRepr y.1 x.2 ∧ y.2 = f x.1

theorem process_packet_tie {ε : Type} (a : AEAD) (hl : a.Laws) {g : SNetcodeServer} {s : Netcode.NetcodeServer}
    (hr : SrvRepr g s) (hent : 0 < s.connectTokenEntries.length) (addr : Addr) (buf : Bytes)
    (hbl : buf.length + 16 < 2 ^ 64) :
    Tied (fun x y => SrvRepr y.1 x.2 ∧ y.2.2 = reprNSR x.1) (fun _ _ => False) (s.processPacket a addr buf)
      (@NetcodeServer.process_packet (aeadOf a) ε g (reprAddr addr) (toNats buf)) := by
  have t := nc_server_process_packet (ε := ε) a hl g.out hr.1 s hent addr buf hbl
  rw [← hr.2] at t
  generalize s.processPacket a addr buf = M at t ⊢
  rcases M with ⟨r, s'⟩ | e | m
  · obtain ⟨out', buf', hol, hg⟩ := t
    rw [hg]; exact .ok ⟨srvRepr_mk hol s', rfl⟩
  · exact e.elim
  · obtain ⟨m', hg⟩ := t
    rw [hg]; exact .panic

theorem nsOut_tied {ε : Type} {M : Res Empty (Netcode.ServerResult × Netcode.NetcodeServer)}
    {G : Res ε (SNetcodeServer × SServerResult)} (t : NsOut M G) : Tied (SrvPost reprNSR) (fun _ _ => False) M G := by
  rcases M with ⟨r, s'⟩ | e | m
  · obtain ⟨out', hol, hg⟩ := t
    rw [hg]; exact .ok ⟨srvRepr_mk hol s', rfl⟩
  · exact e.elim
  · obtain ⟨m', hg⟩ := t
    rw [hg]; exact .panic

theorem update_client_tie {ε : Type} (a : AEAD) (hl : a.Laws) {g : SNetcodeServer} {s : Netcode.NetcodeServer}
    (hr : SrvRepr g s) (hto : ∀ c, some c ∈ s.clients → c.timeoutSeconds < 2 ^ 31) (id : Nat) :
    Tied (SrvPost reprNSR) (fun _ _ => False) (s.updateClient a id) (@NetcodeServer.update_client (aeadOf a) ε g id) := by
  have t := nc_server_update_client (ε := ε) a hl g.out hr.1 s hto id
  rw [← hr.2] at t
  exact nsOut_tied t

theorem disconnect_tie {ε : Type} (a : AEAD) (hl : a.Laws) {g : SNetcodeServer} {s : Netcode.NetcodeServer}
    (hr : SrvRepr g s) (id : Nat) :
    Tied (SrvPost reprNSR) (fun _ _ => False) (s.disconnect a id)
      (@Src.renetcode.server.NetcodeServer.disconnect (aeadOf a) ε g id) := by
  have t := nc_server_disconnect (ε := ε) a hl g.out hr.1 s id
  rw [← hr.2] at t
  exact nsOut_tied t

theorem update_tie {ε : Type} {g : SNetcodeServer} {s : Netcode.NetcodeServer} (hr : SrvRepr g s)
    (hst : ∀ p ∈ s.pendingClients, p.2.state ≠ .disconnected) (dt : Nat) :
    Tied (fun s' (y : SNetcodeServer × Unit) => SrvRepr y.1 s') (fun _ _ => False) (s.update dt)
      (Src.renetcode.server.NetcodeServer.update g dt : Res ε _) := by
  have t := nc_server_update (ε := ε) g.out s dt hst
  rw [← hr.2] at t
  generalize s.update dt = M at t ⊢
  rcases M with s' | e | m
  · rw [t.eq_ok]; exact .ok (srvRepr_mk hr.1 s')
  · exact e.elim
  · obtain ⟨m', hg⟩ := t.panics
    rw [hg]; exact .panic

theorem generate_payload_tie (a : AEAD) (hl : a.Laws) {g : SNetcodeServer} {s : Netcode.NetcodeServer}
    (hr : SrvRepr g s) (id : Nat) (payload : Bytes) :
    Tied (fun x y => SrvRepr y.1 x.2 ∧ y.2 = (reprAddr x.1.1, toNats x.1.2)) (fun e y => y.1 = reprNErr e ∧ SrvRepr y.2 s)
      (s.generatePayloadPacket a id payload) (@NetcodeServer.generate_payload_packet (aeadOf a) g id (toNats payload)) := by
  have t := nc_server_generate_payload_packet a hl g.out hr.1 s id payload
  rw [← hr.2] at t
  generalize s.generatePayloadPacket a id payload = M at t ⊢
  rcases M with ⟨⟨addr, out⟩, s'⟩ | e | m
  · obtain ⟨out', hol, hg⟩ := t
    rw [hg]; exact .ok ⟨srvRepr_mk hol s', rfl⟩
  · obtain ⟨out', hol, hg⟩ := t
    rw [hg]; exact .err ⟨rfl, srvRepr_mk hol s⟩
  · obtain ⟨m', hg⟩ := t
    rw [hg]; exact .panic

abbrev SDecRes := Res (SNErr × (List Nat × Option Src.renetcode.replay_protection.ReplayProtection))
  (List Nat × Option Src.renetcode.replay_protection.ReplayProtection × (Nat × SNcPacket))

abbrev gDecode (a : AEAD) (buf : Bytes) (pid : Nat) (key : Option Bytes) (rp : Option RP) : SDecRes :=
  @Src.renetcode.packet.Packet.decode (aeadOf a) (toNats buf) pid (key.map toNats) (rp.map reprRP)

theorem decode_tie (a : AEAD) (hl : a.Laws) (buf : Bytes) (hbl : buf.length + 16 < 2 ^ 64) (pid : Nat)
    (key : Option Bytes) (rp : Option RP) :
    Tied (fun x y => y.2.1 = (Netcode.Packet.decode a buf pid key rp).2.map reprRP ∧ y.2.2 = (x.1, reprNP x.2))
      (fun e y => y.1 = reprNErr e ∧ y.2.2 = (Netcode.Packet.decode a buf pid key rp).2.map reprRP)
      (Netcode.Packet.decode a buf pid key rp).1 (gDecode a buf pid key rp) := by
  have t := nc_packet_decode a hl buf hbl pid key rp
  generalize Netcode.Packet.decode a buf pid key rp = D at t ⊢
  rcases D with ⟨⟨sq, p⟩ | e | m, rp'⟩
  · obtain ⟨b, hg⟩ := t
    rw [gDecode, hg]; exact .ok ⟨rfl, rfl⟩
  · obtain ⟨b, hg⟩ := t
    rw [gDecode, hg]; exact .err ⟨rfl, rfl⟩
  · obtain ⟨m', hg⟩ := t
    rw [gDecode, hg]; exact .panic

theorem decode_pull_ok (a : AEAD) (hl : a.Laws) (buf : Bytes) (hbl : buf.length + 16 < 2 ^ 64) (pid : Nat)
    (key : Option Bytes) (rp : Option RP) {buf' : List Nat} {grp : Option Src.renetcode.replay_protection.ReplayProtection}
    {sq : Nat} {gp : SNcPacket} (h : gDecode a buf pid key rp = .ok (buf', grp, (sq, gp))) :
    ∃ p rp', Netcode.Packet.decode a buf pid key rp = (.ok (sq, p), rp') ∧ gp = reprNP p ∧ grp = rp'.map reprRP := by
  obtain ⟨⟨_, p⟩, hD, e1, e2⟩ := (decode_tie a hl buf hbl pid key rp).pull_ok h
  cases e2
  exact ⟨p, _, Prod.ext hD rfl, rfl, e1⟩

theorem decode_pull_err (a : AEAD) (hl : a.Laws) (buf : Bytes) (hbl : buf.length + 16 < 2 ^ 64) (pid : Nat)
    (key : Option Bytes) (rp : Option RP) {ge : SNErr} {st : List Nat × Option Src.renetcode.replay_protection.ReplayProtection}
    (h : gDecode a buf pid key rp = .err (ge, st)) :
    ∃ e rp', Netcode.Packet.decode a buf pid key rp = (.err e, rp') ∧ ge = reprNErr e ∧ st.2 = rp'.map reprRP := by
  obtain ⟨e, hD, e1, e2⟩ := (decode_tie a hl buf hbl pid key rp).pull_err h
  exact ⟨e, _, Prod.ext hD rfl, e1, e2⟩

theorem decode_push_ok' (a : AEAD) (hl : a.Laws) (buf : Bytes) (hbl : buf.length + 16 < 2 ^ 64) (pid : Nat)
    (key : Option Bytes) (rp : Option RP) {sq : Nat} {p : Netcode.Packet}
    (h : (Netcode.Packet.decode a buf pid key rp).1 = .ok (sq, p)) :
    ∃ buf' rp', gDecode a buf pid key rp = .ok (buf', rp', (sq, reprNP p)) := by
  obtain ⟨⟨buf', rp', _⟩, hg, -, rfl⟩ := (decode_tie a hl buf hbl pid key rp).push_ok h
  exact ⟨buf', rp', hg⟩

theorem decode_push_ok (a : AEAD) (hl : a.Laws) (buf : Bytes) (hbl : buf.length + 16 < 2 ^ 64) (pid : Nat)
    (key : Option Bytes) (rp : Option RP) {sq : Nat} {p : Netcode.Packet} {rp' : Option RP}
    (h : Netcode.Packet.decode a buf pid key rp = (.ok (sq, p), rp')) :
    ∃ buf', gDecode a buf pid key rp = .ok (buf', rp'.map reprRP, (sq, reprNP p)) := by
  obtain ⟨⟨buf', _, _⟩, hg, rfl, rfl⟩ := (decode_tie a hl buf hbl pid key rp).push_ok (congrArg Prod.fst h)
  exact ⟨buf', by rw [hg, h]⟩

theorem decode_push_err' (a : AEAD) (hl : a.Laws) (buf : Bytes) (hbl : buf.length + 16 < 2 ^ 64) (pid : Nat)
    (key : Option Bytes) (rp : Option RP) {e : NetcodeError}
    (h : (Netcode.Packet.decode a buf pid key rp).1 = .err e) :
    ∃ st, gDecode a buf pid key rp = .err (reprNErr e, st) := by
  obtain ⟨⟨_, st⟩, hg, rfl, -⟩ := (decode_tie a hl buf hbl pid key rp).push_err h
  exact ⟨st, hg⟩

theorem reprNP_request {p : Netcode.Packet} {gv gx gd : List Nat} {pid e : Nat}
    (h : reprNP p = .ConnectionRequest gv pid e gx gd) :
    ∃ v x d, p = .connectionRequest v pid e x d ∧ gv = toNats v ∧ gx = toNats x ∧ gd = toNats d := by
  cases p with
  | connectionRequest v pid' e' x d => cases h; exact ⟨v, x, d, rfl, rfl, rfl, rfl⟩
  | _ => cases h
theorem reprNP_response {p : Netcode.Packet} {ts : Nat} {gd : List Nat} (h : reprNP p = .Response ts gd) :
    ∃ d, p = .response ts d ∧ gd = toNats d := by
  cases p with
  | response ts' d => cases h; exact ⟨d, rfl, rfl⟩
  | _ => cases h
theorem reprNP_payload {p : Netcode.Packet} {gd : List Nat} (h : reprNP p = .Payload gd) :
    ∃ d, p = .payload d ∧ gd = toNats d := by
  cases p with
  | payload d => cases h; exact ⟨d, rfl, rfl⟩
  | _ => cases h

theorem challenge_push (a : AEAD) (hl : a.Laws) {td : Bytes} (hlen : td.length = C.NETCODE_CHALLENGE_TOKEN_BYTES)
    (sq : Nat) (key : Bytes) {t : Netcode.ChallengeToken} (h : Netcode.ChallengeToken.decode a td sq key = .ok t) :
    @Src.renetcode.packet.ChallengeToken.decode (aeadOf a) (toNats td) sq (toNats key) = .ok (reprCT t) := by
  exact (nc_challenge_token_decode a hl td hlen sq key).map_ok h

theorem same_of_repr {g g' : SNetcodeServer} {s : Netcode.NetcodeServer} (hr : SrvRepr g s) (hr' : SrvRepr g' s) :
    g' = { g with out := g'.out } := by
  have e : ({ reprNS g.out s with out := g'.out } : SNetcodeServer) = reprNS g'.out s := rfl
  rw [hr.2, e]; exact hr'.2

theorem repr_set_client {g g' : SNetcodeServer} {s : Netcode.NetcodeServer} {i : Nat} {oc : Option Netcode.Connection}
    (hr : SrvRepr g s) (hr' : SrvRepr g' { s with clients := s.clients.set i oc }) :
    g' = { g with out := g'.out, clients := g.clients.set i (oc.map reprNConn) } := by
  have e : ({ reprNS g.out s with out := g'.out, clients := (reprNS g.out s).clients.set i (oc.map reprNConn) } : SNetcodeServer)
      = reprNS g'.out { s with clients := s.clients.set i oc } := by
    simp [reprNS, List.map_set]
  rw [hr.2, e]; exact hr'.2

theorem repr_set_pending {g g' : SNetcodeServer} {s : Netcode.NetcodeServer} {addr : Addr} {c : Netcode.Connection}
    (hr : SrvRepr g s) (hr' : SrvRepr g' { s with pendingClients := pendingSet s.pendingClients addr c }) :
    g' = { g with out := g'.out,
                  pending_clients := RustSem.AMap.insert g.pending_clients (reprAddr addr) (reprNConn c) } := by
  let pc := RustSem.AMap.insert (reprNS g.out s).pending_clients (reprAddr addr) (reprNConn c)
  have e : ({ reprNS g.out s with out := g'.out, pending_clients := pc } : SNetcodeServer)
      = reprNS g'.out { s with pendingClients := pendingSet s.pendingClients addr c } := by
    have := amap_insert addr c s.pendingClients
    simp only [pendR] at this
    simp only [pc, reprNS, this]
  rw [hr.2]; exact hr'.2.trans e.symm

theorem connected_session {ε : Type} {g : SNetcodeServer} {s : Netcode.NetcodeServer} (hr : SrvRepr g s) {addr : Addr}
    {i : Nat} {gc : SConnection} (hf : (find_client_mut_by_addr g.clients (reprAddr addr) : Res ε _) = .ok (some i))
    (hi : g.clients[i]? = some (some gc)) : ∃ c, findClientByAddr s.clients addr = some (i, c) ∧ gc = reprNConn c := by
  obtain ⟨c, hc⟩ := find_by_addr_some hr hf
  have h2 := slot_to_repr hr (nc_find_client_by_addr_slot hc)
  rw [hi] at h2
  simp only [Option.some.injEq] at h2
  exact ⟨c, hc, h2⟩

theorem pending_session {g : SNetcodeServer} {s : Netcode.NetcodeServer} (hr : SrvRepr g s) {addr : Addr} {gp : SConnection}
    (hp : RustSem.AMap.find? g.pending_clients (reprAddr addr) = some gp) :
    ∃ c, Netcode.pendingFind s.pendingClients addr = some c ∧ gp = reprNConn c := by
  rw [hr.pendingFind] at hp
  generalize Netcode.pendingFind s.pendingClients addr = x at hp ⊢
  rcases x with _ | c <;> cases hp
  exact ⟨c, rfl, rfl⟩

def gIdent (c : SConnection) : Nat × RustSem.SocketAddr × List Nat × List Nat × List Nat × Int × Nat :=
  (c.client_id, c.addr, c.user_data, c.send_key, c.receive_key, c.timeout_seconds, c.expire_timestamp)

def reprIdent (x : NS.Ident) : Nat × RustSem.SocketAddr × List Nat × List Nat × List Nat × Int × Nat :=
  (x.clientId, reprAddr x.addr, toNats x.userData, toNats x.sendKey, toNats x.receiveKey, x.timeoutSeconds, x.expireTimestamp)

theorem gIdent_repr (c : Netcode.Connection) : gIdent (reprNConn c) = reprIdent (NS.ident c) := rfl

theorem gSessions_repr (cl : List (Option Netcode.Connection)) :
    (cl.map (Option.map reprNConn)).map (Option.map gIdent) = (NS.sessions cl).map (Option.map reprIdent) := by
  simp only [NS.sessions, List.map_map]
  apply List.map_congr_left
  intro oc _
  cases oc <;> rfl

theorem amap_find_key {l : List (Addr × Netcode.Connection)} {gy : RustSem.SocketAddr} {gp : SConnection}
    (h : RustSem.AMap.find? (pendR l) gy = some gp) : ∃ y, gy = reprAddr y := by
  induction l with
  | nil => cases h
  | cons p r ih =>
    obtain ⟨k, c0⟩ := p
    simp only [pendR, List.map_cons, RustSem.AMap.find?] at h ih
    by_cases hk : reprAddr k = gy
    · exact ⟨k, hk.symm⟩
    · rw [if_neg hk] at h; exact ih h

theorem tokenOpens_iff_decode {a : AEAD} {s : Netcode.NetcodeServer} {e : Nat} {x d : Bytes} {t : Netcode.PrivateConnectToken}
    (hd : C.NETCODE_MAC_BYTES ≤ d.length) :
    NS.TokenOpens a s e x d t ↔ Netcode.PrivateConnectToken.decode a d s.protocolId e x s.connectKey = .ok t := by
  rw [NcAead.Bind.pt_decode_iff]
  exact (and_iff_right hd).symm

/-- the tie of `PrivateConnectToken::decode`; stated once: each application of the `SameOutcome` tie is dear -/
theorem ptok_decode_tie (a : AEAD) (hl : a.Laws) {d : Bytes} (hlen : d.length = C.NETCODE_CONNECT_TOKEN_PRIVATE_BYTES)
    (pid e : Nat) (x key : Bytes) :
    Tied (fun t gt => gt = reprPTok t) (fun e' ge => ge = reprTGE e') (Netcode.PrivateConnectToken.decode a d pid e x key)
      (@Src.renetcode.token.PrivateConnectToken.decode (aeadOf a) (toNats d) pid e (toNats x) (toNats key)) :=
  .of_map (nc_private_token_decode a hl d hlen pid e x key)

/-- `o` is what the generated `Packet::encode` makes of `pkt` (into the server's scratch buffer) under the server's
    protocol id, the sequence number `sq` and the key `key` -/
def GEncodes (a : AEAD) (g : SNetcodeServer) (pkt : SNcPacket) (sq : Nat) (key o : List Nat) : Prop :=
  ∃ st : List Nat, @Src.renetcode.packet.Packet.encode (aeadOf a) pkt g.out g.protocol_id (some (sq, key)) = .ok (st, o.length) ∧
    st.take o.length = o

theorem encode_push (a : AEAD) (hl : a.Laws) {p : Netcode.Packet} {buf : List Nat} (hbuf : buf.length = C.NETCODE_MAX_PACKET_BYTES)
    {pid sq : Nat} {key out : Bytes}
    (h : Netcode.Packet.encode a p C.NETCODE_MAX_PACKET_BYTES pid (some (sq, key)) = .ok out) :
    ∃ st : List Nat, @Src.renetcode.packet.Packet.encode (aeadOf a) (reprNP p) buf pid (some (sq, toNats key))
      = .ok (st, (toNats out).length) ∧ st.take (toNats out).length = toNats out := by
  have t := enc_out a hl p buf hbuf pid sq key
  rw [h] at t
  obtain ⟨st, hst, htake, _⟩ := t
  rw [toNats_length]
  exact ⟨st, hst, htake⟩

theorem encode_pull (a : AEAD) (hl : a.Laws) {p : Netcode.Packet} {buf : List Nat} (hbuf : buf.length = C.NETCODE_MAX_PACKET_BYTES)
    {pid sq : Nat} {key : Bytes} {st o : List Nat}
    (hst : @Src.renetcode.packet.Packet.encode (aeadOf a) (reprNP p) buf pid (some (sq, toNats key)) = .ok (st, o.length))
    (htake : st.take o.length = o) :
    ∃ out, Netcode.Packet.encode a p C.NETCODE_MAX_PACKET_BYTES pid (some (sq, key)) = .ok out ∧ o = toNats out := by
  have t := enc_out a hl p buf hbuf pid sq key
  generalize Netcode.Packet.encode a p C.NETCODE_MAX_PACKET_BYTES pid (some (sq, key)) = M at t ⊢
  rcases M with out | e | m
  · obtain ⟨st', hst', htake', _⟩ := t
    obtain ⟨rfl, hlen⟩ := Prod.mk.inj (Res.ok.inj (hst.symm.trans hst'))
    exact ⟨out, rfl, by rw [← htake, hlen, htake']⟩
  · obtain ⟨st', hst', _⟩ := t
    cases hst.symm.trans hst'
  · obtain ⟨msg, hst'⟩ := t
    cases hst.symm.trans hst'

theorem gencodes_push (a : AEAD) (hl : a.Laws) {g : SNetcodeServer} {s : Netcode.NetcodeServer} (hr : SrvRepr g s)
    {p : Netcode.Packet} {sq : Nat} {key out : Bytes}
    (h : Netcode.Packet.encode a p C.NETCODE_MAX_PACKET_BYTES s.protocolId (some (sq, key)) = .ok out) :
    GEncodes a g (reprNP p) sq (toNats key) (toNats out) := by
  rw [GEncodes, hr.protocol_id]
  exact encode_push a hl hr.1 h

theorem gencodes_pull (a : AEAD) (hl : a.Laws) {g : SNetcodeServer} {s : Netcode.NetcodeServer} (hr : SrvRepr g s)
    {p : Netcode.Packet} {sq : Nat} {key : Bytes} {o : List Nat} (h : GEncodes a g (reprNP p) sq (toNats key) o) :
    ∃ out, Netcode.Packet.encode a p C.NETCODE_MAX_PACKET_BYTES s.protocolId (some (sq, key)) = .ok out ∧ o = toNats out := by
  obtain ⟨st, hst, htake⟩ := h
  rw [hr.protocol_id] at hst
  exact encode_pull a hl hr.1 hst htake

theorem payload_encoded (a : AEAD) (hl : a.Laws) {p : Bytes} {pid sq : Nat} {key out : Bytes}
    (h : (Netcode.Packet.payload p).encode a C.NETCODE_MAX_PACKET_BYTES pid (some (sq, key)) = .ok out) :
    out = Netcode.Packet.sealedBytes a (.payload p) pid sq key ∧ out.length + 16 < 2 ^ 64 := by
  have hle := Netcode.Packet.encode_le_cap a hl h
  have : C.NETCODE_MAX_PACKET_BYTES = 1400 := rfl
  obtain ⟨rfl, -⟩ := Netcode.Packet.encode_ok_sealed (by intro h; cases h) h
  exact ⟨rfl, by omega⟩

def leValN : List Nat → Nat
  | [] => 0
  | b :: r => b + 256 * leValN r

/-- the sequence number a sealed datagram carries: the `prefix >> 4` bytes that follow the prefix byte, little endian -/
def gWireSeq (gbuf : List Nat) : Nat := leValN ((gbuf.drop 1).take (gbuf.headD 0 / 16))

theorem leValN_toNats (b : Bytes) : leValN (toNats b) = leVal b := by
  induction b with
  | nil => rfl
  | cons x r ih => simp only [toNats, List.map_cons, leValN, leVal] at ih ⊢; rw [ih]

theorem gWireSeq_toNats (buf : Bytes) : gWireSeq (toNats buf) = Netcode.Packet.wireSeq buf := by
  unfold gWireSeq Netcode.Packet.wireSeq Netcode.Packet.wireSeqLen Netcode.Packet.wirePrefix
  have h0 : (toNats buf).headD 0 = (buf.headD 0).toNat := by cases buf <;> rfl
  rw [h0, ← toNats_drop, ← toNats_take, leValN_toNats]

section client
open Src.renetcode.client

def CliRepr (g : SNetcodeClient) (c : Netcode.NetcodeClient) : Prop :=
  g.out.length = C.NETCODE_MAX_PACKET_BYTES ∧ g = reprNC g.out c

theorem cliRepr_mk {out : List Nat} (hout : out.length = C.NETCODE_MAX_PACKET_BYTES) (c : Netcode.NetcodeClient) :
    CliRepr (reprNC out c) c := ⟨hout, rfl⟩

def WfC (g : SNetcodeClient) : Prop := ∃ c, CliRepr g c

theorem CliRepr.state {g : SNetcodeClient} {c : Netcode.NetcodeClient} (h : CliRepr g c) : g.state = reprCSt c.state := by
  rw [h.2]; rfl
theorem CliRepr.current_time {g : SNetcodeClient} {c : Netcode.NetcodeClient} (h : CliRepr g c) :
    g.current_time = c.currentTime := by rw [h.2]; rfl
theorem CliRepr.sequence {g : SNetcodeClient} {c : Netcode.NetcodeClient} (h : CliRepr g c) :
    g.sequence = c.sequence := by rw [h.2]; rfl
theorem CliRepr.token {g : SNetcodeClient} {c : Netcode.NetcodeClient} (h : CliRepr g c) :
    g.connect_token = reprTok c.connectToken := by rw [h.2]; rfl
theorem CliRepr.window {g : SNetcodeClient} {c : Netcode.NetcodeClient} (h : CliRepr g c) :
    g.replay_protection = reprRP c.replayProtection := by rw [h.2]; rfl
theorem CliRepr.recv_time {g : SNetcodeClient} {c : Netcode.NetcodeClient} (h : CliRepr g c) :
    g.last_packet_received_time = c.lastPacketReceivedTime := by rw [h.2]; rfl
theorem CliRepr.start_time {g : SNetcodeClient} {c : Netcode.NetcodeClient} (h : CliRepr g c) :
    g.connect_start_time = c.connectStartTime := by rw [h.2]; rfl
theorem CliRepr.addr_index {g : SNetcodeClient} {c : Netcode.NetcodeClient} (h : CliRepr g c) :
    g.server_addr_index = c.serverAddrIndex := by rw [h.2]; rfl
theorem CliRepr.server_addr {g : SNetcodeClient} {c : Netcode.NetcodeClient} (h : CliRepr g c) :
    g.server_addr = reprAddr c.serverAddr := by rw [h.2]; rfl

theorem cli_same_of_repr {g g' : SNetcodeClient} {c : Netcode.NetcodeClient} (hr : CliRepr g c) (hr' : CliRepr g' c) :
    g' = { g with out := g'.out } := by
  have e : ({ reprNC g.out c with out := g'.out } : SNetcodeClient) = reprNC g'.out c := rfl
  rw [hr.2, e]; exact hr'.2

abbrev CliPost {ρ γ : Type} (f : ρ → γ) (x : ρ × Netcode.NetcodeClient) (y : SNetcodeClient × γ) : Prop :=
  CliRepr y.1 x.2 ∧ y.2 = f x.1

theorem cli_process_packet_tie {ε : Type} (a : AEAD) (hl : a.Laws) {g : SNetcodeClient} {c : Netcode.NetcodeClient}
    (hr : CliRepr g c) (buf : Bytes) (hbl : buf.length + 16 < 2 ^ 64) :
    Tied (fun x y => CliRepr y.1 x.2 ∧ y.1.out = g.out ∧ y.2.2 = x.1.map toNats) (fun _ _ => False) (c.processPacket a buf)
      (@NetcodeClient.process_packet (aeadOf a) ε g (toNats buf)) := by
  have t := nc_client_process_packet (ε := ε) a hl g.out c buf hbl
  rw [← hr.2] at t
  generalize c.processPacket a buf = M at t ⊢
  rcases M with ⟨r, c'⟩ | e | m
  · obtain ⟨buf', hg⟩ := t
    rw [hg]; exact .ok ⟨cliRepr_mk hr.1 c', rfl, rfl⟩
  · exact e.elim
  · obtain ⟨m', hg⟩ := t
    rw [hg]; exact .panic

theorem cliTickOut_tied {ε : Type} {M : Res Empty (Option (Bytes × Addr) × Netcode.NetcodeClient)}
    {G : Res ε (SNetcodeClient × Option (List Nat × RustSem.SocketAddr))} (t : CliTickOut M G) :
    Tied (CliPost (Option.map fun x => (toNats x.1, reprAddr x.2))) (fun _ _ => False) M G := by
  rcases M with ⟨r, c'⟩ | e | m
  · obtain ⟨out', hol, hg⟩ := t
    rw [hg]; exact .ok ⟨cliRepr_mk hol c', rfl⟩
  · exact e.elim
  · obtain ⟨m', hg⟩ := t
    rw [hg]; exact .panic

theorem cli_update_tie {ε : Type} (a : AEAD) (hl : a.Laws) {g : SNetcodeClient} {c : Netcode.NetcodeClient}
    (hr : CliRepr g c) (hto : c.connectToken.timeoutSeconds < 2 ^ 31) (hidx : c.serverAddrIndex + 1 < 2 ^ 64) (dt : Nat) :
    Tied (CliPost (Option.map fun x => (toNats x.1, reprAddr x.2))) (fun _ _ => False) (c.update a dt)
      (@NetcodeClient.update (aeadOf a) ε g dt) := by
  have t := nc_client_update (ε := ε) a hl g.out hr.1 c hto hidx dt
  rw [← hr.2] at t
  exact cliTickOut_tied t

theorem cli_generate_packet_tie {ε : Type} (a : AEAD) (hl : a.Laws) {g : SNetcodeClient} {c : Netcode.NetcodeClient}
    (hr : CliRepr g c) :
    Tied (CliPost (Option.map fun x => (toNats x.1, reprAddr x.2))) (fun _ _ => False) (c.generatePacket a)
      (@NetcodeClient.generate_packet (aeadOf a) ε g) := by
  have t := nc_client_generate_packet (ε := ε) a hl g.out hr.1 c
  rw [← hr.2] at t
  exact cliTickOut_tied t

theorem cli_generate_payload_tie (a : AEAD) (hl : a.Laws) {g : SNetcodeClient} {c : Netcode.NetcodeClient}
    (hr : CliRepr g c) (payload : Bytes) :
    Tied (fun x y => CliRepr y.1 x.2 ∧ y.2 = (reprAddr x.1.1, toNats x.1.2)) (fun e y => y.1 = reprNErr e ∧ CliRepr y.2 c)
      (c.generatePayloadPacket a payload) (@NetcodeClient.generate_payload_packet (aeadOf a) g (toNats payload)) := by
  have t := nc_client_generate_payload_packet a hl g.out hr.1 c payload
  rw [← hr.2] at t
  generalize c.generatePayloadPacket a payload = M at t ⊢
  rcases M with ⟨⟨addr, out⟩, c'⟩ | e | m
  · obtain ⟨out', hol, hg⟩ := t
    rw [hg]; exact .ok ⟨cliRepr_mk hol c', rfl⟩
  · obtain ⟨out', hol, hg⟩ := t
    rw [hg]; exact .err ⟨rfl, cliRepr_mk hol c⟩
  · obtain ⟨m', hg⟩ := t
    rw [hg]; exact .panic

/-- `o` is what the generated `Packet::encode` makes of `pkt` (into the client's scratch buffer) under the protocol id of the
    client's connect token, the sequence number `sq` and the key `key` -/
def CEncodes (a : AEAD) (g : SNetcodeClient) (pkt : SNcPacket) (sq : Nat) (key o : List Nat) : Prop :=
  ∃ st : List Nat, @Src.renetcode.packet.Packet.encode (aeadOf a) pkt g.out g.connect_token.protocol_id (some (sq, key))
      = .ok (st, o.length) ∧ st.take o.length = o

theorem cencodes_push (a : AEAD) (hl : a.Laws) {g : SNetcodeClient} {c : Netcode.NetcodeClient} (hr : CliRepr g c)
    {p : Netcode.Packet} {sq : Nat} {key out : Bytes}
    (h : Netcode.Packet.encode a p C.NETCODE_MAX_PACKET_BYTES c.connectToken.protocolId (some (sq, key)) = .ok out) :
    CEncodes a g (reprNP p) sq (toNats key) (toNats out) := by
  rw [CEncodes, hr.token]
  exact encode_push a hl hr.1 h

theorem cencodes_pull (a : AEAD) (hl : a.Laws) {g : SNetcodeClient} {c : Netcode.NetcodeClient} (hr : CliRepr g c)
    {p : Netcode.Packet} {sq : Nat} {key : Bytes} {o : List Nat} (h : CEncodes a g (reprNP p) sq (toNats key) o) :
    ∃ out, Netcode.Packet.encode a p C.NETCODE_MAX_PACKET_BYTES c.connectToken.protocolId (some (sq, key)) = .ok out ∧
      o = toNats out := by
  obtain ⟨st, hst, htake⟩ := h
  rw [hr.token] at hst
  exact encode_pull a hl hr.1 hst htake

end client

theorem cli_process_packet_push {ε : Type} (a : AEAD) (hl : a.Laws) {g : SNetcodeClient} {c c' : Netcode.NetcodeClient}
    (hr : CliRepr g c) {buf : Bytes} (hbl : buf.length + 16 < 2 ^ 64) {r : Option Bytes}
    (hm : c.processPacket a buf = .ok (r, c')) :
    ∃ g' buf', CliRepr g' c' ∧
      @Src.renetcode.client.NetcodeClient.process_packet (aeadOf a) ε g (toNats buf) = .ok (g', buf', r.map toNats) := by
  obtain ⟨⟨g', buf', _⟩, hg, hr', -, rfl⟩ := (cli_process_packet_tie (ε := ε) a hl hr buf hbl).push_ok hm
  exact ⟨g', buf', hr', hg⟩

/-- a zeroed scratch buffer `[0u8; NETCODE_MAX_PACKET_BYTES]` -/
def out0 : List Nat := List.replicate C.NETCODE_MAX_PACKET_BYTES 0
theorem out0_len : out0.length = C.NETCODE_MAX_PACKET_BYTES := List.length_replicate ..

end RenetVerif.SrcCorNc
