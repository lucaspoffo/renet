/-
  C01 / C02 — LIVENESS at SYSTEM level, ABOUT THE GENERATED CODE.

  `GSys` (`Lemmas/SrcEquiv/SrcSystem.lean`, see `Props/SrcPropsSystem.lean`) is the two-endpoint system whose endpoints are
  GENERATED `RenetClient` values driven only through the generated functions.  The liveness theorems of `Props/C01L.lean` (one
  lossless round), `Props/C01K.lean` (k rounds, budget smaller than the backlog) and `Props/C01KC.lean` (the same with the
  per-round counter conditions derived) are transferred through the simulation `SrcSystem.run_sim`:

      hypothesis   `GSys.exec cfg ops = some g`                 the generated run up to the start of the rounds,
      conclusion   `∃ u, GSys.exec cfg (ops ++ rounds) = some u ∧ …`
                   the GENERATED execution of the rounds returns normally (no generated function panics), the generated
                   `is_disconnected` of both endpoints is `false`, and on the generated ghost logs
                   `u.submitted ch = g.submitted ch`, `u.obtained ch = g.submitted ch` (a permutation for ReliableUnordered).

  "Both ends live" at the start is a hypothesis on the GENERATED state (`is_disconnected g.a = .ok false`).  The remaining
  hypotheses of the model theorems (`AllDue`, backlog bound, `Room`, `OnlyCh`, `Rounds`, `RoundsSched`, `HeadRoom`: schedule and
  budget facts) are stated, as in C01L / C01K / C01KC, on the model state `s` with `(Sys.init cfg).run ops = some s` — the
  state `SimSys`-related to `g` (`SrcSystem.sim_of_runs`; it is determined by `ops`, `run_sim_conv` gives its existence).
  `RunInRange cfg (ops ++ rounds)` is the range side condition of the source tie over the whole execution (a fact of the
  model run: the scenarios of C01L / C01K state it where they run the model).
-/
import RenetVerif.Lemmas.SrcEquiv.SrcSystem
import RenetVerif.Props.C01L
import RenetVerif.Props.C01K
import RenetVerif.Props.C01KC
set_option maxRecDepth 100000
namespace RenetVerif.SrcPropsSystemLive
open RenetVerif C RenetVerif.System RenetVerif.Live RenetVerif.LiveK RenetVerif.LiveKC RenetVerif.SrcEquiv RenetVerif.SrcSystem
open Src.renet.remote_connection

/-- **C01 liveness on the generated code: one lossless round delivers everything (ReliableOrdered), H1–H4** (analogue of
    `C01L.round_delivers`).  The generated execution of `flushA ; deliverToB k (k ∈ ks) ; recvB ch (n times)` returns
    normally, nobody is disconnected, and B's application has obtained exactly what A's application submitted, in order. -/
theorem src_round_delivers (cfg : Cfg) (ops : List SysOp) (g : GSys) (hg : GSys.exec cfg ops = some g)
    (s : Sys) (hr : (Sys.init cfg).run ops = some s)
    (ch : Nat) (ks : List Nat) (n : Nat) (hrg : RunInRange cfg (ops ++ roundOps ch ks n))
    (hga : (RenetClient.is_disconnected g.a : Res Empty Bool) = .ok false)
    (hgb : (RenetClient.is_disconnected g.b : Res Empty Bool) = .ok false)
    (hc : CountersOK cfg s) (hcA : s.a.CountersOK) (ho : cfg.Ordered ch)
    (sA : SendRel) (hfA : SMap.find? s.a.sendRel ch = some sA) (rB : RecvRel) (hfB : SMap.find? s.b.recvRel ch = some rB)
    (H1 : AllDue s.a.now sA.resend sA.unacked) (H2 : backlog sA.unacked ≤ availAtTurn s.a ch)
    (H3 : Room (s.submitted ch) rB) (H4 : ∀ p ∈ flushPk s.a, OnlyCh ch p)
    (hks1 : ∀ k ∈ newIdx s, k ∈ ks) (hks2 : ∀ k ∈ ks, k ∈ newIdx s)
    (hn : (s.submitted ch).length ≤ (s.obtained ch).length + n) :
    ∃ u, GSys.exec cfg (ops ++ roundOps ch ks n) = some u ∧
      (RenetClient.is_disconnected u.a : Res Empty Bool) = .ok false ∧
      (RenetClient.is_disconnected u.b : Res Empty Bool) = .ok false ∧
      u.submitted ch = g.submitted ch ∧ u.obtained ch = g.submitted ch := by
  obtain ⟨hda, hdb⟩ := model_live_of_sim (sim_of_runs cfg ops _ s g hr hg hrg) hga hgb
  exact live_transfer cfg ops _ s g hr hg hrg ch
    (C01L.round_delivers cfg ops s hr hc hcA hda hdb ch ho sA hfA rB hfB H1 H2 H3 H4 ks hks1 hks2 n hn)

/-- **C02 liveness on the generated code: one lossless round (ReliableUnordered), H1–H4** (analogue of
    `C01L.round_delivers_unordered_live`): every submitted message is obtained exactly once. -/
theorem src_round_delivers_unordered (cfg : Cfg) (ops : List SysOp) (g : GSys) (hg : GSys.exec cfg ops = some g)
    (s : Sys) (hr : (Sys.init cfg).run ops = some s)
    (ch : Nat) (ks : List Nat) (n : Nat) (hrg : RunInRange cfg (ops ++ roundOps ch ks n))
    (hga : (RenetClient.is_disconnected g.a : Res Empty Bool) = .ok false)
    (hgb : (RenetClient.is_disconnected g.b : Res Empty Bool) = .ok false)
    (hc : CountersOK cfg s) (hcA : s.a.CountersOK) (ho : cfg.Unordered ch)
    (sA : SendRel) (hfA : SMap.find? s.a.sendRel ch = some sA) (rB : RecvRel) (hfB : SMap.find? s.b.recvRel ch = some rB)
    (H1 : AllDue s.a.now sA.resend sA.unacked) (H2 : backlog sA.unacked ≤ availAtTurn s.a ch)
    (H3 : Room (s.submitted ch) rB) (H4 : ∀ p ∈ flushPk s.a, OnlyCh ch p)
    (hks1 : ∀ k ∈ newIdx s, k ∈ ks) (hks2 : ∀ k ∈ ks, k ∈ newIdx s)
    (hn : (s.submitted ch).length ≤ (s.obtained ch).length + n) :
    ∃ u, GSys.exec cfg (ops ++ roundOps ch ks n) = some u ∧
      (RenetClient.is_disconnected u.a : Res Empty Bool) = .ok false ∧
      (RenetClient.is_disconnected u.b : Res Empty Bool) = .ok false ∧
      u.submitted ch = g.submitted ch ∧ (u.obtained ch).Perm (g.submitted ch) := by
  obtain ⟨hda, hdb⟩ := model_live_of_sim (sim_of_runs cfg ops _ s g hr hg hrg) hga hgb
  exact live_transfer_perm cfg ops _ s g hr hg hrg ch
    (C01L.round_delivers_unordered_live cfg ops s hr hc hcA hda hdb ch ho sA hfA rB hfB H1 H2 H3 H4 ks hks1 hks2 n hn)

/-- **C01 liveness on the generated code, k rounds** (analogue of `C01K.k_round_delivery`): every round offers the channel at
    least `B ≥ SLICE_SIZE` bytes; after `k = rs.length ≥ 1` full lossless rounds with `k * (B - SLICE_SIZE + 1) ≥ backlog` the
    generated execution has returned normally, nobody is disconnected, `obtained = submitted`, in order.  ANY messages,
    small or sliced; the budget may be smaller than the backlog. -/
theorem src_k_round_delivery (cfg : Cfg) (ops : List SysOp) (g : GSys) (hg : GSys.exec cfg ops = some g)
    (s : Sys) (hr : (Sys.init cfg).run ops = some s)
    (ch : Nat) (rs : List RoundP) (hrg : RunInRange cfg (ops ++ roundsOps ch rs))
    (hga : (RenetClient.is_disconnected g.a : Res Empty Bool) = .ok false)
    (hgb : (RenetClient.is_disconnected g.b : Res Empty Bool) = .ok false)
    (ho : cfg.Ordered ch) (sA : SendRel) (hfA : SMap.find? s.a.sendRel ch = some sA)
    (rB : RecvRel) (hfB : SMap.find? s.b.recvRel ch = some rB) (H3 : Room (s.submitted ch) rB)
    (B : Nat) (hSB : SLICE_SIZE ≤ B) (hR : Rounds cfg ch (SchedBytes ch B) s rs)
    (hk1 : rs ≠ []) (hk : backlog sA.unacked ≤ rs.length * (B - SLICE_SIZE + 1)) :
    ∃ u, GSys.exec cfg (ops ++ roundsOps ch rs) = some u ∧
      (RenetClient.is_disconnected u.a : Res Empty Bool) = .ok false ∧
      (RenetClient.is_disconnected u.b : Res Empty Bool) = .ok false ∧
      u.submitted ch = g.submitted ch ∧ u.obtained ch = g.submitted ch := by
  obtain ⟨hda, hdb⟩ := model_live_of_sim (sim_of_runs cfg ops _ s g hr hg hrg) hga hgb
  exact live_transfer cfg ops _ s g hr hg hrg ch
    (C01K.k_round_delivery cfg ops s hr hda hdb ch ho sA hfA rB hfB H3 B hSB rs hR hk1 hk)

/-- **C02 liveness on the generated code, k rounds (ReliableUnordered)** (analogue of `C01K.k_round_delivery_unordered`):
    `obtained` is a permutation of `submitted`. -/
theorem src_k_round_delivery_unordered (cfg : Cfg) (ops : List SysOp) (g : GSys) (hg : GSys.exec cfg ops = some g)
    (s : Sys) (hr : (Sys.init cfg).run ops = some s)
    (ch : Nat) (rs : List RoundP) (hrg : RunInRange cfg (ops ++ roundsOps ch rs))
    (hga : (RenetClient.is_disconnected g.a : Res Empty Bool) = .ok false)
    (hgb : (RenetClient.is_disconnected g.b : Res Empty Bool) = .ok false)
    (ho : cfg.Unordered ch) (sA : SendRel) (hfA : SMap.find? s.a.sendRel ch = some sA)
    (rB : RecvRel) (hfB : SMap.find? s.b.recvRel ch = some rB) (H3 : Room (s.submitted ch) rB)
    (B : Nat) (hSB : SLICE_SIZE ≤ B) (hR : Rounds cfg ch (SchedBytes ch B) s rs)
    (hk1 : rs ≠ []) (hk : backlog sA.unacked ≤ rs.length * (B - SLICE_SIZE + 1)) :
    ∃ u, GSys.exec cfg (ops ++ roundsOps ch rs) = some u ∧
      (RenetClient.is_disconnected u.a : Res Empty Bool) = .ok false ∧
      (RenetClient.is_disconnected u.b : Res Empty Bool) = .ok false ∧
      u.submitted ch = g.submitted ch ∧ (u.obtained ch).Perm (g.submitted ch) := by
  obtain ⟨hda, hdb⟩ := model_live_of_sim (sim_of_runs cfg ops _ s g hr hg hrg) hga hgb
  exact live_transfer_perm cfg ops _ s g hr hg hrg ch
    (C01K.k_round_delivery_unordered cfg ops s hr hda hdb ch ho sA hfA rB hfB H3 B hSB rs hR hk1 hk)

/-- **C01 liveness on the generated code, k rounds, single-channel configuration** (analogue of
    `C01K.k_round_delivery_single`): the only A → B channel is the ReliableOrdered channel `ch`, the budget is
    `available_bytes_per_tick ≥ SLICE_SIZE`; no scheduling hypothesis. -/
theorem src_k_round_delivery_single (cfg : Cfg) (ops : List SysOp) (g : GSys) (hg : GSys.exec cfg ops = some g)
    (s : Sys) (hr : (Sys.init cfg).run ops = some s)
    (ch : Nat) (rs : List RoundP) (hrg : RunInRange cfg (ops ++ roundsOps ch rs))
    (hga : (RenetClient.is_disconnected g.a : Res Empty Bool) = .ok false)
    (hgb : (RenetClient.is_disconnected g.b : Res Empty Bool) = .ok false)
    (hsingle : Single cfg ch) (sA : SendRel) (hfA : SMap.find? s.a.sendRel ch = some sA)
    (rB : RecvRel) (hfB : SMap.find? s.b.recvRel ch = some rB) (H3 : Room (s.submitted ch) rB)
    (hSB : SLICE_SIZE ≤ cfg.budget) (hR : Rounds cfg ch (fun _ => True) s rs)
    (hk1 : rs ≠ []) (hk : backlog sA.unacked ≤ rs.length * (cfg.budget - SLICE_SIZE + 1)) :
    ∃ u, GSys.exec cfg (ops ++ roundsOps ch rs) = some u ∧
      (RenetClient.is_disconnected u.a : Res Empty Bool) = .ok false ∧
      (RenetClient.is_disconnected u.b : Res Empty Bool) = .ok false ∧
      u.submitted ch = g.submitted ch ∧ u.obtained ch = g.submitted ch := by
  obtain ⟨hda, hdb⟩ := model_live_of_sim (sim_of_runs cfg ops _ s g hr hg hrg) hga hgb
  exact live_transfer cfg ops _ s g hr hg hrg ch
    (C01K.k_round_delivery_single cfg ops s hr hda hdb ch hsingle sA hfA rB hfB H3 hSB rs hR hk1 hk)

/-- **k rounds on the generated code, per-round side conditions closed** (analogue of `C01KC.k_round_delivery_closed`):
    besides the standing hypotheses only the schedule facts `RoundsSched` and the head-room `HeadRoom` on the initial state. -/
theorem src_k_round_delivery_closed (cfg : Cfg) (ops : List SysOp) (g : GSys) (hg : GSys.exec cfg ops = some g)
    (s : Sys) (hr : (Sys.init cfg).run ops = some s)
    (ch : Nat) (rs : List RoundP) (hrg : RunInRange cfg (ops ++ roundsOps ch rs))
    (hga : (RenetClient.is_disconnected g.a : Res Empty Bool) = .ok false)
    (hgb : (RenetClient.is_disconnected g.b : Res Empty Bool) = .ok false)
    (ho : cfg.Ordered ch) (sA : SendRel) (hfA : SMap.find? s.a.sendRel ch = some sA)
    (rB : RecvRel) (hfB : SMap.find? s.b.recvRel ch = some rB) (H3 : Room (s.submitted ch) rB)
    (B : Nat) (hSB : SLICE_SIZE ≤ B) (hRS : RoundsSched ch (SchedBytes ch B) s rs) (hH : HeadRoom cfg s rs)
    (hk1 : rs ≠ []) (hk : backlog sA.unacked ≤ rs.length * (B - SLICE_SIZE + 1)) :
    ∃ u, GSys.exec cfg (ops ++ roundsOps ch rs) = some u ∧
      (RenetClient.is_disconnected u.a : Res Empty Bool) = .ok false ∧
      (RenetClient.is_disconnected u.b : Res Empty Bool) = .ok false ∧
      u.submitted ch = g.submitted ch ∧ u.obtained ch = g.submitted ch := by
  obtain ⟨hda, hdb⟩ := model_live_of_sim (sim_of_runs cfg ops _ s g hr hg hrg) hga hgb
  exact live_transfer cfg ops _ s g hr hg hrg ch
    (C01KC.k_round_delivery_closed cfg ops s hr hda hdb ch ho sA hfA rB hfB H3 B hSB rs hRS hH hk1 hk)

/-- … single-channel configuration (analogue of `C01KC.k_round_delivery_single_closed`) -/
theorem src_k_round_delivery_single_closed (cfg : Cfg) (ops : List SysOp) (g : GSys) (hg : GSys.exec cfg ops = some g)
    (s : Sys) (hr : (Sys.init cfg).run ops = some s)
    (ch : Nat) (rs : List RoundP) (hrg : RunInRange cfg (ops ++ roundsOps ch rs))
    (hga : (RenetClient.is_disconnected g.a : Res Empty Bool) = .ok false)
    (hgb : (RenetClient.is_disconnected g.b : Res Empty Bool) = .ok false)
    (hsingle : Single cfg ch) (sA : SendRel) (hfA : SMap.find? s.a.sendRel ch = some sA)
    (rB : RecvRel) (hfB : SMap.find? s.b.recvRel ch = some rB) (H3 : Room (s.submitted ch) rB)
    (hSB : SLICE_SIZE ≤ cfg.budget) (hRS : RoundsSched ch (fun _ => True) s rs) (hH : HeadRoom cfg s rs)
    (hk1 : rs ≠ []) (hk : backlog sA.unacked ≤ rs.length * (cfg.budget - SLICE_SIZE + 1)) :
    ∃ u, GSys.exec cfg (ops ++ roundsOps ch rs) = some u ∧
      (RenetClient.is_disconnected u.a : Res Empty Bool) = .ok false ∧
      (RenetClient.is_disconnected u.b : Res Empty Bool) = .ok false ∧
      u.submitted ch = g.submitted ch ∧ u.obtained ch = g.submitted ch := by
  obtain ⟨hda, hdb⟩ := model_live_of_sim (sim_of_runs cfg ops _ s g hr hg hrg) hga hgb
  exact live_transfer cfg ops _ s g hr hg hrg ch
    (C01KC.k_round_delivery_single_closed cfg ops s hr hda hdb ch hsingle sA hfA rB hfB H3 hSB rs hRS hH hk1 hk)

/-- … ReliableUnordered (analogue of `C01KC.k_round_delivery_unordered_closed`) -/
theorem src_k_round_delivery_unordered_closed (cfg : Cfg) (ops : List SysOp) (g : GSys) (hg : GSys.exec cfg ops = some g)
    (s : Sys) (hr : (Sys.init cfg).run ops = some s)
    (ch : Nat) (rs : List RoundP) (hrg : RunInRange cfg (ops ++ roundsOps ch rs))
    (hga : (RenetClient.is_disconnected g.a : Res Empty Bool) = .ok false)
    (hgb : (RenetClient.is_disconnected g.b : Res Empty Bool) = .ok false)
    (ho : cfg.Unordered ch) (sA : SendRel) (hfA : SMap.find? s.a.sendRel ch = some sA)
    (rB : RecvRel) (hfB : SMap.find? s.b.recvRel ch = some rB) (H3 : Room (s.submitted ch) rB)
    (B : Nat) (hSB : SLICE_SIZE ≤ B) (hRS : RoundsSched ch (SchedBytes ch B) s rs) (hH : HeadRoom cfg s rs)
    (hk1 : rs ≠ []) (hk : backlog sA.unacked ≤ rs.length * (B - SLICE_SIZE + 1)) :
    ∃ u, GSys.exec cfg (ops ++ roundsOps ch rs) = some u ∧
      (RenetClient.is_disconnected u.a : Res Empty Bool) = .ok false ∧
      (RenetClient.is_disconnected u.b : Res Empty Bool) = .ok false ∧
      u.submitted ch = g.submitted ch ∧ (u.obtained ch).Perm (g.submitted ch) := by
  obtain ⟨hda, hdb⟩ := model_live_of_sim (sim_of_runs cfg ops _ s g hr hg hrg) hga hgb
  exact live_transfer_perm cfg ops _ s g hr hg hrg ch
    (C01KC.k_round_delivery_unordered_closed cfg ops s hr hda hdb ch ho sA hfA rB hfB H3 B hSB rs hRS hH hk1 hk)

/-! ## non-vacuity: the examples of C01L / C01K / C01KC executed by the kernel ON THE GENERATED CODE -/

def gzero : GSys :=
  ⟨reprConn (fun _ => 0) (Conn.fromChannels 0 [] []), reprConn (fun _ => 0) (Conn.fromChannels 0 [] []), [], [],
   fun _ => [], fun _ => [], fun _ => [], []⟩

/-! `C01K.ExS` — single ReliableOrdered channel, budget 3000 bytes per tick, a 3-byte and a 3700-byte (four-slice) message:
    backlog 4803 > budget; `k = 3` rounds, `4803 ≤ 3 * (3000 - 1200 + 1)`. -/
namespace ExS
abbrev cfg := C01K.ExS.cfg
abbrev ops := C01K.ExS.ops
abbrev rs : List RoundP := [C01K.ExS.r1, C01K.ExS.r2, C01K.ExS.r3]

def g : GSys := (GSys.exec cfg ops).getD gzero
def gu : GSys := (GSys.exec cfg (ops ++ roundsOps 0 rs)).getD gzero

/-- the generated code run by the kernel through the two submissions and the three rounds: the execution up to the
    start of the rounds returns normally; both generated endpoints are live at the start of the rounds, and what has been
    submitted; the whole execution returns normally, and
    what it computes: both messages obtained, in order; A emitted 7 datagrams, all handed to B; both ends live; A's generated
    channel stores nothing any more -/
theorem all :
    (GSys.exec cfg ops).isSome = true ∧
    ((RenetClient.is_disconnected g.a : Res Empty Bool) = .ok false ∧
      (RenetClient.is_disconnected g.b : Res Empty Bool) = .ok false ∧
      g.submitted 0 = [toNats C01K.ExS.m0, toNats C01K.ExS.m1] ∧ g.obtained 0 = []) ∧
    (GSys.exec cfg (ops ++ roundsOps 0 rs)).isSome = true ∧
    (gu.obtained 0 = [toNats C01K.ExS.m0, toNats C01K.ExS.m1] ∧ gu.outA.length = 7 ∧
      gu.deliveredToB = [0, 1, 2, 3, 4, 5, 6] ∧
      (RenetClient.is_disconnected gu.a : Res Empty Bool) = .ok false ∧
      (RenetClient.is_disconnected gu.b : Res Empty Bool) = .ok false ∧
      (RustSem.Map.find? gu.a.send_reliable_channels 0).map (fun s => s.unacked_messages.length) = some 0) := by
  decide +kernel

theorem grun : GSys.exec cfg ops = some g := some_getD all.1 _

theorem delivered : ∃ u, GSys.exec cfg (ops ++ roundsOps 0 rs) = some u ∧
    (RenetClient.is_disconnected u.a : Res Empty Bool) = .ok false ∧
    (RenetClient.is_disconnected u.b : Res Empty Bool) = .ok false ∧
    u.submitted 0 = g.submitted 0 ∧ u.obtained 0 = g.submitted 0 :=
  src_k_round_delivery_single cfg ops g grun C01K.ExS.s C01K.ExS.run_s 0 rs C01K.ExS.inRange all.2.1.1 all.2.1.2.1 C01K.ExS.single0
    C01K.ExS.sA C01K.ExS.find_sA C01K.ExS.rB C01K.ExS.find_rB C01K.ExS.start.2.2.1 (by decide) C01K.ExS.rounds (by simp)
    (by rw [C01K.ExS.start.2.2.2.1]; decide)

example : ∃ u, GSys.exec cfg (ops ++ roundsOps 0 rs) = some u ∧
    (RenetClient.is_disconnected u.a : Res Empty Bool) = .ok false ∧
    (RenetClient.is_disconnected u.b : Res Empty Bool) = .ok false ∧
    u.submitted 0 = g.submitted 0 ∧ u.obtained 0 = g.submitted 0 :=
  src_k_round_delivery_single_closed cfg ops g grun C01K.ExS.s C01K.ExS.run_s 0 rs C01K.ExS.inRange all.2.1.1 all.2.1.2.1
    C01K.ExS.single0 C01K.ExS.sA C01K.ExS.find_sA C01K.ExS.rB C01K.ExS.find_rB C01K.ExS.start.2.2.1 (by decide)
    C01KC.ExS.roundsSched C01KC.ExS.headRoom (by simp) (by rw [C01K.ExS.start.2.2.2.1]; decide)

theorem gfacts : GSys.exec cfg (ops ++ roundsOps 0 rs) = some gu ∧
    gu.obtained 0 = [toNats C01K.ExS.m0, toNats C01K.ExS.m1] ∧ gu.outA.length = 7 ∧
    gu.deliveredToB = [0, 1, 2, 3, 4, 5, 6] ∧
    (RenetClient.is_disconnected gu.a : Res Empty Bool) = .ok false ∧
    (RenetClient.is_disconnected gu.b : Res Empty Bool) = .ok false ∧
    (RustSem.Map.find? gu.a.send_reliable_channels 0).map (fun s => s.unacked_messages.length) = some 0 :=
  ⟨some_getD all.2.2.1 _, all.2.2.2⟩

end ExS

/-! `C01K.ExU` — a ReliableUnordered channel, budget 3000, a 3700-byte and two small messages; datagrams handed over in
    reverse order, one of them twice. -/
namespace ExU
abbrev cfg := C01K.ExU.cfg
abbrev ops := C01K.ExU.ops
abbrev rs : List RoundP := [C01K.ExU.r1, C01K.ExU.r2, C01K.ExU.r3]

def g : GSys := (GSys.exec cfg ops).getD gzero
/-- the generated execution up to the start of the rounds returns normally and both generated endpoints are live at the
    start of the rounds -/
theorem all :
    (GSys.exec cfg ops).isSome = true ∧
    (RenetClient.is_disconnected g.a : Res Empty Bool) = .ok false ∧
    (RenetClient.is_disconnected g.b : Res Empty Bool) = .ok false := by
  decide +kernel
theorem grun : GSys.exec cfg ops = some g := some_getD all.1 _

theorem delivered : ∃ u, GSys.exec cfg (ops ++ roundsOps 0 rs) = some u ∧
    (RenetClient.is_disconnected u.a : Res Empty Bool) = .ok false ∧
    (RenetClient.is_disconnected u.b : Res Empty Bool) = .ok false ∧
    u.submitted 0 = g.submitted 0 ∧ (u.obtained 0).Perm (g.submitted 0) :=
  src_k_round_delivery_unordered cfg ops g grun C01K.ExU.s C01K.ExU.run_s 0 rs C01K.ExU.inRange all.2.1 all.2.2 C01K.ExU.unordered0
    C01K.ExU.sA C01K.ExU.find_sA C01K.ExU.rB C01K.ExU.find_rB C01K.ExU.start.2.2.1 3000 (by decide) C01K.ExU.rounds (by simp)
    (by rw [C01K.ExU.start.2.2.2.1]; decide)

example : ∃ u, GSys.exec cfg (ops ++ roundsOps 0 rs) = some u ∧
    (RenetClient.is_disconnected u.a : Res Empty Bool) = .ok false ∧
    (RenetClient.is_disconnected u.b : Res Empty Bool) = .ok false ∧
    u.submitted 0 = g.submitted 0 ∧ (u.obtained 0).Perm (g.submitted 0) :=
  src_k_round_delivery_unordered_closed cfg ops g grun C01K.ExU.s C01K.ExU.run_s 0 rs C01K.ExU.inRange all.2.1 all.2.2
    C01K.ExU.unordered0 C01K.ExU.sA C01K.ExU.find_sA C01K.ExU.rB C01K.ExU.find_rB C01K.ExU.start.2.2.1 3000 (by decide)
    C01KC.ExU.roundsSched C01KC.ExU.headRoom (by simp) (by rw [C01K.ExU.start.2.2.2.1]; decide)

end ExU

/-! `C01L.ExU` — one lossless round on a ReliableUnordered channel (the state `s` is reached after
    `sendA ; sendA ; flushA ; updA 1000`; the first flush is lost), datagrams handed over in the order 4, 5, 3. -/
namespace ExL
abbrev cfg := C01L.ExU.cfg
abbrev ops := C01L.ExU.ops

def g : GSys := (GSys.exec cfg ops).getD gzero
/-- the generated execution up to the state `s` returns normally and both generated endpoints are live at the start of the round -/
theorem all :
    (GSys.exec cfg ops).isSome = true ∧
    (RenetClient.is_disconnected g.a : Res Empty Bool) = .ok false ∧
    (RenetClient.is_disconnected g.b : Res Empty Bool) = .ok false := by
  decide +kernel
theorem inRange : RunInRange cfg (ops ++ roundOps 0 [4, 5, 3] 2) := C01L.ExU.inRange
theorem grun : GSys.exec cfg ops = some g := some_getD all.1 _
theorem gstart : (RenetClient.is_disconnected g.a : Res Empty Bool) = .ok false ∧
    (RenetClient.is_disconnected g.b : Res Empty Bool) = .ok false := all.2

example : ∃ u, GSys.exec cfg (ops ++ roundOps 0 [4, 5, 3] 2) = some u ∧
    (RenetClient.is_disconnected u.a : Res Empty Bool) = .ok false ∧
    (RenetClient.is_disconnected u.b : Res Empty Bool) = .ok false ∧
    u.submitted 0 = g.submitted 0 ∧ (u.obtained 0).Perm (g.submitted 0) :=
  src_round_delivers_unordered cfg ops g grun C01L.ExU.s C01L.ExU.run_s 0 [4, 5, 3] 2 inRange gstart.1 gstart.2
    C01L.ExU.counters C01L.ExU.countersA C01L.ExU.unordered0 C01L.ExU.sA C01L.ExU.find_sA C01L.ExU.rB C01L.ExU.find_rB
    C01L.ExU.facts.1.2.2.2.2.2.1 C01L.ExU.facts.1.2.2.2.2.2.2.1 C01L.ExU.facts.1.2.2.2.2.2.2.2.1
    C01L.ExU.facts.1.2.2.2.2.2.2.2.2
    (by rw [C01L.ExU.facts.1.2.2.2.2.1]; decide) (by rw [C01L.ExU.facts.1.2.2.2.2.1]; decide)
    (by rw [C01L.ExU.facts.1.2.2.1, C01L.ExU.facts.1.2.2.2.1]; decide)

end ExL

/-! `C01L.Ex` — one lossless round on a ReliableOrdered channel from the state `su` reached after
    `sendA m0 ; sendA m1 ; flushA ; updA 1000` (first flush lost, resend time elapsed). -/
namespace ExO
abbrev cfg := C01L.Ex.cfg
abbrev ops : List SysOp := C01L.Ex.ops ++ [SysOp.updA 1000]
abbrev su := C01L.Ex.su

def rBu : RecvRel := (SMap.find? su.b.recvRel 0).getD (RecvRel.new 0 true)
def g : GSys := (GSys.exec cfg ops).getD gzero

/-- B's receiving channel exists in `su` and the generated execution up to `su` returns normally;
    both generated endpoints are live at the start of the round;
    H3, H4 and the drain bound in the state `su` -/
theorem all :
    ((SMap.find? su.b.recvRel 0).isSome = true ∧ (GSys.exec cfg ops).isSome = true) ∧
    ((RenetClient.is_disconnected g.a : Res Empty Bool) = .ok false ∧
      (RenetClient.is_disconnected g.b : Res Empty Bool) = .ok false) ∧
    (Room (su.submitted 0) rBu ∧ (∀ p ∈ flushPk su.a, OnlyCh 0 p) ∧ newIdx su = [3, 4, 5] ∧
      (su.submitted 0).length ≤ (su.obtained 0).length + 2) := by
  decide +kernel

theorem find_rBu : SMap.find? su.b.recvRel 0 = some rBu := some_getD all.1.1 _
theorem inRange : RunInRange cfg (ops ++ roundOps 0 [3, 4, 5] 2) := C01L.Ex.inRange
theorem grun : GSys.exec cfg ops = some g := some_getD all.1.2 _
theorem gstart : (RenetClient.is_disconnected g.a : Res Empty Bool) = .ok false ∧
    (RenetClient.is_disconnected g.b : Res Empty Bool) = .ok false := all.2.1
theorem hyps : Room (su.submitted 0) rBu ∧ (∀ p ∈ flushPk su.a, OnlyCh 0 p) ∧ newIdx su = [3, 4, 5] ∧
    (su.submitted 0).length ≤ (su.obtained 0).length + 2 := all.2.2

example : ∃ u, GSys.exec cfg (ops ++ roundOps 0 [3, 4, 5] 2) = some u ∧
    (RenetClient.is_disconnected u.a : Res Empty Bool) = .ok false ∧
    (RenetClient.is_disconnected u.b : Res Empty Bool) = .ok false ∧
    u.submitted 0 = g.submitted 0 ∧ u.obtained 0 = g.submitted 0 := by
  -- the facts of `C01L.Ex` that speak of a field of `C01L.Ex.su` are rewritten to speak of `su`: left to unification, the
  -- two names under a projection are compared by evaluating the state
  have e : su = C01L.Ex.su := rfl
  have hf := C01L.Ex.find_sAu
  have h1 := C01L.Ex.ackHyps.1.2.1
  have h2 := C01L.Ex.ackHyps.1.2.2.1
  rw [← e] at hf h1 h2
  exact src_round_delivers cfg ops g grun su C01L.Ex.run_su 0 [3, 4, 5] 2 inRange gstart.1 gstart.2
    C01L.Ex.counters C01L.Ex.countersA C01L.Ex.ordered0 C01L.Ex.sAu hf rBu find_rBu h1 h2 hyps.1 hyps.2.1
    (by rw [hyps.2.2.1]; exact fun _ h => h) (by rw [hyps.2.2.1]; exact fun _ h => h) hyps.2.2.2

end ExO

end RenetVerif.SrcPropsSystemLive
