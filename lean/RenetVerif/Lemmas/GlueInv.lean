/-
  Transport glue (renet_netcode/src/{server,client}.rs, model `Transport/Glue.lean`) : property C20.

  Part 1  the netcode slot table: which public call adds / removes which client id (`TStep`; on id and keys, `TStepS`), where a
          `Payload` / `ClientDisconnected` result of `process_packet` comes from (`Auth`), when `update_client` drops a
          client (`UCShape`); read off the descriptions of the netcode calls (`NS.pp_cases`, `NS.IdOut`, `NS.updateClient_cases`), no table invariant assumed
  Part 2  `handle_server_result` against the renet connection table: the combined step (`handle_sync`), `LockStep`
  Part 3  the loops of `update` / `send_packets` / `disconnect_all` (`handleLoop`), their factorisation into a netcode-only
          run (`ncTrace`) + renet calls (`opOf`) + datagrams (`dgOf`); what `send_packets` makes of one client's packets
          (`Sealed`); what an application call does (`appOp_quiet`, `appOp_live`); `runGlue`, `GInv`
  Part 4  `update` factorised (`IsUpdateRun`); the event log mirrors the netcode results; every allowed call keeps `GInv`
  Part 5  payload routing, inbound and outbound (`SendRun`); why a session ends on the server
  Part 6  the client glue, branch by branch
  Part 7  no unwinding: a loop returns if its netcode calls do (`handleLoop_total`), `disconnect` and the client's receive
          loop always do; server `update` / `send_packets` unwind only if a netcode call does (`NcPanic`)
  Part 8  no server-side connection is ever `Connecting` (`Live`); after `update`, renet's connected ids = netcode's ids
-/
import RenetVerif.Transport.Glue
import RenetVerif.Lemmas.ServerLemmas
import RenetVerif.Lemmas.ConnInv
import RenetVerif.Lemmas.NcWire
import RenetVerif.Lemmas.NcTableEvents
import RenetVerif.Lemmas.NcClientTotal
namespace RenetVerif.GI
open RenetVerif RenetVerif.Netcode RenetVerif.Transport

/-! ## Part 1 : the netcode slot table -/

abbrev Slots := List (Option Connection)

/-- `clients_id` of a slot table -/
def ids (cl : Slots) : List Nat := cl.filterMap fun c => c.map (·.clientId)

theorem clientsId_eq (s : NetcodeServer) : s.clientsId = ids s.clients := rfl

theorem ids_nil : ids [] = [] := rfl

def sess (c : Connection) : Nat × Bytes × Bytes := (c.clientId, c.receiveKey, c.sendKey)

def sessions (cl : Slots) : List (Nat × Bytes × Bytes) := cl.filterMap (·.map sess)

theorem ids_eq (cl : Slots) : ids cl = (sessions cl).map (·.1) := by
  simp [ids, sessions, List.map_filterMap, sess, Function.comp_def]

theorem ids_congr {cl cl' : Slots} (h : sessions cl' = sessions cl) : ids cl' = ids cl := by
  rw [ids_eq, ids_eq, h]

theorem mem_sessions {cl : Slots} {t : Nat × Bytes × Bytes} : t ∈ sessions cl ↔ ∃ c, some c ∈ cl ∧ sess c = t := by
  unfold sessions
  rw [List.mem_filterMap]
  constructor
  · rintro ⟨o, ho, h⟩
    cases o with
    | none => cases h
    | some c => exact ⟨c, ho, Option.some.inj h⟩
  · rintro ⟨c, hc, h⟩
    exact ⟨some c, hc, congrArg some h⟩

theorem mem_ids {cl : Slots} {id : Nat} : id ∈ ids cl ↔ ∃ c, some c ∈ cl ∧ c.clientId = id := by
  rw [ids_eq, List.mem_map]
  constructor
  · rintro ⟨t, ht, rfl⟩
    obtain ⟨c, hc, rfl⟩ := mem_sessions.mp ht
    exact ⟨c, hc, rfl⟩
  · rintro ⟨c, hc, rfl⟩
    exact ⟨sess c, mem_sessions.mpr ⟨c, hc, rfl⟩, rfl⟩

theorem sessions_cons (x : Option Connection) (cl : Slots) :
    sessions (x :: cl) = (x.map sess).toList ++ sessions cl := by
  cases x <;> rfl

theorem sessions_set : ∀ (cl : Slots) (i : Nat) (x y : Option Connection), cl[i]? = some x →
    ∃ l1 l2, sessions cl = l1 ++ (x.map sess).toList ++ l2 ∧ sessions (cl.set i y) = l1 ++ (y.map sess).toList ++ l2
  | [], i, x, y, h => by simp at h
  | z :: cl, 0, x, y, h => by
    simp only [List.getElem?_cons_zero, Option.some.injEq] at h
    subst h
    exact ⟨[], sessions cl, by simp [sessions_cons], by simp [sessions_cons]⟩
  | z :: cl, i + 1, x, y, h => by
    simp only [List.getElem?_cons_succ] at h
    obtain ⟨l1, l2, e1, e2⟩ := sessions_set cl i x y h
    refine ⟨(z.map sess).toList ++ l1, l2, ?_, ?_⟩
    · rw [sessions_cons, e1]; simp
    · rw [List.set_cons_succ, sessions_cons, e2]; simp

theorem sessions_set_same {cl : Slots} {i : Nat} {c c' : Connection} (h : cl[i]? = some (some c))
    (hc : sess c' = sess c) : sessions (cl.set i (some c')) = sessions cl := by
  obtain ⟨l1, l2, e1, e2⟩ := sessions_set cl i (some c) (some c') h
  rw [e1, e2, Option.map_some, Option.map_some, hc]

theorem findSlot_none {cl : Slots} {id : Nat} : findClientSlotById cl id = none ↔ id ∉ ids cl := by
  rw [NS.findSlot_none, NS.findById_none, mem_ids]
  exact ⟨fun h ⟨c, hc, e⟩ => (NS.mem_at hc).elim fun i hi => h i c hi e, fun h i c hi e => h ⟨c, NS.at_mem hi, e⟩⟩

theorem findSlot_isSome {cl : Slots} {id : Nat} : (findClientSlotById cl id).isSome = true ↔ id ∈ ids cl := by
  rw [← Option.ne_none_iff_isSome, ne_eq, findSlot_none, Classical.not_not]

/-- what one netcode server call may do to the id table, by the `ServerResult` it returns:
    `ClientConnected id` – `id` was absent and is inserted; `ClientDisconnected id` – one occurrence of
    `id` is removed; `Payload id` – table unchanged and `id` present; otherwise table unchanged -/
def TStep (cl cl' : Slots) : ServerResult → Prop
  | .clientConnected id _ _ _ => id ∉ ids cl ∧ ∃ l1 l2, ids cl = l1 ++ l2 ∧ ids cl' = l1 ++ id :: l2
  | .clientDisconnected id _ _ => ∃ l1 l2, ids cl = l1 ++ id :: l2 ∧ ids cl' = l1 ++ l2
  | .payload id _ => ids cl' = ids cl ∧ id ∈ ids cl
  | .none => ids cl' = ids cl
  | .packetToSend _ _ => ids cl' = ids cl

theorem TStep.congr_left {cl0 cl cl' : Slots} {r : ServerResult} (e : ids cl = ids cl0) (h : TStep cl cl' r) :
    TStep cl0 cl' r := by
  cases r <;> simp only [TStep] at h ⊢ <;> rw [← e] <;> exact h

/-- `TStep` on sessions instead of ids: the entry inserted or removed carries the reported id, every other entry keeps
    id and keys -/
def TStepS (cl cl' : Slots) : ServerResult → Prop
  | .clientConnected id _ _ _ =>
    id ∉ ids cl ∧ ∃ k l1 l2, sessions cl = l1 ++ l2 ∧ sessions cl' = l1 ++ (id, k) :: l2
  | .clientDisconnected id _ _ => ∃ k l1 l2, sessions cl = l1 ++ (id, k) :: l2 ∧ sessions cl' = l1 ++ l2
  | .payload id _ => sessions cl' = sessions cl ∧ id ∈ ids cl
  | .none => sessions cl' = sessions cl
  | .packetToSend _ _ => sessions cl' = sessions cl

theorem TStepS.tstep {cl cl' : Slots} {r : ServerResult} (h : TStepS cl cl' r) : TStep cl cl' r := by
  cases r with
  | clientConnected id ad ud p =>
    obtain ⟨hn, k, l1, l2, e1, e2⟩ := h
    exact ⟨hn, l1.map (·.1), l2.map (·.1), by rw [ids_eq, e1, List.map_append],
      by rw [ids_eq, e2, List.map_append, List.map_cons]⟩
  | clientDisconnected id ad p =>
    obtain ⟨k, l1, l2, e1, e2⟩ := h
    exact ⟨l1.map (·.1), l2.map (·.1), by rw [ids_eq, e1, List.map_append, List.map_cons],
      by rw [ids_eq, e2, List.map_append]⟩
  | payload id p => exact ⟨ids_congr h.1, h.2⟩
  | none => exact ids_congr h
  | packetToSend ad p => exact ids_congr h

theorem tstep_remove {cl : Slots} {i id : Nat} {c : Connection} (h : cl[i]? = some (some c)) (hid : c.clientId = id)
    (ad : Addr) (p : Option Bytes) : TStepS cl (cl.set i none) (.clientDisconnected id ad p) := by
  obtain ⟨l1, l2, e1, e2⟩ := sessions_set cl i (some c) none h
  subst hid
  exact ⟨(c.receiveKey, c.sendKey), l1, l2, by simpa [sess] using e1, by simpa using e2⟩


def Kept (cl : Slots) (p : Nat) (s' : NetcodeServer) : Prop := sessions s'.clients = sessions cl ∧ s'.protocolId = p

theorem mem_ids_of_at {cl : Slots} {i : Nat} {c : Connection} (h : cl[i]? = some (some c)) : c.clientId ∈ ids cl :=
  mem_ids.mpr ⟨c, NS.at_mem h, rfl⟩

/-- **where a `Payload` / `ClientDisconnected` result of `process_packet` comes from**: the datagram came from the
    address of a connected client with that id and decodes — under that client's receive key and replay window — as a
    payload packet with these bytes / as a disconnect packet.  (With C04 this makes it that client's own datagram.) -/
def Auth (a : AEAD) (s : NetcodeServer) (addr : Addr) (buf : Bytes) : ServerResult → Prop
  | .payload id p => ∃ slot client sq rp, findClientByAddr s.clients addr = some (slot, client) ∧
      client.clientId = id ∧ client.state = .connected ∧
      Netcode.Packet.decode a buf s.protocolId (some client.receiveKey) (some client.replayProtection) =
        (Res.ok (sq, Netcode.Packet.payload p), rp)
  | .clientDisconnected id ad pl => ∃ slot client sq rp, findClientByAddr s.clients addr = some (slot, client) ∧
      client.clientId = id ∧ client.state = .connected ∧ ad = addr ∧ pl = none ∧
      Netcode.Packet.decode a buf s.protocolId (some client.receiveKey) (some client.replayProtection) =
        (Res.ok (sq, Netcode.Packet.disconnect), rp)
  | .clientConnected _ ad _ _ => ad = addr
  | .none => True
  | .packetToSend _ _ => True

theorem processPacket_post {a : AEAD} {s s' : NetcodeServer} {addr : Addr} {buf : Bytes} {r : ServerResult}
    (h : s.processPacket a addr buf = .ok (r, s')) :
    TStepS s.clients s'.clients r ∧ s'.protocolId = s.protocolId ∧ Auth a s addr buf r := by
  rcases NS.pp_cases h with ⟨ho, hl⟩ | ⟨i, c, sq, pk, w', hfa, -, -, rfl, rfl⟩
  case inr => exact ⟨sessions_set_same (NS.findAddr_some hfa).1 rfl, rfl, trivial⟩
  -- a request: no slot is touched, the answer is nothing or a datagram
  have hreq : ∀ {s2 : NetcodeServer} {v : Bytes} {pid e : Nat} {x d : Bytes} {R : NetcodeServer.SRes},
      NS.HcrOut a s2 addr v pid e x d R → NS.HcrRes R r s' → s2.clients = s.clients → s2.protocolId = s.protocolId →
      TStepS s.clients s'.clients r ∧ s'.protocolId = s.protocolId ∧ Auth a s addr buf r := fun hout hres e1 e2 => by
    obtain ⟨h1, h2⟩ := NS.hcr_clients hout hres
    obtain ⟨_, _, _, _, e, -⟩ := NS.hcr_writes hout hres
    have h3 := congrArg NetcodeServer.protocolId e
    rcases h2 with rfl | ⟨out, rfl⟩ <;> exact ⟨by rw [TStepS, h1, e1], h3.trans e2, trivial⟩
  cases ho with
  | connErr i c e w' hfa | connKeepAlive i c sq ci mc w' hfa | connOther i c sq pk w' hfa =>
    exact ⟨sessions_set_same (NS.findAddr_some hfa).1 rfl, rfl, trivial⟩
  | connDisconnect i c sq w' hfa hdec =>
    exact ⟨tstep_remove (NS.findAddr_some hfa).1 rfl addr none, rfl, i, c, sq, _, hfa, rfl, hl i c _ _ _ hfa hdec, rfl, rfl,
      hdec⟩
  | connPayload i c sq p w' hfa hdec =>
    have hat := (NS.findAddr_some hfa).1
    exact ⟨⟨sessions_set_same hat rfl, mem_ids_of_at hat⟩, rfl, i, c, sq, _, hfa, rfl, hl i c _ _ _ hfa hdec, hdec⟩
  | respConnected p sq ts td w' i out hfa hpf hdec hct hid hff hen =>
    have hnot : p.clientId ∉ ids s.clients := fun hm => by
      have := findSlot_isSome.mpr hm
      rw [NS.findSlot_isSome, hid] at this; cases this
    obtain ⟨l1, l2, e1, e2⟩ := sessions_set s.clients i none (some (NS.promoted p w' s.currentTime)) (NS.firstFree_some hff)
    exact ⟨⟨hnot, _, l1, l2, by simpa using e1, by simpa [sess] using e2⟩, rfl, rfl⟩
  | pendRequest p sq v pid e x d w' R _ _ hfa hpf hdec hout hres => exact hreq hout hres rfl rfl
  | newRequest sq v pid e x d R _ _ hfa hpf hdec hout hres => exact hreq hout hres rfl rfl
  | _ => exact ⟨rfl, rfl, trivial⟩

theorem processPacket_tstep {a : AEAD} {s s' : NetcodeServer} {addr : Addr} {buf : Bytes} {r : ServerResult}
    (h : s.processPacket a addr buf = .ok (r, s')) : TStep s.clients s'.clients r := (processPacket_post h).1.tstep

theorem processPacket_auth {a : AEAD} {s s' : NetcodeServer} {addr : Addr} {buf : Bytes} {r : ServerResult}
    (h : s.processPacket a addr buf = .ok (r, s')) : Auth a s addr buf r := (processPacket_post h).2.2

/-- the time-out test of `update_client` -/
def TimedOut (s : NetcodeServer) (c : Connection) : Prop :=
  c.timeoutSeconds > 0 ∧ c.lastPacketReceivedTime + fromSecs c.timeoutSeconds.toNat < s.currentTime

/-- `update_client(id)` reports nothing but a disconnect of `id` itself, and that only for a slot that timed out
    (or was already marked disconnected) -/
def UCShape (s : NetcodeServer) (id : Nat) : ServerResult → Prop
  | .payload _ _ => False
  | .clientConnected _ _ _ _ => False
  | .clientDisconnected i _ _ => i = id ∧ ∃ (slot : Nat) (c : Connection), s.clients[slot]? = some (some c) ∧
      c.clientId = id ∧ (c.state = .disconnected ∨ TimedOut s c)
  | .none => True
  | .packetToSend _ _ => True

theorem tsteps_of_idOut {a : AEAD} {s s' : NetcodeServer} {id : Nat} {mk : Nat → Netcode.Packet} {r : ServerResult}
    (ho : NS.IdOut a s id mk r s') : TStepS s.clients s'.clients r ∧ s'.protocolId = s.protocolId := by
  cases ho with
  | idle => exact ⟨rfl, rfl⟩
  | ended o _ hat hid => exact ⟨tstep_remove hat hid _ _, rfl⟩
  | sent out _ hat => exact ⟨sessions_set_same hat rfl, rfl⟩

theorem updateClient_tstep {a : AEAD} {s s' : NetcodeServer} {id : Nat} {r : ServerResult}
    (h : s.updateClient a id = .ok (r, s')) : TStep s.clients s'.clients r :=
  (tsteps_of_idOut (NS.updateClient_ok h)).1.tstep

theorem updateClient_shape {a : AEAD} {s s' : NetcodeServer} {id : Nat} {r : ServerResult}
    (h : s.updateClient a id = .ok (r, s')) : UCShape s id r := by
  cases hf : findClientSlotById s.clients id with
  | none => rw [NS.updateClient_absent a hf] at h; cases h; trivial
  | some i =>
    obtain ⟨c, hat, hid, -⟩ := NS.findSlot_some hf
    rcases NS.updateClient_cases a hf hat with ⟨hcause, o, -, e⟩ | ⟨-, -, ⟨e, -⟩ | ⟨out, -, -, -, e⟩⟩ | ⟨⟨m, e⟩, -⟩ <;>
      rw [e] at h <;> cases h
    · exact ⟨rfl, i, c, hat, hid, hcause.symm⟩
    · trivial
    · trivial


theorem disconnect_spec {a : AEAD} {s s' : NetcodeServer} {id : Nat} {r : ServerResult}
    (h : s.disconnect a id = .ok (r, s')) :
    TStep s.clients s'.clients r ∧
    (id ∈ ids s.clients → ∃ ad p, r = .clientDisconnected id ad p) ∧
    (id ∉ ids s.clients → r = .none ∧ s' = s) := by
  refine ⟨(tsteps_of_idOut (NS.disconnect_ok (mk := fun _ => .disconnect) h)).1.tstep, ?_⟩
  rcases NS.disconnect_spec a s id with ⟨hn, e⟩ | ⟨i, c, o, -, hat, hid, -, e⟩ <;> cases h.symm.trans e
  · exact ⟨fun hm => absurd hm (findSlot_none.mp hn), fun _ => ⟨rfl, rfl⟩⟩
  · exact ⟨fun _ => ⟨_, _, rfl⟩, fun hn => absurd (hid ▸ mem_ids_of_at hat) hn⟩

theorem generatePayloadPacket_post {a : AEAD} {s s' : NetcodeServer} {id : Nat} {p : Bytes} {dg : Addr × Bytes}
    (h : s.generatePayloadPacket a id p = .ok (dg, s')) : Kept s.clients s.protocolId s' ∧ id ∈ ids s.clients := by
  obtain ⟨ad, out⟩ := dg
  obtain ⟨i, c, -, hat, hid, -, -, rfl⟩ := NS.generatePayload_ok h
  exact ⟨⟨sessions_set_same hat rfl, rfl⟩, hid ▸ mem_ids_of_at hat⟩

/-! ## Part 2 : `handle_server_result` and the lock-step relation -/

/-- **Lock-step.**  The renet connection table and the netcode slot table hold the same client ids
    (`sync`); both tables are keyed without repetition (`nodup`: the ids in the slots are pairwise distinct,
    `sorted`: the `HashMap` keys of renet, modelled as a strictly ascending association list). -/
structure LockStep (g : ServerGlue) : Prop where
  nodup : g.netcode.clientsId.Nodup
  sorted : SL.SMap.Sorted g.renet.conns
  sync : ∀ id, SMap.contains g.renet.conns id = true ↔ id ∈ g.netcode.clientsId

/-- `disconnections_id()` is empty -/
def NoDead (rs : Server) : Prop := ∀ id c, SMap.find? rs.conns id = some c → c.isDisconnected = false

/-- the `RenetServer` calls `handle_server_result` makes for a netcode result -/
def opOf : ServerResult → List SL.SrvOp
  | .payload id p => [.processPacketFrom p id]
  | .clientConnected id _ _ _ => [.add id]
  | .clientDisconnected id _ _ => [.remove id]
  | .none => []
  | .packetToSend _ _ => []

/-- the datagrams `handle_server_result` hands to `send_to` for a netcode result -/
def dgOf : ServerResult → List Dgram
  | .packetToSend addr p => [(addr, p)]
  | .clientConnected _ addr _ p => [(addr, p)]
  | .clientDisconnected _ addr (some p) => [(addr, p)]
  | .clientDisconnected _ _ none => []
  | .payload _ _ => []
  | .none => []

/-- the event `handle_server_result` makes renet push for a netcode result while the tables are in lock-step -/
def evOf (rs : Server) : ServerResult → List Event
  | .clientConnected id _ _ _ => [.connected id]
  | .clientDisconnected id _ _ =>
    [.disconnected id (((SMap.find? rs.conns id).bind (·.disconnectReason)).getD .transport)]
  | .payload _ _ => []
  | .none => []
  | .packetToSend _ _ => []

/-- kind and id of an event / of a netcode result that is reported to the application -/
def evKey : Event → Bool × Nat
  | .connected id => (true, id)
  | .disconnected id _ => (false, id)

def resKey : ServerResult → Option (Bool × Nat)
  | .clientConnected id _ _ _ => some (true, id)
  | .clientDisconnected id _ _ => some (false, id)
  | .payload _ _ => none
  | .none => none
  | .packetToSend _ _ => none

theorem evOf_key (rs : Server) (r : ServerResult) : (evOf rs r).map evKey = (resKey r).toList := by
  cases r <;> rfl

theorem runSrv_single {st st' : SL.SrvState} {op : SL.SrvOp} (h : op.apply st = .ok st') :
    SL.runSrv st [op] = .ok st' := by
  simp [SL.runSrv, h]

theorem handle_payload {id : Nat} {p : Bytes} {rs rs' : Server} {out out' : Array Dgram}
    (h : handleServerResult (.payload id p) rs out = .ok (rs', out')) :
    ∃ ok, rs.processPacketFrom p id = .ok (rs', ok) ∧ out' = out := by
  dsimp only [handleServerResult] at h
  obtain ⟨⟨rs1, ok⟩, hp, h⟩ := Res.bind_ok_iff.mp h
  cases h
  exact ⟨ok, hp, rfl⟩

theorem handle_renet {r : ServerResult} {rs rs' : Server} {out out' : Array Dgram}
    (h : handleServerResult r rs out = .ok (rs', out')) :
    match r with
    | .payload id p => ∃ ok, rs.processPacketFrom p id = .ok (rs', ok)
    | .clientConnected id _ _ _ => rs' = rs.addConnection id
    | .clientDisconnected id _ _ => rs' = rs.removeConnection id
    | .none => rs' = rs
    | .packetToSend _ _ => rs' = rs := by
  cases r with
  | none => cases h; rfl
  | packetToSend addr p => cases h; rfl
  | payload id p =>
    obtain ⟨ok, hp, _⟩ := handle_payload h
    exact ⟨ok, hp⟩
  | clientConnected id addr ud p => cases h; rfl
  | clientDisconnected id addr p =>
    cases p with
    | none => cases h; rfl
    | some p => cases h; rfl

theorem handle_sorted {r : ServerResult} {rs rs' : Server} {out out' : Array Dgram}
    (h : handleServerResult r rs out = .ok (rs', out')) (hs : SL.SMap.Sorted rs.conns) : SL.SMap.Sorted rs'.conns := by
  have hr := handle_renet h
  cases r with
  | none => simp only at hr; subst hr; exact hs
  | packetToSend addr p => simp only at hr; subst hr; exact hs
  | payload id p =>
    simp only at hr
    obtain ⟨ok, hp⟩ := hr
    exact (SL.Server.processPacketFrom_spec hp).2.1.sorted hs
  | clientConnected id addr ud p =>
    simp only at hr; subst hr
    unfold Server.addConnection
    split
    · exact hs
    · exact SL.SMap.sorted_insert _ _ _ hs
  | clientDisconnected id addr p =>
    simp only at hr; subst hr
    unfold Server.removeConnection
    split
    · exact hs
    · exact SL.SMap.sorted_erase _ _ hs

theorem handle_factor {r : ServerResult} {rs rs' : Server} {out out' : Array Dgram}
    (h : handleServerResult r rs out = .ok (rs', out')) (popped : List Event) :
    SL.runSrv (rs, popped) (opOf r) = .ok (rs', popped) ∧ out'.toList = out.toList ++ dgOf r := by
  cases r with
  | none => cases h; exact ⟨rfl, by simp [dgOf]⟩
  | packetToSend addr p => cases h; exact ⟨rfl, by simp [dgOf]⟩
  | payload id p =>
    obtain ⟨ok, hp, e⟩ := handle_payload h
    subst e
    refine ⟨runSrv_single ?_, by simp [dgOf]⟩
    simp [SL.SrvOp.apply, hp, SL.Res.stateOf, SL.keepPopped]
  | clientConnected id addr ud p =>
    cases h
    exact ⟨runSrv_single rfl, by simp [dgOf]⟩
  | clientDisconnected id addr p =>
    cases p with
    | none => cases h; exact ⟨runSrv_single rfl, by simp [dgOf]⟩
    | some p => cases h; exact ⟨runSrv_single rfl, by simp [dgOf]⟩

theorem handle_sync {cl cl' : Slots} {r : ServerResult} {rs rs' : Server} {out out' : Array Dgram}
    (ht : TStep cl cl' r) (hn : (ids cl).Nodup) (hs : SL.SMap.Sorted rs.conns)
    (hy : ∀ id, SMap.contains rs.conns id = true ↔ id ∈ ids cl)
    (h : handleServerResult r rs out = .ok (rs', out')) :
    (ids cl').Nodup ∧ SL.SMap.Sorted rs'.conns ∧ (∀ id, SMap.contains rs'.conns id = true ↔ id ∈ ids cl') ∧
    rs'.events = rs.events ++ evOf rs r := by
  have hr := handle_renet h
  cases r with
  | none =>
    simp only at hr; subst hr
    dsimp only [TStep] at ht
    rw [ht]; exact ⟨hn, hs, hy, by simp [evOf]⟩
  | packetToSend addr p =>
    simp only at hr; subst hr
    dsimp only [TStep] at ht
    rw [ht]; exact ⟨hn, hs, hy, by simp [evOf]⟩
  | payload id p =>
    simp only at hr
    obtain ⟨ok, hp⟩ := hr
    obtain ⟨ad, q, _⟩ := SL.Server.processPacketFrom_spec hp
    dsimp only [TStep] at ht
    rw [ht.1]
    exact ⟨hn, q.sorted hs, fun j => by rw [q.contains j]; exact hy j, by simp [evOf, ad.events]⟩
  -- in the last two cases the id sits in the middle of one table: move it to the front (`List.perm_middle`)
  | clientConnected id addr ud p =>
    simp only at hr; subst hr
    dsimp only [TStep] at ht
    obtain ⟨hnot, l1, l2, e1, e2⟩ := ht
    have hnc : SMap.contains rs.conns id = false := by
      cases hc : SMap.contains rs.conns id with
      | false => rfl
      | true => exact absurd ((hy id).mp hc) hnot
    rw [e1] at hn hnot hy
    rw [e2]
    unfold Server.addConnection
    rw [hnc]
    simp only [Bool.false_eq_true, if_false]
    refine ⟨List.perm_middle.nodup_iff.mpr (List.nodup_cons.mpr ⟨hnot, hn⟩), SL.SMap.sorted_insert _ _ _ hs,
      fun j => ?_, by simp [evOf]⟩
    rw [SMap.contains_insert, hy j, List.perm_middle.mem_iff, List.mem_cons]
  | clientDisconnected id addr p =>
    simp only at hr; subst hr
    dsimp only [TStep] at ht
    obtain ⟨l1, l2, e1, e2⟩ := ht
    have hc : SMap.contains rs.conns id = true := (hy id).mpr (by rw [e1]; simp)
    obtain ⟨c, hf⟩ := SMap.contains_iff_find?.mp hc
    rw [e1] at hn hy
    rw [e2]
    obtain ⟨hnot, hn'⟩ := List.nodup_cons.mp (List.perm_middle.nodup_iff.mp hn)
    unfold Server.removeConnection
    rw [hf]
    refine ⟨hn', SL.SMap.sorted_erase _ _ hs, fun j => ?_, by simp [evOf, hf]⟩
    show SMap.contains (SMap.erase rs.conns id) j = true ↔ _
    rw [SMap.contains_erase hs.nodup, hy j, List.perm_middle.mem_iff, List.mem_cons]
    exact ⟨fun ⟨hne, h1⟩ => h1.resolve_left hne, fun h1 => ⟨fun e => hnot (e ▸ h1), Or.inr h1⟩⟩

theorem lockStep_handle {g : ServerGlue} {ns' : NetcodeServer} {r : ServerResult} {rs' : Server}
    {out out' : Array Dgram} (hl : LockStep g) (ht : TStep g.netcode.clients ns'.clients r)
    (h : handleServerResult r g.renet out = .ok (rs', out')) :
    LockStep { netcode := ns', renet := rs' } ∧ rs'.events = g.renet.events ++ evOf g.renet r := by
  obtain ⟨h1, h2, h3, h4⟩ := handle_sync ht hl.nodup hl.sorted hl.sync h
  exact ⟨⟨h1, h2, h3⟩, h4⟩

theorem LockStep.of_quiet {g : ServerGlue} {ns : NetcodeServer} {rs : Server} (hl : LockStep g)
    (hi : ids ns.clients = ids g.netcode.clients) (q : SL.QuietC g.renet.conns rs.conns) :
    LockStep { netcode := ns, renet := rs } := by
  refine ⟨?_, q.sorted hl.sorted, fun j => ?_⟩
  · show (ids ns.clients).Nodup
    rw [hi]; exact hl.nodup
  · show SMap.contains rs.conns j = true ↔ j ∈ ids ns.clients
    rw [hi, q.contains j]; exact hl.sync j

theorem LockStep.find_none {g : ServerGlue} (hl : LockStep g) {j : Nat} (hj : j ∉ g.netcode.clientsId) :
    SMap.find? g.renet.conns j = none := by
  cases hc : SMap.find? g.renet.conns j with
  | none => rfl
  | some c => exact absurd ((hl.sync j).mp (SMap.contains_iff_find?.mpr ⟨c, hc⟩)) hj

/-! ## Part 3 : the loops -/

/-- the common shape of the three loops of `update` and of `disconnect_all`:
    `for x in l { handle_server_result(f(netcode, x)) }` -/
def handleLoop {α : Type} (f : NetcodeServer → α → Res Empty (ServerResult × NetcodeServer)) (g : ServerGlue) :
    List α → Array Dgram → Res Empty (ServerGlue × Array Dgram)
  | [], out => pure (g, out)
  | x :: rest, out => do
    let (r, ns) ← f g.netcode x
    let (rs, out) ← handleServerResult r g.renet out
    handleLoop f { netcode := ns, renet := rs } rest out

theorem idLoop_eq (f : NetcodeServer → Nat → Res Empty (ServerResult × NetcodeServer)) :
    ∀ (l : List Nat) (g : ServerGlue) (out : Array Dgram), serverIdLoop f g l out = handleLoop f g l out := by
  intro l
  induction l with
  | nil =>
    intro g out
    exact rfl
  | cons id rest ih =>
    intro g out
    simp only [serverIdLoop, handleLoop, ih]

theorem recvLoop_eq (a : AEAD) :
    ∀ (l : List Dgram) (g : ServerGlue) (out : Array Dgram),
      serverRecvLoop a g l out = handleLoop (fun ns d => ns.processPacket a d.1 d.2) g l out := by
  intro l
  induction l with
  | nil =>
    intro g out
    exact rfl
  | cons x rest ih =>
    intro g out
    obtain ⟨addr, buf⟩ := x
    simp only [serverRecvLoop, handleLoop, ih]

/-- the netcode half of a loop on its own: the results it returns, in order, and the final netcode state.
    (The netcode state never depends on renet.) -/
def ncTrace {α : Type} (f : NetcodeServer → α → Res Empty (ServerResult × NetcodeServer)) (ns : NetcodeServer) :
    List α → Res Empty (List ServerResult × NetcodeServer)
  | [] => pure ([], ns)
  | x :: rest => do
    let (r, ns1) ← f ns x
    let (tr, ns2) ← ncTrace f ns1 rest
    pure (r :: tr, ns2)

theorem runSrv_append : ∀ (l1 l2 : List SL.SrvOp) (st st1 st2 : SL.SrvState), SL.runSrv st l1 = .ok st1 →
    SL.runSrv st1 l2 = .ok st2 → SL.runSrv st (l1 ++ l2) = .ok st2 := by
  intro l
  induction l with
  | nil =>
    intro l2 st st1 st2 h1 h2
    cases h1; exact h2
  | cons op l1 ih =>
    intro l2 st st1 st2 h1 h2
    dsimp only [List.cons_append, SL.runSrv] at h1 ⊢
    split at h1
    · rename_i st' hop
      exact ih l2 st' st1 st2 h1 h2
    · cases h1
    · cases h1

theorem handleLoop_cons {α : Type} {f : NetcodeServer → α → Res Empty (ServerResult × NetcodeServer)}
    {g g' : ServerGlue} {x : α} {rest : List α} {out out' : Array Dgram}
    (h : handleLoop f g (x :: rest) out = .ok (g', out')) :
    ∃ r ns rs out1, f g.netcode x = .ok (r, ns) ∧ handleServerResult r g.renet out = .ok (rs, out1) ∧
      handleLoop f { netcode := ns, renet := rs } rest out1 = .ok (g', out') := by
  dsimp only [handleLoop] at h
  obtain ⟨⟨r, ns⟩, h1, h2⟩ := Res.bind_ok_iff.mp h
  obtain ⟨⟨rs, out1⟩, h3, h4⟩ := Res.bind_ok_iff.mp h2
  exact ⟨r, ns, rs, out1, h1, h3, h4⟩

/-- `I` may speak of the elements still to come -/
theorem handleLoop_preserves {α : Type} {f : NetcodeServer → α → Res Empty (ServerResult × NetcodeServer)}
    {I : ServerGlue → List α → Prop}
    (step : ∀ g x rest r ns rs out out1, I g (x :: rest) → f g.netcode x = .ok (r, ns) →
      handleServerResult r g.renet out = .ok (rs, out1) → I { netcode := ns, renet := rs } rest) :
    ∀ (l : List α) (g g' : ServerGlue) (out out' : Array Dgram), handleLoop f g l out = .ok (g', out') → I g l → I g' [] := by
  intro l
  induction l with
  | nil =>
    intro g g' out out' h hi
    cases h; exact hi
  | cons x rest ih =>
    intro g g' out out' h hi
    obtain ⟨r, ns, rs, out1, h1, h2, h3⟩ := handleLoop_cons h
    exact ih _ g' out1 out' h3 (step g x rest r ns rs out out1 hi h1 h2)

theorem handleLoop_factor {α : Type} (f : NetcodeServer → α → Res Empty (ServerResult × NetcodeServer))
    (popped : List Event) :
    ∀ (l : List α) (g g' : ServerGlue) (out out' : Array Dgram), handleLoop f g l out = .ok (g', out') →
    ∃ tr, ncTrace f g.netcode l = .ok (tr, g'.netcode) ∧
      SL.runSrv (g.renet, popped) (tr.flatMap opOf) = .ok (g'.renet, popped) ∧
      out'.toList = out.toList ++ tr.flatMap dgOf ∧
      ((∀ ns x r ns', f ns x = .ok (r, ns') → TStep ns.clients ns'.clients r) → LockStep g →
        LockStep g' ∧ ∃ new, g'.renet.events = g.renet.events ++ new ∧ new.map evKey = tr.filterMap resKey) := by
  intro l
  induction l with
  | nil =>
    intro g g' out out' h
    cases h
    exact ⟨[], rfl, rfl, by simp, fun _ hl => ⟨hl, [], by simp, rfl⟩⟩
  | cons x rest ih =>
    intro g g' out out' h
    obtain ⟨r, ns, rs, out1, h1, h2, h3⟩ := handleLoop_cons h
    obtain ⟨tr, t1, t2, t3, t4⟩ := ih _ g' out1 out' h3
    obtain ⟨f1, f2⟩ := handle_factor h2 popped
    refine ⟨r :: tr, ?_, ?_, ?_, fun hf hl => ?_⟩
    · simp only [ncTrace, h1, Res.bind_ok]
      rw [t1]; rfl
    · rw [List.flatMap_cons]
      exact runSrv_append _ _ _ _ _ f1 t2
    · rw [t3, f2, List.flatMap_cons, List.append_assoc]
    · obtain ⟨hl1, he1⟩ := lockStep_handle hl (hf _ _ _ _ h1) h2
      obtain ⟨hl2, new, he2, hk⟩ := t4 hf hl1
      refine ⟨hl2, evOf g.renet r ++ new, ?_, ?_⟩
      · rw [he2]
        show rs.events ++ new = _
        rw [he1, List.append_assoc]
      · rw [List.map_append, evOf_key, hk, List.filterMap_cons]
        cases resKey r <;> rfl

abbrev ppF (a : AEAD) : NetcodeServer → Dgram → Res Empty (ServerResult × NetcodeServer) :=
  fun ns d => ns.processPacket a d.1 d.2
abbrev ucF (a : AEAD) : NetcodeServer → Nat → Res Empty (ServerResult × NetcodeServer) :=
  fun ns id => ns.updateClient a id
abbrev dcF (a : AEAD) : NetcodeServer → Nat → Res Empty (ServerResult × NetcodeServer) :=
  fun ns id => ns.disconnect a id

theorem ppF_tstep (a : AEAD) : ∀ ns x r ns', ppF a ns x = .ok (r, ns') → TStep ns.clients ns'.clients r :=
  fun _ _ _ _ h => processPacket_tstep h
theorem ucF_tstep (a : AEAD) : ∀ ns x r ns', ucF a ns x = .ok (r, ns') → TStep ns.clients ns'.clients r :=
  fun _ _ _ _ h => updateClient_tstep h
theorem dcF_tstep (a : AEAD) : ∀ ns x r ns', dcF a ns x = .ok (r, ns') → TStep ns.clients ns'.clients r :=
  fun _ _ _ _ h => (disconnect_spec h).1

theorem handleLoop_lockstep' {α : Type} {f : NetcodeServer → α → Res Empty (ServerResult × NetcodeServer)}
    (hf : ∀ ns x r ns', f ns x = .ok (r, ns') → TStep ns.clients ns'.clients r)
    {l : List α} {g g' : ServerGlue} {out out' : Array Dgram}
    (h : handleLoop f g l out = .ok (g', out')) (hl : LockStep g) : LockStep g' :=
  let ⟨_, _, _, _, q⟩ := handleLoop_factor f [] l g g' out out' h
  (q hf hl).1

theorem removeConnection_find_self (rs : Server) (hs : SL.SMap.Sorted rs.conns) (id : Nat) :
    SMap.find? (rs.removeConnection id).conns id = none := by
  unfold Server.removeConnection
  cases hf : SMap.find? rs.conns id with
  | none => exact hf
  | some c => exact SMap.find?_erase_self hs.nodup _

theorem disconnect_handle_find {a : AEAD} {g : ServerGlue} {id : Nat} {r : ServerResult} {ns : NetcodeServer}
    {rs : Server} {out out1 : Array Dgram} (hl : LockStep g) (h1 : g.netcode.disconnect a id = .ok (r, ns))
    (h2 : handleServerResult r g.renet out = .ok (rs, out1)) :
    SMap.find? rs.conns id = none ∧ ∀ j, j ≠ id → SMap.find? rs.conns j = SMap.find? g.renet.conns j := by
  obtain ⟨_, hin, hout⟩ := disconnect_spec h1
  have hr := handle_renet h2
  by_cases hm : id ∈ ids g.netcode.clients
  · obtain ⟨ad, p, e⟩ := hin hm
    subst e
    simp only at hr
    rw [hr]
    exact ⟨removeConnection_find_self _ hl.sorted id, fun j hj => SL.removeConnection_frame _ _ _ hj⟩
  · obtain ⟨e, _⟩ := hout hm
    subst e
    simp only at hr
    rw [hr]
    exact ⟨hl.find_none hm, fun _ _ => rfl⟩

theorem disconnectLoop_spec (a : AEAD) :
    ∀ (l : List Nat) (g g' : ServerGlue) (out out' : Array Dgram),
    handleLoop (dcF a) g l out = .ok (g', out') → LockStep g →
    (∀ j, j ∈ l → SMap.find? g'.renet.conns j = none) ∧
    (∀ j, j ∉ l → SMap.find? g'.renet.conns j = SMap.find? g.renet.conns j) := by
  intro l
  induction l with
  | nil =>
    intro g g' out out' h hl
    cases h
    exact ⟨fun j hj => (by cases hj), fun j _ => rfl⟩
  | cons id rest ih =>
    intro g g' out out' h hl
    obtain ⟨r, ns, rs, out1, h1, h2, h3⟩ := handleLoop_cons h
    obtain ⟨hl1, _⟩ := lockStep_handle hl (dcF_tstep a _ _ _ _ h1) h2
    obtain ⟨ih1, ih2⟩ := ih _ g' out1 out' h3 hl1
    obtain ⟨hself, hother⟩ := disconnect_handle_find hl h1 h2
    refine ⟨fun j hj => ?_, fun j hj => ?_⟩
    · by_cases hjr : j ∈ rest
      · exact ih1 j hjr
      · have : j = id := (List.mem_cons.mp hj).resolve_right hjr
        subst this
        rw [ih2 j hjr]; exact hself
    · rw [List.mem_cons, not_or] at hj
      rw [ih2 j hj.2]; exact hother j hj.1

theorem mem_disconnectionsId {rs : Server} {j : Nat} {c : Conn} (hf : SMap.find? rs.conns j = some c)
    (hd : c.isDisconnected = true) : j ∈ rs.disconnectionsId := by
  unfold Server.disconnectionsId
  exact List.mem_map.mpr ⟨(j, c), List.mem_filter.mpr ⟨SMap.mem_of_find? hf, hd⟩, rfl⟩

theorem contains_of_mem_clientsId {rs : Server} {j : Nat} (h : j ∈ rs.clientsId) : SMap.contains rs.conns j = true := by
  unfold Server.clientsId at h
  obtain ⟨x, hx, rfl⟩ := List.mem_map.mp h
  have hk : x.1 ∈ SMap.keys rs.conns := List.mem_map.mpr ⟨x, (List.mem_filter.mp hx).1, rfl⟩
  exact SMap.contains_iff.mpr hk

theorem serverUpdate_unfold {a : AEAD} {g g' : ServerGlue} {d : Nat} {inbox : List Dgram} {out : Array Dgram}
    (h : serverUpdate a g d inbox = .ok (g', out)) :
    ∃ ns0 g1 out1 g2 out2, g.netcode.update d = .ok ns0 ∧
      handleLoop (ppF a) { g with netcode := ns0 } inbox #[] = .ok (g1, out1) ∧
      handleLoop (ucF a) g1 g1.netcode.clientsId out1 = .ok (g2, out2) ∧
      handleLoop (dcF a) g2 g2.renet.disconnectionsId out2 = .ok (g', out) := by
  unfold serverUpdate at h
  obtain ⟨ns0, h0, h⟩ := Res.bind_ok_iff.mp h
  obtain ⟨⟨g1, out1⟩, h1, h⟩ := Res.bind_ok_iff.mp h
  dsimp only at h
  obtain ⟨⟨g2, out2⟩, h2, h3⟩ := Res.bind_ok_iff.mp h
  dsimp only at h3
  rw [recvLoop_eq] at h1
  rw [idLoop_eq] at h2 h3
  exact ⟨ns0, g1, out1, g2, out2, h0, h1, h2, h3⟩

theorem lockStep_update {g : ServerGlue} {d : Nat} {ns0 : NetcodeServer} (h0 : g.netcode.update d = .ok ns0)
    (hl : LockStep g) : LockStep { g with netcode := ns0 } :=
  hl.of_quiet (by rw [NS.update_ok h0]) (SL.QuietC.refl _)

/-- **(b)** `update` keeps lock-step and leaves no disconnected connection in the renet table: a disconnect decided
    by the message layer (an error on a channel, `RenetServer::disconnect`) ends the netcode session and removes the
    connection within this one `update` -/
theorem serverUpdate_lockstep {a : AEAD} {g g' : ServerGlue} {d : Nat} {inbox : List Dgram} {out : Array Dgram}
    (h : serverUpdate a g d inbox = .ok (g', out)) (hl : LockStep g) : LockStep g' ∧ NoDead g'.renet := by
  obtain ⟨ns0, g1, out1, g2, out2, h0, h1, h2, h3⟩ := serverUpdate_unfold h
  have hl1 := handleLoop_lockstep' (ppF_tstep a) h1 (lockStep_update h0 hl)
  have hl2 := handleLoop_lockstep' (ucF_tstep a) h2 hl1
  have hl3 := handleLoop_lockstep' (dcF_tstep a) h3 hl2
  obtain ⟨d1, d2⟩ := disconnectLoop_spec a _ g2 g' out2 out h3 hl2
  refine ⟨hl3, fun j c hf => ?_⟩
  cases hd : c.isDisconnected with
  | false => rfl
  | true =>
    by_cases hj : j ∈ g2.renet.disconnectionsId
    · rw [d1 j hj] at hf; cases hf
    · rw [d2 j hj] at hf
      exact absurd (mem_disconnectionsId hf hd) hj

/-- what `generate_payload_packet(id, ·)` makes of the packets `ps`, in order, threading the netcode state;
    the first error abandons the rest -/
inductive Sealed (a : AEAD) (id : Nat) : NetcodeServer → List Bytes → List Dgram → NetcodeServer → Prop
  | nil (ns : NetcodeServer) : Sealed a id ns [] [] ns
  | abandon {ns : NetcodeServer} {p : Bytes} {ps : List Bytes} {e : NetcodeError} :
      ns.generatePayloadPacket a id p = .err e → Sealed a id ns (p :: ps) [] ns
  | cons {ns ns1 ns2 : NetcodeServer} {p : Bytes} {ps : List Bytes} {d : Dgram} {ds : List Dgram} :
      ns.generatePayloadPacket a id p = .ok (d, ns1) → Sealed a id ns1 ps ds ns2 →
      Sealed a id ns (p :: ps) (d :: ds) ns2

theorem sendClient_sealed (a : AEAD) (id : Nat) :
    ∀ (ps : List Bytes) (ns ns' : NetcodeServer) (out out' : Array Dgram),
    serverSendClient a ns id ps out = .ok (ns', out') →
    ∃ ds, out'.toList = out.toList ++ ds ∧ Sealed a id ns ps ds ns' := by
  intro l
  induction l with
  | nil =>
    intro ns ns' out out' h
    cases h
    exact ⟨[], by simp, .nil ns⟩
  | cons p rest ih =>
    intro ns ns' out out' h
    dsimp only [serverSendClient] at h
    split at h
    · cases h
    · rename_i e he
      cases h
      exact ⟨[], by simp, .abandon he⟩
    · rename_i addr dg ns1 hg
      obtain ⟨ds, e1, e2⟩ := ih ns1 ns' _ out' h
      exact ⟨(addr, dg) :: ds, by rw [e1]; simp, .cons hg e2⟩

theorem Sealed.kept {a : AEAD} {id : Nat} {ns ns' : NetcodeServer} {ps : List Bytes} {ds : List Dgram}
    (h : Sealed a id ns ps ds ns') : Kept ns.clients ns.protocolId ns' := by
  induction h with
  | nil ns => exact ⟨rfl, rfl⟩
  | abandon he => exact ⟨rfl, rfl⟩
  | cons hg _ ih =>
    obtain ⟨k, -⟩ := generatePayloadPacket_post hg
    exact ⟨ih.1.trans k.1, ih.2.trans k.2⟩

theorem sendLoop_cons {a : AEAD} {g g' : ServerGlue} {id : Nat} {rest : List Nat} {out out' : Array Dgram}
    (h : serverSendLoop a g (id :: rest) out = .ok (g', out')) :
    ∃ rs ps ns out1, g.renet.getPacketsToSend id = .ok (rs, some ps) ∧
      serverSendClient a g.netcode id ps out = .ok (ns, out1) ∧
      serverSendLoop a { netcode := ns, renet := rs } rest out1 = .ok (g', out') := by
  dsimp only [serverSendLoop] at h
  obtain ⟨⟨rs, ps⟩, h1, h2⟩ := Res.bind_ok_iff.mp h
  cases ps with
  | none => cases h2
  | some ps =>
    obtain ⟨⟨ns, out1⟩, h3, h4⟩ := Res.bind_ok_iff.mp h2
    exact ⟨rs, ps, ns, out1, h1, h3, h4⟩

/-- **(c)** `send_packets` keeps lock-step: it only replaces connections under existing keys (each status stays or
    becomes `Disconnected`: `Calm`) and slot contents under existing ids, and pushes no event -/
theorem sendLoop_lockstep (a : AEAD) : ∀ (l : List Nat) (g g' : ServerGlue) (out out' : Array Dgram),
    serverSendLoop a g l out = .ok (g', out') → LockStep g →
    LockStep g' ∧ SL.QuietC g.renet.conns g'.renet.conns ∧ g'.renet.events = g.renet.events ∧
      SL.Calm g.renet.conns g'.renet.conns := by
  intro l
  induction l with
  | nil =>
    intro g g' out out' h hl
    cases h
    exact ⟨hl, SL.QuietC.refl _, rfl, SL.Calm.refl _⟩
  | cons id rest ih =>
    intro g g' out out' h hl
    obtain ⟨rs, ps, ns, out1, h1, h2, h3⟩ := sendLoop_cons h
    obtain ⟨ad, q, _⟩ := SL.Server.getPacketsToSend_spec h1
    obtain ⟨_, _, hs⟩ := sendClient_sealed a id ps _ _ _ _ h2
    have hl1 := hl.of_quiet (ids_congr hs.kept.1) q
    obtain ⟨hl2, q2, e2, c2⟩ := ih _ g' out1 out' h3 hl1
    exact ⟨hl2, q.trans q2, e2.trans ad.events, (SL.Server.getPacketsToSend_calm h1).trans c2⟩

theorem serverDisconnectAll_eq (a : AEAD) (g : ServerGlue) :
    serverDisconnectAll a g = handleLoop (dcF a) g g.netcode.clientsId #[] :=
  idLoop_eq _ _ _ _

theorem serverDisconnectAll_lockstep {a : AEAD} {g g' : ServerGlue} {out : Array Dgram}
    (h : serverDisconnectAll a g = .ok (g', out)) (hl : LockStep g) :
    LockStep g' ∧ g'.renet.conns = [] ∧ g'.netcode.clientsId = [] := by
  rw [serverDisconnectAll_eq] at h
  have hl' := handleLoop_lockstep' (dcF_tstep a) h hl
  obtain ⟨d1, d2⟩ := disconnectLoop_spec a _ g g' _ out h hl
  have hnone : ∀ j, SMap.find? g'.renet.conns j = none := by
    intro j
    by_cases hj : j ∈ g.netcode.clientsId
    · exact d1 j hj
    · rw [d2 j hj]; exact hl.find_none hj
  refine ⟨hl', SMap.eq_nil_of_find?_eq_none hnone, ?_⟩
  apply List.eq_nil_iff_forall_not_mem.mpr
  intro j hj
  have := (hl'.sync j).mpr hj
  simp [SMap.contains, hnone j] at this

/-- connections of the server are created `Connected` -/
def Live (rs : Server) : Prop := ∀ id c, SMap.find? rs.conns id = some c → c.status ≠ .connecting

theorem Live.of_calm {s s' : Server} (q : SL.QuietC s.conns s'.conns) (cm : SL.Calm s.conns s'.conns) (hl : Live s) :
    Live s' := by
  intro j x hx
  cases hf : SMap.find? s.conns j with
  | none => rw [q.absent j hf] at hx; cases hx
  | some c =>
    obtain ⟨c', h1, h2⟩ := cm j c hf
    rw [h1] at hx; cases hx
    exact h2.live (hl j c hf)

/-- the `RenetServer` calls an application may make: everything except the four that add or remove
    connections themselves (`add_connection` / `remove_connection` are for transports only, the local-client
    pair is a transport of its own) -/
def appOp : SL.SrvOp → Bool
  | .add _ => false
  | .remove _ => false
  | .newLocalClient _ => false
  | .disconnectLocalClient _ _ => false
  | _ => true

theorem appOp_edits {op : SL.SrvOp} (ha : appOp op = true) : op.edits = false := by
  cases op <;> first | rfl | cases ha

theorem appOp_quiet {st st' : SL.SrvState} {op : SL.SrvOp} (ha : appOp op = true) (h : op.apply st = .ok st') :
    SL.QuietC st.1.conns st'.1.conns ∧ SL.eventLog st' = SL.eventLog st :=
  let ⟨q, e, _⟩ := (SL.SrvOp.apply_spec h).quiet (appOp_edits ha); ⟨q, e⟩

theorem appOp_live {st st' : SL.SrvState} {op : SL.SrvOp} (ha : appOp op = true) (h : op.apply st = .ok st')
    (hl : Live st.1) : Live st'.1 :=
  let ⟨q, _, cm⟩ := (SL.SrvOp.apply_spec h).quiet (appOp_edits ha); hl.of_calm q cm

inductive GlueOp where
  | update (d : Nat) (inbox : List Dgram)
  | sendPackets
  | disconnectAll
  | app (op : SL.SrvOp)

/-- the glue state and (ghost) the events the application has already taken with `get_event` -/
abbrev GState := ServerGlue × List Event

def GlueOp.apply (a : AEAD) (st : GState) : GlueOp → Res Empty GState
  | .update d inbox => do
    let (g, _) ← serverUpdate a st.1 d inbox
    pure (g, st.2)
  | .sendPackets => do
    let (g, _) ← serverSendPackets a st.1
    pure (g, st.2)
  | .disconnectAll => do
    let (g, _) ← serverDisconnectAll a st.1
    pure (g, st.2)
  | .app op => do
    let st' ← op.apply (st.1.renet, st.2)
    pure ({ st.1 with renet := st'.1 }, st'.2)

def GlueOp.allowed : GlueOp → Bool
  | .app op => appOp op
  | _ => true

def runGlue (a : AEAD) (st : GState) : List GlueOp → Res Empty GState
  | [] => .ok st
  | op :: rest =>
    match op.apply a st with
    | .ok st' => runGlue a st' rest
    | .err e => .err e
    | .panic m => .panic m

def GInv (st : GState) : Prop := LockStep st.1 ∧ SL.SrvInv (st.1.renet, st.2)

theorem srvInv_of_quiet {rs rs' : Server} {popped : List Event} (q : SL.QuietC rs.conns rs'.conns)
    (e : rs'.events = rs.events) (hi : SL.SrvInv (rs, popped)) : SL.SrvInv (rs', popped) :=
  SL.Step.inv (st := (rs, popped)) (st' := (rs', popped)) (SL.Step.quiet_of q e rfl) hi

inductive GlueOp.Applied (a : AEAD) (g : ServerGlue) (popped : List Event) : GlueOp → GState → Prop
  | update {d : Nat} {inbox : List Dgram} {g' : ServerGlue} {out : Array Dgram} :
      serverUpdate a g d inbox = .ok (g', out) → Applied a g popped (.update d inbox) (g', popped)
  | sendPackets {g' : ServerGlue} {out : Array Dgram} :
      serverSendPackets a g = .ok (g', out) → Applied a g popped .sendPackets (g', popped)
  | disconnectAll {g' : ServerGlue} {out : Array Dgram} :
      serverDisconnectAll a g = .ok (g', out) → Applied a g popped .disconnectAll (g', popped)
  | app {sop : SL.SrvOp} {st' : SL.SrvState} :
      sop.apply (g.renet, popped) = .ok st' → Applied a g popped (.app sop) ({ g with renet := st'.1 }, st'.2)

theorem GlueOp.applied {a : AEAD} {st st' : GState} {op : GlueOp} (h : op.apply a st = .ok st') :
    GlueOp.Applied a st.1 st.2 op st' := by
  cases op with
  | update d inbox =>
    obtain ⟨v, h1, h2⟩ := Res.bind_ok_iff.mp h
    cases h2
    exact .update h1
  | sendPackets =>
    obtain ⟨v, h1, h2⟩ := Res.bind_ok_iff.mp h
    cases h2
    exact .sendPackets h1
  | disconnectAll =>
    obtain ⟨v, h1, h2⟩ := Res.bind_ok_iff.mp h
    cases h2
    exact .disconnectAll h1
  | app sop =>
    obtain ⟨v, h1, h2⟩ := Res.bind_ok_iff.mp h
    cases h2
    exact .app h1

theorem gInv_fresh {ns : NetcodeServer} (h : ns.clientsId = []) (budget : Nat) (sc cc : List ChanCfg) :
    GInv ({ netcode := ns, renet := Server.new budget sc cc }, []) := by
  refine ⟨⟨?_, SL.SMap.sorted_nil, fun id => ?_⟩, SL.srvInv_new budget sc cc⟩
  · show ns.clientsId.Nodup
    rw [h]; exact List.nodup_nil
  · show SMap.contains (Server.new budget sc cc).conns id = true ↔ id ∈ ns.clientsId
    rw [h]; simp [Server.new, SMap.contains]

/-! ## Part 4 : `update` factorised; the event log mirrors the netcode results -/

/-- the netcode side of one `NetcodeServerTransport::update`: the clock step, then the results of
    `process_packet` on the queued datagrams (`tr1`), of `update_client` on the ids connected at that point (`tr2`),
    of `disconnect` on the ids renet holds disconnected at that point (`tr3`) -/
structure UpdateTrace where
  ns0 : NetcodeServer
  tr1 : List ServerResult
  ns1 : NetcodeServer
  tr2 : List ServerResult
  ns2 : NetcodeServer
  rs2 : Server
  tr3 : List ServerResult

def UpdateTrace.all (T : UpdateTrace) : List ServerResult := T.tr1 ++ T.tr2 ++ T.tr3

structure IsUpdateRun (a : AEAD) (g : ServerGlue) (d : Nat) (inbox : List Dgram) (g' : ServerGlue)
    (out : Array Dgram) (popped : List Event) (T : UpdateTrace) : Prop where
  clock : g.netcode.update d = .ok T.ns0
  recv : ncTrace (ppF a) T.ns0 inbox = .ok (T.tr1, T.ns1)
  ticks : ncTrace (ucF a) T.ns1 T.ns1.clientsId = .ok (T.tr2, T.ns2)
  renet12 : SL.runSrv (g.renet, popped) ((T.tr1 ++ T.tr2).flatMap opOf) = .ok (T.rs2, popped)
  dead : ncTrace (dcF a) T.ns2 T.rs2.disconnectionsId = .ok (T.tr3, g'.netcode)
  renet3 : SL.runSrv (T.rs2, popped) (T.tr3.flatMap opOf) = .ok (g'.renet, popped)
  sent : out.toList = T.all.flatMap dgOf

theorem IsUpdateRun.renet {a : AEAD} {g g' : ServerGlue} {d : Nat} {inbox : List Dgram} {out : Array Dgram}
    {popped : List Event} {T : UpdateTrace} (h : IsUpdateRun a g d inbox g' out popped T) :
    SL.runSrv (g.renet, popped) (T.all.flatMap opOf) = .ok (g'.renet, popped) := by
  unfold UpdateTrace.all
  rw [List.flatMap_append]
  exact runSrv_append _ _ _ _ _ h.renet12 h.renet3

theorem serverUpdate_factor {a : AEAD} {g g' : ServerGlue} {d : Nat} {inbox : List Dgram} {out : Array Dgram}
    (h : serverUpdate a g d inbox = .ok (g', out)) (popped : List Event) :
    ∃ T, IsUpdateRun a g d inbox g' out popped T ∧
      (LockStep g → ∃ new, g'.renet.events = g.renet.events ++ new ∧ new.map evKey = T.all.filterMap resKey) := by
  obtain ⟨ns0, g1, out1, g2, out2, h0, l1, l2, l3⟩ := serverUpdate_unfold h
  obtain ⟨tr1, t1, r1, o1, q1⟩ := handleLoop_factor (ppF a) popped _ _ _ _ _ l1
  obtain ⟨tr2, t2, r2, o2, q2⟩ := handleLoop_factor (ucF a) popped _ _ _ _ _ l2
  obtain ⟨tr3, t3, r3, o3, q3⟩ := handleLoop_factor (dcF a) popped _ _ _ _ _ l3
  refine ⟨⟨ns0, tr1, g1.netcode, tr2, g2.netcode, g2.renet, tr3⟩, ⟨h0, t1, t2, ?_, t3, r3, ?_⟩, ?_⟩
  · rw [List.flatMap_append]
    exact runSrv_append _ _ _ _ _ r1 r2
  · rw [o3, o2, o1]
    simp [UpdateTrace.all, List.flatMap_append]
  · intro hl
    obtain ⟨hl1, n1, e1, k1⟩ := q1 (ppF_tstep a) (lockStep_update h0 hl)
    obtain ⟨hl2, n2, e2, k2⟩ := q2 (ucF_tstep a) hl1
    obtain ⟨hl3, n3, e3, k3⟩ := q3 (dcF_tstep a) hl2
    refine ⟨n1 ++ n2 ++ n3, ?_, ?_⟩
    · rw [e3, e2, e1]; simp
    · simp only [UpdateTrace.all, List.map_append, List.filterMap_append, k1, k2, k3]

theorem GlueOp.apply_inv {a : AEAD} {st st' : GState} {op : GlueOp} (h : op.apply a st = .ok st')
    (ha : op.allowed = true) (hi : GInv st) : GInv st' := by
  obtain ⟨g, popped⟩ := st
  obtain ⟨hl, hs⟩ := hi
  cases GlueOp.applied h with
  | update h1 =>
    obtain ⟨T, hr, -⟩ := serverUpdate_factor h1 popped
    exact ⟨(serverUpdate_lockstep h1 hl).1, SL.runSrv_inv _ _ _ hr.renet hs⟩
  | sendPackets h1 =>
    obtain ⟨hl', q, e, -⟩ := sendLoop_lockstep a _ _ _ _ _ h1 hl
    exact ⟨hl', srvInv_of_quiet q e hs⟩
  | disconnectAll h1 =>
    refine ⟨(serverDisconnectAll_lockstep h1 hl).1, ?_⟩
    rw [serverDisconnectAll_eq] at h1
    obtain ⟨tr, -, t2, -⟩ := handleLoop_factor (dcF a) popped _ _ _ _ _ h1
    exact SL.runSrv_inv _ _ _ t2 hs
  | app h1 =>
    obtain ⟨q, _⟩ := appOp_quiet ha h1
    exact ⟨hl.of_quiet rfl q, (SL.SrvOp.apply_step h1).inv hs⟩

theorem ncTrace_mem {α : Type} {f : NetcodeServer → α → Res Empty (ServerResult × NetcodeServer)} :
    ∀ {l : List α} {ns ns' : NetcodeServer} {tr : List ServerResult}, ncTrace f ns l = .ok (tr, ns') →
    ∀ r ∈ tr, ∃ nsA x nsB, x ∈ l ∧ f nsA x = .ok (r, nsB)
  | [], ns, ns', tr, h, r, hr => by
    cases h; cases hr
  | x :: rest, ns, ns', tr, h, r, hr => by
    dsimp only [ncTrace] at h
    obtain ⟨⟨r0, ns1⟩, h1, h⟩ := Res.bind_ok_iff.mp h
    obtain ⟨⟨tr1, ns2⟩, h3, h⟩ := Res.bind_ok_iff.mp h
    cases h
    rcases List.mem_cons.mp hr with e | e
    · subst e
      exact ⟨ns, x, ns1, List.mem_cons_self, h1⟩
    · obtain ⟨nsA, y, nsB, hy, hf⟩ := ncTrace_mem h3 r e
      exact ⟨nsA, y, nsB, List.mem_cons_of_mem _ hy, hf⟩

/-! ## Part 5 : payload routing -/

theorem mem_flatMap_opOf_ppf {tr : List ServerResult} {b : Bytes} {id : Nat}
    (h : SL.SrvOp.processPacketFrom b id ∈ tr.flatMap opOf) : ServerResult.payload id b ∈ tr := by
  obtain ⟨r, hr, hm⟩ := List.mem_flatMap.mp h
  cases r with
  | payload i p =>
    cases List.mem_singleton.mp hm
    exact hr
  | none => simp [opOf] at hm
  | packetToSend ad p => simp [opOf] at hm
  | clientConnected i ad ud p => simp [opOf] at hm
  | clientDisconnected i ad p => simp [opOf] at hm

theorem IsUpdateRun.mem_all {a : AEAD} {g g' : ServerGlue} {d : Nat} {inbox : List Dgram} {out : Array Dgram}
    {popped : List Event} {T : UpdateTrace} (hr : IsUpdateRun a g d inbox g' out popped T) {r : ServerResult}
    (h : r ∈ T.all) :
    (∃ (nsA : NetcodeServer) (dg : Dgram) (nsB : NetcodeServer), dg ∈ inbox ∧
        nsA.processPacket a dg.1 dg.2 = .ok (r, nsB)) ∨
    (∃ (nsA : NetcodeServer) (x : Nat) (nsB : NetcodeServer), nsA.updateClient a x = .ok (r, nsB)) ∨
    (∃ (nsA : NetcodeServer) (x : Nat) (nsB : NetcodeServer), x ∈ T.rs2.disconnectionsId ∧
        nsA.disconnect a x = .ok (r, nsB)) := by
  unfold UpdateTrace.all at h
  rcases List.mem_append.mp h with hm | hm
  · rcases List.mem_append.mp hm with hm | hm
    · exact Or.inl (ncTrace_mem hr.recv _ hm)
    · obtain ⟨nsA, x, nsB, _, hf⟩ := ncTrace_mem hr.ticks _ hm
      exact Or.inr (Or.inl ⟨nsA, x, nsB, hf⟩)
  · exact Or.inr (Or.inr (ncTrace_mem hr.dead _ hm))

/-- **a disconnect decided by the message layer on the server ends the session within one `update`**: if renet holds
    client `id` disconnected with reason `r`, the next `update` makes netcode free its slot and the application's next
    event about `id` is `ClientDisconnected{id, r}` -/
theorem server_disconnect_propagates {a : AEAD} {g g' : ServerGlue} {d : Nat} {inbox : List Dgram} {out : Array Dgram}
    (h : serverUpdate a g d inbox = .ok (g', out)) (hk : LockStep g) {popped : List Event}
    (hs : SL.SrvInv (g.renet, popped)) {id : Nat} {c : Conn} {r : Reason}
    (hf : SMap.find? g.renet.conns id = some c) (hst : c.status = .disconnected r) :
    ∃ new tl, SL.eventLog (g'.renet, popped) = SL.eventLog (g.renet, popped) ++ new ∧
      new.filter (SL.Event.about id) = .disconnected id r :: tl := by
  obtain ⟨T, hr, _⟩ := serverUpdate_factor h popped
  obtain ⟨_, hnd⟩ := serverUpdate_lockstep h hk
  obtain ⟨new, hn, ho⟩ := SL.runSrv_first_reason _ _ _ hr.renet hs id c r hf hst
  rcases ho with ⟨_, c', hf', hst'⟩ | ⟨tl, htl⟩
  · have := hnd id c' hf'
    rw [SL.Conn.isDisconnected_of_status hst'] at this
    cases this
  · exact ⟨new, tl, hn, htl⟩

/-- one `send_packets`: for each id of the list, renet's `get_packets_to_send(id)` returned `ps` and the datagrams
    sent for it are `Sealed … ps` -/
inductive SendRun (a : AEAD) : ServerGlue → List Nat → List Dgram → ServerGlue → Prop
  | nil (g : ServerGlue) : SendRun a g [] [] g
  | cons {g g' : ServerGlue} {id : Nat} {rest : List Nat} {rs : Server} {ps : List Bytes} {ds ds' : List Dgram}
      {ns : NetcodeServer} :
      g.renet.getPacketsToSend id = .ok (rs, some ps) → Sealed a id g.netcode ps ds ns →
      SendRun a { netcode := ns, renet := rs } rest ds' g' → SendRun a g (id :: rest) (ds ++ ds') g'

theorem sendLoop_run (a : AEAD) : ∀ (l : List Nat) (g g' : ServerGlue) (out out' : Array Dgram),
    serverSendLoop a g l out = .ok (g', out') → ∃ ds, out'.toList = out.toList ++ ds ∧ SendRun a g l ds g' := by
  intro l
  induction l with
  | nil =>
    intro g g' out out' h
    cases h
    exact ⟨[], by simp, .nil g⟩
  | cons id rest ih =>
    intro g g' out out' h
    obtain ⟨rs, ps, ns, out1, h1, h2, h3⟩ := sendLoop_cons h
    obtain ⟨ds, e1, s1⟩ := sendClient_sealed a id ps _ _ _ _ h2
    obtain ⟨ds', e2, s2⟩ := ih _ g' out1 out' h3
    exact ⟨ds ++ ds', by rw [e2, e1, List.append_assoc], .cons h1 s1 s2⟩

theorem Sealed.mem {a : AEAD} {id : Nat} {ns ns' : NetcodeServer} {ps : List Bytes} {ds : List Dgram}
    (h : Sealed a id ns ps ds ns') : ∀ d ∈ ds, ∃ (p : Bytes) (nsA nsB : NetcodeServer), p ∈ ps ∧ nsA.generatePayloadPacket a id p = .ok (d, nsB) := by
  induction h with
  | nil ns => intro d hd; cases hd
  | abandon he => intro d hd; cases hd
  | cons hg _ ih =>
    intro d hd
    rcases List.mem_cons.mp hd with e | e
    · subst e
      exact ⟨_, _, _, List.mem_cons_self, hg⟩
    · obtain ⟨p, nsA, nsB, hp, hf⟩ := ih d e
      exact ⟨p, nsA, nsB, List.mem_cons_of_mem _ hp, hf⟩

/-- **routing, outbound.**  Every datagram one `send_packets` sends is `generate_payload_packet(id, p)` for a connected
    renet client `id` and a packet `p` that `RenetServer::get_packets_to_send(id)` returned in this call. -/
theorem SendRun.mem {a : AEAD} {g g' : ServerGlue} {l : List Nat} {ds : List Dgram} (h : SendRun a g l ds g') :
    ∀ d ∈ ds, ∃ (id : Nat) (rsA rsB : Server) (ps : List Bytes) (p : Bytes) (nsA nsB : NetcodeServer), id ∈ l ∧
      rsA.getPacketsToSend id = .ok (rsB, some ps) ∧ p ∈ ps ∧ nsA.generatePayloadPacket a id p = .ok (d, nsB) := by
  induction h with
  | nil g => intro d hd; cases hd
  | cons h1 s1 _ ih =>
    intro d hd
    rcases List.mem_append.mp hd with e | e
    · obtain ⟨p, nsA, nsB, hp, hf⟩ := s1.mem d e
      exact ⟨_, _, _, _, p, nsA, nsB, List.mem_cons_self, h1, hp, hf⟩
    · obtain ⟨id, rsA, rsB, ps, p, nsA, nsB, hid, hg, hp, hf⟩ := ih d e
      exact ⟨id, rsA, rsB, ps, p, nsA, nsB, List.mem_cons_of_mem _ hid, hg, hp, hf⟩

/-! ## Part 6 : the client glue -/

/-- `RenetClient` status the transport sets at the start of an `update` -/
def mirror (g : ClientGlue) : Conn :=
  if g.netcode.isConnected then g.renet.setConnected
  else if g.netcode.isConnecting then g.renet.setConnecting else g.renet

/-- **client, netcode session over** (denied, timed out, `Disconnect` datagram received, `transport.disconnect()`):
    `RenetClient::disconnect_due_to_transport()`, the socket is not read, nothing is sent, the call reports the netcode
    reason -/
theorem clientUpdate_netcode_disconnected {a : AEAD} {g : ClientGlue} {reason : DisconnectReason}
    (hn : g.netcode.disconnectReason = some reason) (d : Nat) (inbox : List Dgram) :
    clientUpdate a g d inbox =
      .ok ⟨.error (.netcode (.disconnected reason)), { g with renet := g.renet.disconnectWith .transport }, #[], inbox⟩ := by
  unfold clientUpdate
  rw [hn]
  rfl

/-- **client, the application called `RenetClient::disconnect()`** (or a channel error disconnected it): the netcode
    client is told to disconnect — whatever its state; the call returns `Ok` in every state, `NcClientTotal.disconnect_eq` —
    and its `Disconnect` datagram is sent; the socket is not read -/
theorem clientUpdate_renet_disconnected {a : AEAD} {g : ClientGlue} {error : Reason}
    (hn : g.netcode.disconnectReason = none) (hr : g.renet.disconnectReason = some error) (d : Nat) (inbox : List Dgram) :
    clientUpdate a g d inbox =
      .ok ⟨.error (.renet error), { g with netcode := { g.netcode with state := .disconnected .disconnectedByClient } },
        #[(g.netcode.serverAddr, NcClientTotal.disconnectDatagram a g.netcode)], inbox⟩ := by
  unfold clientUpdate
  rw [hn, hr, NcClientTotal.disconnect_eq]
  rfl

theorem netcodeClient_disconnect_state (a : AEAD) (nc : NetcodeClient) :
    (nc.disconnect a).2.state = .disconnected .disconnectedByClient ∧ (nc.disconnect a).2.isDisconnected = true ∧
    (nc.disconnect a).2.disconnectReason = some .disconnectedByClient := ⟨rfl, rfl, rfl⟩

theorem clientUpdate_alive {a : AEAD} {g : ClientGlue}
    (hn : g.netcode.disconnectReason = none) (hr : g.renet.disconnectReason = none) (d : Nat) (inbox : List Dgram) :
    clientUpdate a g d inbox = (do
      let g1 ← clientRecvLoop a { g with renet := mirror g } inbox
      let (o, nc) ← g1.netcode.update a d
      match o with
      | some (pkt, addr) => pure ⟨.ok (), { g1 with netcode := nc }, #[(addr, pkt)], []⟩
      | none => pure ⟨.ok (), { g1 with netcode := nc }, #[], []⟩) := by
  unfold clientUpdate
  rw [hn, hr]
  rfl

theorem mirror_status {g : ClientGlue} (hn : g.netcode.disconnectReason = none) (hr : g.renet.disconnectReason = none) :
    (mirror g).status = if g.netcode.isConnected then .connected else .connecting := by
  have hd : g.renet.isDisconnected = false := by
    unfold Conn.disconnectReason at hr
    unfold Conn.isDisconnected
    split at hr
    · cases hr
    · rfl
  unfold mirror
  split
  · simp [Conn.setConnected, hd]
  · rename_i hc
    have hcg : g.netcode.isConnecting = true := by
      unfold NetcodeClient.disconnectReason at hn
      unfold NetcodeClient.isConnected at hc
      unfold NetcodeClient.isConnecting
      cases hs : g.netcode.state <;> simp [hs] at hn hc ⊢
    rw [if_pos hcg]
    simp [Conn.setConnecting, hd]

/-- the netcode half of the client's receive loop on its own: the payloads it surfaces, in order -/
def clientPayloads (a : AEAD) (nc : NetcodeClient) : List Dgram → Res Empty (List Bytes × NetcodeClient)
  | [] => pure ([], nc)
  | (addr, buf) :: rest =>
    if addr ≠ nc.serverAddr then clientPayloads a nc rest else do
    let (p, nc1) ← nc.processPacket a buf
    let (ps, nc2) ← clientPayloads a nc1 rest
    pure (p.toList ++ ps, nc2)

theorem clientRecvLoop_cons (a : AEAD) (g : ClientGlue) (addr : Addr) (buf : Bytes) (rest : List Dgram) :
    clientRecvLoop a g ((addr, buf) :: rest) =
      if addr ≠ g.netcode.serverAddr then clientRecvLoop a g rest else (do
        let (p, nc) ← g.netcode.processPacket a buf
        let rc ← Server.feedClient g.renet p.toList
        clientRecvLoop a { netcode := nc, renet := rc } rest) := by
  dsimp only [clientRecvLoop]
  split
  · rfl
  · congr 1
    funext ⟨p, nc⟩
    cases p with
    | none => rfl
    | some p =>
      dsimp only [Option.toList, Server.feedClient]
      cases g.renet.processPacket p <;> rfl

/-- **client routing, inbound**: what is fed to `RenetClient::process_packet` is exactly the sequence of payloads
    `NetcodeClient::process_packet` surfaced for the datagrams that came from the server address, in order -/
theorem clientRecvLoop_factor (a : AEAD) : ∀ (l : List Dgram) (g g' : ClientGlue), clientRecvLoop a g l = .ok g' →
    ∃ ps, clientPayloads a g.netcode l = .ok (ps, g'.netcode) ∧ Server.feedClient g.renet ps = .ok g'.renet := by
  intro l
  induction l with
  | nil =>
    intro g g' h
    cases h
    exact ⟨[], rfl, rfl⟩
  | cons x rest ih =>
    intro g g' h
    obtain ⟨addr, buf⟩ := x
    rw [clientRecvLoop_cons] at h
    split at h
    · rename_i hne
      obtain ⟨ps, h1, h2⟩ := ih g g' h
      exact ⟨ps, by simp only [clientPayloads, if_pos hne]; exact h1, h2⟩
    · rename_i heq
      obtain ⟨⟨p, nc⟩, h1, h2⟩ := Res.bind_ok_iff.mp h
      obtain ⟨rc, h5, h6⟩ := Res.bind_ok_iff.mp h2
      obtain ⟨ps, h3, h4⟩ := ih _ g' h6
      refine ⟨p.toList ++ ps, ?_, ?_⟩
      · simp only [clientPayloads, if_neg heq, h1, Res.bind_ok]
        have h3' : clientPayloads a nc rest = .ok (ps, g'.netcode) := h3
        rw [h3']; rfl
      · cases p with
        | none => cases h5; exact h4
        | some p =>
          obtain ⟨c', e, h5⟩ := Res.bind_ok_iff.mp h5
          cases h5
          simp only [Option.toList, List.singleton_append, Server.feedClient, e, Res.bind_ok]
          exact h4

theorem clientSendPackets_disconnected {a : AEAD} {g : ClientGlue} {reason : DisconnectReason}
    (hn : g.netcode.disconnectReason = some reason) :
    clientSendPackets a g = .ok (.error (.netcode (.disconnected reason)), g, #[]) := by
  unfold clientSendPackets
  rw [hn]
  rfl

/-- what `NetcodeClient::generate_payload_packet` makes of the packets `ps`, in order; the first error ends the call -/
inductive CSealed (a : AEAD) : NetcodeClient → List Bytes → List Dgram → NetcodeClient → Option NetcodeError → Prop
  | nil (nc : NetcodeClient) : CSealed a nc [] [] nc none
  | stop {nc : NetcodeClient} {p : Bytes} {ps : List Bytes} {e : NetcodeError} :
      nc.generatePayloadPacket a p = .err e → CSealed a nc (p :: ps) [] nc (some e)
  | cons {nc nc1 nc2 : NetcodeClient} {p : Bytes} {ps : List Bytes} {d : Dgram} {ds : List Dgram}
      {e : Option NetcodeError} :
      nc.generatePayloadPacket a p = .ok (d, nc1) → CSealed a nc1 ps ds nc2 e → CSealed a nc (p :: ps) (d :: ds) nc2 e

theorem clientSendLoop_sealed (a : AEAD) : ∀ (ps : List Bytes) (nc nc' : NetcodeClient) (out out' : Array Dgram)
    (e : Option NetcodeError), clientSendLoop a nc ps out = .ok (e, nc', out') →
    ∃ ds, out'.toList = out.toList ++ ds ∧ CSealed a nc ps ds nc' e := by
  intro l
  induction l with
  | nil =>
    intro nc nc' out out' e h
    cases h
    exact ⟨[], by simp, .nil nc⟩
  | cons p rest ih =>
    intro nc nc' out out' e h
    dsimp only [clientSendLoop] at h
    split at h
    · cases h
    · rename_i e0 he
      cases h
      exact ⟨[], by simp, .stop he⟩
    · rename_i addr dg nc1 hg
      obtain ⟨ds, e1, e2⟩ := ih nc1 nc' _ out' e h
      exact ⟨(addr, dg) :: ds, by rw [e1]; simp, .cons hg e2⟩

/-- **client routing, outbound**: every datagram sent wraps, in order, a packet `RenetClient::get_packets_to_send`
    returned; the call fails with the first netcode error -/
theorem clientSendPackets_alive {a : AEAD} {g g' : ClientGlue} {res : Except TransportError Unit} {out : Array Dgram}
    (hn : g.netcode.disconnectReason = none) (h : clientSendPackets a g = .ok (res, g', out)) :
    ∃ ps e, g.renet.getPacketsToSend = .ok (g'.renet, ps) ∧ CSealed a g.netcode ps out.toList g'.netcode e ∧
      res = match e with | some e => .error (.netcode e) | none => .ok () := by
  unfold clientSendPackets at h
  rw [hn] at h
  dsimp only at h
  obtain ⟨⟨rc, ps⟩, h1, h2⟩ := Res.bind_ok_iff.mp h
  obtain ⟨⟨e, nc, o⟩, h3, h4⟩ := Res.bind_ok_iff.mp h2
  obtain ⟨ds, e1, e2⟩ := clientSendLoop_sealed a ps _ _ _ _ e h3
  simp only [List.nil_append] at e1
  cases e with
  | none =>
    cases h4
    exact ⟨ps, none, h1, by rw [e1]; exact e2, rfl⟩
  | some e =>
    cases h4
    exact ⟨ps, some e, h1, by rw [e1]; exact e2, rfl⟩

theorem clientDisconnect_spec (a : AEAD) (g : ClientGlue) :
    clientDisconnect a g =
      if g.netcode.isDisconnected then .ok (g, #[]) else
      .ok ({ g with netcode := { g.netcode with state := .disconnected .disconnectedByClient } },
        #[(g.netcode.serverAddr, NcClientTotal.disconnectDatagram a g.netcode)]) := by
  unfold clientDisconnect
  rw [NcClientTotal.disconnect_eq]
  rfl

/-! ## Part 7 : no unwinding -/

/-- `NetcodeServer::disconnect` never unwinds (the `take().unwrap()` is guarded by the slot search) -/
theorem disconnect_total (a : AEAD) (s : NetcodeServer) (id : Nat) : ∃ r s', s.disconnect a id = .ok (r, s') := by
  rcases NS.disconnect_spec a s id with ⟨_, e⟩ | ⟨i, c, o, _, _, _, _, e⟩
  · exact ⟨_, _, e⟩
  · exact ⟨_, _, e⟩

/-- one of the netcode server calls the glue makes unwound with message `m` (`disconnect` never does) -/
inductive NcPanic (a : AEAD) (m : String) : Prop
  | update (ns : NetcodeServer) (d : Nat) : ns.update d = .panic m → NcPanic a m
  | processPacket (ns : NetcodeServer) (addr : Addr) (buf : Bytes) : ns.processPacket a addr buf = .panic m → NcPanic a m
  | updateClient (ns : NetcodeServer) (id : Nat) : ns.updateClient a id = .panic m → NcPanic a m
  | generatePayloadPacket (ns : NetcodeServer) (id : Nat) (p : Bytes) :
      ns.generatePayloadPacket a id p = .panic m → NcPanic a m

theorem handle_total {P : SliceCtor → Prop} (hP : GoodP P) {rs : Server} (hi : rs.InvP P) (r : ServerResult)
    (out : Array Dgram) : ∃ rs' out', handleServerResult r rs out = .ok (rs', out') ∧ rs'.InvP P := by
  cases r with
  | none => exact ⟨rs, out, rfl, hi⟩
  | packetToSend addr p => exact ⟨rs, _, rfl, hi⟩
  | payload id p =>
    obtain ⟨rs', ok, e, hi'⟩ := CI.server_processPacketFrom_totalP hP hi p id
    exact ⟨rs', out, by simp only [handleServerResult, e, Res.bind_ok, Res.pure_eq], hi'⟩
  | clientConnected id addr ud p => exact ⟨_, _, rfl, CI.server_addConnection_invP hi id⟩
  | clientDisconnected id addr p =>
    cases p with
    | none => exact ⟨_, _, rfl, CI.server_removeConnection_invP hi id⟩
    | some p => exact ⟨_, _, rfl, CI.server_removeConnection_invP hi id⟩

theorem handle_inv {P : SliceCtor → Prop} (hP : GoodP P) {r : ServerResult} {rs rs' : Server} {out out' : Array Dgram}
    (h : handleServerResult r rs out = .ok (rs', out')) (hi : rs.InvP P) : rs'.InvP P := by
  obtain ⟨rs1, out1, e, hi'⟩ := handle_total hP hi r out
  rw [e] at h
  cases h
  exact hi'

theorem handleLoop_inv {P : SliceCtor → Prop} (hP : GoodP P) {α : Type}
    {f : NetcodeServer → α → Res Empty (ServerResult × NetcodeServer)} {l : List α} {g g' : ServerGlue}
    {out out' : Array Dgram} (h : handleLoop f g l out = .ok (g', out')) (hi : g.renet.InvP P) : g'.renet.InvP P :=
  handleLoop_preserves (I := fun g _ => g.renet.InvP P) (fun _ _ _ _ _ _ _ _ hi _ h2 => handle_inv hP h2 hi)
    l g g' out out' h hi

theorem handleLoop_panic {P : SliceCtor → Prop} (hP : GoodP P) {α : Type}
    {f : NetcodeServer → α → Res Empty (ServerResult × NetcodeServer)} :
    ∀ (l : List α) (g : ServerGlue) (out : Array Dgram) (m : String), g.renet.InvP P →
    handleLoop f g l out = .panic m → ∃ ns x, f ns x = .panic m := by
  intro l
  induction l with
  | nil =>
    intro g out m hi h
    cases h
  | cons x rest ih =>
    intro g out m hi h
    dsimp only [handleLoop] at h
    rcases Res.bind_panic_iff.mp h with hf | ⟨⟨r, ns⟩, _, h⟩
    · exact ⟨_, _, hf⟩
    · obtain ⟨rs', out', e, hi'⟩ := handle_total hP hi r out
      dsimp only at h
      rw [e] at h
      exact ih _ out' m hi' h

/-- `J n`: what the netcode half needs for `n` more calls; `R`: what `handle_server_result` needs, and keeps, of the
    renet half. -/
theorem handleLoop_total {R : Server → Prop}
    (hR : ∀ rs r out, R rs → ∃ rs' out', handleServerResult r rs out = .ok (rs', out') ∧ R rs') {α : Type}
    {f : NetcodeServer → α → Res Empty (ServerResult × NetcodeServer)} (J : Nat → NetcodeServer → Prop)
    (hf : ∀ n ns x, J (n + 1) ns → ∃ r ns', f ns x = .ok (r, ns') ∧ J n ns') :
    ∀ (l : List α) (g : ServerGlue) (out : Array Dgram) (n : Nat), J (n + l.length) g.netcode → R g.renet →
    ∃ g' out', handleLoop f g l out = .ok (g', out') ∧ J n g'.netcode ∧ R g'.renet := by
  intro l
  induction l with
  | nil =>
    intro g out n hj hr
    exact ⟨g, out, rfl, hj, hr⟩
  | cons x rest ih =>
    intro g out n hj hr
    have hj' : J (n + rest.length + 1) g.netcode := by
      rw [List.length_cons, ← Nat.add_assoc] at hj; exact hj
    obtain ⟨r, ns', e1, j1⟩ := hf _ _ x hj'
    obtain ⟨rs', out1, e2, hr'⟩ := hR g.renet r out hr
    obtain ⟨g', out', e3, j3, r3⟩ := ih ⟨ns', rs'⟩ out1 n j1 hr'
    refine ⟨g', out', ?_, j3, r3⟩
    simp only [handleLoop, e1, NS.bind_ok', e2]
    exact e3

theorem handleLoop_total0 {R : Server → Prop}
    (hR : ∀ rs r out, R rs → ∃ rs' out', handleServerResult r rs out = .ok (rs', out') ∧ R rs') {α : Type}
    {f : NetcodeServer → α → Res Empty (ServerResult × NetcodeServer)} (J : NetcodeServer → Prop)
    (hf : ∀ ns x, J ns → ∃ r ns', f ns x = .ok (r, ns') ∧ J ns') (l : List α) (g : ServerGlue) (out : Array Dgram) :
    J g.netcode → R g.renet → ∃ g' out', handleLoop f g l out = .ok (g', out') ∧ J g'.netcode ∧ R g'.renet :=
  handleLoop_total hR (fun _ => J) (fun _ ns x => hf ns x) l g out 0

theorem sendClient_panic (a : AEAD) (id : Nat) : ∀ (ps : List Bytes) (ns : NetcodeServer) (out : Array Dgram) (m : String),
    serverSendClient a ns id ps out = .panic m → NcPanic a m := by
  intro l
  induction l with
  | nil =>
    intro ns out m h
    cases h
  | cons p rest ih =>
    intro ns out m h
    dsimp only [serverSendClient] at h
    split at h
    · rename_i m' hm
      cases h
      exact .generatePayloadPacket ns id p hm
    · cases h
    · exact ih _ _ m h

theorem clientRecvLoop_total {P : SliceCtor → Prop} (hP : GoodP P) (a : AEAD) :
    ∀ (l : List Dgram) (g : ClientGlue), NetcodeClient.CInv g.netcode → g.renet.InvP P →
    ∃ g', clientRecvLoop a g l = .ok g' ∧ NetcodeClient.CInv g'.netcode ∧ g'.renet.InvP P ∧
      g'.netcode.sequence = g.netcode.sequence ∧ g'.netcode.currentTime = g.netcode.currentTime := by
  intro l
  induction l with
  | nil =>
    intro g hc hi
    exact ⟨g, rfl, hc, hi, rfl, rfl⟩
  | cons x rest ih =>
    intro g hc hi
    obtain ⟨addr, buf⟩ := x
    rw [clientRecvLoop_cons]
    split
    · exact ih g hc hi
    · obtain ⟨p, nc, e⟩ := NetcodeClient.processPacket_total a g.netcode buf
      obtain ⟨hc', hs, ht⟩ := NetcodeClient.processPacket_cinv a hc e
      obtain ⟨rc, er, hi'⟩ := CI.feedClient_totalP hP p.toList g.renet hi
      obtain ⟨g', e', c1, c2, c3, c4⟩ := ih { netcode := nc, renet := rc } hc' hi'
      exact ⟨g', by simp only [e, er, Res.bind_ok]; exact e', c1, c2, c3.trans hs, c4.trans ht⟩

/-! ## Part 8 : "reported connected" = "in the netcode table" -/

theorem fromChannels_status (b : Nat) (sc cc : List ChanCfg) : (Conn.fromChannels b sc cc).status = .connecting := rfl

theorem live_addConnection {rs : Server} (hl : Live rs) (id : Nat) : Live (rs.addConnection id) := by
  unfold Server.addConnection
  split
  · exact hl
  · intro j x hx
    by_cases e : j = id
    · subst e
      rw [SMap.find?_insert_self] at hx
      cases hx
      simp [Server.newConn, Conn.setConnected, Conn.isDisconnected, fromChannels_status]
    · rw [SMap.find?_insert_ne _ _ (Ne.symm e)] at hx
      exact hl j x hx

theorem live_removeConnection {rs : Server} (hs : SL.SMap.Sorted rs.conns) (hl : Live rs) (id : Nat) :
    Live (rs.removeConnection id) := by
  intro j x hx
  by_cases e : j = id
  · subst e
    rw [removeConnection_find_self rs hs j] at hx; cases hx
  · rw [SL.removeConnection_frame rs id j e] at hx
    exact hl j x hx

theorem live_handle {r : ServerResult} {rs rs' : Server} {out out' : Array Dgram}
    (h : handleServerResult r rs out = .ok (rs', out')) (hs : SL.SMap.Sorted rs.conns) (hl : Live rs) :
    Live rs' := by
  have hr := handle_renet h
  cases r with
  | none => simp only at hr; rw [hr]; exact hl
  | packetToSend addr p => simp only at hr; rw [hr]; exact hl
  | payload id p =>
    simp only at hr
    obtain ⟨ok, hp⟩ := hr
    exact hl.of_calm (SL.Server.processPacketFrom_spec hp).2.1 (SL.Server.processPacketFrom_calm hp)
  | clientConnected id addr ud p => simp only at hr; rw [hr]; exact live_addConnection hl id
  | clientDisconnected id addr p => simp only at hr; rw [hr]; exact live_removeConnection hs hl id

/-- the key order and `Live` go through a loop together (a removal keeps `Live` because the keys are distinct), whatever
    the netcode calls return -/
theorem handleLoop_live {α : Type} {f : NetcodeServer → α → Res Empty (ServerResult × NetcodeServer)}
    {l : List α} {g g' : ServerGlue} {out out' : Array Dgram} (h : handleLoop f g l out = .ok (g', out'))
    (hg : SL.SMap.Sorted g.renet.conns ∧ Live g.renet) : SL.SMap.Sorted g'.renet.conns ∧ Live g'.renet :=
  handleLoop_preserves (I := fun g _ => SL.SMap.Sorted g.renet.conns ∧ Live g.renet)
    (fun _ _ _ _ _ _ _ _ ⟨hs, hl⟩ _ h2 => ⟨handle_sorted h2 hs, live_handle h2 hs hl⟩) l g g' out out' h hg

theorem serverUpdate_live {a : AEAD} {g g' : ServerGlue} {d : Nat} {inbox : List Dgram} {out : Array Dgram}
    (h : serverUpdate a g d inbox = .ok (g', out)) (hs : SL.SMap.Sorted g.renet.conns) (hl : Live g.renet) :
    Live g'.renet := by
  obtain ⟨ns0, g1, out1, g2, out2, -, l1, l2, l3⟩ := serverUpdate_unfold h
  exact (handleLoop_live l3 (handleLoop_live l2 (handleLoop_live l1 ⟨hs, hl⟩))).2

theorem mem_clientsId_iff {rs : Server} (hs : SL.SMap.Sorted rs.conns) (j : Nat) :
    j ∈ rs.clientsId ↔ ∃ c, SMap.find? rs.conns j = some c ∧ c.isConnected = true := by
  unfold Server.clientsId
  constructor
  · intro h
    obtain ⟨x, hx, rfl⟩ := List.mem_map.mp h
    obtain ⟨hm, hc⟩ := List.mem_filter.mp hx
    exact ⟨x.2, SMap.find?_of_mem_nodup hs.nodup hm, hc⟩
  · rintro ⟨c, hf, hc⟩
    exact List.mem_map.mpr ⟨(j, c), List.mem_filter.mpr ⟨SMap.mem_of_find? hf, hc⟩, rfl⟩

def GInv2 (st : GState) : Prop := GInv st ∧ Live st.1.renet

def opValid (st : GState) : GlueOp → Prop
  | .app sop => appOp sop = true ∧ CI.SrvValid st.1.renet sop
  | .update _ _ => True
  | .sendPackets => True
  | .disconnectAll => True

def GPre (a : AEAD) (st : GState) : List GlueOp → Prop
  | [] => True
  | op :: rest => opValid st op ∧ ∀ st', op.apply a st = .ok st' → GPre a st' rest

def opValidb (st : GState) : GlueOp → Bool
  | .app sop => appOp sop && CI.srvValidb st.1.renet sop
  | .update _ _ => true
  | .sendPackets => true
  | .disconnectAll => true

def gpreb (a : AEAD) (st : GState) : List GlueOp → Bool
  | [] => true
  | op :: rest =>
    opValidb st op &&
    match op.apply a st with
    | .ok st' => gpreb a st' rest
    | _ => true

theorem opValid_of_b {st : GState} {op : GlueOp} (h : opValidb st op = true) : opValid st op := by
  cases op with
  | app sop =>
    simp only [opValidb, Bool.and_eq_true] at h
    exact ⟨h.1, CI.srvValid_of_b h.2⟩
  | update d inbox => trivial
  | sendPackets => trivial
  | disconnectAll => trivial

theorem gpre_of_b (a : AEAD) : ∀ (ops : List GlueOp) (st : GState), gpreb a st ops = true → GPre a st ops := by
  intro l
  induction l with
  | nil =>
    intro _ _
    exact trivial
  | cons op rest ih =>
    intro st h
    simp only [gpreb, Bool.and_eq_true] at h
    refine ⟨opValid_of_b h.1, fun st' e => ?_⟩
    have h2 := h.2
    rw [e] at h2
    exact ih st' h2

theorem GlueOp.apply_inv2 {a : AEAD} {st st' : GState} {op : GlueOp} (h : op.apply a st = .ok st')
    (hv : opValid st op) (hi : GInv2 st) : GInv2 st' := by
  obtain ⟨hg, hl⟩ := hi
  have hallowed : op.allowed = true := by
    cases op with
    | app sop => exact hv.1
    | _ => rfl
  refine ⟨GlueOp.apply_inv h hallowed hg, ?_⟩
  obtain ⟨g, popped⟩ := st
  cases GlueOp.applied h with
  | update h1 => exact serverUpdate_live h1 hg.1.sorted hl
  | sendPackets h1 =>
    obtain ⟨-, q, -, cm⟩ := sendLoop_lockstep a _ _ _ _ _ h1 hg.1
    exact hl.of_calm q cm
  | disconnectAll h1 =>
    rw [serverDisconnectAll_eq] at h1
    exact (handleLoop_live h1 ⟨hg.1.sorted, hl⟩).2
  | app h1 => exact appOp_live (st := (g.renet, popped)) hv.1 h1 hl

theorem runGlue_inv2 (a : AEAD) :
    ∀ (ops : List GlueOp) (st st' : GState), runGlue a st ops = .ok st' → GPre a st ops → GInv2 st → GInv2 st' := by
  intro l
  induction l with
  | nil =>
    intro st st' h _ hi
    cases h; exact hi
  | cons op rest ih =>
    intro st st' h hp hi
    unfold runGlue at h
    split at h
    · rename_i st1 h1
      exact ih st1 st' h (hp.2 st1 h1) (GlueOp.apply_inv2 h1 hp.1 hi)
    · cases h
    · cases h

theorem runGlue_snoc (a : AEAD) : ∀ (ops : List GlueOp) (op : GlueOp) (st st' : GState),
    runGlue a st (ops ++ [op]) = .ok st' → ∃ st1, runGlue a st ops = .ok st1 ∧ op.apply a st1 = .ok st' := by
  intro l
  induction l with
  | nil =>
    intro op st st' h
    simp only [List.nil_append, runGlue] at h
    split at h
    · rename_i st1 h1
      cases h
      exact ⟨st, rfl, h1⟩
    · cases h
    · cases h
  | cons o ops ih =>
    intro op st st' h
    dsimp only [List.cons_append, runGlue] at h ⊢
    split at h
    · rename_i st1 h1
      exact ih op st1 st' h
    · cases h
    · cases h

theorem gpre_prefix (a : AEAD) : ∀ (ops ops2 : List GlueOp) (st : GState), GPre a st (ops ++ ops2) → GPre a st ops
  | [], _, _, _ => trivial
  | _ :: ops, ops2, _, h => ⟨h.1, fun st' e => gpre_prefix a ops ops2 st' (h.2 st' e)⟩

theorem gInv2_fresh {ns : NetcodeServer} (h : ns.clientsId = []) (budget : Nat) (sc cc : List ChanCfg) :
    GInv2 ({ netcode := ns, renet := Server.new budget sc cc }, []) :=
  ⟨gInv_fresh h budget sc cc, fun _ _ hf => by simp [Server.new] at hf⟩

end RenetVerif.GI
