/-
  C07, client half, over WHOLE TRACES of the model `NetcodeClient` (the generated level is
  `Props/SrcPropsNcClientTotal.lean`).

  "A `NetcodeClient` built by `NetcodeClient::new` from a token `ConnectToken::read` accepted never panics, whatever is done to
   it — `update` with any duration, `process_packet` with ARBITRARY bytes, `generate_payload_packet` with any payload,
   `disconnect`, in any order, in any state — as long as the accumulated clock stays the token's timeout below `Duration::MAX`
   and fewer than `2^64 - sequence` calls that send are made.  Every call returns one of its documented results."

  Proofs: Lemmas/NcClientTotal.lean.
    trace invariant `CTInv c`   = `NetcodeClient.CInv c` (time stamps not in the future, 32 address slots, `i32` timeout — what
                                  `C07.client_update_total` needs) ∧ `sequence ≤ u64::MAX`;
    head room `HeadRoom c ops`  = `current_time + Σ d + tmo c ≤ DURATION_MAX  ∧  sequence + #(update | send calls) ≤ u64::MAX`
                                  (decidable; `tmo c` = the token's OWN `timeout_seconds` as a duration, 0 when not positive;
                                  `head_room_of_max`: the room `TIMEOUT_MAX_NS` = 2^31 s of the largest `i32` timeout suffices
                                  for every token);
    laws                          clock `current_time' = current_time + d`; counter `sequence ≤ sequence' ≤ sequence + 1`;
                                  the token never changes.
  No hypothesis on the AEAD, on the bytes received, on the client's state.

  Necessity of the head room (each excluded point panics):
    `clock_overflow_panics`     `current_time + d > Duration::MAX`                         → `update` panics (any client);
    `deadline_overflow_panics`  clock one second below `Duration::MAX`, a datagram just received, timeout 5 s:
                                `last_received + timeout` overflows → `update(0)` panics, while with exactly the room of the
                                token's timeout (5 s) it returns (`deadline_at_bound_returns`): the clock bound is tight for a
                                client that has just received a datagram;
    `client_send_panics_iff`    `generate_payload_packet` panics EXACTLY when the payload is sendable, the client connected and
                                `sequence = u64::MAX`;
    `counter_overflow_panics`   `update` at `sequence = u64::MAX` with a packet due panics.
-/
import RenetVerif.Lemmas.NcClientTotal
import RenetVerif.Lemmas.NcExamples
import RenetVerif.Props.C07
import RenetVerif.Props.C04C
namespace RenetVerif.C07C
open RenetVerif RenetVerif.Netcode RenetVerif.Netcode.Packet RenetVerif.NcAead RenetVerif.NcClientTrace
open RenetVerif.NcClientTotal

/-- `NetcodeClient::new` on any token `ConnectToken::read` accepted succeeds (D7 repaired) and establishes the trace invariant;
    clock `now`, counter 0 -/
theorem client_new_ctinv {src : Bytes} {t : ConnectToken} (h : ConnectToken.read src = .ok t) (now : Nat) :
    ∃ c, NetcodeClient.new now t = .ok c ∧ CTInv c ∧ c.currentTime = now ∧ c.sequence = 0 ∧ c.connectToken = t := by
  obtain ⟨c, hc⟩ := NetcodeClient.new_of_read h now
  have hwf := NcAead.Token.ct_read_wf h
  obtain ⟨hosts, -, hle, -, heq⟩ := hwf.compact
  have hlen : Netcode.C.NETCODE_TOKEN_MAX_ADDRESSES ≤ t.serverAddresses.length := by
    rw [heq, List.length_append, List.length_map, List.length_replicate]; omega
  obtain ⟨_, _, _, _, _, _, _, _, _, _, _, _, hto⟩ := hwf.base
  exact ⟨c, hc, ctinv_new_of hlen hto hc⟩

theorem ctinv_cinv {c : NetcodeClient} (h : CTInv c) : NetcodeClient.CInv c := h.cinv

/-- **one call** (`update d` | `process_packet bytes` | `generate_payload_packet payload` | `disconnect`) inside the head room of
    that call: it returns normally with a documented result, keeps the invariant and the token, the clock advances by exactly the
    call's duration, the counter by at most one (and only for `update` / `generate_payload_packet`) -/
theorem client_op_total (a : AEAD) {c : NetcodeClient} (op : Cl.COp) (hinv : CTInv c)
    (ht : c.currentTime + dur op + tmo c ≤ DURATION_MAX) (hseq : c.sequence + sends op ≤ U64_MAX) :
    ∃ o c', tstep a c op = some (o, c') ∧ Documented a c op o ∧ CTInv c' ∧ c'.currentTime = c.currentTime + dur op ∧
      c.sequence ≤ c'.sequence ∧ c'.sequence ≤ c.sequence + sends op ∧ c'.connectToken = c.connectToken :=
  tstep_total a op hinv ht hseq

/-- `process_packet` needs no head room at all: ARBITRARY bytes, any time -/
theorem client_process_packet_ct (a : AEAD) {c : NetcodeClient} (buf : Bytes) (hinv : CTInv c) :
    ∃ r c', NetcodeClient.processPacket a c buf = .ok (r, c') ∧ CTInv c' ∧ c'.currentTime = c.currentTime ∧
      c'.sequence = c.sequence ∧ c'.connectToken = c.connectToken ∧ (r ≠ none → c.state = .connected) :=
  pp_ct a buf hinv

/-- the exact result of `generate_payload_packet`, in every state (no invariant needed) -/
theorem client_send_exact (a : AEAD) (c : NetcodeClient) (pl : Bytes) :
    NetcodeClient.generatePayloadPacket a c pl =
      if pl.length > Netcode.C.NETCODE_MAX_PAYLOAD_BYTES then .err .payloadAboveLimit
      else if c.state ≠ .connected then .err .clientNotConnected
      else if c.sequence + 1 ≤ U64_MAX then .ok ((c.serverAddr, payloadDatagram a c pl), afterSend c)
      else .panic "client.rs generate_payload_packet: sequence += 1" :=
  send_eq a c pl

/-- `generate_payload_packet` panics EXACTLY at the excluded point of the counter head room -/
theorem client_send_panics_iff (a : AEAD) (c : NetcodeClient) (pl : Bytes) :
    (NetcodeClient.generatePayloadPacket a c pl).isPanic = true ↔
      pl.length ≤ Netcode.C.NETCODE_MAX_PAYLOAD_BYTES ∧ c.state = .connected ∧ U64_MAX < c.sequence + 1 := by
  rw [send_eq]
  by_cases hlen : pl.length > Netcode.C.NETCODE_MAX_PAYLOAD_BYTES
  · rw [if_pos hlen]
    exact ⟨fun h => (by cases h), fun h => absurd h.1 (Nat.not_le.mpr hlen)⟩
  rw [if_neg hlen]
  by_cases hst : c.state ≠ .connected
  · rw [if_pos hst]
    exact ⟨fun h => (by cases h), fun h => absurd h.2.1 hst⟩
  rw [if_neg hst]
  by_cases hseq : c.sequence + 1 ≤ U64_MAX
  · rw [if_pos hseq]
    exact ⟨fun h => (by cases h), fun h => absurd hseq (Nat.not_le.mpr h.2.2)⟩
  · rw [if_neg hseq]
    exact ⟨fun _ => ⟨Nat.le_of_not_lt hlen, Decidable.not_not.mp hst, Nat.lt_of_not_le hseq⟩, fun _ => rfl⟩

/-- the exact result of `disconnect`: `Ok((server_addr, sealed Disconnect datagram))` in every state, whatever the counter -/
theorem client_disconnect_exact (a : AEAD) (c : NetcodeClient) :
    NetcodeClient.disconnect a c =
      (.ok (c.serverAddr, disconnectDatagram a c), { c with state := .disconnected .disconnectedByClient }) :=
  disconnect_eq a c

/-- `update` past `Duration::MAX` panics, for every client: the clock head room cannot be dropped -/
theorem clock_overflow_panics (a : AEAD) (c : NetcodeClient) (d : Nat) (h : DURATION_MAX < c.currentTime + d) :
    (NetcodeClient.update a c d).isPanic = true := by
  unfold NetcodeClient.update NetcodeClient.updateInternalState durAdd
  rw [if_neg (by omega)]
  rfl

/-- **`client_trace_total`**: from a client satisfying `CTInv`, along ANY trace of `update` (any duration), `process_packet`
    (ARBITRARY bytes), `generate_payload_packet` (any payload) and `disconnect` calls inside the head room, NO call panics
    (`trun … = some …`: the run reaches its end); the final client satisfies `CTInv` and holds the same token, its clock is
    `current_time + Σ d`, its counter moved by at most the number of sending calls; the log has one entry per call, every logged
    state satisfies `CTInv` and every logged result is a documented outcome of its call in its state. -/
theorem client_trace_total (a : AEAD) (ops : List Cl.COp) {c : NetcodeClient} (hinv : CTInv c) (hr : HeadRoom c ops) :
    ∃ c' log, trun a c ops = some (c', log) ∧ CTInv c' ∧ c'.currentTime = c.currentTime + totalDur ops ∧
      c.sequence ≤ c'.sequence ∧ c'.sequence ≤ c.sequence + totalSends ops ∧ c'.connectToken = c.connectToken ∧
      log.map (·.2.1) = ops ∧ ∀ x ∈ log, CTInv x.1 ∧ Documented a x.1 x.2.1 x.2.2 :=
  trun_total a ops hinv hr

/-- the room of the largest `i32` timeout (2^31 s) is enough whatever the token -/
theorem head_room_of_max {c : NetcodeClient} {ops : List Cl.COp} (hinv : CTInv c)
    (ht : c.currentTime + totalDur ops + NetcodeClient.TIMEOUT_MAX_NS ≤ DURATION_MAX)
    (hs : c.sequence + totalSends ops ≤ U64_MAX) : HeadRoom c ops :=
  ⟨by have := NetcodeClient.timeout_le hinv.cinv.timeout; unfold tmo; omega, hs⟩

/-- **… from `NetcodeClient::new`** on a token `ConnectToken::read` accepted: the head room is a condition on `now`, the token's
    timeout and the trace alone — `now + Σ d + timeout ≤ Duration::MAX` and at most `u64::MAX` sending calls -/
theorem client_trace_total_from_new (a : AEAD) {src : Bytes} {t : ConnectToken} (h : ConnectToken.read src = .ok t) (now : Nat)
    (ops : List Cl.COp) (ht : now + totalDur ops + fromSecs t.timeoutSeconds.toNat ≤ DURATION_MAX)
    (hs : totalSends ops ≤ U64_MAX) :
    ∃ c c' log, NetcodeClient.new now t = .ok c ∧ trun a c ops = some (c', log) ∧ CTInv c' ∧
      c'.currentTime = now + totalDur ops ∧ c'.sequence ≤ totalSends ops ∧ c'.connectToken = t ∧
      log.map (·.2.1) = ops ∧ ∀ x ∈ log, CTInv x.1 ∧ Documented a x.1 x.2.1 x.2.2 := by
  obtain ⟨c, hc, hinv, h1, h2, h3⟩ := client_new_ctinv h now
  obtain ⟨c', log, hrun, hi', t', -, s', k', hl, hd⟩ :=
    client_trace_total a ops hinv ⟨by unfold tmo; rw [h1, h3]; exact ht, by rw [h2, Nat.zero_add]; exact hs⟩
  exact ⟨c, c', log, hc, hrun, hi', by rw [t', h1], by rw [h2, Nat.zero_add] at s'; exact s', by rw [k', h3], hl, hd⟩

/-- the same for the runner `NcClientTrace.prun`: every trace inside the head room runs to its end, so the "the run
    succeeds" hypothesis of `C04C.client_new_payloads_at_most_once` is discharged by the head room -/
theorem client_prun_total (a : AEAD) (ops : List Cl.COp) {c : NetcodeClient} (hinv : CTInv c) (hr : HeadRoom c ops) :
    ∃ c' ps, prun a c ops = some (c', ps) ∧ CTInv c' ∧ c'.currentTime = c.currentTime + totalDur ops ∧
      c.sequence ≤ c'.sequence ∧ c'.sequence ≤ c.sequence + totalSends ops ∧ c'.connectToken = c.connectToken := by
  obtain ⟨c', log, hrun, h1, h2, h3, h4, h5, -, -⟩ := trun_total a ops hinv hr
  exact ⟨c', _, by rw [prun_eq, hrun]; rfl, h1, h2, h3, h4, h5⟩

/-- **C04 at-most-once without a run hypothesis**: from `new` on a token `read` accepted, along any trace inside the head room,
    the run exists, the payloads it surfaced stem from pairwise distinct sequence numbers, each is the plaintext its datagram
    opens to under the token's server-to-client key, and the stored window is the `Recv.run` window of the datagrams handed in -/
theorem client_new_payloads_at_most_once_total (a : AEAD) {src : Bytes} {t : ConnectToken} (h : ConnectToken.read src = .ok t)
    (now : Nat) (ops : List Cl.COp) (ht : now + totalDur ops + fromSecs t.timeoutSeconds.toNat ≤ DURATION_MAX)
    (hs : totalSends ops ≤ U64_MAX) :
    ∃ c c' ps, NetcodeClient.new now t = .ok c ∧ prun a c ops = some (c', ps) ∧ (C04C.surfacedSeqs ps).Nodup ∧
      (∀ x ∈ ps, x.1 ∈ recvBufs ops ∧ SealedOpen a x.1 t.protocolId t.serverToClientKey .payload x.2) ∧
      c'.replayProtection = (Recv.run a t.protocolId t.serverToClientKey (recvBufs ops)).window := by
  obtain ⟨c, hc, hinv, h1, h2, h3⟩ := client_new_ctinv h now
  obtain ⟨c', ps, hp, -⟩ :=
    client_prun_total a ops hinv ⟨by unfold tmo; rw [h1, h3]; exact ht, by rw [h2, Nat.zero_add]; exact hs⟩
  obtain ⟨q1, q2, -, q4, -⟩ := C04C.client_new_payloads_at_most_once a hc hp
  exact ⟨c, c', ps, hc, hp, q1, q2, q4⟩

/-! ### witnesses (world of `Lemmas/NcExamples.lean`: AEAD `Ex.a`, token `tokenA`, client `cA0 = new(0, tokenA)`) -/
section Examples
open NS.Ex

def okOr {ε α : Type} (d : α) : Res ε α → α
  | .ok x => x
  | _ => d

/-- the 2048 bytes of `tokenA` -/
def tokenABytes : Bytes := okOr [] tokenA.write

theorem tokenA_wf : Token.CTokenWF tokenA := by
  refine ⟨⟨by decide, by decide, by decide, by decide, by decide, by decide, by decide, ?_, by decide, by decide,
    by decide +kernel, by decide, by decide⟩, rfl, [srvAddr], by decide, by decide, by decide, rfl⟩
  intro x hx y hy
  subst hy
  rcases List.mem_cons.1 hx with h | h
  · cases h
    decide
  · cases List.eq_of_mem_replicate h

/-- `ConnectToken::read` accepts them (it reads back what `write` emits for a well-formed token): `tokenA` is a token
    "that `read` accepts" -/
theorem tokenA_read : ConnectToken.read tokenABytes = .ok tokenA := by
  unfold tokenABytes
  rw [Token.ct_write_eq tokenA_wf]
  exact List.append_nil (Token.ctBytes tokenA) ▸ Token.ct_read_bytes tokenA_wf []

theorem cA0_ctinv : CTInv cA0 := by
  obtain ⟨c, hc, hi, -⟩ := client_new_ctinv tokenA_read 0
  rw [cA0_new] at hc
  cases hc
  exact hi

/-- the trace of `Props/C04C.lean`: handshake, payloads, a replay, a forgery, an outgoing payload, a clock step, `disconnect`,
    one more datagram — followed by hostile input, an over-long payload, a send while disconnected, a long clock step -/
def exOps : List Cl.COp :=
  C04C.exOps ++ [.recv [], .recv (List.replicate 1500 255), .send (List.replicate 1301 0), .send [2], .update (10 ^ 18),
    .disconnect]

theorem exOps_headRoom : HeadRoom cA0 exOps := by decide +kernel
example : HeadRoom cA0 exOps := head_room_of_max cA0_ctinv (by decide +kernel) (by decide +kernel)

/-- what an example shows of a logged result -/
def shape : Out → String × Nat
  | .sent none => ("sent", 0)
  | .sent (some x) => ("sent", x.1.length)
  | .received none => ("received", 0)
  | .received (some p) => ("received", p.length + 1)
  | .payload r => ("payload", r.2.length)
  | .payloadErr .payloadAboveLimit => ("payloadErr: above limit", 0)
  | .payloadErr .clientNotConnected => ("payloadErr: not connected", 0)
  | .payloadErr _ => ("payloadErr", 0)
  | .disconnected r => ("disconnected", r.2.length)
  | .disconnectErr _ => ("disconnectErr", 0)

/-- **the run, evaluated**: request 1078 bytes, response 326, three payloads surfaced, the outgoing payload (19 bytes), the
    Disconnect datagram (18 bytes), then nothing but the two documented errors and a second Disconnect datagram; final clock
    and counter -/
theorem ex_run : (trun NS.Ex.a cA0 exOps).map (fun x => (x.2.map (fun e => shape e.2.2), x.1.currentTime, x.1.sequence)) =
    some ([("sent", 1078), ("received", 0), ("sent", 326), ("received", 0),
      ("received", 3), ("received", 2), ("received", 0), ("received", 0), ("received", 0), ("payload", 19), ("sent", 0),
      ("received", 4), ("received", 0), ("disconnected", 18), ("received", 0),
      ("received", 0), ("received", 0), ("payloadErr: above limit", 0), ("payloadErr: not connected", 0), ("sent", 0),
      ("disconnected", 18)], 250000000 + 1000 + 10 ^ 18, 3) := by decide +kernel

example : ∃ c' log, trun NS.Ex.a cA0 exOps = some (c', log) ∧ CTInv c' ∧ c'.currentTime = 250000000 + 1000 + 10 ^ 18 ∧
    c'.sequence ≤ 7 ∧ c'.connectToken = tokenA ∧ log.length = 21 ∧
    ∀ x ∈ log, Documented NS.Ex.a x.1 x.2.1 x.2.2 := by
  obtain ⟨c', log, h1, h2, h3, -, h5, h6, h7, h8⟩ := client_trace_total NS.Ex.a exOps cA0_ctinv exOps_headRoom
  refine ⟨c', log, h1, h2, ?_, ?_, h6, ?_, fun x hx => (h8 x hx).2⟩
  · rw [h3]; decide +kernel
  · exact Nat.le_trans h5 (by decide +kernel)
  · rw [← List.length_map (f := (·.2.1)), h7]; decide +kernel

example : ∃ c c' log, NetcodeClient.new 0 tokenA = .ok c ∧ trun NS.Ex.a c exOps = some (c', log) ∧ CTInv c' :=
  let ⟨c, c', log, h1, h2, h3, _⟩ := client_trace_total_from_new NS.Ex.a tokenA_read 0 exOps (by decide +kernel) (by decide +kernel)
  ⟨c, c', log, h1, h2, h3⟩
example : ∃ c c' ps, NetcodeClient.new 0 tokenA = .ok c ∧ prun NS.Ex.a c exOps = some (c', ps) ∧ (C04C.surfacedSeqs ps).Nodup :=
  let ⟨c, c', ps, h1, h2, h3, _⟩ :=
    client_new_payloads_at_most_once_total NS.Ex.a tokenA_read 0 exOps (by decide +kernel) (by decide +kernel)
  ⟨c, c', ps, h1, h2, h3⟩

example : ∃ o c', tstep NS.Ex.a cA0 (.recv (List.replicate 40 255)) = some (o, c') ∧ CTInv c' :=
  let ⟨o, c', h1, _, h3, _⟩ := client_op_total NS.Ex.a (.recv (List.replicate 40 255)) cA0_ctinv (by decide +kernel)
    (by decide +kernel)
  ⟨o, c', h1, h3⟩

/-- client A connected (after the handshake) -/
def cConn : NetcodeClient := { cA0 with state := .connected, sequence := 2 }

example : (NetcodeClient.update NS.Ex.a { cConn with currentTime := DURATION_MAX } 1).isPanic = true :=
  clock_overflow_panics NS.Ex.a _ 1 (by decide +kernel)
example : (NetcodeClient.update NS.Ex.a { cConn with currentTime := DURATION_MAX } 1).isPanic = true := by decide +kernel

def cLate (room : Nat) : NetcodeClient :=
  { cConn with currentTime := DURATION_MAX - room, lastPacketReceivedTime := DURATION_MAX - room }

/-- the clock one second below `Duration::MAX`, the last datagram just received, a 5 s timeout: `update(0)` stays below
    `Duration::MAX` — and panics in `last_packet_received_time + timeout` -/
theorem deadline_overflow_panics : (NetcodeClient.update NS.Ex.a (cLate (10 ^ 9)) 0).isPanic = true := by decide +kernel
/-- … while with exactly the room of the token's timeout (`HeadRoom` holds with equality) it returns -/
theorem deadline_at_bound_returns : (NetcodeClient.update NS.Ex.a (cLate (5 * 10 ^ 9)) 0).isPanic = false := by decide +kernel
example : (cLate (5 * 10 ^ 9)).currentTime + 0 + tmo (cLate (5 * 10 ^ 9)) = DURATION_MAX := by decide +kernel
example : ¬ HeadRoom (cLate (10 ^ 9)) [.update 0] := by decide +kernel

/-- the counter at `u64::MAX`: `generate_payload_packet` panics (`client_send_panics_iff`), … -/
example : (NetcodeClient.generatePayloadPacket NS.Ex.a { cConn with sequence := U64_MAX } [1]).isPanic = true :=
  (client_send_panics_iff NS.Ex.a _ [1]).mpr ⟨by decide, rfl, by decide +kernel⟩
/-- … `update` with a keep-alive due panics, … -/
theorem counter_overflow_panics : (NetcodeClient.update NS.Ex.a { cConn with sequence := U64_MAX } 0).isPanic = true := by
  decide +kernel
/-- … one below it both return, and `disconnect` returns even at `u64::MAX` (it does not advance the counter) -/
example : (NetcodeClient.generatePayloadPacket NS.Ex.a { cConn with sequence := U64_MAX - 1 } [1]).isPanic = false := by
  decide +kernel
example : (NetcodeClient.update NS.Ex.a { cConn with sequence := U64_MAX - 1 } 0).isPanic = false := by decide +kernel
example : (NetcodeClient.disconnect NS.Ex.a { cConn with sequence := U64_MAX }).1.isPanic = false := by
  rw [client_disconnect_exact]; rfl

end Examples

end RenetVerif.C07C
