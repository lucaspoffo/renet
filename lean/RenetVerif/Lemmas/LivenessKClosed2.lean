/-
  CLOSING THE PER-ROUND SIDE CONDITIONS, second step — helper lemmas for the `_closed2` theorems of Props/C01KC.lean.

  Part A  B NEVER HAS TRAFFIC OF ITS OWN.  `SysOp` has no `sendB`: in every state reachable from `Sys.init cfg` the
          send side of B is IDLE (`SendIdle`: every reliable send channel has an empty `unacked` map, every unreliable
          one an empty queue): `SendIdle` is kept by every operation (`keptC_idle`, an instance of `LiveKC.KeptC`), hence
          `idleB_reach`.  Consequences for an idle connection: the channel loop emits nothing
          and leaves the sequence number alone (`chanLoop_idle`), so `flushSeq ≤ packetSeq + 1` (`flushSeq_idle`), and
          a flush with a non-empty pending-ack list is ONE datagram, the ack packet (`flushPk_idle_one`).
  Part B  `TickSched2` / `RoundSched2` / `RoundsSched2` (the schedule facts WITHOUT "B's flush is one datagram"),
          `HeadRoom2` (B's sequence number needs room for ONE datagram per round); `FlushCount.RoundSched0`: the schedule
          facts every one of these descriptions contains (`RoundSched2.sched0`).
-/
import RenetVerif.Lemmas.LivenessKClosed
namespace RenetVerif.LiveKC
open RenetVerif C RenetVerif.System RenetVerif.DataPath RenetVerif.Live RenetVerif.LiveK

/-! ## Part A — the idle send side -/

structure SendIdle (c : Conn) : Prop where
  rel : ∀ ch s, SMap.find? c.sendRel ch = some s → s.unacked = []
  unrel : ∀ ch s, SMap.find? c.sendUnrel ch = some s → s.queue = []

theorem idle_init (budget : Nat) (send recv : List ChanCfg) : SendIdle (Conn.fromChannels budget send recv) := by
  refine ⟨?_, ?_⟩
  · intro ch s hf
    obtain ⟨c, -, -, -, rfl⟩ := SMap.find?_foldl_filter hf
    rfl
  · intro ch s hf
    obtain ⟨c, -, -, -, rfl⟩ := SMap.find?_foldl_filter hf
    rfl

theorem getPackets_rel_idle (s : SendRel) (h0 : s.unacked = []) (seq avail now : Nat) :
    s.getPackets seq avail now = (s, [], seq, avail) := by
  unfold SendRel.getPackets
  rw [h0]; rfl

theorem getPackets_unrel_idle (s : SendUnrel) (h0 : s.queue = []) (seq avail : Nat) :
    (s.getPackets seq avail).2.1 = [] := by
  unfold SendUnrel.getPackets
  rw [h0]; rfl

theorem kept_idle : ChanKept .noSend (fun _ s => s.unacked = []) (fun _ s => s.queue = []) where
  flush {_ s} seq avail now _ h := by rw [getPackets_rel_idle s h]; exact h
  flushU {_ s} seq avail _ _ _ := (SendUnrel.getPackets_drains (tuple4_eta (s.getPackets seq avail))).1
  msgAck _ h hm := by rw [(ack_fields (Or.inl hm)).2.2 h]; exact h
  sliceAck _ h hm := by rw [(ack_fields (Or.inr ⟨_, hm⟩)).2.2 h]; exact h

theorem chanLoop_idle {c : Conn} (hi : SendIdle c) {ord : List (Bool × Nat)} {sr' : SMap SendRel} {su' : SMap SendUnrel}
    {pk pk' : List Packet} {seq avail seq' avail' : Nat}
    (h : Conn.chanLoop c.now ord (c.sendRel, c.sendUnrel, pk, seq, avail) = .ok (sr', su', pk', seq', avail')) :
    pk' = pk ∧ seq' = seq := by
  obtain ⟨-, ps, e, hp⟩ := kept_idle.all.chanLoop c trivial (Q := fun _ => False)
    (fun _ _ ch s sq av a hs _ p hp => by rw [getPackets_rel_idle s (a.1 ch s hs)] at hp; cases hp)
    (fun _ _ ch s sq av a hs _ p hp => by rw [getPackets_unrel_idle s (a.2 ch s hs)] at hp; cases hp)
    h (Nat.le_refl _) ⟨hi.rel, hi.unrel⟩
  obtain ⟨ps', e', -, hseq⟩ := chanLoop_numbering h
  cases List.eq_nil_iff_forall_not_mem.mpr hp
  cases List.append_cancel_left (e'.symm.trans e)
  exact ⟨by rw [e, List.append_nil], hseq⟩

theorem flushSeq_idle {c : Conn} (hi : SendIdle c) : c.flushSeq ≤ c.packetSeq + 1 := by
  rcases flushSeq_cases c with ⟨h, -⟩ | ⟨_, _, pk0, _, hl, hs, -⟩
  · omega
  · obtain ⟨e, -⟩ := chanLoop_idle hi hl
    rw [hs, e]
    exact Nat.le_refl _

theorem flushPk_idle_one {c : Conn} (hinv : c.Inv) (hcnt : c.CountersOK) (hd : c.isDisconnected = false)
    (hi : SendIdle c) (hne : c.pendingAcks ≠ []) : (flushPk c).length = 1 := by
  obtain ⟨c', bs, e, -, hst, -⟩ := CI.getPacketsToSend_totalP hinv hcnt
  have hd' : c'.isDisconnected = false := by rw [isDisconnected_congr hst]; exact hd
  obtain ⟨pk0, seq0, avail, o⟩ := Conn.flush_live hd e
  obtain ⟨e0, -⟩ := chanLoop_idle hi o.loop
  subst e0
  rw [(o.pk_of_live hd').1]
  unfold withAck
  rw [if_neg (by rw [List.isEmpty_iff]; exact hne)]
  rfl

theorem keptC_idle : KeptC SendIdle := kept_idle.keptC (fun _ => ⟨fun h => ⟨h.rel, h.unrel⟩, fun h => ⟨h.1, h.2⟩⟩)

theorem idleB_reach (cfg : Cfg) (ops : List SysOp) (s : Sys) (hr : (Sys.init cfg).run ops = some s) : SendIdle s.b := by
  obtain ⟨pk, h1, -⟩ := system_inv cfg [] (Sys.init cfg) rfl
  exact (keptC_idle.run cfg ops _ s pk h1 hr).2 (idle_init _ _ _)


/-- the hypothesis `(flushPk u.b).length = 1` of `TickSched.back` is a theorem -/
theorem flushB_one_reach (cfg : Cfg) (ops : List SysOp) (u : Sys) (hr : (Sys.init cfg).run ops = some u)
    (hdb : u.b.isDisconnected = false) (hcB : u.b.CountersOK) (hne : u.b.pendingAcks ≠ []) :
    (flushPk u.b).length = 1 := by
  obtain ⟨pk, h1, -⟩ := system_inv cfg ops u hr
  exact flushPk_idle_one (reach_conn h1.reachB).1 hcB hdb (idleB_reach cfg ops u hr) hne

/-! ### why the ack cap cannot be stated "one range per round" for ARBITRARY delivery order

  65 datagrams with the sequence numbers 0, 2, 4, …, 128 (the even-numbered half of a block of consecutive numbers
  `[0, 130)`, handed over before the odd ones) make 65 ranges: `add_pending_ack` drops the oldest one — sequence
  number 0 is never acknowledged — although the COMPLETE block would have been the single range `[0, 130)`. -/
example : ((List.range 65).map (· * 2)).foldl (fun l x => Acks.add ACK_RANGE_CAP x l) [] =
    (List.range 64).map (fun i => (2 * i + 2, 2 * i + 3)) := by decide +kernel

/-! ## Part B — schedule facts without "B's flush is one datagram"; head-room with one datagram of B per round -/

/-- the schedule facts of one round, seen from the state `su` A's flush starts from -/
structure TickSched2 (ch : Nat) (Sched : Sys → Prop) (su : Sys) (r : RoundP) : Prop where
  sched : Sched su
  all : ∀ k ∈ newIdx su, k ∈ r.ks
  exact : ∀ k ∈ r.ks, k ∈ newIdx su
  /-- the round hands B at least one datagram (with `exact`: A's flush emitted something) -/
  nonempty : r.ks ≠ []
  /-- the way back: the datagram handed to A is the last one of B's flush -/
  back : ∀ u, su.run (roundOps ch r.ks r.n) = some u → r.ai = ackIdx u

structure RoundSched2 (ch : Nat) (Sched : Sys → Prop) (s : Sys) (r : RoundP) : Prop where
  timer : ∀ sA, SMap.find? s.a.sendRel ch = some sA → sA.resend ≤ r.dt
  drain : (s.submitted ch).length ≤ (s.obtained ch).length + r.n
  tick : ∀ su, s.step (.updA r.dt) = some su → TickSched2 ch Sched su r

def RoundsSched2 (ch : Nat) (Sched : Sys → Prop) : Sys → List RoundP → Prop
  | _, [] => True
  | s, r :: rs => RoundSched2 ch Sched s r ∧ ∀ v, s.run (r.ops ch) = some v → RoundsSched2 ch Sched v rs

/-- head-room on the initial state; differs from `HeadRoom` in `seqB`: ONE datagram of B per round -/
structure HeadRoom2 (cfg : Cfg) (s : Sys) (rs : List RoundP) : Prop where
  sys : CountersOK cfg s
  staticA : StaticOK s.a
  staticB : StaticOK s.b
  seqA : s.a.packetSeq + kTotal rs + rs.length ≤ Varint.MAX + 1
  seqB : s.b.packetSeq + rs.length ≤ Varint.MAX + 1
  acks : s.b.pendingAcks.length + kTotal rs < ACK_RANGE_CAP

/-- the schedule facts of one round, seen from the state `su` A's flush starts from: no clause about `r.ks ≠ []` -/
structure _root_.RenetVerif.FlushCount.TickSched0 (ch : Nat) (Sched : Sys → Prop) (su : Sys) (r : RoundP) : Prop where
  sched : Sched su
  all : ∀ k ∈ newIdx su, k ∈ r.ks
  exact : ∀ k ∈ r.ks, k ∈ newIdx su
  back : ∀ u, su.run (roundOps ch r.ks r.n) = some u → r.ai = ackIdx u

structure _root_.RenetVerif.FlushCount.RoundSched0 (ch : Nat) (Sched : Sys → Prop) (s : Sys) (r : RoundP) : Prop where
  timer : ∀ sA, SMap.find? s.a.sendRel ch = some sA → sA.resend ≤ r.dt
  drain : (s.submitted ch).length ≤ (s.obtained ch).length + r.n
  tick : ∀ su, s.step (.updA r.dt) = some su → FlushCount.TickSched0 ch Sched su r

theorem RoundSched2.sched0 {ch : Nat} {Sched : Sys → Prop} {s : Sys} {r : RoundP} (h : RoundSched2 ch Sched s r) :
    FlushCount.RoundSched0 ch Sched s r :=
  ⟨h.timer, h.drain, fun su hsu => ⟨(h.tick su hsu).sched, (h.tick su hsu).all, (h.tick su hsu).exact, (h.tick su hsu).back⟩⟩

/-- B's part needs no hypothesis about B's flush: B is idle (`idleB_reach`), so `flushSeq ≤ packetSeq + 1`
    (`flushSeq_idle`). -/
theorem round_closed (cfg : Cfg) (ch : Nat) (Sched : Sys → Prop) (r : RoundP) (ops : List SysOp) (s : Sys)
    (sA : SendRel) (rB : RecvRel) (hr : (Sys.init cfg).run ops = some s) (hst : Standing cfg ch s sA rB)
    (hsch : FlushCount.RoundSched0 ch Sched s r) (su : Sys) (hsu : s.step (.updA r.dt) = some su)
    (H4 : ∀ p ∈ flushPk su.a, OnlyCh ch p) (hks : r.ks ≠ [])
    (hsys : CountersOK cfg s) (hstA : StaticOK s.a) (hstB : StaticOK s.b)
    (hseqA : su.a.flushSeq ≤ Varint.MAX + 1) (hseqB : s.b.packetSeq + 1 ≤ Varint.MAX + 1)
    (hacks : s.b.pendingAcks.length + r.ks.length < ACK_RANGE_CAP) :
    RoundOK cfg ch Sched s r ∧ ∀ v, s.run (r.ops ch) = some v →
      CountersOK cfg v ∧ StaticOK v.a ∧ StaticOK v.b ∧ v.a.packetSeq ≤ su.a.flushSeq ∧
      v.b.packetSeq ≤ s.b.packetSeq + 1 ∧ v.b.pendingAcks.length ≤ s.b.pendingAcks.length + r.ks.length := by
  obtain ⟨-, hda, hdb, hfA, hfB, H3⟩ := hst
  obtain ⟨sched, all, exact, back⟩ := hsch.tick su hsu
  obtain ⟨pk, h1, -⟩ := system_inv cfg ops s hr
  obtain ⟨-, e2, e3, e4, e5, e6, e7, -, -⟩ := updA_frame hsu
  have hrsu := run_snoc hr hsu
  have hcA : su.a.CountersOK :=
    countersOK_of_static ((keptC_static.step h1 hsu).1 (by intro c m e; cases e) hstA) hseqA
  have hc : CountersOK cfg su := countersOK_congr e4 e6 e7 hsys
  have hcap : su.b.pendingAcks.length + r.ks.length < ACK_RANGE_CAP := by rw [e5]; exact hacks
  obtain ⟨p0, hp0⟩ := flushPk_ne_of_ks hks exact
  -- the state `u` B's flush starts from
  have hback : ∀ u, su.run (roundOps ch r.ks r.n) = some u →
      u.b.CountersOK ∧ u.b.pendingAcks ≠ [] ∧ u.b.flushSeq ≤ s.b.packetSeq + 1 ∧
      u.b.pendingAcks.length ≤ s.b.pendingAcks.length + r.ks.length := by
    intro u hu
    have hgsu := MultiLiveK.goodK_reach hrsu
    obtain ⟨pkA, a1, bs, t, R⟩ := round_of_run hgsu.1 hc hcA (e3.trans hda) hu
    have hlu := (R.room (by rw [e5]; exact hdb) (by rw [e5]; exact hfB) (by rw [e6]; exact H3) H4 exact).1
    have hmem := R.pending hgsu.2 hcap all hlu
    have hlenu := R.pending_len hgsu.2 hcap hlu
    obtain ⟨hbs, hstu, -⟩ := round_headroom cfg ops s hr r.dt su hsu R
    have hru : (Sys.init cfg).run ((ops ++ [SysOp.updA r.dt]) ++ roundOps ch r.ks r.n) = some u := by
      rw [Sys.run_append, hrsu]; exact hu
    have hfsB := flushSeq_idle (idleB_reach cfg _ u hru)
    rw [e5] at hlenu
    exact ⟨countersOK_of_static (hstu hstB) (by omega), mem_ne_nil (hmem p0 hp0), by omega, hlenu⟩
  refine ⟨⟨hsch.timer, hsch.drain, ?_⟩, ?_⟩
  · intro su' hsu'
    cases Option.some.inj (hsu'.symm.trans hsu)
    exact ⟨hc, hcA, sched, all, exact, hcap, fun u hu => ⟨(hback u hu).1, (hback u hu).2.1, back u hu⟩⟩
  · intro v hv
    obtain ⟨u, hu, hv⟩ := fullRound_split hsu hv
    obtain ⟨hcB, -, hfsB, hlenu⟩ := hback u hu
    obtain ⟨pkA, a1, bs, t, R⟩ := round_of_run (MultiLiveK.goodK_reach hrsu).1 hc hcA (e3.trans hda) hu
    obtain ⟨-, -, hrest⟩ := round_headroom cfg ops s hr r.dt su hsu R
    obtain ⟨x1, x2, x3, x4, x5, x6, x7⟩ := hrest r.ai v hv hcB
    exact ⟨⟨hsys.chan, Nat.le_trans x1 hseqA, by rw [x6]; exact hsys.ids, by rw [x6]; exact hsys.lens,
        by rw [x7]; exact hsys.lensU⟩, x4 hstA, x5 hstB, x1, by omega, by rw [x3]; exact hlenu⟩

/-- **Closing the side conditions, second step**: as `rounds_of_sched`, but "B's flush is one datagram" is not a
    hypothesis — B is idle in every reachable state (`idleB_reach`), so `u.b.flushSeq ≤ u.b.packetSeq + 1`
    (`flushSeq_idle`) — and B's sequence number needs room for one datagram per round only. -/
theorem rounds_of_sched2 (cfg : Cfg) (ch : Nat) (ord : Bool) (ho : KindOf cfg ch ord) (Sched : Sys → Prop)
    (hS : ∀ ops' su, (Sys.init cfg).run ops' = some su → Sched su → ∀ p ∈ flushPk su.a, OnlyCh ch p) :
    ∀ (rs : List RoundP) (ops : List SysOp) (s : Sys) (sA : SendRel) (rB : RecvRel),
      (Sys.init cfg).run ops = some s → s.a.isDisconnected = false → s.b.isDisconnected = false →
      SMap.find? s.a.sendRel ch = some sA → SMap.find? s.b.recvRel ch = some rB → Room (s.submitted ch) rB →
      RoundsSched2 ch Sched s rs → HeadRoom2 cfg s rs → Rounds cfg ch Sched s rs := by
  intro rs ops s sA rB hr hda hdb hfA hfB H3 hRS hH
  refine rounds_of_round cfg ch ord ho Sched hS (fun s rs => RoundsSched2 ch Sched s rs ∧ HeadRoom2 cfg s rs) ?_
    rs ops s sA rB hr (Standing.of_reach hr hda hdb hfA hfB H3) ⟨hRS, hH⟩
  intro r rs ops s sA rB hr hst ⟨⟨hsch, hnext⟩, hH⟩
  obtain ⟨pk, h1, -⟩ := system_inv cfg ops s hr
  obtain ⟨su, hsu⟩ := updA_step h1 r.dt
  have tk := hsch.tick su hsu
  obtain ⟨-, -, -, e4, -⟩ := updA_frame hsu
  have hrsu := run_snoc hr hsu
  obtain ⟨pku, h1u, -⟩ := system_inv cfg _ su hrsu
  have hseqA := hH.seqA
  have hseqB := hH.seqB
  have hacks := hH.acks
  simp only [kTotal, List.length_cons] at hseqA hseqB hacks
  -- A's flush is non-empty and has at most one packet per datagram handed over
  obtain ⟨p0, hp0⟩ := flushPk_ne_of_ks tk.nonempty tk.exact
  have hlen := newIdx_length_le tk.all
  have hfs := flushSeq_le h1u.invA.1 (List.ne_nil_of_mem hp0)
  obtain ⟨hok, hafter⟩ := round_closed cfg ch Sched r ops s sA rB hr hst hsch.sched0 su hsu
    (hS _ su hrsu tk.sched) tk.nonempty hH.sys hH.staticA hH.staticB (by omega) (by omega) (by omega)
  refine ⟨hok, fun v hv => ⟨hnext v hv, ?_⟩⟩
  obtain ⟨hc, hstA, hstB, x1, x2, x3⟩ := hafter v hv
  exact ⟨hc, hstA, hstB, by omega, by omega, by omega⟩

instance (cfg : Cfg) (s : Sys) (rs : List RoundP) : Decidable (HeadRoom2 cfg s rs) :=
  decidable_of_iff (_ ∧ _ ∧ _ ∧ _ ∧ _ ∧ _)
    ⟨fun h => ⟨h.1, h.2.1, h.2.2.1, h.2.2.2.1, h.2.2.2.2.1, h.2.2.2.2.2⟩,
     fun h => ⟨h.sys, h.staticA, h.staticB, h.seqA, h.seqB, h.acks⟩⟩

theorem roundsSched2_of_roundsSched {ch : Nat} {Sched : Sys → Prop} : ∀ (rs : List RoundP) (s : Sys),
    RoundsSched ch Sched s rs → RoundsSched2 ch Sched s rs
  | [], _, _ => trivial
  | r :: rs, s, h => by
    refine ⟨⟨h.1.timer, h.1.drain, fun su hsu => ?_⟩, fun v hv => roundsSched2_of_roundsSched rs v (h.2 v hv)⟩
    have tk := h.1.tick su hsu
    exact ⟨tk.sched, tk.all, tk.exact, tk.nonempty, fun u hu => (tk.back u hu).1⟩

/-- **Closing the side conditions**: the schedule facts and the head-room on the initial state give the per-round
    side conditions `Rounds` of Props/C01K.lean.  `hS`: the scheduling hypothesis yields H4.  (`RoundsSched` and
    `HeadRoom` ask more than `RoundsSched2` and `HeadRoom2`.) -/
theorem rounds_of_sched (cfg : Cfg) (ch : Nat) (ord : Bool) (ho : KindOf cfg ch ord) (Sched : Sys → Prop)
    (hS : ∀ ops' su, (Sys.init cfg).run ops' = some su → Sched su → ∀ p ∈ flushPk su.a, OnlyCh ch p) :
    ∀ (rs : List RoundP) (ops : List SysOp) (s : Sys) (sA : SendRel) (rB : RecvRel),
      (Sys.init cfg).run ops = some s → s.a.isDisconnected = false → s.b.isDisconnected = false →
      SMap.find? s.a.sendRel ch = some sA → SMap.find? s.b.recvRel ch = some rB → Room (s.submitted ch) rB →
      RoundsSched ch Sched s rs → HeadRoom cfg s rs → Rounds cfg ch Sched s rs := by
  intro rs ops s sA rB hr hda hdb hfA hfB H3 hRS hH
  have hseqB := hH.seqB
  exact rounds_of_sched2 cfg ch ord ho Sched hS rs ops s sA rB hr hda hdb hfA hfB H3 (roundsSched2_of_roundsSched rs s hRS)
    ⟨hH.sys, hH.staticA, hH.staticB, hH.seqA, by omega, hH.acks⟩

end RenetVerif.LiveKC
