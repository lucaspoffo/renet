/-
  `RenetClient::get_packets_to_send` (group ConnSend) against `Conn.getPacketsToSend` of `Renet/Conn.lean`:
  the loop over `channel_send_order` (calls into the four send channels), the ack packet, the `sent_packets`
  bookkeeping and the serialisation of every packet into the 1400-byte scratch buffer.
  The tie itself is in `Props/SrcTieConnSend.lean`.
-/
import RenetVerif.Generated.Src.ConnSend
import RenetVerif.Lemmas.SrcEquiv.Prims
import RenetVerif.Lemmas.SrcEquiv.CommonRepr
import RenetVerif.Lemmas.SrcEquiv.ChanLemmas
import RenetVerif.Lemmas.SrcEquiv.ConnRepr
import RenetVerif.Lemmas.SrcEquiv.Conn
import RenetVerif.Lemmas.SrcEquiv.Packet
import RenetVerif.Props.SrcTieConn
namespace RenetVerif.SrcEquiv
open RenetVerif RenetVerif.RustSem

section ConnSend
open Src.renet.remote_connection

/-- the generated client during `get_packets_to_send`: `c0` with these send tables, packet sequence and sent packets -/
def connW (mrs : Nat → Nat) (c0 : Conn) (sr : SMap SendRel) (su : SMap SendUnrel) (seq : Nat) (sent : SMap (Nat × SentInfo)) :
    RenetClient :=
  ⟨seq, c0.now, mapVals reprSentEntry sent, c0.pendingAcks.map ackR, c0.order.map reprOrd, mapVals reprSU su,
   mapVals reprRU c0.recvUnrel, mapVals reprSR sr, reprRecvRel mrs c0.recvRel, c0.budget, reprStatus c0.status⟩

abbrev ChanSt := SMap SendRel × SMap SendUnrel × List Packet × Nat × Nat
abbrev SigC := Nat × List SPacket × RenetClient

/-- tuple `(available_bytes, packets, self)` of the generated channel loop -/
def chanSt (mrs : Nat → Nat) (c0 : Conn) (st : ChanSt) : SigC :=
  (st.2.2.2.2, st.2.2.1.map reprPacket, connW mrs c0 st.1 st.2.1 st.2.2.2.1 c0.sent)

/-- the preconditions of the channel functions hold at every step of the model's channel loop (the counters stay
    inside their integer types; every reliable entry is well-formed) -/
def ChanLoopOk (now : Nat) : List (Bool × Nat) → ChanSt → Prop
  | [], _ => True
  | (true, ch) :: rest, (sr, su, pk, seq, avail) =>
    ∀ s, SMap.find? sr ch = some s →
      (∀ p ∈ s.unacked, UWf now p) ∧ seq + needR s.unacked + 1 < 2 ^ 64 ∧
      ChanLoopOk now rest (SMap.insert sr ch (s.getPackets seq avail now).1, su, pk ++ (s.getPackets seq avail now).2.1,
        (s.getPackets seq avail now).2.2.1, (s.getPackets seq avail now).2.2.2)
  | (false, ch) :: rest, (sr, su, pk, seq, avail) =>
    ∀ s, SMap.find? su ch = some s →
      qBytes s.queue ≤ s.mem ∧ s.mem < 2 ^ 64 ∧ seq + need s.queue + 1 < 2 ^ 64 ∧ s.slicedId + s.queue.length < 2 ^ 64 ∧
      ChanLoopOk now rest (sr, SMap.insert su ch (s.getPackets seq avail).1, pk ++ (s.getPackets seq avail).2.1,
        (s.getPackets seq avail).2.2.1, (s.getPackets seq avail).2.2.2)

theorem chanLoop_cons (now : Nat) (o : Bool × Nat) (rest : List (Bool × Nat)) (st : ChanSt) :
    Conn.chanLoop now (o :: rest) st = Conn.chanLoop now [o] st >>= fun st' => Conn.chanLoop now rest st' := by
  obtain ⟨rel, ch⟩ := o
  obtain ⟨sr, su, pk, seq, avail⟩ := st
  cases rel with
  | true => simp only [Conn.chanLoop]; cases SMap.find? sr ch <;> rfl
  | false => simp only [Conn.chanLoop]; cases SMap.find? su ch <;> rfl

theorem chanLoopOk_cons (now : Nat) (o : Bool × Nat) (rest : List (Bool × Nat)) (st st' : ChanSt)
    (hok : ChanLoopOk now (o :: rest) st) (h : Conn.chanLoop now [o] st = .ok st') : ChanLoopOk now rest st' := by
  obtain ⟨rel, ch⟩ := o
  obtain ⟨sr, su, pk, seq, avail⟩ := st
  cases rel with
  | true =>
    simp only [Conn.chanLoop] at h
    cases hf : SMap.find? sr ch with
    | none => rw [hf] at h; cases h
    | some s => rw [hf] at h; cases h; exact (hok s hf).2.2
  | false =>
    simp only [Conn.chanLoop] at h
    cases hf : SMap.find? su ch with
    | none => rw [hf] at h; cases h
    | some s => rw [hf] at h; cases h; exact (hok s hf).2.2.2.2

theorem connW_record (mrs : Nat → Nat) (c0 : Conn) (sr : SMap SendRel) (su : SMap SendUnrel) (seq : Nat)
    (sent : SMap (Nat × SentInfo)) (k t : Nat) (info : SentInfo) :
    ({ (connW mrs c0 sr su seq sent) with
        sent_packets := RustSem.Map.insert (connW mrs c0 sr su seq sent).sent_packets k (reprSentEntry (t, info)) } : RenetClient)
      = connW mrs c0 sr su seq (SMap.insert sent k (t, info)) :=
  congrArg (fun sp => ({ (connW mrs c0 sr su seq sent) with sent_packets := sp } : RenetClient))
    (insert_mapVals reprSentEntry sent k (t, info))

theorem recordSent_cons (now : Nat) (p : Packet) (rest : List Packet) (m : SMap (Nat × SentInfo)) :
    Conn.recordSent now (p :: rest) m = Conn.recordSent now [p] m >>= fun m' => Conn.recordSent now rest m' := by
  simp only [Conn.recordSent]
  cases Conn.sentInfoOf p <;> rfl

abbrev SigS := List Nat × Nat × RenetClient × List (List Nat)

def bufAfter (buf : List Nat) (b : Bytes) : List Nat := toNats b ++ buf.drop b.length

/-- The loop that serialises the packets of the tick returns from the function at the first packet that does not fit the
    scratch buffer. -/
@[elab_as_elim]
theorem ser_loop {ε : Type} (selfc : RenetClient) (disc : SerErr → RenetClient)
    (body : SPacket → SigS → Exec ε (RenetClient × List (List Nat)) SigS)
    {motive : Exec ε (RenetClient × List (List Nat)) SigS → Res SerErr (List Bytes) → Prop}
    (l : List Packet) (buf : List Nat) (total : Nat) (x : Exec ε (RenetClient × List (List Nat)) SigS)
    (res : Res SerErr (List Bytes)) (hx : RustSem.forEach (l.map reprPacket) (buf, total, selfc, []) body = x)
    (hres : Conn.serialiseAll l = res)
    (hbuf : buf.length = C.SER_BUFFER) (henc : ∀ p ∈ l, ∃ bytes, p.enc = .ok bytes)
    (htot : total + l.length * C.SER_BUFFER < 2 ^ 64)
    (hb : ∀ (p : Packet) (buf : List Nat) (total : Nat) (bs : List Bytes) (bytes : Bytes),
      buf.length = C.SER_BUFFER → p.enc = .ok bytes → total + C.SER_BUFFER < 2 ^ 64 →
      body (reprPacket p) (buf, total, selfc, bs.map toNats) =
        if bytes.length ≤ C.SER_BUFFER then .val (bufAfter buf bytes, total + bytes.length, selfc, (bs ++ [bytes]).map toNats)
        else .ret (disc .bufferTooShort, []))
    (done : ∀ buf' total' bs, motive (.val (buf', total', selfc, bs.map toNats)) (.ok bs))
    (stop : ∀ e, motive (.ret (disc e, [])) (.err e)) : motive x res := by
  subst hx hres
  suffices h : ∀ (l : List Packet) (buf : List Nat) (total : Nat) (bs : List Bytes),
      buf.length = C.SER_BUFFER → (∀ p ∈ l, ∃ bytes, p.enc = .ok bytes) → total + l.length * C.SER_BUFFER < 2 ^ 64 →
      match Conn.serialiseAll l with
      | .ok bs' => ∃ buf' total', RustSem.forEach (l.map reprPacket) (buf, total, selfc, bs.map toNats) body =
          .val (buf', total', selfc, (bs ++ bs').map toNats)
      | .err e => RustSem.forEach (l.map reprPacket) (buf, total, selfc, bs.map toNats) body = .ret (disc e, [])
      | .panic _ => False by
    have h := h l buf total [] hbuf henc htot
    simp only [List.map_nil, List.nil_append] at h
    cases hr : Conn.serialiseAll l with
    | ok bs' => rw [hr] at h; obtain ⟨buf', total', h⟩ := h; rw [h]; exact done _ _ _
    | err e => rw [hr] at h; rw [h]; exact stop e
    | panic st => rw [hr] at h; exact h.elim
  clear hbuf henc htot
  intro l
  induction l with
  | nil => intro buf total bs _ _ _; simp [RustSem.forEach, Conn.serialiseAll]
  | cons p rest ih =>
    intro buf total bs hbuf henc htot
    obtain ⟨bytes, hp⟩ := henc p (by simp)
    have hS : C.SER_BUFFER = 1400 := rfl
    simp only [List.length_cons] at htot
    have h1 := hb p buf total bs bytes hbuf hp (by rw [hS] at htot ⊢; omega)
    rw [List.map_cons, RustSem.forEach, h1]
    simp only [Conn.serialiseAll, Packet.toBytes, hp, Res.bind_ok]
    by_cases hfit : bytes.length ≤ C.SER_BUFFER
    · rw [if_pos hfit, if_pos hfit, Exec.bind_val']
      have hbuf' : (bufAfter buf bytes).length = C.SER_BUFFER := by
        simp only [bufAfter, List.length_append, toNats_length, List.length_drop, hbuf]; omega
      have := ih (bufAfter buf bytes) (total + bytes.length) (bs ++ [bytes]) hbuf'
        (fun q hq => henc q (by simp [hq])) (by rw [hS] at htot hfit ⊢; omega)
      simp only [Res.pure_eq, Res.bind_ok]
      cases hr : Conn.serialiseAll rest with
      | ok bs' =>
        rw [hr] at this
        obtain ⟨b', t', h⟩ := this
        exact ⟨b', t', by simpa [List.append_assoc] using h⟩
      | err e => rw [hr] at this; simpa using this
      | panic st => rw [hr] at this; exact this
    · rw [if_neg hfit, if_neg hfit]
      simp [Exec.bind_ret']

def tickPackets (c : Conn) (pk : List Packet) (seq : Nat) : List Packet :=
  if c.pendingAcks.isEmpty then pk else pk ++ [Packet.ack seq c.pendingAcks]

/-- what keeps `get_packets_to_send` inside the integer types along the model's run -/
def SendOk (c : Conn) : Prop :=
  ChanLoopOk c.now c.order (c.sendRel, c.sendUnrel, [], c.packetSeq, c.budget) ∧
  ∀ sr su pk seq avail, Conn.chanLoop c.now c.order (c.sendRel, c.sendUnrel, [], c.packetSeq, c.budget) = .ok (sr, su, pk, seq, avail) →
    seq + 1 < 2 ^ 64 ∧ (∀ p ∈ tickPackets c pk seq, ∃ b, p.enc = .ok b) ∧ (pk.length + 1) * C.SER_BUFFER < 2 ^ 64

end ConnSend
end RenetVerif.SrcEquiv
