/-
  `renetcode/src/server.rs` (group NcServerSend): `find_client_mut_by_id`, `NetcodeServer::{generate_payload_packet,
  update_client, disconnect}` against `Netcode/Server.lean`.  The ties themselves are in `Props/SrcTieNcServerSend.lean`.
-/
import RenetVerif.Generated.Src.NcServerSend
import RenetVerif.Lemmas.SrcEquiv.NcServer
import RenetVerif.Lemmas.SrcEquiv.NcCodec
import RenetVerif.Props.SrcTieNcCodec
import RenetVerif.Props.SrcTieNcServerQuery
namespace RenetVerif.SrcEquiv
open RenetVerif RenetVerif.RustSem RenetVerif.Netcode

section NcServerSend
open Src.renetcode.server

abbrev SServerResult := Src.renetcode.server.ServerResult

def reprNSR : Netcode.ServerResult → SServerResult
  | .none => .None
  | .packetToSend addr p => .PacketToSend (reprAddr addr) (toNats p)
  | .payload id p => .Payload id (toNats p)
  | .clientConnected id addr ud p => .ClientConnected id (reprAddr addr) (toNats ud) (toNats p)
  | .clientDisconnected id addr p => .ClientDisconnected id (reprAddr addr) (p.map toNats)

theorem find_some_idx_go (id : Nat) : ∀ (clients : List (Option Netcode.Connection)) (i : Nat),
    RustSem.find_some_idx.go (fun c : SConnection => decide (c.client_id = id)) i (clients.map (Option.map reprNConn))
      = findClientSlotById.go id clients i := by
  intro clients
  induction clients with
  | nil => intro i; rfl
  | cons c rest ih =>
    intro i
    cases c with
    | none => simp only [List.map_cons, Option.map_none, RustSem.find_some_idx.go, findClientSlotById.go]; exact ih (i + 1)
    | some c =>
      simp only [List.map_cons, Option.map_some, RustSem.find_some_idx.go, findClientSlotById.go]
      by_cases h : c.clientId = id
      · simp [h, reprNConn]
      · simp only [reprNConn, h, decide_false, if_false, Bool.false_eq_true]; exact ih (i + 1)

theorem find_slot_some {clients : List (Option Netcode.Connection)} {id i : Nat} (h : findClientSlotById clients id = some i) :
    ∃ c, clients[i]? = some (some c) ∧ findClientById clients id = some c :=
  let ⟨c, hi, _, hf⟩ := NS.findSlot_some h
  ⟨c, hi, hf⟩
theorem find_slot_none {clients : List (Option Netcode.Connection)} {id : Nat} (h : findClientSlotById clients id = none) :
    findClientById clients id = none := NS.findSlot_none.mp h

theorem reprNS_protocol_id (o : List Nat) (s : Netcode.NetcodeServer) : (reprNS o s).protocol_id = s.protocolId := rfl
theorem reprNS_max_clients (o : List Nat) (s : Netcode.NetcodeServer) : (reprNS o s).max_clients = s.maxClients := rfl
theorem reprNS_current_time (o : List Nat) (s : Netcode.NetcodeServer) : (reprNS o s).current_time = s.currentTime := rfl
theorem reprNS_global_sequence (o : List Nat) (s : Netcode.NetcodeServer) :
    (reprNS o s).global_sequence = s.globalSequence := rfl
theorem reprNS_out (o : List Nat) (s : Netcode.NetcodeServer) : (reprNS o s).out = o := rfl

theorem reprNConn_state (c : Netcode.Connection) : (reprNConn c).state = reprCS c.state := rfl
theorem reprNConn_send_key (c : Netcode.Connection) : (reprNConn c).send_key = toNats c.sendKey := rfl
theorem reprNConn_addr (c : Netcode.Connection) : (reprNConn c).addr = reprAddr c.addr := rfl
theorem reprNConn_last_packet_received_time (c : Netcode.Connection) :
    (reprNConn c).last_packet_received_time = c.lastPacketReceivedTime := rfl
theorem reprNConn_last_packet_send_time (c : Netcode.Connection) :
    (reprNConn c).last_packet_send_time = c.lastPacketSendTime := rfl
theorem reprNConn_timeout_seconds (c : Netcode.Connection) : (reprNConn c).timeout_seconds = c.timeoutSeconds := rfl
theorem reprNConn_sequence (c : Netcode.Connection) : (reprNConn c).sequence = c.sequence := rfl

theorem idx_clients {ε ρ : Type} {clients : List (Option Netcode.Connection)} {i : Nat} {oc : Option Netcode.Connection}
    (h : clients[i]? = some oc) (site : String) :
    (RustSem.index (clients.map (Option.map reprNConn)) i site : Exec ε ρ _) = .val (oc.map reprNConn) := by
  apply index_val; simp [h]

theorem set_clients {ε ρ : Type} {clients : List (Option Netcode.Connection)} {i : Nat} (hi : i < clients.length)
    (v : Option SConnection) (v' : Option Netcode.Connection) (hv : v = v'.map reprNConn) (site : String) :
    (RustSem.set (clients.map (Option.map reprNConn)) i v site : Exec ε ρ _)
      = .val ((clients.set i v').map (Option.map reprNConn)) := by
  rw [set_val (by simpa using hi), hv, List.map_set]

theorem lt_of_getElem? {α : Type} {l : List α} {i : Nat} {x : α} (h : l[i]? = some x) : i < l.length :=
  (List.getElem?_eq_some_iff.mp h).1

/-- `clients[i].as_mut().unwrap()` on an occupied slot -/
theorem slot_bind {ε ρ β : Type} {l : List (Option Netcode.Connection)} {i : Nat} {c : Netcode.Connection}
    (h : l[i]? = some (some c)) (s1 s2 : String) (k : SConnection → Exec ε ρ β) :
    (RustSem.index (l.map (Option.map reprNConn)) i s1).bind (fun t => (RustSem.unwrap t s2).bind k) = k (reprNConn c) := by
  rw [idx_clients h, Exec.bind_val']
  rfl

/-- `clients[i] = Some(v)` where `v` is the image of the model's `c0`; the generated code spells `v` field by field, so this
    is used with `erw` -/
theorem set_some_bind {ε ρ β : Type} {l : List (Option Netcode.Connection)} {i : Nat} (hi : i < l.length)
    (c0 : Netcode.Connection) (site : String) (k : List (Option SConnection) → Exec ε ρ β) :
    (RustSem.set (l.map (Option.map reprNConn)) i (some (reprNConn c0)) site).bind k
      = k ((l.set i (some c0)).map (Option.map reprNConn)) := by
  rw [set_clients hi (some (reprNConn c0)) (some c0) rfl, Exec.bind_val']

theorem set_none_bind {ε ρ β : Type} (l : List (Option Netcode.Connection)) (i : Nat) (hi : i < l.length) (site : String)
    (k : List (Option SConnection) → Exec ε ρ β) :
    (RustSem.set (l.map (Option.map reprNConn)) i none site).bind k = k ((l.set i none).map (Option.map reprNConn)) := by
  rw [set_clients hi none none rfl, Exec.bind_val']

theorem slice_of_take {ε ρ : Type} (buf' : List Nat) (bytes : Bytes) (h : buf'.take bytes.length = toNats bytes) (site : String) :
    (RustSem.slice buf' 0 bytes.length site : Exec ε ρ _) = .val (toNats bytes) := by
  have hl : bytes.length ≤ buf'.length := by
    have := congrArg List.length h
    simp only [List.length_take, toNats_length] at this; omega
  unfold RustSem.slice
  rw [if_pos ⟨Nat.zero_le _, hl⟩, h]; rfl

/-- `Packet::encode` into the server's scratch buffer -/
theorem enc_out (a : AEAD) (hl : a.Laws) (p : Netcode.Packet) (out : List Nat) (hout : out.length = C.NETCODE_MAX_PACKET_BYTES)
    (pid sq : Nat) (key : Bytes) :
    EncOut C.NETCODE_MAX_PACKET_BYTES (Netcode.Packet.encode a p C.NETCODE_MAX_PACKET_BYTES pid (some (sq, key)))
      (@Src.renetcode.packet.Packet.encode (aeadOf a) (reprNP p) out pid (some (sq, toNats key))) := by
  have h := SrcTie.nc_packet_encode a hl p out (by rw [hout]; decide) pid (some (sq, key))
  rw [hout] at h
  exact h

/-- the same with the generated packet `q` as the call site spells it (`rw` does not see through `reprNP`) -/
theorem enc_out_as (a : AEAD) (hl : a.Laws) (p : Netcode.Packet) (q : SNcPacket) (hq : reprNP p = q) (out : List Nat)
    (hout : out.length = C.NETCODE_MAX_PACKET_BYTES) (pid sq : Nat) (key : Bytes) :
    EncOut C.NETCODE_MAX_PACKET_BYTES (Netcode.Packet.encode a p C.NETCODE_MAX_PACKET_BYTES pid (some (sq, key)))
      (@Src.renetcode.packet.Packet.encode (aeadOf a) q out pid (some (sq, toNats key))) :=
  hq ▸ enc_out a hl p out hout pid sq key

/-! The case rules below are elimination rules and not disjunctions: `cases` with a large goal as its motive is slow. -/

theorem incU64_elim (x : Nat) {P : Prop}
    (hpanic : (∀ {ε ρ : Type} (s : String), (RustSem.add 64 x 1 s : Exec ε ρ Nat) = .panic s) →
      (∀ {ε : Type} (s : String), (incU64 x s : Res ε Nat) = .panic s) → P)
    (hok : (∀ {ε ρ : Type} (s : String), (RustSem.add 64 x 1 s : Exec ε ρ Nat) = .val (x + 1)) →
      (∀ {ε : Type} (s : String), (incU64 x s : Res ε Nat) = .ok (x + 1)) → P) : P := by
  unfold incU64 U64_MAX at hok hpanic
  by_cases h : x + 1 < 2 ^ 64
  · exact hok (fun _ => add_val h) (fun _ => if_pos (by omega))
  · exact hpanic (fun _ => add_panic h) (fun _ => if_neg (by omega))

theorem durAdd_elim (x y : Nat) {P : Prop}
    (hpanic : (∀ {ε ρ : Type} (s : String), (RustSem.Duration.add x y s : Exec ε ρ Nat) = .panic s) →
      (∀ {ε : Type} (s : String), (durAdd x y s : Res ε Nat) = .panic s) → P)
    (hok : (∀ {ε ρ : Type} (s : String), (RustSem.Duration.add x y s : Exec ε ρ Nat) = .val (x + y)) →
      (∀ {ε : Type} (s : String), (durAdd x y s : Res ε Nat) = .ok (x + y)) → P) : P := by
  unfold RustSem.Duration.add durAdd at hok hpanic
  rw [show RustSem.Duration.MAX = DURATION_MAX by decide] at hok hpanic
  by_cases h : x + y ≤ DURATION_MAX
  · exact hok (fun _ => if_pos h) (fun _ => if_pos h)
  · exact hpanic (fun _ => if_neg h) (fun _ => if_neg h)

theorem cast_i32_pos {x : Int} (h0 : 0 < x) (h1 : x < 2 ^ 31) : RustSem.cast_i32 64 x = x.toNat := by
  unfold RustSem.cast_i32
  rw [Int.emod_eq_of_lt (by omega) (by omega)]

/-- `timeout_seconds > 0 && last_packet_received_time + from_secs(timeout_seconds) < current_time` of the server's
    `update_client` and the client's `update_internal_state`; `secs` stands for `Duration::from_secs` -/
theorem timed_out_elim (last now : Nat) (to : Int) (h31 : to < 2 ^ 31) (secs : Nat → Nat) {P : Prop}
    (hpanic : (∀ {ε ρ : Type} (s : String),
          (if decide (to > 0) = true then
            (RustSem.Duration.add last (secs (RustSem.cast_i32 64 to)) s).bind fun t => Exec.val (decide (t < now))
          else Exec.val false : Exec ε ρ Bool) = .panic s) →
        (∀ s : String, (if to > 0 then do
            let deadline ← durAdd last (secs to.toNat) s
            pure (decide (deadline < now))
          else pure false : Res Empty Bool) = .panic s) → P)
    (hok : ∀ b, (∀ {ε ρ : Type} (s : String),
          (if decide (to > 0) = true then
            (RustSem.Duration.add last (secs (RustSem.cast_i32 64 to)) s).bind fun t => Exec.val (decide (t < now))
          else Exec.val false : Exec ε ρ Bool) = .val b) →
        (∀ s : String, (if to > 0 then do
            let deadline ← durAdd last (secs to.toNat) s
            pure (decide (deadline < now))
          else pure false : Res Empty Bool) = .ok b) → P) : P := by
  by_cases hpos : to > 0
  · simp only [if_pos (decide_eq_true hpos), if_pos hpos, cast_i32_pos hpos h31] at hok hpanic
    refine durAdd_elim last (secs to.toNat) (fun hg hm => ?_) (fun hg hm => ?_)
    · exact hpanic (fun _ => by rw [hg]; rfl) (fun _ => by rw [hm]; rfl)
    · exact hok _ (fun _ => by rw [hg]; rfl) (fun _ => by rw [hm]; rfl)
  · simp only [if_neg (mt of_decide_eq_true hpos), if_neg hpos] at hok
    exact hok false (fun _ => rfl) (fun _ => rfl)

/-- outcomes of the sending functions that return `Result<_, NetcodeError>`: the scratch buffer `out` is some buffer of the
    same length afterwards (the model does not keep it) -/
def GenOut (s : Netcode.NetcodeServer) (m : NRes ((Addr × Bytes) × Netcode.NetcodeServer))
    (g : Res (SNErr × SNetcodeServer) (SNetcodeServer × (RustSem.SocketAddr × List Nat))) : Prop :=
  match m with
  | .ok ((addr, bytes), s') =>
      ∃ out', out'.length = C.NETCODE_MAX_PACKET_BYTES ∧ g = .ok (reprNS out' s', (reprAddr addr, toNats bytes))
  | .err e => ∃ out', out'.length = C.NETCODE_MAX_PACKET_BYTES ∧ g = .err (reprNErr e, reprNS out' s)
  | .panic _ => ∃ msg, g = .panic msg

/-- outcomes of `update_client` / `disconnect` (no `Err`): the server with SOME scratch buffer of the same length and the
    `ServerResult` (whose borrowed payload `&self.out[..len]` is the encoded packet, by value) -/
def NsOut {ε : Type} (m : Res Empty (Netcode.ServerResult × Netcode.NetcodeServer)) (g : Res ε (SNetcodeServer × SServerResult)) : Prop :=
  match m with
  | .ok (r, s') => ∃ out', out'.length = C.NETCODE_MAX_PACKET_BYTES ∧ g = .ok (reprNS out' s', reprNSR r)
  | .err e => nomatch e
  | .panic _ => ∃ msg, g = .panic msg

theorem getD_of {α : Type} {l : List (Option α)} {i : Nat} {oc : Option α} (h : l[i]? = some oc) : l.getD i none = oc := by
  simp [List.getD, h]

theorem set_self {α : Type} : ∀ {l : List α} {i : Nat} {x : α}, l[i]? = some x → l.set i x = l := by
  intro l
  induction l with
  | nil => intro i x h; rfl
  | cons y r ih =>
    intro i x h
    cases i with
    | zero => simp at h; simp [h]
    | succ j => simp at h; simp [ih h]

theorem reprCS_disc (x : Netcode.ConnectionState) : (reprCS x = .Disconnected) = (x = .disconnected) := by
  cases x <;> simp [reprCS]

theorem attempt_ok' {ε ρ ε' σ α : Type} (st : σ) (x : α) :
    (Exec.attempt (.ok (st, x) : Res (ε' × σ) (σ × α)) : Exec ε ρ _) = .val (st, .ok x) := rfl
theorem attempt_err' {ε ρ ε' σ α : Type} (e : ε') (st : σ) :
    (Exec.attempt (.err (e, st) : Res (ε' × σ) (σ × α)) : Exec ε ρ _) = .val (st, .error e) := rfl
theorem attempt_panic' {ε ρ ε' σ α : Type} (m : String) :
    (Exec.attempt (.panic m : Res (ε' × σ) (σ × α)) : Exec ε ρ _) = .panic m := rfl

end NcServerSend
end RenetVerif.SrcEquiv
