/-
  Netcode CLIENT properties (C07, C04, C18, C17) stated DIRECTLY about the generated
  `Src.renetcode.client.NetcodeClient` functions of `Generated/Src/NcClient.lean` (the Lean text the translator derives from
  the current `renetcode/src/client.rs`).  The hand model (`Netcode.NetcodeClient`) appears only in the proofs:
  `SrcTieNcClient` (generated = model on representable states) ∘ `Props/C07, C04, C18, C17`.

  How states are constrained (said again in each doc comment):
    * `WfC g` — `g` is the image `reprNC out c` of SOME model client (byte lists hold bytes, addresses are `AddrOk`, the
      replay window has 256 entries, the scratch buffer has `NETCODE_MAX_PACKET_BYTES` entries): representability only —
      the client theorems of C04 / C07 / C18 need no further invariant;
    * everything else is INTRINSIC: `g.state`, `GClockOK g d` (no `Duration` operation of `update(d)` overflows),
      `GCTimedOut g now`, `g.connect_token.timeout_seconds < 2^31` (an `i32` on the Rust side; needed by the tie of
      `update_internal_state`), `g.server_addr_index + 1 < 2^64`.
  Inputs are intrinsic: `BytesOk` byte lists, datagrams shorter than `2^64 - 16` bytes.  The AEAD is the abstract parameter
  `a` with the length laws `a.Laws` (needed by the tie); nothing is assumed about authenticity.
-/
import RenetVerif.Lemmas.SrcCorollariesNc
import RenetVerif.Props.C07
import RenetVerif.Props.C04
import RenetVerif.Props.C17
import RenetVerif.Props.C18
import RenetVerif.Lemmas.NcAead
namespace RenetVerif.SrcPropsNc.Client
open RenetVerif RenetVerif.SrcEquiv RenetVerif.SrcTie RenetVerif.SrcCor RenetVerif.SrcCorNc RenetVerif.RustSem
open RenetVerif.Netcode
open Src.renetcode.client

abbrev SRP := Src.renetcode.replay_protection.ReplayProtection

abbrev decodeC (a : AEAD) (g : SNetcodeClient) (gbuf : List Nat) : SDecRes :=
  @Src.renetcode.packet.Packet.decode (aeadOf a) gbuf g.connect_token.protocol_id
    (some g.connect_token.server_to_client_key) (some g.replay_protection)

theorem wfC_cases {g : SNetcodeClient} (hw : WfC g) :
    ∃ c out, out.length = C.NETCODE_MAX_PACKET_BYTES ∧ g = reprNC out c :=
  let ⟨c, hr⟩ := hw; ⟨c, g.out, hr.1, hr.2⟩

/-! ## C07 — hostile datagrams: no panic, no state change -/

/-- **C07 `client_process_packet_total`, on the generated `process_packet`.**  State: `WfC g` only.  For EVERY datagram the
    generated function returns `Ok` (never `.panic`); the post-state is representable, the scratch buffer untouched. -/
theorem process_packet_total {ε : Type} (a : AEAD) (hl : a.Laws) {g : SNetcodeClient} (hw : WfC g) {gbuf : List Nat}
    (hb : BytesOk gbuf) (hbl : gbuf.length + 16 < 2 ^ 64) :
    ∃ g' buf' r, @NetcodeClient.process_packet (aeadOf a) ε g gbuf = .ok (g', buf', r) ∧ WfC g' ∧ g'.out = g.out := by
  obtain ⟨c, out, hout, rfl⟩ := wfC_cases hw
  obtain ⟨buf, rfl⟩ := (bytesOk_iff gbuf).1 hb
  rw [toNats_length] at hbl
  obtain ⟨r, c', hm⟩ := C07.client_process_packet_total a c buf
  have t := nc_client_process_packet (ε := ε) a hl out c buf hbl
  rw [hm] at t
  obtain ⟨buf', hg⟩ := t
  exact ⟨_, buf', _, hg, ⟨c', cliRepr_mk hout c'⟩, rfl⟩

theorem process_packet_no_panic {ε : Type} (a : AEAD) (hl : a.Laws) {g : SNetcodeClient} (hw : WfC g) {gbuf : List Nat}
    (hb : BytesOk gbuf) (hbl : gbuf.length + 16 < 2 ^ 64) :
    NoPanic (@NetcodeClient.process_packet (aeadOf a) ε g gbuf) := by
  obtain ⟨g', buf', r, h, _⟩ := process_packet_total (ε := ε) a hl hw hb hbl
  exact noPanic_of_eq_ok h

/-- **C07 `client_decode_error_noop`, on the generated `process_packet`.**  State: `WfC g`.  If the generated
    `Packet::decode` (under the server-to-client key and the client's window) returns `Err(ge)` handing back the window
    `st.2`, then nothing surfaces and
      * either the window came back untouched and the client is UNCHANGED (`g' = g`),
      * or — only for `ge = IoError` (an authentic keep-alive with a short body, see C07) — exactly the window is replaced
        by the one `decode` handed back. -/
theorem decode_error_noop {ε : Type} (a : AEAD) (hl : a.Laws) {g : SNetcodeClient} (hw : WfC g) {gbuf : List Nat}
    (hb : BytesOk gbuf) (hbl : gbuf.length + 16 < 2 ^ 64) {ge : SNErr} {st : List Nat × Option SRP}
    (hdec : decodeC a g gbuf = .err (ge, st)) :
    ∃ g' buf', @NetcodeClient.process_packet (aeadOf a) ε g gbuf = .ok (g', buf', none) ∧
      ((st.2 = some g.replay_protection ∧ g' = g) ∨
       (ge = .IoError .opaque ∧ ∃ w, st.2 = some w ∧ g' = { g with replay_protection := w })) := by
  obtain ⟨c, out, hout, rfl⟩ := wfC_cases hw
  obtain ⟨buf, rfl⟩ := (bytesOk_iff gbuf).1 hb
  rw [toNats_length] at hbl
  obtain ⟨e, rp', hD, rfl, hst⟩ := decode_pull_err a hl buf hbl c.connectToken.protocolId
    (some c.connectToken.serverToClientKey) (some c.replayProtection) hdec
  have t := nc_client_process_packet (ε := ε) a hl out c buf hbl
  rw [NetcodeClient.processPacket_decode_err a c buf hD] at t
  obtain ⟨buf', hg⟩ := t
  refine ⟨_, buf', hg, ?_⟩
  rcases C04.decode_error_window hD with rfl | ⟨k, plain, hk, hso, hdup, hlen, he, rfl⟩
  · exact .inl ⟨hst, rfl⟩
  · exact .inr ⟨by rw [he]; rfl, reprRP (c.replayProtection.advance (Packet.wireSeq buf)), hst, rfl⟩

/-! ## C04 — payloads: only authentic ones surface, each at most once -/

/-- **C04 `client_payload_only_if_opened`, on the generated `process_packet`.**  State: `WfC g`.  If the generated
    `process_packet` surfaces a payload `gp` then the client is `Connected`; the generated `Packet::decode` of the datagram
    under the server-to-client key and the client's window returned `Payload(gp)` with the sequence number the datagram
    carries; the generated `already_received` of the old window says `false` for it, that of the new window `true` (the
    EMPTY marker `2^64-1` aside); and the new state is the old one with that window and receive timer := now. -/
theorem payload_only_if_opened {ε : Type} (a : AEAD) (hl : a.Laws) {g : SNetcodeClient} (hw : WfC g) {gbuf : List Nat}
    (hb : BytesOk gbuf) (hbl : gbuf.length + 16 < 2 ^ 64) {g' : SNetcodeClient} {buf' gp : List Nat}
    (h : @NetcodeClient.process_packet (aeadOf a) ε g gbuf = .ok (g', buf', some gp)) :
    g.state = .Connected ∧
      ∃ dbuf w' sq, decodeC a g gbuf = .ok (dbuf, some w', (sq, .Payload gp)) ∧ sq = gWireSeq gbuf ∧
        (Src.renetcode.replay_protection.ReplayProtection.already_received g.replay_protection sq : Res ε Bool) = .ok false ∧
        (sq ≠ 2 ^ 64 - 1 →
          (Src.renetcode.replay_protection.ReplayProtection.already_received w' sq : Res ε Bool) = .ok true) ∧
        g' = { g with replay_protection := w', last_packet_received_time := g.current_time } := by
  obtain ⟨c, out, hout, rfl⟩ := wfC_cases hw
  have hr : CliRepr (reprNC out c) c := cliRepr_mk hout c
  obtain ⟨buf, rfl⟩ := (bytesOk_iff gbuf).1 hb
  simp only [toNats_length] at hbl
  obtain ⟨⟨r, c'⟩, hm, hr', ho, hres⟩ := (cli_process_packet_tie (ε := ε) a hl hr buf hbl).pull_ok h
  cases r with
  | none => cases hres
  | some p =>
    cases hres
    obtain ⟨hst, sq, rp', hdec, hc'⟩ := NetcodeClient.processPacket_payload_inv a hm
    obtain ⟨k, hk, hsq, hso, hfresh, hrp⟩ := C04.payload_surfaced_only_if_opened hdec
    have hlt : sq < 2 ^ 64 := by rw [hsq]; exact Packet.wireSeq_lt hso.seq_len
    subst hrp
    obtain ⟨dbuf, hgd⟩ := decode_push_ok a hl buf hbl c.connectToken.protocolId
      (some c.connectToken.serverToClientKey) (some c.replayProtection) hdec
    refine ⟨by show reprCSt c.state = _; rw [hst]; rfl, dbuf, reprRP (c.replayProtection.advance sq), sq, hgd,
      by rw [gWireSeq_toNats, hsq], ?_, ?_, ?_⟩
    · show (Src.renetcode.replay_protection.ReplayProtection.already_received (reprRP c.replayProtection) sq : Res ε Bool) = _
      rw [already_received_eq _ _ hlt, hfresh _ rfl]
    · intro hne
      rw [already_received_eq _ _ hlt, RP.alreadyReceived_advance_self _ hne]
    · have := hr'.2
      rw [ho, hc'] at this
      exact this

/-- **C04 `client_replay_rejected`**: once the generated `already_received` of the client's window reports the sequence number
    the datagram carries as received, no datagram carrying it surfaces a payload. -/
theorem replay_rejected {ε : Type} (a : AEAD) (hl : a.Laws) {g : SNetcodeClient} (hw : WfC g) {gbuf : List Nat}
    (hb : BytesOk gbuf) (hbl : gbuf.length + 16 < 2 ^ 64)
    (hdup : (Src.renetcode.replay_protection.ReplayProtection.already_received g.replay_protection (gWireSeq gbuf)
      : Res ε Bool) = .ok true) (g' : SNetcodeClient) (buf' gp : List Nat) :
    @NetcodeClient.process_packet (aeadOf a) ε g gbuf ≠ .ok (g', buf', some gp) := by
  intro h
  obtain ⟨_, dbuf, w', sq, _, hsq, hfresh, _⟩ := payload_only_if_opened (ε := ε) a hl hw hb hbl h
  subst hsq
  rw [hdup] at hfresh
  cases hfresh

/-- **C04 `client_genuine_accepted`**: a `Connected` client surfaces a genuine payload packet — what the generated
    `Packet::encode` makes of `Payload(gp)` under the token's protocol id, a `u64` sequence number `sq` and the
    server-to-client key — whenever the generated `already_received(window, sq)` says `false`; the window is then advanced by
    the generated `advance_sequence(sq)` and the receive timer := now. -/
theorem genuine_accepted {ε : Type} (a : AEAD) (hl : a.Laws) {g : SNetcodeClient} (hw : WfC g)
    (hst : g.state = .Connected) {gp : List Nat} (hgp : BytesOk gp) {sq : Nat} (hsq : sq < 2 ^ 64) {o : List Nat}
    (henc : CEncodes a g (.Payload gp) sq g.connect_token.server_to_client_key o)
    (hfresh : (Src.renetcode.replay_protection.ReplayProtection.already_received g.replay_protection sq : Res ε Bool)
      = .ok false) :
    ∃ g' buf' w', (Src.renetcode.replay_protection.ReplayProtection.advance_sequence g.replay_protection sq : Res ε _)
        = .ok (w', ()) ∧
      @NetcodeClient.process_packet (aeadOf a) ε g o = .ok (g', buf', some gp) ∧
      g' = { g with replay_protection := w', last_packet_received_time := g.current_time } := by
  obtain ⟨c, out, hout, rfl⟩ := wfC_cases hw
  have hr : CliRepr (reprNC out c) c := cliRepr_mk hout c
  obtain ⟨p, rfl⟩ := (bytesOk_iff gp).1 hgp
  have hst' : c.state = .connected := reprCSt_inj (x := c.state) (y := .connected) hst
  obtain ⟨d, hme, rfl⟩ := cencodes_pull a hl hr (p := .payload p) (key := c.connectToken.serverToClientKey) henc
  obtain ⟨hd, hlen⟩ := payload_encoded a hl hme
  have hfresh' : c.replayProtection.alreadyReceived sq = false :=
    Res.ok.inj ((already_received_eq (ε := ε) c.replayProtection sq hsq).symm.trans hfresh)
  have t := nc_client_process_packet (ε := ε) a hl out c d hlen
  rw [hd, C04.client_genuine_accepted a hl c hst' p hsq hfresh', ← hd] at t
  obtain ⟨buf', hg⟩ := t
  exact ⟨_, buf', reprRP (c.replayProtection.advance sq), advance_sequence_eq _ _ hsq, hg, rfl⟩

/-! ## C18 (client half) — time-out, fail-over -/

/-- INTRINSIC: the client's server has been silent for more than the token's timeout at time `now` -/
def GCTimedOut (g : SNetcodeClient) (now : Nat) : Prop :=
  g.connect_token.timeout_seconds > 0 ∧
    g.last_packet_received_time + RustSem.Duration.from_secs g.connect_token.timeout_seconds.toNat < now

/-- INTRINSIC: none of the three `Duration` operations of `update(d)` overflows / underflows -/
def GClockOK (g : SNetcodeClient) (d : Nat) : Prop :=
  g.current_time + d ≤ RustSem.Duration.MAX ∧ g.connect_start_time ≤ g.current_time + d ∧
  g.last_packet_received_time + RustSem.Duration.from_secs g.connect_token.timeout_seconds.toNat ≤ RustSem.Duration.MAX

/-- INTRINSIC side conditions of the tie of `update_internal_state`: the token's timeout is an `i32`, the address index a
    `usize` with room for `+ 1` -/
def GTieOK (g : SNetcodeClient) : Prop := g.connect_token.timeout_seconds < 2 ^ 31 ∧ g.server_addr_index + 1 < 2 ^ 64

instance (g : SNetcodeClient) (now : Nat) : Decidable (GCTimedOut g now) := by unfold GCTimedOut; infer_instance
instance (g : SNetcodeClient) (d : Nat) : Decidable (GClockOK g d) := by unfold GClockOK; infer_instance
instance (g : SNetcodeClient) : Decidable (GTieOK g) := by unfold GTieOK; infer_instance

theorem clockOK_repr {out : List Nat} {c : Netcode.NetcodeClient} {d : Nat} (h : GClockOK (reprNC out c) d) : NS.ClockOK c d :=
  ⟨h.1, h.2.1, h.2.2⟩

/-- **C18 `client_timeout`, on the generated `update`.**  State: `WfC g`, `g.state = Connected`, `GTieOK g`, `GClockOK g d`.
    A connected client that received nothing decodable for more than the token's timeout (`GCTimedOut`, intrinsic)
    disconnects at the next generated `update(d)` with reason `ConnectionTimedOut` and sends nothing; only the clock and the
    state change (and the scratch buffer is some buffer). -/
theorem client_timeout {ε : Type} (a : AEAD) (hl : a.Laws) {g : SNetcodeClient} (hw : WfC g) (hst : g.state = .Connected)
    (htie : GTieOK g) {d : Nat} (hok : GClockOK g d) (hto : GCTimedOut g (g.current_time + d)) :
    ∃ g', @NetcodeClient.update (aeadOf a) ε g d = .ok (g', none) ∧
      g' = { g with out := g'.out, current_time := g.current_time + d, state := .Disconnected .ConnectionTimedOut } := by
  obtain ⟨c, out, hout, rfl⟩ := wfC_cases hw
  have hst' : c.state = .connected := reprCSt_inj (x := c.state) (y := .connected) hst
  have t := nc_client_update (ε := ε) a hl out hout c htie.1 htie.2 d
  rw [C18.client_timeout a hst' (clockOK_repr hok) hto] at t
  obtain ⟨out', -, hg⟩ := t
  exact ⟨_, hg, rfl⟩

/-- **C18 `client_keeps`, on the generated `update_internal_state`**: a connected client that is not timed out stays
    connected — only the clock moves. -/
theorem client_keeps {g : SNetcodeClient} (hw : WfC g) (hst : g.state = .Connected) (htie : GTieOK g) {d : Nat}
    (hok : GClockOK g d) (hto : ¬ GCTimedOut g (g.current_time + d)) :
    NetcodeClient.update_internal_state g d = .ok ({ g with current_time := g.current_time + d }, ()) := by
  obtain ⟨c, out, hout, rfl⟩ := wfC_cases hw
  have hst' : c.state = .connected := reprCSt_inj (x := c.state) (y := .connected) hst
  have t := nc_client_update_internal_state out c htie.1 htie.2 d
  rw [C18.client_keeps hst' (clockOK_repr hok) hto] at t
  exact t

def GConnecting (g : SNetcodeClient) : Prop :=
  g.state = .SendingConnectionRequest ∨ g.state = .SendingConnectionResponse

/-- seconds the connect token allows for the handshake (`expire_timestamp.saturating_sub(create_timestamp)`) -/
def gTokenWindow (g : SNetcodeClient) : Nat := g.connect_token.expire_timestamp - g.connect_token.create_timestamp

theorem connecting_repr {out : List Nat} {c : Netcode.NetcodeClient} (h : GConnecting (reprNC out c)) : NS.Connecting c := by
  rcases h with h | h
  · exact .inl (reprCSt_inj (x := c.state) (y := .sendingConnectionRequest) h)
  · exact .inr (reprCSt_inj (x := c.state) (y := .sendingConnectionResponse) h)

/-- **C18 `failover`, on the generated `update_internal_state`.**  State: `WfC g`, connecting (request or response phase),
    `GTieOK g`, `GClockOK g d`, token time left, the current server silent for the timeout, and the token lists a next
    address `gnext` at index `server_addr_index + 1 < 32`.  Then the generated `update_internal_state(d)` returns `Ok` and
    the client starts over at the next address: state `SendingConnectionRequest`, `server_addr = gnext`, index + 1, fresh
    connect-start / receive timers, send timer cleared, same token, same sequence number. -/
theorem failover {g : SNetcodeClient} (hw : WfC g) (hst : GConnecting g) (htie : GTieOK g) {d : Nat} (hok : GClockOK g d)
    (hwin : RustSem.Duration.as_secs (g.current_time + d - g.connect_start_time) < gTokenWindow g)
    (hto : GCTimedOut g (g.current_time + d)) {gnext : RustSem.SocketAddr}
    (hnext : g.connect_token.server_addresses[g.server_addr_index + 1]? = some (some gnext))
    (hidx : g.server_addr_index + 1 < 32) :
    ∃ g', NetcodeClient.update_internal_state g d = .ok (g', ()) ∧ g'.state = .SendingConnectionRequest ∧
      g'.server_addr = gnext ∧ g'.server_addr_index = g.server_addr_index + 1 ∧
      g'.connect_start_time = g.current_time + d ∧ g'.last_packet_received_time = g.current_time + d ∧
      g'.last_packet_send_time = none ∧ g'.current_time = g.current_time + d ∧ g'.connect_token = g.connect_token ∧
      g'.sequence = g.sequence ∧ g'.out = g.out := by
  obtain ⟨c, out, hout, rfl⟩ := wfC_cases hw
  have hnext' : (reprAddrs c.connectToken.serverAddresses)[c.serverAddrIndex + 1]? = some (some gnext) := hnext
  rw [reprAddrs, List.getElem?_map] at hnext'
  simp only [Option.map_eq_some_iff] at hnext'
  obtain ⟨_, hn, next, rfl, rfl⟩ := hnext'
  obtain ⟨c', hm, h1, h2, h3, h4, h5, h6, h7, h8, h9⟩ :=
    C18.failover (connecting_repr hst) (clockOK_repr hok) hwin hto hn hidx
  have t := nc_client_update_internal_state out c htie.1 htie.2 d
  rw [hm] at t
  have hr' : CliRepr (reprNC out c') c' := cliRepr_mk hout c'
  refine ⟨_, t, ?_, ?_, ?_, ?_, ?_, ?_, ?_, ?_, ?_, rfl⟩
  · rw [hr'.state, h1]; rfl
  · rw [hr'.server_addr, h2]
  · rw [hr'.addr_index, h3]; rfl
  · rw [hr'.start_time, h4]; rfl
  · rw [hr'.recv_time, h5]; rfl
  · exact h6
  · rw [hr'.current_time, h7]; rfl
  · rw [hr'.token, h8]; rfl
  · rw [hr'.sequence, h9]; rfl

/-- **C18 `client_token_expired`, on the generated `update_internal_state`**: the token's lifetime is over before the
    handshake completed: `Err(Expired)` carrying the state `Disconnected(ConnectTokenExpired)`. -/
theorem client_token_expired {g : SNetcodeClient} (hw : WfC g) (hst : GConnecting g) (htie : GTieOK g) {d : Nat}
    (hok : GClockOK g d)
    (hwin : gTokenWindow g ≤ RustSem.Duration.as_secs (g.current_time + d - g.connect_start_time)) :
    NetcodeClient.update_internal_state g d =
      .err (.Expired, { g with current_time := g.current_time + d, state := .Disconnected .ConnectTokenExpired }) := by
  obtain ⟨c, out, hout, rfl⟩ := wfC_cases hw
  have t := nc_client_update_internal_state out c htie.1 htie.2 d
  rw [C18.client_token_expired (connecting_repr hst) (clockOK_repr hok) hwin] at t
  exact t

/-- **C18 `client_connect_timeout`, on the generated `update_internal_state`**: a connecting client whose server stayed
    silent for the timeout, with token time left and NO further server address (index + 1 = 32, or the next token slot is
    empty), gives up: `Err(NoMoreServers)` carrying the state `Disconnected(ConnectionRequestTimedOut)` resp.
    `Disconnected(ConnectionResponseTimedOut)`. -/
theorem client_connect_timeout {g : SNetcodeClient} (hw : WfC g) (hst : GConnecting g) (htie : GTieOK g) {d : Nat}
    (hok : GClockOK g d)
    (hwin : RustSem.Duration.as_secs (g.current_time + d - g.connect_start_time) < gTokenWindow g)
    (hto : GCTimedOut g (g.current_time + d))
    (hlast : 32 ≤ g.server_addr_index + 1 ∨ g.connect_token.server_addresses[g.server_addr_index + 1]? = some none) :
    ∃ g', NetcodeClient.update_internal_state g d = .err (.NoMoreServers, g') ∧
      g'.state = .Disconnected (if g.state = .SendingConnectionResponse then .ConnectionResponseTimedOut
                                else .ConnectionRequestTimedOut) := by
  obtain ⟨c, out, hout, rfl⟩ := wfC_cases hw
  have hlast' : C.NETCODE_TOKEN_MAX_ADDRESSES ≤ c.serverAddrIndex + 1 ∨
      c.connectToken.serverAddresses[c.serverAddrIndex + 1]? = some none := by
    refine hlast.imp_right fun h => ?_
    have h1 : (reprAddrs c.connectToken.serverAddresses)[c.serverAddrIndex + 1]? = some none := h
    rw [reprAddrs, List.getElem?_map] at h1
    simp only [Option.map_eq_some_iff, Option.map_eq_none_iff] at h1
    obtain ⟨_, hx, rfl⟩ := h1
    exact hx
  obtain ⟨c', hm, hst'⟩ := C18.client_connect_timeout (connecting_repr hst) (clockOK_repr hok) hwin hto hlast'
  have t := nc_client_update_internal_state out c htie.1 htie.2 d
  rw [hm] at t
  refine ⟨_, t, ?_⟩
  rw [(cliRepr_mk hout c').state, hst']
  have hs : ((reprNC out c).state = .SendingConnectionResponse) = (c.state = .sendingConnectionResponse) :=
    reprCSt_eq_iff c.state .sendingConnectionResponse
  by_cases hc : c.state = .sendingConnectionResponse
  · rw [if_pos hc, if_pos (hs.mpr hc)]; rfl
  · rw [if_neg hc, if_neg (fun h => hc (hs.mp h))]; rfl

/-! ## C17 (client half) — the nonce discipline of one call -/

/-- **C17 (client), `generate_payload_packet`.**  State: `WfC g`.  When the generated `generate_payload_packet(p)` returns
    `Ok((addr, o))` the client is `Connected`, `addr` is its server address, `o` is the generated encoding of `Payload(p)` under
    `(g.sequence, client_to_server_key)` — the sequence number is the nonce —, and afterwards the client is the same with
    `sequence + 1` and send timer := now.  So consecutive datagrams of a client carry strictly increasing sequence numbers
    under the one client-to-server key of its token. -/
theorem generate_payload_spec (a : AEAD) (hl : a.Laws) {g : SNetcodeClient} (hw : WfC g) {gp : List Nat} (hb : BytesOk gp)
    {g' : SNetcodeClient} {gad : RustSem.SocketAddr} {o : List Nat}
    (h : @NetcodeClient.generate_payload_packet (aeadOf a) g gp = .ok (g', (gad, o))) :
    g.state = .Connected ∧ gad = g.server_addr ∧
      CEncodes a g (.Payload gp) g.sequence g.connect_token.client_to_server_key o ∧
      g' = { g with out := g'.out, sequence := g.sequence + 1, last_packet_send_time := some g.current_time } := by
  obtain ⟨c, out, hout, rfl⟩ := wfC_cases hw
  have hr : CliRepr (reprNC out c) c := cliRepr_mk hout c
  obtain ⟨payload, rfl⟩ := (bytesOk_iff gp).1 hb
  obtain ⟨⟨⟨addr, d⟩, c'⟩, hm, hr', e⟩ := (cli_generate_payload_tie a hl hr payload).pull_ok h
  cases e
  obtain ⟨hst, rfl, rfl, -, henc⟩ := NcAead.Cl.payload_spec hm
  exact ⟨by show reprCSt c.state = _; rw [hst]; rfl, rfl, cencodes_push a hl hr henc, hr'.2⟩

theorem gen_nonce_repr (a : AEAD) (hl : a.Laws) {out : List Nat} (hout : out.length = C.NETCODE_MAX_PACKET_BYTES)
    {c c1 c' : Netcode.NetcodeClient} {g' : SNetcodeClient} (hr' : CliRepr g' c') (htok : c1.connectToken = c.connectToken)
    (hseq : c1.sequence = c.sequence) {r : Option (Bytes × Addr)} (hgen : c1.generatePacket a = .ok (r, c')) :
    g'.connect_token = (reprNC out c).connect_token ∧
      (r.map (fun x => (toNats x.1, reprAddr x.2)) = none → g'.sequence = (reprNC out c).sequence) ∧
      ∀ o gad, r.map (fun x => (toNats x.1, reprAddr x.2)) = some (o, gad) →
        g'.sequence = (reprNC out c).sequence + 1 ∧ (reprNC out c).sequence + 1 < 2 ^ 64 ∧
        ∃ pkt, CEncodes a (reprNC out c) pkt (reprNC out c).sequence
          (reprNC out c).connect_token.client_to_server_key o := by
  obtain ⟨h1, -, -, h4, h5⟩ := NcAead.Cl.gen_spec hgen
  refine ⟨by rw [hr'.token, h1, htok]; rfl, ?_, ?_⟩
  · intro hn
    have : r = none := by cases r <;> first | rfl | cases hn
    rw [hr'.sequence, h4 this, hseq]; rfl
  · intro o gad ho
    cases r with
    | none => cases ho
    | some x =>
      obtain ⟨d, ad⟩ := x
      simp only [Option.map_some, Option.some.injEq, Prod.mk.injEq] at ho
      obtain ⟨rfl, rfl⟩ := ho
      obtain ⟨h6, h7, p, _, h8⟩ := h5 d ad rfl
      have e1 : NcAead.Cl.proto c1 = c.connectToken.protocolId := by show c1.connectToken.protocolId = _; rw [htok]
      have e2 : NcAead.Cl.key c1 = c.connectToken.clientToServerKey := by
        show c1.connectToken.clientToServerKey = _; rw [htok]
      rw [hseq] at h6 h7 h8
      rw [e1, e2] at h8
      exact ⟨by rw [hr'.sequence, h6]; rfl, h7, reprNP p, cencodes_push a hl (cliRepr_mk hout c) h8⟩

/-- **C17 (client), `generate_packet`** (the periodic sender: connection request / response / keep-alive).  State: `WfC g`.
    When the generated `generate_packet` returns a datagram `o`, it is the generated encoding of some packet under
    `(g.sequence, client_to_server_key)` and afterwards `sequence = g.sequence + 1`; when it returns nothing the sequence
    number is unchanged.  Token (hence key and protocol id) and state are unchanged in both cases. -/
theorem generate_packet_spec {ε : Type} (a : AEAD) (hl : a.Laws) {g : SNetcodeClient} (hw : WfC g) {g' : SNetcodeClient}
    {r : Option (List Nat × RustSem.SocketAddr)}
    (h : @NetcodeClient.generate_packet (aeadOf a) ε g = .ok (g', r)) :
    g'.connect_token = g.connect_token ∧ g'.state = g.state ∧ (r = none → g'.sequence = g.sequence) ∧
      ∀ o gad, r = some (o, gad) → g'.sequence = g.sequence + 1 ∧ g.sequence + 1 < 2 ^ 64 ∧
        ∃ pkt, CEncodes a g pkt g.sequence g.connect_token.client_to_server_key o := by
  obtain ⟨c, out, hout, rfl⟩ := wfC_cases hw
  have hr : CliRepr (reprNC out c) c := cliRepr_mk hout c
  obtain ⟨⟨r2, c'⟩, hm, hr', rfl⟩ := (cli_generate_packet_tie (ε := ε) a hl hr).pull_ok h
  obtain ⟨k1, k2, k3⟩ := gen_nonce_repr a hl hout hr' rfl rfl hm
  exact ⟨k1, by rw [hr'.state, (NcAead.Cl.gen_spec hm).2.1]; rfl, k2, k3⟩

/-- **C17 (client), `update`**: the same for the public `update(d)` (clock / time-out / fail-over step, then
    `generate_packet`): an emitted datagram is sealed under `(g.sequence, client_to_server_key)` and `sequence` becomes
    `g.sequence + 1`; no datagram, no change of `sequence`; the token never changes. -/
theorem update_nonce_step {ε : Type} (a : AEAD) (hl : a.Laws) {g : SNetcodeClient} (hw : WfC g) (htie : GTieOK g) {d : Nat}
    {g' : SNetcodeClient} {r : Option (List Nat × RustSem.SocketAddr)}
    (h : @NetcodeClient.update (aeadOf a) ε g d = .ok (g', r)) :
    g'.connect_token = g.connect_token ∧ (r = none → g'.sequence = g.sequence) ∧
      ∀ o gad, r = some (o, gad) → g'.sequence = g.sequence + 1 ∧ g.sequence + 1 < 2 ^ 64 ∧
        ∃ pkt, CEncodes a g pkt g.sequence g.connect_token.client_to_server_key o := by
  obtain ⟨c, out, hout, rfl⟩ := wfC_cases hw
  have hr : CliRepr (reprNC out c) c := cliRepr_mk hout c
  obtain ⟨⟨r2, c'⟩, hm, hr', rfl⟩ := (cli_update_tie (ε := ε) a hl hr htie.1 htie.2 d).pull_ok h
  obtain ⟨e, c1, hu, hcase⟩ := NcAead.Cl.update_eq hm
  obtain ⟨u1, u2, _, _⟩ := NcAead.Cl.uis_spec hu
  rcases hcase with ⟨_, rfl, rfl⟩ | ⟨_, hgen⟩
  · refine ⟨by rw [hr'.token, u1]; rfl, fun _ => by rw [hr'.sequence, u2]; rfl, fun o gad ho => by cases ho⟩
  · exact gen_nonce_repr a hl hout hr' u1 u2 hgen

/-! ## concrete instances: the hypotheses are satisfiable (example clients of `Lemmas/NcExamples.lean`, through the
    representation map, zeroed scratch buffer); evaluations run on the generated text -/
set_option maxRecDepth 100000
section examples
open NS.Ex

/-! the clients of `Lemmas/NcExamples.lean` (AEAD `Ex.a`): `cA4` = A connected (sequence 2, last packet at 0.25 s, window has
    seen 0), `cA0` = A before its first request, `cF` = a requesting client whose token lists two servers -/
def gA4 : SNetcodeClient := reprNC out0 cA4
def gA0 : SNetcodeClient := reprNC out0 cA0
def gF : SNetcodeClient := reprNC out0 cF
theorem gA4_wf : WfC gA4 := ⟨cA4, cliRepr_mk out0_len _⟩
theorem gA0_wf : WfC gA0 := ⟨cA0, cliRepr_mk out0_len _⟩
theorem gF_wf : WfC gF := ⟨cF, cliRepr_mk out0_len _⟩

/-- C07: a forged keep-alive: never a panic; the generated `decode` says `CryptoError`, the client is unchanged -/
example : NoPanic (@NetcodeClient.process_packet (aeadOf a) Empty gA4 (toNats forgedKa)) :=
  process_packet_no_panic a laws_a gA4_wf (bytesOk_toNats _) (by rw [toNats_length]; decide)
example : ∃ g' buf', @NetcodeClient.process_packet (aeadOf a) Empty gA4 (toNats forgedKa) = .ok (g', buf', none) ∧ g' = gA4 := by
  obtain ⟨g', buf', h, hcase⟩ := decode_error_noop (ε := Empty) a laws_a gA4_wf (bytesOk_toNats forgedKa)
    (by rw [toNats_length]; decide) (ge := .CryptoError) (st := (toNats forgedKa, some (reprRP (RP.new.advance 0))))
    (by decide +kernel)
  rcases hcase with ⟨_, h2⟩ | ⟨h2, _⟩
  · exact ⟨g', buf', h, h2⟩
  · cases h2

/-- C04: a genuine payload `[7, 7]` from the server, sequence 1, under the server-to-client key -/
def payS : List Nat := [21, 1, 7, 7] ++ List.replicate 16 0
theorem payS_enc : CEncodes a gA4 (.Payload [7, 7]) 1 gA4.connect_token.server_to_client_key payS :=
  ⟨payS ++ List.replicate (1400 - 20) 0, by decide +kernel⟩
theorem gA4_accepts : ∃ g' buf' w', (Src.renetcode.replay_protection.ReplayProtection.advance_sequence gA4.replay_protection 1
      : Res Empty _) = .ok (w', ()) ∧
    @NetcodeClient.process_packet (aeadOf a) Empty gA4 payS = .ok (g', buf', some [7, 7]) ∧
    g' = { gA4 with replay_protection := w', last_packet_received_time := gA4.current_time } :=
  genuine_accepted (ε := Empty) a laws_a gA4_wf rfl (gp := [7, 7]) (by decide) (sq := 1) (by decide) payS_enc
    (by decide +kernel)
/-- … `payload_only_if_opened` applies to that call, and afterwards the same datagram is a replay -/
example : ∃ dbuf w' sq, decodeC a gA4 payS = .ok (dbuf, some w', (sq, .Payload [7, 7])) ∧ sq = gWireSeq payS := by
  obtain ⟨g', buf', w', _, h, _⟩ := gA4_accepts
  obtain ⟨_, dbuf, w2, sq, h1, h2, _⟩ := payload_only_if_opened (ε := Empty) a laws_a gA4_wf (by decide) (by decide) h
  exact ⟨dbuf, w2, sq, h1, h2⟩
example : gWireSeq payS = 1 := by decide
example : (match @NetcodeClient.process_packet (aeadOf a) Empty gA4 payS with
    | .ok (g', _, _) => (match @NetcodeClient.process_packet (aeadOf a) Empty g' payS with
        | .ok (_, _, r) => some r | _ => none)
    | _ => none) = some none := by decide +kernel

/-- C18: A's server silent since 0.25 s, timeout 5 s: timed out 5 s + 1 ns later, kept at exactly 5 s -/
example : ∃ g', @NetcodeClient.update (aeadOf a) Empty gA4 5000000001 = .ok (g', none) ∧
    g' = { gA4 with out := g'.out, current_time := gA4.current_time + 5000000001, state := .Disconnected .ConnectionTimedOut } :=
  client_timeout (ε := Empty) a laws_a gA4_wf rfl (by decide) (by decide) (by decide)
example : NetcodeClient.update_internal_state gA4 5000000000 = .ok ({ gA4 with current_time := gA4.current_time + 5000000000 }, ()) :=
  client_keeps gA4_wf rfl (by decide) (by decide) (by decide)
/-- fail-over to the second listed server -/
example : ∃ g', NetcodeClient.update_internal_state gF 5000000001 = .ok (g', ()) ∧ g'.state = .SendingConnectionRequest ∧
    g'.server_addr = reprAddr srv2 ∧ g'.server_addr_index = 1 := by
  obtain ⟨g', h, h1, h2, h3, _⟩ := failover gF_wf (.inl rfl) (by decide) (d := 5000000001) (by decide) (by decide) (by decide)
    (gnext := reprAddr srv2) (by decide +kernel) (by decide)
  exact ⟨g', h, h1, h2, h3⟩
/-- the token's 30 s are over -/
example : NetcodeClient.update_internal_state gA0 30000000000 =
    .err (.Expired, { gA0 with current_time := gA0.current_time + 30000000000, state := .Disconnected .ConnectTokenExpired }) :=
  client_token_expired gA0_wf (.inl rfl) (by decide) (by decide) (by decide)

/-- C17: the first `update` of A sends the connection request and moves the counter 0 → 1; a payload of the connected A is
    sealed under its counter 2, which becomes 3 -/
example : ∀ g' r, @NetcodeClient.update (aeadOf a) Empty gA0 0 = .ok (g', r) →
    (r = none → g'.sequence = gA0.sequence) ∧ ∀ o gad, r = some (o, gad) → g'.sequence = gA0.sequence + 1 :=
  fun _ _ h =>
    let t := update_nonce_step (ε := Empty) a laws_a gA0_wf (by decide) h
    ⟨t.2.1, fun o gad ho => (t.2.2 o gad ho).1⟩
example : (match @NetcodeClient.update (aeadOf a) Empty gA0 0 with
    | .ok (g', some (o, _)) => some (o == toNats reqA, g'.sequence) | _ => none) = some (true, 1) := by decide +kernel
example : ∀ g' gad o, @NetcodeClient.generate_payload_packet (aeadOf a) gA4 [5] = .ok (g', (gad, o)) →
    CEncodes a gA4 (.Payload [5]) gA4.sequence gA4.connect_token.client_to_server_key o ∧
      g' = { gA4 with out := g'.out, sequence := gA4.sequence + 1, last_packet_send_time := some gA4.current_time } :=
  fun _ _ _ h =>
    let t := generate_payload_spec a laws_a gA4_wf (gp := [5]) (by decide) h
    ⟨t.2.2.1, t.2.2.2⟩
example : (match @NetcodeClient.generate_payload_packet (aeadOf a) gA4 [5] with
    | .ok (g', (_, o)) => some (o, g'.sequence) | _ => none) = some ([21, 2, 5] ++ List.replicate 16 0, 3) := by decide +kernel

end examples

end RenetVerif.SrcPropsNc.Client
