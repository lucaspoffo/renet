/-
  Receive-side channel invariants (properties C06 / C09, receive side).

  * `SliceCtor.Inv` and the step lemma for `SliceCtor.processSlice` (a case analysis of `Reasm.processSlice_eq`),
  * `RecvRel.InvP` / `RecvUnrel.InvP` (invariants parametrised by the per-constructor predicate) and
    their preservation by every receive-side operation, including the state carried by `.err`; what an operation
    does is read off Lemmas/RecvSteps.
-/
import RenetVerif.Renet.Channels
import RenetVerif.Lemmas.SMap
import RenetVerif.Lemmas.ResMonad
import RenetVerif.Lemmas.DecodeWF
import RenetVerif.Lemmas.RecvSteps
import RenetVerif.Lemmas.Reassembly
namespace RenetVerif
open C

open Reasm (pred_mul_add mul_succ_le resize_length count_set_true)

theorem acct_sub {a T S E x B : Nat} (ha : a = T + S) (hx : E + x = S) (hB : a ≤ B) :
    x ≤ a ∧ a - x = T + E ∧ a - x ≤ B := by omega

theorem sub_add_le {a x m B : Nat} (hx : x ≤ a) (hm : m ≤ x) (hB : a ≤ B) : a - x + m ≤ B := by omega

/-- invariant of a slice constructor that is stored in a channel (hence incomplete) -/
def SliceCtor.Inv (c : SliceCtor) : Prop :=
  1 ≤ c.numSlices ∧ c.received.length = c.numSlices ∧ c.numReceived = c.received.count true ∧
  c.numReceived < c.numSlices ∧
  (if c.received[c.numSlices - 1]? = some true
   then (c.numSlices - 1) * SLICE_SIZE ≤ c.data.length ∧ c.data.length ≤ c.numSlices * SLICE_SIZE
   else c.data.length = c.numSlices * SLICE_SIZE)

theorem SliceCtor.new_inv (n : Nat) (h : 1 ≤ n) : (SliceCtor.new n).Inv := by
  refine ⟨h, by simp [SliceCtor.new], by simp [SliceCtor.new, List.count_replicate], by simp [SliceCtor.new]; omega, ?_⟩
  simp [SliceCtor.new, List.getElem?_replicate]

theorem SliceCtor.Inv.data_lower {c : SliceCtor} (h : c.Inv) : (c.numSlices - 1) * SLICE_SIZE ≤ c.data.length := by
  obtain ⟨h1, _, _, _, h5⟩ := h
  have := pred_mul_add c.numSlices SLICE_SIZE h1
  split at h5 <;> omega

theorem SliceCtor.Inv.data_upper {c : SliceCtor} (h : c.Inv) : c.data.length ≤ c.numSlices * SLICE_SIZE := by
  obtain ⟨h1, _, _, _, h5⟩ := h
  split at h5 <;> omega

theorem SliceCtor.store_ok (c : SliceCtor) (h : c.Inv) (idx : Nat) (bytes : Bytes) (hf : Reasm.Fits c idx bytes)
    (hnew : c.received[idx]? = some false) :
    idx * SLICE_SIZE + bytes.length ≤ (Reasm.grown c idx bytes).length ∧
    (Reasm.stepNew c idx bytes).data.length ≤ c.numSlices * SLICE_SIZE ∧
    (c.numReceived + 1 < c.numSlices → (Reasm.stepNew c idx bytes).Inv) := by
  obtain ⟨hidx, hsz⟩ := hf
  have hlo := h.data_lower
  have hup := h.data_upper
  obtain ⟨h1, h2, h3, h4, h5⟩ := h
  have hnS := pred_mul_add c.numSlices SLICE_SIZE h1
  have hcount : c.numReceived + 1 = (c.received.set idx true).count true := by rw [count_set_true hnew, h3]
  have hlen : (c.received.set idx true).length = c.numSlices := by rw [List.length_set, h2]
  unfold Reasm.stepNew Reasm.grown
  by_cases hl : idx = c.numSlices - 1
  · -- final slice: shrink the buffer to the exact message length first
    subst hl
    rw [if_pos rfl] at hsz ⊢
    have hin : (c.numSlices - 1) * SLICE_SIZE + bytes.length ≤
        (resize c.data ((c.numSlices - 1) * SLICE_SIZE + bytes.length)).length := by rw [resize_length]; exact Nat.le_refl _
    have hdl := (Reasm.setR_length _ _ _ hin).trans (resize_length _ _)
    have hdu : (Reasm.setR (resize c.data ((c.numSlices - 1) * SLICE_SIZE + bytes.length))
        ((c.numSlices - 1) * SLICE_SIZE) bytes).length ≤ c.numSlices * SLICE_SIZE := by
      rw [hdl, hnS]; exact Nat.add_le_add_left hsz _
    refine ⟨hin, hdu, fun hlt => ⟨h1, hlen, hcount, hlt, ?_⟩⟩
    show (if (c.received.set (c.numSlices - 1) true)[c.numSlices - 1]? = some true then _ else _)
    rw [if_pos (List.getElem?_set_self (h2 ▸ hidx))]
    exact ⟨by rw [hdl]; exact Nat.le_add_right _ _, hdu⟩
  · -- any other slice: full size, written in place
    rw [if_neg hl] at hsz ⊢
    have hin : idx * SLICE_SIZE + bytes.length ≤ c.data.length := by
      rw [hsz]
      exact Nat.le_trans (mul_succ_le (Nat.lt_of_le_of_ne (Nat.le_sub_one_of_lt hidx) hl)) hlo
    have hdl := Reasm.setR_length _ _ _ hin
    refine ⟨hin, by rw [hdl]; exact hup, fun hlt => ⟨h1, hlen, hcount, hlt, ?_⟩⟩
    show (if (c.received.set idx true)[c.numSlices - 1]? = some true then _ else _)
    rw [List.getElem?_set_ne hl, hdl]
    exact h5

theorem SliceCtor.processSlice_spec (c : SliceCtor) (h : c.Inv) (idx : Nat) (bytes : Bytes) :
    (∃ e, c.processSlice idx bytes = .err e) ∨
    (∃ c', c.processSlice idx bytes = .ok (c', none) ∧ c'.Inv ∧ c'.numSlices = c.numSlices) ∨
    (∃ c' m, c.processSlice idx bytes = .ok (c', some m) ∧ m.length ≤ c.numSlices * SLICE_SIZE ∧
      c'.numSlices = c.numSlices) := by
  rw [Reasm.processSlice_eq]
  by_cases hf : Reasm.Fits c idx bytes
  · rw [if_neg (fun hn => hn hf)]
    obtain ⟨got, hget⟩ : ∃ got, c.received[idx]? = some got := ⟨_, List.getElem?_eq_getElem (h.2.1 ▸ hf.1)⟩
    rw [hget]
    cases got with
    | true => exact Or.inr (Or.inl ⟨c, by simp only [Reasm.finish, if_neg (Nat.ne_of_lt h.2.2.2.1)], h, rfl⟩)
    | false =>
      obtain ⟨hin, hdl, hinv⟩ := SliceCtor.store_ok c h idx bytes hf hget
      simp only [if_pos hin, Reasm.finish]
      by_cases hfull : (Reasm.stepNew c idx bytes).numReceived = (Reasm.stepNew c idx bytes).numSlices
      · exact Or.inr (Or.inr ⟨{ Reasm.stepNew c idx bytes with data := [] }, _, by rw [if_pos hfull], hdl, rfl⟩)
      · exact Or.inr (Or.inl ⟨Reasm.stepNew c idx bytes, by rw [if_neg hfull], hinv (Nat.lt_of_le_of_ne h.2.2.2.1 hfull), rfl⟩)
  · exact Or.inl ⟨_, if_pos hf⟩

theorem SliceCtor.processSlice_zero (c : SliceCtor) (h : c.numSlices = 0) (idx : Nat) (bytes : Bytes) :
    c.processSlice idx bytes = .err .invalidSlice := by
  rw [Reasm.processSlice_eq, if_pos (fun hf => by have := hf.1; omega)]

namespace CI

theorem ctor_err_invalid {c : SliceCtor} {idx : Nat} {bytes : Bytes} {e : ChanErr}
    (h : c.processSlice idx bytes = .err e) : e = .invalidSlice := by
  rw [Reasm.processSlice_eq] at h
  split at h
  · cases h; rfl
  · split at h
    · cases h
    · cases h
    · split at h <;> cases h

end CI

/-- the all-inputs variant: either the strict invariant, or a dead constructor with zero slices
    (only reachable from a `Slice` value with `numSlices = 0`, which the packet decoder rejects) -/
def SliceCtor.WInv (c : SliceCtor) : Prop := c.numSlices = 0 ∨ c.Inv

theorem SliceCtor.new_winv (n : Nat) : (SliceCtor.new n).WInv := by
  by_cases h : n = 0
  · left; subst h; rfl
  · right; exact SliceCtor.new_inv n (by omega)

/-- bytes reserved in the channel's memory account for a constructor -/
def SliceCtor.reserved (c : SliceCtor) : Nat := c.numSlices * SLICE_SIZE

/-- what the channel proofs need from a per-constructor predicate -/
structure CtorPred (P : SliceCtor → Prop) : Prop where
  step : ∀ c, P c → ∀ (idx : Nat) (bytes : Bytes),
    (∃ e, c.processSlice idx bytes = .err e) ∨
    (∃ c', c.processSlice idx bytes = .ok (c', none) ∧ P c' ∧ c'.numSlices = c.numSlices) ∨
    (∃ c' m, c.processSlice idx bytes = .ok (c', some m) ∧ m.length ≤ c.numSlices * SLICE_SIZE ∧
      c'.numSlices = c.numSlices)

theorem ctorPred_inv : CtorPred SliceCtor.Inv := ⟨SliceCtor.processSlice_spec⟩

theorem ctorPred_winv : CtorPred SliceCtor.WInv := by
  constructor
  intro c hc idx bytes
  rcases hc with h0 | hc
  · left; exact ⟨_, SliceCtor.processSlice_zero c h0 idx bytes⟩
  · rcases SliceCtor.processSlice_spec c hc idx bytes with h | ⟨c', he, h1, h2⟩ | h
    · exact Or.inl h
    · exact Or.inr (Or.inl ⟨c', he, Or.inr h1, h2⟩)
    · exact Or.inr (Or.inr h)

def SlicesOk (P : SliceCtor → Prop) (s : SMap SliceCtor) : Prop :=
  SMap.Sorted s ∧ ∀ k c, (k, c) ∈ s → P c

theorem SlicesOk.nil {P} : SlicesOk P [] := ⟨SMap.sorted_nil, by simp⟩

theorem SlicesOk.insert {P} {s : SMap SliceCtor} (h : SlicesOk P s) (k : Nat) {c : SliceCtor} (hc : P c) :
    SlicesOk P (SMap.insert s k c) := by
  refine ⟨SMap.sorted_insert h.1 k c, ?_⟩
  intro k' c' hm
  rcases SMap.mem_insert hm with h' | h'
  · cases h'; exact hc
  · exact h.2 _ _ h'

theorem SlicesOk.erase {P} {s : SMap SliceCtor} (h : SlicesOk P s) (k : Nat) : SlicesOk P (SMap.erase s k) :=
  ⟨SMap.sorted_erase h.1 k, fun _ _ hm => h.2 _ _ (SMap.mem_erase hm)⟩

theorem SlicesOk.of_find? {P} {s : SMap SliceCtor} (h : SlicesOk P s) {k : Nat} {c : SliceCtor}
    (hf : SMap.find? s k = some c) : P c := h.2 _ _ (SMap.mem_of_find? hf)

theorem SlicesOk.mono {P Q : SliceCtor → Prop} {s : SMap SliceCtor} (h : SlicesOk P s) (hpq : ∀ c, P c → Q c) :
    SlicesOk Q s := ⟨h.1, fun k c hm => hpq _ (h.2 k c hm)⟩

structure RecvRel.InvP (P : SliceCtor → Prop) (r : RecvRel) : Prop where
  /-- exact memory accounting -/
  acct : r.mem = SMap.sumBy List.length r.messages + SMap.sumBy SliceCtor.reserved r.slices
  budget : r.mem ≤ r.maxMem
  slicesOk : SlicesOk P r.slices
  /-- unordered mode: every pending message id is remembered (or already below the cursor) -/
  pending : r.ordered = false → ∀ k, SMap.contains r.messages k = true → k < r.oldest ∨ k ∈ r.received

theorem RecvRel.new_invP {P} (maxMem : Nat) (ordered : Bool) : (RecvRel.new maxMem ordered).InvP P := by
  refine ⟨by simp [RecvRel.new], by simp [RecvRel.new], SlicesOk.nil, ?_⟩
  intro _ k hk; simp [RecvRel.new, SMap.contains] at hk

theorem RecvRel.InvP.absent {P} {r : RecvRel} (h : r.InvP P) {id : Nat} (hn : ¬ Live.Have r id) :
    SMap.find? r.messages id = none :=
  SMap.not_contains_iff.mp fun hc => hn (Live.msgsHave_of_pending h.pending id hc)

theorem RecvRel.InvP.push {P} {r : RecvRel} (h : r.InvP P) (m : Bytes) {id : Nat} (hn : ¬ Live.Have r id)
    (hb : r.mem + m.length ≤ r.maxMem) : (r.push id m).InvP P := by
  refine ⟨?_, hb, h.slicesOk, ?_⟩
  · show r.mem + m.length = SMap.sumBy List.length (SMap.insert r.messages id m) + SMap.sumBy SliceCtor.reserved r.slices
    rw [SMap.sumBy_insert_absent _ _ (h.absent hn)]; have := h.acct; omega
  · intro ho k hk
    have ho' : r.ordered = false := ho
    show k < r.oldest ∨ k ∈ (if r.ordered = true then r.received else id :: r.received)
    rw [if_neg (by simp [ho'])]
    rcases SMap.mem_keys_insert.mp (SMap.contains_iff.mp hk) with rfl | hk
    · exact Or.inr List.mem_cons_self
    · exact (h.pending ho' k (SMap.contains_iff.mpr hk)).imp_right (List.mem_cons_of_mem _)

theorem RecvRel.InvP.dropCtor {P} {r : RecvRel} (h : r.InvP P) {id : Nat} {c : SliceCtor}
    (hf : SMap.find? r.slices id = some c) :
    c.numSlices * SLICE_SIZE ≤ r.mem ∧
    RecvRel.InvP P { r with mem := r.mem - c.reserved, slices := SMap.erase r.slices id } := by
  obtain ⟨a1, a2, a3⟩ := acct_sub h.acct (SMap.sumBy_erase_present SliceCtor.reserved hf) h.budget
  exact ⟨a1, a2, a3, h.slicesOk.erase id, h.pending⟩

theorem RecvRel.InvP.reserve {P} {r : RecvRel} (h : r.InvP P) {id : Nat} {c : SliceCtor}
    (hf : SMap.find? r.slices id = none) (hc : P c) (hb : r.mem + c.reserved ≤ r.maxMem) :
    RecvRel.InvP P { r with mem := r.mem + c.reserved, slices := SMap.insert r.slices id c } := by
  refine ⟨?_, hb, h.slicesOk.insert id hc, h.pending⟩
  show r.mem + c.reserved = SMap.sumBy List.length r.messages + SMap.sumBy SliceCtor.reserved (SMap.insert r.slices id c)
  rw [SMap.sumBy_insert_absent _ _ hf]; have := h.acct; omega

theorem RecvRel.InvP.replaceCtor {P} {r : RecvRel} (h : r.InvP P) {id : Nat} {c c' : SliceCtor}
    (hf : SMap.find? r.slices id = some c) (hc : P c') (hn : c'.numSlices = c.numSlices) :
    RecvRel.InvP P { r with slices := SMap.insert r.slices id c' } := by
  refine ⟨?_, h.budget, h.slicesOk.insert id hc, h.pending⟩
  show r.mem = SMap.sumBy List.length r.messages + SMap.sumBy SliceCtor.reserved (SMap.insert r.slices id c')
  have h1 := SMap.sumBy_insert_present SliceCtor.reserved h.slicesOk.1 c' hf
  have h2 : c'.reserved = c.reserved := by simp [SliceCtor.reserved, hn]
  have := h.acct; omega

theorem RecvRel.processMessage_safeP {P} (r : RecvRel) (h : r.InvP P) (m : Bytes) (id : Nat) :
    (∃ r', r.processMessage m id = .ok r' ∧ r'.InvP P) ∨
    (∃ e r', r.processMessage m id = .err (e, r') ∧ r'.InvP P) := by
  rw [RecvRel.processMessage_eq]
  split
  · exact Or.inl ⟨r, rfl, h⟩
  · rename_i hn
    split
    · exact Or.inr ⟨_, r, rfl, h⟩
    · exact Or.inl ⟨_, rfl, h.push m hn (by omega)⟩

theorem RecvRel.reserveStep_spec {P} (r : RecvRel) (h : r.InvP P) (sl : Slice)
    (hnew : P (SliceCtor.new sl.numSlices)) :
    (SMap.contains r.slices sl.messageId = false ∧ r.mem + sl.numSlices * SLICE_SIZE > r.maxMem ∧
      r.reserveStep sl = .err (.maxMemory, r)) ∨
    (∃ r1, r.reserveStep sl = .ok r1 ∧ r1.InvP P ∧ SMap.contains r1.slices sl.messageId = true) := by
  rcases r.reserveStep_cases sl with ⟨h1, e⟩ | ⟨h1, ⟨h2, e⟩ | ⟨h2, e⟩⟩
  · exact Or.inr ⟨r, e, h, h1⟩
  · exact Or.inl ⟨Bool.eq_false_iff.mpr h1, h2, e⟩
  · exact Or.inr ⟨_, e, h.reserve (c := SliceCtor.new sl.numSlices) (SMap.not_contains_iff.mp h1) hnew
      (by simp only [SliceCtor.reserved, SliceCtor.new]; omega), SMap.contains_insert.mpr (Or.inl rfl)⟩

/-- it never fails for lack of memory: the constructor's reservation already covers the completed message -/
theorem RecvRel.sliceStep_spec {P} (hP : CtorPred P) (r : RecvRel) (h : r.InvP P) (sl : Slice)
    (hc : SMap.contains r.slices sl.messageId = true) :
    (∃ r', r.sliceStep sl = .ok r' ∧ r'.InvP P) ∨
    (∃ e r', r.sliceStep sl = .err (e, r') ∧ r'.InvP P ∧ e = .invalidSlice) := by
  obtain ⟨c, hf⟩ := SMap.contains_iff_find?.mp hc
  unfold RecvRel.sliceStep
  rw [hf]
  simp only []
  by_cases hn : c.numSlices ≠ sl.numSlices
  · right; rw [if_pos hn]; exact ⟨_, r, rfl, h, rfl⟩
  rw [if_neg hn]
  rcases hP.step c (h.slicesOk.of_find? hf) sl.sliceIndex sl.payload with
    ⟨e, he⟩ | ⟨c', he, hc', hn'⟩ | ⟨c', m, he, hml, hn'⟩
  · right; rw [he]; exact ⟨e, r, rfl, h, CI.ctor_err_invalid he⟩
  · left; rw [he]; exact ⟨_, rfl, h.replaceCtor hf hc' hn'⟩
  · left; rw [he]
    simp only []
    obtain ⟨hle, hdrop⟩ := h.dropCtor hf
    rw [Res.csub_ok hle]
    simp only [Res.bind_ok]
    rw [RecvRel.processMessage_eq]
    split
    · refine ⟨_, rfl, ?_⟩
      simp only [SMap.erase_insert h.slicesOk.1]
      exact hdrop
    · rename_i hn
      split
      · rename_i hgt
        exact absurd (sub_add_le hle hml h.budget) (Nat.not_le_of_gt hgt)
      · refine ⟨_, rfl, ?_⟩
        have := hdrop.push m (id := sl.messageId) hn (by dsimp only [SliceCtor.reserved] at *; omega)
        simpa only [RecvRel.push, SMap.erase_insert h.slicesOk.1, SliceCtor.reserved] using this

theorem RecvRel.processSlice_safeP {P} (hP : CtorPred P) (r : RecvRel) (h : r.InvP P) (sl : Slice)
    (hnew : P (SliceCtor.new sl.numSlices)) :
    (∃ r', r.processSlice sl = .ok r' ∧ r'.InvP P) ∨
    (∃ e r', r.processSlice sl = .err (e, r') ∧ r'.InvP P) := by
  rw [RecvRel.processSlice_eq]
  by_cases h1 : SMap.contains r.messages sl.messageId = true ∨ sl.messageId < r.oldest
  · left; rw [if_pos h1]; exact ⟨r, rfl, h⟩
  rw [if_neg h1]
  by_cases h2 : ¬ r.ordered = true ∧ r.received.contains sl.messageId = true
  · left; rw [if_pos h2]; exact ⟨r, rfl, h⟩
  rw [if_neg h2]
  rcases RecvRel.reserveStep_spec r h sl hnew with ⟨-, -, he⟩ | ⟨r1, he, hr1, hc1⟩
  · right; rw [he]; exact ⟨_, r, rfl, h⟩
  · rw [he, Res.bind_ok]
    rcases RecvRel.sliceStep_spec hP r1 hr1 sl hc1 with h' | ⟨e, r', he', hi', -⟩
    · exact Or.inl h'
    · exact Or.inr ⟨e, r', he', hi'⟩

theorem RecvRel.InvP.pop {P} {r : RecvRel} (h : r.InvP P) {id : Nat} {m : Bytes} (hn : r.next = some (id, m)) :
    m.length ≤ r.mem ∧ (r.pop id m).InvP P := by
  have hf := RecvRel.next_find hn
  obtain ⟨a1, a2, a3⟩ := acct_sub (h.acct.trans (Nat.add_comm _ _)) (SMap.sumBy_erase_present _ hf) h.budget
  obtain ⟨-, ho, hrec⟩ := r.pop_keeps id m
  refine ⟨a1, a2.trans (Nat.add_comm _ _), a3, h.slicesOk, fun hord k hk => ?_⟩
  rcases h.pending hord k (SMap.contains_iff.mpr (SMap.mem_keys_erase (SMap.contains_iff.mp hk))) with hp | hp
  · exact Or.inl (Nat.lt_of_lt_of_le hp ho)
  · exact hrec k hp

theorem RecvRel.receive_safeP {P} (r : RecvRel) (h : r.InvP P) :
    ∃ r' m, r.receive = .ok (r', m) ∧ r'.InvP P := by
  cases hn : r.next with
  | none => exact ⟨r, none, RecvRel.receive_ok_iff.mpr (Or.inl ⟨hn, rfl, rfl⟩), h⟩
  | some p =>
    obtain ⟨id, m⟩ := p
    obtain ⟨hle, hi⟩ := h.pop hn
    exact ⟨_, some m, RecvRel.receive_ok_iff.mpr (Or.inr ⟨id, m, hn, hle, rfl, rfl⟩), hi⟩

def sumLen : List Bytes → Nat
  | [] => 0
  | m :: r => m.length + sumLen r

@[simp] theorem sumLen_nil : sumLen [] = 0 := rfl
@[simp] theorem sumLen_cons (m : Bytes) (r : List Bytes) : sumLen (m :: r) = m.length + sumLen r := rfl
theorem sumLen_append (a b : List Bytes) : sumLen (a ++ b) = sumLen a + sumLen b := by
  induction a with
  | nil => simp
  | cons m r ih => simp [ih]; omega

structure RecvUnrel.InvP (P : SliceCtor → Prop) (r : RecvUnrel) : Prop where
  /-- exact memory accounting -/
  acct : r.mem = sumLen r.messages + SMap.sumBy SliceCtor.reserved r.slices
  budget : r.mem ≤ r.maxMem
  slicesOk : SlicesOk P r.slices
  lastSorted : SMap.Sorted r.lastReceived
  /-- every time-stamped id has a constructor -/
  lastSub : ∀ k, SMap.contains r.lastReceived k = true → SMap.contains r.slices k = true

theorem RecvUnrel.new_invP {P} (ch maxMem : Nat) : (RecvUnrel.new ch maxMem).InvP P := by
  refine ⟨by simp [RecvUnrel.new], by simp [RecvUnrel.new], SlicesOk.nil, SMap.sorted_nil, ?_⟩
  intro k hk; simp [RecvUnrel.new, SMap.contains] at hk

theorem RecvUnrel.InvP.pushMessage {P} {r : RecvUnrel} (h : r.InvP P) (m : Bytes) (hb : r.mem + m.length ≤ r.maxMem) :
    RecvUnrel.InvP P { r with mem := r.mem + m.length, messages := r.messages ++ [m] } := by
  refine ⟨?_, hb, h.slicesOk, h.lastSorted, h.lastSub⟩
  show r.mem + m.length = sumLen (r.messages ++ [m]) + SMap.sumBy SliceCtor.reserved r.slices
  rw [sumLen_append]; have := h.acct; simp; omega

theorem RecvUnrel.processMessage_safeP {P} (r : RecvUnrel) (h : r.InvP P) (m : Bytes) :
    (r.processMessage m).InvP P := by
  unfold RecvUnrel.processMessage
  split
  · exact h
  · exact h.pushMessage m (by omega)

theorem RecvUnrel.receive_safeP {P} (r : RecvUnrel) (h : r.InvP P) :
    ∃ r' m, r.receive = .ok (r', m) ∧ r'.InvP P := by
  unfold RecvUnrel.receive
  cases hmsg : r.messages with
  | nil => exact ⟨r, none, rfl, h⟩
  | cons m rest =>
    simp only []
    obtain ⟨a1, a2, a3⟩ := acct_sub (E := sumLen rest) (h.acct.trans (Nat.add_comm _ _))
      (by rw [hmsg]; exact Nat.add_comm _ _) h.budget
    rw [Res.csub_ok a1]
    exact ⟨_, some m, rfl, a2.trans (Nat.add_comm _ _), a3, h.slicesOk, h.lastSorted, h.lastSub⟩

theorem RecvUnrel.InvP.reserve {P} {r : RecvUnrel} (h : r.InvP P) {id : Nat} {c : SliceCtor}
    (hf : SMap.find? r.slices id = none) (hc : P c) (hb : r.mem + c.reserved ≤ r.maxMem) :
    RecvUnrel.InvP P { r with mem := r.mem + c.reserved, slices := SMap.insert r.slices id c } := by
  refine ⟨?_, hb, h.slicesOk.insert id hc, h.lastSorted,
    fun k hk => SMap.contains_insert.mpr (Or.inr (h.lastSub k hk))⟩
  show r.mem + c.reserved = sumLen r.messages + SMap.sumBy SliceCtor.reserved (SMap.insert r.slices id c)
  rw [SMap.sumBy_insert_absent _ _ hf]; have := h.acct; omega

theorem RecvUnrel.InvP.replaceCtor {P} {r : RecvUnrel} (h : r.InvP P) {id : Nat} {c c' : SliceCtor} (now : Nat)
    (hf : SMap.find? r.slices id = some c) (hc : P c') (hn : c'.numSlices = c.numSlices) :
    RecvUnrel.InvP P { r with slices := SMap.insert r.slices id c',
                              lastReceived := SMap.insert r.lastReceived id now } := by
  refine ⟨?_, h.budget, h.slicesOk.insert id hc, SMap.sorted_insert h.lastSorted id now,
    fun k hk => SMap.contains_insert.mpr ((SMap.contains_insert.mp hk).imp_right (h.lastSub k))⟩
  show r.mem = sumLen r.messages + SMap.sumBy SliceCtor.reserved (SMap.insert r.slices id c')
  have h1 := SMap.sumBy_insert_present SliceCtor.reserved h.slicesOk.1 c' hf
  have h2 : c'.reserved = c.reserved := by simp [SliceCtor.reserved, hn]
  have := h.acct; omega

theorem RecvUnrel.InvP.dropCtor {P} {r : RecvUnrel} (h : r.InvP P) {id : Nat} {c : SliceCtor}
    (hf : SMap.find? r.slices id = some c) :
    c.numSlices * SLICE_SIZE ≤ r.mem ∧
    RecvUnrel.InvP P { r with lastReceived := SMap.erase r.lastReceived id, slices := SMap.erase r.slices id,
                              mem := r.mem - c.reserved } := by
  obtain ⟨a1, a2, a3⟩ := acct_sub h.acct (SMap.sumBy_erase_present SliceCtor.reserved hf) h.budget
  refine ⟨a1, a2, a3, h.slicesOk.erase id, SMap.sorted_erase h.lastSorted id, ?_⟩
  · intro k hk
    obtain ⟨hne, hk⟩ := (SMap.contains_erase h.lastSorted.nodup).mp hk
    exact (SMap.contains_erase h.slicesOk.1.nodup).mpr ⟨hne, h.lastSub k hk⟩

theorem RecvUnrel.sliceStep_spec {P} (hP : CtorPred P) (r : RecvUnrel) (h : r.InvP P) (sl : Slice) (now : Nat)
    (hc : SMap.contains r.slices sl.messageId = true) :
    (∃ r', r.sliceStep sl now = .ok r' ∧ r'.InvP P) ∨
    (∃ e r', r.sliceStep sl now = .err (e, r') ∧ r'.InvP P) := by
  obtain ⟨c, hf⟩ := SMap.contains_iff_find?.mp hc
  unfold RecvUnrel.sliceStep
  rw [hf]
  simp only []
  by_cases hn : c.numSlices ≠ sl.numSlices
  · right; rw [if_pos hn]; exact ⟨_, r, rfl, h⟩
  rw [if_neg hn]
  rcases hP.step c (h.slicesOk.of_find? hf) sl.sliceIndex sl.payload with
    ⟨e, he⟩ | ⟨c', he, hc', hn'⟩ | ⟨c', m, he, hml, hn'⟩
  · right; rw [he]; exact ⟨e, r, rfl, h⟩
  · left; rw [he]; exact ⟨_, rfl, h.replaceCtor now hf hc' hn'⟩
  · left; rw [he]
    simp only []
    obtain ⟨hle, hdrop⟩ := h.dropCtor hf
    rw [Res.csub_ok hle]
    exact ⟨_, rfl, hdrop.pushMessage m (sub_add_le hle hml h.budget)⟩

theorem RecvUnrel.processSlice_safeP {P} (hP : CtorPred P) (r : RecvUnrel) (h : r.InvP P) (sl : Slice) (now : Nat)
    (hnew : P (SliceCtor.new sl.numSlices)) :
    (∃ r', r.processSlice sl now = .ok r' ∧ r'.InvP P) ∨
    (∃ e r', r.processSlice sl now = .err (e, r') ∧ r'.InvP P) := by
  rw [RecvUnrel.processSlice_eq]
  by_cases h1 : SMap.contains r.slices sl.messageId = true
  · rw [if_pos h1]; exact RecvUnrel.sliceStep_spec hP r h sl now h1
  rw [if_neg h1]
  by_cases h2 : r.mem + sl.numSlices * SLICE_SIZE > r.maxMem
  · left; rw [if_pos h2]; exact ⟨r, rfl, h⟩
  rw [if_neg h2]
  have hf : SMap.find? r.slices sl.messageId = none := SMap.contains_eq_false_iff.mp (by simpa using h1)
  apply RecvUnrel.sliceStep_spec hP _ _ sl now
  · show SMap.contains (SMap.insert r.slices sl.messageId (SliceCtor.new sl.numSlices)) sl.messageId = true
    rw [SMap.contains_insert]; exact Or.inl rfl
  · exact h.reserve (c := SliceCtor.new sl.numSlices) hf hnew (by simp only [SliceCtor.reserved, SliceCtor.new]; omega)

theorem discardLoop_spec {P} : ∀ (ids : List Nat) (r : RecvUnrel), r.InvP P → ids.Nodup →
    (∀ id ∈ ids, SMap.contains r.lastReceived id = true) →
    ∃ r', discardLoop ids r = .ok r' ∧ r'.InvP P ∧
      (∀ k, SMap.find? r.slices k = none → SMap.find? r'.slices k = none) ∧
      (∀ id ∈ ids, SMap.find? r'.slices id = none)
  | [], r, h, _, _ => ⟨r, rfl, h, fun _ hk => hk, by simp⟩
  | id :: rest, r, h, hnd, hin => by
    obtain ⟨c, hf⟩ := SMap.contains_iff_find?.mp (h.lastSub id (hin id (by simp)))
    obtain ⟨hle, hdrop⟩ := h.dropCtor hf
    rw [List.nodup_cons] at hnd
    simp only [discardLoop, hf]
    rw [Res.csub_ok hle]
    simp only [Res.bind_ok]
    obtain ⟨r', he, hinv, hmono, hgone⟩ := discardLoop_spec (P := P) rest _ hdrop hnd.2 (by
      intro id' hid'
      have hne : id' ≠ id := by intro he; subst he; exact hnd.1 hid'
      exact (SMap.contains_erase h.lastSorted.nodup).mpr ⟨hne, hin id' (by simp [hid'])⟩)
    refine ⟨r', he, hinv, ?_, ?_⟩
    · intro k hk
      exact hmono k (SMap.find?_erase_none _ hk)
    · intro id' hid'
      simp only [List.mem_cons] at hid'
      rcases hid' with rfl | hid'
      · exact hmono _ (SMap.find?_erase_self h.slicesOk.1.nodup _)
      · exact hgone id' hid'

/-- ids selected by `discardOld` -/
def RecvUnrel.lost (r : RecvUnrel) (now : Nat) : List Nat :=
  (r.lastReceived.filter (fun (_, t) => now - t ≥ DISCARD_FRAGMENT_AFTER_NS)).map (·.1)

theorem RecvUnrel.discardOld_eq (r : RecvUnrel) (now : Nat) : r.discardOld now = discardLoop (r.lost now) r := rfl

theorem RecvUnrel.lost_nodup {P} (r : RecvUnrel) (h : r.InvP P) (now : Nat) : (r.lost now).Nodup := by
  have hs : (SMap.keys r.lastReceived).Pairwise (· < ·) := h.lastSorted
  have hsub : (r.lost now).Sublist (SMap.keys r.lastReceived) := (List.filter_sublist).map _
  exact (hs.sublist hsub).imp (fun hlt => Nat.ne_of_lt hlt)

theorem RecvUnrel.lost_subset (r : RecvUnrel) (now : Nat) (id : Nat) (hid : id ∈ r.lost now) :
    SMap.contains r.lastReceived id = true := by
  rw [SMap.contains_iff]
  unfold RecvUnrel.lost at hid
  rw [List.mem_map] at hid
  obtain ⟨p, hp, rfl⟩ := hid
  exact List.mem_map.mpr ⟨p, (List.mem_filter.mp hp).1, rfl⟩

theorem RecvUnrel.mem_lost (r : RecvUnrel) (now id t : Nat) (hf : SMap.find? r.lastReceived id = some t)
    (hold : now - t ≥ DISCARD_FRAGMENT_AFTER_NS) : id ∈ r.lost now := by
  unfold RecvUnrel.lost
  rw [List.mem_map]
  refine ⟨(id, t), List.mem_filter.mpr ⟨SMap.mem_of_find? hf, ?_⟩, rfl⟩
  simpa using hold

theorem RecvUnrel.discardOld_safeP {P} (r : RecvUnrel) (h : r.InvP P) (now : Nat) :
    ∃ r', r.discardOld now = .ok r' ∧ r'.InvP P := by
  rw [RecvUnrel.discardOld_eq]
  obtain ⟨r', he, hinv, _, _⟩ := discardLoop_spec (r.lost now) r h (r.lost_nodup h now) (r.lost_subset now)
  exact ⟨r', he, hinv⟩

theorem RecvUnrel.discardOld_removes_staleP {P} (r r' : RecvUnrel) (h : r.InvP P) (now id t : Nat)
    (hf : SMap.find? r.lastReceived id = some t) (hold : now - t ≥ DISCARD_FRAGMENT_AFTER_NS)
    (he : r.discardOld now = .ok r') : SMap.find? r'.slices id = none := by
  rw [RecvUnrel.discardOld_eq] at he
  obtain ⟨r'', he', _, _, hgone⟩ := discardLoop_spec (r.lost now) r h (r.lost_nodup h now) (r.lost_subset now)
  rw [he'] at he; cases he
  exact hgone id (r.mem_lost now id t hf hold)

/-! ### the two instances of the invariants

  `Inv`  : every stored constructor satisfies the strict `SliceCtor.Inv` (needs `1 ≤ numSlices`
           of every processed slice — guaranteed by the packet decoder),
  `WInv` : additionally tolerates dead zero-slice constructors; preserved for ALL inputs. -/

def RecvRel.Inv (r : RecvRel) : Prop := r.InvP SliceCtor.Inv
def RecvRel.WInv (r : RecvRel) : Prop := r.InvP SliceCtor.WInv
def RecvUnrel.Inv (r : RecvUnrel) : Prop := r.InvP SliceCtor.Inv
def RecvUnrel.WInv (r : RecvUnrel) : Prop := r.InvP SliceCtor.WInv

theorem RecvRel.InvP.mono {P Q : SliceCtor → Prop} {r : RecvRel} (h : r.InvP P) (hpq : ∀ c, P c → Q c) : r.InvP Q :=
  ⟨h.acct, h.budget, h.slicesOk.mono hpq, h.pending⟩
theorem RecvUnrel.InvP.mono {P Q : SliceCtor → Prop} {r : RecvUnrel} (h : r.InvP P) (hpq : ∀ c, P c → Q c) :
    r.InvP Q :=
  ⟨h.acct, h.budget, h.slicesOk.mono hpq, h.lastSorted, h.lastSub⟩

theorem RecvRel.Inv.weaken {r : RecvRel} (h : r.Inv) : r.WInv := h.mono fun _ => Or.inr
theorem RecvUnrel.Inv.weaken {r : RecvUnrel} (h : r.Inv) : r.WInv := h.mono fun _ => Or.inr

theorem Res.not_panic_of_lands {ε σ : Type} {Q : σ → Prop} {x : Res (ε × σ) σ}
    (h : (∃ r', x = .ok r' ∧ Q r') ∨ (∃ e r', x = .err (e, r') ∧ Q r')) (s : String) : x ≠ .panic s := by
  rcases h with ⟨_, e, _⟩ | ⟨_, _, e, _⟩ <;> rw [e] <;> exact fun hs => nomatch hs

/-- COUNTER-EXAMPLE to "`RecvRel.Inv` is preserved for every `Slice` value": a slice announcing zero
    slices (never produced by the packet decoder) leaves a dead constructor behind.  No panic, exact
    accounting — but the stored constructor violates `1 ≤ numSlices`. -/
theorem RecvRel.zero_slices_counterexample :
    (RecvRel.new 100 true).processSlice ⟨0, 0, 0, []⟩ =
      .err (.invalidSlice, { RecvRel.new 100 true with slices := [(0, SliceCtor.new 0)] }) ∧
    ¬ RecvRel.Inv { RecvRel.new 100 true with slices := [(0, SliceCtor.new 0)] } := by
  refine ⟨by decide, ?_⟩
  intro h
  have := h.slicesOk.2 0 (SliceCtor.new 0) (by simp)
  exact absurd this.1 (by decide)

theorem RecvUnrel.zero_slices_counterexample :
    (RecvUnrel.new 0 100).processSlice ⟨0, 0, 0, []⟩ 0 =
      .err (.invalidSlice, { RecvUnrel.new 0 100 with slices := [(0, SliceCtor.new 0)] }) ∧
    ¬ RecvUnrel.Inv { RecvUnrel.new 0 100 with slices := [(0, SliceCtor.new 0)] } := by
  refine ⟨by decide, ?_⟩
  intro h
  have := h.slicesOk.2 0 (SliceCtor.new 0) (by simp)
  exact absurd this.1 (by decide)

theorem Packet.fromBytes_numSlices (b : Bytes) (p : Packet) (h : Packet.fromBytes b = .ok p) :
    ∀ seq ch sl, (p = .reliableSlice seq ch sl ∨ p = .unreliableSlice seq ch sl) →
      1 ≤ sl.numSlices ∧ sl.numSlices ≤ C.MAX_NUM_SLICES := by
  intro seq ch sl hp
  have hw := Packet.fromBytes_wf h
  rcases hp with rfl | rfl
  · exact ⟨hw.2.2.2.2.1, hw.2.2.2.2.2.1⟩
  · exact ⟨hw.2.2.2.2.1, hw.2.2.2.2.2.1⟩

theorem RecvRel.new_winv (maxMem : Nat) (ordered : Bool) : (RecvRel.new maxMem ordered).WInv :=
  RecvRel.new_invP maxMem ordered

theorem RecvUnrel.new_winv (ch maxMem : Nat) : (RecvUnrel.new ch maxMem).WInv := RecvUnrel.new_invP ch maxMem

/-! ### C09: quiescence -/
theorem RecvRel.quiescent {P} (r : RecvRel) (h : r.InvP P) (hm : r.messages = []) (hs : r.slices = []) :
    r.mem = 0 := by
  have := h.acct; rw [hm, hs] at this; simpa using this

theorem RecvUnrel.quiescent {P} (r : RecvUnrel) (h : r.InvP P) (hm : r.messages = []) (hs : r.slices = []) :
    r.mem = 0 := by
  have := h.acct; rw [hm, hs] at this; simpa using this

end RenetVerif
