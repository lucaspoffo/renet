/-
  `renetcode/src/client.rs` (group NcClient): `NetcodeClient` against `Netcode/Client.lean`.
  The ties themselves are in `Props/SrcTieNcClient.lean`.
-/
import RenetVerif.Generated.Src.NcClient
import RenetVerif.Netcode.Client
import RenetVerif.Lemmas.SrcEquiv.NcTokenGen
import RenetVerif.Lemmas.SrcEquiv.NcServerRecv
namespace RenetVerif.SrcEquiv
open RenetVerif RenetVerif.RustSem RenetVerif.Netcode

section NcClient
open Src.renetcode.client

abbrev SNetcodeClient := Src.renetcode.client.NetcodeClient
abbrev SClientState := Src.renetcode.client.ClientState

def reprCSt : Netcode.ClientState → SClientState
  | .disconnected r => .Disconnected (reprDR r)
  | .sendingConnectionRequest => .SendingConnectionRequest
  | .sendingConnectionResponse => .SendingConnectionResponse
  | .connected => .Connected

/-- the generated client: `out` is the scratch buffer `[u8; NETCODE_MAX_PACKET_BYTES]` that the model does not keep -/
def reprNC (out : List Nat) (c : Netcode.NetcodeClient) : SNetcodeClient :=
  ⟨reprCSt c.state, c.clientId, c.connectStartTime, c.lastPacketSendTime, c.lastPacketReceivedTime, c.currentTime, c.sequence,
   reprAddr c.serverAddr, c.serverAddrIndex, reprTok c.connectToken, c.challengeTokenSequence, toNats c.challengeTokenData,
   c.maxClients, c.clientIndex, c.sendRate, reprRP c.replayProtection, out⟩

theorem reprNC_state (out : List Nat) (c : Netcode.NetcodeClient) : (reprNC out c).state = reprCSt c.state := rfl
theorem reprNC_sequence (out : List Nat) (c : Netcode.NetcodeClient) : (reprNC out c).sequence = c.sequence := rfl

theorem reprCSt_inj {x y : Netcode.ClientState} (h : reprCSt x = reprCSt y) : x = y := by
  cases x <;> cases y <;> simp [reprCSt] at h ⊢
  rename_i r1 r2
  cases r1 <;> cases r2 <;> simp [reprDR] at h ⊢

theorem reprCSt_eq_iff (x y : Netcode.ClientState) : (reprCSt x = reprCSt y) = (x = y) := by
  apply propext; constructor
  · exact reprCSt_inj
  · intro h; rw [h]

/-- outcome of a sending function: result and client state `c'` (model) ↔ generated; the scratch buffer is some buffer of
    the same length -/
def CliSendOut (c' : Netcode.NetcodeClient) (m : NRes (Addr × Bytes))
    (g : Res (SNErr × SNetcodeClient) (SNetcodeClient × (RustSem.SocketAddr × List Nat))) : Prop :=
  match m with
  | .ok (addr, bytes) => ∃ out', out'.length = C.NETCODE_MAX_PACKET_BYTES ∧ g = .ok (reprNC out' c', (reprAddr addr, toNats bytes))
  | .err e => ∃ out', out'.length = C.NETCODE_MAX_PACKET_BYTES ∧ g = .err (reprNErr e, reprNC out' c')
  | .panic _ => ∃ msg, g = .panic msg

/-- `Packet::encode` into the client's scratch buffer with the client-to-server key and the client's sequence; `q` is the
    generated packet as the call site spells it -/
theorem cli_enc (a : AEAD) (hl : a.Laws) (p : Netcode.Packet) (q : SNcPacket) (hq : reprNP p = q) (out : List Nat)
    (hout : out.length = C.NETCODE_MAX_PACKET_BYTES) (c : Netcode.NetcodeClient) :
    EncOut C.NETCODE_MAX_PACKET_BYTES
      (Netcode.Packet.encode a p C.NETCODE_MAX_PACKET_BYTES c.connectToken.protocolId (some (c.sequence, c.connectToken.clientToServerKey)))
      (@Src.renetcode.packet.Packet.encode (aeadOf a) q (reprNC out c).out (reprNC out c).connect_token.protocol_id
        (some ((reprNC out c).sequence, (reprNC out c).connect_token.client_to_server_key))) :=
  enc_out_as a hl p q hq out hout c.connectToken.protocolId c.sequence c.connectToken.clientToServerKey

/-- outcome of `generate_payload_packet`: an `Err` leaves the client `c` as it was (up to the scratch buffer) -/
def CliGenOut (c : Netcode.NetcodeClient) (m : NRes ((Addr × Bytes) × Netcode.NetcodeClient))
    (g : Res (SNErr × SNetcodeClient) (SNetcodeClient × (RustSem.SocketAddr × List Nat))) : Prop :=
  match m with
  | .ok ((addr, bytes), c') =>
      ∃ out', out'.length = C.NETCODE_MAX_PACKET_BYTES ∧ g = .ok (reprNC out' c', (reprAddr addr, toNats bytes))
  | .err e => ∃ out', out'.length = C.NETCODE_MAX_PACKET_BYTES ∧ g = .err (reprNErr e, reprNC out' c)
  | .panic _ => ∃ msg, g = .panic msg

theorem attempt2_ok' {ε ρ ε' σ₁ σ₂ α : Type} (s₁ : σ₁) (s₂ : σ₂) (x : α) :
    (Exec.attempt2 (.ok (s₁, s₂, x) : Res (ε' × (σ₁ × σ₂)) (σ₁ × σ₂ × α)) : Exec ε ρ _) = .val ((s₁, s₂), .ok x) := rfl
/-- outcome of `process_packet` (no `Err`; the scratch buffer is untouched, the caller's buffer is decrypted in place) -/
def CliPktOutL {ε : Type} (L : Nat) (out : List Nat) (m : Res Empty (Option Bytes × Netcode.NetcodeClient))
    (g : Res ε (SNetcodeClient × List Nat × Option (List Nat))) : Prop :=
  match m with
  | .ok (p, c') => ∃ buf', buf'.length = L ∧ g = .ok (reprNC out c', buf', p.map toNats)
  | .err e => nomatch e
  | .panic _ => ∃ msg, g = .panic msg

/-- `CliPktOutL` without the buffer's length -/
def CliPktOut {ε : Type} (out : List Nat) (m : Res Empty (Option Bytes × Netcode.NetcodeClient))
    (g : Res ε (SNetcodeClient × List Nat × Option (List Nat))) : Prop :=
  match m with
  | .ok (p, c') => ∃ buf', g = .ok (reprNC out c', buf', p.map toNats)
  | .err e => nomatch e
  | .panic _ => ∃ msg, g = .panic msg

/-- outcome of `update_internal_state`: the model returns the error as a value next to the state it leaves behind -/
def CliUpdOut (out : List Nat) (m : Res Empty (Option NetcodeError × Netcode.NetcodeClient))
    (g : Res (SNErr × SNetcodeClient) (SNetcodeClient × Unit)) : Prop :=
  match m with
  | .ok (none, c') => g = .ok (reprNC out c', ())
  | .ok (some e, c') => g = .err (reprNErr e, reprNC out c')
  | .err e => nomatch e
  | .panic _ => ∃ msg, g = .panic msg

/-- outcome of `generate_packet` / `update` (no `Err`): the packet for the server (if any) and the client state -/
def CliTickOut {ε : Type} (m : Res Empty (Option (Bytes × Addr) × Netcode.NetcodeClient))
    (g : Res ε (SNetcodeClient × Option (List Nat × RustSem.SocketAddr))) : Prop :=
  match m with
  | .ok (r, c') => ∃ out', out'.length = C.NETCODE_MAX_PACKET_BYTES ∧
      g = .ok (reprNC out' c', r.map (fun x => (toNats x.1, reprAddr x.2)))
  | .err e => nomatch e
  | .panic _ => ∃ msg, g = .panic msg

/-- the end of `generate_packet`; `c1` is the client with its send time already set -/
theorem nc_send_tail {ε : Type} (a : AEAD) (hl : a.Laws) (out : List Nat) (hout : out.length = C.NETCODE_MAX_PACKET_BYTES)
    (c1 : Netcode.NetcodeClient) (p : Netcode.Packet) (q : SNcPacket) (hq : reprNP p = q) (s1 s2 s3 : String) :
    CliTickOut (ε := ε)
      (match Netcode.Packet.encode a p C.NETCODE_MAX_PACKET_BYTES c1.connectToken.protocolId
          (some (c1.sequence, c1.connectToken.clientToServerKey)) with
        | .panic m => .panic m
        | .err _ => pure (none, c1)
        | .ok o => do
          let sq ← incU64 c1.sequence s1
          pure (some (o, c1.serverAddr), { c1 with sequence := sq }))
      (Exec.run ((Exec.attempt (@Src.renetcode.packet.Packet.encode (aeadOf a) q (reprNC out c1).out
          (reprNC out c1).connect_token.protocol_id
          (some ((reprNC out c1).sequence, (reprNC out c1).connect_token.client_to_server_key)))).bind fun t4 =>
        match t4.2 with
        | .error _ => Exec.val (({ reprNC out c1 with out := t4.1 } : SNetcodeClient), none)
        | .ok encoded =>
          (RustSem.add 64 (reprNC out c1).sequence 1 s2).bind fun t5 =>
            (RustSem.slice t4.1 0 encoded s3).bind fun t6 =>
              Exec.val (({ reprNC out c1 with out := t4.1, sequence := t5 } : SNetcodeClient),
                some (t6, (reprNC out c1).server_addr)))) := by
  refine (cli_enc a hl p q hq out hout c1).elim (fun bytes buf' hme hge htake hblen => ?_)
    (fun e st hme hge hst => ?_) (fun mm msg hme hge => ?_)
  · rw [hme, hge, attempt_ok', Exec.bind_val']
    simp only []
    rw [reprNC_sequence]
    refine incU64_elim c1.sequence (fun hgi hmi => ?_) (fun hgi hmi => ?_)
    · rw [hgi, hmi]
      exact Exists.intro _ rfl
    · rw [hgi, hmi, Exec.bind_val', Exec.bind_skip (RustSem.slice _ _ _ _) _ _ (slice_of_take buf' bytes htake _)]
      exact Exists.intro buf' ⟨hblen, rfl⟩
  · rw [hme, hge]
    exact Exists.intro st ⟨hst, rfl⟩
  · rw [hme, hge]
    exact Exists.intro msg rfl

end NcClient
end RenetVerif.SrcEquiv
