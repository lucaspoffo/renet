/-
  C06 / C09, receive side — whatever slice or message a peer sends, the receive channels never
  unwind, and their memory accounting stays exact and within budget.

  Two invariants are used (definitions in Lemmas/RecvInv.lean):
    * `Inv`  : accounting equality, `mem ≤ maxMem`, sorted constructor map, every stored constructor
               satisfies the strict `SliceCtor.Inv`;
    * `WInv` : the same, but a stored constructor may also be a dead one announcing zero slices.
  `WInv` is preserved by every operation on EVERY input.  `Inv` is preserved on every input whose
  `numSlices` is at least one — which the packet decoder guarantees (`wire_slices_positive`); the
  counter-example for `numSlices = 0` is `zero_slices_break_strict_inv`.
-/
import RenetVerif.Lemmas.RecvInv
namespace RenetVerif.C06R
open RenetVerif C

theorem ctor_new_inv (n : Nat) (h : 1 ≤ n) : (SliceCtor.new n).Inv := SliceCtor.new_inv n h

/-- the content of `SliceCtor.Inv` -/
theorem ctor_inv_iff (c : SliceCtor) : c.Inv ↔
    (1 ≤ c.numSlices ∧ c.received.length = c.numSlices ∧ c.numReceived = c.received.count true ∧
     c.numReceived < c.numSlices ∧
     (if c.received[c.numSlices - 1]? = some true
      then (c.numSlices - 1) * SLICE_SIZE ≤ c.data.length ∧ c.data.length ≤ c.numSlices * SLICE_SIZE
      else c.data.length = c.numSlices * SLICE_SIZE)) := Iff.rfl

theorem ctor_no_panic (c : SliceCtor) (h : c.Inv) (idx : Nat) (bytes : Bytes) :
    match c.processSlice idx bytes with
    | .panic _ => False
    | .err _ => True
    | .ok (c', none) => c'.Inv ∧ c'.numSlices = c.numSlices
    | .ok (c', some m) => m.length ≤ c.numSlices * SLICE_SIZE ∧ c'.numSlices = c.numSlices :=
  by
    rcases SliceCtor.processSlice_spec c h idx bytes with ⟨e, he⟩ | ⟨c', he, h1, h2⟩ | ⟨c', m, he, h1, h2⟩
    · rw [he]; trivial
    · rw [he]; exact ⟨h1, h2⟩
    · rw [he]; exact ⟨h1, h2⟩

/-- the content of `RecvRel.Inv` -/
theorem recvRel_inv_facts (r : RecvRel) (h : r.Inv) :
    r.mem = SMap.sumBy List.length r.messages + SMap.sumBy (fun c => c.numSlices * SLICE_SIZE) r.slices ∧
    r.mem ≤ r.maxMem ∧ SMap.Sorted r.slices ∧
    (∀ id c, SMap.find? r.slices id = some c → c.Inv) ∧
    (r.ordered = false → ∀ k, SMap.contains r.messages k = true → k < r.oldest ∨ k ∈ r.received) :=
  ⟨h.acct, h.budget, h.slicesOk.1, fun _ _ hf => h.slicesOk.of_find? hf, h.pending⟩

theorem recvRel_new_inv (maxMem : Nat) (ordered : Bool) : (RecvRel.new maxMem ordered).Inv :=
  RecvRel.new_invP maxMem ordered

theorem recvRel_processMessage_safe (r : RecvRel) (h : r.Inv) (m : Bytes) (id : Nat) :
    (∃ r', r.processMessage m id = .ok r' ∧ r'.Inv) ∨
    (∃ e r', r.processMessage m id = .err (e, r') ∧ r'.Inv) := r.processMessage_safeP h m id

theorem recvRel_processSlice_safe_partial (r : RecvRel) (h : r.Inv) (sl : Slice) (hn : 1 ≤ sl.numSlices) :
    (∃ r', r.processSlice sl = .ok r' ∧ r'.Inv) ∨
    (∃ e r', r.processSlice sl = .err (e, r') ∧ r'.Inv) :=
  r.processSlice_safeP ctorPred_inv h sl (SliceCtor.new_inv _ hn)

theorem recvRel_receive_safe (r : RecvRel) (h : r.Inv) : ∃ r' m, r.receive = .ok (r', m) ∧ r'.Inv :=
  r.receive_safeP h

theorem recvRel_safe_all_inputs (r : RecvRel) (h : r.WInv) :
    (∀ m id, (∃ r', r.processMessage m id = .ok r' ∧ r'.WInv) ∨
             (∃ e r', r.processMessage m id = .err (e, r') ∧ r'.WInv)) ∧
    (∀ sl, (∃ r', r.processSlice sl = .ok r' ∧ r'.WInv) ∨
           (∃ e r', r.processSlice sl = .err (e, r') ∧ r'.WInv)) ∧
    (∃ r' m, r.receive = .ok (r', m) ∧ r'.WInv) :=
  ⟨r.processMessage_safeP h, fun sl => r.processSlice_safeP ctorPred_winv h sl (SliceCtor.new_winv _), r.receive_safeP h⟩

theorem recvRel_never_panics (r : RecvRel) (h : r.Inv) :
    (∀ m id s, r.processMessage m id ≠ .panic s) ∧ (∀ sl s, r.processSlice sl ≠ .panic s) ∧
    (∀ s, r.receive ≠ .panic s) := by
  obtain ⟨a, b, r', m, e, -⟩ := recvRel_safe_all_inputs r h.weaken
  exact ⟨fun m id => Res.not_panic_of_lands (a m id), fun sl => Res.not_panic_of_lands (b sl), fun s hs => by
    rw [e] at hs; cases hs⟩

theorem recvRel_quiescent (r : RecvRel) (h : r.WInv) (hm : r.messages = []) (hs : r.slices = []) : r.mem = 0 :=
  r.quiescent h hm hs

/-- the content of `RecvUnrel.Inv` -/
theorem recvUnrel_inv_facts (r : RecvUnrel) (h : r.Inv) :
    r.mem = sumLen r.messages + SMap.sumBy (fun c => c.numSlices * SLICE_SIZE) r.slices ∧
    r.mem ≤ r.maxMem ∧ SMap.Sorted r.slices ∧ SMap.Sorted r.lastReceived ∧
    (∀ id c, SMap.find? r.slices id = some c → c.Inv) ∧
    (∀ k, SMap.contains r.lastReceived k = true → SMap.contains r.slices k = true) :=
  ⟨h.acct, h.budget, h.slicesOk.1, h.lastSorted, fun _ _ hf => h.slicesOk.of_find? hf, h.lastSub⟩

theorem recvUnrel_new_inv (ch maxMem : Nat) : (RecvUnrel.new ch maxMem).Inv := RecvUnrel.new_invP ch maxMem

theorem recvUnrel_processMessage_safe (r : RecvUnrel) (h : r.Inv) (m : Bytes) : (r.processMessage m).Inv :=
  r.processMessage_safeP h m

theorem recvUnrel_processSlice_safe_partial (r : RecvUnrel) (h : r.Inv) (sl : Slice) (now : Nat)
    (hn : 1 ≤ sl.numSlices) :
    (∃ r', r.processSlice sl now = .ok r' ∧ r'.Inv) ∨
    (∃ e r', r.processSlice sl now = .err (e, r') ∧ r'.Inv) :=
  r.processSlice_safeP ctorPred_inv h sl now (SliceCtor.new_inv _ hn)

theorem recvUnrel_discardOld_safe (r : RecvUnrel) (h : r.Inv) (now : Nat) :
    ∃ r', r.discardOld now = .ok r' ∧ r'.Inv := r.discardOld_safeP h now

theorem recvUnrel_receive_safe (r : RecvUnrel) (h : r.Inv) : ∃ r' m, r.receive = .ok (r', m) ∧ r'.Inv :=
  r.receive_safeP h

theorem recvUnrel_safe_all_inputs (r : RecvUnrel) (h : r.WInv) :
    (∀ m, (r.processMessage m).WInv) ∧
    (∀ sl now, (∃ r', r.processSlice sl now = .ok r' ∧ r'.WInv) ∨
               (∃ e r', r.processSlice sl now = .err (e, r') ∧ r'.WInv)) ∧
    (∀ now, ∃ r', r.discardOld now = .ok r' ∧ r'.WInv) ∧
    (∃ r' m, r.receive = .ok (r', m) ∧ r'.WInv) :=
  ⟨r.processMessage_safeP h, fun sl now => r.processSlice_safeP ctorPred_winv h sl now (SliceCtor.new_winv _),
   r.discardOld_safeP h, r.receive_safeP h⟩

theorem recvUnrel_never_panics (r : RecvUnrel) (h : r.Inv) :
    (∀ sl now s, r.processSlice sl now ≠ .panic s) ∧ (∀ now s, r.discardOld now ≠ .panic s) ∧
    (∀ s, r.receive ≠ .panic s) := by
  obtain ⟨-, b, c, r', m, e, -⟩ := recvUnrel_safe_all_inputs r h.weaken
  refine ⟨fun sl now => Res.not_panic_of_lands (b sl now), fun now s hs => ?_, fun s hs => by rw [e] at hs; cases hs⟩
  obtain ⟨r1, e1, -⟩ := c now
  rw [e1] at hs; cases hs

theorem recvUnrel_quiescent (r : RecvUnrel) (h : r.WInv) (hm : r.messages = []) (hs : r.slices = []) : r.mem = 0 :=
  r.quiescent h hm hs

/-- C09: a fragment whose last slice arrived at least `DISCARD_FRAGMENT_AFTER_NS` ago is gone after
    `discardOld` (its reservation is released: accounting stays exact by `recvUnrel_discardOld_safe`). -/
theorem discardOld_removes_stale (r r' : RecvUnrel) (h : r.Inv) (now id t : Nat)
    (hf : SMap.find? r.lastReceived id = some t) (hold : now - t ≥ DISCARD_FRAGMENT_AFTER_NS)
    (he : r.discardOld now = .ok r') : SMap.find? r'.slices id = none :=
  r.discardOld_removes_staleP r' h now id t hf hold he

/-! ### the extra hypothesis of the `_partial` theorems -/

/-- discharged on the wire: a decoded slice packet never announces zero slices -/
theorem wire_slices_positive (b : Bytes) (p : Packet) (h : Packet.fromBytes b = .ok p) (seq ch : Nat) (sl : Slice)
    (hp : p = .reliableSlice seq ch sl ∨ p = .unreliableSlice seq ch sl) :
    1 ≤ sl.numSlices ∧ sl.numSlices ≤ MAX_NUM_SLICES := Packet.fromBytes_numSlices b p h seq ch sl hp

/-- and necessary: a `Slice` value with `numSlices = 0` leaves a dead constructor in the map -/
theorem zero_slices_break_strict_inv :
    ((RecvRel.new 100 true).processSlice ⟨0, 0, 0, []⟩ =
        .err (.invalidSlice, { RecvRel.new 100 true with slices := [(0, SliceCtor.new 0)] }) ∧
      ¬ RecvRel.Inv { RecvRel.new 100 true with slices := [(0, SliceCtor.new 0)] }) ∧
    ((RecvUnrel.new 0 100).processSlice ⟨0, 0, 0, []⟩ 0 =
        .err (.invalidSlice, { RecvUnrel.new 0 100 with slices := [(0, SliceCtor.new 0)] }) ∧
      ¬ RecvUnrel.Inv { RecvUnrel.new 0 100 with slices := [(0, SliceCtor.new 0)] }) :=
  ⟨RecvRel.zero_slices_counterexample, RecvUnrel.zero_slices_counterexample⟩

/-! ### non-vacuity: concrete non-trivial states satisfying the hypotheses -/

/-- first slice (of two) of message 7 -/
def sl0 : Slice := ⟨7, 0, 2, List.replicate 1200 1⟩

/-- a constructor that has seen one of two slices -/
@[irreducible] def exCtor : SliceCtor :=
  match (SliceCtor.new 2).processSlice 0 (List.replicate 1200 1) with
  | .ok (c, _) => c
  | _ => SliceCtor.new 0

/-- the step that yields `exCtor` and what is read off it, in one kernel evaluation -/
theorem exCtor_facts : (SliceCtor.new 2).processSlice 0 (List.replicate 1200 1) = .ok (exCtor, none) ∧
    exCtor.numReceived = 1 ∧ exCtor.data.length = 2400 := by
  decide +kernel

theorem exCtor_run : (SliceCtor.new 2).processSlice 0 (List.replicate 1200 1) = .ok (exCtor, none) :=
  exCtor_facts.1

example : exCtor.Inv ∧ exCtor.numReceived = 1 ∧ exCtor.data.length = 2400 := by
  refine ⟨?_, exCtor_facts.2⟩
  rcases SliceCtor.processSlice_spec (SliceCtor.new 2) (ctor_new_inv 2 (by decide)) 0 (List.replicate 1200 1) with
    ⟨e, he⟩ | ⟨c', he, hi, _⟩ | ⟨c', m, he, _⟩
  · rw [exCtor_run] at he; cases he
  · rw [exCtor_run] at he; cases he; exact hi
  · rw [exCtor_run] at he; cases he

/-- a reliable channel (unordered) holding one partially received 2-slice message and one small message -/
@[irreducible] def exRel : RecvRel :=
  match (RecvRel.new 10000 false).processSlice sl0 with
  | .ok r => (match r.processMessage [1, 2, 3] 9 with | .ok r => r | _ => r)
  | _ => RecvRel.new 0 false

/-- the two steps that yield `exRel` and what is read off it -/
theorem exRel_facts :
    ((RecvRel.new 10000 false).processSlice sl0 =
        .ok (match (RecvRel.new 10000 false).processSlice sl0 with | .ok r => r | _ => RecvRel.new 0 false) ∧
      (match (RecvRel.new 10000 false).processSlice sl0 with | .ok r => r | _ => RecvRel.new 0 false).processMessage
        [1, 2, 3] 9 = .ok exRel) ∧
    exRel.mem = 2403 ∧ exRel.slices.length = 1 ∧ exRel.messages.length = 1 := by
  decide +kernel

theorem exRel_run : ∃ r1, (RecvRel.new 10000 false).processSlice sl0 = .ok r1 ∧
    r1.processMessage [1, 2, 3] 9 = .ok exRel :=
  ⟨_, exRel_facts.1⟩

example : exRel.Inv ∧ exRel.mem = 2403 ∧ exRel.slices.length = 1 ∧ exRel.messages.length = 1 := by
  refine ⟨?_, exRel_facts.2⟩
  obtain ⟨r1, h1, h2⟩ := exRel_run
  have i1 : r1.Inv := by
    rcases recvRel_processSlice_safe_partial _ (recvRel_new_inv 10000 false) sl0 (by decide) with
      ⟨r', he, hi⟩ | ⟨e, r', he, _⟩
    · rw [h1] at he; cases he; exact hi
    · rw [h1] at he; cases he
  rcases recvRel_processMessage_safe r1 i1 [1, 2, 3] 9 with ⟨r', he, hi⟩ | ⟨e, r', he, _⟩
  · rw [h2] at he; cases he; exact hi
  · rw [h2] at he; cases he

/-- an unreliable channel holding one partially received 2-slice message, last touched at t = 5 -/
@[irreducible] def exUnrel : RecvUnrel :=
  match (RecvUnrel.new 0 10000).processSlice sl0 5 with
  | .ok r => r
  | _ => RecvUnrel.new 0 0

/-- the step that yields `exUnrel` and what is read off it -/
theorem exUnrel_facts : (RecvUnrel.new 0 10000).processSlice sl0 5 = .ok exUnrel ∧ exUnrel.mem = 2400 ∧
    SMap.find? exUnrel.lastReceived 7 = some 5 ∧ SMap.contains exUnrel.slices 7 = true := by
  decide +kernel

theorem exUnrel_run : (RecvUnrel.new 0 10000).processSlice sl0 5 = .ok exUnrel := exUnrel_facts.1

example : exUnrel.Inv ∧ exUnrel.mem = 2400 ∧ SMap.find? exUnrel.lastReceived 7 = some 5 ∧
    (3000000005 : Nat) - 5 ≥ DISCARD_FRAGMENT_AFTER_NS ∧ SMap.contains exUnrel.slices 7 = true := by
  obtain ⟨-, hmem, hlast, hcont⟩ := exUnrel_facts
  refine ⟨?_, hmem, hlast, by decide, hcont⟩
  rcases recvUnrel_processSlice_safe_partial _ (recvUnrel_new_inv 0 10000) sl0 5 (by decide) with
    ⟨r', he, hi⟩ | ⟨e, r', he, _⟩
  · rw [exUnrel_run] at he; cases he; exact hi
  · rw [exUnrel_run] at he; cases he

/-- the hypotheses of `wire_slices_positive` are satisfiable: a real slice packet decodes -/
example : ∃ b, Packet.fromBytes b = .ok (.reliableSlice 5 2 ⟨0, 1, 2, [9]⟩) :=
  ⟨[2, 5, 2, 0, 1, 2, 1, 9], by rfl⟩

end RenetVerif.C06R
