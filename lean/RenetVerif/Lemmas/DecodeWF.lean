/-
  Every output of the packet decoder is well-formed (`Packet.WF`), hence re-encodes and decodes
  to itself.
-/
import RenetVerif.Lemmas.PacketRT
namespace RenetVerif
open Varint

theorem Except.bind_eq_ok' {ε α β : Type} {x : Except ε α} {f : α → Except ε β} {y : β} :
    (x >>= f) = .ok y ↔ ∃ a, x = .ok a ∧ f a = .ok y := by
  cases x with
  | error e => simp [bind, Except.bind]
  | ok a => simp [bind, Except.bind]

theorem getVarint_ok {b : Bytes} {v : Nat} {r : Bytes} (h : getVarint b = .ok (v, r)) : r <:+ b ∧ v ≤ MAX := by
  unfold getVarint at h
  split at h
  · cases h
  · rename_i x hx
    cases h
    obtain ⟨len, _, _, rfl, hv⟩ := get_eq_some hx
    exact ⟨List.drop_suffix _ _, hv⟩

theorem getU8_ok {b : Bytes} {v : Nat} {r : Bytes} (h : getU8 b = .ok (v, r)) : r <:+ b ∧ v < 256 := by
  cases b with
  | nil => cases h
  | cons x tl =>
    cases h
    exact ⟨List.suffix_cons _ _, x.toNat_lt⟩

theorem getU16_ok {b : Bytes} {v : Nat} {r : Bytes} (h : getU16 b = .ok (v, r)) : r <:+ b ∧ v < 65536 := by
  unfold getU16 at h
  split at h
  · rename_i a c r'
    cases h
    have := a.toNat_lt
    have := c.toNat_lt
    exact ⟨(List.suffix_cons _ _).trans (List.suffix_cons _ _), by omega⟩
  · cases h

theorem getBytesVar_ok {b : Bytes} {m : Bytes} {r : Bytes} (h : getBytesVar b = .ok (m, r)) :
    r <:+ b ∧ m.length ≤ MAX := by
  unfold getBytesVar at h
  split at h
  · cases h
  · rename_i len r' hg
    obtain ⟨hs, hb⟩ := getVarint_ok hg
    split at h
    · cases h
    · cases h
      exact ⟨(List.drop_suffix _ _).trans hs, by rw [List.length_take]; omega⟩

theorem decSmallRel_wf : ∀ (n : Nat) (b : Bytes) (msgs : List (Nat × Bytes)) (r : Bytes),
    decSmallRel n b = .ok (msgs, r) → msgs.length = n ∧ SmallRelWF msgs
  | 0, b, msgs, r, h => by
    simp only [decSmallRel] at h
    cases h
    exact ⟨rfl, fun x hx => by cases hx⟩
  | n + 1, b, msgs, r, h => by
    simp only [decSmallRel, Except.bind_eq_ok'] at h
    obtain ⟨⟨id, b1⟩, h1, h⟩ := h
    obtain ⟨⟨m, b2⟩, h2, h⟩ := h
    obtain ⟨⟨rest, b3⟩, h3, h⟩ := h
    cases h
    obtain ⟨ihl, ihw⟩ := decSmallRel_wf n b2 rest b3 h3
    refine ⟨by simp [ihl], ?_⟩
    intro x hx
    rcases List.mem_cons.mp hx with rfl | hx
    · exact ⟨(getVarint_ok h1).2, (getBytesVar_ok h2).2⟩
    · exact ihw x hx

theorem decSmallUnrel_wf : ∀ (n : Nat) (b : Bytes) (msgs : List Bytes) (r : Bytes),
    decSmallUnrel n b = .ok (msgs, r) → msgs.length = n ∧ SmallUnrelWF msgs
  | 0, b, msgs, r, h => by
    simp only [decSmallUnrel] at h
    cases h
    exact ⟨rfl, fun x hx => by cases hx⟩
  | n + 1, b, msgs, r, h => by
    simp only [decSmallUnrel, Except.bind_eq_ok'] at h
    obtain ⟨⟨m, b2⟩, h2, h⟩ := h
    obtain ⟨⟨rest, b3⟩, h3, h⟩ := h
    cases h
    obtain ⟨ihl, ihw⟩ := decSmallUnrel_wf n b2 rest b3 h3
    refine ⟨by simp [ihl], ?_⟩
    intro x hx
    rcases List.mem_cons.mp hx with rfl | hx
    · exact (getBytesVar_ok h2).2
    · exact ihw x hx

theorem decAckRest_wf : ∀ (n prev : Nat) (b : Bytes) (acc res : List AckRange) (r : Bytes),
    decAckRest n prev b acc = .ok (res, r) →
    ∃ d, res = d.reverse ++ acc ∧ d.length = n ∧ DescWF prev d
  | 0, prev, b, acc, res, r, h => by
    simp only [decAckRest] at h
    cases h
    exact ⟨[], rfl, rfl, trivial⟩
  | n + 1, prev, b, acc, res, r, h => by
    simp only [decAckRest, Except.bind_eq_ok'] at h
    obtain ⟨⟨gap, b1⟩, h1, h⟩ := h
    simp only [] at h
    split at h
    · cases h
    · rename_i hg
      simp only [Except.bind_eq_ok'] at h
      obtain ⟨⟨size, b2⟩, h2, h⟩ := h
      simp only [] at h
      split at h
      · cases h
      · rename_i hs
        obtain ⟨d, hres, hlen, hw⟩ := decAckRest_wf n _ b2 _ res r h
        refine ⟨(prev - gap - 2 - size, prev - gap - 2 + 1) :: d, ?_, by simp [hlen], ?_⟩
        · simp [hres]
        · exact ⟨by omega, by omega, hw⟩

theorem Packet.decode_wf (b : Bytes) (p : Packet) (rest : Bytes)
    (h : Packet.decode b = .ok (p, rest)) : p.WF := by
  simp only [Packet.decode, Except.bind_eq_ok'] at h
  obtain ⟨⟨ty, b0⟩, h0, h⟩ := h
  simp only [] at h
  split at h
  · simp only [Except.bind_eq_ok'] at h
    obtain ⟨⟨seq, b1⟩, h1, ⟨ch, b2⟩, h2, ⟨n, b3⟩, h3, ⟨msgs, b4⟩, h4, h⟩ := h
    cases h
    obtain ⟨hl, hw⟩ := decSmallRel_wf _ _ _ _ h4
    exact ⟨(getVarint_ok h1).2, (getU8_ok h2).2, hl ▸ (getU16_ok h3).2, hw⟩
  · simp only [Except.bind_eq_ok'] at h
    obtain ⟨⟨seq, b1⟩, h1, ⟨ch, b2⟩, h2, ⟨n, b3⟩, h3, ⟨msgs, b4⟩, h4, h⟩ := h
    cases h
    obtain ⟨hl, hw⟩ := decSmallUnrel_wf _ _ _ _ h4
    exact ⟨(getVarint_ok h1).2, (getU8_ok h2).2, hl ▸ (getU16_ok h3).2, hw⟩
  · simp only [Except.bind_eq_ok'] at h
    obtain ⟨⟨seq, b1⟩, h1, ⟨ch, b2⟩, h2, ⟨id, b3⟩, h3, ⟨idx, b4⟩, h4, ⟨n, b5⟩, h5, h⟩ := h
    simp only [] at h
    split at h
    · cases h
    rename_i hn
    simp only [Except.bind_eq_ok'] at h
    obtain ⟨⟨payload, b6⟩, h6, h⟩ := h
    simp only [] at h
    split at h
    · cases h
    rename_i he
    split at h
    · cases h
    rename_i hs
    cases h
    have hpl : 1 ≤ payload.length := by
      cases payload with
      | nil => simp at he
      | cons _ _ => simp
    exact ⟨(getVarint_ok h1).2, (getU8_ok h2).2, (getVarint_ok h3).2, (getVarint_ok h4).2,
      by dsimp only; omega, by dsimp only; omega, hpl, by dsimp only; omega⟩
  · simp only [Except.bind_eq_ok'] at h
    obtain ⟨⟨seq, b1⟩, h1, ⟨ch, b2⟩, h2, ⟨id, b3⟩, h3, ⟨idx, b4⟩, h4, ⟨n, b5⟩, h5, h⟩ := h
    simp only [] at h
    split at h
    · cases h
    rename_i hn
    simp only [Except.bind_eq_ok'] at h
    obtain ⟨⟨payload, b6⟩, h6, h⟩ := h
    cases h
    exact ⟨(getVarint_ok h1).2, (getU8_ok h2).2, (getVarint_ok h3).2, (getVarint_ok h4).2,
      by dsimp only; omega, by dsimp only; omega, (getBytesVar_ok h6).2⟩
  · simp only [Except.bind_eq_ok'] at h
    obtain ⟨⟨seq, b1⟩, h1, ⟨firstEnd, b2⟩, h2, ⟨firstSize, b3⟩, h3, ⟨nRest, b4⟩, h4, h⟩ := h
    simp only [] at h
    split at h
    · cases h
    rename_i hf
    simp only [Except.bind_eq_ok'] at h
    obtain ⟨⟨ranges, b5⟩, h5, h⟩ := h
    cases h
    obtain ⟨d, hres, _, hw⟩ := decAckRest_wf _ _ _ _ _ _ h5
    have hfe := (getVarint_ok h2).2
    refine ⟨(getVarint_ok h1).2, firstEnd - firstSize, firstEnd + 1, d, ?_, by omega, by omega, hw⟩
    simp [hres]
  · cases h

theorem Packet.fromBytes_wf {b : Bytes} {p : Packet} (h : Packet.fromBytes b = .ok p) : p.WF := by
  obtain ⟨r, hd⟩ := Packet.fromBytes_ok h
  exact Packet.decode_wf b _ r hd

end RenetVerif
