/-
  C18 — Netcode liveness, the composed half: the per-step statements of Props/C18.lean (`never_timed_out_partial`) and
  Props/C18P.lean (`handshake_round_partial`) over whole traces and rounds.

  A.  `never_timed_out`: induction over whole traces of server operations (`NS.Op`: `process_packet` with any source
      and datagram, `update`, `update_client`, `disconnect`, `set_max_clients`, `generate_payload_packet`, in any
      interleaving).  A connected session that is fresh — most recent authentic packet (or the connection) at most
      `timeout` old — at every `update_client` of its id, that nobody `disconnect`s and whose client sends no
      authentic Disconnect packet, stays in its slot with its identity; no `ClientDisconnected` names it.

  B.  the handshake driven through `NetcodeClient::update(d)` (time-outs, failover, send-rate gate) in *rounds*
      (`round`: `server.update(d)`, `client.update(d)`, datagram up, `server.update_client(id)`, answers down):
      B1 `handshake_through_update` — two lossless rounds of any lengths `d₁ d₂` connect both sides (time `d₁ + d₂`);
      B2 `handshake_despite_loss` — any number of rounds in which the client hears nothing (its datagram lost, or the
         answer lost — including the keep-alive that accompanies `ClientConnected`), then a delivered round, again any
         number of lossy rounds, then a delivered round (both at least the send rate long): connected, provided the
         total time stays within the token's window / time-out; with the single steps `request_retransmitted`,
         `response_retransmitted`, `repeated_request_challenged`, `duplicate_request_challenged`;
      B3 `failover_connects` — first server silent: after the time-out the client's `update` moves to the second
         address of the token, whose server completes the handshake.

  Proofs: Lemmas/NcLive2.lean, NcLive3.lean (the round that connects); B3 is the walk through a server list (`NcLive4.walk_connects`, Props/C18V.lean) with a
  single silent server.  Nothing is assumed of the AEAD beyond `AEAD.Laws` (seal/open inverse, 16-byte tag).
-/
import RenetVerif.Lemmas.NcLive4
import RenetVerif.Props.C18
import RenetVerif.Props.C18P
namespace RenetVerif.C18T
open RenetVerif RenetVerif.Netcode RenetVerif.Netcode.NS RenetVerif.NcLive2

/-- **`never_timed_out`** — a peer from which authentic packets keep arriving within every timeout period is never
    timed out.

    `ops` is any trace of server operations, run from a state satisfying `ServerInv` in which slot `i` holds the
    session `c` of client `id` (`runOps`: the trace runs to its end, results `rs`, final state `s'`).
    `Fresh a id s c.lastPacketReceivedTime ops` is the trace hypothesis (`fresh_cons`, `allowed_*`, `lastAfter_*`
    below spell it out): with `last` := the time (on the model's clock `s.currentTime`) of the most recent operation
    that was a datagram from the session's address `Authentic` for it — initially the session's receive timer, i.e.
    its connection or last refresh —
      * at every `update_client id`: the token's timeout is not positive, or `now ≤ last + timeout`;
      * no operation is `disconnect id`;
      * no datagram from the session's address decodes, under its key and replay window, to a Disconnect packet.
    Everything else is unconstrained: forged / replayed / foreign datagrams, other clients' handshakes, time-outs and
    disconnects of other ids, payloads, `set_max_clients`, any `update(d)`.

    Then the session is still in slot `i` with the same identity (id, address, user data, keys, timeout, expiry), the
    id is connected, no `ClientDisconnected id` was reported along the trace, and the invariant holds again. -/
theorem never_timed_out (a : AEAD) {s s' : NetcodeServer} {id i : Nat} {c : Connection} {ops : List Op}
    {rs : List ServerResult} (hi : ServerInv s) (hc : At s.clients i c) (hid : c.clientId = id)
    (hfresh : Fresh a id s c.lastPacketReceivedTime ops) (hrun : runOps a s ops = some (rs, s')) :
    (∃ c', At s'.clients i c' ∧ ident c' = ident c) ∧ s'.isClientConnected id = true ∧
      (∀ ad o, ServerResult.clientDisconnected id ad o ∉ rs) ∧ ServerInv s' := by
  obtain ⟨hi', ⟨c', hc', hident⟩, hnd⟩ := run_keeps ops hi hc hid (Nat.le_refl _) hfresh hrun
  exact ⟨⟨c', hc', hident⟩, isClientConnected_iff.mpr ⟨i, c', hc', by rw [ident_id hident, hid]⟩, hnd, hi'⟩

/-- … and so at every point of the trace -/
theorem never_timed_out_throughout (a : AEAD) {s s₁ : NetcodeServer} {id i : Nat} {c : Connection}
    {ops₁ ops₂ : List Op} {rs₁ : List ServerResult} (hi : ServerInv s) (hc : At s.clients i c) (hid : c.clientId = id)
    (hfresh : Fresh a id s c.lastPacketReceivedTime (ops₁ ++ ops₂)) (hrun : runOps a s ops₁ = some (rs₁, s₁)) :
    (∃ c', At s₁.clients i c' ∧ ident c' = ident c) ∧ s₁.isClientConnected id = true ∧
      (∀ ad o, ServerResult.clientDisconnected id ad o ∉ rs₁) ∧ ServerInv s₁ :=
  never_timed_out a hi hc hid (fresh_prefix hfresh) hrun

theorem fresh_step {a : AEAD} {id : Nat} {s : NetcodeServer} {last : Nat} {op : Op} {rest : List Op} :
    Fresh a id s last (op :: rest) ↔
      opAllowed a id s last op = true ∧
      ∀ r s', step a s op = some (r, s') → Fresh a id s' (lastAfter a id s last op) rest := fresh_cons

theorem allowed_updateClient {a : AEAD} {id : Nat} {s : NetcodeServer} {last : Nat} {c : Connection}
    (h : findClientById s.clients id = some c) :
    opAllowed a id s last (.updateClient id) = true ↔
      (c.timeoutSeconds ≤ 0 ∨ s.currentTime ≤ last + fromSecs c.timeoutSeconds.toNat) := by
  simp only [opAllowed, h, decide_eq_true_eq, forall_const]
theorem allowed_updateClient_other {a : AEAD} {id id' : Nat} {s : NetcodeServer} {last : Nat} (h : id' ≠ id) :
    opAllowed a id s last (.updateClient id') = true := by
  simp only [opAllowed]
  split <;> simp [h]
theorem allowed_disconnect {a : AEAD} {id id' : Nat} {s : NetcodeServer} {last : Nat} :
    opAllowed a id s last (.disconnect id') = true ↔ id' ≠ id := by
  simp only [opAllowed, decide_eq_true_eq]
theorem allowed_packet {a : AEAD} {id : Nat} {s : NetcodeServer} {last : Nat} {c : Connection} {addr : Addr}
    {buf : Bytes} (h : findClientById s.clients id = some c) :
    opAllowed a id s last (.packet addr buf) = true ↔ ¬ (c.addr = addr ∧ AuthDisconnect a s c buf) := by
  simp only [opAllowed, h, Bool.not_eq_true', Bool.and_eq_false_imp, decide_eq_true_eq, ← authDisconnectB_iff, not_and,
    Bool.not_eq_true]
theorem allowed_update {a : AEAD} {id : Nat} {s : NetcodeServer} {last d : Nat} :
    opAllowed a id s last (.update d) = true := rfl
theorem allowed_setMaxClients {a : AEAD} {id : Nat} {s : NetcodeServer} {last m : Nat} :
    opAllowed a id s last (.setMaxClients m) = true := rfl
theorem allowed_sendPayload {a : AEAD} {id id' : Nat} {s : NetcodeServer} {last : Nat} {p : Bytes} :
    opAllowed a id s last (.sendPayload id' p) = true := rfl

theorem lastAfter_packet {a : AEAD} {id : Nat} {s : NetcodeServer} {last : Nat} {c : Connection} {addr : Addr}
    {buf : Bytes} (h : findClientById s.clients id = some c) :
    (c.addr = addr ∧ Authentic a s c buf → lastAfter a id s last (.packet addr buf) = s.currentTime) ∧
    (¬ (c.addr = addr ∧ Authentic a s c buf) → lastAfter a id s last (.packet addr buf) = last) := by
  have e : refreshes a id s (.packet addr buf) = true ↔ c.addr = addr ∧ Authentic a s c buf := by
    simp only [refreshes, h, Bool.and_eq_true, decide_eq_true_eq, authenticB_iff]
  unfold lastAfter
  exact ⟨fun hp => if_pos (e.mpr hp), fun hn => if_neg (mt e.mp hn)⟩
theorem lastAfter_other {a : AEAD} {id : Nat} {s : NetcodeServer} {last : Nat} {op : Op}
    (h : ∀ addr buf, op ≠ .packet addr buf) : lastAfter a id s last op = last := by
  cases op with
  | packet addr buf => exact absurd rfl (h addr buf)
  | _ => rfl

/-! ## B. the handshake through `update`

  Vocabulary (Lemmas/NcLive2.lean):
  * `TokOK a s0 t expire xnonce` — `AEAD.Laws`; the private token `t` is well-formed, `xnonce` has 24 bytes, expiry
    and protocol id fit `u64`, (secure mode) the token lists a public address of the server configuration `s0`;
  * `CliReq a s0 t expire xnonce c` — the client is in `SendingConnectionRequest` with a connect token whose private
    part is `t` sealed under `s0`'s key (`TokenFor`), its send timer is not in the future, its replay window is empty
    (`cliReq_of_new`: true of `NetcodeClient::new`);
  * `SrvOpen a s0 addr t expire xnonce s` — `ServerInv s`, configuration of `s0`, neither `addr` nor `t.clientId`
    connected, fewer than the maximum *other* half-open sessions, the token's MAC not bound to another address, fewer
    than `max_clients` connected (`srvOpen_of_fresh`: follows from the hypotheses of `handshake_round_partial`);
  * `Budget t expire c s T N` — `T` more nanoseconds and `N` more rounds may pass: the client's token window stays
    open and its silence time-out does not fire (`CBudget`), the server's clock stays below the token's expiry second,
    the token's timeout (as the server will apply it to the session) does not fire, no `Duration` / `u64` overflow;
  * `round a addr me id f d (c, s)` — one round of `d` ns with fate `f` (`delivered`, `upLost`, `downLost`) between the
    client (seen by the server as `addr`) and the server listening on `me`; `runRounds` — a schedule of rounds;
  * `Established addr t expire c s` — the client is `Connected`, the server holds a session whose identity (id, user
    data, keys, timeout, expiry) is the token's and whose address is `addr`. -/

section B
variable {a : AEAD} {s0 : NetcodeServer} {addr me : Addr} {t : PrivateConnectToken} {expire : Nat} {xnonce : Bytes}

/-- **B1 `handshake_through_update`** — `C18P.handshake_round_partial` re-derived through `update`: from a client
    that has not sent anything yet and an open server, **two delivered rounds of arbitrary lengths `d₁`, `d₂`**
    (within the budgets) connect both sides; elapsed time `d₁ + d₂` on both clocks.  Round 1: the client's `update`
    passes the time-out checks and the (open) send-rate gate and emits the request, the server answers with the
    challenge, the client moves to `SendingConnectionResponse` and clears its send timer.  Round 2: the client's
    `update` emits the response at once (gate open whatever `d₂` is), the server reports `ClientConnected` with a
    keep-alive, on which the client becomes `Connected`. -/
theorem handshake_through_update (hT : TokOK a s0 t expire xnonce) {c0 : NetcodeClient} {s : NetcodeServer} {d₁ d₂ : Nat}
    (hc : CliReq a s0 t expire xnonce c0) (hsend : c0.lastPacketSendTime = none) (hme : c0.serverAddr = me)
    (hs : SrvOpen a s0 addr t expire xnonce s) (hb : Budget t expire c0 s (d₁ + d₂) 2) :
    ∃ c1 s1 c2 s2, round a addr me t.clientId .delivered d₁ (c0, s) = some (c1, s1) ∧
      c1.state = .sendingConnectionResponse ∧
      round a addr me t.clientId .delivered d₂ (c1, s1) = some (c2, s2) ∧
      Established addr t expire c2 s2 ∧ s2.isClientConnected t.clientId = true ∧
      c2.currentTime = c0.currentTime + d₁ + d₂ ∧ s2.currentTime = s.currentTime + d₁ + d₂ := by
  obtain ⟨c1, s1, c2, s2, hr1, hst1, hr2, hsteady, ht, hs'⟩ := NcLive3.handshake_steady (me := me) (N := 0) hT hc hsend hme hs hb
  have hest := hsteady.established
  exact ⟨c1, s1, c2, s2, hr1, hst1, hr2, hest, hest.isClientConnected, ht, hs'⟩

/-- **retransmission, request**: a client still in the request phase (its request, or the challenge, was lost) emits
    the request again at its next `update(d)` with `d` ≥ the send rate, with a fresh sequence number -/
theorem request_retransmitted (hT : TokOK a s0 t expire xnonce) {c : NetcodeClient} {T d : Nat}
    (hc : CliReq a s0 t expire xnonce c) (hb : CBudget c T) (hd : d ≤ T) (hrate : c.sendRate ≤ d)
    (hseq : c.sequence < U64_MAX) :
    c.update a d = .ok (some (requestBytes a s0 t expire xnonce, c.serverAddr),
      { c with currentTime := c.currentTime + d, lastPacketSendTime := some (c.currentTime + d)
               sequence := c.sequence + 1 }) :=
  update_sends_request a hT.laws hc.tok hT.wf hT.xn hc.st hb hd hseq hc.sendLe (gateOpen_of_rate hrate hc.sendLe)

/-- **retransmission, response**: a client still in the response phase (its response, or the keep-alive, was lost)
    emits the response — same challenge token, current (fresh) sequence number — again -/
theorem response_retransmitted (hT : TokOK a s0 t expire xnonce) {c : NetcodeClient} {T d : Nat}
    (hc : CliResp a s0 t expire xnonce c) (hb : CBudget c T) (hd : d ≤ T) (hrate : c.sendRate ≤ d)
    (hseq : c.sequence < U64_MAX) :
    c.update a d = .ok (some (Packet.sealedBytes a
        (.response c.challengeTokenSequence (challengeToken a s0 t.clientId t.userData c.challengeTokenSequence))
        s0.protocolId c.sequence t.clientToServerKey, c.serverAddr),
      { c with currentTime := c.currentTime + d, lastPacketSendTime := some (c.currentTime + d)
               sequence := c.sequence + 1 }) := by
  rw [← responseBytes_eq hc]
  have htd : c.challengeTokenData.length = 300 := by
    rw [hc.td]; exact challengeToken_length a hT.laws s0 t.clientId hT.wf.userData _
  exact update_sends_response a hc.st htd hb hd hseq hc.sendLe (gateOpen_of_rate hrate hc.sendLe)

/-- **a repeated request gets a challenge again**: an open server — whether or not it already holds a half-open
    session for the address, whether or not the token is already bound to it — answers the request with a challenge
    (next challenge sequence number), (re)creates the half-open session stamped `now`, and stays open -/
theorem repeated_request_challenged (hT : TokOK a s0 t expire xnonce) {s : NetcodeServer}
    (hs : SrvOpen a s0 addr t expire xnonce s) (hg : s.globalSequence < U64_MAX) (hc : s.challengeSequence < U64_MAX)
    (hnow : asSecs s.currentTime < expire) :
    ∃ s', s.processPacket a addr (requestBytes a s0 t expire xnonce) =
        .ok (.packetToSend addr (challengeBytes a s t), s') ∧
      SrvOpen a s0 addr t expire xnonce s' ∧
      pendingFind s'.pendingClients addr = some (mkPending s.currentTime addr expire t) ∧
      s'.challengeSequence = s.challengeSequence + 1 ∧ s'.globalSequence = s.globalSequence + 1 ∧
      s'.currentTime = s.currentTime := hs.request hT hg hc hnow

/-- **a duplicate delivery of the same request datagram also gets a challenge** -/
theorem duplicate_request_challenged (hT : TokOK a s0 t expire xnonce) {s : NetcodeServer}
    (hs : SrvOpen a s0 addr t expire xnonce s) (hg : s.globalSequence + 1 < U64_MAX)
    (hc : s.challengeSequence + 1 < U64_MAX) (hnow : asSecs s.currentTime < expire) :
    ∃ s' s'', s.processPacket a addr (requestBytes a s0 t expire xnonce) =
        .ok (.packetToSend addr (challengeBytes a s t), s') ∧
      s'.processPacket a addr (requestBytes a s0 t expire xnonce) =
        .ok (.packetToSend addr (challengeBytes a s' t), s'') ∧
      SrvOpen a s0 addr t expire xnonce s'' ∧
      pendingFind s''.pendingClients addr = some (mkPending s.currentTime addr expire t) ∧
      s''.challengeSequence = s.challengeSequence + 2 := by
  obtain ⟨s', h1, hs', _, hcs, hgs, htm⟩ := hs.request hT (by omega) (by omega) hnow
  obtain ⟨s'', h2, hs'', hpf, hcs', _, _⟩ := hs'.request hT (by omega) (by omega) (by rw [htm]; exact hnow)
  exact ⟨s', s'', h1, h2, hs'', by rw [hpf, htm], by rw [hcs', hcs]⟩

/-- **B2 `handshake_despite_loss`** — a lossless round after any number of lossy rounds still connects.

    Schedule: `l₁` (any number of rounds in which the client hears nothing: `upLost` = its datagram is lost,
    `downLost` = the datagram arrives but the server's answer is lost; any durations, also below the send rate), a
    delivered round `d₁`, `l₂` (again lossy rounds: lost responses, or a response that arrives but whose
    `ClientConnected` keep-alive is lost — then the server already holds the session and ignores the repeated
    responses), a delivered round `d₂`.  The delivered rounds are at least the send rate long (so the client's gate
    is open and, in the lost-keep-alive case, the server's keep-alive is due).  `Budget`: the whole schedule fits the
    token's window, the client's and the server's time-outs, and the counters.

    Then the schedule runs and ends with both sides connected, after exactly the schedule's total time. -/
theorem handshake_despite_loss (hT : TokOK a s0 t expire xnonce) {c0 : NetcodeClient} {s : NetcodeServer}
    {l₁ l₂ : List (Fate × Nat)} {d₁ d₂ : Nat} (hc : CliReq a s0 t expire xnonce c0) (hme : c0.serverAddr = me)
    (hs : SrvOpen a s0 addr t expire xnonce s) (hl₁ : Lossy l₁) (hl₂ : Lossy l₂)
    (hr₁ : c0.sendRate ≤ d₁) (hr₂ : c0.sendRate ≤ d₂) (hr₂' : Netcode.C.NETCODE_SEND_RATE_NS ≤ d₂)
    (hb : Budget t expire c0 s (totalTime l₁ + d₁ + totalTime l₂ + d₂) (l₁.length + l₂.length + 2)) :
    ∃ c' s', runRounds a addr me t.clientId (l₁ ++ (.delivered, d₁) :: (l₂ ++ [(.delivered, d₂)])) (c0, s) =
        some (c', s') ∧
      Established addr t expire c' s' ∧ s'.isClientConnected t.clientId = true ∧
      c'.currentTime = c0.currentTime + (totalTime l₁ + d₁ + totalTime l₂ + d₂) ∧
      s'.currentTime = s.currentTime + (totalTime l₁ + d₁ + totalTime l₂ + d₂) := by
  obtain ⟨c1, s1, hrun1, hc1, hs1, hb1, hsame1, ht1, hst1⟩ := run_lossy (Q := fun _ _ => SrvOpen a s0 addr t expire xnonce)
    (round_req_lossy (me := me) hT) l₁ (N := l₂.length + 2) hc hs (hb.weaken (by omega)) (by omega) hl₁
  have hme1 : c1.serverAddr = me := by rw [hsame1.srv]; exact hme
  obtain ⟨s2, hr2, hc2, hs2, hp2, hb2, hst2⟩ := round_req_delivered (me := me) (N := l₂.length + 1)
    (d := d₁) hT hc1 hs1 hb1 (by omega) hme1 (gateOpen_of_rate (by rw [hsame1.rate]; exact hr₁) hc1.sendLe)
  obtain ⟨c3, s3, hrun3, hc3, hs3, hb3, hsame3, ht3, hst3⟩ := run_lossy (Q := RespSrv a s0 addr t expire xnonce)
    (round_resp_lossy (me := me) hT) l₂ (N := 1) hc2 (Or.inl ⟨hs2, _, hp2, rfl, rp_new_fresh⟩) (hb2.weaken (by omega))
    (by omega) hl₂
  obtain ⟨c4, s4, hr4, hest, ht4, hst4⟩ := NcLive3.round_resp_final (me := me) (N := 0) (d := d₂) hT hc3 hs3 hb3 (by omega)
    (by rw [hsame3.srv]; exact hme1)
    (gateOpen_of_rate (by rw [hsame3.rate.trans hsame1.rate]; exact hr₂) hc3.sendLe) hr₂'
  refine ⟨c4, s4, ?_, hest, hest.isClientConnected, ?_, by rw [hst4, hst3, hst2, hst1]; omega⟩
  · rw [runRounds_append, hrun1]
    simp only [Option.bind_some, runRounds, hr2, runRounds_append, hrun3, hr4]
  · rw [ht4, ht3]
    show c1.currentTime + d₁ + _ + _ = _
    rw [ht1]; omega

/-- **B3 `failover_connects`** — two-address token, first server silent.

    The client talks to an address that is not this server's (`c0.serverAddr ≠ me`): whatever it sends during the
    schedule `pre` is never answered (`Budget … (totalTime pre) …`: during `pre` neither its token window closes nor its
    time-out fires).  In the next round `d₁` the time-out fires (`hto`) with token time left (`hwin`): the client's
    `update` gives up on that server, moves to the next listed address — this server, `hnext` — resets its timers and
    sends the request there in the same call (`C18.failover` is that client step); the server answers with the
    challenge.  One more delivered round `d₂` completes the handshake as in B1.  (`hd₂…`, `hcclk`, `hsclk`, `hsexp`:
    the second attempt fits the token's time-out and window and the two clocks.) -/
theorem failover_connects (hT : TokOK a s0 t expire xnonce) {c0 : NetcodeClient} {s : NetcodeServer}
    {pre : List (Fate × Nat)} {d₁ d₂ : Nat} (hc : CliReq a s0 t expire xnonce c0) (hne : c0.serverAddr ≠ me)
    (hnext : c0.connectToken.serverAddresses[c0.serverAddrIndex + 1]? = some (some me))
    (hidx : c0.serverAddrIndex + 1 < Netcode.C.NETCODE_TOKEN_MAX_ADDRESSES)
    (hs : SrvOpen a s0 addr t expire xnonce s)
    (hb : Budget t expire c0 s (totalTime pre) (pre.length + 2))
    (hto : c0.connectToken.timeoutSeconds > 0 ∧
      c0.lastPacketReceivedTime + fromSecs c0.connectToken.timeoutSeconds.toNat < c0.currentTime + totalTime pre + d₁)
    (hwin : asSecs (c0.currentTime + totalTime pre + d₁ - c0.connectStartTime) < tokenWindow c0)
    (hd₂c : d₂ ≤ fromSecs c0.connectToken.timeoutSeconds.toNat) (hd₂w : asSecs d₂ < tokenWindow c0)
    (hd₂s : t.timeoutSeconds ≤ 0 ∨ d₂ ≤ fromSecs t.timeoutSeconds.toNat)
    (hcclk : c0.currentTime + totalTime pre + d₁ + d₂ + fromSecs c0.connectToken.timeoutSeconds.toNat ≤ DURATION_MAX)
    (hsclk : s.currentTime + totalTime pre + d₁ + d₂ + fromSecs (2 ^ 31) ≤ DURATION_MAX)
    (hsexp : asSecs (s.currentTime + totalTime pre + d₁ + d₂) < expire) :
    ∃ c1 s1 c2 s2 c3 s3, runRounds a addr me t.clientId pre (c0, s) = some (c1, s1) ∧
      c1.state = .sendingConnectionRequest ∧ c1.serverAddr = c0.serverAddr ∧
      round a addr me t.clientId .delivered d₁ (c1, s1) = some (c2, s2) ∧
      c2.state = .sendingConnectionResponse ∧ c2.serverAddr = me ∧
      c2.connectStartTime = c0.currentTime + totalTime pre + d₁ ∧
      round a addr me t.clientId .delivered d₂ (c2, s2) = some (c3, s3) ∧
      runRounds a addr me t.clientId (pre ++ [(.delivered, d₁), (.delivered, d₂)]) (c0, s) = some (c3, s3) ∧
      Established addr t expire c3 s3 ∧ s3.isClientConnected t.clientId = true ∧
      c3.currentTime = c0.currentTime + totalTime pre + d₁ + d₂ := by
  -- `pre` and the round `d₁` are the one attempt at the silent server; the walk has no earlier attempts
  have e : totalTime (NcLive4.walkSched ([] ++ [⟨pre, .delivered, d₁, me⟩])) = totalTime pre + d₁ := by
    show totalTime (pre ++ [(.delivered, d₁)]) = _
    rw [totalTime_append]; rfl
  have hτ : NcLive4.tmo c0 = fromSecs c0.connectToken.timeoutSeconds.toNat := rfl
  have hq : c0.currentTime + totalTime pre ≤ c0.lastPacketReceivedTime + NcLive4.tmo c0 := by
    rcases hb.cb.alive with h | h
    · exact absurd hto.1 (by omega)
    · exact h
  have h1 := hb.cseq; have h2 := hb.gseq; have h3 := hb.chseq
  obtain ⟨c1, s1, c2, s2, c3, s3, r1, st1, ad1, _, _, r2, st2, ad2, _, cs2, _, r3, run, hest, hconn, ht3, _⟩ :=
    NcLive4.walk_connects (me := me) hT [] ⟨pre, .delivered, d₁, me⟩ hc hto.1 hb.cb.start hb.cb.recv
      ⟨⟨hq, hto.2, hwin⟩, fun _ h => nomatch h⟩ rfl rfl hne (fun _ h => nomatch h) ⟨hnext, trivial⟩ hidx hs hd₂c hd₂w hd₂s
      (by rw [e]; omega) (by rw [e]; omega) (by rw [e, ← Nat.add_assoc]; exact hsexp)
      (by show c0.sequence + (pre ++ [(Fate.delivered, d₁)]).length + 1 < U64_MAX
          rw [List.length_append, List.length_singleton]; omega)
      (by omega) (by omega)
  rw [e] at ht3
  rw [e, ← Nat.add_assoc] at cs2
  refine ⟨c1, s1, c2, s2, c3, s3, r1, st1, ad1, r2, st2, ad2, cs2, r3, ?_, hest, hconn, by omega⟩
  rw [← run]
  show _ = runRounds a addr me t.clientId ((pre ++ [(.delivered, d₁)]) ++ [(.delivered, d₂)]) (c0, s)
  rw [List.append_assoc]; rfl

theorem established_session {c : NetcodeClient} {s : NetcodeServer} (h : Established addr t expire c s) :
    c.state = .connected ∧ ServerInv s ∧ s.isClientConnected t.clientId = true ∧
    ∃ i cn, At s.clients i cn ∧ cn.clientId = t.clientId ∧ cn.addr = addr ∧ cn.userData = t.userData ∧
      cn.sendKey = t.serverToClientKey ∧ cn.receiveKey = t.clientToServerKey ∧
      cn.timeoutSeconds = t.timeoutSeconds ∧ cn.expireTimestamp = expire := by
  obtain ⟨h1, h2, i, cn, h3, h4⟩ := h
  exact ⟨h1, h2, Established.isClientConnected ⟨h1, h2, i, cn, h3, h4⟩, i, cn, h3, identT_fields h4⟩

/-- **B1 from the initial client state** — `handshake_through_update` with its hypotheses spelled out in the terms of
    `C18P.handshake_round_partial`: the client is what `NetcodeClient::new(tm, token)` returns, for a token whose
    private part is `t` sealed under the server's key and whose first address is the server's (`me`); the server
    satisfies the hypotheses of `handshake_round_partial` (neither address nor id connected, no half-open session of
    the address, room, token not bound elsewhere, a slot free); two rounds of `d₁` and `d₂` ns fit the token's window
    and time-out, the server's clock stays below the token's expiry second, and the counters have room. -/
theorem handshake_from_new (hl : a.Laws) {s : NetcodeServer} {tm : Nat} {ct : ConnectToken} {c0 : NetcodeClient} {d₁ d₂ : Nat}
    (hi : ServerInv s) (hwf : NcAead.Token.PTokenWF t) (hxn : xnonce.length = 24) (hexp : expire < 2 ^ 64)
    (hpid : s.protocolId < 2 ^ 64)
    (hhost : s.secure = true → ∃ x, some x ∈ t.serverAddresses ∧ x ∈ s.publicAddresses)
    (hfa : findClientByAddr s.clients addr = none) (hfi : findClientById s.clients t.clientId = none)
    (hpf : pendingFind s.pendingClients addr = none)
    (hroom : s.pendingClients.length < Netcode.C.NETCODE_MAX_PENDING_CLIENTS)
    (hbind : (s.findOrAddConnectTokenEntry ⟨s.currentTime, addr, tokenMac (sealedPriv a s t expire xnonce)⟩).2 = true)
    (hlt : countConnected s.clients < s.maxClients)
    (hnew : NetcodeClient.new tm ct = .ok c0) (htok : TokenFor a s t expire xnonce ct)
    (hme : ct.serverAddresses.head? = some (some me))
    (hg : s.globalSequence + 2 < U64_MAX) (hc : s.challengeSequence + 2 < U64_MAX)
    (hcclk : tm + (d₁ + d₂) + fromSecs ct.timeoutSeconds.toNat ≤ DURATION_MAX)
    (hwin : asSecs (d₁ + d₂) < ct.expireTimestamp - ct.createTimestamp)
    (hctmo : ct.timeoutSeconds ≤ 0 ∨ d₁ + d₂ ≤ fromSecs ct.timeoutSeconds.toNat)
    (hsclk : s.currentTime + (d₁ + d₂) + fromSecs (2 ^ 31) ≤ DURATION_MAX)
    (hsexp : asSecs (s.currentTime + (d₁ + d₂)) < expire)
    (hstmo : t.timeoutSeconds ≤ 0 ∨ d₁ + d₂ ≤ fromSecs t.timeoutSeconds.toNat) :
    ∃ c1 s1 c2 s2, round a addr me t.clientId .delivered d₁ (c0, s) = some (c1, s1) ∧
      c1.state = .sendingConnectionResponse ∧
      round a addr me t.clientId .delivered d₂ (c1, s1) = some (c2, s2) ∧
      c2.state = .connected ∧ s2.isClientConnected t.clientId = true ∧
      (∃ i cn, At s2.clients i cn ∧ cn.clientId = t.clientId ∧ cn.addr = addr ∧ cn.userData = t.userData) ∧
      c2.currentTime = tm + d₁ + d₂ ∧ s2.currentTime = s.currentTime + d₁ + d₂ := by
  obtain ⟨hc0, k1, k2, k3, k4, k5, k6, k7, k8, k9⟩ := cliReq_of_new (a := a) (s0 := s) (t := t) (expire := expire)
    (xnonce := xnonce) hnew htok
  have hme0 : c0.serverAddr = me := by
    rw [hme] at k9
    simp only [Option.some.injEq] at k9
    exact k9.symm
  have hb : Budget t expire c0 s (d₁ + d₂) 2 := by
    refine ⟨⟨by rw [k3, k6]; exact hcclk, by rw [k3, k4]; exact Nat.le_refl _, by rw [k3, k5]; exact Nat.le_refl _, ?_, ?_⟩,
      hsclk, hsexp, hstmo, by rw [k7]; decide, hg, hc⟩
    · unfold tokenWindow
      rw [k3, k4, k6, Nat.add_sub_cancel_left]; exact hwin
    · rw [k3, k5, k6]
      rcases hctmo with h | h
      · exact Or.inl h
      · exact Or.inr (by omega)
  obtain ⟨c1, s1, c2, s2, h1, h2, h3, h4, h5, h6, h7⟩ := handshake_through_update (me := me)
    ⟨hl, hwf, hxn, hexp, hpid, hhost⟩ hc0 k1 hme0 (srvOpen_of_fresh hi hfa hfi hpf hroom hbind hlt) hb
  obtain ⟨e1, _, _, i, cn, e2, e3, e4, e5, _⟩ := established_session h4
  exact ⟨c1, s1, c2, s2, h1, h2, h3, e1, h5, ⟨i, cn, e2, e3, e4, e5⟩, by rw [h6, k3], h7⟩

end B

/-! ## examples: the hypotheses are satisfiable (worlds of Lemmas/NcExamples.lean and Props/C18P.lean) -/
section Examples
open Ex

/-- A is connected in `s2` (slot 0, receive timer 0, timeout 5 s).  4 s pass, an authentic keep-alive of A arrives
    (`last` := 4 s), the server ticks A, 5 more seconds pass (now 9 s = `last` + timeout: the boundary), a forged
    keep-alive arrives (does not count), tick, client B starts a handshake, a payload goes to A, `disconnect 12`,
    `set_max_clients 3`, tick. -/
def traceA : List Op :=
  [.update 4000000000, .packet addrA kaFromA, .updateClient 11, .update 5000000000, .packet addrA forgedKa,
   .updateClient 11, .packet addrB reqB, .sendPayload 11 [9, 9], .disconnect 12, .setMaxClients 3, .updateClient 11]

theorem traceA_ok : Fresh Ex.a 11 s2 connA.lastPacketReceivedTime traceA ∧ (runOps Ex.a s2 traceA).isSome = true := by
  decide +kernel
theorem traceA_fresh : Fresh Ex.a 11 s2 connA.lastPacketReceivedTime traceA := traceA_ok.1
theorem traceA_runs : (runOps Ex.a s2 traceA).isSome = true := traceA_ok.2

example : ∃ rs s', runOps Ex.a s2 traceA = some (rs, s') ∧ (∃ c', At s'.clients 0 c' ∧ ident c' = ident connA) ∧
    s'.isClientConnected 11 = true ∧ (∀ ad o, ServerResult.clientDisconnected 11 ad o ∉ rs) := by
  cases h : runOps Ex.a s2 traceA with
  | none => have := traceA_runs; rw [h] at this; cases this
  | some x =>
    obtain ⟨rs, s'⟩ := x
    obtain ⟨h1, h2, h3, _⟩ := never_timed_out Ex.a inv_s2 (i := 0) (c := connA) rfl rfl traceA_fresh h
    exact ⟨rs, s', rfl, h1, h2, h3⟩
/-- … and in the middle of the trace -/
example : ∀ rs s', runOps Ex.a s2 (traceA.take 6) = some (rs, s') → s'.isClientConnected 11 = true :=
  fun rs s' h => (never_timed_out_throughout Ex.a inv_s2 (i := 0) (c := connA) (ops₁ := traceA.take 6)
    (ops₂ := traceA.drop 6) rfl rfl (by rw [List.take_append_drop]; exact traceA_fresh) h).2.1
/-- the hypothesis is not vacuous the other way either: without the keep-alive the second tick is not fresh, and
    a `disconnect 11` or A's own Disconnect packet is not allowed -/
example : ¬ Fresh Ex.a 11 s2 0 [.update 4000000000, .updateClient 11, .update 5000000000, .updateClient 11] := by
  decide +kernel
example : ¬ Fresh Ex.a 11 s2 0 [.disconnect 11] := by decide +kernel
example : Fresh Ex.a 11 s2 0 [.disconnect 12, .update 5000000000, .updateClient 11] := by decide +kernel

/-! the handshake examples use the model's toy AEAD (`AEAD.toy_laws`), the server `s0` (listening on `srvAddr`), client
    A's private token `privA` (id 11, timeout 5 s, 30 s window) and the client `C18P.cT` holding it; the server sees the
    client at `addrA` -/

theorem tokOK_toy : TokOK AEAD.toy s0 privA 30 xnA :=
  ⟨AEAD.toy_laws, C18P.privA_wf, rfl, by decide, by decide, fun _ => ⟨srvAddr, by simp [privA], by simp [s0]⟩⟩
theorem cliReq_cT : CliReq AEAD.toy s0 privA 30 xnA C18P.cT :=
  ⟨rfl, ⟨rfl, rfl, rfl, rfl, rfl, rfl⟩, (fun _ e => by cases e), rp_new_fresh⟩
theorem srvOpen_s0 : SrvOpen AEAD.toy s0 addrA privA 30 xnA s0 :=
  srvOpen_of_fresh s0_empty.inv rfl rfl rfl (by decide) (by decide +kernel) (by decide)

/-- B1: a first round of 100 ms and a second of 16 ms connect both sides -/
example : ∃ c1 s1 c2 s2, round AEAD.toy addrA srvAddr privA.clientId .delivered 100000000 (C18P.cT, s0) = some (c1, s1) ∧
    c1.state = .sendingConnectionResponse ∧
    round AEAD.toy addrA srvAddr privA.clientId .delivered 16000000 (c1, s1) = some (c2, s2) ∧
    Established addrA privA 30 c2 s2 ∧ s2.isClientConnected privA.clientId = true ∧
    c2.currentTime = C18P.cT.currentTime + 100000000 + 16000000 ∧
    s2.currentTime = s0.currentTime + 100000000 + 16000000 :=
  handshake_through_update (me := srvAddr) tokOK_toy cliReq_cT rfl rfl srvOpen_s0
    ⟨⟨by decide, by decide, by decide, by decide, Or.inr (by decide)⟩, by decide, by decide, Or.inr (by decide),
      by decide, by decide, by decide⟩

/-- … and from `NetcodeClient::new` with the raw hypotheses -/
theorem cT_new : NetcodeClient.new 0 C18P.cT.connectToken = .ok C18P.cT := by decide +kernel
example : ∃ c1 s1 c2 s2, round AEAD.toy addrA srvAddr privA.clientId .delivered 250000000 (C18P.cT, s0) = some (c1, s1) ∧
    c1.state = .sendingConnectionResponse ∧
    round AEAD.toy addrA srvAddr privA.clientId .delivered 250000000 (c1, s1) = some (c2, s2) ∧
    c2.state = .connected ∧ s2.isClientConnected privA.clientId = true ∧
    (∃ i cn, At s2.clients i cn ∧ cn.clientId = privA.clientId ∧ cn.addr = addrA ∧ cn.userData = privA.userData) ∧
    c2.currentTime = 0 + 250000000 + 250000000 ∧ s2.currentTime = s0.currentTime + 250000000 + 250000000 :=
  handshake_from_new (me := srvAddr) (t := privA) (expire := 30) (xnonce := xnA) AEAD.toy_laws s0_empty.inv
    C18P.privA_wf rfl (by decide) (by decide) (fun _ => ⟨srvAddr, by simp [privA], by simp [s0]⟩) rfl rfl rfl (by decide)
    (by decide +kernel) (by decide) cT_new ⟨rfl, rfl, rfl, rfl, rfl, rfl⟩ rfl (by decide) (by decide) (by decide)
    (by decide) (Or.inr (by decide)) (by decide) (by decide) (Or.inr (by decide))

/-- B2: request lost, challenge lost, delivered round, response lost, keep-alive lost, a round shorter than the send
    rate, delivered round — connected after 1.6 s -/
example : ∃ c' s', runRounds AEAD.toy addrA srvAddr privA.clientId
      ([(.upLost, 250000000), (.downLost, 250000000)] ++ (.delivered, 250000000) ::
        ([(.upLost, 250000000), (.downLost, 250000000), (.downLost, 100000000)] ++ [(.delivered, 250000000)]))
      (C18P.cT, s0) = some (c', s') ∧
    Established addrA privA 30 c' s' ∧ s'.isClientConnected privA.clientId = true ∧
    c'.currentTime = C18P.cT.currentTime + 1600000000 ∧ s'.currentTime = s0.currentTime + 1600000000 :=
  handshake_despite_loss (me := srvAddr) (l₁ := [(.upLost, 250000000), (.downLost, 250000000)])
    (l₂ := [(.upLost, 250000000), (.downLost, 250000000), (.downLost, 100000000)]) (d₁ := 250000000) (d₂ := 250000000)
    tokOK_toy cliReq_cT rfl srvOpen_s0 (by decide) (by decide) (by decide) (by decide) (by decide)
    ⟨⟨by decide, by decide, by decide, by decide, Or.inr (by decide)⟩, by decide, by decide, Or.inr (by decide),
      by decide, by decide, by decide⟩

/-- the single steps on the same values -/
example : C18P.cT.update AEAD.toy 250000000 = .ok (some (requestBytes AEAD.toy s0 privA 30 xnA, srvAddr),
    { C18P.cT with currentTime := 250000000, lastPacketSendTime := some 250000000, sequence := 1 }) :=
  request_retransmitted (T := 1000000000) tokOK_toy cliReq_cT
    ⟨by decide, by decide, by decide, by decide, Or.inr (by decide)⟩ (by decide) (by decide) (by decide)
example : ∃ s' s'', s0.processPacket AEAD.toy addrA (requestBytes AEAD.toy s0 privA 30 xnA) =
      .ok (.packetToSend addrA (challengeBytes AEAD.toy s0 privA), s') ∧
    s'.processPacket AEAD.toy addrA (requestBytes AEAD.toy s0 privA 30 xnA) =
      .ok (.packetToSend addrA (challengeBytes AEAD.toy s' privA), s'') ∧
    s''.challengeSequence = s0.challengeSequence + 2 := by
  obtain ⟨s', s'', h1, h2, _, _, h3⟩ := duplicate_request_challenged tokOK_toy srvOpen_s0 (by decide) (by decide) (by decide)
  exact ⟨s', s'', h1, h2, h3⟩

/-- B3: a token listing `srvAddr` (silent) and `srv2`; the server `sB` listens on `srv2` -/
def privF : PrivateConnectToken := ⟨11, 5, some srvAddr :: some srv2 :: List.replicate 30 none, kc2s, ks2c, udA⟩
def sB : NetcodeServer := { s0 with publicAddresses := [srv2] }
def cF2 : NetcodeClient :=
  { cA0 with connectToken := { tokenA with serverAddresses := some srvAddr :: some srv2 :: List.replicate 30 none
                                           privateData := sealedPriv AEAD.toy sB privF 30 xnA } }

theorem privF_wf : NcAead.Token.PTokenWF privF :=
  ⟨by decide, by decide, by decide,
    ⟨[srvAddr, srv2], by simp, by decide, by intro x hx; simp at hx; rcases hx with rfl | rfl <;> decide, rfl⟩,
    List.length_replicate, List.length_replicate, List.length_replicate⟩
theorem sB_empty : EmptyServer sB := ⟨rfl, by decide, rfl, 3, by decide, rfl⟩
theorem tokOK_F : TokOK AEAD.toy sB privF 30 xnA :=
  ⟨AEAD.toy_laws, privF_wf, rfl, by decide, by decide, fun _ => ⟨srv2, by simp [privF], by simp [sB]⟩⟩
theorem cliReq_cF2 : CliReq AEAD.toy sB privF 30 xnA cF2 :=
  ⟨rfl, ⟨rfl, rfl, rfl, rfl, rfl, rfl⟩, (fun _ e => by cases e), rp_new_fresh⟩
theorem srvOpen_sB : SrvOpen AEAD.toy sB addrA privF 30 xnA sB :=
  srvOpen_of_fresh sB_empty.inv rfl rfl rfl (by decide) (by decide +kernel) (by decide)

/-- two rounds of 2.5 s towards the silent first server (5 s = the time-out, not yet exceeded), then a 250 ms round in
    which the time-out fires and the request goes to `srv2`, then one more round: connected to `sB` after 5.5 s -/
example : ∃ c1 s1 c2 s2 c3 s3,
    runRounds AEAD.toy addrA srv2 privF.clientId [(.delivered, 2500000000), (.upLost, 2500000000)] (cF2, sB) = some (c1, s1) ∧
    c1.state = .sendingConnectionRequest ∧ c1.serverAddr = cF2.serverAddr ∧
    round AEAD.toy addrA srv2 privF.clientId .delivered 250000000 (c1, s1) = some (c2, s2) ∧
    c2.state = .sendingConnectionResponse ∧ c2.serverAddr = srv2 ∧
    c2.connectStartTime = cF2.currentTime + totalTime [(.delivered, 2500000000), (.upLost, 2500000000)] + 250000000 ∧
    round AEAD.toy addrA srv2 privF.clientId .delivered 250000000 (c2, s2) = some (c3, s3) ∧
    runRounds AEAD.toy addrA srv2 privF.clientId
      ([(.delivered, 2500000000), (.upLost, 2500000000)] ++ [(.delivered, 250000000), (.delivered, 250000000)])
      (cF2, sB) = some (c3, s3) ∧
    Established addrA privF 30 c3 s3 ∧ s3.isClientConnected privF.clientId = true ∧
    c3.currentTime = cF2.currentTime + totalTime [(.delivered, 2500000000), (.upLost, 2500000000)] + 250000000 + 250000000 :=
  failover_connects (me := srv2) (pre := [(.delivered, 2500000000), (.upLost, 2500000000)]) (d₁ := 250000000)
    (d₂ := 250000000) tokOK_F cliReq_cF2 (by decide) (by decide +kernel) (by decide) srvOpen_sB
    ⟨⟨by decide, by decide, by decide, by decide, Or.inr (by decide)⟩, by decide, by decide, Or.inr (by decide),
      by decide, by decide, by decide⟩
    ⟨by decide, by decide⟩ (by decide) (by decide) (by decide) (Or.inr (by decide)) (by decide) (by decide) (by decide)

end Examples

end RenetVerif.C18T
