/-
  `renetcode/src/server.rs` `NetcodeServer` (groups NcServerTypes, NcServerQuery, …) against `Netcode/Server.lean`.
  The ties themselves are in `Props/SrcTieNcServer*.lean`.
-/
import RenetVerif.Generated.Src.NcServerQuery
import RenetVerif.Netcode.Server
import RenetVerif.Lemmas.SrcEquiv.Prims
import RenetVerif.Lemmas.SrcEquiv.AddrRepr
import RenetVerif.Lemmas.SrcEquiv.Replay
import RenetVerif.Lemmas.SrcEquiv.TokenTable
namespace RenetVerif.SrcEquiv
open RenetVerif RenetVerif.RustSem RenetVerif.Netcode

section NcServer
open Src.renetcode.server

abbrev SConnection := Src.renetcode.server.Connection
abbrev SNetcodeServer := Src.renetcode.server.NetcodeServer

def reprCS : Netcode.ConnectionState → Src.renetcode.server.ConnectionState
  | .disconnected => .Disconnected
  | .pendingResponse => .PendingResponse
  | .connected => .Connected

def reprNConn (c : Netcode.Connection) : SConnection :=
  ⟨c.confirmed, c.clientId, reprCS c.state, toNats c.sendKey, toNats c.receiveKey, toNats c.userData, reprAddr c.addr,
   c.lastPacketReceivedTime, c.lastPacketSendTime, c.timeoutSeconds, c.sequence, c.expireTimestamp, reprRP c.replayProtection⟩

/-- the generated server: `out` is the scratch buffer `[u8; NETCODE_MAX_PACKET_BYTES]` that the model does not keep -/
def reprNS (out : List Nat) (s : Netcode.NetcodeServer) : SNetcodeServer :=
  ⟨s.clients.map (Option.map reprNConn), s.pendingClients.map (fun p => (reprAddr p.1, reprNConn p.2)),
   s.connectTokenEntries.map (Option.map reprEntry), s.protocolId, toNats s.connectKey, s.maxClients, s.challengeSequence,
   toNats s.challengeKey, s.publicAddresses.map reprAddr, s.currentTime, s.globalSequence, s.secure, out⟩

theorem reprNS_clients (out : List Nat) (s : Netcode.NetcodeServer) :
    (reprNS out s).clients = s.clients.map (Option.map reprNConn) := rfl

theorem find_mapM_slot {ε ρ : Type} (id : Nat)
    (body : Nat × Option SConnection → Exec ε ρ (Option Nat))
    (hsome : ∀ i (c : Netcode.Connection), body (i, some (reprNConn c)) = .val (if c.clientId = id then some i else none))
    (hnone : ∀ i, body (i, none) = .val none) :
    ∀ (clients : List (Option Netcode.Connection)) (i : Nat),
      RustSem.find_mapM (RustSem.enumerate.go i (clients.map (Option.map reprNConn))) body
        = .val (findClientSlotById.go id clients i) := by
  intro clients
  induction clients with
  | nil => intro i; rfl
  | cons c rest ih =>
    intro i
    cases c with
    | none =>
      simp only [List.map_cons, Option.map_none, RustSem.enumerate.go, RustSem.find_mapM, hnone, Exec.bind_val',
        findClientSlotById.go]
      exact ih (i + 1)
    | some c =>
      simp only [List.map_cons, Option.map_some, RustSem.enumerate.go, RustSem.find_mapM, hsome, Exec.bind_val',
        findClientSlotById.go]
      by_cases h : c.clientId = id
      · simp [h]
      · simp only [h, if_false]; exact ih (i + 1)

/-- the `enumerate().filter_map(..)` of `clients_slot` run from index `i` on: the occupied slots, shifted by `i` -/
theorem filter_mapM_slots {ε ρ : Type} (body : Nat × Option SConnection → Exec ε ρ (Option Nat))
    (hb : ∀ i o, body (i, o) = .val (if o.isSome then some i else none)) :
    ∀ (l : List (Option Netcode.Connection)) (i : Nat),
      RustSem.filter_mapM (RustSem.enumerate.go i (l.map (Option.map reprNConn))) body
        = .val (((List.range l.length).filter fun j => (l.getD j none).isSome).map (· + i)) := by
  intro l
  induction l with
  | nil => intro i; rfl
  | cons o r ih =>
    intro i
    have hm : ∀ F : List Nat, List.map (· + i) (List.map Nat.succ F) = List.map (· + (i + 1)) F := fun F => by
      rw [List.map_map]; exact List.map_congr_left fun j _ => Nat.succ_add_eq_add_succ j i
    simp only [List.map_cons, RustSem.enumerate.go, RustSem.filter_mapM, hb, Exec.bind_val', ih (i + 1), List.length_cons]
    rw [List.range_succ_eq_map, List.filter_cons, List.filter_map]
    cases o with
    | none => exact congrArg Exec.val (hm _).symm
    | some c =>
      rw [← hm]
      simp only [List.getD_cons_zero, Option.isSome_some, if_true, List.map_cons, Nat.zero_add]
      rfl

/-- the generated server during `update`: clock `now`, this pending table (already in generated form) -/
def nsU (out : List Nat) (s : Netcode.NetcodeServer) (now : Nat) (pend : RustSem.AMap RustSem.SocketAddr SConnection) : SNetcodeServer :=
  ⟨s.clients.map (Option.map reprNConn), pend,
   s.connectTokenEntries.map (Option.map reprEntry), s.protocolId, toNats s.connectKey, s.maxClients, s.challengeSequence,
   toNats s.challengeKey, s.publicAddresses.map reprAddr, now, s.globalSequence, s.secure, out⟩

theorem nsU_pending (out : List Nat) (s : Netcode.NetcodeServer) (now : Nat)
    (pend : RustSem.AMap RustSem.SocketAddr SConnection) : (nsU out s now pend).pending_clients = pend := rfl
theorem nsU_time (out : List Nat) (s : Netcode.NetcodeServer) (now : Nat)
    (pend : RustSem.AMap RustSem.SocketAddr SConnection) : (nsU out s now pend).current_time = now := rfl

/-- The loop over `pending_clients`, stated for a loop `x` known to be this `forRange` up to unfolding `nsU` (`hx` is
    closed by `rfl`): the generated text spells the state as a structure update of `reprNS out s`, which `rw` does not see
    as an `nsU`. -/
theorem pend_loop {ε ρ : Type} (out : List Nat) (s : Netcode.NetcodeServer) (now : Nat)
    (f : SConnection → SConnection) (body : Nat → SNetcodeServer → Exec ε ρ SNetcodeServer)
    (pend : List (RustSem.SocketAddr × SConnection)) (x : Exec ε ρ SNetcodeServer)
    (hx : RustSem.forRange 0 (RustSem.len (nsU out s now pend).pending_clients) (nsU out s now pend) body = x)
    (hb : ∀ (pre : List (RustSem.SocketAddr × SConnection)) (k : RustSem.SocketAddr) (c : SConnection)
        (rest : List (RustSem.SocketAddr × SConnection)),
      body pre.length (nsU out s now (pre ++ (k, c) :: rest)) = .val (nsU out s now (pre ++ (k, f c) :: rest))) :
    x = .val (nsU out s now (pend.map fun p => (p.1, f p.2))) := by
  have loop : ∀ (rest pre : List (RustSem.SocketAddr × SConnection)),
      RustSem.forRange.loop body rest.length pre.length (nsU out s now (pre ++ rest))
        = .val (nsU out s now (pre ++ rest.map fun p => (p.1, f p.2))) := by
    intro rest
    induction rest with
    | nil => intro pre; simp [RustSem.forRange.loop]
    | cons p rest ih =>
      intro pre
      have h2 := ih (pre ++ [(p.1, f p.2)])
      simp only [List.length_append, List.length_cons, List.length_nil, List.append_assoc, List.cons_append,
        List.nil_append] at h2
      simp only [List.length_cons, RustSem.forRange.loop, hb, Exec.bind_val', h2, List.map_cons]
  exact hx ▸ loop pend []

theorem filter_marked (now : Nat) : ∀ (l : List (Addr × Netcode.Connection)), (∀ p ∈ l, p.2.state ≠ .disconnected) →
    List.filter (fun x : RustSem.SocketAddr × SConnection =>
          decide (x.2.state ≠ Src.renetcode.server.ConnectionState.Disconnected))
        ((l.map fun (p : Addr × Netcode.Connection) => (reprAddr p.1, reprNConn p.2)).map fun p =>
          (p.1, if RustSem.Duration.as_secs now > p.2.expire_timestamp
            then { p.2 with state := Src.renetcode.server.ConnectionState.Disconnected } else p.2))
      = (l.filter fun p => !(decide (asSecs now > p.2.expireTimestamp))).map
          fun (p : Addr × Netcode.Connection) => (reprAddr p.1, reprNConn p.2) := by
  intro l
  induction l with
  | nil => intro _; rfl
  | cons p r ih =>
    intro hst
    have hp := hst p (by simp)
    have ih' := ih (fun q hq => hst q (by simp [hq]))
    simp only [List.map_cons, List.filter_cons]
    by_cases hexp : asSecs now > p.2.expireTimestamp
    · have : RustSem.Duration.as_secs now > (reprNConn p.2).expire_timestamp := hexp
      simp only [this, if_true, hexp, decide_true, Bool.not_true, Bool.false_eq_true, if_false, ne_eq,
        not_true_eq_false, decide_false]
      exact ih'
    · have : ¬ RustSem.Duration.as_secs now > (reprNConn p.2).expire_timestamp := hexp
      have hne : (reprNConn p.2).state ≠ Src.renetcode.server.ConnectionState.Disconnected := by
        simp only [reprNConn]; cases hs : p.2.state <;> simp [reprCS, hs] at hp ⊢
      simp only [this, if_false, hexp, decide_false, Bool.not_false, if_true, hne, ne_eq, not_false_eq_true, decide_true,
        List.map_cons]
      rw [ih']

end NcServer
end RenetVerif.SrcEquiv
