/-
  Netcode liveness, steady state (helper lemmas for Props/C18U.lean):
  Part A — a connected CLIENT survives whole traces of client operations as long as it is fresh at every `update`
           (client-side analogue of NcLive2 Part A);
  Part B — keep-alive traffic alone keeps an established session alive on both ends (rounds of NcLive2 Part B);
  Part C — a silent peer is reported exactly once.
-/
import RenetVerif.Lemmas.NcLive2
import RenetVerif.Lemmas.NcClientTrace
namespace RenetVerif.NcLive3
open RenetVerif RenetVerif.Netcode RenetVerif.Netcode.NS RenetVerif.NcLive2

/-! ## Part A : a fresh connected client survives every trace -/

/-- the operations of `NetcodeClient` (Netcode/Client.lean) other than `disconnect`: `update(d)`, `process_packet` on
    ANY bytes, `generate_payload_packet`.  (The remaining functions of the model client are constructors / pure
    observers.) -/
inductive COp where
  | update (d : Nat)
  | packet (buf : Bytes)
  | sendPayload (p : Bytes)
  deriving Repr, DecidableEq

inductive COut where
  /-- `update`: the datagram to send, if any -/
  | sent (o : Option (Bytes × Addr))
  /-- `process_packet`: the payload surfaced, if any -/
  | received (p : Option Bytes)
  /-- `generate_payload_packet`: `Ok((addr, datagram))` / `Err(e)` (state unchanged) -/
  | payload (r : Addr × Bytes)
  | payloadErr (e : NetcodeError)
  deriving Repr

/-- `none` = the call unwound -/
def cstep (a : AEAD) (c : NetcodeClient) : COp → Option (COut × NetcodeClient)
  | .update d =>
    match c.update a d with
    | .ok (o, c') => some (.sent o, c')
    | _ => none
  | .packet buf =>
    match c.processPacket a buf with
    | .ok (p, c') => some (.received p, c')
    | _ => none
  | .sendPayload p =>
    match c.generatePayloadPacket a p with
    | .ok (r, c') => some (.payload r, c')
    | .err e => some (.payloadErr e, c)
    | .panic _ => none

def runCOps (a : AEAD) : NetcodeClient → List COp → Option (List COut × NetcodeClient)
  | c, [] => some ([], c)
  | c, op :: rest =>
    match cstep a c op with
    | some (r, c') => (runCOps a c' rest).map fun x => (r :: x.1, x.2)
    | none => none

/-- `Packet::decode` as `NetcodeClient::process_packet` calls it: the token's protocol id, the server-to-client key,
    the client's replay window -/
def cDecode (a : AEAD) (c : NetcodeClient) (buf : Bytes) : Res NetcodeError (Nat × Packet) × Option RP :=
  Packet.decode a buf c.connectToken.protocolId (some c.connectToken.serverToClientKey) (some c.replayProtection)

/-- the datagram is **authentic for the client**: it decodes — under the server-to-client key, with the sequence number
    passing the client's replay window — to a KeepAlive or a Payload -/
def CAuthentic (a : AEAD) (c : NetcodeClient) (buf : Bytes) : Prop :=
  ∃ sq pk, (cDecode a c buf).1 = .ok (sq, pk) ∧ (pk.packetType = .keepAlive ∨ pk.packetType = .payload)

def CAuthDisconnect (a : AEAD) (c : NetcodeClient) (buf : Bytes) : Prop :=
  ∃ sq, (cDecode a c buf).1 = .ok (sq, .disconnect)

def cAuthenticB (a : AEAD) (c : NetcodeClient) (buf : Bytes) : Bool :=
  match (cDecode a c buf).1 with
  | .ok (_, pk) => decide (pk.packetType = .keepAlive) || decide (pk.packetType = .payload)
  | _ => false

def cAuthDisconnectB (a : AEAD) (c : NetcodeClient) (buf : Bytes) : Bool :=
  match (cDecode a c buf).1 with
  | .ok (_, .disconnect) => true
  | _ => false

theorem cAuthenticB_iff {a : AEAD} {c : NetcodeClient} {buf : Bytes} :
    cAuthenticB a c buf = true ↔ CAuthentic a c buf := by
  unfold cAuthenticB CAuthentic
  cases (cDecode a c buf).1 with
  | panic m => simp
  | err e => simp
  | ok sp =>
    obtain ⟨sq, pk⟩ := sp
    simp only [Bool.or_eq_true, decide_eq_true_eq, Res.ok.injEq, Prod.mk.injEq]
    constructor
    · intro h; exact ⟨sq, pk, ⟨rfl, rfl⟩, h⟩
    · rintro ⟨_, _, ⟨_, rfl⟩, h⟩; exact h

theorem cAuthDisconnectB_iff {a : AEAD} {c : NetcodeClient} {buf : Bytes} :
    cAuthDisconnectB a c buf = true ↔ CAuthDisconnect a c buf := by
  unfold cAuthDisconnectB CAuthDisconnect
  cases (cDecode a c buf).1 with
  | panic m => simp
  | err e => simp
  | ok sp =>
    obtain ⟨sq, pk⟩ := sp
    cases pk <;> simp

/-- what no operation of a connected client changes (token — hence keys, protocol id, timeout —, id, server address …);
    sequence number and clock only grow -/
structure CKeeps (c c' : NetcodeClient) : Prop where
  tok : c'.connectToken = c.connectToken
  id : c'.clientId = c.clientId
  srv : c'.serverAddr = c.serverAddr
  idx : c'.serverAddrIndex = c.serverAddrIndex
  start : c'.connectStartTime = c.connectStartTime
  rate : c'.sendRate = c.sendRate
  maxc : c'.maxClients = c.maxClients
  cidx : c'.clientIndex = c.clientIndex
  seq : c.sequence ≤ c'.sequence
  clock : c.currentTime ≤ c'.currentTime

theorem CKeeps.refl (c : NetcodeClient) : CKeeps c c :=
  ⟨rfl, rfl, rfl, rfl, rfl, rfl, rfl, rfl, Nat.le_refl _, Nat.le_refl _⟩
theorem CKeeps.trans {c1 c2 c3 : NetcodeClient} (h1 : CKeeps c1 c2) (h2 : CKeeps c2 c3) : CKeeps c1 c3 :=
  ⟨h2.1.trans h1.1, h2.2.trans h1.2, h2.3.trans h1.3, h2.4.trans h1.4, h2.5.trans h1.5, h2.6.trans h1.6,
    h2.7.trans h1.7, h2.8.trans h1.8, Nat.le_trans h1.9 h2.9, Nat.le_trans h1.10 h2.10⟩

theorem pp_connected {a : AEAD} {c c' : NetcodeClient} {buf : Bytes} {r : Option Bytes} (hst : c.state = .connected)
    (h : c.processPacket a buf = .ok (r, c')) :
    CKeeps c c' ∧
    ((cAuthDisconnectB a c buf = true ∧ c'.state = .disconnected .disconnectedByServer) ∨
     (cAuthDisconnectB a c buf = false ∧ c'.state = .connected ∧
       c'.lastPacketReceivedTime = if cAuthenticB a c buf then c.currentTime else c.lastPacketReceivedTime)) := by
  -- `process_packet` writes nothing but the window, the state and the receive timer
  have keep : ∀ st rp tm, CKeeps c { c with state := st, replayProtection := rp, lastPacketReceivedTime := tm } :=
    fun _ _ _ => ⟨rfl, rfl, rfl, rfl, rfl, rfl, rfl, rfl, Nat.le_refl _, Nat.le_refl _⟩
  unfold NetcodeClient.processPacket at h
  unfold cAuthDisconnectB cAuthenticB cDecode
  generalize Packet.decode a buf c.connectToken.protocolId (some c.connectToken.serverToClientKey)
    (some c.replayProtection) = dr at h ⊢
  obtain ⟨r', rp⟩ := dr
  dsimp only at h ⊢
  cases r' with
  | panic m => cases h
  | err e =>
    cases h
    exact ⟨keep _ _ _, Or.inr ⟨rfl, hst, rfl⟩⟩
  | ok sp =>
    obtain ⟨sq, pk⟩ := sp
    rw [hst] at h
    cases pk with
    | disconnect =>
      cases h
      exact ⟨keep _ _ _, Or.inl ⟨rfl, rfl⟩⟩
    | _ =>
      cases h
      exact ⟨keep _ _ _, Or.inr ⟨rfl, rfl, rfl⟩⟩

/-- the client is **fresh** for an `update(d)` when the most recent authentic packet dates from `last`: the token's
    timeout is not positive (no time-out at all — `connect_token.timeout_seconds > 0 && …` in client.rs), or the new
    clock value is at most `last + timeout` (the test in client.rs is the strict `last + timeout < now`) -/
def CFreshFor (c : NetcodeClient) (last d : Nat) : Prop :=
  c.connectToken.timeoutSeconds ≤ 0 ∨ c.currentTime + d ≤ last + fromSecs c.connectToken.timeoutSeconds.toNat

instance (c : NetcodeClient) (last d : Nat) : Decidable (CFreshFor c last d) := by unfold CFreshFor; infer_instance

theorem uis_fresh {c c1 : NetcodeClient} {d last : Nat} {e : Option NetcodeError} (hst : c.state = .connected)
    (hlast : last ≤ c.lastPacketReceivedTime) (hfr : CFreshFor c last d) (h : c.updateInternalState d = .ok (e, c1)) :
    e = none ∧ c1 = { c with currentTime := c.currentTime + d } := by
  rcases (NcAead.Cl.uis_post c d _ h).2.2.2.2.2 hst with hr | ⟨h1, h2⟩
  · exact Prod.mk.inj hr
  · rcases hfr with h' | h' <;> omega

theorem update_connected {a : AEAD} {c c' : NetcodeClient} {d last : Nat} {o : Option (Bytes × Addr)}
    (hst : c.state = .connected) (hlast : last ≤ c.lastPacketReceivedTime) (hfr : CFreshFor c last d)
    (h : c.update a d = .ok (o, c')) :
    c'.state = .connected ∧ CKeeps c c' ∧ c'.lastPacketReceivedTime = c.lastPacketReceivedTime := by
  obtain ⟨e, c1, hu, hh⟩ := NcAead.Cl.update_eq h
  obtain ⟨rfl, rfl⟩ := uis_fresh hst hlast hfr hu
  rcases hh with ⟨he, -⟩ | ⟨-, hg⟩
  · exact absurd rfl he
  · -- `generate_packet` writes nothing but the sequence number and the send timer
    obtain ⟨sq, tm, rfl, hle, -⟩ := NcAead.Cl.gen_frame a _ _ hg
    exact ⟨hst, ⟨rfl, rfl, rfl, rfl, rfl, rfl, rfl, rfl, hle, Nat.le_add_right _ _⟩, rfl⟩

theorem sendPayload_connected {a : AEAD} {c c' : NetcodeClient} {p : Bytes} {r : Addr × Bytes}
    (h : c.generatePayloadPacket a p = .ok (r, c')) :
    c'.state = c.state ∧ CKeeps c c' ∧ c'.lastPacketReceivedTime = c.lastPacketReceivedTime := by
  obtain ⟨-, -, rfl, -⟩ := NcAead.Cl.payload_spec h
  exact ⟨rfl, ⟨rfl, rfl, rfl, rfl, rfl, rfl, rfl, rfl, Nat.le_succ _, Nat.le_refl _⟩, rfl⟩

/-- an authentic KeepAlive / Payload datagram: the only thing that moves the ghost timer -/
def cRefreshes (a : AEAD) (c : NetcodeClient) : COp → Bool
  | .packet buf => cAuthenticB a c buf
  | _ => false

/-- What the trace hypothesis of `client_never_timed_out` demands of one operation, executed in state `c` when the
    most recent authentic packet (or the connection) dates from `last`:
    * at `update(d)` the client is fresh: `now + d ≤ last + timeout`, or the token's timeout is not positive;
    * a datagram is not an authentic Disconnect packet of the server.
    Everything else (any other bytes, payloads to send) is unconstrained. -/
def cOpAllowed (a : AEAD) (c : NetcodeClient) (last : Nat) : COp → Bool
  | .update d => decide (CFreshFor c last d)
  | .packet buf => !cAuthDisconnectB a c buf
  | .sendPayload _ => true

/-- the ghost timer after one more operation: the time of the most recent authentic packet -/
def cLastAfter (a : AEAD) (c : NetcodeClient) (last : Nat) (op : COp) : Nat :=
  if cRefreshes a c op then c.currentTime else last

/-- `cOpAllowed` along a whole trace, the ghost timer following the authentic packets (a trace ends where an
    operation unwinds) -/
def cFreshB (a : AEAD) : NetcodeClient → Nat → List COp → Bool
  | _, _, [] => true
  | c, last, op :: rest =>
    cOpAllowed a c last op &&
      match cstep a c op with
      | some (_, c') => cFreshB a c' (cLastAfter a c last op) rest
      | none => true

def CFresh (a : AEAD) (c : NetcodeClient) (last : Nat) (ops : List COp) : Prop := cFreshB a c last ops = true

instance (a : AEAD) (c : NetcodeClient) (last : Nat) (ops : List COp) : Decidable (CFresh a c last ops) := by
  unfold CFresh; infer_instance

def cLastRun (a : AEAD) : NetcodeClient → Nat → List COp → Nat
  | _, last, [] => last
  | c, last, op :: rest =>
    match cstep a c op with
    | some (_, c') => cLastRun a c' (cLastAfter a c last op) rest
    | none => last

theorem cFresh_nil (a : AEAD) (c : NetcodeClient) (last : Nat) : CFresh a c last [] := rfl

theorem cFresh_cons {a : AEAD} {c : NetcodeClient} {last : Nat} {op : COp} {rest : List COp} :
    CFresh a c last (op :: rest) ↔
      cOpAllowed a c last op = true ∧
      ∀ r c', cstep a c op = some (r, c') → CFresh a c' (cLastAfter a c last op) rest := by
  unfold CFresh
  simp only [cFreshB, Bool.and_eq_true]
  constructor
  · rintro ⟨h1, h2⟩
    refine ⟨h1, fun r c' hs => ?_⟩
    rw [hs] at h2; exact h2
  · rintro ⟨h1, h2⟩
    refine ⟨h1, ?_⟩
    cases hs : cstep a c op with
    | none => rfl
    | some x => obtain ⟨r, c'⟩ := x; exact h2 r c' hs

theorem runCOps_cons {a : AEAD} {c c'' : NetcodeClient} {op : COp} {rest : List COp} {rs : List COut}
    (h : runCOps a c (op :: rest) = some (rs, c'')) :
    ∃ r c' rs', cstep a c op = some (r, c') ∧ runCOps a c' rest = some (rs', c'') ∧ rs = r :: rs' := by
  simp only [runCOps] at h
  split at h
  · rename_i r c' hs
    obtain ⟨⟨rs', c3⟩, h1, h2⟩ := Option.map_eq_some_iff.mp h
    cases h2
    exact ⟨r, c', rs', hs, h1, rfl⟩
  · cases h

theorem runCOps_append {a : AEAD} : ∀ {l1 l2 : List COp} {c c'' : NetcodeClient} {rs : List COut},
    runCOps a c (l1 ++ l2) = some (rs, c'') →
    ∃ rs1 c' rs2, runCOps a c l1 = some (rs1, c') ∧ runCOps a c' l2 = some (rs2, c'') ∧ rs = rs1 ++ rs2
  | [], l2, c, c'', rs, h => ⟨[], c, rs, rfl, h, rfl⟩
  | op :: l1, l2, c, c'', rs, h => by
    obtain ⟨r, c1, rs', hs, hr, rfl⟩ := runCOps_cons (rest := l1 ++ l2) h
    obtain ⟨rs1, c', rs2, h1, h2, rfl⟩ := runCOps_append hr
    refine ⟨r :: rs1, c', rs2, ?_, h2, rfl⟩
    simp only [runCOps, hs, h1, Option.map_some]

theorem cFresh_prefix {a : AEAD} : ∀ {l1 l2 : List COp} {c : NetcodeClient} {last : Nat},
    CFresh a c last (l1 ++ l2) → CFresh a c last l1
  | [], _, c, last, _ => cFresh_nil a c last
  | op :: l1, l2, c, last, h => by
    rw [List.cons_append, cFresh_cons] at h
    rw [cFresh_cons]
    exact ⟨h.1, fun r c' hs => cFresh_prefix (h.2 r c' hs)⟩

theorem cLastAfter_packet (a : AEAD) (c : NetcodeClient) (last : Nat) (buf : Bytes) :
    cLastAfter a c last (.packet buf) = if cAuthenticB a c buf = true then c.currentTime else last := rfl

/-- the receive timer is at least the ghost timer, and *equal* to it if it was before: forged / replayed datagrams
    move neither -/
theorem cstep_keeps {a : AEAD} {c c' : NetcodeClient} {op : COp} {r : COut} {last : Nat}
    (hst : c.state = .connected) (hlast : last ≤ c.lastPacketReceivedTime)
    (hal : cOpAllowed a c last op = true) (h : cstep a c op = some (r, c')) :
    c'.state = .connected ∧ CKeeps c c' ∧ cLastAfter a c last op ≤ c'.lastPacketReceivedTime ∧
      (last = c.lastPacketReceivedTime → cLastAfter a c last op = c'.lastPacketReceivedTime) := by
  cases op with
  | update d =>
    simp only [cOpAllowed, decide_eq_true_eq] at hal
    simp only [cstep] at h
    split at h
    · rename_i hu
      cases h
      obtain ⟨h1, h2, h4⟩ := update_connected hst hlast hal hu
      exact ⟨h1, h2, by rw [h4]; exact hlast, fun e => by rw [h4]; exact e⟩
    · cases h
  | packet buf =>
    simp only [cOpAllowed, Bool.not_eq_true'] at hal
    simp only [cstep] at h
    split at h
    · rename_i hp
      cases h
      obtain ⟨h1, ⟨hd, -⟩ | ⟨-, h6, h7⟩⟩ := pp_connected hst hp
      · rw [hal] at hd
        cases hd
      · rw [cLastAfter_packet, h7]
        refine ⟨h6, h1, ?_, fun e => by rw [e]⟩
        split
        · exact Nat.le_refl _
        · exact hlast
    · cases h
  | sendPayload p =>
    simp only [cstep] at h
    split at h
    · rename_i hp
      cases h
      obtain ⟨h1, h2, h4⟩ := sendPayload_connected hp
      exact ⟨h1.trans hst, h2, by rw [h4]; exact hlast, fun e => by rw [h4]; exact e⟩
    · cases h
      exact ⟨hst, CKeeps.refl c, hlast, id⟩
    · cases h

theorem crun_keeps {a : AEAD} : ∀ (ops : List COp) {c c' : NetcodeClient} {last : Nat} {rs : List COut},
    c.state = .connected → last ≤ c.lastPacketReceivedTime → CFresh a c last ops → runCOps a c ops = some (rs, c') →
    c'.state = .connected ∧ CKeeps c c' ∧ cLastRun a c last ops ≤ c'.lastPacketReceivedTime ∧
      (last = c.lastPacketReceivedTime → cLastRun a c last ops = c'.lastPacketReceivedTime)
  | [], c, c', last, rs, hst, hlast, _, hrun => by
    simp only [runCOps, Option.some.injEq, Prod.mk.injEq] at hrun
    obtain ⟨_, rfl⟩ := hrun
    exact ⟨hst, CKeeps.refl c, hlast, id⟩
  | op :: rest, c, c', last, rs, hst, hlast, hfr, hrun => by
    obtain ⟨r, c1, rs', hs, hr, rfl⟩ := runCOps_cons hrun
    obtain ⟨hal, hrest⟩ := cFresh_cons.mp hfr
    obtain ⟨hst1, hk1, hl1, he1⟩ := cstep_keeps hst hlast hal hs
    obtain ⟨hst', hk', hl', he'⟩ := crun_keeps rest hst1 hl1 (hrest r c1 hs) hr
    simp only [cLastRun, hs]
    exact ⟨hst', hk1.trans hk', hl', fun e => he' (he1 e)⟩

/-! ## Part B : keep-alive traffic keeps both ends of an established session alive -/

theorem lt_u64_of_room {x n : Nat} (h : x + n < U64_MAX) : x < U64_MAX ∧ x < 2 ^ 64 := by
  have hU : U64_MAX = 2 ^ 64 - 1 := rfl
  omega

theorem fresh_above_advance {rp : RP} {n : Nat} (h : ∀ k, n ≤ k → rp.alreadyReceived k = false) :
    ∀ k, n + 1 ≤ k → (rp.advance n).alreadyReceived k = false := by
  intro k hk
  obtain ⟨h1, h2⟩ := (RP.alreadyReceived_false_iff rp k).mp (h k (by omega))
  rw [RP.alreadyReceived_false_iff]
  refine ⟨?_, ?_⟩
  · rw [RP.advance_mr]
    intro hh
    apply h1
    refine ⟨hh.1, ?_⟩
    have := hh.2
    omega
  · by_cases hm : k % 256 = n % 256
    · right; rw [RP.advance_at_eqmod _ _ _ hm]; omega
    · rw [RP.advance_at_other _ _ _ hm]; exact h2

def kaUp (a : AEAD) (c : NetcodeClient) : Bytes :=
  Packet.sealedBytes a (.keepAlive 0 0) c.connectToken.protocolId c.sequence c.connectToken.clientToServerKey

theorem generatePacket_connected (a : AEAD) {c : NetcodeClient} (hst : c.state = .connected)
    (hgate : ∀ tm, c.lastPacketSendTime = some tm → tm ≤ c.currentTime ∧ c.sendRate ≤ c.currentTime - tm)
    (hseq : c.sequence < U64_MAX) :
    c.generatePacket a = .ok (some (kaUp a c, c.serverAddr),
      { c with lastPacketSendTime := some c.currentTime, sequence := c.sequence + 1 }) :=
  generatePacket_sends a hgate (by rw [NcAead.Cl.genPacket, hst])
    (Packet.encode_sealed_fits a _ _ _ _ _ (by simp [Packet.packetType]) (by decide)) hseq

theorem update_connected_sends (a : AEAD) {c : NetcodeClient} {d : Nat} (hst : c.state = .connected)
    (hclock : c.currentTime + d + fromSecs c.connectToken.timeoutSeconds.toNat ≤ DURATION_MAX)
    (hrecv : c.lastPacketReceivedTime ≤ c.currentTime)
    (hfr : CFreshFor c c.lastPacketReceivedTime d)
    (hle : ∀ tm, c.lastPacketSendTime = some tm → tm ≤ c.currentTime) (hg : GateOpen c d)
    (hseq : c.sequence < U64_MAX) :
    c.update a d = .ok (some (kaUp a c, c.serverAddr), cliSent c d) := by
  have hto : ¬ CTimedOut c (c.currentTime + d) := by
    rintro ⟨h1, h2⟩
    rcases hfr with h | h <;> omega
  rw [client_update_of_quiet a (client_no_timeout hst (by omega) (by omega) hto)]
  exact generatePacket_connected a (c := cliTick c d) hst (hg.ticked hle) hseq

theorem pp_keepalive_up (a : AEAD) (hl : a.Laws) {s : NetcodeServer} {addr : Addr} {i seq ci mc : Nat} {cn : Connection}
    (hi : ServerInv s) (hc : At s.clients i cn) (had : cn.addr = addr) (hseq : seq < 2 ^ 64) (hci : ci < 2 ^ 32)
    (hmc : mc < 2 ^ 32) (hfresh : cn.replayProtection.alreadyReceived seq = false) :
    s.processPacket a addr (Packet.sealedBytes a (.keepAlive ci mc) s.protocolId seq cn.receiveKey) =
      .ok (.none,
        { s with clients := s.clients.set i (some (refreshed cn (cn.replayProtection.advance seq) s.currentTime)) }) := by
  have hfa : findClientByAddr s.clients addr = some (i, cn) := hi.slots.findAddr_iff.mpr ⟨had, hc⟩
  have hst := hi.slots.conn i cn hc
  have hdec := Packet.decode_sealedBytes a (.keepAlive ci mc) s.protocolId seq cn.receiveKey hl hseq
    (by simp [Packet.packetType]) ⟨hci, hmc⟩ (some cn.replayProtection)
    (by simp [Packet.isDup, Packet.packetType, PacketType.applyReplayProtection, hfresh])
  rw [pp_from_connected hfa hst hdec]
  simp only [Packet.packetType, PacketType.applyReplayProtection, if_true]

theorem pp_keepalive_down (a : AEAD) (hl : a.Laws) {c : NetcodeClient} {s : NetcodeServer} {p : Connection} {i : Nat}
    (hst : c.state = .connected) (hkey : c.connectToken.serverToClientKey = p.sendKey)
    (hpid : c.connectToken.protocolId = s.protocolId) (hseq : p.sequence < 2 ^ 64)
    (hfresh : c.replayProtection.alreadyReceived p.sequence = false) :
    c.processPacket a (connectKeepAlive a s p i) =
      .ok (none, { c with replayProtection := c.replayProtection.advance p.sequence
                          lastPacketReceivedTime := c.currentTime }) := by
  have hdec := Packet.decode_sealedBytes a (.keepAlive (i % 2 ^ 32) (s.maxClients % 2 ^ 32))
    s.protocolId p.sequence p.sendKey hl hseq (by simp [Packet.packetType])
    ⟨Nat.mod_lt _ (by decide), Nat.mod_lt _ (by decide)⟩ (some c.replayProtection)
    (by simp [Packet.isDup, Packet.packetType, PacketType.applyReplayProtection, hfresh])
  unfold NetcodeClient.processPacket
  rw [hkey, hpid]
  unfold connectKeepAlive
  rw [hdec]
  simp only [Packet.stepWindow, Packet.packetType, PacketType.applyReplayProtection, Option.map_some,
    if_true, Option.getD_some, hst]

/-- `NcLive2.round`, also returning what the server reported: the result of `process_packet` on the client's datagram
    (`None` if none arrived) and the result of `update_client` -/
def roundEv (a : AEAD) (addr me : Addr) (id : Nat) (f : Fate) (d : Nat) (w : NetcodeClient × NetcodeServer) :
    Option ((NetcodeClient × NetcodeServer) × List ServerResult) :=
  match w.2.update d, w.1.update a d with
  | .ok s1, .ok (out, c1) =>
    match up a addr me f out s1 with
    | some (r, s2) =>
      match s2.updateClient a id with
      | .ok (r', s3) => (down a addr f r r' c1).map fun c3 => ((c3, s3), [r, r'])
      | _ => none
    | none => none
  | _, _ => none

def runRoundsEv (a : AEAD) (addr me : Addr) (id : Nat) :
    List (Fate × Nat) → NetcodeClient × NetcodeServer → Option ((NetcodeClient × NetcodeServer) × List ServerResult)
  | [], w => some (w, [])
  | (f, d) :: rest, w =>
    (roundEv a addr me id f d w).bind fun x => (runRoundsEv a addr me id rest x.1).map fun y => (y.1, x.2 ++ y.2)

theorem round_of_roundEv (a : AEAD) (addr me : Addr) (id : Nat) (f : Fate) (d : Nat) (w : NetcodeClient × NetcodeServer) :
    round a addr me id f d w = (roundEv a addr me id f d w).map (·.1) := by
  unfold round roundEv
  cases w.2.update d with
  | ok s1 =>
    cases w.1.update a d with
    | ok oc =>
      obtain ⟨out, c1⟩ := oc
      dsimp only
      cases up a addr me f out s1 with
      | some rs =>
        obtain ⟨r, s2⟩ := rs
        dsimp only
        cases s2.updateClient a id with
        | ok x =>
          obtain ⟨r', s3⟩ := x
          dsimp only
          rw [Option.map_map]
          rfl
        | err e => rfl
        | panic m => rfl
      | none => rfl
    | err e => rfl
    | panic m => rfl
  | err e => rfl
  | panic m => rfl

theorem runRounds_of_ev (a : AEAD) (addr me : Addr) (id : Nat) : ∀ (sched : List (Fate × Nat))
    (w : NetcodeClient × NetcodeServer),
    runRounds a addr me id sched w = (runRoundsEv a addr me id sched w).map (·.1)
  | [], w => rfl
  | (f, d) :: rest, w => by
    simp only [runRounds, runRoundsEv, round_of_roundEv]
    cases roundEv a addr me id f d w with
    | none => rfl
    | some x =>
      simp only [Option.map_some, Option.bind_some, runRounds_of_ev a addr me id rest x.1, Option.map_map]
      rfl

theorem runRounds_two {a : AEAD} {addr me : Addr} {id : Nat} {f₁ f₂ : Fate} {d₁ d₂ : Nat}
    {w w₁ w₂ : NetcodeClient × NetcodeServer} (h₁ : round a addr me id f₁ d₁ w = some w₁)
    (h₂ : round a addr me id f₂ d₂ w₁ = some w₂) : runRounds a addr me id [(f₁, d₁), (f₂, d₂)] w = some w₂ := by
  simp only [runRounds, h₁, Option.bind_some, h₂]

theorem roundEv_intro {a : AEAD} {addr me : Addr} {id : Nat} {f : Fate} {d : Nat} {c c1 c3 : NetcodeClient}
    {s s1 s2 s3 : NetcodeServer} {out : Option (Bytes × Addr)} {r r' : ServerResult}
    (h1 : s.update d = .ok s1) (h2 : c.update a d = .ok (out, c1)) (h3 : up a addr me f out s1 = some (r, s2))
    (h4 : s2.updateClient a id = .ok (r', s3)) (h5 : down a addr f r r' c1 = some c3) :
    roundEv a addr me id f d (c, s) = some ((c3, s3), [r, r']) := by
  simp only [roundEv, h1, h2, h3, h4, h5, Option.map_some]

/-- `elapsed` nanoseconds of silence do not exceed the token's timeout (`timeout_seconds ≤ 0`: no time-out at all) -/
def Within (tmo : Int) (elapsed : Nat) : Prop := tmo ≤ 0 ∨ elapsed ≤ fromSecs tmo.toNat

instance (tmo : Int) (elapsed : Nat) : Decidable (Within tmo elapsed) := by unfold Within; infer_instance

/-- **Both ends of the session of token `t` are up and in step.**  `c0` fixes what never changes on the client
    (connect token, send rate); `addr` is where the server sees the client, `me` the server's address.
    * client: `Connected`, talking to `me`, token keys = the keys sealed in `t`, protocol id = the server's, timers
      not in the future, it heard the server at most `ec` ago, `N` more packets fit its sequence number;
    * server: `ServerInv`, a slot holds the session with the token's identity (`identT`), it heard the client at most
      `es` ago, `N` more packets fit the session's sequence number;
    * the two replay windows are open above the peer's next sequence number. -/
structure Steady (a : AEAD) (addr me : Addr) (t : PrivateConnectToken) (expire : Nat) (c0 : NetcodeClient)
    (ec es N : Nat) (c : NetcodeClient) (s : NetcodeServer) : Prop where
  cst : c.state = .connected
  inv : ServerInv s
  tok : c.connectToken = c0.connectToken
  rate : c.sendRate = c0.sendRate
  srv : c.serverAddr = me
  pid : c0.connectToken.protocolId = s.protocolId
  c2s : c0.connectToken.clientToServerKey = t.clientToServerKey
  s2c : c0.connectToken.serverToClientKey = t.serverToClientKey
  sendLe : ∀ tm, c.lastPacketSendTime = some tm → tm ≤ c.currentTime
  recvLe : c.lastPacketReceivedTime ≤ c.currentTime
  heard : c.currentTime ≤ c.lastPacketReceivedTime + ec
  cseq : c.sequence + N < U64_MAX
  sess : ∃ i cn, At s.clients i cn ∧ ident cn = identT addr expire t ∧
    (∀ k, c.sequence ≤ k → cn.replayProtection.alreadyReceived k = false) ∧
    (∀ k, cn.sequence ≤ k → c.replayProtection.alreadyReceived k = false) ∧
    s.currentTime ≤ cn.lastPacketReceivedTime + es ∧ cn.sequence + N < U64_MAX

section SteadyS
variable {a : AEAD} {addr me : Addr} {t : PrivateConnectToken} {expire : Nat} {c0 : NetcodeClient}

theorem Steady.established {ec es N : Nat} {c : NetcodeClient} {s : NetcodeServer}
    (h : Steady a addr me t expire c0 ec es N c s) : Established addr t expire c s := by
  obtain ⟨i, cn, h1, h2, _⟩ := h.sess
  exact ⟨h.cst, h.inv, i, cn, h1, h2⟩

theorem Steady.weaken {ec es N ec' es' N' : Nat} {c : NetcodeClient} {s : NetcodeServer}
    (h : Steady a addr me t expire c0 ec es N c s) (h1 : ec ≤ ec') (h2 : es ≤ es') (h3 : N' ≤ N) :
    Steady a addr me t expire c0 ec' es' N' c s := by
  obtain ⟨i, cn, e1, e2, e3, e4, e5, e6⟩ := h.sess
  exact ⟨h.cst, h.inv, h.tok, h.rate, h.srv, h.pid, h.c2s, h.s2c, h.sendLe, h.recvLe,
    Nat.le_trans h.heard (Nat.add_le_add_left h1 _), Nat.lt_of_le_of_lt (Nat.add_le_add_left h3 _) h.cseq, i, cn, e1, e2,
    e3, e4, Nat.le_trans e5 (Nat.add_le_add_left h2 _), Nat.lt_of_le_of_lt (Nat.add_le_add_left h3 _) e6⟩

theorem not_timedOut_of_within {cn : Connection} {now e : Nat} (h : now ≤ cn.lastPacketReceivedTime + e)
    (hw : Within cn.timeoutSeconds e) : ¬ TimedOut cn now := by
  rintro ⟨e1, e2⟩
  rcases hw with hw | hw <;> omega

theorem keepalive_up (hl : a.Laws) {c : NetcodeClient} {s : NetcodeServer} {cn : Connection} {i es : Nat} (f : Fate)
    (hi : ServerInv s) (hat : At s.clients i cn) (had : cn.addr = addr)
    (hka : kaUp a c = Packet.sealedBytes a (.keepAlive 0 0) s.protocolId c.sequence cn.receiveKey)
    (hseq : c.sequence < 2 ^ 64) (hwu : ∀ k, c.sequence ≤ k → cn.replayProtection.alreadyReceived k = false)
    (hsh : s.currentTime ≤ cn.lastPacketReceivedTime + es) :
    ∃ s2 cn2, up a addr me f (some (kaUp a c, me)) s = some (.none, s2) ∧ ServerInv s2 ∧ At s2.clients i cn2 ∧
      ident cn2 = ident cn ∧ cn2.sequence = cn.sequence ∧ cn2.lastPacketSendTime = cn.lastPacketSendTime ∧
      (∀ k, c.sequence + 1 ≤ k → cn2.replayProtection.alreadyReceived k = false) ∧
      s2.currentTime = s.currentTime ∧ s2.protocolId = s.protocolId ∧
      s2.currentTime ≤ cn2.lastPacketReceivedTime + (if f = .upLost then es else 0) := by
  by_cases hf : f = .upLost
  · rw [if_pos hf]
    exact ⟨s, cn, up_lost a addr me _ (Or.inl hf), hi, hat, rfl, rfl, rfl, fun k hk => hwu k (Nat.le_of_succ_le hk), rfl, rfl,
      hsh⟩
  · have hpp := pp_keepalive_up a hl (ci := 0) (mc := 0) hi hat had hseq (by decide) (by decide) (hwu _ (Nat.le_refl _))
    rw [← hka] at hpp
    rw [if_neg hf]
    exact ⟨_, _, up_arrives a addr me hf hpp, ppOut_inv hi (pp_ok hi hpp), at_set_self (at_lt hat), rfl, rfl, rfl,
      fresh_above_advance hwu, rfl, rfl, Nat.le_refl _⟩

theorem keepalive_down (hl : a.Laws) {c : NetcodeClient} {s : NetcodeServer} {cn : Connection} {i ec : Nat} (f : Fate)
    (hst : c.state = .connected) (hkey : c.connectToken.serverToClientKey = cn.sendKey)
    (hpid : c.connectToken.protocolId = s.protocolId) (hseq : cn.sequence < 2 ^ 64)
    (hwd : ∀ k, cn.sequence ≤ k → c.replayProtection.alreadyReceived k = false)
    (hrl : c.lastPacketReceivedTime ≤ c.currentTime) (hheard : c.currentTime ≤ c.lastPacketReceivedTime + ec) :
    ∃ c3, down a addr f .none (.packetToSend addr (connectKeepAlive a s cn i)) c = some c3 ∧ c3.state = .connected ∧
      c3.connectToken = c.connectToken ∧ c3.sendRate = c.sendRate ∧ c3.serverAddr = c.serverAddr ∧
      c3.lastPacketSendTime = c.lastPacketSendTime ∧ c3.currentTime = c.currentTime ∧ c3.sequence = c.sequence ∧
      c3.lastPacketReceivedTime ≤ c3.currentTime ∧
      c3.currentTime ≤ c3.lastPacketReceivedTime + (if f = .delivered then 0 else ec) ∧
      (∀ k, cn.sequence + 1 ≤ k → c3.replayProtection.alreadyReceived k = false) := by
  by_cases hf : f = .delivered
  · subst hf
    have hkd := pp_keepalive_down a hl (s := s) (i := i) hst hkey hpid hseq (hwd _ (Nat.le_refl _))
    exact ⟨_, down_second a addr rfl (by simp [answerTo]) hkd, hst, rfl, rfl, rfl, rfl, rfl, rfl, Nat.le_refl _,
      Nat.le_refl _, fresh_above_advance hwd⟩
  · rw [if_neg hf]
    exact ⟨c, down_lossy a addr hf _ _ _, hst, rfl, rfl, rfl, rfl, rfl, rfl, hrl, hheard,
      fun k hk => hwd k (Nat.le_of_succ_le hk)⟩

/-- **One round of at least the send rate on an established session**, whatever its fate.
    The client's `update(d)` passes the time-out test (`hcf`: it heard the server at most `ec` ago and `ec + d` is
    within its timeout) and, the gate being open (`hrc`), emits a keep-alive.  Unless the round is `upLost` the
    server's `process_packet` accepts it and refreshes the session; `update_client` then does not time the session
    out (refreshed just now, or `hsf`) and, its send timer being due (`hrs`), emits a keep-alive, which a `delivered`
    round hands to the client.  Both ends are still up; the silence counters are reset by what arrived. -/
theorem steady_round (hl : a.Laws) {c : NetcodeClient} {s : NetcodeServer} {ec es N d : Nat} {f : Fate}
    (h : Steady a addr me t expire c0 ec es (N + 1) c s)
    (hrc : c0.sendRate ≤ d) (hrs : C.NETCODE_SEND_RATE_NS ≤ d)
    (hcf : Within c0.connectToken.timeoutSeconds (ec + d))
    (hsf : f = .upLost → Within t.timeoutSeconds (es + d))
    (hcclk : c.currentTime + d + fromSecs c0.connectToken.timeoutSeconds.toNat ≤ DURATION_MAX)
    (hsclk : s.currentTime + d + fromSecs (2 ^ 31) ≤ DURATION_MAX) :
    ∃ c' s' ka, roundEv a addr me t.clientId f d (c, s) = some ((c', s'), [.none, .packetToSend addr ka]) ∧
      Steady a addr me t expire c0 (if f = .delivered then 0 else ec + d) (if f = .upLost then es + d else 0) N c' s' ∧
      c'.currentTime = c.currentTime + d ∧ s'.currentTime = s.currentTime + d := by
  obtain ⟨i, cn, hat, hid, hwu, hwd, hsh, hsq⟩ := h.sess
  obtain ⟨-, f2, -, -, f5, -, -⟩ := identT_fields hid
  have hheard := h.heard; have hrl := h.recvLe
  have hsu : s.update d = .ok (srvTick s d) := server_update_eq (Nat.le_trans (Nat.le_add_right _ _) hsclk)
  have hfr : CFreshFor c c.lastPacketReceivedTime d := by
    unfold CFreshFor
    rw [h.tok]
    exact hcf.imp id fun e => by omega
  have hcu := update_connected_sends a (c := c) (d := d) h.cst (by rw [h.tok]; exact hcclk) hrl hfr h.sendLe
    (gateOpen_of_rate (by rw [h.rate]; exact hrc) h.sendLe) (lt_u64_of_room h.cseq).1
  rw [h.srv] at hcu
  obtain ⟨s2, cn2, hup, hinv2, hat2, hid2, hsq2, hsend2, hw2, ht2, hp2, hr2⟩ :=
    keepalive_up (me := me) (es := es + d) hl f (update_inv h.inv hsu) (s := srvTick s d) hat f2
      (by unfold kaUp; rw [h.tok, h.pid, h.c2s, f5]) (lt_u64_of_room h.cseq).2 hwu
      (by show s.currentTime + d ≤ _; omega)
  have ht2 : s2.currentTime = s.currentTime + d := ht2
  obtain ⟨g1, g2, -, g4, -, g6, -⟩ := identT_fields (hid2.trans hid)
  have hnt : ¬ TimedOut cn2 s2.currentTime := by
    refine not_timedOut_of_within hr2 ?_
    rw [g6]
    split
    · exact hsf ‹_›
    · exact Or.inr (Nat.zero_le _)
  have hsend := (h.inv.slotsOK i cn hat).send
  have htick := NcLive2.updateClient_due a hinv2 hat2 g1 hnt (by rw [ht2]; exact hsclk)
    (by rw [hsq2]; exact (lt_u64_of_room hsq).1) (by rw [hsend2, ht2]; exact Nat.add_le_add hsend hrs)
  rw [g2] at htick
  obtain ⟨c3, hdown, k1, k2, k3, k4, k5, k6, k7, k8, k9, k10⟩ :=
    keepalive_down (addr := addr) (ec := ec + d) hl (c := cliSent c d) (s := s2) (i := i) f h.cst
      (by show c.connectToken.serverToClientKey = _; rw [h.tok, h.s2c, g4])
      (by show c.connectToken.protocolId = _; rw [h.tok, h.pid, hp2]) (by rw [hsq2]; exact (lt_u64_of_room hsq).2)
      (by rw [hsq2]; exact hwd) (Nat.le_trans hrl (Nat.le_add_right _ _))
      (by show c.currentTime + d ≤ c.lastPacketReceivedTime + (ec + d); omega)
  refine ⟨c3, _, _, roundEv_intro hsu hcu hup htick hdown, ?_, k6, ht2⟩
  refine ⟨k1, updateClient_inv hinv2 htick, k2.trans h.tok, k3.trans h.rate, k4.trans h.srv, by rw [h.pid, ← hp2], h.c2s,
    h.s2c, ?_, k8, k9, by rw [k7]; have := h.cseq; show c.sequence + 1 + N < _; omega, i, _, at_set_self (at_lt hat2), hid2.trans hid, ?_,
    ?_, hr2, ?_⟩
  · intro tm e
    rw [k5] at e
    cases e
    exact Nat.le_of_eq k6.symm
  · intro k hk
    rw [k7] at hk
    exact hw2 k hk
  · exact k10
  · show cn2.sequence + 1 + N < U64_MAX
    rw [hsq2]
    omega

end SteadyS

/-- **the condition on a schedule of rounds** for a session whose client heard the server `ec` ago and whose server
    heard the client `es` ago: every round is at least both send rates long (so each side's gate is open and a
    keep-alive goes out), the client's silence — reset by every `delivered` round — stays within the client's timeout
    `tc`, and whenever a round's datagram is lost on the way up the server's silence — reset by every round that is
    not `upLost` — stays within the server's timeout `ts`.  (A `downLost` round needs nothing of the server: it
    checks its timer in `update_client`, after the keep-alive of the same round arrived.) -/
def schedOKb (rate : Nat) (tc ts : Int) : Nat → Nat → List (Fate × Nat) → Bool
  | _, _, [] => true
  | ec, es, (f, d) :: rest =>
    decide (rate ≤ d) && decide (C.NETCODE_SEND_RATE_NS ≤ d) && decide (Within tc (ec + d)) &&
      decide (f = .upLost → Within ts (es + d)) &&
      schedOKb rate tc ts (if f = .delivered then 0 else ec + d) (if f = .upLost then es + d else 0) rest

def SchedOK (rate : Nat) (tc ts : Int) (ec es : Nat) (sched : List (Fate × Nat)) : Prop :=
  schedOKb rate tc ts ec es sched = true

instance (rate : Nat) (tc ts : Int) (ec es : Nat) (sched : List (Fate × Nat)) : Decidable (SchedOK rate tc ts ec es sched) := by
  unfold SchedOK; infer_instance

theorem schedOK_cons {rate : Nat} {tc ts : Int} {ec es d : Nat} {f : Fate} {rest : List (Fate × Nat)} :
    SchedOK rate tc ts ec es ((f, d) :: rest) ↔
      rate ≤ d ∧ C.NETCODE_SEND_RATE_NS ≤ d ∧ Within tc (ec + d) ∧ (f = .upLost → Within ts (es + d)) ∧
      SchedOK rate tc ts (if f = .delivered then 0 else ec + d) (if f = .upLost then es + d else 0) rest := by
  unfold SchedOK
  simp only [schedOKb, Bool.and_eq_true, decide_eq_true_eq, and_assoc]

def silence : Nat → Nat → List (Fate × Nat) → Nat × Nat
  | ec, es, [] => (ec, es)
  | ec, es, (f, d) :: rest => silence (if f = .delivered then 0 else ec + d) (if f = .upLost then es + d else 0) rest

theorem schedOK_replicate {rate : Nat} {tc ts : Int} {d : Nat} (hr : rate ≤ d) (hs : C.NETCODE_SEND_RATE_NS ≤ d)
    (hd : Within tc d) : ∀ (n : Nat) {ec es : Nat}, Within tc (ec + d) →
    SchedOK rate tc ts ec es (List.replicate n (.delivered, d))
  | 0, _, _, _ => rfl
  | n + 1, ec, es, h => by
    rw [List.replicate_succ, schedOK_cons]
    refine ⟨hr, hs, h, fun e => (by cases e), ?_⟩
    simp only [if_true]
    exact schedOK_replicate hr hs hd n (by rw [Nat.zero_add]; exact hd)

theorem schedOK_prefix {rate : Nat} {tc ts : Int} : ∀ {l1 l2 : List (Fate × Nat)} {ec es : Nat},
    SchedOK rate tc ts ec es (l1 ++ l2) → SchedOK rate tc ts ec es l1
  | [], _, _, _, _ => rfl
  | (f, d) :: l1, l2, ec, es, h => by
    rw [List.cons_append, schedOK_cons] at h
    rw [schedOK_cons]
    exact ⟨h.1, h.2.1, h.2.2.1, h.2.2.2.1, schedOK_prefix h.2.2.2.2⟩

theorem totalTime_replicate (f : Fate) (d : Nat) : ∀ n, totalTime (List.replicate n (f, d)) = n * d
  | 0 => by simp [totalTime]
  | n + 1 => by rw [List.replicate_succ, totalTime, totalTime_replicate f d n, Nat.succ_mul]; omega

section SteadyRun
variable {a : AEAD} {addr me : Addr} {t : PrivateConnectToken} {expire : Nat} {c0 : NetcodeClient}

/-- what the server may report in a steady round: nothing, or a keep-alive for the client -/
def Quiet (addr : Addr) (r : ServerResult) : Prop := r = .none ∨ ∃ ka, r = .packetToSend addr ka

theorem steady_run (hl : a.Laws) : ∀ (sched : List (Fate × Nat)) {c : NetcodeClient} {s : NetcodeServer} {ec es N : Nat},
    Steady a addr me t expire c0 ec es (N + sched.length) c s →
    SchedOK c0.sendRate c0.connectToken.timeoutSeconds t.timeoutSeconds ec es sched →
    c.currentTime + totalTime sched + fromSecs c0.connectToken.timeoutSeconds.toNat ≤ DURATION_MAX →
    s.currentTime + totalTime sched + fromSecs (2 ^ 31) ≤ DURATION_MAX →
    ∃ c' s' evs, runRoundsEv a addr me t.clientId sched (c, s) = some ((c', s'), evs) ∧
      Steady a addr me t expire c0 (silence ec es sched).1 (silence ec es sched).2 N c' s' ∧
      c'.currentTime = c.currentTime + totalTime sched ∧ s'.currentTime = s.currentTime + totalTime sched ∧
      (∀ r ∈ evs, Quiet addr r) ∧ evs.length = 2 * sched.length
  | [], c, s, ec, es, N, h, _, _, _ => ⟨c, s, [], rfl, h, rfl, rfl, fun _ hr => (by cases hr), rfl⟩
  | (f, d) :: rest, c, s, ec, es, N, h, hok, hcc, hsc => by
    obtain ⟨h1, h2, h3, h4, h5⟩ := schedOK_cons.mp hok
    simp only [totalTime] at hcc hsc ⊢
    have h' : Steady a addr me t expire c0 ec es (N + rest.length + 1) c s := h
    obtain ⟨c1, s1, ka, hr, hst1, ht1, hs1⟩ := steady_round hl h' h1 h2 h3 h4 (by omega) (by omega)
    obtain ⟨c2, s2, evs, hr2, hst2, ht2, hs2, hq2, hl2⟩ := steady_run hl rest hst1 h5 (by rw [ht1]; omega) (by rw [hs1]; omega)
    refine ⟨c2, s2, [.none, .packetToSend addr ka] ++ evs, ?_, hst2, by rw [ht2, ht1, Nat.add_assoc],
      by rw [hs2, hs1, Nat.add_assoc], ?_, ?_⟩
    · simp only [runRoundsEv, hr, Option.bind_some, hr2, Option.map_some]
    · intro r hr'
      simp only [List.cons_append, List.nil_append, List.mem_cons] at hr'
      rcases hr' with rfl | rfl | hr'
      · exact Or.inl rfl
      · exact Or.inr ⟨ka, rfl⟩
      · exact hq2 r hr'
    · simp only [List.cons_append, List.nil_append, List.length_cons, hl2]; omega

end SteadyRun

/-- what `session_stays_alive` needs of an established pair beyond `NcLive2.Established`: the client's token carries
    the keys sealed in `t` and the server's protocol id, it talks to this server, its timers are not in the future,
    and the two replay windows are open above the peer's next sequence number (true right after the handshake:
    `Steady` is what the handshake rounds establish, see `handshake_steady`) -/
structure Linked (me : Addr) (t : PrivateConnectToken) (c : NetcodeClient) (s : NetcodeServer) : Prop where
  pid : c.connectToken.protocolId = s.protocolId
  c2s : c.connectToken.clientToServerKey = t.clientToServerKey
  s2c : c.connectToken.serverToClientKey = t.serverToClientKey
  srv : c.serverAddr = me
  sendLe : ∀ tm, c.lastPacketSendTime = some tm → tm ≤ c.currentTime
  recvLe : c.lastPacketReceivedTime ≤ c.currentTime
  up : ∀ cn, findClientById s.clients t.clientId = some cn →
    ∀ k, c.sequence ≤ k → cn.replayProtection.alreadyReceived k = false
  down : ∀ cn, findClientById s.clients t.clientId = some cn →
    ∀ k, cn.sequence ≤ k → c.replayProtection.alreadyReceived k = false

theorem steady_of_established {a : AEAD} {addr me : Addr} {t : PrivateConnectToken} {expire : Nat} {c : NetcodeClient}
    {s : NetcodeServer} {ec es N : Nat} (hE : Established addr t expire c s) (hL : Linked me t c s)
    (hec : c.currentTime ≤ c.lastPacketReceivedTime + ec) (hcN : c.sequence + N < U64_MAX)
    (hsN : ∀ cn, findClientById s.clients t.clientId = some cn →
      cn.sequence + N < U64_MAX ∧ s.currentTime ≤ cn.lastPacketReceivedTime + es) :
    Steady a addr me t expire c ec es N c s := by
  obtain ⟨h1, h2, i, cn, h3, h4⟩ := hE
  have hf : findClientById s.clients t.clientId = some cn :=
    h2.slots.findById_iff.mpr ⟨(identT_fields h4).1, i, h3⟩
  exact ⟨h1, h2, rfl, rfl, hL.srv, hL.pid, hL.c2s, hL.s2c, hL.sendLe, hL.recvLe, hec, hcN, i, cn, h3, h4, hL.up cn hf,
    hL.down cn hf, (hsN cn hf).2, (hsN cn hf).1⟩

theorem Steady.linked {a : AEAD} {addr me : Addr} {t : PrivateConnectToken} {expire : Nat} {c0 c : NetcodeClient}
    {s : NetcodeServer} {ec es N : Nat} (h : Steady a addr me t expire c0 ec es N c s) : Linked me t c s := by
  obtain ⟨i, cn, h3, h4, h5, h6, _⟩ := h.sess
  have hf : findClientById s.clients t.clientId = some cn :=
    h.inv.slots.findById_iff.mpr ⟨(identT_fields h4).1, i, h3⟩
  refine ⟨by rw [h.tok]; exact h.pid, by rw [h.tok]; exact h.c2s, by rw [h.tok]; exact h.s2c, h.srv, h.sendLe, h.recvLe,
    ?_, ?_⟩
  · intro cn' e; rw [hf] at e; cases e; exact h5
  · intro cn' e; rw [hf] at e; cases e; exact h6

/-! ### the handshake rounds establish `Steady` -/

section Handshake
variable {a : AEAD} {s0 : NetcodeServer} {addr me : Addr} {t : PrivateConnectToken} {expire : Nat} {xnonce : Bytes}

theorem Steady.rebase {c0 c0' : NetcodeClient} {ec es N : Nat} {c : NetcodeClient} {s : NetcodeServer}
    (h : Steady a addr me t expire c0 ec es N c s) (h1 : c0.connectToken = c0'.connectToken)
    (h2 : c0.sendRate = c0'.sendRate) : Steady a addr me t expire c0' ec es N c s :=
  ⟨h.cst, h.inv, h.tok.trans h1, h.rate.trans h2, h.srv, by rw [← h1]; exact h.pid, by rw [← h1]; exact h.c2s,
    by rw [← h1]; exact h.s2c, h.sendLe, h.recvLe, h.heard, h.cseq, h.sess⟩

theorem round_resp_delivered (hT : TokOK a s0 t expire xnonce) {c : NetcodeClient} {s : NetcodeServer} {T N d : Nat}
    {p : Connection} (hc : CliResp a s0 t expire xnonce c) (hs : SrvOpen a s0 addr t expire xnonce s)
    (hpf : pendingFind s.pendingClients addr = some p) (hpi : ident p = identT addr expire t)
    (hprp : ∀ k, p.replayProtection.alreadyReceived k = false)
    (hb : Budget t expire c s T (N + 1)) (hd : d ≤ T) (hme : c.serverAddr = me) (hg : GateOpen c d) :
    ∃ c' s', round a addr me t.clientId .delivered d (c, s) = some (c', s') ∧
      Steady a addr me t expire c 0 0 N c' s' ∧
      c'.currentTime = c.currentTime + d ∧ s'.currentTime = s.currentTime + d := by
  have hU : U64_MAX = 2 ^ 64 - 1 := rfl
  have e4 := hb.cseq
  have hcu := update_sends_response a hc.st (hc.tokenData_length hT) hb.cb hd (lt_u64_of_room e4).1 hc.sendLe hg
  rw [hme, responseBytes_eq hc] at hcu
  obtain ⟨i, s2, hpp, hq, hconn, hat, htm, -, -, hps⟩ := srv_response_round hT (d := d) (cs := c.challengeTokenSequence)
    (seq := c.sequence) (T' := 0) (N' := 0) hs hpf hpi (hb.srvClock hd) (Nat.le_of_lt (hb.notExpired hd)) hc.cs
    (lt_u64_of_room e4).2 (Or.inr (Nat.zero_le _)) (by decide)
  have hka := progress_keepalive a hT.laws (c := cliSent c d) (s := srvTick s d) (p := p) (i := i) hc.st
    (hc.tok.s2c.trans (identT_fields hpi).2.2.2.1.symm) (hc.tok.pid.trans hs.cfg.protocolId.symm) (by rw [hps]; decide)
    (hc.rp _)
  have hsu : s.update d = .ok (srvTick s d) := server_update_eq (Nat.le_trans (Nat.le_add_right _ _) (hb.srvClock hd))
  refine ⟨_, s2, round_intro hsu hcu (up_arrives a addr me (by decide) hpp) hq
    (down_first a addr (by simp [answerTo]) rfl hka), ?_, rfl, htm⟩
  refine ⟨rfl, hconn.inv, rfl, rfl, hme, hc.tok.pid.trans hconn.cfg.protocolId.symm, hc.tok.c2s, hc.tok.s2c, ?_, Nat.le_refl _,
    Nat.le_refl _, by show c.sequence + 1 + N < U64_MAX; omega, i, _, hat, hpi, fun k _ => hprp k, ?_, Nat.le_of_eq htm, ?_⟩
  · intro tm e
    cases e
    exact Nat.le_refl _
  · exact fresh_above_advance (fun k _ => hc.rp k)
  · show p.sequence + 1 + N < U64_MAX
    omega

theorem round_resp_final (hT : TokOK a s0 t expire xnonce) {c : NetcodeClient} {s : NetcodeServer} {T N d : Nat}
    (hc : CliResp a s0 t expire xnonce c) (hs : RespSrv a s0 addr t expire xnonce T (N + 1) s)
    (hb : Budget t expire c s T (N + 1)) (hd : d ≤ T) (hme : c.serverAddr = me)
    (hgate : GateOpen c d) (hrate : C.NETCODE_SEND_RATE_NS ≤ d) :
    ∃ c' s', round a addr me t.clientId .delivered d (c, s) = some (c', s') ∧ Established addr t expire c' s' ∧
      c'.currentTime = c.currentTime + d ∧ s'.currentTime = s.currentTime + d := by
  rcases hs with ⟨hso, p, hpf, hpi, hprp⟩ | hsc
  · obtain ⟨c', s', hr, hst, ht⟩ := round_resp_delivered (me := me) hT hc hso hpf hpi hprp hb hd hme hgate
    exact ⟨c', s', hr, hst.established, ht⟩
  · exact round_half_delivered hT hc hsc hb hd hrate

theorem handshake_steady (hT : TokOK a s0 t expire xnonce) {c0 : NetcodeClient} {s : NetcodeServer} {d₁ d₂ N : Nat}
    (hc : CliReq a s0 t expire xnonce c0) (hsend : c0.lastPacketSendTime = none) (hme : c0.serverAddr = me)
    (hs : SrvOpen a s0 addr t expire xnonce s) (hb : Budget t expire c0 s (d₁ + d₂) (N + 2)) :
    ∃ c1 s1 c2 s2, round a addr me t.clientId .delivered d₁ (c0, s) = some (c1, s1) ∧
      c1.state = .sendingConnectionResponse ∧
      round a addr me t.clientId .delivered d₂ (c1, s1) = some (c2, s2) ∧
      Steady a addr me t expire c0 0 0 N c2 s2 ∧
      c2.currentTime = c0.currentTime + d₁ + d₂ ∧ s2.currentTime = s.currentTime + d₁ + d₂ := by
  obtain ⟨s1, hr1, hc1, hs1, hpf, hb1, hst1⟩ :=
    round_req_delivered (me := me) (N := N + 1) hT hc hs hb (Nat.le_add_right _ _) hme (gateOpen_of_none hsend)
  have e : d₁ + d₂ - d₁ = d₂ := by omega
  rw [e] at hb1
  obtain ⟨c2, s2, hr2, hst, ht2, hst2⟩ := round_resp_delivered (me := me) (N := N) hT hc1 hs1 hpf rfl
    (fun k => rp_new_fresh k) hb1 (Nat.le_refl _) hme (gateOpen_of_none rfl)
  exact ⟨_, s1, c2, s2, hr1, rfl, hr2, hst.rebase rfl rfl, ht2, by rw [hst2, hst1]⟩

end Handshake

/-! ## Part C : a time-out is reported exactly once -/

def NotConn (id : Nat) (cl : Slots) : Prop := ∀ i c, At cl i c → c.clientId ≠ id

theorem notConn_isClientConnected {s : NetcodeServer} {id : Nat} (h : NotConn id s.clients) :
    s.isClientConnected id = false := by
  cases hb : s.isClientConnected id with
  | false => rfl
  | true =>
    obtain ⟨i, c, hc, hid⟩ := isClientConnected_iff.mp hb
    exact absurd hid (h i c hc)

theorem step_notConn {a : AEAD} {s s' : NetcodeServer} {op : Op} {r : ServerResult} {id : Nat} (hi : ServerInv s)
    (hn : NotConn id s.clients) (h : step a s op = some (r, s')) :
    (∀ ad o, r ≠ .clientDisconnected id ad o) ∧
    ((∀ ad ud ka, r ≠ .clientConnected id ad ud ka) → NotConn id s'.clients) := by
  have same : sessions s'.clients = sessions s.clients → NotConn id s'.clients := by
    intro hs i c' hc'
    obtain ⟨c, hc, hident⟩ := at_sessions hs hc'
    rw [← ident_id hident]
    exact hn i c hc
  rcases step_table hi h with ht | ⟨rfl, n, hg⟩
  · cases r with
    | clientConnected id' ad ud ka =>
      refine ⟨fun _ _ e => (by cases e), fun hne => ?_⟩
      obtain ⟨i, c, _, hset, hid, _⟩ := ht
      intro j cj hj
      rw [hset] at hj
      rcases at_set_some hj with ⟨_, rfl⟩ | ⟨_, hj'⟩
      · rw [hid]
        intro e
        exact hne ad ud ka (by rw [e])
      · exact hn j cj hj'
    | clientDisconnected id' ad o =>
      obtain ⟨i, c, hc, hid, _, hset⟩ := ht
      refine ⟨?_, fun _ => ?_⟩
      · intro ad' o' e
        simp only [ServerResult.clientDisconnected.injEq] at e
        exact hn i c hc (by rw [hid, e.1])
      · intro j cj hj
        rw [hset] at hj
        exact hn j cj (at_set_none hj).1
    | _ => exact ⟨fun _ _ e => (by cases e), fun _ => same ht⟩
  · refine ⟨fun _ _ e => (by cases e), fun _ => ?_⟩
    intro j cj hj
    rw [hg] at hj
    exact hn j cj (at_append_none.mp hj)

theorem run_notConn {a : AEAD} {id : Nat} : ∀ (ops : List Op) {s s' : NetcodeServer} {rs : List ServerResult},
    ServerInv s → NotConn id s.clients → runOps a s ops = some (rs, s') →
    (∀ ad ud ka, ServerResult.clientConnected id ad ud ka ∉ rs) →
    (∀ ad o, ServerResult.clientDisconnected id ad o ∉ rs) ∧ NotConn id s'.clients ∧ ServerInv s'
  | [], s, s', rs, hi, hn, hrun, _ => by
    simp only [runOps, Option.some.injEq, Prod.mk.injEq] at hrun
    obtain ⟨rfl, rfl⟩ := hrun
    exact ⟨fun _ _ h => (by cases h), hn, hi⟩
  | op :: rest, s, s', rs, hi, hn, hrun, hnc => by
    obtain ⟨r, s1, rs', hs, hr, rfl⟩ := runOps_cons hrun
    obtain ⟨h1, h2⟩ := step_notConn hi hn hs
    have hn1 := h2 fun ad ud ka e => hnc ad ud ka (by rw [e]; exact List.mem_cons_self)
    obtain ⟨h3, h4, h5⟩ := run_notConn rest (step_inv hi hs) hn1 hr
      (fun ad ud ka hm => hnc ad ud ka (List.mem_cons_of_mem _ hm))
    refine ⟨?_, h4, h5⟩
    intro ad o hm
    simp only [List.mem_cons] at hm
    rcases hm with e | hm
    · exact h1 ad o e.symm
    · exact h3 ad o hm

theorem notConn_dropped {s : NetcodeServer} {i : Nat} {c : Connection} (hi : ServerInv s) (hc : At s.clients i c) :
    NotConn c.clientId (s.clients.set i none) := by
  intro j cj hj
  obtain ⟨hj', hne⟩ := at_set_none hj
  intro e
  exact hne (hi.slots.ids i j c cj hc hj' e.symm)

end RenetVerif.NcLive3
