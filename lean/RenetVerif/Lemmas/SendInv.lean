/-
  Send-side invariants of the renet model (property C08, send half of C06 / C09).

  Part 1: sortedness of an association list read on its entries (`SI.Sorted`), with the facts of `Lemmas/SMap` in that
  form.  Part 2: SendChannelReliable (`SendRel`): `SendRel.Inv`, `InfoOK`, `Step`,
  send_message / get_packets_to_send / process_*_ack.  Part 3: RenetClient (`Conn`): `Conn.SendInv`,
  send_message / update / get_packets_to_send / process_packet.  What one flush emits and how it rewrites `unacked`
  is read off `Lemmas/Flush` (`getPackets_emitted`, `getPackets_entries`, `getPackets_seq`, `Conn.getPacketsToSend_live`).

  Helper lemmas live in namespace `RenetVerif.SI`; predicates used with field notation on model types
  (`s.Inv`, `c.SendInv`, `u.OK`, …) are declared under the model type's own namespace.
-/
import RenetVerif.Lemmas.Flush
import RenetVerif.Lemmas.Reassembly
import RenetVerif.Lemmas.DecodeWF
import RenetVerif.Lemmas.ResMonad
import RenetVerif.Lemmas.AckCases
import RenetVerif.Lemmas.ConnSteps
namespace RenetVerif
namespace SI
open C RenetVerif.SMap

/-! ## Part 1 : sortedness read on the entries -/
variable {α : Type}

@[simp] theorem find?_nil (k : Nat) : find? ([] : SMap α) k = none := rfl

def Sorted (m : SMap α) : Prop := List.Pairwise (fun a b => a.1 < b.1) m

theorem sorted_iff {m : SMap α} : Sorted m ↔ SMap.Sorted m := SMap.sorted_iff_pairwise.symm

theorem sorted_nil : Sorted ([] : SMap α) := List.Pairwise.nil

theorem sorted_cons {k : Nat} {v : α} {r : SMap α} :
    Sorted ((k, v) :: r) ↔ (∀ x ∈ r, k < x.1) ∧ Sorted r := List.pairwise_cons

theorem sorted_append {a b : SMap α} : Sorted (a ++ b) ↔ Sorted a ∧ Sorted b ∧ ∀ x ∈ a, ∀ y ∈ b, x.1 < y.1 :=
  List.pairwise_append

theorem Sorted.nodup {m : SMap α} (hs : Sorted m) : (keys m).Nodup := (sorted_iff.mp hs).nodup

theorem mem_find?_of_sorted {m : SMap α} {k : Nat} {v : α} (hs : Sorted m) (h : (k, v) ∈ m) : find? m k = some v :=
  find?_of_mem_nodup hs.nodup h

theorem sorted_insert {m : SMap α} (k : Nat) (v : α) (hs : Sorted m) : Sorted (insert m k v) :=
  sorted_iff.mpr (SMap.sorted_insert (sorted_iff.mp hs) k v)

theorem sorted_erase {m : SMap α} (k : Nat) (hs : Sorted m) : Sorted (erase m k) :=
  sorted_iff.mpr (SMap.sorted_erase (sorted_iff.mp hs) k)

/-! ## Part 2 : SendChannelReliable -/

def msum : SMap Unacked → Nat
  | [] => 0
  | (_, u) :: r => u.msg.length + msum r

@[simp] theorem msum_nil : msum [] = 0 := rfl
@[simp] theorem msum_cons (k : Nat) (u : Unacked) (r : SMap Unacked) : msum ((k, u) :: r) = u.msg.length + msum r := rfl

theorem msum_append : ∀ (a b : SMap Unacked), msum (a ++ b) = msum a + msum b
  | [], b => by simp
  | (k, u) :: a, b => by simp only [List.cons_append, msum_cons, msum_append a b]; omega

theorem msum_eq_sumBy : ∀ (m : SMap Unacked), msum m = sumBy (fun u => u.msg.length) m
  | [] => rfl
  | (_, u) :: r => congrArg (u.msg.length + ·) (msum_eq_sumBy r)

theorem msum_erase {m : SMap Unacked} {k : Nat} {u : Unacked} (h : find? m k = some u) :
    msum (erase m k) + u.msg.length = msum m := by
  rw [msum_eq_sumBy, msum_eq_sumBy]; exact sumBy_erase_present _ h

theorem msum_insert_replace {m : SMap Unacked} {k : Nat} {u : Unacked} (v : Unacked) (hs : Sorted m)
    (h : find? m k = some u) : msum (insert m k v) + u.msg.length = msum m + v.msg.length := by
  rw [msum_eq_sumBy, msum_eq_sumBy]; exact sumBy_insert_present _ (sorted_iff.mp hs) v h

theorem msum_ge {m : SMap Unacked} {k : Nat} {u : Unacked} (h : find? m k = some u) : u.msg.length ≤ msum m := by
  have := msum_erase h; omega

def _root_.RenetVerif.Unacked.OK : Unacked → Prop
  | .small m _ => m.length ≤ SLICE_SIZE
  | .sliced m n numAcked _ acked lastSent =>
    SLICE_SIZE < m.length ∧ n = divCeil m.length SLICE_SIZE ∧ acked.length = n ∧ lastSent.length = n ∧
    numAcked = acked.count true ∧ numAcked < n

def _root_.RenetVerif.Unacked.IsSmall : Unacked → Prop
  | .small .. => True
  | .sliced .. => False

def _root_.RenetVerif.Unacked.SliceIdx (idx : Nat) : Unacked → Prop
  | .small .. => False
  | .sliced _ n .. => idx < n

/-- same kind, same payload, same slice count -/
def _root_.RenetVerif.Unacked.Kin : Unacked → Unacked → Prop
  | .small m _, .small m' _ => m = m'
  | .sliced m n _ _ _ _, .sliced m' n' _ _ _ _ => m = m' ∧ n = n'
  | _, _ => False

theorem _root_.RenetVerif.Unacked.Kin.refl : ∀ (u : Unacked), u.Kin u
  | .small .. => rfl
  | .sliced .. => ⟨rfl, rfl⟩

theorem _root_.RenetVerif.Unacked.Kin.trans : ∀ {a b c : Unacked}, a.Kin b → b.Kin c → a.Kin c
  | .small .., .small .., .small .., h1, h2 => Eq.trans h1 h2
  | .sliced .., .sliced .., .sliced .., h1, h2 => ⟨h1.1.trans h2.1, h1.2.trans h2.2⟩
  | .small .., .sliced .., _, h1, _ => h1.elim
  | .sliced .., .small .., _, h1, _ => h1.elim
  | .small .., .small .., .sliced .., _, h2 => h2.elim
  | .sliced .., .sliced .., .small .., _, h2 => h2.elim

theorem _root_.RenetVerif.Unacked.Kin.isSmall : ∀ {a b : Unacked}, a.Kin b → a.IsSmall → b.IsSmall
  | .small .., .small .., _, _ => trivial
  | .small .., .sliced .., h, _ => h.elim
  | .sliced .., _, _, h => h.elim

theorem _root_.RenetVerif.Unacked.Kin.sliceIdx {idx : Nat} : ∀ {a b : Unacked}, a.Kin b → a.SliceIdx idx → b.SliceIdx idx
  | .sliced .., .sliced .., h, hi => by simp only [Unacked.SliceIdx] at hi ⊢; have := h.2; omega
  | .sliced .., .small .., h, _ => h.elim
  | .small .., _, _, h => h.elim

theorem _root_.RenetVerif.Unacked.Kin.msg : ∀ {a b : Unacked}, a.Kin b → a.msg = b.msg
  | .small .., .small .., h => h
  | .sliced .., .sliced .., h => h.1
  | .small .., .sliced .., h => h.elim
  | .sliced .., .small .., h => h.elim

structure _root_.RenetVerif.SendRel.Inv (s : SendRel) : Prop where
  sorted : Sorted s.unacked
  keys : ∀ x ∈ s.unacked, x.1 < s.nextId
  entries : ∀ x ∈ s.unacked, x.2.OK
  mem : s.mem = msum s.unacked
  bound : s.mem ≤ s.maxMem

theorem _root_.RenetVerif.SendRel.Inv.find_lt {s : SendRel} (h : s.Inv) {id : Nat} {u : Unacked} (hf : find? s.unacked id = some u) :
    id < s.nextId := h.keys _ (mem_of_find? hf)

theorem _root_.RenetVerif.SendRel.Inv.find_ok {s : SendRel} (h : s.Inv) {id : Nat} {u : Unacked} (hf : find? s.unacked id = some u) :
    u.OK := h.entries _ (mem_of_find? hf)

/-- the channel invariant gives the well-formedness the flush asks for (Lemmas/Flush, C13) once the stored messages have
    representable lengths — in particular when the memory limit is representable -/
theorem _root_.RenetVerif.SendRel.Inv.wf {s : SendRel} (h : s.Inv) (hl : ∀ x ∈ s.unacked, x.2.msg.length ≤ Varint.MAX) :
    s.WF := by
  refine ⟨h.sorted.nodup, fun id u hm => h.keys _ hm, fun id u hm => ?_⟩
  have hok := h.entries _ hm
  cases u with
  | small m ls => exact hok
  | sliced m n k nx ak ls =>
    obtain ⟨o1, o2, o3, o4, -, -⟩ := hok
    exact ⟨o2, by omega, hl _ hm, o3, o4⟩

theorem _root_.RenetVerif.SendRel.Inv.wf_of_maxMem {s : SendRel} (h : s.Inv) (hm : s.maxMem ≤ Varint.MAX) : s.WF :=
  h.wf fun x hx => by
    have := msum_ge (mem_find?_of_sorted h.sorted hx)
    have := h.mem
    have := h.bound
    omega

theorem SendRel.new_inv (ch resend maxMem : Nat) : (SendRel.new ch resend maxMem).Inv :=
  ⟨sorted_nil, fun _ h => (by cases h), fun _ h => (by cases h), rfl, Nat.zero_le _⟩

/-- what a recorded packet may say about a channel -/
def _root_.RenetVerif.SendRel.InfoOK (s : SendRel) : SentInfo → Prop
  | .relMsgs _ ids => ∀ id ∈ ids, id < s.nextId ∧ ∀ u, find? s.unacked id = some u → u.IsSmall
  | .relSlice _ id idx => id < s.nextId ∧ ∀ u, find? s.unacked id = some u → u.SliceIdx idx
  | _ => True

/-- one or more channel operations later: ids below the old `nextId` are gone or bound to an entry
    of the same kind/payload/slice count; nothing else about the channel identity changed -/
def _root_.RenetVerif.SendRel.Step (s s' : SendRel) : Prop :=
  s'.ch = s.ch ∧ s'.maxMem = s.maxMem ∧ s.nextId ≤ s'.nextId ∧
  ∀ id u', id < s.nextId → find? s'.unacked id = some u' → ∃ u, find? s.unacked id = some u ∧ u.Kin u'

theorem _root_.RenetVerif.SendRel.Step.refl (s : SendRel) : s.Step s :=
  ⟨rfl, rfl, Nat.le_refl _, fun _ u' _ h => ⟨u', h, Unacked.Kin.refl _⟩⟩

theorem _root_.RenetVerif.SendRel.Step.trans {a b c : SendRel} (h1 : a.Step b) (h2 : b.Step c) : a.Step c := by
  obtain ⟨a1, a2, a3, a4⟩ := h1
  obtain ⟨b1, b2, b3, b4⟩ := h2
  refine ⟨b1.trans a1, b2.trans a2, Nat.le_trans a3 b3, ?_⟩
  intro id u'' hid hf
  obtain ⟨u', hf', k'⟩ := b4 id u'' (by omega) hf
  obtain ⟨u, hf0, k0⟩ := a4 id u' hid hf'
  exact ⟨u, hf0, k0.trans k'⟩

theorem _root_.RenetVerif.SendRel.InfoOK.step {s s' : SendRel} (h : s.Step s') : ∀ {i : SentInfo}, s.InfoOK i → s'.InfoOK i
  | .relMsgs _ ids, hi => by
    intro id hid
    obtain ⟨h1, h2⟩ := hi id hid
    refine ⟨Nat.lt_of_lt_of_le h1 h.2.2.1, ?_⟩
    intro u' hf
    obtain ⟨u, hf0, k⟩ := h.2.2.2 id u' h1 hf
    exact k.isSmall (h2 u hf0)
  | .relSlice _ id idx, hi => by
    obtain ⟨h1, h2⟩ := hi
    refine ⟨Nat.lt_of_lt_of_le h1 h.2.2.1, ?_⟩
    intro u' hf
    obtain ⟨u, hf0, k⟩ := h.2.2.2 id u' h1 hf
    exact k.sliceIdx (h2 u hf0)
  | .none, _ => trivial
  | .ack _, _ => trivial

theorem newSliced_ok (m : Bytes) (h : SLICE_SIZE < m.length) : (Unacked.newSliced m).OK := by
  unfold Unacked.newSliced
  refine ⟨h, rfl, by simp, by simp, by simp [List.count_replicate], ?_⟩
  simp only [divCeil, SLICE_SIZE] at h ⊢; omega

theorem SendRel.sendMessage_spec {s s' : SendRel} {m : Bytes} (h : s.Inv) (hs : s.sendMessage m = .ok s') :
    s'.Inv ∧ s.Step s' ∧ s'.mem = s.mem + m.length ∧ s'.nextId = s.nextId + 1 ∧
    (∃ u, u.msg = m ∧ find? s'.unacked s.nextId = some u) ∧
    (∀ id, id ≠ s.nextId → find? s'.unacked id = find? s.unacked id) := by
  obtain ⟨c, rfl⟩ := SendRel.sendMessage_ok hs
  have hu : (if m.length > SLICE_SIZE then Unacked.newSliced m else Unacked.small m none).OK ∧
      (if m.length > SLICE_SIZE then Unacked.newSliced m else Unacked.small m none).msg = m := by
    by_cases c2 : m.length > SLICE_SIZE
    · rw [if_pos c2]; exact ⟨newSliced_ok m c2, rfl⟩
    · rw [if_neg c2]; exact ⟨by simp only [Unacked.OK]; omega, rfl⟩
  generalize (if m.length > SLICE_SIZE then Unacked.newSliced m else Unacked.small m none) = u at hu
  refine ⟨⟨?_, ?_, ?_, ?_, ?_⟩, ⟨rfl, rfl, by dsimp only; omega, ?_⟩, rfl, rfl, ⟨u, hu.2, find?_insert_self _ _ _⟩, ?_⟩
  · exact sorted_insert _ _ h.sorted
  · intro x hx
    rcases mem_insert hx with rfl | hx
    · dsimp only; omega
    · have := h.keys x hx; dsimp only; omega
  · intro x hx
    rcases mem_insert hx with rfl | hx
    · exact hu.1
    · exact h.entries x hx
  · dsimp only
    rw [SMap.insert_above _ _ u h.keys, msum_append, h.mem]
    simp only [msum_cons, msum_nil, hu.2]; omega
  · dsimp only; omega
  · intro id u' hid hf
    dsimp only at hf
    rw [find?_insert_ne _ _ (by omega)] at hf
    exact ⟨u', hf, Unacked.Kin.refl _⟩
  · intro id hid
    exact find?_insert_ne _ _ (fun e => hid e.symm)



/-- what `get_packets_to_send` may change in an entry: send times and the round-robin cursor -/
def _root_.RenetVerif.Unacked.Sim : Unacked → Unacked → Prop
  | .small m _, .small m' _ => m = m'
  | .sliced m n k _ a ls, .sliced m' n' k' _ a' ls' => m = m' ∧ n = n' ∧ k = k' ∧ a = a' ∧ ls.length = ls'.length
  | _, _ => False

theorem _root_.RenetVerif.Unacked.Sim.kin : ∀ {a b : Unacked}, a.Sim b → a.Kin b
  | .small .., .small .., h => h
  | .sliced .., .sliced .., h => ⟨h.1, h.2.1⟩
  | .small .., .sliced .., h => h.elim
  | .sliced .., .small .., h => h.elim

theorem _root_.RenetVerif.Unacked.Sim.ok : ∀ {a b : Unacked}, a.Sim b → a.OK → b.OK
  | .small .., .small .., h, ho => by simp only [Unacked.Sim] at h; subst h; exact ho
  | .sliced .., .sliced .., h, ho => by
    obtain ⟨rfl, rfl, rfl, rfl, h5⟩ := h
    obtain ⟨o1, o2, o3, o4, o5, o6⟩ := ho
    exact ⟨o1, o2, o3, by omega, o5, o6⟩
  | .small .., .sliced .., h, _ => h.elim
  | .sliced .., .small .., h, _ => h.elim

def MapSim : SMap Unacked → SMap Unacked → Prop
  | [], [] => True
  | (k, u) :: r, (k', u') :: r' => k = k' ∧ u.Sim u' ∧ MapSim r r'
  | [], _ :: _ => False
  | _ :: _, [] => False

theorem _root_.RenetVerif.Unacked.Sim.refl : ∀ (u : Unacked), u.Sim u
  | .small .. => rfl
  | .sliced .. => ⟨rfl, rfl, rfl, rfl, rfl⟩

theorem MapSim.refl : ∀ (a : SMap Unacked), MapSim a a
  | [] => trivial
  | (_, u) :: r => ⟨rfl, Unacked.Sim.refl u, MapSim.refl r⟩

theorem MapSim.step : ∀ {a b : SMap Unacked}, MapSim a b ↔ MapStep Unacked.Sim a b
  | [], [] => Iff.rfl
  | (_, _) :: _, (_, _) :: _ =>
    ⟨fun ⟨hk, hu, hr⟩ => ⟨hk.symm, hu, MapSim.step.mp hr⟩, fun ⟨hk, hu, hr⟩ => ⟨hk.symm, hu, MapSim.step.mpr hr⟩⟩
  | [], _ :: _ => Iff.rfl
  | _ :: _, [] => Iff.rfl

theorem MapSim.find {a b : SMap Unacked} (h : MapSim a b) (id : Nat) :
    (find? a id = none ∧ find? b id = none) ∨ ∃ u u', find? a id = some u ∧ find? b id = some u' ∧ u.Sim u' :=
  (MapSim.step.mp h).find? id

theorem MapSim.msum : ∀ {a b : SMap Unacked}, MapSim a b → msum a = msum b
  | [], [], _ => rfl
  | (k, u) :: r, (k', u') :: r', h => by
    simp only [msum_cons, MapSim.msum h.2.2, h.2.1.kin.msg]
  | [], _ :: _, h => h.elim
  | _ :: _, [], h => h.elim

theorem MapSim.mem {a b : SMap Unacked} (h : MapSim a b) (x' : Nat × Unacked) (hx : x' ∈ b) :
    ∃ x ∈ a, x.1 = x'.1 ∧ x.2.Sim x'.2 :=
  let ⟨u, hu, hs⟩ := (MapSim.step.mp h).mem x'.1 x'.2 hx
  ⟨(x'.1, u), hu, rfl, hs⟩

theorem MapSim.sorted : ∀ {a b : SMap Unacked}, MapSim a b → Sorted a → Sorted b := fun h hs =>
  sorted_iff.mpr (by rw [SMap.Sorted, (MapSim.step.mp h).keys]; exact sorted_iff.mp hs)

/-- a packet emitted by the reliable send channel `ch` speaks about messages really stored in `U` -/
def PktOK (ch : Nat) (U : SMap Unacked) : Packet → Prop
  | .smallReliable _ ch' msgs => ch' = ch ∧ ∀ x ∈ msgs, ∃ ls, find? U x.1 = some (.small x.2 ls)
  | .reliableSlice _ ch' sl => ch' = ch ∧ sl.sliceIndex < sl.numSlices ∧
      ∃ m k nx a ls, find? U sl.messageId = some (.sliced m sl.numSlices k nx a ls) ∧
        sl.payload = sliceBytes m sl.numSlices sl.sliceIndex
  | _ => False

theorem flushSmall_seq (ch : Nat) (gp : GP) : (flushSmall ch gp).seq = gp.seq + 1 := rfl

theorem EntryStep.sim {now resend : Nat} : ∀ {u u' : Unacked}, EntryStep now resend u u' → u.Sim u'
  | .small .., .small .., h => h.1.symm
  | .sliced .., .sliced .., h => ⟨h.1.symm, h.2.1.symm, h.2.2.1.symm, h.2.2.2.1.symm, h.2.2.2.2.1.symm⟩
  | .small .., .sliced .., h => h.elim
  | .sliced .., .small .., h => h.elim

theorem MapSim.of_step {now resend : Nat} : ∀ {a b : SMap Unacked}, MapStep (EntryStep now resend) a b → MapSim a b
  | [], [], _ => trivial
  | (_, _) :: _, (_, _) :: _, ⟨hk, hu, hr⟩ => ⟨hk.symm, EntryStep.sim hu, MapSim.of_step hr⟩
  | [], _ :: _, h => h.elim
  | _ :: _, [], h => h.elim

theorem SendRel.getPackets_spec {s : SendRel} (h : s.Inv) (seq avail now : Nat) :
    (s.getPackets seq avail now).1.Inv ∧ s.Step (s.getPackets seq avail now).1 ∧
    (s.getPackets seq avail now).1.mem = s.mem ∧ (s.getPackets seq avail now).1.nextId = s.nextId ∧
    MapSim s.unacked (s.getPackets seq avail now).1.unacked ∧
    ∀ p ∈ (s.getPackets seq avail now).2.1, PktOK s.ch (s.getPackets seq avail now).1.unacked p := by
  have hr := tuple4_eta (s.getPackets seq avail now)
  generalize (s.getPackets seq avail now).1 = s' at hr ⊢
  obtain ⟨-, hmem, hid, hch, -, hmax⟩ := SendRel.getPackets_keeps hr
  have i1 : MapSim s.unacked s'.unacked := MapSim.of_step (SendRel.getPackets_entries hr)
  have hsorted := i1.sorted h.sorted
  refine ⟨⟨hsorted, ?_, ?_, ?_, ?_⟩, ⟨hch, hmax, Nat.le_of_eq hid.symm, ?_⟩, hmem, hid, i1, ?_⟩
  · intro x' hx'
    obtain ⟨x, hx1, hx2, -⟩ := i1.mem x' hx'
    have := h.keys x hx1; omega
  · intro x' hx'
    obtain ⟨x, hx1, -, hx3⟩ := i1.mem x' hx'
    exact hx3.ok (h.entries x hx1)
  · rw [hmem, ← i1.msum]; exact h.mem
  · rw [hmem, hmax]; exact h.bound
  · intro id u' _ hf
    rcases i1.find id with ⟨_, h2⟩ | ⟨u, u'', h1, h2, h3⟩
    · rw [hf] at h2; cases h2
    · rw [hf] at h2; cases h2; exact ⟨u, h1, h3.kin⟩
  · intro p hp
    rcases SendRel.getPackets_emitted hr p hp with ⟨sq, msgs, rfl, hm⟩ |
      ⟨sq, id, i, m, n, na, nx, ak, ls, nx', ls', rfl, -, hi, -, -, hm', -⟩
    · exact ⟨rfl, fun x hx => let ⟨_, _, _, hin⟩ := hm x hx; ⟨some now, mem_find?_of_sorted hsorted hin⟩⟩
    · exact ⟨rfl, hi, m, na, nx', ak, ls', mem_find?_of_sorted hsorted hm', rfl⟩



theorem _root_.RenetVerif.SendRel.Inv.release {s : SendRel} (h : s.Inv) {id : Nat} {u : Unacked} (hf : find? s.unacked id = some u) :
    u.msg.length ≤ s.mem ∧
    ({ s with unacked := erase s.unacked id, mem := s.mem - u.msg.length } : SendRel).Inv ∧
    s.Step { s with unacked := erase s.unacked id, mem := s.mem - u.msg.length } := by
  have hge := msum_ge hf
  have he := msum_erase hf
  have hm := h.mem
  have hb := h.bound
  refine ⟨by omega, ⟨sorted_erase _ h.sorted, fun x hx => h.keys x (mem_erase hx),
    fun x hx => h.entries x (mem_erase hx), by dsimp only; omega, by dsimp only; omega⟩,
    ⟨rfl, rfl, Nat.le_refl _, ?_⟩⟩
  intro id' u' _ hf'
  exact ⟨u', (find?_erase_some h.sorted.nodup hf').2, Unacked.Kin.refl _⟩

theorem _root_.RenetVerif.SendRel.Inv.replace {s : SendRel} (h : s.Inv) {id : Nat} {u v : Unacked} (hf : find? s.unacked id = some u)
    (hk : u.Kin v) (hv : v.OK) :
    ({ s with unacked := SMap.insert s.unacked id v } : SendRel).Inv ∧
    s.Step { s with unacked := SMap.insert s.unacked id v } := by
  have hi := msum_insert_replace v h.sorted hf
  have hm := h.mem
  have hmsg := hk.msg
  refine ⟨⟨sorted_insert _ _ h.sorted, ?_, ?_, by dsimp only; rw [hmsg] at hi; omega, h.bound⟩,
    ⟨rfl, rfl, Nat.le_refl _, ?_⟩⟩
  · intro x hx
    rcases mem_insert hx with rfl | hx
    · exact h.find_lt hf
    · exact h.keys x hx
  · intro x hx
    rcases mem_insert hx with rfl | hx
    · exact hv
    · exact h.entries x hx
  · intro id' u' _ hf'
    dsimp only at hf'
    rw [find?_insert] at hf'
    by_cases c : id = id'
    · rw [if_pos c] at hf'; cases hf'; subst c; exact ⟨u, hf, hk⟩
    · rw [if_neg c] at hf'; exact ⟨u', hf', Unacked.Kin.refl _⟩

theorem SendRel.processMessageAck_keeps {s s' : SendRel} {id : Nat} (h : s.Inv) (e : s.processMessageAck id = .ok s') :
    s'.Inv ∧ s.Step s' := by
  rcases SendRel.processMessageAck_cases e with ⟨-, rfl⟩ | ⟨m, ls, hf, -, rfl⟩
  · exact ⟨h, SendRel.Step.refl _⟩
  · exact (h.release hf).2

theorem SendRel.processSliceAck_keeps {s s' : SendRel} {id idx : Nat} (h : s.Inv) (e : s.processSliceAck id idx = .ok s') :
    s'.Inv ∧ s.Step s' := by
  rcases SendRel.processSliceAck_cases e with
    ⟨-, rfl⟩ | ⟨m, n, k, nx, acked, ls, hf, ⟨-, rfl⟩ | ⟨-, -, -, rfl⟩ | ⟨hb, c, rfl⟩⟩
  · exact ⟨h, SendRel.Step.refl _⟩
  · exact ⟨h, SendRel.Step.refl _⟩
  · exact (h.release hf).2
  · obtain ⟨o1, o2, o3, o4, o5, o6⟩ := h.find_ok hf
    -- the bit that is set was clear, so the count stays below `n`
    have hcnt := Reasm.count_set_true hb
    exact h.replace hf (v := .sliced m n (k + 1) nx (acked.set idx true) ls) ⟨rfl, rfl⟩
      ⟨o1, o2, by rw [List.length_set]; exact o3, o4, by omega, by omega⟩

theorem SendRel.processMessageAck_mem {s s' : SendRel} {id : Nat} (e : s.processMessageAck id = .ok s') :
    s'.ch = s.ch ∧ s'.nextId = s.nextId ∧ s'.resend = s.resend ∧ s'.maxMem = s.maxMem ∧
      ∀ x ∈ s'.unacked, x ∈ s.unacked := by
  rcases SendRel.processMessageAck_cases e with ⟨-, rfl⟩ | ⟨m, ls, -, -, rfl⟩
  · exact ⟨rfl, rfl, rfl, rfl, fun _ h => h⟩
  · exact ⟨rfl, rfl, rfl, rfl, fun _ h => mem_erase h⟩

/-- for the per-entry properties that ignore the ack bits -/
theorem SendRel.processSliceAck_mem {s s' : SendRel} {id idx : Nat} (e : s.processSliceAck id idx = .ok s') :
    s'.ch = s.ch ∧ s'.nextId = s.nextId ∧ s'.resend = s.resend ∧ s'.maxMem = s.maxMem ∧
      ∀ x ∈ s'.unacked, x ∈ s.unacked ∨ ∃ m n k nx ak ls, (id, Unacked.sliced m n k nx ak ls) ∈ s.unacked ∧
        x = (id, .sliced m n (k + 1) nx (ak.set idx true) ls) := by
  rcases SendRel.processSliceAck_cases e with
    ⟨-, rfl⟩ | ⟨m, n, k, nx, ak, ls, hf, ⟨-, rfl⟩ | ⟨-, -, -, rfl⟩ | ⟨-, -, rfl⟩⟩
  · exact ⟨rfl, rfl, rfl, rfl, fun _ h => Or.inl h⟩
  · exact ⟨rfl, rfl, rfl, rfl, fun _ h => Or.inl h⟩
  · exact ⟨rfl, rfl, rfl, rfl, fun _ h => Or.inl (mem_erase h)⟩
  · exact ⟨rfl, rfl, rfl, rfl, fun _ h => (mem_insert h).elim (fun e => Or.inr ⟨m, n, k, nx, ak, ls, mem_of_find? hf, e⟩) Or.inl⟩

theorem SendRel.processMessageAck_spec {s : SendRel} (h : s.Inv) (id : Nat)
    (hk : ∀ u, find? s.unacked id = some u → u.IsSmall) :
    ∃ s', s.processMessageAck id = .ok s' ∧ s'.Inv ∧ s.Step s' := by
  have : ∃ s', s.processMessageAck id = .ok s' := by
    unfold SendRel.processMessageAck
    cases hf : find? s.unacked id with
    | none => exact ⟨s, rfl⟩
    | some u =>
      cases u with
      | sliced => exact (hk _ hf).elim
      | small m ls =>
        have hle : m.length ≤ s.mem := (h.release hf).1
        simp only [Res.csub_ok_iff.mpr ⟨hle, rfl⟩]; exact ⟨_, rfl⟩
  obtain ⟨s', e⟩ := this
  exact ⟨s', e, SendRel.processMessageAck_keeps h e⟩

theorem SendRel.processSliceAck_spec {s : SendRel} (h : s.Inv) (id idx : Nat)
    (hk : ∀ u, find? s.unacked id = some u → u.SliceIdx idx) :
    ∃ s', s.processSliceAck id idx = .ok s' ∧ s'.Inv ∧ s.Step s' := by
  have : ∃ s', s.processSliceAck id idx = .ok s' := by
    unfold SendRel.processSliceAck
    cases hf : find? s.unacked id with
    | none => exact ⟨s, rfl⟩
    | some u =>
      cases u with
      | small => exact (hk _ hf).elim
      | sliced m n k nx acked ls =>
        have hidx : idx < n := hk _ hf
        obtain ⟨-, -, o3, -⟩ := h.find_ok hf
        simp only
        cases hb : acked[idx]? with
        | none => rw [List.getElem?_eq_none_iff] at hb; omega
        | some b =>
          cases b with
          | true => exact ⟨s, rfl⟩
          | false =>
            simp only
            split
            · have hle : m.length ≤ s.mem := (h.release hf).1
              rw [Res.csub_ok_iff.mpr ⟨hle, rfl⟩]; exact ⟨_, rfl⟩
            · exact ⟨_, rfl⟩
  obtain ⟨s', e⟩ := this
  exact ⟨s', e, SendRel.processSliceAck_keeps h e⟩

def _root_.RenetVerif.SendRel.Pending (s : SendRel) (id i : Nat) : Prop :=
  ∃ m n k nx acked ls, find? s.unacked id = some (.sliced m n k nx acked ls) ∧ acked[i]? = some false

theorem SendRel.pending_congr {s s' : SendRel} {j : Nat} (hf : find? s'.unacked j = find? s.unacked j) (i : Nat) :
    s'.Pending j i ↔ s.Pending j i := by
  unfold SendRel.Pending; rw [hf]

theorem SendRel.pending_of_find {s : SendRel} {j : Nat} {m : Bytes} {n k nx : Nat} {ak : List Bool} {ls : List (Option Nat)}
    (hf : find? s.unacked j = some (.sliced m n k nx ak ls)) (i : Nat) : s.Pending j i ↔ ak[i]? = some false := by
  unfold SendRel.Pending; rw [hf]
  exact ⟨fun ⟨_, _, _, _, _, _, h, ha⟩ => by cases h; exact ha, fun ha => ⟨_, _, _, _, _, _, rfl, ha⟩⟩

theorem SendRel.pending_find {s : SendRel} {j i : Nat} (h : s.Pending j i) : ∃ u, find? s.unacked j = some u ∧ ¬ u.IsSmall := by
  obtain ⟨m, n, k, nx, a, ls, hf, -⟩ := h
  exact ⟨_, hf, fun h => h⟩

/-- generic description of one acknowledgement step on message `id`:
    other ids untouched, memory never grows and shrinks only by releasing `id` -/
structure _root_.RenetVerif.SendRel.AckStep (s s' : SendRel) (id : Nat) : Prop where
  others : ∀ id', id' ≠ id → find? s'.unacked id' = find? s.unacked id'
  memLe : s'.mem ≤ s.mem
  memLt : s'.mem < s.mem → (∃ u, find? s.unacked id = some u) ∧ find? s'.unacked id = none
  gone : ∀ id', find? s.unacked id' = none → find? s'.unacked id' = none

theorem _root_.RenetVerif.SendRel.AckStep.refl (s : SendRel) (id : Nat) : s.AckStep s id :=
  ⟨fun _ _ => rfl, Nat.le_refl _, fun h => absurd h (Nat.lt_irrefl _), fun _ h => h⟩

theorem SendRel.ackStep_release {s : SendRel} (h : s.Inv) {id : Nat} {u : Unacked} (hf : find? s.unacked id = some u) :
    s.AckStep { s with unacked := erase s.unacked id, mem := s.mem - u.msg.length } id := by
  refine ⟨fun id' hne => find?_erase_ne _ (fun e => hne e.symm), by dsimp only; omega,
    fun _ => ⟨⟨u, hf⟩, find?_erase_self h.sorted.nodup _⟩, ?_⟩
  intro id' hn
  dsimp only
  rw [find?_erase h.sorted.nodup]
  split
  · rfl
  · exact hn

theorem SendRel.processMessageAck_exact {s s' : SendRel} {id : Nat} (h : s.Inv) (e : s.processMessageAck id = .ok s') :
    (∀ j, find? s'.unacked j = if id = j then none else find? s.unacked j) ∧ s'.mem ≤ s.mem ∧
      (s'.mem < s.mem → find? s.unacked id ≠ none) := by
  rcases SendRel.processMessageAck_cases e with ⟨hf, rfl⟩ | ⟨m, ls, hf, -, rfl⟩
  · refine ⟨fun j => ?_, Nat.le_refl _, fun hlt => absurd hlt (Nat.lt_irrefl _)⟩
    split
    · next c => rw [← c]; exact hf
    · rfl
  · exact ⟨find?_erase h.sorted.nodup id, Nat.sub_le _ _, fun _ => by rw [hf]; exact Option.some_ne_none _⟩

theorem SendRel.processSliceAck_exact {s s' : SendRel} {id idx : Nat} (h : s.Inv) (e : s.processSliceAck id idx = .ok s') :
    s.AckStep s' id ∧ ∀ j i, s'.Pending j i ↔ s.Pending j i ∧ ¬ (j = id ∧ i = idx) := by
  rcases SendRel.processSliceAck_cases e with
    ⟨hf, rfl⟩ | ⟨m, n, k, nx, acked, ls, hf, ⟨ht, rfl⟩ | ⟨hb, hkn, -, rfl⟩ | ⟨hb, -, rfl⟩⟩
  · refine ⟨SendRel.AckStep.refl _ _, fun j i => ⟨fun hp => ⟨hp, ?_⟩, And.left⟩⟩
    rintro ⟨rfl, -⟩
    obtain ⟨u, hu, -⟩ := SendRel.pending_find hp
    rw [hf] at hu; cases hu
  · refine ⟨SendRel.AckStep.refl _ _, fun j i => ⟨fun hp => ⟨hp, ?_⟩, And.left⟩⟩
    rintro ⟨rfl, rfl⟩
    rw [SendRel.pending_of_find hf, ht] at hp; cases hp
  · refine ⟨SendRel.ackStep_release h hf, fun j i => ?_⟩
    by_cases c : j = id
    · subst c
      refine ⟨fun hp => ?_, fun ⟨hp, hne⟩ => ?_⟩
      · obtain ⟨u, hu, -⟩ := SendRel.pending_find hp
        dsimp only at hu
        rw [find?_erase_self h.sorted.nodup] at hu; cases hu
      · -- all slices but `idx` are already acknowledged: `k + 1 = n`
        exfalso
        rw [SendRel.pending_of_find hf] at hp
        obtain ⟨o1, o2, o3, o4, o5, o6⟩ := h.find_ok hf
        have hcnt := Reasm.count_set_true hb
        have hall : (acked.set idx true).count true = (acked.set idx true).length := by
          rw [List.length_set]; omega
        rw [List.count_eq_length] at hall
        have : (acked.set idx true)[i]? = some false := by
          rw [List.getElem?_set_ne (fun e => hne ⟨rfl, e.symm⟩)]; exact hp
        cases hall false (List.mem_of_getElem? this)
    · rw [SendRel.pending_congr (find?_erase_ne _ (fun e => c e.symm))]
      exact ⟨fun hp => ⟨hp, fun e => c e.1⟩, And.left⟩
  · refine ⟨⟨fun id' hne => find?_insert_ne _ _ (fun e => hne e.symm), Nat.le_refl _,
      fun hlt => absurd hlt (Nat.lt_irrefl _), fun id' hn => ?_⟩, fun j i => ?_⟩
    · dsimp only
      rw [find?_insert]
      split
      · next e => subst e; rw [hf] at hn; cases hn
      · exact hn
    · by_cases c : j = id
      · subst c
        rw [SendRel.pending_of_find (find?_insert_self _ _ _), SendRel.pending_of_find hf, List.getElem?_set]
        by_cases ci : idx = i
        · subst ci
          rw [if_pos rfl]
          refine ⟨fun hp => ?_, fun hp => absurd ⟨rfl, rfl⟩ hp.2⟩
          split at hp <;> cases hp
        · rw [if_neg ci]
          exact ⟨fun hp => ⟨hp, fun e => ci e.2.symm⟩, And.left⟩
      · rw [SendRel.pending_congr (find?_insert_ne _ _ (fun e => c e.symm))]
        exact ⟨fun hp => ⟨hp, fun e => c e.1⟩, And.left⟩

theorem SendRel.sendMessage_pending {s s' : SendRel} {m : Bytes} (h : s.Inv) (hs : s.sendMessage m = .ok s')
    {id i : Nat} (hp : s.Pending id i) : s'.Pending id i := by
  obtain ⟨m', n', k', nx', a', ls', hf', ha'⟩ := hp
  obtain ⟨-, -, -, -, -, hfind⟩ := SendRel.sendMessage_spec h hs
  have : id ≠ s.nextId := by have := h.find_lt hf'; omega
  exact ⟨m', n', k', nx', a', ls', by rw [hfind id this]; exact hf', ha'⟩

theorem MapSim.pending {s s' : SendRel} (hsim : MapSim s.unacked s'.unacked) {id i : Nat} (hp : s.Pending id i) :
    s'.Pending id i := by
  obtain ⟨m', n', k', nx', a', ls', hf', ha'⟩ := hp
  rcases hsim.find id with ⟨h1, _⟩ | ⟨u, u', h1, h2, h3⟩
  · rw [hf'] at h1; cases h1
  · rw [hf'] at h1; cases h1
    cases u' with
    | small => exact h3.elim
    | sliced m2 n2 k2 nx2 a2 ls2 =>
      obtain ⟨rfl, rfl, rfl, rfl, -⟩ := h3
      exact ⟨_, _, _, _, _, _, h2, ha'⟩

theorem MapSim.contains {a b : SMap Unacked} (hsim : MapSim a b) (id : Nat) : SMap.contains b id = SMap.contains a id := by
  unfold SMap.contains
  rcases hsim.find id with ⟨h1, h2⟩ | ⟨u, u', h1, h2, _⟩
  · rw [h1, h2]
  · rw [h1, h2]; rfl



/-! ## Part 3 : RenetClient -/

def chanOf : SentInfo → Option Nat
  | .relMsgs ch _ => some ch
  | .relSlice ch _ _ => some ch
  | _ => Option.none

def InfoOKC (sr : SMap SendRel) (info : SentInfo) : Prop :=
  ∀ ch, chanOf info = some ch → ∃ s, find? sr ch = some s ∧ s.InfoOK info

def SRStep (sr sr' : SMap SendRel) : Prop :=
  (∀ ch, (find? sr' ch).isSome = (find? sr ch).isSome) ∧
  ∀ ch s s', find? sr ch = some s → find? sr' ch = some s' → s.Step s'

theorem SRStep.refl (sr : SMap SendRel) : SRStep sr sr :=
  ⟨fun _ => rfl, fun _ s s' h h' => by rw [h] at h'; cases h'; exact SendRel.Step.refl _⟩

theorem SRStep.next {sr sr' : SMap SendRel} (h : SRStep sr sr') {ch : Nat} {s : SendRel} (hs : find? sr ch = some s) :
    ∃ s', find? sr' ch = some s' ∧ s.Step s' := by
  have := h.1 ch
  rw [hs] at this
  cases hb : find? sr' ch with
  | none => rw [hb] at this; cases this
  | some s' => exact ⟨s', rfl, h.2 ch s s' hs hb⟩

theorem SRStep.trans {a b c : SMap SendRel} (h1 : SRStep a b) (h2 : SRStep b c) : SRStep a c := by
  refine ⟨fun ch => (h2.1 ch).trans (h1.1 ch), ?_⟩
  intro ch s s'' hs hs''
  obtain ⟨s', hb, st⟩ := h1.next hs
  exact st.trans (h2.2 ch s' s'' hb hs'')

theorem SRStep.update {sr : SMap SendRel} {ch : Nat} {s s' : SendRel} (hf : find? sr ch = some s) (hst : s.Step s') :
    SRStep sr (SMap.insert sr ch s') := by
  refine ⟨isSome_find?_insert hf s', ?_⟩
  intro ch' s0 s0' h0 h0'
  rw [find?_insert] at h0'
  by_cases c : ch = ch'
  · rw [if_pos c] at h0'; cases h0'; subst c; rw [hf] at h0; cases h0; exact hst
  · rw [if_neg c, h0] at h0'; cases h0'; exact SendRel.Step.refl _

theorem InfoOKC.step {sr sr' : SMap SendRel} (h : SRStep sr sr') {info : SentInfo} (hi : InfoOKC sr info) :
    InfoOKC sr' info := by
  intro ch hch
  obtain ⟨s, hf, hok⟩ := hi ch hch
  obtain ⟨s', hb, st⟩ := h.next hf
  exact ⟨s', hb, hok.step st⟩

def ChansOK (sr : SMap SendRel) : Prop := ∀ ch s, find? sr ch = some s → s.Inv ∧ s.ch = ch

theorem ChansOK.update {sr : SMap SendRel} (h : ChansOK sr) {ch : Nat} {s' : SendRel} (hi : s'.Inv) (hc : s'.ch = ch) :
    ChansOK (SMap.insert sr ch s') :=
  SMap.forall_find?_insert (fun j x _ => h j x) ⟨hi, hc⟩

def OrderOK (ord : List (Bool × Nat)) (sr : SMap SendRel) (su : SMap SendUnrel) : Prop :=
  ∀ x ∈ ord, if x.1 = true then (find? sr x.2).isSome = true else (find? su x.2).isSome = true

theorem OrderOK.mono {ord : List (Bool × Nat)} {sr sr' : SMap SendRel} {su su' : SMap SendUnrel} (h : OrderOK ord sr su)
    (h1 : ∀ ch, (find? sr' ch).isSome = (find? sr ch).isSome) (h2 : ∀ ch, (find? su' ch).isSome = (find? su ch).isSome) :
    OrderOK ord sr' su' := by
  intro x hx
  rw [h1, h2]
  exact h x hx

structure _root_.RenetVerif.Conn.SendInv (c : Conn) : Prop where
  chans : ChansOK c.sendRel
  sentSorted : Sorted c.sent
  sentOK : ∀ x ∈ c.sent, x.1 < c.packetSeq ∧ InfoOKC c.sendRel x.2.2
  order : ∀ x ∈ c.order, if x.1 = true then (find? c.sendRel x.2).isSome = true else (find? c.sendUnrel x.2).isSome = true

/-- the send-side fields (everything `SendInv` talks about) are equal -/
def _root_.RenetVerif.Conn.SendSame (c c' : Conn) : Prop :=
  c'.sendRel = c.sendRel ∧ c'.sendUnrel = c.sendUnrel ∧ c'.sent = c.sent ∧ c'.packetSeq = c.packetSeq ∧ c'.order = c.order

theorem _root_.RenetVerif.Conn.SendSame.refl (c : Conn) : c.SendSame c := ⟨rfl, rfl, rfl, rfl, rfl⟩

theorem _root_.RenetVerif.Conn.SendSame.trans {a b c : Conn} (h1 : a.SendSame b) (h2 : b.SendSame c) : a.SendSame c := by
  obtain ⟨a1, a2, a3, a4, a5⟩ := h1
  obtain ⟨b1, b2, b3, b4, b5⟩ := h2
  exact ⟨b1.trans a1, b2.trans a2, b3.trans a3, b4.trans a4, b5.trans a5⟩

theorem _root_.RenetVerif.Conn.SendInv.same {c c' : Conn} (h : c.SendInv) (hs : c.SendSame c') : c'.SendInv := by
  obtain ⟨a1, a2, a3, a4, a5⟩ := hs
  obtain ⟨h1, h2, h3, h4⟩ := h
  exact ⟨a1 ▸ h1, a3 ▸ h2, by rw [a1, a3, a4]; exact h3, by rw [a1, a2, a5]; exact h4⟩

theorem _root_.RenetVerif.Conn.disconnectWith_same (c : Conn) (r : Reason) :
    c.SendSame (c.disconnectWith r) ∧ (c.disconnectWith r).pendingAcks = c.pendingAcks ∧
    (c.disconnectWith r).recvRel = c.recvRel ∧ (c.disconnectWith r).recvUnrel = c.recvUnrel := by
  obtain ⟨st, e⟩ := c.disconnectWith_eq r
  rw [e]
  exact ⟨⟨rfl, rfl, rfl, rfl, rfl⟩, rfl, rfl, rfl⟩

theorem _root_.RenetVerif.Conn.SendInv.updateChan {c : Conn} (h : c.SendInv) {ch : Nat} {s s' : SendRel}
    (hf : find? c.sendRel ch = some s) (hi : s'.Inv) (hst : s.Step s') :
    ({ c with sendRel := SMap.insert c.sendRel ch s' } : Conn).SendInv := by
  have hsr := SRStep.update hf hst
  refine ⟨h.chans.update hi (hst.1.trans (h.chans ch s hf).2), h.sentSorted, ?_, ?_⟩
  · intro x hx
    obtain ⟨a, b⟩ := h.sentOK x hx
    exact ⟨a, b.step hsr⟩
  · exact OrderOK.mono h.order hsr.1 (fun _ => rfl)

theorem Conn.sendMessage_inv {c c' : Conn} {ch : Nat} {m : Bytes} (h : c.SendInv) (hr : c.sendMessage ch m = .ok c') :
    c'.SendInv := by
  rcases Conn.sendMessage_outcomes hr with ⟨-, rfl⟩ | ⟨-, s, hf, ⟨s', hs, rfl⟩ | ⟨e, -, rfl⟩⟩ | ⟨-, -, su, hfu, rfl⟩
  · exact h
  · obtain ⟨i1, i2, -⟩ := SendRel.sendMessage_spec (h.chans ch s hf).1 hs
    exact h.updateChan hf i1 i2
  · exact h.same (c.disconnectWith_same _).1
  · exact ⟨h.chans, h.sentSorted, h.sentOK, OrderOK.mono h.order (fun _ => rfl) (isSome_find?_insert hfu _)⟩

theorem Conn.sendMessage_keeps {c c' : Conn} {ch0 : Nat} {m : Bytes} (h : c.SendInv) (hr : c.sendMessage ch0 m = .ok c')
    {ch : Nat} {s : SendRel} (hs : find? c.sendRel ch = some s) :
    ∃ s', find? c'.sendRel ch = some s' ∧ s.mem ≤ s'.mem ∧ s'.maxMem = s.maxMem ∧
      (∀ id u, find? s.unacked id = some u → find? s'.unacked id = some u) ∧
      (∀ id i, s.Pending id i → s'.Pending id i) := by
  have triv : ∃ s', find? c.sendRel ch = some s' ∧ s.mem ≤ s'.mem ∧ s'.maxMem = s.maxMem ∧
      (∀ id u, find? s.unacked id = some u → find? s'.unacked id = some u) ∧
      (∀ id i, s.Pending id i → s'.Pending id i) :=
    ⟨s, hs, Nat.le_refl _, rfl, fun _ _ h => h, fun _ _ h => h⟩
  rcases Conn.sendMessage_outcomes hr with ⟨-, rfl⟩ | ⟨-, s0, hf, ⟨s0', hs0, rfl⟩ | ⟨e, -, rfl⟩⟩ | ⟨-, -, su, hfu, rfl⟩
  · exact triv
  · dsimp only
    rw [find?_insert]
    by_cases cc : ch0 = ch
    · subst cc
      rw [hs] at hf; cases hf
      rw [if_pos rfl]
      have hinv := (h.chans ch0 s hs).1
      obtain ⟨i1, i2, i3, i4, i5, i6⟩ := SendRel.sendMessage_spec hinv hs0
      refine ⟨s0', rfl, by omega, i2.2.1, ?_, fun id i hp => SendRel.sendMessage_pending hinv hs0 hp⟩
      intro id u hu
      have : id ≠ s.nextId := by have := hinv.find_lt hu; omega
      rw [i6 id this]; exact hu
    · rw [if_neg cc]; exact triv
  · rw [(c.disconnectWith_same _).1.1]; exact triv
  · exact triv

theorem Conn.receiveMessage_same {c c' : Conn} {ch : Nat} {m : Option Bytes} (hr : c.receiveMessage ch = .ok (c', m)) :
    c.SendSame c' ∧ c'.pendingAcks = c.pendingAcks := by
  rcases Conn.receiveMessage_outcomes hr with ⟨-, rfl, -⟩ | ⟨-, r, r', -, -, rfl⟩ | ⟨-, -, r, r', -, -, rfl⟩ <;>
    exact ⟨⟨rfl, rfl, rfl, rfl, rfl⟩, rfl⟩

theorem Conn.update_inv {c c' : Conn} {dt : Nat} (h : c.SendInv) (hr : c.update dt = .ok c') : c'.SendInv := by
  obtain ⟨e1, e2, e3, e4, -, e6⟩ := Conn.update_frame hr
  obtain ⟨h1, h2, h3, h4⟩ := h
  have hsub := List.dropWhile_sublist (l := c.sent) (fun (_, (t, _)) => c.now + dt - t ≥ DISCARD_AFTER_NS)
  refine ⟨e1 ▸ h1, ?_, ?_, by rw [e1, e2, e4]; exact h4⟩
  · rw [e6]; exact List.Pairwise.sublist hsub h2
  · rw [e6, e1, e3]
    intro x hx
    exact h3 x (hsub.subset hx)



theorem _root_.RenetVerif.Unacked.Sim.trans : ∀ {a b c : Unacked}, a.Sim b → b.Sim c → a.Sim c
  | .small .., .small .., .small .., h1, h2 => Eq.trans h1 h2
  | .sliced .., .sliced .., .sliced .., h1, h2 =>
    ⟨h1.1.trans h2.1, h1.2.1.trans h2.2.1, h1.2.2.1.trans h2.2.2.1, h1.2.2.2.1.trans h2.2.2.2.1, h1.2.2.2.2.trans h2.2.2.2.2⟩
  | .small .., .sliced .., _, h1, _ => h1.elim
  | .sliced .., .small .., _, h1, _ => h1.elim
  | .small .., .small .., .sliced .., _, h2 => h2.elim
  | .sliced .., .sliced .., .small .., _, h2 => h2.elim

theorem MapSim.trans : ∀ {a b c : SMap Unacked}, MapSim a b → MapSim b c → MapSim a c
  | [], [], [], _, _ => trivial
  | (_, _) :: _, (_, _) :: _, (_, _) :: _, h1, h2 => ⟨h1.1.trans h2.1, h1.2.1.trans h2.2.1, MapSim.trans h1.2.2 h2.2.2⟩
  | [], _ :: _, _, h1, _ => h1.elim
  | _ :: _, [], _, h1, _ => h1.elim
  | [], [], _ :: _, _, h2 => h2.elim
  | _ :: _, _ :: _, [], _, h2 => h2.elim

/-- relation between the reliable send channels before and after `get_packets_to_send` -/
def SRGet (sr sr' : SMap SendRel) : Prop :=
  SRStep sr sr' ∧ ∀ ch s s', find? sr ch = some s → find? sr' ch = some s' →
    MapSim s.unacked s'.unacked ∧ s'.mem = s.mem

theorem SRGet.refl (sr : SMap SendRel) : SRGet sr sr :=
  ⟨SRStep.refl _, fun _ s s' h h' => by rw [h] at h'; cases h'; exact ⟨MapSim.refl _, rfl⟩⟩

theorem SRGet.trans {a b c : SMap SendRel} (h1 : SRGet a b) (h2 : SRGet b c) : SRGet a c := by
  refine ⟨h1.1.trans h2.1, ?_⟩
  intro ch s s'' hs hs''
  obtain ⟨s', hb, -⟩ := h1.1.next hs
  obtain ⟨a1, a2⟩ := h1.2 ch s s' hs hb
  obtain ⟨b1, b2⟩ := h2.2 ch s' s'' hb hs''
  exact ⟨a1.trans b1, b2.trans a2⟩

theorem SRGet.update {sr : SMap SendRel} {ch : Nat} {s s' : SendRel} (hf : find? sr ch = some s) (hst : s.Step s')
    (hsim : MapSim s.unacked s'.unacked) (hm : s'.mem = s.mem) : SRGet sr (SMap.insert sr ch s') := by
  refine ⟨SRStep.update hf hst, ?_⟩
  intro ch' s0 s0' h0 h0'
  rw [find?_insert] at h0'
  by_cases c : ch = ch'
  · rw [if_pos c] at h0'; cases h0'; subst c; rw [hf] at h0; cases h0; exact ⟨hsim, hm⟩
  · rw [if_neg c, h0] at h0'; cases h0'; exact ⟨MapSim.refl _, rfl⟩

def PInfoOK (sr : SMap SendRel) (p : Packet) : Prop :=
  isAckPkt p = false ∧ ∀ info, Conn.sentInfoOf p = .ok info → InfoOKC sr info

theorem PInfoOK.step {sr sr' : SMap SendRel} (h : SRStep sr sr') {p : Packet} (hp : PInfoOK sr p) : PInfoOK sr' p :=
  ⟨hp.1, fun info hi => (hp.2 info hi).step h⟩

theorem PktOK.pinfo {sr : SMap SendRel} {s : SendRel} (hf : find? sr s.ch = some s) (hi : s.Inv) :
    ∀ {p : Packet}, PktOK s.ch s.unacked p → PInfoOK sr p
  | .smallReliable _ ch' msgs, hp => by
    obtain ⟨rfl, hm⟩ := hp
    refine ⟨rfl, fun info hinfo ch hch => ?_⟩
    cases hinfo
    cases hch
    refine ⟨s, hf, ?_⟩
    intro id hid
    simp only [List.mem_map] at hid
    obtain ⟨x, hx, rfl⟩ := hid
    obtain ⟨ls, hfx⟩ := hm x hx
    refine ⟨hi.find_lt hfx, ?_⟩
    intro u hu
    rw [hfx] at hu; cases hu; trivial
  | .reliableSlice _ ch' sl, hp => by
    obtain ⟨rfl, hidx, m, k, nx, a, ls, hfx, -⟩ := hp
    refine ⟨rfl, fun info hinfo ch hch => ?_⟩
    cases hinfo
    cases hch
    refine ⟨s, hf, hi.find_lt hfx, ?_⟩
    intro u hu
    rw [hfx] at hu; cases hu; exact hidx
  | .smallUnreliable .., hp => hp.elim
  | .unreliableSlice .., hp => hp.elim
  | .ack .., hp => hp.elim

/-! #### unreliable channels: only sequence numbers matter here -/
def UP (seq0 : Nat) (pk : List Packet) (seq : Nat) : Prop :=
  (∀ p ∈ pk, Conn.sentInfoOf p = .ok .none ∧ isAckPkt p = false ∧ seq0 ≤ p.sequence ∧ p.sequence < seq) ∧ seq0 ≤ seq

theorem UP.append {seq0 : Nat} {pk : List Packet} {seq : Nat} {ps : List Packet} {sq : Nat} (h : UP seq0 pk seq)
    (hps : ∀ p ∈ ps, Conn.sentInfoOf p = .ok .none ∧ isAckPkt p = false ∧ seq ≤ p.sequence ∧ p.sequence < sq) (hle : seq ≤ sq) :
    UP seq0 (pk ++ ps) sq := by
  refine ⟨?_, Nat.le_trans h.2 hle⟩
  intro p hp
  simp only [List.mem_append] at hp
  rcases hp with hp | hp
  · obtain ⟨a1, a2, a3, a4⟩ := h.1 p hp
    exact ⟨a1, a2, a3, by omega⟩
  · obtain ⟨a1, a2, a3, a4⟩ := hps p hp
    exact ⟨a1, a2, by have := h.2; omega, a4⟩

theorem UnrelPktOK.info {ch sid0 sid : Nat} {q : List Bytes} {all : List Packet} : ∀ {p : Packet},
    UnrelPktOK ch q sid0 sid all p → Conn.sentInfoOf p = .ok .none ∧ isAckPkt p = false
  | .smallUnreliable .., _ => ⟨rfl, rfl⟩
  | .unreliableSlice .., _ => ⟨rfl, rfl⟩
  | .smallReliable .., h => h.elim
  | .reliableSlice .., h => h.elim
  | .ack .., h => h.elim

theorem OrderOK.exist {ord : List (Bool × Nat)} {sr : SMap SendRel} {su : SMap SendUnrel} (h : OrderOK ord sr su) :
    ChansExist ord sr su := by
  intro x hx
  have := h x hx
  by_cases c : x.1 = true
  · rw [if_pos c] at this ⊢; exact Option.isSome_iff_ne_none.mp this
  · rw [if_neg c] at this ⊢; exact Option.isSome_iff_ne_none.mp this

theorem Conn.chanLoop_spec (now : Nat) {ord : List (Bool × Nat)} {sr sr' : SMap SendRel} {su su' : SMap SendUnrel}
    {pk pk' : List Packet} {seq avail seq' avail' : Nat}
    (e : Conn.chanLoop now ord (sr, su, pk, seq, avail) = .ok (sr', su', pk', seq', avail'))
    (hc : ChansOK sr) (hp : ∀ p ∈ pk, PInfoOK sr p) :
    ChansOK sr' ∧ SRGet sr sr' ∧ (∀ ch, (find? su' ch).isSome = (find? su ch).isSome) ∧ ∀ p ∈ pk', PInfoOK sr' p := by
  refine chanLoop_rel
    (fun (sr, su, pk, _, _) (sr', su', pk', _, _) => ChansOK sr → (∀ p ∈ pk, PInfoOK sr p) →
      ChansOK sr' ∧ SRGet sr sr' ∧ (∀ ch, (find? su' ch).isSome = (find? su ch).isSome) ∧ ∀ p ∈ pk', PInfoOK sr' p)
    ?_ ?_ now ?_ ?_ ord _ _ e hc hp
  · intro ⟨sr, su, pk, seq, avail⟩ hc hp
    exact ⟨hc, SRGet.refl _, fun _ => rfl, hp⟩
  · intro ⟨sr, su, pk, seq, avail⟩ ⟨sr1, su1, pk1, seq1, avail1⟩ ⟨sr2, su2, pk2, seq2, avail2⟩ h1 h2 hc hp
    obtain ⟨a1, a2, a3, a4⟩ := h1 hc hp
    obtain ⟨b1, b2, b3, b4⟩ := h2 a1 a4
    exact ⟨b1, a2.trans b2, fun ch => (b3 ch).trans (a3 ch), b4⟩
  · intro sr su pk seq avail ch s hf hc hp
    obtain ⟨hinv, hch⟩ := hc ch s hf
    obtain ⟨g1, g2, g3, -, g5, g7⟩ := SendRel.getPackets_spec hinv seq avail now
    have hch' := g2.1.trans hch
    have hget := SRGet.update hf g2 g5 g3
    have hfs : find? (SMap.insert sr ch (s.getPackets seq avail now).1) (s.getPackets seq avail now).1.ch =
        some (s.getPackets seq avail now).1 := by
      rw [hch']; exact find?_insert_self _ _ _
    exact ⟨hc.update g1 hch', hget, fun _ => rfl, fun p hpp => (List.mem_append.mp hpp).elim
      (fun h => (hp p h).step hget.1) (fun h => PktOK.pinfo hfs g1 (g2.1.symm ▸ g7 p h))⟩
  · intro sr su pk seq avail ch s hf hc hp
    refine ⟨hc, SRGet.refl _, isSome_find?_insert hf _, fun p hpp => (List.mem_append.mp hpp).elim (hp p) fun h => ?_⟩
    -- an unreliable packet is recorded as `.none`, which names no channel
    obtain ⟨a1, a2⟩ := UnrelPktOK.info ((SendUnrel.getPackets_emitted (tuple4_eta _)).2 p h)
    refine ⟨a2, fun info hi => ?_⟩
    rw [a1] at hi; cases hi
    intro ch' hch'; cases hch'

theorem Conn.recordSent_spec (now : Nat) : ∀ (pk : List Packet) (m m' : SMap (Nat × SentInfo)),
    Conn.recordSent now pk m = .ok m' →
    (∀ k, (∀ p ∈ pk, p.sequence ≠ k) → find? m' k = find? m k) ∧
    ((pk.map Packet.sequence).Pairwise (· < ·) →
      ∀ p ∈ pk, ∃ info, Conn.sentInfoOf p = .ok info ∧ find? m' p.sequence = some (now, info)) ∧
    (Sorted m → Sorted m' ∧ ∀ x ∈ m', x ∈ m ∨ ∃ p ∈ pk, x.1 = p.sequence ∧ x.2.1 = now ∧ Conn.sentInfoOf p = .ok x.2.2)
  | [], m, m', h => by
    simp only [Conn.recordSent, Res.ok.injEq] at h; subst h
    exact ⟨fun _ _ => rfl, fun _ _ hp => (nomatch hp), fun hs => ⟨hs, fun x hx => Or.inl hx⟩⟩
  | p :: rest, m, m', h => by
    obtain ⟨info, hi, h⟩ := Res.bind_ok_iff.mp h
    obtain ⟨r3, r4, r12⟩ := Conn.recordSent_spec now rest _ m' h
    refine ⟨fun k hk => ?_, fun hpw q hq => ?_, fun hs => ?_⟩
    · rw [r3 k fun q hq => hk q (List.mem_cons_of_mem _ hq)]
      exact find?_insert_ne _ _ (hk p List.mem_cons_self)
    · simp only [List.map_cons, List.pairwise_cons] at hpw
      rcases List.mem_cons.mp hq with rfl | hq
      · -- the later packets carry larger numbers: the entry written for `q` stays
        refine ⟨info, hi, ?_⟩
        rw [r3 q.sequence fun r hr e => Nat.lt_irrefl _ (e ▸ hpw.1 r.sequence (List.mem_map.mpr ⟨r, hr, rfl⟩))]
        exact SMap.find?_insert_self _ _ _
      · exact r4 hpw.2 q hq
    · obtain ⟨r1, r2⟩ := r12 (sorted_insert _ _ hs)
      refine ⟨r1, fun x hx => ?_⟩
      rcases r2 x hx with hx | ⟨q, hq, hq2⟩
      · rcases mem_insert hx with rfl | hx
        · exact Or.inr ⟨p, List.mem_cons_self, rfl, rfl, hi⟩
        · exact Or.inl hx
      · exact Or.inr ⟨q, List.mem_cons_of_mem _ hq, hq2⟩

theorem _root_.RenetVerif.Conn.Flushed.numbered {c c1 : Conn} {pk0 : List Packet} {seq0 avail : Nat}
    (f : c.Flushed c1 pk0 seq0 avail) : Numbered c.packetSeq (withAck pk0 seq0 c.pendingAcks) c1.packetSeq := by
  obtain ⟨ps, hps, hn⟩ := chanLoop_numbering f.loop
  rw [List.nil_append] at hps
  subst hps
  rw [f.packetSeq]; unfold withAck
  split
  · exact hn
  · exact hn.snoc rfl

/-- what the channel loop and the sent-table update of a flush establish (serialisation has no part in it) -/
theorem _root_.RenetVerif.Conn.Flushed.spec {c c1 : Conn} {pk0 : List Packet} {seq0 avail : Nat} (h : c.SendInv) (hw : Acks.WF c.pendingAcks)
    (f : c.Flushed c1 pk0 seq0 avail) :
    c1.SendInv ∧ (∀ p ∈ pk0, isAckPkt p = false) ∧ SRGet c.sendRel c1.sendRel ∧ c.packetSeq ≤ c1.packetSeq ∧
      (∀ x ∈ c1.sent, x ∈ c.sent ∨ ∃ p ∈ withAck pk0 seq0 c.pendingAcks,
          x.1 = p.sequence ∧ c.packetSeq ≤ p.sequence ∧ Conn.sentInfoOf p = .ok x.2.2) ∧
      (∀ k v, find? c.sent k = some v → find? c1.sent k = some v) := by
  obtain ⟨h1, h2, h3, h4⟩ := h
  obtain ⟨r1, r2, r3, r4⟩ := Conn.chanLoop_spec c.now f.loop h1 (fun p hp => by cases hp)
  have hnum := f.numbered
  have hseq : c.packetSeq ≤ c1.packetSeq := by have := hnum.2; omega
  have hpk : ∀ p ∈ withAck pk0 seq0 c.pendingAcks, ∀ info, Conn.sentInfoOf p = .ok info → InfoOKC c1.sendRel info :=
    forall_withAck (fun p hp => (r4 p hp).2) fun hne info hi => by
      obtain ⟨l, hl⟩ := sentInfoOf_ack (seq := seq0) hw hne
      rw [hl] at hi; cases hi
      intro ch hch; cases hch
  obtain ⟨s3, -, s12⟩ := Conn.recordSent_spec c.now _ c.sent _ f.sent
  obtain ⟨s1, s2⟩ := s12 h2
  refine ⟨⟨r1, s1, ?_, f.order ▸ OrderOK.mono h4 r2.1.1 r3⟩, fun p hp => (r4 p hp).1, r2, hseq, ?_, ?_⟩
  · intro x hx
    rcases s2 x hx with hx | ⟨p, hp, hp1, -, hp2⟩
    · obtain ⟨a1, a2⟩ := h3 x hx
      exact ⟨Nat.lt_of_lt_of_le a1 hseq, a2.step r2.1⟩
    · exact ⟨hp1 ▸ (hnum.bounds p hp).2, hpk p hp _ hp2⟩
  · intro x hx
    rcases s2 x hx with hx | ⟨p, hp, hp1, -, hp2⟩
    · exact Or.inl hx
    · exact Or.inr ⟨p, hp, hp1, (hnum.bounds p hp).1, hp2⟩
  · intro k v hk
    have hlt := (h3 _ (mem_of_find? hk)).1
    rw [s3 k (fun p hp => ?_)]
    · exact hk
    · have := (hnum.bounds p hp).1
      dsimp only at hlt
      omega

theorem fromBytes_ack_wf {b : Bytes} {seq : Nat} {ranges : List AckRange}
    (h : Packet.fromBytes b = .ok (.ack seq ranges)) : Acks.WF ranges :=
  Acks.wf_of_ackWF (Packet.fromBytes_wf h).2

theorem keys_filter_spec {α : Type} (p : Nat × α → Bool) {m : SMap α} (hs : Sorted m) :
    ((m.filter p).map (·.1)).Nodup ∧ ∀ x ∈ (m.filter p).map (·.1), ∃ v, find? m x = some v ∧ p (x, v) = true := by
  refine ⟨?_, ?_⟩
  · unfold List.Nodup
    rw [List.pairwise_map]
    exact (List.Pairwise.filter p hs).imp (fun h => Nat.ne_of_lt h)
  · intro x hx
    simp only [List.mem_map, List.mem_filter] at hx
    obtain ⟨⟨k, v⟩, ⟨hm, hp⟩, rfl⟩ := hx
    exact ⟨v, mem_find?_of_sorted hs hm, hp⟩

theorem Conn.newAcks_spec {sent : SMap (Nat × SentInfo)} (hs : Sorted sent) : ∀ (ranges : List AckRange), Acks.WF ranges →
    ∃ L, Conn.newAcks sent ranges = .ok L ∧ L.Nodup ∧ ∀ x, x ∈ L ↔ (∃ v, find? sent x = some v) ∧ Acks.Mem x ranges
  | [], _ => ⟨[], rfl, List.nodup_nil, fun _ => ⟨fun hx => (by cases hx), fun hx => hx.2.elim⟩⟩
  | (s, e) :: rest, hw => by
    have hpos := Acks.wf_mem_nonempty hw (s, e) (by simp)
    simp only at hpos
    obtain ⟨L, hL, hnd, hmem⟩ := Conn.newAcks_spec hs rest (Acks.wf_tail hw)
    obtain ⟨k1, k2⟩ := keys_filter_spec (fun (x : Nat × Nat × SentInfo) => decide (s ≤ x.1 ∧ x.1 < e)) hs
    refine ⟨(sent.filter (fun (x : Nat × Nat × SentInfo) => decide (s ≤ x.1 ∧ x.1 < e))).map (·.1) ++ L, ?_, ?_, ?_⟩
    · simp only [Conn.newAcks]
      rw [if_neg (by omega), hL]
      rfl
    · rw [List.nodup_append]
      refine ⟨k1, hnd, ?_⟩
      intro a ha b hb hab
      subst hab
      obtain ⟨v, -, hp⟩ := k2 a ha
      simp only [decide_eq_true_eq] at hp
      have := Acks.wf_above hw a ((hmem a).mp hb).2
      simp only at this
      omega
    · intro x
      rw [List.mem_append, hmem x]
      constructor
      · rintro (hx | hx)
        · obtain ⟨v, hv, hp⟩ := k2 x hx
          simp only [decide_eq_true_eq] at hp
          exact ⟨⟨v, hv⟩, Or.inl hp⟩
        · exact ⟨hx.1, Or.inr hx.2⟩
      · rintro ⟨⟨v, hv⟩, hm | hm⟩
        · exact Or.inl (List.mem_map.mpr ⟨(x, v), List.mem_filter.mpr ⟨mem_of_find? hv, by simpa using hm⟩, rfl⟩)
        · exact Or.inr ⟨⟨v, hv⟩, hm⟩

/-- accumulated effect of acknowledging the messages `ids` on one channel -/
structure _root_.RenetVerif.SendRel.AckSteps (s s' : SendRel) (ids : List Nat) : Prop where
  others : ∀ id', id' ∉ ids → find? s'.unacked id' = find? s.unacked id'
  memLe : s'.mem ≤ s.mem
  memLt : s'.mem < s.mem → ∃ id, find? s.unacked id ≠ none ∧ find? s'.unacked id = none
  gone : ∀ id', find? s.unacked id' = none → find? s'.unacked id' = none
  pend : ∀ id i, s.Pending id i → s'.Pending id i

theorem ite_mem_cons {β : Type} (a : Option β) (k k0 : Nat) (rest : List Nat) :
    (if k ∈ rest then none else if k0 = k then none else a) = if k ∈ k0 :: rest then none else a := by
  by_cases c1 : k ∈ rest
  · rw [if_pos c1, if_pos (List.mem_cons_of_mem _ c1)]
  · by_cases c2 : k0 = k
    · rw [if_neg c1, if_pos c2, if_pos (c2 ▸ List.mem_cons_self)]
    · rw [if_neg c1, if_neg c2, if_neg (fun h => (List.mem_cons.mp h).elim (fun e => c2 e.symm) c1)]

theorem Conn.ackMsgLoop_exact {ch : Nat} : ∀ (ids : List Nat) {s : SendRel}, s.Inv → s.InfoOK (.relMsgs ch ids) →
    ∃ s', Conn.ackMsgLoop s ids = .ok s' ∧ s'.Inv ∧ s.Step s' ∧
      (∀ j, find? s'.unacked j = if j ∈ ids then none else find? s.unacked j) ∧ s'.mem ≤ s.mem ∧
      (s'.mem < s.mem → ∃ id ∈ ids, find? s.unacked id ≠ none)
  | [], s, hi, _ =>
    ⟨s, rfl, hi, SendRel.Step.refl _, fun _ => rfl, Nat.le_refl _, fun h => absurd h (Nat.lt_irrefl _)⟩
  | id :: rest, s, hi, hok => by
    obtain ⟨s1, e1, i1, st1⟩ := SendRel.processMessageAck_spec hi id (hok id (by simp)).2
    obtain ⟨f1, l1, m1⟩ := SendRel.processMessageAck_exact hi e1
    have hok1 : s1.InfoOK (.relMsgs ch rest) :=
      SendRel.InfoOK.step st1 (i := .relMsgs ch rest) (fun id' h' => hok id' (List.mem_cons_of_mem _ h'))
    obtain ⟨s', e2, i2, st2, f2, l2, m2⟩ := Conn.ackMsgLoop_exact rest i1 hok1
    refine ⟨s', ?_, i2, st1.trans st2, fun j => ?_, Nat.le_trans l2 l1, fun hlt => ?_⟩
    · simp only [Conn.ackMsgLoop, e1, Res.bind_ok]; exact e2
    · rw [f2 j, f1 j, ite_mem_cons]
    · by_cases c : s1.mem < s.mem
      · exact ⟨id, List.mem_cons_self, m1 c⟩
      · obtain ⟨id2, hin, hne⟩ := m2 (by omega)
        refine ⟨id2, List.mem_cons_of_mem _ hin, fun hnone => hne ?_⟩
        rw [f1 id2, hnone, ite_self]

theorem Conn.ackMsgLoop_spec {ch : Nat} (ids : List Nat) {s : SendRel} (hi : s.Inv) (hok : s.InfoOK (.relMsgs ch ids)) :
    ∃ s', Conn.ackMsgLoop s ids = .ok s' ∧ s'.Inv ∧ s.Step s' ∧ s.AckSteps s' ids ∧
      (∀ id ∈ ids, find? s'.unacked id = none) ∧ ∀ j i, s'.Pending j i → s.Pending j i := by
  obtain ⟨s', e, i1, st, f, l, m⟩ := Conn.ackMsgLoop_exact ids hi hok
  -- a pending slice belongs to a sliced message, `ids` name small ones
  have hp : ∀ j i, s.Pending j i ∨ s'.Pending j i → find? s'.unacked j = find? s.unacked j := by
    intro j i hp
    rw [f j]
    split
    · next hin =>
      rcases hp with hp | hp
      · obtain ⟨u, hu, hns⟩ := SendRel.pending_find hp
        exact absurd ((hok j hin).2 u hu) hns
      · obtain ⟨u, hu, -⟩ := SendRel.pending_find hp
        rw [f j, if_pos hin] at hu; cases hu
    · rfl
  refine ⟨s', e, i1, st, ⟨fun j hj => by rw [f j, if_neg hj], l, fun hlt => ?_, fun j hj => by rw [f j, hj, ite_self],
    fun j i h => (SendRel.pending_congr (hp j i (Or.inl h)) i).mpr h⟩, fun id hin => by rw [f id, if_pos hin],
    fun j i h => (SendRel.pending_congr (hp j i (Or.inr h)) i).mp h⟩
  obtain ⟨id, hin, hne⟩ := m hlt
  exact ⟨id, hne, by rw [f id, if_pos hin]⟩

/-- the recorded packet `info` carried message `id` of channel `ch` (whole, or one of its slices) -/
def Names (info : SentInfo) (ch id : Nat) : Prop :=
  (∃ ids, info = .relMsgs ch ids ∧ id ∈ ids) ∨ ∃ idx, info = .relSlice ch id idx

/-- effect on channel `ch` of acknowledging the packets `L`, all recorded in `S`: what may change (`gone` … `pend`)
    and what is achieved (`back`, `doneMsgs`, `doneSlice`) -/
structure ChanEff (S : SMap (Nat × SentInfo)) (L : List Nat) (ch : Nat) (s s' : SendRel) : Prop where
  gone : ∀ id, find? s.unacked id = none → find? s'.unacked id = none
  just : ∀ id, find? s.unacked id ≠ none → find? s'.unacked id = none →
    ∃ seq ∈ L, ∃ t info, find? S seq = some (t, info) ∧ Names info ch id
  memLe : s'.mem ≤ s.mem
  step : s.Step s'
  memLt : s'.mem < s.mem → ∃ id, find? s.unacked id ≠ none ∧ find? s'.unacked id = none
  pend : ∀ id i, s.Pending id i → s'.Pending id i ∨ ∃ seq ∈ L, ∃ t, find? S seq = some (t, .relSlice ch id i)
  back : ∀ id i, s'.Pending id i → s.Pending id i
  doneMsgs : ∀ seq ∈ L, ∀ t ids, find? S seq = some (t, .relMsgs ch ids) → ∀ id ∈ ids, find? s'.unacked id = none
  doneSlice : ∀ seq ∈ L, ∀ t id idx, find? S seq = some (t, .relSlice ch id idx) → ¬ s'.Pending id idx

theorem ChanEff.idle {S : SMap (Nat × SentInfo)} {L : List Nat} {ch : Nat} (s : SendRel)
    (h : ∀ seq ∈ L, ∀ t info, find? S seq = some (t, info) → chanOf info ≠ some ch) : ChanEff S L ch s s :=
  ⟨fun _ h => h, fun _ h1 h2 => absurd h2 h1, Nat.le_refl _, SendRel.Step.refl _, fun h => absurd h (Nat.lt_irrefl _),
    fun _ _ h => Or.inl h, fun _ _ h => h, fun seq hs t _ hf => absurd rfl (h seq hs t _ hf),
    fun seq hs t _ _ hf => absurd rfl (h seq hs t _ hf)⟩

theorem ChanEff.refl (S : SMap (Nat × SentInfo)) (ch : Nat) (s : SendRel) : ChanEff S [] ch s s :=
  ChanEff.idle s (fun _ h => nomatch h)

/-- `S'` is `S` with the packets of `L1` erased: it agrees with `S` on `L2` -/
theorem ChanEff.trans {S S' : SMap (Nat × SentInfo)} {L1 L2 : List Nat} {ch : Nat} {a b c : SendRel}
    (hS : ∀ k v, find? S' k = some v → find? S k = some v) (hS2 : ∀ k ∈ L2, find? S' k = find? S k)
    (h1 : ChanEff S L1 ch a b) (h2 : ChanEff S' L2 ch b c) : ChanEff S (L1 ++ L2) ch a c := by
  refine ⟨fun id h => h2.gone id (h1.gone id h), ?_, Nat.le_trans h2.memLe h1.memLe, h1.step.trans h2.step, ?_, ?_,
    fun id i h => h1.back id i (h2.back id i h), ?_, ?_⟩
  · intro id hin hout
    by_cases c1 : find? b.unacked id = none
    · obtain ⟨seq, hs, t, info, hf, hn⟩ := h1.just id hin c1
      exact ⟨seq, List.mem_append_left _ hs, t, info, hf, hn⟩
    · obtain ⟨seq, hs, t, info, hf, hn⟩ := h2.just id c1 hout
      exact ⟨seq, List.mem_append_right _ hs, t, info, hS _ _ hf, hn⟩
  · intro hlt
    by_cases c1 : b.mem < a.mem
    · obtain ⟨id, i1, i2⟩ := h1.memLt c1
      exact ⟨id, i1, h2.gone id i2⟩
    · obtain ⟨id, i1, i2⟩ := h2.memLt (by omega)
      exact ⟨id, fun hn => i1 (h1.gone id hn), i2⟩
  · intro id i hp
    rcases h1.pend id i hp with hp1 | ⟨seq, hs, t, hf⟩
    · rcases h2.pend id i hp1 with hp2 | ⟨seq, hs, t, hf⟩
      · exact Or.inl hp2
      · exact Or.inr ⟨seq, List.mem_append_right _ hs, t, hS _ _ hf⟩
    · exact Or.inr ⟨seq, List.mem_append_left _ hs, t, hf⟩
  -- released by an earlier packet: stays released; by a later one: `S'` still records it
  · intro seq hs t ids hf id hid
    rcases List.mem_append.mp hs with hs | hs
    · exact h2.gone id (h1.doneMsgs seq hs t ids hf id hid)
    · exact h2.doneMsgs seq hs t ids (by rw [hS2 seq hs]; exact hf) id hid
  · intro seq hs t id idx hf hp
    rcases List.mem_append.mp hs with hs | hs
    · exact h1.doneSlice seq hs t id idx hf (h2.back id idx hp)
    · exact h2.doneSlice seq hs t id idx (by rw [hS2 seq hs]; exact hf) hp

structure ConnEff (S : SMap (Nat × SentInfo)) (L : List Nat) (c c' : Conn) : Prop where
  chan : ∀ ch s, find? c.sendRel ch = some s → ∃ s', find? c'.sendRel ch = some s' ∧ ChanEff S L ch s s'
  nochan : ∀ ch, find? c.sendRel ch = none → find? c'.sendRel ch = none
  frame : c'.recvRel = c.recvRel ∧ c'.recvUnrel = c.recvUnrel ∧ c'.status = c.status ∧ c'.now = c.now ∧
    c'.budget = c.budget ∧ c'.packetSeq = c.packetSeq ∧ c'.order = c.order ∧ c'.sendUnrel = c.sendUnrel

theorem ConnEff.refl (S : SMap (Nat × SentInfo)) (c : Conn) : ConnEff S [] c c :=
  ⟨fun _ s h => ⟨s, h, ChanEff.refl _ _ _⟩, fun _ h => h, rfl, rfl, rfl, rfl, rfl, rfl, rfl, rfl⟩

theorem ConnEff.trans {S S' : SMap (Nat × SentInfo)} {L1 L2 : List Nat} {a b c : Conn}
    (hS : ∀ k v, find? S' k = some v → find? S k = some v) (hS2 : ∀ k ∈ L2, find? S' k = find? S k)
    (h1 : ConnEff S L1 a b) (h2 : ConnEff S' L2 b c) : ConnEff S (L1 ++ L2) a c := by
  refine ⟨?_, fun ch h => h2.nochan ch (h1.nochan ch h), ?_⟩
  · intro ch s hs
    obtain ⟨s1, hs1, e1⟩ := h1.chan ch s hs
    obtain ⟨s2, hs2, e2⟩ := h2.chan ch s1 hs1
    exact ⟨s2, hs2, e1.trans hS hS2 e2⟩
  · obtain ⟨a1, a2, a3, a4, a5, a6, a7, a8⟩ := h1.frame
    obtain ⟨b1, b2, b3, b4, b5, b6, b7, b8⟩ := h2.frame
    exact ⟨b1.trans a1, b2.trans a2, b3.trans a3, b4.trans a4, b5.trans a5, b6.trans a6, b7.trans a7, b8.trans a8⟩

theorem ConnEff.ofChan {S : SMap (Nat × SentInfo)} {L : List Nat} {c : Conn} {sent' : SMap (Nat × SentInfo)} {ch : Nat}
    {s s' : SendRel} (hf : find? c.sendRel ch = some s) (he : ChanEff S L ch s s')
    (hL : ∀ seq ∈ L, ∀ t info, find? S seq = some (t, info) → chanOf info = some ch) :
    ConnEff S L c { c with sent := sent', sendRel := SMap.insert c.sendRel ch s' } := by
  refine ⟨?_, ?_, rfl, rfl, rfl, rfl, rfl, rfl, rfl, rfl⟩
  · intro ch' s0 h0
    dsimp only
    rw [find?_insert]
    by_cases cc : ch = ch'
    · subst cc; rw [hf] at h0; cases h0; rw [if_pos rfl]; exact ⟨s', rfl, he⟩
    · rw [if_neg cc]
      exact ⟨s0, h0, ChanEff.idle _ (fun seq hs t info hv e => cc (Option.some.inj ((hL seq hs t info hv).symm.trans e)))⟩
  · intro ch' h0
    dsimp only
    rw [find?_insert]
    by_cases cc : ch = ch'
    · subst cc; rw [hf] at h0; cases h0
    · rw [if_neg cc]; exact h0

theorem _root_.RenetVerif.Conn.SendInv.eraseSent {c : Conn} (h : c.SendInv) (seq : Nat) : ({ c with sent := erase c.sent seq } : Conn).SendInv :=
  ⟨h.chans, sorted_erase _ h.sentSorted, fun x hx => h.sentOK x (mem_erase hx), h.order⟩

theorem Conn.ackOne_spec {c : Conn} (h : c.SendInv) {seq : Nat} (hin : ∃ v, find? c.sent seq = some v) :
    ∃ c', Conn.ackOne c seq = .ok c' ∧ c'.SendInv ∧ c'.sent = erase c.sent seq ∧ ConnEff c.sent [seq] c c' := by
  obtain ⟨⟨t, info⟩, hv⟩ := hin
  have hinfo := (h.sentOK _ (mem_of_find? hv)).2
  simp only at hinfo
  have h1 := h.eraseSent seq
  have hrec : ∀ q ∈ [seq], ∀ v, find? c.sent q = some v → v = (t, info) := by
    intro q hq v hf'
    rw [List.mem_singleton.mp hq, hv] at hf'; exact (Option.some.inj hf').symm
  unfold Conn.ackOne
  rw [hv]
  simp only
  cases info with
  | none =>
    exact ⟨_, rfl, h1, rfl, ⟨fun ch s hs => ⟨s, hs, ChanEff.idle _ (fun q hq _ _ hf' e => by cases hrec q hq _ hf'; cases e)⟩,
      fun _ h => h, rfl, rfl, rfl, rfl, rfl, rfl, rfl, rfl⟩⟩
  | ack largest =>
    exact ⟨_, rfl, h1.same ⟨rfl, rfl, rfl, rfl, rfl⟩, rfl,
      ⟨fun ch s hs => ⟨s, hs, ChanEff.idle _ (fun q hq _ _ hf' e => by cases hrec q hq _ hf'; cases e)⟩, fun _ h => h,
      rfl, rfl, rfl, rfl, rfl, rfl, rfl, rfl⟩⟩
  | relMsgs ch ids =>
    obtain ⟨s, hf, hok⟩ := hinfo ch rfl
    simp only [hf]
    obtain ⟨hinv, hch⟩ := h.chans ch s hf
    obtain ⟨s', e, i1, st, as, dn, bk⟩ := Conn.ackMsgLoop_spec ids hinv hok
    rw [e]
    refine ⟨_, rfl, h1.updateChan hf i1 st, rfl, ConnEff.ofChan hf ⟨as.gone, ?_, as.memLe, st, as.memLt,
      fun id i hp => Or.inl (as.pend id i hp), bk, fun q hq _ _ hf' => (by cases hrec q hq _ hf'; exact dn),
      fun q hq _ _ _ hf' => (by cases hrec q hq _ hf')⟩ (fun q hq _ _ hf' => (by cases hrec q hq _ hf'; rfl))⟩
    intro id hin hout
    refine ⟨seq, by simp, t, _, hv, Or.inl ⟨ids, rfl, ?_⟩⟩
    apply Classical.byContradiction
    intro hni
    rw [as.others id hni] at hout
    exact hin hout
  | relSlice ch id idx =>
    obtain ⟨s, hf, hok⟩ := hinfo ch rfl
    simp only [hf]
    obtain ⟨hinv, hch⟩ := h.chans ch s hf
    obtain ⟨s', e, i1, st⟩ := SendRel.processSliceAck_spec hinv id idx hok.2
    obtain ⟨as, pe⟩ := SendRel.processSliceAck_exact hinv e
    rw [e]
    refine ⟨_, rfl, h1.updateChan hf i1 st, rfl, ConnEff.ofChan hf ⟨as.gone, ?_, as.memLe, st, ?_, ?_,
      fun j i hp => ((pe j i).mp hp).1, fun q hq _ _ hf' => (by cases hrec q hq _ hf'),
      fun q hq _ _ _ hf' hp => (by cases hrec q hq _ hf'; exact ((pe _ _).mp hp).2 ⟨rfl, rfl⟩)⟩
      (fun q hq _ _ hf' => (by cases hrec q hq _ hf'; rfl))⟩
    · intro id' hin hout
      refine ⟨seq, by simp, t, _, hv, Or.inr ⟨idx, ?_⟩⟩
      by_cases cc : id' = id
      · rw [cc]
      · rw [as.others id' cc] at hout; exact absurd hout hin
    · intro hlt
      obtain ⟨⟨u, hu⟩, hn⟩ := as.memLt hlt
      exact ⟨id, by rw [hu]; simp, hn⟩
    · intro id' i hp
      by_cases cc : id' = id ∧ i = idx
      · obtain ⟨rfl, rfl⟩ := cc
        exact Or.inr ⟨seq, by simp, t, hv⟩
      · exact Or.inl ((pe id' i).mpr ⟨hp, cc⟩)

theorem Conn.ackLoop_spec : ∀ (L : List Nat) {c : Conn}, c.SendInv → L.Nodup → (∀ x ∈ L, ∃ v, find? c.sent x = some v) →
    ∃ c', Conn.ackLoop c L = .ok c' ∧ c'.SendInv ∧ ConnEff c.sent L c c' ∧
      ∀ k, find? c'.sent k = if k ∈ L then none else find? c.sent k
  | [], c, h, _, _ => ⟨c, rfl, h, ConnEff.refl _ _, fun _ => rfl⟩
  | seq :: rest, c, h, hnd, hin => by
    obtain ⟨c1, e1, i1, hs1, eff1⟩ := Conn.ackOne_spec h (hin seq (by simp))
    rw [List.nodup_cons] at hnd
    have hmono : ∀ k v, find? c1.sent k = some v → find? c.sent k = some v := by
      intro k v hk
      rw [hs1] at hk
      exact (find?_erase_some h.sentSorted.nodup hk).2
    have heq : ∀ x ∈ rest, find? c1.sent x = find? c.sent x := by
      intro x hx
      rw [hs1, find?_erase_ne _ (by intro e; subst e; exact hnd.1 hx)]
    obtain ⟨c', e2, i2, eff2, m2⟩ := Conn.ackLoop_spec rest i1 hnd.2
      (fun x hx => by rw [heq x hx]; exact hin x (List.mem_cons_of_mem _ hx))
    refine ⟨c', ?_, i2, eff1.trans hmono heq eff2, fun k => ?_⟩
    · simp only [Conn.ackLoop, e1, Res.bind_ok]; exact e2
    · rw [m2 k, hs1, find?_erase h.sentSorted.nodup, ite_mem_cons]



/-- **what the ack loop does to the pending acks.**  Only the entry of an ack packet touches them, through `acked_largest`
    with the `largest` it recorded: the list stays well formed, gets no longer, covers nothing new, and still covers
    every number that lies above all the `largest` in the sent table. -/
theorem Conn.ackLoop_pending : ∀ (L : List Nat) {c c' : Conn}, Conn.ackLoop c L = .ok c' → Sorted c.sent →
    Acks.WF c.pendingAcks →
    Acks.WF c'.pendingAcks ∧ c'.pendingAcks.length ≤ c.pendingAcks.length ∧
    ∀ x, (Acks.Mem x c'.pendingAcks → Acks.Mem x c.pendingAcks) ∧
      ((∀ seq t g, find? c.sent seq = some (t, .ack g) → g < x) → Acks.Mem x c.pendingAcks → Acks.Mem x c'.pendingAcks)
  | [], c, c', h, _, hw => by
    cases h
    exact ⟨hw, Nat.le_refl _, fun _ => ⟨fun h => h, fun _ h => h⟩⟩
  | seq :: rest, c, c', h, hs, hw => by
    obtain ⟨c1, h1, h⟩ := Res.bind_ok_iff.mp h
    obtain ⟨hsent, hacks⟩ := Conn.ackOne_acks h1
    have hold : ∀ q t g, find? c1.sent q = some (t, .ack g) → find? c.sent q = some (t, .ack g) :=
      fun q t g hf => (find?_erase_some hs.nodup (hsent ▸ hf)).2
    have one : Acks.WF c1.pendingAcks ∧ c1.pendingAcks.length ≤ c.pendingAcks.length ∧
        ∀ x, (Acks.Mem x c1.pendingAcks → Acks.Mem x c.pendingAcks) ∧
          ((∀ q t g, find? c.sent q = some (t, .ack g) → g < x) → Acks.Mem x c.pendingAcks → Acks.Mem x c1.pendingAcks) := by
      rcases hacks with e | ⟨t, g, hv, e⟩
      · rw [e]; exact ⟨hw, Nat.le_refl _, fun _ => ⟨fun h => h, fun _ h => h⟩⟩
      · rw [e]
        exact ⟨Acks.ackedLargest_wf _ _ hw, Acks.ackedLargest_length _ _, fun x =>
          ⟨fun h => ((Acks.ackedLargest_mem_iff g _ hw x).mp h).1,
           fun hb h => (Acks.ackedLargest_mem_iff g _ hw x).mpr ⟨h, hb seq t g hv⟩⟩⟩
    obtain ⟨w1, l1, m1⟩ := one
    obtain ⟨w2, l2, m2⟩ := Conn.ackLoop_pending rest h (hsent ▸ sorted_erase _ hs) w1
    exact ⟨w2, Nat.le_trans l2 l1, fun x => ⟨fun h => (m1 x).1 ((m2 x).1 h),
      fun hb h => (m2 x).2 (fun q t g hf => hb q t g (hold q t g hf)) ((m1 x).2 hb h)⟩⟩

theorem Conn.processPacket_cases {c c' : Conn} {bytes : Bytes} (hr : c.processPacket bytes = .ok c') :
    (c.SendSame c' ∧ c'.pendingAcks = c.pendingAcks ∧ (c.isDisconnected = true ∨ ∃ e, Packet.fromBytes bytes = .error e)) ∨
    (∃ p, Packet.fromBytes bytes = .ok p ∧ isAckPkt p = false ∧ c.SendSame c' ∧
      c'.pendingAcks = Acks.add ACK_RANGE_CAP p.sequence c.pendingAcks) ∨
    (∃ aseq ranges L, c.isDisconnected = false ∧ Packet.fromBytes bytes = .ok (.ack aseq ranges) ∧
      Conn.newAcks c.sent ranges = .ok L ∧
      Conn.ackLoop { c with pendingAcks := Acks.add ACK_RANGE_CAP aseq c.pendingAcks } L = .ok c') := by
  cases hd : c.isDisconnected with
  | true => rw [Conn.processPacket_dead hd] at hr; cases hr; exact Or.inl ⟨.refl _, rfl, Or.inl rfl⟩
  | false =>
    cases hp : Packet.fromBytes bytes with
    | error e =>
      rw [Conn.processPacket_garbage hp] at hr; cases hr
      exact Or.inl ⟨(c.disconnectWith_same _).1, (c.disconnectWith_same _).2.1, Or.inr ⟨e, rfl⟩⟩
    | ok p =>
      rw [Conn.processPacket_live hd hp] at hr
      -- a data packet touches the receive channels and the status only; the connection fed has the new pending acks
      cases p <;> dsimp only [Conn.dispatch] at hr
      case smallReliable | reliableSlice | smallUnreliable | unreliableSlice =>
        obtain ⟨m, st, rfl⟩ := Conn.feed_frame rfl hr
        exact Or.inr (Or.inl ⟨_, rfl, rfl, ⟨rfl, rfl, rfl, rfl, rfl⟩, rfl⟩)
      case ack aseq ranges =>
        obtain ⟨L, hn, hr⟩ := Res.bind_ok_iff.mp hr
        exact Or.inr (Or.inr ⟨aseq, ranges, L, rfl, rfl, hn, hr⟩)

theorem Conn.processPacket_ack_eq {c : Conn} {bytes : Bytes} {aseq : Nat} {ranges : List AckRange}
    (hd : c.isDisconnected = false) (hp : Packet.fromBytes bytes = .ok (.ack aseq ranges)) :
    c.processPacket bytes =
      (Conn.newAcks c.sent ranges >>= fun L =>
        Conn.ackLoop { c with pendingAcks := Acks.add ACK_RANGE_CAP aseq c.pendingAcks } L) :=
  Conn.processPacket_live hd hp

theorem Conn.processPacket_ack_spec {c : Conn} {bytes : Bytes} {aseq : Nat} {ranges : List AckRange} (h : c.SendInv)
    (hd : c.isDisconnected = false) (hp : Packet.fromBytes bytes = .ok (.ack aseq ranges)) :
    ∃ L c', Conn.newAcks c.sent ranges = .ok L ∧ c.processPacket bytes = .ok c' ∧ c'.SendInv ∧
      ConnEff c.sent L { c with pendingAcks := Acks.add ACK_RANGE_CAP aseq c.pendingAcks } c' ∧
      (∀ x, x ∈ L ↔ (∃ v, find? c.sent x = some v) ∧ Acks.Mem x ranges) ∧
      (∀ k, find? c'.sent k = if k ∈ L then none else find? c.sent k) ∧
      Conn.ackLoop { c with pendingAcks := Acks.add ACK_RANGE_CAP aseq c.pendingAcks } L = .ok c' := by
  have hw := fromBytes_ack_wf hp
  obtain ⟨L, hL, hnd, hmem⟩ := Conn.newAcks_spec h.sentSorted ranges hw
  have h1 : ({ c with pendingAcks := Acks.add ACK_RANGE_CAP aseq c.pendingAcks } : Conn).SendInv :=
    h.same ⟨rfl, rfl, rfl, rfl, rfl⟩
  obtain ⟨c', e, i, eff, hsent⟩ := Conn.ackLoop_spec L h1 hnd (fun x hx => ((hmem x).mp hx).1)
  refine ⟨L, c', hL, ?_, i, eff, hmem, hsent, e⟩
  rw [Conn.processPacket_ack_eq hd hp, hL]
  exact e

theorem Conn.processPacket_inv {c c' : Conn} {bytes : Bytes} (h : c.SendInv) (hr : c.processPacket bytes = .ok c') :
    c'.SendInv := by
  rcases Conn.processPacket_cases hr with ⟨hs, -, -⟩ | ⟨p, -, -, hs, -⟩ | ⟨aseq, ranges, L, hd, hp, -, -⟩
  · exact h.same hs
  · exact h.same hs
  · obtain ⟨L', c2, -, e, i, -⟩ := Conn.processPacket_ack_spec h hd hp
    rw [e] at hr; cases hr; exact i

/-- receive-side sub-steps of `process_packet` (proved panic-free in Lemmas/RecvInv under the receive invariants) -/
def RecvNoPanic (c : Conn) : Packet → Prop
  | .smallReliable _ ch msgs => ∀ r, find? c.recvRel ch = some r → ∀ s, Conn.relMsgLoop r msgs ≠ .panic s
  | .reliableSlice _ ch sl => ∀ r, find? c.recvRel ch = some r → ∀ s, r.processSlice sl ≠ .panic s
  | .unreliableSlice _ ch sl => ∀ r, find? c.recvUnrel ch = some r → ∀ s, r.processSlice sl c.now ≠ .panic s
  | _ => True

theorem Conn.processPacket_no_panic {c : Conn} {bytes : Bytes} (h : c.SendInv)
    (hrecv : ∀ p, Packet.fromBytes bytes = .ok p → RecvNoPanic c p) : ∃ c', c.processPacket bytes = .ok c' := by
  cases hd : c.isDisconnected with
  | true => exact ⟨c, Conn.processPacket_dead hd _⟩
  | false =>
    cases hp : Packet.fromBytes bytes with
    | error e => exact ⟨_, Conn.processPacket_garbage hp⟩
    | ok p =>
      have hr := hrecv p hp
      rw [Conn.processPacket_live hd hp]
      cases p <;> dsimp only [Conn.dispatch, Conn.feedRel, Conn.feedUnrel]
      case ack aseq ranges =>
        obtain ⟨L, c', -, e, -⟩ := Conn.processPacket_ack_spec h hd hp
        exact ⟨c', (Conn.processPacket_live hd hp).symm.trans e⟩
      case smallUnreliable seq ch msgs => exact Conn.feed_ok fun _ _ _ e => nomatch e
      all_goals exact Conn.feed_ok hr

theorem Conn.processPacket_no_panic_ack {c : Conn} {bytes : Bytes} (h : c.SendInv)
    (hk : (∃ e, Packet.fromBytes bytes = .error e) ∨ ∃ aseq ranges, Packet.fromBytes bytes = .ok (.ack aseq ranges)) :
    ∃ c', c.processPacket bytes = .ok c' := by
  apply Conn.processPacket_no_panic h
  intro p hp
  rcases hk with ⟨e, he⟩ | ⟨aseq, ranges, ha⟩
  · rw [he] at hp; cases hp
  · rw [ha] at hp; cases hp; trivial

theorem Conn.processPacket_eff {c c' : Conn} {bytes : Bytes} (h : c.SendInv) (hr : c.processPacket bytes = .ok c') :
    (c'.sendRel = c.sendRel) ∨
    ∃ aseq ranges L, c.isDisconnected = false ∧ Packet.fromBytes bytes = .ok (.ack aseq ranges) ∧
      (∀ x ∈ L, Acks.Mem x ranges) ∧
      (∀ ch s, find? c.sendRel ch = some s → ∃ s', find? c'.sendRel ch = some s' ∧ ChanEff c.sent L ch s s') ∧
      (∀ ch, find? c.sendRel ch = none → find? c'.sendRel ch = none) := by
  rcases Conn.processPacket_cases hr with ⟨hs, -, -⟩ | ⟨p, -, -, hs, -⟩ | ⟨aseq, ranges, L, hd, hp, -, -⟩
  · exact Or.inl hs.1
  · exact Or.inl hs.1
  · obtain ⟨L', c2, -, e, -, eff, hmem, -⟩ := Conn.processPacket_ack_spec h hd hp
    rw [e] at hr; cases hr
    exact Or.inr ⟨aseq, ranges, L', hd, hp, fun x hx => ((hmem x).mp hx).2, fun ch s hs => eff.chan ch s hs,
      fun ch hn => eff.nochan ch hn⟩

/-- **the pending acks after `process_packet`** stay well formed.  A disconnected connection and an undecodable datagram
    leave them alone.  Otherwise the packet's sequence number is added (`Acks.add`) and, if it is an ack packet, the ack
    loop prunes the list (`ackLoop_pending`): it gets no longer, covers nothing else, and every number above all the
    `largest` recorded in the sent table stays covered. -/
theorem Conn.processPacket_acks {c c' : Conn} {bytes : Bytes} (h : c.SendInv) (hw : Acks.WF c.pendingAcks)
    (hr : c.processPacket bytes = .ok c') :
    Acks.WF c'.pendingAcks ∧
    ((c'.pendingAcks = c.pendingAcks ∧ (c.isDisconnected = true ∨ ∃ e, Packet.fromBytes bytes = .error e)) ∨
     ∃ p, Packet.fromBytes bytes = .ok p ∧
       c'.pendingAcks.length ≤ (Acks.add ACK_RANGE_CAP p.sequence c.pendingAcks).length ∧
       ∀ x, (Acks.Mem x c'.pendingAcks → Acks.Mem x (Acks.add ACK_RANGE_CAP p.sequence c.pendingAcks)) ∧
         ((∀ seq t g, find? c.sent seq = some (t, .ack g) → g < x) →
           Acks.Mem x (Acks.add ACK_RANGE_CAP p.sequence c.pendingAcks) → Acks.Mem x c'.pendingAcks)) := by
  rcases Conn.processPacket_cases hr with ⟨-, hs, hk⟩ | ⟨p, hp, -, -, hs⟩ | ⟨aseq, ranges, L, hd, hp, -, hl⟩
  · rw [hs]; exact ⟨hw, Or.inl ⟨rfl, hk⟩⟩
  · rw [hs]
    exact ⟨Acks.add_wf _ _ _ hw, Or.inr ⟨p, hp, Nat.le_refl _, fun _ => ⟨fun h => h, fun _ h => h⟩⟩⟩
  · obtain ⟨w, l, m⟩ := Conn.ackLoop_pending L hl h.sentSorted (Acks.add_wf _ _ _ hw)
    exact ⟨w, Or.inr ⟨_, hp, l, m⟩⟩

/-- the invariant holds for every freshly configured connection (any channel configuration, duplicates included) -/
theorem Conn.fromChannels_inv (budget : Nat) (send recv : List ChanCfg) : (Conn.fromChannels budget send recv).SendInv := by
  refine ⟨?_, sorted_nil, fun x hx => (by cases hx), ?_⟩
  · intro ch s hf
    obtain ⟨c, -, -, h1, rfl⟩ := SMap.find?_foldl_filter hf
    exact ⟨SendRel.new_inv _ _ _, h1⟩
  · intro x hx
    simp only [Conn.fromChannels, List.mem_map] at hx
    obtain ⟨cfg, hcfg, rfl⟩ := hx
    dsimp only
    split
    · rename_i hb
      exact SMap.contains_foldl_filter hcfg hb
    · rename_i hb
      exact SMap.contains_foldl_filter hcfg (by simpa [bne] using hb)

theorem Conn.getPacketsToSend_spec {c c' : Conn} {out : List Bytes} (h : c.SendInv) (hw : Acks.WF c.pendingAcks)
    (hr : c.getPacketsToSend = .ok (c', out)) :
    c'.SendInv ∧ c'.pendingAcks = c.pendingAcks ∧ SRGet c.sendRel c'.sendRel ∧ c.packetSeq ≤ c'.packetSeq := by
  rcases Conn.flush_cases hr with ⟨-, rfl, -⟩ | ⟨pk0, seq0, avail, o⟩
  · exact ⟨h, rfl, SRGet.refl _, Nat.le_refl _⟩
  · obtain ⟨i, -, g, sq, -⟩ := o.toFlushed.spec h hw
    exact ⟨i, o.pendingAcks, g, sq⟩

theorem SRGet.keeps {sr sr' : SMap SendRel} (hg : SRGet sr sr') {ch : Nat} {s : SendRel} (hs : find? sr ch = some s) :
    ∃ s', find? sr' ch = some s' ∧ s'.mem = s.mem ∧ s'.maxMem = s.maxMem ∧
      (∀ id, SMap.contains s'.unacked id = SMap.contains s.unacked id) ∧ (∀ id i, s.Pending id i → s'.Pending id i) := by
  obtain ⟨s', hb, st⟩ := hg.1.next hs
  obtain ⟨a1, a2⟩ := hg.2 ch s s' hs hb
  exact ⟨s', hb, a2, st.2.1, fun id => a1.contains id, fun id i hp => a1.pending hp⟩

theorem Conn.getPacketsToSend_ack {c c' : Conn} {out : List Bytes} (h : c.SendInv) (hw : Acks.WF c.pendingAcks)
    (hd : c.isDisconnected = false) (hne : c.pendingAcks ≠ []) (hr : c.getPacketsToSend = .ok (c', out)) :
    ∃ pk0 seq0, (∀ p ∈ pk0, isAckPkt p = false) ∧
      (Conn.serialiseAll (pk0 ++ [Packet.ack seq0 c.pendingAcks]) = .ok out ∨
       ∃ e, Conn.serialiseAll (pk0 ++ [Packet.ack seq0 c.pendingAcks]) = .err e ∧ out = []) := by
  obtain ⟨pk0, seq0, avail, o⟩ := Conn.flush_live hd hr
  have hwa : withAck pk0 seq0 c.pendingAcks = pk0 ++ [Packet.ack seq0 c.pendingAcks] :=
    if_neg (by rw [List.isEmpty_iff]; exact hne)
  exact ⟨pk0, seq0, (o.toFlushed.spec h hw).2.1, hwa ▸ o.out.imp And.left (fun ⟨e0, e, he, _⟩ => ⟨e, he, e0⟩)⟩

theorem serialiseAll_append_ok (a : List Packet) (p : Packet) (out : List Bytes)
    (h : Conn.serialiseAll (a ++ [p]) = .ok out) :
    ∃ bs b, out = bs ++ [b] ∧ p.toBytes SER_BUFFER = .ok b ∧ Conn.serialiseAll a = .ok bs := by
  have h' := Conn.serialiseAll_ok_iff.mp h
  rw [List.map_append] at h'
  obtain ⟨bs, l2, rfl, h1, h2⟩ := List.map_eq_append_iff.mp h'.symm
  obtain ⟨b, l3, rfl, h3, h4⟩ := List.map_eq_cons_iff.mp h2
  cases List.map_eq_nil_iff.mp h4
  exact ⟨bs, b, rfl, h3.symm, Conn.serialiseAll_ok_iff.mpr h1.symm⟩

theorem enc_ack_bounds {seq : Nat} {l : List AckRange} {b : Bytes} (h : (Packet.ack seq l).enc = .ok b) :
    seq ≤ Varint.MAX ∧ ∃ x, l.getLast? = some x ∧ x.2 - 1 ≤ Varint.MAX := by
  obtain ⟨⟨hs, ls, le, d, hrev, -, hle, -⟩, -⟩ := Packet.enc_ok_iff.1 h
  exact ⟨hs, (ls, le), by rw [← List.head?_reverse, hrev]; rfl, by simp only; omega⟩

theorem enc_ack_decodes {seq : Nat} {l : List AckRange} {b : Bytes} (hw : Acks.WF l)
    (he : (Packet.ack seq l).enc = .ok b) : Packet.fromBytes b = .ok (.ack seq l) := by
  obtain ⟨hs, x, hx, hx2⟩ := enc_ack_bounds he
  have hne : l ≠ [] := by intro e; rw [e] at hx; cases hx
  have hb : ∀ r ∈ l, r.2 ≤ Varint.MAX + 1 := by
    intro r hr
    have := Acks.wf_le_last hw x hx r hr
    omega
  obtain ⟨b', hb', hd⟩ := Packet.fromBytes_enc (.ack seq l) ⟨hs, Acks.ackWF_of_wf l hne hw hb⟩
  rw [he] at hb'; cases hb'
  exact hd

/-- **the acknowledgement put on the wire denotes exactly the pending list** -/
theorem Conn.getPacketsToSend_wire_ack {c c' : Conn} {out : List Bytes} (h : c.SendInv) (hw : Acks.WF c.pendingAcks)
    (hd : c.isDisconnected = false) (hne : c.pendingAcks ≠ []) (hr : c.getPacketsToSend = .ok (c', out))
    (hout : out ≠ []) :
    ∃ seq0 b, out.getLast? = some b ∧ Packet.fromBytes b = .ok (.ack seq0 c.pendingAcks) := by
  obtain ⟨pk0, seq0, -, hs⟩ := Conn.getPacketsToSend_ack h hw hd hne hr
  rcases hs with hs | ⟨e, -, he⟩
  · obtain ⟨bs, b, e1, e2, -⟩ := serialiseAll_append_ok pk0 _ out hs
    exact ⟨seq0, b, by rw [e1]; simp, enc_ack_decodes hw (Packet.toBytes_ok_iff.mp e2).1⟩
  · exact absurd he hout

end SI
end RenetVerif
