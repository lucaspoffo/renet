/-
  C20 (fixed text): "Running the real client and server transports over UDP sockets, the clients the message layer
  reports connected are exactly those whose netcode handshake completed and has not ended, each connect and disconnect
  reaches the application exactly once with the right id, and a disconnect decided by either layer or either side ends
  the session on both sides. Across that full stack the channel guarantees still hold while an on-path party drops,
  duplicates, reorders, replays or corrupts datagrams, and such interference never disconnects an otherwise healthy
  session other than through timeouts."

  What is proved here, about the model `Transport/Glue.lean` of renet_netcode/src/{server,client}.rs (one def per
  Rust fn; validated against the real transports over real UDP sockets by the differential harness, engine E5):

  server side
    * `lockstep_always`        after any sequence of transport calls (`update`, `send_packets`, `disconnect_all`) and
                               application calls on `RenetServer` (everything except the four calls that add / remove
                               connections themselves), from a fresh pair: keys(renet connections) = netcode client
                               ids, both without repetition; per client the event log alternates
                               ClientConnected / ClientDisconnected and its last entry says whether the client is in
    * `update_lockstep`        one `update`: lock-step kept, and no renet connection is left disconnected
    * `send_packets_lockstep`, `disconnect_all_lockstep`
    * `connected_exactly`      after every `update`: `RenetServer::clients_id()` = `NetcodeServer::clients_id()` (as sets)
    * `connected_gap`          (counter-example) between `RenetServer::disconnect(id)` and the next `update` the two differ
    * `events_mirror_netcode`  `update` factorised: renet receives exactly the calls the netcode results dictate, the
                               datagrams sent are exactly those of the netcode results, and the events pushed are, in
                               order, exactly the connects / disconnects netcode reported, same ids
    * `events_exactly_once`    alternation per id, tied to netcode membership
    * `server_disconnect_propagates`  a renet-side disconnect (channel error, `RenetServer::disconnect`) frees the netcode
                               slot and surfaces as `ClientDisconnected{id, first reason}` within one `update`
    * `disconnect_causes`      the only three ways a client leaves: its own authentic disconnect datagram, a netcode
                               time-out, a renet-side disconnect
    * `payload_routing_inbound`, `payload_routing_outbound`
    * `server_update_panic_partial`, `server_send_packets_panic_partial`, `server_disconnect_all_total`
  client side
    * `client_netcode_end_reaches_renet`, `client_app_disconnect_ends_netcode`, `client_alive` (with the inbound
      routing), `client_send_refused`, `client_routing_outbound`, `client_update_total`

  Every theorem is followed by an instance on a small concrete state (toy AEAD, two-slot server).
-/
import RenetVerif.Lemmas.GlueInv
import RenetVerif.Lemmas.GlueTotal
import RenetVerif.Lemmas.GlueEq
import RenetVerif.Transport.ToyAead
namespace RenetVerif.C20
open RenetVerif RenetVerif.Netcode RenetVerif.Transport RenetVerif.GI

def exAddr : Addr := .v4 [10, 0, 0, 2] 2000
def exChans : List ChanCfg :=
  [ { id := 0, kind := .unreliable, maxMem := 4096, resend := 0 },
    { id := 1, kind := .ordered, maxMem := 4096, resend := 300000000 } ]

def exConn7 : Connection :=
  { confirmed := true, clientId := 7, state := .connected, sendKey := [1, 2, 3], receiveKey := [4, 5, 6],
    userData := [], addr := exAddr, lastPacketReceivedTime := 0, lastPacketSendTime := 0, timeoutSeconds := 5,
    sequence := 0, expireTimestamp := 100, replayProtection := RP.new }

/-- the token-entry table is cut down to two entries -/
def exNs0 : NetcodeServer :=
  { clients := [none, none], pendingClients := [], connectTokenEntries := [none, none], protocolId := 7,
    connectKey := [9, 9], maxClients := 2, challengeSequence := 0, challengeKey := [8, 8],
    publicAddresses := [.v4 [10, 0, 0, 3] 9000], currentTime := 0, globalSequence := 0, secure := true }

def exNs1 : NetcodeServer := { exNs0 with clients := [some exConn7, none] }
def exRs0 : Server := Server.new 60000 exChans exChans
def exG0 : ServerGlue := ⟨exNs0, exRs0⟩
def exG1 : ServerGlue := ⟨exNs1, exRs0.addConnection 7⟩
def exG2 : ServerGlue := ⟨exNs1, (exRs0.addConnection 7).disconnect 7⟩

def isOk {α : Type} : Res Empty α → Bool
  | .ok _ => true
  | _ => false

theorem ok_of_isOk {α : Type} {x : Res Empty α} (h : isOk x = true) : ∃ v, x = .ok v := by
  cases x with
  | ok v => exact ⟨v, rfl⟩
  | err e => exact e.elim
  | panic m => cases h

theorem ok_and {α : Type} {x : Res Empty α} (p : α → Prop) [DecidablePred p]
    (h : (match x with | .ok v => decide (p v) | _ => false) = true) : ∃ v, x = .ok v ∧ p v := by
  cases x with
  | ok v => exact ⟨v, rfl, of_decide_eq_true h⟩
  | err e => exact e.elim
  | panic m => cases h

theorem exNs0_fresh : exNs0.clientsId = [] := rfl

theorem exG1_lockstep : LockStep exG1 := by
  refine ⟨by decide, ?_, fun id => ?_⟩
  · exact SL.SMap.sorted_insert _ _ _ SL.SMap.sorted_nil
  · show SMap.contains (exRs0.addConnection 7).conns id = true ↔ id ∈ [7]
    have : (exRs0.addConnection 7).conns = [(7, exRs0.newConn.setConnected)] := rfl
    rw [this]
    by_cases e : id = 7
    · subst e; simp [SMap.contains, SMap.find?]
    · have e' : ¬ 7 = id := fun h => e h.symm
      simp [SMap.contains, SMap.find?, e, e']

theorem exG1_srvInv : SL.SrvInv (exG1.renet, []) :=
  SL.runSrv_inv [.add 7] (exRs0, []) _ rfl (SL.srvInv_new _ _ _)

theorem exG1_ginv : GInv (exG1, []) := ⟨exG1_lockstep, exG1_srvInv⟩

theorem exG1_inv : exG1.renet.Inv := CI.server_addConnection_invP (CI.server_new_invP _ _ _) 7

theorem exG1_live : Live exG1.renet := live_addConnection (fun _ _ hf => by simp [exRs0, Server.new] at hf) 7

theorem exG2_lockstep : LockStep exG2 :=
  (GlueOp.apply_inv (a := toyAead) (st := (exG1, [])) (op := .app (.disconnect 7)) rfl rfl exG1_ginv).1

theorem exG2_srvInv : SL.SrvInv (exG2.renet, []) :=
  (GlueOp.apply_inv (a := toyAead) (st := (exG1, [])) (op := .app (.disconnect 7)) rfl rfl exG1_ginv).2

theorem fresh_netcode {now maxClients pid : Nat} {addrs : List Addr} {secure : Bool} {pk ck : Bytes} {ns : NetcodeServer}
    (h : NetcodeServer.new now maxClients pid addrs secure pk ck = .ok ns) : ns.clientsId = [] := by
  unfold NetcodeServer.clientsId
  rw [(NS.new_inv h).2.1]
  exact List.filterMap_replicate_of_none rfl

theorem lockstep_preserved (a : AEAD) (ops : List GlueOp) (st st' : GState) (hrun : runGlue a st ops = .ok st')
    (hall : ∀ op ∈ ops, op.allowed = true) (hi : GInv st) : GInv st' := by
  induction ops generalizing st with
  | nil => cases hrun; exact hi
  | cons op rest ih =>
    unfold runGlue at hrun
    split at hrun
    · rename_i st1 h1
      exact ih st1 hrun (fun o ho => hall o (List.mem_cons_of_mem _ ho))
        (GlueOp.apply_inv h1 (hall op List.mem_cons_self) hi)
    · cases hrun
    · cases hrun

/-- **Lock-step, always.**  From a fresh `NetcodeServerTransport` + `RenetServer`, after any sequence of transport
    calls and application-level `RenetServer` calls that returns normally: the renet connection table and the netcode
    slot table hold the same ids, without repetition on either side (`LockStep`), and the event log satisfies the
    alternation invariant (`SrvInv`). -/
theorem lockstep_always (a : AEAD) {ns : NetcodeServer} (hfresh : ns.clientsId = []) (budget : Nat)
    (sc cc : List ChanCfg) (ops : List GlueOp) (st : GState)
    (hrun : runGlue a ({ netcode := ns, renet := Server.new budget sc cc }, []) ops = .ok st)
    (hall : ∀ op ∈ ops, op.allowed = true) :
    LockStep st.1 ∧ SL.SrvInv (st.1.renet, st.2) :=
  lockstep_preserved a ops _ st hrun hall (gInv_fresh hfresh budget sc cc)

def exOps : List GlueOp :=
  [.update 300000000 [(exAddr, [1, 2, 3])], .sendPackets, .app (.disconnect 7), .app (.send 7 1 [1]),
   .app .getEvent, .update 16000000 [], .disconnectAll]

theorem exOps_ok : isOk (runGlue toyAead (exG0, []) exOps) = true := by decide +kernel

example : ∃ st, runGlue toyAead (exG0, []) exOps = .ok st ∧ LockStep st.1 ∧ SL.SrvInv (st.1.renet, st.2) := by
  obtain ⟨st, h⟩ := ok_of_isOk exOps_ok
  exact ⟨st, h, lockstep_always toyAead exNs0_fresh 60000 exChans exChans exOps st h (by decide)⟩

example : ∃ st, runGlue toyAead (exG1, []) exOps = .ok st ∧ GInv st := by
  obtain ⟨st, h⟩ := ok_of_isOk (x := runGlue toyAead (exG1, []) exOps) (by decide +kernel)
  exact ⟨st, h, lockstep_preserved toyAead exOps _ st h (by decide) exG1_ginv⟩

/-- **(a) the combined step.**  Any netcode call whose table effect is `TStep` (proved for `process_packet` on any
    bytes from any address, `update_client`, `disconnect`: `processPacket_tstep`, `updateClient_tstep`,
    `disconnect_spec`) followed by `handle_server_result` on its result keeps the tables in bijection and pushes
    exactly the event `evOf`. -/
theorem handle_step {g : ServerGlue} {ns' : NetcodeServer} {r : ServerResult} {rs' : Server} {out out' : Array Dgram}
    (hl : LockStep g) (ht : TStep g.netcode.clients ns'.clients r)
    (h : handleServerResult r g.renet out = .ok (rs', out')) :
    LockStep { netcode := ns', renet := rs' } ∧ rs'.events = g.renet.events ++ evOf g.renet r :=
  lockStep_handle hl ht h

example : ∃ r ns' rs' out', exNs1.disconnect toyAead 7 = .ok (r, ns') ∧
    handleServerResult r exG1.renet #[] = .ok (rs', out') ∧ LockStep ⟨ns', rs'⟩ ∧
    rs'.events = exG1.renet.events ++ [.disconnected 7 .transport] := by
  obtain ⟨⟨r, ns'⟩, h⟩ := ok_of_isOk (x := exNs1.disconnect toyAead 7) (by decide +kernel)
  obtain ⟨ht, hin, _⟩ := disconnect_spec h
  obtain ⟨ad, p, e⟩ := hin (by decide)
  subst e
  obtain ⟨rs', out', hh, _⟩ := handle_total goodP_winv exG1_inv (.clientDisconnected 7 ad p) #[]
  obtain ⟨h1, h2⟩ := handle_step exG1_lockstep ht hh
  exact ⟨_, ns', rs', out', h, hh, h1, h2⟩

/-- **(b) `update`** keeps lock-step and leaves no disconnected connection in the renet table -/
theorem update_lockstep {a : AEAD} {g g' : ServerGlue} {d : Nat} {inbox : List Dgram} {out : Array Dgram}
    (h : serverUpdate a g d inbox = .ok (g', out)) (hl : LockStep g) : LockStep g' ∧ NoDead g'.renet :=
  serverUpdate_lockstep h hl

theorem exG2_junk_ok : isOk (serverUpdate toyAead exG2 300000000 [(exAddr, [1, 2, 3])]) = true := by decide +kernel

example : ∃ g' out, serverUpdate toyAead exG2 300000000 [(exAddr, [1, 2, 3])] = .ok (g', out) ∧
    LockStep g' ∧ NoDead g'.renet := by
  obtain ⟨⟨g', out⟩, h⟩ := ok_of_isOk exG2_junk_ok
  exact ⟨g', out, h, update_lockstep h exG2_lockstep⟩

/-- **(c) `send_packets`** keeps lock-step, keeps every key, pushes no event -/
theorem send_packets_lockstep {a : AEAD} {g g' : ServerGlue} {out : Array Dgram}
    (h : serverSendPackets a g = .ok (g', out)) (hl : LockStep g) :
    LockStep g' ∧ SL.QuietC g.renet.conns g'.renet.conns ∧ g'.renet.events = g.renet.events :=
  let ⟨h1, h2, h3, _⟩ := sendLoop_lockstep a _ g g' _ out h hl
  ⟨h1, h2, h3⟩

example : ∃ g' out, serverSendPackets toyAead exG1 = .ok (g', out) ∧ LockStep g' := by
  obtain ⟨⟨g', out⟩, h⟩ := ok_of_isOk (x := serverSendPackets toyAead exG1) (by decide +kernel)
  exact ⟨g', out, h, (send_packets_lockstep h exG1_lockstep).1⟩

/-- `disconnect_all` never unwinds -/
theorem server_disconnect_all_total (a : AEAD) {g : ServerGlue} (hi : g.renet.Inv) :
    ∃ g' out, serverDisconnectAll a g = .ok (g', out) ∧ g'.renet.Inv := by
  rw [serverDisconnectAll_eq]
  obtain ⟨g', out, e, -, i⟩ := handleLoop_total0 (fun _ r out h => handle_total goodP_winv h r out) (f := dcF a)
    (fun _ => True) (fun ns id _ => (disconnect_total a ns id).imp fun _ h => h.imp fun _ e => ⟨e, trivial⟩) _ g #[]
    trivial hi
  exact ⟨g', out, e, i⟩

example : ∃ g' out, serverDisconnectAll toyAead exG2 = .ok (g', out) ∧ g'.renet.Inv :=
  server_disconnect_all_total toyAead (CI.server_disconnect_invP exG1_inv 7)

/-- **(c) `disconnect_all`** keeps lock-step and empties both tables -/
theorem disconnect_all_lockstep {a : AEAD} {g g' : ServerGlue} {out : Array Dgram}
    (h : serverDisconnectAll a g = .ok (g', out)) (hl : LockStep g) :
    LockStep g' ∧ g'.renet.conns = [] ∧ g'.netcode.clientsId = [] :=
  serverDisconnectAll_lockstep h hl

example : ∃ g' out, serverDisconnectAll toyAead exG1 = .ok (g', out) ∧ g'.renet.conns = [] ∧ g'.netcode.clientsId = [] := by
  obtain ⟨g', out, h, _⟩ := server_disconnect_all_total toyAead exG1_inv
  exact ⟨g', out, h, (disconnect_all_lockstep h exG1_lockstep).2⟩

/-- **after every `update`** `RenetServer::clients_id()` and `NetcodeServer::clients_id()` have the same members
    (given that no server-side connection is `Connecting`, which holds along every run from a fresh pair:
    `connected_exactly_always`) -/
theorem connected_exactly {a : AEAD} {g g' : ServerGlue} {d : Nat} {inbox : List Dgram} {out : Array Dgram}
    (h : serverUpdate a g d inbox = .ok (g', out)) (hk : LockStep g) (hl : Live g.renet) :
    ∀ id, id ∈ g'.renet.clientsId ↔ id ∈ g'.netcode.clientsId := by
  obtain ⟨hk', hnd⟩ := serverUpdate_lockstep h hk
  have hl' := serverUpdate_live h hk.sorted hl
  intro id
  rw [mem_clientsId_iff hk'.sorted, ← hk'.sync id]
  constructor
  · rintro ⟨c, hf, _⟩
    exact SMap.contains_iff_find?.mpr ⟨c, hf⟩
  · intro hc
    obtain ⟨c, hf⟩ := SMap.contains_iff_find?.mp hc
    refine ⟨c, hf, ?_⟩
    have h1 := hnd id c hf
    have h2 := hl' id c hf
    unfold Conn.isDisconnected at h1
    unfold Conn.isConnected
    cases hs : c.status with
    | connected => rfl
    | connecting => exact absurd hs h2
    | disconnected r => rw [hs] at h1; cases h1

theorem exG2_update : ∃ v, serverUpdate toyAead exG2 300000000 [] = .ok v ∧ v.1.netcode.clientsId = [] :=
  ok_and _ (by decide +kernel)

example : ∃ g' out, serverUpdate toyAead exG2 300000000 [] = .ok (g', out) ∧
    ∀ id, id ∈ g'.renet.clientsId ↔ id ∈ g'.netcode.clientsId := by
  obtain ⟨⟨g', out⟩, h, -⟩ := exG2_update
  have hl : Live exG2.renet :=
    appOp_live (st := (exG1.renet, [])) (op := .disconnect 7) rfl rfl exG1_live
  exact ⟨g', out, h, connected_exactly h exG2_lockstep hl⟩

/-- the same along any run from a fresh pair: whenever the last call was `update`, the two id sets agree -/
theorem connected_exactly_always (a : AEAD) {ns : NetcodeServer} (hfresh : ns.clientsId = []) (budget : Nat)
    (sc cc : List ChanCfg) (ops : List GlueOp) (d : Nat) (inbox : List Dgram) (st : GState)
    (hrun : runGlue a ({ netcode := ns, renet := Server.new budget sc cc }, []) (ops ++ [.update d inbox]) = .ok st)
    (hpre : GPre a ({ netcode := ns, renet := Server.new budget sc cc }, []) (ops ++ [.update d inbox])) :
    ∀ id, id ∈ st.1.renet.clientsId ↔ id ∈ st.1.netcode.clientsId := by
  obtain ⟨st1, h1, h2⟩ := runGlue_snoc a ops _ _ st hrun
  obtain ⟨hg, hl⟩ := runGlue_inv2 a ops _ st1 h1 (gpre_prefix a ops _ _ hpre) (gInv2_fresh hfresh budget sc cc)
  cases GlueOp.applied h2 with
  | update h3 => exact connected_exactly h3 hg.1 hl

example : ∃ st, runGlue toyAead (exG0, []) (exOps ++ [.update 1000 []]) = .ok st ∧
    ∀ id, id ∈ st.1.renet.clientsId ↔ id ∈ st.1.netcode.clientsId := by
  obtain ⟨st, h⟩ := ok_of_isOk (x := runGlue toyAead (exG0, []) (exOps ++ [.update 1000 []])) (by decide +kernel)
  have hpre : GPre toyAead (exG0, []) (exOps ++ [.update 1000 []]) := gpre_of_b toyAead _ _ (by decide +kernel)
  exact ⟨st, h, connected_exactly_always toyAead exNs0_fresh 60000 exChans exChans exOps 1000 [] st h hpre⟩

/-- between updates only one inclusion holds … -/
theorem connected_subset {g : ServerGlue} (hk : LockStep g) : ∀ id, id ∈ g.renet.clientsId → id ∈ g.netcode.clientsId :=
  fun id h => (hk.sync id).mp (contains_of_mem_clientsId h)

example : ∀ id, id ∈ exG2.renet.clientsId → id ∈ exG2.netcode.clientsId := connected_subset exG2_lockstep

/-- … **counter-example to "exactly" at every instant**: after the application's `RenetServer::disconnect(7)` and
    before the next transport `update`, client 7 is no longer reported connected by the message layer although its
    netcode session is still up (lock-step still holds: the key is there, the connection is `Disconnected`).  The next
    `update` ends the netcode session (`server_disconnect_propagates`). -/
theorem connected_gap : LockStep exG2 ∧ 7 ∈ exG2.netcode.clientsId ∧ 7 ∉ exG2.renet.clientsId ∧
    exG2.renet.disconnectionsId = [7] :=
  ⟨exG2_lockstep, by decide, by decide, by decide⟩

/-- **`update` factorised; the event log mirrors the netcode results.**  There is a netcode-only run `T` (clock step;
    `process_packet` per queued datagram; `update_client` per connected id; `disconnect` per id renet holds
    disconnected) such that renet received exactly the calls `opOf` of T's results in order, the datagrams sent are
    exactly `dgOf` of T's results in order, and — in lock-step — the events renet pushed are, in order, exactly the
    `ClientConnected` / `ClientDisconnected` results of T, with the same ids. -/
theorem events_mirror_netcode {a : AEAD} {g g' : ServerGlue} {d : Nat} {inbox : List Dgram} {out : Array Dgram}
    (h : serverUpdate a g d inbox = .ok (g', out)) (popped : List Event) :
    ∃ T, IsUpdateRun a g d inbox g' out popped T ∧
      (LockStep g → ∃ new, g'.renet.events = g.renet.events ++ new ∧ new.map evKey = T.all.filterMap resKey) :=
  serverUpdate_factor h popped

example : ∃ g' out T new, serverUpdate toyAead exG2 300000000 [(exAddr, [1, 2, 3])] = .ok (g', out) ∧
    IsUpdateRun toyAead exG2 300000000 [(exAddr, [1, 2, 3])] g' out [] T ∧
    g'.renet.events = exG2.renet.events ++ new ∧ new.map evKey = T.all.filterMap resKey := by
  obtain ⟨⟨g', out⟩, h⟩ := ok_of_isOk exG2_junk_ok
  obtain ⟨T, hT, hev⟩ := events_mirror_netcode h []
  obtain ⟨new, e1, e2⟩ := hev exG2_lockstep
  exact ⟨g', out, T, new, h, hT, e1, e2⟩

/-- **exactly once, right id.**  Along any run from a fresh pair, for every id: the events about it alternate
    ClientConnected, ClientDisconnected, ClientConnected, … and the last one is ClientConnected exactly when the id is
    in the netcode table. -/
theorem events_exactly_once (a : AEAD) {ns : NetcodeServer} (hfresh : ns.clientsId = []) (budget : Nat)
    (sc cc : List ChanCfg) (ops : List GlueOp) (st : GState)
    (hrun : runGlue a ({ netcode := ns, renet := Server.new budget sc cc }, []) ops = .ok st)
    (hall : ∀ op ∈ ops, op.allowed = true) (id : Nat) :
    SL.Alternates ((SL.eventLog (st.1.renet, st.2)).filter (SL.Event.about id)) ∧
    (SL.lastIsConnected ((SL.eventLog (st.1.renet, st.2)).filter (SL.Event.about id)) = true ↔
      id ∈ st.1.netcode.clientsId) := by
  obtain ⟨hl, hs⟩ := lockstep_always a hfresh budget sc cc ops st hrun hall
  obtain ⟨h1, h2⟩ := hs.2 id
  refine ⟨h1, ?_⟩
  rw [← SL.curState_false_eq, h2]
  exact hl.sync id

example : ∃ st, runGlue toyAead (exG0, []) exOps = .ok st ∧
    SL.Alternates ((SL.eventLog (st.1.renet, st.2)).filter (SL.Event.about 7)) := by
  obtain ⟨st, h⟩ := ok_of_isOk exOps_ok
  exact ⟨st, h, (events_exactly_once toyAead exNs0_fresh 60000 exChans exChans exOps st h (by decide) 7).1⟩

/-- **a disconnect decided by the message layer on the server ends the session within one `update`** -/
theorem server_disconnect_propagates {a : AEAD} {g g' : ServerGlue} {d : Nat} {inbox : List Dgram} {out : Array Dgram}
    (h : serverUpdate a g d inbox = .ok (g', out)) (hk : LockStep g) {popped : List Event}
    (hs : SL.SrvInv (g.renet, popped)) {id : Nat} {c : Conn} {r : Reason}
    (hf : SMap.find? g.renet.conns id = some c) (hst : c.status = .disconnected r) :
    ∃ new tl, SL.eventLog (g'.renet, popped) = SL.eventLog (g.renet, popped) ++ new ∧
      new.filter (SL.Event.about id) = .disconnected id r :: tl :=
  GI.server_disconnect_propagates h hk hs hf hst

example : ∃ g' out new tl, serverUpdate toyAead exG2 300000000 [] = .ok (g', out) ∧
    SL.eventLog (g'.renet, []) = SL.eventLog (exG2.renet, []) ++ new ∧
    new.filter (SL.Event.about 7) = .disconnected 7 .byServer :: tl ∧ 7 ∉ g'.netcode.clientsId := by
  obtain ⟨⟨g', out⟩, h, hgone⟩ := exG2_update
  have hf : SMap.find? exG2.renet.conns 7 = some (exRs0.newConn.setConnected.disconnectWith .byServer) := rfl
  obtain ⟨new, tl, e1, e2⟩ := server_disconnect_propagates h exG2_lockstep exG2_srvInv hf rfl
  simp only at hgone
  exact ⟨g', out, new, tl, h, e1, e2, by rw [hgone]; simp⟩

/-- **why a session ends on the server**: own authentic disconnect datagram, netcode time-out, or renet-side disconnect -/
theorem disconnect_causes {a : AEAD} {g g' : ServerGlue} {d : Nat} {inbox : List Dgram} {out : Array Dgram}
    {popped : List Event} {T : UpdateTrace} (hr : IsUpdateRun a g d inbox g' out popped T) {id : Nat} {ad : Addr}
    {pl : Option Bytes} (h : ServerResult.clientDisconnected id ad pl ∈ T.all) :
    (∃ (nsA : NetcodeServer) (dg : Dgram) (nsB : NetcodeServer), dg ∈ inbox ∧
        nsA.processPacket a dg.1 dg.2 = .ok (.clientDisconnected id ad pl, nsB) ∧
        Auth a nsA dg.1 dg.2 (.clientDisconnected id ad pl)) ∨
    (∃ (nsA nsB : NetcodeServer), nsA.updateClient a id = .ok (.clientDisconnected id ad pl, nsB) ∧
        UCShape nsA id (.clientDisconnected id ad pl)) ∨
    id ∈ T.rs2.disconnectionsId := by
  rcases hr.mem_all h with ⟨nsA, dg, nsB, hdg, hf⟩ | ⟨nsA, x, nsB, hf⟩ | ⟨nsA, x, nsB, hx, hf⟩
  · exact Or.inl ⟨nsA, dg, nsB, hdg, hf, processPacket_auth hf⟩
  · have hs := updateClient_shape hf
    have hx : id = x := hs.1
    subst hx
    exact Or.inr (Or.inl ⟨nsA, nsB, hf, hs⟩)
  · cases NS.disconnect_ok (mk := fun _ => .disconnect) hf
    exact Or.inr (Or.inr hx)

/-- six seconds of silence: netcode reports `ClientDisconnected{7}` (client 7 has a 5 s time-out), for one of the
    three causes -/
example : ∃ g' out T ad pl, serverUpdate toyAead exG1 6000000000 [] = .ok (g', out) ∧
    IsUpdateRun toyAead exG1 6000000000 [] g' out [] T ∧ ServerResult.clientDisconnected 7 ad pl ∈ T.all ∧
    ((∃ (nsA : NetcodeServer) (dg : Dgram) (nsB : NetcodeServer), dg ∈ ([] : List Dgram) ∧
        nsA.processPacket toyAead dg.1 dg.2 = .ok (.clientDisconnected 7 ad pl, nsB) ∧
        Auth toyAead nsA dg.1 dg.2 (.clientDisconnected 7 ad pl)) ∨
     (∃ (nsA nsB : NetcodeServer), nsA.updateClient toyAead 7 = .ok (.clientDisconnected 7 ad pl, nsB) ∧
        UCShape nsA 7 (.clientDisconnected 7 ad pl)) ∨
     7 ∈ T.rs2.disconnectionsId) := by
  obtain ⟨⟨g', out⟩, h, hlen⟩ := ok_and (x := serverUpdate toyAead exG1 6000000000 [])
    (fun v => v.1.renet.events.map evKey = [(true, 7), (false, 7)]) (by decide +kernel)
  obtain ⟨T, hT, hev⟩ := events_mirror_netcode h []
  obtain ⟨new, e1, e2⟩ := hev exG1_lockstep
  simp only at hlen
  rw [e1, List.map_append, e2] at hlen
  have hmem : (false, 7) ∈ T.all.filterMap resKey := by
    have : exG1.renet.events.map evKey = [(true, 7)] := rfl
    rw [this] at hlen
    simp only [List.cons_append, List.nil_append, List.cons.injEq, true_and] at hlen
    rw [hlen]; simp
  obtain ⟨r, hr, hk⟩ := List.mem_filterMap.mp hmem
  cases r with
  | clientDisconnected id ad pl =>
    simp only [resKey, Option.some.injEq, Prod.mk.injEq, true_and] at hk
    subst hk
    exact ⟨g', out, T, ad, pl, h, hT, hr, disconnect_causes hT hr⟩
  | none => simp [resKey] at hk
  | packetToSend ad p => simp [resKey] at hk
  | payload i b => simp [resKey] at hk
  | clientConnected i ad ud p => simp [resKey] at hk

/-- **inbound.**  Every `(bytes, id)` one `update` hands to `RenetServer::process_packet_from` is a payload
    `NetcodeServer::process_packet` returned for one of the queued datagrams as `Payload{client_id = id}`; `id` is in the
    netcode table, the datagram came from that client's address and decodes under that client's receive key and replay
    window as a payload packet with exactly these bytes (`Auth`; with C04: it is that client's own datagram, once). -/
theorem payload_routing_inbound {a : AEAD} {g g' : ServerGlue} {d : Nat} {inbox : List Dgram} {out : Array Dgram}
    {popped : List Event} {T : UpdateTrace} (hr : IsUpdateRun a g d inbox g' out popped T) {b : Bytes} {id : Nat}
    (h : SL.SrvOp.processPacketFrom b id ∈ T.all.flatMap opOf) :
    ∃ (nsA : NetcodeServer) (dg : Dgram) (nsB : NetcodeServer), dg ∈ inbox ∧
      nsA.processPacket a dg.1 dg.2 = .ok (.payload id b, nsB) ∧ id ∈ nsA.clientsId ∧
      Auth a nsA dg.1 dg.2 (.payload id b) := by
  rcases hr.mem_all (mem_flatMap_opOf_ppf h) with ⟨nsA, dg, nsB, hdg, hf⟩ | ⟨nsA, x, nsB, hf⟩ | ⟨nsA, x, nsB, _, hf⟩
  · exact ⟨nsA, dg, nsB, hdg, hf, (processPacket_tstep hf).2, processPacket_auth hf⟩
  · exact (updateClient_shape hf).elim
  · exact ((NS.disconnect_ok (mk := fun _ => .disconnect) hf).quiet.result.2 _ _ rfl).elim

/-- a genuine payload datagram of client 7 (sealed by the toy AEAD under 7's receive key, sequence 1) -/
def exPayloadDgram : Bytes :=
  match (Netcode.Packet.payload [42, 43]).encode toyAead C.NETCODE_MAX_PACKET_BYTES 7 (some (1, [4, 5, 6])) with
  | .ok b => b
  | _ => []

example : ∃ g' out T, serverUpdate toyAead exG1 1000 [(exAddr, exPayloadDgram)] = .ok (g', out) ∧
    IsUpdateRun toyAead exG1 1000 [(exAddr, exPayloadDgram)] g' out [] T ∧
    ∃ (nsA : NetcodeServer) (dg : Dgram) (nsB : NetcodeServer), dg ∈ [(exAddr, exPayloadDgram)] ∧
      nsA.processPacket toyAead dg.1 dg.2 = .ok (.payload 7 [42, 43], nsB) ∧ 7 ∈ nsA.clientsId ∧
      Auth toyAead nsA dg.1 dg.2 (.payload 7 [42, 43]) := by
  obtain ⟨⟨g', out⟩, h⟩ := ok_of_isOk (x := serverUpdate toyAead exG1 1000 [(exAddr, exPayloadDgram)]) (by decide +kernel)
  obtain ⟨T, hT, _⟩ := events_mirror_netcode h []
  -- the first stage of the netcode half, computed: one `Payload{7, [42, 43]}`
  have h1 : (match (do
        let ns0 ← exG1.netcode.update 1000
        let (tr, _) ← ncTrace (ppF toyAead) ns0 [(exAddr, exPayloadDgram)]
        pure tr : Res Empty (List ServerResult)) with
      | .ok tr => tr
      | _ => []) = [.payload 7 [42, 43]] := by decide +kernel
  simp only [hT.clock, hT.recv, Res.bind_ok, Res.pure_eq] at h1
  have hmem : SL.SrvOp.processPacketFrom [42, 43] 7 ∈ T.all.flatMap opOf := by
    refine List.mem_flatMap.mpr ⟨.payload 7 [42, 43], ?_, by simp [opOf]⟩
    unfold UpdateTrace.all
    rw [h1]; simp
  exact ⟨g', out, T, h, hT, payload_routing_inbound hT hmem⟩

/-- **outbound.**  Every datagram one `send_packets` sends is `generate_payload_packet(id, p)` for an id of
    `RenetServer::clients_id()` and a packet `p` that `get_packets_to_send(id)` returned in this call; per client the
    datagrams are in packet order (`SendRun`, `Sealed`). -/
theorem payload_routing_outbound {a : AEAD} {g g' : ServerGlue} {out : Array Dgram}
    (h : serverSendPackets a g = .ok (g', out)) :
    SendRun a g g.renet.clientsId out.toList g' ∧
    ∀ d ∈ out.toList, ∃ (id : Nat) (rsA rsB : Server) (ps : List Bytes) (p : Bytes) (nsA nsB : NetcodeServer),
      id ∈ g.renet.clientsId ∧ rsA.getPacketsToSend id = .ok (rsB, some ps) ∧ p ∈ ps ∧
      nsA.generatePayloadPacket a id p = .ok (d, nsB) :=
  have hrun : SendRun a g g.renet.clientsId out.toList g' := by
    obtain ⟨ds, e, s⟩ := sendLoop_run a _ g g' _ out h
    simp only [List.nil_append] at e
    rw [e]
    exact s
  ⟨hrun, hrun.mem⟩

def exG1m : ServerGlue :=
  match exG1.renet.sendMessage 7 1 [1, 2, 3] with
  | .ok rs => ⟨exNs1, rs⟩
  | _ => exG1

example : ∃ g' out, serverSendPackets toyAead exG1m = .ok (g', out) ∧ out.size = 1 ∧
    ∀ d ∈ out.toList, ∃ (id : Nat) (rsA rsB : Server) (ps : List Bytes) (p : Bytes) (nsA nsB : NetcodeServer),
      id ∈ exG1m.renet.clientsId ∧ rsA.getPacketsToSend id = .ok (rsB, some ps) ∧ p ∈ ps ∧
      nsA.generatePayloadPacket toyAead id p = .ok (d, nsB) := by
  obtain ⟨⟨g', out⟩, h, hsz⟩ := ok_and (x := serverSendPackets toyAead exG1m) (fun v => v.2.size = 1) (by decide +kernel)
  exact ⟨g', out, h, hsz, (payload_routing_outbound h).2⟩

/-- **partial** (assumed: the netcode server calls themselves).  With the renet server in its invariant, `update`
    unwinds only if one of the netcode calls it makes (`update`, `process_packet`, `update_client`; `disconnect` never
    does) unwinds, with that call's message: the glue and renet add no unwinding of their own, whatever the datagrams. -/
theorem server_update_panic_partial {a : AEAD} {g : ServerGlue} {d : Nat} {inbox : List Dgram} {m : String}
    (hi : g.renet.Inv) (h : serverUpdate a g d inbox = .panic m) : NcPanic a m := by
  simp only [serverUpdate, recvLoop_eq, idLoop_eq] at h
  rcases Res.bind_panic_iff.mp h with h0 | ⟨ns0, h0, h⟩
  · exact .update _ _ h0
  rcases Res.bind_panic_iff.mp h with h1 | ⟨⟨g1, out1⟩, h1, h⟩
  · obtain ⟨ns, x, hx⟩ := handleLoop_panic goodP_winv _ { g with netcode := ns0 } _ _ hi h1
    exact .processPacket ns x.1 x.2 hx
  have hi1 := handleLoop_inv goodP_winv h1 hi
  rcases Res.bind_panic_iff.mp h with h2 | ⟨⟨g2, out2⟩, h2, h⟩
  · obtain ⟨ns, x, hx⟩ := handleLoop_panic goodP_winv _ _ _ _ hi1 h2
    exact .updateClient ns x hx
  obtain ⟨ns, x, hx⟩ := handleLoop_panic goodP_winv _ _ _ _ (handleLoop_inv goodP_winv h2 hi1) h
  obtain ⟨r, s', e⟩ := disconnect_total a ns x
  rw [e] at hx
  cases hx

def panicMsg {α : Type} : Res Empty α → Option String
  | .panic m => some m
  | _ => none

theorem panic_of_msg {α : Type} {x : Res Empty α} {m : String} (h : panicMsg x = some m) : x = .panic m := by
  cases x with
  | ok v => cases h
  | err e => exact e.elim
  | panic m' => simp only [panicMsg, Option.some.injEq] at h; rw [h]

def exG1late : ServerGlue := { exG1 with netcode := { exNs1 with currentTime := 1 } }

/-- the netcode clock overflowing `Duration::MAX` is such a case -/
example : serverUpdate toyAead exG1late DURATION_MAX [] = .panic "server.rs update: current_time += duration" ∧
    NcPanic toyAead "server.rs update: current_time += duration" := by
  have hm := panic_of_msg (x := serverUpdate toyAead exG1late DURATION_MAX [])
    (m := "server.rs update: current_time += duration") (by decide +kernel)
  exact ⟨hm, server_update_panic_partial (g := exG1late) exG1_inv hm⟩

/-- **partial** (assumed: `generate_payload_packet`, `RenetClient::get_packets_to_send`).  The
    `get_packets_to_send(client_id).unwrap()` of `send_packets` is never the cause of an unwinding. -/
theorem server_send_packets_panic_partial {a : AEAD} {g : ServerGlue} {m : String}
    (h : serverSendPackets a g = .panic m) : (∃ c : Conn, c.getPacketsToSend = .panic m) ∨ NcPanic a m := by
  -- the loop runs over keys of the connection table and nothing in it removes a key: the `unwrap()` never sees `Err`
  suffices hloop : ∀ (l : List Nat) (g : ServerGlue) (out : Array Dgram),
      (∀ id ∈ l, SMap.contains g.renet.conns id = true) → serverSendLoop a g l out = .panic m →
      (∃ c : Conn, c.getPacketsToSend = .panic m) ∨ NcPanic a m from
    hloop _ g _ (fun _ hid => contains_of_mem_clientsId hid) h
  intro l
  induction l with
  | nil =>
    intro g out _ h
    cases h
  | cons id rest ih =>
    intro g out hk h
    obtain ⟨c, hf⟩ := SMap.contains_iff_find?.mp (hk id List.mem_cons_self)
    dsimp only [serverSendLoop] at h
    rcases Res.bind_panic_iff.mp h with hg | ⟨⟨rs, ps⟩, hg, h⟩
    · left
      refine ⟨c, ?_⟩
      unfold Server.getPacketsToSend at hg
      rw [hf] at hg
      rcases Res.bind_panic_iff.mp hg with hc | ⟨v, _, hv⟩
      · exact hc
      · cases hv
    · obtain ⟨_, q, hc⟩ := SL.Server.getPacketsToSend_spec hg
      rcases hc with ⟨hn, _⟩ | ⟨_, _, ps', _, _, e, _⟩
      · rw [hf] at hn; cases hn
      subst e
      rcases Res.bind_panic_iff.mp h with h1 | ⟨⟨ns, out1⟩, h1, h⟩
      · exact Or.inr (sendClient_panic a id ps' _ _ _ h1)
      · exact ih _ out1
          (fun j hj => (q.contains j).trans (hk j (List.mem_cons_of_mem _ hj))) h

def exG1ov : ServerGlue := { exG1m with netcode := { exNs1 with clients := [some { exConn7 with sequence := U64_MAX }, none] } }

example : serverSendPackets toyAead exG1ov = .panic "server.rs generate_payload_packet: client.sequence += 1" ∧
    ((∃ c : Conn, c.getPacketsToSend = .panic "server.rs generate_payload_packet: client.sequence += 1") ∨
      NcPanic toyAead "server.rs generate_payload_packet: client.sequence += 1") := by
  have hm := panic_of_msg (x := serverSendPackets toyAead exG1ov)
    (m := "server.rs generate_payload_packet: client.sequence += 1") (by decide +kernel)
  exact ⟨hm, server_send_packets_panic_partial hm⟩

def exSrvAddr : Addr := .v4 [10, 0, 0, 3] 9000

def exTok : ConnectToken :=
  { clientId := 7, versionInfo := C.NETCODE_VERSION_INFO, protocolId := 7, createTimestamp := 0, expireTimestamp := 30,
    xnonce := [], serverAddresses := some exSrvAddr :: List.replicate 31 none, clientToServerKey := [4, 5, 6],
    serverToClientKey := [1, 2, 3], privateData := [], timeoutSeconds := 5 }

def exNc : NetcodeClient :=
  { state := .connected, clientId := 7, connectStartTime := 0, lastPacketSendTime := none, lastPacketReceivedTime := 0,
    currentTime := 0, sequence := 0, serverAddr := exSrvAddr, serverAddrIndex := 0, connectToken := exTok,
    challengeTokenSequence := 0, challengeTokenData := [], maxClients := 2, clientIndex := 0,
    sendRate := C.NETCODE_SEND_RATE_NS, replayProtection := RP.new }

def exRc : Conn := (Conn.fromChannels 60000 exChans exChans).setConnected
def exC1 : ClientGlue := ⟨exNc, exRc⟩
def exC2 : ClientGlue := ⟨{ exNc with state := .disconnected .connectionTimedOut }, exRc⟩
def exC3 : ClientGlue := ⟨exNc, exRc.disconnectWith .byClient⟩

theorem exNc_cinv : NetcodeClient.CInv exNc :=
  ⟨Nat.le_refl _, fun t h => (by cases h), Nat.le_refl _, by decide, by decide⟩

theorem exRc_inv : exRc.Inv := (CI.fromChannels_invP _ _ _).setConnected

/-- **the netcode session is over** (denied, timed out, server's `Disconnect` received, `transport.disconnect()`): the next
    `update` disconnects the `RenetClient` — reason `Transport` unless it already was disconnected — without reading the
    socket or sending, and reports the netcode reason -/
theorem client_netcode_end_reaches_renet {a : AEAD} {g : ClientGlue} {reason : DisconnectReason}
    (hn : g.netcode.disconnectReason = some reason) (d : Nat) (inbox : List Dgram) :
    clientUpdate a g d inbox =
      .ok ⟨.error (.netcode (.disconnected reason)), { g with renet := g.renet.disconnectWith .transport }, #[], inbox⟩ ∧
    (g.renet.disconnectWith .transport).isDisconnected = true ∧
    (g.renet.disconnectWith .transport).status =
      if g.renet.isDisconnected then g.renet.status else .disconnected .transport :=
  ⟨clientUpdate_netcode_disconnected hn d inbox, SL.Conn.disconnectWith_isDisconnected g.renet _,
    SL.Conn.disconnectWith_status g.renet _⟩

example : ∃ o, clientUpdate toyAead exC2 1000 [(exSrvAddr, [1, 2, 3])] = .ok o ∧
    o.g.renet.status = .disconnected .transport ∧ o.rest = [(exSrvAddr, [1, 2, 3])] ∧ o.out = #[] := by
  obtain ⟨h1, _, h3⟩ := client_netcode_end_reaches_renet (a := toyAead) (g := exC2) (reason := .connectionTimedOut) rfl
    1000 [(exSrvAddr, [1, 2, 3])]
  exact ⟨_, h1, h3, rfl, rfl⟩

/-- **the application disconnected the `RenetClient`** (or a channel error did): the next `update` always returns, tells
    netcode to disconnect (whatever its state) and sends the `Disconnect` datagram to the server; the socket is not
    read -/
theorem client_app_disconnect_ends_netcode {a : AEAD} {g : ClientGlue} {error : Reason}
    (hn : g.netcode.disconnectReason = none) (hr : g.renet.disconnectReason = some error) (d : Nat) (inbox : List Dgram) :
    ∃ o, clientUpdate a g d inbox = .ok o ∧
      o.g.netcode.disconnectReason = some .disconnectedByClient ∧ o.g.renet = g.renet ∧ o.rest = inbox ∧
      ((∃ pkt, Netcode.Packet.disconnect.encode a C.NETCODE_MAX_PACKET_BYTES g.netcode.connectToken.protocolId
            (some (g.netcode.sequence, g.netcode.connectToken.clientToServerKey)) = .ok pkt ∧
          o.result = .error (.renet error) ∧ o.out = #[(g.netcode.serverAddr, pkt)]) ∨
       (∃ e, o.result = .error (.netcode e) ∧ o.out = #[])) := by
  -- `NetcodeClient::disconnect` returns `Ok` in every state
  rw [clientUpdate_renet_disconnected hn hr]
  exact ⟨_, rfl, rfl, rfl, rfl,
    Or.inl ⟨_, Netcode.Packet.encode_sealed_fits a .disconnect _ _ _ _ nofun (by decide), rfl, rfl⟩⟩

example : ∃ o, clientUpdate toyAead exC3 1000 [] = .ok o ∧
    o.g.netcode.disconnectReason = some .disconnectedByClient ∧ o.result = .error (.renet .byClient) ∧ o.out.size = 1 := by
  obtain ⟨o, h, h1, _, _, h4⟩ := client_app_disconnect_ends_netcode (a := toyAead) (g := exC3) (error := .byClient) rfl rfl 1000 []
  have hres : (match clientUpdate toyAead exC3 1000 [] with
      | .ok o => o.out.size | _ => 9) = 1 := by decide +kernel
  rw [h] at hres
  simp only at hres
  rcases h4 with ⟨pkt, _, h5, _⟩ | ⟨e, _, h6⟩
  · exact ⟨o, h, h1, h5, hres⟩
  · rw [h6] at hres; cases hres

/-- **session alive**: the `RenetClient` status is set from netcode's (`Connected` iff netcode is connected, else
    `Connecting`); the payloads netcode surfaces for the datagrams that came from the server address are exactly what is
    fed to `RenetClient::process_packet`, in order (`clientPayloads`, `feedClient`); then the netcode tick, whose
    datagram — if any — is the only thing sent -/
theorem client_alive {a : AEAD} {g : ClientGlue} {d : Nat} {inbox : List Dgram} {o : ClientOut}
    (hn : g.netcode.disconnectReason = none) (hr : g.renet.disconnectReason = none)
    (h : clientUpdate a g d inbox = .ok o) :
    (mirror g).status = (if g.netcode.isConnected then .connected else .connecting) ∧
    ∃ (ps : List Bytes) (nc1 : NetcodeClient) (op : Option (Bytes × Addr)),
      clientPayloads a g.netcode inbox = .ok (ps, nc1) ∧
      Server.feedClient (mirror g) ps = .ok o.g.renet ∧
      nc1.update a d = .ok (op, o.g.netcode) ∧
      o.result = .ok () ∧ o.rest = [] ∧ o.out.toList = op.toList.map (fun x => (x.2, x.1)) := by
  refine ⟨mirror_status hn hr, ?_⟩
  rw [clientUpdate_alive hn hr] at h
  obtain ⟨g1, h1, h2⟩ := Res.bind_ok_iff.mp h
  obtain ⟨⟨op, nc⟩, h3, h4⟩ := Res.bind_ok_iff.mp h2
  obtain ⟨ps, p1, p2⟩ := clientRecvLoop_factor a inbox _ g1 h1
  cases op with
  | none =>
    cases h4
    exact ⟨ps, g1.netcode, none, p1, p2, h3, rfl, rfl, rfl⟩
  | some v =>
    obtain ⟨pkt, addr⟩ := v
    cases h4
    exact ⟨ps, g1.netcode, some (pkt, addr), p1, p2, h3, rfl, rfl, rfl⟩

/-- a genuine payload datagram from the server (toy AEAD, server-to-client key, sequence 1) -/
def exDownDgram : Bytes :=
  match (Netcode.Packet.payload [42, 43]).encode toyAead C.NETCODE_MAX_PACKET_BYTES 7 (some (1, [1, 2, 3])) with
  | .ok b => b
  | _ => []

example : ∃ o ps nc1 op, clientUpdate toyAead exC1 1000 [(exAddr, [9]), (exSrvAddr, exDownDgram), (exSrvAddr, [1, 2])] = .ok o ∧
    clientPayloads toyAead exC1.netcode [(exAddr, [9]), (exSrvAddr, exDownDgram), (exSrvAddr, [1, 2])] = .ok (ps, nc1) ∧
    ps = [[42, 43]] ∧ Server.feedClient (mirror exC1) ps = .ok o.g.renet ∧ nc1.update toyAead 1000 = .ok (op, o.g.netcode) := by
  obtain ⟨o, h⟩ := ok_of_isOk
    (x := clientUpdate toyAead exC1 1000 [(exAddr, [9]), (exSrvAddr, exDownDgram), (exSrvAddr, [1, 2])]) (by decide +kernel)
  obtain ⟨_, ps, nc1, op, h1, h2, h3, _⟩ := client_alive (g := exC1) rfl rfl h
  have hps : (match clientPayloads toyAead exC1.netcode [(exAddr, [9]), (exSrvAddr, exDownDgram), (exSrvAddr, [1, 2])] with
      | .ok (ps, _) => ps | _ => []) = [[42, 43]] := by decide +kernel
  rw [h1] at hps
  exact ⟨o, ps, nc1, op, h, h1, hps, h2, h3⟩

/-- `send_packets` (client) is refused while netcode is disconnected: nothing is taken from renet, nothing is sent -/
theorem client_send_refused {a : AEAD} {g : ClientGlue} {reason : DisconnectReason}
    (hn : g.netcode.disconnectReason = some reason) :
    clientSendPackets a g = .ok (.error (.netcode (.disconnected reason)), g, #[]) :=
  clientSendPackets_disconnected hn

example : ∃ r, clientSendPackets toyAead exC2 = .ok (r, exC2, #[]) := ⟨_, client_send_refused (reason := .connectionTimedOut) rfl⟩

/-- **client routing, outbound**: otherwise every datagram sent wraps, in order, a packet `RenetClient::get_packets_to_send`
    returned (`CSealed`); the first netcode error ends the call and is its result -/
theorem client_routing_outbound {a : AEAD} {g g' : ClientGlue} {res : Except TransportError Unit} {out : Array Dgram}
    (hn : g.netcode.disconnectReason = none) (h : clientSendPackets a g = .ok (res, g', out)) :
    ∃ ps e, g.renet.getPacketsToSend = .ok (g'.renet, ps) ∧ CSealed a g.netcode ps out.toList g'.netcode e ∧
      res = match e with | some e => .error (.netcode e) | none => .ok () :=
  clientSendPackets_alive hn h

def exC1m : ClientGlue :=
  match exRc.sendMessage 1 [1, 2, 3] with
  | .ok rc => ⟨exNc, rc⟩
  | _ => exC1

example : ∃ res g' out ps e, clientSendPackets toyAead exC1m = .ok (res, g', out) ∧ out.size = 1 ∧
    exC1m.renet.getPacketsToSend = .ok (g'.renet, ps) ∧ CSealed toyAead exC1m.netcode ps out.toList g'.netcode e := by
  obtain ⟨⟨res, g', out⟩, h, hres⟩ := ok_and (x := clientSendPackets toyAead exC1m) (fun v => v.2.2.size = 1)
    (by decide +kernel)
  obtain ⟨ps, e, h1, h2, _⟩ := client_routing_outbound (g := exC1m) rfl h
  exact ⟨res, g', out, ps, e, h, hres, h1, h2⟩

/-- **`update` (client) never unwinds**, whatever is queued at the socket, while the netcode client and the renet client
    satisfy their invariants, the clock stays below `Duration::MAX` minus the largest time-out and the datagram counter
    below `u64::MAX`; the invariants hold again afterwards -/
theorem client_update_total (a : AEAD) {g : ClientGlue} (d : Nat) (inbox : List Dgram)
    (hc : NetcodeClient.CInv g.netcode) (hi : g.renet.Inv)
    (ht : g.netcode.currentTime + d + NetcodeClient.TIMEOUT_MAX_NS ≤ DURATION_MAX)
    (hseq : g.netcode.sequence + 1 ≤ U64_MAX) :
    ∃ o, clientUpdate a g d inbox = .ok o ∧ NetcodeClient.CInv o.g.netcode ∧ o.g.renet.Inv := by
  cases hn : g.netcode.disconnectReason with
  | some reason =>
    rw [clientUpdate_netcode_disconnected hn]
    exact ⟨_, rfl, hc, hi.disconnectWith _⟩
  | none =>
    cases hr : g.renet.disconnectReason with
    | some error =>
      rw [clientUpdate_renet_disconnected hn hr]
      exact ⟨_, rfl, ⟨hc.start_le, hc.send_le, hc.recv_le, hc.addrs, hc.timeout⟩, hi⟩
    | none =>
      rw [clientUpdate_alive hn hr]
      have him : (mirror g).Inv := by
        unfold mirror
        split
        · exact hi.setConnected
        · split
          · exact hi.setConnecting
          · exact hi
      obtain ⟨g1, e1, c1, c2, c3, c4⟩ := clientRecvLoop_total goodP_winv a inbox { g with renet := mirror g } hc him
      obtain ⟨o, nc, e2, c5⟩ := NetcodeClient.update_total a g1.netcode d c1 (by rw [c4]; exact ht) (by rw [c3]; exact hseq)
      rw [e1]
      simp only [Res.bind_ok, e2]
      cases o with
      | none => exact ⟨_, rfl, c5, c2⟩
      | some v => obtain ⟨pkt, addr⟩ := v; exact ⟨_, rfl, c5, c2⟩

example (junk : List Dgram) : ∃ o, clientUpdate toyAead exC1 16000000 junk = .ok o ∧ NetcodeClient.CInv o.g.netcode :=
  let ⟨o, h, hc, _⟩ := client_update_total toyAead (g := exC1) 16000000 junk exNc_cinv exRc_inv (by decide +kernel) (by decide)
  ⟨o, h, hc⟩

/-! ## a complete session, both glues, datagram by datagram (toy AEAD, two-slot server)

  The client glue produces the request and the response datagrams, the server glue the challenge and the first
  keep-alive; then a message, a disconnect decided by one side, and what the other side sees. -/

def hsCliAddr : Addr := .v4 [10, 0, 0, 2] 2000

/-- a connect token for client 7 under the server's private key `[9, 9]` -/
def hsTok : ConnectToken :=
  match ConnectToken.generate toyAead 0 7 30 7 5 [exSrvAddr] (List.replicate 256 0) (List.replicate 32 4)
          (List.replicate 32 5) (List.replicate 24 1) [9, 9] with
  | .ok t => t
  | _ => exTok

def hsC0 : ClientGlue :=
  match NetcodeClient.new 0 hsTok with
  | .ok nc => ⟨nc, Conn.fromChannels 60000 exChans exChans⟩
  | _ => exC1

def cstep (g : ClientGlue) (d : Nat) (inbox : List Dgram) : ClientGlue × List Dgram :=
  match clientUpdate toyAead g d inbox with
  | .ok o => (o.g, o.out.toList)
  | _ => (g, [])

def sstep (g : ServerGlue) (d : Nat) (inbox : List Dgram) : ServerGlue × List Dgram :=
  match serverUpdate toyAead g d inbox with
  | .ok (g, out) => (g, out.toList)
  | _ => (g, [])

/-- the relay: what one side sent arrives at the other from the peer's address -/
def up (l : List Dgram) : List Dgram := l.map fun x => (hsCliAddr, x.2)
def down (l : List Dgram) : List Dgram := l.map fun x => (exSrvAddr, x.2)

def c1 := cstep hsC0 1000 []                 -- connection request
def s1 := sstep exG0 1000 (up c1.2)          -- challenge
def c2 := cstep c1.1 1000 (down s1.2)        -- response
def s2 := sstep s1.1 1000 (up c2.2)          -- connected on the server; first keep-alive
def c3 := cstep c2.1 1000 (down s2.2)        -- connected on the client

/-- the client after `c3`: netcode `Connected` in slot 0 of 2, two packets sent (request, response), the keep-alive with
    sequence 0 accepted, the challenge token kept; its `RenetClient` still `Connecting` (it learns `Connected` in the next
    `update`) -/
def hsCli : ClientGlue :=
  ⟨{ state := .connected, clientId := 7, connectStartTime := 0, lastPacketSendTime := some 2000,
     lastPacketReceivedTime := 2000, currentTime := 3000, sequence := 2, serverAddr := exSrvAddr, serverAddrIndex := 0,
     connectToken := hsTok, challengeTokenSequence := 1,
     challengeTokenData := Packet.sealBody toyAead [8, 8] 1 [] (leBytes 7 8 ++ List.replicate 276 0),
     maxClients := 2, clientIndex := 0, sendRate := C.NETCODE_SEND_RATE_NS, replayProtection := RP.new.advance 0 },
   (Conn.fromChannels 60000 exChans exChans).setConnecting⟩

/-- the server after `s2`: client 7 connected in slot 0 with the token's keys and user data, one keep-alive sent; the
    token's tag entered in the token table under the client's address; challenge and global sequence advanced by one -/
def hsSrv : ServerGlue :=
  ⟨{ exNs0 with
      clients := [some { confirmed := false, clientId := 7, state := .connected, sendKey := List.replicate 32 5,
                         receiveKey := List.replicate 32 4, userData := List.replicate 256 0, addr := hsCliAddr,
                         lastPacketReceivedTime := 2000, lastPacketSendTime := 2000, timeoutSeconds := 5, sequence := 1,
                         expireTimestamp := 30, replayProtection := RP.new }, none],
      connectTokenEntries := [some { time := 1000, address := hsCliAddr, mac := hsTok.privateData.drop 1008 }, none],
      challengeSequence := 1, currentTime := 2000, globalSequence := 1 },
   exRs0.addConnection 7⟩

/-- the server side of the session as a run of transport and application calls: handshake, a message, `send_packets`,
    `RenetServer::disconnect(7)`, the next `update`, and the application reading its events -/
def hsOps : List GlueOp :=
  [.update 1000 (up c1.2), .update 1000 (up c2.2), .app (.send 7 1 [1, 2, 3]), .sendPackets, .app (.disconnect 7),
   .update 1000 [], .app .getEvent, .app .getEvent]

def obs (x : Res Empty GState) : List Nat × List Nat × List Event × List Event :=
  match x with
  | .ok st => (st.1.netcode.clientsId, st.1.renet.clientsId, st.2, st.1.renet.events)
  | _ => ([99], [], [], [])

/-- **the server's message layer decides** (`RenetServer::disconnect(7)`): one server `update` frees the netcode slot and
    sends the `Disconnect` datagram; the client's netcode learns `DisconnectedByServer` in its next `update`, its
    `RenetClient` is disconnected (`Transport`) in the one after -/
def s2d : ServerGlue := { s2.1 with renet := s2.1.renet.disconnect 7 }
def s3 := sstep s2d 1000 []
def c4 := cstep c3.1 1000 (down s3.2)
def c5 := cstep c4.1 1000 []

/-- **the client's application decides** (`RenetClient::disconnect()`): the client's next `update` disconnects its netcode
    and sends the `Disconnect` datagram; the server `update` that receives it frees the slot, removes the renet
    connection and reports `ClientDisconnected 7` (reason `Transport`: the connection itself was healthy) -/
def c3d : ClientGlue := { c3.1 with renet := c3.1.renet.disconnectWith .byClient }
def c4' := cstep c3d 1000 []
def s3' := sstep s2.1 1000 (up c4'.2)

/-- **interference**: the same server `update` fed the genuine response datagram three times, a corrupted copy and a
    truncated copy ends in the same tables and the same single event -/
def noisy (d : Dgram) : List Dgram :=
  [d, d, (d.1, d.2.set 40 (d.2.getD 40 0 + 1)), (d.1, d.2.take 100), d]

/-- everything below is read off the session in one kernel evaluation: the state after the handshake, as a whole (`hsCli`,
    `hsSrv`) and what it shows; the server-side run `hsOps` returns, what its application observed, and the range
    conditions of Props/C20T.lean along it; the two `update`s of the handshake as a run of their own, with the precondition
    of `connected_exactly_always`; the three continuations `s2d`, `c3d`, `noisy`.
    The tuples of the theorems below are stated component by component: the `DecidableEq` instance of an n-tuple is too
    large for instance synthesis once several of them stand in one conjunction. -/
theorem hs_all :
    (c3.1 = hsCli ∧ s2.1 = hsSrv) ∧
    ((s2.1.netcode.clientsId = [7] ∧ s2.1.renet.clientsId = [7] ∧ s2.1.renet.events = [.connected 7] ∧
        c3.1.netcode.isConnected = true) ∧
      isOk (runGlue toyAead (exG0, []) hsOps) = true ∧
      obs (runGlue toyAead (exG0, []) hsOps) = ([], [], [.connected 7, .disconnected 7 .byServer], []) ∧
      GlueTotal.tpreb toyAead (exG0, []) hsOps = true) ∧
    (isOk (runGlue toyAead (exG0, []) ([.update 1000 (up c1.2)] ++ [.update 1000 (up c2.2)])) = true ∧
      gpreb toyAead (exG0, []) ([.update 1000 (up c1.2)] ++ [.update 1000 (up c2.2)]) = true ∧
      (match runGlue toyAead (exG0, []) ([.update 1000 (up c1.2)] ++ [.update 1000 (up c2.2)]) with
        | .ok st => st.1.netcode.clientsId | _ => []) = [7]) ∧
    (s3.1.netcode.clientsId = [] ∧ s3.1.renet.conns.length = 0 ∧
      s3.1.renet.events = [.connected 7, .disconnected 7 .byServer] ∧ s3.2.length = 1 ∧
      c4.1.netcode.disconnectReason = some .disconnectedByServer ∧ c5.1.renet.status = .disconnected .transport) ∧
    (c4'.1.netcode.disconnectReason = some .disconnectedByClient ∧ c4'.2.length = 1 ∧ s3'.1.netcode.clientsId = [] ∧
      s3'.1.renet.conns.length = 0 ∧ s3'.1.renet.events = [.connected 7, .disconnected 7 .transport]) ∧
    (let s2n := sstep s1.1 1000 ((up c2.2).flatMap noisy);
      s2n.1.netcode.clientsId = [7] ∧ s2n.1.renet.clientsId = [7] ∧ s2n.1.renet.events = [.connected 7]) := by
  open GlueEq in decide +kernel

/-- the handshake `c1 … c3`, `s1`, `s2` ends in these states.  A kernel evaluation of a scenario that starts after the
    handshake rewrites with this first (by `rw`, which leaves the kernel no conversion to check by evaluating) and does not
    run the five `update`s again. -/
theorem hs_end : c3.1 = hsCli ∧ s2.1 = hsSrv := hs_all.1

theorem hs_connected :
    (s2.1.netcode.clientsId, s2.1.renet.clientsId, s2.1.renet.events, c3.1.netcode.isConnected) =
      ([7], [7], [.connected 7], true) := by
  simpa only [Prod.mk.injEq] using hs_all.2.1.1

/-- the application got exactly `ClientConnected 7`, `ClientDisconnected 7 DisconnectedByServer`; both tables are empty -/
theorem hs_run : obs (runGlue toyAead (exG0, []) hsOps) = ([], [], [.connected 7, .disconnected 7 .byServer], []) :=
  hs_all.2.1.2.2.1

/-- the range conditions of Props/C20T.lean (`server_run_total`) hold along it -/
theorem hs_tpre : GlueTotal.tpreb toyAead (exG0, []) hsOps = true := hs_all.2.1.2.2.2

example : ∃ st, runGlue toyAead (exG0, []) hsOps = .ok st ∧ LockStep st.1 ∧
    SL.Alternates ((SL.eventLog (st.1.renet, st.2)).filter (SL.Event.about 7)) ∧
    (SL.lastIsConnected ((SL.eventLog (st.1.renet, st.2)).filter (SL.Event.about 7)) = true ↔
      7 ∈ st.1.netcode.clientsId) := by
  obtain ⟨st, h⟩ := ok_of_isOk hs_all.2.1.2.1
  exact ⟨st, h, (lockstep_always toyAead exNs0_fresh 60000 exChans exChans hsOps st h (by decide)).1,
    events_exactly_once toyAead exNs0_fresh 60000 exChans exChans hsOps st h (by decide) 7⟩

example : ∃ st, runGlue toyAead (exG0, []) ([.update 1000 (up c1.2)] ++ [.update 1000 (up c2.2)]) = .ok st ∧
    (∀ id, id ∈ st.1.renet.clientsId ↔ id ∈ st.1.netcode.clientsId) ∧ st.1.netcode.clientsId = [7] := by
  obtain ⟨hok, hpre, hids⟩ := hs_all.2.2.1
  obtain ⟨st, h⟩ := ok_of_isOk hok
  rw [h] at hids
  exact ⟨st, h, connected_exactly_always toyAead exNs0_fresh 60000 exChans exChans _ 1000 _ st h
    (gpre_of_b toyAead _ _ hpre), hids⟩

theorem server_decides_both_sides_end :
    (s3.1.netcode.clientsId, s3.1.renet.conns.length, s3.1.renet.events, s3.2.length,
      c4.1.netcode.disconnectReason, c5.1.renet.status) =
    ([], 0, [.connected 7, .disconnected 7 .byServer], 1, some .disconnectedByServer, .disconnected .transport) := by
  simpa only [Prod.mk.injEq] using hs_all.2.2.2.1

theorem client_decides_both_sides_end :
    (c4'.1.netcode.disconnectReason, c4'.2.length, s3'.1.netcode.clientsId, s3'.1.renet.conns.length,
      s3'.1.renet.events) =
    (some .disconnectedByClient, 1, [], 0, [.connected 7, .disconnected 7 .transport]) := by
  simpa only [Prod.mk.injEq] using hs_all.2.2.2.2.1

theorem duplicates_and_corruption_harmless :
    let s2n := sstep s1.1 1000 ((up c2.2).flatMap noisy)
    (s2n.1.netcode.clientsId, s2n.1.renet.clientsId, s2n.1.renet.events) = ([7], [7], [.connected 7]) := by
  simpa only [Prod.mk.injEq] using hs_all.2.2.2.2.2

end RenetVerif.C20
