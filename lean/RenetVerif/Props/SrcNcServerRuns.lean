/-
  The concrete runs of the GENERATED netcode server (world of `Lemmas/NcExamples.lean`, toy AEAD `Ex.a`): one configuration —
  `NetcodeServer::new(now 0, max_clients 2, protocol 42, [srvAddr], Secure{key})`, 2048 token entries — and the operation lists
  that `Props/SrcPropsNcHistory.lean`, `Props/SrcPropsNcPayloadOnce.lean` and `Props/SrcPropsNcNonces.lean` run from it.  They
  stand together, ahead of the three files, because the runs share their start (`new` and A's request, whose scan of the token
  entries is most of a run's evaluation): `SrcPropsNcHistory.ex_all` evaluates them in one kernel evaluation.
-/
import RenetVerif.Lemmas.SrcEquiv.SrcNcSeal
import RenetVerif.Lemmas.NcExamples
import RenetVerif.Props.C04H
namespace RenetVerif
open RenetVerif.SrcEquiv RenetVerif.RustSem RenetVerif.Netcode RenetVerif.Netcode.NS RenetVerif.SrcNcSystem RenetVerif.SrcNcSeal
open Ex

namespace SrcPropsNcHistory

def exCfg : NcCfg := ⟨0, 2, 42, [srvAddr], true, key, ckey⟩
def hostile : Bytes := 21 :: 7 :: List.replicate 30 255
def exOps1 : List Op := [.packet addrA reqA, .packet addrB hostile]
def exOps2 : List Op :=
  [.packet addrA respA, .packet addrA payFromA, .packet addrA payFromA, .sendPayload 11 [9, 9], .update 1000000000,
   .updateClient 11, .packet addrA hostile, .disconnect 11]
def exOps : List Op := exOps1 ++ exOps2

def hsOps : List Op := [.packet addrA reqA, .packet addrA respA]

end SrcPropsNcHistory

namespace SrcPropsNcPayloadOnce
open SrcPropsNcHistory

def exOps : List Op :=
  exOps1 ++ [.packet addrA respA, .packet addrA payFromA, .packet addrA payFromA, .sendPayload 11 [9, 9], .update 1000000000,
    .updateClient 11, .packet addrA SrcPropsNcHistory.hostile, .packet addrA C04H.pay3, .packet addrA C04H.pay2']

/-- the model-side names of the results of that run -/
def exResults : List Netcode.ServerResult :=
  [.packetToSend addrA chalA, .none, .clientConnected 11 addrA udA kaA, .payload 11 [1, 2, 3], .none,
   .packetToSend addrA (21 :: 1 :: ([9, 9] ++ List.replicate 16 0)), .none,
   .packetToSend addrA (20 :: 2 :: (Netcode.leBytes 0 4 ++ Netcode.leBytes 2 4 ++ List.replicate 16 0)), .none, .payload 11 [4, 5], .none]

end SrcPropsNcPayloadOnce

namespace SrcPropsNcNonces
open SrcPropsNcHistory

def nOps : List Op :=
  [.packet addrA reqA, .packet addrA reqA, .packet addrA respA, .sendPayload 11 [9, 9], .sendPayload 11 [1],
   .update 1000000000, .updateClient 11, .sendPayload 11 [2], .updateClient 11, .update 1000000000, .updateClient 11,
   .disconnect 11, .sendPayload 11 [3]]

/-- the send key of A's session (server-to-client key of A's token), as the generated struct holds it -/
def kA : List Nat := List.replicate 32 4

/-- the hypotheses of `handshake_nonces_disjoint` / `session_nonces_strict`, checked on the generated run: after the two
    requests slot 0 of the generated struct is free, the generated `process_packet` of the response occupies it with
    (`send_key`, `sequence`) = (`kA`, 1) and yields one session event; the session log of the remaining calls is 1 … 6 -/
def exHypB : Bool :=
  match GNc.init exCfg with
  | some g0 =>
    match g0.run Ex.a (nOps.take 2) with
    | some g =>
      match gstep Ex.a g (.packet addrA respA) with
      | some (g', evs) =>
        decide (gsv g.srv 0 = none ∧ gsv g'.srv 0 = some (kA, 1) ∧ gsessRecs 0 evs = [⟨kA, 0⟩] ∧
          (gsessLog Ex.a 0 g' (nOps.drop 3)).map (·.seq) = [1, 2, 3, 4, 5, 6])
      | none => false
    | none => false
  | none => false

end SrcPropsNcNonces

end RenetVerif
