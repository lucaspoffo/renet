/-
  C11 — the MULTI-CLIENT system, ABOUT THE GENERATED CODE: the invariant package `C11E.per_client_system_inv`, direction
  client `i` → server (second component of the package, `projUp`), read on the generated system `GMulti`.

  `Props/SrcPropsMultiInv.lean` has the three statements for the direction server → client `i`.  Here the same three for the
  other direction; the datagrams are those of `gl.outC` (everything `i`'s generated client ever emitted), read through the
  GENERATED decoder (`GDecodes`), the acknowledging side is the server's generated connection for `i` (`srvConn`), the
  deliveries are `gl.delivS` (indices of `gl.outC` the network handed to the server under id `i`):

    * `src_per_client_up_sequences_increase`   (`Inv1.encA` + `Inv1.seqA`)  the datagrams client `i` emitted carry strictly
                                               increasing sequence numbers, all below `packet_sequence` of `i`'s generated client;
    * `src_per_client_up_record_was_emitted`   (`InvR.sentA` + `Inv2.wfA` + `Inv1.encA`)  every reliable record in `sent_packets`
                                               of `i`'s (live) generated client is a datagram of `gl.outC` that the generated
                                               decoder reads back with that sequence number and that record (`gRecordOf`);
    * `src_per_client_up_acks_only_delivered`  (`InvR.ackB` + `InvR.ackOutB` + `Inv1.delivB`)  the `pending_acks` of the server's
                                               generated connection for `i`, and every `Ack` packet the server ever emitted to `i`
                                               (`gl.outS`, read by the generated decoder), cover only sequence numbers of datagrams
                                               of client `i` that were delivered to the server under id `i` (`delivS`).

  Hypotheses as in `SrcPropsMultiInv`: generated run, untainted link, `MRunInRange`; `GCountersUp` where the round trip of
  reliable packets is needed.  Proofs: `SrcMulti.mrun_sim_conv` + `C11E.per_client_system_inv` (second component).
-/
import RenetVerif.Props.SrcPropsMultiInv
namespace RenetVerif.SrcPropsMultiInvUp
open RenetVerif C RenetVerif.System RenetVerif.MultiSystem RenetVerif.SrcEquiv RenetVerif.SrcSystem RenetVerif.SrcMulti
open RenetVerif.C11E RenetVerif.SrcConnC08b RenetVerif.SrcConnC15 RenetVerif.SrcPropsMultiInv
open Src.renet.remote_connection

/-- the datagram with index `k` of `gl.outC` was handed to the server under id `i`, and whatever the generated decoder reads
    from it has sequence number `x` -/
def GDelivSeqUp (gl : GLink) (x : Nat) : Prop :=
  ∃ k ∈ gl.delivS, ∃ bytes, gl.outC[k]? = some bytes ∧
    ∀ gp : GPacket, GDecodes bytes gp → (Src.renet.packet.Packet.sequence gp : Res Empty Nat) = .ok x

/-- **The datagrams generated client `i` emits carry strictly increasing sequence numbers** (any run, any interleaving with
    the other clients).  For two datagrams of `gl.outC` — everything `i`'s generated `get_packets_to_send` ever returned — at
    positions `j < k`, which the GENERATED decoder reads as `gp` and `gq`: `sequence gp < sequence gq`, and both are below the
    field `packet_sequence` of `i`'s generated client. -/
theorem src_per_client_up_sequences_increase (P : Params) (ops : List MOp) (g : GMulti) (i : Nat) (gl : GLink)
    (hr : GMulti.exec P ops = some g) (hl : g.links i = some gl) (hclean : gl.tainted = false)
    (hrg : MRunInRange P ops) (j k : Nat) (bj bk : GBytes) (gp gq : GPacket) (hjk : j < k)
    (hj : gl.outC[j]? = some bj) (hk : gl.outC[k]? = some bk) (dj : GDecodes bj gp) (dk : GDecodes bk gq) :
    ∃ sj sk, (Src.renet.packet.Packet.sequence gp : Res Empty Nat) = .ok sj ∧
      (Src.renet.packet.Packet.sequence gq : Res Empty Nat) = .ok sk ∧ sj < sk ∧
      sk < gl.cl.packet_sequence := by
  obtain ⟨m, l, sim, hsl, hat⟩ := SrcPropsMulti.model_at hr hl hclean hrg
  obtain ⟨-, pkA, h1, -, -, -⟩ := C11E.per_client_system_inv hat
  obtain ⟨mrs, hA⟩ := hsl.cl
  exact sequences_increase h1 hsl.outC hA hjk hj hk dj dk

/-- **What generated client `i` records as sent was emitted by client `i`, and reads back as recorded.**  `ps` is an entry
    under `seq` of the generated `sent_packets` of `i`'s generated client, which is not disconnected, and `ps.info` is a
    reliable record (`ReliableMessages` / `ReliableSliceMessage`).  Then some datagram of `gl.outC` — the emission history of
    client `i`; NOT a datagram of another client — is read by the GENERATED decoder as a packet `gp` with
    `Packet::sequence = seq` for which `get_packets_to_send` records exactly `ps.info` (`gRecordOf`). -/
theorem src_per_client_up_record_was_emitted (P : Params) (ops : List MOp) (g : GMulti) (i : Nat) (gl : GLink)
    (hr : GMulti.exec P ops = some g) (hl : g.links i = some gl) (hclean : gl.tainted = false)
    (hrg : MRunInRange P ops) (hc : GCountersUp P gl)
    (hlive : ∀ r, gl.cl.connection_status ≠ .Disconnected r)
    (seq : Nat) (ps : PacketSent) (hf : RustSem.Map.find? gl.cl.sent_packets seq = some ps)
    (hrel : (∃ ch ids, ps.info = .ReliableMessages ch ids) ∨ ∃ ch id idx, ps.info = .ReliableSliceMessage ch id idx) :
    ∃ (k : Nat) (bytes : GBytes) (gp : GPacket), gl.outC[k]? = some bytes ∧ GDecodes bytes gp ∧
      (Src.renet.packet.Packet.sequence gp : Res Empty Nat) = .ok seq ∧ gRecordOf gp = some ps.info := by
  obtain ⟨m, l, sim, hsl, hat⟩ := SrcPropsMulti.model_at hr hl hclean hrg
  obtain ⟨-, pkA, h1, h2, hR, -⟩ := C11E.per_client_system_inv hat
  obtain ⟨mrs, hA⟩ := hsl.cl
  exact record_was_emitted h1 (h2 (countersUp_of_sim (m := m) (i := i) hsl hc)) hR hsl.outC hA hlive hf hrel

/-- **The server's connection for `i` acknowledges only datagrams of client `i` that were handed to the server under id `i`.**
    (a) every sequence number covered by the generated `pending_acks` of the server's generated connection for `i`, and (b) every
    sequence number covered by a range of an `Ack` packet that the GENERATED decoder reads from a datagram the server ever
    emitted to `i` (`gl.outS`), is the sequence number of a datagram of `gl.outC` whose index is in `gl.delivS` — it was emitted
    by client `i` and delivered to the server under id `i`; deliveries, hostile bytes and acknowledgements on the links of other
    clients contribute nothing.  (c) `delivS` holds indices of `gl.outC` only. -/
theorem src_per_client_up_acks_only_delivered (P : Params) (ops : List MOp) (g : GMulti) (i : Nat) (gl : GLink)
    (hr : GMulti.exec P ops = some g) (hl : g.links i = some gl) (hclean : gl.tainted = false)
    (hrg : MRunInRange P ops) :
    (∀ x, (∃ r ∈ (srvConn g i gl).pending_acks, r.start ≤ x ∧ x < r.«end») → GDelivSeqUp gl x) ∧
    (∀ b ∈ gl.outS, ∀ aseq ranges, GDecodes b (.Ack aseq ranges) →
      ∀ x, (∃ r ∈ ranges, r.start ≤ x ∧ x < r.«end») → GDelivSeqUp gl x) ∧
    (∀ k ∈ gl.delivS, k < gl.outC.length) := by
  obtain ⟨m, l, sim, hsl, hat⟩ := SrcPropsMulti.model_at hr hl hclean hrg
  obtain ⟨-, pkA, h1, -, hR, -⟩ := C11E.per_client_system_inv hat
  obtain ⟨mrs, hB⟩ := srv_repr sim hsl (i := i)
  exact acks_only_delivered h1 hR hsl.outC hsl.outS hsl.delivS hB

/-! ## non-vacuity: the run of `C11E.Ex` ON THE GENERATED CODE (`SrcPropsMulti.Ex`), client 3, direction 3 → server

  Client 3 submits `[33]` and emits one datagram (sequence number 0), which the network hands to the server; the server's
  connection for 3 has `[0, 1)` pending and its fourth datagram to 3 is `Ack 3 [0, 1)`.  In `opsX` (one more flush of
  client 3) client 3 has emitted a second datagram (its `Ack`, sequence number 1). -/
namespace Ex
open RenetVerif.SrcPropsMulti.Ex RenetVerif.SrcPropsMultiInv.Ex

def bS : GBytes := (gl3.outS[3]?).getD []
def dS := (dec bS).getD dzero
def c0 : GBytes := (glX3.outC[0]?).getD []
def c1 : GBytes := (glX3.outC[1]?).getD []
def e0 := (dec c0).getD dzero
def e1 := (dec c1).getD dzero

/-- **the kernel's view on the generated code**, in one evaluation of the run `ops` and its extension `opsX`: the datagrams
    client 3 emitted (read by the generated decoder), its generated `sent_packets`, `packet_sequence`, status; what was handed
    to the server under id 3, and the `pending_acks` of the server's generated connection for 3; the record under sequence
    number 0; the fourth datagram the generated server emitted to client 3, read by the generated decoder: `Ack 3 [0, 1)`;
    client 3's `packet_sequence` after `opsX`, and the two datagrams it has emitted by then decode -/
theorem all :
    (gl3.outC.map look = [some (0, some (.ReliableMessages 0 [0]))] ∧
      gl3.cl.sent_packets.map (fun x => (x.1, x.2.info)) = [(0, .ReliableMessages 0 [0])] ∧
      gl3.cl.connection_status = .Connected ∧
      gl3.delivS = [0] ∧ (srvConn gfin 3 gl3).pending_acks = [⟨0, 1⟩]) ∧
    (RustSem.Map.find? gl3.cl.sent_packets 0 = some ⟨0, .ReliableMessages 0 [0]⟩ ∧
      bS ∈ gl3.outS ∧ (dec bS).isSome = true ∧ dS.2 = .Ack 3 [⟨0, 1⟩]) ∧
    glX3.cl.packet_sequence = 2 ∧
    (glX3.outC[0]?).isSome = true ∧ (glX3.outC[1]?).isSome = true ∧ (dec c0).isSome = true ∧ (dec c1).isSome = true := by
  decide +kernel

theorem ufacts :
    gl3.outC.map look = [some (0, some (.ReliableMessages 0 [0]))] ∧
    gl3.cl.sent_packets.map (fun x => (x.1, x.2.info)) = [(0, .ReliableMessages 0 [0])] ∧
    gl3.cl.connection_status = .Connected ∧
    gl3.delivS = [0] ∧ (srvConn gfin 3 gl3).pending_acks = [⟨0, 1⟩] := all.1

theorem uxfacts :
    glX3.outC.map look = [some (0, some (.ReliableMessages 0 [0])), some (1, some (.Ack 2))] ∧
    glX3.cl.packet_sequence = 2 := ⟨xfacts.1, all.2.2.1⟩

/-- **`src_per_client_up_record_was_emitted` applied** to the record under sequence number 0 (the packet that carried `[33]`,
    message id 0 of channel 0) of generated client 3 -/
example : ∃ (k : Nat) (bytes : GBytes) (gp : GPacket), gl3.outC[k]? = some bytes ∧ GDecodes bytes gp ∧
    (Src.renet.packet.Packet.sequence gp : Res Empty Nat) = .ok 0 ∧ gRecordOf gp = some (.ReliableMessages 0 [0]) :=
  src_per_client_up_record_was_emitted P ops gfin 3 gl3 grun glink3 clean3 inRange gcountersU3
    (by rw [ufacts.2.2.1]; intro r h; cases h) 0 ⟨0, .ReliableMessages 0 [0]⟩ all.2.1.1 (Or.inl ⟨0, [0], rfl⟩)

/-- **`src_per_client_up_acks_only_delivered` (a) applied**: the server's connection for 3 has `[0, 1)` pending — 0 is the
    sequence number of a datagram of client 3 with index in `delivS = [0]` -/
example : GDelivSeqUp gl3 0 := by
  have h := (src_per_client_up_acks_only_delivered P ops gfin 3 gl3 grun glink3 clean3 inRange).1
  have e : (srvConn gfin 3 gl3).pending_acks = [⟨0, 1⟩] := ufacts.2.2.2.2
  exact h 0 ⟨⟨0, 1⟩, by rw [e]; exact List.mem_singleton.mpr rfl, by decide, by decide⟩
example : ∀ k ∈ gl3.delivS, k < gl3.outC.length :=
  (src_per_client_up_acks_only_delivered P ops gfin 3 gl3 grun glink3 clean3 inRange).2.2

theorem hbS : bS ∈ gl3.outS := all.2.1.2.1
theorem hdS : dec bS = some dS := some_getD all.2.1.2.2.1 _
theorem hdS2 : dS.2 = .Ack 3 [⟨0, 1⟩] := all.2.1.2.2.2
/-- **`src_per_client_up_acks_only_delivered` (b) applied**: the `Ack` packet the generated server emitted to client 3 (fourth
    datagram of `gl3.outS`, read by the generated decoder as `Ack 3 [0, 1)`) covers 0 — the sequence number of a delivered
    datagram of client 3 -/
example : GDelivSeqUp gl3 0 := by
  have hdec : GDecodes bS (.Ack 3 [⟨0, 1⟩]) := by rw [← hdS2]; exact gdecodes_of_dec hdS
  exact (src_per_client_up_acks_only_delivered P ops gfin 3 gl3 grun glink3 clean3 inRange).2.1 bS hbS 3 [⟨0, 1⟩] hdec
    0 ⟨⟨0, 1⟩, List.mem_singleton.mpr rfl, by decide, by decide⟩

theorem hc0 : glX3.outC[0]? = some c0 := some_getD all.2.2.2.1 _
theorem hc1 : glX3.outC[1]? = some c1 := some_getD all.2.2.2.2.1 _
theorem he0 : dec c0 = some e0 := some_getD all.2.2.2.2.2.1 _
theorem he1 : dec c1 = some e1 := some_getD all.2.2.2.2.2.2 _
/-- **`src_per_client_up_sequences_increase` applied** to the two datagrams generated client 3 emitted in `opsX` (sequence
    numbers 0 and 1, `packet_sequence` 2) -/
example : ∃ sj sk, (Src.renet.packet.Packet.sequence e0.2 : Res Empty Nat) = .ok sj ∧
    (Src.renet.packet.Packet.sequence e1.2 : Res Empty Nat) = .ok sk ∧ sj < sk ∧ sk < glX3.cl.packet_sequence :=
  src_per_client_up_sequences_increase P opsX gX 3 glX3 grunX glinkX3 xfacts.2.1 inRangeX 0 1 c0 c1 e0.2 e1.2 (by decide) hc0 hc1
    (gdecodes_of_dec he0) (gdecodes_of_dec he1)

end Ex

end RenetVerif.SrcPropsMultiInvUp
