/-
  C11 / C01–C03 — the MULTI-CLIENT system, ABOUT THE GENERATED CODE.

  `GMulti` (`Lemmas/SrcEquiv/SrcMulti.lean`) is the multi-client system of `Lemmas/MultiSystem.lean` / `Props/C11E.lean` with a
  GENERATED `RenetServer` (`Generated/Src/Server.lean`, translated from `renet/src/server.rs`) and, per client id, a GENERATED
  `RenetClient` as the remote endpoint, each with its own adversarial network.  ALL 17 operations of `MOp` are executed through
  the generated functions (`add_connection`, `remove_connection`, `disconnect`, `send_message`, `broadcast_message`,
  `broadcast_message_except`, `receive_message`, `update`, `get_packets_to_send`, `process_packet_from` of the server;
  `new` + `set_connected`, `disconnect`, `send_message`, `receive_message`, `update`, `get_packets_to_send`, `process_packet` of
  the clients; hostile bytes go to `process_packet_from`).  `GMulti.exec P ops = some g`: `RenetServer::new` and every call of the
  run returned normally; `gl` with `g.links i = some gl` holds what belongs to client `i`: the ghost logs `subS`/`subSU`
  (what the server application addressed to `i` and the channel accepted / offered), `obtC` (what `i`'s application obtained),
  `subC`/`subCU`/`obtS` (the other direction), all as `List Nat` byte strings.

  Hypotheses: the link is untainted (`gl.tainted = false`: no hostile bytes were handed to the server under id `i`);
  `GCountersDown` / `GCountersUp` — `System.CountersOK` of the direction at hand read off the generated state; and
  `MRunInRange P ops` — the range side condition of the source tie (`SrcMulti.MRunInRange`: distinct channel ids per kind;
  before every operation every connection of the server table, and the remote endpoint the operation works on, in range
  `ConnInRange`; messages shorter than `2^63`; clocks within `Duration::MAX`), stated over the model run and decidable by
  evaluation.  Proofs: `SrcMulti.mrun_sim_conv` + the theorems of `Props/C11E.lean`.
-/
import RenetVerif.Lemmas.SrcEquiv.SrcMulti
import RenetVerif.Props.C11E
set_option maxRecDepth 100000
namespace RenetVerif.SrcPropsMulti
open RenetVerif C RenetVerif.System RenetVerif.MultiSystem RenetVerif.SrcEquiv RenetVerif.SrcSystem RenetVerif.SrcMulti

theorem model_at {P : Params} {ops : List MOp} {g : GMulti} {i : Nat} {gl : GLink} (hr : GMulti.exec P ops = some g)
    (hl : g.links i = some gl) (hclean : gl.tainted = false) (hrg : MRunInRange P ops) :
    ∃ m l, SimMulti m g ∧ SimLink l gl ∧ C11E.At P ops m i l := by
  obtain ⟨m, hm, sim⟩ := mrun_sim_conv P ops g hrg hr
  obtain ⟨l, hml, hsl⟩ := link_of_sim sim hl
  exact ⟨m, l, sim, hsl, hm, hml, by rw [← hsl.tainted]; exact hclean⟩

/-- **To one client only that client (generated code).**  What client `i`'s application obtains on channel `ch` is — by
    channel kind — a prefix of / a selection at distinct positions of / contained in the log of messages the server
    application addressed to `i` (`send_message(i)`, `broadcast_message`, `broadcast_message_except(ex ≠ i)`), and that log is a
    sub-sequence of what the operations of the run addressed to `i`. -/
theorem src_to_one_only_one (P : Params) (ops : List MOp) (g : GMulti) (i : Nat) (gl : GLink)
    (hr : GMulti.exec P ops = some g) (hl : g.links i = some gl) (hclean : gl.tainted = false)
    (hrg : MRunInRange P ops) (hc : GCountersDown P g i gl) (ch : Nat) :
    (P.down.Ordered ch → gl.obtC ch <+: gl.subS ch) ∧
    (P.down.Unordered ch →
      ∃ ids : List Nat, ids.Nodup ∧ (gl.obtC ch).map some = ids.map (fun k => (gl.subS ch)[k]?)) ∧
    (P.down.Unreliable ch → ∀ x ∈ gl.obtC ch, x ∈ gl.subSU ch) ∧
    (gl.subS ch).Sublist ((addressedTo i ch ops).map toNats) ∧ (gl.subSU ch).Sublist ((addressedTo i ch ops).map toNats) := by
  obtain ⟨m, l, sim, hsl, hat⟩ := model_at hr hl hclean hrg
  have g := (good_guarantees hat.ok.goodD (countersDown_of_sim sim hsl hc)).onNats
  rw [hsl.obtC, hsl.subS, hsl.subSU]
  exact ⟨g.1 ch, g.2.1 ch, g.2.2 ch, (hat.ok.subS ch).map toNats, (hat.ok.subSU ch).map toNats⟩

/-- **What is addressed to others is never obtained (generated code).**  If no operation of the run addressed the bytes `x`
    to client `i` on channel `ch` — no `send_message(i, ch, x)`, no `broadcast_message(ch, x)`, no
    `broadcast_message_except(ex, ch, x)` with `ex ≠ i` — then `i`'s application never obtains `x` on `ch`, whatever was sent to
    the other clients and whatever the networks did. -/
theorem src_addressed_to_others_never_obtained (P : Params) (ops : List MOp) (g : GMulti) (i : Nat) (gl : GLink)
    (hr : GMulti.exec P ops = some g) (hl : g.links i = some gl) (hclean : gl.tainted = false)
    (hrg : MRunInRange P ops) (hc : GCountersDown P g i gl) (ch : Nat)
    (hk : P.down.Ordered ch ∨ P.down.Unordered ch ∨ P.down.Unreliable ch) (x : Bytes)
    (hno : ∀ op ∈ ops, op ≠ .srvSend i ch x ∧ op ≠ .broadcast ch x ∧ ∀ ex, ex ≠ i → op ≠ .broadcastExcept ex ch x) :
    toNats x ∉ gl.obtC ch := by
  obtain ⟨m, l, sim, hsl, hat⟩ := model_at hr hl hclean hrg
  have := C11E.addressed_to_others_never_obtained hat (countersDown_of_sim sim hsl hc) ch hk x hno
  rw [hsl.obtC, mem_map_toNats]
  exact this

/-- the same with the (decidable) hypothesis on the list `addressedTo i ch ops` -/
theorem src_not_addressed_never_obtained (P : Params) (ops : List MOp) (g : GMulti) (i : Nat) (gl : GLink)
    (hr : GMulti.exec P ops = some g) (hl : g.links i = some gl) (hclean : gl.tainted = false)
    (hrg : MRunInRange P ops) (hc : GCountersDown P g i gl) (ch : Nat)
    (hk : P.down.Ordered ch ∨ P.down.Unordered ch ∨ P.down.Unreliable ch) (x : Bytes)
    (hno : x ∉ addressedTo i ch ops) : toNats x ∉ gl.obtC ch := by
  obtain ⟨m, l, sim, hsl, hat⟩ := model_at hr hl hclean hrg
  have := C11E.not_addressed_never_obtained hat (countersDown_of_sim sim hsl hc) ch hk x hno
  rw [hsl.obtC, mem_map_toNats]
  exact this

/-- **From one client under its id (generated code).**  What the server application obtains under id `i` on channel `ch`
    (`receive_message(i, ch)`) is — by channel kind — a prefix of / a selection at distinct positions of / contained in
    the log of messages client `i`'s application submitted, and that log is a sub-sequence of the `cliSend i ch ·` operations
    of the run. -/
theorem src_from_one_under_its_id (P : Params) (ops : List MOp) (g : GMulti) (i : Nat) (gl : GLink)
    (hr : GMulti.exec P ops = some g) (hl : g.links i = some gl) (hclean : gl.tainted = false)
    (hrg : MRunInRange P ops) (hc : GCountersUp P gl) (ch : Nat) :
    (P.up.Ordered ch → gl.obtS ch <+: gl.subC ch) ∧
    (P.up.Unordered ch →
      ∃ ids : List Nat, ids.Nodup ∧ (gl.obtS ch).map some = ids.map (fun k => (gl.subC ch)[k]?)) ∧
    (P.up.Unreliable ch → ∀ x ∈ gl.obtS ch, x ∈ gl.subCU ch) ∧
    (gl.subC ch).Sublist ((sentBy i ch ops).map toNats) ∧ (gl.subCU ch).Sublist ((sentBy i ch ops).map toNats) := by
  obtain ⟨m, l, sim, hsl, hat⟩ := model_at hr hl hclean hrg
  have g := (good_guarantees hat.ok.goodU (countersUp_of_sim hsl hc)).onNats
  rw [hsl.obtS, hsl.subC, hsl.subCU]
  exact ⟨g.1 ch, g.2.1 ch, g.2.2 ch, (hat.ok.subC ch).map toNats, (hat.ok.subCU ch).map toNats⟩

/-- … so whatever is obtained under id `i` was submitted by client `i` itself, by a `cliSend i ch x` of the run -/
theorem src_obtained_under_id_only_if_sent_by_it (P : Params) (ops : List MOp) (g : GMulti) (i : Nat) (gl : GLink)
    (hr : GMulti.exec P ops = some g) (hl : g.links i = some gl) (hclean : gl.tainted = false)
    (hrg : MRunInRange P ops) (hc : GCountersUp P gl) (ch : Nat)
    (hk : P.up.Ordered ch ∨ P.up.Unordered ch ∨ P.up.Unreliable ch) (x : Bytes) (hx : toNats x ∈ gl.obtS ch) :
    MOp.cliSend i ch x ∈ ops := by
  obtain ⟨m, l, sim, hsl, hat⟩ := model_at hr hl hclean hrg
  rw [hsl.obtS, mem_map_toNats] at hx
  exact C11E.obtained_under_id_only_if_sent_by_it hat (countersUp_of_sim (m := m) (i := i) hsl hc) ch hk x hx

instance (P : Params) (g : GMulti) (i : Nat) (gl : GLink) : Decidable (GCountersDown P g i gl) :=
  decidable_of_iff (_ ∧ _ ∧ _ ∧ _ ∧ _)
    ⟨fun h => ⟨h.1, h.2.1, h.2.2.1, h.2.2.2.1, h.2.2.2.2⟩, fun h => ⟨h.chan, h.seq, h.ids, h.lens, h.lensU⟩⟩
instance (P : Params) (gl : GLink) : Decidable (GCountersUp P gl) :=
  decidable_of_iff (_ ∧ _ ∧ _ ∧ _ ∧ _)
    ⟨fun h => ⟨h.1, h.2.1, h.2.2.1, h.2.2.2.1, h.2.2.2.2⟩, fun h => ⟨h.chan, h.seq, h.ids, h.lens, h.lensU⟩⟩

/-! ## non-vacuity: the run of `C11E.Ex` executed by the kernel ON THE GENERATED CODE

  Three clients, two server → client channels (0 ordered, 1 unordered), `send_message`, `broadcast_message`,
  `broadcast_message_except`, hostile bytes under id 2, duplication and reordering on client 3's network, a removal. -/
namespace Ex
abbrev P := C11E.Ex.P
abbrev ops := C11E.Ex.ops

/-- placeholders for `Option.getD` (never used) -/
def gzero : GMulti := ⟨reprServer (fun _ _ => 0) (Server.new 0 [] []), fun _ => none⟩
def lzero : GLink :=
  ⟨reprConn (fun _ => 0) (Conn.fromChannels 0 [] []), reprConn (fun _ => 0) (Conn.fromChannels 0 [] []), [], [],
   fun _ => [], fun _ => [], fun _ => [], fun _ => [], fun _ => [], fun _ => [], [], [], false⟩

def gfin : GMulti := (GMulti.exec P ops).getD gzero
def gl1 : GLink := (gfin.links 1).getD lzero
def gl2 : GLink := (gfin.links 2).getD lzero
def gl3 : GLink := (gfin.links 3).getD lzero

/-- the generated run in one kernel evaluation: the range side condition; the generated server and clients run through the
    52 operations without a panic and every client has a link; clients 1 and 3 are untainted; the counter hypotheses of
    both directions of their links -/
theorem all :
    (MRunInRange P ops ∧ (GMulti.exec P ops).isSome = true ∧ (gfin.links 1).isSome = true ∧
      (gfin.links 2).isSome = true ∧ (gfin.links 3).isSome = true ∧ gl1.tainted = false ∧ gl3.tainted = false) ∧
    (GCountersDown P gfin 1 gl1 ∧ GCountersDown P gfin 3 gl3) ∧ (GCountersUp P gl1 ∧ GCountersUp P gl3) := by
  decide +kernel

theorem inRange : MRunInRange P ops := all.1.1
theorem grun : GMulti.exec P ops = some gfin := some_getD all.1.2.1 _
theorem glink1 : gfin.links 1 = some gl1 := some_getD all.1.2.2.1 _
theorem glink2 : gfin.links 2 = some gl2 := some_getD all.1.2.2.2.1 _
theorem glink3 : gfin.links 3 = some gl3 := some_getD all.1.2.2.2.2.1 _
theorem clean1 : gl1.tainted = false := all.1.2.2.2.2.2.1
theorem clean3 : gl3.tainted = false := all.1.2.2.2.2.2.2

theorem gcountersD1 : GCountersDown P gfin 1 gl1 := all.2.1.1
theorem gcountersD3 : GCountersDown P gfin 3 gl3 := all.2.1.2
theorem gcountersU1 : GCountersUp P gl1 := all.2.2.1
theorem gcountersU3 : GCountersUp P gl3 := all.2.2.2

/-- what happened on the generated code, evaluated by the kernel (the same observations as `C11E.Ex.facts`) -/
abbrev gobs (l : GLink) := ([l.obtC 0, l.obtC 1, l.subS 0, l.subS 1, l.obtS 0, l.subC 0], l.tainted, l.outS.length)

theorem gfacts :
    gobs gl1 = ([[[10], [20], [30]], [[40]], [[10], [20], [30], [60]], [[40]], [[11]], [[11]]], false, 4) ∧
    gobs gl2 = ([[], [], [[30]], [[40]], [], [[22]]], true, 0) ∧
    gobs gl3 = ([[[20], [30], [60]], [[40], [41]], [[20], [30], [60]], [[40], [41]], [[33]], [[33]]], false, 4) ∧
    gl3.delivC = [1, 0, 1, 2] ∧ gl1.delivC = [0, 1] ∧
    (Src.renet.server.RenetServer.clients_id gfin.server : Res Empty _) = .ok [1, 3] := by
  decide +kernel

example : gl1.obtC 0 <+: gl1.subS 0 ∧ (gl1.subS 0).Sublist ((addressedTo 1 0 ops).map toNats) :=
  let t := src_to_one_only_one P ops gfin 1 gl1 grun glink1 clean1 inRange gcountersD1 0; ⟨t.1 C11E.Ex.ordered0, t.2.2.2.1⟩
example : gl3.obtC 0 <+: gl3.subS 0 ∧ (gl3.subS 0).Sublist ((addressedTo 3 0 ops).map toNats) :=
  let t := src_to_one_only_one P ops gfin 3 gl3 grun glink3 clean3 inRange gcountersD3 0; ⟨t.1 C11E.Ex.ordered0, t.2.2.2.1⟩
example : ∃ ids : List Nat, ids.Nodup ∧ (gl3.obtC 1).map some = ids.map (fun k => (gl3.subS 1)[k]?) :=
  (src_to_one_only_one P ops gfin 3 gl3 grun glink3 clean3 inRange gcountersD3 1).2.1 C11E.Ex.unordered1
/-- [10] was addressed to client 1 only: it never appears at client 3; [41] went to client 3 only -/
example : toNats [10] ∉ gl3.obtC 0 :=
  src_not_addressed_never_obtained P ops gfin 3 gl3 grun glink3 clean3 inRange gcountersD3 0 (Or.inl C11E.Ex.ordered0)
    [10] (by decide)
example : toNats [41] ∉ gl1.obtC 1 :=
  src_not_addressed_never_obtained P ops gfin 1 gl1 grun glink1 clean1 inRange gcountersD1 1
    (Or.inr (Or.inl C11E.Ex.unordered1)) [41] (by decide)
example : gl1.obtS 0 <+: gl1.subC 0 ∧ (gl1.subC 0).Sublist ((sentBy 1 0 ops).map toNats) :=
  let t := src_from_one_under_its_id P ops gfin 1 gl1 grun glink1 clean1 inRange gcountersU1 0; ⟨t.1 C11E.Ex.upOrdered0, t.2.2.2.1⟩
example : MOp.cliSend 3 0 [33] ∈ ops := by
  have e := gfacts.2.2.1
  simp only [gobs, Prod.mk.injEq, List.cons.injEq] at e
  exact src_obtained_under_id_only_if_sent_by_it P ops gfin 3 gl3 grun glink3 clean3 inRange gcountersU3 0
    (Or.inl C11E.Ex.upOrdered0) [33] (by rw [e.1.2.2.2.2.1]; decide)

end Ex

end RenetVerif.SrcPropsMulti
