/-
  C04, client half, over WHOLE RUNS of the model `NetcodeClient` (the generated level is `Props/SrcPropsNcClientTrace.lean`).

  A run = any list of `Cl.COp` API calls — `update(d)`, `generate_payload_packet(p)`, `disconnect()`, `process_packet(bytes)` with
  ARBITRARY bytes — in any order, executed by `NcClientTrace.prun` from a client `c`; its ghost output `ps` lists, oldest first,
  every (datagram, payload) pair `process_packet` surfaced.  No hypothesis on the client's state: the statements hold through the
  handshake, while connected and after disconnection (a payload surfaces only while connected, `C04.client_payload_only_if_opened`).

    (1) `client_window_is_recv_window`   the client's STORED window after the run is the `Recv.run` window of the datagrams
                                         presented (history `pre` before the run ++ those of the run) — the missing link between
                                         `C04.payload_at_most_once` (a run of `decode` calls) and the client API;
    (2) `client_payloads_at_most_once`   the payloads surfaced along the run stem from pairwise distinct sequence numbers (the
                                         excluded point `2^64-1` of `C04.sentinel_collision` aside), none of which was surfaced in
                                         the history either; each is the plaintext that opens, as a `Payload` packet, under the
                                         token's server-to-client key with the nonce / additional data of that datagram's own
                                         header, and the datagram is one handed to `process_packet` in this run; the stored window
                                         satisfies `RP.Inv window accepted` for the ghost list of accepted sequence numbers, each of
                                         which was carried by a presented datagram that opened under the key;
    (3) `client_new_payloads_at_most_once`   the same from `NetcodeClient::new` (empty history).
-/
import RenetVerif.Lemmas.NcClientTrace
import RenetVerif.Lemmas.NcExamples
import RenetVerif.Props.C04
namespace RenetVerif.C04C
open RenetVerif RenetVerif.Netcode RenetVerif.Netcode.Packet RenetVerif.NcAead RenetVerif.NcClientTrace

theorem run_append (a : AEAD) (proto : Nat) (key : Bytes) (pre bufs : List Bytes) :
    Recv.run a proto key (pre ++ bufs) = bufs.foldl (Recv.step a proto key) (Recv.run a proto key pre) := by
  simp only [Recv.run, List.foldl_append]

theorem protectedSeqs_append (l1 l2 : List (Nat × Packet)) :
    protectedSeqs (l1 ++ l2) = protectedSeqs l1 ++ protectedSeqs l2 := by
  simp only [protectedSeqs, List.filter_append, List.map_append]

theorem protectedSeqs_reverse (l : List (Nat × Packet)) : protectedSeqs l.reverse = (protectedSeqs l).reverse := by
  simp only [protectedSeqs, List.filter_reverse, List.map_reverse]

/-- the sequence numbers of the surfaced pairs, the excluded point `2^64-1` dropped -/
def surfacedSeqs (ps : List (Bytes × Bytes)) : List Nat :=
  (ps.map fun x => wireSeq x.1).filter fun s => decide (s ≠ 2 ^ 64 - 1)

theorem protectedSeqs_asSurf (ps : List (Bytes × Bytes)) : protectedSeqs (ps.map asSurf) = surfacedSeqs ps := by
  simp only [protectedSeqs, surfacedSeqs, List.filter_map, List.map_map]
  -- on a payload both filter tests compute to `wireSeq x.1 ≠ 2^64-1`
  rfl

theorem protectedSeqs_sublist {l1 l2 : List (Nat × Packet)} (h : l1.Sublist l2) :
    (protectedSeqs l1).Sublist (protectedSeqs l2) :=
  (h.filter _).map _

/-- **(1) the stored window is the receive-side window.**  If the client's stored window is the `Recv.run` window of some
    history `pre` of datagrams (`pre = []` for a client fresh from `new`), then after ANY run of API calls it is the `Recv.run`
    window of `pre` followed by the datagrams the run handed to `process_packet`; the token never changes. -/
theorem client_window_is_recv_window (a : AEAD) {c c' : NetcodeClient} {ops : List Cl.COp} {ps : List (Bytes × Bytes)}
    (pre : List Bytes)
    (hw : c.replayProtection = (Recv.run a c.connectToken.protocolId c.connectToken.serverToClientKey pre).window)
    (h : prun a c ops = some (c', ps)) :
    c'.connectToken = c.connectToken ∧
    c'.replayProtection =
      (Recv.run a c.connectToken.protocolId c.connectToken.serverToClientKey (pre ++ recvBufs ops)).window := by
  obtain ⟨h1, h2, -, -⟩ := prun_recv ops _ h hw.symm
  exact ⟨h1, by rw [run_append, h2]⟩

theorem prun_surfacedSeqs (a : AEAD) {c c' : NetcodeClient} {ops : List Cl.COp} {ps : List (Bytes × Bytes)}
    (pre : List Bytes)
    (hw : c.replayProtection = (Recv.run a c.connectToken.protocolId c.connectToken.serverToClientKey pre).window)
    (h : prun a c ops = some (c', ps)) :
    ((surfacedSeqs ps).reverse ++
      protectedSeqs (Recv.run a c.connectToken.protocolId c.connectToken.serverToClientKey pre).surfaced).Sublist
      (protectedSeqs (Recv.run a c.connectToken.protocolId c.connectToken.serverToClientKey (pre ++ recvBufs ops)).surfaced) := by
  have h3 := protectedSeqs_sublist (prun_recv ops _ h hw.symm).2.2.1
  rwa [← run_append, protectedSeqs_append, protectedSeqs_reverse, protectedSeqs_asSurf] at h3

/-- **(2) C04 at-most-once over a whole client run.**  `pre`: ghost history of datagrams whose `Recv.run` window the client
    stores at the start.  Along any run of API calls from `c` that returns (`prun … = some (c', ps)`):
      * the sequence numbers of the surfaced payloads (`2^64-1` aside) are pairwise distinct, and none of them is the sequence
        number of a replay-protected packet that surfaced in the history;
      * every surfaced pair `(buf, p)`: `buf` was handed to `process_packet` in this run and opened, as a `Payload` packet, under
        the token's server-to-client key (nonce = its own sequence number, additional data = version ‖ protocol id ‖ its own
        prefix byte) to exactly `p`;
      * the stored window satisfies `RP.Inv` for the ghost list `accepted` of the receive side, and every accepted sequence number
        was carried by a presented datagram that opened under the key. -/
theorem client_payloads_at_most_once (a : AEAD) {c c' : NetcodeClient} {ops : List Cl.COp} {ps : List (Bytes × Bytes)}
    (pre : List Bytes)
    (hw : c.replayProtection = (Recv.run a c.connectToken.protocolId c.connectToken.serverToClientKey pre).window)
    (h : prun a c ops = some (c', ps)) :
    (surfacedSeqs ps).Nodup ∧
    (∀ s ∈ surfacedSeqs ps,
      s ∉ protectedSeqs (Recv.run a c.connectToken.protocolId c.connectToken.serverToClientKey pre).surfaced) ∧
    (∀ x ∈ ps, x.1 ∈ recvBufs ops ∧
      SealedOpen a x.1 c.connectToken.protocolId c.connectToken.serverToClientKey .payload x.2) ∧
    RP.Inv c'.replayProtection
      (Recv.run a c.connectToken.protocolId c.connectToken.serverToClientKey (pre ++ recvBufs ops)).accepted ∧
    (∀ s ∈ (Recv.run a c.connectToken.protocolId c.connectToken.serverToClientKey (pre ++ recvBufs ops)).accepted,
      ∃ buf ty plain, buf ∈ pre ++ recvBufs ops ∧ wireSeq buf = s ∧
        SealedOpen a buf c.connectToken.protocolId c.connectToken.serverToClientKey ty plain) := by
  have hnd := (prun_surfacedSeqs a pre hw h).nodup (C04.payload_at_most_once a _ _ _)
  rw [List.nodup_append] at hnd
  obtain ⟨n1, -, n3⟩ := hnd
  refine ⟨(List.pairwise_reverse.mp n1).imp Ne.symm, fun s hs hm => n3 s (List.mem_reverse.mpr hs) s hm rfl,
    (prun_recv ops _ h hw.symm).2.2.2, ?_, fun s hs => C04.accepted_only_if_presented hs⟩
  rw [(client_window_is_recv_window a pre hw h).2]
  exact C04.run_window_inv a _ _ _

/-- **… and is rejected for ever after**: at the end of the run the stored window reports the sequence number of every payload
    surfaced along the run as already received — so (`C04.client_replay_rejected`) no datagram carrying it, the accepted one, a
    copy, or a modification that keeps the sequence bytes, surfaces a payload in the state reached. -/
theorem client_surfaced_rejected_after (a : AEAD) {c c' : NetcodeClient} {ops : List Cl.COp} {ps : List (Bytes × Bytes)}
    (pre : List Bytes)
    (hw : c.replayProtection = (Recv.run a c.connectToken.protocolId c.connectToken.serverToClientKey pre).window)
    (h : prun a c ops = some (c', ps)) :
    ∀ s ∈ surfacedSeqs ps, c'.replayProtection.alreadyReceived s = true := by
  intro s hs
  have hm := (prun_surfacedSeqs a pre hw h).subset (List.mem_append_left _ (List.mem_reverse.mpr hs))
  have hacc := (Recv.good_run a _ _ (pre ++ recvBufs ops)).sub s hm
  rw [(client_window_is_recv_window a pre hw h).2]
  exact C04.no_reaccept (C04.run_window_inv a _ _ _) hacc (of_decide_eq_true (List.mem_filter.mp hs).2)

/-- **(3) … from `NetcodeClient::new`**: a client created by `new(now, Secure { token })` and driven by ANY API calls surfaces
    payloads from pairwise distinct sequence numbers only, each the plaintext its datagram opens to under the token's
    server-to-client key, and its stored window is the `Recv.run` window of exactly the datagrams it was handed. -/
theorem client_new_payloads_at_most_once (a : AEAD) {now : Nat} {tok : ConnectToken} {c c' : NetcodeClient}
    {ops : List Cl.COp} {ps : List (Bytes × Bytes)} (hn : NetcodeClient.new now tok = .ok c)
    (h : prun a c ops = some (c', ps)) :
    (surfacedSeqs ps).Nodup ∧
    (∀ x ∈ ps, x.1 ∈ recvBufs ops ∧ SealedOpen a x.1 tok.protocolId tok.serverToClientKey .payload x.2) ∧
    c'.connectToken = tok ∧
    c'.replayProtection = (Recv.run a tok.protocolId tok.serverToClientKey (recvBufs ops)).window ∧
    RP.Inv c'.replayProtection (Recv.run a tok.protocolId tok.serverToClientKey (recvBufs ops)).accepted := by
  have htok : c.connectToken = tok := (Cl.new_sequence hn).2.1
  have hw0 : c.replayProtection = RP.new := by
    obtain ⟨_, _, rfl⟩ := Cl.new_ok.mp hn
    rfl
  have hw : c.replayProtection = (Recv.run a c.connectToken.protocolId c.connectToken.serverToClientKey []).window := by
    rw [hw0]; rfl
  obtain ⟨p1, -, p3, p4, -⟩ := client_payloads_at_most_once a [] hw h
  obtain ⟨q1, q2⟩ := client_window_is_recv_window a [] hw h
  rw [htok] at p3 p4 q1 q2
  exact ⟨p1, p3, q1, q2, p4⟩

/-- in pairwise form: two surfaced payloads of one run never share a sequence number (unless it is the excluded `2^64-1`) -/
theorem client_payloads_pairwise (a : AEAD) {c c' : NetcodeClient} {ops : List Cl.COp} {ps : List (Bytes × Bytes)}
    (pre : List Bytes)
    (hw : c.replayProtection = (Recv.run a c.connectToken.protocolId c.connectToken.serverToClientKey pre).window)
    (h : prun a c ops = some (c', ps)) :
    ps.Pairwise (fun x y => wireSeq x.1 ≠ 2 ^ 64 - 1 → wireSeq x.1 ≠ wireSeq y.1) := by
  have hnd := (client_payloads_at_most_once a pre hw h).1
  rw [surfacedSeqs, List.Nodup, List.pairwise_filter, List.pairwise_map] at hnd
  refine hnd.imp fun {x y} hxy hx heq => hxy (decide_eq_true hx) (decide_eq_true ?_) heq
  rw [← heq]
  exact hx

/-! ## non-vacuity: a concrete model run (world of `Lemmas/NcExamples.lean`: AEAD `Ex.a`, token `tokenA`) -/
section Examples
open NS.Ex

/-- server-to-client payload datagrams (prefix 0x15 = Payload, one sequence byte) with sequence numbers 3, 5, 4, 7 -/
def pl3 : Bytes := 21 :: 3 :: ([9, 9] ++ List.replicate 16 0)
def pl5 : Bytes := 21 :: 5 :: ([5] ++ List.replicate 16 0)
def pl4 : Bytes := 21 :: 4 :: ([4, 4, 4] ++ List.replicate 16 0)
def pl7 : Bytes := 21 :: 7 :: ([7] ++ List.replicate 16 0)
/-- sequence 3 again with another body: a modification that keeps the sequence bytes -/
def pl3mod : Bytes := 21 :: 3 :: ([1, 2, 3] ++ List.replicate 16 0)
/-- a forgery (the AEAD does not open it) -/
def forgedP : Bytes := 21 :: 6 :: List.replicate 20 255

/-- handshake (request, challenge, response, keep-alive), then payloads 3 and 5, a replay of 3, a forgery, a modified 3, an
    outgoing payload, a clock step, payload 4 (late but inside the window), 5 again, `disconnect`, payload 7 (not surfaced: the
    client is disconnected — yet the window still moves) -/
def exOps : List Cl.COp :=
  [.update 0, .recv chalA, .update 250000000, .recv kaA,
   .recv pl3, .recv pl5, .recv pl3, .recv forgedP, .recv pl3mod, .send [1], .update 1000, .recv pl4, .recv pl5,
   .disconnect, .recv pl7]

set_option maxRecDepth 100000 in
theorem ex_run : (match NetcodeClient.new 0 tokenA with
    | .ok c => (prun NS.Ex.a c exOps).map (·.2)
    | _ => none) = some [(pl3, [9, 9]), (pl5, [5]), (pl4, [4, 4, 4])] := by decide +kernel

/-- `client_new_payloads_at_most_once` on that run: three payloads, sequence numbers 3, 5, 4 -/
example : ∃ c c' ps, NetcodeClient.new 0 tokenA = .ok c ∧ prun NS.Ex.a c exOps = some (c', ps) ∧
    ps.map (·.2) = [[9, 9], [5], [4, 4, 4]] ∧ surfacedSeqs ps = [3, 5, 4] ∧ (surfacedSeqs ps).Nodup ∧
    c'.replayProtection = (Recv.run NS.Ex.a tokenA.protocolId tokenA.serverToClientKey (recvBufs exOps)).window := by
  have hr := ex_run
  cases hn : NetcodeClient.new 0 tokenA with
  | ok c =>
    rw [hn] at hr
    dsimp only at hr
    cases hp : prun NS.Ex.a c exOps with
    | none => rw [hp] at hr; cases hr
    | some x =>
      obtain ⟨c', ps⟩ := x
      rw [hp] at hr
      simp only [Option.map_some, Option.some.injEq] at hr
      obtain ⟨h1, -, -, h4, -⟩ := client_new_payloads_at_most_once NS.Ex.a hn hp
      refine ⟨c, c', ps, rfl, hp, ?_, ?_, h1, h4⟩
      · rw [hr]; rfl
      · rw [hr]; decide +kernel
  | err e => rw [hn] at hr; cases hr
  | panic m => rw [hn] at hr; cases hr

/-- `Recv.step` compares windows with the derived `DecidableEq RP`, whose `Vector` equality is slow in the kernel
    (Lemmas/NcExamples.lean): a concrete `Recv.run` is evaluated after exchanging it for `fastRPEq` -/
theorem decEqRP_fast : @instDecidableEqRP = @fastRPEq := Subsingleton.elim _ _

/-- the window of that run accepted 0 (keep-alive), 3, 5, 4 and — after `disconnect` — 7 -/
example : (Recv.run NS.Ex.a tokenA.protocolId tokenA.serverToClientKey (recvBufs exOps)).accepted = [7, 4, 5, 3, 0] := by
  delta Recv.run Recv.step
  rw [decEqRP_fast]
  decide +kernel

end Examples

end RenetVerif.C04C
