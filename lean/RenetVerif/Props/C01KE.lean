/-
  C01 — LIVENESS, the k-ROUND bound with NO clause `r.ks ≠ []` at all.
  Definitions and proofs: Lemmas/LivenessKCut.lean.

  WHY `k_round_delivery_closed3_partial` (Props/C01KD.lean) is partial.  Its operation list `roundsOps ch rs` is fixed
  in advance and every round ends with `deliverToA r.ai`.  A round that starts with an EMPTY backlog (the bound
  `k * (B - SLICE_SIZE + 1) ≥ backlog` is not sharp, so trailing rounds may find nothing to send) makes A emit at most
  its ack packet; if A has nothing to acknowledge either, `r.ks = []`, B's flush is empty, and `deliverToA r.ai` is
  UNDEFINED (`Ex0.fixed_list_undefined` below: the fixed list does not run from the initial state).  So "the round
  hands B a datagram" stays a schedule fact for those rounds there.

  THE CUT SCHEDULE `cutOps ch s rs` — the operation list depends on the state:
      a round that starts with a NON-EMPTY backlog on channel `ch` is the full lossless round `r.ops ch` of Props/C01K
          (updA r.dt ; flushA ; deliverToB k (k ∈ r.ks) ; recvB ch × r.n ; flushB ; deliverToA r.ai);
      the FIRST round that starts with an EMPTY backlog is B's application draining the channel (recvB ch × r.n) and
          ENDS the schedule.
  `cutOps_eq`: `cutOps ch s rs = roundsOps ch (rs.take j) ++ (the recvB calls of round j, if j < k)`, `j = cutLen ch s rs`.
  The drain of the idle round is NOT optional: a reachable state can have an empty backlog at A (everything
  acknowledged) while B's application has not asked for the messages yet (`Ex0`); a schedule that did nothing at all
  in such a round would not deliver.

  SCHEDULE DESCRIPTION `RoundsSched4 ch Sched s rs` — hypotheses about what the ENVIRONMENT does, nothing else:
      every round reached     drain      `r.n` calls suffice: `|submitted| ≤ |obtained| + r.n`
      a round with a non-empty backlog (`RoundSched0`)
                              timer      `r.dt ≥ resend_time` of the channel
                              sched      `Sched su` (`SchedBytes ch B`: H4 and `B ≤ availAtTurn`; `True` for `Single`)
                              all/exact  `r.ks` lists exactly the datagrams of this flush (lossless hand-over)
                              back       `r.ai` is the index of the last datagram of B's flush
      NOTHING about `r.ks ≠ []`; nothing but `drain` about the round that starts with an empty backlog; nothing at
      all about the rounds after it.  `roundsSched4_of_roundsSched3`: it is implied by `RoundsSched3`.
  HEAD-ROOM `HeadRoom3 cfg s rs` on the INITIAL state (that of C01KD): system / static counters,
      `packetSeq + k * (units + 1) ≤ 2^62`, `B.packetSeq + k ≤ 2^62`, `pendingAcks + kTotal rs < 64`.

  RESULTS.
    k_round_delivery_closed4            ReliableOrdered: after the cut schedule of `k ≥ 1` rounds with
                                        `k * (B - SLICE_SIZE + 1) ≥ backlog` nothing has panicked, both endpoints are
                                        live, `obtained = submitted`.
    k_round_delivery_single_closed4     single-channel configuration, `B = available_bytes_per_tick`, `Sched = True`.
    k_round_delivery_unordered_closed4  ReliableUnordered: `obtained` is a permutation of `submitted`.
    k_round_delivery_closed4_rounds     the same with the operation list spelled out through `cutOps_eq`.
    delivered_stable / k_round_delivery_closed4_stable
                                        what the rounds that were cut off (or anything else the environment does
                                        afterwards, short of `sendA`) can change: nothing — `obtained` stays equal to
                                        `submitted` in every later state (`CountersOK` on that state, as in Props/C01S).
    idle_delivers                       an empty backlog at A + B's drain = everything delivered (the idle round).

  NOT CLAIMED.  That the FIXED list `roundsOps ch rs` runs to its end when a round is idle: it need not
  (`Ex0.fixed_list_undefined`).  The coarse `acks` head-room (`kTotal rs` counts the `ks` of ALL rounds, repetitions
  and cut rounds included — choose `ks = []` for rounds expected to be idle, as `ExS.r3'` does) stays for the reason
  given in note (B) of Props/C01KC.lean.
-/
import RenetVerif.Props.C01KD
import RenetVerif.Lemmas.LivenessKCut
namespace RenetVerif.C01KE
open RenetVerif C RenetVerif.System RenetVerif.Live RenetVerif.LiveK RenetVerif.LiveKC RenetVerif.FlushCount
  RenetVerif.LiveKCut

/-- **C01 liveness, k rounds, side conditions closed (4): no non-emptiness clause.**  Reachable `s`, both endpoints
    live, room at B (H3), `B ≥ SLICE_SIZE`.  REMAINING hypotheses: `RoundsSched4` with `SchedBytes ch B` (drain; for
    rounds with a non-empty backlog: timer, H4 + `B` bytes at the channel's turn, all/exact, `r.ai = ackIdx u`),
    `HeadRoom3` on the initial state, `k ≥ 1`, `k * (B - SLICE_SIZE + 1) ≥ backlog`.  Then the cut schedule runs without
    panic, nobody is disconnected, and B's application has obtained exactly the submitted messages, in order. -/
theorem k_round_delivery_closed4 (cfg : Cfg) (ops : List SysOp) (s : Sys) (hr : (Sys.init cfg).run ops = some s)
    (hda : s.a.isDisconnected = false) (hdb : s.b.isDisconnected = false)
    (ch : Nat) (ho : cfg.Ordered ch) (sA : SendRel) (hfA : SMap.find? s.a.sendRel ch = some sA)
    (rB : RecvRel) (hfB : SMap.find? s.b.recvRel ch = some rB) (H3 : Room (s.submitted ch) rB)
    (B : Nat) (hSB : SLICE_SIZE ≤ B)
    (rs : List RoundP) (hRS : RoundsSched4 ch (SchedBytes ch B) s rs) (hH : HeadRoom3 cfg s rs)
    (hk1 : rs ≠ []) (hk : backlog sA.unacked ≤ rs.length * (B - SLICE_SIZE + 1)) :
    ∃ u, s.run (cutOps ch s rs) = some u ∧ u.a.isDisconnected = false ∧ u.b.isDisconnected = false ∧
      u.submitted ch = s.submitted ch ∧ u.obtained ch = s.submitted ch :=
  cut_rounds cfg ch true ho B hSB (SchedBytes ch B) (fun _ _ h => h) rs ops s sA rB hr (Standing.of_reach hr hda hdb hfA hfB H3) hRS hH hk1 hk

/-- **Single-channel configuration, side conditions closed (4).**  No scheduling hypothesis (`Sched = True`), no
    non-emptiness clause. -/
theorem k_round_delivery_single_closed4 (cfg : Cfg) (ops : List SysOp) (s : Sys) (hr : (Sys.init cfg).run ops = some s)
    (hda : s.a.isDisconnected = false) (hdb : s.b.isDisconnected = false)
    (ch : Nat) (hsingle : Single cfg ch) (sA : SendRel) (hfA : SMap.find? s.a.sendRel ch = some sA)
    (rB : RecvRel) (hfB : SMap.find? s.b.recvRel ch = some rB) (H3 : Room (s.submitted ch) rB)
    (hSB : SLICE_SIZE ≤ cfg.budget)
    (rs : List RoundP) (hRS : RoundsSched4 ch (fun _ => True) s rs) (hH : HeadRoom3 cfg s rs)
    (hk1 : rs ≠ []) (hk : backlog sA.unacked ≤ rs.length * (cfg.budget - SLICE_SIZE + 1)) :
    ∃ u, s.run (cutOps ch s rs) = some u ∧ u.a.isDisconnected = false ∧ u.b.isDisconnected = false ∧
      u.submitted ch = s.submitted ch ∧ u.obtained ch = s.submitted ch :=
  cut_rounds cfg ch true (single_ordered hsingle) cfg.budget hSB (fun _ => True) (fun su hg _ => single_sched hsingle su hg)
    rs ops s sA rB hr (Standing.of_reach hr hda hdb hfA hfB H3) hRS hH hk1 hk

/-- **C02 liveness, k rounds (ReliableUnordered), side conditions closed (4).**  Same hypotheses; B's application has
    obtained every submitted message exactly once. -/
theorem k_round_delivery_unordered_closed4 (cfg : Cfg) (ops : List SysOp) (s : Sys) (hr : (Sys.init cfg).run ops = some s)
    (hda : s.a.isDisconnected = false) (hdb : s.b.isDisconnected = false)
    (ch : Nat) (ho : cfg.Unordered ch) (sA : SendRel) (hfA : SMap.find? s.a.sendRel ch = some sA)
    (rB : RecvRel) (hfB : SMap.find? s.b.recvRel ch = some rB) (H3 : Room (s.submitted ch) rB)
    (B : Nat) (hSB : SLICE_SIZE ≤ B)
    (rs : List RoundP) (hRS : RoundsSched4 ch (SchedBytes ch B) s rs) (hH : HeadRoom3 cfg s rs)
    (hk1 : rs ≠ []) (hk : backlog sA.unacked ≤ rs.length * (B - SLICE_SIZE + 1)) :
    ∃ u, s.run (cutOps ch s rs) = some u ∧ u.a.isDisconnected = false ∧ u.b.isDisconnected = false ∧
      u.submitted ch = s.submitted ch ∧ (u.obtained ch).Perm (s.submitted ch) :=
  cut_rounds cfg ch false ho B hSB (SchedBytes ch B) (fun _ _ h => h) rs ops s sA rB hr (Standing.of_reach hr hda hdb hfA hfB H3) hRS hH hk1 hk

/-- **the same, the operation list spelled out**: `j = cutLen ch s rs ≤ k` full rounds of Props/C01K, then — if a round
    is left — the `receive_message` calls of round `j`. -/
theorem k_round_delivery_closed4_rounds (cfg : Cfg) (ops : List SysOp) (s : Sys) (hr : (Sys.init cfg).run ops = some s)
    (hda : s.a.isDisconnected = false) (hdb : s.b.isDisconnected = false)
    (ch : Nat) (ho : cfg.Ordered ch) (sA : SendRel) (hfA : SMap.find? s.a.sendRel ch = some sA)
    (rB : RecvRel) (hfB : SMap.find? s.b.recvRel ch = some rB) (H3 : Room (s.submitted ch) rB)
    (B : Nat) (hSB : SLICE_SIZE ≤ B)
    (rs : List RoundP) (hRS : RoundsSched4 ch (SchedBytes ch B) s rs) (hH : HeadRoom3 cfg s rs)
    (hk1 : rs ≠ []) (hk : backlog sA.unacked ≤ rs.length * (B - SLICE_SIZE + 1)) :
    ∃ j u, j ≤ rs.length ∧ s.run (roundsOps ch (rs.take j) ++ idleTail ch (rs.drop j)) = some u ∧
      u.a.isDisconnected = false ∧ u.b.isDisconnected = false ∧
      u.submitted ch = s.submitted ch ∧ u.obtained ch = s.submitted ch := by
  obtain ⟨u, hu, h⟩ := k_round_delivery_closed4 cfg ops s hr hda hdb ch ho sA hfA rB hfB H3 B hSB rs hRS hH hk1 hk
  rw [cutOps_eq] at hu
  exact ⟨cutLen ch s rs, u, cutLen_le ch rs s, hu, h⟩

/-- **Once delivered, delivered for ever** — ReliableOrdered.  From a reachable state with `obtained = submitted` on
    channel `ch`, any further operations other than `sendA` that do not panic (more rounds, stale or duplicated
    datagrams, …) leave `submitted` alone and `obtained ch` equal to it. -/
theorem delivered_stable (cfg : Cfg) (ops : List SysOp) (u : Sys) (hr : (Sys.init cfg).run ops = some u)
    (ch : Nat) (ho : cfg.Ordered ch) (hd : u.obtained ch = u.submitted ch)
    (ops' : List SysOp) (w : Sys) (hw : u.run ops' = some w) (hno : ∀ op ∈ ops', ∀ c m, op ≠ .sendA c m)
    (hc : CountersOK cfg w) : w.submitted = u.submitted ∧ w.obtained ch = w.submitted ch := by
  obtain ⟨h1, -, h3⟩ := LiveKCut.delivered_stable cfg ops u hr ch true ho hd ops' w hw hno hc
  exact ⟨h1, h3⟩

/-- the same for a ReliableUnordered channel: `obtained` stays the same permutation of `submitted` -/
theorem delivered_stable_unordered (cfg : Cfg) (ops : List SysOp) (u : Sys) (hr : (Sys.init cfg).run ops = some u)
    (ch : Nat) (ho : cfg.Unordered ch) (hd : (u.obtained ch).Perm (u.submitted ch))
    (ops' : List SysOp) (w : Sys) (hw : u.run ops' = some w) (hno : ∀ op ∈ ops', ∀ c m, op ≠ .sendA c m)
    (hc : CountersOK cfg w) :
    w.submitted = u.submitted ∧ w.obtained ch = u.obtained ch ∧ (w.obtained ch).Perm (w.submitted ch) :=
  LiveKCut.delivered_stable cfg ops u hr ch false ho hd ops' w hw hno hc

/-- **k rounds, then anything**: after the cut schedule, whatever operations other than `sendA` follow — e.g. the
    rounds that were cut off, as far as they run — every later state (with counters in range) still has
    `obtained = submitted` = what was submitted when the first round started. -/
theorem k_round_delivery_closed4_stable (cfg : Cfg) (ops : List SysOp) (s : Sys) (hr : (Sys.init cfg).run ops = some s)
    (hda : s.a.isDisconnected = false) (hdb : s.b.isDisconnected = false)
    (ch : Nat) (ho : cfg.Ordered ch) (sA : SendRel) (hfA : SMap.find? s.a.sendRel ch = some sA)
    (rB : RecvRel) (hfB : SMap.find? s.b.recvRel ch = some rB) (H3 : Room (s.submitted ch) rB)
    (B : Nat) (hSB : SLICE_SIZE ≤ B)
    (rs : List RoundP) (hRS : RoundsSched4 ch (SchedBytes ch B) s rs) (hH : HeadRoom3 cfg s rs)
    (hk1 : rs ≠ []) (hk : backlog sA.unacked ≤ rs.length * (B - SLICE_SIZE + 1))
    (ops' : List SysOp) (hno : ∀ op ∈ ops', ∀ c m, op ≠ .sendA c m) (w : Sys)
    (hw : s.run (cutOps ch s rs ++ ops') = some w) (hc : CountersOK cfg w) :
    w.submitted ch = s.submitted ch ∧ w.obtained ch = s.submitted ch := by
  obtain ⟨u, hu, -, -, hsub, hobt⟩ := k_round_delivery_closed4 cfg ops s hr hda hdb ch ho sA hfA rB hfB H3 B hSB rs hRS hH hk1 hk
  rw [Sys.run_append, hu] at hw
  have hru : (Sys.init cfg).run (ops ++ cutOps ch s rs) = some u := by rw [Sys.run_append, hr]; exact hu
  obtain ⟨h1, h2⟩ := delivered_stable cfg _ u hru ch ho (by rw [hobt, hsub]) ops' w hw hno hc
  exact ⟨by rw [h1, hsub], by rw [h2, h1, hsub]⟩

/-- **The idle round.**  A's channel stores nothing (everything acknowledged): B's drain alone delivers everything. -/
theorem idle_delivers (cfg : Cfg) (ops : List SysOp) (s : Sys) (hr : (Sys.init cfg).run ops = some s)
    (hc : CountersOK cfg s) (hdb : s.b.isDisconnected = false)
    (ch : Nat) (ho : cfg.Ordered ch) (sA : SendRel) (hfA : SMap.find? s.a.sendRel ch = some sA)
    (h0 : sA.unacked = []) (n : Nat) (hn : (s.submitted ch).length ≤ (s.obtained ch).length + n) :
    ∃ u, s.run (List.replicate n (SysOp.recvB ch)) = some u ∧ u.a = s.a ∧ u.b.isDisconnected = false ∧
      u.submitted = s.submitted ∧ u.obtained ch = s.submitted ch :=
  idle_drain cfg ops s hr hc hdb ch true ho sA hfA h0 n hn

/-! ## non-vacuity

  `C01K.ExS`: 3000 bytes per tick vs. a 3-byte message and a 3700-byte sliced message (4 slices), backlog 4803, `k = 3`.
  Rounds 1 and 2 (`r1`, `r2` of `C01K.ExS`) start with a non-empty backlog; everything is delivered after two rounds, so
  round 3 starts with an EMPTY backlog.  Its parameters `r3'` hand B NOTHING (`ks = []`), do not advance the clock
  (`dt = 0` — below the resend time) and name no sensible ack datagram: `RoundsSched3` is FALSE for `[r1, r2, r3']`
  (C01KD needed `r3.ks = [6]`), `RoundsSched4` holds, every hypothesis is discharged by the kernel. -/
namespace ExS
open C01K.ExS

theorem roundsSched4 : RoundsSched4 0 (fun _ => True) s [r1, r2, r3'] :=
  roundsSched4_of_b (fun _ _ => trivial) _ _ all.2.2.2.1.1

theorem headRoom3 : HeadRoom3 cfg s [r1, r2, r3'] := all.2.2.2.1.2.1

/-- the checker of the C01KD schedule description rejects these rounds: the third hands over nothing -/
example : roundsSched3b 0 (fun _ => true) s [r1, r2, r3'] = false := all.2.2.2.1.2.2

theorem cut_ops : cutLen 0 s [r1, r2, r3'] = 2 ∧
    cutOps 0 s [r1, r2, r3'] = roundsOps 0 [r1, r2] ++ [SysOp.recvB 0, SysOp.recvB 0] := all.2.2.2.2.1

/-- **`k_round_delivery_single_closed4` applied with `k = 3`**: `4803 ≤ 3 * (3000 - 1200 + 1)` -/
theorem delivered4 : ∃ u, s.run (cutOps 0 s [r1, r2, r3']) = some u ∧ u.a.isDisconnected = false ∧
    u.b.isDisconnected = false ∧ u.submitted 0 = s.submitted 0 ∧ u.obtained 0 = s.submitted 0 :=
  k_round_delivery_single_closed4 cfg ops s run_s start.1 start.2.1 0 single0 sA find_sA rB find_rB start.2.2.1 (by decide)
    [r1, r2, r3'] roundsSched4 headRoom3 (by simp) (by rw [start.2.2.2.1]; decide)

example : (s.run (cutOps 0 s [r1, r2, r3'])).map (fun u => (u.obtained 0 == u.submitted 0, idleb 0 u)) =
    some (true, true) := all.2.2.2.2.2.1

/-- `k_round_delivery_closed4_stable` on that run followed by the ORIGINAL third round `r3` of `C01K.ExS` (A's ack
    packet to B and back) and a stale duplicate: still `obtained = submitted` -/
example : ∃ w, s.run (cutOps 0 s [r1, r2, r3'] ++ (C01K.ExS.r3.ops 0 ++ [SysOp.deliverToB 1])) = some w ∧
    w.submitted 0 = s.submitted 0 ∧ w.obtained 0 = s.submitted 0 := by
  obtain ⟨w, hw⟩ := Option.isSome_iff_exists.mp all.2.2.2.2.2.2.1
  refine ⟨w, hw, ?_⟩
  exact k_round_delivery_closed4_stable cfg ops s run_s start.1 start.2.1 0 (single_ordered single0) sA find_sA rB find_rB
    start.2.2.1 3000 (by decide) [r1, r2, r3']
    (roundsSched4_of_b (fun _ => of_decide_eq_true) _ _ all.2.2.2.1.1) headRoom3 (by simp)
    (by rw [start.2.2.2.1]; decide) _ (by
      intro op hop c m e
      rcases List.mem_append.mp hop with h | h
      · exact roundP_ops_nosend 0 _ op h c m e
      · subst e
        simp at h) w hw (all.2.2.2.2.2.2.2 w hw)

end ExS

/-! `C01K.ExU` — ReliableUnordered channel, reverse order, one datagram twice in round 2; round 3 hands over nothing -/
namespace ExU
open C01K.ExU

theorem delivered4 : ∃ u, s.run (cutOps 0 s [r1, r2, r3']) = some u ∧ u.a.isDisconnected = false ∧
    u.b.isDisconnected = false ∧ u.submitted 0 = s.submitted 0 ∧ (u.obtained 0).Perm (s.submitted 0) :=
  k_round_delivery_unordered_closed4 cfg ops s run_s start.1 start.2.1 0 unordered0 sA find_sA rB find_rB start.2.2.1 3000
    (by decide) [r1, r2, r3'] (roundsSched4_of_b (fun _ => of_decide_eq_true) _ _ all.2.2.1.1)
    all.2.2.1.2 (by simp) (by rw [start.2.2.2.1]; decide)

example : cutLen 0 s [r1, r2, r3'] = 2 := all.2.2.2.1

/-- `delivered_stable_unordered` after that run: a stale datagram is handed to B again and B's application asks once
    more — nothing further is obtained -/
example : ∃ u w, s.run (cutOps 0 s [r1, r2, r3']) = some u ∧ u.run [SysOp.deliverToB 1, SysOp.recvB 0] = some w ∧
    w.obtained 0 = u.obtained 0 ∧ (w.obtained 0).Perm (w.submitted 0) := by
  obtain ⟨u, hu, -, -, hsub, hp⟩ := delivered4
  obtain ⟨w, hw0⟩ := Option.isSome_iff_exists.mp all.2.2.2.2.1
  have hc := all.2.2.2.2.2 w hw0
  have hw : u.run [SysOp.deliverToB 1, SysOp.recvB 0] = some w := by
    rw [Sys.run_append, hu] at hw0
    simp only [Option.bind_some] at hw0
    exact hw0
  have hru : (Sys.init cfg).run (ops ++ cutOps 0 s [r1, r2, r3']) = some u := by
    -- `Option.bind_some` by `rw`: as a `simp` step it is a conversion the kernel checks by running `s.run …`
    rw [Sys.run_append, run_s, Option.bind_some]
    exact hu
  obtain ⟨-, h2, h3⟩ := delivered_stable_unordered cfg _ u hru 0 unordered0 (by rw [hsub]; exact hp) _ w hw
    (by intro op hop c m e; subst e; simp at hop) hc
  exact ⟨u, w, hu, hw, h2, h3⟩

end ExU

/-! `Ex0` — the FIRST round is idle.  A's 3-byte message has been flushed, handed to B and acknowledged (A's `unacked` is
    empty), but B's application has not asked for it: `obtained = []`, `submitted = [m0]`.  One round `⟨0, [], 1, 0⟩`
    (`1 * (3000 - 1200 + 1) ≥ 0`): the cut schedule is ONE `receive_message` call, and it delivers.  The fixed list of
    Props/C01K for the same parameters, run from the INITIAL state (nothing submitted, nothing to acknowledge), is
    undefined: B's flush emits nothing, there is no datagram 0 to hand to A. -/
namespace Ex0

def cfg : Cfg := ⟨3000, [⟨0, .ordered, 100000, 100⟩], [⟨0, .ordered, 100000, 100⟩]⟩
def m0 : Bytes := [1, 2, 3]
def ops : List SysOp := [.sendA 0 m0, .updA 1000, .flushA, .deliverToB 0, .flushB, .deliverToA 0]
def r : RoundP := ⟨0, [], 1, 0⟩
def s : Sys := ((Sys.init cfg).run ops).getD (Sys.init cfg)
def sA : SendRel := (SMap.find? s.a.sendRel 0).getD (SendRel.new 0 0 0)
def rB : RecvRel := (SMap.find? s.b.recvRel 0).getD (RecvRel.new 0 true)

/-- the state `s`: `ops` runs and both channels exist; both endpoints are live and B has room;
    A stores nothing while B's application has obtained nothing of the one submitted message, and the cut schedule of
    the round `r` is one `receive_message` call; the checkers of `RoundsSched4` and `HeadRoom3` accept `[r]` -/
theorem all :
    (((Sys.init cfg).run ops).isSome = true ∧ (SMap.find? s.a.sendRel 0).isSome = true ∧
      (SMap.find? s.b.recvRel 0).isSome = true) ∧
    (s.a.isDisconnected = false ∧ s.b.isDisconnected = false ∧ Room (s.submitted 0) rB) ∧
    (sA.unacked = [] ∧ backlog sA.unacked = 0 ∧ s.submitted 0 = [m0] ∧ s.obtained 0 = [] ∧
      cutOps 0 s [r] = [SysOp.recvB 0]) ∧
    roundsSched4b 0 (fun _ => true) s [r] = true ∧ HeadRoom3 cfg s [r] := by
  decide +kernel

theorem run_s : (Sys.init cfg).run ops = some s := some_getD all.1.1 _
theorem find_sA : SMap.find? s.a.sendRel 0 = some sA := some_getD all.1.2.1 _
theorem find_rB : SMap.find? s.b.recvRel 0 = some rB := some_getD all.1.2.2 _
theorem headRoom3 : HeadRoom3 cfg s [r] := all.2.2.2.2

theorem delivered : ∃ u, s.run (cutOps 0 s [r]) = some u ∧ u.a.isDisconnected = false ∧
    u.b.isDisconnected = false ∧ u.submitted 0 = s.submitted 0 ∧ u.obtained 0 = s.submitted 0 := by
  obtain ⟨-, ⟨hda, hdb, H3⟩, ⟨-, hk, -⟩, hRS, -⟩ := all
  exact k_round_delivery_single_closed4 cfg ops s run_s hda hdb 0 ⟨_, _, rfl⟩ sA find_sA rB find_rB H3 (by decide) [r]
    (roundsSched4_of_b (fun _ _ => trivial) _ _ hRS) headRoom3 (by simp) (by rw [hk]; decide)

example : ∃ u, s.run [SysOp.recvB 0] = some u ∧ u.a = s.a ∧ u.b.isDisconnected = false ∧
    u.submitted = s.submitted ∧ u.obtained 0 = s.submitted 0 := by
  obtain ⟨-, ⟨-, hdb, -⟩, ⟨h0, -, hsub, hobt, -⟩, -⟩ := all
  exact idle_delivers cfg ops s run_s headRoom3.sys hdb 0 (single_ordered ⟨_, _, rfl⟩) sA find_sA h0 1
    (by rw [hsub, hobt]; decide)

/-- the fixed operation list of one round with nothing to send and nothing to acknowledge does not run: the
    hypotheses of the cut theorem hold in the initial state (trivially: backlog 0), its schedule is empty -/
theorem fixed_list_undefined : (Sys.init cfg).run (roundsOps 0 [⟨1000, [], 0, 0⟩]) = none ∧
    cutOps 0 (Sys.init cfg) [⟨1000, [], 0, 0⟩] = [] ∧
    roundsSched4b 0 (fun _ => true) (Sys.init cfg) [⟨1000, [], 0, 0⟩] = true := by decide +kernel

end Ex0

end RenetVerif.C01KE
