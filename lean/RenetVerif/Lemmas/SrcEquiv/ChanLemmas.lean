/-
  Lemmas shared by the channel groups (SendUnrel, RecvUnrel, SendRel, RecvRel): key-sorted association lists
  (`RustSem.Map` of the generated code = `SMap` of the model), `div_ceil` / `slice` / `varint_len` of the semantic base
  against the model's `divCeil` / `drop`+`take` / `varintLen`.
-/
import RenetVerif.Lemmas.SrcEquiv.Prims
import RenetVerif.Lemmas.SMap
namespace RenetVerif.SrcEquiv
open RenetVerif RenetVerif.RustSem

def MSorted {α : Type} (m : SMap α) : Prop := (m.map (·.1)).Pairwise (· < ·)

theorem msorted_iff {α : Type} (m : SMap α) : MSorted m ↔ SMap.Sorted m := Iff.rfl

/-- a table with its values mapped (`Bytes` ↦ `List Nat`, model entry ↦ generated entry) -/
def mapVals {α β : Type} (f : α → β) (m : SMap α) : RustSem.Map β := m.map fun p => (p.1, f p.2)

/-! A table may be represented with a parameter that depends on the key (`ps`): `mapVals` is the case without one. -/

theorem find_map_keyed {α β π : Type} (F : π → α → β) (ps : Nat → π) (m : SMap α) (k : Nat) :
    RustSem.Map.find? (m.map fun q => (q.1, F (ps q.1) q.2)) k = (SMap.find? m k).map (F (ps k)) := by
  induction m with
  | nil => rfl
  | cons p r ih =>
    obtain ⟨k', v⟩ := p
    simp only [List.map_cons, RustSem.Map.find?, SMap.find?] at ih ⊢
    by_cases h : k' = k
    · subst h; simp
    · simp [h, ih]

theorem remove_map_keyed {α β π : Type} (F : π → α → β) (ps : Nat → π) (m : SMap α) (k : Nat) :
    RustSem.Map.remove (m.map fun q => (q.1, F (ps q.1) q.2)) k = (SMap.erase m k).map fun q => (q.1, F (ps q.1) q.2) := by
  induction m with
  | nil => rfl
  | cons p r ih =>
    obtain ⟨k', v⟩ := p
    simp only [List.map_cons, RustSem.Map.remove, SMap.erase] at ih ⊢
    by_cases h : k' = k
    · simp [h]
    · simp [h, ih]

theorem insert_map_keyed {α β π : Type} (F : π → α → β) (ps : Nat → π) (m : SMap α) (k : Nat) (p : π) (v : α)
    (hs : MSorted m) :
    RustSem.Map.insert (m.map fun q => (q.1, F (ps q.1) q.2)) k (F p v) =
      (SMap.insert m k v).map fun q => (q.1, F (if q.1 = k then p else ps q.1) q.2) := by
  have hcongr : ∀ l : SMap α, (∀ q ∈ l, k < q.1) →
      (l.map fun q => (q.1, F (ps q.1) q.2)) = l.map fun q => (q.1, F (if q.1 = k then p else ps q.1) q.2) :=
    fun l hl => List.map_congr_left fun q hq => by rw [if_neg (Nat.ne_of_gt (hl q hq))]
  induction m with
  | nil => simp [RustSem.Map.insert, SMap.insert]
  | cons q rest ih =>
    obtain ⟨k', v'⟩ := q
    simp only [MSorted, List.map_cons, List.pairwise_cons] at hs
    have hrest : ∀ q ∈ rest, k' < q.1 := fun q hq => hs.1 q.1 (List.mem_map_of_mem hq)
    simp only [List.map_cons, RustSem.Map.insert, SMap.insert]
    by_cases h1 : k < k'
    · simp [h1, hcongr rest fun q hq => Nat.lt_trans h1 (hrest q hq), Nat.ne_of_gt h1]
    · by_cases h2 : k = k'
      · subst h2
        simp [hcongr rest hrest]
      · simp [h1, h2, ih hs.2, Ne.symm h2]

theorem find_mapVals {α β : Type} (f : α → β) (m : SMap α) (k : Nat) :
    RustSem.Map.find? (mapVals f m) k = (SMap.find? m k).map f :=
  find_map_keyed (fun _ : Unit => f) (fun _ => ()) m k

theorem contains_mapVals {α β : Type} (f : α → β) (m : SMap α) (k : Nat) :
    RustSem.Map.contains_key (mapVals f m) k = SMap.contains m k := by
  simp [RustSem.Map.contains_key, SMap.contains, find_mapVals]

theorem insert_mapVals {α β : Type} (f : α → β) (m : SMap α) (k : Nat) (v : α) :
    RustSem.Map.insert (mapVals f m) k (f v) = mapVals f (SMap.insert m k v) := by
  induction m with
  | nil => rfl
  | cons p r ih =>
    obtain ⟨k', v'⟩ := p
    simp only [mapVals, List.map_cons, RustSem.Map.insert, SMap.insert] at ih ⊢
    by_cases h1 : k < k'
    · simp [h1]
    · by_cases h2 : k = k'
      · simp [h2]
      · simp [h1, h2, ih]

theorem remove_mapVals {α β : Type} (f : α → β) (m : SMap α) (k : Nat) :
    RustSem.Map.remove (mapVals f m) k = mapVals f (SMap.erase m k) :=
  remove_map_keyed (fun _ : Unit => f) (fun _ => ()) m k

theorem mapVals_id {α : Type} (m : SMap α) : mapVals id m = m := by
  simp [mapVals]

theorem map_insert_eq {α : Type} (m : SMap α) (k : Nat) (v : α) : RustSem.Map.insert m k v = SMap.insert m k v := by
  have h := insert_mapVals id m k v
  rw [mapVals_id, mapVals_id] at h
  exact h
theorem map_remove_eq {α : Type} (m : SMap α) (k : Nat) : RustSem.Map.remove m k = SMap.erase m k := by
  have h := remove_mapVals id m k
  rw [mapVals_id, mapVals_id] at h
  exact h
theorem map_find_eq {α : Type} (m : SMap α) (k : Nat) : RustSem.Map.find? m k = SMap.find? m k := by
  have h := find_mapVals id m k
  rw [mapVals_id, Option.map_id] at h
  exact h

/-- the `BTreeSet` holding the elements of a list -/
def setOf (l : List Nat) : RustSem.Set := l.foldr (fun x acc => RustSem.Set.insert acc x) []

def SSorted (s : RustSem.Set) : Prop := s.Pairwise (· < ·)

theorem mem_set_insert (s : RustSem.Set) (x y : Nat) : y ∈ RustSem.Set.insert s x ↔ y = x ∨ y ∈ s := by
  induction s with
  | nil => simp [RustSem.Set.insert]
  | cons z t ih =>
    simp only [RustSem.Set.insert]
    split
    · simp
    · split
      · rename_i h; subst h; simp
      · simp only [List.mem_cons, ih]
        constructor
        · rintro (h | h | h) <;> simp [h]
        · rintro (h | h | h) <;> simp [h]

theorem sorted_set_insert (s : RustSem.Set) (x : Nat) (hs : SSorted s) : SSorted (RustSem.Set.insert s x) := by
  induction s with
  | nil => simp [RustSem.Set.insert, SSorted]
  | cons z t ih =>
    simp only [SSorted, List.pairwise_cons] at hs
    simp only [RustSem.Set.insert]
    split
    · rename_i h
      simp only [SSorted, List.pairwise_cons, List.mem_cons]
      refine ⟨?_, hs⟩
      rintro a (rfl | ha)
      · exact h
      · exact Nat.lt_trans h (hs.1 a ha)
    · split
      · simpa [SSorted] using hs
      · rename_i h1 h2
        simp only [SSorted, List.pairwise_cons]
        refine ⟨?_, ih hs.2⟩
        intro a ha
        rcases (mem_set_insert t x a).mp ha with rfl | ha
        · omega
        · exact hs.1 a ha

theorem sorted_setOf (l : List Nat) : SSorted (setOf l) := by
  induction l with
  | nil => simp [setOf, SSorted]
  | cons x r ih => exact sorted_set_insert _ _ ih

theorem mem_setOf (l : List Nat) (y : Nat) : y ∈ setOf l ↔ y ∈ l := by
  induction l with
  | nil => simp [setOf]
  | cons x r ih =>
    show y ∈ RustSem.Set.insert (setOf r) x ↔ _
    rw [mem_set_insert, ih]; simp

theorem contains_setOf (l : List Nat) (x : Nat) : RustSem.Set.contains (setOf l) x = l.contains x := by
  have h := mem_setOf l x
  simp only [RustSem.Set.contains]
  cases h1 : List.elem x (setOf l) <;> cases h2 : l.contains x <;> simp_all

theorem set_insert_lt_all (t : RustSem.Set) (x : Nat) (h : ∀ z ∈ t, x < z) : RustSem.Set.insert t x = x :: t := by
  cases t with
  | nil => rfl
  | cons z r => simp [RustSem.Set.insert, h z (by simp)]

theorem set_remove_insert_self (s : RustSem.Set) (x : Nat) (h : x ∉ s) :
    RustSem.Set.remove (RustSem.Set.insert s x) x = s := by
  induction s with
  | nil => simp [RustSem.Set.insert, RustSem.Set.remove]
  | cons z t ih =>
    simp only [List.mem_cons, not_or] at h
    simp only [RustSem.Set.insert]
    split
    · simp [RustSem.Set.remove]
    · split
      · rename_i h2; exact absurd h2 h.1
      · simp only [RustSem.Set.remove]
        rw [if_neg (fun e => h.1 e.symm), ih h.2]

theorem set_remove_insert_ne (s : RustSem.Set) (x o : Nat) (hs : SSorted s) (hne : x ≠ o) :
    RustSem.Set.remove (RustSem.Set.insert s x) o = RustSem.Set.insert (RustSem.Set.remove s o) x := by
  induction s with
  | nil => simp [RustSem.Set.insert, RustSem.Set.remove, hne]
  | cons z t ih =>
    simp only [SSorted, List.pairwise_cons] at hs
    simp only [RustSem.Set.insert]
    split
    · rename_i hlt
      simp only [RustSem.Set.remove, if_neg hne]
      by_cases hz : z = o
      · rw [if_pos hz, set_insert_lt_all t x (fun a ha => Nat.lt_trans hlt (hs.1 a ha))]
      · rw [if_neg hz]; simp [RustSem.Set.insert, hlt]
    · split
      · rename_i h1 h2
        subst h2
        simp only [RustSem.Set.remove, if_neg hne]
        simp [RustSem.Set.insert]
      · rename_i h1 h2
        simp only [RustSem.Set.remove]
        by_cases hz : z = o
        · rw [if_pos hz, if_pos hz]
        · rw [if_neg hz, if_neg hz, ih hs.2]
          simp [RustSem.Set.insert, h1, h2]

theorem remove_setOf (l : List Nat) (o : Nat) (hn : l.Nodup) :
    RustSem.Set.remove (setOf l) o = setOf (l.erase o) := by
  induction l with
  | nil => rfl
  | cons x r ih =>
    simp only [List.nodup_cons] at hn
    show RustSem.Set.remove (RustSem.Set.insert (setOf r) x) o = _
    by_cases hx : x = o
    · subst hx
      rw [List.erase_cons_head, set_remove_insert_self _ _ (fun h => hn.1 ((mem_setOf r x).mp h))]
    · rw [List.erase_cons_tail (by simpa using hx), set_remove_insert_ne _ _ _ (sorted_setOf r) hx, ih hn.2]
      rfl

theorem length_set_insert_le (s : RustSem.Set) (x : Nat) : (RustSem.Set.insert s x).length ≤ s.length + 1 := by
  induction s with
  | nil => simp [RustSem.Set.insert]
  | cons z t ih =>
    simp only [RustSem.Set.insert]
    split
    · simp
    · split
      · simp
      · simp only [List.length_cons]; omega

theorem length_setOf_le (l : List Nat) : (setOf l).length ≤ l.length := by
  induction l with
  | nil => simp [setOf]
  | cons x r ih =>
    have := length_set_insert_le (setOf r) x
    show (RustSem.Set.insert (setOf r) x).length ≤ _
    simp only [List.length_cons]; omega

theorem length_set_insert_new (s : RustSem.Set) (x : Nat) (h : x ∉ s) : (RustSem.Set.insert s x).length = s.length + 1 := by
  induction s with
  | nil => simp [RustSem.Set.insert]
  | cons z t ih =>
    simp only [List.mem_cons, not_or] at h
    simp only [RustSem.Set.insert]
    split
    · simp
    · split
      · rename_i h2; exact absurd h2 h.1
      · simp only [List.length_cons, ih h.2]

theorem length_setOf (l : List Nat) (hn : l.Nodup) : (setOf l).length = l.length := by
  induction l with
  | nil => simp [setOf]
  | cons x r ih =>
    simp only [List.nodup_cons] at hn
    show (RustSem.Set.insert (setOf r) x).length = _
    rw [length_set_insert_new _ _ (fun h => hn.1 ((mem_setOf r x).mp h)), ih hn.2]; simp

theorem varintLen_le (v : Nat) : varintLen v ≤ 8 := by
  simp only [varintLen, Varint.len?, apply_ite (fun o => Option.getD o 8 ≤ 8), Option.getD_some, Option.getD_none,
    Nat.reduceLeDiff, Nat.le_refl, ite_self]

theorem divCeil_pos {a : Nat} (h : a > C.SLICE_SIZE) : 1 ≤ divCeil a C.SLICE_SIZE := by
  unfold divCeil
  simp only [C.SLICE_SIZE] at *
  omega

theorem div_ceil_1200 {ε ρ : Type} (a : Nat) (site : String) :
    (RustSem.div_ceil 64 a C.SLICE_SIZE site : Exec ε ρ Nat) = .val (divCeil a C.SLICE_SIZE) := by
  unfold RustSem.div_ceil divCeil
  rw [show C.SLICE_SIZE = 1200 from rfl, if_neg (by decide)]
  congr 1
  by_cases h : a % 1200 > 0
  · rw [if_pos h]; omega
  · rw [if_neg h]; omega

theorem slice_toNats {ε ρ : Type} (m : Bytes) (a b : Nat) (site : String) (hab : a ≤ b) (hb : b ≤ m.length) :
    (RustSem.slice (toNats m) a b site : Exec ε ρ (List Nat)) = .val (toNats ((m.drop a).take (b - a))) := by
  unfold RustSem.slice
  rw [if_pos ⟨hab, by rw [toNats_length]; exact hb⟩]
  congr 1
  simp only [toNats, List.map_take, List.map_drop, List.drop_take]

theorem varint_len_eq {ε : Type} (v : Nat) (h : v ≤ Varint.MAX) : (RustSem.varint_len v : Res ε Nat) = .ok (varintLen v) := by
  have h' : v ≤ 4611686018427387903 := h
  simp only [RustSem.varint_len, varintLen, Varint.len?, if_pos h, if_pos h', apply_ite (Option.getD · 8),
    apply_ite (Res.ok (ε := ε)), Option.getD_some]

end RenetVerif.SrcEquiv
