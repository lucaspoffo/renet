/-
  A. replay protection: generated `ReplayProtection` agrees with `Netcode.RP` (headline statements in
  `Props/SrcTieReplay.lean`).
-/
import RenetVerif.Generated.Src.Replay
import RenetVerif.Lemmas.SrcEquiv.Prims
namespace RenetVerif.SrcEquiv
open RenetVerif RenetVerif.RustSem

section A
open Netcode
open Src.renetcode.replay_protection

def reprRP (rp : RP) : ReplayProtection := ⟨rp.mostRecent, rp.received.toList⟩

theorem reprRP_get (rp : RP) (s : Nat) : (reprRP rp).received_packet[s % 256]? = some (rp.at s) := by
  simp [reprRP, RP.at]

theorem rp_new_eq {ε} : (ReplayProtection.new : Res ε _) = .ok (reprRP RP.new) := by
  unfold ReplayProtection.new
  simp only [Exec.pure_eq, Exec.run_val]
  rfl

theorem already_received_eq {ε} (rp : RP) (s : Nat) (hs : s < 2 ^ 64) :
    (ReplayProtection.already_received (reprRP rp) s : Res ε Bool) = .ok (rp.alreadyReceived s) := by
  unfold ReplayProtection.already_received
  simp only [NETCODE_REPLAY_BUFFER_SIZE, cast_of_lt hs, cast_of_lt (show 256 < 2 ^ 64 by decide),
    rem_val (show 256 ≠ 0 by decide), Exec.bind_val, index_val (reprRP_get rp s), Exec.pure_eq,
    RP.alreadyReceived, RP.alreadyReceived.U64, RustSem.checked_add]
  have hm : (reprRP rp).most_recent_sequence = rp.mostRecent := rfl
  rw [hm]
  generalize rp.at s = v
  generalize rp.mostRecent = m
  by_cases hw : s + 256 < 2 ^ 64 ∧ s + 256 ≤ m
  · have hw' : s + 256 ≤ 2 ^ 64 - 1 := by omega
    simp only [hw.1, hw.2, hw', and_self, decide_true, if_true, Exec.bind_ret, Exec.run_ret]
  · -- the window test falls through (`checked_add` overflows or its comparison fails); the two early returns that follow
    -- are the model's two tests (`Exec.run_guard`), `EMPTY` being the model's `EMPTY` by `rfl`
    have h2 : s + 256 < 2 ^ 64 → ¬ s + 256 ≤ m := fun a b => hw ⟨a, b⟩
    have hw' : ¬ (s + 256 ≤ 2 ^ 64 - 1 ∧ s + 256 ≤ m) := fun h => hw ⟨by omega, h.2⟩
    by_cases h1 : s + 256 < 2 ^ 64 <;>
      simp only [h1, h2, hw', decide_false, Bool.false_eq_true, if_true, if_false, Exec.bind_val, Exec.run_guard,
        Exec.run_val, and_false, decide_eq_true_eq, apply_ite Res.ok] <;>
      rfl

theorem advance_sequence_eq {ε} (rp : RP) (s : Nat) (hs : s < 2 ^ 64) :
    (ReplayProtection.advance_sequence (reprRP rp) s : Res ε _) = .ok (reprRP (rp.advance s), ()) := by
  unfold ReplayProtection.advance_sequence
  have hlen : s % 256 < rp.received.toList.length := by
    simp; exact Nat.mod_lt _ (by decide)
  simp only [NETCODE_REPLAY_BUFFER_SIZE, cast_of_lt hs, rem_val (show 256 ≠ 0 by decide), Exec.pure_eq, reprRP,
    Exec.bind_val]
  by_cases h : s > rp.mostRecent
  · simp only [h, decide_true, if_true, Exec.bind_val, set_val hlen, Exec.run_val, RP.advance, Vector.toList_set]
  · simp only [h, decide_false, Bool.false_eq_true, if_false, Exec.bind_val, set_val hlen, Exec.run_val, RP.advance, Vector.toList_set]

/-- well-formed source state: the `[u64; 256]` array has its 256 entries -/
def WfRP (st : ReplayProtection) : Prop := st.received_packet.length = 256
instance (st : ReplayProtection) : Decidable (WfRP st) := by unfold WfRP; infer_instance

def absRP (st : ReplayProtection) (h : WfRP st) : RP :=
  ⟨st.most_recent_sequence, ⟨st.received_packet.toArray, by simpa [WfRP] using h⟩⟩

theorem wf_reprRP (rp : RP) : WfRP (reprRP rp) := by simp [WfRP, reprRP]
theorem reprRP_absRP (st : ReplayProtection) (h : WfRP st) : reprRP (absRP st h) = st := by
  cases st; simp [reprRP, absRP]
theorem absRP_reprRP (rp : RP) (h : WfRP (reprRP rp)) : absRP (reprRP rp) h = rp := by
  obtain ⟨m, ⟨a, ha⟩⟩ := rp; simp [reprRP, absRP]
end A

end RenetVerif.SrcEquiv
