/-
  SEAL-RECORD INSTRUMENTATION OVER THE GENERATED `NetcodeServer` (C17, nonces), and its agreement with the model
  instrumentation `NcAead.Sv.sstep` along simulated runs.

  `gEv g op r g'` reads the ghost seal events of ONE generated call off the generated struct before the call (`g`), the
  `ServerResult` the generated function returned (`r`) and the generated struct after the call (`g'`):
    * a `PacketToSend` answer of `process_packet` (Challenge / Denied) was sealed with `g.global_sequence`;
    * the keep-alive inside `ClientConnected` was sealed for the slot `g.clients.iter().position(is_none)` with the new
      connection's `send_key` and `sequence - 1` (read off `g'.clients[i]`);
    * keep-alive / payload / disconnect datagrams of client `id` were sealed with `g.clients[i].send_key` and
      `g.clients[i].sequence`, `i` = generated `find_client_slot_by_id(&g.clients, id)`.
  This mirrors `Sv.sstep` clause by clause (`mEv` is `Sv.sstep` rewritten as a function of (state, op, result, state'):
  `sstep_eq`).  `gstep` / `gtrace` / `gsessLog` / `ghsSeqs` are the generated-side `sstep` / `strace` / `sessLog` /
  `hsSeqs`; `gstep_sim`, `gtrace_sim`, `gsessLog_sim` lift the agreement through the simulation `step_sim`.
-/
import RenetVerif.Lemmas.SrcEquiv.SrcNcSystem
import RenetVerif.Lemmas.NcAead
namespace RenetVerif.SrcNcSeal
open RenetVerif RenetVerif.SrcEquiv RenetVerif.RustSem RenetVerif.Netcode RenetVerif.Netcode.NS RenetVerif.SrcNcSystem
open RenetVerif.NcAead
open Src.renetcode.server

/-- `NS.Op` (the ops of `GNc` / `NS.step`) and `Sv.SOp` (the ops of the instrumented semantics) are the same type -/
def ofOp : Op → Sv.SOp
  | .packet addr buf => .recv addr buf
  | .update d => .tick d
  | .updateClient id => .updateClient id
  | .disconnect id => .disconnect id
  | .setMaxClients n => .setMax n
  | .sendPayload id p => .send id p

def toOp : Sv.SOp → Op
  | .recv addr buf => .packet addr buf
  | .tick d => .update d
  | .updateClient id => .updateClient id
  | .disconnect id => .disconnect id
  | .setMax n => .setMaxClients n
  | .send id p => .sendPayload id p

theorem toOp_ofOp (op : Op) : toOp (ofOp op) = op := by cases op <;> rfl
theorem ofOp_toOp (op : Sv.SOp) : ofOp (toOp op) = op := by cases op <;> rfl

def mEv (s : Netcode.NetcodeServer) (op : Op) (r : Netcode.ServerResult) (s' : Netcode.NetcodeServer) : List Sv.SEv :=
  match op with
  | .packet _ _ =>
    match r with
    | .packetToSend _ out => [.hs s.globalSequence out]
    | .clientConnected _ _ _ out =>
      match firstFreeSlot s.clients with
      | some i =>
        match s'.clients.getD i none with
        | some cl' => [.sess i (sealOf (.keepAlive (i % 2 ^ 32) (s.maxClients % 2 ^ 32)) s.protocolId
                                  (cl'.sequence - 1) cl'.sendKey) out]
        | none => []
      | none => []
    | _ => []
  | .updateClient cid =>
    match r with
    | .packetToSend _ out =>
      match findClientSlotById s.clients cid with
      | some i => Sv.sessEv s cid (.keepAlive (i % 2 ^ 32) (s.maxClients % 2 ^ 32)) out
      | none => []
    | .clientDisconnected _ _ (some out) => Sv.sessEv s cid .disconnect out
    | _ => []
  | .sendPayload cid pl =>
    match r with
    | .packetToSend _ out => Sv.sessEv s cid (.payload pl) out
    | _ => []
  | .disconnect cid =>
    match r with
    | .clientDisconnected _ _ (some out) => Sv.sessEv s cid .disconnect out
    | _ => []
  | _ => []

theorem sstep_eq (a : AEAD) (s : Netcode.NetcodeServer) (op : Op) :
    Sv.sstep a s (ofOp op) = (NS.step a s op).map (fun x => (x.2, mEv s op x.1 x.2)) := by
  cases op with
  | packet addr buf =>
    simp only [ofOp, Sv.sstep, NS.step]
    rcases s.processPacket a addr buf with ⟨res, s'⟩ | e | m
    · cases res <;> rfl
    · exact nomatch e
    · rfl
  | update d =>
    simp only [ofOp, Sv.sstep, NS.step]
    rcases s.update d with s' | e | m
    · rfl
    · exact nomatch e
    · rfl
  | updateClient id =>
    simp only [ofOp, Sv.sstep, NS.step]
    rcases s.updateClient a id with ⟨res, s'⟩ | e | m
    · cases res with
      | clientDisconnected i ad o => cases o <;> rfl
      | _ => rfl
    · exact nomatch e
    · rfl
  | disconnect id =>
    simp only [ofOp, Sv.sstep, NS.step]
    rcases s.disconnect a id with ⟨res, s'⟩ | e | m
    · cases res with
      | clientDisconnected i ad o => cases o <;> rfl
      | _ => rfl
    · exact nomatch e
    · rfl
  | setMaxClients n => rfl
  | sendPayload id p =>
    simp only [ofOp, Sv.sstep, NS.step]
    rcases s.generatePayloadPacket a id p with ⟨⟨ad, out⟩, s'⟩ | e | m <;> rfl

/-- a seal record as far as the nonce discipline goes: the key and the sequence number (= nonce) -/
structure GSeal where
  key : List Nat
  seq : Nat
  deriving DecidableEq, Repr

/-- ghost events over the generated code: one per sealed datagram a generated call returned -/
inductive GEv where
  /-- handshake reply (Challenge / Denied) sealed with the server-wide `global_sequence` -/
  | hs (seq : Nat) (out : List Nat)
  /-- datagram of the session in `slot`: key = `clients[slot].send_key`, seq = `clients[slot].sequence` at the call -/
  | sess (slot : Nat) (r : GSeal) (out : List Nat)
  deriving DecidableEq, Repr

def GEv.out : GEv → List Nat
  | .hs _ out => out
  | .sess _ _ out => out

def reprRec (r : SealRec) : GSeal := ⟨toNats r.key, r.seq⟩

def reprEv : Sv.SEv → GEv
  | .hs q out => .hs q (toNats out)
  | .sess i r out => .sess i (reprRec r) (toNats out)

def gSessEv (g : SNetcodeServer) (id : Nat) (out : List Nat) : List GEv :=
  match (find_client_slot_by_id g.clients id : Res Empty _) with
  | .ok (some i) =>
    match g.clients.getD i none with
    | some cl => [.sess i ⟨cl.send_key, cl.sequence⟩ out]
    | none => []
  | _ => []

def gEv (g : SNetcodeServer) (op : Op) (r : SServerResult) (g' : SNetcodeServer) : List GEv :=
  match op with
  | .packet _ _ =>
    match r with
    | .PacketToSend _ out => [.hs g.global_sequence out]
    | .ClientConnected _ _ _ out =>
      match List.findIdx? (fun c : Option SConnection => c.isNone) g.clients with
      | some i =>
        match g'.clients.getD i none with
        | some cl' => [.sess i ⟨cl'.send_key, cl'.sequence - 1⟩ out]
        | none => []
      | none => []
    | _ => []
  | .updateClient cid =>
    match r with
    | .PacketToSend _ out => gSessEv g cid out
    | .ClientDisconnected _ _ (some out) => gSessEv g cid out
    | _ => []
  | .sendPayload cid _ =>
    match r with
    | .PacketToSend _ out => gSessEv g cid out
    | _ => []
  | .disconnect cid =>
    match r with
    | .ClientDisconnected _ _ (some out) => gSessEv g cid out
    | _ => []
  | _ => []

def gsv (g : SNetcodeServer) (i : Nat) : Option (List Nat × Nat) :=
  (g.clients.getD i none).map fun c => (c.send_key, c.sequence)

theorem getD_map_repr (l : List (Option Netcode.Connection)) (i : Nat) :
    (l.map (Option.map reprNConn)).getD i none = (l.getD i none).map reprNConn := by
  simp only [List.getD_eq_getElem?_getD, List.getElem?_map]
  cases l[i]? <;> rfl

theorem gsv_repr (out : List Nat) (s : Netcode.NetcodeServer) (i : Nat) :
    gsv (reprNS out s) i = (Sv.sv s i).map (fun p => (toNats p.1, p.2)) := by
  simp only [gsv, Sv.sv, reprNS, getD_map_repr]
  cases s.clients.getD i none <;> rfl

theorem gSessEv_repr (o : List Nat) (s : Netcode.NetcodeServer) (id : Nat) (p : Netcode.Packet) (out : Bytes) :
    gSessEv (reprNS o s) id (toNats out) = (Sv.sessEv s id p out).map reprEv := by
  simp only [gSessEv, Sv.sessEv, reprNS, SrcTie.nc_find_client_slot_by_id, getD_map_repr]
  cases findClientSlotById s.clients id with
  | none => rfl
  | some i =>
    simp only
    cases s.clients.getD i none <;> rfl

theorem gEv_repr (o o' : List Nat) (s s' : Netcode.NetcodeServer) (op : Op) (r : Netcode.ServerResult) :
    gEv (reprNS o s) op (reprNSR r) (reprNS o' s') = (mEv s op r s').map reprEv := by
  cases op with
  | packet addr buf =>
    cases r with
    | packetToSend ad out => rfl
    | clientConnected id ad ud out =>
      simp only [gEv, mEv, reprNSR]
      have : (reprNS o s).clients = s.clients.map (Option.map reprNConn) := rfl
      rw [this, find_free_eq]
      cases firstFreeSlot s.clients with
      | none => rfl
      | some i =>
        simp only
        have : (reprNS o' s').clients = s'.clients.map (Option.map reprNConn) := rfl
        rw [this, getD_map_repr]
        cases s'.clients.getD i none <;> rfl
    | _ => rfl
  | update d => rfl
  | setMaxClients n => rfl
  | updateClient id =>
    cases r with
    | packetToSend ad out =>
      simp only [gEv, mEv, reprNSR]
      cases hf : findClientSlotById s.clients id with
      | none =>
        simp only [gSessEv, reprNS, SrcTie.nc_find_client_slot_by_id, hf]
        rfl
      | some i => exact gSessEv_repr o s id _ out
    | clientDisconnected i ad oo =>
      cases oo with
      | none => rfl
      | some out => exact gSessEv_repr o s id _ out
    | _ => rfl
  | disconnect id =>
    cases r with
    | clientDisconnected i ad oo =>
      cases oo with
      | none => rfl
      | some out => exact gSessEv_repr o s id _ out
    | _ => rfl
  | sendPayload id p =>
    cases r with
    | packetToSend ad out => exact gSessEv_repr o s id _ out
    | _ => rfl

def lastRes (g : GNc) : SServerResult := g.results.getLast?.getD .None

/-- one generated call (`GNc.step`: through the generated functions only) with its ghost events; `none` = it panicked -/
def gstep (a : AEAD) (g : GNc) (op : Op) : Option (GNc × List GEv) :=
  (g.step a op).map fun g' => (g', gEv g.srv op (lastRes g') g'.srv)

def gtrace (a : AEAD) : GNc → List Op → List GEv
  | _, [] => []
  | g, op :: ops =>
    match gstep a g op with
    | none => []
    | some (g', evs) => evs ++ gtrace a g' ops

def ghsSeqs : List GEv → List Nat
  | [] => []
  | .hs seq _ :: r => seq :: ghsSeqs r
  | .sess _ _ _ :: r => ghsSeqs r

def gsessRecs (i : Nat) : List GEv → List GSeal
  | [] => []
  | .hs _ _ :: r => gsessRecs i r
  | .sess j sr _ :: r => if j = i then sr :: gsessRecs i r else gsessRecs i r

/-- the seal records of slot `i` of a generated run while the session that occupies it lives (`Sv.sessLog`): the log is cut
    when the generated `clients[i]` becomes `None` -/
def gsessLog (a : AEAD) (i : Nat) : GNc → List Op → List GSeal
  | _, [] => []
  | g, op :: ops =>
    match gstep a g op with
    | none => []
    | some (g', evs) => gsessRecs i evs ++ (if (gsv g'.srv i).isSome then gsessLog a i g' ops else [])

theorem ghsSeqs_repr (l : List Sv.SEv) : ghsSeqs (l.map reprEv) = Sv.hsSeqs l := by
  induction l with
  | nil => rfl
  | cons x tl ih => cases x <;> simp [reprEv, ghsSeqs, Sv.hsSeqs, ih]

theorem gsessRecs_repr (i : Nat) (l : List Sv.SEv) : gsessRecs i (l.map reprEv) = (Sv.sessRecs i l).map reprRec := by
  induction l with
  | nil => rfl
  | cons x tl ih =>
    cases x with
    | hs q out => simpa [reprEv, gsessRecs, Sv.sessRecs] using ih
    | sess j r out =>
      by_cases h : j = i <;> simp [reprEv, gsessRecs, Sv.sessRecs, h, ih]

theorem gstep_sim (a : AEAD) (hl : a.Laws) {m : MNc} {g : GNc} (hi : ServerInv m.srv) (hsim : SimNc m g) (op : Op)
    (hop : OpInRange op) :
    match Sv.sstep a m.srv (ofOp op) with
    | some (s', evs) => ∃ m' g', m'.srv = s' ∧ m.step a op = some m' ∧ gstep a g op = some (g', evs.map reprEv) ∧ SimNc m' g'
    | none => gstep a g op = none ∧ m.step a op = none := by
  have hs := step_sim a hl hi hsim op hop
  rw [sstep_eq]
  unfold MNc.step at hs ⊢
  cases hn : NS.step a m.srv op with
  | none =>
    rw [hn] at hs
    simp only [Option.map_none, gstep, hs, and_self]
  | some x =>
    obtain ⟨r, s'⟩ := x
    rw [hn] at hs
    obtain ⟨g', hg, hsim'⟩ := hs
    simp only [Option.map_some]
    refine ⟨_, g', rfl, rfl, ?_, hsim'⟩
    obtain ⟨o, _, e⟩ := hsim.srv
    obtain ⟨o', _, e'⟩ := hsim'.srv
    have hr : lastRes g' = reprNSR r := by
      simp only [lastRes, hsim'.results, List.map_append, List.map_cons, List.map_nil, List.getLast?_concat, Option.getD_some]
    simp only [gstep, hg, Option.map_some, hr, e, e']
    rw [gEv_repr]

theorem gtrace_sim (a : AEAD) (hl : a.Laws) : ∀ (ops : List Op) (m : MNc) (g : GNc), ServerInv m.srv → SimNc m g →
    OpsInRange ops → gtrace a g ops = (Sv.strace a m.srv (ops.map ofOp)).map reprEv := by
  intro ops
  induction ops with
  | nil => intro m g _ _ _; rfl
  | cons op ops ih =>
    intro m g hi hsim hr
    have h1 := gstep_sim a hl hi hsim op (hr op List.mem_cons_self)
    simp only [gtrace, List.map_cons, Sv.strace]
    cases hs : Sv.sstep a m.srv (ofOp op) with
    | none =>
      rw [hs] at h1
      simp only [h1.1, List.map_nil]
    | some x =>
      obtain ⟨s', evs⟩ := x
      rw [hs] at h1
      obtain ⟨m', g', rfl, hm, hg, hsim'⟩ := h1
      simp only [hg, List.map_append]
      rw [ih m' g' (inv_mstep hi hm) hsim' (fun o ho => hr o (List.mem_cons_of_mem _ ho))]

theorem gsessLog_sim (a : AEAD) (hl : a.Laws) (i : Nat) : ∀ (ops : List Op) (m : MNc) (g : GNc), ServerInv m.srv →
    SimNc m g → OpsInRange ops → gsessLog a i g ops = (Sv.sessLog a i m.srv (ops.map ofOp)).map reprRec := by
  intro ops
  induction ops with
  | nil => intro m g _ _ _; rfl
  | cons op ops ih =>
    intro m g hi hsim hr
    have h1 := gstep_sim a hl hi hsim op (hr op List.mem_cons_self)
    simp only [gsessLog, List.map_cons, Sv.sessLog]
    cases hs : Sv.sstep a m.srv (ofOp op) with
    | none =>
      rw [hs] at h1
      simp only [h1.1, List.map_nil]
    | some x =>
      obtain ⟨s', evs⟩ := x
      rw [hs] at h1
      obtain ⟨m', g', rfl, hm, hg, hsim'⟩ := h1
      obtain ⟨o', _, e'⟩ := hsim'.srv
      simp only [hg, List.map_append, gsessRecs_repr]
      congr 1
      rw [e', gsv_repr, Option.isSome_map]
      split
      · exact ih m' g' (inv_mstep hi hm) hsim' (fun o ho => hr o (List.mem_cons_of_mem _ ho))
      · rfl

theorem mrun_srun (a : AEAD) : ∀ (ops : List Op) (m m' : MNc), m.run a ops = some m' →
    Sv.srun a m.srv (ops.map ofOp) = some m'.srv := by
  intro ops
  induction ops with
  | nil => intro m m' h; cases h; rfl
  | cons op ops ih =>
    intro m m' h
    simp only [MNc.run] at h
    cases hs : m.step a op with
    | none => rw [hs] at h; cases h
    | some m1 =>
      rw [hs] at h
      obtain ⟨r, hn, -, -⟩ := mstep_inv hs
      simp only [List.map_cons, Sv.srun, sstep_eq, hn]
      exact ih m1 m' h

end RenetVerif.SrcNcSeal
