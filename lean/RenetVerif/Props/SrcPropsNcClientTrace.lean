/-
  WHOLE-TRACE theorems on the GENERATED netcode client (`Generated/Src/NcClient.lean`, translated from `renetcode/src/client.rs`).
  Every theorem has a GENERATED RUN in its hypotheses (`GNcC.exec` / `GNcC.run`, `Lemmas/SrcEquiv/SrcNcClientSystem.lean`: the
  generated `NetcodeClient::new`, then generated `update` / `process_packet` / `generate_payload_packet` / `disconnect` calls with
  ARBITRARY arguments) and concludes about what `Lemmas/SrcEquiv/SrcNcClientSeal.lean` reads off the generated results log
  `GNcC.outs` and the generated struct.  The hand model occurs only inside the proofs (`gsurf_sim`, `gclog_sim`).

    (1) C04 `payloads_at_most_once`   the payloads the generated `process_packet` surfaced along a whole generated run from `new`
                                      stem from pairwise distinct sequence numbers; each is the plaintext its own datagram opens
                                      to, as a `Payload` packet, under the token's server-to-client key; the generated struct's
                                      `replay_protection` is the representation of the `Recv.run` window of exactly the datagrams
                                      handed to `process_packet`, which satisfies `RP.Inv window accepted`; and the GENERATED
                                      `ReplayProtection::already_received` on that window returns `true` for every sequence number
                                      whose payload surfaced.   (Transports `C04C.client_new_payloads_at_most_once`,
                                      `C04C.client_surfaced_rejected_after`.)
    (2) C17 `client_nonces_strict`    the datagrams the generated client seals along a generated run (seal log `gclog`: key and
                                      sequence number read off the generated struct before each call, datagram = what the call
                                      returned) are all under the token's client-to-server key, carry strictly increasing sequence
                                      numbers — except that a later record may be IDENTICAL to an earlier one (the `Disconnect`
                                      datagram of repeated `disconnect` calls) —, and each datagram is
                                      `prefix ‖ sequence bytes ‖ a.seal key (nonce seq) aad plain` for the recorded key and number.
                                      (Transports `C17.client_nonces_strict`, `C17.client_log_sound`.)
  Totality of the generated `update` / `generate_payload_packet` / `disconnect` along whole traces from `new`, and (1), (2) from
  `NetcodeClient::new` with `ClientAuthentication::Unsecure`: Props/SrcPropsNcClientTotal.lean (`gen_trace_total`,
  `payloads_at_most_once_unsecure`, `client_nonces_strict_from_new_unsecure`).
-/
import RenetVerif.Lemmas.SrcEquiv.SrcNcClientSeal
import RenetVerif.Props.SrcPropsNcClientHistory
import RenetVerif.Props.C04C
import RenetVerif.Props.C17
namespace RenetVerif.SrcPropsNcClientTrace
open RenetVerif RenetVerif.SrcEquiv RenetVerif.RustSem RenetVerif.Netcode RenetVerif.Netcode.Packet
open RenetVerif.SrcNcClientSystem RenetVerif.SrcNcClientSeal RenetVerif.NcAead RenetVerif.NcClientTrace
open RenetVerif.SrcPropsNcClientHistory

/-! ## (1) C04: at most once, authentic, over a whole generated run -/

def gsurfSeqs (ps : List (Bytes × List Nat)) : List Nat :=
  (ps.map fun x => wireSeq x.1).filter fun s => decide (s ≠ 2 ^ 64 - 1)

theorem gsurfSeqs_map (ps : List (Bytes × Bytes)) :
    gsurfSeqs (ps.map fun x => (x.1, toNats x.2)) = C04C.surfacedSeqs ps := by
  simp only [gsurfSeqs, C04C.surfacedSeqs, List.map_map]
  rfl

theorem cinit_model {a : AEAD} {ct : Nat} {tok : Netcode.ConnectToken} {r1 r2 r3 r4 : List Nat} {g0 : GNcC}
    (h0 : GNcC.init a ct tok r1 r2 r3 r4 = some g0) :
    ∃ c, Netcode.NetcodeClient.new ct tok = .ok c ∧ MNcC.init ct tok = some ⟨c, []⟩ ∧ SimNcC ⟨c, []⟩ g0 ∧ g0.outs = [] := by
  have h := cinit_sim a ct tok r1 r2 r3 r4
  cases hm : MNcC.init ct tok with
  | none => rw [hm, h0] at h; cases h
  | some m0 =>
    rw [hm, h0] at h
    obtain ⟨g0', e, hsim⟩ := h
    cases e
    unfold MNcC.init at hm
    split at hm
    · rename_i c hc; cases hm; exact ⟨c, hc, rfl, hsim, by rw [hsim.outs]; rfl⟩
    · cases hm

theorem exec_split {a : AEAD} {ct : Nat} {tok : Netcode.ConnectToken} {r1 r2 r3 r4 : List Nat} {ops : List CliOp} {g : GNcC}
    (ht : tok.timeoutSeconds < 2 ^ 31) (hg : GNcC.exec a ct tok r1 r2 r3 r4 ops = some g) :
    ∃ g0 m0, GNcC.init a ct tok r1 r2 r3 r4 = some g0 ∧ g0.run a ops = some g ∧ g0.outs = [] ∧ SimNcC m0 g0 ∧
      CliInv m0.cli ∧ Netcode.NetcodeClient.new ct tok = .ok m0.cli := by
  unfold GNcC.exec at hg
  cases h0 : GNcC.init a ct tok r1 r2 r3 r4 with
  | none => rw [h0] at hg; cases hg
  | some g0 =>
    rw [h0] at hg
    obtain ⟨c, hc, hm, hsim0, hout0⟩ := cinit_model h0
    exact ⟨g0, ⟨c, []⟩, rfl, hg, hout0, hsim0, inv_minit ht hm, hc⟩

/-- **(1) C04 at-most-once over a whole GENERATED client run.**  `g` is reached from the generated `NetcodeClient::new` by ANY
    generated calls `ops` (in range: the token's timeout is an `i32`, datagrams shorter than `2^64 - 16` bytes).  `gsurf ops g.outs`
    reads off the results log the (datagram, payload) pairs the generated `process_packet` surfaced.  Then:
      * their sequence numbers (`2^64-1` aside) are pairwise distinct;
      * each pair `(buf, p)`: `buf` was handed to `process_packet` in this run, and `p` is the plaintext `buf` opens to, as a
        `Payload` packet, under the token's server-to-client key (nonce = its own sequence number, additional data = version ‖
        protocol id ‖ its own prefix byte);
      * the generated struct still holds the token, and its `replay_protection` is the `Recv.run` window of exactly the datagrams
        handed to `process_packet`, which satisfies `RP.Inv` for the ghost list of accepted sequence numbers;
      * the GENERATED `already_received` on the generated window returns `true` for the sequence number of every surfaced payload. -/
theorem payloads_at_most_once {a : AEAD} (hl : a.Laws) {ct : Nat} {tok : Netcode.ConnectToken} {r1 r2 r3 r4 : List Nat}
    {ops : List CliOp} {g : GNcC} (hr : CliInRange tok ops) (hg : GNcC.exec a ct tok r1 r2 r3 r4 ops = some g) :
    (gsurfSeqs (gsurf ops g.outs)).Nodup ∧
    (∀ x ∈ gsurf ops g.outs, x.1 ∈ gBufs ops ∧
      ∃ p, x.2 = toNats p ∧ SealedOpen a x.1 tok.protocolId tok.serverToClientKey .payload p) ∧
    g.cli.connect_token = reprTok tok ∧
    g.cli.replay_protection = reprRP (Recv.run a tok.protocolId tok.serverToClientKey (gBufs ops)).window ∧
    RP.Inv (Recv.run a tok.protocolId tok.serverToClientKey (gBufs ops)).window
      (Recv.run a tok.protocolId tok.serverToClientKey (gBufs ops)).accepted ∧
    (∀ s ∈ gsurfSeqs (gsurf ops g.outs),
      (Src.renetcode.replay_protection.ReplayProtection.already_received g.cli.replay_protection s : Res Empty Bool)
        = .ok true) := by
  obtain ⟨g0, m0, -, hrun, hout0, hsim0, hi0, hnew⟩ := exec_split hr.1 hg
  obtain ⟨m', ps, hsim', hprun, hsurf⟩ := gsurf_sim hl hi0 hsim0 hr.2 hrun
  rw [hout0] at hsurf
  simp only [List.length_nil, List.drop_zero] at hsurf
  obtain ⟨p1, p2, p3, p4, p5⟩ := C04C.client_new_payloads_at_most_once a hnew hprun
  rw [recvBufs_toCl] at p2 p4 p5
  have hc := hsim'.repr
  have htok0 : m0.cli.connectToken = tok := (Cl.new_sequence hnew).2.1
  have hw0 : m0.cli.replayProtection =
      (Recv.run a m0.cli.connectToken.protocolId m0.cli.connectToken.serverToClientKey []).window := by
    obtain ⟨_, _, e⟩ := Cl.new_ok.mp hnew
    rw [e]; rfl
  have prej := C04C.client_surfaced_rejected_after a [] hw0 hprun
  rw [hsurf, gsurfSeqs_map]
  refine ⟨p1, ?_, ?_, ?_, ?_, ?_⟩
  · intro x hx
    obtain ⟨y, hy, rfl⟩ := List.mem_map.mp hx
    obtain ⟨q1, q2⟩ := p2 y hy
    exact ⟨q1, y.2, rfl, q2⟩
  · rw [hc.token, p3]
  · rw [hc.window, p4]
  · rw [← p4]; exact p5
  · intro s hs
    have hrej := prej s hs
    have hlt : s < 2 ^ 64 := by
      simp only [C04C.surfacedSeqs, List.mem_filter, List.mem_map] at hs
      obtain ⟨⟨y, hy, rfl⟩, -⟩ := hs
      exact wireSeq_lt (p2 y hy).2.seq_len
    rw [hc.window, already_received_eq _ _ hlt, hrej]

/-! ## (2) C17: nonce discipline of the generated client -/

/-- **(2) C17 on the generated client, from any related pair of states.**  `g.cli` represents the model client `m.cli`
    (`SimNcC`, e.g. by `gcreach_model` for any state reached by a generated run from `new`); `ops` is ANY trace of generated
    calls (in range) that runs to its end.  For the seal log `gclog a g ops` read off the generated code:
      * every record is under the `client_to_server_key` of the generated struct's connect token, with a sequence number at
        least the generated struct's `sequence` at the start;
      * sequence numbers strictly increase along the log, except that a later record may be IDENTICAL (key, number, datagram)
        to an earlier one;
      * hence two records with the same sequence number are the same record: no nonce is used for two different datagrams;
      * soundness: every recorded datagram is `prefix ‖ sequence bytes ‖ a.seal key (nonce seq) aad plain` (`SealRec.datagram`)
        for a seal under exactly the recorded key and sequence number. -/
theorem client_nonces_strict {a : AEAD} (hl : a.Laws) {m : MNcC} {g g' : GNcC} (hi : CliInv m.cli) (hsim : SimNcC m g)
    {ops : List CliOp} (hr : CliOpsInRange ops) (hrun : g.run a ops = some g') :
    (∀ e ∈ gclog a g ops, e.key = g.cli.connect_token.client_to_server_key ∧ g.cli.sequence ≤ e.seq) ∧
    (gclog a g ops).Pairwise (fun e e' => e.seq < e'.seq ∨ e' = e) ∧
    (∀ e ∈ gclog a g ops, ∀ e' ∈ gclog a g ops, e.seq = e'.seq → e = e') ∧
    (∀ e ∈ gclog a g ops, ∃ r : SealRec, toNats r.key = e.key ∧ r.seq = e.seq ∧ e.datagram = toNats (r.datagram a)) := by
  rw [gclog_sim hl ops hi hsim hr hrun]
  obtain ⟨c1, c2, -, c4⟩ := C17.client_nonces_strict a m.cli (ops.map toCl)
  have hc := hsim.repr
  refine ⟨?_, ?_, ?_, ?_⟩
  · intro e he
    obtain ⟨r, hr', rfl⟩ := List.mem_map.mp he
    obtain ⟨k1, k2⟩ := c1 r hr'
    rw [hc.token, hc.sequence]
    exact ⟨by show toNats r.key = toNats m.cli.connectToken.clientToServerKey; rw [k1], k2⟩
  · rw [List.pairwise_map]
    refine c2.imp ?_
    intro r r' h
    rcases h with h | h
    · exact Or.inl h
    · exact Or.inr (by rw [h])
  · intro e he e' he' hs
    obtain ⟨r, hr', rfl⟩ := List.mem_map.mp he
    obtain ⟨r', hr'', rfl⟩ := List.mem_map.mp he'
    rw [c4 r hr' r' hr'' hs]
  · intro e he
    obtain ⟨r, hr', rfl⟩ := List.mem_map.mp he
    exact ⟨r, rfl, rfl, rfl⟩

/-- **… from the generated `NetcodeClient::new`**: the generated constructor starts the counter at 0; all datagrams the generated
    client ever seals in the run — one connection attempt after the other and the session — are under the token's
    client-to-server key and carry strictly increasing sequence numbers (a repeated `Disconnect` datagram aside). -/
theorem client_nonces_strict_from_new {a : AEAD} (hl : a.Laws) {ct : Nat} {tok : Netcode.ConnectToken} {r1 r2 r3 r4 : List Nat}
    {ops : List CliOp} {g : GNcC} (hr : CliInRange tok ops) (hg : GNcC.exec a ct tok r1 r2 r3 r4 ops = some g) :
    ∃ g0, GNcC.init a ct tok r1 r2 r3 r4 = some g0 ∧ g0.cli.sequence = 0 ∧
      (∀ e ∈ gclog a g0 ops, e.key = toNats tok.clientToServerKey) ∧
      (gclog a g0 ops).Pairwise (fun e e' => e.seq < e'.seq ∨ e' = e) ∧
      (∀ e ∈ gclog a g0 ops, ∀ e' ∈ gclog a g0 ops, e.seq = e'.seq → e = e') ∧
      (∀ e ∈ gclog a g0 ops, ∃ r : SealRec, toNats r.key = e.key ∧ r.seq = e.seq ∧ e.datagram = toNats (r.datagram a)) := by
  obtain ⟨g0, m0, hinit, hrun, -, hsim0, hi0, hnew⟩ := exec_split hr.1 hg
  obtain ⟨n1, n2, n3, n4⟩ := client_nonces_strict hl hi0 hsim0 hr.2 hrun
  obtain ⟨s0, t0, -⟩ := Cl.new_sequence hnew
  have hc := hsim0.repr
  refine ⟨g0, hinit, by rw [hc.sequence]; exact s0, fun e he => ?_, n2, n3, n4⟩
  rw [(n1 e he).1, hc.token]
  show toNats m0.cli.connectToken.clientToServerKey = _
  rw [t0]

/-! ## non-vacuity: concrete generated client runs (world of `Lemmas/NcExamples.lean`, AEAD `Ex.a` with `Netcode.NS.Ex.laws_a`),
    evaluated by the kernel on the generated code -/
section Examples
open NS.Ex

theorem exOps_inRange : CliInRange tokenA exOps := ex_cli_all.2.2.2.1.2.2

set_option maxRecDepth 100000 in
theorem ex_gen_surf : (GNcC.exec NS.Ex.a 0 tokenA [] [] [] [] exOps).map (fun g => gsurf exOps g.outs) =
    some [(C04C.pl3, [9, 9]), (C04C.pl5, [5]), (C04C.pl4, [4, 4, 4])] := ex_cli_all.2.2.2.1.1

example : ∃ g, GNcC.exec NS.Ex.a 0 tokenA [] [] [] [] exOps = some g ∧
    gsurfSeqs (gsurf exOps g.outs) = [3, 5, 4] ∧ (gsurfSeqs (gsurf exOps g.outs)).Nodup ∧
    g.cli.replay_protection = reprRP (Recv.run NS.Ex.a tokenA.protocolId tokenA.serverToClientKey (gBufs exOps)).window ∧
    (∀ s ∈ gsurfSeqs (gsurf exOps g.outs),
      (Src.renetcode.replay_protection.ReplayProtection.already_received g.cli.replay_protection s : Res Empty Bool)
        = .ok true) := by
  have h := ex_gen_surf
  cases hg : GNcC.exec NS.Ex.a 0 tokenA [] [] [] [] exOps with
  | none => rw [hg] at h; cases h
  | some g =>
    rw [hg] at h
    simp only [Option.map_some, Option.some.injEq] at h
    obtain ⟨p1, -, -, p4, -, p6⟩ := payloads_at_most_once Netcode.NS.Ex.laws_a exOps_inRange hg
    exact ⟨g, rfl, by rw [h]; decide, p1, p4, p6⟩

set_option maxRecDepth 100000 in
theorem ex_gen_log : (GNcC.init NS.Ex.a 0 tokenA [] [] [] []).map
      (fun g0 => (gclog NS.Ex.a g0 exOps).map fun e => (e.seq, e.datagram.length)) =
    some [(1, 326), (2, 19), (3, 18)] := ex_cli_all.2.2.2.1.2.1

example : ∃ g0, GNcC.init NS.Ex.a 0 tokenA [] [] [] [] = some g0 ∧
    (gclog NS.Ex.a g0 exOps).map (·.seq) = [1, 2, 3] ∧
    (gclog NS.Ex.a g0 exOps).Pairwise (fun e e' => e.seq < e'.seq ∨ e' = e) ∧
    (∀ e ∈ gclog NS.Ex.a g0 exOps, e.key = toNats tokenA.clientToServerKey) := by
  have h := ex_gen_surf
  cases hg : GNcC.exec NS.Ex.a 0 tokenA [] [] [] [] exOps with
  | none => rw [hg] at h; cases h
  | some g =>
    obtain ⟨g0, hinit, -, n1, n2, -, -⟩ := client_nonces_strict_from_new Netcode.NS.Ex.laws_a exOps_inRange hg
    have hl := ex_gen_log
    rw [hinit] at hl
    simp only [Option.map_some, Option.some.injEq] at hl
    refine ⟨g0, hinit, ?_, n2, n1⟩
    have := congrArg (List.map Prod.fst) hl
    rw [List.map_map] at this
    exact this

end Examples

end RenetVerif.SrcPropsNcClientTrace
