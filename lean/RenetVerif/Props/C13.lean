/-
  C13 — every packet returned by `get_packets_to_send` is at most NETCODE_MAX_PAYLOAD_BYTES (1300) long and
  serialization never fails, for any mix of message sizes, ids, sequence numbers and pending ack ranges
  (counters < 2^62).

  Lemmas: Lemmas/Flush.lean.  Bounds:
    smallPacketBound       = 12 + SLICE_SIZE + 10            (type, seq ≤ 8, channel, count 2; body ≤ SLICE_SIZE + 10)
    smallUnrelPacketBound  = 12 + SLICE_SIZE + 2
    slicePacketBound       = 1 + 8 + 1 + 8 + 8 + 8 + 2 + SLICE_SIZE
    ackPacketBound         = 1 + 8 + 8 + 8 + 8 + 16 * (ACK_RANGE_CAP - 1)
-/
import RenetVerif.Lemmas.Flush
namespace RenetVerif.C13
open RenetVerif C

/-! ### side conditions on the constants (each `by decide`: a changed constant breaks exactly its lemma) -/
theorem small_reliable_bound_fits : 12 + SLICE_SIZE + 10 ≤ NETCODE_MAX_PAYLOAD_BYTES := by decide
theorem small_unreliable_bound_fits : 12 + SLICE_SIZE + 2 ≤ NETCODE_MAX_PAYLOAD_BYTES := by decide
theorem slice_bound_fits : 1 + 8 + 1 + 8 + 8 + 8 + 2 + SLICE_SIZE ≤ NETCODE_MAX_PAYLOAD_BYTES := by decide
theorem slice_bound_loose_fits : 1 + 8 + 1 + 8 + 8 + 8 + 8 + SLICE_SIZE ≤ NETCODE_MAX_PAYLOAD_BYTES := by decide
theorem ack_bound_fits : 1 + 8 + 8 + 8 + 8 + 16 * (ACK_RANGE_CAP - 1) ≤ NETCODE_MAX_PAYLOAD_BYTES := by decide
theorem payload_fits_buffer : NETCODE_MAX_PAYLOAD_BYTES ≤ SER_BUFFER := by decide
/-- the largest small message still gets a two-byte length varint -/
theorem slice_size_two_byte_varint : SLICE_SIZE ≤ 16383 := by decide

/-- Reliable channel.  Invariant `s.WF`: distinct ids below `next_reliable_message_id`; small entries at most `SLICE_SIZE`
    long; sliced entries non-empty with `num_slices = div_ceil(len, SLICE_SIZE)` and machine-representable length
    (`≤ 2^62-1`).  Counters: `next_reliable_message_id ≤ 2^62`, returned `packet_sequence ≤ 2^62` (so every number used is
    `< 2^62`).  Then every packet of the flush encodes without panic, a small-message packet into at most
    `12 + SLICE_SIZE + 10` bytes, a slice packet into at most `1+8+1+8+8+8+2 + SLICE_SIZE` bytes. -/
theorem reliable_sizes {s s' : SendRel} {seq avail now seq' avail' : Nat} {ps : List Packet}
    (h : s.getPackets seq avail now = (s', ps, seq', avail')) (hwf : s.WF)
    (hid : s.nextId ≤ Varint.MAX + 1) (hseq : seq' ≤ Varint.MAX + 1) :
    ∀ p ∈ ps, ∃ b, p.enc = .ok b ∧
      ((∃ sq msgs, p = Packet.smallReliable sq s.ch msgs ∧ b.length ≤ 12 + SLICE_SIZE + 10) ∨
       (∃ sq sl, p = Packet.reliableSlice sq s.ch sl ∧ b.length ≤ 1 + 8 + 1 + 8 + 8 + 8 + 2 + SLICE_SIZE)) :=
  SendRel.getPackets_sizes h hwf hid hseq

/-- … hence `to_bytes` into the 1400-byte scratch buffer succeeds with at most 1300 bytes. -/
theorem reliable_fits {s s' : SendRel} {seq avail now seq' avail' : Nat} {ps : List Packet}
    (h : s.getPackets seq avail now = (s', ps, seq', avail')) (hwf : s.WF)
    (hid : s.nextId ≤ Varint.MAX + 1) (hseq : seq' ≤ Varint.MAX + 1) :
    ∀ p ∈ ps, ∃ b, p.toBytes SER_BUFFER = .ok b ∧ b.length ≤ NETCODE_MAX_PAYLOAD_BYTES :=
  fun p hp => (SendRel.getPackets_fits h hwf hid hseq p hp).1.toBytes

/-- … and when additionally the channel id is a byte and no message needs more than `MAX_NUM_SLICES` slices, every
    packet is well-formed in the sense of the round-trip theorem C16 (the peer decodes exactly what was sent). -/
theorem reliable_wf {s s' : SendRel} {seq avail now seq' avail' : Nat} {ps : List Packet}
    (h : s.getPackets seq avail now = (s', ps, seq', avail')) (hwf : s.WF) (hch : s.ch < 256)
    (hid : s.nextId ≤ Varint.MAX + 1) (hseq : seq' ≤ Varint.MAX + 1)
    (hbig : ∀ id m n na nx ak ls, (id, Unacked.sliced m n na nx ak ls) ∈ s.unacked → n ≤ MAX_NUM_SLICES) :
    ∀ p ∈ ps, p.WF :=
  SendRel.getPackets_wf h hwf hch hid hseq hbig

/-- The invariant is inductive over sending and flushing. -/
theorem reliable_invariant :
    (∀ ch resend maxMem, (SendRel.new ch resend maxMem).WF) ∧
    (∀ (s s' : SendRel) (m : Bytes), s.sendMessage m = .ok s' → s.WF → m.length ≤ Varint.MAX → s'.WF) ∧
    (∀ (s s' : SendRel) (seq avail now seq' avail' : Nat) (ps : List Packet),
      s.getPackets seq avail now = (s', ps, seq', avail') → s.WF → s'.WF ∧ s'.nextId = s.nextId) := by
  refine ⟨fun ch resend maxMem => ⟨by simp [SendRel.new, SMap.keys], by simp [SendRel.new], by simp [SendRel.new]⟩, ?_,
    fun _ _ _ _ _ _ _ _ h hw => ⟨SendRel.getPackets_wf_preserved h hw, (SendRel.getPackets_keeps h).2.2.1⟩⟩
  · intro s s' m h hwf hlen
    obtain ⟨-, rfl⟩ := SendRel.sendMessage_ok h
    have habove : ∀ x ∈ s.unacked, x.1 < s.nextId := fun x hx => hwf.ids x.1 x.2 hx
    simp only [SMap.insert_above _ _ _ habove]
    refine ⟨?_, ?_, ?_⟩
    · simp only [SMap.keys, List.map_append, List.map_cons, List.map_nil]
      rw [List.nodup_append]
      refine ⟨hwf.nodup, by simp, ?_⟩
      intro a ha b hb
      simp only [List.mem_singleton] at hb
      subst hb
      obtain ⟨x, hx, rfl⟩ := List.mem_map.mp ha
      have := habove x hx
      omega
    · intro id u hm
      simp only [List.mem_append, List.mem_singleton, Prod.mk.injEq] at hm
      rcases hm with hm | ⟨rfl, _⟩
      · have := hwf.ids id u hm; simp only; omega
      · simp only; omega
    · intro id u hm
      simp only [List.mem_append, List.mem_singleton, Prod.mk.injEq] at hm
      rcases hm with hm | ⟨_, rfl⟩
      · exact hwf.entries id u hm
      · split
        · next hbig =>
          refine ⟨rfl, by omega, hlen, by simp, by simp⟩
        · next hsmall => show m.length ≤ SLICE_SIZE; omega

/-- Unreliable channel.  Queued messages of machine-representable length; the slice-message-id counter and the
    returned `packet_sequence` at most `2^62`.  Then every packet of the flush encodes without panic, a small-message
    packet into at most `12 + SLICE_SIZE + 2` bytes, a slice packet into at most `1+8+1+8+8+8+2 + SLICE_SIZE`. -/
theorem unreliable_sizes {s s' : SendUnrel} {seq avail seq' avail' : Nat} {ps : List Packet}
    (h : s.getPackets seq avail = (s', ps, seq', avail'))
    (hlen : ∀ m ∈ s.queue, m.length ≤ Varint.MAX)
    (hid : s'.slicedId ≤ Varint.MAX + 1) (hseq : seq' ≤ Varint.MAX + 1) :
    ∀ p ∈ ps, ∃ b, p.enc = .ok b ∧
      ((∃ sq msgs, p = Packet.smallUnreliable sq s.ch msgs ∧ b.length ≤ 12 + SLICE_SIZE + 2) ∨
       (∃ sq sl, p = Packet.unreliableSlice sq s.ch sl ∧ b.length ≤ 1 + 8 + 1 + 8 + 8 + 8 + 2 + SLICE_SIZE)) :=
  SendUnrel.getPackets_sizes h hlen hid hseq

theorem unreliable_fits {s s' : SendUnrel} {seq avail seq' avail' : Nat} {ps : List Packet}
    (h : s.getPackets seq avail = (s', ps, seq', avail'))
    (hlen : ∀ m ∈ s.queue, m.length ≤ Varint.MAX)
    (hid : s'.slicedId ≤ Varint.MAX + 1) (hseq : seq' ≤ Varint.MAX + 1) :
    ∀ p ∈ ps, ∃ b, p.toBytes SER_BUFFER = .ok b ∧ b.length ≤ NETCODE_MAX_PAYLOAD_BYTES :=
  fun p hp => (SendUnrel.getPackets_fits h hlen hid hseq p hp).1.toBytes

/-- the slice-id counter advances by at most one per queued message -/
theorem unreliable_sliced_id {s s' : SendUnrel} {seq avail seq' avail' : Nat} {ps : List Packet}
    (h : s.getPackets seq avail = (s', ps, seq', avail')) : s'.slicedId ≤ s.slicedId + s.queue.length :=
  SendUnrel.getPackets_slicedId h

/-- Ack packet: a pending list that is sorted/disjoint/non-adjacent (`Acks.WF`, C16), non-empty, with at most
    `ACK_RANGE_CAP` ranges and range ends at most `2^62`, encodes without panic into at most
    `1 + 8 + 8 + 8 + 8 + 16 * (ACK_RANGE_CAP - 1)` bytes. -/
theorem ack_size (seq : Nat) (l : List AckRange) (hs : seq ≤ Varint.MAX) (hne : l ≠ []) (hwf : Acks.WF l)
    (hlen : l.length ≤ ACK_RANGE_CAP) (hb : ∀ r ∈ l, r.2 ≤ Varint.MAX + 1) :
    ∃ b, (Packet.ack seq l).enc = .ok b ∧ b.length ≤ 1 + 8 + 8 + 8 + 8 + 16 * (ACK_RANGE_CAP - 1) :=
  (ack_enc_le hs hne hwf hlen hb).2

/-- `get_packets_to_send` of a connection.  Invariant `Conn.FlushInv`: every channel of the send order exists; every
    reliable send channel satisfies `SendRel.WF` with `next_reliable_message_id ≤ 2^62`; every unreliable send channel holds
    machine-representable messages and `sliced_message_id + queue length ≤ 2^62`; the pending-ack list is
    `Acks.WF`, has at most `ACK_RANGE_CAP` ranges, range ends at most `2^62`.  Counter hypothesis: `packet_sequence`
    after this flush (`Conn.flushSeq`) is at most `2^62`.
    Then the call returns normally (no panic), the connection status is unchanged (in particular no
    `PacketSerialization` disconnect), and every datagram is at most `NETCODE_MAX_PAYLOAD_BYTES` long. -/
theorem connection_fits (c : Conn) (hinv : c.FlushInv) (hseq : c.flushSeq ≤ Varint.MAX + 1) :
    ∃ c' bs, c.getPacketsToSend = .ok (c', bs) ∧ c'.status = c.status ∧
      (∀ b ∈ bs, b.length ≤ NETCODE_MAX_PAYLOAD_BYTES) ∧ c'.packetSeq ≤ c.flushSeq :=
  Conn.getPacketsToSend_fits c hinv hseq

def mk (n : Nat) (b : UInt8) : Bytes := List.replicate n b
def okOr {ε α : Type} (d : α) : Res ε α → α
  | .ok a => a
  | _ => d

def cfg : List ChanCfg := [⟨0, .ordered, 100000, 300⟩, ⟨1, .unreliable, 100000, 0⟩]

/-- a connection built by running the model: connected; reliable channel 0 holds a 5-byte and a 2500-byte message;
    unreliable channel 1 holds 7-, 1300- and 3000-byte messages; two packets (sequence 3 and 9) were received, so
    two ack ranges are pending -/
def exConn : Conn :=
  let c := (Conn.fromChannels 4000 cfg cfg).setConnected
  let c := okOr c (c.sendMessage 0 (mk 5 1))
  let c := okOr c (c.sendMessage 0 (mk 2500 2))
  let c := okOr c (c.sendMessage 1 (mk 7 3))
  let c := okOr c (c.sendMessage 1 (mk 1300 4))
  let c := okOr c (c.sendMessage 1 (mk 3000 5))
  let c := okOr c (c.processPacket (okOr [] (Packet.enc (.smallUnreliable 3 1 [[1, 2]]))))
  okOr c (c.processPacket (okOr [] (Packet.enc (.smallUnreliable 9 1 [[1, 2]]))))

/-- the hypotheses of `connection_fits` on `exConn` (the invariant in its decidable form) and what the flush
    produces, in one kernel evaluation -/
theorem exConn_facts :
    (exConn.FlushInvd ∧ exConn.flushSeq ≤ Varint.MAX + 1) ∧
    exConn.pendingAcks = [(3, 4), (9, 10)] ∧ exConn.order = [(true, 0), (false, 1)] ∧
    (match exConn.getPacketsToSend with
     | .ok (c', bs) => (bs.map List.length, c'.packetSeq, c'.status)
     | _ => ([], 0, .connecting)) = ([1208, 1208, 108, 12, 1208, 108, 13, 7], 8, .connected) := by
  decide +kernel

set_option maxRecDepth 100000 in
example : exConn.FlushInv ∧ exConn.flushSeq ≤ Varint.MAX + 1 :=
  ⟨Conn.FlushInvd.inv exConn_facts.1.1, exConn_facts.1.2⟩

set_option maxRecDepth 100000 in
/-- the state is non-trivial, and the flush produces eight datagrams (three reliable slices, a reliable small packet,
    two unreliable slices, an unreliable small packet, the ack packet) -/
example : exConn.pendingAcks = [(3, 4), (9, 10)] ∧ exConn.order = [(true, 0), (false, 1)] ∧
    (match exConn.getPacketsToSend with
     | .ok (c', bs) => (bs.map List.length, c'.packetSeq, c'.status)
     | _ => ([], 0, .connecting)) = ([1208, 1208, 108, 12, 1208, 108, 13, 7], 8, .connected) := exConn_facts.2

/-- The pending-ack part of the invariant is inductive: recording a received sequence number `< 2^62` keeps the list
    well-formed, within `ACK_RANGE_CAP` ranges (on every path of `add_pending_ack` — the tree under verification
    contains the `fix:` for the insert path, finding D16) and with range ends `≤ 2^62`. -/
theorem pending_acks_invariant (seq : Nat) (l : List AckRange) (h : Acks.WF l) (hl : l.length ≤ ACK_RANGE_CAP)
    (hb : ∀ r ∈ l, r.2 ≤ Varint.MAX + 1) (hs : seq ≤ Varint.MAX) :
    Acks.WF (Acks.add ACK_RANGE_CAP seq l) ∧ (Acks.add ACK_RANGE_CAP seq l).length ≤ ACK_RANGE_CAP ∧
    ∀ r ∈ Acks.add ACK_RANGE_CAP seq l, r.2 ≤ Varint.MAX + 1 :=
  ⟨Acks.add_wf _ _ _ h, Acks.add_length _ _ _ (by decide) h hl, Acks.add_bound _ _ _ _ h hb (by omega)⟩

/-- The cap matters: 160 well-formed ranges spaced 2^31 apart (what the pre-fix code accumulated from 160 packets
    with descending sequence numbers) make an ack packet that does not fit `SER_BUFFER`: `to_bytes` fails with
    `BufferTooShort`, which `get_packets_to_send` turns into a self-disconnect. -/
def manyAcks : List AckRange := (List.range 160).map (fun k => (k * 2147483648, k * 2147483648 + 1))

theorem ack_cap_needed :
    manyAcks.length = 160 ∧ acksWFb manyAcks = true ∧
    (Packet.ack 0 manyAcks).toBytes SER_BUFFER = .err .bufferTooShort := by decide +kernel

end RenetVerif.C13
