/-
  C04 over WHOLE SERVER RUNS, the window itself (what `Props/C04H.lean` leaves open; server-side analogue
  of `Props/C04C.lean`, `client_window_is_recv_window`).  Model level; proofs: `Lemmas/NcSessionWindow.lean`.

  A run: `NS.ReachT a s tr` (any list of `NS.step` operations from an empty server, `tr` = (operation, result) list).
  Ghost list: `NS.addrBufs ad tr` — a function of the trace alone: the datagrams of the `process_packet` calls from address `ad`
  that were long enough to reach `Packet::decode`, oldest first, since the last call from `ad` that was answered with
  `PacketToSend` (from a source address that happens exactly when a connection request is answered with a challenge — the half-open
  session of `ad` is (re)created with a NEW window — or a request / response is denied — the half-open session of `ad` is
  dropped).  For an address that has a session, half-open or connected, this is the list of datagrams that reached `decode`
  under that session's receive key since its half-open entry was created (`addrBufs_mem`, `addrBufs_packet`).

    (1) `session_window_is_recv_window`   every occupied slot:  stored window = `(Recv.run a proto c.receiveKey (addrBufs c.addr tr)).window`
        `pending_window_is_recv_window`   every half-open session: the same with the address it is stored under;
    (2) `session_payloads_are_recv_results`  the payloads surfaced in the current session of a connected id are, in order, among the
                                          `Recv.run` results; `session_window_inv`: `RP.Inv` with the ghost list `accepted` of that run,
                                          every accepted sequence number carried by one of the ghost datagrams that opened under the key;
    (3) `session_payload_once`            `C04H.session_payload_once`, an instance of `C04.payload_at_most_once`;
    (4) `genuine_accepted_after_run`      the converse clause of C04 over whole runs: after ANY run, a genuine payload datagram
                                          (`sealedBytes` under the slot's receive key) whose sequence number was not accepted before
                                          (`…_first_time`: that no ghost datagram carried) and is less than 256 behind the newest one IS
                                          surfaced by `process_packet`, attributed to that client, and joins the session's payloads.
  Excluded point as in C04: sequence number `2^64-1` (`C04.sentinel_collision`) in (3).
-/
import RenetVerif.Lemmas.NcSessionWindow
import RenetVerif.Props.C04H
import RenetVerif.Props.C04C
namespace RenetVerif.C04W
open RenetVerif RenetVerif.Netcode RenetVerif.Netcode.NS RenetVerif.Netcode.Packet RenetVerif.NcClientTrace

theorem addrBufs_packet (ad : Addr) (tr : Trace) (ad' : Addr) (buf : Bytes) (r : ServerResult) :
    addrBufs ad (tr ++ [(.packet ad' buf, r)]) =
      if ad' = ad then (if isToSend r then [] else addrBufs ad tr ++ dg buf) else addrBufs ad tr :=
  addrBufs_snoc_packet ad tr ad' buf r

theorem addrBufs_other (ad : Addr) (tr : Trace) {op : Op} (r : ServerResult) (hop : ∀ ad' buf, op ≠ .packet ad' buf) :
    addrBufs ad (tr ++ [(op, r)]) = addrBufs ad tr :=
  addrBufs_snoc_other ad tr r hop

theorem mem_foldl_bufStep (ad : Addr) : ∀ (tr : Trace) (L : List Bytes) (b : Bytes), b ∈ tr.foldl (bufStep ad) L →
    b ∈ L ∨ ∃ r, (Op.packet ad b, r) ∈ tr ∧ isToSend r = false ∧ ¬ b.length < 2 + C.NETCODE_MAC_BYTES := by
  intro tr
  induction tr with
  | nil => intro L b h; exact Or.inl h
  | cons x tr ih =>
    intro L b h
    rw [List.foldl_cons] at h
    have h' := ih _ b h
    clear h
    rcases h' with h | ⟨r, hm, hr⟩
    · obtain ⟨op, r⟩ := x
      cases op with
      | packet ad' buf =>
        have e : bufStep ad L (Op.packet ad' buf, r) =
            if ad' = ad then (if isToSend r then [] else L ++ dg buf) else L := rfl
        rw [e] at h
        clear e
        by_cases he : ad' = ad
        · subst he
          rw [if_pos rfl] at h
          cases hts : isToSend r with
          | true => rw [hts, if_pos rfl] at h; cases h
          | false =>
            rw [hts, if_neg (by simp)] at h
            rcases List.mem_append.mp h with h | h
            · exact Or.inl h
            · unfold dg at h
              by_cases hlen : buf.length < 2 + C.NETCODE_MAC_BYTES
              · rw [if_pos hlen] at h; cases h
              · rw [if_neg hlen, List.mem_singleton] at h
                subst h
                exact Or.inr ⟨r, List.mem_cons_self, hts, hlen⟩
        · rw [if_neg he] at h; exact Or.inl h
      | _ => exact Or.inl h
    · exact Or.inr ⟨r, List.mem_cons_of_mem _ hm, hr⟩

theorem addrBufs_mem {ad : Addr} {tr : Trace} {b : Bytes} (h : b ∈ addrBufs ad tr) :
    ∃ r, (Op.packet ad b, r) ∈ tr ∧ isToSend r = false ∧ ¬ b.length < 2 + C.NETCODE_MAC_BYTES := by
  rcases mem_foldl_bufStep ad tr [] b h with h | h
  · cases h
  · exact h

/-- **the stored window of a connected session, after any run** -/
theorem session_window_is_recv_window {a : AEAD} {s : NetcodeServer} {tr : Trace} (h : ReachT a s tr) {i : Nat}
    {c : Connection} (hc : At s.clients i c) :
    c.replayProtection = (Recv.run a s.protocolId c.receiveKey (addrBufs c.addr tr)).window :=
  (h.winInv.slot i c hc).1

/-- **the stored window of a half-open session, after any run** (a connected session starts with this window) -/
theorem pending_window_is_recv_window {a : AEAD} {s : NetcodeServer} {tr : Trace} (h : ReachT a s tr)
    {x : Addr × Connection} (hx : x ∈ s.pendingClients) :
    x.2.replayProtection = (Recv.run a s.protocolId x.2.receiveKey (addrBufs x.1 tr)).window :=
  h.winInv.pend x.1 x.2 (pendingFind_of_mem h.inv.pendKeys hx)

theorem session_payloads_are_recv_results {a : AEAD} {s : NetcodeServer} {tr : Trace} (h : ReachT a s tr) {i : Nat}
    {c : Connection} (hc : At s.clients i c) :
    ((sessPayloads c.clientId tr).map asSurf).Sublist
      (Recv.run a s.protocolId c.receiveKey (addrBufs c.addr tr)).surfaced :=
  (h.winInv.slot i c hc).surf

/-- the window invariant with the ghost list of THE run (`C04H.session_window` gives it for some ghost list); every accepted
    sequence number was carried by a ghost datagram — one handed to `process_packet` from the session's address — that opened
    under the session's receive key -/
theorem session_window_inv {a : AEAD} {s : NetcodeServer} {tr : Trace} (h : ReachT a s tr) {i : Nat}
    {c : Connection} (hc : At s.clients i c) :
    RP.Inv c.replayProtection (Recv.run a s.protocolId c.receiveKey (addrBufs c.addr tr)).accepted ∧
    ∀ sq ∈ (Recv.run a s.protocolId c.receiveKey (addrBufs c.addr tr)).accepted,
      ∃ buf ty plain r, (Op.packet c.addr buf, r) ∈ tr ∧ wireSeq buf = sq ∧
        SealedOpen a buf s.protocolId c.receiveKey ty plain := by
  refine ⟨?_, fun sq hsq => ?_⟩
  · rw [session_window_is_recv_window h hc]
    exact C04.run_window_inv a _ _ _
  · obtain ⟨buf, ty, plain, hb, hs, hso⟩ := C04.accepted_only_if_presented hsq
    obtain ⟨r, hm, _, _⟩ := addrBufs_mem hb
    exact ⟨buf, ty, plain, r, hm, hs, hso⟩

theorem seqsOf_eq (L : List (Bytes × Bytes)) : seqsOf L = protectedSeqs (L.map asSurf) :=
  (C04C.protectedSeqs_asSurf L).symm

/-- **At most once per session, after any run** — `C04H.session_payload_once`: the payloads of the current session of any id
    are among the results of one `Recv.run`, to which `C04.payload_at_most_once` applies. -/
theorem session_payload_once {a : AEAD} {s : NetcodeServer} {tr : Trace} (h : ReachT a s tr) (id : Nat) :
    (seqsOf (sessPayloads id tr)).Nodup := C04H.session_payload_once h id

/-- … and every surfaced sequence number is now rejected by the stored window (from the `Recv.run` side) -/
theorem session_surfaced_rejected {a : AEAD} {s : NetcodeServer} {tr : Trace} (h : ReachT a s tr) {i : Nat}
    {c : Connection} (hc : At s.clients i c) :
    ∀ sq ∈ seqsOf (sessPayloads c.clientId tr), c.replayProtection.alreadyReceived sq = true := by
  intro sq hsq
  have hne : sq ≠ 2 ^ 64 - 1 := (mem_seqsOf.mp hsq).2
  rw [seqsOf_eq] at hsq
  have hs := C04C.protectedSeqs_sublist (session_payloads_are_recv_results h hc)
  have hacc := (Recv.good_run a s.protocolId c.receiveKey (addrBufs c.addr tr)).sub sq (hs.subset hsq)
  exact C04.no_reaccept (session_window_inv h hc).1 hacc hne

/-- **A genuine, not yet accepted, in-window payload datagram IS surfaced, after any run.**  `c` occupies slot `i` after the run
    `tr`; `seq` was not accepted by the receive side of the session's ghost datagrams and is less than 256 behind the newest
    accepted one.  Then `process_packet(c.addr, sealedBytes (Payload p) seq c.receiveKey)` returns `Payload(c.clientId, p)`, the run
    continues with it, the datagram joins the payloads of the session, and the slot holds the session with the window advanced. -/
theorem genuine_accepted_after_run (a : AEAD) (hl : a.Laws) {s : NetcodeServer} {tr : Trace} (h : ReachT a s tr) {i : Nat}
    {c : Connection} (hc : At s.clients i c) (p : Bytes) {seq : Nat} (hs : seq < 2 ^ 64)
    (hfresh : seq ∉ (Recv.run a s.protocolId c.receiveKey (addrBufs c.addr tr)).accepted)
    (hw : c.replayProtection.mostRecent < seq + 256) :
    let d := sealedBytes a (.payload p) s.protocolId seq c.receiveKey
    let s' := NetcodeServer.setClient s i (some (c.received (c.replayProtection.advance seq) s.currentTime))
    step a s (.packet c.addr d) = some (.payload c.clientId p, s') ∧
    ReachT a s' (tr ++ [(.packet c.addr d, .payload c.clientId p)]) ∧
    sessPayloads c.clientId (tr ++ [(.packet c.addr d, .payload c.clientId p)]) = (d, p) :: sessPayloads c.clientId tr := by
  intro d s'
  have hf : findClientByAddr s.clients c.addr = some (i, c) := h.inv.slots.findAddr_iff.mpr ⟨rfl, hc⟩
  have hfr : c.replayProtection.alreadyReceived seq = false := C04.fresh_accept (session_window_inv h hc).1 hfresh hw
  have hpp := C04.server_genuine_accepted a hl s c.addr hf (h.inv.slots.conn i c hc) p hs hfr
  have hstep : step a s (.packet c.addr d) = some (.payload c.clientId p, s') := pp_of_step.mpr hpp
  refine ⟨hstep, .step h hstep, ?_⟩
  rw [sessPayloads_snoc, sessStep_payload, if_pos rfl]

/-- … "first time": it suffices that no datagram handed to `process_packet` from the session's address since the half-open
    session was created carried that sequence number -/
theorem genuine_accepted_first_time (a : AEAD) (hl : a.Laws) {s : NetcodeServer} {tr : Trace} (h : ReachT a s tr) {i : Nat}
    {c : Connection} (hc : At s.clients i c) (p : Bytes) {seq : Nat} (hs : seq < 2 ^ 64)
    (hfirst : ∀ b ∈ addrBufs c.addr tr, wireSeq b ≠ seq)
    (hw : c.replayProtection.mostRecent < seq + 256) :
    ∃ s', step a s (.packet c.addr (sealedBytes a (.payload p) s.protocolId seq c.receiveKey)) =
      some (.payload c.clientId p, s') :=
  ⟨_, (genuine_accepted_after_run a hl h hc p hs (C04.not_accepted_of_not_presented hfirst) hw).1⟩

/-! ### non-vacuity: the model run of `Props/C04H.lean` (example world `Lemmas/NcExamples.lean`, toy AEAD `Ex.a`)

  request (answered with a challenge: `PacketToSend`, the ghost list of `addrA` restarts), response (decoded under the half-open
  session's key; → `ClientConnected 11`), payload seq 2, its replay, a hostile datagram, payload seq 3, a modified copy of the
  seq-2 datagram, `update_client`, a payload to the client. -/
section Examples
open Ex C04H

theorem exA_laws : Ex.a.Laws := laws_a

def exResults : List ServerResult :=
  [.packetToSend addrA chalA, .clientConnected 11 addrA udA kaA, .payload 11 [1, 2, 3], .none, .none,
   .payload 11 [4, 5], .none, .none, .packetToSend addrA (21 :: 1 :: ([9, 9] ++ List.replicate 16 0))]

/-- the ghost list of `addrA` after that run: everything from `addrA` since the challenge went out -/
def exBufs : List Bytes := [respA, payFromA, payFromA, hostile, pay3, pay2']

theorem ex_bufs : addrBufs addrA (exOps.zip exResults) = exBufs := by decide +kernel

theorem ex_final : (runT Ex.a s0 exOps).map (fun x =>
      ((findClientByAddr x.2.clients addrA).map (fun y => (y.2.clientId, y.2.receiveKey, y.2.replayProtection.mostRecent)),
        x.2.protocolId)) = some (some (11, kc2s, 3), 42) := ex_run.2

/-- the receive side of the ghost list accepted the sequence numbers 2 and 3 (the response is not replay-protected) -/
theorem ex_accepted : (Recv.run Ex.a 42 kc2s exBufs).accepted = [3, 2] := by
  delta Recv.run Recv.step
  rw [C04C.decEqRP_fast]
  decide +kernel

theorem ex_slot : ∃ tr s i c, ReachT Ex.a s tr ∧ tr = exOps.zip exResults ∧ At s.clients i c ∧ c.addr = addrA ∧
    c.clientId = 11 ∧ c.receiveKey = kc2s ∧ c.replayProtection.mostRecent = 3 ∧ s.protocolId = 42 := by
  obtain ⟨tr, s, hrun, hr, he⟩ := ex_trace
  have h := ex_final
  rw [hrun] at h
  simp only [Option.map_some, Option.some.injEq, Prod.mk.injEq] at h
  obtain ⟨h, hp⟩ := h
  cases hf : findClientByAddr s.clients addrA with
  | none => rw [hf] at h; cases h
  | some y =>
    obtain ⟨i, c⟩ := y
    rw [hf] at h
    simp only [Option.map_some, Option.some.injEq, Prod.mk.injEq] at h
    exact ⟨tr, s, i, c, hr, he, (findAddr_some hf).1, (findAddr_some hf).2, h.1, h.2.1, h.2.2, hp⟩

example : ∃ tr s i c, ReachT Ex.a s tr ∧ At s.clients i c ∧ c.clientId = 11 ∧ addrBufs c.addr tr = exBufs ∧
    c.replayProtection = (Recv.run Ex.a 42 kc2s exBufs).window ∧ RP.Inv c.replayProtection [3, 2] := by
  obtain ⟨tr, s, i, c, hr, he, hc, had, hid, hk, hm, hp⟩ := ex_slot
  have hb : addrBufs c.addr tr = exBufs := by rw [had, he]; exact ex_bufs
  have hw := session_window_is_recv_window hr hc
  have hi := (session_window_inv hr hc).1
  rw [hb, hk, hp] at hw hi
  rw [ex_accepted] at hi
  exact ⟨tr, s, i, c, hr, hc, hid, hb, hw, hi⟩

example : ∃ tr s i c, ReachT Ex.a s tr ∧ At s.clients i c ∧ seqsOf (sessPayloads c.clientId tr) = [3, 2] ∧
    (seqsOf (sessPayloads c.clientId tr)).Nodup ∧ c.replayProtection.alreadyReceived 3 = true ∧
    c.replayProtection.alreadyReceived 2 = true := by
  obtain ⟨tr, s, i, c, hr, he, hc, had, hid, hk, hm, hp⟩ := ex_slot
  have hL : seqsOf (sessPayloads c.clientId tr) = [3, 2] := by rw [hid, he]; decide +kernel
  have hrej := session_surfaced_rejected hr hc
  rw [hL] at hrej
  exact ⟨tr, s, i, c, hr, hc, hL, session_payload_once hr _, hrej 3 (by simp), hrej 2 (by simp)⟩

example : ∃ (tr : Trace) (s s' : NetcodeServer) (c : Connection), ReachT Ex.a s tr ∧ c.clientId = 11 ∧
    step Ex.a s (.packet addrA (sealedBytes Ex.a (.payload [7]) 42 4 kc2s)) = some (.payload 11 [7], s') ∧
    ReachT Ex.a s' (tr ++ [(.packet addrA (sealedBytes Ex.a (.payload [7]) 42 4 kc2s), .payload 11 [7])]) ∧
    seqsOf (sessPayloads 11 (tr ++ [(.packet addrA (sealedBytes Ex.a (.payload [7]) 42 4 kc2s), .payload 11 [7])])) = [4, 3, 2] := by
  obtain ⟨tr, s, i, c, hr, he, hc, had, hid, hk, hm, hp⟩ := ex_slot
  have hb : addrBufs c.addr tr = exBufs := by rw [had, he]; exact ex_bufs
  have hfresh : 4 ∉ (Recv.run Ex.a s.protocolId c.receiveKey (addrBufs c.addr tr)).accepted := by
    rw [hb, hk, hp, ex_accepted]; decide
  obtain ⟨h1, h2, h3⟩ := genuine_accepted_after_run Ex.a exA_laws hr hc [7] (seq := 4) (by decide) hfresh (by rw [hm]; decide)
  rw [had, hid, hk, hp] at h1 h2 h3
  refine ⟨tr, s, _, c, hr, hid, h1, h2, ?_⟩
  rw [h3, he]
  decide +kernel

/-- `pending_window_is_recv_window` on a run: a request, then a payload datagram while the session is still half-open — it is
    decoded under the half-open session's key and moves ITS window (the window the connected session would start with) -/
def pendOps : List Op := [.packet addrA reqA, .packet addrA payFromA]

/-- that run in one kernel evaluation: its results; the half-open session of `addrA` in its final state (receive key, newest
    accepted sequence number); and the same two steps taken one `step` at a time (Props/C04X.lean): the payload datagram
    is answered with `None`, and `addrA` still has its half-open session -/
theorem pend_run :
    ((runT Ex.a s0 pendOps).map (fun x => x.1.map (·.2)) = some [.packetToSend addrA chalA, .none] ∧
      (runT Ex.a s0 pendOps).map (fun x =>
        (x.2.pendingClients.map (fun y => (decide (y.1 = addrA), y.2.receiveKey, y.2.replayProtection.mostRecent)),
          x.2.protocolId)) = some ([(true, kc2s, 2)], 42)) ∧
    ((step Ex.a s0 (.packet addrA reqA)).bind (fun x => (step Ex.a x.2 (.packet addrA payFromA)).map
      (fun y => (y.1, (pendingFind y.2.pendingClients addrA).isSome)))) = some (.none, true) := by
  decide +kernel

theorem pend_results : (runT Ex.a s0 pendOps).map (fun x => x.1.map (·.2)) =
    some [.packetToSend addrA chalA, .none] := pend_run.1.1

theorem pend_final : (runT Ex.a s0 pendOps).map (fun x =>
      (x.2.pendingClients.map (fun y => (decide (y.1 = addrA), y.2.receiveKey, y.2.replayProtection.mostRecent)),
        x.2.protocolId)) = some ([(true, kc2s, 2)], 42) := pend_run.1.2

example : ∃ tr s x, ReachT Ex.a s tr ∧ x ∈ s.pendingClients ∧ x.1 = addrA ∧ addrBufs x.1 tr = [payFromA] ∧
    x.2.replayProtection = (Recv.run Ex.a 42 kc2s [payFromA]).window ∧ x.2.replayProtection.mostRecent = 2 := by
  have h := pend_final
  have h1 := pend_results
  cases hr : runT Ex.a s0 pendOps with
  | none => rw [hr] at h; cases h
  | some y =>
    obtain ⟨tr, s⟩ := y
    rw [hr] at h h1
    simp only [Option.map_some, Option.some.injEq, Prod.mk.injEq] at h h1
    obtain ⟨h2, h3⟩ := h
    have hreach := reachT_runT pendOps (ReachT.init (a := Ex.a) s0_empty) hr
    rw [List.nil_append] at hreach
    have hz := runT_zip pendOps hr
    rw [h1] at hz
    cases hp : s.pendingClients with
    | nil => rw [hp] at h2; cases h2
    | cons x rest =>
      rw [hp] at h2
      simp only [List.map_cons, List.cons.injEq, Prod.mk.injEq] at h2
      obtain ⟨⟨e1, e2, e3⟩, _⟩ := h2
      have e1 : x.1 = addrA := by simpa using e1
      have hx : x ∈ s.pendingClients := by rw [hp]; exact List.mem_cons_self
      have hb : addrBufs x.1 tr = [payFromA] := by rw [e1, hz]; decide +kernel
      have hw := pending_window_is_recv_window hreach hx
      rw [hb, e2, h3] at hw
      exact ⟨tr, s, x, hreach, hx, e1, hb, hw, e3⟩

end Examples

end RenetVerif.C04W
