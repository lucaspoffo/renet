/-
  THE SINGLE-CONNECTION API-TRACE SYSTEM over the GENERATED `RenetClient`, with HOSTILE INPUT.

  `GConn` = one generated `RenetClient` (`Generated/Src/ConnTypes.lean`) created by the generated
  `RenetClient::from_channels`, plus two ghost logs of OUTPUTS (what every generated `get_packets_to_send` returned, what every
  generated `receive_message` returned).  `GConn.step` executes one public operation `COp` through the generated functions
  only (`send_message`, `receive_message`, `update`, `get_packets_to_send`, `process_packet` on ARBITRARY bytes, `set_connected`,
  `set_connecting`, `disconnect`, `disconnect_due_to_transport`); `none` = the generated function panicked.

  `MTr` is the same system over the model `Conn` (`MTr.step` = `SL.ConnOp.apply` of `COp.toConnOp`, with the outputs logged;
  `mtr_run_conn`); proofs about its steps go by `MTr.Step.of`, about its runs by `MTr.run_induction`, about the
  flush outputs a run logs by `MTr.flushes_all`.  `cexec_sim` / `crun_sim` / `crun_sim_conv`: under the decidable range side condition `CRunInRange cfg ops`
  (distinct channel ids per kind; before every operation the connection in range `SrcSystem.ConnInRange`; submitted messages
  shorter than `2^63`; the clock within `Duration::MAX`) the generated execution and the model run succeed together and end in
  `SimConn`-related states.  The one-call ties are `SrcSystem.ep_send` / `ep_receive` / `ep_update` / `ep_flush` / `ep_process`
  and the status setters of `Props/SrcTieConn.lean`.
-/
import RenetVerif.Lemmas.SrcEquiv.SrcMulti
import RenetVerif.Lemmas.ServerLemmas
namespace RenetVerif.SrcConnSystem
open RenetVerif RenetVerif.RustSem RenetVerif.C RenetVerif.System RenetVerif.SrcEquiv RenetVerif.SrcSystem
open Src.renet.remote_connection

/-- the public operations of one connection; `process` takes ARBITRARY bytes -/
inductive COp where
  | send (ch : Nat) (m : Bytes)
  | recv (ch : Nat)
  | update (dt : Nat)
  | flush
  | process (bytes : Bytes)
  | setConnected
  | setConnecting
  | disconnect
  | disconnectTransport
  deriving DecidableEq, Repr

def COp.toConnOp : COp → SL.ConnOp
  | .send ch m => .sendMessage ch m
  | .recv ch => .receiveMessage ch
  | .update dt => .update dt
  | .flush => .getPacketsToSend
  | .process b => .processPacket b
  | .setConnected => .setConnected
  | .setConnecting => .setConnecting
  | .disconnect => .disconnect
  | .disconnectTransport => .disconnectWith .transport

structure MTr where
  c : Conn
  /-- what every `getPacketsToSend` of the run returned, in order -/
  flushes : List (List Bytes)
  /-- what every `receiveMessage` of the run returned (with the channel id asked for), in order -/
  recvd : List (Nat × Option Bytes)

def MTr.init (cfg : Cfg) : MTr := ⟨Conn.fromChannels cfg.budget cfg.send cfg.recv, [], []⟩

def MTr.step (t : MTr) : COp → Option MTr
  | .send ch m =>
    match t.c.sendMessage ch m with
    | .ok c' => some { t with c := c' }
    | _ => none
  | .recv ch =>
    match t.c.receiveMessage ch with
    | .ok (c', o) => some { t with c := c', recvd := t.recvd ++ [(ch, o)] }
    | _ => none
  | .update dt =>
    match t.c.update dt with
    | .ok c' => some { t with c := c' }
    | _ => none
  | .flush =>
    match t.c.getPacketsToSend with
    | .ok (c', bs) => some { t with c := c', flushes := t.flushes ++ [bs] }
    | _ => none
  | .process b =>
    match t.c.processPacket b with
    | .ok c' => some { t with c := c' }
    | _ => none
  | .setConnected => some { t with c := t.c.setConnected }
  | .setConnecting => some { t with c := t.c.setConnecting }
  | .disconnect => some { t with c := t.c.disconnectWith .byClient }
  | .disconnectTransport => some { t with c := t.c.disconnectWith .transport }

def MTr.run (t : MTr) : List COp → Option MTr
  | [] => some t
  | op :: ops =>
    match t.step op with
    | some t' => t'.run ops
    | none => none

/-- a step that returns, by operation: what was called, and the state after it -/
inductive MTr.Step (t : MTr) : COp → MTr → Prop
  | send {ch : Nat} {m : Bytes} {c' : Conn} : t.c.sendMessage ch m = .ok c' → Step t (.send ch m) { t with c := c' }
  | recv {ch : Nat} {c' : Conn} {o : Option Bytes} : t.c.receiveMessage ch = .ok (c', o) →
      Step t (.recv ch) { t with c := c', recvd := t.recvd ++ [(ch, o)] }
  | update {dt : Nat} {c' : Conn} : t.c.update dt = .ok c' → Step t (.update dt) { t with c := c' }
  | flush {c' : Conn} {bs : List Bytes} : t.c.getPacketsToSend = .ok (c', bs) →
      Step t .flush { t with c := c', flushes := t.flushes ++ [bs] }
  | process {b : Bytes} {c' : Conn} : t.c.processPacket b = .ok c' → Step t (.process b) { t with c := c' }
  | setConnected : Step t .setConnected { t with c := t.c.setConnected }
  | setConnecting : Step t .setConnecting { t with c := t.c.setConnecting }
  | disconnect : Step t .disconnect { t with c := t.c.disconnectWith .byClient }
  | disconnectTransport : Step t .disconnectTransport { t with c := t.c.disconnectWith .transport }

theorem MTr.Step.of {t t' : MTr} {op : COp} (h : t.step op = some t') : t.Step op t' := by
  cases op with
  | send ch m =>
    simp only [MTr.step] at h
    split at h
    · cases h; exact .send ‹_›
    · cases h
  | recv ch =>
    simp only [MTr.step] at h
    split at h
    · cases h; exact .recv ‹_›
    · cases h
  | update dt =>
    simp only [MTr.step] at h
    split at h
    · cases h; exact .update ‹_›
    · cases h
  | flush =>
    simp only [MTr.step] at h
    split at h
    · cases h; exact .flush ‹_›
    · cases h
  | process b =>
    simp only [MTr.step] at h
    split at h
    · cases h; exact .process ‹_›
    · cases h
  | setConnected => cases h; exact .setConnected
  | setConnecting => cases h; exact .setConnecting
  | disconnect => cases h; exact .disconnect
  | disconnectTransport => cases h; exact .disconnectTransport

theorem MTr.run_cons {t t' : MTr} {op : COp} {ops : List COp} (h : t.run (op :: ops) = some t') :
    ∃ t1, t.step op = some t1 ∧ t1.run ops = some t' := by
  simp only [MTr.run] at h
  cases hs : t.step op with
  | none => rw [hs] at h; cases h
  | some t1 => rw [hs] at h; exact ⟨t1, rfl, h⟩

theorem MTr.run_induction {I : MTr → List COp → Prop}
    (hstep : ∀ t op ops t', I t (op :: ops) → t.step op = some t' → I t' ops) :
    ∀ (ops : List COp) (t t' : MTr), I t ops → t.run ops = some t' → I t' []
  | [], t, t', h, hr => by cases hr; exact h
  | op :: ops, t, t', h, hr => by
    obtain ⟨t1, hs, hr⟩ := MTr.run_cons hr
    exact MTr.run_induction hstep ops t1 t' (hstep t op ops t1 h hs) hr

theorem MTr.run_append (t : MTr) : ∀ (a b : List COp), t.run (a ++ b) = (t.run a).bind (fun t' => t'.run b) := by
  intro a
  induction a generalizing t with
  | nil => intro b; rfl
  | cons op a ih =>
    intro b
    simp only [List.cons_append, MTr.run]
    cases t.step op with
    | none => rfl
    | some t' => exact ih t' b

theorem mtr_step_log {t t' : MTr} {op : COp} (h : t.step op = some t') :
    t'.flushes = t.flushes ∨ ∃ bs, t.c.getPacketsToSend = .ok (t'.c, bs) ∧ t'.flushes = t.flushes ++ [bs] := by
  cases MTr.Step.of h with
  | flush hm => exact Or.inr ⟨_, hm, rfl⟩
  | _ => exact Or.inl rfl

/-- **every later flush of a trace.**  A run makes the log of flushes grow by some `news`.  Whenever `I` is kept by every step
    and every flush from an `I`-state hands out a `Q`-output, then from an `I`-state all of `news` is in `Q`. -/
theorem MTr.flushes_all : ∀ (ops : List COp) (t t' : MTr), t.run ops = some t' →
    ∃ news, t'.flushes = t.flushes ++ news ∧ ∀ (I : MTr → List COp → Prop) (Q : List Bytes → Prop),
      (∀ t op ops t', I t (op :: ops) → t.step op = some t' → I t' ops) →
      (∀ t op ops c' bs, I t (op :: ops) → t.c.getPacketsToSend = .ok (c', bs) → Q bs) →
      I t ops → ∀ bs ∈ news, Q bs
  | [], t, t', hr => by cases hr; exact ⟨[], by simp, fun _ _ _ _ _ _ h => by cases h⟩
  | op :: ops, t, t', hr => by
    obtain ⟨t1, hs, hr⟩ := MTr.run_cons hr
    obtain ⟨news, hn, hq⟩ := MTr.flushes_all ops t1 t' hr
    rcases mtr_step_log hs with e | ⟨bs, e2, e3⟩
    · exact ⟨news, by rw [hn, e], fun I Q hstep hflush hI => hq I Q hstep hflush (hstep _ _ _ _ hI hs)⟩
    · refine ⟨bs :: news, by rw [hn, e3, List.append_assoc]; rfl, fun I Q hstep hflush hI x hx => ?_⟩
      rcases List.mem_cons.mp hx with rfl | hx
      · exact hflush _ _ _ _ _ hI e2
      · exact hq I Q hstep hflush (hstep _ _ _ _ hI hs) x hx

theorem mtr_step_flushes_sub {t t' : MTr} {op : COp} (h : t.step op = some t') {bs : List Bytes} (hb : bs ∈ t.flushes) :
    bs ∈ t'.flushes := by
  rcases mtr_step_log h with e | ⟨_, -, e⟩
  · rw [e]; exact hb
  · rw [e]; exact List.mem_append_left _ hb

theorem mtr_step_conn {t t' : MTr} {op : COp} (h : t.step op = some t') : op.toConnOp.apply t.c = .ok t'.c := by
  cases MTr.Step.of h with
  | send hm => exact hm
  | recv hm => simp only [COp.toConnOp, SL.ConnOp.apply, hm, SL.Res.stateOf]
  | update hm => exact hm
  | flush hm => simp only [COp.toConnOp, SL.ConnOp.apply, hm, SL.Res.stateOf]
  | process hm => exact hm
  | setConnected => rfl
  | setConnecting => rfl
  | disconnect => rfl
  | disconnectTransport => rfl

theorem mtr_step_of_apply {t : MTr} {op : COp} {c' : Conn} (h : op.toConnOp.apply t.c = .ok c') :
    ∃ t', t.step op = some t' ∧ t'.c = c' := by
  cases op with
  | send ch m =>
    have h' : t.c.sendMessage ch m = .ok c' := h
    exact ⟨{ t with c := c' }, by simp only [MTr.step, h'], rfl⟩
  | recv ch =>
    obtain ⟨o, e⟩ := SL.Res.stateOf_ok (x := t.c.receiveMessage ch) h
    exact ⟨{ t with c := c', recvd := t.recvd ++ [(ch, o)] }, by simp only [MTr.step, e], rfl⟩
  | update dt =>
    have h' : t.c.update dt = .ok c' := h
    exact ⟨{ t with c := c' }, by simp only [MTr.step, h'], rfl⟩
  | flush =>
    obtain ⟨o, e⟩ := SL.Res.stateOf_ok (x := t.c.getPacketsToSend) h
    exact ⟨{ t with c := c', flushes := t.flushes ++ [o] }, by simp only [MTr.step, e], rfl⟩
  | process b =>
    have h' : t.c.processPacket b = .ok c' := h
    exact ⟨{ t with c := c' }, by simp only [MTr.step, h'], rfl⟩
  | setConnected => cases h; exact ⟨_, rfl, rfl⟩
  | setConnecting => cases h; exact ⟨_, rfl, rfl⟩
  | disconnect => cases h; exact ⟨_, rfl, rfl⟩
  | disconnectTransport => cases h; exact ⟨_, rfl, rfl⟩

theorem mtr_run_conn : ∀ (ops : List COp) (t t' : MTr), t.run ops = some t' →
    SL.Conn.runOps t.c (ops.map COp.toConnOp) = .ok t'.c
  | [], t, t', h => by cases h; rfl
  | op :: ops, t, t', h => by
    obtain ⟨t1, hs, h⟩ := MTr.run_cons h
    simp only [List.map_cons, SL.Conn.runOps, mtr_step_conn hs]
    exact mtr_run_conn ops t1 t' h

structure GConn where
  cl : RenetClient
  flushes : List (List GBytes)
  recvd : List (Nat × Option GBytes)

/-- the connection from the generated `RenetClient::from_channels` (`none`: an `assert!` of the constructor fired) -/
def GConn.init (cfg : Cfg) : Option GConn :=
  match (RenetClient.from_channels cfg.budget (cfg.send.map reprCfg) (cfg.recv.map reprCfg) : Res Empty _) with
  | .ok c => some ⟨c, [], []⟩
  | _ => none

/-- one public operation through the generated functions only; `none` = the generated function panicked -/
def GConn.step (g : GConn) : COp → Option GConn
  | .send ch m =>
    match (RenetClient.send_message g.cl ch (toNats m) : Res Empty _) with
    | .ok (c', _) => some { g with cl := c' }
    | _ => none
  | .recv ch =>
    match (RenetClient.receive_message g.cl ch : Res Empty _) with
    | .ok (c', o) => some { g with cl := c', recvd := g.recvd ++ [(ch, o)] }
    | _ => none
  | .update dt =>
    match (RenetClient.update g.cl dt : Res Empty _) with
    | .ok (c', _) => some { g with cl := c' }
    | _ => none
  | .flush =>
    match (RenetClient.get_packets_to_send g.cl : Res Empty _) with
    | .ok (c', bs) => some { g with cl := c', flushes := g.flushes ++ [bs] }
    | _ => none
  | .process b =>
    match (RenetClient.process_packet g.cl (toNats b) : Res Empty _) with
    | .ok (c', _) => some { g with cl := c' }
    | _ => none
  | .setConnected =>
    match (RenetClient.set_connected g.cl : Res Empty _) with
    | .ok (c', _) => some { g with cl := c' }
    | _ => none
  | .setConnecting =>
    match (RenetClient.set_connecting g.cl : Res Empty _) with
    | .ok (c', _) => some { g with cl := c' }
    | _ => none
  | .disconnect =>
    match (RenetClient.disconnect g.cl : Res Empty _) with
    | .ok (c', _) => some { g with cl := c' }
    | _ => none
  | .disconnectTransport =>
    match (RenetClient.disconnect_due_to_transport g.cl : Res Empty _) with
    | .ok (c', _) => some { g with cl := c' }
    | _ => none

def GConn.run (g : GConn) : List COp → Option GConn
  | [] => some g
  | op :: ops =>
    match g.step op with
    | some g' => g'.run ops
    | none => none

def GConn.exec (cfg : Cfg) (ops : List COp) : Option GConn :=
  match GConn.init cfg with
  | some g => g.run ops
  | none => none

theorem GConn.run_append (g : GConn) : ∀ (a b : List COp), g.run (a ++ b) = (g.run a).bind (fun g' => g'.run b) := by
  intro a
  induction a generalizing g with
  | nil => intro b; rfl
  | cons op a ih =>
    intro b
    simp only [List.cons_append, GConn.run]
    cases g.step op with
    | none => rfl
    | some g' => exact ih g' b

theorem GConn.exec_append (cfg : Cfg) (a b : List COp) :
    GConn.exec cfg (a ++ b) = (GConn.exec cfg a).bind (fun g' => g'.run b) := by
  unfold GConn.exec
  cases GConn.init cfg with
  | none => rfl
  | some g => exact g.run_append a b

def recvRepr (x : Nat × Option Bytes) : Nat × Option GBytes := (x.1, x.2.map toNats)

structure SimConn (t : MTr) (g : GConn) : Prop where
  cl : ∃ mrs, g.cl = reprConn mrs t.c
  flushes : g.flushes = t.flushes.map (List.map toNats)
  recvd : g.recvd = t.recvd.map recvRepr

def COpInRange (c : Conn) : COp → Prop
  | .send _ m => m.length < 2 ^ 63
  | .update dt => c.now + dt ≤ RustSem.Duration.MAX
  | _ => True

/-- the connection in range before every operation of the run (as far as the model run gets), every operation in range -/
def CRunInRangeFrom (t : MTr) : List COp → Prop
  | [] => True
  | op :: ops => ConnInRange t.c ∧ COpInRange t.c op ∧
      match t.step op with
      | some t' => CRunInRangeFrom t' ops
      | none => True

def CRunInRange (cfg : Cfg) (ops : List COp) : Prop := CfgDistinct cfg ∧ CRunInRangeFrom (MTr.init cfg) ops

instance (c : Conn) (op : COp) : Decidable (COpInRange c op) := by cases op <;> unfold COpInRange <;> infer_instance
instance decCRunInRangeFrom : ∀ (t : MTr) (ops : List COp), Decidable (CRunInRangeFrom t ops)
  | _, [] => isTrue trivial
  | t, op :: ops => by
    unfold CRunInRangeFrom
    have : Decidable (match t.step op with | some t' => CRunInRangeFrom t' ops | none => True) := by
      cases t.step op with
      | none => exact isTrue trivial
      | some t' => exact decCRunInRangeFrom t' ops
    infer_instance
instance (cfg : Cfg) (ops : List COp) : Decidable (CRunInRange cfg ops) := by unfold CRunInRange; infer_instance

theorem crunInRangeFrom_cons {t t1 : MTr} {op : COp} {ops : List COp} (h : CRunInRangeFrom t (op :: ops))
    (hs : t.step op = some t1) : ConnInRange t.c ∧ COpInRange t.c op ∧ CRunInRangeFrom t1 ops := by
  obtain ⟨h1, h2, h3⟩ := h
  rw [hs] at h3
  exact ⟨h1, h2, h3⟩

theorem crunInRangeFrom_prefix : ∀ (ops1 ops2 : List COp) (t : MTr), CRunInRangeFrom t (ops1 ++ ops2) → CRunInRangeFrom t ops1 := by
  intro ops1
  induction ops1 with
  | nil => intro _ _ _; trivial
  | cons op ops ih =>
    intro ops2 t h
    refine ⟨h.1, h.2.1, ?_⟩
    cases hs : t.step op with
    | none => trivial
    | some t' => exact ih ops2 t' (crunInRangeFrom_cons h hs).2.2

theorem crunInRangeFrom_suffix : ∀ (ops : List COp) {t0 t : MTr} {rest : List COp}, t0.run ops = some t →
    CRunInRangeFrom t0 (ops ++ rest) → CRunInRangeFrom t rest
  | [], _, _, _, h, hr => by cases h; exact hr
  | _ :: ops, _, _, _, h, hr => by
    obtain ⟨t1, hs, h⟩ := MTr.run_cons h
    exact crunInRangeFrom_suffix ops h (crunInRangeFrom_cons hr hs).2.2

theorem crunInRange_prefix (cfg : Cfg) (ops1 ops2 : List COp) (h : CRunInRange cfg (ops1 ++ ops2)) : CRunInRange cfg ops1 :=
  ⟨h.1, crunInRangeFrom_prefix ops1 ops2 _ h.2⟩

theorem countersOK_of_inRange {c : Conn} (h : ConnInRange c) : c.CountersOK := by
  have hM : (2 : Nat) ^ 60 ≤ Varint.MAX := by decide
  refine ⟨fun ch s hf => ?_, fun ch s hf => ?_, ?_⟩
  · have h1 : s.nextId ≤ 2 ^ 60 ∧ s.maxMem ≤ 2 ^ 60 := h.1 (ch, s) (SMap.mem_of_find? hf)
    exact ⟨by omega, by omega⟩
  · have h1 : s.slicedId + s.queue.length ≤ 2 ^ 60 ∧ s.maxMem ≤ 2 ^ 60 := h.2.1 (ch, s) (SMap.mem_of_find? hf)
    exact ⟨by omega, by omega⟩
  · have := h.2.2.2.2.1
    omega

theorem flush_inRange {c c' : Conn} {bs : List Bytes} (hg : EpGood c) (hr : ConnInRange c)
    (h : c.getPacketsToSend = .ok (c', bs)) : c'.status = c.status ∧ ∀ b ∈ bs, b.length ≤ NETCODE_MAX_PAYLOAD_BYTES := by
  have hc := countersOK_of_inRange hr
  obtain ⟨c1, bs1, e, hst, hfit, -⟩ := Conn.getPacketsToSend_fits c (CI.flushInv_of hg.sinv hc) hc.seq
  rw [h] at e; cases e
  exact ⟨hst, hfit⟩

theorem mtr_step_same {t t' : MTr} {op : COp} (hi : t.c.Inv) (hs : t.step op = some t') :
    t'.c.Inv ∧ t.c.SameChans t'.c :=
  CI.apply_invP goodP_winv hi (mtr_step_conn hs)

theorem mtr_run_same (ops : List COp) (t t' : MTr) (hi : t.c.Inv) (hr : t.run ops = some t') :
    t'.c.Inv ∧ t.c.SameChans t'.c :=
  MTr.run_induction (I := fun t1 _ => t1.c.Inv ∧ t.c.SameChans t1.c)
    (fun _ _ _ _ ⟨hi, h⟩ hs => ⟨(mtr_step_same hi hs).1, h.trans (mtr_step_same hi hs).2⟩)
    ops t t' ⟨hi, .refl _⟩ hr

theorem epGood_step {t t' : MTr} {op : COp} (h : EpGood t.c) (hs : t.step op = some t') : EpGood t'.c := by
  cases MTr.Step.of hs with
  | send hm => exact h.sendMessage hm
  | recv hm => exact h.receiveMessage hm
  | update hm => exact h.update hm
  | flush hm => exact h.getPacketsToSend hm
  | process hm => exact h.processPacket hm
  | setConnected => exact h.setConnected
  | setConnecting => exact h.setConnecting
  | disconnect => exact h.disconnectWith _
  | disconnectTransport => exact h.disconnectWith _

theorem epGood_run (ops : List COp) (t t' : MTr) (h : EpGood t.c) (hr : t.run ops = some t') : EpGood t'.c :=
  MTr.run_induction (I := fun t _ => EpGood t.c) (fun _ _ _ _ h hs => epGood_step h hs) ops t t' h hr

theorem epGood_init (cfg : Cfg) : EpGood (MTr.init cfg).c := epGood_fromChannels _ _ _

theorem cstep_sim {t : MTr} {g : GConn} (hg : EpGood t.c) (hsim : SimConn t g) (hr : ConnInRange t.c)
    (op : COp) (hop : COpInRange t.c op) :
    match t.step op with
    | some t' => ∃ g', g.step op = some g' ∧ SimConn t' g'
    | none => g.step op = none := by
  obtain ⟨⟨mrs, hC⟩, hfl, hrc⟩ := hsim
  cases op with
  | send ch m =>
    rcases (ep_send mrs hg hr ch m hop).map_cases with ⟨c', hm, hx⟩ | ⟨_, _, hm, hx⟩
    · simp only [MTr.step, GConn.step, hC, hm, hx]
      exact ⟨_, rfl, ⟨mrs, rfl⟩, hfl, hrc⟩
    · simp only [MTr.step, GConn.step, hC, hm, hx]
  | recv ch =>
    rcases (ep_receive mrs hg hr ch).map_cases with ⟨⟨c', o⟩, hm, hx⟩ | ⟨_, _, hm, hx⟩
    · simp only [MTr.step, GConn.step, hC, hm, hx]
      refine ⟨_, rfl, ⟨mrs, rfl⟩, hfl, ?_⟩
      simp only [hrc, List.map_append, List.map_cons, List.map_nil, recvRepr]
    · simp only [MTr.step, GConn.step, hC, hm, hx]
  | update dt =>
    rcases (ep_update mrs hg hr dt hop).map_cases with ⟨c', hm, hx⟩ | ⟨_, _, hm, hx⟩
    · simp only [MTr.step, GConn.step, hC, hm, hx]
      exact ⟨_, rfl, ⟨mrs, rfl⟩, hfl, hrc⟩
    · simp only [MTr.step, GConn.step, hC, hm, hx]
  | flush =>
    rcases (ep_flush mrs hg hr).map_cases with ⟨⟨c', bs⟩, hm, hx⟩ | ⟨_, _, hm, hx⟩
    · simp only [MTr.step, GConn.step, hC, hm, hx]
      refine ⟨_, rfl, ⟨mrs, rfl⟩, ?_, hrc⟩
      simp only [hfl, List.map_append, List.map_cons, List.map_nil]
    · simp only [MTr.step, GConn.step, hC, hm, hx]
  | process b =>
    obtain ⟨mrs', tie⟩ := ep_process mrs hg hr b
    rcases tie.map_cases with ⟨c', hm, hx⟩ | ⟨_, _, hm, hx⟩
    · simp only [MTr.step, GConn.step, hC, hm, hx]
      exact ⟨_, rfl, ⟨mrs', rfl⟩, hfl, hrc⟩
    · simp only [MTr.step, GConn.step, hC, hm, hx]
  | setConnected =>
    simp only [MTr.step, GConn.step, hC, SrcTie.conn_set_connected]
    exact ⟨_, rfl, ⟨mrs, rfl⟩, hfl, hrc⟩
  | setConnecting =>
    simp only [MTr.step, GConn.step, hC, SrcTie.conn_set_connecting]
    exact ⟨_, rfl, ⟨mrs, rfl⟩, hfl, hrc⟩
  | disconnect =>
    simp only [MTr.step, GConn.step, hC, SrcTie.conn_disconnect]
    exact ⟨_, rfl, ⟨mrs, rfl⟩, hfl, hrc⟩
  | disconnectTransport =>
    simp only [MTr.step, GConn.step, hC, SrcTie.conn_disconnect_due_to_transport]
    exact ⟨_, rfl, ⟨mrs, rfl⟩, hfl, hrc⟩

theorem crun_sim_from : ∀ (ops : List COp) (t : MTr) (g : GConn), EpGood t.c → SimConn t g → CRunInRangeFrom t ops →
    match t.run ops with
    | some t' => ∃ g', g.run ops = some g' ∧ SimConn t' g'
    | none => g.run ops = none := by
  intro ops
  induction ops with
  | nil => intro t g _ hsim _; exact ⟨g, rfl, hsim⟩
  | cons op ops ih =>
    intro t g hg hsim hrg
    have hstep := cstep_sim hg hsim hrg.1 op hrg.2.1
    simp only [MTr.run, GConn.run]
    cases hs : t.step op with
    | none =>
      rw [hs] at hstep
      simp only [hstep]
    | some t' =>
      rw [hs] at hstep
      obtain ⟨g', e, hsim'⟩ := hstep
      simp only [e]
      exact ih t' g' (epGood_step hg hs) hsim' (crunInRangeFrom_cons hrg hs).2.2

theorem cinit_sim (cfg : Cfg) (hd : CfgDistinct cfg) : ∃ g0, GConn.init cfg = some g0 ∧ SimConn (MTr.init cfg) g0 := by
  have e : (RenetClient.from_channels cfg.budget (cfg.send.map reprCfg) (cfg.recv.map reprCfg) : Res Empty _) = _ :=
    SrcTie.conn_from_channels cfg.budget cfg.send cfg.recv hd.1 hd.2.1 hd.2.2.1 hd.2.2.2
  refine ⟨⟨reprConn (fun _ => 0) (Conn.fromChannels cfg.budget cfg.send cfg.recv), [], []⟩, ?_, ⟨_, rfl⟩, rfl, rfl⟩
  simp only [GConn.init, e]

/-- **simulation of API traces, both directions at once** -/
theorem cexec_sim (cfg : Cfg) (ops : List COp) (hr : CRunInRange cfg ops) :
    match (MTr.init cfg).run ops with
    | some t => ∃ g, GConn.exec cfg ops = some g ∧ SimConn t g
    | none => GConn.exec cfg ops = none := by
  obtain ⟨g0, e0, hsim0⟩ := cinit_sim cfg hr.1
  simp only [GConn.exec, e0]
  exact crun_sim_from ops (MTr.init cfg) g0 (epGood_init cfg) hsim0 hr.2

theorem crun_sim (cfg : Cfg) (ops : List COp) (t : MTr) (hr : CRunInRange cfg ops) (ht : (MTr.init cfg).run ops = some t) :
    ∃ g, GConn.exec cfg ops = some g ∧ SimConn t g := by
  have := cexec_sim cfg ops hr
  rw [ht] at this
  exact this

theorem crun_sim_conv (cfg : Cfg) (ops : List COp) (g : GConn) (hr : CRunInRange cfg ops) (hg : GConn.exec cfg ops = some g) :
    ∃ t, (MTr.init cfg).run ops = some t ∧ SimConn t g := by
  have := cexec_sim cfg ops hr
  cases ht : (MTr.init cfg).run ops with
  | none => rw [ht] at this; rw [hg] at this; cases this
  | some t =>
    rw [ht] at this
    obtain ⟨g', e, hsim⟩ := this
    rw [hg] at e; cases e
    exact ⟨t, rfl, hsim⟩

end RenetVerif.SrcConnSystem
