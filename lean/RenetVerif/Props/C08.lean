/-
  C08 — "The sender stops retransmitting a reliable message and gives its bytes back to the channel's
  available memory only after every packet needed to rebuild that message has actually been handed to
  the peer endpoint; an endpoint never acknowledges a packet sequence number it did not receive.  Lost,
  duplicated, reordered or stale acknowledgements can delay that release but never cause it early."

  Also: the send half of C06 (hostile ack packets never panic) and C09 (send-side memory accounting).

  Model: Renet/Channels.lean (`SendRel` = SendChannelReliable) and Renet/Conn.lean (`Conn` = RenetClient).
  The proofs are in Lemmas/SendInv.lean (namespace `RenetVerif.SI`), with one frame fact of `send_message` from
  Lemmas/ServerLemmas.lean; this file states the results.

  Reading guide.  `c.sent` is the sender's table  sequence number ↦ (time, what that packet carried);
  an entry is written only by `get_packets_to_send` for a packet it has just produced.  A message is
  "released" when its id leaves `unacked` (from then on it is never retransmitted, and `mem`, which is
  exactly the sum of the stored message lengths, drops by its length).
-/
import RenetVerif.Lemmas.SendInv
import RenetVerif.Lemmas.ServerLemmas
namespace RenetVerif.C08
open RenetVerif RenetVerif.SI

theorem channel_new (ch resend maxMem : Nat) : (SendRel.new ch resend maxMem).Inv := SendRel.new_inv ch resend maxMem

/-- C09 (send side): under the invariant the available memory is exactly the budget minus the bytes of
    the messages still awaiting acknowledgement, and usage never exceeds the budget -/
theorem channel_memory_exact (s : SendRel) (h : s.Inv) : s.available = s.maxMem - msum s.unacked ∧ s.mem ≤ s.maxMem :=
  ⟨by unfold SendRel.available; rw [h.mem], h.bound⟩

/-- sliced entries: slice count is `ceil(len / SLICE_SIZE) ≥ 2`, bitmaps have that length, the counter equals
    the number of marked slices and is below the slice count -/
theorem channel_sliced_shape (s : SendRel) (h : s.Inv) (id : Nat) (m : Bytes) (n k nx : Nat) (a : List Bool)
    (ls : List (Option Nat)) (hf : SMap.find? s.unacked id = some (.sliced m n k nx a ls)) :
    C.SLICE_SIZE < m.length ∧ n = divCeil m.length C.SLICE_SIZE ∧ 2 ≤ n ∧ a.length = n ∧ ls.length = n ∧
    k = a.count true ∧ k < n ∧ id < s.nextId := by
  obtain ⟨o1, o2, o3, o4, o5, o6⟩ := h.find_ok hf
  refine ⟨o1, o2, ?_, o3, o4, o5, o6, h.find_lt hf⟩
  simp only [divCeil, C.SLICE_SIZE] at o1 o2
  omega

/-- `send_message` (ok case) keeps the invariant, is a `Step` (old recorded infos stay consistent), uses exactly
    `m.length` more bytes and binds the fresh id `nextId` without touching any other entry -/
theorem channel_sendMessage (s s' : SendRel) (m : Bytes) (h : s.Inv) (hs : s.sendMessage m = .ok s') :
    s'.Inv ∧ s.Step s' ∧ s'.mem = s.mem + m.length ∧ s'.nextId = s.nextId + 1 ∧
    (∃ u, u.msg = m ∧ SMap.find? s'.unacked s.nextId = some u) ∧
    (∀ id, id ≠ s.nextId → SMap.find? s'.unacked id = SMap.find? s.unacked id) :=
  SendRel.sendMessage_spec h hs

/-- `get_packets_to_send` (any sequence number, byte budget and time) keeps the invariant, changes only send
    times / round-robin cursors (`MapSim`), and every packet it emits names a stored message of the right kind,
    with `slice_index < num_slices` and the genuine payload -/
theorem channel_getPackets (s s' : SendRel) (seq avail now : Nat) (ps : List Packet) (seq' avail' : Nat) (h : s.Inv)
    (hg : s.getPackets seq avail now = (s', ps, seq', avail')) :
    s'.Inv ∧ s.Step s' ∧ s'.mem = s.mem ∧ s'.nextId = s.nextId ∧ MapSim s.unacked s'.unacked ∧ seq ≤ seq' ∧
    ∀ p ∈ ps, PktOK s'.ch s'.unacked p ∧ seq ≤ p.sequence ∧ p.sequence < seq' := by
  have hs := SendRel.getPackets_spec h seq avail now
  have hn : Numbered seq ps seq' := SendRel.getPackets_seq hg
  rw [hg] at hs
  obtain ⟨a, b, c, d, e, g⟩ := hs
  exact ⟨a, b, c, d, e, by have := hn.2; omega, fun p hp => ⟨b.1 ▸ g p hp, hn.bounds p hp⟩⟩

/-- a recorded info that was consistent stays consistent after any sequence of channel operations -/
theorem channel_info_stable (s s' : SendRel) (info : SentInfo) (hst : s.Step s') (hi : s.InfoOK info) : s'.InfoOK info :=
  hi.step hst

/-- C06 (send side): acknowledging a message id taken from a consistent `relMsgs` info never panics -/
theorem channel_message_ack_safe (s : SendRel) (h : s.Inv) (ch : Nat) (ids : List Nat) (id : Nat)
    (hi : s.InfoOK (.relMsgs ch ids)) (hid : id ∈ ids) :
    ∃ s', s.processMessageAck id = .ok s' ∧ s'.Inv ∧ s.Step s' :=
  SendRel.processMessageAck_spec h id (hi id hid).2

/-- C06 (send side): acknowledging a slice taken from a consistent `relSlice` info never panics -/
theorem channel_slice_ack_safe (s : SendRel) (h : s.Inv) (ch id idx : Nat) (hi : s.InfoOK (.relSlice ch id idx)) :
    ∃ s', s.processSliceAck id idx = .ok s' ∧ s'.Inv ∧ s.Step s' :=
  SendRel.processSliceAck_spec h id idx hi.2

/-- a sliced message is released by a slice ack only when that ack marks the last unmarked slice -/
theorem channel_slice_release_all_marked (s s' : SendRel) (h : s.Inv) (id idx : Nat) (m : Bytes) (n k nx : Nat)
    (a : List Bool) (ls : List (Option Nat)) (hf : SMap.find? s.unacked id = some (.sliced m n k nx a ls))
    (hidx : idx < n) (hr : s.processSliceAck id idx = .ok s') (hout : SMap.find? s'.unacked id = none) :
    ∀ i, i < n → i ≠ idx → a[i]? = some true := by
  obtain ⟨-, pe⟩ := SendRel.processSliceAck_exact h hr
  obtain ⟨-, -, o3, -⟩ := h.find_ok hf
  intro i hi hne
  cases hb : a[i]? with
  | none => rw [List.getElem?_eq_none_iff] at hb; omega
  | some b =>
    cases b with
    | true => rfl
    | false =>
      obtain ⟨u, hu, -⟩ := SendRel.pending_find ((pe id i).mpr ⟨⟨m, n, k, nx, a, ls, hf, hb⟩, fun e => hne e.2⟩)
      rw [hout] at hu; cases hu

/-! ## connection level: `SendInv` is an invariant of every operation -/

theorem conn_new (budget : Nat) (send recv : List ChanCfg) :
    (Conn.fromChannels budget send recv).SendInv ∧ Acks.WF (Conn.fromChannels budget send recv).pendingAcks :=
  ⟨Conn.fromChannels_inv budget send recv, trivial⟩

theorem conn_sendMessage (c c' : Conn) (ch : Nat) (m : Bytes) (h : c.SendInv) (hr : c.sendMessage ch m = .ok c') :
    c'.SendInv := Conn.sendMessage_inv h hr

theorem conn_receiveMessage (c c' : Conn) (ch : Nat) (m : Option Bytes) (h : c.SendInv)
    (hr : c.receiveMessage ch = .ok (c', m)) : c'.SendInv := h.same (Conn.receiveMessage_same hr).1

theorem conn_update (c c' : Conn) (dt : Nat) (h : c.SendInv) (hr : c.update dt = .ok c') : c'.SendInv :=
  Conn.update_inv h hr

theorem conn_getPacketsToSend (c c' : Conn) (out : List Bytes) (h : c.SendInv) (hw : Acks.WF c.pendingAcks)
    (hr : c.getPacketsToSend = .ok (c', out)) : c'.SendInv := (Conn.getPacketsToSend_spec h hw hr).1

/-- for EVERY byte string -/
theorem conn_processPacket (c c' : Conn) (bytes : Bytes) (h : c.SendInv) (hr : c.processPacket bytes = .ok c') :
    c'.SendInv := Conn.processPacket_inv h hr

/-- C06 (send half): a datagram that fails to decode, or decodes to an ack packet — whatever ranges it
    claims — never makes `process_packet` panic -/
theorem hostile_ack_never_panics (c : Conn) (bytes : Bytes) (h : c.SendInv)
    (hk : (∃ e, Packet.fromBytes bytes = .error e) ∨ ∃ aseq ranges, Packet.fromBytes bytes = .ok (.ack aseq ranges)) :
    ∃ c', c.processPacket bytes = .ok c' ∧ c'.SendInv := by
  obtain ⟨c', e⟩ := Conn.processPacket_no_panic_ack h hk
  exact ⟨c', e, Conn.processPacket_inv h e⟩

/-- composition with the receive side: if the receive-channel sub-step selected by the packet does not
    panic (Lemmas/RecvInv), `process_packet` does not panic -/
theorem processPacket_never_panics (c : Conn) (bytes : Bytes) (h : c.SendInv)
    (hrecv : ∀ p, Packet.fromBytes bytes = .ok p → RecvNoPanic c p) :
    ∃ c', c.processPacket bytes = .ok c' ∧ c'.SendInv := by
  obtain ⟨c', e⟩ := Conn.processPacket_no_panic h hrecv
  exact ⟨c', e, Conn.processPacket_inv h e⟩

/-- **Characterisation of a flush** on a live connection.  `get_packets_to_send` can unwind only inside packet
    serialisation (C16); every entry it adds to the sent table is filed under the sequence number of a
    packet `p` of this very flush (`pk` is exactly the list handed to serialisation, i.e. to the peer
    endpoint), with the info computed from `p`, under a fresh number `≥ packetSeq`; older entries are never
    overwritten. -/
theorem flush_records_exactly_what_is_emitted (c : Conn) (h : c.SendInv) (hw : Acks.WF c.pendingAcks)
    (hd : c.isDisconnected = false) :
    ∃ (c1 : Conn) (pk : List Packet),
      c.getPacketsToSend =
        (match Conn.serialiseAll pk with
         | .ok bs => .ok (c1, bs)
         | .err e => .ok (c1.disconnectWith (.packetSer e), [])
         | .panic s => .panic s) ∧
      (∀ x ∈ c1.sent, x ∈ c.sent ∨
        ∃ p ∈ pk, x.1 = p.sequence ∧ c.packetSeq ≤ p.sequence ∧ Conn.sentInfoOf p = .ok x.2.2) ∧
      (∀ k v, SMap.find? c.sent k = some v → SMap.find? c1.sent k = some v) := by
  -- everything up to serialisation succeeds: the channel loop (the order names channels), recording what it emitted
  obtain ⟨⟨sr, su, pk0, seq0, avail⟩, e⟩ :=
    chanLoop_ok c.now c.order (c.sendRel, c.sendUnrel, [], c.packetSeq, c.budget) (OrderOK.exist h.order)
  obtain ⟨-, -, -, r4⟩ := Conn.chanLoop_spec c.now e h.chans (fun p hp => by cases hp)
  obtain ⟨sent, hsent⟩ := recordSent_ok c.now (withAck pk0 seq0 c.pendingAcks) c.sent
    (forall_withAck (fun p hp => sentInfoOf_of_not_ack (r4 p hp).1)
      (fun hne => let ⟨_, hl⟩ := sentInfoOf_ack (seq := seq0) hw hne; ⟨_, hl⟩))
  obtain ⟨-, -, -, -, n1, n2⟩ := Conn.Flushed.spec (pk0 := pk0) (seq0 := seq0) (avail := avail)
    (c1 := { c with sendRel := sr, sendUnrel := su, sent := sent,
                    packetSeq := if c.pendingAcks.isEmpty then seq0 else seq0 + 1 })
    h hw ⟨hd, e, hsent, rfl, rfl, rfl, rfl, rfl, rfl, rfl⟩
  refine ⟨_, _, ?_, n1, n2⟩
  rw [Conn.getPacketsToSend_live hd, e]
  simp only [Res.bind_ok, hsent]
  rfl

/-- a disconnected endpoint ignores every datagram: once a flush failed (and nothing was handed to the peer)
    no release can happen any more -/
theorem disconnected_ignores_packets (c : Conn) (bytes : Bytes) (hd : c.isDisconnected = true) :
    c.processPacket bytes = .ok c :=
  Conn.processPacket_dead hd bytes

/-! ## the C08 statement -/

/-- **Release only by a matching acknowledgement.**  If message `id` of channel `ch` is awaiting
    acknowledgement before `process_packet` and no longer afterwards, then the datagram is an ack packet,
    one of its ranges covers a sequence number `seq`, and `seq` is recorded in the sender's table as a packet
    this endpoint produced that carried message `id` (as a whole small message, or one of its slices). -/
theorem release_only_by_ack (c c' : Conn) (bytes : Bytes) (h : c.SendInv) (hp : c.processPacket bytes = .ok c')
    (ch id : Nat) (s s' : SendRel) (hs : SMap.find? c.sendRel ch = some s) (hs' : SMap.find? c'.sendRel ch = some s')
    (hin : SMap.contains s.unacked id = true) (hout : ¬ SMap.contains s'.unacked id = true) :
    ∃ seq ranges aseq t info, Packet.fromBytes bytes = .ok (.ack aseq ranges) ∧
      (∃ r ∈ ranges, r.1 ≤ seq ∧ seq < r.2) ∧ SMap.find? c.sent seq = some (t, info) ∧
      ((∃ ids, info = .relMsgs ch ids ∧ id ∈ ids) ∨ ∃ idx, info = .relSlice ch id idx) := by
  rcases Conn.processPacket_eff h hp with hsame | ⟨aseq, ranges, L, -, hpk, hL, heff, -⟩
  · rw [hsame, hs] at hs'; cases hs'; exact absurd hin hout
  · obtain ⟨s2, hs2, eff⟩ := heff ch s hs
    rw [hs'] at hs2; cases hs2
    obtain ⟨v, hv⟩ := SMap.contains_iff_find?.mp hin
    obtain ⟨seq, hseq, t, info, hf, hn⟩ := eff.just id (by rw [hv]; simp) (SMap.not_contains_iff.mp hout)
    exact ⟨seq, ranges, aseq, t, info, hpk, Acks.mem_iff_exists.mp (hL seq hseq), hf, hn⟩

/-- **Each slice is marked only by an ack of a packet that carried exactly that slice.**  If slice `i` of
    message `id` is stored-and-unmarked before `process_packet` and not afterwards (marked, or the whole
    message released), then the datagram is an ack packet covering a recorded packet `relSlice ch id i`. -/
theorem slice_marked_only_by_ack (c c' : Conn) (bytes : Bytes) (h : c.SendInv) (hp : c.processPacket bytes = .ok c')
    (ch id i : Nat) (s s' : SendRel) (hs : SMap.find? c.sendRel ch = some s) (hs' : SMap.find? c'.sendRel ch = some s')
    (hpend : s.Pending id i) (hnot : ¬ s'.Pending id i) :
    ∃ seq ranges aseq t, Packet.fromBytes bytes = .ok (.ack aseq ranges) ∧
      (∃ r ∈ ranges, r.1 ≤ seq ∧ seq < r.2) ∧ SMap.find? c.sent seq = some (t, .relSlice ch id i) := by
  rcases Conn.processPacket_eff h hp with hsame | ⟨aseq, ranges, L, -, hpk, hL, heff, -⟩
  · rw [hsame, hs] at hs'; cases hs'; exact absurd hpend hnot
  · obtain ⟨s2, hs2, eff⟩ := heff ch s hs
    rw [hs'] at hs2; cases hs2
    rcases eff.pend id i hpend with hp2 | ⟨seq, hseq, t, hf⟩
    · exact absurd hp2 hnot
    · exact ⟨seq, ranges, aseq, t, hpk, Acks.mem_iff_exists.mp (hL seq hseq), hf⟩

/-- **A sliced message is released only after every one of its slices was acknowledged**: when a sliced
    message with `n` slices leaves `unacked` during `process_packet`, every slice index `i < n` was either
    already marked, or this very ack packet covers a recorded packet that carried slice `i`. -/
theorem sliced_release_needs_every_slice (c c' : Conn) (bytes : Bytes) (h : c.SendInv)
    (hp : c.processPacket bytes = .ok c') (ch id : Nat) (s s' : SendRel)
    (hs : SMap.find? c.sendRel ch = some s) (hs' : SMap.find? c'.sendRel ch = some s')
    (m : Bytes) (n k nx : Nat) (a : List Bool) (ls : List (Option Nat))
    (hf : SMap.find? s.unacked id = some (.sliced m n k nx a ls)) (hout : SMap.find? s'.unacked id = none)
    (i : Nat) (hi : i < n) :
    a[i]? = some true ∨
    ∃ seq ranges aseq t, Packet.fromBytes bytes = .ok (.ack aseq ranges) ∧
      (∃ r ∈ ranges, r.1 ≤ seq ∧ seq < r.2) ∧ SMap.find? c.sent seq = some (t, .relSlice ch id i) := by
  obtain ⟨-, -, o3, -⟩ := (h.chans ch s hs).1.find_ok hf
  cases hb : a[i]? with
  | none => rw [List.getElem?_eq_none_iff] at hb; omega
  | some b =>
    cases b with
    | true => exact Or.inl rfl
    | false =>
      right
      refine slice_marked_only_by_ack c c' bytes h hp ch id i s s' hs hs' ⟨m, n, k, nx, a, ls, hf, hb⟩ ?_
      rintro ⟨m', n', k', nx', a', ls', hf', -⟩
      rw [hout] at hf'; cases hf'

/-- **Available memory rises only through a release** (and the release is justified by `release_only_by_ack`) -/
theorem available_rises_only_on_release (c c' : Conn) (bytes : Bytes) (h : c.SendInv)
    (hp : c.processPacket bytes = .ok c') (ch : Nat) (s s' : SendRel)
    (hs : SMap.find? c.sendRel ch = some s) (hs' : SMap.find? c'.sendRel ch = some s')
    (hav : s.available < s'.available) :
    ∃ id, SMap.contains s.unacked id = true ∧ ¬ SMap.contains s'.unacked id = true := by
  rcases Conn.processPacket_eff h hp with hsame | ⟨aseq, ranges, L, -, hpk, hL, heff, -⟩
  · rw [hsame, hs] at hs'; cases hs'; exact absurd hav (Nat.lt_irrefl _)
  · obtain ⟨s2, hs2, eff⟩ := heff ch s hs
    rw [hs'] at hs2; cases hs2
    have hmax := eff.step.2.1
    unfold SendRel.available at hav
    obtain ⟨id, h1, h2⟩ := eff.memLt (by omega)
    refine ⟨id, ?_, SMap.not_contains_iff.mpr h2⟩
    cases hv : SMap.find? s.unacked id with
    | none => exact absurd hv h1
    | some v => exact SMap.contains_iff_find?.mpr ⟨v, hv⟩

/-- no other operation ever releases a message or raises available memory: `send_message` -/
theorem sendMessage_never_releases (c c' : Conn) (ch0 : Nat) (m : Bytes) (h : c.SendInv)
    (hr : c.sendMessage ch0 m = .ok c') (ch : Nat) (s : SendRel) (hs : SMap.find? c.sendRel ch = some s) :
    ∃ s', SMap.find? c'.sendRel ch = some s' ∧ s'.available ≤ s.available ∧
      (∀ id, SMap.contains s.unacked id = true → SMap.contains s'.unacked id = true) ∧
      (∀ id i, s.Pending id i → s'.Pending id i) := by
  obtain ⟨s', a1, a2, a3, a4, a5⟩ := Conn.sendMessage_keeps h hr hs
  refine ⟨s', a1, by unfold SendRel.available; omega, ?_, a5⟩
  intro id hc
  obtain ⟨v, hv⟩ := SMap.contains_iff_find?.mp hc
  exact SMap.contains_iff_find?.mpr ⟨v, a4 id v hv⟩

/-- … `get_packets_to_send` (retransmission changes send times only) -/
theorem getPacketsToSend_never_releases (c c' : Conn) (out : List Bytes) (h : c.SendInv) (hw : Acks.WF c.pendingAcks)
    (hr : c.getPacketsToSend = .ok (c', out)) (ch : Nat) (s : SendRel) (hs : SMap.find? c.sendRel ch = some s) :
    ∃ s', SMap.find? c'.sendRel ch = some s' ∧ s'.available = s.available ∧
      (∀ id, SMap.contains s'.unacked id = SMap.contains s.unacked id) ∧
      (∀ id i, s.Pending id i → s'.Pending id i) := by
  obtain ⟨s', a1, a2, a3, a4, a5⟩ := (Conn.getPacketsToSend_spec h hw hr).2.2.1.keeps hs
  exact ⟨s', a1, by unfold SendRel.available; rw [a2, a3], a4, a5⟩

/-- … `update` (which only forgets old entries of the sent table) and `receive_message` -/
theorem update_never_releases (c c' : Conn) (dt : Nat) (hr : c.update dt = .ok c') : c'.sendRel = c.sendRel :=
  (Conn.update_frame hr).sendRel

theorem receiveMessage_never_releases (c c' : Conn) (ch : Nat) (m : Option Bytes)
    (hr : c.receiveMessage ch = .ok (c', m)) : c'.sendRel = c.sendRel := (Conn.receiveMessage_same hr).1.1

/-- the sent table only shrinks while packets are processed or time passes: an ack can only ever refer
    to an entry written by an earlier `get_packets_to_send` -/
theorem sent_table_only_shrinks_on_process (c c' : Conn) (bytes : Bytes) (h : c.SendInv)
    (hp : c.processPacket bytes = .ok c') (k : Nat) (v : Nat × SentInfo) (hk : SMap.find? c'.sent k = some v) :
    SMap.find? c.sent k = some v := by
  rcases Conn.processPacket_cases hp with ⟨hs, -, -⟩ | ⟨p, -, -, hs, -⟩ | ⟨aseq, ranges, L, hd, hpk, -, -⟩
  · rw [hs.2.2.1] at hk; exact hk
  · rw [hs.2.2.1] at hk; exact hk
  · obtain ⟨L', c2, -, e, -, -, -, hsent, -⟩ := Conn.processPacket_ack_spec h hd hpk
    rw [e] at hp; cases hp
    rw [hsent k] at hk
    split at hk
    · cases hk
    · exact hk

/-! ## pending acks ⊆ received -/

/-- **An endpoint never acknowledges a sequence number it did not receive**: after `process_packet` the set
    denoted by the pending-ack list is contained in the old set plus the sequence number of the packet just
    parsed; and the list stays well formed -/
theorem pending_acks_only_received (c c' : Conn) (bytes : Bytes) (h : c.SendInv) (hw : Acks.WF c.pendingAcks)
    (hp : c.processPacket bytes = .ok c') :
    Acks.WF c'.pendingAcks ∧
    ∀ x, Acks.Mem x c'.pendingAcks →
      Acks.Mem x c.pendingAcks ∨ ∃ p, Packet.fromBytes bytes = .ok p ∧ x = p.sequence := by
  obtain ⟨hw', hc⟩ := Conn.processPacket_acks h hw hp
  refine ⟨hw', fun x hx => ?_⟩
  rcases hc with ⟨e, -⟩ | ⟨p, hdec, -, m⟩
  · exact Or.inl (e ▸ hx)
  · exact (Acks.add_mem_sub _ _ _ hw x ((m x).1 hx)).imp_right fun e => ⟨p, hdec, e⟩

/-- no other operation touches the pending-ack list -/
theorem pending_acks_unchanged_elsewhere (c : Conn) :
    (∀ c' ch m, c.sendMessage ch m = .ok c' → c'.pendingAcks = c.pendingAcks) ∧
    (∀ c' ch m, c.receiveMessage ch = .ok (c', m) → c'.pendingAcks = c.pendingAcks) ∧
    (∀ c' dt, c.update dt = .ok c' → c'.pendingAcks = c.pendingAcks) ∧
    (∀ c' out, c.SendInv → Acks.WF c.pendingAcks → c.getPacketsToSend = .ok (c', out) → c'.pendingAcks = c.pendingAcks) :=
  ⟨fun _ _ _ hr => (SL.Conn.sendMessage_frame hr).2.2.2.2.1, fun _ _ _ hr => (Conn.receiveMessage_same hr).2,
    fun _ _ hr => (Conn.update_frame hr).pendingAcks, fun _ _ h hw hr => (Conn.getPacketsToSend_spec h hw hr).2.1⟩

/-- the acknowledgement that is sent denotes exactly the pending list: the packets handed to serialisation
    are non-ack packets followed by `Packet.ack seq c.pendingAcks` (C16 `ack_packet_denotes`: it decodes to
    exactly that list) -/
theorem sent_ack_is_exactly_pending (c c' : Conn) (out : List Bytes) (h : c.SendInv) (hw : Acks.WF c.pendingAcks)
    (hd : c.isDisconnected = false) (hne : c.pendingAcks ≠ []) (hr : c.getPacketsToSend = .ok (c', out)) :
    ∃ pk0 seq0, (∀ p ∈ pk0, isAckPkt p = false) ∧
      (Conn.serialiseAll (pk0 ++ [Packet.ack seq0 c.pendingAcks]) = .ok out ∨
       ∃ e, Conn.serialiseAll (pk0 ++ [Packet.ack seq0 c.pendingAcks]) = .err e ∧ out = []) :=
  Conn.getPacketsToSend_ack h hw hd hne hr

/-- … and what is actually put on the wire (the last datagram of the flush) decodes to exactly the pending list -/
theorem wire_ack_is_exactly_pending (c c' : Conn) (out : List Bytes) (h : c.SendInv) (hw : Acks.WF c.pendingAcks)
    (hd : c.isDisconnected = false) (hne : c.pendingAcks ≠ []) (hr : c.getPacketsToSend = .ok (c', out))
    (hout : out ≠ []) :
    ∃ seq0 b, out.getLast? = some b ∧ Packet.fromBytes b = .ok (.ack seq0 c.pendingAcks) :=
  Conn.getPacketsToSend_wire_ack h hw hd hne hr hout

/-- states reachable from a fresh connection by any interleaving of API calls and arbitrary incoming datagrams -/
inductive Reach (budget : Nat) (send recv : List ChanCfg) : Conn → Prop
  | init : Reach budget send recv (Conn.fromChannels budget send recv)
  | sendMessage {c c' ch m} : Reach budget send recv c → c.sendMessage ch m = .ok c' → Reach budget send recv c'
  | receiveMessage {c c' ch m} : Reach budget send recv c → c.receiveMessage ch = .ok (c', m) → Reach budget send recv c'
  | update {c c' dt} : Reach budget send recv c → c.update dt = .ok c' → Reach budget send recv c'
  | flush {c c' out} : Reach budget send recv c → c.getPacketsToSend = .ok (c', out) → Reach budget send recv c'
  | packet {c c' bytes} : Reach budget send recv c → c.processPacket bytes = .ok c' → Reach budget send recv c'
  | disconnect {c r} : Reach budget send recv c → Reach budget send recv (c.disconnectWith r)
  | connected {c} : Reach budget send recv c → Reach budget send recv c.setConnected
  | connecting {c} : Reach budget send recv c → Reach budget send recv c.setConnecting

/-- the send-side invariant and well-formedness of the pending acks hold in every reachable state -/
theorem reach_inv {budget : Nat} {send recv : List ChanCfg} {c : Conn} (hr : Reach budget send recv c) :
    c.SendInv ∧ Acks.WF c.pendingAcks := by
  induction hr with
  | init => exact conn_new _ _ _
  | sendMessage _ h ih => exact ⟨Conn.sendMessage_inv ih.1 h, by rw [(pending_acks_unchanged_elsewhere _).1 _ _ _ h]; exact ih.2⟩
  | receiveMessage _ h ih => exact ⟨ih.1.same (Conn.receiveMessage_same h).1, by rw [(Conn.receiveMessage_same h).2]; exact ih.2⟩
  | update _ h ih => exact ⟨Conn.update_inv ih.1 h, by rw [(Conn.update_frame h).pendingAcks]; exact ih.2⟩
  | flush _ h ih =>
    obtain ⟨a, b, -⟩ := Conn.getPacketsToSend_spec ih.1 ih.2 h
    exact ⟨a, by rw [b]; exact ih.2⟩
  | packet _ h ih => exact ⟨Conn.processPacket_inv ih.1 h, (Conn.processPacket_acks ih.1 ih.2 h).1⟩
  | disconnect _ ih =>
    obtain ⟨a, b, -⟩ := Conn.disconnectWith_same _ _
    exact ⟨ih.1.same a, by rw [b]; exact ih.2⟩
  | @connected c _ ih =>
    obtain ⟨st, e⟩ := c.setConnected_eq
    rw [e]
    exact ⟨ih.1.same ⟨rfl, rfl, rfl, rfl, rfl⟩, ih.2⟩
  | @connecting c _ ih =>
    obtain ⟨st, e⟩ := c.setConnecting_eq
    rw [e]
    exact ⟨ih.1.same ⟨rfl, rfl, rfl, rfl, rfl⟩, ih.2⟩

/-- C06 (send half), unconditional form: in every reachable state, a datagram that does not decode or decodes
    to an ack packet is processed without panic -/
theorem reachable_hostile_ack_never_panics {budget : Nat} {send recv : List ChanCfg} {c : Conn}
    (hr : Reach budget send recv c) (bytes : Bytes)
    (hk : (∃ e, Packet.fromBytes bytes = .error e) ∨ ∃ aseq ranges, Packet.fromBytes bytes = .ok (.ack aseq ranges)) :
    ∃ c', c.processPacket bytes = .ok c' := by
  obtain ⟨c', e, -⟩ := hostile_ack_never_panics c bytes (reach_inv hr).1 hk
  exact ⟨c', e⟩

/-! ## non-vacuity: a concrete run

  one ordered-reliable channel 0 (budget 10000 bytes, resend 100 ns) and one unreliable channel 1;
  a 3-byte message (id 0) and a 1201-byte message (id 1, two slices) are sent and flushed:
  packet 0 = slice 0 of id 1, packet 1 = slice 1 of id 1, packet 2 = small packet with id 0. -/
namespace Ex

def cfg : List ChanCfg := [⟨0, .ordered, 10000, 100⟩, ⟨1, .unreliable, 10000, 0⟩]
def val {α : Type} (x : Res Empty α) (d : α) : α := match x with | .ok a => a | _ => d
def bytesOf (p : Packet) : Bytes := match p.toBytes C.SER_BUFFER with | .ok b => b | _ => []

def big : Bytes := List.replicate 1201 7
def c0 : Conn := Conn.fromChannels 60000 cfg cfg
def c1 : Conn := val (c0.sendMessage 0 [1, 2, 3]) c0
def c2 : Conn := val (c1.sendMessage 0 (big)) c1
def c3 : Conn := (val c2.getPacketsToSend (c2, [])).1
/-- acknowledges packet 2 (the small message) -/
def ackSmall : Bytes := bytesOf (.ack 0 [(2, 3)])
/-- acknowledges packet 0 (slice 0 of message 1) -/
def ackSlice0 : Bytes := bytesOf (.ack 1 [(0, 1)])
/-- acknowledges packets 0 and 1 (both slices of message 1) and 5..9 (never sent) -/
def ackBoth : Bytes := bytesOf (.ack 2 [(0, 2), (5, 10)])
def chan (c : Conn) : SendRel := (SMap.find? c.sendRel 0).getD (SendRel.new 0 0 0)
deriving instance DecidableEq for Except

/-- the run `c0 → c1 → c2 → c3` and everything the examples below read off its states, in one kernel evaluation:
    each step returns; `c2` holds two queued messages and nothing sent; the table recorded by the flush and the
    channel of `c3`; what `c3` does on overlapping ack ranges, `disconnect`, `update` (5 s) and a third message -/
theorem all :
    (c0.sendMessage 0 [1, 2, 3] = .ok c1 ∧ c1.sendMessage 0 big = .ok c2 ∧
      c2.getPacketsToSend = .ok (c3, (val c2.getPacketsToSend (c2, [])).2) ∧
      (chan c1).sendMessage (big) = .ok (chan c2)) ∧
    (c2.pendingAcks = [] ∧ c2.isDisconnected = false ∧ (chan c2).unacked.map (·.1) = [0, 1] ∧
      (chan c3).unacked.map (·.1) = [0, 1] ∧ c2.sent = []) ∧
    (c3.sent = [(0, (0, .relSlice 0 1 0)), (1, (0, .relSlice 0 1 1)), (2, (0, .relMsgs 0 [0]))] ∧
      c3.pendingAcks = [] ∧ SMap.find? c3.sendRel 0 = some (chan c3) ∧
      SMap.find? (chan c3).unacked 1 = some (.sliced (big) 2 0 2 [false, false] [some 0, some 0]) ∧
      (chan c3).mem = 1204 ∧ (chan c3).available = 8796) ∧
    ((Conn.newAcks c3.sent [(0, 1), (0, 1)] >>= Conn.ackLoop c3) =
        .panic "remote_connection.rs sent_packets.remove(seq).unwrap()" ∧
      (c3.disconnectWith .byClient).isDisconnected = true) ∧
    (c3.update 5000000000 = .ok (val (c3.update 5000000000) c3) ∧ (val (c3.update 5000000000) c3).sent = [] ∧
      (val (c3.update 5000000000) c3).sendRel = c3.sendRel) ∧
    (c3.sendMessage 0 [9, 9] = .ok (val (c3.sendMessage 0 [9, 9]) c3) ∧
      (chan (val (c3.sendMessage 0 [9, 9]) c3)).unacked.map (·.1) = [0, 1, 2]) := by
  decide +kernel

theorem c0_inv : c0.SendInv := Conn.fromChannels_inv _ _ _
theorem c1_inv : c1.SendInv := Conn.sendMessage_inv c0_inv (ch := 0) (m := [1, 2, 3]) all.1.1
theorem c2_inv : c2.SendInv := Conn.sendMessage_inv c1_inv (ch := 0) (m := big) all.1.2.1
theorem c3_inv : c3.SendInv :=
  (Conn.getPacketsToSend_spec c2_inv (c' := c3) (out := (val c2.getPacketsToSend (c2, [])).2)
    (by rw [all.2.1.1]; trivial) all.1.2.2.1).1

example : c3.sent = [(0, (0, .relSlice 0 1 0)), (1, (0, .relSlice 0 1 1)), (2, (0, .relMsgs 0 [0]))] := all.2.2.1.1

/-- `c3` under the acks for the small message, for both slices of the sliced one, and under a repeated ack -/
theorem acks :
    (c3.processPacket ackSmall = .ok (val (c3.processPacket ackSmall) c3) ∧
      SMap.find? c3.sendRel 0 = some (chan c3) ∧
      SMap.find? (val (c3.processPacket ackSmall) c3).sendRel 0 = some (chan (val (c3.processPacket ackSmall) c3)) ∧
      SMap.contains (chan c3).unacked 0 = true ∧
      ¬ SMap.contains (chan (val (c3.processPacket ackSmall) c3)).unacked 0 = true ∧
      (chan (val (c3.processPacket ackSmall) c3)).available = (chan c3).available + 3) ∧
    (c3.processPacket ackBoth = .ok (val (c3.processPacket ackBoth) c3) ∧
      SMap.find? c3.sendRel 0 = some (chan c3) ∧
      SMap.find? (val (c3.processPacket ackBoth) c3).sendRel 0 = some (chan (val (c3.processPacket ackBoth) c3)) ∧
      SMap.contains (chan c3).unacked 1 = true ∧
      ¬ SMap.contains (chan (val (c3.processPacket ackBoth) c3)).unacked 1 = true ∧
      (chan (val (c3.processPacket ackBoth) c3)).available = (chan c3).available + 1201) ∧
    (val (c3.processPacket ackSmall) c3).processPacket ackSmall =
      .ok { val (c3.processPacket ackSmall) c3 with pendingAcks := [(0, 1)] } := by
  decide +kernel

/-- hypotheses of `release_only_by_ack` are met by the small message … -/
example : ∃ c', c3.processPacket ackSmall = .ok c' ∧ SMap.find? c3.sendRel 0 = some (chan c3) ∧
    SMap.find? c'.sendRel 0 = some (chan c') ∧ SMap.contains (chan c3).unacked 0 = true ∧
    ¬ SMap.contains (chan c').unacked 0 = true ∧ (chan c').available = (chan c3).available + 3 :=
  ⟨_, acks.1⟩

/-- … and by the sliced message (released by the ack covering both slices, stale extra range ignored) -/
example : ∃ c', c3.processPacket ackBoth = .ok c' ∧ SMap.find? c3.sendRel 0 = some (chan c3) ∧
    SMap.find? c'.sendRel 0 = some (chan c') ∧ SMap.contains (chan c3).unacked 1 = true ∧
    ¬ SMap.contains (chan c').unacked 1 = true ∧ (chan c').available = (chan c3).available + 1201 :=
  ⟨_, acks.2.1⟩

def c4 : Conn := val (c3.processPacket ackSlice0) c3
def c5 : Conn := (val c4.getPacketsToSend (c4, [])).1
def out5 : List Bytes := (val c4.getPacketsToSend (c4, [])).2

/-- `c3 → c4 → c5`: the ack for packet 0 marks slice 0 of message 1 and nothing else, its
    own sequence number becomes pending, and the next flush puts exactly `ack [(1,2)]` on the wire -/
theorem c4_facts :
    (c3.processPacket ackSlice0 = .ok c4 ∧
      SMap.find? (chan c4).unacked 1 = some (.sliced (big) 2 1 2 [true, false] [some 0, some 0]) ∧
      SMap.contains (chan c4).unacked 1 = true ∧ (chan c4).available = (chan c3).available) ∧
    (c4.pendingAcks = [(1, 2)] ∧ c4.isDisconnected = false ∧ c4.getPacketsToSend = .ok (c5, out5) ∧
      out5.map Packet.fromBytes = [.ok (.ack 3 [(1, 2)])]) ∧
    (out5 ≠ [] ∧ out5.getLast?.map Packet.fromBytes = some (.ok (.ack 3 [(1, 2)]))) := by
  decide +kernel

theorem c4_step : c3.processPacket ackSlice0 = .ok c4 := c4_facts.1.1
theorem c3_entry : SMap.find? (chan c3).unacked 1 =
    some (.sliced (big) 2 0 2 [false, false] [some 0, some 0]) := all.2.2.1.2.2.2.1
theorem c4_entry : SMap.find? (chan c4).unacked 1 =
    some (.sliced (big) 2 1 2 [true, false] [some 0, some 0]) := c4_facts.1.2.1

/-- hypotheses of `slice_marked_only_by_ack`: acknowledging packet 0 marks slice 0 only; the message stays
    stored, slice 1 stays pending, available memory is unchanged -/
example : c3.processPacket ackSlice0 = .ok c4 ∧ (chan c3).Pending 1 0 ∧ ¬ (chan c4).Pending 1 0 ∧
    (chan c4).Pending 1 1 ∧ SMap.contains (chan c4).unacked 1 = true ∧ (chan c4).available = (chan c3).available := by
  have h1 : (chan c3).Pending 1 0 := ⟨_, _, _, _, _, _, c3_entry, rfl⟩
  have h2 : ¬ (chan c4).Pending 1 0 := by
    rintro ⟨m, n, k, nx, a, ls, hf, ha⟩
    rw [c4_entry] at hf; cases hf; cases ha
  have h3 : (chan c4).Pending 1 1 := ⟨_, _, _, _, _, _, c4_entry, rfl⟩
  exact ⟨c4_step, h1, h2, h3, c4_facts.1.2.2⟩

/-- a duplicate of the same ack afterwards changes nothing (the entry is gone from the sent table) -/
example : (val (c3.processPacket ackSmall) c3).processPacket ackSmall =
    .ok { val (c3.processPacket ackSmall) c3 with pendingAcks := [(0, 1)] } := acks.2.2

/-- hypotheses of `hostile_ack_never_panics`: an ack for sequence numbers that were never sent -/
example : c3.SendInv ∧ Packet.fromBytes (bytesOf (.ack 7 [(100, 4000)])) = .ok (.ack 7 [(100, 4000)]) :=
  ⟨c3_inv, by decide +kernel⟩

/-- hypotheses of `pending_acks_only_received`: the ack packet's own sequence number becomes pending -/
example : Acks.WF c3.pendingAcks ∧ c4.pendingAcks = [(1, 2)] := by
  rw [all.2.2.1.2.1]
  exact ⟨trivial, c4_facts.2.1.1⟩

/-- hypotheses of `sent_ack_is_exactly_pending`: the next flush sends exactly `ack [(1,2)]` -/
example : c4.SendInv ∧ Acks.WF c4.pendingAcks ∧ c4.isDisconnected = false ∧ c4.pendingAcks ≠ [] ∧
    c4.getPacketsToSend = .ok (c5, out5) ∧ out5.map Packet.fromBytes = [.ok (.ack 3 [(1, 2)])] := by
  obtain ⟨h1, h2, h3, h4⟩ := c4_facts.2.1
  refine ⟨Conn.processPacket_inv c3_inv c4_step, ?_, h2, ?_, h3, h4⟩
  · rw [h1]; simp [Acks.WF]
  · rw [h1]; simp

/-- hypotheses of `wire_ack_is_exactly_pending`: something was emitted -/
example : out5 ≠ [] ∧ out5.getLast?.map Packet.fromBytes = some (.ok (.ack 3 [(1, 2)])) := c4_facts.2.2

/-- hypotheses of `flush_records_exactly_what_is_emitted` / `getPacketsToSend_never_releases` (state `c2`: two
    queued messages, nothing sent yet; the flush records three packets and keeps both messages) -/
example : c2.SendInv ∧ Acks.WF c2.pendingAcks ∧ c2.isDisconnected = false ∧
    c2.getPacketsToSend = .ok (c3, (val c2.getPacketsToSend (c2, [])).2) ∧
    (chan c2).unacked.map (·.1) = [0, 1] ∧ (chan c3).unacked.map (·.1) = [0, 1] ∧ c2.sent = [] := by
  obtain ⟨h1, h2, h3⟩ := all.2.1
  exact ⟨c2_inv, by rw [h1]; trivial, h2, all.1.2.2.1, h3⟩

/-- hypotheses of the channel-level theorems: the channel of `c3` satisfies `SendRel.Inv`, holds a small and a
    sliced entry, and the recorded infos are consistent with it -/
example : (chan c3).Inv ∧ (chan c3).InfoOK (.relMsgs 0 [0]) ∧ (chan c3).InfoOK (.relSlice 0 1 1) ∧
    (chan c3).mem = 1204 ∧ (chan c3).available = 8796 := by
  obtain ⟨hsent, -, hf, -, hmem⟩ := all.2.2.1
  have h1 := (c3_inv.sentOK (2, (0, .relMsgs 0 [0])) (by rw [hsent]; decide)).2 0 rfl
  have h2 := (c3_inv.sentOK (1, (0, .relSlice 0 1 1)) (by rw [hsent]; decide)).2 0 rfl
  obtain ⟨s1, e1, i1⟩ := h1
  obtain ⟨s2, e2, i2⟩ := h2
  rw [hf] at e1 e2
  have e1' := Option.some.inj e1
  have e2' := Option.some.inj e2
  subst e1' e2'
  exact ⟨(c3_inv.chans 0 _ hf).1, i1, i2, hmem⟩

/-- hypotheses of `channel_sendMessage` with a message that must be sliced, and of the memory-limit branch -/
example : ∃ s', (chan c1).sendMessage (big) = .ok s' ∧ s' = chan c2 :=
  ⟨chan c2, all.1.2.2.2, rfl⟩
example : (SendRel.new 0 100 5).sendMessage [1, 2, 3, 4, 5, 6] = .error .maxMemory := by decide

/-- the decoder's guarantee (ranges ascending and disjoint, `fromBytes_ack_wf`) is what keeps the ack loop
    safe: fed directly with overlapping ranges — which no byte string decodes to — the modelled loop would
    hit `sent_packets.remove(seq).unwrap()` on the second visit of sequence number 0 -/
example : (Conn.newAcks c3.sent [(0, 1), (0, 1)] >>= Conn.ackLoop c3) =
    .panic "remote_connection.rs sent_packets.remove(seq).unwrap()" := all.2.2.2.1.1

/-- `c3` is reachable (hypothesis of `reachable_hostile_ack_never_panics`) -/
example : Reach 60000 cfg cfg c3 :=
  .flush (.sendMessage (.sendMessage .init all.1.1) all.1.2.1) all.1.2.2.1

/-- hypotheses of `disconnected_ignores_packets`, `conn_update`, `sendMessage_never_releases` -/
example : (c3.disconnectWith .byClient).isDisconnected = true := all.2.2.2.1.2
example : ∃ c', c3.update 5000000000 = .ok c' ∧ c'.sent = [] ∧ c'.sendRel = c3.sendRel :=
  ⟨_, all.2.2.2.2.1⟩
example : ∃ c', c3.sendMessage 0 [9, 9] = .ok c' ∧ (chan c').unacked.map (·.1) = [0, 1, 2] :=
  ⟨_, all.2.2.2.2.2⟩

end Ex
end RenetVerif.C08
