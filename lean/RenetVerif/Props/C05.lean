/-
  C05 — Only a valid, unexpired, untampered connect token from its own address connects.

  Model: RenetVerif/Netcode/Server.lean, Token.lean, Wire.lean (renetcode/src/{server,token,packet}.rs, repaired:
  the response path compares the challenge token's id and user data with the half-open session — defect D10).
  Proofs: Lemmas/NcHandshake.lean on top of the symbolic execution of `process_packet` (Lemmas/NcTablePP.lean).
  The AEAD is a parameter; no theorem assumes unforgeability: "authenticates" always means "the AEAD's `open`
  succeeded under that key / nonce / AAD".  `ServerInv`: Lemmas/NcTable.lean (the C10 invariant).

  `Accepted a s addr v pid expire xnonce data t` (Lemmas/NcRequest.lean) = every check a connection request passes
  before the server answers it:
    version   v = NETCODE_VERSION_INFO                protocol   pid = s.protocolId
    unexpired now.secs < expire                       opens      the private token `data` xopens under s.connectKey,
                                                                 nonce `xnonce`, AAD = version ‖ protocol ‖ expire,
                                                                 and parses to the private token `t`
    host      secure ⇒ some address listed in `t` ∈ s.publicAddresses
    addrFree / idFree   neither `addr` nor `t.clientId` is connected          room   pending map not full
    binding   no token entry carries this token's MAC with another address
-/
import RenetVerif.Lemmas.NcExamples
namespace RenetVerif.C05
open RenetVerif RenetVerif.Netcode RenetVerif.Netcode.NS

/-- **`connected_only_if`** — `process_packet` reports `ClientConnected id addr' ud` only if: the datagram came from
    `addr' = addr`; `addr` had a half-open session `p` with `p.clientId = id` and `p.userData = ud`; the datagram
    decodes under `p`'s client-to-server key to a `Response` whose challenge token opens under this server's
    challenge key to **exactly `(id, ud)`** (D10 repaired); `id` and `addr` were not connected and slot `i` was free.
    The new session is `p` promoted, the half-open one is gone, the answer is the keep-alive for slot `i`. -/
theorem connected_only_if {a : AEAD} {s s' : NetcodeServer} {addr addr' : Addr} {buf ud ka : Bytes} {id : Nat}
    (hi : ServerInv s) (h : s.processPacket a addr buf = .ok (.clientConnected id addr' ud ka, s')) :
    addr' = addr ∧ ∃ p sq ts td w' i,
      pendingFind s.pendingClients addr = some p ∧ p.clientId = id ∧ p.userData = ud ∧ p.addr = addr ∧
      findClientByAddr s.clients addr = none ∧ findClientById s.clients id = none ∧
      Packet.decode a buf s.protocolId (some p.receiveKey) (some p.replayProtection) =
        (.ok (sq, .response ts td), some w') ∧
      ChallengeToken.decode a td ts s.challengeKey = .ok ⟨id, ud⟩ ∧
      firstFreeSlot s.clients = some i ∧
      s'.clients = s.clients.set i (some (promoted p w' s.currentTime)) ∧
      s'.pendingClients = pendingRemove s.pendingClients addr ∧
      (Packet.keepAlive (i % 2 ^ 32) (s.maxClients % 2 ^ 32)).encode a Netcode.C.NETCODE_MAX_PACKET_BYTES s.protocolId
        (some (p.sequence, p.sendKey)) = .ok ka :=
  NS.connected_only_if hi h

/-- `ClientConnected` is reported by `process_packet` only (never by update / disconnect / …) -/
theorem connected_is_packet {a : AEAD} {s s' : NetcodeServer} {op : Op} {id : Nat} {ad : Addr} {ud ka : Bytes}
    (hi : ServerInv s) (h : step a s op = some (.clientConnected id ad ud ka, s')) :
    ∃ buf, op = .packet ad buf ∧ s.processPacket a ad buf = .ok (.clientConnected id ad ud ka, s') := by
  rcases step_packet_or_quiet h with ⟨addr, buf, rfl, hp⟩ | ⟨-, hq⟩
  · obtain ⟨rfl, -⟩ := NS.connected_only_if hi hp
    exact ⟨buf, rfl, hp⟩
  · exact absurd rfl (hq.result.1 id ad ud ka)

/-- **`pending_only_if`** — after `process_packet`, a half-open session for address `x` either was there before with
    the same identity (id, address, user data, both keys, timeout, expiry) or was created by this very datagram:
    then `x = addr`, the datagram is a connection request `Accepted` for the current state, fewer than `max_clients`
    clients are connected, and the session's fields are exactly those of the opened token
    (`mkPending now addr expire t`). -/
theorem pending_only_if {a : AEAD} {s s' : NetcodeServer} {addr : Addr} {buf : Bytes} {r : ServerResult}
    (hi : ServerInv s) (h : s.processPacket a addr buf = .ok (r, s')) {x : Addr} {p' : Connection}
    (hp : pendingFind s'.pendingClients x = some p') :
    (∃ p, pendingFind s.pendingClients x = some p ∧ ident p' = ident p) ∨
    (x = addr ∧ ∃ v pid expire xnonce data t,
      (Packet.decode a buf s.protocolId none none).1 = .ok (0, .connectionRequest v pid expire xnonce data) ∧
      Accepted a s addr v pid expire xnonce data t ∧ countConnected s.clients < s.maxClients ∧
      p' = mkPending s.currentTime addr expire t) :=
  NS.pending_only_if hi h hp

/-- **The whole positive half of C05** over all histories (`ReachH a s hist`: `s` reachable from `new` by any
    operations, `hist` = the datagrams processed so far with the states they met): `ClientConnected id addr ud` is
    reported only after a connection request *from the same address* that was `Accepted` — so its private token
    authenticated under the server's key and protocol id, was unexpired, listed one of the server's addresses —,
    **the reported id and user data are exactly those sealed in that token**, and the present datagram is a response
    (sealed under that token's client-to-server key) echoing a challenge token that opens under this server's
    challenge key to that id and user data. -/
theorem connected_only_after_request {a : AEAD} {s s' : NetcodeServer} {hist : List Arrival} (hr : ReachH a s hist)
    {addr addr' : Addr} {buf ud ka : Bytes} {id : Nat}
    (h : s.processPacket a addr buf = .ok (.clientConnected id addr' ud ka, s')) :
    addr' = addr ∧
    ∃ ar ∈ hist, ar.addr = addr ∧ ∃ v pid expire xnonce data t,
      (Packet.decode a ar.buf ar.s.protocolId none none).1 = .ok (0, .connectionRequest v pid expire xnonce data) ∧
      Accepted a ar.s addr v pid expire xnonce data t ∧ countConnected ar.s.clients < ar.s.maxClients ∧
      t.clientId = id ∧ t.userData = ud ∧
      ∃ sq ts td w' rk, Packet.decode a buf s.protocolId (some t.clientToServerKey) (some rk) =
          (.ok (sq, .response ts td), some w') ∧
        ChallengeToken.decode a td ts s.challengeKey = .ok ⟨id, ud⟩ :=
  NS.connected_only_after_request hr h

/-! ## the negative half: every wrong request ends without a session -/

/-- **A connection request failing any check of `Accepted` produces nothing**: result `None`, the connected sessions
    as before, and every half-open session was there before with the same identity. -/
theorem rejected_request {a : AEAD} {s s' : NetcodeServer} {addr : Addr} {buf : Bytes} {r : ServerResult}
    (hi : ServerInv s) (h : s.processPacket a addr buf = .ok (r, s')) {v : Bytes} {pid expire : Nat}
    {xnonce data : Bytes}
    (hdec : (Packet.decode a buf s.protocolId none none).1 = .ok (0, .connectionRequest v pid expire xnonce data))
    (hno : ∀ t, ¬ Accepted a s addr v pid expire xnonce data t) :
    r = .none ∧ sessions s'.clients = sessions s.clients ∧
    ∀ y p', pendingFind s'.pendingClients y = some p' → ∃ p, pendingFind s.pendingClients y = some p ∧ ident p' = ident p :=
  processPacket_rejects hi h hdec hno

/-- expired token (`expire ≤ now.secs`) -/
theorem expired {a : AEAD} {s : NetcodeServer} {addr : Addr} {v : Bytes} {pid expire : Nat} {xnonce data : Bytes}
    (h : expire ≤ asSecs s.currentTime) (t : PrivateConnectToken) : ¬ Accepted a s addr v pid expire xnonce data t :=
  fun ha => by have := ha.unexpired; omega

/-- token for another protocol id (public field) -/
theorem foreign_protocol {a : AEAD} {s : NetcodeServer} {addr : Addr} {v : Bytes} {pid expire : Nat}
    {xnonce data : Bytes} (h : pid ≠ s.protocolId) (t : PrivateConnectToken) :
    ¬ Accepted a s addr v pid expire xnonce data t := fun ha => h ha.protocol

/-- the private token does not open under (server key, xnonce, version ‖ server protocol id ‖ claimed expiry):
    tampered ciphertext or tag, tampered public expiry or protocol id, token sealed with a foreign key -/
theorem tampered_or_foreign_key {a : AEAD} {s : NetcodeServer} {addr : Addr} {v : Bytes} {pid expire : Nat}
    {xnonce data : Bytes}
    (h : a.xopen s.connectKey xnonce (PrivateConnectToken.additionalData s.protocolId expire) data = none)
    (t : PrivateConnectToken) : ¬ Accepted a s addr v pid expire xnonce data t := fun ha => by
  obtain ⟨p, h1, _⟩ := ha.opens
  rw [h] at h1
  cases h1

/-- secure mode and no address sealed in the token is one of the server's public addresses -/
theorem wrong_host {a : AEAD} {s : NetcodeServer} {addr : Addr} {v : Bytes} {pid expire : Nat} {xnonce data : Bytes}
    {t : PrivateConnectToken} (hs : s.secure = true) (ht : TokenOpens a s expire xnonce data t)
    (hh : ∀ x, some x ∈ t.serverAddresses → x ∉ s.publicAddresses) (t' : PrivateConnectToken) :
    ¬ Accepted a s addr v pid expire xnonce data t' := fun ha => by
  have := tokenOpens_unique ht ha.opens; subst this
  obtain ⟨x, h1, h2⟩ := ha.host hs
  exact hh x h1 h2

/-- the exact answers of `handle_connection_request` for the header checks and the AEAD failure -/
theorem expired_error {a : AEAD} {s : NetcodeServer} {addr : Addr} {expire : Nat} {xnonce data : Bytes}
    (h : expire ≤ asSecs s.currentTime) :
    NetcodeServer.handleConnectionRequest a s addr Netcode.C.NETCODE_VERSION_INFO s.protocolId expire xnonce data =
      .err (.expired, s) := by
  unfold NetcodeServer.handleConnectionRequest
  rw [if_neg (by simp), if_neg (by simp), if_pos h]
theorem protocol_error {a : AEAD} {s : NetcodeServer} {addr : Addr} {pid expire : Nat} {xnonce data : Bytes}
    (h : pid ≠ s.protocolId) :
    NetcodeServer.handleConnectionRequest a s addr Netcode.C.NETCODE_VERSION_INFO pid expire xnonce data =
      .err (.invalidProtocolID, s) := by
  unfold NetcodeServer.handleConnectionRequest
  rw [if_neg (by simp), if_pos h]
theorem crypto_error {a : AEAD} {s : NetcodeServer} {addr : Addr} {expire : Nat} {xnonce data : Bytes}
    (hx : asSecs s.currentTime < expire) (hd : Netcode.C.NETCODE_MAC_BYTES ≤ data.length)
    (h : a.xopen s.connectKey xnonce (PrivateConnectToken.additionalData s.protocolId expire) data = none) :
    NetcodeServer.handleConnectionRequest a s addr Netcode.C.NETCODE_VERSION_INFO s.protocolId expire xnonce data =
      .err (.tokenGenerationError .cryptoError, s) := by
  unfold NetcodeServer.handleConnectionRequest PrivateConnectToken.decode
  rw [if_neg (by simp), if_neg (by simp), if_neg (by omega), if_neg (by omega), h]

/-- **`token_address_binding_partial`** — a token whose MAC is still recorded in the token-entry table with address
    `e.address` is refused from every other address: no result, no session, no half-open session.
    MISSING for the clause "a token already used from a different address never produces a connection": the table has
    `NETCODE_TOKEN_ENTRIES` = 2048 entries without expiry; when all are occupied `find_or_add_connect_token_entry`
    overwrites one (the oldest) — `binding_lost_when_full` below —, so after 2048 *other* tokens have been accepted the
    binding of a still unexpired token is forgotten and the same token is accepted from a new address (its half-open
    session is then created from that address).  Within the token's lifetime this needs 2048 further valid tokens.
    Over whole histories, with the eviction as an explicit alternative: Props/C05H.lean (`token_binding_history`). -/
theorem token_address_binding_partial {a : AEAD} {s s' : NetcodeServer} {addr : Addr} {buf : Bytes} {r : ServerResult}
    (hi : ServerInv s) (h : s.processPacket a addr buf = .ok (r, s')) {v : Bytes} {pid expire : Nat}
    {xnonce data : Bytes}
    (hdec : (Packet.decode a buf s.protocolId none none).1 = .ok (0, .connectionRequest v pid expire xnonce data))
    {e : ConnectTokenEntry} (he : some e ∈ s.connectTokenEntries) (hm : e.mac = tokenMac data) (ha : e.address ≠ addr) :
    r = .none ∧ sessions s'.clients = sessions s.clients ∧
    ∀ y p', pendingFind s'.pendingClients y = some p' → ∃ p, pendingFind s.pendingClients y = some p ∧ ident p' = ident p :=
  NS.token_address_binding_partial hi h hdec he hm ha

/-- what is missing, as a theorem: when the table is full and a token with a new MAC is accepted, some recorded entry
    `e_old` is overwritten, its MAC is gone from the table, and the token-to-address check then passes for that MAC
    from *any* address -/
theorem binding_lost_when_full {s : NetcodeServer} (hi : ServerInv s) {ne : ConnectTokenEntry}
    (hn : ∀ e, some e ∈ s.connectTokenEntries → e.mac ≠ ne.mac) (hfull : ∀ x ∈ s.connectTokenEntries, x ≠ none) :
    ∃ k e_old, s.connectTokenEntries[k]? = some (some e_old) ∧
      s.findOrAddConnectTokenEntry ne = ({ s with connectTokenEntries := s.connectTokenEntries.set k (some ne) }, true) ∧
      (∀ e, some e ∈ (s.findOrAddConnectTokenEntry ne).1.connectTokenEntries → e.mac ≠ e_old.mac) ∧
      ∀ addr', ((s.findOrAddConnectTokenEntry ne).1.findOrAddConnectTokenEntry ⟨s.currentTime, addr', e_old.mac⟩).2 = true :=
  NS.binding_lost_when_full hi hn hfull

/-! ## the negative half: responses -/

/-- **Responses carrying anything but the matching challenge never produce a connection**: if every way the datagram
    decodes (under the half-open session's key) to a `Response` has a challenge token that does not open under the
    server's challenge key to that session's `(id, user data)`, no `ClientConnected` is reported. -/
theorem response_needs_matching_challenge {a : AEAD} {s s' : NetcodeServer} {addr : Addr} {buf : Bytes}
    {r : ServerResult} (hi : ServerInv s) (h : s.processPacket a addr buf = .ok (r, s'))
    (hbad : ∀ p sq ts td w', pendingFind s.pendingClients addr = some p →
      Packet.decode a buf s.protocolId (some p.receiveKey) (some p.replayProtection) = (.ok (sq, .response ts td), some w') →
      ChallengeToken.decode a td ts s.challengeKey ≠ .ok ⟨p.clientId, p.userData⟩) :
    ∀ id ad ud ka, r ≠ .clientConnected id ad ud ka := by
  intro id ad ud ka hr
  subst hr
  obtain ⟨_, p, sq, ts, td, w', i, hpf, h1, h2, _, _, _, hdec, hct, _⟩ := NS.connected_only_if hi h
  exact hbad p sq ts td w' hpf hdec (by rw [h1, h2]; exact hct)

/-- a response (or anything else) from an address without half-open session never connects -/
theorem no_pending_no_connection {a : AEAD} {s s' : NetcodeServer} {addr : Addr} {buf : Bytes} {r : ServerResult}
    (hi : ServerInv s) (h : s.processPacket a addr buf = .ok (r, s'))
    (hnp : pendingFind s.pendingClients addr = none) : ∀ id ad ud ka, r ≠ .clientConnected id ad ud ka := by
  intro id ad ud ka hr
  subst hr
  obtain ⟨_, p, _, _, _, _, _, hpf, _⟩ := NS.connected_only_if hi h
  rw [hnp] at hpf; cases hpf

/-! ## examples (toy AEAD `Ex.a`, world of Lemmas/NcExamples.lean) -/
section Examples
open Ex

/-- everything the examples below read off the model, in one kernel evaluation: `s1` holds A's half-open
    session and none for `addrB`, and its token table records A's MAC; the tampered token does not open under the server's
    key; and the three refusals as the model computes them — A's request at the expiry second (`sLate`), the tampered
    request, A's request from B's address while its MAC is recorded for A's — leave the server unchanged -/
theorem evaluated :
    (pendingFind s1.pendingClients addrA = some pendA ∧ pendingFind s1.pendingClients addrB = none ∧
      macA = tokenMac privDataA) ∧
    (a.xopen s0.connectKey xnA (PrivateConnectToken.additionalData s0.protocolId 30) privDataT = none ∧
      Netcode.C.NETCODE_MAC_BYTES ≤ privDataT.length) ∧
    sLate.processPacket a addrA reqA = .ok (.none, sLate) ∧
    s0.processPacket a addrA reqT = .ok (.none, s0) ∧
    s1.processPacket a addrB reqA = .ok (.none, s1) := by
  decide +kernel

theorem inv_s1 : ServerInv s1 := step_inv s0_empty.inv s_request
theorem reachH_s1 : ReachH a s1 [⟨s0, addrA, reqA⟩] := .step (.init s0_empty) s_request

/-- the honest handshake meets the hypotheses of `connected_only_if` / `connected_only_after_request` -/
example : addrA = addrA ∧ ∃ p sq ts td w' i,
      pendingFind s1.pendingClients addrA = some p ∧ p.clientId = 11 ∧ p.userData = udA ∧ p.addr = addrA ∧
      findClientByAddr s1.clients addrA = none ∧ findClientById s1.clients 11 = none ∧
      Packet.decode a respA s1.protocolId (some p.receiveKey) (some p.replayProtection) =
        (.ok (sq, .response ts td), some w') ∧
      ChallengeToken.decode a td ts s1.challengeKey = .ok ⟨11, udA⟩ ∧
      firstFreeSlot s1.clients = some i ∧
      s2.clients = s1.clients.set i (some (promoted p w' s1.currentTime)) ∧
      s2.pendingClients = pendingRemove s1.pendingClients addrA ∧
      (Packet.keepAlive (i % 2 ^ 32) (s1.maxClients % 2 ^ 32)).encode a Netcode.C.NETCODE_MAX_PACKET_BYTES s1.protocolId
        (some (p.sequence, p.sendKey)) = .ok kaA :=
  connected_only_if inv_s1 (pp_of_step.mp s_response)

example : ∃ ar ∈ [(⟨s0, addrA, reqA⟩ : Arrival)], ar.addr = addrA ∧ ∃ v pid expire xnonce data t,
      (Packet.decode a ar.buf ar.s.protocolId none none).1 = .ok (0, .connectionRequest v pid expire xnonce data) ∧
      Accepted a ar.s addrA v pid expire xnonce data t ∧ countConnected ar.s.clients < ar.s.maxClients ∧
      t.clientId = 11 ∧ t.userData = udA ∧
      ∃ sq ts td w' rk, Packet.decode a respA s1.protocolId (some t.clientToServerKey) (some rk) =
          (.ok (sq, .response ts td), some w') ∧
        ChallengeToken.decode a td ts s1.challengeKey = .ok ⟨11, udA⟩ :=
  (connected_only_after_request reachH_s1 (pp_of_step.mp s_response)).2

/-- the half-open session of `s1` was created by A's request, from A's token -/
example : (∃ p, pendingFind s0.pendingClients addrA = some p ∧ ident pendA = ident p) ∨
    (addrA = addrA ∧ ∃ v pid expire xnonce data t,
      (Packet.decode a reqA s0.protocolId none none).1 = .ok (0, .connectionRequest v pid expire xnonce data) ∧
      Accepted a s0 addrA v pid expire xnonce data t ∧ countConnected s0.clients < s0.maxClients ∧
      pendA = mkPending s0.currentTime addrA expire t) :=
  pending_only_if s0_empty.inv (pp_of_step.mp s_request) (x := addrA) (p' := pendA) evaluated.1.1

/-- expired: the server's clock is at the expiry second (30 s) -/
example : ∀ r s', sLate.processPacket a addrA reqA = .ok (r, s') → r = .none ∧ sessions s'.clients = sessions sLate.clients :=
  fun r s' h => ⟨(rejected_request sLate_empty.inv h (reqA_decodes _) (expired (by decide))).1,
    (rejected_request sLate_empty.inv h (reqA_decodes _) (expired (by decide))).2.1⟩
example : sLate.processPacket a addrA reqA = .ok (.none, sLate) := evaluated.2.2.1

/-- foreign protocol id: the server speaks protocol 43 -/
example : ∀ r s', sPid.processPacket a addrA reqA = .ok (r, s') → r = .none :=
  fun r s' h => (rejected_request sPid_empty.inv h (reqA_decodes _) (foreign_protocol (by decide))).1

/-- tampered token (last tag byte changed): the AEAD does not open -/
example : ∀ r s', s0.processPacket a addrA reqT = .ok (r, s') → r = .none :=
  fun r s' h => (rejected_request s0_empty.inv h reqT_decodes (tampered_or_foreign_key evaluated.2.1.1)).1
example : s0.processPacket a addrA reqT = .ok (.none, s0) := evaluated.2.2.2.1

/-- wrong host: the server's public address is not the one sealed in the token -/
example : ∀ r s', sHost.processPacket a addrA reqA = .ok (r, s') → r = .none :=
  fun r s' h => (rejected_request sHost_empty.inv h (reqA_decodes _)
    (wrong_host rfl (privA_opens sHost rfl) (by
      intro x hx
      have : x = srvAddr := by
        simp only [privA, List.mem_cons, Option.some.injEq, List.mem_replicate, reduceCtorEq, and_false, or_false] at hx
        exact hx
      subst this; decide))).1

/-- A's token presented from B's address while its MAC is recorded for A's address -/
example : ∀ r s', s1.processPacket a addrB reqA = .ok (r, s') → r = .none ∧ sessions s'.clients = sessions s1.clients :=
  fun r s' h =>
    have := token_address_binding_partial inv_s1 h (reqA_decodes _) (e := ⟨0, addrA, macA⟩)
      (by simp [s1]) evaluated.1.2.2 (by decide)
    ⟨this.1, this.2.1⟩
example : s1.processPacket a addrB reqA = .ok (.none, s1) := evaluated.2.2.2.2

/-- a response from A's address echoing the challenge of another id / user data does not connect -/
example : ∀ r s', s1.processPacket a addrA respBad = .ok (r, s') → ∀ id ad ud ka, r ≠ .clientConnected id ad ud ka :=
  fun r s' h => response_needs_matching_challenge inv_s1 h (by
    intro p sq ts td w' hp hd
    have hp' : p = pendA := by
      rw [evaluated.1.1] at hp; cases hp; rfl
    subst hp'
    have hd' : Packet.decode a respBad 42 (some kc2s) (some RP.new) = (.ok (sq, .response ts td), some w') := hd
    rw [respBad_decodes] at hd'
    cases hd'
    have : s1.challengeKey = ckey := rfl
    rw [this, chalTokB_opens]
    decide)

/-- the response from an address without half-open session -/
example : ∀ r s', s1.processPacket a addrB respA = .ok (r, s') → ∀ id ad ud ka, r ≠ .clientConnected id ad ud ka :=
  fun r s' h => no_pending_no_connection inv_s1 h evaluated.1.2.1

example : ∃ buf, Op.packet addrA respA = .packet addrA buf ∧
    s1.processPacket a addrA buf = .ok (.clientConnected 11 addrA udA kaA, s2) := connected_is_packet inv_s1 s_response

/-- the exact errors: A's token at the expiry second; for protocol 43; with a broken tag -/
example : NetcodeServer.handleConnectionRequest a sLate addrA Netcode.C.NETCODE_VERSION_INFO sLate.protocolId 30 xnA
    privDataA = .err (.expired, sLate) := expired_error (by decide)
example : NetcodeServer.handleConnectionRequest a sPid addrA Netcode.C.NETCODE_VERSION_INFO 42 30 xnA privDataA =
    .err (.invalidProtocolID, sPid) := protocol_error (by decide)
example : NetcodeServer.handleConnectionRequest a s0 addrA Netcode.C.NETCODE_VERSION_INFO s0.protocolId 30 xnA
    privDataT = .err (.tokenGenerationError .cryptoError, s0) :=
  crypto_error (by decide) evaluated.2.1.2 evaluated.2.1.1

/-- a full (3-entry) token table: accepting a token with a new MAC overwrites an entry, after which the overwritten
    token's MAC is accepted from any address -/
example : ∃ (k : Nat) (e_old : ConnectTokenEntry), sFull.connectTokenEntries[k]? = some (some e_old) ∧
    ∀ addr', ((sFull.findOrAddConnectTokenEntry ⟨4, addrA, List.replicate 15 0 ++ [35]⟩).1.findOrAddConnectTokenEntry
      ⟨sFull.currentTime, addr', e_old.mac⟩).2 = true := by
  obtain ⟨k, e_old, h1, _, _, h4⟩ := binding_lost_when_full sFull_inv (ne := ⟨4, addrA, List.replicate 15 0 ++ [35]⟩)
    (by
      intro e he
      simp only [sFull, List.mem_cons, Option.some.injEq, List.not_mem_nil, or_false] at he
      rcases he with rfl | rfl | rfl <;> decide)
    (by
      intro x hx
      simp only [sFull, List.mem_cons, List.not_mem_nil, or_false] at hx
      rcases hx with rfl | rfl | rfl <;> simp)
  exact ⟨k, e_old, h1, h4⟩

end Examples
end RenetVerif.C05
