/-
  LIVENESS in the multi-client system `MSys` (Lemmas/MultiSystem.lean): one lossless round for ONE client delivers
  everything that was addressed to it, from ANY reachable state and whatever happens to the other clients.

  The round theorems of Lemmas/Liveness.lean are stated for any state that satisfies the invariants, as one predicate on
  states: `GoodL`, defined there.

  Part A — `reachL`: both projections of every untainted link of every reachable `MSys` state satisfy `GoodL`
           (`MultiSystem.reach_vstep` with `goodL_init`, `goodL_step` and `goodL_idle`).
  Part B — lifting: a run of `System.Sys` operations on the projection `down` of client `i` IS the run of the
           corresponding local actions on the view of `i` (`lift_down`; after the operations `flushA / deliverToB /
           recvB` of a round the link is `liftLink`), and any interleaving with operations that are `skip` for `i` ends
           in the same view of `i` (`MultiSystem.run_agree`).
-/
import RenetVerif.Lemmas.MultiSystem
import RenetVerif.Lemmas.Liveness
namespace RenetVerif.MultiLive
open RenetVerif C RenetVerif.System RenetVerif.MultiSystem RenetVerif.Live

theorem view_some {m : MSys} {i : Nat} {c : Conn} {l : Link} (hc : conn? m.server i = some c) (hl : m.links i = some l) :
    m.view i = ⟨some c, some l⟩ := by
  unfold MSys.view; rw [hc, hl]

structure LinkOKL (P : Params) (lv : LV) (l : Link) : Prop where
  goodD : GoodL P.down (down lv l)
  goodU : GoodL P.up (up lv l)

theorem reachL (P : Params) (ops : List MOp) (m : MSys) (hr : (MSys.init P).run ops = some m) (i : Nat) (l : Link)
    (hl : m.links i = some l) (ht : l.tainted = false) : LinkOKL P (m.view i) l :=
  have h := reach_vstep goodL_init goodL_step goodL_idle P ops m hr i l hl ht
  ⟨h.goodD, h.goodU⟩

/-- the operations of a lossless round of the direction server → client -/
def IsRoundOp : SysOp → Prop
  | .flushA | .deliverToB _ | .recvB _ => True
  | _ => False

/-- the local action of client `i` that corresponds to an operation of its server → client projection -/
def lact : SysOp → LAct
  | .sendA ch m => .sSend ch m
  | .recvB ch => .cRecv ch
  | .updA dt => .sUpd dt
  | .updB dt => .cUpd dt
  | .flushA => .sFlush
  | .flushB => .cFlush
  | .deliverToB k => .toCli k
  | .deliverToA k => .toSrv k

/-- … and the `MSys` operation -/
def mop (i : Nat) : SysOp → MOp
  | .sendA ch m => .srvSend i ch m
  | .recvB ch => .cliRecv i ch
  | .updA dt => .srvUpdate dt
  | .updB dt => .cliUpdate i dt
  | .flushA => .srvFlush i
  | .flushB => .cliFlush i
  | .deliverToB k => .deliverToCli i k
  | .deliverToA k => .deliverToSrv i k

theorem act_mop (i : Nat) (o : SysOp) : (mop i o).act i = lact o := by
  cases o <;> simp [mop, lact, MOp.act]

/-- the link of client `i` after a round that took its server → client projection to `u` -/
def liftLink (l : Link) (u : Sys) : Link :=
  { l with cl := u.b, outS := u.outA, obtC := u.obtained, delivC := u.deliveredToB }

theorem lift_step_down (P : Params) (c : Conn) (l : Link) (o : SysOp) (u : Sys)
    (h : (down ⟨some c, some l⟩ l).step o = some u) :
    ∃ l', LV.apply P ⟨some c, some l⟩ (lact o) = some ⟨some u.a, some l'⟩ ∧ down ⟨some u.a, some l'⟩ l' = u ∧
      l'.tainted = l.tainted ∧ (IsRoundOp o → l' = liftLink l u) := by
  cases stepped h with
  | @sendA ch x c' hc =>
    replace hc : c.sendMessage ch x = .ok c' := hc
    simp only [LV.apply, lact, hc]
    exact ⟨_, rfl, rfl, rfl, nofun⟩
  | @recvB ch b' mo hc =>
    replace hc : l.cl.receiveMessage ch = .ok (b', mo) := hc
    simp only [LV.apply, lact, hc]
    cases mo <;> exact ⟨_, rfl, rfl, rfl, fun _ => rfl⟩
  | @updA dt c' hc =>
    replace hc : c.update dt = .ok c' := hc
    simp only [LV.apply, lact, hc]
    exact ⟨_, rfl, rfl, rfl, nofun⟩
  | @updB dt b' hc =>
    replace hc : l.cl.update dt = .ok b' := hc
    simp only [LV.apply, lact, hc]
    exact ⟨_, rfl, rfl, rfl, nofun⟩
  | @flushA c' ps hc =>
    replace hc : c.getPacketsToSend = .ok (c', ps) := hc
    simp only [LV.apply, lact, hc]
    exact ⟨_, rfl, rfl, rfl, fun _ => rfl⟩
  | @flushB b' ps hc =>
    replace hc : l.cl.getPacketsToSend = .ok (b', ps) := hc
    simp only [LV.apply, lact, hc]
    exact ⟨_, rfl, rfl, rfl, nofun⟩
  | @deliverToB k bytes b' hb hc =>
    replace hb : l.outS[k]? = some bytes := hb
    replace hc : l.cl.processPacket bytes = .ok b' := hc
    simp only [LV.apply, lact, hb, hc]
    exact ⟨_, rfl, rfl, rfl, fun _ => rfl⟩
  | @deliverToA k bytes c' hb hc =>
    replace hb : l.outC[k]? = some bytes := hb
    replace hc : c.processPacket bytes = .ok c' := hc
    simp only [LV.apply, lact, hb, hc]
    exact ⟨_, rfl, rfl, rfl, nofun⟩

theorem lift_down (P : Params) : ∀ (sops : List SysOp) (c : Conn) (l : Link) (u : Sys),
    (down ⟨some c, some l⟩ l).run sops = some u →
    ∃ l', LV.run P ⟨some c, some l⟩ (sops.map lact) = some ⟨some u.a, some l'⟩ ∧ down ⟨some u.a, some l'⟩ l' = u ∧
      l'.tainted = l.tainted ∧ ((∀ o ∈ sops, IsRoundOp o) → l' = liftLink l u)
  | [], c, l, u, h => by
    cases run_nil h
    exact ⟨l, rfl, rfl, rfl, fun _ => rfl⟩
  | o :: sops, c, l, u, h => by
    obtain ⟨u1, hs, h⟩ := run_cons h
    obtain ⟨l1, a1, a2, a3, a4⟩ := lift_step_down P c l o u1 hs
    rw [← a2] at h
    obtain ⟨l', b1, b2, b3, b4⟩ := lift_down P sops u1.a l1 u h
    refine ⟨l', ?_, b2, b3.trans a3, fun ho => ?_⟩
    · simp only [List.map_cons, LV.run, a1]
      exact b1
    · rw [b4 fun o' h' => ho o' (List.mem_cons_of_mem _ h'), a4 (ho o (List.mem_cons_self ..))]
      rfl

/-- `la`, `mo`: the local action and the `MSys` operation of client `i` that stand for an operation of one of its
    projections -/
theorem lift_mrun_of (P : Params) (i : Nat) {la : SysOp → LAct} {mo : SysOp → MOp} (hact : ∀ o, (mo o).act i = la o)
    {Q : SysOp → Prop}
    (htot : ∀ {m : MSys} {o : SysOp}, Q o → ∀ {lv' : LV}, (m.view i).apply P (la o) = some lv' →
      ∃ m', m.step (mo o) = some m') :
    ∀ (sops : List SysOp) (m : MSys) (lv' : LV), m.WF P → (∀ o ∈ sops, Q o) →
    LV.run P (m.view i) (sops.map la) = some lv' → ∃ m', m.run (sops.map mo) = some m' ∧ m'.view i = lv'
  | [], m, lv', _, _, h => by
    simp only [List.map_nil, LV.run, Option.some.injEq] at h
    exact ⟨m, rfl, h⟩
  | o :: sops, m, lv', hw, ho, h => by
    simp only [List.map_cons, LV.run] at h
    cases ha : (m.view i).apply P (la o) with
    | none => rw [ha] at h; cases h
    | some lv1 =>
      rw [ha] at h
      obtain ⟨m1, hs⟩ := htot (ho o (List.mem_cons_self ..)) ha
      have hv := step_view hw hs i
      rw [hact, ha] at hv
      rw [Option.some.inj hv] at h
      obtain ⟨m', hr, hv'⟩ := lift_mrun_of P i hact htot sops m1 lv' (step_wf hw hs)
        (fun o' ho' => ho o' (List.mem_cons_of_mem _ ho')) h
      exact ⟨m', by simp only [List.map_cons, MSys.run, hs]; exact hr, hv'⟩

/-- the lossless round for client `i` on channel `ch`: the server flushes for `i`, the network of `i` hands the
    datagrams `ks` (indices into the server → `i` emission history) to client `i`, client `i`'s application asks `n`
    times for a message of channel `ch` -/
def roundFor (i ch : Nat) (ks : List Nat) (n : Nat) : List MOp :=
  .srvFlush i :: (ks.map (MOp.deliverToCli i) ++ List.replicate n (.cliRecv i ch))

theorem roundOps_map (i ch : Nat) (ks : List Nat) (n : Nat) : (roundOps ch ks n).map (mop i) = roundFor i ch ks n := by
  simp [roundOps, roundFor, mop, List.map_replicate, Function.comp_def]

theorem roundOps_isRound (ch : Nat) (ks : List Nat) (n : Nat) : ∀ o ∈ roundOps ch ks n, IsRoundOp o := by
  intro o ho
  simp only [roundOps, List.mem_cons, List.mem_append, List.mem_map, List.mem_replicate] at ho
  rcases ho with rfl | ⟨k, -, rfl⟩ | ⟨-, rfl⟩ <;> trivial

theorem srvUpdate_down {P : Params} {m mu : MSys} {i : Nat} {c : Conn} {l : Link} {dt : Nat} (hw : m.WF P)
    (hs : m.step (.srvUpdate dt) = some mu) (hc : conn? m.server i = some c) (hl : m.links i = some l) :
    ∃ cu, c.update dt = .ok cu ∧ conn? mu.server i = some cu ∧ mu.links i = some l ∧
      (down (m.view i) l).step (.updA dt) = some (down (mu.view i) l) := by
  have hv := step_view hw hs i
  have hv0 := view_some hc hl
  rw [hv0] at hv ⊢
  simp only [MOp.act, LV.apply] at hv
  split at hv
  · rename_i cu hcu
    have e := (Option.some.inj hv).symm
    refine ⟨cu, hcu, congrArg LV.conn e, congrArg LV.link e, ?_⟩
    rw [e]
    simp only [Sys.step, down, LV.srv, Option.getD_some, hcu]
  · cases hv

theorem logS_subS (l : Link) (c c' : Conn) (ch : Nat) (x : Bytes) :
    (l.logS c c' ch x).subS ch = if accepted c c' ch then l.subS ch ++ [x] else l.subS ch := by
  unfold Link.logS
  dsimp only
  split
  · exact push_same _ _ _
  · rfl

theorem lact_ne_skip (o : SysOp) : (lact o != LAct.skip) = true := by
  cases o <;> rfl

theorem trace_map_mop (i : Nat) (sops : List SysOp) : trace i (sops.map (mop i)) = sops.map lact := by
  unfold trace
  rw [List.map_map]
  have : (MOp.act i ∘ mop i) = lact := funext (act_mop i)
  rw [this, List.filter_eq_self]
  intro a ha
  obtain ⟨o, -, rfl⟩ := List.mem_map.mp ha
  exact lact_ne_skip o

theorem trace_round (i ch : Nat) (ks : List Nat) (n : Nat) :
    trace i (roundFor i ch ks n) = (roundOps ch ks n).map lact := by
  rw [← roundOps_map, trace_map_mop]

theorem trace_tick_round (i ch dt : Nat) (ks : List Nat) (n : Nat) :
    trace i (.srvUpdate dt :: roundFor i ch ks n) = .sUpd dt :: (roundOps ch ks n).map lact := by
  have : MOp.srvUpdate dt :: roundFor i ch ks n = (SysOp.updA dt :: roundOps ch ks n).map (mop i) := by
    rw [List.map_cons, roundOps_map]; rfl
  rw [this, trace_map_mop]; rfl

theorem run_trace {P : Params} (i : Nat) {ops : List MOp} {m m' : MSys} (hw : m.WF P) (hr : m.run ops = some m') :
    (m.view i).run P (trace i ops) = some (m'.view i) := by
  unfold trace
  rw [lvrun_filter]; exact run_view i ops m m' hw hr

theorem round_view {P : Params} {m m'' : MSys} {i : Nat} {c : Conn} {l : Link} {ch : Nat} {ks : List Nat}
    {n : Nat} (hw : m.WF P) (hc : conn? m.server i = some c) (hl : m.links i = some l)
    (u : Sys) (hu : (down ⟨some c, some l⟩ l).run (roundOps ch ks n) = some u) (ops' : List MOp)
    (ht : trace i ops' = trace i (roundFor i ch ks n)) (hr : m.run ops' = some m'') :
    m''.view i = ⟨some u.a, some (liftLink l u)⟩ := by
  have h1 := run_trace i hw hr
  have hv := view_some hc hl
  rw [ht, trace_round, hv] at h1
  obtain ⟨l', a1, -, -, a4⟩ := lift_down P _ c l u hu
  rw [a1, a4 (roundOps_isRound ch ks n)] at h1
  exact (Option.some.inj h1).symm

theorem addressed_nil_of_skip {op : MOp} {i : Nat} (h : op.act i = .skip) (ch : Nat) : op.addressed i ch = [] := by
  cases op <;> simp only [MOp.act] at h <;> (try split at h) <;> (try cases h) <;> simp_all [MOp.addressed]

theorem addressedTo_nil_of_skip {ops : List MOp} {i : Nat} (h : ∀ op ∈ ops, op.act i = .skip) (ch : Nat) :
    addressedTo i ch ops = [] := by
  unfold addressedTo
  rw [List.flatMap_eq_nil_iff]
  exact fun op hop => addressed_nil_of_skip (h op hop) ch

end RenetVerif.MultiLive
