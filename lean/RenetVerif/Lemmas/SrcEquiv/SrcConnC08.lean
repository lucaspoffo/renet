/-
  Helper lemmas for `Props/SrcPropsConnTraceC08.lean` (C08 on API traces of the GENERATED `RenetClient`).

  A. the model side: what ONE step of the model trace system `MTr` (`SrcConnSystem`) can do to the `unacked` table of a
     reliable send channel and to the pending-ack list — every operation, the status setters included
     (`mtr_step_chan`, `ChanStep`; `mtr_step_acks`, `mtr_run_acks`); the invariant `Conn.SendInv` / `Acks.WF` along the runs comes from
     `SrcConnSystem.epGood_run` (`EpGood.sinv.send`, `.acksWF`).
  C. `SentEmitted`: every entry of the model's sent table describes a datagram of the flush log, along every `MTr` run in
     range (`sentEmitted_run`); where a new entry comes from is `mtr_step_sent`.
  B. reading the generated struct: `unacked_messages`, `sent_packets`, `pending_acks` of `reprConn mrs c` are the images of the
     model tables under `reprU` / `reprSentEntry` / `ackR`.
-/
import RenetVerif.Lemmas.SrcEquiv.SrcConnSystem
import RenetVerif.Props.C08
import RenetVerif.Props.C13
namespace RenetVerif.SrcConnC08
open RenetVerif RenetVerif.RustSem RenetVerif.C RenetVerif.System RenetVerif.SrcEquiv RenetVerif.SrcSystem RenetVerif.SrcConnSystem
open RenetVerif.SI
open Src.renet.remote_connection

/-- the operation is a `process_packet` whose bytes decode (model decoder) to an Ack packet one of whose ranges covers a
    sequence number `seq` that the sent table `c.sent` records with an info satisfying `P` -/
def MAckNames (c : Conn) (op : COp) (P : SentInfo → Prop) : Prop :=
  ∃ bytes aseq ranges seq t info, op = .process bytes ∧ Packet.fromBytes bytes = .ok (.ack aseq ranges) ∧
    (∃ r ∈ ranges, r.1 ≤ seq ∧ seq < r.2) ∧ SMap.find? c.sent seq = some (t, info) ∧ P info

/-- What a step may do to reliable send channel `ch` (`s` before, `s'` after): message ids and pending slices leave only
    through an Ack packet naming a recorded packet that carried them; usage drops only when an id leaves `unacked`. -/
structure ChanStep (c : Conn) (op : COp) (ch : Nat) (s s' : SendRel) : Prop where
  released : ∀ id, SMap.find? s.unacked id ≠ none → SMap.find? s'.unacked id = none →
    MAckNames c op (fun info => Names info ch id)
  pending : ∀ id i, s.Pending id i → s'.Pending id i ∨ MAckNames c op (fun info => info = .relSlice ch id i)
  maxMem : s'.maxMem = s.maxMem
  memLt : s'.mem < s.mem → ∃ id, SMap.find? s.unacked id ≠ none ∧ SMap.find? s'.unacked id = none

theorem ChanStep.of_keeps {c : Conn} (op : COp) (ch : Nat) {s s' : SendRel}
    (hu : ∀ id, (SMap.find? s.unacked id).isSome → (SMap.find? s'.unacked id).isSome)
    (hp : ∀ id i, s.Pending id i → s'.Pending id i) (hmax : s'.maxMem = s.maxMem) (hmem : s.mem ≤ s'.mem) :
    ChanStep c op ch s s' := by
  refine ⟨fun id h1 h2 => ?_, fun id i h => Or.inl (hp id i h), hmax, fun hlt => absurd hlt (Nat.not_lt.mpr hmem)⟩
  have := hu id (Option.isSome_iff_ne_none.mpr h1)
  rw [h2] at this
  cases this

theorem chanStep_of_sendRel_eq {c c' : Conn} (op : COp) (e : c'.sendRel = c.sendRel) {ch : Nat} {s : SendRel}
    (hf : SMap.find? c.sendRel ch = some s) : ∃ s', SMap.find? c'.sendRel ch = some s' ∧ ChanStep c op ch s s' :=
  ⟨s, by rw [e]; exact hf, .of_keeps op ch (fun _ h => h) (fun _ _ h => h) rfl (Nat.le_refl _)⟩

theorem setConnected_frame (c : Conn) : c.setConnected.sendRel = c.sendRel ∧ c.setConnected.pendingAcks = c.pendingAcks ∧
    c.setConnected.sent = c.sent := by
  obtain ⟨st, e⟩ := c.setConnected_eq
  rw [e]
  exact ⟨rfl, rfl, rfl⟩
theorem setConnecting_frame (c : Conn) : c.setConnecting.sendRel = c.sendRel ∧
    c.setConnecting.pendingAcks = c.pendingAcks ∧ c.setConnecting.sent = c.sent := by
  obtain ⟨st, e⟩ := c.setConnecting_eq
  rw [e]
  exact ⟨rfl, rfl, rfl⟩

theorem mtr_step_chan {t t' : MTr} {op : COp} (h : t.c.SendInv) (hw : Acks.WF t.c.pendingAcks)
    (hs : t.step op = some t') {ch : Nat} {s : SendRel} (hf : SMap.find? t.c.sendRel ch = some s) :
    ∃ s', SMap.find? t'.c.sendRel ch = some s' ∧ ChanStep t.c op ch s s' := by
  cases MTr.Step.of hs with
  | send hm =>
    obtain ⟨s', a1, a2, a3, a4, a5⟩ := Conn.sendMessage_keeps h hm hf
    refine ⟨s', a1, .of_keeps _ ch (fun id h1 => ?_) a5 a3 a2⟩
    obtain ⟨u, hu⟩ := Option.isSome_iff_exists.mp h1
    rw [a4 id u hu]; rfl
  | recv hm => exact chanStep_of_sendRel_eq _ (Conn.receiveMessage_same hm).1.1 hf
  | update hm => exact chanStep_of_sendRel_eq _ (Conn.update_frame hm).sendRel hf
  | flush hm =>
    obtain ⟨s', a1, a2, a3, a4, a5⟩ := (Conn.getPacketsToSend_spec h hw hm).2.2.1.keeps hf
    exact ⟨s', a1, .of_keeps _ ch (fun id h1 => (a4 id).trans h1) a5 a3 (Nat.le_of_eq a2.symm)⟩
  | @process b _ hm =>
    rcases Conn.processPacket_eff h hm with hsame | ⟨aseq, ranges, L, -, hpk, hL, heff, -⟩
    · exact chanStep_of_sendRel_eq _ hsame hf
    · obtain ⟨s2, hs2, eff⟩ := heff ch s hf
      refine ⟨s2, hs2, fun id h1 h2 => ?_, fun id i hp => ?_, eff.step.2.1, eff.memLt⟩
      · obtain ⟨seq, hseq, t0, info, hfs, hn⟩ := eff.just id h1 h2
        exact ⟨b, aseq, ranges, seq, t0, info, rfl, hpk, Acks.mem_iff_exists.mp (hL seq hseq), hfs, hn⟩
      · rcases eff.pend id i hp with hp2 | ⟨seq, hseq, t0, hfs⟩
        · exact Or.inl hp2
        · exact Or.inr ⟨b, aseq, ranges, seq, t0, _, rfl, hpk, Acks.mem_iff_exists.mp (hL seq hseq), hfs, rfl⟩
  | setConnected => exact chanStep_of_sendRel_eq _ (setConnected_frame _).1 hf
  | setConnecting => exact chanStep_of_sendRel_eq _ (setConnecting_frame _).1 hf
  | disconnect => exact chanStep_of_sendRel_eq _ (Conn.disconnectWith_same _ _).1.1 hf
  | disconnectTransport => exact chanStep_of_sendRel_eq _ (Conn.disconnectWith_same _ _).1.1 hf

theorem mtr_step_acks {t t' : MTr} {op : COp} (h : t.c.SendInv) (hw : Acks.WF t.c.pendingAcks)
    (hs : t.step op = some t') (x : Nat) (hx : Acks.Mem x t'.c.pendingAcks) :
    Acks.Mem x t.c.pendingAcks ∨ ∃ bytes p, op = .process bytes ∧ Packet.fromBytes bytes = .ok p ∧ x = p.sequence := by
  obtain ⟨u1, u2, u3, u4⟩ := C08.pending_acks_unchanged_elsewhere t.c
  cases MTr.Step.of hs with
  | send hm => rw [u1 _ _ _ hm] at hx; exact Or.inl hx
  | recv hm => rw [u2 _ _ _ hm] at hx; exact Or.inl hx
  | update hm => rw [u3 _ _ hm] at hx; exact Or.inl hx
  | flush hm => rw [u4 _ _ h hw hm] at hx; exact Or.inl hx
  | @process b c' hm =>
    rcases (C08.pending_acks_only_received t.c c' b h hw hm).2 x hx with h1 | ⟨p, hp, e⟩
    · exact Or.inl h1
    · exact Or.inr ⟨b, p, rfl, hp, e⟩
  | setConnected => rw [(setConnected_frame _).2.1] at hx; exact Or.inl hx
  | setConnecting => rw [(setConnecting_frame _).2.1] at hx; exact Or.inl hx
  | disconnect => rw [(Conn.disconnectWith_same _ _).2.1] at hx; exact Or.inl hx
  | disconnectTransport => rw [(Conn.disconnectWith_same _ _).2.1] at hx; exact Or.inl hx

theorem mtr_run_acks : ∀ (ops : List COp) (t t' : MTr), EpGood t.c → t.run ops = some t' →
    ∀ x, Acks.Mem x t'.c.pendingAcks →
      Acks.Mem x t.c.pendingAcks ∨
        ∃ bytes p, COp.process bytes ∈ ops ∧ Packet.fromBytes bytes = .ok p ∧ x = p.sequence
  | [], t, t', _, hr, x, hx => by cases hr; exact Or.inl hx
  | op :: ops, t, t', hg, hr, x, hx => by
    obtain ⟨t1, hs, hr⟩ := MTr.run_cons hr
    rcases mtr_run_acks ops t1 t' (epGood_step hg hs) hr x hx with h1 | ⟨b, p, hb, hp, e⟩
    · rcases mtr_step_acks hg.sinv.send hg.sinv.acksWF hs x h1 with h2 | ⟨b, p, rfl, hp, e⟩
      · exact Or.inl h2
      · exact Or.inr ⟨b, p, List.mem_cons_self .., hp, e⟩
    · exact Or.inr ⟨b, p, List.mem_cons_of_mem _ hb, hp, e⟩

/-- some flush of the log `fl` returned a datagram `b` that is the serialisation (`Packet.enc`, the model of
    `Packet::to_bytes`) of a packet `p` with sequence number `seq` whose sent-info (`Conn.sentInfoOf`, what
    `get_packets_to_send` records) is `info`; `W p b` is what else is recorded of the two (`NoMore`: nothing) -/
def Emitted (W : Packet → Bytes → Prop) (fl : List (List Bytes)) (seq : Nat) (info : SentInfo) : Prop :=
  ∃ bs ∈ fl, ∃ b ∈ bs, ∃ p : Packet, p.enc = .ok b ∧ W p b ∧ p.sequence = seq ∧ Conn.sentInfoOf p = .ok info

def NoMore (_ : Packet) (_ : Bytes) : Prop := True

def SentEmitted (W : Packet → Bytes → Prop) (t : MTr) : Prop :=
  ∀ seq tm info, SMap.find? t.c.sent seq = some (tm, info) → Emitted W t.flushes seq info

theorem mtr_step_sent {t t' : MTr} {op : COp} (hg : EpGood t.c) (hr : ConnInRange t.c) (hs : t.step op = some t')
    {seq tm : Nat} {info : SentInfo} (hf : SMap.find? t'.c.sent seq = some (tm, info)) :
    SMap.find? t.c.sent seq = some (tm, info) ∨
      ∃ bs, t.c.getPacketsToSend = .ok (t'.c, bs) ∧ t'.flushes = t.flushes ++ [bs] ∧ t.c.isDisconnected = false ∧
        ∃ p ∈ flushPk t.c, p.sequence = seq ∧ Conn.sentInfoOf p = .ok info := by
  have hinv := hg.sinv.send
  cases MTr.Step.of hs with
  | send hm => rw [(SL.Conn.sendMessage_frame hm).2.2.2.1] at hf; exact Or.inl hf
  | recv hm => rw [(Conn.receiveMessage_same hm).1.2.2.1] at hf; exact Or.inl hf
  | update hm =>
    rw [(Conn.update_frame hm).sent] at hf
    exact Or.inl (SMap.find?_of_sublist hinv.sentSorted.nodup (List.dropWhile_sublist _) hf)
  | @flush c' bs hm =>
    cases hd : t.c.isDisconnected with
    | true =>
      rcases Conn.flush_cases hm with ⟨-, e, -⟩ | ⟨_, _, _, o⟩
      · rw [e] at hf; exact Or.inl hf
      · cases hd.symm.trans o.live
    | false =>
      have hd' : c'.isDisconnected = false := (isDisconnected_congr (flush_inRange hg hr hm).1).trans hd
      rcases (flush_sent hm hd').1 hinv seq tm info hf with hold | hnew
      · exact Or.inl hold
      · exact Or.inr ⟨bs, hm, rfl, rfl, hnew⟩
  | process hm => exact Or.inl (C08.sent_table_only_shrinks_on_process t.c _ _ hinv hm _ _ hf)
  | setConnected => rw [(setConnected_frame _).2.2] at hf; exact Or.inl hf
  | setConnecting => rw [(setConnecting_frame _).2.2] at hf; exact Or.inl hf
  | disconnect => rw [(Conn.disconnectWith_same _ _).1.2.2.1] at hf; exact Or.inl hf
  | disconnectTransport => rw [(Conn.disconnectWith_same _ _).1.2.2.1] at hf; exact Or.inl hf

theorem flushPk_out {c c' : Conn} {bs : List Bytes} (hm : c.getPacketsToSend = .ok (c', bs)) {p : Packet}
    (hp : p ∈ flushPk c) : ∃ b ∈ bs, p.enc = .ok b := by
  have : encO p ∈ bs.map some := by rw [← (flush_facts hm).1]; exact List.mem_map_of_mem hp
  obtain ⟨b, hb, e⟩ := List.mem_map.mp this
  exact ⟨b, hb, encO_some e.symm⟩

theorem sentEmitted_step {W : Packet → Bytes → Prop} {t t' : MTr} {op : COp} (hg : EpGood t.c) (hr : ConnInRange t.c)
    (hs : t.step op = some t')
    (hW : ∀ bs, t.c.getPacketsToSend = .ok (t'.c, bs) → t.c.isDisconnected = false → ∀ p ∈ flushPk t.c, ∀ b ∈ bs, W p b)
    (h : SentEmitted W t) : SentEmitted W t' := by
  intro seq tm info hf
  rcases mtr_step_sent hg hr hs hf with hold | ⟨o, hm, hfl, hd, p, hp, hseq, hinfo⟩
  · obtain ⟨bs0, h0, r⟩ := h seq tm info hold
    exact ⟨bs0, mtr_step_flushes_sub hs h0, r⟩
  · obtain ⟨b, hb, e⟩ := flushPk_out hm hp
    exact ⟨o, by rw [hfl]; exact List.mem_append_right _ (List.mem_singleton.mpr rfl), b, hb, p, e, hW o hm hd p hp b hb,
      hseq, hinfo⟩

theorem sentEmitted_run (ops : List COp) (t t' : MTr) (hg : EpGood t.c) (hrg : CRunInRangeFrom t ops)
    (hr : t.run ops = some t') (h : SentEmitted NoMore t) : SentEmitted NoMore t' :=
  (MTr.run_induction (I := fun t ops => EpGood t.c ∧ CRunInRangeFrom t ops ∧ SentEmitted NoMore t)
    (fun _ _ _ _ ⟨hg, hrg, h⟩ hs =>
      ⟨epGood_step hg hs, (crunInRangeFrom_cons hrg hs).2.2,
        sentEmitted_step hg hrg.1 hs (fun _ _ _ _ _ _ _ => trivial) h⟩)
    ops t t' ⟨hg, hrg, h⟩ hr).2.2

theorem sentEmitted_init (W : Packet → Bytes → Prop) (cfg : Cfg) : SentEmitted W (MTr.init cfg) := by
  intro seq tm info hf
  simp [MTr.init, Conn.fromChannels] at hf

theorem contains_unacked_repr (sM : SendRel) (id : Nat) :
    RustSem.Map.contains_key (reprSR sM).unacked_messages id = (SMap.find? sM.unacked id).isSome := by
  simp only [reprSR, contains_reprUM]

theorem find_sent_repr (mrs : Nat → Nat) (c : Conn) (seq : Nat) :
    RustSem.Map.find? (reprConn mrs c).sent_packets seq = (SMap.find? c.sent seq).map reprSentEntry := by
  simp only [reprConn, find_mapVals]

/-- a stored-and-unmarked slice, read off the generated channel -/
def GPending (s : Src.renet.channel.reliable.SendChannelReliable) (id i : Nat) : Prop :=
  ∃ m n k nx acked ls, RustSem.Map.find? s.unacked_messages id = some (.Sliced m n k nx acked ls) ∧ acked[i]? = some false

theorem gpending_repr (sM : SendRel) (id i : Nat) : GPending (reprSR sM) id i ↔ sM.Pending id i := by
  constructor
  · rintro ⟨m, n, k, nx, acked, ls, hf, ha⟩
    obtain ⟨m0, -, hf0⟩ := unacked_sliced_of_repr hf
    exact ⟨m0, n, k, nx, acked, ls, hf0, ha⟩
  · rintro ⟨m, n, k, nx, acked, ls, hf, ha⟩
    refine ⟨toNats m, n, k, nx, acked, ls, ?_, ha⟩
    simp only [reprSR, find_reprUM, hf, Option.map_some, reprU]

theorem mem_pendingAcks_repr {mrs : Nat → Nat} {c : Conn} {x : Nat}
    (h : ∃ r ∈ (reprConn mrs c).pending_acks, r.start ≤ x ∧ x < r.«end») : Acks.Mem x c.pendingAcks := by
  obtain ⟨r, hr, h1, h2⟩ := h
  simp only [reprConn] at hr
  obtain ⟨r0, hr0, rfl⟩ := List.mem_map.mp hr
  exact Acks.mem_iff_exists.mpr ⟨r0, hr0, h1, h2⟩

end RenetVerif.SrcConnC08
