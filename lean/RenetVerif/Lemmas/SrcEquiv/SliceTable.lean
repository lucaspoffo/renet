/-
  Slice tables shared by the receive channels (groups RecvUnrel, RecvRel): the model table `SMap SliceCtor` ↦ the
  generated `BTreeMap` / `HashMap<u64, SliceConstructor>` (a generated constructor stores its key as `message_id`),
  side conditions on a constructor, length of a completed message.  Depends on group Slice (both channels call
  `SliceConstructor::{new, process_slice}`).
-/
import RenetVerif.Lemmas.SrcEquiv.Slice
import RenetVerif.Lemmas.SrcEquiv.ChanLemmas
import RenetVerif.Lemmas.ResMonad
namespace RenetVerif.SrcEquiv
open RenetVerif RenetVerif.RustSem

abbrev SSliceCtor := Src.renet.channel.slice_constructor.SliceConstructor


/-- model slice table ↦ generated `BTreeMap<u64, SliceConstructor>` (the constructor stores its key as `message_id`) -/
def reprSlices (m : SMap SliceCtor) : RustSem.Map SSliceCtor := m.map fun p => (p.1, reprSC p.1 p.2)

theorem find_reprSlices (m : SMap SliceCtor) (k : Nat) :
    RustSem.Map.find? (reprSlices m) k = (SMap.find? m k).map (reprSC k) :=
  find_map_keyed reprSC id m k

theorem contains_reprSlices (m : SMap SliceCtor) (k : Nat) :
    RustSem.Map.contains_key (reprSlices m) k = SMap.contains m k := by
  simp [RustSem.Map.contains_key, SMap.contains, find_reprSlices]

theorem insert_reprSlices (m : SMap SliceCtor) (k : Nat) (c : SliceCtor) :
    RustSem.Map.insert (reprSlices m) k (reprSC k c) = reprSlices (SMap.insert m k c) := by
  induction m with
  | nil => rfl
  | cons p r ih =>
    obtain ⟨k', v⟩ := p
    simp only [reprSlices, List.map_cons, RustSem.Map.insert, SMap.insert] at ih ⊢
    by_cases h1 : k < k'
    · simp [h1]
    · by_cases h2 : k = k'
      · simp [h2]
      · simp [h1, h2, ih]

theorem remove_reprSlices (m : SMap SliceCtor) (k : Nat) :
    RustSem.Map.remove (reprSlices m) k = reprSlices (SMap.erase m k) :=
  remove_map_keyed reprSC id m k

theorem setRange_length {ε : Type} {l src l' : Bytes} {st : Nat} {site : String}
    (h : (setRange l st src site : Res ε Bytes) = .ok l') : l'.length = l.length := by
  unfold setRange at h
  split at h
  · injection h with h
    subst h
    simp only [List.length_append, List.length_take, List.length_drop]
    omega
  · cases h

theorem payload_len_le (c : SliceCtor) (idx : Nat) (bytes : Bytes) (c' : SliceCtor) (m : Bytes)
    (hd : c.data.length ≤ c.numSlices * C.SLICE_SIZE) (h : c.processSlice idx bytes = .ok (c', some m)) :
    m.length ≤ c.numSlices * C.SLICE_SIZE := by
  unfold SliceCtor.processSlice at h
  simp only [] at h
  by_cases h1 : idx ≥ c.numSlices
  · rw [if_pos h1] at h; cases h
  by_cases h2 : (idx == c.numSlices - 1) = true ∧ bytes.length > C.SLICE_SIZE
  · rw [if_neg h1, if_pos h2] at h; cases h
  by_cases h3 : ¬ (idx == c.numSlices - 1) = true ∧ bytes.length ≠ C.SLICE_SIZE
  · rw [if_neg h1, if_neg h2, if_pos h3] at h; cases h
  rw [if_neg h1, if_neg h2, if_neg h3] at h
  cases hg : c.received[idx]? with
  | none => rw [hg] at h; cases h
  | some got =>
    -- the message is the data of the constructor as it stands before the completion test
    have hout : ∀ c1 : SliceCtor, (if c1.numReceived = c1.numSlices then
        (pure ({ c1 with data := [] }, some c1.data) : Res ChanErr _) else pure (c1, none)) = .ok (c', some m) → m = c1.data := by
      intro c1 hout
      split at hout
      · injection hout with hout; injection hout with _ hout; injection hout with hout; exact hout.symm
      · cases hout
    rw [hg] at h
    cases got with
    | true => exact hout c h ▸ hd
    | false =>
      obtain ⟨d', hsr, h⟩ := Res.bind_ok_iff.mp h
      rw [hout _ h, setRange_length hsr]
      split
      · rename_i hlast
        have hb : bytes.length ≤ C.SLICE_SIZE := Nat.le_of_not_lt fun hb => h2 ⟨hlast, hb⟩
        simp only [resize, List.length_append, List.length_take, List.length_replicate, C.SLICE_SIZE] at hb ⊢
        omega
      · exact hd

structure CtorOk (c : SliceCtor) : Prop where
  size : c.numSlices * C.SLICE_SIZE < 2 ^ 64
  recv : c.numReceived + 1 < 2 ^ 64
  data : c.data.length ≤ c.numSlices * C.SLICE_SIZE

theorem ctorOk_new (n : Nat) (h : n * C.SLICE_SIZE < 2 ^ 64) : CtorOk (SliceCtor.new n) :=
  ⟨h, by simp [SliceCtor.new], by simp [SliceCtor.new]⟩


end RenetVerif.SrcEquiv
