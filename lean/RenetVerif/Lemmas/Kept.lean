/-
  WHAT THE OPERATIONS OF A CONNECTION KEEP.

  Every operation of a connection is made of a few primitive changes: one channel of one of the four channel tables is
  replaced by what a call into it leaves (`SendRelStep`, `SendUnrelStep`, `RecvRelStep`, `RecvUnrelStep`), an entry of
  `sent_packets` is removed or recorded, and fields no predicate here depends on change (status, pending acks, packet
  sequence).  `Kept O I`: the predicate `I` of a connection survives these changes, for the calls `O : Calls` considers —
  `O` says what is known of a submitted message (`fun _ => False`: `send_message` is not considered), whether acks are
  processed, and at which times a flush runs.  Then `I` survives `send_message`, `receive_message`, `process_packet` (ANY bytes),
  `get_packets_to_send` and the status changes (`Kept.sendMessage` … `Kept.setConnecting`); `Kept.flush` says in
  addition what the packets of the flush satisfy.

  Predicates of the single send channels (`ChanKept O Pr Pu`, indexed by the channel id; one obligation per call into a
  channel, those for calls `O` does not consider hold by default) give the predicate "every send channel satisfies
  its `Pr` / `Pu`" of the connection (`SendAll`, `ChanKept.all`).
-/
import RenetVerif.Lemmas.Flush
import RenetVerif.Lemmas.AckCases
import RenetVerif.Lemmas.ResMonad
import RenetVerif.Lemmas.ConnSteps
namespace RenetVerif
open RenetVerif.C

/-- the state an outcome leaves behind: its result, or what its error carries -/
def Leaves {ε σ : Type} (x : Res (ε × σ) σ) (s : σ) : Prop := x = .ok s ∨ ∃ e, x = .err (e, s)

/-- the calls into the send side that are considered: `send m` is what is known of a message handed to `send_message`
    (`fun _ => False`: none is), `acks` whether acks are processed, `flush now` whether `get_packets_to_send` runs at time
    `now` (`(T ≤ ·)`: from `T` on) -/
structure Calls where
  send : Bytes → Prop
  acks : Prop
  flush : Nat → Prop

def Calls.all : Calls := ⟨fun _ => True, True, fun _ => True⟩

def Calls.noSend : Calls := ⟨fun _ => False, True, fun _ => True⟩

/-- a reliable send channel after one of the connection's calls into it (at time `now`) -/
inductive SendRelStep (O : Calls) (now : Nat) (s : SendRel) : SendRel → Prop
  | send {m : Bytes} {s' : SendRel} : O.send m → s.sendMessage m = .ok s' → SendRelStep O now s s'
  | ackMsgs {ids : List Nat} {s' : SendRel} : O.acks → Conn.ackMsgLoop s ids = .ok s' → SendRelStep O now s s'
  | ackSlice {id idx : Nat} {s' : SendRel} : O.acks → s.processSliceAck id idx = .ok s' → SendRelStep O now s s'
  | flush (seq avail : Nat) : O.flush now → SendRelStep O now s (s.getPackets seq avail now).1

inductive SendUnrelStep (O : Calls) (now : Nat) (s : SendUnrel) : SendUnrel → Prop
  | send {m : Bytes} : O.send m → SendUnrelStep O now s (s.sendMessage m)
  | flush (seq avail : Nat) : O.flush now → SendUnrelStep O now s (s.getPackets seq avail).1

inductive RecvRelStep (r : RecvRel) : RecvRel → Prop
  | receive {m : Option Bytes} {r' : RecvRel} : r.receive = .ok (r', m) → RecvRelStep r r'
  | msgs {l : List (Nat × Bytes)} {r' : RecvRel} : Leaves (Conn.relMsgLoop r l) r' → RecvRelStep r r'
  | slice {sl : Slice} {r' : RecvRel} : Leaves (r.processSlice sl) r' → RecvRelStep r r'

inductive RecvUnrelStep (now : Nat) (r : RecvUnrel) : RecvUnrel → Prop
  | receive {m : Option Bytes} {r' : RecvUnrel} : r.receive = .ok (r', m) → RecvUnrelStep now r r'
  | msgs (l : List Bytes) : RecvUnrelStep now r (l.foldl RecvUnrel.processMessage r)
  | slice {sl : Slice} {r' : RecvUnrel} : Leaves (r.processSlice sl now) r' → RecvUnrelStep now r r'

/-- `I` is kept by the primitive changes the operations of a connection are made of: one channel of one table replaced by
    what a call into it leaves, an entry of `sent_packets` removed or recorded at the current time, and changes of what `I`
    may not depend on (status, pending acks, packet sequence; the send order is written by no operation) -/
structure Kept (O : Calls) (I : Conn → Prop) : Prop where
  frame : ∀ {c c' : Conn}, I c → c'.sendRel = c.sendRel → c'.sendUnrel = c.sendUnrel → c'.recvRel = c.recvRel →
    c'.recvUnrel = c.recvUnrel → c'.sent = c.sent → c'.now = c.now → c'.order = c.order → c'.budget = c.budget → I c'
  sendRel : ∀ {c : Conn} {ch : Nat} {s s' : SendRel}, I c → SMap.find? c.sendRel ch = some s → SendRelStep O c.now s s' →
    I { c with sendRel := SMap.insert c.sendRel ch s' }
  sendUnrel : ∀ {c : Conn} {ch : Nat} {s s' : SendUnrel}, I c → SMap.find? c.sendUnrel ch = some s →
    SendUnrelStep O c.now s s' → I { c with sendUnrel := SMap.insert c.sendUnrel ch s' }
  recvRel : ∀ {c : Conn} {ch : Nat} {r r' : RecvRel}, I c → SMap.find? c.recvRel ch = some r → RecvRelStep r r' →
    I { c with recvRel := SMap.insert c.recvRel ch r' }
  recvUnrel : ∀ {c : Conn} {ch : Nat} {r r' : RecvUnrel}, I c → SMap.find? c.recvUnrel ch = some r →
    RecvUnrelStep c.now r r' → I { c with recvUnrel := SMap.insert c.recvUnrel ch r' }
  eraseSent : ∀ {c : Conn} (seq : Nat), I c → I { c with sent := SMap.erase c.sent seq }
  insertSent : ∀ {c : Conn} (seq : Nat) (info : SentInfo), I c → I { c with sent := SMap.insert c.sent seq (c.now, info) }

namespace Kept
variable {O : Calls} {I : Conn → Prop} (hI : Kept O I)
include hI

theorem status {c : Conn} (h : I c) (st : Status) : I { c with status := st } := hI.frame h rfl rfl rfl rfl rfl rfl rfl rfl

theorem disconnectWith {c : Conn} (h : I c) (r : Reason) : I (c.disconnectWith r) :=
  let ⟨st, e⟩ := c.disconnectWith_eq r
  e ▸ hI.status h st

theorem setConnected {c : Conn} (h : I c) : I c.setConnected :=
  let ⟨st, e⟩ := c.setConnected_eq
  e ▸ hI.status h st

theorem setConnecting {c : Conn} (h : I c) : I c.setConnecting :=
  let ⟨st, e⟩ := c.setConnecting_eq
  e ▸ hI.status h st

theorem sendMessage {c c' : Conn} {ch : Nat} {m : Bytes} (h : I c) (hm : O.send m) (hr : c.sendMessage ch m = .ok c') :
    I c' := by
  rcases Conn.sendMessage_outcomes hr with ⟨-, rfl⟩ | ⟨-, s, hf, ⟨s', hs, rfl⟩ | ⟨e, -, rfl⟩⟩ | ⟨-, -, s, hf, rfl⟩
  · exact h
  · exact hI.sendRel h hf (.send hm hs)
  · exact hI.disconnectWith h _
  · exact hI.sendUnrel h hf (.send hm)

theorem receiveMessage {c c' : Conn} {ch : Nat} {o : Option Bytes} (h : I c) (hr : c.receiveMessage ch = .ok (c', o)) :
    I c' := by
  rcases Conn.receiveMessage_outcomes hr with ⟨-, rfl, -⟩ | ⟨-, r, r', hf, h1, rfl⟩ | ⟨-, -, r, r', hf, h1, rfl⟩
  · exact h
  · exact hI.recvRel h hf (.receive h1)
  · exact hI.recvUnrel h hf (.receive h1)

theorem ackOne {c c' : Conn} {seq : Nat} (hk : O.acks) (h : I c) (hr : c.ackOne seq = .ok c') : I c' := by
  have h1 := hI.eraseSent seq h
  obtain ⟨t, info, -, hr⟩ := Conn.ackOne_cases hr
  cases info with
  | none => obtain rfl := hr; exact h1
  | ack l => obtain rfl := hr; exact hI.frame h1 rfl rfl rfl rfl rfl rfl rfl rfl
  | relMsgs ch ids => obtain ⟨s, s', hf, hs, rfl⟩ := hr; exact hI.sendRel h1 hf (.ackMsgs hk hs)
  | relSlice ch id idx => obtain ⟨s, s', hf, hs, rfl⟩ := hr; exact hI.sendRel h1 hf (.ackSlice hk hs)

theorem ackLoop (hk : O.acks) (l : List Nat) {c c' : Conn} (h : I c) (hr : c.ackLoop l = .ok c') : I c' :=
  Conn.ackLoop_rel (fun c c' => I c → I c') (fun _ h => h) (fun h1 h2 h => h2 (h1 h)) (fun e h => hI.ackOne hk h e) l hr h

/-- a feed of either receive table keeps `I` when storing what the call leaves does -/
theorem feed {α : Type} {tbl : SMap α} {put : SMap α → Conn} {c c' : Conn} {ch : Nat} {f : α → Res (ChanErr × α) α}
    (h : I c) (hs : ∀ r r', SMap.find? tbl ch = some r → Leaves (f r) r' → I (put (SMap.insert tbl ch r')))
    (hr : Conn.feed tbl put c ch f = .ok c') : I c' := by
  rcases Conn.feed_cases hr with ⟨-, rfl⟩ | ⟨r, r', hf, ⟨e, rfl⟩ | ⟨e0, e, rfl⟩⟩
  · exact hI.disconnectWith h _
  · exact hs r r' hf (.inl e)
  · exact hI.disconnectWith (hs r r' hf (.inr ⟨e0, e⟩)) _

theorem processPacket {c c' : Conn} {bytes : Bytes} (hk : O.acks) (h : I c) (hr : c.processPacket bytes = .ok c') :
    I c' := by
  cases hd : c.isDisconnected with
  | true => rw [Conn.processPacket_dead hd] at hr; cases hr; exact h
  | false =>
    cases hp : Packet.fromBytes bytes with
    | error e => rw [Conn.processPacket_garbage hp] at hr; cases hr; exact hI.disconnectWith h _
    | ok p =>
      have h0 : I { c with pendingAcks := Acks.add C.ACK_RANGE_CAP p.sequence c.pendingAcks } :=
        hI.frame h rfl rfl rfl rfl rfl rfl rfl rfl
      rw [Conn.processPacket_live hd hp] at hr
      cases p <;> dsimp only [Conn.dispatch] at hr
      case smallReliable => exact hI.feed h0 (fun _ _ hf hl => hI.recvRel h0 hf (.msgs hl)) hr
      case reliableSlice => exact hI.feed h0 (fun _ _ hf hl => hI.recvRel h0 hf (.slice hl)) hr
      case smallUnreliable =>
        refine hI.feed h0 (fun r r' hf hl => ?_) hr
        rcases hl with e | ⟨_, e⟩ <;> cases e
        exact hI.recvUnrel h0 hf (.msgs _)
      case unreliableSlice => exact hI.feed h0 (fun _ _ hf hl => hI.recvUnrel h0 hf (.slice hl)) hr
      case ack =>
        obtain ⟨acks, _, hr⟩ := Res.bind_ok_iff.mp hr
        exact hI.ackLoop hk acks h0 hr

/-- The loop over the send channels, seen on the connection `c` that holds its two tables: `I` survives, and the packets
    the loop appends are in `Q` when each channel's packets are — where the channel may be taken to satisfy `I` and
    its flush to leave the sequence counter at most `B` (the counter only grows, so the bound at the end bounds it
    throughout). -/
theorem chanLoop (c : Conn) (hf : O.flush c.now) {Q : Packet → Prop} {B : Nat}
    (hr : ∀ sr su ch s seq avail, I { c with sendRel := sr, sendUnrel := su } → SMap.find? sr ch = some s →
      (s.getPackets seq avail c.now).2.2.1 ≤ B → ∀ p ∈ (s.getPackets seq avail c.now).2.1, Q p)
    (hu : ∀ sr su ch s seq avail, I { c with sendRel := sr, sendUnrel := su } → SMap.find? su ch = some s →
      (s.getPackets seq avail).2.2.1 ≤ B → ∀ p ∈ (s.getPackets seq avail).2.1, Q p)
    {order : List (Bool × Nat)} {sr sr' : SMap SendRel} {su su' : SMap SendUnrel} {pk pk' : List Packet}
    {seq avail seq' avail' : Nat}
    (h : Conn.chanLoop c.now order (sr, su, pk, seq, avail) = .ok (sr', su', pk', seq', avail')) (hseq : seq' ≤ B)
    (hi : I { c with sendRel := sr, sendUnrel := su }) :
    I { c with sendRel := sr', sendUnrel := su' } ∧ ∃ ps, pk' = pk ++ ps ∧ ∀ p ∈ ps, Q p :=
  chanLoop_pres c.now B (fun sr su => I { c with sendRel := sr, sendUnrel := su }) Q
    (fun sr su ch s seq avail a hs hq =>
      ⟨hI.sendRel (c := { c with sendRel := sr, sendUnrel := su }) a hs (.flush seq avail hf), hr sr su ch s seq avail a hs hq⟩)
    (fun sr su ch s seq avail a hs hq =>
      ⟨hI.sendUnrel (c := { c with sendRel := sr, sendUnrel := su }) a hs (.flush seq avail hf), hu sr su ch s seq avail a hs hq⟩)
    h hseq hi

theorem recordSent (c : Conn) : ∀ (pk : List Packet) (m m' : SMap (Nat × SentInfo)), I { c with sent := m } →
    Conn.recordSent c.now pk m = .ok m' → I { c with sent := m' } := by
  intro pk
  induction pk with
  | nil => intro m m' h hr; cases hr; exact h
  | cons p rest ih =>
    intro m m' h hr
    unfold Conn.recordSent at hr
    obtain ⟨info, _, hr⟩ := Res.bind_ok_iff.mp hr
    exact ih _ _ (hI.insertSent (c := { c with sent := m }) _ info h) hr

/-- one flush: `I` survives, and the channels' packets are in `Q` when each channel's are (as in `Kept.chanLoop`, with
    `B` a bound of the packet sequence after the flush) -/
theorem flush {Q : Packet → Prop} {B : Nat} {c c' : Conn} {bs : List Bytes} {pk0 : List Packet} {seq0 avail : Nat}
    (hr : ∀ sr su ch s seq avail, I { c with sendRel := sr, sendUnrel := su } → SMap.find? sr ch = some s →
      (s.getPackets seq avail c.now).2.2.1 ≤ B → ∀ p ∈ (s.getPackets seq avail c.now).2.1, Q p)
    (hu : ∀ sr su ch s seq avail, I { c with sendRel := sr, sendUnrel := su } → SMap.find? su ch = some s →
      (s.getPackets seq avail).2.2.1 ≤ B → ∀ p ∈ (s.getPackets seq avail).2.1, Q p)
    (hf : O.flush c.now) (h : I c) (o : c.FlushOut c' bs pk0 seq0 avail) (hb : c'.packetSeq ≤ B) :
    I c' ∧ ∀ p ∈ pk0, Q p := by
  have hseq0 : seq0 ≤ B := by
    rw [o.packetSeq] at hb
    split at hb <;> omega
  obtain ⟨h1, ps, e, h2⟩ := hI.chanLoop c hf hr hu o.loop hseq0 h
  rw [List.nil_append] at e
  have h3 := hI.recordSent { c with sendRel := c'.sendRel, sendUnrel := c'.sendUnrel } _ _ _ h1 o.sent
  exact ⟨hI.frame h3 rfl rfl o.recvRel o.recvUnrel rfl o.now o.order o.budget, e ▸ h2⟩

theorem getPacketsToSend {c c' : Conn} {bs : List Bytes} (hf : O.flush c.now) (h : I c)
    (hr : c.getPacketsToSend = .ok (c', bs)) : I c' := by
  rcases Conn.flush_cases hr with ⟨-, rfl, -⟩ | ⟨pk0, seq0, avail, o⟩
  · exact h
  · exact (hI.flush (Q := fun _ => True) (fun _ _ _ _ _ _ _ _ _ _ _ => trivial) (fun _ _ _ _ _ _ _ _ _ _ _ => trivial)
      hf h o (Nat.le_refl _)).1

end Kept

theorem Kept.and {O : Calls} {I J : Conn → Prop} (hI : Kept O I) (hJ : Kept O J) : Kept O (fun c => I c ∧ J c) where
  frame h h1 h2 h3 h4 h5 h6 h7 h8 := ⟨hI.frame h.1 h1 h2 h3 h4 h5 h6 h7 h8, hJ.frame h.2 h1 h2 h3 h4 h5 h6 h7 h8⟩
  sendRel h hf hs := ⟨hI.sendRel h.1 hf hs, hJ.sendRel h.2 hf hs⟩
  sendUnrel h hf hs := ⟨hI.sendUnrel h.1 hf hs, hJ.sendUnrel h.2 hf hs⟩
  recvRel h hf hs := ⟨hI.recvRel h.1 hf hs, hJ.recvRel h.2 hf hs⟩
  recvUnrel h hf hs := ⟨hI.recvUnrel h.1 hf hs, hJ.recvUnrel h.2 hf hs⟩
  eraseSent seq h := ⟨hI.eraseSent seq h.1, hJ.eraseSent seq h.2⟩
  insertSent seq info h := ⟨hI.insertSent seq info h.1, hJ.insertSent seq info h.2⟩

/-- no call writes the budget -/
theorem Kept.budget (O : Calls) (b : Nat) : Kept O (fun c => c.budget = b) where
  frame h _ _ _ _ _ _ _ h8 := h8.trans h
  sendRel h _ _ := h
  sendUnrel h _ _ := h
  recvRel h _ _ := h
  recvUnrel h _ _ := h
  eraseSent _ h := h
  insertSent _ _ h := h

/-- no operation removes a reliable send channel: the table only changes by `insert` at a key that is present -/
theorem Kept.hasSend (O : Calls) (ch0 : Nat) : Kept O (fun c => (SMap.find? c.sendRel ch0).isSome) where
  frame h h1 _ _ _ _ _ _ _ := by rw [h1]; exact h
  sendRel h _ _ := by
    dsimp only
    rw [SMap.find?_insert]
    split
    · rfl
    · exact h
  sendUnrel h _ _ := h
  recvRel h _ _ := h
  recvUnrel h _ _ := h
  eraseSent _ h := h
  insertSent _ _ h := h

def SendAll (Pr : Nat → SendRel → Prop) (Pu : Nat → SendUnrel → Prop) (c : Conn) : Prop :=
  (∀ ch s, SMap.find? c.sendRel ch = some s → Pr ch s) ∧ ∀ ch s, SMap.find? c.sendUnrel ch = some s → Pu ch s

/-- `Pr` and `Pu` survive the calls into a send channel that `O` considers: one obligation per call, under the permission
    of `O` for it.  A field may be left out in exactly two cases, and its default proves nothing else: the permission is
    `False` (the call is not considered: `send`, `sendU` with `O.send = fun _ => False`; `msgAck`, `sliceAck` with
    `O.acks = False`; `flush`, `flushU` with `O.flush = fun _ => False`), or the predicate it concludes is `True`
    (`sendU`, `flushU` when nothing is claimed of the unreliable channels: `Pu = fun _ _ => True`; likewise for `Pr`). -/
structure ChanKept (O : Calls) (Pr : Nat → SendRel → Prop) (Pu : Nat → SendUnrel → Prop) : Prop where
  send : ∀ {ch : Nat} {s s' : SendRel} {m : Bytes}, O.send m → Pr ch s → s.sendMessage m = .ok s' → Pr ch s' := by
    intros; first | exact True.intro | exact False.elim (by assumption)
  msgAck : ∀ {ch : Nat} {s s' : SendRel} {id : Nat}, O.acks → Pr ch s → s.processMessageAck id = .ok s' → Pr ch s' := by
    intros; first | exact True.intro | exact False.elim (by assumption)
  sliceAck : ∀ {ch : Nat} {s s' : SendRel} {id idx : Nat}, O.acks → Pr ch s → s.processSliceAck id idx = .ok s' →
    Pr ch s' := by intros; first | exact True.intro | exact False.elim (by assumption)
  flush : ∀ {ch : Nat} {s : SendRel} (seq avail now : Nat), O.flush now → Pr ch s → Pr ch (s.getPackets seq avail now).1 := by
    intros; first | exact True.intro | exact False.elim (by assumption)
  sendU : ∀ {ch : Nat} {s : SendUnrel} {m : Bytes}, O.send m → Pu ch s → Pu ch (s.sendMessage m) := by
    intros; first | exact True.intro | exact False.elim (by assumption)
  flushU : ∀ {ch : Nat} {s : SendUnrel} (seq avail now : Nat), O.flush now → Pu ch s → Pu ch (s.getPackets seq avail).1 := by
    intros; first | exact True.intro | exact False.elim (by assumption)

namespace ChanKept
variable {O : Calls} {Pr : Nat → SendRel → Prop} {Pu : Nat → SendUnrel → Prop} (k : ChanKept O Pr Pu)
include k

theorem relStep {ch now : Nat} {s s' : SendRel} (h : Pr ch s) (hs : SendRelStep O now s s') : Pr ch s' := by
  cases hs with
  | send hm hs => exact k.send hm h hs
  | ackMsgs hk ha =>
    exact Conn.ackMsgLoop_rel (fun s s' => Pr ch s → Pr ch s') (fun _ h => h) (fun h1 h2 h => h2 (h1 h))
      (fun e h => k.msgAck hk h e) _ ha h
  | ackSlice hk ha => exact k.sliceAck hk h ha
  | flush seq avail hf => exact k.flush seq avail now hf h

theorem unrelStep {ch now : Nat} {s s' : SendUnrel} (h : Pu ch s) (hs : SendUnrelStep O now s s') : Pu ch s' := by
  cases hs with
  | send hm => exact k.sendU hm h
  | flush seq avail hf => exact k.flushU seq avail now hf h

theorem all : Kept O (SendAll Pr Pu) where
  frame h h1 h2 _ _ _ _ _ _ := by unfold SendAll; rw [h1, h2]; exact h
  sendRel h hf hs := ⟨SMap.forall_find?_insert (fun j x _ => h.1 j x) (k.relStep (h.1 _ _ hf) hs), h.2⟩
  sendUnrel h hf hs := ⟨h.1, SMap.forall_find?_insert (fun j x _ => h.2 j x) (k.unrelStep (h.2 _ _ hf) hs)⟩
  recvRel h _ _ := h
  recvUnrel h _ _ := h
  eraseSent _ h := h
  insertSent _ _ h := h

end ChanKept
end RenetVerif
