/-
  Source tie: the Lean definitions that /verif/translator derives from the CURRENT Rust text
  (`RenetVerif/Generated/Src.lean`, namespace `RenetVerif.Src`, regenerated on every check run) compute
  exactly what the hand-written model computes.  If one of these Rust functions is edited, the
  regenerated text changes and these theorems are re-checked against it.

  Conventions: generated integers are `Nat`s (a `uN` argument is assumed `< 2^N` where it matters, stated
  as a hypothesis), arrays/`Vec`s/slices are `List`s.  `absRP`/`absSC`/`absPT`/`absErr` are the abstraction
  functions generated type → model type, `reprRP`/`reprSC`/`toNats` their (right-)inverses on well-formed
  values; `WfRP`, `WfSC`, `BytesOk` are decidable (so is `p.enc = .ok bytes` in part D, `Props/SrcTiePacket.lean`).
  `SameOutcome` compares `ok`/`err` values exactly and panics up to the text of the site.
-/
import RenetVerif.Lemmas.SrcEquiv.Prefix
namespace RenetVerif.SrcTie
open RenetVerif RenetVerif.SrcEquiv

/-! ## B. `renetcode/src/packet.rs` ↔ `Netcode.Packet` / `Netcode.PacketType` -/
section B
open Src.renetcode.packet Netcode

/-- `sequence_bytes_required` (the 8-round mask loop) never panics and equals the model's byte count -/
theorem sequence_bytes_required {ε : Type} (sequence : Nat) :
    (Src.renetcode.packet.sequence_bytes_required sequence : Res ε Nat) = .ok (Packet.sequenceBytesRequired sequence) :=
  sequence_bytes_required_loop sequence _ _ 8 (Nat.le_refl 8)

/-- `encode_prefix(value, sequence)` for a packet-type nibble `value < 16`: the model's prefix byte -/
theorem encode_prefix {ε : Type} (value sequence : Nat) (hv : value < 16) :
    (Src.renetcode.packet.encode_prefix value sequence : Res ε Nat) = .ok (Packet.encodePrefix value sequence).toNat := by
  unfold Src.renetcode.packet.encode_prefix
  have hb := And.intro (NcAead.Packet.sbr_pos sequence) (NcAead.Packet.sbr_le sequence)
  generalize hn : Packet.sequenceBytesRequired sequence = n at hb
  have h1 : RustSem.cast 8 n = n := cast_of_lt (by omega)
  have h2 : (n <<< 4) % 2 ^ 8 = n <<< 4 := by
    rw [Nat.shiftLeft_eq]; exact Nat.mod_eq_of_lt (by omega)
  have h3 : value ||| n <<< 4 = value + n * 16 := by
    rw [Nat.or_comm, ← Nat.shiftLeft_add_eq_or_of_lt (by simpa using hv), Nat.shiftLeft_eq]; omega
  have h4 : (value + n * 16) % 256 = value + n * 16 := Nat.mod_eq_of_lt (by omega)
  simp only [sequence_bytes_required, hn, RustSem.Exec.call_ok, RustSem.Exec.bind_val, h1, shl_val (show 4 < 8 by decide), h2, RustSem.Exec.pure_eq,
    RustSem.Exec.run_val, RustSem.bor, h3, Packet.encodePrefix, UInt8.toNat_ofNat', h4]

/-- `decode_prefix` on any byte -/
theorem decode_prefix {ε : Type} (value : UInt8) :
    (Src.renetcode.packet.decode_prefix value.toNat : Res ε (Nat × Nat)) = .ok (Packet.decodePrefix value) := by
  unfold Src.renetcode.packet.decode_prefix
  have hv : value.toNat < 256 := value.toNat_lt
  have h1 : RustSem.cast 64 (value.toNat >>> 4) = value.toNat / 16 := by
    rw [Nat.shiftRight_eq_div_pow]; exact cast_of_lt (by omega)
  have h2 : value.toNat &&& 0xF = value.toNat % 16 := Nat.and_two_pow_sub_one_eq_mod _ 4
  simp only [shr_val (show 4 < 8 by decide), RustSem.Exec.bind_val, RustSem.Exec.pure_eq, RustSem.Exec.run_val, RustSem.band, h1, h2, Packet.decodePrefix]

/-- `PacketType::from_u8`: same variant / same error for every `value` -/
theorem packet_type_from_u8 (value : Nat) :
    mapRes absPT absErr (Src.renetcode.packet.PacketType.from_u8 value) = Netcode.PacketType.fromU8 value := by
  rcases value with _|_|_|_|_|_|_|n <;> rfl

theorem packet_type_apply_replay_protection {ε : Type} (t : Src.renetcode.packet.PacketType) :
    (Src.renetcode.packet.PacketType.apply_replay_protection t : Res ε Bool) = .ok (absPT t).applyReplayProtection := by
  cases t <;> rfl

example : (Src.renetcode.packet.sequence_bytes_required 0x012345 : Res Empty Nat) = .ok 3 := by decide +kernel
example : (Src.renetcode.packet.sequence_bytes_required 0 : Res Empty Nat) = .ok 1 := by decide +kernel
example : (Src.renetcode.packet.encode_prefix 5 0x0100 : Res Empty Nat) = .ok 0x25 := by decide +kernel
example : (Src.renetcode.packet.decode_prefix 0x25 : Res Empty (Nat × Nat)) = .ok (5, 2) := by decide +kernel
example : Src.renetcode.packet.PacketType.from_u8 4 = .ok .KeepAlive := by decide +kernel
example : Src.renetcode.packet.PacketType.from_u8 7 = .err .InvalidPacketType := by decide +kernel
example : (Src.renetcode.packet.PacketType.apply_replay_protection .Challenge : Res Empty Bool) = .ok false := by decide +kernel
end B

end RenetVerif.SrcTie
