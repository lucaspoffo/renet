/-
  C15 — last clause, at connection level:

    "a reliable message (or slice) … is never transmitted again after an acknowledgement for a packet carrying it
     (sent less than 3 s earlier) has been processed."

  Props/C15 proves the one-flush facts about a reliable send channel (`acked_never`: an id absent from `unacked` is in
  no packet of the flush; `slice_not_early`: an acknowledged slice is in no packet).  Here the chain is closed for one
  connection `c : Conn`; proofs are in Lemmas/AckFinal.lean.

    0. `carried_is_recorded`     a flush records, under each packet's sequence number, what the packet carried;
    1. `ack_processed_releases`  processing an Ack packet that covers a recorded sequence number `q` never panics,
                                 removes `q` from the sent table, releases the small messages packet `q` carried
                                 (`Released`), resp. marks the slice it carried (`SliceAcked`);
    2. `released_stays_released` `Released` / `SliceAcked` survive every public operation; ids are allocated increasingly
                                 (`released_id_not_reused`);
    3. `never_retransmitted`     after ANY finite sequence of later operations, no packet of a flush carries the
                                 acknowledged message / slice — `never_retransmitted_wire` says the same of the datagrams;
    4. the proviso "(sent less than 3 s earlier)": `stale_ack_changes_nothing`, `release_needs_recorded_packet`,
       `older_than_3s_is_pruned`.

  Invariant: `Good c := c.SendInv ∧ Acks.WF c.pendingAcks` (plus `TimeOK c` for the pruning lemma); both hold in every
  state reachable from `Conn.fromChannels` (`good_of_reach`, `AckFinal.timeOK_run`).
  Operations: `SL.ConnOp` / `SL.ConnOp.apply` / `SL.Conn.runOps` (Lemmas/ServerLemmas.lean) — every public operation of
  `RenetClient`, as data.
-/
import RenetVerif.Lemmas.AckFinal
namespace RenetVerif.C15A
open RenetVerif C RenetVerif.SI RenetVerif.AckFinal

/-! ### vocabulary (definitions of Lemmas/AckFinal, spelled out) -/

theorem good_iff (c : Conn) : Good c ↔ c.SendInv ∧ Acks.WF c.pendingAcks := Iff.rfl

/-- it holds in every state reachable by any interleaving of API calls and arbitrary incoming datagrams -/
theorem good_of_reach {budget : Nat} {send recv : List ChanCfg} {c : Conn} (h : C08.Reach budget send recv c) : Good c :=
  C08.reach_inv h

theorem released_iff (c : Conn) (ch id : Nat) :
    Released c ch id ↔ ∃ s, SMap.find? c.sendRel ch = some s ∧ id < s.nextId ∧ SMap.find? s.unacked id = none := Iff.rfl

/-- slice `i` of message `id` of channel `ch` is acknowledged: the message is gone (that was its last unacked slice),
    or it is still stored and the ack bit of slice `i` is set -/
theorem sliceAcked_iff (c : Conn) (ch id i : Nat) :
    SliceAcked c ch id i ↔ ∃ s, SMap.find? c.sendRel ch = some s ∧ id < s.nextId ∧
      (SMap.find? s.unacked id = none ∨
        ∃ m n k nx ak ls, SMap.find? s.unacked id = some (.sliced m n k nx ak ls) ∧ ak.getD i false = true) := Iff.rfl

theorem carriesMsg_small (ch id sq c : Nat) (msgs : List (Nat × Bytes)) :
    CarriesMsg ch id (.smallReliable sq c msgs) ↔ c = ch ∧ ∃ x ∈ msgs, x.1 = id := Iff.rfl
theorem carriesMsg_slice (ch id sq c : Nat) (sl : Slice) :
    CarriesMsg ch id (.reliableSlice sq c sl) ↔ c = ch ∧ sl.messageId = id := Iff.rfl
theorem carriesSlice_slice (ch id i sq c : Nat) (sl : Slice) :
    CarriesSlice ch id i (.reliableSlice sq c sl) ↔ c = ch ∧ sl.messageId = id ∧ sl.sliceIndex = i := Iff.rfl

/-- After a flush that leaves the connection live, every packet `p` of the flush is recorded under its sequence number
    with the flush time, and the record names exactly what `p` carried: the ids of a small-message packet, the message
    id and slice index of a slice packet. -/
theorem carried_is_recorded {c c' : Conn} {bs : List Bytes} (hi : c.SendInv) (h : c.getPacketsToSend = .ok (c', bs))
    (hd' : c'.isDisconnected = false) :
    (∀ sq ch msgs, Packet.smallReliable sq ch msgs ∈ System.flushPk c →
      SMap.find? c'.sent sq = some (c.now, .relMsgs ch (msgs.map (·.1)))) ∧
    (∀ sq ch sl, Packet.reliableSlice sq ch sl ∈ System.flushPk c →
      SMap.find? c'.sent sq = some (c.now, .relSlice ch sl.messageId sl.sliceIndex)) := by
  have recorded : ∀ p ∈ System.flushPk c, ∀ info, Conn.sentInfoOf p = .ok info →
      SMap.find? c'.sent p.sequence = some (c.now, info) := by
    intro p hp info hinfo
    obtain ⟨info', h1, h2⟩ := (System.flush_sent h hd').2 p hp
    rw [hinfo] at h1; cases h1
    exact h2
  exact ⟨fun _ _ _ hp => recorded _ hp _ rfl, fun _ _ _ hp => recorded _ hp _ rfl⟩

/-- **ack_processed_releases.**  `c` satisfies the send invariant and is not disconnected; `bytes` decodes to an Ack
    packet (its ranges are then well formed: `SI.fromBytes_ack_wf`) covering `q`; `c.sent` maps `q` to `(t, info)`.
    Then `process_packet` returns (no panic) a `c'` that satisfies the invariant again, in which `q` is no longer in the
    sent table, every small message named by `info` is released and the slice named by `info` is acknowledged. -/
theorem ack_processed_releases {c : Conn} {bytes : Bytes} {aseq : Nat} {ranges : List AckRange} (hi : c.SendInv)
    (hd : c.isDisconnected = false) (hp : Packet.fromBytes bytes = .ok (.ack aseq ranges))
    {q t : Nat} {info : SentInfo} (hq : SMap.find? c.sent q = some (t, info)) (hm : Acks.Mem q ranges) :
    ∃ c', c.processPacket bytes = .ok c' ∧ c'.SendInv ∧ c'.isDisconnected = false ∧
      SMap.find? c'.sent q = none ∧
      (∀ ch ids, info = .relMsgs ch ids → ∀ id ∈ ids, Released c' ch id) ∧
      (∀ ch id i, info = .relSlice ch id i → SliceAcked c' ch id i) := by
  obtain ⟨c', he⟩ := SI.Conn.processPacket_no_panic_ack hi (Or.inr ⟨aseq, ranges, hp⟩)
  refine ⟨c', he, SI.Conn.processPacket_inv hi he, (Live.processPacket_ack_forward hi hd hp he).2.1,
    ack_erases_sent hi hd hp he hq hm, ?_, ?_⟩
  · rintro ch ids rfl
    exact ack_releases_msgs hi hd hp he hq hm
  · rintro ch id i rfl
    exact ack_releases_slice hi hd hp he hq hm

/-- **released_stays_released.**  Every public operation that returns — `send_message`, `receive_message`,
    `process_packet` of ANY bytes, `get_packets_to_send`, `update`, the status setters — keeps the invariant, keeps every
    released message released and every acknowledged slice acknowledged. -/
theorem released_stays_released {c c' : Conn} (hg : Good c) {op : SL.ConnOp} (e : op.apply c = .ok c') :
    Good c' ∧ (∀ ch id, Released c ch id → Released c' ch id) ∧
    (∀ ch id i, SliceAcked c ch id i → SliceAcked c' ch id i) :=
  ⟨good_apply hg e, fun _ id h => holds_apply (msgDone_stable id) hg (Nat.zero_le _) h e,
   fun _ id i h => holds_apply (sliceDone_stable id i) hg (Nat.zero_le _) h e⟩

/-- … and so does every finite sequence of them -/
theorem released_stays_released_run {c c1 : Conn} (hg : Good c) (ops : List SL.ConnOp)
    (hrun : SL.Conn.runOps c ops = .ok c1) :
    Good c1 ∧ (∀ ch id, Released c ch id → Released c1 ch id) ∧
    (∀ ch id i, SliceAcked c ch id i → SliceAcked c1 ch id i) :=
  SL.Conn.runOps_pres
    (P := fun c' => Good c' ∧ (∀ ch id, Released c ch id → Released c' ch id) ∧
      ∀ ch id i, SliceAcked c ch id i → SliceAcked c' ch id i)
    (fun _ _ _ h e =>
      let ⟨g, m, s⟩ := released_stays_released h.1 e
      ⟨g, fun ch id r => m ch id (h.2.1 ch id r), fun ch id i r => s ch id i (h.2.2 ch id i r)⟩)
    ops c c1 ⟨hg, fun _ _ h => h, fun _ _ _ h => h⟩ hrun

/-- **ids are never reused.**  `send_message` is the only operation that stores a new entry, and the entry gets an id
    above every id the channel allocated before — in particular above every released one (`Released`/`SliceAcked`
    contain `id < nextId`).  So a released id never names a new message. -/
theorem released_id_not_reused {c c' : Conn} {ch ch0 id : Nat} {m : Bytes} (hi : c.SendInv)
    {s s' : SendRel} (hs : SMap.find? c.sendRel ch = some s) (hid : id < s.nextId)
    (hr : c.sendMessage ch0 m = .ok c') (hs' : SMap.find? c'.sendRel ch = some s') :
    ∀ id', SMap.find? s.unacked id' = none → SMap.find? s'.unacked id' ≠ none → id < id' := by
  intro id' h1 h2
  rcases System.sendMessage_cases hr with ⟨-, s1, s1', hf, he, rfl⟩ | ⟨-, e⟩
  · dsimp only at hs'
    rw [SMap.find?_insert] at hs'
    by_cases cc : ch0 = ch
    · subst cc
      rw [if_pos rfl] at hs'; cases hs'
      rw [hs] at hf; cases hf
      obtain ⟨-, -, -, -, -, hsame⟩ := SendRel.sendMessage_spec (hi.chans _ _ hs).1 he
      by_cases c2 : id' = s.nextId
      · omega
      · rw [hsame id' c2] at h2; exact absurd h1 h2
    · rw [if_neg cc, hs] at hs'; cases hs'; exact absurd h1 h2
  · rw [e, hs] at hs'; cases hs'; exact absurd h1 h2

/-- once released / acknowledged, never in a flush again, whatever happens in between -/
theorem released_never_sent {c c1 c2 : Conn} {out : List Bytes} (hg : Good c) (ops : List SL.ConnOp)
    (hrun : SL.Conn.runOps c ops = .ok c1) (hf : c1.getPacketsToSend = .ok (c2, out)) :
    (∀ ch id, Released c ch id → ∀ p ∈ System.flushPk c1, ¬ CarriesMsg ch id p) ∧
    (∀ ch id i, SliceAcked c ch id i → ∀ p ∈ System.flushPk c1, ¬ CarriesSlice ch id i p) :=
  ⟨fun ch id h => ((quiet_after (msgDone_stable id) (quiet_msg ch id) hg h ops hrun).2.2 c2 out hf).1,
   fun ch id i h => ((quiet_after (sliceDone_stable id i) (quiet_slice ch id i) hg h ops hrun).2.2 c2 out hf).1⟩

/-- **never_retransmitted** (packet form).  In a good, live state `c` an Ack packet covering the recorded sequence
    number `q` is processed, giving `c'`.  Then ANY finite sequence `ops` of public operations is run (it may contain
    further sends, flushes, clock updates, arbitrary incoming datagrams), reaching `c1`, and `c1` is flushed.  The
    packets of that flush (`System.flushPk c1`: their encodings are the datagrams handed out, one for one) carry none
    of the small messages packet `q` carried, resp. not the slice it carried. -/
theorem never_retransmitted {c c' : Conn} {bytes : Bytes} {aseq : Nat} {ranges : List AckRange} (hg : Good c)
    (hd : c.isDisconnected = false) (hp : Packet.fromBytes bytes = .ok (.ack aseq ranges))
    (he : c.processPacket bytes = .ok c')
    {q t : Nat} {info : SentInfo} (hq : SMap.find? c.sent q = some (t, info)) (hm : Acks.Mem q ranges)
    (ops : List SL.ConnOp) {c1 c2 : Conn} {out : List Bytes} (hrun : SL.Conn.runOps c' ops = .ok c1)
    (hf : c1.getPacketsToSend = .ok (c2, out)) :
    (System.flushPk c1).map System.encO = out.map some ∧
    (∀ ch ids, info = .relMsgs ch ids → ∀ id ∈ ids, ∀ p ∈ System.flushPk c1, ¬ CarriesMsg ch id p) ∧
    (∀ ch id i, info = .relSlice ch id i → ∀ p ∈ System.flushPk c1, ¬ CarriesSlice ch id i p) := by
  have hg' : Good c' := good_apply (op := .processPacket bytes) hg he
  refine ⟨?_, ?_, ?_⟩
  · obtain ⟨hg1, -⟩ := released_stays_released_run hg' ops hrun
    exact (System.flush_facts hf).1
  · rintro ch ids rfl id hid
    exact (released_never_sent hg' ops hrun hf).1 ch id (ack_releases_msgs hg.1 hd hp he hq hm id hid)
  · rintro ch id i rfl
    exact (released_never_sent hg' ops hrun hf).2 ch id i (ack_releases_slice hg.1 hd hp he hq hm)

/-- **never_retransmitted** (datagram form): every datagram of the later flush is the encoding of a packet that does
    not carry the acknowledged message / slice. -/
theorem never_retransmitted_wire {c c' : Conn} {bytes : Bytes} {aseq : Nat} {ranges : List AckRange} (hg : Good c)
    (hd : c.isDisconnected = false) (hp : Packet.fromBytes bytes = .ok (.ack aseq ranges))
    (he : c.processPacket bytes = .ok c')
    {q t : Nat} {info : SentInfo} (hq : SMap.find? c.sent q = some (t, info)) (hm : Acks.Mem q ranges)
    (ops : List SL.ConnOp) {c1 c2 : Conn} {out : List Bytes} (hrun : SL.Conn.runOps c' ops = .ok c1)
    (hf : c1.getPacketsToSend = .ok (c2, out)) :
    (∀ ch ids, info = .relMsgs ch ids → ∀ id ∈ ids, ∀ b ∈ out, ∃ p, p.enc = .ok b ∧ ¬ CarriesMsg ch id p) ∧
    (∀ ch id i, info = .relSlice ch id i → ∀ b ∈ out, ∃ p, p.enc = .ok b ∧ ¬ CarriesSlice ch id i p) := by
  obtain ⟨henc, h1, h2⟩ := never_retransmitted hg hd hp he hq hm ops hrun hf
  refine ⟨fun ch ids hinfo id hid b hb => ?_, fun ch id i hinfo b hb => ?_⟩
  · obtain ⟨p, hp, hpe⟩ := System.enc_mem henc hb
    exact ⟨p, hpe, h1 ch ids hinfo id hid p hp⟩
  · obtain ⟨p, hp, hpe⟩ := System.enc_mem henc hb
    exact ⟨p, hpe, h2 ch id i hinfo p hp⟩

/-- **never_retransmitted**, for every flush INSIDE an arbitrary later run: wherever `get_packets_to_send` occurs in
    the sequence of later operations, the packets it emits carry none of the acknowledged content. -/
theorem never_retransmitted_every_flush {c c' : Conn} {bytes : Bytes} {aseq : Nat} {ranges : List AckRange} (hg : Good c)
    (hd : c.isDisconnected = false) (hp : Packet.fromBytes bytes = .ok (.ack aseq ranges))
    (he : c.processPacket bytes = .ok c')
    {q t : Nat} {info : SentInfo} (hq : SMap.find? c.sent q = some (t, info)) (hm : Acks.Mem q ranges)
    (pre post : List SL.ConnOp) {cN : Conn}
    (hrun : SL.Conn.runOps c' (pre ++ SL.ConnOp.getPacketsToSend :: post) = .ok cN) :
    ∃ c1 c2 out, SL.Conn.runOps c' pre = .ok c1 ∧ c1.getPacketsToSend = .ok (c2, out) ∧
      SL.Conn.runOps c2 post = .ok cN ∧
      (System.flushPk c1).map System.encO = out.map some ∧
      (∀ ch ids, info = .relMsgs ch ids → ∀ id ∈ ids, ∀ p ∈ System.flushPk c1, ¬ CarriesMsg ch id p) ∧
      (∀ ch id i, info = .relSlice ch id i → ∀ p ∈ System.flushPk c1, ¬ CarriesSlice ch id i p) := by
  obtain ⟨c1, c2, out, h1, h2, h3⟩ := runOps_flush_inside hrun
  exact ⟨c1, c2, out, h1, h2, h3, never_retransmitted hg hd hp he hq hm pre h1 h2⟩

/-- **Converse guard.**  If none of the sequence numbers the Ack covers is in `c.sent` — never sent, acknowledged
    before, or pruned by `update` because it was sent `DISCARD_AFTER` (3 s) or more ago — the Ack changes nothing on
    the send side: the result is `c` with only the receiver-side pending-ack list extended by the Ack packet's own
    sequence number. -/
theorem stale_ack_changes_nothing {c : Conn} {bytes : Bytes} {aseq : Nat} {ranges : List AckRange} (hi : c.SendInv)
    (hd : c.isDisconnected = false) (hp : Packet.fromBytes bytes = .ok (.ack aseq ranges))
    (hstale : ∀ x, Acks.Mem x ranges → SMap.find? c.sent x = none) :
    c.processPacket bytes = .ok { c with pendingAcks := Acks.add ACK_RANGE_CAP aseq c.pendingAcks } := by
  obtain ⟨L, hL, -, hmem⟩ := Conn.newAcks_spec hi.sentSorted ranges (fromBytes_ack_wf hp)
  have hnil : L = [] := by
    cases L with
    | nil => rfl
    | cons x t =>
      obtain ⟨⟨v, hv⟩, hm⟩ := (hmem x).mp (by simp)
      rw [hstale x hm] at hv; cases hv
  subst hnil
  rw [Conn.processPacket_ack_eq hd hp, hL]
  rfl

/-- … and in general: whatever `process_packet` removes from `unacked`, and whatever slice it marks, is named by an
    entry of `c.sent` whose sequence number the Ack's ranges cover.  An Ack for `q ∉ c.sent` contributes nothing. -/
theorem release_needs_recorded_packet {c c' : Conn} {bytes : Bytes} (hi : c.SendInv)
    (hr : c.processPacket bytes = .ok c')
    {ch : Nat} {s s' : SendRel} (hs : SMap.find? c.sendRel ch = some s) (hs' : SMap.find? c'.sendRel ch = some s') :
    (∀ id, SMap.find? s.unacked id ≠ none → SMap.find? s'.unacked id = none →
      ∃ aseq ranges seq t info, Packet.fromBytes bytes = .ok (.ack aseq ranges) ∧ Acks.Mem seq ranges ∧
        SMap.find? c.sent seq = some (t, info) ∧ SI.Names info ch id) ∧
    (∀ id i, s.Pending id i → ¬ s'.Pending id i →
      ∃ aseq ranges seq t, Packet.fromBytes bytes = .ok (.ack aseq ranges) ∧ Acks.Mem seq ranges ∧
        SMap.find? c.sent seq = some (t, .relSlice ch id i)) := by
  rcases Conn.processPacket_eff hi hr with e | ⟨aseq, ranges, L, -, hp, hL, hch, -⟩
  · rw [e, hs] at hs'; cases hs'
    exact ⟨fun id h1 h2 => absurd h2 h1, fun id i h1 h2 => absurd h1 h2⟩
  · obtain ⟨s2, hs2, eff⟩ := hch ch s hs
    rw [hs'] at hs2; cases hs2
    refine ⟨?_, ?_⟩
    · intro id h1 h2
      obtain ⟨seq, hseq, t, info, hf, hn⟩ := eff.just id h1 h2
      exact ⟨aseq, ranges, seq, t, info, hp, hL seq hseq, hf, hn⟩
    · intro id i h1 h2
      rcases eff.pend id i h1 with h3 | ⟨seq, hseq, t, hf⟩
      · exact absurd h3 h2
      · exact ⟨aseq, ranges, seq, t, hp, hL seq hseq, hf⟩

/-- **3 s.**  In a good state whose sent table is in time order (`TimeOK`, an invariant: `AckFinal.timeOK_run`), an
    `update` that moves the clock to `DISCARD_AFTER` or more past the send time of packet `q` removes `q` from the sent
    table; from then on an Ack for `q` falls under `stale_ack_changes_nothing` / `release_needs_recorded_packet`. -/
theorem older_than_3s_is_pruned {c c' : Conn} {dt : Nat} (hg : Good c) (ht : TimeOK c) (hr : c.update dt = .ok c')
    {q t : Nat} {info : SentInfo} (hq : SMap.find? c.sent q = some (t, info))
    (hold : DISCARD_AFTER_NS ≤ c.now + dt - t) : SMap.find? c'.sent q = none :=
  update_prunes hg.1.sentSorted (ht.timeMono hg.1.sentSorted) hr hq hold

example : DISCARD_AFTER_NS = 3 * 1000000000 := by decide

namespace Ex

def cfg : List ChanCfg := [⟨0, .ordered, 100000, 100⟩]
def bytesOf (p : Packet) : Bytes := match p.toBytes SER_BUFFER with | .ok b => b | _ => []
/-- a 2500-byte message: three slices (1200 + 1200 + 100) -/
def big : Bytes := List.replicate 2500 7
def c0 : Conn := Conn.fromChannels 60000 cfg cfg

/-- connect, submit a small message (id 0) and a sliced one (id 1) on the reliable channel 0 … -/
def ops0 : List SL.ConnOp := [.setConnected, .sendMessage 0 [1, 2, 3], .sendMessage 0 big]
def exS : Conn := match SL.Conn.runOps c0 ops0 with | .ok c => c | _ => c0
/-- … and flush at time 0 -/
def exA : Conn := match SL.ConnOp.apply exS .getPacketsToSend with | .ok c => c | _ => exS
/-- an Ack packet for packets 1 and 3 -/
def ackBytes : Bytes := bytesOf (.ack 0 [(1, 2), (3, 4)])
def exB : Conn := match exA.processPacket ackBytes with | .ok c => c | _ => exA
/-- the resend time (100 ns) passes -/
def exC : Conn := match SL.Conn.runOps exB [.update 100] with | .ok c => c | _ => exB
def exD : Conn × List Bytes := match exC.getPacketsToSend with | .ok x => x | _ => (exC, [])
/-- 3 s pass after the first flush, before any Ack arrives -/
def exP : Conn := match exA.update 3000000000 with | .ok c => c | _ => exA

/-- the run `c0 → exS → exA → exB → exC → exD`, its branch `exA → exP`, and everything the theorems and examples
    below read off them, in one kernel evaluation: every step returns; what the first flush carries; the Ack decodes;
    the channel after the Ack; what the flush after the resend time carries, with and without the Ack; after 3 s the
    sent table is empty, and what the flush after the late Ack carries -/
theorem all :
    (SL.Conn.runOps c0 ops0 = .ok exS ∧ exS.now = 0 ∧ SL.ConnOp.apply exS .getPacketsToSend = .ok exA ∧
      exS.getPacketsToSend = .ok (exA, (match exS.getPacketsToSend with | .ok x => x.2 | _ => [])) ∧
      System.flushPk exS =
        [.reliableSlice 0 0 ⟨1, 0, 3, sliceBytes big 3 0⟩, .reliableSlice 1 0 ⟨1, 1, 3, sliceBytes big 3 1⟩,
         .reliableSlice 2 0 ⟨1, 2, 3, sliceBytes big 3 2⟩, .smallReliable 3 0 [(0, [1, 2, 3])]]) ∧
    (exA.isDisconnected = false ∧ exA.now = 0 ∧ Packet.fromBytes ackBytes = .ok (.ack 0 [(1, 2), (3, 4)]) ∧
      exA.processPacket ackBytes = .ok exB ∧
      (SMap.find? exB.sendRel 0).map (fun s => (s.nextId, s.unacked)) =
        some (2, [(1, .sliced big 3 1 3 [false, true, false] [some 0, some 0, some 0])])) ∧
    (SL.Conn.runOps exB [.update 100] = .ok exC ∧ exC.getPacketsToSend = .ok (exD.1, exD.2) ∧
      System.flushPk exC =
        [.reliableSlice 4 0 ⟨1, 0, 3, sliceBytes big 3 0⟩, .reliableSlice 5 0 ⟨1, 2, 3, sliceBytes big 3 2⟩,
         .ack 6 [(0, 1)]] ∧
      (System.flushPk (match exA.update 100 with | .ok c => c | _ => exA)).map Packet.sequence = [4, 5, 6, 7]) ∧
    (exA.update 3000000000 = .ok exP ∧ exP.sent = [] ∧ exP.isDisconnected = false ∧
      (System.flushPk ({ exP with pendingAcks := Acks.add ACK_RANGE_CAP 0 exP.pendingAcks } : Conn)).map
        (fun p => decide (CarriesMsg 0 0 p) || decide (CarriesSlice 0 1 1 p)) = [false, true, false, true, false]) := by
  decide +kernel

theorem exS_run : SL.Conn.runOps c0 ops0 = .ok exS := all.1.1
theorem exA_step : SL.ConnOp.apply exS .getPacketsToSend = .ok exA := all.1.2.2.1
theorem exA_flush : exS.getPacketsToSend = .ok (exA, (match exS.getPacketsToSend with | .ok x => x.2 | _ => [])) :=
  all.1.2.2.2.1

theorem exS_inv : Good exS ∧ TimeOK exS :=
  timeOK_run ops0 c0 exS (C08.conn_new _ _ _) (timeOK_fresh _ _ _) exS_run
theorem exA_inv : Good exA ∧ TimeOK exA :=
  ⟨good_apply exS_inv.1 exA_step, timeOK_apply exS_inv.1 exS_inv.2 exA_step⟩

/-- the first flush: packets 0, 1, 2 are the three slices of message 1, packet 3 carries the small message 0 -/
theorem first_flush : System.flushPk exS =
    [.reliableSlice 0 0 ⟨1, 0, 3, sliceBytes big 3 0⟩, .reliableSlice 1 0 ⟨1, 1, 3, sliceBytes big 3 1⟩,
     .reliableSlice 2 0 ⟨1, 2, 3, sliceBytes big 3 2⟩, .smallReliable 3 0 [(0, [1, 2, 3])]] := all.1.2.2.2.2

theorem exA_live : exA.isDisconnected = false := all.2.1.1

/-- `carried_is_recorded` on this flush: packet 1 is recorded as "slice 1 of message 1", packet 3 as "message 0" -/
theorem exA_sent : SMap.find? exA.sent 1 = some (0, .relSlice 0 1 1) ∧ SMap.find? exA.sent 3 = some (0, .relMsgs 0 [0]) := by
  obtain ⟨h1, h2⟩ := carried_is_recorded exS_inv.1.1 exA_flush exA_live
  have n0 : exS.now = 0 := all.1.2.1
  refine ⟨?_, ?_⟩
  · have := h2 1 0 ⟨1, 1, 3, sliceBytes big 3 1⟩ (by rw [first_flush]; simp)
    rw [n0] at this; exact this
  · have := h1 3 0 [(0, [1, 2, 3])] (by rw [first_flush]; simp)
    rw [n0] at this; exact this

theorem ack_decodes : Packet.fromBytes ackBytes = .ok (.ack 0 [(1, 2), (3, 4)]) := all.2.1.2.2.1
theorem mem1 : Acks.Mem 1 [(1, 2), (3, 4)] := Or.inl ⟨by decide, by decide⟩
theorem mem3 : Acks.Mem 3 [(1, 2), (3, 4)] := Or.inr (Or.inl ⟨by decide, by decide⟩)

theorem exB_step : exA.processPacket ackBytes = .ok exB := all.2.1.2.2.2.1
theorem exC_run : SL.Conn.runOps exB [.update 100] = .ok exC := all.2.2.1.1
theorem exD_flush : exC.getPacketsToSend = .ok (exD.1, exD.2) := all.2.2.1.2.1

/-- **`ack_processed_releases` on the run**: after the Ack, packets 1 and 3 are out of the sent table, message 0 is
    released and slice 1 of message 1 is acknowledged (its message still stored: slices 0 and 2 are open) -/
example : SMap.find? exB.sent 1 = none ∧ SMap.find? exB.sent 3 = none ∧ Released exB 0 0 ∧ SliceAcked exB 0 1 1 := by
  obtain ⟨c1, e1, -, -, g1, -, s1⟩ := ack_processed_releases exA_inv.1.1 exA_live ack_decodes exA_sent.1 mem1
  obtain ⟨c3, e3, -, -, g3, m3, -⟩ := ack_processed_releases exA_inv.1.1 exA_live ack_decodes exA_sent.2 mem3
  rw [exB_step] at e1 e3
  rw [← Res.ok.inj e1] at g1 s1
  rw [← Res.ok.inj e3] at g3 m3
  exact ⟨g1, g3, m3 0 [0] rfl 0 (by simp), s1 0 1 1 rfl⟩

set_option maxRecDepth 100000 in
/-- … concretely: the channel after the Ack -/
example : (SMap.find? exB.sendRel 0).map (fun s => (s.nextId, s.unacked)) =
    some (2, [(1, .sliced big 3 1 3 [false, true, false] [some 0, some 0, some 0])]) := all.2.1.2.2.2.2

/-- **`released_stays_released` on the run** (the clock update) -/
example : Released exC 0 0 ∧ SliceAcked exC 0 1 1 := by
  have hB : Good exB := good_apply (op := .processPacket ackBytes) exA_inv.1 exB_step
  obtain ⟨-, hm, hs⟩ := released_stays_released_run hB [.update 100] exC_run
  exact ⟨hm 0 0 (ack_releases_msgs exA_inv.1.1 exA_live ack_decodes exB_step exA_sent.2 mem3 0 (by simp)),
    hs 0 1 1 (ack_releases_slice exA_inv.1.1 exA_live ack_decodes exB_step exA_sent.1 mem1)⟩

/-- **`never_retransmitted` on the run**: the flush after the resend time carries neither message 0 nor slice 1 of
    message 1 … -/
example : (∀ p ∈ System.flushPk exC, ¬ CarriesMsg 0 0 p) ∧ (∀ p ∈ System.flushPk exC, ¬ CarriesSlice 0 1 1 p) ∧
    (∀ b ∈ exD.2, ∃ p, p.enc = .ok b ∧ ¬ CarriesMsg 0 0 p ∧ ¬ CarriesSlice 0 1 1 p) := by
  have h3 := never_retransmitted exA_inv.1 exA_live ack_decodes exB_step exA_sent.2 mem3 [.update 100] exC_run exD_flush
  have h1 := never_retransmitted exA_inv.1 exA_live ack_decodes exB_step exA_sent.1 mem1 [.update 100] exC_run exD_flush
  refine ⟨h3.2.1 0 [0] rfl 0 (by simp), h1.2.2 0 1 1 rfl, ?_⟩
  intro b hb
  obtain ⟨p, hp, hpe⟩ := System.enc_mem h1.1 hb
  exact ⟨p, hpe, h3.2.1 0 [0] rfl 0 (by simp) p hp, h1.2.2 0 1 1 rfl p hp⟩

/-- … while the rest IS retransmitted: exactly slices 0 and 2 of message 1 (and the connection's own ack packet) -/
theorem second_flush : System.flushPk exC =
    [.reliableSlice 4 0 ⟨1, 0, 3, sliceBytes big 3 0⟩, .reliableSlice 5 0 ⟨1, 2, 3, sliceBytes big 3 2⟩,
     .ack 6 [(0, 1)]] := all.2.2.1.2.2.1

set_option maxRecDepth 100000 in
/-- without the Ack everything is due again after the resend time: the theorem's hypothesis is not idle -/
example : (System.flushPk (match exA.update 100 with | .ok c => c | _ => exA)).map Packet.sequence = [4, 5, 6, 7] :=
  all.2.2.1.2.2.2

theorem exP_step : exA.update 3000000000 = .ok exP := all.2.2.2.1

/-- `older_than_3s_is_pruned`: packets 1 and 3 are no longer in the sent table -/
example : SMap.find? exP.sent 1 = none ∧ SMap.find? exP.sent 3 = none := by
  have n0 : exA.now = 0 := all.2.1.2.1
  have hold : DISCARD_AFTER_NS ≤ exA.now + 3000000000 - 0 := by rw [n0]; decide
  exact ⟨older_than_3s_is_pruned exA_inv.1 exA_inv.2 exP_step exA_sent.1 hold,
    older_than_3s_is_pruned exA_inv.1 exA_inv.2 exP_step exA_sent.2 hold⟩

theorem exP_sent : exP.sent = [] := all.2.2.2.2.1
theorem exP_live : exP.isDisconnected = false := all.2.2.2.2.2.1

/-- `stale_ack_changes_nothing`: the same Ack packet, arriving now, touches neither the channels nor the sent table … -/
theorem late_ack : exP.processPacket ackBytes = .ok { exP with pendingAcks := Acks.add ACK_RANGE_CAP 0 exP.pendingAcks } :=
  stale_ack_changes_nothing (good_apply (op := .update 3000000000) exA_inv.1 exP_step).1 exP_live ack_decodes
    (fun x _ => by rw [exP_sent]; rfl)

set_option maxRecDepth 100000 in
/-- … so message 0 and all three slices are transmitted again by the next flush: the proviso is sharp -/
example : (System.flushPk ({ exP with pendingAcks := Acks.add ACK_RANGE_CAP 0 exP.pendingAcks } : Conn)).map
      (fun p => decide (CarriesMsg 0 0 p) || decide (CarriesSlice 0 1 1 p)) = [false, true, false, true, false] :=
  all.2.2.2.2.2.2

end Ex

end RenetVerif.C15A
