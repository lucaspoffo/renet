/-
  C20M — the full stack with SEVERAL clients: what C20F lists as NOT COVERED on the server side.

  THE SYSTEM (`FullStackMulti.MS`, observed client id `cid`).  State: the full-stack state `fs : FullStack.FS` of C20F
  (the observed client's `NetcodeClientTransport` + `RenetClient`; the server's `NetcodeServerTransport` + `RenetServer`,
  holding ANY number of other clients; the ghost histories of the observed session) and a second, real client
  `o : ClientGlue` with its own `NetcodeClientTransport` + `RenetClient` (arbitrary at the start: not connected, connecting,
  connected, anything), plus ghost lists used for observation only.
  Operations (`MOp`), each calling exactly one model function:
      base op                               every operation of C20F (`cliSend … srvDisconnectAll`); `srvUpdate d inbox` /
                                            `srvSendPackets` are the transport loops over ALL clients of the table
      srvSendTo id ch m | srvRecvFrom id ch | srvDisconnectId id
                                            `RenetServer::{send_message, receive_message, disconnect}(id, …)`, ANY id
      srvBroadcast ch m                     `RenetServer::broadcast_message`
      srvBroadcastExcept ex ch m            `RenetServer::broadcast_message_except`
      othSend | othRecv | othTick | othDisconnect | othUpdate d inbox | othSendPackets | othTransportDisconnect
                                            the other client's `RenetClient` / `NetcodeClientTransport` calls
  The network is the adversary's as in C20F: every `inbox` is arbitrary.  The other client's handshake, traffic and
  disconnect reach the server because the adversary MAY put what `o` emitted (`emO`) into a server inbox; nothing forces it
  to, and it may equally put there anything else "from" the other client's address.

  WHAT IS PROVED, for the observed client `cid`, after EVERY finite run from a state in which `cid`'s session is
  `Established` (C20F's start condition, on `ms0.fs`; nothing is assumed about the other client or about other entries of
  the server's tables):
    * `multi_ordered_prefix`, `multi_unordered_once`, `multi_integrity`    C01 / C02 / C03 end to end for `cid`'s link,
      both directions — the statements of C20F, unchanged;
    * `multi_records_are_emitted`                                         ghost records are records of emitted datagrams;
    * `multi_lockstep`                                                    the server glue's lock-step (renet table ids =
      netcode slot ids: for `cid` — `multi_lockstep_cid` — and for everybody else) after EVERY operation, and no
      disconnected connection left in the table after every transport `update`; needs `LockStep` of the start state;
    * `others_do_not_disturb` (frame)                                     calls for another id, `broadcast_message_except(cid,…)`
      and every call of the other client change NOTHING of `cid`'s session (client glue, netcode server, `cid`'s
      `RenetClient` in the table, histories, ghost logs);
    * `broadcast_is_send`, `broadcast_except_is_send`                     a broadcast is, for `cid`, exactly a `srvSend`.
  The transport loops need no new frame lemma: C20F's `serverUpdate_sim` / `serverSendLoop_sim` already treat a table
  with arbitrary other entries and an inbox with arbitrary other datagrams (results for `id ≠ cid` are matched by the empty
  `Duo` run: `handle_sim`).

  HYPOTHESES THAT REMAIN — exactly those of C20F, for `cid` only:
    `MNoForgeryRunD` (every payload `process_packet` surfaces FOR `cid`, or the observed client's `process_packet`
    surfaces, came in a datagram recorded for this session), `MSingleSessionRun` (no `ClientConnected{cid}` in the run; a
    `ClientConnected{id'}` for any other id is allowed — that is how the second client joins), `a.Laws`, the counter-range
    conditions on the final state, the run returning normally.  NOTHING is assumed about the other client's keys: if they
    leak, `cid`'s guarantees stand (the second client's own guarantees are this theorem with the roles exchanged).

  ABOUT THE GENERATED CODE: `Props/SrcPropsFullStackMulti.lean` (`src_multi_ordered_prefix`, `src_multi_integrity`: the same
  system with generated transports, generated `RenetClient`s and the generated `RenetServer`, incl. the generated
  `broadcast_message` / `broadcast_message_except`).

  NOT COVERED here: more than one REAL other client as a state component (any number of them may sit in the server's
  tables, and the adversary may play their datagrams; only one is modelled with its own `ClientGlue`); `get_event`
  (does not touch connections: C11 / C20).
-/
import RenetVerif.Lemmas.FullStackMulti
import RenetVerif.Props.C20F
namespace RenetVerif.C20M
open RenetVerif C RenetVerif.System RenetVerif.Netcode RenetVerif.Transport RenetVerif.FullStack
  RenetVerif.FullStackMulti

/-- **C01 with several clients.**  Ordered channels of `cid`'s link, both directions: what was obtained is a prefix of
    what was submitted — whatever the other client, the server application's calls for other ids, its broadcasts and
    the adversary do. -/
theorem multi_ordered_prefix (a : AEAD) (hl : a.Laws) (cfg : Cfg) (cid : Nat) (ms0 ms : MS) (ops : List MOp)
    (he : Established cfg cid ms0.fs) (hr : ms0.run a cid ops = some ms)
    (hnf : MNoForgeryRunD a cid ms0 ops) (hss : MSingleSessionRun a cid ms0 ops) :
    (CountersUp cfg ms.fs → ∀ ch, cfg.Ordered ch → ms.fs.obtS ch <+: ms.fs.subC ch) ∧
    (CountersDown cfg ms.fs → ∀ ch, (Cfg.swap cfg).Ordered ch → ms.fs.obtC ch <+: ms.fs.subS ch) :=
  let h := m_full_stack hl he.toRenetFresh hr (m_noForgery_of_D he hss hnf) hss
  ⟨fun hc => (h.1 hc).1, fun hc => (h.2 hc).1⟩

/-- **C02 with several clients.** -/
theorem multi_unordered_once (a : AEAD) (hl : a.Laws) (cfg : Cfg) (cid : Nat) (ms0 ms : MS) (ops : List MOp)
    (he : Established cfg cid ms0.fs) (hr : ms0.run a cid ops = some ms)
    (hnf : MNoForgeryRunD a cid ms0 ops) (hss : MSingleSessionRun a cid ms0 ops) :
    (CountersUp cfg ms.fs → ∀ ch, cfg.Unordered ch →
      ∃ ids : List Nat, ids.Nodup ∧ (ms.fs.obtS ch).map some = ids.map (fun id => (ms.fs.subC ch)[id]?)) ∧
    (CountersDown cfg ms.fs → ∀ ch, (Cfg.swap cfg).Unordered ch →
      ∃ ids : List Nat, ids.Nodup ∧ (ms.fs.obtC ch).map some = ids.map (fun id => (ms.fs.subS ch)[id]?)) :=
  let h := m_full_stack hl he.toRenetFresh hr (m_noForgery_of_D he hss hnf) hss
  ⟨fun hc => (h.1 hc).2.1, fun hc => (h.2 hc).2.1⟩

/-- **C03 with several clients.**  In particular: a message the server submitted for ANOTHER id (`srvSendTo id' …`,
    `broadcast_message_except(cid, …)`) is never obtained by `cid`'s application, and a message of the other client is
    never attributed to `cid`. -/
theorem multi_integrity (a : AEAD) (hl : a.Laws) (cfg : Cfg) (cid : Nat) (ms0 ms : MS) (ops : List MOp)
    (he : Established cfg cid ms0.fs) (hr : ms0.run a cid ops = some ms)
    (hnf : MNoForgeryRunD a cid ms0 ops) (hss : MSingleSessionRun a cid ms0 ops) :
    (CountersUp cfg ms.fs →
      (∀ ch, cfg.Ordered ch ∨ cfg.Unordered ch → ∀ x ∈ ms.fs.obtS ch, x ∈ ms.fs.subC ch) ∧
      (∀ ch, cfg.Unreliable ch → ∀ x ∈ ms.fs.obtS ch, x ∈ ms.fs.subCU ch)) ∧
    (CountersDown cfg ms.fs →
      (∀ ch, (Cfg.swap cfg).Ordered ch ∨ (Cfg.swap cfg).Unordered ch → ∀ x ∈ ms.fs.obtC ch, x ∈ ms.fs.subS ch) ∧
      (∀ ch, (Cfg.swap cfg).Unreliable ch → ∀ x ∈ ms.fs.obtC ch, x ∈ ms.fs.subSU ch)) :=
  let h := m_full_stack hl he.toRenetFresh hr (m_noForgery_of_D he hss hnf) hss
  ⟨fun hc => (h.1 hc).integrity, fun hc => (h.2 hc).integrity⟩

/-- the same at every intermediate moment of a longer run -/
theorem multi_ordered_prefix_always (a : AEAD) (hl : a.Laws) (cfg : Cfg) (cid : Nat) (ms0 ms1 : MS)
    (ops1 ops2 : List MOp) (he : Established cfg cid ms0.fs) (hr1 : ms0.run a cid ops1 = some ms1)
    (hnf : MNoForgeryRunD a cid ms0 (ops1 ++ ops2)) (hss : MSingleSessionRun a cid ms0 (ops1 ++ ops2)) :
    (CountersUp cfg ms1.fs → ∀ ch, cfg.Ordered ch → ms1.fs.obtS ch <+: ms1.fs.subC ch) ∧
    (CountersDown cfg ms1.fs → ∀ ch, (Cfg.swap cfg).Ordered ch → ms1.fs.obtC ch <+: ms1.fs.subS ch) :=
  multi_ordered_prefix a hl cfg cid ms0 ms1 ops1 he hr1 (mrunB_prefix _ a cid ops1 ops2 ms0 hnf)
    (mrunB_prefix _ a cid ops1 ops2 ms0 hss)

/-- the ghost records of the observed session are records of EMITTED datagrams -/
theorem multi_records_are_emitted (a : AEAD) (cfg : Cfg) (cid : Nat) (ms0 ms : MS) (ops : List MOp)
    (he : Established cfg cid ms0.fs) (hr : ms0.run a cid ops = some ms) :
    (∀ e ∈ ms.fs.sealedC, e.dgram ∈ ms.fs.emC.map (·.2)) ∧ (∀ e ∈ ms.fs.sealedS, e.dgram ∈ ms.fs.emS.map (·.2)) :=
  MS.run_inv (P := fun ms => Emitted ms.fs) (fun _ _ _ => mstep_emitted) ops ms0 ms (emitted_of_fresh he.toRenetFresh) hr

/-- **Lock-step with several clients.**  From a server glue in lock-step, after EVERY run of the several-client system
    the renet connection table and the netcode slot table hold the same client ids, both without repetition — whatever
    mix of handshakes, disconnects, broadcasts and per-client calls the run consists of. -/
theorem multi_lockstep (a : AEAD) (cid : Nat) (ms0 ms : MS) (ops : List MOp) (hk : GI.LockStep ms0.fs.s)
    (hr : ms0.run a cid ops = some ms) : GI.LockStep ms.fs.s :=
  MS.run_inv (P := fun ms => GI.LockStep ms.fs.s) (fun _ _ _ h hs => (mstep_lockstep h hs).1) ops ms0 ms hk hr

/-- … for the observed client: it has a `RenetClient` in the server's table exactly when it has a netcode slot … -/
theorem multi_lockstep_cid (a : AEAD) (cid : Nat) (ms0 ms : MS) (ops : List MOp) (hk : GI.LockStep ms0.fs.s)
    (hr : ms0.run a cid ops = some ms) :
    SMap.contains ms.fs.s.renet.conns cid = true ↔ cid ∈ ms.fs.s.netcode.clientsId :=
  (multi_lockstep a cid ms0 ms ops hk hr).sync cid

/-- … and right after every transport `update` (the loops over all clients) no connection of the table is in the
    disconnected state: every disconnect the message layer decided, for whichever client, has reached netcode -/
theorem multi_lockstep_after_update (a : AEAD) (cid : Nat) (ms0 ms : MS) (ops : List MOp) (d : Nat) (inbox : List Dgram)
    (hk : GI.LockStep ms0.fs.s) (hr : ms0.run a cid (ops ++ [.base (.srvUpdate d inbox)]) = some ms) :
    GI.LockStep ms.fs.s ∧ GI.NoDead ms.fs.s.renet := by
  rw [MS.run_append] at hr
  obtain ⟨ms1, h1, hr⟩ := Option.bind_eq_some_iff.mp hr
  obtain ⟨ms2, h2, hr⟩ := MS.run_cons hr
  cases hr
  obtain ⟨q1, q2⟩ := mstep_lockstep (multi_lockstep a cid ms0 ms1 ops hk h1) h2
  exact ⟨q1, q2 d inbox rfl⟩

/-- **Frame.**  `send_message(id, …)`, `receive_message(id, …)`, `disconnect(id)` for `id ≠ cid`,
    `broadcast_message_except(cid, …)` and every call of the other client leave `cid`'s session exactly as it was. -/
theorem others_do_not_disturb (a : AEAD) (cid : Nat) (ms ms' : MS) (op : MOp) (ho : isOther cid op = true)
    (hs : ms.step a cid op = some ms') : SameForCid cid ms.fs ms'.fs := by
  cases MS.stepped hs with
  | other _ _ hf e => exact e ▸ sameForCid_setRenet hf
  | oth _ e => exact e ▸ .refl _ _
  | bcastExcept hne _ _ _ => exact absurd (of_decide_eq_true ho) hne
  | base _ | bcast _ _ _ => cases ho
  | sendTo _ | recvFrom _ | disconnectId _ => simp [isOther] at ho

/-- **A broadcast is, for `cid`, exactly a `srvSend`.** -/
theorem broadcast_is_send (a : AEAD) (cid : Nat) (ms ms' : MS) (ch : Nat) (m : Bytes)
    (hs : ms.step a cid (.srvBroadcast ch m) = some ms') :
    ∃ fs1, ms.fs.step a cid (.srvSend ch m) = some fs1 ∧ SameForCid cid fs1 ms'.fs := by
  cases MS.stepped hs with
  | bcast _ hj e =>
    obtain ⟨rs1, h1, h2⟩ := sendMessage_matches hj
    exact ⟨_, step_srvSend h1, e ▸ sameForCid_sendGhost ch m h2⟩
  | other ho _ _ _ | oth ho _ => cases ho

theorem broadcast_except_is_send (a : AEAD) (cid : Nat) (ms ms' : MS) (ex ch : Nat) (m : Bytes) (hne : ex ≠ cid)
    (hs : ms.step a cid (.srvBroadcastExcept ex ch m) = some ms') :
    ∃ fs1, ms.fs.step a cid (.srvSend ch m) = some fs1 ∧ SameForCid cid fs1 ms'.fs := by
  cases MS.stepped hs with
  | bcastExcept _ _ hj e =>
    obtain ⟨rs1, h1, h2⟩ := sendMessage_matches hj
    exact ⟨_, step_srvSend h1, e ▸ sameForCid_sendGhost ch m h2⟩
  | other ho _ _ _ | oth ho _ => exact absurd (of_decide_eq_true ho) hne

/-! ## non-vacuity: a two-client session evaluated by the kernel

  Client 7's handshake is run in the model as in C20 / C20F (`C20F.Ex.fs0`: `Established`).  Client 9 (connect token
  under the same server key, its own session keys, its own address) starts from `NetcodeClient::new`; ITS handshake is
  part of the run below, through the same `NetcodeServerTransport::update`:
    h1–h5   request → challenge → response → `ClientConnected 9` + keep-alive → connected; both tables hold [7, 9];
    g1      `broadcast_message(1, [5,5])`, `broadcast_message_except(9, 1, [2])`, `send_message(9, 1, [4])`,
            `send_message(7, 1, [9,9])`; client 9 submits `[3,3]`, client 7 `[1,2,3]`; all three `send_packets`;
    g2      one server `update` with the datagrams of BOTH clients; the application reads from 7 and from 9; both
            clients `update` with what the server sent them and read;
    g3–g4   client 9's application disconnects, its `update` emits the disconnect datagram, the server's `update` frees
            slot and table entry; client 7 submits `[6]`; `broadcast_message(1, [8])` (now reaching 7 only);
            `send_message(9, …)` and `disconnect(9)` for the departed client (no-ops); `send_packets`;
    g5      server `update`, read; client 7 `update`, read. -/
namespace Ex
open RenetVerif.C20 RenetVerif.C20F.Ex

def cli9Addr : Addr := .v4 [10, 0, 0, 4] 2001

/-- a connect token for client 9 under the server's private key `[9, 9]`, session keys 32 × 6 / 32 × 8 -/
def tok9 : ConnectToken :=
  match ConnectToken.generate toyAead 0 7 30 9 5 [exSrvAddr] (List.replicate 256 0) (List.replicate 32 6)
          (List.replicate 32 8) (List.replicate 24 2) [9, 9] with
  | .ok t => t
  | _ => exTok

def o0 : ClientGlue :=
  match NetcodeClient.new 0 tok9 with
  | .ok nc => ⟨nc, Conn.fromChannels 60000 exChans exChans⟩
  | _ => exC1

def ms0 : MS := ⟨fs0, o0, [], [], [], []⟩

def relay (l : List Dgram) (n : Nat) (dst src : Addr) : List Dgram :=
  ((l.drop n).filter (fun x => x.1 == dst)).map fun x => (src, x.2)
def toSrv9 (l : List Dgram) (n : Nat) : List Dgram := (l.drop n).map fun x => (cli9Addr, x.2)
def toSrv7 (l : List Dgram) (n : Nat) : List Dgram := (l.drop n).map fun x => (hsCliAddr, x.2)

def run' (ms : MS) (ops : List MOp) : MS := (ms.run toyAead 7 ops).getD ms0

def h1 : List MOp := [.othUpdate 1000 []]
def t1 : MS := run' ms0 h1
def h2 : List MOp := [.base (.srvUpdate 1000 (toSrv9 t1.emO 0))]
def t2 : MS := run' t1 h2
def h3 : List MOp := [.othUpdate 1000 (relay t2.updS 0 cli9Addr exSrvAddr)]
def t3 : MS := run' t2 h3
def h4 : List MOp := [.base (.srvUpdate 1000 (toSrv9 t3.emO t1.emO.length))]
def t4 : MS := run' t3 h4
def h5 : List MOp := [.othUpdate 1000 (relay t4.updS t2.updS.length cli9Addr exSrvAddr), .othUpdate 1000 []]
def t5 : MS := run' t4 h5
def g1 : List MOp :=
  [.srvBroadcast 1 [5, 5], .srvBroadcastExcept 9 1 [2], .srvSendTo 9 1 [4], .srvSendTo 7 1 [9, 9], .othSend 1 [3, 3],
   .base (.cliSend 1 [1, 2, 3]), .base .cliSendPackets, .othSendPackets, .base .srvSendPackets]
def t6 : MS := run' t5 g1
def g2 : List MOp :=
  [.base (.srvUpdate 1000 (toSrv7 t6.fs.emC 0 ++ toSrv9 t6.emO t5.emO.length)), .srvRecvFrom 7 1, .srvRecvFrom 9 1,
   .base (.cliUpdate 1000 (relay t6.fs.emS 0 hsCliAddr exSrvAddr)), .base (.cliRecv 1), .base (.cliRecv 1),
   .base (.cliRecv 1), .othUpdate 1000 (relay t6.fs.emS 0 cli9Addr exSrvAddr), .othRecv 1, .othRecv 1, .othRecv 1]
def t7 : MS := run' t6 g2
def g3 : List MOp := [.othDisconnect, .othUpdate 1000 []]
def t8 : MS := run' t7 g3
def g4 : List MOp :=
  [.base (.srvUpdate 1000 (toSrv9 t8.emO t7.emO.length)), .base (.cliSend 1 [6]), .base .cliSendPackets,
   .srvBroadcast 1 [8], .srvSendTo 9 1 [4], .srvDisconnectId 9, .base .srvSendPackets]
def t9 : MS := run' t8 g4
def g5 : List MOp :=
  [.base (.srvUpdate 1000 (toSrv7 t9.fs.emC t6.fs.emC.length)), .srvRecvFrom 7 1,
   .base (.cliUpdate 1000 (relay t9.fs.emS t6.fs.emS.length hsCliAddr exSrvAddr)), .base (.cliRecv 1)]

def opsMid : List MOp := h1 ++ h2 ++ h3 ++ h4 ++ h5 ++ g1 ++ g2
def ops : List MOp := opsMid ++ (g3 ++ g4 ++ g5)
def mid : MS := (ms0.run toyAead 7 opsMid).getD ms0
def fin : MS := (ms0.run toyAead 7 ops).getD ms0

def sent9 : MS := (t5.step toyAead 7 (.srvSendTo 9 1 [4])).getD ms0
def bcast : MS := (t5.step toyAead 7 (.srvBroadcast 1 [5, 5])).getD ms0

/-- everything the examples below need, in one kernel evaluation of the run and of the moments inside it.
    * The whole run: it returns normally, the run hypotheses, the counters, what was observed.
    * The moment `mid` both clients are connected and have exchanged traffic (after g2).
    * The handshake of client 9 happened in the run: the datagram counts, and both tables of the server hold 7 and 9
      afterwards, the second client's two layers are connected (the tuples of `handshake9`, component by component); the
      run up to the server `update` that completes it (`h4`) returns.
    * At the moment both clients are connected (`t5`): `send_message(9, 1, [4])` and `broadcast_message(1, [5,5])` return;
      the former changed client 9's entry of the server's table. -/
theorem all :
    (((ms0.run toyAead 7 ops).isSome = true ∧ MNoForgeryRunD toyAead 7 ms0 ops ∧ MSingleSessionRun toyAead 7 ms0 ops) ∧
      (CountersUp cfg fin.fs ∧ CountersDown cfg fin.fs) ∧
      (fin.fs.subC 1 = [[1, 2, 3], [6]] ∧ fin.fs.obtS 1 = [[1, 2, 3], [6]] ∧
        fin.fs.subS 1 = [[5, 5], [2], [9, 9], [8]] ∧ fin.fs.obtC 1 = [[5, 5], [2], [9, 9], [8]] ∧
        fin.obtSO = [(9, 1, [3, 3])] ∧ fin.obtO = [(1, [5, 5]), (1, [4])] ∧
        fin.fs.s.netcode.clientsId = [7] ∧ fin.fs.s.renet.clientsId = [7])) ∧
    ((ms0.run toyAead 7 opsMid).isSome = true ∧
      (mid.fs.c.renet.packetSeq ≤ Varint.MAX + 1 ∧ mid.fs.ySeq ≤ Varint.MAX + 1 ∧
        (∀ c ∈ cfg.send, c.id < 256 ∧ (mid.fs.subC c.id).length ≤ Varint.MAX + 1 ∧
          (mid.fs.subS c.id).length ≤ Varint.MAX + 1) ∧
        (∀ c ∈ cfg.send, ∀ m ∈ mid.fs.subC c.id ++ mid.fs.subCU c.id ++ mid.fs.subS c.id ++ mid.fs.subSU c.id,
          m.length ≤ MAX_NUM_SLICES * SLICE_SIZE)) ∧
      (mid.fs.obtS 1 = [[1, 2, 3]] ∧ mid.fs.obtC 1 = [[5, 5], [2], [9, 9]] ∧ mid.fs.s.netcode.clientsId = [7, 9] ∧
        mid.fs.s.renet.clientsId = [7, 9])) ∧
    (((t1.emO.length = 1 ∧ t2.updS.length = 1 ∧ t3.emO.length = 2 ∧ t4.updS.length = 2) ∧
        (t4.fs.s.netcode.clientsId = [7, 9] ∧ t4.fs.s.renet.clientsId = [7, 9] ∧ t5.o.netcode.isConnected = true ∧
          t5.o.renet.isConnected = true)) ∧
      (ms0.run toyAead 7 ((h1 ++ h2 ++ h3) ++ h4)).isSome = true) ∧
    ((t5.step toyAead 7 (.srvSendTo 9 1 [4])).isSome = true ∧ (t5.step toyAead 7 (.srvBroadcast 1 [5, 5])).isSome = true ∧
      decide (SMap.find? sent9.fs.s.renet.conns 9 = SMap.find? t5.fs.s.renet.conns 9) = false ∧
      bcast.fs.subS 1 = [[5, 5]]) := by
  decide +kernel

theorem handshake9 :
    (t1.emO.length, t2.updS.length, t3.emO.length, t4.updS.length) = (1, 1, 2, 2) ∧
    (t4.fs.s.netcode.clientsId, t4.fs.s.renet.clientsId, t5.o.netcode.isConnected, t5.o.renet.isConnected) =
      ([7, 9], [7, 9], true, true) := by
  simpa only [Prod.mk.injEq] using all.2.2.1.1

theorem run : ms0.run toyAead 7 ops = some fin := some_getD all.1.1.1 _
theorem noForgery : MNoForgeryRunD toyAead 7 ms0 ops := all.1.1.2.1
theorem singleSession : MSingleSessionRun toyAead 7 ms0 ops := all.1.1.2.2
theorem countersUp : CountersUp cfg fin.fs := all.1.2.1.1
theorem countersDown : CountersDown cfg fin.fs := all.1.2.1.2

theorem established : Established cfg 7 ms0.fs := fs0_established

example : fin.fs.obtS 1 <+: fin.fs.subC 1 :=
  (multi_ordered_prefix toyAead toyAead_laws cfg 7 ms0 fin ops established run noForgery singleSession).1
    countersUp 1 ordered1
example : fin.fs.obtC 1 <+: fin.fs.subS 1 :=
  (multi_ordered_prefix toyAead toyAead_laws cfg 7 ms0 fin ops established run noForgery singleSession).2
    countersDown 1 ordered1'
example : ∀ x ∈ fin.fs.obtC 1, x ∈ fin.fs.subS 1 :=
  ((multi_integrity toyAead toyAead_laws cfg 7 ms0 fin ops established run noForgery singleSession).2
    countersDown).1 1 (Or.inl ordered1')
/-- what actually happened.  Client 7 obtained both broadcasts, the except-9 broadcast and its own message, in
    submission order, and NOT the `[4]` addressed to client 9; the server obtained `[1,2,3]`, `[6]` from client 7 and
    `[3,3]` from client 9 (attributed to 9); client 9 obtained the first broadcast and its `[4]`, not `[2]`; after client
    9 left, both server tables hold client 7 alone and its traffic went on. -/
example : fin.fs.subC 1 = [[1, 2, 3], [6]] ∧ fin.fs.obtS 1 = [[1, 2, 3], [6]] ∧
    fin.fs.subS 1 = [[5, 5], [2], [9, 9], [8]] ∧ fin.fs.obtC 1 = [[5, 5], [2], [9, 9], [8]] ∧
    fin.obtSO = [(9, 1, [3, 3])] ∧ fin.obtO = [(1, [5, 5]), (1, [4])] ∧
    fin.fs.s.netcode.clientsId = [7] ∧ fin.fs.s.renet.clientsId = [7] := all.1.2.2

/-! lock-step on this run: the start state's server glue is `C20.s2.1`, reached from the fresh glue `exG0` by two
    transport `update`s -/

theorem sstep_lockstep {g : ServerGlue} (d : Nat) (inbox : List Dgram) (h : GI.LockStep g) :
    GI.LockStep (sstep g d inbox).1 := by
  unfold sstep
  split
  · rename_i g' out ho
    exact (C20.update_lockstep ho h).1
  · exact h

theorem exG0_lockstep : GI.LockStep exG0 := (GI.gInv_fresh exNs0_fresh 60000 exChans exChans).1
theorem s1_lockstep : GI.LockStep s1.1 := sstep_lockstep (g := exG0) 1000 (up c1.2) exG0_lockstep
theorem s2_lockstep : GI.LockStep s2.1 := sstep_lockstep (g := s1.1) 1000 (up c2.2) s1_lockstep
/-- with the server glue a variable: asked whether `ms0.fs.s` and `s2.1` agree, the kernel would run the handshake -/
theorem start_lockstep {c : ClientGlue} {s : ServerGlue} (h : GI.LockStep s) : GI.LockStep (FS.start c s).s := h
theorem ms0_lockstep : GI.LockStep ms0.fs.s := start_lockstep (c := c4) s2_lockstep

example : SMap.contains fin.fs.s.renet.conns 7 = true ↔ 7 ∈ fin.fs.s.netcode.clientsId :=
  multi_lockstep_cid toyAead 7 ms0 fin ops ms0_lockstep run
example : GI.LockStep fin.fs.s := multi_lockstep toyAead 7 ms0 fin ops ms0_lockstep run

theorem mid_facts :
    (ms0.run toyAead 7 opsMid).isSome = true ∧
    (mid.fs.c.renet.packetSeq ≤ Varint.MAX + 1 ∧ mid.fs.ySeq ≤ Varint.MAX + 1 ∧
      (∀ c ∈ cfg.send, c.id < 256 ∧ (mid.fs.subC c.id).length ≤ Varint.MAX + 1 ∧
        (mid.fs.subS c.id).length ≤ Varint.MAX + 1) ∧
      (∀ c ∈ cfg.send, ∀ m ∈ mid.fs.subC c.id ++ mid.fs.subCU c.id ++ mid.fs.subS c.id ++ mid.fs.subSU c.id,
        m.length ≤ MAX_NUM_SLICES * SLICE_SIZE)) ∧
    (mid.fs.obtS 1 = [[1, 2, 3]] ∧ mid.fs.obtC 1 = [[5, 5], [2], [9, 9]] ∧ mid.fs.s.netcode.clientsId = [7, 9] ∧
      mid.fs.s.renet.clientsId = [7, 9]) :=
  all.2.1

example : mid.fs.obtS 1 <+: mid.fs.subC 1 ∧ mid.fs.obtC 1 <+: mid.fs.subS 1 ∧ GI.LockStep mid.fs.s := by
  obtain ⟨hr, ⟨h1, h2, h3, h4⟩, -⟩ := mid_facts
  have h := multi_ordered_prefix_always toyAead toyAead_laws cfg 7 ms0 mid opsMid (g3 ++ g4 ++ g5) established
    (some_getD hr _) noForgery singleSession
  refine ⟨h.1 ⟨fun c hc => (h3 c hc).1, h1, fun c hc => (h3 c hc).2.1, fun c hc m hm => h4 c hc m ?_,
      fun c hc m hm => h4 c hc m ?_⟩ 1 ordered1,
    h.2 ⟨fun c hc => (h3 c hc).1, h2, fun c hc => (h3 c hc).2.2, fun c hc m hm => h4 c hc m ?_,
      fun c hc m hm => h4 c hc m ?_⟩ 1 ordered1',
    multi_lockstep toyAead 7 ms0 mid opsMid ms0_lockstep (some_getD hr _)⟩
  · simp only [List.mem_append]; exact Or.inl (Or.inl (Or.inl hm))
  · simp only [List.mem_append]; exact Or.inl (Or.inl (Or.inr hm))
  · simp only [List.mem_append]; exact Or.inl (Or.inr hm)
  · simp only [List.mem_append]; exact Or.inr hm

theorem h4_runs : (ms0.run toyAead 7 ((h1 ++ h2 ++ h3) ++ h4)).isSome = true := all.2.2.1.2

example : GI.LockStep ((ms0.run toyAead 7 ((h1 ++ h2 ++ h3) ++ h4)).getD ms0).fs.s ∧
    GI.NoDead ((ms0.run toyAead 7 ((h1 ++ h2 ++ h3) ++ h4)).getD ms0).fs.s.renet :=
  multi_lockstep_after_update toyAead 7 ms0 _ (h1 ++ h2 ++ h3) 1000 (toSrv9 t3.emO t1.emO.length) ms0_lockstep
    (some_getD h4_runs _)

theorem frame_facts :
    (t5.step toyAead 7 (.srvSendTo 9 1 [4])).isSome = true ∧ (t5.step toyAead 7 (.srvBroadcast 1 [5, 5])).isSome = true ∧
    decide (SMap.find? sent9.fs.s.renet.conns 9 = SMap.find? t5.fs.s.renet.conns 9) = false ∧
    bcast.fs.subS 1 = [[5, 5]] :=
  all.2.2.2

example : SameForCid 7 t5.fs sent9.fs :=
  others_do_not_disturb toyAead 7 t5 sent9 (.srvSendTo 9 1 [4]) rfl (some_getD frame_facts.1 _)

example : ∃ fs1, t5.fs.step toyAead 7 (.srvSend 1 [5, 5]) = some fs1 ∧ SameForCid 7 fs1 bcast.fs :=
  broadcast_is_send toyAead 7 t5 bcast 1 [5, 5] (some_getD frame_facts.2.1 _)

end Ex

/-! `ExU` — ReliableUnordered (channel 2, the session of `C20F.ExU`), with a second client around and broadcasts:
    `broadcast_message(2, [8])`, flush, `broadcast_message_except(9, 2, [9])`, flush; the adversary delivers the LATER
    datagram first; client 7 obtains `[9]`, then `[8]`: each once, out of order. -/
namespace ExU
open RenetVerif.C20 RenetVerif.C20F.Ex

abbrev cfg := C20F.ExU.cfg
def ms0 : MS := ⟨C20F.ExU.fs0, Ex.o0, [], [], [], []⟩
def ops1 : List MOp :=
  [.srvBroadcast 2 [8], .base .srvSendPackets, .srvBroadcastExcept 9 2 [9], .base .srvSendPackets, .srvSendTo 9 2 [4],
   .base (.cliSend 2 [1]), .base .cliSendPackets]
def st1 : MS := (ms0.run toyAead 7 ops1).getD ms0
def dU (i : Nat) : Dgram := (hsCliAddr, (st1.fs.emC.map (·.2)).getD i [])
def dD (i : Nat) : Dgram := (exSrvAddr, (st1.fs.emS.map (·.2)).getD i [])
def ops2 : List MOp :=
  [.base (.cliUpdate 1000 [dD 1]), .base (.cliRecv 2), .base (.cliUpdate 1000 [dD 0, dD 1, dD 0]), .base (.cliRecv 2),
   .base (.cliRecv 2), .base (.srvUpdate 1000 [dU 0, dU 0]), .srvRecvFrom 7 2, .srvRecvFrom 7 2]
def ops : List MOp := ops1 ++ ops2
def fin : MS := (ms0.run toyAead 7 ops).getD ms0

/-- the run: it returns normally, the run hypotheses, the counters, what was observed -/
theorem all :
    ((ms0.run toyAead 7 ops).isSome = true ∧ MNoForgeryRunD toyAead 7 ms0 ops ∧ MSingleSessionRun toyAead 7 ms0 ops) ∧
    (CountersUp cfg fin.fs ∧ CountersDown cfg fin.fs) ∧
    (fin.fs.subS 2 = [[8], [9]] ∧ fin.fs.obtC 2 = [[9], [8]] ∧ fin.fs.subC 2 = [[1]] ∧ fin.fs.obtS 2 = [[1]]) := by
  decide +kernel

theorem run : ms0.run toyAead 7 ops = some fin := some_getD all.1.1 _
theorem noForgery : MNoForgeryRunD toyAead 7 ms0 ops := all.1.2.1
theorem singleSession : MSingleSessionRun toyAead 7 ms0 ops := all.1.2.2
theorem countersDown : CountersDown cfg fin.fs := all.2.1.2

example : ∃ ids : List Nat, ids.Nodup ∧ (fin.fs.obtC 2).map some = ids.map (fun id => (fin.fs.subS 2)[id]?) :=
  (multi_unordered_once toyAead toyAead_laws cfg 7 ms0 fin ops C20F.ExU.fs0_established run noForgery singleSession).2
    countersDown 2 C20F.ExU.unordered2
/-- what actually happened (witness `ids = [1, 0]`) -/
example : fin.fs.subS 2 = [[8], [9]] ∧ fin.fs.obtC 2 = [[9], [8]] ∧ fin.fs.subC 2 = [[1]] ∧ fin.fs.obtS 2 = [[1]] :=
  all.2.2

end ExU

end RenetVerif.C20M
