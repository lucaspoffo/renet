/-
  Transport ties with a LOCAL renet-side condition.

  The ties of `TrServer.lean` / `TrClient.lean` take an abstract simulation `RnSim R` / `RcSim R` whose clauses hold at EVERY
  `R`-state, so `R` has to imply the range conditions of `process_packet` / `get_packets_to_send` and be kept by them on every
  input; `TrClosed.lean` instantiates this with a range predicate that is closed under those operations (`RangeClosed`).  Such a
  predicate cannot hold of a live connection (every flush of a connection with pending acks increments `packet_sequence`, while
  the predicate must imply `flushSeq ≤ 2^60`).  Here the clauses for `process_packet(_from)` and `get_packets_to_send` take the
  range fact `ConnInRange` for THAT state as a premise (`RnSimL`, `RcSimL`: the instances `RnSimOn connOkAt`, `RcSimOn ConnInRange`
  of the parametrised simulations), and the ties hold under a predicate saying that `ConnInRange` holds at every model state the
  loop of this ONE call reaches where such a call is made (`RecvLoopOk`, `IdLoopOk`, `SrvUpdateOk`, `SendLoopOk`, `CRecvLoopOk`,
  `CliUpdateOk`: defined by recursion over the model loop, decidable).  Each of these predicates unfolds, one round at a time,
  to the loop invariant (`HandleInv`, `SendInv`, `CRecvInv`) that the parametrised ties ask for.
-/
import RenetVerif.Lemmas.SrcEquiv.SrcMulti
set_option linter.unusedVariables false
namespace RenetVerif.SrcEquiv
open RenetVerif RenetVerif.RustSem RenetVerif.Netcode RenetVerif.Transport RenetVerif.SrcSystem RenetVerif.SrcMulti

section TrServerL
open Src.renet_netcode.server

def connOkAt (rs : Server) (id : Nat) : Prop :=
  match SMap.find? rs.conns id with
  | some c => ConnInRange c
  | none => True

instance (rs : Server) (id : Nat) : Decidable (connOkAt rs id) := by
  unfold connOkAt
  cases SMap.find? rs.conns id with
  | none => exact isTrue trivial
  | some c => exact inferInstanceAs (Decidable (ConnInRange c))

theorem connOkAt_find {rs : Server} {id : Nat} {c : Conn} (h : connOkAt rs id) (hf : SMap.find? rs.conns id = some c) :
    ConnInRange c := by
  unfold connOkAt at h; rw [hf] at h; exact h

structure RnSimL (R : Server → SRenetServer → Prop) : Prop where
  ppf : ∀ {s : Server} {g : SRenetServer}, R s g → ∀ (payload : Bytes) (id : Nat), connOkAt s id →
    match s.processPacketFrom payload id with
    | .ok (s', _) => ∃ g', R s' g' ∧
        (Src.renet.server.RenetServer.process_packet_from g (toNats payload) id = .ok (g', ()) ∨
         ∃ e, Src.renet.server.RenetServer.process_packet_from g (toNats payload) id = .err (e, g'))
    | .panic _ => ∃ m, Src.renet.server.RenetServer.process_packet_from g (toNats payload) id = .panic m
    | .err e => nomatch e
  add : ∀ {s : Server} {g : SRenetServer}, R s g → ∀ (id : Nat), ∃ g', R (s.addConnection id) g' ∧
    ∀ ε : Type, (Src.renet.server.RenetServer.add_connection g id : Res ε _) = .ok (g', ())
  remove : ∀ {s : Server} {g : SRenetServer}, R s g → ∀ (id : Nat), ∃ g', R (s.removeConnection id) g' ∧
    ∀ ε : Type, (Src.renet.server.RenetServer.remove_connection g id : Res ε _) = .ok (g', ())
  cids : ∀ {s : Server} {g : SRenetServer}, R s g →
    ∀ ε : Type, (Src.renet.server.RenetServer.clients_id g : Res ε _) = .ok s.clientsId
  dids : ∀ {s : Server} {g : SRenetServer}, R s g →
    ∀ ε : Type, (Src.renet.server.RenetServer.disconnections_id g : Res ε _) = .ok s.disconnectionsId
  gpts : ∀ {s : Server} {g : SRenetServer}, R s g → ∀ (id : Nat), connOkAt s id →
    match s.getPacketsToSend id with
    | .ok (s', some ps) => ∃ g', R s' g' ∧ Src.renet.server.RenetServer.get_packets_to_send g id = .ok (g', ps.map toNats)
    | .ok (s', none) => ∃ g' e, Src.renet.server.RenetServer.get_packets_to_send g id = .err (e, g')
    | .panic _ => ∃ m, Src.renet.server.RenetServer.get_packets_to_send g id = .panic m
    | .err e => nomatch e

/-- the renet call `handle_server_result` makes for this result finds its connection in range -/
def HandleOk (r : Netcode.ServerResult) (rs : Server) : Prop :=
  match r with
  | .payload id _ => connOkAt rs id
  | _ => True

instance (r : Netcode.ServerResult) (rs : Server) : Decidable (HandleOk r rs) := by
  unfold HandleOk; cases r <;> infer_instance

/-- along the model's `serverIdLoop`: every `handle_server_result` finds its connection in range -/
def IdLoopOk (f : NetcodeServer → Nat → Res Empty (ServerResult × NetcodeServer)) (g : ServerGlue) :
    List Nat → Array Dgram → Prop
  | [], _ => True
  | id :: rest, out =>
    match f g.netcode id with
    | .ok (r, ns) => HandleOk r g.renet ∧
        match handleServerResult r g.renet out with
        | .ok (rs', out') => IdLoopOk f { netcode := ns, renet := rs' } rest out'
        | _ => True
    | _ => True

instance decIdLoopOk (f : NetcodeServer → Nat → Res Empty (ServerResult × NetcodeServer)) :
    ∀ (ids : List Nat) (g : ServerGlue) (out : Array Dgram), Decidable (IdLoopOk f g ids out)
  | [], _, _ => isTrue trivial
  | id :: rest, g, out => by
    unfold IdLoopOk
    cases f g.netcode id with
    | ok v =>
      obtain ⟨r, ns⟩ := v
      have : Decidable (match handleServerResult r g.renet out with
          | .ok (rs', out') => IdLoopOk f { netcode := ns, renet := rs' } rest out' | _ => True) := by
        cases handleServerResult r g.renet out with
        | ok v2 => obtain ⟨rs', out'⟩ := v2; exact decIdLoopOk f rest _ out'
        | err e => exact isTrue trivial
        | panic m => exact isTrue trivial
      exact inferInstanceAs (Decidable (_ ∧ _))
    | err e => exact isTrue trivial
    | panic m => exact isTrue trivial

/-- along the model's `serverRecvLoop` (over the already cut inbox) -/
def RecvLoopOk (a : AEAD) (g : ServerGlue) : List Dgram → Array Dgram → Prop
  | [], _ => True
  | (addr, buf) :: rest, out =>
    match g.netcode.processPacket a addr buf with
    | .ok (r, ns) => HandleOk r g.renet ∧
        match handleServerResult r g.renet out with
        | .ok (rs', out') => RecvLoopOk a { netcode := ns, renet := rs' } rest out'
        | _ => True
    | _ => True

instance decRecvLoopOk (a : AEAD) : ∀ (inbox : List Dgram) (g : ServerGlue) (out : Array Dgram), Decidable (RecvLoopOk a g inbox out)
  | [], _, _ => isTrue trivial
  | (addr, buf) :: rest, g, out => by
    unfold RecvLoopOk
    cases g.netcode.processPacket a addr buf with
    | ok v =>
      obtain ⟨r, ns⟩ := v
      have : Decidable (match handleServerResult r g.renet out with
          | .ok (rs', out') => RecvLoopOk a { netcode := ns, renet := rs' } rest out' | _ => True) := by
        cases handleServerResult r g.renet out with
        | ok v2 => obtain ⟨rs', out'⟩ := v2; exact decRecvLoopOk a rest _ out'
        | err e => exact isTrue trivial
        | panic m => exact isTrue trivial
      exact inferInstanceAs (Decidable (_ ∧ _))
    | err e => exact isTrue trivial
    | panic m => exact isTrue trivial

/-- along the model's `serverUpdateFrom`: the receive loop and the two id loops -/
def SrvUpdateOk (a : AEAD) (g : ServerGlue) (duration : Nat) (inbox : List Dgram) (out : Array Dgram) : Prop :=
  match g.netcode.update duration with
  | .ok ns => RecvLoopOk a { g with netcode := ns } inbox out ∧
      match serverRecvLoop a { g with netcode := ns } inbox out with
      | .ok (g1, out1) => IdLoopOk (fun ns id => ns.updateClient a id) g1 g1.netcode.clientsId out1 ∧
          match serverIdLoop (fun ns id => ns.updateClient a id) g1 g1.netcode.clientsId out1 with
          | .ok (g2, out2) => IdLoopOk (fun ns id => ns.disconnect a id) g2 g2.renet.disconnectionsId out2
          | _ => True
      | _ => True
  | _ => True

instance (a : AEAD) (g : ServerGlue) (duration : Nat) (inbox : List Dgram) (out : Array Dgram) :
    Decidable (SrvUpdateOk a g duration inbox out) := by
  unfold SrvUpdateOk
  cases g.netcode.update duration with
  | ok ns =>
    have : Decidable (match serverRecvLoop a { g with netcode := ns } inbox out with
        | .ok (g1, out1) => IdLoopOk (fun ns id => ns.updateClient a id) g1 g1.netcode.clientsId out1 ∧
            match serverIdLoop (fun ns id => ns.updateClient a id) g1 g1.netcode.clientsId out1 with
            | .ok (g2, out2) => IdLoopOk (fun ns id => ns.disconnect a id) g2 g2.renet.disconnectionsId out2
            | _ => True
        | _ => True) := by
      cases serverRecvLoop a { g with netcode := ns } inbox out with
      | ok v1 =>
        obtain ⟨g1, out1⟩ := v1
        have : Decidable (match serverIdLoop (fun ns id => ns.updateClient a id) g1 g1.netcode.clientsId out1 with
            | .ok (g2, out2) => IdLoopOk (fun ns id => ns.disconnect a id) g2 g2.renet.disconnectionsId out2
            | _ => True) := by
          cases serverIdLoop (fun ns id => ns.updateClient a id) g1 g1.netcode.clientsId out1 with
          | ok v2 => obtain ⟨g2, out2⟩ := v2; exact inferInstanceAs (Decidable (IdLoopOk _ _ _ _))
          | err e => exact isTrue trivial
          | panic m => exact isTrue trivial
        exact inferInstanceAs (Decidable (_ ∧ _))
      | err e => exact isTrue trivial
      | panic m => exact isTrue trivial
    exact inferInstanceAs (Decidable (_ ∧ _))
  | err e => exact isTrue trivial
  | panic m => exact isTrue trivial

/-- along the model's `serverSendLoop`: the connection flushed in each round is in range -/
def SendLoopOk (a : AEAD) (g : ServerGlue) : List Nat → Array Dgram → Prop
  | [], _ => True
  | id :: rest, out => connOkAt g.renet id ∧
    match g.renet.getPacketsToSend id with
    | .ok (rs, some ps) =>
      (match serverSendClient a g.netcode id ps out with
       | .ok (ns, out') => SendLoopOk a { netcode := ns, renet := rs } rest out'
       | _ => True)
    | _ => True

instance decSendLoopOk (a : AEAD) : ∀ (ids : List Nat) (g : ServerGlue) (out : Array Dgram), Decidable (SendLoopOk a g ids out)
  | [], _, _ => isTrue trivial
  | id :: rest, g, out => by
    unfold SendLoopOk
    have : Decidable (match g.renet.getPacketsToSend id with
        | .ok (rs, some ps) =>
          (match serverSendClient a g.netcode id ps out with
           | .ok (ns, out') => SendLoopOk a { netcode := ns, renet := rs } rest out'
           | _ => True)
        | _ => True) := by
      cases g.renet.getPacketsToSend id with
      | ok v =>
        obtain ⟨rs, ops⟩ := v
        cases ops with
        | none => exact isTrue trivial
        | some ps =>
          show Decidable (match serverSendClient a g.netcode id ps out with
            | .ok (ns, out') => SendLoopOk a { netcode := ns, renet := rs } rest out' | _ => True)
          cases serverSendClient a g.netcode id ps out with
          | ok v2 => obtain ⟨ns, out'⟩ := v2; exact decSendLoopOk a rest _ out'
          | err e => exact isTrue trivial
          | panic m => exact isTrue trivial
      | err e => exact isTrue trivial
      | panic m => exact isTrue trivial
    exact inferInstanceAs (Decidable (_ ∧ _))


theorem RnSimL.on {R : Server → SRenetServer → Prop} (h : RnSimL R) : RnSimOn connOkAt R :=
  ⟨h.ppf, h.add, h.remove, h.cids, h.dids, h.gpts⟩

theorem HandleOk.prem {r : Netcode.ServerResult} {rs : Server} (h : HandleOk r rs) (id : Nat) (p : Bytes)
    (hr : r = .payload id p) : connOkAt rs id := by
  subst hr; exact h

theorem idLoopOk_inv (f : NetcodeServer → Nat → Res Empty (ServerResult × NetcodeServer)) : HandleInv connOkAt f (IdLoopOk f) where
  prem := fun hq hm => by
    simp only [IdLoopOk, hm] at hq
    exact hq.1.prem
  next := fun hq hm hm2 => by
    simp only [IdLoopOk, hm, hm2] at hq
    exact hq.2

theorem recvLoopOk_inv (a : AEAD) : HandleInv connOkAt (fun ns d => ns.processPacket a d.1 d.2) (RecvLoopOk a) where
  prem := @fun g x rest out r ns hq hm => by
    obtain ⟨addr, buf⟩ := x
    simp only [RecvLoopOk, hm] at hq
    exact hq.1.prem
  next := @fun g x rest out out' r ns rs' hq hm hm2 => by
    obtain ⟨addr, buf⟩ := x
    simp only [RecvLoopOk, hm, hm2] at hq
    exact hq.2

theorem sendLoopOk_inv (a : AEAD) : SendInv connOkAt a (SendLoopOk a) where
  prem := fun hq => by
    simp only [SendLoopOk] at hq
    exact hq.1
  next := fun hq hm hm2 => by
    simp only [SendLoopOk, hm, hm2] at hq
    exact hq.2

end TrServerL

section TrClientL
open Src.renet_netcode.client

structure RcSimL (R : Conn → SRenetClient → Prop) : Prop where
  reason : ∀ {c : Conn} {g : SRenetClient}, R c g →
    (Src.renet.remote_connection.RenetClient.disconnect_reason g : Res CTrErr _) = .ok (c.disconnectReason.map reprReason)
  dtt : ∀ {c : Conn} {g : SRenetClient}, R c g → ∃ g', R (c.disconnectWith .transport) g' ∧
    (Src.renet.remote_connection.RenetClient.disconnect_due_to_transport g : Res CTrErr _) = .ok (g', ())
  setc : ∀ {c : Conn} {g : SRenetClient}, R c g → ∃ g', R c.setConnected g' ∧
    (Src.renet.remote_connection.RenetClient.set_connected g : Res CTrErr _) = .ok (g', ())
  setg : ∀ {c : Conn} {g : SRenetClient}, R c g → ∃ g', R c.setConnecting g' ∧
    (Src.renet.remote_connection.RenetClient.set_connecting g : Res CTrErr _) = .ok (g', ())
  pp : ∀ {c : Conn} {g : SRenetClient}, R c g → ConnInRange c → ∀ (bytes : Bytes),
    match c.processPacket bytes with
    | .ok c' => ∃ g', R c' g' ∧
        (Src.renet.remote_connection.RenetClient.process_packet g (toNats bytes) : Res CTrErr _) = .ok (g', ())
    | .panic _ => ∃ m, (Src.renet.remote_connection.RenetClient.process_packet g (toNats bytes) : Res CTrErr _) = .panic m
    | .err e => nomatch e
  gpts : ∀ {c : Conn} {g : SRenetClient}, R c g → ConnInRange c →
    match c.getPacketsToSend with
    | .ok (c', ps) => ∃ g', R c' g' ∧
        (Src.renet.remote_connection.RenetClient.get_packets_to_send g : Res CTrErr _) = .ok (g', ps.map toNats)
    | .panic _ => ∃ m, (Src.renet.remote_connection.RenetClient.get_packets_to_send g : Res CTrErr _) = .panic m
    | .err e => nomatch e

/-- one datagram of the model's receive loop: if it surfaces a payload, the renet connection is in range -/
def CStepOk (a : AEAD) (g : ClientGlue) (d : Dgram) : Prop :=
  if d.1 ≠ g.netcode.serverAddr then True else
  match g.netcode.processPacket a d.2 with
  | .ok (some _, _) => ConnInRange g.renet
  | _ => True

instance (a : AEAD) (g : ClientGlue) (d : Dgram) : Decidable (CStepOk a g d) := by
  unfold CStepOk
  split
  · exact isTrue trivial
  · cases g.netcode.processPacket a d.2 with
    | ok v =>
      obtain ⟨p, nc⟩ := v
      cases p with
      | none => exact isTrue trivial
      | some p => exact inferInstanceAs (Decidable (ConnInRange g.renet))
    | err e => exact isTrue trivial
    | panic m => exact isTrue trivial

/-- along the model's `clientRecvLoop` (over the already cut inbox) -/
def CRecvLoopOk (a : AEAD) (g : ClientGlue) : List Dgram → Prop
  | [] => True
  | d :: rest => CStepOk a g d ∧
    match clientRecvStep a g d with
    | .ok g' => CRecvLoopOk a g' rest
    | _ => True

instance decCRecvLoopOk (a : AEAD) : ∀ (inbox : List Dgram) (g : ClientGlue), Decidable (CRecvLoopOk a g inbox)
  | [], _ => isTrue trivial
  | d :: rest, g => by
    unfold CRecvLoopOk
    have : Decidable (match clientRecvStep a g d with | .ok g' => CRecvLoopOk a g' rest | _ => True) := by
      cases clientRecvStep a g d with
      | ok g' => exact decCRecvLoopOk a rest g'
      | err e => exact isTrue trivial
      | panic m => exact isTrue trivial
    exact inferInstanceAs (Decidable (_ ∧ _))

/-- along the model's `clientUpdateFrom`: the receive loop, started after the status mirror -/
def CliUpdateOk (a : AEAD) (g : ClientGlue) (inbox : List Dgram) : Prop :=
  CRecvLoopOk a { g with renet := if g.netcode.isConnected then g.renet.setConnected
                                   else if g.netcode.isConnecting then g.renet.setConnecting else g.renet } inbox

instance (a : AEAD) (g : ClientGlue) (inbox : List Dgram) : Decidable (CliUpdateOk a g inbox) := by
  unfold CliUpdateOk; infer_instance


theorem RcSimL.on {R : Conn → SRenetClient → Prop} (h : RcSimL R) : RcSimOn ConnInRange R :=
  ⟨h.reason, h.dtt, h.setc, h.setg, h.pp, h.gpts⟩

theorem crecvLoopOk_inv (a : AEAD) : CRecvInv ConnInRange a (CRecvLoopOk a) where
  prem := fun hq haddr hm => by
    have h := hq.1
    simp only [CStepOk, haddr, ne_eq, not_true_eq_false, if_false, hm] at h
    exact h
  next := fun hq hm => by
    have h := hq.2
    simp only [hm] at h
    exact h

end TrClientL

/-- the relations of the local ties: model invariants ∧ generated = repr (model) -/
def RcRel (c : Conn) (g : SRenetClient) : Prop := EpGood c ∧ ∃ mrs, g = reprConn mrs c
def RsRel (s : Server) (g : SRenetServer) : Prop := SGood s ∧ ∃ mrss, g = reprServer mrss s

end RenetVerif.SrcEquiv
