/-
  C11 / C01 / C02 — LIVENESS in the MULTI-CLIENT system, ABOUT THE GENERATED CODE.

  `GMulti` (`Lemmas/SrcEquiv/SrcMulti.lean`, see `Props/SrcPropsMulti.lean`) is the multi-client system with a GENERATED
  `RenetServer` and, per client id, a GENERATED `RenetClient` as the remote endpoint, driven only through the generated
  functions.  The liveness theorems of `Props/C11L.lean` (one lossless round for client `i` alone, server → client) and of
  `Props/C01M.lean` (k rounds with a budget smaller than the backlog; the direction client → server) are transferred through
  the simulation `SrcMulti.mrun_sim` (`SrcMulti.mext_sim`), following `Props/SrcPropsSystemLive.lean`:

      hypothesis   `GMulti.exec P ops = some g`                  the generated run up to the start of the rounds,
                   `GLive g i gc gl`                              client `i` is connected in the GENERATED state `g`: `gc` is the
                                                                 server's generated connection for `i` (field `connections`), `gl`
                                                                 the link of `i`; the generated `is_disconnected` of both ends
                                                                 returns `false`; no hostile bytes under id `i` (`gl.tainted`);
      conclusion   `∃ u gc' gl', GMulti.exec P (ops ++ ops') = some u ∧ GLive u i gc' gl' ∧ …`
                   the GENERATED execution of the continuation returns normally (no generated function panics), client `i`
                   is still connected in the generated state `u`, and on the generated ghost logs
                   `gl'.subS ch = gl.subS ch`, `gl'.obtC ch = gl.subS ch` (a permutation for ReliableUnordered): client `i`'s
                   application has obtained exactly everything the server application addressed to it; every message at
                   least once and at most as often as the run addressed it to `i`.

  The remaining hypotheses of the model theorems (timer, counters after the tick, H2 budget, H3 `Room`, H4 `OnlyCh`, the
  datagram indices of the flush, `Rounds`: schedule and budget facts) are stated, as in C11L / C01M, on the MODEL state `m`
  with `(MSys.init P).run ops = some m` (an explicit hypothesis; `m` is determined by `ops`, it is the state `SimMulti`-related
  to `g`, `SrcMulti.msim_of_runs`), on the model link `l` of `i` and the model table entry `c` of `i` in `m`.
  `MRunInRange P (ops ++ ops')` is the range side condition of the source tie over the whole execution.

  The continuation `ops'` is ANY operation list whose local trace for `i` is the tick and the round(s) of `i` — the round
  interleaved with arbitrary operations that concern other clients only.  Those other operations may panic (in the model and
  in the generated code alike), so "the continuation runs in the model" (`m.run ops' = some m''`) is a hypothesis of the
  interleaved forms — `SrcMulti.mrun_of_exec` derives it from a generated execution `GMulti.exec P (ops ++ ops') = some u`,
  see `src_broadcast_exactly_once_of_exec` —; where the model theorem proves that the round of `i` ALONE runs
  (`round_delivers_to_client`, `round_delivers_to_server`, `from_one_exactly_once`, `k_rounds_run_to_server`), the
  generated execution of the round is a conclusion without such a hypothesis.
-/
import RenetVerif.Lemmas.SrcEquiv.SrcMultiMore
import RenetVerif.Props.SrcPropsMulti
import RenetVerif.Props.C11L
import RenetVerif.Props.C01M
namespace RenetVerif.SrcPropsMultiLive
open RenetVerif C RenetVerif.System RenetVerif.MultiSystem RenetVerif.Live RenetVerif.LiveK RenetVerif.MultiLive
open RenetVerif.MultiLiveK
open RenetVerif.C11E RenetVerif.C11L RenetVerif.C01M
open RenetVerif.SrcEquiv RenetVerif.SrcSystem RenetVerif.SrcMulti
open Src.renet.remote_connection

theorem transfer {P : Params} {ops ext : List MOp} {m : MSys} {g : GMulti} (hm : (MSys.init P).run ops = some m)
    (hg : GMulti.exec P ops = some g) (hrg : MRunInRange P (ops ++ ext)) {i : Nat} {gc : RenetClient} {gl : GLink}
    (hlive : GLive g i gc gl) {l : Link} (hml : m.links i = some l) {c : Conn} (hconn : conn? m.server i = some c)
    {Q : Link → Prop}
    (hmodel : At P ops m i l → c.isDisconnected = false → l.cl.isDisconnected = false →
      ∃ m'', m.run ext = some m'' ∧ ∃ c'' l'', conn? m''.server i = some c'' ∧ m''.links i = some l'' ∧
        c''.isDisconnected = false ∧ l''.cl.isDisconnected = false ∧ l''.tainted = false ∧ Q l'') :
    ∃ u gc' gl', GMulti.exec P (ops ++ ext) = some u ∧ GLive u i gc' gl' ∧
      ∃ l'', At P ops m i l ∧ SimLink l gl ∧ SimLink l'' gl' ∧ Q l'' := by
  obtain ⟨hsl, hcl, hda, hdb⟩ := glive_model (msim_of_runs P ops ext m g hm hg hrg) hlive hconn hml
  have hat : At P ops m i l := ⟨hm, hml, hcl⟩
  obtain ⟨m'', hr, c'', l'', a1, a2, a3, a4, a5, hQ⟩ := hmodel hat hda hdb
  obtain ⟨u, e, -, simu⟩ := mext_sim P ops ext m m'' g hm hg hr hrg
  obtain ⟨gc', gl', hl, hsl'⟩ := glive_of_model simu a1 a2 a3 a4 a5
  exact ⟨u, gc', gl', e, hl, l'', hat, hsl, hsl', hQ⟩

def _root_.RenetVerif.MultiLiveK.Dir.gsub : Dir → GLink → Nat → List GBytes
  | .down, l => l.subS
  | .up, l => l.subC
def _root_.RenetVerif.MultiLiveK.Dir.gobt : Dir → GLink → Nat → List GBytes
  | .down, l => l.obtC
  | .up, l => l.obtS

def GDelivered : Bool → List GBytes → List GBytes → Prop
  | true, obt, sub => obt = sub
  | false, obt, sub => obt.Perm sub

theorem gsub_sim (d : Dir) {l : Link} {gl : GLink} (h : SimLink l gl) (ch : Nat) :
    d.gsub gl ch = (d.sub l ch).map toNats := by
  cases d
  · exact h.subS ch
  · exact h.subC ch

theorem gobt_sim (d : Dir) {l : Link} {gl : GLink} (h : SimLink l gl) (ch : Nat) :
    d.gobt gl ch = (d.obt l ch).map toNats := by
  cases d
  · exact h.obtC ch
  · exact h.obtS ch

def SameLog {α : Type} : Bool → Nat → (Nat → List α) → (Nat → List α) → Prop
  | true, _, f, f' => f = f'
  | false, ch, f, f' => f ch = f' ch

/-- **what a model theorem concludes about direction `d` of the link of `i` — the log is kept (on all channels, or on `ch`),
    everything logged on `ch` is delivered, in order (`ord`) or as a permutation — holds of the generated link after the
    generated execution of `ops ++ ext`**: each logged message at least once, none more often than the run said it. -/
theorem src_link_delivered (d : Dir) {ord all : Bool} {P : Params} {ops ext : List MOp} {m : MSys} {g : GMulti}
    (hm : (MSys.init P).run ops = some m) (hg : GMulti.exec P ops = some g) (hrg : MRunInRange P (ops ++ ext)) {i : Nat}
    {gc : RenetClient} {gl : GLink} (hlive : GLive g i gc gl) {l : Link} (hml : m.links i = some l) {c : Conn}
    (hconn : conn? m.server i = some c) {ch : Nat} {R : Link → Prop}
    (hmodel : At P ops m i l → c.isDisconnected = false → l.cl.isDisconnected = false →
      ∃ m'', m.run ext = some m'' ∧ ∃ c'' l'', conn? m''.server i = some c'' ∧ m''.links i = some l'' ∧
        c''.isDisconnected = false ∧ l''.cl.isDisconnected = false ∧ l''.tainted = false ∧
        SameLog all ch (d.sub l'') (d.sub l) ∧ Delivered ord (d.obt l'' ch) (d.sub l ch) ∧ R l'') :
    ∃ u gc' gl', GMulti.exec P (ops ++ ext) = some u ∧ GLive u i gc' gl' ∧
      SameLog all ch (d.gsub gl') (d.gsub gl) ∧ GDelivered ord (d.gobt gl' ch) (d.gsub gl ch) ∧
      ∀ x ∈ d.gsub gl ch, 1 ≤ (d.gobt gl' ch).count x ∧
        (d.gobt gl' ch).count x ≤ ((d.said i ch ops).map toNats).count x := by
  obtain ⟨u, gc', gl', e, hl', l'', hat, hsl, hsl', hs, hd, -⟩ := transfer hm hg hrg hlive hml hconn hmodel
  have e1 : SameLog all ch (d.gsub gl') (d.gsub gl) := by
    cases all
    · have q : d.sub l'' ch = d.sub l ch := hs
      exact (gsub_sim d hsl' ch).trans (q ▸ (gsub_sim d hsl ch).symm)
    · have q : d.sub l'' = d.sub l := hs
      exact funext fun k => (gsub_sim d hsl' k).trans (q ▸ (gsub_sim d hsl k).symm)
  have e2 : GDelivered ord (d.gobt gl' ch) (d.gsub gl ch) := by
    rw [gobt_sim d hsl', gsub_sim d hsl]
    cases ord
    · exact List.Perm.map toNats hd
    · exact congrArg (List.map toNats) hd
  have hp : (d.gobt gl' ch).Perm (d.gsub gl ch) := by
    cases ord
    · exact e2
    · exact (show d.gobt gl' ch = d.gsub gl ch from e2) ▸ List.Perm.refl _
  -- the log is a sub-sequence of what the run said (`At.ok`)
  refine ⟨u, gc', gl', e, hl', e1, e2, gcount_facts hp ?_⟩
  rw [gsub_sim d hsl]
  cases d
  · exact (hat.ok.subS ch).map toNats
  · exact (hat.ok.subC ch).map toNats

/-! ## one lossless round, server → client (`Props/C11L.lean`) -/

/-- **One lossless round for client `i` alone on the generated code (ReliableOrdered; H1 as a hypothesis)** — transports
    `C11L.round_delivers_to_client`.  The GENERATED execution of `srvFlush i ; deliverToCli i k (k ∈ ks) ; cliRecv i ch
    (n times)` returns normally, client `i` is still connected in the generated state, and its application has obtained
    exactly the log `gl.subS ch`, in order.  On the model state `m` / `c` / `l`: counters, H1–H4, the indices `ks`, `hn`. -/
theorem src_round_delivers_to_client (P : Params) (ops : List MOp) (g : GMulti) (hg : GMulti.exec P ops = some g)
    (m : MSys) (hm : (MSys.init P).run ops = some m) (i : Nat) (gc : RenetClient) (gl : GLink) (hlive : GLive g i gc gl)
    (l : Link) (hml : m.links i = some l) (c : Conn) (hconn : conn? m.server i = some c)
    (ch : Nat) (ks : List Nat) (n : Nat) (hrg : MRunInRange P (ops ++ roundFor i ch ks n))
    (hc : CountersOK P.down (dirDown c l)) (hcA : c.CountersOK)
    (ho : P.down.Ordered ch) (sA : SendRel) (hfA : SMap.find? c.sendRel ch = some sA)
    (rB : RecvRel) (hfB : SMap.find? l.cl.recvRel ch = some rB)
    (H1 : AllDue c.now sA.resend sA.unacked) (H2 : backlog sA.unacked ≤ availAtTurn c ch)
    (H3 : Room (l.subS ch) rB) (H4 : ∀ p ∈ flushPk c, OnlyCh ch p)
    (hks1 : ∀ k ∈ flushIdx l c, k ∈ ks) (hks2 : ∀ k ∈ ks, k ∈ flushIdx l c)
    (hn : (l.subS ch).length ≤ (l.obtC ch).length + n) :
    ∃ u gc' gl', GMulti.exec P (ops ++ roundFor i ch ks n) = some u ∧ GLive u i gc' gl' ∧
      gl'.subS = gl.subS ∧ gl'.obtC ch = gl.subS ch := by
  obtain ⟨u, gc', gl', e, hl', e1, e2, -⟩ :=
    src_link_delivered .down (ord := true) (all := true) hm hg hrg hlive hml hconn fun hat hda hdb => by
      obtain ⟨m', c', l', hr, a1, a2, a3, a4, a5, a6, a7, -⟩ :=
        C11L.round_delivers_to_client hat c hconn hc hcA hda hdb ch ho sA hfA rB hfB H1 H2 H3 H4 ks hks1 hks2 n hn
      exact ⟨m', hr, c', l', a1, a2, a3, a4, a5, a6, a7, trivial⟩
  exact ⟨u, gc', gl', e, hl', e1, e2⟩

/-- **Broadcast reaches every connected client, on the generated code: the liveness half (ReliableOrdered)** — transports
    `C11L.broadcast_exactly_once`.  From the generated state `g` in which client `i` is connected: the server's
    `update(dt)` with `dt ≥ resend_time` and ONE lossless round for client `i` alone, in ANY interleaving `ops'` with
    operations that concern other clients only.  The generated execution returns normally, client `i` is still connected,
    and its application has obtained EXACTLY the messages addressed to it (the generated log `gl.subS ch`), in order: each
    at least once, none more often than the run `ops` addressed it to `i`.  On the model state: the timer, the counters
    after the tick, H2–H4, the indices `ks`, `hn`, and that the continuation `ops'` runs (`SrcMulti.mrun_of_exec`). -/
theorem src_broadcast_exactly_once (P : Params) (ops : List MOp) (g : GMulti) (hg : GMulti.exec P ops = some g)
    (m : MSys) (hm : (MSys.init P).run ops = some m) (i : Nat) (gc : RenetClient) (gl : GLink) (hlive : GLive g i gc gl)
    (l : Link) (hml : m.links i = some l) (c : Conn) (hconn : conn? m.server i = some c)
    (ch : Nat) (ho : P.down.Ordered ch) (sA : SendRel) (hfA : SMap.find? c.sendRel ch = some sA)
    (rB : RecvRel) (hfB : SMap.find? l.cl.recvRel ch = some rB)
    (dt : Nat) (hdt : sA.resend ≤ dt) (cu : Conn) (hcu : c.update dt = .ok cu)
    (hc : CountersOK P.down (dirDown cu l)) (hcA : cu.CountersOK)
    (H2 : backlog sA.unacked ≤ availAtTurn cu ch) (H3 : Room (l.subS ch) rB) (H4 : ∀ p ∈ flushPk cu, OnlyCh ch p)
    (ks : List Nat) (hks1 : ∀ k ∈ flushIdx l cu, k ∈ ks) (hks2 : ∀ k ∈ ks, k ∈ flushIdx l cu)
    (n : Nat) (hn : (l.subS ch).length ≤ (l.obtC ch).length + n)
    (ops' : List MOp) (ht : trace i ops' = trace i (.srvUpdate dt :: roundFor i ch ks n))
    (hrg : MRunInRange P (ops ++ ops')) (m'' : MSys) (hr : m.run ops' = some m'') :
    ∃ u gc' gl', GMulti.exec P (ops ++ ops') = some u ∧ GLive u i gc' gl' ∧
      gl'.subS = gl.subS ∧ gl'.obtC ch = gl.subS ch ∧
      ∀ x ∈ gl.subS ch, 1 ≤ (gl'.obtC ch).count x ∧ (gl'.obtC ch).count x ≤ ((addressedTo i ch ops).map toNats).count x :=
  src_link_delivered .down (ord := true) (all := true) hm hg hrg hlive hml hconn fun hat hda hdb =>
    ⟨m'', hr, C11L.broadcast_exactly_once hat c hconn hda hdb ch ho sA hfA rB hfB dt hdt cu hcu hc hcA H2 H3 H4 ks hks1 hks2 n hn
      ops' ht m'' hr⟩

/-- the same with the GENERATED execution of the continuation as the hypothesis (instead of the model run): if the generated
    code runs through `ops ++ ops'`, the final generated state `u` is as `src_broadcast_exactly_once` says -/
theorem src_broadcast_exactly_once_of_exec (P : Params) (ops : List MOp) (g : GMulti) (hg : GMulti.exec P ops = some g)
    (m : MSys) (hm : (MSys.init P).run ops = some m) (i : Nat) (gc : RenetClient) (gl : GLink) (hlive : GLive g i gc gl)
    (l : Link) (hml : m.links i = some l) (c : Conn) (hconn : conn? m.server i = some c)
    (ch : Nat) (ho : P.down.Ordered ch) (sA : SendRel) (hfA : SMap.find? c.sendRel ch = some sA)
    (rB : RecvRel) (hfB : SMap.find? l.cl.recvRel ch = some rB)
    (dt : Nat) (hdt : sA.resend ≤ dt) (cu : Conn) (hcu : c.update dt = .ok cu)
    (hc : CountersOK P.down (dirDown cu l)) (hcA : cu.CountersOK)
    (H2 : backlog sA.unacked ≤ availAtTurn cu ch) (H3 : Room (l.subS ch) rB) (H4 : ∀ p ∈ flushPk cu, OnlyCh ch p)
    (ks : List Nat) (hks1 : ∀ k ∈ flushIdx l cu, k ∈ ks) (hks2 : ∀ k ∈ ks, k ∈ flushIdx l cu)
    (n : Nat) (hn : (l.subS ch).length ≤ (l.obtC ch).length + n)
    (ops' : List MOp) (ht : trace i ops' = trace i (.srvUpdate dt :: roundFor i ch ks n))
    (hrg : MRunInRange P (ops ++ ops')) (u : GMulti) (hu : GMulti.exec P (ops ++ ops') = some u) :
    ∃ gc' gl', GLive u i gc' gl' ∧ gl'.subS = gl.subS ∧ gl'.obtC ch = gl.subS ch ∧
      ∀ x ∈ gl.subS ch, 1 ≤ (gl'.obtC ch).count x ∧ (gl'.obtC ch).count x ≤ ((addressedTo i ch ops).map toNats).count x := by
  obtain ⟨m'', hr, -⟩ := mrun_of_exec P ops ops' m u hm hu hrg
  obtain ⟨u', gc', gl', e, rest⟩ := src_broadcast_exactly_once P ops g hg m hm i gc gl hlive l hml c hconn ch ho sA hfA rB hfB
    dt hdt cu hcu hc hcA H2 H3 H4 ks hks1 hks2 n hn ops' ht hrg m'' hr
  rw [hu] at e; cases e
  exact ⟨gc', gl', rest⟩

/-- **The same on a ReliableUnordered channel (C02's liveness clause), on the generated code** — transports
    `C11L.broadcast_exactly_once_unordered`: client `i`'s application has obtained a PERMUTATION of the generated log. -/
theorem src_broadcast_exactly_once_unordered (P : Params) (ops : List MOp) (g : GMulti) (hg : GMulti.exec P ops = some g)
    (m : MSys) (hm : (MSys.init P).run ops = some m) (i : Nat) (gc : RenetClient) (gl : GLink) (hlive : GLive g i gc gl)
    (l : Link) (hml : m.links i = some l) (c : Conn) (hconn : conn? m.server i = some c)
    (ch : Nat) (ho : P.down.Unordered ch) (sA : SendRel) (hfA : SMap.find? c.sendRel ch = some sA)
    (rB : RecvRel) (hfB : SMap.find? l.cl.recvRel ch = some rB)
    (dt : Nat) (hdt : sA.resend ≤ dt) (cu : Conn) (hcu : c.update dt = .ok cu)
    (hc : CountersOK P.down (dirDown cu l)) (hcA : cu.CountersOK)
    (H2 : backlog sA.unacked ≤ availAtTurn cu ch) (H3 : Room (l.subS ch) rB) (H4 : ∀ p ∈ flushPk cu, OnlyCh ch p)
    (ks : List Nat) (hks1 : ∀ k ∈ flushIdx l cu, k ∈ ks) (hks2 : ∀ k ∈ ks, k ∈ flushIdx l cu)
    (n : Nat) (hn : (l.subS ch).length ≤ (l.obtC ch).length + n)
    (ops' : List MOp) (ht : trace i ops' = trace i (.srvUpdate dt :: roundFor i ch ks n))
    (hrg : MRunInRange P (ops ++ ops')) (m'' : MSys) (hr : m.run ops' = some m'') :
    ∃ u gc' gl', GMulti.exec P (ops ++ ops') = some u ∧ GLive u i gc' gl' ∧
      gl'.subS = gl.subS ∧ (gl'.obtC ch).Perm (gl.subS ch) ∧
      ∀ x ∈ gl.subS ch, 1 ≤ (gl'.obtC ch).count x ∧ (gl'.obtC ch).count x ≤ ((addressedTo i ch ops).map toNats).count x :=
  src_link_delivered .down (ord := false) (all := true) hm hg hrg hlive hml hconn fun hat hda hdb =>
    ⟨m'', hr, C11L.broadcast_exactly_once_unordered hat c hconn hda hdb ch ho sA hfA rB hfB dt hdt cu hcu hc hcA H2 H3 H4 ks
      hks1 hks2 n hn ops' ht m'' hr⟩

/-- **… "unless the client has been disconnected", on the generated code** — transports
    `C11L.broadcast_exactly_once_unless_disconnected` (no H3 / H4; `ks` may contain stale datagrams and repetitions as long
    as those of this flush are among them; the remote endpoint need not be live at the start).  The generated execution
    returns normally, the server's generated connection for `i` stays live, and unless the generated remote endpoint of `i`
    has been disconnected (`is_disconnected` returns `false`) its application has obtained exactly the generated log, in
    order. -/
theorem src_broadcast_exactly_once_unless_disconnected (P : Params) (ops : List MOp) (g : GMulti)
    (hg : GMulti.exec P ops = some g) (m : MSys) (hm : (MSys.init P).run ops = some m) (i : Nat)
    (gc : RenetClient) (gl : GLink) (hgc : gconn? g.server i = some gc) (hgl : g.links i = some gl)
    (hga : (RenetClient.is_disconnected gc : Res Empty Bool) = .ok false) (hclean : gl.tainted = false)
    (l : Link) (hml : m.links i = some l) (c : Conn) (hconn : conn? m.server i = some c)
    (ch : Nat) (ho : P.down.Ordered ch) (sA : SendRel) (hfA : SMap.find? c.sendRel ch = some sA)
    (dt : Nat) (hdt : sA.resend ≤ dt) (cu : Conn) (hcu : c.update dt = .ok cu)
    (hc : CountersOK P.down (dirDown cu l)) (hcA : cu.CountersOK)
    (H2 : backlog sA.unacked ≤ availAtTurn cu ch)
    (ks : List Nat) (hks1 : ∀ k ∈ flushIdx l cu, k ∈ ks) (hks2 : ∀ k ∈ ks, k < l.outS.length + (flushPk cu).length)
    (n : Nat) (hn : (l.subS ch).length ≤ (l.obtC ch).length + n)
    (ops' : List MOp) (ht : trace i ops' = trace i (.srvUpdate dt :: roundFor i ch ks n))
    (hrg : MRunInRange P (ops ++ ops')) (m'' : MSys) (hr : m.run ops' = some m'') :
    ∃ u gc' gl', GMulti.exec P (ops ++ ops') = some u ∧ gconn? u.server i = some gc' ∧ u.links i = some gl' ∧
      (RenetClient.is_disconnected gc' : Res Empty Bool) = .ok false ∧ gl'.tainted = false ∧ gl'.subS = gl.subS ∧
      ((RenetClient.is_disconnected gl'.cl : Res Empty Bool) = .ok false → gl'.obtC ch = gl.subS ch) := by
  have sim := msim_of_runs P ops _ m g hm hg hrg
  obtain ⟨l0, hl0, hsl⟩ := link_of_sim sim hgl
  rw [hml] at hl0; cases hl0
  obtain ⟨mrss, hS⟩ := sim.server
  have hda : c.isDisconnected = false := by
    rw [hS, gconn_repr, hconn] at hgc
    rw [← Option.some.inj hgc] at hga
    exact model_live_of_repr hga
  have hat : At P ops m i l := ⟨hm, hml, by rw [← hsl.tainted]; exact hclean⟩
  obtain ⟨c'', l'', a1, a2, a3, a5, a6, a7⟩ :=
    C11L.broadcast_exactly_once_unless_disconnected hat c hconn hda ch ho sA hfA dt hdt cu hcu hc hcA H2 ks hks1 hks2 n hn
      ops' ht m'' hr
  obtain ⟨u, e, -, simu⟩ := mext_sim P ops ops' m m'' g hm hg hr hrg
  obtain ⟨mrss', hS'⟩ := simu.server
  obtain ⟨gl', hul, hsl'⟩ := glink_of_model simu a2
  obtain ⟨mrs, hgcl⟩ := hsl'.cl
  refine ⟨u, reprConn (mrss' i) c'', gl', e, by rw [hS', gconn_repr, a1]; rfl, hul, is_disconnected_of_repr _ _ a3,
    by rw [hsl'.tainted]; exact a5, funext fun k => by rw [hsl'.subS, hsl.subS, a6], fun hd => ?_⟩
  rw [hgcl] at hd
  rw [hsl'.obtC, hsl.subS, a7 (model_live_of_repr hd)]

/-- **Single-channel configuration, on the generated code** — transports `C11L.broadcast_exactly_once_single`: the only
    server → client channel is the ReliableOrdered channel `ch`; the budget hypothesis is `backlog ≤
    available_bytes_per_tick`, H4 is automatic, the datagrams of the flush are handed over in emission order. -/
theorem src_broadcast_exactly_once_single (P : Params) (ops : List MOp) (g : GMulti) (hg : GMulti.exec P ops = some g)
    (m : MSys) (hm : (MSys.init P).run ops = some m) (i : Nat) (gc : RenetClient) (gl : GLink) (hlive : GLive g i gc gl)
    (l : Link) (hml : m.links i = some l) (c : Conn) (hconn : conn? m.server i = some c)
    (ch : Nat) (hsingle : Single P.down ch) (sA : SendRel) (hfA : SMap.find? c.sendRel ch = some sA)
    (rB : RecvRel) (hfB : SMap.find? l.cl.recvRel ch = some rB)
    (dt : Nat) (hdt : sA.resend ≤ dt) (cu : Conn) (hcu : c.update dt = .ok cu)
    (hc : CountersOK P.down (dirDown cu l)) (hcA : cu.CountersOK)
    (H2 : backlog sA.unacked ≤ P.budget) (H3 : Room (l.subS ch) rB)
    (n : Nat) (hn : (l.subS ch).length ≤ (l.obtC ch).length + n)
    (ops' : List MOp) (ht : trace i ops' = trace i (.srvUpdate dt :: roundFor i ch (flushIdx l cu) n))
    (hrg : MRunInRange P (ops ++ ops')) (m'' : MSys) (hr : m.run ops' = some m'') :
    ∃ u gc' gl', GMulti.exec P (ops ++ ops') = some u ∧ GLive u i gc' gl' ∧
      gl'.subS = gl.subS ∧ gl'.obtC ch = gl.subS ch ∧
      ∀ x ∈ gl.subS ch, 1 ≤ (gl'.obtC ch).count x ∧ (gl'.obtC ch).count x ≤ ((addressedTo i ch ops).map toNats).count x :=
  src_link_delivered .down (ord := true) (all := true) hm hg hrg hlive hml hconn fun hat hda hdb =>
    ⟨m'', hr, C11L.broadcast_exactly_once_single hat c hconn hda hdb ch hsingle sA hfA rB hfB dt hdt cu hcu hc hcA H2 H3 n hn
      ops' ht m'' hr⟩

/-- **A stalled or misbehaving client does not delay the others, on the generated code** — transports
    `C11L.stalled_client_does_not_delay_others`.  The hypotheses on client `i` are those of `src_broadcast_exactly_once`
    (on the generated state `g` and the model state `m`).  Then ANYTHING happens to the other clients first (`opsJ`: any
    operations whose target is a client `j ≠ i`), and the tick and the round of `i` are interleaved with more of the same
    (`ops'`).  The generated execution of `ops ++ opsJ` ends in a state `gJ` whose ghost logs and emission history for `i`
    are those of `g`; the generated execution of `ops ++ opsJ ++ ops'` returns normally, client `i` is still connected, and
    everything addressed to `i` is obtained, in order, in this ONE round. -/
theorem src_stalled_client_does_not_delay_others (P : Params) (ops : List MOp) (g : GMulti) (hg : GMulti.exec P ops = some g)
    (m : MSys) (hm : (MSys.init P).run ops = some m) (i : Nat) (gc : RenetClient) (gl : GLink) (hlive : GLive g i gc gl)
    (l : Link) (hml : m.links i = some l) (c : Conn) (hconn : conn? m.server i = some c)
    (ch : Nat) (ho : P.down.Ordered ch) (sA : SendRel) (hfA : SMap.find? c.sendRel ch = some sA)
    (rB : RecvRel) (hfB : SMap.find? l.cl.recvRel ch = some rB)
    (dt : Nat) (hdt : sA.resend ≤ dt) (cu : Conn) (hcu : c.update dt = .ok cu)
    (hc : CountersOK P.down (dirDown cu l)) (hcA : cu.CountersOK)
    (H2 : backlog sA.unacked ≤ availAtTurn cu ch) (H3 : Room (l.subS ch) rB) (H4 : ∀ p ∈ flushPk cu, OnlyCh ch p)
    (ks : List Nat) (hks1 : ∀ k ∈ flushIdx l cu, k ∈ ks) (hks2 : ∀ k ∈ ks, k ∈ flushIdx l cu)
    (n : Nat) (hn : (l.subS ch).length ≤ (l.obtC ch).length + n)
    (opsJ : List MOp) (hJ : ∀ op ∈ opsJ, ∃ j, target op = some j ∧ j ≠ i) (mJ : MSys) (hrJ : m.run opsJ = some mJ)
    (ops' : List MOp) (ht : trace i ops' = trace i (.srvUpdate dt :: roundFor i ch ks n))
    (hrg : MRunInRange P (ops ++ (opsJ ++ ops'))) (m'' : MSys) (hr : mJ.run ops' = some m'') :
    (∃ gJ gcJ glJ, GMulti.exec P (ops ++ opsJ) = some gJ ∧ GLive gJ i gcJ glJ ∧ glJ.subS = gl.subS ∧ glJ.obtC = gl.obtC ∧
      glJ.outS = gl.outS ∧ glJ.delivC = gl.delivC) ∧
    ∃ u gc' gl', GMulti.exec P (ops ++ (opsJ ++ ops')) = some u ∧ GLive u i gc' gl' ∧
      gl'.subS = gl.subS ∧ gl'.obtC ch = gl.subS ch ∧
      ∀ x ∈ gl.subS ch, 1 ≤ (gl'.obtC ch).count x ∧ (gl'.obtC ch).count x ≤ ((addressedTo i ch ops).map toNats).count x := by
  refine ⟨?_, ?_⟩
  · have hrgJ : MRunInRange P (ops ++ opsJ) :=
      mrunInRange_prefix P (ops ++ opsJ) ops' (by rw [List.append_assoc]; exact hrg)
    have hv : mJ.view i = m.view i := faults_are_local_run i hm hrJ hJ
    obtain ⟨gJ, gcJ, glJ, e, hlJ', _, -, hsl, hslJ, rfl⟩ :=
      transfer (Q := (· = l)) hm hg hrgJ hlive hml hconn fun hat hda hdb =>
        ⟨mJ, hrJ, c, l, (congrArg LV.conn hv).trans hconn, (congrArg LV.link hv).trans hml, hda, hdb, hat.clean, rfl⟩
    refine ⟨gJ, gcJ, glJ, e, hlJ', funext fun k => ?_, funext fun k => ?_, ?_, ?_⟩
    · rw [hslJ.subS, hsl.subS]
    · rw [hslJ.obtC, hsl.obtC]
    · rw [hslJ.outS, hsl.outS]
    · rw [hslJ.delivC, hsl.delivC]
  · have hrJ' : m.run (opsJ ++ ops') = some m'' := by rw [MSys.run_append, hrJ]; exact hr
    exact src_link_delivered .down (ord := true) (all := true) hm hg hrg hlive hml hconn fun hat hda hdb =>
      ⟨m'', hrJ', (C11L.stalled_client_does_not_delay_others hat c hconn hda hdb ch ho sA hfA rB hfB dt hdt cu hcu hc hcA H2 H3
        H4 ks hks1 hks2 n hn opsJ hJ mJ hrJ ops' ht m'' hr).2⟩

/-- **What the generated log `subS` is** — transports `C11L.addressed_is_logged`.  An operation `op` that addresses the bytes
    `x` to client `i` on channel `ch` (`send_message(i, ch, x)`, `broadcast_message(ch, x)`, `broadcast_message_except(ex, ch, x)`
    with `ex ≠ i`) while `i` is in the server table, executed by the generated code, appends `x` to the generated log
    `subS ch` of `i`'s link iff the reliable channel accepted it (`accepted c c' ch`, on the model table entry `c` of `i` and
    `c.sendMessage ch x = .ok c'`), and leaves what `i` obtained unchanged.  On the model: that the step runs (a broadcast
    works on the other clients' connections too). -/
theorem src_addressed_is_logged (P : Params) (ops : List MOp) (g : GMulti) (hg : GMulti.exec P ops = some g)
    (m : MSys) (hm : (MSys.init P).run ops = some m) (i : Nat) (gl : GLink) (hgl : g.links i = some gl)
    (l : Link) (hml : m.links i = some l) (c : Conn) (hconn : conn? m.server i = some c)
    (op : MOp) (ch : Nat) (x : Bytes)
    (hop : op = .srvSend i ch x ∨ op = .broadcast ch x ∨ ∃ ex, ex ≠ i ∧ op = .broadcastExcept ex ch x)
    (hrg : MRunInRange P (ops ++ [op])) (m' : MSys) (hs : m.step op = some m') :
    ∃ u c' gl', GMulti.exec P (ops ++ [op]) = some u ∧ c.sendMessage ch x = .ok c' ∧ u.links i = some gl' ∧
      gl'.subS ch = (if accepted c c' ch then gl.subS ch ++ [toNats x] else gl.subS ch) ∧ gl'.obtC = gl.obtC := by
  have sim := msim_of_runs P ops _ m g hm hg hrg
  obtain ⟨l0, hl0, hsl⟩ := link_of_sim sim hgl
  rw [hml] at hl0; cases hl0
  obtain ⟨c', l', b1, b2, b3, b4, b5, -⟩ := C11L.addressed_is_logged (reach_wf P ops m hm) hs hop hconn hml
  have hr : m.run [op] = some m' := by simp only [MSys.run, hs]
  obtain ⟨u, e, -, simu⟩ := mext_sim P ops [op] m m' g hm hg hr hrg
  obtain ⟨gl', hgl', hsl'⟩ := glink_of_model simu b3
  refine ⟨u, c', gl', e, b1, hgl', ?_, funext fun k => by rw [hsl'.obtC, hsl.obtC, b5]⟩
  rw [hsl'.subS, b4, hsl.subS]
  split
  · rw [List.map_append]; rfl
  · rfl

/-! ## k rounds, budget smaller than the backlog (`Props/C01M.lean`, part B: server → client) -/

/-- **k lossless rounds for client `i` alone deliver everything addressed to it, on the generated code (ReliableOrdered)** —
    transports `C01M.k_rounds_deliver_to_client`.  `k = rs.length ≥ 1` full rounds (tick, flush, deliveries, receives, the
    client's flush, one ack datagram back), in ANY interleaving `ops'` with operations that concern other clients only; every
    round offers channel `ch` at least `B ≥ SLICE_SIZE` bytes, `k * (B - SLICE_SIZE + 1) ≥ backlog`.  The generated execution
    returns normally, client `i` is still connected, and its application has obtained EXACTLY the generated log `gl.subS ch`,
    in order — sliced messages larger than the per-tick budget included.  On the model state: `Room`, the per-round side
    conditions `Rounds` (on the projection `dirDown c l`), the backlog bound, and that `ops'` runs. -/
theorem src_k_rounds_deliver_to_client (P : Params) (ops : List MOp) (g : GMulti) (hg : GMulti.exec P ops = some g)
    (m : MSys) (hm : (MSys.init P).run ops = some m) (i : Nat) (gc : RenetClient) (gl : GLink) (hlive : GLive g i gc gl)
    (l : Link) (hml : m.links i = some l) (c : Conn) (hconn : conn? m.server i = some c)
    (ch : Nat) (ho : P.down.Ordered ch) (sA : SendRel) (hfA : SMap.find? c.sendRel ch = some sA)
    (rB : RecvRel) (hfB : SMap.find? l.cl.recvRel ch = some rB) (H3 : Room (l.subS ch) rB)
    (B : Nat) (hSB : SLICE_SIZE ≤ B)
    (rs : List RoundP) (hR : Rounds P.down ch (SchedBytes ch B) (dirDown c l) rs)
    (hk1 : rs ≠ []) (hk : backlog sA.unacked ≤ rs.length * (B - SLICE_SIZE + 1))
    (ops' : List MOp) (ht : trace i ops' = trace i (roundsFor i ch rs))
    (hrg : MRunInRange P (ops ++ ops')) (m'' : MSys) (hr : m.run ops' = some m'') :
    ∃ u gc' gl', GMulti.exec P (ops ++ ops') = some u ∧ GLive u i gc' gl' ∧
      gl'.subS ch = gl.subS ch ∧ gl'.obtC ch = gl.subS ch ∧
      ∀ x ∈ gl.subS ch, 1 ≤ (gl'.obtC ch).count x ∧ (gl'.obtC ch).count x ≤ ((addressedTo i ch ops).map toNats).count x :=
  src_link_delivered .down (ord := true) (all := false) hm hg hrg hlive hml hconn fun hat hda hdb =>
    ⟨m'', hr, C01M.k_rounds_deliver_to_client hat c hconn hda hdb ch ho sA hfA rB hfB H3 B hSB rs hR hk1 hk ops' ht m'' hr⟩

/-- **The same on a ReliableUnordered channel (C02)** — transports `C01M.k_rounds_deliver_to_client_unordered`: a PERMUTATION
    of the generated log. -/
theorem src_k_rounds_deliver_to_client_unordered (P : Params) (ops : List MOp) (g : GMulti) (hg : GMulti.exec P ops = some g)
    (m : MSys) (hm : (MSys.init P).run ops = some m) (i : Nat) (gc : RenetClient) (gl : GLink) (hlive : GLive g i gc gl)
    (l : Link) (hml : m.links i = some l) (c : Conn) (hconn : conn? m.server i = some c)
    (ch : Nat) (ho : P.down.Unordered ch) (sA : SendRel) (hfA : SMap.find? c.sendRel ch = some sA)
    (rB : RecvRel) (hfB : SMap.find? l.cl.recvRel ch = some rB) (H3 : Room (l.subS ch) rB)
    (B : Nat) (hSB : SLICE_SIZE ≤ B)
    (rs : List RoundP) (hR : Rounds P.down ch (SchedBytes ch B) (dirDown c l) rs)
    (hk1 : rs ≠ []) (hk : backlog sA.unacked ≤ rs.length * (B - SLICE_SIZE + 1))
    (ops' : List MOp) (ht : trace i ops' = trace i (roundsFor i ch rs))
    (hrg : MRunInRange P (ops ++ ops')) (m'' : MSys) (hr : m.run ops' = some m'') :
    ∃ u gc' gl', GMulti.exec P (ops ++ ops') = some u ∧ GLive u i gc' gl' ∧
      gl'.subS ch = gl.subS ch ∧ (gl'.obtC ch).Perm (gl.subS ch) ∧
      ∀ x ∈ gl.subS ch, 1 ≤ (gl'.obtC ch).count x ∧ (gl'.obtC ch).count x ≤ ((addressedTo i ch ops).map toNats).count x :=
  src_link_delivered .down (ord := false) (all := false) hm hg hrg hlive hml hconn fun hat hda hdb =>
    ⟨m'', hr, C01M.k_rounds_deliver_to_client_unordered hat c hconn hda hdb ch ho sA hfA rB hfB H3 B hSB rs hR hk1 hk ops' ht
      m'' hr⟩

/-- **A stalled or misbehaving client does not delay the others, k rounds, on the generated code** — transports
    `C01M.k_rounds_stalled_client_does_not_delay_others`: first ANYTHING happens to the other clients (`opsJ`), then the `k`
    rounds of `i` interleaved with more of the same (`ops'`). -/
theorem src_k_rounds_stalled_client_does_not_delay_others (P : Params) (ops : List MOp) (g : GMulti) (hg : GMulti.exec P ops = some g)
    (m : MSys) (hm : (MSys.init P).run ops = some m) (i : Nat) (gc : RenetClient) (gl : GLink) (hlive : GLive g i gc gl)
    (l : Link) (hml : m.links i = some l) (c : Conn) (hconn : conn? m.server i = some c)
    (ch : Nat) (ho : P.down.Ordered ch) (sA : SendRel) (hfA : SMap.find? c.sendRel ch = some sA)
    (rB : RecvRel) (hfB : SMap.find? l.cl.recvRel ch = some rB) (H3 : Room (l.subS ch) rB)
    (B : Nat) (hSB : SLICE_SIZE ≤ B)
    (rs : List RoundP) (hR : Rounds P.down ch (SchedBytes ch B) (dirDown c l) rs)
    (hk1 : rs ≠ []) (hk : backlog sA.unacked ≤ rs.length * (B - SLICE_SIZE + 1))
    (opsJ : List MOp) (hJ : ∀ op ∈ opsJ, ∃ j, target op = some j ∧ j ≠ i) (mJ : MSys) (hrJ : m.run opsJ = some mJ)
    (ops' : List MOp) (ht : trace i ops' = trace i (roundsFor i ch rs))
    (hrg : MRunInRange P (ops ++ (opsJ ++ ops'))) (m'' : MSys) (hr : mJ.run ops' = some m'') :
    ∃ u gc' gl', GMulti.exec P (ops ++ (opsJ ++ ops')) = some u ∧ GLive u i gc' gl' ∧
      gl'.subS ch = gl.subS ch ∧ gl'.obtC ch = gl.subS ch ∧
      ∀ x ∈ gl.subS ch, 1 ≤ (gl'.obtC ch).count x ∧ (gl'.obtC ch).count x ≤ ((addressedTo i ch ops).map toNats).count x := by
  have hrJ' : m.run (opsJ ++ ops') = some m'' := by rw [MSys.run_append, hrJ]; exact hr
  exact src_link_delivered .down (ord := true) (all := false) hm hg hrg hlive hml hconn fun hat hda hdb =>
    ⟨m'', hrJ', (C01M.k_rounds_stalled_client_does_not_delay_others hat c hconn hda hdb ch ho sA hfA rB hfB H3 B hSB rs hR hk1
      hk opsJ hJ mJ hrJ ops' ht m'' hr).2⟩

/-! ## client → server (`Props/C01M.lean`, part C) -/

/-- **One lossless round for client `i` alone, client → server, on the generated code (ReliableOrdered; H1 as a hypothesis)** —
    transports `C01M.round_delivers_to_server`.  The GENERATED execution of `cliFlush i ; deliverToSrv i k (k ∈ ks) ;
    srvRecv i ch (n times)` returns normally, client `i` is still connected, and the server application has obtained under id
    `i` exactly the generated log `gl.subC ch` of what client `i`'s application submitted, in order. -/
theorem src_round_delivers_to_server (P : Params) (ops : List MOp) (g : GMulti) (hg : GMulti.exec P ops = some g)
    (m : MSys) (hm : (MSys.init P).run ops = some m) (i : Nat) (gc : RenetClient) (gl : GLink) (hlive : GLive g i gc gl)
    (l : Link) (hml : m.links i = some l) (c : Conn) (hconn : conn? m.server i = some c)
    (ch : Nat) (ks : List Nat) (n : Nat) (hrg : MRunInRange P (ops ++ roundForU i ch ks n))
    (hc : CountersOK P.up (dirUp c l)) (hcA : l.cl.CountersOK)
    (ho : P.up.Ordered ch) (sA : SendRel) (hfA : SMap.find? l.cl.sendRel ch = some sA)
    (rB : RecvRel) (hfB : SMap.find? c.recvRel ch = some rB)
    (H1 : AllDue l.cl.now sA.resend sA.unacked) (H2 : backlog sA.unacked ≤ availAtTurn l.cl ch)
    (H3 : Room (l.subC ch) rB) (H4 : ∀ p ∈ flushPk l.cl, OnlyCh ch p)
    (hks1 : ∀ k ∈ flushIdxU l l.cl, k ∈ ks) (hks2 : ∀ k ∈ ks, k ∈ flushIdxU l l.cl)
    (hn : (l.subC ch).length ≤ (l.obtS ch).length + n) :
    ∃ u gc' gl', GMulti.exec P (ops ++ roundForU i ch ks n) = some u ∧ GLive u i gc' gl' ∧
      gl'.subC = gl.subC ∧ gl'.obtS ch = gl.subC ch := by
  obtain ⟨u, gc', gl', e, hl', e1, e2, -⟩ :=
    src_link_delivered .up (ord := true) (all := true) hm hg hrg hlive hml hconn fun hat hdb hda => by
      obtain ⟨m', c', l', hr, a1, a2, a3, a4, a5, a6, a7, -⟩ :=
        C01M.round_delivers_to_server hat c hconn hc hcA hda hdb ch ho sA hfA rB hfB H1 H2 H3 H4 ks hks1 hks2 n hn
      exact ⟨m', hr, c', l', a1, a2, a3, a4, a5, a6, a7, trivial⟩
  exact ⟨u, gc', gl', e, hl', e1, e2⟩

/-- **What client `i` submitted is obtained by the generated server under id `i` EXACTLY ONCE (ReliableOrdered)** — transports
    `C01M.from_one_exactly_once`.  Client `i`'s `update(dt)` with `dt ≥ resend_time` and ONE lossless round client → server
    for `i` alone, in ANY interleaving `ops'` with operations that concern other clients only.  The generated execution
    returns normally, client `i` is still connected, and the server application has obtained under id `i` EXACTLY the
    generated log `gl.subC ch`, in order: every logged message at least once, and at most as often as client `i` submitted
    it in the run.  On the model state: timer, counters after the tick, H2–H4, the indices `ks`, `hn`, and that `ops'` runs. -/
theorem src_from_one_exactly_once (P : Params) (ops : List MOp) (g : GMulti) (hg : GMulti.exec P ops = some g)
    (m : MSys) (hm : (MSys.init P).run ops = some m) (i : Nat) (gc : RenetClient) (gl : GLink) (hlive : GLive g i gc gl)
    (l : Link) (hml : m.links i = some l) (c : Conn) (hconn : conn? m.server i = some c)
    (ch : Nat) (ho : P.up.Ordered ch) (sA : SendRel) (hfA : SMap.find? l.cl.sendRel ch = some sA)
    (rB : RecvRel) (hfB : SMap.find? c.recvRel ch = some rB)
    (dt : Nat) (hdt : sA.resend ≤ dt) (clu : Conn) (hclu : l.cl.update dt = .ok clu)
    (hc : CountersOK P.up (dirUp c { l with cl := clu })) (hcA : clu.CountersOK)
    (H2 : backlog sA.unacked ≤ availAtTurn clu ch) (H3 : Room (l.subC ch) rB) (H4 : ∀ p ∈ flushPk clu, OnlyCh ch p)
    (ks : List Nat) (hks1 : ∀ k ∈ flushIdxU l clu, k ∈ ks) (hks2 : ∀ k ∈ ks, k ∈ flushIdxU l clu)
    (n : Nat) (hn : (l.subC ch).length ≤ (l.obtS ch).length + n)
    (ops' : List MOp) (ht : trace i ops' = trace i (.cliUpdate i dt :: roundForU i ch ks n))
    (hrg : MRunInRange P (ops ++ ops')) (m'' : MSys) (hr : m.run ops' = some m'') :
    ∃ u gc' gl', GMulti.exec P (ops ++ ops') = some u ∧ GLive u i gc' gl' ∧
      gl'.subC = gl.subC ∧ gl'.obtS ch = gl.subC ch ∧
      ∀ x ∈ gl.subC ch, 1 ≤ (gl'.obtS ch).count x ∧ (gl'.obtS ch).count x ≤ ((sentBy i ch ops).map toNats).count x :=
  src_link_delivered .up (ord := true) (all := true) hm hg hrg hlive hml hconn fun hat hdb hda =>
    ⟨m'', hr, (C01M.from_one_exactly_once hat c hconn hda hdb ch ho sA hfA rB hfB dt hdt clu hclu hc hcA H2 H3 H4 ks hks1 hks2 n
      hn ops' ht m'' hr).2⟩

/-- **The same on a ReliableUnordered channel** — transports `C01M.from_one_exactly_once_unordered`: a permutation of the
    generated log. -/
theorem src_from_one_exactly_once_unordered (P : Params) (ops : List MOp) (g : GMulti) (hg : GMulti.exec P ops = some g)
    (m : MSys) (hm : (MSys.init P).run ops = some m) (i : Nat) (gc : RenetClient) (gl : GLink) (hlive : GLive g i gc gl)
    (l : Link) (hml : m.links i = some l) (c : Conn) (hconn : conn? m.server i = some c)
    (ch : Nat) (ho : P.up.Unordered ch) (sA : SendRel) (hfA : SMap.find? l.cl.sendRel ch = some sA)
    (rB : RecvRel) (hfB : SMap.find? c.recvRel ch = some rB)
    (dt : Nat) (hdt : sA.resend ≤ dt) (clu : Conn) (hclu : l.cl.update dt = .ok clu)
    (hc : CountersOK P.up (dirUp c { l with cl := clu })) (hcA : clu.CountersOK)
    (H2 : backlog sA.unacked ≤ availAtTurn clu ch) (H3 : Room (l.subC ch) rB) (H4 : ∀ p ∈ flushPk clu, OnlyCh ch p)
    (ks : List Nat) (hks1 : ∀ k ∈ flushIdxU l clu, k ∈ ks) (hks2 : ∀ k ∈ ks, k ∈ flushIdxU l clu)
    (n : Nat) (hn : (l.subC ch).length ≤ (l.obtS ch).length + n)
    (ops' : List MOp) (ht : trace i ops' = trace i (.cliUpdate i dt :: roundForU i ch ks n))
    (hrg : MRunInRange P (ops ++ ops')) (m'' : MSys) (hr : m.run ops' = some m'') :
    ∃ u gc' gl', GMulti.exec P (ops ++ ops') = some u ∧ GLive u i gc' gl' ∧
      gl'.subC = gl.subC ∧ (gl'.obtS ch).Perm (gl.subC ch) ∧
      ∀ x ∈ gl.subC ch, 1 ≤ (gl'.obtS ch).count x ∧ (gl'.obtS ch).count x ≤ ((sentBy i ch ops).map toNats).count x :=
  src_link_delivered .up (ord := false) (all := true) hm hg hrg hlive hml hconn fun hat hdb hda =>
    ⟨m'', hr, (C01M.from_one_exactly_once_unordered hat c hconn hda hdb ch ho sA hfA rB hfB dt hdt clu hclu hc hcA H2 H3 H4 ks
      hks1 hks2 n hn ops' ht m'' hr).2⟩

/-- **The tick and the round of client `i` ALONE run on the generated code and deliver (ReliableOrdered)** — transports both
    conclusions of `C01M.from_one_exactly_once` (`C11L.tick_round_link`) for the continuation `cliUpdate i dt ; cliFlush i ;
    deliverToSrv i k (k ∈ ks) ; srvRecv i ch (n times)`: every operation is local to `i`, so that the GENERATED execution
    returns normally is a conclusion, with no hypothesis on any run of the continuation. -/
theorem src_from_one_runs (P : Params) (ops : List MOp) (g : GMulti) (hg : GMulti.exec P ops = some g)
    (m : MSys) (hm : (MSys.init P).run ops = some m) (i : Nat) (gc : RenetClient) (gl : GLink) (hlive : GLive g i gc gl)
    (l : Link) (hml : m.links i = some l) (c : Conn) (hconn : conn? m.server i = some c)
    (ch : Nat) (ho : P.up.Ordered ch) (sA : SendRel) (hfA : SMap.find? l.cl.sendRel ch = some sA)
    (rB : RecvRel) (hfB : SMap.find? c.recvRel ch = some rB)
    (dt : Nat) (hdt : sA.resend ≤ dt) (clu : Conn) (hclu : l.cl.update dt = .ok clu)
    (hc : CountersOK P.up (dirUp c { l with cl := clu })) (hcA : clu.CountersOK)
    (H2 : backlog sA.unacked ≤ availAtTurn clu ch) (H3 : Room (l.subC ch) rB) (H4 : ∀ p ∈ flushPk clu, OnlyCh ch p)
    (ks : List Nat) (hks1 : ∀ k ∈ flushIdxU l clu, k ∈ ks) (hks2 : ∀ k ∈ ks, k ∈ flushIdxU l clu)
    (n : Nat) (hn : (l.subC ch).length ≤ (l.obtS ch).length + n)
    (hrg : MRunInRange P (ops ++ (.cliUpdate i dt :: roundForU i ch ks n))) :
    ∃ u gc' gl', GMulti.exec P (ops ++ (.cliUpdate i dt :: roundForU i ch ks n)) = some u ∧ GLive u i gc' gl' ∧
      gl'.subC = gl.subC ∧ gl'.obtS ch = gl.subC ch := by
  obtain ⟨u, gc', gl', e, hl', e1, e2, -⟩ :=
    src_link_delivered .up (ord := true) (all := true) hm hg hrg hlive hml hconn fun hat hdb hda => by
      have t := C11L.tick_round_link .up hat c hconn hda hdb ch true ho sA hfA rB hfB dt hdt _ (C01M.dirUp_tick hclu) hc hcA H2
        H3 H4 ks hks1 hks2 n hn
      obtain ⟨m'', hr⟩ := C01M.tickRound_mapU i ch dt ks n ▸ C01M.runs_up hat hconn (C01M.tickRound_localU ch dt ks n) t.1
      exact ⟨m'', hr, t.2 _ (C01M.trace_tickRoundU i ch dt ks n) m'' hr⟩
  exact ⟨u, gc', gl', e, hl', e1, e2⟩

theorem src_from_one_runs_unordered (P : Params) (ops : List MOp) (g : GMulti) (hg : GMulti.exec P ops = some g)
    (m : MSys) (hm : (MSys.init P).run ops = some m) (i : Nat) (gc : RenetClient) (gl : GLink) (hlive : GLive g i gc gl)
    (l : Link) (hml : m.links i = some l) (c : Conn) (hconn : conn? m.server i = some c)
    (ch : Nat) (ho : P.up.Unordered ch) (sA : SendRel) (hfA : SMap.find? l.cl.sendRel ch = some sA)
    (rB : RecvRel) (hfB : SMap.find? c.recvRel ch = some rB)
    (dt : Nat) (hdt : sA.resend ≤ dt) (clu : Conn) (hclu : l.cl.update dt = .ok clu)
    (hc : CountersOK P.up (dirUp c { l with cl := clu })) (hcA : clu.CountersOK)
    (H2 : backlog sA.unacked ≤ availAtTurn clu ch) (H3 : Room (l.subC ch) rB) (H4 : ∀ p ∈ flushPk clu, OnlyCh ch p)
    (ks : List Nat) (hks1 : ∀ k ∈ flushIdxU l clu, k ∈ ks) (hks2 : ∀ k ∈ ks, k ∈ flushIdxU l clu)
    (n : Nat) (hn : (l.subC ch).length ≤ (l.obtS ch).length + n)
    (hrg : MRunInRange P (ops ++ (.cliUpdate i dt :: roundForU i ch ks n))) :
    ∃ u gc' gl', GMulti.exec P (ops ++ (.cliUpdate i dt :: roundForU i ch ks n)) = some u ∧ GLive u i gc' gl' ∧
      gl'.subC = gl.subC ∧ (gl'.obtS ch).Perm (gl.subC ch) := by
  obtain ⟨u, gc', gl', e, hl', e1, e2, -⟩ :=
    src_link_delivered .up (ord := false) (all := true) hm hg hrg hlive hml hconn fun hat hdb hda => by
      have t := C11L.tick_round_link .up hat c hconn hda hdb ch false ho sA hfA rB hfB dt hdt _ (C01M.dirUp_tick hclu) hc hcA H2
        H3 H4 ks hks1 hks2 n hn
      obtain ⟨m'', hr⟩ := C01M.tickRound_mapU i ch dt ks n ▸ C01M.runs_up hat hconn (C01M.tickRound_localU ch dt ks n) t.1
      exact ⟨m'', hr, t.2 _ (C01M.trace_tickRoundU i ch dt ks n) m'' hr⟩
  exact ⟨u, gc', gl', e, hl', e1, e2⟩

/-- **k lossless rounds client → server deliver everything client `i` submitted, on the generated code (ReliableOrdered)** —
    transports `C01M.k_rounds_deliver_to_server`: the generated server application obtains under id `i` EXACTLY the
    generated log `gl.subC ch`, in order, whatever the interleaving `ops'` with operations of other clients. -/
theorem src_k_rounds_deliver_to_server (P : Params) (ops : List MOp) (g : GMulti) (hg : GMulti.exec P ops = some g)
    (m : MSys) (hm : (MSys.init P).run ops = some m) (i : Nat) (gc : RenetClient) (gl : GLink) (hlive : GLive g i gc gl)
    (l : Link) (hml : m.links i = some l) (c : Conn) (hconn : conn? m.server i = some c)
    (ch : Nat) (ho : P.up.Ordered ch) (sA : SendRel) (hfA : SMap.find? l.cl.sendRel ch = some sA)
    (rB : RecvRel) (hfB : SMap.find? c.recvRel ch = some rB) (H3 : Room (l.subC ch) rB)
    (B : Nat) (hSB : SLICE_SIZE ≤ B)
    (rs : List RoundP) (hR : Rounds P.up ch (SchedBytes ch B) (dirUp c l) rs)
    (hk1 : rs ≠ []) (hk : backlog sA.unacked ≤ rs.length * (B - SLICE_SIZE + 1))
    (ops' : List MOp) (ht : trace i ops' = trace i (roundsForU i ch rs))
    (hrg : MRunInRange P (ops ++ ops')) (m'' : MSys) (hr : m.run ops' = some m'') :
    ∃ u gc' gl', GMulti.exec P (ops ++ ops') = some u ∧ GLive u i gc' gl' ∧
      gl'.subC ch = gl.subC ch ∧ gl'.obtS ch = gl.subC ch ∧
      ∀ x ∈ gl.subC ch, 1 ≤ (gl'.obtS ch).count x ∧ (gl'.obtS ch).count x ≤ ((sentBy i ch ops).map toNats).count x :=
  src_link_delivered .up (ord := true) (all := false) hm hg hrg hlive hml hconn fun hat hdb hda =>
    ⟨m'', hr, C01M.k_rounds_deliver_to_server hat c hconn hda hdb ch ho sA hfA rB hfB H3 B hSB rs hR hk1 hk ops' ht m'' hr⟩

theorem src_k_rounds_deliver_to_server_unordered (P : Params) (ops : List MOp) (g : GMulti) (hg : GMulti.exec P ops = some g)
    (m : MSys) (hm : (MSys.init P).run ops = some m) (i : Nat) (gc : RenetClient) (gl : GLink) (hlive : GLive g i gc gl)
    (l : Link) (hml : m.links i = some l) (c : Conn) (hconn : conn? m.server i = some c)
    (ch : Nat) (ho : P.up.Unordered ch) (sA : SendRel) (hfA : SMap.find? l.cl.sendRel ch = some sA)
    (rB : RecvRel) (hfB : SMap.find? c.recvRel ch = some rB) (H3 : Room (l.subC ch) rB)
    (B : Nat) (hSB : SLICE_SIZE ≤ B)
    (rs : List RoundP) (hR : Rounds P.up ch (SchedBytes ch B) (dirUp c l) rs)
    (hk1 : rs ≠ []) (hk : backlog sA.unacked ≤ rs.length * (B - SLICE_SIZE + 1))
    (ops' : List MOp) (ht : trace i ops' = trace i (roundsForU i ch rs))
    (hrg : MRunInRange P (ops ++ ops')) (m'' : MSys) (hr : m.run ops' = some m'') :
    ∃ u gc' gl', GMulti.exec P (ops ++ ops') = some u ∧ GLive u i gc' gl' ∧
      gl'.subC ch = gl.subC ch ∧ (gl'.obtS ch).Perm (gl.subC ch) ∧
      ∀ x ∈ gl.subC ch, 1 ≤ (gl'.obtS ch).count x ∧ (gl'.obtS ch).count x ≤ ((sentBy i ch ops).map toNats).count x :=
  src_link_delivered .up (ord := false) (all := false) hm hg hrg hlive hml hconn fun hat hdb hda =>
    ⟨m'', hr, C01M.k_rounds_deliver_to_server_unordered hat c hconn hda hdb ch ho sA hfA rB hfB H3 B hSB rs hR hk1 hk ops' ht
      m'' hr⟩

/-- **The k rounds client → server of client `i` ALONE run on the generated code and deliver (ReliableOrdered)** — transports
    `C01M.k_rounds_run_to_server` together with `C01M.k_rounds_deliver_to_server` (`C01M.k_rounds_link`): every
    operation of such a round is local to `i`; that the GENERATED execution of `roundsForU i ch rs` returns normally is a
    conclusion. -/
theorem src_k_rounds_run_to_server (P : Params) (ops : List MOp) (g : GMulti) (hg : GMulti.exec P ops = some g)
    (m : MSys) (hm : (MSys.init P).run ops = some m) (i : Nat) (gc : RenetClient) (gl : GLink) (hlive : GLive g i gc gl)
    (l : Link) (hml : m.links i = some l) (c : Conn) (hconn : conn? m.server i = some c)
    (ch : Nat) (ho : P.up.Ordered ch) (sA : SendRel) (hfA : SMap.find? l.cl.sendRel ch = some sA)
    (rB : RecvRel) (hfB : SMap.find? c.recvRel ch = some rB) (H3 : Room (l.subC ch) rB)
    (B : Nat) (hSB : SLICE_SIZE ≤ B)
    (rs : List RoundP) (hR : Rounds P.up ch (SchedBytes ch B) (dirUp c l) rs)
    (hk1 : rs ≠ []) (hk : backlog sA.unacked ≤ rs.length * (B - SLICE_SIZE + 1))
    (hrg : MRunInRange P (ops ++ roundsForU i ch rs)) :
    ∃ u gc' gl', GMulti.exec P (ops ++ roundsForU i ch rs) = some u ∧ GLive u i gc' gl' ∧
      gl'.subC ch = gl.subC ch ∧ gl'.obtS ch = gl.subC ch := by
  obtain ⟨u, gc', gl', e, hl', e1, e2, -⟩ :=
    src_link_delivered .up (ord := true) (all := false) hm hg hrg hlive hml hconn fun hat hdb hda => by
      have t := C01M.k_rounds_link .up hat c hconn hda hdb ch true ho sA hfA rB hfB H3 B hSB rs hR hk1 hk
      obtain ⟨m'', hr⟩ := C01M.rounds_mapU i ch rs ▸ C01M.runs_up hat hconn (C01M.roundsOps_localU ch rs) t.1
      exact ⟨m'', hr, t.2 _ (C01M.trace_roundsU i ch rs) m'' hr⟩
  exact ⟨u, gc', gl', e, hl', e1, e2⟩

theorem src_k_rounds_run_to_server_unordered (P : Params) (ops : List MOp) (g : GMulti) (hg : GMulti.exec P ops = some g)
    (m : MSys) (hm : (MSys.init P).run ops = some m) (i : Nat) (gc : RenetClient) (gl : GLink) (hlive : GLive g i gc gl)
    (l : Link) (hml : m.links i = some l) (c : Conn) (hconn : conn? m.server i = some c)
    (ch : Nat) (ho : P.up.Unordered ch) (sA : SendRel) (hfA : SMap.find? l.cl.sendRel ch = some sA)
    (rB : RecvRel) (hfB : SMap.find? c.recvRel ch = some rB) (H3 : Room (l.subC ch) rB)
    (B : Nat) (hSB : SLICE_SIZE ≤ B)
    (rs : List RoundP) (hR : Rounds P.up ch (SchedBytes ch B) (dirUp c l) rs)
    (hk1 : rs ≠ []) (hk : backlog sA.unacked ≤ rs.length * (B - SLICE_SIZE + 1))
    (hrg : MRunInRange P (ops ++ roundsForU i ch rs)) :
    ∃ u gc' gl', GMulti.exec P (ops ++ roundsForU i ch rs) = some u ∧ GLive u i gc' gl' ∧
      gl'.subC ch = gl.subC ch ∧ (gl'.obtS ch).Perm (gl.subC ch) := by
  obtain ⟨u, gc', gl', e, hl', e1, e2, -⟩ :=
    src_link_delivered .up (ord := false) (all := false) hm hg hrg hlive hml hconn fun hat hdb hda => by
      have t := C01M.k_rounds_link .up hat c hconn hda hdb ch false ho sA hfA rB hfB H3 B hSB rs hR hk1 hk
      obtain ⟨m'', hr⟩ := C01M.rounds_mapU i ch rs ▸ C01M.runs_up hat hconn (C01M.roundsOps_localU ch rs) t.1
      exact ⟨m'', hr, t.2 _ (C01M.trace_roundsU i ch rs) m'' hr⟩
  exact ⟨u, gc', gl', e, hl', e1, e2⟩

/-! ## non-vacuity (one round): the examples of `Props/C11L.lean` executed by the kernel ON THE GENERATED CODE

  In every example the generated run up to the start of the round (`grun`) and `GLive` of client 1 in its final state
  (`glive`) are established by one kernel evaluation of the generated code (`all`); the model-side hypotheses, the range
  side condition over the whole execution among them (`inRange`, read in the evaluation that runs the model), are the
  facts of the C11L examples. -/

open RenetVerif.SrcPropsMulti.Ex (gzero lzero)

/-- `GLive u i` of the connection and the link that `u` HOLDS for `i` (`d`: the default of the two look-ups), as a
    conjunction that evaluation decides -/
def GLiveAt (u : GMulti) (i : Nat) (d : GLink) : Prop :=
  (gconn? u.server i).isSome = true ∧ (u.links i).isSome = true ∧
  (RenetClient.is_disconnected ((gconn? u.server i).getD d.cl) : Res Empty Bool) = .ok false ∧
  (RenetClient.is_disconnected ((u.links i).getD d).cl : Res Empty Bool) = .ok false ∧
  ((u.links i).getD d).tainted = false
instance (u : GMulti) (i : Nat) (d : GLink) : Decidable (GLiveAt u i d) := by unfold GLiveAt; infer_instance

theorem GLiveAt.live {u : GMulti} {i : Nat} {d : GLink} (h : GLiveAt u i d) :
    GLive u i ((gconn? u.server i).getD d.cl) ((u.links i).getD d) :=
  ⟨some_getD h.1 _, some_getD h.2.1 _, h.2.2.1, h.2.2.2.1, h.2.2.2.2⟩

/-! `C11L.ExStall` — a STALLED client 2 (nothing is ever delivered to it; the server disconnects it with
    `ReliableChannelMaxMemoryReached`), the datagram carrying the third broadcast to client 1 lost; then more operations for
    client 2, the tick, and one lossless round for client 1 interleaved with a `broadcast_except(1)`, polling by client 2 and
    its removal. -/
namespace ExStall
abbrev P := C11L.ExStall.P
abbrev ops := C11L.ExStall.ops
abbrev opsJ := C11L.ExStall.opsJ
abbrev ops' := C11L.ExStall.ops'
abbrev opsS := C11L.ExStall.opsS

def g : GMulti := (GMulti.exec P ops).getD gzero
def gl : GLink := (g.links 1).getD lzero
def gc : RenetClient := (gconn? g.server 1).getD lzero.cl
def gu : GMulti := (GMulti.exec P (ops ++ (opsJ ++ ops'))).getD gzero

theorem inRangeS : MRunInRange P (ops ++ opsS) := C11L.ExStall.inRangeS

/-- The generated code on `ops ++ (opsJ ++ ops')`.  Up to the start of the round: the run returns
    normally, client 1 is connected in the generated state (generated `is_disconnected` of both ends), the third broadcast is
    logged for client 1 and not yet obtained.  Run to the end: client 1 obtained all three broadcasts, each exactly once, in
    order; client 2 — stalled, disconnected, removed — obtained nothing. -/
theorem all :
    ((GMulti.exec P ops).isSome = true ∧ GLiveAt g 1 lzero) ∧
    (gl.subS 0 = [[1, 2, 3, 4], [5, 6, 7, 8], [9, 10, 11, 12]] ∧ gl.obtC 0 = [[1, 2, 3, 4], [5, 6, 7, 8]]) ∧
    (GMulti.exec P (ops ++ (opsJ ++ ops'))).isSome = true ∧
    (gu.links 1).map (fun l => (l.obtC 0, l.delivC)) = some ([[1, 2, 3, 4], [5, 6, 7, 8], [9, 10, 11, 12]], [0, 1, 6, 5]) ∧
    (gu.links 2).map (fun l => (l.obtC 0, l.delivC)) = some ([], []) ∧
    (Src.renet.server.RenetServer.clients_id gu.server : Res Empty _) = .ok [1] := by
  decide +kernel

theorem grun : GMulti.exec P ops = some g := some_getD all.1.1 _
theorem glive : GLive g 1 gc gl := all.1.2.live
theorem gstart : gl.subS 0 = [[1, 2, 3, 4], [5, 6, 7, 8], [9, 10, 11, 12]] ∧ gl.obtC 0 = [[1, 2, 3, 4], [5, 6, 7, 8]] :=
  all.2.1

/-- **`src_stalled_client_does_not_delay_others` applied**: the generated code runs through `ops ++ opsJ ++ ops'`, client 1 is
    connected at the end and has obtained everything addressed to it -/
theorem client1_not_delayed :
    ∃ u gc' gl', GMulti.exec P (ops ++ (opsJ ++ ops')) = some u ∧ GLive u 1 gc' gl' ∧ gl'.obtC 0 = gl.subS 0 := by
  obtain ⟨-, u, gc', gl', e, h1, -, h2, -⟩ :=
    src_stalled_client_does_not_delay_others P ops g grun C11L.ExStall.m C11L.ExStall.run 1 gc gl glive C11L.ExStall.l
      C11L.ExStall.link C11L.ExStall.c C11L.ExStall.conn1 0 C11L.ExStall.ordered0 C11L.ExStall.sA C11L.ExStall.find_sA
      C11L.ExStall.rB C11L.ExStall.find_rB 1000 C11L.ExStall.facts.2.2.1 C11L.ExStall.cu C11L.ExStall.upd
      C11L.ExStall.counters C11L.ExStall.countersA C11L.ExStall.facts.2.2.2.1 C11L.ExStall.facts.2.2.2.2.1
      C11L.ExStall.facts.2.2.2.2.2.1 [6, 5]
      (by rw [C11L.ExStall.facts.2.2.2.2.2.2]; decide) (by rw [C11L.ExStall.facts.2.2.2.2.2.2]; decide) 1
      (by rw [C11L.ExStall.situation.2.2.2.1, C11L.ExStall.situation.2.2.2.2.1]; decide)
      opsJ (by decide) C11L.ExStall.mJ C11L.ExStall.runJ ops' (by decide) C11L.ExStall.inRange C11L.ExStall.fin C11L.ExStall.run'
  exact ⟨u, gc', gl', e, h1, h2⟩

theorem gfacts : GMulti.exec P (ops ++ (opsJ ++ ops')) = some gu ∧
    (gu.links 1).map (fun l => (l.obtC 0, l.delivC)) = some ([[1, 2, 3, 4], [5, 6, 7, 8], [9, 10, 11, 12]], [0, 1, 6, 5]) ∧
    (gu.links 2).map (fun l => (l.obtC 0, l.delivC)) = some ([], []) ∧
    (Src.renet.server.RenetServer.clients_id gu.server : Res Empty _) = .ok [1] :=
  ⟨some_getD all.2.2.1 _, all.2.2.2⟩

/-- **`src_broadcast_exactly_once_single` applied** (`P` has one server → client channel) -/
example : ∃ u gc' gl', GMulti.exec P (ops ++ opsS) = some u ∧ GLive u 1 gc' gl' ∧ gl'.obtC 0 = gl.subS 0 := by
  obtain ⟨u, gc', gl', e, h1, -, h2, -⟩ :=
    src_broadcast_exactly_once_single P ops g grun C11L.ExStall.m C11L.ExStall.run 1 gc gl glive C11L.ExStall.l
      C11L.ExStall.link C11L.ExStall.c C11L.ExStall.conn1 0 C11L.ExStall.single0 C11L.ExStall.sA C11L.ExStall.find_sA
      C11L.ExStall.rB C11L.ExStall.find_rB 1000 C11L.ExStall.facts.2.2.1 C11L.ExStall.cu C11L.ExStall.upd
      C11L.ExStall.counters C11L.ExStall.countersA
      (by have := C11L.ExStall.facts.2.2.2.1; rw [C11L.ExStall.single_avail_eq] at this; exact this)
      C11L.ExStall.facts.2.2.2.2.1 1
      (by rw [C11L.ExStall.situation.2.2.2.1, C11L.ExStall.situation.2.2.2.2.1]; decide)
      opsS (by rw [C11L.ExStall.facts.2.2.2.2.2.2]; decide) inRangeS C11L.ExStall.finS C11L.ExStall.runS
  exact ⟨u, gc', gl', e, h1, h2⟩

/-- **`src_addressed_is_logged` applied**: one more broadcast in the generated state `g` is logged for client 1 -/
example : ∃ u gl', GMulti.exec P (ops ++ [.broadcast 0 [13, 14]]) = some u ∧ u.links 1 = some gl' ∧
    gl'.subS 0 = gl.subS 0 ++ [[13, 14]] ∧ gl'.obtC = gl.obtC := by
  obtain ⟨u, c', gl', e, h1, h2, h3, h4⟩ :=
    src_addressed_is_logged P ops g grun C11L.ExStall.m C11L.ExStall.run 1 gl glive.link C11L.ExStall.l C11L.ExStall.link
      C11L.ExStall.c C11L.ExStall.conn1 (.broadcast 0 [13, 14]) 0 [13, 14] (Or.inr (Or.inl rfl)) C11L.ExStall.inRangeB
      C11L.ExStall.mB C11L.ExStall.stepB
  rw [C11L.ExStall.sendB] at h1
  rw [← Res.ok.inj h1, C11L.ExStall.accB] at h3
  exact ⟨u, gl', e, h2, h3, h4⟩

end ExStall

/-! `C11L.Ex1` — the run of `C11E.Ex` continued (three clients; client 2 hostile, disconnected, removed; the datagram that
    carried [60] to client 1 lost; client 1 acknowledges what it has); the tick and one lossless round for client 1 alone,
    interleaved with garbage in the names of clients 3 and 2, client 3's disconnection and removal, a stale replay. -/
namespace Ex1
abbrev P := C11L.Ex1.P
abbrev ops := C11L.Ex1.ops
abbrev ops' := C11L.Ex1.ops'

def g : GMulti := (GMulti.exec P ops).getD gzero
def gl : GLink := (g.links 1).getD lzero
def gc : RenetClient := (gconn? g.server 1).getD lzero.cl
def gu : GMulti := (GMulti.exec P (ops ++ ops')).getD gzero
/-! the generated state after the tick, for the round of client 1 with nothing else going on
    (`src_round_delivers_to_client`) -/
abbrev opsT : List MOp := ops ++ [.srvUpdate 1000]
def gT : GMulti := (GMulti.exec P opsT).getD gzero
def glT : GLink := (gT.links 1).getD lzero
def gcT : RenetClient := (gconn? gT.server 1).getD lzero.cl


/-- The generated code on `ops`, continued by `ops'` and, separately, by the tick alone.  Up to the
    start of the round: the run returns normally, client 1 is connected, [60] is logged for it and not yet obtained.  Run
    through `ops'`: client 1 obtained [60] as well, from the datagrams 5 and 4; the server's table holds client 1 only.  After
    the tick alone: client 1 is connected. -/
theorem all :
    ((GMulti.exec P ops).isSome = true ∧ GLiveAt g 1 lzero ∧
      gl.subS 0 = [[10], [20], [30], [60]] ∧ gl.obtC 0 = [[10], [20], [30]]) ∧
    ((GMulti.exec P (ops ++ ops')).isSome = true ∧
      (gu.links 1).map (fun l => (l.obtC 0, l.subS 0, l.delivC, l.tainted)) =
        some ([[10], [20], [30], [60]], [[10], [20], [30], [60]], [0, 1, 5, 4], false) ∧
      (Src.renet.server.RenetServer.clients_id gu.server : Res Empty _) = .ok [1]) ∧
    (GMulti.exec P opsT).isSome = true ∧ GLiveAt gT 1 lzero := by
  decide +kernel

theorem grun : GMulti.exec P ops = some g := some_getD all.1.1 _
theorem glive : GLive g 1 gc gl := all.1.2.1.live
theorem gstart : gl.subS 0 = [[10], [20], [30], [60]] ∧ gl.obtC 0 = [[10], [20], [30]] := all.1.2.2
theorem grun' : GMulti.exec P (ops ++ ops') = some gu := some_getD all.2.1.1 _

/-- **`src_broadcast_exactly_once` applied**: client 1 now has everything that was addressed to it, [60] included, and
    [60] exactly once -/
theorem client1_has_everything :
    ∃ u gc' gl', GMulti.exec P (ops ++ ops') = some u ∧ GLive u 1 gc' gl' ∧ gl'.obtC 0 = [[10], [20], [30], [60]] ∧
      (gl'.obtC 0).count [60] = 1 := by
  obtain ⟨u, gc', gl', e, h1, -, h2, h3⟩ :=
    src_broadcast_exactly_once P ops g grun C11L.Ex1.m C11L.Ex1.run 1 gc gl glive C11L.Ex1.l C11L.Ex1.link C11L.Ex1.c
      C11L.Ex1.conn1 0 C11L.Ex1.ordered0 C11L.Ex1.sA C11L.Ex1.find_sA C11L.Ex1.rB C11L.Ex1.find_rB 1000
      C11L.Ex1.facts.2.2.1 C11L.Ex1.cu C11L.Ex1.upd C11L.Ex1.counters C11L.Ex1.countersA C11L.Ex1.facts.2.2.2.1
      C11L.Ex1.facts.2.2.2.2.1 C11L.Ex1.facts.2.2.2.2.2.1 [5, 4]
      (by rw [C11L.Ex1.facts.2.2.2.2.2.2.1]; decide) (by rw [C11L.Ex1.facts.2.2.2.2.2.2.1]; decide) 1
      (by rw [C11L.Ex1.facts.2.2.2.2.2.2.2.1, C11L.Ex1.facts.2.2.2.2.2.2.2.2.1]; decide)
      ops' (by decide) C11L.Ex1.inRange C11L.Ex1.fin C11L.Ex1.run'
  have hx : [60] ∈ gl.subS 0 := by rw [gstart.1]; decide
  obtain ⟨c1, c2⟩ := h3 [60] hx
  have c3 : ((addressedTo 1 0 ops).map toNats).count [60] = 1 := by decide
  exact ⟨u, gc', gl', e, h1, by rw [h2, gstart.1], by omega⟩

/-- **`src_broadcast_exactly_once_of_exec` applied** to the generated execution `grun'` computed by the kernel -/
example : ∃ gc' gl', GLive gu 1 gc' gl' ∧ gl'.obtC 0 = gl.subS 0 := by
  obtain ⟨gc', gl', h1, -, h2, -⟩ :=
    src_broadcast_exactly_once_of_exec P ops g grun C11L.Ex1.m C11L.Ex1.run 1 gc gl glive C11L.Ex1.l C11L.Ex1.link C11L.Ex1.c
      C11L.Ex1.conn1 0 C11L.Ex1.ordered0 C11L.Ex1.sA C11L.Ex1.find_sA C11L.Ex1.rB C11L.Ex1.find_rB 1000
      C11L.Ex1.facts.2.2.1 C11L.Ex1.cu C11L.Ex1.upd C11L.Ex1.counters C11L.Ex1.countersA C11L.Ex1.facts.2.2.2.1
      C11L.Ex1.facts.2.2.2.2.1 C11L.Ex1.facts.2.2.2.2.2.1 [5, 4]
      (by rw [C11L.Ex1.facts.2.2.2.2.2.2.1]; decide) (by rw [C11L.Ex1.facts.2.2.2.2.2.2.1]; decide) 1
      (by rw [C11L.Ex1.facts.2.2.2.2.2.2.2.1, C11L.Ex1.facts.2.2.2.2.2.2.2.2.1]; decide)
      ops' (by decide) C11L.Ex1.inRange gu grun'
  exact ⟨gc', gl', h1, h2⟩

example : (gu.links 1).map (fun l => (l.obtC 0, l.subS 0, l.delivC, l.tainted)) =
      some ([[10], [20], [30], [60]], [[10], [20], [30], [60]], [0, 1, 5, 4], false) ∧
    (Src.renet.server.RenetServer.clients_id gu.server : Res Empty _) = .ok [1] :=
  all.2.1.2

theorem inRangeT : MRunInRange P (opsT ++ MultiLive.roundFor 1 0 [4, 5] 1) := C11L.Ex1.inRangeT
theorem grunT : GMulti.exec P opsT = some gT := some_getD all.2.2.1 _
theorem gliveT : GLive gT 1 gcT glT := all.2.2.2.live

/-- **`src_round_delivers_to_client` applied** to the generated state after the tick: the round of client 1 with nothing
    else going on -/
example : ∃ u gc' gl', GMulti.exec P (opsT ++ MultiLive.roundFor 1 0 [4, 5] 1) = some u ∧ GLive u 1 gc' gl' ∧
    gl'.subS = glT.subS ∧ gl'.obtC 0 = glT.subS 0 :=
  src_round_delivers_to_client P opsT gT grunT C11L.Ex1.mu C11L.Ex1.run_mu 1 gcT glT gliveT C11L.Ex1.l C11L.Ex1.viewU.2
    C11L.Ex1.cu C11L.Ex1.viewU.1 0 [4, 5] 1 inRangeT C11L.Ex1.counters C11L.Ex1.countersA C11L.Ex1.ordered0
    C11L.Ex1.sAu C11L.Ex1.find_sAu C11L.Ex1.rB C11L.Ex1.find_rB C11L.Ex1.factsU.2.1 C11L.Ex1.factsU.2.2
    C11L.Ex1.facts.2.2.2.2.1 C11L.Ex1.facts.2.2.2.2.2.1
    (by rw [C11L.Ex1.facts.2.2.2.2.2.2.1]; decide) (by rw [C11L.Ex1.facts.2.2.2.2.2.2.1]; decide)
    (by rw [C11L.Ex1.facts.2.2.2.2.2.2.2.1, C11L.Ex1.facts.2.2.2.2.2.2.2.2.1]; decide)

end Ex1

/-! `C11L.ExU` — the ReliableUnordered channel 1: a 1300-byte (two-slice) broadcast and a small one, all three datagrams for
    client 1 lost; the tick; one lossless round for client 1 alone, datagrams handed over out of order, one twice. -/
namespace ExU
abbrev P := C11L.ExU.P
abbrev ops := C11L.ExU.ops
abbrev ops' := C11L.ExU.ops'

def g : GMulti := (GMulti.exec P ops).getD gzero
def gl : GLink := (g.links 1).getD lzero
def gc : RenetClient := (gconn? g.server 1).getD lzero.cl

/-- The generated code on `ops ++ ops'`: the run up to the start of the round returns normally and
    client 1 is connected; at the end client 1 has obtained both messages, from the datagrams 5, 4, 3 and 4 again -/
theorem all :
    ((GMulti.exec P ops).isSome = true ∧ GLiveAt g 1 lzero) ∧
    ((GMulti.exec P (ops ++ ops')).bind (·.links 1)).map (fun l => (l.obtC 1, l.delivC)) =
      some ([toNats C11L.ExU.big, [71]], [5, 4, 3, 4]) := by
  decide +kernel

theorem grun : GMulti.exec P ops = some g := some_getD all.1.1 _
theorem glive : GLive g 1 gc gl := all.1.2.live

theorem client1_has_everything :
    ∃ u gc' gl', GMulti.exec P (ops ++ ops') = some u ∧ GLive u 1 gc' gl' ∧ (gl'.obtC 1).Perm (gl.subS 1) := by
  obtain ⟨u, gc', gl', e, h1, -, h2, -⟩ :=
    src_broadcast_exactly_once_unordered P ops g grun C11L.ExU.m C11L.ExU.run 1 gc gl glive C11L.ExU.l C11L.ExU.link
      C11L.ExU.c C11L.ExU.conn1 1 C11E.Ex.unordered1 C11L.ExU.sA C11L.ExU.find_sA C11L.ExU.rB C11L.ExU.find_rB 1000
      C11L.ExU.facts.2.2.1 C11L.ExU.cu C11L.ExU.upd C11L.ExU.counters C11L.ExU.countersA C11L.ExU.facts.2.2.2.1
      C11L.ExU.facts.2.2.2.2.1 C11L.ExU.facts.2.2.2.2.2.1 [5, 4, 3, 4]
      (by rw [C11L.ExU.facts.2.2.2.2.2.2.1]; decide) (by rw [C11L.ExU.facts.2.2.2.2.2.2.1]; decide) 2
      (by rw [C11L.ExU.facts.2.2.2.2.2.2.2.1, C11L.ExU.facts.2.2.2.2.2.2.2.2.1]; decide)
      ops' (by decide) C11L.ExU.inRange C11L.ExU.fin C11L.ExU.run'
  exact ⟨u, gc', gl', e, h1, h2⟩

example : ((GMulti.exec P (ops ++ ops')).bind (·.links 1)).map (fun l => (l.obtC 1, l.delivC)) =
    some ([toNats C11L.ExU.big, [71]], [5, 4, 3, 4]) := all.2

end ExU

/-! `C11L.Ex0` — the final state of `C11E.Ex`, no acknowledgement in between: the flush after the tick carries both channels
    (H4 does not hold); the round of client 1 hands over a stale datagram as well. -/
namespace Ex0
abbrev P := C11L.Ex0.P
abbrev ops := C11L.Ex0.ops
abbrev ops' := C11L.Ex0.ops'

def g : GMulti := (GMulti.exec P ops).getD gzero
def gl : GLink := (g.links 1).getD lzero
def gc : RenetClient := (gconn? g.server 1).getD lzero.cl

theorem all : (GMulti.exec P ops).isSome = true ∧ GLiveAt g 1 lzero := by
  decide +kernel

theorem grun : GMulti.exec P ops = some g := some_getD all.1 _
theorem glive : GLive g 1 gc gl := all.2.live

theorem client1_has_60_unless_disconnected :
    ∃ u gc' gl', GMulti.exec P (ops ++ ops') = some u ∧ gconn? u.server 1 = some gc' ∧ u.links 1 = some gl' ∧
      (RenetClient.is_disconnected gc' : Res Empty Bool) = .ok false ∧ gl'.tainted = false ∧ gl'.subS = gl.subS ∧
      ((RenetClient.is_disconnected gl'.cl : Res Empty Bool) = .ok false → gl'.obtC 0 = gl.subS 0) :=
  src_broadcast_exactly_once_unless_disconnected P ops g grun C11L.Ex0.m C11E.Ex.run 1 gc gl glive.conn glive.link
    glive.srvLive glive.clean C11L.Ex0.l C11E.Ex.link1 C11L.Ex0.c C11L.Ex0.conn1 0 C11E.Ex.ordered0
    C11L.Ex0.sA C11L.Ex0.find_sA 1000 C11L.Ex0.facts.2.1 C11L.Ex0.cu C11L.Ex0.upd C11L.Ex0.counters C11L.Ex0.countersA
    C11L.Ex0.facts.2.2.1 [6, 4, 1, 5]
    (by rw [C11L.Ex0.facts.2.2.2.1]; decide) (by rw [C11L.Ex0.facts.2.2.2.2.1]; decide) 1
    (by rw [C11L.Ex0.facts.2.2.2.2.2.1, C11L.Ex0.facts.2.2.2.2.2.2.1]; decide)
    ops' (by decide) C11L.Ex0.inRange C11L.Ex0.fin C11L.Ex0.run'

end Ex0

/-! ## non-vacuity (k rounds, client → server): the examples of `Props/C01M.lean` ON THE GENERATED CODE -/

/-! `C01M.ExK3` — two clients, a 3-byte and a 3700-byte (four-slice) broadcast on the ReliableOrdered channel 0, budget 3000
    bytes per tick: backlog 4803 > budget; `k = 3` rounds for client 1, interleaved with flushes for the stalled client 2, a
    `broadcast_except(1)`, garbage in client 2's name, its removal. -/
namespace ExK3
abbrev P := C01M.ExK3.P
abbrev ops := C01M.ExK3.ops
abbrev ops' := C01M.ExK3.ops'
abbrev opsJ := C01M.ExK3.opsJ
abbrev rs : List RoundP := [C01M.ExK3.r1, C01M.ExK3.r2, C01M.ExK3.r3]

def g : GMulti := (GMulti.exec P ops).getD gzero
def gl : GLink := (g.links 1).getD lzero
def gc : RenetClient := (gconn? g.server 1).getD lzero.cl
def gu : GMulti := (GMulti.exec P (ops ++ ops')).getD gzero

theorem inRangeJ : MRunInRange P (ops ++ (opsJ ++ ops')) := C01M.ExK3.inRangeJ

/-- The generated code on `ops ++ ops'`.  Up to the start of the rounds: the run returns normally,
    client 1 is connected, both broadcasts are logged for it and nothing is obtained yet.  Run to the end: client 1 obtained
    both messages, all seven datagrams were handed over; client 2 — stalled, then removed — obtained nothing. -/
theorem all :
    ((GMulti.exec P ops).isSome = true ∧ GLiveAt g 1 lzero) ∧
    (gl.subS 0 = [toNats C01M.ExK3.m0, toNats C01M.ExK3.m1] ∧ gl.obtC 0 = []) ∧
    (GMulti.exec P (ops ++ ops')).isSome = true ∧
    (gu.links 1).map (fun l => (l.obtC 0, l.delivC)) =
      some ([toNats C01M.ExK3.m0, toNats C01M.ExK3.m1], [0, 1, 2, 3, 4, 5, 6]) ∧
    (gu.links 2).map (fun l => (l.obtC 0, l.delivC)) = some ([], []) := by
  decide +kernel

theorem grun : GMulti.exec P ops = some g := some_getD all.1.1 _
theorem glive : GLive g 1 gc gl := all.1.2.live
theorem gstart : gl.subS 0 = [toNats C01M.ExK3.m0, toNats C01M.ExK3.m1] ∧ gl.obtC 0 = [] := all.2.1

theorem client1_has_everything :
    ∃ u gc' gl', GMulti.exec P (ops ++ ops') = some u ∧ GLive u 1 gc' gl' ∧ gl'.obtC 0 = gl.subS 0 := by
  obtain ⟨u, gc', gl', e, h1, -, h2, -⟩ :=
    src_k_rounds_deliver_to_client P ops g grun C01M.ExK3.m C01M.ExK3.run 1 gc gl glive C01M.ExK3.l C01M.ExK3.link
      C01M.ExK3.c C01M.ExK3.conn1 0 C01M.ExK3.ordered0 C01M.ExK3.sA C01M.ExK3.find_sA C01M.ExK3.rB C01M.ExK3.find_rB
      C01M.ExK3.start.2.2.1 3000 (by decide) rs C01M.ExK3.rounds (by simp) (by rw [C01M.ExK3.start.2.2.2.1]; decide)
      ops' C01M.ExK3.trace' C01M.ExK3.inRange C01M.ExK3.fin C01M.ExK3.run'
  exact ⟨u, gc', gl', e, h1, h2⟩

/-- **`src_k_rounds_stalled_client_does_not_delay_others` applied**: first client 2 alone (`opsJ`), then the rounds -/
example : ∃ u gc' gl', GMulti.exec P (ops ++ (opsJ ++ ops')) = some u ∧ GLive u 1 gc' gl' ∧ gl'.obtC 0 = gl.subS 0 := by
  obtain ⟨u, gc', gl', e, h1, -, h2, -⟩ :=
    src_k_rounds_stalled_client_does_not_delay_others P ops g grun C01M.ExK3.m C01M.ExK3.run 1 gc gl glive C01M.ExK3.l
      C01M.ExK3.link C01M.ExK3.c C01M.ExK3.conn1 0 C01M.ExK3.ordered0 C01M.ExK3.sA C01M.ExK3.find_sA C01M.ExK3.rB
      C01M.ExK3.find_rB C01M.ExK3.start.2.2.1 3000 (by decide) rs C01M.ExK3.rounds (by simp)
      (by rw [C01M.ExK3.start.2.2.2.1]; decide) opsJ (by decide) C01M.ExK3.mJ C01M.ExK3.runJ ops' C01M.ExK3.trace' inRangeJ
      C01M.ExK3.finJ C01M.ExK3.runJ'
  exact ⟨u, gc', gl', e, h1, h2⟩

theorem gfacts : GMulti.exec P (ops ++ ops') = some gu ∧
    (gu.links 1).map (fun l => (l.obtC 0, l.delivC)) =
      some ([toNats C01M.ExK3.m0, toNats C01M.ExK3.m1], [0, 1, 2, 3, 4, 5, 6]) ∧
    (gu.links 2).map (fun l => (l.obtC 0, l.delivC)) = some ([], []) :=
  ⟨some_getD all.2.2.1 _, all.2.2.2⟩

end ExK3

/-! `C01M.ExUp` — client 1 submitted [7, 7]; its datagram was emitted and lost.  Client 1's tick and one lossless round
    client → server, interleaved with garbage in client 2's name, client 2's disconnection and flush. -/
namespace ExUp
abbrev P := C01M.ExUp.P
abbrev ops := C01M.ExUp.ops
abbrev ops' := C01M.ExUp.ops'

def g : GMulti := (GMulti.exec P ops).getD gzero
def gl : GLink := (g.links 1).getD lzero
def gc : RenetClient := (gconn? g.server 1).getD lzero.cl
/-! the generated state after the tick (`src_round_delivers_to_server`) -/
abbrev opsT : List MOp := ops ++ [.cliUpdate 1 1000]
def gT : GMulti := (GMulti.exec P opsT).getD gzero
def glT : GLink := (gT.links 1).getD lzero
def gcT : RenetClient := (gconn? gT.server 1).getD lzero.cl

theorem ranges : MRunInRange P (ops ++ ops') ∧ MRunInRange P (ops ++ (.cliUpdate 1 1000 :: roundForU 1 0 [1] 1)) := by
  decide +kernel
theorem inRange : MRunInRange P (ops ++ ops') := ranges.1
theorem inRangeA : MRunInRange P (ops ++ (.cliUpdate 1 1000 :: roundForU 1 0 [1] 1)) := ranges.2

/-- The generated code on `ops ++ ops'`, whose first operation is the tick of client 1.  Up to the
    start: the run returns normally, client 1 is connected, [7, 7] is submitted, its one datagram emitted, nothing handed
    over.  After the tick: client 1 is connected.  Run to the end: the server obtained [7, 7] under id 1 from datagram 1;
    nothing of client 2 is mixed in. -/
theorem all :
    ((GMulti.exec P ops).isSome = true ∧ GLiveAt g 1 lzero) ∧
    (gl.subC 0 = [[7, 7]] ∧ gl.obtS 0 = [] ∧ gl.delivS = [] ∧ gl.outC.length = 1) ∧
    ((GMulti.exec P opsT).isSome = true ∧ GLiveAt gT 1 lzero) ∧
    ((GMulti.exec P (ops ++ ops')).bind (·.links 1)).map (fun l => (l.obtS 0, l.delivS)) = some ([[7, 7]], [1]) ∧
    ((GMulti.exec P (ops ++ ops')).bind (·.links 2)).map (fun l => (l.obtS 0, l.subC 0)) = some ([], [[8]]) := by
  decide +kernel

theorem grun : GMulti.exec P ops = some g := some_getD all.1.1 _
theorem glive : GLive g 1 gc gl := all.1.2.live
theorem gstart : gl.subC 0 = [[7, 7]] ∧ gl.obtS 0 = [] ∧ gl.delivS = [] ∧ gl.outC.length = 1 := all.2.1

/-- **`src_from_one_exactly_once` applied**: lost once, delivered in the next round; [7, 7] exactly once -/
theorem server_has_it :
    ∃ u gc' gl', GMulti.exec P (ops ++ ops') = some u ∧ GLive u 1 gc' gl' ∧ gl'.obtS 0 = [[7, 7]] ∧
      (gl'.obtS 0).count [7, 7] = 1 := by
  obtain ⟨u, gc', gl', e, h1, -, h2, h3⟩ :=
    src_from_one_exactly_once P ops g grun C01M.ExUp.m C01M.ExUp.run 1 gc gl glive C01M.ExUp.l C01M.ExUp.link C01M.ExUp.c
      C01M.ExUp.conn1 0 C01M.ExUp.ordered0 C01M.ExUp.sA C01M.ExUp.find_sA C01M.ExUp.rB C01M.ExUp.find_rB 1000
      C01M.ExUp.facts.2.2.1 C01M.ExUp.clu C01M.ExUp.upd C01M.ExUp.counters C01M.ExUp.countersA C01M.ExUp.facts.2.2.2.1
      C01M.ExUp.facts.2.2.2.2.1 C01M.ExUp.facts.2.2.2.2.2.1 [1]
      (by rw [C01M.ExUp.facts.2.2.2.2.2.2.1]; decide) (by rw [C01M.ExUp.facts.2.2.2.2.2.2.1]; decide) 1
      (by rw [C01M.ExUp.facts.2.2.2.2.2.2.2.1, C01M.ExUp.facts.2.2.2.2.2.2.2.2.1]; decide)
      ops' (by decide) inRange C01M.ExUp.fin C01M.ExUp.run'
  have hx : [7, 7] ∈ gl.subC 0 := by rw [gstart.1]; decide
  obtain ⟨c1, c2⟩ := h3 [7, 7] hx
  have c3 : ((sentBy 1 0 ops).map toNats).count [7, 7] = 1 := by decide
  exact ⟨u, gc', gl', e, h1, by rw [h2, gstart.1], by omega⟩

/-- **`src_from_one_runs` applied**: the tick and the round of client 1 alone run on the generated code -/
example : ∃ u gc' gl', GMulti.exec P (ops ++ (.cliUpdate 1 1000 :: roundForU 1 0 [1] 1)) = some u ∧ GLive u 1 gc' gl' ∧
    gl'.subC = gl.subC ∧ gl'.obtS 0 = gl.subC 0 :=
  src_from_one_runs P ops g grun C01M.ExUp.m C01M.ExUp.run 1 gc gl glive C01M.ExUp.l C01M.ExUp.link C01M.ExUp.c
    C01M.ExUp.conn1 0 C01M.ExUp.ordered0 C01M.ExUp.sA C01M.ExUp.find_sA C01M.ExUp.rB C01M.ExUp.find_rB 1000
    C01M.ExUp.facts.2.2.1 C01M.ExUp.clu C01M.ExUp.upd C01M.ExUp.counters C01M.ExUp.countersA C01M.ExUp.facts.2.2.2.1
    C01M.ExUp.facts.2.2.2.2.1 C01M.ExUp.facts.2.2.2.2.2.1 [1]
    (by rw [C01M.ExUp.facts.2.2.2.2.2.2.1]; decide) (by rw [C01M.ExUp.facts.2.2.2.2.2.2.1]; decide) 1
    (by rw [C01M.ExUp.facts.2.2.2.2.2.2.2.1, C01M.ExUp.facts.2.2.2.2.2.2.2.2.1]; decide) inRangeA

example : ((GMulti.exec P (ops ++ ops')).bind (·.links 1)).map (fun l => (l.obtS 0, l.delivS)) = some ([[7, 7]], [1]) ∧
    ((GMulti.exec P (ops ++ ops')).bind (·.links 2)).map (fun l => (l.obtS 0, l.subC 0)) = some ([], [[8]]) :=
  all.2.2.2

theorem inRangeT : MRunInRange P (opsT ++ roundForU 1 0 [1] 1) := by
  rw [List.append_assoc]
  exact inRangeA
theorem grunT : GMulti.exec P opsT = some gT := some_getD all.2.2.1.1 _
theorem gliveT : GLive gT 1 gcT glT := all.2.2.1.2.live

/-- **`src_round_delivers_to_server` applied** to the generated state after the tick -/
example : ∃ u gc' gl', GMulti.exec P (opsT ++ roundForU 1 0 [1] 1) = some u ∧ GLive u 1 gc' gl' ∧
    gl'.subC = glT.subC ∧ gl'.obtS 0 = glT.subC 0 :=
  src_round_delivers_to_server P opsT gT grunT C01M.ExUp.mu C01M.ExUp.run_mu 1 gcT glT gliveT C01M.ExUp.lu C01M.ExUp.linkU
    C01M.ExUp.c C01M.ExUp.connU 0 [1] 1 inRangeT C01M.ExUp.countersU C01M.ExUp.countersAU C01M.ExUp.ordered0
    C01M.ExUp.sAu C01M.ExUp.find_sAu C01M.ExUp.rB C01M.ExUp.find_rB C01M.ExUp.factsU.2.1 C01M.ExUp.factsU.2.2.1
    C01M.ExUp.factsU.2.2.2.1 C01M.ExUp.factsU.2.2.2.2.1
    (by rw [C01M.ExUp.factsU.2.2.2.2.2.1]; decide) (by rw [C01M.ExUp.factsU.2.2.2.2.2.1]; decide)
    (by rw [C01M.ExUp.factsU.2.2.2.2.2.2.1, C01M.ExUp.factsU.2.2.2.2.2.2.2.1]; decide)

end ExUp

/-! `C01M.ExUp3` — client 1 submitted a 3-byte and a 3700-byte message, budget 3000: three rounds client → server, interleaved
    with client 2's own traffic, a `broadcast_except(1)`, garbage, client 2's removal. -/
namespace ExUp3
abbrev P := C01M.ExUp3.P
abbrev ops := C01M.ExUp3.ops
abbrev ops' := C01M.ExUp3.ops'
abbrev rs : List RoundP := [C01M.ExUp3.r1, C01M.ExUp3.r2, C01M.ExUp3.r3]

def g : GMulti := (GMulti.exec P ops).getD gzero
def gl : GLink := (g.links 1).getD lzero
def gc : RenetClient := (gconn? g.server 1).getD lzero.cl

theorem inRangeA : MRunInRange P (ops ++ roundsForU 1 0 rs) := C01M.ExUp3.inRangeA

/-- The generated code on `ops ++ ops'`: the run up to the start of the rounds returns normally and
    client 1 is connected; at the end the server obtained both messages under id 1, all seven datagrams handed over, and
    [5] under id 2 -/
theorem all :
    ((GMulti.exec P ops).isSome = true ∧ GLiveAt g 1 lzero) ∧
    ((GMulti.exec P (ops ++ ops')).bind (·.links 1)).map (fun l => (l.obtS 0, l.delivS)) =
      some ([toNats C01M.ExUp3.m0, toNats C01M.ExUp3.m1], [0, 1, 2, 3, 4, 5, 6]) ∧
    ((GMulti.exec P (ops ++ ops')).bind (·.links 2)).map (fun l => l.obtS 0) = some [[5]] := by
  decide +kernel

theorem grun : GMulti.exec P ops = some g := some_getD all.1.1 _
theorem glive : GLive g 1 gc gl := all.1.2.live

theorem server_has_everything :
    ∃ u gc' gl', GMulti.exec P (ops ++ ops') = some u ∧ GLive u 1 gc' gl' ∧ gl'.obtS 0 = gl.subC 0 := by
  obtain ⟨u, gc', gl', e, h1, -, h2, -⟩ :=
    src_k_rounds_deliver_to_server P ops g grun C01M.ExUp3.m C01M.ExUp3.run 1 gc gl glive C01M.ExUp3.l C01M.ExUp3.link
      C01M.ExUp3.c C01M.ExUp3.conn1 0 C01M.ExUp3.ordered0 C01M.ExUp3.sA C01M.ExUp3.find_sA C01M.ExUp3.rB C01M.ExUp3.find_rB
      C01M.ExUp3.start.2.2.1 3000 (by decide) rs C01M.ExUp3.rounds (by simp) (by rw [C01M.ExUp3.start.2.2.2.1]; decide)
      ops' C01M.ExUp3.trace' C01M.ExUp3.inRange C01M.ExUp3.fin C01M.ExUp3.run'
  exact ⟨u, gc', gl', e, h1, h2⟩

/-- **`src_k_rounds_run_to_server` applied**: the three rounds of client 1 alone run on the generated code and deliver -/
example : ∃ u gc' gl', GMulti.exec P (ops ++ roundsForU 1 0 rs) = some u ∧ GLive u 1 gc' gl' ∧
    gl'.subC 0 = gl.subC 0 ∧ gl'.obtS 0 = gl.subC 0 :=
  src_k_rounds_run_to_server P ops g grun C01M.ExUp3.m C01M.ExUp3.run 1 gc gl glive C01M.ExUp3.l C01M.ExUp3.link
    C01M.ExUp3.c C01M.ExUp3.conn1 0 C01M.ExUp3.ordered0 C01M.ExUp3.sA C01M.ExUp3.find_sA C01M.ExUp3.rB C01M.ExUp3.find_rB
    C01M.ExUp3.start.2.2.1 3000 (by decide) rs C01M.ExUp3.rounds (by simp) (by rw [C01M.ExUp3.start.2.2.2.1]; decide) inRangeA

example : ((GMulti.exec P (ops ++ ops')).bind (·.links 1)).map (fun l => (l.obtS 0, l.delivS)) =
      some ([toNats C01M.ExUp3.m0, toNats C01M.ExUp3.m1], [0, 1, 2, 3, 4, 5, 6]) ∧
    ((GMulti.exec P (ops ++ ops')).bind (·.links 2)).map (fun l => l.obtS 0) = some [[5]] := all.2

end ExUp3

end RenetVerif.SrcPropsMultiLive
