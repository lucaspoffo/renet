/-
  Source tie, group NcConnToken: `renetcode/src/token.rs` `ConnectToken::{write, read}`, `PrivateConnectToken::{write, read}`
  and `get_additional_data` ↔ `Netcode.ConnectToken.{writeTo, read}`, `Netcode.PrivateConnectToken.{writeTo, read,
  additionalData}` of `Netcode/Token.lean`.

  `reprTok` / `reprPTok` map model tokens to the generated structs (`i32` timeouts are `Int`s, the address array via
  `reprAddrs`).  Writers and readers are stated over the `io::Cursor` models with the state carried by an `Err`
  forgotten (`Res.forget`, see `Props/SrcTieNcAddr.lean`); the readers additionally drop the final cursor, which the model
  does not return.  `tokErr` maps the two errors of `ConnectToken::read` (`InvalidVersion`, `IoError`).
-/
import RenetVerif.Lemmas.SrcEquiv.NcConnToken
import RenetVerif.Props.SrcTieNcAddr
namespace RenetVerif.SrcTie
open RenetVerif RenetVerif.SrcEquiv RenetVerif.RustSem

/-- `ConnectToken::write`: the cursor of the model writer, or `io::Error` exactly when the model writer fails -/
theorem nc_conn_token_write {w : Netcode.Wr} {tail : List Nat} (h : WrOk w tail) (t : Netcode.ConnectToken)
    (hlen : t.serverAddresses.length < 2 ^ 32) :
    (Src.renetcode.token.ConnectToken.write (reprTok t) (wcur w tail)).forget =
      match t.writeTo w with
      | some w' => .ok (wcur w' (tail.drop (tokBytes t).length), ())
      | none => .err .opaque := by
  rw [tok_write_forget _ (cinv_wcur _ _) _ hlen, wres_wcur h, tok_writeTo_eq]
  cases w.writeAll (tokBytes t) <;> rfl

theorem nc_private_token_write {w : Netcode.Wr} {tail : List Nat} (h : WrOk w tail) (t : Netcode.PrivateConnectToken)
    (hlen : t.serverAddresses.length < 2 ^ 32) :
    (Src.renetcode.token.PrivateConnectToken.write (reprPTok t) (wcur w tail)).forget =
      match t.writeTo w with
      | some w' => .ok (wcur w' (tail.drop (ptokBytes t).length), ())
      | none => .err .opaque := by
  rw [ptok_write_forget _ (cinv_wcur _ _) _ hlen, wres_wcur h, ptok_writeTo_eq]
  cases w.writeAll (ptokBytes t) <;> rfl

open Netcode in
/-- `ConnectToken::read` on any input -/
theorem nc_conn_token_read {rest buf : Bytes} (h : rest <:+ buf) :
    mapRes (fun x => x.2) id (Src.renetcode.token.ConnectToken.read (rcur buf rest)).forget =
      mapRes reprTok tokErr (Netcode.ConnectToken.read rest) := by
  unfold Src.renetcode.token.ConnectToken.read Netcode.ConnectToken.read
  simp only [Exec.bind_eq, Exec.pure_eq,
    show Src.renetcode.NETCODE_CONNECT_TOKEN_XNONCE_BYTES = C.NETCODE_CONNECT_TOKEN_XNONCE_BYTES from rfl,
    show Src.renetcode.NETCODE_CONNECT_TOKEN_PRIVATE_BYTES = C.NETCODE_CONNECT_TOKEN_PRIVATE_BYTES from rfl,
    show Src.renetcode.NETCODE_KEY_BYTES = C.NETCODE_KEY_BYTES from rfl]
  rw [Exec.forget_run]
  simp only [Exec.forget_bind, Exec.forget_val]
  rw [step_rd (forget_of_rdRes (nc_read_uN _ _ h).1) kerr_netcode]
  rcases h1 : readU64 rest with _ | ⟨cid, r1⟩
  · rfl
  have hs1 := readU_suffix_buf h1 h
  simp only [io?_some_bind]
  rw [step_rd (forget_of_rdRes (nc_read_bytes _ _ hs1 13)) kerr_netcode]
  rcases h2 : readN 13 r1 with _ | ⟨vi, r2⟩
  · rfl
  have hs2 := readN_suffix' h2 hs1
  simp only [io?_some_bind]
  have hvi : (decide (toNats vi ≠ toNats C.NETCODE_VERSION_INFO)) = decide (vi ≠ C.NETCODE_VERSION_INFO) :=
    decide_eq_decide.mpr (not_congr ⟨toNats_inj, congrArg toNats⟩)
  simp only [version_info_eq, hvi, Exec.forget_ite, Exec.forget_err, Exec.forget_val]
  by_cases hver : vi ≠ C.NETCODE_VERSION_INFO
  · rw [if_pos (decide_eq_true hver), if_pos hver]
    rfl
  rw [if_neg (mt of_decide_eq_true hver), if_neg hver, Exec.bind_val']
  rw [step_rd (forget_of_rdRes (nc_read_uN _ _ hs2).1) kerr_netcode]
  rcases h3 : readU64 r2 with _ | ⟨pid, r3⟩
  · rfl
  have hs3 := readU_suffix_buf h3 hs2
  simp only [io?_some_bind]
  rw [step_rd (forget_of_rdRes (nc_read_uN _ _ hs3).1) kerr_netcode]
  rcases h4 : readU64 r3 with _ | ⟨cts, r4⟩
  · rfl
  have hs4 := readU_suffix_buf h4 hs3
  simp only [io?_some_bind]
  rw [step_rd (forget_of_rdRes (nc_read_uN _ _ hs4).1) kerr_netcode]
  rcases h5 : readU64 r4 with _ | ⟨ets, r5⟩
  · rfl
  have hs5 := readU_suffix_buf h5 hs4
  simp only [io?_some_bind]
  rw [step_rd (forget_of_rdRes (nc_read_bytes _ _ hs5 _)) kerr_netcode]
  rcases h6 : readN C.NETCODE_CONNECT_TOKEN_XNONCE_BYTES r5 with _ | ⟨xn, r6⟩
  · rfl
  have hs6 := readN_suffix' h6 hs5
  simp only [io?_some_bind]
  rw [step_rd (forget_of_rdRes (nc_read_bytes _ _ hs6 _)) kerr_netcode]
  rcases h7 : readN C.NETCODE_CONNECT_TOKEN_PRIVATE_BYTES r6 with _ | ⟨pd, r7⟩
  · rfl
  have hs7 := readN_suffix' h7 hs6
  simp only [io?_some_bind]
  rw [step_rd (forget_of_rdRes (nc_read_i32 _ _ hs7)) kerr_netcode]
  rcases h8 : readI32 r7 with _ | ⟨to, r8⟩
  · rfl
  have hs8 := readI32_suffix_buf h8 hs7
  simp only [io?_some_bind]
  rw [step_rd (nc_addr_read hs8) kerr_netcode]
  rcases h9 : readServerAddresses r8 with _ | ⟨sa, r9⟩
  · rfl
  have hs9 := (readServerAddresses_suffix h9).trans hs8
  simp only [io?_some_bind]
  rw [step_rd (forget_of_rdRes (nc_read_bytes _ _ hs9 _)) kerr_netcode]
  rcases h10 : readN C.NETCODE_KEY_BYTES r9 with _ | ⟨k1, r10⟩
  · rfl
  simp only [io?_some_bind]
  rw [step_rd (forget_of_rdRes (nc_read_bytes _ _ (readN_suffix' h10 hs9) _)) kerr_netcode]
  rcases readN C.NETCODE_KEY_BYTES r10 with _ | ⟨k2, r11⟩ <;> rfl

open Netcode in
/-- `PrivateConnectToken::read` on any input -/
theorem nc_private_token_read {rest buf : Bytes} (h : rest <:+ buf) :
    mapRes (fun x => x.2) id (Src.renetcode.token.PrivateConnectToken.read (rcur buf rest)).forget =
      match Netcode.PrivateConnectToken.read rest with
      | some t => .ok (reprPTok t)
      | none => .err .opaque := by
  unfold Src.renetcode.token.PrivateConnectToken.read Netcode.PrivateConnectToken.read
  simp only [Exec.bind_eq, Exec.pure_eq, len_repeat]
  rw [Exec.forget_run]
  simp only [Exec.forget_bind, Exec.forget_val]
  rw [step_rd (forget_of_rdRes (nc_read_uN _ _ h).1) kerr_io]
  rcases h1 : readU64 rest with _ | ⟨cid, r1⟩
  · rfl
  have hs1 := readU_suffix_buf h1 h
  simp only [bind, Option.bind_some]
  rw [step_rd (forget_of_rdRes (nc_read_i32 _ _ hs1)) kerr_io]
  rcases h2 : readI32 r1 with _ | ⟨to, r2⟩
  · rfl
  have hs2 := readI32_suffix_buf h2 hs1
  simp only [Option.bind_some]
  rw [step_rd (nc_addr_read hs2) kerr_io]
  rcases h3 : readServerAddresses r2 with _ | ⟨sa, r3⟩
  · rfl
  have hs3 := (readServerAddresses_suffix h3).trans hs2
  simp only [Option.bind_some]
  rw [step_rd (read_exact_forget hs3 32) kerr_io]
  rcases h4 : readN 32 r3 with _ | ⟨k1, r4⟩
  · rfl
  have hs4 := readN_suffix' h4 hs3
  simp only [Option.bind_some]
  rw [step_rd (read_exact_forget hs4 32) kerr_io]
  rcases h5 : readN 32 r4 with _ | ⟨k2, r5⟩
  · rfl
  simp only [Option.bind_some]
  rw [step_rd (read_exact_forget (readN_suffix' h5 hs4) 256) kerr_io]
  rcases readN 256 r5 with _ | ⟨ud, r6⟩ <;> rfl

open Netcode in
/-- token.rs `get_additional_data` -/
theorem nc_token_additional_data {ε : Type} (protocolId expireTimestamp : Nat) :
    (Src.renetcode.token.get_additional_data protocolId expireTimestamp : Res ε _) =
      .ok (toNats (Netcode.PrivateConnectToken.additionalData protocolId expireTimestamp)) := by
  unfold Src.renetcode.token.get_additional_data Netcode.PrivateConnectToken.additionalData
  simp only [to_le_bytes64, version_info_eq, Exec.bind_eq, Exec.pure_eq, RustSem.copy_from_slice, RustSem.repeat_,
    show Src.renetcode.NETCODE_ADDITIONAL_DATA_SIZE = 29 from rfl]
  simp [toNats]
  have hvl : C.NETCODE_VERSION_INFO.length = 13 := by decide
  have ha : (Netcode.leBytes protocolId 8).length = 8 := NcAead.leBytes_length _ _
  have hb : (Netcode.leBytes expireTimestamp 8).length = 8 := NcAead.leBytes_length _ _
  generalize hV : List.map UInt8.toNat C.NETCODE_VERSION_INFO = V
  generalize hA : List.map UInt8.toNat (Netcode.leBytes protocolId 8) = A
  generalize hB : List.map UInt8.toNat (Netcode.leBytes expireTimestamp 8) = B
  have lV : V.length = 13 := by rw [← hV]; simp [hvl]
  have lA : A.length = 8 := by rw [← hA]; simp [ha]
  have lB : B.length = 8 := by rw [← hB]; simp [hb]
  simp only [hvl, if_true, Exec.bind_val', List.length_append, lV, List.length_cons, List.length_nil]
  rw [if_pos (by omega), Exec.bind_val']
  have e1 : List.take 13 (V ++ [0, 0, 0, 0, 0, 0, 0, 0, 0, 0, 0, 0, 0, 0, 0, 0]) = V := List.take_left' lV
  have e2 : List.drop 21 (V ++ [0, 0, 0, 0, 0, 0, 0, 0, 0, 0, 0, 0, 0, 0, 0, 0]) = [0, 0, 0, 0, 0, 0, 0, 0] := by
    rw [List.drop_append, List.drop_of_length_le (by omega), lV]; rfl
  rw [e1, e2]
  simp only [List.length_append, lV, lA, List.length_cons, List.length_nil]
  rw [if_pos (by omega), Exec.bind_val']
  have e3 : List.take 21 (V ++ (A ++ [0, 0, 0, 0, 0, 0, 0, 0])) = V ++ A := by
    rw [← List.append_assoc]; exact List.take_left' (by simp [lV, lA])
  have e4 : List.drop 29 (V ++ (A ++ [0, 0, 0, 0, 0, 0, 0, 0])) = [] := by
    apply List.drop_of_length_le; simp [lV, lA]
  rw [e3, e4]
  simp [Exec.run_val, List.append_assoc]

/-- a private token (timeout -1, one IPv4 address) -/
def exPTok : Src.renetcode.token.PrivateConnectToken :=
  ⟨7, -1, some (.v4 [10, 0, 0, 1] 9) :: List.replicate 31 none, List.replicate 32 1, List.replicate 32 2, List.replicate 256 3⟩

/-- round trip through the generated writer and reader -/
example :
    (match Src.renetcode.token.PrivateConnectToken.write exPTok ⟨List.replicate 400 0, 0⟩ with
     | .ok (c, ()) => mapRes (fun x : ReadCursor × Src.renetcode.token.PrivateConnectToken => x.2) id
         (Src.renetcode.token.PrivateConnectToken.read ⟨c.buf, 0⟩).forget
     | _ => (.err IoError.opaque : Res IoError Src.renetcode.token.PrivateConnectToken)) = .ok exPTok := by
  decide +kernel
/-- a version string that is not "NETCODE 1.02\0" is `InvalidVersion` -/
example : (Src.renetcode.token.ConnectToken.read ⟨List.replicate 21 0, 0⟩).forget = .err .InvalidVersion := by
  decide +kernel
example : (Src.renetcode.token.ConnectToken.read ⟨List.replicate 20 0, 0⟩).forget = .err (.IoError .opaque) := by
  decide +kernel

end RenetVerif.SrcTie
