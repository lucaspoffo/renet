/-
  C06 / C13 / C12 / C09 / C14 — ONE CONNECTION, ANY API TRACE, HOSTILE INPUT: ABOUT THE GENERATED CODE.

  `GConn` (`Lemmas/SrcEquiv/SrcConnSystem.lean`) is one GENERATED `RenetClient` created by the generated `from_channels` and
  driven through the generated `send_message`, `receive_message`, `update`, `get_packets_to_send`, `process_packet` (ARBITRARY
  bytes), `set_connected`, `set_connecting`, `disconnect`, `disconnect_due_to_transport`, in ANY order (`COp`); the ghost logs
  `flushes` / `recvd` record what every generated `get_packets_to_send` / `receive_message` RETURNED.
  `GConn.exec cfg ops = some g`: `from_channels` and every call of the trace returned normally.

  The theorems below have the GENERATED run as hypothesis and read their conclusions off the generated struct / the generated
  outputs.  `CRunInRange cfg ops` is the range side condition of the source tie (`SrcConnSystem.CRunInRange`: distinct channel
  ids per kind; before every operation the connection in range `ConnInRange` — counters `≤ 2^60`, budgets `≤ 2^63`; submitted
  messages shorter than `2^63` bytes; the clock within `Duration::MAX`), stated over the model run and decidable by
  evaluation.  Proofs: the two-way simulation `SrcConnSystem.crun_sim` / `crun_sim_conv` + the model theorems of
  `Props/C06.lean`, `C13.lean`, `C12.lean`, `C09.lean`, `C14.lean`.
-/
import RenetVerif.Lemmas.SrcEquiv.SrcConnTransfer
import RenetVerif.Lemmas.SrcEquiv.SrcConnMore
import RenetVerif.Props.C06
import RenetVerif.Props.C08
import RenetVerif.Props.C09
import RenetVerif.Props.C12
import RenetVerif.Props.C13
import RenetVerif.Props.C14
set_option maxRecDepth 100000
set_option linter.unusedVariables false
set_option linter.unusedSimpArgs false
namespace RenetVerif.SrcPropsConnTrace
open RenetVerif RenetVerif.RustSem RenetVerif.C RenetVerif.System RenetVerif.SrcEquiv RenetVerif.SrcSystem RenetVerif.SrcConnSystem
open Src.renet.remote_connection

def COpValid (cfg : Cfg) : COp → Prop
  | .send ch _ => ch ∈ cfg.send.map (·.id)
  | .recv ch => ch ∈ cfg.recv.map (·.id)
  | _ => True

instance (cfg : Cfg) (op : COp) : Decidable (COpValid cfg op) := by cases op <;> unfold COpValid <;> infer_instance

theorem cfgValid_of {cfg : Cfg} {op : COp} (h : COpValid cfg op) : CI.CfgValid cfg.send cfg.recv op.toConnOp := by
  cases op <;> first | exact h | trivial

theorem mtr_total : ∀ (ops : List COp) (t : MTr), t.c.Inv → (∀ op ∈ ops, CI.ChanValid t.c op.toConnOp) →
    CRunInRangeFrom t ops → ∃ t', t.run ops = some t'
  | [], t, _, _, _ => ⟨t, rfl⟩
  | op :: ops, t, hi, hv, hrg => by
    obtain ⟨c', e, i', same⟩ := C06.every_operation_total t.c hi op.toConnOp (hv op (List.mem_cons_self ..))
      (fun _ => countersOK_of_inRange hrg.1)
    obtain ⟨t1, hs, rfl⟩ := mtr_step_of_apply e
    obtain ⟨t', ht'⟩ := mtr_total ops t1 i' (fun o ho => (hv o (List.mem_cons_of_mem _ ho)).same same)
      (crunInRangeFrom_cons hrg hs).2.2
    exact ⟨t', by simp only [MTr.run, hs]; exact ht'⟩

/-! ## C06 — no byte string and no call sequence makes the generated code panic -/

/-- **C06 on the generated code: any API trace with configured channel ids runs without a panic.**  For EVERY operation list
    `ops` — hostile byte strings handed to `process_packet` anywhere in it, status calls, flushes, clock steps in any order —
    whose `send_message` / `receive_message` calls use channel ids of the configuration and which is in range: the generated
    `from_channels` and every generated call return normally.  (Transports `C06.fresh_connection_keeps_working`; the documented
    panics are those of an invalid channel id.) -/
theorem src_never_panics (cfg : Cfg) (ops : List COp) (hv : ∀ op ∈ ops, COpValid cfg op) (hrg : CRunInRange cfg ops) :
    ∃ g, GConn.exec cfg ops = some g := by
  obtain ⟨t, ht⟩ := mtr_total ops (MTr.init cfg) (C06.fresh_connection _ _ _).2
    (fun op ho => (cfgValid_of (hv op ho)).chanValid) hrg.2
  obtain ⟨g, e, -⟩ := crun_sim cfg ops t hrg ht
  exact ⟨g, e⟩

/-- **C06 on the generated code: hostile bytes.**  In every generated state `g` reached by ANY run, the generated
    `process_packet` returns normally for EVERY byte string, and afterwards the generated `connection_status` is unchanged or
    the generated `is_disconnected` returns `true`.  (Transports `C06.processPacket_total`; the range condition concerns the
    state `g` only — there is none on `bytes`.) -/
theorem src_hostile_bytes_total (cfg : Cfg) (ops : List COp) (g : GConn) (hg : GConn.exec cfg ops = some g) (bytes : Bytes)
    (hrg : CRunInRange cfg (ops ++ [.process bytes])) :
    ∃ g', GConn.exec cfg (ops ++ [.process bytes]) = some g' ∧ g'.flushes = g.flushes ∧ g'.recvd = g.recvd ∧
      (g'.cl.connection_status = g.cl.connection_status ∨
        (RenetClient.is_disconnected g'.cl : Res Empty Bool) = .ok true) := by
  obtain ⟨t, -, sim, hgood, -, -, push⟩ := push_step cfg ops _ g hrg hg
  obtain ⟨c', e, -, hst, -⟩ := C06.processPacket_total t.c (CI.sinv_inv hgood.sinv) bytes
  obtain ⟨g', e', sim'⟩ := push { t with c := c' } (by simp only [MTr.step, e])
  refine ⟨g', e', by rw [sim'.flushes, sim.flushes], by rw [sim'.recvd, sim.recvd], ?_⟩
  rcases hst with h | ⟨r, h⟩
  · exact .inl (by rw [sim'.status, sim.status, h])
  · exact .inr (by rw [sim'.isDisc]; show Res.ok (Conn.isDisconnected c') = _; unfold Conn.isDisconnected; rw [h])

/-! ## C13 — datagrams fit, no `PacketSerialization` disconnect -/

/-- **C13 on the generated code, whole trace.**  Every datagram any generated `get_packets_to_send` returned in the run is
    at most `NETCODE_MAX_PAYLOAD_BYTES = 1300` bytes long.  (Transports `C13.connection_fits` along the run.) -/
theorem src_datagrams_fit (cfg : Cfg) (ops : List COp) (g : GConn) (hg : GConn.exec cfg ops = some g)
    (hrg : CRunInRange cfg ops) : ∀ bs ∈ g.flushes, ∀ b ∈ bs, b.length ≤ 1300 := by
  obtain ⟨t, ht, sim, -⟩ := behind cfg ops g hrg hg
  intro bs hbs b hb
  obtain ⟨bs0, hbs0, rfl⟩ := sim.mem_flushes hbs
  obtain ⟨b0, hb0, rfl⟩ := List.mem_map.mp hb
  rw [toNats_length]
  obtain ⟨news, hn, hall⟩ := MTr.flushes_all ops (MTr.init cfg) t ht
  rw [hn] at hbs0
  exact hall (fun t ops => EpGood t.c ∧ CRunInRangeFrom t ops) (fun bs => ∀ b ∈ bs, b.length ≤ NETCODE_MAX_PAYLOAD_BYTES)
    (fun _ _ _ _ h hs => ⟨epGood_step h.1 hs, (crunInRangeFrom_cons h.2 hs).2.2⟩)
    (fun _ _ _ _ _ h e => (flush_inRange h.1 h.2.1 e).2) ⟨epGood_init cfg, hrg.2⟩ bs0 hbs0 b0 hb0

/-- **C13 on the generated code, one flush.**  In every generated state `g` reached by ANY run (in range), the generated
    `get_packets_to_send` returns normally, every datagram it returns is at most 1300 bytes long, and it leaves the generated
    `connection_status` unchanged — in particular it never disconnects with `PacketSerialization`. -/
theorem src_flush_fits (cfg : Cfg) (ops : List COp) (g : GConn) (hg : GConn.exec cfg ops = some g)
    (hrg : CRunInRange cfg (ops ++ [.flush])) :
    ∃ g' bs, GConn.exec cfg (ops ++ [.flush]) = some g' ∧ g'.flushes = g.flushes ++ [bs] ∧ (∀ b ∈ bs, b.length ≤ 1300) ∧
      g'.cl.connection_status = g.cl.connection_status := by
  obtain ⟨t, c1, bs1, g', -, sim, hgood, hr, e1, e', sim', hfl⟩ := push_flush cfg ops g hrg hg
  obtain ⟨hst, h1⟩ := flush_inRange hgood hr e1
  refine ⟨g', _, e', hfl, fun b hb => ?_, by rw [sim'.status, sim.status]; exact congrArg _ hst⟩
  obtain ⟨b0, hb0, rfl⟩ := List.mem_map.mp hb
  rw [toNats_length]; exact h1 b0 hb0

/-! ## C12 — disconnected is absorbing -/

theorem mtr_disconnected_run (r : Reason) : ∀ (ext : List COp) (t t' : MTr), t.c.status = .disconnected r →
    t.run ext = some t' →
    t'.c.status = .disconnected r ∧ (∃ k, t'.flushes = t.flushes ++ List.replicate k []) ∧
      ∃ rs, t'.recvd = t.recvd ++ rs ∧ ∀ x ∈ rs, x.2 = none
  | [], t, t', h, hr => by cases hr; exact ⟨h, ⟨0, by simp⟩, [], by simp, fun _ hx => by cases hx⟩
  | op :: ext, t, t', h, hr => by
    obtain ⟨t1, hs, hr⟩ := MTr.run_cons hr
    obtain ⟨-, -, -, -, a5, -, a7, -⟩ := C12.disconnected_absorbing t.c r h
    obtain ⟨i1, ⟨k, i2⟩, rs, i3, i4⟩ := mtr_disconnected_run r ext t1 t'
      (C12.status_first_reason t.c t1.c op.toConnOp r (mtr_step_conn hs) h) hr
    refine ⟨i1, ?_, ?_⟩
    · cases MTr.Step.of hs with
      | flush hm =>
        rw [a7] at hm; cases hm
        exact ⟨k + 1, by rw [i2, List.append_assoc]; rfl⟩
      | _ => exact ⟨k, i2⟩
    · cases MTr.Step.of hs with
      | @recv ch _ _ hm =>
        rw [a5 ch] at hm; cases hm
        exact ⟨(ch, none) :: rs, by rw [i3, List.append_assoc]; rfl, fun x hx => (List.mem_cons.mp hx).elim (· ▸ rfl) (i4 x)⟩
      | _ => exact ⟨rs, i3, i4⟩

/-- **C12 on the generated code: disconnected is absorbing.**  Once the generated `is_disconnected` returns `true` (state `g`
    of ANY run), then after ANY further operations `ext` — status calls, further disconnects with other reasons, hostile or
    genuine packets, sends, clock steps — the generated `is_disconnected` still returns `true`, the generated
    `disconnect_reason` returns the SAME reason, every generated `get_packets_to_send` in `ext` returned NO packets and every
    generated `receive_message` in `ext` returned `None`.  (Transports `C12.disconnected_absorbing` / `status_monotone`.) -/
theorem src_disconnected_absorbing (cfg : Cfg) (ops ext : List COp) (g g' : GConn)
    (hg : GConn.exec cfg ops = some g) (hg' : GConn.exec cfg (ops ++ ext) = some g')
    (hrg : CRunInRange cfg (ops ++ ext))
    (hd : (RenetClient.is_disconnected g.cl : Res Empty Bool) = .ok true) :
    (RenetClient.is_disconnected g'.cl : Res Empty Bool) = .ok true ∧
    (RenetClient.disconnect_reason g'.cl : Res Empty _) = RenetClient.disconnect_reason g.cl ∧
    (∃ k, g'.flushes = g.flushes ++ List.replicate k []) ∧
    ∃ rs, g'.recvd = g.recvd ++ rs ∧ ∀ x ∈ rs, x.2 = none := by
  obtain ⟨t, t', -, ht', sim, sim', -, -⟩ := behind_ext cfg ops ext g g' hrg hg hg'
  rw [sim.isDisc] at hd
  obtain ⟨r, hst⟩ := (SL.Conn.isDisconnected_iff _).mp (Res.ok.inj hd)
  obtain ⟨i1, ⟨k, i2⟩, rs, i3, i4⟩ := mtr_disconnected_run r ext t t' hst ht'
  refine ⟨?_, ?_, ⟨k, ?_⟩, rs.map recvRepr, ?_, ?_⟩
  · rw [sim'.isDisc]; unfold Conn.isDisconnected; rw [i1]
  · rw [sim.reason, sim'.reason]; unfold Conn.disconnectReason; rw [i1, hst]
  · rw [sim'.flushes, sim.flushes, i2, List.map_append, List.map_replicate]; rfl
  · rw [sim'.recvd, sim.recvd, i3, List.map_append]
  · intro x hx
    obtain ⟨y, hy, rfl⟩ := List.mem_map.mp hx
    show (y.2.map toNats) = none
    rw [i4 y hy]; rfl

/-! ## C09 — memory counters within the configured maxima -/

/-- **C09 on the generated code.**  In every generated state reached by ANY run — hostile input included — every channel's
    `memory_usage_bytes` field is at most its `max_memory_usage_bytes` field, for all four channel tables of the generated
    struct.  (Transports `C06.memory_within_budget` / `C09.memory_exact_and_bounded`.) -/
theorem src_memory_within_budget (cfg : Cfg) (ops : List COp) (g : GConn) (hg : GConn.exec cfg ops = some g)
    (hrg : CRunInRange cfg ops) :
    (∀ ch s, RustSem.Map.find? g.cl.send_reliable_channels ch = some s → s.memory_usage_bytes ≤ s.max_memory_usage_bytes) ∧
    (∀ ch s, RustSem.Map.find? g.cl.send_unreliable_channels ch = some s → s.memory_usage_bytes ≤ s.max_memory_usage_bytes) ∧
    (∀ ch r, RustSem.Map.find? g.cl.receive_reliable_channels ch = some r → r.memory_usage_bytes ≤ r.max_memory_usage_bytes) ∧
    (∀ ch r, RustSem.Map.find? g.cl.receive_unreliable_channels ch = some r →
      r.memory_usage_bytes ≤ r.max_memory_usage_bytes) := by
  obtain ⟨t, -, sim, hgood⟩ := behind cfg ops g hrg hg
  obtain ⟨m1, m2, m3, m4⟩ := C06.memory_within_budget t.c (CI.sinv_inv hgood.sinv)
  refine ⟨fun ch s hf => ?_, fun ch s hf => ?_, fun ch r hf => ?_, fun ch r hf => ?_⟩
  · obtain ⟨sM, hm, rfl⟩ := map_eq_some' ((sim.sendRel ch).symm.trans hf); exact (m1 ch sM hm).2
  · obtain ⟨sM, hm, rfl⟩ := map_eq_some' ((sim.sendUnrel ch).symm.trans hf); exact (m2 ch sM hm).2
  · obtain ⟨mr, e⟩ := sim.recvRel ch
    obtain ⟨rM, hm, rfl⟩ := map_eq_some' (e.symm.trans hf); exact (m3 ch rM hm).2
  · obtain ⟨rM, hm, rfl⟩ := map_eq_some' ((sim.recvUnrel ch).symm.trans hf); exact (m4 ch rM hm).2

/-! ## C14 — the payload of one flush stays within `available_bytes_per_tick` -/

/-- **C14 on the generated code, one flush.**  In every generated state `g` reached by ANY run (in range), what the generated
    `get_packets_to_send` returns is the serialisation (`Conn.serialiseAll`, the model of `Packet::to_bytes`; byte for byte,
    `toNats`) of a packet list `pk` that carries at most `available_bytes_per_tick` (the field of the generated struct) bytes of
    message payload (`payloadSum`, the model's measure) and is numbered consecutively from the generated `packet_sequence` — or
    it returns nothing.  (Transports `C14.connection_budget` + `C14.flush_is_serialised` in the model theorems' own
    formulation.) -/
theorem src_flush_budget (cfg : Cfg) (ops : List COp) (g : GConn) (hg : GConn.exec cfg ops = some g)
    (hrg : CRunInRange cfg (ops ++ [.flush])) :
    ∃ g' bs pk, GConn.exec cfg (ops ++ [.flush]) = some g' ∧ g'.flushes = g.flushes ++ [bs] ∧
      payloadSum pk ≤ g.cl.available_bytes_per_tick ∧
      pk.map Packet.sequence = List.range' g.cl.packet_sequence pk.length ∧
      (bs = [] ∨ ∃ bs0, Conn.serialiseAll pk = .ok bs0 ∧ bs = bs0.map toNats) := by
  obtain ⟨t, c1, bs1, g', -, sim, hgood, hr, e1, e', -, hfl⟩ := push_flush cfg ops g hrg hg
  cases hd : t.c.isDisconnected with
  | true =>
    obtain ⟨r, hst⟩ := (SL.Conn.isDisconnected_iff _).mp hd
    rw [(C12.disconnected_absorbing t.c r hst).2.2.2.2.2.2.1] at e1; cases e1
    exact ⟨g', [], [], e', hfl, Nat.zero_le _, rfl, Or.inl rfl⟩
  | false =>
    obtain ⟨pk, hpk, hser⟩ := C14.flush_is_serialised t.c c1 bs1 hd e1
    obtain ⟨b1, b2⟩ := C14.connection_budget t.c pk (CI.flushInv_of hgood.sinv (countersOK_of_inRange hr)).rel.fit hpk
    refine ⟨g', _, pk, e', hfl, by rw [sim.budget]; exact b1, by rw [sim.seq]; exact b2, ?_⟩
    rcases hser with h | ⟨h, -⟩
    · exact Or.inr ⟨bs1, h, rfl⟩
    · left; rw [h]; rfl

/-! ## non-vacuity: a trace with hostile bytes, executed by the kernel ON THE GENERATED CODE

  The configuration and the packets of `C06.Ex`: three channels (0 ReliableOrdered, 1 ReliableUnordered, 2 Unreliable).  A live
  phase `ops1` (sends, a sliced message, genuine packets, partial reassembly, two flushes, receives, a clock step), then hostile
  input: an Ack packet with an absurd range, a slice with an index beyond its announced count (`hostileSlice`: the generated
  code disconnects with `ReceiveChannelError(1, InvalidSliceMessage)`), garbage (`PacketDeserialization`), and a trace `ext` on
  the disconnected connection. -/
namespace Ex
abbrev cfg : Cfg := ⟨60000, C06.Ex.cfg, C06.Ex.cfg⟩
abbrev ops1 : List COp :=
  [.setConnected, .send 0 [1, 2, 3], .send 0 C06.Ex.big, .send 2 [9, 9], .process C06.Ex.relSlice, .process C06.Ex.unrelSlice,
   .process C06.Ex.smallPkt, .flush, .recv 0, .recv 0, .send 2 [4, 4, 4], .update 5, .flush]
/-- an Ack packet acknowledging the sequences 0 … 2^64 - 2 (never sent) -/
abbrev hugeAck : Bytes := [0, 0, 0, 0, 0, 255, 255, 255, 255, 255, 255, 255, 255, 1]
abbrev opsH : List COp := ops1 ++ [.process hugeAck, .process C06.Ex.garbage]
abbrev ext : List COp :=
  [.setConnected, .flush, .recv 0, .process C06.Ex.smallPkt, .process C06.Ex.hostileSlice, .disconnectTransport, .send 0 [1],
   .update 3, .setConnecting, .flush, .recv 1]

def gzero : GConn := ⟨reprConn (fun _ => 0) (Conn.fromChannels 0 [] []), [], []⟩
def g1 : GConn := (GConn.exec cfg ops1).getD gzero
def gH : GConn := (GConn.exec cfg opsH).getD gzero
def gE : GConn := (GConn.exec cfg (opsH ++ ext)).getD gzero

/-- the whole scenario in ONE kernel evaluation.  On the model: the range side condition of the whole trace and of the live
    phase followed by garbage, by the hostile slice, by one more flush.  On the generated code: the three runs return normally;
    the datagram sizes of the two flushes of the live phase, the outputs of `receive_message`, the status after the live phase,
    after the absurd Ack and the garbage, and at the end; an invalid channel id is the documented panic; the generated
    `is_disconnected` after the garbage; the memory accounts after the live phase (two messages unacknowledged, two partial
    reassemblies) -/
theorem all :
    (CRunInRange cfg (opsH ++ ext) ∧ CRunInRange cfg (ops1 ++ [.process C06.Ex.garbage]) ∧
      CRunInRange cfg (ops1 ++ [.process C06.Ex.hostileSlice]) ∧ CRunInRange cfg (ops1 ++ [.flush])) ∧
    ((GConn.exec cfg ops1).isSome = true ∧ (GConn.exec cfg opsH).isSome = true ∧
      (GConn.exec cfg (opsH ++ ext)).isSome = true) ∧
    (g1.flushes.map (·.map List.length) = [[1208, 8, 10, 8, 5], [9, 5]] ∧ g1.recvd = [(0, some [7, 7]), (0, none)] ∧
      g1.cl.connection_status = .Connected ∧
      (GConn.exec cfg (ops1 ++ [.process hugeAck])).map (·.cl.connection_status) = some .Connected ∧
      gH.cl.connection_status = .Disconnected (.PacketDeserialization .InvalidPacketType) ∧
      gE.cl.connection_status = .Disconnected (.PacketDeserialization .InvalidPacketType) ∧
      gE.flushes.map (·.map List.length) = [[1208, 8, 10, 8, 5], [9, 5], [], []] ∧
      (GConn.exec cfg (ops1 ++ [.process C06.Ex.hostileSlice])).map (·.cl.connection_status) =
        some (.Disconnected (.ReceiveChannelError 1 .InvalidSliceMessage))) ∧
    GConn.exec cfg (ops1 ++ [.send 7 [1]]) = none ∧
    (RenetClient.is_disconnected gH.cl : Res Empty Bool) = .ok true ∧
    ((RustSem.Map.find? g1.cl.send_reliable_channels 0).map (fun s => (s.memory_usage_bytes, s.max_memory_usage_bytes)) =
        some (1204, 10000) ∧
      (RustSem.Map.find? g1.cl.receive_reliable_channels 1).map (fun r => (r.memory_usage_bytes, r.max_memory_usage_bytes)) =
        some (2400, 10000)) := by
  decide +kernel

theorem inRange : CRunInRange cfg (opsH ++ ext) := all.1.1
theorem valid : ∀ op ∈ opsH ++ ext, COpValid cfg op := by decide +kernel

example : ∃ g, GConn.exec cfg (opsH ++ ext) = some g := src_never_panics cfg _ valid inRange

theorem grun1 : GConn.exec cfg ops1 = some g1 := some_getD all.2.1.1 _
theorem grunH : GConn.exec cfg opsH = some gH := some_getD all.2.1.2.1 _
theorem grunE : GConn.exec cfg (opsH ++ ext) = some gE := some_getD all.2.1.2.2 _

theorem gfacts :
    g1.flushes.map (·.map List.length) = [[1208, 8, 10, 8, 5], [9, 5]] ∧ g1.recvd = [(0, some [7, 7]), (0, none)] ∧
    g1.cl.connection_status = .Connected ∧
    (GConn.exec cfg (ops1 ++ [.process hugeAck])).map (·.cl.connection_status) = some .Connected ∧
    gH.cl.connection_status = .Disconnected (.PacketDeserialization .InvalidPacketType) ∧
    gE.cl.connection_status = .Disconnected (.PacketDeserialization .InvalidPacketType) ∧
    gE.flushes.map (·.map List.length) = [[1208, 8, 10, 8, 5], [9, 5], [], []] ∧
    (GConn.exec cfg (ops1 ++ [.process C06.Ex.hostileSlice])).map (·.cl.connection_status) =
      some (.Disconnected (.ReceiveChannelError 1 .InvalidSliceMessage)) :=
  all.2.2.1

example : GConn.exec cfg (ops1 ++ [.send 7 [1]]) = none := all.2.2.2.1

example : ∃ g', GConn.exec cfg (ops1 ++ [.process C06.Ex.garbage]) = some g' ∧ g'.flushes = g1.flushes ∧ g'.recvd = g1.recvd ∧
    (g'.cl.connection_status = g1.cl.connection_status ∨ (RenetClient.is_disconnected g'.cl : Res Empty Bool) = .ok true) :=
  src_hostile_bytes_total cfg ops1 g1 grun1 C06.Ex.garbage all.1.2.1
example : ∃ g', GConn.exec cfg (ops1 ++ [.process C06.Ex.hostileSlice]) = some g' ∧ g'.flushes = g1.flushes ∧
    g'.recvd = g1.recvd ∧
    (g'.cl.connection_status = g1.cl.connection_status ∨ (RenetClient.is_disconnected g'.cl : Res Empty Bool) = .ok true) :=
  src_hostile_bytes_total cfg ops1 g1 grun1 C06.Ex.hostileSlice all.1.2.2.1

example : ∀ bs ∈ gE.flushes, ∀ b ∈ bs, b.length ≤ 1300 := src_datagrams_fit cfg _ gE grunE inRange
example : ∃ g' bs, GConn.exec cfg (ops1 ++ [.flush]) = some g' ∧ g'.flushes = g1.flushes ++ [bs] ∧
    (∀ b ∈ bs, b.length ≤ 1300) ∧ g'.cl.connection_status = g1.cl.connection_status :=
  src_flush_fits cfg ops1 g1 grun1 all.1.2.2.2

example : (RenetClient.is_disconnected gE.cl : Res Empty Bool) = .ok true ∧
    (RenetClient.disconnect_reason gE.cl : Res Empty _) = RenetClient.disconnect_reason gH.cl ∧
    (∃ k, gE.flushes = gH.flushes ++ List.replicate k []) ∧
    ∃ rs, gE.recvd = gH.recvd ++ rs ∧ ∀ x ∈ rs, x.2 = none :=
  src_disconnected_absorbing cfg opsH ext gH gE grunH grunE inRange all.2.2.2.2.1

example : ∀ ch s, RustSem.Map.find? g1.cl.send_reliable_channels ch = some s → s.memory_usage_bytes ≤ s.max_memory_usage_bytes :=
  (src_memory_within_budget cfg ops1 g1 grun1 (crunInRange_prefix cfg ops1 _ all.1.2.2.2)).1
example : (RustSem.Map.find? g1.cl.send_reliable_channels 0).map (fun s => (s.memory_usage_bytes, s.max_memory_usage_bytes)) =
      some (1204, 10000) ∧
    (RustSem.Map.find? g1.cl.receive_reliable_channels 1).map (fun r => (r.memory_usage_bytes, r.max_memory_usage_bytes)) =
      some (2400, 10000) := all.2.2.2.2.2

example : ∃ g' bs pk, GConn.exec cfg (ops1 ++ [.flush]) = some g' ∧ g'.flushes = g1.flushes ++ [bs] ∧
    payloadSum pk ≤ g1.cl.available_bytes_per_tick ∧
    pk.map Packet.sequence = List.range' g1.cl.packet_sequence pk.length ∧
    (bs = [] ∨ ∃ bs0, Conn.serialiseAll pk = .ok bs0 ∧ bs = bs0.map toNats) :=
  src_flush_budget cfg ops1 g1 grun1 all.1.2.2.2

end Ex

/-
  Elsewhere on the generated code: C08 — Props/SrcPropsConnTraceC08.lean; C15 / C15A — Props/SrcPropsConnTraceC15.lean; C14 through
  the generated decoder (`src_flush_budget_decoded`) — Props/SrcPropsConnTraceWF.lean; whole-trace status causes
  (`src_flush_never_changes_status`, `src_disconnect_has_cause`) and "panics only on an invalid channel id" as an equivalence for a
  single call (`src_step_panics_iff`) — Props/SrcPropsConnTraceMore.lean.
-/

end RenetVerif.SrcPropsConnTrace
