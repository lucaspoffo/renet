/-
  Source tie, group NcToken: `renetcode/src/packet.rs` `ChallengeToken::{new, read, write}` over the cursor models
  ↔ the reader / writer steps of `Netcode.ChallengeToken.{decode, generate}` (`readCT` = `readU64` then
  `readN NETCODE_USER_DATA_BYTES`; `writeCT` = `Wr.writeAll (leBytes client_id 8)` then `Wr.writeAll user_data`).
  (`ConnectToken` / `PrivateConnectToken`: `Props/SrcTieNcConnToken.lean`; the server addresses:
  `Props/SrcTieNcAddr.lean`; `Packet::{write, read}`: `Props/SrcTieNcPacket.lean`.)
-/
import RenetVerif.Lemmas.SrcEquiv.NcToken
import RenetVerif.Props.SrcTieNcSerialize
namespace RenetVerif.SrcTie
open RenetVerif RenetVerif.SrcEquiv RenetVerif.RustSem Netcode

/-- `ChallengeToken::read` at any cursor position -/
theorem nc_challenge_token_read (buf rest : Bytes) (h : rest <:+ buf) :
    Src.renetcode.packet.ChallengeToken.read (rcur buf rest) = rdRes buf reprCT (readCT rest) := by
  unfold Src.renetcode.packet.ChallengeToken.read readCT
  simp only [(nc_read_uN _ _ h).1, Exec.bind_eq, Exec.pure_eq]
  cases h1 : readU64 rest with
  | none => rfl
  | some x =>
    obtain ⟨cid, r1⟩ := x
    have hs1 : r1 <:+ buf := (readU_suffix h1).trans h
    simp only [rdRes, Exec.callFrom_ok, Exec.bind_val', id, nc_read_bytes _ _ hs1,
      show Src.renetcode.NETCODE_USER_DATA_BYTES = C.NETCODE_USER_DATA_BYTES from rfl]
    cases h2 : readN C.NETCODE_USER_DATA_BYTES r1 with
    | none => rfl
    | some y => obtain ⟨ud, r2⟩ := y; rfl

/-- `ChallengeToken::write` at any cursor position: both `write_all`s as in the model; on `WriteZero` the error
    carries the cursor filled to the end of the buffer (`wfull`) -/
theorem nc_challenge_token_write (w : Wr) (tail : List Nat) (h : WrOk w tail) (t : Netcode.ChallengeToken) :
    Src.renetcode.packet.ChallengeToken.write (reprCT t) (wcur w tail) =
      match w.writeAll (leBytes t.clientId 8) with
      | none => .err (.opaque, wfull w tail (leBytes t.clientId 8))
      | some w1 =>
        match w1.writeAll t.userData with
        | none => .err (.opaque, wfull w1 (tail.drop 8) t.userData)
        | some w' => .ok (wcur w' (tail.drop (8 + t.userData.length)), ()) := by
  unfold Src.renetcode.packet.ChallengeToken.write
  simp only [reprCT, to_le_bytes64, Exec.bind_eq, Exec.pure_eq, (wcur_write_all h _).1]
  cases h1 : w.writeAll (leBytes t.clientId 8) with
  | none => rfl
  | some w1 =>
    have hok1 := (wcur_write_all h (leBytes t.clientId 8)).2 w1 h1
    rw [NcAead.leBytes_length] at hok1
    simp only [Exec.callFrom_ok, Exec.bind_val', NcAead.leBytes_length, (wcur_write_all hok1 _).1]
    cases h2 : w1.writeAll t.userData with
    | none => rfl
    | some w2 =>
      simp only [Exec.callFrom_ok, Exec.bind_val', Exec.run_val, List.drop_drop]

/-- … it fails exactly when the model writer `writeCT` fails -/
theorem nc_challenge_token_write_fails_iff (w : Wr) (tail : List Nat) (h : WrOk w tail) (t : Netcode.ChallengeToken) :
    (∃ e, Src.renetcode.packet.ChallengeToken.write (reprCT t) (wcur w tail) = .err e) ↔ writeCT t w = none := by
  rw [nc_challenge_token_write _ _ h t]
  unfold writeCT
  cases w.writeAll (leBytes t.clientId 8) with
  | none => simp
  | some w1 =>
    simp only
    cases w1.writeAll t.userData <;> simp

theorem nc_challenge_token_new {ε : Type} (clientId : Nat) (userData : Bytes) :
    (Src.renetcode.packet.ChallengeToken.new clientId (toNats userData) : Res ε _) = .ok (reprCT ⟨clientId, userData⟩) := rfl

example : Src.renetcode.packet.ChallengeToken.write ⟨0x0102, [7, 8]⟩ (WriteCursor.new (List.replicate 12 0)) =
    .ok (⟨[2, 1, 0, 0, 0, 0, 0, 0, 7, 8, 0, 0], 10⟩, ()) := by decide +kernel
example : Src.renetcode.packet.ChallengeToken.write ⟨0x0102, [7, 8]⟩ (WriteCursor.new (List.replicate 9 0)) =
    .err (.opaque, ⟨[2, 1, 0, 0, 0, 0, 0, 0, 7], 9⟩) := by
  decide +kernel
example : Src.renetcode.packet.ChallengeToken.read (ReadCursor.new (List.replicate 263 0)) =
    .err (.opaque, ⟨List.replicate 263 0, 263⟩) := by
  decide +kernel
example : Src.renetcode.packet.ChallengeToken.read (ReadCursor.new ([5, 0, 0, 0, 0, 0, 0, 0] ++ List.replicate 256 3)) =
    .ok (⟨[5, 0, 0, 0, 0, 0, 0, 0] ++ List.replicate 256 3, 264⟩, ⟨5, List.replicate 256 3⟩) := by decide +kernel

end RenetVerif.SrcTie
