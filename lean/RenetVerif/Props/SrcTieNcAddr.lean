/-
  Source tie, group NcAddr: `renetcode/src/token.rs` `write_server_addresses` / `read_server_addresses`
  ↔ `Netcode.writeServerAddresses` / `Netcode.readServerAddresses` of `Netcode/Token.lean`.

  `reprAddrs` maps the model's `[Option<Addr>; 32]` to the generated `List (Option RustSem.SocketAddr)` (`std::net` model of
  `RustSem.lean`: `SocketAddr::V4(a)` / `V6(a)`, `a.ip().octets()`, `port()`, `SocketAddr::new(IpAddr::V4(Ipv4Addr::from(ip)), port)`).
  Both functions are stated over the `io::Cursor` models with the state carried by an `Err` forgotten (`Res.forget`;
  the model does not track the cursor after an `io::Error`): `wcur w tail` is the write cursor after the model writer `w`,
  `rcur buf rest` the read cursor over `buf` whose unread rest is `rest`.
  The reader covers every announced count: more than 32 records are clamped by `.take(n)` on the 32-slot array
  (`min num 32` rounds), an `NETCODE_ADDRESS_NONE` / unknown type byte and an empty first slot are `io::Error`s.
-/
import RenetVerif.Lemmas.SrcEquiv.NcAddr
import RenetVerif.Props.SrcTieNcSerialize
namespace RenetVerif.SrcTie
open RenetVerif RenetVerif.SrcEquiv RenetVerif.RustSem
open Src.renetcode.token

/-- `write_server_addresses`: the cursor of the model writer, or `io::Error` exactly when the model writer fails -/
theorem nc_addr_write {w : Netcode.Wr} {tail : List Nat} (h : WrOk w tail) (addrs : Netcode.AddrArray)
    (hlen : addrs.length < 2 ^ 32) :
    (write_server_addresses (wcur w tail) (reprAddrs addrs)).forget =
      match Netcode.writeServerAddresses w addrs with
      | some w' => .ok (wcur w' (tail.drop (addrsBytes addrs).length), ())
      | none => .err .opaque := by
  rw [write_server_addresses_forget _ (cinv_wcur _ _) _ hlen, wres_wcur h, writeServerAddresses_eq]
  cases w.writeAll (addrsBytes addrs) <;> rfl

open Netcode in
/-- `read_server_addresses` on any input: the model's array and rest, or `io::Error` exactly when the model reader fails -/
theorem nc_addr_read {rest buf : Bytes} (h : rest <:+ buf) :
    (read_server_addresses (rcur buf rest)).forget = rdF buf reprAddrs (Netcode.readServerAddresses rest) := by
  unfold read_server_addresses readServerAddresses
  simp only [Exec.bind_eq, Exec.pure_eq]
  rw [Exec.forget_run]
  simp only [Exec.forget_bind, Exec.forget_val, forRange_forget, Exec.forget_ite, Exec.forget_err, forget_index]
  rw [step_rd (forget_of_rdRes (nc_read_uN _ _ h).2.1) kerr_io]
  rcases h1 : readU32 rest with _ | ⟨num, r1⟩
  · rfl
  have hs1 : r1 <:+ buf := readU_suffix_buf h1 h
  have hnum : num < 2 ^ 64 := Nat.lt_of_lt_of_le (NcAead.readU_iff.1 h1).1 (by decide)
  have h0 : ((RustSem.repeat_ (none : Option SocketAddr) 32, rcur buf r1) : List (Option SocketAddr) × ReadCursor)
      = addrSt buf [] 0 r1 := rfl
  simp only [id, RustSem.forRange, Nat.sub_zero, len_repeat, cast_of_lt hnum, h0]
  rw [addr_loop buf _ ?hb (Nat.min num 32) 0 [] r1 rfl (by rw [Nat.zero_add]; exact Nat.min_le_right num 32) hs1]
  case hb =>
    intro i done rs hd hi hs
    simp only [addrSt]
    rw [step_rd (forget_of_rdRes (nc_read_uN _ _ hs).2.2.2) kerr_io]
    unfold NcAead.Token.readAddr
    rcases h8 : readU8 rs with _ | ⟨ty, r2⟩
    · rfl
    have hs2 : r2 <:+ buf := readU_suffix_buf h8 hs
    simp only [id, show Src.renetcode.NETCODE_ADDRESS_IPV4 = C.NETCODE_ADDRESS_IPV4 from rfl,
      show Src.renetcode.NETCODE_ADDRESS_IPV6 = C.NETCODE_ADDRESS_IPV6 from rfl,
      show Src.renetcode.NETCODE_ADDRESS_NONE = C.NETCODE_ADDRESS_NONE from rfl, bind, Option.bind_some]
    by_cases h4 : ty = C.NETCODE_ADDRESS_IPV4
    · simp only [h4, decide_true, if_true]
      rw [step_rd (read_exact_forget hs2 4) kerr_io]
      rcases h2 : readN 4 r2 with _ | ⟨ip, r3⟩
      · rfl
      simp only [Option.bind_some]
      rw [step_rd (forget_of_rdRes (nc_read_uN _ _ (readN_suffix' h2 hs2)).2.2.1) kerr_io]
      rcases readU16 r3 with _ | ⟨port, r4⟩
      · rfl
      simp only [id, set_addrs done i hd hi, Exec.forget_val, Exec.bind_val', SocketAddr.new]
      simp [reprAddrs, reprAddr]
    simp only [h4, decide_false, Bool.false_eq_true, if_false]
    by_cases h6 : ty = C.NETCODE_ADDRESS_IPV6
    · simp only [h6, decide_true, if_true]
      rw [step_rd (read_exact_forget hs2 16) kerr_io]
      rcases h2 : readN 16 r2 with _ | ⟨ip, r3⟩
      · rfl
      simp only [Option.bind_some]
      rw [step_rd (forget_of_rdRes (nc_read_uN _ _ (readN_suffix' h2 hs2)).2.2.1) kerr_io]
      rcases readU16 r3 with _ | ⟨port, r4⟩
      · rfl
      simp only [id, set_addrs done i hd hi, Exec.forget_val, Exec.bind_val', SocketAddr.new]
      simp [reprAddrs, reprAddr]
    simp only [h6, decide_false, Bool.false_eq_true, if_false]
    split <;> rfl
  have hk32 : Nat.min num 32 ≤ 32 := Nat.min_le_right num 32
  simp only [show C.NETCODE_TOKEN_MAX_ADDRESSES = 32 from rfl, bind, Option.bind_some, List.nil_append, Nat.zero_add,
    show min num 32 = Nat.min num 32 from rfl]
  generalize Nat.min num 32 = k at hk32
  cases k with
  | zero =>
    simp [readAddrLoop, addrSt, reprAddrs, Exec.bind_val', RustSem.index, Exec.bind_err', Exec.run_err, rdF]
  | succ k =>
    rw [NcAead.Token.readAddrLoop_succ]
    rcases NcAead.Token.readAddr r1 with _ | ⟨a, r2⟩
    · rfl
    simp only [bind, Option.bind_some]
    rcases hl : readAddrLoop k r2 with _ | ⟨l, r3⟩
    · rfl
    simp [addrSt, reprAddrs, Exec.bind_val', RustSem.index, Exec.run_val, rdF, (readAddrLoop_spec k r2 l r3 hl).1]

/-- one IPv4 address `127.0.0.1:5000` (0x1388) -/
example : write_server_addresses ⟨List.replicate 12 0, 0⟩ (some (.v4 [127, 0, 0, 1] 5000) :: List.replicate 31 none) =
    .ok (⟨[1, 0, 0, 0, 1, 127, 0, 0, 1, 0x88, 0x13, 0], 11⟩, ()) := by decide +kernel
example : read_server_addresses ⟨[1, 0, 0, 0, 1, 127, 0, 0, 1, 0x88, 0x13, 99], 0⟩ =
    .ok (⟨[1, 0, 0, 0, 1, 127, 0, 0, 1, 0x88, 0x13, 99], 11⟩,
         some (.v4 [127, 0, 0, 1] 5000) :: List.replicate 31 none) := by decide +kernel
/-- an announced count of 33 is clamped to the 32 slots: the 33rd record is not read (and nothing is indexed out of
    range); the cursor stops after 4 + 32 * 7 bytes -/
example : mapRes (fun x => (x.1.pos, x.2)) (fun e => e.1)
      (read_server_addresses ⟨[33, 0, 0, 0] ++ (List.replicate 33 [1, 10, 0, 0, 1, 1, 0]).flatten, 0⟩) =
    .ok (228, List.replicate 32 (some (.v4 [10, 0, 0, 1] 1))) := by decide +kernel
/-- an empty slot inside the announced addresses is an error -/
example : (read_server_addresses ⟨[1, 0, 0, 0, 0], 0⟩).forget = .err .opaque := by decide +kernel
/-- no address at all is an error -/
example : (read_server_addresses ⟨[0, 0, 0, 0], 0⟩).forget = .err .opaque := by decide +kernel

end RenetVerif.SrcTie
