/-
  C20M — THE FULL STACK WITH SEVERAL CLIENTS, ABOUT THE GENERATED CODE, part 2 (part 1:
  `Props/SrcPropsFullStackMulti.lean`) — `unordered_once`, the lock-step statements, the frame statement and the
  broadcast statements of `Props/C20M.lean`, on runs of the generated several-client stack `GMS`
  (generated `NetcodeClientTransport` + `RenetClient` twice, generated `NetcodeServerTransport` + `RenetServer`).

  READING THE GENERATED STATE (`Lemmas/SrcEquiv/SrcFullStackMulti2.lean`):
    `GLockStep g`      the generated `NetcodeServer::clients_id(&g.ts.netcode_server)` returns a duplicate-free list `ids`, the
                       generated `RenetServer`'s connection table `g.rs.connections` has exactly the keys `ids`
                       (`contains_key`), and the generated `RenetServer::clients_id(&g.rs)` (the connected entries) returns
                       members of `ids` only;
    `GNoDead g`        the generated `RenetServer::disconnections_id(&g.rs)` returns the empty list;
    `GSameForCid cid g g'`   the generated client transport `tc`, the generated `RenetClient` `rc`, the WHOLE generated
                       `NetcodeServerTransport` `ts` (so, in particular, the slot of `cid`), `cid`'s entry of the generated
                       `RenetServer` table (`gconn? rs cid` = `Map.find? rs.connections cid`), the socket histories and the six
                       ghost logs are equal; the ghost `ySeq` is compared through `gtrackSeq` as in the model.

  Hypotheses: those of `SrcPropsFullStackMulti.lean` (`MSGood ms0`, `SimMS ms0 gm0`: the generated start state represents a
  model state satisfying the model invariants; `MSRunOK`: the decidable range / local side condition along the run).
  The lock-step theorems take `GLockStep gm0.g` — a statement about the GENERATED start state — and no model-level lock-step;
  `src_multi_unordered_once` takes what `src_multi_ordered_prefix` takes.  The frame and broadcast theorems need neither
  `Established` nor the run hypotheses `MNoForgeryRunD` / `MSingleSessionRun`.
-/
import RenetVerif.Lemmas.SrcEquiv.SrcFullStackMulti2
namespace RenetVerif.SrcPropsFullStackMulti2
open RenetVerif C RenetVerif.RustSem RenetVerif.System RenetVerif.Netcode RenetVerif.Transport RenetVerif.FullStack
  RenetVerif.FullStackMulti
open RenetVerif.SrcEquiv RenetVerif.SrcSystem RenetVerif.SrcMulti RenetVerif.SrcFullStack RenetVerif.SrcPropsFullStackMulti
  RenetVerif.SrcFullStackMulti2
open Src.renet.remote_connection Src.renet.server Src.renet_netcode.server Src.renet_netcode.client

/-- **C02, several clients, generated code.**  After every run of the generated several-client stack from (the representation
    of) a state in which `cid`'s session is established: on every ReliableUnordered channel of `cid`'s link, in either
    direction, the messages the generated receiver handed to its application are the messages submitted to the generated
    sender at pairwise distinct positions of the submission log — whatever the other generated client, the generated
    `RenetServer`'s per-id calls and broadcasts, and the adversary do. -/
theorem src_multi_unordered_once (a : AEAD) (hl : a.Laws) (cfg : Cfg) (cid : Nat) (ms0 : MS) (gm0 gm : GMS) (ops : List MOp)
    (he : Established cfg cid ms0.fs) (hgood : MSGood ms0) (hsim : SimMS ms0 gm0) (hr : gm0.run a cid ops = some gm)
    (hok : MSRunOK a cid ms0 ops) (hnf : MNoForgeryRunD a cid ms0 (ops.map cutMOp))
    (hss : MSingleSessionRun a cid ms0 (ops.map cutMOp)) :
    (GCountersUp cfg gm.g → ∀ ch, cfg.Unordered ch →
      ∃ ids : List Nat, ids.Nodup ∧ (gm.g.obtS ch).map some = ids.map (fun id => (gm.g.subC ch)[id]?)) ∧
    (GCountersDown cfg gm.g → ∀ ch, (Cfg.swap cfg).Unordered ch →
      ∃ ids : List Nat, ids.Nodup ∧ (gm.g.obtC ch).map some = ids.map (fun id => (gm.g.subS ch)[id]?)) :=
  let h := src_multi hl he hgood hsim hr hok hnf hss
  ⟨fun hc => (h.1 hc).2.1, fun hc => (h.2 hc).2.1⟩

/-- **Lock-step with several clients, generated code.**  If at the start the generated `NetcodeServer::clients_id` and the
    keys of the generated `RenetServer`'s connection table agree (`GLockStep gm0.g`), they agree after EVERY run of the
    generated several-client stack — whatever mix of handshakes, disconnects, broadcasts and per-client calls — and the
    generated `RenetServer::clients_id` returns members of that list only. -/
theorem src_multi_lockstep (a : AEAD) (hl : a.Laws) (cid : Nat) (ms0 : MS) (gm0 gm : GMS) (ops : List MOp)
    (hgood : MSGood ms0) (hsim : SimMS ms0 gm0) (hok : MSRunOK a cid ms0 ops) (hk : GLockStep gm0.g)
    (hr : gm0.run a cid ops = some gm) : GLockStep gm.g := by
  obtain ⟨ms, hm, sim, -⟩ := mrun_gsim_conv a hl cid ops ms0 gm0 gm hgood hsim hok hr
  exact glockStep_of sim.fs (C20M.multi_lockstep a cid ms0 ms _ (lockStep_of_g hsim.fs hgood.fs hk) hm)

/-- … for the observed client: it has an entry in the generated `RenetServer` table exactly when the generated
    `NetcodeServer::clients_id` lists it -/
theorem src_multi_lockstep_cid (a : AEAD) (hl : a.Laws) (cid : Nat) (ms0 : MS) (gm0 gm : GMS) (ops : List MOp)
    (hgood : MSGood ms0) (hsim : SimMS ms0 gm0) (hok : MSRunOK a cid ms0 ops) (hk : GLockStep gm0.g)
    (hr : gm0.run a cid ops = some gm) :
    ∃ ids, (Src.renetcode.server.NetcodeServer.clients_id gm.g.ts.netcode_server : Res Empty _) = .ok ids ∧
      ((gconn? gm.g.rs cid).isSome = true ↔ cid ∈ ids) := by
  obtain ⟨ids, h1, -, h3, -⟩ := src_multi_lockstep a hl cid ms0 gm0 gm ops hgood hsim hok hk hr
  exact ⟨ids, h1, h3 cid⟩

/-- … and right after every generated `NetcodeServerTransport::update` the generated `RenetServer::disconnections_id` is
    empty: no disconnected connection remains in the generated table, for whichever client -/
theorem src_multi_lockstep_after_update (a : AEAD) (hl : a.Laws) (cid : Nat) (ms0 : MS) (gm0 gm : GMS) (ops : List MOp)
    (d : Nat) (inbox : List Dgram) (hgood : MSGood ms0) (hsim : SimMS ms0 gm0)
    (hok : MSRunOK a cid ms0 (ops ++ [.base (.srvUpdate d inbox)])) (hk : GLockStep gm0.g)
    (hr : gm0.run a cid (ops ++ [.base (.srvUpdate d inbox)]) = some gm) : GLockStep gm.g ∧ GNoDead gm.g := by
  obtain ⟨ms, hm, sim, -⟩ := mrun_gsim_conv a hl cid _ ms0 gm0 gm hgood hsim hok hr
  rw [List.map_append] at hm
  obtain ⟨q1, q2⟩ := C20M.multi_lockstep_after_update a cid ms0 ms (ops.map cutMOp) d
    (inbox.map (recvFrom C.TRANSPORT_SERVER_BUFFER)) (lockStep_of_g hsim.fs hgood.fs hk) hm
  exact ⟨glockStep_of sim.fs q1, gnoDead_of sim.fs q1.sorted q2⟩

/-- **Frame, generated code.**  At any moment of a generated run: the generated `send_message(id, …)`,
    `receive_message(id, …)`, `disconnect(id)` for `id ≠ cid`, the generated `broadcast_message_except(cid, …)` and every
    generated call of the other client (`RenetClient::{send_message, receive_message, update, disconnect}`,
    `NetcodeClientTransport::{update, send_packets, disconnect}`) leave the observed client's generated transport and
    `RenetClient`, the generated `NetcodeServerTransport` (all slots), `cid`'s entry of the generated `RenetServer` table, the
    histories and the ghost logs exactly as they were. -/
theorem src_others_do_not_disturb (a : AEAD) (hl : a.Laws) (cid : Nat) (ms0 : MS) (gm0 gm gm' : GMS) (ops : List MOp) (op : MOp)
    (hgood : MSGood ms0) (hsim : SimMS ms0 gm0) (hok : MSRunOK a cid ms0 (ops ++ [op]))
    (hr : gm0.run a cid ops = some gm) (ho : isOther cid op = true) (hs : gm.step a cid op = some gm') :
    GSameForCid cid gm.g gm'.g := by
  have hok1 : MSRunOK a cid ms0 ops := msRunOK_prefix a cid ops _ ms0 hok
  obtain ⟨ms, hm, sim, hg⟩ := mrun_gsim_conv a hl cid ops ms0 gm0 gm hgood hsim hok1 hr
  obtain ⟨-, hrg, -⟩ := msRunOK_snoc a cid ops ms0 ms _ hok hm
  exact gother_frame a cid hg sim op hrg ho hs

/-- … and, the other way round, every operation that is not the other client's leaves the other generated client
    (transport and `RenetClient`) unchanged — no hypothesis at all -/
theorem src_other_client_undisturbed (a : AEAD) (cid : Nat) (gm gm' : GMS) (op : MOp) (h : othAsCli op = none)
    (hs : gm.step a cid op = some gm') : gm'.to = gm.to ∧ gm'.ro = gm.ro := by
  cases op <;> simp only [othAsCli, reduceCtorEq] at h <;> simp only [GMS.step] at hs
  case base op => split at hs <;> cases hs; exact ⟨rfl, rfl⟩
  case srvSendTo id ch m =>
    split at hs
    · split at hs <;> cases hs; exact ⟨rfl, rfl⟩
    · split at hs <;> cases hs; exact ⟨rfl, rfl⟩
  case srvRecvFrom id ch =>
    split at hs
    · split at hs <;> cases hs; exact ⟨rfl, rfl⟩
    · split at hs <;> cases hs; exact ⟨rfl, rfl⟩
  case srvDisconnectId id =>
    split at hs
    · split at hs <;> cases hs; exact ⟨rfl, rfl⟩
    · split at hs <;> cases hs; exact ⟨rfl, rfl⟩
  case srvBroadcast ch m => split at hs <;> cases hs; exact ⟨rfl, rfl⟩
  case srvBroadcastExcept ex ch m => split at hs <;> cases hs; exact ⟨rfl, rfl⟩

/-- **A generated broadcast is, for `cid`, exactly the generated `send_message(cid, …)`.**  Whenever the generated
    `RenetServer::broadcast_message(ch, m)` returns, the generated `RenetServer::send_message(cid, ch, m)` from the same
    generated state returns too, and the two resulting generated states are the same as far as `cid` is concerned. -/
theorem src_broadcast_is_send (a : AEAD) (hl : a.Laws) (cid : Nat) (ms0 : MS) (gm0 gm gm' : GMS) (ops : List MOp) (ch : Nat)
    (m : Bytes) (hgood : MSGood ms0) (hsim : SimMS ms0 gm0) (hok : MSRunOK a cid ms0 (ops ++ [.srvBroadcast ch m]))
    (hr : gm0.run a cid ops = some gm) (hs : gm.step a cid (.srvBroadcast ch m) = some gm') :
    ∃ g1, gm.g.step a cid (.srvSend ch m) = some g1 ∧ GSameForCid cid g1 gm'.g := by
  have hok1 : MSRunOK a cid ms0 ops := msRunOK_prefix a cid ops _ ms0 hok
  obtain ⟨ms, hm, sim, hg⟩ := mrun_gsim_conv a hl cid ops ms0 gm0 gm hgood hsim hok1 hr
  obtain ⟨-, hrg, -⟩ := msRunOK_snoc a cid ops ms0 ms _ hok hm
  exact gbroadcast_is_send a cid hg sim ch m hrg hs

/-- the same for the generated `broadcast_message_except(ex, ch, m)` with `ex ≠ cid` (for `ex = cid`:
    `src_others_do_not_disturb`) -/
theorem src_broadcast_except_is_send (a : AEAD) (hl : a.Laws) (cid : Nat) (ms0 : MS) (gm0 gm gm' : GMS) (ops : List MOp)
    (ex ch : Nat) (m : Bytes) (hne : ex ≠ cid) (hgood : MSGood ms0) (hsim : SimMS ms0 gm0)
    (hok : MSRunOK a cid ms0 (ops ++ [.srvBroadcastExcept ex ch m])) (hr : gm0.run a cid ops = some gm)
    (hs : gm.step a cid (.srvBroadcastExcept ex ch m) = some gm') :
    ∃ g1, gm.g.step a cid (.srvSend ch m) = some g1 ∧ GSameForCid cid g1 gm'.g := by
  have hok1 : MSRunOK a cid ms0 ops := msRunOK_prefix a cid ops _ ms0 hok
  obtain ⟨ms, hm, sim, hg⟩ := mrun_gsim_conv a hl cid ops ms0 gm0 gm hgood hsim hok1 hr
  obtain ⟨-, hrg, -⟩ := msRunOK_snoc a cid ops ms0 ms _ hok hm
  exact gbroadcastExcept_is_send a cid hg sim ex ch m hne hrg hs

/-! ## non-vacuity: the theorems APPLIED to the kernel-evaluated 39-operation generated run of `SrcPropsFullStackMulti.Ex`

  `grun : (gmOf ms0).run toyAead 7 ops = some gfin` is the kernel evaluation of the generated two-client session (client 9's
  handshake through the generated `NetcodeServerTransport::update`, generated broadcasts, per-id calls, both clients'
  traffic, client 9's disconnect).  Below every theorem of this file is applied to that run, or to the moment of that run at
  which the operation in question is executed (`grun_split`: the generated states before and after the operation are
  states of the evaluated run), with every hypothesis discharged; `gmoments` evaluates in the kernel what the generated
  accessors return at those moments. -/
namespace Ex
open RenetVerif.C20 RenetVerif.SrcPropsFullStackMulti.Ex
open RenetVerif.C20M.Ex (h1 h2 h3 h4 h5 g1 g2 g3 g4 g5 t1 t3 toSrv9 opsMid)

/-- client 7 alone in both generated tables -/
theorem g0_lockstep : GLockStep (gmOf ms0).g := glockStep_of (simMS_gmOf ms0).fs C20M.Ex.ms0_lockstep

theorem gfin_lockstep : GLockStep gfin.g :=
  src_multi_lockstep toyAead toyAead_laws 7 ms0 (gmOf ms0) gfin ops ms0_good (simMS_gmOf ms0) runOK g0_lockstep grun

def restH : List MOp := h5 ++ g1 ++ g2 ++ (g3 ++ g4 ++ g5)
theorem ops_splitH : ops = opsH ++ [.base (.srvUpdate 1000 (toSrv9 t3.emO t1.emO.length))] ++ restH := by
  simp only [C20M.Ex.ops, opsMid, opsH, restH, h4, List.append_assoc]

def restB : List MOp := g1.drop 1 ++ g2 ++ (g3 ++ g4 ++ g5)
theorem ops_splitB : ops = ops5 ++ [.srvBroadcast 1 [5, 5]] ++ restB := by
  simp only [C20M.Ex.ops, opsMid, ops5, restB, g1, List.drop_succ_cons, List.drop_zero, List.append_assoc,
    List.cons_append, List.nil_append]

def restE : List MOp := g1.drop 2 ++ g2 ++ (g3 ++ g4 ++ g5)
theorem ops_splitE : ops = ops6 ++ [.srvBroadcastExcept 9 1 [2]] ++ restE := by
  simp only [C20M.Ex.ops, opsMid, ops5, ops6, restE, g1, List.drop_succ_cons, List.drop_zero, List.append_assoc,
    List.cons_append, List.nil_append]

def restS : List MOp := g1.drop 3 ++ g2 ++ (g3 ++ g4 ++ g5)
theorem ops_splitS : ops = ops7 ++ [.srvSendTo 9 1 [4]] ++ restS := by
  simp only [C20M.Ex.ops, opsMid, ops5, ops6, ops7, restS, g1, List.drop_succ_cons, List.drop_zero, List.append_assoc,
    List.cons_append, List.nil_append]

theorem runOK_of_split {l1 : List MOp} {op : MOp} {l2 : List MOp} (h : ops = l1 ++ [op] ++ l2) :
    MSRunOK toyAead 7 ms0 (l1 ++ [op]) := by
  have := SrcPropsFullStackMulti.Ex.runOK
  rw [h] at this
  exact msRunOK_prefix toyAead 7 _ _ ms0 this

/-- right after the generated `NetcodeServerTransport::update` that completes client 9's handshake -/
example : ∃ gm, (gmOf ms0).run toyAead 7 (opsH ++ [.base (.srvUpdate 1000 (toSrv9 t3.emO t1.emO.length))]) = some gm ∧
    gm.run toyAead 7 restH = some gfin ∧ GLockStep gm.g ∧ GNoDead gm.g := by
  have hr := grun
  rw [ops_splitH, gms_run_append] at hr
  cases h : (gmOf ms0).run toyAead 7 (opsH ++ [.base (.srvUpdate 1000 (toSrv9 t3.emO t1.emO.length))]) with
  | none => rw [h] at hr; cases hr
  | some gm =>
    rw [h] at hr
    exact ⟨gm, rfl, hr, src_multi_lockstep_after_update toyAead toyAead_laws 7 ms0 (gmOf ms0) gm opsH 1000 _ ms0_good
      (simMS_gmOf ms0) (runOK_of_split ops_splitH) g0_lockstep h⟩

example : ∃ gm gm', (gmOf ms0).run toyAead 7 ops7 = some gm ∧ gm.step toyAead 7 (.srvSendTo 9 1 [4]) = some gm' ∧
    gm'.run toyAead 7 restS = some gfin ∧ GSameForCid 7 gm.g gm'.g := by
  have hr := grun
  rw [ops_splitS] at hr
  obtain ⟨gm, gm', e1, e2, e3⟩ := grun_split toyAead 7 _ _ _ _ _ hr
  exact ⟨gm, gm', e1, e2, e3, src_others_do_not_disturb toyAead toyAead_laws 7 ms0 (gmOf ms0) gm gm' ops7 _ ms0_good
    (simMS_gmOf ms0) (runOK_of_split ops_splitS) e1 rfl e2⟩

example : ∃ gm gm' g1, (gmOf ms0).run toyAead 7 ops6 = some gm ∧
    gm.step toyAead 7 (.srvBroadcastExcept 9 1 [2]) = some gm' ∧ gm'.run toyAead 7 restE = some gfin ∧
    gm.g.step toyAead 7 (.srvSend 1 [2]) = some g1 ∧ GSameForCid 7 g1 gm'.g := by
  have hr := grun
  rw [ops_splitE] at hr
  obtain ⟨gm, gm', e1, e2, e3⟩ := grun_split toyAead 7 _ _ _ _ _ hr
  obtain ⟨g1, q1, q2⟩ := src_broadcast_except_is_send toyAead toyAead_laws 7 ms0 (gmOf ms0) gm gm' ops6 9 1 [2] (by decide)
    ms0_good (simMS_gmOf ms0) (runOK_of_split ops_splitE) e1 e2
  exact ⟨gm, gm', g1, e1, e2, e3, q1, q2⟩

example : ∃ gm gm' g1, (gmOf ms0).run toyAead 7 ops5 = some gm ∧ gm.step toyAead 7 (.srvBroadcast 1 [5, 5]) = some gm' ∧
    gm'.run toyAead 7 restB = some gfin ∧ gm.g.step toyAead 7 (.srvSend 1 [5, 5]) = some g1 ∧ GSameForCid 7 g1 gm'.g := by
  have hr := grun
  rw [ops_splitB] at hr
  obtain ⟨gm, gm', e1, e2, e3⟩ := grun_split toyAead 7 _ _ _ _ _ hr
  obtain ⟨g1, q1, q2⟩ := src_broadcast_is_send toyAead toyAead_laws 7 ms0 (gmOf ms0) gm gm' ops5 1 [5, 5] ms0_good
    (simMS_gmOf ms0) (runOK_of_split ops_splitB) e1 e2
  exact ⟨gm, gm', g1, e1, e2, e3, q1, q2⟩

/-- … up to the other client's `send_message(1, [3,3])` -/
def ops8 : List MOp := ops7 ++ [.srvSendTo 9 1 [4], .srvSendTo 7 1 [9, 9]]
def restO : List MOp := g1.drop 5 ++ g2 ++ (g3 ++ g4 ++ g5)
theorem ops_splitO : ops = ops8 ++ [.othSend 1 [3, 3]] ++ restO := by
  simp only [C20M.Ex.ops, opsMid, ops5, ops6, ops7, ops8, restO, g1, List.drop_succ_cons, List.drop_zero, List.append_assoc,
    List.cons_append, List.nil_append]

example : ∃ gm gm', (gmOf ms0).run toyAead 7 ops8 = some gm ∧ gm.step toyAead 7 (.othSend 1 [3, 3]) = some gm' ∧
    gm'.run toyAead 7 restO = some gfin ∧ GSameForCid 7 gm.g gm'.g := by
  have hr := grun
  rw [ops_splitO] at hr
  obtain ⟨gm, gm', e1, e2, e3⟩ := grun_split toyAead 7 _ _ _ _ _ hr
  exact ⟨gm, gm', e1, e2, e3, src_others_do_not_disturb toyAead toyAead_laws 7 ms0 (gmOf ms0) gm gm' ops8 _ ms0_good
    (simMS_gmOf ms0) (runOK_of_split ops_splitO) e1 rfl e2⟩

/-! `gH`, `g7`, `g7'`, `g7x` (with `opsH`, `ops5`, `ops6`, `ops7`) stand in `Props/SrcPropsFullStackMulti.lean`, in front of the one kernel
    evaluation `SrcPropsFullStackMulti.Ex.gall` of the 39-operation run and these moments of it. -/

/-- the generated run up to `g7` and the two calls issued there: after the handshake `update` both
    generated tables hold 7 and 9 and nobody is disconnected; the generated `send_message(9, 1, [4])` of the run CHANGED
    client 9's entry of the generated table (and, by the theorem, not client 7's); the generated
    `broadcast_message_except(7, 1, [3])` returns and changed client 9's entry too; the side condition of the run extended by
    that call -/
theorem gmoments :
    ((Src.renetcode.server.NetcodeServer.clients_id gH.g.ts.netcode_server : Res Empty _) = .ok [7, 9] ∧
      (RenetServer.clients_id gH.g.rs : Res Empty _) = .ok [7, 9] ∧
      (RenetServer.disconnections_id gH.g.rs : Res Empty _) = .ok []) ∧
    (((gmOf ms0).run toyAead 7 ops7).isSome = true ∧ (g7.step toyAead 7 (.srvSendTo 9 1 [4])).isSome = true ∧
      decide (gconn? g7'.g.rs 9 = gconn? g7.g.rs 9) = false ∧ decide (gconn? g7'.g.rs 7 = gconn? g7.g.rs 7) = true) ∧
    ((g7.step toyAead 7 (.srvBroadcastExcept 7 1 [3])).isSome = true ∧
      decide (gconn? g7x.g.rs 9 = gconn? g7.g.rs 9) = false) ∧
    MSRunOK toyAead 7 ms0 (ops7 ++ [.srvBroadcastExcept 7 1 [3]]) := gall.2

/-- … and at the end both generated tables hold client 7 alone -/
theorem gobs :
    ((Src.renetcode.server.NetcodeServer.clients_id gH.g.ts.netcode_server : Res Empty _) = .ok [7, 9] ∧
      (RenetServer.clients_id gH.g.rs : Res Empty _) = .ok [7, 9] ∧
      (RenetServer.disconnections_id gH.g.rs : Res Empty _) = .ok []) ∧
    (((gmOf ms0).run toyAead 7 ops7).isSome = true ∧ (g7.step toyAead 7 (.srvSendTo 9 1 [4])).isSome = true ∧
      decide (gconn? g7'.g.rs 9 = gconn? g7.g.rs 9) = false ∧ decide (gconn? g7'.g.rs 7 = gconn? g7.g.rs 7) = true) ∧
    ((Src.renetcode.server.NetcodeServer.clients_id gfin.g.ts.netcode_server : Res Empty _) = .ok [7] ∧
      (RenetServer.clients_id gfin.g.rs : Res Empty _) = .ok [7]) :=
  ⟨gmoments.1, gmoments.2.1, gtables⟩

theorem gobsX : (g7.step toyAead 7 (.srvBroadcastExcept 7 1 [3])).isSome = true ∧
    decide (gconn? g7x.g.rs 9 = gconn? g7.g.rs 9) = false :=
  gmoments.2.2.1

theorem runOK_X : MSRunOK toyAead 7 ms0 (ops7 ++ [.srvBroadcastExcept 7 1 [3]]) := gmoments.2.2.2

/-- the generated `broadcast_message_except(7, 1, [3])` issued at the moment `g7` changed client 9's entry of the generated
    table (`gobsX`) and nothing of client 7's session -/
example : GSameForCid 7 g7.g g7x.g :=
  src_others_do_not_disturb toyAead toyAead_laws 7 ms0 (gmOf ms0) g7 g7x ops7 _ ms0_good (simMS_gmOf ms0) runOK_X
    (some_getD gobs.2.1.1 _) rfl (some_getD gobsX.1 _)

end Ex

/-! `ExU` — ReliableUnordered with a second client around and generated broadcasts: the 15 operations of `C20M.ExU`
    (`broadcast_message(2, [8])`, flush, `broadcast_message_except(9, 2, [9])`, flush, …; the adversary delivers the LATER
    datagram first, replays) run through the GENERATED several-client stack by the kernel; `src_multi_unordered_once` applied
    to that run with every hypothesis discharged. -/
namespace ExU
open RenetVerif.C20

abbrev ms0 := C20M.ExU.ms0
abbrev ops := C20M.ExU.ops
abbrev cfg := C20F.ExU.cfg

theorem ms0_good : MSGood ms0 :=
  ⟨SrcPropsFullStack.ExU.fs0_good, SrcPropsFullStackMulti.Ex.o0_good.2, SrcPropsFullStackMulti.Ex.o0_good.1⟩

def gfin : GMS := ((gmOf ms0).run toyAead 7 ops).getD (gmOf ms0)

/-- ONE kernel evaluation of the generated run: it returns normally; client 7 obtained `[9]`, then `[8]` (each once, out of
    order), the server obtained `[1]` once in spite of the replay; the counter conditions; the side condition of the run; no
    datagram of the run is longer than a receive buffer -/
theorem gall :
    ((gmOf ms0).run toyAead 7 ops).isSome = true ∧
    (gfin.g.subS 2 = [[8], [9]] ∧ gfin.g.obtC 2 = [[9], [8]] ∧ gfin.g.subC 2 = [[1]] ∧ gfin.g.obtS 2 = [[1]]) ∧
    (GCountersUp cfg gfin.g ∧ GCountersDown cfg gfin.g) ∧
    (MSRunOK toyAead 7 ms0 ops ∧ ops.map cutMOp = ops) := by
  decide +kernel

theorem grun : (gmOf ms0).run toyAead 7 ops = some gfin := some_getD gall.1 _
theorem cut_ops : ops.map cutMOp = ops := gall.2.2.2.2
theorem runOK : MSRunOK toyAead 7 ms0 ops := gall.2.2.2.1
theorem gcountersUp : GCountersUp cfg gfin.g := gall.2.2.1.1
theorem gcountersDown : GCountersDown cfg gfin.g := gall.2.2.1.2

example : (∃ ids : List Nat, ids.Nodup ∧ (gfin.g.obtS 2).map some = ids.map (fun id => (gfin.g.subC 2)[id]?)) ∧
    (∃ ids : List Nat, ids.Nodup ∧ (gfin.g.obtC 2).map some = ids.map (fun id => (gfin.g.subS 2)[id]?)) :=
  let h := src_multi_unordered_once toyAead toyAead_laws cfg 7 ms0 (gmOf ms0) gfin ops C20F.ExU.fs0_established ms0_good
    (simMS_gmOf ms0) grun runOK (by rw [cut_ops]; exact C20M.ExU.noForgery) (by rw [cut_ops]; exact C20M.ExU.singleSession)
  ⟨h.1 gcountersUp 2 C20F.ExU.unordered2, h.2 gcountersDown 2 C20F.ExU.unordered2⟩

/-- what the generated code did (witness `ids = [1, 0]` server → client 7) -/
example : gfin.g.subS 2 = [[8], [9]] ∧ gfin.g.obtC 2 = [[9], [8]] ∧ gfin.g.subC 2 = [[1]] ∧ gfin.g.obtS 2 = [[1]] :=
  gall.2.1

end ExU

end RenetVerif.SrcPropsFullStackMulti2
