/-
  C10 — Netcode connection table: unique ids, unique addresses, bounded by max_clients; ClientConnected /
  ClientDisconnected come in matched pairs; lookups by id refer to the authenticated session; a full server refuses
  further handshakes without disturbing existing sessions.

  Model: RenetVerif/Netcode/Server.lean (renetcode/src/server.rs).  Proofs: Lemmas/NcTable.lean (invariant `ServerInv`,
  the operations other than `process_packet`), Lemmas/NcTablePP.lean (`process_packet`, symbolically executed:
  `PPOut`), Lemmas/NcTableEvents.lean (`Reach`, event log, lookups, capacity).  The AEAD is a parameter everywhere;
  nothing here assumes anything about it (hostile datagrams included).

  `ServerInv s` (Lemmas/NcTable.lean):
    (`At cl i c` : slot `i` of the slot list `cl` holds connection `c`, i.e. `cl[i]? = some (some c)`)
    slots      connected slots have pairwise distinct `client_id`s, pairwise distinct `addr`s, all in state Connected
    slotsOK    their timers are not in the future, their timeout fits an i32
    pend       half-open sessions are keyed by their own address, in state PendingResponse, sequence 0, and
               no half-open address is a connected address
    pendKeys   the pending association list has no duplicate keys;  pendLen: at most NETCODE_MAX_PENDING_CLIENTS
    entries    the MACs in the token-entry table are pairwise distinct;  entriesPos: the table is not empty
               (`TableLen`: it has NETCODE_TOKEN_ENTRIES entries from `new` on — `new_inv`, `step_tableLen`)
    maxLe      max_clients ≤ number of slots ≤ NETCODE_MAX_CLIENTS (`set_max_clients` grows the slot list, never
               shrinks it)
-/
import RenetVerif.Lemmas.NcBinding
import RenetVerif.Props.C05
namespace RenetVerif.C10
open RenetVerif RenetVerif.Netcode RenetVerif.Netcode.NS

/-! ## the invariant: established by `new`, preserved by every operation on every input -/

/-- `NetcodeServer::new` (which succeeds iff `max_clients ≤ NETCODE_MAX_CLIENTS`) establishes the invariant -/
theorem inv_new {t m pid : Nat} {pa : List Addr} {sec : Bool} {k ck : Bytes} {s : NetcodeServer}
    (h : NetcodeServer.new t m pid pa sec k ck = .ok s) : ServerInv s ∧ TableLen s ∧ s.clients.length = s.maxClients := by
  obtain ⟨h1, h2, h3, _, _, _, h4, -⟩ := new_inv h
  exact ⟨h1, h4, by rw [h2, h3, List.length_replicate]⟩

/-- **Every public operation preserves the invariant, for every input** — `process_packet` for any source address and
    any bytes, `update`, `update_client`, `disconnect`, `set_max_clients`, `generate_payload_packet` (`Op`, `step`). -/
theorem inv_step {a : AEAD} {s s' : NetcodeServer} {op : Op} {r : ServerResult} (hi : ServerInv s)
    (h : step a s op = some (r, s')) : ServerInv s' := step_inv hi h

theorem step_tableLen {a : AEAD} {s s' : NetcodeServer} {op : Op} {r : ServerResult} (hi : ServerInv s)
    (h : step a s op = some (r, s')) : s'.connectTokenEntries.length = s.connectTokenEntries.length :=
  NcBinding.step_tbl_length h

/-- **No operation unwinds under the invariant while the checked counters have room** (`Headroom`: the two global
    `u64` sequence numbers and every session's sequence number are below `u64::MAX`, the clock is at least 2^31 s
    below `Duration::MAX`; `update(d)` additionally needs `now + d ≤ Duration::MAX`).  These are the only unwinding
    sites left in `server.rs` (debug-profile arithmetic checks): reachable only after 2^63 datagrams / 5·10^11 years. -/
theorem step_no_panic (a : AEAD) {s : NetcodeServer} (hi : ServerInv s) (hh : Headroom s) (op : Op)
    (hd : ∀ d, op = .update d → s.currentTime + d ≤ DURATION_MAX) : ∃ r s', step a s op = some (r, s') := by
  cases op with
  | packet addr buf =>
    obtain ⟨r, s', h, _⟩ := pp_spec a hi hh.global hh.challenge addr buf
    exact ⟨r, s', pp_of_step.mpr h⟩
  | update d =>
    obtain ⟨s', h⟩ := update_ne_panic (hd d rfl)
    exact ⟨.none, s', by simp only [step, h]⟩
  | updateClient id =>
    obtain ⟨r, s', h⟩ := updateClient_ne_panic a id hi hh
    exact ⟨r, s', by simp only [step, h]⟩
  | disconnect id =>
    rcases disconnect_spec a s id with ⟨_, e⟩ | ⟨i, c, o, _, _, _, _, e⟩
    · exact ⟨.none, s, by simp only [step, e]⟩
    · exact ⟨.clientDisconnected id c.addr o, { s with clients := s.clients.set i none }, by simp only [step, e]⟩
  | setMaxClients m => exact ⟨_, _, rfl⟩
  | sendPayload id p =>
    cases hp : s.generatePayloadPacket a id p with
    | ok x => obtain ⟨⟨ad, out⟩, s''⟩ := x; exact ⟨.packetToSend ad out, s'', by simp only [step, hp]⟩
    | err e => exact ⟨.none, s, by simp only [step, hp]⟩
    | panic m => exact absurd hp (generatePayload_ne_panic a id p hh.seqs m)

/-- without room the arithmetic check does fire (model of the debug profile): the counter hypothesis is needed -/
theorem counter_overflow_unwinds :
    step Ex.a { Ex.s0 with globalSequence := U64_MAX } (.packet Ex.addrA Ex.reqA) = none := Ex.world.2.1.2.2

/-- **At all times the connected clients have pairwise distinct ids and pairwise distinct addresses**, are in state
    Connected, and `clients_id()` has no repetition.  (`Reach a s log`: `s` is reachable from `NetcodeServer::new` —
    `Reach.new` — by any sequence of operations with any inputs; `log` = the ClientConnected / ClientDisconnected
    results so far.) -/
theorem distinct {a : AEAD} {s : NetcodeServer} {log : List Event} (hr : Reach a s log) :
    (∀ i j ci cj, At s.clients i ci → At s.clients j cj → ci.clientId = cj.clientId → i = j) ∧
    (∀ i j ci cj, At s.clients i ci → At s.clients j cj → ci.addr = cj.addr → i = j) ∧
    (∀ i c, At s.clients i c → c.state = .connected) ∧ s.clientsId.Nodup :=
  ⟨hr.inv.slots.ids, hr.inv.slots.addrs, hr.inv.slots.conn, clientsId_nodup hr.inv.slots⟩

/-- the connected clients never outnumber the slots; the limit never exceeds the slots (≤ NETCODE_MAX_CLIENTS) -/
theorem count_le_slots {a : AEAD} {s : NetcodeServer} {log : List Event} (hr : Reach a s log) :
    s.connectedClients ≤ s.clients.length ∧ s.maxClients ≤ s.clients.length ∧
    s.clients.length ≤ Netcode.C.NETCODE_MAX_CLIENTS :=
  ⟨count_le_length _, hr.inv.maxLe, hr.inv.lenLe⟩

/-- **As long as the limit is not lowered at run time** (`ReachNL`: every `set_max_clients m` has
    `m ≥ max_clients`) **the connected clients number at most `max_clients`** — there are then exactly `max_clients`
    slots, so the free-slot search at response time is the effective capacity check.  Two half-open sessions racing
    for the last slot both pass the request-time test `connected < max_clients`; the second response finds no free
    slot and is answered `ConnectionDenied` (example below). -/
theorem count_le_max {a : AEAD} {s : NetcodeServer} (h : ReachNL a s) :
    s.clients.length = s.maxClients ∧ s.connectedClients ≤ s.maxClients := h.count_le_max

/-- **The proviso is needed, and "not lowered below the current count" is not enough.**  Lower the limit of a fresh
    2-slot server to 1 (no client connected), then let two handshakes interleave: both requests pass
    `connected (0) < max_clients (1)`, both responses find a free slot (there are still 2), two clients are
    connected with `max_clients = 1`.  (Rust: `set_max_clients` only stores the number; `clients` keeps its length.) -/
theorem count_exceeds_after_lowering :
    (Ex.run Ex.s0 [.setMaxClients 1, .packet Ex.addrA Ex.reqA, .packet Ex.addrB Ex.reqB, .packet Ex.addrA Ex.respA,
        .packet Ex.addrB Ex.respB]).map (fun s => (s.connectedClients, s.maxClients, s.clientsId)) =
      some (2, 1, [11, 12]) := Ex.world.2.1.2.1

/-- the log of a reachable state replays against the live-session set (`replay`: `connected id addr ud` is admissible
    only when neither `id` nor `addr` is live; `disconnected id addr` only when a live session has that id and
    address, and ends it), and what it leaves live is exactly the occupied slots -/
theorem log_replays {a : AEAD} {s : NetcodeServer} {log : List Event} (hr : Reach a s log) :
    ∃ L, replay log [] = some L ∧ Distinct L ∧
      ∀ id ad ud, (id, ad, ud) ∈ L ↔ ∃ i c, At s.clients i c ∧ c.clientId = id ∧ c.addr = ad ∧ c.userData = ud := by
  obtain ⟨L, hL, ha⟩ := hr.log
  exact ⟨L, hL, replay_distinct log [] L hL ⟨List.nodup_nil, List.nodup_nil⟩, ha⟩

/-- **No ClientDisconnected for a client that was not connected**: a `disconnected id addr` event is preceded by a
    `connected id addr _` event with no `disconnected id addr` in between (same id *and* same address). -/
theorem disconnected_only_after_connected {a : AEAD} {s : NetcodeServer} {pre post : List Event} {id : Nat} {ad : Addr}
    (hr : Reach a s (pre ++ .disconnected id ad :: post)) :
    ∃ ud l1 l2, pre = l1 ++ .connected id ad ud :: l2 ∧ Event.disconnected id ad ∉ l2 := by
  obtain ⟨L, hL, _⟩ := hr.log
  obtain ⟨Lp, hp, h⟩ := replay_append_some.mp hL
  obtain ⟨⟨x, hx, he⟩, -⟩ := replay_disconnected_cons.mp h
  rcases replay_mem_origin pre [] Lp x hp hx with ⟨hm, _⟩ | ⟨l1, l2, e, hn⟩
  · cases hm
  · rw [he.1, he.2] at e hn
    exact ⟨x.2.2, l1, l2, e, hn⟩

/-- **Every ClientConnected is matched by at most one ClientDisconnected**: between two `disconnected id _` events
    lies a `connected id _ _` event (with the address the second one names). -/
theorem at_most_one_disconnected {a : AEAD} {s : NetcodeServer} {pre mid post : List Event} {id : Nat} {ad ad' : Addr}
    (hr : Reach a s (pre ++ .disconnected id ad :: (mid ++ .disconnected id ad' :: post))) :
    ∃ ud, Event.connected id ad' ud ∈ mid := by
  obtain ⟨L, hL, _⟩ := hr.log
  obtain ⟨Lp, hp, h⟩ := replay_append_some.mp hL
  have hdp : Distinct Lp := replay_distinct pre [] Lp hp ⟨List.nodup_nil, List.nodup_nil⟩
  obtain ⟨⟨y, hy, he1⟩, h⟩ := replay_disconnected_cons.mp h
  obtain ⟨Lm, hm, h⟩ := replay_append_some.mp h
  obtain ⟨⟨x, hx, he⟩, -⟩ := replay_disconnected_cons.mp h
  rcases replay_mem_origin mid _ Lm x hm hx with ⟨hmem, _⟩ | ⟨l1, l2, e, _⟩
  · -- it cannot have survived the first `disconnected`: ids are distinct
    exfalso
    simp only [List.mem_filter, decide_eq_true_eq] at hmem
    obtain rfl : x = y := distinct_id_eq hdp.1 hmem.1 hy (by rw [he.1, he1.1])
    exact hmem.2 he1
  · exact ⟨x.2.2, by rw [e, ← he.1, ← he.2]; simp⟩

/-- no second `connected id …` before the `disconnected id addr` that ends the first (ids are never connected twice) -/
theorem no_second_connected {a : AEAD} {s : NetcodeServer} {pre mid post : List Event} {id : Nat} {ad ad' : Addr}
    {ud ud' : Bytes} (hr : Reach a s (pre ++ .connected id ad ud :: (mid ++ .connected id ad' ud' :: post))) :
    Event.disconnected id ad ∈ mid := by
  obtain ⟨L, hL, _⟩ := hr.log
  obtain ⟨Lp, -, h⟩ := replay_append_some.mp hL
  obtain ⟨Lm, hm, h⟩ := replay_append_some.mp (replay_connected_cons.mp h).2
  obtain ⟨hfresh, -⟩ := replay_connected_cons.mp h
  apply Classical.byContradiction
  intro hn
  exact (hfresh _ (replay_mem_persist mid _ Lm (id, ad, ud) hm (by simp) hn)).1 rfl

/-- what each result says about the slot table (`TableStep`): `ClientConnected id addr ud` fills a free slot with a
    session of exactly that id, address and user data, neither id nor address having been connected;
    `ClientDisconnected id addr` frees the slot of the session with that id and address; every other result leaves the
    sessions (id, address, user data, keys, timeout of each slot) as they were (`set_max_clients`: appends free slots). -/
theorem table_step {a : AEAD} {s s' : NetcodeServer} {op : Op} {r : ServerResult} (hi : ServerInv s)
    (h : step a s op = some (r, s')) : TableStep s.clients s'.clients r ∨ (r = .none ∧ Grown s.clients s'.clients) :=
  step_table hi h

/-- **Lookups by id refer to the session that was authenticated for that id**: `client_addr(id)` and `user_data(id)`
    answer with the address / user data of the latest `ClientConnected id addr ud` not followed by
    `ClientDisconnected id addr`; `is_client_connected(id)` iff there is one. -/
theorem lookups {a : AEAD} {s : NetcodeServer} {log : List Event} (hr : Reach a s log) {id : Nat} {ad : Addr}
    {ud : Bytes} (h1 : s.clientAddr id = some ad) (h2 : s.userData id = some ud) :
    s.isClientConnected id = true ∧
    ∃ l1 l2, log = l1 ++ .connected id ad ud :: l2 ∧ Event.disconnected id ad ∉ l2 := by
  obtain ⟨L, hL, _⟩ := hr.log
  have hm := (hr.lookups hL id).2.2.2 ad ud h1 h2
  refine ⟨((hr.lookups hL id).2.2.1).mpr ⟨ad, ud, hm⟩, ?_⟩
  rcases replay_mem_origin log [] L _ hL hm with ⟨h, _⟩ | h
  · cases h
  · exact h

/-- payload routing, outbound: `generate_payload_packet(id, …)` addresses the datagram to `client_addr(id)` and seals
    it with that session's send key and sequence number -/
theorem payload_routing_out {a : AEAD} {s s' : NetcodeServer} {log : List Event} (hr : Reach a s log) {id : Nat}
    {payload out : Bytes} {ad : Addr} (h : s.generatePayloadPacket a id payload = .ok ((ad, out), s')) :
    s.clientAddr id = some ad ∧
    ∃ i c, At s.clients i c ∧ c.clientId = id ∧ c.addr = ad ∧
      (Packet.payload payload).encode a Netcode.C.NETCODE_MAX_PACKET_BYTES s.protocolId (some (c.sequence, c.sendKey)) = .ok out := by
  obtain ⟨i, c, _, hc, hid, had, hen, _⟩ := generatePayload_ok h
  exact ⟨(clientAddr_iff hr.inv.slots).mpr ⟨i, c, hc, hid, had.symm⟩, i, c, hc, hid, had.symm, hen⟩

/-- payload routing, inbound: a payload surfaced from a datagram of source `addr` carries the id of the session
    connected from `addr`, and the datagram decoded under that session's receive key and replay window -/
theorem payload_routing_in {a : AEAD} {s s' : NetcodeServer} {log : List Event} (hr : Reach a s log) {addr : Addr}
    {buf p : Bytes} {id : Nat} (h : s.processPacket a addr buf = .ok (.payload id p, s')) :
    s.clientAddr id = some addr ∧
    ∃ i c sq w', At s.clients i c ∧ c.clientId = id ∧ c.addr = addr ∧
      Packet.decode a buf s.protocolId (some c.receiveKey) (some c.replayProtection) = (.ok (sq, .payload p), some w') := by
  have hp := ppOut_payload (pp_ok hr.inv h)
  refine ⟨?_, hp⟩
  obtain ⟨i, c, _, _, hc, hid, had, _⟩ := hp
  exact (clientAddr_iff hr.inv.slots).mpr ⟨i, c, hc, hid, had⟩

/-- **When no slot is free** (if the limit was never lowered: exactly when `connected ≥ max_clients`,
    `count_le_max` + `firstFree_none_count`) **a datagram from an address that is not connected — request, response,
    anything — changes no slot; the answer is nothing or a `ConnectionDenied` to that address.** -/
theorem full_refuses {a : AEAD} {s s' : NetcodeServer} {addr : Addr} {buf : Bytes} {r : ServerResult}
    (hi : ServerInv s) (hfull : firstFreeSlot s.clients = none) (hna : findClientByAddr s.clients addr = none)
    (h : s.processPacket a addr buf = .ok (r, s')) :
    s'.clients = s.clients ∧ (r = .none ∨ ∃ out, r = .packetToSend addr out ∧ IsDenied a s out) :=
  processPacket_full hi hfull hna h

/-- no free slot ⇔ as many sessions as slots; with the limit never lowered: ⇔ `connected_clients() = max_clients` -/
theorem full_iff {a : AEAD} {s : NetcodeServer} (h : ReachNL a s) :
    firstFreeSlot s.clients = none ↔ s.connectedClients = s.maxClients := by
  rw [firstFree_none_count, h.count_le_max.1]; rfl

/-- a connection request arriving while `connected ≥ max_clients` (whether or not a slot is free) changes no slot
    and creates no half-open session -/
theorem full_refuses_request {a : AEAD} {s : NetcodeServer} {addr : Addr} {v : Bytes} {pid expire : Nat}
    {xnonce data : Bytes} {R : NetcodeServer.SRes} {r : ServerResult} {s' : NetcodeServer}
    (ho : HcrOut a s addr v pid expire xnonce data R) (hr : HcrRes R r s')
    (hfull : countConnected s.clients ≥ s.maxClients) :
    s'.clients = s.clients ∧ (r = .none ∨ ∃ out, r = .packetToSend addr out ∧ IsDenied a s out) ∧
      pendingFind s'.pendingClients addr = none ∨ (s' = s ∧ r = .none) := hcr_full ho hr hfull

/-- datagrams from a connected address concern that session only -/
theorem connected_only_self {a : AEAD} {s s' : NetcodeServer} {addr : Addr} {buf : Bytes} {r : ServerResult}
    (hi : ServerInv s) {i : Nat} {c : Connection} (hfa : findClientByAddr s.clients addr = some (i, c))
    (h : s.processPacket a addr buf = .ok (r, s')) :
    sessions s'.clients = sessions s.clients ∨
      (r = .clientDisconnected c.clientId addr none ∧ s'.clients = s.clients.set i none) := by
  have ho := pp_ok hi h
  have hst := (ppOut_slots hi ho).tableStep
  -- every outcome but the session's own Disconnect leaves the sessions alone, or needs an unconnected address
  cases ho with
  | connDisconnect i' c' sq w' hfa' hdec => cases hfa.symm.trans hfa'; exact Or.inr ⟨rfl, rfl⟩
  | pendRequest p sq v pid expire xnonce data w' R _ _ hfa' => cases hfa.symm.trans hfa'
  | respConnected p sq ts td w' i out hfa' => cases hfa.symm.trans hfa'
  | newRequest sq v pid expire xnonce data R _ _ hfa' => cases hfa.symm.trans hfa'
  | _ => exact Or.inl hst

/-! ## examples (toy AEAD `Ex.a`; states and datagrams of Lemmas/NcExamples.lean) -/
section Examples
open Ex

/-- `s2`: client A (id 11) connected from `addrA` after the four-message handshake; log = [connected 11 addrA udA] -/
theorem reach_s2 : Reach a s2 [.connected 11 addrA udA] :=
  .step (.step (.init s0_empty) s_request) s_response

theorem reach_s3 : Reach a s3 [.connected 11 addrA udA, .disconnected 11 addrA] := .step reach_s2 s_disconnect

example : ServerInv s2 := inv_step (inv_step s0_empty.inv s_request) s_response
example : ∃ r s', step a s2 (.packet addrB reqB) = some (r, s') :=
  step_no_panic a reach_s2.inv ⟨by decide, by decide, fun i c hc => by
    have : c = connA := by
      rcases i with _ | _ | i
      · exact (at_inj hc (show At s2.clients 0 connA from rfl)).symm ▸ rfl
      · simp [At, s2] at hc
      · simp [At, s2] at hc
    subst this; decide, by decide⟩ _ (fun d h => by cases h)
example : s2.clientsId = [11] ∧ s2.clientAddr 11 = some addrA ∧ s2.userData 11 = some udA := by decide +kernel
example : s2.isClientConnected 11 = true ∧
    ∃ l1 l2, [Event.connected 11 addrA udA] = l1 ++ .connected 11 addrA udA :: l2 ∧ Event.disconnected 11 addrA ∉ l2 :=
  lookups reach_s2 (by decide +kernel) (by decide +kernel)
example : ∃ ud l1 l2, [Event.connected 11 addrA udA] = l1 ++ .connected 11 addrA ud :: l2 ∧
    Event.disconnected 11 addrA ∉ l2 :=
  disconnected_only_after_connected (pre := [.connected 11 addrA udA]) (post := []) reach_s3

/-- the one-slot server: both requests pass the request-time check, A gets the slot, B's response is denied and the
    slot table is untouched -/
theorem reachNL_f3 : ReachNL a f3 :=
  .step (.step (.step (.init f0_empty) f_reqA (fun m h => by cases h)) f_reqB (fun m h => by cases h)) f_respA
    (fun m h => by cases h)

example : f3.clients.length = f3.maxClients ∧ f3.connectedClients ≤ f3.maxClients := count_le_max reachNL_f3
example : firstFreeSlot f3.clients = none := (full_iff reachNL_f3).mpr (by decide +kernel)
example : f4.clients = f3.clients ∧
    (ServerResult.packetToSend addrB deniedB = .none ∨
      ∃ out, ServerResult.packetToSend addrB deniedB = .packetToSend addrB out ∧ IsDenied a f3 out) := by
  obtain ⟨log, hl⟩ := reachNL_f3.reach
  exact full_refuses hl.inv (by decide) (by decide) (pp_of_step.mp f_respB)

example : ∃ s, NetcodeServer.new 0 2 42 [srvAddr] true key ckey = .ok s ∧ ServerInv s ∧ TableLen s ∧
    s.clients.length = s.maxClients := by
  obtain ⟨s, h⟩ := new_ne_panic (t := 0) (m := 2) (pid := 42) (pa := [srvAddr]) (sec := true) (k := key) (ck := ckey)
    (by decide)
  exact ⟨s, h, inv_new h⟩
example : s2.connectTokenEntries.length = s1.connectTokenEntries.length := step_tableLen C05.inv_s1 s_response
example : s2.clientsId.Nodup := (distinct reach_s2).2.2.2
example : s2.connectedClients ≤ s2.clients.length := (count_le_slots reach_s2).1
example : ∃ L, replay [Event.connected 11 addrA udA] [] = some L ∧ Distinct L ∧
    ∀ id ad ud, (id, ad, ud) ∈ L ↔ ∃ i c, At s2.clients i c ∧ c.clientId = id ∧ c.addr = ad ∧ c.userData = ud :=
  log_replays reach_s2
example : TableStep s1.clients s2.clients (.clientConnected 11 addrA udA kaA) ∨
    (ServerResult.clientConnected 11 addrA udA kaA = .none ∧ Grown s1.clients s2.clients) :=
  table_step C05.inv_s1 s_response

/-- A connects, is disconnected, connects again (same token, same address), is disconnected again -/
theorem reach_again : ∃ s', Reach a s' [.connected 11 addrA udA, .disconnected 11 addrA, .connected 11 addrA udA,
    .disconnected 11 addrA] := by
  have h := again_events
  cases hr : runLog s2 againOps with
  | none => rw [hr] at h; cases h
  | some x =>
    obtain ⟨s', evs⟩ := x
    rw [hr] at h
    simp only [Option.map_some, Option.some.injEq] at h
    subst h
    exact ⟨s', reach_runLog againOps reach_s2 hr⟩
example : ∃ ud, Event.connected 11 addrA ud ∈ [Event.connected 11 addrA udA] := by
  obtain ⟨s', h⟩ := reach_again
  exact at_most_one_disconnected (pre := [.connected 11 addrA udA]) (mid := [.connected 11 addrA udA]) (post := []) h
example : Event.disconnected 11 addrA ∈ [Event.disconnected 11 addrA] := by
  obtain ⟨s', h⟩ := reach_again
  exact no_second_connected (pre := []) (mid := [.disconnected 11 addrA]) (post := [.disconnected 11 addrA]) h

example : s2.clientAddr 11 = some addrA := (payload_routing_out reach_s2 s_sendPayload).1
example : s2.clientAddr 11 = some addrA := (payload_routing_in reach_s2 s_payload).1
example : sessions s2k.clients = sessions s2.clients ∨
    (ServerResult.none = .clientDisconnected connA.clientId addrA none ∧ s2k.clients = s2.clients.set 0 none) :=
  connected_only_self reach_s2.inv (i := 0) (c := connA) (by decide +kernel) (pp_of_step.mp s_keepalive)
/-- B's request at the full one-slot server: whatever `handle_connection_request` returns changes no slot -/
example : ∀ R r s', HcrOut a f3 addrB Netcode.C.NETCODE_VERSION_INFO 42 30 xnB privDataB R → HcrRes R r s' →
    (s'.clients = f3.clients ∧ (r = .none ∨ ∃ out, r = .packetToSend addrB out ∧ IsDenied a f3 out) ∧
      pendingFind s'.pendingClients addrB = none ∨ (s' = f3 ∧ r = .none)) :=
  fun R r s' ho hr => full_refuses_request ho hr (by decide +kernel)

end Examples
end RenetVerif.C10
