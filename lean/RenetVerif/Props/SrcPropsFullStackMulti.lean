/-
  C20M — THE FULL STACK WITH SEVERAL CLIENTS, ABOUT THE GENERATED CODE.

  `GMS` is the system of `Props/C20M.lean` (`FullStackMulti.MS`) over GENERATED code: the generated full stack `GFS` of
  `Lemmas/SrcEquiv/SrcFullStack.lean` for the observed session `cid` and the server, plus a second generated client
  (`to` : generated `NetcodeClientTransport` with its socket, generated `NetcodeClient`, receive buffer; `ro` : generated
  `RenetClient`).  `GMS.step` executes every `MOp` through generated functions only:
      base op                                    `GFS.step` (the 14 operations of C20F)
      srvSendTo id / srvRecvFrom id / srvDisconnectId id
                                                 generated `RenetServer::{send_message, receive_message, disconnect}(id, …)`
      srvBroadcast / srvBroadcastExcept          generated `RenetServer::{broadcast_message, broadcast_message_except}`
      othSend … othTransportDisconnect           the client cases of `GFS.step` (generated `RenetClient::…`,
                                                 `NetcodeClientTransport::{update, send_packets, disconnect}`) applied to `to` / `ro`
  `gm0.run a cid ops = some gm`: every generated call of the run returned normally.

  Hypotheses of every theorem: those of `Props/SrcPropsFullStack.lean`, for the several-client system —
  * `Established cfg cid ms0.fs`, `MSGood ms0`, `SimMS ms0 gm0`: the generated start state represents a model state whose
    session for `cid` is established and which satisfies the model invariants (also for the other client's two layers);
    `gmOf ms0` is such a state (`simMS_gmOf`);
  * `MNoForgeryRunD`, `MSingleSessionRun` for `cid`, on the MODEL run of `ops.map cutMOp` (inboxes cut to the receive buffers);
  * `GCountersUp` / `GCountersDown` on the generated final state;
  * `MSRunOK a cid ms0 ops` — DECIDABLE: before every operation the range condition (`MOpInRange`: `FSOpInRange` for the
    base operations and, with the other client in the client's place, for its operations; messages `< 2^63` bytes and the
    connections of the server table in `ConnInRange` for the server's per-id and broadcast calls) and the local condition
    of the transport calls (`MOpLocalOk`).
-/
import RenetVerif.Lemmas.FullStackMulti
import RenetVerif.Props.SrcPropsFullStack
import RenetVerif.Props.C20M
namespace RenetVerif.SrcPropsFullStackMulti
open RenetVerif C RenetVerif.RustSem RenetVerif.System RenetVerif.Netcode RenetVerif.Transport RenetVerif.FullStack
  RenetVerif.FullStackMulti
open RenetVerif.SrcEquiv RenetVerif.SrcSystem RenetVerif.SrcMulti RenetVerif.SrcFullStack
open Src.renet.remote_connection Src.renet.server Src.renet_netcode.server Src.renet_netcode.client

structure GMS where
  /-- the observed client, the server, the ghost logs of the observed session -/
  g : GFS
  /-- the other client's generated `NetcodeClientTransport` and `RenetClient` -/
  to : SClientTransport
  ro : SRenetClient

/-- the generated server replaced (mirror of `FullStackMulti.setRenet`) -/
def gsetRenet (cid : Nat) (g : GFS) (rs' : SRenetServer) : GFS :=
  { g with rs := rs', ySeq := gtrackSeq cid rs' g.ySeq }

/-- mirror of `FullStackMulti.sendGhost` (the ghost update `GFS.step (.srvSend ch m)` makes) -/
def gsendGhost (cid : Nat) (g : GFS) (rs' : SRenetServer) (ch : Nat) (m : Bytes) : GFS :=
  let acc := match gconn? g.rs cid, gconn? rs' cid with
    | some y0, some y1 => gAccepted y0 y1 ch
    | _, _ => false
  let off := match gconn? g.rs cid with
    | some y0 => gOfferedU y0 ch
    | none => false
  { g with rs := rs', ySeq := gtrackSeq cid rs' g.ySeq
           subS := if acc then gpush g.subS ch (toNats m) else g.subS
           subSU := if off then gpush g.subSU ch (toNats m) else g.subSU }

/-- the generated full stack with the OTHER client in the client's place -/
def GMS.asO (gm : GMS) : GFS := { gm.g with tc := gm.to, rc := gm.ro }

def GMS.othStep (a : AEAD) (cid : Nat) (gm : GMS) (cop : FSOp) : Option GMS :=
  match gm.asO.step a cid cop with
  | some g' => some { gm with to := g'.tc, ro := g'.rc }
  | none => none

def GMS.step (a : AEAD) (cid : Nat) (gm : GMS) : MOp → Option GMS
  | .base op =>
    match gm.g.step a cid op with
    | some g' => some { gm with g := g' }
    | none => none
  | .srvSendTo id ch m =>
    if id = cid then
      match gm.g.step a cid (.srvSend ch m) with
      | some g' => some { gm with g := g' }
      | none => none
    else
      match (RenetServer.send_message gm.g.rs id ch (toNats m) : Res Empty _) with
      | .ok (rs', _) => some { gm with g := gsetRenet cid gm.g rs' }
      | _ => none
  | .srvRecvFrom id ch =>
    if id = cid then
      match gm.g.step a cid (.srvRecv ch) with
      | some g' => some { gm with g := g' }
      | none => none
    else
      match (RenetServer.receive_message gm.g.rs id ch : Res Empty _) with
      | .ok (rs', _) => some { gm with g := gsetRenet cid gm.g rs' }
      | _ => none
  | .srvDisconnectId id =>
    if id = cid then
      match gm.g.step a cid .srvDisconnect with
      | some g' => some { gm with g := g' }
      | none => none
    else
      match (RenetServer.disconnect gm.g.rs id : Res Empty _) with
      | .ok (rs', _) => some { gm with g := gsetRenet cid gm.g rs' }
      | _ => none
  | .srvBroadcast ch m =>
    match (RenetServer.broadcast_message gm.g.rs ch (toNats m) : Res Empty _) with
    | .ok (rs', _) => some { gm with g := gsendGhost cid gm.g rs' ch m }
    | _ => none
  | .srvBroadcastExcept ex ch m =>
    match (RenetServer.broadcast_message_except gm.g.rs ex ch (toNats m) : Res Empty _) with
    | .ok (rs', _) => some { gm with g := if ex = cid then gsetRenet cid gm.g rs' else gsendGhost cid gm.g rs' ch m }
    | _ => none
  | .othSend ch m => gm.othStep a cid (.cliSend ch m)
  | .othRecv ch => gm.othStep a cid (.cliRecv ch)
  | .othTick dt => gm.othStep a cid (.cliTick dt)
  | .othDisconnect => gm.othStep a cid .cliDisconnect
  | .othUpdate d inbox => gm.othStep a cid (.cliUpdate d inbox)
  | .othSendPackets => gm.othStep a cid .cliSendPackets
  | .othTransportDisconnect => gm.othStep a cid .cliTransportDisconnect

def GMS.run (a : AEAD) (cid : Nat) (gm : GMS) : List MOp → Option GMS
  | [] => some gm
  | op :: ops =>
    match gm.step a cid op with
    | some gm' => gm'.run a cid ops
    | none => none

/-- the model operation a generated operation corresponds to (inboxes cut to the receive buffers) -/
def cutMOp : MOp → MOp
  | .base op => .base (cutOp op)
  | .othUpdate d inbox => .othUpdate d (inbox.map (recvFrom C.TRANSPORT_CLIENT_BUFFER))
  | op => op

def fsO (ms : MS) : FS := { ms.fs with c := ms.o }

structure SimMS (ms : MS) (gm : GMS) : Prop where
  fs : SimFS ms.fs gm.g
  to : ∃ rest out o buf, o.length = C.NETCODE_MAX_PACKET_BYTES ∧ buf.length = C.TRANSPORT_CLIENT_BUFFER ∧
    gm.to = ctrR rest out o ms.o.netcode buf
  ro : ∃ mrs, gm.ro = reprConn mrs ms.o.renet

structure MSGood (ms : MS) : Prop where
  fs : FSGood ms.fs
  oR : EpGood ms.o.renet
  oN : CliInv ms.o.netcode

theorem SimMS.asO {ms : MS} {gm : GMS} (sim : SimMS ms gm) : SimFS (fsO ms) gm.asO :=
  { sim.fs with tc := sim.to, rc := sim.ro }

theorem MSGood.asO {ms : MS} (hg : MSGood ms) : FSGood (fsO ms) := ⟨hg.oR, hg.fs.srv, hg.oN, hg.fs.ncS⟩

def MOpInRange (ms : MS) : MOp → Prop
  | .base op => FSOpInRange ms.fs op
  | .srvSendTo _ _ m => m.length < 2 ^ 63 ∧ SrvInRange ms.fs.s.renet
  | .srvRecvFrom _ _ => SrvInRange ms.fs.s.renet
  | .srvDisconnectId _ => True
  | .srvBroadcast _ m => m.length < 2 ^ 63 ∧ SrvInRange ms.fs.s.renet
  | .srvBroadcastExcept _ _ m => m.length < 2 ^ 63 ∧ SrvInRange ms.fs.s.renet
  | .othSend ch m => FSOpInRange (fsO ms) (.cliSend ch m)
  | .othRecv ch => FSOpInRange (fsO ms) (.cliRecv ch)
  | .othTick dt => FSOpInRange (fsO ms) (.cliTick dt)
  | .othDisconnect => True
  | .othUpdate d inbox => FSOpInRange (fsO ms) (.cliUpdate d inbox)
  | .othSendPackets => True
  | .othTransportDisconnect => True

def MOpLocalOk (a : AEAD) (ms : MS) : MOp → Prop
  | .base op => OpLocalOk a ms.fs op
  | .othUpdate d inbox => OpLocalOk a (fsO ms) (.cliUpdate d inbox)
  | .othSendPackets => OpLocalOk a (fsO ms) .cliSendPackets
  | _ => True

instance (ms : MS) (op : MOp) : Decidable (MOpInRange ms op) := by cases op <;> unfold MOpInRange <;> infer_instance
instance (a : AEAD) (ms : MS) (op : MOp) : Decidable (MOpLocalOk a ms op) := by
  cases op <;> unfold MOpLocalOk <;> infer_instance

theorem simFS_setRenet {cid : Nat} {fs : FS} {g : GFS} (sim : SimFS fs g) (mrss : Nat → Nat → Nat) (rs' : Server) :
    SimFS (setRenet cid fs rs') (gsetRenet cid g (reprServer mrss rs')) :=
  { sim with
    rs := ⟨mrss, rfl⟩
    ySeq := by
      show gtrackSeq cid (reprServer mrss rs') g.ySeq = trackSeq cid rs' fs.ySeq
      rw [gtrackSeq_repr, sim.ySeq] }

theorem gpush_ite_map (p : Prop) [Decidable p] (f : Nat → List Bytes) (gf : Nat → List GBytes)
    (h : ∀ c, gf c = (f c).map toNats) (ch : Nat) (m : Bytes) (c : Nat) :
    (if p then gpush gf ch (toNats m) else gf) c = ((if p then System.push f ch m else f) c).map toNats := by
  split
  · exact gpush_map _ _ h ch m c
  · exact h c

theorem simFS_sendGhost {cid : Nat} {fs : FS} {g : GFS} (sim : SimFS fs g) (mrss : Nat → Nat → Nat)
    (hrs : g.rs = reprServer mrss fs.s.renet) (rs' : Server) (ch : Nat) (m : Bytes) :
    SimFS (sendGhost cid fs rs' ch m) (gsendGhost cid g (reprServer mrss rs') ch m) := by
  have hy : gtrackSeq cid (reprServer mrss rs') g.ySeq = trackSeq cid rs' fs.ySeq := by rw [gtrackSeq_repr, sim.ySeq]
  unfold sendGhost gsendGhost
  simp only [hrs, gconn_repr, MultiSystem.conn?, hy]
  -- `acc` and `off` are computed from `cid`'s entries before and after the call: the same Booleans on both sides
  cases SMap.find? fs.s.renet.conns cid <;> cases SMap.find? rs'.conns cid
  all_goals
    simp only [Option.map_some, Option.map_none, gAccepted_repr, gOfferedU_repr]
    exact { sim with
      rs := ⟨mrss, rfl⟩
      ySeq := rfl
      subS := fun c => by dsimp only; exact gpush_ite_map _ _ _ sim.subS ch m c
      subSU := fun c => by dsimp only; exact gpush_ite_map _ _ _ sim.subSU ch m c }

theorem fsGood_setRenet {cid : Nat} {fs : FS} (hg : FSGood fs) {rs' : Server} (h : SGood rs') :
    FSGood (setRenet cid fs rs') := ⟨hg.cli, h, hg.ncC, hg.ncS⟩

theorem fsGood_sendGhost {cid : Nat} {fs : FS} (hg : FSGood fs) {rs' : Server} (h : SGood rs') (ch : Nat) (m : Bytes) :
    FSGood (sendGhost cid fs rs' ch m) := ⟨hg.cli, h, hg.ncC, hg.ncS⟩

/-- the other client's model operations are the client operations of `FS.step` with the other client in the client's place -/
def othAsCli : MOp → Option FSOp
  | .othSend ch m => some (.cliSend ch m)
  | .othRecv ch => some (.cliRecv ch)
  | .othTick dt => some (.cliTick dt)
  | .othDisconnect => some .cliDisconnect
  | .othUpdate d inbox => some (.cliUpdate d inbox)
  | .othSendPackets => some .cliSendPackets
  | .othTransportDisconnect => some .cliTransportDisconnect
  | _ => none

theorem oth_as_cli (a : AEAD) (cid : Nat) (ms : MS) (op : MOp) (cop : FSOp) (h : othAsCli op = some cop) :
    match (fsO ms).step a cid cop with
    | some fs' => ∃ ms', ms.step a cid op = some ms' ∧ ms'.fs = ms.fs ∧ ms'.o = fs'.c
    | none => ms.step a cid op = none := by
  cases op <;> simp only [othAsCli, Option.some.injEq, reduceCtorEq] at h <;> subst h
  -- in each case both steps are a `match` on the result of the same model function
  all_goals simp only [MS.step, MS.othStep, FS.step, fsO]
  case othSend ch m =>
    cases ms.o.renet.sendMessage ch m with
    | ok r' => exact ⟨_, rfl, rfl, rfl⟩
    | err e => rfl
    | panic p => rfl
  case othRecv ch =>
    cases ms.o.renet.receiveMessage ch with
    | ok v =>
      obtain ⟨r', o⟩ := v
      cases o <;> exact ⟨_, rfl, rfl, rfl⟩
    | err e => rfl
    | panic p => rfl
  case othTick dt =>
    cases ms.o.renet.update dt with
    | ok r' => exact ⟨_, rfl, rfl, rfl⟩
    | err e => rfl
    | panic p => rfl
  case othDisconnect =>
    exact ⟨_, rfl, rfl, rfl⟩
  case othUpdate d inbox =>
    cases clientUpdate a ms.o d inbox with
    | ok o => exact ⟨_, rfl, rfl, rfl⟩
    | err e => rfl
    | panic p => rfl
  case othSendPackets =>
    cases clientSendPackets a ms.o with
    | ok v =>
      obtain ⟨res, g', out⟩ := v
      exact ⟨_, rfl, rfl, rfl⟩
    | err e => rfl
    | panic p => rfl
  case othTransportDisconnect =>
    cases clientDisconnect a ms.o with
    | ok v =>
      obtain ⟨g', out⟩ := v
      exact ⟨_, rfl, rfl, rfl⟩
    | err e => rfl
    | panic p => rfl

theorem oth_gsim (a : AEAD) (hl : a.Laws) (cid : Nat) {ms : MS} {gm : GMS} (hg : MSGood ms) (sim : SimMS ms gm)
    (op : MOp) (cop : FSOp) (hc : othAsCli (cutMOp op) = some (cutOp cop)) (hgm : gm.step a cid op = gm.othStep a cid cop)
    (hrg : FSOpInRange (fsO ms) cop) (hloc : OpLocalOk a (fsO ms) cop) :
    match ms.step a cid (cutMOp op) with
    | some ms' => ∃ gm', gm.step a cid op = some gm' ∧ SimMS ms' gm' ∧ MSGood ms'
    | none => gm.step a cid op = none := by
  have hstep := fstep_sim a hl cid hg.asO sim.asO cop hrg (opTie_of_local a hl hg.asO cop hrg hloc)
  have hmod := oth_as_cli a cid ms (cutMOp op) (cutOp cop) hc
  rw [hgm]
  unfold GMS.othStep
  cases hs : (fsO ms).step a cid (cutOp cop) with
  | none =>
    rw [hs] at hstep hmod
    rw [hmod, hstep]
  | some fs' =>
    rw [hs] at hstep hmod
    obtain ⟨g', e, s', gd'⟩ := hstep
    obtain ⟨⟨_, _, _, _, _, _⟩, e', rfl, rfl⟩ := hmod
    rw [e', e]
    exact ⟨_, rfl, ⟨sim.fs, s'.tc, s'.rc⟩, ⟨hg.fs, gd'.cli, gd'.ncC⟩⟩

/-- a base operation as a step of the several-client system (also reached through `srvSendTo cid` etc.); the other client
    is left alone, `u` is what the step makes of the ghost `updS` -/
theorem base_gsim (a : AEAD) (hl : a.Laws) (cid : Nat) {ms : MS} {gm : GMS} (hg : MSGood ms) (sim : SimMS ms gm) (op : FSOp)
    (hrg : FSOpInRange ms.fs op) (hloc : OpLocalOk a ms.fs op) (u : List Dgram) :
    match (match ms.fs.step a cid (cutOp op) with
      | some fs' => some { ms with fs := fs', updS := u }
      | none => none) with
    | some ms' => ∃ gm', (match gm.g.step a cid op with
        | some g' => some { gm with g := g' }
        | none => none) = some gm' ∧ SimMS ms' gm' ∧ MSGood ms'
    | none => (match gm.g.step a cid op with
        | some g' => some { gm with g := g' }
        | none => none) = none := by
  have h := fstep_sim a hl cid hg.fs sim.fs op hrg (opTie_of_local a hl hg.fs op hrg hloc)
  cases hs : ms.fs.step a cid (cutOp op) with
  | none =>
    rw [hs] at h
    rw [h]
  | some fs' =>
    rw [hs] at h
    obtain ⟨g', e, s', gd'⟩ := h
    rw [e]
    exact ⟨_, rfl, ⟨s', sim.to, sim.ro⟩, ⟨gd', hg.oR, hg.oN⟩⟩

theorem mstep_gsim (a : AEAD) (hl : a.Laws) (cid : Nat) {ms : MS} {gm : GMS} (hg : MSGood ms) (sim : SimMS ms gm) (op : MOp)
    (hrg : MOpInRange ms op) (hloc : MOpLocalOk a ms op) :
    match ms.step a cid (cutMOp op) with
    | some ms' => ∃ gm', gm.step a cid op = some gm' ∧ SimMS ms' gm' ∧ MSGood ms'
    | none => gm.step a cid op = none := by
  obtain ⟨mrss, hrs⟩ := sim.fs.rs
  have hsg := hg.fs.srv
  cases op with
  | base op =>
    simp only [cutMOp, MS.step, GMS.step]
    exact base_gsim a hl cid hg sim op hrg hloc _
  | srvSendTo id ch m =>
    by_cases hid : id = cid
    · subst hid
      simp only [cutMOp, MS.step, GMS.step, if_true]
      exact base_gsim a hl id hg sim (.srvSend ch m) hrg trivial _
    · have tie := SrcTie.server_send_message (ε := Empty) mrss ms.fs.s.renet id ch m hsg.sorted
        (fun c hf => sendMsgOk_of (hsg.find hf) (hrg.2 (id, c) (SMap.mem_of_find? hf)) ch m hrg.1)
      simp only [cutMOp, MS.step, GMS.step, if_neg hid, hrs]
      cases hm : ms.fs.s.renet.sendMessage id ch m with
      | ok rs' =>
        rw [tie.map_ok hm]
        exact ⟨_, rfl, ⟨simFS_setRenet sim.fs mrss rs', sim.to, sim.ro⟩,
          ⟨fsGood_setRenet hg.fs (hsg.sendMessage hm), hg.oR, hg.oN⟩⟩
      | err e => exact nomatch e
      | panic msg =>
        obtain ⟨m', e⟩ := tie.map_panic hm
        rw [e]
  | srvRecvFrom id ch =>
    by_cases hid : id = cid
    · subst hid
      simp only [cutMOp, MS.step, GMS.step, if_true]
      exact base_gsim a hl id hg sim (.srvRecv ch) hrg trivial _
    · have tie := SrcTie.server_receive_message (ε := Empty) mrss ms.fs.s.renet id ch hsg.sorted
        (fun c hf => recvOk_of (hsg.find hf) (hrg (id, c) (SMap.mem_of_find? hf)) ch)
      simp only [cutMOp, MS.step, GMS.step, if_neg hid, hrs]
      cases hm : ms.fs.s.renet.receiveMessage id ch with
      | ok v =>
        obtain ⟨rs', o⟩ := v
        rw [tie.map_ok hm]
        -- a message or none: only the ghost `obtSO` differs
        cases o <;>
          exact ⟨_, rfl, ⟨simFS_setRenet sim.fs mrss rs', sim.to, sim.ro⟩,
            ⟨fsGood_setRenet hg.fs (hsg.receiveMessage hm), hg.oR, hg.oN⟩⟩
      | err e => exact nomatch e
      | panic msg =>
        obtain ⟨m', e⟩ := tie.map_panic hm
        rw [e]
  | srvDisconnectId id =>
    by_cases hid : id = cid
    · subst hid
      simp only [cutMOp, MS.step, GMS.step, if_true]
      exact base_gsim a hl id hg sim .srvDisconnect trivial trivial _
    · have e := SrcTie.server_disconnect (ε := Empty) mrss ms.fs.s.renet id hsg.sorted
      simp only [cutMOp, MS.step, GMS.step, if_neg hid, hrs, e]
      exact ⟨_, rfl, ⟨simFS_setRenet sim.fs mrss _, sim.to, sim.ro⟩,
        ⟨fsGood_setRenet hg.fs (hsg.disconnect id), hg.oR, hg.oN⟩⟩
  | srvBroadcast ch m =>
    have tie := SrcTie.server_broadcast_message (ε := Empty) mrss ms.fs.s.renet ch m
      (fun p hp => sendMsgOk_of (hsg.conns p hp) (hrg.2 p hp) ch m hrg.1)
    simp only [cutMOp, MS.step, GMS.step, hrs]
    cases hm : ms.fs.s.renet.broadcast ch m with
    | ok rs' =>
      rw [tie.map_ok hm]
      exact ⟨_, rfl, ⟨simFS_sendGhost sim.fs mrss hrs rs' ch m, sim.to, sim.ro⟩,
        ⟨fsGood_sendGhost hg.fs (hsg.broadcast hm) ch m, hg.oR, hg.oN⟩⟩
    | err e => exact nomatch e
    | panic msg =>
      obtain ⟨m', e⟩ := tie.map_panic hm
      rw [e]
  | srvBroadcastExcept ex ch m =>
    have tie := SrcTie.server_broadcast_message_except (ε := Empty) mrss ms.fs.s.renet ex ch m
      (fun p hp _ => sendMsgOk_of (hsg.conns p hp) (hrg.2 p hp) ch m hrg.1)
    simp only [cutMOp, MS.step, GMS.step, hrs]
    cases hm : ms.fs.s.renet.broadcastExcept ex ch m with
    | ok rs' =>
      rw [tie.map_ok hm]
      by_cases hex : ex = cid
      · simp only [if_pos hex]
        exact ⟨_, rfl, ⟨simFS_setRenet sim.fs mrss rs', sim.to, sim.ro⟩,
          ⟨fsGood_setRenet hg.fs (hsg.broadcastExcept hm), hg.oR, hg.oN⟩⟩
      · simp only [if_neg hex]
        exact ⟨_, rfl, ⟨simFS_sendGhost sim.fs mrss hrs rs' ch m, sim.to, sim.ro⟩,
          ⟨fsGood_sendGhost hg.fs (hsg.broadcastExcept hm) ch m, hg.oR, hg.oN⟩⟩
    | err e => exact nomatch e
    | panic msg =>
      obtain ⟨m', e⟩ := tie.map_panic hm
      rw [e]
  | othSend ch m => exact oth_gsim a hl cid hg sim (.othSend ch m) (.cliSend ch m) rfl rfl hrg trivial
  | othRecv ch => exact oth_gsim a hl cid hg sim (.othRecv ch) (.cliRecv ch) rfl rfl hrg trivial
  | othTick dt => exact oth_gsim a hl cid hg sim (.othTick dt) (.cliTick dt) rfl rfl hrg trivial
  | othDisconnect => exact oth_gsim a hl cid hg sim .othDisconnect .cliDisconnect rfl rfl trivial trivial
  | othUpdate d inbox => exact oth_gsim a hl cid hg sim (.othUpdate d inbox) (.cliUpdate d inbox) rfl rfl hrg hloc
  | othSendPackets => exact oth_gsim a hl cid hg sim .othSendPackets .cliSendPackets rfl rfl trivial hloc
  | othTransportDisconnect => exact oth_gsim a hl cid hg sim .othTransportDisconnect .cliTransportDisconnect rfl rfl trivial trivial

def MSRunOK (a : AEAD) (cid : Nat) (ms : MS) : List MOp → Prop
  | [] => True
  | op :: ops => MOpInRange ms op ∧ MOpLocalOk a ms op ∧
      match ms.step a cid (cutMOp op) with
      | some ms' => MSRunOK a cid ms' ops
      | none => True

instance decMSRunOK (a : AEAD) (cid : Nat) : ∀ (ms : MS) (ops : List MOp), Decidable (MSRunOK a cid ms ops)
  | _, [] => isTrue trivial
  | ms, op :: ops => by
    unfold MSRunOK
    have : Decidable (match ms.step a cid (cutMOp op) with | some ms' => MSRunOK a cid ms' ops | none => True) := by
      cases ms.step a cid (cutMOp op) with
      | none => exact isTrue trivial
      | some ms' => exact decMSRunOK a cid ms' ops
    infer_instance

theorem mrun_gsim_from (a : AEAD) (hl : a.Laws) (cid : Nat) : ∀ (ops : List MOp) (ms : MS) (gm : GMS), MSGood ms →
    SimMS ms gm → MSRunOK a cid ms ops →
    match ms.run a cid (ops.map cutMOp) with
    | some ms' => ∃ gm', gm.run a cid ops = some gm' ∧ SimMS ms' gm' ∧ MSGood ms'
    | none => gm.run a cid ops = none := by
  intro ops
  induction ops with
  | nil => intro ms gm hg hsim _; exact ⟨gm, rfl, hsim, hg⟩
  | cons op ops ih =>
    intro ms gm hg hsim hok
    obtain ⟨hrg, hloc, hrest⟩ := hok
    have hstep := mstep_gsim a hl cid hg hsim op hrg hloc
    simp only [List.map_cons, MS.run, GMS.run]
    cases hs : ms.step a cid (cutMOp op) with
    | none =>
      rw [hs] at hstep
      simp only [hstep]
    | some ms' =>
      rw [hs] at hstep hrest
      obtain ⟨gm', e, hsim', hg'⟩ := hstep
      simp only [e]
      exact ih ms' gm' hg' hsim' hrest

theorem mrun_gsim (a : AEAD) (hl : a.Laws) (cid : Nat) (ops : List MOp) (ms0 ms : MS) (gm0 : GMS) (hg : MSGood ms0)
    (hsim : SimMS ms0 gm0) (hok : MSRunOK a cid ms0 ops) (hr : ms0.run a cid (ops.map cutMOp) = some ms) :
    ∃ gm, gm0.run a cid ops = some gm ∧ SimMS ms gm ∧ MSGood ms := by
  have := mrun_gsim_from a hl cid ops ms0 gm0 hg hsim hok
  rw [hr] at this
  exact this

theorem mrun_gsim_conv (a : AEAD) (hl : a.Laws) (cid : Nat) (ops : List MOp) (ms0 : MS) (gm0 gm : GMS) (hg : MSGood ms0)
    (hsim : SimMS ms0 gm0) (hok : MSRunOK a cid ms0 ops) (hr : gm0.run a cid ops = some gm) :
    ∃ ms, ms0.run a cid (ops.map cutMOp) = some ms ∧ SimMS ms gm ∧ MSGood ms := by
  have := mrun_gsim_from a hl cid ops ms0 gm0 hg hsim hok
  cases hm : ms0.run a cid (ops.map cutMOp) with
  | none => rw [hm] at this; rw [hr] at this; cases this
  | some ms =>
    rw [hm] at this
    obtain ⟨gm', e, hs, hgd⟩ := this
    rw [hr] at e; cases e
    exact ⟨ms, rfl, hs, hgd⟩

def gmOf (ms : MS) : GMS :=
  { g := gOf ms.fs
    to := ctrR [] #[] (List.replicate C.NETCODE_MAX_PACKET_BYTES 0) ms.o.netcode (List.replicate C.TRANSPORT_CLIENT_BUFFER 0)
    ro := reprConn (fun _ => 0) ms.o.renet }

theorem simMS_gmOf (ms : MS) : SimMS ms (gmOf ms) :=
  ⟨simFS_gOf ms.fs, ⟨[], #[], _, _, List.length_replicate, List.length_replicate, rfl⟩, ⟨_, rfl⟩⟩

/-- **The composition, several clients, generated code** (`FullStackMulti.m_full_stack` carried along `mrun_gsim_conv`): after
    every run of the generated several-client stack from (the representation of) a state in which `cid`'s session is established,
    the three channel guarantees hold of the generated ghost logs of `cid`'s link in both directions.  `src_multi_ordered_prefix`,
    `src_multi_integrity` and `SrcPropsFullStackMulti2.src_multi_unordered_once` are its components. -/
theorem src_multi {a : AEAD} (hl : a.Laws) {cfg : Cfg} {cid : Nat} {ms0 : MS} {gm0 gm : GMS} {ops : List MOp}
    (he : Established cfg cid ms0.fs) (hgood : MSGood ms0) (hsim : SimMS ms0 gm0) (hr : gm0.run a cid ops = some gm)
    (hok : MSRunOK a cid ms0 ops) (hnf : MNoForgeryRunD a cid ms0 (ops.map cutMOp))
    (hss : MSingleSessionRun a cid ms0 (ops.map cutMOp)) :
    (GCountersUp cfg gm.g → Guarantees cfg gm.g.subC gm.g.subCU gm.g.obtS) ∧
    (GCountersDown cfg gm.g → Guarantees (Cfg.swap cfg) gm.g.subS gm.g.subSU gm.g.obtC) := by
  obtain ⟨ms, hm, sim, -⟩ := mrun_gsim_conv a hl cid ops ms0 gm0 gm hgood hsim hok hr
  have h := m_full_stack hl he.toRenetFresh hm (m_noForgery_of_D he hss hnf) hss
  rw [funext sim.fs.subC, funext sim.fs.subCU, funext sim.fs.obtS, funext sim.fs.subS, funext sim.fs.subSU,
    funext sim.fs.obtC]
  exact ⟨fun hc => (h.1 (countersUp_of_sim sim.fs hc)).onNats, fun hc => (h.2 (countersDown_of_sim sim.fs hc)).onNats⟩

/-- **C01, several clients, generated code.**  After every run of the generated several-client stack from (the
    representation of) a state in which `cid`'s session is established: on every ReliableOrdered channel of `cid`'s link,
    in both directions, what the generated receiver handed to its application is a prefix of what the sending application
    submitted to the generated sender — whatever the other generated client, the server application's per-id calls and
    broadcasts (generated `RenetServer`), and the adversary do. -/
theorem src_multi_ordered_prefix (a : AEAD) (hl : a.Laws) (cfg : Cfg) (cid : Nat) (ms0 : MS) (gm0 gm : GMS) (ops : List MOp)
    (he : Established cfg cid ms0.fs) (hgood : MSGood ms0) (hsim : SimMS ms0 gm0) (hr : gm0.run a cid ops = some gm)
    (hok : MSRunOK a cid ms0 ops) (hnf : MNoForgeryRunD a cid ms0 (ops.map cutMOp))
    (hss : MSingleSessionRun a cid ms0 (ops.map cutMOp)) :
    (GCountersUp cfg gm.g → ∀ ch, cfg.Ordered ch → gm.g.obtS ch <+: gm.g.subC ch) ∧
    (GCountersDown cfg gm.g → ∀ ch, (Cfg.swap cfg).Ordered ch → gm.g.obtC ch <+: gm.g.subS ch) :=
  let h := src_multi hl he hgood hsim hr hok hnf hss
  ⟨fun hc => (h.1 hc).1, fun hc => (h.2 hc).1⟩

/-- **C03, several clients, generated code.** -/
theorem src_multi_integrity (a : AEAD) (hl : a.Laws) (cfg : Cfg) (cid : Nat) (ms0 : MS) (gm0 gm : GMS) (ops : List MOp)
    (he : Established cfg cid ms0.fs) (hgood : MSGood ms0) (hsim : SimMS ms0 gm0) (hr : gm0.run a cid ops = some gm)
    (hok : MSRunOK a cid ms0 ops) (hnf : MNoForgeryRunD a cid ms0 (ops.map cutMOp))
    (hss : MSingleSessionRun a cid ms0 (ops.map cutMOp)) :
    (GCountersUp cfg gm.g →
      (∀ ch, cfg.Ordered ch ∨ cfg.Unordered ch → ∀ x ∈ gm.g.obtS ch, x ∈ gm.g.subC ch) ∧
      (∀ ch, cfg.Unreliable ch → ∀ x ∈ gm.g.obtS ch, x ∈ gm.g.subCU ch)) ∧
    (GCountersDown cfg gm.g →
      (∀ ch, (Cfg.swap cfg).Ordered ch ∨ (Cfg.swap cfg).Unordered ch → ∀ x ∈ gm.g.obtC ch, x ∈ gm.g.subS ch) ∧
      (∀ ch, (Cfg.swap cfg).Unreliable ch → ∀ x ∈ gm.g.obtC ch, x ∈ gm.g.subSU ch)) :=
  let h := src_multi hl he hgood hsim hr hok hnf hss
  ⟨fun hc => (h.1 hc).integrity, fun hc => (h.2 hc).integrity⟩

/-! ## non-vacuity: the generated several-client stack EVALUATED by the kernel on the two-client session of `C20M.Ex`

  Start state `gmOf ms0`: the generated representation of the model state after client 7's handshake, with client 9's
  generated transport fresh from `NetcodeClient::new`.  The kernel runs the 39 operations of `C20M.Ex.ops` through the
  generated code — client 9's handshake through the generated `NetcodeServerTransport::update`, the generated
  `broadcast_message`, `broadcast_message_except`, `send_message(9, …)`, both clients' traffic, client 9's disconnect, client
  7 continuing — and the theorems above are APPLIED to that run with every hypothesis discharged. -/
namespace Ex
open RenetVerif.C20

abbrev ms0 := C20M.Ex.ms0
abbrev ops := C20M.Ex.ops
abbrev cfg := C20F.Ex.cfg

/-- the model invariants of the other client's two layers (fresh from `NetcodeClient::new` / `RenetClient::new`) -/
theorem o0_good : CliInv C20M.Ex.o0.netcode ∧ EpGood C20M.Ex.o0.renet := by
  have h : C20M.Ex.o0.renet = Conn.fromChannels 60000 exChans exChans ∧
      C20M.Ex.o0.netcode.connectToken.timeoutSeconds < 2 ^ 31 ∧
      C20M.Ex.o0.netcode.serverAddrIndex < C.NETCODE_TOKEN_MAX_ADDRESSES := by
    decide +kernel
  obtain ⟨e, h1, h2⟩ := h
  refine ⟨⟨h1, Nat.le_of_lt h2, fun _ => h2⟩, ?_⟩
  rw [e]; exact epGood_fromChannels _ _ _

theorem ms0_good : MSGood ms0 := ⟨SrcPropsFullStack.Ex.fs0_good, o0_good.2, o0_good.1⟩

def gfin : GMS := ((gmOf ms0).run toyAead 7 ops).getD (gmOf ms0)

end Ex
end RenetVerif.SrcPropsFullStackMulti

/-! The moments of this run that `Props/SrcPropsFullStackMulti2.lean` looks at stand here, ahead of that file, because they are
    states after PREFIXES of the 39 operations: `Ex.gall` below evaluates the run and its moments in one kernel evaluation, so
    that the common prefixes are run once. -/
namespace RenetVerif.SrcPropsFullStackMulti2
open RenetVerif C RenetVerif.RustSem RenetVerif.System RenetVerif.Netcode RenetVerif.Transport RenetVerif.FullStack
  RenetVerif.FullStackMulti
open RenetVerif.SrcEquiv RenetVerif.SrcSystem RenetVerif.SrcMulti RenetVerif.SrcFullStack RenetVerif.SrcPropsFullStackMulti
open Src.renet.remote_connection Src.renet.server Src.renet_netcode.server Src.renet_netcode.client
namespace Ex
open RenetVerif.C20 RenetVerif.SrcPropsFullStackMulti.Ex
open RenetVerif.C20M.Ex (h1 h2 h3 h4 h5 g1 g2 g3 g4 g5 t1 t3 toSrv9 opsMid)

/-- the run up to and including the server `update` that completes client 9's handshake -/
def opsH : List MOp := h1 ++ h2 ++ h3
/-- the run up to the moment both clients are connected -/
def ops5 : List MOp := h1 ++ h2 ++ h3 ++ h4 ++ h5
/-- … up to `broadcast_message_except(9, 1, [2])` … -/
def ops6 : List MOp := ops5 ++ [.srvBroadcast 1 [5, 5]]
/-- … and up to `send_message(9, 1, [4])` -/
def ops7 : List MOp := ops6 ++ [.srvBroadcastExcept 9 1 [2]]

def gH : GMS := ((gmOf ms0).run toyAead 7 (opsH ++ h4)).getD (gmOf ms0)
def g7 : GMS := ((gmOf ms0).run toyAead 7 ops7).getD (gmOf ms0)
def g7' : GMS := (g7.step toyAead 7 (.srvSendTo 9 1 [4])).getD g7
/-- a generated `broadcast_message_except(7, 1, [3])` issued at the moment `g7` of the run (both clients connected) -/
def g7x : GMS := (g7.step toyAead 7 (.srvBroadcastExcept 7 1 [3])).getD g7

end Ex
end RenetVerif.SrcPropsFullStackMulti2

namespace RenetVerif.SrcPropsFullStackMulti
open RenetVerif C RenetVerif.RustSem RenetVerif.System RenetVerif.Netcode RenetVerif.Transport RenetVerif.FullStack
  RenetVerif.FullStackMulti
open RenetVerif.SrcEquiv RenetVerif.SrcSystem RenetVerif.SrcMulti RenetVerif.SrcFullStack
open Src.renet.remote_connection Src.renet.server Src.renet_netcode.server Src.renet_netcode.client
namespace Ex
open RenetVerif.C20

open RenetVerif.SrcPropsFullStackMulti2.Ex in
/-- The generated run and its moments.
    FIRST PART, the 39 operations: the run returns normally; what the generated code did (the observations of `C20M.Ex.all`,
    read off the generated state); the counter conditions; the side condition of the run; no datagram of the run is longer
    than a receive buffer; at the end both generated tables hold client 7 alone.
    SECOND PART (`SrcPropsFullStackMulti2.Ex.gmoments`), the run up to `g7` and the two calls issued there: after the handshake
    `update` both generated tables hold 7 and 9 and nobody is disconnected; the generated `send_message(9, 1, [4])` of the run
    CHANGED client 9's entry of the generated table (and, by the theorem, not client 7's); the generated
    `broadcast_message_except(7, 1, [3])` returns and changed client 9's entry too; the side condition of the run extended by
    that call. -/
theorem gall :
    (((gmOf ms0).run toyAead 7 ops).isSome = true ∧
      (gfin.g.subC 1 = [[1, 2, 3], [6]] ∧ gfin.g.obtS 1 = [[1, 2, 3], [6]] ∧
        gfin.g.subS 1 = [[5, 5], [2], [9, 9], [8]] ∧ gfin.g.obtC 1 = [[5, 5], [2], [9, 9], [8]]) ∧
      (GCountersUp cfg gfin.g ∧ GCountersDown cfg gfin.g) ∧
      (MSRunOK toyAead 7 ms0 ops ∧ ops.map cutMOp = ops) ∧
      ((Src.renetcode.server.NetcodeServer.clients_id gfin.g.ts.netcode_server : Res Empty _) = .ok [7] ∧
        (RenetServer.clients_id gfin.g.rs : Res Empty _) = .ok [7])) ∧
    (((Src.renetcode.server.NetcodeServer.clients_id gH.g.ts.netcode_server : Res Empty _) = .ok [7, 9] ∧
        (RenetServer.clients_id gH.g.rs : Res Empty _) = .ok [7, 9] ∧
        (RenetServer.disconnections_id gH.g.rs : Res Empty _) = .ok []) ∧
      (((gmOf ms0).run toyAead 7 ops7).isSome = true ∧ (g7.step toyAead 7 (.srvSendTo 9 1 [4])).isSome = true ∧
        decide (gconn? g7'.g.rs 9 = gconn? g7.g.rs 9) = false ∧ decide (gconn? g7'.g.rs 7 = gconn? g7.g.rs 7) = true) ∧
      ((g7.step toyAead 7 (.srvBroadcastExcept 7 1 [3])).isSome = true ∧
        decide (gconn? g7x.g.rs 9 = gconn? g7.g.rs 9) = false) ∧
      MSRunOK toyAead 7 ms0 (ops7 ++ [.srvBroadcastExcept 7 1 [3]])) := by
  decide +kernel

theorem grun : (gmOf ms0).run toyAead 7 ops = some gfin := some_getD gall.1.1 _
theorem cut_ops : ops.map cutMOp = ops := gall.1.2.2.2.1.2
theorem runOK : MSRunOK toyAead 7 ms0 ops := gall.1.2.2.2.1.1
theorem gcountersUp : GCountersUp cfg gfin.g := gall.1.2.2.1.1
theorem gcountersDown : GCountersDown cfg gfin.g := gall.1.2.2.1.2
theorem gtables : (Src.renetcode.server.NetcodeServer.clients_id gfin.g.ts.netcode_server : Res Empty _) = .ok [7] ∧
    (RenetServer.clients_id gfin.g.rs : Res Empty _) = .ok [7] := gall.1.2.2.2.2

/-- **`src_multi_ordered_prefix` applied** to the generated run (all hypotheses discharged), both directions -/
example : gfin.g.obtS 1 <+: gfin.g.subC 1 ∧ gfin.g.obtC 1 <+: gfin.g.subS 1 :=
  let h := src_multi_ordered_prefix toyAead toyAead_laws cfg 7 ms0 (gmOf ms0) gfin ops C20M.Ex.established ms0_good
    (simMS_gmOf ms0) grun runOK (by rw [cut_ops]; exact C20M.Ex.noForgery) (by rw [cut_ops]; exact C20M.Ex.singleSession)
  ⟨h.1 gcountersUp 1 C20F.Ex.ordered1, h.2 gcountersDown 1 C20F.Ex.ordered1'⟩

/-- **`src_multi_integrity` applied**: server → client 7, channel 1 -/
example : ∀ x ∈ gfin.g.obtC 1, x ∈ gfin.g.subS 1 :=
  ((src_multi_integrity toyAead toyAead_laws cfg 7 ms0 (gmOf ms0) gfin ops C20M.Ex.established ms0_good
    (simMS_gmOf ms0) grun runOK (by rw [cut_ops]; exact C20M.Ex.noForgery) (by rw [cut_ops]; exact C20M.Ex.singleSession)).2
    gcountersDown).1 1 (Or.inl C20F.Ex.ordered1')

/-- what the generated code did: client 7 obtained both broadcasts, the except-9 broadcast and its own message, in order,
    and not the message addressed to client 9; the server obtained client 7's two messages -/
example : gfin.g.subC 1 = [[1, 2, 3], [6]] ∧ gfin.g.obtS 1 = [[1, 2, 3], [6]] ∧
    gfin.g.subS 1 = [[5, 5], [2], [9, 9], [8]] ∧ gfin.g.obtC 1 = [[5, 5], [2], [9, 9], [8]] := gall.1.2.1

end Ex

end RenetVerif.SrcPropsFullStackMulti
