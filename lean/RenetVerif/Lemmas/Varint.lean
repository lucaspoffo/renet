import RenetVerif.Renet.Packet
namespace RenetVerif
namespace Varint

theorem beBytes_length (n k : Nat) : (beBytes n k).length = k := by
  induction k with
  | zero => rfl
  | succ k ih => simp [beBytes, ih]

theorem beVal_append (a b : Bytes) (acc : Nat) : beVal (a ++ b) acc = beVal b (beVal a acc) := by
  induction a generalizing acc with
  | nil => rfl
  | cons x xs ih => simp [beVal, ih]

theorem beVal_beBytes (n k acc : Nat) : beVal (beBytes n k) acc = acc * 256 ^ k + n % 256 ^ k := by
  induction k generalizing acc with
  | zero => simp [beBytes, beVal, Nat.mod_one]
  | succ k ih =>
    simp only [beBytes, beVal, ih]
    have h1 : (UInt8.ofNat (n / 256 ^ k % 256)).toNat = n / 256 ^ k % 256 := by
      simp [UInt8.toNat_ofNat']
    rw [h1]
    have h2 : n % 256 ^ (k + 1) = (n / 256 ^ k % 256) * 256 ^ k + n % 256 ^ k := by
      rw [Nat.pow_succ, Nat.mod_mul, Nat.add_comm, Nat.mul_comm]
    rw [h2, Nat.pow_succ, Nat.add_mul, Nat.mul_assoc, Nat.mul_comm 256 (256 ^ k), Nat.add_assoc]

/-- encoded length announced by the two top bits `t` of the first byte -/
def tagLen (t : Nat) : Nat :=
  match t with | 0 => 1 | 1 => 2 | 2 => 4 | _ => 8

theorem tagLen_bounds (t : Nat) : 1 ≤ tagLen t ∧ tagLen t ≤ 8 := by
  unfold tagLen
  split <;> decide

theorem get_cons (first : UInt8) (r : Bytes) :
    get (first :: r) =
      if tagLen (first.toNat / 64) > (first :: r).length then none
      else some (beVal ((first :: r).take (tagLen (first.toNat / 64))) 0 % 2 ^ (8 * tagLen (first.toNat / 64) - 2),
        (first :: r).drop (tagLen (first.toNat / 64))) := rfl

theorem get_eq_some {b : Bytes} {v : Nat} {r : Bytes} (h : get b = some (v, r)) :
    ∃ len, 1 ≤ len ∧ len ≤ b.length ∧ r = b.drop len ∧ v ≤ MAX := by
  cases b with
  | nil => cases h
  | cons first tl =>
    obtain ⟨h1, h8⟩ := tagLen_bounds (first.toNat / 64)
    rw [get_cons] at h
    generalize tagLen (first.toNat / 64) = len at h h1 h8
    split at h
    · cases h
    · cases h
      have hlt := Nat.mod_lt (beVal (List.take len (first :: tl)) 0) (Nat.two_pow_pos (8 * len - 2))
      have hle : 2 ^ (8 * len - 2) ≤ 2 ^ 62 := Nat.pow_le_pow_right (by decide) (by omega)
      exact ⟨len, h1, by omega, rfl, by unfold MAX; omega⟩

theorem get_beBytes {n k t v : Nat} (rest : Bytes) (ht : n / 256 ^ k % 256 / 64 = t) (hl : tagLen t = k + 1)
    (hv : n % 256 ^ (k + 1) % 2 ^ (8 * (k + 1) - 2) = v) : get (beBytes n (k + 1) ++ rest) = some (v, rest) := by
  have hlen : (beBytes n (k + 1)).length = k + 1 := beBytes_length n (k + 1)
  have hb := beVal_beBytes n (k + 1) 0
  rw [beBytes] at hlen hb ⊢
  rw [List.cons_append, get_cons, UInt8.toNat_ofNat', Nat.mod_mod_of_dvd _ (by decide : 256 ∣ 2 ^ 8), ht, hl, ← List.cons_append,
    List.take_left' hlen, List.drop_left' hlen, hb, if_neg (by rw [List.length_append, hlen]; omega), Nat.zero_mul, Nat.zero_add, hv]

theorem get_enc (v : Nat) (rest : Bytes) (h : v ≤ MAX) : get (enc v ++ rest) = some (v, rest) := by
  unfold MAX at h
  unfold enc
  split
  · exact get_beBytes (k := 0) (t := 0) rest (by omega) rfl (by omega)
  split
  · exact get_beBytes (k := 1) (t := 1) rest (by omega) rfl (by omega)
  split
  · exact get_beBytes (k := 3) (t := 2) rest (by omega) rfl (by omega)
  · exact get_beBytes (k := 7) (t := 3) rest (by omega) rfl (by omega)

end Varint
end RenetVerif
