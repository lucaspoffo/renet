/-
  A model-level invariant the source tie of `receive_message` needs (`conn_receive_message`: hypothesis `received.Nodup`):
  the `received` list of every reliable receive channel (unordered mode: the ids already handed over or queued, a `HashSet`
  in the Rust code) has no duplicates.  Established by `from_channels`, kept by every operation (`recvNodup_*`).
-/
import RenetVerif.Lemmas.SrcEquiv.InvBridge
import RenetVerif.Lemmas.SrcEquiv.SendTimeInv
namespace RenetVerif.SrcEquiv
open RenetVerif RenetVerif.C

def RecvNodup (c : Conn) : Prop := ∀ x ∈ c.recvRel, x.2.received.Nodup

theorem advanceOldest_nodup : ∀ (f o : Nat) (rec : List Nat), rec.Nodup → (advanceOldest f o rec).2.Nodup := by
  intro f
  induction f with
  | zero => intro o rec h; exact h
  | succ f ih =>
    intro o rec h
    unfold advanceOldest
    split
    · exact ih _ _ (h.erase o)
    · exact h

theorem receive_nodup {r r' : RecvRel} {m : Option Bytes} (hn : r.received.Nodup) (h : r.receive = .ok (r', m)) :
    r'.received.Nodup := by
  rcases RecvRel.receive_ok_iff.mp h with ⟨-, rfl, -⟩ | ⟨id, x, -, -, rfl, -⟩
  · exact hn
  · show (r.popCursor id).2.Nodup
    unfold RecvRel.popCursor
    split
    · exact hn
    · split
      · exact advanceOldest_nodup _ _ _ hn
      · exact hn

def KeepsNodup (r r' : RecvRel) : Prop := r.received.Nodup → r'.received.Nodup

theorem keepsNodup_cursory : RecvRel.Cursory KeepsNodup where
  same _ _ h3 hn := h3 ▸ hn
  trans h1 h2 hn := h2 (h1 hn)
  push {r id} m hv hn := by
    show (if r.ordered = true then r.received else id :: r.received).Nodup
    split
    · exact hn
    · rename_i ho
      exact List.nodup_cons.mpr ⟨fun hc => hv (Or.inr (by rw [if_neg ho]; exact hc)), hn⟩

theorem relMsgLoop_nodup : ∀ (msgs : List (Nat × Bytes)) (r : RecvRel), RecvRel.Lands (Conn.relMsgLoop r msgs) (KeepsNodup r)
  | [], r => RecvRel.lands_ok fun hn => hn
  | (id, m) :: rest, r => by
    unfold Conn.relMsgLoop
    have := RecvRel.processMessage_lands keepsNodup_cursory r m id
    cases hp : r.processMessage m id with
    | ok r1 => exact fun r' h hn => relMsgLoop_nodup rest r1 r' h (this r1 (.inl hp) hn)
    | err x => rw [hp] at this; exact this
    | panic s => exact RecvRel.lands_panic

theorem recvNodup_fromChannels (budget : Nat) (send recv : List ChanCfg) : RecvNodup (Conn.fromChannels budget send recv) :=
  SMap.forall_mem_foldl_insert _ _ (Q := fun r : RecvRel => r.received.Nodup) (fun b => List.nodup_nil) _ (fun x hx => by cases hx)

theorem RecvNodup.of_eq {c c' : Conn} (h : RecvNodup c) (he : c'.recvRel = c.recvRel) : RecvNodup c' := by
  unfold RecvNodup; rw [he]; exact h

theorem nodup_step {r r' : RecvRel} (hn : r.received.Nodup) (hs : RecvRelStep r r') : r'.received.Nodup := by
  cases hs with
  | receive hr => exact receive_nodup hn hr
  | msgs hl => exact relMsgLoop_nodup _ r _ hl hn
  | slice hl => exact RecvRel.processSlice_lands keepsNodup_cursory r _ _ hl hn

theorem recvNodup_kept : Kept .all RecvNodup where
  frame h _ _ h3 _ _ _ _ _ := h.of_eq h3
  sendRel h _ _ := h
  sendUnrel h _ _ := h
  recvRel h hf hs := SMap.forall_mem_insert (Q := fun r : RecvRel => r.received.Nodup) h _ (nodup_step (h _ (SMap.mem_of_find? hf)) hs)
  recvUnrel h _ _ := h
  eraseSent _ h := h
  insertSent _ _ h := h

theorem RecvNodup.disconnectWith {c : Conn} (h : RecvNodup c) (r : Reason) : RecvNodup (c.disconnectWith r) :=
  recvNodup_kept.disconnectWith h r
theorem RecvNodup.setConnecting {c : Conn} (h : RecvNodup c) : RecvNodup c.setConnecting := recvNodup_kept.setConnecting h

theorem recvNodup_update {c c' : Conn} {dt : Nat} (h : RecvNodup c) (hr : c.update dt = .ok c') : RecvNodup c' := by
  obtain ⟨ru, -, rfl⟩ := Conn.update_outcome hr
  exact h

end RenetVerif.SrcEquiv
