/-
  FULL STACK, SEVERAL CLIENTS: the system of `Lemmas/FullStack.lean` (`FS`: one observed session `cid`, the server glue
  possibly holding other clients, an adversarial network) extended by what `Props/C20F.lean` lists as NOT COVERED:

    * the server application's calls for OTHER client ids and for ALL clients:
        `RenetServer::send_message(id, ..)`, `receive_message(id, ..)`, `disconnect(id)` for any `id`,
        `broadcast_message`, `broadcast_message_except`;
    * a second, REAL client (`MS.o` : its own `NetcodeClientTransport` + `RenetClient`) whose handshake, traffic and
      disconnect run through the SAME `NetcodeServerTransport` (`update` / `send_packets` loop over all clients; the
      datagrams it emits reach the server through the adversary's inbox like everything else).

  For the observed client `cid` every `MS` step is matched by a `Duo` run (`mstep_sim`, the simulation relation
  `FullStack.Rel` on the `fs` component): calls for another id and all calls of the other client by the EMPTY run
  (frame), a broadcast by exactly the `Duo` run of a `srvSend`.
-/
import RenetVerif.Lemmas.FullStack
namespace RenetVerif.FullStackMulti
open RenetVerif C RenetVerif.System RenetVerif.Netcode RenetVerif.Transport RenetVerif.FullStack

/-- the server's `RenetServer` replaced (ghost `ySeq` follows the entry of `cid`) -/
def setRenet (cid : Nat) (fs : FS) (rs' : Server) : FS :=
  { fs with s := { fs.s with renet := rs' }, ySeq := trackSeq cid rs' fs.ySeq }

/-- the server's `RenetServer` replaced by the result of a call that offered `m` on channel `ch` to the connection of
    `cid` (if there is one): ghost logs exactly as `FS.step (.srvSend ch m)` writes them -/
def sendGhost (cid : Nat) (fs : FS) (rs' : Server) (ch : Nat) (m : Bytes) : FS :=
  let acc := match SMap.find? fs.s.renet.conns cid, SMap.find? rs'.conns cid with
    | some y0, some y1 => accepted y0 y1 ch
    | _, _ => false
  let off := match SMap.find? fs.s.renet.conns cid with
    | some y0 => offeredU y0 ch
    | none => false
  { fs with s := { fs.s with renet := rs' }, ySeq := trackSeq cid rs' fs.ySeq
            subS := if acc then push fs.subS ch m else fs.subS
            subSU := if off then push fs.subSU ch m else fs.subSU }

theorem step_srvSend {a : AEAD} {cid : Nat} {fs : FS} {ch : Nat} {m : Bytes} {rs' : Server}
    (h : fs.s.renet.sendMessage cid ch m = .ok rs') :
    fs.step a cid (.srvSend ch m) = some (sendGhost cid fs rs' ch m) := by
  simp only [FS.step, h]
  rfl

structure MS where
  /-- the observed session and the server (`FullStack.FS`) -/
  fs : FS
  /-- the other client: `NetcodeClientTransport` + `RenetClient` -/
  o : ClientGlue
  /-- ghost: every datagram the other client's `update` / `send_packets` / `disconnect` handed to its socket -/
  emO : List Dgram
  /-- ghost: every datagram the server's `update` / `disconnect_all` handed to the socket (handshake, keep-alive,
      disconnect datagrams; `FS.emS` has those of `send_packets`) -/
  updS : List Dgram
  /-- ghost: `(id, channel, message)` the server's application obtained from ids other than `cid` -/
  obtSO : List (Nat × Nat × Bytes)
  /-- ghost: `(channel, message)` the other client's application obtained -/
  obtO : List (Nat × Bytes)

inductive MOp where
  /-- every operation of the single-session system -/
  | base (op : FSOp)
  /-- `RenetServer::send_message(id, ch, m)`, any `id` -/
  | srvSendTo (id ch : Nat) (m : Bytes)
  /-- `RenetServer::receive_message(id, ch)`, any `id` -/
  | srvRecvFrom (id ch : Nat)
  /-- `RenetServer::disconnect(id)`, any `id` -/
  | srvDisconnectId (id : Nat)
  /-- `RenetServer::broadcast_message(ch, m)` -/
  | srvBroadcast (ch : Nat) (m : Bytes)
  /-- `RenetServer::broadcast_message_except(ex, ch, m)` -/
  | srvBroadcastExcept (ex ch : Nat) (m : Bytes)
  /-- the other client: `RenetClient::{send_message, receive_message, update, disconnect}`,
      `NetcodeClientTransport::{update, send_packets, disconnect}` -/
  | othSend (ch : Nat) (m : Bytes)
  | othRecv (ch : Nat)
  | othTick (dt : Nat)
  | othDisconnect
  | othUpdate (d : Nat) (inbox : List Dgram)
  | othSendPackets
  | othTransportDisconnect
  deriving Repr, DecidableEq

def srvUpdOut (a : AEAD) (fs : FS) : FSOp → List Dgram
  | .srvUpdate d inbox =>
    match serverUpdate a fs.s d inbox with
    | .ok (_, out) => out.toList
    | _ => []
  | .srvDisconnectAll =>
    match serverDisconnectAll a fs.s with
    | .ok (_, out) => out.toList
    | _ => []
  | _ => []

def MS.othStep (a : AEAD) (ms : MS) : MOp → Option MS
  | .othSend ch m =>
    match ms.o.renet.sendMessage ch m with
    | .ok r' => some { ms with o := { ms.o with renet := r' } }
    | _ => none
  | .othRecv ch =>
    match ms.o.renet.receiveMessage ch with
    | .ok (r', some m) => some { ms with o := { ms.o with renet := r' }, obtO := ms.obtO ++ [(ch, m)] }
    | .ok (r', none) => some { ms with o := { ms.o with renet := r' } }
    | _ => none
  | .othTick dt =>
    match ms.o.renet.update dt with
    | .ok r' => some { ms with o := { ms.o with renet := r' } }
    | _ => none
  | .othDisconnect => some { ms with o := { ms.o with renet := ms.o.renet.disconnectWith .byClient } }
  | .othUpdate d inbox =>
    match clientUpdate a ms.o d inbox with
    | .ok o => some { ms with o := o.g, emO := ms.emO ++ o.out.toList }
    | _ => none
  | .othSendPackets =>
    match clientSendPackets a ms.o with
    | .ok (_, g', out) => some { ms with o := g', emO := ms.emO ++ out.toList }
    | _ => none
  | .othTransportDisconnect =>
    match clientDisconnect a ms.o with
    | .ok (g', out) => some { ms with o := g', emO := ms.emO ++ out.toList }
    | _ => none
  | _ => none

/-- one operation; `none` = a model function panicked -/
def MS.step (a : AEAD) (cid : Nat) (ms : MS) : MOp → Option MS
  | .base op =>
    match ms.fs.step a cid op with
    | some fs' => some { ms with fs := fs', updS := ms.updS ++ srvUpdOut a ms.fs op }
    | none => none
  | .srvSendTo id ch m =>
    if id = cid then
      match ms.fs.step a cid (.srvSend ch m) with
      | some fs' => some { ms with fs := fs' }
      | none => none
    else
      match ms.fs.s.renet.sendMessage id ch m with
      | .ok rs' => some { ms with fs := setRenet cid ms.fs rs' }
      | _ => none
  | .srvRecvFrom id ch =>
    if id = cid then
      match ms.fs.step a cid (.srvRecv ch) with
      | some fs' => some { ms with fs := fs' }
      | none => none
    else
      match ms.fs.s.renet.receiveMessage id ch with
      | .ok (rs', some m) => some { ms with fs := setRenet cid ms.fs rs', obtSO := ms.obtSO ++ [(id, ch, m)] }
      | .ok (rs', none) => some { ms with fs := setRenet cid ms.fs rs' }
      | _ => none
  | .srvDisconnectId id =>
    if id = cid then
      match ms.fs.step a cid .srvDisconnect with
      | some fs' => some { ms with fs := fs' }
      | none => none
    else some { ms with fs := setRenet cid ms.fs (ms.fs.s.renet.disconnect id) }
  | .srvBroadcast ch m =>
    match ms.fs.s.renet.broadcast ch m with
    | .ok rs' => some { ms with fs := sendGhost cid ms.fs rs' ch m }
    | _ => none
  | .srvBroadcastExcept ex ch m =>
    match ms.fs.s.renet.broadcastExcept ex ch m with
    | .ok rs' => some { ms with fs := if ex = cid then setRenet cid ms.fs rs' else sendGhost cid ms.fs rs' ch m }
    | _ => none
  | op => ms.othStep a op

def MS.run (a : AEAD) (cid : Nat) (ms : MS) : List MOp → Option MS
  | [] => some ms
  | op :: ops =>
    match ms.step a cid op with
    | some ms' => ms'.run a cid ops
    | none => none

theorem MS.run_append (a : AEAD) (cid : Nat) (ms : MS) : ∀ (l1 l2 : List MOp),
    ms.run a cid (l1 ++ l2) = (ms.run a cid l1).bind (fun ms' => ms'.run a cid l2) := by
  intro l1
  induction l1 generalizing ms with
  | nil => intro l2; rfl
  | cons op l1 ih =>
    intro l2
    simp only [List.cons_append, MS.run]
    cases ms.step a cid op with
    | none => rfl
    | some ms' => exact ih ms' l2

theorem MS.run_cons {a : AEAD} {cid : Nat} {ms ms' : MS} {op : MOp} {ops : List MOp}
    (h : ms.run a cid (op :: ops) = some ms') : ∃ ms1, ms.step a cid op = some ms1 ∧ ms1.run a cid ops = some ms' := by
  simp only [MS.run] at h
  split at h
  · exact ⟨_, ‹_›, h⟩
  · cases h

theorem MS.run_inv {a : AEAD} {cid : Nat} {P : MS → Prop}
    (hstep : ∀ ms ms' op, P ms → ms.step a cid op = some ms' → P ms') :
    ∀ (ops : List MOp) (ms ms' : MS), P ms → ms.run a cid ops = some ms' → P ms'
  | [], ms, ms', h, hr => by cases hr; exact h
  | op :: ops, ms, ms', h, hr => by
    obtain ⟨ms1, hs, hr⟩ := MS.run_cons hr
    exact MS.run_inv hstep ops ms1 ms' (hstep ms ms1 op h hs) hr

/-! ### the run hypotheses: those of `FullStack`, at the `base` operations (the new operations surface no payload) -/

def mopOK (a : AEAD) (cid : Nat) (ms : MS) : MOp → Bool
  | .base op => opOK a cid ms.fs op
  | _ => true
def mopNF (a : AEAD) (cid : Nat) (ms : MS) : MOp → Bool
  | .base op => opNF a cid ms.fs op
  | _ => true
def mopSS (a : AEAD) (cid : Nat) (ms : MS) : MOp → Bool
  | .base op => opSS a cid ms.fs op
  | _ => true
def mopNFD (a : AEAD) (cid : Nat) (ms : MS) : MOp → Bool
  | .base op => opNFD a cid ms.fs op
  | _ => true

def mrunB (P : MS → MOp → Bool) (a : AEAD) (cid : Nat) (ms : MS) : List MOp → Bool
  | [] => true
  | op :: ops =>
    P ms op &&
    match ms.step a cid op with
    | some ms' => mrunB P a cid ms' ops
    | none => true

theorem mrunB_prefix (P : MS → MOp → Bool) (a : AEAD) (cid : Nat) : ∀ (l1 l2 : List MOp) (ms : MS),
    mrunB P a cid ms (l1 ++ l2) = true → mrunB P a cid ms l1 = true
  | [], _, _, _ => rfl
  | op :: l1, l2, ms, h => by
    simp only [List.cons_append, mrunB, Bool.and_eq_true] at h ⊢
    refine ⟨h.1, ?_⟩
    cases hs : ms.step a cid op with
    | none => rfl
    | some ms' => rw [hs] at h; exact mrunB_prefix P a cid l1 l2 ms' h.2

/-- **`MNoForgeryRun`** (keyed form), **`MSingleSessionRun`**, **`MNoForgeryRunD`** (datagram form): the hypotheses of
    `FullStack` / C20F, word for word, for the observed session `cid` in a run of the several-client system.  They
    speak about `process_packet` results for `cid` only; the other client's datagrams are unconstrained. -/
def MNoForgeryRun (a : AEAD) (cid : Nat) (ms : MS) (ops : List MOp) : Prop := mrunB (mopNF a cid) a cid ms ops = true
def MSingleSessionRun (a : AEAD) (cid : Nat) (ms : MS) (ops : List MOp) : Prop := mrunB (mopSS a cid) a cid ms ops = true
def MNoForgeryRunD (a : AEAD) (cid : Nat) (ms : MS) (ops : List MOp) : Prop := mrunB (mopNFD a cid) a cid ms ops = true

instance (a : AEAD) (cid : Nat) (ms : MS) (ops : List MOp) : Decidable (MNoForgeryRun a cid ms ops) :=
  inferInstanceAs (Decidable (_ = true))
instance (a : AEAD) (cid : Nat) (ms : MS) (ops : List MOp) : Decidable (MSingleSessionRun a cid ms ops) :=
  inferInstanceAs (Decidable (_ = true))
instance (a : AEAD) (cid : Nat) (ms : MS) (ops : List MOp) : Decidable (MNoForgeryRunD a cid ms ops) :=
  inferInstanceAs (Decidable (_ = true))

theorem mopOK_eq (a : AEAD) (cid : Nat) (ms : MS) (op : MOp) :
    mopOK a cid ms op = (mopNF a cid ms op && mopSS a cid ms op) := by
  cases op <;> first | rfl | exact opOK_eq a cid ms.fs _

theorem othStep_fs {a : AEAD} {ms ms' : MS} {op : MOp} (h : ms.othStep a op = some ms') :
    ms'.fs = ms.fs ∧ ms'.updS = ms.updS ∧ ms'.obtSO = ms.obtSO := by
  cases op <;> simp only [MS.othStep] at h
  case othSend ch m => split at h <;> cases h; exact ⟨rfl, rfl, rfl⟩
  case othRecv ch => split at h <;> cases h <;> exact ⟨rfl, rfl, rfl⟩
  case othTick dt => split at h <;> cases h; exact ⟨rfl, rfl, rfl⟩
  case othDisconnect => cases h; exact ⟨rfl, rfl, rfl⟩
  case othUpdate d inbox => split at h <;> cases h; exact ⟨rfl, rfl, rfl⟩
  case othSendPackets => split at h <;> cases h; exact ⟨rfl, rfl, rfl⟩
  case othTransportDisconnect => split at h <;> cases h; exact ⟨rfl, rfl, rfl⟩
  all_goals cases h

theorem rel_setRenet {a : AEAD} {cid : Nat} {fs : FS} {d : Duo} {rs' : Server} (h : Rel a cid fs d)
    (hs : SL.SMap.Sorted rs'.conns) (hf : SMap.find? rs'.conns cid = SMap.find? fs.s.renet.conns cid) :
    Rel a cid (setRenet cid fs rs') d := by
  have hsr : SrvRel cid rs' d := ⟨hs, by rw [hf]; exact h.srv.conn⟩
  exact ⟨h.x, hsr, trackSeq_rel hsr h.yseq, h.subC, h.subCU, h.obtS, h.subS, h.subSU, h.obtC, h.sealC, h.sealS⟩

/-- `rs'` treats the entry of `cid` in `rs` the way `send_message(cid, ch, m)` does (`SL.Server.broadcast_spec` at `cid`) -/
def SendsTo (cid ch : Nat) (m : Bytes) (rs rs' : Server) : Prop :=
  (SMap.find? rs.conns cid = none → SMap.find? rs'.conns cid = none) ∧
  ∀ c, SMap.find? rs.conns cid = some c → ∃ c', c.sendMessage ch m = .ok c' ∧ SMap.find? rs'.conns cid = some c'

theorem sendMessage_matches {cid : Nat} {rs rs' : Server} {ch : Nat} {m : Bytes} (hj : SendsTo cid ch m rs rs') :
    ∃ rs1, rs.sendMessage cid ch m = .ok rs1 ∧ SMap.find? rs'.conns cid = SMap.find? rs1.conns cid := by
  cases hf : SMap.find? rs.conns cid with
  | none =>
    refine ⟨rs, by simp [Server.sendMessage, hf], ?_⟩
    rw [hj.1 hf, hf]
  | some c =>
    obtain ⟨c', hsm, hf'⟩ := hj.2 c hf
    refine ⟨_, SL.Server.sendMessage_at hf hsm, ?_⟩
    rw [hf']
    exact (SMap.find?_insert_self _ _ _).symm

/-- the ghosts of a send read of the new table only the entry of `cid`: a table `r2` with the entry `r1` has is `r1`
    written and then replaced -/
theorem sendGhost_congr {cid : Nat} {fs : FS} {r1 r2 : Server} (ch : Nat) (m : Bytes)
    (h : SMap.find? r2.conns cid = SMap.find? r1.conns cid) :
    sendGhost cid fs r2 ch m = setRenet cid (sendGhost cid fs r1 ch m) r2 := by
  have e : trackSeq cid r2 (trackSeq cid r1 fs.ySeq) = trackSeq cid r2 fs.ySeq := by
    unfold trackSeq
    rw [h]
    cases SMap.find? r1.conns cid <;> rfl
  simp only [sendGhost, setRenet, h, e]

/-- a server call that offers `m` on `ch` to the connection of `cid` (and does whatever it likes to the others) is, for
    the observed session, `send_message(cid, ch, m)` and then a table change that keeps the entry of `cid` -/
theorem sendLike_sim {a : AEAD} (hl : a.Laws) {cfg : Cfg} {cid : Nat} {fs : FS} {d : Duo} {rs' : Server} {ch : Nat}
    {m : Bytes} (h : Rel a cid fs d) (hi : DInv cfg d) (hs : SL.SMap.Sorted rs'.conns)
    (hj : SendsTo cid ch m fs.s.renet rs') :
    ∃ dops d', d.run dops = some d' ∧ Rel a cid (sendGhost cid fs rs' ch m) d' := by
  obtain ⟨rs1, h1, h2⟩ := sendMessage_matches hj
  obtain ⟨l, d', r, h'⟩ := step_sim hl h hi rfl (step_srvSend h1)
  exact ⟨l, d', r, sendGhost_congr ch m h2 ▸ rel_setRenet h' hs h2⟩

def isOther (cid : Nat) : MOp → Bool
  | .base _ => false
  | .srvBroadcast _ _ => false
  | .srvSendTo id _ _ => id ≠ cid
  | .srvRecvFrom id _ => id ≠ cid
  | .srvDisconnectId id => id ≠ cid
  | .srvBroadcastExcept ex _ _ => ex = cid
  | _ => true

/-- `MS.step`, read backwards as far as the observed session sees it: a step of `FS` (a `base` operation, or a server
    call addressed to `cid`); the server's table replaced, the entry of `cid` as it was (`other`); the entry of `cid`
    offered `m` on `ch` the way `send_message` does (`bcast`, `bcastExcept`); nothing (`oth`, the other client's calls). -/
inductive MStepped (a : AEAD) (cid : Nat) (ms : MS) : MOp → MS → Prop
  | base {op : FSOp} {ms' : MS} (h : ms.fs.step a cid op = some ms'.fs) : MStepped a cid ms (.base op) ms'
  | sendTo {ch : Nat} {m : Bytes} {ms' : MS} (h : ms.fs.step a cid (.srvSend ch m) = some ms'.fs) :
      MStepped a cid ms (.srvSendTo cid ch m) ms'
  | recvFrom {ch : Nat} {ms' : MS} (h : ms.fs.step a cid (.srvRecv ch) = some ms'.fs) :
      MStepped a cid ms (.srvRecvFrom cid ch) ms'
  | disconnectId {ms' : MS} (h : ms.fs.step a cid .srvDisconnect = some ms'.fs) :
      MStepped a cid ms (.srvDisconnectId cid) ms'
  | other {op : MOp} {ms' : MS} {rs' : Server} (ho : isOther cid op = true)
      (q : SL.QuietC ms.fs.s.renet.conns rs'.conns)
      (hf : SMap.find? rs'.conns cid = SMap.find? ms.fs.s.renet.conns cid) (e : ms'.fs = setRenet cid ms.fs rs') :
      MStepped a cid ms op ms'
  | bcast {ms' : MS} {rs' : Server} {ch : Nat} {m : Bytes} (q : SL.QuietC ms.fs.s.renet.conns rs'.conns)
      (hj : SendsTo cid ch m ms.fs.s.renet rs') (e : ms'.fs = sendGhost cid ms.fs rs' ch m) :
      MStepped a cid ms (.srvBroadcast ch m) ms'
  | bcastExcept {ex : Nat} {ms' : MS} {rs' : Server} {ch : Nat} {m : Bytes} (hne : ex ≠ cid)
      (q : SL.QuietC ms.fs.s.renet.conns rs'.conns) (hj : SendsTo cid ch m ms.fs.s.renet rs')
      (e : ms'.fs = sendGhost cid ms.fs rs' ch m) : MStepped a cid ms (.srvBroadcastExcept ex ch m) ms'
  | oth {op : MOp} {ms' : MS} (ho : isOther cid op = true) (e : ms'.fs = ms.fs) : MStepped a cid ms op ms'

theorem MS.stepped {a : AEAD} {cid : Nat} {ms ms' : MS} {op : MOp} (hs : ms.step a cid op = some ms') :
    MStepped a cid ms op ms' := by
  cases op with
  | base op =>
    simp only [MS.step] at hs
    split at hs <;> cases hs
    exact .base ‹_›
  | srvSendTo id ch m =>
    simp only [MS.step] at hs
    split at hs
    · rename_i e
      subst e
      split at hs <;> cases hs
      exact .sendTo ‹_›
    · rename_i hne
      split at hs <;> cases hs
      obtain ⟨ad, q, -⟩ := SL.Server.sendMessage_spec ‹_›
      exact .other (decide_eq_true hne) q (ad.others cid (Ne.symm hne)) rfl
  | srvRecvFrom id ch =>
    simp only [MS.step] at hs
    split at hs
    · rename_i e
      subst e
      split at hs <;> cases hs
      exact .recvFrom ‹_›
    · rename_i hne
      split at hs <;> cases hs
      all_goals
        obtain ⟨ad, q, -⟩ := SL.Server.receiveMessage_spec ‹_›
        exact .other (decide_eq_true hne) q (ad.others cid (Ne.symm hne)) rfl
  | srvDisconnectId id =>
    simp only [MS.step] at hs
    split at hs
    · rename_i e
      subst e
      split at hs <;> cases hs
      exact .disconnectId ‹_›
    · rename_i hne
      cases hs
      obtain ⟨ad, q, -⟩ := SL.Server.disconnect_spec ms.fs.s.renet id
      exact .other (decide_eq_true hne) q (ad.others cid (Ne.symm hne)) rfl
  | srvBroadcast ch m =>
    simp only [MS.step] at hs
    split at hs <;> cases hs
    obtain ⟨-, q, hj⟩ := SL.Server.broadcast_spec ‹_›
    exact .bcast q (hj cid) rfl
  | srvBroadcastExcept ex ch m =>
    simp only [MS.step] at hs
    split at hs <;> cases hs
    obtain ⟨-, q, hex, hj⟩ := SL.Server.broadcastExcept_spec ‹_›
    by_cases e : ex = cid
    · subst e
      exact .other (decide_eq_true rfl) q hex (if_pos rfl)
    · exact .bcastExcept e q (hj cid (Ne.symm e)) (if_neg e)
  | _ =>
    dsimp only [MS.step] at hs
    exact .oth rfl (othStep_fs hs).1

/-- **Simulation.**  Every step of the several-client system is matched, for the observed session, by a `Duo` run. -/
theorem mstep_sim {a : AEAD} (hl : a.Laws) {cfg : Cfg} {cid : Nat} {ms ms' : MS} {d : Duo} {op : MOp}
    (h : Rel a cid ms.fs d) (hi : DInv cfg d) (hok : mopOK a cid ms op = true) (hs : ms.step a cid op = some ms') :
    ∃ dops d', d.run dops = some d' ∧ Rel a cid ms'.fs d' := by
  cases MS.stepped hs with
  | base hf => exact step_sim hl h hi hok hf
  | sendTo hf | recvFrom hf | disconnectId hf => exact step_sim hl h hi rfl hf
  | other _ q hf e => exact ⟨[], d, rfl, e ▸ rel_setRenet h (q.sorted h.srv.sorted) hf⟩
  | bcast q hj e | bcastExcept _ q hj e => exact e ▸ sendLike_sim hl h hi (q.sorted h.srv.sorted) hj
  | oth _ e => exact ⟨[], d, rfl, e ▸ h⟩

theorem mrun_sim {a : AEAD} (hl : a.Laws) {cfg : Cfg} {cid : Nat} :
    ∀ (ops : List MOp) (ms ms' : MS) (d : Duo), Rel a cid ms.fs d → DInv cfg d →
    mrunB (mopOK a cid) a cid ms ops = true → ms.run a cid ops = some ms' → ∃ d', Rel a cid ms'.fs d' ∧ DInv cfg d'
  | [], ms, ms', d, h, hi, _, hr => by
    cases hr
    exact ⟨d, h, hi⟩
  | op :: ops, ms, ms', d, h, hi, hok, hr => by
    obtain ⟨ms1, hs, hr⟩ := MS.run_cons hr
    simp only [mrunB, hs, Bool.and_eq_true] at hok
    obtain ⟨l, d1, r1, h1⟩ := mstep_sim hl h hi hok.1 hs
    exact mrun_sim hl ops ms1 ms' d1 h1 (drun_inv l d d1 hi r1) hok.2 hr

theorem mrunOK_of {a : AEAD} {cid : Nat} : ∀ (ops : List MOp) (ms : MS), MNoForgeryRun a cid ms ops →
    MSingleSessionRun a cid ms ops → mrunB (mopOK a cid) a cid ms ops = true
  | [], _, _, _ => rfl
  | op :: ops, ms, h1, h2 => by
    simp only [MNoForgeryRun, MSingleSessionRun, mrunB, Bool.and_eq_true] at h1 h2 ⊢
    refine ⟨by rw [mopOK_eq, h1.1, h2.1]; rfl, ?_⟩
    cases hs : ms.step a cid op with
    | none => rfl
    | some ms' => rw [hs] at h1 h2; exact mrunOK_of ops ms' h1.2 h2.2

/-- **The composition, several clients.**  After every finite run of the several-client system from a state whose
    message layer for `cid` is freshly established, under the run hypotheses for `cid`, the channel guarantees of C01S
    hold end to end for `cid`'s link in both directions. -/
theorem m_full_stack {a : AEAD} (hl : a.Laws) {cfg : Cfg} {cid : Nat} {ms0 ms : MS} {ops : List MOp}
    (he : RenetFresh cfg cid ms0.fs) (hr : ms0.run a cid ops = some ms) (hnf : MNoForgeryRun a cid ms0 ops)
    (hss : MSingleSessionRun a cid ms0 ops) :
    (CountersUp cfg ms.fs → Guarantees cfg ms.fs.subC ms.fs.subCU ms.fs.obtS) ∧
    (CountersDown cfg ms.fs → Guarantees (Cfg.swap cfg) ms.fs.subS ms.fs.subSU ms.fs.obtC) := by
  obtain ⟨d0, h0, i0⟩ := rel_of_fresh a he
  obtain ⟨d, h, hi⟩ := mrun_sim hl ops ms0 ms d0 h0 i0 (mrunOK_of ops ms0 hnf hss) hr
  exact rel_concl h hi

theorem mstep_keyInv {a : AEAD} {cid : Nat} {tok : ConnectToken} {ms ms' : MS} {op : MOp} (h : KeyInv cid tok ms.fs)
    (hss : mopSS a cid ms op = true) (hs : ms.step a cid op = some ms') : KeyInv cid tok ms'.fs := by
  cases MS.stepped hs with
  | base hf => exact step_keyInv h hss hf
  | sendTo hf | recvFrom hf | disconnectId hf => exact step_keyInv h rfl hf
  | other _ _ _ e | bcast _ _ e | bcastExcept _ _ _ e => exact e ▸ ⟨h.tokC, h.srv, h.recC, h.recS⟩
  | oth _ e => exact e ▸ h

theorem mopNF_of_D {a : AEAD} {cid : Nat} {tok : ConnectToken} {ms : MS} {op : MOp} (h : KeyInv cid tok ms.fs)
    (hss : mopSS a cid ms op = true) (hd : mopNFD a cid ms op = true) : mopNF a cid ms op = true := by
  cases op <;> first | rfl | exact opNF_of_D h hss hd

theorem mrunNF_of_D {a : AEAD} {cid : Nat} {tok : ConnectToken} : ∀ (ops : List MOp) (ms : MS), KeyInv cid tok ms.fs →
    MSingleSessionRun a cid ms ops → MNoForgeryRunD a cid ms ops → MNoForgeryRun a cid ms ops
  | [], _, _, _, _ => rfl
  | op :: ops, ms, h, hss, hd => by
    simp only [MSingleSessionRun, MNoForgeryRunD, MNoForgeryRun, mrunB, Bool.and_eq_true] at hss hd ⊢
    refine ⟨mopNF_of_D h hss.1 hd.1, ?_⟩
    cases hs : ms.step a cid op with
    | none => rfl
    | some ms' =>
      rw [hs] at hss hd
      exact mrunNF_of_D ops ms' (mstep_keyInv h hss.1 hs) hss.2 hd.2

/-- from an established session of `cid` the datagram-level hypothesis suffices, whatever the other client and the
    server application do -/
theorem m_noForgery_of_D {a : AEAD} {cfg : Cfg} {cid : Nat} {ms0 : MS} {ops : List MOp}
    (he : Established cfg cid ms0.fs) (hss : MSingleSessionRun a cid ms0 ops) (hd : MNoForgeryRunD a cid ms0 ops) :
    MNoForgeryRun a cid ms0 ops :=
  mrunNF_of_D ops ms0 (keyInv_of_established he) hss hd

theorem mstep_emitted {a : AEAD} {cid : Nat} {ms ms' : MS} {op : MOp} (h : Emitted ms.fs)
    (hs : ms.step a cid op = some ms') : Emitted ms'.fs := by
  cases MS.stepped hs with
  | base hf | sendTo hf | recvFrom hf | disconnectId hf => exact step_emitted h hf
  | other _ _ _ e | bcast _ _ e | bcastExcept _ _ _ e | oth _ e => exact e ▸ h

theorem fstep_lockstep {a : AEAD} {cid : Nat} {fs fs' : FS} {op : FSOp} (hl : GI.LockStep fs.s)
    (hs : fs.step a cid op = some fs') : GI.LockStep fs'.s := by
  cases FS.stepped hs with
  | srvSend hm => exact hl.of_quiet rfl (SL.Server.sendMessage_spec hm).2.1
  | srvRecv hm => exact hl.of_quiet rfl (SL.Server.receiveMessage_spec hm).2.1
  | srvTick hm => exact hl.of_quiet rfl (SL.Server.update_spec hm).2.1
  | srvDisconnect => exact hl.of_quiet rfl (SL.Server.disconnect_spec fs.s.renet cid).2.1
  | srvUpdate ho => exact (GI.serverUpdate_lockstep ho hl).1
  | srvSendPackets ho => exact (GI.sendLoop_lockstep a _ _ _ _ _ ho hl).1
  | srvDisconnectAll ho => exact (GI.serverDisconnectAll_lockstep ho hl).1
  | cliSend _ | cliRecv _ | cliTick _ | cliDisconnect | cliUpdate _ | cliSendPackets _ | cliTransportDisconnect _ =>
    exact hl

theorem mstep_lockstep {a : AEAD} {cid : Nat} {ms ms' : MS} {op : MOp} (hl : GI.LockStep ms.fs.s)
    (hs : ms.step a cid op = some ms') :
    GI.LockStep ms'.fs.s ∧ (∀ d inbox, op = .base (.srvUpdate d inbox) → GI.NoDead ms'.fs.s.renet) := by
  constructor
  · cases MS.stepped hs with
    | base hf | sendTo hf | recvFrom hf | disconnectId hf => exact fstep_lockstep hl hf
    | other _ q _ e | bcast q _ e | bcastExcept _ q _ e => exact e ▸ hl.of_quiet rfl q
    | oth _ e => exact e ▸ hl
  · rintro d inbox rfl
    cases MS.stepped hs with
    | base hf =>
      generalize ms'.fs = fs' at hf ⊢
      cases FS.stepped hf with
      | srvUpdate ho => exact (GI.serverUpdate_lockstep ho hl).2
    | other ho _ _ _ | oth ho _ => cases ho

/-- `fs'` is `fs` as far as the observed session `cid` is concerned: same client, same netcode server, same connection
    of `cid` in the server's renet table, same histories and ghost logs (`ySeq`, a ghost that follows the entry of `cid`,
    compared through `trackSeq`).  Other entries of the renet table are unconstrained. -/
structure SameForCid (cid : Nat) (fs fs' : FS) : Prop where
  c : fs'.c = fs.c
  netcode : fs'.s.netcode = fs.s.netcode
  conn : SMap.find? fs'.s.renet.conns cid = SMap.find? fs.s.renet.conns cid
  emC : fs'.emC = fs.emC
  emS : fs'.emS = fs.emS
  sealedC : fs'.sealedC = fs.sealedC
  sealedS : fs'.sealedS = fs.sealedS
  ySeq : trackSeq cid fs'.s.renet fs'.ySeq = trackSeq cid fs.s.renet fs.ySeq
  subC : fs'.subC = fs.subC
  subCU : fs'.subCU = fs.subCU
  obtS : fs'.obtS = fs.obtS
  subS : fs'.subS = fs.subS
  subSU : fs'.subSU = fs.subSU
  obtC : fs'.obtC = fs.obtC

theorem SameForCid.refl (cid : Nat) (fs : FS) : SameForCid cid fs fs :=
  ⟨rfl, rfl, rfl, rfl, rfl, rfl, rfl, rfl, rfl, rfl, rfl, rfl, rfl, rfl⟩

theorem trackSeq_congr {cid : Nat} {r1 r2 : Server} (h : SMap.find? r1.conns cid = SMap.find? r2.conns cid) (old : Nat) :
    trackSeq cid r1 (trackSeq cid r1 old) = trackSeq cid r2 old := by
  unfold trackSeq
  rw [h]
  cases SMap.find? r2.conns cid <;> rfl

theorem sameForCid_setRenet {cid : Nat} {fs : FS} {rs' : Server}
    (h : SMap.find? rs'.conns cid = SMap.find? fs.s.renet.conns cid) : SameForCid cid fs (setRenet cid fs rs') :=
  ⟨rfl, rfl, h, rfl, rfl, rfl, rfl, trackSeq_congr h _, rfl, rfl, rfl, rfl, rfl, rfl⟩

theorem sameForCid_sendGhost {cid : Nat} {fs : FS} {r1 r2 : Server} (ch : Nat) (m : Bytes)
    (h : SMap.find? r2.conns cid = SMap.find? r1.conns cid) :
    SameForCid cid (sendGhost cid fs r1 ch m) (sendGhost cid fs r2 ch m) :=
  sendGhost_congr ch m h ▸ sameForCid_setRenet h

theorem sendTo_cid {a : AEAD} {cid : Nat} {ms ms' : MS} {ch : Nat} {m : Bytes}
    (hs : ms.step a cid (.srvSendTo cid ch m) = some ms') : ms.fs.step a cid (.srvSend ch m) = some ms'.fs := by
  cases MS.stepped hs with
  | sendTo hf => exact hf
  | other ho _ _ _ | oth ho _ => exact absurd rfl (of_decide_eq_true ho)

end RenetVerif.FullStackMulti
