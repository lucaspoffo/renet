/-
  THE LINK INVARIANT OF THE k-ROUND DEVELOPMENT, and the lifting of FULL rounds (tick, flush, deliveries, drain, ack
  leg) of either direction of a link to the multi-client system `MSys`.

  Lemmas/LivenessK.lean iterates the one-round theorems of Lemmas/Liveness.lean over states that satisfy `GoodK`
  (= `GoodL` ∧ `InvL`, defined in Lemmas/Liveness.lean; closed under `Sys.step`).  Lemmas/MultiLive.lean proves `GoodL`
  for both projections of every untainted link of every reachable `MSys` state.  Here:

  Part A — `GoodK` is kept by the operations of `Sys` and the `Idle` moves; hence (`reachK`, `MultiSystem.reach_vstep`) it
           holds for both projections of every reachable untainted link, and the k-round theorems of Lemmas/LivenessK.lean
           (`rounds_count_inv`, `rounds_bytes_inv`, `rounds_bytes_any_inv`) apply to them.
  Part B — lifting: a run of ANY `System.Sys` operations on the projection `down` (server → client) resp. `up`
           (client → server) of client `i` is the run of the corresponding local actions on the view of `i`
           (`MultiLive.lift_down`, `lift_up`); with `MultiSystem.run_view` / `lvrun_filter`: every `MSys` run whose local
           trace for `i` is that list ends in that view (`view_of_trace`, for either direction `Dir`); the operations of
           client `i` alone run in `MSys` (`step_total_down`, `step_total_up`: the converse of `MultiSystem.step_view` for
           them).
-/
import RenetVerif.Lemmas.MultiLive
import RenetVerif.Lemmas.LivenessK
namespace RenetVerif.MultiLiveK
open RenetVerif C RenetVerif.System RenetVerif.DataPath RenetVerif.MultiSystem RenetVerif.Live RenetVerif.LiveK
  RenetVerif.MultiLive

/-! ## Part A: the invariant of every reachable untainted link -/

structure LinkOKK (P : Params) (lv : LV) (l : Link) : Prop where
  goodD : GoodK P.down (down lv l)
  goodU : GoodK P.up (up lv l)

theorem reachK (P : Params) (ops : List MOp) (m : MSys) (hr : (MSys.init P).run ops = some m) (i : Nat) (l : Link)
    (hl : m.links i = some l) (ht : l.tainted = false) : LinkOKK P (m.view i) l :=
  have h := reach_vstep goodK_init goodK_step goodK_idle P ops m hr i l hl ht
  ⟨h.goodD, h.goodU⟩

/-! ## Part B: lifting runs of either projection to the view of client `i`, and to `MSys` -/

def lactU : SysOp → LAct
  | .sendA ch m => .cSend ch m
  | .recvB ch => .sRecv ch
  | .updA dt => .cUpd dt
  | .updB dt => .sUpd dt
  | .flushA => .cFlush
  | .flushB => .sFlush
  | .deliverToB k => .toSrv k
  | .deliverToA k => .toCli k

def mopU (i : Nat) : SysOp → MOp
  | .sendA ch m => .cliSend i ch m
  | .recvB ch => .srvRecv i ch
  | .updA dt => .cliUpdate i dt
  | .updB dt => .srvUpdate dt
  | .flushA => .cliFlush i
  | .flushB => .srvFlush i
  | .deliverToB k => .deliverToSrv i k
  | .deliverToA k => .deliverToCli i k

theorem act_mopU (i : Nat) (o : SysOp) : (mopU i o).act i = lactU o := by
  cases o <;> simp [mopU, lactU, MOp.act]

theorem lactU_ne_skip (o : SysOp) : (lactU o != LAct.skip) = true := by
  cases o <;> rfl

theorem trace_map_mopU (i : Nat) (sops : List SysOp) : trace i (sops.map (mopU i)) = sops.map lactU := by
  unfold trace
  rw [List.map_map]
  have : (MOp.act i ∘ mopU i) = lactU := funext (act_mopU i)
  rw [this, List.filter_eq_self]
  intro a ha
  obtain ⟨o, -, rfl⟩ := List.mem_map.mp ha
  exact lactU_ne_skip o

theorem lift_step_up (P : Params) (c : Conn) (l : Link) (o : SysOp) (u : Sys)
    (h : (up ⟨some c, some l⟩ l).step o = some u) :
    ∃ l', LV.apply P ⟨some c, some l⟩ (lactU o) = some ⟨some u.b, some l'⟩ ∧ up ⟨some u.b, some l'⟩ l' = u ∧
      l'.tainted = l.tainted := by
  cases stepped h with
  | @sendA ch x c' hc =>
    replace hc : l.cl.sendMessage ch x = .ok c' := hc
    simp only [LV.apply, lactU, hc]
    exact ⟨_, rfl, rfl, rfl⟩
  | @recvB ch b' mo hc =>
    replace hc : c.receiveMessage ch = .ok (b', mo) := hc
    simp only [LV.apply, lactU, hc]
    cases mo <;> exact ⟨_, rfl, rfl, rfl⟩
  | @updA dt c' hc =>
    replace hc : l.cl.update dt = .ok c' := hc
    simp only [LV.apply, lactU, hc]
    exact ⟨_, rfl, rfl, rfl⟩
  | @updB dt b' hc =>
    replace hc : c.update dt = .ok b' := hc
    simp only [LV.apply, lactU, hc]
    exact ⟨_, rfl, rfl, rfl⟩
  | @flushA c' ps hc =>
    replace hc : l.cl.getPacketsToSend = .ok (c', ps) := hc
    simp only [LV.apply, lactU, hc]
    exact ⟨_, rfl, rfl, rfl⟩
  | @flushB b' ps hc =>
    replace hc : c.getPacketsToSend = .ok (b', ps) := hc
    simp only [LV.apply, lactU, hc]
    exact ⟨_, rfl, rfl, rfl⟩
  | @deliverToB k bytes b' hb hc =>
    replace hb : l.outC[k]? = some bytes := hb
    replace hc : c.processPacket bytes = .ok b' := hc
    simp only [LV.apply, lactU, hb, hc]
    exact ⟨_, rfl, rfl, rfl⟩
  | @deliverToA k bytes c' hb hc =>
    replace hb : l.outS[k]? = some bytes := hb
    replace hc : l.cl.processPacket bytes = .ok c' := hc
    simp only [LV.apply, lactU, hb, hc]
    exact ⟨_, rfl, rfl, rfl⟩

theorem lift_up (P : Params) : ∀ (sops : List SysOp) (c : Conn) (l : Link) (u : Sys),
    (up ⟨some c, some l⟩ l).run sops = some u →
    ∃ l', LV.run P ⟨some c, some l⟩ (sops.map lactU) = some ⟨some u.b, some l'⟩ ∧ up ⟨some u.b, some l'⟩ l' = u ∧
      l'.tainted = l.tainted
  | [], c, l, u, h => by
    cases run_nil h
    exact ⟨l, rfl, rfl, rfl⟩
  | o :: sops, c, l, u, h => by
    obtain ⟨u1, hs, h⟩ := run_cons h
    obtain ⟨l1, a1, a2, a3⟩ := lift_step_up P c l o u1 hs
    rw [← a2] at h
    obtain ⟨l', b1, b2, b3⟩ := lift_up P sops u1.b l1 u h
    refine ⟨l', ?_, b2, b3.trans a3⟩
    simp only [List.map_cons, LV.run, a1]
    exact b1

inductive Dir
  | down
  | up

namespace Dir

/-- the projection of the direction: the state of the two-endpoint system whose A is the submitting end -/
def sys : Dir → Conn → Link → Sys
  | down, c, l => MultiSystem.down ⟨some c, some l⟩ l
  | up, c, l => MultiSystem.up ⟨some c, some l⟩ l

def cfg : Dir → Params → Cfg
  | down, P => P.down
  | up, P => P.up

def lact : Dir → SysOp → LAct
  | down => MultiLive.lact
  | up => lactU

def srv : Dir → Sys → Conn
  | down, u => u.a
  | up, u => u.b

/-- the log of the submitting application, the log of the obtaining one, and what the op list says was submitted -/
def sub : Dir → Link → Nat → List Bytes
  | down, l => l.subS
  | up, l => l.subC

def obt : Dir → Link → Nat → List Bytes
  | down, l => l.obtC
  | up, l => l.obtS

def said : Dir → Nat → Nat → List MOp → List Bytes
  | down => addressedTo
  | up => sentBy

end Dir

theorem lift (d : Dir) (P : Params) (sops : List SysOp) (c : Conn) (l : Link) (u : Sys)
    (hu : (d.sys c l).run sops = some u) :
    ∃ l', LV.run P ⟨some c, some l⟩ (sops.map d.lact) = some ⟨some (d.srv u), some l'⟩ ∧ d.sys (d.srv u) l' = u ∧
      l'.tainted = l.tainted := by
  cases d
  · exact let ⟨l', a, b, t, _⟩ := lift_down P sops c l u hu; ⟨l', a, b, t⟩
  · exact lift_up P sops c l u hu

/-- **The view of `i` is a function of its local trace.**  If the projection of client `i` (in the table, with a link)
    in direction `d` runs the operations `sops` to `u`, then EVERY `MSys` run from `m` whose local trace for `i` is the
    corresponding list of local actions — the operations of `i` interleaved with arbitrary operations that concern other
    clients only — ends with the server's end of `u` as table entry and a link whose projection is `u`. -/
theorem view_of_trace (d : Dir) {P : Params} {m m'' : MSys} {i : Nat} {c : Conn} {l : Link} (hw : m.WF P)
    (hc : conn? m.server i = some c) (hl : m.links i = some l) (sops : List SysOp) (u : Sys)
    (hu : (d.sys c l).run sops = some u) (ops' : List MOp) (ht : trace i ops' = sops.map d.lact)
    (hr : m.run ops' = some m'') :
    ∃ l', m''.view i = ⟨some (d.srv u), some l'⟩ ∧ d.sys (d.srv u) l' = u ∧ l'.tainted = l.tainted := by
  have h1 := run_trace i hw hr
  have hv := view_some hc hl
  rw [ht, hv] at h1
  obtain ⟨l', a1, a2, a3⟩ := lift d P sops c l u hu
  rw [a1] at h1
  exact ⟨l', (Option.some.inj h1).symm, a2, a3⟩

theorem goodK_dir (d : Dir) {P : Params} {ops : List MOp} {m : MSys} (hr : (MSys.init P).run ops = some m) {i : Nat}
    {c : Conn} {l : Link} (hc : conn? m.server i = some c) (hl : m.links i = some l) (ht : l.tainted = false) :
    GoodK (d.cfg P) (d.sys c l) := by
  have r := reachK P ops m hr i l hl ht
  have hv := view_some hc hl
  rw [hv] at r
  cases d
  · exact r.goodD
  · exact r.goodU

/-- operations of the server → client projection that touch client `i` ONLY (the server's `update` advances every slot) -/
def LocalD : SysOp → Prop
  | .updA _ => False
  | _ => True

def LocalU : SysOp → Prop
  | .updB _ => False
  | _ => True

/-- an operation of client `i` whose local action is defined on the view of `i` does not panic in `MSys` (the server calls
    by their forward equations `SL.Server.*_at`) -/
theorem step_total_down {P : Params} {m : MSys} {i : Nat} {o : SysOp} (ho : LocalD o) {lv' : LV}
    (h : (m.view i).apply P (lact o) = some lv') : ∃ m', m.step (mop i o) = some m' := by
  cases o with
  | updA _ => exact ho.elim
  -- the calls of the remote endpoint are written the same way in `MSys.step` and in `LV.apply`
  | recvB _ | updB _ | flushB =>
    simp only [lact, LV.apply, MSys.view] at h
    simp only [mop, MSys.step]
    cases hl : m.links i with
    | none => exact ⟨_, rfl⟩
    | some l =>
      rw [hl] at h
      dsimp only at h ⊢
      split at h
      · exact ⟨_, rfl⟩
      · cases h
  | deliverToB k =>
    simp only [lact, LV.apply, MSys.view] at h
    simp only [mop, MSys.step]
    cases hl : m.links i with
    | none => exact ⟨_, rfl⟩
    | some l =>
      rw [hl] at h
      dsimp only at h ⊢
      cases hb : l.outS[k]? with
      | none => rw [hb] at h; cases h
      | some bytes =>
        rw [hb] at h
        dsimp only at h ⊢
        split at h
        · exact ⟨_, rfl⟩
        · cases h
  | flushA =>
    simp only [lact, LV.apply, MSys.view, conn?] at h
    simp only [mop, MSys.step]
    cases hf : SMap.find? m.server.conns i with
    | none => rw [Server.getPacketsToSend, hf]; exact ⟨_, rfl⟩
    | some c =>
      rw [hf] at h
      dsimp only at h
      split at h
      · rename_i hc
        rw [SL.Server.getPacketsToSend_at hf hc]
        exact ⟨_, rfl⟩
      · cases h
  | sendA ch x =>
    simp only [lact, LV.apply, MSys.view, conn?] at h
    simp only [mop, MSys.step]
    cases hf : SMap.find? m.server.conns i with
    | none => rw [Server.sendMessage, hf]; exact ⟨_, rfl⟩
    | some c =>
      rw [hf] at h
      dsimp only at h
      split at h
      · rename_i hc
        rw [SL.Server.sendMessage_at hf hc]
        exact ⟨_, rfl⟩
      · cases h
  | deliverToA k =>
    simp only [lact, LV.apply, MSys.view, conn?] at h
    simp only [mop, MSys.step]
    cases hl : m.links i with
    | none => exact ⟨_, rfl⟩
    | some l =>
      rw [hl] at h
      dsimp only at h ⊢
      cases hb : l.outC[k]? with
      | none => rw [hb] at h; cases h
      | some bytes =>
        rw [hb] at h
        dsimp only at h ⊢
        cases hf : SMap.find? m.server.conns i with
        | none => rw [Server.processPacketFrom, hf]; exact ⟨_, rfl⟩
        | some c =>
          rw [hf] at h
          dsimp only at h
          split at h
          · rename_i hc
            rw [SL.Server.processPacketFrom_at hf hc]
            exact ⟨_, rfl⟩
          · cases h

theorem step_total_up {P : Params} {m : MSys} {i : Nat} {o : SysOp} (ho : LocalU o) {lv' : LV}
    (h : (m.view i).apply P (lactU o) = some lv') : ∃ m', m.step (mopU i o) = some m' := by
  cases o with
  | updB _ => exact ho.elim
  | flushB => exact step_total_down (o := .flushA) trivial h
  | deliverToA k => exact step_total_down (o := .deliverToB k) trivial h
  | flushA => exact step_total_down (o := .flushB) trivial h
  | deliverToB k => exact step_total_down (o := .deliverToA k) trivial h
  | updA dt => exact step_total_down (o := .updB dt) trivial h
  | sendA ch x =>
    simp only [lactU, LV.apply, MSys.view] at h
    simp only [mopU, MSys.step]
    cases hl : m.links i with
    | none => exact ⟨_, rfl⟩
    | some l =>
      rw [hl] at h
      dsimp only at h ⊢
      split at h
      · exact ⟨_, rfl⟩
      · cases h
  | recvB ch =>
    simp only [lactU, LV.apply, MSys.view, conn?] at h
    simp only [mopU, MSys.step]
    cases hf : SMap.find? m.server.conns i with
    | none => rw [Server.receiveMessage, hf]; exact ⟨_, rfl⟩
    | some c =>
      rw [hf] at h
      dsimp only at h
      split at h
      · rename_i hc
        rw [SL.Server.receiveMessage_at hf hc]
        exact ⟨_, rfl⟩
      · cases h

theorem run_local_up {P : Params} {m : MSys} {i : Nat} {c : Conn} {l : Link} (hw : m.WF P)
    (hc : conn? m.server i = some c) (hl : m.links i = some l) (sops : List SysOp) (ho : ∀ o ∈ sops, LocalU o)
    (u : Sys) (hu : (up ⟨some c, some l⟩ l).run sops = some u) :
    ∃ m' l', m.run (sops.map (mopU i)) = some m' ∧ m'.view i = ⟨some u.b, some l'⟩ ∧
      up ⟨some u.b, some l'⟩ l' = u ∧ l'.tainted = l.tainted := by
  have hv := view_some hc hl
  obtain ⟨l', a1, a2, a3⟩ := lift_up P sops c l u hu
  rw [← hv] at a1
  obtain ⟨m', hr, hv'⟩ := lift_mrun_of P i (act_mopU i) step_total_up sops m _ hw ho a1
  exact ⟨m', l', hr, hv', a2, a3⟩

theorem run_local_down {P : Params} {m : MSys} {i : Nat} {c : Conn} {l : Link} (hw : m.WF P)
    (hc : conn? m.server i = some c) (hl : m.links i = some l) (sops : List SysOp) (ho : ∀ o ∈ sops, LocalD o)
    (u : Sys) (hu : (down ⟨some c, some l⟩ l).run sops = some u) :
    ∃ m' l', m.run (sops.map (mop i)) = some m' ∧ m'.view i = ⟨some u.a, some l'⟩ ∧
      down ⟨some u.a, some l'⟩ l' = u ∧ l'.tainted = l.tainted := by
  have hv := view_some hc hl
  obtain ⟨l', a1, a2, a3, -⟩ := lift_down P sops c l u hu
  rw [← hv] at a1
  obtain ⟨m', hr, hv'⟩ := lift_mrun_of P i (act_mop i) step_total_down sops m _ hw ho a1
  exact ⟨m', l', hr, hv', a2, a3⟩

end RenetVerif.MultiLiveK
