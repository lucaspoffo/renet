/-
  C01 — LIVENESS, the k-ROUND bound: the two concrete scenarios that Props/C01K, C01KC, C01KD and C01KE speak about.

  The four files prove the same bound under weaker and weaker side conditions and show each theorem on the SAME two
  runs (`ExS`: a sliced message larger than the per-tick budget on a ReliableOrdered channel; `ExU`: the same on a
  ReliableUnordered channel, datagrams out of order and duplicated).  A run of three rounds that move 3,700 bytes is what
  costs the kernel time, not what is read off it; so each scenario is defined here, before the four files, and run by
  the kernel ONCE, in a theorem `all` that states everything any of the four files reads off the run.  The files take
  their facts as projections and apply their theorems to them.

  The side conditions (`Rounds`, `RoundsSched`, `HeadRoom` …) are decidable propositions (Lemmas/LivenessK.lean,
  LivenessKClosed.lean): `all` states them as they are.  `RoundsSched4` and the rejected `RoundsSched3` are
  stated through their checkers `roundsSched4b` (sound: `roundsSched4_of_b`) and `roundsSched3b`.
-/
import RenetVerif.Lemmas.LivenessKCut
import RenetVerif.Lemmas.RunRange
namespace RenetVerif
open RenetVerif C RenetVerif.System RenetVerif.Live RenetVerif.LiveK RenetVerif.LiveKC RenetVerif.FlushCount
  RenetVerif.LiveKCut

/-! `ExS` — single-channel configuration (ReliableOrdered channel 0 each way), 3000 bytes per tick, resend time 100 ns.
  A submits a 3-byte message (cost 3) and a 3700-byte message (4 slices, cost 4800): backlog 4803 > 3000.  The sliced
  entry NEVER fits into one tick's budget; it is sent over two rounds, two slices each.
  `k_round_delivery_single`: `k * (3000 - 1200 + 1) ≥ 4803` holds for `k = 3`.
  Round 1 = `updA 1000 ; flushA (outA[0..2]: the small packet, slices 0, 1) ; deliverToB 0, 1, 2 ; recvB 0 twice ;
  flushB (outB[0]) ; deliverToA 0`; round 2 carries slices 2, 3 and A's ack packet (`outA[3..5]`, `outB[1]`) and
  completes the delivery; round 3 finds only A's ack packet to send (`outA[6]`, `outB[2]`). -/
namespace C01K.ExS

def cfg : Cfg := ⟨3000, [⟨0, .ordered, 100000, 100⟩], [⟨0, .ordered, 100000, 100⟩]⟩
def m0 : Bytes := [1, 2, 3]
def m1 : Bytes := List.replicate 3600 7 ++ List.replicate 100 9
def ops : List SysOp := [.sendA 0 m0, .sendA 0 m1]
def r1 : RoundP := ⟨1000, [0, 1, 2], 2, 0⟩
def r2 : RoundP := ⟨1000, [3, 4, 5], 2, 1⟩
def r3 : RoundP := ⟨1000, [6], 2, 2⟩

def s : Sys := ((Sys.init cfg).run ops).getD (Sys.init cfg)
def sA : SendRel := (SMap.find? s.a.sendRel 0).getD (SendRel.new 0 0 0)
def rB : RecvRel := (SMap.find? s.b.recvRel 0).getD (RecvRel.new 0 true)

end C01K.ExS

/-- Props/C01KE: round 3 starts with an EMPTY backlog; its parameters hand B NOTHING (`ks = []`), do not advance the
    clock (`dt = 0` — below the resend time) and name no sensible ack datagram -/
def C01KE.ExS.r3' : RoundP := ⟨0, [], 2, 0⟩

namespace C01K.ExS
open C01KE.ExS

/-- What Props/C01K reads off the run: `ops` runs and channel 0 exists at both ends; the standing hypotheses, and the
    numbers: backlog 4803 > 3000 = budget, the sliced entry alone costs 4800; the side conditions of the three rounds
    (timer, drain, counters, lossless delivery, ack cap, the way back), each in the state the run reaches; after round 1
    `[m0]` is obtained and A still stores entry 1 at the cost of two slices; after round 2 both messages are obtained and
    A stores nothing. -/
def ReadK : Prop :=
  (((Sys.init cfg).run ops).isSome = true ∧ (SMap.find? s.a.sendRel 0).isSome = true ∧
    (SMap.find? s.b.recvRel 0).isSome = true) ∧
  (s.a.isDisconnected = false ∧ s.b.isDisconnected = false ∧ Room (s.submitted 0) rB ∧
    backlog sA.unacked = 4803 ∧ sA.unacked.map (fun x => (x.1, entryCost x.2)) = [(0, 3), (1, 4800)] ∧
    availAtTurn s.a 0 = 3000 ∧ s.submitted 0 = [m0, m1] ∧ s.obtained 0 = []) ∧
  Rounds cfg 0 (fun _ => True) s [r1, r2, r3] ∧
  ((s.run (roundsOps 0 [r1])).map (fun u => (u.obtained 0,
      (SMap.find? u.a.sendRel 0).map (fun x => x.unacked.map (fun e => (e.1, entryCost e.2))))) =
      some ([m0], some [(1, 2400)]) ∧
    (s.run (roundsOps 0 [r1, r2])).map (fun u => (u.obtained 0, (SMap.find? u.a.sendRel 0).map (·.unacked.length))) =
      some ([m0, m1], some 0))

/-- … Props/C01KC: the schedule facts of the three rounds; the head-room of the first and of the second step on the
    initial state, and the numbers behind it. -/
def ReadKC : Prop :=
  RoundsSched 0 (fun _ => True) s [r1, r2, r3] ∧
  (HeadRoom cfg s [r1, r2, r3] ∧ HeadRoom2 cfg s [r1, r2, r3]) ∧
  (kTotal [r1, r2, r3] = 7 ∧ s.a.packetSeq = 0 ∧ s.b.packetSeq = 0 ∧ s.b.pendingAcks = [])

/-- … Props/C01KD: the head-room with the unit count; the numbers behind it, the packets of A's first flush (`≤ units + 1
    = 7`), the stored entries at the start of rounds 2 and 3; the hypotheses of `flush_nonempty` in round 1. -/
def ReadKD : Prop :=
  HeadRoom3 cfg s [r1, r2, r3] ∧
  (s.a.units = 6 ∧ s.a.packetSeq = 0 ∧ s.a.flushSeq = 4 ∧
    ((s.step (.updA 1000)).map (fun su => (flushPk su.a).length)) = some 3 ∧
    sA.unacked.length = 2 ∧
    (s.run (roundsOps 0 [r1])).map (fun u => (SMap.find? u.a.sendRel 0).map (fun x => (x.unacked.length, u.a.units))) =
      some (some (1, 5)) ∧
    (s.run (roundsOps 0 [r1, r2])).map (fun u => (SMap.find? u.a.sendRel 0).map (fun x => (x.unacked.length, u.a.units))) =
      some (some (0, 1))) ∧
  (sA.unacked ≠ [] ∧ sA.resend ≤ 1000 ∧ s.a.packetSeq + s.a.units + 1 ≤ Varint.MAX + 1)

/-- … Props/C01KE, rounds `[r1, r2, r3']`: the checker of `RoundsSched4` accepts them with `SchedBytes 0 3000` and the
    head-room holds, while the checker of the C01KD schedule description rejects them (the third hands over nothing); the
    cut schedule is two full rounds, then the two `receive_message` calls of round 3; after it everything submitted has
    been obtained and A's channel stores nothing; followed by the ORIGINAL third round `r3` (A's ack packet to B and back)
    and a stale duplicate it returns normally, counters in range. -/
def ReadKE : Prop :=
  (roundsSched4b 0 (fun su => decide (SchedBytes 0 3000 su)) s [r1, r2, r3'] = true ∧ HeadRoom3 cfg s [r1, r2, r3'] ∧
    roundsSched3b 0 (fun _ => true) s [r1, r2, r3'] = false) ∧
  (cutLen 0 s [r1, r2, r3'] = 2 ∧
    cutOps 0 s [r1, r2, r3'] = roundsOps 0 [r1, r2] ++ [SysOp.recvB 0, SysOp.recvB 0]) ∧
  (s.run (cutOps 0 s [r1, r2, r3'])).map (fun u => (u.obtained 0 == u.submitted 0, idleb 0 u)) = some (true, true) ∧
  (s.run (cutOps 0 s [r1, r2, r3'] ++ (r3.ops 0 ++ [SysOp.deliverToB 1]))).isSome = true ∧
  ∀ w, s.run (cutOps 0 s [r1, r2, r3'] ++ (r3.ops 0 ++ [SysOp.deliverToB 1])) = some w → CountersOK cfg w

instance : Decidable ReadK := by unfold ReadK; infer_instance
instance : Decidable ReadKC := by unfold ReadKC; infer_instance
instance : Decidable ReadKD := by unfold ReadKD; infer_instance
instance : Decidable ReadKE := by unfold ReadKE; infer_instance

/-- the three rounds, run once (the four readings are named so that the decision procedure of the conjunction stays
    within what instance synthesis builds in one go); the run stays in the range of the source tie -/
theorem allR : (ReadK ∧ ReadKC ∧ ReadKD ∧ ReadKE) ∧ SrcSystem.RunInRange cfg (ops ++ roundsOps 0 [r1, r2, r3]) := by
  decide +kernel
theorem all : ReadK ∧ ReadKC ∧ ReadKD ∧ ReadKE := allR.1
theorem inRange : SrcSystem.RunInRange cfg (ops ++ roundsOps 0 [r1, r2, r3]) := allR.2

end C01K.ExS

/-! `ExU` — a ReliableUnordered channel, 3000 bytes per tick.  A submits a 3700-byte message (4 slices), a 3-byte and a
    2-byte message: backlog 4805.  `k_round_delivery_unordered`: `3 * (3000 - 1200 + 1) ≥ 4805`.  The datagrams of a
    round are handed over in reverse order, one of them twice in round 2 (`r2.ks = [5, 4, 3, 4]`: repetitions count in
    `kTotal = 3 + 4 + 1 = 8`); B's application obtains the two small messages in round 1 and the sliced one in round 2 —
    a permutation of the submission order. -/
namespace C01K.ExU

def cfg : Cfg := ⟨3000, [⟨0, .unordered, 100000, 100⟩], [⟨0, .ordered, 100000, 100⟩]⟩
def m0 : Bytes := List.replicate 3600 7 ++ List.replicate 100 9
def m1 : Bytes := [1, 2, 3]
def m2 : Bytes := [4, 5]
def ops : List SysOp := [.sendA 0 m0, .sendA 0 m1, .sendA 0 m2]
def r1 : RoundP := ⟨1000, [2, 1, 0], 3, 0⟩
def r2 : RoundP := ⟨1000, [5, 4, 3, 4], 3, 1⟩
def r3 : RoundP := ⟨1000, [6], 3, 2⟩

def s : Sys := ((Sys.init cfg).run ops).getD (Sys.init cfg)
def sA : SendRel := (SMap.find? s.a.sendRel 0).getD (SendRel.new 0 0 0)
def rB : RecvRel := (SMap.find? s.b.recvRel 0).getD (RecvRel.new 0 true)

end C01K.ExU

/-- Props/C01KE: round 3 hands over nothing -/
def C01KE.ExU.r3' : RoundP := ⟨0, [], 3, 0⟩

namespace C01K.ExU
open C01KE.ExU

/-- The three rounds, run once.
    Props/C01K: `ops` runs and channel 0 exists at both ends; the standing hypotheses and the numbers; the side
    conditions of the three rounds; B's application obtains the small messages after round 1, the sliced one after
    round 2.
    Props/C01KC, C01KD: the schedule facts; the head-room of all three steps.
    Props/C01KE, rounds `[r1, r2, r3']`: the checker of `RoundsSched4` accepts them, the head-room holds, two full rounds are
    run; the cut schedule followed by a stale datagram for B and one more `receive_message` call returns normally,
    counters in range. -/
def Read : Prop :=
  ((((Sys.init cfg).run ops).isSome = true ∧ (SMap.find? s.a.sendRel 0).isSome = true ∧
      (SMap.find? s.b.recvRel 0).isSome = true) ∧
    (s.a.isDisconnected = false ∧ s.b.isDisconnected = false ∧ Room (s.submitted 0) rB ∧
      backlog sA.unacked = 4805 ∧ s.submitted 0 = [m0, m1, m2] ∧ s.obtained 0 = []) ∧
    Rounds cfg 0 (SchedBytes 0 3000) s [r1, r2, r3] ∧
    ((s.run (roundsOps 0 [r1])).map (fun u => u.obtained 0) = some [m1, m2] ∧
      (s.run (roundsOps 0 [r1, r2])).map (fun u => u.obtained 0) = some [m1, m2, m0])) ∧
  (RoundsSched 0 (SchedBytes 0 3000) s [r1, r2, r3] ∧
    HeadRoom cfg s [r1, r2, r3] ∧ HeadRoom2 cfg s [r1, r2, r3] ∧ HeadRoom3 cfg s [r1, r2, r3]) ∧
  ((roundsSched4b 0 (fun su => decide (SchedBytes 0 3000 su)) s [r1, r2, r3'] = true ∧ HeadRoom3 cfg s [r1, r2, r3']) ∧
    cutLen 0 s [r1, r2, r3'] = 2 ∧
    (s.run (cutOps 0 s [r1, r2, r3'] ++ [SysOp.deliverToB 1, SysOp.recvB 0])).isSome = true ∧
    ∀ w, s.run (cutOps 0 s [r1, r2, r3'] ++ [SysOp.deliverToB 1, SysOp.recvB 0]) = some w → CountersOK cfg w)

instance : Decidable Read := by unfold Read; infer_instance

/-- … and the run with the three rounds stays in the range of the source tie -/
theorem allR : Read ∧ SrcSystem.RunInRange cfg (ops ++ roundsOps 0 [r1, r2, r3]) := by decide +kernel
theorem all : Read := allR.1
theorem inRange : SrcSystem.RunInRange cfg (ops ++ roundsOps 0 [r1, r2, r3]) := allR.2

end C01K.ExU

end RenetVerif
