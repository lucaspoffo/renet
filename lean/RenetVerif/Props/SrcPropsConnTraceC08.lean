/-
  C08 — "A RELIABLE MESSAGE IS RELEASED ONLY AFTER THE PEER REALLY HAS IT", ON API TRACES OF THE GENERATED `RenetClient`.

  `GConn` (`Lemmas/SrcEquiv/SrcConnSystem.lean`) is one GENERATED `RenetClient` created by the generated `from_channels` and
  driven through the generated `send_message`, `receive_message`, `update`, `get_packets_to_send`, `process_packet` (ARBITRARY
  bytes) and the status setters, in ANY order (`COp`).  `GConn.exec cfg ops = some g`: `from_channels` and every call of the
  trace returned normally, and `g.cl` is the generated struct afterwards.

  The theorems below have GENERATED runs as hypotheses and read hypotheses and conclusions off the generated struct
  (`send_reliable_channels[ch].unacked_messages`, `sent_packets`, `pending_acks`) and the generated decoder
  (`GDecodes bytes p`: the generated `Packet::from_bytes` on a fresh cursor over `bytes` returns `p`):

    * `src_release_only_by_ack`        one step `op` of ANY kind: a message id leaves `unacked_messages` of a reliable send channel
                                       only if `op = process bytes`, `bytes` decode to an `Ack` packet, one of its ranges contains a
                                       sequence number `seq`, and the generated `sent_packets` (before the step) records under
                                       `seq` a packet that carried the message (`ReliableMessages ch ids`, `id ∈ ids`, or
                                       `ReliableSliceMessage ch id _`).  So: `send_message`, `receive_message`, `update`,
                                       `get_packets_to_send`, the status setters, non-Ack packets and garbage release nothing.
    * `src_send_channel_persists`      no step removes a channel from `send_reliable_channels`.
    * `src_slice_marked_only_by_ack`   slice `i` of message `id` stops being stored-and-unmarked (marked, or the message released)
                                       only by an Ack naming a recorded packet `ReliableSliceMessage ch id i`.
    * `src_sliced_release_needs_every_slice`   a sliced message leaves only when every slice was marked before or is named by
                                       this very Ack.
    * `src_memory_returned_only_by_ack`   `memory_usage_bytes` of a reliable send channel drops (available memory rises) only
                                       in such a step; `max_memory_usage_bytes` never changes.
    * `src_recorded_packet_was_emitted_partial`   every entry of the generated `sent_packets` describes a datagram returned by a
                                       generated `get_packets_to_send` of the run (datagram given by the model serialiser).
    * `src_release_trace`              whole traces: a message stored after `ops` and gone after `ops ++ ext` was released by
                                       some `process bytes` of `ext`, with the justification read off the generated state at
                                       that point of the trace.
    * `src_pending_acks_only_received` every sequence number covered by the generated `pending_acks` ranges is the (generated)
                                       `Packet::sequence` of a packet the generated decoder reads from the bytes of a
                                       `process_packet` of the trace.

  `CRunInRange` is the range side condition of the source tie (see `Props/SrcPropsConnTrace.lean`), decidable by evaluation.
  Proofs: `SrcConnSystem.behind` / `behind_step` + the model theorems of `Props/C08.lean` via
  `Lemmas/SrcEquiv/SrcConnC08.lean` (`mtr_step_chan`, `mtr_run_acks`); `Conn.SendInv` and `Acks.WF` along the model runs
  are part of `SrcConnSystem.epGood_run`.
-/
import RenetVerif.Lemmas.SrcEquiv.SrcConnC08
import RenetVerif.Lemmas.SrcEquiv.SrcConnTransfer
import RenetVerif.Lemmas.SrcCorollaries
set_option maxRecDepth 100000
set_option linter.unusedVariables false
set_option linter.unusedSimpArgs false
namespace RenetVerif.SrcPropsConnTraceC08
open RenetVerif RenetVerif.RustSem RenetVerif.C RenetVerif.System RenetVerif.SrcEquiv RenetVerif.SrcSystem RenetVerif.SrcConnSystem
open RenetVerif.SrcConnC08 RenetVerif.SI
open Src.renet.remote_connection

abbrev GSendRel := Src.renet.channel.reliable.SendChannelReliable

def GAckNames (cl : RenetClient) (bytes : Bytes) (P : PacketSentInfo → Prop) : Prop :=
  ∃ aseq ranges seq ps, GDecodes (toNats bytes) (.Ack aseq ranges) ∧ (∃ r ∈ ranges, r.start ≤ seq ∧ seq < r.«end») ∧
    RustSem.Map.find? cl.sent_packets seq = some ps ∧ P ps.info

def GCarried (ch id : Nat) (info : PacketSentInfo) : Prop :=
  (∃ ids, info = .ReliableMessages ch ids ∧ id ∈ ids) ∨ ∃ idx, info = .ReliableSliceMessage ch id idx

theorem gackNames_of {t : MTr} {g : GConn} (sim : SimConn t g) {op : COp} {P : SentInfo → Prop} {Q : PacketSentInfo → Prop}
    (h : MAckNames t.c op P) (hPQ : ∀ info, P info → Q (reprInfo info)) :
    ∃ bytes, op = .process bytes ∧ GAckNames g.cl bytes Q := by
  obtain ⟨bytes, aseq, ranges, seq, t0, info, rfl, hpk, ⟨r, hr, h1, h2⟩, hfs, hp⟩ := h
  refine ⟨bytes, rfl, aseq, ranges.map reprRange, seq, reprSentEntry (t0, info), gdecodes_of_fromBytes hpk,
    ⟨reprRange r, List.mem_map_of_mem hr, h1, h2⟩, ?_, hPQ info hp⟩
  rw [sim.sent, hfs]; rfl

theorem carried_of_names {ch id : Nat} (info : SentInfo) (h : Names info ch id) : GCarried ch id (reprInfo info) := by
  rcases h with ⟨ids, rfl, hid⟩ | ⟨idx, rfl⟩
  · exact Or.inl ⟨ids, rfl, hid⟩
  · exact Or.inr ⟨idx, rfl⟩

/-- **No operation removes a reliable send channel.** -/
theorem src_send_channel_persists (cfg : Cfg) (ops : List COp) (op : COp) (g g' : GConn)
    (hg : GConn.exec cfg ops = some g) (hg' : GConn.exec cfg (ops ++ [op]) = some g')
    (hrg : CRunInRange cfg (ops ++ [op])) (ch : Nat) (s : GSendRel)
    (hs : RustSem.Map.find? g.cl.send_reliable_channels ch = some s) :
    ∃ s', RustSem.Map.find? g'.cl.send_reliable_channels ch = some s' := by
  obtain ⟨t, t', -, hstep, sim, sim', hgood, -, -⟩ := behind_step cfg ops op g g' hrg hg hg'
  obtain ⟨sM, hfM, rfl⟩ := map_eq_some' ((sim.sendRel ch).symm.trans hs)
  obtain ⟨sM', hfM', -⟩ := mtr_step_chan hgood.sinv.send hgood.sinv.acksWF hstep hfM
  exact ⟨reprSR sM', by rw [sim'.sendRel, hfM']; rfl⟩

/-- **C08 on the generated code, one step of ANY kind.**  `g` is the generated state after ANY run `ops`, `g'` the state after one
    more operation `op` (arbitrary: `send_message`, `receive_message`, `update`, `get_packets_to_send`, `process_packet` with
    arbitrary bytes, a status setter).  If message `id` is in the generated `unacked_messages` of the reliable send channel `ch`
    in `g` and in `g'` it is not (`hout` also covers "the channel is gone", which `src_send_channel_persists` excludes), then
    `op` is a `process_packet`, its bytes decode by the generated decoder to an `Ack` packet, one of the Ack's ranges contains a
    sequence number `seq`, and the generated `sent_packets` of `g` records under `seq` a packet that carried message `id` of
    channel `ch`.  (Transports `C08.release_only_by_ack` and the `…_never_releases` family.) -/
theorem src_release_only_by_ack (cfg : Cfg) (ops : List COp) (op : COp) (g g' : GConn)
    (hg : GConn.exec cfg ops = some g) (hg' : GConn.exec cfg (ops ++ [op]) = some g')
    (hrg : CRunInRange cfg (ops ++ [op])) (ch id : Nat) (s : GSendRel)
    (hs : RustSem.Map.find? g.cl.send_reliable_channels ch = some s)
    (hin : RustSem.Map.contains_key s.unacked_messages id = true)
    (hout : ∀ s', RustSem.Map.find? g'.cl.send_reliable_channels ch = some s' →
      RustSem.Map.contains_key s'.unacked_messages id = false) :
    ∃ bytes, op = .process bytes ∧ GAckNames g.cl bytes (GCarried ch id) := by
  obtain ⟨t, t', -, hstep, sim, sim', hgood, -, -⟩ := behind_step cfg ops op g g' hrg hg hg'
  obtain ⟨sM, hfM, rfl⟩ := map_eq_some' ((sim.sendRel ch).symm.trans hs)
  obtain ⟨sM', hfM', rel, -⟩ := mtr_step_chan hgood.sinv.send hgood.sinv.acksWF hstep hfM
  have hout' := hout (reprSR sM') (by rw [sim'.sendRel, hfM']; rfl)
  rw [contains_unacked_repr] at hin hout'
  have hm := rel id (by intro e; rw [e] at hin; cases hin)
    (by cases hv : SMap.find? sM'.unacked id with
        | none => rfl
        | some u => rw [hv] at hout'; cases hout')
  exact gackNames_of sim hm carried_of_names

/-- **Each slice is marked only by an Ack of a packet that carried exactly that slice** (generated code, one step of ANY
    kind).  `GPending s id i`: the generated `unacked_messages` of `s` holds `Sliced …` under `id` and its `acked[i]` is
    `false`.  If that holds in `g` and in `g'` no longer (slice marked, or the whole message released), then `op` is a
    `process_packet` of bytes decoding to an `Ack` with a range containing a `seq` that the generated `sent_packets` of `g`
    records as `ReliableSliceMessage ch id i`.  (Transports `C08.slice_marked_only_by_ack`.) -/
theorem src_slice_marked_only_by_ack (cfg : Cfg) (ops : List COp) (op : COp) (g g' : GConn)
    (hg : GConn.exec cfg ops = some g) (hg' : GConn.exec cfg (ops ++ [op]) = some g')
    (hrg : CRunInRange cfg (ops ++ [op])) (ch id i : Nat) (s : GSendRel)
    (hs : RustSem.Map.find? g.cl.send_reliable_channels ch = some s)
    (hpend : GPending s id i)
    (hnot : ∀ s', RustSem.Map.find? g'.cl.send_reliable_channels ch = some s' → ¬ GPending s' id i) :
    ∃ bytes, op = .process bytes ∧ GAckNames g.cl bytes (fun info => info = .ReliableSliceMessage ch id i) := by
  obtain ⟨t, t', -, hstep, sim, sim', hgood, -, -⟩ := behind_step cfg ops op g g' hrg hg hg'
  obtain ⟨sM, hfM, rfl⟩ := map_eq_some' ((sim.sendRel ch).symm.trans hs)
  obtain ⟨sM', hfM', -, pend, -⟩ := mtr_step_chan hgood.sinv.send hgood.sinv.acksWF hstep hfM
  have hnot' := hnot (reprSR sM') (by rw [sim'.sendRel, hfM']; rfl)
  rw [gpending_repr] at hpend hnot'
  rcases pend id i hpend with hp2 | hm
  · exact absurd hp2 hnot'
  · exact gackNames_of sim (Q := fun info => info = .ReliableSliceMessage ch id i) hm (by rintro info rfl; rfl)

/-- **A sliced message is released only after every one of its slices was acknowledged** (generated code, one step of ANY
    kind): when a `Sliced` entry with `n` slices leaves the generated `unacked_messages`, every slice index `i < n` was already
    marked in `g`, or the step is a `process_packet` of an Ack naming a recorded packet that carried slice `i`.
    (Transports `C08.sliced_release_needs_every_slice`.) -/
theorem src_sliced_release_needs_every_slice (cfg : Cfg) (ops : List COp) (op : COp) (g g' : GConn)
    (hg : GConn.exec cfg ops = some g) (hg' : GConn.exec cfg (ops ++ [op]) = some g')
    (hrg : CRunInRange cfg (ops ++ [op])) (ch id : Nat) (s : GSendRel)
    (hs : RustSem.Map.find? g.cl.send_reliable_channels ch = some s)
    (m : GBytes) (n k nx : Nat) (a : List Bool) (ls : List (Option Nat))
    (hf : RustSem.Map.find? s.unacked_messages id = some (.Sliced m n k nx a ls))
    (hout : ∀ s', RustSem.Map.find? g'.cl.send_reliable_channels ch = some s' →
      RustSem.Map.contains_key s'.unacked_messages id = false)
    (i : Nat) (hi : i < n) :
    a[i]? = some true ∨
      ∃ bytes, op = .process bytes ∧ GAckNames g.cl bytes (fun info => info = .ReliableSliceMessage ch id i) := by
  have hlen : a.length = n := by
    obtain ⟨t, t', -, hstep, sim, sim', hgood, -, -⟩ := behind_step cfg ops op g g' hrg hg hg'
    obtain ⟨sM, hfM, rfl⟩ := map_eq_some' ((sim.sendRel ch).symm.trans hs)
    obtain ⟨m0, -, hf0⟩ := unacked_sliced_of_repr hf
    obtain ⟨-, -, o3, -⟩ := (hgood.sinv.send.chans ch sM hfM).1.find_ok hf0
    exact o3
  cases hb : a[i]? with
  | none => rw [List.getElem?_eq_none_iff] at hb; omega
  | some b =>
    cases b with
    | true => exact Or.inl rfl
    | false =>
      right
      refine src_slice_marked_only_by_ack cfg ops op g g' hg hg' hrg ch id i s hs ⟨m, n, k, nx, a, ls, hf, hb⟩ ?_
      rintro s' hs' ⟨m', n', k', nx', a', ls', hf', -⟩
      have := hout s' hs'
      simp only [RustSem.Map.contains_key, hf'] at this
      cases this

/-- **Channel memory is given back only through such a release** (generated code, one step of ANY kind).  The channel's
    `max_memory_usage_bytes` never changes, and if its `memory_usage_bytes` is smaller after the step (equivalently: the
    available memory rose), then the step is a `process_packet` of an Ack packet naming a recorded packet that carried some
    message `id` which was stored before and is not stored afterwards.  (Transports `C08.available_rises_only_on_release`
    and the memory clauses of the `…_never_releases` family.) -/
theorem src_memory_returned_only_by_ack (cfg : Cfg) (ops : List COp) (op : COp) (g g' : GConn)
    (hg : GConn.exec cfg ops = some g) (hg' : GConn.exec cfg (ops ++ [op]) = some g')
    (hrg : CRunInRange cfg (ops ++ [op])) (ch : Nat) (s : GSendRel)
    (hs : RustSem.Map.find? g.cl.send_reliable_channels ch = some s) :
    ∃ s', RustSem.Map.find? g'.cl.send_reliable_channels ch = some s' ∧
      s'.max_memory_usage_bytes = s.max_memory_usage_bytes ∧
      (s'.memory_usage_bytes < s.memory_usage_bytes →
        ∃ bytes id, op = .process bytes ∧ RustSem.Map.contains_key s.unacked_messages id = true ∧
          RustSem.Map.contains_key s'.unacked_messages id = false ∧ GAckNames g.cl bytes (GCarried ch id)) := by
  obtain ⟨t, t', -, hstep, sim, sim', hgood, -, -⟩ := behind_step cfg ops op g g' hrg hg hg'
  obtain ⟨sM, hfM, rfl⟩ := map_eq_some' ((sim.sendRel ch).symm.trans hs)
  obtain ⟨sM', hfM', rel, -, hmax, hlt⟩ := mtr_step_chan hgood.sinv.send hgood.sinv.acksWF hstep hfM
  refine ⟨reprSR sM', by rw [sim'.sendRel, hfM']; rfl, hmax, ?_⟩
  intro hl
  obtain ⟨id, h1, h2⟩ := hlt hl
  obtain ⟨bytes, e, hG⟩ := gackNames_of sim (rel id h1 h2) carried_of_names
  refine ⟨bytes, id, e, ?_, ?_, hG⟩
  · rw [contains_unacked_repr]
    cases hv : SMap.find? sM.unacked id with
    | none => exact absurd hv h1
    | some u => rfl
  · rw [contains_unacked_repr, h2]; rfl

/-- **Every entry of the generated `sent_packets` describes a datagram that a generated `get_packets_to_send` of the run
    returned** (so the Ack of `src_release_only_by_ack` names a packet that was really handed to the transport): in the generated
    state after ANY run, an entry `ps` under `seq` comes with a datagram `b` in the log of flush outputs which is the
    serialisation `Packet.enc p` of a packet `p` with sequence number `seq`, and `ps.info` is what `get_packets_to_send` records
    for `p` (`Conn.sentInfoOf`: `ReliableMessages ch (ids of the messages in p)` for a small reliable packet,
    `ReliableSliceMessage ch message_id slice_index` for a reliable slice packet).  (Transports
    `C08.flush_records_exactly_what_is_emitted` / `sent_table_only_shrinks_on_process` along the run.)

    `_partial`: the datagram is described by the MODEL serialiser (`Packet.enc`, proved equal to the generated `to_bytes`
    elsewhere) instead of being read back with the GENERATED decoder `GDecodes`: the round trip
    `Packet.fromBytes (enc p) = p` needs `p.WF`, i.e. stored message lengths bounded by `MAX_NUM_SLICES * SLICE_SIZE` and
    channel ids below 256 along `MTr` runs, which `CRunInRange` does not provide.  The read-back form, under those two extra
    hypotheses (`MsgLenOK`, `ChanBytes`): `Props/SrcPropsConnTraceC08b.lean`, `src_recorded_packet_was_emitted`. -/
theorem src_recorded_packet_was_emitted_partial (cfg : Cfg) (ops : List COp) (g : GConn) (hg : GConn.exec cfg ops = some g)
    (hrg : CRunInRange cfg ops) (seq : Nat) (ps : PacketSent) (hf : RustSem.Map.find? g.cl.sent_packets seq = some ps) :
    ∃ bs ∈ g.flushes, ∃ b ∈ bs, ∃ (p : Packet) (b0 : Bytes) (info : SentInfo),
      p.enc = .ok b0 ∧ b = toNats b0 ∧ p.sequence = seq ∧ Conn.sentInfoOf p = .ok info ∧ ps.info = reprInfo info := by
  obtain ⟨t, ht, sim, -⟩ := behind cfg ops g hrg hg
  obtain ⟨⟨tm, info⟩, hm, rfl⟩ := map_eq_some' ((sim.sent seq).symm.trans hf)
  obtain ⟨bs, hbs, b, hb, p, henc, -, hseq, hinfo⟩ :=
    sentEmitted_run ops (MTr.init cfg) t (epGood_init cfg) hrg.2 ht (sentEmitted_init _ cfg) seq tm info hm
  refine ⟨bs.map toNats, ?_, toNats b, List.mem_map_of_mem hb, p, b, info, henc, rfl, hseq, hinfo, rfl⟩
  rw [sim.flushes]; exact List.mem_map_of_mem hbs

/-- **C08 on the generated code, whole traces.**  If message `id` of channel `ch` is in the generated `unacked_messages` after
    the run `ops` and no longer after `ops ++ ext` (ANY operations `ext`), then `ext = ext1 ++ process bytes :: ext2` where, in
    the generated state `g1` reached after `ops ++ ext1`, the bytes decode to an `Ack` packet with a range containing a `seq`
    that the generated `sent_packets` of `g1` records as a packet that carried the message. -/
theorem src_release_trace (cfg : Cfg) : ∀ (ext ops : List COp) (g g' : GConn),
    GConn.exec cfg ops = some g → GConn.exec cfg (ops ++ ext) = some g' → CRunInRange cfg (ops ++ ext) →
    ∀ (ch id : Nat) (s : GSendRel), RustSem.Map.find? g.cl.send_reliable_channels ch = some s →
    RustSem.Map.contains_key s.unacked_messages id = true →
    (∀ s', RustSem.Map.find? g'.cl.send_reliable_channels ch = some s' →
      RustSem.Map.contains_key s'.unacked_messages id = false) →
    ∃ ext1 bytes ext2 g1, ext = ext1 ++ COp.process bytes :: ext2 ∧ GConn.exec cfg (ops ++ ext1) = some g1 ∧
      GAckNames g1.cl bytes (GCarried ch id)
  | [], ops, g, g', hg, hg', _, ch, id, s, hs, hin, hout => by
    rw [List.append_nil, hg] at hg'; cases hg'
    have := hout s hs
    rw [hin] at this; cases this
  | op :: ext, ops, g, g', hg, hg', hrg, ch, id, s, hs, hin, hout => by
    have eapp : ops ++ op :: ext = (ops ++ [op]) ++ ext := by simp
    rw [eapp] at hg' hrg
    have hrg1 := crunInRange_prefix cfg (ops ++ [op]) ext hrg
    have hex := GConn.exec_append cfg (ops ++ [op]) ext
    rw [hg'] at hex
    cases hg1 : GConn.exec cfg (ops ++ [op]) with
    | none => rw [hg1] at hex; cases hex
    | some g1 =>
      obtain ⟨s1, hs1⟩ := src_send_channel_persists cfg ops op g g1 hg hg1 hrg1 ch s hs
      cases hc : RustSem.Map.contains_key s1.unacked_messages id with
      | false =>
        obtain ⟨bytes, e, hG⟩ := src_release_only_by_ack cfg ops op g g1 hg hg1 hrg1 ch id s hs hin
          (by intro s' hs'; rw [hs1] at hs'; cases hs'; exact hc)
        subst e
        exact ⟨[], bytes, ext, g, rfl, by rw [List.append_nil]; exact hg, hG⟩
      | true =>
        obtain ⟨ext1, bytes, ext2, g2, e, hg2, hG⟩ :=
          src_release_trace cfg ext (ops ++ [op]) g1 g' hg1 hg' hrg ch id s1 hs1 hc hout
        refine ⟨op :: ext1, bytes, ext2, g2, by rw [e]; rfl, ?_, hG⟩
        rw [← hg2]; congr 1; simp

/-- **An endpoint never acknowledges a sequence number it did not receive** (generated code, whole traces).  In the generated
    state after ANY run `ops`, every number `x` covered by a range of the generated `pending_acks` is the sequence number
    (generated `Packet::sequence`) of a packet `p` that the generated `Packet::from_bytes` reads from the bytes of some
    `process_packet` call of the run.  (Transports `C08.pending_acks_only_received` / `pending_acks_unchanged_elsewhere`.) -/
theorem src_pending_acks_only_received (cfg : Cfg) (ops : List COp) (g : GConn) (hg : GConn.exec cfg ops = some g)
    (hrg : CRunInRange cfg ops) (x : Nat) (hx : ∃ r ∈ g.cl.pending_acks, r.start ≤ x ∧ x < r.«end») :
    ∃ bytes p, COp.process bytes ∈ ops ∧ GDecodes (toNats bytes) p ∧
      (Src.renet.packet.Packet.sequence p : Res Empty Nat) = .ok x := by
  obtain ⟨t, ht, sim, -⟩ := behind cfg ops g hrg hg
  rw [sim.pendingAcks] at hx
  rcases mtr_run_acks ops (MTr.init cfg) t (epGood_init cfg) ht x (mem_pendingAcks_repr (mrs := fun _ => 0) hx) with
    h0 | ⟨bytes, p, hb, hp, e⟩
  · exact absurd h0 (by simp [MTr.init, Conn.fromChannels])
  · exact ⟨bytes, reprPacket p, hb, gdecodes_of_fromBytes hp, by rw [packet_sequence_eq, e]⟩

/-- … and the ranges of the generated `pending_acks` stay ascending, non-empty and non-adjacent in every reachable state -/
theorem src_pending_acks_wf (cfg : Cfg) (ops : List COp) (g : GConn) (hg : GConn.exec cfg ops = some g)
    (hrg : CRunInRange cfg ops) :
    List.Pairwise (fun (a b : RustSem.Range) => a.«end» < b.start) g.cl.pending_acks ∧
    ∀ r ∈ g.cl.pending_acks, r.start < r.«end» := by
  obtain ⟨t, -, sim, hgood⟩ := behind cfg ops g hrg hg
  rw [sim.pendingAcks]
  refine SrcCor.rangesWF_pairwise ((SrcCor.rangesWF_iff _).2 ?_)
  rw [show SrcCor.pairs (t.c.pendingAcks.map ackR) = t.c.pendingAcks from SrcCor.pairs_map_range _]
  exact hgood.sinv.acksWF

/-! ## non-vacuity: traces executed by the kernel ON THE GENERATED CODE

  The configuration of `C08.Ex`: channel 0 ReliableOrdered (budget 10000 bytes, resend 100 ns), channel 1 Unreliable.
  Live phase `ops0`: a 3-byte message (id 0) and a 1201-byte message (id 1, two slices) are sent and flushed — the generated
  `sent_packets` then records packet 0 = slice 0 of id 1, packet 1 = slice 1 of id 1, packet 2 = the small message id 0.
  Then (`opsQ`): an Ack for sequence numbers never sent (`ackNone`), a non-Ack packet (`nonAck`), a clock step, a receive, one
  more send and a flush — NOTHING is released; then the matching Ack `ackSmall` (packet 2) releases id 0 (`opsR`); `ackSlice0`
  (packet 0) marks slice 0 of id 1 only (`opsS`); `ackSlice1` (packet 1) marks the last slice and releases id 1 (`opsT`).
  Separately: garbage after `ops0` releases nothing (and disconnects; after that even the matching Ack releases nothing). -/
namespace Ex
abbrev cfg : Cfg := ⟨60000, C08.Ex.cfg, C08.Ex.cfg⟩
abbrev ops0 : List COp := [.setConnected, .send 0 [1, 2, 3], .send 0 C08.Ex.big, .flush]
abbrev garbage : Bytes := [9, 9, 9]
abbrev ackNone : Bytes := C08.Ex.bytesOf (.ack 7 [(100, 4000)])
abbrev nonAck : Bytes := C08.Ex.bytesOf (.smallUnreliable 8 1 [[5, 5]])
/-- acknowledges packet 2 (own sequence 0) -/
abbrev ackSmall : Bytes := C08.Ex.ackSmall
/-- acknowledges packet 0 (own sequence 1) -/
abbrev ackSlice0 : Bytes := C08.Ex.ackSlice0
abbrev ackSlice1 : Bytes := C08.Ex.bytesOf (.ack 3 [(1, 2)])
abbrev extQ : List COp := [.process ackNone, .process nonAck, .update 5, .recv 1, .send 0 [4], .flush]
abbrev opsQ : List COp := ops0 ++ extQ
abbrev opsR : List COp := opsQ ++ [.process ackSmall]
abbrev opsS : List COp := opsR ++ [.process ackSlice0]
abbrev opsT : List COp := opsS ++ [.process ackSlice1]

def gzero : GConn := ⟨reprConn (fun _ => 0) (Conn.fromChannels 0 [] []), [], []⟩
def g0 : GConn := (GConn.exec cfg ops0).getD gzero
def gQ : GConn := (GConn.exec cfg opsQ).getD gzero
def gR : GConn := (GConn.exec cfg opsR).getD gzero
def gS : GConn := (GConn.exec cfg opsS).getD gzero
def gT : GConn := (GConn.exec cfg opsT).getD gzero
def chan (g : GConn) : GSendRel := (RustSem.Map.find? g.cl.send_reliable_channels 0).getD ⟨0, [], 0, 0, 0, 0⟩
def ids (g : GConn) : List Nat := (chan g).unacked_messages.map (·.1)

/-- the whole scenario in one kernel evaluation.  On the model: the range side condition of the longest trace.  On the
    generated code: the five runs return normally and channel 0 is in `send_reliable_channels` after each; the recorded table
    after the first flush; the stored ids after the live phase, after the non-matching Ack / non-Ack packet / update / receive /
    send / flush (nothing released, id 2 added), after the matching Ack (id 0 released), after the Ack of packet 0 (nothing
    released), after the Ack of packet 1 (id 1 released); each single operation of `extQ`, applied right after the live phase,
    leaves both ids stored; garbage releases nothing (it disconnects: `PacketDeserialization`) and afterwards even the matching
    Ack releases nothing; which id is stored / gone where; the `Sliced` entry of message 1 before and after the Ack of packet 0;
    `memory_usage_bytes` of channel 0 around the release of message 0; the entry of `sent_packets` under sequence number 2 -/
theorem all :
    CRunInRange cfg opsT ∧
    ((GConn.exec cfg ops0).isSome = true ∧ (GConn.exec cfg opsQ).isSome = true ∧ (GConn.exec cfg opsR).isSome = true ∧
      (GConn.exec cfg opsS).isSome = true ∧ (GConn.exec cfg opsT).isSome = true) ∧
    ((RustSem.Map.find? g0.cl.send_reliable_channels 0).isSome = true ∧
      (RustSem.Map.find? gQ.cl.send_reliable_channels 0).isSome = true ∧
      (RustSem.Map.find? gR.cl.send_reliable_channels 0).isSome = true ∧
      (RustSem.Map.find? gS.cl.send_reliable_channels 0).isSome = true ∧
      (RustSem.Map.find? gT.cl.send_reliable_channels 0).isSome = true) ∧
    (g0.cl.sent_packets.map (fun x => (x.1, x.2.info)) =
        [(0, .ReliableSliceMessage 0 1 0), (1, .ReliableSliceMessage 0 1 1), (2, .ReliableMessages 0 [0])] ∧
      ids g0 = [0, 1] ∧ ids gQ = [0, 1, 2] ∧ ids gR = [1, 2] ∧ ids gS = [1, 2] ∧ ids gT = [2] ∧
      gQ.cl.pending_acks = [⟨7, 9⟩] ∧ gT.cl.pending_acks = [⟨0, 2⟩, ⟨3, 4⟩, ⟨7, 9⟩] ∧
      gT.cl.connection_status = .Connected) ∧
    ((∀ op ∈ extQ, (GConn.exec cfg (ops0 ++ [op])).map ids = some (if op = .send 0 [4] then [0, 1, 2] else [0, 1])) ∧
      (GConn.exec cfg (ops0 ++ [.process garbage])).map (fun g => (ids g, g.cl.connection_status)) =
        some ([0, 1], .Disconnected (.PacketDeserialization .InvalidPacketType)) ∧
      (GConn.exec cfg (ops0 ++ [.process garbage, .process ackSmall])).map ids = some [0, 1]) ∧
    (RustSem.Map.contains_key (chan g0).unacked_messages 0 = true ∧
      RustSem.Map.contains_key (chan gQ).unacked_messages 0 = true ∧
      (RustSem.Map.find? gR.cl.send_reliable_channels 0).map (fun s => RustSem.Map.contains_key s.unacked_messages 0) =
        some false ∧
      (RustSem.Map.find? gT.cl.send_reliable_channels 0).map (fun s => RustSem.Map.contains_key s.unacked_messages 0) =
        some false ∧
      (RustSem.Map.find? gT.cl.send_reliable_channels 0).map (fun s => RustSem.Map.contains_key s.unacked_messages 1) =
        some false) ∧
    (RustSem.Map.find? (chan gR).unacked_messages 1 =
        some (.Sliced (toNats C08.Ex.big) 2 0 2 [false, false] [some 0, some 0]) ∧
      RustSem.Map.find? (chan gS).unacked_messages 1 =
        some (.Sliced (toNats C08.Ex.big) 2 1 2 [true, false] [some 0, some 0])) ∧
    ((chan gQ).memory_usage_bytes = 1205 ∧ (chan gR).memory_usage_bytes = 1202 ∧
      (chan gR).max_memory_usage_bytes = 10000) ∧
    RustSem.Map.find? gQ.cl.sent_packets 2 = some ⟨0, .ReliableMessages 0 [0]⟩ := by
  decide +kernel

theorem inRange : CRunInRange cfg opsT := all.1
theorem run0 : GConn.exec cfg ops0 = some g0 := some_getD all.2.1.1 _
theorem runQ : GConn.exec cfg opsQ = some gQ := some_getD all.2.1.2.1 _
theorem runR : GConn.exec cfg opsR = some gR := some_getD all.2.1.2.2.1 _
theorem runS : GConn.exec cfg opsS = some gS := some_getD all.2.1.2.2.2.1 _
theorem runT : GConn.exec cfg opsT = some gT := some_getD all.2.1.2.2.2.2 _
theorem chan0 : RustSem.Map.find? g0.cl.send_reliable_channels 0 = some (chan g0) := some_getD all.2.2.1.1 _
theorem chanQ : RustSem.Map.find? gQ.cl.send_reliable_channels 0 = some (chan gQ) := some_getD all.2.2.1.2.1 _
theorem chanR : RustSem.Map.find? gR.cl.send_reliable_channels 0 = some (chan gR) := some_getD all.2.2.1.2.2.1 _
theorem chanS : RustSem.Map.find? gS.cl.send_reliable_channels 0 = some (chan gS) := some_getD all.2.2.1.2.2.2.1 _
theorem chanT : RustSem.Map.find? gT.cl.send_reliable_channels 0 = some (chan gT) := some_getD all.2.2.1.2.2.2.2 _

theorem gfacts :
    g0.cl.sent_packets.map (fun x => (x.1, x.2.info)) =
      [(0, .ReliableSliceMessage 0 1 0), (1, .ReliableSliceMessage 0 1 1), (2, .ReliableMessages 0 [0])] ∧
    ids g0 = [0, 1] ∧ ids gQ = [0, 1, 2] ∧ ids gR = [1, 2] ∧ ids gS = [1, 2] ∧ ids gT = [2] ∧
    gQ.cl.pending_acks = [⟨7, 9⟩] ∧ gT.cl.pending_acks = [⟨0, 2⟩, ⟨3, 4⟩, ⟨7, 9⟩] ∧
    gT.cl.connection_status = .Connected :=
  all.2.2.2.1

example : ∀ op ∈ extQ, (GConn.exec cfg (ops0 ++ [op])).map ids = some (if op = .send 0 [4] then [0, 1, 2] else [0, 1]) :=
  all.2.2.2.2.1.1

example : (GConn.exec cfg (ops0 ++ [.process garbage])).map (fun g => (ids g, g.cl.connection_status)) =
      some ([0, 1], .Disconnected (.PacketDeserialization .InvalidPacketType)) ∧
    (GConn.exec cfg (ops0 ++ [.process garbage, .process ackSmall])).map ids = some [0, 1] :=
  all.2.2.2.2.1.2

theorem gone_of {m : RustSem.Map GSendRel} {ch id : Nat}
    (h : (RustSem.Map.find? m ch).map (fun s => RustSem.Map.contains_key s.unacked_messages id) = some false) :
    ∀ s', RustSem.Map.find? m ch = some s' → RustSem.Map.contains_key s'.unacked_messages id = false := by
  intro s' hs'; rw [hs'] at h; exact Option.some.inj h

/-- for variables: on the evaluated states of the traces below, taking `some (chan g) = some s'` apart by `cases` evaluates
    `chan g` -/
theorem marked_of {m : RustSem.Map GSendRel} {ch id i : Nat} {s : GSendRel} {msg : GBytes} {n k nx : Nat} {acked : List Bool}
    {ls : List (Option Nat)} (hs : RustSem.Map.find? m ch = some s)
    (he : RustSem.Map.find? s.unacked_messages id = some (.Sliced msg n k nx acked ls)) (ha : acked[i]? = some true) :
    ∀ s', RustSem.Map.find? m ch = some s' → ¬ GPending s' id i := by
  rintro s' hs' ⟨_, _, _, _, _, _, hf, ha'⟩
  rw [hs] at hs'
  obtain rfl := Option.some.inj hs'
  rw [he] at hf
  cases hf
  rw [ha] at ha'
  cases ha'

theorem stored :
    RustSem.Map.contains_key (chan g0).unacked_messages 0 = true ∧
    RustSem.Map.contains_key (chan gQ).unacked_messages 0 = true ∧
    (RustSem.Map.find? gR.cl.send_reliable_channels 0).map (fun s => RustSem.Map.contains_key s.unacked_messages 0) =
      some false ∧
    (RustSem.Map.find? gT.cl.send_reliable_channels 0).map (fun s => RustSem.Map.contains_key s.unacked_messages 0) =
      some false ∧
    (RustSem.Map.find? gT.cl.send_reliable_channels 0).map (fun s => RustSem.Map.contains_key s.unacked_messages 1) =
      some false :=
  all.2.2.2.2.2.1

theorem entryR : RustSem.Map.find? (chan gR).unacked_messages 1 =
    some (.Sliced (toNats C08.Ex.big) 2 0 2 [false, false] [some 0, some 0]) := all.2.2.2.2.2.2.1.1
theorem entryS : RustSem.Map.find? (chan gS).unacked_messages 1 =
    some (.Sliced (toNats C08.Ex.big) 2 1 2 [true, false] [some 0, some 0]) := all.2.2.2.2.2.2.1.2

example : ∃ bytes, COp.process ackSmall = .process bytes ∧ GAckNames gQ.cl bytes (GCarried 0 0) :=
  src_release_only_by_ack cfg opsQ (.process ackSmall) gQ gR runQ runR (crunInRange_prefix cfg opsR _ inRange) 0 0 (chan gQ) chanQ
    stored.2.1 (gone_of stored.2.2.1)

example : ∃ bytes, COp.process ackSlice1 = .process bytes ∧ GAckNames gS.cl bytes (GCarried 0 1) :=
  src_release_only_by_ack cfg opsS (.process ackSlice1) gS gT runS runT inRange 0 1 (chan gS) chanS
    (by rw [RustSem.Map.contains_key, entryS]; rfl) (gone_of stored.2.2.2.2)

example : ∃ s', RustSem.Map.find? gR.cl.send_reliable_channels 0 = some s' :=
  src_send_channel_persists cfg opsQ (.process ackSmall) gQ gR runQ runR (crunInRange_prefix cfg opsR _ inRange) 0 (chan gQ) chanQ

example : ∃ bytes, COp.process ackSlice0 = .process bytes ∧
    GAckNames gR.cl bytes (fun info => info = .ReliableSliceMessage 0 1 0) :=
  src_slice_marked_only_by_ack cfg opsR (.process ackSlice0) gR gS runR runS (crunInRange_prefix cfg opsS _ inRange) 0 1 0
    (chan gR) chanR ⟨_, _, _, _, _, _, entryR, rfl⟩ (marked_of chanS entryS rfl)
example : GPending (chan gS) 1 1 := ⟨_, _, _, _, _, _, entryS, rfl⟩

/-- slice 0 was marked before, slice 1 is named by this Ack -/
example : ∀ i, i < 2 → [true, false][i]? = some true ∨
    ∃ bytes, COp.process ackSlice1 = .process bytes ∧ GAckNames gS.cl bytes (fun info => info = .ReliableSliceMessage 0 1 i) :=
  fun i hi => src_sliced_release_needs_every_slice cfg opsS (.process ackSlice1) gS gT runS runT inRange 0 1 (chan gS) chanS
    _ 2 1 2 [true, false] _ entryS (gone_of stored.2.2.2.2) i hi

example : (chan gQ).memory_usage_bytes = 1205 ∧ (chan gR).memory_usage_bytes = 1202 ∧
    (chan gR).max_memory_usage_bytes = 10000 := all.2.2.2.2.2.2.2.1
example : ∃ s', RustSem.Map.find? gR.cl.send_reliable_channels 0 = some s' ∧
    s'.max_memory_usage_bytes = (chan gQ).max_memory_usage_bytes ∧
    (s'.memory_usage_bytes < (chan gQ).memory_usage_bytes →
      ∃ bytes id, COp.process ackSmall = .process bytes ∧ RustSem.Map.contains_key (chan gQ).unacked_messages id = true ∧
        RustSem.Map.contains_key s'.unacked_messages id = false ∧ GAckNames gQ.cl bytes (GCarried 0 id)) :=
  src_memory_returned_only_by_ack cfg opsQ (.process ackSmall) gQ gR runQ runR (crunInRange_prefix cfg opsR _ inRange) 0
    (chan gQ) chanQ

example : ∃ bs ∈ gQ.flushes, ∃ b ∈ bs, ∃ (p : Packet) (b0 : Bytes) (info : SentInfo),
    p.enc = .ok b0 ∧ b = toNats b0 ∧ p.sequence = 2 ∧ Conn.sentInfoOf p = .ok info ∧
      (⟨0, .ReliableMessages 0 [0]⟩ : PacketSent).info = reprInfo info :=
  src_recorded_packet_was_emitted_partial cfg opsQ gQ runQ (crunInRange_prefix cfg opsQ _ inRange) 2 _ all.2.2.2.2.2.2.2.2

example : ∃ ext1 bytes ext2 g1, extQ ++ [.process ackSmall, .process ackSlice0, .process ackSlice1] =
      ext1 ++ COp.process bytes :: ext2 ∧ GConn.exec cfg (ops0 ++ ext1) = some g1 ∧ GAckNames g1.cl bytes (GCarried 0 0) :=
  src_release_trace cfg _ ops0 g0 gT run0 runT inRange 0 0 (chan g0) chan0 stored.1 (gone_of stored.2.2.2.1)

/-- 8 is pending in `gT` — it is the sequence number of `nonAck` -/
example : ∃ bytes p, COp.process bytes ∈ opsT ∧ GDecodes (toNats bytes) p ∧
    (Src.renet.packet.Packet.sequence p : Res Empty Nat) = .ok 8 :=
  src_pending_acks_only_received cfg opsT gT runT inRange 8
    ⟨⟨7, 9⟩, by rw [gfacts.2.2.2.2.2.2.2.1]; decide, by decide, by decide⟩
example : List.Pairwise (fun (a b : RustSem.Range) => a.«end» < b.start) gT.cl.pending_acks ∧
    ∀ r ∈ gT.cl.pending_acks, r.start < r.«end» := src_pending_acks_wf cfg opsT gT runT inRange

end Ex

end RenetVerif.SrcPropsConnTraceC08
