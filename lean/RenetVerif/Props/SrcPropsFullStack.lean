/-
  C20F — THE FULL STACK, ABOUT THE GENERATED CODE.

  `GFS` (`Lemmas/SrcEquiv/SrcFullStack.lean`) is the system of `Props/C20F.lean` with GENERATED transports
  (`NetcodeClientTransport`, `NetcodeServerTransport`, each holding the generated `NetcodeClient` / `NetcodeServer`, a model socket
  and its receive buffer), a generated `RenetClient` and a generated `RenetServer`; all 14 operations `FSOp` are executed through
  generated functions only (`GFS.step`), with the AEAD `aeadOf a`.  `g0.run a cid ops = some g`: every generated call of the run
  returned normally.  `g.subC`, `g.subCU`, `g.obtS` (client → server) and `g.subS`, `g.subSU`, `g.obtC` (server → client) are
  the ghost logs of `C20F`, as `List Nat` byte strings.

  Hypotheses of every theorem:
  * `Established cfg cid fs0`, `FSGood fs0`, `SimFS fs0 g0` — the generated start state `g0` REPRESENTS an established model
    session `fs0` that satisfies the model invariants (`FSGood`: renet invariants of both endpoints, `CliInv`, `NS.ServerInv`);
    `gOf fs0` is such a `g0` (`simFS_gOf`).
  * `NoForgeryRunD`, `SingleSessionRun` — as in C20F, stated on the MODEL run of `ops.map cutOp` (the operations with every
    inbox cut to the transport's receive buffer, which is what the generated `recv_from` does); the model run is the one
    related to the generated run by the simulation (`SrcFullStack.frun_sim_conv`).
  * `GCountersUp` / `GCountersDown` — C20F's counter conditions read off the generated final state.
  * `FSRunOK a cid fs0 ops` — DECIDABLE: before every operation (along the model run) the range condition `FSOpInRange`
    (endpoint(s) of an application-level call in `ConnInRange`, messages `< 2^63` bytes, clocks within `Duration::MAX`,
    fewer than `2^64 - 1` queued datagrams) and, for the five transport calls, the LOCAL condition `OpLocalOk` of that one
    call (`Props/SrcTieTrLocal.lean`: `ConnInRange` at every model state the glue loop of the call reaches where a renet
    `process_packet(_from)` / `get_packets_to_send` is made).  It holds of live sessions with pending acks (checked by
    `decide +kernel` below) — unlike the run-closed range predicate of `SrcTieTrClosed.lean`, see `SrcTieTrLocal.lean`.
  The non-vacuity section applies the theorems to the runs of `C20F.Ex` / `C20F.ExU` (all hypotheses discharged, `FSGood fs0`
  derived through the handshake) and, independently, evaluates the generated full stack in the kernel.
-/
import RenetVerif.Lemmas.SrcEquiv.SrcFullStack
import RenetVerif.Props.C20F
set_option maxRecDepth 100000
namespace RenetVerif.SrcPropsFullStack
open RenetVerif C RenetVerif.System RenetVerif.Netcode RenetVerif.Transport RenetVerif.FullStack
open RenetVerif.SrcEquiv RenetVerif.SrcSystem RenetVerif.SrcMulti RenetVerif.SrcFullStack

/-- **The composition, generated code** (`FullStack.full_stack` carried along `SrcFullStack.frun_sim_conv`): after every run of the
    generated full stack from (the representation of) an established session, the three channel guarantees hold of the generated
    ghost logs in both directions.  The theorems below are its components. -/
theorem src_full_stack {a : AEAD} (hl : a.Laws) {cfg : Cfg} {cid : Nat} {fs0 : FS} {g0 g : GFS} {ops : List FSOp}
    (he : Established cfg cid fs0) (hgood : FSGood fs0) (hsim : SimFS fs0 g0) (hr : g0.run a cid ops = some g)
    (hok : FSRunOK a cid fs0 ops) (hnf : NoForgeryRunD a cid fs0 (ops.map cutOp))
    (hss : SingleSessionRun a cid fs0 (ops.map cutOp)) :
    (GCountersUp cfg g → Guarantees cfg g.subC g.subCU g.obtS) ∧
    (GCountersDown cfg g → Guarantees (Cfg.swap cfg) g.subS g.subSU g.obtC) := by
  obtain ⟨fs, hm, sim, -⟩ := frun_sim_conv a hl cid ops fs0 g0 g hgood hsim hok hr
  have h := full_stack hl he.toRenetFresh hm (runOK_of (noForgery_of_D he hss hnf) hss)
  rw [funext sim.subC, funext sim.subCU, funext sim.obtS, funext sim.subS, funext sim.subSU, funext sim.obtC]
  exact ⟨fun hc => (h.1 (countersUp_of_sim sim hc)).onNats, fun hc => (h.2 (countersDown_of_sim sim hc)).onNats⟩

/-- **C01 over the full stack, generated code.**  After every run of the generated full stack from (the representation of)
    an established session: on every ReliableOrdered client → server channel the messages the generated `RenetServer` handed
    to the server's application for this client are a prefix of what the client's application submitted to the generated
    `RenetClient`, and the same for every ReliableOrdered server → client channel; whatever the adversary puts into the
    sockets. -/
theorem src_full_stack_ordered_prefix (a : AEAD) (hl : a.Laws) (cfg : Cfg) (cid : Nat) (fs0 : FS) (g0 g : GFS) (ops : List FSOp)
    (he : Established cfg cid fs0) (hgood : FSGood fs0) (hsim : SimFS fs0 g0) (hr : g0.run a cid ops = some g)
    (hok : FSRunOK a cid fs0 ops) (hnf : NoForgeryRunD a cid fs0 (ops.map cutOp))
    (hss : SingleSessionRun a cid fs0 (ops.map cutOp)) :
    (GCountersUp cfg g → ∀ ch, cfg.Ordered ch → g.obtS ch <+: g.subC ch) ∧
    (GCountersDown cfg g → ∀ ch, (Cfg.swap cfg).Ordered ch → g.obtC ch <+: g.subS ch) :=
  let h := src_full_stack hl he hgood hsim hr hok hnf hss
  ⟨fun hc => (h.1 hc).1, fun hc => (h.2 hc).1⟩

/-- the same at every intermediate moment of a longer generated run -/
theorem src_full_stack_ordered_prefix_always (a : AEAD) (hl : a.Laws) (cfg : Cfg) (cid : Nat) (fs0 : FS) (g0 g1 : GFS)
    (ops1 ops2 : List FSOp) (he : Established cfg cid fs0) (hgood : FSGood fs0) (hsim : SimFS fs0 g0)
    (hr1 : g0.run a cid ops1 = some g1) (hok : FSRunOK a cid fs0 ops1)
    (hnf : NoForgeryRunD a cid fs0 ((ops1 ++ ops2).map cutOp)) (hss : SingleSessionRun a cid fs0 ((ops1 ++ ops2).map cutOp)) :
    (GCountersUp cfg g1 → ∀ ch, cfg.Ordered ch → g1.obtS ch <+: g1.subC ch) ∧
    (GCountersDown cfg g1 → ∀ ch, (Cfg.swap cfg).Ordered ch → g1.obtC ch <+: g1.subS ch) := by
  rw [List.map_append] at hnf hss
  exact src_full_stack_ordered_prefix a hl cfg cid fs0 g0 g1 ops1 he hgood hsim hr1 hok
    (runNFD_prefix a cid _ _ fs0 hnf) (runSS_prefix a cid _ _ fs0 hss)

/-- **C02 over the full stack, generated code.**  On every ReliableUnordered channel, in either direction, the obtained
    messages are the submitted messages at pairwise distinct positions of the submission log. -/
theorem src_full_stack_unordered_once (a : AEAD) (hl : a.Laws) (cfg : Cfg) (cid : Nat) (fs0 : FS) (g0 g : GFS) (ops : List FSOp)
    (he : Established cfg cid fs0) (hgood : FSGood fs0) (hsim : SimFS fs0 g0) (hr : g0.run a cid ops = some g)
    (hok : FSRunOK a cid fs0 ops) (hnf : NoForgeryRunD a cid fs0 (ops.map cutOp))
    (hss : SingleSessionRun a cid fs0 (ops.map cutOp)) :
    (GCountersUp cfg g → ∀ ch, cfg.Unordered ch →
      ∃ ids : List Nat, ids.Nodup ∧ (g.obtS ch).map some = ids.map (fun id => (g.subC ch)[id]?)) ∧
    (GCountersDown cfg g → ∀ ch, (Cfg.swap cfg).Unordered ch →
      ∃ ids : List Nat, ids.Nodup ∧ (g.obtC ch).map some = ids.map (fun id => (g.subS ch)[id]?)) :=
  let h := src_full_stack hl he hgood hsim hr hok hnf hss
  ⟨fun hc => (h.1 hc).2.1, fun hc => (h.2 hc).2.1⟩

/-- **C03 over the full stack, generated code.**  Every message either application obtains was submitted by the peer's
    application on that channel, byte for byte (reliable kinds: accepted by the channel; Unreliable: passed to
    `send_message`). -/
theorem src_full_stack_integrity (a : AEAD) (hl : a.Laws) (cfg : Cfg) (cid : Nat) (fs0 : FS) (g0 g : GFS) (ops : List FSOp)
    (he : Established cfg cid fs0) (hgood : FSGood fs0) (hsim : SimFS fs0 g0) (hr : g0.run a cid ops = some g)
    (hok : FSRunOK a cid fs0 ops) (hnf : NoForgeryRunD a cid fs0 (ops.map cutOp))
    (hss : SingleSessionRun a cid fs0 (ops.map cutOp)) :
    (GCountersUp cfg g →
      (∀ ch, cfg.Ordered ch ∨ cfg.Unordered ch → ∀ x ∈ g.obtS ch, x ∈ g.subC ch) ∧
      (∀ ch, cfg.Unreliable ch → ∀ x ∈ g.obtS ch, x ∈ g.subCU ch)) ∧
    (GCountersDown cfg g →
      (∀ ch, (Cfg.swap cfg).Ordered ch ∨ (Cfg.swap cfg).Unordered ch → ∀ x ∈ g.obtC ch, x ∈ g.subS ch) ∧
      (∀ ch, (Cfg.swap cfg).Unreliable ch → ∀ x ∈ g.obtC ch, x ∈ g.subSU ch)) :=
  let h := src_full_stack hl he hgood hsim hr hok hnf hss
  ⟨fun hc => (h.1 hc).integrity, fun hc => (h.2 hc).integrity⟩

theorem noDead_disconnectionsId {rs : Server} (hs : SL.SMap.Sorted rs.conns) (h : GI.NoDead rs) : rs.disconnectionsId = [] := by
  unfold Server.disconnectionsId
  have : rs.conns.filter (·.2.isDisconnected) = [] := by
    apply List.filter_eq_nil_iff.mpr
    intro x hx
    have hs' : SI.Sorted rs.conns := List.pairwise_map.mp hs
    have := h x.1 x.2 (SI.mem_find?_of_sorted (m := rs.conns) hs' hx)
    simp [this]
  rw [this]; rfl

/-- **C20 lock-step, generated code.**  If the model glue state the generated state represents is in lock-step (`GI.LockStep`:
    the renet table and the netcode slot table hold the same ids), then after the generated `NetcodeServerTransport::update` —
    whatever the adversary queued — the generated `NetcodeServer::clients_id` returns a duplicate-free list `ids`, the generated
    `RenetServer`'s connection table has exactly those keys, and `RenetServer::disconnections_id` is empty.
    (`SrvUpdateOk`: the decidable local condition of this one call, `SrcTieTrLocal.lean`.) -/
theorem src_update_lockstep (a : AEAD) (cid : Nat) (fs : FS) (g g' : GFS) (hg : FSGood fs) (sim : SimFS fs g)
    (hlaws : a.Laws) (hl : GI.LockStep fs.s) (d : Nat) (inbox : List Dgram) (hin : inbox.length + 1 < 2 ^ 64)
    (hloc : SrvUpdateOk a fs.s d (inbox.map (recvFrom C.TRANSPORT_SERVER_BUFFER)) #[])
    (hs : g.step a cid (.srvUpdate d inbox) = some g') :
    ∃ ids, (Src.renetcode.server.NetcodeServer.clients_id g'.ts.netcode_server : Res Empty _) = .ok ids ∧ ids.Nodup ∧
      (∀ id, RustSem.Map.contains_key g'.rs.connections id = true ↔ id ∈ ids) ∧
      (Src.renet.server.RenetServer.disconnections_id g'.rs : Res Empty _) = .ok [] := by
  have hstep := fstep_sim_tr a cid hg sim (.srvUpdate d inbox)
    (opTie_of_local a hlaws hg (.srvUpdate d inbox) hin hloc) trivial
  cases hm : fs.step a cid (cutOp (.srvUpdate d inbox)) with
  | none => rw [hm] at hstep; rw [hstep] at hs; cases hs
  | some fs' =>
    rw [hm] at hstep
    obtain ⟨g'', e, sim', -⟩ := hstep
    rw [hs] at e; cases e
    cases FS.stepped hm with
    | @srvUpdate _ _ g1 _ hu =>
      obtain ⟨hl', hnd⟩ := C20.update_lockstep hu hl
      obtain ⟨rest, out, o, buf, -, -, hts⟩ := sim'.ts
      obtain ⟨mrss, hrs⟩ := sim'.rs
      refine ⟨g1.netcode.clientsId, ?_, hl'.nodup, fun id => ?_, ?_⟩
      · rw [hts]; exact SrcTie.nc_server_clients_id o g1.netcode
      · rw [hrs]
        have : RustSem.Map.contains_key (reprServer mrss g1.renet).connections id = SMap.contains g1.renet.conns id :=
          contains_reprConns mrss g1.renet.conns id
        rw [this]; exact hl'.sync id
      · rw [hrs, SrcTie.server_disconnections_id_key_order, noDead_disconnectionsId hl'.sorted hnd]

/-! ## non-vacuity: the generated full stack EVALUATED by the kernel on the sessions of `C20F`

  The start state is `gOf fs0`, the generated representation of the model state the handshake of `Props/C20.lean` leaves behind
  (toy AEAD).  The kernel runs the generated transports, the generated netcode (with `aeadOf toyAead`), the generated
  `RenetClient` / `RenetServer` through the whole schedule — replayed, corrupted, truncated, foreign and junk datagrams
  included — and the observations are read off the generated final state.  Then the theorems above are APPLIED to these runs: the side
  condition `FSRunOK` is decided by evaluation (`runOK`), `FSGood fs0` comes from the handshake (`Hs`), the run hypotheses
  from `C20F` (no datagram exceeds a receive buffer: `cut_ops`), the counters are evaluated on the generated final state. -/

/-! ### `FSGood` of the established session, through the handshake

  The model invariants hold of a fresh server glue (`exG0`) and a fresh client glue (`hsC0`); every transport `update` of the
  handshake keeps them (`srvUpdate_good` / `cliUpdate_good`: read off the local ties, the local condition of each call decided
  by evaluation). -/
namespace Hs
open RenetVerif.C20

theorem exNs0_inv : NS.ServerInv exNs0 := NS.EmptyServer.inv ⟨rfl, by decide, rfl, 2, by decide, rfl⟩

def SStepOk (g : ServerGlue) (d : Nat) (inbox : List Dgram) : Prop :=
  inbox.map (recvFrom C.TRANSPORT_SERVER_BUFFER) = inbox ∧ inbox.length + 1 < 2 ^ 64 ∧ SrvUpdateOk toyAead g d inbox #[]
def CStepOk (g : ClientGlue) (inbox : List Dgram) : Prop :=
  inbox.map (recvFrom C.TRANSPORT_CLIENT_BUFFER) = inbox ∧ inbox.length + 1 < 2 ^ 64 ∧ CliUpdateOk toyAead g inbox
instance (g : ServerGlue) (d : Nat) (inbox : List Dgram) : Decidable (SStepOk g d inbox) := by unfold SStepOk; infer_instance
instance (g : ClientGlue) (inbox : List Dgram) : Decidable (CStepOk g inbox) := by unfold CStepOk; infer_instance

theorem sstep_good {g : ServerGlue} {d : Nat} {inbox : List Dgram} (hok : SStepOk g d inbox)
    (h : NS.ServerInv g.netcode ∧ SGood g.renet) :
    NS.ServerInv (sstep g d inbox).1.netcode ∧ SGood (sstep g d inbox).1.renet := by
  obtain ⟨hcut, hin, hok⟩ := hok
  unfold sstep
  cases hm : serverUpdate toyAead g d inbox with
  | ok v =>
    obtain ⟨g', out⟩ := v
    exact srvUpdate_good toyAead toyAead_laws d inbox h.1 h.2 hin (by rw [hcut]; exact hok) (by rw [hcut]; exact hm)
  | err e => exact nomatch e
  | panic m => exact h

theorem cstep_good {g : ClientGlue} (d : Nat) {inbox : List Dgram} (hok : CStepOk g inbox)
    (h : CliInv g.netcode ∧ EpGood g.renet) :
    CliInv (cstep g d inbox).1.netcode ∧ EpGood (cstep g d inbox).1.renet := by
  obtain ⟨hcut, hin, hok⟩ := hok
  unfold cstep
  cases hm : clientUpdate toyAead g d inbox with
  | ok r =>
    exact cliUpdate_good toyAead toyAead_laws d inbox h.1 h.2 hin (by rw [hcut]; exact hok) (by rw [hcut]; exact hm)
  | err e => exact nomatch e
  | panic m => exact h

/-- every `update` of the handshake meets its side conditions, and the client starts from a fresh `RenetClient` and a netcode
    client within `CliInv`: the whole handshake in one kernel evaluation -/
theorem hs_ok :
    (hsC0.renet = Conn.fromChannels 60000 exChans exChans ∧ hsC0.netcode.connectToken.timeoutSeconds < 2 ^ 31 ∧
      hsC0.netcode.serverAddrIndex < C.NETCODE_TOKEN_MAX_ADDRESSES) ∧
    CStepOk hsC0 [] ∧ SStepOk exG0 1000 (up c1.2) ∧ CStepOk c1.1 (down s1.2) ∧ SStepOk s1.1 1000 (up c2.2) ∧
    CStepOk c2.1 (down s2.2) ∧ CStepOk c3.1 [] := by
  decide +kernel

theorem exG0_good : NS.ServerInv exG0.netcode ∧ SGood exG0.renet :=
  ⟨exNs0_inv, sgood_new ⟨60000, exChans, exChans⟩ ⟨by decide, by decide, by decide, by decide⟩⟩
theorem s1_good : NS.ServerInv s1.1.netcode ∧ SGood s1.1.renet := by
  unfold s1; exact sstep_good hs_ok.2.2.1 exG0_good
theorem s2_good : NS.ServerInv s2.1.netcode ∧ SGood s2.1.renet := by
  unfold s2; exact sstep_good hs_ok.2.2.2.2.1 s1_good

theorem hsC0_good : CliInv hsC0.netcode ∧ EpGood hsC0.renet := by
  obtain ⟨⟨e, h1, h2⟩, -⟩ := hs_ok
  refine ⟨⟨h1, Nat.le_of_lt h2, fun _ => h2⟩, ?_⟩
  rw [e]; exact epGood_fromChannels _ _ _
theorem c1_good : CliInv c1.1.netcode ∧ EpGood c1.1.renet := by
  unfold c1; exact cstep_good 1000 hs_ok.2.1 hsC0_good
theorem c2_good : CliInv c2.1.netcode ∧ EpGood c2.1.renet := by
  unfold c2; exact cstep_good 1000 hs_ok.2.2.2.1 c1_good
theorem c3_good : CliInv c3.1.netcode ∧ EpGood c3.1.renet := by
  unfold c3; exact cstep_good 1000 hs_ok.2.2.2.2.2.1 c2_good
theorem c4_good : CliInv C20F.Ex.c4.netcode ∧ EpGood C20F.Ex.c4.renet := by
  rw [C20F.Ex.c4]; exact cstep_good 1000 hs_ok.2.2.2.2.2.2 c3_good

/-- stated for variables, so that applying it to the handshake's states compares no evaluated state -/
theorem fsGood_start {c : ClientGlue} {s : ServerGlue} (hc : CliInv c.netcode ∧ EpGood c.renet)
    (hs : NS.ServerInv s.netcode ∧ SGood s.renet) : FSGood (FS.start c s) :=
  ⟨hc.2, hs.2, hc.1, hs.1⟩

theorem fsGood_start_mk {nc : NetcodeClient} {rc : Conn} {ns : NetcodeServer} {rs : Server} (hnc : CliInv nc)
    (hrc : EpGood rc) (hns : NS.ServerInv ns) (hrs : SGood rs) : FSGood (FS.start ⟨nc, rc⟩ ⟨ns, rs⟩) :=
  fsGood_start ⟨hnc, hrc⟩ ⟨hns, hrs⟩

end Hs

namespace Ex
abbrev fs0 := C20F.Ex.fs0
abbrev ops := C20F.Ex.ops

def gfin : GFS := ((gOf fs0).run toyAead 7 ops).getD (gOf fs0)

/-- **the local condition on a LIVE session with pending acks, across several flushes.**  After the run both endpoints are
    connected and hold pending acks; three more `send_packets` of the client and two of the server (each emits an ack packet:
    `packet_sequence` grows by one per flush and the pending acks stay) and a further `update` on both sides satisfy the side
    condition — whereas no `RangeClosed` predicate holds of these connections (`SrcTieTrLocal.lean`). -/
def flushes : List FSOp :=
  [.cliSendPackets, .cliSendPackets, .cliSendPackets, .srvSendPackets, .srvSendPackets, .srvUpdate 1000 [], .cliUpdate 1000 []]

/-- everything the applications below need, from the generated run: it returns normally; what the
    generated code did — exactly the observations of `C20F.Ex.all`: `[1,2,3]` and `[7,7]` obtained once each by the server's
    application in spite of replay, corruption, truncation and junk; `[9,9]` obtained once by the client's; three datagrams
    emitted by the client, two by the server — and the generated final logs are those of the model run; the side condition of
    the run (the session is LIVE and has pending acks on both sides); no datagram of the run is longer than a receive buffer;
    the counter hypotheses on the generated final state; and the run continued by `flushes`, in the model and in the
    generated code.  The scenario is unfolded down to `C20F.Ex.fs0` so that the kernel starts from the written-out end of the
    handshake (`C20F.Ex.fs0_eq`). -/
theorem all :
    ((gOf fs0).run toyAead 7 ops).isSome = true ∧
    ((gfin.subC 1 = [[1, 2, 3]] ∧ gfin.obtS 1 = [[1, 2, 3]] ∧ gfin.subCU 0 = [[7, 7]] ∧ gfin.obtS 0 = [[7, 7]] ∧
      gfin.subS 1 = [[9, 9]] ∧ gfin.obtC 1 = [[9, 9]] ∧ gfin.emC.length = 3 ∧ gfin.emS.length = 2) ∧
    (gfin.emC = C20F.Ex.fin.emC.map reprDgram ∧ gfin.emS = C20F.Ex.fin.emS.map reprDgram ∧
      gfin.ySeq = C20F.Ex.fin.ySeq ∧ gfin.rc.packet_sequence = C20F.Ex.fin.c.renet.packetSeq)) ∧
    FSRunOK toyAead 7 fs0 ops ∧ FSRunInRange toyAead 7 fs0 ops ∧ ops.map cutOp = ops ∧
    (GCountersUp C20F.Ex.cfg gfin ∧ GCountersDown C20F.Ex.cfg gfin) ∧
    (FSRunOK toyAead 7 fs0 (ops ++ flushes) ∧
      (C20F.Ex.fin.c.renet.isDisconnected = false ∧ C20F.Ex.fin.c.renet.pendingAcks ≠ [] ∧
        (SMap.find? C20F.Ex.fin.s.renet.conns 7).map (fun y => (y.isDisconnected, y.pendingAcks.isEmpty)) = some (false, false)) ∧
      ((C20F.Ex.fin.run toyAead 7 flushes).map (fun fs => (fs.c.renet.packetSeq, fs.c.renet.pendingAcks.isEmpty, fs.emC.length)) =
        some (C20F.Ex.fin.c.renet.packetSeq + 3, false, C20F.Ex.fin.emC.length + 3)) ∧
      ((gfin.run toyAead 7 flushes).map (fun g => (g.rc.packet_sequence, g.emC.length, g.emS.length)) =
        some (gfin.rc.packet_sequence + 3, gfin.emC.length + 3, gfin.emS.length + 2))) := by
  rw [gfin, fs0, ops, C20F.Ex.fin, C20F.Ex.ops, C20F.Ex.ops3, C20F.Ex.inboxC, C20F.Ex.down, C20F.Ex.st2, C20F.Ex.ops2,
    C20F.Ex.inboxS, C20F.Ex.up, C20F.Ex.st1, C20F.Ex.ops1, C20F.Ex.fs0_eq]
  decide +kernel

theorem grun : (gOf fs0).run toyAead 7 ops = some gfin := some_getD all.1 _
theorem gfacts :
    (gfin.subC 1 = [[1, 2, 3]] ∧ gfin.obtS 1 = [[1, 2, 3]] ∧ gfin.subCU 0 = [[7, 7]] ∧ gfin.obtS 0 = [[7, 7]] ∧
      gfin.subS 1 = [[9, 9]] ∧ gfin.obtC 1 = [[9, 9]] ∧ gfin.emC.length = 3 ∧ gfin.emS.length = 2) ∧
    (gfin.emC = C20F.Ex.fin.emC.map reprDgram ∧ gfin.emS = C20F.Ex.fin.emS.map reprDgram ∧
      gfin.ySeq = C20F.Ex.fin.ySeq ∧ gfin.rc.packet_sequence = C20F.Ex.fin.c.renet.packetSeq) := all.2.1
theorem runOK : FSRunOK toyAead 7 fs0 ops := all.2.2.1
theorem inRange : FSRunInRange toyAead 7 fs0 ops := all.2.2.2.1

theorem fs0_good : FSGood fs0 := Hs.fsGood_start Hs.c4_good Hs.s2_good
theorem cut_ops : ops.map cutOp = ops := all.2.2.2.2.1
theorem gcounters : GCountersUp C20F.Ex.cfg gfin ∧ GCountersDown C20F.Ex.cfg gfin := all.2.2.2.2.2.1

example : gfin.obtS 1 <+: gfin.subC 1 ∧ gfin.obtC 1 <+: gfin.subS 1 :=
  let h := src_full_stack_ordered_prefix toyAead toyAead_laws C20F.Ex.cfg 7 fs0 (gOf fs0) gfin ops C20F.Ex.fs0_established fs0_good
    (simFS_gOf fs0) grun runOK (by rw [cut_ops]; exact C20F.Ex.noForgery) (by rw [cut_ops]; exact C20F.Ex.singleSession)
  ⟨h.1 gcounters.1 1 C20F.Ex.ordered1, h.2 gcounters.2 1 C20F.Ex.ordered1'⟩
example : ∀ x ∈ gfin.obtS 0, x ∈ gfin.subCU 0 :=
  ((src_full_stack_integrity toyAead toyAead_laws C20F.Ex.cfg 7 fs0 (gOf fs0) gfin ops C20F.Ex.fs0_established fs0_good
    (simFS_gOf fs0) grun runOK (by rw [cut_ops]; exact C20F.Ex.noForgery) (by rw [cut_ops]; exact C20F.Ex.singleSession)).1
    gcounters.1).2 0 C20F.Ex.unreliable0

example : FSRunOK toyAead 7 fs0 (ops ++ flushes) ∧
    (C20F.Ex.fin.c.renet.isDisconnected = false ∧ C20F.Ex.fin.c.renet.pendingAcks ≠ [] ∧
      (SMap.find? C20F.Ex.fin.s.renet.conns 7).map (fun y => (y.isDisconnected, y.pendingAcks.isEmpty)) = some (false, false)) ∧
    ((C20F.Ex.fin.run toyAead 7 flushes).map (fun fs => (fs.c.renet.packetSeq, fs.c.renet.pendingAcks.isEmpty, fs.emC.length)) =
      some (C20F.Ex.fin.c.renet.packetSeq + 3, false, C20F.Ex.fin.emC.length + 3)) ∧
    ((gfin.run toyAead 7 flushes).map (fun g => (g.rc.packet_sequence, g.emC.length, g.emS.length)) =
      some (gfin.rc.packet_sequence + 3, gfin.emC.length + 3, gfin.emS.length + 2)) :=
  all.2.2.2.2.2.2

example : gfin.obtS 1 <+: gfin.subC 1 ∧ gfin.obtC 1 <+: gfin.subS 1 ∧ (∀ x ∈ gfin.obtS 0, x ∈ gfin.subCU 0) := by
  obtain ⟨⟨h1, h2, h3, h4, h5, h6, -⟩, -⟩ := gfacts
  rw [h1, h2, h3, h4, h5, h6]
  exact ⟨List.prefix_refl _, List.prefix_refl _, fun x hx => hx⟩

end Ex

namespace ExU
abbrev fs0 := C20F.ExU.fs0
abbrev ops := C20F.ExU.ops

def gfin : GFS := ((gOf fs0).run toyAead 7 ops).getD (gOf fs0)
/-- ReliableUnordered both ways, datagrams delivered out of order, replayed and corrupted: each message exactly once; with
    the side conditions of the run and the counters, in one kernel evaluation -/
theorem all :
    ((gOf fs0).run toyAead 7 ops).isSome = true ∧
    (gfin.subC 2 = [[1], [2]] ∧ gfin.obtS 2 = [[2], [1]] ∧ gfin.subS 2 = [[8], [9]] ∧ gfin.obtC 2 = [[9], [8]]) ∧
    FSRunOK toyAead 7 fs0 ops ∧ FSRunInRange toyAead 7 fs0 ops ∧ ops.map cutOp = ops ∧
    (GCountersUp C20F.ExU.cfg gfin ∧ GCountersDown C20F.ExU.cfg gfin) := by
  rw [gfin, fs0, ops, C20F.ExU.ops, C20F.ExU.ops2, C20F.ExU.dU, C20F.ExU.dU, C20F.ExU.dD, C20F.ExU.dD, C20F.ExU.st1,
    C20F.ExU.ops1, C20F.ExU.fs0_eq]
  decide +kernel

theorem grun : (gOf fs0).run toyAead 7 ops = some gfin := some_getD all.1 _
theorem gfacts : gfin.subC 2 = [[1], [2]] ∧ gfin.obtS 2 = [[2], [1]] ∧ gfin.subS 2 = [[8], [9]] ∧ gfin.obtC 2 = [[9], [8]] :=
  all.2.1
theorem inRange : FSRunInRange toyAead 7 fs0 ops := all.2.2.2.1
theorem runOK : FSRunOK toyAead 7 fs0 ops := all.2.2.1
theorem fs0_good : FSGood fs0 :=
  Hs.fsGood_start_mk Hs.c4_good.1 (epGood_fromChannels _ _ _).setConnected Hs.s2_good.1
    ((sgood_new ⟨60000, C20F.ExU.chans, C20F.ExU.chans⟩ ⟨by decide, by decide, by decide, by decide⟩).addConnection 7)
theorem cut_ops : ops.map cutOp = ops := all.2.2.2.2.1
theorem gcounters : GCountersUp C20F.ExU.cfg gfin ∧ GCountersDown C20F.ExU.cfg gfin := all.2.2.2.2.2

example : (∃ ids : List Nat, ids.Nodup ∧ (gfin.obtS 2).map some = ids.map (fun id => (gfin.subC 2)[id]?)) ∧
    (∃ ids : List Nat, ids.Nodup ∧ (gfin.obtC 2).map some = ids.map (fun id => (gfin.subS 2)[id]?)) :=
  let h := src_full_stack_unordered_once toyAead toyAead_laws C20F.ExU.cfg 7 fs0 (gOf fs0) gfin ops C20F.ExU.fs0_established fs0_good
    (simFS_gOf fs0) grun runOK (by rw [cut_ops]; exact C20F.ExU.noForgery) (by rw [cut_ops]; exact C20F.ExU.singleSession)
  ⟨h.1 gcounters.1 2 C20F.ExU.unordered2, h.2 gcounters.2 2 C20F.ExU.unordered2⟩

example : (∃ ids : List Nat, ids.Nodup ∧ (gfin.obtS 2).map some = ids.map (fun id => (gfin.subC 2)[id]?)) ∧
    (∃ ids : List Nat, ids.Nodup ∧ (gfin.obtC 2).map some = ids.map (fun id => (gfin.subS 2)[id]?)) := by
  obtain ⟨h1, h2, h3, h4⟩ := gfacts
  rw [h1, h2, h3, h4]
  exact ⟨⟨[1, 0], by decide, by decide⟩, ⟨[1, 0], by decide, by decide⟩⟩

end ExU

end RenetVerif.SrcPropsFullStack
