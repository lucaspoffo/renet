/-
  Source tie, group NcSequence: `renetcode/src/packet.rs` `write_sequence` (calls `sequence_bytes_required` of group
  Prefix) over the `io::Cursor` write model ↔ `Packet.writeSequence` of `Netcode/Wire.lean`.
  (`wcur`, `WrOk`: see `Props/SrcTieNcSerialize.lean`.)
-/
import RenetVerif.Lemmas.SrcEquiv.NcSequence
namespace RenetVerif.SrcTie
open RenetVerif RenetVerif.SrcEquiv RenetVerif.RustSem Netcode

open Src.renetcode.packet in
/-- `write_sequence(out, seq)` ↔ `Packet.writeSequence` (a short write is not an error): never panics -/
theorem nc_write_sequence (w : Wr) (tail : List Nat) (h : WrOk w tail) (seq : Nat) :
    Src.renetcode.packet.write_sequence (wcur w tail) seq =
      .ok (wcur (Packet.writeSequence w seq).1 (tail.drop (Packet.writeSequence w seq).2), (Packet.writeSequence w seq).2) := by
  unfold write_sequence Packet.writeSequence
  have hb := NcAead.Packet.sbr_le seq
  simp only [sequence_bytes_required, Exec.call_ok, Exec.bind_eq, Exec.bind_val', Exec.pure_eq, to_le_bytes64]
  have hsl : (RustSem.slice (toNats (Netcode.leBytes seq 8)) 0 (Packet.sequenceBytesRequired seq)
      "renetcode/src/packet.rs:write_sequence: sequence_scratch[..len]" :
        Exec (IoError × WriteCursor) (WriteCursor × Nat) (List Nat)) = .val (toNats ((Netcode.leBytes seq 8).take (Packet.sequenceBytesRequired seq))) := by
    unfold RustSem.slice
    have hl8 : (toNats (Netcode.leBytes seq 8)).length = 8 := by rw [toNats_length, NcAead.leBytes_length]
    rw [if_pos ⟨Nat.zero_le _, by omega⟩]
    simp [toNats, List.map_take]
  rw [hsl, Exec.bind_val', (wcur_write h _).1]
  rfl

example : Src.renetcode.packet.write_sequence (WriteCursor.new [0, 0, 0, 0]) 0x1234 = .ok (⟨[0x34, 0x12, 0, 0], 2⟩, 2) := by
  decide +kernel
/-- short write: one byte of room for a two-byte sequence -/
example : Src.renetcode.packet.write_sequence ⟨[7, 0], 1⟩ 0x1234 = .ok (⟨[7, 0x34], 2⟩, 1) := by decide +kernel

end RenetVerif.SrcTie
