/-
  What the operations of the reliable receive channel (and `process_slice` of the unreliable one) do, stated once and without any invariant: `process_message`,
  `process_slice` and `receive_message` of the reliable channel as equations / exact return conditions over a few named
  state changes (`push`, `pop`, `reserveStep`, `sliceStep`), `process_slice` of the unreliable channel likewise; `Cursory`: what holds of the delivery cursor across `process_message` and `process_slice`.  The invariants of Lemmas/RecvInv (any traffic),
  Lemmas/DataPath (genuine traffic) and Lemmas/Liveness (lossless rounds) are case analyses of these.
-/
import RenetVerif.Renet.Conn
import RenetVerif.Lemmas.ResMonad
namespace RenetVerif
open C

namespace Live

/-- message `id` has completely arrived at the receive channel: it is waiting in the queue or has already been
    handed to the application -/
def Have (r : RecvRel) (id : Nat) : Prop :=
  id < r.oldest ∨ (if r.ordered = true then SMap.contains r.messages id = true else id ∈ r.received)

instance (r : RecvRel) (id : Nat) : Decidable (Have r id) := by unfold Have; infer_instance

/-- the messages waiting in the queue are known to have arrived (automatic on an ordered channel) -/
def MsgsHave (r : RecvRel) : Prop := ∀ id, SMap.contains r.messages id = true → Have r id

theorem msgsHave_of_pending {r : RecvRel}
    (h : r.ordered = false → ∀ k, SMap.contains r.messages k = true → k < r.oldest ∨ k ∈ r.received) : MsgsHave r := by
  intro id hc
  cases ho : r.ordered with
  | true => exact Or.inr (by rw [if_pos ho]; exact hc)
  | false => exact (h ho id hc).imp_right fun hr => by rw [if_neg (by simp [ho])]; exact hr

end Live

namespace RecvRel
open Live

def push (r : RecvRel) (id : Nat) (m : Bytes) : RecvRel :=
  { r with mem := r.mem + m.length, received := if r.ordered = true then r.received else id :: r.received,
           messages := SMap.insert r.messages id m }

theorem processMessage_eq (r : RecvRel) (m : Bytes) (id : Nat) :
    r.processMessage m id = if Have r id then .ok r else
      if r.mem + m.length > r.maxMem then .err (.maxMemory, r) else .ok (r.push id m) := by
  unfold RecvRel.processMessage push
  by_cases h1 : id < r.oldest
  · rw [if_pos h1, if_pos (show Have r id from Or.inl h1)]
  · by_cases ho : r.ordered = true
    · simp only [Have, if_pos ho, h1, false_or, ↓reduceIte]
    · simp only [Have, if_neg ho, h1, false_or, ↓reduceIte, List.contains_iff_mem]

/-- the entry `receive_message` hands over next: the one under the cursor (ordered), the first of the queue (unordered) -/
def next (r : RecvRel) : Option (Nat × Bytes) :=
  if r.ordered = true then (SMap.find? r.messages r.oldest).map (r.oldest, ·) else r.messages.head?

/-- cursor and remembered ids after entry `id` has been handed over -/
def popCursor (r : RecvRel) (id : Nat) : Nat × List Nat :=
  if r.ordered = true then (r.oldest + 1, r.received)
  else if r.oldest = id then advanceOldest r.received.length r.oldest r.received else (r.oldest, r.received)

def pop (r : RecvRel) (id : Nat) (m : Bytes) : RecvRel :=
  { r with messages := SMap.erase r.messages id, oldest := (r.popCursor id).1, received := (r.popCursor id).2,
           mem := r.mem - m.length }

/-- `receive_message` returns exactly when nothing is due, or the due entry is covered by the memory counter -/
theorem receive_ok_iff {r r' : RecvRel} {out : Option Bytes} :
    r.receive = .ok (r', out) ↔
      (r.next = none ∧ r' = r ∧ out = none) ∨
      ∃ id m, r.next = some (id, m) ∧ m.length ≤ r.mem ∧ r' = r.pop id m ∧ out = some m := by
  unfold RecvRel.receive next pop popCursor
  by_cases ho : r.ordered = true
  · simp only [if_pos ho]
    cases hf : SMap.find? r.messages r.oldest with
    | none => simp [eq_comm]
    | some m =>
      by_cases hm : m.length ≤ r.mem
      · simp [Res.csub, hm, eq_comm]; grind
      · simp [Res.csub, hm]
  · simp only [if_neg ho]
    cases hq : r.messages with
    | nil => simp [eq_comm]
    | cons p rest =>
      obtain ⟨id, m⟩ := p
      simp only [List.head?_cons, Option.some.injEq, Prod.mk.injEq, reduceCtorEq, false_and, false_or]
      constructor
      · intro h
        refine ⟨id, m, ⟨rfl, rfl⟩, ?_⟩
        revert h
        generalize (if r.oldest = id then advanceOldest r.received.length r.oldest r.received
          else (r.oldest, r.received)) = q
        obtain ⟨o, rec⟩ := q
        unfold Res.csub
        split
        · intro h; cases h; exact ⟨‹_›, by simp [SMap.erase], rfl⟩
        · intro h; cases h
      · rintro ⟨_, _, ⟨rfl, rfl⟩, hm, rfl, rfl⟩
        generalize (if r.oldest = id then advanceOldest r.received.length r.oldest r.received
          else (r.oldest, r.received)) = q
        obtain ⟨o, rec⟩ := q
        simp [Res.csub, hm, SMap.erase]

theorem next_find {r : RecvRel} {id : Nat} {m : Bytes} (h : r.next = some (id, m)) : SMap.find? r.messages id = some m := by
  unfold next at h
  split at h
  · cases hf : SMap.find? r.messages r.oldest with
    | none => rw [hf] at h; cases h
    | some x => rw [hf] at h; cases h; exact hf
  · cases hq : r.messages with
    | nil => rw [hq] at h; cases h
    | cons p rest => rw [hq] at h; cases h; simp [SMap.find?]

theorem advanceOldest_spec (f o : Nat) (rec : List Nat) :
    o ≤ (advanceOldest f o rec).1 ∧
    ∀ k, (k < (advanceOldest f o rec).1 ∨ k ∈ (advanceOldest f o rec).2) ↔ (k < o ∨ k ∈ rec) := by
  induction f generalizing o rec with
  | zero => exact ⟨Nat.le_refl _, fun k => Iff.rfl⟩
  | succ f ih =>
    simp only [advanceOldest]
    split
    · rename_i hc
      obtain ⟨h1, h2⟩ := ih (o + 1) (rec.erase o)
      refine ⟨by omega, fun k => (h2 k).trans ?_⟩
      by_cases hko : k = o
      · subst hko; simpa using hc
      · rw [List.mem_erase_of_ne hko]
        exact or_congr_left ⟨fun h => by omega, fun h => by omega⟩
    · exact ⟨Nat.le_refl _, fun k => Iff.rfl⟩

/-- the delivery cursor only moves forward, and remembered ids are only forgotten below the cursor -/
def Keeps (r r' : RecvRel) : Prop :=
  r'.ordered = r.ordered ∧ r.oldest ≤ r'.oldest ∧ ∀ k ∈ r.received, k < r'.oldest ∨ k ∈ r'.received

theorem pop_keeps (r : RecvRel) (id : Nat) (m : Bytes) : r.Keeps (r.pop id m) := by
  refine ⟨rfl, ?_⟩
  show r.oldest ≤ (r.popCursor id).1 ∧ ∀ k ∈ r.received, k < (r.popCursor id).1 ∨ k ∈ (r.popCursor id).2
  unfold popCursor
  split
  · exact ⟨Nat.le_succ _, fun k hk => Or.inr hk⟩
  · split
    · exact ⟨(advanceOldest_spec _ _ _).1, fun k hk => ((advanceOldest_spec _ _ _).2 k).mpr (Or.inr hk)⟩
    · exact ⟨Nat.le_refl _, fun k hk => Or.inr hk⟩

theorem pop_unord {r : RecvRel} {id : Nat} {m : Bytes} (ho : r.ordered = false) (h : r.next = some (id, m)) :
    r.messages = (id, m) :: (r.pop id m).messages ∧ ∀ j, Have (r.pop id m) j ↔ Have r j := by
  unfold next at h
  rw [if_neg (by simp [ho])] at h
  cases hq : r.messages with
  | nil => rw [hq] at h; cases h
  | cons p rest =>
    rw [hq] at h; cases h
    refine ⟨by simp [pop, hq, SMap.erase], fun j => ?_⟩
    show (j < (r.popCursor id).1 ∨ if r.ordered = true then _ else j ∈ (r.popCursor id).2) ↔
      (j < r.oldest ∨ if r.ordered = true then _ else j ∈ r.received)
    unfold popCursor
    simp only [ho, Bool.false_eq_true, if_false]
    split
    · exact (advanceOldest_spec _ _ _).2 j
    · exact Iff.rfl

theorem next_lt_pop {r : RecvRel} {id : Nat} {m : Bytes} (ho : r.ordered = true) (h : r.next = some (id, m)) :
    id < (r.pop id m).oldest := by
  unfold next at h
  rw [if_pos ho] at h
  cases hf : SMap.find? r.messages r.oldest with
  | none => rw [hf] at h; cases h
  | some x =>
    rw [hf] at h; cases h
    show r.oldest < (r.popCursor r.oldest).1
    unfold popCursor
    rw [if_pos ho]
    exact Nat.lt_succ_self _

theorem next_ord {r : RecvRel} (ho : r.ordered = true) :
    r.next = (SMap.find? r.messages r.oldest).map (r.oldest, ·) ∧ ∀ id m, (r.pop id m).oldest = r.oldest + 1 :=
  ⟨by rw [next, if_pos ho], fun id m => by simp [pop, popCursor, ho]⟩

/-- first half of `process_slice`: reserve memory and create the constructor when the message id is new -/
def reserveStep (r : RecvRel) (sl : Slice) : RecvRelRes :=
  if SMap.contains r.slices sl.messageId then (pure r : RecvRelRes) else
    let len := sl.numSlices * SLICE_SIZE
    if r.mem + len > r.maxMem then Res.err (ChanErr.maxMemory, r)
    else pure { r with mem := r.mem + len, slices := SMap.insert r.slices sl.messageId (SliceCtor.new sl.numSlices) }

theorem reserveStep_cases (r : RecvRel) (sl : Slice) :
    (SMap.contains r.slices sl.messageId = true ∧ r.reserveStep sl = .ok r) ∨
    (¬ SMap.contains r.slices sl.messageId = true ∧
      ((r.mem + sl.numSlices * SLICE_SIZE > r.maxMem ∧ r.reserveStep sl = .err (.maxMemory, r)) ∨
       (r.mem + sl.numSlices * SLICE_SIZE ≤ r.maxMem ∧ r.reserveStep sl =
          .ok { r with mem := r.mem + sl.numSlices * SLICE_SIZE,
                       slices := SMap.insert r.slices sl.messageId (SliceCtor.new sl.numSlices) }))) := by
  unfold RecvRel.reserveStep
  by_cases hc : SMap.contains r.slices sl.messageId = true
  · rw [if_pos hc]; exact Or.inl ⟨hc, rfl⟩
  · rw [if_neg hc]
    dsimp only
    by_cases hm : r.mem + sl.numSlices * SLICE_SIZE > r.maxMem
    · rw [if_pos hm]; exact Or.inr ⟨hc, Or.inl ⟨hm, rfl⟩⟩
    · rw [if_neg hm]; exact Or.inr ⟨hc, Or.inr ⟨by omega, rfl⟩⟩

/-- second half: feed the slice to the constructor, which exists at this point -/
def sliceStep (r : RecvRel) (sl : Slice) : RecvRelRes :=
  match SMap.find? r.slices sl.messageId with
  | none => .panic "unreachable: constructor just inserted"
  | some c =>
    if c.numSlices ≠ sl.numSlices then .err (.invalidSlice, r) else
    match c.processSlice sl.sliceIndex sl.payload with
    | .panic s => .panic s
    | .err e => .err (e, r)
    | .ok (c', none) => pure { r with slices := SMap.insert r.slices sl.messageId c' }
    | .ok (c', some m) => do
      let mem ← Res.csub r.mem (c.numSlices * SLICE_SIZE) "reliable.rs memory_usage_bytes -= num_slices * SLICE_SIZE"
      let r := { r with mem := mem, slices := SMap.insert r.slices sl.messageId c' }
      let r ← r.processMessage m sl.messageId
      pure { r with slices := SMap.erase r.slices sl.messageId }

theorem ite_bind {ε α β : Type} (c : Prop) [Decidable c] (x y : Res ε α) (f : α → Res ε β) :
    (if c then x else y) >>= f = if c then x >>= f else y >>= f := by
  split <;> rfl

/-- the model binds the rest of the function in each branch of the constructor lookup; here it is bound once -/
theorem processSlice_eq (r : RecvRel) (sl : Slice) :
    r.processSlice sl =
      if SMap.contains r.messages sl.messageId ∨ sl.messageId < r.oldest then .ok r else
      if ¬ r.ordered ∧ r.received.contains sl.messageId then .ok r else
      r.reserveStep sl >>= fun r1 => r1.sliceStep sl := by
  unfold reserveStep
  rw [ite_bind]
  dsimp only
  rw [ite_bind]
  rfl

/-- every state `x` can leave behind — returned, or carried by an error — satisfies `Q` -/
def Lands (x : RecvRelRes) (Q : RecvRel → Prop) : Prop :=
  ∀ r', (x = .ok r' ∨ ∃ e, x = .err (e, r')) → Q r'

theorem lands_ok {Q : RecvRel → Prop} {r : RecvRel} (h : Q r) : Lands (.ok r) Q := by
  rintro r' (h' | ⟨e, h'⟩) <;> cases h'
  exact h

theorem lands_err {Q : RecvRel → Prop} {e : ChanErr} {r : RecvRel} (h : Q r) : Lands (.err (e, r)) Q := by
  rintro r' (h' | ⟨e, h'⟩) <;> cases h'
  exact h

theorem lands_panic {Q : RecvRel → Prop} {s : String} : Lands (.panic s) Q := by
  rintro r' (h' | ⟨e, h'⟩) <;> cases h'

theorem lands_bind {Q : RecvRel → Prop} {x : RecvRelRes} {f : RecvRel → RecvRelRes} (hx : Lands x Q)
    (hf : ∀ a, Q a → Lands (f a) Q) : Lands (x >>= f) Q := by
  rintro r' (h | ⟨e, h⟩)
  · obtain ⟨a, h1, h2⟩ := Res.bind_ok_iff.mp h
    exact hf a (hx a (Or.inl h1)) r' (Or.inl h2)
  · rcases Res.bind_err_iff.mp h with h1 | ⟨a, h1, h2⟩
    · exact hx r' (Or.inr ⟨e, h1⟩)
    · exact hf a (hx a (Or.inl h1)) r' (Or.inr ⟨e, h2⟩)

/-- a relation between channel states that holds when the delivery cursor is the same, composes, and holds when a
    message that has not arrived before is queued -/
structure Cursory (R : RecvRel → RecvRel → Prop) : Prop where
  same : ∀ {r r' : RecvRel}, r'.ordered = r.ordered → r'.oldest = r.oldest → r'.received = r.received → R r r'
  trans : ∀ {a b c : RecvRel}, R a b → R b c → R a c
  push : ∀ {r : RecvRel} {id : Nat} (m : Bytes), ¬ Have r id → R r (r.push id m)

theorem processMessage_lands {R : RecvRel → RecvRel → Prop} (hR : Cursory R) (r : RecvRel) (m : Bytes) (id : Nat) :
    Lands (r.processMessage m id) (R r) := by
  rw [processMessage_eq]
  split
  · exact lands_ok (hR.same rfl rfl rfl)
  · rename_i hv
    split
    · exact lands_err (hR.same rfl rfl rfl)
    · exact lands_ok (hR.push m hv)

/-- `process_slice` touches the delivery cursor only by offering the completed message -/
theorem processSlice_lands {R : RecvRel → RecvRel → Prop} (hR : Cursory R) (r : RecvRel) (sl : Slice) :
    Lands (r.processSlice sl) (R r) := by
  have hs : ∀ r : RecvRel, Lands (r.sliceStep sl) (R r) := by
    intro r
    unfold sliceStep
    split
    · exact lands_panic
    split
    · exact lands_err (hR.same rfl rfl rfl)
    split
    · exact lands_panic
    · exact lands_err (hR.same rfl rfl rfl)
    · exact lands_ok (hR.same rfl rfl rfl)
    · unfold Res.csub
      split
      · rw [Res.bind_ok]
        refine lands_bind (fun r1 h => hR.trans ?_ (processMessage_lands hR _ _ _ r1 h)) fun r1 k => lands_ok (hR.trans k (hR.same rfl rfl rfl))
        exact hR.same rfl rfl rfl
      · exact lands_panic
  rw [processSlice_eq]
  split
  · exact lands_ok (hR.same rfl rfl rfl)
  split
  · exact lands_ok (hR.same rfl rfl rfl)
  refine lands_bind ?_ fun r1 k r' h => hR.trans k (hs r1 r' h)
  unfold reserveStep
  split
  · exact lands_ok (hR.same rfl rfl rfl)
  dsimp only
  split
  · exact lands_err (hR.same rfl rfl rfl)
  · exact lands_ok (hR.same rfl rfl rfl)

end RecvRel

namespace RecvUnrel

/-- `process_slice` once the constructor exists: feed the slice to it -/
def sliceStep (r : RecvUnrel) (sl : Slice) (now : Nat) : Res (ChanErr × RecvUnrel) RecvUnrel :=
  match SMap.find? r.slices sl.messageId with
  | none => .panic "unreachable: constructor just inserted"
  | some c =>
    if c.numSlices ≠ sl.numSlices then .err (.invalidSlice, r) else
    match c.processSlice sl.sliceIndex sl.payload with
    | .panic s => .panic s
    | .err e => .err (e, r)
    | .ok (_, some m) => do
      let mem ← Res.csub r.mem (c.numSlices * SLICE_SIZE) "unreliable.rs memory_usage_bytes -= num_slices * SLICE_SIZE"
      pure { r with slices := SMap.erase r.slices sl.messageId, lastReceived := SMap.erase r.lastReceived sl.messageId,
                    mem := mem + m.length, messages := r.messages ++ [m] }
    | .ok (c', none) =>
      pure { r with slices := SMap.insert r.slices sl.messageId c', lastReceived := SMap.insert r.lastReceived sl.messageId now }

/-- a slice of a new message is dropped when its reservation does not fit (no error on this channel kind) -/
theorem processSlice_eq (r : RecvUnrel) (sl : Slice) (now : Nat) :
    r.processSlice sl now =
      if SMap.contains r.slices sl.messageId then r.sliceStep sl now else
      if r.mem + sl.numSlices * SLICE_SIZE > r.maxMem then .ok r else
      RecvUnrel.sliceStep
        { r with mem := r.mem + sl.numSlices * SLICE_SIZE, slices := SMap.insert r.slices sl.messageId (SliceCtor.new sl.numSlices) }
        sl now := by
  unfold RecvUnrel.processSlice RecvUnrel.sliceStep
  by_cases h1 : SMap.contains r.slices sl.messageId = true
  · rw [if_pos h1, if_pos h1]; rfl
  rw [if_neg h1, if_neg h1]
  by_cases h2 : r.mem + sl.numSlices * SLICE_SIZE > r.maxMem
  · rw [if_pos h2, if_pos h2]
  · rw [if_neg h2, if_neg h2]; rfl

end RecvUnrel

/-- `discard_old` erases one constructor after the other: what every such erasure keeps, the loop keeps -/
theorem discardLoop_pres {Q : RecvUnrel → Prop}
    (hstep : ∀ (r : RecvUnrel) (id mem : Nat), Q r →
      Q { r with lastReceived := SMap.erase r.lastReceived id, slices := SMap.erase r.slices id, mem := mem }) :
    ∀ (ids : List Nat) (r r' : RecvUnrel), discardLoop ids r = .ok r' → Q r → Q r'
  | [], r, r', h, hq => by cases h; exact hq
  | id :: rest, r, r', h, hq => by
    unfold discardLoop at h
    split at h
    · cases h
    · obtain ⟨mem, -, h⟩ := Res.bind_ok_iff.mp h
      exact discardLoop_pres hstep rest _ r' h (hstep r id mem hq)

end RenetVerif
