/-
  Source tie, group NcCodec: `renetcode/src/packet.rs` `Packet::{encode, decode, generate_challenge}`,
  `ChallengeToken::decode`, `renetcode/src/token.rs` `PrivateConnectToken::{encode, decode}` (+ the `From<CryptoError>` /
  `From<TokenGenerationError>` / `From<io::Error>` conversions they use) ↔ `Netcode/Wire.lean`, `Netcode/Token.lean`.

  THE AEAD IS A PARAMETER ON BOTH SIDES.  `renetcode/src/crypto.rs` is an external interface: its four functions are
  not translated but mapped to `RustSem.{encrypt_in_place, dencrypted_in_place, encrypt_in_place_xnonce,
  dencrypted_in_place_xnonce}`, defined over the abstract instance parameter `[RustSem.Aead]` (see the header of
  `Base/RustSem.lean` for the exact mapping and the in-place buffer convention: plaintext ‖ 16 tag bytes).  The model is
  parametric in `a : Netcode.AEAD`; `aeadOf a` is the generated code's instance given by `a` (bytes as `Nat`s).
  Theorems that need lengths (`open` returns `len - 16` bytes, `seal` returns `len + 16`) assume `a.Laws`; nothing is
  assumed about authenticity.

  `&mut [u8]` parameters (`Packet::encode`'s output buffer, `Packet::decode`'s input buffer — decrypted in place) and the
  `Option<&mut ReplayProtection>` parameter of `decode` are returned with the result, also inside an `Err`.
  `EncOut` / `DecOut`: the result is the model's; the rest of the buffer is existentially quantified (`DecOutL`: and its
  length is kept).
-/
import RenetVerif.Lemmas.SrcEquiv.NcCodec
import RenetVerif.Props.SrcTieNcConnToken
import RenetVerif.Props.SrcTieNcToken
import RenetVerif.Props.SrcTieNcSequence
import RenetVerif.Lemmas.NcTable
set_option maxRecDepth 10000
namespace RenetVerif.SrcTie
open RenetVerif RenetVerif.SrcEquiv RenetVerif.RustSem RenetVerif.Netcode

/-- `Packet::encode` into ANY buffer (`cap` = its length; stale contents — any numbers — allowed), for every packet, with or
    without key: the model's bytes at the front of the buffer and their number; the model's error otherwise
    (`IoError` for a buffer that is too small — also for the tag —, `UnavailablePrivateKey`).  Never panics. -/
theorem nc_packet_encode (a : AEAD) (hl : a.Laws) (p : Netcode.Packet) (buffer : List Nat) (hcap : buffer.length + 16 < 2 ^ 64)
    (pid : Nat) (crypto : Option (Nat × Bytes)) :
    EncOut buffer.length (Netcode.Packet.encode a p buffer.length pid crypto)
      (@Src.renetcode.packet.Packet.encode (aeadOf a) (reprNP p) buffer pid (crypto.map fun x => (x.1, toNats x.2))) := by
  unfold Src.renetcode.packet.Packet.encode
  simp only [Exec.bind_eq, Exec.pure_eq]
  by_cases hnc : p.packetType = .connectionRequest
  case neg =>
    rw [encode_not_cr a p hnc buffer.length pid crypto, if_neg ?hq]
    case hq => cases p <;> first | exact absurd rfl hnc | exact Bool.false_ne_true
    cases crypto with
    | none => exact Exists.intro _ ⟨rfl, rfl⟩
    | some ck =>
      obtain ⟨sequence, key⟩ := ck
      simp only [Option.map_some, encodeSealed, wcur_of_buffer, nc_packet_id, Exec.call_ok, Exec.bind_val',
        encode_prefix _ _ (Nat.lt_of_le_of_lt (NcAead.Packet.id_le p) (by decide)), to_le_bytes8, (wcur_write_all (wrok_of_buffer buffer) _).1]
      cases h1 : (Wr.new buffer.length).writeAll [Packet.encodePrefix p.id sequence] with
      | none => exact Exists.intro _ ⟨rfl, wfull_len (wrok_of_buffer buffer) h1⟩
      | some w1 =>
        have hok1 := (wcur_write_all (wrok_of_buffer buffer) [Packet.encodePrefix p.id sequence]).2 w1 h1
        have hext1 := ext_writeAll h1
        simp only [io?, Res.bind_ok, Exec.callFrom_ok, Exec.bind_val', nc_write_sequence _ _ hok1]
        have hoks : WrOk (Packet.writeSequence w1 sequence).1
            ((List.drop [Packet.encodePrefix p.id sequence].length buffer).drop (Packet.writeSequence w1 sequence).2) :=
          (wcur_write hok1 ((Netcode.leBytes sequence 8).take (Packet.sequenceBytesRequired sequence))).2
        have hexts : Ext w1 (Packet.writeSequence w1 sequence).1 :=
          ext_write w1 ((Netcode.leBytes sequence 8).take (Packet.sequenceBytesRequired sequence))
        generalize (Packet.writeSequence w1 sequence).1 = ws at hoks hexts ⊢
        generalize hn : (Packet.writeSequence w1 sequence).2 = n at hoks ⊢
        have hw := np_write_x hoks p
        cases h2 : p.write ws with
        | none =>
          rw [h2] at hw
          obtain ⟨c, hc, hlen⟩ := hw
          rw [hc]
          refine Exists.intro _ ⟨rfl, ?_⟩
          rw [hlen]
          exact (ext_trans hext1 hexts).1
        | some w2 =>
          rw [h2] at hw
          rw [hw.1]
          have hext2 := hw.2
          have hextS := ext_trans hext1 hexts
          have hls : ws.out.length ≤ buffer.length := hextS.2.2 (Nat.zero_le _)
          have hl2 : w2.out.length ≤ buffer.length := (ext_trans hextS hext2).2.2 (Nat.zero_le _)
          have hse : ws.out.length ≤ w2.out.length := by
            obtain ⟨b, hb⟩ := hext2.2.1
            rw [hb, List.length_append]; omega
          have hcapS : ws.cap = buffer.length := hextS.1
          generalize htl : List.drop (w2.out.length - ws.out.length)
              (List.drop n (List.drop [Packet.encodePrefix p.id sequence].length buffer)) = tl2
          have htlen : tl2.length = buffer.length - w2.out.length := by
            have h0 := hoks
            unfold WrOk at h0
            rw [hcapS] at h0
            rw [← htl]
            simp only [List.length_drop] at h0 ⊢
            omega
          have hpos_s : ∀ tl, (wcur ws tl).position = ws.out.length := fun _ => rfl
          have hpos_e : ∀ tl, (wcur w2 tl).position = w2.out.length := fun _ => rfl
          have hlts : ws.out.length < 2 ^ 64 := by omega
          have hlte : w2.out.length < 2 ^ 64 := by omega
          have hadd : w2.out.length + Src.renetcode.NETCODE_MAC_BYTES < 2 ^ 64 := by
            show w2.out.length + 16 < 2 ^ 64
            omega
          have hbuf : (wcur w2 tl2).buf = toNats w2.out ++ tl2 := rfl
          have hBlen : (toNats w2.out ++ tl2).length = buffer.length := by
            rw [List.length_append, toNats_length, htlen]; omega
          simp only [Exec.callFrom_ok, Exec.bind_val', nc_get_additional_data, Exec.call_ok, hpos_s, hpos_e,
            cast_of_lt hlts, cast_of_lt hlte, hbuf, add_val hadd, RustSem.len, hBlen, Res.bind_ok, Wr.pos]
          have h16 : Src.renetcode.NETCODE_MAC_BYTES = 16 := rfl
          have h16' : C.NETCODE_MAC_BYTES = 16 := rfl
          rw [h16, h16']
          by_cases hsmall : buffer.length < w2.out.length + 16
          · simp only [hsmall, decide_true, if_true]
            exact Exists.intro _ ⟨rfl, hBlen⟩
          · simp only [hsmall, decide_false, Bool.false_eq_true, if_false, Exec.bind_val']
            have hfit : w2.out.length + 16 ≤ (toNats w2.out ++ tl2).length := by rw [hBlen]; omega
            have hc : ws.out.length ≤ w2.out.length + 16 ∧ w2.out.length + 16 ≤ (toNats w2.out ++ tl2).length :=
              ⟨by omega, hfit⟩
            -- the slice handed to `encrypt_in_place`: plaintext, then 16 stale numbers
            have hslice : ((toNats w2.out ++ tl2).take (w2.out.length + 16)).drop ws.out.length
                = toNats (w2.out.drop ws.out.length) ++ tl2.take 16 := by
              have e1 : (toNats w2.out ++ tl2).take (w2.out.length + 16) = toNats w2.out ++ tl2.take 16 := by
                rw [List.take_append, toNats_length, List.take_of_length_le (by rw [toNats_length]; omega)]
                congr 2; omega
              rw [e1, List.drop_append_of_le_length (by rw [toNats_length]; exact hse), toNats_drop]
            have hjunk : (tl2.take 16).length = 16 := by
              rw [List.length_take, htlen]; omega
            simp only [RustSem.slice, hc, and_self, if_true, hslice, Exec.bind_val',
              encrypt_in_place_junk a _ _ hjunk sequence key _, Exec.callFrom_ok]
            generalize hsealed : Packet.sealBody a key sequence (Packet.additionalData (Packet.encodePrefix p.id sequence) pid)
              (List.drop ws.out.length w2.out) = sealed
            have hsl_len : (toNats sealed).length = (w2.out.length - ws.out.length) + 16 := by
              rw [toNats_length, ← hsealed]
              simp only [Packet.sealBody, hl.seal_length, List.length_drop]
            obtain ⟨q1, q2, q3, _⟩ := seal_splice (toNats w2.out ++ tl2) (toNats sealed) ws.out.length w2.out.length hse hfit hsl_len
            have htake : (toNats w2.out ++ tl2).take w2.out.length = toNats w2.out :=
              List.take_left' (toNats_length _)
            rw [htake] at q1 q3
            simp only [RustSem.splice, hc, and_self, if_true, Exec.bind_val', Exec.run_val, Res.pure_eq, EncOut]
            have hlenb : (List.take ws.out.length w2.out ++ sealed).length = w2.out.length + 16 := by
              have := q3
              rw [← toNats_take, ← toNats_append, toNats_length] at this
              exact this
            refine ⟨(toNats w2.out ++ tl2).take ws.out.length ++ toNats sealed ++ (toNats w2.out ++ tl2).drop (w2.out.length + 16),
              ?_, ?_, ?_⟩
            · rw [hlenb]
            · rw [toNats_append, toNats_take]
              have := q1
              rw [q3] at this
              rw [hlenb]
              exact this
            · rw [q2, hBlen]
  cases p with
  | connectionRequest v pd e x d =>
    simp only [reprNP, if_true, wcur_of_buffer, Netcode.Packet.encode]
    have hid : (Src.renetcode.packet.Packet.id
        (Src.renetcode.packet.Packet.ConnectionRequest (toNats v) pd e (toNats x) (toNats d)) : Res (SNErr × List Nat) Nat)
        = .ok 0 := rfl
    have hb0 : RustSem.to_le_bytes 8 0 = toNats [UInt8.ofNat (Netcode.Packet.connectionRequest v pd e x d).id] := by
      show _ = toNats [UInt8.ofNat 0]
      decide
    simp only [hid, Exec.call_ok, Exec.bind_val', hb0, (wcur_write_all (wrok_of_buffer buffer) _).1]
    cases h1 : (Wr.new buffer.length).writeAll [UInt8.ofNat (Netcode.Packet.connectionRequest v pd e x d).id] with
    | none => exact Exists.intro _ ⟨rfl, wfull_len (wrok_of_buffer buffer) h1⟩
    | some w1 =>
      have hok1 := (wcur_write_all (wrok_of_buffer buffer) [UInt8.ofNat (Netcode.Packet.connectionRequest v pd e x d).id]).2 w1 h1
      simp only [io?, Res.bind_ok, Exec.callFrom_ok, Exec.bind_val']
      have hw := np_write_x hok1 (Netcode.Packet.connectionRequest v pd e x d)
      simp only [reprNP] at hw
      cases h2 : (Netcode.Packet.connectionRequest v pd e x d).write w1 with
      | none =>
        rw [h2] at hw
        obtain ⟨c, hc, hlen⟩ := hw
        rw [hc]
        refine Exists.intro _ ⟨rfl, ?_⟩
        rw [hlen, (ext_writeAll h1).1]
        rfl
      | some w2 =>
        rw [h2] at hw
        rw [hw.1]
        have hext := ext_trans (ext_writeAll h1) hw.2
        have hle : w2.out.length ≤ buffer.length := hext.2.2 (by simp [Wr.new])
        have hlt : w2.out.length < 2 ^ 64 := by omega
        simp only [Exec.callFrom_ok, Exec.bind_val', Exec.run_val, Res.bind_ok, Res.pure_eq, EncOut,
          RustSem.WriteCursor.position, wcur, cast_of_lt hlt]
        refine ⟨_, rfl, ?_, ?_⟩
        · simp [toNats_length]
        · have hl1 : w1.out.length = 1 := by rw [(writeAll_out h1).1]; simp [Wr.new]
          have hge : w1.out.length ≤ w2.out.length := by
            obtain ⟨b, hb⟩ := hw.2.2.1
            rw [hb, List.length_append]; omega
          simp only [List.length_append, toNats_length, List.length_drop, List.length_cons, List.length_nil]
          omega
  | _ => exact absurd hnc (by simp [Netcode.Packet.packetType])

/-- `Packet::decode` as `nc_packet_decode` below describes it; in addition the buffer keeps its length (decrypting in place) -/
theorem nc_packet_decode_len (a : AEAD) (hl : a.Laws) (buffer : Bytes) (hbl : buffer.length + 16 < 2 ^ 64) (pid : Nat)
    (key : Option Bytes) (rp : Option RP) :
    DecOutL buffer.length (Netcode.Packet.decode a buffer pid key rp)
      (@Src.renetcode.packet.Packet.decode (aeadOf a) (toNats buffer) pid (key.map toNats) (rp.map reprRP)) := by
  unfold Src.renetcode.packet.Packet.decode Netcode.Packet.decode
  have h16 : Src.renetcode.NETCODE_MAC_BYTES = 16 := rfl
  have h16' : C.NETCODE_MAC_BYTES = 16 := rfl
  simp only [Exec.bind_eq, Exec.pure_eq, h16, h16', add_val (show 2 + 16 < 2 ^ 64 by decide), Exec.bind_val',
    RustSem.len, toNats_length]
  by_cases hsmall : buffer.length < 2 + 16
  · rw [if_pos (decide_eq_true hsmall), if_pos hsmall]
    exact Exists.intro _ ⟨toNats_length _, rfl⟩
  rw [if_neg (mt of_decide_eq_true hsmall), if_neg hsmall, Exec.bind_val']
  cases buffer with
  | nil => exact absurd (by decide) hsmall
  | cons pfx rest =>
    have hix : ∀ site, (RustSem.index (toNats (pfx :: rest)) 0 site : Exec DecE DecR Nat) = .val pfx.toNat := fun _ => rfl
    simp only [hix, Exec.bind_val', decode_prefix, Exec.call_ok, from_u8_repr]
    generalize Packet.decodePrefix pfx = dp
    obtain ⟨ty0, sl⟩ := dp
    simp only []
    cases hty : Netcode.PacketType.fromU8 ty0 with
    | err e => exact Exists.intro _ ⟨toNats_length _, rfl⟩
    | panic m => exact Exists.intro _ rfl
    | ok ty =>
      simp only [mapRes, Exec.callFrom_ok, Exec.bind_val']
      by_cases hcr : ty = .connectionRequest
      · subst hcr
        rw [if_pos rfl]
        simp only [reprPT, if_true]
        rw [Exec.bind_skip _ _ (toNats rest) (slice_drop (pfx :: rest) 1 (Nat.le_add_left 1 _) _)]
        refine packet_read_elim .connectionRequest .ConnectionRequest rfl rest (fun hm hr => ?_) (fun mm msg hm hr => ?_)
          (fun p hm hr => ?_)
        · rw [hm, hr]
          exact Exists.intro _ ⟨toNats_length _, rfl⟩
        · rw [hm, hr]
          exact Exists.intro _ rfl
        · rw [hm, hr]
          exact Exists.intro _ ⟨toNats_length _, rfl⟩
      rw [if_neg hcr, if_neg ?hncr]
      case hncr => cases ty <;> first | exact absurd rfl hcr | exact Bool.false_ne_true
      cases key with
      | none => exact Exists.intro _ ⟨toNats_length _, rfl⟩
      | some k =>
        have hsuf : rest <:+ pfx :: rest := List.suffix_cons pfx rest
        have hsp : (RustSem.ReadCursor.set_position (RustSem.ReadCursor.new (toNats (pfx :: rest))) 1 : Res DecE _)
            = .ok (rcur (pfx :: rest) rest, ()) := by
          simp [RustSem.ReadCursor.set_position, RustSem.ReadCursor.new, rcur]
        simp only [Option.map_some, hsp, Exec.call_ok, Exec.bind_val', nc_read_sequence _ _ hsuf]
        cases hrs : Packet.readSequence rest sl with
        | none => exact Exists.intro _ ⟨toNats_length _, rfl⟩
        | some sb =>
          obtain ⟨sq, body⟩ := sb
          obtain ⟨hsl8, hslr, hbody, hsq⟩ := readSequence_ok hrs
          have hpos : (rcur (pfx :: rest) body).position = 1 + sl := by
            simp only [RustSem.ReadCursor.position, rcur, hbody, List.length_cons, List.length_drop]; omega
          have hlt : 1 + sl < 2 ^ 64 := by omega
          have haddp : 1 + sl + 16 < 2 ^ 64 := by omega
          simp only [rdResE, Exec.callFrom_ok, Exec.bind_val', nc_get_additional_data, Exec.call_ok, hpos, id,
            cast_of_lt hlt, add_val haddp, toNats_length]
          by_cases hsm2 : (pfx :: rest).length < 1 + sl + 16
          · rw [if_pos (decide_eq_true hsm2), if_pos hsm2]
            exact Exists.intro _ ⟨toNats_length _, rfl⟩
          rw [if_neg (mt of_decide_eq_true hsm2), if_neg hsm2, Exec.bind_val']
          change DecOutL _ (if Packet.isDup ty sq rp = true then _ else _) _
          by_cases hdup : Packet.isDup ty sq rp = true
          · rw [if_pos hdup]
            cases rp with
            | none => exact absurd hdup Bool.false_ne_true
            | some w =>
              simp only [Packet.isDup, Bool.and_eq_true] at hdup
              simp only [Option.map_some, packet_type_apply_replay_protection, absPT_reprPT, Exec.call_ok, Exec.bind_val', hdup.1,
                if_true, already_received_eq w sq hsq, hdup.2]
              exact Exists.intro _ ⟨toNats_length _, rfl⟩
          rw [if_neg hdup, Exec.bind_skip _ _ () ?hx]
          case hx =>
            cases rp with
            | none => rfl
            | some w =>
              simp only [Packet.isDup, Bool.and_eq_true, not_and] at hdup
              simp only [Option.map_some, packet_type_apply_replay_protection, absPT_reprPT, Exec.call_ok, Exec.bind_val',
                already_received_eq w sq hsq]
              cases hap : ty.applyReplayProtection with
              | false => rfl
              | true => simp [hdup hap, Exec.bind_val']
          have hblen : body.length + (1 + sl) = (pfx :: rest).length := by
            rw [hbody, List.length_drop, List.length_cons]; omega
          have hb16 : ¬ body.length < 16 := by omega
          have hbd : (pfx :: rest).drop (1 + sl) = body := by
            rw [hbody, Nat.add_comm, List.drop_succ_cons]
          have hc : 1 + sl ≤ (pfx :: rest).length ∧ (pfx :: rest).length ≤ (toNats (pfx :: rest)).length := by
            rw [toNats_length]; exact ⟨by omega, Nat.le_refl _⟩
          rw [slice_drop (pfx :: rest) (1 + sl) hc.1, hbd]
          simp only [Exec.bind_val', dencrypted_in_place_eq, Packet.openBody, h16', hb16, if_false]
          cases ho : a.open k (Packet.nonce sq) (Packet.additionalData pfx pid) body with
          | none =>
            refine Exists.intro _ ⟨?_, rfl⟩
            simp only [toNats_length, List.length_append, List.length_take]
            omega
          | some plain =>
            have hpl : plain.length + 16 = body.length := hl.open_length _ _ _ _ _ ho
            have hdrop : body.length - 16 = plain.length := by omega
            simp only [Exec.callFrom_ok, Exec.bind_val', hdrop]
            have hspl : ∀ site, (RustSem.splice (toNats (pfx :: rest)) (1 + sl) (pfx :: rest).length
                (toNats (plain ++ body.drop plain.length)) site : Exec DecE DecR _)
                = .val (toNats ((pfx :: rest).take (1 + sl) ++ (plain ++ body.drop plain.length))) := by
              intro site
              have hd0 : List.drop (pfx :: rest).length (toNats (pfx :: rest)) = [] :=
                List.drop_of_length_le (by rw [toNats_length]; exact Nat.le_refl _)
              rw [RustSem.splice, if_pos hc, hd0, List.append_nil, ← toNats_take, ← toNats_append]
            simp only [hspl, Exec.bind_val']
            rw [Exec.bind_skip _ _ (Option.map reprRP (advOf ty sq rp)) ?hadv]
            case hadv =>
              cases rp with
              | none => rfl
              | some w =>
                simp only [Option.map_some, Option.isSome_some, if_true, packet_type_apply_replay_protection, absPT_reprPT,
                  Exec.call_ok, Exec.bind_val', RustSem.unwrap, advance_sequence_eq w sq hsq, advOf]
                cases ty.applyReplayProtection <;> rfl
            generalize hB : (pfx :: rest).take (1 + sl) ++ (plain ++ body.drop plain.length) = B
            have hBl : B.length = (pfx :: rest).length := by
              rw [← hB]
              simp only [List.length_append, List.length_take, List.length_drop]
              omega
            have hsub : ∀ site, (RustSem.sub 64 (toNats B).length 16 site : Exec DecE DecR Nat)
                = .val ((pfx :: rest).length - 16) := by
              intro site
              rw [toNats_length, hBl]
              exact sub_val (by omega)
            have hsl3 : ∀ site, (RustSem.slice (toNats B) (1 + sl) ((pfx :: rest).length - 16) site
                : Exec DecE DecR _) = .val (toNats plain) := by
              intro site
              have hc3 : 1 + sl ≤ (pfx :: rest).length - 16 ∧ (pfx :: rest).length - 16 ≤ (toNats B).length := by
                rw [toNats_length, hBl]; exact ⟨by omega, by omega⟩
              rw [RustSem.slice, if_pos hc3, ← toNats_take, ← toNats_drop, ← hB]
              congr 1
              have hlt1 : ((pfx :: rest).take (1 + sl)).length = 1 + sl := by
                rw [List.length_take]; omega
              rw [List.take_append, hlt1, List.drop_append, List.length_take,
                List.drop_of_length_le (by rw [List.length_take]; omega), List.nil_append]
              have e1 : min ((pfx :: rest).length - 16) ((pfx :: rest).take (1 + sl)).length = 1 + sl := by rw [hlt1]; omega
              have e2 : (pfx :: rest).length - 16 - (1 + sl) = plain.length := by omega
              rw [e1, Nat.sub_self, List.drop_zero, e2, List.take_left' rfl]
            simp only [hsub, hsl3, Exec.bind_val']
            refine packet_read_elim ty _ rfl plain (fun hm hr => ?_) (fun mm msg hm hr => ?_) (fun p2 hm hr => ?_)
            · rw [hm, hr]
              exact Exists.intro _ ⟨(toNats_length _).trans hBl, rfl⟩
            · rw [hm, hr]
              exact Exists.intro _ rfl
            · rw [hm, hr]
              exact Exists.intro _ ⟨(toNats_length _).trans hBl, rfl⟩

/-- `Packet::decode` of EVERY byte sequence, with or without key / replay window: the model's packet and sequence or
    the model's error (`PacketTooSmall`, `InvalidPacketType`, `UnavailablePrivateKey`, `IoError`, `DuplicatedSequence`,
    `CryptoError`), and the model's replay window — advanced exactly when the model advances it (after a successful
    `open`, before the body is parsed).  A panic only where the model panics (`Packet::read`'s `unreachable!`). -/
theorem nc_packet_decode (a : AEAD) (hl : a.Laws) (buffer : Bytes) (hbl : buffer.length + 16 < 2 ^ 64) (pid : Nat)
    (key : Option Bytes) (rp : Option RP) :
    DecOut (Netcode.Packet.decode a buffer pid key rp)
      (@Src.renetcode.packet.Packet.decode (aeadOf a) (toNats buffer) pid (key.map toNats) (rp.map reprRP)) :=
  (nc_packet_decode_len a hl buffer hbl pid key rp).weaken

/-- `Packet::generate_challenge` (no law needed: the sealed 300-byte buffer is the `seal` output itself) -/
theorem nc_generate_challenge (a : AEAD) (cid : Nat) (ud : Bytes) (sequence : Nat) (key : Bytes) :
    SameOutcome (@Src.renetcode.packet.Packet.generate_challenge (aeadOf a) cid (toNats ud) sequence (toNats key))
      (mapRes reprNP reprNErr (Netcode.ChallengeToken.generate a cid ud sequence key)) := by
  unfold Src.renetcode.packet.Packet.generate_challenge Netcode.ChallengeToken.generate
  have hc : Src.renetcode.NETCODE_CHALLENGE_TOKEN_BYTES = C.NETCODE_CHALLENGE_TOKEN_BYTES := rfl
  simp only [nc_challenge_token_new, Exec.call_ok, Exec.bind_eq, Exec.pure_eq, Exec.bind_val', hc, wcur_new,
    nc_challenge_token_write _ _ (wrok_new _)]
  rcases h1 : (Wr.new C.NETCODE_CHALLENGE_TOKEN_BYTES).writeAll (leBytes cid 8) with _ | w1
  · exact rfl
  · simp only [io?, Res.bind_ok]
    rcases h2 : w1.writeAll ud with _ | w'
    · exact rfl
    · obtain ⟨ho1, hc1, _⟩ := writeAll_out h1
      obtain ⟨ho2, hc2, hle2⟩ := writeAll_out h2
      have hcap : w1.cap = C.NETCODE_CHALLENGE_TOKEN_BYTES := by rw [hc1]; rfl
      have hlen' : w'.out.length = 8 + ud.length := by
        rw [ho2, ho1]; simp [Wr.new, NcAead.leBytes_length]
      have hle : w'.out.length ≤ C.NETCODE_CHALLENGE_TOKEN_BYTES := by rw [← hcap]; exact hle2
      simp only [Exec.callFrom_ok, Exec.bind_val', Res.bind_ok]
      rw [wcur_buf_zero w' _ _ hlen'.symm]
      have hnil : ([] : List Nat) = toNats ([] : Bytes) := rfl
      have hl300 : (w'.out ++ List.replicate (C.NETCODE_CHALLENGE_TOKEN_BYTES - w'.out.length) (0 : UInt8)).length
          = C.NETCODE_CHALLENGE_TOKEN_BYTES := by
        rw [List.length_append, List.length_replicate]; omega
      have h300 : C.NETCODE_CHALLENGE_TOKEN_BYTES = 300 := rfl
      rw [hnil, encrypt_in_place_eq a _ sequence key [] (by rw [hl300, h300]; omega)]
      simp only [Exec.callFrom_ok, Exec.bind_val', Exec.run_val, Res.pure_eq, mapRes, reprNP, SameOutcome]
      rw [hl300]
      rfl

theorem nc_challenge_token_decode (a : AEAD) (hl : a.Laws) (td : Bytes) (hlen : td.length = C.NETCODE_CHALLENGE_TOKEN_BYTES)
    (sequence : Nat) (key : Bytes) :
    SameOutcome (@Src.renetcode.packet.ChallengeToken.decode (aeadOf a) (toNats td) sequence (toNats key))
      (mapRes reprCT reprNErr (Netcode.ChallengeToken.decode a td sequence key)) := by
  unfold Src.renetcode.packet.ChallengeToken.decode Netcode.ChallengeToken.decode
  have h300 : td.length = 300 := hlen
  simp only [copy_zeroed Src.renetcode.NETCODE_CHALLENGE_TOKEN_BYTES td hlen, Exec.bind_eq, Exec.pure_eq, Exec.bind_val']
  have hd := dencrypted_in_place_eq a td sequence key []
  have hnil : toNats ([] : Bytes) = [] := rfl
  rw [hnil] at hd
  rw [hd]
  have h16 : ¬ td.length < 16 := by omega
  have h16' : ¬ td.length < C.NETCODE_MAC_BYTES := h16
  simp only [h16, h16', if_false, Packet.openBody]
  cases ho : a.open key (Packet.nonce sequence) [] td with
  | none => exact rfl
  | some plain =>
    have hpl : plain.length + 16 = td.length := hl.open_length _ _ _ _ _ ho
    have hdr : td.length - 16 = plain.length := by omega
    simp only [Exec.callFrom_ok, Exec.bind_val', hdr, Res.bind_ok]
    have hrc : RustSem.ReadCursor.new (toNats (plain ++ td.drop plain.length))
        = rcur (plain ++ td.drop plain.length) (plain ++ td.drop plain.length) := by
      simp [rcur, RustSem.ReadCursor.new]
    rw [hrc, nc_challenge_token_read _ _ (List.suffix_refl _)]
    unfold readCT
    rcases readU64 (plain ++ td.drop plain.length) with _ | ⟨cid, r⟩
    · exact rfl
    simp only [bind, Option.bind_some]
    rcases readN C.NETCODE_USER_DATA_BYTES r with _ | ⟨ud, r2⟩ <;> exact rfl

/-- `PrivateConnectToken::encode` into a zeroed 1024-byte buffer (`Res.forget`: the buffer carried by an `Err` is not
    specified) -/
theorem nc_private_token_encode (a : AEAD) (t : Netcode.PrivateConnectToken) (hlen : t.serverAddresses.length < 2 ^ 32)
    (pid exp : Nat) (xnonce key : Bytes) :
    (@Src.renetcode.token.PrivateConnectToken.encode (aeadOf a) (reprPTok t)
        (List.replicate C.NETCODE_CONNECT_TOKEN_PRIVATE_BYTES 0) pid exp (toNats xnonce) (toNats key)).forget
      = mapRes (fun b => (toNats b, ())) reprTGE (Netcode.PrivateConnectToken.encode a t pid exp xnonce key) := by
  unfold Src.renetcode.token.PrivateConnectToken.encode Netcode.PrivateConnectToken.encode
  have hwn : RustSem.WriteCursor.new (List.replicate C.NETCODE_CONNECT_TOKEN_PRIVATE_BYTES 0)
      = wcur (Wr.new C.NETCODE_CONNECT_TOKEN_PRIVATE_BYTES) (List.replicate C.NETCODE_CONNECT_TOKEN_PRIVATE_BYTES 0) :=
    wcur_new _
  simp only [nc_token_additional_data, Exec.call_ok, Exec.bind_eq, Exec.pure_eq, Exec.bind_val', hwn]
  have hw := ptok_write_forget _ (cinv_wcur (Wr.new C.NETCODE_CONNECT_TOKEN_PRIVATE_BYTES) (List.replicate C.NETCODE_CONNECT_TOKEN_PRIVATE_BYTES 0)) t hlen
  rw [wres_wcur (wrok_new _), ← ptok_writeTo_eq] at hw
  cases hm : t.writeTo (Wr.new C.NETCODE_CONNECT_TOKEN_PRIVATE_BYTES) with
  | none =>
    rw [hm] at hw
    obtain ⟨st, hst⟩ := forget_err_inv hw
    rw [hst]
    rfl
  | some w' =>
    rw [hm] at hw
    simp only [] at hw
    rw [forget_ok_inv hw]
    have hle : w'.out.length ≤ C.NETCODE_CONNECT_TOKEN_PRIVATE_BYTES := by
      rw [ptok_writeTo_eq] at hm
      exact (writeAll_out hm).2.2
    have hout : w'.out.length = (ptokBytes t).length := by
      rw [ptok_writeTo_eq] at hm
      rw [(writeAll_out hm).1]; simp [Wr.new]
    simp only [Exec.callFrom_ok, Exec.bind_val']
    rw [wcur_buf_zero w' _ _ hout.symm]
    have hl1024 : (w'.out ++ List.replicate (C.NETCODE_CONNECT_TOKEN_PRIVATE_BYTES - w'.out.length) (0 : UInt8)).length
        = C.NETCODE_CONNECT_TOKEN_PRIVATE_BYTES := by
      rw [List.length_append, List.length_replicate]; omega
    have h1024 : C.NETCODE_CONNECT_TOKEN_PRIVATE_BYTES = 1024 := rfl
    rw [encrypt_in_place_xnonce_eq a _ xnonce key _ (by rw [hl1024, h1024]; omega)]
    simp only [Exec.callFrom_ok, Exec.bind_val', Exec.run_val, Res.forget, mapRes, hl1024]
    rfl

theorem nc_private_token_decode (a : AEAD) (hl : a.Laws) (buffer : Bytes)
    (hlen : buffer.length = C.NETCODE_CONNECT_TOKEN_PRIVATE_BYTES) (pid exp : Nat) (xnonce key : Bytes) :
    SameOutcome (@Src.renetcode.token.PrivateConnectToken.decode (aeadOf a) (toNats buffer) pid exp (toNats xnonce) (toNats key))
      (mapRes reprPTok reprTGE (Netcode.PrivateConnectToken.decode a buffer pid exp xnonce key)) := by
  unfold Src.renetcode.token.PrivateConnectToken.decode Netcode.PrivateConnectToken.decode
  have h1024 : buffer.length = 1024 := hlen
  simp only [nc_token_additional_data, Exec.call_ok, copy_zeroed Src.renetcode.NETCODE_CONNECT_TOKEN_PRIVATE_BYTES buffer hlen,
    Exec.bind_eq, Exec.pure_eq, Exec.bind_val', dencrypted_in_place_xnonce_eq]
  have h16 : ¬ buffer.length < 16 := by omega
  have h16' : ¬ buffer.length < C.NETCODE_MAC_BYTES := h16
  simp only [h16, h16', if_false]
  cases ho : a.xopen key xnonce (PrivateConnectToken.additionalData pid exp) buffer with
  | none => exact rfl
  | some plain =>
    have hpl : plain.length + 16 = buffer.length := hl.xopen_length _ _ _ _ _ ho
    have hdr : buffer.length - 16 = plain.length := by omega
    simp only [Exec.callFrom_ok, Exec.bind_val', hdr]
    have hrc : RustSem.ReadCursor.new (toNats (plain ++ buffer.drop plain.length))
        = rcur (plain ++ buffer.drop plain.length) (plain ++ buffer.drop plain.length) := by
      simp [rcur, RustSem.ReadCursor.new]
    rw [hrc]
    have hr := nc_private_token_read (List.suffix_refl (plain ++ buffer.drop plain.length))
    cases hm : Netcode.PrivateConnectToken.read (plain ++ buffer.drop plain.length) with
    | none =>
      rw [hm] at hr
      obtain ⟨st, hst⟩ := rd_err_inv hr
      rw [hst]
      exact rfl
    | some t =>
      rw [hm] at hr
      obtain ⟨c, hc⟩ := rd_ok_inv hr
      rw [hc]
      exact rfl

/-! test vectors with the toy AEAD (identity cipher, all-zero tag) -/

/-- `KeepAlive { client_index: 1, max_clients: 258 }`, sequence 5 (one byte: prefix `0x14`), into a 40-byte buffer of 7s:
    26 bytes are written, the rest of the buffer is untouched -/
example : @Src.renetcode.packet.Packet.encode (aeadOf AEAD.toy) (.KeepAlive 1 258) (List.replicate 40 7) 9
      (some (5, List.replicate 32 1)) =
    .ok ([20, 5, 1, 0, 0, 0, 2, 1, 0, 0] ++ List.replicate 16 0 ++ List.replicate 14 7, 26) := by decide +kernel
/-- no key: `UnavailablePrivateKey`, buffer untouched -/
example : @Src.renetcode.packet.Packet.encode (aeadOf AEAD.toy) .Disconnect [7, 7] 9 none =
    .err (.UnavailablePrivateKey, [7, 7]) := by decide +kernel
/-- room for the body but not for the tag: `IoError` -/
example : (match @Src.renetcode.packet.Packet.encode (aeadOf AEAD.toy) .Disconnect (List.replicate 10 7) 9
      (some (5, List.replicate 32 1)) with | .err (.IoError .opaque, _) => true | _ => false) = true := by decide +kernel
/-- decoding the packet above: sequence 5, the replay window has seen 5 -/
example : @Src.renetcode.packet.Packet.decode (aeadOf AEAD.toy)
      ([20, 5, 1, 0, 0, 0, 2, 1, 0, 0] ++ List.replicate 16 0) 9 (some (List.replicate 32 1)) (some (reprRP RP.new)) =
    .ok ([20, 5, 1, 0, 0, 0, 2, 1, 0, 0] ++ List.replicate 16 0, some (reprRP (RP.new.advance 5)), (5, .KeepAlive 1 258)) := by
  decide +kernel
/-- a forged tag: `CryptoError`, window unchanged -/
example : @Src.renetcode.packet.Packet.decode (aeadOf AEAD.toy)
      ([20, 5, 1, 0, 0, 0, 2, 1, 0, 0] ++ List.replicate 15 0 ++ [9]) 9 (some (List.replicate 32 1)) (some (reprRP RP.new)) =
    .err (.CryptoError, ([20, 5, 1, 0, 0, 0, 2, 1, 0, 0] ++ List.replicate 15 0 ++ [9], some (reprRP RP.new))) := by
  decide +kernel
/-- a replayed sequence is rejected before the AEAD is consulted -/
example : @Src.renetcode.packet.Packet.decode (aeadOf AEAD.toy)
      ([20, 5, 1, 0, 0, 0, 2, 1, 0, 0] ++ List.replicate 16 0) 9 (some (List.replicate 32 1))
      (some (reprRP (RP.new.advance 5))) =
    .err (.DuplicatedSequence, ([20, 5, 1, 0, 0, 0, 2, 1, 0, 0] ++ List.replicate 16 0, some (reprRP (RP.new.advance 5)))) := by
  decide +kernel

end RenetVerif.SrcTie
