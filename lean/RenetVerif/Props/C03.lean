/-
  C03 — integrity / fragmentation: every message the application obtains is byte-identical to a
  message submitted on that channel, for every size, whether it travelled alone, packed with others,
  or split into slices arriving in any order with duplicates; a lost slice makes the whole
  (unreliable) message disappear rather than yield a partial or stitched one.

  Reliable channels: corollary of C01/C02 (same adversary model).  Unreliable channel: `UOp`, `urun`,
  `GenuineU` — `S` is the list of all messages ever passed to `send_message` on the channel, `idOf`
  the sender's (injective-by-freshness) numbering of sliced messages.
-/
import RenetVerif.Props.C01
import RenetVerif.Props.C02
namespace RenetVerif.C03
open RenetVerif C DataPath Reasm

/-- the sender's slices of a message that must be sliced: at least two, all but the last exactly
    `SLICE_SIZE` long, the last between 1 and `SLICE_SIZE`, and concatenated they are the message -/
theorem slicing_exact (m : Bytes) (h : m.length > SLICE_SIZE) :
    let n := divCeil m.length SLICE_SIZE
    2 ≤ n ∧ (∀ i, i < n - 1 → (sliceBytes m n i).length = SLICE_SIZE) ∧
    1 ≤ (sliceBytes m n (n - 1)).length ∧ (sliceBytes m n (n - 1)).length ≤ SLICE_SIZE ∧
    (List.range n).flatMap (sliceBytes m n) = m := by
  intro n
  have hs := shape_divCeil m (by omega)
  exact ⟨two_le_divCeil m h, fun i hi => sliceBytes_length_nonlast hs hi, (sliceBytes_length_last hs).1,
    (sliceBytes_length_last hs).2, flatMap_sliceBytes m (by omega)⟩

/-- Reassembly: a constructor fed only genuine slices of `m` (in any order, with any repetitions — that
    is what `CtorAgrees` records, starting from `agrees_new`) accepts every further genuine slice
    without error; it stays consistent with `m` while incomplete, and it hands out a message exactly
    when every index `0..n-1` is present, and then that message is `m`, byte for byte. -/
theorem reassembly_exact (m : Bytes) (h : m.length > SLICE_SIZE) (c : SliceCtor) (hc : CtorAgrees m c)
    (idx : Nat) (hidx : idx < divCeil m.length SLICE_SIZE) :
    ∃ c' out, c.processSlice idx (sliceBytes m (divCeil m.length SLICE_SIZE) idx) = .ok (c', out) ∧
      c'.received = c.received.set idx true ∧
      (out = none → CtorAgrees m c' ∧ c'.numReceived ≠ c'.numSlices) ∧
      (∀ m', out = some m' → m' = m) ∧
      (out ≠ none ↔ ∀ i, i < divCeil m.length SLICE_SIZE → c'.received[i]? = some true) := by
  obtain ⟨c', out, h1, h2, _, h4, h5, h6⟩ := processSlice_genuine (m := m) (by omega) hc hidx
  exact ⟨c', out, h1, h2, h4, h5, h6⟩

theorem reassembly_start (m : Bytes) : CtorAgrees m (SliceCtor.new (divCeil m.length SLICE_SIZE)) :=
  agrees_new m

/-- every message obtained from a ReliableOrdered channel is one of the submitted messages -/
theorem reliable_ordered_integrity (L : List Bytes) (ops : List RecvOp) (hg : ∀ op ∈ ops, Genuine L op)
    (maxMem : Nat) : ∀ x ∈ (run (RecvRel.new maxMem true) ops).obtained, x ∈ L :=
  fun _ hx => (C01.obtained_prefix L ops hg maxMem).subset hx

/-- every message obtained from a ReliableUnordered channel is one of the submitted messages -/
theorem reliable_unordered_integrity (L : List Bytes) (ops : List RecvOp) (hg : ∀ op ∈ ops, Genuine L op)
    (maxMem : Nat) : ∀ x ∈ (run (RecvRel.new maxMem false) ops).obtained, x ∈ L :=
  (C02.obtained_submitted L ops hg maxMem).1

/-- C03: whatever the network does with genuine entries (loss, duplication, reordering, delays beyond
    the discard timeout), every message ever returned by `receive_message` is an element of `S`. -/
theorem unreliable_integrity (S : List Bytes) (idOf : Nat → Option Bytes) (ch maxMem : Nat)
    (ops : List UOp) (hg : ∀ op ∈ ops, GenuineU S idOf op) :
    ∀ x ∈ (urun (RecvUnrel.new ch maxMem) ops).obtained, x ∈ S :=
  (uinv_run S idOf ch maxMem ops hg).obt

/-- … and so is every message waiting in the queue -/
theorem unreliable_queue_integrity (S : List Bytes) (idOf : Nat → Option Bytes) (ch maxMem : Nat)
    (ops : List UOp) (hg : ∀ op ∈ ops, GenuineU S idOf op) :
    ∀ x ∈ (urun (RecvUnrel.new ch maxMem) ops).r.messages, x ∈ S :=
  (uinv_run S idOf ch maxMem ops hg).msgs

/-- C03: at any reachable state, processing a slice either leaves the queue of complete messages
    untouched, or appends exactly the submitted message `m` the slice belongs to — and the latter only
    if for every index `j < numSlices` the network has handed over slice `j` of that message id
    (earlier in the schedule, or just now).  No partial and no stitched message is ever queued. -/
theorem no_partial (S : List Bytes) (idOf : Nat → Option Bytes) (ch maxMem : Nat)
    (ops : List UOp) (hg : ∀ op ∈ ops, GenuineU S idOf op)
    (sl : Slice) (now : Nat) (g : GenuineU S idOf (.slice sl now)) :
    let st := urun (RecvUnrel.new ch maxMem) ops
    let st' := ustep st (.slice sl now)
    st'.r.messages = st.r.messages ∨
    ∃ m, idOf sl.messageId = some m ∧ m ∈ S ∧ st'.r.messages = st.r.messages ++ [m] ∧
      ∀ j, j < sl.numSlices → ∃ sl' now', UOp.slice sl' now' ∈ ops ++ [.slice sl now] ∧
        sl'.messageId = sl.messageId ∧ sl'.sliceIndex = j := by
  intro st st'
  have hinv : UInv S idOf st := uinv_run S idOf ch maxMem ops hg
  -- the step changes the channel only when `process_slice` accepts the slice
  have hstep : st'.r.messages = st.r.messages ∨ ∃ r', st.r.processSlice sl now = .ok r' ∧ st'.r = r' := by
    show (ustep st (.slice sl now)).r.messages = _ ∨ ∃ r', _ ∧ (ustep st (.slice sl now)).r = r'
    unfold ustep
    split
    · exact Or.inl rfl
    · dsimp only
      cases st.r.processSlice sl now with
      | ok r' => exact Or.inr ⟨r', rfl, rfl⟩
      | err e => exact Or.inl rfl
      | panic s => exact Or.inl rfl
  rcases hstep with h | ⟨r', hps, e⟩
  · exact Or.inl h
  · rw [e]
    rcases (uprocessSlice_ok (uinv_of hinv) g hps).2 with hc | ⟨m, hid, hS, hc, hall⟩
    · exact Or.inl hc
    · refine Or.inr ⟨m, hid, hS, hc, ?_⟩
      intro j hj
      have hm := hall j hj
      rw [List.mem_append] at hm
      rcases hm with hm | hm
      · rcases seen_from_ops ops _ _ hm with h0 | ⟨sl', now', hmem, he⟩
        · cases h0
        · simp only [Prod.mk.injEq] at he
          exact ⟨sl', now', List.mem_append_left _ hmem, he.1, he.2⟩
      · simp only [List.mem_singleton, Prod.mk.injEq] at hm
        exact ⟨sl, now, by simp, rfl, hm.2.symm⟩

/-- a lost slice makes the whole message disappear: if some index `j` of the sliced message is never
    handed over, no slice of that message ever pushes anything to the queue -/
theorem lost_slice_lost_message (S : List Bytes) (idOf : Nat → Option Bytes) (ch maxMem : Nat)
    (ops : List UOp) (hg : ∀ op ∈ ops, GenuineU S idOf op)
    (sl : Slice) (now : Nat) (g : GenuineU S idOf (.slice sl now))
    (j : Nat) (hj : j < sl.numSlices)
    (hlost : ∀ sl' now', UOp.slice sl' now' ∈ ops ++ [.slice sl now] →
      ¬ (sl'.messageId = sl.messageId ∧ sl'.sliceIndex = j)) :
    (ustep (urun (RecvUnrel.new ch maxMem) ops) (.slice sl now)).r.messages =
      (urun (RecvUnrel.new ch maxMem) ops).r.messages := by
  rcases no_partial S idOf ch maxMem ops hg sl now g with h | ⟨m, _, _, _, hall⟩
  · exact h
  · obtain ⟨sl', now', hmem, h1, h2⟩ := hall j hj
    exact absurd ⟨h1, h2⟩ (hlost sl' now' hmem)

namespace Ex
/- `m0` (3000 bytes, slices `s0 s1 s2`) and `m1` as in `C01.Ex` -/
abbrev m0 : Bytes := C01.Ex.m0
abbrev m1 : Bytes := C01.Ex.m1
abbrev s0 : Slice := C01.Ex.s0
abbrev s1 : Slice := C01.Ex.s1
abbrev s2 : Slice := C01.Ex.s2
def S : List Bytes := [m0, m1]
def idOf : Nat → Option Bytes := fun id => if id = 0 then some m0 else none

theorem gs : ∀ sl ∈ [s0, s1, s2], ∀ now, GenuineU S idOf (.slice sl now) := by
  intro sl h now
  simp only [List.mem_cons, List.not_mem_nil, or_false] at h
  rcases h with rfl | rfl | rfl
  · exact ⟨m0, rfl, by simp [S], C01.Ex.m0_len, C01.Ex.m0_n, by decide, C01.Ex.p0⟩
  · exact ⟨m0, rfl, by simp [S], C01.Ex.m0_len, C01.Ex.m0_n, by decide, C01.Ex.p1⟩
  · exact ⟨m0, rfl, by simp [S], C01.Ex.m0_len, C01.Ex.m0_n, by decide, C01.Ex.p2⟩

/-- reordered and duplicated slices, a small message in between -/
def ops : List UOp :=
  [.slice s2 10, .slice s0 20, .msg m1, .slice s0 30, .recv, .slice s1 40, .recv, .slice s1 50]

/-- slice 1 is lost; the fragments are discarded after the timeout; nothing is ever obtained, not
    even when slice 0 and 2 are delivered once more afterwards -/
def lossy : List UOp :=
  [.slice s0 10, .slice s2 20, .recv, .discard 4000000000, .slice s2 4000000010, .slice s0 4000000020, .recv]

/-- both schedules in one kernel evaluation: in `ops` both messages arrive intact (the late duplicate of slice 1 opens a
    fresh, incomplete reassembly); in `lossy` nothing is obtained and nothing is left in the queue -/
theorem all :
    ((urun (RecvUnrel.new 0 100000) ops).obtained = [m1, m0] ∧ (urun (RecvUnrel.new 0 100000) ops).dead = false) ∧
    ((urun (RecvUnrel.new 0 100000) lossy).obtained = [] ∧ (urun (RecvUnrel.new 0 100000) lossy).r.messages = []) := by
  decide +kernel

theorem genuine : ∀ op ∈ ops, GenuineU S idOf op := by
  intro op h
  simp only [ops, List.mem_cons, List.not_mem_nil, or_false] at h
  rcases h with rfl | rfl | rfl | rfl | rfl | rfl | rfl | rfl <;>
    first
    | exact gs _ (by simp) _
    | trivial
    | (show m1 ∈ S; simp [S])

example : ∀ x ∈ (urun (RecvUnrel.new 0 100000) ops).obtained, x ∈ S :=
  unreliable_integrity S idOf 0 100000 ops genuine
example : (urun (RecvUnrel.new 0 100000) ops).obtained = [m1, m0] ∧
    (urun (RecvUnrel.new 0 100000) ops).dead = false := all.1

theorem lossy_genuine : ∀ op ∈ lossy, GenuineU S idOf op := by
  intro op h
  simp only [lossy, List.mem_cons, List.not_mem_nil, or_false] at h
  rcases h with rfl | rfl | rfl | rfl | rfl | rfl | rfl <;>
    first
    | exact gs _ (by simp) _
    | trivial

example : (urun (RecvUnrel.new 0 100000) lossy).obtained = [] ∧
    (urun (RecvUnrel.new 0 100000) lossy).r.messages = [] := all.2
/-- `lost_slice_lost_message` applies to it (index 1 never occurs) -/
example : (ustep (urun (RecvUnrel.new 0 100000) (lossy.take 5)) (.slice s0 4000000020)).r.messages =
    (urun (RecvUnrel.new 0 100000) (lossy.take 5)).r.messages :=
  lost_slice_lost_message S idOf 0 100000 (lossy.take 5)
    (fun op h => lossy_genuine op (List.mem_of_mem_take h)) s0 4000000020 (gs _ (by simp) _) 1 (by decide)
    (by
      intro sl' now' h
      simp only [lossy, List.take, List.cons_append, List.nil_append, List.mem_cons, List.not_mem_nil, or_false,
        UOp.slice.injEq, reduceCtorEq, false_or, or_false] at h
      rcases h with ⟨rfl, _⟩ | ⟨rfl, _⟩ | ⟨rfl, _⟩ | ⟨rfl, _⟩ | ⟨rfl, _⟩ <;> decide)

example : ∀ x ∈ (run (RecvRel.new 100000 true) C01.Ex.ops).obtained, x ∈ C01.Ex.L :=
  reliable_ordered_integrity _ _ C01.Ex.genuine _
example : ∀ x ∈ (run (RecvRel.new 100000 false) C02.Ex.ops).obtained, x ∈ C02.Ex.L :=
  reliable_unordered_integrity _ _ C02.Ex.genuine _
example : m0.length > SLICE_SIZE := C01.Ex.m0_len
end Ex

end RenetVerif.C03
