/-
  EVERY PACKET OF EVERY FLUSH IS WELL-FORMED (`Packet.WF`, the hypothesis of the C16 round trip) along API traces of the
  model connection `MTr` (`Lemmas/SrcEquiv/SrcConnSystem.lean`).

  `Conn.WireInv`: what the send channels store can be carried by the wire format — every send channel knows a channel id
  below 256 (one byte on the wire) and every stored message (an `unacked` entry of a reliable channel, a queued message of an
  unreliable one) is at most `WIRE_MSG_MAX = MAX_NUM_SLICES * SLICE_SIZE` bytes long (so it needs at most `MAX_NUM_SLICES`
  slices, the largest count `Packet::from_bytes` accepts).  `fromChannels` establishes it for configurations whose send
  channel ids are bytes (`ChanBytes cfg`); every API operation preserves it — `process_packet` with ARBITRARY bytes
  included — where the only operation that needs a side condition is `send_message`: the library refuses NO message by its
  size alone (only by the channel's memory budget), so the submitted length enters as the decidable hypothesis
  `MsgLenOK ops`.  `oversized_slice_rejected` shows the hypothesis is needed: a slice packet that announces more than
  `MAX_NUM_SLICES` slices — what `get_packets_to_send` builds for a longer message — serialises fine and is REJECTED by the
  decoder (`InvalidNumSlices`).

  `flush_step_wf` / `flush_packets_wf`: under `WireInv`, the model invariants (`EpGood`) and the range condition
  (`ConnInRange`: counters below 2^60), one `get_packets_to_send` of a live connection builds packets that are all
  `Packet.WF`, serialises every one of them (no serialisation failure), and returns exactly these serialisations.
-/
import RenetVerif.Lemmas.SrcEquiv.SrcConnMore
namespace RenetVerif.FlushWF
open RenetVerif RenetVerif.C RenetVerif.System RenetVerif.SrcSystem RenetVerif.SrcConnSystem RenetVerif.SrcConnMore

/-- the longest message whose slice count the wire format accepts (1.2 GB) -/
def WIRE_MSG_MAX : Nat := MAX_NUM_SLICES * SLICE_SIZE

def RelWire (s : SendRel) : Prop := s.ch < 256 ∧ ∀ x ∈ s.unacked, x.2.msg.length ≤ WIRE_MSG_MAX
def UnrelWire (s : SendUnrel) : Prop := s.ch < 256 ∧ ∀ m ∈ s.queue, m.length ≤ WIRE_MSG_MAX

structure WireInv (c : Conn) : Prop where
  rel : ∀ x ∈ c.sendRel, RelWire x.2
  unrel : ∀ x ∈ c.sendUnrel, UnrelWire x.2

theorem WireInv.of_eq {c c' : Conn} (h : WireInv c) (h1 : c'.sendRel = c.sendRel) (h2 : c'.sendUnrel = c.sendUnrel) :
    WireInv c' := ⟨by rw [h1]; exact h.rel, by rw [h2]; exact h.unrel⟩

theorem unrelWire_getPackets {s : SendUnrel} (h : UnrelWire s) (seq avail : Nat) :
    UnrelWire (s.getPackets seq avail).1 := by
  obtain ⟨hq, -, hch, -⟩ := SendUnrel.getPackets_drains (tuple4_eta (s.getPackets seq avail))
  refine ⟨by rw [hch]; exact h.1, ?_⟩
  rw [hq]; intro m hm; cases hm

theorem unrelWire_sendMessage {s : SendUnrel} {m : Bytes} (h : UnrelWire s) (hm : m.length ≤ WIRE_MSG_MAX) :
    UnrelWire (s.sendMessage m) := by
  unfold SendUnrel.sendMessage
  split
  · exact h
  · refine ⟨h.1, ?_⟩
    intro x hx
    simp only [List.mem_append, List.mem_singleton] at hx
    rcases hx with hx | rfl
    · exact h.2 x hx
    · exact hm

def Fits (m : Bytes) : Prop := m.length ≤ WIRE_MSG_MAX

theorem relWire_step {now : Nat} {s s' : SendRel} (h : RelWire s) (hs : SendRelStep ⟨Fits, True, fun _ => True⟩ now s s') : RelWire s' := by
  have hk := hs.entries (E := fun u => u.msg.length ≤ WIRE_MSG_MAX) ?_ ?_ (fun _ _ _ _ _ _ _ hu => hu) h.2
  · exact ⟨hk.1 ▸ h.1, hk.2⟩
  · intro m hm
    split
    · exact hm
    · exact hm
  · intro resend id a u hu
    rw [← (SI.EntryStep.sim (EntryStep.of_sent now resend id a u)).kin.msg]
    exact hu

theorem unrelWire_step {now : Nat} {s s' : SendUnrel} (h : UnrelWire s) (hs : SendUnrelStep ⟨Fits, True, fun _ => True⟩ now s s') : UnrelWire s' := by
  cases hs with
  | send hm => exact unrelWire_sendMessage h hm
  | flush seq avail _ => exact unrelWire_getPackets h seq avail

theorem wireInv_kept : Kept ⟨Fits, True, fun _ => True⟩ WireInv where
  frame h h1 h2 _ _ _ _ _ _ := h.of_eq h1 h2
  sendRel h hf hs := ⟨SMap.forall_mem_insert h.rel _ (relWire_step (h.rel _ (SMap.mem_of_find? hf)) hs), h.unrel⟩
  sendUnrel h hf hs := ⟨h.rel, SMap.forall_mem_insert h.unrel _ (unrelWire_step (h.unrel _ (SMap.mem_of_find? hf)) hs)⟩
  recvRel h _ _ := h.of_eq rfl rfl
  recvUnrel h _ _ := h.of_eq rfl rfl
  eraseSent _ h := h.of_eq rfl rfl
  insertSent _ _ h := h.of_eq rfl rfl

theorem WireInv.disconnectWith {c : Conn} (h : WireInv c) (r : Reason) : WireInv (c.disconnectWith r) :=
  wireInv_kept.disconnectWith h r

theorem WireInv.setConnected {c : Conn} (h : WireInv c) : WireInv c.setConnected := wireInv_kept.setConnected h

theorem WireInv.setConnecting {c : Conn} (h : WireInv c) : WireInv c.setConnecting := wireInv_kept.setConnecting h

theorem WireInv.sendMessage {c c' : Conn} {ch : Nat} {m : Bytes} (h : WireInv c) (hm : m.length ≤ WIRE_MSG_MAX)
    (hr : c.sendMessage ch m = .ok c') : WireInv c' :=
  wireInv_kept.sendMessage h hm hr

theorem WireInv.processPacket {c c' : Conn} {bytes : Bytes} (h : WireInv c) (hr : c.processPacket bytes = .ok c') :
    WireInv c' :=
  wireInv_kept.processPacket trivial h hr

theorem WireInv.getPacketsToSend {c c' : Conn} {out : List Bytes} (h : WireInv c)
    (hr : c.getPacketsToSend = .ok (c', out)) : WireInv c' :=
  wireInv_kept.getPacketsToSend trivial h hr

theorem sendUnrel_getPackets_wf {s s' : SendUnrel} {seq avail seq' avail' : Nat} {ps : List Packet}
    (h : s.getPackets seq avail = (s', ps, seq', avail')) (hw : UnrelWire s)
    (hid : s'.slicedId ≤ Varint.MAX + 1) (hseq : seq' ≤ Varint.MAX + 1) : ∀ p ∈ ps, p.WF := by
  intro p hp
  have hsq := SendUnrel.getPackets_seq_le h hseq p hp
  have hok := (SendUnrel.getPackets_emitted h).2 p hp
  cases p with
  | smallUnreliable sq c msgs =>
    obtain ⟨rfl, h1, h2⟩ := hok
    refine ⟨hsq, hw.1, ?_, ?_⟩
    · have := unrelSerSum_ge msgs
      unfold SLICE_SIZE at h1; omega
    · intro x hx
      have := (h2 x hx).2
      unfold SLICE_SIZE at this; unfold Varint.MAX; omega
  | unreliableSlice sq c sl =>
    obtain ⟨rfl, h1, h2, m, hm, h3, h4, h5, h6, _⟩ := hok
    have hle : sl.payload.length ≤ SLICE_SIZE := by
      rw [h6]; exact sliceBytes_length_le m _ _ (by rw [h4]; exact divCeil_mul_ge _)
    have hn : sl.numSlices ≤ MAX_NUM_SLICES := by rw [h4]; exact divCeil_le_max (hw.2 m hm)
    refine ⟨hsq, hw.1, by omega, ?_, by omega, hn, ?_⟩
    · unfold MAX_NUM_SLICES at hn; unfold Varint.MAX; omega
    · unfold SLICE_SIZE at hle; unfold Varint.MAX; omega
  | smallReliable _ _ _ => exact hok.elim
  | reliableSlice _ _ _ => exact hok.elim
  | ack _ _ => exact hok.elim

theorem wf_flush_kept : ChanKept ⟨fun _ => False, False, fun _ => True⟩
    (fun _ s => (s.WF ∧ s.nextId ≤ Varint.MAX + 1) ∧ RelWire s)
    (fun _ s => ((∀ m ∈ s.queue, m.length ≤ Varint.MAX) ∧ s.slicedId + s.queue.length ≤ Varint.MAX + 1) ∧ UnrelWire s) where
  flush {_ s} seq avail now _ hs := ⟨s.getPackets_ok seq avail now hs.1, relWire_step hs.2 (.flush seq avail trivial)⟩
  flushU {_ s} seq avail _ _ hs := ⟨s.getPackets_ok seq avail hs.1.2, unrelWire_getPackets hs.2 seq avail⟩

theorem chanLoop_wf {c : Conn} (hr : RelMapOK c.sendRel) (hu : UnrelMapOK c.sendUnrel) (hw : WireInv c)
    {order : List (Bool × Nat)} {sr' : SMap SendRel} {su' : SMap SendUnrel} {pk pk' : List Packet} {seq avail seq' avail' : Nat}
    (h : Conn.chanLoop c.now order (c.sendRel, c.sendUnrel, pk, seq, avail) = .ok (sr', su', pk', seq', avail'))
    (hseq : seq' ≤ Varint.MAX + 1) : ∃ ps, pk' = pk ++ ps ∧ ∀ p ∈ ps, p.WF :=
  (wf_flush_kept.all.chanLoop c trivial
    (fun _ _ ch s seq avail a hs hq =>
      SendRel.getPackets_wf (tuple4_eta _) (a.1 ch s hs).1.1 (a.1 ch s hs).2.1 (a.1 ch s hs).1.2 hq
        ((a.1 ch s hs).1.1.slices_le (a.1 ch s hs).2.2))
    (fun _ _ ch s seq avail a hs hq =>
      sendUnrel_getPackets_wf (tuple4_eta _) (a.2 ch s hs).2 (by
        have := (a.2 ch s hs).1.2
        have := SendUnrel.getPackets_slicedId (tuple4_eta (s.getPackets seq avail))
        omega) hq)
    h hseq ⟨fun ch s hs => ⟨hr ch s hs, hw.rel _ (SMap.mem_of_find? hs)⟩,
      fun ch s hs => ⟨hu ch s hs, hw.unrel _ (SMap.mem_of_find? hs)⟩⟩).2

theorem flushPackets_wf (c : Conn) (hinv : c.FlushInv) (hseq : c.flushSeq ≤ Varint.MAX + 1) (hw : WireInv c)
    (pk : List Packet) (h : c.flushPackets = .ok pk) : (∀ p ∈ pk, p.WF) ∧ ∀ p ∈ pk, PktFits p := by
  obtain ⟨sr, su, pk0, seq, avail, hr, rfl⟩ := Conn.flushPackets_ok h
  have hfs := Conn.flushSeq_of_loop hr
  obtain ⟨ps, h1, h2⟩ := chanLoop_wf hinv.rel hinv.unrel hw hr (by omega)
  rw [List.nil_append] at h1
  refine ⟨?_, fun p hp => (hinv.packets_fit hr (by omega) p hp).1⟩
  rw [h1]
  exact forall_withAck h2 (fun hne => ⟨by omega, (hinv.ack_fits hne (seq := seq) (by omega)).1⟩)

theorem flush_step_wf {c c' : Conn} {bs : List Bytes} (hg : EpGood c) (hr : ConnInRange c) (hw : WireInv c)
    (hd : c.isDisconnected = false) (h : c.getPacketsToSend = .ok (c', bs)) :
    ∃ pk, c.flushPackets = .ok pk ∧ Conn.serialiseAll pk = .ok bs ∧ (∀ p ∈ pk, p.WF) ∧ payloadSum pk ≤ c.budget ∧
      pk.map Packet.sequence = List.range' c.packetSeq pk.length := by
  have hc := countersOK_of_inRange hr
  have hfi := CI.flushInv_of hg.sinv hc
  obtain ⟨pk, hpk, hser⟩ := Conn.getPacketsToSend_serialises c c' bs hd h
  obtain ⟨hwf, hfits⟩ := flushPackets_wf c hfi hc.seq hw pk hpk
  obtain ⟨b1, b2⟩ := Conn.flushPackets_budget c pk hfi.rel.fit hpk
  refine ⟨pk, hpk, ?_, hwf, b1, b2⟩
  rcases hser with hs | ⟨-, e, he⟩
  · exact hs
  · obtain ⟨bs', hbs', -, -⟩ := serialiseAll_ok pk hfits
    rw [hbs'] at he; cases he

/-- the send channel ids of the configuration are bytes (`u8` in the Rust source) -/
def ChanBytes (cfg : Cfg) : Prop := ∀ c ∈ cfg.send, c.id < 256

instance (cfg : Cfg) : Decidable (ChanBytes cfg) := by unfold ChanBytes; infer_instance

def COp.lenOK : COp → Prop
  | .send _ m => m.length ≤ WIRE_MSG_MAX
  | _ => True

instance (op : COp) : Decidable (COp.lenOK op) := by cases op <;> unfold COp.lenOK <;> infer_instance

def MsgLenOK (ops : List COp) : Prop := ∀ op ∈ ops, COp.lenOK op

instance (ops : List COp) : Decidable (MsgLenOK ops) := by unfold MsgLenOK; infer_instance

theorem wireInv_init (cfg : Cfg) (h : ChanBytes cfg) : WireInv (MTr.init cfg).c := by
  refine ⟨?_, ?_⟩
  · intro x hx
    rcases SMap.mem_foldl_insert (fun c : ChanCfg => c.id) (fun c => SendRel.new c.id c.resend c.maxMem) _ hx with h0 | ⟨c, hc, rfl⟩
    · cases h0
    · exact ⟨h c (List.mem_filter.mp hc).1, fun y hy => by cases hy⟩
  · intro x hx
    rcases SMap.mem_foldl_insert (fun c : ChanCfg => c.id) (fun c => SendUnrel.new c.id c.maxMem) _ hx with h0 | ⟨c, hc, rfl⟩
    · cases h0
    · exact ⟨h c (List.mem_filter.mp hc).1, fun y hy => by cases hy⟩

theorem wireInv_step {t t' : MTr} {op : COp} (h : WireInv t.c) (hl : COp.lenOK op) (hs : t.step op = some t') :
    WireInv t'.c := by
  cases MTr.Step.of hs with
  | send hm => exact h.sendMessage hl hm
  | recv hm => exact h.of_eq (SI.Conn.receiveMessage_same hm).1.1 (SI.Conn.receiveMessage_same hm).1.2.1
  | update hm => exact h.of_eq (Conn.update_frame hm).sendRel (Conn.update_frame hm).sendUnrel
  | flush hm => exact h.getPacketsToSend hm
  | process hm => exact h.processPacket hm
  | setConnected => exact h.setConnected
  | setConnecting => exact h.setConnecting
  | disconnect => exact h.disconnectWith _
  | disconnectTransport => exact h.disconnectWith _

theorem wireInv_run (ops : List COp) (t t' : MTr) (h : WireInv t.c) (hl : MsgLenOK ops) (hr : t.run ops = some t') :
    WireInv t'.c :=
  (MTr.run_induction (I := fun t ops => WireInv t.c ∧ MsgLenOK ops)
    (fun _ op _ _ h hs => ⟨wireInv_step h.1 (h.2 op (List.mem_cons_self ..)) hs, fun o ho => h.2 o (List.mem_cons_of_mem _ ho)⟩)
    ops t t' ⟨h, hl⟩ hr).1

def FlushOK (bs : List Bytes) : Prop := ∃ pk, Conn.serialiseAll pk = .ok bs ∧ ∀ p ∈ pk, p.WF

theorem flushOK_flush {c c' : Conn} {bs : List Bytes} (hg : EpGood c) (hr : ConnInRange c) (hw : WireInv c)
    (hm : c.getPacketsToSend = .ok (c', bs)) : FlushOK bs := by
  rcases Conn.flush_cases hm with ⟨-, -, rfl⟩ | ⟨_, _, _, f⟩
  · exact ⟨[], rfl, fun p hp => by cases hp⟩
  · obtain ⟨pk, -, h2, h3, -⟩ := flush_step_wf hg hr hw f.live hm
    exact ⟨pk, h2, h3⟩

/-- **every packet of every flush of a trace is well-formed**: along ANY run of the model connection from `fromChannels`
    (channel ids bytes, counters in range, submitted messages at most `MAX_NUM_SLICES * SLICE_SIZE` bytes), every logged
    `get_packets_to_send` output is the serialisation, packet by packet, of packets satisfying `Packet.WF` -/
theorem flush_packets_wf (cfg : Cfg) (ops : List COp) (t : MTr) (hcb : ChanBytes cfg)
    (hrg : CRunInRangeFrom (MTr.init cfg) ops) (hl : MsgLenOK ops) (hr : (MTr.init cfg).run ops = some t) :
    WireInv t.c ∧ ∀ bs ∈ t.flushes, FlushOK bs :=
  ⟨wireInv_run ops _ t (wireInv_init cfg hcb) hl hr, by
    obtain ⟨news, hn, hall⟩ := MTr.flushes_all ops (MTr.init cfg) t hr
    intro bs hbs
    rw [hn] at hbs
    exact hall (fun t ops => EpGood t.c ∧ WireInv t.c ∧ CRunInRangeFrom t ops ∧ MsgLenOK ops) FlushOK
      (fun _ op _ _ ⟨hg, hw, hrg, hl⟩ hs => ⟨epGood_step hg hs, wireInv_step hw (hl op (List.mem_cons_self ..)) hs,
        (crunInRangeFrom_cons hrg hs).2.2, fun o ho => hl o (List.mem_cons_of_mem _ ho)⟩)
      (fun _ _ _ _ _ ⟨hg, hw, hrg, _⟩ e => flushOK_flush hg hrg.1 hw e)
      ⟨epGood_init cfg, wireInv_init cfg hcb, hrg, hl⟩ bs hbs⟩

/-- **a slice packet announcing more than `MAX_NUM_SLICES` slices serialises, and the decoder rejects its own
    serialisation.**  `get_packets_to_send` announces `num_slices = div_ceil(len, SLICE_SIZE)` (`slicedLoop`,
    `Unacked.newSliced`), which exceeds `MAX_NUM_SLICES` exactly for messages longer than `WIRE_MSG_MAX`; `send_message`
    accepts such a message whenever the channel's memory budget does. -/
theorem oversized_slice_rejected (seq ch : Nat) (sl : Slice) (h1 : seq ≤ Varint.MAX)
    (h3 : sl.messageId ≤ Varint.MAX) (h4 : sl.sliceIndex ≤ Varint.MAX) (h5 : sl.numSlices ≤ Varint.MAX)
    (hl : sl.payload.length ≤ Varint.MAX) (hbig : MAX_NUM_SLICES < sl.numSlices) :
    ∃ b, (Packet.reliableSlice seq ch sl).enc = .ok b ∧ Packet.fromBytes b = .error .invalidNumSlices := by
  have he := (Packet.enc_ok_iff (p := .reliableSlice seq ch sl)).2 ⟨⟨h1, h3, h4, h5, hl⟩, rfl⟩
  refine ⟨_, he, ?_⟩
  have hd := Packet.decode_enc_data he []
  dsimp only at hd
  rw [List.append_nil, if_pos (Or.inr hbig)] at hd
  simp only [Packet.fromBytes, hd]

theorem divCeil_gt_max {a : Nat} (h : WIRE_MSG_MAX < a) : MAX_NUM_SLICES < divCeil a SLICE_SIZE := by
  unfold divCeil
  unfold WIRE_MSG_MAX MAX_NUM_SLICES SLICE_SIZE at *
  omega

end RenetVerif.FlushWF
