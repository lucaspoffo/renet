/-
  Source tie, group NcTokenGen: `renetcode/src/token.rs` `PrivateConnectToken::generate`, `ConnectToken::generate` ↔
  `PrivateConnectToken.generate`, `ConnectToken.generate` of `Netcode/Token.lean`.

  `generate_random_bytes()` (crypto.rs, external; manifest `RANDOM_SOURCES`) is an explicit parameter per call site, in textual
  order: `PrivateConnectToken::generate` takes `rand1` (client_to_server_key), `rand2` (server_to_client_key), `rand3`
  (user data, used only when the caller passes `None`); `ConnectToken::generate` passes its `rand1..rand3` on and takes
  `rand4` (the XChaCha nonce).  The model takes the same bytes as arguments (`userData := ud.getD rand3`).
  `for (i, addr) in server_addresses.into_iter().enumerate()` fills the first slots of the 32-entry address array.
-/
import RenetVerif.Lemmas.SrcEquiv.NcTokenGen
import RenetVerif.Props.SrcTieNcCodec
namespace RenetVerif.SrcTie
open RenetVerif RenetVerif.SrcEquiv RenetVerif.RustSem RenetVerif.Netcode

/-- `MaxHostCount` above 32 addresses, `NoServerAddressAvailable` for none, else the token with the given keys -/
theorem nc_private_token_generate (cid : Nat) (to : Int) (addrs : List Addr) (ud : Option Bytes) (r1 r2 r3 : Bytes) :
    Src.renetcode.token.PrivateConnectToken.generate cid to (addrs.map reprAddr) (ud.map toNats) (toNats r1) (toNats r2) (toNats r3)
      = mapRes reprPTok reprTGE (Netcode.PrivateConnectToken.generate cid to addrs (ud.getD r3) r1 r2) := by
  unfold Src.renetcode.token.PrivateConnectToken.generate Netcode.PrivateConnectToken.generate
  have hlen : RustSem.len (addrs.map reprAddr) = addrs.length := by simp [RustSem.len]
  have hemp : RustSem.is_empty (addrs.map reprAddr) = addrs.isEmpty := by cases addrs <;> rfl
  have hK : C.NETCODE_TOKEN_MAX_ADDRESSES = 32 := rfl
  simp only [Exec.bind_eq, Exec.pure_eq, hlen, hemp, hK]
  by_cases hmax : addrs.length > 32
  · simp only [hmax, decide_true, if_true, Exec.bind_err', Exec.run_err, mapRes, reprTGE]
  simp only [hmax, decide_false, if_false, Bool.false_eq_true, Exec.bind_val']
  by_cases he : addrs.isEmpty = true
  · simp only [he, if_true, Exec.bind_err', Exec.run_err, mapRes, reprTGE]
  simp only [he]
  unfold RustSem.enumerate
  have hfill := fill_loop (ε := Src.renetcode.token.TokenGenerationError) (ρ := SPrivateConnectToken)
    "renetcode/src/token.rs:PrivateConnectToken::generate: server_addresses_arr[i]" addrs 0 (RustSem.repeat_ none 32)
    (by simp [RustSem.repeat_]; omega)
  rw [Exec.bind_skip (RustSem.forEach _ _ _) _ _ hfill]
  have harr : List.take 0 (RustSem.repeat_ (none : Option RustSem.SocketAddr) 32) ++ List.map (fun x => some (reprAddr x)) addrs ++
      List.drop (0 + addrs.length) (RustSem.repeat_ none 32)
      = reprAddrs (addrs.map some ++ List.replicate (32 - addrs.length) none) := by
    simp only [reprAddrs, RustSem.repeat_, List.take_zero, List.nil_append, Nat.zero_add, List.drop_replicate, List.map_append,
      List.map_map, List.map_replicate, Option.map_none]
    rfl
  rw [harr]
  cases ud with
  | none => simp only [Option.map_none, Exec.bind_val', mapRes, Option.getD_none]; rfl
  | some u => simp only [Option.map_some, Exec.bind_val', mapRes, Option.getD_some]; rfl

/-- `current_time.as_secs() + expire_seconds` panics on u64 overflow; the private part is sealed under `private_key` with the
    nonce `rand4` (AEAD abstract) -/
theorem nc_connect_token_generate (a : AEAD) (ct pid es cid : Nat) (to : Int) (addrs : List Addr) (ud : Option Bytes)
    (key r1 r2 r3 r4 : Bytes) :
    SameOutcome (@Src.renetcode.token.ConnectToken.generate (aeadOf a) ct pid es cid to (addrs.map reprAddr) (ud.map toNats)
        (toNats key) (toNats r1) (toNats r2) (toNats r3) (toNats r4))
      (mapRes reprTok reprTGE (Netcode.ConnectToken.generate a ct pid es cid to addrs (ud.getD r3) r1 r2 r4 key)) := by
  unfold Src.renetcode.token.ConnectToken.generate Netcode.ConnectToken.generate
  have hsecs : RustSem.Duration.as_secs ct = asSecs ct := rfl
  simp only [Exec.bind_eq, Exec.pure_eq, hsecs, nc_private_token_generate]
  by_cases hov : asSecs ct + es > U64_MAX
  · have hov' : ¬ asSecs ct + es < 2 ^ 64 := by simp only [U64_MAX] at hov; omega
    rw [add_panic hov', Exec.bind_panic']
    simp only [hov, if_true, Exec.run_panic, mapRes, SameOutcome]
  have hov' : asSecs ct + es < 2 ^ 64 := by simp only [U64_MAX] at hov; omega
  rw [add_val hov', Exec.bind_val']
  simp only [hov, if_false]
  cases hp : Netcode.PrivateConnectToken.generate cid to addrs (ud.getD r3) r1 r2 with
  | panic m => simp only [mapRes, Exec.call_panic, Exec.bind_panic', Exec.run_panic, Res.bind_panic, SameOutcome]
  | err e => simp only [mapRes, Exec.call_err, Exec.bind_err', Exec.run_err, Res.bind_err, SameOutcome]
  | ok priv =>
    have hle := (NcAead.Token.pt_generate_ok hp).2.1
    have hpriv := (NcAead.Token.pt_generate_ok hp).2.2
    have hslots : priv.serverAddresses.length = 32 := by
      rw [hpriv]
      simp only [List.length_append, List.length_map, List.length_replicate]
      have : C.NETCODE_TOKEN_MAX_ADDRESSES = 32 := rfl
      omega
    simp only [mapRes, Exec.call_ok, Exec.bind_val', Res.bind_ok, callFrom_fst,
      show RustSem.repeat_ 0 Src.renetcode.NETCODE_CONNECT_TOKEN_PRIVATE_BYTES
        = List.replicate C.NETCODE_CONNECT_TOKEN_PRIVATE_BYTES 0 from rfl,
      nc_private_token_encode a priv (by rw [hslots]; omega) pid (asSecs ct + es) r4 key]
    cases Netcode.PrivateConnectToken.encode a priv pid (asSecs ct + es) r4 key with
    | panic m => simp only [Exec.call_panic, Exec.bind_panic', Exec.run_panic, Res.bind_panic, SameOutcome]
    | err e => simp only [Exec.call_err, Exec.bind_err', Exec.run_err, Res.bind_err, SameOutcome]
    | ok b =>
      simp only [Exec.call_ok, Exec.bind_val', Exec.run_val, Res.bind_ok, Res.pure_eq, SameOutcome, version_info_eq]
      rw [hpriv]
      rfl

example : (match Src.renetcode.token.PrivateConnectToken.generate 7 15 [.v4 [10, 0, 0, 1] 5000, .v4 [10, 0, 0, 2] 5000] none
      [1] [2] [3] with
    | .ok t => (t.server_addresses.take 3, t.server_addresses.length, t.client_to_server_key, t.user_data)
        == ([some (.v4 [10, 0, 0, 1] 5000), some (.v4 [10, 0, 0, 2] 5000), none], 32, [1], [3])
    | _ => false) = true := by decide +kernel
example : Src.renetcode.token.PrivateConnectToken.generate 7 15 [] none [1] [2] [3] = .err .NoServerAddressAvailable := by
  decide +kernel

end RenetVerif.SrcTie
