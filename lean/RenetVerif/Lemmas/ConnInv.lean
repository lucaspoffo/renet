/-
  The total connection invariant `Conn.InvP` (properties C06 / C09): composition of
    * the send-side invariant `Conn.SendInv`                (Lemmas/SendInv.lean),
    * the pending-ack invariants                            (Lemmas/Acks.lean, Lemmas/Flush.lean),
    * the receive-channel invariants `RecvRel.InvP`, `RecvUnrel.InvP` (Lemmas/RecvInv.lean),
    * exact accounting of the unreliable send channels      (here).

  The invariant is parametrised by the per-constructor predicate `P` exactly like the receive-channel
  invariants: `Conn.Inv` (`P := SliceCtor.WInv`, dead zero-slice constructors tolerated) and `Conn.SInv`
  (`P := SliceCtor.Inv`, strict).  Because `process_packet` only ever sees slices produced by the packet
  decoder (which rejects `num_slices = 0`), BOTH instances are preserved by every operation on every input.
-/
import RenetVerif.Lemmas.RecvInv
import RenetVerif.Lemmas.SendInv
import RenetVerif.Lemmas.Flush
import RenetVerif.Lemmas.ServerLemmas
import RenetVerif.Lemmas.Acks
import RenetVerif.Lemmas.DecodeWF
import RenetVerif.Lemmas.Kept
import RenetVerif.Lemmas.DataPath
namespace RenetVerif
open C

def SendUnrel.Acct (s : SendUnrel) : Prop := s.mem = sumLen s.queue ∧ s.mem ≤ s.maxMem

/-- what the connection proofs need of the per-constructor predicate -/
structure GoodP (P : SliceCtor → Prop) : Prop where
  pred : CtorPred P
  new : ∀ n, 1 ≤ n → P (SliceCtor.new n)

theorem goodP_inv : GoodP SliceCtor.Inv := ⟨ctorPred_inv, SliceCtor.new_inv⟩
theorem goodP_winv : GoodP SliceCtor.WInv := ⟨ctorPred_winv, fun n _ => SliceCtor.new_winv n⟩

/-- the total connection invariant.  The channel clauses quantify over the ENTRIES of the association lists
    (stronger than quantifying over `find?` hits, and needs no sortedness of the channel maps). -/
structure Conn.InvP (P : SliceCtor → Prop) (c : Conn) : Prop where
  send : c.SendInv
  acksWF : Acks.WF c.pendingAcks
  acksLen : c.pendingAcks.length ≤ ACK_RANGE_CAP
  acksBound : ∀ r ∈ c.pendingAcks, r.2 ≤ Varint.MAX + 1
  recvRel : ∀ x ∈ c.recvRel, x.2.InvP P
  recvUnrel : ∀ x ∈ c.recvUnrel, x.2.InvP P
  sendUnrel : ∀ x ∈ c.sendUnrel, x.2.Acct

def Conn.Inv (c : Conn) : Prop := c.InvP SliceCtor.WInv
def Conn.SInv (c : Conn) : Prop := c.InvP SliceCtor.Inv

def Conn.hasRecv (c : Conn) (ch : Nat) : Prop :=
  SMap.find? c.recvRel ch ≠ none ∨ SMap.find? c.recvUnrel ch ≠ none
def Conn.hasSend (c : Conn) (ch : Nat) : Prop :=
  SMap.find? c.sendRel ch ≠ none ∨ SMap.find? c.sendUnrel ch ≠ none

structure Conn.SameChans (c c' : Conn) : Prop where
  sendRel : ∀ ch, (SMap.find? c'.sendRel ch).isSome = (SMap.find? c.sendRel ch).isSome
  sendUnrel : ∀ ch, (SMap.find? c'.sendUnrel ch).isSome = (SMap.find? c.sendUnrel ch).isSome
  recvRel : ∀ ch, (SMap.find? c'.recvRel ch).isSome = (SMap.find? c.recvRel ch).isSome
  recvUnrel : ∀ ch, (SMap.find? c'.recvUnrel ch).isSome = (SMap.find? c.recvUnrel ch).isSome
  order : c'.order = c.order

namespace CI

theorem _root_.RenetVerif.Conn.SameChans.refl (c : Conn) : c.SameChans c :=
  ⟨fun _ => rfl, fun _ => rfl, fun _ => rfl, fun _ => rfl, rfl⟩

theorem _root_.RenetVerif.Conn.SameChans.trans {a b c : Conn} (h1 : a.SameChans b) (h2 : b.SameChans c) :
    a.SameChans c :=
  ⟨fun k => (h2.sendRel k).trans (h1.sendRel k), fun k => (h2.sendUnrel k).trans (h1.sendUnrel k),
   fun k => (h2.recvRel k).trans (h1.recvRel k), fun k => (h2.recvUnrel k).trans (h1.recvUnrel k),
   h2.order.trans h1.order⟩

theorem _root_.RenetVerif.Conn.SameChans.symm {a b : Conn} (h : a.SameChans b) : b.SameChans a :=
  ⟨fun k => (h.sendRel k).symm, fun k => (h.sendUnrel k).symm, fun k => (h.recvRel k).symm,
   fun k => (h.recvUnrel k).symm, h.order.symm⟩

theorem _root_.RenetVerif.Conn.SameChans.hasSend {a b : Conn} (h : a.SameChans b) (ch : Nat) :
    b.hasSend ch ↔ a.hasSend ch := by
  unfold Conn.hasSend
  rw [Option.ne_none_iff_isSome, Option.ne_none_iff_isSome, Option.ne_none_iff_isSome, Option.ne_none_iff_isSome, h.sendRel, h.sendUnrel]

theorem _root_.RenetVerif.Conn.SameChans.hasRecv {a b : Conn} (h : a.SameChans b) (ch : Nat) :
    b.hasRecv ch ↔ a.hasRecv ch := by
  unfold Conn.hasRecv
  rw [Option.ne_none_iff_isSome, Option.ne_none_iff_isSome, Option.ne_none_iff_isSome, Option.ne_none_iff_isSome, h.recvRel, h.recvUnrel]

theorem sameChans_of_eq {c c' : Conn} (h1 : c'.sendRel = c.sendRel) (h2 : c'.sendUnrel = c.sendUnrel)
    (h3 : c'.recvRel = c.recvRel) (h4 : c'.recvUnrel = c.recvUnrel) (h5 : c'.order = c.order) : c.SameChans c' :=
  ⟨fun _ => by rw [h1], fun _ => by rw [h2], fun _ => by rw [h3], fun _ => by rw [h4], h5⟩

/-- no call adds or removes a channel or writes the send order: a table changes by `insert` at a key that is there -/
theorem sameChans_kept (c0 : Conn) : Kept .all (c0.SameChans ·) where
  frame h h1 h2 h3 h4 _ _ h7 _ := h.trans (sameChans_of_eq h1 h2 h3 h4 h7)
  sendRel h hf _ := h.trans ⟨fun k => SMap.isSome_find?_insert hf _ k, fun _ => rfl, fun _ => rfl, fun _ => rfl, rfl⟩
  sendUnrel h hf _ := h.trans ⟨fun _ => rfl, fun k => SMap.isSome_find?_insert hf _ k, fun _ => rfl, fun _ => rfl, rfl⟩
  recvRel h hf _ := h.trans ⟨fun _ => rfl, fun _ => rfl, fun k => SMap.isSome_find?_insert hf _ k, fun _ => rfl, rfl⟩
  recvUnrel h hf _ := h.trans ⟨fun _ => rfl, fun _ => rfl, fun _ => rfl, fun k => SMap.isSome_find?_insert hf _ k, rfl⟩
  eraseSent _ h := h.trans (sameChans_of_eq rfl rfl rfl rfl rfl)
  insertSent _ _ h := h.trans (sameChans_of_eq rfl rfl rfl rfl rfl)

theorem sameChans_dw (c : Conn) (r : Reason) : c.SameChans (c.disconnectWith r) :=
  (sameChans_kept c).disconnectWith (.refl c) r

theorem sameChans_setConnected (c : Conn) : c.SameChans c.setConnected := (sameChans_kept c).setConnected (.refl c)

theorem sameChans_setConnecting (c : Conn) : c.SameChans c.setConnecting := (sameChans_kept c).setConnecting (.refl c)

theorem slicesOk_mono {P Q : SliceCtor → Prop} (hpq : ∀ c, P c → Q c) {s : SMap SliceCtor} (h : SlicesOk P s) :
    SlicesOk Q s := h.mono hpq

theorem invP_mono {P Q : SliceCtor → Prop} (hpq : ∀ c, P c → Q c) {c : Conn} (h : c.InvP P) : c.InvP Q :=
  ⟨h.send, h.acksWF, h.acksLen, h.acksBound, fun x hx => (h.recvRel x hx).mono hpq,
   fun x hx => (h.recvUnrel x hx).mono hpq, h.sendUnrel⟩

theorem sinv_inv {c : Conn} (h : c.SInv) : c.Inv := invP_mono (fun _ hc => Or.inr hc) h

theorem cap_pos : 1 ≤ ACK_RANGE_CAP := by decide

theorem unrelSmallSum_eq_sumLen : ∀ (q : List Bytes), unrelSmallSum q = sumLen q
  | [] => rfl
  | m :: r => by
    have := unrelSmallSum_eq_sumLen r
    simp only [unrelSmallSum, List.map_cons, List.sum_cons, sumLen_cons] at *
    omega

theorem le_sumLen : ∀ {q : List Bytes} {m : Bytes}, m ∈ q → m.length ≤ sumLen q
  | x :: r, m, h => by
    simp only [List.mem_cons] at h
    rcases h with rfl | h
    · simp
    · have := le_sumLen h; simp; omega

theorem _root_.RenetVerif.Conn.InvP.recvRel_find {P} {c : Conn} (h : c.InvP P) {ch : Nat} {r : RecvRel}
    (hf : SMap.find? c.recvRel ch = some r) : r.InvP P := h.recvRel _ (SMap.mem_of_find? hf)
theorem _root_.RenetVerif.Conn.InvP.recvUnrel_find {P} {c : Conn} (h : c.InvP P) {ch : Nat} {r : RecvUnrel}
    (hf : SMap.find? c.recvUnrel ch = some r) : r.InvP P := h.recvUnrel _ (SMap.mem_of_find? hf)
theorem _root_.RenetVerif.Conn.InvP.sendUnrel_find {P} {c : Conn} (h : c.InvP P) {ch : Nat} {s : SendUnrel}
    (hf : SMap.find? c.sendUnrel ch = some s) : s.Acct := h.sendUnrel _ (SMap.mem_of_find? hf)
theorem _root_.RenetVerif.Conn.InvP.sendRel_find {P} {c : Conn} (h : c.InvP P) {ch : Nat} {s : SendRel}
    (hf : SMap.find? c.sendRel ch = some s) : s.Inv ∧ s.ch = ch := h.send.chans ch s hf

theorem _root_.RenetVerif.Conn.InvP.same {P} {c c' : Conn} (h : c.InvP P) (hs : c.SendSame c')
    (ha : c'.pendingAcks = c.pendingAcks) (hr : c'.recvRel = c.recvRel) (hu : c'.recvUnrel = c.recvUnrel) :
    c'.InvP P :=
  ⟨h.send.same hs, ha ▸ h.acksWF, ha ▸ h.acksLen, ha ▸ h.acksBound, hr ▸ h.recvRel, hu ▸ h.recvUnrel,
   hs.2.1 ▸ h.sendUnrel⟩

theorem _root_.RenetVerif.Conn.InvP.rebuild {P} {c : Conn} (h : c.InvP P) {A : List AckRange} {rr : SMap RecvRel}
    {ru : SMap RecvUnrel} (a1 : Acks.WF A) (a2 : A.length ≤ ACK_RANGE_CAP) (a3 : ∀ r ∈ A, r.2 ≤ Varint.MAX + 1)
    (hrr : ∀ x ∈ rr, x.2.InvP P) (hru : ∀ x ∈ ru, x.2.InvP P) :
    ({ c with pendingAcks := A, recvRel := rr, recvUnrel := ru } : Conn).InvP P :=
  ⟨h.send.same ⟨rfl, rfl, rfl, rfl, rfl⟩, a1, a2, a3, hrr, hru, h.sendUnrel⟩

theorem _root_.RenetVerif.Conn.InvP.setRecvRel {P} {c : Conn} (h : c.InvP P) {ch : Nat} {r' : RecvRel}
    (hr' : r'.InvP P) : ({ c with recvRel := SMap.insert c.recvRel ch r' } : Conn).InvP P :=
  h.rebuild h.acksWF h.acksLen h.acksBound (SMap.forall_mem_insert h.recvRel ch hr') h.recvUnrel

theorem _root_.RenetVerif.Conn.InvP.setRecvUnrel {P} {c : Conn} (h : c.InvP P) {ch : Nat} {r' : RecvUnrel}
    (hr' : r'.InvP P) : ({ c with recvUnrel := SMap.insert c.recvUnrel ch r' } : Conn).InvP P :=
  h.rebuild h.acksWF h.acksLen h.acksBound h.recvRel (SMap.forall_mem_insert h.recvUnrel ch hr')

theorem dw_status_live {c2 : Conn} (hd : c2.isDisconnected = false) (R : Reason) :
    (c2.disconnectWith R).status = .disconnected R := by
  rw [SL.Conn.disconnectWith_status, hd]; rfl

theorem dw_status_eq {c2 : Conn} {R : Reason} {S : Status} (hs : (c2.disconnectWith R).status = S)
    (hd : c2.isDisconnected = false) : S = .disconnected R := by
  rw [← hs, dw_status_live hd]

theorem status_live_ne {c : Conn} (hd : c.isDisconnected = false) (R : Reason) : c.status ≠ .disconnected R := by
  intro h
  rw [SL.Conn.isDisconnected_of_status h] at hd; cases hd

theorem _root_.RenetVerif.Conn.InvP.status {P} {c : Conn} (h : c.InvP P) (st : Status) :
    ({ c with status := st } : Conn).InvP P :=
  h.same ⟨rfl, rfl, rfl, rfl, rfl⟩ rfl rfl rfl

theorem _root_.RenetVerif.Conn.InvP.disconnectWith {P} {c : Conn} (h : c.InvP P) (r : Reason) :
    (c.disconnectWith r).InvP P :=
  let ⟨st, e⟩ := c.disconnectWith_eq r
  e ▸ h.status st

theorem _root_.RenetVerif.Conn.InvP.setConnected {P} {c : Conn} (h : c.InvP P) : c.setConnected.InvP P :=
  let ⟨st, e⟩ := c.setConnected_eq
  e ▸ h.status st

theorem _root_.RenetVerif.Conn.InvP.setConnecting {P} {c : Conn} (h : c.InvP P) : c.setConnecting.InvP P :=
  let ⟨st, e⟩ := c.setConnecting_eq
  e ▸ h.status st

theorem sendUnrel_new_acct (ch maxMem : Nat) : (SendUnrel.new ch maxMem).Acct := ⟨rfl, Nat.zero_le _⟩

/-- for ANY channel configuration (duplicate ids and ids ≥ 256 included: a later duplicate simply replaces the
    earlier channel object) -/
theorem fromChannels_invP {P} (budget : Nat) (send recv : List ChanCfg) :
    (Conn.fromChannels budget send recv).InvP P := by
  refine ⟨SI.Conn.fromChannels_inv budget send recv, trivial, Nat.zero_le _, fun _ h => (by cases h),
    SMap.forall_mem_foldl_insert _ _ (fun _ => RecvRel.new_invP _ _) _ (fun _ h => nomatch h),
    SMap.forall_mem_foldl_insert _ _ (fun _ => RecvUnrel.new_invP _ _) _ (fun _ h => nomatch h),
    SMap.forall_mem_foldl_insert _ _ (fun _ => sendUnrel_new_acct _ _) _ (fun _ h => nomatch h)⟩

theorem fromBytes_seq_le {b : Bytes} {p : Packet} (h : Packet.fromBytes b = .ok p) : p.sequence ≤ Varint.MAX := by
  have hw := Packet.fromBytes_wf h
  cases p <;> exact hw.1

theorem acks_bound_of_sub {l l' : List AckRange} {B : Nat} (hw : Acks.WF l')
    (hsub : ∀ x, Acks.Mem x l' → Acks.Mem x l) (hb : ∀ r ∈ l, r.2 ≤ B) : ∀ r ∈ l', r.2 ≤ B := by
  intro r hr
  have hne := Acks.wf_mem_nonempty hw r hr
  have hm : Acks.Mem (r.2 - 1) l' := Acks.mem_iff_exists.mpr ⟨r, hr, by omega, by omega⟩
  obtain ⟨r', hr', -, hx⟩ := Acks.mem_iff_exists.mp (hsub _ hm)
  have := hb r' hr'
  omega

theorem acks_add {l : List AckRange} {seq : Nat} (h1 : Acks.WF l) (h2 : l.length ≤ ACK_RANGE_CAP)
    (h3 : ∀ r ∈ l, r.2 ≤ Varint.MAX + 1) (hs : seq ≤ Varint.MAX) :
    Acks.WF (Acks.add ACK_RANGE_CAP seq l) ∧ (Acks.add ACK_RANGE_CAP seq l).length ≤ ACK_RANGE_CAP ∧
    ∀ r ∈ Acks.add ACK_RANGE_CAP seq l, r.2 ≤ Varint.MAX + 1 :=
  ⟨Acks.add_wf _ _ _ h1, Acks.add_length _ _ _ cap_pos h1 h2, Acks.add_bound _ _ _ _ h1 h3 (by omega)⟩

theorem relMsgLoop_safeP {P} : ∀ (msgs : List (Nat × Bytes)) (r : RecvRel), r.InvP P →
    (∃ r', Conn.relMsgLoop r msgs = .ok r' ∧ r'.InvP P) ∨
    (∃ e r', Conn.relMsgLoop r msgs = .err (e, r') ∧ r'.InvP P)
  | [], r, h => Or.inl ⟨r, rfl, h⟩
  | (id, m) :: rest, r, h => by
    rcases RecvRel.processMessage_safeP r h m id with ⟨r1, he, h1⟩ | ⟨e, r1, he, h1⟩
    · simp only [Conn.relMsgLoop, he]
      exact relMsgLoop_safeP rest r1 h1
    · simp only [Conn.relMsgLoop, he]
      exact Or.inr ⟨e, r1, rfl, h1⟩

theorem ackOne_acksLen {c c' : Conn} {seq : Nat} (h : c.ackOne seq = .ok c') :
    c'.pendingAcks.length ≤ c.pendingAcks.length := by
  rcases (Conn.ackOne_acks h).2 with e | ⟨t, l, -, e⟩
  · rw [e]; exact Nat.le_refl _
  · rw [e]; exact Acks.ackedLargest_length _ _

theorem feed_total {P} {α : Type} {J : α → Prop} {tbl : SMap α} {put : SMap α → Conn} {c : Conn} (h : c.InvP P) (ch : Nat)
    (f : α → Res (ChanErr × α) α) (hfind : ∀ r, SMap.find? tbl ch = some r → J r)
    (hput : ∀ r', J r' → (put (SMap.insert tbl ch r')).InvP P)
    (hf : ∀ r, J r → (∃ r', f r = .ok r' ∧ J r') ∨ (∃ e r', f r = .err (e, r') ∧ J r')) :
    ∃ c', Conn.feed tbl put c ch f = .ok c' ∧ c'.InvP P := by
  unfold Conn.feed
  cases hr : SMap.find? tbl ch with
  | none => exact ⟨_, rfl, h.disconnectWith _⟩
  | some r =>
    dsimp only
    rcases hf r (hfind r hr) with ⟨r', e, hr'⟩ | ⟨e0, r', e, hr'⟩
    · rw [e]
      exact ⟨_, rfl, hput r' hr'⟩
    · rw [e]
      exact ⟨_, rfl, (hput r' hr').disconnectWith _⟩

theorem feed_refused {α : Type} {tbl : SMap α} {put : SMap α → Conn} {c c' : Conn} {ch ch' : Nat}
    {f : α → Res (ChanErr × α) α} {err : ChanErr} (e : Conn.feed tbl put c ch f = .ok c')
    (hput : ∀ m, (put m).isDisconnected = false) (hd : c.isDisconnected = false)
    (hs : c'.status = .disconnected (.recvChan ch' err)) :
    ch' = ch ∧ ∃ r r', SMap.find? tbl ch = some r ∧ f r = .err (err, r') := by
  rcases Conn.feed_cases e with ⟨-, rfl⟩ | ⟨r, r', hf, ⟨-, rfl⟩ | ⟨e0, hl, rfl⟩⟩
  · cases dw_status_eq hs hd
  · exact absurd hs (status_live_ne (hput _) _)
  · cases dw_status_eq hs (hput _)
    exact ⟨rfl, r, r', hf, hl⟩

/-- **C06 core.**  Whatever bytes arrive, in whatever state satisfying the invariant: `process_packet` returns
    normally and the invariant holds again (the status of a call that returned: `SL.Conn.processPacket_statusStep`). -/
theorem processPacket_totalP {P} (hP : GoodP P) {c : Conn} (h : c.InvP P) (bytes : Bytes) :
    ∃ c', c.processPacket bytes = .ok c' ∧ c'.InvP P ∧ c.SameChans c' := by
  suffices hi : ∃ c', c.processPacket bytes = .ok c' ∧ c'.InvP P from
    let ⟨c', e, i⟩ := hi
    ⟨c', e, i, (sameChans_kept c).processPacket trivial (.refl c) e⟩
  cases hd : c.isDisconnected with
  | true => exact ⟨c, Conn.processPacket_dead hd _, h⟩
  | false =>
    cases hp : Packet.fromBytes bytes with
    | error e => exact ⟨_, Conn.processPacket_garbage hp, h.disconnectWith _⟩
    | ok p =>
      obtain ⟨a1, a2, a3⟩ := acks_add h.acksWF h.acksLen h.acksBound (fromBytes_seq_le hp)
      -- the state in which the packet reaches its channel
      have h1 := h.rebuild a1 a2 a3 h.recvRel h.recvUnrel
      cases p with
      | ack aseq ranges =>
        obtain ⟨L, c', -, e, i, eff, -, -, hl⟩ := SI.Conn.processPacket_ack_spec h.send hd hp
        obtain ⟨f1, f2, -, -, -, -, -, f8⟩ := eff.frame
        obtain ⟨hw', hlen, hsub⟩ := SI.Conn.ackLoop_pending L hl h.send.sentSorted a1
        exact ⟨c', e, i, hw', Nat.le_trans hlen a2, acks_bound_of_sub hw' (fun x => (hsub x).1) a3, f1 ▸ h.recvRel,
          f2 ▸ h.recvUnrel, f8 ▸ h.sendUnrel⟩
      | smallReliable seq ch msgs =>
        simp only [Conn.processPacket_live hd hp, Conn.dispatch]
        exact feed_total h1 ch _ (fun _ => h1.recvRel_find) (fun _ => h1.setRecvRel) (relMsgLoop_safeP msgs)
      | smallUnreliable seq ch msgs =>
        simp only [Conn.processPacket_live hd hp, Conn.dispatch]
        exact feed_total h1 ch _ (fun _ => h1.recvUnrel_find) (fun _ => h1.setRecvUnrel)
          fun r hr => Or.inl ⟨_, rfl, DataPath.foldl_inv RecvUnrel.processMessage (RecvUnrel.InvP _) (fun _ => True)
            (fun r m h _ => r.processMessage_safeP h m) msgs r hr fun _ _ => trivial⟩
      | reliableSlice seq ch sl =>
        have hn := (Packet.fromBytes_numSlices bytes _ hp seq ch sl (Or.inl rfl)).1
        simp only [Conn.processPacket_live hd hp, Conn.dispatch]
        exact feed_total h1 ch _ (fun _ => h1.recvRel_find) (fun _ => h1.setRecvRel)
          fun r hr => RecvRel.processSlice_safeP hP.pred r hr sl (hP.new _ hn)
      | unreliableSlice seq ch sl =>
        have hn := (Packet.fromBytes_numSlices bytes _ hp seq ch sl (Or.inr rfl)).1
        simp only [Conn.processPacket_live hd hp, Conn.dispatch]
        exact feed_total h1 ch _ (fun _ => h1.recvUnrel_find) (fun _ => h1.setRecvUnrel)
          fun r hr => RecvUnrel.processSlice_safeP hP.pred r hr sl c.now (hP.new _ hn)

theorem processPacket_invP {P} (hP : GoodP P) {c c' : Conn} {bytes : Bytes} (h : c.InvP P)
    (hr : c.processPacket bytes = .ok c') : c'.InvP P ∧ c.SameChans c' := by
  obtain ⟨c'', e, i, sc⟩ := processPacket_totalP hP h bytes
  cases e.symm.trans hr
  exact ⟨i, sc⟩

theorem discardLoop_last_mono (ids : List Nat) (r r' : RecvUnrel) (hs : SMap.Sorted r.lastReceived)
    (h : discardLoop ids r = .ok r') :
    ∀ k t, SMap.find? r'.lastReceived k = some t → SMap.find? r.lastReceived k = some t :=
  (discardLoop_pres (Q := fun r1 => SMap.Sorted r1.lastReceived ∧
      ∀ k t, SMap.find? r1.lastReceived k = some t → SMap.find? r.lastReceived k = some t)
    (fun _ id _ hq => ⟨SMap.sorted_erase hq.1 id, fun k t hk => hq.2 k t (SMap.find?_erase_some hq.1.nodup hk).2⟩)
    ids r r' h ⟨hs, fun _ _ hk => hk⟩).2

theorem discardAll_specP {P} (now : Nat) : ∀ (m : SMap RecvUnrel), (∀ x ∈ m, x.2.InvP P) →
    ∃ m', Conn.discardAll now m = .ok m' ∧ (∀ x ∈ m', x.2.InvP P) ∧
      (∀ k, SMap.find? m k = none → SMap.find? m' k = none) ∧
      (∀ k r, SMap.find? m k = some r → ∃ r', r.discardOld now = .ok r' ∧ SMap.find? m' k = some r')
  | [], _ => ⟨[], rfl, fun _ hx => (by cases hx), fun _ hk => hk, fun _ _ hk => (by cases hk)⟩
  | (k0, r0) :: rest, h => by
    obtain ⟨r0', e0, i0⟩ := RecvUnrel.discardOld_safeP r0 (h (k0, r0) (List.mem_cons_self ..)) now
    obtain ⟨rest', e1, i1, n1, f1⟩ := discardAll_specP now rest (fun x hx => h x (List.mem_cons_of_mem _ hx))
    refine ⟨(k0, r0') :: rest', by simp [Conn.discardAll, e0, e1], ?_, ?_, ?_⟩
    · intro x hx
      simp only [List.mem_cons] at hx
      rcases hx with rfl | hx
      · exact i0
      · exact i1 x hx
    · intro k hk
      rw [SMap.find?_cons] at hk ⊢
      split
      · rename_i e; rw [if_pos e] at hk; cases hk
      · rename_i e; rw [if_neg e] at hk; exact n1 k hk
    · intro k r hk
      rw [SMap.find?_cons] at hk ⊢
      split
      · rename_i e; rw [if_pos e] at hk; cases hk; exact ⟨r0', e0, rfl⟩
      · rename_i e; rw [if_neg e] at hk; exact f1 k r hk

theorem update_totalP {P} {c : Conn} (h : c.InvP P) (dt : Nat) :
    ∃ c', c.update dt = .ok c' ∧ c'.InvP P ∧ c'.status = c.status ∧ c'.now = c.now + dt ∧ c.SameChans c' ∧
      (∀ ch, SMap.find? c.recvUnrel ch = none → SMap.find? c'.recvUnrel ch = none) ∧
      (∀ ch r, SMap.find? c.recvUnrel ch = some r →
        ∃ r', r.discardOld (c.now + dt) = .ok r' ∧ SMap.find? c'.recvUnrel ch = some r') := by
  obtain ⟨ru, e0, i0, n0, f0⟩ := discardAll_specP (c.now + dt) c.recvUnrel h.recvUnrel
  have e : c.update dt = .ok
      { c with now := c.now + dt
               recvUnrel := ru
               sent := c.sent.dropWhile (fun (_, (t, _)) => c.now + dt - t ≥ DISCARD_AFTER_NS) } := by
    simp only [Conn.update, e0, Res.bind_ok, Res.pure_eq]
  refine ⟨_, e, ⟨SI.Conn.update_inv h.send e, h.acksWF, h.acksLen, h.acksBound, h.recvRel, i0, h.sendUnrel⟩,
    rfl, rfl, ⟨fun _ => rfl, fun _ => rfl, fun _ => rfl, fun k => ?_, rfl⟩, n0, f0⟩
  show (SMap.find? ru k).isSome = (SMap.find? c.recvUnrel k).isSome
  cases hk : SMap.find? c.recvUnrel k with
  | none => rw [n0 k hk]
  | some r => obtain ⟨r', -, h1⟩ := f0 k r hk; rw [h1]; rfl

theorem update_invP {P} {c c' : Conn} {dt : Nat} (h : c.InvP P) (hr : c.update dt = .ok c') :
    c'.InvP P ∧ c.SameChans c' := by
  obtain ⟨c'', e, i, -, -, sc, -⟩ := update_totalP h dt
  cases e.symm.trans hr
  exact ⟨i, sc⟩

theorem receiveMessage_invP {P} {c c' : Conn} {ch : Nat} {m : Option Bytes} (h : c.InvP P)
    (hr : c.receiveMessage ch = .ok (c', m)) : c'.InvP P ∧ c'.status = c.status ∧ c.SameChans c' := by
  refine ⟨?_, (SL.Conn.receiveMessage_frame hr).2.2.2.1, (sameChans_kept c).receiveMessage (.refl c) hr⟩
  rcases Conn.receiveMessage_outcomes hr with ⟨-, rfl, -⟩ | ⟨-, r, r', hf, e, rfl⟩ | ⟨-, -, r, r', hg, e, rfl⟩
  · exact h
  · obtain ⟨r'', m', e', i⟩ := RecvRel.receive_safeP r (h.recvRel_find hf)
    cases e'.symm.trans e
    exact h.setRecvRel i
  · obtain ⟨r'', m', e', i⟩ := RecvUnrel.receive_safeP r (h.recvUnrel_find hg)
    cases e'.symm.trans e
    exact h.setRecvUnrel i

theorem receiveMessage_totalP {P} {c : Conn} (h : c.InvP P) (ch : Nat) (hch : c.hasRecv ch) :
    ∃ c' m, c.receiveMessage ch = .ok (c', m) ∧ c'.InvP P ∧ c'.status = c.status ∧ c.SameChans c' := by
  have : ∃ c' m, c.receiveMessage ch = .ok (c', m) := by
    unfold Conn.receiveMessage
    cases hd : c.isDisconnected with
    | true => exact ⟨c, none, rfl⟩
    | false =>
      simp only [Bool.false_eq_true, if_false]
      cases hf : SMap.find? c.recvRel ch with
      | some r =>
        obtain ⟨r', m, e, -⟩ := RecvRel.receive_safeP r (h.recvRel_find hf)
        simp only [e, Res.bind_ok, Res.pure_eq]
        exact ⟨_, m, rfl⟩
      | none =>
        simp only
        cases hg : SMap.find? c.recvUnrel ch with
        | some r =>
          obtain ⟨r', m, e, -⟩ := RecvUnrel.receive_safeP r (h.recvUnrel_find hg)
          simp only [e, Res.bind_ok, Res.pure_eq]
          exact ⟨_, m, rfl⟩
        | none => exact (hch.elim (· hf) (· hg)).elim
  obtain ⟨c', m, e⟩ := this
  exact ⟨c', m, e, receiveMessage_invP h e⟩

theorem sendUnrel_sendMessage_acct {s : SendUnrel} (h : s.Acct) (m : Bytes) : (s.sendMessage m).Acct := by
  unfold SendUnrel.sendMessage
  split
  · exact h
  · refine ⟨?_, by show s.mem + m.length ≤ s.maxMem; omega⟩
    show s.mem + m.length = sumLen (s.queue ++ [m])
    rw [sumLen_append, ← h.1]; simp

theorem sendMessage_invP {P} {c c' : Conn} {ch : Nat} {m : Bytes} (h : c.InvP P) (hr : c.sendMessage ch m = .ok c') :
    c'.InvP P ∧ (c'.status = c.status ∨ ∃ e, c'.status = .disconnected (.sendChan ch e)) ∧ c.SameChans c' := by
  have key : c'.recvRel = c.recvRel → c'.recvUnrel = c.recvUnrel → c'.pendingAcks = c.pendingAcks →
      (∀ x ∈ c'.sendUnrel, x.2.Acct) → c'.InvP P := fun h1 h2 h3 h4 =>
    ⟨SI.Conn.sendMessage_inv h.send hr, h3 ▸ h.acksWF, h3 ▸ h.acksLen, h3 ▸ h.acksBound, h1 ▸ h.recvRel,
      h2 ▸ h.recvUnrel, h4⟩
  have sc := (sameChans_kept c).sendMessage (.refl c) trivial hr
  rcases Conn.sendMessage_outcomes hr with ⟨-, rfl⟩ | ⟨hd, s, hf, ⟨s', -, rfl⟩ | ⟨err, -, rfl⟩⟩ | ⟨-, -, su, hg, rfl⟩
  · exact ⟨h, Or.inl rfl, sc⟩
  · exact ⟨key rfl rfl rfl h.sendUnrel, Or.inl rfl, sc⟩
  · exact ⟨h.disconnectWith _, Or.inr ⟨err, dw_status_live hd _⟩, sc⟩
  · exact ⟨key rfl rfl rfl (SMap.forall_mem_insert h.sendUnrel ch (sendUnrel_sendMessage_acct (h.sendUnrel_find hg) m)),
      Or.inl rfl, sc⟩

theorem sendMessage_total {c : Conn} {ch : Nat} (m : Bytes) (hch : c.hasSend ch) :
    ∃ c', c.sendMessage ch m = .ok c' := by
  unfold Conn.sendMessage
  cases hd : c.isDisconnected with
  | true => exact ⟨c, rfl⟩
  | false =>
    simp only [Bool.false_eq_true, if_false]
    cases hf : SMap.find? c.sendRel ch with
    | some s => cases hs : s.sendMessage m <;> simp only [hs] <;> exact ⟨_, rfl⟩
    | none =>
      cases hg : SMap.find? c.sendUnrel ch with
      | some su => exact ⟨_, rfl⟩
      | none => exact (hch.elim (· hf) (· hg)).elim

theorem sendMessage_totalP {P} {c : Conn} (h : c.InvP P) (ch : Nat) (m : Bytes) (hch : c.hasSend ch) :
    ∃ c', c.sendMessage ch m = .ok c' ∧ c'.InvP P ∧
      (c'.status = c.status ∨ ∃ e, c'.status = .disconnected (.sendChan ch e)) ∧ c.SameChans c' :=
  let ⟨c', e⟩ := sendMessage_total m hch
  ⟨c', e, sendMessage_invP h e⟩


end CI

/-- the counters the wire format cannot carry beyond `2^62 - 1` (octets varints): message ids, slice-message ids,
    packet sequence numbers, and (via the configured budgets) message lengths.  `flushSeq` is the value
    `packet_sequence` has after this flush. -/
structure Conn.CountersOK (c : Conn) : Prop where
  rel : ∀ ch s, SMap.find? c.sendRel ch = some s → s.nextId ≤ Varint.MAX + 1 ∧ s.maxMem ≤ Varint.MAX
  unrel : ∀ ch s, SMap.find? c.sendUnrel ch = some s →
    s.slicedId + s.queue.length ≤ Varint.MAX + 1 ∧ s.maxMem ≤ Varint.MAX
  seq : c.flushSeq ≤ Varint.MAX + 1

instance (c : Conn) : Decidable c.CountersOK :=
  decidable_of_iff (_ ∧ _ ∧ _) ⟨fun h => ⟨h.1, h.2.1, h.2.2⟩, fun h => ⟨h.rel, h.unrel, h.seq⟩⟩

namespace CI

theorem flushInv_of {P} {c : Conn} (h : c.InvP P) (hc : c.CountersOK) : c.FlushInv := by
  refine ⟨?_, ?_, ?_, h.acksWF, h.acksLen, h.acksBound⟩
  · intro x hx
    have := h.send.order x hx
    split
    · rename_i hb; rw [if_pos hb] at this
      intro hn; rw [hn] at this; cases this
    · rename_i hb; rw [if_neg hb] at this
      intro hn; rw [hn] at this; cases this
  · intro ch s hs
    obtain ⟨c1, c2⟩ := hc.rel ch s hs
    exact ⟨(h.sendRel_find hs).1.wf_of_maxMem c2, c1⟩
  · intro ch s hs
    obtain ⟨c1, c2⟩ := hc.unrel ch s hs
    have ha := h.sendUnrel_find hs
    refine ⟨fun m hm => ?_, c1⟩
    have := le_sumLen hm
    have := ha.1; have := ha.2; omega

def Drained (su : SMap SendUnrel) (ch : Nat) : Prop :=
  ∀ s, SMap.find? su ch = some s → s.queue = [] ∧ s.mem = 0

theorem sendUnrel_getPackets_acct {s : SendUnrel} (h : s.Acct) (seq avail : Nat) :
    (s.getPackets seq avail).1.Acct ∧ (s.getPackets seq avail).1.queue = [] ∧ (s.getPackets seq avail).1.mem = 0 ∧
    (s.getPackets seq avail).1.maxMem = s.maxMem := by
  obtain ⟨d1, d2, -, d4⟩ := SendUnrel.getPackets_drains (s := s) (s' := (s.getPackets seq avail).1)
    (ps := (s.getPackets seq avail).2.1) (seq' := (s.getPackets seq avail).2.2.1)
    (avail' := (s.getPackets seq avail).2.2.2) rfl
  have h0 : (s.getPackets seq avail).1.mem = 0 := by
    rw [d2, unrelSmallSum_eq_sumLen, h.1]; omega
  refine ⟨⟨?_, by omega⟩, d1, h0, d4⟩
  rw [h0, d1]; rfl

theorem chanLoop_unrel (now : Nat) : ∀ (ord : List (Bool × Nat)) (st st' : ChanSt),
    Conn.chanLoop now ord st = .ok st' → (∀ x ∈ st.2.1, x.2.Acct) →
    (∀ x ∈ st'.2.1, x.2.Acct) ∧ (∀ ch, Drained st.2.1 ch → Drained st'.2.1 ch) ∧
    (∀ ch, (false, ch) ∈ ord → Drained st'.2.1 ch)
  | [], st, st', h, ha => by
    cases h
    exact ⟨ha, fun _ hd => hd, fun _ hm => (by cases hm)⟩
  | (true, ch0) :: rest, (sr, su, pk, seq, avail), st', h, ha => by
    rw [chanLoop_rel_step] at h
    split at h
    · cases h
    · obtain ⟨i1, i2, i3⟩ := chanLoop_unrel now rest _ _ h ha
      refine ⟨i1, i2, fun ch hm => ?_⟩
      simp only [List.mem_cons, Prod.mk.injEq, Bool.false_eq_true, false_and, false_or] at hm
      exact i3 ch hm
  | (false, ch0) :: rest, (sr, su, pk, seq, avail), st', h, ha => by
    rw [chanLoop_unrel_step] at h
    split at h
    · cases h
    · rename_i s hs
      obtain ⟨g1, g2, g3, -⟩ := sendUnrel_getPackets_acct (ha _ (SMap.mem_of_find? hs)) seq avail
      obtain ⟨i1, i2, i3⟩ := chanLoop_unrel now rest _ _ h (SMap.forall_mem_insert ha ch0 g1)
      have hd0 : Drained (SMap.insert su ch0 (s.getPackets seq avail).1) ch0 := by
        intro s1 h1
        rw [SMap.find?_insert, if_pos rfl] at h1
        cases h1; exact ⟨g2, g3⟩
      refine ⟨i1, fun ch hd => i2 ch ?_, fun ch hm => ?_⟩
      · by_cases e : ch0 = ch
        · subst e; exact hd0
        · intro s1 h1
          rw [SMap.find?_insert, if_neg e] at h1
          exact hd s1 h1
      · simp only [List.mem_cons, Prod.mk.injEq, true_and] at hm
        rcases hm with rfl | hm
        · exact i2 _ hd0
        · exact i3 ch hm

theorem getPacketsToSend_invP {P} {c c' : Conn} {out : List Bytes} (h : c.InvP P)
    (hr : c.getPacketsToSend = .ok (c', out)) : c'.InvP P ∧ c.SameChans c' := by
  refine ⟨?_, (sameChans_kept c).getPacketsToSend trivial (.refl c) hr⟩
  rcases Conn.flush_cases hr with ⟨-, rfl, -⟩ | ⟨pk0, seq0, avail, o⟩
  · exact h
  · obtain ⟨i, a, -, -⟩ := SI.Conn.getPacketsToSend_spec h.send h.acksWF hr
    exact ⟨i, a ▸ h.acksWF, a ▸ h.acksLen, a ▸ h.acksBound, o.recvRel ▸ h.recvRel, o.recvUnrel ▸ h.recvUnrel,
      (chanLoop_unrel _ _ _ _ o.loop h.sendUnrel).1⟩

/-- status unchanged: in particular no `PacketSerialization` self-disconnect -/
theorem getPacketsToSend_totalP {P} {c : Conn} (h : c.InvP P) (hc : c.CountersOK) :
    ∃ c' out, c.getPacketsToSend = .ok (c', out) ∧ c'.InvP P ∧ c'.status = c.status ∧
      (∀ b ∈ out, b.length ≤ NETCODE_MAX_PAYLOAD_BYTES) := by
  obtain ⟨c', out, e, hs, hl, -⟩ := Conn.getPacketsToSend_fits c (flushInv_of h hc) hc.seq
  exact ⟨c', out, e, (getPacketsToSend_invP h e).1, hs, hl⟩

/-- the channel id an operation names exists (the documented contract of `send_message` / `receive_message`) -/
def ChanValid (c : Conn) : SL.ConnOp → Prop
  | .sendMessage ch _ => c.hasSend ch
  | .receiveMessage ch => c.hasRecv ch
  | _ => True

theorem ChanValid.same {c c' : Conn} (h : c.SameChans c') {op : SL.ConnOp} (hv : ChanValid c op) : ChanValid c' op := by
  cases op <;> first | trivial | exact (h.hasSend _).mpr hv | exact (h.hasRecv _).mpr hv

def isFlush : SL.ConnOp → Bool
  | .getPacketsToSend => true
  | _ => false

/-- no side condition: an invalid channel id or a failed flush does not return -/
theorem apply_invP {P} (hP : GoodP P) {c c' : Conn} (h : c.InvP P) {op : SL.ConnOp} (e : op.apply c = .ok c') :
    c'.InvP P ∧ c.SameChans c' := by
  cases op with
  | setConnected => cases e; exact ⟨h.setConnected, sameChans_setConnected c⟩
  | setConnecting => cases e; exact ⟨h.setConnecting, sameChans_setConnecting c⟩
  | disconnect => cases e; exact ⟨h.disconnectWith _, sameChans_dw c _⟩
  | disconnectWith r => cases e; exact ⟨h.disconnectWith _, sameChans_dw c _⟩
  | sendMessage ch m => exact ⟨(sendMessage_invP h e).1, (sendMessage_invP h e).2.2⟩
  | receiveMessage ch =>
    obtain ⟨m, e⟩ := SL.Res.stateOf_ok e
    exact ⟨(receiveMessage_invP h e).1, (receiveMessage_invP h e).2.2⟩
  | processPacket b => exact processPacket_invP hP h e
  | getPacketsToSend =>
    obtain ⟨out, e⟩ := SL.Res.stateOf_ok e
    exact getPacketsToSend_invP h e
  | update dt => exact update_invP h e

/-- the side conditions are what makes the call return; what it leaves is `apply_invP` -/
theorem apply_totalP {P} (hP : GoodP P) {c : Conn} (h : c.InvP P) (op : SL.ConnOp) (hv : ChanValid c op)
    (hc : isFlush op = true → c.CountersOK) :
    ∃ c', op.apply c = .ok c' ∧ c'.InvP P ∧ c.SameChans c' := by
  have : ∃ c', op.apply c = .ok c' := by
    cases op with
    | setConnected | setConnecting | disconnect | disconnectWith r => exact ⟨_, rfl⟩
    | sendMessage ch m => exact sendMessage_total m hv
    | receiveMessage ch =>
      obtain ⟨c', m, e, -⟩ := receiveMessage_totalP h ch hv
      exact ⟨c', by simp only [SL.ConnOp.apply, e, SL.Res.stateOf]⟩
    | processPacket b => exact (processPacket_totalP hP h b).imp fun _ t => t.1
    | getPacketsToSend =>
      obtain ⟨c', out, e, -⟩ := getPacketsToSend_totalP h (hc rfl)
      exact ⟨c', by simp only [SL.ConnOp.apply, e, SL.Res.stateOf]⟩
    | update dt => exact (update_totalP h dt).imp fun _ t => t.1
  obtain ⟨c', e⟩ := this
  exact ⟨c', e, apply_invP hP h e⟩

def FlushOK (c : Conn) : List SL.ConnOp → Prop
  | [] => True
  | op :: rest => (isFlush op = true → c.CountersOK) ∧ ∀ c', op.apply c = .ok c' → FlushOK c' rest

/-- **"subsequent API calls keep working"**: any sequence of public operations with valid channel ids — hostile
    bytes anywhere — runs to completion without unwinding and ends in a state satisfying the invariant.  For each
    flush in the sequence the counters must be in range in the state in which it is called (`FlushOK`). -/
theorem runOps_totalP {P} (hP : GoodP P) : ∀ (ops : List SL.ConnOp) (c : Conn), c.InvP P →
    (∀ op ∈ ops, ChanValid c op) → FlushOK c ops →
    ∃ c', SL.Conn.runOps c ops = .ok c' ∧ c'.InvP P ∧ c.SameChans c'
  | [], c, h, _, _ => ⟨c, rfl, h, Conn.SameChans.refl c⟩
  | op :: rest, c, h, hv, hc => by
    obtain ⟨c1, e1, i1, s1⟩ := apply_totalP hP h op (hv op (List.mem_cons_self ..)) hc.1
    obtain ⟨c2, e2, i2, s2⟩ := runOps_totalP hP rest c1 i1
      (fun o ho => ChanValid.same s1 (hv o (List.mem_cons_of_mem _ ho))) (hc.2 c1 e1)
    exact ⟨c2, by simp only [SL.Conn.runOps, e1]; exact e2, i2, s1.trans s2⟩

theorem flushOK_of_noflush : ∀ (ops : List SL.ConnOp) (c : Conn), (∀ op ∈ ops, isFlush op = false) → FlushOK c ops
  | [], _, _ => trivial
  | op :: rest, c, h =>
    ⟨fun hf => (by
        have := h op (List.mem_cons_self ..)
        rw [this] at hf; cases hf),
     fun c' _ => flushOK_of_noflush rest c' (fun o ho => h o (List.mem_cons_of_mem _ ho))⟩

def countersOKb (c : Conn) : Bool :=
  c.sendRel.all (fun x => decide (x.2.nextId ≤ Varint.MAX + 1) && decide (x.2.maxMem ≤ Varint.MAX)) &&
  c.sendUnrel.all (fun x => decide (x.2.slicedId + x.2.queue.length ≤ Varint.MAX + 1) &&
    decide (x.2.maxMem ≤ Varint.MAX)) &&
  decide (c.flushSeq ≤ Varint.MAX + 1)

theorem countersOK_of_b {c : Conn} (h : countersOKb c = true) : c.CountersOK := by
  simp only [countersOKb, Bool.and_eq_true, List.all_eq_true, decide_eq_true_eq] at h
  obtain ⟨⟨h1, h2⟩, h3⟩ := h
  exact ⟨fun ch s hf => h1 _ (SMap.mem_of_find? hf), fun ch s hf => h2 _ (SMap.mem_of_find? hf), h3⟩

instance decOk {ε α : Type} (x : Res ε α) (P : α → Prop) [∀ a, Decidable (P a)] : Decidable (∀ a, x = .ok a → P a) :=
  match x with
  | .ok a => decidable_of_iff (P a) ⟨fun h _ e => by cases e; exact h, fun h => h a rfl⟩
  | .err _ => isTrue fun _ e => nomatch e
  | .panic _ => isTrue fun _ e => nomatch e

instance FlushOK.dec : ∀ (c : Conn) (ops : List SL.ConnOp), Decidable (FlushOK c ops)
  | _, [] => isTrue trivial
  | c, op :: rest =>
    have := fun c' => FlushOK.dec c' rest
    inferInstanceAs (Decidable ((isFlush op = true → c.CountersOK) ∧ ∀ c', op.apply c = .ok c' → FlushOK c' rest))

instance (c : Conn) (ch : Nat) : Decidable (c.hasSend ch) := by unfold Conn.hasSend; infer_instance
instance (c : Conn) (ch : Nat) : Decidable (c.hasRecv ch) := by unfold Conn.hasRecv; infer_instance
instance (c : Conn) (op : SL.ConnOp) : Decidable (ChanValid c op) := by
  cases op <;> simp only [ChanValid] <;> infer_instance

theorem fromChannels_hasSend (budget : Nat) (send recv : List ChanCfg) (ch : Nat) (h : ch ∈ send.map (·.id)) :
    (Conn.fromChannels budget send recv).hasSend ch := by
  obtain ⟨cfg, hcfg, rfl⟩ := List.mem_map.mp h
  unfold Conn.hasSend
  rw [Option.ne_none_iff_isSome, Option.ne_none_iff_isSome]
  by_cases hk : cfg.kind = .unreliable
  · exact Or.inr (SMap.contains_foldl_filter hcfg (by simp [hk]))
  · exact Or.inl (SMap.contains_foldl_filter hcfg (by simp [hk]))

theorem fromChannels_hasRecv (budget : Nat) (send recv : List ChanCfg) (ch : Nat) (h : ch ∈ recv.map (·.id)) :
    (Conn.fromChannels budget send recv).hasRecv ch := by
  obtain ⟨cfg, hcfg, rfl⟩ := List.mem_map.mp h
  unfold Conn.hasRecv
  rw [Option.ne_none_iff_isSome, Option.ne_none_iff_isSome]
  by_cases hk : cfg.kind = .unreliable
  · exact Or.inr (SMap.contains_foldl_filter hcfg (by simp [hk]))
  · exact Or.inl (SMap.contains_foldl_filter hcfg (by simp [hk]))

def CfgValid (send recv : List ChanCfg) : SL.ConnOp → Prop
  | .sendMessage ch _ => ch ∈ send.map (·.id)
  | .receiveMessage ch => ch ∈ recv.map (·.id)
  | _ => True

theorem CfgValid.chanValid {budget : Nat} {send recv : List ChanCfg} {op : SL.ConnOp} (h : CfgValid send recv op) :
    ChanValid (Conn.fromChannels budget send recv) op := by
  cases op <;> first | trivial | exact fromChannels_hasSend _ _ _ _ h | exact fromChannels_hasRecv _ _ _ _ h


end CI

/-- every connection of the table satisfies the connection invariant and has exactly the channels the server
    configures for its clients -/
structure Server.InvP (P : SliceCtor → Prop) (s : Server) : Prop where
  conns : ∀ x ∈ s.conns, x.2.InvP P
  chans : ∀ x ∈ s.conns, s.newConn.SameChans x.2

def Server.Inv (s : Server) : Prop := s.InvP SliceCtor.WInv
def Server.SInv (s : Server) : Prop := s.InvP SliceCtor.Inv

namespace CI

theorem server_new_invP {P} (budget : Nat) (sc cc : List ChanCfg) : (Server.new budget sc cc).InvP P :=
  ⟨fun _ hx => (by cases hx), fun _ hx => (by cases hx)⟩

theorem _root_.RenetVerif.Server.InvP.find {P} {s : Server} (h : s.InvP P) {i : Nat} {c : Conn}
    (hf : SMap.find? s.conns i = some c) : c.InvP P ∧ s.newConn.SameChans c :=
  ⟨h.conns _ (SMap.mem_of_find? hf), h.chans _ (SMap.mem_of_find? hf)⟩

theorem _root_.RenetVerif.Server.InvP.setConn {P} {s : Server} (h : s.InvP P) (i : Nat) {c' : Conn} (hc : c'.InvP P)
    (hs : s.newConn.SameChans c') : ({ s with conns := SMap.insert s.conns i c' } : Server).InvP P :=
  ⟨SMap.forall_mem_insert h.conns i hc, SMap.forall_mem_insert (Q := fun c => s.newConn.SameChans c) h.chans i hs⟩

theorem server_addConnection_invP {P} {s : Server} (h : s.InvP P) (id : Nat) : (s.addConnection id).InvP P := by
  unfold Server.addConnection
  split
  · exact h
  · exact ⟨SMap.forall_mem_insert h.conns id (fromChannels_invP _ _ _).setConnected,
      SMap.forall_mem_insert (Q := fun c => s.newConn.SameChans c) h.chans id (sameChans_setConnected _)⟩

theorem server_removeConnection_invP {P} {s : Server} (h : s.InvP P) (id : Nat) : (s.removeConnection id).InvP P := by
  unfold Server.removeConnection
  split
  · exact h
  · exact ⟨fun x hx => h.conns x (SMap.mem_erase hx), fun x hx => h.chans x (SMap.mem_erase hx)⟩

theorem server_disconnect_invP {P} {s : Server} (h : s.InvP P) (id : Nat) : (s.disconnect id).InvP P := by
  unfold Server.disconnect
  split
  · exact h
  · rename_i c hf
    obtain ⟨i, sc⟩ := h.find hf
    exact h.setConn id (i.disconnectWith _) ((sameChans_kept _).disconnectWith sc _)

theorem server_disconnectAll_invP {P} {s : Server} (h : s.InvP P) : s.disconnectAll.InvP P := by
  unfold Server.disconnectAll
  constructor
  · intro x hx
    obtain ⟨y, hy, rfl⟩ := List.mem_map.mp hx
    exact (h.conns y hy).disconnectWith _
  · intro x hx
    obtain ⟨y, hy, rfl⟩ := List.mem_map.mp hx
    exact (sameChans_kept _).disconnectWith (h.chans y hy) _

theorem server_getEvent_invP {P} {s : Server} (h : s.InvP P) : s.getEvent.1.InvP P := by
  unfold Server.getEvent
  split
  · exact h
  · exact ⟨h.conns, h.chans⟩

/-! The calls return and the invariant holds again.  What else a call that returned has done to the table — `Addressed`,
    `QuietC`, the entry of the addressed client — is `SL.Server.*_spec` of the equation. -/

/-- **C06, server.**  Whatever bytes are attributed to whatever client id: `process_packet_from` returns normally and
    the server invariant holds again. -/
theorem server_processPacketFrom_totalP {P} (hP : GoodP P) {s : Server} (h : s.InvP P) (bytes : Bytes) (i : Nat) :
    ∃ s' ok, s.processPacketFrom bytes i = .ok (s', ok) ∧ s'.InvP P := by
  cases hf : SMap.find? s.conns i with
  | none => exact ⟨s, false, by unfold Server.processPacketFrom; rw [hf], h⟩
  | some c =>
    obtain ⟨ic, sc⟩ := h.find hf
    obtain ⟨c', e', i', sc'⟩ := processPacket_totalP hP ic bytes
    exact ⟨_, true, SL.Server.processPacketFrom_at hf e', h.setConn i i' (sc.trans sc')⟩

theorem server_sendMessage_totalP {P} {s : Server} (h : s.InvP P) (i ch : Nat) (m : Bytes)
    (hch : s.newConn.hasSend ch) : ∃ s', s.sendMessage i ch m = .ok s' ∧ s'.InvP P := by
  cases hf : SMap.find? s.conns i with
  | none => exact ⟨s, by unfold Server.sendMessage; rw [hf], h⟩
  | some c =>
    obtain ⟨ic, sc⟩ := h.find hf
    obtain ⟨c', e', i', -, sc'⟩ := sendMessage_totalP ic ch m ((sc.hasSend ch).mpr hch)
    exact ⟨_, SL.Server.sendMessage_at hf e', h.setConn i i' (sc.trans sc')⟩

theorem server_receiveMessage_totalP {P} {s : Server} (h : s.InvP P) (i ch : Nat) (hch : s.newConn.hasRecv ch) :
    ∃ s' m, s.receiveMessage i ch = .ok (s', m) ∧ s'.InvP P := by
  cases hf : SMap.find? s.conns i with
  | none => exact ⟨s, none, by unfold Server.receiveMessage; rw [hf], h⟩
  | some c =>
    obtain ⟨ic, sc⟩ := h.find hf
    obtain ⟨c', m, e', i', -, sc'⟩ := receiveMessage_totalP ic ch ((sc.hasRecv ch).mpr hch)
    exact ⟨_, m, SL.Server.receiveMessage_at hf e', h.setConn i i' (sc.trans sc')⟩

theorem server_getPacketsToSend_totalP {P} {s : Server} (h : s.InvP P) (i : Nat)
    (hc : ∀ c, SMap.find? s.conns i = some c → c.CountersOK) :
    ∃ s' out, s.getPacketsToSend i = .ok (s', out) ∧ s'.InvP P ∧
      (∀ ps, out = some ps → ∀ b ∈ ps, b.length ≤ NETCODE_MAX_PAYLOAD_BYTES) := by
  cases hf : SMap.find? s.conns i with
  | none => exact ⟨s, none, by unfold Server.getPacketsToSend; rw [hf], h, fun _ hn => (by cases hn)⟩
  | some c =>
    obtain ⟨ic, sc⟩ := h.find hf
    obtain ⟨c', out, e', i', -, hl⟩ := getPacketsToSend_totalP ic (hc c hf)
    exact ⟨_, some out, SL.Server.getPacketsToSend_at hf e',
      h.setConn i i' (sc.trans (getPacketsToSend_invP ic e').2), fun ps hps => by cases hps; exact hl⟩

theorem mapConnsM_total {Q : Conn → Prop} (f : Nat → Conn → Res Empty Conn)
    (hf : ∀ k c, Q c → ∃ c', f k c = .ok c' ∧ Q c') : ∀ (m : SMap Conn), (∀ x ∈ m, Q x.2) →
    ∃ m', Server.mapConnsM f m = .ok m' ∧ ∀ x ∈ m', Q x.2
  | [], _ => ⟨[], rfl, fun _ hx => (by cases hx)⟩
  | (k, c) :: rest, h => by
    obtain ⟨c', e1, q1⟩ := hf k c (h (k, c) (List.mem_cons_self ..))
    obtain ⟨rest', e2, q2⟩ := mapConnsM_total f hf rest (fun x hx => h x (List.mem_cons_of_mem _ hx))
    refine ⟨(k, c') :: rest', by simp only [Server.mapConnsM, e1, e2, Res.bind_ok, Res.pure_eq], ?_⟩
    intro x hx
    simp only [List.mem_cons] at hx
    rcases hx with rfl | hx
    · exact q1
    · exact q2 x hx

theorem _root_.RenetVerif.Server.InvP.mapConns {P} {s : Server} (h : s.InvP P) (f : Nat → Conn → Res Empty Conn)
    (hf : ∀ k c, c.InvP P → s.newConn.SameChans c → ∃ c', f k c = .ok c' ∧ c'.InvP P ∧ c.SameChans c') :
    ∃ m', Server.mapConnsM f s.conns = .ok m' ∧ ({ s with conns := m' } : Server).InvP P := by
  obtain ⟨m', e', q⟩ := mapConnsM_total (Q := fun c => c.InvP P ∧ s.newConn.SameChans c) f
    (fun k c hq => by
      obtain ⟨c', e, i, sc⟩ := hf k c hq.1 hq.2
      exact ⟨c', e, i, hq.2.trans sc⟩) s.conns (fun x hx => ⟨h.conns x hx, h.chans x hx⟩)
  exact ⟨m', e', fun x hx => (q x hx).1, fun x hx => (q x hx).2⟩

theorem server_update_totalP {P} {s : Server} (h : s.InvP P) (dt : Nat) : ∃ s', s.update dt = .ok s' ∧ s'.InvP P := by
  obtain ⟨m', e', i⟩ := h.mapConns (fun _ c => c.update dt) fun k c hc _ => by
    obtain ⟨c', e, i, -, -, sc, -⟩ := update_totalP hc dt
    exact ⟨c', e, i, sc⟩
  exact ⟨_, by unfold Server.update; simp only [e', Res.bind_ok, Res.pure_eq], i⟩

theorem server_broadcast_totalP {P} {s : Server} (h : s.InvP P) (ch : Nat) (m : Bytes) (hch : s.newConn.hasSend ch) :
    ∃ s', s.broadcast ch m = .ok s' ∧ s'.InvP P := by
  obtain ⟨m', e', i⟩ := h.mapConns (fun _ c => c.sendMessage ch m) fun k c hc sc => by
    obtain ⟨c', e, i, -, sc'⟩ := sendMessage_totalP hc ch m ((sc.hasSend ch).mpr hch)
    exact ⟨c', e, i, sc'⟩
  exact ⟨_, by unfold Server.broadcast; simp only [e', Res.bind_ok, Res.pure_eq], i⟩

theorem server_broadcastExcept_totalP {P} {s : Server} (h : s.InvP P) (ex ch : Nat) (m : Bytes)
    (hch : s.newConn.hasSend ch) : ∃ s', s.broadcastExcept ex ch m = .ok s' ∧ s'.InvP P := by
  obtain ⟨m', e', i⟩ := h.mapConns (fun k c => if k = ex then .ok c else c.sendMessage ch m) fun k c hc sc => by
    by_cases hk : k = ex
    · exact ⟨c, by simp only [hk, if_true], hc, .refl c⟩
    · obtain ⟨c', e, i, -, sc'⟩ := sendMessage_totalP hc ch m ((sc.hasSend ch).mpr hch)
      exact ⟨c', by simp only [hk, if_false]; exact e, i, sc'⟩
  exact ⟨_, by unfold Server.broadcastExcept; simp only [e', Res.bind_ok, Res.pure_eq], i⟩


theorem server_disconnectLocalClient_invP {P} {s : Server} (h : s.InvP P) (id : Nat) (cl : Conn) :
    (s.disconnectLocalClient id cl).1.InvP P := by
  unfold Server.disconnectLocalClient
  split
  · exact h
  · dsimp only
    split
    · exact h
    · exact ⟨fun x hx => h.conns x (SMap.mem_erase hx), fun x hx => h.chans x (SMap.mem_erase hx)⟩

theorem feedClient_totalP {P} (hP : GoodP P) : ∀ (ps : List Bytes) (cl : Conn), cl.InvP P →
    ∃ cl', Server.feedClient cl ps = .ok cl' ∧ cl'.InvP P
  | [], cl, h => ⟨cl, rfl, h⟩
  | p :: rest, cl, h => by
    obtain ⟨c1, e1, i1, -⟩ := processPacket_totalP hP h p
    obtain ⟨c2, e2, i2⟩ := feedClient_totalP hP rest c1 i1
    exact ⟨c2, by simp only [Server.feedClient, e1, Res.bind_ok]; exact e2, i2⟩

theorem feedServer_totalP {P} (hP : GoodP P) (id : Nat) : ∀ (ps : List Bytes) (s : Server), s.InvP P →
    ∃ s' ok, Server.feedServer s id ps = .ok (s', ok) ∧ s'.InvP P
  | [], s, h => ⟨s, true, rfl, h⟩
  | p :: rest, s, h => by
    obtain ⟨s1, ok, e1, i1⟩ := server_processPacketFrom_totalP hP h p id
    cases ok with
    | false =>
      exact ⟨s1, false, by simp only [Server.feedServer, e1, Res.bind_ok, Bool.false_eq_true, if_false, Res.pure_eq], i1⟩
    | true =>
      obtain ⟨s2, ok2, e2, i2⟩ := feedServer_totalP hP id rest s1 i1
      exact ⟨s2, ok2, by simp only [Server.feedServer, e1, Res.bind_ok, if_true]; exact e2, i2⟩

/-- side conditions of one server operation: channel ids from the configuration, counters in range for a flush.
    `process_local_client` (which takes an arbitrary client object as argument) is not covered. -/
def SrvValid (s : Server) : SL.SrvOp → Prop
  | .broadcast ch _ => s.newConn.hasSend ch
  | .broadcastExcept _ ch _ => s.newConn.hasSend ch
  | .send _ ch _ => s.newConn.hasSend ch
  | .receive _ ch => s.newConn.hasRecv ch
  | .getPacketsToSend id => ∀ c, SMap.find? s.conns id = some c → c.CountersOK
  | .processLocalClient _ _ => False
  | _ => True

theorem srvApply_totalP {P} (hP : GoodP P) {st : SL.SrvState} (h : st.1.InvP P) (op : SL.SrvOp)
    (hv : SrvValid st.1 op) : ∃ st', op.apply st = .ok st' ∧ st'.1.InvP P := by
  cases op with
  | add id => exact ⟨_, rfl, server_addConnection_invP h id⟩
  | remove id => exact ⟨_, rfl, server_removeConnection_invP h id⟩
  | disconnect id => exact ⟨_, rfl, server_disconnect_invP h id⟩
  | disconnectAll => exact ⟨_, rfl, server_disconnectAll_invP h⟩
  | broadcast ch m =>
    obtain ⟨s', e, i⟩ := server_broadcast_totalP h ch m hv
    exact ⟨(s', st.2), by simp only [SL.SrvOp.apply, e, SL.keepPopped], i⟩
  | broadcastExcept ex ch m =>
    obtain ⟨s', e, i⟩ := server_broadcastExcept_totalP h ex ch m hv
    exact ⟨(s', st.2), by simp only [SL.SrvOp.apply, e, SL.keepPopped], i⟩
  | send id ch m =>
    obtain ⟨s', e, i⟩ := server_sendMessage_totalP h id ch m hv
    exact ⟨(s', st.2), by simp only [SL.SrvOp.apply, e, SL.keepPopped], i⟩
  | receive id ch =>
    obtain ⟨s', m, e, i⟩ := server_receiveMessage_totalP h id ch hv
    exact ⟨(s', st.2), by simp only [SL.SrvOp.apply, e, SL.Res.stateOf, SL.keepPopped], i⟩
  | update dt =>
    obtain ⟨s', e, i⟩ := server_update_totalP h dt
    exact ⟨(s', st.2), by simp only [SL.SrvOp.apply, e, SL.keepPopped], i⟩
  | getPacketsToSend id =>
    obtain ⟨s', out, e, i, -⟩ := server_getPacketsToSend_totalP h id hv
    exact ⟨(s', st.2), by simp only [SL.SrvOp.apply, e, SL.Res.stateOf, SL.keepPopped], i⟩
  | processPacketFrom b id =>
    obtain ⟨s', ok, e, i⟩ := server_processPacketFrom_totalP hP h b id
    exact ⟨(s', st.2), by simp only [SL.SrvOp.apply, e, SL.Res.stateOf, SL.keepPopped], i⟩
  | getEvent => exact ⟨_, rfl, server_getEvent_invP h⟩
  | newLocalClient id => exact ⟨_, rfl, server_addConnection_invP h id⟩
  | disconnectLocalClient id cl => exact ⟨_, rfl, server_disconnectLocalClient_invP h id cl⟩
  | processLocalClient id cl => exact hv.elim

def SrvPre (st : SL.SrvState) : List SL.SrvOp → Prop
  | [] => True
  | op :: rest => SrvValid st.1 op ∧ ∀ st', op.apply st = .ok st' → SrvPre st' rest

/-- **the server keeps working**: any sequence of server operations (hostile bytes attributed to any client id
    anywhere in it) runs to completion and ends in a state whose connections all satisfy the invariant -/
theorem runSrv_totalP {P} (hP : GoodP P) : ∀ (ops : List SL.SrvOp) (st : SL.SrvState), st.1.InvP P → SrvPre st ops →
    ∃ st', SL.runSrv st ops = .ok st' ∧ st'.1.InvP P
  | [], st, h, _ => ⟨st, rfl, h⟩
  | op :: rest, st, h, hp => by
    obtain ⟨st1, e1, i1⟩ := srvApply_totalP hP h op hp.1
    obtain ⟨st2, e2, i2⟩ := runSrv_totalP hP rest st1 i1 (hp.2 st1 e1)
    exact ⟨st2, by simp only [SL.runSrv, e1]; exact e2, i2⟩

def srvValidb (s : Server) : SL.SrvOp → Bool
  | .broadcast ch _ => decide (s.newConn.hasSend ch)
  | .broadcastExcept _ ch _ => decide (s.newConn.hasSend ch)
  | .send _ ch _ => decide (s.newConn.hasSend ch)
  | .receive _ ch => decide (s.newConn.hasRecv ch)
  | .getPacketsToSend id => match SMap.find? s.conns id with
    | some c => countersOKb c
    | none => true
  | .processLocalClient _ _ => false
  | _ => true

theorem srvValid_of_b {s : Server} {op : SL.SrvOp} (h : srvValidb s op = true) : SrvValid s op := by
  cases op <;> simp only [srvValidb, decide_eq_true_eq] at h <;> try trivial
  all_goals first
    | exact h
    | (intro c hc; rw [hc] at h; exact countersOK_of_b h)
    | cases h

instance (s : Server) (op : SL.SrvOp) : Decidable (SrvValid s op) := by
  cases op <;> simp only [SrvValid] <;> infer_instance

instance SrvPre.dec : ∀ (st : SL.SrvState) (ops : List SL.SrvOp), Decidable (SrvPre st ops)
  | _, [] => isTrue trivial
  | st, op :: rest =>
    have := fun st' => SrvPre.dec st' rest
    inferInstanceAs (Decidable (SrvValid st.1 op ∧ ∀ st', op.apply st = .ok st' → SrvPre st' rest))

/-! ## C09: memory accounting -/

/-! ### (f) already-delivered / already-complete messages are ignored entirely (repaired defect D1) -/

theorem recvRel_processSlice_ignored (r : RecvRel) (sl : Slice)
    (h : SMap.contains r.messages sl.messageId = true ∨ sl.messageId < r.oldest ∨
      (r.ordered = false ∧ sl.messageId ∈ r.received)) : r.processSlice sl = .ok r := by
  rw [RecvRel.processSlice_eq]
  rcases h with h | h | ⟨h1, h2⟩
  · rw [if_pos (Or.inl h)]
  · rw [if_pos (Or.inr h)]
  · split
    · rfl
    · rw [if_pos ⟨by simp [h1], by simpa using h2⟩]

theorem recvRel_processMessage_ignored (r : RecvRel) (m : Bytes) (id : Nat)
    (h : id < r.oldest ∨ (r.ordered = true ∧ SMap.contains r.messages id = true) ∨
      (r.ordered = false ∧ id ∈ r.received)) : r.processMessage m id = .ok r := by
  rw [RecvRel.processMessage_eq, if_pos]
  rcases h with h | ⟨h1, h2⟩ | ⟨h1, h2⟩
  · exact Or.inl h
  · exact Or.inr (by rw [if_pos h1]; exact h2)
  · exact Or.inr (by rw [if_neg (by simp [h1])]; exact h2)

/-! ### (g) a reliable receive channel refuses only what does not fit -/

/-- **refusal only over budget**: `ReliableChannelMaxMemoryReached` is returned only
    * by `process_message` for a message that does not fit in what is left of the budget, or
    * by `process_slice` for the FIRST slice seen of a message whose reservation `num_slices * SLICE_SIZE` does
      not fit;
    never for a slice of a message whose constructor already exists (its memory is already reserved), and never
    at completion.  In both cases the channel state is unchanged. -/
theorem refusal_only_over_budget {P} (hP : CtorPred P) (r : RecvRel) (h : r.InvP P) :
    (∀ m id r', r.processMessage m id = .err (.maxMemory, r') → r' = r ∧ r.mem + m.length > r.maxMem) ∧
    (∀ sl r', P (SliceCtor.new sl.numSlices) → r.processSlice sl = .err (.maxMemory, r') →
      r' = r ∧ SMap.contains r.slices sl.messageId = false ∧ r.mem + sl.numSlices * SLICE_SIZE > r.maxMem) := by
  refine ⟨fun m id r' he => (DataPath.processMessage_err he).2, ?_⟩
  intro sl r' hnew he
  rw [RecvRel.processSlice_eq] at he
  split at he
  · cases he
  split at he
  · cases he
  rcases RecvRel.reserveStep_spec r h sl hnew with ⟨hnc, hgt, hr⟩ | ⟨r1, hr, hr1, hc1⟩
  · rw [hr] at he
    cases he
    exact ⟨rfl, hnc, hgt⟩
  · rw [hr, Res.bind_ok] at he
    rcases RecvRel.sliceStep_spec hP r1 hr1 sl hc1 with ⟨r2, e2, -⟩ | ⟨e2, r2, e3, -, rfl⟩
    · rw [e2] at he; cases he
    · rw [e3] at he; cases he

/-! ### (g) at connection level: a `ReliableChannelMaxMemoryReached` disconnect needs over-budget traffic -/

theorem relSmallSum_cons (id : Nat) (m : Bytes) (rest : List (Nat × Bytes)) :
    relSmallSum ((id, m) :: rest) = m.length + relSmallSum rest := by
  simp [relSmallSum]

theorem relMsgLoop_refusal : ∀ (msgs : List (Nat × Bytes)) (r : RecvRel) (e : ChanErr) (r' : RecvRel),
    Conn.relMsgLoop r msgs = .err (e, r') → e = .maxMemory ∧ r.mem + relSmallSum msgs > r.maxMem
  | [], r, e, r', h => by cases h
  | (id, m) :: rest, r, e, r', h => by
    rw [relSmallSum_cons]
    cases hp : r.processMessage m id with
    | ok r1 =>
      simp only [Conn.relMsgLoop, hp] at h
      obtain ⟨h1, h2⟩ := relMsgLoop_refusal rest r1 e r' h
      obtain ⟨-, -, m1, m2, -⟩ := DataPath.processMessage_ok hp
      exact ⟨h1, by omega⟩
    | err x =>
      obtain ⟨e0, r0⟩ := x
      simp only [Conn.relMsgLoop, hp, Res.err.injEq, Prod.mk.injEq] at h
      obtain ⟨rfl, rfl⟩ := h
      obtain ⟨a, -, b⟩ := DataPath.processMessage_err hp
      exact ⟨a, by omega⟩
    | panic s => simp only [Conn.relMsgLoop, hp] at h; cases h

/-! ### (f) continued: once handed to the application, a message id is ignored forever -/

end CI

/-- message `id` has been handed to the application (ordered: the cursor passed it; unordered: the cursor passed it
    or it is remembered in `received`) -/
def RecvRel.Done (r : RecvRel) (id : Nat) : Prop := id < r.oldest ∨ (r.ordered = false ∧ id ∈ r.received)

namespace CI

theorem keeps_refl (r : RecvRel) : r.Keeps r := ⟨rfl, Nat.le_refl _, fun _ hk => Or.inr hk⟩

theorem keeps_of_eq {r r' : RecvRel} (h1 : r'.ordered = r.ordered) (h2 : r'.oldest = r.oldest)
    (h3 : r'.received = r.received) : r.Keeps r' := ⟨h1, by omega, fun k hk => Or.inr (h3 ▸ hk)⟩

theorem keeps_trans {a b c : RecvRel} (h1 : a.Keeps b) (h2 : b.Keeps c) : a.Keeps c := by
  refine ⟨h2.1.trans h1.1, Nat.le_trans h1.2.1 h2.2.1, fun k hk => ?_⟩
  rcases h1.2.2 k hk with h | h
  · left; have := h2.2.1; omega
  · exact h2.2.2 k h

theorem done_keeps {r r' : RecvRel} {id : Nat} (hd : r.Done id) (hk : r.Keeps r') : r'.Done id := by
  rcases hd with h | ⟨h1, h2⟩
  · left; have := hk.2.1; omega
  · rcases hk.2.2 id h2 with h | h
    · exact Or.inl h
    · exact Or.inr ⟨hk.1.trans h1, h⟩

theorem done_ignored {r : RecvRel} {id : Nat} (hd : r.Done id) :
    (∀ sl : Slice, sl.messageId = id → r.processSlice sl = .ok r) ∧ (∀ m, r.processMessage m id = .ok r) := by
  refine ⟨fun sl hs => recvRel_processSlice_ignored r sl ?_, fun m => recvRel_processMessage_ignored r m id ?_⟩
  · rw [hs]; rcases hd with h | h
    · exact Or.inr (Or.inl h)
    · exact Or.inr (Or.inr h)
  · rcases hd with h | h
    · exact Or.inl h
    · exact Or.inr (Or.inr h)

theorem keeps_cursory : RecvRel.Cursory RecvRel.Keeps where
  same := keeps_of_eq
  trans := keeps_trans
  push {r id} m _ := by
    refine ⟨rfl, Nat.le_refl _, fun k hk => Or.inr ?_⟩
    show k ∈ (if r.ordered = true then r.received else id :: r.received)
    split
    · exact hk
    · exact List.mem_cons_of_mem _ hk

theorem receive_done {P} {r r' : RecvRel} {m : Bytes} (hi : r.InvP P) (h : r.receive = .ok (r', some m)) :
    ∃ id, SMap.find? r.messages id = some m ∧ r'.Done id := by
  rcases RecvRel.receive_ok_iff.mp h with ⟨-, -, e⟩ | ⟨id, m0, hn, -, rfl, e⟩
  · cases e
  · cases e
    have hf := RecvRel.next_find hn
    refine ⟨id, hf, ?_⟩
    cases hb : r.ordered with
    | true => exact Or.inl (RecvRel.next_lt_pop hb hn)
    | false =>
      -- unordered: a pending id is below the cursor or remembered, and `receive` keeps that
      obtain ⟨-, ho, hrec⟩ := r.pop_keeps id m
      rcases hi.pending hb id (SMap.contains_iff_find?.mpr ⟨_, hf⟩) with hp | hp
      · exact Or.inl (Nat.lt_of_lt_of_le hp ho)
      · exact (hrec id hp).imp_right fun hx => ⟨hb, hx⟩

theorem receive_keeps {r r' : RecvRel} {m : Option Bytes} (h : r.receive = .ok (r', m)) : r.Keeps r' := by
  rcases RecvRel.receive_ok_iff.mp h with ⟨-, rfl, -⟩ | ⟨id, m0, -, -, rfl, -⟩
  · exact keeps_refl _
  · exact r.pop_keeps id m0

end CI

/-- any later history of a reliable receive channel: messages and slices arriving (accepted, ignored or refused)
    and the application draining -/
inductive RecvRel.Steps : RecvRel → RecvRel → Prop
  | refl (r : RecvRel) : RecvRel.Steps r r
  | message {r r1 r2 : RecvRel} {m : Bytes} {id : Nat} :
      (r.processMessage m id = .ok r1 ∨ ∃ e, r.processMessage m id = .err (e, r1)) → RecvRel.Steps r1 r2 →
      RecvRel.Steps r r2
  | slice {r r1 r2 : RecvRel} {sl : Slice} :
      (r.processSlice sl = .ok r1 ∨ ∃ e, r.processSlice sl = .err (e, r1)) → RecvRel.Steps r1 r2 → RecvRel.Steps r r2
  | receive {r r1 r2 : RecvRel} {m : Option Bytes} : r.receive = .ok (r1, m) → RecvRel.Steps r1 r2 → RecvRel.Steps r r2

namespace CI

theorem steps_keeps {r r' : RecvRel} (h : RecvRel.Steps r r') : r.Keeps r' := by
  induction h with
  | refl r => exact keeps_refl r
  | message h1 _ ih => exact keeps_trans (RecvRel.processMessage_lands keeps_cursory _ _ _ _ h1) ih
  | slice h1 _ ih => exact keeps_trans (RecvRel.processSlice_lands keeps_cursory _ _ _ h1) ih
  | receive h1 _ ih => exact keeps_trans (receive_keeps h1) ih

/-- **D1 repaired (honest-peer leak freedom).**  Once a message has been handed to the application, every later
    slice or copy of it — after any further history of the channel — leaves the channel state completely unchanged:
    no reservation, no constructor, no byte accounted.  Holds for ordered and unordered channels alike. -/
theorem delivered_ignored_forever {P} {r r1 r2 : RecvRel} {m : Bytes} (hi : r.InvP P)
    (hrecv : r.receive = .ok (r1, some m)) (hsteps : RecvRel.Steps r1 r2) :
    ∃ id, SMap.find? r.messages id = some m ∧
      (∀ sl : Slice, sl.messageId = id → r2.processSlice sl = .ok r2) ∧ (∀ m', r2.processMessage m' id = .ok r2) := by
  obtain ⟨id, hf, hd⟩ := receive_done hi hrecv
  exact ⟨id, hf, done_ignored (done_keeps hd (steps_keeps hsteps))⟩

/-! ### (g) send side -/

theorem sendRel_refusal {s : SendRel} {m : Bytes} {e : ChanErr} (h : s.sendMessage m = .error e) :
    e = .maxMemory ∧ s.mem + m.length > s.maxMem := by
  unfold SendRel.sendMessage at h
  split at h
  · cases h; exact ⟨rfl, by assumption⟩
  · cases h

end CI
end RenetVerif
