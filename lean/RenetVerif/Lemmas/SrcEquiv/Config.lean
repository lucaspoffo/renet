/-
  Source tie of the library's DEFAULT configuration (group `Config`, `Generated/Src/Config.lean`): the generated
  `DefaultChannel::config`, `impl From<DefaultChannel> for u8` and `ConnectionConfig::default` (translated from
  `renet/src/channel/mod.rs`, `renet/src/remote_connection.rs`) evaluate — without a panic — to closed terms, and these are
  the representation (`SrcEquiv.reprCfg`) of the model configuration `defaultCfg` below.

  Everything here is about constants, so the proofs are evaluations; what makes them informative is that the left sides
  are REGENERATED from the Rust text on every run: a change of a default in the source changes the generated term, and
  the theorems of `Props/SrcPropsDefaultConfig.lean` are re-checked against it.
-/
import RenetVerif.Generated.Src.Config
import RenetVerif.Lemmas.SrcEquiv.SrcSystem
namespace RenetVerif.SrcEquiv.Config
open RenetVerif C RenetVerif.System RenetVerif.SrcEquiv
open RenetVerif.Src.renet.channel RenetVerif.Src.renet.remote_connection

def defaultMem : Nat := 5 * 1024 * 1024
/-- 300 ms in nanoseconds (the unit of the model's and the generated code's `Duration`) -/
def defaultResend : Nat := 300 * 1000000

/-- the three default channels, in the order of `DefaultChannel::config()` (= priority order of the per-tick budget) -/
def defaultChannels : List ChanCfg :=
  [ { id := 0, kind := .unreliable, maxMem := defaultMem, resend := 0 },
    { id := 1, kind := .unordered, maxMem := defaultMem, resend := defaultResend },
    { id := 2, kind := .ordered, maxMem := defaultMem, resend := defaultResend } ]

def defaultCfg : Cfg := { budget := 60000, send := defaultChannels, recv := defaultChannels }

def gDefaultChannels : List ChannelConfig :=
  [ { channel_id := 0, max_memory_usage_bytes := 5242880, send_type := SendType.Unreliable },
    { channel_id := 1, max_memory_usage_bytes := 5242880, send_type := SendType.ReliableUnordered 300000000 },
    { channel_id := 2, max_memory_usage_bytes := 5242880, send_type := SendType.ReliableOrdered 300000000 } ]

def gDefaultConfig : ConnectionConfig :=
  { available_bytes_per_tick := 60000, server_channels_config := gDefaultChannels, client_channels_config := gDefaultChannels }

/-- `DefaultChannel::config()` returns (no overflow panic in `5 * 1024 * 1024`) exactly the three channels above -/
theorem config_eq {ε : Type} : (DefaultChannel.config : Res ε (List ChannelConfig)) = .ok gDefaultChannels := rfl

theorem default_eq {ε : Type} : (ConnectionConfig.default : Res ε ConnectionConfig) = .ok gDefaultConfig := rfl

theorem from_unreliable {ε : Type} : (u8.from_DefaultChannel .Unreliable : Res ε Nat) = .ok 0 := rfl
theorem from_unordered {ε : Type} : (u8.from_DefaultChannel .ReliableUnordered : Res ε Nat) = .ok 1 := rfl
theorem from_ordered {ε : Type} : (u8.from_DefaultChannel .ReliableOrdered : Res ε Nat) = .ok 2 := rfl

/-- the delivery guarantee the NAME of a `DefaultChannel` variant promises -/
def kindOf : DefaultChannel → Kind
  | .Unreliable => .unreliable
  | .ReliableOrdered => .ordered
  | .ReliableUnordered => .unordered

theorem gDefaultChannels_repr : gDefaultChannels = defaultChannels.map reprCfg := by decide +kernel

theorem gDefaultConfig_repr : gDefaultConfig =
    { available_bytes_per_tick := defaultCfg.budget, server_channels_config := defaultCfg.send.map reprCfg,
      client_channels_config := defaultCfg.recv.map reprCfg } := by decide +kernel

theorem run_call {ε α : Type} (r : Res ε α) : (RustSem.Exec.call r : RustSem.Exec ε α α).run = r := by cases r <;> rfl

/-- `RenetClient::new(ConnectionConfig::default())` is the call of `from_channels` that builds endpoint A of the
    two-endpoint system `GSys.init defaultCfg` (the client), `RenetClient::new_from_server(ConnectionConfig::default())` the one
    that builds endpoint B (the server side of the link). -/
theorem new_default {ε : Type} :
    (RenetClient.new gDefaultConfig : Res ε RenetClient) =
      RenetClient.from_channels defaultCfg.budget (defaultCfg.send.map reprCfg) (defaultCfg.recv.map reprCfg) := by
  rw [gDefaultConfig_repr]
  simp only [RenetClient.new]
  exact run_call _

theorem new_from_server_default {ε : Type} :
    (RenetClient.new_from_server gDefaultConfig : Res ε RenetClient) =
      RenetClient.from_channels defaultCfg.budget (defaultCfg.recv.map reprCfg) (defaultCfg.send.map reprCfg) := by
  rw [gDefaultConfig_repr]
  simp only [RenetClient.new_from_server]
  exact run_call _

end RenetVerif.SrcEquiv.Config
