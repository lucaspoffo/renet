/-
  Source tie: the Lean definitions that /verif/translator derives from the CURRENT Rust text
  (`RenetVerif/Generated/Src.lean`, namespace `RenetVerif.Src`, regenerated on every check run) compute
  exactly what the hand-written model computes.  If one of these Rust functions is edited, the
  regenerated text changes and these theorems are re-checked against it.

  Conventions: generated integers are `Nat`s (a `uN` argument is assumed `< 2^N` where it matters, stated
  as a hypothesis), arrays/`Vec`s/slices are `List`s.  `absRP`/`absSC`/`absPT`/`absErr` are the abstraction
  functions generated type → model type, `reprRP`/`reprSC`/`toNats` their (right-)inverses on well-formed
  values; `WfRP`, `WfSC`, `BytesOk` are decidable (so is `p.enc = .ok bytes` in part D, `Props/SrcTiePacket.lean`).
  `SameOutcome` compares `ok`/`err` values exactly and panics up to the text of the site.
-/
import RenetVerif.Lemmas.SrcEquiv.Replay
namespace RenetVerif.SrcTie
open RenetVerif RenetVerif.SrcEquiv

/-! ## A. `renetcode/src/replay_protection.rs` ↔ `Netcode.RP` -/
section A
open Src.renetcode.replay_protection Netcode

/-- `ReplayProtection::new()` is well-formed and abstracts to `RP.new` -/
theorem replay_new {ε : Type} :
    ∃ st h, (ReplayProtection.new : Res ε ReplayProtection) = .ok st ∧ absRP st h = RP.new :=
  ⟨_, wf_reprRP _, rp_new_eq, absRP_reprRP _ _⟩

/-- `already_received` never panics on a well-formed state and returns the model's verdict -/
theorem replay_already_received {ε : Type} (st : ReplayProtection) (h : WfRP st) (sequence : Nat) (hs : sequence < 2 ^ 64) :
    (ReplayProtection.already_received st sequence : Res ε Bool) = .ok ((absRP st h).alreadyReceived sequence) := by
  have := already_received_eq (ε := ε) (absRP st h) sequence hs
  rwa [reprRP_absRP] at this

/-- `advance_sequence` never panics on a well-formed state; the new state is well-formed and abstracts to
    `RP.advance` -/
theorem replay_advance_sequence {ε : Type} (st : ReplayProtection) (h : WfRP st) (sequence : Nat) (hs : sequence < 2 ^ 64) :
    ∃ st' h', (ReplayProtection.advance_sequence st sequence : Res ε (ReplayProtection × Unit)) = .ok (st', ()) ∧
      absRP st' h' = (absRP st h).advance sequence := by
  have := advance_sequence_eq (ε := ε) (absRP st h) sequence hs
  rw [reprRP_absRP] at this
  exact ⟨_, wf_reprRP _, this, absRP_reprRP _ _⟩

example : (ReplayProtection.already_received (reprRP ((RP.new.advance 300).advance 7)) 44 : Res Empty Bool) = .ok true := by
  decide +kernel
example : (ReplayProtection.already_received (reprRP ((RP.new.advance 300).advance 7)) 301 : Res Empty Bool) = .ok false := by
  decide +kernel
example : (ReplayProtection.advance_sequence (reprRP RP.new) 5 : Res Empty _) = .ok (reprRP (RP.new.advance 5), ()) := by
  decide +kernel
end A

end RenetVerif.SrcTie
