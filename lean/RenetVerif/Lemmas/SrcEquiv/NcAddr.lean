/-
  Server-address list of the connect tokens: generated `write_server_addresses` / `read_server_addresses` of
  `renetcode/src/token.rs` agree with `Netcode.writeServerAddresses` / `Netcode.readServerAddresses` of
  `Netcode/Token.lean` over the cursor models (error state forgotten, see `IoCursor.lean`).
  The ties themselves are in `Props/SrcTieNcAddr.lean`.
-/
import RenetVerif.Generated.Src.NcAddr
import RenetVerif.Lemmas.SrcEquiv.NcSerialize
import RenetVerif.Lemmas.SrcEquiv.IoCursor
import RenetVerif.Lemmas.SrcEquiv.AddrRepr
import RenetVerif.Lemmas.NcToken
set_option linter.unusedSimpArgs false
namespace RenetVerif.SrcEquiv
open RenetVerif RenetVerif.RustSem

section NcAddr
open Netcode
open Src.renetcode.token

def addrBytes : Addr → Bytes
  | .v4 ip port => Netcode.leBytes C.NETCODE_ADDRESS_IPV4 1 ++ ip ++ Netcode.leBytes port 2
  | .v6 ip port => Netcode.leBytes C.NETCODE_ADDRESS_IPV6 1 ++ ip ++ Netcode.leBytes port 2

def addrsBytes (addrs : AddrArray) : Bytes :=
  Netcode.leBytes (addrs.filterMap fun x => x).length 4 ++ ((addrs.filterMap fun x => x).map addrBytes).flatten

theorem addrBytes_eq (x : Addr) : addrBytes x = NcAead.Token.addrBytes x := by
  cases x <;> simp [addrBytes, NcAead.Token.addrBytes]

theorem addrsBytes_eq (addrs : AddrArray) : addrsBytes addrs = NcAead.Token.addrsBytes addrs := by
  unfold addrsBytes NcAead.Token.addrsBytes
  congr 1
  induction addrs.filterMap fun x => x with
  | nil => rfl
  | cons h r ih => simp [NcAead.Token.hostsBytes, addrBytes_eq, ih]

theorem writeServerAddresses_eq (w : Wr) (addrs : AddrArray) :
    writeServerAddresses w addrs = w.writeAll (addrsBytes addrs) :=
  addrsBytes_eq addrs ▸ NcAead.Token.writeServerAddresses_eq addrs w

theorem filterMap_reprAddrs (addrs : AddrArray) :
    List.filterMap (fun x => x) (reprAddrs addrs) = (addrs.filterMap fun x => x).map reprAddr := by
  induction addrs with
  | nil => rfl
  | cons a r ih =>
    cases a with
    | none => simpa [reprAddrs] using ih
    | some x =>
      simp only [reprAddrs, List.map_cons, Option.map_some] at ih ⊢
      simp only [List.filterMap_cons, List.map_cons, ih]

theorem forEach_map {α γ τ ε ρ : Type} (g : α → γ) (l : List α) (init : τ) (body : γ → τ → Exec ε ρ τ) :
    RustSem.forEach (l.map g) init body = RustSem.forEach l init (fun x st => body (g x) st) := by
  induction l generalizing init with
  | nil => rfl
  | cons x r ih =>
    simp only [List.map_cons, RustSem.forEach]
    congr 1
    funext st
    exact ih st

theorem Exec.bind_val_id' {ε ρ α : Type} (x : Exec ε ρ α) : (x.bind fun a => Exec.val a) = x := by cases x <;> rfl

theorem flatten_singletons {α γ : Type} (f : α → γ) (l : List α) :
    (List.map ((fun i => [i]) ∘ f) l).flatten = List.map f l := by
  induction l with
  | nil => rfl
  | cons x r ih => simp [ih]

theorem filter_isSome_length {α : Type} (l : List (Option α)) :
    (List.filter (fun a => Option.isSome a) l).length = (l.filterMap fun x => x).length := by
  induction l with
  | nil => rfl
  | cons a r ih => cases a <;> simp [ih]

theorem to_le_bytes_u8 (b : UInt8) : RustSem.to_le_bytes 8 b.toNat = [b.toNat] := by
  have : b.toNat < 256 := b.toNat_lt
  simp [RustSem.to_le_bytes, RustSem.leBytes, Nat.mod_eq_of_lt this]

theorem write_server_addresses_forget (c : WriteCursor) (hc : CInv c) (addrs : AddrArray) (hlen : addrs.length < 2 ^ 32) :
    (write_server_addresses c (reprAddrs addrs)).forget = wres c (toNats (addrsBytes addrs)) := by
  have hcnt : (addrs.filterMap fun x => x).length < 2 ^ 32 := by
    have := List.length_filterMap_le (fun x => x) addrs; omega
  have hc2 : RustSem.len (List.filter (fun a => a.isSome) (reprAddrs addrs)) = (addrs.filterMap fun x => x).length := by
    rw [RustSem.len, filter_isSome_length, filterMap_reprAddrs, List.length_map]
  unfold write_server_addresses
  simp only [Exec.bind_eq, Exec.pure_eq, hc2, cast_of_lt hcnt]
  rw [Exec.forget_run]
  simp only [Exec.forget_bind, Exec.forget_val, forEach_forget]
  rw [curK.W_start (e := .opaque) hc (fun c' => ((Exec.callFrom _ (WriteCursor.write_all c' _)).forget).bind _)]
  simp only [step_write_all, filterMap_reprAddrs, forEach_map]
  rw [curK.forEach_chain _ _ (fun h => toNats (addrBytes h))]
  · rw [WC_finish]
    congr 1
    simp [addrsBytes, RustSem.to_le_bytes, leBytes_repr, toNats, Function.comp_def]
  · intro h _ c' hc'
    have hin : ∀ ip : Bytes, ∀ x ∈ toNats ip, ∀ c'', CInv c'' →
        ((Exec.callFrom (fun err => Res.ok (err.fst, err.snd)) (WriteCursor.write_all c'' (RustSem.to_le_bytes 8 x))
            : Exec (IoError × WriteCursor) (WriteCursor × Unit) (WriteCursor × Unit)).forget.bind fun a => Exec.val a.fst)
          = WC c'' [x] := by
      intro ip x hx c'' hc''
      obtain ⟨b, _, rfl⟩ := List.mem_map.mp hx
      rw [curK.W_start (e := .opaque) hc'' (fun c => ((Exec.callFrom _ (WriteCursor.write_all c _)).forget).bind _)]
      simp only [step_write_all, to_le_bytes_u8, List.nil_append]
      exact Exec.bind_val_id' _
    cases h with
    | v4 ip port | v6 ip port =>
      simp only [reprAddr, SocketAddr.ip_octets, SocketAddr.port, Exec.forget_bind, forEach_forget, Exec.forget_val]
      rw [curK.W_start (e := .opaque) hc' (fun c => ((Exec.callFrom _ (WriteCursor.write_all c _)).forget).bind _)]
      simp only [step_write_all, Exec.bind_assoc']
      rw [curK.forEach_chain _ _ (fun i => [i]) _ (hin ip)]
      simp only [step_write_all]
      rw [Exec.bind_val_id']
      congr 1
      simp [addrBytes, RustSem.to_le_bytes, leBytes_repr, toNats, List.append_assoc, flatten_singletons]
      rfl

theorem readAddr_suffix {src r : Bytes} {a : Addr} (h : NcAead.Token.readAddr src = some (a, r)) : r <:+ src :=
  ⟨_, (NcAead.Token.readAddr_iff.1 h).2.symm⟩

theorem readAddrLoop_spec (k : Nat) (src : Bytes) (l : List (Option Addr)) (r : Bytes)
    (h : readAddrLoop k src = some (l, r)) : l.length = k ∧ r <:+ src := by
  obtain ⟨hosts, rfl, rfl, -, rfl⟩ := (NcAead.Token.readAddrLoop_iff k).1 h
  exact ⟨List.length_map _, _, rfl⟩

theorem readServerAddresses_suffix {src r : Bytes} {arr : AddrArray} (h : readServerAddresses src = some (arr, r)) :
    r <:+ src := by
  obtain ⟨-, num, -, -, rfl⟩ := NcAead.Token.readServerAddresses_iff.1 h
  exact ⟨_, List.append_assoc ..⟩

/-- tuple `(server_addresses, src)` of the generated loop after `done` has been read -/
def addrSt (buf : Bytes) (done : List (Option Addr)) (i : Nat) (rest : Bytes) : List (Option SocketAddr) × ReadCursor :=
  (reprAddrs done ++ List.replicate (32 - i) none, rcur buf rest)

theorem addr_loop {ρ : Type} (buf : Bytes)
    (body : Nat → List (Option SocketAddr) × ReadCursor → Exec IoError ρ (List (Option SocketAddr) × ReadCursor))
    (hb : ∀ (i : Nat) (done : List (Option Addr)) (rest : Bytes), done.length = i → i < 32 → rest <:+ buf →
      body i (addrSt buf done i rest) =
        match NcAead.Token.readAddr rest with
        | some (a, r) => .val (addrSt buf (done ++ [some a]) (i + 1) r)
        | none => .err .opaque) :
    ∀ (k i : Nat) (done : List (Option Addr)) (rest : Bytes), done.length = i → i + k ≤ 32 → rest <:+ buf →
      RustSem.forRange.loop body k i (addrSt buf done i rest) =
        match readAddrLoop k rest with
        | some (l, r) => .val (addrSt buf (done ++ l) (i + k) r)
        | none => .err .opaque := by
  intro k
  induction k with
  | zero => intro i done rest _ _ _; simp [RustSem.forRange.loop, readAddrLoop]
  | succ k ih =>
    intro i done rest hd hk hs
    rw [RustSem.forRange.loop, hb i done rest hd (by omega) hs, NcAead.Token.readAddrLoop_succ]
    cases h1 : NcAead.Token.readAddr rest with
    | none => rfl
    | some x =>
      obtain ⟨a, r⟩ := x
      have hs1 : r <:+ buf := (readAddr_suffix h1).trans hs
      simp only [Exec.bind_val', bind, Option.bind_some]
      rw [ih (i + 1) (done ++ [some a]) r (by simp [hd]) (by omega) hs1]
      cases readAddrLoop k r with
      | none => rfl
      | some y =>
        obtain ⟨l, r2⟩ := y
        have e : i + 1 + k = i + (k + 1) := by omega
        simp only [List.append_assoc, List.singleton_append, e, Option.bind_some]
        rfl

theorem set_addrs {ε ρ : Type} (done : List (Option Addr)) (i : Nat) (hd : done.length = i) (hi : i < 32)
    (x : SocketAddr) (site : String) :
    (RustSem.set (reprAddrs done ++ List.replicate (32 - i) none) i (some x) site
        : Exec ε ρ (List (Option SocketAddr))) =
      .val (reprAddrs done ++ some x :: List.replicate (32 - (i + 1)) none) := by
  have hl : (reprAddrs done).length = i := by simp [reprAddrs, hd]
  rw [set_val (by simp only [List.length_append, List.length_replicate, hl]; omega)]
  congr 1
  have e : 32 - i = (32 - (i + 1)) + 1 := by omega
  rw [e, List.replicate_succ, ← hl, List.set_append_right _ _ (Nat.le_refl _)]
  simp

theorem forget_of_rdRes {α γ : Type} {buf : Bytes} {f : α → γ} {m : Option (α × Bytes)}
    {g : Res (IoError × ReadCursor) (ReadCursor × γ)} (h : g = rdRes buf f m) : g.forget = rdF buf f m :=
  h ▸ rdRes_forget buf f m

theorem step_rd {ρ β α γ ε : Type} {buf : Bytes} {f : α → γ} {m : Option (α × Bytes)}
    {r : Res (IoError × ReadCursor) (ReadCursor × γ)} (hr : r.forget = rdF buf f m)
    {conv : IoError → ε} {kerr : IoError × ReadCursor → Res (ε × ReadCursor) (ε × ReadCursor)}
    (hk : ∀ e, ∃ st, kerr e = .ok (conv e.1, st)) (k : ReadCursor × γ → Exec ε ρ β) :
    ((Exec.callFrom kerr r : Exec (ε × ReadCursor) ρ (ReadCursor × γ)).forget).bind k =
      match (generalizing := false) m with
      | some (a, r') => k (rcur buf r', f a)
      | none => .err (conv .opaque) :=
  step_reader f m r hr conv kerr hk k

/-- `?` in a fn that returns `io::Result` -/
theorem kerr_io (e : IoError × ReadCursor) :
    ∃ st, (fun err : IoError × ReadCursor => (Res.ok (err.1, err.2) : Res (IoError × ReadCursor) (IoError × ReadCursor))) e
      = .ok (id e.1, st) := ⟨e.2, rfl⟩

end NcAddr
end RenetVerif.SrcEquiv
