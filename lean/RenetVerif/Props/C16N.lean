/-
  C16 (netcode half) — the renetcode wire formats round-trip.

  Statements are about the executable model `RenetVerif.Netcode` (validated against the Rust crate by differential
  testing), parametric in the AEAD; `a.Laws` are the functional laws only (open ∘ seal = id, lengths).
  Proofs: Lemmas/NcPacket.lean (packets), Lemmas/NcToken.lean (tokens).

  Proven here
    * sequence bytes: every u64, every length class 1..8, decoder also takes 0..8 bytes of any (non-minimal) length
    * all seven packet kinds: whatever `encode` returns, `decode` maps back to (sequence, packet); `encode` is
      characterised exactly (succeeds iff prefix + sequence bytes + body + tag fit), so it always succeeds for
      what the library sends into its 1400-byte buffer
    * decode ∘ encode ∘ decode = decode for packets (decoder outputs are well-formed)
    * `ConnectToken` write/read for 1..32 IPv4/IPv6 addresses, `PrivateConnectToken` encode/decode (seal/open),
      `ChallengeToken` generate/decode; tokens built by `generate` are well-formed
    * every token `ConnectToken::read` accepts has a prefix-compact address array with ≥ 1 address
      (`read_is_prefix_compact`), hence decode ∘ encode ∘ decode = decode for connect tokens without any side
      condition (`token_reencode`), and the same at value level for the private token the server opens
      (`private_token_reencode`)
  The code before commit 37089df skipped NETCODE_ADDRESS_NONE entries in `read_server_addresses`, so `read` accepted
      address lists with holes, for which re-encoding gave a different token (defect D19); a NONE entry is an error
      (`read_rejects_hole`).  `token_value_with_hole` is the reason why `TokenWF` asks for compactness.
  The byte level of `PrivateConnectToken::read` / `ChallengeToken::decode` (their readers ignore trailing padding, so
      only value-level round trips are given here): Props/C16P.lean, `private_read_exact`, `challenge_read_exact`.
-/
import RenetVerif.Lemmas.NcAead
namespace RenetVerif.C16N
open RenetVerif RenetVerif.Netcode RenetVerif.NcAead

/-- `write_sequence` / `read_sequence`: for every u64 the encoder announces 1..8 bytes, writes exactly that many,
    and the decoder reads the value back (whatever follows). -/
theorem sequence_bytes_roundtrip (seq : Nat) (h : seq < 2 ^ 64) (rest : Bytes) :
    1 ≤ Netcode.Packet.sequenceBytesRequired seq ∧ Netcode.Packet.sequenceBytesRequired seq ≤ 8 ∧
    (NcAead.Packet.seqBytes seq).length = Netcode.Packet.sequenceBytesRequired seq ∧
    Netcode.Packet.readSequence (NcAead.Packet.seqBytes seq ++ rest) (Netcode.Packet.sequenceBytesRequired seq) =
      some (seq, rest) :=
  ⟨NcAead.Packet.sbr_pos seq, NcAead.Packet.sbr_le seq, NcAead.Packet.seqBytes_length seq,
    NcAead.Packet.readSequence_seqBytes rest h⟩

/-- the writer appends exactly those bytes when they fit (a short write is the case `encode` turns into `IoError`,
    see `packet_encode_exact`) -/
theorem sequence_bytes_written (w : Wr) (seq : Nat) (hfit : w.out.length + Netcode.Packet.sequenceBytesRequired seq ≤ w.cap) :
    Netcode.Packet.writeSequence w seq =
      ({ w with out := w.out ++ NcAead.Packet.seqBytes seq }, Netcode.Packet.sequenceBytesRequired seq) := by
  have hl : (NcAead.Packet.seqBytes seq).length = Netcode.Packet.sequenceBytesRequired seq :=
    NcAead.Packet.seqBytes_length seq
  have e : Netcode.Packet.writeSequence w seq =
      ((⟨w.cap, w.out ++ List.take (min (NcAead.Packet.seqBytes seq).length (w.cap - w.out.length))
          (NcAead.Packet.seqBytes seq)⟩ : Wr), min (NcAead.Packet.seqBytes seq).length (w.cap - w.out.length)) := rfl
  rw [e, hl, Nat.min_eq_left (by omega), ← hl, List.take_length]

/-- the encoder's length is minimal: k > 1 bytes are announced only for values ≥ 256^(k-1) -/
theorem sequence_bytes_minimal (seq : Nat) (h : 1 < Netcode.Packet.sequenceBytesRequired seq) :
    256 ^ (Netcode.Packet.sequenceBytesRequired seq - 1) ≤ seq := NcAead.Packet.sbr_go_min seq 8 h

/-- every length class 1..8 occurs, at both ends of its value range (and 0 is encoded in one byte) -/
theorem sequence_length_classes :
    Netcode.Packet.sequenceBytesRequired 0 = 1 ∧
    ∀ k, k < 8 → Netcode.Packet.sequenceBytesRequired (256 ^ k) = k + 1 ∧
                 Netcode.Packet.sequenceBytesRequired (256 ^ (k + 1) - 1) = k + 1 := by
  decide

/-- the decoder accepts every announced length 0..8 (also non-minimal ones): `k` little-endian bytes give back any
    value below 256^k; in particular length 0 denotes sequence 0 -/
theorem sequence_any_length (k : Nat) (hk : k ≤ 8) (seq : Nat) (h : seq < 256 ^ k) (rest : Bytes) :
    Netcode.Packet.readSequence (leBytes seq k ++ rest) k = some (seq, rest) :=
  NcAead.Packet.readSequence_leBytes rest hk h

theorem sequence_length_zero (rest : Bytes) : Netcode.Packet.readSequence rest 0 = some (0, rest) := by
  simp [Netcode.Packet.readSequence, readN, leVal]

/-- Exact behaviour of `Packet::encode` for the six sealed kinds (any packet value, any sequence, key, protocol id,
    buffer size): it succeeds iff prefix byte + sequence bytes + body + 16-byte tag fit, and then returns
    prefix ‖ sequence bytes ‖ seal(key, nonce(sequence), version ‖ protocol id ‖ prefix, body); otherwise `IoError`
    (never an unwinding, never a silently truncated sequence). -/
theorem packet_encode_exact (a : AEAD) (p : Netcode.Packet) (hp : p.packetType ≠ .connectionRequest)
    (cap proto seq : Nat) (key : Bytes) :
    p.encode a cap proto (some (seq, key)) =
      if 1 + Netcode.Packet.sequenceBytesRequired seq + (NcAead.Packet.body p).length + 16 ≤ cap
      then .ok (NcAead.Packet.sealedDatagram a p proto seq key) else .err .ioError := by
  rw [NcAead.Packet.body_eq, NcAead.Packet.sealedDatagram_eq]
  exact Netcode.Packet.encode_sealed_eq a p cap proto seq key hp

/-- in particular the library's own sends (1400-byte buffer, payload ≤ 1300 bytes) always encode -/
theorem packet_encode_library (a : AEAD) (p : Netcode.Packet) (hwf : p.WF) (hp : p.packetType ≠ .connectionRequest)
    (hpl : ∀ b, p = .payload b → b.length ≤ C.NETCODE_MAX_PAYLOAD_BYTES) (proto seq : Nat) (key : Bytes) :
    p.encode a C.NETCODE_MAX_PACKET_BYTES proto (some (seq, key)) = .ok (NcAead.Packet.sealedDatagram a p proto seq key) := by
  rw [packet_encode_exact a p hp, if_pos]
  have h8 := NcAead.Packet.sbr_le seq
  have hb : (NcAead.Packet.body p).length ≤ 1300 := by
    cases p with
    | connectionRequest v pid e x d => exact absurd rfl hp
    | connectionDenied => simp [NcAead.Packet.body]
    | disconnect => simp [NcAead.Packet.body]
    | keepAlive i m => simp [NcAead.Packet.body]
    | payload b => exact hpl b rfl
    | challenge s d => obtain ⟨_, h2⟩ := hwf; simp [NcAead.Packet.body, h2, C.NETCODE_CHALLENGE_TOKEN_BYTES, RenetVerif.C.NETCODE_CHALLENGE_TOKEN_BYTES]
    | response s d => obtain ⟨_, h2⟩ := hwf; simp [NcAead.Packet.body, h2, C.NETCODE_CHALLENGE_TOKEN_BYTES, RenetVerif.C.NETCODE_CHALLENGE_TOKEN_BYTES]
  have : C.NETCODE_MAX_PACKET_BYTES = 1400 := rfl
  omega

/-- **Packet round trip, sealed kinds** (Denied, Challenge, Response, KeepAlive, Payload, Disconnect): for every
    well-formed packet, every u64 sequence, every key, protocol id and buffer size, whatever `encode` returns is
    decoded — under the same key and protocol id — to the same sequence and packet. -/
theorem packet_roundtrip (a : AEAD) (hl : a.Laws) (p : Netcode.Packet) (hwf : p.WF)
    (hp : p.packetType ≠ .connectionRequest) (seq : Nat) (hseq : seq < 2 ^ 64) (key : Bytes) (proto cap : Nat)
    (bytes : Bytes) (henc : p.encode a cap proto (some (seq, key)) = .ok bytes) :
    Netcode.Packet.decode a bytes proto (some key) none = (.ok (seq, p), none) := by
  rw [packet_encode_exact a p hp] at henc
  split at henc
  · cases henc
    rw [NcAead.Packet.sealedDatagram_eq]
    exact Netcode.Packet.decode_sealedBytes a p proto seq key hl hseq hp hwf none rfl
  · cases henc

/-- … with a replay window: accepted unless the window reports the sequence as a duplicate, and the window is
    advanced exactly for KeepAlive / Payload / Disconnect. -/
theorem packet_roundtrip_window (a : AEAD) (hl : a.Laws) (p : Netcode.Packet) (hwf : p.WF)
    (hp : p.packetType ≠ .connectionRequest) (seq : Nat) (hseq : seq < 2 ^ 64) (key : Bytes) (proto : Nat) (w : RP)
    (hfresh : p.packetType.applyReplayProtection = true → w.alreadyReceived seq = false) :
    Netcode.Packet.decode a (NcAead.Packet.sealedDatagram a p proto seq key) proto (some key) (some w) =
      (.ok (seq, p), some (if p.packetType.applyReplayProtection then w.advance seq else w)) := by
  have hd : Netcode.Packet.isDup p.packetType seq (some w) = false := by
    rw [Netcode.Packet.isDup_some]
    cases hap : p.packetType.applyReplayProtection with
    | false => rfl
    | true => rw [hfresh hap]; rfl
  rw [NcAead.Packet.sealedDatagram_eq, Netcode.Packet.decode_sealedBytes a p proto seq key hl hseq hp hwf (some w) hd]
  rfl

/-- **Packet round trip, ConnectionRequest** (sent in the clear; its prefix byte is the type alone and the decoder
    reports sequence 0): no key is needed on either side. -/
theorem request_roundtrip (a : AEAD) (v : Bytes) (pid e : Nat) (x d : Bytes)
    (hwf : (Netcode.Packet.connectionRequest v pid e x d).WF) (proto cap : Nat) (crypto : Option (Nat × Bytes))
    (key : Option Bytes) (bytes : Bytes)
    (henc : (Netcode.Packet.connectionRequest v pid e x d).encode a cap proto crypto = .ok bytes) :
    bytes = 0 :: NcAead.Packet.body (.connectionRequest v pid e x d) ∧
    Netcode.Packet.decode a bytes proto key none = (.ok (0, .connectionRequest v pid e x d), none) := by
  rw [Netcode.Packet.encode_request_eq] at henc
  split at henc
  · cases henc
    rw [NcAead.Packet.body_eq]
    exact ⟨rfl, Netcode.Packet.decode_request_bytes a rfl hwf proto key none⟩
  · cases henc

/-- decoder outputs are well-formed: every field has the width of its Rust type, the sequence is a u64 -/
theorem decode_wf (a : AEAD) (buf : Bytes) (proto : Nat) (key : Option Bytes) (rp rp' : Option RP) (seq : Nat)
    (p : Netcode.Packet) (h : Netcode.Packet.decode a buf proto key rp = (.ok (seq, p), rp')) :
    p.WF ∧ seq < 2 ^ 64 := NcAead.Packet.decode_wf h

/-- **decode ∘ encode ∘ decode = decode.**  Any byte string that decodes re-encodes (same sequence, key and protocol
    id; any buffer at least 8 bytes longer than the datagram, since the canonical encoding may spend up to 8
    sequence bytes where the datagram spent fewer, e.g. none) to bytes that decode to the same sequence and packet.
    The re-encoding need not be the original bytes: non-minimal sequence lengths and trailing body bytes that
    `Packet::read` ignores are not reproduced. -/
theorem decode_reencode (a : AEAD) (hl : a.Laws) (buf : Bytes) (proto : Nat) (key : Option Bytes) (rp rp' : Option RP)
    (seq : Nat) (p : Netcode.Packet) (h : Netcode.Packet.decode a buf proto key rp = (.ok (seq, p), rp'))
    (cap : Nat) (hcap : buf.length + 8 ≤ cap) :
    ∃ bytes', p.encode a cap proto (key.map fun k => (seq, k)) = .ok bytes' ∧
      Netcode.Packet.decode a bytes' proto key none = (.ok (seq, p), none) :=
  NcAead.Packet.decode_reencode hl h cap hcap

/-- What a connect token must satisfy to survive `write` / `read`:
    `base`    the field widths of the Rust type (`ConnectToken.WF` of the model: u64 ids and timestamps, 13-byte
              version, 24-byte nonce, 32-byte keys, 1024-byte private part, i32 timeout, 32 address slots,
              IPv4 = 4 bytes / IPv6 = 16 bytes, ports < 2^16),
    `version` the library's version string (`read` rejects any other with `InvalidVersion`),
    `compact` a prefix-compact address array: n ≥ 1 hosts in slots 0..n-1, nothing behind them. -/
abbrev TokenWF := NcAead.Token.CTokenWF

/-- **Connect token round trip** for 1..32 IPv4 / IPv6 addresses: `write` succeeds and `read` gives the token back
    (also when more bytes follow). -/
theorem token_roundtrip (t : ConnectToken) (h : TokenWF t) (rest : Bytes) :
    ∃ b, t.write = .ok b ∧ b.length ≤ ConnectToken.MAX_BYTES ∧ ConnectToken.read (b ++ rest) = .ok t :=
  ⟨_, NcAead.Token.ct_write_eq h, NcAead.Token.ctBytes_length h, NcAead.Token.ct_read_bytes h rest⟩

/-- every token `ConnectToken::generate` builds (1..32 well-formed addresses, keys and nonce of the right size,
    256 bytes of user data) is well-formed in that sense -/
theorem generate_wf (a : AEAD) (hl : a.Laws) (now proto expireSecs clientId : Nat) (timeout : Int)
    (addrs : List Addr) (ud c2s s2c xnonce key : Bytes) (t : ConnectToken)
    (hg : ConnectToken.generate a now proto expireSecs clientId timeout addrs ud c2s s2c xnonce key = .ok t)
    (hp : proto < 2 ^ 64) (hc : clientId < 2 ^ 64) (ht1 : -(2 ^ 31 : Int) ≤ timeout) (ht2 : timeout < 2 ^ 31)
    (ha : ∀ x ∈ addrs, x.WF) (hud : ud.length = 256) (hk1 : c2s.length = 32) (hk2 : s2c.length = 32)
    (hx : xnonce.length = 24) : TokenWF t := by
  unfold ConnectToken.generate at hg
  simp only at hg
  split at hg
  · cases hg
  · rename_i hexp
    cases hpg : PrivateConnectToken.generate clientId timeout addrs ud c2s s2c with
    | err e => rw [hpg] at hg; cases hg
    | panic m => rw [hpg] at hg; cases hg
    | ok pt =>
      rw [hpg] at hg
      have hpt := NcAead.Token.pt_generate_wf hpg hc ht1 ht2 ha hud hk1 hk2
      simp only [Res.bind_ok, NcAead.Token.pt_encode_eq a hpt, Res.pure_eq, Res.ok.injEq] at hg
      subst hg
      have hu : U64_MAX = 2 ^ 64 - 1 := rfl
      have hs : asSecs now ≤ asSecs now + expireSecs := Nat.le_add_right _ _
      refine ⟨⟨hc, rfl, hp, by dsimp only; omega, by dsimp only; omega, hx, NcAead.Token.compact_length hpt.compact,
        NcAead.Token.compact_wf hpt.compact, hk1, hk2, ?_, ht1, ht2⟩, rfl, hpt.compact⟩
      simp only
      rw [hl.xseal_length, NcAead.Token.ptPlain_length hpt]; rfl

abbrev PrivateTokenWF := NcAead.Token.PTokenWF

/-- **Private connect token, seal/open round trip**: `encode` succeeds (the serialisation always fits the
    1024-byte buffer) and `decode` under the same key, nonce, protocol id and expiry gives the token back. -/
theorem private_token_roundtrip (a : AEAD) (hl : a.Laws) (t : PrivateConnectToken) (h : PrivateTokenWF t)
    (proto expire : Nat) (xnonce key : Bytes) :
    ∃ sealed, t.encode a proto expire xnonce key = .ok sealed ∧ sealed.length = 1024 ∧
      PrivateConnectToken.decode a sealed proto expire xnonce key = .ok t := by
  refine ⟨_, NcAead.Token.pt_encode_eq a h proto expire xnonce key, ?_, NcAead.Token.pt_decode_encode a hl h proto expire xnonce key⟩
  rw [hl.xseal_length, NcAead.Token.ptPlain_length h]

/-- what `PrivateConnectToken::generate` builds is well-formed -/
theorem private_generate_wf (clientId : Nat) (timeout : Int) (addrs : List Addr) (ud c2s s2c : Bytes)
    (t : PrivateConnectToken) (hg : PrivateConnectToken.generate clientId timeout addrs ud c2s s2c = .ok t)
    (hc : clientId < 2 ^ 64) (ht1 : -(2 ^ 31 : Int) ≤ timeout) (ht2 : timeout < 2 ^ 31)
    (ha : ∀ x ∈ addrs, x.WF) (hud : ud.length = 256) (hk1 : c2s.length = 32) (hk2 : s2c.length = 32) :
    PrivateTokenWF t := NcAead.Token.pt_generate_wf hg hc ht1 ht2 ha hud hk1 hk2

/-- **Challenge token round trip**: `generate_challenge` succeeds and `ChallengeToken::decode` of the sealed 300
    bytes, with the same sequence and key, gives client id and user data back. -/
theorem challenge_token_roundtrip (a : AEAD) (hl : a.Laws) (clientId : Nat) (hc : clientId < 2 ^ 64)
    (userData : Bytes) (hud : userData.length = 256) (cseq : Nat) (ckey : Bytes) :
    ∃ data, ChallengeToken.generate a clientId userData cseq ckey = .ok (.challenge cseq data) ∧ data.length = 300 ∧
      ChallengeToken.decode a data cseq ckey = .ok ⟨clientId, userData⟩ := by
  refine ⟨_, NcAead.Token.ch_generate_eq a clientId userData hud cseq ckey, ?_,
    NcAead.Token.ch_decode_generate a hl clientId userData hc hud cseq ckey⟩
  rw [hl.seal_length]
  simp [NcAead.Token.chPlain, hud]

/-- **Every token `ConnectToken::read` accepts has a prefix-compact address array with at least one address** — and
    the field widths of its Rust type and the library's version string: it is `TokenWF`. -/
theorem read_is_prefix_compact (src : Bytes) (t : ConnectToken) (h : ConnectToken.read src = .ok t) :
    NcAead.Token.Compact t.serverAddresses ∧ TokenWF t :=
  ⟨(NcAead.Token.ct_read_wf h).compact, NcAead.Token.ct_read_wf h⟩

/-- **decode ∘ encode ∘ decode = decode for connect tokens**, unconditionally (since the repair of D19) -/
theorem token_reencode (src : Bytes) (t : ConnectToken) (h : ConnectToken.read src = .ok t) :
    ∃ b, t.write = .ok b ∧ ConnectToken.read b = .ok t := by
  have hwf := NcAead.Token.ct_read_wf h
  refine ⟨NcAead.Token.ctBytes t, NcAead.Token.ct_write_eq hwf, ?_⟩
  have := NcAead.Token.ct_read_bytes hwf []
  rwa [List.append_nil] at this

/-- the same for what the server does with a request's sealed part: whatever `PrivateConnectToken::decode` returns
    is well-formed (in particular its host list is prefix-compact, ≥ 1 host), so sealing it again and opening that
    gives the same token -/
theorem private_token_reencode (a : AEAD) (hl : a.Laws) (buf : Bytes) (proto expire : Nat) (xnonce key : Bytes)
    (t : PrivateConnectToken) (h : PrivateConnectToken.decode a buf proto expire xnonce key = .ok t) :
    PrivateTokenWF t ∧ ∃ sealed, t.encode a proto expire xnonce key = .ok sealed ∧
      PrivateConnectToken.decode a sealed proto expire xnonce key = .ok t := by
  have hwf := NcAead.Token.pt_decode_wf h
  obtain ⟨sealed, h1, _, h2⟩ := private_token_roundtrip a hl t hwf proto expire xnonce key
  exact ⟨hwf, sealed, h1, h2⟩

/-- the reader refuses an address list with a NONE entry in the middle (accepted before the repair of D19) -/
theorem read_rejects_hole :
    readServerAddresses ([3, 0, 0, 0] ++ [1, 127, 0, 0, 1, 136, 19] ++ [0] ++ [1, 10, 0, 0, 2, 112, 23]) = none := by
  decide +kernel

/-- Why `TokenWF` asks for compactness: the serialisation does not record *which* slots are empty.  A token *value*
    with a hole (slot 1 empty, slot 2 used) is written as two back-to-back addresses and read back into slots 0 and 1.
    No library path builds such a value: `generate` fills a prefix (`generate_wf`) and `read` returns compact arrays
    (`read_is_prefix_compact`). -/
theorem token_value_with_hole :
    let a1 := Addr.v4 [127, 0, 0, 1] 5000
    let a2 := Addr.v6 (List.replicate 16 1) 6000
    let holed : AddrArray := [some a1, none, some a2] ++ List.replicate 29 none
    readServerAddresses (NcAead.Token.addrsBytes holed) = some ([some a1, some a2] ++ List.replicate 30 none, []) := by
  decide +kernel

/-! ### the hypotheses are met by concrete, non-trivial values (`AEAD.toy`) -/

def exKey : Bytes := List.replicate 32 9
def exAddrs : List Addr := [Addr.v4 [127, 0, 0, 1] 5000, Addr.v6 (List.replicate 16 7) 65535, Addr.v4 [10, 0, 0, 2] 1]

-- an 8-byte sequence, a 6-byte sequence, sequence 0; every sealed kind; payload of the maximal size
example : (Netcode.Packet.challenge (2 ^ 64 - 1) (List.replicate 300 1)).WF ∧ (2 ^ 64 - 1 : Nat) < 2 ^ 64 ∧
    (Netcode.Packet.challenge (2 ^ 64 - 1) (List.replicate 300 1)).encode AEAD.toy 1400 77 (some (2 ^ 64 - 1, exKey)) =
      .ok (NcAead.Packet.sealedDatagram AEAD.toy (.challenge (2 ^ 64 - 1) (List.replicate 300 1)) 77 (2 ^ 64 - 1) exKey) := by
  decide +kernel
example : (Netcode.Packet.keepAlive (2 ^ 32 - 1) 1024).WF ∧
    ((Netcode.Packet.keepAlive (2 ^ 32 - 1) 1024).encode AEAD.toy 1400 77 (some (2 ^ 40 + 5, exKey))).isPanic = false ∧
    Netcode.Packet.decode AEAD.toy (NcAead.Packet.sealedDatagram AEAD.toy (.keepAlive (2 ^ 32 - 1) 1024) 77 (2 ^ 40 + 5) exKey)
      77 (some exKey) none = (.ok (2 ^ 40 + 5, .keepAlive (2 ^ 32 - 1) 1024), none) := by
  decide +kernel
example : (Netcode.Packet.payload (List.replicate 1300 3)).encode AEAD.toy 1400 77 (some (0, exKey)) =
    .ok (NcAead.Packet.sealedDatagram AEAD.toy (.payload (List.replicate 1300 3)) 77 0 exKey) := by
  decide +kernel
-- a buffer one byte too small is refused, not truncated
example : (Netcode.Packet.payload (List.replicate 1300 3)).encode AEAD.toy 1317 77 (some (0, exKey)) = .err .ioError := by
  decide +kernel
example : (Netcode.Packet.connectionRequest C.NETCODE_VERSION_INFO 77 1000 (List.replicate 24 5) (List.replicate 1024 6)).WF := by
  decide +kernel
-- a datagram with a non-minimal (3-byte) encoding of sequence 5 decodes, so `decode_reencode` is not about canonical bytes only
example : Netcode.Packet.decode AEAD.toy ([0x36, 5, 0, 0] ++ List.replicate 16 0) 77 (some exKey) none = (.ok (5, .disconnect), none) := by
  decide +kernel
-- tokens: three addresses of both families, extreme ports; 32 addresses
example : (ConnectToken.generate AEAD.toy 5000000000 77 30 (2 ^ 64 - 1) (-5) exAddrs (List.replicate 256 4) exKey exKey
    (List.replicate 24 5) exKey).isPanic = false ∧ (∀ x ∈ exAddrs, x.WF) := by
  decide +kernel
example : ∃ t, PrivateConnectToken.generate 12 15 (List.replicate 32 (Addr.v6 (List.replicate 16 7) 65535))
    (List.replicate 256 4) exKey exKey = .ok t := ⟨_, rfl⟩
example : AEAD.toy.Laws := AEAD.toy_laws

end RenetVerif.C16N
