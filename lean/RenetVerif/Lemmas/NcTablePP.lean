import RenetVerif.Lemmas.NcTable
namespace RenetVerif.Netcode
namespace NS
open RenetVerif

theorem pendingSet_pendingSet (m : Pending) (ad : Addr) (x y : Connection) :
    pendingSet (pendingSet m ad x) ad y = pendingSet m ad y := by
  induction m with
  | nil => simp [pendingSet]
  | cons p rest ih =>
    obtain ⟨a0, c0⟩ := p
    simp only [pendingSet]
    split
    · simp [pendingSet, *]
    · simp [pendingSet, *]

theorem pendingRemove_pendingSet (m : Pending) (ad : Addr) (x : Connection) :
    pendingRemove (pendingSet m ad x) ad = pendingRemove m ad := by
  unfold pendingRemove
  induction m with
  | nil => simp [pendingSet]
  | cons p rest ih =>
    obtain ⟨a0, c0⟩ := p
    simp only [pendingSet]
    split
    · rename_i h; simp [h]
    · rename_i h
      simp only [List.filter_cons]
      rw [ih]

/-- a connected session after an authentic keep-alive / payload: window advanced, receive timer refreshed -/
abbrev refreshed (c : Connection) (w : RP) (now : Nat) : Connection :=
  { c with replayProtection := w, lastPacketReceivedTime := now, confirmed := true }

/-- a half-open session after any decodable datagram from its address -/
abbrev touched (p : Connection) (w : RP) (now : Nat) : Connection :=
  { p with replayProtection := w, lastPacketReceivedTime := now }

/-- the connected session a half-open session turns into -/
abbrev promoted (p : Connection) (w : RP) (now : Nat) : Connection :=
  { p with replayProtection := w, lastPacketReceivedTime := now, state := .connected, lastPacketSendTime := now
           sequence := p.sequence + 1 }

/-- what `process_packet` makes of a `handle_connection_request` result -/
def HcrRes (R : NetcodeServer.SRes) (r : ServerResult) (s' : NetcodeServer) : Prop :=
  R = .ok (r, s') ∨ (r = .none ∧ ∃ e, R = .err (e, s'))

theorem HcrRes.ok {x r : ServerResult} {y s' : NetcodeServer} (h : HcrRes (.ok (x, y)) r s') : y = s' := by
  rcases h with e | ⟨_, _, e⟩ <;> cases e; rfl
theorem HcrRes.err {e : NetcodeError} {r : ServerResult} {y s' : NetcodeServer} (h : HcrRes (.err (e, y)) r s') :
    y = s' := by
  rcases h with e | ⟨_, _, e⟩ <;> cases e; rfl
theorem HcrRes.panic {m : String} {r : ServerResult} {s' : NetcodeServer} (h : HcrRes (.panic m) r s') : False := by
  rcases h with e | ⟨_, _, e⟩ <;> cases e

/-- the answer to an accepted request as `process_packet` passes it on (an encoder's error is swallowed): `s1` is the
    state the token-entry step leaves -/
inductive HcrAns (a : AEAD) (s s1 : NetcodeServer) (addr : Addr) (expire : Nat) (t : PrivateConnectToken) :
    ServerResult → NetcodeServer → Prop
  | deniedQuiet : countConnected s.clients ≥ s.maxClients →
      HcrAns a s s1 addr expire t .none { s1 with pendingClients := pendingRemove s1.pendingClients addr }
  | denied (out : Bytes) : countConnected s.clients ≥ s.maxClients →
      Packet.connectionDenied.encode a C.NETCODE_MAX_PACKET_BYTES s.protocolId
        (some (s.globalSequence, t.serverToClientKey)) = .ok out →
      HcrAns a s s1 addr expire t (.packetToSend addr out)
        { s1 with pendingClients := pendingRemove s1.pendingClients addr, globalSequence := s.globalSequence + 1 }
  | challengeQuiet : countConnected s.clients < s.maxClients →
      HcrAns a s s1 addr expire t .none { s1 with challengeSequence := s.challengeSequence + 1 }
  | challenge (pkt : Packet) (out : Bytes) : countConnected s.clients < s.maxClients →
      ChallengeToken.generate a t.clientId t.userData (s.challengeSequence + 1) s.challengeKey = .ok pkt →
      pkt.encode a C.NETCODE_MAX_PACKET_BYTES s.protocolId (some (s.globalSequence, t.serverToClientKey)) = .ok out →
      HcrAns a s s1 addr expire t (.packetToSend addr out)
        { s1 with challengeSequence := s.challengeSequence + 1, globalSequence := s.globalSequence + 1
                  pendingClients := pendingSet s1.pendingClients addr (mkPending s.currentTime addr expire t) }

theorem hcrOut_cases {a : AEAD} {s : NetcodeServer} {addr : Addr} {v : Bytes} {pid expire : Nat} {xnonce data : Bytes}
    {R : NetcodeServer.SRes} {r : ServerResult} {s' : NetcodeServer}
    (ho : HcrOut a s addr v pid expire xnonce data R) (hr : HcrRes R r s') :
    ((∀ t, ¬ Accepted a s addr v pid expire xnonce data t) ∧ r = .none ∧ s' = s) ∨
    ∃ t s1, Accepted a s addr v pid expire xnonce data t ∧ EntryStep s s1 ⟨s.currentTime, addr, tokenMac data⟩ ∧
      HcrAns a s s1 addr expire t r s' := by
  cases ho with
  | err e hno => rcases hr with h | ⟨rfl, e', h⟩ <;> cases h; exact Or.inl ⟨hno, rfl, rfl⟩
  | none hno => rcases hr with h | ⟨rfl, e', h⟩ <;> cases h; exact Or.inl ⟨hno, rfl, rfl⟩
  | deniedErr t s1 e hacc hstep hfull =>
    rcases hr with h | ⟨rfl, e', h⟩ <;> cases h
    exact Or.inr ⟨t, s1, hacc, hstep, .deniedQuiet hfull⟩
  | denied t s1 out hacc hstep hfull hen =>
    rcases hr with h | ⟨rfl, e', h⟩ <;> cases h
    exact Or.inr ⟨t, s1, hacc, hstep, .denied out hfull hen⟩
  | challengeErr t s1 e hacc hstep hlt =>
    rcases hr with h | ⟨rfl, e', h⟩ <;> cases h
    exact Or.inr ⟨t, s1, hacc, hstep, .challengeQuiet hlt⟩
  | challenge t s1 pkt out hacc hstep hlt hgen hen =>
    rcases hr with h | ⟨rfl, e', h⟩ <;> cases h
    exact Or.inr ⟨t, s1, hacc, hstep, .challenge pkt out hlt hgen hen⟩

/-- The possible outcomes `(result, new state)` of `process_packet` on a datagram `buf` from `addr` (for a server
    satisfying `ServerInv`, with room in its two global counters). -/
inductive PPOut (a : AEAD) (s : NetcodeServer) (addr : Addr) (buf : Bytes) : ServerResult → NetcodeServer → Prop
  | short : buf.length < 2 + C.NETCODE_MAC_BYTES → PPOut a s addr buf .none s
  /- datagram from a connected address: decoded with that session's key and window -/
  | connErr (i : Nat) (c : Connection) (e : NetcodeError) (w' : RP) :
      findClientByAddr s.clients addr = some (i, c) →
      Packet.decode a buf s.protocolId (some c.receiveKey) (some c.replayProtection) = (.err e, some w') →
      PPOut a s addr buf .none { s with clients := s.clients.set i (some { c with replayProtection := w' }) }
  | connDisconnect (i : Nat) (c : Connection) (sq : Nat) (w' : RP) :
      findClientByAddr s.clients addr = some (i, c) →
      Packet.decode a buf s.protocolId (some c.receiveKey) (some c.replayProtection) = (.ok (sq, .disconnect), some w') →
      PPOut a s addr buf (.clientDisconnected c.clientId addr none) { s with clients := s.clients.set i none }
  | connPayload (i : Nat) (c : Connection) (sq : Nat) (p : Bytes) (w' : RP) :
      findClientByAddr s.clients addr = some (i, c) →
      Packet.decode a buf s.protocolId (some c.receiveKey) (some c.replayProtection) = (.ok (sq, .payload p), some w') →
      PPOut a s addr buf (.payload c.clientId p)
        { s with clients := s.clients.set i (some (refreshed c w' s.currentTime)) }
  | connKeepAlive (i : Nat) (c : Connection) (sq ci mc : Nat) (w' : RP) :
      findClientByAddr s.clients addr = some (i, c) →
      Packet.decode a buf s.protocolId (some c.receiveKey) (some c.replayProtection) = (.ok (sq, .keepAlive ci mc), some w') →
      PPOut a s addr buf .none
        { s with clients := s.clients.set i (some (refreshed c w' s.currentTime)) }
  | connOther (i : Nat) (c : Connection) (sq : Nat) (pk : Packet) (w' : RP) :
      findClientByAddr s.clients addr = some (i, c) →
      Packet.decode a buf s.protocolId (some c.receiveKey) (some c.replayProtection) = (.ok (sq, pk), some w') →
      pk.packetType ≠ .disconnect → pk.packetType ≠ .payload → pk.packetType ≠ .keepAlive →
      PPOut a s addr buf .none { s with clients := s.clients.set i (some { c with replayProtection := w' }) }
  /- datagram from an address with a half-open session `p`: decoded with that session's key and window -/
  | pendErr (p : Connection) (e : NetcodeError) (w' : RP) :
      findClientByAddr s.clients addr = none → pendingFind s.pendingClients addr = some p →
      Packet.decode a buf s.protocolId (some p.receiveKey) (some p.replayProtection) = (.err e, some w') →
      PPOut a s addr buf .none
        { s with pendingClients := pendingSet s.pendingClients addr { p with replayProtection := w' } }
  | pendRequest (p : Connection) (sq : Nat) (v : Bytes) (pid expire : Nat) (xnonce data : Bytes) (w' : RP)
      (R : NetcodeServer.SRes) (r : ServerResult) (s' : NetcodeServer) :
      findClientByAddr s.clients addr = none → pendingFind s.pendingClients addr = some p →
      Packet.decode a buf s.protocolId (some p.receiveKey) (some p.replayProtection) =
        (.ok (sq, .connectionRequest v pid expire xnonce data), some w') →
      HcrOut a { s with pendingClients := pendingSet s.pendingClients addr (touched p w' s.currentTime) }
        addr v pid expire xnonce data R →
      HcrRes R r s' → PPOut a s addr buf r s'
  | pendOther (p : Connection) (sq : Nat) (pk : Packet) (w' : RP) :
      findClientByAddr s.clients addr = none → pendingFind s.pendingClients addr = some p →
      Packet.decode a buf s.protocolId (some p.receiveKey) (some p.replayProtection) = (.ok (sq, pk), some w') →
      pk.packetType ≠ .connectionRequest → pk.packetType ≠ .response →
      PPOut a s addr buf .none
        { s with pendingClients := pendingSet s.pendingClients addr (touched p w' s.currentTime) }
  /-- a response whose challenge token does not open under the challenge key, or names another id / user data -/
  | respRejected (p : Connection) (sq ts : Nat) (td : Bytes) (w' : RP) :
      findClientByAddr s.clients addr = none → pendingFind s.pendingClients addr = some p →
      Packet.decode a buf s.protocolId (some p.receiveKey) (some p.replayProtection) =
        (.ok (sq, .response ts td), some w') →
      (∀ ct, ChallengeToken.decode a td ts s.challengeKey = .ok ct → ct.clientId ≠ p.clientId ∨ ct.userData ≠ p.userData) →
      PPOut a s addr buf .none
        { s with pendingClients := pendingSet s.pendingClients addr (touched p w' s.currentTime) }
  /-- a matching response, but the id got connected meanwhile, or encoding the answer failed: the half-open session
      is dropped, nobody is connected -/
  | respDropped (p : Connection) (sq ts : Nat) (td : Bytes) (w' : RP) :
      findClientByAddr s.clients addr = none → pendingFind s.pendingClients addr = some p →
      Packet.decode a buf s.protocolId (some p.receiveKey) (some p.replayProtection) =
        (.ok (sq, .response ts td), some w') →
      ChallengeToken.decode a td ts s.challengeKey = .ok ⟨p.clientId, p.userData⟩ →
      ((findClientSlotById s.clients p.clientId).isSome = true ∨
        (∃ e, Packet.connectionDenied.encode a C.NETCODE_MAX_PACKET_BYTES s.protocolId
                (some (s.globalSequence, p.sendKey)) = .err e) ∨
        (∃ i e, firstFreeSlot s.clients = some i ∧
          (Packet.keepAlive (i % 2 ^ 32) (s.maxClients % 2 ^ 32)).encode a C.NETCODE_MAX_PACKET_BYTES s.protocolId
            (some (p.sequence, p.sendKey)) = .err e)) →
      PPOut a s addr buf .none { s with pendingClients := pendingRemove s.pendingClients addr }
  /-- a matching response but no free slot: `ConnectionDenied` -/
  | respFull (p : Connection) (sq ts : Nat) (td : Bytes) (w' : RP) (out : Bytes) :
      findClientByAddr s.clients addr = none → pendingFind s.pendingClients addr = some p →
      Packet.decode a buf s.protocolId (some p.receiveKey) (some p.replayProtection) =
        (.ok (sq, .response ts td), some w') →
      ChallengeToken.decode a td ts s.challengeKey = .ok ⟨p.clientId, p.userData⟩ →
      findClientById s.clients p.clientId = none → firstFreeSlot s.clients = none →
      Packet.connectionDenied.encode a C.NETCODE_MAX_PACKET_BYTES s.protocolId (some (s.globalSequence, p.sendKey)) = .ok out →
      PPOut a s addr buf (.packetToSend addr out)
        { s with pendingClients := pendingRemove s.pendingClients addr, globalSequence := s.globalSequence + 1 }
  /-- a matching response and a free slot: the half-open session becomes connected -/
  | respConnected (p : Connection) (sq ts : Nat) (td : Bytes) (w' : RP) (i : Nat) (out : Bytes) :
      findClientByAddr s.clients addr = none → pendingFind s.pendingClients addr = some p →
      Packet.decode a buf s.protocolId (some p.receiveKey) (some p.replayProtection) =
        (.ok (sq, .response ts td), some w') →
      ChallengeToken.decode a td ts s.challengeKey = .ok ⟨p.clientId, p.userData⟩ →
      findClientById s.clients p.clientId = none → firstFreeSlot s.clients = some i →
      (Packet.keepAlive (i % 2 ^ 32) (s.maxClients % 2 ^ 32)).encode a C.NETCODE_MAX_PACKET_BYTES s.protocolId
        (some (p.sequence, p.sendKey)) = .ok out →
      PPOut a s addr buf (.clientConnected p.clientId addr p.userData out)
        { s with pendingClients := pendingRemove s.pendingClients addr
                 clients := s.clients.set i (some (promoted p w' s.currentTime)) }
  /- datagram from an unknown address: decoded without key -/
  | newErr (e : NetcodeError) :
      findClientByAddr s.clients addr = none → pendingFind s.pendingClients addr = none →
      (Packet.decode a buf s.protocolId none none).1 = .err e → PPOut a s addr buf .none s
  | newRequest (sq : Nat) (v : Bytes) (pid expire : Nat) (xnonce data : Bytes) (R : NetcodeServer.SRes)
      (r : ServerResult) (s' : NetcodeServer) :
      findClientByAddr s.clients addr = none → pendingFind s.pendingClients addr = none →
      (Packet.decode a buf s.protocolId none none).1 = .ok (sq, .connectionRequest v pid expire xnonce data) →
      HcrOut a s addr v pid expire xnonce data R → HcrRes R r s' → PPOut a s addr buf r s'

theorem cdecode_ne_panic (a : AEAD) (td : Bytes) (ts : Nat) (k : Bytes) (h : C.NETCODE_MAC_BYTES ≤ td.length) (m : String) :
    ChallengeToken.decode a td ts k ≠ .panic m := by
  unfold ChallengeToken.decode Packet.openBody
  rw [if_neg (by omega)]
  cases a.open k (Packet.nonce ts) [] td with
  | none => simp
  | some plain => simp only [bind_ok']; exact NcAead.io?_ne_panic _ _

theorem hcr_res (a : AEAD) (s : NetcodeServer) (addr : Addr) {v : Bytes} {pid expire : Nat} {xnonce data : Bytes}
    {src : Bytes} (hr : Packet.read .connectionRequest src = .ok (.connectionRequest v pid expire xnonce data)) :
    (∃ r s', HcrRes (NetcodeServer.handleConnectionRequest a s addr v pid expire xnonce data) r s' ∧
      HcrOut a s addr v pid expire xnonce data (NetcodeServer.handleConnectionRequest a s addr v pid expire xnonce data)) ∨
    ((∃ m, NetcodeServer.handleConnectionRequest a s addr v pid expire xnonce data = .panic m) ∧
      ¬ (s.globalSequence < U64_MAX ∧ s.challengeSequence < U64_MAX)) := by
  have hlen : C.NETCODE_MAC_BYTES ≤ data.length := by rw [(Packet.read_ok hr).2.2.1.2.2.2.2]; decide
  rcases hcr_spec a s addr v pid expire xnonce data hlen with hspec | ⟨hm, hn⟩
  case inr => exact Or.inr ⟨hm, hn⟩
  cases hR : NetcodeServer.handleConnectionRequest a s addr v pid expire xnonce data with
  | ok rs => exact Or.inl ⟨rs.1, rs.2, Or.inl rfl, hR ▸ hspec⟩
  | err es => exact Or.inl ⟨.none, es.2, Or.inr ⟨rfl, es.1, rfl⟩, hR ▸ hspec⟩
  | panic m => rw [hR] at hspec; cases hspec

/-- a datagram from `addr` that decodes for the session connected from `addr` finds it in state `Connected`
    (`ServerInv` says so of every slot) -/
def PeerLive (a : AEAD) (s : NetcodeServer) (addr : Addr) (buf : Bytes) : Prop :=
  ∀ i c sq pk w', findClientByAddr s.clients addr = some (i, c) →
    Packet.decode a buf s.protocolId (some c.receiveKey) (some c.replayProtection) = (.ok (sq, pk), w') →
    c.state = .connected

/-- What `process_packet_internal` can return, for EVERY server state: an outcome of `PPOut`; or the slot of `addr` is
    not `Connected` and only the decoder's window is stored; or it unwinds on a full `u64` counter. -/
def PPICases (a : AEAD) (s : NetcodeServer) (addr : Addr) (buf : Bytes) (R : NetcodeServer.SRes) : Prop :=
  (∃ r s', HcrRes R r s' ∧ PPOut a s addr buf r s' ∧ PeerLive a s addr buf) ∨
  (∃ i c sq pk w', findClientByAddr s.clients addr = some (i, c) ∧ c.state ≠ .connected ∧
      Packet.decode a buf s.protocolId (some c.receiveKey) (some c.replayProtection) = (.ok (sq, pk), some w') ∧
      R = .ok (.none, { s with clients := s.clients.set i (some { c with replayProtection := w' }) })) ∨
  ((∃ m, R = .panic m) ∧ (¬ (s.globalSequence < U64_MAX ∧ s.challengeSequence < U64_MAX) ∨
      ∃ p, pendingFind s.pendingClients addr = some p ∧ ¬ p.sequence < U64_MAX))

theorem ppi_cases (a : AEAD) (s : NetcodeServer) (addr : Addr) (buf : Bytes) :
    PPICases a s addr buf (s.processPacketInternal a addr buf) := by
  unfold NetcodeServer.processPacketInternal
  split
  · rename_i hs
    refine Or.inl ⟨_, _, Or.inr ⟨rfl, _, rfl⟩, .short hs, fun i c sq pk w' _ h => ?_⟩
    exact absurd hs (Packet.not_short_of_ok (congrArg Prod.fst h))
  cases hfa : findClientByAddr s.clients addr with
  | some ic =>
    -- connected address
    obtain ⟨i, c⟩ := ic
    have hl : c.state = .connected → PeerLive a s addr buf :=
      fun hst i' c' _ _ _ h _ => by cases hfa.symm.trans h; exact hst
    obtain ⟨r, w', hdec, hnp⟩ := decode_window a buf s.protocolId (some c.receiveKey) c.replayProtection
    simp only [hdec, Option.getD_some]
    cases r with
    | panic m => exact absurd rfl (hnp m)
    | err e =>
      refine Or.inl ⟨_, _, Or.inr ⟨rfl, _, rfl⟩, .connErr i c e w' hfa hdec, fun i' c' _ _ _ h h' => ?_⟩
      cases hfa.symm.trans h; cases hdec.symm.trans h'
    | ok sp =>
      obtain ⟨sq, pk⟩ := sp
      simp only [List.set_set]
      split
      case h_2 hns => exact Or.inr (Or.inl ⟨i, c, sq, pk, w', hfa, fun h => hns h, hdec, rfl⟩)
      rename_i hst
      cases pk with
      | disconnect => exact Or.inl ⟨_, _, Or.inl rfl, .connDisconnect i c sq w' hfa hdec, hl hst⟩
      | payload p => exact Or.inl ⟨_, _, Or.inl rfl, .connPayload i c sq p w' hfa hdec, hl hst⟩
      | keepAlive ci mc => exact Or.inl ⟨_, _, Or.inl rfl, .connKeepAlive i c sq ci mc w' hfa hdec, hl hst⟩
      | _ => exact Or.inl ⟨_, _, Or.inl rfl, .connOther i c sq _ w' hfa hdec nofun nofun nofun, hl hst⟩
  | none =>
    have hl : PeerLive a s addr buf := fun i' c' _ _ _ h => by cases hfa.symm.trans h
    simp only
    cases hpf : pendingFind s.pendingClients addr with
    | some p =>
      -- half-open address
      obtain ⟨r, w', hdec, hnp⟩ := decode_window a buf s.protocolId (some p.receiveKey) p.replayProtection
      simp only [hdec, Option.getD_some]
      cases r with
      | panic m => exact absurd rfl (hnp m)
      | err e => exact Or.inl ⟨_, _, Or.inr ⟨rfl, _, rfl⟩, .pendErr p e w' hfa hpf hdec, hl⟩
      | ok sp =>
        obtain ⟨sq, pk⟩ := sp
        obtain ⟨src, hrd⟩ := decode_read hdec
        simp only [pendingSet_pendingSet]
        cases pk with
        | connectionRequest v pid e x d =>
          rcases hcr_res a { s with pendingClients := pendingSet s.pendingClients addr (touched p w' s.currentTime) }
            addr hrd with ⟨r, s', hres, hout⟩ | hn
          · exact Or.inl ⟨r, s', hres, .pendRequest p sq v pid e x d w' _ r s' hfa hpf hdec hout hres, hl⟩
          · exact Or.inr (Or.inr ⟨hn.1, Or.inl hn.2⟩)
        | response ts td =>
          simp only
          have htd : C.NETCODE_MAC_BYTES ≤ td.length := by rw [(Packet.read_ok hrd).2.2.1.2]; decide
          cases hct : ChallengeToken.decode a td ts s.challengeKey with
          | panic m => exact absurd hct (cdecode_ne_panic a td ts _ htd m)
          | err e =>
            refine Or.inl ⟨_, _, Or.inr ⟨rfl, _, rfl⟩, .respRejected p sq ts td w' hfa hpf hdec ?_, hl⟩
            intro ct h; rw [hct] at h; cases h
          | ok ct =>
            simp only [lift_ok, bind_ok']
            split
            · rename_i hmis
              refine Or.inl ⟨_, _, Or.inl rfl, .respRejected p sq ts td w' hfa hpf hdec ?_, hl⟩
              intro ct' h; rw [hct] at h; cases h; exact hmis
            · rename_i hmatch
              obtain ⟨cid, cud⟩ := ct
              obtain ⟨h1, h2⟩ := not_or.mp hmatch
              obtain rfl : cid = p.clientId := Decidable.not_not.mp h1
              obtain rfl : cud = p.userData := Decidable.not_not.mp h2
              simp only [pendingRemove_pendingSet]
              split
              · rename_i hdup
                exact Or.inl ⟨_, _, Or.inl rfl, .respDropped p sq ts td w' hfa hpf hdec hct (Or.inl hdup), hl⟩
              · rename_i hnd
                have hidn : findClientById s.clients p.clientId = none := by
                  rw [findSlot_isSome] at hnd
                  exact Option.not_isSome_iff_eq_none.mp hnd
                cases hff : firstFreeSlot s.clients with
                | none =>
                  simp only
                  cases hen : Packet.connectionDenied.encode a C.NETCODE_MAX_PACKET_BYTES s.protocolId
                      (some (s.globalSequence, p.sendKey)) with
                  | panic m => exact absurd hen (encode_ne_panic _ _ _ _ _ _)
                  | err e =>
                    exact Or.inl ⟨_, _, Or.inr ⟨rfl, _, rfl⟩,
                      .respDropped p sq ts td w' hfa hpf hdec hct (Or.inr (Or.inl ⟨e, hen⟩)), hl⟩
                  | ok out =>
                    simp only [lift_ok, bind_ok']
                    generalize hinc : (incU64 s.globalSequence _ : Res (NetcodeError × NetcodeServer) Nat) = X
                    rcases incU64_out hinc with rfl | ⟨rfl, hn⟩
                    · exact Or.inl ⟨_, _, Or.inl rfl, .respFull p sq ts td w' out hfa hpf hdec hct hidn hff hen, hl⟩
                    · exact Or.inr (Or.inr ⟨⟨_, rfl⟩, Or.inl fun h => hn h.1⟩)
                | some i =>
                  simp only
                  cases hen : (Packet.keepAlive (i % 2 ^ 32) (s.maxClients % 2 ^ 32)).encode a
                      C.NETCODE_MAX_PACKET_BYTES s.protocolId (some (p.sequence, p.sendKey)) with
                  | panic m => exact absurd hen (encode_ne_panic _ _ _ _ _ _)
                  | err e =>
                    exact Or.inl ⟨_, _, Or.inr ⟨rfl, _, rfl⟩,
                      .respDropped p sq ts td w' hfa hpf hdec hct (Or.inr (Or.inr ⟨i, e, hff, hen⟩)), hl⟩
                  | ok out =>
                    simp only [lift_ok, bind_ok']
                    generalize hinc : (incU64 p.sequence _ : Res (NetcodeError × NetcodeServer) Nat) = X
                    rcases incU64_out hinc with rfl | ⟨rfl, hn⟩
                    · exact Or.inl ⟨_, _, Or.inl rfl, .respConnected p sq ts td w' i out hfa hpf hdec hct hidn hff hen, hl⟩
                    · exact Or.inr (Or.inr ⟨⟨_, rfl⟩, Or.inr ⟨p, hpf, hn⟩⟩)
        | _ => exact Or.inl ⟨_, _, Or.inl rfl, .pendOther p sq _ w' hfa hpf hdec nofun nofun, hl⟩
    | none =>
      -- unknown address
      simp only
      have hnp := Packet.decode_total a buf s.protocolId none none
      cases hdec : Packet.decode a buf s.protocolId none none with
      | mk r rp =>
        rw [hdec] at hnp
        cases r with
        | panic m => exact absurd rfl (hnp m)
        | err e => exact Or.inl ⟨_, _, Or.inr ⟨rfl, _, rfl⟩, .newErr e hfa hpf (by rw [hdec]), hl⟩
        | ok sp =>
          obtain ⟨sq, pk⟩ := sp
          obtain ⟨src, hrd⟩ := decode_read hdec
          obtain ⟨v, pid, e, x, d, rfl, -⟩ := decode_nokey_ok hdec
          rcases hcr_res a s addr hrd with ⟨r, s', hres, hout⟩ | hn
          · exact Or.inl ⟨r, s', hres, .newRequest sq v pid e x d _ r s' hfa hpf (by rw [hdec]) hout hres, hl⟩
          · exact Or.inr (Or.inr ⟨hn.1, Or.inl hn.2⟩)

/-- the state a connection request from `addr` meets: the receive timer of the half-open session of `addr`, if there
    is one, is refreshed first -/
def met (s : NetcodeServer) (addr : Addr) : NetcodeServer :=
  match pendingFind s.pendingClients addr with
  | some p => { s with pendingClients := pendingSet s.pendingClients addr (touched p p.replayProtection s.currentTime) }
  | none => s

/-- a connection request from an address that is not connected is `handle_connection_request`'s business (the exact
    result, which `PPOut.pendRequest` / `newRequest` describe up to the token-entry slot written) -/
theorem ppi_request {a : AEAD} {s : NetcodeServer} {addr : Addr} {buf : Bytes} {v : Bytes} {pid e : Nat} {x d : Bytes}
    (hfa : findClientByAddr s.clients addr = none)
    (hdec : (Packet.decode a buf s.protocolId none none).1 = .ok (0, .connectionRequest v pid e x d)) :
    s.processPacketInternal a addr buf = NetcodeServer.handleConnectionRequest a (met s addr) addr v pid e x d := by
  have hlen := Packet.not_short_of_ok hdec
  unfold NetcodeServer.processPacketInternal met
  rw [if_neg hlen, hfa]
  cases hpf : pendingFind s.pendingClients addr with
  | none => simp only [req_decode hdec none none]
  | some p => simp only [req_decode hdec (some p.receiveKey) (some p.replayProtection), Option.getD_some, pendingSet_pendingSet]

theorem pp_from_connected {a : AEAD} {s : NetcodeServer} {addr : Addr} {buf : Bytes} {i : Nat} {c : Connection} {sq : Nat}
    {pk : Packet} {w' : RP} (hfa : findClientByAddr s.clients addr = some (i, c)) (hst : c.state = .connected)
    (hdec : Packet.decode a buf s.protocolId (some c.receiveKey) (some c.replayProtection) = (.ok (sq, pk), some w')) :
    s.processPacket a addr buf = .ok (match pk with
      | .disconnect => (.clientDisconnected c.clientId addr none, { s with clients := s.clients.set i none })
      | .payload p => (.payload c.clientId p, { s with clients := s.clients.set i (some (refreshed c w' s.currentTime)) })
      | .keepAlive _ _ => (.none, { s with clients := s.clients.set i (some (refreshed c w' s.currentTime)) })
      | _ => (.none, { s with clients := s.clients.set i (some { c with replayProtection := w' }) })) := by
  unfold NetcodeServer.processPacket NetcodeServer.processPacketInternal
  rw [if_neg (Packet.not_short_of_ok (congrArg Prod.fst hdec)), hfa]
  simp only [hdec, Option.getD_some, hst, List.set_set]
  cases pk <;> simp only [refreshed, hst]

theorem pp_res {a : AEAD} {s s' : NetcodeServer} {addr : Addr} {buf : Bytes} {r : ServerResult}
    (h : s.processPacket a addr buf = .ok (r, s')) : HcrRes (s.processPacketInternal a addr buf) r s' := by
  unfold NetcodeServer.processPacket at h
  cases hR : s.processPacketInternal a addr buf with
  | ok x => rw [hR] at h; cases h; exact Or.inl rfl
  | err x => rw [hR] at h; cases h; exact Or.inr ⟨rfl, _, rfl⟩
  | panic m => rw [hR] at h; cases h

theorem pp_of_res {a : AEAD} {s s' : NetcodeServer} {addr : Addr} {buf : Bytes} {r : ServerResult}
    (h : HcrRes (s.processPacketInternal a addr buf) r s') : s.processPacket a addr buf = .ok (r, s') := by
  unfold NetcodeServer.processPacket
  rcases h with e | ⟨rfl, _, e⟩ <;> rw [e]

theorem pp_cases {a : AEAD} {s s' : NetcodeServer} {addr : Addr} {buf : Bytes} {r : ServerResult}
    (h : s.processPacket a addr buf = .ok (r, s')) :
    (PPOut a s addr buf r s' ∧ PeerLive a s addr buf) ∨
    (∃ i c sq pk w', findClientByAddr s.clients addr = some (i, c) ∧ c.state ≠ .connected ∧
      Packet.decode a buf s.protocolId (some c.receiveKey) (some c.replayProtection) = (.ok (sq, pk), some w') ∧
      r = .none ∧ s' = { s with clients := s.clients.set i (some { c with replayProtection := w' }) }) := by
  have hres := pp_res h
  rcases ppi_cases a s addr buf with ⟨r', s'', hR, ho, hl⟩ | ⟨i, c, sq, pk, w', hfa, hst, hdec, hR⟩ | ⟨⟨m, hm⟩, -⟩
  · obtain ⟨rfl, rfl⟩ : r' = r ∧ s'' = s' := by
      rcases hR with e | ⟨rfl, _, e⟩ <;> rcases hres with e' | ⟨rfl, _, e'⟩ <;> cases e.symm.trans e' <;> exact ⟨rfl, rfl⟩
    exact Or.inl ⟨ho, hl⟩
  · rw [hR] at hres
    rcases hres with e | ⟨_, _, e⟩ <;> cases e
    exact Or.inr ⟨i, c, sq, pk, w', hfa, hst, hdec, rfl, rfl⟩
  · rw [hm] at hres
    rcases hres with e | ⟨_, _, e⟩ <;> cases e

/-- under `ServerInv` the slots are `Connected`: whenever `process_packet` returns, its outcome is one of `PPOut` -/
theorem pp_ok {a : AEAD} {s s' : NetcodeServer} {addr : Addr} {buf : Bytes} {r : ServerResult} (hi : ServerInv s)
    (h : s.processPacket a addr buf = .ok (r, s')) : PPOut a s addr buf r s' := by
  rcases pp_cases h with ⟨ho, -⟩ | ⟨i, c, _, _, _, hfa, hst, -⟩
  · exact ho
  · exact absurd (hi.slots.conn i c (findAddr_some hfa).1) hst

/-- with room in the two counters `process_packet` returns (a half-open session has sent nothing: its own counter has
    room) -/
theorem pp_spec (a : AEAD) {s : NetcodeServer} (hi : ServerInv s) (hg : s.globalSequence < U64_MAX)
    (hc : s.challengeSequence < U64_MAX) (addr : Addr) (buf : Bytes) :
    ∃ r s', s.processPacket a addr buf = .ok (r, s') ∧ PPOut a s addr buf r s' := by
  rcases ppi_cases a s addr buf with ⟨r, s', hR, ho, -⟩ | ⟨i, c, _, _, _, hfa, hst, -⟩ | ⟨-, hn | ⟨p, hpf, hn⟩⟩
  · exact ⟨r, s', pp_of_res hR, ho⟩
  · exact absurd (hi.slots.conn i c (findAddr_some hfa).1) hst
  · exact absurd ⟨hg, hc⟩ hn
  · rw [(hi.pend (addr, p) (pendingFind_mem hpf)).seq] at hn
    exact absurd (by decide) hn

theorem EntryStep.inv {s s1 : NetcodeServer} {ne : ConnectTokenEntry} (hi : ServerInv s) (h : EntryStep s s1 ne) :
    ServerInv s1 := by
  rcases h with rfl | ⟨hn, k, rfl⟩
  · exact hi
  · exact hi.setEntry k hn

theorem hcr_inv {a : AEAD} {s : NetcodeServer} {addr : Addr} {v : Bytes} {pid expire : Nat} {xnonce data : Bytes}
    {R : NetcodeServer.SRes} {r : ServerResult} {s' : NetcodeServer} (hi : ServerInv s)
    (ho : HcrOut a s addr v pid expire xnonce data R) (hr : HcrRes R r s') : ServerInv s' := by
  rcases hcrOut_cases ho hr with ⟨-, -, rfl⟩ | ⟨t, s1, hacc, hstep, hans⟩
  · exact hi
  cases hans with
  | deniedQuiet => exact (hstep.inv hi).removePending addr
  | denied => exact ((hstep.inv hi).removePending addr).congr rfl rfl rfl rfl rfl
  | challengeQuiet => exact (hstep.inv hi).congr rfl rfl rfl rfl rfl
  | challenge =>
    obtain ⟨es, rfl⟩ := hstep.writes
    obtain ⟨plain, _, hrd⟩ := hacc.opens
    have hp : PendOK s.clients s.currentTime addr (mkPending s.currentTime addr expire t) :=
      ⟨rfl, rfl, rfl, ⟨Nat.le_refl _, Nat.le_refl _, (NcAead.Token.pt_read_wf hrd).timeout_hi⟩,
        findAddr_none.mp hacc.addrFree⟩
    exact ((hstep.inv hi).setPending hp hacc.room).congr rfl rfl rfl rfl rfl

theorem window_inv {s : NetcodeServer} (hi : ServerInv s) {addr : Addr} {i : Nat} {c : Connection}
    (hfa : findClientByAddr s.clients addr = some (i, c)) (w : RP) (conf : Bool) {t : Nat}
    (ht : t = c.lastPacketReceivedTime ∨ t = s.currentTime) :
    ServerInv { s with
      clients := s.clients.set i (some { c with replayProtection := w, lastPacketReceivedTime := t, confirmed := conf }) } := by
  have hat := (findAddr_some hfa).1
  have hok := hi.slotsOK i c hat
  refine hi.refreshSlot hat rfl (hi.slots.conn i c hat) ⟨?_, hok.send, hok.tmo⟩
  rcases ht with rfl | rfl
  · exact hok.recv
  · exact Nat.le_refl _

theorem pendWindow_inv {s : NetcodeServer} (hi : ServerInv s) {addr : Addr} {p : Connection}
    (hpf : pendingFind s.pendingClients addr = some p) (w : RP) {t : Nat}
    (ht : t = p.lastPacketReceivedTime ∨ t = s.currentTime) :
    ServerInv { s with
      pendingClients := pendingSet s.pendingClients addr { p with replayProtection := w, lastPacketReceivedTime := t } } := by
  obtain ⟨a1, a2, a3, a4, a5⟩ := hi.pend (addr, p) (pendingFind_mem hpf)
  refine hi.setPending ⟨a1, a2, a3, ⟨?_, a4.send, a4.tmo⟩, a5⟩ (Or.inl (by rw [hpf]; rfl))
  rcases ht with rfl | rfl
  · exact a4.recv
  · exact Nat.le_refl _

theorem ppOut_inv {a : AEAD} {s : NetcodeServer} {addr : Addr} {buf : Bytes} {r : ServerResult} {s' : NetcodeServer}
    (hi : ServerInv s) (ho : PPOut a s addr buf r s') : ServerInv s' := by
  cases ho with
  | short _ => exact hi
  | connErr i c e w' hfa hdec => exact window_inv hi hfa w' _ (Or.inl rfl)
  | connDisconnect i c sq w' hfa hdec => exact hi.dropSlot i
  | connPayload i c sq p w' hfa hdec => exact window_inv hi hfa w' _ (Or.inr rfl)
  | connKeepAlive i c sq ci mc w' hfa hdec => exact window_inv hi hfa w' _ (Or.inr rfl)
  | connOther i c sq pk w' hfa hdec _ _ _ => exact window_inv hi hfa w' _ (Or.inl rfl)
  | pendErr p e w' hfa hpf hdec => exact pendWindow_inv hi hpf w' (Or.inl rfl)
  | pendRequest p sq v pid expire xnonce data w' R _ _ hfa hpf hdec hout hres =>
    exact hcr_inv (pendWindow_inv hi hpf w' (Or.inr rfl)) hout hres
  | pendOther p sq pk w' hfa hpf hdec _ _ => exact pendWindow_inv hi hpf w' (Or.inr rfl)
  | respRejected p sq ts td w' hfa hpf hdec _ => exact pendWindow_inv hi hpf w' (Or.inr rfl)
  | respDropped p sq ts td w' hfa hpf hdec _ => exact hi.removePending addr
  | respFull p sq ts td w' out hfa hpf hdec _ _ _ _ =>
    exact (hi.removePending addr).congr rfl rfl rfl rfl rfl
  | respConnected p sq ts td w' i out hfa hpf hdec hct hid hff hen =>
    obtain ⟨a1, a2, a3, a4, a5⟩ := hi.pend (addr, p) (pendingFind_mem hpf)
    exact hi.connect (c := promoted p w' s.currentTime) (findById_none.mp hid) (findAddr_none.mp hfa) a1 rfl
      ⟨Nat.le_refl _, Nat.le_refl _, a4.tmo⟩
  | newErr e hfa hpf hdec => exact hi
  | newRequest sq v pid expire xnonce data R _ _ hfa hpf hdec hout hres => exact hcr_inv hi hout hres

theorem processPacket_inv (a : AEAD) {s : NetcodeServer} (hi : ServerInv s) (hg : s.globalSequence < U64_MAX)
    (hc : s.challengeSequence < U64_MAX) (addr : Addr) (buf : Bytes) :
    ∃ r s', s.processPacket a addr buf = .ok (r, s') ∧ ServerInv s' := by
  obtain ⟨r, s', h, ho⟩ := pp_spec a hi hg hc addr buf
  exact ⟨r, s', h, ppOut_inv hi ho⟩

end NS
end RenetVerif.Netcode
