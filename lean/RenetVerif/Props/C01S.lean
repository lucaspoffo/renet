/-
  C01 / C02 / C03 / C08 — SYSTEM level (end to end).

  Two endpoints built from the model functions (`Lemmas/System.lean`): A = `Conn.fromChannels budget send recv`,
  B = the mirror image.  A run is any list of operations
      sendA ch m | recvB ch | updA dt | updB dt | flushA | flushB | deliverToB k | deliverToA k
  where `deliverToB k` hands the k-th datagram A has EVER emitted to `B.process_packet` (k arbitrary: never chosen =
  loss, chosen twice = duplication, chosen late / out of order = delay / reordering), and likewise `deliverToA`.
  `submitted ch` is the ghost list of messages A's application passed to `send_message` on reliable channel `ch`
  that the channel accepted (message id = position in the list); `submittedU ch` the messages passed to the
  unreliable channel `ch`; `obtained ch` the ghost list of messages B's application got from `receive_message`.

  The theorems compose: C15 genuineness of every flush (`SendRel.getPackets_genuine`) + the sender bookkeeping
  invariant `ChanG` (`next_message_id` = length of the log, every `unacked` entry is the logged message) +
  C13/C16 wire round trip (`SendRel.getPackets_wf`, `Packet.fromBytes_enc`) + the receiver-side invariants of C01–C03
  (`DataPath.OrdInv`, `DataPath.UnordInv`, `DataPath.UInv`) + the C08 ack chain (`SI.Conn.processPacket_eff`,
  `C08.pending_acks_only_received`, sequence numbers of A's packets are unique).

  Hypothesis `CountersOK cfg s` (on the FINAL state only; `counters_run`: it then holds for every earlier state):
  channel ids are bytes (`u8` in the Rust code), A's `packet_sequence` ≤ 2^62, at most 2^62 messages were submitted
  per reliable channel, no submitted message is longer than MAX_NUM_SLICES * SLICE_SIZE (1.2 GB; the receiver's
  decoder rejects larger slice counts).  A run in which a model function panics is `none` and is excluded by
  `run … = some s` (absence of panics is the subject of C06/C12/C13).
-/
import RenetVerif.Lemmas.System
namespace RenetVerif.C01S
open RenetVerif C RenetVerif.System

/-- **C01, end to end.**  On a ReliableOrdered channel the sequence of messages the receiving application has
    obtained is, in every reachable state, a prefix of the sequence the sending application submitted — byte
    identical, no gaps, no duplicates, no reordering — whatever the network loses, duplicates, delays or reorders. -/
theorem ordered_prefix_end_to_end (cfg : Cfg) (ops : List SysOp) (s : Sys)
    (hr : (Sys.init cfg).run ops = some s) (hc : CountersOK cfg s) (ch : Nat) (ho : cfg.Ordered ch) :
    s.obtained ch <+: s.submitted ch :=
  (good_guarantees (system_inv cfg ops s hr) hc).1 ch ho

/-- the same at every intermediate moment of a longer run, spelled out: the counters hypothesis is only needed for
    the final state -/
theorem ordered_prefix_always (cfg : Cfg) (ops1 ops2 : List SysOp) (s1 s : Sys)
    (hr1 : (Sys.init cfg).run ops1 = some s1) (hr2 : s1.run ops2 = some s) (hc : CountersOK cfg s)
    (ch : Nat) (ho : cfg.Ordered ch) : s1.obtained ch <+: s1.submitted ch :=
  ordered_prefix_end_to_end cfg ops1 s1 hr1 (System.counters_run ops2 hr2 hc) ch ho

/-- **C02, end to end.**  On a ReliableUnordered channel the obtained messages are the submitted messages at
    pairwise distinct positions of the submission log: each at most once, intact, nothing fabricated. -/
theorem unordered_once_end_to_end (cfg : Cfg) (ops : List SysOp) (s : Sys)
    (hr : (Sys.init cfg).run ops = some s) (hc : CountersOK cfg s) (ch : Nat) (hu : cfg.Unordered ch) :
    ∃ ids : List Nat, ids.Nodup ∧ (s.obtained ch).map some = ids.map (fun id => (s.submitted ch)[id]?) :=
  (good_guarantees (system_inv cfg ops s hr) hc).2.1 ch hu

/-- **C03, end to end (reliable kinds).**  Every message obtained was submitted, byte for byte. -/
theorem integrity_end_to_end (cfg : Cfg) (ops : List SysOp) (s : Sys)
    (hr : (Sys.init cfg).run ops = some s) (hc : CountersOK cfg s) (ch : Nat) (hk : cfg.Ordered ch ∨ cfg.Unordered ch) :
    ∀ x ∈ s.obtained ch, x ∈ s.submitted ch :=
  (good_guarantees (system_inv cfg ops s hr) hc).integrity.1 ch hk

/-- **C03, end to end (unreliable kind).**  On an Unreliable channel every message the receiving application
    obtains — small, or reassembled from slices — is byte-identical to one that was passed to `send_message` on that
    channel (`submittedU`); nothing is fabricated, nothing is assembled from slices of different messages. -/
theorem integrity_unreliable_end_to_end (cfg : Cfg) (ops : List SysOp) (s : Sys)
    (hr : (Sys.init cfg).run ops = some s) (hc : CountersOK cfg s) (ch : Nat) (hk : cfg.Unreliable ch) :
    ∀ x ∈ s.obtained ch, x ∈ s.submittedU ch :=
  (good_guarantees (system_inv cfg ops s hr) hc).2.2 ch hk

/-- **C08, end to end.**  If message `id` of A's reliable channel `ch` has been issued (`id < next_message_id`) and is
    no longer in `unacked` — A has stopped retransmitting it and given its bytes back to the channel's memory budget —
    then every packet needed to rebuild that message was handed to B: `m` being the `id`-th submitted message,
    * `m` small: some datagram `outA[k]`, `k ∈ deliveredToB`, decodes to a SmallReliable packet of channel `ch`
      containing `(id, m)`;
    * `m` sliced: for EVERY slice index `i < n = ⌈|m| / SLICE_SIZE⌉`, some delivered datagram decodes to the
      ReliableSlice packet `(ch, id, i, n, sliceBytes m n i)`.
    Lost, duplicated, reordered or stale acknowledgements (any `deliverToA` schedule) cannot cause an earlier release. -/
theorem release_only_after_delivery (cfg : Cfg) (ops : List SysOp) (s : Sys)
    (hr : (Sys.init cfg).run ops = some s) (hc : CountersOK cfg s) (ch : Nat) (sA : SendRel)
    (hf : SMap.find? s.a.sendRel ch = some sA) (id : Nat) (hid : id < sA.nextId)
    (hrel : SMap.find? sA.unacked id = none) :
    ∃ m, (s.submitted ch)[id]? = some m ∧
      (m.length ≤ SLICE_SIZE → ∃ k ∈ s.deliveredToB, ∃ bytes sq msgs, s.outA[k]? = some bytes ∧
          Packet.fromBytes bytes = .ok (.smallReliable sq ch msgs) ∧ (id, m) ∈ msgs) ∧
      (SLICE_SIZE < m.length → ∀ i, i < divCeil m.length SLICE_SIZE → ∃ k ∈ s.deliveredToB, ∃ bytes sq,
          s.outA[k]? = some bytes ∧
          Packet.fromBytes bytes = .ok (.reliableSlice sq ch
            ⟨id, i, divCeil m.length SLICE_SIZE, sliceBytes m (divCeil m.length SLICE_SIZE) i⟩)) :=
  good_release (system_inv cfg ops s hr) hc ch sA hf id hid hrel

/-- … and the same for a message still being transmitted: a slice that A has marked acknowledged (and will not
    retransmit) was handed to B -/
theorem slice_marked_only_after_delivery (cfg : Cfg) (ops : List SysOp) (s : Sys)
    (hr : (Sys.init cfg).run ops = some s) (hc : CountersOK cfg s) (ch : Nat) (sA : SendRel)
    (hf : SMap.find? s.a.sendRel ch = some sA) (id : Nat) (m : Bytes) (n k nx : Nat) (a : List Bool)
    (ls : List (Option Nat)) (hent : SMap.find? sA.unacked id = some (.sliced m n k nx a ls))
    (i : Nat) (hi : a[i]? = some true) :
    ∃ j ∈ s.deliveredToB, ∃ bytes sq, s.outA[j]? = some bytes ∧
      Packet.fromBytes bytes = .ok (.reliableSlice sq ch ⟨id, i, n, sliceBytes m n i⟩) := by
  obtain ⟨pkA, h1, h2, h3, -⟩ := system_inv cfg ops s hr
  obtain ⟨-, o2, o3, -⟩ := (h1.invA.1.chans ch sA hf).1.find_ok hent
  have hin : i < n := by
    have := (List.getElem?_eq_some_iff.mp hi).1
    omega
  rcases (h3.relA ch sA hf).marked id m n k nx a ls hent i hin with ⟨m2, n2, k2, nx2, a2, ls2, hf2, ha2⟩ | hdel
  · rw [hent] at hf2; cases hf2
    rw [hi] at ha2; cases ha2
  · have hm : (s.submitted ch)[id]? = some m := (h1.chanA ch sA hf).1.gen _ (SMap.mem_of_find? hent)
    rw [o2]
    exact sliceDeliv_decodes h1 (h2 hc) hm hdel

/-! ## non-vacuity: concrete runs evaluated by the kernel

  `Ex` — one ReliableOrdered channel (id 0) each way, 60000 bytes per tick, resend time 100 ns.
  A submits a 3-byte message (id 0) and a 1300-byte message (id 1: two slices of 1200 and 100 bytes) and flushes:
  `outA[0]` = slice 0 of message 1, `outA[1]` = slice 1, `outA[2]` = the small-message packet.
  The network delivers `outA[1]`, `outA[2]`, `outA[1]` again (duplicate) — B's application gets message 0 only
  (state `mid`).  B's ack (`outB[0]`, covering packets 1..2) reaches A, which releases message 0 and marks slice 1;
  after the resend time A flushes again (`outA[3]` = slice 0 retransmitted, `outA[4]` = A's own ack packet);
  `outA[3]` is delivered, B's application gets message 1; B's second ack (`outB[1]`, packets 1..3) reaches A, which
  releases message 1; finally the stale first ack arrives again.  `outA[0]` and `outA[4]` are never delivered. -/
namespace Ex

def cfg : Cfg := ⟨60000, [⟨0, .ordered, 100000, 100⟩], [⟨0, .ordered, 100000, 100⟩]⟩
def m0 : Bytes := [1, 2, 3]
def m1 : Bytes := List.replicate 1200 7 ++ List.replicate 100 9
def ops1 : List SysOp :=
  [.sendA 0 m0, .sendA 0 m1, .flushA, .deliverToB 1, .deliverToB 2, .recvB 0, .deliverToB 1, .recvB 0]
def ops2 : List SysOp :=
  [.flushB, .deliverToA 0, .updA 1000, .flushA, .deliverToB 3, .recvB 0, .recvB 0, .flushB, .deliverToA 1, .deliverToA 0]

def mid : Sys := ((Sys.init cfg).run ops1).getD (Sys.init cfg)
def fin : Sys := (mid.run ops2).getD (Sys.init cfg)

/-- everything the examples below need, in one kernel evaluation: both parts of the run succeed; the counters in the final
    state; the logs of the two states; A's sending channel at the end and in the middle; what the delivered datagrams decode to -/
theorem facts :
    (((Sys.init cfg).run ops1).isSome = true ∧ (mid.run ops2).isSome = true) ∧
    (fin.a.packetSeq ≤ Varint.MAX + 1 ∧ (∀ c ∈ cfg.send, (fin.submitted c.id).length ≤ Varint.MAX + 1) ∧
      (∀ c ∈ cfg.send, ∀ m ∈ fin.submitted c.id, m.length ≤ MAX_NUM_SLICES * SLICE_SIZE) ∧
      (∀ c ∈ cfg.send, ∀ m ∈ fin.submittedU c.id, m.length ≤ MAX_NUM_SLICES * SLICE_SIZE)) ∧
    (mid.submitted 0 = [m0, m1] ∧ mid.obtained 0 = [m0] ∧ fin.submitted 0 = [m0, m1] ∧ fin.obtained 0 = [m0, m1] ∧
      fin.deliveredToB = [1, 2, 1, 3] ∧ fin.outA.length = 5 ∧ fin.outB.length = 2) ∧
    ((SMap.find? fin.a.sendRel 0).map (fun s => (s.nextId, s.unacked, s.available)) = some (2, [], 100000) ∧
      (SMap.find? mid.a.sendRel 0).map (fun s => (s.nextId, s.unacked.map (·.1), s.available)) = some (2, [0, 1], 100000 - 1303)) ∧
    ((fin.outA[2]?).map Packet.fromBytes = some (.ok (.smallReliable 2 0 [(0, m0)])) ∧
      (fin.outA[1]?).map Packet.fromBytes = some (.ok (.reliableSlice 1 0 ⟨1, 1, 2, List.replicate 100 9⟩)) ∧
      (fin.outA[3]?).map Packet.fromBytes = some (.ok (.reliableSlice 3 0 ⟨1, 0, 2, List.replicate 1200 7⟩))) := by
  decide +kernel

theorem run1 : (Sys.init cfg).run ops1 = some mid := some_getD facts.1.1 _
theorem run2 : mid.run ops2 = some fin := some_getD facts.1.2 _
theorem run12 : (Sys.init cfg).run (ops1 ++ ops2) = some fin := by
  rw [Sys.run_append, run1, Option.bind_some, run2]

theorem counters : CountersOK cfg fin := ⟨by decide, facts.2.1.1, facts.2.1.2.1, facts.2.1.2.2.1, facts.2.1.2.2.2⟩

theorem ordered0 : cfg.Ordered 0 := ⟨⟨_, List.mem_singleton.mpr rfl, rfl, rfl⟩, by decide⟩

example : fin.obtained 0 <+: fin.submitted 0 := ordered_prefix_end_to_end cfg _ fin run12 counters 0 ordered0
example : mid.obtained 0 <+: mid.submitted 0 := ordered_prefix_always cfg ops1 ops2 mid fin run1 run2 counters 0 ordered0
/-- what actually happened: a strict prefix in the middle (message 1 incomplete: slice 0 lost), everything at the end;
    four datagrams were handed to B, one of them twice, two of A's five datagrams never -/
example : mid.submitted 0 = [m0, m1] ∧ mid.obtained 0 = [m0] ∧ fin.submitted 0 = [m0, m1] ∧ fin.obtained 0 = [m0, m1] ∧
    fin.deliveredToB = [1, 2, 1, 3] ∧ fin.outA.length = 5 ∧ fin.outB.length = 2 := facts.2.2.1
example : ∀ x ∈ fin.obtained 0, x ∈ fin.submitted 0 := integrity_end_to_end cfg _ fin run12 counters 0 (Or.inl ordered0)

/-- A's sending channel at the end: both messages released, available memory back to the full budget (in the middle
    both were still stored: `facts.2.2.2.1.2`) -/
theorem chanFin : ∃ sA, SMap.find? fin.a.sendRel 0 = some sA ∧ sA.nextId = 2 ∧ sA.unacked = [] := by
  have h := facts.2.2.2.1.1
  cases hf : SMap.find? fin.a.sendRel 0 with
  | none => rw [hf] at h; cases h
  | some sA =>
    rw [hf] at h
    simp only [Option.map_some, Option.some.injEq, Prod.mk.injEq] at h
    exact ⟨sA, rfl, h.1, h.2.1⟩

/-- C08 for the small message 0 and the sliced message 1: the delivered datagrams exist … -/
example (id : Nat) (hid : id < 2) : ∃ m, (fin.submitted 0)[id]? = some m ∧
    (m.length ≤ SLICE_SIZE → ∃ k ∈ fin.deliveredToB, ∃ bytes sq msgs, fin.outA[k]? = some bytes ∧
      Packet.fromBytes bytes = .ok (.smallReliable sq 0 msgs) ∧ (id, m) ∈ msgs) ∧
    (SLICE_SIZE < m.length → ∀ i, i < divCeil m.length SLICE_SIZE → ∃ k ∈ fin.deliveredToB, ∃ bytes sq,
      fin.outA[k]? = some bytes ∧ Packet.fromBytes bytes = .ok (.reliableSlice sq 0
        ⟨id, i, divCeil m.length SLICE_SIZE, sliceBytes m (divCeil m.length SLICE_SIZE) i⟩)) := by
  obtain ⟨sA, hf, hn, hu⟩ := chanFin
  exact release_only_after_delivery cfg _ fin run12 counters 0 sA hf id (by omega) (by rw [hu]; rfl)
/-- … message 0 in `outA[2]`; slice 1 of message 1 in `outA[1]`, slice 0 only in the retransmission `outA[3]` (the
    first copy `outA[0]` was never handed to B) -/
example : (fin.outA[2]?).map Packet.fromBytes = some (.ok (.smallReliable 2 0 [(0, m0)])) ∧
    (fin.outA[1]?).map Packet.fromBytes = some (.ok (.reliableSlice 1 0 ⟨1, 1, 2, List.replicate 100 9⟩)) ∧
    (fin.outA[3]?).map Packet.fromBytes = some (.ok (.reliableSlice 3 0 ⟨1, 0, 2, List.replicate 1200 7⟩)) ∧
    0 ∉ fin.deliveredToB := by
  obtain ⟨-, -, ⟨-, -, -, -, hd, -, -⟩, -, h2, h1, h3⟩ := facts
  exact ⟨h2, h1, h3, by rw [hd]; decide⟩

end Ex

/-! `ExU` — a ReliableUnordered channel 0 from A to B.  A submits a 2-byte message, flushes (`outA[0]`), submits a
    1300-byte message, flushes (`outA[1]`, `outA[2]` = its slices).  Delivery order: `outA[2]`, `outA[1]` — B's
    application gets the LATER message first — then `outA[0]`, then `outA[2]` again. -/
namespace ExU

def cfg : Cfg := ⟨60000, [⟨0, .unordered, 100000, 100⟩], [⟨0, .ordered, 100000, 100⟩]⟩
def a : Bytes := [4, 5]
def b : Bytes := List.replicate 1200 7 ++ List.replicate 100 9
def ops : List SysOp :=
  [.sendA 0 a, .flushA, .sendA 0 b, .flushA, .deliverToB 2, .deliverToB 1, .recvB 0, .deliverToB 0, .deliverToB 2,
   .recvB 0, .recvB 0]
def fin : Sys := ((Sys.init cfg).run ops).getD (Sys.init cfg)

theorem facts :
    ((Sys.init cfg).run ops).isSome = true ∧
    (fin.a.packetSeq ≤ Varint.MAX + 1 ∧ (∀ c ∈ cfg.send, (fin.submitted c.id).length ≤ Varint.MAX + 1) ∧
      (∀ c ∈ cfg.send, ∀ m ∈ fin.submitted c.id, m.length ≤ MAX_NUM_SLICES * SLICE_SIZE) ∧
      (∀ c ∈ cfg.send, ∀ m ∈ fin.submittedU c.id, m.length ≤ MAX_NUM_SLICES * SLICE_SIZE)) ∧
    (fin.submitted 0 = [a, b] ∧ fin.obtained 0 = [b, a]) := by
  decide +kernel
theorem run : (Sys.init cfg).run ops = some fin := some_getD facts.1 _
theorem counters : CountersOK cfg fin := ⟨by decide, facts.2.1.1, facts.2.1.2.1, facts.2.1.2.2.1, facts.2.1.2.2.2⟩
theorem unordered0 : cfg.Unordered 0 := ⟨⟨_, List.mem_singleton.mpr rfl, rfl, rfl⟩, by decide⟩

example : ∃ ids : List Nat, ids.Nodup ∧ (fin.obtained 0).map some = ids.map (fun id => (fin.submitted 0)[id]?) :=
  unordered_once_end_to_end cfg ops fin run counters 0 unordered0
/-- what actually happened: out of order, each exactly once (witness `ids = [1, 0]`) -/
example : fin.submitted 0 = [a, b] ∧ fin.obtained 0 = [b, a] := facts.2.2
example : ∀ x ∈ fin.obtained 0, x ∈ fin.submitted 0 := integrity_end_to_end cfg ops fin run counters 0 (Or.inr unordered0)

end ExU

/-! `ExN` — an Unreliable channel 0 from A to B.  A submits a 2-byte and a 1300-byte message and flushes: `outA[0]`,
    `outA[1]` = the two slices (sliced-message id 0), `outA[2]` = the small-message packet.  Delivery order: `outA[1]`,
    `outA[2]`, then `outA[0]` (completing the reassembly), then `outA[1]` once more (a stale duplicate fragment). -/
namespace ExN

def cfg : Cfg := ⟨60000, [⟨0, .unreliable, 100000, 0⟩], [⟨0, .ordered, 100000, 100⟩]⟩
def a : Bytes := [4, 5]
def b : Bytes := List.replicate 1200 7 ++ List.replicate 100 9
def ops : List SysOp :=
  [.sendA 0 a, .sendA 0 b, .flushA, .deliverToB 1, .deliverToB 2, .recvB 0, .deliverToB 0, .deliverToB 1, .recvB 0,
   .updB 1000, .recvB 0]
def fin : Sys := ((Sys.init cfg).run ops).getD (Sys.init cfg)

theorem facts :
    ((Sys.init cfg).run ops).isSome = true ∧
    (fin.a.packetSeq ≤ Varint.MAX + 1 ∧ (∀ c ∈ cfg.send, (fin.submitted c.id).length ≤ Varint.MAX + 1) ∧
      (∀ c ∈ cfg.send, ∀ m ∈ fin.submitted c.id, m.length ≤ MAX_NUM_SLICES * SLICE_SIZE) ∧
      (∀ c ∈ cfg.send, ∀ m ∈ fin.submittedU c.id, m.length ≤ MAX_NUM_SLICES * SLICE_SIZE)) ∧
    (fin.submittedU 0 = [a, b] ∧ fin.obtained 0 = [a, b] ∧ fin.outA.length = 3 ∧ fin.deliveredToB = [1, 2, 0, 1]) := by
  decide +kernel
theorem run : (Sys.init cfg).run ops = some fin := some_getD facts.1 _
theorem counters : CountersOK cfg fin := ⟨by decide, facts.2.1.1, facts.2.1.2.1, facts.2.1.2.2.1, facts.2.1.2.2.2⟩
theorem unreliable0 : cfg.Unreliable 0 := by unfold Cfg.Unreliable; decide

example : ∀ x ∈ fin.obtained 0, x ∈ fin.submittedU 0 :=
  integrity_unreliable_end_to_end cfg ops fin run counters 0 unreliable0
/-- what actually happened: both messages arrived, the large one reassembled from slices delivered out of order -/
example : fin.submittedU 0 = [a, b] ∧ fin.obtained 0 = [a, b] ∧ fin.outA.length = 3 ∧ fin.deliveredToB = [1, 2, 0, 1] := facts.2.2

end ExN

end RenetVerif.C01S
