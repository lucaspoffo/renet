/-
  Helpers for `Props/SrcPropsFullStackMulti2.lean`: the lock-step, frame and broadcast statements of `Props/C20M.lean` about the
  GENERATED several-client stack `GMS` of `Props/SrcPropsFullStackMulti.lean`.
  Lock-step is read off the generated state with generated accessors only (`GLockStep`, `GNoDead`); `GSameForCid` mirrors
  `FullStackMulti.SameForCid`.  The representation parameter `mrss` of the generated server is THE SAME before and after a generated server call (the ties
  `server_…_eq mrss`), which is what makes "the entry of `cid` is unchanged" a statement about generated values.
-/
import RenetVerif.Props.SrcPropsFullStackMulti
namespace RenetVerif.SrcFullStackMulti2
open RenetVerif C RenetVerif.RustSem RenetVerif.System RenetVerif.Netcode RenetVerif.Transport RenetVerif.FullStack
  RenetVerif.FullStackMulti
open RenetVerif.SrcEquiv RenetVerif.SrcSystem RenetVerif.SrcMulti RenetVerif.SrcFullStack RenetVerif.SrcPropsFullStackMulti
open Src.renet.remote_connection Src.renet.server Src.renet_netcode.server Src.renet_netcode.client

/-- the generated `NetcodeServer::clients_id` returns a duplicate-free list `ids`; the keys of the generated `RenetServer`'s
    connection table are exactly `ids`; the generated `RenetServer::clients_id` (the CONNECTED entries of the table) returns
    ids of `ids` only -/
def GLockStep (g : GFS) : Prop :=
  ∃ ids, (Src.renetcode.server.NetcodeServer.clients_id g.ts.netcode_server : Res Empty _) = .ok ids ∧ ids.Nodup ∧
    (∀ id, RustSem.Map.contains_key g.rs.connections id = true ↔ id ∈ ids) ∧
    ∃ rids, (RenetServer.clients_id g.rs : Res Empty _) = .ok rids ∧ ∀ id ∈ rids, id ∈ ids

def GNoDead (g : GFS) : Prop := (RenetServer.disconnections_id g.rs : Res Empty _) = .ok []

theorem glockStep_of {fs : FS} {g : GFS} (sim : SimFS fs g) (hl : GI.LockStep fs.s) : GLockStep g := by
  obtain ⟨rest, out, o, buf, -, -, hts⟩ := sim.ts
  obtain ⟨mrss, hrs⟩ := sim.rs
  refine ⟨fs.s.netcode.clientsId, ?_, hl.nodup, fun id => ?_, fs.s.renet.clientsId, ?_, fun id hid => ?_⟩
  · rw [hts]; exact SrcTie.nc_server_clients_id o fs.s.netcode
  · rw [hrs, contains_repr]; exact hl.sync id
  · rw [hrs]; exact SrcTie.server_clients_id_key_order mrss fs.s.renet
  · exact (hl.sync id).mp (GI.contains_of_mem_clientsId hid)

theorem lockStep_of_g {fs : FS} {g : GFS} (sim : SimFS fs g) (hg : FSGood fs) (h : GLockStep g) : GI.LockStep fs.s := by
  obtain ⟨rest, out, o, buf, -, -, hts⟩ := sim.ts
  obtain ⟨mrss, hrs⟩ := sim.rs
  obtain ⟨ids, h1, hn, hk, -⟩ := h
  have e : (Src.renetcode.server.NetcodeServer.clients_id g.ts.netcode_server : Res Empty _) = .ok fs.s.netcode.clientsId := by
    rw [hts]; exact SrcTie.nc_server_clients_id o fs.s.netcode
  rw [e] at h1
  cases h1
  refine ⟨hn, hg.srv.sorted, fun id => ?_⟩
  rw [← hk id, hrs, contains_repr]

theorem gnoDead_of {fs : FS} {g : GFS} (sim : SimFS fs g) (hs : SL.SMap.Sorted fs.s.renet.conns)
    (hnd : GI.NoDead fs.s.renet) : GNoDead g := by
  obtain ⟨mrss, hrs⟩ := sim.rs
  unfold GNoDead
  rw [hrs, SrcTie.server_disconnections_id_key_order, SrcPropsFullStack.noDead_disconnectionsId hs hnd]

/-- `g'` is `g` as far as the observed session `cid` is concerned: same generated client transport and `RenetClient`, same
    generated `NetcodeServerTransport` (hence the same slot for `cid`), same entry of `cid` in the generated `RenetServer`'s
    connection table, same histories and ghost logs.  Other entries of the generated table are unconstrained. -/
structure GSameForCid (cid : Nat) (g g' : GFS) : Prop where
  tc : g'.tc = g.tc
  rc : g'.rc = g.rc
  ts : g'.ts = g.ts
  conn : gconn? g'.rs cid = gconn? g.rs cid
  emC : g'.emC = g.emC
  emS : g'.emS = g.emS
  ySeq : gtrackSeq cid g'.rs g'.ySeq = gtrackSeq cid g.rs g.ySeq
  subC : g'.subC = g.subC
  subCU : g'.subCU = g.subCU
  obtS : g'.obtS = g.obtS
  subS : g'.subS = g.subS
  subSU : g'.subSU = g.subSU
  obtC : g'.obtC = g.obtC

theorem GSameForCid.refl (cid : Nat) (g : GFS) : GSameForCid cid g g :=
  ⟨rfl, rfl, rfl, rfl, rfl, rfl, rfl, rfl, rfl, rfl, rfl, rfl, rfl⟩

theorem gtrackSeq_congr {cid : Nat} {r1 r2 : SRenetServer} (h : gconn? r1 cid = gconn? r2 cid) (old : Nat) :
    gtrackSeq cid r1 (gtrackSeq cid r1 old) = gtrackSeq cid r2 old := by
  unfold gtrackSeq
  rw [h]
  cases gconn? r2 cid <;> rfl

theorem gsame_sendGhost {cid : Nat} {g : GFS} {r1 r2 : SRenetServer} (ch : Nat) (m : Bytes)
    (h : gconn? r2 cid = gconn? r1 cid) : GSameForCid cid (gsendGhost cid g r1 ch m) (gsendGhost cid g r2 ch m) := by
  refine ⟨rfl, rfl, rfl, h, rfl, rfl, ?_, rfl, rfl, rfl, ?_, rfl, rfl⟩
  · show gtrackSeq cid r2 (gtrackSeq cid r2 g.ySeq) = gtrackSeq cid r1 (gtrackSeq cid r1 g.ySeq)
    rw [gtrackSeq_congr h, gtrackSeq_congr rfl]
  · simp only [gsendGhost, h]

theorem gconn_repr_congr (mrss : Nat → Nat → Nat) {s s' : Server} {cid : Nat}
    (h : SMap.find? s'.conns cid = SMap.find? s.conns cid) :
    gconn? (reprServer mrss s') cid = gconn? (reprServer mrss s) cid := by
  rw [gconn_repr, gconn_repr]
  unfold MultiSystem.conn?
  rw [h]

theorem gsame_setRenet {cid : Nat} {g : GFS} {mrss : Nat → Nat → Nat} {s s' : Server} (hrs : g.rs = reprServer mrss s)
    (h : SMap.find? s'.conns cid = SMap.find? s.conns cid) : GSameForCid cid g (gsetRenet cid g (reprServer mrss s')) := by
  have hc : gconn? (reprServer mrss s') cid = gconn? g.rs cid := by
    rw [hrs]
    exact gconn_repr_congr mrss h
  exact ⟨rfl, rfl, rfl, hc, rfl, rfl, gtrackSeq_congr hc _, rfl, rfl, rfl, rfl, rfl, rfl⟩

theorem gstep_srvSend {a : AEAD} {cid : Nat} {g : GFS} {ch : Nat} {m : Bytes} {rs' : SRenetServer}
    (h : (RenetServer.send_message g.rs cid ch (toNats m) : Res Empty _) = .ok (rs', ())) :
    g.step a cid (.srvSend ch m) = some (gsendGhost cid g rs' ch m) := by
  simp only [GFS.step, h]
  rfl

theorem gothStep_g {a : AEAD} {cid : Nat} {gm gm' : GMS} {cop : FSOp} (hs : gm.othStep a cid cop = some gm') :
    gm'.g = gm.g := by
  unfold GMS.othStep at hs
  split at hs
  · cases hs; rfl
  · cases hs

theorem gother_frame (a : AEAD) (cid : Nat) {ms : MS} {gm gm' : GMS} (hg : MSGood ms) (sim : SimMS ms gm) (op : MOp)
    (hrg : MOpInRange ms op) (ho : isOther cid op = true) (hs : gm.step a cid op = some gm') :
    GSameForCid cid gm.g gm'.g := by
  obtain ⟨mrss, hrs⟩ := sim.fs.rs
  have hsg := hg.fs.srv
  cases op with
  | base op => cases ho
  | srvBroadcast ch m => cases ho
  | srvSendTo id ch m =>
    have hne : id ≠ cid := of_decide_eq_true ho
    simp only [GMS.step, if_neg hne, hrs] at hs
    have tie := SrcTie.server_send_message (ε := Empty) mrss ms.fs.s.renet id ch m hsg.sorted
      (fun c hf => sendMsgOk_of (hsg.find hf) (hrg.2 (id, c) (SMap.mem_of_find? hf)) ch m hrg.1)
    rcases tie.map_cases with ⟨rs', hm, e⟩ | ⟨_, _, -, e⟩
    · rw [e] at hs
      cases hs
      exact gsame_setRenet hrs ((SL.Server.sendMessage_spec hm).1.others cid (fun e => hne e.symm))
    · rw [e] at hs
      cases hs
  | srvRecvFrom id ch =>
    have hne : id ≠ cid := of_decide_eq_true ho
    simp only [GMS.step, if_neg hne, hrs] at hs
    have tie := SrcTie.server_receive_message (ε := Empty) mrss ms.fs.s.renet id ch hsg.sorted
      (fun c hf => recvOk_of (hsg.find hf) (hrg (id, c) (SMap.mem_of_find? hf)) ch)
    rcases tie.map_cases with ⟨⟨rs', o⟩, hm, e⟩ | ⟨_, _, -, e⟩
    · rw [e] at hs
      cases hs
      exact gsame_setRenet hrs ((SL.Server.receiveMessage_spec hm).1.others cid (fun e => hne e.symm))
    · rw [e] at hs
      cases hs
  | srvDisconnectId id =>
    have hne : id ≠ cid := of_decide_eq_true ho
    simp only [GMS.step, if_neg hne, hrs, SrcTie.server_disconnect (ε := Empty) mrss ms.fs.s.renet id hsg.sorted] at hs
    cases hs
    exact gsame_setRenet hrs ((SL.Server.disconnect_spec ms.fs.s.renet id).1.others cid (fun e => hne e.symm))
  | srvBroadcastExcept ex ch m =>
    have he : ex = cid := of_decide_eq_true ho
    subst he
    simp only [GMS.step, hrs, if_true] at hs
    have tie := SrcTie.server_broadcast_message_except (ε := Empty) mrss ms.fs.s.renet ex ch m
      (fun p hp _ => sendMsgOk_of (hsg.conns p hp) (hrg.2 p hp) ch m hrg.1)
    rcases tie.map_cases with ⟨rs', hm, e⟩ | ⟨_, _, -, e⟩
    · rw [e] at hs
      cases hs
      exact gsame_setRenet hrs (SL.Server.broadcastExcept_spec hm).2.2.1
    · rw [e] at hs
      cases hs
  | _ =>
    rw [gothStep_g hs]
    exact .refl _ _

theorem gsendLike {a : AEAD} {cid : Nat} {ms : MS} {gm : GMS} (hg : MSGood ms) (mrss : Nat → Nat → Nat)
    (hrs : gm.g.rs = reprServer mrss ms.fs.s.renet) {rs' : Server} {ch : Nat} {m : Bytes} (hlen : m.length < 2 ^ 63)
    (hir : SrvInRange ms.fs.s.renet) (hj : SendsTo cid ch m ms.fs.s.renet rs') :
    ∃ g1, gm.g.step a cid (.srvSend ch m) = some g1 ∧
      GSameForCid cid g1 (gsendGhost cid gm.g (reprServer mrss rs') ch m) := by
  have hsg := hg.fs.srv
  obtain ⟨rs1, h1, h2⟩ := sendMessage_matches hj
  have tie := SrcTie.server_send_message (ε := Empty) mrss ms.fs.s.renet cid ch m hsg.sorted
    (fun c hf => sendMsgOk_of (hsg.find hf) (hir (cid, c) (SMap.mem_of_find? hf)) ch m hlen)
  have e := tie.map_ok h1
  rw [← hrs] at e
  exact ⟨_, gstep_srvSend e, gsame_sendGhost ch m (gconn_repr_congr mrss h2)⟩

theorem gbroadcast_is_send (a : AEAD) (cid : Nat) {ms : MS} {gm gm' : GMS} (hg : MSGood ms) (sim : SimMS ms gm)
    (ch : Nat) (m : Bytes) (hrg : MOpInRange ms (.srvBroadcast ch m)) (hs : gm.step a cid (.srvBroadcast ch m) = some gm') :
    ∃ g1, gm.g.step a cid (.srvSend ch m) = some g1 ∧ GSameForCid cid g1 gm'.g := by
  obtain ⟨mrss, hrs⟩ := sim.fs.rs
  have hsg := hg.fs.srv
  simp only [GMS.step, hrs] at hs
  have tie := SrcTie.server_broadcast_message (ε := Empty) mrss ms.fs.s.renet ch m
    (fun p hp => sendMsgOk_of (hsg.conns p hp) (hrg.2 p hp) ch m hrg.1)
  rcases tie.map_cases with ⟨rs', hm, e⟩ | ⟨_, _, -, e⟩
  · rw [e] at hs
    cases hs
    obtain ⟨-, -, hj⟩ := SL.Server.broadcast_spec hm
    exact gsendLike hg mrss hrs hrg.1 hrg.2 (hj cid)
  · rw [e] at hs
    cases hs

theorem gbroadcastExcept_is_send (a : AEAD) (cid : Nat) {ms : MS} {gm gm' : GMS} (hg : MSGood ms) (sim : SimMS ms gm)
    (ex ch : Nat) (m : Bytes) (hne : ex ≠ cid) (hrg : MOpInRange ms (.srvBroadcastExcept ex ch m))
    (hs : gm.step a cid (.srvBroadcastExcept ex ch m) = some gm') :
    ∃ g1, gm.g.step a cid (.srvSend ch m) = some g1 ∧ GSameForCid cid g1 gm'.g := by
  obtain ⟨mrss, hrs⟩ := sim.fs.rs
  have hsg := hg.fs.srv
  simp only [GMS.step, hrs, if_neg hne] at hs
  have tie := SrcTie.server_broadcast_message_except (ε := Empty) mrss ms.fs.s.renet ex ch m
    (fun p hp _ => sendMsgOk_of (hsg.conns p hp) (hrg.2 p hp) ch m hrg.1)
  rcases tie.map_cases with ⟨rs', hm, e⟩ | ⟨_, _, -, e⟩
  · rw [e] at hs
    cases hs
    obtain ⟨-, -, -, hj⟩ := SL.Server.broadcastExcept_spec hm
    exact gsendLike hg mrss hrs hrg.1 hrg.2 (hj cid (fun e => hne e.symm))
  · rw [e] at hs
    cases hs

theorem msRunOK_snoc (a : AEAD) (cid : Nat) : ∀ (ops : List MOp) (ms0 ms : MS) (op : MOp),
    MSRunOK a cid ms0 (ops ++ [op]) → ms0.run a cid (ops.map cutMOp) = some ms →
    MSRunOK a cid ms0 ops ∧ MOpInRange ms op ∧ MOpLocalOk a ms op := by
  intro ops
  induction ops with
  | nil =>
    intro ms0 ms op hok hr
    simp only [List.map_nil, MS.run, Option.some.injEq] at hr
    subst hr
    exact ⟨trivial, hok.1, hok.2.1⟩
  | cons o ops ih =>
    intro ms0 ms op hok hr
    obtain ⟨h1, h2, h3⟩ := hok
    simp only [List.map_cons, MS.run] at hr
    cases hs : ms0.step a cid (cutMOp o) with
    | none => rw [hs] at hr; cases hr
    | some ms1 =>
      rw [hs] at hr h3
      obtain ⟨q1, q2⟩ := ih ms1 ms op h3 hr
      refine ⟨⟨h1, h2, ?_⟩, q2⟩
      rw [hs]; exact q1

theorem gms_run_append (a : AEAD) (cid : Nat) : ∀ (l1 l2 : List MOp) (gm : GMS),
    gm.run a cid (l1 ++ l2) = (gm.run a cid l1).bind (fun gm' => gm'.run a cid l2) := by
  intro l1
  induction l1 with
  | nil => intro l2 gm; rfl
  | cons op l1 ih =>
    intro l2 gm
    simp only [List.cons_append, GMS.run]
    cases gm.step a cid op with
    | none => rfl
    | some gm' => exact ih l2 gm'

theorem msRunOK_prefix (a : AEAD) (cid : Nat) : ∀ (l1 l2 : List MOp) (ms : MS),
    MSRunOK a cid ms (l1 ++ l2) → MSRunOK a cid ms l1 := by
  intro l1
  induction l1 with
  | nil => intro l2 ms _; exact trivial
  | cons o l1 ih =>
    intro l2 ms hok
    obtain ⟨h1, h2, h3⟩ := hok
    refine ⟨h1, h2, ?_⟩
    cases hs : ms.step a cid (cutMOp o) with
    | none => trivial
    | some ms1 =>
      rw [hs] at h3
      exact ih l2 ms1 h3

theorem grun_split (a : AEAD) (cid : Nat) (l1 : List MOp) (op : MOp) (l2 : List MOp) (gm0 gfin : GMS)
    (h : gm0.run a cid (l1 ++ [op] ++ l2) = some gfin) :
    ∃ gm gm', gm0.run a cid l1 = some gm ∧ gm.step a cid op = some gm' ∧ gm'.run a cid l2 = some gfin := by
  rw [gms_run_append, gms_run_append] at h
  cases h1 : gm0.run a cid l1 with
  | none => rw [h1] at h; cases h
  | some gm =>
    rw [h1] at h
    simp only [Option.bind_some, GMS.run] at h
    cases h2 : gm.step a cid op with
    | none => rw [h2] at h; cases h
    | some gm' =>
      rw [h2] at h
      exact ⟨gm, gm', rfl, h2, h⟩

end RenetVerif.SrcFullStackMulti2
