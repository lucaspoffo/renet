/-
  Source tie, closed: the send path and the transports with only RANGE hypotheses.

  * `TInv` (`Lemmas/SrcEquiv/SendTimeInv.lean`), a model-level invariant: every `last_sent` stamp of the reliable send
    channels, every send time in `sent_packets`, every `slices_last_received` stamp is `≤ now`, and the slice cursor of a
    sliced unacked message is `≤ num_slices`.  Established by `from_channels` (`tinv_from_channels`), kept by
    `send_message`, `receive_message`, `update`, `process_packet` (every byte sequence; through the ack loop and the
    unreliable slice path) and `get_packets_to_send` (through `SendRel.getPackets`' slice loop): `tinv_*`.
  * `send_ok_of_inv`: `SendOk c` (hypothesis of `conn_get_packets_to_send`) from `Conn.InvP`, `TInv` and `SendRange c`
    — the range conditions of one flush, stated once: per send channel `next id ≤ 2^60`, `budget ≤ 2^60`,
    `sliced id + queue length ≤ 2^60`; `Conn.flushSeq c ≤ 2^60` (the packet sequence after this flush) and at most `2^50`
    packets in one flush.  `update_ok_of_inv`: `UpdateOk c dt` from `Conn.InvP`, `TInv`, receive budgets `≤ 2^63`
    and the clock range `now + dt ≤ Duration::MAX`.  Ties without `*Ok`: `conn_get_packets_to_send_inv`, `conn_update_inv`.
  * closed simulations: for a range predicate `Rg` with `RangeClosed Rg` (it implies `SendRange` and the budget bounds and
    holds along the run — counters grow, so this cannot be an invariant; it is the one hypothesis left),
    `rc_sim_closed : RcSim (ConnGood Rg ∧ repr)` and `rn_sim_closed : RnSim (ServerGood Rg ∧ repr)`, where `ConnGood` /
    `ServerGood` = model invariants (`Conn.SInv`, `ChanSorted`, `TInv`, sorted connection table, `CfgOk`) ∧ `Rg`, established by
    `from_channels` / `RenetServer::new` (`conn_good_from_channels`, `server_good_new`) and kept by every operation.
  * the transport ties from `new` on, netcode side by `NS.ServerInv` / `CliInv` (`SrcTieTrInv.lean`):
    `tr_update_closed`, `tr_send_packets_closed`, `tr_disconnect_all_closed`, `ctr_update_closed`, `ctr_send_packets_closed`.
-/
import RenetVerif.Lemmas.SrcEquiv.TrClosed
import RenetVerif.Props.SrcTieTrInv
import RenetVerif.Props.SrcTieInv
import RenetVerif.Props.SrcTieConnSend
import RenetVerif.Props.SrcTieConnRecv
namespace RenetVerif.SrcTie
open RenetVerif RenetVerif.SrcEquiv RenetVerif.RustSem RenetVerif.Netcode RenetVerif.Transport
open Src.renet.remote_connection Src.renet_netcode.server Src.renet_netcode.client

theorem tinv_from_channels (budget : Nat) (send recv : List ChanCfg) : TInv (Conn.fromChannels budget send recv) :=
  tinv_fromChannels budget send recv
theorem tinv_send_message {c c' : Conn} {ch : Nat} {m : Bytes} (h : TInv c) (hr : c.sendMessage ch m = .ok c') : TInv c' :=
  tinv_kept.sendMessage h trivial hr
theorem tinv_receive_message {c c' : Conn} {ch : Nat} {o : Option Bytes} (h : TInv c) (hr : c.receiveMessage ch = .ok (c', o)) :
    TInv c' := tinv_kept.receiveMessage h hr
theorem tinv_update' {c c' : Conn} {dt : Nat} (h : TInv c) (hr : c.update dt = .ok c') : TInv c' := tinv_update h hr
theorem tinv_process_packet {c c' : Conn} {bytes : Bytes} (h : TInv c) (hr : c.processPacket bytes = .ok c') : TInv c' :=
  tinv_kept.processPacket trivial h hr
theorem tinv_get_packets_to_send {c c' : Conn} {bs : List Bytes} (h : TInv c) (hr : c.getPacketsToSend = .ok (c', bs)) :
    TInv c' := tinv_kept.getPacketsToSend trivial h hr
theorem tinv_disconnect_with {c : Conn} (h : TInv c) (r : Reason) : TInv (c.disconnectWith r) := h.disconnectWith r
theorem tinv_set_connected {c : Conn} (h : TInv c) : TInv c.setConnected := h.setConnected
theorem tinv_set_connecting {c : Conn} (h : TInv c) : TInv c.setConnecting := h.setConnecting

theorem send_ok_of_inv {P : SliceCtor → Prop} {c : Conn} (hi : c.InvP P) (ht : TInv c) (hr : SendRange c) : SendOk c := by
  have hc := hr.counters
  have hfl := CI.flushInv_of hi hc
  have hv := vmax_eq
  have hst : LoopSt c.now c.sendRel c.sendUnrel := by
    refine ⟨fun ch s hs => ?_, fun ch s hs => ?_⟩
    · exact ⟨(hi.sendRel_find hs).1, ht.rel _ (SMap.mem_of_find? hs), (hr.rel ch s hs).1, (hr.rel ch s hs).2⟩
    · exact ⟨hi.sendUnrel_find hs, (hr.unrel ch s hs).1, (hr.unrel ch s hs).2⟩
  have htot := chanLoop_ok c.now c.order (c.sendRel, c.sendUnrel, [], c.packetSeq, c.budget) hfl.chans
  refine ⟨chanLoopOk_of c.now c.flushSeq hr.seq _ _ _ _ _ _ hst htot ?_, ?_⟩
  · intro sr su pk seq avail h
    rw [Conn.flushSeq_of_loop h]; omega
  · intro sr su pk seq avail h
    have hf := Conn.flushSeq_of_loop h
    have hseq := hr.seq
    have hburst := hr.burst
    have hlen := chanLoop_len h
    simp only [List.length_nil] at hlen
    obtain ⟨ps, h1, h2, _, _⟩ := chanLoop_fits c.now c.order _ _ _ _ _ _ _ _ _ _ hfl.rel hfl.unrel h (by omega)
    simp only [List.nil_append] at h1
    subst h1
    have hS : C.SER_BUFFER = 1400 := rfl
    refine ⟨by omega, ?_, by rw [hS]; omega⟩
    intro p hp
    unfold tickPackets at hp
    split at hp
    · obtain ⟨b, hb, _⟩ := (h2 p hp).1
      exact ⟨b, hb⟩
    · rename_i hempty
      simp only [List.mem_append, List.mem_singleton] at hp
      rcases hp with hp | rfl
      · obtain ⟨b, hb, _⟩ := (h2 p hp).1
        exact ⟨b, hb⟩
      · have hne : c.pendingAcks ≠ [] := by
          intro e; rw [e] at hempty; exact hempty rfl
        have hackwf := Acks.ackWF_of_wf c.pendingAcks hne hfl.acksWF hfl.acksBound
        obtain ⟨b, hb⟩ : ∃ b, (Packet.ack seq c.pendingAcks).enc = .ok b := ⟨_, Packet.enc_ok_iff.2 ⟨⟨by omega, hackwf⟩, rfl⟩⟩
        exact ⟨b, hb⟩
theorem update_ok_of_inv {P : SliceCtor → Prop} {c : Conn} (hi : c.InvP P) (ht : TInv c) (hb : RecvBudgetOk c) (dt : Nat)
    (hclock : c.now + dt ≤ RustSem.Duration.MAX) : UpdateOk c dt := by
  refine ⟨hclock, fun p hp q hq => Nat.le_trans (ht.unrel p hp q hq) (Nat.le_add_right _ _), ?_,
    fun p hp => Nat.le_trans (ht.sent p hp) (Nat.le_add_right _ _)⟩
  intro p hp q hq
  have hri := hi.recvUnrel p hp
  have h1 : SliceCtor.reserved q.2 ≤ SMap.sumBy SliceCtor.reserved p.2.slices := SMap.le_sumBy_of_mem SliceCtor.reserved hq
  have h2 := hri.acct
  have h3 := hri.budget
  have h4 := hb.unrel p hp
  have h1' : q.2.numSlices * C.SLICE_SIZE ≤ SMap.sumBy SliceCtor.reserved p.2.slices := h1
  omega

/-- `get_packets_to_send` with `SendOk` replaced by invariants and the range conditions -/
theorem conn_get_packets_to_send_inv {ε : Type} {P : SliceCtor → Prop} (mrs : Nat → Nat) (c : Conn) (hi : c.InvP P)
    (ht : TInv c) (hr : SendRange c) :
    SameOutcome (RenetClient.get_packets_to_send (reprConn mrs c) : Res ε _)
      (mapRes (fun x => (reprConn mrs x.1, x.2.map toNats)) (fun e => nomatch e) c.getPacketsToSend) :=
  conn_get_packets_to_send mrs c (send_ok_of_inv hi ht hr)
/-- `update` with `UpdateOk` replaced by invariants, the budget bound and the clock range -/
theorem conn_update_inv {ε : Type} {P : SliceCtor → Prop} (mrs : Nat → Nat) (c : Conn) (dt : Nat) (hi : c.InvP P) (ht : TInv c)
    (hb : RecvBudgetOk c) (hclock : c.now + dt ≤ RustSem.Duration.MAX) :
    SameOutcome (RenetClient.update (reprConn mrs c) dt : Res ε _)
      (mapRes (fun c' => (reprConn mrs c', ())) (fun e => nomatch e) (c.update dt)) :=
  conn_update mrs c dt (update_ok_of_inv hi ht hb dt hclock)

theorem _root_.RenetVerif.SrcEquiv.ConnGood.procOk {Rg : Conn → Prop} (hR : RangeClosed Rg) {c : Conn} (h : ConnGood Rg c) (bytes : Bytes) :
    ProcOk c bytes :=
  proc_ok_of_inv h.sinv h.sorted (hR.recv h.rg) (hR.sendB h.rg)
    (fun k v hf => h.tinv.sent (k, v) (SMap.mem_of_find? hf)) bytes

theorem _root_.RenetVerif.SrcEquiv.ConnGood.sendOk {Rg : Conn → Prop} (hR : RangeClosed Rg) {c : Conn} (h : ConnGood Rg c) : SendOk c :=
  send_ok_of_inv h.sinv h.tinv (hR.send h.rg)

theorem rc_sim_closed {Rg : Conn → Prop} (hR : RangeClosed Rg) :
    RcSim (fun c g => ConnGood Rg c ∧ ∃ mrs, g = reprConn mrs c) :=
  (rcSimOn_of_inv (ConnGood Rg) _ (fun _ h _ bytes => h.procOk hR bytes) (fun _ h _ => h.sendOk hR)
    (fun _ h r => h.disconnectWith hR r) (fun _ h => h.setConnected hR) (fun _ h => h.setConnecting hR)
    (fun _ h _ _ hr => h.processPacket hR hr) (fun _ h _ _ hr => h.getPacketsToSend hR hr)).closed
theorem rn_sim_closed {Rg : Conn → Prop} (hR : RangeClosed Rg) :
    RnSim (fun s g => ServerGood Rg s ∧ ∃ mrss, g = reprServer mrss s) := by
  refine (rnSimOn_of_inv (ServerGood Rg) _ (fun s h => h.sorted) (fun s h => h.cfg)
    (fun s h bytes id c _ hf => (h.conns _ (SMap.mem_of_find? hf)).procOk hR bytes)
    (fun s h id c _ hf => (h.conns _ (SMap.mem_of_find? hf)).sendOk hR) ?_ ?_ ?_ ?_).closed
  · intro s h bytes id s' b hr
    unfold Server.processPacketFrom at hr
    split at hr
    · cases hr; exact h
    · rename_i c hf
      rw [Res.bind_ok_iff] at hr
      obtain ⟨c', h1, hr⟩ := hr
      cases hr
      exact h.withConn id ((h.conns _ (SMap.mem_of_find? hf)).processPacket hR h1) _
  · intro s h id
    unfold Server.addConnection
    split
    · exact h
    · refine h.withConn id ?_ _
      exact ⟨Conn.InvP.setConnected (CI.fromChannels_invP s.budget s.serverCh s.clientCh),
        (chan_sorted_from_channels s.budget s.serverCh s.clientCh).setConnected,
        (tinv_from_channels s.budget s.serverCh s.clientCh).setConnected, h.fresh⟩
  · intro s h id
    unfold Server.removeConnection
    split
    · exact h
    · exact ⟨SMap.sorted_erase h.sorted _, ⟨h.cfg.su, h.cfg.sr, h.cfg.ru, h.cfg.rr⟩,
        fun x hx => h.conns x (SMap.mem_erase hx), h.fresh⟩
  · intro s h id s' ps hr
    unfold Server.getPacketsToSend at hr
    split at hr
    · cases hr; exact h
    · rename_i c hf
      rw [Res.bind_ok_iff] at hr
      obtain ⟨⟨c', out⟩, h1, hr⟩ := hr
      cases hr
      exact h.withConn id ((h.conns _ (SMap.mem_of_find? hf)).getPacketsToSend hR h1) _
theorem conn_good_from_channels {Rg : Conn → Prop} (budget : Nat) (send recv : List ChanCfg)
    (h : Rg (Conn.fromChannels budget send recv)) : ConnGood Rg (Conn.fromChannels budget send recv) :=
  ⟨CI.fromChannels_invP budget send recv, chan_sorted_from_channels budget send recv, tinv_from_channels budget send recv, h⟩
/-- `RenetServer::new`: good as soon as the configuration has distinct channel ids per kind and a fresh connection is in
    range -/
theorem server_good_new {Rg : Conn → Prop} (budget : Nat) (sc cc : List ChanCfg) (hcfg : CfgOk (Server.new budget sc cc))
    (hf : Rg (Server.new budget sc cc).newConn.setConnected) : ServerGood Rg (Server.new budget sc cc) :=
  ⟨SMap.sorted_nil, hcfg, (fun _ hx => nomatch hx), hf⟩

theorem tr_update_closed (a : AEAD) (hl : a.Laws) {Rg : Conn → Prop} (hR : RangeClosed Rg) (g : ServerGlue)
    (mrss : Nat → Nat → Nat) (hi : NS.ServerInv g.netcode) (hg : ServerGood Rg g.renet) (duration : Nat) (inbox : List Dgram)
    (hin : inbox.length + 1 < 2 ^ 64) (out : Array Dgram) (o buf : List Nat) (ho : o.length = C.NETCODE_MAX_PACKET_BYTES)
    (hb : buf.length = C.TRANSPORT_SERVER_BUFFER) :
    TrOut (fun s g => ServerGood Rg s ∧ ∃ mrss, g = reprServer mrss s) NS.ServerInv [] C.TRANSPORT_SERVER_BUFFER
      (serverUpdateFrom a g duration (inbox.map (recvFrom C.TRANSPORT_SERVER_BUFFER)) out)
      (@NetcodeServerTransport.update (aeadOf a) (trR inbox out o g.netcode buf) duration (reprServer mrss g.renet)) :=
  tr_update a hl (rn_sim_closed hR) (nc_inv_server_inv a) g _ hi ⟨hg, mrss, rfl⟩ duration inbox hin out o buf ho hb

theorem tr_send_packets_closed {ε : Type} (a : AEAD) (hl : a.Laws) {Rg : Conn → Prop} (hR : RangeClosed Rg) (g : ServerGlue)
    (mrss : Nat → Nat → Nat) (hi : NS.ServerInv g.netcode) (hg : ServerGood Rg g.renet) (inbox : List Dgram)
    (out : Array Dgram) (o buf : List Nat) (ho : o.length = C.NETCODE_MAX_PACKET_BYTES) :
    TrOut (ε := ε) (fun s g => ServerGood Rg s ∧ ∃ mrss, g = reprServer mrss s) NS.ServerInv inbox buf.length
      (serverSendLoop a g g.renet.clientsId out)
      (@NetcodeServerTransport.send_packets (aeadOf a) ε (trR inbox out o g.netcode buf) (reprServer mrss g.renet)) :=
  tr_send_packets a hl (rn_sim_closed hR) (nc_inv_server_inv a) g _ hi ⟨hg, mrss, rfl⟩ inbox out o buf ho

theorem tr_disconnect_all_closed {ε : Type} (a : AEAD) (hl : a.Laws) {Rg : Conn → Prop} (hR : RangeClosed Rg) (g : ServerGlue)
    (mrss : Nat → Nat → Nat) (hi : NS.ServerInv g.netcode) (hg : ServerGood Rg g.renet) (inbox : List Dgram)
    (out : Array Dgram) (o buf : List Nat) (ho : o.length = C.NETCODE_MAX_PACKET_BYTES) :
    TrOut (ε := ε) (fun s g => ServerGood Rg s ∧ ∃ mrss, g = reprServer mrss s) NS.ServerInv inbox buf.length
      (serverIdLoop (fun ns id => ns.disconnect a id) g g.netcode.clientsId out)
      (@NetcodeServerTransport.disconnect_all (aeadOf a) ε (trR inbox out o g.netcode buf) (reprServer mrss g.renet)) :=
  tr_disconnect_all a hl (rn_sim_closed hR) (nc_inv_server_inv a) g _ hi ⟨hg, mrss, rfl⟩ inbox out o buf ho

theorem ctr_update_closed (a : AEAD) (hl : a.Laws) {Rg : Conn → Prop} (hR : RangeClosed Rg) (g : ClientGlue) (mrs : Nat → Nat)
    (hi : CliInv g.netcode) (hg : ConnGood Rg g.renet) (duration : Nat) (inbox : List Dgram)
    (hin : inbox.length + 1 < 2 ^ 64) (out : Array Dgram) (o buf : List Nat) (ho : o.length = C.NETCODE_MAX_PACKET_BYTES)
    (hb : buf.length = C.TRANSPORT_CLIENT_BUFFER) :
    match clientUpdateFrom a g duration (inbox.map (recvFrom C.TRANSPORT_CLIENT_BUFFER)) out with
    | .ok r => ∃ rest, rest.map (recvFrom C.TRANSPORT_CLIENT_BUFFER) = r.rest ∧
        CliTrOut (fun c g => ConnGood Rg c ∧ ∃ mrs, g = reprConn mrs c) CliInv C.TRANSPORT_CLIENT_BUFFER r.result r.g r.out rest
          (@NetcodeClientTransport.update (aeadOf a) (ctrR inbox out o g.netcode buf) duration (reprConn mrs g.renet))
    | .err e => nomatch e
    | .panic _ => ∃ msg, @NetcodeClientTransport.update (aeadOf a) (ctrR inbox out o g.netcode buf) duration
        (reprConn mrs g.renet) = .panic msg :=
  ctr_update a hl (rc_sim_closed hR) (nc_cinv_cli_inv a) g _ hi ⟨hg, mrs, rfl⟩ duration inbox hin out o buf ho hb

theorem ctr_send_packets_closed (a : AEAD) (hl : a.Laws) {Rg : Conn → Prop} (hR : RangeClosed Rg) (g : ClientGlue)
    (mrs : Nat → Nat) (hi : CliInv g.netcode) (hg : ConnGood Rg g.renet) (inbox : List Dgram) (out : Array Dgram)
    (o buf : List Nat) (ho : o.length = C.NETCODE_MAX_PACKET_BYTES) :
    match clientSendPacketsFrom a g out with
    | .ok (res, g', out') => CliTrOut (fun c g => ConnGood Rg c ∧ ∃ mrs, g = reprConn mrs c) CliInv buf.length res g' out' inbox
        (@NetcodeClientTransport.send_packets (aeadOf a) (ctrR inbox out o g.netcode buf) (reprConn mrs g.renet))
    | .err e => nomatch e
    | .panic _ => ∃ msg, @NetcodeClientTransport.send_packets (aeadOf a) (ctrR inbox out o g.netcode buf)
        (reprConn mrs g.renet) = .panic msg :=
  ctr_send_packets a hl (rc_sim_closed hR) (nc_cinv_cli_inv a) g _ hi ⟨hg, mrs, rfl⟩ inbox out o buf ho

end RenetVerif.SrcTie
