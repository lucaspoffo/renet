/-
  "EVERY PACKET OF EVERY FLUSH IS WELL-FORMED" — ON API TRACES OF THE GENERATED `RenetClient`, datagrams written by the
  GENERATED `Packet::to_bytes` and read back by the GENERATED `Packet::from_bytes`.

  `GConn` (`Lemmas/SrcEquiv/SrcConnSystem.lean`): one generated `RenetClient` from the generated `from_channels`, driven by ANY
  list of public operations `COp` (`process` with ARBITRARY bytes); `g.flushes` logs what every generated
  `get_packets_to_send` RETURNED.  `GDecodes b gp`: the generated `from_bytes` on a fresh cursor over `b` returns `gp`.
  `GSerialises gp b`: the generated `to_bytes` of `gp` into a zeroed scratch buffer of `SER_BUFFER` bytes (what
  `get_packets_to_send` uses) writes exactly `b`.

    * `src_emitted_roundtrip`      (C16 on traces)  every datagram of every flush of a trace is what the generated `to_bytes`
                                   writes for a packet `gp`, and the generated `from_bytes` reads back from it exactly `gp`;
    * `src_flush_budget_decoded`   (C14 through the generated decoder; full form of `src_flush_budget_decoded_partial`)  the
                                   generated decoder ACCEPTS every datagram of a flush (`DecAll bs gps`), the packets it reads are
                                   the ones that were serialised, numbered consecutively from `packet_sequence`, and their
                                   payload sums to at most `available_bytes_per_tick`;
    * `src_flush_all_accepted`     … in the form "no datagram of any flush of the trace is rejected by the generated decoder".

  Side conditions: `CRunInRange` (range condition of the source tie), `ChanBytes cfg` (the configured send channel ids are
  bytes — `u8` in the Rust source, one byte on the wire) and `MsgLenOK ops`: every submitted message is at most
  `MAX_NUM_SLICES * SLICE_SIZE` bytes long.  The last one cannot be dropped: `send_message` refuses no message by size (only by
  the channel's memory budget), a longer message is announced with `num_slices > MAX_NUM_SLICES`, and the decoder rejects
  such a packet — `oversized_message_rejected` (from `FlushWF.oversized_slice_rejected`), stated for the generated decoder.

  Reading the datagram behind a `sent_packets` record with the generated decoder (the full form of
  `SrcPropsConnTraceC08.src_recorded_packet_was_emitted_partial`): `Props/SrcPropsConnTraceC08b.lean`,
  `src_recorded_packet_was_emitted`.

  Proofs: `SrcConnSystem.crun_sim_conv` + `Lemmas/FlushWF.lean` (`WireInv` along `MTr` runs, `flush_step_wf`,
  `flush_packets_wf`) + the round trip `Packet.fromBytes_enc` (C16) + the ties `SrcTie.packet_to_bytes`,
  `gdecodes_of_fromBytes`.
-/
import RenetVerif.Lemmas.FlushWF
import RenetVerif.Lemmas.SrcEquiv.SrcConnTransfer
import RenetVerif.Props.SrcPropsPacket
import RenetVerif.Props.SrcPropsConnTraceC08
import RenetVerif.Props.SrcPropsConnTraceC15
set_option maxRecDepth 100000
set_option linter.unusedVariables false
set_option linter.unusedSimpArgs false
namespace RenetVerif.SrcPropsConnTraceWF
open RenetVerif RenetVerif.RustSem RenetVerif.C RenetVerif.System RenetVerif.SrcEquiv RenetVerif.SrcSystem RenetVerif.SrcConnSystem
open RenetVerif.SrcConnC15 RenetVerif.SrcPropsConnTrace RenetVerif.FlushWF RenetVerif.SrcPropsConnTraceC15
open Src.renet.remote_connection

abbrev GPacket := Src.renet.packet.Packet

def GSerialises (gp : GPacket) (b : GBytes) : Prop :=
  ∃ b' : OctetsMut, Src.renet.packet.Packet.to_bytes gp (OctetsMut.with_slice (List.replicate SER_BUFFER 0)) = .ok (b', b.length) ∧
    b'.buf.take b.length = b

inductive All2 {α β : Type} (R : α → β → Prop) : List α → List β → Prop
  | nil : All2 R [] []
  | cons {a : α} {b : β} {l1 : List α} {l2 : List β} : R a b → All2 R l1 l2 → All2 R (a :: l1) (b :: l2)

theorem serialiseAll_forall2 (pk : List Packet) (bs : List Bytes) (h : Conn.serialiseAll pk = .ok bs) :
    All2 (fun p b => p.enc = .ok b ∧ b.length ≤ SER_BUFFER) pk bs := by
  have h' := Conn.serialiseAll_ok_iff.mp h
  clear h
  induction pk generalizing bs with
  | nil =>
    cases List.map_eq_nil_iff.mp h'.symm
    exact .nil
  | cons p rest ih =>
    obtain ⟨b, bs', rfl, h1, h2⟩ := List.map_eq_cons_iff.mp h'.symm
    exact .cons (Packet.toBytes_ok_iff.mp h1.symm) (ih bs' h2.symm)

theorem emitted_of {p : Packet} {b : Bytes} (hwf : p.WF) (he : p.enc = .ok b) (hl : b.length ≤ SER_BUFFER) :
    GSerialises (reprPacket p) (toNats b) ∧ GDecodes (toNats b) (reprPacket p) := by
  refine ⟨?_, ?_⟩
  · have ht := SrcTie.packet_to_bytes p (OctetsMut.with_slice (List.replicate SER_BUFFER 0)) (Nat.zero_le _) b he
    simp only [OctetsMut.with_slice, Nat.zero_add, List.take_zero, List.nil_append, List.length_replicate] at ht
    rw [if_pos hl] at ht
    have hk := forget_ok_inv ht
    refine ⟨_, by rw [toNats_length]; exact hk, ?_⟩
    rw [List.take_left']
    rfl
  · obtain ⟨b1, hb1, hd⟩ := Packet.fromBytes_enc p hwf
    rw [he] at hb1; cases hb1
    exact gdecodes_of_fromBytes hd

theorem forall2_decAll : ∀ (pk : List Packet) (bs : List Bytes),
    All2 (fun p b => p.enc = .ok b ∧ b.length ≤ SER_BUFFER) pk bs → (∀ p ∈ pk, p.WF) →
    DecAll (bs.map toNats) (pk.map reprPacket) ∧
      All2 (fun gp b => GSerialises gp b ∧ GDecodes b gp) (pk.map reprPacket) (bs.map toNats)
  | [], [], _, _ => ⟨trivial, All2.nil⟩
  | p :: pk, b :: bs, h, hw => by
    cases h with
    | cons h1 h2 =>
      obtain ⟨a1, a2⟩ := forall2_decAll pk bs h2 (fun q hq => hw q (List.mem_cons_of_mem _ hq))
      obtain ⟨e1, e2⟩ := emitted_of (hw p (List.mem_cons_self ..)) h1.1 h1.2
      exact ⟨⟨e2, a1⟩, All2.cons ⟨e1, e2⟩ a2⟩
  | [], _ :: _, h, _ => by cases h
  | _ :: _, [], h, _ => by cases h

theorem forall2_mem_right {α β : Type} {R : α → β → Prop} : ∀ {l1 : List α} {l2 : List β}, All2 R l1 l2 →
    ∀ b ∈ l2, ∃ a ∈ l1, R a b
  | _, _, All2.nil, b, hb => by cases hb
  | _, _, All2.cons h1 h2, b, hb => by
    rcases List.mem_cons.mp hb with rfl | hb
    · exact ⟨_, List.mem_cons_self .., h1⟩
    · obtain ⟨a, ha, r⟩ := forall2_mem_right h2 b hb
      exact ⟨a, List.mem_cons_of_mem _ ha, r⟩

/-- **C16 over all traces of the generated code: every emitted datagram round-trips.**  In the generated state after ANY run
    (configured send channel ids bytes, in range, submitted messages at most `MAX_NUM_SLICES * SLICE_SIZE` bytes), every
    datagram `b` of every `get_packets_to_send` of the run is what the GENERATED `to_bytes` writes for some packet `gp`, and the
    GENERATED `from_bytes` reads from `b` exactly that `gp`. -/
theorem src_emitted_roundtrip (cfg : Cfg) (ops : List COp) (g : GConn) (hg : GConn.exec cfg ops = some g)
    (hrg : CRunInRange cfg ops) (hcb : ChanBytes cfg) (hl : MsgLenOK ops) :
    ∀ bs ∈ g.flushes, ∀ b ∈ bs, ∃ gp : GPacket, GSerialises gp b ∧ GDecodes b gp := by
  obtain ⟨t, ht, sim⟩ := crun_sim_conv cfg ops g hrg hg
  obtain ⟨-, hf⟩ := flush_packets_wf cfg ops t hcb hrg.2 hl ht
  intro bs hbs b hb
  obtain ⟨bs0, hbs0, rfl⟩ := sim.mem_flushes hbs
  obtain ⟨pk, hser, hwf⟩ := hf bs0 hbs0
  obtain ⟨-, hall⟩ := forall2_decAll pk bs0 (serialiseAll_forall2 pk bs0 hser) hwf
  obtain ⟨gp, -, r⟩ := forall2_mem_right hall b hb
  exact ⟨gp, r⟩

/-- … in particular the generated decoder rejects no datagram of any flush of the trace -/
theorem src_flush_all_accepted (cfg : Cfg) (ops : List COp) (g : GConn) (hg : GConn.exec cfg ops = some g)
    (hrg : CRunInRange cfg ops) (hcb : ChanBytes cfg) (hl : MsgLenOK ops) :
    ∀ bs ∈ g.flushes, ∀ b ∈ bs, ∃ gp : GPacket, GDecodes b gp := by
  intro bs hbs b hb
  obtain ⟨gp, -, h⟩ := src_emitted_roundtrip cfg ops g hg hrg hcb hl bs hbs b hb
  exact ⟨gp, h⟩

/-- **C14 on the generated code, datagrams read by the generated decoder** (the un-partial form of
    `SrcPropsConnTraceC15.src_flush_budget_decoded_partial`).  In every generated state `g` reached by ANY run, the next
    `get_packets_to_send` returns datagrams `bs` EVERY ONE of which the generated `from_bytes` accepts: it reads the packets
    `gps`, one for one (`DecAll bs gps`); each is the packet the generated `to_bytes` wrote that datagram for; their generated
    `Packet::sequence` numbers are consecutive from the generated `packet_sequence`; and their message payload
    (`gPayloadBytes`) sums to at most `available_bytes_per_tick`. -/
theorem src_flush_budget_decoded (cfg : Cfg) (ops : List COp) (g : GConn) (hg : GConn.exec cfg ops = some g)
    (hrg : CRunInRange cfg (ops ++ [.flush])) (hcb : ChanBytes cfg) (hl : MsgLenOK ops) :
    ∃ g' bs gps, GConn.exec cfg (ops ++ [.flush]) = some g' ∧ g'.flushes = g.flushes ++ [bs] ∧ DecAll bs gps ∧
      All2 (fun gp b => GSerialises gp b ∧ GDecodes b gp) gps bs ∧
      (gps.map gPayloadBytes).sum ≤ g.cl.available_bytes_per_tick := by
  obtain ⟨t, c1, bs1, g', ht, sim, hgood, hr, e1, e', -, hfl⟩ := push_flush cfg ops g hrg hg
  obtain ⟨hw, -⟩ := flush_packets_wf cfg ops t hcb (crunInRange_prefix cfg ops _ hrg).2 hl ht
  rcases Conn.flush_cases e1 with ⟨-, -, rfl⟩ | ⟨_, _, _, f⟩
  · exact ⟨g', [], [], e', hfl, trivial, All2.nil, Nat.zero_le _⟩
  · obtain ⟨pk, -, hser, hwf, hb, -⟩ := flush_step_wf hgood hr hw f.live e1
    obtain ⟨d1, d2⟩ := forall2_decAll pk bs1 (serialiseAll_forall2 pk bs1 hser) hwf
    refine ⟨g', bs1.map toNats, pk.map reprPacket, e', hfl, d1, d2, ?_⟩
    have e : (pk.map reprPacket).map gPayloadBytes = pk.map payloadBytes := by
      rw [List.map_map]; apply List.map_congr_left; intro p _; exact gPayloadBytes_repr p
    rw [e, sim.budget]
    exact hb

/-- **what a message longer than `MAX_NUM_SLICES * SLICE_SIZE` bytes is turned into is rejected by the generated decoder.**
    `send_message` stores a message of ANY length that fits the channel budget (`SendRel.sendMessage`: the only refusal is
    `ReliableChannelMaxMemoryReached`) and announces it with `num_slices = div_ceil(len, SLICE_SIZE)`
    (`Unacked.newSliced`); for `len > MAX_NUM_SLICES * SLICE_SIZE` every slice packet `get_packets_to_send` builds for it
    (`slicedLoop`: `ReliableSlice seq ch ⟨id, i, num_slices, payload⟩`) serialises without error, and the GENERATED
    `from_bytes` does NOT accept the datagram (the model decoder answers `InvalidNumSlices`; the peer disconnects with
    `PacketDeserialization`). -/
theorem oversized_message_rejected (m : Bytes) (hm : WIRE_MSG_MAX < m.length) (hm' : m.length ≤ Varint.MAX)
    (seq ch id i : Nat) (h1 : seq ≤ Varint.MAX) (h2 : ch < 256) (h3 : id ≤ Varint.MAX)
    (hi : i < divCeil m.length SLICE_SIZE) :
    ∃ b, (Packet.reliableSlice seq ch ⟨id, i, divCeil m.length SLICE_SIZE, sliceBytes m (divCeil m.length SLICE_SIZE) i⟩).enc = .ok b ∧
      ∀ gp, ¬ GDecodes (toNats b) gp := by
  have hn : divCeil m.length SLICE_SIZE ≤ m.length := divCeil_le _
  have hp : (sliceBytes m (divCeil m.length SLICE_SIZE) i).length ≤ SLICE_SIZE :=
    sliceBytes_length_le m _ i (divCeil_mul_ge _)
  obtain ⟨b, hb, hd⟩ := oversized_slice_rejected seq ch
    ⟨id, i, divCeil m.length SLICE_SIZE, sliceBytes m (divCeil m.length SLICE_SIZE) i⟩ h1 h3 (by dsimp only; omega)
    (by dsimp only; omega) (by dsimp only; have hS : SLICE_SIZE = 1200 := rfl; unfold Varint.MAX; omega) (divCeil_gt_max hm)
  refine ⟨b, hb, fun gp hg => ?_⟩
  obtain ⟨p, hp', -⟩ := gdecodes_inv hg
  rw [hd] at hp'; cases hp'

/-- the hypotheses of `oversized_message_rejected` are satisfiable by a message `send_message` ACCEPTS: a channel with a
    2 GB budget stores a message of `WIRE_MSG_MAX + 1` bytes (stated on lengths; the byte list itself is not built) -/
example (m : Bytes) (hm : m.length = WIRE_MSG_MAX + 1) :
    (∃ s', (SendRel.new 0 100 2000000000).sendMessage m = .ok s') ∧ divCeil m.length SLICE_SIZE = MAX_NUM_SLICES + 1 := by
  constructor
  · unfold SendRel.sendMessage
    have : ¬ ((SendRel.new 0 100 2000000000).mem + m.length > (SendRel.new 0 100 2000000000).maxMem) := by
      rw [hm]; decide
    rw [if_neg this]
    exact ⟨_, rfl⟩
  · rw [hm]; decide

/-! ## non-vacuity: traces executed by the kernel ON THE GENERATED CODE

  Channel 0 ReliableOrdered, channel 1 Unreliable (the configuration of `C08.Ex`).  `opsW`: a small and a sliced (1201 bytes,
  two slices) reliable message, a small and a sliced (1300 bytes) unreliable message, a flush — small, packed and slice packets
  of both kinds —; then a received packet and another flush, which carries the connection's Ack packet. -/
namespace Ex
abbrev cfg : Cfg := ⟨60000, C08.Ex.cfg, C08.Ex.cfg⟩
abbrev bigU : Bytes := List.replicate 1300 7
abbrev opsW : List COp :=
  [.setConnected, .send 0 [1, 2, 3], .send 0 C08.Ex.big, .send 0 [4], .send 1 [5, 5], .send 1 bigU, .send 1 [], .flush,
   .process SrcPropsConnTraceC08.Ex.nonAck, .flush]
def gV : GConn := (GConn.exec cfg (opsW.take 7)).getD SrcPropsConnTraceC08.Ex.gzero
def gW : GConn := (GConn.exec cfg opsW).getD SrcPropsConnTraceC08.Ex.gzero

def look (b : GBytes) : Option (Nat × Nat × Nat) :=
  match SrcPropsConnTraceC15.Ex.gdec b with
  | some (.SmallReliable sq _ m) => some (0, sq, gPayloadBytes (.SmallReliable sq 0 m))
  | some (.SmallUnreliable sq _ m) => some (1, sq, gPayloadBytes (.SmallUnreliable sq 0 m))
  | some (.ReliableSlice sq _ sl) => some (2, sq, sl.payload.length)
  | some (.UnreliableSlice sq _ sl) => some (3, sq, sl.payload.length)
  | some (.Ack sq _) => some (4, sq, 0)
  | none => none

/-- the trace in one kernel evaluation: in range (model); the two generated runs return normally; **the trace as the generated
    code computes it, read by the generated decoder** (kind, sequence number, payload bytes): flush 1 = the two `ReliableSlice`
    packets of the 1201-byte message (1200 + 1 bytes), one `SmallReliable` packet PACKING the messages `[1, 2, 3]` and `[4]`, the
    two `UnreliableSlice` packets of the 1300-byte message, one `SmallUnreliable` packet packing `[5, 5]` and the empty message;
    flush 2 = the connection's `Ack` packet.  No datagram is rejected. -/
theorem all :
    (CRunInRange cfg opsW ∧ (GConn.exec cfg (opsW.take 7)).isSome = true ∧ (GConn.exec cfg opsW).isSome = true) ∧
    gW.flushes.map (·.map look) =
      [[some (2, 0, 1200), some (2, 1, 1), some (0, 2, 4), some (3, 3, 1200), some (3, 4, 100), some (1, 5, 2)],
       [some (4, 6, 0)]] := by
  decide +kernel

theorem inRange : CRunInRange cfg opsW := all.1.1
theorem chanBytes : ChanBytes cfg := by decide +kernel
theorem lenOK : MsgLenOK opsW := by decide +kernel
theorem runV : GConn.exec cfg (opsW.take 7) = some gV := some_getD all.1.2.1 _
theorem runW : GConn.exec cfg opsW = some gW := some_getD all.1.2.2 _

theorem wfacts : gW.flushes.map (·.map look) =
    [[some (2, 0, 1200), some (2, 1, 1), some (0, 2, 4), some (3, 3, 1200), some (3, 4, 100), some (1, 5, 2)],
     [some (4, 6, 0)]] := all.2

example : ∀ bs ∈ gW.flushes, ∀ b ∈ bs, ∃ gp : GPacket, GSerialises gp b ∧ GDecodes b gp :=
  src_emitted_roundtrip cfg opsW gW runW inRange chanBytes lenOK

example : ∃ g' bs gps, GConn.exec cfg (opsW.take 7 ++ [.flush]) = some g' ∧ g'.flushes = gV.flushes ++ [bs] ∧ DecAll bs gps ∧
    All2 (fun gp b => GSerialises gp b ∧ GDecodes b gp) gps bs ∧
    (gps.map gPayloadBytes).sum ≤ gV.cl.available_bytes_per_tick :=
  src_flush_budget_decoded cfg (opsW.take 7) gV runV (crunInRange_prefix cfg (opsW.take 7 ++ [.flush]) (opsW.drop 8) inRange)
    chanBytes (fun o ho => lenOK o (List.mem_of_mem_take ho))

end Ex

end RenetVerif.SrcPropsConnTraceWF
