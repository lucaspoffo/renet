/-
  Instrumentation of the GENERATED netcode client trace system `GNcC` (`Lemmas/SrcEquiv/SrcNcClientSystem.lean`) and its agreement
  with the model instrumentation, for the whole-trace theorems of `Props/SrcPropsNcClientTrace.lean`.

  A. payloads surfaced (C04): `gsurf ops outs` reads, off the operations of a run and the results log `GNcC.outs` of the generated
     calls, the (datagram, payload) pairs the generated `process_packet` surfaced; `gsurf_sim` / `mrun_prun`: it is the image of
     the ghost output of `NcClientTrace.prun` on the related model client.
  B. seal log (C17): `gclog a g ops` reads, off the GENERATED struct before each generated call (`connect_token.client_to_server_key`,
     `sequence`), the state after it, and the datagram the call returned, one record (key, sequence number, datagram) per sealed
     datagram; `gclog_sim`: it is the image of `Cl.clog` (the model's ghost seal log, `Lemmas/NcAead.lean`) along the simulation.
-/
import RenetVerif.Lemmas.SrcEquiv.SrcNcClientSystem
import RenetVerif.Lemmas.NcClientTrace
namespace RenetVerif.SrcNcClientSeal
open RenetVerif RenetVerif.SrcEquiv RenetVerif.RustSem RenetVerif.Netcode RenetVerif.SrcNcClientSystem
open RenetVerif.NcAead RenetVerif.NcClientTrace

def toCl : CliOp → Cl.COp
  | .update d => .update d
  | .packet buf => .recv buf
  | .sendPayload p => .send p
  | .disconnect => .disconnect

/-! ## A. payloads surfaced -/

def gsurfOne : CliOp → GCOut → Option (Bytes × List Nat)
  | .packet buf, .received (some p) => some (buf, p)
  | _, _ => none

def gsurf : List CliOp → List GCOut → List (Bytes × List Nat)
  | op :: ops, r :: rs => (gsurfOne op r).toList ++ gsurf ops rs
  | _, _ => []

def msurfOne : CliOp → MCOut → Option (Bytes × Bytes)
  | .packet buf, .received (some p) => some (buf, p)
  | _, _ => none

def msurf : List CliOp → List MCOut → List (Bytes × Bytes)
  | op :: ops, r :: rs => (msurfOne op r).toList ++ msurf ops rs
  | _, _ => []

def gBufs : List CliOp → List Bytes
  | [] => []
  | .packet buf :: ops => buf :: gBufs ops
  | _ :: ops => gBufs ops

theorem recvBufs_toCl (ops : List CliOp) : recvBufs (ops.map toCl) = gBufs ops := by
  induction ops with
  | nil => rfl
  | cons op ops ih => cases op <;> simp only [List.map_cons, toCl, recvBufs, gBufs, ih]

theorem gsurfOne_repr (op : CliOp) (r : MCOut) :
    gsurfOne op (reprMCOut r) = (msurfOne op r).map fun x => (x.1, toNats x.2) := by
  cases op with
  | packet buf =>
    cases r with
    | received p => cases p <;> rfl
    | _ => rfl
  | _ => rfl

theorem gsurf_repr : ∀ (ops : List CliOp) (rs : List MCOut),
    gsurf ops (rs.map reprMCOut) = (msurf ops rs).map fun x => (x.1, toNats x.2)
  | [], _ => by simp only [gsurf, msurf, List.map_nil]
  | _ :: _, [] => by simp only [gsurf, msurf, List.map_nil]
  | op :: ops, r :: rs => by
    simp only [List.map_cons, gsurf, msurf, List.map_append, gsurf_repr ops rs, gsurfOne_repr]
    cases msurfOne op r <;> rfl

theorem mcstep_pstep {a : AEAD} {c c' : Netcode.NetcodeClient} {op : CliOp} {r : MCOut}
    (h : mcstep a c op = some (r, c')) : pstep a c (toCl op) = some (c', msurfOne op r) := by
  cases op with
  | update d =>
    obtain ⟨o, hm, rfl⟩ := mcstep_update h
    simp only [toCl, pstep, hm]
    rfl
  | packet buf =>
    obtain ⟨p, hm, rfl⟩ := mcstep_packet h
    simp only [toCl, pstep, hm]
    cases p <;> rfl
  | sendPayload p =>
    rcases mcstep_sendPayload h with ⟨x, hm, rfl⟩ | ⟨e, hm, rfl, rfl⟩
    · simp only [toCl, pstep, hm]
      rfl
    · simp only [toCl, pstep, hm]
      rfl
  | disconnect =>
    obtain ⟨rfl, ⟨x, hm, rfl⟩ | ⟨e, hm, rfl⟩⟩ := mcstep_disconnect h
    · simp only [toCl, pstep, hm]
      rfl
    · simp only [toCl, pstep, hm]
      rfl

theorem mrun_prun {a : AEAD} : ∀ (ops : List CliOp) {m m' : MNcC}, m.run a ops = some m' →
    ∃ news, m'.outs = m.outs ++ news ∧ news.length = ops.length ∧
      prun a m.cli (ops.map toCl) = some (m'.cli, msurf ops news) := by
  intro ops
  induction ops with
  | nil => intro m m' h; cases h; exact ⟨[], by simp, rfl, rfl⟩
  | cons op ops ih =>
    intro m m' h
    obtain ⟨m1, hs, h⟩ := mrun_cons h
    obtain ⟨r, hms, ho⟩ := mstep_spec hs
    obtain ⟨news, h1, h2, h3⟩ := ih h
    refine ⟨r :: news, by rw [h1, ho, List.append_assoc]; rfl, by simp only [List.length_cons, h2], ?_⟩
    simp only [List.map_cons, prun, mcstep_pstep hms, h3, msurf]

/-- **A, transported**: after a generated run from related states, the pairs read off the NEW part of the generated results
    log are the image of the ghost output of the model `prun` -/
theorem gsurf_sim {a : AEAD} (hl : a.Laws) {m : MNcC} {g g' : GNcC} (hi : CliInv m.cli) (hsim : SimNcC m g)
    {ops : List CliOp} (hr : CliOpsInRange ops) (hrun : g.run a ops = some g') :
    ∃ m' ps, SimNcC m' g' ∧ prun a m.cli (ops.map toCl) = some (m'.cli, ps) ∧
      gsurf ops (g'.outs.drop g.outs.length) = ps.map fun x => (x.1, toNats x.2) := by
  obtain ⟨m', hm', hsim'⟩ := crun_sim_conv_of a hl ops hi hsim hr hrun
  obtain ⟨news, h1, h2, h3⟩ := mrun_prun ops hm'
  refine ⟨m', _, hsim', h3, ?_⟩
  rw [hsim'.outs, hsim.outs, h1, List.map_append]
  rw [List.drop_append_of_le_length (Nat.le_refl _), List.drop_length, List.nil_append]
  exact gsurf_repr ops news

/-! ## B. the seal log -/

/-- a seal record over the generated code: key, sequence number (= nonce), datagram -/
structure GCSeal where
  key : List Nat
  seq : Nat
  datagram : List Nat
  deriving DecidableEq, Repr

def isReq : SClientState → Bool
  | .SendingConnectionRequest => true
  | _ => false

/-- the records of one generated call: generated struct `c` BEFORE the call (its `connect_token.client_to_server_key` and
    `sequence`), what the call returned, generated struct `c'` after it.  A datagram returned by `update` while the client is
    (still) `SendingConnectionRequest` is the connection request, which is sent in the clear: no record. -/
def gcEv (c : SNetcodeClient) (o : GCOut) (c' : SNetcodeClient) : List GCSeal :=
  match o with
  | .sent (some (dg, _)) => if isReq c'.state then [] else [⟨c.connect_token.client_to_server_key, c.sequence, dg⟩]
  | .payload r => [⟨c.connect_token.client_to_server_key, c.sequence, r.2⟩]
  | .disconnected r => [⟨c.connect_token.client_to_server_key, c.sequence, r.2⟩]
  | _ => []

/-- the seal log of a generated run: `gcEv` of every generated call, in order (ends where a call unwinds) -/
def gclog (a : AEAD) : GNcC → List CliOp → List GCSeal
  | _, [] => []
  | g, op :: ops =>
    match g.step a op with
    | none => []
    | some g' =>
      (match g'.outs.getLast? with
       | some o => gcEv g.cli o g'.cli
       | none => []) ++ gclog a g' ops

def reprCRec (a : AEAD) (r : SealRec) : GCSeal := ⟨toNats r.key, r.seq, toNats (r.datagram a)⟩

def mcEv (c : Netcode.NetcodeClient) (o : MCOut) (c' : Netcode.NetcodeClient) : List (Bytes × Nat × Bytes) :=
  match o with
  | .sent (some (dg, _)) =>
    if c'.state = .sendingConnectionRequest then [] else [(c.connectToken.clientToServerKey, c.sequence, dg)]
  | .payload r => [(c.connectToken.clientToServerKey, c.sequence, r.2)]
  | .disconnected r => [(c.connectToken.clientToServerKey, c.sequence, r.2)]
  | _ => []

def encEv (x : Bytes × Nat × Bytes) : GCSeal := ⟨toNats x.1, x.2.1, toNats x.2.2⟩

theorem isReq_repr (s : Netcode.ClientState) : isReq (reprCSt s) = decide (s = .sendingConnectionRequest) := by
  cases s <;> rfl

theorem gcEv_repr (out out' : List Nat) (c c' : Netcode.NetcodeClient) (o : MCOut) :
    gcEv (reprNC out c) (reprMCOut o) (reprNC out' c') = (mcEv c o c').map encEv := by
  cases o with
  | sent x =>
    cases x with
    | none => rfl
    | some y =>
      obtain ⟨dg, ad⟩ := y
      simp only [reprMCOut, Option.map_some, gcEv, mcEv]
      have : (reprNC out' c').state = reprCSt c'.state := rfl
      rw [this, isReq_repr]
      by_cases h : c'.state = .sendingConnectionRequest
      · simp only [h, decide_true, if_true, List.map_nil]
      · simp only [h, decide_false, Bool.false_eq_true, if_false, List.map_cons, List.map_nil]
        rfl
  | received p => rfl
  | payload r => rfl
  | payloadErr e => rfl
  | disconnected r => rfl
  | disconnectErr e => rfl

/-- what `mcEv` is in terms of the model's own instrumentation `Cl.cstep` -/
theorem mcEv_cstep {a : AEAD} {c c' : Netcode.NetcodeClient} {op : CliOp} {r : MCOut}
    (h : mcstep a c op = some (r, c')) :
    ∃ tr, Cl.cstep a c (toCl op) = some (c', tr) ∧
      mcEv c r c' = tr.filterMap (fun x => x.2.map fun rec => (rec.key, rec.seq, x.1)) := by
  cases op with
  | packet buf =>
    obtain ⟨p, hm, rfl⟩ := mcstep_packet h
    exact ⟨[], by rw [toCl, Cl.cstep, hm], rfl⟩
  | sendPayload p =>
    rcases mcstep_sendPayload h with ⟨⟨ad, out⟩, hm, rfl⟩ | ⟨e, hm, rfl, rfl⟩
    · exact ⟨_, by rw [toCl, Cl.cstep, hm], rfl⟩
    · exact ⟨[], by rw [toCl, Cl.cstep, hm], rfl⟩
  | disconnect =>
    have e : ∀ x, (c.disconnect a).1 = x → c.disconnect a = (x, (c.disconnect a).2) := fun x hx => by rw [← hx]
    obtain ⟨rfl, ⟨⟨ad, out⟩, hm, rfl⟩ | ⟨e0, hm, rfl⟩⟩ := mcstep_disconnect h
    · exact ⟨_, by rw [toCl, Cl.cstep, e _ hm], rfl⟩
    · exact ⟨[], by rw [toCl, Cl.cstep, e _ hm], rfl⟩
  | update d =>
    obtain ⟨o, hm, rfl⟩ := mcstep_update h
    rcases o with _ | ⟨out, ad⟩
    · exact ⟨[], by rw [toCl, Cl.cstep, hm], rfl⟩
    · refine ⟨_, by rw [toCl, Cl.cstep, hm], ?_⟩
      obtain ⟨e, c2, hu, hh | hh⟩ := Cl.update_eq hm
      · obtain ⟨_, ho, _⟩ := hh; cases ho
      · obtain ⟨rfl, hg⟩ := hh
        obtain ⟨u1, u2, -, -⟩ := Cl.uis_spec hu
        obtain ⟨g1, g2, -, -, g5⟩ := Cl.gen_spec hg
        obtain ⟨-, -, p, hp1, -⟩ := g5 out ad rfl
        rw [hu]
        simp only [mcEv, g2, List.filterMap_cons, List.filterMap_nil]
        unfold Cl.genPacket at hp1
        unfold Cl.genSeal
        cases hst : c2.state with
        | disconnected r => rw [hst] at hp1; cases hp1
        | sendingConnectionRequest => simp only [if_true, Option.map_none]
        | connected | sendingConnectionResponse =>
          simp only [reduceCtorEq, if_false, Option.map_some, sealOf, Cl.key, u1, u2]

theorem filterMap_sound (a : AEAD) : ∀ (tr : List (Bytes × Option SealRec)),
    (∀ out g, (out, g) ∈ tr → Cl.Sound a out g) →
    (tr.filterMap (fun x => x.2.map fun rec => (rec.key, rec.seq, x.1))).map encEv =
      (tr.filterMap (·.2)).map (reprCRec a) := by
  intro tr
  induction tr with
  | nil => intro _; rfl
  | cons x xs ih =>
    intro hs
    obtain ⟨out, g⟩ := x
    have ih' := ih (fun o g h => hs o g (List.mem_cons_of_mem _ h))
    cases g with
    | none => simpa only [List.filterMap_cons, Option.map_none] using ih'
    | some rec =>
      have e : out = rec.datagram a := hs out (some rec) List.mem_cons_self
      simp only [List.filterMap_cons, Option.map_some, List.map_cons, ih', List.cons.injEq, and_true]
      simp only [encEv, reprCRec, e]

/-- **B, transported**: the seal log read off a generated run (that runs to its end) is the image of the model's ghost seal log
    `Cl.clog` on the related model client -/
theorem gclog_sim {a : AEAD} (hl : a.Laws) : ∀ (ops : List CliOp) {m : MNcC} {g g' : GNcC}, CliInv m.cli → SimNcC m g →
    CliOpsInRange ops → g.run a ops = some g' →
    gclog a g ops = (Cl.clog a m.cli (ops.map toCl)).map (reprCRec a) := by
  intro ops
  induction ops with
  | nil => intro m g g' _ _ _ _; rfl
  | cons op ops ih =>
    intro m g g' hi hsim hr hrun
    obtain ⟨m', hm', -⟩ := crun_sim_conv_of a hl _ hi hsim hr hrun
    obtain ⟨m1, hms, -⟩ := mrun_cons hm'
    have hstep := cstep_sim a hl hi hsim op (hr op List.mem_cons_self)
    rw [hms] at hstep
    obtain ⟨g1, hgs, hsim1⟩ := hstep
    simp only [GNcC.run, hgs] at hrun
    obtain ⟨r, hmc, ho⟩ := mstep_spec hms
    obtain ⟨tr, hcs, hev⟩ := mcEv_cstep hmc
    have ih' := ih (inv_mstep hi hms) hsim1 (fun o h => hr o (List.mem_cons_of_mem _ h)) hrun
    obtain ⟨out, _, hc⟩ := hsim.cli
    obtain ⟨out1, _, hc1⟩ := hsim1.cli
    have hlast : g1.outs.getLast? = some (reprMCOut r) := by
      rw [hsim1.outs, ho, List.map_append]
      exact List.getLast?_concat
    simp only [gclog, hgs, hlast, List.map_cons, Cl.clog_cons, hcs, List.map_append, ih']
    rw [hc, hc1, gcEv_repr, hev, filterMap_sound a tr (Cl.cstep_spec hcs).sound]

end RenetVerif.SrcNcClientSeal
