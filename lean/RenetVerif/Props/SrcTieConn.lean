/-
  Source tie, group Conn: `renet/src/remote_connection.rs` `RenetClient::{from_channels, new, new_from_server,
  is_connected, is_connecting, is_disconnected, disconnect_reason, disconnect_with_reason, set_connected, set_connecting,
  disconnect, disconnect_due_to_transport, channel_available_memory, can_send_message, send_message, receive_message}`
  ↔ `Conn` of `Renet/Conn.lean`.

  The generated `RenetClient` (group ConnTypes) is the Rust struct WITHOUT its statistics fields `stats` and `rtt`
  (manifest "ignored fields": statements that only write them are dropped like `log::…!`, any other read of them is a
  translation error; see the header of `Base/RustSem.lean`).  `reprConn mrs c` maps a model connection to it: the four
  `HashMap<u8, channel>` tables (only keyed access) are key-sorted association lists on both sides; `mrs` gives, per
  receive-reliable channel, the never-read Rust field `most_recent_message_id` that the model omits.
  `I: Into<u8>` / `B: Into<Bytes>` parameters are values of type `u8` / `Bytes`.
  `SameOutcome` compares `ok` values exactly and panics up to the text of the site.
-/
import RenetVerif.Lemmas.SrcEquiv.Conn
import RenetVerif.Props.SrcTieRecvRel
import RenetVerif.Props.SrcTieRecvUnrel
import RenetVerif.Props.SrcTieSendRel
import RenetVerif.Props.SrcTieSendUnrel
namespace RenetVerif.SrcTie
open RenetVerif RenetVerif.SrcEquiv RenetVerif.RustSem
open Src.renet.remote_connection

/-- `from_channels`: the tables and the send order built from the two config lists.  The ids must be distinct within
    the unreliable and within the reliable configs of each direction: otherwise an `assert!` fires. -/
theorem conn_from_channels {ε : Type} (budget : Nat) (send recv : List ChanCfg)
    (hsu : ((send.filter (·.kind == .unreliable)).map (·.id)).Nodup)
    (hsr : ((send.filter (·.kind != .unreliable)).map (·.id)).Nodup)
    (hru : ((recv.filter (·.kind == .unreliable)).map (·.id)).Nodup)
    (hrr : ((recv.filter (·.kind != .unreliable)).map (·.id)).Nodup) :
    (RenetClient.from_channels budget (send.map reprCfg) (recv.map reprCfg) : Res ε _) =
      .ok (reprConn (fun _ => 0) (Conn.fromChannels budget send recv)) := by
  unfold RenetClient.from_channels
  simp only [Exec.bind_eq, Exec.pure_eq]
  have h0 : ((([] : List ChannelOrder), ([] : RustSem.Map Src.renet.channel.reliable.SendChannelReliable),
      ([] : RustSem.Map Src.renet.channel.unreliable.SendChannelUnreliable)) : SendSt) = sendSt [] := rfl
  have h1 : ((([] : RustSem.Map Src.renet.channel.reliable.ReceiveChannelReliable),
      ([] : RustSem.Map Src.renet.channel.unreliable.ReceiveChannelUnreliable)) : RecvSt) = recvSt [] := rfl
  have hnew : ∀ {α : Type} (g : ChanCfg → α) (l : List ChanCfg) (c : ChanCfg), c.id ∉ l.map (·.id) →
      SMap.find? (l.foldl (fun m c => SMap.insert m c.id (g c)) []) c.id = none :=
    fun g l c h => SMap.not_contains_iff.mp fun hc =>
      ((SMap.contains_foldl_insert (·.id) g l [] c.id).mp hc).elim Bool.false_ne_true h
  rw [h0, cfg_loop sendSt _ ?hbs send [] (by simpa using hsu) (by simpa using hsr), Exec.bind_val', h1,
    cfg_loop recvSt _ ?hbr recv [] (by simpa using hru) (by simpa using hrr), Exec.bind_val']
  case hbs =>
    intro done c hu hr
    cases hk : c.kind with
    | unreliable =>
      have hfind : SMap.find? ((done.filter (·.kind == .unreliable)).foldl insSU []) c.id = none := hnew _ _ c (hu hk)
      simp only [reprCfg, hk, sendSt, send_unrel_new, Exec.call_ok, Exec.bind_val', find_mapVals, hfind, Option.map_none,
        Option.isNone_none, RustSem.assert, if_true, insert_mapVals, RustSem.push]
      simp [List.filter_append, hk, List.foldl_append, insSU, reprOrd]
    | ordered | unordered =>
      have hne : c.kind ≠ .unreliable := by rw [hk]; exact fun h => nomatch h
      have hfind : SMap.find? ((done.filter (·.kind != .unreliable)).foldl insSR []) c.id = none := hnew _ _ c (hr hne)
      simp only [reprCfg, hk, sendSt, send_rel_new, Exec.call_ok, Exec.bind_val', find_mapVals, hfind, Option.map_none,
        Option.isNone_none, RustSem.assert, if_true, insert_mapVals, RustSem.push]
      simp [List.filter_append, hk, List.foldl_append, insSR, reprOrd]
  case hbr =>
    intro done c hu hr
    have hsorted : MSorted ((done.filter (·.kind != .unreliable)).foldl insRR []) :=
      (msorted_iff _).mpr (SMap.sorted_foldl_insert (fun c : ChanCfg => c.id)
        (fun c : ChanCfg => RecvRel.new c.maxMem (c.kind == .ordered)) _ SMap.sorted_nil)
    cases hk : c.kind with
    | unreliable =>
      have hfind : SMap.find? ((done.filter (·.kind == .unreliable)).foldl insRU []) c.id = none := hnew _ _ c (hu hk)
      simp only [reprCfg, hk, recvSt, recv_unrel_new, Exec.call_ok, Exec.bind_val', find_mapVals, hfind, Option.map_none,
        Option.isNone_none, RustSem.assert, if_true, insert_mapVals]
      simp [List.filter_append, hk, List.foldl_append, insRU]
    | ordered | unordered =>
      have hne : c.kind ≠ .unreliable := by rw [hk]; exact fun h => nomatch h
      have hfind : SMap.find? ((done.filter (·.kind != .unreliable)).foldl insRR []) c.id = none := hnew _ _ c (hr hne)
      simp only [reprCfg, hk, recvSt, recv_rel_new, Exec.call_ok, Exec.bind_val', find_reprRecvRel, hfind,
        Option.map_none, Option.isNone_none, RustSem.assert, if_true, insert_reprRecvRel_same (fun _ => 0) _ _ _ hsorted]
      simp [List.filter_append, hk, List.foldl_append, insRR, show (Kind.unordered == Kind.ordered) = false from rfl]
  simp [sendSt, recvSt, reprConn, Conn.fromChannels, Exec.run_val, reprStatus, mapVals]
  exact ⟨rfl, rfl, rfl, rfl⟩

/-- `RenetClient::new`: the client sends on `client_channels_config` and receives on `server_channels_config` -/
theorem conn_new {ε : Type} (budget : Nat) (server client : List ChanCfg)
    (hsu : ((client.filter (·.kind == .unreliable)).map (·.id)).Nodup)
    (hsr : ((client.filter (·.kind != .unreliable)).map (·.id)).Nodup)
    (hru : ((server.filter (·.kind == .unreliable)).map (·.id)).Nodup)
    (hrr : ((server.filter (·.kind != .unreliable)).map (·.id)).Nodup) :
    (RenetClient.new ⟨budget, server.map reprCfg, client.map reprCfg⟩ : Res ε _) =
      .ok (reprConn (fun _ => 0) (Conn.fromChannels budget client server)) := by
  unfold RenetClient.new
  simp only [conn_from_channels budget client server hsu hsr hru hrr, Exec.call_ok, Exec.run_val]

/-- `RenetClient::new_from_server`: the roles of the two lists are swapped -/
theorem conn_new_from_server {ε : Type} (budget : Nat) (server client : List ChanCfg)
    (hsu : ((server.filter (·.kind == .unreliable)).map (·.id)).Nodup)
    (hsr : ((server.filter (·.kind != .unreliable)).map (·.id)).Nodup)
    (hru : ((client.filter (·.kind == .unreliable)).map (·.id)).Nodup)
    (hrr : ((client.filter (·.kind != .unreliable)).map (·.id)).Nodup) :
    (RenetClient.new_from_server ⟨budget, server.map reprCfg, client.map reprCfg⟩ : Res ε _) =
      .ok (reprConn (fun _ => 0) (Conn.fromChannels budget server client)) := by
  unfold RenetClient.new_from_server
  simp only [conn_from_channels budget server client hsu hsr hru hrr, Exec.call_ok, Exec.run_val]

theorem conn_is_connected {ε : Type} (mrs : Nat → Nat) (c : Conn) :
    (RenetClient.is_connected (reprConn mrs c) : Res ε Bool) = .ok c.isConnected := by
  cases hs : c.status <;> simp [RenetClient.is_connected, reprConn, reprStatus, Conn.isConnected, hs, Exec.run_val, Exec.pure_eq]
theorem conn_is_connecting {ε : Type} (mrs : Nat → Nat) (c : Conn) :
    (RenetClient.is_connecting (reprConn mrs c) : Res ε Bool) = .ok (decide (c.status = .connecting)) := by
  cases hs : c.status <;> simp [RenetClient.is_connecting, reprConn, reprStatus, hs, Exec.run_val, Exec.pure_eq]
theorem conn_is_disconnected {ε : Type} (mrs : Nat → Nat) (c : Conn) :
    (RenetClient.is_disconnected (reprConn mrs c) : Res ε Bool) = .ok c.isDisconnected := by
  cases hs : c.status <;> simp [RenetClient.is_disconnected, reprConn, reprStatus, Conn.isDisconnected, hs, Exec.run_val, Exec.pure_eq]
theorem conn_disconnect_reason {ε : Type} (mrs : Nat → Nat) (c : Conn) :
    (RenetClient.disconnect_reason (reprConn mrs c) : Res ε _) = .ok (c.disconnectReason.map reprReason) := by
  cases hs : c.status <;>
    simp [RenetClient.disconnect_reason, reprConn, reprStatus, Conn.disconnectReason, hs, Exec.run_val, Exec.pure_eq]
/-- a disconnected client stays disconnected with its first reason -/
theorem conn_disconnect_with_reason {ε : Type} (mrs : Nat → Nat) (c : Conn) (r : Reason) :
    (RenetClient.disconnect_with_reason (reprConn mrs c) (reprReason r) : Res ε _) =
      .ok (reprConn mrs (c.disconnectWith r), ()) := by
  unfold RenetClient.disconnect_with_reason Conn.disconnectWith
  simp only [conn_is_disconnected, Exec.call_ok, Exec.bind_eq, Exec.pure_eq, Exec.bind_val']
  cases c.isDisconnected <;> simp [Exec.bind_val', Exec.run_val, reprConn, reprStatus]
theorem conn_set_connected {ε : Type} (mrs : Nat → Nat) (c : Conn) :
    (RenetClient.set_connected (reprConn mrs c) : Res ε _) = .ok (reprConn mrs c.setConnected, ()) := by
  unfold RenetClient.set_connected Conn.setConnected
  simp only [conn_is_disconnected, Exec.call_ok, Exec.bind_eq, Exec.pure_eq, Exec.bind_val']
  cases c.isDisconnected <;> simp [Exec.bind_val', Exec.run_val, reprConn, reprStatus]
theorem conn_set_connecting {ε : Type} (mrs : Nat → Nat) (c : Conn) :
    (RenetClient.set_connecting (reprConn mrs c) : Res ε _) = .ok (reprConn mrs c.setConnecting, ()) := by
  unfold RenetClient.set_connecting Conn.setConnecting
  simp only [conn_is_disconnected, Exec.call_ok, Exec.bind_eq, Exec.pure_eq, Exec.bind_val']
  cases c.isDisconnected <;> simp [Exec.bind_val', Exec.run_val, reprConn, reprStatus]
theorem conn_disconnect {ε : Type} (mrs : Nat → Nat) (c : Conn) :
    (RenetClient.disconnect (reprConn mrs c) : Res ε _) = .ok (reprConn mrs (c.disconnectWith .byClient), ()) := by
  unfold RenetClient.disconnect
  simp only [show Src.renet.error.DisconnectReason.DisconnectedByClient = reprReason .byClient from rfl,
    conn_disconnect_with_reason, Exec.call_ok, Exec.bind_eq, Exec.pure_eq, Exec.bind_val', Exec.run_val]
theorem conn_disconnect_due_to_transport {ε : Type} (mrs : Nat → Nat) (c : Conn) :
    (RenetClient.disconnect_due_to_transport (reprConn mrs c) : Res ε _) =
      .ok (reprConn mrs (c.disconnectWith .transport), ()) := by
  unfold RenetClient.disconnect_due_to_transport
  simp only [show Src.renet.error.DisconnectReason.Transport = reprReason .transport from rfl,
    conn_disconnect_with_reason, Exec.call_ok, Exec.bind_eq, Exec.pure_eq, Exec.bind_val', Exec.run_val]

/-! per-channel entry points (hypotheses: counters of the addressed channel fit their integer types) -/
theorem conn_channel_available_memory {ε : Type} (mrs : Nat → Nat) (c : Conn) (ch : Nat)
    (hr : ∀ s, SMap.find? c.sendRel ch = some s → s.mem ≤ s.maxMem)
    (hu : ∀ s, SMap.find? c.sendUnrel ch = some s → s.mem ≤ s.maxMem) :
    SameOutcome (RenetClient.channel_available_memory (reprConn mrs c) ch : Res ε Nat)
      (mapRes id (fun e => nomatch e) (c.availableMemory ch)) := by
  unfold RenetClient.channel_available_memory Conn.availableMemory
  simp only [reprConn, find_mapVals]
  cases h1 : SMap.find? c.sendRel ch with
  | some s => simp [send_rel_available_memory s (hr s h1), Exec.call_ok, Exec.run_val, mapRes, SameOutcome]
  | none =>
    cases h2 : SMap.find? c.sendUnrel ch with
    | some s => simp [send_unrel_available_memory s (hu s h2), Exec.call_ok, Exec.run_val, mapRes, SameOutcome]
    | none => simp [Exec.run_panic, mapRes, SameOutcome]

/-- `can_send_message`: the answer of the channel with that id (reliable table first); panics on an unknown id -/
theorem conn_can_send_message {ε : Type} (mrs : Nat → Nat) (c : Conn) (ch n : Nat)
    (hr : ∀ s, SMap.find? c.sendRel ch = some s → n + s.mem < 2 ^ 64)
    (hu : ∀ s, SMap.find? c.sendUnrel ch = some s → n + s.mem < 2 ^ 64) :
    SameOutcome (RenetClient.can_send_message (reprConn mrs c) ch n : Res ε Bool)
      (match SMap.find? c.sendRel ch with
       | some s => .ok (s.canSend n)
       | none => match SMap.find? c.sendUnrel ch with
         | some s => .ok (s.canSend n)
         | none => .panic "can_send_message: invalid channel") := by
  unfold RenetClient.can_send_message
  simp only [reprConn, find_mapVals]
  cases h1 : SMap.find? c.sendRel ch with
  | some s => simp [send_rel_can_send_message s n (hr s h1), Exec.call_ok, Exec.run_val, SameOutcome]
  | none =>
    cases h2 : SMap.find? c.sendUnrel ch with
    | some s => simp [send_unrel_can_send_message s n (hu s h2), Exec.call_ok, Exec.run_val, SameOutcome]
    | none => simp [Exec.run_panic, SameOutcome]

/-- `send_message`: queued on the channel; a reliable channel that is out of memory disconnects the client with
    `SendChannelError`; an unknown channel id panics; a disconnected client ignores the call -/
theorem conn_send_message {ε : Type} (mrs : Nat → Nat) (c : Conn) (ch : Nat) (m : Bytes) (hs : MSorted c.sendRel)
    (hr : ∀ s, SMap.find? c.sendRel ch = some s → s.mem + m.length < 2 ^ 64 ∧ s.nextId + 1 < 2 ^ 64)
    (hu : ∀ s, SMap.find? c.sendUnrel ch = some s → s.mem + m.length < 2 ^ 64) :
    SameOutcome (RenetClient.send_message (reprConn mrs c) ch (toNats m) : Res ε _)
      (mapRes (fun c' => (reprConn mrs c', ())) (fun e => nomatch e) (c.sendMessage ch m)) := by
  unfold RenetClient.send_message Conn.sendMessage
  simp only [conn_is_disconnected, Exec.call_ok, Exec.bind_eq, Exec.pure_eq, Exec.bind_val']
  cases hd : c.isDisconnected with
  | true => rfl
  | false =>
    simp only [Bool.false_eq_true, if_false, Exec.bind_val']
    have hdc : (reprConn mrs c).send_reliable_channels = mapVals reprSR c.sendRel := rfl
    have hdu : (reprConn mrs c).send_unreliable_channels = mapVals reprSU c.sendUnrel := rfl
    simp only [hdc, hdu, contains_mapVals, RustSem.Map.index, find_mapVals, SMap.contains]
    cases h1 : SMap.find? c.sendRel ch with
    | some s =>
      obtain ⟨hm, hid⟩ := hr s h1
      simp only [Option.isSome_some, if_true, Option.map_some, Exec.bind_val', send_rel_send_message s m hm hid]
      cases hsm : s.sendMessage m with
      | ok s' =>
        simp only [Exec.attempt, Exec.bind_val', insert_mapVals]
        rfl
      | error e =>
        -- the entry written back after the `Err` is the one that was read
        simp only [Exec.attempt, Exec.bind_val', insert_mapVals, SMap.insert_same ((msorted_iff _).mp hs) h1]
        erw [conn_disconnect_with_reason mrs c (.sendChan ch e)]
        rfl
    | none =>
      simp only [Option.isSome_none, Bool.false_eq_true, if_false, Option.map_none]
      cases h2 : SMap.find? c.sendUnrel ch with
      | some s =>
        simp only [Option.isSome_some, if_true, Option.map_some, Exec.bind_val', send_unrel_send_message s m (hu s h2),
          Exec.call_ok, insert_mapVals]
        rfl
      | none => trivial

theorem conn_receive_message {ε : Type} (mrs : Nat → Nat) (c : Conn) (ch : Nat) (hs : MSorted c.recvRel)
    (hr : ∀ r, SMap.find? c.recvRel ch = some r → r.oldest + r.received.length + 1 < 2 ^ 64 ∧ r.received.Nodup) :
    SameOutcome (RenetClient.receive_message (reprConn mrs c) ch : Res ε _)
      (mapRes (fun x => (reprConn mrs x.1, x.2.map toNats)) (fun e => nomatch e) (c.receiveMessage ch)) := by
  unfold RenetClient.receive_message Conn.receiveMessage
  simp only [conn_is_disconnected, Exec.call_ok, Exec.bind_eq, Exec.pure_eq, Exec.bind_val']
  cases hd : c.isDisconnected with
  | true => rfl
  | false =>
    simp only [Bool.false_eq_true, if_false, Exec.bind_val']
    have hdr : (reprConn mrs c).receive_reliable_channels = reprRecvRel mrs c.recvRel := rfl
    have hdu : (reprConn mrs c).receive_unreliable_channels = mapVals reprRU c.recvUnrel := rfl
    simp only [hdr, hdu, contains_reprRecvRel, contains_mapVals, RustSem.Map.index, find_reprRecvRel, find_mapVals,
      SMap.contains]
    cases h1 : SMap.find? c.recvRel ch with
    | some r =>
      obtain ⟨ho, hnd⟩ := hr r h1
      simp only [Option.isSome_some, if_true, Option.map_some, Exec.bind_val']
      refine (follows_call (recv_rel_receive_message (mrs ch) r ho hnd)).elim ?_ fun _ _ => trivial
      rintro _ ⟨r', o⟩ _ rfl
      simp only [Exec.bind_val', insert_reprRecvRel_same mrs _ _ _ hs]
      rfl
    | none =>
      simp only [Option.isSome_none, Bool.false_eq_true, if_false, Option.map_none]
      cases h2 : SMap.find? c.recvUnrel ch with
      | some r =>
        simp only [Option.isSome_some, if_true, Option.map_some, Exec.bind_val', recv_unrel_receive_message]
        cases hm : r.receive with
        | err e => exact nomatch e
        | panic st => trivial
        | ok y =>
          simp only [Exec.call_ok, Exec.bind_val', insert_mapVals]
          rfl
      | none => trivial

/-- the default configuration: unreliable 0, reliable unordered 1, reliable ordered 2 (5 MB each, resend 300 ms) -/
def exCfgs : List Src.renet.channel.ChannelConfig :=
  [⟨0, 5000000, .Unreliable⟩, ⟨1, 5000000, .ReliableUnordered 300000000⟩, ⟨2, 5000000, .ReliableOrdered 300000000⟩]

example : (RenetClient.from_channels 60000 exCfgs exCfgs : Res Empty _) =
    .ok ⟨0, 0, [], [], [.Unreliable 0, .Reliable 1, .Reliable 2],
         [(0, ⟨0, [], 0, 5000000, 0⟩)], [(0, ⟨0, [], [], [], 5000000, 0⟩)],
         [(1, ⟨1, [], 0, 300000000, 5000000, 0⟩), (2, ⟨2, [], 0, 300000000, 5000000, 0⟩)],
         [(1, ⟨[], [], 0, .Unordered 0 [], 0, 5000000⟩), (2, ⟨[], [], 0, .Ordered, 0, 5000000⟩)],
         60000, .Connecting⟩ := by decide +kernel
/-- a duplicated channel id in the send configs trips the `assert!` -/
example : ∃ s, (RenetClient.from_channels 60000 [⟨0, 10, .Unreliable⟩, ⟨0, 10, .Unreliable⟩] [] : Res Empty _) = .panic s :=
  ⟨_, rfl⟩

/-- a small connected client with one reliable send channel (id 1, 4 bytes of memory) -/
def exConn : RenetClient :=
  ⟨0, 0, [], [], [.Reliable 1], [], [], [(1, ⟨1, [], 0, 100, 4, 0⟩)], [], 60000, .Connected⟩

example : (RenetClient.send_message exConn 1 [7, 8] : Res Empty _) =
    .ok ({ exConn with send_reliable_channels := [(1, ⟨1, [(0, .Small [7, 8] none)], 1, 100, 4, 2⟩)] }, ()) := by
  decide +kernel
/-- the message does not fit the channel's memory: the client is disconnected with `SendChannelError` -/
example : (RenetClient.send_message exConn 1 [1, 2, 3, 4, 5] : Res Empty _) =
    .ok ({ exConn with connection_status :=
            .Disconnected (.SendChannelError 1 .ReliableChannelMaxMemoryReached) }, ()) := by decide +kernel
example : ∃ s, (RenetClient.send_message exConn 9 [1] : Res Empty _) = .panic s := ⟨_, rfl⟩

end RenetVerif.SrcTie
