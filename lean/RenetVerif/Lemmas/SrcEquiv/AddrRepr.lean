/-
  Model address ↦ `RustSem.SocketAddr`, shared by the groups TokenTable, NcAddr and NcConnToken.
-/
import RenetVerif.Lemmas.SrcEquiv.Prims
import RenetVerif.Netcode.Token
namespace RenetVerif.SrcEquiv
open RenetVerif RenetVerif.RustSem

/-- model address ↦ `SocketAddr` (IPv6 flow info and scope id are 0: the model does not have them) -/
def reprAddr : Netcode.Addr → RustSem.SocketAddr
  | .v4 ip port => .v4 (toNats ip) port
  | .v6 ip port => .v6 (toNats ip) port 0 0

theorem reprAddr_inj {a b : Netcode.Addr} (h : reprAddr a = reprAddr b) : a = b := by
  cases a <;> cases b <;> simp only [reprAddr, SocketAddr.v4.injEq, SocketAddr.v6.injEq, reduceCtorEq] at h
  · obtain ⟨h1, h2⟩ := h; rw [toNats_inj h1, h2]
  · obtain ⟨h1, h2, _⟩ := h; rw [toNats_inj h1, h2]

/-- `[Option<SocketAddr>; 32]` -/
def reprAddrs (l : Netcode.AddrArray) : List (Option RustSem.SocketAddr) := l.map (Option.map reprAddr)

end RenetVerif.SrcEquiv
