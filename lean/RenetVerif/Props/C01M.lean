/-
  C01 / C02 / C11 — LIVENESS in the multi-client system: the k-ROUND bound, and the direction client → server.

  Props/C11L.lean has the ONE-round liveness theorems of the multi-client system `MSys`.  Here:
    (1) the k-round bound of Props/C01K.lean (per-tick budget smaller than the backlog), which is stated there for states
        reachable from `Sys.init`;
    (2) the round theorems for the direction client → server.
  The k-round development of Lemmas/LivenessK.lean is about any state that satisfies `GoodK`
  (= C11L's link invariant `GoodL` plus `InvL`; Lemmas/Liveness.lean).  Lemmas/MultiLiveK.lean: `GoodK` holds for both
  projections of every untainted link of every reachable `MSys` state (`reachK`), and runs of ANY `System.Sys`
  operations on a projection lift to the view of the client (`MultiLive.lift_down`, `lift_up`), which is a function of
  the client's local trace alone (`view_of_trace`).

  A FULL LOSSLESS ROUND with parameters `r : RoundP` (`LiveK.RoundP`: `dt`, `ks`, `n`, `ai`), for client `i`, channel `ch`:

    server → client  (`fullRoundFor i ch r`)      srvUpdate r.dt ; srvFlush i ; deliverToCli i k (k ∈ r.ks) ;
                                                   cliRecv i ch (r.n times) ; cliFlush i ; deliverToSrv i r.ai
    client → server  (`fullRoundForU i ch r`)     cliUpdate i r.dt ; cliFlush i ; deliverToSrv i k (k ∈ r.ks) ;
                                                   srvRecv i ch (r.n times) ; srvFlush i ; deliverToCli i r.ai

  the sender's clock advances; the sender flushes; the network of `i` hands the receiver the datagrams of that flush;
  the receiving application drains the channel; the receiver flushes; its last datagram (the ack packet) is handed to
  the sender.  `roundsFor i ch rs` / `roundsForU i ch rs` concatenate the rounds `rs`.

  WHAT IS ASSUMED — about client `i` only, on ANY state `m` reachable by ANY run `ops` of `MSys` (`At P ops m i l`:
  the link `l` of `i` is untainted; other clients hostile, disconnected, removed, stalled …):
    `i` is in the server table, neither end of its link is disconnected, H3 (`Room`: the receiver's channel has room
    for what is logged and has not arrived), and the per-round side conditions `LiveK.Rounds` of Props/C01K.lean on the
    PROJECTION of the link (`dirDown c l` resp. `dirUp c l`) — timer (`dt ≥ resend_time`), drain, counters, `ks` =
    exactly the datagrams of this flush (any order, repetitions allowed), ack-range cap, the way back, and the
    scheduling hypothesis `SchedBytes ch B`: the flush carries only channel `ch` and acks (H4) and offers the channel
    at least `B ≥ SLICE_SIZE` bytes at its turn (H2).  They are decidable (Lemmas/LivenessK.lean Part 6).
    `k = rs.length ≥ 1` rounds with `k * (B - SLICE_SIZE + 1) ≥ backlog`.
  NOTHING is assumed about any other client: the theorems speak about EVERY operation list `ops'` whose local trace for
  `i` is that of the `k` rounds — the rounds of `i` interleaved with arbitrary operations that concern other clients
  only — and that runs (`m.run ops' = some m''`).  For the direction client → server every operation of a round is
  local to `i`, and that the rounds themselves run without panic is a CONCLUSION (`k_rounds_run_to_server`); for the
  direction server → client the tick is the server's `update`, which advances every slot, so there it is part of the
  hypothesis `m.run ops' = some m''`.

  RESULTS.
    A  k_round_delivery_inv: Props/C01K from the link invariant `GoodK` instead of `Sys.init`-reachability;
       `k_round_delivery_of_reach`: C01K's theorem is the instance `GoodK` of a reachable state; `k_round_delivery_link`,
       `_unordered_link`, `_single_link`, `_entries_link`: the bounds of Lemmas/LivenessK.lean on the two projections of a
       link, in the vocabulary of the link.
    B  k_rounds_deliver_to_client (ordered: the client obtains EXACTLY the log `l.subS ch`, in order),
       k_rounds_deliver_to_client_unordered (a permutation); each logged message at least once and at most as often
       as the run addressed it to `i`;  k_rounds_stalled_client_does_not_delay_others.
    C  round_delivers_to_server (one round, H1 as hypothesis, nothing panics), from_one_exactly_once (tick + one round:
       what client `i` submitted is obtained by the server under id `i` exactly: at least once, and — C11E — at most as
       often as `i` submitted it), from_one_exactly_once_unordered, k_rounds_deliver_to_server(_unordered),
       k_rounds_run_to_server.

  NOT PROVED.  As in C01K: tightness of the bound; the `back` side condition and the counter conditions are assumed per
  round.  For the direction server → client, that `srvUpdate` does not panic on OTHER clients' slots is not derived.
-/
import RenetVerif.Lemmas.MultiLiveK
import RenetVerif.Props.C11L
namespace RenetVerif.C01M
open RenetVerif C RenetVerif.System RenetVerif.MultiSystem RenetVerif.Live RenetVerif.LiveK RenetVerif.MultiLive
  RenetVerif.MultiLiveK RenetVerif.C11E RenetVerif.C11L

/-! ## A. the k-round bound from the link invariant -/

/-- **C01 liveness, k rounds, from the invariant.**  `C01K.k_round_delivery` with "reachable from `Sys.init`" replaced
    by `GoodK cfg s`. -/
theorem k_round_delivery_inv (cfg : Cfg) (s : Sys) (hg : GoodK cfg s)
    (hda : s.a.isDisconnected = false) (hdb : s.b.isDisconnected = false)
    (ch : Nat) (ho : cfg.Ordered ch) (sA : SendRel) (hfA : SMap.find? s.a.sendRel ch = some sA)
    (rB : RecvRel) (hfB : SMap.find? s.b.recvRel ch = some rB) (H3 : Room (s.submitted ch) rB)
    (B : Nat) (hSB : SLICE_SIZE ≤ B)
    (rs : List RoundP) (hR : Rounds cfg ch (SchedBytes ch B) s rs)
    (hk1 : rs ≠ []) (hk : backlog sA.unacked ≤ rs.length * (B - SLICE_SIZE + 1)) :
    ∃ u, s.run (roundsOps ch rs) = some u ∧ u.a.isDisconnected = false ∧ u.b.isDisconnected = false ∧
      u.submitted ch = s.submitted ch ∧ u.obtained ch = s.submitted ch :=
  rounds_bytes_any_inv ⟨hg, hda, hdb, hfA, hfB, H3⟩ true ho B hSB (SchedBytes ch B) (fun _ _ h => h) rs hR hk1 hk

theorem k_round_delivery_of_reach (cfg : Cfg) (ops : List SysOp) (s : Sys) (hr : (Sys.init cfg).run ops = some s)
    (hda : s.a.isDisconnected = false) (hdb : s.b.isDisconnected = false)
    (ch : Nat) (ho : cfg.Ordered ch) (sA : SendRel) (hfA : SMap.find? s.a.sendRel ch = some sA)
    (rB : RecvRel) (hfB : SMap.find? s.b.recvRel ch = some rB) (H3 : Room (s.submitted ch) rB)
    (B : Nat) (hSB : SLICE_SIZE ≤ B)
    (rs : List RoundP) (hR : Rounds cfg ch (SchedBytes ch B) s rs)
    (hk1 : rs ≠ []) (hk : backlog sA.unacked ≤ rs.length * (B - SLICE_SIZE + 1)) :
    ∃ u, s.run (roundsOps ch rs) = some u ∧ u.a.isDisconnected = false ∧ u.b.isDisconnected = false ∧
      u.submitted ch = s.submitted ch ∧ u.obtained ch = s.submitted ch :=
  k_round_delivery_inv cfg s (goodK_reach hr) hda hdb ch ho sA hfA rB hfB H3 B hSB rs hR hk1 hk

theorem k_round_delivery_link {P : Params} {c : Conn} {l : Link} (hg : GoodK P.down (dirDown c l))
    (hda : c.isDisconnected = false) (hdb : l.cl.isDisconnected = false)
    (ch : Nat) (ho : P.down.Ordered ch) (sA : SendRel) (hfA : SMap.find? c.sendRel ch = some sA)
    (rB : RecvRel) (hfB : SMap.find? l.cl.recvRel ch = some rB) (H3 : Room (l.subS ch) rB)
    (B : Nat) (hSB : SLICE_SIZE ≤ B)
    (rs : List RoundP) (hR : Rounds P.down ch (SchedBytes ch B) (dirDown c l) rs)
    (hk1 : rs ≠ []) (hk : backlog sA.unacked ≤ rs.length * (B - SLICE_SIZE + 1)) :
    ∃ u, (dirDown c l).run (roundsOps ch rs) = some u ∧ u.a.isDisconnected = false ∧ u.b.isDisconnected = false ∧
      u.submitted ch = l.subS ch ∧ u.obtained ch = l.subS ch :=
  k_round_delivery_inv P.down (dirDown c l) hg hda hdb ch ho sA hfA rB hfB H3 B hSB rs hR hk1 hk

/-- the single-channel bound (`B = available_bytes_per_tick`, no scheduling hypothesis) and the entry-count bound (every
    round covers the `q` oldest entries) on the client → server projection of a link -/
theorem k_round_delivery_single_link {P : Params} {c : Conn} {l : Link} (hg : GoodK P.up (up ⟨some c, some l⟩ l))
    (hda : l.cl.isDisconnected = false) (hdb : c.isDisconnected = false)
    (ch : Nat) (hsingle : Single P.up ch) (sA : SendRel) (hfA : SMap.find? l.cl.sendRel ch = some sA)
    (rB : RecvRel) (hfB : SMap.find? c.recvRel ch = some rB) (H3 : Room (l.subC ch) rB)
    (hSB : SLICE_SIZE ≤ P.up.budget)
    (rs : List RoundP) (hR : Rounds P.up ch (fun _ => True) (up ⟨some c, some l⟩ l) rs)
    (hk1 : rs ≠ []) (hk : backlog sA.unacked ≤ rs.length * (P.up.budget - SLICE_SIZE + 1)) :
    ∃ u, (up ⟨some c, some l⟩ l).run (roundsOps ch rs) = some u ∧ u.a.isDisconnected = false ∧
      u.b.isDisconnected = false ∧ u.submitted ch = l.subC ch ∧ u.obtained ch = l.subC ch :=
  rounds_bytes_any_single_inv ⟨hg, hda, hdb, hfA, hfB, H3⟩ hsingle hSB rs hR hk1 hk

theorem k_round_delivery_entries_link {P : Params} {c : Conn} {l : Link} (hg : GoodK P.up (up ⟨some c, some l⟩ l))
    (hda : l.cl.isDisconnected = false) (hdb : c.isDisconnected = false)
    (ch : Nat) (ho : P.up.Ordered ch) (sA : SendRel) (hfA : SMap.find? l.cl.sendRel ch = some sA)
    (rB : RecvRel) (hfB : SMap.find? c.recvRel ch = some rB) (H3 : Room (l.subC ch) rB)
    (q : Nat) (rs : List RoundP) (hR : Rounds P.up ch (SchedCount ch q) (up ⟨some c, some l⟩ l) rs)
    (hk1 : rs ≠ []) (hk : sA.unacked.length ≤ rs.length * q) :
    ∃ u, (up ⟨some c, some l⟩ l).run (roundsOps ch rs) = some u ∧ u.a.isDisconnected = false ∧
      u.b.isDisconnected = false ∧ u.submitted ch = l.subC ch ∧ u.obtained ch = l.subC ch :=
  rounds_count_inv ⟨hg, hda, hdb, hfA, hfB, H3⟩ true ho q rs hR hk1 hk

/-- C02's clause (ReliableUnordered channel: a permutation) on the server → client projection of a link -/
theorem k_round_delivery_unordered_link {P : Params} {c : Conn} {l : Link} (hg : GoodK P.down (dirDown c l))
    (hda : c.isDisconnected = false) (hdb : l.cl.isDisconnected = false)
    (ch : Nat) (ho : P.down.Unordered ch) (sA : SendRel) (hfA : SMap.find? c.sendRel ch = some sA)
    (rB : RecvRel) (hfB : SMap.find? l.cl.recvRel ch = some rB) (H3 : Room (l.subS ch) rB)
    (B : Nat) (hSB : SLICE_SIZE ≤ B)
    (rs : List RoundP) (hR : Rounds P.down ch (SchedBytes ch B) (dirDown c l) rs)
    (hk1 : rs ≠ []) (hk : backlog sA.unacked ≤ rs.length * (B - SLICE_SIZE + 1)) :
    ∃ u, (dirDown c l).run (roundsOps ch rs) = some u ∧ u.a.isDisconnected = false ∧ u.b.isDisconnected = false ∧
      u.submitted ch = l.subS ch ∧ (u.obtained ch).Perm (l.subS ch) :=
  rounds_bytes_any_inv (s := dirDown c l) ⟨hg, hda, hdb, hfA, hfB, H3⟩ false ho B hSB (SchedBytes ch B) (fun _ _ h => h) rs hR
    hk1 hk

/-- direction client → server as a state of the two-endpoint system, for the table entry `c` and the link `l`
    (`C11E.projUp m i l` when `conn? m.server i = some c`): A = the remote endpoint `l.cl`, B = `c` -/
def dirUp (c : Conn) (l : Link) : Sys := up ⟨some c, some l⟩ l

theorem projUp_eq {m : MSys} {i : Nat} {c : Conn} {l : Link} (hc : conn? m.server i = some c) (hl : m.links i = some l) :
    projUp m i l = dirUp c l := by
  unfold projUp dirUp; rw [view_some hc hl]

def fullRoundFor (i ch : Nat) (r : RoundP) : List MOp :=
  .srvUpdate r.dt :: .srvFlush i :: (r.ks.map (MOp.deliverToCli i) ++ List.replicate r.n (.cliRecv i ch) ++
    [.cliFlush i, .deliverToSrv i r.ai])

def fullRoundForU (i ch : Nat) (r : RoundP) : List MOp :=
  .cliUpdate i r.dt :: .cliFlush i :: (r.ks.map (MOp.deliverToSrv i) ++ List.replicate r.n (.srvRecv i ch) ++
    [.srvFlush i, .deliverToCli i r.ai])

def roundsFor (i ch : Nat) : List RoundP → List MOp
  | [] => []
  | r :: rs => fullRoundFor i ch r ++ roundsFor i ch rs

def roundsForU (i ch : Nat) : List RoundP → List MOp
  | [] => []
  | r :: rs => fullRoundForU i ch r ++ roundsForU i ch rs

def roundForU (i ch : Nat) (ks : List Nat) (n : Nat) : List MOp :=
  .cliFlush i :: (ks.map (MOp.deliverToSrv i) ++ List.replicate n (.srvRecv i ch))

theorem fullRound_map (i ch : Nat) (r : RoundP) : (r.ops ch).map (mop i) = fullRoundFor i ch r := by
  simp [RoundP.ops, fullRoundOps, roundOps, fullRoundFor, mop, List.map_replicate, Function.comp_def]

theorem fullRound_mapU (i ch : Nat) (r : RoundP) : (r.ops ch).map (mopU i) = fullRoundForU i ch r := by
  simp [RoundP.ops, fullRoundOps, roundOps, fullRoundForU, mopU, List.map_replicate, Function.comp_def]

theorem rounds_map (i ch : Nat) : ∀ rs : List RoundP, (roundsOps ch rs).map (mop i) = roundsFor i ch rs
  | [] => rfl
  | r :: rs => by simp only [roundsOps, roundsFor, List.map_append, fullRound_map, rounds_map i ch rs]

theorem rounds_mapU (i ch : Nat) : ∀ rs : List RoundP, (roundsOps ch rs).map (mopU i) = roundsForU i ch rs
  | [] => rfl
  | r :: rs => by simp only [roundsOps, roundsForU, List.map_append, fullRound_mapU, rounds_mapU i ch rs]

theorem roundOps_mapU (i ch : Nat) (ks : List Nat) (n : Nat) : (roundOps ch ks n).map (mopU i) = roundForU i ch ks n := by
  simp [roundOps, roundForU, mopU, List.map_replicate, Function.comp_def]

theorem trace_rounds (i ch : Nat) (rs : List RoundP) : trace i (roundsFor i ch rs) = (roundsOps ch rs).map lact := by
  rw [← rounds_map, trace_map_mop]

theorem trace_roundsU (i ch : Nat) (rs : List RoundP) : trace i (roundsForU i ch rs) = (roundsOps ch rs).map lactU := by
  rw [← rounds_mapU, trace_map_mopU]

theorem roundOps_localU (ch : Nat) (ks : List Nat) (n : Nat) : ∀ o ∈ roundOps ch ks n, LocalU o := by
  intro o ho
  simp only [roundOps, List.mem_cons, List.mem_append, List.mem_map, List.mem_replicate] at ho
  rcases ho with rfl | ⟨k, -, rfl⟩ | ⟨-, rfl⟩ <;> trivial

theorem roundsOps_localU (ch : Nat) : ∀ (rs : List RoundP), ∀ o ∈ roundsOps ch rs, LocalU o
  | [], o, ho => by cases ho
  | r :: rs, o, ho => by
    simp only [roundsOps, RoundP.ops, fullRoundOps, List.mem_append, List.mem_cons, List.not_mem_nil, or_false] at ho
    rcases ho with (rfl | ho | rfl | rfl) | ho
    · trivial
    · exact roundOps_localU ch r.ks r.n o ho
    · trivial
    · trivial
    · exact roundsOps_localU ch rs o ho

section Theorems
variable {P : Params} {ops : List MOp} {m : MSys} {i : Nat} {l : Link}

theorem dirUp_tick {c clu : Conn} {l : Link} {dt : Nat} (hclu : l.cl.update dt = .ok clu) :
    (dirUp c l).step (.updA dt) = some (dirUp c { l with cl := clu }) := by
  simp only [Sys.step, dirUp, up, LV.srv, Option.getD_some, hclu]

theorem runs_up (h : At P ops m i l) {c : Conn} (hconn : conn? m.server i = some c) {sops : List SysOp}
    (hloc : ∀ o ∈ sops, LocalU o) (hu : ∃ u, (dirUp c l).run sops = some u) :
    ∃ m', m.run (sops.map (mopU i)) = some m' :=
  let ⟨u, hu⟩ := hu
  let ⟨m', _, hr, _⟩ := run_local_up (reach_wf P ops m h.run) hconn h.link sops hloc u hu
  ⟨m', hr⟩

/-! ## B. k rounds -/

/-- **k lossless rounds on one direction of the link of client `i`, either channel kind, any interleaving.**  The
    hypotheses are those of `k_round_delivery_inv` on the projection `d.sys c l`; the projection runs the rounds without
    panic, and every `MSys` run whose local trace for `i` is that of the rounds delivers the log. -/
theorem k_rounds_link (d : Dir) (h : At P ops m i l) (c : Conn) (hconn : conn? m.server i = some c)
    (hda : (d.sys c l).a.isDisconnected = false) (hdb : (d.sys c l).b.isDisconnected = false)
    (ch : Nat) (ord : Bool) (ho : KindOf (d.cfg P) ch ord) (sA : SendRel)
    (hfA : SMap.find? (d.sys c l).a.sendRel ch = some sA)
    (rB : RecvRel) (hfB : SMap.find? (d.sys c l).b.recvRel ch = some rB) (H3 : Room (d.sub l ch) rB)
    (B : Nat) (hSB : SLICE_SIZE ≤ B)
    (rs : List RoundP) (hR : Rounds (d.cfg P) ch (SchedBytes ch B) (d.sys c l) rs)
    (hk1 : rs ≠ []) (hk : backlog sA.unacked ≤ rs.length * (B - SLICE_SIZE + 1)) :
    (∃ u, (d.sys c l).run (roundsOps ch rs) = some u) ∧
    ∀ (ops' : List MOp), trace i ops' = (roundsOps ch rs).map d.lact → ∀ (m'' : MSys), m.run ops' = some m'' →
      ∃ c'' l'', conn? m''.server i = some c'' ∧ m''.links i = some l'' ∧ c''.isDisconnected = false ∧
        l''.cl.isDisconnected = false ∧ l''.tainted = false ∧ d.sub l'' ch = d.sub l ch ∧
        Delivered ord (d.obt l'' ch) (d.sub l ch) ∧
        ∀ x ∈ d.sub l ch, 1 ≤ (d.obt l'' ch).count x ∧ (d.obt l'' ch).count x ≤ (d.said i ch ops).count x := by
  have es : (d.sys c l).submitted ch = d.sub l ch := by cases d <;> rfl
  obtain ⟨u, hu, a1, a2, a3, a4⟩ := rounds_bytes_any_inv (s := d.sys c l)
    ⟨goodK_dir d h.run hconn h.link h.clean, hda, hdb, hfA, hfB, es ▸ H3⟩ ord ho B hSB (SchedBytes ch B) (fun _ _ h => h)
    rs hR hk1 hk
  exact ⟨⟨u, hu⟩, fun ops' ht m'' hr =>
    let ⟨c'', l'', q, _⟩ := link_delivered d h hconn hu a1 a2 (a3.trans es) (es ▸ a4) ht hr
    ⟨c'', l'', q⟩⟩

/-- **k lossless rounds for client `i` alone deliver everything addressed to it (ReliableOrdered).**  From ANY
    reachable state `m`, for every client `i` whose link is untainted and live on both ends: run `k = rs.length ≥ 1` full
    lossless rounds for client `i` ALONE — in ANY interleaving `ops'` with operations that concern other clients only.
    If every round offers channel `ch` at least `B ≥ SLICE_SIZE` bytes and carries nothing else (the side conditions
    `Rounds … (SchedBytes ch B)` of `C01K.k_round_delivery`, on the projection of the link of `i`), and
    `k * (B - SLICE_SIZE + 1) ≥ backlog`, then afterwards both ends of the link are live and client `i` has obtained
    EXACTLY the messages addressed to it (the log `l.subS ch`, `C11L.addressed_is_logged`), in order — sliced messages
    larger than the per-tick budget included —: each at least once, none more often than the run addressed it to `i`. -/
theorem k_rounds_deliver_to_client (h : At P ops m i l) (c : Conn) (hconn : conn? m.server i = some c)
    (hda : c.isDisconnected = false) (hdb : l.cl.isDisconnected = false)
    (ch : Nat) (ho : P.down.Ordered ch) (sA : SendRel) (hfA : SMap.find? c.sendRel ch = some sA)
    (rB : RecvRel) (hfB : SMap.find? l.cl.recvRel ch = some rB) (H3 : Room (l.subS ch) rB)
    (B : Nat) (hSB : SLICE_SIZE ≤ B)
    (rs : List RoundP) (hR : Rounds P.down ch (SchedBytes ch B) (dirDown c l) rs)
    (hk1 : rs ≠ []) (hk : backlog sA.unacked ≤ rs.length * (B - SLICE_SIZE + 1))
    (ops' : List MOp) (ht : trace i ops' = trace i (roundsFor i ch rs))
    (m'' : MSys) (hr : m.run ops' = some m'') :
    ∃ c'' l'', conn? m''.server i = some c'' ∧ m''.links i = some l'' ∧ c''.isDisconnected = false ∧
      l''.cl.isDisconnected = false ∧ l''.tainted = false ∧ l''.subS ch = l.subS ch ∧ l''.obtC ch = l.subS ch ∧
      ∀ x ∈ l.subS ch, 1 ≤ (l''.obtC ch).count x ∧ (l''.obtC ch).count x ≤ (addressedTo i ch ops).count x :=
  (k_rounds_link .down h c hconn hda hdb ch true ho sA hfA rB hfB H3 B hSB rs hR hk1 hk).2 ops'
    (ht.trans (trace_rounds i ch rs)) m'' hr

/-- **The same on a ReliableUnordered channel (C02):** the client has obtained a PERMUTATION of the log. -/
theorem k_rounds_deliver_to_client_unordered (h : At P ops m i l) (c : Conn) (hconn : conn? m.server i = some c)
    (hda : c.isDisconnected = false) (hdb : l.cl.isDisconnected = false)
    (ch : Nat) (ho : P.down.Unordered ch) (sA : SendRel) (hfA : SMap.find? c.sendRel ch = some sA)
    (rB : RecvRel) (hfB : SMap.find? l.cl.recvRel ch = some rB) (H3 : Room (l.subS ch) rB)
    (B : Nat) (hSB : SLICE_SIZE ≤ B)
    (rs : List RoundP) (hR : Rounds P.down ch (SchedBytes ch B) (dirDown c l) rs)
    (hk1 : rs ≠ []) (hk : backlog sA.unacked ≤ rs.length * (B - SLICE_SIZE + 1))
    (ops' : List MOp) (ht : trace i ops' = trace i (roundsFor i ch rs))
    (m'' : MSys) (hr : m.run ops' = some m'') :
    ∃ c'' l'', conn? m''.server i = some c'' ∧ m''.links i = some l'' ∧ c''.isDisconnected = false ∧
      l''.cl.isDisconnected = false ∧ l''.tainted = false ∧ l''.subS ch = l.subS ch ∧ (l''.obtC ch).Perm (l.subS ch) ∧
      ∀ x ∈ l.subS ch, 1 ≤ (l''.obtC ch).count x ∧ (l''.obtC ch).count x ≤ (addressedTo i ch ops).count x :=
  (k_rounds_link .down h c hconn hda hdb ch false ho sA hfA rB hfB H3 B hSB rs hR hk1 hk).2 ops'
    (ht.trans (trace_rounds i ch rs)) m'' hr

/-- **A stalled or misbehaving client does not delay the others, k rounds.**  The hypotheses on client `i` are stated
    on the reachable state `m`; then ANYTHING happens to the other clients first (`opsJ`: operations whose target is a
    client `j ≠ i`), and the `k` rounds of `i` are interleaved with more of the same (`ops'`): the outcome for `i` is
    that of `k_rounds_deliver_to_client`. -/
theorem k_rounds_stalled_client_does_not_delay_others (h : At P ops m i l) (c : Conn) (hconn : conn? m.server i = some c)
    (hda : c.isDisconnected = false) (hdb : l.cl.isDisconnected = false)
    (ch : Nat) (ho : P.down.Ordered ch) (sA : SendRel) (hfA : SMap.find? c.sendRel ch = some sA)
    (rB : RecvRel) (hfB : SMap.find? l.cl.recvRel ch = some rB) (H3 : Room (l.subS ch) rB)
    (B : Nat) (hSB : SLICE_SIZE ≤ B)
    (rs : List RoundP) (hR : Rounds P.down ch (SchedBytes ch B) (dirDown c l) rs)
    (hk1 : rs ≠ []) (hk : backlog sA.unacked ≤ rs.length * (B - SLICE_SIZE + 1))
    (opsJ : List MOp) (hJ : ∀ op ∈ opsJ, ∃ j, target op = some j ∧ j ≠ i) (mJ : MSys) (hrJ : m.run opsJ = some mJ)
    (ops' : List MOp) (ht : trace i ops' = trace i (roundsFor i ch rs))
    (m'' : MSys) (hr : mJ.run ops' = some m'') :
    mJ.view i = m.view i ∧
    ∃ c'' l'', conn? m''.server i = some c'' ∧ m''.links i = some l'' ∧ c''.isDisconnected = false ∧
      l''.cl.isDisconnected = false ∧ l''.tainted = false ∧ l''.subS ch = l.subS ch ∧ l''.obtC ch = l.subS ch ∧
      ∀ x ∈ l.subS ch, 1 ≤ (l''.obtC ch).count x ∧ (l''.obtC ch).count x ≤ (addressedTo i ch ops).count x := by
  obtain ⟨hvJ, hAt, hadr⟩ := at_after_others h hJ hrJ
  have := k_rounds_deliver_to_client hAt c ((congrArg LV.conn hvJ).trans hconn) hda hdb ch ho sA hfA rB hfB H3 B hSB rs hR
    hk1 hk ops' ht m'' hr
  rw [hadr] at this
  exact ⟨hvJ, this⟩

/-! ## C. client → server -/

/-- the indices the datagrams of the next flush of the remote endpoint `cl` get in the emission history `l.outC` -/
def flushIdxU (l : Link) (cl : Conn) : List Nat := List.range' l.outC.length (flushPk cl).length

/-- **One lossless round for client `i` alone, client → server (ReliableOrdered; H1 as a hypothesis).**  From any
    reachable state: client `i` flushes, its network hands exactly the datagrams of that flush to the server as
    coming from `i` (any order, repetitions allowed), the server application asks `n` times for a message of `i` on
    `ch`.  The operations do not panic, both ends of the link stay live, the server has obtained under id `i` exactly
    the log `l.subC ch` of what client `i`'s application submitted (and the reliable channel accepted), in order — and
    every operation list with the same local trace for `i` ends in the same view of `i`. -/
theorem round_delivers_to_server (h : At P ops m i l) (c : Conn) (hconn : conn? m.server i = some c)
    (hc : CountersOK P.up (dirUp c l)) (hcA : l.cl.CountersOK)
    (hda : l.cl.isDisconnected = false) (hdb : c.isDisconnected = false)
    (ch : Nat) (ho : P.up.Ordered ch) (sA : SendRel) (hfA : SMap.find? l.cl.sendRel ch = some sA)
    (rB : RecvRel) (hfB : SMap.find? c.recvRel ch = some rB)
    (H1 : AllDue l.cl.now sA.resend sA.unacked) (H2 : backlog sA.unacked ≤ availAtTurn l.cl ch)
    (H3 : Room (l.subC ch) rB) (H4 : ∀ p ∈ flushPk l.cl, OnlyCh ch p)
    (ks : List Nat) (hks1 : ∀ k ∈ flushIdxU l l.cl, k ∈ ks) (hks2 : ∀ k ∈ ks, k ∈ flushIdxU l l.cl)
    (n : Nat) (hn : (l.subC ch).length ≤ (l.obtS ch).length + n) :
    ∃ m' c' l', m.run (roundForU i ch ks n) = some m' ∧ conn? m'.server i = some c' ∧ m'.links i = some l' ∧
      c'.isDisconnected = false ∧ l'.cl.isDisconnected = false ∧ l'.tainted = false ∧ l'.subC = l.subC ∧
      l'.obtS ch = l.subC ch ∧
      ∀ ops' m'', trace i ops' = trace i (roundForU i ch ks n) → m.run ops' = some m'' → m''.view i = m'.view i := by
  have hw := reach_wf P ops m h.run
  have g0 : GoodL P.up (dirUp c l) := (goodK_dir .up h.run hconn h.link h.clean).1
  obtain ⟨u, hu, a1, a2, a3, a4⟩ := round_delivers_any_inv (s := dirUp c l) (ord := true) g0 hc hcA hda hdb ch ho sA hfA rB hfB H1 H2 H3 H4
    ks hks1 hks2 n hn
  obtain ⟨m', l', hr, hv', b2, b3⟩ := run_local_up hw hconn h.link (roundOps ch ks n) (roundOps_localU ch ks n) u hu
  rw [roundOps_mapU] at hr
  -- `u` is the projection of `l'`: its `a` side, logs and output are those of `l'`
  rw [← b2] at a1 a3 a4
  refine ⟨m', u.b, l', hr, congrArg LV.conn hv', congrArg LV.link hv', a2, a1, b3.trans h.clean, a3, a4, ?_⟩
  intro ops' m'' ht hr''
  exact run_agree i hw hw rfl hr'' hr ht

theorem tickRound_mapU (i ch dt : Nat) (ks : List Nat) (n : Nat) :
    (SysOp.updA dt :: roundOps ch ks n).map (mopU i) = .cliUpdate i dt :: roundForU i ch ks n := by
  rw [List.map_cons, roundOps_mapU]; rfl

theorem trace_tickRoundU (i ch dt : Nat) (ks : List Nat) (n : Nat) :
    trace i (.cliUpdate i dt :: roundForU i ch ks n) = (SysOp.updA dt :: roundOps ch ks n).map lactU := by
  rw [← tickRound_mapU, trace_map_mopU]

theorem tickRound_localU (ch dt : Nat) (ks : List Nat) (n : Nat) : ∀ o ∈ SysOp.updA dt :: roundOps ch ks n, LocalU o := by
  intro o ho
  rcases List.mem_cons.mp ho with rfl | ho
  · trivial
  · exact roundOps_localU ch ks n o ho

/-- **What client `i` submitted is obtained by the server under id `i` EXACTLY ONCE (ReliableOrdered).**  From ANY
    reachable state `m`, client `i` untainted, in the table, both ends of its link live: let client `i`'s clock advance
    by `dt ≥ resend_time` (`cliUpdate i dt`) and run ONE lossless round client → server for `i` alone, in ANY
    interleaving `ops'` with operations that concern other clients only.  Under the hypotheses of
    `C01L.bounded_delivery` for this direction of the link — counters, H2 (budget covers the backlog), H3 (room at the
    server's receive channel), H4 (the flush carries only `ch` and acks), `ks` = exactly the datagrams of the flush —
    the round itself does not panic, and afterwards both ends are live and the server application has obtained under
    id `i` EXACTLY the log `l.subC ch`, in order: every logged message at least once (liveness), and at most as often
    as client `i` submitted it in the run (`C11E.from_one_at_most_once` / `from_one_under_its_id`: the log is a
    sub-sequence of `sentBy i ch ops`). -/
theorem from_one_exactly_once (h : At P ops m i l) (c : Conn) (hconn : conn? m.server i = some c)
    (hda : l.cl.isDisconnected = false) (hdb : c.isDisconnected = false)
    (ch : Nat) (ho : P.up.Ordered ch) (sA : SendRel) (hfA : SMap.find? l.cl.sendRel ch = some sA)
    (rB : RecvRel) (hfB : SMap.find? c.recvRel ch = some rB)
    (dt : Nat) (hdt : sA.resend ≤ dt) (clu : Conn) (hclu : l.cl.update dt = .ok clu)
    (hc : CountersOK P.up (dirUp c { l with cl := clu })) (hcA : clu.CountersOK)
    (H2 : backlog sA.unacked ≤ availAtTurn clu ch) (H3 : Room (l.subC ch) rB) (H4 : ∀ p ∈ flushPk clu, OnlyCh ch p)
    (ks : List Nat) (hks1 : ∀ k ∈ flushIdxU l clu, k ∈ ks) (hks2 : ∀ k ∈ ks, k ∈ flushIdxU l clu)
    (n : Nat) (hn : (l.subC ch).length ≤ (l.obtS ch).length + n)
    (ops' : List MOp) (ht : trace i ops' = trace i (.cliUpdate i dt :: roundForU i ch ks n))
    (m'' : MSys) (hr : m.run ops' = some m'') :
    (∃ m', m.run (.cliUpdate i dt :: roundForU i ch ks n) = some m') ∧
    ∃ c'' l'', conn? m''.server i = some c'' ∧ m''.links i = some l'' ∧ c''.isDisconnected = false ∧
      l''.cl.isDisconnected = false ∧ l''.tainted = false ∧ l''.subC = l.subC ∧ l''.obtS ch = l.subC ch ∧
      ∀ x ∈ l.subC ch, 1 ≤ (l''.obtS ch).count x ∧ (l''.obtS ch).count x ≤ (sentBy i ch ops).count x :=
  let t := tick_round_link .up h c hconn hda hdb ch true ho sA hfA rB hfB dt hdt _ (dirUp_tick hclu) hc hcA H2 H3 H4 ks hks1
    hks2 n hn
  ⟨tickRound_mapU i ch dt ks n ▸ runs_up h hconn (tickRound_localU ch dt ks n) t.1,
    t.2 ops' (ht.trans (trace_tickRoundU i ch dt ks n)) m'' hr⟩

/-- **The same on a ReliableUnordered channel:** a permutation of the log. -/
theorem from_one_exactly_once_unordered (h : At P ops m i l) (c : Conn) (hconn : conn? m.server i = some c)
    (hda : l.cl.isDisconnected = false) (hdb : c.isDisconnected = false)
    (ch : Nat) (ho : P.up.Unordered ch) (sA : SendRel) (hfA : SMap.find? l.cl.sendRel ch = some sA)
    (rB : RecvRel) (hfB : SMap.find? c.recvRel ch = some rB)
    (dt : Nat) (hdt : sA.resend ≤ dt) (clu : Conn) (hclu : l.cl.update dt = .ok clu)
    (hc : CountersOK P.up (dirUp c { l with cl := clu })) (hcA : clu.CountersOK)
    (H2 : backlog sA.unacked ≤ availAtTurn clu ch) (H3 : Room (l.subC ch) rB) (H4 : ∀ p ∈ flushPk clu, OnlyCh ch p)
    (ks : List Nat) (hks1 : ∀ k ∈ flushIdxU l clu, k ∈ ks) (hks2 : ∀ k ∈ ks, k ∈ flushIdxU l clu)
    (n : Nat) (hn : (l.subC ch).length ≤ (l.obtS ch).length + n)
    (ops' : List MOp) (ht : trace i ops' = trace i (.cliUpdate i dt :: roundForU i ch ks n))
    (m'' : MSys) (hr : m.run ops' = some m'') :
    (∃ m', m.run (.cliUpdate i dt :: roundForU i ch ks n) = some m') ∧
    ∃ c'' l'', conn? m''.server i = some c'' ∧ m''.links i = some l'' ∧ c''.isDisconnected = false ∧
      l''.cl.isDisconnected = false ∧ l''.tainted = false ∧ l''.subC = l.subC ∧ (l''.obtS ch).Perm (l.subC ch) ∧
      ∀ x ∈ l.subC ch, 1 ≤ (l''.obtS ch).count x ∧ (l''.obtS ch).count x ≤ (sentBy i ch ops).count x :=
  let t := tick_round_link .up h c hconn hda hdb ch false ho sA hfA rB hfB dt hdt _ (dirUp_tick hclu) hc hcA H2 H3 H4 ks hks1
    hks2 n hn
  ⟨tickRound_mapU i ch dt ks n ▸ runs_up h hconn (tickRound_localU ch dt ks n) t.1,
    t.2 ops' (ht.trans (trace_tickRoundU i ch dt ks n)) m'' hr⟩

/-- **k lossless rounds client → server deliver everything client `i` submitted (ReliableOrdered).**  Mirror image of
    `k_rounds_deliver_to_client`: the server application obtains under id `i` EXACTLY the log `l.subC ch`, in order,
    whatever the interleaving with operations of other clients. -/
theorem k_rounds_deliver_to_server (h : At P ops m i l) (c : Conn) (hconn : conn? m.server i = some c)
    (hda : l.cl.isDisconnected = false) (hdb : c.isDisconnected = false)
    (ch : Nat) (ho : P.up.Ordered ch) (sA : SendRel) (hfA : SMap.find? l.cl.sendRel ch = some sA)
    (rB : RecvRel) (hfB : SMap.find? c.recvRel ch = some rB) (H3 : Room (l.subC ch) rB)
    (B : Nat) (hSB : SLICE_SIZE ≤ B)
    (rs : List RoundP) (hR : Rounds P.up ch (SchedBytes ch B) (dirUp c l) rs)
    (hk1 : rs ≠ []) (hk : backlog sA.unacked ≤ rs.length * (B - SLICE_SIZE + 1))
    (ops' : List MOp) (ht : trace i ops' = trace i (roundsForU i ch rs))
    (m'' : MSys) (hr : m.run ops' = some m'') :
    ∃ c'' l'', conn? m''.server i = some c'' ∧ m''.links i = some l'' ∧ c''.isDisconnected = false ∧
      l''.cl.isDisconnected = false ∧ l''.tainted = false ∧ l''.subC ch = l.subC ch ∧ l''.obtS ch = l.subC ch ∧
      ∀ x ∈ l.subC ch, 1 ≤ (l''.obtS ch).count x ∧ (l''.obtS ch).count x ≤ (sentBy i ch ops).count x :=
  (k_rounds_link .up h c hconn hda hdb ch true ho sA hfA rB hfB H3 B hSB rs hR hk1 hk).2 ops'
    (ht.trans (trace_roundsU i ch rs)) m'' hr

theorem k_rounds_deliver_to_server_unordered (h : At P ops m i l) (c : Conn) (hconn : conn? m.server i = some c)
    (hda : l.cl.isDisconnected = false) (hdb : c.isDisconnected = false)
    (ch : Nat) (ho : P.up.Unordered ch) (sA : SendRel) (hfA : SMap.find? l.cl.sendRel ch = some sA)
    (rB : RecvRel) (hfB : SMap.find? c.recvRel ch = some rB) (H3 : Room (l.subC ch) rB)
    (B : Nat) (hSB : SLICE_SIZE ≤ B)
    (rs : List RoundP) (hR : Rounds P.up ch (SchedBytes ch B) (dirUp c l) rs)
    (hk1 : rs ≠ []) (hk : backlog sA.unacked ≤ rs.length * (B - SLICE_SIZE + 1))
    (ops' : List MOp) (ht : trace i ops' = trace i (roundsForU i ch rs))
    (m'' : MSys) (hr : m.run ops' = some m'') :
    ∃ c'' l'', conn? m''.server i = some c'' ∧ m''.links i = some l'' ∧ c''.isDisconnected = false ∧
      l''.cl.isDisconnected = false ∧ l''.tainted = false ∧ l''.subC ch = l.subC ch ∧ (l''.obtS ch).Perm (l.subC ch) ∧
      ∀ x ∈ l.subC ch, 1 ≤ (l''.obtS ch).count x ∧ (l''.obtS ch).count x ≤ (sentBy i ch ops).count x :=
  (k_rounds_link .up h c hconn hda hdb ch false ho sA hfA rB hfB H3 B hSB rs hR hk1 hk).2 ops'
    (ht.trans (trace_roundsU i ch rs)) m'' hr

/-- **The k rounds client → server of client `i` alone run in `MSys` without panic** (every operation of such a round
    is local to `i`). -/
theorem k_rounds_run_to_server (h : At P ops m i l) (c : Conn) (hconn : conn? m.server i = some c)
    (hda : l.cl.isDisconnected = false) (hdb : c.isDisconnected = false)
    (ch : Nat) (ho : P.up.Ordered ch) (sA : SendRel) (hfA : SMap.find? l.cl.sendRel ch = some sA)
    (rB : RecvRel) (hfB : SMap.find? c.recvRel ch = some rB) (H3 : Room (l.subC ch) rB)
    (B : Nat) (hSB : SLICE_SIZE ≤ B)
    (rs : List RoundP) (hR : Rounds P.up ch (SchedBytes ch B) (dirUp c l) rs)
    (hk1 : rs ≠ []) (hk : backlog sA.unacked ≤ rs.length * (B - SLICE_SIZE + 1)) :
    ∃ m', m.run (roundsForU i ch rs) = some m' :=
  rounds_mapU i ch rs ▸ runs_up h hconn (roundsOps_localU ch rs)
    (k_rounds_link .up h c hconn hda hdb ch true ho sA hfA rB hfB H3 B hSB rs hR hk1 hk).1

end Theorems

/-! `ExK3` — the sliced broadcast of `C01K.ExS` in the multi-client system.  3000 bytes per tick, resend time 100 ns, one
    ReliableOrdered channel each way.  Clients 1 and 2 connect; the server broadcasts a 3-byte message and a 3700-byte
    message (4 slices): the backlog for client 1 is 4803 bytes > 3000, the sliced message alone never fits into one
    tick's budget.  State `m`.  The bound asks for `k = 3` rounds for client 1: `3 * (3000 - 1200 + 1) ≥ 4803`.
    Client 2 is STALLED: its network never delivers anything (`delivC = []`); meanwhile the server flushes for it,
    polls, receives garbage in its name, broadcasts to it alone, and finally removes it. -/
namespace ExK3

def P : Params := ⟨3000, [⟨0, .ordered, 100000, 100⟩], [⟨0, .ordered, 100000, 100⟩]⟩
def m0 : Bytes := [1, 2, 3]
def m1 : Bytes := List.replicate 3600 7 ++ List.replicate 100 9
def ops : List MOp := [.addClient 1, .addClient 2, .broadcast 0 m0, .broadcast 0 m1]
def r1 : RoundP := ⟨1000, [0, 1, 2], 2, 0⟩
def r2 : RoundP := ⟨1000, [3, 4, 5], 2, 1⟩
def r3 : RoundP := ⟨1000, [6], 2, 2⟩

theorem ordered0 : P.down.Ordered 0 := ⟨⟨_, List.mem_singleton.mpr rfl, rfl, rfl⟩, by decide⟩

def m : MSys := ((MSys.init P).run ops).getD (MSys.init P)
def l : Link := (m.links 1).getD (Link.fresh P)
def c : Conn := (conn? m.server 1).getD l.last
def sA : SendRel := (SMap.find? c.sendRel 0).getD (SendRel.new 0 0 0)
def rB : RecvRel := (SMap.find? l.cl.recvRel 0).getD (RecvRel.new 0 true)

def ops' : List MOp :=
  [.srvUpdate 1000, .srvFlush 2, .srvFlush 1, .deliverToCli 1 0, .deliverToCli 1 1, .cliRecv 2 0, .deliverToCli 1 2,
   .cliRecv 1 0, .cliRecv 1 0, .cliFlush 1, .deliverToSrv 1 0,
   .srvUpdate 1000, .broadcastExcept 1 0 [42], .srvFlush 1, .deliverToCli 1 3, .deliverToCli 1 4, .srvFlush 2,
   .deliverToCli 1 5, .cliRecv 1 0, .cliRecv 1 0, .cliFlush 1, .deliverToSrv 1 1,
   .srvUpdate 1000, .srvFlush 1, .deliverToCli 1 6, .hostile 2 [9], .cliRecv 1 0, .cliRecv 1 0, .cliFlush 1,
   .deliverToSrv 1 2, .remove 2]
def fin : MSys := (m.run ops').getD m

/-- `k_rounds_stalled_client_does_not_delay_others` applied: first client 2 alone (`opsJ`), then the rounds -/
def opsJ : List MOp := [.srvFlush 2, .cliRecv 2 0, .hostile 2 [7], .cliUpdate 2 5]
def mJ : MSys := (m.run opsJ).getD m
def finJ : MSys := (mJ.run ops').getD mJ

/-- The whole scenario.
    The state `m`: the run returns, client 1 has an untainted link, a server connection and the two channel ends.
    The standing hypotheses, and the numbers: backlog 4803 > 3000 = budget; the sliced entry alone costs 4800.
    The side conditions of the three rounds on the projection of client 1's link (timer, drain, counters, lossless
    delivery, ack cap, the way back, H4 and `3000 ≤ availAtTurn`), each checked in the state the run reaches.
    `ops'` runs from `m`, its trace for client 1 is that of the three rounds, `m1` was addressed to client 1 once.
    What `fin` holds.  `opsJ` runs from `m` and `ops'` runs after it.  Both runs stay in the range of the source tie. -/
theorem all :
    (((MSys.init P).run ops).isSome = true ∧ (m.links 1).isSome = true ∧ l.tainted = false ∧
      (conn? m.server 1).isSome = true ∧ (SMap.find? c.sendRel 0).isSome = true ∧
      (SMap.find? l.cl.recvRel 0).isSome = true) ∧
    (c.isDisconnected = false ∧ l.cl.isDisconnected = false ∧ Room (l.subS 0) rB ∧
      backlog sA.unacked = 4803 ∧ sA.unacked.map (fun x => (x.1, entryCost x.2)) = [(0, 3), (1, 4800)] ∧
      l.subS 0 = [m0, m1] ∧ l.obtC 0 = []) ∧
    Rounds P.down 0 (SchedBytes 0 3000) (dirDown c l) [r1, r2, r3] ∧
    ((m.run ops').isSome = true ∧ trace 1 ops' = trace 1 (roundsFor 1 0 [r1, r2, r3]) ∧
      (addressedTo 1 0 ops).count m1 = 1) ∧
    ((fin.links 1).map (fun l => (l.obtC 0, l.delivC, l.cl.isDisconnected)) =
        some ([m0, m1], [0, 1, 2, 3, 4, 5, 6], false) ∧
      ((m.run (ops'.take 11)).bind (fun f => f.links 1)).map (fun l => l.obtC 0) = some [m0] ∧
      (fin.links 2).map (fun l => (l.obtC 0, l.delivC, l.subS 0)) = some ([], [], [m0, m1, [42]]) ∧
      (conn? fin.server 2).map (·.status) = none) ∧
    (m.run opsJ).isSome = true ∧ (mJ.run ops').isSome = true ∧
    SrcMulti.MRunInRange P (ops ++ ops') ∧ SrcMulti.MRunInRange P (ops ++ (opsJ ++ ops')) := by
  decide +kernel

theorem run : (MSys.init P).run ops = some m := some_getD all.1.1 _
theorem link : m.links 1 = some l := some_getD all.1.2.1 _
theorem at1 : At P ops m 1 l := ⟨run, link, all.1.2.2.1⟩
theorem conn1 : conn? m.server 1 = some c := some_getD all.1.2.2.2.1 _
theorem find_sA : SMap.find? c.sendRel 0 = some sA := some_getD all.1.2.2.2.2.1 _
theorem find_rB : SMap.find? l.cl.recvRel 0 = some rB := some_getD all.1.2.2.2.2.2 _

theorem start : c.isDisconnected = false ∧ l.cl.isDisconnected = false ∧ Room (l.subS 0) rB ∧
    backlog sA.unacked = 4803 ∧ sA.unacked.map (fun x => (x.1, entryCost x.2)) = [(0, 3), (1, 4800)] ∧
    l.subS 0 = [m0, m1] ∧ l.obtC 0 = [] := all.2.1

theorem rounds : Rounds P.down 0 (SchedBytes 0 3000) (dirDown c l) [r1, r2, r3] := all.2.2.1

theorem run' : m.run ops' = some fin := some_getD all.2.2.2.1.1 _
theorem trace' : trace 1 ops' = trace 1 (roundsFor 1 0 [r1, r2, r3]) := all.2.2.2.1.2.1

theorem client1_has_everything :
    ∃ c'' l'', conn? fin.server 1 = some c'' ∧ fin.links 1 = some l'' ∧ c''.isDisconnected = false ∧
      l''.cl.isDisconnected = false ∧ l''.tainted = false ∧ l''.subS 0 = l.subS 0 ∧ l''.obtC 0 = l.subS 0 ∧
      ∀ x ∈ l.subS 0, 1 ≤ (l''.obtC 0).count x ∧ (l''.obtC 0).count x ≤ (addressedTo 1 0 ops).count x :=
  k_rounds_deliver_to_client at1 c conn1 start.1 start.2.1 0 ordered0 sA find_sA rB find_rB start.2.2.1 3000 (by decide)
    [r1, r2, r3] rounds (by simp) (by rw [start.2.2.2.1]; decide) ops' trace' fin run'

example : ∃ l'', fin.links 1 = some l'' ∧ (l''.obtC 0).count m1 = 1 := by
  obtain ⟨_, l'', -, hl, -, -, -, -, -, hcnt⟩ := client1_has_everything
  have hx : m1 ∈ l.subS 0 := by rw [start.2.2.2.2.2.1]; exact List.mem_cons_of_mem _ (List.mem_cons_self ..)
  obtain ⟨h1, h2⟩ := hcnt m1 hx
  have h3 : (addressedTo 1 0 ops).count m1 = 1 := all.2.2.2.1.2.2
  exact ⟨l'', hl, by omega⟩

/-- client 1 obtained both messages, all seven datagrams were handed over; after the first
    round of `ops'` only `m0`; client 2 — stalled, then removed — obtained nothing although three messages were logged
    for it -/
example : (fin.links 1).map (fun l => (l.obtC 0, l.delivC, l.cl.isDisconnected)) =
      some ([m0, m1], [0, 1, 2, 3, 4, 5, 6], false) ∧
    ((m.run (ops'.take 11)).bind (fun f => f.links 1)).map (fun l => l.obtC 0) = some [m0] ∧
    (fin.links 2).map (fun l => (l.obtC 0, l.delivC, l.subS 0)) = some ([], [], [m0, m1, [42]]) ∧
    (conn? fin.server 2).map (·.status) = none := all.2.2.2.2.1

theorem runJ : m.run opsJ = some mJ := some_getD all.2.2.2.2.2.1 _
theorem runJ' : mJ.run ops' = some finJ := some_getD all.2.2.2.2.2.2.1 _
theorem inRange : SrcMulti.MRunInRange P (ops ++ ops') := all.2.2.2.2.2.2.2.1
theorem inRangeJ : SrcMulti.MRunInRange P (ops ++ (opsJ ++ ops')) := all.2.2.2.2.2.2.2.2
example : mJ.view 1 = m.view 1 ∧
    ∃ c'' l'', conn? finJ.server 1 = some c'' ∧ finJ.links 1 = some l'' ∧ c''.isDisconnected = false ∧
      l''.cl.isDisconnected = false ∧ l''.tainted = false ∧ l''.subS 0 = l.subS 0 ∧ l''.obtC 0 = l.subS 0 ∧
      ∀ x ∈ l.subS 0, 1 ≤ (l''.obtC 0).count x ∧ (l''.obtC 0).count x ≤ (addressedTo 1 0 ops).count x :=
  k_rounds_stalled_client_does_not_delay_others at1 c conn1 start.1 start.2.1 0 ordered0 sA find_sA rB find_rB
    start.2.2.1 3000 (by decide) [r1, r2, r3] rounds (by simp) (by rw [start.2.2.2.1]; decide)
    opsJ (by decide) mJ runJ ops' trace' finJ runJ'

/-- the projection of client 1's link satisfies `GoodK` (`reachK`) — it is NOT a state of a `Sys.init` run (both ends
    were marked connected by `add_connection`) — and `k_round_delivery_inv` applies to it -/
theorem goodK1 : GoodK P.down (dirDown c l) := goodK_dir .down at1.run conn1 at1.link at1.clean

example : ∃ u, (dirDown c l).run (roundsOps 0 [r1, r2, r3]) = some u ∧ u.a.isDisconnected = false ∧
    u.b.isDisconnected = false ∧ u.submitted 0 = l.subS 0 ∧ u.obtained 0 = l.subS 0 :=
  k_round_delivery_link goodK1 start.1 start.2.1 0 ordered0 sA find_sA rB find_rB start.2.2.1 3000
    (by decide) [r1, r2, r3] rounds (by simp) (by rw [start.2.2.2.1]; decide)

end ExK3

/-! `ExUp` — client → server, ONE round.  Same configuration.  Client 1 submits [7, 7] and flushes; the datagram
    (`outC[0]`) is LOST.  Client 2 submits something too.  State `m`: the server has obtained nothing under id 1.
    Then client 1's clock advances by 1000 ns ≥ resend time, its next flush retransmits [7, 7] (`outC[1]`), the
    datagram reaches the server, the server application polls — interleaved with garbage in client 2's name, the
    server disconnecting client 2, client 2 flushing. -/
namespace ExUp

def P : Params := ExK3.P
theorem ordered0 : P.up.Ordered 0 := ⟨⟨_, List.mem_singleton.mpr rfl, rfl, rfl⟩, by decide⟩
def ops : List MOp := [.addClient 1, .addClient 2, .cliSend 1 0 [7, 7], .cliFlush 1, .cliSend 2 0 [8]]
def m : MSys := ((MSys.init P).run ops).getD (MSys.init P)
def l : Link := (m.links 1).getD (Link.fresh P)
def c : Conn := (conn? m.server 1).getD l.last
def clu : Conn := okD (l.cl.update 1000) l.cl
def sA : SendRel := (SMap.find? l.cl.sendRel 0).getD (SendRel.new 0 0 0)
def rB : RecvRel := (SMap.find? c.recvRel 0).getD (RecvRel.new 0 true)

def ops' : List MOp :=
  [.cliUpdate 1 1000, .hostile 2 [3], .cliFlush 1, .srvDisconnect 2, .deliverToSrv 1 1, .cliFlush 2, .srvRecv 1 0]
def fin : MSys := (m.run ops').getD m

/-- `round_delivers_to_server` applied to the state after the tick (H1 evaluated) -/
def mu : MSys := (m.step (.cliUpdate 1 1000)).getD m
def lu : Link := (mu.links 1).getD l
def sAu : SendRel := (SMap.find? lu.cl.sendRel 0).getD (SendRel.new 0 0 0)

/-- `k_round_delivery_single_link` and `k_round_delivery_entries_link` applied to the client → server projection of this
    link (one full round: tick, flush `outC[1]`, delivery, one `receive_message`, the server's flush `outS[0]`, its
    delivery to the client); `P.up` has a single client → server channel -/
def r : RoundP := ⟨1000, [1], 1, 0⟩

/-- The whole scenario.
    In `m`: client 1 has an untainted link, a server connection, the two channel ends, and its tick returns; the
    hypotheses of `from_one_exactly_once` for client 1 — [7, 7] is logged, its datagram was emitted (`outC.length = 1`)
    and never delivered (`delivS = []`), nothing obtained; the counters after the tick; `ops'` runs, and in `fin` the
    server obtained [7, 7] under id 1 from datagram 1, nothing of client 2 mixed in.
    In `mu`, the state after the tick: the same for `round_delivers_to_server`, with H1 (`AllDue`).
    On the projection of the link in `m`: the side conditions of the round `r` under both scheduling hypotheses, and
    the numbers of the bound. -/
theorem all :
    ((((MSys.init P).run ops).isSome = true ∧ (m.links 1).isSome = true ∧ l.tainted = false) ∧
      (conn? m.server 1).isSome = true ∧ isOkB (l.cl.update 1000) = true ∧
      (SMap.find? l.cl.sendRel 0).isSome = true ∧ (SMap.find? c.recvRel 0).isSome = true) ∧
    ((l.cl.isDisconnected = false ∧ c.isDisconnected = false ∧ sA.resend ≤ 1000 ∧
        backlog sA.unacked ≤ availAtTurn clu 0 ∧ Room (l.subC 0) rB ∧ (∀ p ∈ flushPk clu, OnlyCh 0 p) ∧
        flushIdxU l clu = [1] ∧ l.subC 0 = [[7, 7]] ∧ l.obtS 0 = [] ∧ l.delivS = [] ∧ l.outC.length = 1) ∧
      (CountersOK P.up (dirUp c { l with cl := clu }) ∧ CI.countersOKb clu = true) ∧
      (m.run ops').isSome = true ∧
      (fin.links 1).map (fun l => (l.obtS 0, l.delivS, l.cl.isDisconnected)) = some ([[7, 7]], [1], false) ∧
      (fin.links 2).map (fun l => (l.obtS 0, l.subC 0)) = some ([], [[8]])) ∧
    ((((m.step (.cliUpdate 1 1000)).isSome = true ∧ (mu.links 1).isSome = true) ∧
        (conn? mu.server 1 == conn? m.server 1) = true ∧ (SMap.find? lu.cl.sendRel 0).isSome = true) ∧
      (lu.cl.isDisconnected = false ∧ AllDue lu.cl.now sAu.resend sAu.unacked ∧
        backlog sAu.unacked ≤ availAtTurn lu.cl 0 ∧ Room (lu.subC 0) rB ∧ (∀ p ∈ flushPk lu.cl, OnlyCh 0 p) ∧
        flushIdxU lu lu.cl = [1] ∧ lu.subC 0 = [[7, 7]] ∧ lu.obtS 0 = [] ∧ lu.tainted = false) ∧
      CountersOK P.up (dirUp c lu) ∧ CI.countersOKb lu.cl = true) ∧
    Rounds P.up 0 (fun _ => True) (dirUp c l) [r] ∧ Rounds P.up 0 (SchedCount 0 1) (dirUp c l) [r] ∧
    backlog sA.unacked = 2 ∧ sA.unacked.length = 1 := by
  decide +kernel

theorem run : (MSys.init P).run ops = some m := some_getD all.1.1.1 _
theorem link : m.links 1 = some l := some_getD all.1.1.2.1 _
theorem at1 : At P ops m 1 l := ⟨run, link, all.1.1.2.2⟩
theorem conn1 : conn? m.server 1 = some c := some_getD all.1.2.1 _
theorem upd : l.cl.update 1000 = .ok clu := ok_okD all.1.2.2.1 _
theorem find_sA : SMap.find? l.cl.sendRel 0 = some sA := some_getD all.1.2.2.2.1 _
theorem find_rB : SMap.find? c.recvRel 0 = some rB := some_getD all.1.2.2.2.2 _

theorem facts : l.cl.isDisconnected = false ∧ c.isDisconnected = false ∧ sA.resend ≤ 1000 ∧
    backlog sA.unacked ≤ availAtTurn clu 0 ∧ Room (l.subC 0) rB ∧ (∀ p ∈ flushPk clu, OnlyCh 0 p) ∧
    flushIdxU l clu = [1] ∧ l.subC 0 = [[7, 7]] ∧ l.obtS 0 = [] ∧ l.delivS = [] ∧ l.outC.length = 1 := all.2.1.1

theorem counters : CountersOK P.up (dirUp c { l with cl := clu }) := all.2.1.2.1.1
theorem countersA : clu.CountersOK := CI.countersOK_of_b all.2.1.2.1.2

theorem run' : m.run ops' = some fin := some_getD all.2.1.2.2.1 _

theorem server_has_it :
    (∃ m', m.run (.cliUpdate 1 1000 :: roundForU 1 0 [1] 1) = some m') ∧
    ∃ c'' l'', conn? fin.server 1 = some c'' ∧ fin.links 1 = some l'' ∧ c''.isDisconnected = false ∧
      l''.cl.isDisconnected = false ∧ l''.tainted = false ∧ l''.subC = l.subC ∧ l''.obtS 0 = l.subC 0 ∧
      ∀ x ∈ l.subC 0, 1 ≤ (l''.obtS 0).count x ∧ (l''.obtS 0).count x ≤ (sentBy 1 0 ops).count x :=
  from_one_exactly_once at1 c conn1 facts.1 facts.2.1 0 ordered0 sA find_sA rB find_rB 1000 facts.2.2.1 clu upd
    counters countersA facts.2.2.2.1 facts.2.2.2.2.1 facts.2.2.2.2.2.1 [1]
    (by rw [facts.2.2.2.2.2.2.1]; decide) (by rw [facts.2.2.2.2.2.2.1]; decide) 1
    (by rw [facts.2.2.2.2.2.2.2.1, facts.2.2.2.2.2.2.2.2.1]; decide)
    ops' (by decide) fin run'

example : ∃ l'', fin.links 1 = some l'' ∧ (l''.obtS 0).count [7, 7] = 1 := by
  obtain ⟨-, _, l'', -, hl, -, -, -, -, -, hcnt⟩ := server_has_it
  have hx : [7, 7] ∈ l.subC 0 := by rw [facts.2.2.2.2.2.2.2.1]; decide
  obtain ⟨h1, h2⟩ := hcnt [7, 7] hx
  have h3 : (sentBy 1 0 ops).count [7, 7] = 1 := by decide
  exact ⟨l'', hl, by omega⟩

example : (fin.links 1).map (fun l => (l.obtS 0, l.delivS, l.cl.isDisconnected)) = some ([[7, 7]], [1], false) ∧
    (fin.links 2).map (fun l => (l.obtS 0, l.subC 0)) = some ([], [[8]]) := all.2.1.2.2.2

theorem step_mu : m.step (.cliUpdate 1 1000) = some mu := some_getD all.2.2.1.1.1.1 _
theorem run_mu : (MSys.init P).run (ops ++ [.cliUpdate 1 1000]) = some mu := by
  rw [MSys.run_append, run]; simp only [Option.bind_some, MSys.run, step_mu]
theorem linkU : mu.links 1 = some lu := some_getD all.2.2.1.1.1.2 _
theorem connU : conn? mu.server 1 = some c := (eq_of_beq all.2.2.1.1.2.1).trans conn1
theorem find_sAu : SMap.find? lu.cl.sendRel 0 = some sAu := some_getD all.2.2.1.1.2.2 _
theorem factsU : lu.cl.isDisconnected = false ∧ AllDue lu.cl.now sAu.resend sAu.unacked ∧
    backlog sAu.unacked ≤ availAtTurn lu.cl 0 ∧ Room (lu.subC 0) rB ∧ (∀ p ∈ flushPk lu.cl, OnlyCh 0 p) ∧
    flushIdxU lu lu.cl = [1] ∧ lu.subC 0 = [[7, 7]] ∧ lu.obtS 0 = [] ∧ lu.tainted = false := all.2.2.1.2.1
theorem countersU : CountersOK P.up (dirUp c lu) := all.2.2.1.2.2.1
theorem countersAU : lu.cl.CountersOK := CI.countersOK_of_b all.2.2.1.2.2.2

example : ∃ m' c' l', mu.run (roundForU 1 0 [1] 1) = some m' ∧ conn? m'.server 1 = some c' ∧ m'.links 1 = some l' ∧
      c'.isDisconnected = false ∧ l'.cl.isDisconnected = false ∧ l'.tainted = false ∧ l'.subC = lu.subC ∧
      l'.obtS 0 = lu.subC 0 ∧
      ∀ ops' m'', trace 1 ops' = trace 1 (roundForU 1 0 [1] 1) → mu.run ops' = some m'' → m''.view 1 = m'.view 1 :=
  round_delivers_to_server ⟨run_mu, linkU, factsU.2.2.2.2.2.2.2.2⟩ c connU countersU countersAU factsU.1 facts.2.1 0
    ordered0 sAu find_sAu rB find_rB factsU.2.1 factsU.2.2.1 factsU.2.2.2.1 factsU.2.2.2.2.1 [1]
    (by rw [factsU.2.2.2.2.2.1]; decide) (by rw [factsU.2.2.2.2.2.1]; decide) 1
    (by rw [factsU.2.2.2.2.2.2.1, factsU.2.2.2.2.2.2.2.1]; decide)

theorem goodKU : GoodK P.up (dirUp c l) := goodK_dir .up at1.run conn1 at1.link at1.clean
theorem single0 : Single P.up 0 := ⟨_, _, rfl⟩
theorem roundsT : Rounds P.up 0 (fun _ => True) (dirUp c l) [r] := all.2.2.2.1
theorem roundsC : Rounds P.up 0 (SchedCount 0 1) (dirUp c l) [r] := all.2.2.2.2.1
theorem numbers : backlog sA.unacked = 2 ∧ sA.unacked.length = 1 := all.2.2.2.2.2

example : ∃ u, (dirUp c l).run (roundsOps 0 [r]) = some u ∧ u.a.isDisconnected = false ∧ u.b.isDisconnected = false ∧
    u.submitted 0 = l.subC 0 ∧ u.obtained 0 = l.subC 0 :=
  k_round_delivery_single_link goodKU facts.1 facts.2.1 0 single0 sA find_sA rB find_rB facts.2.2.2.2.1 (by decide) [r]
    roundsT (by simp) (by rw [numbers.1]; decide)

example : ∃ u, (dirUp c l).run (roundsOps 0 [r]) = some u ∧ u.a.isDisconnected = false ∧ u.b.isDisconnected = false ∧
    u.submitted 0 = l.subC 0 ∧ u.obtained 0 = l.subC 0 :=
  k_round_delivery_entries_link goodKU facts.1 facts.2.1 0 ordered0 sA find_sA rB find_rB facts.2.2.2.2.1 1 [r]
    roundsC (by simp) (by rw [numbers.2]; decide)

end ExUp

/-! `ExUp3` — client → server, k = 3 rounds: client 1 submits the 3-byte and the 3700-byte message of `ExK3`
    (backlog 4803 > 3000 bytes per tick).  Three full lossless rounds client → server for client 1, interleaved with
    client 2 submitting, flushing, being broadcast to and removed. -/
namespace ExUp3

def P : Params := ExK3.P
def m0 : Bytes := ExK3.m0
def m1 : Bytes := ExK3.m1
theorem ordered0 : P.up.Ordered 0 := ExUp.ordered0
def ops : List MOp := [.addClient 1, .addClient 2, .cliSend 1 0 m0, .cliSend 1 0 m1]
def r1 : RoundP := ⟨1000, [0, 1, 2], 2, 0⟩
def r2 : RoundP := ⟨1000, [3, 4, 5], 2, 1⟩
def r3 : RoundP := ⟨1000, [6], 2, 2⟩

def m : MSys := ((MSys.init P).run ops).getD (MSys.init P)
def l : Link := (m.links 1).getD (Link.fresh P)
def c : Conn := (conn? m.server 1).getD l.last
def sA : SendRel := (SMap.find? l.cl.sendRel 0).getD (SendRel.new 0 0 0)
def rB : RecvRel := (SMap.find? c.recvRel 0).getD (RecvRel.new 0 true)

def ops' : List MOp :=
  [.cliSend 2 0 [5]] ++ fullRoundForU 1 0 r1 ++ [.cliFlush 2, .deliverToSrv 2 0, .broadcastExcept 1 0 [42]] ++
  fullRoundForU 1 0 r2 ++ [.srvRecv 2 0, .hostile 2 [1]] ++ fullRoundForU 1 0 r3 ++ [.remove 2]
def fin : MSys := (m.run ops').getD m

/-- The whole scenario.  In `m` client 1 has an untainted link, a server connection and the
    two channel ends; the standing hypotheses and the backlog; the side conditions of the three rounds on the client →
    server projection of its link; `ops'` runs from `m` and its trace for client 1 is that of the three rounds; in
    `fin` the server obtained both messages under id 1, [5] under id 2;
    the run stays in the range of the source tie -/
theorem all :
    (((MSys.init P).run ops).isSome = true ∧ (m.links 1).isSome = true ∧ l.tainted = false ∧
      (conn? m.server 1).isSome = true ∧ (SMap.find? l.cl.sendRel 0).isSome = true ∧
      (SMap.find? c.recvRel 0).isSome = true) ∧
    (l.cl.isDisconnected = false ∧ c.isDisconnected = false ∧ Room (l.subC 0) rB ∧
      backlog sA.unacked = 4803 ∧ l.subC 0 = [m0, m1] ∧ l.obtS 0 = []) ∧
    Rounds P.up 0 (SchedBytes 0 3000) (dirUp c l) [r1, r2, r3] ∧
    ((m.run ops').isSome = true ∧ trace 1 ops' = trace 1 (roundsForU 1 0 [r1, r2, r3])) ∧
    ((fin.links 1).map (fun l => (l.obtS 0, l.delivS, l.cl.isDisconnected)) =
        some ([m0, m1], [0, 1, 2, 3, 4, 5, 6], false) ∧
      (fin.links 2).map (fun l => l.obtS 0) = some [[5]]) ∧
    SrcMulti.MRunInRange P (ops ++ ops') ∧ SrcMulti.MRunInRange P (ops ++ roundsForU 1 0 [r1, r2, r3]) := by
  decide +kernel

theorem run : (MSys.init P).run ops = some m := some_getD all.1.1 _
theorem link : m.links 1 = some l := some_getD all.1.2.1 _
theorem at1 : At P ops m 1 l := ⟨run, link, all.1.2.2.1⟩
theorem conn1 : conn? m.server 1 = some c := some_getD all.1.2.2.2.1 _
theorem find_sA : SMap.find? l.cl.sendRel 0 = some sA := some_getD all.1.2.2.2.2.1 _
theorem find_rB : SMap.find? c.recvRel 0 = some rB := some_getD all.1.2.2.2.2.2 _

theorem start : l.cl.isDisconnected = false ∧ c.isDisconnected = false ∧ Room (l.subC 0) rB ∧
    backlog sA.unacked = 4803 ∧ l.subC 0 = [m0, m1] ∧ l.obtS 0 = [] := all.2.1

theorem rounds : Rounds P.up 0 (SchedBytes 0 3000) (dirUp c l) [r1, r2, r3] := all.2.2.1

theorem run' : m.run ops' = some fin := some_getD all.2.2.2.1.1 _
theorem trace' : trace 1 ops' = trace 1 (roundsForU 1 0 [r1, r2, r3]) := all.2.2.2.1.2

theorem server_has_everything :
    ∃ c'' l'', conn? fin.server 1 = some c'' ∧ fin.links 1 = some l'' ∧ c''.isDisconnected = false ∧
      l''.cl.isDisconnected = false ∧ l''.tainted = false ∧ l''.subC 0 = l.subC 0 ∧ l''.obtS 0 = l.subC 0 ∧
      ∀ x ∈ l.subC 0, 1 ≤ (l''.obtS 0).count x ∧ (l''.obtS 0).count x ≤ (sentBy 1 0 ops).count x :=
  k_rounds_deliver_to_server at1 c conn1 start.1 start.2.1 0 ordered0 sA find_sA rB find_rB start.2.2.1 3000 (by decide)
    [r1, r2, r3] rounds (by simp) (by rw [start.2.2.2.1]; decide) ops' trace' fin run'

example : ∃ m', m.run (roundsForU 1 0 [r1, r2, r3]) = some m' :=
  k_rounds_run_to_server at1 c conn1 start.1 start.2.1 0 ordered0 sA find_sA rB find_rB start.2.2.1 3000 (by decide)
    [r1, r2, r3] rounds (by simp) (by rw [start.2.2.2.1]; decide)

example : (fin.links 1).map (fun l => (l.obtS 0, l.delivS, l.cl.isDisconnected)) =
      some ([m0, m1], [0, 1, 2, 3, 4, 5, 6], false) ∧
    (fin.links 2).map (fun l => l.obtS 0) = some [[5]] := all.2.2.2.2.1

theorem inRange : SrcMulti.MRunInRange P (ops ++ ops') := all.2.2.2.2.2.1
theorem inRangeA : SrcMulti.MRunInRange P (ops ++ roundsForU 1 0 [r1, r2, r3]) := all.2.2.2.2.2.2

end ExUp3

/-! `ExUn` — ReliableUnordered channels both ways, 2400 bytes per tick.  A 2500-byte message (3 slices, cost 3600) and a
    2-byte message: backlog 3602 > 2400; `3 * (2400 - 1200 + 1) ≥ 3602`.  Datagrams are handed over in reverse order,
    one of them twice.
    `D`: the server broadcasts them; three rounds for client 1, client 2 stalled and finally disconnected.
    `U`: client 1 submits them and flushes, both datagrams LOST; three rounds client → server.
    `One`: two small messages of client 1, lost once; the tick and ONE round (`from_one_exactly_once_unordered`). -/
namespace ExUn

def P : Params := ⟨2400, [⟨0, .unordered, 100000, 100⟩], [⟨0, .unordered, 100000, 100⟩]⟩
def big : Bytes := List.replicate 2400 7 ++ List.replicate 100 9
theorem unorderedD : P.down.Unordered 0 := ⟨⟨_, List.mem_singleton.mpr rfl, rfl, rfl⟩, by decide⟩
theorem unorderedU : P.up.Unordered 0 := ⟨⟨_, List.mem_singleton.mpr rfl, rfl, rfl⟩, by decide⟩

namespace D
def ops : List MOp := [.addClient 1, .addClient 2, .broadcast 0 big, .broadcast 0 [1, 2]]
def r1 : RoundP := ⟨1000, [1, 0], 2, 0⟩
def r2 : RoundP := ⟨1000, [4, 3, 2, 3], 2, 1⟩
def r3 : RoundP := ⟨1000, [5], 2, 2⟩
def m : MSys := ((MSys.init P).run ops).getD (MSys.init P)
def l : Link := (m.links 1).getD (Link.fresh P)
def c : Conn := (conn? m.server 1).getD l.last
def sA : SendRel := (SMap.find? c.sendRel 0).getD (SendRel.new 0 0 0)
def rB : RecvRel := (SMap.find? l.cl.recvRel 0).getD (RecvRel.new 0 true)
def ops' : List MOp :=
  [.srvFlush 2] ++ fullRoundFor 1 0 r1 ++ [.hostile 2 [1], .cliRecv 2 0] ++ fullRoundFor 1 0 r2 ++ [.srvDisconnect 2] ++
  fullRoundFor 1 0 r3
def fin : MSys := (m.run ops').getD m

/-- The whole scenario: `m` and client 1's link in it, the standing hypotheses and the backlog,
    the side conditions of the three rounds on the server → client projection, `ops'` runs with the trace of the
    rounds for client 1, and in `fin` client 1 obtained both messages from the seven deliveries, client 2 nothing. -/
theorem all :
    (((MSys.init P).run ops).isSome = true ∧ (m.links 1).isSome = true ∧ l.tainted = false ∧
      (conn? m.server 1).isSome = true ∧ (SMap.find? c.sendRel 0).isSome = true ∧
      (SMap.find? l.cl.recvRel 0).isSome = true) ∧
    (c.isDisconnected = false ∧ l.cl.isDisconnected = false ∧ Room (l.subS 0) rB ∧
      backlog sA.unacked = 3602 ∧ l.subS 0 = [big, [1, 2]] ∧ l.obtC 0 = []) ∧
    Rounds P.down 0 (SchedBytes 0 2400) (dirDown c l) [r1, r2, r3] ∧
    ((m.run ops').isSome = true ∧ trace 1 ops' = trace 1 (roundsFor 1 0 [r1, r2, r3])) ∧
    (fin.links 1).map (fun l => (l.obtC 0, l.delivC)) = some ([big, [1, 2]], [1, 0, 4, 3, 2, 3, 5]) ∧
    (fin.links 2).map (fun l => (l.obtC 0, l.delivC)) = some ([], []) := by
  decide +kernel

theorem run : (MSys.init P).run ops = some m := some_getD all.1.1 _
theorem link : m.links 1 = some l := some_getD all.1.2.1 _
theorem at1 : At P ops m 1 l := ⟨run, link, all.1.2.2.1⟩
theorem conn1 : conn? m.server 1 = some c := some_getD all.1.2.2.2.1 _
theorem find_sA : SMap.find? c.sendRel 0 = some sA := some_getD all.1.2.2.2.2.1 _
theorem find_rB : SMap.find? l.cl.recvRel 0 = some rB := some_getD all.1.2.2.2.2.2 _
theorem start : c.isDisconnected = false ∧ l.cl.isDisconnected = false ∧ Room (l.subS 0) rB ∧
    backlog sA.unacked = 3602 ∧ l.subS 0 = [big, [1, 2]] ∧ l.obtC 0 = [] := all.2.1
theorem rounds : Rounds P.down 0 (SchedBytes 0 2400) (dirDown c l) [r1, r2, r3] := all.2.2.1
theorem run' : m.run ops' = some fin := some_getD all.2.2.2.1.1 _
theorem trace' : trace 1 ops' = trace 1 (roundsFor 1 0 [r1, r2, r3]) := all.2.2.2.1.2

theorem client1_has_everything :
    ∃ c'' l'', conn? fin.server 1 = some c'' ∧ fin.links 1 = some l'' ∧ c''.isDisconnected = false ∧
      l''.cl.isDisconnected = false ∧ l''.tainted = false ∧ l''.subS 0 = l.subS 0 ∧ (l''.obtC 0).Perm (l.subS 0) ∧
      ∀ x ∈ l.subS 0, 1 ≤ (l''.obtC 0).count x ∧ (l''.obtC 0).count x ≤ (addressedTo 1 0 ops).count x :=
  k_rounds_deliver_to_client_unordered at1 c conn1 start.1 start.2.1 0 unorderedD sA find_sA rB find_rB start.2.2.1 2400
    (by decide) [r1, r2, r3] rounds (by simp) (by rw [start.2.2.2.1]; decide) ops' trace' fin run'

example : (fin.links 1).map (fun l => (l.obtC 0, l.delivC)) = some ([big, [1, 2]], [1, 0, 4, 3, 2, 3, 5]) ∧
    (fin.links 2).map (fun l => (l.obtC 0, l.delivC)) = some ([], []) := all.2.2.2.2

theorem goodK1 : GoodK P.down (dirDown c l) := goodK_dir .down at1.run conn1 at1.link at1.clean

example : ∃ u, (dirDown c l).run (roundsOps 0 [r1, r2, r3]) = some u ∧ u.a.isDisconnected = false ∧
    u.b.isDisconnected = false ∧ u.submitted 0 = l.subS 0 ∧ (u.obtained 0).Perm (l.subS 0) :=
  k_round_delivery_unordered_link goodK1 start.1 start.2.1 0 unorderedD sA find_sA rB find_rB start.2.2.1 2400
    (by decide) [r1, r2, r3] rounds (by simp) (by rw [start.2.2.2.1]; decide)
end D

namespace U
def ops : List MOp := [.addClient 1, .addClient 2, .cliSend 1 0 big, .cliSend 1 0 [1, 2], .cliFlush 1]
def r1 : RoundP := ⟨1000, [4, 3, 2], 2, 0⟩
def r2 : RoundP := ⟨1000, [6, 5, 6], 2, 1⟩
def r3 : RoundP := ⟨1000, [7], 2, 2⟩
def m : MSys := ((MSys.init P).run ops).getD (MSys.init P)
def l : Link := (m.links 1).getD (Link.fresh P)
def c : Conn := (conn? m.server 1).getD l.last
def sA : SendRel := (SMap.find? l.cl.sendRel 0).getD (SendRel.new 0 0 0)
def rB : RecvRel := (SMap.find? c.recvRel 0).getD (RecvRel.new 0 true)
def ops' : List MOp :=
  [.cliSend 2 0 [5]] ++ fullRoundForU 1 0 r1 ++ [.cliFlush 2, .deliverToSrv 2 0] ++ fullRoundForU 1 0 r2 ++
  [.srvRecv 2 0] ++ fullRoundForU 1 0 r3
def fin : MSys := (m.run ops').getD m

/-- The whole scenario: `m` and client 1's link in it, the standing hypotheses (two
    datagrams emitted, none delivered) and the backlog, the side conditions of the three rounds on the client →
    server projection, `ops'` runs with the trace of the rounds for client 1, and in `fin` the server obtained the
    small message first, then the sliced one. -/
theorem all :
    (((MSys.init P).run ops).isSome = true ∧ (m.links 1).isSome = true ∧ l.tainted = false ∧
      (conn? m.server 1).isSome = true ∧ (SMap.find? l.cl.sendRel 0).isSome = true ∧
      (SMap.find? c.recvRel 0).isSome = true) ∧
    (l.cl.isDisconnected = false ∧ c.isDisconnected = false ∧ Room (l.subC 0) rB ∧
      backlog sA.unacked = 3602 ∧ l.subC 0 = [big, [1, 2]] ∧ l.obtS 0 = [] ∧ l.outC.length = 2 ∧ l.delivS = []) ∧
    Rounds P.up 0 (SchedBytes 0 2400) (dirUp c l) [r1, r2, r3] ∧
    ((m.run ops').isSome = true ∧ trace 1 ops' = trace 1 (roundsForU 1 0 [r1, r2, r3])) ∧
    (fin.links 1).map (fun l => (l.obtS 0, l.delivS)) = some ([[1, 2], big], [4, 3, 2, 6, 5, 6, 7]) := by
  decide +kernel

theorem run : (MSys.init P).run ops = some m := some_getD all.1.1 _
theorem link : m.links 1 = some l := some_getD all.1.2.1 _
theorem at1 : At P ops m 1 l := ⟨run, link, all.1.2.2.1⟩
theorem conn1 : conn? m.server 1 = some c := some_getD all.1.2.2.2.1 _
theorem find_sA : SMap.find? l.cl.sendRel 0 = some sA := some_getD all.1.2.2.2.2.1 _
theorem find_rB : SMap.find? c.recvRel 0 = some rB := some_getD all.1.2.2.2.2.2 _
theorem start : l.cl.isDisconnected = false ∧ c.isDisconnected = false ∧ Room (l.subC 0) rB ∧
    backlog sA.unacked = 3602 ∧ l.subC 0 = [big, [1, 2]] ∧ l.obtS 0 = [] ∧ l.outC.length = 2 ∧ l.delivS = [] :=
  all.2.1
theorem rounds : Rounds P.up 0 (SchedBytes 0 2400) (dirUp c l) [r1, r2, r3] := all.2.2.1
theorem run' : m.run ops' = some fin := some_getD all.2.2.2.1.1 _
theorem trace' : trace 1 ops' = trace 1 (roundsForU 1 0 [r1, r2, r3]) := all.2.2.2.1.2

theorem server_has_everything :
    ∃ c'' l'', conn? fin.server 1 = some c'' ∧ fin.links 1 = some l'' ∧ c''.isDisconnected = false ∧
      l''.cl.isDisconnected = false ∧ l''.tainted = false ∧ l''.subC 0 = l.subC 0 ∧ (l''.obtS 0).Perm (l.subC 0) ∧
      ∀ x ∈ l.subC 0, 1 ≤ (l''.obtS 0).count x ∧ (l''.obtS 0).count x ≤ (sentBy 1 0 ops).count x :=
  k_rounds_deliver_to_server_unordered at1 c conn1 start.1 start.2.1 0 unorderedU sA find_sA rB find_rB start.2.2.1 2400
    (by decide) [r1, r2, r3] rounds (by simp) (by rw [start.2.2.2.1]; decide) ops' trace' fin run'

example : (fin.links 1).map (fun l => (l.obtS 0, l.delivS)) = some ([[1, 2], big], [4, 3, 2, 6, 5, 6, 7]) :=
  all.2.2.2.2
end U

namespace One
def ops : List MOp := [.addClient 1, .addClient 2, .cliSend 1 0 [7, 7], .cliSend 1 0 [9], .cliFlush 1]
def m : MSys := ((MSys.init P).run ops).getD (MSys.init P)
def l : Link := (m.links 1).getD (Link.fresh P)
def c : Conn := (conn? m.server 1).getD l.last
def clu : Conn := okD (l.cl.update 1000) l.cl
def sA : SendRel := (SMap.find? l.cl.sendRel 0).getD (SendRel.new 0 0 0)
def rB : RecvRel := (SMap.find? c.recvRel 0).getD (RecvRel.new 0 true)
def ops' : List MOp :=
  [.cliUpdate 1 1000, .hostile 2 [3], .cliFlush 1, .deliverToSrv 1 1, .deliverToSrv 1 1, .srvRecv 1 0, .cliFlush 2,
   .srvRecv 1 0]
def fin : MSys := (m.run ops').getD m

/-- The whole scenario: `m`, client 1's link in it and its tick; the hypotheses of
    `from_one_exactly_once_unordered`; the counters after the tick; `ops'` runs, and in `fin` the server obtained both
    messages from datagram 1, handed over twice. -/
theorem all :
    ((((MSys.init P).run ops).isSome = true ∧ (m.links 1).isSome = true ∧ l.tainted = false) ∧
      (conn? m.server 1).isSome = true ∧ isOkB (l.cl.update 1000) = true ∧
      (SMap.find? l.cl.sendRel 0).isSome = true ∧ (SMap.find? c.recvRel 0).isSome = true) ∧
    (l.cl.isDisconnected = false ∧ c.isDisconnected = false ∧ sA.resend ≤ 1000 ∧
      backlog sA.unacked ≤ availAtTurn clu 0 ∧ Room (l.subC 0) rB ∧ (∀ p ∈ flushPk clu, OnlyCh 0 p) ∧
      flushIdxU l clu = [1] ∧ l.subC 0 = [[7, 7], [9]] ∧ l.obtS 0 = []) ∧
    (CountersOK P.up (dirUp c { l with cl := clu }) ∧ CI.countersOKb clu = true) ∧
    (m.run ops').isSome = true ∧
    (fin.links 1).map (fun l => (l.obtS 0, l.delivS)) = some ([[7, 7], [9]], [1, 1]) := by
  decide +kernel

theorem run : (MSys.init P).run ops = some m := some_getD all.1.1.1 _
theorem link : m.links 1 = some l := some_getD all.1.1.2.1 _
theorem at1 : At P ops m 1 l := ⟨run, link, all.1.1.2.2⟩
theorem conn1 : conn? m.server 1 = some c := some_getD all.1.2.1 _
theorem upd : l.cl.update 1000 = .ok clu := ok_okD all.1.2.2.1 _
theorem find_sA : SMap.find? l.cl.sendRel 0 = some sA := some_getD all.1.2.2.2.1 _
theorem find_rB : SMap.find? c.recvRel 0 = some rB := some_getD all.1.2.2.2.2 _
theorem facts : l.cl.isDisconnected = false ∧ c.isDisconnected = false ∧ sA.resend ≤ 1000 ∧
    backlog sA.unacked ≤ availAtTurn clu 0 ∧ Room (l.subC 0) rB ∧ (∀ p ∈ flushPk clu, OnlyCh 0 p) ∧
    flushIdxU l clu = [1] ∧ l.subC 0 = [[7, 7], [9]] ∧ l.obtS 0 = [] := all.2.1
theorem counters : CountersOK P.up (dirUp c { l with cl := clu }) := all.2.2.1.1
theorem countersA : clu.CountersOK := CI.countersOK_of_b all.2.2.1.2
theorem run' : m.run ops' = some fin := some_getD all.2.2.2.1 _

example :
    (∃ m', m.run (.cliUpdate 1 1000 :: roundForU 1 0 [1, 1] 2) = some m') ∧
    ∃ c'' l'', conn? fin.server 1 = some c'' ∧ fin.links 1 = some l'' ∧ c''.isDisconnected = false ∧
      l''.cl.isDisconnected = false ∧ l''.tainted = false ∧ l''.subC = l.subC ∧ (l''.obtS 0).Perm (l.subC 0) ∧
      ∀ x ∈ l.subC 0, 1 ≤ (l''.obtS 0).count x ∧ (l''.obtS 0).count x ≤ (sentBy 1 0 ops).count x :=
  from_one_exactly_once_unordered at1 c conn1 facts.1 facts.2.1 0 unorderedU sA find_sA rB find_rB 1000 facts.2.2.1 clu
    upd counters countersA facts.2.2.2.1 facts.2.2.2.2.1 facts.2.2.2.2.2.1 [1, 1]
    (by rw [facts.2.2.2.2.2.2.1]; decide) (by rw [facts.2.2.2.2.2.2.1]; decide) 2
    (by rw [facts.2.2.2.2.2.2.2.1, facts.2.2.2.2.2.2.2.2]; decide)
    ops' (by decide) fin run'

example : (fin.links 1).map (fun l => (l.obtS 0, l.delivS)) = some ([[7, 7], [9]], [1, 1]) := all.2.2.2.2
end One

end ExUn

end RenetVerif.C01M
