/-
  `renet_netcode/src/client.rs` (group TrClient): the client transport against `Transport/Glue.lean`.
  The socket is the semantic-model socket (see `TrSocket.lean`); what the transport needs from the `RenetClient` it drives
  is the abstract simulation `RcSim`, from the `NetcodeClient` the invariant `NcCInv`.
  As in `TrServer.lean`, each tie is proved for `RcSimOn P` under an invariant of the model's receive loop that supplies the
  premise `P` where a payload reaches the connection (`CRecvInv`); `RcSim` is the case of the trivial premise
  (`Props/SrcTieTrClient.lean`, with `disconnect`, `new`, the accessors and the socket-error arms).
-/
import RenetVerif.Generated.Src.TrClient
import RenetVerif.Lemmas.SrcEquiv.TrSocket
import RenetVerif.Lemmas.SrcEquiv.NcClient
import RenetVerif.Lemmas.SrcEquiv.ConnRecv
import RenetVerif.Lemmas.SrcEquiv.ConnSend
import RenetVerif.Props.SrcTieConnRecv
import RenetVerif.Props.SrcTieConnSend
import RenetVerif.Props.SrcTieNcClient
namespace RenetVerif.SrcEquiv
open RenetVerif RenetVerif.RustSem RenetVerif.Netcode RenetVerif.Transport

section TrClient
open Src.renet_netcode.client

abbrev SRenetClient := Src.renet.remote_connection.RenetClient
abbrev SClientTransport := Src.renet_netcode.client.NetcodeClientTransport
abbrev CTrErr := Src.renet_netcode.NetcodeTransportError × (SClientTransport × SRenetClient)

def reprTErr : TransportError → Src.renet_netcode.NetcodeTransportError
  | .netcode e => .Netcode (reprNErr e)
  | .renet r => .Renet (reprReason r)

/-- the client transport (socket script `inbox`, log `out`; netcode client with scratch buffer `o`; receive buffer `buf`) -/
def ctrR (inbox : List Dgram) (out : Array Dgram) (o : List Nat) (nc : Netcode.NetcodeClient) (buf : List Nat) : SClientTransport :=
  ⟨sockR inbox out, reprNC o nc, buf⟩

/-- the simulation the transport needs from the renet client: `R` relates the model connection and the generated
    `RenetClient` and is kept by the operations the transport calls, with the model's results -/
structure RcSim (R : Conn → SRenetClient → Prop) : Prop where
  reason : ∀ {c : Conn} {g : SRenetClient}, R c g →
    (Src.renet.remote_connection.RenetClient.disconnect_reason g : Res CTrErr _) = .ok (c.disconnectReason.map reprReason)
  dtt : ∀ {c : Conn} {g : SRenetClient}, R c g → ∃ g', R (c.disconnectWith .transport) g' ∧
    (Src.renet.remote_connection.RenetClient.disconnect_due_to_transport g : Res CTrErr _) = .ok (g', ())
  setc : ∀ {c : Conn} {g : SRenetClient}, R c g → ∃ g', R c.setConnected g' ∧
    (Src.renet.remote_connection.RenetClient.set_connected g : Res CTrErr _) = .ok (g', ())
  setg : ∀ {c : Conn} {g : SRenetClient}, R c g → ∃ g', R c.setConnecting g' ∧
    (Src.renet.remote_connection.RenetClient.set_connecting g : Res CTrErr _) = .ok (g', ())
  pp : ∀ {c : Conn} {g : SRenetClient}, R c g → ∀ (bytes : Bytes),
    match c.processPacket bytes with
    | .ok c' => ∃ g', R c' g' ∧
        (Src.renet.remote_connection.RenetClient.process_packet g (toNats bytes) : Res CTrErr _) = .ok (g', ())
    | .panic _ => ∃ m, (Src.renet.remote_connection.RenetClient.process_packet g (toNats bytes) : Res CTrErr _) = .panic m
    | .err e => nomatch e
  gpts : ∀ {c : Conn} {g : SRenetClient}, R c g →
    match c.getPacketsToSend with
    | .ok (c', ps) => ∃ g', R c' g' ∧
        (Src.renet.remote_connection.RenetClient.get_packets_to_send g : Res CTrErr _) = .ok (g', ps.map toNats)
    | .panic _ => ∃ m, (Src.renet.remote_connection.RenetClient.get_packets_to_send g : Res CTrErr _) = .panic m
    | .err e => nomatch e

/-- `RcSim` with a premise `P c` on the two clauses that carry range conditions (`process_packet`, `get_packets_to_send`):
    a transport call needs them only at the states its own loop reaches.  `RcSim` is the case of the trivial premise. -/
structure RcSimOn (P : Conn → Prop) (R : Conn → SRenetClient → Prop) : Prop where
  reason : ∀ {c : Conn} {g : SRenetClient}, R c g →
    (Src.renet.remote_connection.RenetClient.disconnect_reason g : Res CTrErr _) = .ok (c.disconnectReason.map reprReason)
  dtt : ∀ {c : Conn} {g : SRenetClient}, R c g → ∃ g', R (c.disconnectWith .transport) g' ∧
    (Src.renet.remote_connection.RenetClient.disconnect_due_to_transport g : Res CTrErr _) = .ok (g', ())
  setc : ∀ {c : Conn} {g : SRenetClient}, R c g → ∃ g', R c.setConnected g' ∧
    (Src.renet.remote_connection.RenetClient.set_connected g : Res CTrErr _) = .ok (g', ())
  setg : ∀ {c : Conn} {g : SRenetClient}, R c g → ∃ g', R c.setConnecting g' ∧
    (Src.renet.remote_connection.RenetClient.set_connecting g : Res CTrErr _) = .ok (g', ())
  pp : ∀ {c : Conn} {g : SRenetClient}, R c g → P c → ∀ (bytes : Bytes),
    match c.processPacket bytes with
    | .ok c' => ∃ g', R c' g' ∧
        (Src.renet.remote_connection.RenetClient.process_packet g (toNats bytes) : Res CTrErr _) = .ok (g', ())
    | .panic _ => ∃ m, (Src.renet.remote_connection.RenetClient.process_packet g (toNats bytes) : Res CTrErr _) = .panic m
    | .err e => nomatch e
  gpts : ∀ {c : Conn} {g : SRenetClient}, R c g → P c →
    match c.getPacketsToSend with
    | .ok (c', ps) => ∃ g', R c' g' ∧
        (Src.renet.remote_connection.RenetClient.get_packets_to_send g : Res CTrErr _) = .ok (g', ps.map toNats)
    | .panic _ => ∃ m, (Src.renet.remote_connection.RenetClient.get_packets_to_send g : Res CTrErr _) = .panic m
    | .err e => nomatch e

theorem RcSim.on {R : Conn → SRenetClient → Prop} (h : RcSim R) : RcSimOn (fun _ => True) R :=
  ⟨h.reason, h.dtt, h.setc, h.setg, fun hr _ => h.pp hr, fun hr _ => h.gpts hr⟩

theorem RcSimOn.closed {R : Conn → SRenetClient → Prop} (h : RcSimOn (fun _ => True) R) : RcSim R :=
  ⟨h.reason, h.dtt, h.setc, h.setg, fun hr => h.pp hr trivial, fun hr => h.gpts hr trivial⟩

/-- the invariant the transport needs from the netcode client: the per-call hypotheses of `SrcTieNcClient` follow from `I`,
    and the model's operations keep `I` -/
structure NcCInv (a : AEAD) (I : Netcode.NetcodeClient → Prop) : Prop where
  to : ∀ {c : Netcode.NetcodeClient}, I c → c.connectToken.timeoutSeconds < 2 ^ 31
  idx : ∀ {c : Netcode.NetcodeClient}, I c → c.serverAddrIndex + 1 < 2 ^ 64
  pp : ∀ {c c' : Netcode.NetcodeClient} {p : Option Bytes} (buf : Bytes), I c → c.processPacket a buf = .ok (p, c') → I c'
  update : ∀ {c c' : Netcode.NetcodeClient} {r : Option (Bytes × Addr)} (dt : Nat), I c → c.update a dt = .ok (r, c') → I c'
  gen : ∀ {c c' : Netcode.NetcodeClient} {r : Addr × Bytes} (p : Bytes), I c → c.generatePayloadPacket a p = .ok (r, c') → I c'
  disc : ∀ {c : Netcode.NetcodeClient}, I c → I (c.disconnect a).2

/-- `Transport.clientDisconnect` started with `out` already in the socket's log (`clientDisconnect` is the case `#[]`) -/
def clientDisconnectFrom (a : AEAD) (g : ClientGlue) (out : Array Dgram) : Res Empty (ClientGlue × Array Dgram) :=
  if g.netcode.isDisconnected then pure (g, out) else
  let (r, nc) := g.netcode.disconnect a
  let g := { g with netcode := nc }
  match r with
  | .panic m => .panic m
  | .err _ => pure (g, out)
  | .ok (addr, pkt) => pure (g, out.push (addr, pkt))

/-- what a `Result<(), NetcodeTransportError>` method leaves: the model's result, glue state and log; the scratch buffers
    are some buffers of their length; `rest` = the datagrams still queued at the socket -/
def CliTrOut (R : Conn → SRenetClient → Prop) (I : Netcode.NetcodeClient → Prop) (bl : Nat) (res : Except TransportError Unit)
    (g' : ClientGlue) (out' : Array Dgram) (rest : List Dgram) (g : Res CTrErr (SClientTransport × SRenetClient × Unit)) : Prop :=
  ∃ o' buf' gr', o'.length = C.NETCODE_MAX_PACKET_BYTES ∧ buf'.length = bl ∧ I g'.netcode ∧ R g'.renet gr' ∧
    g = match res with
        | .ok _ => .ok (ctrR rest out' o' g'.netcode buf', gr', ())
        | .error e => .err (reprTErr e, (ctrR rest out' o' g'.netcode buf', gr'))

/-- `Transport.clientSendPackets` started with `out` already in the socket's log -/
def clientSendPacketsFrom (a : AEAD) (g : ClientGlue) (out : Array Dgram) :
    Res Empty (Except TransportError Unit × ClientGlue × Array Dgram) :=
  match g.netcode.disconnectReason with
  | some reason => pure (.error (.netcode (.disconnected reason)), g, out)
  | none => do
    let (rc, packets) ← g.renet.getPacketsToSend
    let (e, nc, out) ← clientSendLoop a g.netcode packets out
    let g := { netcode := nc, renet := rc }
    match e with
    | some e => pure (.error (.netcode e), g, out)
    | none => pure (.ok (), g, out)

theorem clientSendPackets_eq_from (a : AEAD) (g : ClientGlue) : clientSendPackets a g = clientSendPacketsFrom a g #[] := rfl

/-- the body of `for packet in packets` (the text of the generated definition; `csend_packets_unfold` is by `rfl`) -/
def csendBody [RustSem.Aead] {ρ : Type} (connection : SRenetClient) : List Nat → SClientTransport → Exec CTrErr ρ SClientTransport :=
  (fun packet self => (do
        let t4 ← Exec.callFrom (fun err => Res.bind (Src.renet_netcode.NetcodeTransportError.from_NetcodeError err.1) (fun e' => Res.ok (e', ({ self with netcode_client := err.2 }, connection)))) (Src.renetcode.client.NetcodeClient.generate_payload_packet self.netcode_client packet)
        let self := { self with netcode_client := t4.1 }
        let (addr, payload) := t4.2
        let t5 ← Exec.callFrom (fun err => Res.bind (Src.renet_netcode.NetcodeTransportError.from_Error err.1) (fun e' => Res.ok (e', ({ self with socket := err.2 }, connection)))) (RustSem.UdpSocket.send_to self.socket payload addr)
        let self := { self with socket := t5.1 }
        let _ := t5.2
        pure self))

theorem csend_packets_unfold [RustSem.Aead] (self : SClientTransport) (connection : SRenetClient) :
    NetcodeClientTransport.send_packets self connection = Exec.run
      ((Exec.call (Src.renetcode.client.NetcodeClient.disconnect_reason self.netcode_client)).bind fun t1 =>
        (match t1 with
          | some reason => (do
            let t2 ← Exec.call (Src.renet_netcode.NetcodeTransportError.from_NetcodeError (Src.renetcode.error.NetcodeError.Disconnected reason))
            Exec.err (t2, (self, connection)))
          | _ => pure ()).bind fun _ =>
        (Exec.call (Src.renet.remote_connection.RenetClient.get_packets_to_send connection)).bind fun t3 =>
        (RustSem.forEach t3.2 self (csendBody t3.1)).bind fun self' => Exec.val (self', t3.1, ())) := rfl

theorem csendLoop_eq {ρ : Type} (a : AEAD) (hl : a.Laws) {I : Netcode.NetcodeClient → Prop} (hinv : NcCInv a I) (gr : SRenetClient)
    (inbox : List Dgram) (buf : List Nat) :
    ∀ (ps : List Bytes) (nc : Netcode.NetcodeClient) (out : Array Dgram) (o : List Nat), I nc →
      o.length = C.NETCODE_MAX_PACKET_BYTES →
      match clientSendLoop a nc ps out with
      | .ok (none, nc', out') => ∃ o', o'.length = C.NETCODE_MAX_PACKET_BYTES ∧ I nc' ∧
          RustSem.forEach (ps.map toNats) (ctrR inbox out o nc buf) (@csendBody (aeadOf a) ρ gr) = .val (ctrR inbox out' o' nc' buf)
      | .ok (some e, nc', out') => ∃ o', o'.length = C.NETCODE_MAX_PACKET_BYTES ∧ I nc' ∧
          RustSem.forEach (ps.map toNats) (ctrR inbox out o nc buf) (@csendBody (aeadOf a) ρ gr)
            = .err (.Netcode (reprNErr e), (ctrR inbox out' o' nc' buf, gr))
      | .err e => nomatch e
      | .panic _ => ∃ msg, RustSem.forEach (ps.map toNats) (ctrR inbox out o nc buf) (@csendBody (aeadOf a) ρ gr) = .panic msg := by
  intro ps
  induction ps with
  | nil =>
    intro nc out o hi ho
    simp only [clientSendLoop, List.map_nil, RustSem.forEach, Res.pure_eq]
    exact ⟨o, ho, hi, rfl⟩
  | cons p rest ih =>
    intro nc out o hi ho
    have hgen := SrcTie.nc_client_generate_payload_packet a hl o ho nc p
    simp only [clientSendLoop, List.map_cons, RustSem.forEach]
    cases hm : nc.generatePayloadPacket a p with
    | panic m =>
      rw [hm] at hgen
      obtain ⟨msg, hg⟩ := hgen
      simp only [csendBody, ctrR, Exec.bind_eq, hg, Exec.callFrom_panic, Exec.bind_panic']
      exact ⟨_, rfl⟩
    | err e =>
      rw [hm] at hgen
      obtain ⟨o', ho', hg⟩ := hgen
      simp only [csendBody, ctrR, Exec.bind_eq, hg, Res.pure_eq]
      refine ⟨o', ho', hi, ?_⟩
      rfl
    | ok v =>
      obtain ⟨⟨addr, d⟩, nc'⟩ := v
      rw [hm] at hgen
      obtain ⟨o', ho', hg⟩ := hgen
      have hi' := hinv.gen p hi hm
      have hrec := ih nc' (out.push (addr, d)) o' hi' ho'
      simp only [csendBody, ctrR, Exec.bind_eq, Exec.pure_eq, hg, Exec.callFrom_ok, Exec.bind_val', send_to_eq]
      exact hrec

theorem ctr_send_packets_on (a : AEAD) (hl : a.Laws) {P : Conn → Prop} {R : Conn → SRenetClient → Prop} (hsim : RcSimOn P R)
    {I : Netcode.NetcodeClient → Prop} (hinv : NcCInv a I) (g : ClientGlue) (gr : SRenetClient) (hi : I g.netcode)
    (hr : R g.renet gr) (inbox : List Dgram) (out : Array Dgram) (o buf : List Nat) (ho : o.length = C.NETCODE_MAX_PACKET_BYTES)
    (hok : g.netcode.disconnectReason = none → P g.renet) :
    match clientSendPacketsFrom a g out with
    | .ok (res, g', out') => CliTrOut R I buf.length res g' out' inbox
        (@NetcodeClientTransport.send_packets (aeadOf a) (ctrR inbox out o g.netcode buf) gr)
    | .err e => nomatch e
    | .panic _ => ∃ msg, @NetcodeClientTransport.send_packets (aeadOf a) (ctrR inbox out o g.netcode buf) gr = .panic msg := by
  rw [@csend_packets_unfold (aeadOf a)]
  unfold clientSendPacketsFrom
  have hdr : (Src.renetcode.client.NetcodeClient.disconnect_reason (ctrR inbox out o g.netcode buf).netcode_client : Res CTrErr _)
      = .ok (g.netcode.disconnectReason.map reprDR) := SrcTie.nc_client_disconnect_reason o g.netcode
  rw [hdr, Exec.call_ok, Exec.bind_val']
  cases hdis : g.netcode.disconnectReason with
  | some reason =>
    simp only [Option.map_some, Res.pure_eq]
    exact ⟨o, buf, gr, ho, rfl, hi, hr, rfl⟩
  | none =>
    simp only [Option.map_none, Exec.pure_eq, Exec.bind_val']
    have hgp := hsim.gpts hr (hok hdis)
    cases hm : g.renet.getPacketsToSend with
    | err e => exact nomatch e
    | panic m =>
      rw [hm] at hgp
      obtain ⟨msg, hg⟩ := hgp
      rw [hg, Exec.call_panic, Exec.bind_panic']
      exact ⟨_, rfl⟩
    | ok v =>
      obtain ⟨rc, ps⟩ := v
      rw [hm] at hgp
      obtain ⟨gr', hr', hg⟩ := hgp
      rw [hg, Exec.call_ok, Exec.bind_val']
      have hloop := csendLoop_eq (ρ := SClientTransport × SRenetClient × Unit) a hl hinv gr' inbox buf ps g.netcode out o hi ho
      simp only [Res.bind_ok]
      cases hm2 : clientSendLoop a g.netcode ps out with
      | err e => exact nomatch e
      | panic m =>
        rw [hm2] at hloop
        obtain ⟨msg, hg2⟩ := hloop
        rw [hg2, Exec.bind_panic']
        exact ⟨_, rfl⟩
      | ok v2 =>
        obtain ⟨e, nc', out'⟩ := v2
        rw [hm2] at hloop
        cases e with
        | none =>
          obtain ⟨o', ho', hi', hg2⟩ := hloop
          rw [hg2, Exec.bind_val']
          exact ⟨o', buf, gr', ho', rfl, hi', hr', rfl⟩
        | some e =>
          obtain ⟨o', ho', hi', hg2⟩ := hloop
          rw [hg2, Exec.bind_err']
          exact ⟨o', buf, gr', ho', rfl, hi', hr', rfl⟩

open RenetVerif.Src in
/-- the body of the `loop { let packet = match self.socket.recv_from(&mut self.buffer) { … }; … }` of `update` (the text of
    the generated definition; `cupdate_unfold` is by `rfl`) -/
def recvBodyC [RustSem.Aead] : SRenetClient × SClientTransport →
    Exec CTrErr (RustSem.LoopExit (SClientTransport × SRenetClient × Unit) (SRenetClient × SClientTransport)) (SRenetClient × SClientTransport) :=
  (fun (client, self) => (if true then (do
        let t15 ← Exec.attempt2 (RustSem.UdpSocket.recv_from self.socket self.buffer)
        let self := { self with socket := t15.1.1 }
        let self := { self with buffer := t15.1.2 }
        let scrut_t14 := t15.2
        let (self, t18) ←
          (match scrut_t14 with
          | Except.ok (len, addr) => (do
            let t16 ← Exec.call (renetcode.client.NetcodeClient.server_addr' self.netcode_client)
            let _ ←
              (if (decide (addr ≠ t16)) then Exec.ret (RustSem.LoopExit.cont (client, self))
              else pure ())
            pure (self, len))
          | Except.error e => (do
            let t17 ←
              (if (decide ((RustSem.IoError.kind e) = RustSem.ErrorKind.WouldBlock)) then Exec.ret (RustSem.LoopExit.brk (client, self))
              else (if (decide ((RustSem.IoError.kind e) = RustSem.ErrorKind.Interrupted)) then Exec.ret (RustSem.LoopExit.brk (client, self))
              else Exec.err ((renet_netcode.NetcodeTransportError.IO e), (self, client))))
            pure (self, t17)))
        let t19 := t18
        let t20 ← RustSem.slice self.buffer 0 t19 "renet_netcode/src/client.rs:NetcodeClientTransport::update: match self.socket.recv_from(&mut self.buffer) { Ok((len, addr)) => { if addr != self.netcode_client.server_addr() { log::debug!('Discarded packet from unknown server {:?}', addr); continue; } &mut self.buffer[..len] } Err(ref e) if e.kind() == io::ErrorKind::WouldBlock => break, Err(ref e) if e.kind() == io::ErrorKind::Interrupted => break, Err(e) => return Err(NetcodeTransportError::IO(e)), }"
        let t21 ← Exec.call (renetcode.client.NetcodeClient.process_packet self.netcode_client t20)
        let self := { self with netcode_client := t21.1 }
        let t22 ← RustSem.splice self.buffer 0 t19 t21.2.1 "renet_netcode/src/client.rs:NetcodeClientTransport::update: match self.socket.recv_from(&mut self.buffer) { Ok((len, addr)) => { if addr != self.netcode_client.server_addr() { log::debug!('Discarded packet from unknown server {:?}', addr); continue; } &mut self.buffer[..len] } Err(ref e) if e.kind() == io::ErrorKind::WouldBlock => break, Err(ref e) if e.kind() == io::ErrorKind::Interrupted => break, Err(e) => return Err(NetcodeTransportError::IO(e)), }"
        let self := { self with buffer := t22 }
        let (client, self) ←
          (match t21.2.2 with
          | some payload => (do
            let t23 ← Exec.call (renet.remote_connection.RenetClient.process_packet client payload)
            let client := t23.1
            pure (client, self))
          | _ => pure (client, self))
        pure (client, self))
      else Exec.ret (RustSem.LoopExit.brk (client, self))))

open RenetVerif.Src in
/-- the part of `update` after the status update: receive loop, `NetcodeClient::update`, the packet it asks to send -/
def updTail [RustSem.Aead] (duration : Nat) (client : SRenetClient) (self : SClientTransport) :
    Exec CTrErr (SClientTransport × SRenetClient × Unit) (SClientTransport × SRenetClient × Unit) :=
  (do
    let t12 ← Exec.call (RustSem.UdpSocket.pending self.socket)
    let t13 ← RustSem.add 64 t12 1 "renet_netcode/src/client.rs:NetcodeClientTransport::update: self.socket.pending() + 1"
    let (client, self) ←
      RustSem.whileFuel t13 "renet_netcode/src/client.rs:NetcodeClientTransport::update: fuel exhausted" (client, self) recvBodyC
    let t24 ← Exec.call (renetcode.client.NetcodeClient.update self.netcode_client duration)
    let self := { self with netcode_client := t24.1 }
    let self ←
      (match t24.2 with
      | some (packet, addr) => (do
        let t25 ← Exec.callFrom (fun err => Res.bind (renet_netcode.NetcodeTransportError.from_Error err.1) (fun e' => Res.ok (e', ({ self with socket := err.2 }, client)))) (RustSem.UdpSocket.send_to self.socket packet addr)
        let self := { self with socket := t25.1 }
        let _ := t25.2
        pure self)
      | _ => pure self)
    pure (self, client, ()))

open RenetVerif.Src in
theorem cupdate_unfold [RustSem.Aead] (self : SClientTransport) (duration : Nat) (client : SRenetClient) :
    NetcodeClientTransport.update self duration client = Exec.run (do
    let t1 ← Exec.call (renetcode.client.NetcodeClient.disconnect_reason self.netcode_client)
    let client ←
      (match t1 with
      | some reason => (do
        let t2 ← Exec.call (renet.remote_connection.RenetClient.disconnect_due_to_transport client)
        let client := t2.1
        let t3 ← Exec.call (renet_netcode.NetcodeTransportError.from_NetcodeError (renetcode.error.NetcodeError.Disconnected reason))
        Exec.err (t3, (self, client)))
      | _ => pure client)
    let t4 ← Exec.call (renet.remote_connection.RenetClient.disconnect_reason client)
    let self ←
      (match t4 with
      | some error => (do
        let t5 ← Exec.callFrom (fun err => Res.bind (renet_netcode.NetcodeTransportError.from_NetcodeError err.1) (fun e' => Res.ok (e', ({ self with netcode_client := err.2 }, client)))) (renetcode.client.NetcodeClient.disconnect self.netcode_client)
        let self := { self with netcode_client := t5.1 }
        let (addr, disconnect_packet) := t5.2
        let t6 ← Exec.callFrom (fun err => Res.bind (renet_netcode.NetcodeTransportError.from_Error err.1) (fun e' => Res.ok (e', ({ self with socket := err.2 }, client)))) (RustSem.UdpSocket.send_to self.socket disconnect_packet addr)
        let self := { self with socket := t6.1 }
        let _ := t6.2
        let t7 ← Exec.call (renet_netcode.NetcodeTransportError.from_DisconnectReason error)
        Exec.err (t7, (self, client)))
      | _ => pure self)
    let t8 ← Exec.call (renetcode.client.NetcodeClient.is_connected self.netcode_client)
    let client ←
      (if t8 then (do
        let t9 ← Exec.call (renet.remote_connection.RenetClient.set_connected client)
        let client := t9.1
        pure client)
      else (do
        let t10 ← Exec.call (renetcode.client.NetcodeClient.is_connecting self.netcode_client)
        (if t10 then (do
          let t11 ← Exec.call (renet.remote_connection.RenetClient.set_connecting client)
          let client := t11.1
          pure client)
        else pure client)))
    updTail duration client self) := rfl

def clientRecvStep (a : AEAD) (g : ClientGlue) (d : Dgram) : Res Empty ClientGlue :=
  if d.1 ≠ g.netcode.serverAddr then pure g else do
    let (p, nc) ← g.netcode.processPacket a d.2
    match p with
    | none => pure { g with netcode := nc }
    | some p => do
      let rc ← g.renet.processPacket p
      pure { netcode := nc, renet := rc }

theorem clientRecvLoop_cons (a : AEAD) (g : ClientGlue) (d : Dgram) (rest : List Dgram) :
    clientRecvLoop a g (d :: rest) = (clientRecvStep a g d).bind fun g' => clientRecvLoop a g' rest := by
  obtain ⟨addr, buf⟩ := d
  simp only [clientRecvLoop, clientRecvStep]
  by_cases h : addr = g.netcode.serverAddr
  · simp only [h, ne_eq, not_true_eq_false, if_false]
    cases hm : g.netcode.processPacket a buf with
    | err e => exact nomatch e
    | panic m => rfl
    | ok v =>
      obtain ⟨p, nc⟩ := v
      cases p with
      | none => rfl
      | some p =>
        simp only [Res.bind_ok]
        cases g.renet.processPacket p with
        | err e => exact nomatch e
        | panic m => rfl
        | ok rc => rfl
  · simp only [h, ne_eq, not_false_eq_true, if_true]
    rfl

theorem recvBodyC_empty [RustSem.Aead] (out : Array Dgram) (o : List Nat) (nc : Netcode.NetcodeClient) (buf : List Nat)
    (gr : SRenetClient) :
    recvBodyC (gr, ctrR [] out o nc buf) = .ret (.brk (gr, ctrR [] out o nc buf)) := by
  unfold recvBodyC
  simp only [ctrR, if_true, Exec.bind_eq, Exec.pure_eq, recv_from_empty, Exec.attempt2, Exec.bind_val']
  rfl

theorem recvBodyC_dgram (a : AEAD) (hl : a.Laws) {P : Conn → Prop} {R : Conn → SRenetClient → Prop} (hsim : RcSimOn P R)
    {I : Netcode.NetcodeClient → Prop} (hinv : NcCInv a I) (g : ClientGlue) (gr : SRenetClient) (hi : I g.netcode)
    (hr : R g.renet gr) (addr : Addr) (b : Bytes) (rest : List Dgram) (out : Array Dgram) (o buf : List Nat)
    (hcap : buf.length + 16 < 2 ^ 64)
    (hok : ∀ pl nc, addr = g.netcode.serverAddr → g.netcode.processPacket a (b.take buf.length) = .ok (some pl, nc) → P g.renet) :
    match clientRecvStep a g (addr, b.take buf.length) with
    | .ok g' => ∃ buf' gr', buf'.length = buf.length ∧ I g'.netcode ∧ R g'.renet gr' ∧
        (@recvBodyC (aeadOf a) (gr, ctrR ((addr, b) :: rest) out o g.netcode buf) = .val (gr', ctrR rest out o g'.netcode buf') ∨
         @recvBodyC (aeadOf a) (gr, ctrR ((addr, b) :: rest) out o g.netcode buf)
            = .ret (.cont (gr', ctrR rest out o g'.netcode buf')))
    | .err e => nomatch e
    | .panic _ => ∃ msg, @recvBodyC (aeadOf a) (gr, ctrR ((addr, b) :: rest) out o g.netcode buf) = .panic msg := by
  have hbl : (b.take buf.length).length + 16 < 2 ^ 64 := by
    rw [List.length_take]; omega
  have hlen : (toNats (b.take buf.length) ++ buf.drop (toNats (b.take buf.length)).length).length = buf.length := by
    rw [List.length_append, List.length_drop, toNats_length, List.length_take]; omega
  have hpp := SrcTie.nc_client_process_packet_len (ε := CTrErr) a hl o g.netcode (b.take buf.length) hbl
  unfold recvBodyC clientRecvStep
  simp only [ctrR, if_true, Exec.bind_eq, Exec.pure_eq, recv_from_dgram, Exec.attempt2, Exec.bind_val', SrcTie.nc_client_server_addr,
    Exec.call_ok]
  by_cases haddr : addr = g.netcode.serverAddr
  · have hd : decide (reprAddr addr ≠ reprAddr g.netcode.serverAddr) = false := by
      rw [haddr]; simp
    simp only [hd, Bool.false_eq_true, if_false, Exec.bind_val', slice_prefix]
    have hne : ¬ (addr ≠ g.netcode.serverAddr) := fun h => h haddr
    simp only [hne, if_false]
    cases hm : g.netcode.processPacket a (b.take buf.length) with
    | err e => exact nomatch e
    | panic m =>
      rw [hm] at hpp
      obtain ⟨msg, hg⟩ := hpp
      simp only [hg, Exec.call_panic, Exec.bind_panic', Res.bind_panic]
      exact ⟨_, rfl⟩
    | ok v =>
      obtain ⟨p, nc'⟩ := v
      rw [hm] at hpp
      obtain ⟨buf', hb', hg⟩ := hpp
      have hi' := hinv.pp _ hi hm
      have hlen' : (buf' ++ buf.drop (toNats (b.take buf.length)).length).length = buf.length := by
        rw [List.length_append, hb', List.length_drop, toNats_length, List.length_take]; omega
      simp only [hg, Exec.call_ok, Exec.bind_val', splice_prefix, Res.bind_ok]
      cases p with
      | none =>
        simp only [Option.map_none, Res.pure_eq]
        exact ⟨_, gr, hlen', hi', hr, Or.inl rfl⟩
      | some pl =>
        have hrp := hsim.pp hr (hok pl nc' haddr hm) pl
        simp only [Option.map_some]
        cases hm2 : g.renet.processPacket pl with
        | err e => exact nomatch e
        | panic m =>
          rw [hm2] at hrp
          obtain ⟨msg, hg2⟩ := hrp
          simp only [hg2, Exec.call_panic, Exec.bind_panic', Res.bind_panic]
          exact ⟨_, rfl⟩
        | ok rc =>
          rw [hm2] at hrp
          obtain ⟨gr', hr', hg2⟩ := hrp
          simp only [hg2, Exec.call_ok, Exec.bind_val', Res.bind_ok, Res.pure_eq]
          exact ⟨_, gr', hlen', hi', hr', Or.inl rfl⟩
  · have hd : decide (reprAddr addr ≠ reprAddr g.netcode.serverAddr) = true := by
      simp only [ne_eq, reprAddr_eq_iff, decide_eq_true_eq]; exact haddr
    simp only [hd, if_true, Exec.bind_ret']
    have hne : addr ≠ g.netcode.serverAddr := haddr
    rw [if_pos hne]
    simp only [Res.pure_eq]
    exact ⟨_, gr, hlen, hi, hr, Or.inr rfl⟩

/-- `Q` is an invariant of the model's `clientRecvLoop` that gives the premise `P` for the connection whenever the loop
    hands it a payload -/
structure CRecvInv (P : Conn → Prop) (a : AEAD) (Q : ClientGlue → List Dgram → Prop) : Prop where
  prem : ∀ {g : ClientGlue} {d : Dgram} {rest : List Dgram} {pl : Bytes} {nc : Netcode.NetcodeClient}, Q g (d :: rest) →
    d.1 = g.netcode.serverAddr → g.netcode.processPacket a d.2 = .ok (some pl, nc) → P g.renet
  next : ∀ {g g' : ClientGlue} {d : Dgram} {rest : List Dgram}, Q g (d :: rest) → clientRecvStep a g d = .ok g' → Q g' rest

/-- the fuel `pending() + 1` is never exhausted -/
theorem crecvLoop_on (a : AEAD) (hl : a.Laws) {P : Conn → Prop} {R : Conn → SRenetClient → Prop} (hsim : RcSimOn P R)
    {I : Netcode.NetcodeClient → Prop} (hinv : NcCInv a I) {Q : ClientGlue → List Dgram → Prop} (hQ : CRecvInv P a Q)
    (site : String) (cap : Nat) (hcap : cap + 16 < 2 ^ 64) (out : Array Dgram) (o : List Nat) :
    ∀ (inbox : List Dgram) (g : ClientGlue) (gr : SRenetClient) (buf : List Nat) (fuel : Nat),
      inbox.length < fuel → I g.netcode → R g.renet gr → buf.length = cap → Q g (inbox.map (recvFrom cap)) →
      match clientRecvLoop a g (inbox.map (recvFrom cap)) with
      | .ok g' => ∃ buf' gr', buf'.length = cap ∧ I g'.netcode ∧ R g'.renet gr' ∧
          RustSem.whileFuel fuel site (gr, ctrR inbox out o g.netcode buf) (@recvBodyC (aeadOf a))
            = .val (gr', ctrR [] out o g'.netcode buf')
      | .err e => nomatch e
      | .panic _ => ∃ msg, RustSem.whileFuel fuel site (gr, ctrR inbox out o g.netcode buf) (@recvBodyC (aeadOf a)) = .panic msg := by
  intro inbox
  induction inbox with
  | nil =>
    intro g gr buf fuel hf hi hr hb _
    obtain ⟨n, rfl⟩ : ∃ n, fuel = n + 1 := ⟨fuel - 1, by simp at hf; omega⟩
    rw [whileFuel_step, @recvBodyC_empty (aeadOf a)]
    simp only [List.map_nil, clientRecvLoop, Res.pure_eq]
    exact ⟨buf, gr, hb, hi, hr, rfl⟩
  | cons d rest ih =>
    intro g gr buf fuel hf hi hr hb hq
    obtain ⟨addr, b⟩ := d
    obtain ⟨n, rfl⟩ : ∃ n, fuel = n + 1 := ⟨fuel - 1, by simp at hf; omega⟩
    rw [List.map_cons] at hq
    have hstep := recvBodyC_dgram a hl hsim hinv g gr hi hr addr b rest out o buf (by rw [hb]; exact hcap)
      (by rw [hb]; exact fun pl nc haddr hm => hQ.prem hq haddr hm)
    rw [whileFuel_step, List.map_cons, clientRecvLoop_cons]
    simp only [recvFrom]
    rw [hb] at hstep
    cases hm : clientRecvStep a g (addr, b.take cap) with
    | err e => exact nomatch e
    | panic m =>
      rw [hm] at hstep
      obtain ⟨msg, hg⟩ := hstep
      rw [hg]
      exact ⟨_, rfl⟩
    | ok g' =>
      rw [hm] at hstep
      obtain ⟨buf', gr', hb', hi', hr', hg | hg⟩ := hstep
      · rw [hg]
        exact ih g' gr' buf' n (by simp at hf; omega) hi' hr' hb' (hQ.next hq hm)
      · rw [hg]
        exact ih g' gr' buf' n (by simp at hf; omega) hi' hr' hb' (hQ.next hq hm)

/-- `Transport.clientUpdate` started with `out` already in the socket's log -/
def clientUpdateFrom (a : AEAD) (g : ClientGlue) (duration : Nat) (inbox : List Dgram) (out : Array Dgram) : Res Empty ClientOut :=
  match g.netcode.disconnectReason with
  | some reason =>
    pure ⟨.error (.netcode (.disconnected reason)), { g with renet := g.renet.disconnectWith .transport }, out, inbox⟩
  | none =>
  match g.renet.disconnectReason with
  | some error =>
    let (r, nc) := g.netcode.disconnect a
    let g := { g with netcode := nc }
    match r with
    | .panic m => .panic m
    | .err e => pure ⟨.error (.netcode e), g, out, inbox⟩
    | .ok (addr, pkt) => pure ⟨.error (.renet error), g, out.push (addr, pkt), inbox⟩
  | none => do
    let rc := if g.netcode.isConnected then g.renet.setConnected
              else if g.netcode.isConnecting then g.renet.setConnecting else g.renet
    let g ← clientRecvLoop a { g with renet := rc } inbox
    let (o, nc) ← g.netcode.update a duration
    let g := { g with netcode := nc }
    match o with
    | some (pkt, addr) => pure ⟨.ok (), g, out.push (addr, pkt), []⟩
    | none => pure ⟨.ok (), g, out, []⟩

/-- the model of `updTail` -/
def clientUpdateTail (a : AEAD) (g : ClientGlue) (duration : Nat) (inbox : List Dgram) (out : Array Dgram) : Res Empty ClientOut := do
  let g ← clientRecvLoop a g inbox
  let (o, nc) ← g.netcode.update a duration
  let g := { g with netcode := nc }
  match o with
  | some (pkt, addr) => pure ⟨.ok (), g, out.push (addr, pkt), []⟩
  | none => pure ⟨.ok (), g, out, []⟩

theorem ctr_update_tail (a : AEAD) (hl : a.Laws) {P : Conn → Prop} {R : Conn → SRenetClient → Prop} (hsim : RcSimOn P R)
    {I : Netcode.NetcodeClient → Prop} (hinv : NcCInv a I) {Q : ClientGlue → List Dgram → Prop} (hQ : CRecvInv P a Q)
    (g : ClientGlue) (gr : SRenetClient) (hi : I g.netcode)
    (hr : R g.renet gr) (duration : Nat) (inbox : List Dgram) (hin : inbox.length + 1 < 2 ^ 64) (out : Array Dgram)
    (o buf : List Nat) (ho : o.length = C.NETCODE_MAX_PACKET_BYTES) (hb : buf.length = C.TRANSPORT_CLIENT_BUFFER)
    (hq : Q g (inbox.map (recvFrom C.TRANSPORT_CLIENT_BUFFER))) :
    match clientUpdateTail a g duration (inbox.map (recvFrom C.TRANSPORT_CLIENT_BUFFER)) out with
    | .ok r => ∃ rest, rest.map (recvFrom C.TRANSPORT_CLIENT_BUFFER) = r.rest ∧
        CliTrOut R I C.TRANSPORT_CLIENT_BUFFER r.result r.g r.out rest
          (Exec.run (@updTail (aeadOf a) duration gr (ctrR inbox out o g.netcode buf)))
    | .err e => nomatch e
    | .panic _ => ∃ msg, Exec.run (@updTail (aeadOf a) duration gr (ctrR inbox out o g.netcode buf)) = .panic msg := by
  unfold updTail clientUpdateTail
  simp only [Exec.bind_eq, Exec.pure_eq]
  have hpend : (RustSem.UdpSocket.pending (ctrR inbox out o g.netcode buf).socket : Res CTrErr Nat) = .ok inbox.length :=
    pending_sockR inbox out
  rw [hpend, Exec.call_ok, Exec.bind_val', add_val hin, Exec.bind_val']
  have hloop := crecvLoop_on a hl hsim hinv hQ "renet_netcode/src/client.rs:NetcodeClientTransport::update: fuel exhausted"
    C.TRANSPORT_CLIENT_BUFFER (by decide) out o inbox g gr buf (inbox.length + 1) (Nat.lt_succ_self _) hi hr hb hq
  cases hm : clientRecvLoop a g (inbox.map (recvFrom C.TRANSPORT_CLIENT_BUFFER)) with
  | err e => exact nomatch e
  | panic m =>
    rw [hm] at hloop
    obtain ⟨msg, hg⟩ := hloop
    rw [hg, Exec.bind_panic']
    exact ⟨_, rfl⟩
  | ok g1 =>
    rw [hm] at hloop
    obtain ⟨buf1, gr1, hb1, hi1, hr1, hg⟩ := hloop
    rw [hg, Exec.bind_val']
    have hu := SrcTie.nc_client_update (ε := CTrErr) a hl o ho g1.netcode (hinv.to hi1) (hinv.idx hi1) duration
    simp only [Res.bind_ok]
    cases hm2 : g1.netcode.update a duration with
    | err e => exact nomatch e
    | panic m =>
      rw [hm2] at hu
      obtain ⟨msg, hg2⟩ := hu
      simp only [ctrR, hg2, Exec.call_panic, Exec.bind_panic', Exec.run_panic, Res.bind_panic]
      exact ⟨_, rfl⟩
    | ok v =>
      obtain ⟨r, nc2⟩ := v
      rw [hm2] at hu
      obtain ⟨o2, ho2, hg2⟩ := hu
      have hi2 := hinv.update duration hi1 hm2
      cases r with
      | none =>
        simp only [ctrR, hg2, Exec.call_ok, Exec.bind_val', Option.map_none, Exec.run_val, Res.bind_ok, Res.pure_eq]
        exact ⟨[], rfl, o2, buf1, gr1, ho2, hb1, hi2, hr1, rfl⟩
      | some pa =>
        obtain ⟨pkt, addr⟩ := pa
        simp only [ctrR, hg2, Exec.call_ok, Exec.bind_val', Option.map_some, send_to_eq, Exec.callFrom_ok, Exec.run_val,
          Res.bind_ok, Res.pure_eq]
        exact ⟨[], rfl, o2, buf1, gr1, ho2, hb1, hi2, hr1, rfl⟩

theorem ctr_update_on (a : AEAD) (hl : a.Laws) {P : Conn → Prop} {R : Conn → SRenetClient → Prop} (hsim : RcSimOn P R)
    {I : Netcode.NetcodeClient → Prop} (hinv : NcCInv a I) {Q : ClientGlue → List Dgram → Prop} (hQ : CRecvInv P a Q)
    (g : ClientGlue) (gr : SRenetClient) (hi : I g.netcode)
    (hr : R g.renet gr) (duration : Nat) (inbox : List Dgram) (hin : inbox.length + 1 < 2 ^ 64) (out : Array Dgram)
    (o buf : List Nat) (ho : o.length = C.NETCODE_MAX_PACKET_BYTES) (hb : buf.length = C.TRANSPORT_CLIENT_BUFFER)
    (hq : Q { g with renet := if g.netcode.isConnected then g.renet.setConnected
                              else if g.netcode.isConnecting then g.renet.setConnecting else g.renet }
      (inbox.map (recvFrom C.TRANSPORT_CLIENT_BUFFER))) :
    match clientUpdateFrom a g duration (inbox.map (recvFrom C.TRANSPORT_CLIENT_BUFFER)) out with
    | .ok r => ∃ rest, rest.map (recvFrom C.TRANSPORT_CLIENT_BUFFER) = r.rest ∧
        CliTrOut R I C.TRANSPORT_CLIENT_BUFFER r.result r.g r.out rest
          (@NetcodeClientTransport.update (aeadOf a) (ctrR inbox out o g.netcode buf) duration gr)
    | .err e => nomatch e
    | .panic _ => ∃ msg, @NetcodeClientTransport.update (aeadOf a) (ctrR inbox out o g.netcode buf) duration gr = .panic msg := by
  rw [@cupdate_unfold (aeadOf a)]
  unfold clientUpdateFrom
  simp only [Exec.bind_eq, Exec.pure_eq]
  have hdr : (Src.renetcode.client.NetcodeClient.disconnect_reason (ctrR inbox out o g.netcode buf).netcode_client : Res CTrErr _)
      = .ok (g.netcode.disconnectReason.map reprDR) := SrcTie.nc_client_disconnect_reason o g.netcode
  rw [hdr, Exec.call_ok, Exec.bind_val']
  cases hdis : g.netcode.disconnectReason with
  | some reason =>
    obtain ⟨gr', hr', hg⟩ := hsim.dtt hr
    simp only [Option.map_some, hg, Exec.call_ok, Exec.bind_val', Res.pure_eq]
    exact ⟨inbox, rfl, o, buf, gr', ho, hb, hi, hr', rfl⟩
  | none =>
    simp only [Option.map_none, Exec.bind_val']
    rw [hsim.reason hr, Exec.call_ok, Exec.bind_val']
    cases hrd : g.renet.disconnectReason with
    | some error =>
      simp only [Option.map_some]
      have hd' : CliSendOut (g.netcode.disconnect a).2 (g.netcode.disconnect a).1
          (@Src.renetcode.client.NetcodeClient.disconnect (aeadOf a) (ctrR inbox out o g.netcode buf).netcode_client) :=
        SrcTie.nc_client_disconnect a hl o ho g.netcode
      have hi' := hinv.disc (a := a) hi
      generalize hM : g.netcode.disconnect a = M at hd' hi' ⊢
      obtain ⟨r, nc'⟩ := M
      simp only [] at hd' hi' ⊢
      cases r with
      | panic m =>
        obtain ⟨msg, hg⟩ := hd'
        rw [hg, Exec.callFrom_panic, Exec.bind_panic', Exec.bind_panic']
        exact ⟨_, rfl⟩
      | err e =>
        obtain ⟨o', ho', hg⟩ := hd'
        rw [hg, Exec.callFrom_err _ _ _ ?hk, Exec.bind_err', Exec.bind_err']
        case hk => rfl
        exact ⟨inbox, rfl, o', buf, gr, ho', hb, hi', hr, rfl⟩
      | ok v =>
        obtain ⟨addr, pkt⟩ := v
        obtain ⟨o', ho', hg⟩ := hd'
        rw [hg, Exec.callFrom_ok, Exec.bind_val']
        simp only [ctrR, send_to_eq, Exec.callFrom_ok, Exec.bind_val', Src.renet_netcode.NetcodeTransportError.from_DisconnectReason,
          Res.pure_eq]
        exact ⟨inbox, rfl, o', buf, gr, ho', hb, hi', hr, rfl⟩
    | none =>
      simp only [Option.map_none, Exec.bind_val']
      have hisc : (Src.renetcode.client.NetcodeClient.is_connected (ctrR inbox out o g.netcode buf).netcode_client : Res CTrErr _)
          = .ok g.netcode.isConnected := SrcTie.nc_client_is_connected o g.netcode
      have hisg : (Src.renetcode.client.NetcodeClient.is_connecting (ctrR inbox out o g.netcode buf).netcode_client : Res CTrErr _)
          = .ok g.netcode.isConnecting := SrcTie.nc_client_is_connecting o g.netcode
      rw [hisc, Exec.call_ok, Exec.bind_val']
      have htail : ∀ (rc : Conn) (gr1 : SRenetClient), R rc gr1 →
          Q { g with renet := rc } (inbox.map (recvFrom C.TRANSPORT_CLIENT_BUFFER)) → _ :=
        fun rc gr1 hr1 hq1 => ctr_update_tail a hl hsim hinv hQ { g with renet := rc } gr1 hi hr1 duration inbox hin out o buf ho hb hq1
      cases hc : g.netcode.isConnected with
      | true =>
        obtain ⟨gr1, hr1, hg⟩ := hsim.setc hr
        simp only [if_true, hg, Exec.call_ok, Exec.bind_val']
        exact htail _ gr1 hr1 (by simp only [hc, if_true] at hq; exact hq)
      | false =>
        simp only [Bool.false_eq_true, if_false]
        rw [hisg, Exec.call_ok, Exec.bind_val']
        cases hcg : g.netcode.isConnecting with
        | true =>
          obtain ⟨gr1, hr1, hg⟩ := hsim.setg hr
          simp only [if_true, hg, Exec.call_ok, Exec.bind_val']
          exact htail _ gr1 hr1 (by simp only [hc, hcg, Bool.false_eq_true, if_false, if_true] at hq; exact hq)
        | false =>
          simp only [Bool.false_eq_true, if_false, Exec.bind_val']
          exact htail _ gr hr (by simp only [hc, hcg, Bool.false_eq_true, if_false] at hq; exact hq)

theorem rcSimOn_of_inv (Inv P : Conn → Prop) (hproc : ∀ c, Inv c → P c → ∀ bytes, ProcOk c bytes)
    (hsend : ∀ c, Inv c → P c → SendOk c)
    (hdw : ∀ c, Inv c → ∀ r, Inv (c.disconnectWith r)) (hsc : ∀ c, Inv c → Inv c.setConnected)
    (hsg : ∀ c, Inv c → Inv c.setConnecting) (hpp : ∀ c, Inv c → ∀ bytes c', c.processPacket bytes = .ok c' → Inv c')
    (hgp : ∀ c, Inv c → ∀ c' ps, c.getPacketsToSend = .ok (c', ps) → Inv c') :
    RcSimOn P (fun c g => Inv c ∧ ∃ mrs, g = reprConn mrs c) where
  reason := by
    rintro c g ⟨hi, mrs, rfl⟩
    exact SrcTie.conn_disconnect_reason mrs c
  dtt := by
    rintro c g ⟨hi, mrs, rfl⟩
    exact ⟨_, ⟨hdw c hi _, mrs, rfl⟩, SrcTie.conn_disconnect_due_to_transport mrs c⟩
  setc := by
    rintro c g ⟨hi, mrs, rfl⟩
    exact ⟨_, ⟨hsc c hi, mrs, rfl⟩, SrcTie.conn_set_connected mrs c⟩
  setg := by
    rintro c g ⟨hi, mrs, rfl⟩
    exact ⟨_, ⟨hsg c hi, mrs, rfl⟩, SrcTie.conn_set_connecting mrs c⟩
  pp := by
    rintro c g ⟨hi, mrs, rfl⟩ hp bytes
    obtain ⟨mrs', h⟩ := SrcTie.conn_process_packet (ε := CTrErr) mrs c bytes (hproc c hi hp bytes)
    cases hm : c.processPacket bytes with
    | err e => exact nomatch e
    | panic m =>
      rw [hm] at h
      exact h.panics
    | ok c' =>
      rw [hm] at h
      exact ⟨_, ⟨hpp c hi _ _ hm, mrs', rfl⟩, h.eq_ok⟩
  gpts := by
    rintro c g ⟨hi, mrs, rfl⟩ hp
    have h := SrcTie.conn_get_packets_to_send (ε := CTrErr) mrs c (hsend c hi hp)
    cases hm : c.getPacketsToSend with
    | err e => exact nomatch e
    | panic m =>
      rw [hm] at h
      exact h.panics
    | ok v =>
      obtain ⟨c', ps⟩ := v
      rw [hm] at h
      exact ⟨_, ⟨hgp c hi _ _ hm, mrs, rfl⟩, h.eq_ok⟩

end TrClient
end RenetVerif.SrcEquiv
