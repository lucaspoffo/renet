/-
  C05H — the token-to-address binding over whole histories (properties C05 and C19).

  C05's clause "a token already used from a different address never produces a connection" is proved per step and
  conditionally (`C05.token_address_binding_partial`: *if* the token's MAC is still recorded with another address ...).
  Here: over every trace of server operations.  Proofs: Lemmas/NcBinding.lean (symbolic execution of
  `handle_connection_request` / `process_packet_internal` for their effect on `connect_token_entries`, the exact slot
  rule of `find_or_add_connect_token_entry`, induction over traces).

  Operations / traces: `NS.Op` run by `NS.step` (Lemmas/NcTableEvents.lean: any datagram from any address, `update`,
  `update_client`, `disconnect`, `set_max_clients`, `generate_payload_packet`); `NcBinding.Steps a s ops s'` = a run of
  `step` over the list `ops` from an arbitrary state; `NS.ReachH a s hist` (Lemmas/NcHandshake.lean) = `s` reachable
  from an empty server, `hist` = the datagrams processed so far, each with the state it met (the relation
  `C05.connected_only_after_request` speaks about).

  `Registers a s addr buf mac` — the datagram `buf` from `addr`, arriving in state `s`, is a connection request passing
  every check of `Accepted` (Lemmas/NcRequest.lean), and `mac` is the MAC (last 16 bytes) of its private token.  These are
  exactly the calls of `find_or_add_connect_token_entry` that answer `true`.

  ORDER IN `handle_connection_request` (renetcode/src/server.rs): version, protocol id, expiry, token decryption, host
  list, already-connected, pending-map room, THEN `find_or_add_connect_token_entry`, THEN the server-full test.
  So a valid request that is denied because the server is full still binds its token to the address
  (`denied_request_still_binds`); a request refused by an earlier check binds nothing (`step_table_effect`).

  THE LIMIT (kept from `C05.token_address_binding_partial`): the table has `NETCODE_TOKEN_ENTRIES` = 2048 slots and no
  expiry.  `token_binding_history` holds for histories in which AT MOST 2048 DISTINCT token MACs were registered
  (the hypothesis `Covered a hist L`, `L.length ≤` table length); the next new MAC overwrites the oldest entry
  (`boundary_evicts`), whose token is then accepted from any address again (`C05.binding_lost_when_full`).
-/
import RenetVerif.Lemmas.NcBinding
import RenetVerif.Props.C05
namespace RenetVerif.C05H
open RenetVerif RenetVerif.Netcode RenetVerif.Netcode.NS RenetVerif.NcBinding

/-- **The slot rule of `find_or_add_connect_token_entry`, exactly** (table part; the Boolean is
    `NS.findOrAdd_spec`).  If some entry carries the new entry's MAC the table is untouched.  Otherwise the new entry is
    written to the slot `i` with `SlotFor table i`: the FIRST EMPTY slot if there is one; only if NO slot is empty, the
    slot `OldestAt table i` — the entry of minimal `time`, and among entries of equal minimal time the one with the
    LOWEST INDEX (the loop replaces its candidate only on `e.time < min`, strictly; `min` starts at `Duration::MAX`, so
    if no entry is older than that the candidate stays index 0).  The slot is unique (`slotFor_unique`). -/
theorem find_or_add_slot (s : NetcodeServer) (ne : ConnectTokenEntry) :
    (s.findOrAddConnectTokenEntry ne).1.connectTokenEntries = tableAdd s.connectTokenEntries ne ∧
    ((∃ e, some e ∈ s.connectTokenEntries ∧ e.mac = ne.mac) → tableAdd s.connectTokenEntries ne = s.connectTokenEntries) ∧
    ((∀ e, some e ∈ s.connectTokenEntries → e.mac ≠ ne.mac) →
      ∃ i, SlotFor s.connectTokenEntries i ∧
        tableAdd s.connectTokenEntries ne = s.connectTokenEntries.set i (some ne) ∧
        ∀ j, SlotFor s.connectTokenEntries j → j = i) :=
  ⟨findOrAdd_entries s ne, fun ⟨_, he, hm⟩ => tableAdd_match he hm, fun hn => by
    obtain ⟨i, hi, e⟩ := tableAdd_new hn
    exact ⟨i, hi, e, fun j hj => slotFor_unique hj hi⟩⟩

/-- **`step_table_effect`** — what each operation does to `connect_token_entries`.  `update` (clock; expiry of
    half-open sessions), `update_client` (time-outs, keep-alives), `disconnect`, `set_max_clients`,
    `generate_payload_packet`, and every datagram that is not an `Accepted` connection request (junk, payloads,
    responses, requests that are expired / tampered / for another host / from a connected address or id / refused for
    lack of room in the pending map / bound to another address) leave the table exactly as it is.  An `Accepted`
    connection request makes it `tableAdd table (now, source address, token MAC)` — **whatever happens afterwards in
    `handle_connection_request`** (challenge sent, `ConnectionDenied` because the server is full, encoding error). -/
theorem step_table_effect {a : AEAD} {s s' : NetcodeServer} {op : Op} {r : ServerResult} (hi : ServerInv s)
    (h : step a s op = some (r, s')) :
    (s'.connectTokenEntries = s.connectTokenEntries ∧
      ∀ addr buf mac, op = .packet addr buf → ¬ Registers a s addr buf mac) ∨
    (∃ addr buf mac, op = .packet addr buf ∧ Registers a s addr buf mac ∧
      s'.connectTokenEntries = tableAdd s.connectTokenEntries ⟨s.currentTime, addr, mac⟩) :=
  step_tbl h

theorem nonpacket_keeps_table {a : AEAD} {s s' : NetcodeServer} {op : Op} {r : ServerResult} (hi : ServerInv s)
    (h : step a s op = some (r, s')) (hop : ∀ addr buf, op ≠ .packet addr buf) :
    s'.connectTokenEntries = s.connectTokenEntries := by
  rcases step_tbl h with ⟨e, _⟩ | ⟨addr, buf, _, e, _⟩
  · exact e
  · exact absurd e (hop addr buf)

/-- **a valid request that is denied because the server is full STILL binds its token to the address**: no slot is
    free, the request passes every check; then no session changes, the answer is `ConnectionDenied` (or nothing, if
    encoding it fails), and `(mac, addr)` is recorded in the table. -/
theorem denied_request_still_binds {a : AEAD} {s s' : NetcodeServer} {addr : Addr} {buf mac : Bytes} {r : ServerResult}
    (hi : ServerInv s) (hfull : firstFreeSlot s.clients = none) (hreg : Registers a s addr buf mac)
    (h : s.processPacket a addr buf = .ok (r, s')) :
    s'.clients = s.clients ∧ (r = .none ∨ ∃ out, r = .packetToSend addr out ∧ IsDenied a s out) ∧
    ∃ e, some e ∈ s'.connectTokenEntries ∧ e.mac = mac ∧ e.address = addr := by
  obtain ⟨v, pid, ex, x, d, t, hd, hacc, hm⟩ := hreg
  have h1 := processPacket_full hi hfull hacc.addrFree h
  exact ⟨h1.1, h1.2, registers_binds hi h ⟨v, pid, ex, x, d, t, hd, hacc, hm⟩⟩

/-- **`entries_persist`** — over EVERY trace of server operations (`Steps`: `NS.step` over a list of `NS.Op` from any
    state satisfying the invariant) a recorded entry `(time, address, mac)` is never removed and never changed, with one
    exception: at some point `s1` of the trace, where it still sits in its slot `i`, an `Accepted` connection request
    with a MAC the table does not hold arrives while **no slot of the table is empty** and `i` is the oldest slot
    (`Evicts`: `OldestAt` = minimal time, lowest index among equal times); then the new entry replaces it. -/
theorem entries_persist {a : AEAD} {s s' : NetcodeServer} {ops : List Op} (h : Steps a s ops s') (hi : ServerInv s)
    {i : Nat} {e : ConnectTokenEntry} (he : s.connectTokenEntries[i]? = some (some e)) :
    s'.connectTokenEntries[i]? = some (some e) ∨
    ∃ ops1 op ops2 s1 s2 r, ops = ops1 ++ op :: ops2 ∧ Steps a s ops1 s1 ∧
      s1.connectTokenEntries[i]? = some (some e) ∧ step a s1 op = some (r, s2) ∧
      ∃ addr buf mac, op = .packet addr buf ∧ Registers a s1 addr buf mac ∧
        (∀ e', some e' ∈ s1.connectTokenEntries → e'.mac ≠ mac) ∧ (∀ x ∈ s1.connectTokenEntries, x ≠ none) ∧
        OldestAt s1.connectTokenEntries i ∧
        s2.connectTokenEntries = s1.connectTokenEntries.set i (some ⟨s1.currentTime, addr, mac⟩) ∧
        Steps a s2 ops2 s' := by
  rcases NcBinding.entries_persist h hi he with h1 | ⟨ops1, op, ops2, s1, s2, r, e1, e2, e3, e4,
      ⟨addr, buf, mac, f1, f2, f3, f4, f5, f6⟩, e6⟩
  · exact Or.inl h1
  · exact Or.inr ⟨ops1, op, ops2, s1, s2, r, e1, e2, e3, e4, addr, buf, mac, f1, f2, f3, f4, f5, f6, e6⟩

theorem empty_slot_back {a : AEAD} {s s' : NetcodeServer} {ops : List Op} (h : Steps a s ops s')
    {j : Nat} (hj : s'.connectTokenEntries[j]? = some none) : s.connectTokenEntries[j]? = some none := by
  induction h with
  | nil => exact hj
  | @cons s s1 s' op ops r hs _ ih =>
    have h1 := ih hj
    have hlen := step_tbl_length hs
    have hjl : j < s.connectTokenEntries.length := by rw [← hlen]; exact (List.getElem?_eq_some_iff.mp h1).1
    cases hx : s.connectTokenEntries[j]? with
    | none => rw [List.getElem?_eq_none_iff] at hx; omega
    | some x =>
      cases x with
      | none => rfl
      | some e =>
        rcases step_entry_persists hs hx with h2 | ⟨_, _, _, _, _, _, _, _, h2⟩
        · rw [h1] at h2; cases h2
        · rw [h2, List.getElem?_set, if_pos rfl, if_pos hjl] at h1; cases h1

/-- **while the table has room nothing is ever evicted**: if a slot is still empty at the end of a trace, every entry
    recorded at its beginning is still in its slot, unchanged -/
theorem entries_persist_while_room {a : AEAD} {s s' : NetcodeServer} {ops : List Op} (h : Steps a s ops s')
    (hi : ServerInv s) {j : Nat} (hj : s'.connectTokenEntries[j]? = some none)
    {i : Nat} {e : ConnectTokenEntry} (he : s.connectTokenEntries[i]? = some (some e)) :
    s'.connectTokenEntries[i]? = some (some e) := by
  rcases NcBinding.entries_persist h hi he with h1 | ⟨_, _, _, _, _, _, _, hpre, _, hs, hev, hsuf⟩
  · exact h1
  · -- an eviction needs a full table, but slot `j` is empty to the end
    exact absurd hev (not_evicts_of_empty (empty_slot_back (.cons hs hsuf) hj))

/-- the history of a run: the datagrams handed to `process_packet`, each with the state it met -/
def arrivals (a : AEAD) : NetcodeServer → List Op → List Arrival
  | _, [] => []
  | s, op :: ops => arrivalOf s op ++ match step a s op with
    | some (_, s1) => arrivals a s1 ops
    | none => []

theorem reachH_steps {a : AEAD} {s s' : NetcodeServer} {ops : List Op} (h : Steps a s ops s') :
    ∀ {hist : List Arrival}, ReachH a s hist → ReachH a s' (hist ++ arrivals a s ops) := by
  induction h with
  | nil => intro hist hr; simpa [arrivals] using hr
  | @cons s s1 s' op ops r hs _ ih =>
    intro hist hr
    have := ih (.step hr hs)
    simpa [arrivals, hs, List.append_assoc] using this

/-- **every table entry of a reachable server stems from a registration**: an `Accepted` connection request from the
    entry's address, carrying its MAC, at the entry's time -/
theorem entry_origin {a : AEAD} {s : NetcodeServer} {hist : List Arrival} (hr : ReachH a s hist)
    {e : ConnectTokenEntry} (he : some e ∈ s.connectTokenEntries) :
    ∃ ar ∈ hist, ar.addr = e.address ∧ Registers a ar.s ar.addr ar.buf e.mac ∧ e.time = ar.s.currentTime := by
  induction hr with
  | init h =>
    obtain ⟨k, _, hk⟩ := h.entries
    rw [hk] at he
    simp at he
  | @step s s' hist op r hr hs ih =>
    rcases step_entry_origin hs he with h1 | ⟨buf, rfl, hreg, ht⟩
    · obtain ⟨ar, har, h2⟩ := ih h1
      exact ⟨ar, List.mem_append_left _ har, h2⟩
    · exact ⟨⟨s, e.address, buf⟩, List.mem_append_right _ (by simp [arrivalOf]), rfl, hreg, ht⟩

/-- **`bindings_in_force`** — in a history in which at most as many distinct token MACs were registered as the table
    has slots (`L` lists them: `Covered`), EVERY registration made so far is still recorded with the address it was
    made from — whatever happened in between (the session ended, timed out, was denied, its half-open entry expired,
    `set_max_clients` ...).  With exactly 2048 distinct MACs all 2048 bindings are in force. -/
theorem bindings_in_force {a : AEAD} {s : NetcodeServer} {hist : List Arrival} (hr : ReachH a s hist)
    {L : List Bytes} (hc : Covered a hist L) (hl : L.length ≤ s.connectTokenEntries.length)
    {ar : Arrival} (har : ar ∈ hist) {mac : Bytes} (hreg : Registers a ar.s ar.addr ar.buf mac) :
    ∃ e, some e ∈ s.connectTokenEntries ∧ e.mac = mac ∧ e.address = ar.addr := by
  induction hr generalizing L ar mac with
  | init h => cases har
  | @step s s' hist op r hr hs ih =>
    have hi := hr.inv
    have hlen := step_tbl_length hs
    have hc0 : Covered a hist L := fun ar har => hc ar (List.mem_append_left _ har)
    rcases List.mem_append.mp har with har | har
    · -- an earlier registration: its entry stays in its slot, since nothing is evicted
      obtain ⟨e, he, hm, ha⟩ := ih hc0 (by rw [← hlen]; exact hl) har hreg
      obtain ⟨j, hj⟩ := List.mem_iff_getElem?.mp he
      rcases step_entry_persists hs hj with h1 | ⟨addr, buf, mac0, rfl, hreg0, hn, hfull, -, -⟩
      · exact ⟨e, List.mem_iff_getElem?.mpr ⟨j, h1⟩, hm, ha⟩
      · -- a full table and a new MAC: more distinct MACs than slots
        exfalso
        have hm0 : mac0 ∈ L := hc ⟨s, addr, buf⟩ (List.mem_append_right _ (by simp [arrivalOf])) mac0 hreg0
        have := full_le s.connectTokenEntries hi.entries hfull (L.erase mac0) (by
          intro e' he'
          obtain ⟨ar', har', _, hreg', _⟩ := entry_origin hr he'
          exact (List.mem_erase_of_ne (hn e' he')).mpr (hc0 ar' har' _ hreg'))
        rw [List.length_erase_of_mem hm0] at this
        have : 0 < L.length := List.length_pos_of_mem hm0
        omega
    · -- the registration made by this very datagram
      obtain ⟨addr, buf, rfl, rfl⟩ := mem_arrivalOf har
      exact registers_binds hi (pp_of_step.mp hs) hreg

/-- **`token_binding_history`** — `s` reachable from a fresh server, `hist` its history, at most as many distinct token
    MACs registered so far as the table has slots (`NETCODE_TOKEN_ENTRIES` = 2048 for `NetcodeServer::new`:
    `token_binding_from_new`).  If the token with MAC `mac` was registered from address `ar.addr` at ANY earlier point
    (`ar ∈ hist`), then a connection request carrying a token with that MAC from any other address `addrB` is refused
    NOW: result `None`, the connected sessions as before, no half-open session created (every half-open session was
    there before with the same identity), the table untouched.
    LIMIT: this is about histories with ≤ 2048 distinct registered MACs; the 2049th evicts the oldest binding
    (`boundary_evicts`, `C05.binding_lost_when_full`). -/
theorem token_binding_history {a : AEAD} {s : NetcodeServer} {hist : List Arrival} (hr : ReachH a s hist)
    {L : List Bytes} (hc : Covered a hist L) (hl : L.length ≤ s.connectTokenEntries.length)
    {ar : Arrival} (har : ar ∈ hist) {mac : Bytes} (hreg : Registers a ar.s ar.addr ar.buf mac)
    {addrB : Addr} {buf : Bytes} {r : ServerResult} {s' : NetcodeServer}
    (h : s.processPacket a addrB buf = .ok (r, s')) {v : Bytes} {pid expire : Nat} {xnonce data : Bytes}
    (hdec : (Packet.decode a buf s.protocolId none none).1 = .ok (0, .connectionRequest v pid expire xnonce data))
    (hmac : tokenMac data = mac) (hne : addrB ≠ ar.addr) :
    r = .none ∧ sessions s'.clients = sessions s.clients ∧
    (∀ y p', pendingFind s'.pendingClients y = some p' →
      ∃ p, pendingFind s.pendingClients y = some p ∧ ident p' = ident p) ∧
    s'.connectTokenEntries = s.connectTokenEntries := by
  obtain ⟨e, he, hm, ha⟩ := bindings_in_force hr hc hl har hreg
  have hi := hr.inv
  have hm' : e.mac = tokenMac data := by rw [hm, hmac]
  have ha' : e.address ≠ addrB := by rw [ha]; exact fun x => hne x.symm
  have hb := C05.token_address_binding_partial hi h hdec he hm' ha'
  refine ⟨hb.1, hb.2.1, hb.2.2, ?_⟩
  rcases processPacket_tbl h with ⟨eq, _⟩ | ⟨mac', ⟨v', pid', e', x', d', t, hd', hacc, _⟩, _⟩
  · exact eq
  · rw [hdec] at hd'; cases hd'
    exact absurd hacc (not_accepted_bound hi he hm' ha' t)

theorem same_mac_same_address {a : AEAD} {s : NetcodeServer} {hist : List Arrival} (hr : ReachH a s hist)
    {L : List Bytes} (hc : Covered a hist L) (hl : L.length ≤ s.connectTokenEntries.length)
    {ar ar' : Arrival} (har : ar ∈ hist) (har' : ar' ∈ hist) {mac : Bytes}
    (hreg : Registers a ar.s ar.addr ar.buf mac) (hreg' : Registers a ar'.s ar'.addr ar'.buf mac) :
    ar'.addr = ar.addr := by
  obtain ⟨e, he, hm, ha⟩ := bindings_in_force hr hc hl har hreg
  obtain ⟨e', he', hm', ha'⟩ := bindings_in_force hr hc hl har' hreg'
  obtain ⟨i, hi⟩ := List.mem_iff_getElem?.mp he
  obtain ⟨j, hj⟩ := List.mem_iff_getElem?.mp he'
  have : i = j := hr.inv.entries i j e e' hi hj (by rw [hm, hm'])
  subst this
  rw [hi] at hj
  simp only [Option.some.injEq] at hj
  subst hj
  rw [← ha, ← ha']

/-- **Event level** (with `C05.connected_only_after_request`): in such a history every `ClientConnected(id, addr, ud)`
    comes from the address that FIRST validly presented the token — there is an earlier `Accepted` connection request
    from `addr` whose token carries exactly `(id, ud)`, and every arrival of the history (in particular the first one)
    that registered that token's MAC came from `addr`. -/
theorem connected_from_first_presenter {a : AEAD} {s s' : NetcodeServer} {hist : List Arrival} (hr : ReachH a s hist)
    {L : List Bytes} (hc : Covered a hist L) (hl : L.length ≤ s.connectTokenEntries.length)
    {addr addr' : Addr} {buf ud ka : Bytes} {id : Nat}
    (h : s.processPacket a addr buf = .ok (.clientConnected id addr' ud ka, s')) :
    addr' = addr ∧
    ∃ ar ∈ hist, ar.addr = addr ∧ ∃ v pid expire xnonce data t,
      (Packet.decode a ar.buf ar.s.protocolId none none).1 = .ok (0, .connectionRequest v pid expire xnonce data) ∧
      Accepted a ar.s addr v pid expire xnonce data t ∧ t.clientId = id ∧ t.userData = ud ∧
      ∀ ar' ∈ hist, Registers a ar'.s ar'.addr ar'.buf (tokenMac data) → ar'.addr = addr := by
  obtain ⟨h0, ar, har, hax, v, pid, expire, xnonce, data, t, hd, hacc, _, hid, hud, _⟩ :=
    C05.connected_only_after_request hr h
  refine ⟨h0, ar, har, hax, v, pid, expire, xnonce, data, t, hd, hacc, hid, hud, fun ar' har' hreg' => ?_⟩
  have hreg : Registers a ar.s ar.addr ar.buf (tokenMac data) :=
    ⟨v, pid, expire, xnonce, data, t, hd, by rw [hax]; exact hacc, rfl⟩
  rw [← hax]
  exact same_mac_same_address hr hc hl har har' hreg hreg'

/-- **from `NetcodeServer::new`**: the table has `NETCODE_TOKEN_ENTRIES` = 2048 slots; for every run `ops` from the fresh
    server in which at most 2048 distinct token MACs are registered, a token registered from `ar.addr` at any point of
    the run is refused from every other address at its end. -/
theorem token_binding_from_new {a : AEAD} {t m pid0 : Nat} {pa : List Addr} {sec : Bool} {k ck : Bytes}
    {s0 s : NetcodeServer} (hnew : NetcodeServer.new t m pid0 pa sec k ck = .ok s0) {ops : List Op}
    (hst : Steps a s0 ops s) {L : List Bytes} (hc : Covered a (arrivals a s0 ops) L) (hl : L.length ≤ 2048)
    {ar : Arrival} (har : ar ∈ arrivals a s0 ops) {mac : Bytes} (hreg : Registers a ar.s ar.addr ar.buf mac)
    {addrB : Addr} {buf : Bytes} {r : ServerResult} {s' : NetcodeServer}
    (h : s.processPacket a addrB buf = .ok (r, s')) {v : Bytes} {pid expire : Nat} {xnonce data : Bytes}
    (hdec : (Packet.decode a buf s.protocolId none none).1 = .ok (0, .connectionRequest v pid expire xnonce data))
    (hmac : tokenMac data = mac) (hne : addrB ≠ ar.addr) :
    r = .none ∧ sessions s'.clients = sessions s.clients ∧
    (∀ y p', pendingFind s'.pendingClients y = some p' →
      ∃ p, pendingFind s.pendingClients y = some p ∧ ident p' = ident p) ∧
    s'.connectTokenEntries = s.connectTokenEntries := by
  obtain ⟨hi0, _, _, _, _, hempty, hlen, -⟩ := new_inv hnew
  have hr : ReachH a s ([] ++ arrivals a s0 ops) := reachH_steps hst (.init hempty)
  rw [List.nil_append] at hr
  have hlen' : s.connectTokenEntries.length = 2048 := by rw [hst.tbl_length]; exact hlen
  exact token_binding_history hr hc (by rw [hlen']; exact hl) har hreg h hdec hmac hne

/-- **Room left** (fewer occupied slots than slots, e.g. k < 2048): an `Accepted` request with a new MAC writes its
    entry to the first empty slot; every recorded entry stays in its slot; one more slot is occupied. -/
theorem boundary_room {a : AEAD} {s s' : NetcodeServer} {addr : Addr} {buf mac : Bytes} {r : ServerResult}
    (h : s.processPacket a addr buf = .ok (r, s')) (hreg : Registers a s addr buf mac)
    (hn : ∀ e, some e ∈ s.connectTokenEntries → e.mac ≠ mac)
    (hroom : occupied s.connectTokenEntries < s.connectTokenEntries.length) :
    ∃ i, FirstEmpty s.connectTokenEntries i ∧
      s'.connectTokenEntries = s.connectTokenEntries.set i (some ⟨s.currentTime, addr, mac⟩) ∧
      (∀ (j : Nat) (e : ConnectTokenEntry), s.connectTokenEntries[j]? = some (some e) →
        s'.connectTokenEntries[j]? = some (some e)) ∧
      occupied s'.connectTokenEntries = occupied s.connectTokenEntries + 1 := by
  obtain ⟨i, h1, h2, h3, h4⟩ := tableAdd_room (ne := ⟨s.currentTime, addr, mac⟩) hn hroom
  rw [← registers_table h hreg] at h2 h3 h4
  exact ⟨i, h1, h2, h3, h4⟩

/-- **No room** (all slots occupied, e.g. 2048 distinct MACs registered): the next `Accepted` request with a new MAC
    evicts EXACTLY the oldest entry — slot `i` with `OldestAt table i` now holds the new entry, every other slot is as
    before. -/
theorem boundary_evicts {a : AEAD} {s s' : NetcodeServer} {addr : Addr} {buf mac : Bytes} {r : ServerResult}
    (hi : ServerInv s) (h : s.processPacket a addr buf = .ok (r, s')) (hreg : Registers a s addr buf mac)
    (hn : ∀ e, some e ∈ s.connectTokenEntries → e.mac ≠ mac)
    (hfull : ∀ x ∈ s.connectTokenEntries, x ≠ none) :
    ∃ i, OldestAt s.connectTokenEntries i ∧
      s'.connectTokenEntries = s.connectTokenEntries.set i (some ⟨s.currentTime, addr, mac⟩) ∧
      (∀ j : Nat, j ≠ i → s'.connectTokenEntries[j]? = s.connectTokenEntries[j]?) ∧
      s'.connectTokenEntries[i]? = some (some ⟨s.currentTime, addr, mac⟩) := by
  obtain ⟨i, h1, h2, h3, h4⟩ := tableAdd_full (ne := ⟨s.currentTime, addr, mac⟩) hn hfull
  rw [← registers_table h hreg] at h2 h3 h4
  exact ⟨i, h1, h2, h3, h4 hi.entriesPos⟩

/-! ## examples (toy AEAD `Ex.a`, states of Lemmas/NcExamples.lean / Props/C05.lean; their token table has 3 slots) -/
section Examples
open Ex

def challenged (R : Res Empty (ServerResult × NetcodeServer)) (ad : Addr) : Bool :=
  match R with
  | .ok (.packetToSend ad' _, s') => ad' == ad && (pendingFind s'.pendingClients ad).isSome
  | _ => false

def addrC : Addr := .v4 [10, 0, 0, 4] 4002
/-- the one-slot server `f1` after A's response: A connected, full -/
def g2 : NetcodeServer := { f1 with pendingClients := [], clients := [some connA] }
def deniedB1 : Bytes := 129 :: (leBytes (2 ^ 63 + 1) 8 ++ List.replicate 16 0)
/-- ... after B's request: answered with `ConnectionDenied`, no half-open session, but `(macB, addrB)` recorded -/
def g3 : NetcodeServer :=
  { g2 with connectTokenEntries := [some ⟨0, addrA, macA⟩, some ⟨0, addrB, macB⟩, none], globalSequence := 2 ^ 63 + 2 }

def mac25 : Bytes := List.replicate 15 0 ++ [25]
def mac35 : Bytes := List.replicate 15 0 ++ [35]
/-- all 3 slots occupied; slots 0 and 1 have the same, minimal, time -/
def sFullB : NetcodeServer :=
  { s0 with connectTokenEntries := [some ⟨1, addrA, macA⟩, some ⟨1, addrB, mac25⟩, some ⟨3, addrB, mac35⟩]
            currentTime := 4 }
def chalB0 : Bytes := 130 :: (leBytes (2 ^ 63) 8 ++ leBytes 1 8 ++ chalTokB ++ List.replicate 16 0)
def sFullB' : NetcodeServer :=
  { sFullB with connectTokenEntries := [some ⟨4, addrB, macB⟩, some ⟨1, addrB, mac25⟩, some ⟨3, addrB, mac35⟩]
                challengeSequence := 1, globalSequence := 2 ^ 63 + 1
                pendingClients := [(addrB, mkPending 4 addrB 30 privB)] }
/-- `s1` after B's request: challenged, `(macB, addrB)` recorded in the first empty slot, slot 1 -/
def s1B : NetcodeServer :=
  { s1 with connectTokenEntries := [some ⟨0, addrA, macA⟩, some ⟨0, addrB, macB⟩, none]
            challengeSequence := 2, globalSequence := 2 ^ 63 + 2
            pendingClients := [(addrA, pendA), (addrB, pendB)] }

/-- everything the scenarios below read off the model, in one kernel evaluation.  The MAC of B's token, how B's
    request and A's response decode without a key.  Scenario 1: in `s3` A's request is refused from B's address and
    challenged from A's own.  Scenario 2: A's response fills the one-slot server (`g2`), B's request is denied and recorded
    (`g3`), and refused from a third address.  Scenario 3: on the full table B's request overwrites slot 0 (`tableAdd`),
    after which A's token is challenged from a third address; in `s1` B's request goes to the empty slot 1. -/
theorem evaluated :
    (tokenMac privDataB = macB ∧
      (Packet.decode a reqB 0 none none).1 =
        .ok (0, .connectionRequest Netcode.C.NETCODE_VERSION_INFO 42 30 xnB privDataB) ∧
      (Packet.decode a respA 42 none none).1 = .err .unavailablePrivateKey) ∧
    (s3.processPacket a addrB reqA = .ok (.none, s3) ∧ challenged (s3.processPacket a addrA reqA) addrA = true) ∧
    (step a f1 (.packet addrA respA) = some (.clientConnected 11 addrA udA kaA1, g2) ∧
      step a g2 (.packet addrB reqB) = some (.packetToSend addrB deniedB1, g3) ∧
      g3.processPacket a addrC reqB = .ok (.none, g3)) ∧
    (step a sFullB (.packet addrB reqB) = some (.packetToSend addrB chalB0, sFullB') ∧
      tableAdd sFullB.connectTokenEntries ⟨4, addrB, macB⟩ =
        [some ⟨4, addrB, macB⟩, some ⟨1, addrB, mac25⟩, some ⟨3, addrB, mac35⟩] ∧
      challenged (sFullB'.processPacket a addrC reqA) addrC = true ∧
      step a s1 (.packet addrB reqB) = some (.packetToSend addrB chalB, s1B)) := by
  decide +kernel

theorem macA_eq : tokenMac privDataA = macA := C05.evaluated.1.2.2.symm
theorem macB_eq : tokenMac privDataB = macB := evaluated.1.1

theorem reqB_decodes (pid : Nat) : (Packet.decode a reqB pid none none).1 =
    .ok (0, .connectionRequest Netcode.C.NETCODE_VERSION_INFO 42 30 xnB privDataB) := by
  have h : ∀ pid, Packet.decode a reqB pid none none = Packet.decode a reqB 0 none none := by
    intro pid; rw [Packet.decode_eq_wire, Packet.decode_eq_wire]
  rw [h]; exact evaluated.1.2.1

theorem reqA_registers {s : NetcodeServer} {ad : Addr} {mac : Bytes} (h : Registers a s ad reqA mac) : mac = macA := by
  obtain ⟨v, pid, e, x, d, t, hd, _, rfl⟩ := h
  rw [reqA_decodes] at hd; cases hd; exact macA_eq
theorem reqB_registers {s : NetcodeServer} {ad : Addr} {mac : Bytes} (h : Registers a s ad reqB mac) : mac = macB := by
  obtain ⟨v, pid, e, x, d, t, hd, _, rfl⟩ := h
  rw [reqB_decodes] at hd; cases hd; exact macB_eq
theorem respA_registers {s : NetcodeServer} {ad : Addr} {mac : Bytes} (hp : s.protocolId = 42) :
    ¬ Registers a s ad respA mac := by
  rintro ⟨v, pid, e, x, d, t, hd, _, _⟩
  rw [hp, evaluated.1.2.2] at hd; cases hd

theorem reqA_registers_s0 : Registers a s0 addrA reqA macA := by
  have h := C05.pending_only_if s0_empty.inv (pp_of_step.mp s_request) (x := addrA) (p' := pendA) C05.evaluated.1.1
  rcases h with ⟨p, hp, _⟩ | ⟨_, v, pid, e, x, d, t, hd, hacc, _⟩
  · cases hp
  · have hd' := hd
    rw [reqA_decodes] at hd'; cases hd'
    exact ⟨_, _, _, _, _, t, hd, hacc, macA_eq⟩

/-! ### scenario 1: A registers its token, connects, is disconnected; then the token comes from B's address -/

theorem reachH_s3 : ReachH a s3 [⟨s0, addrA, reqA⟩, ⟨s1, addrA, respA⟩] :=
  .step (.step (.step (.init s0_empty) s_request) s_response) s_disconnect

theorem covered_s3 : Covered a [⟨s0, addrA, reqA⟩, ⟨s1, addrA, respA⟩] [macA] := by
  intro ar har mac hreg
  simp only [List.mem_cons, List.not_mem_nil, or_false] at har
  rcases har with rfl | rfl
  · simp [reqA_registers hreg]
  · exact absurd hreg (respA_registers rfl)

/-- `token_binding_history`: A's session is gone (`s3` has no session and no half-open session), the token is unexpired
    — and the same request from B's address is still refused -/
example : ∀ r s', s3.processPacket a addrB reqA = .ok (r, s') →
    r = .none ∧ sessions s'.clients = sessions s3.clients ∧
    (∀ y p', pendingFind s'.pendingClients y = some p' →
      ∃ p, pendingFind s3.pendingClients y = some p ∧ ident p' = ident p) ∧
    s'.connectTokenEntries = s3.connectTokenEntries :=
  fun r s' h => token_binding_history reachH_s3 covered_s3 (by decide) (ar := ⟨s0, addrA, reqA⟩) (by simp)
    reqA_registers_s0 h (reqA_decodes _) macA_eq (by decide)
example : s3.processPacket a addrB reqA = .ok (.none, s3) := evaluated.2.1.1
example : challenged (s3.processPacket a addrA reqA) addrA = true := evaluated.2.1.2

example : ∃ e, some e ∈ s3.connectTokenEntries ∧ e.mac = macA ∧ e.address = addrA :=
  bindings_in_force reachH_s3 covered_s3 (by decide) (ar := ⟨s0, addrA, reqA⟩) (by simp) reqA_registers_s0

/-- `entries_persist` / `entries_persist_while_room`: the entry written in `s1` survives A's response and the
    disconnect -/
theorem steps_s1_s3 : Steps a s1 [.packet addrA respA, .disconnect 11] s3 :=
  .cons s_response (.cons s_disconnect (.nil s3))
example : s3.connectTokenEntries[0]? = some (some ⟨0, addrA, macA⟩) :=
  entries_persist_while_room steps_s1_s3 C05.inv_s1 (j := 1) rfl (i := 0) rfl
example : s3.connectTokenEntries[0]? = some (some ⟨0, addrA, macA⟩) := by
  rcases entries_persist steps_s1_s3 C05.inv_s1 (i := 0) (e := ⟨0, addrA, macA⟩) rfl with
    h | ⟨ops1, op, ops2, t1, t2, r, _, hpre, _, hs, _, _, _, _, _, _, hfull, _, _, hsuf⟩
  · exact h
  · -- an eviction needs a full table, but slot 1 is empty to the end
    have h1 : t1.connectTokenEntries[1]? = some none :=
      empty_slot_back (.cons hs hsuf) (s' := s3) rfl
    exact absurd rfl (hfull none (List.mem_iff_getElem?.mpr ⟨1, h1⟩))

example : addrA = addrA ∧ ∃ ar ∈ [(⟨s0, addrA, reqA⟩ : Arrival)], ar.addr = addrA ∧ ∃ v pid expire xnonce data t,
      (Packet.decode a ar.buf ar.s.protocolId none none).1 = .ok (0, .connectionRequest v pid expire xnonce data) ∧
      Accepted a ar.s addrA v pid expire xnonce data t ∧ t.clientId = 11 ∧ t.userData = udA ∧
      ∀ ar' ∈ [(⟨s0, addrA, reqA⟩ : Arrival)], Registers a ar'.s ar'.addr ar'.buf (tokenMac data) → ar'.addr = addrA :=
  connected_from_first_presenter C05.reachH_s1 (L := [macA]) (by
      intro ar har mac hreg
      simp only [List.mem_cons, List.not_mem_nil, or_false] at har
      subst har; simp [reqA_registers hreg])
    (by decide) (pp_of_step.mp s_response)

/-! ### scenario 2: the one-slot server is full; B's valid request is DENIED — and still binds B's token -/

theorem g_respA : step a f1 (.packet addrA respA) = some (.clientConnected 11 addrA udA kaA1, g2) := evaluated.2.2.1.1
theorem g_reqB : step a g2 (.packet addrB reqB) = some (.packetToSend addrB deniedB1, g3) := evaluated.2.2.1.2.1
theorem inv_g2 : ServerInv g2 := step_inv (step_inv f0_empty.inv f_reqA) g_respA

theorem reachH_g3 : ReachH a g3 [⟨f0, addrA, reqA⟩, ⟨f1, addrA, respA⟩, ⟨g2, addrB, reqB⟩] :=
  .step (.step (.step (.init f0_empty) f_reqA) g_respA) g_reqB

theorem covered_g3 : Covered a [⟨f0, addrA, reqA⟩, ⟨f1, addrA, respA⟩, ⟨g2, addrB, reqB⟩] [macA, macB] := by
  intro ar har mac hreg
  simp only [List.mem_cons, List.not_mem_nil, or_false] at har
  rcases har with rfl | rfl | rfl
  · simp [reqA_registers hreg]
  · exact absurd hreg (respA_registers rfl)
  · simp [reqB_registers hreg]

/-- B's request registers `macB` in the full server `g2` (`step_table_effect`: the table changed, so the datagram
    registered a MAC) -/
theorem reqB_registers_g2 : Registers a g2 addrB reqB macB := by
  rcases step_table_effect inv_g2 g_reqB with ⟨e, _⟩ | ⟨addr, buf, mac, hop, hreg, _⟩
  · exact absurd e (by decide)
  · cases hop
    rw [← reqB_registers hreg]; exact hreg

example : g3.clients = g2.clients ∧
    (ServerResult.packetToSend addrB deniedB1 = .none ∨
      ∃ out, ServerResult.packetToSend addrB deniedB1 = .packetToSend addrB out ∧ IsDenied a g2 out) ∧
    ∃ e, some e ∈ g3.connectTokenEntries ∧ e.mac = macB ∧ e.address = addrB :=
  denied_request_still_binds inv_g2 (by decide) reqB_registers_g2 (pp_of_step.mp g_reqB)

/-- `token_binding_history`: B was denied, has no session and no half-open session; its token from a third address is
    refused with `None` (not even a `ConnectionDenied`) -/
example : ∀ r s', g3.processPacket a addrC reqB = .ok (r, s') →
    r = .none ∧ sessions s'.clients = sessions g3.clients ∧
    (∀ y p', pendingFind s'.pendingClients y = some p' →
      ∃ p, pendingFind g3.pendingClients y = some p ∧ ident p' = ident p) ∧
    s'.connectTokenEntries = g3.connectTokenEntries :=
  fun r s' h => token_binding_history reachH_g3 covered_g3 (by decide) (ar := ⟨g2, addrB, reqB⟩) (by simp)
    reqB_registers_g2 h (reqB_decodes _) macB_eq (by decide)
example : g3.processPacket a addrC reqB = .ok (.none, g3) := evaluated.2.2.1.2.2

/-! ### scenario 3: the boundary on a 3-slot table -/

theorem sFullB_inv : ServerInv sFullB := by
  have h0 := s0_empty.inv
  obtain ⟨h1, h2, h3, h4, h5, _, _, h8, h9⟩ := h0
  refine ⟨h1, ?_, ?_, h4, h5, by decide, ?_, h8, h9⟩
  · intro i c hc; exact (h2 i c hc).mono (by decide)
  · intro p hp; cases hp
  · intro i j ei ej hi hj he
    have hi' : i < 3 := (List.getElem?_eq_some_iff.mp hi).1
    have hj' : j < 3 := (List.getElem?_eq_some_iff.mp hj).1
    match i, j, hi', hj' with
    | 0, 0, _, _ => rfl
    | 1, 1, _, _ => rfl
    | 2, 2, _, _ => rfl
    | 0, 1, _, _ => simp [sFullB] at hi hj; subst hi hj; exact absurd he (by decide)
    | 0, 2, _, _ => simp [sFullB] at hi hj; subst hi hj; exact absurd he (by decide)
    | 1, 0, _, _ => simp [sFullB] at hi hj; subst hi hj; exact absurd he (by decide)
    | 1, 2, _, _ => simp [sFullB] at hi hj; subst hi hj; exact absurd he (by decide)
    | 2, 0, _, _ => simp [sFullB] at hi hj; subst hi hj; exact absurd he (by decide)
    | 2, 1, _, _ => simp [sFullB] at hi hj; subst hi hj; exact absurd he (by decide)

theorem sFullB_step : step a sFullB (.packet addrB reqB) = some (.packetToSend addrB chalB0, sFullB') :=
  evaluated.2.2.2.1

theorem reqB_registers_sFullB : Registers a sFullB addrB reqB macB := by
  rcases step_table_effect sFullB_inv sFullB_step with ⟨e, _⟩ | ⟨addr, buf, mac, hop, hreg, _⟩
  · exact absurd e (by decide)
  · cases hop
    rw [← reqB_registers hreg]; exact hreg

/-- `boundary_evicts`: the new MAC evicts exactly one entry; the tie between slots 0 and 1 (both time 1) goes to the
    lower index — slot 0, A's binding -/
example : ∃ i, OldestAt sFullB.connectTokenEntries i ∧
    sFullB'.connectTokenEntries = sFullB.connectTokenEntries.set i (some ⟨4, addrB, macB⟩) ∧
    (∀ j : Nat, j ≠ i → sFullB'.connectTokenEntries[j]? = sFullB.connectTokenEntries[j]?) ∧
    sFullB'.connectTokenEntries[i]? = some (some ⟨4, addrB, macB⟩) :=
  boundary_evicts sFullB_inv (pp_of_step.mp sFullB_step) reqB_registers_sFullB (by
      intro e he
      simp only [sFullB, List.mem_cons, Option.some.injEq, List.not_mem_nil, or_false] at he
      rcases he with rfl | rfl | rfl <;> decide)
    (by
      intro x hx
      simp only [sFullB, List.mem_cons, List.not_mem_nil, or_false] at hx
      rcases hx with rfl | rfl | rfl <;> simp)
example : tableAdd sFullB.connectTokenEntries ⟨4, addrB, macB⟩ =
    [some ⟨4, addrB, macB⟩, some ⟨1, addrB, mac25⟩, some ⟨3, addrB, mac35⟩] := evaluated.2.2.2.2.1
example : OldestAt sFullB.connectTokenEntries 0 := by
  refine Or.inl ⟨⟨1, addrA, macA⟩, rfl, by decide, fun j e' hj => absurd hj (Nat.not_lt_zero j), fun j e' hj => ?_⟩
  have hj' : j < 3 := (List.getElem?_eq_some_iff.mp hj).1
  match j, hj' with
  | 0, _ => simp [sFullB] at hj; subst hj; decide
  | 1, _ => simp [sFullB] at hj; subst hj; decide
  | 2, _ => simp [sFullB] at hj; subst hj; decide
/-- the limit made visible: after the eviction A's token is accepted from a third address -/
example : challenged (sFullB'.processPacket a addrC reqA) addrC = true := evaluated.2.2.2.2.2.1

/-- `boundary_room` in `s1` (one of three slots occupied): B's request goes to the first empty slot, slot 1 -/
theorem s1_reqB : step a s1 (.packet addrB reqB) = some (.packetToSend addrB chalB, s1B) := evaluated.2.2.2.2.2.2
theorem reqB_registers_s1 : Registers a s1 addrB reqB macB := by
  rcases step_table_effect C05.inv_s1 s1_reqB with ⟨e, _⟩ | ⟨addr, buf, mac, hop, hreg, _⟩
  · exact absurd e (by decide)
  · cases hop
    rw [← reqB_registers hreg]; exact hreg
example : ∃ i, FirstEmpty s1.connectTokenEntries i ∧
    s1B.connectTokenEntries = s1.connectTokenEntries.set i (some ⟨0, addrB, macB⟩) ∧
    (∀ (j : Nat) (e : ConnectTokenEntry), s1.connectTokenEntries[j]? = some (some e) →
      s1B.connectTokenEntries[j]? = some (some e)) ∧
    occupied s1B.connectTokenEntries = occupied s1.connectTokenEntries + 1 :=
  boundary_room (pp_of_step.mp s1_reqB) reqB_registers_s1 (by
      intro e he
      simp only [s1, List.mem_cons, Option.some.injEq, List.not_mem_nil, or_false, reduceCtorEq] at he
      subst he; decide)
    (by decide)

/-- `token_binding_from_new` on the real 2048-slot server: the fresh server processes A's request (whatever it
    answers); afterwards A's token from B's address is refused -/
example : ∃ s0' s1', NetcodeServer.new 0 2 42 [srvAddr] true key ckey = .ok s0' ∧
    Steps a s0' [.packet addrA reqA] s1' ∧ Covered a (arrivals a s0' [.packet addrA reqA]) [macA] ∧
    ∀ r s', s1'.processPacket a addrB reqA = .ok (r, s') →
      r = .none ∧ sessions s'.clients = sessions s1'.clients ∧
      (∀ y p', pendingFind s'.pendingClients y = some p' →
        ∃ p, pendingFind s1'.pendingClients y = some p ∧ ident p' = ident p) ∧
      s'.connectTokenEntries = s1'.connectTokenEntries := by
  obtain ⟨s0', h0⟩ := new_ne_panic (t := 0) (m := 2) (pid := 42) (pa := [srvAddr]) (sec := true) (k := key) (ck := ckey)
    (by decide)
  have hi := (new_inv h0).1
  have hs0 : s0' = { clients := List.replicate 2 none, pendingClients := []
                     connectTokenEntries := List.replicate Netcode.C.NETCODE_TOKEN_ENTRIES none, protocolId := 42
                     connectKey := key, maxClients := 2, challengeSequence := 0, challengeKey := ckey
                     publicAddresses := [srvAddr], currentTime := 0
                     globalSequence := Netcode.C.NETCODE_GLOBAL_SEQUENCE_START, secure := true } := by
    unfold NetcodeServer.new at h0; rw [if_neg (by decide)] at h0; cases h0; rfl
  have hg : s0'.globalSequence < U64_MAX := by rw [hs0]; decide
  have hc : s0'.challengeSequence < U64_MAX := by rw [hs0]; decide
  obtain ⟨r, s1', hpp, _⟩ := pp_spec a hi hg hc addrA reqA
  have hs : step a s0' (.packet addrA reqA) = some (r, s1') := pp_of_step.mpr hpp
  have harr : arrivals a s0' [.packet addrA reqA] = [⟨s0', addrA, reqA⟩] := by
    simp only [arrivals, hs, arrivalOf, List.append_nil]
  have hcov : Covered a (arrivals a s0' [.packet addrA reqA]) [macA] := by
    intro ar har mac hreg
    rw [harr] at har
    simp only [List.mem_cons, List.not_mem_nil, or_false] at har
    subst har
    simp [reqA_registers hreg]
  have hacc : Accepted a s0' addrA Netcode.C.NETCODE_VERSION_INFO 42 30 xnA privDataA privA := by
    refine ⟨rfl, by rw [hs0], by rw [hs0]; decide, privA_opens s0' (by rw [hs0]), fun _ => ⟨srvAddr, by simp [privA], by rw [hs0]; simp⟩,
      by rw [hs0]; decide, by rw [hs0]; decide, Or.inr (by rw [hs0]; decide), ?_⟩
    rcases findOrAdd_spec s0' ⟨s0'.currentTime, addrA, tokenMac privDataA⟩ with ⟨e, he, _⟩ | ⟨_, k, h⟩
    · rw [hs0] at he; simp at he
    · rw [h]
  have hreg : Registers a s0' addrA reqA macA := ⟨_, _, _, _, _, privA, by rw [reqA_decodes], hacc, macA_eq⟩
  refine ⟨s0', s1', h0, .cons hs (.nil s1'), hcov, fun r' s' h => ?_⟩
  exact token_binding_from_new h0 (.cons hs (.nil s1')) hcov (by decide) (ar := ⟨s0', addrA, reqA⟩)
    (by rw [harr]; simp) hreg h (reqA_decodes _) macA_eq (show addrB ≠ addrA by decide)

end Examples
end RenetVerif.C05H
