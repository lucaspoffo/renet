/-
  A MULTI-CLIENT system: ONE `Server` (Renet/Server.lean: a table id → Conn) and any number of remote client
  endpoints (each a `Conn`), one adversarial network per client, and the simulation that projects it, client by
  client and direction by direction, onto the two-endpoint system of `Lemmas/System.lean`.

  Part A  — the two-endpoint system with the extra endpoint-local operations that a BIDIRECTIONAL link needs
            (`VStep`): in `System.Sys` endpoint A only submits and endpoint B only obtains; on a real link the server
            side connection also calls `receive_message`, the client also calls `send_message`, and either side may
            be disconnected by its application.  Those operations are `System.Idle` moves, so whatever the operations
            of `Sys` and the `Idle` moves keep is kept by every `VStep` (`vstep_closed`).
  Part B  — `MSys`, `MOp`, `MSys.step`, `MSys.run`.
  Part C  — the local view `LV` of client `i` (its slot in the server table + its link) and the local action
            `MOp.act i`: `step_view` — the view of `i` after a step is a function of the view of `i` before and of
            the local action alone (operations addressed to other clients are `skip`); proved together with
            the well-formedness of the next state in `step_spec`, one case per operation.
  Part D  — `down` / `up`: the two `System.Sys` projections of a view; `sim`: every local action is a `VStep` of
            both projections (or starts a fresh session).
  Part E  — run level: `reach_vstep` (what the operations of `Sys` and the `Idle` moves keep holds of both directions of every untainted link of
            every reachable state, and its submission logs are sub-sequences of what the op list addressed to it;
            `reach`: the instance `Good`), non-interference `run_agree`.
-/
import RenetVerif.Lemmas.System
import RenetVerif.Props.C11
namespace RenetVerif.MultiSystem
open RenetVerif C RenetVerif.System

/-! ## Part A: the bidirectional two-endpoint step relation -/

/-- the fresh session: both endpoints built from the configuration and marked connected
    (`RenetServer::add_connection` / the transport's `set_connected` on the client) -/
def Sys.fresh (cfg : Cfg) : Sys :=
  { Sys.init cfg with a := (Conn.fromChannels cfg.budget cfg.send cfg.recv).setConnected
                      b := (Conn.fromChannels cfg.budget cfg.recv cfg.send).setConnected }

/-- One step of a bidirectional link, seen from one direction (A = the submitting side of that direction).
    `op`: an operation of `System.Sys`.  `recvA`, `sendB`: the traffic of the OTHER direction at the two endpoints.
    `discA`, `discB`: an application-level disconnect.  `fresh`: a new session replaces the link.  `stutter`: an
    operation that concerns another client. -/
inductive VStep (cfg : Cfg) : Sys → Sys → Prop
  | stutter (s : Sys) : VStep cfg s s
  | op {s s' : Sys} (o : SysOp) : s.step o = some s' → VStep cfg s s'
  | recvA {s : Sys} {a' : Conn} {ch : Nat} {mo : Option Bytes} :
      s.a.receiveMessage ch = .ok (a', mo) → VStep cfg s { s with a := a' }
  | sendB {s : Sys} {b' : Conn} {ch : Nat} {m : Bytes} : s.b.sendMessage ch m = .ok b' → VStep cfg s { s with b := b' }
  | discA (s : Sys) (r : Reason) : VStep cfg s { s with a := s.a.disconnectWith r }
  | discB (s : Sys) (r : Reason) : VStep cfg s { s with b := s.b.disconnectWith r }
  | fresh (s : Sys) : VStep cfg s (Sys.fresh cfg)

theorem vstep_closed {G : Cfg → Sys → Prop} (hinit : ∀ cfg, G cfg (Sys.init cfg))
    (hstep : ∀ {cfg s s' o}, G cfg s → s.step o = some s' → G cfg s')
    (hidle : ∀ {cfg s s'}, G cfg s → Idle cfg s s' → G cfg s') :
    (∀ cfg, G cfg (Sys.fresh cfg)) ∧ ∀ {cfg s s'}, G cfg s → VStep cfg s s' → G cfg s' := by
  have hfresh : ∀ cfg, G cfg (Sys.fresh cfg) := fun cfg =>
    hidle (hidle (hinit cfg) (idle_statusA cfg _ .connected rfl .connected))
      (idle_statusB cfg { Sys.init cfg with a := _ } .connected rfl .connected)
  refine ⟨hfresh, fun hg hs => ?_⟩
  cases hs with
  | stutter => exact hg
  | op o h => exact hstep hg h
  | recvA h =>
    obtain ⟨rr, ru, rfl⟩ := receiveMessage_eq h
    exact hidle hg (.a (.receiveMessage · h) id)
  | sendB h =>
    obtain ⟨sr, su, st, rfl, hl⟩ := sendMessage_eq h
    exact hidle hg (.b (.sendMessage · h) hl)
  | discA r => exact hidle hg (idle_statusA _ _ _ rfl .disconnect)
  | discB r => exact hidle hg (idle_statusB _ _ _ rfl .disconnect)
  | fresh => exact hfresh _

/-! ## Part B: the multi-client system -/

/-- the configuration shared by the server and every client -/
structure Params where
  budget : Nat
  sCh : List ChanCfg     -- server → client
  cCh : List ChanCfg     -- client → server

def Params.down (P : Params) : Cfg := ⟨P.budget, P.sCh, P.cCh⟩
def Params.up (P : Params) : Cfg := ⟨P.budget, P.cCh, P.sCh⟩

def paramsOf (sv : Server) : Params := ⟨sv.budget, sv.serverCh, sv.clientCh⟩

/-- Everything that belongs to ONE client id outside the server table: the remote endpoint, the two emission
    histories of its private network, and the ghost logs.  `last` is a ghost copy of the server-side connection taken
    when `remove_connection` drops it from the table (so that the link can still be looked at afterwards);
    `tainted` records that hostile bytes were handed to the server under this id. -/
structure Link where
  cl : Conn
  last : Conn
  /-- every datagram the server emitted for this id / this client emitted, in emission order -/
  outS : List Bytes
  outC : List Bytes
  /-- ghost, per channel: messages the server application addressed to this id that the reliable channel accepted /
      that were passed to the unreliable channel; messages this client's application obtained -/
  subS : Nat → List Bytes
  subSU : Nat → List Bytes
  obtC : Nat → List Bytes
  /-- ghost, per channel: the same in the other direction (client application submits, server application obtains
      under this id) -/
  subC : Nat → List Bytes
  subCU : Nat → List Bytes
  obtS : Nat → List Bytes
  /-- ghost: indices into `outS` handed to the client, indices into `outC` handed to the server -/
  delivC : List Nat
  delivS : List Nat
  tainted : Bool

def Link.fresh (P : Params) : Link :=
  { cl := (Conn.fromChannels P.budget P.cCh P.sCh).setConnected
    last := (Conn.fromChannels P.budget P.sCh P.cCh).setConnected
    outS := [], outC := [], subS := fun _ => [], subSU := fun _ => [], obtC := fun _ => []
    subC := fun _ => [], subCU := fun _ => [], obtS := fun _ => [], delivC := [], delivS := [], tainted := false }

/-- the server application addressed `m` to this link on channel `ch`; `c`, `c'`: the table entry before / after -/
def Link.logS (l : Link) (c c' : Conn) (ch : Nat) (m : Bytes) : Link :=
  { l with subS := if accepted c c' ch then push l.subS ch m else l.subS
           subSU := if offeredU c ch then push l.subSU ch m else l.subSU }

def Link.logS? (c c' : Option Conn) (ch : Nat) (m : Bytes) (l : Link) : Link :=
  match c, c' with
  | some c, some c' => l.logS c c' ch m
  | _, _ => l

def Link.gotS (l : Link) (ch : Nat) : Option Bytes → Link
  | some m => { l with obtS := push l.obtS ch m }
  | none => l

def Link.gotC (l : Link) (cl' : Conn) (ch : Nat) : Option Bytes → Link
  | some m => { l with cl := cl', obtC := push l.obtC ch m }
  | none => { l with cl := cl' }

def Link.logC (l : Link) (cl' : Conn) (ch : Nat) (m : Bytes) : Link :=
  { l with cl := cl'
           subC := if accepted l.cl cl' ch then push l.subC ch m else l.subC
           subCU := if offeredU l.cl ch then push l.subCU ch m else l.subCU }

structure MSys where
  server : Server
  links : Nat → Option Link

def upd (f : Nat → Option Link) (id : Nat) (v : Option Link) : Nat → Option Link :=
  fun j => if j = id then v else f j

def MSys.init (P : Params) : MSys := ⟨Server.new P.budget P.sCh P.cCh, fun _ => none⟩

inductive MOp where
  /-- `add_connection(id)` on the server + a new remote endpoint: a fresh session for `id` (no-op if `id` is in the table) -/
  | addClient (id : Nat)
  /-- `remove_connection(id)` -/
  | remove (id : Nat)
  /-- `RenetServer::disconnect(id)` -/
  | srvDisconnect (id : Nat)
  /-- `RenetClient::disconnect()` on the remote endpoint -/
  | cliDisconnect (id : Nat)
  | srvSend (id ch : Nat) (m : Bytes)
  | broadcast (ch : Nat) (m : Bytes)
  | broadcastExcept (ex ch : Nat) (m : Bytes)
  | srvRecv (id ch : Nat)
  | cliSend (id ch : Nat) (m : Bytes)
  | cliRecv (id ch : Nat)
  | srvUpdate (dt : Nat)
  | cliUpdate (id dt : Nat)
  /-- `get_packets_to_send(id)` on the server: appended to the server → `id` emission history -/
  | srvFlush (id : Nat)
  | cliFlush (id : Nat)
  /-- the network of `id` hands the `k`-th datagram the server EVER emitted for `id` to client `id` -/
  | deliverToCli (id k : Nat)
  /-- the network of `id` hands the `k`-th datagram client `id` EVER emitted to the server, as coming from `id` -/
  | deliverToSrv (id k : Nat)
  /-- arbitrary bytes handed to the server as coming from `id` -/
  | hostile (id : Nat) (bytes : Bytes)
  deriving Repr, DecidableEq

def conn? (sv : Server) (id : Nat) : Option Conn := SMap.find? sv.conns id

/-- one operation; `none` = a model function panicked or a datagram index is out of range -/
def MSys.step (m : MSys) : MOp → Option MSys
  | .addClient id =>
    if SMap.contains m.server.conns id then some m
    else some ⟨m.server.addConnection id, upd m.links id (some (Link.fresh (paramsOf m.server)))⟩
  | .remove id =>
    some ⟨m.server.removeConnection id,
      match conn? m.server id with
      | some c => upd m.links id ((m.links id).map (fun l => { l with last := c }))
      | none => m.links⟩
  | .srvDisconnect id => some ⟨m.server.disconnect id, m.links⟩
  | .cliDisconnect id =>
    some ⟨m.server, upd m.links id ((m.links id).map (fun l => { l with cl := l.cl.disconnectWith .byClient }))⟩
  | .srvSend id ch x =>
    match m.server.sendMessage id ch x with
    | .ok sv' => some ⟨sv', upd m.links id ((m.links id).map (Link.logS? (conn? m.server id) (conn? sv' id) ch x))⟩
    | _ => none
  | .broadcast ch x =>
    match m.server.broadcast ch x with
    | .ok sv' => some ⟨sv', fun j => (m.links j).map (Link.logS? (conn? m.server j) (conn? sv' j) ch x)⟩
    | _ => none
  | .broadcastExcept ex ch x =>
    match m.server.broadcastExcept ex ch x with
    | .ok sv' => some ⟨sv', fun j => if j = ex then m.links j else
                        (m.links j).map (Link.logS? (conn? m.server j) (conn? sv' j) ch x)⟩
    | _ => none
  | .srvRecv id ch =>
    match m.server.receiveMessage id ch with
    | .ok (sv', mo) => some ⟨sv', upd m.links id ((m.links id).map (fun l => l.gotS ch mo))⟩
    | _ => none
  | .cliSend id ch x =>
    match m.links id with
    | none => some m
    | some l =>
      match l.cl.sendMessage ch x with
      | .ok cl' => some ⟨m.server, upd m.links id (some (l.logC cl' ch x))⟩
      | _ => none
  | .cliRecv id ch =>
    match m.links id with
    | none => some m
    | some l =>
      match l.cl.receiveMessage ch with
      | .ok (cl', mo) => some ⟨m.server, upd m.links id (some (l.gotC cl' ch mo))⟩
      | _ => none
  | .srvUpdate dt =>
    match m.server.update dt with
    | .ok sv' => some ⟨sv', m.links⟩
    | _ => none
  | .cliUpdate id dt =>
    match m.links id with
    | none => some m
    | some l =>
      match l.cl.update dt with
      | .ok cl' => some ⟨m.server, upd m.links id (some { l with cl := cl' })⟩
      | _ => none
  | .srvFlush id =>
    match m.server.getPacketsToSend id with
    | .ok (sv', some ps) => some ⟨sv', upd m.links id ((m.links id).map (fun l => { l with outS := l.outS ++ ps }))⟩
    | .ok (sv', none) => some ⟨sv', m.links⟩
    | _ => none
  | .cliFlush id =>
    match m.links id with
    | none => some m
    | some l =>
      match l.cl.getPacketsToSend with
      | .ok (cl', ps) => some ⟨m.server, upd m.links id (some { l with cl := cl', outC := l.outC ++ ps })⟩
      | _ => none
  | .deliverToCli id k =>
    match m.links id with
    | none => some m
    | some l =>
      match l.outS[k]? with
      | none => none
      | some bytes =>
        match l.cl.processPacket bytes with
        | .ok cl' => some ⟨m.server, upd m.links id (some { l with cl := cl', delivC := l.delivC ++ [k] })⟩
        | _ => none
  | .deliverToSrv id k =>
    match m.links id with
    | none => some m
    | some l =>
      match l.outC[k]? with
      | none => none
      | some bytes =>
        match m.server.processPacketFrom bytes id with
        | .ok (sv', true) => some ⟨sv', upd m.links id (some { l with delivS := l.delivS ++ [k] })⟩
        | .ok (sv', false) => some ⟨sv', m.links⟩
        | _ => none
  | .hostile id bytes =>
    match m.server.processPacketFrom bytes id with
    | .ok (sv', _) => some ⟨sv', upd m.links id ((m.links id).map (fun l => { l with tainted := true }))⟩
    | _ => none

def MSys.run (m : MSys) : List MOp → Option MSys
  | [] => some m
  | op :: ops =>
    match m.step op with
    | some m' => m'.run ops
    | none => none

theorem MSys.run_append (m : MSys) : ∀ (a b : List MOp), m.run (a ++ b) = (m.run a).bind (fun m' => m'.run b) := by
  intro a
  induction a generalizing m with
  | nil => intro b; rfl
  | cons op a ih =>
    intro b
    simp only [List.cons_append, MSys.run]
    cases m.step op with
    | none => rfl
    | some m' => exact ih m' b

/-! ## Part C: the local view of one client and its local action -/

structure LV where
  conn : Option Conn
  link : Option Link

def MSys.view (m : MSys) (i : Nat) : LV := ⟨conn? m.server i, m.links i⟩

inductive LAct where
  | skip
  | reset | remove | sDisc | cDisc
  | sSend (ch : Nat) (m : Bytes) | sRecv (ch : Nat) | cSend (ch : Nat) (m : Bytes) | cRecv (ch : Nat)
  | sUpd (dt : Nat) | cUpd (dt : Nat) | sFlush | cFlush
  | toCli (k : Nat) | toSrv (k : Nat) | hostile (bytes : Bytes)
  deriving Repr, DecidableEq

/-- the local action of `op` for client `i`: operations addressed to another client are `skip`; a broadcast is a
    `send_message` for everybody (but the excluded id); the server's `update` is an update of every slot -/
def MOp.act (i : Nat) : MOp → LAct
  | .addClient id => if id = i then .reset else .skip
  | .remove id => if id = i then .remove else .skip
  | .srvDisconnect id => if id = i then .sDisc else .skip
  | .cliDisconnect id => if id = i then .cDisc else .skip
  | .srvSend id ch m => if id = i then .sSend ch m else .skip
  | .broadcast ch m => .sSend ch m
  | .broadcastExcept ex ch m => if i = ex then .skip else .sSend ch m
  | .srvRecv id ch => if id = i then .sRecv ch else .skip
  | .cliSend id ch m => if id = i then .cSend ch m else .skip
  | .cliRecv id ch => if id = i then .cRecv ch else .skip
  | .srvUpdate dt => .sUpd dt
  | .cliUpdate id dt => if id = i then .cUpd dt else .skip
  | .srvFlush id => if id = i then .sFlush else .skip
  | .cliFlush id => if id = i then .cFlush else .skip
  | .deliverToCli id k => if id = i then .toCli k else .skip
  | .deliverToSrv id k => if id = i then .toSrv k else .skip
  | .hostile id b => if id = i then .hostile b else .skip

def LV.apply (P : Params) (lv : LV) : LAct → Option LV
  | .skip => some lv
  | .reset =>
    match lv.conn with
    | some _ => some lv
    | none => some ⟨some (Conn.fromChannels P.budget P.sCh P.cCh).setConnected, some (Link.fresh P)⟩
  | .remove =>
    match lv.conn with
    | none => some lv
    | some c => some ⟨none, lv.link.map (fun l => { l with last := c })⟩
  | .sDisc => some ⟨lv.conn.map (·.disconnectWith .byServer), lv.link⟩
  | .cDisc => some ⟨lv.conn, lv.link.map (fun l => { l with cl := l.cl.disconnectWith .byClient })⟩
  | .sSend ch x =>
    match lv.conn with
    | none => some lv
    | some c =>
      match c.sendMessage ch x with
      | .ok c' => some ⟨some c', lv.link.map (fun l => l.logS c c' ch x)⟩
      | _ => none
  | .sRecv ch =>
    match lv.conn with
    | none => some lv
    | some c =>
      match c.receiveMessage ch with
      | .ok (c', mo) => some ⟨some c', lv.link.map (fun l => l.gotS ch mo)⟩
      | _ => none
  | .cSend ch x =>
    match lv.link with
    | none => some lv
    | some l =>
      match l.cl.sendMessage ch x with
      | .ok cl' => some ⟨lv.conn, some (l.logC cl' ch x)⟩
      | _ => none
  | .cRecv ch =>
    match lv.link with
    | none => some lv
    | some l =>
      match l.cl.receiveMessage ch with
      | .ok (cl', mo) => some ⟨lv.conn, some (l.gotC cl' ch mo)⟩
      | _ => none
  | .sUpd dt =>
    match lv.conn with
    | none => some lv
    | some c =>
      match c.update dt with
      | .ok c' => some ⟨some c', lv.link⟩
      | _ => none
  | .cUpd dt =>
    match lv.link with
    | none => some lv
    | some l =>
      match l.cl.update dt with
      | .ok cl' => some ⟨lv.conn, some { l with cl := cl' }⟩
      | _ => none
  | .sFlush =>
    match lv.conn with
    | none => some lv
    | some c =>
      match c.getPacketsToSend with
      | .ok (c', ps) => some ⟨some c', lv.link.map (fun l => { l with outS := l.outS ++ ps })⟩
      | _ => none
  | .cFlush =>
    match lv.link with
    | none => some lv
    | some l =>
      match l.cl.getPacketsToSend with
      | .ok (cl', ps) => some ⟨lv.conn, some { l with cl := cl', outC := l.outC ++ ps }⟩
      | _ => none
  | .toCli k =>
    match lv.link with
    | none => some lv
    | some l =>
      match l.outS[k]? with
      | none => none
      | some bytes =>
        match l.cl.processPacket bytes with
        | .ok cl' => some ⟨lv.conn, some { l with cl := cl', delivC := l.delivC ++ [k] }⟩
        | _ => none
  | .toSrv k =>
    match lv.link with
    | none => some lv
    | some l =>
      match l.outC[k]? with
      | none => none
      | some bytes =>
        match lv.conn with
        | none => some lv
        | some c =>
          match c.processPacket bytes with
          | .ok c' => some ⟨some c', some { l with delivS := l.delivS ++ [k] }⟩
          | _ => none
  | .hostile bytes =>
    match lv.conn with
    | none => some ⟨none, lv.link.map (fun l => { l with tainted := true })⟩
    | some c =>
      match c.processPacket bytes with
      | .ok c' => some ⟨some c', lv.link.map (fun l => { l with tainted := true })⟩
      | _ => none

theorem upd_same (f : Nat → Option Link) (id : Nat) (v : Option Link) : upd f id v id = v := by simp [upd]
theorem upd_ne (f : Nat → Option Link) {id j : Nat} (v : Option Link) (h : j ≠ id) : upd f id v j = f j := by simp [upd, h]

theorem map_self (o : Option Link) : o.map (fun l => l) = o := by cases o <;> rfl

/-- well-formedness of the global state: the table is sorted (it is a `HashMap` in the Rust code; the model's
    `erase` relies on unique keys) and the configuration is `P` -/
structure MSys.WF (P : Params) (m : MSys) : Prop where
  sorted : SL.SMap.Sorted m.server.conns
  params : paramsOf m.server = P

theorem wf_init (P : Params) : (MSys.init P).WF P := ⟨SL.SMap.sorted_nil, rfl⟩

theorem params_of_addressed {i : Nat} {s s' : Server} (h : SL.Server.Addressed i s s') : paramsOf s' = paramsOf s := by
  unfold paramsOf; rw [h.budget, h.serverCh, h.clientCh]

theorem params_of_conns {s s' : Server} {x : Res Empty (SMap Conn)}
    (h : (x >>= fun cs => pure { s with conns := cs }) = .ok s') : paramsOf s' = paramsOf s := by
  cases x with
  | ok cs => cases h; rfl
  | err e => cases h
  | panic p => cases h

theorem wf_quiet {P : Params} {m : MSys} {sv' : Server} (hw : m.WF P) (q : SL.QuietC m.server.conns sv'.conns)
    (e : paramsOf sv' = paramsOf m.server) (ls : Nat → Option Link) : MSys.WF P ⟨sv', ls⟩ :=
  ⟨q.sorted hw.sorted, e.trans hw.params⟩

theorem view_eq {m m' : MSys} {i : Nat} (h1 : conn? m'.server i = conn? m.server i) (h2 : m'.links i = m.links i) :
    m'.view i = m.view i := by
  unfold MSys.view; rw [h1, h2]

theorem apply_addressed {P : Params} {m m' : MSys} {id : Nat} {act : LAct}
    (hloc : (m.view id).apply P act = some (m'.view id)) (hfr : ∀ j, j ≠ id → m'.view j = m.view j) (i : Nat) :
    (m.view i).apply P (if id = i then act else .skip) = some (m'.view i) := by
  split
  · rename_i e
    subst e
    exact hloc
  · rename_i e
    rw [hfr i (fun h => e h.symm)]
    rfl

/-- the server calls come with `SL.Server.*_spec`: the table changes quietly, the slot of `id` as the connection-level
    call says, no other slot at all -/
theorem step_spec {P : Params} {m m' : MSys} {op : MOp} (hw : m.WF P) (hs : m.step op = some m') :
    m'.WF P ∧ ∀ i, (m.view i).apply P (op.act i) = some (m'.view i) := by
  cases op with
  | addClient id =>
    simp only [MSys.step] at hs
    split at hs
    · rename_i hc
      cases hs
      refine ⟨hw, apply_addressed ?_ (fun _ _ => rfl)⟩
      obtain ⟨c, hf⟩ := SMap.contains_iff_find?.mp hc
      simp only [LV.apply, MSys.view, conn?, hf]
    · rename_i hc
      cases hs
      have hn : SMap.find? m.server.conns id = none := SMap.not_contains_iff.mp hc
      have hadd : (m.server.addConnection id).conns = SMap.insert m.server.conns id m.server.newConn.setConnected := by
        unfold Server.addConnection; rw [if_neg hc]
      have hpar : paramsOf (m.server.addConnection id) = paramsOf m.server := by
        unfold Server.addConnection; rw [if_neg hc]; rfl
      refine ⟨⟨?_, hpar.trans hw.params⟩, apply_addressed ?_ (fun j e => view_eq ?_ (upd_ne _ _ e))⟩
      · show SL.SMap.Sorted (m.server.addConnection id).conns
        rw [hadd]
        exact SL.SMap.sorted_insert _ _ _ hw.sorted
      · simp only [LV.apply, MSys.view, conn?, hn, hadd, SMap.find?_insert_self, upd_same]
        rw [← hw.params]; rfl
      · simp only [conn?, hadd, SMap.find?_insert_ne _ _ (Ne.symm e)]
  | remove id =>
    simp only [MSys.step, Option.some.injEq] at hs
    subst hs
    cases hf : SMap.find? m.server.conns id with
    | none =>
      have hr : m.server.removeConnection id = m.server := by unfold Server.removeConnection; rw [hf]
      simp only [conn?, hf, hr]
      exact ⟨hw, apply_addressed (by simp only [LV.apply, MSys.view, conn?, hf]) (fun _ _ => rfl)⟩
    | some c =>
      have hr : (m.server.removeConnection id).conns = SMap.erase m.server.conns id := by
        unfold Server.removeConnection; rw [hf]
      have hpar : paramsOf (m.server.removeConnection id) = paramsOf m.server := by
        unfold Server.removeConnection; rw [hf]; rfl
      simp only [conn?, hf]
      refine ⟨⟨?_, hpar.trans hw.params⟩, apply_addressed ?_ (fun j e => view_eq ?_ (upd_ne _ _ e))⟩
      · show SL.SMap.Sorted (m.server.removeConnection id).conns
        rw [hr]
        exact SL.SMap.sorted_erase _ _ hw.sorted
      · simp only [LV.apply, MSys.view, conn?, hf, hr, SMap.find?_erase_self hw.sorted.nodup _, upd_same]
      · simp only [conn?, hr, SMap.find?_erase_ne _ (Ne.symm e)]
  | srvDisconnect id =>
    simp only [MSys.step, Option.some.injEq] at hs
    subst hs
    obtain ⟨a, q, hi⟩ := SL.Server.disconnect_spec m.server id
    refine ⟨wf_quiet hw q (params_of_addressed a) _, apply_addressed ?_ (fun j e => view_eq (a.others j e) rfl)⟩
    simp only [LV.apply, MSys.view, conn?, hi]
  | cliDisconnect id =>
    simp only [MSys.step, Option.some.injEq] at hs
    subst hs
    refine ⟨⟨hw.sorted, hw.params⟩, apply_addressed ?_ (fun j e => view_eq rfl (upd_ne _ _ e))⟩
    simp only [LV.apply, MSys.view, upd_same]
  | srvSend id ch x =>
    simp only [MSys.step] at hs
    split at hs
    · rename_i sv' h
      cases hs
      obtain ⟨a, q, hi⟩ := SL.Server.sendMessage_spec h
      refine ⟨wf_quiet hw q (params_of_addressed a) _,
        apply_addressed ?_ (fun j e => view_eq (a.others j e) (upd_ne _ _ e))⟩
      rcases hi with ⟨hf, rfl⟩ | ⟨c, c', hf, hc, hf'⟩
      · simp only [LV.apply, MSys.view, conn?, hf, upd_same]
        congr 2
        exact (map_self _).symm
      · simp only [LV.apply, MSys.view, conn?, hf, hf', hc, upd_same]
        rfl
    · cases hs
  | broadcast ch x =>
    simp only [MSys.step] at hs
    split at hs
    · rename_i sv' h
      cases hs
      obtain ⟨-, q, hj⟩ := SL.Server.broadcast_spec h
      refine ⟨wf_quiet hw q (params_of_conns h) _, fun i => ?_⟩
      simp only [MOp.act]
      cases hf : SMap.find? m.server.conns i with
      | none =>
        simp only [LV.apply, MSys.view, conn?, hf, (hj i).1 hf]
        congr 2
        exact (map_self _).symm
      | some c =>
        obtain ⟨c', hc, hf'⟩ := (hj i).2 c hf
        simp only [LV.apply, MSys.view, conn?, hf, hf', hc]
        rfl
    · cases hs
  | broadcastExcept ex ch x =>
    simp only [MSys.step] at hs
    split at hs
    · rename_i sv' h
      cases hs
      obtain ⟨-, q, hex, hj⟩ := SL.Server.broadcastExcept_spec h
      refine ⟨wf_quiet hw q (params_of_conns h) _, fun i => ?_⟩
      simp only [MOp.act]
      split
      · rename_i e
        subst e
        simp only [LV.apply, MSys.view, conn?, hex, if_true]
      · rename_i e
        cases hf : SMap.find? m.server.conns i with
        | none =>
          simp only [LV.apply, MSys.view, conn?, hf, (hj i e).1 hf, if_neg e]
          congr 2
          exact (map_self _).symm
        | some c =>
          obtain ⟨c', hc, hf'⟩ := (hj i e).2 c hf
          simp only [LV.apply, MSys.view, conn?, hf, hf', hc, if_neg e]
          rfl
    · cases hs
  | srvRecv id ch =>
    simp only [MSys.step] at hs
    split at hs
    · rename_i sv' mo h
      cases hs
      obtain ⟨a, q, hi⟩ := SL.Server.receiveMessage_spec h
      refine ⟨wf_quiet hw q (params_of_addressed a) _,
        apply_addressed ?_ (fun j e => view_eq (a.others j e) (upd_ne _ _ e))⟩
      rcases hi with ⟨hf, rfl, rfl⟩ | ⟨c, c', hf, hc, hf'⟩
      · simp only [LV.apply, MSys.view, conn?, hf, upd_same]
        congr 2
        exact (map_self _).symm
      · simp only [LV.apply, MSys.view, conn?, hf, hf', hc, upd_same]
    · cases hs
  | srvUpdate dt =>
    simp only [MSys.step] at hs
    split at hs
    · rename_i sv' h
      cases hs
      obtain ⟨-, q, hj⟩ := SL.Server.update_spec h
      refine ⟨wf_quiet hw q (params_of_conns h) _, fun i => ?_⟩
      simp only [MOp.act]
      cases hf : SMap.find? m.server.conns i with
      | none => simp only [LV.apply, MSys.view, conn?, hf, (hj i).1 hf]
      | some c =>
        obtain ⟨c', hc, hf'⟩ := (hj i).2 c hf
        simp only [LV.apply, MSys.view, conn?, hf, hf', hc]
    · cases hs
  | srvFlush id =>
    simp only [MSys.step] at hs
    split at hs
    · rename_i sv' ps h
      cases hs
      obtain ⟨a, q, hi⟩ := SL.Server.getPacketsToSend_spec h
      refine ⟨wf_quiet hw q (params_of_addressed a) _,
        apply_addressed ?_ (fun j e => view_eq (a.others j e) (upd_ne _ _ e))⟩
      rcases hi with ⟨hf, -, ho⟩ | ⟨c, c', ps', hf, hc, ho, hf'⟩
      · cases ho
      · cases ho
        simp only [LV.apply, MSys.view, conn?, hf, hf', hc, upd_same]
    · rename_i sv' h
      cases hs
      obtain ⟨a, q, hi⟩ := SL.Server.getPacketsToSend_spec h
      refine ⟨wf_quiet hw q (params_of_addressed a) _, apply_addressed ?_ (fun j e => view_eq (a.others j e) rfl)⟩
      rcases hi with ⟨hf, rfl, -⟩ | ⟨c, c', ps', hf, hc, ho, hf'⟩
      · simp only [LV.apply, MSys.view, conn?, hf]
      · cases ho
    · cases hs
  -- the calls of the remote endpoint are written the same way in `MSys.step` and in `LV.apply`
  | cliSend id ch x | cliRecv id ch | cliUpdate id dt | cliFlush id =>
    simp only [MSys.step] at hs
    split at hs
    · rename_i hl
      cases hs
      exact ⟨hw, apply_addressed (by simp only [LV.apply, MSys.view, hl]) (fun _ _ => rfl)⟩
    · rename_i l hl
      split at hs
      · rename_i h
        cases hs
        refine ⟨⟨hw.sorted, hw.params⟩, apply_addressed ?_ (fun j e => view_eq rfl (upd_ne _ _ e))⟩
        simp only [LV.apply, MSys.view, hl, h, upd_same]
      · cases hs
  | deliverToCli id k =>
    simp only [MSys.step] at hs
    split at hs
    · rename_i hl
      cases hs
      exact ⟨hw, apply_addressed (by simp only [LV.apply, MSys.view, hl]) (fun _ _ => rfl)⟩
    · rename_i l hl
      split at hs
      · cases hs
      · rename_i bytes hb
        split at hs
        · rename_i cl' h
          cases hs
          refine ⟨⟨hw.sorted, hw.params⟩, apply_addressed ?_ (fun j e => view_eq rfl (upd_ne _ _ e))⟩
          simp only [LV.apply, MSys.view, hl, hb, h, upd_same]
        · cases hs
  | deliverToSrv id k =>
    simp only [MSys.step] at hs
    split at hs
    · rename_i hl
      cases hs
      exact ⟨hw, apply_addressed (by simp only [LV.apply, MSys.view, hl]) (fun _ _ => rfl)⟩
    · rename_i l hl
      split at hs
      · cases hs
      · rename_i bytes hb
        split at hs
        · rename_i sv' h
          cases hs
          obtain ⟨a, q, hi⟩ := SL.Server.processPacketFrom_spec h
          refine ⟨wf_quiet hw q (params_of_addressed a) _,
            apply_addressed ?_ (fun j e => view_eq (a.others j e) (upd_ne _ _ e))⟩
          rcases hi with ⟨hf, -, ho⟩ | ⟨c, c', hf, hc, -, hf'⟩
          · cases ho
          · simp only [LV.apply, MSys.view, conn?, hl, hb, hf, hf', hc, upd_same]
        · rename_i sv' h
          cases hs
          obtain ⟨a, q, hi⟩ := SL.Server.processPacketFrom_spec h
          refine ⟨wf_quiet hw q (params_of_addressed a) _,
            apply_addressed ?_ (fun j e => view_eq (a.others j e) rfl)⟩
          rcases hi with ⟨hf, rfl, -⟩ | ⟨c, c', hf, hc, ho, hf'⟩
          · simp only [LV.apply, MSys.view, conn?, hl, hb, hf]
          · cases ho
        · cases hs
  | hostile id bytes =>
    simp only [MSys.step] at hs
    split at hs
    · rename_i sv' o h
      cases hs
      obtain ⟨a, q, hi⟩ := SL.Server.processPacketFrom_spec h
      refine ⟨wf_quiet hw q (params_of_addressed a) _,
        apply_addressed ?_ (fun j e => view_eq (a.others j e) (upd_ne _ _ e))⟩
      rcases hi with ⟨hf, rfl, -⟩ | ⟨c, c', hf, hc, -, hf'⟩
      · simp only [LV.apply, MSys.view, conn?, hf, upd_same]
      · simp only [LV.apply, MSys.view, conn?, hf, hf', hc, upd_same]
    · cases hs

theorem step_wf {P : Params} {m m' : MSys} {op : MOp} (hw : m.WF P) (hs : m.step op = some m') : m'.WF P :=
  (step_spec hw hs).1

/-- **Locality of every step.**  The view of client `i` after a step is the local action of that step applied to the
    view of `i` before — it does not depend on any other client's slot, link, network or ghost state. -/
theorem step_view {P : Params} {m m' : MSys} {op : MOp} (hw : m.WF P) (hs : m.step op = some m') (i : Nat) :
    (m.view i).apply P (op.act i) = some (m'.view i) :=
  (step_spec hw hs).2 i

/-! ## Part D: the two projections of a view onto `System.Sys`, and the simulation -/

/-- the server-side connection of the link: the table entry, or the ghost copy kept at `remove_connection` -/
def LV.srv (lv : LV) (l : Link) : Conn := lv.conn.getD l.last

/-- direction server → client `i`: A = the server's connection for `i`, B = the remote endpoint -/
def down (lv : LV) (l : Link) : Sys :=
  { a := lv.srv l, b := l.cl, outA := l.outS, outB := l.outC, submitted := l.subS, submittedU := l.subSU,
    obtained := l.obtC, deliveredToB := l.delivC }

/-- direction client `i` → server: A = the remote endpoint, B = the server's connection for `i` -/
def up (lv : LV) (l : Link) : Sys :=
  { a := l.cl, b := lv.srv l, outA := l.outC, outB := l.outS, submitted := l.subC, submittedU := l.subCU,
    obtained := l.obtS, deliveredToB := l.delivS }

/-- the view right after `add_connection` -/
def LV.fresh (P : Params) : LV := ⟨some (Conn.fromChannels P.budget P.sCh P.cCh).setConnected, some (Link.fresh P)⟩

theorem down_fresh (P : Params) : down (LV.fresh P) (Link.fresh P) = Sys.fresh P.down := rfl
theorem up_fresh (P : Params) : up (LV.fresh P) (Link.fresh P) = Sys.fresh P.up := rfl

def LogRel (act : LAct) (l l' : Link) : Prop :=
  (l'.subS = l.subS ∨ ∃ ch x, act = .sSend ch x ∧ l'.subS = push l.subS ch x) ∧
  (l'.subSU = l.subSU ∨ ∃ ch x, act = .sSend ch x ∧ l'.subSU = push l.subSU ch x) ∧
  (l'.subC = l.subC ∨ ∃ ch x, act = .cSend ch x ∧ l'.subC = push l.subC ch x) ∧
  (l'.subCU = l.subCU ∨ ∃ ch x, act = .cSend ch x ∧ l'.subCU = push l.subCU ch x)

theorem LogRel.same {act : LAct} {l l' : Link} (h1 : l'.subS = l.subS) (h2 : l'.subSU = l.subSU) (h3 : l'.subC = l.subC)
    (h4 : l'.subCU = l.subCU) : LogRel act l l' := ⟨.inl h1, .inl h2, .inl h3, .inl h4⟩

theorem push_if (b : Bool) (f : Nat → List Bytes) {ch : Nat} {x : Bytes} {Q : Nat → Bytes → Prop} (hq : Q ch x) :
    (if b then push f ch x else f) = f ∨ ∃ ch' x', Q ch' x' ∧ (if b then push f ch x else f) = push f ch' x' := by
  cases b
  · exact .inl rfl
  · exact .inr ⟨ch, x, hq, rfl⟩

theorem logRel_logS (l : Link) (c c' : Conn) (ch : Nat) (x : Bytes) : LogRel (.sSend ch x) l (l.logS c c' ch x) :=
  ⟨push_if _ _ rfl, push_if _ _ rfl, .inl rfl, .inl rfl⟩

theorem logRel_logC (l : Link) (cl' : Conn) (ch : Nat) (x : Bytes) : LogRel (.cSend ch x) l (l.logC cl' ch x) :=
  ⟨.inl rfl, .inl rfl, push_if _ _ rfl, push_if _ _ rfl⟩

theorem sim_stutter {P : Params} {act : LAct} {lv : LV} {l' : Link} (hl' : lv.link = some l') (ht : l'.tainted = false) :
    ∃ l, lv.link = some l ∧ l.tainted = false ∧ VStep P.down (down lv l) (down lv l') ∧ VStep P.up (up lv l) (up lv l') ∧
      LogRel act l l' :=
  ⟨l', hl', ht, .stutter _, .stutter _, .same rfl rfl rfl rfl⟩

/-- **The simulation.**  A local action that leaves the link untainted is — for BOTH directions of the link — a step of
    the bidirectional two-endpoint system (`VStep`: an operation of `System.Sys`, an endpoint-local operation of the
    other direction, a stutter), or it starts a fresh session. -/
theorem sim {P : Params} {lv lv' : LV} {act : LAct} {l' : Link} (h : lv.apply P act = some lv')
    (hl' : lv'.link = some l') (ht : l'.tainted = false) :
    (lv' = LV.fresh P ∧ l' = Link.fresh P) ∨
    ∃ l, lv.link = some l ∧ l.tainted = false ∧ VStep P.down (down lv l) (down lv' l') ∧ VStep P.up (up lv l) (up lv' l') ∧
      LogRel act l l' := by
  obtain ⟨conn, link⟩ := lv
  cases act with
  | skip =>
    cases h
    exact .inr (sim_stutter hl' ht)
  | reset =>
    cases conn with
    | some c =>
      cases h
      exact .inr (sim_stutter hl' ht)
    | none =>
      cases h
      cases hl'
      exact .inl ⟨rfl, rfl⟩
  | remove =>
    cases conn with
    | none =>
      cases h
      exact .inr (sim_stutter hl' ht)
    | some c =>
      cases h
      cases link with
      | none => cases hl'
      | some l =>
        cases hl'
        exact .inr ⟨l, rfl, ht, .stutter _, .stutter _, .same rfl rfl rfl rfl⟩
  | sDisc =>
    cases h
    cases hl'
    refine .inr ⟨l', rfl, ht, ?_, ?_, .same rfl rfl rfl rfl⟩
    · cases conn with
      | none => exact .stutter _
      | some c => exact .discA (down ⟨some c, some l'⟩ l') .byServer
    · cases conn with
      | none => exact .stutter _
      | some c => exact .discB (up ⟨some c, some l'⟩ l') .byServer
  | cDisc =>
    cases h
    cases link with
    | none => cases hl'
    | some l =>
      cases hl'
      exact .inr ⟨l, rfl, ht, .discB (down ⟨conn, some l⟩ l) .byClient, .discA (up ⟨conn, some l⟩ l) .byClient,
        .same rfl rfl rfl rfl⟩
  | sSend ch x =>
    cases conn with
    | none =>
      cases h
      exact .inr (sim_stutter hl' ht)
    | some c =>
      simp only [LV.apply] at h
      split at h
      · rename_i c' hc
        cases h
        cases link with
        | none => cases hl'
        | some l =>
          cases hl'
          refine .inr ⟨l, rfl, ht, .op (.sendA ch x) ?_, .sendB (s := up ⟨some c, some l⟩ l) hc, logRel_logS l c c' ch x⟩
          simp only [Sys.step, down, LV.srv, Option.getD_some, hc]
          rfl
      · cases h
  | sRecv ch =>
    cases conn with
    | none =>
      cases h
      exact .inr (sim_stutter hl' ht)
    | some c =>
      simp only [LV.apply] at h
      split at h
      · rename_i c' mo hc
        cases h
        cases link with
        | none => cases hl'
        | some l =>
          cases hl'
          have hd : VStep P.down (down ⟨some c, some l⟩ l) (down ⟨some c', some (l.gotS ch mo)⟩ (l.gotS ch mo)) := by
            cases mo <;> exact .recvA (s := down ⟨some c, some l⟩ l) hc
          have hu : (up ⟨some c, some l⟩ l).step (.recvB ch) = some (up ⟨some c', some (l.gotS ch mo)⟩ (l.gotS ch mo)) := by
            simp only [Sys.step, up, LV.srv, Option.getD_some, hc]
            cases mo <;> rfl
          cases mo <;> exact .inr ⟨l, rfl, ht, hd, .op _ hu, .same rfl rfl rfl rfl⟩
      · cases h
  | cSend ch x =>
    cases link with
    | none =>
      cases h
      cases hl'
    | some l =>
      simp only [LV.apply] at h
      split at h
      · rename_i cl' hc
        cases h
        cases hl'
        refine .inr ⟨l, rfl, ht, .sendB (s := down ⟨conn, some l⟩ l) hc, .op (.sendA ch x) ?_, logRel_logC l cl' ch x⟩
        simp only [Sys.step, up, hc]
        rfl
      · cases h
  | cRecv ch =>
    cases link with
    | none =>
      cases h
      cases hl'
    | some l =>
      simp only [LV.apply] at h
      split at h
      · rename_i cl' mo hc
        cases h
        cases hl'
        have hd : (down ⟨conn, some l⟩ l).step (.recvB ch) = some (down ⟨conn, some (l.gotC cl' ch mo)⟩ (l.gotC cl' ch mo)) := by
          simp only [Sys.step, down, hc]
          cases mo <;> rfl
        have hu : VStep P.up (up ⟨conn, some l⟩ l) (up ⟨conn, some (l.gotC cl' ch mo)⟩ (l.gotC cl' ch mo)) := by
          cases mo <;> exact .recvA (s := up ⟨conn, some l⟩ l) hc
        cases mo <;> exact .inr ⟨l, rfl, ht, .op _ hd, hu, .same rfl rfl rfl rfl⟩
      · cases h
  | sUpd dt =>
    cases conn with
    | none =>
      cases h
      exact .inr (sim_stutter hl' ht)
    | some c =>
      simp only [LV.apply] at h
      split at h
      · rename_i c' hc
        cases h
        cases hl'
        refine .inr ⟨l', rfl, ht, .op (.updA dt) ?_, .op (.updB dt) ?_, .same rfl rfl rfl rfl⟩
        · simp only [Sys.step, down, LV.srv, Option.getD_some, hc]
        · simp only [Sys.step, up, LV.srv, Option.getD_some, hc]
      · cases h
  | cUpd dt =>
    cases link with
    | none =>
      cases h
      cases hl'
    | some l =>
      simp only [LV.apply] at h
      split at h
      · rename_i cl' hc
        cases h
        cases hl'
        refine .inr ⟨l, rfl, ht, .op (.updB dt) ?_, .op (.updA dt) ?_, .same rfl rfl rfl rfl⟩
        · simp only [Sys.step, down, LV.srv, hc]
        · simp only [Sys.step, up, LV.srv, hc]
      · cases h
  | sFlush =>
    cases conn with
    | none =>
      cases h
      exact .inr (sim_stutter hl' ht)
    | some c =>
      simp only [LV.apply] at h
      split at h
      · rename_i c' ps hc
        cases h
        cases link with
        | none => cases hl'
        | some l =>
          cases hl'
          refine .inr ⟨l, rfl, ht, .op .flushA ?_, .op .flushB ?_, .same rfl rfl rfl rfl⟩
          · simp only [Sys.step, down, LV.srv, Option.getD_some, hc]
          · simp only [Sys.step, up, LV.srv, Option.getD_some, hc]
      · cases h
  | cFlush =>
    cases link with
    | none =>
      cases h
      cases hl'
    | some l =>
      simp only [LV.apply] at h
      split at h
      · rename_i cl' ps hc
        cases h
        cases hl'
        refine .inr ⟨l, rfl, ht, .op .flushB ?_, .op .flushA ?_, .same rfl rfl rfl rfl⟩
        · simp only [Sys.step, down, LV.srv, hc]
        · simp only [Sys.step, up, LV.srv, hc]
      · cases h
  | toCli k =>
    cases link with
    | none =>
      cases h
      cases hl'
    | some l =>
      simp only [LV.apply] at h
      split at h
      · cases h
      · rename_i bytes hb
        split at h
        · rename_i cl' hc
          cases h
          cases hl'
          refine .inr ⟨l, rfl, ht, .op (.deliverToB k) ?_, .op (.deliverToA k) ?_, .same rfl rfl rfl rfl⟩
          · simp only [Sys.step, down, LV.srv, hb, hc]
          · simp only [Sys.step, up, LV.srv, hb, hc]
        · cases h
  | toSrv k =>
    cases link with
    | none =>
      cases h
      cases hl'
    | some l =>
      simp only [LV.apply] at h
      split at h
      · cases h
      · rename_i bytes hb
        cases conn with
        | none =>
          cases h
          exact .inr (sim_stutter hl' ht)
        | some c =>
          dsimp only at h
          split at h
          · rename_i c' hc
            cases h
            cases hl'
            refine .inr ⟨l, rfl, ht, .op (.deliverToA k) ?_, .op (.deliverToB k) ?_, .same rfl rfl rfl rfl⟩
            · simp only [Sys.step, down, LV.srv, Option.getD_some, hb, hc]
            · simp only [Sys.step, up, LV.srv, Option.getD_some, hb, hc]
          · cases h
  | hostile bytes =>
    have hlink : lv'.link = link.map (fun l => { l with tainted := true }) := by
      simp only [LV.apply] at h
      cases conn with
      | none => cases h; rfl
      | some c =>
        dsimp only at h
        split at h
        · cases h; rfl
        · cases h
    rw [hlink] at hl'
    cases link with
    | none => cases hl'
    | some l =>
      cases hl'
      cases ht

/-! ## Part E: run level -/

def MOp.addressed (i ch : Nat) : MOp → List Bytes
  | .srvSend id c m => if id = i ∧ c = ch then [m] else []
  | .broadcast c m => if c = ch then [m] else []
  | .broadcastExcept ex c m => if i ≠ ex ∧ c = ch then [m] else []
  | _ => []

def MOp.submittedBy (i ch : Nat) : MOp → List Bytes
  | .cliSend id c m => if id = i ∧ c = ch then [m] else []
  | _ => []

/-- everything the server application addressed to `i` on `ch` during `ops`, in order: `send_message(i, ch, ·)`,
    `broadcast_message(ch, ·)`, `broadcast_message_except(ex, ch, ·)` with `ex ≠ i` -/
def addressedTo (i ch : Nat) (ops : List MOp) : List Bytes := ops.flatMap (MOp.addressed i ch)
/-- everything client `i`'s application passed to `send_message(ch, ·)` during `ops`, in order -/
def sentBy (i ch : Nat) (ops : List MOp) : List Bytes := ops.flatMap (MOp.submittedBy i ch)

theorem act_sSend {op : MOp} {i ch : Nat} {x : Bytes} (h : op.act i = .sSend ch x) : op.addressed i ch = [x] := by
  cases op <;> simp only [MOp.act] at h <;> (try split at h) <;> cases h <;> simp_all [MOp.addressed]

theorem act_cSend {op : MOp} {i ch : Nat} {x : Bytes} (h : op.act i = .cSend ch x) : op.submittedBy i ch = [x] := by
  cases op <;> simp only [MOp.act] at h <;> (try split at h) <;> cases h <;> simp_all [MOp.submittedBy]

theorem sub_step {g : Nat → MOp → List Bytes} {f f' : Nat → List Bytes} {pre : List MOp} {op : MOp}
    {Q : Nat → Bytes → Prop} (hsub : ∀ ch, (f ch).Sublist (pre.flatMap (g ch)))
    (h : f' = f ∨ ∃ ch x, Q ch x ∧ f' = push f ch x) (hQ : ∀ ch x, Q ch x → g ch op = [x]) (c : Nat) :
    (f' c).Sublist ((pre ++ [op]).flatMap (g c)) := by
  rw [List.flatMap_append, List.flatMap_singleton]
  rcases h with rfl | ⟨ch, x, hq, rfl⟩
  · exact (hsub c).trans (List.sublist_append_left _ _)
  · by_cases e : c = ch
    · subst e
      rw [push_same, hQ c x hq]
      exact (hsub c).append (.refl _)
    · rw [push_other _ _ e]
      exact (hsub c).trans (List.sublist_append_left _ _)

/-- what is known about an untainted link of client `i` after the operations `pre`, for a predicate `G` of two-endpoint
    states that the steps of a link keep -/
structure LinkOK (G : Cfg → Sys → Prop) (P : Params) (i : Nat) (pre : List MOp) (lv : LV) (l : Link) : Prop where
  goodD : G P.down (down lv l)
  goodU : G P.up (up lv l)
  subS : ∀ ch, (l.subS ch).Sublist (addressedTo i ch pre)
  subSU : ∀ ch, (l.subSU ch).Sublist (addressedTo i ch pre)
  subC : ∀ ch, (l.subC ch).Sublist (sentBy i ch pre)
  subCU : ∀ ch, (l.subCU ch).Sublist (sentBy i ch pre)

def VInv (G : Cfg → Sys → Prop) (P : Params) (i : Nat) (pre : List MOp) (lv : LV) : Prop :=
  ∀ l, lv.link = some l → l.tainted = false → LinkOK G P i pre lv l

section
variable {G : Cfg → Sys → Prop} (hinit : ∀ cfg, G cfg (Sys.init cfg))
  (hstep : ∀ {cfg s s' o}, G cfg s → s.step o = some s' → G cfg s')
  (hidle : ∀ {cfg s s'}, G cfg s → Idle cfg s s' → G cfg s')
include hinit hstep hidle

theorem vinv_step {P : Params} {i : Nat} {pre : List MOp} {lv lv' : LV} {op : MOp} (hv : VInv G P i pre lv)
    (h : lv.apply P (op.act i) = some lv') : VInv G P i (pre ++ [op]) lv' := by
  intro l' hl' ht
  obtain ⟨hfresh, hvstep⟩ := vstep_closed hinit hstep hidle
  rcases sim h hl' ht with ⟨rfl, rfl⟩ | ⟨l, hl, htl, hd, hu, r1, r2, r3, r4⟩
  · exact ⟨hfresh _, hfresh _, fun _ => List.nil_sublist _, fun _ => List.nil_sublist _,
      fun _ => List.nil_sublist _, fun _ => List.nil_sublist _⟩
  · obtain ⟨g1, g2, s1, s2, s3, s4⟩ := hv l hl htl
    exact ⟨hvstep g1 hd, hvstep g2 hu, sub_step s1 r1 (fun _ _ => act_sSend), sub_step s2 r2 (fun _ _ => act_sSend),
      sub_step s3 r3 (fun _ _ => act_cSend), sub_step s4 r4 (fun _ _ => act_cSend)⟩

theorem run_inv (P : Params) (i : Nat) : ∀ (ops pre : List MOp) (m m' : MSys), m.WF P → VInv G P i pre (m.view i) →
    m.run ops = some m' → m'.WF P ∧ VInv G P i (pre ++ ops) (m'.view i)
  | [], pre, m, m', hw, hv, hr => by
    simp only [MSys.run, Option.some.injEq] at hr; subst hr
    rw [List.append_nil]; exact ⟨hw, hv⟩
  | op :: ops, pre, m, m', hw, hv, hr => by
    simp only [MSys.run] at hr
    cases hs : m.step op with
    | none => rw [hs] at hr; cases hr
    | some m1 =>
      rw [hs] at hr
      have := run_inv P i ops (pre ++ [op]) m1 m' (step_wf hw hs) (vinv_step hinit hstep hidle hv (step_view hw hs i)) hr
      rw [List.append_assoc] at this
      exact this

/-- **What the operations of `Sys` and the `Idle` moves keep holds of every reachable link**, in both directions, and the submission logs are
    sub-sequences of what the op list addressed to `i` / of what client `i` submitted. -/
theorem reach_vstep (P : Params) (ops : List MOp) (m : MSys) (hr : (MSys.init P).run ops = some m) (i : Nat) (l : Link)
    (hl : m.links i = some l) (ht : l.tainted = false) : LinkOK G P i ops (m.view i) l := by
  have := (run_inv hinit hstep hidle P i ops [] (MSys.init P) m (wf_init P) (fun l hl => by cases hl) hr).2
  rw [List.nil_append] at this
  exact this l hl ht

end

/-- **Every reachable link is good.**  After ANY finite run from the empty server, for every client `i` whose link
    is untainted: both directions of the link satisfy the system invariants of `System.system_inv` (so every
    theorem of Props/C01S holds for them), and the submission logs are sub-sequences of what the op list addressed
    to `i` / of what client `i` submitted. -/
theorem reach (P : Params) (ops : List MOp) (m : MSys) (hr : (MSys.init P).run ops = some m) (i : Nat) (l : Link)
    (hl : m.links i = some l) (ht : l.tainted = false) : LinkOK Good P i ops (m.view i) l :=
  reach_vstep good_init good_step good_idle P ops m hr i l hl ht

theorem reach_wf (P : Params) (ops : List MOp) (m : MSys) (hr : (MSys.init P).run ops = some m) : m.WF P :=
  (run_inv good_init good_step good_idle P 0 ops [] (MSys.init P) m (wf_init P) (fun l hl => by cases hl) hr).1

def LV.run (P : Params) (lv : LV) : List LAct → Option LV
  | [] => some lv
  | a :: as =>
    match lv.apply P a with
    | some lv' => LV.run P lv' as
    | none => none

def trace (i : Nat) (ops : List MOp) : List LAct := (ops.map (MOp.act i)).filter (· != .skip)

theorem run_view {P : Params} (i : Nat) : ∀ (ops : List MOp) (m m' : MSys), m.WF P → m.run ops = some m' →
    (m.view i).run P (ops.map (MOp.act i)) = some (m'.view i)
  | [], m, m', _, hr => by
    simp only [MSys.run, Option.some.injEq] at hr; subst hr; rfl
  | op :: ops, m, m', hw, hr => by
    simp only [MSys.run] at hr
    cases hs : m.step op with
    | none => rw [hs] at hr; cases hr
    | some m1 =>
      rw [hs] at hr
      simp only [List.map_cons, LV.run, step_view hw hs i]
      exact run_view i ops m1 m' (step_wf hw hs) hr

theorem lvrun_filter (P : Params) : ∀ (acts : List LAct) (lv : LV),
    lv.run P (acts.filter (· != .skip)) = lv.run P acts
  | [], _ => rfl
  | a :: as, lv => by
    by_cases e : a = .skip
    · subst e
      simp only [List.filter_cons, bne_self_eq_false, Bool.false_eq_true, if_false, LV.run, LV.apply]
      exact lvrun_filter P as lv
    · have : (a != LAct.skip) = true := by simpa using e
      simp only [List.filter_cons, this, if_true, LV.run]
      cases lv.apply P a with
      | none => rfl
      | some lv' => exact lvrun_filter P as lv'

/-- **Non-interference.**  Two runs — from states that agree on client `i` — whose local traces for `i` coincide end
    in states that agree on client `i` (table slot, remote endpoint, both emission histories, every ghost log),
    whatever the other clients, their networks and the hostile senders did in either run. -/
theorem run_agree {P : Params} (i : Nat) {m1 m2 m1' m2' : MSys} {ops1 ops2 : List MOp} (hw1 : m1.WF P) (hw2 : m2.WF P)
    (hv : m1.view i = m2.view i) (hr1 : m1.run ops1 = some m1') (hr2 : m2.run ops2 = some m2')
    (ht : trace i ops1 = trace i ops2) : m1'.view i = m2'.view i := by
  have h1 := run_view i ops1 m1 m1' hw1 hr1
  have h2 := run_view i ops2 m2 m2' hw2 hr2
  rw [← lvrun_filter] at h1 h2
  unfold trace at ht
  rw [ht, hv, h2] at h1
  exact (Option.some.inj h1).symm

end RenetVerif.MultiSystem
