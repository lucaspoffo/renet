/-
  C17 (nonce uniqueness) on the GENERATED `NetcodeServer` (`Generated/Src/NcServer*.lean`, translated from
  `renetcode/src/server.rs`).

  Every theorem has a GENERATED RUN in its hypotheses: `GReach a g` (`Props/SrcPropsNcHistory.lean`: `g` is reached from the
  generated `NetcodeServer::new` by generated calls with arbitrary arguments, in range) continued by `GNc.run` / `gstep` — the
  generated functions only — and concludes about the seal records `SrcNcSeal.gEv` reads off the GENERATED struct before / after
  each generated call (`global_sequence`, `clients[i].sequence`, `clients[i].send_key`, generated `find_client_slot_by_id`,
  `clients.iter().position(is_none)`) and the `ServerResult` it returned (`Lemmas/SrcEquiv/SrcNcSeal.lean`).  The hand model
  and its instrumented semantics `NcAead.Sv.sstep` occur only inside the proofs (`gtrace_sim`, `gsessLog_sim`: the generated
  instrumentation is the image of the model one along the simulation).

    (1) `session_nonces_strict`      within one session of slot `i`, all datagrams the generated server seals are under that
                                     session's send key and carry `n, n+1, n+2, …`: strictly increasing, pairwise distinct;
    (2) `handshake_nonces_disjoint`  handshake replies (Challenge / Denied) carry `global_sequence, global_sequence+1, … ≥ 2^63`
                                     and never share a nonce with one of the first 2^63 datagrams of a session (whatever the key);
    (3) `log_sound` / `log_complete` the ghost records are the datagrams the generated functions returned: every event's
                                     datagram IS `prefix ‖ sequence bytes ‖ a.seal key (nonce seq) aad plain` for the
                                     recorded key and sequence number, and the events of a call are exactly the datagrams
                                     inside the `ServerResult` it returned.
  NOT covered (as in Props/C17.lean): two different sessions that reuse one connect token; that two simultaneously living
  sessions have different send keys.  The generated CLIENT: `Props/SrcPropsNcClientTrace.lean`, `client_nonces_strict`.
-/
import RenetVerif.Lemmas.SrcEquiv.SrcNcSeal
import RenetVerif.Props.SrcPropsNcHistory
import RenetVerif.Props.C17
namespace RenetVerif.SrcPropsNcNonces
open RenetVerif RenetVerif.SrcEquiv RenetVerif.RustSem RenetVerif.Netcode RenetVerif.Netcode.NS RenetVerif.SrcNcSystem
open RenetVerif.NcAead RenetVerif.SrcNcSeal RenetVerif.SrcPropsNcHistory
open Src.renetcode.server

theorem greach_inv {a : AEAD} (hl : a.Laws) {g : GNc} (h : GReach a g) : ∃ m, ServerInv m.srv ∧ SimNc m g := by
  obtain ⟨m, hm, hsim⟩ := greach_model hl h
  exact ⟨m, hm.reach.inv, hsim⟩

theorem gsv_some {m : MNc} {g : GNc} (hsim : SimNc m g) {i : Nat} {k : List Nat} {n : Nat}
    (h : gsv g.srv i = some (k, n)) : ∃ k', Sv.sv m.srv i = some (k', n) ∧ toNats k' = k := by
  obtain ⟨o, _, e⟩ := hsim.srv
  rw [e, gsv_repr] at h
  cases hs : Sv.sv m.srv i with
  | none => rw [hs] at h; cases h
  | some p =>
    obtain ⟨k', n'⟩ := p
    rw [hs] at h
    simp only [Option.map_some, Option.some.injEq, Prod.mk.injEq] at h
    exact ⟨k', by rw [h.2], h.1⟩

theorem gsv_none {m : MNc} {g : GNc} (hsim : SimNc m g) {i : Nat} (h : gsv g.srv i = none) : Sv.sv m.srv i = none := by
  obtain ⟨o, _, e⟩ := hsim.srv
  rw [e, gsv_repr] at h
  cases hs : Sv.sv m.srv i with
  | none => rfl
  | some p => rw [hs] at h; cases h

theorem gstep_model {a : AEAD} (hl : a.Laws) {m : MNc} {g g' : GNc} (hi : ServerInv m.srv) (hsim : SimNc m g) {op : Op}
    (hop : OpInRange op) {evs : List GEv} (h : gstep a g op = some (g', evs)) :
    ∃ m' mevs, Sv.sstep a m.srv (ofOp op) = some (m'.srv, mevs) ∧ m.step a op = some m' ∧ evs = mevs.map reprEv ∧
      SimNc m' g' := by
  have h1 := gstep_sim a hl hi hsim op hop
  cases hs1 : Sv.sstep a m.srv (ofOp op) with
  | none => rw [hs1] at h1; rw [h1.1] at h; cases h
  | some x =>
    obtain ⟨s', mevs⟩ := x
    rw [hs1] at h1
    obtain ⟨m', g'', rfl, hmstep, hgs, hsim'⟩ := h1
    rw [h] at hgs
    cases hgs
    exact ⟨m', mevs, rfl, hmstep, rfl, hsim'⟩

theorem map_seq_repr (l : List SealRec) : (l.map reprRec).map (·.seq) = l.map (·.seq) := by
  simp only [List.map_map]; rfl

theorem pairwise_of_range' {l : List GSeal} {n : Nat} (h : l.map (·.seq) = List.range' n l.length) :
    l.Pairwise (fun r r' => r.seq < r'.seq) := by
  have : (l.map (·.seq)).Pairwise (· < ·) := by rw [h]; exact List.pairwise_lt_range'
  exact List.pairwise_map.mp this

/-- **Session nonces on generated runs.**  Let `g` be reached by a generated run, let slot `i` of the generated struct hold a
    connection with `send_key = k`, `sequence = n`, and continue with ANY generated calls `ops` (in range).  Then the seal
    records of slot `i` read off the generated run while that session lives — keep-alives, payloads, the final `Disconnect` —
    are all under `k` and carry exactly `n, n+1, n+2, …`; in particular the sequence numbers (= nonces) strictly increase, and
    two records with the same sequence number are the same record of the log. -/
theorem session_nonces_strict {a : AEAD} (hl : a.Laws) {g : GNc} (hg : GReach a g) (i : Nat) (k : List Nat) (n : Nat)
    (h : gsv g.srv i = some (k, n)) (ops : List Op) (hr : OpsInRange ops) :
    (∀ r ∈ gsessLog a i g ops, r.key = k) ∧
    (gsessLog a i g ops).map (·.seq) = List.range' n (gsessLog a i g ops).length ∧
    (gsessLog a i g ops).Pairwise (fun r r' => r.seq < r'.seq) ∧
    (gsessLog a i g ops).Pairwise (fun r r' => r.seq ≠ r'.seq) := by
  obtain ⟨m, hi, hsim⟩ := greach_inv hl hg
  obtain ⟨k', hk', rfl⟩ := gsv_some hsim h
  obtain ⟨h1, h2⟩ := C17.server_session_nonces_strict a i m.srv k' n hk' (ops.map ofOp)
  have e := gsessLog_sim a hl i ops m g hi hsim hr
  have hseq : (gsessLog a i g ops).map (·.seq) = List.range' n (gsessLog a i g ops).length := by
    rw [e, map_seq_repr, List.length_map]; exact h2
  have hp := pairwise_of_range' hseq
  refine ⟨?_, hseq, hp, hp.imp (fun h => Nat.ne_of_lt h)⟩
  intro r hr'
  rw [e] at hr'
  obtain ⟨r0, hr0, rfl⟩ := List.mem_map.mp hr'
  simp only [reprRec, h1 r0 hr0]

/-- **Handshake replies and the session that follows never share a nonce — on generated runs.**  Take a generated-reachable
    `g0` whose `global_sequence` is at least 2^63 (e.g. what the generated `NetcodeServer::new` returns), any generated run
    `pre` to `g`, a generated call `op` that opens a session in the free slot `i` (`clients[i]` is `None` before and holds
    `send_key = k`, `sequence = n` after), then any further generated calls `ops`.  Then
      (1) the handshake replies (Challenge, Denied) of the whole run carry `G, G+1, G+2, …`, `G` the `global_sequence` of `g0`:
          all ≥ 2^63, strictly increasing;
      (2) the records of the session — the handshake-completing keep-alive included — are under `k` and carry 0, 1, 2, …;
      (3) none of the first 2^63 datagrams of the session shares its sequence number with any handshake reply, whichever key
          that reply was sealed under. -/
theorem handshake_nonces_disjoint {a : AEAD} (hl : a.Laws) {g0 : GNc} (hg0 : GReach a g0)
    (hG : 2 ^ 63 ≤ g0.srv.global_sequence) (pre : List Op) (g : GNc) (hrun : g0.run a pre = some g)
    (op : Op) (g' : GNc) (evs : List GEv) (hstep : gstep a g op = some (g', evs))
    (i : Nat) (k : List Nat) (n : Nat) (hfree : gsv g.srv i = none) (hocc : gsv g'.srv i = some (k, n)) (ops : List Op)
    (hr : OpsInRange (pre ++ op :: ops)) :
    let sess := gsessRecs i evs ++ gsessLog a i g' ops
    let hs := ghsSeqs (gtrace a g0 (pre ++ op :: ops))
    hs = List.range' g0.srv.global_sequence hs.length ∧ (∀ q ∈ hs, 2 ^ 63 ≤ q) ∧ hs.Pairwise (· < ·) ∧
    (∀ r ∈ sess, r.key = k) ∧ sess.map (·.seq) = List.range' 0 sess.length ∧
    (∀ r ∈ sess.take (2 ^ 63), ∀ q ∈ hs, r.seq ≠ q) := by
  intro sess hs
  obtain ⟨m0, hi0, hsim0⟩ := greach_inv hl hg0
  have hrpre : OpsInRange pre := fun o ho => hr o (List.mem_append_left _ ho)
  have hrop : OpInRange op := hr op (List.mem_append_right _ List.mem_cons_self)
  have hrops : OpsInRange ops := fun o ho => hr o (List.mem_append_right _ (List.mem_cons_of_mem _ ho))
  obtain ⟨m, hm, hsim⟩ := run_sim_conv_of a hl pre hi0 hsim0 hrpre hrun
  have hi : ServerInv m.srv := inv_mrun pre hi0 hm
  have hsr := mrun_srun a pre m0 m hm
  obtain ⟨m', mevs, hs1, hmstep, rfl, hsim'⟩ := gstep_model hl hi hsim hrop hstep
  have hi' : ServerInv m'.srv := inv_mstep hi hmstep
  obtain ⟨k', hk', rfl⟩ := gsv_some hsim' hocc
  have hfree' := gsv_none hsim hfree
  obtain ⟨o0, _, e0⟩ := hsim0.srv
  have hG' : 2 ^ 63 ≤ m0.srv.globalSequence := by rw [e0] at hG; exact hG
  have hp0 : Sv.PendInv m0.srv := fun x hx => (hi0.pend x hx).seq
  have M := C17.handshake_nonces_disjoint a m0.srv hG' hp0 (pre.map ofOp) m.srv hsr (ofOp op) m'.srv mevs hs1 i k' n hfree'
    hk' (ops.map ofOp)
  simp only at M
  obtain ⟨M1, M2, M3, M4, M5, M6⟩ := M
  have esess : sess = (Sv.sessRecs i mevs ++ Sv.sessLog a i m'.srv (ops.map ofOp)).map reprRec := by
    simp only [sess, List.map_append, gsessRecs_repr, gsessLog_sim a hl i ops m' g' hi' hsim' hrops]
  have ehs : hs = Sv.hsSeqs (Sv.strace a m0.srv (pre.map ofOp ++ ofOp op :: ops.map ofOp)) := by
    simp only [hs, gtrace_sim a hl _ m0 g0 hi0 hsim0 hr, ghsSeqs_repr, List.map_append, List.map_cons]
  have eG : g0.srv.global_sequence = m0.srv.globalSequence := by rw [e0]; rfl
  refine ⟨?_, ?_, ?_, ?_, ?_, ?_⟩
  · rw [ehs, eG]; exact M1
  · rw [ehs]; exact M2
  · rw [ehs]; exact M3
  · intro r hr'
    rw [esess] at hr'
    obtain ⟨r0, hr0, rfl⟩ := List.mem_map.mp hr'
    simp only [reprRec, M4 r0 hr0]
  · rw [esess, map_seq_repr, List.length_map]; exact M5
  · intro r hr' q hq
    rw [esess, ← List.map_take] at hr'
    obtain ⟨r0, hr0, rfl⟩ := List.mem_map.mp hr'
    rw [ehs] at hq
    exact M6 r0 hr0 q hq

theorem init_hyps {a : AEAD} {c : NcCfg} {g0 : GNc} (h : GNc.init c = some g0) :
    GReach a g0 ∧ g0.srv.global_sequence = 2 ^ 63 ∧ ∀ i, gsv g0.srv i = none := by
  have hreach : GReach a g0 := .exec (c := c) (ops := []) (fun _ ho => nomatch ho) (by simp only [GNc.exec, h, GNc.run])
  obtain ⟨s, hs, hsim⟩ := ginit_model h
  obtain ⟨o, _, e⟩ := hsim.srv
  obtain ⟨_, h2, h3⟩ := C17.server_new_inv _ _ _ _ _ _ _ _ hs
  refine ⟨hreach, by rw [e]; exact h2, fun i => ?_⟩
  rw [e, gsv_repr, h3 i]; rfl

/-- what a ghost event over the generated code claims about its datagram -/
def GEvSound (a : AEAD) : GEv → Prop
  | .hs seq out => ∃ (key aad plain : Bytes), out = toNats (aad.drop 21 ++ (NcAead.Packet.seqBytes seq ++
      a.seal key (Netcode.Packet.nonce seq) aad plain))
  | .sess _ r out => ∃ (key aad plain : Bytes), toNats key = r.key ∧ out = toNats (aad.drop 21 ++ (NcAead.Packet.seqBytes r.seq ++
      a.seal key (Netcode.Packet.nonce r.seq) aad plain))

/-- **soundness of the generated instrumentation**: along a generated run every recorded datagram is
    `prefix ‖ sequence bytes ‖ a.seal key (nonce seq) aad plaintext` with `seq` the recorded sequence number and (session
    datagrams) `key` the recorded send key — the recorded sequence number IS the nonce the AEAD was called with -/
theorem log_sound {a : AEAD} (hl : a.Laws) {g : GNc} (hg : GReach a g) (ops : List Op) (hr : OpsInRange ops) :
    ∀ ev ∈ gtrace a g ops, GEvSound a ev := by
  obtain ⟨m, hi, hsim⟩ := greach_inv hl hg
  intro ev hev
  rw [gtrace_sim a hl ops m g hi hsim hr] at hev
  obtain ⟨ev0, hev0, rfl⟩ := List.mem_map.mp hev
  have hs := C17.server_log_sound a m.srv (ops.map ofOp) ev0 hev0
  cases ev0 with
  | hs q out =>
    obtain ⟨key, p, proto, _, rfl⟩ := hs
    exact ⟨key, _, _, rfl⟩
  | sess j r out =>
    have : out = r.datagram a := hs
    subst this
    exact ⟨r.key, r.aad, r.plain, rfl, rfl⟩

def gOut : SServerResult → List (List Nat)
  | .PacketToSend _ out => [out]
  | .ClientConnected _ _ _ out => [out]
  | .ClientDisconnected _ _ (some out) => [out]
  | _ => []

theorem gOut_repr (r : Netcode.ServerResult) : gOut (reprNSR r) = (Sv.resOut r).map toNats := by
  cases r with
  | clientDisconnected i ad o => cases o <;> rfl
  | _ => rfl

theorem sout_eq (a : AEAD) (s : Netcode.NetcodeServer) (op : Op) :
    Sv.sout a s (ofOp op) = match NS.step a s op with
      | some (r, _) => Sv.resOut r
      | none => [] := by
  cases op with
  | packet addr buf =>
    simp only [ofOp, Sv.sout, NS.step]
    cases h : s.processPacket a addr buf with
    | ok x => rfl
    | err e => exact nomatch e
    | panic m => rfl
  | update d =>
    simp only [ofOp, Sv.sout, NS.step]
    cases h : s.update d <;> rfl
  | updateClient id =>
    simp only [ofOp, Sv.sout, NS.step]
    cases h : s.updateClient a id with
    | ok x => rfl
    | err e => exact nomatch e
    | panic m => rfl
  | disconnect id =>
    simp only [ofOp, Sv.sout, NS.step]
    cases h : s.disconnect a id with
    | ok x => rfl
    | err e => exact nomatch e
    | panic m => rfl
  | setMaxClients n => rfl
  | sendPayload id p =>
    simp only [ofOp, Sv.sout, NS.step]
    cases h : s.generatePayloadPacket a id p with
    | ok x => obtain ⟨⟨ad, out⟩, s'⟩ := x; rfl
    | err e => rfl
    | panic m => rfl

/-- **completeness of the generated instrumentation**: the ghost events of a generated call are, in order, exactly the
    datagrams inside the `ServerResult` the generated function returned (so no sealed datagram escapes the log) -/
theorem log_complete {a : AEAD} (hl : a.Laws) {g : GNc} (hg : GReach a g) (op : Op) (hop : OpInRange op) (g' : GNc)
    (evs : List GEv) (h : gstep a g op = some (g', evs)) : evs.map GEv.out = gOut (lastRes g') := by
  obtain ⟨m, hi, hsim⟩ := greach_inv hl hg
  obtain ⟨m', mevs, hs1, hmstep, rfl, hsim'⟩ := gstep_model hl hi hsim hop h
  have hc := C17.server_log_complete a m.srv m'.srv (ofOp op) mevs hs1
  obtain ⟨r, hn, hres, -⟩ := mstep_inv hmstep
  rw [sout_eq, hn] at hc
  have hlast : lastRes g' = reprNSR r := by
    simp only [lastRes, hsim'.results, hres, List.map_append, List.map_cons, List.map_nil, List.getLast?_append,
      List.getLast?_singleton, Option.some_or, Option.getD_some]
  simp only at hc
  rw [hlast, gOut_repr, ← hc, List.map_map, List.map_map]
  apply List.map_congr_left
  intro ev _
  cases ev <;> rfl

/-! ## non-vacuity: a concrete generated run, evaluated by the kernel (world of `Lemmas/NcExamples.lean`, toy AEAD `Ex.a`)

  The generated `NetcodeServer::new(now 0, max_clients 2, protocol 42, [srvAddr], Secure{key})`, then: client A's connection
  request TWICE (two Challenges), A's response (→ `ClientConnected 11`, keep-alive), two payloads to A, a clock step,
  `update_client 11` (keep-alive), a payload, `update_client 11` again (nothing to send), a clock step, `update_client 11`
  (keep-alive), `disconnect 11` (Disconnect datagram), a payload to the now unknown client 11 (`Err`, nothing sealed). -/
section Examples
open Ex

/-- what an example shows of a ghost event: kind (0 handshake / 1 session), slot, sequence number, datagram length -/
def evShape : GEv → Nat × Nat × Nat × Nat
  | .hs q out => (0, 0, q, out.length)
  | .sess i r out => (1, i, r.seq, out.length)

set_option maxRecDepth 100000 in
theorem ex_trace : (GNc.init exCfg).map (fun g0 => (gtrace Ex.a g0 nOps).map evShape) =
    some [(0, 0, 2 ^ 63, 333), (0, 0, 2 ^ 63 + 1, 333), (1, 0, 0, 26), (1, 0, 1, 20), (1, 0, 2, 19), (1, 0, 3, 26),
      (1, 0, 4, 19), (1, 0, 5, 26), (1, 0, 6, 18)] := SrcPropsNcHistory.ex_all.2.2.2.2.2.1

theorem nOps_inRange : OpsInRange nOps := SrcPropsNcHistory.ex_all.2.2.2.2.2.2.2

set_option maxRecDepth 100000 in
theorem ex_hyp : exHypB = true := SrcPropsNcHistory.ex_all.2.2.2.2.2.2.1.1

example : ∃ g0 g g' evs, GNc.init exCfg = some g0 ∧ g0.run Ex.a (nOps.take 2) = some g ∧
    gstep Ex.a g (.packet addrA respA) = some (g', evs) ∧
    (let sess := gsessRecs 0 evs ++ gsessLog Ex.a 0 g' (nOps.drop 3)
     let hs := ghsSeqs (gtrace Ex.a g0 nOps)
     sess.length = 7 ∧ (∀ r ∈ sess, r.key = kA) ∧ sess.map (·.seq) = List.range' 0 sess.length ∧
       (∀ r ∈ sess.take (2 ^ 63), ∀ q ∈ hs, r.seq ≠ q)) ∧
    (gsessLog Ex.a 0 g' (nOps.drop 3)).Pairwise (fun r r' => r.seq < r'.seq) ∧
    (∀ ev ∈ gtrace Ex.a g0 nOps, GEvSound Ex.a ev) ∧
    evs.map GEv.out = gOut (lastRes g') ∧ evs.length = 1 := by
  have hB := SrcPropsNcHistory.ex_all.2.2.2.2.2.2.1.2
  cases h0 : GNc.init exCfg with
  | none => rw [h0] at hB; cases hB
  | some g0 =>
    rw [h0] at hB
    simp only at hB
    cases h1 : g0.run Ex.a (nOps.take 2) with
    | none => rw [h1] at hB; cases hB
    | some g =>
      rw [h1] at hB
      simp only at hB
      cases h2 : gstep Ex.a g (.packet addrA respA) with
      | none => rw [h2] at hB; cases hB
      | some x =>
        obtain ⟨g', evs⟩ := x
        rw [h2] at hB
        simp only [decide_eq_true_eq] at hB
        obtain ⟨hfree, hocc, hevs, hlog⟩ := hB
        obtain ⟨hreach0, hG, _⟩ := init_hyps (a := Ex.a) h0
        have hsplit : nOps = nOps.take 2 ++ Op.packet addrA respA :: nOps.drop 3 := rfl
        have hr : OpsInRange (nOps.take 2 ++ Op.packet addrA respA :: nOps.drop 3) := by rw [← hsplit]; exact nOps_inRange
        have H := handshake_nonces_disjoint Netcode.NS.Ex.laws_a hreach0 (by rw [hG]; exact Nat.le_refl _) (nOps.take 2) g h1
          (.packet addrA respA) g' evs h2 0 kA 1 hfree hocc (nOps.drop 3) hr
        simp only at H
        obtain ⟨_, _, _, H4, H5, H6⟩ := H
        have hg : GReach Ex.a g := hreach0.run (fun o ho => hr o (List.mem_append_left _ ho)) h1
        have hreach' : GReach Ex.a g' := by
          have hgs : g.run Ex.a [Op.packet addrA respA] = some g' := by
            simp only [gstep] at h2
            cases h3 : g.step Ex.a (.packet addrA respA) with
            | none => rw [h3] at h2; cases h2
            | some g'' =>
              rw [h3] at h2
              simp only [Option.map_some, Option.some.injEq, Prod.mk.injEq] at h2
              simp only [GNc.run, h3, h2.1]
          exact hg.run (fun o ho => by
            rcases List.mem_singleton.mp ho with rfl
            exact hr _ (List.mem_append_right _ List.mem_cons_self)) hgs
        have S := session_nonces_strict Netcode.NS.Ex.laws_a hreach' 0 kA 1 hocc (nOps.drop 3)
          (fun o ho => hr o (List.mem_append_right _ (List.mem_cons_of_mem _ ho)))
        have hC := log_complete Netcode.NS.Ex.laws_a hg (.packet addrA respA) (hr _ (List.mem_append_right _ List.mem_cons_self)) g' evs h2
        have hlen : evs.length = 1 := by
          cases evs with
          | nil => cases hevs
          | cons e tl =>
            cases tl with
            | nil => rfl
            | cons e2 tl2 =>
              exfalso
              have h3 := congrArg List.length hC
              have h4 : (gOut (lastRes g')).length ≤ 1 := by
                cases lastRes g' with
                | ClientDisconnected i ad o => cases o <;> simp [gOut]
                | _ => simp [gOut]
              simp only [List.map_cons, List.length_cons] at h3
              omega
        refine ⟨g0, g, g', evs, (by first | exact h0 | rfl), h1, h2, ⟨?_, H4, H5, ?_⟩, S.2.2.1, ?_, hC, hlen⟩
        · have : (gsessLog Ex.a 0 g' (nOps.drop 3)).length = 6 := by
            have := congrArg List.length hlog
            rw [List.length_map] at this
            exact this
          simp only [List.length_append, hevs, this, List.length_cons, List.length_nil]
        · rw [← hsplit] at H6; exact H6
        · exact log_sound Netcode.NS.Ex.laws_a hreach0 nOps nOps_inRange

end Examples

end RenetVerif.SrcPropsNcNonces
