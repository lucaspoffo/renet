/-
  THE k-ROUND SCHEDULE, CUT AT THE FIRST ROUND THAT FINDS NOTHING TO SEND — helper lemmas for Props/C01KE.lean.

  Props/C01KD.lean (`k_round_delivery_closed3_partial`) asks `r.ks ≠ []` of a round that starts with an EMPTY
  backlog on channel `ch`: the operation list `roundsOps ch rs` is fixed in advance, every round ends with
  `deliverToA r.ai`, and that operation is undefined (`Sys.step = none`) when B's flush emitted nothing.
  Here the operation list depends on the state (`cutOps`):

      a round that starts with a NON-EMPTY backlog on `ch` is the full round `r.ops ch` of Lemmas/LivenessK;
      the FIRST round that starts with an EMPTY backlog consists of B's application draining the channel
      (`recvB ch`, `r.n` times) and ENDS the schedule — A has nothing to retransmit, so nothing else is asked of
      that round or of the ones after it.
-/
import RenetVerif.Lemmas.FlushCount
import RenetVerif.Props.C01S
namespace RenetVerif.LiveKCut
open RenetVerif C RenetVerif.System RenetVerif.DataPath RenetVerif.Live RenetVerif.LiveK RenetVerif.LiveKC RenetVerif.FlushCount
  RenetVerif.MultiLiveK

/-- A's reliable channel `ch` stores nothing: no message awaits (re)transmission or acknowledgement -/
def Idle (ch : Nat) (s : Sys) : Prop := ∀ sA, SMap.find? s.a.sendRel ch = some sA → sA.unacked = []

def idleb (ch : Nat) (s : Sys) : Bool :=
  match SMap.find? s.a.sendRel ch with
  | some sA => sA.unacked.isEmpty
  | none => true

theorem idleb_iff (ch : Nat) (s : Sys) : idleb ch s = true ↔ Idle ch s := by
  unfold idleb Idle
  cases hf : SMap.find? s.a.sendRel ch with
  | none => simp
  | some sA =>
    constructor
    · intro h sA' e
      cases e
      exact List.isEmpty_iff.mp h
    · intro h
      exact List.isEmpty_iff.mpr (h sA rfl)

theorem idleb_of_find {ch : Nat} {s : Sys} {sA : SendRel} (hf : SMap.find? s.a.sendRel ch = some sA) :
    idleb ch s = sA.unacked.isEmpty := by
  unfold idleb; rw [hf]

/-- **the operations of the cut schedule** started in `s` with round parameters `rs`: full rounds while channel `ch`
    stores something; the first round that finds it empty is B's drain only, and ends the schedule.
    (`none` branch: the round panicked — the list is then never run to its end; the remaining rounds are kept so that
    `cutOps_spec` holds unconditionally.) -/
def cutOps (ch : Nat) : Sys → List RoundP → List SysOp
  | _, [] => []
  | s, r :: rs =>
    if idleb ch s then List.replicate r.n (SysOp.recvB ch)
    else r.ops ch ++ (match s.run (r.ops ch) with
      | some v => cutOps ch v rs
      | none => roundsOps ch rs)

/-- what is run of the first round that is cut: B's drain -/
def idleTail (ch : Nat) : List RoundP → List SysOp
  | [] => []
  | r :: _ => List.replicate r.n (SysOp.recvB ch)

theorem roundsOps_append (ch : Nat) : ∀ (l1 l2 : List RoundP), roundsOps ch (l1 ++ l2) = roundsOps ch l1 ++ roundsOps ch l2
  | [], _ => rfl
  | r :: l1, l2 => by
    simp only [List.cons_append, roundsOps, List.append_assoc]
    rw [roundsOps_append ch l1 l2]

/-- the number of full rounds the cut schedule runs -/
def cutLen (ch : Nat) : Sys → List RoundP → Nat
  | _, [] => 0
  | s, r :: rs =>
    if idleb ch s then 0
    else match s.run (r.ops ch) with
      | some v => cutLen ch v rs + 1
      | none => rs.length + 1

theorem cutLen_le (ch : Nat) : ∀ (rs : List RoundP) (s : Sys), cutLen ch s rs ≤ rs.length
  | [], _ => Nat.le_refl _
  | r :: rs, s => by
    simp only [cutLen, List.length_cons]
    split
    · omega
    · split
      · next v _ => have := cutLen_le ch rs v; omega
      · omega

theorem cutOps_eq (ch : Nat) : ∀ (rs : List RoundP) (s : Sys),
    cutOps ch s rs = roundsOps ch (rs.take (cutLen ch s rs)) ++ idleTail ch (rs.drop (cutLen ch s rs))
  | [], _ => rfl
  | r :: rs, s => by
    by_cases hi : idleb ch s = true
    · simp only [cutOps, cutLen, hi, if_true, List.take_zero, List.drop_zero, roundsOps, idleTail, List.nil_append]
    · have hi' : idleb ch s = false := by
        cases h : idleb ch s with
        | false => rfl
        | true => exact absurd h hi
      cases hv : s.run (r.ops ch) with
      | none =>
        simp only [cutOps, cutLen, hi', hv, Bool.false_eq_true, if_false]
        rw [show rs.length + 1 = (r :: rs).length from rfl, List.take_length, List.drop_length]
        simp [idleTail, roundsOps]
      | some v =>
        simp only [cutOps, cutLen, hi', hv, Bool.false_eq_true, if_false, List.take_succ_cons, List.drop_succ_cons,
          roundsOps, List.append_assoc]
        rw [cutOps_eq ch rs v]

theorem cutOps_spec (ch : Nat) : ∀ (rs : List RoundP) (s : Sys),
    ∃ j, j ≤ rs.length ∧ cutOps ch s rs = roundsOps ch (rs.take j) ++ idleTail ch (rs.drop j) :=
  fun rs s => ⟨cutLen ch s rs, cutLen_le ch rs s, cutOps_eq ch rs s⟩

/-- **Nothing stored at A ⟹ B's drain delivers everything**: every submitted message has completely arrived at B
    (`nothing_lost`), so `n` calls of `receive_message ch` with `|submitted| ≤ |obtained| + n` give B's application
    everything. -/
theorem idle_drain (cfg : Cfg) (ops : List SysOp) (s : Sys) (hr : (Sys.init cfg).run ops = some s)
    (hc : CountersOK cfg s) (hdb : s.b.isDisconnected = false)
    (ch : Nat) (ord : Bool) (ho : KindOf cfg ch ord) (sA : SendRel) (hfA : SMap.find? s.a.sendRel ch = some sA)
    (h0 : sA.unacked = []) (n : Nat) (hn : (s.submitted ch).length ≤ (s.obtained ch).length + n) :
    ∃ u, s.run (List.replicate n (SysOp.recvB ch)) = some u ∧ u.a = s.a ∧ u.b.isDisconnected = false ∧
      u.submitted = s.submitted ∧ Delivered ord (u.obtained ch) (s.submitted ch) := by
  obtain ⟨pkA, hA⟩ := allInv_reach cfg ops s hr hc
  have hrk := relKind_of_kind ho
  obtain ⟨u, hu, u1, u2, -, -, u5⟩ := drain_total cfg ch n s _ hA.i1 (hasRecv_of_relKind hA.i1 hrk)
  have hliveu : u.b.isDisconnected = false := by rw [u5]; exact hdb
  refine ⟨u, hu, u1, hliveu, u2, ?_⟩
  obtain ⟨hkind, hchan⟩ := hA.i2.recvB hdb
  have hk1 := hkind ch
  rw [hrk] at hk1
  cases hrt : SMap.find? s.b.recvRel ch with
  | none => rw [hrt] at hk1; cases hk1
  | some rt =>
    rw [hrt] at hk1
    have hv : ∀ id, id < (s.submitted ch).length → Have rt id := by
      intro id hid
      rcases nothing_lost cfg ops s hr hc hdb ch sA hfA rt hrt id hid with ⟨u0, hf0, -⟩ | h
      · rw [h0] at hf0; cases hf0
      · exact h
    cases ord with
    | true =>
      obtain ⟨p1, p2⟩ := drain_ordered hA hc hdb hrt (by simpa using hk1) hv hn hu
      rw [List.take_length] at p1
      exact p2.eq_of_length (Nat.le_antisymm p2.length_le p1.length_le)
    | false => exact drain_unordered hA hc hdb hrt (by simpa using hk1) hv hn hu

/-- **the schedule facts of the cut schedule.**  Of every round that is reached: `drain` (B's application asks often
    enough).  Of a round that starts with a NON-EMPTY backlog in addition `RoundSched0`: timer, the scheduling
    hypothesis `Sched`, all/exact (`r.ks` = the datagrams of this flush), `r.ai = ackIdx u` — and the facts of the
    following rounds in the state it leads to.  NOTHING about `r.ks ≠ []`; nothing else about the round that starts
    with an empty backlog, nothing at all about the rounds after it. -/
def RoundsSched4 (ch : Nat) (Sched : Sys → Prop) : Sys → List RoundP → Prop
  | _, [] => True
  | s, r :: rs => (s.submitted ch).length ≤ (s.obtained ch).length + r.n ∧
      (¬ Idle ch s → RoundSched0 ch Sched s r ∧ ∀ v, s.run (r.ops ch) = some v → RoundsSched4 ch Sched v rs)

theorem cut_rounds (cfg : Cfg) (ch : Nat) (ord : Bool) (ho : KindOf cfg ch ord) (B : Nat) (hSB : SLICE_SIZE ≤ B)
    (Sched : Sys → Prop)
    (hS : ∀ su, GoodK cfg su → Sched su → (∀ p ∈ flushPk su.a, OnlyCh ch p) ∧ B ≤ availAtTurn su.a ch) :
    ∀ (rs : List RoundP) (ops : List SysOp) (s : Sys) (sA : SendRel) (rB : RecvRel),
      (Sys.init cfg).run ops = some s → Standing cfg ch s sA rB → RoundsSched4 ch Sched s rs → HeadRoom3 cfg s rs → rs ≠ [] →
      backlog sA.unacked ≤ rs.length * (B - SLICE_SIZE + 1) →
      ∃ u, s.run (cutOps ch s rs) = some u ∧ u.a.isDisconnected = false ∧ u.b.isDisconnected = false ∧
        u.submitted ch = s.submitted ch ∧ Delivered ord (u.obtained ch) (s.submitted ch)
  | [], _, _, _, _, _, _, _, _, hne, _ => absurd rfl hne
  | r :: rs, ops, s, sA, rB, hr, hst, hRS, hH, _, hk => by
    obtain ⟨hdrain, hact⟩ := hRS
    have hfA := hst.findA
    by_cases hemp : sA.unacked = []
    · -- the round finds nothing to send: B drains, the schedule ends
      have hidle : idleb ch s = true := by rw [idleb_of_find hfA, hemp]; rfl
      obtain ⟨u, hu, ua, ub, us, hd⟩ := idle_drain cfg ops s hr hH.sys hst.liveB ch ord ho sA hfA hemp r.n hdrain
      refine ⟨u, ?_, by rw [ua]; exact hst.liveA, ub, by rw [us], hd⟩
      simp only [cutOps, hidle, if_true]; exact hu
    · have hnidle : ¬ Idle ch s := fun h => hemp (h sA hfA)
      have hnb : ¬ idleb ch s = true := fun h => hnidle ((idleb_iff ch s).mp h)
      obtain ⟨hsch, hnext⟩ := hact hnidle
      obtain ⟨hok, hhead⟩ := round_of_sched0 cfg ch Sched
        (fun _ su h1 h2 => ⟨(hS su (goodK_reach h1) h2).1, Nat.le_trans hSB (hS su (goodK_reach h1) h2).2⟩)
        r rs ops s sA rB hr hst (fun h => absurd h hemp) hsch hH
      obtain ⟨v, sA', rB', hv, hsub, hst', hgood', hfin⟩ :=
        step_bytes_any cfg ch ord ho B hSB Sched hS rs.length s sA rB r hst hok (by simpa using hk)
      have hcut : cutOps ch s (r :: rs) = r.ops ch ++ cutOps ch v rs := by
        have hnb' : idleb ch s = false := by
          cases h : idleb ch s with
          | false => rfl
          | true => exact absurd h hnb
        simp only [cutOps, hnb', hv, Bool.false_eq_true, if_false]
      rw [hcut, Sys.run_append, hv]
      cases rs with
      | nil =>
        exact ⟨v, rfl, hst'.liveA, hst'.liveB, by rw [hsub], hfin rfl⟩
      | cons r2 rs2 =>
        have hrv : (Sys.init cfg).run (ops ++ r.ops ch) = some v := by rw [Sys.run_append, hr]; exact hv
        obtain ⟨w, hw, w1, w2, w3, w4⟩ := cut_rounds cfg ch ord ho B hSB Sched hS (r2 :: rs2) _ v sA' rB' hrv hst'
          (hnext v hv) (hhead v hv) (by simp) hgood'
        exact ⟨w, hw, w1, w2, by rw [w3, hsub], by rw [hsub] at w4; exact w4⟩

def roundsSched4b (ch : Nat) (schedb : Sys → Bool) : Sys → List RoundP → Bool
  | _, [] => true
  | s, r :: rs => decide ((s.submitted ch).length ≤ (s.obtained ch).length + r.n) &&
    (idleb ch s || (roundSched0b ch schedb s r &&
      (match s.run (r.ops ch) with
       | some v => roundsSched4b ch schedb v rs
       | none => true)))

theorem roundsSched4_of_b {ch : Nat} {Sched : Sys → Prop} {schedb : Sys → Bool}
    (hS : ∀ su, schedb su = true → Sched su) : ∀ (rs : List RoundP) (s : Sys), roundsSched4b ch schedb s rs = true →
    RoundsSched4 ch Sched s rs
  | [], _, _ => trivial
  | r :: rs, s, h => by
    simp only [roundsSched4b, Bool.and_eq_true, Bool.or_eq_true, decide_eq_true_eq] at h
    refine ⟨h.1, fun hni => ?_⟩
    rcases h.2 with hi | ⟨h0, hrest⟩
    · exact absurd ((idleb_iff ch s).mp hi) hni
    · refine ⟨roundSched0_of_b hS h0, ?_⟩
      intro v hv
      rw [hv] at hrest
      exact roundsSched4_of_b hS rs v hrest

/-- obtained only grows, and stays within the submission log by the C01S / C02 end-to-end invariant.  `CountersOK` is
    asked of the final state (as in Props/C01S). -/
theorem delivered_stable (cfg : Cfg) (ops : List SysOp) (u : Sys) (hr : (Sys.init cfg).run ops = some u)
    (ch : Nat) (ord : Bool) (ho : KindOf cfg ch ord) (hd : Delivered ord (u.obtained ch) (u.submitted ch))
    (ops' : List SysOp) (w : Sys) (hw : u.run ops' = some w) (hno : ∀ op ∈ ops', ∀ c m, op ≠ .sendA c m)
    (hc : CountersOK cfg w) :
    w.submitted = u.submitted ∧ w.obtained ch = u.obtained ch ∧ Delivered ord (w.obtained ch) (w.submitted ch) := by
  obtain ⟨hsub, -⟩ := run_frame ops' u w hw hno
  have hmono := obtained_run ch ops' u w hw
  have hrw : (Sys.init cfg).run (ops ++ ops') = some w := by rw [Sys.run_append, hr]; exact hw
  have hlen : (w.obtained ch).length ≤ (u.obtained ch).length := by
    cases ord with
    | true =>
      have hp := C01S.ordered_prefix_end_to_end cfg _ w hrw hc ch ho
      have e : u.obtained ch = u.submitted ch := hd
      rw [e, ← hsub]; exact hp.length_le
    | false =>
      obtain ⟨ids, i1, i2⟩ := C01S.unordered_once_end_to_end cfg _ w hrw hc ch ho
      have hp : (u.obtained ch).Perm (u.submitted ch) := hd
      rw [hp.length_eq, ← hsub]
      exact DataPath.once_length i1 i2
  have heq : w.obtained ch = u.obtained ch := (hmono.eq_of_length (Nat.le_antisymm hmono.length_le hlen)).symm
  refine ⟨hsub, heq, ?_⟩
  rw [heq, hsub]; exact hd

theorem roundsSched4_of_roundsSched3 {ch : Nat} {Sched : Sys → Prop} : ∀ (rs : List RoundP) (s : Sys),
    RoundsSched3 ch Sched s rs → RoundsSched4 ch Sched s rs
  | [], _, _ => trivial
  | _ :: rs, _, h => ⟨h.1.drain, fun _ => ⟨h.1.sched0, fun v hv => roundsSched4_of_roundsSched3 rs v (h.2 v hv)⟩⟩

end RenetVerif.LiveKCut
