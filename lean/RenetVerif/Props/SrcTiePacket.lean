/-
  Source tie: the Lean definitions that /verif/translator derives from the CURRENT Rust text
  (`RenetVerif/Generated/Src.lean`, namespace `RenetVerif.Src`, regenerated on every check run) compute
  exactly what the hand-written model computes.  If one of these Rust functions is edited, the
  regenerated text changes and these theorems are re-checked against it.

  Conventions: generated integers are `Nat`s (a `uN` argument is assumed `< 2^N` where it matters, stated
  as a hypothesis), arrays/`Vec`s/slices are `List`s.
-/
import RenetVerif.Lemmas.SrcEquiv.Packet
namespace RenetVerif.SrcTie
open RenetVerif RenetVerif.SrcEquiv

/-! ## D. `renet/src/packet.rs` `Packet::to_bytes` (over the octets model of RustSem) ↔ `Packet.enc` / `Packet.toBytes` -/
section D
open RustSem

def absSerErr : Src.renet.packet.SerializationError → SerErr
  | .BufferTooShort => .bufferTooShort | .InvalidNumSlices => .invalidNumSlices
  | .SliceSizeAboveLimit => .sliceSizeAboveLimit | .EmptySlice => .emptySlice
  | .InvalidAckRange => .invalidAckRange | .InvalidPacketType => .invalidPacketType

/-- `Packet::to_bytes` on ANY cursor (`off ≤ buf.len()`), for every model packet whose model encoding is defined
    (`p.enc = .ok bytes`: all varints `< 2^62`, ack ranges non-empty and ordered — decidable): if the bytes fit,
    exactly the model's bytes are written at the offset, the offset advances and their number is returned;
    otherwise `Err(BufferTooShort)`.  No panic.  (`Res.forget`: an `Err` of the generated function also carries the
    cursor as the failed write left it; the model does not track it.) -/
theorem packet_to_bytes (p : Packet) (b : OctetsMut) (hb : b.off ≤ b.buf.length) (bytes : Bytes)
    (henc : p.enc = .ok bytes) :
    (Src.renet.packet.Packet.to_bytes (reprPacket p) b).forget =
      if b.off + bytes.length ≤ b.buf.length then
        .ok ({ buf := b.buf.take b.off ++ toNats bytes ++ b.buf.drop (b.off + bytes.length), off := b.off + bytes.length },
             bytes.length)
      else .err .BufferTooShort := by
  have := to_bytes_eq p b hb bytes henc
  simpa [finish, owrite, WBuf.put, toNats_length] using this

/-- on a fresh buffer: the written prefix / the error is what the model's `Packet.toBytes buf.len()` returns -/
theorem packet_to_bytes_fresh (p : Packet) (buf : List Nat) (bytes : Bytes) (henc : p.enc = .ok bytes) :
    mapRes (fun r => ofNats (r.1.buf.take r.2)) absSerErr
        (Src.renet.packet.Packet.to_bytes (reprPacket p) (OctetsMut.with_slice buf)).forget =
      Packet.toBytes buf.length p := by
  have h := packet_to_bytes p (OctetsMut.with_slice buf) (Nat.zero_le _) bytes henc
  rw [h]
  unfold Packet.toBytes
  rw [henc]
  simp only [OctetsMut.with_slice, Nat.zero_add, List.take_zero, List.nil_append, Res.bind_ok]
  by_cases hfit : bytes.length ≤ buf.length
  · rw [if_pos hfit, if_pos hfit]
    simp only [mapRes, Res.pure_eq]
    congr 1
    have hl : (toNats bytes).length = bytes.length := toNats_length _
    rw [List.take_append_of_le_length (by omega), List.take_of_length_le (by omega), ofNats_toNats]
  · rw [if_neg hfit, if_neg hfit]; rfl

/-- a SmallReliable packet with one 3-byte message into an 16-byte buffer -/
example :
    Src.renet.packet.Packet.to_bytes (.SmallReliable 5 1 [(7, [9, 9, 9])]) (OctetsMut.with_slice (List.replicate 16 0)) =
      .ok (⟨[0, 5, 1, 0, 1, 7, 3, 9, 9, 9, 0, 0, 0, 0, 0, 0], 10⟩, 10) := by decide +kernel
/-- a two-byte varint (sequence 300 = 0x412c) and a buffer that is too short -/
example :
    Src.renet.packet.Packet.to_bytes (.Ack 300 [⟨10, 20⟩, ⟨35, 40⟩]) (OctetsMut.with_slice (List.replicate 9 0)) =
      .ok (⟨[4, 0x41, 0x2c, 39, 4, 1, 14, 9, 0], 8⟩, 8) := by decide +kernel
example :
    Src.renet.packet.Packet.to_bytes (.Ack 300 [⟨10, 20⟩, ⟨35, 40⟩]) (OctetsMut.with_slice (List.replicate 7 0)) =
      .err (.BufferTooShort, ⟨[4, 0x41, 0x2c, 39, 4, 1, 14], 7⟩) := by decide +kernel

/-- `Packet::from_bytes` on a read cursor over `pre ++ rest` standing after `pre` (every byte sequence, every
    position): it never panics; it returns the model decoder's packet and leaves the cursor where the model's
    remaining input starts, or fails with the model's error. -/
theorem packet_from_bytes (pre rest : Bytes) :
    (Src.renet.packet.Packet.from_bytes ⟨toNats (pre ++ rest), pre.length⟩).forget =
      match Packet.decode rest with
      | .ok (p, r) => .ok (⟨toNats (pre ++ rest), (pre ++ rest).length - r.length⟩, reprPacket p)
      | .error e => .err (reprSerErr e) := by
  have h := from_bytes_eq (pre ++ rest) rest (List.suffix_append pre rest)
  have hc : cur (pre ++ rest) rest = ⟨toNats (pre ++ rest), pre.length⟩ := by
    simp [cur]
  rw [hc] at h
  rw [h]
  cases Packet.decode rest with
  | error e => rfl
  | ok x => rfl

/-- on a fresh cursor: the packet / error of the model's `Packet.fromBytes` -/
theorem packet_from_bytes_fresh (buf : Bytes) :
    mapRes Prod.snd id (Src.renet.packet.Packet.from_bytes (Octets.with_slice (toNats buf))).forget =
      match Packet.fromBytes buf with
      | .ok p => .ok (reprPacket p)
      | .error e => .err (reprSerErr e) := by
  have h := packet_from_bytes [] buf
  simp only [List.nil_append, List.length_nil] at h
  unfold Octets.with_slice Packet.fromBytes
  rw [h]
  cases Packet.decode buf with
  | error e => rfl
  | ok x => rfl

example :
    Src.renet.packet.Packet.from_bytes (Octets.with_slice [0, 5, 1, 0, 1, 7, 3, 9, 9, 9, 0, 0]) =
      .ok (⟨[0, 5, 1, 0, 1, 7, 3, 9, 9, 9, 0, 0], 10⟩, .SmallReliable 5 1 [(7, [9, 9, 9])]) := by decide +kernel
example :
    Src.renet.packet.Packet.from_bytes (Octets.with_slice [4, 0x41, 0x2c, 39, 4, 1, 14, 9]) =
      .ok (⟨[4, 0x41, 0x2c, 39, 4, 1, 14, 9], 8⟩, .Ack 300 [⟨10, 20⟩, ⟨35, 40⟩]) := by decide +kernel
example : Src.renet.packet.Packet.from_bytes (Octets.with_slice [2, 5, 1, 7, 0, 0, 1, 9]) =
    .err (.InvalidNumSlices, ⟨[2, 5, 1, 7, 0, 0, 1, 9], 6⟩) := by decide +kernel
example : Src.renet.packet.Packet.from_bytes (Octets.with_slice [4, 0x41]) = .err (.BufferTooShort, ⟨[4, 0x41], 1⟩) := by
  decide +kernel
example : Src.renet.packet.Packet.from_bytes (Octets.with_slice [9]) = .err (.InvalidPacketType, ⟨[9], 1⟩) := by decide +kernel
end D

end RenetVerif.SrcTie
