/-
  SrcProps — the property theorems transported to the GENERATED code.

  The property theorems `Props/C01 … C20` speak about the hand-written model; the translator tie `Props/SrcTie<Group>`
  proves every generated function (`Generated/Src/<Group>.lean`, the Lean text derived from the CURRENT Rust source)
  equal to its model counterpart on well-formed inputs.  The modules imported here compose the two: every headline
  statement mentions only generated definitions (plus lists, sets, lengths and intrinsic well-formedness predicates on
  the generated types) in its conclusion; the model occurs in the proofs only.

  One module per group, built on that group's `SrcTie` file and the model property file it uses, so that a
  change of one Rust function breaks only the corollaries that depend on that function:

    module                 property   generated functions                                  headline theorems
    SrcPropsReplay         C04        ReplayProtection::{new, already_received,            replay_advance_then_already_received,
                                        advance_sequence}                                    replay_never_panics, replay_run_accepts_at_most_once,
                                                                                             replay_run_then_rejected
    SrcPropsPacket         C16, C06   renet Packet::{to_bytes, from_bytes}                 packet_roundtrip(_exists), packet_to_bytes_total,
                                                                                             packet_from_bytes_never_panics
    SrcPropsSendUnrel      C13,C09,   SendChannelUnreliable::{send_message,                send_unrel_packets_fit, send_unrel_send_message_accounting,
                           C14          get_packets_to_send} (+ Packet::to_bytes)            send_unrel_flush_accounting, send_unrel_send_then_flush,
                                                                                             send_unrel_budget, send_unrel_large_sent_whole
    SrcPropsSendRel        C13,C16,   SendChannelReliable::get_packets_to_send             send_rel_packets_fit, send_rel_packets_roundtrip,
                           C14          (+ Packet::{to_bytes, from_bytes})                   send_rel_budget
    SrcPropsAcks           C08, C16   RenetClient::{add_pending_ack, acked_largest}        acks_add_pending_ack_denotes / _exact / _evicts_oldest,
                                                                                             acks_acked_largest_denotes
    SrcPropsRecvUnrel      C09        ReceiveChannelUnreliable::{process_message,          recv_unrel_receive_accounting, recv_unrel_receive_total,
                                        receive_message}                                     recv_unrel_process_message_accounting
    SrcPropsSlice          C06, C03   SliceConstructor::{new, process_slice}               slice_process_slice_total / _never_panics, slice_new_inv,
                                                                                             slice_reassembly_exact, slices_concat
    SrcPropsRecvRel        C01/C02,   ReceiveChannelReliable::{process_message,            recv_rel_duplicate_ignored, recv_rel_second_copy_ignored,
                           C06          process_slice}                                       recv_rel_duplicate_slice_ignored,
                                                                                             recv_rel_process_message_never_panics
    SrcPropsNcAddr         C07        read_server_addresses                                nc_read_server_addresses_never_panics
    SrcPropsNcConnToken    C07        ConnectToken::read, PrivateConnectToken::read        nc_connect_token_read_never_panics,
                                                                                             nc_private_token_read_never_panics
    SrcPropsNcPacket       C07        renetcode Packet::read                               nc_packet_read_never_panics

  Shared, group-independent helpers (`NoPanic`, `RMem`, `RangesWF`, …): `Lemmas/SrcCorollaries.lean`.
  Every headline theorem has a concrete `example` evaluated on the generated text next to it.
-/
import RenetVerif.Props.SrcPropsReplay
import RenetVerif.Props.SrcPropsPacket
import RenetVerif.Props.SrcPropsSendUnrel
import RenetVerif.Props.SrcPropsSendRel
import RenetVerif.Props.SrcPropsAcks
import RenetVerif.Props.SrcPropsRecvUnrel
import RenetVerif.Props.SrcPropsSlice
import RenetVerif.Props.SrcPropsRecvRel
import RenetVerif.Props.SrcPropsNcAddr
import RenetVerif.Props.SrcPropsNcConnToken
import RenetVerif.Props.SrcPropsNcPacket
