/-
  Flat-buffer slice reassembly (slice_constructor.rs) against the sender's slicing arithmetic
  (`sliceBytes`, `divCeil`): whatever order the genuine slices of a message `m` arrive in, and however
  often they are repeated, the constructor's buffer agrees with `m` on every block already received,
  and the first moment every index is present it hands out exactly `m`.  `processSlice_eq` is `process_slice` as one
  equation (`Fits`, `grown`, `stepNew`, `finish`); the invariant of Lemmas/RecvInv reads it too.
-/
import RenetVerif.Renet.Channels
namespace RenetVerif.Reasm
open RenetVerif C

theorem S_pos : 0 < SLICE_SIZE := by decide

/-- `m` occupies exactly `n` slices -/
def Shape (n : Nat) (m : Bytes) : Prop :=
  0 < n ∧ (n - 1) * SLICE_SIZE < m.length ∧ m.length ≤ n * SLICE_SIZE

theorem pred_mul_add (n S : Nat) (hn : 0 < n) : n * S = (n - 1) * S + S := by
  have : n = (n - 1) + 1 := by omega
  rw [this, Nat.add_mul]; simp

theorem succ_mul' (i S : Nat) : (i + 1) * S = i * S + S := by
  rw [Nat.add_mul]; simp

theorem mul_succ_le {i n S : Nat} (h : i + 1 ≤ n) : i * S + S ≤ n * S := by
  have := Nat.mul_le_mul_right S h; rw [Nat.add_mul] at this; simpa using this

theorem shape_divCeil (m : Bytes) (h : 0 < m.length) : Shape (divCeil m.length SLICE_SIZE) m := by
  have hS := S_pos
  unfold divCeil
  generalize hn : (m.length + SLICE_SIZE - 1) / SLICE_SIZE = n
  have hdm := Nat.div_add_mod (m.length + SLICE_SIZE - 1) SLICE_SIZE
  have hml := Nat.mod_lt (m.length + SLICE_SIZE - 1) hS
  rw [hn] at hdm
  have hnpos : 0 < n := by
    rw [← hn]; exact Nat.div_pos (by omega) hS
  have hcomm : SLICE_SIZE * n = n * SLICE_SIZE := Nat.mul_comm _ _
  have hp := pred_mul_add n SLICE_SIZE hnpos
  refine ⟨hnpos, ?_, ?_⟩ <;> omega

theorem two_le_divCeil (m : Bytes) (h : m.length > SLICE_SIZE) : 2 ≤ divCeil m.length SLICE_SIZE := by
  have hs := shape_divCeil m (by omega)
  generalize divCeil m.length SLICE_SIZE = n at hs
  obtain ⟨h0, _, h2⟩ := hs
  rcases Nat.lt_or_ge n 2 with hlt | hge
  · have : n = 1 := by omega
    subst this; simp at h2; omega
  · exact hge

theorem sliceBytes_length {n : Nat} {m : Bytes} (hs : Shape n m) {i : Nat} (hi : i < n) :
    (sliceBytes m n i).length = if i = n - 1 then m.length - (n - 1) * SLICE_SIZE else SLICE_SIZE := by
  obtain ⟨hn, h1, h2⟩ := hs
  have hp := pred_mul_add n SLICE_SIZE hn
  simp only [sliceBytes, List.length_take, List.length_drop]
  by_cases hl : i = n - 1
  · simp only [hl, if_true]; omega
  · simp only [hl, if_false]
    have h3 := succ_mul' i SLICE_SIZE
    have h4 := mul_succ_le (S := SLICE_SIZE) (show i + 1 ≤ n - 1 by omega)
    omega

theorem sliceBytes_length_nonlast {n : Nat} {m : Bytes} (hs : Shape n m) {i : Nat} (hi : i < n - 1) :
    (sliceBytes m n i).length = SLICE_SIZE := by
  rw [sliceBytes_length hs (by omega)]; simp; omega

theorem sliceBytes_length_last {n : Nat} {m : Bytes} (hs : Shape n m) :
    1 ≤ (sliceBytes m n (n - 1)).length ∧ (sliceBytes m n (n - 1)).length ≤ SLICE_SIZE := by
  have hn := hs.1
  rw [sliceBytes_length hs (by omega)]
  obtain ⟨_, h1, h2⟩ := hs
  have hp := pred_mul_add n SLICE_SIZE hn
  simp only [if_true]; omega

theorem slice_end_le {n : Nat} {m : Bytes} (hs : Shape n m) {i : Nat} (hi : i < n) :
    i * SLICE_SIZE + (sliceBytes m n i).length ≤ m.length ∧ (sliceBytes m n i).length ≤ SLICE_SIZE := by
  rw [sliceBytes_length hs hi]
  obtain ⟨hn, h1, h2⟩ := hs
  have hp := pred_mul_add n SLICE_SIZE hn
  split
  · rename_i h; subst h; omega
  · have := mul_succ_le (S := SLICE_SIZE) (show i + 1 ≤ n - 1 by omega); omega

theorem sliceBytes_getElem? (m : Bytes) (n i j : Nat) (hj : j < (sliceBytes m n i).length) :
    (sliceBytes m n i)[j]? = m[i * SLICE_SIZE + j]? := by
  simp only [sliceBytes, List.length_take, List.length_drop] at hj
  simp only [sliceBytes, List.getElem?_take, List.getElem?_drop]
  rw [if_pos (by omega)]

theorem flatMap_nonlast (m : Bytes) (n : Nat) :
    ∀ k, k ≤ n - 1 → (List.range k).flatMap (sliceBytes m n) = m.take (k * SLICE_SIZE) := by
  intro k
  induction k with
  | zero => intro _; simp
  | succ k ih =>
    intro hk
    rw [List.range_succ, List.flatMap_append, ih (by omega)]
    simp only [List.flatMap_cons, List.flatMap_nil, List.append_nil]
    have hne : ¬ k = n - 1 := by omega
    have h3 := succ_mul' k SLICE_SIZE
    simp only [sliceBytes, hne, if_false]
    rw [h3, List.take_add]
    congr 2; omega

theorem flatMap_sliceBytes (m : Bytes) (h : 0 < m.length) :
    (List.range (divCeil m.length SLICE_SIZE)).flatMap (sliceBytes m (divCeil m.length SLICE_SIZE)) = m := by
  have hs := shape_divCeil m h
  generalize divCeil m.length SLICE_SIZE = n at hs
  have hn := hs.1
  obtain ⟨n', rfl⟩ : ∃ n', n = n' + 1 := ⟨n - 1, by omega⟩
  rw [List.range_succ, List.flatMap_append, flatMap_nonlast m _ n' (by simp)]
  simp only [List.flatMap_cons, List.flatMap_nil, List.append_nil]
  simp only [sliceBytes, Nat.add_sub_cancel, if_true]
  have : (m.drop (n' * SLICE_SIZE)).take (m.length - n' * SLICE_SIZE) = m.drop (n' * SLICE_SIZE) :=
    List.take_of_length_le (by simp)
  rw [this, List.take_append_drop]

/-! ### receiver: the constructor agrees with `m` -/

/-- the reassembly buffer of `c` is consistent with an `n`-slice message `m` on everything received so far -/
structure AgreesN (n : Nat) (m : Bytes) (c : SliceCtor) : Prop where
  numSlices : c.numSlices = n
  recvLen : c.received.length = n
  count : c.numReceived = c.received.count true
  dataLen : c.data.length = if c.received[n - 1]? = some true then m.length else n * SLICE_SIZE
  block : ∀ i, c.received[i]? = some true → ∀ k, i * SLICE_SIZE ≤ k →
    k < i * SLICE_SIZE + (sliceBytes m n i).length → c.data[k]? = m[k]?

/-- `c` is a reassembly state of the message `m` (sliced the way the sender slices it) -/
def CtorAgrees (m : Bytes) (c : SliceCtor) : Prop := AgreesN (divCeil m.length SLICE_SIZE) m c

theorem agreesN_new (n : Nat) (m : Bytes) : AgreesN n m (SliceCtor.new n) := by
  refine ⟨rfl, by simp [SliceCtor.new], ?_, ?_, ?_⟩
  · simp [SliceCtor.new, List.count_replicate]
  · simp [SliceCtor.new, List.getElem?_replicate]
  · intro i hi; simp [SliceCtor.new, List.getElem?_replicate] at hi

theorem agrees_new (m : Bytes) : CtorAgrees m (SliceCtor.new (divCeil m.length SLICE_SIZE)) :=
  agreesN_new _ m

/-- pure form of `setRange` -/
def setR (l : Bytes) (s : Nat) (b : Bytes) : Bytes := l.take s ++ b ++ l.drop (s + b.length)

theorem setR_length (l : Bytes) (s : Nat) (b : Bytes) (h : s + b.length ≤ l.length) :
    (setR l s b).length = l.length := by
  simp [setR]; omega

theorem setR_getElem? (l : Bytes) (s : Nat) (b : Bytes) (h : s + b.length ≤ l.length) (k : Nat) :
    (setR l s b)[k]? = if s ≤ k ∧ k < s + b.length then b[k - s]? else l[k]? := by
  have hl : (l.take s).length = s := by rw [List.length_take]; omega
  unfold setR
  rw [List.append_assoc, List.getElem?_append, hl, List.getElem?_append, List.getElem?_take, List.getElem?_drop]
  by_cases h1 : k < s
  · rw [if_pos h1, if_pos h1, if_neg (by omega)]
  · rw [if_neg h1]
    by_cases h2 : k - s < b.length
    · rw [if_pos h2, if_pos (by omega)]
    · rw [if_neg h2, if_neg (by omega)]
      congr 1; omega

theorem resize_length (l : Bytes) (len : Nat) : (resize l len).length = len := by
  simp [resize]; omega

theorem resize_getElem?_lt (l : Bytes) (len k : Nat) (hk : k < len) (hk2 : k < l.length) :
    (resize l len)[k]? = l[k]? := by
  unfold resize
  rw [List.getElem?_append_left (by simp; omega)]
  simp [hk]

theorem blocks_disjoint {S i j k a b : Nat} (hij : i ≠ j) (ha : a ≤ S) (hb : b ≤ S) (h1 : i * S ≤ k)
    (h2 : k < i * S + a) : ¬ (j * S ≤ k ∧ k < j * S + b) := by
  intro ⟨h3, h4⟩
  rcases Nat.lt_or_gt_of_ne hij with h | h
  · have := mul_succ_le (S := S) (show i + 1 ≤ j from h); omega
  · have := mul_succ_le (S := S) (show j + 1 ≤ i from h); omega

theorem last_end {n : Nat} {m : Bytes} (hs : Shape n m) :
    (n - 1) * SLICE_SIZE + (sliceBytes m n (n - 1)).length = m.length := by
  rw [sliceBytes_length hs (Nat.sub_lt hs.1 Nat.one_pos), if_pos rfl]
  have := hs.2.1
  omega

theorem pos_block {n : Nat} {m : Bytes} (hs : Shape n m) {k : Nat} (hk : k < m.length) :
    k / SLICE_SIZE < n ∧ k / SLICE_SIZE * SLICE_SIZE ≤ k ∧
      k < k / SLICE_SIZE * SLICE_SIZE + (sliceBytes m n (k / SLICE_SIZE)).length := by
  have hi : k / SLICE_SIZE < n := (Nat.div_lt_iff_lt_mul S_pos).2 (Nat.lt_of_lt_of_le hk hs.2.2)
  have hdm := Nat.div_add_mod k SLICE_SIZE
  have hml := Nat.mod_lt k S_pos
  rw [Nat.mul_comm] at hdm
  refine ⟨hi, by omega, ?_⟩
  rw [sliceBytes_length hs hi]
  have h1 := hs.2.1
  split
  · rename_i heq; rw [heq] at hdm ⊢; omega
  · omega

theorem getElem?_set_true (l : List Bool) (i j : Nat) (h : (l.set i true)[j]? = some true) :
    i = j ∨ l[j]? = some true := by
  rw [List.getElem?_set] at h
  split at h
  · exact Or.inl ‹_›
  · exact Or.inr h

theorem full_iffN {n : Nat} {m : Bytes} {c : SliceCtor} (hc : AgreesN n m c) :
    c.numReceived = c.numSlices ↔ ∀ i, i < n → c.received[i]? = some true := by
  obtain ⟨h1, h2, h3, _, _⟩ := hc
  constructor
  · intro hfull i hi
    have hcount : c.received.count true = c.received.length := by omega
    have hall := List.count_eq_length.1 hcount
    have hmem : c.received[i]'(by omega) ∈ c.received := List.getElem_mem _
    rw [List.getElem?_eq_getElem (by omega)]
    congr 1
    exact (hall _ hmem).symm
  · intro hall
    rw [h3, h1, ← h2]
    apply List.count_eq_length.2
    intro b hb
    obtain ⟨i, hi, rfl⟩ := List.getElem_of_mem hb
    have := hall i (by omega)
    rw [List.getElem?_eq_getElem hi] at this
    exact (Option.some.inj this).symm

theorem completeN {n : Nat} {m : Bytes} (hs : Shape n m) {c : SliceCtor} (hc : AgreesN n m c)
    (hfull : c.numReceived = c.numSlices) : c.data = m := by
  have hall := (full_iffN hc).1 hfull
  have hlen := hc.dataLen
  rw [hall (n - 1) (Nat.sub_lt hs.1 Nat.one_pos), if_pos rfl] at hlen
  apply List.ext_getElem?
  intro k
  by_cases hk : k < m.length
  · obtain ⟨hi, h1, h2⟩ := pos_block hs hk
    exact hc.block _ (hall _ hi) k h1 h2
  · rw [List.getElem?_eq_none (by omega), List.getElem?_eq_none (by omega)]

/-- the buffer the slice is copied into: cut to the message length when the last slice arrives -/
def grown (c : SliceCtor) (idx : Nat) (b : Bytes) : Bytes :=
  if idx = c.numSlices - 1 then resize c.data ((c.numSlices - 1) * SLICE_SIZE + b.length) else c.data

/-- the constructor after the first arrival of slice `idx` -/
def stepNew (c : SliceCtor) (idx : Nat) (b : Bytes) : SliceCtor :=
  { c with
    received := c.received.set idx true, numReceived := c.numReceived + 1,
    data := setR (grown c idx b) (idx * SLICE_SIZE) b }

/-- the tail of `processSlice`: hand out the buffer when the counter is full -/
def finish (c : SliceCtor) : SliceCtor × Option Bytes :=
  if c.numReceived = c.numSlices then ({ c with data := [] }, some c.data) else (c, none)

theorem grow_spec {n : Nat} {m : Bytes} (hs : Shape n m) {c : SliceCtor} (hc : AgreesN n m c)
    {idx : Nat} (hnew : c.received[idx]? = some false) :
    (grown c idx (sliceBytes m n idx)).length =
        (if idx = n - 1 ∨ c.received[n - 1]? = some true then m.length else n * SLICE_SIZE) ∧
      ∀ k, k < m.length → (grown c idx (sliceBytes m n idx))[k]? = c.data[k]? := by
  unfold grown
  rw [hc.numSlices]
  by_cases hl : idx = n - 1
  · subst hl
    have hold : c.data.length = n * SLICE_SIZE := by rw [hc.dataLen, hnew, if_neg (by simp)]
    rw [if_pos rfl, if_pos (Or.inl rfl), resize_length, last_end hs]
    exact ⟨rfl, fun k hk => resize_getElem?_lt _ _ _ hk (by rw [hold]; exact Nat.lt_of_lt_of_le hk hs.2.2)⟩
  · rw [if_neg hl, hc.dataLen]
    simp only [hl, false_or, implies_true, and_self]

theorem step_agreesN {n : Nat} {m : Bytes} (hs : Shape n m) {c : SliceCtor} (hc : AgreesN n m c)
    {idx : Nat} (hidx : idx < n) (hnew : c.received[idx]? = some false) :
    idx * SLICE_SIZE + (sliceBytes m n idx).length ≤ (grown c idx (sliceBytes m n idx)).length ∧
    AgreesN n m (stepNew c idx (sliceBytes m n idx)) := by
  obtain ⟨hend, hbS⟩ := slice_end_le hs hidx
  obtain ⟨hd0len, hd0get⟩ := grow_spec hs hc hnew
  have hlt : idx < c.received.length := by rw [hc.recvLen]; exact hidx
  unfold stepNew
  generalize grown c idx (sliceBytes m n idx) = data0 at hd0len hd0get ⊢
  have hinside : idx * SLICE_SIZE + (sliceBytes m n idx).length ≤ data0.length := by
    rw [hd0len]
    split
    · exact hend
    · exact Nat.le_trans (Nat.add_le_add_left hbS _) (mul_succ_le hidx)
  refine ⟨hinside, hc.numSlices, by simp [hc.recvLen], ?_, ?_, ?_⟩
  · show c.numReceived + 1 = (c.received.set idx true).count true
    have hf : c.received[idx] = false := Option.some.inj ((List.getElem?_eq_getElem hlt).symm.trans hnew)
    rw [List.count_set hlt, hf, hc.count]
    simp
  · show (setR data0 (idx * SLICE_SIZE) (sliceBytes m n idx)).length = _
    rw [setR_length _ _ _ hinside, hd0len]
    have : ((c.received.set idx true)[n - 1]? = some true) ↔ (idx = n - 1 ∨ c.received[n - 1]? = some true) := by
      rw [List.getElem?_set]
      by_cases hl : idx = n - 1
      · rw [if_pos hl, if_pos hlt]; simp [hl]
      · rw [if_neg hl]; simp [hl]
    simp only [this]
  · intro i hi k hk1 hk2
    show (setR data0 (idx * SLICE_SIZE) (sliceBytes m n idx))[k]? = m[k]?
    rw [setR_getElem? _ _ _ hinside]
    rcases getElem?_set_true _ _ _ hi with rfl | hi'
    · rw [if_pos ⟨hk1, hk2⟩, sliceBytes_getElem? m n idx _ (by omega)]
      congr 1
      omega
    · have hne : i ≠ idx := by
        intro e
        rw [e, hnew] at hi'
        cases hi'
      have hiN : i < n := by rw [← hc.recvLen]; exact (List.getElem?_eq_some_iff.1 hi').1
      obtain ⟨hendi, hiS⟩ := slice_end_le hs hiN
      rw [if_neg (blocks_disjoint hne hiS hbS hk1 hk2), hd0get k (Nat.lt_of_lt_of_le hk2 hendi)]
      exact hc.block i hi' k hk1 hk2

/-- the size test at the head of `process_slice`: the index exists, every slice but the last is full -/
def Fits (c : SliceCtor) (idx : Nat) (b : Bytes) : Prop :=
  idx < c.numSlices ∧ if idx = c.numSlices - 1 then b.length ≤ SLICE_SIZE else b.length = SLICE_SIZE

instance (c : SliceCtor) (idx : Nat) (b : Bytes) : Decidable (Fits c idx b) := by unfold Fits; infer_instance

/-- the two unwinding sites: the mark outside `received`, the copy outside the buffer -/
theorem processSlice_eq (c : SliceCtor) (idx : Nat) (b : Bytes) :
    c.processSlice idx b =
      if ¬ Fits c idx b then .err .invalidSlice else
      match c.received[idx]? with
      | none => .panic "slice_constructor.rs received[slice_index] out of bounds"
      | some true => .ok (finish c)
      | some false =>
        if idx * SLICE_SIZE + b.length ≤ (grown c idx b).length then .ok (finish (stepNew c idx b))
        else .panic "slice_constructor.rs sliced_data[start..end].copy_from_slice" := by
  have hbeq : (idx == c.numSlices - 1) = true ↔ idx = c.numSlices - 1 := beq_iff_eq
  unfold SliceCtor.processSlice
  dsimp only
  by_cases hf : Fits c idx b
  · obtain ⟨h1, h2⟩ := hf
    have t2 : ¬ ((idx == c.numSlices - 1) = true ∧ b.length > SLICE_SIZE) := by
      rintro ⟨hl, hb⟩; rw [if_pos (hbeq.mp hl)] at h2; omega
    have t3 : ¬ (¬ (idx == c.numSlices - 1) = true ∧ b.length ≠ SLICE_SIZE) := by
      rintro ⟨hl, hb⟩; rw [if_neg (fun e => hl (hbeq.mpr e))] at h2; exact hb h2
    have hF : ¬ ¬ Fits c idx b := fun hn => hn ⟨h1, h2⟩
    rw [if_neg (Nat.not_le_of_gt h1), if_neg t2, if_neg t3, if_neg hF]
    cases c.received[idx]? with
    | none => rfl
    | some got =>
      cases got with
      | true => simp only [finish, apply_ite Res.ok]; rfl
      | false =>
        simp only [Bool.false_eq_true, if_false, hbeq, setRange, grown, finish, stepNew, setR]
        by_cases hl : idx = c.numSlices - 1 <;> simp only [hl, if_true, if_false] <;> split <;>
          first | rfl | simp only [Res.bind_ok, Res.pure_eq, apply_ite Res.ok]
  · rw [if_pos hf]
    by_cases h1 : idx ≥ c.numSlices
    · rw [if_pos h1]
    · rw [if_neg h1]
      by_cases hl : idx = c.numSlices - 1
      · rw [if_pos ⟨hbeq.mpr hl, Nat.lt_of_not_le fun hb => hf ⟨Nat.lt_of_not_le h1, by rw [if_pos hl]; exact hb⟩⟩]
      · rw [if_neg (fun h => hl (hbeq.mp h.1)),
          if_pos ⟨fun h => hl (hbeq.mp h), fun hb => hf ⟨Nat.lt_of_not_le h1, by rw [if_neg hl]; exact hb⟩⟩]

theorem processSlice_genuineN {n : Nat} {m : Bytes} (hs : Shape n m) {c : SliceCtor} (hc : AgreesN n m c)
    {idx : Nat} (hidx : idx < n) :
    ∃ c' out, c.processSlice idx (sliceBytes m n idx) = .ok (c', out) ∧
      c'.received = c.received.set idx true ∧
      c'.numSlices = c.numSlices ∧
      (out = none → AgreesN n m c' ∧ c'.numReceived ≠ c'.numSlices) ∧
      (∀ m', out = some m' → m' = m) ∧
      (out ≠ none ↔ ∀ i, i < n → c'.received[i]? = some true) := by
  have hlen := sliceBytes_length hs hidx
  have hget : ∃ got, c.received[idx]? = some got :=
    ⟨c.received[idx]'(by rw [hc.recvLen]; exact hidx), List.getElem?_eq_getElem _⟩
  obtain ⟨got, hgot⟩ := hget
  have hsz : if idx = c.numSlices - 1 then (sliceBytes m n idx).length ≤ SLICE_SIZE
      else (sliceBytes m n idx).length = SLICE_SIZE := by
    have := (slice_end_le hs hidx).2
    rw [hc.numSlices]
    split
    · exact this
    · rename_i hne; rw [hlen, if_neg hne]
  -- the constructor before `finish`, in both cases
  have key : ∃ c1, c.processSlice idx (sliceBytes m n idx) = .ok (finish c1) ∧
      AgreesN n m c1 ∧ c1.received = c.received.set idx true ∧ c1.numSlices = c.numSlices := by
    have hF : ¬ ¬ Fits c idx (sliceBytes m n idx) := fun hn => hn ⟨by rw [hc.numSlices]; exact hidx, hsz⟩
    rw [processSlice_eq, if_neg hF, hgot]
    cases got with
    | true =>
      refine ⟨c, rfl, hc, ?_, rfl⟩
      apply List.ext_getElem?
      intro k
      rw [List.getElem?_set]
      by_cases hk : idx = k
      · subst hk; simp [hgot]; exact (List.getElem?_eq_some_iff.1 hgot).1
      · simp [hk]
    | false =>
      have hstep := step_agreesN hs hc hidx hgot
      exact ⟨_, if_pos hstep.1, hstep.2, rfl, rfl⟩
  obtain ⟨c1, hproc, hag, hrecv, hns⟩ := key
  have hfull := full_iffN hag
  by_cases hf : c1.numReceived = c1.numSlices
  · refine ⟨{ c1 with data := [] }, some c1.data, ?_, hrecv, hns, ?_, ?_, ?_⟩
    · rw [hproc]; simp [finish, hf]
    · intro h; cases h
    · intro m' h; cases h; exact completeN hs hag hf
    · constructor
      · intro _; exact hfull.1 hf
      · intro _ h; cases h
  · refine ⟨c1, none, ?_, hrecv, hns, ?_, ?_, ?_⟩
    · rw [hproc]; simp [finish, hf]
    · intro _; exact ⟨hag, hf⟩
    · intro m' h; cases h
    · constructor
      · intro h; exact absurd rfl h
      · intro h; exact absurd (hfull.2 h) hf

theorem processSlice_genuine {m : Bytes} (hm : 0 < m.length) {c : SliceCtor} (hc : CtorAgrees m c)
    {idx : Nat} (hidx : idx < divCeil m.length SLICE_SIZE) :
    ∃ c' out, c.processSlice idx (sliceBytes m (divCeil m.length SLICE_SIZE) idx) = .ok (c', out) ∧
      c'.received = c.received.set idx true ∧
      c'.numSlices = c.numSlices ∧
      (out = none → CtorAgrees m c' ∧ c'.numReceived ≠ c'.numSlices) ∧
      (∀ m', out = some m' → m' = m) ∧
      (out ≠ none ↔ ∀ i, i < divCeil m.length SLICE_SIZE → c'.received[i]? = some true) :=
  processSlice_genuineN (shape_divCeil m hm) hc hidx

theorem count_set_true {l : List Bool} {i : Nat} (h : l[i]? = some false) :
    (l.set i true).count true = l.count true + 1 := by
  obtain ⟨hi, hv⟩ := List.getElem?_eq_some_iff.mp h
  rw [List.count_set hi, hv]
  rfl

end RenetVerif.Reasm
