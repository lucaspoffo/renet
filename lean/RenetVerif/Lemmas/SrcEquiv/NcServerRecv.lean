/-
  `renetcode/src/server.rs` (group NcServerRecv): `find_client_mut_by_addr`, `NetcodeServer::{new, handle_connection_request,
  process_packet_internal, process_packet}` against `Netcode/Server.lean`.  The ties themselves are in
  `Props/SrcTieNcServerRecv.lean`.
-/
import RenetVerif.Generated.Src.NcServerRecv
import RenetVerif.Lemmas.SrcEquiv.NcServerSend
import RenetVerif.Lemmas.NcRequest
namespace RenetVerif.SrcEquiv
open RenetVerif RenetVerif.RustSem RenetVerif.Netcode

section NcServerRecv
open Src.renetcode.server

theorem reprNS_connect_key (o : List Nat) (s : Netcode.NetcodeServer) : (reprNS o s).connect_key = toNats s.connectKey := rfl
theorem reprNS_challenge_sequence (o : List Nat) (s : Netcode.NetcodeServer) :
    (reprNS o s).challenge_sequence = s.challengeSequence := rfl
theorem reprNS_challenge_key (o : List Nat) (s : Netcode.NetcodeServer) :
    (reprNS o s).challenge_key = toNats s.challengeKey := rfl
theorem reprNS_public_addresses (o : List Nat) (s : Netcode.NetcodeServer) :
    (reprNS o s).public_addresses = s.publicAddresses.map reprAddr := rfl
theorem reprNS_secure (o : List Nat) (s : Netcode.NetcodeServer) : (reprNS o s).secure = s.secure := rfl

theorem reprNConn_confirmed (c : Netcode.Connection) : (reprNConn c).confirmed = c.confirmed := rfl
theorem reprNConn_client_id (c : Netcode.Connection) : (reprNConn c).client_id = c.clientId := rfl
theorem reprNConn_user_data (c : Netcode.Connection) : (reprNConn c).user_data = toNats c.userData := rfl
theorem reprNConn_receive_key (c : Netcode.Connection) : (reprNConn c).receive_key = toNats c.receiveKey := rfl
theorem reprNConn_replay_protection (c : Netcode.Connection) :
    (reprNConn c).replay_protection = reprRP c.replayProtection := rfl

theorem reprAddr_eq_iff (x y : Addr) : (reprAddr x = reprAddr y) = (x = y) := by
  apply propext; constructor
  · exact reprAddr_inj
  · intro h; rw [h]

theorem find_addr_idx_go (addr : Addr) : ∀ (clients : List (Option Netcode.Connection)) (i : Nat),
    RustSem.find_some_idx.go (fun c : SConnection => decide (c.addr = reprAddr addr)) i (clients.map (Option.map reprNConn))
      = (findClientByAddr.go addr clients i).map (·.1) := by
  intro clients
  induction clients with
  | nil => intro i; rfl
  | cons c rest ih =>
    intro i
    cases c with
    | none => simp only [List.map_cons, Option.map_none, RustSem.find_some_idx.go, findClientByAddr.go]; exact ih (i + 1)
    | some c =>
      simp only [List.map_cons, Option.map_some, RustSem.find_some_idx.go, findClientByAddr.go, reprNConn, reprAddr_eq_iff]
      by_cases h : c.addr = addr
      · simp [h]
      · simp only [h, decide_false, if_false, Bool.false_eq_true]; exact ih (i + 1)


/-- `ServerAuthentication`: the model passes `secure` and the private key separately -/
def reprAuth (secure : Bool) (pk : Bytes) : ServerAuthentication := if secure then .Secure (toNats pk) else .Unsecure

/-! ### the pending table (`HashMap<SocketAddr, Connection>` = `RustSem.AMap`), host list, counters -/

def pendR (l : List (Addr × Netcode.Connection)) : RustSem.AMap RustSem.SocketAddr SConnection :=
  l.map (fun p => (reprAddr p.1, reprNConn p.2))

theorem reprNS_pending_clients (o : List Nat) (s : Netcode.NetcodeServer) :
    (reprNS o s).pending_clients = pendR s.pendingClients := rfl

theorem amap_find (addr : Addr) : ∀ l : List (Addr × Netcode.Connection),
    RustSem.AMap.find? (pendR l) (reprAddr addr) = (pendingFind l addr).map reprNConn := by
  intro l
  induction l with
  | nil => rfl
  | cons p r ih =>
    obtain ⟨k, c⟩ := p
    simp only [pendR, List.map_cons, RustSem.AMap.find?, pendingFind, reprAddr_eq_iff]
    by_cases h : k = addr
    · simp [h]
    · simp only [h, if_false]; exact ih

theorem amap_contains (addr : Addr) (l : List (Addr × Netcode.Connection)) :
    RustSem.AMap.contains_key (pendR l) (reprAddr addr) = (pendingFind l addr).isSome := by
  simp [RustSem.AMap.contains_key, amap_find]

theorem amap_insert (addr : Addr) (c : Netcode.Connection) : ∀ l : List (Addr × Netcode.Connection),
    RustSem.AMap.insert (pendR l) (reprAddr addr) (reprNConn c) = pendR (pendingSet l addr c) := by
  intro l
  induction l with
  | nil => rfl
  | cons p r ih =>
    obtain ⟨k, c0⟩ := p
    simp only [pendR, List.map_cons, RustSem.AMap.insert, pendingSet, reprAddr_eq_iff]
    by_cases h : k = addr
    · simp [h]
    · simp only [h, if_false, List.map_cons, List.cons.injEq, true_and]; exact ih

theorem amap_remove (addr : Addr) (l : List (Addr × Netcode.Connection)) :
    RustSem.AMap.remove (pendR l) (reprAddr addr) = pendR (pendingRemove l addr) := by
  simp only [RustSem.AMap.remove, pendR, pendingRemove, List.filter_map]
  congr 1
  apply List.filter_congr
  intro p _
  simp only [Function.comp, ne_eq, reprAddr_eq_iff]

theorem amap_index {ε ρ : Type} {addr : Addr} {l : List (Addr × Netcode.Connection)} {c : Netcode.Connection}
    (h : pendingFind l addr = some c) (site : String) :
    (RustSem.AMap.index (pendR l) (reprAddr addr) site : Exec ε ρ _) = .val (reprNConn c) := by
  simp [RustSem.AMap.index, amap_find, h]

theorem contains_map (pub : List Addr) (x : Addr) : RustSem.contains (pub.map reprAddr) (reprAddr x) = pub.contains x := by
  induction pub with
  | nil => rfl
  | cons y r ih =>
    simp only [RustSem.contains, List.map_cons, List.any_cons, reprAddr_eq_iff, List.contains_cons] at ih ⊢
    rw [ih]
    by_cases h : y = x
    · subst h; simp
    · have h' : ¬ x = y := fun e => h e.symm
      simp [h, h']

theorem in_host_list_eq (sa : Netcode.AddrArray) (pub : List Addr) :
    List.any (List.filterMap (fun host => host) (reprAddrs sa)) (fun x => RustSem.contains (pub.map reprAddr) x)
      = sa.any (fun h => match h with | some x => pub.contains x | none => false) := by
  induction sa with
  | nil => rfl
  | cons h r ih =>
    cases h with
    | none => simpa [reprAddrs] using ih
    | some x =>
      simp only [reprAddrs, List.map_cons, Option.map_some, List.filterMap_cons, List.any_cons, contains_map] at ih ⊢
      rw [ih]

theorem count_connected_eq (clients : List (Option Netcode.Connection)) :
    RustSem.len (List.filterMap (fun x => x) (clients.map (Option.map reprNConn))) = countConnected clients := by
  unfold countConnected RustSem.len
  induction clients with
  | nil => rfl
  | cons c r ih =>
    cases c with
    | none => simpa [List.filter_cons] using ih
    | some c => simp only [List.map_cons, Option.map_some, List.filterMap_cons, List.length_cons, List.filter_cons,
        Option.isSome_some, if_true, ih]

theorem ns_find_or_add_eq {ε : Type} (out : List Nat) (s : Netcode.NetcodeServer) (ne : Netcode.ConnectTokenEntry)
    (h : 0 < s.connectTokenEntries.length) :
    (NetcodeServer.find_or_add_connect_token_entry (reprNS out s) (reprEntry ne) : Res ε _)
      = .ok (reprNS out (s.findOrAddConnectTokenEntry ne).1, (s.findOrAddConnectTokenEntry ne).2) := by
  have hb : reprNS out s = reprTable (reprNS out s) s.connectTokenEntries := rfl
  rw [hb, find_or_add_eq (base := reprNS out s) s.connectTokenEntries ne h]
  unfold Netcode.NetcodeServer.findOrAddConnectTokenEntry
  simp only []
  cases (Netcode.NetcodeServer.scanEntries ne.mac s.connectTokenEntries 0 ⟨DURATION_MAX, 0, false, none⟩).matchingEntry with
  | none => rfl
  | some e => rfl

theorem len_pendR (l : List (Addr × Netcode.Connection)) : RustSem.len (pendR l) = l.length := by
  simp [RustSem.len, pendR]

/-- outcomes of the `Result<ServerResult, NetcodeError>` functions: the model's result / error and state; the scratch
    buffer is some buffer of the same length -/
def SrvOut (m : Netcode.NetcodeServer.SRes) (g : Res (SNErr × SNetcodeServer) (SNetcodeServer × SServerResult)) : Prop :=
  match m with
  | .ok (r, s') => ∃ out', out'.length = C.NETCODE_MAX_PACKET_BYTES ∧ g = .ok (reprNS out' s', reprNSR r)
  | .err (e, s') => ∃ out', out'.length = C.NETCODE_MAX_PACKET_BYTES ∧ g = .err (reprNErr e, reprNS out' s')
  | .panic _ => ∃ msg, g = .panic msg

theorem toNats_ne_iff (x y : Bytes) : (toNats x ≠ toNats y) = (x ≠ y) := by
  apply propext; constructor
  · intro h e; exact h (by rw [e])
  · intro h e; exact h (toNats_inj e)

/-- outcomes of `process_packet_internal`: as `SrvOut`, plus the caller's buffer (decrypted in place: some contents) -/
def RecvOutL (L : Nat) (m : Netcode.NetcodeServer.SRes)
    (g : Res (SNErr × (SNetcodeServer × List Nat)) (SNetcodeServer × List Nat × SServerResult)) : Prop :=
  match m with
  | .ok (r, s') => ∃ out' buf', out'.length = C.NETCODE_MAX_PACKET_BYTES ∧ buf'.length = L ∧ g = .ok (reprNS out' s', buf', reprNSR r)
  | .err (e, s') => ∃ out' buf', out'.length = C.NETCODE_MAX_PACKET_BYTES ∧ buf'.length = L ∧ g = .err (reprNErr e, (reprNS out' s', buf'))
  | .panic _ => ∃ msg, g = .panic msg

theorem reprNS_set_client (out : List Nat) (s : Netcode.NetcodeServer) (i : Nat) (c : Option Netcode.Connection) :
    ({ reprNS out s with clients := List.set (s.clients.map (Option.map reprNConn)) i (c.map reprNConn) } : SNetcodeServer)
      = reprNS out { s with clients := s.clients.set i c } := by
  simp [reprNS, List.map_set]

/-- the generated server whose pending table has been replaced -/
theorem reprNS_with_pending (out : List Nat) (s : Netcode.NetcodeServer) (l : List (Addr × Netcode.Connection)) :
    (⟨(reprNS out s).clients, pendR l, (reprNS out s).connect_token_entries,
      (reprNS out s).protocol_id, (reprNS out s).connect_key, (reprNS out s).max_clients, (reprNS out s).challenge_sequence,
      (reprNS out s).challenge_key, (reprNS out s).public_addresses, (reprNS out s).current_time, (reprNS out s).global_sequence,
      (reprNS out s).secure, (reprNS out s).out⟩ : SNetcodeServer)
      = reprNS out { s with pendingClients := l } := rfl

theorem reprNS_insert_pending (out : List Nat) (s : Netcode.NetcodeServer) (addr : Addr) (c : Netcode.Connection) :
    ({ reprNS out s with pending_clients := RustSem.AMap.insert (reprNS out s).pending_clients (reprAddr addr) (reprNConn c) }
        : SNetcodeServer) = reprNS out { s with pendingClients := pendingSet s.pendingClients addr c } :=
  (congrArg (fun l => ({ reprNS out s with pending_clients := l } : SNetcodeServer)) (amap_insert addr c s.pendingClients)).trans
    (reprNS_with_pending out s _)

theorem pendingFind_set (addr : Addr) (c : Netcode.Connection) : ∀ l : List (Addr × Netcode.Connection),
    pendingFind (pendingSet l addr c) addr = some c := by
  intro l
  induction l with
  | nil => simp [pendingSet, pendingFind]
  | cons p r ih =>
    obtain ⟨k, c0⟩ := p
    by_cases h : k = addr
    · simp [pendingSet, pendingFind, h]
    · simp [pendingSet, pendingFind, h, ih]

theorem find_free_go : ∀ (l : List (Option Netcode.Connection)) (i : Nat),
    List.findIdx?.go (fun c : Option SConnection => c.isNone) (l.map (Option.map reprNConn)) i = firstFreeSlot.go l i := by
  intro l
  induction l with
  | nil => intro i; rfl
  | cons c r ih =>
    intro i
    cases c with
    | none => simp [List.findIdx?.go, firstFreeSlot.go]
    | some c => simp only [List.map_cons, Option.map_some, List.findIdx?.go, Option.isNone_some, Bool.false_eq_true, if_false,
        firstFreeSlot.go]; exact ih (i + 1)

theorem find_free_eq (l : List (Option Netcode.Connection)) :
    List.findIdx? (fun c : Option SConnection => c.isNone) (l.map (Option.map reprNConn)) = firstFreeSlot l := by
  unfold List.findIdx? firstFreeSlot; exact find_free_go l 0

theorem first_free_lt {l : List (Option Netcode.Connection)} {i : Nat} (h : firstFreeSlot l = some i) : i < l.length :=
  lt_of_getElem? (NS.firstFree_some h)

/-- a call of `handle_connection_request` from `process_packet_internal` (the caller's buffer rides along in the error) -/
theorem hcr_cases {ρ : Type} {m : Netcode.NetcodeServer.SRes} {g : Res (SNErr × SNetcodeServer) (SNetcodeServer × SServerResult)}
    (h : SrvOut m g) (buf : List Nat) :
    (∃ r s' out', out'.length = C.NETCODE_MAX_PACKET_BYTES ∧ m = .ok (r, s') ∧
        (Exec.callFrom (fun err => Res.ok (err.1, (err.2, buf))) g : Exec (SNErr × (SNetcodeServer × List Nat)) ρ _)
          = .val (reprNS out' s', reprNSR r)) ∨
    (∃ e s' out', out'.length = C.NETCODE_MAX_PACKET_BYTES ∧ m = .err (e, s') ∧
        (Exec.callFrom (fun err => Res.ok (err.1, (err.2, buf))) g : Exec (SNErr × (SNetcodeServer × List Nat)) ρ _)
          = .err (reprNErr e, (reprNS out' s', buf))) ∨
    (∃ mm msg, m = .panic mm ∧
        (Exec.callFrom (fun err => Res.ok (err.1, (err.2, buf))) g : Exec (SNErr × (SNetcodeServer × List Nat)) ρ _)
          = .panic msg) := by
  cases m with
  | ok v =>
    obtain ⟨r, s'⟩ := v
    obtain ⟨out', hol, hg⟩ := h
    left; exact ⟨r, s', out', hol, rfl, by rw [hg]; rfl⟩
  | err v =>
    obtain ⟨e, s'⟩ := v
    obtain ⟨out', hol, hg⟩ := h
    right; left; exact ⟨e, s', out', hol, rfl, by rw [hg]; rfl⟩
  | panic mm =>
    obtain ⟨msg, hg⟩ := h
    right; right; exact ⟨mm, msg, rfl, by rw [hg]; rfl⟩

/-- outcomes of `process_packet` (no `Err`: errors are logged and become `ServerResult::None`, keeping the state changes made
    before the error) -/
def PktOutL {ε : Type} (L : Nat) (m : Res Empty (Netcode.ServerResult × Netcode.NetcodeServer))
    (g : Res ε (SNetcodeServer × List Nat × SServerResult)) : Prop :=
  match m with
  | .ok (r, s') => ∃ out' buf', out'.length = C.NETCODE_MAX_PACKET_BYTES ∧ buf'.length = L ∧ g = .ok (reprNS out' s', buf', reprNSR r)
  | .err e => nomatch e
  | .panic _ => ∃ msg, g = .panic msg

/-- `RecvOutL` / `PktOutL` without the buffer's length -/
def RecvOut (m : Netcode.NetcodeServer.SRes)
    (g : Res (SNErr × (SNetcodeServer × List Nat)) (SNetcodeServer × List Nat × SServerResult)) : Prop :=
  match m with
  | .ok (r, s') => ∃ out' buf', out'.length = C.NETCODE_MAX_PACKET_BYTES ∧ g = .ok (reprNS out' s', buf', reprNSR r)
  | .err (e, s') => ∃ out' buf', out'.length = C.NETCODE_MAX_PACKET_BYTES ∧ g = .err (reprNErr e, (reprNS out' s', buf'))
  | .panic _ => ∃ msg, g = .panic msg
def PktOut {ε : Type} (m : Res Empty (Netcode.ServerResult × Netcode.NetcodeServer))
    (g : Res ε (SNetcodeServer × List Nat × SServerResult)) : Prop :=
  match m with
  | .ok (r, s') => ∃ out' buf', out'.length = C.NETCODE_MAX_PACKET_BYTES ∧ g = .ok (reprNS out' s', buf', reprNSR r)
  | .err e => nomatch e
  | .panic _ => ∃ msg, g = .panic msg

end NcServerRecv
end RenetVerif.SrcEquiv
