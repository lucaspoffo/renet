/-
  The connection object `RenetClient` (renet/src/remote_connection.rs, struct of group ConnTypes = the Rust struct
  without its statistics fields `stats` / `rtt`) against `Conn` of `Renet/Conn.lean`: what the ties of group Conn
  (construction, status, per-channel send / receive entry points; `Props/SrcTieConn.lean`) are proved from.
-/
import RenetVerif.Generated.Src.Conn
import RenetVerif.Lemmas.SrcEquiv.Prims
import RenetVerif.Lemmas.SrcEquiv.CommonRepr
import RenetVerif.Lemmas.SrcEquiv.ChanLemmas
import RenetVerif.Lemmas.SrcEquiv.ConnRepr
namespace RenetVerif.SrcEquiv
open RenetVerif RenetVerif.RustSem

section Conn
open Src.renet.remote_connection

def reprCfg (c : ChanCfg) : Src.renet.channel.ChannelConfig :=
  ⟨c.id, c.maxMem, match c.kind with
    | .unreliable => .Unreliable
    | .ordered => .ReliableOrdered c.resend
    | .unordered => .ReliableUnordered c.resend⟩

def insSU (m : SMap SendUnrel) (c : ChanCfg) : SMap SendUnrel := SMap.insert m c.id (SendUnrel.new c.id c.maxMem)
def insSR (m : SMap SendRel) (c : ChanCfg) : SMap SendRel := SMap.insert m c.id (SendRel.new c.id c.resend c.maxMem)
def insRU (m : SMap RecvUnrel) (c : ChanCfg) : SMap RecvUnrel := SMap.insert m c.id (RecvUnrel.new c.id c.maxMem)
def insRR (m : SMap RecvRel) (c : ChanCfg) : SMap RecvRel := SMap.insert m c.id (RecvRel.new c.maxMem (c.kind == .ordered))

abbrev SendSt := List ChannelOrder × RustSem.Map Src.renet.channel.reliable.SendChannelReliable ×
  RustSem.Map Src.renet.channel.unreliable.SendChannelUnreliable

/-- state of the first loop of `from_channels` after the configs `done` -/
def sendSt (done : List ChanCfg) : SendSt :=
  ((done.map fun c => (c.kind != .unreliable, c.id)).map reprOrd,
   mapVals reprSR ((done.filter (·.kind != .unreliable)).foldl insSR []),
   mapVals reprSU ((done.filter (·.kind == .unreliable)).foldl insSU []))

abbrev RecvSt := RustSem.Map Src.renet.channel.reliable.ReceiveChannelReliable ×
  RustSem.Map Src.renet.channel.unreliable.ReceiveChannelUnreliable

/-- state of the second loop of `from_channels` after the configs `done` -/
def recvSt (done : List ChanCfg) : RecvSt :=
  (reprRecvRel (fun _ => 0) ((done.filter (·.kind != .unreliable)).foldl insRR []),
   mapVals reprRU ((done.filter (·.kind == .unreliable)).foldl insRU []))

theorem id_new_of_nodup {p : ChanCfg → Bool} {done r : List ChanCfg} {c : ChanCfg}
    (h : (((done ++ c :: r).filter p).map (·.id)).Nodup) (hp : p c = true) : c.id ∉ (done.filter p).map (·.id) := by
  simp only [List.filter_append, List.map_append, List.filter_cons, hp, if_true, List.map_cons] at h
  exact fun hmem => (List.nodup_append.mp h).2.2 c.id hmem c.id (by simp) rfl

/-- the shape of the loops of `from_channels` over the channel configs -/
theorem cfg_loop {ε ρ σ : Type} (st : List ChanCfg → σ) (body : Src.renet.channel.ChannelConfig → σ → Exec ε ρ σ)
    (hb : ∀ (done : List ChanCfg) (c : ChanCfg),
      (c.kind = .unreliable → c.id ∉ (done.filter (·.kind == .unreliable)).map (·.id)) →
      (c.kind ≠ .unreliable → c.id ∉ (done.filter (·.kind != .unreliable)).map (·.id)) →
      body (reprCfg c) (st done) = .val (st (done ++ [c]))) :
    ∀ (l done : List ChanCfg),
      (((done ++ l).filter (·.kind == .unreliable)).map (·.id)).Nodup →
      (((done ++ l).filter (·.kind != .unreliable)).map (·.id)).Nodup →
      RustSem.forEach (l.map reprCfg) (st done) body = .val (st (done ++ l)) := by
  intro l
  induction l with
  | nil => intro done _ _; simp [RustSem.forEach]
  | cons c r ih =>
    intro done hu hr
    have e : done ++ c :: r = (done ++ [c]) ++ r := by simp
    rw [List.map_cons, RustSem.forEach, hb done c (fun hk => id_new_of_nodup hu (by simp [hk]))
      (fun hk => id_new_of_nodup hr (by simp [hk])), Exec.bind_val', e]
    exact ih (done ++ [c]) (by rw [← e]; exact hu) (by rw [← e]; exact hr)

end Conn
end RenetVerif.SrcEquiv
