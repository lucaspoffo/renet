/-
  Group-independent helpers for `Props/SrcProps*.lean`: the property theorems (C01 … C20, proved over the hand-written
  model) transported to statements about the GENERATED functions (`RenetVerif/Generated/Src/*`, the Lean text the
  translator derives from the current Rust source).

  Only notions that do not depend on a particular group live here (so that a broken group breaks only its own
  corollaries): `NoPanic`, how `SameOutcome` / `mapRes` / `Res.forget` transport it, and small list facts.
  Group-specific helpers sit next to their headline statements in `Props/SrcProps<Area>.lean`.
-/
import RenetVerif.Lemmas.SrcEquiv.Prims
import RenetVerif.Lemmas.Acks
namespace RenetVerif.SrcCor
open RenetVerif RenetVerif.SrcEquiv

variable {ε ε' α β σ : Type}

/-- the modelled Rust call does not unwind: it returns normally (`ok`) or with `Err` (`err`) -/
def NoPanic (r : Res ε α) : Prop := ∀ site, r ≠ .panic site

instance (r : Res ε α) : Decidable (NoPanic r) :=
  match r with
  | .ok _ => isTrue (fun _ h => by cases h)
  | .err _ => isTrue (fun _ h => by cases h)
  | .panic s => isFalse (fun h => h s rfl)

theorem noPanic_ok (a : α) : NoPanic (.ok a : Res ε α) := fun _ h => by cases h
theorem noPanic_err (e : ε) : NoPanic (.err e : Res ε α) := fun _ h => by cases h
theorem noPanic_of_eq_ok {r : Res ε α} {a : α} (h : r = .ok a) : NoPanic r := h ▸ noPanic_ok a
theorem noPanic_iff_isPanic (r : Res ε α) : NoPanic r ↔ r.isPanic = false := by
  cases r with
  | ok a => exact ⟨fun _ => rfl, fun _ => noPanic_ok a⟩
  | err e => exact ⟨fun _ => rfl, fun _ => noPanic_err e⟩
  | panic s => exact ⟨fun h => absurd rfl (h s), fun h => by cases h⟩

theorem noPanic_cases {r : Res ε α} (h : NoPanic r) : (∃ a, r = .ok a) ∨ (∃ e, r = .err e) := by
  cases r with
  | ok a => exact .inl ⟨a, rfl⟩
  | err e => exact .inr ⟨e, rfl⟩
  | panic s => exact absurd rfl (h s)

theorem noPanic_empty {r : Res Empty α} (h : NoPanic r) : ∃ a, r = .ok a := by
  rcases noPanic_cases h with h | ⟨e, _⟩
  · exact h
  · exact nomatch e

theorem noPanic_forget {r : Res (ε × σ) α} : NoPanic r.forget ↔ NoPanic r := by
  cases r with
  | ok a => exact ⟨fun _ => noPanic_ok a, fun _ => noPanic_ok a⟩
  | err e => exact ⟨fun _ => noPanic_err e, fun _ => noPanic_err e.1⟩
  | panic s => exact ⟨fun h => absurd rfl (h s), fun h => absurd rfl (h s)⟩

theorem noPanic_mapRes {f : α → β} {g : ε → ε'} {r : Res ε α} : NoPanic (mapRes f g r) ↔ NoPanic r := by
  cases r with
  | ok a => exact ⟨fun _ => noPanic_ok a, fun _ => noPanic_ok (f a)⟩
  | err e => exact ⟨fun _ => noPanic_err e, fun _ => noPanic_err (g e)⟩
  | panic s => exact ⟨fun h => absurd rfl (h s), fun h => absurd rfl (h s)⟩

theorem noPanic_of_sameOutcome {x y : Res ε α} (h : SameOutcome x y) (hy : NoPanic y) : NoPanic x := by
  cases x with
  | ok a => exact noPanic_ok a
  | err e => exact noPanic_err e
  | panic s =>
    cases y with
    | ok b => exact h.elim
    | err e => exact h.elim
    | panic t => exact absurd rfl (hy t)

/-- the shape in which a source tie is used: the generated call `G` returns, fails or unwinds as the model call `M` does,
    with related values.  `pull_*` reads a generated outcome back, `push_*` carries a model outcome forward. -/
inductive Tied {ε ε' α β : Type} (Rok : α → β → Prop) (Rerr : ε → ε' → Prop) : Res ε α → Res ε' β → Prop
  | ok {a : α} {b : β} : Rok a b → Tied Rok Rerr (.ok a) (.ok b)
  | err {e : ε} {e' : ε'} : Rerr e e' → Tied Rok Rerr (.err e) (.err e')
  | panic {m m' : String} : Tied Rok Rerr (.panic m) (.panic m')

section tied
variable {Rok : α → β → Prop} {Rerr : ε → ε' → Prop} {M : Res ε α} {G : Res ε' β} (t : Tied Rok Rerr M G)
include t
theorem Tied.pull_ok {b : β} (h : G = .ok b) : ∃ a, M = .ok a ∧ Rok a b := by
  cases t <;> cases h; exact ⟨_, rfl, ‹_›⟩
theorem Tied.pull_err {e' : ε'} (h : G = .err e') : ∃ e, M = .err e ∧ Rerr e e' := by
  cases t <;> cases h; exact ⟨_, rfl, ‹_›⟩
theorem Tied.push_ok {a : α} (h : M = .ok a) : ∃ b, G = .ok b ∧ Rok a b := by
  cases t <;> cases h; exact ⟨_, rfl, ‹_›⟩
theorem Tied.push_err {e : ε} (h : M = .err e) : ∃ e', G = .err e' ∧ Rerr e e' := by
  cases t <;> cases h; exact ⟨_, rfl, ‹_›⟩
theorem Tied.push_panic {m : String} (h : M = .panic m) : ∃ m', G = .panic m' := by
  cases t <;> cases h; exact ⟨_, rfl⟩
end tied

theorem Tied.of_map {f : α → β} {g : ε → ε'} {M : Res ε α} {G : Res ε' β} (h : SameOutcome G (mapRes f g M)) :
    Tied (fun a b => b = f a) (fun e e' => e' = g e) M G :=
  h.map_elim (fun _ hy hx => hy ▸ hx ▸ .err rfl) (fun _ _ hy hx => hy ▸ hx ▸ .panic) fun _ hy hx => hy ▸ hx ▸ .ok rfl

def okSnd : Res ε (σ × α) → Option α
  | .ok a => some a.2
  | _ => none
def okFst : Res ε (σ × α) → Option σ
  | .ok a => some a.1
  | _ => none

theorem toNats_injective : Function.Injective toNats := by
  intro a b h
  have := congrArg ofNats h
  rwa [ofNats_toNats, ofNats_toNats] at this

theorem toNats_append (a b : Bytes) : toNats (a ++ b) = toNats a ++ toNats b := by simp [toNats]

theorem bytesOk_append {a b : List Nat} : BytesOk (a ++ b) ↔ BytesOk a ∧ BytesOk b := by
  simp only [BytesOk, List.mem_append]
  exact ⟨fun h => ⟨fun x hx => h x (.inl hx), fun x hx => h x (.inr hx)⟩, fun h x hx => hx.elim (h.1 x) (h.2 x)⟩

theorem ofNats_length (l : List Nat) : (ofNats l).length = l.length := by simp [ofNats]

theorem map_map_cancel {f : α → β} {g : β → α} (l : List α) (h : ∀ x ∈ l, g (f x) = x) : (l.map f).map g = l := by
  rw [List.map_map]
  exact (List.map_congr_left h).trans (List.map_id l)

theorem map_toNats_ofNats (m : List (List Nat)) (h : ∀ x ∈ m, BytesOk x) : (m.map ofNats).map toNats = m :=
  map_map_cancel m fun x hx => toNats_ofNats (h x hx)

theorem toNats_sliceBytes_ofNats (msg : List Nat) (hb : BytesOk msg) (n i : Nat) :
    toNats (sliceBytes (ofNats msg) n i) =
      (msg.drop (i * C.SLICE_SIZE)).take ((if i = n - 1 then msg.length else (i + 1) * C.SLICE_SIZE) - i * C.SLICE_SIZE) := by
  unfold sliceBytes
  simp only [ofNats_length]
  show List.map UInt8.toNat _ = _
  rw [List.map_take, List.map_drop, show List.map UInt8.toNat (ofNats msg) = msg from toNats_ofNats hb]

/-! ### lists of generated `Range`s (`Vec<Range<u64>>`): denotation and well-formedness, intrinsically -/

/-- the set of sequence numbers a list of half-open ranges denotes -/
def RMem (x : Nat) : List RustSem.Range → Prop
  | [] => False
  | r :: l => (r.start ≤ x ∧ x < r.«end») ∨ RMem x l

/-- ascending, non-empty, non-adjacent ranges (`end_i < start_{i+1}`): the shape `add_pending_ack` maintains -/
def RangesWF : List RustSem.Range → Prop
  | [] => True
  | [r] => r.start < r.«end»
  | r :: r2 :: rest => r.start < r.«end» ∧ r.«end» < r2.start ∧ RangesWF (r2 :: rest)

instance : (l : List RustSem.Range) → Decidable (RangesWF l)
  | [] => isTrue trivial
  | [r] => inferInstanceAs (Decidable (r.start < r.«end»))
  | r :: r2 :: rest =>
    have := instDecidableRangesWF (r2 :: rest)
    inferInstanceAs (Decidable (r.start < r.«end» ∧ r.«end» < r2.start ∧ RangesWF (r2 :: rest)))

instance (x : Nat) : (l : List RustSem.Range) → Decidable (RMem x l)
  | [] => isFalse (fun h => h)
  | r :: l =>
    have := instDecidableRMem x l
    inferInstanceAs (Decidable ((r.start ≤ x ∧ x < r.«end») ∨ RMem x l))

def pairs (l : List RustSem.Range) : List AckRange := l.map fun r => (r.start, r.«end»)

/-- `reprRange` and `ackR` are both this `fun r => ⟨r.1, r.2⟩` -/
theorem map_range_pairs (l : List RustSem.Range) : (pairs l).map (fun r => ⟨r.1, r.2⟩) = l :=
  map_map_cancel l fun _ _ => rfl

theorem pairs_map_range (l : List AckRange) : pairs (l.map fun r => ⟨r.1, r.2⟩) = l :=
  map_map_cancel l fun _ _ => rfl

@[simp] theorem rmem_nil {x : Nat} : RMem x [] ↔ False := Iff.rfl
@[simp] theorem rmem_cons {x : Nat} {r : RustSem.Range} {l : List RustSem.Range} :
    RMem x (r :: l) ↔ (r.start ≤ x ∧ x < r.«end») ∨ RMem x l := Iff.rfl

theorem rmem_iff (x : Nat) : ∀ l : List RustSem.Range, RMem x l ↔ Acks.Mem x (pairs l)
  | [] => Iff.rfl
  | r :: l => by
    have ih := rmem_iff x l
    simp only [pairs, List.map_cons, rmem_cons, Acks.mem_cons] at ih ⊢
    rw [ih]

theorem rmem_iff_exists {x : Nat} : ∀ {l : List RustSem.Range}, RMem x l ↔ ∃ r ∈ l, r.start ≤ x ∧ x < r.«end»
  | [] => by simp
  | r :: l => by
    rw [rmem_cons, rmem_iff_exists (l := l)]
    simp

theorem rangesWF_iff : ∀ l : List RustSem.Range, RangesWF l ↔ Acks.WF (pairs l)
  | [] => Iff.rfl
  | [_] => Iff.rfl
  | r :: r2 :: rest => by
    have ih := rangesWF_iff (r2 :: rest)
    simp only [pairs, List.map_cons, RangesWF, Acks.WF] at ih ⊢
    rw [ih]

theorem rangesWF_tail {r : RustSem.Range} {l : List RustSem.Range} (h : RangesWF (r :: l)) : RangesWF l := by
  cases l with
  | nil => trivial
  | cons r2 rest => exact h.2.2

theorem rangesWF_head_lt {r : RustSem.Range} : ∀ {l : List RustSem.Range}, RangesWF (r :: l) →
    ∀ r' ∈ l, r.«end» < r'.start
  | [], _, _, h => by cases h
  | r2 :: rest, hwf, r', hm => by
    rcases List.mem_cons.1 hm with rfl | hm
    · exact hwf.2.1
    · have := rangesWF_head_lt (r := r2) hwf.2.2 r' hm
      have h2 : r2.start < r2.«end» := by
        cases rest with
        | nil => exact hwf.2.2
        | cons _ _ => exact hwf.2.2.1
      have := hwf.2.1
      omega

theorem rangesWF_pairwise : ∀ {l : List RustSem.Range}, RangesWF l →
    l.Pairwise (fun a b => a.«end» < b.start) ∧ ∀ r ∈ l, r.start < r.«end»
  | [], _ => ⟨.nil, fun _ h => nomatch h⟩
  | r :: l, h => by
    obtain ⟨i1, i2⟩ := rangesWF_pairwise (rangesWF_tail h)
    refine ⟨List.pairwise_cons.2 ⟨rangesWF_head_lt h, i1⟩, fun q hq => ?_⟩
    rcases List.mem_cons.1 hq with rfl | hq
    · cases l with
      | nil => exact h
      | cons _ _ => exact h.1
    · exact i2 q hq

theorem rmem_tail_iff {r : RustSem.Range} {l : List RustSem.Range} (h : RangesWF (r :: l)) (x : Nat) :
    RMem x l ↔ RMem x (r :: l) ∧ ¬ (r.start ≤ x ∧ x < r.«end») := by
  rw [rmem_cons]
  constructor
  · intro hx
    refine ⟨.inr hx, fun hr => ?_⟩
    obtain ⟨r', hm, h1, _⟩ := rmem_iff_exists.1 hx
    have := rangesWF_head_lt h r' hm
    omega
  · rintro ⟨hx | hx, hn⟩
    · exact absurd hx hn
    · exact hx

end RenetVerif.SrcCor
