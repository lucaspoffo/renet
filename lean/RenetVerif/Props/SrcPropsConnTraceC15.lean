/-
  C15 — RETRANSMISSION — ON API TRACES OF THE GENERATED `RenetClient`, datagrams read by the GENERATED `Packet::from_bytes`.

  `GConn` (`Lemmas/SrcEquiv/SrcConnSystem.lean`): one generated `RenetClient` from the generated `from_channels`, driven by
  ANY list of public operations `COp`; `g.flushes` logs what every generated `get_packets_to_send` RETURNED.
  `GDecodes b gp` (`Lemmas/SrcEquiv/SrcSystem.lean`): the generated `Packet::from_bytes` on a fresh cursor over the datagram
  `b` returns the generated packet `gp`.  `GCarriesMsg ch id gp` / `GCarriesSlice ch id i gp`
  (`Lemmas/SrcEquiv/SrcConnC15.lean`): `gp` is a `SmallReliable` packet of channel `ch` with message id `id` among its
  messages, or a `ReliableSlice` packet of channel `ch` for message `id` (resp. for slice `i` of message `id`).

    * `src_never_after_ack`        (C15, last clause; C15A on traces)  once a step of the trace processed an Ack packet (read
                                   by the generated decoder) naming a sequence number `q` that the generated `sent_packets`
                                   table still holds, NO later flush of the trace — whatever operations come in between —
                                   returns a datagram from which the generated decoder reads a packet carrying a message
                                   (resp. the slice) that the table entry of `q` names;
    * `src_carried_is_recorded`    the table entry: after a flush of the trace that leaves the connection live, every
                                   datagram of THAT flush from which the generated decoder reads a reliable packet with
                                   sequence number `sq` is recorded in the generated `sent_packets` under `sq`, with the
                                   flush time and the ids (resp. id and slice index) the decoder reads;
    * `src_not_early`              (C15, first clause, on traces)  two flushes of a trace, ANY operations between them, that
                                   both return a datagram from which the generated decoder reads a transmission of the same
                                   small message (resp. the same slice) of channel `ch` are at least that channel's
                                   `resend_time` (field of the generated struct) apart on the generated `current_time`;
    * `src_clock`                  … which is the trace's own clock: `current_time` grows by exactly the sum of the `update`
                                   durations of the operations in between;
    * `src_flush_budget_decoded_partial` / `src_flush_budget_decoded_all`  (C14 through the generated decoder)  the payload
                                   the generated decoder reads from the datagrams of one flush sums to at most
                                   `available_bytes_per_tick` (PARTIAL only in that acceptance of every datagram by the decoder
                                   is not asserted — see the theorem's comment).

  Side conditions: `CRunInRange` (the range condition of the source tie, decidable by evaluation); for
  `src_never_after_ack` configured channel ids (`COpValid`, as in `src_never_panics`); and `GChanBytes`: the reliable send
  channel ids of the generated struct are bytes (`channel_id` is a `u8` in the Rust source; the generated code carries it as a
  `Nat`, and the wire format truncates it to one byte — without it a packet of channel 300 would be read as one of channel 44).

  Proofs: `SrcConnSystem.crun_sim_conv` + model-level trace theorems of `Lemmas/SrcEquiv/SrcConnC15.lean`:
  `mtr_never_after_ack` (from `Lemmas/AckFinal.lean`, i.e. `Props/C15A.lean`), `mtr_not_early` (a trace-level invariant:
  the `last_sent` stamp of a transmitted slot is at least the time of that flush, `StampGE`, kept by every operation; from
  the one-flush theorems `SendRel.small_emitted` / `SendRel.slice_emitted` of `Lemmas/Flush.lean`), `dec_enc_carries` / `dec_enc_payload` (the
  decoder reads from an ENCODING only what the packet carries — no appeal to the full round trip, hence no well-formedness
  side condition on the packets of a flush).
-/
import RenetVerif.Lemmas.SrcEquiv.SrcConnC15
import RenetVerif.Lemmas.SrcEquiv.SrcConnTransfer
import RenetVerif.Props.SrcPropsConnTrace
import RenetVerif.Props.C15A
set_option maxRecDepth 100000
set_option linter.unusedVariables false
set_option linter.unusedSimpArgs false
namespace RenetVerif.SrcPropsConnTraceC15
open RenetVerif RenetVerif.RustSem RenetVerif.C RenetVerif.System RenetVerif.SrcEquiv RenetVerif.SrcSystem RenetVerif.SrcConnSystem
open RenetVerif.SrcConnC15 RenetVerif.SrcPropsConnTrace RenetVerif.AckFinal
open Src.renet.remote_connection

/-- the reliable send channel ids of the generated struct are bytes (`u8` in the Rust source) -/
def GChanBytes (cl : RenetClient) : Prop := ∀ x ∈ cl.send_reliable_channels, x.1 < 256

instance (cl : RenetClient) : Decidable (GChanBytes cl) := by unfold GChanBytes; infer_instance

theorem keys_of_gchan {t : MTr} {g : GConn} (sim : SimConn t g) (h : GChanBytes g.cl) :
    ∀ ch s, SMap.find? t.c.sendRel ch = some s → ch < 256 := by
  intro ch s hf
  rw [GChanBytes, sim.sendRelTable] at h
  exact h (ch, reprSR s) (List.mem_map.mpr ⟨(ch, s), SMap.mem_of_find? hf, rfl⟩)

theorem gdecodes_ack {b : Bytes} {sq : Nat} {gr : List RustSem.Range} (h : GDecodes (toNats b) (.Ack sq gr)) :
    ∃ r, Packet.fromBytes b = .ok (.ack sq r) ∧ gr = r.map reprRange := by
  obtain ⟨p, hp, e⟩ := gdecodes_inv h
  cases p <;> cases e
  exact ⟨_, hp, rfl⟩
theorem gdecodes_smallReliable {b : Bytes} {sq ch : Nat} {gm : List (Nat × GBytes)}
    (h : GDecodes (toNats b) (.SmallReliable sq ch gm)) :
    ∃ m, Packet.fromBytes b = .ok (.smallReliable sq ch m) ∧ gm = m.map fun x => (x.1, toNats x.2) := by
  obtain ⟨p, hp, e⟩ := gdecodes_inv h
  cases p <;> cases e
  exact ⟨_, hp, rfl⟩
theorem gdecodes_reliableSlice {b : Bytes} {sq ch : Nat} {gs : Src.renet.packet.Slice}
    (h : GDecodes (toNats b) (.ReliableSlice sq ch gs)) :
    ∃ sl, Packet.fromBytes b = .ok (.reliableSlice sq ch sl) ∧ gs = reprSlice sl := by
  obtain ⟨p, hp, e⟩ := gdecodes_inv h
  cases p <;> cases e
  exact ⟨_, hp, rfl⟩

/-- **C15 on the generated code: never transmitted again after the ack was processed.**  ANY trace `ops` of the generated
    `RenetClient` reaches `g`, live (`is_disconnected` returns `false`).  The next operation is `process_packet(ack)`, where
    the generated `from_bytes` reads from `ack` an `Ack` packet whose ranges cover `q`, and the generated `sent_packets` table
    of `g` still holds `q` (it was sent less than 3 s — `update`'s pruning — ago and not acknowledged before), with entry
    `e`.  Then ANY operations `ext` follow.  Every datagram `b` of every `get_packets_to_send` in `ext` (`news`: what the
    log of returned flushes grew by), read by the generated `from_bytes`, carries none of the messages `e.info` names
    (`ReliableMessages ch ids`), resp. not the slice it names (`ReliableSliceMessage ch id i`). -/
theorem src_never_after_ack (cfg : Cfg) (ops ext : List COp) (ack : Bytes) (g g' : GConn)
    (hg : GConn.exec cfg ops = some g) (hg' : GConn.exec cfg (ops ++ .process ack :: ext) = some g')
    (hv : ∀ op ∈ ops ++ .process ack :: ext, COpValid cfg op) (hrg : CRunInRange cfg (ops ++ .process ack :: ext))
    (hch : GChanBytes g.cl) (hlive : (RenetClient.is_disconnected g.cl : Res Empty Bool) = .ok false)
    {aseq : Nat} {ranges : List RustSem.Range} (hdec : GDecodes (toNats ack) (.Ack aseq ranges))
    {q : Nat} {e : PacketSent} (hq : RustSem.Map.find? g.cl.sent_packets q = some e)
    (hm : ∃ r ∈ ranges, r.start ≤ q ∧ q < r.«end») :
    ∃ news, g'.flushes = g.flushes ++ news ∧ ∀ bs ∈ news, ∀ b ∈ bs, ∀ gp, GDecodes b gp →
      (∀ ch ids, e.info = .ReliableMessages ch ids → ∀ id ∈ ids, ¬ GCarriesMsg ch id gp) ∧
      (∀ ch id i, e.info = .ReliableSliceMessage ch id i → ¬ GCarriesSlice ch id i gp) := by
  obtain ⟨t, t', ht, ht', sim, sim', hgood, hrgt⟩ := behind_ext cfg ops _ g g' hrg hg hg'
  have same := (mtr_run_same ops (MTr.init cfg) t (CI.fromChannels_invP ..) ht).2
  obtain ⟨r', hp, rfl⟩ := gdecodes_ack hdec
  obtain ⟨⟨tq, info⟩, hqm, rfl⟩ := map_eq_some' ((sim.sent q).symm.trans hq)
  obtain ⟨news, hn, hnews⟩ := mtr_never_after_ack ext (good_of hgood) (CI.sinv_inv hgood.sinv)
    (Res.ok.inj (sim.isDisc.symm.trans hlive)) hp hqm (mem_of_reprRange hm) (keys_of_gchan sim hch)
    (fun o ho => (cfgValid_of (hv o (List.mem_append_right _ (List.mem_cons_of_mem _ ho)))).chanValid.same same) hrgt ht'
  refine ⟨news.map (List.map toNats), by rw [sim'.flushes, sim.flushes, hn, List.map_append], ?_⟩
  intro bs hbs b hb gp hgp
  obtain ⟨bs0, hbs0, rfl⟩ := List.mem_map.mp hbs
  obtain ⟨b0, hb0, rfl⟩ := List.mem_map.mp hb
  obtain ⟨p', hp', rfl⟩ := gdecodes_inv hgp
  obtain ⟨n1, n2⟩ := hnews bs0 hbs0 b0 hb0
  refine ⟨fun ch ids hinfo id hid hc => ?_, fun ch id i hinfo hc => ?_⟩
  · cases info <;> cases hinfo
    exact n1 _ _ rfl id hid p' hp' ((gcarriesMsg_repr _ _ _).1 hc)
  · cases info <;> cases hinfo
    exact n2 _ _ _ rfl p' hp' ((gcarriesSlice_repr _ _ _ _).1 hc)

theorem inRange_suffix : ∀ (ops : List COp) (t0 t : MTr) (rest : List COp), t0.run ops = some t →
    CRunInRangeFrom t0 (ops ++ rest) → CRunInRangeFrom t rest :=
  fun ops _ _ _ h hr => crunInRangeFrom_suffix ops h hr

/-- **C15A.0 on the generated code: the sent table records what each datagram carried.**  ANY trace `ops` reaches `g`; the
    next operation is a flush that leaves the connection live.  For every datagram `b` the generated `get_packets_to_send`
    returned: if the generated `from_bytes` reads a `SmallReliable sq ch msgs` packet from `b`, the generated `sent_packets`
    table now holds under `sq` an entry with the flush time (`current_time` of `g`) and `ReliableMessages ch ids`, every
    message id of `msgs` among `ids`; if it reads `ReliableSlice sq ch sl`, the entry is
    `ReliableSliceMessage ch sl.message_id sl.slice_index`.  (These are the hypotheses `hq` of `src_never_after_ack`.) -/
theorem src_carried_is_recorded (cfg : Cfg) (ops : List COp) (g g' : GConn)
    (hg : GConn.exec cfg ops = some g) (hg' : GConn.exec cfg (ops ++ [.flush]) = some g')
    (hrg : CRunInRange cfg (ops ++ [.flush])) (hch : GChanBytes g.cl)
    (hlive' : (RenetClient.is_disconnected g'.cl : Res Empty Bool) = .ok false) :
    ∃ bs, g'.flushes = g.flushes ++ [bs] ∧ ∀ b ∈ bs,
      (∀ sq ch msgs, GDecodes b (.SmallReliable sq ch msgs) →
        ∃ ids, RustSem.Map.find? g'.cl.sent_packets sq = some ⟨g.cl.current_time, .ReliableMessages ch ids⟩ ∧
          ∀ x ∈ msgs, x.1 ∈ ids) ∧
      (∀ sq ch sl, GDecodes b (.ReliableSlice sq ch sl) →
        RustSem.Map.find? g'.cl.sent_packets sq =
          some ⟨g.cl.current_time, .ReliableSliceMessage ch sl.message_id sl.slice_index⟩) := by
  obtain ⟨t, t', -, hs, sim, sim', hgood, -, -⟩ := behind_step cfg ops _ g g' hrg hg hg'
  cases MTr.Step.of hs with
  | @flush c1 bs1 hm =>
    have key := flush_recorded_dec (good_of hgood) (keys_of_gchan sim hch) hm
      (Res.ok.inj (sim'.isDisc.symm.trans hlive'))
    refine ⟨bs1.map toNats, sim.flushes_snoc sim' rfl, fun b hb => ?_⟩
    obtain ⟨b0, hb0, rfl⟩ := List.mem_map.mp hb
    refine ⟨fun sq ch msgs hgp => ?_, fun sq ch sl hgp => ?_⟩
    · obtain ⟨m', hp', rfl⟩ := gdecodes_smallReliable hgp
      obtain ⟨ids, hf, hids⟩ := (key b0 hb0 _ hp').1 _ _ _ rfl
      refine ⟨ids, by rw [sim'.sent, sim.now, hf]; rfl, fun x hx => ?_⟩
      obtain ⟨y, hy, rfl⟩ := List.mem_map.mp hx
      exact hids y hy
    · obtain ⟨sl', hp', rfl⟩ := gdecodes_reliableSlice hgp
      rw [sim'.sent, sim.now, (key b0 hb0 _ hp').2 _ _ _ rfl]; rfl

/-- **the trace's own clock.**  The generated `current_time` after any continuation `mid` of a trace is the generated
    `current_time` before plus the sum of the durations of the `update` calls in `mid`. -/
theorem src_clock (cfg : Cfg) (ops mid : List COp) (g1 g2 : GConn) (h1 : GConn.exec cfg ops = some g1)
    (h2 : GConn.exec cfg (ops ++ mid) = some g2) (hrg : CRunInRange cfg (ops ++ mid)) :
    g2.cl.current_time = g1.cl.current_time + (mid.map COp.dt).sum := by
  obtain ⟨t, t', ht, ht', sim, sim', -, -⟩ := behind_ext cfg ops mid g1 g2 hrg h1 h2
  rw [sim.now, sim'.now]
  exact now_run mid t t' ht'

/-- **C15 on the generated code: NOT EARLY.**  ANY trace `ops`, then a flush, then ANY operations `mid`, then a flush.  If
    both flushes return a datagram from which the generated `from_bytes` reads a transmission of the same slot — a
    `SmallReliable` packet of channel `ch` with message id `id` among its messages (`w = none`), or the `ReliableSlice` packet
    of channel `ch` for slice `i` of message `id` (`w = some i`) — then that channel's `resend_time` (field of the generated
    struct) is at most the difference of the generated `current_time` at the two flushes; by `src_clock` that is the sum of
    the `update` durations in `mid`. -/
theorem src_not_early (cfg : Cfg) (ops mid : List COp) (g1 g1' g2 g3 : GConn)
    (h1 : GConn.exec cfg ops = some g1) (h1' : GConn.exec cfg (ops ++ [.flush]) = some g1')
    (h2 : GConn.exec cfg (ops ++ .flush :: mid) = some g2)
    (h3 : GConn.exec cfg (ops ++ .flush :: mid ++ [.flush]) = some g3)
    (hrg : CRunInRange cfg (ops ++ .flush :: mid ++ [.flush]))
    (hch1 : GChanBytes g1.cl) (hch2 : GChanBytes g2.cl) (ch id : Nat) (w : Option Nat) :
    ∃ bs1 bs2, g1'.flushes = g1.flushes ++ [bs1] ∧ g3.flushes = g2.flushes ++ [bs2] ∧
      ∀ b1 ∈ bs1, ∀ b2 ∈ bs2, ∀ gp1 gp2, GDecodes b1 gp1 → GDecodes b2 gp2 → GEmits ch id w gp1 → GEmits ch id w gp2 →
        ∀ s, RustSem.Map.find? g2.cl.send_reliable_channels ch = some s →
          s.resend_time ≤ g2.cl.current_time - g1.cl.current_time := by
  have eC : ops ++ .flush :: mid = (ops ++ [.flush]) ++ mid := by simp
  have r2 : CRunInRange cfg (ops ++ .flush :: mid) := crunInRange_prefix cfg _ [.flush] hrg
  obtain ⟨t, t1, ht, s1, sim, sim1, hgood, -, -⟩ :=
    behind_step cfg ops .flush g1 g1' (by rw [eC] at r2; exact crunInRange_prefix cfg _ _ r2) h1 h1'
  obtain ⟨t2, t3, ht2, s3, sim2, sim3, -, -, -⟩ := behind_step cfg _ .flush g2 g3 hrg h2 h3
  have s2 : t1.run mid = some t2 := by
    rw [eC, MTr.run_append, MTr.run_snoc ht s1] at ht2; exact ht2
  obtain ⟨bs1, bs2, l1, l3, key⟩ := mtr_not_early (good_of hgood) s1 s2 s3 (keys_of_gchan sim hch1)
    (keys_of_gchan sim2 hch2) ch id w
  refine ⟨bs1.map toNats, bs2.map toNats, sim.flushes_snoc sim1 l1, sim2.flushes_snoc sim3 l3, ?_⟩
  intro b1 hb1 b2 hb2 gp1 gp2 d1 d2 e1 e2 s hs
  obtain ⟨b10, hb10, rfl⟩ := List.mem_map.mp hb1
  obtain ⟨b20, hb20, rfl⟩ := List.mem_map.mp hb2
  obtain ⟨p1, hp1, rfl⟩ := gdecodes_inv d1
  obtain ⟨p2, hp2, rfl⟩ := gdecodes_inv d2
  obtain ⟨sM, hm, rfl⟩ := map_eq_some' ((sim2.sendRel ch).symm.trans hs)
  rw [sim.now, sim2.now]
  exact key b10 hb10 b20 hb20 p1 p2 hp1 hp2 ((gemits_repr _ _ _ _).1 e1) ((gemits_repr _ _ _ _).1 e2) sM hm

/-- **C14 on the generated code, datagrams read by the generated decoder (`_partial`).**  In every generated state `g`
    reached by ANY run (in range), what the generated `get_packets_to_send` returns, read datagram by datagram with the
    generated `from_bytes`, carries at most `available_bytes_per_tick` bytes of message payload: `gDecPay b` is the payload
    (`gPayloadBytes`) of the packet `from_bytes` reads from `b`, and `0` when it rejects `b`.
    PARTIAL in one respect: the theorem does not assert that `from_bytes` ACCEPTS every returned datagram (that is the full
    round trip and needs `Packet.WF` of every packet of a flush — channel ids bytes, at most `MAX_NUM_SLICES` slices —
    along the trace, which is not established here); a rejected datagram counts `0`.  The bound itself is unconditional.
    (Transports `C14.connection_budget` through `SrcConnC15.dec_enc_payload`: the decoder reads from an encoding at most the
    payload the packet carries.) -/
theorem src_flush_budget_decoded_partial (cfg : Cfg) (ops : List COp) (g : GConn) (hg : GConn.exec cfg ops = some g)
    (hrg : CRunInRange cfg (ops ++ [.flush])) :
    ∃ g' bs, GConn.exec cfg (ops ++ [.flush]) = some g' ∧ g'.flushes = g.flushes ++ [bs] ∧
      (bs.map gDecPay).sum ≤ g.cl.available_bytes_per_tick := by
  obtain ⟨g', bs, pk, e, hfl, hb, -, hser⟩ := src_flush_budget cfg ops g hg hrg
  refine ⟨g', bs, e, hfl, ?_⟩
  rcases hser with rfl | ⟨bs0, h0, rfl⟩
  · simp
  · have h1 := decPay_sum_le pk bs0 (System.serialiseAll_enc pk bs0 h0)
    have h2 : (bs0.map toNats).map gDecPay = bs0.map decPay := by
      rw [List.map_map]
      apply List.map_congr_left
      intro b _
      exact gDecPay_toNats b
    rw [h2]
    omega

def DecAll : List GBytes → List Src.renet.packet.Packet → Prop
  | [], [] => True
  | b :: bs, gp :: gps => GDecodes b gp ∧ DecAll bs gps
  | _, _ => False

theorem decAll_pay : ∀ (bs : List GBytes) (gps : List Src.renet.packet.Packet), DecAll bs gps →
    bs.map gDecPay = gps.map gPayloadBytes
  | [], [], _ => rfl
  | [], _ :: _, h => h.elim
  | _ :: _, [], h => h.elim
  | b :: bs, gp :: gps, h => by
    simp only [List.map_cons, gDecPay_of_decodes h.1, decAll_pay bs gps h.2]

/-- … in the form "if the generated decoder reads the packets `gps` from the returned datagrams, one for one, their payload
    sum is at most `available_bytes_per_tick`" -/
theorem src_flush_budget_decoded_all (cfg : Cfg) (ops : List COp) (g : GConn) (hg : GConn.exec cfg ops = some g)
    (hrg : CRunInRange cfg (ops ++ [.flush])) :
    ∃ g' bs, GConn.exec cfg (ops ++ [.flush]) = some g' ∧ g'.flushes = g.flushes ++ [bs] ∧
      ∀ gps, DecAll bs gps → (gps.map gPayloadBytes).sum ≤ g.cl.available_bytes_per_tick := by
  obtain ⟨g', bs, e, hfl, hb⟩ := src_flush_budget_decoded_partial cfg ops g hg hrg
  refine ⟨g', bs, e, hfl, fun gps hall => ?_⟩
  rw [← decAll_pay bs gps hall]
  exact hb

/-! ## non-vacuity: a retransmission trace, executed by the kernel ON THE GENERATED CODE

  One reliable channel 0 with `resend_time` 100 ns.  `opsA`: connect, submit `[1, 2, 3]` (message id 0), flush at t = 0
  (emitted, packet 0); 50 ns pass, flush (NOT re-emitted: shorter than `resend_time`); 60 more ns pass (t = 110), flush
  (re-emitted, packet 1).  Then an Ack packet for the packets 0 and 1 is processed, and `ext` follows: 200 ns pass, flush;
  another message is submitted, 200 ns pass, flush — message 0 never again. -/
namespace Ex
abbrev chans : List ChanCfg := [⟨0, .ordered, 100000, 100⟩]
abbrev cfg : Cfg := ⟨60000, chans, chans⟩
abbrev opsA : List COp := [.setConnected, .send 0 [1, 2, 3], .flush, .update 50, .flush, .update 60, .flush]
def ack : Bytes := match (Packet.ack 0 [(0, 2)]).toBytes SER_BUFFER with | .ok b => b | _ => []
abbrev ext : List COp := [.update 200, .flush, .send 0 [4, 5], .update 200, .flush]

def gzero : GConn := ⟨reprConn (fun _ => 0) (Conn.fromChannels 0 [] []), [], []⟩
def gF : GConn := (GConn.exec cfg (opsA.take 3)).getD gzero
def gA : GConn := (GConn.exec cfg opsA).getD gzero
def gE : GConn := (GConn.exec cfg (opsA ++ .process ack :: ext)).getD gzero

def g0 : GConn := (GConn.exec cfg (opsA.take 2)).getD gzero
def g2 : GConn := (GConn.exec cfg (opsA.take 6)).getD gzero
def dgram (k : Nat) : GBytes := (gA.flushes.getD k []).headD []
def gdec (b : GBytes) : Option Src.renet.packet.Packet :=
  match Src.renet.packet.Packet.from_bytes (RustSem.Octets.with_slice b) with
  | .ok (_, p) => some p
  | _ => none

theorem gdec_of {b : GBytes} {gp : Src.renet.packet.Packet} (h : GDecodes b gp) : gdec b = some gp := by
  obtain ⟨cur, h⟩ := h
  simp only [gdec, h]

/-- the retransmission trace in one kernel evaluation.  On the model: the range side condition of the whole trace with one
    more flush, of `opsA` split at its first flush, and of its first three operations; every operation names a configured
    channel.  On the generated code: the runs return normally; **the trace, as the generated code and the generated decoder
    compute it**: flush 1 (t = 0) emits message 0 in packet 0; flush 2 (t = 50, less than `resend_time` later) emits nothing;
    flush 3 (t = 110) emits it again in packet 1; after the Ack, flush 4 emits nothing, flush 5 emits only the new message 1
    (and the connection's own ack); channel ids fit a byte and the connection is live where the theorems ask for it; flush 1
    and flush 3 return one datagram each, read as a `SmallReliable` packet carrying message 0; the clocks and `resend_time`;
    the decoded payload of the five flushes against the budget of 60000 bytes per tick -/
theorem all :
    (CRunInRange cfg ((opsA ++ .process ack :: ext) ++ [.flush]) ∧
      CRunInRange cfg (opsA.take 2 ++ .flush :: [.update 50, .flush, .update 60] ++ [.flush]) ∧
      CRunInRange cfg (opsA.take 2 ++ [.flush]) ∧ ∀ op ∈ opsA ++ .process ack :: ext, COpValid cfg op) ∧
    ((GConn.exec cfg (opsA.take 2)).isSome = true ∧ (GConn.exec cfg (opsA.take 2 ++ [.flush])).isSome = true ∧
      (GConn.exec cfg opsA).isSome = true ∧ (GConn.exec cfg (opsA ++ .process ack :: ext)).isSome = true ∧
      (GConn.exec cfg (opsA.take 2 ++ .flush :: [.update 50, .flush, .update 60])).isSome = true) ∧
    (gA.flushes.map (·.map gdec) =
        [[some (.SmallReliable 0 0 [(0, [1, 2, 3])])], [], [some (.SmallReliable 1 0 [(0, [1, 2, 3])])]] ∧
      gE.flushes.map (·.map gdec) =
        [[some (.SmallReliable 0 0 [(0, [1, 2, 3])])], [], [some (.SmallReliable 1 0 [(0, [1, 2, 3])])],
         [some (.Ack 2 [⟨0, 1⟩])], [some (.SmallReliable 3 0 [(1, [4, 5])]), some (.Ack 4 [⟨0, 1⟩])]] ∧
      gA.cl.current_time = 110 ∧
      (RustSem.Map.find? gA.cl.send_reliable_channels 0).map (·.resend_time) = some 100 ∧
      RustSem.Map.find? gA.cl.sent_packets 0 = some ⟨0, .ReliableMessages 0 [0]⟩ ∧
      RustSem.Map.find? gA.cl.sent_packets 1 = some ⟨110, .ReliableMessages 0 [0]⟩ ∧
      gdec (toNats ack) = some (.Ack 0 [⟨0, 2⟩])) ∧
    (GChanBytes g0.cl ∧ GChanBytes g2.cl ∧ GChanBytes gA.cl ∧
      (RenetClient.is_disconnected gF.cl : Res Empty Bool) = .ok false ∧
      (RenetClient.is_disconnected gA.cl : Res Empty Bool) = .ok false) ∧
    (gA.flushes.map (·.map fun b => (gdec b).map fun gp => decide (GCarriesMsg 0 0 gp))) = [[some true], [], [some true]] ∧
    (gF.flushes = g0.flushes ++ [[dgram 0]] ∧ gA.flushes = g2.flushes ++ [[dgram 2]] ∧
      gdec (dgram 0) = some (.SmallReliable 0 0 [(0, [1, 2, 3])]) ∧
      gdec (dgram 2) = some (.SmallReliable 1 0 [(0, [1, 2, 3])])) ∧
    (gA.flushes.getD 1 [[0]] = [] ∧ (RustSem.Map.find? g2.cl.send_reliable_channels 0).map (·.resend_time) = some 100 ∧
      g2.cl.current_time = 110 ∧ g0.cl.current_time = 0) ∧
    (gE.flushes.map (fun bs => (bs.map gDecPay).sum) = [3, 0, 3, 0, 2] ∧ gE.cl.available_bytes_per_tick = 60000) := by
  decide +kernel

theorem inRange : CRunInRange cfg (opsA ++ .process ack :: ext) := crunInRange_prefix cfg _ _ all.1.1
theorem valid : ∀ op ∈ opsA ++ .process ack :: ext, COpValid cfg op := all.1.2.2.2
theorem grunF : GConn.exec cfg (opsA.take 2) = some ((GConn.exec cfg (opsA.take 2)).getD gzero) :=
  some_getD all.2.1.1 _
theorem grunF' : GConn.exec cfg (opsA.take 2 ++ [.flush]) = some gF := some_getD all.2.1.2.1 _
theorem grunA : GConn.exec cfg opsA = some gA := some_getD all.2.1.2.2.1 _
theorem grunE : GConn.exec cfg (opsA ++ .process ack :: ext) = some gE := some_getD all.2.1.2.2.2.1 _

theorem gfacts :
    gA.flushes.map (·.map gdec) =
      [[some (.SmallReliable 0 0 [(0, [1, 2, 3])])], [], [some (.SmallReliable 1 0 [(0, [1, 2, 3])])]] ∧
    gE.flushes.map (·.map gdec) =
      [[some (.SmallReliable 0 0 [(0, [1, 2, 3])])], [], [some (.SmallReliable 1 0 [(0, [1, 2, 3])])],
       [some (.Ack 2 [⟨0, 1⟩])], [some (.SmallReliable 3 0 [(1, [4, 5])]), some (.Ack 4 [⟨0, 1⟩])]] ∧
    gA.cl.current_time = 110 ∧
    (RustSem.Map.find? gA.cl.send_reliable_channels 0).map (·.resend_time) = some 100 ∧
    RustSem.Map.find? gA.cl.sent_packets 0 = some ⟨0, .ReliableMessages 0 [0]⟩ ∧
    RustSem.Map.find? gA.cl.sent_packets 1 = some ⟨110, .ReliableMessages 0 [0]⟩ ∧
    gdec (toNats ack) = some (.Ack 0 [⟨0, 2⟩]) := all.2.2.1

theorem ack_decodes : GDecodes (toNats ack) (.Ack 0 [⟨0, 2⟩]) := by
  have : gdec (toNats ack) = some (.Ack 0 [⟨0, 2⟩]) := gfacts.2.2.2.2.2.2
  unfold gdec at this
  unfold GDecodes
  cases h : Src.renet.packet.Packet.from_bytes (RustSem.Octets.with_slice (toNats ack)) with
  | ok x => obtain ⟨cur, p⟩ := x; rw [h] at this; cases this; exact ⟨cur, rfl⟩
  | err e => rw [h] at this; cases this
  | panic s => rw [h] at this; cases this

/-- **`src_carried_is_recorded` applied** to the first flush: the datagram from which the generated decoder reads
    `SmallReliable 0 0 [(0, [1, 2, 3])]` is recorded under sequence number 0 with the flush time 0 and message id 0 -/
example : ∃ bs, gF.flushes = [] ++ [bs] ∧ ∀ b ∈ bs,
    (∀ sq ch msgs, GDecodes b (.SmallReliable sq ch msgs) →
      ∃ ids, RustSem.Map.find? gF.cl.sent_packets sq = some ⟨0, .ReliableMessages ch ids⟩ ∧ ∀ x ∈ msgs, x.1 ∈ ids) ∧
    (∀ sq ch sl, GDecodes b (.ReliableSlice sq ch sl) →
      RustSem.Map.find? gF.cl.sent_packets sq = some ⟨0, .ReliableSliceMessage ch sl.message_id sl.slice_index⟩) :=
  src_carried_is_recorded cfg (opsA.take 2) _ gF grunF grunF' all.1.2.2.1 all.2.2.2.1.1 all.2.2.2.1.2.2.2.1

/-- **`src_never_after_ack` applied**: the Ack covers packet 1, which the generated `sent_packets` of `gA` records as
    carrying message 0 of channel 0; so no datagram of the two later flushes, read by the generated decoder, carries
    message 0 of channel 0 … -/
theorem never_again : ∃ news, gE.flushes = gA.flushes ++ news ∧ ∀ bs ∈ news, ∀ b ∈ bs, ∀ gp, GDecodes b gp →
    ¬ GCarriesMsg 0 0 gp := by
  obtain ⟨news, h1, h2⟩ := src_never_after_ack cfg opsA ext ack gA gE grunA grunE valid inRange all.2.2.2.1.2.2.1
    all.2.2.2.1.2.2.2.2 ack_decodes (q := 1) gfacts.2.2.2.2.2.1 ⟨⟨0, 2⟩, by simp, by decide, by decide⟩
  exact ⟨news, h1, fun bs hbs b hb gp hgp => (h2 bs hbs b hb gp hgp).1 0 [0] rfl 0 (by simp)⟩

/-- … while the hypothesis is not idle: before the Ack, flush 3 DID carry message 0 again (`resend_time` had elapsed), and
    flush 2 did not (it had not) -/
example : (gA.flushes.map (·.map fun b => (gdec b).map fun gp => decide (GCarriesMsg 0 0 gp))) =
    [[some true], [], [some true]] := all.2.2.2.2.1

theorem gdecodes_of_gdec {b : GBytes} {gp : Src.renet.packet.Packet} (h : gdec b = some gp) : GDecodes b gp := by
  unfold gdec at h
  unfold GDecodes
  cases hx : Src.renet.packet.Packet.from_bytes (RustSem.Octets.with_slice b) with
  | ok x => obtain ⟨cur, p⟩ := x; rw [hx] at h; cases h; exact ⟨cur, rfl⟩
  | err e => rw [hx] at h; cases h
  | panic s => rw [hx] at h; cases h

theorem grun2 : GConn.exec cfg (opsA.take 2 ++ .flush :: [.update 50, .flush, .update 60]) = some g2 :=
  some_getD all.2.1.2.2.2.2 _
theorem grun3 : GConn.exec cfg (opsA.take 2 ++ .flush :: [.update 50, .flush, .update 60] ++ [.flush]) = some gA :=
  grunA

/-- **`src_not_early` applied** to flush 1 and flush 3 of the trace (`mid = [update 50, flush, update 60]`): both return a
    datagram read as a `SmallReliable` packet of channel 0 carrying message 0, so `resend_time` (100 ns) is at most the
    clock difference … -/
theorem not_early_applied : ∀ s, RustSem.Map.find? g2.cl.send_reliable_channels 0 = some s →
    s.resend_time ≤ g2.cl.current_time - g0.cl.current_time := by
  obtain ⟨bs1, bs2, e1, e2, h⟩ := src_not_early cfg (opsA.take 2) [.update 50, .flush, .update 60] g0 gF g2 gA
    grunF grunF' grun2 grun3 all.1.2.1 all.2.2.2.1.1 all.2.2.2.1.2.1 0 0 none
  obtain ⟨f1, f2, d1, d2⟩ := all.2.2.2.2.2.1
  rw [f1] at e1
  rw [f2] at e2
  have b1 : bs1 = [dgram 0] := by have := List.append_cancel_left e1; simpa using this.symm
  have b2 : bs2 = [dgram 2] := by have := List.append_cancel_left e2; simpa using this.symm
  subst b1; subst b2
  exact h (dgram 0) (by simp) (dgram 2) (by simp) (.SmallReliable 0 0 [(0, [1, 2, 3])]) (.SmallReliable 1 0 [(0, [1, 2, 3])])
    (gdecodes_of_gdec d1) (gdecodes_of_gdec d2) (by decide) (by decide)

/-- … which, with `src_clock`, is the sum of the `update` durations between them: 50 + 60 ns -/
example : g2.cl.current_time = g0.cl.current_time + (50 + 0 + 60) :=
  src_clock cfg (opsA.take 2) [.flush, .update 50, .flush, .update 60] g0 g2 grunF grun2
    (crunInRange_prefix cfg _ [.flush] all.1.2.1)

/-- and the flush in between (50 ns after the first, less than `resend_time`) returned nothing: the bound is not idle -/
example : gA.flushes.getD 1 [[0]] = [] ∧ (RustSem.Map.find? g2.cl.send_reliable_channels 0).map (·.resend_time) = some 100 ∧
    g2.cl.current_time = 110 ∧ g0.cl.current_time = 0 := all.2.2.2.2.2.2.1

/-- **`src_flush_budget_decoded_partial` applied** to one more flush after the whole trace -/
example : ∃ g' bs, GConn.exec cfg ((opsA ++ .process ack :: ext) ++ [.flush]) = some g' ∧ g'.flushes = gE.flushes ++ [bs] ∧
    (bs.map gDecPay).sum ≤ gE.cl.available_bytes_per_tick :=
  src_flush_budget_decoded_partial cfg _ gE grunE all.1.1

/-- the decoded payload of the five flushes of the trace, computed by the kernel on the generated code (every datagram IS
    accepted by the generated decoder here: `gfacts`), against the budget of 60000 bytes per tick -/
example : gE.flushes.map (fun bs => (bs.map gDecPay).sum) = [3, 0, 3, 0, 2] ∧ gE.cl.available_bytes_per_tick = 60000 :=
  all.2.2.2.2.2.2.2

/-! #### a sliced message: the slice-level statements are not idle

  A 1300-byte message (id 0: two slices 1200 + 100) is submitted and flushed at t = 0 (packets 0, 1) and, 100 ns later, again
  (packets 2, 3).  An Ack packet for packet 3 (slice 1) is processed; 100 ns later the next flush transmits slice 0 again —
  slice 1 never. -/
abbrev big : Bytes := List.replicate 1300 7
abbrev opsS : List COp := [.setConnected, .send 0 big, .flush, .update 100, .flush]
def ackS : Bytes := match (Packet.ack 0 [(3, 4)]).toBytes SER_BUFFER with | .ok b => b | _ => []
abbrev extS : List COp := [.update 100, .flush]
def gS0 : GConn := (GConn.exec cfg (opsS.take 2)).getD gzero
def gS1 : GConn := (GConn.exec cfg (opsS.take 3)).getD gzero
def gS2 : GConn := (GConn.exec cfg (opsS.take 4)).getD gzero
def gS : GConn := (GConn.exec cfg opsS).getD gzero
def gSE : GConn := (GConn.exec cfg (opsS ++ .process ackS :: extS)).getD gzero

def sliceOf (b : GBytes) : Option (Nat × Nat) :=
  match gdec b with
  | some (.ReliableSlice sq _ sl) => some (sq, sl.slice_index)
  | _ => none

/-- the sliced trace: every operation names a configured channel and the trace is in range (model);
    the generated runs return normally; the three flushes as the generated decoder reads them: (sequence number, slice
    index); the record of packet 3 and the reading of the Ack; channel ids fit a byte, the connection is live; flush 1 and
    flush 2 are the first two entries of the log of `gS`, and the second datagram of each is read as slice 1 of message 0 -/
theorem allS :
    ((∀ op ∈ opsS ++ .process ackS :: extS, COpValid cfg op) ∧ CRunInRange cfg (opsS ++ .process ackS :: extS) ∧
      CRunInRange cfg (opsS.take 2 ++ .flush :: [.update 100] ++ [.flush])) ∧
    ((GConn.exec cfg (opsS.take 2)).isSome = true ∧ (GConn.exec cfg (opsS.take 2 ++ [.flush])).isSome = true ∧
      (GConn.exec cfg (opsS.take 2 ++ .flush :: [.update 100])).isSome = true ∧ (GConn.exec cfg opsS).isSome = true ∧
      (GConn.exec cfg (opsS ++ .process ackS :: extS)).isSome = true) ∧
    (gSE.flushes.map (·.map sliceOf) =
        [[some (0, 0), some (1, 1)], [some (2, 0), some (3, 1)], [some (4, 0), none]] ∧
      RustSem.Map.find? gS.cl.sent_packets 3 = some ⟨100, .ReliableSliceMessage 0 0 1⟩ ∧
      gdec (toNats ackS) = some (.Ack 0 [⟨3, 4⟩])) ∧
    (GChanBytes gS0.cl ∧ GChanBytes gS2.cl ∧ GChanBytes gS.cl ∧
      (RenetClient.is_disconnected gS.cl : Res Empty Bool) = .ok false) ∧
    (gS1.flushes = gS0.flushes ++ [gS.flushes.getD 0 []] ∧ gS.flushes = gS2.flushes ++ [gS.flushes.getD 1 []]) ∧
    ((gS.flushes.getD 0 []).getD 1 [] ∈ gS.flushes.getD 0 [] ∧ (gS.flushes.getD 1 []).getD 1 [] ∈ gS.flushes.getD 1 [] ∧
      (∃ gp, gdec ((gS.flushes.getD 0 []).getD 1 []) = some gp ∧ GEmits 0 0 (some 1) gp) ∧
      ∃ gp, gdec ((gS.flushes.getD 1 []).getD 1 []) = some gp ∧ GEmits 0 0 (some 1) gp) := by
  decide +kernel

theorem grunS0 : GConn.exec cfg (opsS.take 2) = some gS0 := some_getD allS.2.1.1 _
theorem grunS1 : GConn.exec cfg (opsS.take 2 ++ [.flush]) = some gS1 := some_getD allS.2.1.2.1 _
theorem grunS2 : GConn.exec cfg (opsS.take 2 ++ .flush :: [.update 100]) = some gS2 := some_getD allS.2.1.2.2.1 _
theorem grunS : GConn.exec cfg opsS = some gS := some_getD allS.2.1.2.2.2.1 _
theorem grunS' : GConn.exec cfg (opsS.take 2 ++ .flush :: [.update 100] ++ [.flush]) = some gS := grunS
theorem grunSE : GConn.exec cfg (opsS ++ .process ackS :: extS) = some gSE := some_getD allS.2.1.2.2.2.2 _

theorem sfacts :
    gSE.flushes.map (·.map sliceOf) =
      [[some (0, 0), some (1, 1)], [some (2, 0), some (3, 1)], [some (4, 0), none]] ∧
    RustSem.Map.find? gS.cl.sent_packets 3 = some ⟨100, .ReliableSliceMessage 0 0 1⟩ ∧
    gdec (toNats ackS) = some (.Ack 0 [⟨3, 4⟩]) := allS.2.2.1

/-- **`src_never_after_ack` applied**, slice form: after the Ack for packet 3 no datagram read by the generated decoder
    carries slice 1 of message 0 -/
example : ∃ news, gSE.flushes = gS.flushes ++ news ∧ ∀ bs ∈ news, ∀ b ∈ bs, ∀ gp, GDecodes b gp →
    ¬ GCarriesSlice 0 0 1 gp := by
  obtain ⟨news, h1, h2⟩ := src_never_after_ack cfg opsS extS ackS gS gSE grunS grunSE allS.1.1 allS.1.2.1
    allS.2.2.2.1.2.2.1 allS.2.2.2.1.2.2.2 (gdecodes_of_gdec sfacts.2.2) (q := 3) sfacts.2.1
    ⟨⟨3, 4⟩, by simp, by decide, by decide⟩
  exact ⟨news, h1, fun bs hbs b hb gp hgp => (h2 bs hbs b hb gp hgp).2 0 0 1 rfl⟩

/-- **`src_not_early` applied**, slice form (`w = some 1`): flush 1 and flush 2 both transmit slice 1 of message 0 (second
    datagram of each), so `resend_time` is at most the 100 ns between them -/
example : ∀ s, RustSem.Map.find? gS2.cl.send_reliable_channels 0 = some s →
    s.resend_time ≤ gS2.cl.current_time - gS0.cl.current_time := by
  obtain ⟨bs1, bs2, e1, e2, h⟩ := src_not_early cfg (opsS.take 2) [.update 100] gS0 gS1 gS2 gS
    grunS0 grunS1 grunS2 grunS' allS.1.2.2 allS.2.2.2.1.1 allS.2.2.2.1.2.1 0 0 (some 1)
  obtain ⟨f1, f2⟩ := allS.2.2.2.2.1
  obtain ⟨m1, m2, ⟨gp1, dd1, ee1⟩, gp2, dd2, ee2⟩ := allS.2.2.2.2.2
  -- the variable on the right: `subst` reduces the right-hand side first, and the other side is a whole run
  have b1 : gS.flushes.getD 0 [] = bs1 := by
    rw [f1] at e1; have := List.append_cancel_left e1; simpa using this
  have b2 : gS.flushes.getD 1 [] = bs2 := by
    have e2' := e2; rw [f2] at e2'; have := List.append_cancel_left e2'; simpa using this
  subst b1; subst b2
  exact h _ m1 _ m2 gp1 gp2 (gdecodes_of_gdec dd1) (gdecodes_of_gdec dd2) ee1 ee2

end Ex

end RenetVerif.SrcPropsConnTraceC15
