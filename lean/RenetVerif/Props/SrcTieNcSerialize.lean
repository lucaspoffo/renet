/-
  Source tie, group NcSerialize: `renetcode/src/serialize.rs` (whole file: `read_u64/u32/u16/u8`, `read_bytes<N>`,
  `read_i32`) and `renetcode/src/packet.rs` `read_sequence`, `get_additional_data` (`write_sequence`: group NcSequence), translated over
  the `io::Cursor` models of RustSem (`&mut impl io::Read` ↦ `ReadCursor`, `&mut impl io::Write` ↦ `WriteCursor`),
  ↔ the readers / the writer `Wr` of `Netcode/Util.lean` and `Netcode/Wire.lean`.

  `rcur buf rest` is the read cursor over `buf` whose unread part is the suffix `rest`; `rdRes buf f r` turns a model
  reader result (`some (value, rest')` / `none`) into the generated outcome (`.ok (rcur buf rest', f value)` /
  `.err (_, cursor)` — `io::Error`s are not distinguished; after `UnexpectedEof` the cursor stands at the end of the
  buffer, `rdResE` names another position).  `wcur w tail` is the write cursor that has written `w.out` and still
  has the bytes `tail` of the buffer in front of it (`WrOk w tail : w.out.length + tail.length = w.cap`).
-/
import RenetVerif.Lemmas.SrcEquiv.NcSerialize
namespace RenetVerif.SrcTie
open RenetVerif RenetVerif.SrcEquiv RenetVerif.RustSem Netcode

open Src.renetcode.serialize in
/-- `read_u64`, `read_u32`, `read_u16`, `read_u8` at any cursor position: the model readers `readU64` … `readU8` -/
theorem nc_read_uN (buf rest : Bytes) (h : rest <:+ buf) :
    Src.renetcode.serialize.read_u64 (rcur buf rest) = rdRes buf id (readU64 rest) ∧
    Src.renetcode.serialize.read_u32 (rcur buf rest) = rdRes buf id (readU32 rest) ∧
    Src.renetcode.serialize.read_u16 (rcur buf rest) = rdRes buf id (readU16 rest) ∧
    Src.renetcode.serialize.read_u8 (rcur buf rest) = rdRes buf id (readU8 rest) :=
  ⟨(read_exact_then h 8 RustSem.from_le_bytes).trans (rdRes_readU buf rest 8),
   (read_exact_then h 4 RustSem.from_le_bytes).trans (rdRes_readU buf rest 4),
   (read_exact_then h 2 RustSem.from_le_bytes).trans (rdRes_readU buf rest 2),
   (read_exact_then h 1 RustSem.from_le_bytes).trans (rdRes_readU buf rest 1)⟩

open Src.renetcode.serialize in
/-- `read_bytes::<N>` ↔ `readN N` -/
theorem nc_read_bytes (buf rest : Bytes) (h : rest <:+ buf) (n : Nat) :
    Src.renetcode.serialize.read_bytes n (rcur buf rest) = rdRes buf toNats (readN n rest) := by
  unfold read_bytes
  simp only [len_repeat]
  exact read_exact_then h n id

open Src.renetcode.serialize in
/-- `read_i32` ↔ `readI32` -/
theorem nc_read_i32 (buf rest : Bytes) (h : rest <:+ buf) :
    Src.renetcode.serialize.read_i32 (rcur buf rest) = rdRes buf id (readI32 rest) := by
  refine (read_exact_then h 4 RustSem.i32_from_le_bytes).trans ?_
  unfold readI32 readU
  cases readN 4 rest with
  | none => rfl
  | some x => simp only [rdRes, RustSem.i32_from_le_bytes, from_le_bytes_toNats, id, i32OfU32]

open Src.renetcode.packet in
/-- `read_sequence(source, len)` ↔ `Packet.readSequence` (for every `len`, including `len > 8`): never panics -/
theorem nc_read_sequence (buf rest : Bytes) (h : rest <:+ buf) (len : Nat) :
    Src.renetcode.packet.read_sequence (rcur buf rest) len =
      rdResE buf id (if len > 8 then rest else []) (Packet.readSequence rest len) := by
  unfold read_sequence Packet.readSequence
  simp only [Exec.bind_eq, Exec.pure_eq]
  by_cases hl : len > 8
  · simp only [hl, decide_true, if_true, Exec.bind_err', Exec.run_err, rdResE]
  have h8 : 0 ≤ len ∧ len ≤ (List.replicate 8 (0 : Nat)).length := ⟨Nat.zero_le _, Nat.le_of_not_gt hl⟩
  simp only [hl, decide_false, Bool.false_eq_true, if_false, Exec.bind_val', RustSem.repeat_, slice_val h8, RustSem.len,
    List.length_drop, List.length_take, Nat.min_eq_left h8.2, Nat.sub_zero, read_exact_rcur h]
  unfold readN
  by_cases hn : rest.length < len
  · rw [if_pos hn, if_pos hn]; rfl
  · rw [if_neg hn, if_neg hn]
    have hlen : (toNats (rest.take len)).length = len - 0 := by
      rw [toNats_length, List.length_take]; omega
    simp only [Exec.callFrom_ok, Exec.bind_val', copy_val ⟨h8.1, h8.2, hlen⟩, List.take_zero, List.nil_append,
      List.drop_replicate, Exec.run_val, rdResE, from_le_bytes_zeros, from_le_bytes_toNats, id]

open Src.renetcode.packet in
/-- `get_additional_data(prefix, protocol_id)` ↔ `Packet.additionalData`: never panics -/
theorem nc_get_additional_data {ε : Type} (pfx : UInt8) (protocolId : Nat) :
    (Src.renetcode.packet.get_additional_data pfx.toNat protocolId : Res ε (List Nat)) =
      .ok (toNats (Packet.additionalData pfx protocolId)) := by
  unfold get_additional_data
  -- straight-line code with constant offsets on a 22-byte buffer: once the eight bytes of `protocol_id` are those of the
  -- model, both sides compute to the same 22 cells
  rw [to_le_bytes64]
  rfl

example : Src.renetcode.serialize.read_u32 ⟨[9, 1, 2, 0, 0, 7], 1⟩ = .ok (⟨[9, 1, 2, 0, 0, 7], 5⟩, 513) := by decide +kernel
example : Src.renetcode.serialize.read_u64 ⟨[9, 1, 2, 0, 0, 7], 1⟩ = .err (.opaque, ⟨[9, 1, 2, 0, 0, 7], 6⟩) := by decide +kernel
example : Src.renetcode.serialize.read_i32 (ReadCursor.new [0xff, 0xff, 0xff, 0xff]) = .ok (⟨[0xff, 0xff, 0xff, 0xff], 4⟩, -1) := by
  decide +kernel
example : Src.renetcode.serialize.read_bytes 2 (ReadCursor.new [5, 6, 7]) = .ok (⟨[5, 6, 7], 2⟩, [5, 6]) := by decide +kernel
example : Src.renetcode.packet.read_sequence (ReadCursor.new [0x34, 0x12, 9]) 2 = .ok (⟨[0x34, 0x12, 9], 2⟩, 0x1234) := by
  decide +kernel
example : Src.renetcode.packet.read_sequence (ReadCursor.new [0x34, 0x12, 9]) 9 = .err (.opaque, ⟨[0x34, 0x12, 9], 0⟩) := by
  decide +kernel
example : (Src.renetcode.packet.get_additional_data 0x25 1 : Res Empty _) =
    .ok [78, 69, 84, 67, 79, 68, 69, 32, 49, 46, 48, 50, 0, 1, 0, 0, 0, 0, 0, 0, 0, 0x25] := by decide +kernel

end RenetVerif.SrcTie
