/-
  The two-endpoint SYSTEM of `Lemmas/System.lean`, rebuilt over the GENERATED code: both endpoints are generated
  `RenetClient` values (`Generated/Src/ConnTypes.lean`), created by the generated `RenetClient::from_channels` and driven only
  through the generated `send_message`, `receive_message`, `update`, `get_packets_to_send`, `process_packet`
  (`Generated/Src/{Conn,ConnRecv,ConnSend}.lean`).  `GSys.step` mirrors `Sys.step` line by line.

  `run_sim`: under the range side condition `RunInRange cfg ops` the generated run and the model run succeed together and
  end in related states (`SimSys`): generated endpoint = `reprConn mrs (model endpoint)`, emission histories and ghost
  logs equal up to `toNats` (model bytes are `List UInt8`, generated bytes are `List Nat`).
-/
import RenetVerif.Lemmas.System
import RenetVerif.Lemmas.RunRange
import RenetVerif.Props.SrcTiePacket
import RenetVerif.Props.SrcTieConn
import RenetVerif.Props.SrcTieInv
import RenetVerif.Props.SrcTieTrClosed
import RenetVerif.Lemmas.SrcEquiv.RecvNodup
namespace RenetVerif.SrcSystem
open RenetVerif RenetVerif.RustSem RenetVerif.C RenetVerif.System RenetVerif.SrcEquiv
open Src.renet.remote_connection

abbrev GBytes := List Nat

/-- two generated endpoints, the emission histories, and the same ghost logs as `Sys` -/
structure GSys where
  a : RenetClient
  b : RenetClient
  outA : List GBytes
  outB : List GBytes
  submitted : Nat → List GBytes
  submittedU : Nat → List GBytes
  obtained : Nat → List GBytes
  deliveredToB : List Nat

def gpush (f : Nat → List GBytes) (ch : Nat) (m : GBytes) : Nat → List GBytes :=
  fun c => if c = ch then f c ++ [m] else f c

/-- the value of a generated `bool` getter (`false` if it panicked: the getters used here never do) -/
def okBool : Res Empty Bool → Bool
  | .ok b => b
  | _ => false

def gDisc (c : RenetClient) : Bool := okBool (RenetClient.is_disconnected c)

/-- ghost condition of `submitted` (mirror of `System.accepted`): the connection was live (generated `is_disconnected`),
    `ch` is a reliable send channel, and `send_message` did not disconnect.  There is no generated function that tells
    whether `ch` is a RELIABLE send channel, so this is read off the field `send_reliable_channels` of the generated
    struct (`HashMap::contains_key`). -/
def gAccepted (a a' : RenetClient) (ch : Nat) : Bool :=
  !gDisc a && RustSem.Map.contains_key a.send_reliable_channels ch && !gDisc a'

/-- ghost condition of `submittedU` (mirror of `System.offeredU`); the two channel tables are read through the fields
    `send_reliable_channels` / `send_unreliable_channels` of the generated struct, for the same reason. -/
def gOfferedU (a : RenetClient) (ch : Nat) : Bool :=
  !gDisc a && !RustSem.Map.contains_key a.send_reliable_channels ch &&
    RustSem.Map.contains_key a.send_unreliable_channels ch

/-- both endpoints from the generated `RenetClient::from_channels` (`none`: an `assert!` of the constructor fired) -/
def GSys.init (cfg : Cfg) : Option GSys :=
  match (RenetClient.from_channels cfg.budget (cfg.send.map reprCfg) (cfg.recv.map reprCfg) : Res Empty _),
        (RenetClient.from_channels cfg.budget (cfg.recv.map reprCfg) (cfg.send.map reprCfg) : Res Empty _) with
  | .ok a, .ok b =>
    some { a := a, b := b, outA := [], outB := [], submitted := fun _ => [], submittedU := fun _ => [],
           obtained := fun _ => [], deliveredToB := [] }
  | _, _ => none

/-- one operation, through the generated functions only; `none` = the generated function panicked or the index is out of
    range (mirror of `Sys.step`) -/
def GSys.step (g : GSys) : SysOp → Option GSys
  | .sendA ch m =>
    match (RenetClient.send_message g.a ch (toNats m) : Res Empty _) with
    | .ok (a', _) =>
      some { g with a := a', submitted := if gAccepted g.a a' ch then gpush g.submitted ch (toNats m) else g.submitted,
                    submittedU := if gOfferedU g.a ch then gpush g.submittedU ch (toNats m) else g.submittedU }
    | _ => none
  | .recvB ch =>
    match (RenetClient.receive_message g.b ch : Res Empty _) with
    | .ok (b', some m) => some { g with b := b', obtained := gpush g.obtained ch m }
    | .ok (b', none) => some { g with b := b' }
    | _ => none
  | .updA dt =>
    match (RenetClient.update g.a dt : Res Empty _) with
    | .ok (a', _) => some { g with a := a' }
    | _ => none
  | .updB dt =>
    match (RenetClient.update g.b dt : Res Empty _) with
    | .ok (b', _) => some { g with b := b' }
    | _ => none
  | .flushA =>
    match (RenetClient.get_packets_to_send g.a : Res Empty _) with
    | .ok (a', bs) => some { g with a := a', outA := g.outA ++ bs }
    | _ => none
  | .flushB =>
    match (RenetClient.get_packets_to_send g.b : Res Empty _) with
    | .ok (b', bs) => some { g with b := b', outB := g.outB ++ bs }
    | _ => none
  | .deliverToB k =>
    match g.outA[k]? with
    | none => none
    | some bytes =>
      match (RenetClient.process_packet g.b bytes : Res Empty _) with
      | .ok (b', _) => some { g with b := b', deliveredToB := g.deliveredToB ++ [k] }
      | _ => none
  | .deliverToA k =>
    match g.outB[k]? with
    | none => none
    | some bytes =>
      match (RenetClient.process_packet g.a bytes : Res Empty _) with
      | .ok (a', _) => some { g with a := a' }
      | _ => none

def GSys.run (g : GSys) : List SysOp → Option GSys
  | [] => some g
  | op :: ops =>
    match g.step op with
    | some g' => g'.run ops
    | none => none

def GSys.exec (cfg : Cfg) (ops : List SysOp) : Option GSys :=
  match GSys.init cfg with
  | some g => g.run ops
  | none => none

/-- model state `s` and generated state `g` are related: each generated endpoint is the representation of the model
    endpoint (for some values `mrs` of the never-read Rust field `most_recent_message_id`), emission histories and ghost
    logs are equal up to `toNats` -/
structure SimSys (s : Sys) (g : GSys) : Prop where
  a : ∃ mrs, g.a = reprConn mrs s.a
  b : ∃ mrs, g.b = reprConn mrs s.b
  outA : g.outA = s.outA.map toNats
  outB : g.outB = s.outB.map toNats
  submitted : ∀ ch, g.submitted ch = (s.submitted ch).map toNats
  submittedU : ∀ ch, g.submittedU ch = (s.submittedU ch).map toNats
  obtained : ∀ ch, g.obtained ch = (s.obtained ch).map toNats
  deliveredToB : g.deliveredToB = s.deliveredToB

theorem gDisc_repr (mrs : Nat → Nat) (c : Conn) : gDisc (reprConn mrs c) = c.isDisconnected := by
  unfold gDisc
  rw [SrcTie.conn_is_disconnected]
  rfl

theorem gAccepted_repr (mrs mrs' : Nat → Nat) (a a' : Conn) (ch : Nat) :
    gAccepted (reprConn mrs a) (reprConn mrs' a') ch = accepted a a' ch := by
  unfold gAccepted accepted
  rw [gDisc_repr, gDisc_repr]
  simp only [reprConn, RustSem.Map.contains_key, find_mapVals, Option.isSome_map]

theorem gOfferedU_repr (mrs : Nat → Nat) (a : Conn) (ch : Nat) :
    gOfferedU (reprConn mrs a) ch = offeredU a ch := by
  unfold gOfferedU offeredU
  rw [gDisc_repr]
  simp only [reprConn, RustSem.Map.contains_key, find_mapVals, Option.isSome_map]
  cases SMap.find? a.sendRel ch <;> rfl

theorem gpush_map (f : Nat → List Bytes) (gf : Nat → List GBytes) (h : ∀ c, gf c = (f c).map toNats) (ch : Nat) (m : Bytes) :
    ∀ c, gpush gf ch (toNats m) c = (System.push f ch m c).map toNats := by
  intro c
  unfold gpush System.push
  split
  · rw [h c, List.map_append]; rfl
  · exact h c

theorem gpush_if_map {gb b : Bool} (hb : gb = b) {f : Nat → List Bytes} {gf : Nat → List GBytes}
    (h : ∀ c, gf c = (f c).map toNats) (ch : Nat) (m : Bytes) :
    ∀ c, (if gb then gpush gf ch (toNats m) else gf) c = ((if b then System.push f ch m else f) c).map toNats := by
  subst hb
  cases gb
  · exact h
  · exact gpush_map f gf h ch m

theorem length_le_of_map {L : List Bytes} {G : List GBytes} (h : G = L.map toNats) {n : Nat} (hl : G.length ≤ n) :
    L.length ≤ n := by
  rw [h, List.length_map] at hl
  exact hl

theorem len_le_of_map {L : List Bytes} {G : List GBytes} (h : G = L.map toNats) {n : Nat} (hl : ∀ x ∈ G, x.length ≤ n) :
    ∀ x ∈ L, x.length ≤ n := by
  intro x hx
  have := hl (toNats x) (by rw [h]; exact List.mem_map_of_mem hx)
  rw [toNats_length] at this
  exact this

/-- the model invariants the closed ties need: `Conn.SInv`, key-sorted channel tables, time stamps in the past, no duplicates
    in the `received` lists (`Lemmas/SrcEquiv/RecvNodup.lean`) -/
structure EpGood (c : Conn) : Prop where
  sinv : c.SInv
  sorted : ChanSorted c
  tinv : TInv c
  nodup : RecvNodup c

theorem epGood_fromChannels (budget : Nat) (send recv : List ChanCfg) : EpGood (Conn.fromChannels budget send recv) :=
  ⟨CI.fromChannels_invP budget send recv, SrcTie.chan_sorted_from_channels budget send recv, SrcTie.tinv_from_channels budget send recv,
    recvNodup_fromChannels budget send recv⟩
theorem EpGood.sendMessage {c c' : Conn} {ch : Nat} {m : Bytes} (h : EpGood c) (hr : c.sendMessage ch m = .ok c') : EpGood c' :=
  ⟨(CI.sendMessage_invP h.sinv hr).1, chanSorted_kept.sendMessage h.sorted trivial hr, tinv_kept.sendMessage h.tinv trivial hr,
    recvNodup_kept.sendMessage h.nodup trivial hr⟩
theorem EpGood.receiveMessage {c c' : Conn} {ch : Nat} {o : Option Bytes} (h : EpGood c)
    (hr : c.receiveMessage ch = .ok (c', o)) : EpGood c' :=
  ⟨(CI.receiveMessage_invP h.sinv hr).1, chanSorted_kept.receiveMessage h.sorted hr, tinv_kept.receiveMessage h.tinv hr,
    recvNodup_kept.receiveMessage h.nodup hr⟩
theorem EpGood.update {c c' : Conn} {dt : Nat} (h : EpGood c) (hr : c.update dt = .ok c') : EpGood c' :=
  ⟨(CI.update_invP h.sinv hr).1, SrcTie.chan_sorted_update h.sorted hr, SrcTie.tinv_update' h.tinv hr, recvNodup_update h.nodup hr⟩
theorem EpGood.processPacket {c c' : Conn} {bytes : Bytes} (h : EpGood c) (hr : c.processPacket bytes = .ok c') : EpGood c' :=
  ⟨(CI.processPacket_invP goodP_inv h.sinv hr).1, chanSorted_kept.processPacket trivial h.sorted hr, tinv_kept.processPacket trivial h.tinv hr,
    recvNodup_kept.processPacket trivial h.nodup hr⟩
theorem EpGood.getPacketsToSend {c c' : Conn} {ps : List Bytes} (h : EpGood c) (hr : c.getPacketsToSend = .ok (c', ps)) :
    EpGood c' :=
  ⟨(CI.getPacketsToSend_invP h.sinv hr).1, chanSorted_kept.getPacketsToSend trivial h.sorted hr, tinv_kept.getPacketsToSend trivial h.tinv hr,
    recvNodup_kept.getPacketsToSend trivial h.nodup hr⟩

structure SysGood (s : Sys) : Prop where
  a : EpGood s.a
  b : EpGood s.b

theorem sysGood_init (cfg : Cfg) : SysGood (Sys.init cfg) := ⟨epGood_fromChannels _ _ _, epGood_fromChannels _ _ _⟩

theorem sysGood_step {s s' : Sys} {op : SysOp} (h : SysGood s) (hs : s.step op = some s') : SysGood s' := by
  cases stepped hs with
  | sendA hm => exact ⟨h.a.sendMessage hm, h.b⟩
  | recvB hm => exact ⟨h.a, h.b.receiveMessage hm⟩
  | updA hm => exact ⟨h.a.update hm, h.b⟩
  | updB hm => exact ⟨h.a, h.b.update hm⟩
  | flushA hm => exact ⟨h.a.getPacketsToSend hm, h.b⟩
  | flushB hm => exact ⟨h.a, h.b.getPacketsToSend hm⟩
  | deliverToB _ hm => exact ⟨h.a, h.b.processPacket hm⟩
  | deliverToA _ hm => exact ⟨h.a.processPacket hm, h.b⟩

theorem ConnInRange.sendRange {c : Conn} (h : ConnInRange c) : SendRange c :=
  ⟨fun ch s hf => h.1 (ch, s) (SMap.mem_of_find? hf), fun ch s hf => h.2.1 (ch, s) (SMap.mem_of_find? hf), h.2.2.2.2.1,
    h.2.2.2.2.2⟩
theorem ConnInRange.recvBudget {c : Conn} (h : ConnInRange c) : RecvBudgetOk c :=
  ⟨fun x hx => (h.2.2.1 x hx).1, h.2.2.2.1⟩
theorem ConnInRange.sendBudget {c : Conn} (h : ConnInRange c) : SendBudgetOk c := by
  intro ch s hf
  have : s.maxMem ≤ 2 ^ 60 := (h.1 (ch, s) (SMap.mem_of_find? hf)).2
  show s.maxMem ≤ 2 ^ 63
  omega

/-! ## one endpoint, one generated call: the closed ties instantiated -/

theorem sendMsgOk_of {c : Conn} (hg : EpGood c) (hr : ConnInRange c) (ch : Nat) (m : Bytes) (hm : m.length < 2 ^ 63) :
    SendMsgOk c ch m := by
  refine ⟨hg.sorted.sendRel, fun s hf => ?_, fun s hf => ?_⟩
  · have h1 : s.nextId ≤ 2 ^ 60 ∧ s.maxMem ≤ 2 ^ 60 := hr.1 (ch, s) (SMap.mem_of_find? hf)
    have h2 := (hg.sinv.sendRel_find hf).1.bound
    omega
  · have h1 : s.slicedId + s.queue.length ≤ 2 ^ 60 ∧ s.maxMem ≤ 2 ^ 60 := hr.2.1 (ch, s) (SMap.mem_of_find? hf)
    have h2 := (hg.sinv.sendUnrel_find hf).2
    omega

theorem ep_send (mrs : Nat → Nat) {c : Conn} (hg : EpGood c) (hr : ConnInRange c) (ch : Nat) (m : Bytes)
    (hm : m.length < 2 ^ 63) :
    SameOutcome (RenetClient.send_message (reprConn mrs c) ch (toNats m) : Res Empty _)
      (mapRes (fun c' => (reprConn mrs c', ())) (fun e => nomatch e) (c.sendMessage ch m)) := by
  obtain ⟨h1, h2, h3⟩ := sendMsgOk_of hg hr ch m hm
  exact SrcTie.conn_send_message mrs c ch m h1 h2 h3

theorem ep_receive (mrs : Nat → Nat) {c : Conn} (hg : EpGood c) (hr : ConnInRange c) (ch : Nat) :
    SameOutcome (RenetClient.receive_message (reprConn mrs c) ch : Res Empty _)
      (mapRes (fun x => (reprConn mrs x.1, x.2.map toNats)) (fun e => nomatch e) (c.receiveMessage ch)) := by
  refine SrcTie.conn_receive_message mrs c ch hg.sorted.recvRel (fun r hf => ?_)
  exact ⟨(hr.2.2.1 (ch, r) (SMap.mem_of_find? hf)).2, hg.nodup (ch, r) (SMap.mem_of_find? hf)⟩

theorem ep_update (mrs : Nat → Nat) {c : Conn} (hg : EpGood c) (hr : ConnInRange c) (dt : Nat)
    (hclock : c.now + dt ≤ RustSem.Duration.MAX) :
    SameOutcome (RenetClient.update (reprConn mrs c) dt : Res Empty _)
      (mapRes (fun c' => (reprConn mrs c', ())) (fun e => nomatch e) (c.update dt)) :=
  SrcTie.conn_update_inv mrs c dt hg.sinv hg.tinv hr.recvBudget hclock

theorem ep_flush (mrs : Nat → Nat) {c : Conn} (hg : EpGood c) (hr : ConnInRange c) :
    SameOutcome (RenetClient.get_packets_to_send (reprConn mrs c) : Res Empty _)
      (mapRes (fun x => (reprConn mrs x.1, x.2.map toNats)) (fun e => nomatch e) c.getPacketsToSend) :=
  SrcTie.conn_get_packets_to_send_inv mrs c hg.sinv hg.tinv hr.sendRange

theorem ep_process (mrs : Nat → Nat) {c : Conn} (hg : EpGood c) (hr : ConnInRange c) (bytes : Bytes) :
    ∃ mrs', SameOutcome (RenetClient.process_packet (reprConn mrs c) (toNats bytes) : Res Empty _)
      (mapRes (fun c' => (reprConn mrs' c', ())) (fun e => nomatch e) (c.processPacket bytes)) :=
  SrcTie.conn_process_packet_inv mrs c bytes hg.sinv hg.sorted hr.recvBudget hr.sendBudget
    (fun k v hf => hg.tinv.sent (k, v) (SMap.mem_of_find? hf))

theorem step_sim {s : Sys} {g : GSys} (hg : SysGood s) (hsim : SimSys s g) (hra : ConnInRange s.a) (hrb : ConnInRange s.b)
    (op : SysOp) (hop : OpInRange s op) :
    match s.step op with
    | some s' => ∃ g', g.step op = some g' ∧ SimSys s' g'
    | none => g.step op = none := by
  obtain ⟨mrsA, hA⟩ := hsim.a
  obtain ⟨mrsB, hB⟩ := hsim.b
  cases op with
  | sendA ch m =>
    simp only [Sys.step, GSys.step, hA]
    rcases (ep_send mrsA hg.a hra ch m hop).map_cases with ⟨a', hm, e⟩ | ⟨_, _, hm, e⟩
    · rw [hm, e]
      exact ⟨_, rfl, { hsim with
        a := ⟨mrsA, rfl⟩
        submitted := gpush_if_map (gAccepted_repr _ _ _ _ _) hsim.submitted ch m
        submittedU := gpush_if_map (gOfferedU_repr _ _ _) hsim.submittedU ch m }⟩
    · rw [hm, e]
  | recvB ch =>
    simp only [Sys.step, GSys.step, hB]
    rcases (ep_receive mrsB hg.b hrb ch).map_cases with ⟨⟨b', o⟩, hm, e⟩ | ⟨_, _, hm, e⟩
    · rw [hm, e]
      cases o with
      | none => exact ⟨_, rfl, { hsim with b := ⟨mrsB, rfl⟩ }⟩
      | some msg => exact ⟨_, rfl, { hsim with b := ⟨mrsB, rfl⟩, obtained := gpush_map _ _ hsim.obtained ch msg }⟩
    · rw [hm, e]
  | updA dt =>
    simp only [Sys.step, GSys.step, hA]
    rcases (ep_update mrsA hg.a hra dt hop).map_cases with ⟨a', hm, e⟩ | ⟨_, _, hm, e⟩
    · rw [hm, e]
      exact ⟨_, rfl, { hsim with a := ⟨mrsA, rfl⟩ }⟩
    · rw [hm, e]
  | updB dt =>
    simp only [Sys.step, GSys.step, hB]
    rcases (ep_update mrsB hg.b hrb dt hop).map_cases with ⟨b', hm, e⟩ | ⟨_, _, hm, e⟩
    · rw [hm, e]
      exact ⟨_, rfl, { hsim with b := ⟨mrsB, rfl⟩ }⟩
    · rw [hm, e]
  | flushA =>
    simp only [Sys.step, GSys.step, hA]
    rcases (ep_flush mrsA hg.a hra).map_cases with ⟨⟨a', ps⟩, hm, e⟩ | ⟨_, _, hm, e⟩
    · rw [hm, e]
      exact ⟨_, rfl, { hsim with a := ⟨mrsA, rfl⟩, outA := by simp only [hsim.outA, List.map_append] }⟩
    · rw [hm, e]
  | flushB =>
    simp only [Sys.step, GSys.step, hB]
    rcases (ep_flush mrsB hg.b hrb).map_cases with ⟨⟨b', ps⟩, hm, e⟩ | ⟨_, _, hm, e⟩
    · rw [hm, e]
      exact ⟨_, rfl, { hsim with b := ⟨mrsB, rfl⟩, outB := by simp only [hsim.outB, List.map_append] }⟩
    · rw [hm, e]
  | deliverToB k =>
    simp only [Sys.step, GSys.step, hsim.outA, List.getElem?_map]
    cases hk : s.outA[k]? with
    | none => rfl
    | some bytes =>
      obtain ⟨mrs', tie⟩ := ep_process mrsB hg.b hrb bytes
      simp only [Option.map_some, hB]
      rcases tie.map_cases with ⟨b', hm, e⟩ | ⟨_, _, hm, e⟩
      · rw [hm, e]
        exact ⟨_, rfl, { hsim with b := ⟨mrs', rfl⟩, outA := rfl, deliveredToB := by simp only [hsim.deliveredToB] }⟩
      · rw [hm, e]
  | deliverToA k =>
    simp only [Sys.step, GSys.step, hsim.outB, List.getElem?_map]
    cases hk : s.outB[k]? with
    | none => rfl
    | some bytes =>
      obtain ⟨mrs', tie⟩ := ep_process mrsA hg.a hra bytes
      simp only [Option.map_some, hA]
      rcases tie.map_cases with ⟨a', hm, e⟩ | ⟨_, _, hm, e⟩
      · rw [hm, e]
        exact ⟨_, rfl, { hsim with a := ⟨mrs', rfl⟩, outB := rfl }⟩
      · rw [hm, e]

theorem run_sim_from : ∀ (ops : List SysOp) (s : Sys) (g : GSys), SysGood s → SimSys s g → RunInRangeFrom s ops →
    match s.run ops with
    | some s' => ∃ g', g.run ops = some g' ∧ SimSys s' g'
    | none => g.run ops = none := by
  intro ops
  induction ops with
  | nil => intro s g _ hsim _; exact ⟨g, rfl, hsim⟩
  | cons op ops ih =>
    intro s g hg hsim hrg
    obtain ⟨hra, hrb, hop, hrest⟩ := hrg
    have hstep := step_sim hg hsim hra hrb op hop
    simp only [Sys.run, GSys.run]
    cases hs : s.step op with
    | none =>
      rw [hs] at hstep
      simp only [hstep]
    | some s' =>
      rw [hs] at hstep hrest
      obtain ⟨g', e, hsim'⟩ := hstep
      simp only [e]
      exact ih s' g' (sysGood_step hg hs) hsim' hrest

theorem init_sim (cfg : Cfg) (hd : CfgDistinct cfg) : ∃ g0, GSys.init cfg = some g0 ∧ SimSys (Sys.init cfg) g0 := by
  obtain ⟨h1, h2, h3, h4⟩ := hd
  have ea := SrcTie.conn_from_channels (ε := Empty) cfg.budget cfg.send cfg.recv h1 h2 h3 h4
  have eb := SrcTie.conn_from_channels (ε := Empty) cfg.budget cfg.recv cfg.send h3 h4 h1 h2
  simp only [GSys.init, ea, eb]
  exact ⟨_, rfl, ⟨_, rfl⟩, ⟨_, rfl⟩, rfl, rfl, fun _ => rfl, fun _ => rfl, fun _ => rfl, rfl⟩

theorem exec_sim (cfg : Cfg) (ops : List SysOp) (hr : RunInRange cfg ops) :
    match (Sys.init cfg).run ops with
    | some s => ∃ g, GSys.exec cfg ops = some g ∧ SimSys s g
    | none => GSys.exec cfg ops = none := by
  obtain ⟨g0, e0, hsim0⟩ := init_sim cfg hr.1
  simp only [GSys.exec, e0]
  exact run_sim_from ops (Sys.init cfg) g0 (sysGood_init cfg) hsim0 hr.2

theorem run_sim (cfg : Cfg) (ops : List SysOp) (s : Sys) (hr : RunInRange cfg ops) (hs : (Sys.init cfg).run ops = some s) :
    ∃ g, GSys.exec cfg ops = some g ∧ SimSys s g := by
  have := exec_sim cfg ops hr
  rw [hs] at this
  exact this

theorem run_sim_conv (cfg : Cfg) (ops : List SysOp) (g : GSys) (hr : RunInRange cfg ops) (hg : GSys.exec cfg ops = some g) :
    ∃ s, (Sys.init cfg).run ops = some s ∧ SimSys s g := by
  have := exec_sim cfg ops hr
  cases hs : (Sys.init cfg).run ops with
  | none => rw [hs] at this; rw [hg] at this; cases this
  | some s =>
    rw [hs] at this
    obtain ⟨g', e, hsim⟩ := this
    rw [hg] at e; cases e
    exact ⟨s, rfl, hsim⟩

theorem sysGood_run : ∀ (ops : List SysOp) (s s' : Sys), SysGood s → s.run ops = some s' → SysGood s' := by
  intro ops
  induction ops with
  | nil => intro s s' h hr; cases hr; exact h
  | cons op ops ih =>
    intro s s' h hr
    simp only [Sys.run] at hr
    split at hr
    · rename_i s1 hs; exact ih s1 s' (sysGood_step h hs) hr
    · cases hr

/-! ## the counter hypothesis of `Props/C01S.lean`, on the generated state -/

/-- `System.CountersOK` read off the generated state: channel ids are bytes, A's `packet_sequence` (field of the generated
    struct) and the number of submitted messages per reliable channel have not passed `2^62` (the varint limit), no
    submitted message needs more than `MAX_NUM_SLICES` slices -/
structure GCountersOK (cfg : Cfg) (g : GSys) : Prop where
  chan : ∀ c ∈ cfg.send, c.id < 256
  seq : g.a.packet_sequence ≤ Varint.MAX + 1
  ids : ∀ c ∈ cfg.send, (g.submitted c.id).length ≤ Varint.MAX + 1
  lens : ∀ c ∈ cfg.send, ∀ m ∈ g.submitted c.id, m.length ≤ MAX_NUM_SLICES * SLICE_SIZE
  lensU : ∀ c ∈ cfg.send, ∀ m ∈ g.submittedU c.id, m.length ≤ MAX_NUM_SLICES * SLICE_SIZE

theorem countersOK_of_sim {cfg : Cfg} {s : Sys} {g : GSys} (sim : SimSys s g) (hc : GCountersOK cfg g) : CountersOK cfg s := by
  obtain ⟨mrs, hA⟩ := sim.a
  refine ⟨hc.chan, ?_, fun c hcs => length_le_of_map (sim.submitted c.id) (hc.ids c hcs),
    fun c hcs => len_le_of_map (sim.submitted c.id) (hc.lens c hcs),
    fun c hcs => len_le_of_map (sim.submittedU c.id) (hc.lensU c hcs)⟩
  have h := hc.seq
  rw [hA] at h
  exact h

def GDecodes (bytes : GBytes) (p : Src.renet.packet.Packet) : Prop :=
  ∃ cur, Src.renet.packet.Packet.from_bytes (RustSem.Octets.with_slice bytes) = .ok (cur, p)

theorem gdecodes_of_fromBytes {bytes : Bytes} {p : Packet} (h : Packet.fromBytes bytes = .ok p) :
    GDecodes (toNats bytes) (reprPacket p) := by
  have := SrcTie.packet_from_bytes_fresh bytes
  rw [h] at this
  unfold GDecodes
  cases hx : Src.renet.packet.Packet.from_bytes (RustSem.Octets.with_slice (toNats bytes)) with
  | ok v =>
    obtain ⟨cur, q⟩ := v
    rw [hx] at this
    simp only [Res.forget, mapRes, Res.ok.injEq] at this
    exact ⟨cur, by rw [this]⟩
  | err e => rw [hx] at this; simp [Res.forget, mapRes] at this
  | panic m => rw [hx] at this; simp [Res.forget, mapRes] at this

/-- slice `i` of `n` of a message, on generated byte strings (`C.sliceBytes` on `List Nat`) -/
def gSliceBytes (m : GBytes) (n i : Nat) : GBytes :=
  let start := i * SLICE_SIZE
  let stop := if i = n - 1 then m.length else (i + 1) * SLICE_SIZE
  (m.drop start).take (stop - start)

theorem toNats_sliceBytes (m : Bytes) (n i : Nat) : toNats (sliceBytes m n i) = gSliceBytes (toNats m) n i := by
  simp only [sliceBytes, gSliceBytes, toNats, List.map_take, List.map_drop, List.length_map]

theorem find_sendRel_repr {mrs : Nat → Nat} {c : Conn} {ch : Nat} {sG : Src.renet.channel.reliable.SendChannelReliable}
    (hf : RustSem.Map.find? (reprConn mrs c).send_reliable_channels ch = some sG) :
    ∃ sM, SMap.find? c.sendRel ch = some sM ∧ sG = reprSR sM := by
  simp only [reprConn, find_mapVals] at hf
  cases hm : SMap.find? c.sendRel ch with
  | none => rw [hm] at hf; cases hf
  | some sM => rw [hm] at hf; cases hf; exact ⟨sM, rfl, rfl⟩

theorem find_sendRel_of_sim {s : Sys} {g : GSys} (sim : SimSys s g) {ch : Nat}
    {sA : Src.renet.channel.reliable.SendChannelReliable}
    (hf : RustSem.Map.find? g.a.send_reliable_channels ch = some sA) :
    ∃ sM, SMap.find? s.a.sendRel ch = some sM ∧ sA = reprSR sM := by
  obtain ⟨mrs, hA⟩ := sim.a
  rw [hA] at hf
  exact find_sendRel_repr hf

theorem unacked_none_of_repr {sM : SendRel} {id : Nat}
    (h : RustSem.Map.find? (reprSR sM).unacked_messages id = none) : SMap.find? sM.unacked id = none := by
  simp only [reprSR, find_reprUM] at h
  cases hm : SMap.find? sM.unacked id with
  | none => rfl
  | some u => rw [hm] at h; cases h

theorem unacked_sliced_of_repr {sM : SendRel} {id : Nat} {m : GBytes} {n k nx : Nat} {a : List Bool} {ls : List (Option Nat)}
    (h : RustSem.Map.find? (reprSR sM).unacked_messages id = some (.Sliced m n k nx a ls)) :
    ∃ m0, m = toNats m0 ∧ SMap.find? sM.unacked id = some (.sliced m0 n k nx a ls) := by
  simp only [reprSR, find_reprUM] at h
  cases hm : SMap.find? sM.unacked id with
  | none => rw [hm] at h; cases h
  | some u =>
    rw [hm] at h
    cases u with
    | small m0 l => simp [reprU] at h
    | sliced m0 n' k' nx' a' ls' =>
      simp only [Option.map_some, reprU, Option.some.injEq,
        Src.renet.channel.reliable.UnackedMessage.Sliced.injEq] at h
      obtain ⟨rfl, rfl, rfl, rfl, rfl, rfl⟩ := h
      exact ⟨m0, rfl, rfl⟩

theorem runInRangeFrom_prefix : ∀ (ops1 ops2 : List SysOp) (s : Sys), RunInRangeFrom s (ops1 ++ ops2) → RunInRangeFrom s ops1 := by
  intro ops1
  induction ops1 with
  | nil => intro _ _ _; trivial
  | cons op ops ih =>
    intro ops2 s h
    obtain ⟨h1, h2, h3, h4⟩ := h
    refine ⟨h1, h2, h3, ?_⟩
    cases hs : s.step op with
    | none => trivial
    | some s' => rw [hs] at h4; exact ih ops2 s' h4

theorem runInRange_prefix (cfg : Cfg) (ops1 ops2 : List SysOp) (h : RunInRange cfg (ops1 ++ ops2)) : RunInRange cfg ops1 :=
  ⟨h.1, runInRangeFrom_prefix ops1 ops2 _ h.2⟩

/-! ## extending a run: transfer of liveness conclusions -/

theorem is_disconnected_of_repr (mrs : Nat → Nat) (c : Conn) (h : c.isDisconnected = false) :
    (RenetClient.is_disconnected (reprConn mrs c) : Res Empty Bool) = .ok false := by
  rw [SrcTie.conn_is_disconnected, h]

theorem model_live_of_repr {mrs : Nat → Nat} {c : Conn}
    (h : (RenetClient.is_disconnected (reprConn mrs c) : Res Empty Bool) = .ok false) : c.isDisconnected = false := by
  rw [SrcTie.conn_is_disconnected] at h
  exact (Res.ok.inj h)

theorem model_live_of_sim {s : Sys} {g : GSys} (sim : SimSys s g)
    (ha : (RenetClient.is_disconnected g.a : Res Empty Bool) = .ok false)
    (hb : (RenetClient.is_disconnected g.b : Res Empty Bool) = .ok false) :
    s.a.isDisconnected = false ∧ s.b.isDisconnected = false := by
  obtain ⟨mrsA, hA⟩ := sim.a
  obtain ⟨mrsB, hB⟩ := sim.b
  rw [hA] at ha
  rw [hB] at hb
  exact ⟨model_live_of_repr ha, model_live_of_repr hb⟩

theorem sim_of_runs (cfg : Cfg) (ops ext : List SysOp) (s : Sys) (g : GSys) (hs : (Sys.init cfg).run ops = some s)
    (hg : GSys.exec cfg ops = some g) (hrg : RunInRange cfg (ops ++ ext)) : SimSys s g := by
  obtain ⟨g', e', sims⟩ := run_sim cfg ops s (runInRange_prefix cfg ops ext hrg) hs
  rw [hg] at e'
  cases e'
  exact sims

theorem ext_sim (cfg : Cfg) (ops ext : List SysOp) (s u : Sys) (g : GSys) (hs : (Sys.init cfg).run ops = some s)
    (hg : GSys.exec cfg ops = some g) (hu : s.run ext = some u) (hrg : RunInRange cfg (ops ++ ext))
    (hda : u.a.isDisconnected = false) (hdb : u.b.isDisconnected = false) :
    ∃ gu, GSys.exec cfg (ops ++ ext) = some gu ∧
      (RenetClient.is_disconnected gu.a : Res Empty Bool) = .ok false ∧
      (RenetClient.is_disconnected gu.b : Res Empty Bool) = .ok false ∧ SimSys s g ∧ SimSys u gu := by
  have hrun : (Sys.init cfg).run (ops ++ ext) = some u := by
    rw [Sys.run_append, hs]
    exact hu
  obtain ⟨gu, e, simu⟩ := run_sim cfg _ u hrg hrun
  obtain ⟨mrsA, hA⟩ := simu.a
  obtain ⟨mrsB, hB⟩ := simu.b
  refine ⟨gu, e, ?_, ?_, sim_of_runs cfg ops ext s g hs hg hrg, simu⟩
  · rw [hA]
    exact is_disconnected_of_repr _ _ hda
  · rw [hB]
    exact is_disconnected_of_repr _ _ hdb

/-- **transfer of a delivery conclusion** (ordered form): what the model theorem concludes about the continuation `ext`
    holds of the generated execution -/
theorem live_transfer (cfg : Cfg) (ops ext : List SysOp) (s : Sys) (g : GSys) (hs : (Sys.init cfg).run ops = some s)
    (hg : GSys.exec cfg ops = some g) (hrg : RunInRange cfg (ops ++ ext)) (ch : Nat)
    (hm : ∃ u, s.run ext = some u ∧ u.a.isDisconnected = false ∧ u.b.isDisconnected = false ∧
      u.submitted ch = s.submitted ch ∧ u.obtained ch = s.submitted ch) :
    ∃ u, GSys.exec cfg (ops ++ ext) = some u ∧
      (RenetClient.is_disconnected u.a : Res Empty Bool) = .ok false ∧
      (RenetClient.is_disconnected u.b : Res Empty Bool) = .ok false ∧
      u.submitted ch = g.submitted ch ∧ u.obtained ch = g.submitted ch := by
  obtain ⟨u, hu, hda, hdb, e1, e2⟩ := hm
  obtain ⟨gu, e, la, lb, sims, simu⟩ := ext_sim cfg ops ext s u g hs hg hu hrg hda hdb
  refine ⟨gu, e, la, lb, ?_, ?_⟩
  · rw [simu.submitted, sims.submitted, e1]
  · rw [simu.obtained, sims.submitted, e2]

theorem live_transfer_perm (cfg : Cfg) (ops ext : List SysOp) (s : Sys) (g : GSys) (hs : (Sys.init cfg).run ops = some s)
    (hg : GSys.exec cfg ops = some g) (hrg : RunInRange cfg (ops ++ ext)) (ch : Nat)
    (hm : ∃ u, s.run ext = some u ∧ u.a.isDisconnected = false ∧ u.b.isDisconnected = false ∧
      u.submitted ch = s.submitted ch ∧ (u.obtained ch).Perm (s.submitted ch)) :
    ∃ u, GSys.exec cfg (ops ++ ext) = some u ∧
      (RenetClient.is_disconnected u.a : Res Empty Bool) = .ok false ∧
      (RenetClient.is_disconnected u.b : Res Empty Bool) = .ok false ∧
      u.submitted ch = g.submitted ch ∧ (u.obtained ch).Perm (g.submitted ch) := by
  obtain ⟨u, hu, hda, hdb, e1, e2⟩ := hm
  obtain ⟨gu, e, la, lb, sims, simu⟩ := ext_sim cfg ops ext s u g hs hg hu hrg hda hdb
  refine ⟨gu, e, la, lb, ?_, ?_⟩
  · rw [simu.submitted, sims.submitted, e1]
  · rw [simu.obtained, sims.submitted]
    exact e2.map toNats

end RenetVerif.SrcSystem
