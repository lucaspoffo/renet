/-
  The model socket `RustSem.UdpSocket` against the datagram lists of `Transport/Glue.lean`, and the loop-combinator steps
  shared by the two transport groups (TrServer, TrClient).  Nothing here depends on a generated transport definition.
-/
import RenetVerif.Transport.Glue
import RenetVerif.Lemmas.SrcEquiv.NcServerRecv
namespace RenetVerif.SrcEquiv
open RenetVerif RenetVerif.RustSem RenetVerif.Netcode RenetVerif.Transport

/-- the outbox log of the model socket: the datagrams the glue model sends, in order -/
def outR (out : Array Dgram) : List (RustSem.SocketAddr × List Nat) := out.toList.map (fun d => (reprAddr d.1, toNats d.2))
/-- the model socket: the queued datagrams as its script (no socket errors), the datagrams sent so far as its log -/
def sockR (inbox : List Dgram) (out : Array Dgram) : RustSem.UdpSocket :=
  ⟨inbox.map (fun d => RustSem.RecvEvent.dgram (reprAddr d.1) (toNats d.2)), outR out⟩

theorem outR_push (out : Array Dgram) (addr : Addr) (p : Bytes) : outR (out.push (addr, p)) = outR out ++ [(reprAddr addr, toNats p)] := by
  simp [outR]

theorem send_to_eq (inbox : List Dgram) (out : Array Dgram) (addr : Addr) (p : Bytes) :
    RustSem.UdpSocket.send_to (sockR inbox out) (toNats p) (reprAddr addr) = .ok (sockR inbox (out.push (addr, p)), p.length) := by
  simp [RustSem.UdpSocket.send_to, sockR, outR_push, toNats_length]

theorem take_take_length {α : Type} (n : Nat) (l : List α) : l.take (l.take n).length = l.take n := by
  rw [List.length_take, List.take_eq_take_iff, Nat.min_assoc, Nat.min_self]

theorem whileFuel_step {ε ρ σ : Type} (n : Nat) (site : String) (st : σ) (body : σ → Exec ε (LoopExit ρ σ) σ) :
    RustSem.whileFuel (n + 1) site st body =
      match body st with
      | .val st' => RustSem.whileFuel n site st' body
      | .ret (.cont st') => RustSem.whileFuel n site st' body
      | .ret (.brk st') => .val st'
      | .ret (.ret r) => .ret r
      | .err e => .err e
      | .panic s => .panic s := rfl

theorem recv_from_dgram (addr : Addr) (b : Bytes) (rest : List Dgram) (out : Array Dgram) (buf : List Nat) :
    RustSem.UdpSocket.recv_from (sockR ((addr, b) :: rest) out) buf
      = .ok (sockR rest out, toNats (b.take buf.length) ++ buf.drop (toNats (b.take buf.length)).length,
          ((toNats (b.take buf.length)).length, reprAddr addr)) := by
  have hn : min (toNats b).length buf.length = (toNats (b.take buf.length)).length := by
    rw [toNats_length, toNats_length, List.length_take, Nat.min_comm]
  simp only [RustSem.UdpSocket.recv_from, sockR, List.map_cons]
  rw [hn, toNats_take, take_take_length]

theorem recv_from_empty (out : Array Dgram) (buf : List Nat) :
    RustSem.UdpSocket.recv_from (sockR [] out) buf = .err (.wouldBlock, (sockR [] out, buf)) := rfl

theorem slice_prefix {ε ρ : Type} (x y : List Nat) (site : String) :
    (RustSem.slice (x ++ y) 0 x.length site : Exec ε ρ _) = .val x := by
  rw [slice_val ⟨Nat.zero_le _, List.length_append ▸ Nat.le_add_right _ _⟩, List.take_left, List.drop_zero]

theorem splice_prefix {ε ρ : Type} (x y v : List Nat) (site : String) :
    (RustSem.splice (x ++ y) 0 x.length v site : Exec ε ρ _) = .val (v ++ y) := by
  have hc : 0 ≤ x.length ∧ x.length ≤ (x ++ y).length := ⟨Nat.zero_le _, List.length_append ▸ Nat.le_add_right _ _⟩
  rw [RustSem.splice, if_pos hc, List.take_zero, List.nil_append, List.drop_left]

theorem pending_sockR {ε : Type} (inbox : List Dgram) (out : Array Dgram) :
    (RustSem.UdpSocket.pending (sockR inbox out) : Res ε Nat) = .ok inbox.length := by
  simp [RustSem.UdpSocket.pending, sockR]

theorem forEachExit_cons {ε ρ σ α : Type} (x : α) (r : List α) (init : σ) (body : α → σ → Exec ε (LoopExit ρ σ) σ) :
    RustSem.forEachExit (x :: r) init body =
      match body x init with
      | .val st' => RustSem.forEachExit r st' body
      | .ret (.cont st') => RustSem.forEachExit r st' body
      | .ret (.brk st') => .val st'
      | .ret (.ret r') => .ret r'
      | .err e => .err e
      | .panic s => .panic s := rfl

end RenetVerif.SrcEquiv
