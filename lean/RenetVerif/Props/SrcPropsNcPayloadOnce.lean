/-
  C04 over WHOLE RUNS OF THE GENERATED SERVER (`Generated/Src/NcServer*.lean`, translated from `renetcode/src/server.rs`):
  "within one session each payload is surfaced at most once, and only if its datagram opened under the session's key".

  Same conventions as `Props/SrcPropsNcHistory.lean`: a generated run in the hypothesis — `GNc.exec a c ops = some g` (generated
  `NetcodeServer::new`, then the generated `process_packet` / `update` / `update_client` / `disconnect` / `set_max_clients` /
  `generate_payload_packet` with ARBITRARY arguments, in range `OpsInRange`) — and the conclusion read off the generated
  results log `g.results` (one entry per operation, in order: `ops.zip g.results` is the generated trace).  Proved by
  transporting `Props/C04H.lean` (model traces `NS.ReachT`) along `run_sim_conv`.

  `gSessPayloads id (ops.zip g.results)`: the (datagram, surfaced bytes) pairs of the generated `Payload id ..` results since
  the last generated `ClientConnected id ..` result — the current session of `id`.
-/
import RenetVerif.Props.SrcPropsNcHistory
import RenetVerif.Props.C04H
namespace RenetVerif.SrcPropsNcPayloadOnce
open RenetVerif RenetVerif.SrcEquiv RenetVerif.RustSem RenetVerif.Netcode RenetVerif.Netcode.NS RenetVerif.SrcNcSystem
open Src.renetcode.server

abbrev GTrace := List (Op × SServerResult)

/-- mirror of `NS.sessStep` over the generated `ServerResult` -/
def gSessStep (id : Nat) (L : List (Bytes × List Nat)) : Op × SServerResult → List (Bytes × List Nat)
  | (_, .ClientConnected id' _ _ _) => if id' = id then [] else L
  | (.packet _ buf, .Payload id' p) => if id' = id then (buf, p) :: L else L
  | _ => L

def gSessPayloads (id : Nat) (tr : GTrace) : List (Bytes × List Nat) := tr.foldl (gSessStep id) []

/-- their sequence numbers, `2^64-1` excluded -/
def gSeqsOf (L : List (Bytes × List Nat)) : List Nat :=
  (L.map fun bp => Packet.wireSeq bp.1).filter fun x => decide (x ≠ 2 ^ 64 - 1)

def reprEntry (x : Op × Netcode.ServerResult) : Op × SServerResult := (x.1, reprNSR x.2)
def reprPair (bp : Bytes × Bytes) : Bytes × List Nat := (bp.1, toNats bp.2)

theorem gSessStep_repr (id : Nat) (L : List (Bytes × Bytes)) (x : Op × Netcode.ServerResult) :
    gSessStep id (L.map reprPair) (reprEntry x) = (sessStep id L x).map reprPair := by
  obtain ⟨op, r⟩ := x
  cases r with
  | clientConnected id' ad ud o =>
    rw [sessStep_connected]
    simp only [reprEntry, reprNSR, gSessStep]
    split <;> rfl
  | payload id' p =>
    cases op with
    | packet ad buf =>
      rw [sessStep_payload]
      simp only [reprEntry, reprNSR, gSessStep]
      split <;> rfl
    | _ => rfl
  | none => cases op <;> rfl
  | packetToSend ad out => cases op <;> rfl
  | clientDisconnected id' ad o => cases op <;> rfl

theorem gSessPayloads_repr (id : Nat) (tr : Trace) :
    gSessPayloads id (tr.map reprEntry) = (sessPayloads id tr).map reprPair := by
  unfold gSessPayloads sessPayloads
  have : ∀ (t : Trace) (L : List (Bytes × Bytes)),
      (t.map reprEntry).foldl (gSessStep id) (L.map reprPair) = (t.foldl (sessStep id) L).map reprPair := by
    intro t
    induction t with
    | nil => intro L; rfl
    | cons x rest ih => intro L; rw [List.map_cons, List.foldl_cons, List.foldl_cons, gSessStep_repr, ih]
  exact this tr []

theorem gSeqsOf_repr (L : List (Bytes × Bytes)) : gSeqsOf (L.map reprPair) = seqsOf L := by
  simp [gSeqsOf, seqsOf, reprPair, Function.comp_def]

theorem zip_repr : ∀ (t : Trace), (t.map (·.1)).zip ((t.map (·.2)).map reprNSR) = t.map reprEntry
  | [] => rfl
  | x :: r => by simp only [List.map_cons, List.zip_cons_cons, zip_repr r]; rfl

theorem mrun_trace {a : AEAD} : ∀ (ops : List Op) {m m' : MNc} {tr : Trace}, ReachT a m.srv tr →
    m.results = tr.map (·.2) → m.run a ops = some m' →
    ∃ t, ReachT a m'.srv (tr ++ t) ∧ m'.results = (tr ++ t).map (·.2) ∧ t.map (·.1) = ops := by
  intro ops
  induction ops with
  | nil => intro m m' tr hr hres h; cases h; exact ⟨[], by simpa using hr, by simpa using hres, rfl⟩
  | cons op ops ih =>
    intro m m' tr hr hres h
    simp only [MNc.run] at h
    cases hs : m.step a op with
    | none => rw [hs] at h; cases h
    | some m1 =>
      rw [hs] at h
      obtain ⟨r, hstep, hres1, -⟩ := mstep_inv hs
      obtain ⟨t, h1, h2, h3⟩ := ih (tr := tr ++ [(op, r)]) (ReachT.step hr hstep) (by rw [hres1, hres]; simp) h
      refine ⟨(op, r) :: t, by simpa using h1, by simpa using h2, by simp [h3]⟩

/-- **the simulation, packaged with the trace**: behind a generated execution there is a model run `NS.ReachT` whose final
    state the generated struct represents and whose trace is, entry by entry, the generated trace `ops.zip g.results` -/
theorem gexec_trace {a : AEAD} (hl : a.Laws) {c : NcCfg} {ops : List Op} {g : GNc} (hr : OpsInRange ops)
    (hg : GNc.exec a c ops = some g) :
    ∃ tr s, ReachT a s tr ∧ (∃ out, out.length = Netcode.C.NETCODE_MAX_PACKET_BYTES ∧ g.srv = reprNS out s) ∧
      ops.zip g.results = tr.map reprEntry := by
  unfold GNc.exec at hg
  cases h0 : GNc.init c with
  | none => rw [h0] at hg; cases hg
  | some g0 =>
    rw [h0] at hg
    obtain ⟨s0, hs0, hsim0⟩ := SrcPropsNcHistory.ginit_model h0
    obtain ⟨m, hm, hsim⟩ := run_sim_conv_of a hl ops (new_inv hs0).1 hsim0 hr hg
    obtain ⟨t, h1, h2, h3⟩ := mrun_trace ops (C04H.reachT_new hs0) rfl hm
    rw [List.nil_append] at h1 h2
    refine ⟨t, m.srv, h1, hsim.srv, ?_⟩
    rw [hsim.results, h2, ← h3]
    exact zip_repr t

/-- **C04 at most once per session, after any generated run**: the sequence numbers (`2^64-1` excluded) of the datagrams for
    which the generated `process_packet` returned `Payload id ..` since the last generated `ClientConnected id ..` are pairwise
    distinct.  (Transports `C04H.session_payload_once`.) -/
theorem src_session_payload_once {a : AEAD} (hl : a.Laws) {c : NcCfg} {ops : List Op} {g : GNc} (hr : OpsInRange ops)
    (hg : GNc.exec a c ops = some g) (id : Nat) : (gSeqsOf (gSessPayloads id (ops.zip g.results))).Nodup := by
  obtain ⟨tr, s, hreach, -, htr⟩ := gexec_trace hl hr hg
  rw [htr, gSessPayloads_repr, gSeqsOf_repr]
  exact C04H.session_payload_once hreach id

/-- **C04 authentic, one key per session, after any generated run**: all payloads the generated code surfaced in the current
    session of `id` are the plaintexts of their datagrams under ONE key, nonce = the datagram's own sequence number,
    additional data = version ‖ the generated struct's protocol id ‖ the datagram's own prefix byte.
    (Transports `C04H.session_payloads_authentic`.) -/
theorem src_session_payloads_authentic {a : AEAD} (hl : a.Laws) {c : NcCfg} {ops : List Op} {g : GNc} (hr : OpsInRange ops)
    (hg : GNc.exec a c ops = some g) (id : Nat) :
    ∃ key, ∀ bp ∈ gSessPayloads id (ops.zip g.results), ∃ p0, bp.2 = toNats p0 ∧
      Packet.SealedOpen a bp.1 g.srv.protocol_id key .payload p0 := by
  obtain ⟨tr, s, hreach, ⟨out, ho, hs⟩, htr⟩ := gexec_trace hl hr hg
  obtain ⟨key, hkey⟩ := C04H.session_payloads_authentic hreach id
  refine ⟨key, fun bp hbp => ?_⟩
  rw [htr, gSessPayloads_repr] at hbp
  obtain ⟨bp0, hbp0, rfl⟩ := List.mem_map.mp hbp
  rw [hs]
  exact ⟨bp0.2, rfl, hkey bp0 hbp0⟩

/-- **C04 at most once per session, any two positions of any generated run**: if the generated `process_packet` returned
    `Payload id ..` for the datagram `bj` and later for `bk`, with no generated `ClientConnected id ..` result between the two
    (same session), then `bj` and `bk` carry different sequence numbers (unless it is `2^64-1`) — a replayed datagram, or any
    modification of it that keeps the sequence bytes, yields no second `Payload` — and both opened under one and the same key
    to exactly the surfaced bytes.  (Transports `C04H.payload_once_per_session`.) -/
theorem src_payload_once_per_session {a : AEAD} (hl : a.Laws) {c : NcCfg} {ops : List Op} {g : GNc} (hr : OpsInRange ops)
    (hg : GNc.exec a c ops = some g) {pre mid post : GTrace} {id : Nat} {adj adk : Addr} {bj bk : Bytes} {pj pk : List Nat}
    (he : ops.zip g.results = pre ++ (.packet adj bj, .Payload id pj) :: (mid ++ (.packet adk bk, .Payload id pk) :: post))
    (hmid : ∀ x ∈ mid, ∀ ad ud o, x.2 ≠ .ClientConnected id ad ud o) :
    (Packet.wireSeq bj ≠ 2 ^ 64 - 1 → Packet.wireSeq bk ≠ Packet.wireSeq bj) ∧
    ∃ key pj0 pk0, pj = toNats pj0 ∧ pk = toNats pk0 ∧
      Packet.SealedOpen a bj g.srv.protocol_id key .payload pj0 ∧ Packet.SealedOpen a bk g.srv.protocol_id key .payload pk0 := by
  obtain ⟨tr, s, hreach, ⟨out, ho, hs⟩, htr⟩ := gexec_trace hl hr hg
  rw [htr] at he
  obtain ⟨pre', ⟨opj, rj⟩, mid', ⟨opk, rk⟩, post', hsplit, -, hee, rfl, hee', -⟩ := SrcPropsNcHistory.map_eq_split2 he
  simp only [reprEntry, Prod.mk.injEq] at hee hee'
  obtain ⟨rfl, hrj⟩ := hee
  obtain ⟨rfl, hrk⟩ := hee'
  obtain ⟨pj0, rfl, rfl⟩ := SrcCorNc.reprNSR_payload hrj
  obtain ⟨pk0, rfl, rfl⟩ := SrcCorNc.reprNSR_payload hrk
  have hmidM : ∀ x ∈ mid', ∀ ad ud o, x.2 ≠ Netcode.ServerResult.clientConnected id ad ud o := by
    intro x hx ad ud o hxe
    refine hmid (reprEntry x) (List.mem_map.mpr ⟨x, hx, rfl⟩) (reprAddr ad) (toNats ud) (toNats o) ?_
    simp only [reprEntry, hxe, reprNSR]
  have := C04H.payload_once_per_session hreach hsplit hmidM
  refine ⟨this.1, ?_⟩
  obtain ⟨key, h1, h2⟩ := this.2
  rw [hs]
  exact ⟨key, pj0, pk0, rfl, rfl, h1, h2⟩

/-! ## non-vacuity: the generated run of `SrcPropsNcHistory.ex_run`, extended

  generated `NetcodeServer::new`, A's request, a hostile datagram, A's response (→ `ClientConnected 11`), the payload datagram
  (sequence 2), ITS REPLAY, a payload to A, a clock step, `update_client 11`, a hostile datagram from A, then a second genuine
  payload datagram (sequence 3) and a modified copy of the first (same sequence byte, other content).  The generated code is
  evaluated by the kernel. -/
section Examples
open Ex SrcPropsNcHistory

theorem exOps_inRange : OpsInRange exOps := SrcPropsNcHistory.ex_all.2.2.2.2.1.2

set_option maxRecDepth 100000 in
/-- **the generated run** (evaluated in `SrcPropsNcHistory.ex_all`): the complete results log -/
theorem ex_results : (GNc.exec Ex.a exCfg exOps).map (·.results) = some (exResults.map reprNSR) :=
  SrcPropsNcHistory.ex_all.2.2.2.2.1.1

set_option maxRecDepth 100000 in
theorem ex_run : (GNc.exec Ex.a exCfg exOps).map (fun g => (g.results.map shape, gSessPayloads 11 (exOps.zip g.results))) =
    some ([("PacketToSend", 333), ("None", 0), ("ClientConnected", 11), ("Payload", 11003), ("None", 0), ("PacketToSend", 20),
      ("None", 0), ("PacketToSend", 26), ("None", 0), ("Payload", 11002), ("None", 0)],
      [(C04H.pay3, [4, 5]), (payFromA, [1, 2, 3])]) := by
  have h := ex_results
  cases hg : GNc.exec Ex.a exCfg exOps with
  | none => rw [hg] at h; cases h
  | some g =>
    rw [hg] at h
    simp only [Option.map_some, Option.some.injEq] at h ⊢
    rw [h]
    decide +kernel

/-- `src_session_payload_once` / `src_session_payloads_authentic` instantiated on it: two payloads in the session, sequence
    numbers 3 and 2 -/
example : ∃ g, GNc.exec Ex.a exCfg exOps = some g ∧ gSeqsOf (gSessPayloads 11 (exOps.zip g.results)) = [3, 2] ∧
    (gSeqsOf (gSessPayloads 11 (exOps.zip g.results))).Nodup ∧
    ∃ key, ∀ bp ∈ gSessPayloads 11 (exOps.zip g.results), ∃ p0, bp.2 = toNats p0 ∧
      Packet.SealedOpen Ex.a bp.1 g.srv.protocol_id key .payload p0 := by
  have h := ex_run
  cases hg : GNc.exec Ex.a exCfg exOps with
  | none => rw [hg] at h; cases h
  | some g =>
    rw [hg] at h
    simp only [Option.map_some, Option.some.injEq, Prod.mk.injEq] at h
    exact ⟨g, rfl, by rw [h.2]; decide +kernel, src_session_payload_once Netcode.NS.Ex.laws_a exOps_inRange hg 11,
      src_session_payloads_authentic Netcode.NS.Ex.laws_a exOps_inRange hg 11⟩

/-- `src_payload_once_per_session` instantiated: positions 3 (`payFromA`, sequence 2) and 9 (`pay3`, sequence 3) of the
    generated trace, no `ClientConnected 11` between them -/
example : Packet.wireSeq C04H.pay3 ≠ Packet.wireSeq payFromA := by
  have h := ex_results
  cases hg : GNc.exec Ex.a exCfg exOps with
  | none => rw [hg] at h; cases h
  | some g =>
    rw [hg] at h
    simp only [Option.map_some, Option.some.injEq] at h
    refine (src_payload_once_per_session Netcode.NS.Ex.laws_a exOps_inRange hg
      (pre := [(.packet addrA reqA, reprNSR (.packetToSend addrA chalA)), (.packet addrB SrcPropsNcHistory.hostile, .None),
        (.packet addrA respA, reprNSR (.clientConnected 11 addrA udA kaA))])
      (mid := [(.packet addrA payFromA, .None),
        (.sendPayload 11 [9, 9], reprNSR (.packetToSend addrA (21 :: 1 :: ([9, 9] ++ List.replicate 16 0)))),
        (.update 1000000000, .None),
        (.updateClient 11, reprNSR (.packetToSend addrA (20 :: 2 :: (Netcode.leBytes 0 4 ++ Netcode.leBytes 2 4 ++ List.replicate 16 0)))),
        (.packet addrA SrcPropsNcHistory.hostile, .None)])
      (post := [(.packet addrA C04H.pay2', .None)]) (id := 11) (pj := [1, 2, 3]) (pk := [4, 5]) (by rw [h]; rfl) ?_).1
      (by decide +kernel)
    intro x hx ad ud o
    simp only [List.mem_cons, List.mem_nil_iff, or_false] at hx
    rcases hx with rfl | rfl | rfl | rfl | rfl <;> simp [reprNSR]

end Examples

end RenetVerif.SrcPropsNcPayloadOnce
