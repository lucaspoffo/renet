/-
  C08 ON API TRACES OF THE GENERATED `RenetClient`, ENTIRELY IN TERMS OF BYTES THE GENERATED CODE EMITTED AND READ.

  `GConn` (`Lemmas/SrcEquiv/SrcConnSystem.lean`): one generated `RenetClient` from the generated `from_channels`, driven by ANY
  list of public operations `COp` (`process` with ARBITRARY bytes); `g.flushes` logs what every generated
  `get_packets_to_send` of the run RETURNED, in order.  `GDecodes b gp`: the generated `Packet::from_bytes` on a fresh cursor
  over `b` returns `gp`.  `GSerialises gp b`: the generated `Packet::to_bytes` of `gp` writes exactly `b`.

    * `src_recorded_packet_was_emitted`   every record `ps` under `seq` in the generated `sent_packets` (any reachable state) has a
                                          datagram `b` in the flush log which the GENERATED `from_bytes` reads back as a packet
                                          `gp` (the one the generated `to_bytes` wrote `b` for) with generated
                                          `Packet::sequence = seq`, and `ps.info` is what `get_packets_to_send` records for `gp`
                                          (`gRecordOf gp`: channel + the ids of the messages of a `SmallReliable`, channel /
                                          message id / slice index of a `ReliableSlice`, …).
    * `src_release_needs_emitted_and_acked`   one step of ANY kind: if message `id` leaves `unacked_messages`, the step is a
                                          `process_packet` whose bytes the generated decoder reads as an `Ack` packet, one of whose
                                          ranges covers a sequence number `seq`, and EARLIER a flush of the run returned a datagram
                                          that the generated decoder reads as a packet with sequence `seq` carrying message `id` of
                                          channel `ch` (`GCarriesMsg`).
    * `src_slice_mark_needs_emitted_and_acked`   the same for one slice: slice `i` of message `id` stops being pending only by an
                                          Ack covering the sequence of an emitted datagram that decodes to a `ReliableSlice` packet
                                          with exactly that message id and slice index (`GCarriesSlice`).
    * `src_flush_log_origin`, `src_release_end_to_end`   the flush log entry is the return value of the generated
                                          `get_packets_to_send` at a definite position of the trace; the end-to-end statement with
                                          that position made explicit: `… flush … process(Ack) …`.
    * `src_release_trace_emitted`         whole traces (the end-to-end statement): a message stored after `ops` and gone after
                                          `ops ++ ext` — `ext = ext1 ++ process bytes :: ext2`, `bytes` decode to an Ack covering
                                          `seq`, and the flush log of the run `ops ++ ext1` (so: before that `process_packet`)
                                          contains a datagram decoding to a packet with sequence `seq` that carries the message.

  Side conditions: `CRunInRange` (range condition of the source tie), `ChanBytes cfg` (configured send channel ids are bytes, `u8`
  in the Rust source) and `MsgLenOK ops` (every submitted message is at most `MAX_NUM_SLICES * SLICE_SIZE` bytes; needed —
  `SrcPropsConnTraceWF.oversized_message_rejected`: the decoder REJECTS what a longer message is turned into).

  Proofs: `Lemmas/SrcEquiv/SrcConnC08b.lean` (`SrcConnC08.SentEmitted WFits`: `Packet.WF` carried, its flush case
  by `FlushWF.flush_step_wf`) + `SrcPropsConnTraceWF.emitted_of` (C16 round trip through the ties) + the theorems of
  `SrcPropsConnTraceC08`.
-/
import RenetVerif.Lemmas.SrcEquiv.SrcConnC08b
import RenetVerif.Props.SrcPropsConnTraceWF
set_option maxRecDepth 100000
set_option linter.unusedVariables false
set_option linter.unusedSimpArgs false
namespace RenetVerif.SrcPropsConnTraceC08b
open RenetVerif RenetVerif.RustSem RenetVerif.C RenetVerif.System RenetVerif.SrcEquiv RenetVerif.SrcSystem RenetVerif.SrcConnSystem
open RenetVerif.SrcConnC08 RenetVerif.SrcConnC08b RenetVerif.SrcConnC15 RenetVerif.SI RenetVerif.FlushWF
open RenetVerif.SrcPropsConnTraceC08 RenetVerif.SrcPropsConnTraceWF
open Src.renet.remote_connection

/-- a datagram of the flush log of `g` is a packet `gp` with sequence number `seq` -/
def GEmitted (g : GConn) (seq : Nat) (gp : GPacket) : Prop :=
  ∃ bs ∈ g.flushes, ∃ b ∈ bs, GSerialises gp b ∧ GDecodes b gp ∧
    (Src.renet.packet.Packet.sequence gp : Res Empty Nat) = .ok seq

theorem gcarriesMsg_of_record {gp : GPacket} {info : PacketSentInfo} {ch id : Nat} (h : gRecordOf gp = some info)
    (hc : GCarried ch id info) : GCarriesMsg ch id gp := by
  cases gp with
  | SmallReliable s c m =>
    simp only [gRecordOf, Option.some.injEq] at h; subst h
    rcases hc with ⟨ids, e, hid⟩ | ⟨idx, e⟩
    · simp only [PacketSentInfo.ReliableMessages.injEq] at e
      obtain ⟨rfl, rfl⟩ := e
      obtain ⟨x, hx, rfl⟩ := List.mem_map.mp hid
      exact ⟨rfl, x, hx, rfl⟩
    · cases e
  | ReliableSlice s c sl =>
    simp only [gRecordOf, Option.some.injEq] at h; subst h
    rcases hc with ⟨ids, e, hid⟩ | ⟨idx, e⟩
    · cases e
    · simp only [PacketSentInfo.ReliableSliceMessage.injEq] at e
      exact ⟨e.1, e.2.1⟩
  | SmallUnreliable s c m =>
    simp only [gRecordOf, Option.some.injEq] at h; subst h
    rcases hc with ⟨ids, e, hid⟩ | ⟨idx, e⟩ <;> cases e
  | UnreliableSlice s c sl =>
    simp only [gRecordOf, Option.some.injEq] at h; subst h
    rcases hc with ⟨ids, e, hid⟩ | ⟨idx, e⟩ <;> cases e
  | Ack s r =>
    simp only [gRecordOf] at h
    cases hl : r.getLast? with
    | none => rw [hl] at h; cases h
    | some x =>
      rw [hl] at h; simp only [Option.map_some, Option.some.injEq] at h; subst h
      rcases hc with ⟨ids, e, hid⟩ | ⟨idx, e⟩ <;> cases e

theorem gcarriesSlice_of_record {gp : GPacket} {ch id i : Nat}
    (h : gRecordOf gp = some (.ReliableSliceMessage ch id i)) : GCarriesSlice ch id i gp := by
  cases gp with
  | SmallReliable s c m => simp only [gRecordOf, Option.some.injEq] at h; cases h
  | ReliableSlice s c sl =>
    simp only [gRecordOf, Option.some.injEq, PacketSentInfo.ReliableSliceMessage.injEq] at h
    exact h
  | SmallUnreliable s c m => simp only [gRecordOf, Option.some.injEq] at h; cases h
  | UnreliableSlice s c sl => simp only [gRecordOf, Option.some.injEq] at h; cases h
  | Ack s r =>
    simp only [gRecordOf] at h
    cases hl : r.getLast? with
    | none => rw [hl] at h; cases h
    | some x => rw [hl] at h; simp only [Option.map_some, Option.some.injEq] at h; cases h

theorem msgLenOK_prefix {ops ext : List COp} (h : MsgLenOK (ops ++ ext)) : MsgLenOK ops :=
  fun o ho => h o (List.mem_append_left _ ho)

/-- **Every entry of the generated `sent_packets` is a datagram that a generated `get_packets_to_send` of the run returned, and
    the generated decoder reads that datagram back as the recorded packet** (full strength of
    `SrcPropsConnTraceC08.src_recorded_packet_was_emitted_partial`).  In the generated state after ANY run (send channel ids bytes,
    in range, submitted messages within the wire limit), a record `ps` under `seq` comes with a datagram `b` of the flush log and
    a generated packet `gp` such that: the generated `to_bytes` writes `b` for `gp`, the generated `from_bytes` reads `gp` from
    `b`, the generated `Packet::sequence` of `gp` is `seq`, and `ps.info` is exactly what `get_packets_to_send` records for `gp`
    (`gRecordOf`): `ReliableMessages ch (ids of the messages in gp)` for `SmallReliable`, `ReliableSliceMessage ch
    slice.message_id slice.slice_index` for `ReliableSlice`, `None` for the unreliable kinds, `Ack (last range end - 1)` for an
    Ack packet. -/
theorem src_recorded_packet_was_emitted (cfg : Cfg) (ops : List COp) (g : GConn) (hg : GConn.exec cfg ops = some g)
    (hrg : CRunInRange cfg ops) (hcb : ChanBytes cfg) (hl : MsgLenOK ops)
    (seq : Nat) (ps : PacketSent) (hf : RustSem.Map.find? g.cl.sent_packets seq = some ps) :
    ∃ gp : GPacket, GEmitted g seq gp ∧ gRecordOf gp = some ps.info := by
  obtain ⟨t, ht, sim, -⟩ := behind cfg ops g hrg hg
  obtain ⟨⟨tm, info⟩, hm, rfl⟩ := map_eq_some' ((sim.sent seq).symm.trans hf)
  obtain ⟨bs, hbs, b, hb, p, henc, ⟨hlen, hwf⟩, hseq, hinfo⟩ := sentEmittedWF_trace cfg ops t hcb hrg.2 hl ht seq tm info hm
  obtain ⟨e1, e2⟩ := emitted_of hwf henc hlen
  refine ⟨reprPacket p, ⟨bs.map toNats, ?_, toNats b, List.mem_map_of_mem hb, e1, e2, ?_⟩, gRecordOf_repr hinfo⟩
  · rw [sim.flushes]; exact List.mem_map_of_mem hbs
  · rw [packet_sequence_eq, hseq]

/-- the justification of `src_release_only_by_ack`, with the recorded packet replaced by the emitted datagram -/
theorem emitted_of_ackNames (cfg : Cfg) (ops : List COp) (g : GConn) (hg : GConn.exec cfg ops = some g)
    (hrg : CRunInRange cfg ops) (hcb : ChanBytes cfg) (hl : MsgLenOK ops) (bytes : Bytes) (P : PacketSentInfo → Prop)
    (h : GAckNames g.cl bytes P) :
    ∃ aseq ranges seq gp, GDecodes (toNats bytes) (.Ack aseq ranges) ∧ (∃ r ∈ ranges, r.start ≤ seq ∧ seq < r.«end») ∧
      GEmitted g seq gp ∧ ∃ info, gRecordOf gp = some info ∧ P info := by
  obtain ⟨aseq, ranges, seq, ps, hdec, hr, hfind, hP⟩ := h
  obtain ⟨gp, hem, hrec⟩ := src_recorded_packet_was_emitted cfg ops g hg hrg hcb hl seq ps hfind
  exact ⟨aseq, ranges, seq, gp, hdec, hr, hem, ps.info, hrec, hP⟩

/-- **C08, one step of ANY kind, in terms of emitted and received bytes only.**  `g` is the generated state after ANY run `ops`,
    `g'` the state after one more operation `op` of any kind.  If message `id` is in the generated `unacked_messages` of the
    reliable send channel `ch` in `g` and not in `g'`, then `op = process bytes`; the GENERATED decoder reads `bytes` as an
    `Ack aseq ranges`; a range of it covers a sequence number `seq`; and the flush log of `g` — the datagrams returned by the
    `get_packets_to_send` calls of `ops`, i.e. EARLIER in the trace — contains a datagram that the generated `to_bytes` wrote for,
    and the generated `from_bytes` reads back as, a packet `gp` with `Packet::sequence = seq` which carries message `id` of
    channel `ch` (`GCarriesMsg`: a `SmallReliable` on `ch` listing `id`, or a `ReliableSlice` on `ch` of message `id`). -/
theorem src_release_needs_emitted_and_acked (cfg : Cfg) (ops : List COp) (op : COp) (g g' : GConn)
    (hg : GConn.exec cfg ops = some g) (hg' : GConn.exec cfg (ops ++ [op]) = some g')
    (hrg : CRunInRange cfg (ops ++ [op])) (hcb : ChanBytes cfg) (hl : MsgLenOK ops) (ch id : Nat) (s : GSendRel)
    (hs : RustSem.Map.find? g.cl.send_reliable_channels ch = some s)
    (hin : RustSem.Map.contains_key s.unacked_messages id = true)
    (hout : ∀ s', RustSem.Map.find? g'.cl.send_reliable_channels ch = some s' →
      RustSem.Map.contains_key s'.unacked_messages id = false) :
    ∃ bytes aseq ranges seq gp, op = .process bytes ∧ GDecodes (toNats bytes) (.Ack aseq ranges) ∧
      (∃ r ∈ ranges, r.start ≤ seq ∧ seq < r.«end») ∧ GEmitted g seq gp ∧ GCarriesMsg ch id gp := by
  obtain ⟨bytes, e, hG⟩ := src_release_only_by_ack cfg ops op g g' hg hg' hrg ch id s hs hin hout
  obtain ⟨aseq, ranges, seq, gp, h1, h2, h3, info, h4, h5⟩ :=
    emitted_of_ackNames cfg ops g hg (crunInRange_prefix cfg ops _ hrg) hcb hl bytes _ hG
  exact ⟨bytes, aseq, ranges, seq, gp, e, h1, h2, h3, gcarriesMsg_of_record h4 h5⟩

/-- **Each slice is marked only by an Ack covering an emitted datagram that carried exactly that slice** (one step of ANY
    kind).  If slice `i` of message `id` is stored-and-unmarked in `g` (`GPending`) and no longer in `g'`, then `op` is a
    `process_packet` of bytes the generated decoder reads as an Ack covering a `seq` such that the flush log of `g` contains a
    datagram which the generated decoder reads as a `ReliableSlice` packet of channel `ch` with sequence `seq`, message id `id`
    and slice index `i` (`GCarriesSlice`). -/
theorem src_slice_mark_needs_emitted_and_acked (cfg : Cfg) (ops : List COp) (op : COp) (g g' : GConn)
    (hg : GConn.exec cfg ops = some g) (hg' : GConn.exec cfg (ops ++ [op]) = some g')
    (hrg : CRunInRange cfg (ops ++ [op])) (hcb : ChanBytes cfg) (hl : MsgLenOK ops) (ch id i : Nat) (s : GSendRel)
    (hs : RustSem.Map.find? g.cl.send_reliable_channels ch = some s)
    (hpend : GPending s id i)
    (hnot : ∀ s', RustSem.Map.find? g'.cl.send_reliable_channels ch = some s' → ¬ GPending s' id i) :
    ∃ bytes aseq ranges seq gp, op = .process bytes ∧ GDecodes (toNats bytes) (.Ack aseq ranges) ∧
      (∃ r ∈ ranges, r.start ≤ seq ∧ seq < r.«end») ∧ GEmitted g seq gp ∧ GCarriesSlice ch id i gp := by
  obtain ⟨bytes, e, hG⟩ := src_slice_marked_only_by_ack cfg ops op g g' hg hg' hrg ch id i s hs hpend hnot
  obtain ⟨aseq, ranges, seq, gp, h1, h2, h3, info, h4, h5⟩ :=
    emitted_of_ackNames cfg ops g hg (crunInRange_prefix cfg ops _ hrg) hcb hl bytes _ hG
  subst h5
  exact ⟨bytes, aseq, ranges, seq, gp, e, h1, h2, h3, gcarriesSlice_of_record h4⟩

/-- **C08 end to end on the generated code: "released only after a packet carrying it was emitted and acknowledged".**
    If message `id` of channel `ch` is in the generated `unacked_messages` after the run `ops` and no longer after `ops ++ ext`
    (ANY operations `ext`), then `ext = ext1 ++ process bytes :: ext2` where
      * the generated decoder reads `bytes` (the argument of that `process_packet`) as an `Ack` packet with a range covering
        a sequence number `seq`, and
      * in the generated run `ops ++ ext1` — the part of the trace BEFORE that `process_packet` — some `get_packets_to_send`
        returned a datagram (`g1.flushes`) which the generated `to_bytes` wrote for, and the generated `from_bytes` reads back
        as, a packet `gp` with `Packet::sequence = seq` carrying message `id` of channel `ch`.
    Everything is stated on bytes the generated code emitted (`flushes`) and bytes it was given (`process`). -/
theorem src_release_trace_emitted (cfg : Cfg) (ext ops : List COp) (g g' : GConn)
    (hg : GConn.exec cfg ops = some g) (hg' : GConn.exec cfg (ops ++ ext) = some g') (hrg : CRunInRange cfg (ops ++ ext))
    (hcb : ChanBytes cfg) (hl : MsgLenOK (ops ++ ext)) (ch id : Nat) (s : GSendRel)
    (hs : RustSem.Map.find? g.cl.send_reliable_channels ch = some s)
    (hin : RustSem.Map.contains_key s.unacked_messages id = true)
    (hout : ∀ s', RustSem.Map.find? g'.cl.send_reliable_channels ch = some s' →
      RustSem.Map.contains_key s'.unacked_messages id = false) :
    ∃ ext1 bytes ext2 g1 aseq ranges seq gp, ext = ext1 ++ COp.process bytes :: ext2 ∧
      GConn.exec cfg (ops ++ ext1) = some g1 ∧ GDecodes (toNats bytes) (.Ack aseq ranges) ∧
      (∃ r ∈ ranges, r.start ≤ seq ∧ seq < r.«end») ∧ GEmitted g1 seq gp ∧ GCarriesMsg ch id gp := by
  obtain ⟨ext1, bytes, ext2, g1, e, hg1, hG⟩ := src_release_trace cfg ext ops g g' hg hg' hrg ch id s hs hin hout
  have eapp : ops ++ ext = (ops ++ ext1) ++ (COp.process bytes :: ext2) := by rw [e, List.append_assoc]
  rw [eapp] at hrg hl
  obtain ⟨aseq, ranges, seq, gp, h1, h2, h3, info, h4, h5⟩ :=
    emitted_of_ackNames cfg (ops ++ ext1) g1 hg1 (crunInRange_prefix cfg _ _ hrg) hcb (msgLenOK_prefix hl) bytes _ hG
  exact ⟨ext1, bytes, ext2, g1, aseq, ranges, seq, gp, e, hg1, h1, h2, h3, gcarriesMsg_of_record h4 h5⟩

theorem gstep_flushes {g g' : GConn} {op : COp} (h : g.step op = some g') (bs : List GBytes) (hbs : bs ∈ g'.flushes) :
    bs ∈ g.flushes ∨ (op = .flush ∧ ∃ c', (RenetClient.get_packets_to_send g.cl : Res Empty _) = .ok (c', bs)) := by
  cases op with
  | flush =>
    simp only [GConn.step] at h
    split at h
    · rename_i c' o heq
      cases h
      rcases List.mem_append.mp hbs with h1 | h1
      · exact Or.inl h1
      · rw [List.mem_singleton] at h1; subst h1; exact Or.inr ⟨rfl, c', heq⟩
    · cases h
  | send ch m => simp only [GConn.step] at h; split at h <;> cases h; exact Or.inl hbs
  | recv ch => simp only [GConn.step] at h; split at h <;> cases h; exact Or.inl hbs
  | update dt => simp only [GConn.step] at h; split at h <;> cases h; exact Or.inl hbs
  | process b => simp only [GConn.step] at h; split at h <;> cases h; exact Or.inl hbs
  | setConnected => simp only [GConn.step] at h; split at h <;> cases h; exact Or.inl hbs
  | setConnecting => simp only [GConn.step] at h; split at h <;> cases h; exact Or.inl hbs
  | disconnect => simp only [GConn.step] at h; split at h <;> cases h; exact Or.inl hbs
  | disconnectTransport => simp only [GConn.step] at h; split at h <;> cases h; exact Or.inl hbs

theorem grun_flushes : ∀ (ops : List COp) (g0 g : GConn), g0.run ops = some g → ∀ bs ∈ g.flushes,
    bs ∈ g0.flushes ∨ ∃ ops1 ops2 g1 c', ops = ops1 ++ COp.flush :: ops2 ∧ g0.run ops1 = some g1 ∧
      (RenetClient.get_packets_to_send g1.cl : Res Empty _) = .ok (c', bs)
  | [], g0, g, h, bs, hbs => by cases h; exact Or.inl hbs
  | op :: ops, g0, g, h, bs, hbs => by
    simp only [GConn.run] at h
    cases hs : g0.step op with
    | none => rw [hs] at h; cases h
    | some gm =>
      rw [hs] at h
      rcases grun_flushes ops gm g h bs hbs with h1 | ⟨ops1, ops2, g1, c', e, hr, hf⟩
      · rcases gstep_flushes hs bs h1 with h2 | ⟨rfl, c', hf⟩
        · exact Or.inl h2
        · exact Or.inr ⟨[], ops, g0, c', rfl, rfl, hf⟩
      · exact Or.inr ⟨op :: ops1, ops2, g1, c', by rw [e]; rfl, by simp only [GConn.run, hs]; exact hr, hf⟩

/-- **every entry of the flush log is the return value of a generated `get_packets_to_send` at a definite position of the
    trace** (no side condition: this is how `GConn.exec` logs): `ops = ops1 ++ flush :: ops2`, and the generated
    `get_packets_to_send` on the generated state reached after `ops1` returns `bs` -/
theorem src_flush_log_origin (cfg : Cfg) (ops : List COp) (g : GConn) (hg : GConn.exec cfg ops = some g)
    (bs : List GBytes) (hbs : bs ∈ g.flushes) :
    ∃ ops1 ops2 g1 c', ops = ops1 ++ COp.flush :: ops2 ∧ GConn.exec cfg ops1 = some g1 ∧
      (RenetClient.get_packets_to_send g1.cl : Res Empty _) = .ok (c', bs) := by
  unfold GConn.exec at hg ⊢
  cases hi : GConn.init cfg with
  | none => rw [hi] at hg; cases hg
  | some g0 =>
    rw [hi] at hg
    rcases grun_flushes ops g0 g hg bs hbs with h0 | h1
    · have : g0.flushes = [] := by
        unfold GConn.init at hi; split at hi <;> cases hi; rfl
      rw [this] at h0; cases h0
    · exact h1

/-- **C08 end to end, with the emitting call located in the trace.**  If message `id` of channel `ch` is stored after `ops` and
    gone after `ops ++ ext`, then the trace reads
        `ops ++ ext = pre ++ flush :: mid ++ process bytes :: ext2`     (the `process` lies inside `ext`)
    such that: the generated `get_packets_to_send`, called on the generated state reached after `pre`, RETURNS a list containing a
    datagram `b`; the generated `from_bytes` reads `b` as a packet `gp` (the one the generated `to_bytes` wrote `b` for) whose
    `Packet::sequence` is `seq` and which carries message `id` of channel `ch`; and the generated `from_bytes` reads `bytes` — the
    argument of the later `process_packet` — as an `Ack` packet one of whose ranges covers `seq`. -/
theorem src_release_end_to_end (cfg : Cfg) (ext ops : List COp) (g g' : GConn)
    (hg : GConn.exec cfg ops = some g) (hg' : GConn.exec cfg (ops ++ ext) = some g') (hrg : CRunInRange cfg (ops ++ ext))
    (hcb : ChanBytes cfg) (hl : MsgLenOK (ops ++ ext)) (ch id : Nat) (s : GSendRel)
    (hs : RustSem.Map.find? g.cl.send_reliable_channels ch = some s)
    (hin : RustSem.Map.contains_key s.unacked_messages id = true)
    (hout : ∀ s', RustSem.Map.find? g'.cl.send_reliable_channels ch = some s' →
      RustSem.Map.contains_key s'.unacked_messages id = false) :
    ∃ pre mid ext1 ext2 bytes gpre c' bs b aseq ranges seq gp,
      ext = ext1 ++ COp.process bytes :: ext2 ∧ ops ++ ext1 = pre ++ COp.flush :: mid ∧
      GConn.exec cfg pre = some gpre ∧ (RenetClient.get_packets_to_send gpre.cl : Res Empty _) = .ok (c', bs) ∧ b ∈ bs ∧
      GSerialises gp b ∧ GDecodes b gp ∧ (Src.renet.packet.Packet.sequence gp : Res Empty Nat) = .ok seq ∧
      GCarriesMsg ch id gp ∧
      GDecodes (toNats bytes) (.Ack aseq ranges) ∧ (∃ r ∈ ranges, r.start ≤ seq ∧ seq < r.«end») := by
  obtain ⟨ext1, bytes, ext2, g1, aseq, ranges, seq, gp, e, hg1, hdec, hr, ⟨bs, hbs, b, hb, h1, h2, h3⟩, hc⟩ :=
    src_release_trace_emitted cfg ext ops g g' hg hg' hrg hcb hl ch id s hs hin hout
  obtain ⟨pre, mid, gpre, c', e2, hpre, hf⟩ := src_flush_log_origin cfg (ops ++ ext1) g1 hg1 bs hbs
  exact ⟨pre, mid, ext1, ext2, bytes, gpre, c', bs, b, aseq, ranges, seq, gp, e, e2, hpre, hf, hb, h1, h2, h3, hc, hdec, hr⟩

/-! ## non-vacuity: the traces of `SrcPropsConnTraceC08.Ex`, executed by the kernel ON THE GENERATED CODE

  Channel 0 ReliableOrdered.  `ops0`: a 3-byte message (id 0) and a 1201-byte message (id 1, two slices) are sent and flushed —
  packet 0 = slice 0 of id 1, packet 1 = slice 1 of id 1, packet 2 = the small message id 0.  `opsQ` adds a non-matching Ack, a
  non-Ack packet, an update, a receive, one more send and a flush; `ackSmall` (covers packet 2) then releases id 0 (`opsR`);
  `ackSlice0` marks slice 0 of id 1 (`opsS`); `ackSlice1` marks slice 1 and releases id 1 (`opsT`). -/
namespace Ex
open RenetVerif.SrcPropsConnTraceC08.Ex

theorem chanBytes : ChanBytes cfg := by decide +kernel
theorem lenOK : MsgLenOK opsT := by decide +kernel
theorem lenQ : MsgLenOK opsQ := msgLenOK_prefix (ext := [.process ackSmall, .process ackSlice0, .process ackSlice1]) lenOK
theorem lenR : MsgLenOK opsR := msgLenOK_prefix (ext := [.process ackSlice0, .process ackSlice1]) lenOK
theorem lenS : MsgLenOK opsS := msgLenOK_prefix (ext := [.process ackSlice1]) lenOK

/-- what the generated decoder reads from a datagram: sequence number, and what the packet carries on a reliable
    channel (channel, message ids / message id and slice index) -/
def look (b : GBytes) : Option (Nat × Option PacketSentInfo) :=
  (SrcPropsConnTraceC15.Ex.gdec b).map fun gp =>
    (match (Src.renet.packet.Packet.sequence gp : Res Empty Nat) with | .ok s => s | _ => 0, gRecordOf gp)

/-- **the kernel's view of the trace on the generated code**, in one evaluation: the flush log of `gQ`, every datagram read by
    the GENERATED decoder (sequence number, what `get_packets_to_send` records for it), next to the generated `sent_packets` of
    `gQ` — each record is the reading of the datagram with its sequence number, what `src_recorded_packet_was_emitted` states in
    general; the records under sequence numbers 2 and 4; message 1 is stored after the live phase; the last flush of `gQ` is in
    its log; what the generated decoder reads from `ackSmall` and from the third datagram of the first flush of `gQ` -/
theorem all :
    (gQ.flushes.map (·.map look) =
        [[some (0, some (.ReliableSliceMessage 0 1 0)), some (1, some (.ReliableSliceMessage 0 1 1)),
          some (2, some (.ReliableMessages 0 [0]))],
         [some (3, some (.ReliableMessages 0 [2])), some (4, some (.Ack 8))]] ∧
      gQ.cl.sent_packets.map (fun x => (x.1, x.2.info)) =
        [(0, .ReliableSliceMessage 0 1 0), (1, .ReliableSliceMessage 0 1 1), (2, .ReliableMessages 0 [0]),
         (3, .ReliableMessages 0 [2]), (4, .Ack 8)]) ∧
    (RustSem.Map.find? gQ.cl.sent_packets 2 = some ⟨0, .ReliableMessages 0 [0]⟩ ∧
      RustSem.Map.find? gQ.cl.sent_packets 4 = some ⟨5, .Ack 8⟩) ∧
    RustSem.Map.contains_key (chan g0).unacked_messages 1 = true ∧
    gQ.flushes.getLast! ∈ gQ.flushes ∧
    (SrcPropsConnTraceC15.Ex.gdec (toNats ackSmall) = some (.Ack 0 [⟨2, 3⟩]) ∧
      (gQ.flushes.head?.bind (·[2]?)).bind SrcPropsConnTraceC15.Ex.gdec = some (.SmallReliable 2 0 [(0, [1, 2, 3])])) := by
  decide +kernel

theorem qfacts :
    gQ.flushes.map (·.map look) =
      [[some (0, some (.ReliableSliceMessage 0 1 0)), some (1, some (.ReliableSliceMessage 0 1 1)),
        some (2, some (.ReliableMessages 0 [0]))],
       [some (3, some (.ReliableMessages 0 [2])), some (4, some (.Ack 8))]] ∧
    gQ.cl.sent_packets.map (fun x => (x.1, x.2.info)) =
      [(0, .ReliableSliceMessage 0 1 0), (1, .ReliableSliceMessage 0 1 1), (2, .ReliableMessages 0 [0]),
       (3, .ReliableMessages 0 [2]), (4, .Ack 8)] :=
  all.1

/-- **`src_recorded_packet_was_emitted` applied** to the record under sequence number 2 of `gQ` (the small packet that carried
    message 0; `ackSmall` covers it) -/
example : ∃ gp : GPacket, GEmitted gQ 2 gp ∧ gRecordOf gp = some (.ReliableMessages 0 [0]) :=
  src_recorded_packet_was_emitted cfg opsQ gQ runQ (crunInRange_prefix cfg opsQ _ inRange) chanBytes lenQ 2
    ⟨0, .ReliableMessages 0 [0]⟩ all.2.1.1

/-- … and to the record of an Ack packet (sequence number 4, largest acknowledged 8) -/
example : ∃ gp : GPacket, GEmitted gQ 4 gp ∧ gRecordOf gp = some (.Ack 8) :=
  src_recorded_packet_was_emitted cfg opsQ gQ runQ (crunInRange_prefix cfg opsQ _ inRange) chanBytes lenQ 4
    ⟨5, .Ack 8⟩ all.2.1.2

/-- **`src_release_needs_emitted_and_acked` applied** to the step `opsQ → opsR` (id 0 stored in `gQ`, not in `gR`) -/
example : ∃ bytes aseq ranges seq gp, COp.process ackSmall = .process bytes ∧ GDecodes (toNats bytes) (.Ack aseq ranges) ∧
    (∃ r ∈ ranges, r.start ≤ seq ∧ seq < r.«end») ∧ GEmitted gQ seq gp ∧ GCarriesMsg 0 0 gp :=
  src_release_needs_emitted_and_acked cfg opsQ (.process ackSmall) gQ gR runQ runR (crunInRange_prefix cfg opsR _ inRange)
    chanBytes lenQ 0 0 (chan gQ) chanQ stored.2.1 (gone_of stored.2.2.1)

/-- … and to the step `opsS → opsT` (the sliced message 1 leaves) -/
example : ∃ bytes aseq ranges seq gp, COp.process ackSlice1 = .process bytes ∧ GDecodes (toNats bytes) (.Ack aseq ranges) ∧
    (∃ r ∈ ranges, r.start ≤ seq ∧ seq < r.«end») ∧ GEmitted gS seq gp ∧ GCarriesMsg 0 1 gp :=
  src_release_needs_emitted_and_acked cfg opsS (.process ackSlice1) gS gT runS runT inRange chanBytes lenS 0 1 (chan gS) chanS
    (by rw [RustSem.Map.contains_key, entryS]; rfl) (gone_of stored.2.2.2.2)

/-- **`src_slice_mark_needs_emitted_and_acked` applied** to the step `opsR → opsS`: slice 0 of message 1 pending in `gR`, not in
    `gS` -/
example : ∃ bytes aseq ranges seq gp, COp.process ackSlice0 = .process bytes ∧ GDecodes (toNats bytes) (.Ack aseq ranges) ∧
    (∃ r ∈ ranges, r.start ≤ seq ∧ seq < r.«end») ∧ GEmitted gR seq gp ∧ GCarriesSlice 0 1 0 gp :=
  src_slice_mark_needs_emitted_and_acked cfg opsR (.process ackSlice0) gR gS runR runS
    (crunInRange_prefix cfg opsS _ inRange) chanBytes lenR 0 1 0 (chan gR) chanR ⟨_, _, _, _, _, _, entryR, rfl⟩
    (marked_of chanS entryS rfl)

/-- **`src_release_trace_emitted` applied** to the whole extension after the live phase: message 0 (stored in `g0`, gone in
    `gT`) -/
example : ∃ ext1 bytes ext2 g1 aseq ranges seq gp,
    extQ ++ [.process ackSmall, .process ackSlice0, .process ackSlice1] = ext1 ++ COp.process bytes :: ext2 ∧
    GConn.exec cfg (ops0 ++ ext1) = some g1 ∧ GDecodes (toNats bytes) (.Ack aseq ranges) ∧
    (∃ r ∈ ranges, r.start ≤ seq ∧ seq < r.«end») ∧ GEmitted g1 seq gp ∧ GCarriesMsg 0 0 gp :=
  src_release_trace_emitted cfg _ ops0 g0 gT run0 runT inRange chanBytes lenOK 0 0 (chan g0) chan0 stored.1
    (gone_of stored.2.2.2.1)

/-- … and message 1 (sliced; released by the last Ack of the trace) -/
example : ∃ ext1 bytes ext2 g1 aseq ranges seq gp,
    extQ ++ [.process ackSmall, .process ackSlice0, .process ackSlice1] = ext1 ++ COp.process bytes :: ext2 ∧
    GConn.exec cfg (ops0 ++ ext1) = some g1 ∧ GDecodes (toNats bytes) (.Ack aseq ranges) ∧
    (∃ r ∈ ranges, r.start ≤ seq ∧ seq < r.«end») ∧ GEmitted g1 seq gp ∧ GCarriesMsg 0 1 gp :=
  src_release_trace_emitted cfg _ ops0 g0 gT run0 runT inRange chanBytes lenOK 0 1 (chan g0) chan0 all.2.2.1
    (gone_of stored.2.2.2.2)

/-- **`src_release_end_to_end` applied**: message 1 (sliced), stored in `g0`, gone in `gT` -/
example : ∃ pre mid ext1 ext2 bytes gpre c' bs b aseq ranges seq gp,
    extQ ++ [.process ackSmall, .process ackSlice0, .process ackSlice1] = ext1 ++ COp.process bytes :: ext2 ∧
    ops0 ++ ext1 = pre ++ COp.flush :: mid ∧
    GConn.exec cfg pre = some gpre ∧ (RenetClient.get_packets_to_send gpre.cl : Res Empty _) = .ok (c', bs) ∧ b ∈ bs ∧
    GSerialises gp b ∧ GDecodes b gp ∧ (Src.renet.packet.Packet.sequence gp : Res Empty Nat) = .ok seq ∧
    GCarriesMsg 0 1 gp ∧
    GDecodes (toNats bytes) (.Ack aseq ranges) ∧ (∃ r ∈ ranges, r.start ≤ seq ∧ seq < r.«end») :=
  src_release_end_to_end cfg _ ops0 g0 gT run0 runT inRange chanBytes lenOK 0 1 (chan g0) chan0 all.2.2.1
    (gone_of stored.2.2.2.2)

example : ∃ ops1 ops2 g1 c', opsQ = ops1 ++ COp.flush :: ops2 ∧ GConn.exec cfg ops1 = some g1 ∧
    (RenetClient.get_packets_to_send g1.cl : Res Empty _) = .ok (c', gQ.flushes.getLast!) :=
  src_flush_log_origin cfg opsQ gQ runQ _ all.2.2.2.1

example : SrcPropsConnTraceC15.Ex.gdec (toNats ackSmall) = some (.Ack 0 [⟨2, 3⟩]) ∧
    (gQ.flushes.head?.bind (·[2]?)).bind SrcPropsConnTraceC15.Ex.gdec = some (.SmallReliable 2 0 [(0, [1, 2, 3])]) :=
  all.2.2.2.2

end Ex

end RenetVerif.SrcPropsConnTraceC08b
