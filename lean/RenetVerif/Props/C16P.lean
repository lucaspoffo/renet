/-
  C16 (netcode half, continued) — byte-level decode → re-encode → decode for the two records whose readers do not
  consume their whole buffer: `PrivateConnectToken::read` (run over a 1024-byte buffer) and the reader inside
  `ChallengeToken::decode` (run over a 300-byte buffer).  C16N gives the value-level round trips only.
  Proofs: Lemmas/NcTokenRT.lean.

  Vocabulary (defined in Lemmas/NcToken.lean / Lemmas/NcTokenRT.lean, all characterised below by what the model's
  writer produces):
    `ptBytes t`     what `PrivateConnectToken::write` emits: client id (8, LE) ‖ timeout (4, LE) ‖ host count (4, LE)
                    ‖ hosts (7 bytes per IPv4, 19 per IPv6) ‖ two keys (32 + 32) ‖ user data (256);
                    343 .. 944 bytes, the rest of the 1024-byte buffer is padding (zeros, then the stale tag)
    `ptBytesN t k`  the same with `k` in the host-count field
    `hostsOf`       the `Some` entries of the address array
    `chBytes t`     client id (8, LE) ‖ user data (256) = 264 bytes; the rest of the 300-byte buffer is padding
    `chRead`        the reader inside `ChallengeToken::decode` (`challenge_decode_exact` ties it to the model)

  Proven here
    * read ∘ write = id on well-formed tokens, for both records, whatever follows the written bytes
    * read b = t  ⟹  write t succeeds and read (write t) = t, unconditionally (what a reader returns is well-formed)
    * exactly which byte strings are read to a given token (`private_read_exact`, `challenge_read_exact`):
        challenge token:  b[0..264) = write t, everything behind is free;
        private token:    b[0..n) = write t for n = |write t| when fewer than 32 hosts are announced;
                          with 32 hosts the four count bytes b[12..16) may hold ANY u32 ≥ 32
                          (`read_server_addresses` clamps the count by `.take(n)` over a 32-slot array), all other
                          bytes of b[0..n) are fixed, everything behind is free
      so "b agrees with write t on the meaningful prefix" is TRUE for the challenge token and for private tokens with
      < 32 hosts, and FALSE for private tokens with 32 hosts (`private_prefix_not_determined`, kernel-checked)
    * kernel-checked pairs of different byte strings read to the same token, for each record, at the plain level and
      (toy AEAD) at the sealed level; under the AEAD laws any two paddings give different sealed buffers that
      decode to the same token
-/
import RenetVerif.Lemmas.NcTokenRT
namespace RenetVerif.C16P
open RenetVerif RenetVerif.Netcode RenetVerif.NcAead RenetVerif.NcAead.Token RenetVerif.NcTokenRT

abbrev PrivateTokenWF := NcAead.Token.PTokenWF
abbrev ChallengeWF := NcTokenRT.ChWF

def exKey : Bytes := List.replicate 32 9
def exT : PrivateConnectToken :=
  { clientId := 2 ^ 64 - 1, timeoutSeconds := -5
    serverAddresses := [some (Addr.v4 [127, 0, 0, 1] 5000), some (Addr.v6 (List.replicate 16 7) 65535),
      some (Addr.v4 [10, 0, 0, 2] 1)] ++ List.replicate 29 none
    clientToServerKey := List.replicate 32 1, serverToClientKey := List.replicate 32 2
    userData := List.replicate 256 3 }
def exT32 : PrivateConnectToken :=
  { clientId := 12, timeoutSeconds := 15
    serverAddresses := List.replicate 32 (some (Addr.v4 [10, 0, 0, 2] 1))
    clientToServerKey := List.replicate 32 1, serverToClientKey := List.replicate 32 2
    userData := List.replicate 256 3 }
def exC : ChallengeToken := ⟨2 ^ 64 - 1, List.replicate 256 4⟩

/-- The concrete values, in one kernel evaluation: each private token is read back from its serialisation (so it is
    well-formed: `pt_read_wf`); lengths and host counts; an input announcing 33 hosts, with trailing bytes, is not the
    canonical serialisation; the challenge token is well-formed and decodes (toy AEAD) from its bytes, zero-padded. -/
theorem ex_facts :
    (PrivateConnectToken.read (ptBytes exT) = some exT ∧ PrivateConnectToken.read (ptBytes exT32) = some exT32) ∧
    ((ptBytes exT).length = 369 ∧ (hostsOf exT.serverAddresses).length = 3 ∧
      (hostsOf exT32.serverAddresses).length = 32 ∧ ptBytesN exT32 33 ++ [1, 2, 3] ≠ ptBytes exT32) ∧
    (ChallengeWF exC ∧
      ChallengeToken.decode AEAD.toy (chBytes exC ++ List.replicate 36 0) 5 exKey = .ok exC) := by
  decide +kernel

theorem exT_wf : PrivateTokenWF exT := pt_read_wf ex_facts.1.1
theorem exT32_wf : PrivateTokenWF exT32 := pt_read_wf ex_facts.1.2
theorem exC_wf : ChallengeWF exC := ex_facts.2.2.1
theorem exT_hosts : (hostsOf exT.serverAddresses).length = 3 := ex_facts.2.1.2.1
theorem exT32_hosts : (hostsOf exT32.serverAddresses).length = 32 := ex_facts.2.1.2.2.1

/-- **read ∘ write = id.**  For a well-formed private token (u64 id, i32 timeout, prefix-compact host array with
    1..32 well-formed hosts, 32-byte keys, 256 bytes of user data) `write` into any buffer of ≥ 944 bytes succeeds,
    emits `ptBytes t` (343..944 bytes), and `read` gives the token back whatever follows. -/
theorem private_write_read (t : PrivateConnectToken) (h : PrivateTokenWF t) (cap : Nat) (hc : 944 ≤ cap) :
    ∃ w, t.writeTo (Wr.new cap) = some w ∧ w.out = ptBytes t ∧ 343 ≤ w.out.length ∧ w.out.length ≤ 944 ∧
      ∀ rest, PrivateConnectToken.read (w.out ++ rest) = some t :=
  ⟨_, pt_writeTo_out h cap hc, rfl, ptBytes_length_ge h, ptBytes_length h, fun rest => pt_read_bytes h rest⟩

example : PrivateTokenWF exT ∧ (ptBytes exT).length = 369 ∧
    ∃ w, exT.writeTo (Wr.new 1024) = some w ∧
      PrivateConnectToken.read (w.out ++ List.replicate (1024 - w.out.length) 0) = some exT :=
  ⟨exT_wf, ex_facts.2.1.1, _, pt_writeTo_out exT_wf 1024 (by omega), pt_read_bytes exT_wf _⟩

/-- **decode → re-encode → decode.**  Whatever `read` returns is well-formed, its re-encoding is not longer than the
    input, and reads back to the same token (whatever follows). -/
theorem private_read_reencode (b : Bytes) (t : PrivateConnectToken) (h : PrivateConnectToken.read b = some t) :
    PrivateTokenWF t ∧ ∃ w, t.writeTo (Wr.new 1024) = some w ∧ w.out.length ≤ b.length ∧
      ∀ rest, PrivateConnectToken.read (w.out ++ rest) = some t := by
  have hwf := pt_read_wf h
  exact ⟨hwf, _, pt_writeTo_out hwf 1024 (by omega), (pt_read_take h).1, fun rest => pt_read_bytes hwf rest⟩

-- an input that is not a canonical encoding (count field 33 announced, 32 hosts present, non-zero padding)
example : PrivateConnectToken.read (ptBytesN exT32 33 ++ [1, 2, 3]) = some exT32 ∧
    ptBytesN exT32 33 ++ [1, 2, 3] ≠ ptBytes exT32 :=
  ⟨(pt_read_iff _ _).2 ⟨exT32_wf, 33, [1, 2, 3], by omega, exT32_hosts.symm, rfl⟩, ex_facts.2.1.2.2.2⟩

/-- **The exact set of byte strings read to `t`**: the canonical serialisation, with any count field that clamps
    (`min · 32`) to the number of hosts, followed by anything. -/
theorem private_read_exact (b : Bytes) (t : PrivateConnectToken) :
    PrivateConnectToken.read b = some t ↔
      PrivateTokenWF t ∧ ∃ num rest, num < 2 ^ 32 ∧ min num 32 = (hostsOf t.serverAddresses).length ∧
        b = ptBytesN t num ++ rest := pt_read_iff b t

example : PrivateConnectToken.read (ptBytesN exT 3 ++ [9]) = some exT ∧ (3 : Nat) < 2 ^ 32 ∧
    min 3 32 = (hostsOf exT.serverAddresses).length ∧ ptBytesN exT 3 = ptBytes exT :=
  ⟨(private_read_exact _ _).2 ⟨exT_wf, 3, [9], by omega, exT_hosts.symm, rfl⟩, by omega, exT_hosts.symm,
    (congrArg (ptBytesN exT) exT_hosts).symm.trans (ptBytesN_self exT)⟩

/-- **Bytes of an accepted input, position by position** (`n` = length of the re-encoding): `b` has at least `n`
    bytes; bytes 0..12 (id, timeout) and 16..n (hosts, keys, user data) are those of the re-encoding; bytes 12..16
    are a u32 that clamps to the number of hosts; bytes from `n` on are unconstrained (`private_padding_free`). -/
theorem private_read_bytes (b : Bytes) (t : PrivateConnectToken) (h : PrivateConnectToken.read b = some t) :
    (ptBytes t).length ≤ b.length ∧
    (b.take (ptBytes t).length).take 12 = (ptBytes t).take 12 ∧
    (b.take (ptBytes t).length).drop 16 = (ptBytes t).drop 16 ∧
    ∃ num, num < 2 ^ 32 ∧ min num 32 = (hostsOf t.serverAddresses).length ∧
      ((b.take (ptBytes t).length).drop 12).take 4 = leBytes num 4 := by
  obtain ⟨hlen, num, hn, hm, e⟩ := pt_read_take h
  rw [e]
  exact ⟨hlen, ptBytesN_take12 t num, ptBytesN_drop16 t num, num, hn, hm, ptBytesN_count t num⟩

example : PrivateConnectToken.read (ptBytesN exT32 (2 ^ 32 - 1) ++ [7]) = some exT32 :=
  (private_read_exact _ _).2 ⟨exT32_wf, 2 ^ 32 - 1, [7], by omega, exT32_hosts.symm, rfl⟩

/-- **Fewer than 32 hosts: the meaningful prefix is exactly the re-encoding.** -/
theorem private_read_prefix (b : Bytes) (t : PrivateConnectToken) (h : PrivateConnectToken.read b = some t)
    (h32 : (hostsOf t.serverAddresses).length < 32) :
    b.take (ptBytes t).length = ptBytes t := by
  obtain ⟨_, num, _, hm, e⟩ := pt_read_take h
  rw [e, count_determined hm h32, ptBytesN_self]

example : PrivateConnectToken.read (ptBytes exT ++ [1, 2, 3]) = some exT ∧ (hostsOf exT.serverAddresses).length < 32 :=
  ⟨pt_read_bytes exT_wf _, Nat.lt_of_le_of_lt (Nat.le_of_eq exT_hosts) (by decide)⟩

/-- **Converse: the bytes behind the prefix are free.**  Any `b` that agrees with the serialisation of a well-formed
    `t` on its length reads to `t`. -/
theorem private_padding_free (b : Bytes) (t : PrivateConnectToken) (hwf : PrivateTokenWF t)
    (h : b.take (ptBytes t).length = ptBytes t) : PrivateConnectToken.read b = some t := by
  rw [take_prefix_eq h]
  exact pt_read_bytes hwf _

example : (ptBytes exT ++ List.replicate 655 0xAB).take (ptBytes exT).length = ptBytes exT := List.take_left' rfl

/-- **With 32 hosts the count field is free above 32**: every u32 ≥ 32 in bytes 12..16 gives a byte string — different
    from the canonical one unless the value is 32 — that reads to the same token. -/
theorem private_count_field_free (t : PrivateConnectToken) (hwf : PrivateTokenWF t)
    (h32 : (hostsOf t.serverAddresses).length = 32) (num : Nat) (h1 : 32 ≤ num) (h2 : num < 2 ^ 32) (rest : Bytes) :
    PrivateConnectToken.read (ptBytesN t num ++ rest) = some t ∧ (num ≠ 32 → ptBytesN t num ≠ ptBytes t) := by
  refine ⟨(pt_read_iff _ t).2 ⟨hwf, num, rest, h2, by omega, rfl⟩, fun hne e => ?_⟩
  rw [← ptBytesN_self, h32] at e
  exact ptBytesN_ne t h2 (by omega) hne e

example : PrivateTokenWF exT32 ∧ (hostsOf exT32.serverAddresses).length = 32 := ⟨exT32_wf, exT32_hosts⟩

/-- **So prefix agreement with the re-encoding is NOT a consequence of a successful read** (kernel-checked): an input
    announcing 33 hosts is read to the 32-host token, whose re-encoding announces 32. -/
theorem private_prefix_not_determined :
    ∃ b t, PrivateConnectToken.read b = some t ∧ b.take (ptBytes t).length ≠ ptBytes t :=
  ⟨ptBytesN exT32 33, exT32, by decide +kernel⟩

/-- **Two different byte strings, one token** (kernel-checked), twice: 1024-byte buffers differing only in the
    padding; and buffers differing only in the count field. -/
theorem private_two_encodings :
    (let b1 := ptBytes exT ++ List.replicate (1024 - (ptBytes exT).length) 0
     let b2 := ptBytes exT ++ List.replicate (1024 - (ptBytes exT).length) 255
     b1 ≠ b2 ∧ b1.length = 1024 ∧ b2.length = 1024 ∧
     PrivateConnectToken.read b1 = some exT ∧ PrivateConnectToken.read b2 = some exT) ∧
    (let c1 := ptBytesN exT32 32
     let c2 := ptBytesN exT32 4000000000
     c1 ≠ c2 ∧ c1.length = c2.length ∧ c1 = ptBytes exT32 ∧
     PrivateConnectToken.read c1 = some exT32 ∧ PrivateConnectToken.read c2 = some exT32) := by
  decide +kernel

/-- `PrivateConnectToken::decode`, exactly, for any AEAD: the reader runs over opened plaintext ‖ the bytes of the
    buffer behind it (the stale tag). -/
theorem private_decode_exact (a : AEAD) (buf : Bytes) (proto expire : Nat) (xnonce key : Bytes) (t : PrivateConnectToken) :
    PrivateConnectToken.decode a buf proto expire xnonce key = .ok t ↔
      16 ≤ buf.length ∧ ∃ plain, a.xopen key xnonce (PrivateConnectToken.additionalData proto expire) buf = some plain ∧
        PrivateConnectToken.read (plain ++ buf.drop plain.length) = some t := Bind.pt_decode_iff

/-- **Sealed buffers are not unique either**: under the AEAD laws, sealing the serialisation followed by two different
    paddings gives two different sealed buffers of the same length that `decode` maps to the same token. -/
theorem private_sealed_padding_free (a : AEAD) (hl : a.Laws) (t : PrivateConnectToken) (hwf : PrivateTokenWF t)
    (pad pad' : Bytes) (hne : pad ≠ pad') (hlen : pad.length = pad'.length) (proto expire : Nat) (xnonce key : Bytes) :
    let s := a.xseal key xnonce (PrivateConnectToken.additionalData proto expire) (ptBytes t ++ pad)
    let s' := a.xseal key xnonce (PrivateConnectToken.additionalData proto expire) (ptBytes t ++ pad')
    s ≠ s' ∧ s.length = s'.length ∧
    PrivateConnectToken.decode a s proto expire xnonce key = .ok t ∧
    PrivateConnectToken.decode a s' proto expire xnonce key = .ok t := by
  have hN := h32 hwf
  have dec := fun pad => pt_decode_padded a hl hwf (num := (hostsOf t.serverAddresses).length) (by omega) (by omega)
    pad proto expire xnonce key
  refine ⟨fun e => hne (List.append_cancel_left (xseal_inj hl e)), ?_, dec pad, dec pad'⟩
  rw [hl.xseal_length, hl.xseal_length]; simp [hlen]
where
  h32 {t : PrivateConnectToken} (hwf : PrivateTokenWF t) : (hostsOf t.serverAddresses).length ≤ 32 := by
    obtain ⟨hosts, _, hlen, _, e⟩ := hwf.compact
    rw [e, hostsOf_compact]; exact hlen

-- toy AEAD, kernel-executed: what `encode` produces, and a 1024-byte buffer with other padding, open to the same token
example : AEAD.toy.Laws ∧
    (∃ s, exT.encode AEAD.toy 77 1000 (List.replicate 24 5) exKey = .ok s ∧ s.length = 1024 ∧
      PrivateConnectToken.decode AEAD.toy s 77 1000 (List.replicate 24 5) exKey = .ok exT) ∧
    (let s' := AEAD.toy.xseal exKey (List.replicate 24 5) (PrivateConnectToken.additionalData 77 1000)
        (ptBytes exT ++ List.replicate (1008 - (ptBytes exT).length) 255)
     exT.encode AEAD.toy 77 1000 (List.replicate 24 5) exKey ≠ .ok s' ∧ s'.length = 1024 ∧
     PrivateConnectToken.decode AEAD.toy s' 77 1000 (List.replicate 24 5) exKey = .ok exT) :=
  suffices h : _ ∧ _ from ⟨AEAD.toy_laws, ⟨_, pt_encode_eq AEAD.toy exT_wf 77 1000 _ exKey, h.1⟩, h.2⟩
  by decide +kernel

/-- the model's `ChallengeToken::decode` is: open, then `chRead` over plaintext ‖ the bytes behind it -/
theorem challenge_decode_exact (a : AEAD) (data : Bytes) (tseq : Nat) (ckey : Bytes) (t : ChallengeToken) :
    ChallengeToken.decode a data tseq ckey = .ok t ↔
      16 ≤ data.length ∧ ∃ plain, a.open ckey (Netcode.Packet.nonce tseq) [] data = some plain ∧
        chRead (plain ++ data.drop plain.length) = some t := ch_decode_iff a data tseq ckey t

example : ChallengeToken.decode AEAD.toy (chBytes exC ++ List.replicate 36 0) 5 exKey = .ok exC := ex_facts.2.2.2

/-- **read ∘ write = id**: for a u64 client id and 256 bytes of user data the two `write_all` calls of
    `generate_challenge` emit `chBytes t` (264 bytes) and the reader gives the token back whatever follows; the
    plaintext `generate_challenge` seals is those bytes and 20 zero bytes. -/
theorem challenge_write_read (t : ChallengeToken) (h : ChallengeWF t) :
    ((Wr.new 300).writeAll (leBytes t.clientId 8) >>= fun w => w.writeAll t.userData) = some ⟨300, chBytes t⟩ ∧
    (chBytes t).length = 264 ∧ chPlain t.clientId t.userData = chBytes t ++ List.replicate 20 0 ∧
    ∀ rest, chRead (chBytes t ++ rest) = some t := by
  refine ⟨?_, chBytes_length h, chPlain_eq t h, fun rest => (chRead_iff _ t).2 ⟨h, rest, rfl⟩⟩
  rw [NcAead.Wr.writeAll_append, NcAead.Wr.writeAll_eq, if_pos (by simp [Netcode.Wr.new, h.userData])]
  simp [Netcode.Wr.new, chBytes]

example : ChallengeWF exC ∧ chRead (chBytes exC ++ [1, 2, 3]) = some exC :=
  ⟨exC_wf, (challenge_write_read exC exC_wf).2.2.2 _⟩

/-- **decode → re-encode → decode**, unconditionally -/
theorem challenge_read_reencode (b : Bytes) (t : ChallengeToken) (h : chRead b = some t) :
    ChallengeWF t ∧ (chBytes t).length ≤ b.length ∧ ∀ rest, chRead (chBytes t ++ rest) = some t := by
  obtain ⟨hwf, rest, rfl⟩ := (chRead_iff b t).1 h
  exact ⟨hwf, by simp, fun rest => (chRead_iff _ t).2 ⟨hwf, rest, rfl⟩⟩

example : chRead (chBytes exC ++ List.replicate 36 0xEE) = some exC := (challenge_write_read exC exC_wf).2.2.2 _

/-- **The exact set of byte strings read to `t`**: the first 264 bytes are the re-encoding, nothing else is
    constrained (in the 300-byte buffer: 20 plaintext bytes and the 16 tag bytes are padding). -/
theorem challenge_read_exact (b : Bytes) (t : ChallengeToken) :
    chRead b = some t ↔ ChallengeWF t ∧ b.take 264 = chBytes t := by
  rw [chRead_iff]
  constructor
  · rintro ⟨hwf, rest, rfl⟩
    refine ⟨hwf, ?_⟩
    rw [← chBytes_length hwf, List.take_left' rfl]
  · rintro ⟨hwf, h⟩
    refine ⟨hwf, b.drop 264, ?_⟩
    have := take_prefix_eq (p := chBytes t) (b := b) (by rw [chBytes_length hwf]; exact h)
    rwa [chBytes_length hwf] at this

example : ChallengeWF exC ∧ (chBytes exC ++ List.replicate 36 0xEE).take 264 = chBytes exC :=
  (challenge_read_exact _ _).1 ((challenge_write_read exC exC_wf).2.2.2 _)

/-- the same through the AEAD: whatever `ChallengeToken::decode` returns, `generate_challenge` re-seals (same
    sequence and key) into token data that decodes to the same token -/
theorem challenge_decode_reencode (a : AEAD) (hl : a.Laws) (data : Bytes) (tseq : Nat) (ckey : Bytes) (t : ChallengeToken)
    (h : ChallengeToken.decode a data tseq ckey = .ok t) :
    ChallengeWF t ∧ ∃ data', ChallengeToken.generate a t.clientId t.userData tseq ckey = .ok (.challenge tseq data') ∧
      data'.length = 300 ∧ ChallengeToken.decode a data' tseq ckey = .ok t := by
  obtain ⟨_, plain, _, hr⟩ := (ch_decode_iff a data tseq ckey t).1 h
  obtain ⟨hwf, _⟩ := (chRead_iff _ t).1 hr
  refine ⟨hwf, _, ch_generate_eq a t.clientId t.userData hwf.userData tseq ckey, ?_,
    ch_decode_generate a hl t.clientId t.userData hwf.clientId hwf.userData tseq ckey⟩
  rw [hl.seal_length, chPlain_eq t hwf]
  simp [chBytes_length hwf]

/-- **Sealed challenge tokens are not unique**: under the AEAD laws two different paddings give two different token
    data of the same length that decode to the same token. -/
theorem challenge_sealed_padding_free (a : AEAD) (hl : a.Laws) (t : ChallengeToken) (hwf : ChallengeWF t)
    (pad pad' : Bytes) (hne : pad ≠ pad') (hlen : pad.length = pad'.length) (tseq : Nat) (ckey : Bytes) :
    let s := a.seal ckey (Netcode.Packet.nonce tseq) [] (chBytes t ++ pad)
    let s' := a.seal ckey (Netcode.Packet.nonce tseq) [] (chBytes t ++ pad')
    s ≠ s' ∧ s.length = s'.length ∧
    ChallengeToken.decode a s tseq ckey = .ok t ∧ ChallengeToken.decode a s' tseq ckey = .ok t := by
  refine ⟨fun e => hne (List.append_cancel_left (seal_inj hl e)), ?_, ch_decode_padded a hl hwf pad tseq ckey,
    ch_decode_padded a hl hwf pad' tseq ckey⟩
  rw [hl.seal_length, hl.seal_length]; simp [hlen]

/-- **Two different byte strings, one token** (kernel-checked): two 300-byte buffers differing only behind byte 264,
    at the plain level and as token data for the toy AEAD (the second is what `generate_challenge` emits). -/
theorem challenge_two_encodings :
    (let b1 := chBytes exC ++ List.replicate 36 0
     let b2 := chBytes exC ++ List.replicate 36 255
     b1 ≠ b2 ∧ b1.length = 300 ∧ b2.length = 300 ∧ chRead b1 = some exC ∧ chRead b2 = some exC) ∧
    (let d1 := chBytes exC ++ List.replicate 20 255 ++ List.replicate 16 0
     d1.length = 300 ∧
     ChallengeToken.generate AEAD.toy exC.clientId exC.userData 5 exKey ≠ .ok (.challenge 5 d1) ∧
     (∃ d2, ChallengeToken.generate AEAD.toy exC.clientId exC.userData 5 exKey = .ok (.challenge 5 d2) ∧
        ChallengeToken.decode AEAD.toy d2 5 exKey = .ok exC) ∧
     ChallengeToken.decode AEAD.toy d1 5 exKey = .ok exC) := by
  suffices h : _ ∧ (_ ∧ _ ∧ _ ∧ _) from
    ⟨h.1, h.2.1, h.2.2.1, ⟨_, ch_generate_eq AEAD.toy exC.clientId exC.userData exC_wf.userData 5 exKey, h.2.2.2.1⟩,
      h.2.2.2.2⟩
  decide +kernel

-- the hypotheses of the sealed-level theorems are met (toy AEAD, concrete tokens, two one-byte paddings)
example := challenge_sealed_padding_free AEAD.toy AEAD.toy_laws exC exC_wf [1] [2] (by decide) rfl 5 exKey
example := private_sealed_padding_free AEAD.toy AEAD.toy_laws exT exT_wf [1] [2] (by decide) rfl 77 1000 (List.replicate 24 5) exKey
example := challenge_decode_reencode AEAD.toy AEAD.toy_laws (chBytes exC ++ List.replicate 36 0) 5 exKey exC ex_facts.2.2.2
example := private_count_field_free exT32 exT32_wf exT32_hosts 33 (by omega) (by omega) [1, 2, 3]
example := private_read_prefix (ptBytes exT ++ [1, 2, 3]) exT (pt_read_bytes exT_wf _) (Nat.lt_of_le_of_lt (Nat.le_of_eq exT_hosts) (by decide))
example := private_read_bytes (ptBytesN exT32 33 ++ [1, 2, 3]) exT32
  (private_count_field_free exT32 exT32_wf exT32_hosts 33 (by omega) (by omega) [1, 2, 3]).1

def exCT : ConnectToken :=
  { clientId := 1, versionInfo := C.NETCODE_VERSION_INFO, protocolId := 77, createTimestamp := 0, expireTimestamp := 30
    xnonce := List.replicate 24 5, serverAddresses := exT32.serverAddresses
    clientToServerKey := List.replicate 32 1, serverToClientKey := List.replicate 32 2
    privateData := List.replicate 1024 6, timeoutSeconds := 15 }

/-- the serialisation of `exCT` with 33 in the host-count field -/
def exB33 : Bytes :=
  leBytes 1 8 ++ C.NETCODE_VERSION_INFO ++ leBytes 77 8 ++ leBytes 0 8 ++ leBytes 30 8 ++
    List.replicate 24 5 ++ List.replicate 1024 6 ++ i32le 15 ++ addrsBytesN exT32.serverAddresses 33 ++
    List.replicate 32 1 ++ List.replicate 32 2

/-- `ConnectToken::read` goes through the same `read_server_addresses`: a public token announcing 33 hosts is read to
    the 32-host token, whose `write` announces 32 — so C16N's `token_reencode` is a value-level statement, and the
    re-encoding of an accepted public token need not be its input either (kernel-checked). -/
theorem public_count_field_clamped :
    ConnectToken.read exB33 = .ok exCT ∧ exCT.write = .ok (ctBytes exCT) ∧ exB33.length = (ctBytes exCT).length ∧
      exB33 ≠ ctBytes exCT :=
  suffices h : _ ∧ _ ∧ _ from ⟨h.1, ct_write_eq (ct_read_wf h.1), h.2⟩
  by decide +kernel

end RenetVerif.C16P
