/-
  The token-entry table (`connect_token_entries`, renetcode/src/server.rs) over whole histories — lemmas for
  Props/C05H.lean.
  (The table step itself, `tableAdd` and the slot rule, is Lemmas/NcTokenTable.lean.)
  1. which calls touch the table: `hcr_tbl` (`handle_connection_request`), `processPacket_tbl` (`process_packet`),
     `step_tbl` (every `NS.Op`); `Registers`.
  2. traces (`Steps`): `entries_persist`.   3. histories (`NS.ReachH`): `Covered`, the pigeonhole `full_le`.
-/
import RenetVerif.Lemmas.NcHandshake
namespace RenetVerif.NcBinding
open RenetVerif RenetVerif.Netcode RenetVerif.Netcode.NS

/-! ## 1. which calls touch the table -/

/-- the table effect of `handle_connection_request`: none unless the request passes every check (`Accepted`); then the
    table is what `find_or_add_connect_token_entry` makes of it — **whether the request is then answered with a
    challenge, denied because the server is full, or fails while encoding the answer** -/
def HTbl (a : AEAD) (s : NetcodeServer) (addr : Addr) (v : Bytes) (pid expire : Nat) (xnonce data : Bytes)
    (s' : NetcodeServer) : Prop :=
  (s'.connectTokenEntries = s.connectTokenEntries ∧ ∀ t, ¬ Accepted a s addr v pid expire xnonce data t) ∨
  ((∃ t, Accepted a s addr v pid expire xnonce data t) ∧
    s'.connectTokenEntries = tableAdd s.connectTokenEntries ⟨s.currentTime, addr, tokenMac data⟩)

theorem hcr_tbl {a : AEAD} {s : NetcodeServer} {addr : Addr} {v : Bytes} {pid expire : Nat} {xnonce data : Bytes}
    {r : ServerResult} {s' : NetcodeServer}
    (hr : HcrRes (NetcodeServer.handleConnectionRequest a s addr v pid expire xnonce data) r s') :
    HTbl a s addr v pid expire xnonce data s' := by
  have h := hcr_cases a s addr v pid expire xnonce data
  generalize NetcodeServer.handleConnectionRequest a s addr v pid expire xnonce data = R at h hr
  rcases h with ⟨hno, e, rfl⟩ | ⟨_, m, rfl⟩ | ⟨t, _, ⟨hno, rfl⟩ | ⟨hacc, hrep⟩⟩
  · exact hr.err ▸ Or.inl ⟨rfl, hno⟩
  · exact hr.panic.elim
  · exact hr.ok ▸ Or.inl ⟨rfl, hno⟩
  · -- every answer is built on the state `find_or_add_connect_token_entry` returned
    have hgood : ∀ y : NetcodeServer, y.connectTokenEntries =
        (s.findOrAddConnectTokenEntry ⟨s.currentTime, addr, tokenMac data⟩).1.connectTokenEntries →
        HTbl a s addr v pid expire xnonce data y := fun y e => Or.inr ⟨⟨t, hacc⟩, e.trans (findOrAdd_entries s _)⟩
    cases hrep with
    | deniedErr e hfull hen => exact hr.err ▸ hgood _ rfl
    | denied out hfull hen => exact hr.ok ▸ hgood _ rfl
    | challengeErr e hfull hgen => exact hr.err ▸ hgood _ rfl
    | challenge pkt out hfull hgen hen => exact hr.ok ▸ hgood _ rfl
    | overflow m hn => exact hr.panic.elim

/-- **the datagram `buf` from `addr`, arriving in state `s`, registers the token MAC `mac`**: it is a connection request
    that passes every check of `Accepted` (so `find_or_add_connect_token_entry` is called for `(mac, addr)` and answers
    `true`), and `mac` is the MAC (last 16 bytes) of its private token. -/
def Registers (a : AEAD) (s : NetcodeServer) (addr : Addr) (buf : Bytes) (mac : Bytes) : Prop :=
  ∃ v pid expire xnonce data t,
    (Packet.decode a buf s.protocolId none none).1 = .ok (0, .connectionRequest v pid expire xnonce data) ∧
    Accepted a s addr v pid expire xnonce data t ∧ tokenMac data = mac

theorem registers_unique {a : AEAD} {s : NetcodeServer} {addr : Addr} {buf m1 m2 : Bytes}
    (h1 : Registers a s addr buf m1) (h2 : Registers a s addr buf m2) : m1 = m2 := by
  obtain ⟨v, pid, e, x, d, t, hd, _, rfl⟩ := h1
  obtain ⟨v', pid', e', x', d', t', hd', _, rfl⟩ := h2
  rw [hd] at hd'; cases hd'; rfl

theorem decode_short {a : AEAD} {buf : Bytes} {pid : Nat} {key : Option Bytes} {rp : Option RP}
    (h : buf.length < 2 + C.NETCODE_MAC_BYTES) : (Packet.decode a buf pid key rp).1 = .err .packetTooSmall := by
  rw [Packet.decode_short h]

/-- the table effect of `process_packet`: none unless the datagram `Registers` a MAC; then exactly what
    `find_or_add_connect_token_entry` does for `(mac, source address)` at the current time -/
def PTbl (a : AEAD) (s : NetcodeServer) (addr : Addr) (buf : Bytes) (s' : NetcodeServer) : Prop :=
  (s'.connectTokenEntries = s.connectTokenEntries ∧ ∀ mac, ¬ Registers a s addr buf mac) ∨
  (∃ mac, Registers a s addr buf mac ∧
    s'.connectTokenEntries = tableAdd s.connectTokenEntries ⟨s.currentTime, addr, mac⟩)

/-- refreshing the receive timer of the sender's half-open session changes nothing `Accepted` reads -/
theorem accepted_met {a : AEAD} {s : NetcodeServer} {addr : Addr} {v : Bytes} {pid expire : Nat} {xnonce data : Bytes}
    {t : PrivateConnectToken} :
    Accepted a (met s addr) addr v pid expire xnonce data t ↔ Accepted a s addr v pid expire xnonce data t := by
  unfold met
  cases hpf : pendingFind s.pendingClients addr with
  | none => rfl
  | some p =>
    exact ⟨accepted_of_touched hpf, accepted_pending (s := s) (pc := s.pendingClients)
      (Or.inl (by rw [pendingFind_set, if_pos rfl]; rfl))⟩

theorem met_fields (s : NetcodeServer) (addr : Addr) :
    (met s addr).connectTokenEntries = s.connectTokenEntries ∧ (met s addr).currentTime = s.currentTime := by
  unfold met; split <;> exact ⟨rfl, rfl⟩

theorem ppOut_entries {a : AEAD} {s s' : NetcodeServer} {addr : Addr} {buf : Bytes} {r : ServerResult}
    (ho : PPOut a s addr buf r s') :
    s'.connectTokenEntries = s.connectTokenEntries ∨
    (findClientByAddr s.clients addr = none ∧ ∃ v pid e x d,
      (Packet.decode a buf s.protocolId none none).1 = .ok (0, .connectionRequest v pid e x d)) := by
  cases ho with
  | pendRequest p sq v pid e x d w' R _ _ hfa hpf hdec =>
    exact Or.inr ⟨hfa, v, pid, e, x, d, by rw [(decode_request_indep hdec none none).1]⟩
  | newRequest sq v pid e x d R _ _ hfa hpf hdec =>
    exact Or.inr ⟨hfa, v, pid, e, x, d, by rw [hdec, (decode_request_indep (Prod.ext hdec rfl) none none).2.1]⟩
  | _ => exact Or.inl rfl

theorem processPacket_tbl {a : AEAD} {s s' : NetcodeServer} {addr : Addr} {buf : Bytes} {r : ServerResult}
    (h : s.processPacket a addr buf = .ok (r, s')) : PTbl a s addr buf s' := by
  by_cases hreq : findClientByAddr s.clients addr = none ∧ ∃ v pid e x d,
      (Packet.decode a buf s.protocolId none none).1 = .ok (0, .connectionRequest v pid e x d)
  · -- a request from an address that is not connected: `handle_connection_request` on the state it meets
    obtain ⟨hfa, v, pid, e, x, d, hd⟩ := hreq
    have hres := pp_res h
    rw [ppi_request hfa hd] at hres
    obtain ⟨e1, e2⟩ := met_fields s addr
    rcases hcr_tbl hres with ⟨he, hno⟩ | ⟨⟨t, hacc⟩, he⟩
    · refine Or.inl ⟨he.trans e1, ?_⟩
      rintro mac ⟨v', pid', e', x', d', t, hd', hacc, _⟩
      rw [hd] at hd'; cases hd'
      exact hno t (accepted_met.mpr hacc)
    · exact Or.inr ⟨tokenMac d, ⟨v, pid, e, x, d, t, hd, accepted_met.mp hacc, rfl⟩, by rw [he, e1, e2]⟩
  · have hnr : ∀ mac, ¬ Registers a s addr buf mac := fun mac ⟨v, pid, e, x, d, t, hd, hacc, _⟩ =>
      hreq ⟨hacc.addrFree, v, pid, e, x, d, hd⟩
    rcases pp_cases h with ⟨ho, -⟩ | ⟨i, c, sq, pk, w', -, -, -, -, rfl⟩
    · exact Or.inl ⟨(ppOut_entries ho).resolve_right hreq, hnr⟩
    · exact Or.inl ⟨rfl, hnr⟩

theorem registers_table {a : AEAD} {s s' : NetcodeServer} {addr : Addr} {buf mac : Bytes} {r : ServerResult}
    (h : s.processPacket a addr buf = .ok (r, s')) (hreg : Registers a s addr buf mac) :
    s'.connectTokenEntries = tableAdd s.connectTokenEntries ⟨s.currentTime, addr, mac⟩ := by
  rcases processPacket_tbl h with ⟨_, hno⟩ | ⟨mac', hreg', e⟩
  · exact absurd hreg (hno mac)
  · rw [registers_unique hreg hreg']; exact e

def StepTbl (a : AEAD) (s : NetcodeServer) (op : Op) (s' : NetcodeServer) : Prop :=
  (s'.connectTokenEntries = s.connectTokenEntries ∧ ∀ addr buf mac, op = .packet addr buf → ¬ Registers a s addr buf mac) ∨
  (∃ addr buf mac, op = .packet addr buf ∧ Registers a s addr buf mac ∧
    s'.connectTokenEntries = tableAdd s.connectTokenEntries ⟨s.currentTime, addr, mac⟩)

/-- **Every operation and the token table**: `update` (clock, expiry of half-open sessions), `update_client`
    (time-outs, keep-alives), `disconnect`, `set_max_clients`, `generate_payload_packet` and every datagram that is not
    an `Accepted` connection request leave the table exactly as it is; an `Accepted` connection request makes it
    `tableAdd table (now, source address, token MAC)`. -/
theorem step_tbl {a : AEAD} {s s' : NetcodeServer} {op : Op} {r : ServerResult}
    (h : step a s op = some (r, s')) : StepTbl a s op s' := by
  rcases step_packet_or_quiet h with ⟨addr, buf, rfl, hp⟩ | ⟨hop, hq⟩
  · rcases processPacket_tbl hp with ⟨e, hno⟩ | ⟨mac, hreg, e⟩
    · refine Or.inl ⟨e, fun addr' buf' mac h => ?_⟩
      cases h; exact hno mac
    · exact Or.inr ⟨addr, buf, mac, rfl, hreg, e⟩
  · exact Or.inl ⟨hq.entries, fun addr buf _ h => absurd h (hop addr buf)⟩

theorem step_tbl_length {a : AEAD} {s s' : NetcodeServer} {op : Op} {r : ServerResult}
    (h : step a s op = some (r, s')) : s'.connectTokenEntries.length = s.connectTokenEntries.length := by
  rcases step_tbl h with ⟨e, _⟩ | ⟨_, _, _, _, _, e⟩ <;> rw [e]
  exact tableAdd_length _ _

theorem tableAdd_cases (es : Entries) (ne : ConnectTokenEntry) :
    (∃ e, some e ∈ es ∧ e.mac = ne.mac ∧ tableAdd es ne = es) ∨
    ((∀ e, some e ∈ es → e.mac ≠ ne.mac) ∧ ∃ k, SlotFor es k ∧ tableAdd es ne = es.set k (some ne)) := by
  by_cases hm : ∃ e, some e ∈ es ∧ e.mac = ne.mac
  · obtain ⟨e, he, hm⟩ := hm
    exact Or.inl ⟨e, he, hm, tableAdd_match he hm⟩
  · have hn : ∀ e, some e ∈ es → e.mac ≠ ne.mac := fun e h1 h2 => hm ⟨e, h1, h2⟩
    exact Or.inr ⟨hn, tableAdd_new hn⟩

theorem registers_addr {a : AEAD} {s : NetcodeServer} {addr : Addr} {buf mac : Bytes} (hi : ServerInv s)
    (hreg : Registers a s addr buf mac) {e : ConnectTokenEntry} (he : some e ∈ s.connectTokenEntries)
    (hm : e.mac = mac) : e.address = addr := by
  obtain ⟨v, pid, ex, x, d, t, hd, hacc, rfl⟩ := hreg
  apply Classical.byContradiction
  intro hne
  exact not_accepted_bound hi he hm hne t hacc

/-- **what one operation does to slot `i` of the table**.  `Evicts`: the operation is an `Accepted` connection request
    with a MAC the table does not hold, **no slot is empty**, `i` is the oldest slot (`OldestAt`: minimal time, lowest
    index among equals), and the new entry replaces it. -/
def Evicts (a : AEAD) (s : NetcodeServer) (op : Op) (i : Nat) (s' : NetcodeServer) : Prop :=
  ∃ addr buf mac, op = .packet addr buf ∧ Registers a s addr buf mac ∧
    (∀ e, some e ∈ s.connectTokenEntries → e.mac ≠ mac) ∧ (∀ x ∈ s.connectTokenEntries, x ≠ none) ∧
    OldestAt s.connectTokenEntries i ∧
    s'.connectTokenEntries = s.connectTokenEntries.set i (some ⟨s.currentTime, addr, mac⟩)

theorem step_entry_persists {a : AEAD} {s s' : NetcodeServer} {op : Op} {r : ServerResult}
    (h : step a s op = some (r, s')) {i : Nat} {e : ConnectTokenEntry}
    (he : s.connectTokenEntries[i]? = some (some e)) :
    s'.connectTokenEntries[i]? = some (some e) ∨ Evicts a s op i s' := by
  rcases step_tbl h with ⟨eq, _⟩ | ⟨addr, buf, mac, rfl, hreg, eq⟩
  · left; rw [eq]; exact he
  · rcases tableAdd_cases s.connectTokenEntries ⟨s.currentTime, addr, mac⟩ with ⟨-, -, -, ek⟩ | ⟨hn, k, hk, ek⟩
    · left
      rw [eq, ek]; exact he
    · rw [ek] at eq
      by_cases hki : k = i
      · subst hki
        rcases hk with hk | ⟨hfull, hold⟩
        · rw [hk.1] at he; cases he
        · exact Or.inr ⟨addr, buf, mac, rfl, hreg, hn, hfull, hold, eq⟩
      · left
        rw [eq, List.getElem?_set, if_neg hki]; exact he

theorem step_entry_origin {a : AEAD} {s s' : NetcodeServer} {op : Op} {r : ServerResult}
    (h : step a s op = some (r, s')) {e : ConnectTokenEntry} (he : some e ∈ s'.connectTokenEntries) :
    some e ∈ s.connectTokenEntries ∨
    ∃ buf, op = .packet e.address buf ∧ Registers a s e.address buf e.mac ∧ e.time = s.currentTime := by
  rcases step_tbl h with ⟨eq, _⟩ | ⟨addr, buf, mac, rfl, hreg, eq⟩
  · left; rw [← eq]; exact he
  · rcases tableAdd_cases s.connectTokenEntries ⟨s.currentTime, addr, mac⟩ with ⟨-, -, -, ek⟩ | ⟨-, k, hk, ek⟩
    · left
      rw [eq, ek] at he; exact he
    · rw [eq, ek] at he
      obtain ⟨j, hj⟩ := List.mem_iff_getElem?.mp he
      rw [List.getElem?_set] at hj
      by_cases hkj : k = j
      · rw [if_pos hkj] at hj
        split at hj
        · simp only [Option.some.injEq] at hj
          subst hj
          exact Or.inr ⟨buf, rfl, hreg, rfl⟩
        · cases hj
      · rw [if_neg hkj] at hj
        exact Or.inl (List.mem_iff_getElem?.mpr ⟨j, hj⟩)

theorem registers_binds {a : AEAD} {s s' : NetcodeServer} {addr : Addr} {buf mac : Bytes} {r : ServerResult}
    (hi : ServerInv s) (h : s.processPacket a addr buf = .ok (r, s')) (hreg : Registers a s addr buf mac) :
    ∃ e, some e ∈ s'.connectTokenEntries ∧ e.mac = mac ∧ e.address = addr := by
  have eq := registers_table h hreg
  rcases tableAdd_cases s.connectTokenEntries ⟨s.currentTime, addr, mac⟩ with ⟨e', he', hm', ek⟩ | ⟨-, k, hk, ek⟩
  · rw [ek] at eq
    exact ⟨e', by rw [eq]; exact he', hm', registers_addr hi hreg he' hm'⟩
  · refine ⟨⟨s.currentTime, addr, mac⟩, ?_, rfl, rfl⟩
    rw [eq, ek]
    exact List.mem_iff_getElem?.mpr ⟨k, by rw [List.getElem?_set, if_pos rfl, if_pos (slotFor_lt hk hi.entriesPos)]⟩



/-! ## 2. whole traces -/

/-- `Steps a s ops s'`: the operations `ops` (`NS.Op`, run by `NS.step`: any datagram from any address, `update`,
    `update_client`, `disconnect`, `set_max_clients`, `generate_payload_packet`), none of which unwinds, lead from
    `s` to `s'` -/
inductive Steps (a : AEAD) : NetcodeServer → List Op → NetcodeServer → Prop
  | nil (s : NetcodeServer) : Steps a s [] s
  | cons {s s1 s' : NetcodeServer} {op : Op} {ops : List Op} {r : ServerResult} :
      step a s op = some (r, s1) → Steps a s1 ops s' → Steps a s (op :: ops) s'

theorem Steps.inv {a : AEAD} {s s' : NetcodeServer} {ops : List Op} (h : Steps a s ops s') (hi : ServerInv s) :
    ServerInv s' := by
  induction h with
  | nil => exact hi
  | cons hs _ ih => exact ih (step_inv hi hs)

theorem Steps.tbl_length {a : AEAD} {s s' : NetcodeServer} {ops : List Op} (h : Steps a s ops s') :
    s'.connectTokenEntries.length = s.connectTokenEntries.length := by
  induction h with
  | nil => rfl
  | cons hs _ ih => rw [ih, step_tbl_length hs]

/-- **`entries_persist`** — over every trace of server operations a recorded entry `(time, address, mac)` stays in its
    slot, unchanged, unless at some point of the trace (state `s1`, where it still is in its slot) an `Accepted`
    connection request with a MAC not in the table arrives while **no slot is empty** and slot `i` is the oldest
    (`Evicts`). -/
theorem entries_persist {a : AEAD} {s s' : NetcodeServer} {ops : List Op} (h : Steps a s ops s') (hi : ServerInv s)
    {i : Nat} {e : ConnectTokenEntry} (he : s.connectTokenEntries[i]? = some (some e)) :
    s'.connectTokenEntries[i]? = some (some e) ∨
    ∃ ops1 op ops2 s1 s2 r, ops = ops1 ++ op :: ops2 ∧ Steps a s ops1 s1 ∧
      s1.connectTokenEntries[i]? = some (some e) ∧ step a s1 op = some (r, s2) ∧ Evicts a s1 op i s2 ∧
      Steps a s2 ops2 s' := by
  induction h with
  | nil => exact Or.inl he
  | @cons s s1 s' op ops r hs hrest ih =>
    rcases step_entry_persists hs he with h1 | h1
    · rcases ih (step_inv hi hs) h1 with h2 | ⟨ops1, op', ops2, t1, t2, r', e1, e2, e3, e4, e5, e6⟩
      · exact Or.inl h2
      · exact Or.inr ⟨op :: ops1, op', ops2, t1, t2, r', by rw [e1]; rfl, .cons hs e2, e3, e4, e5, e6⟩
    · exact Or.inr ⟨[], op, ops, s, s1, r, rfl, .nil s, he, hs, h1, hrest⟩

theorem not_evicts_of_empty {a : AEAD} {s s' : NetcodeServer} {op : Op} {i j : Nat}
    (hj : s.connectTokenEntries[j]? = some none) : ¬ Evicts a s op i s' := by
  rintro ⟨_, _, _, _, _, _, hfull, _⟩
  exact hfull none (List.mem_iff_getElem?.mpr ⟨j, hj⟩) rfl

/-! ## 3. the binding over whole histories -/

/-- every MAC registered in the history is in `L` (so at most `L.length` distinct MACs were registered) -/
def Covered (a : AEAD) (hist : List Arrival) (L : List Bytes) : Prop :=
  ∀ ar ∈ hist, ∀ mac, Registers a ar.s ar.addr ar.buf mac → mac ∈ L

theorem entriesOK_tail {x : Option ConnectTokenEntry} {es : Entries} (h : EntriesOK (x :: es)) : EntriesOK es :=
  fun i j ei ej hi hj hm => by
    have := h (i + 1) (j + 1) ei ej (by simpa using hi) (by simpa using hj) hm
    omega

theorem full_le : ∀ (es : Entries), EntriesOK es → (∀ x ∈ es, x ≠ none) → ∀ L : List Bytes,
    (∀ e, some e ∈ es → e.mac ∈ L) → es.length ≤ L.length
  | [], _, _, _, _ => Nat.zero_le _
  | none :: rest, _, hfull, _, _ => absurd rfl (hfull none (by simp))
  | some e :: rest, hok, hfull, L, hL => by
    have hmem : e.mac ∈ L := hL e (by simp)
    have ih := full_le rest (entriesOK_tail hok) (fun x hx => hfull x (List.mem_cons_of_mem _ hx)) (L.erase e.mac) (by
      intro e' he'
      have hne : e'.mac ≠ e.mac := by
        intro hm
        obtain ⟨j, hj⟩ := List.mem_iff_getElem?.mp he'
        have := hok (j + 1) 0 e' e (by simpa using hj) rfl hm
        omega
      exact (List.mem_erase_of_ne hne).mpr (hL e' (List.mem_cons_of_mem _ he')))
    rw [List.length_erase_of_mem hmem] at ih
    have : 0 < L.length := List.length_pos_of_mem hmem
    simp only [List.length_cons]
    omega

theorem reachH_tbl_length {a : AEAD} {s : NetcodeServer} {hist : List Arrival} (hr : ReachH a s hist) :
    ∃ s0, EmptyServer s0 ∧ s.connectTokenEntries.length = s0.connectTokenEntries.length := by
  induction hr with
  | @init s h => exact ⟨s, h, rfl⟩
  | step hr hs ih =>
    obtain ⟨s0, h0, e⟩ := ih
    exact ⟨s0, h0, by rw [step_tbl_length hs, e]⟩

end RenetVerif.NcBinding
