/-
  Netcode handshake authentication (property C05): what must have happened for `ClientConnected` to be reported, and
  for a half-open session to exist; every way a request or response can be wrong ends without a connection.
-/
import RenetVerif.Lemmas.NcTableEvents
import RenetVerif.Lemmas.NcTokenTable
namespace RenetVerif.Netcode
namespace NS
open RenetVerif

/-- the challenge token opens to exactly `(id, ud)`: the comparison missing in the original code, defect D10 -/
theorem connected_only_if {a : AEAD} {s s' : NetcodeServer} {addr addr' : Addr} {buf ud ka : Bytes} {id : Nat}
    (hi : ServerInv s) (h : s.processPacket a addr buf = .ok (.clientConnected id addr' ud ka, s')) :
    addr' = addr ∧ ∃ p sq ts td w' i,
      pendingFind s.pendingClients addr = some p ∧ p.clientId = id ∧ p.userData = ud ∧ p.addr = addr ∧
      findClientByAddr s.clients addr = none ∧ findClientById s.clients id = none ∧
      Packet.decode a buf s.protocolId (some p.receiveKey) (some p.replayProtection) =
        (.ok (sq, .response ts td), some w') ∧
      ChallengeToken.decode a td ts s.challengeKey = .ok ⟨id, ud⟩ ∧
      firstFreeSlot s.clients = some i ∧
      s'.clients = s.clients.set i (some (promoted p w' s.currentTime)) ∧
      s'.pendingClients = pendingRemove s.pendingClients addr ∧
      (Packet.keepAlive (i % 2 ^ 32) (s.maxClients % 2 ^ 32)).encode a C.NETCODE_MAX_PACKET_BYTES s.protocolId
        (some (p.sequence, p.sendKey)) = .ok ka := by
  have ho := pp_ok hi h
  generalize hr : ServerResult.clientConnected id addr' ud ka = r at ho
  cases ho with
  | respConnected p sq ts td w' i out hfa hpf hdec hct hid hff hen =>
    cases hr
    exact ⟨rfl, p, sq, ts, td, w', i, hpf, rfl, rfl, (hi.pend (addr, p) (pendingFind_mem hpf)).key, hfa, hid, hdec, hct,
      hff, rfl, rfl, hen⟩
  | pendRequest p' sq v pid expire xnonce data w' R _ _ hfa hpf hdec hout hres =>
    subst hr
    rcases (hcr_clients hout hres).2 with h | ⟨_, h⟩ <;> cases h
  | newRequest sq v pid expire xnonce data R _ _ hfa hpf hdec hout hres =>
    subst hr
    rcases (hcr_clients hout hres).2 with h | ⟨_, h⟩ <;> cases h
  | _ => cases hr

theorem findOrAdd_snd_congr {s s2 : NetcodeServer} (h : s2.connectTokenEntries = s.connectTokenEntries)
    (e : ConnectTokenEntry) : (s2.findOrAddConnectTokenEntry e).2 = (s.findOrAddConnectTokenEntry e).2 := by
  unfold NetcodeServer.findOrAddConnectTokenEntry
  simp only [h]
  cases (NetcodeServer.scanEntries e.mac s.connectTokenEntries 0 ⟨DURATION_MAX, 0, false, none⟩).matchingEntry <;> rfl

/-- **How a half-open session comes to exist**: the datagram `buf` from `addr` is a connection request that passes
    every check of `Accepted`, fewer clients than the limit are connected, and the session's fields are exactly those
    of the opened token. -/
def Created (a : AEAD) (s : NetcodeServer) (addr : Addr) (buf : Bytes) (p' : Connection) : Prop :=
  ∃ v pid expire xnonce data t,
    (Packet.decode a buf s.protocolId none none).1 = .ok (0, .connectionRequest v pid expire xnonce data) ∧
    Accepted a s addr v pid expire xnonce data t ∧ countConnected s.clients < s.maxClients ∧
    p' = mkPending s.currentTime addr expire t

theorem pendingFind_remove_some {m : Pending} {ad x : Addr} {p' : Connection}
    (hp : pendingFind (pendingRemove m ad) x = some p') : pendingFind m x = some p' := by
  rw [pendingFind_filter_ne] at hp
  by_cases hx : x = ad
  · rw [if_pos hx] at hp; cases hp
  · rwa [if_neg hx] at hp

theorem hcr_pending {a : AEAD} {s : NetcodeServer} {addr : Addr} {v : Bytes} {pid expire : Nat} {xnonce data : Bytes}
    {R : NetcodeServer.SRes} {r : ServerResult} {s' : NetcodeServer}
    (ho : HcrOut a s addr v pid expire xnonce data R) (hr : HcrRes R r s') {x : Addr} {p' : Connection}
    (hp : pendingFind s'.pendingClients x = some p') :
    pendingFind s.pendingClients x = some p' ∨
    (x = addr ∧ ∃ t, Accepted a s addr v pid expire xnonce data t ∧ countConnected s.clients < s.maxClients ∧
      p' = mkPending s.currentTime addr expire t) := by
  rcases hcrOut_cases ho hr with ⟨-, -, rfl⟩ | ⟨t, s1, hacc, hstep, hans⟩
  · exact Or.inl hp
  obtain ⟨es, rfl⟩ := hstep.writes
  cases hans with
  | deniedQuiet | denied => exact Or.inl (pendingFind_remove_some hp)
  | challengeQuiet => exact Or.inl hp
  | challenge _ _ hlt =>
    simp only [pendingFind_set] at hp
    by_cases hx : x = addr
    · rw [if_pos hx] at hp; cases hp
      exact Or.inr ⟨hx, t, hacc, hlt, rfl⟩
    · rw [if_neg hx] at hp; exact Or.inl hp

theorem ident_touched (p : Connection) (w : RP) (now : Nat) : ident (touched p w now) = ident p := rfl

/-- `Accepted` reads the pending map only through the room test -/
theorem accepted_pending {a : AEAD} {s : NetcodeServer} {addr : Addr} {pc pc' : Pending} {v : Bytes} {pid expire : Nat}
    {xnonce data : Bytes} {t : PrivateConnectToken}
    (hroom : (pendingFind pc' addr).isSome ∨ pc'.length < C.NETCODE_MAX_PENDING_CLIENTS)
    (h : Accepted a { s with pendingClients := pc } addr v pid expire xnonce data t) :
    Accepted a { s with pendingClients := pc' } addr v pid expire xnonce data t :=
  ⟨h.version, h.protocol, h.unexpired, h.opens, h.host, h.addrFree, h.idFree, hroom,
    (findOrAdd_snd_congr (s := { s with pendingClients := pc }) (s2 := { s with pendingClients := pc' }) rfl _).trans
      h.binding⟩

theorem accepted_of_touched {a : AEAD} {s : NetcodeServer} {addr : Addr} {p q : Connection}
    (hpf : pendingFind s.pendingClients addr = some p) {v : Bytes} {pid expire : Nat} {xnonce data : Bytes}
    {t : PrivateConnectToken}
    (h : Accepted a { s with pendingClients := pendingSet s.pendingClients addr q } addr v pid expire xnonce data t) :
    Accepted a s addr v pid expire xnonce data t :=
  accepted_pending (pc' := s.pendingClients) (Or.inl (by rw [hpf]; rfl)) h

theorem pendingFind_set_ident {m : Pending} {ad x : Addr} {p q p' : Connection} (hpf : pendingFind m ad = some p)
    (hp : pendingFind (pendingSet m ad q) x = some p') (hq : ident q = ident p) :
    ∃ p0, pendingFind m x = some p0 ∧ ident p' = ident p0 := by
  rw [pendingFind_set] at hp
  by_cases hx : x = ad
  · rw [if_pos hx] at hp; cases hp; exact ⟨p, hx ▸ hpf, hq⟩
  · rw [if_neg hx] at hp; exact ⟨p', hp, rfl⟩

theorem pending_only_if {a : AEAD} {s s' : NetcodeServer} {addr : Addr} {buf : Bytes} {r : ServerResult}
    (hi : ServerInv s) (h : s.processPacket a addr buf = .ok (r, s')) {x : Addr} {p' : Connection}
    (hp : pendingFind s'.pendingClients x = some p') :
    (∃ p, pendingFind s.pendingClients x = some p ∧ ident p' = ident p) ∨ (x = addr ∧ Created a s addr buf p') := by
  have ho := pp_ok hi h
  cases ho with
  | pendErr p e w' hfa hpf hdec => exact Or.inl (pendingFind_set_ident hpf hp rfl)
  | pendOther p sq pk w' hfa hpf hdec _ _ => exact Or.inl (pendingFind_set_ident hpf hp rfl)
  | respRejected p sq ts td w' hfa hpf hdec _ => exact Or.inl (pendingFind_set_ident hpf hp rfl)
  | respDropped p sq ts td w' hfa hpf hdec _ => exact Or.inl ⟨p', pendingFind_remove_some hp, rfl⟩
  | respFull p sq ts td w' out hfa hpf hdec _ _ _ _ => exact Or.inl ⟨p', pendingFind_remove_some hp, rfl⟩
  | respConnected p sq ts td w' i out hfa hpf hdec hct hid hff hen =>
    exact Or.inl ⟨p', pendingFind_remove_some hp, rfl⟩
  | pendRequest p sq v pid expire xnonce data w' R _ _ hfa hpf hdec hout hres =>
    rcases hcr_pending hout hres hp with hp | ⟨hx, t, hacc, hlt, rfl⟩
    · exact Or.inl (pendingFind_set_ident hpf hp rfl)
    · exact Or.inr ⟨hx, v, pid, expire, xnonce, data, t, by rw [(decode_request_indep hdec none none).1],
        accepted_of_touched hpf hacc, hlt, rfl⟩
  | newRequest sq v pid expire xnonce data R _ _ hfa hpf hdec hout hres =>
    rcases hcr_pending hout hres hp with hp | ⟨hx, t, hacc, hlt, rfl⟩
    · exact Or.inl ⟨p', hp, rfl⟩
    · exact Or.inr ⟨hx, v, pid, expire, xnonce, data, t, by rw [hdec, (decode_request_indep (Prod.ext hdec rfl) none none).2.1],
        hacc, hlt, rfl⟩
  | _ => exact Or.inl ⟨p', hp, rfl⟩

theorem hcr_rejects {a : AEAD} {s : NetcodeServer} {addr : Addr} {v : Bytes} {pid expire : Nat} {xnonce data : Bytes}
    (hd : C.NETCODE_MAC_BYTES ≤ data.length) (hno : ∀ t, ¬ Accepted a s addr v pid expire xnonce data t) :
    NetcodeServer.handleConnectionRequest a s addr v pid expire xnonce data = .ok (.none, s) ∨
    ∃ e, NetcodeServer.handleConnectionRequest a s addr v pid expire xnonce data = .err (e, s) := by
  rcases hcr_cases a s addr v pid expire xnonce data with ⟨_, e, hR⟩ | ⟨hlt, _⟩ | ⟨t, _, ⟨_, hR⟩ | ⟨hacc, _⟩⟩
  · exact Or.inr ⟨e, hR⟩
  · omega
  · exact Or.inl hR
  · exact absurd hacc (hno t)

theorem hcr_invalid_version {a : AEAD} {s : NetcodeServer} {addr : Addr} {v : Bytes} {pid expire : Nat}
    {xnonce data : Bytes} (h : v ≠ C.NETCODE_VERSION_INFO) :
    NetcodeServer.handleConnectionRequest a s addr v pid expire xnonce data = .err (.invalidVersion, s) := by
  unfold NetcodeServer.handleConnectionRequest; rw [if_pos h]

theorem not_accepted_bound {a : AEAD} {s : NetcodeServer} {addr : Addr} {v : Bytes} {pid expire : Nat}
    {xnonce data : Bytes} (hi : ServerInv s) {e : ConnectTokenEntry} (he : some e ∈ s.connectTokenEntries)
    (hm : e.mac = tokenMac data) (ha : e.address ≠ addr) (t : PrivateConnectToken) :
    ¬ Accepted a s addr v pid expire xnonce data t := fun hacc => by
  have := hacc.binding
  rw [findOrAdd_other_addr hi.entries he hm ha] at this
  cases this

theorem processPacket_rejects {a : AEAD} {s s' : NetcodeServer} {addr : Addr} {buf : Bytes} {r : ServerResult}
    (hi : ServerInv s) (h : s.processPacket a addr buf = .ok (r, s')) {v : Bytes} {pid expire : Nat}
    {xnonce data : Bytes}
    (hdec : (Packet.decode a buf s.protocolId none none).1 = .ok (0, .connectionRequest v pid expire xnonce data))
    (hno : ∀ t, ¬ Accepted a s addr v pid expire xnonce data t) :
    r = .none ∧ sessions s'.clients = sessions s.clients ∧
    ∀ y p', pendingFind s'.pendingClients y = some p' → ∃ p, pendingFind s.pendingClients y = some p ∧ ident p' = ident p := by
  have hpend : ∀ y p', pendingFind s'.pendingClients y = some p' →
      ∃ p, pendingFind s.pendingClients y = some p ∧ ident p' = ident p := by
    intro y p' hp
    rcases pending_only_if hi h hp with h1 | ⟨_, v', pid', e', x', d', t, hd', hacc, _⟩
    · exact h1
    · rw [hdec] at hd'; cases hd'; exact absurd hacc (hno t)
  have hrq := req_decode hdec
  have ho := pp_ok hi h
  have hreject : ∀ {s0 : NetcodeServer} {R : NetcodeServer.SRes} {r : ServerResult} {s' : NetcodeServer},
      (∀ t, ¬ Accepted a s0 addr v pid expire xnonce data t) → HcrOut a s0 addr v pid expire xnonce data R →
      HcrRes R r s' → r = .none := by
    intro s0 R r s' hno' hout hres
    rcases hcrOut_cases hout hres with ⟨-, e, -⟩ | ⟨t, -, hacc, -⟩
    · exact e
    · exact absurd hacc (hno' t)
  -- no result; so the footprint `ppOut_slots` says the sessions are as they were
  obtain rfl : r = .none := by
    cases ho with
    | connDisconnect i c sq w' hfa hdec' => rw [hrq] at hdec'; cases hdec'
    | connPayload i c sq p w' hfa hdec' => rw [hrq] at hdec'; cases hdec'
    | respFull p sq ts td w' out hfa hpf hdec' _ _ _ _ => rw [hrq] at hdec'; cases hdec'
    | respConnected p sq ts td w' i out hfa hpf hdec' hct hid hff hen => rw [hrq] at hdec'; cases hdec'
    | pendRequest p sq v' pid' expire' xnonce' data' w' R _ _ hfa hpf hdec' hout hres =>
      rw [hrq] at hdec'; cases hdec'
      exact hreject (fun t ht => hno t (accepted_of_touched hpf ht)) hout hres
    | newRequest sq v' pid' expire' xnonce' data' R _ _ hfa hpf hdec' hout hres =>
      rw [hdec] at hdec'; cases hdec'
      exact hreject hno hout hres
    | _ => rfl
  exact ⟨rfl, (ppOut_slots hi ho).tableStep, hpend⟩

/-- **`token_address_binding_partial`** — a token whose MAC is still recorded in the token-entry table with address
    `e.address` is refused from every other address: no result, no session, no half-open session.
    MISSING for the full clause "a token already used from a different address never connects": the table holds
    `NETCODE_TOKEN_ENTRIES` = 2048 entries and `find_or_add_connect_token_entry` overwrites the oldest one when it is
    full (see `binding_lost_when_full`), so after 2048 *other* tokens have been accepted the binding of an unexpired
    token is forgotten and the token is accepted from a new address (the entries carry no expiry, and eviction does
    not look at it). -/
theorem token_address_binding_partial {a : AEAD} {s s' : NetcodeServer} {addr : Addr} {buf : Bytes} {r : ServerResult}
    (hi : ServerInv s) (h : s.processPacket a addr buf = .ok (r, s')) {v : Bytes} {pid expire : Nat}
    {xnonce data : Bytes}
    (hdec : (Packet.decode a buf s.protocolId none none).1 = .ok (0, .connectionRequest v pid expire xnonce data))
    {e : ConnectTokenEntry} (he : some e ∈ s.connectTokenEntries) (hm : e.mac = tokenMac data) (ha : e.address ≠ addr) :
    r = .none ∧ sessions s'.clients = sessions s.clients ∧
    ∀ y p', pendingFind s'.pendingClients y = some p' → ∃ p, pendingFind s.pendingClients y = some p ∧ ident p' = ident p :=
  processPacket_rejects hi h hdec (not_accepted_bound hi he hm ha)

/-- **The binding is lost when the table is full.**  If no entry carries the new token's MAC, the new entry is written
    over an existing index `k`; when that slot was occupied by `e_old`, `e_old.mac` is no longer in the table
    (MACs are distinct), so a later request carrying the token of `e_old` from *any* address passes the
    token-to-address check again. -/
theorem binding_lost_when_full {s : NetcodeServer} (hi : ServerInv s) {ne : ConnectTokenEntry}
    (hn : ∀ e, some e ∈ s.connectTokenEntries → e.mac ≠ ne.mac) (hfull : ∀ x ∈ s.connectTokenEntries, x ≠ none) :
    ∃ k e_old, s.connectTokenEntries[k]? = some (some e_old) ∧
      s.findOrAddConnectTokenEntry ne = ({ s with connectTokenEntries := s.connectTokenEntries.set k (some ne) }, true) ∧
      (∀ e, some e ∈ (s.findOrAddConnectTokenEntry ne).1.connectTokenEntries → e.mac ≠ e_old.mac) ∧
      ∀ addr', ((s.findOrAddConnectTokenEntry ne).1.findOrAddConnectTokenEntry ⟨s.currentTime, addr', e_old.mac⟩).2 = true := by
  obtain ⟨k, hk, heq⟩ := NcBinding.findOrAdd_new hn
  have hklt := NcBinding.slotFor_lt hk hi.entriesPos
  cases hold : s.connectTokenEntries[k]? with
  | none => rw [List.getElem?_eq_none_iff] at hold; omega
  | some x =>
    cases x with
    | none => exact absurd rfl (hfull none (List.mem_iff_getElem?.mpr ⟨k, hold⟩))
    | some e_old =>
      have hgone : ∀ e, some e ∈ s.connectTokenEntries.set k (some ne) → e.mac ≠ e_old.mac := by
        intro e he
        obtain ⟨j, hj⟩ := List.mem_iff_getElem?.mp he
        rw [List.getElem?_set] at hj
        by_cases hkj : k = j
        · rw [if_pos hkj, if_pos hklt] at hj
          cases hj
          exact fun e' => hn e_old (List.mem_iff_getElem?.mpr ⟨k, hold⟩) e'.symm
        · rw [if_neg hkj] at hj
          exact fun e' => hkj (hi.entries k j e_old e hold hj e'.symm)
      refine ⟨k, e_old, hold, heq, by rw [heq]; exact hgone, fun addr' => ?_⟩
      rw [heq]
      -- `e_old`'s MAC is in the table no more: the call for it writes an entry and answers `true`
      obtain ⟨_, -, h'⟩ := NcBinding.findOrAdd_new
        (s := { s with connectTokenEntries := s.connectTokenEntries.set k (some ne) })
        (ne := ⟨s.currentTime, addr', e_old.mac⟩) hgone
      rw [h']

/-! ## the whole story of a connection — request accepted earlier, response now -/

/-- a datagram handed to `process_packet`, together with the server state it met -/
structure Arrival where
  s : NetcodeServer
  addr : Addr
  buf : Bytes

def arrivalOf (s : NetcodeServer) : Op → List Arrival
  | .packet addr buf => [⟨s, addr, buf⟩]
  | _ => []

theorem mem_arrivalOf {s : NetcodeServer} {op : Op} {ar : Arrival} (h : ar ∈ arrivalOf s op) :
    ∃ addr buf, op = .packet addr buf ∧ ar = ⟨s, addr, buf⟩ := by
  cases op <;> simp only [arrivalOf, List.mem_singleton, List.not_mem_nil] at h
  exact ⟨_, _, rfl, h⟩

/-- reachable states with the history of the datagrams processed so far -/
inductive ReachH (a : AEAD) : NetcodeServer → List Arrival → Prop
  | init {s : NetcodeServer} : EmptyServer s → ReachH a s []
  | step {s s' : NetcodeServer} {hist : List Arrival} {op : Op} {r : ServerResult} :
      ReachH a s hist → step a s op = some (r, s') → ReachH a s' (hist ++ arrivalOf s op)

theorem ReachH.reach {a : AEAD} {s : NetcodeServer} {hist : List Arrival} (h : ReachH a s hist) :
    ∃ log, Reach a s log := by
  induction h with
  | init h => exact ⟨[], .init h⟩
  | step _ hs ih => obtain ⟨log, hl⟩ := ih; exact ⟨_, .step hl hs⟩

theorem ReachH.inv {a : AEAD} {s : NetcodeServer} {hist : List Arrival} (h : ReachH a s hist) : ServerInv s := by
  obtain ⟨log, hl⟩ := h.reach; exact hl.inv

theorem step_pending {a : AEAD} {s s' : NetcodeServer} {op : Op} {r : ServerResult} (hi : ServerInv s)
    (h : step a s op = some (r, s')) {x : Addr} {p' : Connection} (hp : pendingFind s'.pendingClients x = some p') :
    (∃ p, pendingFind s.pendingClients x = some p ∧ ident p' = ident p) ∨
    (∃ buf, op = .packet x buf ∧ Created a s x buf p') := by
  rcases step_packet_or_quiet h with ⟨addr, buf, rfl, hpp⟩ | ⟨-, hq⟩
  · rcases pending_only_if hi hpp hp with h1 | ⟨rfl, h2⟩
    · exact Or.inl h1
    · exact Or.inr ⟨buf, rfl, h2⟩
  · exact Or.inl ⟨p', pendingFind_of_mem hi.pendKeys (hq.pend _ (pendingFind_mem hp)), rfl⟩

theorem ReachH.certified {a : AEAD} {s : NetcodeServer} {hist : List Arrival} (h : ReachH a s hist) {x : Addr}
    {p : Connection} (hp : pendingFind s.pendingClients x = some p) :
    ∃ ar ∈ hist, ar.addr = x ∧ ∃ p0, Created a ar.s x ar.buf p0 ∧ ident p = ident p0 := by
  induction h generalizing x p with
  | init h => rw [h.pending] at hp; cases hp
  | @step s s' hist op r hr hs ih =>
    rcases step_pending hr.inv hs hp with ⟨p1, hp1, hid⟩ | ⟨buf, rfl, hc⟩
    · obtain ⟨ar, har, hax, p0, hc, hid0⟩ := ih hp1
      exact ⟨ar, List.mem_append_left _ har, hax, p0, hc, hid.trans hid0⟩
    · exact ⟨⟨s, x, buf⟩, List.mem_append_right _ (by simp [arrivalOf]), rfl, p, hc, rfl⟩

theorem connected_only_after_request {a : AEAD} {s s' : NetcodeServer} {hist : List Arrival} (hr : ReachH a s hist)
    {addr addr' : Addr} {buf ud ka : Bytes} {id : Nat}
    (h : s.processPacket a addr buf = .ok (.clientConnected id addr' ud ka, s')) :
    addr' = addr ∧
    ∃ ar ∈ hist, ar.addr = addr ∧ ∃ v pid expire xnonce data t,
      (Packet.decode a ar.buf ar.s.protocolId none none).1 = .ok (0, .connectionRequest v pid expire xnonce data) ∧
      Accepted a ar.s addr v pid expire xnonce data t ∧ countConnected ar.s.clients < ar.s.maxClients ∧
      t.clientId = id ∧ t.userData = ud ∧
      ∃ sq ts td w' rk, Packet.decode a buf s.protocolId (some t.clientToServerKey) (some rk) =
          (.ok (sq, .response ts td), some w') ∧
        ChallengeToken.decode a td ts s.challengeKey = .ok ⟨id, ud⟩ := by
  obtain ⟨h0, p, sq, ts, td, w', i, hpf, hid, hud, _, _, _, hdec, hct, _⟩ := connected_only_if hr.inv h
  refine ⟨h0, ?_⟩
  obtain ⟨ar, har, hax, p0, ⟨v, pid, expire, xnonce, data, t, hd, hacc, hlt, rfl⟩, hident⟩ := hr.certified hpf
  simp only [ident, mkPending, Ident.mk.injEq] at hident
  refine ⟨ar, har, hax, v, pid, expire, xnonce, data, t, hd, hacc, hlt, by rw [← hid, hident.1], by rw [← hud, hident.2.2.1],
    sq, ts, td, w', p.replayProtection, ?_, hct⟩
  rw [← hident.2.2.2.2.1]; exact hdec

end NS
end RenetVerif.Netcode
