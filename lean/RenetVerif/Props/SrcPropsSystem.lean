/-
  C01 / C02 / C03 / C08 — SYSTEM level (end to end), ABOUT THE GENERATED CODE.

  `GSys` (`Lemmas/SrcEquiv/SrcSystem.lean`) is the two-endpoint system of `Props/C01S.lean` with both endpoints GENERATED
  `RenetClient` values (`Generated/Src/ConnTypes.lean`, translated from `renet/src/remote_connection.rs`), built by the generated
  `RenetClient::from_channels` and driven only through the generated `send_message`, `receive_message`, `update`,
  `get_packets_to_send`, `process_packet`.  `GSys.exec cfg ops = some g`: the constructor and every call of the run returned
  normally (no panic, no index out of range) and `g` is the final state; `g.submitted`, `g.submittedU`, `g.obtained`,
  `g.deliveredToB` are the same ghost logs as in `C01S` (byte strings are `List Nat`, as in the generated code); `g.outA` is
  the list of all datagrams A's `get_packets_to_send` returned.

  Hypotheses of every theorem:
  * `GCountersOK cfg g` — `System.CountersOK` read off the generated state (field `packet_sequence` of the generated struct,
    lengths of the ghost logs);
  * `RunInRange cfg ops` — THE range side condition of the source tie (`SrcSystem.RunInRange`): the channel ids of the
    configuration are distinct per kind and direction (else an `assert!` of `from_channels` fires), and before every
    operation of the run both endpoints are in range (`ConnInRange`: send counters / budgets `≤ 2^60`, receive budgets
    `≤ 2^63`, receive cursor `< 2^64`, packet sequence after the next flush `≤ 2^60`), submitted messages are
    shorter than `2^63` bytes and the clock stays within `Duration::MAX`.  It is stated over the states of the MODEL run
    (`Sys.run`, as far as it gets) and is decidable by evaluation (see the end of this file).
  The hand model appears in the statements only inside `RunInRange`; the proofs go through `SrcSystem.run_sim_conv` (the
  generated run succeeds ⇒ the model run succeeds in a `SimSys`-related state) and the theorems of `Props/C01S.lean`.
-/
import RenetVerif.Lemmas.SrcEquiv.SrcSystem
import RenetVerif.Props.C01S
namespace RenetVerif.SrcPropsSystem
open RenetVerif C RenetVerif.System RenetVerif.SrcEquiv RenetVerif.SrcSystem

/-- **C01, end to end, generated code.**  On a ReliableOrdered channel the sequence of messages B's application has obtained
    from the generated `receive_message` is a prefix of the sequence A's application submitted to the generated
    `send_message` — byte identical, no gaps, no duplicates, no reordering — whatever the network loses, duplicates, delays or
    reorders. -/
theorem src_ordered_prefix_end_to_end (cfg : Cfg) (ops : List SysOp) (g : GSys)
    (hr : GSys.exec cfg ops = some g) (hrg : RunInRange cfg ops) (hc : GCountersOK cfg g) (ch : Nat) (ho : cfg.Ordered ch) :
    g.obtained ch <+: g.submitted ch := by
  obtain ⟨s, hs, sim⟩ := run_sim_conv cfg ops g hrg hr
  rw [sim.obtained, sim.submitted]
  exact (C01S.ordered_prefix_end_to_end cfg ops s hs (countersOK_of_sim sim hc) ch ho).map toNats

/-- the same at every intermediate moment of a longer generated run: the counters hypothesis is only needed for the final
    state -/
theorem src_ordered_prefix_always (cfg : Cfg) (ops1 ops2 : List SysOp) (g1 g : GSys)
    (hr1 : GSys.exec cfg ops1 = some g1) (hr : GSys.exec cfg (ops1 ++ ops2) = some g) (hrg : RunInRange cfg (ops1 ++ ops2))
    (hc : GCountersOK cfg g) (ch : Nat) (ho : cfg.Ordered ch) : g1.obtained ch <+: g1.submitted ch := by
  obtain ⟨s, hs, sim⟩ := run_sim_conv cfg _ g hrg hr
  obtain ⟨s1, hs1, sim1⟩ := run_sim_conv cfg ops1 g1 (runInRange_prefix cfg ops1 ops2 hrg) hr1
  rw [Sys.run_append, hs1] at hs
  rw [sim1.obtained, sim1.submitted]
  exact (C01S.ordered_prefix_always cfg ops1 ops2 s1 s hs1 hs (countersOK_of_sim sim hc) ch ho).map toNats

/-- **C02, end to end, generated code.**  On a ReliableUnordered channel the obtained messages are the submitted messages at
    pairwise distinct positions of the submission log: each at most once, intact, nothing fabricated. -/
theorem src_unordered_once_end_to_end (cfg : Cfg) (ops : List SysOp) (g : GSys)
    (hr : GSys.exec cfg ops = some g) (hrg : RunInRange cfg ops) (hc : GCountersOK cfg g) (ch : Nat) (hu : cfg.Unordered ch) :
    ∃ ids : List Nat, ids.Nodup ∧ (g.obtained ch).map some = ids.map (fun id => (g.submitted ch)[id]?) := by
  obtain ⟨s, hs, sim⟩ := run_sim_conv cfg ops g hrg hr
  obtain ⟨ids, hn, h⟩ := C01S.unordered_once_end_to_end cfg ops s hs (countersOK_of_sim sim hc) ch hu
  refine ⟨ids, hn, ?_⟩
  have := congrArg (List.map (Option.map toNats)) h
  simp only [List.map_map] at this
  rw [sim.obtained, sim.submitted, List.map_map]
  simpa [Function.comp_def, List.getElem?_map] using this

/-- **C03, end to end, generated code (reliable kinds).**  Every message obtained was submitted, byte for byte. -/
theorem src_integrity_end_to_end (cfg : Cfg) (ops : List SysOp) (g : GSys)
    (hr : GSys.exec cfg ops = some g) (hrg : RunInRange cfg ops) (hc : GCountersOK cfg g) (ch : Nat)
    (hk : cfg.Ordered ch ∨ cfg.Unordered ch) :
    ∀ x ∈ g.obtained ch, x ∈ g.submitted ch := by
  obtain ⟨s, hs, sim⟩ := run_sim_conv cfg ops g hrg hr
  intro x hx
  rw [sim.obtained] at hx
  obtain ⟨y, hy, rfl⟩ := List.mem_map.mp hx
  rw [sim.submitted]
  exact List.mem_map_of_mem (C01S.integrity_end_to_end cfg ops s hs (countersOK_of_sim sim hc) ch hk y hy)

/-- **C03, end to end, generated code (unreliable kind).**  On an Unreliable channel every message B's application obtains —
    small, or reassembled from slices — is byte-identical to one that was passed to `send_message` on that channel
    (`submittedU`); nothing is fabricated, nothing is assembled from slices of different messages. -/
theorem src_integrity_unreliable_end_to_end (cfg : Cfg) (ops : List SysOp) (g : GSys)
    (hr : GSys.exec cfg ops = some g) (hrg : RunInRange cfg ops) (hc : GCountersOK cfg g) (ch : Nat) (hk : cfg.Unreliable ch) :
    ∀ x ∈ g.obtained ch, x ∈ g.submittedU ch := by
  obtain ⟨s, hs, sim⟩ := run_sim_conv cfg ops g hrg hr
  intro x hx
  rw [sim.obtained] at hx
  obtain ⟨y, hy, rfl⟩ := List.mem_map.mp hx
  rw [sim.submittedU]
  exact List.mem_map_of_mem (C01S.integrity_unreliable_end_to_end cfg ops s hs (countersOK_of_sim sim hc) ch hk y hy)

/-- **C08, end to end, generated code.**  "Released" is read off the GENERATED struct: `sA` is the entry of channel `ch` in
    the field `send_reliable_channels` of A, message `id` has been issued (`id < sA.next_reliable_message_id`) and is no longer
    in `sA.unacked_messages`.  Then every packet needed to rebuild that message was handed to B, and the GENERATED decoder
    `Packet::from_bytes` (`GDecodes`) reads it from the delivered datagram: `m` being the `id`-th submitted message,
    * `m` small: some datagram `outA[k]`, `k ∈ deliveredToB`, decodes to a SmallReliable packet of channel `ch` containing
      `(id, m)`;
    * `m` sliced: for EVERY slice index `i < n = ⌈|m| / SLICE_SIZE⌉`, some delivered datagram decodes to the ReliableSlice
      packet `(ch, id, i, n, gSliceBytes m n i)`.
    Lost, duplicated, reordered or stale acknowledgements (any `deliverToA` schedule) cannot cause an earlier release. -/
theorem src_release_only_after_delivery (cfg : Cfg) (ops : List SysOp) (g : GSys)
    (hr : GSys.exec cfg ops = some g) (hrg : RunInRange cfg ops) (hc : GCountersOK cfg g) (ch : Nat)
    (sA : Src.renet.channel.reliable.SendChannelReliable)
    (hf : RustSem.Map.find? g.a.send_reliable_channels ch = some sA) (id : Nat) (hid : id < sA.next_reliable_message_id)
    (hrel : RustSem.Map.find? sA.unacked_messages id = none) :
    ∃ m, (g.submitted ch)[id]? = some m ∧
      (m.length ≤ SLICE_SIZE → ∃ k ∈ g.deliveredToB, ∃ bytes sq msgs, g.outA[k]? = some bytes ∧
          GDecodes bytes (.SmallReliable sq ch msgs) ∧ (id, m) ∈ msgs) ∧
      (SLICE_SIZE < m.length → ∀ i, i < divCeil m.length SLICE_SIZE → ∃ k ∈ g.deliveredToB, ∃ bytes sq,
          g.outA[k]? = some bytes ∧
          GDecodes bytes (.ReliableSlice sq ch
            ⟨id, i, divCeil m.length SLICE_SIZE, gSliceBytes m (divCeil m.length SLICE_SIZE) i⟩)) := by
  obtain ⟨s, hs, sim⟩ := run_sim_conv cfg ops g hrg hr
  obtain ⟨sM, hfM, rfl⟩ := find_sendRel_of_sim sim hf
  obtain ⟨m, hm, h1, h2⟩ := C01S.release_only_after_delivery cfg ops s hs (countersOK_of_sim sim hc) ch sM hfM id hid
    (unacked_none_of_repr hrel)
  refine ⟨toNats m, by rw [sim.submitted, List.getElem?_map, hm]; rfl, ?_, ?_⟩
  · intro hl
    rw [toNats_length] at hl
    obtain ⟨k, hk, bytes, sq, msgs, hb, hd, hin⟩ := h1 hl
    refine ⟨k, by rw [sim.deliveredToB]; exact hk, toNats bytes, sq, _, by rw [sim.outA, List.getElem?_map, hb]; rfl,
      gdecodes_of_fromBytes hd, ?_⟩
    exact List.mem_map.mpr ⟨(id, m), hin, rfl⟩
  · intro hl i hi
    rw [toNats_length] at hl hi
    obtain ⟨k, hk, bytes, sq, hb, hd⟩ := h2 hl i hi
    refine ⟨k, by rw [sim.deliveredToB]; exact hk, toNats bytes, sq, by rw [sim.outA, List.getElem?_map, hb]; rfl, ?_⟩
    have := gdecodes_of_fromBytes hd
    simp only [reprPacket, reprSlice, toNats_sliceBytes] at this
    rw [toNats_length]
    exact this

/-- … and the same for a message still being transmitted: a slice that A's generated struct has marked acknowledged (entry
    `Sliced` of `unacked_messages` with `acked[i] = true`; A will not retransmit it) was handed to B -/
theorem src_slice_marked_only_after_delivery (cfg : Cfg) (ops : List SysOp) (g : GSys)
    (hr : GSys.exec cfg ops = some g) (hrg : RunInRange cfg ops) (hc : GCountersOK cfg g) (ch : Nat)
    (sA : Src.renet.channel.reliable.SendChannelReliable)
    (hf : RustSem.Map.find? g.a.send_reliable_channels ch = some sA) (id : Nat) (m : GBytes) (n k nx : Nat) (a : List Bool)
    (ls : List (Option Nat)) (hent : RustSem.Map.find? sA.unacked_messages id = some (.Sliced m n k nx a ls))
    (i : Nat) (hi : a[i]? = some true) :
    ∃ j ∈ g.deliveredToB, ∃ bytes sq, g.outA[j]? = some bytes ∧
      GDecodes bytes (.ReliableSlice sq ch ⟨id, i, n, gSliceBytes m n i⟩) := by
  obtain ⟨s, hs, sim⟩ := run_sim_conv cfg ops g hrg hr
  obtain ⟨sM, hfM, rfl⟩ := find_sendRel_of_sim sim hf
  obtain ⟨m0, rfl, hentM⟩ := unacked_sliced_of_repr hent
  obtain ⟨j, hj, bytes, sq, hb, hd⟩ := C01S.slice_marked_only_after_delivery cfg ops s hs (countersOK_of_sim sim hc) ch sM hfM
    id m0 n k nx a ls hentM i hi
  refine ⟨j, by rw [sim.deliveredToB]; exact hj, toNats bytes, sq, by rw [sim.outA, List.getElem?_map, hb]; rfl, ?_⟩
  have := gdecodes_of_fromBytes hd
  simp only [reprPacket, reprSlice, toNats_sliceBytes] at this
  exact this

/-! ## non-vacuity: the concrete runs of `Props/C01S.lean`, executed by the kernel ON THE GENERATED CODE

  For each example: the range side condition `RunInRange` is decided by evaluation, the generated execution `GSys.exec` is
  evaluated by the kernel (it returns `some _`: no generated function panics), the counters hypothesis is evaluated on the
  generated final state, and the theorems above are instantiated.  The schedules contain loss, duplication and reordering
  (see the descriptions in `C01S`). -/

/-- a placeholder for `Option.getD` (never used: the executions below return `some _`) -/
def gzero : GSys :=
  ⟨reprConn (fun _ => 0) (Conn.fromChannels 0 [] []), reprConn (fun _ => 0) (Conn.fromChannels 0 [] []), [], [],
   fun _ => [], fun _ => [], fun _ => [], []⟩

/-! `C01S.Ex`: one ReliableOrdered channel; a 3-byte and a 1300-byte (two-slice) message; slice 0 lost at first, slice 1
    delivered twice, acks delivered late and twice, one retransmission -/
namespace Ex
abbrev cfg := C01S.Ex.cfg
abbrev ops1 := C01S.Ex.ops1
abbrev ops2 := C01S.Ex.ops2
abbrev m0 := C01S.Ex.m0
abbrev m1 := C01S.Ex.m1

def gmid : GSys := (GSys.exec cfg ops1).getD gzero
def gfin : GSys := (GSys.exec cfg (ops1 ++ ops2)).getD gzero

/-- everything the examples below need, in one kernel evaluation of the generated code: the range side condition holds and
    the generated code runs through both parts of the schedule without a panic; the counters in the generated final state;
    what the two generated states hold; A's generated sending channel at the end -/
theorem gfacts :
    (RunInRange cfg (ops1 ++ ops2) ∧ (GSys.exec cfg ops1).isSome = true ∧ (GSys.exec cfg (ops1 ++ ops2)).isSome = true) ∧
    (gfin.a.packet_sequence ≤ Varint.MAX + 1 ∧ (∀ c ∈ cfg.send, (gfin.submitted c.id).length ≤ Varint.MAX + 1) ∧
      (∀ c ∈ cfg.send, ∀ m ∈ gfin.submitted c.id, m.length ≤ MAX_NUM_SLICES * SLICE_SIZE) ∧
      (∀ c ∈ cfg.send, ∀ m ∈ gfin.submittedU c.id, m.length ≤ MAX_NUM_SLICES * SLICE_SIZE)) ∧
    (gmid.submitted 0 = [toNats m0, toNats m1] ∧ gmid.obtained 0 = [toNats m0] ∧
      gfin.submitted 0 = [toNats m0, toNats m1] ∧ gfin.obtained 0 = [toNats m0, toNats m1] ∧
      gfin.deliveredToB = [1, 2, 1, 3] ∧ gfin.outA.length = 5 ∧ gfin.outB.length = 2) ∧
    (RustSem.Map.find? gfin.a.send_reliable_channels 0).map (fun s => (s.next_reliable_message_id, s.unacked_messages))
      = some (2, []) := by
  decide +kernel

theorem inRange : RunInRange cfg (ops1 ++ ops2) := gfacts.1.1
theorem grun1 : GSys.exec cfg ops1 = some gmid := some_getD gfacts.1.2.1 _
theorem grun12 : GSys.exec cfg (ops1 ++ ops2) = some gfin := some_getD gfacts.1.2.2 _

theorem gcounters : GCountersOK cfg gfin := ⟨by decide, gfacts.2.1.1, gfacts.2.1.2.1, gfacts.2.1.2.2.1, gfacts.2.1.2.2.2⟩

example : gfin.obtained 0 <+: gfin.submitted 0 :=
  src_ordered_prefix_end_to_end cfg _ gfin grun12 inRange gcounters 0 C01S.Ex.ordered0
example : gmid.obtained 0 <+: gmid.submitted 0 :=
  src_ordered_prefix_always cfg ops1 ops2 gmid gfin grun1 grun12 inRange gcounters 0 C01S.Ex.ordered0
/-- what actually happened in the generated run: a strict prefix in the middle (message 1 incomplete: slice 0 lost),
    everything at the end; four datagrams were handed to B, one of them twice, two of A's five datagrams never -/
example : gmid.submitted 0 = [toNats m0, toNats m1] ∧ gmid.obtained 0 = [toNats m0] ∧
    gfin.submitted 0 = [toNats m0, toNats m1] ∧ gfin.obtained 0 = [toNats m0, toNats m1] ∧
    gfin.deliveredToB = [1, 2, 1, 3] ∧ gfin.outA.length = 5 ∧ gfin.outB.length = 2 := gfacts.2.2.1
example : ∀ x ∈ gfin.obtained 0, x ∈ gfin.submitted 0 :=
  src_integrity_end_to_end cfg _ gfin grun12 inRange gcounters 0 (Or.inl C01S.Ex.ordered0)

/-- A's generated sending channel at the end: both messages issued and released -/
theorem gchanFin : ∃ sA, RustSem.Map.find? gfin.a.send_reliable_channels 0 = some sA ∧
    sA.next_reliable_message_id = 2 ∧ sA.unacked_messages = [] := by
  have h := gfacts.2.2.2
  cases hf : RustSem.Map.find? gfin.a.send_reliable_channels 0 with
  | none => rw [hf] at h; cases h
  | some sA =>
    rw [hf] at h
    simp only [Option.map_some, Option.some.injEq, Prod.mk.injEq] at h
    exact ⟨sA, rfl, h.1, h.2⟩

/-- C08 for the small message 0 and the sliced message 1: the delivered datagrams exist and the generated decoder reads
    the packets from them -/
example (id : Nat) (hid : id < 2) : ∃ m, (gfin.submitted 0)[id]? = some m ∧
    (m.length ≤ SLICE_SIZE → ∃ k ∈ gfin.deliveredToB, ∃ bytes sq msgs, gfin.outA[k]? = some bytes ∧
      GDecodes bytes (.SmallReliable sq 0 msgs) ∧ (id, m) ∈ msgs) ∧
    (SLICE_SIZE < m.length → ∀ i, i < divCeil m.length SLICE_SIZE → ∃ k ∈ gfin.deliveredToB, ∃ bytes sq,
      gfin.outA[k]? = some bytes ∧ GDecodes bytes (.ReliableSlice sq 0
        ⟨id, i, divCeil m.length SLICE_SIZE, gSliceBytes m (divCeil m.length SLICE_SIZE) i⟩)) := by
  obtain ⟨sA, hf, hn, hu⟩ := gchanFin
  exact src_release_only_after_delivery cfg _ gfin grun12 inRange gcounters 0 sA hf id (by omega) (by rw [hu]; rfl)

end Ex

/-! `C01S.ExU`: a ReliableUnordered channel; B's application gets the LATER message first; one datagram delivered twice -/
namespace ExU
abbrev cfg := C01S.ExU.cfg
abbrev ops := C01S.ExU.ops
abbrev a := C01S.ExU.a
abbrev b := C01S.ExU.b

def gfin : GSys := (GSys.exec cfg ops).getD gzero
theorem gfacts :
    (RunInRange cfg ops ∧ (GSys.exec cfg ops).isSome = true) ∧
    (gfin.a.packet_sequence ≤ Varint.MAX + 1 ∧ (∀ c ∈ cfg.send, (gfin.submitted c.id).length ≤ Varint.MAX + 1) ∧
      (∀ c ∈ cfg.send, ∀ m ∈ gfin.submitted c.id, m.length ≤ MAX_NUM_SLICES * SLICE_SIZE) ∧
      (∀ c ∈ cfg.send, ∀ m ∈ gfin.submittedU c.id, m.length ≤ MAX_NUM_SLICES * SLICE_SIZE)) ∧
    (gfin.submitted 0 = [toNats a, toNats b] ∧ gfin.obtained 0 = [toNats b, toNats a]) := by
  decide +kernel
theorem inRange : RunInRange cfg ops := gfacts.1.1
theorem grun : GSys.exec cfg ops = some gfin := some_getD gfacts.1.2 _
theorem gcounters : GCountersOK cfg gfin := ⟨by decide, gfacts.2.1.1, gfacts.2.1.2.1, gfacts.2.1.2.2.1, gfacts.2.1.2.2.2⟩

example : ∃ ids : List Nat, ids.Nodup ∧ (gfin.obtained 0).map some = ids.map (fun id => (gfin.submitted 0)[id]?) :=
  src_unordered_once_end_to_end cfg ops gfin grun inRange gcounters 0 C01S.ExU.unordered0
/-- what actually happened: out of order, each exactly once (witness `ids = [1, 0]`) -/
example : gfin.submitted 0 = [toNats a, toNats b] ∧ gfin.obtained 0 = [toNats b, toNats a] := gfacts.2.2
example : ∀ x ∈ gfin.obtained 0, x ∈ gfin.submitted 0 :=
  src_integrity_end_to_end cfg ops gfin grun inRange gcounters 0 (Or.inr C01S.ExU.unordered0)

end ExU

/-! `C01S.ExN`: an Unreliable channel; the large message is reassembled from slices delivered out of order, then a stale
    duplicate fragment arrives -/
namespace ExN
abbrev cfg := C01S.ExN.cfg
abbrev ops := C01S.ExN.ops
abbrev a := C01S.ExN.a
abbrev b := C01S.ExN.b

def gfin : GSys := (GSys.exec cfg ops).getD gzero
theorem gfacts :
    (RunInRange cfg ops ∧ (GSys.exec cfg ops).isSome = true) ∧
    (gfin.a.packet_sequence ≤ Varint.MAX + 1 ∧ (∀ c ∈ cfg.send, (gfin.submitted c.id).length ≤ Varint.MAX + 1) ∧
      (∀ c ∈ cfg.send, ∀ m ∈ gfin.submitted c.id, m.length ≤ MAX_NUM_SLICES * SLICE_SIZE) ∧
      (∀ c ∈ cfg.send, ∀ m ∈ gfin.submittedU c.id, m.length ≤ MAX_NUM_SLICES * SLICE_SIZE)) ∧
    (gfin.submittedU 0 = [toNats a, toNats b] ∧ gfin.obtained 0 = [toNats a, toNats b] ∧ gfin.outA.length = 3 ∧
      gfin.deliveredToB = [1, 2, 0, 1]) := by
  decide +kernel
theorem inRange : RunInRange cfg ops := gfacts.1.1
theorem grun : GSys.exec cfg ops = some gfin := some_getD gfacts.1.2 _
theorem gcounters : GCountersOK cfg gfin := ⟨by decide, gfacts.2.1.1, gfacts.2.1.2.1, gfacts.2.1.2.2.1, gfacts.2.1.2.2.2⟩

example : ∀ x ∈ gfin.obtained 0, x ∈ gfin.submittedU 0 :=
  src_integrity_unreliable_end_to_end cfg ops gfin grun inRange gcounters 0 C01S.ExN.unreliable0
/-- what actually happened: both messages arrived, the large one reassembled from slices delivered out of order -/
example : gfin.submittedU 0 = [toNats a, toNats b] ∧ gfin.obtained 0 = [toNats a, toNats b] ∧ gfin.outA.length = 3 ∧
    gfin.deliveredToB = [1, 2, 0, 1] := gfacts.2.2

end ExN

end RenetVerif.SrcPropsSystem
