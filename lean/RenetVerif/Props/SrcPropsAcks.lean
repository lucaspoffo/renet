/-
  C08 / C16 (pending acknowledgements denote exactly what was received) stated DIRECTLY about the generated
  `RenetClient::{add_pending_ack, acked_largest}` of `Generated/Src/Acks.lean` (derived from
  `renet/src/remote_connection.rs`).  The model (`Acks.add`, `Acks.ackedLargest`, `Acks.Mem`, `Acks.WF`) appears only in
  the proofs: `SrcTieAcks` (generated = model) ∘ the set semantics of `Lemmas/Acks.lean` (C16 `pending_acks_wf`,
  `pending_acks_exact`; C08 `pending_acks_only_received`).

  `RMem x l` / `RangesWF l` (`Lemmas/SrcCorollaries.lean`) are the intrinsic denotation / shape of a list of generated
  `Range<u64>` values: `x` lies in one of the half-open ranges; ranges ascending, non-empty, non-adjacent.
-/
import RenetVerif.Props.SrcTieAcks
import RenetVerif.Lemmas.Acks
import RenetVerif.Lemmas.SrcCorollaries
namespace RenetVerif.SrcCor
open RenetVerif RenetVerif.SrcEquiv RenetVerif.RustSem

/-! ### helpers (model level): `Acks.add` as "exact insertion, then the cap" and the exact effect of `ackedLargest` -/

theorem add_eq_capFront (cap seq : Nat) (l : List AckRange) (hc : 1 ≤ cap) (h : Acks.WF l) :
    ∃ full, Acks.WF full ∧ (∀ x, Acks.Mem x full ↔ (Acks.Mem x l ∨ x = seq)) ∧ full.length ≤ l.length + 1 ∧
      Acks.add cap seq l = Acks.capFront cap full := by
  obtain ⟨full, he, hw, hm, hlen⟩ := Acks.add_spec cap seq l h
  refine ⟨full, hw, hm, hlen, ?_⟩
  rcases he with ⟨rfl, he⟩ | he
  · rw [he, Acks.capFront_id cap full (Nat.le_trans hlen hc)]
  · exact he

theorem wf_lb : ∀ (l : List AckRange) (s e : Nat), Acks.WF ((s, e) :: l) → ∀ x, Acks.Mem x ((s, e) :: l) → s ≤ x := by
  intro l s e h x hx
  rcases hx with hx | hx
  · exact hx.1
  · have := Acks.wf_above h x hx
    have := (Acks.wf_cons_iff.1 h).1
    omega

theorem map_ackR_pairs (l : List RustSem.Range) : (pairs l).map ackR = l := map_range_pairs l

theorem pairs_map_ackR (l : List AckRange) : pairs (l.map ackR) = l := pairs_map_range l

theorem pairs_tail (l : List RustSem.Range) : pairs l.tail = (pairs l).tail := by
  cases l <;> rfl

end RenetVerif.SrcCor

namespace RenetVerif.SrcProps
open RenetVerif RenetVerif.SrcEquiv RenetVerif.SrcTie RenetVerif.SrcCor RenetVerif.RustSem
open Src.renet.remote_connection

/-- **C08/C16, `add_pending_ack` is exact insertion followed by the cap.**  On a well-formed list of at most 64
    ranges and a sequence `< u64::MAX`, the generated `add_pending_ack` does not panic, changes nothing but
    `pending_acks`, and the new list is well-formed, has at most 64 ranges and is `full` cut to the cap — where `full` is
    a well-formed list denoting EXACTLY `old ∪ {sequence}`, and cutting drops its first (oldest, smallest) range iff it
    has more than 64 ranges. -/
theorem acks_add_pending_ack_denotes {ε : Type} (c : RenetClient) (sequence : Nat) (hs : sequence < 2 ^ 64 - 1)
    (hlen : c.pending_acks.length ≤ 64) (hwf : RangesWF c.pending_acks) :
    ∃ new full, (RenetClient.add_pending_ack c sequence : Res ε _) = .ok ({ c with pending_acks := new }, ()) ∧
      RangesWF new ∧ new.length ≤ 64 ∧
      RangesWF full ∧ (∀ x, RMem x full ↔ (RMem x c.pending_acks ∨ x = sequence)) ∧
      full.length ≤ c.pending_acks.length + 1 ∧
      new = if full.length > 64 then full.tail else full := by
  have htie := acks_add_pending_ack (ε := ε) c sequence hs hlen
  have hwf' : Acks.WF (absAcks c) := (rangesWF_iff c.pending_acks).1 hwf
  obtain ⟨full, hf1, hf2, hf3, hf4⟩ := add_eq_capFront 64 sequence (absAcks c) (by decide) hwf'
  have hlen' : (absAcks c).length ≤ 64 := by simpa [absAcks] using hlen
  refine ⟨(Acks.add 64 sequence (absAcks c)).map ackR, full.map ackR, htie, ?_, ?_, ?_, ?_, ?_, ?_⟩
  · rw [rangesWF_iff, pairs_map_ackR]; exact Acks.add_wf 64 sequence _ hwf'
  · simpa using Acks.add_length 64 sequence _ (by decide) hwf' hlen'
  · rw [rangesWF_iff, pairs_map_ackR]; exact hf1
  · intro x
    rw [rmem_iff, pairs_map_ackR, hf2 x, rmem_iff]; rfl
  · simpa [absAcks] using hf3
  · rw [hf4]
    unfold Acks.capFront
    simp only [List.length_map]
    split
    · rw [List.map_tail]
    · rfl

/-- **C16, below the cap nothing is forgotten**: with fewer than 64 ranges the new list denotes exactly
    `old ∪ {sequence}`. -/
theorem acks_add_pending_ack_exact {ε : Type} (c : RenetClient) (sequence : Nat) (hs : sequence < 2 ^ 64 - 1)
    (hlen : c.pending_acks.length < 64) (hwf : RangesWF c.pending_acks) :
    ∃ new, (RenetClient.add_pending_ack c sequence : Res ε _) = .ok ({ c with pending_acks := new }, ()) ∧
      RangesWF new ∧ ∀ x, RMem x new ↔ (RMem x c.pending_acks ∨ x = sequence) := by
  obtain ⟨new, full, h1, h2, _, _, h5, h6, h7⟩ :=
    acks_add_pending_ack_denotes (ε := ε) c sequence hs (by omega) hwf
  refine ⟨new, h1, h2, ?_⟩
  rw [h7, if_neg (by omega)]
  exact h5

/-- **C08, nothing is acknowledged that was not received** (any fill level), and **at the cap exactly the oldest
    range is evicted**: every member of the new list is a member of the old one or the sequence just received; and a
    member of `old ∪ {sequence}` is missing from the new list only if it belongs to the evicted range `r` — the range
    with the smallest start of `old ∪ {sequence}` — which happens only when the list was full. -/
theorem acks_add_pending_ack_evicts_oldest {ε : Type} (c : RenetClient) (sequence : Nat) (hs : sequence < 2 ^ 64 - 1)
    (hlen : c.pending_acks.length ≤ 64) (hwf : RangesWF c.pending_acks) :
    ∃ new, (RenetClient.add_pending_ack c sequence : Res ε _) = .ok ({ c with pending_acks := new }, ()) ∧
      (∀ x, RMem x new → (RMem x c.pending_acks ∨ x = sequence)) ∧
      ((∀ x, RMem x new ↔ (RMem x c.pending_acks ∨ x = sequence)) ∨
       (c.pending_acks.length = 64 ∧ ∃ r : RustSem.Range, r.start < r.«end» ∧
          (∀ y, (RMem y c.pending_acks ∨ y = sequence) → r.start ≤ y) ∧
          ∀ x, RMem x new ↔ ((RMem x c.pending_acks ∨ x = sequence) ∧ ¬ (r.start ≤ x ∧ x < r.«end»)))) := by
  obtain ⟨new, full, h1, _, _, h4, h5, h6, h7⟩ := acks_add_pending_ack_denotes (ε := ε) c sequence hs hlen hwf
  refine ⟨new, h1, ?_, ?_⟩
  · intro x hx
    rw [h7] at hx
    split at hx
    · cases full with
      | nil => cases hx
      | cons r rest => exact (h5 x).1 (.inr hx)
    · exact (h5 x).1 hx
  · by_cases hfull : full.length > 64
    · right
      refine ⟨by omega, ?_⟩
      cases full with
      | nil => simp at hfull
      | cons r rest =>
        rw [if_pos hfull] at h7
        simp only [List.tail_cons] at h7
        have h4' := (rangesWF_iff (r :: rest)).1 h4
        refine ⟨r, (Acks.wf_cons_iff.1 h4').1, ?_, ?_⟩
        · exact fun y hy => wf_lb _ _ _ h4' y ((rmem_iff y _).1 ((h5 y).2 hy))
        · intro x
          rw [h7, rmem_tail_iff h4 x, h5 x]
    · left
      rw [h7, if_neg hfull]
      exact h5

/-- **C08, `acked_largest` removes exactly the sequences `≤ largest_ack`.**  On a well-formed list of `u64` ranges
    the generated `acked_largest` (a `while` loop on manifest fuel) does not panic, changes nothing but `pending_acks`,
    keeps the list well-formed and no longer, and afterwards a sequence number is pending iff it was pending before and
    is greater than `largest_ack`. -/
theorem acks_acked_largest_denotes {ε : Type} (c : RenetClient) (largest_ack : Nat)
    (hb : ∀ r ∈ c.pending_acks, r.«end» < 2 ^ 64) (hfit : c.pending_acks.length + 1 < 2 ^ 64)
    (hwf : RangesWF c.pending_acks) :
    ∃ new, (RenetClient.acked_largest c largest_ack : Res ε _) = .ok ({ c with pending_acks := new }, ()) ∧
      RangesWF new ∧ new.length ≤ c.pending_acks.length ∧
      ∀ x, RMem x new ↔ (RMem x c.pending_acks ∧ largest_ack < x) := by
  have htie := acks_acked_largest (ε := ε) c largest_ack hb hfit
  have hwf' : Acks.WF (absAcks c) := (rangesWF_iff c.pending_acks).1 hwf
  refine ⟨(Acks.ackedLargest largest_ack (absAcks c)).map ackR, htie, ?_, ?_, ?_⟩
  · rw [rangesWF_iff, pairs_map_ackR]; exact Acks.ackedLargest_wf largest_ack _ hwf'
  · simpa [absAcks] using Acks.ackedLargest_length largest_ack (absAcks c)
  · intro x
    rw [rmem_iff, pairs_map_ackR, Acks.ackedLargest_mem_iff largest_ack _ hwf' x, rmem_iff]; rfl

/-! ### examples (evaluated on the generated text) -/

/-- 64 single-element ranges 0, 2, 4, …, 126: the list is full -/
def fullAcks : List RustSem.Range := (List.range 64).map fun k => ⟨2 * k, 2 * k + 1⟩

def afterEvict : List RustSem.Range := fullAcks.tail ++ [⟨1000, 1001⟩]
/-- a new sequence far above: appended, the oldest range `[0,1)` is evicted, the cap holds -/
example : okFst ((RenetClient.add_pending_ack (exClient fullAcks) 1000 : Res Empty _)) =
    some (exClient afterEvict) := by decide +kernel
example : RMem 0 fullAcks ∧ ¬ RMem 0 afterEvict ∧ RMem 1000 afterEvict ∧ afterEvict.length = 64 := by
  decide +kernel
/-- a sequence that bridges two ranges merges them: no eviction even at the cap -/
example : okFst ((RenetClient.add_pending_ack (exClient fullAcks) 1 : Res Empty _)) =
    some (exClient ((⟨0, 3⟩ : RustSem.Range) :: fullAcks.tail.tail)) := by decide +kernel
example : ∃ new, (RenetClient.add_pending_ack (exClient [⟨0, 1⟩, ⟨2, 5⟩, ⟨7, 8⟩]) 1 : Res Empty _) =
      .ok ({ exClient [⟨0, 1⟩, ⟨2, 5⟩, ⟨7, 8⟩] with pending_acks := new }, ()) ∧
    RangesWF new ∧ ∀ x, RMem x new ↔ (RMem x (exClient [⟨0, 1⟩, ⟨2, 5⟩, ⟨7, 8⟩]).pending_acks ∨ x = 1) :=
  acks_add_pending_ack_exact _ 1 (by decide) (by decide) (by decide)
/-- `acked_largest(7)`: `[0,5) [7,10) [12,14)` keeps 8, 9, 12, 13 -/
example : okFst ((RenetClient.acked_largest (exClient [⟨0, 5⟩, ⟨7, 10⟩, ⟨12, 14⟩]) 7 : Res Empty _)) =
    some (exClient [⟨8, 10⟩, ⟨12, 14⟩]) := by decide +kernel

end RenetVerif.SrcProps
