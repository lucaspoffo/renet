/-
  C11 — the MULTI-CLIENT system, ABOUT THE GENERATED CODE: the invariant package `C11E.per_client_system_inv`
  (`Inv1` / `Inv2` / `InvR` of the projection server → client `i`), as far as it has a reading on the generated system `GMulti`.

  `Props/SrcPropsMulti.lean` and `Props/SrcPropsMultiMore.lean` transfer the CONSEQUENCES of the package that talk about
  messages (`Inv2.concl`, `InvU`, `InvR.relA`).  The remaining clauses talk about the ghost packet list `pkA` (the packets
  behind the emission history `outS`); on the generated system they are read through the GENERATED decoder
  (`GDecodes b gp`: the generated `Packet::from_bytes` on a fresh cursor over `b` returns `gp`) applied to the datagrams of
  `gl.outS` (everything the generated server ever emitted to `i`) and `gl.outC` (everything `i`'s generated client emitted):

    * `src_per_client_sequences_increase`   (`Inv1.encA` + `Inv1.seqA`)  the datagrams the server emitted to client `i` carry
                                            strictly increasing sequence numbers, all below the field `packet_sequence` of the
                                            server's generated connection for `i`: no sequence number is ever reused per client;
    * `src_per_client_record_was_emitted`   (`InvR.sentA` + `Inv2.wfA` + `Inv1.encA`)  every reliable record in `sent_packets` of
                                            the server's (live) generated connection for `i` is a datagram of `gl.outS` that the
                                            generated decoder reads back as a packet with that sequence number and that content
                                            (`gRecordOf`) — C08's "recorded ⇒ emitted" per client, datagram emitted TO THAT CLIENT;
    * `src_per_client_acks_only_delivered`  (`InvR.ackB` + `InvR.ackOutB` + `Inv1.delivB`)  client `i`'s generated `pending_acks`,
                                            and every `Ack` packet client `i` ever emitted (read by the generated decoder), cover
                                            only sequence numbers of datagrams that `i`'s own network handed to `i` (`delivC`).

  NOT transferred (no reading on generated states): `Inv1.reachA/reachB` (model reachability `C08.Reach`), `Inv1.chanA` /
  `Inv1.genA` / `Inv2.recvB` / `InvU` as such (per-channel model invariants `ChanG`, `PktGen`, `ChanBS`, `ChanU`; their
  consequences are the theorems of `SrcPropsMulti`).  The three theorems for the direction client → server are in
  `Props/SrcPropsMultiInvUp.lean`: both directions are instances of the lemmas of the section `Direction` below.

  Hypotheses as in `SrcPropsMulti`: generated run, untainted link, `MRunInRange`; `GCountersDown` where the round trip of
  reliable packets is needed.  Proofs: `SrcMulti.mrun_sim_conv` + `C11E.per_client_system_inv`.
-/
import RenetVerif.Lemmas.SrcEquiv.SrcMultiMore
import RenetVerif.Lemmas.SrcEquiv.SrcConnC08b
import RenetVerif.Lemmas.SrcEquiv.SrcConnC15
import RenetVerif.Props.SrcPropsMulti
namespace RenetVerif.SrcPropsMultiInv
open RenetVerif C RenetVerif.System RenetVerif.MultiSystem RenetVerif.SrcEquiv RenetVerif.SrcSystem RenetVerif.SrcMulti
open RenetVerif.C11E RenetVerif.SrcConnC08b RenetVerif.SrcConnC15
open Src.renet.remote_connection

abbrev GPacket := Src.renet.packet.Packet

/-- the server's generated connection for client `i` (field `connections`; the ghost copy `last` once it was removed) -/
def srvConn (g : GMulti) (i : Nat) (gl : GLink) : RenetClient := (gconn? g.server i).getD gl.last

/-- the datagram with index `k` of `gl.outS` was handed to client `i`, and whatever the generated decoder reads from it has
    sequence number `x` -/
def GDelivSeq (gl : GLink) (x : Nat) : Prop :=
  ∃ k ∈ gl.delivC, ∃ bytes, gl.outS[k]? = some bytes ∧
    ∀ gp : GPacket, GDecodes bytes gp → (Src.renet.packet.Packet.sequence gp : Res Empty Nat) = .ok x

theorem pairwise_getElem? {α : Type} {R : α → α → Prop} {l : List α} (h : l.Pairwise R) {j k : Nat} {a b : α} (hjk : j < k)
    (ha : l[j]? = some a) (hb : l[k]? = some b) : R a b := by
  obtain ⟨hj, rfl⟩ := List.getElem?_eq_some_iff.mp ha
  obtain ⟨hk, rfl⟩ := List.getElem?_eq_some_iff.mp hb
  exact List.pairwise_iff_getElem.mp h j k hj hk hjk

/-! ## one direction of a link, read on the generated side

  `s` is a state of the two-endpoint system with its invariant package; `out` and `back` are the generated emission histories of
  its sending and its receiving side, `deliv` the delivery record, `ga` and `gb` the generated connections of the two sides.  Both
  directions of a link of `GMulti` are instances (`projDown`, `projUp`). -/
section Direction
variable {cfg : Cfg} {s : Sys} {pkA : List Packet} {out back : List GBytes} {deliv : List Nat} {ga gb : RenetClient}
  {mrs : Nat → Nat}

theorem sequences_increase (h1 : Inv1 cfg s pkA) (hout : out = s.outA.map toNats) (hA : ga = reprConn mrs s.a)
    {j k : Nat} {bj bk : GBytes} {gp gq : GPacket} (hjk : j < k) (hj : out[j]? = some bj) (hk : out[k]? = some bk)
    (dj : GDecodes bj gp) (dk : GDecodes bk gq) :
    ∃ sj sk, (Src.renet.packet.Packet.sequence gp : Res Empty Nat) = .ok sj ∧
      (Src.renet.packet.Packet.sequence gq : Res Empty Nat) = .ok sk ∧ sj < sk ∧ sk < ga.packet_sequence := by
  subst hout hA
  rw [List.getElem?_map, Option.map_eq_some_iff] at hj hk
  obtain ⟨b1, hb1, rfl⟩ := hj
  obtain ⟨b2, hb2, rfl⟩ := hk
  obtain ⟨p1, hp1, rfl⟩ := gdecodes_inv dj
  obtain ⟨p2, hp2, rfl⟩ := gdecodes_inv dk
  obtain ⟨q1, hq1, he1⟩ := enc_lookup h1.encA hb1
  obtain ⟨q2, hq2, he2⟩ := enc_lookup h1.encA hb2
  have hlt : q1.sequence < q2.sequence :=
    pairwise_getElem? h1.seqA.1 hjk (by rw [List.getElem?_map, hq1]; rfl) (by rw [List.getElem?_map, hq2]; rfl)
  refine ⟨p1.sequence, p2.sequence, packet_sequence_eq p1, packet_sequence_eq p2, ?_, ?_⟩
  · rw [(fromBytes_of_enc he1 hp1).1, (fromBytes_of_enc he2 hp2).1]; exact hlt
  · rw [(fromBytes_of_enc he2 hp2).1]; exact h1.seqA.2 q2 (List.mem_of_getElem? hq2)

theorem isRel_of_record {p : Packet} {info : SentInfo} (hinfo : Conn.sentInfoOf p = .ok info)
    (hrel : (∃ ch ids, reprInfo info = .ReliableMessages ch ids) ∨ ∃ ch id idx, reprInfo info = .ReliableSliceMessage ch id idx) :
    isRel p = true := by
  cases p <;> have e := Conn.sentInfoOf_ok.mp hinfo
  case smallReliable | reliableSlice => rfl
  case smallUnreliable | unreliableSlice =>
    subst e
    rcases hrel with ⟨ch, ids, e⟩ | ⟨ch, id, idx, e⟩ <;> cases e
  case ack =>
    obtain ⟨_, _, -, -, rfl⟩ := e
    rcases hrel with ⟨ch, ids, e⟩ | ⟨ch, id, idx, e⟩ <;> cases e

theorem record_was_emitted (h1 : Inv1 cfg s pkA) (h2 : Inv2 cfg s pkA) (hR : InvR cfg s pkA) (hout : out = s.outA.map toNats)
    (hA : ga = reprConn mrs s.a) (hlive : ∀ r, ga.connection_status ≠ .Disconnected r)
    {seq : Nat} {ps : PacketSent} (hf : RustSem.Map.find? ga.sent_packets seq = some ps)
    (hrel : (∃ ch ids, ps.info = .ReliableMessages ch ids) ∨ ∃ ch id idx, ps.info = .ReliableSliceMessage ch id idx) :
    ∃ (k : Nat) (bytes : GBytes) (gp : GPacket), out[k]? = some bytes ∧ GDecodes bytes gp ∧
      (Src.renet.packet.Packet.sequence gp : Res Empty Nat) = .ok seq ∧ gRecordOf gp = some ps.info := by
  subst hout hA
  have hd : s.a.isDisconnected = false := by
    unfold Conn.isDisconnected
    cases hst : s.a.status with
    | connected => rfl
    | connecting => rfl
    | disconnected r => exact absurd (by simp only [reprConn, hst, reprStatus]) (hlive (reprReason r))
  rw [SrcConnC08.find_sent_repr, Option.map_eq_some_iff] at hf
  obtain ⟨⟨tm, info⟩, hfs, rfl⟩ := hf
  obtain ⟨p, hp, hseq, hinfo⟩ := hR.sentA hd seq tm info hfs
  obtain ⟨k, hk⟩ := List.getElem?_of_mem hp
  obtain ⟨b, hb, henc⟩ := enc_lookup' h1.encA hk
  obtain ⟨b', hb', hdec⟩ := Packet.fromBytes_enc p (h2.wfA p hp (isRel_of_record hinfo hrel))
  rw [henc] at hb'; cases hb'
  exact ⟨k, toNats b, reprPacket p, by rw [List.getElem?_map, hb]; rfl, gdecodes_of_fromBytes hdec,
    by rw [packet_sequence_eq, hseq], gRecordOf_repr hinfo⟩

theorem gdelivSeq_of (h1 : Inv1 cfg s pkA) {x : Nat} (h : DelivSeq s.deliveredToB pkA x) :
    ∃ k ∈ s.deliveredToB, ∃ bytes, (s.outA.map toNats)[k]? = some bytes ∧
      ∀ gp : GPacket, GDecodes bytes gp → (Src.renet.packet.Packet.sequence gp : Res Empty Nat) = .ok x := by
  obtain ⟨k, hk, p, hp, hseq⟩ := h
  obtain ⟨b, hb, henc⟩ := enc_lookup' h1.encA hp
  refine ⟨k, hk, toNats b, by rw [List.getElem?_map, hb]; rfl, ?_⟩
  intro gp hgp
  obtain ⟨p', hp', rfl⟩ := gdecodes_inv hgp
  rw [packet_sequence_eq, (fromBytes_of_enc henc hp').1, hseq]

theorem acks_only_delivered (h1 : Inv1 cfg s pkA) (hR : InvR cfg s pkA) (hout : out = s.outA.map toNats)
    (hback : back = s.outB.map toNats) (hdel : deliv = s.deliveredToB) (hB : gb = reprConn mrs s.b) :
    (∀ x, (∃ r ∈ gb.pending_acks, r.start ≤ x ∧ x < r.«end») → ∃ k ∈ deliv, ∃ bytes, out[k]? = some bytes ∧
      ∀ gp : GPacket, GDecodes bytes gp → (Src.renet.packet.Packet.sequence gp : Res Empty Nat) = .ok x) ∧
    (∀ b ∈ back, ∀ aseq ranges, GDecodes b (.Ack aseq ranges) →
      ∀ x, (∃ r ∈ ranges, r.start ≤ x ∧ x < r.«end») → ∃ k ∈ deliv, ∃ bytes, out[k]? = some bytes ∧
        ∀ gp : GPacket, GDecodes bytes gp → (Src.renet.packet.Packet.sequence gp : Res Empty Nat) = .ok x) ∧
    (∀ k ∈ deliv, k < out.length) := by
  subst hout hback hdel hB
  refine ⟨fun x hx => gdelivSeq_of h1 (hR.ackB x (SrcConnC08.mem_pendingAcks_repr hx)), ?_, ?_⟩
  · intro b hb aseq ranges hdec x hx
    obtain ⟨b0, hb0, rfl⟩ := List.mem_map.mp hb
    obtain ⟨p, hp, hrepr⟩ := gdecodes_inv hdec
    cases p with
    | ack s r =>
      simp only [reprPacket, Src.renet.packet.Packet.Ack.injEq] at hrepr
      obtain ⟨rfl, rfl⟩ := hrepr
      exact gdelivSeq_of h1 (hR.ackOutB b0 hb0 _ _ hp x (mem_of_reprRange hx))
    | smallReliable _ _ _ => simp only [reprPacket] at hrepr; cases hrepr
    | smallUnreliable _ _ _ => simp only [reprPacket] at hrepr; cases hrepr
    | reliableSlice _ _ _ => simp only [reprPacket] at hrepr; cases hrepr
    | unreliableSlice _ _ _ => simp only [reprPacket] at hrepr; cases hrepr
  · intro k hk
    rw [List.length_map]
    exact h1.delivB k hk

end Direction

/-- **The datagrams the generated server emits to one client carry strictly increasing sequence numbers** (any run, any
    interleaving with the other clients).  For two datagrams of `gl.outS` — everything the generated server's
    `get_packets_to_send(i)` ever returned — at positions `j < k`, which the GENERATED decoder reads as `gp` and `gq`:
    `sequence gp < sequence gq`, and both are below the field `packet_sequence` of the server's generated connection for `i`. -/
theorem src_per_client_sequences_increase (P : Params) (ops : List MOp) (g : GMulti) (i : Nat) (gl : GLink)
    (hr : GMulti.exec P ops = some g) (hl : g.links i = some gl) (hclean : gl.tainted = false)
    (hrg : MRunInRange P ops) (j k : Nat) (bj bk : GBytes) (gp gq : GPacket) (hjk : j < k)
    (hj : gl.outS[j]? = some bj) (hk : gl.outS[k]? = some bk) (dj : GDecodes bj gp) (dk : GDecodes bk gq) :
    ∃ sj sk, (Src.renet.packet.Packet.sequence gp : Res Empty Nat) = .ok sj ∧
      (Src.renet.packet.Packet.sequence gq : Res Empty Nat) = .ok sk ∧ sj < sk ∧
      sk < (srvConn g i gl).packet_sequence := by
  obtain ⟨m, l, sim, hsl, hat⟩ := SrcPropsMulti.model_at hr hl hclean hrg
  obtain ⟨⟨pkA, h1, -, -, -⟩, -⟩ := C11E.per_client_system_inv hat
  obtain ⟨mrs, hA⟩ := srv_repr sim hsl (i := i)
  exact sequences_increase h1 hsl.outS hA hjk hj hk dj dk

/-- **What the server's connection for `i` records as sent was emitted to client `i`, and reads back as recorded.**  `ps` is an
    entry under `seq` of the generated `sent_packets` of the server's generated connection for `i`, which is not disconnected,
    and `ps.info` is a reliable record (`ReliableMessages` / `ReliableSliceMessage`).  Then some datagram of `gl.outS` — the
    emission history server → `i`; NOT a datagram emitted to another client — is read by the GENERATED decoder as a packet `gp`
    with `Packet::sequence = seq` for which `get_packets_to_send` records exactly `ps.info` (`gRecordOf`: same channel, the ids
    of its messages / its message id and slice index). -/
theorem src_per_client_record_was_emitted (P : Params) (ops : List MOp) (g : GMulti) (i : Nat) (gl : GLink)
    (hr : GMulti.exec P ops = some g) (hl : g.links i = some gl) (hclean : gl.tainted = false)
    (hrg : MRunInRange P ops) (hc : GCountersDown P g i gl)
    (hlive : ∀ r, (srvConn g i gl).connection_status ≠ .Disconnected r)
    (seq : Nat) (ps : PacketSent) (hf : RustSem.Map.find? (srvConn g i gl).sent_packets seq = some ps)
    (hrel : (∃ ch ids, ps.info = .ReliableMessages ch ids) ∨ ∃ ch id idx, ps.info = .ReliableSliceMessage ch id idx) :
    ∃ (k : Nat) (bytes : GBytes) (gp : GPacket), gl.outS[k]? = some bytes ∧ GDecodes bytes gp ∧
      (Src.renet.packet.Packet.sequence gp : Res Empty Nat) = .ok seq ∧ gRecordOf gp = some ps.info := by
  obtain ⟨m, l, sim, hsl, hat⟩ := SrcPropsMulti.model_at hr hl hclean hrg
  obtain ⟨⟨pkA, h1, h2, hR, -⟩, -⟩ := C11E.per_client_system_inv hat
  obtain ⟨mrs, hA⟩ := srv_repr sim hsl (i := i)
  exact record_was_emitted h1 (h2 (countersDown_of_sim sim hsl hc)) hR hsl.outS hA hlive hf hrel

/-- **Client `i` acknowledges only datagrams that were handed to client `i`.**  (a) every sequence number covered by the
    generated `pending_acks` of `i`'s generated client, and (b) every sequence number covered by a range of an `Ack` packet that
    the GENERATED decoder reads from a datagram client `i` ever emitted (`gl.outC`), is the sequence number of a datagram of
    `gl.outS` whose index is in `gl.delivC` — it was emitted by the server TO `i` and delivered by `i`'s own network; deliveries,
    hostile bytes and acknowledgements on the links of other clients contribute nothing.  (`GDelivSeq`: "has sequence number
    `x`" is "whatever the generated decoder reads from that datagram has `Packet::sequence = x`"; that the decoder accepts the
    datagram is not part of the invariant package — for reliable packets it follows as in
    `src_per_client_record_was_emitted`.) -/
theorem src_per_client_acks_only_delivered (P : Params) (ops : List MOp) (g : GMulti) (i : Nat) (gl : GLink)
    (hr : GMulti.exec P ops = some g) (hl : g.links i = some gl) (hclean : gl.tainted = false)
    (hrg : MRunInRange P ops) :
    (∀ x, (∃ r ∈ gl.cl.pending_acks, r.start ≤ x ∧ x < r.«end») → GDelivSeq gl x) ∧
    (∀ b ∈ gl.outC, ∀ aseq ranges, GDecodes b (.Ack aseq ranges) →
      ∀ x, (∃ r ∈ ranges, r.start ≤ x ∧ x < r.«end») → GDelivSeq gl x) ∧
    (∀ k ∈ gl.delivC, k < gl.outS.length) := by
  obtain ⟨m, l, sim, hsl, hat⟩ := SrcPropsMulti.model_at hr hl hclean hrg
  obtain ⟨⟨pkA, h1, -, hR, -⟩, -⟩ := C11E.per_client_system_inv hat
  obtain ⟨mrs, hcl⟩ := hsl.cl
  exact acks_only_delivered h1 hR hsl.outS hsl.outC hsl.delivC hcl

/-! ## non-vacuity: the run of `C11E.Ex` ON THE GENERATED CODE (`SrcPropsMulti.Ex`), client 3

  Three clients; client 3's network delivers `outS[1]`, `outS[0]`, `outS[1]` (reordered, duplicated), later `outS[2]`; garbage
  arrives in client 2's name.  `opsX` = that run followed by one more `get_packets_to_send` of client 3, whose output is the
  client's `Ack` packet. -/
namespace Ex
open RenetVerif.SrcPropsMulti.Ex

/-- what the generated decoder reads: sequence number and what `get_packets_to_send` records for the packet -/
def look (b : GBytes) : Option (Nat × Option PacketSentInfo) :=
  match Src.renet.packet.Packet.from_bytes (RustSem.Octets.with_slice b) with
  | .ok (_, gp) => some (match (Src.renet.packet.Packet.sequence gp : Res Empty Nat) with | .ok s => s | _ => 0, gRecordOf gp)
  | _ => none

theorem gdecodes_of_look {b : GBytes} {gp : GPacket} {cur : RustSem.Octets}
    (h : Src.renet.packet.Packet.from_bytes (RustSem.Octets.with_slice b) = .ok (cur, gp)) : GDecodes b gp := ⟨cur, h⟩

/-- the generated decoder as an `Option` (for kernel evaluation) -/
def dec (b : GBytes) : Option (RustSem.Octets × GPacket) :=
  match Src.renet.packet.Packet.from_bytes (RustSem.Octets.with_slice b) with
  | .ok v => some v
  | _ => none
theorem gdecodes_of_dec {b : GBytes} {d : RustSem.Octets × GPacket} (h : dec b = some d) : GDecodes b d.2 := by
  unfold dec at h
  split at h
  · rename_i v hv; cases h; exact ⟨d.1, hv⟩
  · cases h
def dzero : RustSem.Octets × GPacket := (RustSem.Octets.with_slice [], .Ack 0 [])
def b0 : GBytes := (gl3.outS[0]?).getD []
def b2 : GBytes := (gl3.outS[2]?).getD []
def d0 := (dec b0).getD dzero
def d2 := (dec b2).getD dzero

/-- one more flush of client 3: its output is the client's `Ack` packet covering `[0, 3)` -/
abbrev opsX : List MOp := ops ++ [.cliFlush 3]
def gX : GMulti := (GMulti.exec P opsX).getD gzero
def glX3 : GLink := (gX.links 3).getD lzero
def bA : GBytes := (glX3.outC[1]?).getD []
def dA := (dec bA).getD dzero

/-- **the kernel's view on the generated code**, in one evaluation of the run `ops` and its extension `opsX`: the four
    datagrams the generated server emitted to client 3, read by the generated decoder (sequence numbers 0, 1, 2, 3); the
    generated `sent_packets` and `packet_sequence` of the server's connection for 3; which datagrams client 3 was handed, and
    client 3's generated `pending_acks`; the record under sequence number 2; the first and the third of the four datagrams
    decode; `opsX` is in range and runs, client 3's link there, the two datagrams client 3 has emitted, and the second of
    them read by the generated decoder: `Ack 1 [0, 3)` -/
theorem all :
    (gl3.outS.map look = [some (0, some (.ReliableMessages 0 [0, 1])), some (1, some (.ReliableMessages 1 [0, 1])),
        some (2, some (.ReliableMessages 0 [2])), some (3, some (.Ack 0))] ∧
      (srvConn gfin 3 gl3).sent_packets.map (fun x => (x.1, x.2.info)) =
        [(0, .ReliableMessages 0 [0, 1]), (1, .ReliableMessages 1 [0, 1]), (2, .ReliableMessages 0 [2]), (3, .Ack 0)] ∧
      (srvConn gfin 3 gl3).packet_sequence = 4 ∧ (srvConn gfin 3 gl3).connection_status = .Connected ∧
      gl3.delivC = [1, 0, 1, 2] ∧ gl3.cl.pending_acks = [⟨0, 3⟩]) ∧
    (RustSem.Map.find? (srvConn gfin 3 gl3).sent_packets 2 = some ⟨0, .ReliableMessages 0 [2]⟩ ∧
      (gl3.outS[0]?).isSome = true ∧ (gl3.outS[2]?).isSome = true ∧ (dec b0).isSome = true ∧ (dec b2).isSome = true) ∧
    (MRunInRange P opsX ∧ (GMulti.exec P opsX).isSome = true ∧ (gX.links 3).isSome = true) ∧
    (glX3.outC.map look = [some (0, some (.ReliableMessages 0 [0])), some (1, some (.Ack 2))] ∧
      glX3.tainted = false ∧ glX3.delivC = [1, 0, 1, 2]) ∧
    bA ∈ glX3.outC ∧ (dec bA).isSome = true ∧ dA.2 = .Ack 1 [⟨0, 3⟩] := by
  decide +kernel

theorem ifacts :
    gl3.outS.map look = [some (0, some (.ReliableMessages 0 [0, 1])), some (1, some (.ReliableMessages 1 [0, 1])),
      some (2, some (.ReliableMessages 0 [2])), some (3, some (.Ack 0))] ∧
    (srvConn gfin 3 gl3).sent_packets.map (fun x => (x.1, x.2.info)) =
      [(0, .ReliableMessages 0 [0, 1]), (1, .ReliableMessages 1 [0, 1]), (2, .ReliableMessages 0 [2]), (3, .Ack 0)] ∧
    (srvConn gfin 3 gl3).packet_sequence = 4 ∧ (srvConn gfin 3 gl3).connection_status = .Connected ∧
    gl3.delivC = [1, 0, 1, 2] ∧ gl3.cl.pending_acks = [⟨0, 3⟩] := all.1

/-- **`src_per_client_record_was_emitted` applied** to the record under sequence number 2 (the packet that carried the
    broadcast `[60]`, message id 2 of channel 0) of the server's connection for client 3 -/
example : ∃ (k : Nat) (bytes : GBytes) (gp : GPacket), gl3.outS[k]? = some bytes ∧ GDecodes bytes gp ∧
    (Src.renet.packet.Packet.sequence gp : Res Empty Nat) = .ok 2 ∧ gRecordOf gp = some (.ReliableMessages 0 [2]) :=
  src_per_client_record_was_emitted P ops gfin 3 gl3 grun glink3 clean3 inRange gcountersD3
    (by rw [ifacts.2.2.2.1]; intro r h; cases h) 2 ⟨0, .ReliableMessages 0 [2]⟩ all.2.1.1 (Or.inl ⟨0, [2], rfl⟩)

/-- **`src_per_client_acks_only_delivered` applied**: client 3 has `[0, 3)` pending — each of 0, 1, 2 is the sequence number of
    a datagram with index in `delivC = [1, 0, 1, 2]` -/
example : GDelivSeq gl3 0 ∧ GDelivSeq gl3 1 ∧ GDelivSeq gl3 2 := by
  have h := (src_per_client_acks_only_delivered P ops gfin 3 gl3 grun glink3 clean3 inRange).1
  have e : gl3.cl.pending_acks = [⟨0, 3⟩] := ifacts.2.2.2.2.2
  exact ⟨h 0 ⟨⟨0, 3⟩, by rw [e]; exact List.mem_singleton.mpr rfl, by decide, by decide⟩,
    h 1 ⟨⟨0, 3⟩, by rw [e]; exact List.mem_singleton.mpr rfl, by decide, by decide⟩,
    h 2 ⟨⟨0, 3⟩, by rw [e]; exact List.mem_singleton.mpr rfl, by decide, by decide⟩⟩
example : ∀ k ∈ gl3.delivC, k < gl3.outS.length :=
  (src_per_client_acks_only_delivered P ops gfin 3 gl3 grun glink3 clean3 inRange).2.2

theorem hb0 : gl3.outS[0]? = some b0 := some_getD all.2.1.2.1 _
theorem hb2 : gl3.outS[2]? = some b2 := some_getD all.2.1.2.2.1 _
theorem hd0 : dec b0 = some d0 := some_getD all.2.1.2.2.2.1 _
theorem hd2 : dec b2 = some d2 := some_getD all.2.1.2.2.2.2 _

/-- **`src_per_client_sequences_increase` applied** to the first and the third datagram the generated server emitted to
    client 3 (sequence numbers 0 and 2, `packet_sequence` 4) -/
example : ∃ sj sk, (Src.renet.packet.Packet.sequence d0.2 : Res Empty Nat) = .ok sj ∧
    (Src.renet.packet.Packet.sequence d2.2 : Res Empty Nat) = .ok sk ∧ sj < sk ∧ sk < (srvConn gfin 3 gl3).packet_sequence :=
  src_per_client_sequences_increase P ops gfin 3 gl3 grun glink3 clean3 inRange 0 2 b0 b2 d0.2 d2.2 (by decide) hb0 hb2
    (gdecodes_of_dec hd0) (gdecodes_of_dec hd2)

theorem inRangeX : MRunInRange P opsX := all.2.2.1.1
theorem grunX : GMulti.exec P opsX = some gX := some_getD all.2.2.1.2.1 _
theorem glinkX3 : gX.links 3 = some glX3 := some_getD all.2.2.1.2.2 _
theorem xfacts : glX3.outC.map look = [some (0, some (.ReliableMessages 0 [0])), some (1, some (.Ack 2))] ∧
    glX3.tainted = false ∧ glX3.delivC = [1, 0, 1, 2] := all.2.2.2.1
theorem hbA : bA ∈ glX3.outC := all.2.2.2.2.1
theorem hdA : dec bA = some dA := some_getD all.2.2.2.2.2.1 _
theorem hdA2 : dA.2 = .Ack 1 [⟨0, 3⟩] := all.2.2.2.2.2.2

/-- **`src_per_client_acks_only_delivered` (b) applied**: the `Ack` packet client 3 emitted in `opsX` (second datagram of
    `glX3.outC`, read by the generated decoder as `Ack 1 [0, 3)`) covers 0, 1, 2 — each the sequence number of a delivered
    datagram -/
example : GDelivSeq glX3 0 ∧ GDelivSeq glX3 1 ∧ GDelivSeq glX3 2 := by
  have hdec : GDecodes bA (.Ack 1 [⟨0, 3⟩]) := by rw [← hdA2]; exact gdecodes_of_dec hdA
  have h := (src_per_client_acks_only_delivered P opsX gX 3 glX3 grunX glinkX3 xfacts.2.1 inRangeX).2.1 bA hbA 1 [⟨0, 3⟩] hdec
  exact ⟨h 0 ⟨⟨0, 3⟩, List.mem_singleton.mpr rfl, by decide, by decide⟩,
    h 1 ⟨⟨0, 3⟩, List.mem_singleton.mpr rfl, by decide, by decide⟩,
    h 2 ⟨⟨0, 3⟩, List.mem_singleton.mpr rfl, by decide, by decide⟩⟩

end Ex

end RenetVerif.SrcPropsMultiInv
