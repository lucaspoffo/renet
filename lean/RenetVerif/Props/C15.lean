/-
  C15 — a reliable message/slice is not transmitted again earlier than `resend_time` after its previous transmission;
  it is transmitted by the first flush at which `resend_time` has elapsed while it is unacked and the budget allows;
  it is never transmitted after it was acked (= removed from `unacked`).

  All statements are about one `SendRel.getPackets s seq avail now = (s', ps, seq', avail')` (reliable.rs:94-202).
  "due" for a `last_sent` stamp `ls`:  `ls = none ∨ ∃ t, ls = some t ∧ resend ≤ now - t`.
  Lemmas: Lemmas/Flush.lean (the flush as a scan over the due candidates: `SendRel.getPackets_scan`, `greedy`).
-/
import RenetVerif.Lemmas.Flush
namespace RenetVerif.C15
open RenetVerif C

/-! ### not earlier than `resend_time` -/

/-- A small message last sent less than `resend_time` ago keeps its stamp and (keys being distinct, as in any map)
    is in no packet of this flush. -/
theorem small_not_early {s s' : SendRel} {seq avail now seq' avail' : Nat} {ps : List Packet}
    (h : s.getPackets seq avail now = (s', ps, seq', avail')) {id t : Nat} {m : Bytes}
    (hf : SMap.find? s.unacked id = some (.small m (some t))) (hlt : now - t < s.resend) :
    SMap.find? s'.unacked id = some (.small m (some t)) ∧
    ((SMap.keys s.unacked).Nodup → ∀ sq c msgs, Packet.smallReliable sq c msgs ∈ ps → ∀ x ∈ msgs, x.1 ≠ id) := by
  have hnd := smallDue_false_of_lt hlt
  refine ⟨?_, ?_⟩
  · rcases (SendRel.getPackets_entries h).find? id with ⟨h1, _⟩ | ⟨u, u', h1, h2, h3⟩
    · rw [hf] at h1; cases h1
    · rw [hf] at h1; cases h1
      cases u' with
      | small m' ls' =>
        obtain ⟨rfl, h4 | ⟨_, h4⟩⟩ := h3
        · rw [h2, h4]
        · rw [hnd] at h4; cases h4
      | sliced => exact h3.elim
  · intro hn sq c msgs hp x hx e
    rcases SendRel.getPackets_emitted h _ hp with ⟨sq', msgs', e1, h1⟩ | ⟨sq', id', i, m', n, na, nx, ak, ls, nx', ls', e1, _⟩
    · cases e1
      obtain ⟨ls, hm, hd, _⟩ := h1 x hx
      have := SMap.find?_of_mem_nodup hn hm
      rw [e, hf] at this
      cases this
      rw [hnd] at hd; cases hd
    · cases e1

/-- A slice that is acked, or was last sent less than `resend_time` ago, keeps its stamp and is in no packet of this
    flush. -/
theorem slice_not_early {s s' : SendRel} {seq avail now seq' avail' : Nat} {ps : List Packet}
    (h : s.getPackets seq avail now = (s', ps, seq', avail')) {id n na nx i : Nat} {m : Bytes} {ak : List Bool}
    {ls : List (Option Nat)}
    (hf : SMap.find? s.unacked id = some (.sliced m n na nx ak ls))
    (hskip : ak.getD i false = true ∨ ∃ t, ls.getD i none = some t ∧ now - t < s.resend) :
    (∃ nx' ls', SMap.find? s'.unacked id = some (.sliced m n na nx' ak ls') ∧ ls'.getD i none = ls.getD i none) ∧
    ((SMap.keys s.unacked).Nodup → ∀ sq c sl, Packet.reliableSlice sq c sl ∈ ps → sl.messageId = id → sl.sliceIndex ≠ i) := by
  have hno : ¬ (smallDue now s.resend (ls.getD i none) = true ∧ ak.getD i false = false) := by
    rintro ⟨a, b⟩
    rcases hskip with hs | ⟨t, e, hlt⟩
    · rw [hs] at b; cases b
    · rw [e, smallDue_false_of_lt hlt] at a; cases a
  refine ⟨?_, ?_⟩
  · rcases (SendRel.getPackets_entries h).find? id with ⟨h1, _⟩ | ⟨u, u', h1, h2, h3⟩
    · rw [hf] at h1; cases h1
    · rw [hf] at h1; cases h1
      cases u' with
      | small => exact h3.elim
      | sliced m' n' na' nx' ak' ls' =>
        obtain ⟨rfl, rfl, rfl, rfl, _, h4⟩ := h3
        refine ⟨nx', ls', h2, ?_⟩
        rcases h4 i with h5 | ⟨_, a, b⟩
        · exact h5
        · exact absurd ⟨a, b⟩ hno
  · intro hn sq c sl hp e1 e2
    rcases SendRel.getPackets_emitted h _ hp with ⟨sq', msgs', e, _⟩ | ⟨sq', id', i', m', n', na', nx', ak', ls', nx'', ls'', e, hm, _, a, b, _⟩
    · cases e
    · cases e
      simp only at e1 e2
      subst e1 e2
      have := SMap.find?_of_mem_nodup hn hm
      rw [hf] at this
      cases this
      exact hno ⟨b, a⟩

/-- Every entry is transformed by `EntryStep`: message, slice count and ack bits unchanged; each `last_sent` slot is
    either untouched or was due (and unacked) and now holds `now`.  No entry appears or disappears. -/
theorem entry_step {s s' : SendRel} {seq avail now seq' avail' : Nat} {ps : List Packet}
    (h : s.getPackets seq avail now = (s', ps, seq', avail')) (id : Nat) :
    (SMap.find? s.unacked id = none ∧ SMap.find? s'.unacked id = none) ∨
    ∃ u u', SMap.find? s.unacked id = some u ∧ SMap.find? s'.unacked id = some u' ∧ EntryStep now s.resend u u' :=
  (SendRel.getPackets_entries h).find? id

/-! ### every transmission is genuine, was due, and is stamped `now` -/

/-- Every `(id, payload)` of an emitted small-message packet is the `Small` entry stored under `id`, which was due;
    afterwards its stamp is `some now`. -/
theorem small_emitted {s s' : SendRel} {seq avail now seq' avail' : Nat} {ps : List Packet}
    (h : s.getPackets seq avail now = (s', ps, seq', avail')) (hn : (SMap.keys s.unacked).Nodup)
    {sq c : Nat} {msgs : List (Nat × Bytes)} (hp : Packet.smallReliable sq c msgs ∈ ps) :
    c = s.ch ∧ ∀ x ∈ msgs, ∃ ls, SMap.find? s.unacked x.1 = some (.small x.2 ls) ∧
      (ls = none ∨ ∃ t, ls = some t ∧ s.resend ≤ now - t) ∧
      SMap.find? s'.unacked x.1 = some (.small x.2 (some now)) :=
  SendRel.small_emitted h hn hp

/-- Every emitted slice packet is slice `i < n` of the `Sliced` entry stored under its message id, cut by the
    sender's rule, was not acked and was due; afterwards its slot holds `some now` (the table having a slot `i`). -/
theorem slice_emitted {s s' : SendRel} {seq avail now seq' avail' : Nat} {ps : List Packet}
    (h : s.getPackets seq avail now = (s', ps, seq', avail')) (hn : (SMap.keys s.unacked).Nodup)
    {sq c : Nat} {sl : Slice} (hp : Packet.reliableSlice sq c sl ∈ ps) :
    c = s.ch ∧ ∃ m na nx ak ls nx' ls',
      SMap.find? s.unacked sl.messageId = some (.sliced m sl.numSlices na nx ak ls) ∧
      sl.sliceIndex < sl.numSlices ∧ sl.payload = sliceBytes m sl.numSlices sl.sliceIndex ∧
      ak.getD sl.sliceIndex false = false ∧
      (ls.getD sl.sliceIndex none = none ∨ ∃ t, ls.getD sl.sliceIndex none = some t ∧ s.resend ≤ now - t) ∧
      SMap.find? s'.unacked sl.messageId = some (.sliced m sl.numSlices na nx' ak ls') ∧
      (sl.sliceIndex < ls.length → ls'.getD sl.sliceIndex none = some now) :=
  SendRel.slice_emitted h hn hp

/-- Genuineness (membership form, no side condition): a reliable flush emits only small-message packets
    of its own channel whose every `(id, payload)` is a `Small` entry of `unacked`, and slice packets that are slice
    `i < n` of a `Sliced` entry of `unacked`. -/
theorem genuine {s s' : SendRel} {seq avail now seq' avail' : Nat} {ps : List Packet}
    (h : s.getPackets seq avail now = (s', ps, seq', avail')) : ∀ p ∈ ps, GenuineRel s.ch s.unacked p :=
  SendRel.getPackets_genuine h

/-- … in `find?` form, for maps with distinct keys. -/
theorem genuine_find {s s' : SendRel} {seq avail now seq' avail' : Nat} {ps : List Packet}
    (h : s.getPackets seq avail now = (s', ps, seq', avail')) (hn : (SMap.keys s.unacked).Nodup) :
    ∀ p ∈ ps, GenuineRelFind s.ch s.unacked p := by
  intro p hp
  have hg := SendRel.getPackets_genuine h p hp
  cases p with
  | smallReliable sq c msgs =>
    refine ⟨hg.1, fun x hx => ?_⟩
    obtain ⟨ls, hm⟩ := hg.2 x hx
    exact ⟨ls, SMap.find?_of_mem_nodup hn hm⟩
  | reliableSlice sq c sl =>
    obtain ⟨h1, m, na, nx, ak, ls, hm, h2, h3⟩ := hg
    exact ⟨h1, m, na, nx, ak, ls, SMap.find?_of_mem_nodup hn hm, h2, h3⟩
  | smallUnreliable _ _ _ => exact hg
  | unreliableSlice _ _ _ => exact hg
  | ack _ _ => exact hg

/-! ### never after the ack -/

/-- An id absent from `unacked` — its ack removed it — occurs in no packet of the flush. -/
theorem acked_never {s s' : SendRel} {seq avail now seq' avail' : Nat} {ps : List Packet}
    (h : s.getPackets seq avail now = (s', ps, seq', avail')) {id : Nat} (hf : SMap.find? s.unacked id = none) :
    (∀ sq c msgs, Packet.smallReliable sq c msgs ∈ ps → ∀ x ∈ msgs, x.1 ≠ id) ∧
    (∀ sq c sl, Packet.reliableSlice sq c sl ∈ ps → sl.messageId ≠ id) := by
  refine ⟨?_, ?_⟩
  · intro sq c msgs hp x hx e
    have := SendRel.getPackets_genuine h _ hp
    obtain ⟨ls, hm⟩ := this.2 x hx
    rw [e] at hm
    exact SMap.find?_ne_none_of_mem hm hf
  · intro sq c sl hp e
    have := SendRel.getPackets_genuine h _ hp
    obtain ⟨_, m, na, nx, ak, ls, hm, _⟩ := this
    rw [e] at hm
    exact SMap.find?_ne_none_of_mem hm hf

/-! ### transmitted by the first flush at which it is due and the budget allows -/

/-- Small message, exact form.  "The budget allows" is the code's own test at the message's turn: after the entries
    with smaller ids (`pre`) have been served, the remaining budget covers the message length. -/
theorem small_live_at_turn {s s' : SendRel} {seq avail now seq' avail' : Nat} {ps : List Packet}
    (h : s.getPackets seq avail now = (s', ps, seq', avail'))
    {pre post : SMap Unacked} {id : Nat} {m : Bytes} {ls : Option Nat}
    (hun : s.unacked = pre ++ (id, .small m ls) :: post)
    (hdue : ls = none ∨ ∃ t, ls = some t ∧ s.resend ≤ now - t)
    (hav : m.length ≤ (relLoop s.ch now s.resend pre ⟨[], [], 0, seq, avail⟩).2.avail) :
    ∃ sq msgs, Packet.smallReliable sq s.ch msgs ∈ ps ∧ (id, m) ∈ msgs := by
  refine SendRel.taken_small h ?_
  rw [relLoop_scan, avail_pack] at hav
  rw [hun, relCands_append, relCands_cons, Unacked.cands, (smallDue_iff _ _ _).mpr hdue]
  exact mem_greedy_of_turn (t := .small id m) hav

/-- Small message, simple form: if what is left of the budget after the flush still covers the message, a due
    unacked message was transmitted by this flush. -/
theorem small_live {s s' : SendRel} {seq avail now seq' avail' : Nat} {ps : List Packet}
    (h : s.getPackets seq avail now = (s', ps, seq', avail'))
    {id : Nat} {m : Bytes} {ls : Option Nat}
    (hf : SMap.find? s.unacked id = some (.small m ls))
    (hdue : ls = none ∨ ∃ t, ls = some t ∧ s.resend ≤ now - t)
    (hav : m.length ≤ avail') :
    ∃ sq msgs, Packet.smallReliable sq s.ch msgs ∈ ps ∧ (id, m) ∈ msgs := by
  obtain ⟨pre, post, hun⟩ := List.append_of_mem (SMap.mem_of_find? hf)
  refine SendRel.taken_small h ?_
  rw [SendRel.getPackets_scan] at h
  cases h
  rw [hun, relCands_append, relCands_cons, Unacked.cands, (smallDue_iff _ _ _).mpr hdue] at hav ⊢
  exact mem_greedy_of_left (t := .small id m) hav

/-- Slice, exact form.  The code accepts a slice when at least `SLICE_SIZE` bytes of budget remain at its turn — after
    the entries `pre` and, inside this message's loop `for i in 0..n`, after the loop indices `a` that precede `i0`;
    the slice handled at loop index `i0` is `(next_slice_to_send + i0) % n`. -/
theorem slice_live_at_turn {s s' : SendRel} {seq avail now seq' avail' : Nat} {ps : List Packet}
    (h : s.getPackets seq avail now = (s', ps, seq', avail'))
    {pre post : SMap Unacked} {id n na nx : Nat} {m : Bytes} {ak : List Bool} {ls : List (Option Nat)}
    {a b : List Nat} {i0 : Nat}
    (hun : s.unacked = pre ++ (id, .sliced m n na nx ak ls) :: post)
    (hr : List.range n = a ++ i0 :: b)
    (hak : ak.getD ((nx + i0) % n) false = false)
    (hdue : ls.getD ((nx + i0) % n) none = none ∨ ∃ t, ls.getD ((nx + i0) % n) none = some t ∧ s.resend ≤ now - t)
    (hav : SLICE_SIZE ≤ (slicedLoop s.ch id now s.resend m n nx ak a
      (ls, nx, (relLoop s.ch now s.resend pre ⟨[], [], 0, seq, avail⟩).2)).2.2.avail) :
    ∃ sq, Packet.reliableSlice sq s.ch ⟨id, (nx + i0) % n, n, sliceBytes m n ((nx + i0) % n)⟩ ∈ ps := by
  refine SendRel.taken_slice h ?_
  -- the loop indices before `i0` hit distinct slots, so the slice loop over them is the scan over their candidates
  have hnd : (a.map fun i0 => (nx + i0) % n).Nodup := by
    have := nodup_loop_idx n nx
    rw [hr, List.map_append, List.nodup_append] at this
    exact this.1
  rw [slicedLoop_scan _ _ _ _ _ _ _ _ _ _ _ _ hnd, relLoop_scan, avail_pack, avail_pack, Nat.sub_sub, ← costSum_append,
    ← greedy_append] at hav
  have := mem_greedy_of_turn (t := .slice id m n ((nx + i0) % n))
    (B := sliceCands now s.resend id m n nx ak ls b ++ relCands now s.resend post) hav
  rw [hun, relCands_append, relCands_cons, Unacked.cands, hr, sliceCands, List.map_append, List.map_cons,
    hak, (smallDue_iff _ _ _).mpr hdue]
  simp only [List.append_assoc, List.cons_append] at this ⊢
  exact this

/-- Slice, simple form: if at least `SLICE_SIZE` bytes of budget are left after the flush, every due unacked slice of
    every sliced message was transmitted by this flush. -/
theorem slice_live {s s' : SendRel} {seq avail now seq' avail' : Nat} {ps : List Packet}
    (h : s.getPackets seq avail now = (s', ps, seq', avail'))
    {id n na nx i : Nat} {m : Bytes} {ak : List Bool} {ls : List (Option Nat)}
    (hf : SMap.find? s.unacked id = some (.sliced m n na nx ak ls)) (hi : i < n)
    (hak : ak.getD i false = false)
    (hdue : ls.getD i none = none ∨ ∃ t, ls.getD i none = some t ∧ s.resend ≤ now - t)
    (hav : SLICE_SIZE ≤ avail') :
    ∃ sq, Packet.reliableSlice sq s.ch ⟨id, i, n, sliceBytes m n i⟩ ∈ ps := by
  obtain ⟨pre, post, hun⟩ := List.append_of_mem (SMap.mem_of_find? hf)
  obtain ⟨i0, hi0, rfl⟩ := exists_loop_index nx n i hi
  obtain ⟨a, b, hr⟩ := List.append_of_mem (List.mem_range.mpr hi0)
  refine SendRel.taken_slice h ?_
  rw [SendRel.getPackets_scan] at h
  cases h
  rw [hun, relCands_append, relCands_cons, Unacked.cands, hr, sliceCands, List.map_append, List.map_cons,
    hak, (smallDue_iff _ _ _).mpr hdue] at hav ⊢
  simp only [List.append_assoc, List.cons_append] at hav ⊢
  rw [← List.append_assoc] at hav ⊢
  exact mem_greedy_of_left (t := .slice id m n ((nx + i0) % n)) hav

/-! ### the unreliable channel emits only what was queued -/

/-- Every packet of an unreliable flush is either a small-message packet of the channel whose messages are queued
    messages of at most `SLICE_SIZE` bytes, or slice `i < n` of a queued message `m` longer than `SLICE_SIZE` with
    `n = div_ceil(len, SLICE_SIZE)`, carried under a message id drawn from `[sliced_message_id, sliced_message_id')`
    — and then all `n` slices of `m` under that id are among the packets of this same flush. -/
theorem unreliable_genuine {s s' : SendUnrel} {seq avail seq' avail' : Nat} {ps : List Packet}
    (h : s.getPackets seq avail = (s', ps, seq', avail')) :
    s.slicedId ≤ s'.slicedId ∧ ∀ p ∈ ps, UnrelPktOK s.ch s.queue s.slicedId s'.slicedId ps p :=
  SendUnrel.getPackets_emitted h

/-! ### non-vacuity -/

def mk (n : Nat) (b : UInt8) : Bytes := List.replicate n b

/-- a channel (resend time 100) with: a small message never sent; a small message sent at t = 960 (not due at
    now = 1000); a 3-slice message whose slice 0 is acked, slice 1 was sent at 950 (not due) and slice 2 at 800 (due) -/
def exRel : SendRel :=
  ⟨2, [(0, .small (mk 5 1) none), (1, .small (mk 6 2) (some 960)),
       (2, .sliced (mk 2500 3) 3 1 1 [true, false, false] [some 700, some 950, some 800])], 3, 100, 100000, 2511⟩

set_option maxRecDepth 100000 in
/-- the hypotheses of the theorems above are met by this state, and the flush at `now = 1000` with a budget of 5000
    sends exactly message 0 and slice 2 of message 2 -/
example : (SMap.keys exRel.unacked).Nodup ∧ exRel.WFd ∧
    SMap.find? exRel.unacked 1 = some (.small (mk 6 2) (some 960)) ∧ 1000 - 960 < exRel.resend ∧
    (exRel.getPackets 4 5000 1000).2.1 =
      [Packet.reliableSlice 4 2 ⟨2, 2, 3, sliceBytes (mk 2500 3) 3 2⟩, Packet.smallReliable 5 2 [(0, mk 5 1)]] ∧
    SLICE_SIZE ≤ (exRel.getPackets 4 5000 1000).2.2.2 ∧
    SMap.find? (exRel.getPackets 4 5000 1000).1.unacked 2 =
      some (.sliced (mk 2500 3) 3 1 3 [true, false, false] [some 700, some 950, some 1000]) := by decide +kernel

end RenetVerif.C15
