/-
  C04 (anti-replay) stated DIRECTLY about the generated `ReplayProtection` of
  `Generated/Src/Replay.lean` (the Lean text derived from `renetcode/src/replay_protection.rs`).
  The model (`Netcode.RP`, `RP.Inv`) appears only in the proofs:
  `SrcTieReplay` (generated = model on `WfRP` states) ∘ `Props/C04` (`no_reaccept`, `window_inv_*`).

  `WfRP st` is intrinsic: the `[u64; 256]` array has 256 entries.  The excluded point of C04 is kept: sequence
  `2^64-1` is the window's EMPTY marker (`sentinel_collision`), so the statements speak about sequences `< 2^64-1`
  (resp. filter the sentinel out).
-/
import RenetVerif.Props.SrcTieReplay
import RenetVerif.Props.C04
import RenetVerif.Lemmas.SrcCorollaries
namespace RenetVerif.SrcProps
open RenetVerif RenetVerif.SrcEquiv RenetVerif.SrcTie RenetVerif.SrcCor
open Src.renetcode.replay_protection Netcode

namespace Replay

/-- the receive discipline of `Packet::decode` written with the GENERATED functions: for each presented sequence
    number ask `already_received`; if it says no, `advance_sequence` and record the sequence as accepted.
    Result: final window and the accepted sequences in order of acceptance. -/
def run {ε : Type} : ReplayProtection → List Nat → Res ε (ReplayProtection × List Nat)
  | st, [] => .ok (st, [])
  | st, s :: rest =>
    ReplayProtection.already_received st s >>= fun dup =>
      if dup then run st rest
      else ReplayProtection.advance_sequence st s >>= fun r =>
        run r.1 rest >>= fun q => .ok (q.1, s :: q.2)

theorem run_inv {ε : Type} (seqs : List Nat) (hs : ∀ s ∈ seqs, s < 2 ^ 64) :
    ∀ (st : ReplayProtection) (h : WfRP st) (acc0 : List Nat), RP.Inv (absRP st h) acc0 →
      ∃ st' acc, (run st seqs : Res ε _) = .ok (st', acc) ∧ ∃ h' : WfRP st',
        RP.Inv (absRP st' h') (acc.reverse ++ acc0) ∧ acc.Sublist seqs ∧
        (acc.filter (· ≠ 2 ^ 64 - 1)).Nodup ∧ ∀ s ∈ acc, s ≠ 2 ^ 64 - 1 → s ∉ acc0 := by
  induction seqs with
  | nil =>
    intro st h acc0 hinv
    exact ⟨st, [], rfl, h, by simpa using hinv, List.Sublist.refl _, by simp, by simp⟩
  | cons s rest ih =>
    intro st h acc0 hinv
    have hs' : s < 2 ^ 64 := hs s (by simp)
    have hrest : ∀ x ∈ rest, x < 2 ^ 64 := fun x hx => hs x (by simp [hx])
    unfold run
    rw [replay_already_received st h s hs', Res.bind_ok]
    cases hdup : (absRP st h).alreadyReceived s with
    | true =>
      obtain ⟨st', acc, hr, h', hinv', hsub, hnd, hdis⟩ := ih hrest st h acc0 hinv
      exact ⟨st', acc, by simpa using hr, h', hinv', hsub.cons _, hnd, hdis⟩
    | false =>
      obtain ⟨st1, h1, hadv, habs⟩ := replay_advance_sequence (ε := ε) st h s hs'
      have hinv1 : RP.Inv (absRP st1 h1) (s :: acc0) := by
        rw [habs]; exact C04.window_inv_advance hinv hs' hdup
      obtain ⟨st', acc, hr, h', hinv', hsub, hnd, hdis⟩ := ih hrest st1 h1 (s :: acc0) hinv1
      refine ⟨st', s :: acc, ?_, h', ?_, hsub.cons_cons _, ?_, ?_⟩
      · simp only [Bool.false_eq_true, if_false, hadv, Res.bind_ok, hr]
      · simpa [List.reverse_cons, List.append_assoc] using hinv'
      · by_cases hsen : s = 2 ^ 64 - 1
        · simpa [List.filter_cons, hsen] using hnd
        · rw [List.filter_cons, if_pos (by simpa using hsen), List.nodup_cons]
          refine ⟨fun hm => ?_, hnd⟩
          have hm' := (List.mem_filter.1 hm).1
          exact hdis s hm' hsen (by simp)
      · intro x hx hne hx0
        rcases List.mem_cons.1 hx with rfl | hx
        · -- `x` was accepted although it is in `acc0`: contradicts `no_reaccept`
          rw [C04.no_reaccept hinv hx0 hne] at hdup; cases hdup
        · exact hdis x hx hne (by simp [hx0])

end Replay

/-- **C04, one step (no sequence accepted twice).**  On a well-formed window, `advance_sequence(s)` does not panic,
    keeps the window well-formed, and afterwards `already_received(s)` answers `true` — for every `u64` sequence
    except the EMPTY marker `2^64-1`. -/
theorem replay_advance_then_already_received {ε : Type} (st : ReplayProtection) (h : WfRP st) (s : Nat)
    (hs : s < 2 ^ 64 - 1) :
    ∃ st', (ReplayProtection.advance_sequence st s : Res ε _) = .ok (st', ()) ∧ WfRP st' ∧
      (ReplayProtection.already_received st' s : Res ε Bool) = .ok true := by
  obtain ⟨st', h', hadv, habs⟩ := replay_advance_sequence (ε := ε) st h s (by omega)
  refine ⟨st', hadv, h', ?_⟩
  rw [replay_already_received st' h' s (by omega), habs, RP.alreadyReceived_advance_self _ (by omega)]

/-- **C04, never panics.**  Both window functions return normally on every well-formed window and every `u64`. -/
theorem replay_never_panics {ε : Type} (st : ReplayProtection) (h : WfRP st) (s : Nat) (hs : s < 2 ^ 64) :
    NoPanic (ReplayProtection.already_received st s : Res ε Bool) ∧
    NoPanic (ReplayProtection.advance_sequence st s : Res ε _) := by
  obtain ⟨st', _, hadv, _⟩ := replay_advance_sequence (ε := ε) st h s hs
  exact ⟨noPanic_of_eq_ok (replay_already_received st h s hs), noPanic_of_eq_ok hadv⟩

/-- **C04, run level (each value accepted at most once).**  Start from `ReplayProtection::new()` and present ANY list
    of `u64` sequence numbers (replays, reordering, …) to the generated `already_received` / `advance_sequence` pair
    in the order `decode` uses them: the run never panics, and the accepted sequences (a sub-list of the presented
    ones) contain no value twice — the EMPTY marker `2^64-1` aside. -/
theorem replay_run_accepts_at_most_once {ε : Type} (seqs : List Nat) (hs : ∀ s ∈ seqs, s < 2 ^ 64) :
    ∃ st0 st' acc, (ReplayProtection.new : Res ε _) = .ok st0 ∧ (Replay.run st0 seqs : Res ε _) = .ok (st', acc) ∧
      WfRP st' ∧ acc.Sublist seqs ∧ (acc.filter (· ≠ 2 ^ 64 - 1)).Nodup := by
  obtain ⟨st0, h0, hnew, habs⟩ := replay_new (ε := ε)
  obtain ⟨st', acc, hr, h', _, hsub, hnd, _⟩ :=
    Replay.run_inv (ε := ε) seqs hs st0 h0 [] (by rw [habs]; exact C04.window_inv_new)
  exact ⟨st0, st', acc, hnew, hr, h', hsub, hnd⟩

/-- … and after the run every accepted sequence (sentinel aside) is reported as already received by the final
    window: a later replay of any of them is rejected. -/
theorem replay_run_then_rejected {ε : Type} (seqs : List Nat) (hs : ∀ s ∈ seqs, s < 2 ^ 64) {st0 st' : ReplayProtection}
    {acc : List Nat} (hnew : (ReplayProtection.new : Res ε _) = .ok st0)
    (hr : (Replay.run st0 seqs : Res ε _) = .ok (st', acc)) :
    ∀ s ∈ acc, s ≠ 2 ^ 64 - 1 → (ReplayProtection.already_received st' s : Res ε Bool) = .ok true := by
  obtain ⟨st0', h0, hnew', habs⟩ := replay_new (ε := ε)
  rw [hnew] at hnew'; cases hnew'
  obtain ⟨st'', acc', hr', h', hinv, hsub, _, _⟩ :=
    Replay.run_inv (ε := ε) seqs hs st0 h0 [] (by rw [habs]; exact C04.window_inv_new)
  rw [hr] at hr'; cases hr'
  intro s hm hne
  have hlt : s < 2 ^ 64 := hs s (hsub.subset hm)
  rw [replay_already_received st' h' s hlt, C04.no_reaccept hinv (by simpa using hm) hne]

/-! ### examples (evaluated on the generated text) -/

/-- the window after `new(); advance(5); advance(300)`: both are now rejected, 45 (255 behind) is not -/
example : ((ReplayProtection.new >>= fun st => ReplayProtection.advance_sequence st 5 >>= fun r =>
      ReplayProtection.advance_sequence r.1 300 >>= fun r => ReplayProtection.already_received r.1 5) : Res Empty Bool) =
    .ok true := by decide +kernel
example : ((ReplayProtection.new >>= fun st => ReplayProtection.advance_sequence st 5 >>= fun r =>
      ReplayProtection.advance_sequence r.1 300 >>= fun r => ReplayProtection.already_received r.1 45) : Res Empty Bool) =
    .ok false := by decide +kernel
/-- replays and reordering: 7, 3, 7, 300, 3, 7, 44 — each value accepted once; 44 is 256 behind 300 and rejected -/
example : okSnd ((ReplayProtection.new >>= fun st => Replay.run st [7, 3, 7, 300, 3, 7, 44]) : Res Empty _)
    = some [7, 3, 300] := by decide +kernel
example : ∃ st0 st' acc, (ReplayProtection.new : Res Empty _) = .ok st0 ∧
    (Replay.run st0 [7, 3, 7, 300, 3, 7, 44] : Res Empty _) = .ok (st', acc) ∧ WfRP st' ∧
    acc.Sublist [7, 3, 7, 300, 3, 7, 44] ∧ (acc.filter (· ≠ 2 ^ 64 - 1)).Nodup :=
  replay_run_accepts_at_most_once _ (by decide)
/-- the excluded point is real in the generated code too: `2^64-1` is accepted, and accepted again -/
example : okSnd ((ReplayProtection.new >>= fun st => Replay.run st [2 ^ 64 - 1, 2 ^ 64 - 1]) : Res Empty _)
    = some [2 ^ 64 - 1, 2 ^ 64 - 1] := by decide +kernel

end RenetVerif.SrcProps
