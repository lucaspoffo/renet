/-
  C07 (hostile input never panics) stated DIRECTLY about the generated `ConnectToken::read` /
  `PrivateConnectToken::read` of `Generated/Src/NcConnToken.lean` (derived from `renetcode/src/token.rs`).
  The model appears only in the proofs: `SrcTieNcConnToken` ∘ `Props/C07.connect_token_read_total`.
-/
import RenetVerif.Props.SrcTieNcConnToken
import RenetVerif.Props.SrcPropsNcAddr
import RenetVerif.Props.C07
namespace RenetVerif.SrcProps
open RenetVerif RenetVerif.SrcEquiv RenetVerif.SrcTie RenetVerif.SrcCor RenetVerif.RustSem

/-- **C07, `ConnectToken::read` never panics**: on EVERY byte list and every cursor position inside it the generated
    reader returns a token, `InvalidVersion` or an `io::Error`. -/
theorem nc_connect_token_read_never_panics (l : List Nat) (hl : BytesOk l) (pos : Nat) (hpos : pos ≤ l.length) :
    NoPanic (Src.renetcode.token.ConnectToken.read ⟨l, pos⟩) := by
  have h := nc_conn_token_read (rest := (ofNats l).drop pos) (buf := ofNats l) (List.drop_suffix _ _)
  rw [rcur_ofNats l hl pos hpos] at h
  rw [← noPanic_forget, ← noPanic_mapRes (f := fun x => x.2) (g := id), h, noPanic_mapRes]
  exact fun site => C07.connect_token_read_total _ site

/-- **C07, `PrivateConnectToken::read` never panics** (the decrypted private part of a connection request) -/
theorem nc_private_token_read_never_panics (l : List Nat) (hl : BytesOk l) (pos : Nat) (hpos : pos ≤ l.length) :
    NoPanic (Src.renetcode.token.PrivateConnectToken.read ⟨l, pos⟩) := by
  have h := nc_private_token_read (rest := (ofNats l).drop pos) (buf := ofNats l) (List.drop_suffix _ _)
  rw [rcur_ofNats l hl pos hpos] at h
  rw [← noPanic_forget, ← noPanic_mapRes (f := fun x => x.2) (g := id), h]
  cases Netcode.PrivateConnectToken.read ((ofNats l).drop pos) with
  | none => exact noPanic_err _
  | some x => exact noPanic_ok _

/-- hostile inputs evaluated on the generated text: empty, truncated after the client id, wrong version string -/
example : (Src.renetcode.token.ConnectToken.read ⟨[], 0⟩).forget = .err (.IoError .opaque) := by decide +kernel
example : (Src.renetcode.token.ConnectToken.read ⟨[1, 2, 3, 4, 5, 6, 7, 8, 78], 0⟩).forget = .err (.IoError .opaque) := by
  decide +kernel
example : (Src.renetcode.token.ConnectToken.read ⟨List.replicate 2048 65, 0⟩).forget = .err .InvalidVersion := by
  decide +kernel
example : NoPanic (Src.renetcode.token.ConnectToken.read ⟨List.replicate 2048 65, 7⟩) :=
  nc_connect_token_read_never_panics _ (by decide +kernel) 7 (by rw [List.length_replicate]; decide)
example : (Src.renetcode.token.PrivateConnectToken.read ⟨List.replicate 100 255, 0⟩).forget = .err .opaque := by
  decide +kernel

end RenetVerif.SrcProps
