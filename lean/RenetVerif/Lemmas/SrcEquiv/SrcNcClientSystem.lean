/-
  The netcode CLIENT TRACE SYSTEM over the GENERATED code (`Generated/Src/NcClient.lean`, translated from
  `renetcode/src/client.rs`): the state of `GNcC` holds a generated `NetcodeClient` struct, created by the generated
  `NetcodeClient::new(current_time, ClientAuthentication::Secure { connect_token }, ..)` (the four random inputs of the
  `Unsecure` variant are explicit parameters of the generated `new`; they are not read for `Secure`) and driven only through the
  generated `update`, `process_packet`, `generate_payload_packet`, `disconnect`; plus the ghost log `outs` of everything these
  calls returned (datagrams to send, payloads surfaced, errors).

  The operations `CliOp`: `update(d)` | `packet(bytes)` — ANY byte string — | `sendPayload(p)` | `disconnect`, in any order.
  `MNcC` is the same system over the model (`Netcode/Client.lean`; on the three operations of `NcLive3.COp` it is
  `NcLive3.cstep`, see `mcrun_runCOps`).  `SimNcC`: generated client = `reprNC out (model client)` for SOME scratch buffer
  `out` of `NETCODE_MAX_PACKET_BYTES` bytes, output logs equal up to `reprMCOut`.

  `crun_sim` / `crun_sim_conv` / `cexec_sim`: under the range side condition `CliInRange tok ops` — the token's
  `timeout_seconds` is an `i32` (`< 2^31`; the model keeps an `Int`) and every datagram handed to `process_packet` is shorter
  than `2^64 - 16` bytes; nothing else: the rest of what the closed ties need is the model invariant `CliInv`
  (`Lemmas/SrcEquiv/TrInv.lean`), clock / counter overflow unwinds on both sides — the generated run and the model run
  succeed together and end in related states.
-/
import RenetVerif.Props.SrcTieNcClient
import RenetVerif.Props.SrcTieTrInv
import RenetVerif.Lemmas.NcLive3
namespace RenetVerif.SrcNcClientSystem
open RenetVerif RenetVerif.SrcEquiv RenetVerif.RustSem RenetVerif.Netcode

inductive CliOp where
  | update (d : Nat)
  | packet (buf : Bytes)
  | sendPayload (p : Bytes)
  | disconnect
  deriving Repr, DecidableEq

def ofC : NcLive3.COp → CliOp
  | .update d => .update d
  | .packet buf => .packet buf
  | .sendPayload p => .sendPayload p

inductive GCOut where
  /-- `update`: the datagram to send, if any -/
  | sent (o : Option (List Nat × RustSem.SocketAddr))
  /-- `process_packet`: the payload surfaced, if any -/
  | received (p : Option (List Nat))
  /-- `generate_payload_packet` / `disconnect`: `Ok((addr, datagram))` -/
  | payload (r : RustSem.SocketAddr × List Nat)
  | payloadErr (e : SNErr)
  | disconnected (r : RustSem.SocketAddr × List Nat)
  | disconnectErr (e : SNErr)
  deriving Repr, DecidableEq

structure GNcC where
  cli : SNetcodeClient
  outs : List GCOut

/-- generated `NetcodeClient::new` with `ClientAuthentication::Secure` (`none`: it panicked — a token without server
    address — or returned `Err`) -/
def GNcC.init (a : AEAD) (ct : Nat) (tok : Netcode.ConnectToken) (r1 r2 r3 r4 : List Nat) : Option GNcC :=
  match @Src.renetcode.client.NetcodeClient.new (aeadOf a) ct (.Secure (reprTok tok)) r1 r2 r3 r4 with
  | .ok c => some { cli := c, outs := [] }
  | _ => none

/-- one operation, through the generated functions only; `none` = the generated function panicked -/
def GNcC.step (a : AEAD) (g : GNcC) : CliOp → Option GNcC
  | .update d =>
    match @Src.renetcode.client.NetcodeClient.update (aeadOf a) Empty g.cli d with
    | .ok (c', o) => some { cli := c', outs := g.outs ++ [.sent o] }
    | _ => none
  | .packet buf =>
    match @Src.renetcode.client.NetcodeClient.process_packet (aeadOf a) Empty g.cli (toNats buf) with
    | .ok (c', _, p) => some { cli := c', outs := g.outs ++ [.received p] }
    | _ => none
  | .sendPayload p =>
    match @Src.renetcode.client.NetcodeClient.generate_payload_packet (aeadOf a) g.cli (toNats p) with
    | .ok (c', r) => some { cli := c', outs := g.outs ++ [.payload r] }
    | .err (e, c') => some { cli := c', outs := g.outs ++ [.payloadErr e] }
    | .panic _ => none
  | .disconnect =>
    match @Src.renetcode.client.NetcodeClient.disconnect (aeadOf a) g.cli with
    | .ok (c', r) => some { cli := c', outs := g.outs ++ [.disconnected r] }
    | .err (e, c') => some { cli := c', outs := g.outs ++ [.disconnectErr e] }
    | .panic _ => none

def GNcC.run (a : AEAD) (g : GNcC) : List CliOp → Option GNcC
  | [] => some g
  | op :: ops =>
    match g.step a op with
    | some g' => g'.run a ops
    | none => none

def GNcC.exec (a : AEAD) (ct : Nat) (tok : Netcode.ConnectToken) (r1 r2 r3 r4 : List Nat) (ops : List CliOp) : Option GNcC :=
  match GNcC.init a ct tok r1 r2 r3 r4 with
  | some g => g.run a ops
  | none => none

inductive MCOut where
  | sent (o : Option (Bytes × Addr))
  | received (p : Option Bytes)
  | payload (r : Addr × Bytes)
  | payloadErr (e : NetcodeError)
  | disconnected (r : Addr × Bytes)
  | disconnectErr (e : NetcodeError)

def reprMCOut : MCOut → GCOut
  | .sent o => .sent (o.map fun x => (toNats x.1, reprAddr x.2))
  | .received p => .received (p.map toNats)
  | .payload r => .payload (reprAddr r.1, toNats r.2)
  | .payloadErr e => .payloadErr (reprNErr e)
  | .disconnected r => .disconnected (reprAddr r.1, toNats r.2)
  | .disconnectErr e => .disconnectErr (reprNErr e)

structure MNcC where
  cli : Netcode.NetcodeClient
  outs : List MCOut

def MNcC.init (ct : Nat) (tok : Netcode.ConnectToken) : Option MNcC :=
  match Netcode.NetcodeClient.new ct tok with
  | .ok c => some { cli := c, outs := [] }
  | _ => none

/-- one model operation: the result and the new client; `none` = the call unwound -/
def mcstep (a : AEAD) (c : Netcode.NetcodeClient) : CliOp → Option (MCOut × Netcode.NetcodeClient)
  | .update d =>
    match c.update a d with
    | .ok (o, c') => some (.sent o, c')
    | _ => none
  | .packet buf =>
    match c.processPacket a buf with
    | .ok (p, c') => some (.received p, c')
    | _ => none
  | .sendPayload p =>
    match c.generatePayloadPacket a p with
    | .ok (r, c') => some (.payload r, c')
    | .err e => some (.payloadErr e, c)
    | .panic _ => none
  | .disconnect =>
    match (c.disconnect a).1 with
    | .ok r => some (.disconnected r, (c.disconnect a).2)
    | .err e => some (.disconnectErr e, (c.disconnect a).2)
    | .panic _ => none

def MNcC.step (a : AEAD) (m : MNcC) (op : CliOp) : Option MNcC :=
  match mcstep a m.cli op with
  | some (r, c') => some { cli := c', outs := m.outs ++ [r] }
  | none => none

def MNcC.run (a : AEAD) (m : MNcC) : List CliOp → Option MNcC
  | [] => some m
  | op :: ops =>
    match m.step a op with
    | some m' => m'.run a ops
    | none => none

def MNcC.exec (a : AEAD) (ct : Nat) (tok : Netcode.ConnectToken) (ops : List CliOp) : Option MNcC :=
  match MNcC.init ct tok with
  | some m => m.run a ops
  | none => none

structure SimNcC (m : MNcC) (g : GNcC) : Prop where
  cli : ∃ out, out.length = C.NETCODE_MAX_PACKET_BYTES ∧ g.cli = reprNC out m.cli
  outs : g.outs = m.outs.map reprMCOut

def CliOpInRange : CliOp → Prop
  | .packet buf => buf.length + 16 < 2 ^ 64
  | _ => True

def CliOpsInRange (ops : List CliOp) : Prop := ∀ op ∈ ops, CliOpInRange op

def CliInRange (tok : Netcode.ConnectToken) (ops : List CliOp) : Prop :=
  tok.timeoutSeconds < 2 ^ 31 ∧ CliOpsInRange ops

instance (op : CliOp) : Decidable (CliOpInRange op) := by cases op <;> unfold CliOpInRange <;> infer_instance
instance (ops : List CliOp) : Decidable (CliOpsInRange ops) := by unfold CliOpsInRange; infer_instance
instance (tok : Netcode.ConnectToken) (ops : List CliOp) : Decidable (CliInRange tok ops) := by
  unfold CliInRange; infer_instance

theorem SimNcC.next {m : MNcC} {g : GNcC} (hsim : SimNcC m g) {c' : Netcode.NetcodeClient} {out' : List Nat}
    (ho' : out'.length = C.NETCODE_MAX_PACKET_BYTES) (r : MCOut) :
    SimNcC ⟨c', m.outs ++ [r]⟩ ⟨reprNC out' c', g.outs ++ [reprMCOut r]⟩ :=
  ⟨⟨out', ho', rfl⟩, by simp only [hsim.outs, List.map_append, List.map_cons, List.map_nil]⟩

theorem cstep_sim (a : AEAD) (hl : a.Laws) {m : MNcC} {g : GNcC} (hi : CliInv m.cli) (hsim : SimNcC m g) (op : CliOp)
    (hop : CliOpInRange op) :
    match m.step a op with
    | some m' => ∃ g', g.step a op = some g' ∧ SimNcC m' g'
    | none => g.step a op = none := by
  obtain ⟨gc, gouts⟩ := g
  obtain ⟨out, hout, hs⟩ := hsim.cli
  dsimp only at hs
  subst hs
  cases op with
  | update d =>
    have tie := SrcTie.nc_client_update (ε := Empty) a hl out hout m.cli hi.tmo ((SrcTie.nc_cinv_cli_inv a).idx hi) d
    unfold MNcC.step mcstep GNcC.step
    dsimp only
    generalize m.cli.update a d = M at tie ⊢
    rcases M with ⟨o, c'⟩ | e | msg
    · obtain ⟨out', ho', e⟩ := tie
      rw [e]
      exact ⟨_, rfl, hsim.next ho' (.sent o)⟩
    · exact nomatch e
    · obtain ⟨m', e⟩ := tie
      rw [e]
  | packet buf =>
    have tie := SrcTie.nc_client_process_packet (ε := Empty) a hl out m.cli buf hop
    unfold MNcC.step mcstep GNcC.step
    dsimp only
    generalize m.cli.processPacket a buf = M at tie ⊢
    rcases M with ⟨p, c'⟩ | e | msg
    · obtain ⟨buf', e⟩ := tie
      rw [e]
      exact ⟨_, rfl, hsim.next hout (.received p)⟩
    · exact nomatch e
    · obtain ⟨m', e⟩ := tie
      rw [e]
  | sendPayload p =>
    have tie := SrcTie.nc_client_generate_payload_packet a hl out hout m.cli p
    unfold MNcC.step mcstep GNcC.step
    dsimp only
    generalize m.cli.generatePayloadPacket a p = M at tie ⊢
    rcases M with ⟨x, c'⟩ | e | msg
    · obtain ⟨out', ho', e⟩ := tie
      rw [e]
      exact ⟨_, rfl, hsim.next ho' (.payload x)⟩
    · obtain ⟨out', ho', e'⟩ := tie
      rw [e']
      exact ⟨_, rfl, hsim.next ho' (.payloadErr e)⟩
    · obtain ⟨m', e⟩ := tie
      rw [e]
  | disconnect =>
    have tie := SrcTie.nc_client_disconnect a hl out hout m.cli
    unfold MNcC.step mcstep GNcC.step
    dsimp only
    generalize (m.cli.disconnect a).1 = M at tie ⊢
    rcases M with x | e | msg
    · obtain ⟨out', ho', e⟩ := tie
      rw [e]
      exact ⟨_, rfl, hsim.next ho' (.disconnected x)⟩
    · obtain ⟨out', ho', e'⟩ := tie
      rw [e']
      exact ⟨_, rfl, hsim.next ho' (.disconnectErr e)⟩
    · obtain ⟨m', e⟩ := tie
      rw [e]

section
variable {a : AEAD} {c c' : Netcode.NetcodeClient} {r : MCOut}

theorem mcstep_update {d : Nat} (h : mcstep a c (.update d) = some (r, c')) :
    ∃ o, c.update a d = .ok (o, c') ∧ r = .sent o := by
  simp only [mcstep] at h
  generalize c.update a d = M at h ⊢
  rcases M with ⟨o, c1⟩ | e | msg
  · cases h; exact ⟨o, rfl, rfl⟩
  · exact nomatch e
  · cases h

theorem mcstep_packet {buf : Bytes} (h : mcstep a c (.packet buf) = some (r, c')) :
    ∃ p, c.processPacket a buf = .ok (p, c') ∧ r = .received p := by
  simp only [mcstep] at h
  generalize c.processPacket a buf = M at h ⊢
  rcases M with ⟨p, c1⟩ | e | msg
  · cases h; exact ⟨p, rfl, rfl⟩
  · exact nomatch e
  · cases h

theorem mcstep_sendPayload {p : Bytes} (h : mcstep a c (.sendPayload p) = some (r, c')) :
    (∃ x, c.generatePayloadPacket a p = .ok (x, c') ∧ r = .payload x) ∨
      ∃ e, c.generatePayloadPacket a p = .err e ∧ r = .payloadErr e ∧ c' = c := by
  simp only [mcstep] at h
  generalize c.generatePayloadPacket a p = M at h ⊢
  rcases M with ⟨x, c1⟩ | e | msg
  · cases h; exact .inl ⟨x, rfl, rfl⟩
  · cases h; exact .inr ⟨e, rfl, rfl, rfl⟩
  · cases h

theorem mcstep_disconnect (h : mcstep a c .disconnect = some (r, c')) :
    c' = (c.disconnect a).2 ∧
      ((∃ x, (c.disconnect a).1 = .ok x ∧ r = .disconnected x) ∨ ∃ e, (c.disconnect a).1 = .err e ∧ r = .disconnectErr e) := by
  simp only [mcstep] at h
  generalize (c.disconnect a).1 = M at h ⊢
  rcases M with x | e | msg
  · cases h; exact ⟨rfl, .inl ⟨x, rfl, rfl⟩⟩
  · cases h; exact ⟨rfl, .inr ⟨e, rfl, rfl⟩⟩
  · cases h

end

theorem mcstep_inv {a : AEAD} {c c' : Netcode.NetcodeClient} {op : CliOp} {r : MCOut} (hi : CliInv c)
    (h : mcstep a c op = some (r, c')) : CliInv c' := by
  have I := SrcTie.nc_cinv_cli_inv a
  cases op with
  | update d => obtain ⟨o, hm, -⟩ := mcstep_update h; exact I.update d hi hm
  | packet buf => obtain ⟨o, hm, -⟩ := mcstep_packet h; exact I.pp buf hi hm
  | sendPayload p =>
    rcases mcstep_sendPayload h with ⟨x, hm, -⟩ | ⟨e, -, -, rfl⟩
    · exact I.gen p hi hm
    · exact hi
  | disconnect => rw [(mcstep_disconnect h).1]; exact I.disc hi

theorem mstep_spec {a : AEAD} {m m' : MNcC} {op : CliOp} (h : m.step a op = some m') :
    ∃ r, mcstep a m.cli op = some (r, m'.cli) ∧ m'.outs = m.outs ++ [r] := by
  unfold MNcC.step at h
  cases hs : mcstep a m.cli op with
  | none => rw [hs] at h; cases h
  | some x =>
    obtain ⟨r, c'⟩ := x
    rw [hs] at h
    cases h
    exact ⟨r, rfl, rfl⟩

theorem inv_mstep {a : AEAD} {m m' : MNcC} {op : CliOp} (hi : CliInv m.cli) (h : m.step a op = some m') : CliInv m'.cli := by
  obtain ⟨r, hs, -⟩ := mstep_spec h
  exact mcstep_inv hi hs

theorem mrun_cons {a : AEAD} {m m' : MNcC} {op : CliOp} {ops : List CliOp} (h : m.run a (op :: ops) = some m') :
    ∃ m1, m.step a op = some m1 ∧ m1.run a ops = some m' := by
  simp only [MNcC.run] at h
  cases hs : m.step a op with
  | none => rw [hs] at h; cases h
  | some m1 => rw [hs] at h; exact ⟨m1, rfl, h⟩

theorem inv_mrun {a : AEAD} : ∀ (ops : List CliOp) {m m' : MNcC}, CliInv m.cli → m.run a ops = some m' → CliInv m'.cli := by
  intro ops
  induction ops with
  | nil => intro m m' hi h; cases h; exact hi
  | cons op ops ih =>
    intro m m' hi h
    obtain ⟨m1, hs, h⟩ := mrun_cons h
    exact ih (inv_mstep hi hs) h

theorem crun_sim_from (a : AEAD) (hl : a.Laws) : ∀ (ops : List CliOp) (m : MNcC) (g : GNcC), CliInv m.cli → SimNcC m g →
    CliOpsInRange ops →
    match m.run a ops with
    | some m' => ∃ g', g.run a ops = some g' ∧ SimNcC m' g'
    | none => g.run a ops = none := by
  intro ops
  induction ops with
  | nil => intro m g _ hsim _; exact ⟨g, rfl, hsim⟩
  | cons op ops ih =>
    intro m g hi hsim hrg
    have hstep := cstep_sim a hl hi hsim op (hrg op List.mem_cons_self)
    simp only [MNcC.run, GNcC.run]
    cases hs : m.step a op with
    | none =>
      rw [hs] at hstep
      simp only [hstep]
    | some m' =>
      rw [hs] at hstep
      obtain ⟨g', e, hsim'⟩ := hstep
      simp only [e]
      exact ih m' g' (inv_mstep hi hs) hsim' (fun o ho => hrg o (List.mem_cons_of_mem _ ho))

theorem crun_sim_of (a : AEAD) (hl : a.Laws) (ops : List CliOp) {m m' : MNcC} {g : GNcC} (hi : CliInv m.cli)
    (hsim : SimNcC m g) (hr : CliOpsInRange ops) (hm : m.run a ops = some m') :
    ∃ g', g.run a ops = some g' ∧ SimNcC m' g' := by
  have := crun_sim_from a hl ops m g hi hsim hr
  rw [hm] at this
  exact this

theorem crun_sim_conv_of (a : AEAD) (hl : a.Laws) (ops : List CliOp) {m : MNcC} {g g' : GNcC} (hi : CliInv m.cli)
    (hsim : SimNcC m g) (hr : CliOpsInRange ops) (hg : g.run a ops = some g') :
    ∃ m', m.run a ops = some m' ∧ SimNcC m' g' := by
  have := crun_sim_from a hl ops m g hi hsim hr
  rw [hg] at this
  split at this
  · rename_i m' hm
    obtain ⟨_, e, hsim'⟩ := this
    cases e
    exact ⟨m', hm, hsim'⟩
  · cases this

theorem cinit_sim (a : AEAD) (ct : Nat) (tok : Netcode.ConnectToken) (r1 r2 r3 r4 : List Nat) :
    match MNcC.init ct tok with
    | some m0 => ∃ g0, GNcC.init a ct tok r1 r2 r3 r4 = some g0 ∧ SimNcC m0 g0
    | none => GNcC.init a ct tok r1 r2 r3 r4 = none := by
  have tie := SrcTie.nc_client_new_secure a ct tok r1 r2 r3 r4
  simp only [MNcC.init, GNcC.init]
  generalize Netcode.NetcodeClient.new ct tok = M at tie ⊢
  rcases M with c | e | msg
  · rw [tie.eq_ok]
    exact ⟨_, rfl, ⟨_, List.length_replicate, rfl⟩, rfl⟩
  · rw [tie.eq_err]
  · obtain ⟨m', e⟩ := tie.panics
    rw [e]

theorem inv_minit {ct : Nat} {tok : Netcode.ConnectToken} {m0 : MNcC} (ht : tok.timeoutSeconds < 2 ^ 31)
    (h : MNcC.init ct tok = some m0) : CliInv m0.cli := by
  unfold MNcC.init at h
  split at h
  · rename_i c hc; cases h; exact SrcTie.cli_inv_new ht hc
  · cases h

theorem cexec_sim (a : AEAD) (hl : a.Laws) (ct : Nat) (tok : Netcode.ConnectToken) (r1 r2 r3 r4 : List Nat) (ops : List CliOp)
    (hr : CliInRange tok ops) :
    match MNcC.exec a ct tok ops with
    | some m => ∃ g, GNcC.exec a ct tok r1 r2 r3 r4 ops = some g ∧ SimNcC m g
    | none => GNcC.exec a ct tok r1 r2 r3 r4 ops = none := by
  have h0 := cinit_sim a ct tok r1 r2 r3 r4
  simp only [MNcC.exec, GNcC.exec]
  cases hm : MNcC.init ct tok with
  | none => rw [hm] at h0; simp only [h0]
  | some m0 =>
    rw [hm] at h0
    obtain ⟨g0, e0, hsim0⟩ := h0
    simp only [e0]
    exact crun_sim_from a hl ops m0 g0 (inv_minit hr.1 hm) hsim0 hr.2

theorem crun_sim (a : AEAD) (hl : a.Laws) (ct : Nat) (tok : Netcode.ConnectToken) (r1 r2 r3 r4 : List Nat) (ops : List CliOp)
    (m : MNcC) (hr : CliInRange tok ops) (hm : MNcC.exec a ct tok ops = some m) :
    ∃ g, GNcC.exec a ct tok r1 r2 r3 r4 ops = some g ∧ SimNcC m g := by
  have := cexec_sim a hl ct tok r1 r2 r3 r4 ops hr
  rw [hm] at this
  exact this

theorem crun_sim_conv (a : AEAD) (hl : a.Laws) (ct : Nat) (tok : Netcode.ConnectToken) (r1 r2 r3 r4 : List Nat)
    (ops : List CliOp) (g : GNcC) (hr : CliInRange tok ops) (hg : GNcC.exec a ct tok r1 r2 r3 r4 ops = some g) :
    ∃ m, MNcC.exec a ct tok ops = some m ∧ SimNcC m g := by
  have := cexec_sim a hl ct tok r1 r2 r3 r4 ops hr
  rw [hg] at this
  split at this
  · rename_i m hm
    obtain ⟨_, e, hsim⟩ := this
    cases e
    exact ⟨m, hm, hsim⟩
  · cases this

theorem inv_mexec {a : AEAD} {ct : Nat} {tok : Netcode.ConnectToken} {ops : List CliOp} {m : MNcC}
    (ht : tok.timeoutSeconds < 2 ^ 31) (h : MNcC.exec a ct tok ops = some m) : CliInv m.cli := by
  unfold MNcC.exec at h
  cases h0 : MNcC.init ct tok with
  | none => rw [h0] at h; cases h
  | some m0 => rw [h0] at h; exact inv_mrun ops (inv_minit ht h0) h

theorem cstep_of_mcstep {a : AEAD} {c c' : Netcode.NetcodeClient} {op : NcLive3.COp} {r : MCOut}
    (h : mcstep a c (ofC op) = some (r, c')) : ∃ r', NcLive3.cstep a c op = some (r', c') := by
  cases op with
  | update d => obtain ⟨o, hm, -⟩ := mcstep_update h; exact ⟨_, by rw [NcLive3.cstep, hm]⟩
  | packet buf => obtain ⟨o, hm, -⟩ := mcstep_packet h; exact ⟨_, by rw [NcLive3.cstep, hm]⟩
  | sendPayload p =>
    rcases mcstep_sendPayload h with ⟨x, hm, -⟩ | ⟨e, hm, -, rfl⟩
    · exact ⟨_, by rw [NcLive3.cstep, hm]⟩
    · exact ⟨_, by rw [NcLive3.cstep, hm]⟩

theorem mcrun_runCOps {a : AEAD} : ∀ (ops : List NcLive3.COp) {m m' : MNcC}, m.run a (ops.map ofC) = some m' →
    ∃ rs, NcLive3.runCOps a m.cli ops = some (rs, m'.cli) := by
  intro ops
  induction ops with
  | nil => intro m m' h; cases h; exact ⟨[], rfl⟩
  | cons op ops ih =>
    intro m m' h
    obtain ⟨m1, hs, h⟩ := mrun_cons h
    obtain ⟨r, hms, -⟩ := mstep_spec hs
    obtain ⟨r', hcs⟩ := cstep_of_mcstep hms
    obtain ⟨rs, hro⟩ := ih h
    exact ⟨r' :: rs, by simp only [NcLive3.runCOps, hcs, hro, Option.map_some]⟩

theorem GNcC.run_append (a : AEAD) : ∀ (ops1 ops2 : List CliOp) (g : GNcC),
    g.run a (ops1 ++ ops2) = (g.run a ops1).bind (fun g1 => g1.run a ops2) := by
  intro ops1
  induction ops1 with
  | nil => intro ops2 g; rfl
  | cons op ops ih =>
    intro ops2 g
    simp only [List.cons_append, GNcC.run]
    cases g.step a op with
    | none => rfl
    | some g1 => exact ih ops2 g1

end RenetVerif.SrcNcClientSystem
