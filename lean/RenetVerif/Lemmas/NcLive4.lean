/-
  Netcode liveness in general position (helper lemmas for Props/C18V.lean):
  Part A — the client walks through the server list of its token: any number of silent servers, each given up at the
           first `update` after the token's time-out, then a server that answers (or none: the client ends
           `Disconnected`);
  Part B — the handshake while the server also serves others: between any two steps of a round the server processes
           an arbitrary list of operations that do not concern this client (frame lemma `step_frame`);
  Part C — duplicated / late datagrams of the handshake are harmless.
-/
import RenetVerif.Lemmas.NcLive3
namespace RenetVerif.NcLive4
open RenetVerif RenetVerif.Netcode RenetVerif.Netcode.NS RenetVerif.NcLive2
open RenetVerif.NcAead.Token

/-! ## Part A : walking through the server list -/

/-- the client's silence time-out (the token's `timeout_seconds`) in nanoseconds -/
abbrev tmo (c : NetcodeClient) : Nat := fromSecs c.connectToken.timeoutSeconds.toNat

/-- One attempt at a server that stays silent: the rounds `seg` (any fates, any lengths) in which the time-out does not
    fire yet, then the round `(f, d)` in whose `update(d)` it fires and the client moves on to the address `next`. -/
structure Attempt where
  seg : List (Fate × Nat)
  f : Fate
  d : Nat
  next : Addr

def walkSched : List Attempt → List (Fate × Nat)
  | [] => []
  | x :: rest => x.seg ++ (x.f, x.d) :: walkSched rest

theorem walkSched_append (l1 l2 : List Attempt) : walkSched (l1 ++ l2) = walkSched l1 ++ walkSched l2 := by
  induction l1 with
  | nil => rfl
  | cons x rest ih => simp only [List.cons_append, walkSched, ih, List.append_assoc]

theorem walkSched_length_cons (x : Attempt) (rest : List Attempt) :
    (walkSched (x :: rest)).length = x.seg.length + 1 + (walkSched rest).length := by
  simp only [walkSched, List.length_append, List.length_cons]; omega

theorem totalTime_walk_cons (x : Attempt) (rest : List Attempt) :
    totalTime (walkSched (x :: rest)) = totalTime x.seg + x.d + totalTime (walkSched rest) := by
  simp only [walkSched, totalTime_append, totalTime]; omega

theorem walkSched_snoc (atts : List Attempt) (last : Attempt) :
    walkSched (atts ++ [last]) = walkSched atts ++ (last.seg ++ [(last.f, last.d)]) := by
  rw [walkSched_append]; rfl

theorem totalTime_walk_snoc (atts : List Attempt) (last : Attempt) :
    totalTime (walkSched (atts ++ [last])) = totalTime (walkSched atts) + (totalTime last.seg + last.d) := by
  simp only [walkSched_snoc, totalTime_append, totalTime]; omega

theorem walkSched_length_snoc (atts : List Attempt) (last : Attempt) :
    (walkSched (atts ++ [last])).length = (walkSched atts).length + (last.seg.length + 1) := by
  simp only [walkSched_snoc, List.length_append, List.length_cons, List.length_nil]

/-- the addresses the walk moves to are the next entries of the token's server list, from index `i` on -/
def Listed (addrs : List (Option Addr)) : Nat → List Addr → Prop
  | _, [] => True
  | i, n :: ns => addrs[i]? = some (some n) ∧ Listed addrs (i + 1) ns

instance (addrs : List (Option Addr)) : ∀ (i : Nat) (l : List Addr), Decidable (Listed addrs i l)
  | _, [] => isTrue trivial
  | i, n :: ns =>
    have := instDecidableListed addrs (i + 1) ns
    by unfold Listed; infer_instance

theorem listed_append {addrs : List (Option Addr)} : ∀ {i : Nat} {l1 l2 : List Addr},
    Listed addrs i (l1 ++ l2) ↔ Listed addrs i l1 ∧ Listed addrs (i + l1.length) l2
  | i, [], l2 => by simp [Listed]
  | i, n :: ns, l2 => by
    simp only [List.cons_append, Listed, List.length_cons, listed_append (i := i + 1) (l1 := ns) (l2 := l2), and_assoc]
    have : i + 1 + ns.length = i + (ns.length + 1) := by omega
    rw [this]

def lastAddr : Addr → List Addr → Addr
  | d, [] => d
  | _, n :: ns => lastAddr n ns

theorem lastAddr_ne {me : Addr} {l : List Addr} : ∀ {d : Addr}, d ≠ me → (∀ n ∈ l, n ≠ me) → lastAddr d l ≠ me := by
  induction l with
  | nil => intro d hd _; exact hd
  | cons n ns ih => intro d _ hl; exact ih (hl n List.mem_cons_self) fun m hm => hl m (List.mem_cons_of_mem _ hm)

/-- the timing of an attempt, for a client in state `c` at its beginning: the time-out does not fire during `seg`,
    fires in the round `d`, and the token's window (counted from the start of the attempt) is still open then -/
structure AttOK (c : NetcodeClient) (x : Attempt) : Prop where
  quiet : c.currentTime + totalTime x.seg ≤ c.lastPacketReceivedTime + tmo c
  fires : c.lastPacketReceivedTime + tmo c < c.currentTime + totalTime x.seg + x.d
  window : asSecs (c.currentTime + totalTime x.seg + x.d - c.connectStartTime) < tokenWindow c

/-- … for an attempt that begins with a fail-over (all timers of the client equal its clock): with `τ` the time-out and
    `W` the token's window in seconds, `seg` lasts at most `τ`, `seg` and `d` together more than `τ`, less than `W` s -/
structure AttOK' (τ W : Nat) (x : Attempt) : Prop where
  quiet : totalTime x.seg ≤ τ
  fires : τ < totalTime x.seg + x.d
  window : asSecs (totalTime x.seg + x.d) < W

instance (τ W : Nat) (x : Attempt) : Decidable (AttOK' τ W x) :=
  decidable_of_iff (totalTime x.seg ≤ τ ∧ τ < totalTime x.seg + x.d ∧ asSecs (totalTime x.seg + x.d) < W)
    ⟨fun h => ⟨h.1, h.2.1, h.2.2⟩, fun h => ⟨h.1, h.2, h.3⟩⟩

instance (c : NetcodeClient) (x : Attempt) : Decidable (AttOK c x) :=
  decidable_of_iff (c.currentTime + totalTime x.seg ≤ c.lastPacketReceivedTime + tmo c ∧
      c.lastPacketReceivedTime + tmo c < c.currentTime + totalTime x.seg + x.d ∧
      asSecs (c.currentTime + totalTime x.seg + x.d - c.connectStartTime) < tokenWindow c)
    ⟨fun h => ⟨h.1, h.2.1, h.2.2⟩, fun h => ⟨h.1, h.2, h.3⟩⟩

/-- the timing of a whole walk: the first attempt is measured from the client's current timers, every later one from
    the fail-over that begins it -/
def WalkOK (c : NetcodeClient) : List Attempt → Prop
  | [] => True
  | x :: rest => AttOK c x ∧ ∀ y ∈ rest, AttOK' (tmo c) (tokenWindow c) y

instance (c : NetcodeClient) : ∀ (atts : List Attempt), Decidable (WalkOK c atts)
  | [] => isTrue trivial
  | x :: rest => by unfold WalkOK; infer_instance

theorem attOK_of_fresh {c : NetcodeClient} {x : Attempt} {τ W : Nat} (h : AttOK' τ W x) (hτ : tmo c = τ)
    (hW : tokenWindow c = W) (h1 : c.connectStartTime = c.currentTime) (h2 : c.lastPacketReceivedTime = c.currentTime) :
    AttOK c x := by
  obtain ⟨e1, e2, e3⟩ := h
  refine ⟨by rw [h2, hτ]; omega, by rw [h2, hτ]; omega, ?_⟩
  rw [h1, hW]
  have : c.currentTime + totalTime x.seg + x.d - c.currentTime = totalTime x.seg + x.d := by omega
  rw [this]; exact e3

/-- what a stretch of `T` ns in which nothing reaches the server does to it: the clock moves (half-open sessions may
    expire), nothing else -/
structure Aged (s s' : NetcodeServer) (T : Nat) : Prop where
  time : s'.currentTime = s.currentTime + T
  clients : s'.clients = s.clients
  gseq : s'.globalSequence = s.globalSequence
  chseq : s'.challengeSequence = s.challengeSequence

theorem Aged.refl (s : NetcodeServer) : Aged s s 0 := ⟨rfl, rfl, rfl, rfl⟩
theorem Aged.trans {s1 s2 s3 : NetcodeServer} {T1 T2 : Nat} (h1 : Aged s1 s2 T1) (h2 : Aged s2 s3 T2) :
    Aged s1 s3 (T1 + T2) :=
  ⟨by rw [h2.time, h1.time]; omega, h2.clients.trans h1.clients, h2.gseq.trans h1.gseq, h2.chseq.trans h1.chseq⟩
theorem aged_tick (s : NetcodeServer) (d : Nat) : Aged s (srvTick s d) d := ⟨rfl, rfl, rfl, rfl⟩

section Walk
variable {a : AEAD} {s0 : NetcodeServer} {addr me : Addr} {t : PrivateConnectToken} {expire : Nat} {xnonce : Bytes}

theorem round_unheard {id : Nat} {c c1 : NetcodeClient} {s : NetcodeServer} {f : Fate} {d : Nat}
    {out : Option (Bytes × Addr)} (hcu : c.update a d = .ok (out, c1))
    (hup : up a addr me f out (srvTick s d) = some (.none, srvTick s d)) (hid : findClientById s.clients id = none)
    (hclk : s.currentTime + d ≤ DURATION_MAX) : round a addr me id f d (c, s) = some (c1, srvTick s d) :=
  round_intro (server_update_eq hclk) hcu hup (updateClient_absent a (findSlot_none.mpr hid))
    (down_nothing a addr f _ rfl rfl)

/-- **a round towards a silent server, no time-out yet**: the client (re)sends its request when the send-rate gate is
    open, the datagram goes to an address that is not this server's; the server only ticks.  (`id`: the id whose
    per-client tick the round performs — it is not connected.) -/
theorem silent_round (hT : TokOK a s0 t expire xnonce) {c : NetcodeClient} {s : NetcodeServer} {id T d : Nat} {f : Fate}
    (hc : CliReq a s0 t expire xnonce c) (hcb : CBudget c T) (hd : d ≤ T) (hseq : c.sequence < U64_MAX)
    (hne : c.serverAddr ≠ me) (hid : findClientById s.clients id = none) (hclk : s.currentTime + d ≤ DURATION_MAX) :
    ∃ c', round a addr me id f d (c, s) = some (c', srvTick s d) ∧ CliReq a s0 t expire xnonce c' ∧ CliSame c c' ∧
      c'.currentTime = c.currentTime + d ∧ c'.sequence ≤ c.sequence + 1 ∧ CBudget c' (T - d) := by
  obtain ⟨out, c1, hcu, hc1, hsame, htime, hsq, hcb1, hout⟩ := cli_req_update hT hc hcb hd hseq
  refine ⟨c1, round_unheard hcu ?_ hid hclk, hc1, hsame, htime, hsq, hcb1⟩
  rcases hout with ⟨rfl, _⟩ | ⟨rfl, _⟩
  · exact up_none a addr me f _
  · exact up_lost a addr me _ (Or.inr hne)

theorem silent_run (hT : TokOK a s0 t expire xnonce) {id : Nat} : ∀ (sched : List (Fate × Nat)) {c : NetcodeClient}
    {s : NetcodeServer} {T : Nat}, CliReq a s0 t expire xnonce c → CBudget c T → totalTime sched ≤ T →
    c.sequence + sched.length < U64_MAX + 1 → c.serverAddr ≠ me → findClientById s.clients id = none →
    s.currentTime + totalTime sched ≤ DURATION_MAX →
    ∃ c' s', runRounds a addr me id sched (c, s) = some (c', s') ∧ CliReq a s0 t expire xnonce c' ∧ CliSame c c' ∧
      c'.currentTime = c.currentTime + totalTime sched ∧ c'.sequence ≤ c.sequence + sched.length ∧
      CBudget c' (T - totalTime sched) ∧ Aged s s' (totalTime sched) ∧
      (SrvOpen a s0 addr t expire xnonce s → SrvOpen a s0 addr t expire xnonce s')
  | [], c, s, T, hc, hcb, _, _, _, _, _ =>
    ⟨c, s, rfl, hc, CliSame.refl c, rfl, Nat.le_refl _, hcb, Aged.refl s, fun h => h⟩
  | (f, d) :: rest, c, s, T, hc, hcb, ht, hseq, hne, hid, hclk => by
    simp only [totalTime, List.length_cons] at ht hseq hclk ⊢
    rw [← Nat.add_assoc] at hclk hseq
    obtain ⟨c1, hr, hc1, hsame1, ht1, hsq1, hcb1⟩ := silent_round (addr := addr) (me := me) (f := f) (d := d) hT hc hcb
      (Nat.le_of_add_right_le ht) (Nat.lt_of_add_right_lt (Nat.lt_of_add_lt_add_right hseq)) hne hid
      (Nat.le_of_add_right_le hclk)
    obtain ⟨c2, s2, hr2, hc2, hsame2, ht2, hsq2, hcb2, hag, hopen⟩ := silent_run hT rest hc1 hcb1
      (Nat.le_sub_of_add_le' ht) (Nat.lt_of_le_of_lt (Nat.add_le_add_right hsq1 _) (by rw [Nat.add_right_comm]; exact hseq))
      (by rw [hsame1.srv]; exact hne) (show findClientById (srvTick s d).clients id = none from hid) hclk
    refine ⟨c2, s2, by simp only [runRounds, hr, Option.bind_some, hr2], hc2, hsame1.trans hsame2,
      by rw [ht2, ht1, Nat.add_assoc], by omega, ?_, (aged_tick s d).trans hag,
      fun h => hopen (h.tick (Nat.le_of_add_right_le hclk))⟩
    rw [← Nat.sub_sub]; exact hcb2

theorem AttOK.budget {c : NetcodeClient} {x : Attempt} (h : AttOK c x) (h1 : c.connectStartTime ≤ c.currentTime)
    (h2 : c.lastPacketReceivedTime ≤ c.currentTime)
    (hclk : c.currentTime + totalTime x.seg + x.d + tmo c ≤ DURATION_MAX) : CBudget c (totalTime x.seg) := by
  exact ⟨Nat.le_trans (Nat.add_le_add_right (Nat.le_add_right _ _) _) hclk, h1, h2,
    Nat.lt_of_le_of_lt (asSecs_mono (Nat.sub_le_sub_right (Nat.le_add_right _ _) _)) h.window, Or.inr h.quiet⟩

/-- the fail-over of attempt `x` — what the headline theorems say about every attempt of a walk.  From the world `w`,
    the schedule `before` followed by the quiet rounds `x.seg` leads to a client `cb` still asking the address
    `from` (index `idx` of the token's list); its next `update(x.d)` is the one in which the time-out fires: it emits
    the connection request, addressed to `x.next`, and leaves the client in the state `failedOver cb x.d x.next`
    (index + 1, timers re-armed to the new clock value, fresh sequence number); the round leaves the server alone. -/
def FailoverStep (a : AEAD) (s0 : NetcodeServer) (addr me : Addr) (t : PrivateConnectToken) (expire : Nat)
    (xnonce : Bytes) (id : Nat) (w : NetcodeClient × NetcodeServer) (before : List (Fate × Nat)) (x : Attempt)
    (idx : Nat) (from_ : Addr) : Prop :=
  ∃ cb sb, runRounds a addr me id (before ++ x.seg) w = some (cb, sb) ∧ cb.state = .sendingConnectionRequest ∧
    cb.serverAddrIndex = idx ∧ cb.serverAddr = from_ ∧
    cb.currentTime = w.1.currentTime + totalTime before + totalTime x.seg ∧
    cb.update a x.d = .ok (some (requestBytes a s0 t expire xnonce, x.next), failedOver cb x.d x.next) ∧
    round a addr me id x.f x.d (cb, sb) = some (failedOver cb x.d x.next, srvTick sb x.d)

theorem AttOK.fires_at {c cb : NetcodeClient} {x : Attempt} (hx : AttOK c x) (hsame : CliSame c cb)
    (htm : cb.currentTime = c.currentTime + totalTime x.seg) (hpos : c.connectToken.timeoutSeconds > 0)
    (h1 : c.connectStartTime ≤ c.currentTime)
    (hclk : c.currentTime + totalTime x.seg + x.d + tmo c ≤ DURATION_MAX) :
    ClockOK cb x.d ∧ asSecs (cb.currentTime + x.d - cb.connectStartTime) < tokenWindow cb ∧
      CTimedOut cb (cb.currentTime + x.d) := by
  have hτ : tmo cb = tmo c := by unfold tmo; rw [hsame.tok]
  have hW : tokenWindow cb = tokenWindow c := by unfold tokenWindow; rw [hsame.tok]
  refine ⟨⟨by rw [htm]; exact Nat.le_of_add_right_le hclk, ?_, ?_⟩, ?_, ⟨by rw [hsame.tok]; exact hpos, ?_⟩⟩
  · rw [hsame.start, htm]
    exact Nat.le_trans h1 (Nat.le_trans (Nat.le_add_right _ _) (Nat.le_add_right _ _))
  · show cb.lastPacketReceivedTime + tmo cb ≤ DURATION_MAX
    rw [hsame.recv, hτ]; exact Nat.le_trans (Nat.le_of_lt hx.fires) (Nat.le_of_add_right_le hclk)
  · rw [hW, htm, hsame.start]; exact hx.window
  · show cb.lastPacketReceivedTime + tmo cb < cb.currentTime + x.d
    rw [hsame.recv, hτ, htm]; exact hx.fires

theorem attempt_update (hT : TokOK a s0 t expire xnonce) {id : Nat} {c : NetcodeClient} {s : NetcodeServer}
    {x : Attempt} (hc : CliReq a s0 t expire xnonce c) (hpos : c.connectToken.timeoutSeconds > 0)
    (h1 : c.connectStartTime ≤ c.currentTime) (h2 : c.lastPacketReceivedTime ≤ c.currentTime) (hx : AttOK c x)
    (hclk : c.currentTime + totalTime x.seg + x.d + tmo c ≤ DURATION_MAX)
    (hseq : c.sequence + x.seg.length < U64_MAX) (hne : c.serverAddr ≠ me)
    (hid : findClientById s.clients id = none) (hsclk : s.currentTime + totalTime x.seg + x.d ≤ DURATION_MAX) :
    ∃ cb sb, runRounds a addr me id x.seg (c, s) = some (cb, sb) ∧ CliReq a s0 t expire xnonce cb ∧ CliSame c cb ∧
      cb.currentTime = c.currentTime + totalTime x.seg ∧ cb.sequence ≤ c.sequence + x.seg.length ∧
      ClockOK cb x.d ∧ asSecs (cb.currentTime + x.d - cb.connectStartTime) < tokenWindow cb ∧
      CTimedOut cb (cb.currentTime + x.d) ∧ Aged s sb (totalTime x.seg) ∧
      (SrvOpen a s0 addr t expire xnonce s → SrvOpen a s0 addr t expire xnonce sb) := by
  obtain ⟨cb, sb, hrun, hcb, hsame, htm, hsq, _, hag, hopen⟩ := silent_run (addr := addr) (me := me) (id := id) hT x.seg hc
    (hx.budget h1 h2 hclk) (Nat.le_refl _) (Nat.lt_succ_of_lt hseq) hne hid (Nat.le_of_add_right_le hsclk)
  obtain ⟨hok, hwin, hto⟩ := hx.fires_at hsame htm hpos h1 hclk
  exact ⟨cb, sb, hrun, hcb, hsame, htm, hsq, hok, hwin, hto, hag, hopen⟩

/-- what a walk through `n` silent servers (`k` rounds, `T` ns) leaves of the client -/
structure Walked (c : NetcodeClient) (nexts : List Addr) (k T : Nat) (c' : NetcodeClient) : Prop where
  tok : c'.connectToken = c.connectToken
  rate : c'.sendRate = c.sendRate
  idx : c'.serverAddrIndex = c.serverAddrIndex + nexts.length
  srv : c'.serverAddr = lastAddr c.serverAddr nexts
  time : c'.currentTime = c.currentTime + T
  seq : c'.sequence ≤ c.sequence + k
  start : c'.connectStartTime ≤ c'.currentTime
  recv : c'.lastPacketReceivedTime ≤ c'.currentTime
  /-- after at least one fail-over all timers are those of the last fail-over: the end of the schedule -/
  fresh : nexts ≠ [] → c'.connectStartTime = c'.currentTime ∧ c'.lastPacketReceivedTime = c'.currentTime ∧
    c'.lastPacketSendTime = some c'.currentTime
  same : nexts = [] → c' = c

/-- **the walk through any number of silent servers** (induction over the attempts).  Every attempt ends with the
    fail-over described by `FailoverStep`; at the end the client is asking the last address of the walk. -/
theorem walk_silent (hT : TokOK a s0 t expire xnonce) {id : Nat} : ∀ (atts : List Attempt) {c : NetcodeClient}
    {s : NetcodeServer}, CliReq a s0 t expire xnonce c → c.connectToken.timeoutSeconds > 0 →
    c.connectStartTime ≤ c.currentTime → c.lastPacketReceivedTime ≤ c.currentTime → WalkOK c atts →
    c.currentTime + totalTime (walkSched atts) + tmo c ≤ DURATION_MAX →
    c.sequence + (walkSched atts).length < U64_MAX + 1 → c.serverAddr ≠ me →
    Listed c.connectToken.serverAddresses (c.serverAddrIndex + 1) (atts.map (·.next)) →
    c.serverAddrIndex + atts.length < C.NETCODE_TOKEN_MAX_ADDRESSES → (∀ x ∈ atts, x.next ≠ me) →
    findClientById s.clients id = none → s.currentTime + totalTime (walkSched atts) ≤ DURATION_MAX →
    ∃ c' s', runRounds a addr me id (walkSched atts) (c, s) = some (c', s') ∧ CliReq a s0 t expire xnonce c' ∧
      Walked c (atts.map (·.next)) (walkSched atts).length (totalTime (walkSched atts)) c' ∧
      Aged s s' (totalTime (walkSched atts)) ∧
      (SrvOpen a s0 addr t expire xnonce s → SrvOpen a s0 addr t expire xnonce s') ∧
      ∀ pre x post, atts = pre ++ x :: post →
        FailoverStep a s0 addr me t expire xnonce id (c, s) (walkSched pre) x (c.serverAddrIndex + pre.length)
          (lastAddr c.serverAddr (pre.map (·.next)))
  | [], c, s, hc, _, h1, h2, _, _, _, _, _, _, _, _, _ =>
    ⟨c, s, rfl, hc, ⟨rfl, rfl, rfl, rfl, rfl, Nat.le_refl _, h1, h2, fun h => absurd rfl h, fun _ => rfl⟩, Aged.refl s,
      fun h => h,
      fun pre x post e => by cases pre <;> cases e⟩
  | x :: rest, c, s, hc, hpos, h1, h2, hw, hclk, hseq, hne, hl, hidx, hnme, hid, hsclk => by
    obtain ⟨hx, hrest⟩ := hw
    -- sums written from the left, as the clocks and counters below produce them
    simp only [totalTime_walk_cons, walkSched_length_cons, ← Nat.add_assoc] at hclk hsclk hseq
    simp only [List.map_cons, Listed] at hl
    simp only [List.length_cons] at hidx
    obtain ⟨hnext, hl'⟩ := hl
    have hseq' : c.sequence + x.seg.length < U64_MAX := Nat.lt_of_add_lt_add_right (Nat.lt_of_add_right_lt hseq)
    have hsclk' : s.currentTime + totalTime x.seg + x.d ≤ DURATION_MAX := Nat.le_of_add_right_le hsclk
    obtain ⟨cb, sb, hrun, hcb, hsame, htm, hsq, hok, hwin, hto, hag, hopen⟩ := attempt_update (addr := addr) (me := me)
      (id := id) hT hc hpos h1 h2 hx (Nat.le_trans (Nat.add_le_add_right (Nat.le_add_right _ _) _) hclk) hseq' hne hid hsclk'
    have hsb : sb.currentTime + x.d ≤ DURATION_MAX := by rw [hag.time]; exact hsclk'
    -- the time-out fires: the request goes to the next listed address, whose server does not hear it
    have hcu := update_failover a hT.laws (Or.inl hcb.st) hok hwin hto (by rw [hsame.tok, hsame.idx]; exact hnext)
      (by rw [hsame.idx]; exact Nat.lt_of_le_of_lt (Nat.add_le_add_left (Nat.le_add_left 1 _) _) hidx) hcb.tok hT.wf hT.xn
      (Nat.lt_of_le_of_lt hsq hseq')
    have hround := round_unheard (addr := addr) (me := me) (id := id) (f := x.f) hcu
      (up_lost a addr me _ (Or.inr (hnme x List.mem_cons_self))) (by rw [hag.clients]; exact hid) hsb
    have hc1 := cliReq_failedOver hcb x.d x.next
    have hτ : tmo (failedOver cb x.d x.next) = tmo c := by unfold tmo; rw [← hsame.tok]
    have hW : tokenWindow (failedOver cb x.d x.next) = tokenWindow c := by unfold tokenWindow; rw [← hsame.tok]
    have hw1 : WalkOK (failedOver cb x.d x.next) rest := by
      cases rest with
      | nil => trivial
      | cons y ys =>
        refine ⟨attOK_of_fresh (hrest y (by simp)) hτ hW rfl rfl, fun z hz => ?_⟩
        rw [hτ, hW]; exact hrest z (by simp [hz])
    obtain ⟨c2, s2, hrun2, hc2, hwalk2, hag2, hopen2, hsteps2⟩ := walk_silent hT rest (c := failedOver cb x.d x.next)
      (s := srvTick sb x.d) hc1 (by show cb.connectToken.timeoutSeconds > 0; rw [hsame.tok]; exact hpos)
      (Nat.le_refl _) (Nat.le_refl _) hw1
      (by rw [hτ]; show cb.currentTime + x.d + _ + _ ≤ _; rw [htm]; exact hclk)
      (Nat.lt_of_le_of_lt (Nat.add_le_add_right (Nat.add_le_add_right hsq 1) _) hseq) (hnme x (by simp))
      (by show Listed cb.connectToken.serverAddresses (cb.serverAddrIndex + 1 + 1) _
          rw [hsame.tok, hsame.idx]; exact hl')
      (by show cb.serverAddrIndex + 1 + rest.length < _; rw [hsame.idx, Nat.add_right_comm]; exact hidx)
      (fun y hy => hnme y (List.mem_cons_of_mem _ hy))
      (by show findClientById sb.clients id = none; rw [hag.clients]; exact hid)
      (by show sb.currentTime + x.d + _ ≤ _; rw [hag.time]; exact hsclk)
    have hrunAll : runRounds a addr me id (walkSched (x :: rest)) (c, s) = some (c2, s2) := by
      simp only [walkSched, runRounds_append, hrun, Option.bind_some, runRounds, hround, hrun2]
    refine ⟨c2, s2, hrunAll, hc2, ?_, ?_, fun h => hopen2 ((hopen h).tick hsb), ?_⟩
    · obtain ⟨w1, w2, w3, w4, w5, w6, w7, w8, w9, _⟩ := hwalk2
      refine ⟨w1.trans hsame.tok, w2.trans hsame.rate, ?_, w4, ?_, ?_, w7, w8, ?_, fun h => by simp at h⟩
      · rw [w3]; show cb.serverAddrIndex + 1 + _ = _
        rw [hsame.idx, List.map_cons, List.length_cons, Nat.add_right_comm]; rfl
      · rw [w5]; show cb.currentTime + x.d + _ = _
        rw [htm, totalTime_walk_cons]; simp only [Nat.add_assoc]
      · rw [walkSched_length_cons]
        refine Nat.le_trans w6 ?_
        show cb.sequence + 1 + _ ≤ _
        simp only [← Nat.add_assoc]
        exact Nat.add_le_add_right (Nat.add_le_add_right hsq 1) _
      · intro _
        cases rest with
        | nil =>
          simp only [walkSched, runRounds, Option.some.injEq, Prod.mk.injEq] at hrun2
          rw [← hrun2.1]; exact ⟨rfl, rfl, rfl⟩
        | cons y ys => exact w9 (by simp)
    · rw [totalTime_walk_cons]
      exact (hag.trans (aged_tick sb x.d)).trans hag2
    · intro pre y post e
      cases pre with
      | nil =>
        simp only [List.nil_append, List.cons.injEq] at e
        obtain ⟨rfl, _⟩ := e
        exact ⟨cb, sb, by simpa [walkSched] using hrun, hcb.st, by rw [hsame.idx]; rfl, hsame.srv,
          by simp only [walkSched, totalTime, Nat.add_zero]; exact htm, hcu, hround⟩
      | cons p pre' =>
        simp only [List.cons_append, List.cons.injEq] at e
        obtain ⟨rfl, e'⟩ := e
        obtain ⟨cb', sb', k1, k2, k3, k4, k5, k6, k7⟩ := hsteps2 pre' y post e'
        refine ⟨cb', sb', ?_, k2, ?_, ?_, ?_, k6, k7⟩
        · simp only [walkSched, List.append_assoc, List.cons_append, runRounds_append, hrun, Option.bind_some, runRounds,
            hround]
          rw [← runRounds_append]; exact k1
        · rw [k3]; show cb.serverAddrIndex + 1 + _ = _
          rw [hsame.idx, List.length_cons, Nat.add_right_comm]; rfl
        · rw [k4]; rfl
        · rw [k5, totalTime_walk_cons]
          show cb.currentTime + x.d + _ + _ = c.currentTime + _ + _
          rw [htm]; simp only [Nat.add_assoc]

theorem walkOK_init {c : NetcodeClient} : ∀ {atts : List Attempt} {last : Attempt}, WalkOK c (atts ++ [last]) →
    WalkOK c atts
  | [], _, _ => trivial
  | x :: rest, last, h => ⟨h.1, fun y hy => h.2 y (by simp [hy])⟩

theorem walkOK_last {c c' : NetcodeClient} {atts : List Attempt} {last : Attempt} {k T : Nat}
    (h : WalkOK c (atts ++ [last])) (hw : Walked c (atts.map (·.next)) k T c') : AttOK c' last := by
  cases atts with
  | nil =>
    have := hw.same rfl
    subst this
    exact h.1
  | cons x rest =>
    obtain ⟨f1, f2, f3⟩ := hw.fresh (by simp)
    exact attOK_of_fresh (h.2 last (by simp)) (by unfold tmo; rw [hw.tok]) (by unfold tokenWindow; rw [hw.tok]) f1 f2

theorem walk_ends_elsewhere {c cw : NetcodeClient} {atts : List Attempt} {k T : Nat} (hne : c.serverAddr ≠ me)
    (hnme : ∀ x ∈ atts, x.next ≠ me) (hwalk : Walked c (atts.map (·.next)) k T cw) : cw.serverAddr ≠ me := by
  rw [hwalk.srv]
  refine lastAddr_ne hne fun n hn => ?_
  obtain ⟨x, hx, rfl⟩ := List.mem_map.mp hn
  exact hnme x hx

/-- the client after the `update(d)` in which the time-out fired with no server address left -/
abbrev gaveUp (c : NetcodeClient) (d : Nat) : NetcodeClient :=
  { c with currentTime := c.currentTime + d
           state := .disconnected (if c.state = .sendingConnectionResponse then .connectionResponseTimedOut
                                   else .connectionRequestTimedOut)
           serverAddrIndex := c.serverAddrIndex + 1 }

theorem disconnected_stays (a : AEAD) {c : NetcodeClient} {r : DisconnectReason} {d : Nat}
    (hst : c.state = .disconnected r) (hclk : c.currentTime + d ≤ DURATION_MAX)
    (hrecv : c.lastPacketReceivedTime + tmo c ≤ DURATION_MAX) :
    c.update a d = .ok (none, { c with currentTime := c.currentTime + d }) :=
  client_update_of_error a (client_dead hst hclk hrecv)

/-- **the walk through `atts` and the quiet part of one more attempt**: the client `cb` they lead to still asks the last
    address of the walk, and its next `update(last.d)` is the one in which the time-out fires.  (`last.next` plays no
    role.) -/
theorem walk_last_attempt (hT : TokOK a s0 t expire xnonce) {id : Nat} (atts : List Attempt) (last : Attempt)
    {c : NetcodeClient} {s : NetcodeServer} (hc : CliReq a s0 t expire xnonce c)
    (hpos : c.connectToken.timeoutSeconds > 0) (h1 : c.connectStartTime ≤ c.currentTime)
    (h2 : c.lastPacketReceivedTime ≤ c.currentTime) (hw : WalkOK c (atts ++ [last]))
    (hclk : c.currentTime + totalTime (walkSched (atts ++ [last])) + tmo c ≤ DURATION_MAX)
    (hseq : c.sequence + (walkSched (atts ++ [last])).length < U64_MAX + 1) (hne : c.serverAddr ≠ me)
    (hl : Listed c.connectToken.serverAddresses (c.serverAddrIndex + 1) (atts.map (·.next)))
    (hidx : c.serverAddrIndex + atts.length < C.NETCODE_TOKEN_MAX_ADDRESSES)
    (hnme : ∀ x ∈ atts, x.next ≠ me) (hid : findClientById s.clients id = none)
    (hsclk : s.currentTime + totalTime (walkSched (atts ++ [last])) ≤ DURATION_MAX) :
    ∃ cb sb, runRounds a addr me id (walkSched atts ++ last.seg) (c, s) = some (cb, sb) ∧
      CliReq a s0 t expire xnonce cb ∧ cb.connectToken = c.connectToken ∧
      cb.serverAddr = lastAddr c.serverAddr (atts.map (·.next)) ∧
      cb.serverAddrIndex = c.serverAddrIndex + atts.length ∧
      cb.currentTime + last.d = c.currentTime + totalTime (walkSched (atts ++ [last])) ∧
      cb.sequence + 1 ≤ c.sequence + (walkSched (atts ++ [last])).length ∧ ClockOK cb last.d ∧
      asSecs (cb.currentTime + last.d - cb.connectStartTime) < tokenWindow cb ∧
      CTimedOut cb (cb.currentTime + last.d) ∧ Aged s sb (totalTime (walkSched atts) + totalTime last.seg) ∧
      sb.currentTime + last.d = s.currentTime + totalTime (walkSched (atts ++ [last])) ∧
      (SrvOpen a s0 addr t expire xnonce s → SrvOpen a s0 addr t expire xnonce sb) ∧
      ∀ pre x post, atts = pre ++ x :: post →
        FailoverStep a s0 addr me t expire xnonce id (c, s) (walkSched pre) x (c.serverAddrIndex + pre.length)
          (lastAddr c.serverAddr (pre.map (·.next))) := by
  -- sums written from the left, as the clocks and counters below produce them
  simp only [totalTime_walk_snoc, walkSched_length_snoc, ← Nat.add_assoc] at hclk hsclk hseq
  obtain ⟨cw, sw, hrun, hcw, hwalk, hag, hopen, hsteps⟩ := walk_silent (addr := addr) (me := me) (id := id) hT atts hc hpos
    h1 h2 (walkOK_init hw)
    (Nat.le_trans (Nat.add_le_add_right (Nat.le_trans (Nat.le_add_right _ _) (Nat.le_add_right _ _)) _) hclk)
    (Nat.lt_of_add_right_lt (Nat.lt_of_add_right_lt hseq)) hne hl hidx hnme hid
    (Nat.le_of_add_right_le (Nat.le_of_add_right_le hsclk))
  have hτ : tmo cw = tmo c := by unfold tmo; rw [hwalk.tok]
  obtain ⟨cb, sb, hrun2, hcb, hsame, htm, hsq, hok, hwin, hto, hag2, hopen2⟩ := attempt_update (addr := addr) (me := me)
    (id := id) hT hcw (by rw [hwalk.tok]; exact hpos) hwalk.start hwalk.recv (walkOK_last hw hwalk)
    (by rw [hτ, hwalk.time]; exact hclk)
    (Nat.lt_of_le_of_lt (Nat.add_le_add_right hwalk.seq _) (Nat.lt_of_add_lt_add_right hseq))
    (walk_ends_elsewhere hne hnme hwalk) (by rw [hag.clients]; exact hid) (by rw [hag.time]; exact hsclk)
  refine ⟨cb, sb, ?_, hcb, hsame.tok.trans hwalk.tok, by rw [hsame.srv, hwalk.srv],
    by rw [hsame.idx, hwalk.idx, List.length_map], ?_, ?_, hok, hwin, hto, hag.trans hag2, ?_,
    fun h => hopen2 (hopen h), hsteps⟩
  · rw [runRounds_append, hrun]; exact hrun2
  · rw [htm, hwalk.time, totalTime_walk_snoc]; simp only [Nat.add_assoc]
  · simp only [walkSched_length_snoc, ← Nat.add_assoc]
    exact Nat.add_le_add_right (Nat.le_trans hsq (Nat.add_le_add_right hwalk.seq _)) 1
  · rw [hag2.time, hag.time, totalTime_walk_snoc]; simp only [Nat.add_assoc]

/-- the timing of an attempt that runs into the end of the token's window: no time-out and an open window during `seg`,
    the window (counted from the start of the attempt) closed at the `update(d)` that follows -/
structure ExpOK (c : NetcodeClient) (seg : List (Fate × Nat)) (d : Nat) : Prop where
  quiet : c.connectToken.timeoutSeconds ≤ 0 ∨ c.currentTime + totalTime seg ≤ c.lastPacketReceivedTime + tmo c
  opened : asSecs (c.currentTime + totalTime seg - c.connectStartTime) < tokenWindow c
  closed : tokenWindow c ≤ asSecs (c.currentTime + totalTime seg + d - c.connectStartTime)

/-- **the walk ends at a server that answers**: the servers at the client's current address and at the addresses
    `atts.map next` are silent; the fail-over that ends the attempt `last` leads to `me`, whose server (open for this
    client) answers the request of that very round with the challenge; one more delivered round `d₂` connects. -/
theorem walk_connects (hT : TokOK a s0 t expire xnonce) (atts : List Attempt) (last : Attempt) {d₂ : Nat}
    {c : NetcodeClient} {s : NetcodeServer} (hc : CliReq a s0 t expire xnonce c)
    (hpos : c.connectToken.timeoutSeconds > 0) (h1 : c.connectStartTime ≤ c.currentTime)
    (h2 : c.lastPacketReceivedTime ≤ c.currentTime) (hw : WalkOK c (atts ++ [last]))
    (hlf : last.f = .delivered) (hlme : last.next = me) (hne : c.serverAddr ≠ me) (hnme : ∀ x ∈ atts, x.next ≠ me)
    (hl : Listed c.connectToken.serverAddresses (c.serverAddrIndex + 1) ((atts ++ [last]).map (·.next)))
    (hidx : c.serverAddrIndex + atts.length + 1 < C.NETCODE_TOKEN_MAX_ADDRESSES)
    (hs : SrvOpen a s0 addr t expire xnonce s)
    (hd₂c : d₂ ≤ tmo c) (hd₂w : asSecs d₂ < tokenWindow c)
    (hd₂s : t.timeoutSeconds ≤ 0 ∨ d₂ ≤ fromSecs t.timeoutSeconds.toNat)
    (hclk : c.currentTime + totalTime (walkSched (atts ++ [last])) + d₂ + tmo c ≤ DURATION_MAX)
    (hsclk : s.currentTime + totalTime (walkSched (atts ++ [last])) + d₂ + fromSecs (2 ^ 31) ≤ DURATION_MAX)
    (hsexp : asSecs (s.currentTime + totalTime (walkSched (atts ++ [last])) + d₂) < expire)
    (hseq : c.sequence + (walkSched (atts ++ [last])).length + 1 < U64_MAX)
    (hg : s.globalSequence + 2 < U64_MAX) (hch : s.challengeSequence + 2 < U64_MAX) :
    ∃ c1 s1 c2 s2 c3 s3, runRounds a addr me t.clientId (walkSched atts ++ last.seg) (c, s) = some (c1, s1) ∧
      c1.state = .sendingConnectionRequest ∧ c1.serverAddr = lastAddr c.serverAddr (atts.map (·.next)) ∧
      c1.serverAddrIndex = c.serverAddrIndex + atts.length ∧
      c1.update a last.d = .ok (some (requestBytes a s0 t expire xnonce, me), failedOver c1 last.d me) ∧
      round a addr me t.clientId .delivered last.d (c1, s1) = some (c2, s2) ∧
      c2.state = .sendingConnectionResponse ∧ c2.serverAddr = me ∧
      c2.serverAddrIndex = c.serverAddrIndex + atts.length + 1 ∧
      c2.connectStartTime = c.currentTime + totalTime (walkSched (atts ++ [last])) ∧
      c2.currentTime = c.currentTime + totalTime (walkSched (atts ++ [last])) ∧
      round a addr me t.clientId .delivered d₂ (c2, s2) = some (c3, s3) ∧
      runRounds a addr me t.clientId (walkSched (atts ++ [last]) ++ [(.delivered, d₂)]) (c, s) = some (c3, s3) ∧
      Established addr t expire c3 s3 ∧ s3.isClientConnected t.clientId = true ∧
      c3.currentTime = c.currentTime + totalTime (walkSched (atts ++ [last])) + d₂ ∧
      s3.currentTime = s.currentTime + totalTime (walkSched (atts ++ [last])) + d₂ ∧
      ∀ pre x post, atts = pre ++ x :: post →
        FailoverStep a s0 addr me t expire xnonce t.clientId (c, s) (walkSched pre) x (c.serverAddrIndex + pre.length)
          (lastAddr c.serverAddr (pre.map (·.next))) := by
  rw [List.map_append, listed_append] at hl
  obtain ⟨hl1, hl2⟩ := hl
  simp only [List.map_cons, List.map_nil, Listed, List.length_map, and_true] at hl2
  have hsclk' : s.currentTime + totalTime (walkSched (atts ++ [last])) ≤ DURATION_MAX :=
    Nat.le_of_add_right_le (Nat.le_of_add_right_le hsclk)
  obtain ⟨cb, sb, hrun, hcb, htok, hsrv, hix, htc, hsqb, hok, hwin, hto, hag, hst, hopen, hsteps⟩ := walk_last_attempt
    (addr := addr) (me := me) (id := t.clientId) hT atts last hc hpos h1 h2 hw
    (Nat.le_trans (Nat.add_le_add_right (Nat.le_add_right _ _) _) hclk) (Nat.lt_succ_of_lt (Nat.lt_of_succ_lt hseq)) hne
    hl1 (Nat.lt_of_succ_lt hidx) hnme hs.idFree hsclk'
  have hnext : cb.connectToken.serverAddresses[cb.serverAddrIndex + 1]? = some (some me) := by
    rw [htok, hix, ← hlme, Nat.add_right_comm]; exact hl2
  have hidxb : cb.serverAddrIndex + 1 < C.NETCODE_TOKEN_MAX_ADDRESSES := by rw [hix]; exact hidx
  have hcbs : cb.sequence + 1 < U64_MAX := Nat.lt_of_le_of_lt hsqb (Nat.lt_of_succ_lt hseq)
  have hcu := update_failover a hT.laws (Or.inl hcb.st) hok hwin hto hnext hidxb hcb.tok hT.wf hT.xn
    (Nat.lt_of_succ_lt hcbs)
  obtain ⟨s2, hr2, hc2, hs2, hp2, f1, f2, f3⟩ := round_request_arrives (me := me) hT hcu (cliReq_failedOver hcb last.d me)
    (hopen hs) (by rw [hst]; exact hsclk') (by rw [hag.gseq]; exact Nat.lt_of_succ_lt hg)
    (by rw [hag.chseq]; exact Nat.lt_of_succ_lt hch)
    (by rw [hst]; exact Nat.lt_of_le_of_lt (asSecs_mono (Nat.le_add_right _ _)) hsexp)
  have hτb : tmo cb = tmo c := by unfold tmo; rw [htok]
  have hWb : tokenWindow cb = tokenWindow c := by unfold tokenWindow; rw [htok]
  have hs2t : s2.currentTime = s.currentTime + totalTime (walkSched (atts ++ [last])) := f1.trans hst
  -- all timers of the client are those of the fail-over: `d₂` is within every budget
  have hb2 : Budget t expire (clientChallenged a (srvTick sb last.d) t (failedOver cb last.d me)) s2 d₂ 1 := by
    refine ⟨⟨?_, Nat.le_refl _, Nat.le_refl _, ?_, Or.inr ?_⟩, by rw [hs2t]; exact hsclk, by rw [hs2t]; exact hsexp, hd₂s,
      Nat.lt_of_le_of_lt (Nat.add_le_add_right hsqb 1) hseq, by rw [f2, hag.gseq]; exact hg,
      by rw [f3, hag.chseq]; exact hch⟩
    · show cb.currentTime + last.d + d₂ + tmo cb ≤ DURATION_MAX
      rw [hτb, htc]; exact hclk
    · show asSecs (cb.currentTime + last.d + d₂ - (cb.currentTime + last.d)) < tokenWindow cb
      rw [hWb, Nat.add_sub_cancel_left]; exact hd₂w
    · show cb.currentTime + last.d + d₂ ≤ cb.currentTime + last.d + tmo cb
      rw [hτb]; exact Nat.add_le_add_left hd₂c _
  obtain ⟨c3, s3, hr3, hsteady, ht3, hst3⟩ := NcLive3.round_resp_delivered (me := me) (N := 0) hT hc2 hs2 hp2 rfl
    rp_new_fresh hb2 (Nat.le_refl _) rfl (gateOpen_of_none rfl)
  have hest := hsteady.established
  refine ⟨cb, sb, _, s2, c3, s3, hrun, hcb.st, hsrv, hix, hcu, hr2, rfl, rfl, by rw [← hix], htc, htc,
    hr3, ?_, hest, hest.isClientConnected, by rw [ht3, ← htc], by rw [hst3, hs2t], hsteps⟩
  rw [walkSched_snoc, ← List.append_assoc, runRounds_append, runRounds_append, hrun]
  simp only [Option.bind_some, runRounds, hlf, hr2, hr3]

end Walk

/-! ## Part B : the handshake while the server serves others -/

/-- An operation that does not concern the client seen at `addr` with client id `id`: a datagram from another address
    (anything: another client's request or response, payloads, junk), `update_client` / `disconnect` /
    `generate_payload_packet` of another id.  (`update` — time passes only in the rounds — and `set_max_clients` are not
    bystander operations.) -/
def NotMine (addr : Addr) (id : Nat) : Op → Prop
  | .packet ad _ => ad ≠ addr
  | .updateClient i => i ≠ id
  | .disconnect i => i ≠ id
  | .sendPayload i _ => i ≠ id
  | .update _ => False
  | .setMaxClients _ => False

instance (addr : Addr) (id : Nat) (op : Op) : Decidable (NotMine addr id op) := by
  cases op <;> (unfold NotMine; infer_instance)

/-- what a bystander operation may do to the slot table, seen from the client `(addr, id)`: its own session (if any)
    stays exactly as it is, and nobody gets connected from `addr` -/
structure SlotFrame (addr : Addr) (id : Nat) (cl cl' : Slots) : Prop where
  mine : ∀ i cn, At cl i cn → cn.clientId = id → cn.addr = addr → At cl' i cn
  addrFree : (∀ i c, At cl i c → c.addr ≠ addr) → ∀ i c, At cl' i c → c.addr ≠ addr

theorem SlotFrame.refl (addr : Addr) (id : Nat) (cl : Slots) : SlotFrame addr id cl cl := ⟨fun _ _ h _ _ => h, fun h => h⟩

theorem SlotFrame.trans {addr : Addr} {id : Nat} {c1 c2 c3 : Slots} (h1 : SlotFrame addr id c1 c2)
    (h2 : SlotFrame addr id c2 c3) : SlotFrame addr id c1 c3 :=
  ⟨fun i cn h e1 e2 => h2.mine i cn (h1.mine i cn h e1 e2) e1 e2, fun h => h2.addrFree (h1.addrFree h)⟩

theorem SlotFrame.of_step {addr : Addr} {id : Nat} {t f : Connection → Prop} {cl cl' : Slots} {ev : List Event}
    (h : SlotStep t f cl cl' ev) (ht : ∀ c, t c → c.clientId ≠ id ∨ c.addr ≠ addr) (hf : ∀ c, f c → c.addr ≠ addr) :
    SlotFrame addr id cl cl' := by
  refine ⟨fun i cn hi e1 e2 => h.keeps hi fun htc => (ht cn htc).elim (fun h => h e1) (fun h => h e2),
    fun hfree i c hc => ?_⟩
  cases h with
  | same => exact hfree i c hc
  | rewrite x hx _ hid =>
    rcases at_set_some hc with ⟨-, rfl⟩ | ⟨-, hj⟩
    · rw [ident_addr hid]; exact hfree _ _ hx
    · exact hfree i c hj
  | drop => exact hfree i c (at_set_none hc).1
  | fill p _ hfp =>
    rcases at_set_some hc with ⟨-, rfl⟩ | ⟨-, hj⟩
    · exact hf _ hfp
    · exact hfree i c hj

/-- **The footprint of `n` bystander operations**, seen from the client `(addr, id)`: the configuration, the invariant,
    the clock, the half-open session of `addr` (if any), the session of `(addr, id)` (if any) and "nobody is connected
    from `addr`" are left alone; each of the two global `u64` counters grows by at most `n`. -/
structure BlockFrame (addr : Addr) (id : Nat) (s s' : NetcodeServer) (n : Nat) : Prop where
  cfg : SameCfg s s'
  inv : ServerInv s'
  time : s'.currentTime = s.currentTime
  pend : pendingFind s'.pendingClients addr = pendingFind s.pendingClients addr
  slots : SlotFrame addr id s.clients s'.clients
  gLe : s'.globalSequence ≤ s.globalSequence + n
  cLe : s'.challengeSequence ≤ s.challengeSequence + n

theorem BlockFrame.trans {addr : Addr} {id : Nat} {s1 s2 s3 : NetcodeServer} {n m : Nat} (h1 : BlockFrame addr id s1 s2 n)
    (h2 : BlockFrame addr id s2 s3 m) : BlockFrame addr id s1 s3 (m + n) := by
  have g1 := h1.gLe; have g2 := h2.gLe; have c1 := h1.cLe; have c2 := h2.cLe
  exact ⟨h1.cfg.trans h2.cfg, h2.inv, h2.time.trans h1.time, h2.pend.trans h1.pend, h1.slots.trans h2.slots, by omega,
    by omega⟩

theorem pp_frame {a : AEAD} {s s' : NetcodeServer} {ad addr : Addr} {id : Nat} {buf : Bytes} {r : ServerResult}
    (hi : ServerInv s) (ho : PPOut a s ad buf r s') (hne : ad ≠ addr) : BlockFrame addr id s s' 1 := by
  have hi' := ppOut_inv hi ho
  obtain ⟨cl, es, pd, g, cs, rfl, hp, hg, hc⟩ := ppOut_writes ho
  have hn : ∀ c : Connection, c.addr = ad → c.addr ≠ addr := fun c e => e ▸ hne
  exact ⟨⟨rfl, rfl, rfl, rfl, rfl, rfl⟩, hi', rfl, hp addr fun e => hne e.symm,
    .of_step (ppOut_slots hi ho) (fun c e => Or.inr (hn c e)) hn, hg, hc⟩

theorem step_frame {a : AEAD} {s s' : NetcodeServer} {addr : Addr} {id : Nat} {op : Op} {r : ServerResult}
    (hi : ServerInv s) (hop : NotMine addr id op) (h : step a s op = some (r, s')) : BlockFrame addr id s s' 1 := by
  rcases step_cases h with ⟨ad, buf, rfl, hp⟩ | ⟨d, rfl, -⟩ | ⟨m, rfl, -⟩ | ⟨-, i, hc, ho⟩
  · exact pp_frame hi (pp_ok hi hp) hop
  · exact hop.elim
  · exact hop.elim
  · have hi' : i ≠ id := by cases op <;> cases hc <;> exact hop
    obtain ⟨⟨cl, rfl⟩, -⟩ := ho.writes
    -- the operation only rewrites the slot table
    exact ⟨⟨rfl, rfl, rfl, rfl, rfl, rfl⟩, step_inv hi h, rfl, rfl,
      .of_step ho.slots (fun c e => Or.inl (e ▸ hi')) nofun, Nat.le_succ _, Nat.le_succ _⟩

def Quiet (id : Nat) (rs : List ServerResult) : Prop := ∀ ad ud p, ServerResult.clientConnected id ad ud p ∉ rs

theorem block_frame {a : AEAD} {addr : Addr} {id : Nat} : ∀ (b : List Op) {s s' : NetcodeServer} {rs : List ServerResult},
    ServerInv s → (∀ op ∈ b, NotMine addr id op) → runOps a s b = some (rs, s') →
    BlockFrame addr id s s' b.length ∧
      (findClientById s.clients id = none → Quiet id rs → findClientById s'.clients id = none)
  | [], s, s', rs, hi, _, h => by
    simp only [runOps, Option.some.injEq, Prod.mk.injEq] at h
    obtain ⟨_, rfl⟩ := h
    exact ⟨⟨SameCfg.refl s, hi, rfl, rfl, .refl _ _ _, Nat.le_refl _, Nat.le_refl _⟩, fun h _ => h⟩
  | op :: rest, s, s', rs, hi, hm, h => by
    -- that the id stays free does not depend on whose the operations are: `NcLive3.run_notConn`
    refine ⟨?_, fun hfree hq => findById_none.mpr (NcLive3.run_notConn _ hi (findById_none.mp hfree) h hq).2.1⟩
    obtain ⟨r, s1, rs', hs, hr, rfl⟩ := runOps_cons h
    exact (step_frame hi (hm op List.mem_cons_self) hs).trans
      (block_frame rest (step_inv hi hs) (fun o ho => hm o (List.mem_cons_of_mem _ ho)) hr).1

/-- A round together with the bystander operations the server processes around its own steps: `b1` before its
    `update(d)`, `b2` between the `update` and the arrival of the client's datagram, `b3` between that and the
    per-client tick `update_client(id)`.  (What comes after the tick is the `b1` of the next round.) -/
structure RoundSpec where
  b1 : List Op
  b2 : List Op
  b3 : List Op
  f : Fate
  d : Nat

def RoundSpec.ops (x : RoundSpec) : Nat := x.b1.length + x.b2.length + x.b3.length

/-- the server after a block of operations whose results go to others; `none` = an operation unwound -/
def runBy (a : AEAD) (s : NetcodeServer) (b : List Op) : Option NetcodeServer := (runOps a s b).map (·.2)

theorem runBy_of_runOps {a : AEAD} {s s' : NetcodeServer} {b : List Op} {rs : List ServerResult}
    (h : runOps a s b = some (rs, s')) : runBy a s b = some s' := by simp only [runBy, h, Option.map_some]

/-- **One round with bystanders**: `round` of Lemmas/NcLive2.lean with the three blocks inserted. -/
def roundB (a : AEAD) (addr me : Addr) (id : Nat) (x : RoundSpec) (w : NetcodeClient × NetcodeServer) :
    Option (NetcodeClient × NetcodeServer) :=
  match runBy a w.2 x.b1 with
  | none => none
  | some sa =>
    match sa.update x.d, w.1.update a x.d with
    | .ok s1, .ok (out, c1) =>
      match runBy a s1 x.b2 with
      | none => none
      | some sb =>
        match up a addr me x.f out sb with
        | some (r, s2) =>
          match runBy a s2 x.b3 with
          | none => none
          | some sc =>
            match sc.updateClient a id with
            | .ok (r', s3) => (down a addr x.f r r' c1).map fun c3 => (c3, s3)
            | _ => none
        | none => none
    | _, _ => none

def runRoundsB (a : AEAD) (addr me : Addr) (id : Nat) :
    List RoundSpec → NetcodeClient × NetcodeServer → Option (NetcodeClient × NetcodeServer)
  | [], w => some w
  | x :: rest, w => (roundB a addr me id x w).bind (runRoundsB a addr me id rest)

theorem runRoundsB_append (a : AEAD) (addr me : Addr) (id : Nat) (l1 l2 : List RoundSpec)
    (w : NetcodeClient × NetcodeServer) :
    runRoundsB a addr me id (l1 ++ l2) w = (runRoundsB a addr me id l1 w).bind (runRoundsB a addr me id l2) := by
  induction l1 generalizing w with
  | nil => rfl
  | cons x rest ih =>
    simp only [List.cons_append, runRoundsB]
    cases roundB a addr me id x w with
    | none => rfl
    | some w' => simp only [Option.bind_some, ih]

/-- duration and number of events (rounds and bystander operations) of a schedule -/
def totalTimeB : List RoundSpec → Nat
  | [] => 0
  | x :: rest => x.d + totalTimeB rest
def costB : List RoundSpec → Nat
  | [] => 0
  | x :: rest => 1 + x.ops + costB rest

theorem totalTimeB_append (l1 l2 : List RoundSpec) : totalTimeB (l1 ++ l2) = totalTimeB l1 + totalTimeB l2 := by
  induction l1 with
  | nil => simp [totalTimeB]
  | cons x rest ih => simp only [List.cons_append, totalTimeB, ih]; omega
theorem costB_append (l1 l2 : List RoundSpec) : costB (l1 ++ l2) = costB l1 + costB l2 := by
  induction l1 with
  | nil => simp [costB]
  | cons x rest ih => simp only [List.cons_append, costB, ih]; omega

theorem roundB_intro {a : AEAD} {addr me : Addr} {id : Nat} {x : RoundSpec} {c c1 c3 : NetcodeClient}
    {s sa s1 sb s2 sc s3 : NetcodeServer} {out : Option (Bytes × Addr)} {r r' : ServerResult}
    (h0 : runBy a s x.b1 = some sa) (h1 : sa.update x.d = .ok s1) (h2 : c.update a x.d = .ok (out, c1))
    (h3 : runBy a s1 x.b2 = some sb) (h4 : up a addr me x.f out sb = some (r, s2)) (h5 : runBy a s2 x.b3 = some sc)
    (h6 : sc.updateClient a id = .ok (r', s3)) (h7 : down a addr x.f r r' c1 = some c3) :
    roundB a addr me id x (c, s) = some (c3, s3) := by
  simp only [roundB, h0, h1, h2, h3, h4, h5, h6, h7, Option.map_some]

/-- **room for this client's request**: fewer than the maximum *other* half-open sessions (a pending place), the token
    not bound to another address, fewer than `max_clients` connected (a slot) -/
structure Room (a : AEAD) (s0 : NetcodeServer) (addr : Addr) (t : PrivateConnectToken) (expire : Nat) (xnonce : Bytes)
    (s : NetcodeServer) : Prop where
  room : (pendingRemove s.pendingClients addr).length < C.NETCODE_MAX_PENDING_CLIENTS
  bound : Bound s addr (tokenMac (sealedPriv a s0 t expire xnonce))
  cap : countConnected s.clients < s.maxClients

/-- what the server keeps for this client through every bystander operation that does not connect its id:
    configuration, invariant, nobody connected from `addr`, id not connected -/
structure Core (s0 : NetcodeServer) (addr : Addr) (t : PrivateConnectToken) (s : NetcodeServer) : Prop where
  cfg : SameCfg s0 s
  inv : ServerInv s
  addrFree : findClientByAddr s.clients addr = none
  idFree : findClientById s.clients t.clientId = none

/-- the half-open session of the token is there -/
def HasPend (addr : Addr) (t : PrivateConnectToken) (expire : Nat) (s : NetcodeServer) : Prop :=
  ∃ p, pendingFind s.pendingClients addr = some p ∧ ident p = identT addr expire t

def isConnOf (id : Nat) : ServerResult → Bool
  | .clientConnected i _ _ _ => i == id
  | _ => false

def quietB (id : Nat) (rs : List ServerResult) : Bool := rs.all fun r => !isConnOf id r

theorem quietB_iff {id : Nat} {rs : List ServerResult} : quietB id rs = true ↔ Quiet id rs := by
  unfold quietB Quiet
  rw [List.all_eq_true]
  constructor
  · intro h ad ud p hm
    have := h _ hm
    simp [isConnOf] at this
  · intro h r hr
    cases r with
    | clientConnected i ad ud p =>
      simp only [isConnOf, Bool.not_eq_true', beq_eq_false_iff_ne, ne_eq]
      intro e; subst e; exact h ad ud p hr
    | _ => rfl

def boundB (s : NetcodeServer) (addr : Addr) (mac : Bytes) : Bool :=
  s.connectTokenEntries.all fun o =>
    match o with
    | some e => decide (e.mac = mac → e.address = addr)
    | none => true

theorem boundB_iff {s : NetcodeServer} {addr : Addr} {mac : Bytes} : boundB s addr mac = true ↔ Bound s addr mac := by
  unfold boundB Bound
  rw [List.all_eq_true]
  constructor
  · intro h e he hm
    have := h _ he
    simp only [decide_eq_true_eq] at this
    exact this hm
  · intro h o ho
    cases o with
    | none => rfl
    | some e => simp only [decide_eq_true_eq]; exact h e ho

def roomB (a : AEAD) (s0 : NetcodeServer) (addr : Addr) (t : PrivateConnectToken) (expire : Nat) (xnonce : Bytes)
    (s : NetcodeServer) : Bool :=
  decide ((pendingRemove s.pendingClients addr).length < C.NETCODE_MAX_PENDING_CLIENTS) &&
    boundB s addr (tokenMac (sealedPriv a s0 t expire xnonce)) && decide (countConnected s.clients < s.maxClients)

theorem roomB_iff {a : AEAD} {s0 : NetcodeServer} {addr : Addr} {t : PrivateConnectToken} {expire : Nat} {xnonce : Bytes}
    {s : NetcodeServer} : roomB a s0 addr t expire xnonce s = true ↔ Room a s0 addr t expire xnonce s := by
  unfold roomB
  simp only [Bool.and_eq_true, decide_eq_true_eq, boundB_iff]
  exact ⟨fun h => ⟨h.1.1, h.1.2, h.2⟩, fun h => ⟨⟨h.1, h.2⟩, h.3⟩⟩

/-- **what must be free when a datagram of this client arrives** (server state `sb`, client state before its
    `update`: `c`).  A request needs `Room`; a response needs a free slot — unless the server already holds the
    session (a retransmitted response, which it ignores). -/
def Arr (a : AEAD) (s0 : NetcodeServer) (addr : Addr) (t : PrivateConnectToken) (expire : Nat) (xnonce : Bytes)
    (c : NetcodeClient) (sb : NetcodeServer) : Prop :=
  (c.state = .sendingConnectionRequest → Room a s0 addr t expire xnonce sb) ∧
  (c.state = .sendingConnectionResponse → findClientById sb.clients t.clientId = none →
    countConnected sb.clients < sb.maxClients)

def arrB (a : AEAD) (s0 : NetcodeServer) (addr : Addr) (t : PrivateConnectToken) (expire : Nat) (xnonce : Bytes)
    (c : NetcodeClient) (sb : NetcodeServer) : Bool :=
  match c.state with
  | .sendingConnectionRequest => roomB a s0 addr t expire xnonce sb
  | .sendingConnectionResponse =>
    (findClientById sb.clients t.clientId).isSome || decide (countConnected sb.clients < sb.maxClients)
  | _ => true

theorem arr_of_arrB {a : AEAD} {s0 : NetcodeServer} {addr : Addr} {t : PrivateConnectToken} {expire : Nat} {xnonce : Bytes}
    {c : NetcodeClient} {sb : NetcodeServer} (h : arrB a s0 addr t expire xnonce c sb = true) :
    Arr a s0 addr t expire xnonce c sb := by
  unfold arrB at h
  unfold Arr
  split at h
  · rename_i hst
    exact ⟨fun _ => roomB_iff.mp h, fun e => (by rw [hst] at e; cases e)⟩
  · rename_i hst
    refine ⟨fun e => (by rw [hst] at e; cases e), fun _ hfree => ?_⟩
    rw [hfree] at h
    simpa using h
  · rename_i h1 h2
    exact ⟨fun e => absurd e h1, fun e => absurd e h2⟩

/-- **The bystander hypothesis of one round**, run from the world `w` (as a computable check; `roundOK_elim` spells it
    out): every operation of the three blocks is `NotMine`; `b1` runs to its end from the server's state, `b2` from
    the state after the `update`, `b3` from the state after the client's datagram (if any) has been processed — none
    unwinds, none reports `ClientConnected` for this client's id; and if the client's datagram reaches the server,
    `Arr` holds in the state in which it arrives. -/
def roundOKB (a : AEAD) (s0 : NetcodeServer) (addr me : Addr) (t : PrivateConnectToken) (expire : Nat) (xnonce : Bytes)
    (x : RoundSpec) (w : NetcodeClient × NetcodeServer) : Bool :=
  (x.b1 ++ x.b2 ++ x.b3).all (fun op => decide (NotMine addr t.clientId op)) &&
  match runOps a w.2 x.b1 with
  | none => false
  | some (rs1, sa) => quietB t.clientId rs1 &&
    match runOps a (srvTick sa x.d) x.b2 with
    | none => false
    | some (rs2, sb) => quietB t.clientId rs2 &&
      match w.1.update a x.d with
      | .ok (out, _) =>
        (match out with
         | some (_, dst) => if dst = me ∧ x.f ≠ .upLost then arrB a s0 addr t expire xnonce w.1 sb else true
         | none => true) &&
        (match up a addr me x.f out sb with
         | some (_, s2) =>
           (match runOps a s2 x.b3 with
            | some (rs3, _) => quietB t.clientId rs3
            | none => false)
         | none => true)
      | _ => true

theorem roundOK_elim {a : AEAD} {s0 : NetcodeServer} {addr me : Addr} {t : PrivateConnectToken} {expire : Nat}
    {xnonce : Bytes} {x : RoundSpec} {w : NetcodeClient × NetcodeServer}
    (h : roundOKB a s0 addr me t expire xnonce x w = true) :
    (∀ op ∈ x.b1 ++ x.b2 ++ x.b3, NotMine addr t.clientId op) ∧
    ∃ rs1 sa, runOps a w.2 x.b1 = some (rs1, sa) ∧ Quiet t.clientId rs1 ∧
    ∃ rs2 sb, runOps a (srvTick sa x.d) x.b2 = some (rs2, sb) ∧ Quiet t.clientId rs2 ∧
    ∀ out c1, w.1.update a x.d = .ok (out, c1) →
      (∀ dg, out = some (dg, me) → x.f ≠ .upLost → Arr a s0 addr t expire xnonce w.1 sb) ∧
      ∀ r s2, up a addr me x.f out sb = some (r, s2) →
        ∃ rs3 sc, runOps a s2 x.b3 = some (rs3, sc) ∧ Quiet t.clientId rs3 := by
  unfold roundOKB at h
  rw [Bool.and_eq_true] at h
  obtain ⟨h0, h⟩ := h
  have hm : ∀ op ∈ x.b1 ++ x.b2 ++ x.b3, NotMine addr t.clientId op := by
    intro op hop
    have := List.all_eq_true.mp h0 op hop
    simpa using this
  refine ⟨hm, ?_⟩
  cases h1 : runOps a w.2 x.b1 with
  | none => rw [h1] at h; cases h
  | some p1 =>
    obtain ⟨rs1, sa⟩ := p1
    rw [h1] at h
    simp only [Bool.and_eq_true] at h
    obtain ⟨hq1, h⟩ := h
    cases h2 : runOps a (srvTick sa x.d) x.b2 with
    | none => rw [h2] at h; cases h
    | some p2 =>
      obtain ⟨rs2, sb⟩ := p2
      rw [h2] at h
      simp only [Bool.and_eq_true] at h
      obtain ⟨hq2, h⟩ := h
      refine ⟨rs1, sa, rfl, quietB_iff.mp hq1, rs2, sb, h2, quietB_iff.mp hq2, ?_⟩
      intro out c1 hcu
      rw [hcu] at h
      simp only [Bool.and_eq_true] at h
      obtain ⟨ha, h3⟩ := h
      constructor
      · intro dg e hf
        subst e
        have ha' : arrB a s0 addr t expire xnonce w.1 sb = true := by simpa [hf] using ha
        exact arr_of_arrB ha'
      · intro r s2 hup
        rw [hup] at h3
        simp only at h3
        cases h4 : runOps a s2 x.b3 with
        | none => rw [h4] at h3; cases h3
        | some p3 =>
          obtain ⟨rs3, sc⟩ := p3
          rw [h4] at h3
          exact ⟨rs3, sc, rfl, quietB_iff.mp h3⟩

def bysOKB (a : AEAD) (s0 : NetcodeServer) (addr me : Addr) (t : PrivateConnectToken) (expire : Nat) (xnonce : Bytes) :
    List RoundSpec → NetcodeClient × NetcodeServer → Bool
  | [], _ => true
  | x :: rest, w => roundOKB a s0 addr me t expire xnonce x w &&
    match roundB a addr me t.clientId x w with
    | some w' => bysOKB a s0 addr me t expire xnonce rest w'
    | none => true

def BysOK (a : AEAD) (s0 : NetcodeServer) (addr me : Addr) (t : PrivateConnectToken) (expire : Nat) (xnonce : Bytes)
    (xs : List RoundSpec) (w : NetcodeClient × NetcodeServer) : Prop := bysOKB a s0 addr me t expire xnonce xs w = true

instance (a : AEAD) (s0 : NetcodeServer) (addr me : Addr) (t : PrivateConnectToken) (expire : Nat) (xnonce : Bytes)
    (xs : List RoundSpec) (w : NetcodeClient × NetcodeServer) : Decidable (BysOK a s0 addr me t expire xnonce xs w) := by
  unfold BysOK; infer_instance

theorem bysOK_cons {a : AEAD} {s0 : NetcodeServer} {addr me : Addr} {t : PrivateConnectToken} {expire : Nat}
    {xnonce : Bytes} {x : RoundSpec} {rest : List RoundSpec} {w : NetcodeClient × NetcodeServer} :
    BysOK a s0 addr me t expire xnonce (x :: rest) w ↔
      roundOKB a s0 addr me t expire xnonce x w = true ∧
      ∀ w', roundB a addr me t.clientId x w = some w' → BysOK a s0 addr me t expire xnonce rest w' := by
  unfold BysOK
  simp only [bysOKB, Bool.and_eq_true]
  constructor
  · rintro ⟨h1, h2⟩
    refine ⟨h1, fun w' hw => ?_⟩
    rw [hw] at h2; exact h2
  · rintro ⟨h1, h2⟩
    refine ⟨h1, ?_⟩
    cases hr : roundB a addr me t.clientId x w with
    | none => rfl
    | some w' => exact h2 w' hr

theorem bysOK_append {a : AEAD} {s0 : NetcodeServer} {addr me : Addr} {t : PrivateConnectToken} {expire : Nat}
    {xnonce : Bytes} : ∀ {l1 l2 : List RoundSpec} {w w' : NetcodeClient × NetcodeServer},
    BysOK a s0 addr me t expire xnonce (l1 ++ l2) w → runRoundsB a addr me t.clientId l1 w = some w' →
    BysOK a s0 addr me t expire xnonce l2 w'
  | [], _, w, w', h, hr => by
    simp only [runRoundsB, Option.some.injEq] at hr
    subst hr; exact h
  | x :: rest, l2, w, w', h, hr => by
    rw [List.cons_append, bysOK_cons] at h
    simp only [runRoundsB] at hr
    cases h1 : roundB a addr me t.clientId x w with
    | none => rw [h1] at hr; cases hr
    | some w1 =>
      rw [h1, Option.bind_some] at hr
      exact bysOK_append (h.2 w1 h1) hr

theorem bysOK_prefix {a : AEAD} {s0 : NetcodeServer} {addr me : Addr} {t : PrivateConnectToken} {expire : Nat}
    {xnonce : Bytes} : ∀ {l1 l2 : List RoundSpec} {w : NetcodeClient × NetcodeServer},
    BysOK a s0 addr me t expire xnonce (l1 ++ l2) w → BysOK a s0 addr me t expire xnonce l1 w
  | [], _, _, _ => rfl
  | x :: rest, l2, w, h => by
    rw [List.cons_append, bysOK_cons] at h
    exact bysOK_cons.mpr ⟨h.1, fun w' hw => bysOK_prefix (h.2 w' hw)⟩

section Bys
variable {a : AEAD} {s0 : NetcodeServer} {addr me : Addr} {t : PrivateConnectToken} {expire : Nat} {xnonce : Bytes}

theorem Core.ofOpen {s : NetcodeServer} (h : SrvOpen a s0 addr t expire xnonce s) : Core s0 addr t s :=
  ⟨h.cfg, h.inv, h.addrFree, h.idFree⟩

theorem Core.open {s : NetcodeServer} (h : Core s0 addr t s) (hr : Room a s0 addr t expire xnonce s) :
    SrvOpen a s0 addr t expire xnonce s := ⟨h.cfg, h.inv, h.addrFree, h.idFree, hr.room, hr.bound, hr.cap⟩

theorem Room.ofOpen {s : NetcodeServer} (h : SrvOpen a s0 addr t expire xnonce s) : Room a s0 addr t expire xnonce s :=
  ⟨h.room, h.bound, h.cap⟩

theorem Core.block {s s' : NetcodeServer} {n : Nat} (h : Core s0 addr t s) (hf : BlockFrame addr t.clientId s s' n)
    (hid : findClientById s'.clients t.clientId = none) : Core s0 addr t s' :=
  ⟨h.cfg.trans hf.cfg, hf.inv, findAddr_none.mpr (hf.slots.addrFree (findAddr_none.mp h.addrFree)), hid⟩

theorem Core.tick {s : NetcodeServer} {d : Nat} (h : Core s0 addr t s) (hd : s.currentTime + d ≤ DURATION_MAX) :
    Core s0 addr t (srvTick s d) :=
  ⟨⟨h.cfg.1, h.cfg.2, h.cfg.3, h.cfg.4, h.cfg.5, h.cfg.6⟩, update_inv h.inv (server_update_eq hd), h.addrFree, h.idFree⟩

/-- a counter that grew by at most `n₁`, then by at most `n₂`, of the `k + (n₁ + n₂ + n₃)` increments it had room for -/
theorem counter_at_arrival {g ga gb k n₁ n₂ n₃ U : Nat} (h1 : ga ≤ g + n₁) (h2 : gb ≤ ga + n₂)
    (h : g + (k + (n₁ + n₂ + n₃)) < U) : gb + (k + n₃) < U := by omega

/-- block of `n₁`, `update(d)`, block of `n₂`: the clock when the client's datagram arrives, what is left of the
    budget there (the client has not moved yet; `n₃` bystander operations are still to come), and the half-open
    session of `addr`, if it has not expired -/
theorem budget_at_arrival {id : Nat} {c : NetcodeClient} {s sa sb : NetcodeServer} {T N d n₁ n₂ n₃ : Nat}
    (hb : Budget t expire c s T (N + 1 + (n₁ + n₂ + n₃))) (hd : d ≤ T) (f1 : BlockFrame addr id s sa n₁)
    (f2 : BlockFrame addr id (srvTick sa d) sb n₂) :
    sb.currentTime = s.currentTime + d ∧ Budget t expire c sb (T - d) (N + 1 + n₃) ∧
    ∀ p, pendingFind s.pendingClients addr = some p → asSecs (s.currentTime + d) ≤ p.expireTimestamp →
      pendingFind sb.pendingClients addr = some p := by
  have htb : sb.currentTime = s.currentTime + d := by rw [f2.time]; show sa.currentTime + d = _; rw [f1.time]
  refine ⟨htb, ⟨hb.cb.mono (Nat.sub_le _ _), ?_, ?_, hb.stmo.imp_right (Nat.le_trans (Nat.sub_le _ _)),
    Nat.lt_of_le_of_lt (Nat.add_le_add_left (Nat.add_le_add_left (Nat.le_add_left _ _) _) _) hb.cseq,
    counter_at_arrival f1.gLe f2.gLe hb.gseq, counter_at_arrival f1.cLe f2.cLe hb.chseq⟩, fun p hp he => ?_⟩
  · rw [htb, budget_split hd]; exact hb.sclock
  · rw [htb, budget_split hd]; exact hb.sexp
  · rw [f2.pend]
    exact pending_survives_tick (by rw [f1.pend]; exact hp) (by rw [f1.time]; exact he)

/-- **what the bystander hypothesis gives the proof of a round**, for the `update(x.d)` of the client at hand: the
    footprints of `b1` and `b2` around the server's `update` (`sb`: the state in which the client's datagram arrives),
    which keep `Core`, since neither connects the id; `Arr` in `sb`; and from the way up on (server state `s2`) the
    footprint of `b3`, which keeps `Core` too, and the round itself, whatever the per-client tick and the way down do -/
theorem roundOK_frames {x : RoundSpec} {c c1 : NetcodeClient} {s : NetcodeServer} {out : Option (Bytes × Addr)} {T N : Nat}
    (hok : roundOKB a s0 addr me t expire xnonce x (c, s) = true) (hi : ServerInv s) (hb : Budget t expire c s T N)
    (hd : x.d ≤ T) (hcu : c.update a x.d = .ok (out, c1)) :
    ∃ sa sb, BlockFrame addr t.clientId s sa x.b1.length ∧ BlockFrame addr t.clientId (srvTick sa x.d) sb x.b2.length ∧
      (Core s0 addr t s → Core s0 addr t sb) ∧
      (∀ dg, out = some (dg, me) → x.f ≠ .upLost → Arr a s0 addr t expire xnonce c sb) ∧
      ∀ {r s2}, up a addr me x.f out sb = some (r, s2) → ServerInv s2 →
        ∃ sc, BlockFrame addr t.clientId s2 sc x.b3.length ∧ (Core s0 addr t s2 → Core s0 addr t sc) ∧
          ∀ {r' s3 c3}, sc.updateClient a t.clientId = .ok (r', s3) → down a addr x.f r r' c1 = some c3 →
            roundB a addr me t.clientId x (c, s) = some (c3, s3) := by
  obtain ⟨hm, rs1, sa, h1, q1, rs2, sb, h2, q2, hrest⟩ := roundOK_elim hok
  obtain ⟨harr, h3⟩ := hrest _ _ hcu
  obtain ⟨f1, i1⟩ := block_frame x.b1 hi (fun op h => hm op (by simp [h])) h1
  have hclk : sa.currentTime + x.d ≤ DURATION_MAX := by
    rw [f1.time]; exact Nat.le_trans (Nat.le_add_right _ _) (hb.srvClock hd)
  have hsu := server_update_eq hclk
  obtain ⟨f2, i2⟩ := block_frame x.b2 (update_inv f1.inv hsu) (fun op h => hm op (by simp [h])) h2
  refine ⟨sa, sb, f1, f2, fun hs => ?_, harr, fun hup hi2 => ?_⟩
  · have ct := (hs.block f1 (i1 hs.idFree q1)).tick hclk
    exact ct.block f2 (i2 ct.idFree q2)
  · obtain ⟨rs3, sc, h3', q3⟩ := h3 _ _ hup
    obtain ⟨f3, i3⟩ := block_frame x.b3 hi2 (fun op h => hm op (by simp [h])) h3'
    exact ⟨sc, f3, fun hs2 => hs2.block f3 (i3 hs2.idFree q3), fun htick hdown =>
      roundB_intro (runBy_of_runOps h1) hsu hcu (runBy_of_runOps h2) hup (runBy_of_runOps h3') htick hdown⟩

theorem Core.idle {s : NetcodeServer} (h : Core s0 addr t s) : s.updateClient a t.clientId = .ok (.none, s) :=
  updateClient_absent a (findSlot_none.mpr h.idFree)

theorem srvConn_block {T N D n : Nat} {s s' : NetcodeServer} (h : SrvConn s0 addr t expire T N D s)
    (hf : BlockFrame addr t.clientId s s' n) : SrvConn s0 addr t expire T N D s' := by
  obtain ⟨i, cn, h1, h2, h3, h4, h5⟩ := h.sess
  obtain ⟨e1, e2, _⟩ := identT_fields h2
  exact ⟨h.cfg.trans hf.cfg, hf.inv, i, cn, hf.slots.mine i cn h1 e1 e2, h2, h3, by rw [hf.time]; exact h4,
    by rw [hf.time]; exact h5⟩

/-- **request phase, a round in which the client hears nothing** — with bystanders.  If the request reaches the
    server (the answer is lost), `Room` holds at its arrival (`roundOKB`), so it is answered with a challenge. -/
theorem roundB_req_lossy (hT : TokOK a s0 t expire xnonce) {c : NetcodeClient} {s : NetcodeServer} {x : RoundSpec}
    {T N : Nat} (hc : CliReq a s0 t expire xnonce c) (hs : Core s0 addr t s)
    (hb : Budget t expire c s T (N + 1 + x.ops)) (hd : x.d ≤ T) (hf : x.f ≠ .delivered)
    (hok : roundOKB a s0 addr me t expire xnonce x (c, s) = true) :
    ∃ c' s', roundB a addr me t.clientId x (c, s) = some (c', s') ∧ CliReq a s0 t expire xnonce c' ∧
      Core s0 addr t s' ∧ Budget t expire c' s' (T - x.d) N ∧ CliSame c c' ∧
      c'.currentTime = c.currentTime + x.d ∧ s'.currentTime = s.currentTime + x.d := by
  obtain ⟨out, c1, hcu, hc1, hsame, htime, hsq, hcb, hout⟩ := cli_req_update hT hc hb.cb hd
    (Nat.lt_of_add_right_lt hb.cseq)
  obtain ⟨sa, sb, f1, f2, hcore, harr, h3⟩ := roundOK_frames (me := me) hok hs.inv hb hd hcu
  have hsb := hcore hs
  obtain ⟨htb, hbb, _⟩ := budget_at_arrival hb hd f1 f2
  -- from the way up on (server state `s2`, nothing for the client to hear): the third block and the idle tick
  have rest : ∀ {r : ServerResult} {s2 : NetcodeServer}, up a addr me x.f out sb = some (r, s2) → Core s0 addr t s2 →
      s2.currentTime = sb.currentTime → s2.globalSequence ≤ sb.globalSequence + 1 →
      s2.challengeSequence ≤ sb.challengeSequence + 1 → down a addr x.f r .none c1 = some c1 →
      ∃ c' s', roundB a addr me t.clientId x (c, s) = some (c', s') ∧ CliReq a s0 t expire xnonce c' ∧
        Core s0 addr t s' ∧ Budget t expire c' s' (T - x.d) N ∧ CliSame c c' ∧
        c'.currentTime = c.currentTime + x.d ∧ s'.currentTime = s.currentTime + x.d := by
    intro r s2 hup hs2 htm hg2 hc2 hdown
    obtain ⟨sc, f3, hcore3, hround⟩ := h3 hup hs2.inv
    have hsc := hcore3 hs2
    exact ⟨c1, sc, hround hsc.idle hdown, hc1, hsc,
      hbb.still hcb (f3.time.trans htm) hsq (Nat.le_trans f3.gLe (Nat.add_le_add_right hg2 _))
        (Nat.le_trans f3.cLe (Nat.add_le_add_right hc2 _)), hsame, htime, by rw [f3.time, htm, htb]⟩
  rcases srv_req_up (me := me) (f := x.f) hT (hout.imp And.left And.left)
      (fun dg e hf' => hsb.open ((harr dg e hf').1 hc.st)) (Nat.lt_of_add_right_lt hbb.gseq)
      (Nat.lt_of_add_right_lt hbb.chseq) (Nat.lt_of_le_of_lt (asSecs_mono (Nat.le_add_right _ _)) hbb.sexp) with
    hup | ⟨s2, hup, hs2, _, hcs, hgs, htm⟩
  · exact rest hup hsb rfl (Nat.le_succ _) (Nat.le_succ _) (down_nothing a addr x.f _ rfl rfl)
  · exact rest hup (Core.ofOpen hs2) htm (Nat.le_of_eq hgs) (Nat.le_of_eq hcs) (down_lossy a addr hf _ _ _)

theorem roundB_req_delivered (hT : TokOK a s0 t expire xnonce) {c : NetcodeClient} {s : NetcodeServer} {x : RoundSpec}
    {T N : Nat} (hc : CliReq a s0 t expire xnonce c) (hs : Core s0 addr t s)
    (hb : Budget t expire c s T (N + 1 + x.ops)) (hd : x.d ≤ T) (hfd : x.f = .delivered) (hme : c.serverAddr = me)
    (hg : GateOpen c x.d) (hok : roundOKB a s0 addr me t expire xnonce x (c, s) = true) :
    ∃ c' s', roundB a addr me t.clientId x (c, s) = some (c', s') ∧ CliResp a s0 t expire xnonce c' ∧
      Core s0 addr t s' ∧ HasPend addr t expire s' ∧ Budget t expire c' s' (T - x.d) N ∧
      c'.lastPacketSendTime = none ∧ c'.serverAddr = me ∧ c'.sendRate = c.sendRate ∧
      c'.currentTime = c.currentTime + x.d ∧ s'.currentTime = s.currentTime + x.d := by
  have hU : U64_MAX = 2 ^ 64 - 1 := rfl
  have hcu := update_sends_request a hT.laws hc.tok hT.wf hT.xn hc.st hb.cb hd (Nat.lt_of_add_right_lt hb.cseq) hc.sendLe hg
  rw [hme] at hcu
  obtain ⟨sa, sb, f1, f2, hcore, harr, h3⟩ := roundOK_frames (me := me) hok hs.inv hb hd hcu
  have hsb := hcore hs
  obtain ⟨htb, hbb, _⟩ := budget_at_arrival hb hd f1 f2
  have hgb : sb.globalSequence < U64_MAX := Nat.lt_of_add_right_lt hbb.gseq
  have hchb : sb.challengeSequence + 1 < U64_MAX := hbb.room.2.2
  have hf' : x.f ≠ .upLost := by rw [hfd]; decide
  obtain ⟨s2, hpp, hs2, hpf, hcs, hgs, htm⟩ := (hsb.open ((harr _ rfl hf').1 hc.st)).request hT hgb
    (Nat.lt_of_succ_lt hchb) (Nat.lt_of_le_of_lt (asSecs_mono (Nat.le_add_right _ _)) hbb.sexp)
  have hup := up_arrives a addr me hf' hpp
  obtain ⟨sc, f3, hcore3, hround⟩ := h3 hup hs2.inv
  have hsc := hcore3 (Core.ofOpen hs2)
  have hchal := progress_challenge a hT.laws (c := cliSent c x.d) (s := sb) (t := t) hc.st hc.tok.s2c
    (hc.tok.pid.trans hsb.cfg.protocolId.symm) (by omega) (by omega) hT.wf.userData
  have hdown := down_first a addr (r := .packetToSend addr (challengeBytes a sb t)) (r' := .none) (by simp [answerTo]) rfl
    hchal
  rw [← hfd] at hdown
  exact ⟨_, sc, hround hsc.idle hdown,
    ⟨rfl, hc.tok, (fun tm e => by cases e), hc.rp, by show sb.challengeSequence + 1 < 2 ^ 64; omega,
      challengeToken_cfg a hsb.cfg _ _ _⟩, hsc, ⟨mkPending sb.currentTime addr expire t, by rw [f3.pend]; exact hpf, rfl⟩,
    hbb.still (hb.cb.step hd rfl rfl rfl (Or.inr rfl)) (f3.time.trans htm) (Nat.le_refl _)
      (Nat.le_trans f3.gLe (Nat.add_le_add_right (Nat.le_of_eq hgs) _))
      (Nat.le_trans f3.cLe (Nat.add_le_add_right (Nat.le_of_eq hcs) _)),
    rfl, hme, rfl, rfl, by rw [f3.time, htm, htb]⟩

/-- the server side of the response phase, with bystanders: the half-open session is still there, or the session -/
def RespB (s0 : NetcodeServer) (addr : Addr) (t : PrivateConnectToken) (expire : Nat) (T N : Nat) (s : NetcodeServer) :
    Prop :=
  (Core s0 addr t s ∧ HasPend addr t expire s) ∨ SrvConn s0 addr t expire T N 0 s

theorem roundB_resp_lossy (hT : TokOK a s0 t expire xnonce) {c : NetcodeClient} {s : NetcodeServer} {x : RoundSpec}
    {T N : Nat} (hc : CliResp a s0 t expire xnonce c) (hs : Core s0 addr t s) (hp : HasPend addr t expire s)
    (hb : Budget t expire c s T (N + 1 + x.ops)) (hd : x.d ≤ T) (hf : x.f ≠ .delivered)
    (hok : roundOKB a s0 addr me t expire xnonce x (c, s) = true) :
    ∃ c' s', roundB a addr me t.clientId x (c, s) = some (c', s') ∧ CliResp a s0 t expire xnonce c' ∧
      RespB s0 addr t expire (T - x.d) N s' ∧ Budget t expire c' s' (T - x.d) N ∧ CliSame c c' ∧
      c'.currentTime = c.currentTime + x.d ∧ s'.currentTime = s.currentTime + x.d := by
  have hU : U64_MAX = 2 ^ 64 - 1 := rfl
  obtain ⟨p, hpf, hpi⟩ := hp
  have hcs0 : c.sequence < U64_MAX := Nat.lt_of_add_right_lt hb.cseq
  obtain ⟨out, c1, hcu, hc1, hsame, htime, hsq, hcbud, hout⟩ := cli_resp_update hT hc hb.cb hd hcs0
  obtain ⟨sa, sb, f1, f2, hcore, harr, h3⟩ := roundOK_frames (me := me) hok hs.inv hb hd hcu
  have hsb := hcore hs
  obtain ⟨htb, hbb, hpend⟩ := budget_at_arrival hb hd f1 f2
  have hpfb := hpend p hpf (by rw [(identT_fields hpi).2.2.2.2.2.2]; exact Nat.le_of_lt (hb.notExpired hd))
  by_cases hq : up a addr me x.f out sb = some (.none, sb)
  · -- nothing reaches the server
    obtain ⟨sc, f3, hcore3, hround⟩ := h3 hq hsb.inv
    have hsc := hcore3 hsb
    exact ⟨c1, sc, hround hsc.idle (down_nothing a addr x.f _ rfl rfl), hc1,
      Or.inl ⟨hsc, p, by rw [f3.pend]; exact hpfb, hpi⟩,
      hbb.still hcbud f3.time hsq (Nat.le_trans f3.gLe (Nat.add_le_add_right (Nat.le_succ _) _))
        (Nat.le_trans f3.cLe (Nat.add_le_add_right (Nat.le_succ _) _)), hsame, htime, by rw [f3.time, htb]⟩
  · rcases hout with ⟨rfl, _⟩ | ⟨rfl, hg⟩
    · exact absurd (up_none a addr me x.f _) hq
    · obtain ⟨hf', hme⟩ := arrives_of_not_lost fun hl => hq (up_lost a addr me _ hl)
      have hcap := (harr _ (by rw [hme]) hf').2 hc.st hsb.idFree
      obtain ⟨i, s2, hpp, hconn, hat, t2, g2, c2, hps⟩ := response_held hT (cs := c.challengeTokenSequence)
        (seq := c.sequence) (T' := T - x.d) (N' := N + x.b3.length) hsb.cfg hsb.inv hsb.addrFree hsb.idFree hcap hpfb hpi
        hc.cs (by omega) hbb.stmo
        (by have := hbb.gseq; omega)
      have hup : up a addr me x.f (some (responseBytes a c, c.serverAddr)) sb =
          some (.clientConnected p.clientId addr p.userData (connectKeepAlive a sb p i), s2) := by
        rw [hme, responseBytes_eq hc]; exact up_arrives a addr me hf' hpp
      obtain ⟨sc, f3, _, hround⟩ := h3 hup hconn.inv
      obtain ⟨k1, k2, _⟩ := identT_fields hpi
      have hq := tick_after_connect (a := a) f3.inv (f3.slots.mine i _ hat k1 k2) k1 (f3.time.trans t2) hps
        (Nat.le_trans (Nat.add_le_add_right (Nat.le_add_right _ _) _) hbb.sclock)
      exact ⟨c1, sc, hround hq (down_lossy a addr hf _ _ _), hc1,
        Or.inr ((srvConn_block hconn f3).weaken (Nat.le_refl _) (Nat.le_add_right _ _) (Nat.le_refl _)),
        hbb.still hcbud (f3.time.trans t2) hsq
          (Nat.le_trans f3.gLe (Nat.add_le_add_right (Nat.le_trans (Nat.le_of_eq g2) (Nat.le_succ _)) _))
          (Nat.le_trans f3.cLe (Nat.add_le_add_right (Nat.le_trans (Nat.le_of_eq c2) (Nat.le_succ _)) _)),
        hsame, htime, by rw [f3.time, t2, htb]⟩

theorem roundB_resp_delivered (hT : TokOK a s0 t expire xnonce) {c : NetcodeClient} {s : NetcodeServer} {x : RoundSpec}
    {T N : Nat} (hc : CliResp a s0 t expire xnonce c) (hs : Core s0 addr t s) (hp : HasPend addr t expire s)
    (hb : Budget t expire c s T (N + 1 + x.ops)) (hd : x.d ≤ T) (hfd : x.f = .delivered) (hme : c.serverAddr = me)
    (hg : GateOpen c x.d) (hok : roundOKB a s0 addr me t expire xnonce x (c, s) = true) :
    ∃ c' s', roundB a addr me t.clientId x (c, s) = some (c', s') ∧ Established addr t expire c' s' ∧
      c'.currentTime = c.currentTime + x.d ∧ s'.currentTime = s.currentTime + x.d := by
  have hU : U64_MAX = 2 ^ 64 - 1 := rfl
  obtain ⟨p, hpf, hpi⟩ := hp
  have hcs0 : c.sequence < U64_MAX := Nat.lt_of_add_right_lt hb.cseq
  have hcu := update_sends_response a hc.st (hc.tokenData_length hT) hb.cb hd hcs0 hc.sendLe hg
  rw [hme, responseBytes_eq hc] at hcu
  obtain ⟨sa, sb, f1, f2, hcore, harr, h3⟩ := roundOK_frames (me := me) hok hs.inv hb hd hcu
  have hsb := hcore hs
  obtain ⟨htb, hbb, hpend⟩ := budget_at_arrival hb hd f1 f2
  have hpfb := hpend p hpf (by rw [(identT_fields hpi).2.2.2.2.2.2]; exact Nat.le_of_lt (hb.notExpired hd))
  have hf' : x.f ≠ .upLost := by rw [hfd]; decide
  obtain ⟨i, s2, hpp, hconn, hat, t2, g2, c2, hps⟩ := response_held hT (cs := c.challengeTokenSequence)
    (seq := c.sequence) (T' := 0) (N' := 0) hsb.cfg hsb.inv hsb.addrFree hsb.idFree
    ((harr _ rfl hf').2 hc.st hsb.idFree) hpfb hpi
    hc.cs (by omega) (Or.inr (Nat.zero_le _)) (by decide)
  have hup := up_arrives a addr me hf' hpp
  obtain ⟨sc, f3, _, hround⟩ := h3 hup hconn.inv
  obtain ⟨k1, k2, k3, k4, _⟩ := identT_fields hpi
  have hq := tick_after_connect (a := a) f3.inv (f3.slots.mine i _ hat k1 k2) k1 (f3.time.trans t2) hps
    (Nat.le_trans (Nat.add_le_add_right (Nat.le_add_right _ _) _) hbb.sclock)
  have hka := progress_keepalive a hT.laws (c := cliSent c x.d) (s := sb) (p := p) (i := i) hc.st
    (hc.tok.s2c.trans k4.symm) (hc.tok.pid.trans hsb.cfg.protocolId.symm) (by rw [hps]; decide) (hc.rp _)
  have hdown := down_first a addr (r := .clientConnected p.clientId addr p.userData (connectKeepAlive a sb p i))
    (r' := .none) (by simp [answerTo]) rfl hka
  rw [← hfd] at hdown
  exact ⟨_, sc, hround hq hdown, ⟨rfl, f3.inv, i, _, f3.slots.mine i _ hat k1 k2, hpi⟩, rfl, by rw [f3.time, t2, htb]⟩

/-- the rounds of a server that holds the session, with bystanders, up to its per-client tick -/
theorem conn_round_core (hT : TokOK a s0 t expire xnonce) {c : NetcodeClient} {s : NetcodeServer} {x : RoundSpec}
    {T N D : Nat} (hc : CliResp a s0 t expire xnonce c) (hs : SrvConn s0 addr t expire T (N + 1 + x.ops) D s)
    (hb : Budget t expire c s T (N + 1 + x.ops)) (hd : x.d ≤ T)
    (hok : roundOKB a s0 addr me t expire xnonce x (c, s) = true) :
    ∃ c1 sc, CliResp a s0 t expire xnonce c1 ∧ CliSame c c1 ∧ c1.currentTime = c.currentTime + x.d ∧
      SrvConn s0 addr t expire (T - x.d) (N + 1) (D + x.d) sc ∧ sc.currentTime = s.currentTime + x.d ∧
      sc.currentTime + fromSecs (2 ^ 31) ≤ DURATION_MAX ∧
      (∀ {s3 : NetcodeServer}, s3.currentTime = sc.currentTime → s3.globalSequence = sc.globalSequence →
        s3.challengeSequence = sc.challengeSequence → Budget t expire c1 s3 (T - x.d) N) ∧
      ∀ {r' s3 c3}, sc.updateClient a t.clientId = .ok (r', s3) → down a addr x.f .none r' c1 = some c3 →
        roundB a addr me t.clientId x (c, s) = some (c3, s3) := by
  have hU : U64_MAX = 2 ^ 64 - 1 := rfl
  have hcs0 : c.sequence < U64_MAX := Nat.lt_of_add_right_lt hb.cseq
  obtain ⟨out, c1, hcu, hc1, hsame, htime, hsq, hcbud, hout⟩ := cli_resp_update hT hc hb.cb hd hcs0
  obtain ⟨sa, sb, f1, f2, _, _, h3⟩ := roundOK_frames (me := me) hok hs.inv hb hd hcu
  obtain ⟨htb, hbb, _⟩ := budget_at_arrival hb hd f1 f2
  -- the session through block, `update(x.d)`, block
  have hsb := srvConn_block ((srvConn_block hs f1).tick hd
    (by rw [f1.time]; exact Nat.le_trans (Nat.le_add_right _ _) (hb.srvClock hd))) f2
  obtain ⟨s2, hup, hs2, t2, g2, c2⟩ := srv_conn_up (me := me) (f := x.f) hT hc hsb (by omega) (hout.imp And.left And.left)
  obtain ⟨sc, f3, _, hround⟩ := h3 hup hs2.inv
  refine ⟨c1, sc, hc1, hsame, htime,
    (srvConn_block hs2 f3).weaken (Nat.le_refl _) (Nat.le_add_right _ _) (Nat.le_refl _),
    by rw [f3.time, t2, htb], ?_, fun e1 e2 e3 => ?_, hround⟩
  · rw [f3.time, t2]; exact Nat.le_trans (Nat.add_le_add_right (Nat.le_add_right _ _) _) hbb.sclock
  · exact hbb.still hcbud (e1.trans (f3.time.trans t2)) hsq
      (by rw [e2]; exact Nat.le_trans f3.gLe (Nat.add_le_add_right (Nat.le_trans (Nat.le_of_eq g2) (Nat.le_succ _)) _))
      (by rw [e3]; exact Nat.le_trans f3.cLe (Nat.add_le_add_right (Nat.le_trans (Nat.le_of_eq c2) (Nat.le_succ _)) _))

theorem roundB_half_lossy (hT : TokOK a s0 t expire xnonce) {c : NetcodeClient} {s : NetcodeServer} {x : RoundSpec}
    {T N D : Nat} (hc : CliResp a s0 t expire xnonce c) (hs : SrvConn s0 addr t expire T (N + 1 + x.ops) D s)
    (hb : Budget t expire c s T (N + 1 + x.ops)) (hd : x.d ≤ T) (hf : x.f ≠ .delivered)
    (hok : roundOKB a s0 addr me t expire xnonce x (c, s) = true) :
    ∃ c' s', roundB a addr me t.clientId x (c, s) = some (c', s') ∧ CliResp a s0 t expire xnonce c' ∧
      SrvConn s0 addr t expire (T - x.d) N 0 s' ∧ Budget t expire c' s' (T - x.d) N ∧ CliSame c c' ∧
      c'.currentTime = c.currentTime + x.d ∧ s'.currentTime = s.currentTime + x.d := by
  obtain ⟨c1, sc, hc1, hsame, htime, hsc, tc, hclk, hbud, hround⟩ := conn_round_core (me := me) hT hc hs hb hd hok
  obtain ⟨r', s3, htick, hs3, t3, g3, c3⟩ := (hsc.weaken (Nat.le_refl _) (Nat.le_refl _) (Nat.zero_le _)).updateClient_any
    (a := a) hclk
  exact ⟨c1, s3, hround htick (down_lossy a addr hf _ _ _), hc1, hs3, hbud t3 g3 c3, hsame, htime, t3.trans tc⟩

/-- **the keep-alive was lost, a `delivered` round of at least the send rate** — with bystanders: the tick's
    keep-alive connects the client -/
theorem roundB_half_delivered (hT : TokOK a s0 t expire xnonce) {c : NetcodeClient} {s : NetcodeServer} {x : RoundSpec}
    {T N D : Nat} (hc : CliResp a s0 t expire xnonce c) (hs : SrvConn s0 addr t expire T (N + 1 + x.ops) D s)
    (hb : Budget t expire c s T (N + 1 + x.ops)) (hd : x.d ≤ T) (hfd : x.f = .delivered)
    (hrate : C.NETCODE_SEND_RATE_NS ≤ x.d) (hok : roundOKB a s0 addr me t expire xnonce x (c, s) = true) :
    ∃ c' s', roundB a addr me t.clientId x (c, s) = some (c', s') ∧ Established addr t expire c' s' ∧
      c'.currentTime = c.currentTime + x.d ∧ s'.currentTime = s.currentTime + x.d := by
  obtain ⟨c1, sc, hc1, hsame, htime, hsc, tc, hclk, _, hround⟩ := conn_round_core (me := me) hT hc hs hb hd hok
  obtain ⟨i, cn, hat, hid, hsq2, htick, hinv3⟩ := hsc.updateClient_due (a := a) hclk
    (Nat.le_trans hrate (Nat.le_add_left _ _))
  have hka := progress_keepalive a hT.laws (c := c1) (s := sc) (p := cn) (i := i) hc1.st
    (hc1.tok.s2c.trans (identT_fields hid).2.2.2.1.symm) (hc1.tok.pid.trans hsc.cfg.protocolId.symm) hsq2 (hc1.rp _)
  have hdown := down_second a addr (r := .none) (r' := .packetToSend addr (connectKeepAlive a sc cn i)) rfl
    (by simp [answerTo]) hka
  rw [← hfd] at hdown
  exact ⟨_, _, hround htick hdown, ⟨rfl, hinv3, i, _, at_set_self (at_lt hat), hid⟩, htime, tc⟩

def LossyB (sched : List RoundSpec) : Prop := ∀ x ∈ sched, x.f ≠ .delivered

instance (sched : List RoundSpec) : Decidable (LossyB sched) := by unfold LossyB; infer_instance

theorem costB_cons_eq (N : Nat) (x : RoundSpec) (rest : List RoundSpec) :
    N + costB (x :: rest) = N + costB rest + 1 + x.ops := by simp only [costB]; omega

theorem roundB_resp_quiet (hT : TokOK a s0 t expire xnonce) {c : NetcodeClient} {s : NetcodeServer} {x : RoundSpec}
    {T N : Nat} (hc : CliResp a s0 t expire xnonce c) (hs : RespB s0 addr t expire T (N + 1 + x.ops) s)
    (hb : Budget t expire c s T (N + 1 + x.ops)) (hd : x.d ≤ T) (hf : x.f ≠ .delivered)
    (hok : roundOKB a s0 addr me t expire xnonce x (c, s) = true) :
    ∃ c' s', roundB a addr me t.clientId x (c, s) = some (c', s') ∧ CliResp a s0 t expire xnonce c' ∧
      RespB s0 addr t expire (T - x.d) N s' ∧ Budget t expire c' s' (T - x.d) N ∧ CliSame c c' ∧
      c'.currentTime = c.currentTime + x.d ∧ s'.currentTime = s.currentTime + x.d := by
  rcases hs with ⟨hso, hp⟩ | hsc
  · exact roundB_resp_lossy hT hc hso hp hb hd hf hok
  · obtain ⟨c1, s1, hr, hc1, hs1, rest⟩ := roundB_half_lossy (me := me) hT hc hsc hb hd hf hok
    exact ⟨c1, s1, hr, hc1, Or.inr hs1, rest⟩

/-- **any number of rounds in which the client hears nothing** — with bystanders.  A phase `P` of the client and a state
    `Q T N` of the server (time and events it has room for) that one such round keeps, as `hround` says, are kept by a
    whole schedule of them (induction over the rounds). -/
theorem run_lossyB {P : NetcodeClient → Prop} {Q : Nat → Nat → NetcodeServer → Prop}
    (hround : ∀ {c : NetcodeClient} {s : NetcodeServer} {x : RoundSpec} {T N : Nat}, P c → Q T (N + 1 + x.ops) s →
      Budget t expire c s T (N + 1 + x.ops) → x.d ≤ T → x.f ≠ .delivered →
      roundOKB a s0 addr me t expire xnonce x (c, s) = true →
      ∃ c' s', roundB a addr me t.clientId x (c, s) = some (c', s') ∧ P c' ∧ Q (T - x.d) N s' ∧
        Budget t expire c' s' (T - x.d) N ∧ CliSame c c' ∧ c'.currentTime = c.currentTime + x.d ∧
        s'.currentTime = s.currentTime + x.d) :
    ∀ (sched : List RoundSpec) {c : NetcodeClient} {s : NetcodeServer} {T N : Nat}, P c → Q T (N + costB sched) s →
    Budget t expire c s T (N + costB sched) → totalTimeB sched ≤ T → LossyB sched →
    BysOK a s0 addr me t expire xnonce sched (c, s) →
    ∃ c' s', runRoundsB a addr me t.clientId sched (c, s) = some (c', s') ∧ P c' ∧ Q (T - totalTimeB sched) N s' ∧
      Budget t expire c' s' (T - totalTimeB sched) N ∧ CliSame c c' ∧
      c'.currentTime = c.currentTime + totalTimeB sched ∧ s'.currentTime = s.currentTime + totalTimeB sched
  | [], c, s, T, N, hc, hs, hb, _, _, _ => ⟨c, s, rfl, hc, hs, hb, CliSame.refl c, rfl, rfl⟩
  | x :: rest, c, s, T, N, hc, hs, hb, ht, hl, hby => by
    simp only [totalTimeB] at ht ⊢
    rw [costB_cons_eq] at hb hs
    obtain ⟨hok, hnext⟩ := bysOK_cons.mp hby
    obtain ⟨c1, s1, hr, hc1, hs1, hb1, hsame1, ht1, hst1⟩ := hround hc hs hb (Nat.le_of_add_right_le ht)
      (hl x List.mem_cons_self) hok
    obtain ⟨c2, s2, hr2, hc2, hs2, hb2, hsame2, ht2, hst2⟩ := run_lossyB hround rest hc1 hs1 hb1
      (Nat.le_sub_of_add_le' ht) (fun y hy => hl y (List.mem_cons_of_mem _ hy)) (hnext _ hr)
    refine ⟨c2, s2, by simp only [runRoundsB, hr, Option.bind_some, hr2], hc2, ?_, ?_, hsame1.trans hsame2,
      by rw [ht2, ht1, Nat.add_assoc], by rw [hst2, hst1, Nat.add_assoc]⟩
    · rw [← Nat.sub_sub]; exact hs2
    · rw [← Nat.sub_sub]; exact hb2

theorem roundB_resp_final (hT : TokOK a s0 t expire xnonce) {c : NetcodeClient} {s : NetcodeServer} {x : RoundSpec}
    {T N : Nat} (hc : CliResp a s0 t expire xnonce c) (hs : RespB s0 addr t expire T (N + 1 + x.ops) s)
    (hb : Budget t expire c s T (N + 1 + x.ops)) (hd : x.d ≤ T) (hfd : x.f = .delivered) (hme : c.serverAddr = me)
    (hgate : GateOpen c x.d) (hrate : C.NETCODE_SEND_RATE_NS ≤ x.d)
    (hok : roundOKB a s0 addr me t expire xnonce x (c, s) = true) :
    ∃ c' s', roundB a addr me t.clientId x (c, s) = some (c', s') ∧ Established addr t expire c' s' ∧
      c'.currentTime = c.currentTime + x.d ∧ s'.currentTime = s.currentTime + x.d := by
  rcases hs with ⟨hso, hp⟩ | hsc
  · exact roundB_resp_delivered hT hc hso hp hb hd hfd hme hgate hok
  · exact roundB_half_delivered hT hc hsc hb hd hfd hrate hok

/-! ## Part C : duplicated and late datagrams -/

/-- **a late challenge is ignored**: a client that has already stored a challenge (`SendingConnectionResponse`) or is
    `Connected` drops any (other) challenge of the server — its state does not change at all -/
theorem late_challenge_ignored (hl : a.Laws) {c : NetcodeClient} {s : NetcodeServer} {t : PrivateConnectToken}
    (hst : c.state = .sendingConnectionResponse ∨ c.state = .connected)
    (hkey : c.connectToken.serverToClientKey = t.serverToClientKey) (hpid : c.connectToken.protocolId = s.protocolId)
    (hg : s.globalSequence < 2 ^ 64) (hcs : s.challengeSequence + 1 < 2 ^ 64) (hud : t.userData.length = 256) :
    c.processPacket a (challengeBytes a s t) = .ok (none, c) := by
  rcases c with ⟨st, f2, f3, f4, f5, f6, f7, f8, f9, f10, f11, f12, f13, f14, f15, f16⟩
  simp only at hst hkey hpid
  have hdec := Packet.decode_sealedBytes a
    (.challenge (s.challengeSequence + 1) (challengeToken a s t.clientId t.userData (s.challengeSequence + 1)))
    s.protocolId s.globalSequence t.serverToClientKey hl hg (by simp [Packet.packetType])
    ⟨hcs, challengeToken_length a hl s t.clientId hud _⟩ (some f16) rfl
  unfold NetcodeClient.processPacket
  simp only
  rw [hkey, hpid]
  unfold challengeBytes
  rw [hdec]
  rcases hst with rfl | rfl <;>
    simp only [Packet.stepWindow, Packet.packetType, PacketType.applyReplayProtection, Option.map_some,
      Bool.false_eq_true, if_false, Option.getD_some]

/-- **duplication and reordering inside the handshake**: the request datagram of round 1 is delivered a second time
    after the client has moved on; the server answers it with a second challenge (and re-creates the half-open
    session); that challenge reaches the client late and is ignored; the client's response — which echoes the *first*
    challenge — still connects. -/
theorem handshake_despite_duplication (hT : TokOK a s0 t expire xnonce) {c0 : NetcodeClient} {s : NetcodeServer}
    {d₁ d₂ : Nat} (hc : CliReq a s0 t expire xnonce c0) (hsend : c0.lastPacketSendTime = none)
    (hme : c0.serverAddr = me) (hs : SrvOpen a s0 addr t expire xnonce s) (hb : Budget t expire c0 s (d₁ + d₂) 3) :
    ∃ c1 s1 s1' c2 s2, round a addr me t.clientId .delivered d₁ (c0, s) = some (c1, s1) ∧
      c1.state = .sendingConnectionResponse ∧
      s1.processPacket a addr (requestBytes a s0 t expire xnonce) =
        .ok (.packetToSend addr (challengeBytes a s1 t), s1') ∧
      c1.processPacket a (challengeBytes a s1 t) = .ok (none, c1) ∧
      round a addr me t.clientId .delivered d₂ (c1, s1') = some (c2, s2) ∧
      Established addr t expire c2 s2 ∧ s2.isClientConnected t.clientId = true ∧
      c2.currentTime = c0.currentTime + d₁ + d₂ ∧ s2.currentTime = s.currentTime + d₁ + d₂ := by
  have hU : U64_MAX = 2 ^ 64 - 1 := rfl
  obtain ⟨s1, hr1, hc1, hs1, -, hb1, hst1⟩ :=
    round_req_delivered (me := me) (N := 2) hT hc hs hb (Nat.le_add_right _ _) hme (gateOpen_of_none hsend)
  rw [Nat.add_sub_cancel_left] at hb1
  obtain ⟨_, hg1, hch1⟩ := hb1.room (N := 1) (n := 0)
  obtain ⟨s1', hpp, hs1', hpf', hcs', hgs', htm'⟩ := hs1.request hT (Nat.lt_of_succ_lt hg1) (Nat.lt_of_succ_lt hch1)
    (Nat.lt_of_le_of_lt (asSecs_mono (Nat.le_add_right _ _)) hb1.sexp)
  have hign := late_challenge_ignored hT.laws (s := s1) (t := t) (Or.inl hc1.st) hc1.tok.s2c
    (hc1.tok.pid.trans hs1.cfg.protocolId.symm) (by omega) (by omega) hT.wf.userData
  have hb1' := hb1.still (N := 1) (n := 0) hb1.cb htm' (Nat.le_succ _) (Nat.le_of_eq hgs')
    (Nat.le_of_eq hcs')
  obtain ⟨c2, s2, hr2, hsteady, ht2, hst2⟩ := NcLive3.round_resp_delivered (me := me) (N := 0) hT hc1 hs1' hpf' rfl
    rp_new_fresh hb1' (Nat.le_refl _) hme (gateOpen_of_none rfl)
  have hest := hsteady.established
  exact ⟨_, s1, s1', c2, s2, hr1, rfl, hpp, hign, hr2, hest, hest.isClientConnected, ht2, by rw [hst2, htm', hst1]⟩

/-- **a duplicated response is ignored** once the session exists (`NcLive2.SrvConn.recv_response`), and a late
    challenge is ignored by the connected client: the established connection stays -/
theorem established_despite_duplicates (hT : TokOK a s0 t expire xnonce) {c : NetcodeClient} {s sx : NetcodeServer}
    {T N D cs seq : Nat} (hcst : c.state = .connected) (htok : TokenFor a s0 t expire xnonce c.connectToken)
    (hsc : SrvConn s0 addr t expire T N D s) (hg : s.globalSequence < U64_MAX) (hch : s.challengeSequence < U64_MAX)
    (hcs : cs < 2 ^ 64) (hseq : seq < 2 ^ 64) (hcfg : SameCfg s0 sx) (hgx : sx.globalSequence < 2 ^ 64)
    (hcx : sx.challengeSequence + 1 < 2 ^ 64) :
    (∃ s', s.processPacket a addr (Packet.sealedBytes a (.response cs (challengeToken a s0 t.clientId t.userData cs))
        s0.protocolId seq t.clientToServerKey) = .ok (.none, s') ∧ SrvConn s0 addr t expire T N D s') ∧
    c.processPacket a (challengeBytes a sx t) = .ok (none, c) := by
  obtain ⟨s', h1, h2, _⟩ := hsc.recv_response hT hcs hseq
  exact ⟨⟨s', h1, h2⟩, late_challenge_ignored hT.laws (Or.inr hcst) htok.s2c (htok.pid.trans hcfg.protocolId.symm) hgx
    hcx hT.wf.userData⟩

end Bys

end RenetVerif.NcLive4
