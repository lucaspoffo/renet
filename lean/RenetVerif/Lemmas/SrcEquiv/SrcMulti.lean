/-
  The MULTI-CLIENT system of `Lemmas/MultiSystem.lean` (`MSys`: one `Server`, per client id a remote `Conn` and a private
  adversarial network, 17 operations `MOp`), rebuilt over the GENERATED code: `GMulti` holds a generated `RenetServer`
  (`Generated/Src/Server.lean`) and, per id, a generated `RenetClient`; `GMulti.step` mirrors `MSys.step` operation by operation,
  calling only the generated functions `RenetServer::{new, add_connection, remove_connection, disconnect, send_message,
  broadcast_message, broadcast_message_except, receive_message, update, get_packets_to_send, process_packet_from}` and
  `RenetClient::{new, new_from_server, set_connected, disconnect, send_message, receive_message, update, get_packets_to_send,
  process_packet}`.  ALL 17 operations are covered.

  `mexec_sim` / `mrun_sim` / `mrun_sim_conv`: under the range side condition `MRunInRange P ops` the generated execution and the
  model run succeed together and end in `SimMulti`-related states.
-/
import RenetVerif.Lemmas.SrcEquiv.SrcSystem
import RenetVerif.Lemmas.MultiSystem
import RenetVerif.Props.SrcTieServer
import RenetVerif.Lemmas.ResMonad
namespace RenetVerif.SrcMulti
open RenetVerif RenetVerif.RustSem RenetVerif.C RenetVerif.System RenetVerif.MultiSystem RenetVerif.SrcEquiv RenetVerif.SrcSystem
open Src.renet.remote_connection Src.renet.server

/-- everything that belongs to one client id outside the server table (mirror of `MultiSystem.Link`) -/
structure GLink where
  cl : RenetClient
  /-- ghost copy of the server-side connection, taken when `remove_connection` drops it (read off the field `connections`) -/
  last : RenetClient
  outS : List GBytes
  outC : List GBytes
  subS : Nat → List GBytes
  subSU : Nat → List GBytes
  obtC : Nat → List GBytes
  subC : Nat → List GBytes
  subCU : Nat → List GBytes
  obtS : Nat → List GBytes
  delivC : List Nat
  delivS : List Nat
  tainted : Bool

structure GMulti where
  server : RenetServer
  links : Nat → Option GLink

def gupd (f : Nat → Option GLink) (id : Nat) (v : Option GLink) : Nat → Option GLink :=
  fun j => if j = id then v else f j

/-- the server-side connection of `id`: there is no generated accessor returning it, so the ghost bookkeeping reads the
    field `connections` of the generated struct (`HashMap::get`) -/
def gconn? (sv : RenetServer) (id : Nat) : Option RenetClient := RustSem.Map.find? sv.connections id

/-- a fresh session: the remote endpoint by the generated `RenetClient::new` + `set_connected`, the ghost `last` by
    `new_from_server` + `set_connected` (what `add_connection` stores), from the server's `connection_config` -/
def gFreshLink (cc : ConnectionConfig) : Option GLink :=
  match (RenetClient.new cc : Res Empty _), (RenetClient.new_from_server cc : Res Empty _) with
  | .ok c, .ok s =>
    match (RenetClient.set_connected c : Res Empty _), (RenetClient.set_connected s : Res Empty _) with
    | .ok (c', _), .ok (s', _) =>
      some { cl := c', last := s', outS := [], outC := [], subS := fun _ => [], subSU := fun _ => [], obtC := fun _ => [],
             subC := fun _ => [], subCU := fun _ => [], obtS := fun _ => [], delivC := [], delivS := [], tainted := false }
    | _, _ => none
  | _, _ => none

def GLink.logS (l : GLink) (c c' : RenetClient) (ch : Nat) (m : GBytes) : GLink :=
  { l with subS := if gAccepted c c' ch then gpush l.subS ch m else l.subS
           subSU := if gOfferedU c ch then gpush l.subSU ch m else l.subSU }

def GLink.logS? (c c' : Option RenetClient) (ch : Nat) (m : GBytes) (l : GLink) : GLink :=
  match c, c' with
  | some c, some c' => l.logS c c' ch m
  | _, _ => l

def GLink.gotS (l : GLink) (ch : Nat) : Option GBytes → GLink
  | some m => { l with obtS := gpush l.obtS ch m }
  | none => l

def GLink.gotC (l : GLink) (cl' : RenetClient) (ch : Nat) : Option GBytes → GLink
  | some m => { l with cl := cl', obtC := gpush l.obtC ch m }
  | none => { l with cl := cl' }

def GLink.logC (l : GLink) (cl' : RenetClient) (ch : Nat) (m : GBytes) : GLink :=
  { l with cl := cl'
           subC := if gAccepted l.cl cl' ch then gpush l.subC ch m else l.subC
           subCU := if gOfferedU l.cl ch then gpush l.subCU ch m else l.subCU }

def GMulti.init (P : Params) : Option GMulti :=
  match (RenetServer.new ⟨P.budget, P.sCh.map reprCfg, P.cCh.map reprCfg⟩ : Res Empty _) with
  | .ok sv => some ⟨sv, fun _ => none⟩
  | _ => none

/-- one operation through the generated functions only (mirror of `MSys.step`); `none` = a generated function panicked or
    a datagram index is out of range; `Err(ClientNotFound)` of `get_packets_to_send` / `process_packet_from` is a normal
    return (the model's `none` / `false`) -/
def GMulti.step (g : GMulti) : MOp → Option GMulti
  | .addClient id =>
    if RustSem.Map.contains_key g.server.connections id then some g
    else
      match (RenetServer.add_connection g.server id : Res Empty _), gFreshLink g.server.connection_config with
      | .ok (sv', _), some fl => some ⟨sv', gupd g.links id (some fl)⟩
      | _, _ => none
  | .remove id =>
    match (RenetServer.remove_connection g.server id : Res Empty _) with
    | .ok (sv', _) =>
      some ⟨sv', match gconn? g.server id with
                 | some c => gupd g.links id ((g.links id).map (fun l => { l with last := c }))
                 | none => g.links⟩
    | _ => none
  | .srvDisconnect id =>
    match (RenetServer.disconnect g.server id : Res Empty _) with
    | .ok (sv', _) => some ⟨sv', g.links⟩
    | _ => none
  | .cliDisconnect id =>
    match g.links id with
    | none => some g
    | some l =>
      match (RenetClient.disconnect l.cl : Res Empty _) with
      | .ok (cl', _) => some ⟨g.server, gupd g.links id (some { l with cl := cl' })⟩
      | _ => none
  | .srvSend id ch x =>
    match (RenetServer.send_message g.server id ch (toNats x) : Res Empty _) with
    | .ok (sv', _) =>
      some ⟨sv', gupd g.links id ((g.links id).map (GLink.logS? (gconn? g.server id) (gconn? sv' id) ch (toNats x)))⟩
    | _ => none
  | .broadcast ch x =>
    match (RenetServer.broadcast_message g.server ch (toNats x) : Res Empty _) with
    | .ok (sv', _) => some ⟨sv', fun j => (g.links j).map (GLink.logS? (gconn? g.server j) (gconn? sv' j) ch (toNats x))⟩
    | _ => none
  | .broadcastExcept ex ch x =>
    match (RenetServer.broadcast_message_except g.server ex ch (toNats x) : Res Empty _) with
    | .ok (sv', _) => some ⟨sv', fun j => if j = ex then g.links j else
                        (g.links j).map (GLink.logS? (gconn? g.server j) (gconn? sv' j) ch (toNats x))⟩
    | _ => none
  | .srvRecv id ch =>
    match (RenetServer.receive_message g.server id ch : Res Empty _) with
    | .ok (sv', mo) => some ⟨sv', gupd g.links id ((g.links id).map (fun l => l.gotS ch mo))⟩
    | _ => none
  | .cliSend id ch x =>
    match g.links id with
    | none => some g
    | some l =>
      match (RenetClient.send_message l.cl ch (toNats x) : Res Empty _) with
      | .ok (cl', _) => some ⟨g.server, gupd g.links id (some (l.logC cl' ch (toNats x)))⟩
      | _ => none
  | .cliRecv id ch =>
    match g.links id with
    | none => some g
    | some l =>
      match (RenetClient.receive_message l.cl ch : Res Empty _) with
      | .ok (cl', mo) => some ⟨g.server, gupd g.links id (some (l.gotC cl' ch mo))⟩
      | _ => none
  | .srvUpdate dt =>
    match (RenetServer.update g.server dt : Res Empty _) with
    | .ok (sv', _) => some ⟨sv', g.links⟩
    | _ => none
  | .cliUpdate id dt =>
    match g.links id with
    | none => some g
    | some l =>
      match (RenetClient.update l.cl dt : Res Empty _) with
      | .ok (cl', _) => some ⟨g.server, gupd g.links id (some { l with cl := cl' })⟩
      | _ => none
  | .srvFlush id =>
    match RenetServer.get_packets_to_send g.server id with
    | .ok (sv', ps) => some ⟨sv', gupd g.links id ((g.links id).map (fun l => { l with outS := l.outS ++ ps }))⟩
    | .err (_, sv') => some ⟨sv', g.links⟩
    | .panic _ => none
  | .cliFlush id =>
    match g.links id with
    | none => some g
    | some l =>
      match (RenetClient.get_packets_to_send l.cl : Res Empty _) with
      | .ok (cl', ps) => some ⟨g.server, gupd g.links id (some { l with cl := cl', outC := l.outC ++ ps })⟩
      | _ => none
  | .deliverToCli id k =>
    match g.links id with
    | none => some g
    | some l =>
      match l.outS[k]? with
      | none => none
      | some bytes =>
        match (RenetClient.process_packet l.cl bytes : Res Empty _) with
        | .ok (cl', _) => some ⟨g.server, gupd g.links id (some { l with cl := cl', delivC := l.delivC ++ [k] })⟩
        | _ => none
  | .deliverToSrv id k =>
    match g.links id with
    | none => some g
    | some l =>
      match l.outC[k]? with
      | none => none
      | some bytes =>
        match RenetServer.process_packet_from g.server bytes id with
        | .ok (sv', _) => some ⟨sv', gupd g.links id (some { l with delivS := l.delivS ++ [k] })⟩
        | .err (_, sv') => some ⟨sv', g.links⟩
        | .panic _ => none
  | .hostile id bytes =>
    match RenetServer.process_packet_from g.server (toNats bytes) id with
    | .ok (sv', _) => some ⟨sv', gupd g.links id ((g.links id).map (fun l => { l with tainted := true }))⟩
    | .err (_, sv') => some ⟨sv', gupd g.links id ((g.links id).map (fun l => { l with tainted := true }))⟩
    | .panic _ => none

def GMulti.run (g : GMulti) : List MOp → Option GMulti
  | [] => some g
  | op :: ops =>
    match g.step op with
    | some g' => g'.run ops
    | none => none

def GMulti.exec (P : Params) (ops : List MOp) : Option GMulti :=
  match GMulti.init P with
  | some g => g.run ops
  | none => none

structure SimLink (l : Link) (g : GLink) : Prop where
  cl : ∃ mrs, g.cl = reprConn mrs l.cl
  last : ∃ mrs, g.last = reprConn mrs l.last
  outS : g.outS = l.outS.map toNats
  outC : g.outC = l.outC.map toNats
  subS : ∀ ch, g.subS ch = (l.subS ch).map toNats
  subSU : ∀ ch, g.subSU ch = (l.subSU ch).map toNats
  obtC : ∀ ch, g.obtC ch = (l.obtC ch).map toNats
  subC : ∀ ch, g.subC ch = (l.subC ch).map toNats
  subCU : ∀ ch, g.subCU ch = (l.subCU ch).map toNats
  obtS : ∀ ch, g.obtS ch = (l.obtS ch).map toNats
  delivC : g.delivC = l.delivC
  delivS : g.delivS = l.delivS
  tainted : g.tainted = l.tainted

def SimLink? : Option Link → Option GLink → Prop
  | none, none => True
  | some l, some g => SimLink l g
  | _, _ => False

structure SimMulti (m : MSys) (g : GMulti) : Prop where
  server : ∃ mrss, g.server = reprServer mrss m.server
  links : ∀ i, SimLink? (m.links i) (g.links i)

/-! ## the model invariants along a multi-client run -/

theorem _root_.RenetVerif.SrcSystem.EpGood.disconnectWith {c : Conn} (h : EpGood c) (r : Reason) : EpGood (c.disconnectWith r) :=
  ⟨h.sinv.disconnectWith r, h.sorted.disconnectWith r, h.tinv.disconnectWith r, h.nodup.disconnectWith r⟩

theorem _root_.RenetVerif.SrcEquiv.RecvNodup.setConnected {c : Conn} (h : RecvNodup c) : RecvNodup c.setConnected :=
  recvNodup_kept.setConnected h

theorem _root_.RenetVerif.SrcSystem.EpGood.setConnected {c : Conn} (h : EpGood c) : EpGood c.setConnected :=
  ⟨Conn.InvP.setConnected h.sinv, h.sorted.setConnected, h.tinv.setConnected, RecvNodup.setConnected h.nodup⟩

theorem _root_.RenetVerif.SrcSystem.EpGood.setConnecting {c : Conn} (h : EpGood c) : EpGood c.setConnecting :=
  ⟨Conn.InvP.setConnecting h.sinv, h.sorted.setConnecting, h.tinv.setConnecting, h.nodup.setConnecting⟩

theorem mapConnsM_all {Q : Conn → Prop} (f : Nat → Conn → Res Empty Conn) (hf : ∀ k c c', f k c = .ok c' → Q c → Q c') :
    ∀ (m m' : SMap Conn), Server.mapConnsM f m = .ok m' → (∀ x ∈ m, Q x.2) →
      (∀ x ∈ m', Q x.2) ∧ m'.map (·.1) = m.map (·.1) := by
  intro m
  induction m with
  | nil =>
    intro m' h _
    cases h
    exact ⟨fun _ hx => (nomatch hx), rfl⟩
  | cons p rest ih =>
    intro m' h hq
    obtain ⟨k, c⟩ := p
    unfold Server.mapConnsM at h
    obtain ⟨c', h1, h⟩ := Res.bind_ok_iff.mp h
    obtain ⟨rest', h2, h⟩ := Res.bind_ok_iff.mp h
    cases h
    obtain ⟨i1, i2⟩ := ih rest' h2 (fun x hx => hq x (List.mem_cons_of_mem _ hx))
    refine ⟨fun x hx => ?_, by simp only [List.map_cons, i2]⟩
    rcases List.mem_cons.mp hx with rfl | hx
    · exact hf k c c' h1 (hq (k, c) (List.mem_cons_self ..))
    · exact i1 x hx

structure SGood (s : Server) : Prop where
  sorted : MSorted s.conns
  cfg : CfgOk s
  conns : ∀ x ∈ s.conns, EpGood x.2

theorem SGood.find {s : Server} (h : SGood s) {id : Nat} {c : Conn} (hf : SMap.find? s.conns id = some c) : EpGood c :=
  h.conns (id, c) (SMap.mem_of_find? hf)

theorem SGood.withConn {s : Server} (h : SGood s) (id : Nat) {c' : Conn} (hc : EpGood c') (ev : List Event) :
    SGood { s with conns := SMap.insert s.conns id c', events := ev } :=
  ⟨SMap.sorted_insert h.sorted _ _, ⟨h.cfg.su, h.cfg.sr, h.cfg.ru, h.cfg.rr⟩, SMap.forall_mem_insert h.conns id hc⟩

theorem SGood.mapConns {s : Server} (h : SGood s) {f : Nat → Conn → Res Empty Conn}
    (hf : ∀ k c c', f k c = .ok c' → EpGood c → EpGood c') {cs : SMap Conn} (hm : Server.mapConnsM f s.conns = .ok cs) :
    SGood { s with conns := cs } := by
  obtain ⟨hq, hk⟩ := mapConnsM_all f hf _ _ hm h.conns
  exact ⟨by unfold MSorted; rw [hk]; exact h.sorted, ⟨h.cfg.su, h.cfg.sr, h.cfg.ru, h.cfg.rr⟩, hq⟩

theorem sgood_new (P : Params) (hd : CfgOk (Server.new P.budget P.sCh P.cCh)) : SGood (Server.new P.budget P.sCh P.cCh) :=
  ⟨SMap.sorted_nil, hd, fun _ hx => nomatch hx⟩

theorem epGood_newConn (s : Server) : EpGood s.newConn.setConnected := (epGood_fromChannels _ _ _).setConnected
theorem epGood_newClient (P : Params) : EpGood (Link.fresh P).cl := (epGood_fromChannels _ _ _).setConnected

theorem SGood.addConnection {s : Server} (h : SGood s) (id : Nat) : SGood (s.addConnection id) := by
  unfold Server.addConnection
  split
  · exact h
  · exact h.withConn id (epGood_newConn s) _

theorem SGood.removeConnection {s : Server} (h : SGood s) (id : Nat) : SGood (s.removeConnection id) := by
  unfold Server.removeConnection
  split
  · exact h
  · exact ⟨SMap.sorted_erase h.sorted _, ⟨h.cfg.su, h.cfg.sr, h.cfg.ru, h.cfg.rr⟩, fun x hx => h.conns x (SMap.mem_erase hx)⟩

theorem SGood.disconnect {s : Server} (h : SGood s) (id : Nat) : SGood (s.disconnect id) := by
  unfold Server.disconnect
  split
  · exact h
  · rename_i c hf
    exact h.withConn id ((h.find hf).disconnectWith _) _

theorem SGood.sendMessage {s s' : Server} {id ch : Nat} {x : Bytes} (h : SGood s) (hr : s.sendMessage id ch x = .ok s') :
    SGood s' := by
  unfold Server.sendMessage at hr
  split at hr
  · cases hr; exact h
  · rename_i c hf
    obtain ⟨c', h1, hr⟩ := Res.bind_ok_iff.mp hr
    cases hr
    exact h.withConn id ((h.find hf).sendMessage h1) _

theorem SGood.receiveMessage {s s' : Server} {id ch : Nat} {o : Option Bytes} (h : SGood s)
    (hr : s.receiveMessage id ch = .ok (s', o)) : SGood s' := by
  unfold Server.receiveMessage at hr
  split at hr
  · cases hr; exact h
  · rename_i c hf
    obtain ⟨⟨c', m⟩, h1, hr⟩ := Res.bind_ok_iff.mp hr
    cases hr
    exact h.withConn id ((h.find hf).receiveMessage h1) _

theorem SGood.getPacketsToSend {s s' : Server} {id : Nat} {o : Option (List Bytes)} (h : SGood s)
    (hr : s.getPacketsToSend id = .ok (s', o)) : SGood s' := by
  unfold Server.getPacketsToSend at hr
  split at hr
  · cases hr; exact h
  · rename_i c hf
    obtain ⟨⟨c', ps⟩, h1, hr⟩ := Res.bind_ok_iff.mp hr
    cases hr
    exact h.withConn id ((h.find hf).getPacketsToSend h1) _

theorem SGood.processPacketFrom {s s' : Server} {id : Nat} {bytes : Bytes} {b : Bool} (h : SGood s)
    (hr : s.processPacketFrom bytes id = .ok (s', b)) : SGood s' := by
  unfold Server.processPacketFrom at hr
  split at hr
  · cases hr; exact h
  · rename_i c hf
    obtain ⟨c', h1, hr⟩ := Res.bind_ok_iff.mp hr
    cases hr
    exact h.withConn id ((h.find hf).processPacket h1) _

theorem SGood.broadcast {s s' : Server} {ch : Nat} {x : Bytes} (h : SGood s) (hr : s.broadcast ch x = .ok s') : SGood s' := by
  unfold Server.broadcast at hr
  obtain ⟨cs, h1, hr⟩ := Res.bind_ok_iff.mp hr
  cases hr
  exact h.mapConns (fun k c c' e q => q.sendMessage e) h1

theorem SGood.broadcastExcept {s s' : Server} {ex ch : Nat} {x : Bytes} (h : SGood s)
    (hr : s.broadcastExcept ex ch x = .ok s') : SGood s' := by
  unfold Server.broadcastExcept at hr
  obtain ⟨cs, h1, hr⟩ := Res.bind_ok_iff.mp hr
  cases hr
  refine h.mapConns (fun k c c' e q => ?_) h1
  split at e
  · cases e; exact q
  · exact q.sendMessage e

theorem SGood.update {s s' : Server} {dt : Nat} (h : SGood s) (hr : s.update dt = .ok s') : SGood s' := by
  unfold Server.update at hr
  obtain ⟨cs, h1, hr⟩ := Res.bind_ok_iff.mp hr
  cases hr
  exact h.mapConns (fun k c c' e q => q.update e) h1

structure MGood (m : MSys) : Prop where
  srv : SGood m.server
  links : ∀ i l, m.links i = some l → EpGood l.cl

theorem linksGood_upd {f : Nat → Option Link} {id : Nat} {v : Option Link}
    (hf : ∀ i l, f i = some l → EpGood l.cl) (hv : ∀ l, v = some l → EpGood l.cl) :
    ∀ i l, upd f id v i = some l → EpGood l.cl := by
  intro i l h
  unfold upd at h
  split at h
  · exact hv l h
  · exact hf i l h

theorem linksGood_map {o : Option Link} {F : Link → Link} (ho : ∀ l, o = some l → EpGood l.cl)
    (hF : ∀ l, (F l).cl = l.cl) : ∀ l, o.map F = some l → EpGood l.cl := by
  intro l h
  cases o with
  | none => cases h
  | some l0 =>
    cases h
    rw [hF]
    exact ho l0 rfl

theorem logS?_cl (c c' : Option Conn) (ch : Nat) (x : Bytes) (l : Link) : (Link.logS? c c' ch x l).cl = l.cl := by
  unfold Link.logS?
  split <;> rfl
theorem gotS_cl (l : Link) (ch : Nat) (o : Option Bytes) : (l.gotS ch o).cl = l.cl := by
  cases o <;> rfl
theorem gotC_cl (l : Link) (cl' : Conn) (ch : Nat) (o : Option Bytes) : (l.gotC cl' ch o).cl = cl' := by
  cases o <;> rfl

theorem mgood_init (P : Params) (hd : CfgOk (Server.new P.budget P.sCh P.cCh)) : MGood (MSys.init P) :=
  ⟨sgood_new P hd, fun _ _ h => nomatch h⟩

theorem cfgOk_of_distinct {P : Params} (h : PDistinct P) : CfgOk (Server.new P.budget P.sCh P.cCh) :=
  ⟨h.1, h.2.1, h.2.2.1, h.2.2.2⟩

/-! ## the per-connection hypotheses of the server ties -/

theorem recvOk_of {c : Conn} (hg : EpGood c) (hr : ConnInRange c) (ch : Nat) :
    MSorted c.recvRel ∧
      (∀ r, SMap.find? c.recvRel ch = some r → r.oldest + r.received.length + 1 < 2 ^ 64 ∧ r.received.Nodup) :=
  ⟨hg.sorted.recvRel, fun r hf => ⟨(hr.2.2.1 (ch, r) (SMap.mem_of_find? hf)).2, hg.nodup (ch, r) (SMap.mem_of_find? hf)⟩⟩

theorem updateOk_of {c : Conn} (hg : EpGood c) (hr : ConnInRange c) (dt : Nat) (hclock : c.now + dt ≤ RustSem.Duration.MAX) :
    UpdateOk c dt := SrcTie.update_ok_of_inv hg.sinv hg.tinv hr.recvBudget dt hclock

theorem sendOk_of {c : Conn} (hg : EpGood c) (hr : ConnInRange c) : SendOk c := SrcTie.send_ok_of_inv hg.sinv hg.tinv hr.sendRange

theorem procOk_of {c : Conn} (hg : EpGood c) (hr : ConnInRange c) (bytes : Bytes) : ProcOk c bytes :=
  SrcTie.proc_ok_of_inv hg.sinv hg.sorted hr.recvBudget hr.sendBudget (fun k v hf => hg.tinv.sent (k, v) (SMap.mem_of_find? hf)) bytes

/-! ## reading the outcome of `get_packets_to_send` / `process_packet_from` -/

theorem srvOut_some {α β : Type} {mrss : Nat → Nat → Nat} {f : α → β} {Y : Res Empty (Server × Option α)}
    {X : Res (Src.renet.error.ClientNotFound × RenetServer) (RenetServer × β)} {s' : Server} {a : α}
    (h : SameOutcome X (srvOut mrss f Y)) (hy : Y = .ok (s', some a)) : X = .ok (reprServer mrss s', f a) := by
  subst hy
  cases X <;> simp [SameOutcome, srvOut] at h
  rw [h]

theorem srvOut_none {α β : Type} {mrss : Nat → Nat → Nat} {f : α → β} {Y : Res Empty (Server × Option α)}
    {X : Res (Src.renet.error.ClientNotFound × RenetServer) (RenetServer × β)} {s' : Server}
    (h : SameOutcome X (srvOut mrss f Y)) (hy : Y = .ok (s', none)) : X = .err ({ }, reprServer mrss s') := by
  subst hy
  cases X <;> simp [SameOutcome, srvOut] at h
  rw [h]

theorem srvOut_panic {α β : Type} {mrss : Nat → Nat → Nat} {f : α → β} {Y : Res Empty (Server × Option α)}
    {X : Res (Src.renet.error.ClientNotFound × RenetServer) (RenetServer × β)} {msg : String}
    (h : SameOutcome X (srvOut mrss f Y)) (hy : Y = .panic msg) : ∃ m', X = .panic m' := by
  subst hy
  cases X <;> simp [SameOutcome, srvOut] at h
  exact ⟨_, rfl⟩

/-- the model's `true` is the generated `Ok`, its `false` is `Err(ClientNotFound)` -/
theorem process_from_cases (mrss : Nat → Nat → Nat) {s : Server} (hg : SGood s) (hr : ∀ x ∈ s.conns, ConnInRange x.2)
    (bytes : Bytes) (id : Nat) :
    (∃ s' b mrss', s.processPacketFrom bytes id = .ok (s', b) ∧
      RenetServer.process_packet_from (reprServer mrss s) (toNats bytes) id =
        if b then .ok (reprServer mrss' s', ()) else .err ({ }, reprServer mrss' s')) ∨
    ∃ msg msg', s.processPacketFrom bytes id = .panic msg ∧
      RenetServer.process_packet_from (reprServer mrss s) (toNats bytes) id = .panic msg' := by
  obtain ⟨mrss', tie⟩ := SrcTie.server_process_packet_from mrss s bytes id hg.sorted
    (fun c hf => procOk_of (hg.find hf) (hr (id, c) (SMap.mem_of_find? hf)) bytes)
  cases hm : s.processPacketFrom bytes id with
  | ok v =>
    obtain ⟨s', b⟩ := v
    rw [hm] at tie
    cases b with
    | true => exact .inl ⟨s', true, mrss', rfl, srvOut_some tie rfl⟩
    | false => exact .inl ⟨s', false, mrss', rfl, srvOut_none tie rfl⟩
  | err e => exact nomatch e
  | panic msg =>
    rw [hm] at tie
    obtain ⟨msg', e⟩ := srvOut_panic tie rfl
    exact .inr ⟨msg, msg', rfl, e⟩

theorem gconn_repr (mrss : Nat → Nat → Nat) (s : Server) (id : Nat) :
    gconn? (reprServer mrss s) id = (conn? s id).map (reprConn (mrss id)) := by
  unfold gconn? conn?
  exact find_reprConns mrss s.conns id

theorem contains_repr (mrss : Nat → Nat → Nat) (s : Server) (id : Nat) :
    RustSem.Map.contains_key (reprServer mrss s).connections id = SMap.contains s.conns id :=
  contains_reprConns mrss s.conns id

theorem SimLink?.cases {o : Option Link} {go : Option GLink} (h : SimLink? o go) :
    (o = none ∧ go = none) ∨ ∃ l gl, o = some l ∧ go = some gl ∧ SimLink l gl := by
  cases o with
  | none =>
    cases go with
    | none => exact .inl ⟨rfl, rfl⟩
    | some gl => exact h.elim
  | some l =>
    cases go with
    | none => exact h.elim
    | some gl => exact .inr ⟨l, gl, rfl, rfl, h⟩

theorem simLinks_upd {f : Nat → Option Link} {gf : Nat → Option GLink} {id : Nat} {v : Option Link} {gv : Option GLink}
    (hf : ∀ i, SimLink? (f i) (gf i)) (hv : SimLink? v gv) : ∀ i, SimLink? (upd f id v i) (gupd gf id gv i) := by
  intro i
  unfold upd gupd
  split
  · exact hv
  · exact hf i

theorem simLink?_map {o : Option Link} {go : Option GLink} {F : Link → Link} {G : GLink → GLink} (h : SimLink? o go)
    (hFG : ∀ l gl, SimLink l gl → SimLink (F l) (G gl)) : SimLink? (o.map F) (go.map G) := by
  rcases h.cases with ⟨rfl, rfl⟩ | ⟨l, gl, rfl, rfl, hs⟩
  · trivial
  · exact hFG l gl hs

theorem simLink_logS {l : Link} {gl : GLink} (h : SimLink l gl) (mrs mrs' : Nat → Nat) (c c' : Conn) (ch : Nat) (x : Bytes) :
    SimLink (l.logS c c' ch x) (gl.logS (reprConn mrs c) (reprConn mrs' c') ch (toNats x)) :=
  { h with
    subS := gpush_if_map (gAccepted_repr mrs mrs' c c' ch) h.subS ch x
    subSU := gpush_if_map (gOfferedU_repr mrs c ch) h.subSU ch x }

theorem simLink_logS? {l : Link} {gl : GLink} (h : SimLink l gl) (mrs mrs' : Nat → Nat) (co co' : Option Conn) (ch : Nat)
    (x : Bytes) :
    SimLink (Link.logS? co co' ch x l) (GLink.logS? (co.map (reprConn mrs)) (co'.map (reprConn mrs')) ch (toNats x) gl) := by
  cases co with
  | none => exact h
  | some c =>
    cases co' with
    | none => exact h
    | some c' => exact simLink_logS h mrs mrs' c c' ch x

theorem simLink_gotS {l : Link} {gl : GLink} (h : SimLink l gl) (ch : Nat) (o : Option Bytes) :
    SimLink (l.gotS ch o) (gl.gotS ch (o.map toNats)) := by
  cases o with
  | none => exact h
  | some x => exact { h with obtS := gpush_map _ _ h.obtS ch x }

theorem simLink_gotC {l : Link} {gl : GLink} (h : SimLink l gl) (mrs : Nat → Nat) (cl' : Conn) (ch : Nat) (o : Option Bytes) :
    SimLink (l.gotC cl' ch o) (gl.gotC (reprConn mrs cl') ch (o.map toNats)) := by
  cases o with
  | none => exact { h with cl := ⟨mrs, rfl⟩ }
  | some x => exact { h with cl := ⟨mrs, rfl⟩, obtC := gpush_map _ _ h.obtC ch x }

theorem simLink_logC {l : Link} {gl : GLink} (h : SimLink l gl) (mrs : Nat → Nat) (hcl : gl.cl = reprConn mrs l.cl) (cl' : Conn)
    (ch : Nat) (x : Bytes) : SimLink (l.logC cl' ch x) (gl.logC (reprConn mrs cl') ch (toNats x)) :=
  { h with
    cl := ⟨mrs, rfl⟩
    subC := gpush_if_map (by rw [hcl, gAccepted_repr]) h.subC ch x
    subCU := gpush_if_map (by rw [hcl, gOfferedU_repr]) h.subCU ch x }

theorem gFreshLink_repr (mrss : Nat → Nat → Nat) (s : Server) (hc : CfgOk s) :
    ∃ gl, gFreshLink (reprServer mrss s).connection_config = some gl ∧ SimLink (Link.fresh (paramsOf s)) gl := by
  have hcf : (reprServer mrss s).connection_config = ⟨s.budget, s.serverCh.map reprCfg, s.clientCh.map reprCfg⟩ := rfl
  have e1 := SrcTie.conn_new (ε := Empty) s.budget s.serverCh s.clientCh hc.ru hc.rr hc.su hc.sr
  have e2 := SrcTie.conn_new_from_server (ε := Empty) s.budget s.serverCh s.clientCh hc.su hc.sr hc.ru hc.rr
  have e3 := SrcTie.conn_set_connected (ε := Empty) (fun _ => 0) (Conn.fromChannels s.budget s.clientCh s.serverCh)
  have e4 := SrcTie.conn_set_connected (ε := Empty) (fun _ => 0) (Conn.fromChannels s.budget s.serverCh s.clientCh)
  simp only [gFreshLink, hcf, e1, e2, e3, e4]
  exact ⟨_, rfl, ⟨_, rfl⟩, ⟨_, rfl⟩, rfl, rfl, fun _ => rfl, fun _ => rfl,
    fun _ => rfl, fun _ => rfl, fun _ => rfl, fun _ => rfl, rfl, rfl, rfl⟩

/-- an operation on a client id without a link changes nothing (model: the `upd` of `none` by `none`) -/
theorem simLinks_upd_none {f : Nat → Option Link} {gf : Nat → Option GLink} {id : Nat}
    (hf : ∀ i, SimLink? (f i) (gf i)) (hn : f id = none) : ∀ i, SimLink? (upd f id none i) (gf i) := by
  intro i
  unfold upd
  split
  · rename_i e
    subst e
    have := hf i
    rw [hn] at this
    exact this
  · exact hf i

/-- **one operation** (all 17): from related states, in range, the generated step succeeds iff the model step does, and
    the results are related; the model invariants are kept -/
theorem mstep_sim {m : MSys} {g : GMulti} (hg : MGood m) (sim : SimMulti m g)
    (hrs : ∀ x ∈ m.server.conns, ConnInRange x.2) (op : MOp) (hop : MOpInRange m op) :
    match m.step op with
    | some m' => ∃ g', g.step op = some g' ∧ SimMulti m' g' ∧ MGood m'
    | none => g.step op = none := by
  obtain ⟨mrss, hS⟩ := sim.server
  have hL := sim.links
  have hsg := hg.srv
  have hl := hg.links
  cases op with
  | addClient id =>
    simp only [MSys.step, GMulti.step, hS, contains_repr]
    by_cases hcon : SMap.contains m.server.conns id = true
    · rw [if_pos hcon, if_pos hcon]
      exact ⟨g, rfl, sim, hg⟩
    · rw [if_neg hcon, if_neg hcon]
      obtain ⟨gl, e, hfl⟩ := gFreshLink_repr mrss m.server hsg.cfg
      rw [SrcTie.server_add_connection (ε := Empty) mrss m.server id hsg.cfg hsg.sorted, e]
      exact ⟨_, rfl, ⟨⟨_, rfl⟩, simLinks_upd hL hfl⟩, hsg.addConnection id,
        linksGood_upd hl (fun l e => by cases e; exact epGood_newClient _)⟩
  | remove id =>
    simp only [MSys.step, GMulti.step, hS, SrcTie.server_remove_connection (ε := Empty) mrss m.server id, gconn_repr]
    refine ⟨_, rfl, ⟨⟨mrss, rfl⟩, ?_⟩, hsg.removeConnection id, ?_⟩
    · cases conn? m.server id with
      | none => exact hL
      | some c => exact simLinks_upd hL (simLink?_map (hL id) (fun l gl h => { h with last := ⟨_, rfl⟩ }))
    · split
      · exact linksGood_upd hl (linksGood_map (hl id) (fun _ => rfl))
      · exact hl
  | srvDisconnect id =>
    simp only [MSys.step, GMulti.step, hS, SrcTie.server_disconnect (ε := Empty) mrss m.server id hsg.sorted]
    exact ⟨_, rfl, ⟨⟨mrss, rfl⟩, hL⟩, hsg.disconnect id, hl⟩
  | srvSend id ch x =>
    simp only [MSys.step, GMulti.step, hS]
    have tie := SrcTie.server_send_message (ε := Empty) mrss m.server id ch x hsg.sorted
      (fun c hf => sendMsgOk_of (hsg.find hf) (hrs (id, c) (SMap.mem_of_find? hf)) ch x hop)
    rcases tie.map_cases with ⟨sv', hm, e⟩ | ⟨_, _, hm, e⟩
    · rw [hm, e]
      simp only [gconn_repr]
      exact ⟨_, rfl, ⟨⟨mrss, rfl⟩, simLinks_upd hL (simLink?_map (hL id) (fun l gl h => simLink_logS? h _ _ _ _ ch x))⟩,
        hsg.sendMessage hm, linksGood_upd hl (linksGood_map (hl id) (logS?_cl _ _ ch x))⟩
    · rw [hm, e]
  | broadcast ch x =>
    simp only [MSys.step, GMulti.step, hS]
    have tie := SrcTie.server_broadcast_message (ε := Empty) mrss m.server ch x
      (fun p hp => sendMsgOk_of (hsg.conns p hp) (hrs p hp) ch x hop)
    rcases tie.map_cases with ⟨sv', hm, e⟩ | ⟨_, _, hm, e⟩
    · rw [hm, e]
      simp only [gconn_repr]
      exact ⟨_, rfl, ⟨⟨mrss, rfl⟩, fun j => simLink?_map (hL j) (fun l gl h => simLink_logS? h _ _ _ _ ch x)⟩,
        hsg.broadcast hm, fun j => linksGood_map (hl j) (logS?_cl _ _ ch x)⟩
    · rw [hm, e]
  | broadcastExcept ex ch x =>
    simp only [MSys.step, GMulti.step, hS]
    have tie := SrcTie.server_broadcast_message_except (ε := Empty) mrss m.server ex ch x
      (fun p hp _ => sendMsgOk_of (hsg.conns p hp) (hrs p hp) ch x hop)
    rcases tie.map_cases with ⟨sv', hm, e⟩ | ⟨_, _, hm, e⟩
    · rw [hm, e]
      simp only [gconn_repr]
      refine ⟨_, rfl, ⟨⟨mrss, rfl⟩, fun j => ?_⟩, hsg.broadcastExcept hm, fun j => ?_⟩
      · dsimp only
        split
        · exact hL j
        · exact simLink?_map (hL j) (fun l gl h => simLink_logS? h _ _ _ _ ch x)
      · dsimp only
        split
        · exact hl j
        · exact linksGood_map (hl j) (logS?_cl _ _ ch x)
    · rw [hm, e]
  | srvRecv id ch =>
    simp only [MSys.step, GMulti.step, hS]
    have tie := SrcTie.server_receive_message (ε := Empty) mrss m.server id ch hsg.sorted
      (fun c hf => recvOk_of (hsg.find hf) (hrs (id, c) (SMap.mem_of_find? hf)) ch)
    rcases tie.map_cases with ⟨⟨sv', mo⟩, hm, e⟩ | ⟨_, _, hm, e⟩
    · rw [hm, e]
      exact ⟨_, rfl, ⟨⟨mrss, rfl⟩, simLinks_upd hL (simLink?_map (hL id) (fun l gl h => simLink_gotS h ch mo))⟩,
        hsg.receiveMessage hm, linksGood_upd hl (linksGood_map (hl id) (fun l => gotS_cl l ch mo))⟩
    · rw [hm, e]
  | srvUpdate dt =>
    simp only [MSys.step, GMulti.step, hS]
    have tie := SrcTie.server_update (ε := Empty) mrss m.server dt
      (fun p hp => updateOk_of (hsg.conns p hp) (hrs p hp) dt (hop p hp))
    rcases tie.map_cases with ⟨sv', hm, e⟩ | ⟨_, _, hm, e⟩
    · rw [hm, e]
      exact ⟨_, rfl, ⟨⟨mrss, rfl⟩, hL⟩, hsg.update hm, hl⟩
    · rw [hm, e]
  | srvFlush id =>
    have tie := SrcTie.server_get_packets_to_send mrss m.server id hsg.sorted
      (fun c hf => sendOk_of (hsg.find hf) (hrs (id, c) (SMap.mem_of_find? hf)))
    simp only [MSys.step, GMulti.step, hS]
    cases hm : m.server.getPacketsToSend id with
    | ok v =>
      obtain ⟨sv', o⟩ := v
      cases o with
      | some ps =>
        rw [srvOut_some tie hm]
        exact ⟨_, rfl, ⟨⟨mrss, rfl⟩, simLinks_upd hL (simLink?_map (hL id)
            (fun l gl h => { h with outS := by simp only [h.outS, List.map_append] }))⟩,
          hsg.getPacketsToSend hm, linksGood_upd hl (linksGood_map (hl id) (fun _ => rfl))⟩
      | none =>
        rw [srvOut_none tie hm]
        exact ⟨_, rfl, ⟨⟨mrss, rfl⟩, hL⟩, hsg.getPacketsToSend hm, hl⟩
    | err e => exact nomatch e
    | panic msg =>
      obtain ⟨m', e⟩ := srvOut_panic tie hm
      rw [e]
  | hostile id bytes =>
    simp only [MSys.step, GMulti.step, hS]
    rcases process_from_cases mrss hsg hrs bytes id with ⟨sv', b, mrss', hm, e⟩ | ⟨_, _, hm, e⟩
    · rw [hm, e]
      -- `Ok` and `Err(ClientNotFound)` both taint the link
      cases b
      all_goals exact ⟨_, rfl,
        ⟨⟨mrss', rfl⟩, simLinks_upd hL (simLink?_map (hL id) (fun l gl h => { h with tainted := rfl }))⟩,
        hsg.processPacketFrom hm, linksGood_upd hl (linksGood_map (hl id) (fun _ => rfl))⟩
    · rw [hm, e]
  | cliDisconnect id =>
    rcases (hL id).cases with ⟨hml, hgl⟩ | ⟨l, gl, hml, hgl, hsl⟩
    · simp only [MSys.step, GMulti.step, hml, hgl, Option.map_none]
      exact ⟨g, rfl, ⟨sim.server, simLinks_upd_none hL hml⟩, hsg, linksGood_upd hl (fun l e => nomatch e)⟩
    · obtain ⟨mrs, hcl⟩ := hsl.cl
      simp only [MSys.step, GMulti.step, hml, hgl, Option.map_some, hcl, SrcTie.conn_disconnect (ε := Empty) mrs l.cl]
      exact ⟨_, rfl, ⟨sim.server, simLinks_upd hL { hsl with cl := ⟨mrs, rfl⟩ }⟩, hsg,
        linksGood_upd hl (fun l' e => by cases e; exact (hl id l hml).disconnectWith _)⟩
  | cliSend id ch x =>
    rcases (hL id).cases with ⟨hml, hgl⟩ | ⟨l, gl, hml, hgl, hsl⟩
    · simp only [MSys.step, GMulti.step, hml, hgl]
      exact ⟨g, rfl, sim, hg⟩
    · obtain ⟨mrs, hcl⟩ := hsl.cl
      simp only [MOpInRange, linkOk, hml] at hop
      simp only [MSys.step, GMulti.step, hml, hgl, hcl]
      rcases (ep_send mrs (hl id l hml) hop.2 ch x hop.1).map_cases with ⟨cl', hm, e⟩ | ⟨_, _, hm, e⟩
      · rw [hm, e]
        exact ⟨_, rfl, ⟨sim.server, simLinks_upd hL (simLink_logC hsl mrs hcl cl' ch x)⟩, hsg,
          linksGood_upd hl (fun l' e => by cases e; exact (hl id l hml).sendMessage hm)⟩
      · rw [hm, e]
  | cliRecv id ch =>
    rcases (hL id).cases with ⟨hml, hgl⟩ | ⟨l, gl, hml, hgl, hsl⟩
    · simp only [MSys.step, GMulti.step, hml, hgl]
      exact ⟨g, rfl, sim, hg⟩
    · obtain ⟨mrs, hcl⟩ := hsl.cl
      simp only [MOpInRange, linkOk, hml] at hop
      simp only [MSys.step, GMulti.step, hml, hgl, hcl]
      rcases (ep_receive mrs (hl id l hml) hop ch).map_cases with ⟨⟨cl', mo⟩, hm, e⟩ | ⟨_, _, hm, e⟩
      · rw [hm, e]
        exact ⟨_, rfl, ⟨sim.server, simLinks_upd hL (simLink_gotC hsl mrs cl' ch mo)⟩, hsg,
          linksGood_upd hl (fun l' e => by cases e; rw [gotC_cl]; exact (hl id l hml).receiveMessage hm)⟩
      · rw [hm, e]
  | cliUpdate id dt =>
    rcases (hL id).cases with ⟨hml, hgl⟩ | ⟨l, gl, hml, hgl, hsl⟩
    · simp only [MSys.step, GMulti.step, hml, hgl]
      exact ⟨g, rfl, sim, hg⟩
    · obtain ⟨mrs, hcl⟩ := hsl.cl
      simp only [MOpInRange, linkOk, hml] at hop
      simp only [MSys.step, GMulti.step, hml, hgl, hcl]
      rcases (ep_update mrs (hl id l hml) hop.1 dt hop.2).map_cases with ⟨cl', hm, e⟩ | ⟨_, _, hm, e⟩
      · rw [hm, e]
        exact ⟨_, rfl, ⟨sim.server, simLinks_upd hL { hsl with cl := ⟨mrs, rfl⟩ }⟩, hsg,
          linksGood_upd hl (fun l' e => by cases e; exact (hl id l hml).update hm)⟩
      · rw [hm, e]
  | cliFlush id =>
    rcases (hL id).cases with ⟨hml, hgl⟩ | ⟨l, gl, hml, hgl, hsl⟩
    · simp only [MSys.step, GMulti.step, hml, hgl]
      exact ⟨g, rfl, sim, hg⟩
    · obtain ⟨mrs, hcl⟩ := hsl.cl
      simp only [MOpInRange, linkOk, hml] at hop
      simp only [MSys.step, GMulti.step, hml, hgl, hcl]
      rcases (ep_flush mrs (hl id l hml) hop).map_cases with ⟨⟨cl', ps⟩, hm, e⟩ | ⟨_, _, hm, e⟩
      · rw [hm, e]
        exact ⟨_, rfl, ⟨sim.server, simLinks_upd hL
            { hsl with cl := ⟨mrs, rfl⟩, outC := by simp only [hsl.outC, List.map_append] }⟩, hsg,
          linksGood_upd hl (fun l' e => by cases e; exact (hl id l hml).getPacketsToSend hm)⟩
      · rw [hm, e]
  | deliverToCli id k =>
    rcases (hL id).cases with ⟨hml, hgl⟩ | ⟨l, gl, hml, hgl, hsl⟩
    · simp only [MSys.step, GMulti.step, hml, hgl]
      exact ⟨g, rfl, sim, hg⟩
    · obtain ⟨mrs, hcl⟩ := hsl.cl
      simp only [MOpInRange, linkOk, hml] at hop
      simp only [MSys.step, GMulti.step, hml, hgl, hsl.outS, List.getElem?_map]
      cases hk : l.outS[k]? with
      | none => rfl
      | some bytes =>
        obtain ⟨mrs', tie⟩ := ep_process mrs (hl id l hml) hop bytes
        simp only [Option.map_some, hcl]
        rcases tie.map_cases with ⟨cl', hm, e⟩ | ⟨_, _, hm, e⟩
        · rw [hm, e]
          exact ⟨_, rfl, ⟨sim.server, simLinks_upd hL
              { hsl with cl := ⟨mrs', rfl⟩, outS := rfl, delivC := by simp only [hsl.delivC] }⟩, hsg,
            linksGood_upd hl (fun l' e => by cases e; exact (hl id l hml).processPacket hm)⟩
        · rw [hm, e]
  | deliverToSrv id k =>
    rcases (hL id).cases with ⟨hml, hgl⟩ | ⟨l, gl, hml, hgl, hsl⟩
    · simp only [MSys.step, GMulti.step, hml, hgl]
      exact ⟨g, rfl, sim, hg⟩
    · simp only [MSys.step, GMulti.step, hml, hgl, hsl.outC, List.getElem?_map, hS]
      cases hk : l.outC[k]? with
      | none => rfl
      | some bytes =>
        simp only [Option.map_some]
        rcases process_from_cases mrss hsg hrs bytes id with ⟨sv', b, mrss', hm, e⟩ | ⟨_, _, hm, e⟩
        · rw [hm, e]
          cases b with
          | true =>
            exact ⟨_, rfl, ⟨⟨mrss', rfl⟩, simLinks_upd hL
                { hsl with outC := rfl, delivS := by simp only [hsl.delivS] }⟩, hsg.processPacketFrom hm,
              linksGood_upd hl (fun l' e => by cases e; exact hl id l hml)⟩
          | false => exact ⟨_, rfl, ⟨⟨mrss', rfl⟩, hL⟩, hsg.processPacketFrom hm, hl⟩
        · rw [hm, e]

theorem mrun_sim_from : ∀ (ops : List MOp) (m : MSys) (g : GMulti), MGood m → SimMulti m g → MRunInRangeFrom m ops →
    match m.run ops with
    | some m' => ∃ g', g.run ops = some g' ∧ SimMulti m' g'
    | none => g.run ops = none := by
  intro ops
  induction ops with
  | nil => intro m g _ hsim _; exact ⟨g, rfl, hsim⟩
  | cons op ops ih =>
    intro m g hg hsim hrg
    obtain ⟨hrs, hop, hrest⟩ := hrg
    have hstep := mstep_sim hg hsim hrs op hop
    simp only [MSys.run, GMulti.run]
    cases hs : m.step op with
    | none =>
      rw [hs] at hstep
      simp only [hstep]
    | some m' =>
      rw [hs] at hstep hrest
      obtain ⟨g', e, hsim', hg'⟩ := hstep
      simp only [e]
      exact ih m' g' hg' hsim' hrest

theorem minit_sim (P : Params) : ∃ g0, GMulti.init P = some g0 ∧ SimMulti (MSys.init P) g0 :=
  ⟨⟨reprServer (fun _ _ => 0) (Server.new P.budget P.sCh P.cCh), fun _ => none⟩, rfl, ⟨_, rfl⟩, fun _ => trivial⟩

/-- **simulation of multi-client runs, both directions at once** -/
theorem mexec_sim (P : Params) (ops : List MOp) (hr : MRunInRange P ops) :
    match (MSys.init P).run ops with
    | some m => ∃ g, GMulti.exec P ops = some g ∧ SimMulti m g
    | none => GMulti.exec P ops = none := by
  obtain ⟨g0, e0, hsim0⟩ := minit_sim P
  simp only [GMulti.exec, e0]
  exact mrun_sim_from ops (MSys.init P) g0 (mgood_init P (cfgOk_of_distinct hr.1)) hsim0 hr.2

/-- model → generated -/
theorem mrun_sim (P : Params) (ops : List MOp) (m : MSys) (hr : MRunInRange P ops) (hm : (MSys.init P).run ops = some m) :
    ∃ g, GMulti.exec P ops = some g ∧ SimMulti m g := by
  have := mexec_sim P ops hr
  rw [hm] at this
  exact this

/-- generated → model -/
theorem mrun_sim_conv (P : Params) (ops : List MOp) (g : GMulti) (hr : MRunInRange P ops) (hg : GMulti.exec P ops = some g) :
    ∃ m, (MSys.init P).run ops = some m ∧ SimMulti m g := by
  have := mexec_sim P ops hr
  cases hm : (MSys.init P).run ops with
  | none => rw [hm] at this; rw [hg] at this; cases this
  | some m =>
    rw [hm] at this
    obtain ⟨g', e, hsim⟩ := this
    rw [hg] at e; cases e
    exact ⟨m, rfl, hsim⟩

/-! ## the counter hypotheses of `Props/C11E.lean`, on the generated state -/

/-- `CountersOK P.down (projDown m i l)` read off the generated state: the packet sequence is the field `packet_sequence` of
    the server's generated connection for `i` (field `connections`; the ghost copy `last` once the connection was removed) -/
structure GCountersDown (P : Params) (g : GMulti) (i : Nat) (gl : GLink) : Prop where
  chan : ∀ c ∈ P.sCh, c.id < 256
  seq : ((gconn? g.server i).getD gl.last).packet_sequence ≤ Varint.MAX + 1
  ids : ∀ c ∈ P.sCh, (gl.subS c.id).length ≤ Varint.MAX + 1
  lens : ∀ c ∈ P.sCh, ∀ m ∈ gl.subS c.id, m.length ≤ MAX_NUM_SLICES * SLICE_SIZE
  lensU : ∀ c ∈ P.sCh, ∀ m ∈ gl.subSU c.id, m.length ≤ MAX_NUM_SLICES * SLICE_SIZE

/-- `CountersOK P.up (projUp m i l)` read off the generated state (the sender is the remote endpoint `gl.cl`) -/
structure GCountersUp (P : Params) (gl : GLink) : Prop where
  chan : ∀ c ∈ P.cCh, c.id < 256
  seq : gl.cl.packet_sequence ≤ Varint.MAX + 1
  ids : ∀ c ∈ P.cCh, (gl.subC c.id).length ≤ Varint.MAX + 1
  lens : ∀ c ∈ P.cCh, ∀ m ∈ gl.subC c.id, m.length ≤ MAX_NUM_SLICES * SLICE_SIZE
  lensU : ∀ c ∈ P.cCh, ∀ m ∈ gl.subCU c.id, m.length ≤ MAX_NUM_SLICES * SLICE_SIZE

theorem link_of_sim {m : MSys} {g : GMulti} (sim : SimMulti m g) {i : Nat} {gl : GLink} (h : g.links i = some gl) :
    ∃ l, m.links i = some l ∧ SimLink l gl := by
  rcases (sim.links i).cases with ⟨-, hn⟩ | ⟨l, gl', hl, hg, hs⟩
  · rw [h] at hn
    cases hn
  · rw [h] at hg
    cases hg
    exact ⟨l, hl, hs⟩

/-- the server's generated connection for `i` (field `connections`; the ghost copy `last` once it was removed) represents the
    server side of the projections of `i`'s link -/
theorem srv_repr {m : MSys} {g : GMulti} (sim : SimMulti m g) {i : Nat} {l : Link} {gl : GLink} (hsl : SimLink l gl) :
    ∃ mrs, (gconn? g.server i).getD gl.last = reprConn mrs (down (m.view i) l).a := by
  obtain ⟨mrss, hS⟩ := sim.server
  obtain ⟨mrs, hlast⟩ := hsl.last
  rw [hS, gconn_repr, hlast]
  show ∃ mrs', _ = reprConn mrs' ((conn? m.server i).getD l.last)
  cases conn? m.server i with
  | none => exact ⟨_, rfl⟩
  | some c => exact ⟨_, rfl⟩

theorem countersDown_of_sim {P : Params} {m : MSys} {g : GMulti} (sim : SimMulti m g) {i : Nat} {l : Link} {gl : GLink}
    (hsl : SimLink l gl) (hc : GCountersDown P g i gl) : CountersOK P.down (down (m.view i) l) := by
  obtain ⟨mrs, hA⟩ := srv_repr sim hsl (i := i)
  refine ⟨hc.chan, ?_, fun c hcs => length_le_of_map (hsl.subS c.id) (hc.ids c hcs),
    fun c hcs => len_le_of_map (hsl.subS c.id) (hc.lens c hcs), fun c hcs => len_le_of_map (hsl.subSU c.id) (hc.lensU c hcs)⟩
  have h := hc.seq
  rw [hA] at h
  exact h

theorem countersUp_of_sim {P : Params} {m : MSys} {i : Nat} {l : Link} {gl : GLink}
    (hsl : SimLink l gl) (hc : GCountersUp P gl) : CountersOK P.up (up (m.view i) l) := by
  obtain ⟨mrs, hcl⟩ := hsl.cl
  refine ⟨hc.chan, ?_, fun c hcs => length_le_of_map (hsl.subC c.id) (hc.ids c hcs),
    fun c hcs => len_le_of_map (hsl.subC c.id) (hc.lens c hcs), fun c hcs => len_le_of_map (hsl.subCU c.id) (hc.lensU c hcs)⟩
  have h := hc.seq
  rw [hcl] at h
  exact h

/-- the "each at most once" conclusion carried over `toNats` -/
theorem unordered_map {o L : List Bytes} {ids : List Nat} (h : o.map some = ids.map (fun k => L[k]?)) :
    (o.map toNats).map some = ids.map (fun k => (L.map toNats)[k]?) := by
  have := congrArg (List.map (Option.map toNats)) h
  simp only [List.map_map] at this
  rw [List.map_map]
  simpa [Function.comp_def, List.getElem?_map] using this

theorem _root_.RenetVerif.System.Guarantees.onNats {cfg : Cfg} {sub subU obt : Nat → List Bytes}
    (h : Guarantees cfg sub subU obt) :
    Guarantees cfg (fun ch => (sub ch).map toNats) (fun ch => (subU ch).map toNats) (fun ch => (obt ch).map toNats) :=
  ⟨fun ch ho => (h.1 ch ho).map toNats, fun ch hu => let ⟨ids, hn, e⟩ := h.2.1 ch hu; ⟨ids, hn, unordered_map e⟩,
    fun ch hk => List.map_subset toNats (h.2.2 ch hk)⟩

theorem mem_map_toNats {x : Bytes} {L : List Bytes} : toNats x ∈ L.map toNats ↔ x ∈ L := by
  constructor
  · intro h
    obtain ⟨y, hy, e⟩ := List.mem_map.mp h
    rw [← toNats_inj e]; exact hy
  · exact List.mem_map_of_mem

end RenetVerif.SrcMulti
