/-
  C20F — the full stack, composed: channel guarantees (C01S) ∘ netcode authenticity (C04) ∘ transport glue routing (C20).

  One Lean theorem per guarantee, proved in `Lemmas/FullStack.lean` by simulation.

  THE SYSTEM (`FullStack.FS`, one session, client id `cid`).  State: the client's `NetcodeClientTransport` + `RenetClient`
  (`ClientGlue`), the server's `NetcodeServerTransport` + `RenetServer` (`ServerGlue`, possibly holding other clients),
  and ghost histories: every datagram either side's `send_packets` emitted (`emC`, `emS`), one record per successful
  `generate_payload_packet` of the session (`sealedC`, `sealedS`: key, protocol id, renet packet, datagram), the messages
  each application submitted / obtained per channel in each direction (`subC`, `subCU`, `obtS`; `subS`, `subSU`, `obtC`).
  Operations (`FSOp`), each calling exactly one model function:
      cliSend ch m | cliRecv ch | cliTick dt | cliDisconnect            RenetClient::{send_message, receive_message, update, disconnect}
      cliUpdate d inbox | cliSendPackets | cliTransportDisconnect        NetcodeClientTransport::{update, send_packets, disconnect}
      srvSend ch m | srvRecv ch | srvTick dt | srvDisconnect             RenetServer::{send_message(cid,…), receive_message(cid,…), update, disconnect(cid)}
      srvUpdate d inbox | srvSendPackets | srvDisconnectAll              NetcodeServerTransport::{update, send_packets, disconnect_all}
  `inbox : List (Addr × Bytes)` is chosen by the ADVERSARY, freely: arbitrary bytes from arbitrary source addresses —
  in particular copies of anything either side ever emitted, in any order, any number of times, truncated or with bits
  flipped.  Loss = a datagram never put into an inbox.

  START.  `Established cfg cid fs0` (`FullStack.Established`): both `RenetClient`s of the session fresh from one
  `ConnectionConfig` (`cfg.send` = client → server channels, `cfg.recv` = server → client channels), the server's in its
  table under `cid`; the netcode client `Connected`; the server's netcode table holds a connected slot for `cid`, and
  every slot for `cid` mirrors the keys of the client's connect token (slot receive key = client-to-server key, slot send
  key = server-to-client key); same protocol id; nothing emitted yet.  `Ex.fs0` below is such a state, obtained by running
  the handshake in the model.

  HYPOTHESES on the run (Bool-valued functions of the run, checked by evaluation for concrete runs):
    * `NoForgeryRunD`     whenever `process_packet` of either netcode endpoint surfaces a payload for this session in this
                          run, the datagram it was given is byte-identical to one the PEER's `generate_payload_packet`
                          returned earlier in this run (a ghost record; `records_are_emitted`: such a datagram was handed to
                          the socket by `send_packets`).  This is ciphertext integrity relative to the run; it is where key
                          secrecy enters (a third party knowing a session key could seal under it — `Ex.no_forgery_needed`),
                          and it is never an AEAD law (`Bind.laws_not_noForgery`: `Laws` and perfect authenticity exclude
                          each other).  Replays satisfy it by definition; truncated, bit-flipped, fabricated or foreign
                          datagrams satisfy it when they do not open.
                          The composition itself (`FullStack.full_stack`) is proved from the keyed form `NoForgeryRun`
                          ("… sealed under the key and protocol id the receiver opened it with"), which needs no key
                          agreement at the start; `noForgery_of_D` derives the keyed form from the datagram form: from an
                          established session and under `SingleSessionRun`, "the client keeps its connect token, every
                          server slot for `cid` carries the token's keys, every record was sealed under them" is an
                          invariant of every run (`FullStack.KeyInv`, `step_keyInv`, through `process_packet`,
                          `update_client`, `disconnect`, `generate_payload_packet` and both glues).
    * `SingleSessionRun`  `NetcodeServer::process_packet` never returns `ClientConnected{cid}` in this run: the session is
                          not re-opened.  Needed because of known finding K1 (replaying the handshake after the server
                          dropped the session re-opens it with the same keys, a fresh replay window and a FRESH
                          `RenetClient`: old datagrams are surfaced into fresh channels and the prefix property, counted
                          across both incarnations, fails — `Ex.single_session_needed` is that run).  Vacuous while the
                          session is in the netcode table.
    * `a.Laws`            the functional AEAD laws (`open (seal p) = p`); proved for ChaCha20-Poly1305 in C17R.
    * `CountersUp` / `CountersDown`   C01S's `CountersOK` for the respective direction, on the FINAL state.
    * `fs0.run a cid ops = some fs`   no model function panicked (absence of unwinding: C06, C12, C13, C20T).

  NOT COVERED: application calls on the server for OTHER client ids (`broadcast_message`, `send_message(id', …)`; they
  leave this client's connection alone or act on it like `srvSend`: Props/C20M.lean, `others_do_not_disturb`,
  `broadcast_is_send`); different `available_bytes_per_tick` on the two
  sides (`System.Cfg` has one budget); datagrams emitted by `update` (keep-alives, handshake, disconnect) are not
  recorded — the adversary may inject anything anyway; datagrams an early-returning client `update` leaves in the socket
  are dropped — the adversary may re-inject them.

  METHOD.  Simulation into the two-endpoint system of `Lemmas/System.lean`.  Because `Sys` carries application traffic in
  one direction only and has no transport-driven status changes, it is first extended (`FullStack.xstep`) by
  B-side `send`, A-side `receive` and the status-only calls `disconnect_with / set_connected / set_connecting`, all of
  which preserve the four invariant layers of `system_inv` (`xstep_inv`).  `FullStack.Duo` (two `Conn`s, ghost logs for
  both directions) has two views that are such systems.  Every `FS` step is matched by a `Duo` run (`step_sim`):
  application calls one-to-one; `send_packets` = flush (`clientSendPackets_sim`, `serverSendLoop_sim`); a transport
  `update` = status mirror / `disconnect_due_to_transport`, then one `deliver k` of an EMITTED packet per surfaced
  payload (`clientRecvLoop_sim`, `handleLoop_sim`: routing by `GI.handle_renet`, authenticity by `NoForgeryRun` +
  `NcAead.Bind.decode_sealed_payload`: what opens under the key a record was sealed with is that record's renet packet), removal of
  the server's table entry ends the server side of the simulation.
-/
import RenetVerif.Lemmas.FullStack
import RenetVerif.Props.C20
namespace RenetVerif.C20F
open RenetVerif C RenetVerif.System RenetVerif.Netcode RenetVerif.Transport RenetVerif.FullStack

/-- **C01 over the full stack.**  After EVERY finite run of the full stack from an established session, under
    `NoForgeryRunD` and `SingleSessionRun`: on every ReliableOrdered client → server channel the messages the server's
    application obtained from this client are a prefix of what the client's application submitted — byte identical, no
    gaps, no duplicates, no reordering — and the same for every ReliableOrdered server → client channel; whatever the
    adversary puts into the sockets. -/
theorem full_stack_ordered_prefix (a : AEAD) (hl : a.Laws) (cfg : Cfg) (cid : Nat) (fs0 fs : FS) (ops : List FSOp)
    (he : Established cfg cid fs0) (hr : fs0.run a cid ops = some fs)
    (hnf : NoForgeryRunD a cid fs0 ops) (hss : SingleSessionRun a cid fs0 ops) :
    (CountersUp cfg fs → ∀ ch, cfg.Ordered ch → fs.obtS ch <+: fs.subC ch) ∧
    (CountersDown cfg fs → ∀ ch, (Cfg.swap cfg).Ordered ch → fs.obtC ch <+: fs.subS ch) :=
  let h := full_stack hl he.toRenetFresh hr (runOK_of (noForgery_of_D he hss hnf) hss)
  ⟨fun hc => (h.1 hc).1, fun hc => (h.2 hc).1⟩

/-- **C02 over the full stack.**  On every ReliableUnordered channel, in either direction, the obtained messages are the
    submitted messages at pairwise distinct positions of the submission log: each at most once, intact. -/
theorem full_stack_unordered_once (a : AEAD) (hl : a.Laws) (cfg : Cfg) (cid : Nat) (fs0 fs : FS) (ops : List FSOp)
    (he : Established cfg cid fs0) (hr : fs0.run a cid ops = some fs)
    (hnf : NoForgeryRunD a cid fs0 ops) (hss : SingleSessionRun a cid fs0 ops) :
    (CountersUp cfg fs → ∀ ch, cfg.Unordered ch →
      ∃ ids : List Nat, ids.Nodup ∧ (fs.obtS ch).map some = ids.map (fun id => (fs.subC ch)[id]?)) ∧
    (CountersDown cfg fs → ∀ ch, (Cfg.swap cfg).Unordered ch →
      ∃ ids : List Nat, ids.Nodup ∧ (fs.obtC ch).map some = ids.map (fun id => (fs.subS ch)[id]?)) :=
  let h := full_stack hl he.toRenetFresh hr (runOK_of (noForgery_of_D he hss hnf) hss)
  ⟨fun hc => (h.1 hc).2.1, fun hc => (h.2 hc).2.1⟩

/-- **C03 over the full stack.**  Every message either application obtains was submitted by the peer's application on
    that channel, byte for byte: on the reliable kinds it is in `subC` / `subS` (accepted by the channel), on the
    Unreliable kind in `subCU` / `subSU` (passed to `send_message`); nothing is fabricated by the adversary, nothing is
    assembled from slices of different messages. -/
theorem full_stack_integrity (a : AEAD) (hl : a.Laws) (cfg : Cfg) (cid : Nat) (fs0 fs : FS) (ops : List FSOp)
    (he : Established cfg cid fs0) (hr : fs0.run a cid ops = some fs)
    (hnf : NoForgeryRunD a cid fs0 ops) (hss : SingleSessionRun a cid fs0 ops) :
    (CountersUp cfg fs →
      (∀ ch, cfg.Ordered ch ∨ cfg.Unordered ch → ∀ x ∈ fs.obtS ch, x ∈ fs.subC ch) ∧
      (∀ ch, cfg.Unreliable ch → ∀ x ∈ fs.obtS ch, x ∈ fs.subCU ch)) ∧
    (CountersDown cfg fs →
      (∀ ch, (Cfg.swap cfg).Ordered ch ∨ (Cfg.swap cfg).Unordered ch → ∀ x ∈ fs.obtC ch, x ∈ fs.subS ch) ∧
      (∀ ch, (Cfg.swap cfg).Unreliable ch → ∀ x ∈ fs.obtC ch, x ∈ fs.subSU ch)) :=
  let h := full_stack hl he.toRenetFresh hr (runOK_of (noForgery_of_D he hss hnf) hss)
  ⟨fun hc => (h.1 hc).integrity, fun hc => (h.2 hc).integrity⟩

/-- the ghost records `NoForgeryRunD` speaks about are records of EMITTED datagrams: after every run from an established
    session, the datagram of every record of `sealedC` (`sealedS`) is in the history `emC` (`emS`) of datagrams the
    client's (server's) `send_packets` handed to the socket -/
theorem records_are_emitted (a : AEAD) (cfg : Cfg) (cid : Nat) (fs0 fs : FS) (ops : List FSOp)
    (he : Established cfg cid fs0) (hr : fs0.run a cid ops = some fs) :
    (∀ e ∈ fs.sealedC, e.dgram ∈ fs.emC.map (·.2)) ∧ (∀ e ∈ fs.sealedS, e.dgram ∈ fs.emS.map (·.2)) := by
  have start : Emitted fs0 := emitted_of_fresh he.toRenetFresh
  clear he
  induction ops generalizing fs0 with
  | nil =>
    cases hr
    exact start
  | cons op ops ih =>
    obtain ⟨fs1, hs, hr⟩ := FS.run_cons hr
    exact ih fs1 hr (step_emitted start hs)

/-- the same at every intermediate moment of a longer run: the run hypotheses are those of the whole run (they
    restrict to every prefix), the counter conditions those of the moment considered -/
theorem full_stack_ordered_prefix_always (a : AEAD) (hl : a.Laws) (cfg : Cfg) (cid : Nat) (fs0 fs1 : FS)
    (ops1 ops2 : List FSOp) (he : Established cfg cid fs0) (hr1 : fs0.run a cid ops1 = some fs1)
    (hnf : NoForgeryRunD a cid fs0 (ops1 ++ ops2)) (hss : SingleSessionRun a cid fs0 (ops1 ++ ops2)) :
    (CountersUp cfg fs1 → ∀ ch, cfg.Ordered ch → fs1.obtS ch <+: fs1.subC ch) ∧
    (CountersDown cfg fs1 → ∀ ch, (Cfg.swap cfg).Ordered ch → fs1.obtC ch <+: fs1.subS ch) :=
  full_stack_ordered_prefix a hl cfg cid fs0 fs1 ops1 he hr1 (runNFD_prefix a cid ops1 ops2 fs0 hnf)
    (runSS_prefix a cid ops1 ops2 fs0 hss)

/-- `established_of` with the two layers of each side given separately: the conditions on the netcode layer do not mention
    the message layer, so one netcode session serves several channel configurations -/
theorem established_of_layers {cfg : Cfg} {cid : Nat} {nc : NetcodeClient} {rc : Conn} {ns : NetcodeServer} {rs : Server}
    (hc : rc = (Conn.fromChannels cfg.budget cfg.send cfg.recv).setConnected)
    (hs : rs.conns = [(cid, (Conn.fromChannels cfg.budget cfg.recv cfg.send).setConnected)])
    (h : nc.state = .connected ∧ nc.connectToken.clientId = cid ∧
      (ns.clients[0]?).map (fun o => o.map fun x => (x.clientId, x.state, x.receiveKey, x.sendKey)) =
        some (some (cid, .connected, nc.connectToken.clientToServerKey, nc.connectToken.serverToClientKey)) ∧
      ns.protocolId = nc.connectToken.protocolId ∧
      ns.clients.all (fun o => match o with
        | some x => x.clientId != cid || (x.receiveKey == nc.connectToken.clientToServerKey &&
            x.sendKey == nc.connectToken.serverToClientKey)
        | none => true) = true) : Established cfg cid (FS.start ⟨nc, rc⟩ ⟨ns, rs⟩) :=
  established_of ⟨hc, hs, h⟩

/-! ## non-vacuity: concrete sessions evaluated by the kernel

  The netcode handshake is RUN in the model (`Props/C20.lean`, toy AEAD with a keyed hash tag, two-slot server, connect
  token for client 7 under the server's private key): `c1` request → `s1` challenge → `c2` response → `s2` server
  connected + keep-alive → `c3` client connected; one more client `update` (`c4`) lets its `RenetClient` learn
  `Connected`.  `fs0` = that client glue + that server glue, nothing emitted yet. -/
namespace Ex
open RenetVerif.C20

def cfg : Cfg := ⟨60000, exChans, exChans⟩

def c4 : ClientGlue := (cstep c3.1 1000 []).1

def fs0 : FS := FS.start c4 s2.1

/-- `fs0` on the written-out end of the handshake (`C20.hs_end`).  The evaluations below unfold their scenario down to
    `fs0` by `rw` and rewrite with this, so that the kernel starts there instead of running the handshake. -/
theorem fs0_eq : fs0 = FS.start (cstep hsCli 1000 []).1 hsSrv := by
  rw [fs0, c4, hs_end.1, hs_end.2]

/-- what the handshake left behind, evaluated once: both `RenetClient`s fresh and `Connected`, the netcode client
    connected with id 7, the server's slot 0 connected for id 7 with the mirrored keys (32 bytes of 4 / of 5), same
    protocol id -/
theorem fs0_facts :
    (c4.renet = (Conn.fromChannels cfg.budget cfg.send cfg.recv).setConnected ∧
      s2.1.renet.conns = [(7, (Conn.fromChannels cfg.budget cfg.recv cfg.send).setConnected)] ∧
      c4.netcode.state = .connected ∧ c4.netcode.connectToken.clientId = 7 ∧
      (s2.1.netcode.clients[0]?).map (fun o => o.map fun x => (x.clientId, x.state, x.receiveKey, x.sendKey)) =
        some (some (7, .connected, c4.netcode.connectToken.clientToServerKey,
          c4.netcode.connectToken.serverToClientKey)) ∧
      s2.1.netcode.protocolId = c4.netcode.connectToken.protocolId ∧
      s2.1.netcode.clients.all (fun o => match o with
        | some x => x.clientId != 7 || (x.receiveKey == c4.netcode.connectToken.clientToServerKey &&
            x.sendKey == c4.netcode.connectToken.serverToClientKey)
        | none => true) = true) ∧
    c4.netcode.connectToken.clientToServerKey = List.replicate 32 4 ∧
    c4.netcode.connectToken.serverToClientKey = List.replicate 32 5 := by
  rw [c4, hs_end.1, hs_end.2]
  decide +kernel

theorem fs0_established : Established cfg 7 fs0 := established_of fs0_facts.1

/-! `Ex` — channel 1 ReliableOrdered, channel 0 Unreliable, both ways.

  1. The client submits `[1,2,3]` on channel 1 and `[7,7]` on channel 0; `send_packets` emits two datagrams `up`.
  2. The adversary hands the server: both datagrams, both again (replay), both with byte 5 incremented (corruption),
     three junk bytes from the SERVER's own address, and the first datagram cut to 10 bytes.  The server's application
     obtains `[1,2,3]` and `[7,7]` once each; it submits `[9,9]` on channel 1; `send_packets` emits `down`
     (the message and an ack).
  3. The adversary hands the client: `down`, `down` again, `down` corrupted, the first of them from a wrong source
     address, junk.  The client's application obtains `[9,9]` once.  The client flushes (an ack), and the adversary
     replays the two old client datagrams to the server once more: nothing further is obtained. -/

def flipB (b : Bytes) : Bytes := b.set 5 (b.getD 5 0 + 1)

def ops1 : List FSOp := [.cliSend 1 [1, 2, 3], .cliSend 0 [7, 7], .cliSendPackets]
def st1 : FS := (fs0.run toyAead 7 ops1).getD fs0
def up : List Bytes := st1.emC.map (·.2)
def inboxS : List Dgram :=
  (up.map fun b => (hsCliAddr, b)) ++ (up.map fun b => (hsCliAddr, b)) ++ (up.map fun b => (hsCliAddr, flipB b)) ++
    [(exSrvAddr, [1, 2, 3]), (hsCliAddr, (up.getD 0 []).take 10)]
def ops2 : List FSOp := [.srvUpdate 1000 inboxS, .srvRecv 1, .srvRecv 0, .srvRecv 1, .srvSend 1 [9, 9], .srvSendPackets]
def st2 : FS := (st1.run toyAead 7 ops2).getD fs0
def down : List Bytes := st2.emS.map (·.2)
def inboxC : List Dgram :=
  (down.map fun b => (exSrvAddr, b)) ++ (down.map fun b => (exSrvAddr, b)) ++ (down.map fun b => (exSrvAddr, flipB b)) ++
    [(hsCliAddr, down.getD 0 []), (exSrvAddr, [1, 2, 3])]
def ops3 : List FSOp :=
  [.cliUpdate 1000 inboxC, .cliRecv 1, .cliRecv 1, .cliSendPackets, .srvUpdate 1000 (up.map fun b => (hsCliAddr, b)), .srvRecv 1]
def ops : List FSOp := (ops1 ++ ops2) ++ ops3
def fin : FS := (fs0.run toyAead 7 ops).getD fs0
/-- the moment after step 2 -/
def mid : FS := (fs0.run toyAead 7 (ops1 ++ ops2)).getD fs0

/-- everything the examples below need, in one kernel evaluation.  The run `ops`: it returns normally; the run hypotheses
    hold (every surfaced payload came from a recorded datagram — replays were stopped by the replay window,
    corrupted / truncated / foreign datagrams did not open — and no `ClientConnected 7`); counters; what was observed.
    The moment `mid` after step 2: the server has obtained `[1,2,3]`; its own `[9,9]` is submitted and on the wire, not yet
    obtained by the client. -/
theorem all :
    (((fs0.run toyAead 7 ops).isSome = true ∧ NoForgeryRunD toyAead 7 fs0 ops ∧ SingleSessionRun toyAead 7 fs0 ops) ∧
      (CountersUp cfg fin ∧ CountersDown cfg fin) ∧
      (up.length = 2 ∧ down.length = 2 ∧ inboxS.length = 8 ∧ inboxC.length = 8) ∧
      (fin.subC 1 = [[1, 2, 3]] ∧ fin.obtS 1 = [[1, 2, 3]] ∧ fin.subCU 0 = [[7, 7]] ∧ fin.obtS 0 = [[7, 7]] ∧
        fin.subS 1 = [[9, 9]] ∧ fin.obtC 1 = [[9, 9]] ∧ fin.sealedC.length = 3 ∧ fin.sealedS.length = 2 ∧
        fin.emC.length = 3 ∧ fin.emS.length = 2)) ∧
    ((fs0.run toyAead 7 (ops1 ++ ops2)).isSome = true ∧
      (mid.c.renet.packetSeq ≤ Varint.MAX + 1 ∧ mid.ySeq ≤ Varint.MAX + 1 ∧
        (∀ c ∈ cfg.send, c.id < 256 ∧ (mid.subC c.id).length ≤ Varint.MAX + 1 ∧ (mid.subS c.id).length ≤ Varint.MAX + 1) ∧
        (∀ c ∈ cfg.send, ∀ m ∈ mid.subC c.id ++ mid.subCU c.id ++ mid.subS c.id ++ mid.subSU c.id,
          m.length ≤ MAX_NUM_SLICES * SLICE_SIZE)) ∧
      (mid.subC 1 = [[1, 2, 3]] ∧ mid.obtS 1 = [[1, 2, 3]] ∧ mid.subS 1 = [[9, 9]] ∧ mid.obtC 1 = [])) := by
  rw [fin, mid, ops, ops3, inboxC, down, st2, ops2, inboxS, up, st1, ops1, fs0_eq]
  decide +kernel

theorem run : fs0.run toyAead 7 ops = some fin := some_getD all.1.1.1 _
theorem noForgery : NoForgeryRunD toyAead 7 fs0 ops := all.1.1.2.1
theorem singleSession : SingleSessionRun toyAead 7 fs0 ops := all.1.1.2.2
theorem countersUp : CountersUp cfg fin := all.1.2.1.1
theorem countersDown : CountersDown cfg fin := all.1.2.1.2

theorem ordered1 : cfg.Ordered 1 := by unfold Cfg.Ordered; decide
theorem ordered1' : (Cfg.swap cfg).Ordered 1 := ordered1
theorem unreliable0 : cfg.Unreliable 0 := by unfold Cfg.Unreliable; decide

example : fin.obtS 1 <+: fin.subC 1 :=
  (full_stack_ordered_prefix toyAead toyAead_laws cfg 7 fs0 fin ops fs0_established run noForgery singleSession).1
    countersUp 1 ordered1
example : fin.obtC 1 <+: fin.subS 1 :=
  (full_stack_ordered_prefix toyAead toyAead_laws cfg 7 fs0 fin ops fs0_established run noForgery singleSession).2
    countersDown 1 ordered1'
example : ∀ x ∈ fin.obtS 0, x ∈ fin.subCU 0 :=
  ((full_stack_integrity toyAead toyAead_laws cfg 7 fs0 fin ops fs0_established run noForgery singleSession).1
    countersUp).2 0 unreliable0
/-- what actually happened: everything arrived, exactly once, in spite of 2 replayed, 2 corrupted, 1 truncated and
    1 foreign datagram at the server and 2 replayed, 2 corrupted, 1 mis-addressed and 1 foreign datagram at the client,
    and a late second replay of the client's datagrams -/
example : fin.subC 1 = [[1, 2, 3]] ∧ fin.obtS 1 = [[1, 2, 3]] ∧ fin.subCU 0 = [[7, 7]] ∧ fin.obtS 0 = [[7, 7]] ∧
    fin.subS 1 = [[9, 9]] ∧ fin.obtC 1 = [[9, 9]] ∧ fin.sealedC.length = 3 ∧ fin.sealedS.length = 2 ∧
    fin.emC.length = 3 ∧ fin.emS.length = 2 := all.1.2.2.2

theorem mid_facts :
    (fs0.run toyAead 7 (ops1 ++ ops2)).isSome = true ∧
    (mid.c.renet.packetSeq ≤ Varint.MAX + 1 ∧ mid.ySeq ≤ Varint.MAX + 1 ∧
      (∀ c ∈ cfg.send, c.id < 256 ∧ (mid.subC c.id).length ≤ Varint.MAX + 1 ∧ (mid.subS c.id).length ≤ Varint.MAX + 1) ∧
      (∀ c ∈ cfg.send, ∀ m ∈ mid.subC c.id ++ mid.subCU c.id ++ mid.subS c.id ++ mid.subSU c.id,
        m.length ≤ MAX_NUM_SLICES * SLICE_SIZE)) ∧
    (mid.subC 1 = [[1, 2, 3]] ∧ mid.obtS 1 = [[1, 2, 3]] ∧ mid.subS 1 = [[9, 9]] ∧ mid.obtC 1 = []) :=
  all.2

example : mid.obtS 1 <+: mid.subC 1 ∧ mid.obtC 1 <+: mid.subS 1 := by
  obtain ⟨hr, ⟨h1, h2, h3, h4⟩, -⟩ := mid_facts
  have h := full_stack_ordered_prefix_always toyAead toyAead_laws cfg 7 fs0 mid (ops1 ++ ops2) ops3 fs0_established
    (some_getD hr _) noForgery singleSession
  refine ⟨h.1 ⟨fun c hc => (h3 c hc).1, h1, fun c hc => (h3 c hc).2.1, fun c hc m hm => h4 c hc m ?_,
      fun c hc m hm => h4 c hc m ?_⟩ 1 ordered1,
    h.2 ⟨fun c hc => (h3 c hc).1, h2, fun c hc => (h3 c hc).2.2, fun c hc m hm => h4 c hc m ?_,
      fun c hc m hm => h4 c hc m ?_⟩ 1 ordered1'⟩
  · simp only [List.mem_append]; exact Or.inl (Or.inl (Or.inl hm))
  · simp only [List.mem_append]; exact Or.inl (Or.inl (Or.inr hm))
  · simp only [List.mem_append]; exact Or.inl (Or.inr hm)
  · simp only [List.mem_append]; exact Or.inr hm
example : mid.subC 1 = [[1, 2, 3]] ∧ mid.obtS 1 = [[1, 2, 3]] ∧ mid.subS 1 = [[9, 9]] ∧ mid.obtC 1 = [] := mid_facts.2.2

/-! ### the two run hypotheses are needed — machine-checked witnesses on the same established state -/

/-- **`SingleSessionRun` is needed (known finding K1 at full-stack level).**  The client submits `[1,2,3]`; the server
    obtains it; the server's application disconnects the client and the next `update` drops the session; the adversary
    replays the handshake's request and response datagrams (`C20.c1`, `C20.c2`) — the server re-opens the session for
    client 7 with a fresh `RenetClient` — and then replays the client's old payload datagram: the server's application
    obtains `[1,2,3]` a second time.  Every surfaced payload was a genuine recorded datagram (`NoForgeryRun` holds),
    yet what the server obtained across the two incarnations is not a prefix of what the client submitted. -/
def k1 : List FSOp := [.cliSend 1 [1, 2, 3], .cliSendPackets]
def kst : FS := (fs0.run toyAead 7 k1).getD fs0
def kup : List Dgram := kst.emC.map fun x => (hsCliAddr, x.2)
def k2 : List FSOp :=
  [.srvUpdate 1000 kup, .srvRecv 1, .srvDisconnect, .srvUpdate 1000 [], .srvUpdate 1000 (C20.up c1.2),
   .srvUpdate 1000 (C20.up c2.2), .srvUpdate 1000 kup, .srvRecv 1]
def kfin : FS := (fs0.run toyAead 7 (k1 ++ k2)).getD fs0

/-- **`NoForgeryRun` is needed (key secrecy).**  A party that knows the client-to-server key (32 bytes of 4) seals a
    renet packet of its own — message 0 of channel 1 = `[6,6,6]` — with sequence number 100; the server's application
    obtains a message nobody submitted.  No `ClientConnected` occurs (`SingleSessionRun` holds). -/
def forgedPlain : Bytes :=
  match (RenetVerif.Packet.smallReliable 0 1 [(0, [6, 6, 6])]).toBytes SER_BUFFER with
  | .ok b => b
  | _ => []
def forged : Bytes :=
  match (Netcode.Packet.payload forgedPlain).encode toyAead C.NETCODE_MAX_PACKET_BYTES 7 (some (100, List.replicate 32 4)) with
  | .ok b => b
  | _ => []
def f2 : List FSOp := [.srvUpdate 1000 [(hsCliAddr, forged)], .srvRecv 1]
def ffin : FS := (fs0.run toyAead 7 f2).getD fs0

theorem needed :
    ((fs0.run toyAead 7 (k1 ++ k2)).isSome = true ∧ NoForgeryRunD toyAead 7 fs0 (k1 ++ k2) ∧
      NoForgeryRun toyAead 7 fs0 (k1 ++ k2) ∧ ¬ SingleSessionRun toyAead 7 fs0 (k1 ++ k2) ∧ CountersUp cfg kfin ∧
      kfin.subC 1 = [[1, 2, 3]] ∧ kfin.obtS 1 = [[1, 2, 3], [1, 2, 3]] ∧ ¬ kfin.obtS 1 <+: kfin.subC 1) ∧
    ((fs0.run toyAead 7 f2).isSome = true ∧ ¬ NoForgeryRunD toyAead 7 fs0 f2 ∧ SingleSessionRun toyAead 7 fs0 f2 ∧
      ffin.subC 1 = [] ∧ ffin.obtS 1 = [[6, 6, 6]]) := by
  decide +kernel

theorem single_session_needed :
    fs0.run toyAead 7 (k1 ++ k2) = some kfin ∧ NoForgeryRunD toyAead 7 fs0 (k1 ++ k2) ∧
    NoForgeryRun toyAead 7 fs0 (k1 ++ k2) ∧ ¬ SingleSessionRun toyAead 7 fs0 (k1 ++ k2) ∧ CountersUp cfg kfin ∧
    kfin.subC 1 = [[1, 2, 3]] ∧ kfin.obtS 1 = [[1, 2, 3], [1, 2, 3]] ∧ ¬ kfin.obtS 1 <+: kfin.subC 1 :=
  ⟨some_getD needed.1.1 _, needed.1.2⟩

theorem no_forgery_needed :
    fs0.run toyAead 7 f2 = some ffin ∧ ¬ NoForgeryRunD toyAead 7 fs0 f2 ∧ SingleSessionRun toyAead 7 fs0 f2 ∧
    ffin.subC 1 = [] ∧ ffin.obtS 1 = [[6, 6, 6]] :=
  ⟨some_getD needed.2.1 _, needed.2.2⟩

end Ex

/-! `ExU` — the same netcode session (handshake run in the model), the message layer configured with one
    ReliableUnordered channel (id 2) each way.  The client submits `[1]` and `[2]` in two flushes (`dU 0`, `dU 1`), the
    server `[8]` and `[9]` (`dD 0`, `dD 1`).  The adversary delivers the LATER datagram first, together with a
    corrupted copy of the earlier one; the application reads; then the earlier one with replays of both. -/
namespace ExU
open RenetVerif.C20 Ex

def chans : List ChanCfg := [{ id := 2, kind := .unordered, maxMem := 4096, resend := 300000000 }]
def cfg : Cfg := ⟨60000, chans, chans⟩

def fs0 : FS :=
  FS.start ⟨c4.netcode, (Conn.fromChannels 60000 chans chans).setConnected⟩
    ⟨s2.1.netcode, (Server.new 60000 chans chans).addConnection 7⟩

theorem fs0_eq : fs0 =
    FS.start ⟨(cstep hsCli 1000 []).1.netcode, (Conn.fromChannels 60000 chans chans).setConnected⟩
      ⟨hsSrv.netcode, (Server.new 60000 chans chans).addConnection 7⟩ := by
  rw [fs0, Ex.c4, hs_end.1, hs_end.2]

/-- the netcode layer is that of `Ex` (`Ex.fs0_facts`); the two `RenetClient`s are fresh by construction -/
theorem fs0_established : Established cfg 7 fs0 := established_of_layers rfl rfl fs0_facts.1.2.2

def ops1 : List FSOp :=
  [.cliSend 2 [1], .cliSendPackets, .cliSend 2 [2], .cliSendPackets, .srvSend 2 [8], .srvSendPackets, .srvSend 2 [9],
   .srvSendPackets]
def st1 : FS := (fs0.run toyAead 7 ops1).getD fs0
def dU (i : Nat) : Dgram := (hsCliAddr, (st1.emC.map (·.2)).getD i [])
def dD (i : Nat) : Dgram := (exSrvAddr, (st1.emS.map (·.2)).getD i [])
def ops2 : List FSOp :=
  [.srvUpdate 1000 [dU 1, (hsCliAddr, flipB (dU 0).2)], .srvRecv 2, .srvUpdate 1000 [dU 1, dU 0, dU 1], .srvRecv 2, .srvRecv 2,
   .cliUpdate 1000 [dD 1, (exSrvAddr, flipB (dD 1).2)], .cliRecv 2, .cliUpdate 1000 [dD 0, dD 0, dD 1], .cliRecv 2, .cliRecv 2]
def ops : List FSOp := ops1 ++ ops2
def fin : FS := (fs0.run toyAead 7 ops).getD fs0

theorem all :
    ((fs0.run toyAead 7 ops).isSome = true ∧ NoForgeryRunD toyAead 7 fs0 ops ∧ SingleSessionRun toyAead 7 fs0 ops) ∧
    (CountersUp cfg fin ∧ CountersDown cfg fin) ∧
    (fin.subC 2 = [[1], [2]] ∧ fin.obtS 2 = [[2], [1]] ∧ fin.subS 2 = [[8], [9]] ∧ fin.obtC 2 = [[9], [8]]) := by
  rw [fin, ops, ops2, dU, dU, dD, dD, st1, ops1, fs0_eq]
  decide +kernel

theorem run : fs0.run toyAead 7 ops = some fin := some_getD all.1.1 _
theorem noForgery : NoForgeryRunD toyAead 7 fs0 ops := all.1.2.1
theorem singleSession : SingleSessionRun toyAead 7 fs0 ops := all.1.2.2
theorem countersUp : CountersUp cfg fin := all.2.1.1
theorem countersDown : CountersDown cfg fin := all.2.1.2

theorem unordered2 : cfg.Unordered 2 := by unfold Cfg.Unordered; decide

example : ∃ ids : List Nat, ids.Nodup ∧ (fin.obtS 2).map some = ids.map (fun id => (fin.subC 2)[id]?) :=
  (full_stack_unordered_once toyAead toyAead_laws cfg 7 fs0 fin ops fs0_established run noForgery singleSession).1
    countersUp 2 unordered2
example : ∃ ids : List Nat, ids.Nodup ∧ (fin.obtC 2).map some = ids.map (fun id => (fin.subS 2)[id]?) :=
  (full_stack_unordered_once toyAead toyAead_laws cfg 7 fs0 fin ops fs0_established run noForgery singleSession).2
    countersDown 2 unordered2
example : ∀ x ∈ fin.obtS 2, x ∈ fin.subC 2 :=
  ((full_stack_integrity toyAead toyAead_laws cfg 7 fs0 fin ops fs0_established run noForgery singleSession).1
    countersUp).1 2 (Or.inr unordered2)
/-- what actually happened: out of order, each exactly once (witness `ids = [1, 0]`), both ways -/
example : fin.subC 2 = [[1], [2]] ∧ fin.obtS 2 = [[2], [1]] ∧ fin.subS 2 = [[8], [9]] ∧ fin.obtC 2 = [[9], [8]] := all.2.2

end ExU

end RenetVerif.C20F
