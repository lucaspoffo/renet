/-
  Netcode liveness, the composed half of property C18 (helper lemmas for Props/C18T.lean):
  Part A — a connected session survives whole traces of server operations as long as it is fresh at every
           `update_client` (induction over `NS.Op` traces);
  Part B — the handshake driven through `NetcodeClient.update` (send-rate gate, clocks on both sides),
           retransmission after loss, failover to a second server.
-/
import RenetVerif.Lemmas.NcProgress
namespace RenetVerif.NcLive2
open RenetVerif RenetVerif.Netcode RenetVerif.Netcode.NS

/-! ## Part A : a fresh session survives every trace -/

def AuthDisconnect (a : AEAD) (s : NetcodeServer) (c : Connection) (buf : Bytes) : Prop :=
  ∃ sq w', Packet.decode a buf s.protocolId (some c.receiveKey) (some c.replayProtection) = (.ok (sq, .disconnect), some w')

def authenticB (a : AEAD) (s : NetcodeServer) (c : Connection) (buf : Bytes) : Bool :=
  match Packet.decode a buf s.protocolId (some c.receiveKey) (some c.replayProtection) with
  | (.ok (_, pk), some _) => decide (pk.packetType = .keepAlive) || decide (pk.packetType = .payload)
  | _ => false

def authDisconnectB (a : AEAD) (s : NetcodeServer) (c : Connection) (buf : Bytes) : Bool :=
  match Packet.decode a buf s.protocolId (some c.receiveKey) (some c.replayProtection) with
  | (.ok (_, .disconnect), some _) => true
  | _ => false

theorem authenticB_iff {a : AEAD} {s : NetcodeServer} {c : Connection} {buf : Bytes} :
    authenticB a s c buf = true ↔ Authentic a s c buf := by
  unfold authenticB Authentic
  cases hd : Packet.decode a buf s.protocolId (some c.receiveKey) (some c.replayProtection) with
  | mk r w =>
    cases r with
    | panic m => simp
    | err e => simp
    | ok sp =>
      obtain ⟨sq, pk⟩ := sp
      cases w with
      | none => simp
      | some w' =>
        simp only [Bool.or_eq_true, decide_eq_true_eq, Prod.mk.injEq, Res.ok.injEq, Option.some.injEq]
        constructor
        · intro h; exact ⟨sq, pk, w', ⟨⟨rfl, rfl⟩, rfl⟩, h⟩
        · rintro ⟨_, _, _, ⟨⟨_, rfl⟩, _⟩, h⟩; exact h

theorem authDisconnectB_iff {a : AEAD} {s : NetcodeServer} {c : Connection} {buf : Bytes} :
    authDisconnectB a s c buf = true ↔ AuthDisconnect a s c buf := by
  unfold authDisconnectB AuthDisconnect
  cases hd : Packet.decode a buf s.protocolId (some c.receiveKey) (some c.replayProtection) with
  | mk r w =>
    cases r with
    | panic m => simp
    | err e => simp
    | ok sp =>
      obtain ⟨sq, pk⟩ := sp
      cases w with
      | none => cases pk <;> simp
      | some w' => cases pk <;> simp

def refreshes (a : AEAD) (id : Nat) (s : NetcodeServer) : Op → Bool
  | .packet addr buf =>
    match findClientById s.clients id with
    | some c => decide (c.addr = addr) && authenticB a s c buf
    | none => false
  | _ => false

/-- What the trace hypothesis of `never_timed_out` demands of one operation, executed in state `s` when the most
    recent authentic packet of client `id` (or its connection) dates from `last`:
    * nobody calls `disconnect id`;
    * a datagram is not an authentic Disconnect packet of that client;
    * at `update_client id` the session is fresh: `now ≤ last + timeout` (or the token's timeout is not positive). -/
def opAllowed (a : AEAD) (id : Nat) (s : NetcodeServer) (last : Nat) : Op → Bool
  | .disconnect id' => decide (id' ≠ id)
  | .packet addr buf =>
    match findClientById s.clients id with
    | some c => !(decide (c.addr = addr) && authDisconnectB a s c buf)
    | none => true
  | .updateClient id' =>
    match findClientById s.clients id with
    | some c => decide (id' = id → c.timeoutSeconds ≤ 0 ∨ s.currentTime ≤ last + fromSecs c.timeoutSeconds.toNat)
    | none => true
  | _ => true

def lastAfter (a : AEAD) (id : Nat) (s : NetcodeServer) (last : Nat) (op : Op) : Nat :=
  if refreshes a id s op then s.currentTime else last

/-- `opAllowed` along a whole trace, the ghost variable `last` following the authentic packets (a trace ends where an
    operation unwinds) -/
def freshB (a : AEAD) (id : Nat) : NetcodeServer → Nat → List Op → Bool
  | _, _, [] => true
  | s, last, op :: rest =>
    opAllowed a id s last op &&
      match step a s op with
      | some (_, s') => freshB a id s' (lastAfter a id s last op) rest
      | none => true

def Fresh (a : AEAD) (id : Nat) (s : NetcodeServer) (last : Nat) (ops : List Op) : Prop := freshB a id s last ops = true

instance (a : AEAD) (id : Nat) (s : NetcodeServer) (last : Nat) (ops : List Op) : Decidable (Fresh a id s last ops) := by
  unfold Fresh; infer_instance

theorem fresh_nil (a : AEAD) (id : Nat) (s : NetcodeServer) (last : Nat) : Fresh a id s last [] := rfl

theorem fresh_cons {a : AEAD} {id : Nat} {s : NetcodeServer} {last : Nat} {op : Op} {rest : List Op} :
    Fresh a id s last (op :: rest) ↔
      opAllowed a id s last op = true ∧
      ∀ r s', step a s op = some (r, s') → Fresh a id s' (lastAfter a id s last op) rest := by
  unfold Fresh
  simp only [freshB, Bool.and_eq_true]
  constructor
  · rintro ⟨h1, h2⟩
    refine ⟨h1, fun r s' hs => ?_⟩
    rw [hs] at h2; exact h2
  · rintro ⟨h1, h2⟩
    refine ⟨h1, ?_⟩
    cases hs : step a s op with
    | none => rfl
    | some x => obtain ⟨r, s'⟩ := x; exact h2 r s' hs

def runOps (a : AEAD) : NetcodeServer → List Op → Option (List ServerResult × NetcodeServer)
  | s, [] => some ([], s)
  | s, op :: rest =>
    match step a s op with
    | some (r, s') => (runOps a s' rest).map fun x => (r :: x.1, x.2)
    | none => none

theorem runOps_cons {a : AEAD} {s s'' : NetcodeServer} {op : Op} {rest : List Op} {rs : List ServerResult}
    (h : runOps a s (op :: rest) = some (rs, s'')) :
    ∃ r s' rs', step a s op = some (r, s') ∧ runOps a s' rest = some (rs', s'') ∧ rs = r :: rs' := by
  simp only [runOps] at h
  cases hs : step a s op with
  | none => rw [hs] at h; cases h
  | some x =>
    obtain ⟨r, s'⟩ := x
    rw [hs] at h
    simp only [Option.map_eq_some_iff, Prod.mk.injEq] at h
    obtain ⟨⟨rs', s3⟩, h1, rfl, rfl⟩ := h
    exact ⟨r, s', rs', rfl, h1, rfl⟩

theorem runOps_append {a : AEAD} : ∀ {l1 l2 : List Op} {s s'' : NetcodeServer} {rs : List ServerResult},
    runOps a s (l1 ++ l2) = some (rs, s'') →
    ∃ rs1 s' rs2, runOps a s l1 = some (rs1, s') ∧ runOps a s' l2 = some (rs2, s'') ∧ rs = rs1 ++ rs2
  | [], l2, s, s'', rs, h => ⟨[], s, rs, rfl, h, rfl⟩
  | op :: l1, l2, s, s'', rs, h => by
    obtain ⟨r, s1, rs', hs, hr, rfl⟩ := runOps_cons (rest := l1 ++ l2) h
    obtain ⟨rs1, s', rs2, h1, h2, rfl⟩ := runOps_append hr
    refine ⟨r :: rs1, s', rs2, ?_, h2, rfl⟩
    simp only [runOps, hs, h1, Option.map_some]

theorem fresh_prefix {a : AEAD} {id : Nat} : ∀ {l1 l2 : List Op} {s : NetcodeServer} {last : Nat},
    Fresh a id s last (l1 ++ l2) → Fresh a id s last l1
  | [], _, s, last, _ => fresh_nil a id s last
  | op :: l1, l2, s, last, h => by
    rw [List.cons_append, fresh_cons] at h
    rw [fresh_cons]
    exact ⟨h.1, fun r s' hs => fresh_prefix (h.2 r s' hs)⟩

theorem IdOut.keeps {a : AEAD} {s s' : NetcodeServer} {id' : Nat} {mk : Nat → Packet} {r : ServerResult} (hi : ServerInv s)
    (ho : IdOut a s id' mk r s') {i : Nat} {c : Connection} (hc : At s.clients i c)
    (hend : c.clientId = id' → ∀ o, r ≠ .clientDisconnected id' c.addr o) :
    ∃ c', At s'.clients i c' ∧ ident c' = ident c ∧ c'.lastPacketReceivedTime = c.lastPacketReceivedTime ∧
      ∀ ad o, r ≠ .clientDisconnected c.clientId ad o := by
  cases ho with
  | idle => exact ⟨c, hc, rfl, rfl, nofun⟩
  | @ended j cj o hf hcj hidj =>
    by_cases e : j = i
    · subst e
      cases at_inj hcj hc
      exact absurd rfl (hend hidj o)
    · refine ⟨c, at_set_of_ne e hc, rfl, rfl, fun ad o' h' => ?_⟩
      simp only [ServerResult.clientDisconnected.injEq] at h'
      exact e (hi.slots.ids j i cj c hcj hc (hidj.trans h'.1))
  | @sent j cj out hf hcj =>
    by_cases e : j = i
    · subst e
      cases at_inj hcj hc
      exact ⟨_, at_set_self (at_lt hc), rfl, rfl, nofun⟩
    · exact ⟨c, at_set_of_ne e hc, rfl, rfl, nofun⟩

theorem step_keeps {a : AEAD} {s s' : NetcodeServer} {op : Op} {r : ServerResult} {id i last : Nat} {c : Connection}
    (hi : ServerInv s) (hc : At s.clients i c) (hid : c.clientId = id) (hlast : last ≤ c.lastPacketReceivedTime)
    (hal : opAllowed a id s last op = true) (h : step a s op = some (r, s')) :
    ∃ c', At s'.clients i c' ∧ ident c' = ident c ∧ lastAfter a id s last op ≤ c'.lastPacketReceivedTime ∧
      ∀ ad o, r ≠ .clientDisconnected id ad o := by
  have hfind : findClientById s.clients id = some c := hi.slots.findById_iff.mpr ⟨hid, i, hc⟩
  have hnow : c.lastPacketReceivedTime ≤ s.currentTime := (hi.slotsOK i c hc).recv
  rcases step_cases h with ⟨addr, buf, rfl, hp⟩ | ⟨d, rfl, rfl, hu⟩ | ⟨m, rfl, rfl, rfl⟩ | ⟨-, id', hcl, ho⟩
  · simp only [opAllowed, hfind, Bool.not_eq_true', Bool.and_eq_false_iff, decide_eq_false_iff_not] at hal
    rcases pp_session hi (pp_ok hi hp) hc with ⟨had, -, hdis⟩ | ⟨c', hc', hident, hr, htm⟩
    · rcases hal with hal | hal
      · exact absurd had hal
      · rw [authDisconnectB_iff.mpr hdis] at hal; cases hal
    · refine ⟨c', hc', hident, ?_, fun ad o => hid ▸ hr ad o⟩
      unfold lastAfter
      simp only [refreshes, hfind]
      -- the ghost timer moves exactly when the session's timer does
      rcases htm with ⟨had, hau, e⟩ | ⟨hn, e⟩
      · rw [e]
        split <;> omega
      · rw [if_neg, e]
        · exact hlast
        · simp only [Bool.and_eq_true, decide_eq_true_eq, authenticB_iff]
          exact hn
  · rw [update_ok hu]
    exact ⟨c, hc, rfl, hlast, nofun⟩
  · rw [(setMaxClients_eq s m).2.1]
    exact ⟨c, at_append_none.mpr hc, rfl, hlast, nofun⟩
  · -- an operation on a client id: the session is ended only by `disconnect id` (not allowed) or by the time-out
    -- of `update_client id` (the session is fresh)
    have hend : c.clientId = id' → ∀ o, r ≠ .clientDisconnected id' c.addr o := by
      intro e o hr
      have e' : id' = id := e.symm.trans hid
      subst hr
      cases op <;> cases hcl
      · simp only [opAllowed, hfind, decide_eq_true_eq] at hal
        obtain ⟨-, ⟨h1, h2⟩, -⟩ := server_timeout_packet a hi hc e (ok_of_match_some h)
        rcases hal e' with h' | h' <;> omega
      · simp only [opAllowed, decide_eq_true_eq] at hal
        exact hal e'
      · simp only [step] at h
        split at h <;> cases h
    obtain ⟨c', hc', hident, hrecv, hr⟩ := IdOut.keeps hi ho hc hend
    refine ⟨c', hc', hident, ?_, fun ad o => hid ▸ hr ad o⟩
    have hla : lastAfter a id s last op = last := by cases op <;> first | rfl | cases hcl
    rw [hla, hrecv]
    exact hlast

theorem run_keeps {a : AEAD} {id i : Nat} : ∀ (ops : List Op) {s s' : NetcodeServer} {c : Connection} {last : Nat}
    {rs : List ServerResult}, ServerInv s → At s.clients i c → c.clientId = id → last ≤ c.lastPacketReceivedTime →
    Fresh a id s last ops → runOps a s ops = some (rs, s') →
    ServerInv s' ∧ (∃ c', At s'.clients i c' ∧ ident c' = ident c) ∧ ∀ ad o, .clientDisconnected id ad o ∉ rs
  | [], s, s', c, last, rs, hi, hc, _, _, _, hrun => by
    simp only [runOps, Option.some.injEq, Prod.mk.injEq] at hrun
    obtain ⟨rfl, rfl⟩ := hrun
    exact ⟨hi, ⟨c, hc, rfl⟩, fun _ _ h => by cases h⟩
  | op :: rest, s, s', c, last, rs, hi, hc, hid, hlast, hfr, hrun => by
    obtain ⟨r, s1, rs', hs, hr, rfl⟩ := runOps_cons hrun
    obtain ⟨hal, hrest⟩ := fresh_cons.mp hfr
    obtain ⟨c1, hc1, hident, hl1, hnr⟩ := step_keeps hi hc hid hlast hal hs
    obtain ⟨hi', ⟨c', hc', hident'⟩, hnd⟩ := run_keeps rest (step_inv hi hs) hc1 (by rw [ident_id hident, hid]) hl1
      (hrest r s1 hs) hr
    refine ⟨hi', ⟨c', hc', by rw [hident', hident]⟩, ?_⟩
    intro ad o hm
    simp only [List.mem_cons] at hm
    rcases hm with e | hm
    · exact hnr ad o e.symm
    · exact hnd ad o hm

/-! ## Part B : the handshake through `update`, with loss -/

open RenetVerif.NcAead.Token

theorem sealedPriv_cfg (a : AEAD) {s0 s : NetcodeServer} (h : SameCfg s0 s) (t : PrivateConnectToken) (expire : Nat)
    (xnonce : Bytes) : sealedPriv a s t expire xnonce = sealedPriv a s0 t expire xnonce := by
  unfold sealedPriv; rw [h.connectKey, h.protocolId]

theorem requestBytes_cfg (a : AEAD) {s0 s : NetcodeServer} (h : SameCfg s0 s) (t : PrivateConnectToken) (expire : Nat)
    (xnonce : Bytes) : requestBytes a s t expire xnonce = requestBytes a s0 t expire xnonce := by
  unfold requestBytes requestPacket; rw [sealedPriv_cfg a h, h.protocolId]

theorem pendingRemove_filter (m : Pending) (f : Addr × Connection → Bool) (ad : Addr) :
    (pendingRemove (m.filter f) ad).length ≤ (pendingRemove m ad).length := by
  unfold pendingRemove
  induction m with
  | nil => simp
  | cons p rest ih =>
    simp only [List.filter_cons]
    by_cases h1 : f p = true <;> by_cases h2 : decide (p.1 ≠ ad) = true <;>
      simp only [h1, h2, List.filter_cons, if_true, List.length_cons, Bool.false_eq_true, if_false] <;> omega

theorem pendingFind_filter_some {f : Addr × Connection → Bool} : ∀ {m : Pending} {ad : Addr} {p : Connection},
    pendingFind m ad = some p → f (ad, p) = true → pendingFind (m.filter f) ad = some p
  | [], _, _, h, _ => by simp [pendingFind] at h
  | (a0, c0) :: rest, ad, p, h, hf => by
    simp only [pendingFind] at h
    split at h
    · rename_i he
      cases h; subst he
      simp only [List.filter_cons, hf, if_true, pendingFind]
    · rename_i hne
      simp only [List.filter_cons]
      split
      · simp only [pendingFind, if_neg hne]
        exact pendingFind_filter_some h hf
      · exact pendingFind_filter_some h hf

abbrev srvTick (s : NetcodeServer) (d : Nat) : NetcodeServer :=
  { s with currentTime := s.currentTime + d
           pendingClients := s.pendingClients.filter fun p => !(asSecs (s.currentTime + d) > p.2.expireTimestamp) }

theorem server_update_eq {s : NetcodeServer} {d : Nat} (h : s.currentTime + d ≤ DURATION_MAX) :
    s.update d = .ok (srvTick s d) := by
  obtain ⟨s', hs⟩ := update_ne_panic h
  rw [hs, update_ok hs]

theorem updateClient_quiet (a : AEAD) {s : NetcodeServer} {id i : Nat} {cn : Connection} (hi : ServerInv s)
    (hc : At s.clients i cn) (hid : cn.clientId = id) (hnt : ¬ TimedOut cn s.currentTime)
    (hclock : s.currentTime + fromSecs (2 ^ 31) ≤ DURATION_MAX) (hseq : cn.sequence < U64_MAX)
    (hnd : s.currentTime < cn.lastPacketSendTime + C.NETCODE_SEND_RATE_NS) :
    s.updateClient a id = .ok (.none, s) := by
  rcases updateClient_spec a hi hc hid with ⟨hto, _⟩ | ⟨_, ⟨e, -⟩ | ⟨out, hdue, _, _⟩⟩ | ⟨_, hn⟩
  · exact absurd hto hnt
  · exact e
  · omega
  · exact absurd ⟨hclock, hseq⟩ hn

theorem updateClient_due (a : AEAD) {s : NetcodeServer} {id i : Nat} {cn : Connection} (hi : ServerInv s)
    (hc : At s.clients i cn) (hid : cn.clientId = id) (hnt : ¬ TimedOut cn s.currentTime)
    (hclock : s.currentTime + fromSecs (2 ^ 31) ≤ DURATION_MAX) (hseq : cn.sequence < U64_MAX)
    (hdue : cn.lastPacketSendTime + C.NETCODE_SEND_RATE_NS ≤ s.currentTime) :
    s.updateClient a id =
      .ok (.packetToSend cn.addr (connectKeepAlive a s cn i),
           { s with clients := s.clients.set i (some (sentKeepAlive cn s.currentTime)) }) := by
  have hen := connectKeepAlive_encode a s cn i
  rcases updateClient_spec a hi hc hid with ⟨hto, _⟩ | ⟨_, ⟨-, hoff | ⟨e, he⟩⟩ | ⟨out, _, hout, e⟩⟩ | ⟨_, hn⟩
  · exact absurd hto hnt
  · exact absurd hdue hoff
  · rw [keepAliveOf, hen] at he
    cases he
  · rw [keepAliveOf, hen] at hout
    cases hout
    exact e
  · exact absurd ⟨hclock, hseq⟩ hn

/-- How long a connecting client can still run: `T` more nanoseconds without the token's window closing, the
    server-silence time-out firing, or a `Duration` operation overflowing. -/
structure CBudget (c : NetcodeClient) (T : Nat) : Prop where
  clock : c.currentTime + T + fromSecs c.connectToken.timeoutSeconds.toNat ≤ DURATION_MAX
  start : c.connectStartTime ≤ c.currentTime
  recv : c.lastPacketReceivedTime ≤ c.currentTime
  window : asSecs (c.currentTime + T - c.connectStartTime) < tokenWindow c
  alive : c.connectToken.timeoutSeconds ≤ 0 ∨
    c.currentTime + T ≤ c.lastPacketReceivedTime + fromSecs c.connectToken.timeoutSeconds.toNat

theorem asSecs_mono {x y : Nat} (h : x ≤ y) : asSecs x ≤ asSecs y := Nat.div_le_div_right h

theorem CBudget.clockOK {c : NetcodeClient} {T d : Nat} (h : CBudget c T) (hd : d ≤ T) : ClockOK c d :=
  ⟨Nat.le_trans (Nat.add_le_add_left hd _) (Nat.le_of_add_right_le h.clock),
    Nat.le_trans h.start (Nat.le_add_right _ _),
    Nat.le_trans (Nat.add_le_add_right (Nat.le_trans h.recv (Nat.le_add_right _ _)) _) h.clock⟩

theorem CBudget.inWindow {c : NetcodeClient} {T d : Nat} (h : CBudget c T) (hd : d ≤ T) :
    asSecs (c.currentTime + d - c.connectStartTime) < tokenWindow c :=
  Nat.lt_of_le_of_lt (asSecs_mono (Nat.sub_le_sub_right (Nat.add_le_add_left hd _) _)) h.window

theorem CBudget.notTimedOut {c : NetcodeClient} {T d : Nat} (h : CBudget c T) (hd : d ≤ T) :
    ¬ CTimedOut c (c.currentTime + d) := by
  rintro ⟨h1, h2⟩
  rcases h.alive with h3 | h3 <;> omega

theorem budget_split {x T d : Nat} (hd : d ≤ T) : x + d + (T - d) = x + T := by omega

theorem CBudget.step {c c' : NetcodeClient} {T d : Nat} (h : CBudget c T) (hd : d ≤ T)
    (h1 : c'.currentTime = c.currentTime + d) (h2 : c'.connectToken = c.connectToken)
    (h3 : c'.connectStartTime = c.connectStartTime)
    (h4 : c'.lastPacketReceivedTime = c.lastPacketReceivedTime ∨ c'.lastPacketReceivedTime = c'.currentTime) :
    CBudget c' (T - d) := by
  have hw : tokenWindow c' = tokenWindow c := by unfold tokenWindow; rw [h2]
  have hle : c.currentTime ≤ c'.currentTime := h1 ▸ Nat.le_add_right _ _
  refine ⟨by rw [h1, h2, budget_split hd]; exact h.clock, by rw [h3]; exact Nat.le_trans h.start hle, ?_,
    by rw [hw, h1, h3, budget_split hd]; exact h.window, ?_⟩
  · rcases h4 with e | e
    · rw [e]; exact Nat.le_trans h.recv hle
    · exact Nat.le_of_eq e
  · rw [h2, h1, budget_split hd]
    refine h.alive.imp_right fun e => ?_
    rcases h4 with e' | e'
    · rw [e']; exact e
    · rw [e', h1]; exact Nat.le_trans e (Nat.add_le_add_right (Nat.le_trans h.recv (Nat.le_add_right _ _)) _)

theorem CBudget.mono {c : NetcodeClient} {T T' : Nat} (h : CBudget c T) (hT : T' ≤ T) : CBudget c T' :=
  ⟨Nat.le_trans (Nat.add_le_add_right (Nat.add_le_add_left hT _) _) h.clock, h.start, h.recv,
    Nat.lt_of_le_of_lt (asSecs_mono (Nat.sub_le_sub_right (Nat.add_le_add_left hT _) _)) h.window,
    h.alive.imp_right (Nat.le_trans (Nat.add_le_add_left hT _))⟩

theorem update_continues (a : AEAD) {c : NetcodeClient} {T d : Nat} (hst : Connecting c) (h : CBudget c T) (hd : d ≤ T) :
    c.update a d = ({ c with currentTime := c.currentTime + d } : NetcodeClient).generatePacket a :=
  client_update_of_quiet a (client_connecting_continues hst (h.clockOK hd) (h.inWindow hd) (h.notTimedOut hd))

theorem generatePacket_closed (a : AEAD) {c : NetcodeClient} {tm : Nat} (hs : c.lastPacketSendTime = some tm)
    (hle : tm ≤ c.currentTime) (h : c.currentTime - tm < c.sendRate) : c.generatePacket a = .ok (none, c) := by
  unfold NetcodeClient.generatePacket
  simp only [hs, Res.csub_ok hle, bind_ok', pure_eq', decide_eq_true h, if_true]

/-- the send-rate gate of `update(d)` is open: nothing was sent yet, or the last packet is at least `send_rate` old -/
def GateOpen (c : NetcodeClient) (d : Nat) : Prop :=
  ∀ tm, c.lastPacketSendTime = some tm → c.sendRate ≤ c.currentTime + d - tm

theorem gateOpen_of_none {c : NetcodeClient} {d : Nat} (h : c.lastPacketSendTime = none) : GateOpen c d := by
  intro tm e; rw [h] at e; cases e

theorem gateOpen_of_rate {c : NetcodeClient} {d : Nat} (h : c.sendRate ≤ d)
    (hle : ∀ tm, c.lastPacketSendTime = some tm → tm ≤ c.currentTime) : GateOpen c d := by
  intro tm e; have := hle tm e; omega

abbrev cliTick (c : NetcodeClient) (d : Nat) : NetcodeClient := { c with currentTime := c.currentTime + d }
abbrev cliSent (c : NetcodeClient) (d : Nat) : NetcodeClient :=
  { c with currentTime := c.currentTime + d, lastPacketSendTime := some (c.currentTime + d), sequence := c.sequence + 1 }

theorem GateOpen.ticked {c : NetcodeClient} {d : Nat} (hg : GateOpen c d)
    (hle : ∀ tm, c.lastPacketSendTime = some tm → tm ≤ c.currentTime) :
    ∀ tm, (cliTick c d).lastPacketSendTime = some tm →
      tm ≤ (cliTick c d).currentTime ∧ (cliTick c d).sendRate ≤ (cliTick c d).currentTime - tm :=
  fun tm e => ⟨Nat.le_trans (hle tm e) (Nat.le_add_right _ _), hg tm e⟩

theorem update_gate_closed (a : AEAD) {c : NetcodeClient} {T d : Nat} (hst : Connecting c) (hb : CBudget c T) (hd : d ≤ T)
    (hle : ∀ tm, c.lastPacketSendTime = some tm → tm ≤ c.currentTime) (hg : ¬ GateOpen c d) :
    c.update a d = .ok (none, cliTick c d) := by
  rw [update_continues a hst hb hd]
  obtain ⟨tm, hn⟩ := Classical.not_forall.mp hg
  obtain ⟨e, hlt⟩ := Classical.not_imp.mp hn
  exact generatePacket_closed a (c := cliTick c d) e (Nat.le_trans (hle tm e) (Nat.le_add_right _ _)) (Nat.not_le.mp hlt)

theorem update_sends_request (a : AEAD) (hl : a.Laws) {c : NetcodeClient} {s : NetcodeServer} {t : PrivateConnectToken}
    {expire : Nat} {xnonce : Bytes} {T d : Nat} (htok : TokenFor a s t expire xnonce c.connectToken) (hwf : PTokenWF t)
    (hxn : xnonce.length = 24) (hst : c.state = .sendingConnectionRequest) (hb : CBudget c T) (hd : d ≤ T)
    (hseq : c.sequence < U64_MAX) (hle : ∀ tm, c.lastPacketSendTime = some tm → tm ≤ c.currentTime)
    (hg : GateOpen c d) :
    c.update a d = .ok (some (requestBytes a s t expire xnonce, c.serverAddr), cliSent c d) := by
  rw [update_continues a (Or.inl hst) hb hd]
  exact progress_send_request a hl (c := cliTick c d) htok hwf hxn hst (hg.ticked hle) hseq

theorem update_sends_response (a : AEAD) {c : NetcodeClient} {T d : Nat}
    (hst : c.state = .sendingConnectionResponse) (htd : c.challengeTokenData.length = 300) (hb : CBudget c T)
    (hd : d ≤ T) (hseq : c.sequence < U64_MAX) (hle : ∀ tm, c.lastPacketSendTime = some tm → tm ≤ c.currentTime)
    (hg : GateOpen c d) :
    c.update a d = .ok (some (responseBytes a c, c.serverAddr), cliSent c d) := by
  rw [update_continues a (Or.inr hst) hb hd]
  exact progress_send_response a (c := cliTick c d) hst (hg.ticked hle) hseq htd

theorem rp_new_fresh (k : Nat) : RP.new.alreadyReceived k = false := by
  refine (RP.alreadyReceived_false_iff _ k).mpr ⟨fun h => ?_, Or.inl (by simp [RP.at, RP.new])⟩
  have := h.2
  simp only [RP.new] at this
  omega

/-! ### rounds: both clocks advance, the client's datagram travels up, the server's answers travel down -/

/-- what the network does to the datagrams of one round: everything arrives; the client's datagram is lost (and with
    it everything else of the round); the client's datagram arrives but nothing the server sends does -/
inductive Fate where
  | delivered | upLost | downLost
  deriving DecidableEq, Repr

def resOpt {α : Type} : Res Empty α → Option α
  | .ok x => some x
  | _ => none

def answerTo (addr : Addr) : ServerResult → Option Bytes
  | .packetToSend ad p => if ad = addr then some p else none
  | .clientConnected _ ad _ p => if ad = addr then some p else none
  | _ => none

def deliver (a : AEAD) (o : Option Bytes) (c : NetcodeClient) : Option NetcodeClient :=
  match o with
  | none => some c
  | some p =>
    match c.processPacket a p with
    | .ok (_, c') => some c'
    | _ => none

/-- the way up: the client's datagram reaches the server (whose own address is `me`) unless it is lost or addressed
    to another server; the server sees it coming from `addr` -/
def up (a : AEAD) (addr me : Addr) (f : Fate) (out : Option (Bytes × Addr)) (s : NetcodeServer) :
    Option (ServerResult × NetcodeServer) :=
  match out with
  | none => some (.none, s)
  | some (dg, dst) => if f = .upLost ∨ dst ≠ me then some (.none, s) else resOpt (s.processPacket a addr dg)

/-- the way down: in a `delivered` round the client processes the answer to its datagram and the keep-alive of the
    server's tick -/
def down (a : AEAD) (addr : Addr) (f : Fate) (r r' : ServerResult) (c : NetcodeClient) : Option NetcodeClient :=
  if f = .delivered then (deliver a (answerTo addr r) c).bind (deliver a (answerTo addr r')) else some c

/-- **One round of `d` nanoseconds** between a client (seen by the server as `addr`, client id `id`) and the server
    listening on `me`: `server.update(d)`; `client.update(d)` (time-outs, failover, send-rate gate, at most one
    datagram); the datagram travels up (`up`); the server's per-client tick `update_client(id)` (time-out, keep-alive);
    the answers travel down (`down`).  `none` = some call unwound. -/
def round (a : AEAD) (addr me : Addr) (id : Nat) (f : Fate) (d : Nat) (w : NetcodeClient × NetcodeServer) :
    Option (NetcodeClient × NetcodeServer) :=
  match w.2.update d, w.1.update a d with
  | .ok s1, .ok (out, c1) =>
    match up a addr me f out s1 with
    | some (r, s2) =>
      match s2.updateClient a id with
      | .ok (r', s3) => (down a addr f r r' c1).map fun c3 => (c3, s3)
      | _ => none
    | none => none
  | _, _ => none

def runRounds (a : AEAD) (addr me : Addr) (id : Nat) :
    List (Fate × Nat) → NetcodeClient × NetcodeServer → Option (NetcodeClient × NetcodeServer)
  | [], w => some w
  | (f, d) :: rest, w => (round a addr me id f d w).bind (runRounds a addr me id rest)

def totalTime : List (Fate × Nat) → Nat
  | [] => 0
  | (_, d) :: rest => d + totalTime rest

theorem totalTime_append (l1 l2 : List (Fate × Nat)) : totalTime (l1 ++ l2) = totalTime l1 + totalTime l2 := by
  induction l1 with
  | nil => simp [totalTime]
  | cons x rest ih => obtain ⟨f, d⟩ := x; simp only [List.cons_append, totalTime, ih]; omega

theorem runRounds_append (a : AEAD) (addr me : Addr) (id : Nat) (l1 l2 : List (Fate × Nat))
    (w : NetcodeClient × NetcodeServer) :
    runRounds a addr me id (l1 ++ l2) w = (runRounds a addr me id l1 w).bind (runRounds a addr me id l2) := by
  induction l1 generalizing w with
  | nil => rfl
  | cons x rest ih =>
    obtain ⟨f, d⟩ := x
    simp only [List.cons_append, runRounds]
    cases round a addr me id f d w with
    | none => rfl
    | some w' => simp only [Option.bind_some, ih]

theorem round_intro {a : AEAD} {addr me : Addr} {id : Nat} {f : Fate} {d : Nat} {c c1 c3 : NetcodeClient}
    {s s1 s2 s3 : NetcodeServer} {out : Option (Bytes × Addr)} {r r' : ServerResult}
    (h1 : s.update d = .ok s1) (h2 : c.update a d = .ok (out, c1)) (h3 : up a addr me f out s1 = some (r, s2))
    (h4 : s2.updateClient a id = .ok (r', s3)) (h5 : down a addr f r r' c1 = some c3) :
    round a addr me id f d (c, s) = some (c3, s3) := by
  simp only [round, h1, h2, h3, h4, h5, Option.map_some]

theorem up_none (a : AEAD) (addr me : Addr) (f : Fate) (s : NetcodeServer) : up a addr me f none s = some (.none, s) := rfl

theorem up_lost (a : AEAD) (addr me : Addr) {f : Fate} {dg : Bytes} {dst : Addr} (s : NetcodeServer)
    (h : f = .upLost ∨ dst ≠ me) : up a addr me f (some (dg, dst)) s = some (.none, s) := by
  simp only [up, if_pos h]

theorem arrives_of_not_lost {f : Fate} {dst me : Addr} (h : ¬ (f = .upLost ∨ dst ≠ me)) : f ≠ .upLost ∧ dst = me :=
  ⟨fun e => h (Or.inl e), Classical.byContradiction fun e => h (Or.inr e)⟩

theorem up_arrives (a : AEAD) (addr me : Addr) {f : Fate} {dg : Bytes} {s s' : NetcodeServer} {r : ServerResult}
    (hf : f ≠ .upLost) (h : s.processPacket a addr dg = .ok (r, s')) :
    up a addr me f (some (dg, me)) s = some (r, s') := by
  have : ¬ (f = .upLost ∨ me ≠ me) := by rintro (h | h); exact hf h; exact h rfl
  simp only [up, if_neg this, h, resOpt]

theorem down_lossy (a : AEAD) (addr : Addr) {f : Fate} (hf : f ≠ .delivered) (r r' : ServerResult) (c : NetcodeClient) :
    down a addr f r r' c = some c := by
  simp only [down, if_neg hf]

theorem down_nothing (a : AEAD) (addr : Addr) (f : Fate) {r r' : ServerResult} (c : NetcodeClient)
    (h1 : answerTo addr r = none) (h2 : answerTo addr r' = none) : down a addr f r r' c = some c := by
  unfold down
  split
  · simp only [h1, h2, deliver, Option.bind_some]
  · rfl

theorem down_first (a : AEAD) (addr : Addr) {r r' : ServerResult} {c c' : NetcodeClient} {p : Bytes} {o : Option Bytes}
    (h1 : answerTo addr r = some p) (h2 : answerTo addr r' = none) (h : c.processPacket a p = .ok (o, c')) :
    down a addr .delivered r r' c = some c' := by
  simp only [down, if_true, h1, h2, deliver, h, Option.bind_some]

theorem down_second (a : AEAD) (addr : Addr) {r r' : ServerResult} {c c' : NetcodeClient} {p : Bytes} {o : Option Bytes}
    (h1 : answerTo addr r = none) (h2 : answerTo addr r' = some p) (h : c.processPacket a p = .ok (o, c')) :
    down a addr .delivered r r' c = some c' := by
  simp only [down, if_true, h1, h2, deliver, h, Option.bind_some]

/-! ### the phases of a handshake

  Fixed: the AEAD, the server configuration `s0` (keys, protocol id, public addresses), the address `addr` the server
  sees the client at, the token (`t` sealed with `expire`, `xnonce`). -/

/-- what identifies the session the token `t`, presented from `addr`, leads to -/
def identT (addr : Addr) (expire : Nat) (t : PrivateConnectToken) : Ident := ident (mkPending 0 addr expire t)

structure TokOK (a : AEAD) (s0 : NetcodeServer) (t : PrivateConnectToken) (expire : Nat) (xnonce : Bytes) : Prop where
  laws : a.Laws
  wf : PTokenWF t
  xn : xnonce.length = 24
  exp : expire < 2 ^ 64
  pid : s0.protocolId < 2 ^ 64
  host : s0.secure = true → ∃ x, some x ∈ t.serverAddresses ∧ x ∈ s0.publicAddresses

/-- **the server is open for this client**: configuration unchanged, invariant, neither the address nor the id
    connected, fewer than the maximum *other* half-open sessions, the token not bound to another address, a slot free -/
structure SrvOpen (a : AEAD) (s0 : NetcodeServer) (addr : Addr) (t : PrivateConnectToken) (expire : Nat) (xnonce : Bytes)
    (s : NetcodeServer) : Prop where
  cfg : SameCfg s0 s
  inv : ServerInv s
  addrFree : findClientByAddr s.clients addr = none
  idFree : findClientById s.clients t.clientId = none
  room : (pendingRemove s.pendingClients addr).length < C.NETCODE_MAX_PENDING_CLIENTS
  bound : Bound s addr (tokenMac (sealedPriv a s0 t expire xnonce))
  cap : countConnected s.clients < s.maxClients

section Srv
variable {a : AEAD} {s0 : NetcodeServer} {addr : Addr} {t : PrivateConnectToken} {expire : Nat} {xnonce : Bytes}

theorem SrvOpen.tick {s : NetcodeServer} (h : SrvOpen a s0 addr t expire xnonce s) {d : Nat}
    (hd : s.currentTime + d ≤ DURATION_MAX) : SrvOpen a s0 addr t expire xnonce (srvTick s d) :=
  ⟨h.cfg.frame _ _ _, update_inv h.inv (server_update_eq hd), h.addrFree, h.idFree,
    Nat.lt_of_le_of_lt (pendingRemove_filter _ _ _) h.room, fun e he => h.bound e he, h.cap⟩

theorem pending_survives_tick {s : NetcodeServer} {ad : Addr} {p : Connection} {d : Nat}
    (hpf : pendingFind s.pendingClients ad = some p) (he : asSecs (s.currentTime + d) ≤ p.expireTimestamp) :
    pendingFind (srvTick s d).pendingClients ad = some p := by
  apply pendingFind_filter_some hpf
  simp only [Bool.not_eq_true', decide_eq_false_iff_not]
  omega

theorem SrvOpen.idle {s : NetcodeServer} (h : SrvOpen a s0 addr t expire xnonce s) :
    s.updateClient a t.clientId = .ok (.none, s) := updateClient_absent a (findSlot_none.mpr h.idFree)

theorem SrvOpen.request (hT : TokOK a s0 t expire xnonce) {s : NetcodeServer} (h : SrvOpen a s0 addr t expire xnonce s)
    (hg : s.globalSequence < U64_MAX) (hc : s.challengeSequence < U64_MAX) (hnow : asSecs s.currentTime < expire) :
    ∃ s', s.processPacket a addr (requestBytes a s0 t expire xnonce) =
        .ok (.packetToSend addr (challengeBytes a s t), s') ∧
      SrvOpen a s0 addr t expire xnonce s' ∧
      pendingFind s'.pendingClients addr = some (mkPending s.currentTime addr expire t) ∧
      s'.challengeSequence = s.challengeSequence + 1 ∧ s'.globalSequence = s.globalSequence + 1 ∧
      s'.currentTime = s.currentTime := by
  have e1 := sealedPriv_cfg a h.cfg t expire xnonce
  obtain ⟨s', h1, h2, h3, h4, h5, h6, h7, h8, h9, h10⟩ := request_challenged a hT.laws (s := s) (addr := addr) (t := t)
    (expire := expire) (xnonce := xnonce) h.inv hg hc hT.wf hT.xn hT.exp (by rw [h.cfg.protocolId]; exact hT.pid) hnow
    (by rw [h.cfg.secure, h.cfg.publicAddresses]; exact hT.host) h.addrFree h.idFree h.room
    (by rw [e1]; exact h.bound) h.cap
  rw [requestBytes_cfg a h.cfg] at h1
  refine ⟨s', h1, ⟨h.cfg.trans h7, h10, by rw [h4]; exact h.addrFree, by rw [h4]; exact h.idFree, by rw [h3]; exact h.room,
    by rw [← e1]; exact h9, by rw [h4, h7.maxClients]; exact h.cap⟩, h2, h5, h6, h8⟩

theorem identT_fields {p : Connection} (h : ident p = identT addr expire t) :
    p.clientId = t.clientId ∧ p.addr = addr ∧ p.userData = t.userData ∧ p.sendKey = t.serverToClientKey ∧
    p.receiveKey = t.clientToServerKey ∧ p.timeoutSeconds = t.timeoutSeconds ∧ p.expireTimestamp = expire := by
  simp only [identT, ident, mkPending, Ident.mk.injEq] at h; exact h

theorem response_connects (hT : TokOK a s0 t expire xnonce) {s : NetcodeServer} {p : Connection} (hcfg : SameCfg s0 s)
    (hinv : ServerInv s) (hfa : findClientByAddr s.clients addr = none)
    (hfi : findClientById s.clients t.clientId = none) (hcap : countConnected s.clients < s.maxClients)
    (hpf : pendingFind s.pendingClients addr = some p) (hp : ident p = identT addr expire t) {cs seq : Nat}
    (hcs : cs < 2 ^ 64) (hseq : seq < 2 ^ 64) :
    ∃ i, s.clients[i]? = some none ∧
      s.processPacket a addr (Packet.sealedBytes a (.response cs (challengeToken a s0 t.clientId t.userData cs))
          s0.protocolId seq t.clientToServerKey) =
        .ok (.clientConnected p.clientId addr p.userData (connectKeepAlive a s p i),
             { s with pendingClients := pendingRemove s.pendingClients addr
                      clients := s.clients.set i (some (promoted p p.replayProtection s.currentTime)) }) := by
  obtain ⟨f1, f2, f3, f4, f5, f6, f7⟩ := identT_fields hp
  obtain ⟨i, hff⟩ := firstFree_of_count hinv hcap
  have hbytes : Packet.sealedBytes a (.response cs (challengeToken a s0 t.clientId t.userData cs)) s0.protocolId seq
      t.clientToServerKey = Packet.sealedBytes a (.response cs (challengeToken a s p.clientId p.userData cs))
      s.protocolId seq p.receiveKey := by
    rw [f1, f3, f5, challengeToken_cfg a hcfg, hcfg.protocolId]
  rw [hbytes]
  exact ⟨i, firstFree_some hff, response_connects_eq a hT.laws hinv hfa hpf (by rw [f1]; exact hfi) hff
    (by rw [f3]; exact hT.wf.userData) (by rw [f1]; exact hT.wf.clientId) hcs hseq⟩

theorem SrvOpen.connect (hT : TokOK a s0 t expire xnonce) {s : NetcodeServer} {p : Connection}
    (h : SrvOpen a s0 addr t expire xnonce s) (hpf : pendingFind s.pendingClients addr = some p)
    (hp : ident p = identT addr expire t) (hg : s.globalSequence < U64_MAX) (hc : s.challengeSequence < U64_MAX)
    {cs seq : Nat} (hcs : cs < 2 ^ 64) (hseq : seq < 2 ^ 64) :
    ∃ i, s.clients[i]? = some none ∧
      s.processPacket a addr (Packet.sealedBytes a (.response cs (challengeToken a s0 t.clientId t.userData cs))
          s0.protocolId seq t.clientToServerKey) =
        .ok (.clientConnected p.clientId addr p.userData (connectKeepAlive a s p i),
             { s with pendingClients := pendingRemove s.pendingClients addr
                      clients := s.clients.set i (some (promoted p p.replayProtection s.currentTime)) }) :=
  response_connects hT h.cfg h.inv h.addrFree h.idFree h.cap hpf hp hcs hseq

/-- **the server holds the session** of the token: `T` more nanoseconds without timing it out, room for `N` more
    keep-alives in its sequence number, its last send at least `D` old -/
structure SrvConn (s0 : NetcodeServer) (addr : Addr) (t : PrivateConnectToken) (expire : Nat) (T N D : Nat)
    (s : NetcodeServer) : Prop where
  cfg : SameCfg s0 s
  inv : ServerInv s
  sess : ∃ i cn, At s.clients i cn ∧ ident cn = identT addr expire t ∧ cn.sequence + N < U64_MAX ∧
    (cn.timeoutSeconds ≤ 0 ∨ s.currentTime + T ≤ cn.lastPacketReceivedTime + fromSecs cn.timeoutSeconds.toNat) ∧
    cn.lastPacketSendTime + D ≤ s.currentTime

theorem SrvConn.weaken {T N D T' N' D' : Nat} {s : NetcodeServer} (h : SrvConn s0 addr t expire T N D s) (hT : T' ≤ T)
    (hN : N' ≤ N) (hD : D' ≤ D) : SrvConn s0 addr t expire T' N' D' s := by
  obtain ⟨i, cn, h1, h2, h3, h4, h5⟩ := h.sess
  exact ⟨h.cfg, h.inv, i, cn, h1, h2, Nat.lt_of_le_of_lt (Nat.add_le_add_left hN _) h3,
    h4.imp_right (Nat.le_trans (Nat.add_le_add_left hT _)), Nat.le_trans (Nat.add_le_add_left hD _) h5⟩

theorem response_held (hT : TokOK a s0 t expire xnonce) {s : NetcodeServer} {p : Connection} {cs seq T' N' : Nat}
    (hcfg : SameCfg s0 s) (hinv : ServerInv s) (hfa : findClientByAddr s.clients addr = none)
    (hfi : findClientById s.clients t.clientId = none) (hcap : countConnected s.clients < s.maxClients)
    (hpf : pendingFind s.pendingClients addr = some p) (hp : ident p = identT addr expire t)
    (hcs : cs < 2 ^ 64) (hseq : seq < 2 ^ 64)
    (hT' : t.timeoutSeconds ≤ 0 ∨ T' ≤ fromSecs t.timeoutSeconds.toNat) (hN' : 1 + N' < U64_MAX) :
    ∃ i s2, s.processPacket a addr (Packet.sealedBytes a (.response cs (challengeToken a s0 t.clientId t.userData cs))
          s0.protocolId seq t.clientToServerKey) =
        .ok (.clientConnected p.clientId addr p.userData (connectKeepAlive a s p i), s2) ∧
      SrvConn s0 addr t expire T' N' 0 s2 ∧ At s2.clients i (promoted p p.replayProtection s.currentTime) ∧
      s2.currentTime = s.currentTime ∧ s2.globalSequence = s.globalSequence ∧
      s2.challengeSequence = s.challengeSequence ∧ p.sequence = 0 := by
  obtain ⟨i, hfree, hpp⟩ := response_connects hT hcfg hinv hfa hfi hcap hpf hp hcs hseq
  have hps : p.sequence = 0 := (hinv.pend (addr, p) (NS.pendingFind_mem hpf)).seq
  have hat : At (s.clients.set i (some (promoted p p.replayProtection s.currentTime))) i
      (promoted p p.replayProtection s.currentTime) := at_set_self (List.getElem?_eq_some_iff.mp hfree).1
  refine ⟨i, _, hpp, ⟨hcfg.frame _ _ _, ppOut_inv hinv (pp_ok hinv hpp), i, _, hat, hp, ?_, ?_, Nat.le_refl _⟩, hat, rfl, rfl,
    rfl, hps⟩
  · show p.sequence + 1 + N' < U64_MAX
    rw [hps, Nat.zero_add]; exact hN'
  · show p.timeoutSeconds ≤ 0 ∨ s.currentTime + T' ≤ s.currentTime + fromSecs p.timeoutSeconds.toNat
    rw [(identT_fields hp).2.2.2.2.2.1]
    exact hT'.imp_right fun h => Nat.add_le_add_left h _

theorem send_rate_pos : 0 < C.NETCODE_SEND_RATE_NS := by decide

theorem tick_after_connect {sc : NetcodeServer} {p : Connection} {i now : Nat} (hinv : ServerInv sc)
    (hat : At sc.clients i (promoted p p.replayProtection now)) (hid : p.clientId = t.clientId)
    (hnow : sc.currentTime = now) (hps : p.sequence = 0) (hclk : now + fromSecs (2 ^ 31) ≤ DURATION_MAX) :
    sc.updateClient a t.clientId = .ok (.none, sc) := by
  refine updateClient_quiet a hinv hat hid (no_spurious_timeout (Or.inr ?_)) (by rw [hnow]; exact hclk) ?_ ?_
  · show sc.currentTime ≤ now + _
    rw [hnow]; exact Nat.le_add_right _ _
  · show p.sequence + 1 < U64_MAX
    rw [hps]; decide
  · show sc.currentTime < now + C.NETCODE_SEND_RATE_NS
    rw [hnow]; exact Nat.lt_add_of_pos_right send_rate_pos

theorem SrvConn.tick {T N D d : Nat} {s : NetcodeServer} (h : SrvConn s0 addr t expire T N D s) (hd : d ≤ T)
    (hclock : s.currentTime + d ≤ DURATION_MAX) : SrvConn s0 addr t expire (T - d) N (D + d) (srvTick s d) := by
  obtain ⟨i, cn, h1, h2, h3, h4, h5⟩ := h.sess
  refine ⟨h.cfg.frame _ _ _, update_inv h.inv (server_update_eq hclock), i, cn, h1, h2, h3,
    h4.imp_right fun e => ?_, ?_⟩
  · show s.currentTime + d + (T - d) ≤ _
    rw [budget_split hd]; exact e
  · show cn.lastPacketSendTime + (D + d) ≤ s.currentTime + d
    rw [← Nat.add_assoc]; exact Nat.add_le_add_right h5 d

theorem SrvConn.updateClient_any {T N D : Nat} {s : NetcodeServer} (h : SrvConn s0 addr t expire T (N + 1) D s)
    (hclock : s.currentTime + fromSecs (2 ^ 31) ≤ DURATION_MAX) :
    ∃ r' s', s.updateClient a t.clientId = .ok (r', s') ∧ SrvConn s0 addr t expire T N 0 s' ∧
      s'.currentTime = s.currentTime ∧ s'.globalSequence = s.globalSequence ∧
      s'.challengeSequence = s.challengeSequence := by
  obtain ⟨i, cn, h1, h2, h3, h4, h5⟩ := h.sess
  have hnt : ¬ TimedOut cn s.currentTime := no_spurious_timeout (h4.imp_right (Nat.le_trans (Nat.le_add_right _ _)))
  rcases updateClient_spec a h.inv h1 (identT_fields h2).1 with ⟨hto, _⟩ | ⟨_, ⟨e, -⟩ | ⟨out, _, _, e⟩⟩ | ⟨_, hn⟩
  · exact absurd hto hnt
  · exact ⟨_, _, e, ⟨h.cfg, h.inv, i, cn, h1, h2, Nat.lt_of_succ_lt h3, h4, Nat.le_of_add_right_le h5⟩, rfl, rfl, rfl⟩
  · have hinv : ServerInv { s with clients := s.clients.set i (some (sentKeepAlive cn s.currentTime)) } :=
      updateClient_inv h.inv e
    refine ⟨_, _, e, ⟨h.cfg.frame _ _ _, hinv, i, _, at_set_self (at_lt h1), h2, ?_, h4, Nat.le_refl _⟩, rfl, rfl, rfl⟩
    show cn.sequence + 1 + N < U64_MAX
    rw [Nat.add_right_comm]; exact h3
  · exact absurd ⟨hclock, Nat.lt_of_add_right_lt h3⟩ hn

theorem SrvConn.updateClient_due {T N D : Nat} {s : NetcodeServer} (h : SrvConn s0 addr t expire T (N + 1) D s)
    (hclock : s.currentTime + fromSecs (2 ^ 31) ≤ DURATION_MAX) (hD : C.NETCODE_SEND_RATE_NS ≤ D) :
    ∃ i cn, At s.clients i cn ∧ ident cn = identT addr expire t ∧ cn.sequence < 2 ^ 64 ∧
      s.updateClient a t.clientId = .ok (.packetToSend addr (connectKeepAlive a s cn i),
        { s with clients := s.clients.set i (some (sentKeepAlive cn s.currentTime)) }) ∧
      ServerInv { s with clients := s.clients.set i (some (sentKeepAlive cn s.currentTime)) } := by
  obtain ⟨i, cn, h1, h2, h3, h4, h5⟩ := h.sess
  obtain ⟨hid, had, _⟩ := identT_fields h2
  have hnt : ¬ TimedOut cn s.currentTime := no_spurious_timeout (h4.imp_right (Nat.le_trans (Nat.le_add_right _ _)))
  have hsq : cn.sequence < U64_MAX := Nat.lt_of_add_right_lt h3
  have e := NcLive2.updateClient_due a h.inv h1 hid hnt hclock hsq (Nat.le_trans (Nat.add_le_add_left hD _) h5)
  rw [had] at e
  exact ⟨i, cn, h1, h2, Nat.lt_trans hsq (by decide), e, updateClient_inv h.inv e⟩

/-- a (retransmitted) response arriving from the connected address is ignored: `process_packet`, run forward, only
    stores the window `decode` hands back (a response does not move it); the session stays as it is -/
theorem SrvConn.recv_response (hT : TokOK a s0 t expire xnonce) {T N D : Nat} {s : NetcodeServer}
    (h : SrvConn s0 addr t expire T N D s) {cs seq : Nat} (hcs : cs < 2 ^ 64) (hseq : seq < 2 ^ 64) :
    ∃ s', s.processPacket a addr (Packet.sealedBytes a (.response cs (challengeToken a s0 t.clientId t.userData cs))
          s0.protocolId seq t.clientToServerKey) = .ok (.none, s') ∧
      SrvConn s0 addr t expire T N D s' ∧ s'.currentTime = s.currentTime ∧ s'.globalSequence = s.globalSequence ∧
      s'.challengeSequence = s.challengeSequence := by
  obtain ⟨i, cn, h1, h2, h3, h4, h5⟩ := h.sess
  obtain ⟨f1, f2, f3, f4, f5, f6, f7⟩ := identT_fields h2
  have hfa : findClientByAddr s.clients addr = some (i, cn) := h.inv.slots.findAddr_iff.mpr ⟨f2, h1⟩
  have hdec := Packet.decode_sealedBytes a (.response cs (challengeToken a s0 t.clientId t.userData cs))
    s.protocolId seq cn.receiveKey hT.laws hseq (by simp [Packet.packetType])
    ⟨hcs, challengeToken_length a hT.laws s0 t.clientId hT.wf.userData _⟩ (some cn.replayProtection) rfl
  have hpp := pp_from_connected hfa (h.inv.slots.conn i cn h1) hdec
  rw [← h.cfg.protocolId, ← f5]
  exact ⟨_, hpp, ⟨h.cfg.frame _ _ _, ppOut_inv h.inv (pp_ok h.inv hpp), i, _, at_set_self (at_lt h1), h2, h3, h4, h5⟩,
    rfl, rfl, rfl⟩

end Srv

structure CliReq (a : AEAD) (s0 : NetcodeServer) (t : PrivateConnectToken) (expire : Nat) (xnonce : Bytes)
    (c : NetcodeClient) : Prop where
  st : c.state = .sendingConnectionRequest
  tok : TokenFor a s0 t expire xnonce c.connectToken
  sendLe : ∀ tm, c.lastPacketSendTime = some tm → tm ≤ c.currentTime
  rp : ∀ k, c.replayProtection.alreadyReceived k = false

structure CliResp (a : AEAD) (s0 : NetcodeServer) (t : PrivateConnectToken) (expire : Nat) (xnonce : Bytes)
    (c : NetcodeClient) : Prop where
  st : c.state = .sendingConnectionResponse
  tok : TokenFor a s0 t expire xnonce c.connectToken
  sendLe : ∀ tm, c.lastPacketSendTime = some tm → tm ≤ c.currentTime
  rp : ∀ k, c.replayProtection.alreadyReceived k = false
  cs : c.challengeTokenSequence < 2 ^ 64
  td : c.challengeTokenData = challengeToken a s0 t.clientId t.userData c.challengeTokenSequence

/-- what a round in which the client receives nothing leaves alone -/
structure CliSame (c c' : NetcodeClient) : Prop where
  tok : c'.connectToken = c.connectToken
  start : c'.connectStartTime = c.connectStartTime
  recv : c'.lastPacketReceivedTime = c.lastPacketReceivedTime
  srv : c'.serverAddr = c.serverAddr
  idx : c'.serverAddrIndex = c.serverAddrIndex
  rate : c'.sendRate = c.sendRate

theorem CliSame.refl (c : NetcodeClient) : CliSame c c := ⟨rfl, rfl, rfl, rfl, rfl, rfl⟩
theorem CliSame.trans {c1 c2 c3 : NetcodeClient} (h1 : CliSame c1 c2) (h2 : CliSame c2 c3) : CliSame c1 c3 :=
  ⟨h2.1.trans h1.1, h2.2.trans h1.2, h2.3.trans h1.3, h2.4.trans h1.4, h2.5.trans h1.5, h2.6.trans h1.6⟩

/-- **the budgets of a handshake in progress**: `T` nanoseconds and `N` rounds can still pass without the client's
    token window closing or its time-out firing (`CBudget`), the server's clock reaching the token's expiry second
    or overflowing, the token's time-out (as the server will apply it to the session) firing, or one of the three
    sequence counters overflowing. -/
structure Budget (t : PrivateConnectToken) (expire : Nat) (c : NetcodeClient) (s : NetcodeServer) (T N : Nat) : Prop where
  cb : CBudget c T
  sclock : s.currentTime + T + fromSecs (2 ^ 31) ≤ DURATION_MAX
  sexp : asSecs (s.currentTime + T) < expire
  stmo : t.timeoutSeconds ≤ 0 ∨ T ≤ fromSecs t.timeoutSeconds.toNat
  cseq : c.sequence + N < U64_MAX
  gseq : s.globalSequence + N < U64_MAX
  chseq : s.challengeSequence + N < U64_MAX

theorem counter_step {g g' N n U : Nat} (h : g' ≤ g + 1 + n) (hb : g + (N + 1 + n) < U) : g' + N < U := by omega

/-- a round of `d` ns inside the budget, during which the server also handles `n` events for others -/
theorem Budget.stepN {t : PrivateConnectToken} {expire : Nat} {c c' : NetcodeClient} {s s' : NetcodeServer}
    {T N n d : Nat} (hb : Budget t expire c s T (N + 1 + n)) (hd : d ≤ T) (hcb : CBudget c' (T - d))
    (h1 : s'.currentTime = s.currentTime + d) (h2 : c'.sequence ≤ c.sequence + 1)
    (h3 : s'.globalSequence ≤ s.globalSequence + 1 + n) (h4 : s'.challengeSequence ≤ s.challengeSequence + 1 + n) :
    Budget t expire c' s' (T - d) N := by
  refine ⟨hcb, ?_, ?_, hb.stmo.imp_right (Nat.le_trans (Nat.sub_le _ _)), counter_step (Nat.le_trans h2 (Nat.le_add_right _ n)) hb.cseq,
    counter_step h3 hb.gseq, counter_step h4 hb.chseq⟩
  · rw [h1, budget_split hd]; exact hb.sclock
  · rw [h1, budget_split hd]; exact hb.sexp

theorem Budget.step {t : PrivateConnectToken} {expire : Nat} {c c' : NetcodeClient} {s s' : NetcodeServer} {T N d : Nat}
    (hb : Budget t expire c s T (N + 1)) (hd : d ≤ T) (hcb : CBudget c' (T - d))
    (h1 : s'.currentTime = s.currentTime + d) (h2 : c'.sequence ≤ c.sequence + 1)
    (h3 : s'.globalSequence ≤ s.globalSequence + 1) (h4 : s'.challengeSequence ≤ s.challengeSequence + 1) :
    Budget t expire c' s' (T - d) N :=
  hb.stepN (n := 0) hd hcb h1 h2 h3 h4

theorem Budget.still {t : PrivateConnectToken} {expire : Nat} {c c' : NetcodeClient} {s s' : NetcodeServer} {T N n : Nat}
    (hb : Budget t expire c s T (N + 1 + n)) (hcb : CBudget c' T) (h1 : s'.currentTime = s.currentTime)
    (h2 : c'.sequence ≤ c.sequence + 1) (h3 : s'.globalSequence ≤ s.globalSequence + 1 + n)
    (h4 : s'.challengeSequence ≤ s.challengeSequence + 1 + n) : Budget t expire c' s' T N :=
  hb.stepN (d := 0) (Nat.zero_le _) hcb h1 h2 h3 h4

theorem Budget.weaken {t : PrivateConnectToken} {expire : Nat} {c : NetcodeClient} {s : NetcodeServer} {T N N' : Nat}
    (hb : Budget t expire c s T N) (hN : N' ≤ N) : Budget t expire c s T N' :=
  ⟨hb.cb, hb.sclock, hb.sexp, hb.stmo, Nat.lt_of_le_of_lt (Nat.add_le_add_left hN _) hb.cseq,
    Nat.lt_of_le_of_lt (Nat.add_le_add_left hN _) hb.gseq, Nat.lt_of_le_of_lt (Nat.add_le_add_left hN _) hb.chseq⟩

theorem Budget.room {t : PrivateConnectToken} {expire : Nat} {c : NetcodeClient} {s : NetcodeServer} {T N n : Nat}
    (hb : Budget t expire c s T (N + 1 + n)) :
    c.sequence + 1 < U64_MAX ∧ s.globalSequence + 1 < U64_MAX ∧ s.challengeSequence + 1 < U64_MAX := by
  have e4 := hb.cseq; have e5 := hb.gseq; have e6 := hb.chseq
  omega

theorem Budget.srvClock {t : PrivateConnectToken} {expire : Nat} {c : NetcodeClient} {s : NetcodeServer} {T N d : Nat}
    (hb : Budget t expire c s T N) (hd : d ≤ T) : s.currentTime + d + fromSecs (2 ^ 31) ≤ DURATION_MAX := by
  have := hb.sclock; omega

theorem Budget.notExpired {t : PrivateConnectToken} {expire : Nat} {c : NetcodeClient} {s : NetcodeServer} {T N d : Nat}
    (hb : Budget t expire c s T N) (hd : d ≤ T) : asSecs (s.currentTime + d) < expire :=
  Nat.lt_of_le_of_lt (asSecs_mono (Nat.add_le_add_left hd _)) hb.sexp

/-- both sides are connected: the client is `Connected`, the server holds a session with the identity the token
    gives (id, user data, keys, timeout, expiry) and the address the client talked from -/
def Established (addr : Addr) (t : PrivateConnectToken) (expire : Nat) (c : NetcodeClient) (s : NetcodeServer) : Prop :=
  c.state = .connected ∧ ServerInv s ∧ ∃ i cn, At s.clients i cn ∧ ident cn = identT addr expire t

theorem Established.isClientConnected {addr : Addr} {t : PrivateConnectToken} {expire : Nat} {c : NetcodeClient}
    {s : NetcodeServer} (h : Established addr t expire c s) : s.isClientConnected t.clientId = true := by
  obtain ⟨_, _, i, cn, h1, h2⟩ := h
  exact isClientConnected_iff.mpr ⟨i, cn, h1, (identT_fields h2).1⟩

section Rounds
variable {a : AEAD} {s0 : NetcodeServer} {addr me : Addr} {t : PrivateConnectToken} {expire : Nat} {xnonce : Bytes}

theorem srv_idle_round {s : NetcodeServer} {d : Nat} (hs : SrvOpen a s0 addr t expire xnonce s)
    (hd : s.currentTime + d ≤ DURATION_MAX) :
    s.update d = .ok (srvTick s d) ∧ SrvOpen a s0 addr t expire xnonce (srvTick s d) ∧
      (srvTick s d).updateClient a t.clientId = .ok (.none, srvTick s d) :=
  ⟨server_update_eq hd, hs.tick hd, (hs.tick hd).idle⟩

theorem cli_req_update (hT : TokOK a s0 t expire xnonce) {c : NetcodeClient} {T d : Nat}
    (hc : CliReq a s0 t expire xnonce c) (hb : CBudget c T) (hd : d ≤ T) (hseq : c.sequence < U64_MAX) :
    ∃ out c1, c.update a d = .ok (out, c1) ∧ CliReq a s0 t expire xnonce c1 ∧ CliSame c c1 ∧
      c1.currentTime = c.currentTime + d ∧ c1.sequence ≤ c.sequence + 1 ∧ CBudget c1 (T - d) ∧
      ((out = none ∧ ¬ GateOpen c d) ∨
        (out = some (requestBytes a s0 t expire xnonce, c.serverAddr) ∧ GateOpen c d)) := by
  by_cases hg : GateOpen c d
  · exact ⟨_, cliSent c d, update_sends_request a hT.laws hc.tok hT.wf hT.xn hc.st hb hd hseq hc.sendLe hg,
      ⟨hc.st, hc.tok, fun tm e => Nat.le_of_eq (Option.some.inj e).symm, hc.rp⟩,
      ⟨rfl, rfl, rfl, rfl, rfl, rfl⟩, rfl, Nat.le_refl _, hb.step hd rfl rfl rfl (Or.inl rfl),
      Or.inr ⟨rfl, hg⟩⟩
  · exact ⟨_, cliTick c d, update_gate_closed a (Or.inl hc.st) hb hd hc.sendLe hg,
      ⟨hc.st, hc.tok, fun tm e => Nat.le_trans (hc.sendLe tm e) (Nat.le_add_right _ _), hc.rp⟩,
      ⟨rfl, rfl, rfl, rfl, rfl, rfl⟩, rfl, Nat.le_succ _, hb.step hd rfl rfl rfl (Or.inl rfl),
      Or.inl ⟨rfl, hg⟩⟩

theorem srv_req_up (hT : TokOK a s0 t expire xnonce) {sb : NetcodeServer} {f : Fate} {out : Option (Bytes × Addr)}
    {dst : Addr} (hout : out = none ∨ out = some (requestBytes a s0 t expire xnonce, dst))
    (hopen : ∀ dg, out = some (dg, me) → f ≠ .upLost → SrvOpen a s0 addr t expire xnonce sb)
    (hg : sb.globalSequence < U64_MAX) (hc : sb.challengeSequence < U64_MAX) (hnow : asSecs sb.currentTime < expire) :
    up a addr me f out sb = some (.none, sb) ∨
    ∃ s2, up a addr me f out sb = some (.packetToSend addr (challengeBytes a sb t), s2) ∧
      SrvOpen a s0 addr t expire xnonce s2 ∧
      pendingFind s2.pendingClients addr = some (mkPending sb.currentTime addr expire t) ∧
      s2.challengeSequence = sb.challengeSequence + 1 ∧ s2.globalSequence = sb.globalSequence + 1 ∧
      s2.currentTime = sb.currentTime := by
  rcases hout with rfl | rfl
  · exact Or.inl rfl
  · by_cases hl : f = .upLost ∨ dst ≠ me
    · exact Or.inl (up_lost a addr me _ hl)
    · obtain ⟨hf', rfl⟩ := arrives_of_not_lost hl
      obtain ⟨s2, hpp, h2⟩ := (hopen _ rfl hf').request hT hg hc hnow
      exact Or.inr ⟨s2, up_arrives a addr _ hf' hpp, h2⟩

/-- **request phase, a round in which the client hears nothing** (its datagram is lost, goes to another server, the
    answer is lost, or the send-rate gate is closed): the client keeps asking, the server stays open -/
theorem round_req_lossy (hT : TokOK a s0 t expire xnonce) {c : NetcodeClient} {s : NetcodeServer} {T N d : Nat} {f : Fate}
    (hc : CliReq a s0 t expire xnonce c) (hs : SrvOpen a s0 addr t expire xnonce s)
    (hb : Budget t expire c s T (N + 1)) (hd : d ≤ T) (hf : f ≠ .delivered) :
    ∃ c' s', round a addr me t.clientId f d (c, s) = some (c', s') ∧ CliReq a s0 t expire xnonce c' ∧
      SrvOpen a s0 addr t expire xnonce s' ∧ Budget t expire c' s' (T - d) N ∧ CliSame c c' ∧
      c'.currentTime = c.currentTime + d ∧ s'.currentTime = s.currentTime + d := by
  obtain ⟨hsu, hs1, hidle⟩ := srv_idle_round hs (Nat.le_trans (Nat.le_add_right _ _) (hb.srvClock hd))
  obtain ⟨out, c1, hcu, hc1, hsame, htime, hsq, hcb, hout⟩ := cli_req_update hT hc hb.cb hd
    (Nat.lt_of_le_of_lt (Nat.le_add_right _ _) hb.cseq)
  rcases srv_req_up (me := me) (f := f) hT (hout.imp And.left And.left) (fun _ _ _ => hs1)
      (Nat.lt_of_le_of_lt (Nat.le_add_right _ _) hb.gseq) (Nat.lt_of_le_of_lt (Nat.le_add_right _ _) hb.chseq)
      (hb.notExpired hd) with hup | ⟨s2, hup, hs2, _, hcs, hgs, htm⟩
  · exact ⟨c1, srvTick s d, round_intro hsu hcu hup hidle (down_nothing a addr f _ rfl rfl), hc1, hs1,
      hb.step hd hcb rfl hsq (Nat.le_succ _) (Nat.le_succ _), hsame, htime, rfl⟩
  · exact ⟨c1, s2, round_intro hsu hcu hup hs2.idle (down_lossy a addr hf _ _ _), hc1,
      hs2, hb.step hd hcb htm hsq (Nat.le_of_eq hgs) (Nat.le_of_eq hcs), hsame, htime, htm⟩

theorem round_request_arrives (hT : TokOK a s0 t expire xnonce) {c c1 : NetcodeClient} {s : NetcodeServer} {d : Nat}
    (hcu : c.update a d = .ok (some (requestBytes a s0 t expire xnonce, me), c1))
    (hc1 : CliReq a s0 t expire xnonce c1) (hs : SrvOpen a s0 addr t expire xnonce s)
    (hclk : s.currentTime + d ≤ DURATION_MAX) (hg : s.globalSequence + 1 < U64_MAX)
    (hch : s.challengeSequence + 1 < U64_MAX) (hnow : asSecs (s.currentTime + d) < expire) :
    ∃ s', round a addr me t.clientId .delivered d (c, s) = some (clientChallenged a (srvTick s d) t c1, s') ∧
      CliResp a s0 t expire xnonce (clientChallenged a (srvTick s d) t c1) ∧ SrvOpen a s0 addr t expire xnonce s' ∧
      pendingFind s'.pendingClients addr = some (mkPending (s.currentTime + d) addr expire t) ∧
      s'.currentTime = s.currentTime + d ∧ s'.globalSequence = s.globalSequence + 1 ∧
      s'.challengeSequence = s.challengeSequence + 1 := by
  have hU : U64_MAX = 2 ^ 64 - 1 := rfl
  obtain ⟨hsu, hs1, _⟩ := srv_idle_round hs hclk
  obtain ⟨s2, hpp, hs2, hpf, hcs, hgs, htm⟩ := hs1.request hT (Nat.lt_of_succ_lt hg) (Nat.lt_of_succ_lt hch) hnow
  have hchal := progress_challenge a hT.laws (c := c1) (s := srvTick s d) (t := t) hc1.st hc1.tok.s2c
    (hc1.tok.pid.trans hs.cfg.protocolId.symm) (by show s.globalSequence < 2 ^ 64; omega)
    (by show s.challengeSequence + 1 < 2 ^ 64; omega) hT.wf.userData
  refine ⟨s2, round_intro hsu hcu (up_arrives a addr me (by decide) hpp) hs2.idle
    (down_first a addr (by simp [answerTo]) rfl hchal), ?_, hs2, hpf, htm, hgs, hcs⟩
  exact ⟨rfl, hc1.tok, (fun tm e => by cases e), hc1.rp, by show s.challengeSequence + 1 < 2 ^ 64; omega,
    challengeToken_cfg a hs1.cfg _ _ _⟩

/-- **request phase, a `delivered` round with the gate open**: request up, challenge down; the client is in the
    response phase with its send timer cleared, the server holds the half-open session it made of the token (empty
    replay window) -/
theorem round_req_delivered (hT : TokOK a s0 t expire xnonce) {c : NetcodeClient} {s : NetcodeServer} {T N d : Nat}
    (hc : CliReq a s0 t expire xnonce c) (hs : SrvOpen a s0 addr t expire xnonce s)
    (hb : Budget t expire c s T (N + 1)) (hd : d ≤ T) (hme : c.serverAddr = me) (hg : GateOpen c d) :
    ∃ s', round a addr me t.clientId .delivered d (c, s) = some (clientChallenged a (srvTick s d) t (cliSent c d), s') ∧
      CliResp a s0 t expire xnonce (clientChallenged a (srvTick s d) t (cliSent c d)) ∧
      SrvOpen a s0 addr t expire xnonce s' ∧
      pendingFind s'.pendingClients addr = some (mkPending (s.currentTime + d) addr expire t) ∧
      Budget t expire (clientChallenged a (srvTick s d) t (cliSent c d)) s' (T - d) N ∧
      s'.currentTime = s.currentTime + d := by
  have hcu := update_sends_request a hT.laws hc.tok hT.wf hT.xn hc.st hb.cb hd
    (Nat.lt_of_le_of_lt (Nat.le_add_right _ _) hb.cseq) hc.sendLe hg
  rw [hme] at hcu
  have hc1 : CliReq a s0 t expire xnonce (cliSent c d) :=
    ⟨hc.st, hc.tok, fun tm e => Nat.le_of_eq (Option.some.inj e).symm, hc.rp⟩
  obtain ⟨s', hr, hc', hs', hp, e1, e2, e3⟩ := round_request_arrives hT hcu hc1 hs
    (Nat.le_trans (Nat.le_add_right _ _) (hb.srvClock hd)) (hb.room (n := 0)).2.1 (hb.room (n := 0)).2.2
    (hb.notExpired hd)
  exact ⟨s', hr, hc', hs', hp, hb.step hd (hb.cb.step hd rfl rfl rfl (Or.inr rfl)) e1 (Nat.le_refl _) (Nat.le_of_eq e2)
    (Nat.le_of_eq e3), e1⟩

theorem responseBytes_eq {c : NetcodeClient} (hc : CliResp a s0 t expire xnonce c) :
    responseBytes a c = Packet.sealedBytes a
      (.response c.challengeTokenSequence (challengeToken a s0 t.clientId t.userData c.challengeTokenSequence))
      s0.protocolId c.sequence t.clientToServerKey := by
  unfold responseBytes
  rw [← hc.td, hc.tok.pid, hc.tok.c2s]

theorem CliResp.tokenData_length (hT : TokOK a s0 t expire xnonce) {c : NetcodeClient}
    (hc : CliResp a s0 t expire xnonce c) : c.challengeTokenData.length = 300 := by
  rw [hc.td]; exact challengeToken_length a hT.laws s0 t.clientId hT.wf.userData _

theorem cli_resp_update (hT : TokOK a s0 t expire xnonce) {c : NetcodeClient} {T d : Nat}
    (hc : CliResp a s0 t expire xnonce c) (hb : CBudget c T) (hd : d ≤ T) (hseq : c.sequence < U64_MAX) :
    ∃ out c1, c.update a d = .ok (out, c1) ∧ CliResp a s0 t expire xnonce c1 ∧ CliSame c c1 ∧
      c1.currentTime = c.currentTime + d ∧ c1.sequence ≤ c.sequence + 1 ∧ CBudget c1 (T - d) ∧
      ((out = none ∧ ¬ GateOpen c d) ∨ (out = some (responseBytes a c, c.serverAddr) ∧ GateOpen c d)) := by
  by_cases hg : GateOpen c d
  · exact ⟨_, cliSent c d, update_sends_response a hc.st (hc.tokenData_length hT) hb hd hseq hc.sendLe hg,
      ⟨hc.st, hc.tok, fun tm e => Nat.le_of_eq (Option.some.inj e).symm, hc.rp, hc.cs, hc.td⟩,
      ⟨rfl, rfl, rfl, rfl, rfl, rfl⟩, rfl, Nat.le_refl _, hb.step hd rfl rfl rfl (Or.inl rfl),
      Or.inr ⟨rfl, hg⟩⟩
  · exact ⟨_, cliTick c d, update_gate_closed a (Or.inr hc.st) hb hd hc.sendLe hg,
      ⟨hc.st, hc.tok, fun tm e => Nat.le_trans (hc.sendLe tm e) (Nat.le_add_right _ _), hc.rp, hc.cs, hc.td⟩,
      ⟨rfl, rfl, rfl, rfl, rfl, rfl⟩, rfl, Nat.le_succ _, hb.step hd rfl rfl rfl (Or.inl rfl),
      Or.inl ⟨rfl, hg⟩⟩

theorem srv_response_round (hT : TokOK a s0 t expire xnonce) {s : NetcodeServer} {p : Connection} {d cs seq T' N' : Nat}
    (hs : SrvOpen a s0 addr t expire xnonce s) (hpf : pendingFind s.pendingClients addr = some p)
    (hp : ident p = identT addr expire t) (hclk : s.currentTime + d + fromSecs (2 ^ 31) ≤ DURATION_MAX)
    (hexp : asSecs (s.currentTime + d) ≤ expire) (hcs : cs < 2 ^ 64) (hseq : seq < 2 ^ 64)
    (hT' : t.timeoutSeconds ≤ 0 ∨ T' ≤ fromSecs t.timeoutSeconds.toNat) (hN' : 1 + N' < U64_MAX) :
    ∃ i s2, (srvTick s d).processPacket a addr
        (Packet.sealedBytes a (.response cs (challengeToken a s0 t.clientId t.userData cs)) s0.protocolId seq
          t.clientToServerKey) =
        .ok (.clientConnected p.clientId addr p.userData (connectKeepAlive a (srvTick s d) p i), s2) ∧
      s2.updateClient a t.clientId = .ok (.none, s2) ∧ SrvConn s0 addr t expire T' N' 0 s2 ∧
      At s2.clients i (promoted p p.replayProtection (s.currentTime + d)) ∧
      s2.currentTime = s.currentTime + d ∧ s2.globalSequence = s.globalSequence ∧
      s2.challengeSequence = s.challengeSequence ∧ p.sequence = 0 := by
  have hs1 := hs.tick (d := d) (Nat.le_trans (Nat.le_add_right _ _) hclk)
  obtain ⟨f1, _, _, _, _, _, f7⟩ := identT_fields hp
  have hpf1 := pending_survives_tick (d := d) hpf (by rw [f7]; exact hexp)
  obtain ⟨i, s2, hpp, hconn, hat, e1, e2, e3, hps⟩ := response_held hT (T' := T') (N' := N') hs1.cfg hs1.inv
    hs1.addrFree hs1.idFree hs1.cap hpf1 hp hcs hseq hT' hN'
  exact ⟨i, s2, hpp, tick_after_connect hconn.inv hat f1 e1 hps hclk, hconn, hat, e1, e2, e3, hps⟩

theorem srv_conn_up (hT : TokOK a s0 t expire xnonce) {s1 : NetcodeServer} {T N D : Nat} {f : Fate} {c : NetcodeClient}
    {out : Option (Bytes × Addr)} {dst : Addr} (hc : CliResp a s0 t expire xnonce c)
    (h : SrvConn s0 addr t expire T N D s1) (hseq : c.sequence < 2 ^ 64)
    (hout : out = none ∨ out = some (responseBytes a c, dst)) :
    ∃ s2, up a addr me f out s1 = some (.none, s2) ∧ SrvConn s0 addr t expire T N D s2 ∧
      s2.currentTime = s1.currentTime ∧ s2.globalSequence = s1.globalSequence ∧
      s2.challengeSequence = s1.challengeSequence := by
  rcases hout with rfl | rfl
  · exact ⟨s1, rfl, h, rfl, rfl, rfl⟩
  · by_cases hl : f = .upLost ∨ dst ≠ me
    · exact ⟨s1, up_lost a addr me _ hl, h, rfl, rfl, rfl⟩
    · obtain ⟨hf', rfl⟩ := arrives_of_not_lost hl
      obtain ⟨s2, hpp, h2⟩ := h.recv_response hT hc.cs hseq
      rw [← responseBytes_eq hc] at hpp
      exact ⟨s2, up_arrives a addr _ hf' hpp, h2⟩

/-- the server side of the response phase: it still holds the half-open session (replay window empty: only a
    response reaches it, and that one connects), or (the keep-alive was lost) the session already -/
def RespSrv (a : AEAD) (s0 : NetcodeServer) (addr : Addr) (t : PrivateConnectToken) (expire : Nat) (xnonce : Bytes)
    (T N : Nat) (s : NetcodeServer) : Prop :=
  (SrvOpen a s0 addr t expire xnonce s ∧
      ∃ p, pendingFind s.pendingClients addr = some p ∧ ident p = identT addr expire t ∧
        ∀ k, p.replayProtection.alreadyReceived k = false) ∨
    SrvConn s0 addr t expire T N 0 s

/-- **response phase, a round in which the client hears nothing**: the client keeps answering.  A server still
    waiting for the response keeps the half-open session, or gets the response and from then on holds the session; a
    server that holds it already ignores the response (its tick may send a keep-alive, which is lost). -/
theorem round_resp_lossy (hT : TokOK a s0 t expire xnonce) {c : NetcodeClient} {s : NetcodeServer} {T N d : Nat} {f : Fate}
    (hc : CliResp a s0 t expire xnonce c) (hs : RespSrv a s0 addr t expire xnonce T (N + 1) s)
    (hb : Budget t expire c s T (N + 1)) (hd : d ≤ T) (hf : f ≠ .delivered) :
    ∃ c' s', round a addr me t.clientId f d (c, s) = some (c', s') ∧ CliResp a s0 t expire xnonce c' ∧
      RespSrv a s0 addr t expire xnonce (T - d) N s' ∧ Budget t expire c' s' (T - d) N ∧ CliSame c c' ∧
      c'.currentTime = c.currentTime + d ∧ s'.currentTime = s.currentTime + d := by
  have hU : U64_MAX = 2 ^ 64 - 1 := rfl
  have hclk := hb.srvClock hd
  have hsq0 : c.sequence < U64_MAX := Nat.lt_of_le_of_lt (Nat.le_add_right _ _) hb.cseq
  have hsu : s.update d = .ok (srvTick s d) := server_update_eq (Nat.le_trans (Nat.le_add_right _ _) hclk)
  obtain ⟨out, c1, hcu, hc1, hsame, htime, hsq, hcb, hout⟩ := cli_resp_update hT hc hb.cb hd hsq0
  rcases hs with ⟨hs, p, hpf, hpi, hprp⟩ | hs
  · have hs1 := hs.tick (d := d) (Nat.le_trans (Nat.le_add_right _ _) hclk)
    have hexp : asSecs (s.currentTime + d) ≤ expire := Nat.le_of_lt (hb.notExpired hd)
    by_cases hq : up a addr me f out (srvTick s d) = some (.none, srvTick s d)
    · -- nothing reaches the server
      have hpf1 := pending_survives_tick (d := d) hpf (by rw [(identT_fields hpi).2.2.2.2.2.2]; exact hexp)
      exact ⟨c1, srvTick s d, round_intro hsu hcu hq hs1.idle (down_nothing a addr f _ rfl rfl), hc1,
        Or.inl ⟨hs1, p, hpf1, hpi, hprp⟩, hb.step hd hcb rfl hsq (Nat.le_succ _) (Nat.le_succ _), hsame, htime, rfl⟩
    · rcases hout with ⟨rfl, _⟩ | ⟨rfl, hg⟩
      · exact absurd (up_none a addr me f _) hq
      · obtain ⟨hf', hme⟩ := arrives_of_not_lost fun hl => hq (up_lost a addr me _ hl)
        rw [hme, responseBytes_eq hc] at hcu
        obtain ⟨i, s2, hpp, hquiet, hconn, -, htm, hgs, hcs, _⟩ := srv_response_round hT (d := d)
          (cs := c.challengeTokenSequence) (seq := c.sequence) (T' := T - d) (N' := N) hs hpf hpi hclk hexp hc.cs
          (by omega) (hb.stmo.imp_right (Nat.le_trans (Nat.sub_le _ _)))
          (by rw [Nat.add_comm]; exact Nat.lt_of_le_of_lt (Nat.le_add_left _ _) hb.gseq)
        exact ⟨c1, s2, round_intro hsu hcu (up_arrives a addr me hf' hpp) hquiet (down_lossy a addr hf _ _ _), hc1,
          Or.inr hconn, hb.step hd hcb htm hsq (by rw [hgs]; exact Nat.le_succ _) (by rw [hcs]; exact Nat.le_succ _),
          hsame, htime, htm⟩
  · have hs1 := hs.tick hd (Nat.le_trans (Nat.le_add_right _ _) hclk)
    obtain ⟨s2, hup, hs2, t2, g2, c2⟩ := srv_conn_up (me := me) (f := f) hT hc hs1 (by omega)
      (hout.imp And.left And.left)
    obtain ⟨r', s3, htick, hs3, t3, g3, c3⟩ := hs2.updateClient_any (a := a) (by rw [t2]; exact hclk)
    exact ⟨c1, s3, round_intro hsu hcu hup htick (down_lossy a addr hf _ _ _), hc1, Or.inr hs3,
      hb.step hd hcb (by rw [t3, t2]) hsq (by rw [g3, g2]; exact Nat.le_succ _) (by rw [c3, c2]; exact Nat.le_succ _),
      hsame, htime, by rw [t3, t2]⟩

/-- **the keep-alive was lost, a `delivered` round of at least the send rate**: the server's tick sends a keep-alive
    (its send timer is due) and the client, still answering the challenge, becomes connected on it -/
theorem round_half_delivered (hT : TokOK a s0 t expire xnonce) {c : NetcodeClient} {s : NetcodeServer} {T N D d : Nat}
    (hc : CliResp a s0 t expire xnonce c) (hs : SrvConn s0 addr t expire T (N + 1) D s)
    (hb : Budget t expire c s T (N + 1)) (hd : d ≤ T) (hrate : C.NETCODE_SEND_RATE_NS ≤ d) :
    ∃ c' s', round a addr me t.clientId .delivered d (c, s) = some (c', s') ∧ Established addr t expire c' s' ∧
      c'.currentTime = c.currentTime + d ∧ s'.currentTime = s.currentTime + d := by
  have hU : U64_MAX = 2 ^ 64 - 1 := rfl
  have hclk := hb.srvClock hd
  have hsq0 : c.sequence < U64_MAX := Nat.lt_of_le_of_lt (Nat.le_add_right _ _) hb.cseq
  have hsu : s.update d = .ok (srvTick s d) := server_update_eq (Nat.le_trans (Nat.le_add_right _ _) hclk)
  have hs1 := hs.tick hd (Nat.le_trans (Nat.le_add_right _ _) hclk)
  obtain ⟨out, c1, hcu, hc1, hsame, htime, hsq, _, hout⟩ := cli_resp_update hT hc hb.cb hd hsq0
  obtain ⟨s2, hup, hs2, t2, g2, c2⟩ := srv_conn_up (me := me) (f := .delivered) hT hc hs1 (by omega)
    (hout.imp And.left And.left)
  obtain ⟨i, cn, hat, hid, hsq2, htick, hinv3⟩ := hs2.updateClient_due (a := a) (by rw [t2]; exact hclk)
    (Nat.le_trans hrate (Nat.le_add_left _ _))
  have hka := progress_keepalive a hT.laws (c := c1) (s := s2) (p := cn) (i := i) hc1.st
    (hc1.tok.s2c.trans (identT_fields hid).2.2.2.1.symm) (hc1.tok.pid.trans hs2.cfg.protocolId.symm) hsq2 (hc1.rp _)
  exact ⟨_, _, round_intro hsu hcu hup htick (down_second a addr rfl (by simp [answerTo]) hka),
    ⟨rfl, hinv3, i, _, at_set_self (at_lt hat), hid⟩, htime, t2⟩

def Lossy (sched : List (Fate × Nat)) : Prop := ∀ x ∈ sched, x.1 ≠ .delivered

instance (sched : List (Fate × Nat)) : Decidable (Lossy sched) := by unfold Lossy; infer_instance

/-- **any number of rounds in which the client hears nothing**: a phase `P` of the client and a state `Q T N` of the
    server (time and rounds it has room for) that one such round keeps, as `hround` says, are kept by a whole schedule
    of them (induction over the rounds) -/
theorem run_lossy {P : NetcodeClient → Prop} {Q : Nat → Nat → NetcodeServer → Prop}
    (hround : ∀ {c : NetcodeClient} {s : NetcodeServer} {T N d : Nat} {f : Fate}, P c → Q T (N + 1) s →
      Budget t expire c s T (N + 1) → d ≤ T → f ≠ .delivered →
      ∃ c' s', round a addr me t.clientId f d (c, s) = some (c', s') ∧ P c' ∧ Q (T - d) N s' ∧
        Budget t expire c' s' (T - d) N ∧ CliSame c c' ∧ c'.currentTime = c.currentTime + d ∧
        s'.currentTime = s.currentTime + d) :
    ∀ (sched : List (Fate × Nat)) {c : NetcodeClient} {s : NetcodeServer} {T N : Nat}, P c →
    Q T (N + sched.length) s → Budget t expire c s T (N + sched.length) → totalTime sched ≤ T → Lossy sched →
    ∃ c' s', runRounds a addr me t.clientId sched (c, s) = some (c', s') ∧ P c' ∧ Q (T - totalTime sched) N s' ∧
      Budget t expire c' s' (T - totalTime sched) N ∧ CliSame c c' ∧
      c'.currentTime = c.currentTime + totalTime sched ∧ s'.currentTime = s.currentTime + totalTime sched
  | [], c, s, T, N, hc, hs, hb, _, _ => ⟨c, s, rfl, hc, hs, hb, CliSame.refl c, rfl, rfl⟩
  | (f, d) :: rest, c, s, T, N, hc, hs, hb, ht, hl => by
    simp only [totalTime] at ht ⊢
    have hb' : Budget t expire c s T (N + rest.length + 1) := hb
    have hs' : Q T (N + rest.length + 1) s := hs
    obtain ⟨c1, s1, hr, hc1, hs1, hb1, hsame1, ht1, hst1⟩ := hround (f := f) hc hs' hb' (Nat.le_of_add_right_le ht)
      (hl (f, d) List.mem_cons_self)
    obtain ⟨c2, s2, hr2, hc2, hs2, hb2, hsame2, ht2, hst2⟩ := run_lossy hround rest hc1 hs1 hb1
      (Nat.le_sub_of_add_le' ht) (fun x hx => hl x (List.mem_cons_of_mem _ hx))
    refine ⟨c2, s2, by simp only [runRounds, hr, Option.bind_some, hr2], hc2, ?_, ?_, hsame1.trans hsame2,
      by rw [ht2, ht1, Nat.add_assoc], by rw [hst2, hst1, Nat.add_assoc]⟩
    · rw [← Nat.sub_sub]; exact hs2
    · rw [← Nat.sub_sub]; exact hb2

/-- the client after the `update(d)` that gave up on its current server and sent the request to `next` -/
abbrev failedOver (c : NetcodeClient) (d : Nat) (next : Addr) : NetcodeClient :=
  { c with currentTime := c.currentTime + d, state := .sendingConnectionRequest
           serverAddrIndex := c.serverAddrIndex + 1, serverAddr := next, connectStartTime := c.currentTime + d
           lastPacketSendTime := some (c.currentTime + d), lastPacketReceivedTime := c.currentTime + d
           challengeTokenSequence := 0, sequence := c.sequence + 1 }

/-- **the `update(d)` in which the silence time-out fires**: the client moves to the next server address of its
    token, resets its timers, and — its send timer being cleared — sends the connection request there in the same
    call -/
theorem update_failover (a : AEAD) (hl : a.Laws) {c : NetcodeClient} {s : NetcodeServer} {t : PrivateConnectToken}
    {expire : Nat} {xnonce : Bytes} {d : Nat} {next : Addr} (hst : Connecting c) (hok : ClockOK c d)
    (hwin : asSecs (c.currentTime + d - c.connectStartTime) < tokenWindow c)
    (hto : CTimedOut c (c.currentTime + d))
    (hnext : c.connectToken.serverAddresses[c.serverAddrIndex + 1]? = some (some next))
    (hidx : c.serverAddrIndex + 1 < C.NETCODE_TOKEN_MAX_ADDRESSES)
    (htok : TokenFor a s t expire xnonce c.connectToken) (hwf : PTokenWF t) (hxn : xnonce.length = 24)
    (hseq : c.sequence < U64_MAX) :
    c.update a d = .ok (some (requestBytes a s t expire xnonce, next), failedOver c d next) := by
  unfold NetcodeClient.update
  rw [client_connecting_eq hst hok]
  simp only [if_neg (Nat.not_le.mpr hwin), if_pos hto, if_neg (Nat.not_le.mpr hidx), hnext, bind_ok']
  exact progress_send_request a hl
    (c := { c with currentTime := c.currentTime + d, state := .sendingConnectionRequest
                   serverAddrIndex := c.serverAddrIndex + 1, serverAddr := next, connectStartTime := c.currentTime + d
                   lastPacketSendTime := none, lastPacketReceivedTime := c.currentTime + d
                   challengeTokenSequence := 0 })
    htok hwf hxn rfl (gate_of_none rfl) hseq

theorem cliReq_failedOver {c : NetcodeClient} (hc : CliReq a s0 t expire xnonce c) (d : Nat) (next : Addr) :
    CliReq a s0 t expire xnonce (failedOver c d next) :=
  ⟨rfl, hc.tok, fun tm e => Nat.le_of_eq (Option.some.inj e).symm, hc.rp⟩

/-- a server that is open for this client in the sense of `C18P.handshake_round_partial`: no half-open session of
    the address yet, room in the pending map, the token not bound to another address -/
theorem srvOpen_of_fresh {s : NetcodeServer} (hi : ServerInv s)
    (hfa : findClientByAddr s.clients addr = none) (hfi : findClientById s.clients t.clientId = none)
    (hpf : pendingFind s.pendingClients addr = none)
    (hroom : s.pendingClients.length < C.NETCODE_MAX_PENDING_CLIENTS)
    (hbind : (s.findOrAddConnectTokenEntry ⟨s.currentTime, addr, tokenMac (sealedPriv a s t expire xnonce)⟩).2 = true)
    (hlt : countConnected s.clients < s.maxClients) : SrvOpen a s addr t expire xnonce s :=
  ⟨SameCfg.refl s, hi, hfa, hfi, by rw [pendingRemove_of_none hpf]; exact hroom,
    bound_of_binding hi.entries _ hbind, hlt⟩

theorem cliReq_of_new {tm : Nat} {ct : ConnectToken} {c : NetcodeClient} (h : NetcodeClient.new tm ct = .ok c)
    (htok : TokenFor a s0 t expire xnonce ct) :
    CliReq a s0 t expire xnonce c ∧ c.lastPacketSendTime = none ∧ c.sendRate = C.NETCODE_SEND_RATE_NS ∧
      c.currentTime = tm ∧ c.connectStartTime = tm ∧ c.lastPacketReceivedTime = tm ∧ c.connectToken = ct ∧
      c.sequence = 0 ∧ c.serverAddrIndex = 0 ∧ ct.serverAddresses.head? = some (some c.serverAddr) := by
  obtain ⟨ad, hhead, rfl⟩ := NcAead.Cl.new_ok.mp h
  exact ⟨⟨rfl, htok, (fun _ e => by cases e), rp_new_fresh⟩, rfl, rfl, rfl, rfl, rfl, rfl, rfl, rfl, hhead⟩

end Rounds

end RenetVerif.NcLive2
