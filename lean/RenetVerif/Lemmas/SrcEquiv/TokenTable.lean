/-
  F. connect-token entry table: generated `NetcodeServer::find_or_add_connect_token_entry` (only the field
  `connect_token_entries` of `base` changes) agrees with `Netcode.NetcodeServer.findOrAddConnectTokenEntry`.
  Headline statements in `Props/SrcTieTokenTable.lean`.
-/
import RenetVerif.Generated.Src.TokenTable
import RenetVerif.Lemmas.SrcEquiv.Prims
import RenetVerif.Lemmas.SrcEquiv.AddrRepr
import RenetVerif.Netcode.Server
namespace RenetVerif.SrcEquiv
open RenetVerif RenetVerif.RustSem

section TokenTable
open Src.renetcode.server
abbrev MEntry := Netcode.ConnectTokenEntry

def reprEntry (e : MEntry) : ConnectTokenEntry := ⟨e.time, reprAddr e.address, toNats e.mac⟩
def reprTable (base : NetcodeServer) (l : List (Option MEntry)) : NetcodeServer :=
  { base with connect_token_entries := l.map (Option.map reprEntry) }
variable {base : NetcodeServer}

/-- the loop state `(empty_entry, matching_entry, min, oldest_entry)` of the generated code -/
def reprScan (st : Netcode.NetcodeServer.EntryScan) : Bool × Option ConnectTokenEntry × Nat × Nat :=
  (st.emptyEntry, st.matchingEntry.map reprEntry, st.min, st.oldestEntry)

theorem scan_loop {ε ρ : Type} (mac : Bytes)
    (body : Nat × Option ConnectTokenEntry → Bool × Option ConnectTokenEntry × Nat × Nat →
      Exec ε ρ (Bool × Option ConnectTokenEntry × Nat × Nat))
    (hsome : ∀ i (e : MEntry) st, body (i, some (reprEntry e)) (reprScan st) = .val (reprScan
      (let st := if e.mac = mac then { st with matchingEntry := some e } else st
       if !st.emptyEntry ∧ e.time < st.min then { st with oldestEntry := i, min := e.time } else st)))
    (hnone : ∀ i st, body (i, none) (reprScan st) = .val (reprScan
      (if !st.emptyEntry then { st with emptyEntry := true, oldestEntry := i } else st))) :
    ∀ (l : List (Option MEntry)) (i : Nat) (st : Netcode.NetcodeServer.EntryScan),
      RustSem.forEach (RustSem.enumerate.go i (l.map (Option.map reprEntry))) (reprScan st) body =
        .val (reprScan (Netcode.NetcodeServer.scanEntries mac l i st)) := by
  intro l
  induction l with
  | nil => intro i st; rfl
  | cons x rest ih =>
    intro i st
    cases x with
    | none =>
      simp only [List.map_cons, Option.map_none, RustSem.enumerate.go, RustSem.forEach, hnone, Exec.bind_val',
        Netcode.NetcodeServer.scanEntries]
      exact ih _ _
    | some e =>
      simp only [List.map_cons, Option.map_some, RustSem.enumerate.go, RustSem.forEach, hsome, Exec.bind_val',
        Netcode.NetcodeServer.scanEntries]
      exact ih _ _

theorem scan_oldest (mac : Bytes) : ∀ (l : List (Option MEntry)) (i : Nat) (st : Netcode.NetcodeServer.EntryScan),
    (Netcode.NetcodeServer.scanEntries mac l i st).oldestEntry = st.oldestEntry ∨
      (i ≤ (Netcode.NetcodeServer.scanEntries mac l i st).oldestEntry ∧
        (Netcode.NetcodeServer.scanEntries mac l i st).oldestEntry < i + l.length)
  | [], _, _ => Or.inl rfl
  | x :: rest, i, st => by
    -- one entry leaves `oldestEntry` as it is or sets it to its own index
    obtain ⟨st1, hs, h1⟩ : ∃ st1, Netcode.NetcodeServer.scanEntries mac (x :: rest) i st
        = Netcode.NetcodeServer.scanEntries mac rest (i + 1) st1 ∧
          (st1.oldestEntry = st.oldestEntry ∨ st1.oldestEntry = i) := by
      cases x with
      | none =>
        refine ⟨_, rfl, ?_⟩
        split
        · exact Or.inr rfl
        · exact Or.inl rfl
      | some e =>
        have e1 : (if e.mac = mac then { st with matchingEntry := some e } else st).oldestEntry = st.oldestEntry := by
          split <;> rfl
        refine ⟨_, rfl, ?_⟩
        generalize (if e.mac = mac then { st with matchingEntry := some e } else st) = st1 at e1 ⊢
        rw [← e1]
        split
        · exact Or.inr rfl
        · exact Or.inl rfl
    rw [hs, List.length_cons]
    rcases scan_oldest mac rest (i + 1) st1 with h | h
    · rw [h]; omega
    · omega

theorem find_or_add_eq {ε : Type} (l : List (Option MEntry)) (ne : MEntry) (hl : 0 < l.length) :
    (NetcodeServer.find_or_add_connect_token_entry (reprTable base l) (reprEntry ne) : Res ε _) =
      (let st := Netcode.NetcodeServer.scanEntries ne.mac l 0 ⟨Netcode.DURATION_MAX, 0, false, none⟩
       match st.matchingEntry with
       | some e => .ok (reprTable base l, decide (e.address = ne.address))
       | none => .ok (reprTable base (l.set st.oldestEntry (some ne)), true)) := by
  unfold NetcodeServer.find_or_add_connect_token_entry
  simp only [Exec.bind_eq, Exec.pure_eq, RustSem.enumerate, reprTable]
  have h0 : ((false, none, RustSem.Duration.MAX, 0) : Bool × Option ConnectTokenEntry × Nat × Nat)
      = reprScan ⟨Netcode.DURATION_MAX, 0, false, none⟩ := by
    simp [reprScan, RustSem.Duration.MAX, Netcode.DURATION_MAX, Netcode.NS_PER_SEC]
  rw [h0, scan_loop ne.mac _ ?hsome ?hnone l 0]
  case hsome =>
    intro i e st
    obtain ⟨mn, old, emp, mat⟩ := st
    have hmac : (toNats e.mac = toNats ne.mac) = (e.mac = ne.mac) :=
      propext ⟨toNats_inj, fun h => by rw [h]⟩
    simp only [reprScan, reprEntry, hmac]
    by_cases h1 : e.mac = ne.mac <;> by_cases h2 : emp <;> by_cases h3 : e.time < mn <;>
      simp [h1, h2, h3, Exec.bind_val']
    all_goals simp [reprEntry, h1]
  case hnone =>
    intro i st
    obtain ⟨mn, old, emp, mat⟩ := st
    cases emp <;> simp [reprScan, Exec.bind_val']
  simp only [Exec.bind_val', reprScan]
  have hold : (Netcode.NetcodeServer.scanEntries ne.mac l 0 ⟨Netcode.DURATION_MAX, 0, false, none⟩).oldestEntry < l.length := by
    rcases scan_oldest ne.mac l 0 ⟨Netcode.DURATION_MAX, 0, false, none⟩ with h | h
    · rw [h]; exact hl
    · omega
  generalize Netcode.NetcodeServer.scanEntries ne.mac l 0 ⟨Netcode.DURATION_MAX, 0, false, none⟩ = st at hold
  obtain ⟨mn, old, emp, mat⟩ := st
  simp only at hold
  cases mat with
  | some e =>
    have haddr : ((reprEntry e).address = (reprEntry ne).address) = (e.address = ne.address) :=
      propext ⟨fun h => reprAddr_inj h, fun h => by simp only [reprEntry, h]⟩
    simp only [Option.map_some, Exec.bind_ret', Exec.run_ret, haddr]
  | none =>
    simp only [Option.map_none, Exec.bind_val']
    rw [set_val (by simpa using hold), Exec.bind_val', Exec.run_val]
    simp [List.map_set]
end TokenTable
end RenetVerif.SrcEquiv
