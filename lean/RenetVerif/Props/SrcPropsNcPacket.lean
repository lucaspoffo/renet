/-
  C07 (hostile input never panics) stated DIRECTLY about the generated netcode `Packet::read` of
  `Generated/Src/NcPacket.lean` (derived from `renetcode/src/packet.rs`).  The model appears only in the proof:
  `SrcTieNcPacket.nc_packet_read` ∘ `Netcode.Packet.read_no_panic` (the kernel of C07 `decode_total`).
-/
import RenetVerif.Props.SrcTieNcPacket
import RenetVerif.Props.C07
import RenetVerif.Lemmas.SrcCorollaries
namespace RenetVerif.SrcProps
open RenetVerif RenetVerif.SrcEquiv RenetVerif.SrcTie RenetVerif.SrcCor RenetVerif.RustSem

def absNPT : Src.renetcode.packet.PacketType → Netcode.PacketType
  | .ConnectionRequest => .connectionRequest
  | .ConnectionDenied => .connectionDenied
  | .Challenge => .challenge
  | .Response => .response
  | .KeepAlive => .keepAlive
  | .Payload => .payload
  | .Disconnect => .disconnect

theorem reprPT_absNPT (ty : Src.renetcode.packet.PacketType) : reprPT (absNPT ty) = ty := by cases ty <;> rfl

/-- **C07, netcode `Packet::read` never panics**: for EVERY packet type and EVERY byte list (the decrypted body of a
    datagram) the generated reader returns a packet or an `io::Error`; in particular the `unreachable!()` arm is not
    reached and no `read_bytes` runs past the input. -/
theorem nc_packet_read_never_panics (ty : Src.renetcode.packet.PacketType) (l : List Nat) (hl : BytesOk l) :
    NoPanic (Src.renetcode.packet.Packet.read ty l) := by
  have h := nc_packet_read (absNPT ty) (ofNats l)
  rw [reprPT_absNPT, toNats_ofNats hl] at h
  refine noPanic_of_sameOutcome h ?_
  rw [noPanic_mapRes]
  exact fun site => Netcode.Packet.read_no_panic _ _ site

/-- hostile bodies evaluated on the generated text: truncated challenge, empty keep-alive, short request -/
example : Src.renetcode.packet.Packet.read .Challenge (List.replicate 307 1) = .err .opaque := by decide +kernel
example : Src.renetcode.packet.Packet.read .KeepAlive [] = .err .opaque := by decide +kernel
example : Src.renetcode.packet.Packet.read .ConnectionRequest (List.replicate 1076 0) = .err .opaque := by decide +kernel
example : Src.renetcode.packet.Packet.read .KeepAlive [1, 0, 0, 0, 2, 0, 0, 0, 9, 9] = .ok (.KeepAlive 1 2) := by
  decide +kernel
example : NoPanic (Src.renetcode.packet.Packet.read .Payload [1, 2, 3]) :=
  nc_packet_read_never_panics _ _ (by decide)

end RenetVerif.SrcProps
