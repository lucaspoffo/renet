/-
  C06 — "Whatever bytes are handed to process_packet of a client connection or to process_packet_from of a
  server, in whatever connection state and history, the call returns normally: the packet is either processed or
  the affected connection becomes disconnected with a reason.  Subsequent API calls on that endpoint and on the
  server's other connections keep working, and the memory accounted to buffered or partially reassembled data
  stays within the configured channel budgets without wrapping around."

  Proofs: Lemmas/ConnInv.lean (composition of Lemmas/SendInv, RecvInv, Acks, Flush, ServerLemmas).

  The statement is an inductive invariant `Conn.Inv`:
    * `Conn.SendInv` (C08): reliable send channels exact, sent-packet table consistent with them, send order valid;
    * pending acks: `Acks.WF`, at most `ACK_RANGE_CAP` ranges, range ends ≤ 2^62 (C13/C16);
    * every receive channel: `RecvRel.WInv` / `RecvUnrel.WInv` (C06R) — exact accounting, `mem ≤ maxMem`,
      every stored slice constructor consistent;
    * every unreliable send channel: `mem = Σ queued lengths ≤ maxMem`.
  In the model every Rust operation that can unwind (index, `unwrap`, checked subtraction, `unreachable!`) is an
  explicit `Res.panic`; "returns normally" is `= .ok _`, "without wrapping around" is "no checked subtraction failed".

  `Conn.SInv` is the same with the strict constructor invariant; since `process_packet` only sees slices the
  decoder produced (`num_slices ≥ 1`), it too is preserved on every byte string.

  Side conditions that remain (and why):
    * `send_message` / `receive_message` / `channel_available_memory` with a channel id that names no channel
      panic by API contract — shown to be the ONLY panic (`…_panics_only_on_invalid_channel`);
    * `get_packets_to_send` needs the wire counters below 2^62 (`Conn.CountersOK`): octets varints cannot carry
      more and `put_varint` hits `unreachable!`.  No hostile input can move these counters; they advance by at most
      one per sent message / packet.
-/
import RenetVerif.Lemmas.ConnInv
namespace RenetVerif.C06
open RenetVerif C

theorem conn_inv_content (c : Conn) : c.Inv ↔
    (c.SendInv ∧ Acks.WF c.pendingAcks ∧ c.pendingAcks.length ≤ ACK_RANGE_CAP ∧
     (∀ r ∈ c.pendingAcks, r.2 ≤ Varint.MAX + 1) ∧
     (∀ x ∈ c.recvRel, x.2.WInv) ∧ (∀ x ∈ c.recvUnrel, x.2.WInv) ∧
     (∀ x ∈ c.sendUnrel, x.2.mem = sumLen x.2.queue ∧ x.2.mem ≤ x.2.maxMem)) :=
  ⟨fun h => ⟨h.send, h.acksWF, h.acksLen, h.acksBound, h.recvRel, h.recvUnrel, h.sendUnrel⟩,
   fun ⟨a, b, c1, d, e, f, g⟩ => ⟨a, b, c1, d, e, f, g⟩⟩

theorem conn_inv_channels (c : Conn) (h : c.Inv) :
    (∀ ch s, SMap.find? c.sendRel ch = some s → s.Inv ∧ s.ch = ch) ∧
    (∀ ch s, SMap.find? c.sendUnrel ch = some s → s.mem = sumLen s.queue ∧ s.mem ≤ s.maxMem) ∧
    (∀ ch r, SMap.find? c.recvRel ch = some r → r.WInv) ∧
    (∀ ch r, SMap.find? c.recvUnrel ch = some r → r.WInv) :=
  ⟨fun _ _ hf => h.sendRel_find hf, fun _ _ hf => h.sendUnrel_find hf, fun _ _ hf => h.recvRel_find hf,
   fun _ _ hf => h.recvUnrel_find hf⟩

theorem strict_implies_weak (c : Conn) (h : c.SInv) : c.Inv := CI.sinv_inv h

/-- a freshly configured connection satisfies both invariants, for ANY channel configuration (no hypothesis on
    the ids: a duplicate id simply replaces the earlier channel object, as in the Rust constructor) -/
theorem fresh_connection (budget : Nat) (send recv : List ChanCfg) :
    (Conn.fromChannels budget send recv).SInv ∧ (Conn.fromChannels budget send recv).Inv :=
  ⟨CI.fromChannels_invP budget send recv, CI.fromChannels_invP budget send recv⟩

/-- **C06, client connection.**  From any state satisfying the invariant, for EVERY byte string: the call returns
    normally, the invariant holds again, the status is unchanged or the connection is disconnected with a reason,
    and no channel appears or disappears. -/
theorem processPacket_total (c : Conn) (h : c.Inv) (bytes : Bytes) :
    ∃ c', c.processPacket bytes = .ok c' ∧ c'.Inv ∧
      (c'.status = c.status ∨ ∃ r, c'.status = .disconnected r) ∧ c.SameChans c' :=
  let ⟨c', e, i, sc⟩ := CI.processPacket_totalP goodP_winv h bytes
  ⟨c', e, i, (SL.Conn.processPacket_statusStep e).imp_right (·.2), sc⟩

/-- the same for the strict invariant: bytes off the wire never create a dead constructor -/
theorem processPacket_total_strict (c : Conn) (h : c.SInv) (bytes : Bytes) :
    ∃ c', c.processPacket bytes = .ok c' ∧ c'.SInv ∧
      (c'.status = c.status ∨ ∃ r, c'.status = .disconnected r) ∧ c.SameChans c' :=
  let ⟨c', e, i, sc⟩ := CI.processPacket_totalP goodP_inv h bytes
  ⟨c', e, i, (SL.Conn.processPacket_statusStep e).imp_right (·.2), sc⟩

theorem processPacket_never_panics (c : Conn) (h : c.Inv) (bytes : Bytes) (s : String) :
    c.processPacket bytes ≠ .panic s := by
  obtain ⟨c', e, -⟩ := processPacket_total c h bytes
  rw [e]; intro hx; cases hx

theorem update_total (c : Conn) (h : c.Inv) (dt : Nat) :
    ∃ c', c.update dt = .ok c' ∧ c'.Inv ∧ c'.status = c.status ∧ c'.now = c.now + dt ∧ c.SameChans c' := by
  obtain ⟨c', e, i, s, n, sc, -⟩ := CI.update_totalP h dt
  exact ⟨c', e, i, s, n, sc⟩

theorem receiveMessage_total (c : Conn) (h : c.Inv) (ch : Nat) (hch : c.hasRecv ch) :
    ∃ c' m, c.receiveMessage ch = .ok (c', m) ∧ c'.Inv ∧ c'.status = c.status ∧ c.SameChans c' :=
  CI.receiveMessage_totalP h ch hch

/-- the only panic of `receive_message`: a live connection asked for a channel id it does not have -/
theorem receiveMessage_panics_only_on_invalid_channel (c : Conn) (h : c.Inv) (ch : Nat) :
    (∃ s, c.receiveMessage ch = .panic s) ↔ (c.isDisconnected = false ∧ ¬ c.hasRecv ch) := by
  constructor
  · rintro ⟨s, hs⟩
    cases hd : c.isDisconnected with
    | true => unfold Conn.receiveMessage at hs; rw [hd] at hs; cases hs
    | false =>
      refine ⟨rfl, fun hch => ?_⟩
      obtain ⟨c', m, e, -⟩ := CI.receiveMessage_totalP h ch hch
      rw [e] at hs; cases hs
  · rintro ⟨hd, hn⟩
    have h1 : SMap.find? c.recvRel ch = none := Classical.byContradiction fun hx => hn (Or.inl hx)
    have h2 : SMap.find? c.recvUnrel ch = none := Classical.byContradiction fun hx => hn (Or.inr hx)
    exact ⟨_, by unfold Conn.receiveMessage; rw [hd, h1, h2]; rfl⟩

theorem sendMessage_total (c : Conn) (h : c.Inv) (ch : Nat) (m : Bytes) (hch : c.hasSend ch) :
    ∃ c', c.sendMessage ch m = .ok c' ∧ c'.Inv ∧
      (c'.status = c.status ∨ ∃ e, c'.status = .disconnected (.sendChan ch e)) ∧ c.SameChans c' :=
  CI.sendMessage_totalP h ch m hch

theorem sendMessage_panics_only_on_invalid_channel (c : Conn) (h : c.Inv) (ch : Nat) (m : Bytes) :
    (∃ s, c.sendMessage ch m = .panic s) ↔ (c.isDisconnected = false ∧ ¬ c.hasSend ch) := by
  constructor
  · rintro ⟨s, hs⟩
    cases hd : c.isDisconnected with
    | true => unfold Conn.sendMessage at hs; rw [hd] at hs; cases hs
    | false =>
      refine ⟨rfl, fun hch => ?_⟩
      obtain ⟨c', e, -⟩ := CI.sendMessage_totalP h ch m hch
      rw [e] at hs; cases hs
  · rintro ⟨hd, hn⟩
    have h1 : SMap.find? c.sendRel ch = none := Classical.byContradiction fun hx => hn (Or.inl hx)
    have h2 : SMap.find? c.sendUnrel ch = none := Classical.byContradiction fun hx => hn (Or.inr hx)
    exact ⟨_, by unfold Conn.sendMessage; rw [hd, h1, h2]; rfl⟩

theorem availableMemory_total (c : Conn) (ch : Nat) (hch : c.hasSend ch) : ∃ n, c.availableMemory ch = .ok n := by
  unfold Conn.availableMemory
  cases hf : SMap.find? c.sendRel ch with
  | some s => exact ⟨_, rfl⟩
  | none =>
    cases hg : SMap.find? c.sendUnrel ch with
    | some s => exact ⟨_, rfl⟩
    | none =>
      exact (hch.elim (· hf) (· hg)).elim

/-- whenever a flush returns, the invariant holds again (no counter hypothesis) -/
theorem getPacketsToSend_keeps_inv (c c' : Conn) (out : List Bytes) (h : c.Inv)
    (hr : c.getPacketsToSend = .ok (c', out)) : c'.Inv ∧ c.SameChans c' :=
  CI.getPacketsToSend_invP h hr

/-- with the wire counters below 2^62 the flush returns normally, keeps the invariant and the status (so it never
    self-disconnects with `PacketSerialization`), and every datagram fits the transport (C13) -/
theorem getPacketsToSend_total (c : Conn) (h : c.Inv) (hc : c.CountersOK) :
    ∃ c' out, c.getPacketsToSend = .ok (c', out) ∧ c'.Inv ∧ c'.status = c.status ∧
      (∀ b ∈ out, b.length ≤ NETCODE_MAX_PAYLOAD_BYTES) :=
  CI.getPacketsToSend_totalP h hc

/-- the counter hypothesis is necessary in the model: with `packet_sequence = 2^62` the ack packet's header cannot
    be encoded and `put_varint` unwinds -/
def overflowConn : Conn :=
  { Conn.fromChannels 1000 [] [] with packetSeq := Varint.MAX + 1, pendingAcks := [(0, 1)] }

theorem getPacketsToSend_needs_counters : overflowConn.Inv ∧ overflowConn.getPacketsToSend.isPanic = true := by
  refine ⟨?_, by decide +kernel⟩
  have h0 : (Conn.fromChannels 1000 [] []).Inv := (fresh_connection 1000 [] []).2
  exact ⟨⟨h0.send.chans, h0.send.sentSorted, fun x hx => (by cases hx), h0.send.order⟩,
    acksWFb_wf _ (by decide), by decide, by decide, h0.recvRel, h0.recvUnrel, h0.sendUnrel⟩

theorem setters_keep_inv (c : Conn) (h : c.Inv) (r : Reason) :
    c.setConnected.Inv ∧ c.setConnecting.Inv ∧ (c.disconnectWith r).Inv :=
  ⟨h.setConnected, h.setConnecting, h.disconnectWith r⟩

/-! ## "subsequent API calls keep working" -/

/-- One public operation (as data, `SL.ConnOp`): valid channel id, counters in range for a flush — nothing else.
    Returns normally, invariant kept. -/
theorem every_operation_total (c : Conn) (h : c.Inv) (op : SL.ConnOp) (hv : CI.ChanValid c op)
    (hc : CI.isFlush op = true → c.CountersOK) :
    ∃ c', op.apply c = .ok c' ∧ c'.Inv ∧ c.SameChans c' :=
  CI.apply_totalP goodP_winv h op hv hc

/-- Any sequence of public operations — hostile byte strings anywhere in it — from any state satisfying the
    invariant: runs to completion without unwinding, invariant holds at the end (hence after every prefix). -/
theorem operations_keep_working (c : Conn) (h : c.Inv) (ops : List SL.ConnOp)
    (hv : ∀ op ∈ ops, CI.ChanValid c op) (hf : CI.FlushOK c ops) :
    ∃ c', SL.Conn.runOps c ops = .ok c' ∧ c'.Inv ∧ c.SameChans c' :=
  CI.runOps_totalP goodP_winv ops c h hv hf

theorem fresh_connection_keeps_working (budget : Nat) (send recv : List ChanCfg) (ops : List SL.ConnOp)
    (hv : ∀ op ∈ ops, CI.CfgValid send recv op) (hf : CI.FlushOK (Conn.fromChannels budget send recv) ops) :
    ∃ c', SL.Conn.runOps (Conn.fromChannels budget send recv) ops = .ok c' ∧ c'.Inv ∧ c'.SInv :=
  by
    obtain ⟨c', e, i, -⟩ := CI.runOps_totalP goodP_inv ops _ (fresh_connection budget send recv).1
      (fun op ho => (hv op ho).chanValid) hf
    exact ⟨c', e, CI.sinv_inv i, i⟩

theorem operations_keep_working_noflush (c : Conn) (h : c.Inv) (ops : List SL.ConnOp)
    (hv : ∀ op ∈ ops, CI.ChanValid c op) (hn : ∀ op ∈ ops, CI.isFlush op = false) :
    ∃ c', SL.Conn.runOps c ops = .ok c' ∧ c'.Inv ∧ c.SameChans c' :=
  CI.runOps_totalP goodP_winv ops c h hv (CI.flushOK_of_noflush ops c hn)

theorem server_new (budget : Nat) (sc cc : List ChanCfg) : (Server.new budget sc cc).Inv :=
  CI.server_new_invP budget sc cc

/-- **C06, server.**  Whatever bytes are attributed to whatever client id, with every connection of the table
    satisfying the invariant: `process_packet_from` returns normally; all connections satisfy the invariant again;
    only slot `i` can differ, events and configuration are untouched (`Addressed`); no connection appears or
    disappears and every connection keeps a disconnect reason it already had (`QuietC`); the addressed connection
    processed the packet or is disconnected with a reason. -/
theorem server_processPacketFrom_total (s : Server) (h : s.Inv) (bytes : Bytes) (i : Nat) :
    ∃ s' ok, s.processPacketFrom bytes i = .ok (s', ok) ∧ s'.Inv ∧ SL.Server.Addressed i s s' ∧
      SL.QuietC s.conns s'.conns ∧
      ((SMap.find? s.conns i = none ∧ s' = s ∧ ok = false) ∨
       (∃ c c', SMap.find? s.conns i = some c ∧ c.processPacket bytes = .ok c' ∧ ok = true ∧
          SMap.find? s'.conns i = some c' ∧ (c'.status = c.status ∨ ∃ r, c'.status = .disconnected r))) := by
  obtain ⟨s', ok, e, i'⟩ := CI.server_processPacketFrom_totalP goodP_winv h bytes i
  obtain ⟨ad, q, hc⟩ := SL.Server.processPacketFrom_spec e
  exact ⟨s', ok, e, i', ad, q, hc.imp_right fun ⟨c, c', hf, hp, ho, hf'⟩ =>
    ⟨c, c', hf, hp, ho, hf', (SL.Conn.processPacket_statusStep hp).imp_right (·.2)⟩⟩

/-- the other connections are literally untouched -/
theorem server_processPacketFrom_others (s s' : Server) (bytes : Bytes) (i : Nat) (ok : Bool)
    (h : s.processPacketFrom bytes i = .ok (s', ok)) (j : Nat) (hj : j ≠ i) :
    SMap.find? s'.conns j = SMap.find? s.conns j :=
  (SL.Server.processPacketFrom_spec h).1.others j hj

theorem server_other_operations (s : Server) (h : s.Inv) :
    (∀ dt, ∃ s', s.update dt = .ok s' ∧ s'.Inv) ∧
    (∀ ch m, s.newConn.hasSend ch → ∃ s', s.broadcast ch m = .ok s' ∧ s'.Inv) ∧
    (∀ ex ch m, s.newConn.hasSend ch → ∃ s', s.broadcastExcept ex ch m = .ok s' ∧ s'.Inv ∧
        SMap.find? s'.conns ex = SMap.find? s.conns ex) ∧
    (∀ i ch m, s.newConn.hasSend ch → ∃ s', s.sendMessage i ch m = .ok s' ∧ s'.Inv ∧ SL.Server.Addressed i s s') ∧
    (∀ i ch, s.newConn.hasRecv ch → ∃ s' m, s.receiveMessage i ch = .ok (s', m) ∧ s'.Inv ∧
        SL.Server.Addressed i s s') ∧
    (∀ i, (∀ c, SMap.find? s.conns i = some c → c.CountersOK) →
        ∃ s' out, s.getPacketsToSend i = .ok (s', out) ∧ s'.Inv ∧ SL.Server.Addressed i s s') ∧
    (∀ id, (s.addConnection id).Inv ∧ (s.removeConnection id).Inv ∧ (s.disconnect id).Inv) ∧
    s.disconnectAll.Inv ∧ s.getEvent.1.Inv := by
  refine ⟨fun dt => ?_, fun ch m hch => ?_, fun ex ch m hch => ?_, fun i ch m hch => ?_, fun i ch hch => ?_,
    fun i hc => ?_, fun id => ⟨CI.server_addConnection_invP h id, CI.server_removeConnection_invP h id,
      CI.server_disconnect_invP h id⟩, CI.server_disconnectAll_invP h, CI.server_getEvent_invP h⟩
  · exact CI.server_update_totalP h dt
  · exact CI.server_broadcast_totalP h ch m hch
  · obtain ⟨s', e, i⟩ := CI.server_broadcastExcept_totalP h ex ch m hch
    exact ⟨s', e, i, (SL.Server.broadcastExcept_spec e).2.2.1⟩
  · obtain ⟨s', e, i'⟩ := CI.server_sendMessage_totalP h i ch m hch
    exact ⟨s', e, i', (SL.Server.sendMessage_spec e).1⟩
  · obtain ⟨s', m, e, i'⟩ := CI.server_receiveMessage_totalP h i ch hch
    exact ⟨s', m, e, i', (SL.Server.receiveMessage_spec e).1⟩
  · obtain ⟨s', out, e, i', -⟩ := CI.server_getPacketsToSend_totalP h i hc
    exact ⟨s', out, e, i', (SL.Server.getPacketsToSend_spec e).1⟩

/-- Any sequence of server operations (every `RenetServer` entry point except `process_local_client`), hostile bytes
    attributed to any client id anywhere in it, side conditions `CI.SrvValid` at each step: runs to completion,
    all connections satisfy the invariant at the end. -/
theorem server_keeps_working (ops : List SL.SrvOp) (st : SL.SrvState) (h : st.1.Inv) (hp : CI.SrvPre st ops) :
    ∃ st', SL.runSrv st ops = .ok st' ∧ st'.1.Inv :=
  CI.runSrv_totalP goodP_winv ops st h hp

/-- `process_local_client` (in-process client object `cl`): server and client both satisfying the invariant,
    counters in range for the two flushes it performs — returns normally, both invariants hold again -/
theorem server_processLocalClient_total (s : Server) (h : s.Inv) (id : Nat) (cl : Conn) (hcl : cl.Inv)
    (hc1 : ∀ c, SMap.find? s.conns id = some c → c.CountersOK)
    (hc2 : ∀ s1 ps cl1, s.getPacketsToSend id = .ok (s1, some ps) → Server.feedClient cl ps = .ok cl1 →
      cl1.CountersOK) :
    ∃ s' cl' ok, s.processLocalClient id cl = .ok (s', cl', ok) ∧ s'.Inv ∧ cl'.Inv := by
  obtain ⟨s1, out, e1, i1, -⟩ := CI.server_getPacketsToSend_totalP h id hc1
  cases out with
  | none => exact ⟨s1, cl, false, by simp only [Server.processLocalClient, e1, Res.bind_ok, Res.pure_eq], i1, hcl⟩
  | some ps =>
    -- the client is fed what the server flushed, flushes, and the server is fed the answer
    obtain ⟨cl1, e2, i2⟩ := CI.feedClient_totalP goodP_winv ps cl hcl
    obtain ⟨cl2, out2, e3, i3, -, -⟩ := CI.getPacketsToSend_totalP i2 (hc2 s1 ps cl1 e1 e2)
    obtain ⟨s2, ok, e4, i4⟩ := CI.feedServer_totalP goodP_winv id out2 s1 i1
    exact ⟨s2, cl2, ok, by simp only [Server.processLocalClient, e1, e2, e3, e4, Res.bind_ok, Res.pure_eq], i4, i3⟩

theorem server_newLocalClient (s : Server) (h : s.Inv) (id : Nat) :
    (s.newLocalClient id).1.Inv ∧ (s.newLocalClient id).2.Inv :=
  ⟨CI.server_addConnection_invP h id, (CI.fromChannels_invP _ _ _).setConnected⟩

/-! ## the memory clause -/

/-- every channel's counter equals what the channel actually holds and is at most the configured maximum; the
    equalities make every checked subtraction of the code succeed (this is what the no-panic theorems use) -/
theorem memory_within_budget (c : Conn) (h : c.Inv) :
    (∀ ch s, SMap.find? c.sendRel ch = some s → s.mem = SI.msum s.unacked ∧ s.mem ≤ s.maxMem) ∧
    (∀ ch s, SMap.find? c.sendUnrel ch = some s → s.mem = sumLen s.queue ∧ s.mem ≤ s.maxMem) ∧
    (∀ ch r, SMap.find? c.recvRel ch = some r →
      r.mem = SMap.sumBy List.length r.messages + SMap.sumBy SliceCtor.reserved r.slices ∧ r.mem ≤ r.maxMem) ∧
    (∀ ch r, SMap.find? c.recvUnrel ch = some r →
      r.mem = sumLen r.messages + SMap.sumBy SliceCtor.reserved r.slices ∧ r.mem ≤ r.maxMem) :=
  ⟨fun _ _ hf => ⟨(h.sendRel_find hf).1.mem, (h.sendRel_find hf).1.bound⟩,
   fun _ _ hf => h.sendUnrel_find hf,
   fun _ _ hf => ⟨(h.recvRel_find hf).acct, (h.recvRel_find hf).budget⟩,
   fun _ _ hf => ⟨(h.recvUnrel_find hf).acct, (h.recvUnrel_find hf).budget⟩⟩

/-- … for every connection of a server -/
theorem server_memory_within_budget (s : Server) (h : s.Inv) (i : Nat) (c : Conn)
    (hf : SMap.find? s.conns i = some c) : c.Inv := (h.find hf).1

/-! ## non-vacuity: concrete states and runs -/
namespace Ex

def cfg : List ChanCfg :=
  [⟨0, .ordered, 10000, 100⟩, ⟨1, .unordered, 10000, 100⟩, ⟨2, .unreliable, 10000, 0⟩]
def bytesOf (p : Packet) : Bytes := match p.toBytes SER_BUFFER with | .ok b => b | _ => []
def big : Bytes := List.replicate 1201 7
def full : Bytes := List.replicate 1200 5

/-- first slice (of two) of message 5 on the unordered reliable channel 1 -/
def relSlice : Bytes := bytesOf (.reliableSlice 11 1 ⟨5, 0, 2, full⟩)
/-- first slice (of three) of message 3 on the unreliable channel 2 -/
def unrelSlice : Bytes := bytesOf (.unreliableSlice 12 2 ⟨3, 0, 3, full⟩)
def smallPkt : Bytes := bytesOf (.smallReliable 13 0 [(0, [7, 7]), (4, [8])])
/-- a hostile slice: index beyond the announced count (defect D3 before the fix) -/
def hostileSlice : Bytes := bytesOf (.reliableSlice 14 1 ⟨6, 5, 1, full⟩)
/-- a later slice of message 5 announcing a different count (defect D2 before the fix) -/
def lyingSlice : Bytes := bytesOf (.reliableSlice 15 1 ⟨5, 1, 1000, [1, 2, 3]⟩)
def garbage : Bytes := [9, 9, 9]

def c0 : Conn := Conn.fromChannels 60000 cfg cfg

/-- a run: two reliable messages (one sliced) and an unreliable one queued, partial reassembly on two channels,
    small messages received, one flush, time passes -/
def ops : List SL.ConnOp :=
  [.setConnected, .sendMessage 0 [1, 2, 3], .sendMessage 0 big, .sendMessage 2 [9, 9],
   .processPacket relSlice, .processPacket unrelSlice, .processPacket smallPkt,
   .getPacketsToSend, .sendMessage 2 [4, 4, 4], .update 5]

def exConn : Conn := match SL.Conn.runOps c0 ops with | .ok c => c | _ => c0

/-- the run and everything the examples below read off its final state, in one kernel evaluation: the counters
    are in range at the flush and at the end; the state is non-trivial (see the first example); which channels
    exist -/
theorem all :
    (CI.FlushOK c0 ops ∧ CI.countersOKb exConn = true) ∧
    (exConn.status = .connected ∧
      (SMap.find? exConn.recvRel 1).map (fun r => (r.mem, r.slices.length)) = some (2400, 1) ∧
      (SMap.find? exConn.recvUnrel 2).map (fun r => (r.mem, r.slices.length, r.lastReceived)) = some (3600, 1, [(3, 0)]) ∧
      (SMap.find? exConn.recvRel 0).map (fun r => (r.mem, r.messages.length)) = some (3, 2) ∧
      (SMap.find? exConn.sendRel 0).map (fun s => (s.mem, s.unacked.length)) = some (1204, 2) ∧
      (SMap.find? exConn.sendUnrel 2).map (fun s => (s.mem, s.queue)) = some (3, [[4, 4, 4]]) ∧
      exConn.sent.length = 5 ∧ exConn.pendingAcks = [(11, 14)] ∧ exConn.now = 5) ∧
    (exConn.hasRecv 0 ∧ exConn.hasRecv 2 ∧ exConn.hasSend 0 ∧ exConn.hasSend 2 ∧ ¬ exConn.hasSend 7 ∧
      ¬ exConn.hasRecv 7 ∧ exConn.isDisconnected = false) := by
  decide +kernel

theorem ops_valid : ∀ op ∈ ops, CI.ChanValid c0 op := by decide +kernel
theorem ops_flushOK : CI.FlushOK c0 ops := all.1.1

theorem exConn_inv : exConn.Inv := by
  obtain ⟨c', e, i, -⟩ := operations_keep_working c0 (fresh_connection _ _ _).2 ops ops_valid ops_flushOK
  have : exConn = c' := by unfold exConn; rw [e]
  rw [this]; exact i

theorem exConn_counters : exConn.CountersOK := CI.countersOK_of_b all.1.2

/-- the state is non-trivial: connected; a partially reassembled 2-slice message on reliable channel 1 (2400 bytes
    reserved), a partially reassembled 3-slice message on unreliable channel 2 (3600 bytes), two small messages
    waiting on channel 0, 1204 unacknowledged bytes on send channel 0, three bytes queued on unreliable channel 2,
    five packets recorded as sent, three received sequence numbers pending acknowledgement -/
example :
    exConn.status = .connected ∧
    (SMap.find? exConn.recvRel 1).map (fun r => (r.mem, r.slices.length)) = some (2400, 1) ∧
    (SMap.find? exConn.recvUnrel 2).map (fun r => (r.mem, r.slices.length, r.lastReceived)) = some (3600, 1, [(3, 0)]) ∧
    (SMap.find? exConn.recvRel 0).map (fun r => (r.mem, r.messages.length)) = some (3, 2) ∧
    (SMap.find? exConn.sendRel 0).map (fun s => (s.mem, s.unacked.length)) = some (1204, 2) ∧
    (SMap.find? exConn.sendUnrel 2).map (fun s => (s.mem, s.queue)) = some (3, [[4, 4, 4]]) ∧
    exConn.sent.length = 5 ∧ exConn.pendingAcks = [(11, 14)] ∧ exConn.now = 5 := all.2.1

/-- hypotheses of `processPacket_total`, `update_total`, `receiveMessage_total`, `sendMessage_total`,
    `getPacketsToSend_total`, `memory_within_budget` on this state -/
example : exConn.Inv ∧ exConn.CountersOK ∧ exConn.hasRecv 0 ∧ exConn.hasRecv 2 ∧ exConn.hasSend 0 ∧
    exConn.hasSend 2 ∧ ¬ exConn.hasSend 7 := by
  obtain ⟨r0, r2, s0, s2, s7, -⟩ := all.2.2
  exact ⟨exConn_inv, exConn_counters, r0, r2, s0, s2, s7⟩

/-- what the hostile inputs do to `exConn`, and that the API keeps working afterwards -/
theorem hostile :
    ((match exConn.processPacket garbage with | .ok c => some c.status | _ => none) =
        some (.disconnected (.packetDeser .invalidPacketType)) ∧
      (match exConn.processPacket hostileSlice with | .ok c => some c.status | _ => none) =
        some (.disconnected (.recvChan 1 .invalidSlice)) ∧
      (match exConn.processPacket lyingSlice with | .ok c => some c.status | _ => none) =
        some (.disconnected (.recvChan 1 .invalidSlice))) ∧
    (match exConn.processPacket hostileSlice with
     | .ok c => (c.receiveMessage 0, c.sendMessage 99 [1], (c.getPacketsToSend).isPanic)
     | _ => (.panic "", .panic "", true)) =
    (match exConn.processPacket hostileSlice with
     | .ok c => (.ok (c, none), .ok c, false)
     | _ => (.panic "", .panic "", true)) := by
  decide +kernel

/-- what the hostile inputs do to this state: garbage and the out-of-range slice index disconnect with a reason,
    the slice lying about the count is rejected with `InvalidSliceMessage` — none of them unwinds (the theorem) and
    the outcomes are the documented ones (computed) -/
example :
    (match exConn.processPacket garbage with | .ok c => some c.status | _ => none) =
      some (.disconnected (.packetDeser .invalidPacketType)) ∧
    (match exConn.processPacket hostileSlice with | .ok c => some c.status | _ => none) =
      some (.disconnected (.recvChan 1 .invalidSlice)) ∧
    (match exConn.processPacket lyingSlice with | .ok c => some c.status | _ => none) =
      some (.disconnected (.recvChan 1 .invalidSlice)) := hostile.1

/-- and the API keeps working afterwards on the now-disconnected endpoint, invalid channel id included -/
example :
    (match exConn.processPacket hostileSlice with
     | .ok c => (c.receiveMessage 0, c.sendMessage 99 [1], (c.getPacketsToSend).isPanic)
     | _ => (.panic "", .panic "", true)) =
    (match exConn.processPacket hostileSlice with
     | .ok c => (.ok (c, none), .ok c, false)
     | _ => (.panic "", .panic "", true)) := hostile.2

/-- the contract violation really panics on a live connection (so the `iff` theorems are not vacuous) -/
example : (∃ s, exConn.sendMessage 7 [1] = .panic s) ∧ (∃ s, exConn.receiveMessage 7 = .panic s) := by
  obtain ⟨-, -, -, -, s7, r7, live⟩ := all.2.2
  exact ⟨(sendMessage_panics_only_on_invalid_channel exConn exConn_inv 7 [1]).mpr ⟨live, s7⟩,
    (receiveMessage_panics_only_on_invalid_channel exConn exConn_inv 7).mpr ⟨live, r7⟩⟩

def st0 : SL.SrvState := (Server.new 60000 cfg cfg, [])

def srvOps : List SL.SrvOp :=
  [.add 7, .add 9, .send 7 0 [1, 2, 3], .processPacketFrom relSlice 7, .processPacketFrom unrelSlice 9,
   .processPacketFrom hostileSlice 9, .processPacketFrom garbage 3, .broadcast 2 [5, 5], .update 3,
   .getPacketsToSend 7, .receive 7 0, .getEvent]

def srvObs : Res Empty SL.SrvState → Bool
  | .ok st =>
    st.1.conns.map (·.1) == [7, 9] &&
    (SMap.find? st.1.conns 7).map (·.status) == some .connected &&
    (SMap.find? st.1.conns 9).map (·.status) == some (.disconnected (.recvChan 1 .invalidSlice)) &&
    (SMap.find? st.1.conns 7).bind (fun c => (SMap.find? c.recvRel 1).map (·.mem)) == some 2400 &&
    (SMap.find? st.1.conns 9).bind (fun c => (SMap.find? c.recvUnrel 2).map (·.mem)) == some 3600 &&
    st.2 == [.connected 7]
  | _ => false

/-- a server state satisfying the hypothesis of `server_processPacketFrom_total` / `server_other_operations` -/
def exSrv : Server := match SL.runSrv st0 (srvOps.take 6) with | .ok st => st.1 | _ => st0.1

/-- the server run: the side conditions of `server_keeps_working` for the whole run and for
    its first six operations (which end in `exSrv`), the observations on the final state, the channels of `exSrv` -/
theorem srv_all :
    (CI.SrvPre st0 srvOps ∧ srvObs (SL.runSrv st0 srvOps) = true) ∧
    CI.SrvPre st0 (srvOps.take 6) ∧
    exSrv.newConn.hasSend 2 ∧ exSrv.newConn.hasRecv 1 ∧ exSrv.conns.length = 2 := by
  decide +kernel

theorem srvOps_pre : CI.SrvPre st0 srvOps := srv_all.1.1

theorem srvObs_run : srvObs (SL.runSrv st0 srvOps) = true := srv_all.1.2

/-- the hypotheses of `server_keeps_working` hold for this run; it ends (by the theorem) in a state satisfying the
    server invariant, and that state is non-trivial: client 7 connected with a partially reassembled message,
    client 9 disconnected by a hostile slice after it had started reassembling another one, client 3 unknown -/
example : ∃ st', SL.runSrv st0 srvOps = .ok st' ∧ st'.1.Inv ∧ srvObs (.ok st') = true := by
  obtain ⟨st', e, i⟩ := server_keeps_working srvOps st0 (server_new _ _ _) srvOps_pre
  exact ⟨st', e, i, by rw [← e]; exact srvObs_run⟩

theorem exSrv_inv : exSrv.Inv := by
  obtain ⟨st', e, i⟩ := server_keeps_working (srvOps.take 6) st0 (server_new _ _ _)
    srv_all.2.1
  have : exSrv = st'.1 := by unfold exSrv; rw [e]
  rw [this]; exact i

example : exSrv.Inv ∧ exSrv.newConn.hasSend 2 ∧ exSrv.newConn.hasRecv 1 ∧ exSrv.conns.length = 2 :=
  ⟨exSrv_inv, srv_all.2.2⟩

def locSrv : Server :=
  match ((Server.new 60000 cfg cfg).newLocalClient 7).1.sendMessage 7 0 [1, 2, 3] with
  | .ok s => s | _ => Server.new 0 [] []
def locCl : Conn :=
  match ((Server.new 60000 cfg cfg).newLocalClient 7).2.sendMessage 0 [4, 5] with
  | .ok c => c | _ => c0
def locPs : List Bytes := match locSrv.getPacketsToSend 7 with | .ok (_, some ps) => ps | _ => []
def locCl1 : Conn := match Server.feedClient locCl locPs with | .ok c => c | _ => locCl

/-- the hypotheses of `server_processLocalClient_total` are satisfiable: server holding local client 7 with a queued
    message, client object with a queued message of its own -/
example : locSrv.Inv ∧ locCl.Inv ∧ (∀ c, SMap.find? locSrv.conns 7 = some c → c.CountersOK) ∧
    (∀ s1 ps cl1, locSrv.getPacketsToSend 7 = .ok (s1, some ps) → Server.feedClient locCl ps = .ok cl1 →
      cl1.CountersOK) ∧ locPs.length = 1 ∧ locCl1.pendingAcks = [(0, 1)] := by
  have hs0 := (server_newLocalClient (Server.new 60000 cfg cfg) (server_new _ _ _) 7)
  have hev : CI.srvValidb locSrv (.getPacketsToSend 7) = true ∧ CI.countersOKb locCl1 = true ∧
      locPs.length = 1 ∧ locCl1.pendingAcks = [(0, 1)] := by decide +kernel
  refine ⟨?_, ?_, ?_, ?_, hev.2.2⟩
  · obtain ⟨s', e, i⟩ := CI.server_sendMessage_totalP hs0.1 7 0 [1, 2, 3] (by decide +kernel)
    have : locSrv = s' := by unfold locSrv; rw [e]
    rw [this]; exact i
  · obtain ⟨c', e, i, -⟩ := CI.sendMessage_totalP hs0.2 0 [4, 5] (by decide +kernel)
    have : locCl = c' := by unfold locCl; rw [e]
    rw [this]; exact i
  · intro c hc
    exact CI.srvValid_of_b hev.1 c hc
  · intro s1 ps cl1 e1 e2
    have h1 : locPs = ps := by unfold locPs; rw [e1]
    have h2 : locCl1 = cl1 := by unfold locCl1; rw [h1, e2]
    rw [← h2]
    exact CI.countersOK_of_b hev.2.1

end Ex
end RenetVerif.C06
