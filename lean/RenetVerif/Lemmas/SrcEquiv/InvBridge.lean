/-
  Bridge from the model invariants of `Lemmas/ConnInv.lean` (`Conn.InvP`, established by `from_channels`, kept by every
  operation on every input) to the hypotheses of the source ties of the receive side (`ProcOk`, `DispatchOk`, `CtorOk`,
  `RelMsgsOk`, `UnrelMsgsOk`, `MSorted`): they hold in every state that satisfies the invariant, whose channel tables are
  key-sorted (`ChanSorted`: established by `from_channels`, kept by every operation — proved here) and whose receive
  budgets are at most `2^63` (`RecvBudgetOk`: the budgets never change).  Here: the message loops and the ack loop; the
  dispatch and `ProcOk` itself — which holds for EVERY byte sequence — are `Props/SrcTieInv.lean`.
-/
import RenetVerif.Lemmas.ConnInv
import RenetVerif.Lemmas.SrcEquiv.ConnRecv
import RenetVerif.Lemmas.SrcEquiv.SendTimeInv
namespace RenetVerif.SrcEquiv
open RenetVerif RenetVerif.RustSem RenetVerif.C

/-- the four channel tables are key-sorted (they are `BTreeMap`s / `HashMap`s keyed by channel id in the Rust code; the
    generated lookups and updates agree with the model's on sorted association lists) -/
structure ChanSorted (c : Conn) : Prop where
  sendRel : MSorted c.sendRel
  sendUnrel : MSorted c.sendUnrel
  recvRel : MSorted c.recvRel
  recvUnrel : MSorted c.recvUnrel

theorem chanSorted_kept : Kept .all ChanSorted where
  frame h h1 h2 h3 h4 _ _ _ _ :=
    ⟨by rw [h1]; exact h.sendRel, by rw [h2]; exact h.sendUnrel, by rw [h3]; exact h.recvRel, by rw [h4]; exact h.recvUnrel⟩
  sendRel h _ _ := ⟨SMap.sorted_insert h.sendRel _ _, h.sendUnrel, h.recvRel, h.recvUnrel⟩
  sendUnrel h _ _ := ⟨h.sendRel, SMap.sorted_insert h.sendUnrel _ _, h.recvRel, h.recvUnrel⟩
  recvRel h _ _ := ⟨h.sendRel, h.sendUnrel, SMap.sorted_insert h.recvRel _ _, h.recvUnrel⟩
  recvUnrel h _ _ := ⟨h.sendRel, h.sendUnrel, h.recvRel, SMap.sorted_insert h.recvUnrel _ _⟩
  eraseSent _ h := ⟨h.sendRel, h.sendUnrel, h.recvRel, h.recvUnrel⟩
  insertSent _ _ h := ⟨h.sendRel, h.sendUnrel, h.recvRel, h.recvUnrel⟩

theorem ChanSorted.disconnectWith {c : Conn} (h : ChanSorted c) (r : Reason) : ChanSorted (c.disconnectWith r) :=
  chanSorted_kept.disconnectWith h r
theorem ChanSorted.setConnected {c : Conn} (h : ChanSorted c) : ChanSorted c.setConnected := chanSorted_kept.setConnected h
theorem ChanSorted.setConnecting {c : Conn} (h : ChanSorted c) : ChanSorted c.setConnecting :=
  chanSorted_kept.setConnecting h

theorem discardAll_keys (now : Nat) : ∀ (m m' : SMap RecvUnrel), Conn.discardAll now m = .ok m' →
    m'.map (·.1) = m.map (·.1) := by
  intro m
  induction m with
  | nil => intro m' h; cases h; rfl
  | cons p rest ih =>
    intro m' h
    obtain ⟨k, r⟩ := p
    unfold Conn.discardAll at h
    rw [Res.bind_ok_iff] at h
    obtain ⟨r', _, h⟩ := h
    rw [Res.bind_ok_iff] at h
    obtain ⟨rest', h2, h⟩ := h
    cases h
    simp only [List.map_cons, ih rest' h2]

/-- the receive budgets are at most `2^63` (configuration; no operation changes a budget) -/
structure RecvBudgetOk (c : Conn) : Prop where
  rel : ∀ x ∈ c.recvRel, x.2.maxMem ≤ 2 ^ 63
  unrel : ∀ x ∈ c.recvUnrel, x.2.maxMem ≤ 2 ^ 63

theorem varint_max_lt : Varint.MAX < 2 ^ 62 := by decide

theorem relMsgsOk_of_inv {P : SliceCtor → Prop} : ∀ (msgs : List (Nat × Bytes)) (r : RecvRel), r.InvP P → r.maxMem ≤ 2 ^ 63 →
    SmallRelWF msgs → RelMsgsOk r msgs := by
  intro msgs
  induction msgs with
  | nil => intro r _ _ _; trivial
  | cons x rest ih =>
    intro r hi hm hw
    obtain ⟨id, m⟩ := x
    have hx := hw (id, m) (by simp)
    have hml : m.length ≤ Varint.MAX := hx.2
    have hb := hi.budget
    have hv := varint_max_lt
    refine ⟨by omega, fun r' hr' => ?_⟩
    have hw' : SmallRelWF rest := fun y hy => hw y (by simp [hy])
    rcases RecvRel.processMessage_safeP r hi m id with ⟨r2, h2, hi2⟩ | ⟨e, r2, h2, _⟩
    · rw [hr'] at h2; cases h2
      exact ih _ hi2 ((DataPath.processMessage_ok hr').2.2.2.1 ▸ hm) hw'
    · rw [hr'] at h2; cases h2

theorem unrelMsgsOk_of_inv {P : SliceCtor → Prop} : ∀ (msgs : List Bytes) (r : RecvUnrel), r.InvP P → r.maxMem ≤ 2 ^ 63 →
    SmallUnrelWF msgs → UnrelMsgsOk r msgs := by
  intro msgs
  induction msgs with
  | nil => intro r _ _ _; trivial
  | cons m rest ih =>
    intro r hi hm hw
    have hml : m.length ≤ Varint.MAX := hw m (by simp)
    have hb := hi.budget
    have hv := varint_max_lt
    refine ⟨by omega, ?_⟩
    have hw' : SmallUnrelWF rest := fun y hy => hw y (by simp [hy])
    have hm' : (r.processMessage m).maxMem = r.maxMem := by
      unfold RecvUnrel.processMessage; split <;> rfl
    exact ih _ (RecvUnrel.processMessage_safeP r hi m) (by rw [hm']; exact hm) hw'

theorem ackedLargest_snd (largest : Nat) : ∀ (l : List AckRange) (r : AckRange), r ∈ Acks.ackedLargest largest l →
    ∃ r' ∈ l, r.2 = r'.2 := by
  intro l
  induction l with
  | nil => intro r h; simp [Acks.ackedLargest] at h
  | cons x rest ih =>
    intro r h
    obtain ⟨s0, e0⟩ := x
    simp only [Acks.ackedLargest] at h
    split at h
    · exact ⟨r, h, rfl⟩
    · split at h
      · obtain ⟨r', hr', he⟩ := ih r h
        exact ⟨r', List.mem_cons_of_mem _ hr', he⟩
      · split at h
        · exact ⟨r, List.mem_cons_of_mem _ h, rfl⟩
        · rcases List.mem_cons.mp h with h | h
          · exact ⟨(s0, e0), by simp, by rw [h]⟩
          · exact ⟨r, List.mem_cons_of_mem _ h, rfl⟩

structure AckInv (c : Conn) : Prop where
  send : c.SendInv
  sorted : MSorted c.sendRel
  time : ∀ k v, SMap.find? c.sent k = some v → v.1 ≤ c.now
  acksLen : c.pendingAcks.length ≤ C.ACK_RANGE_CAP
  acksB : ∀ r ∈ c.pendingAcks, r.2 ≤ Varint.MAX + 1
  budget : ∀ ch s, SMap.find? c.sendRel ch = some s → s.maxMem ≤ 2 ^ 63

theorem ackOneOk_of_inv {c : Conn} (h : AckInv c) (seq : Nat) : AckOneOk c seq := by
  intro t info hf
  refine ⟨h.time seq (t, info) hf, ?_⟩
  cases info with
  | relMsgs ch ids => exact h.sorted
  | relSlice ch id idx =>
    intro s hs
    obtain ⟨hinv, _⟩ := h.send.chans ch s hs
    refine ⟨(msorted_iff _).mpr (SI.sorted_iff.mp hinv.sorted), ?_⟩
    intro m n a nx acked ls hu
    have hok := hinv.find_ok hu
    obtain ⟨h1, h2, _, _, _, h6⟩ := hok
    have hlen : m.length ≤ SI.msum s.unacked := SI.msum_ge hu
    have hb := hinv.bound
    have hm := hinv.mem
    have hmx := h.budget ch s hs
    have hS : SLICE_SIZE = 1200 := rfl
    rw [hS] at h1 h2
    unfold divCeil at h2
    omega
  | ack largest =>
    have hv := varint_max_lt
    have hc : C.ACK_RANGE_CAP = 64 := rfl
    refine ⟨fun r hr => ?_, ?_⟩
    · have := h.acksB r hr; omega
    · have := h.acksLen; omega
  | none => trivial

theorem ackOne_shape {c c' : Conn} {seq : Nat} (hr : c.ackOne seq = .ok c') : MSorted c.sendRel → MSorted c'.sendRel := by
  obtain ⟨t, info, -, hr⟩ := Conn.ackOne_cases hr
  cases info with
  | none => obtain rfl := hr; exact fun h => h
  | ack l => obtain rfl := hr; exact fun h => h
  | relMsgs ch ids => obtain ⟨s, s', -, -, rfl⟩ := hr; exact fun h => SMap.sorted_insert h _ _
  | relSlice ch id idx => obtain ⟨s, s', -, -, rfl⟩ := hr; exact fun h => SMap.sorted_insert h _ _

theorem ackOne_ackInv {c c' : Conn} {seq : Nat} (h : AckInv c) (hr : c.ackOne seq = .ok c') : AckInv c' := by
  cases hf : SMap.find? c.sent seq with
  | none =>
    unfold Conn.ackOne at hr
    rw [hf] at hr
    cases hr
  | some v =>
    obtain ⟨c1, e1, i1, hs1, eff⟩ := SI.Conn.ackOne_spec h.send ⟨v, hf⟩
    rw [hr] at e1
    cases e1
    obtain ⟨_, _, _, hnow, _, _, _, _⟩ := eff.frame
    have hacks := (Conn.ackOne_acks hr).2
    refine ⟨i1, ackOne_shape hr h.sorted, ?_, Nat.le_trans (CI.ackOne_acksLen hr) h.acksLen, ?_, ?_⟩
    · intro k w hk
      rw [hs1] at hk
      rw [hnow]
      exact h.time k w (SMap.find?_erase_some h.send.sentSorted.nodup hk).2
    · intro r hr'
      rcases hacks with he | ⟨_, largest, -, he⟩
      · rw [he] at hr'; exact h.acksB r hr'
      · rw [he] at hr'
        obtain ⟨r0, hr0, e0⟩ := ackedLargest_snd largest _ r hr'
        rw [e0]; exact h.acksB r0 hr0
    · intro ch s' hs'
      cases hc : SMap.find? c.sendRel ch with
      | none => rw [eff.nochan ch hc] at hs'; cases hs'
      | some s0 =>
        obtain ⟨s1, hs1', ce⟩ := eff.chan ch s0 hc
        rw [hs1'] at hs'; cases hs'
        rw [ce.step.2.1]
        exact h.budget ch s0 hc

def SendBudgetOk (c : Conn) : Prop := ∀ ch s, SMap.find? c.sendRel ch = some s → s.maxMem ≤ 2 ^ 63

end RenetVerif.SrcEquiv
