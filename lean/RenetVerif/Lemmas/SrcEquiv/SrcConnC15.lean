/-
  Helpers for `Props/SrcPropsConnTraceC15.lean` (C15 on API traces of the generated `RenetClient`).

  What the decoder reads from the ENCODING of a packet `p` is a `System.Cut` of `p` — `p` with the channel id cut to a
  byte and of the message list a prefix (`System.dec_enc_cut`, no well-formedness of `p` needed); hence it carries only
  what `p` carries when the channel id is a byte (`dec_enc_carries`).
-/
import RenetVerif.Lemmas.SrcEquiv.SrcConnSystem
import RenetVerif.Lemmas.AckFinal
import RenetVerif.Props.C06
import RenetVerif.Props.C15A
namespace RenetVerif.SrcConnC15
open RenetVerif RenetVerif.RustSem RenetVerif.C RenetVerif.System RenetVerif.SrcEquiv RenetVerif.SrcSystem RenetVerif.SrcConnSystem
open RenetVerif.AckFinal RenetVerif.Varint RenetVerif.SI

theorem dec_enc_carries {p p' : Packet} (h : Cut p p') (hlt : ∀ ch', RelOn ch' p → ch' < 256) :
    (∀ ch id, CarriesMsg ch id p' → CarriesMsg ch id p) ∧ (∀ ch id i, CarriesSlice ch id i p' → CarriesSlice ch id i p) := by
  cases h with
  | smallReliable _ c =>
    rw [chByte (hlt c rfl)]
    exact ⟨fun _ _ ⟨h1, x, hx, h2⟩ => ⟨h1, x, List.mem_of_mem_take hx, h2⟩, fun _ _ _ h => h.elim⟩
  | reliableSlice _ c =>
    rw [chByte (hlt c rfl)]
    exact ⟨fun _ _ h => h, fun _ _ _ h => h⟩
  | _ => exact ⟨fun _ _ h => h.elim, fun _ _ _ h => h.elim⟩

theorem flush_chan_lt {c c' : Conn} {bs : List Bytes} (hg : Good c)
    (hk : ∀ ch s, SMap.find? c.sendRel ch = some s → ch < 256) (hr : c.getPacketsToSend = .ok (c', bs)) :
    ∀ p ∈ System.flushPk c, ∀ ch', RelOn ch' p → ch' < 256 := by
  obtain ⟨-, h2⟩ := System.flush_pres (fun ch s => s.Inv ∧ s.ch = ch ∧ ch < 256)
    (fun p => ∀ ch', RelOn ch' p → ch' < 256) c'.packetSeq
    (fun ch s seq avail ⟨hi, hc, hlt⟩ =>
      ⟨(SI.SendRel.getPackets_spec hi seq avail c.now).1, (SI.SendRel.getPackets_spec hi seq avail c.now).2.1.1.trans hc, hlt⟩)
    (fun ch s seq avail ⟨hi, hc, hlt⟩ _ p hmem ch' hrel => by
      have e : s.ch = ch' := pktOK_relOn ((SI.SendRel.getPackets_spec hi seq avail c.now).2.2.2.2.2 p hmem) hrel
      omega)
    (fun su seq avail p hmem ch' hrel =>
      absurd hrel (not_relOn_of_not_rel (System.unrel_not_rel su seq avail p hmem)))
    (fun seq ch' h => h.elim)
    hr (Nat.le_refl _)
    (fun ch s hf => ⟨(hg.1.chans ch s hf).1, (hg.1.chans ch s hf).2, hk ch s hf⟩)
  exact h2

theorem keys_lt_same {c c' : Conn} (same : c.SameChans c') (hk : ∀ ch s, SMap.find? c.sendRel ch = some s → ch < 256) :
    ∀ ch s, SMap.find? c'.sendRel ch = some s → ch < 256 := by
  intro ch' s hf
  have := same.sendRel ch'
  rw [hf] at this
  cases hc : SMap.find? c.sendRel ch' with
  | none => rw [hc] at this; cases this
  | some s0 => exact hk ch' s0 hc

def RHolds (P : SendRel → Prop) (ch : Nat) (c : Conn) : Prop :=
  Good c ∧ c.Inv ∧ Holds P c ch ∧ ∀ ch' s, SMap.find? c.sendRel ch' = some s → ch' < 256

theorem rholds_step {P : SendRel → Prop} (hP : Stable 0 P) (ch : Nat) {t t' : MTr} {op : COp}
    (h : RHolds P ch t.c) (hs : t.step op = some t') : RHolds P ch t'.c :=
  have e := mtr_step_conn hs
  ⟨good_apply h.1 e, (CI.apply_invP goodP_winv h.2.1 e).1, holds_apply hP h.1 (Nat.zero_le _) h.2.2.1 e,
    keys_lt_same (CI.apply_invP goodP_winv h.2.1 e).2 h.2.2.2⟩

theorem rholds_flush {P : SendRel → Prop} {Q : Packet → Prop} (hP : Stable 0 P) {ch : Nat} (hQ : Quiet P ch Q)
    {c c' : Conn} {out : List Bytes} (h : RHolds P ch c) (hf : c.getPacketsToSend = .ok (c', out)) :
    ∀ b ∈ out, ∃ p, p.enc = .ok b ∧ Q p ∧ ∀ ch', RelOn ch' p → ch' < 256 := by
  obtain ⟨hg, -, hh, hk⟩ := h
  intro b hb
  obtain ⟨p, hp, he⟩ := System.enc_mem (System.flush_facts hf).1 hb
  exact ⟨p, he, (holds_flush hP (fun s seq avail => hQ.own s seq avail c.now) hQ.other hg (Nat.zero_le _) hh hf).2 p hp,
    flush_chan_lt hg hk hf p hp⟩

def NoMsg (ch id : Nat) (b : Bytes) : Prop := ∀ p', Packet.fromBytes b = .ok p' → ¬ CarriesMsg ch id p'
def NoSlice (ch id i : Nat) (b : Bytes) : Prop := ∀ p', Packet.fromBytes b = .ok p' → ¬ CarriesSlice ch id i p'

theorem good_of {c : Conn} (h : EpGood c) : Good c := ⟨h.sinv.send, h.sinv.acksWF⟩

/-- **C15, last clause, on traces (model level).**  In a good live state `t.c` whose sent table records packet `q`, an Ack
    packet covering `q` is processed; then ANY operations `ext` follow.  Every datagram of every flush in `ext`, read by the
    decoder, carries none of the small messages packet `q` carried, resp. not the slice it carried. -/
theorem mtr_never_after_ack {t t' : MTr} {ack : Bytes} {aseq : Nat} {ranges : List AckRange} (ext : List COp)
    (hg : Good t.c) (hi : t.c.Inv) (hd : t.c.isDisconnected = false)
    (hp : Packet.fromBytes ack = .ok (.ack aseq ranges))
    {q tq : Nat} {info : SentInfo} (hq : SMap.find? t.c.sent q = some (tq, info)) (hm : Acks.Mem q ranges)
    (hk : ∀ ch s, SMap.find? t.c.sendRel ch = some s → ch < 256)
    (hv : ∀ op ∈ ext, CI.ChanValid t.c op.toConnOp) (hrg : CRunInRangeFrom t (.process ack :: ext))
    (hr : t.run (.process ack :: ext) = some t') :
    ∃ news, t'.flushes = t.flushes ++ news ∧ ∀ bs ∈ news, ∀ b ∈ bs,
      (∀ ch ids, info = .relMsgs ch ids → ∀ id ∈ ids, NoMsg ch id b) ∧
      (∀ ch id i, info = .relSlice ch id i → NoSlice ch id i b) := by
  obtain ⟨t1, hs, hr⟩ := MTr.run_cons hr
  have e1 : t.c.processPacket ack = .ok t1.c := mtr_step_conn hs
  have hfl : t1.flushes = t.flushes := by
    cases MTr.Step.of hs with
    | process _ => rfl
  obtain ⟨i', same⟩ := mtr_step_same hi hs
  have hg1 : Good t1.c := good_apply (op := .processPacket ack) hg e1
  have hk1 := keys_lt_same same hk
  obtain ⟨news, hn, hall⟩ := MTr.flushes_all ext t1 t' hr
  refine ⟨news, by rw [hn, hfl], fun bs hbs b hb => ⟨?_, ?_⟩⟩
  · rintro ch ids rfl id hid p' hd' hc
    have hrel := ack_releases_msgs hg.1 hd hp e1 hq hm id hid
    obtain ⟨p, he, hqp, hlt⟩ := hall (fun t _ => RHolds (fun s => MsgDone s id) ch t.c) _
      (fun _ _ _ _ => rholds_step (msgDone_stable id) ch)
      (fun _ _ _ _ _ => rholds_flush (msgDone_stable id) (quiet_msg ch id)) ⟨hg1, i', hrel, hk1⟩ bs hbs b hb
    exact hqp ((dec_enc_carries (dec_enc_cut he hd') hlt).1 ch id hc)
  · rintro ch id i rfl p' hd' hc
    have hrel := ack_releases_slice hg.1 hd hp e1 hq hm
    obtain ⟨p, he, hqp, hlt⟩ := hall (fun t _ => RHolds (fun s => SliceDone s id i) ch t.c) _
      (fun _ _ _ _ => rholds_step (sliceDone_stable id i) ch)
      (fun _ _ _ _ _ => rholds_flush (sliceDone_stable id i) (quiet_slice ch id i)) ⟨hg1, i', hrel, hk1⟩ bs hbs b hb
    exact hqp ((dec_enc_carries (dec_enc_cut he hd') hlt).2 ch id i hc)

theorem gdecodes_inv {b : Bytes} {gp : Src.renet.packet.Packet} (h : GDecodes (toNats b) gp) :
    ∃ p, Packet.fromBytes b = .ok p ∧ gp = reprPacket p := by
  obtain ⟨cur, h⟩ := h
  have := SrcTie.packet_from_bytes_fresh b
  rw [h] at this
  cases hf : Packet.fromBytes b with
  | ok p =>
    rw [hf] at this
    simp only [Res.forget, mapRes, Res.ok.injEq] at this
    exact ⟨p, rfl, this⟩
  | error e => rw [hf] at this; simp [Res.forget, mapRes] at this

def GCarriesMsg (ch id : Nat) : Src.renet.packet.Packet → Prop
  | .SmallReliable _ c msgs => c = ch ∧ ∃ x ∈ msgs, x.1 = id
  | .ReliableSlice _ c sl => c = ch ∧ sl.message_id = id
  | _ => False

def GCarriesSlice (ch id i : Nat) : Src.renet.packet.Packet → Prop
  | .ReliableSlice _ c sl => c = ch ∧ sl.message_id = id ∧ sl.slice_index = i
  | _ => False

instance (ch id : Nat) (p : Src.renet.packet.Packet) : Decidable (GCarriesMsg ch id p) := by
  cases p <;> simp only [GCarriesMsg] <;> infer_instance
instance (ch id i : Nat) (p : Src.renet.packet.Packet) : Decidable (GCarriesSlice ch id i p) := by
  cases p <;> simp only [GCarriesSlice] <;> infer_instance

theorem gcarriesMsg_repr (ch id : Nat) (p : Packet) : GCarriesMsg ch id (reprPacket p) ↔ CarriesMsg ch id p := by
  cases p with
  | smallReliable s c m =>
    simp only [reprPacket, GCarriesMsg, CarriesMsg, List.mem_map]
    constructor
    · rintro ⟨h1, x, ⟨y, hy, rfl⟩, h2⟩; exact ⟨h1, y, hy, h2⟩
    · rintro ⟨h1, y, hy, h2⟩; exact ⟨h1, _, ⟨y, hy, rfl⟩, h2⟩
  | reliableSlice s c sl => simp only [reprPacket, GCarriesMsg, CarriesMsg, reprSlice]
  | smallUnreliable s c m => simp only [reprPacket, GCarriesMsg, CarriesMsg]
  | unreliableSlice s c sl => simp only [reprPacket, GCarriesMsg, CarriesMsg]
  | ack s r => simp only [reprPacket, GCarriesMsg, CarriesMsg]

theorem gcarriesSlice_repr (ch id i : Nat) (p : Packet) : GCarriesSlice ch id i (reprPacket p) ↔ CarriesSlice ch id i p := by
  cases p <;> simp only [reprPacket, GCarriesSlice, CarriesSlice, reprSlice]

theorem mem_of_reprRange {q : Nat} {l : List AckRange} (h : ∃ r ∈ l.map reprRange, r.start ≤ q ∧ q < r.«end») :
    Acks.Mem q l := by
  obtain ⟨r, hr, h1, h2⟩ := h
  obtain ⟨r0, hr0, rfl⟩ := List.mem_map.mp hr
  exact Acks.mem_iff_exists.mpr ⟨r0, hr0, h1, h2⟩

theorem flush_recorded_dec {c c' : Conn} {bs : List Bytes} (hg : Good c)
    (hk : ∀ ch s, SMap.find? c.sendRel ch = some s → ch < 256) (h : c.getPacketsToSend = .ok (c', bs))
    (hd' : c'.isDisconnected = false) :
    ∀ b ∈ bs, ∀ p', Packet.fromBytes b = .ok p' →
      (∀ sq ch msgs, p' = .smallReliable sq ch msgs →
        ∃ ids, SMap.find? c'.sent sq = some (c.now, .relMsgs ch ids) ∧ ∀ x ∈ msgs, x.1 ∈ ids) ∧
      (∀ sq ch sl, p' = .reliableSlice sq ch sl →
        SMap.find? c'.sent sq = some (c.now, .relSlice ch sl.messageId sl.sliceIndex)) := by
  intro b hb p' hdec
  obtain ⟨p, hp, he⟩ := System.enc_mem (System.flush_facts h).1 hb
  have hlt := flush_chan_lt hg hk h p hp
  obtain ⟨r1, r2⟩ := C15A.carried_is_recorded hg.1 h hd'
  cases dec_enc_cut he hdec with
  | smallReliable sq0 c0 m0 =>
    rw [chByte (hlt c0 rfl)]
    refine ⟨?_, fun _ _ _ e => (nomatch e)⟩
    rintro sq ch msgs e
    cases e
    exact ⟨m0.map (·.1), r1 _ _ _ hp, fun x hx => List.mem_map_of_mem (List.mem_of_mem_take hx)⟩
  | reliableSlice sq0 c0 sl0 =>
    rw [chByte (hlt c0 rfl)]
    refine ⟨fun _ _ _ e => (nomatch e), ?_⟩
    rintro sq ch sl e
    cases e
    exact r2 _ _ _ hp
  | _ => exact ⟨fun _ _ _ e => (nomatch e), fun _ _ _ e => (nomatch e)⟩

/-! ## NOT EARLY: the `last_sent` stamps along a trace

  `w : Option Nat` names a slot: `none` the stamp of a small message, `some i` slot `i` of a sliced message. -/

/-- the slot of entry `u` is acknowledged, or stamped at `T` or later -/
def UStampGE (T : Nat) : Option Nat → Unacked → Prop
  | none, .small _ ls => ∃ t, ls = some t ∧ T ≤ t
  | some i, .sliced _ _ _ _ ak ls => ak.getD i false = true ∨ ∃ t, ls.getD i none = some t ∧ T ≤ t
  | _, _ => False

/-- message `id` was allocated and is gone, or its slot `w` is acknowledged or stamped at `T` or later -/
def StampGE (T id : Nat) (w : Option Nat) (s : SendRel) : Prop := EntryOK (UStampGE T w) id s

/-- packet `p` transmits slot `w` of message `id` of reliable channel `ch`: a small-message packet with `id` among its
    messages (`w = none`), the slice packet for slice `i` (`w = some i`) -/
def Emits (ch id : Nat) : Option Nat → Packet → Prop
  | none, .smallReliable _ c msgs => c = ch ∧ ∃ x ∈ msgs, x.1 = id
  | some i, .reliableSlice _ c sl => c = ch ∧ sl.messageId = id ∧ sl.sliceIndex = i
  | _, _ => False

theorem Emits.relOn {ch id : Nat} {w : Option Nat} : ∀ {p : Packet}, Emits ch id w p → RelOn ch p := by
  intro p h
  cases w <;> cases p <;> first | exact h.1 | exact h.elim

theorem emits_faithful {p p' : Packet} (h : Cut p p') (hlt : ∀ ch', RelOn ch' p → ch' < 256) {ch id : Nat} {w : Option Nat}
    (he : Emits ch id w p') : Emits ch id w p := by
  cases h with
  | smallReliable _ c =>
    rw [chByte (hlt c rfl)] at he
    cases w with
    | none => exact ⟨he.1, he.2.imp fun _ hx => ⟨List.mem_of_mem_take hx.1, hx.2⟩⟩
    | some i => exact he.elim
  | reliableSlice _ c =>
    rw [chByte (hlt c rfl)] at he
    exact he
  | _ => cases w <;> exact he.elim

/-- the stamp bound is kept by every call into the channel, by a flush from time `T` on: a flush leaves a stamp or
    writes `now ≥ T`, an ack bit only adds to what is acknowledged -/
theorem stampGE_entry (T id : Nat) (w : Option Nat) : Stable T (StampGE T id w) := by
  refine .ofEntry (E := UStampGE T w) (fun _ => Iff.rfl) ?_ ?_
  · intro now resend u u' hT h3 hst
    cases u with
    | small m ls =>
      cases u' with
      | sliced => exact h3.elim
      | small m' ls' =>
        cases w with
        | some i => exact hst.elim
        | none =>
          obtain ⟨t, rfl, ht⟩ := hst
          rcases h3.2 with e | ⟨e, -⟩
          · exact ⟨t, e, ht⟩
          · exact ⟨now, e, hT⟩
    | sliced m n na nx ak ls =>
      cases u' with
      | small => exact h3.elim
      | sliced m' n' na' nx' ak' ls' =>
        cases w with
        | none => exact hst.elim
        | some i =>
          obtain ⟨-, -, -, rfl, -, hj⟩ := h3
          rcases hst with hb | ⟨t, e, ht⟩
          · exact Or.inl hb
          · rcases hj i with e' | ⟨e', -, -⟩
            · exact Or.inr ⟨t, by rw [e', e], ht⟩
            · exact Or.inr ⟨now, e', hT⟩
  · intro m n k nx ak ls idx hst
    cases w with
    | none => exact hst.elim
    | some i => exact hst.imp (getD_set_true idx) (fun h => h)

theorem stampGE_emitted {ch id : Nat} {w : Option Nat} {s : SendRel} (h : s.Inv) (seq avail now : Nat) {p : Packet}
    (hp : p ∈ (s.getPackets seq avail now).2.1) (he : Emits ch id w p) :
    s.ch = ch ∧ StampGE now id w (s.getPackets seq avail now).1 ∧ ∀ T, StampGE T id w s → s.resend ≤ now - T := by
  have e := tuple4_eta (s.getPackets seq avail now)
  have hk := SendRel.getPackets_keeps e
  have hn := h.sorted.nodup
  cases w with
  | none =>
    cases p with
    | smallReliable sq c msgs =>
      obtain ⟨rfl, x, hx, rfl⟩ := he
      obtain ⟨hc, hall⟩ := SendRel.small_emitted e hn hp
      obtain ⟨ls, h1, hdue, h3⟩ := hall x hx
      refine ⟨hc.symm, ⟨by rw [hk.2.2.1]; exact h.find_lt h1, Or.inr ⟨_, h3, now, rfl, Nat.le_refl _⟩⟩, fun T hst => ?_⟩
      rcases hst.2 with hnone | ⟨u, hu, hb⟩
      · rw [hnone] at h1; cases h1
      · rw [hu] at h1; cases h1
        obtain ⟨t, rfl, ht⟩ := hb
        rcases hdue with e | ⟨t', e, hr⟩
        · cases e
        · cases e; omega
    | _ => exact he.elim
  | some i =>
    cases p with
    | reliableSlice sq c sl =>
      obtain ⟨rfl, rfl, rfl⟩ := he
      obtain ⟨hc, m, na, nx, ak, ls, nx', ls', h1, hlt, -, hak, hdue, h6, h7⟩ :=
        SendRel.slice_emitted e hn hp
      have hlen : ls.length = sl.numSlices := (h.find_ok h1).2.2.2.1
      refine ⟨hc.symm, ⟨by rw [hk.2.2.1]; exact h.find_lt h1,
        Or.inr ⟨_, h6, Or.inr ⟨now, h7 (by omega), Nat.le_refl _⟩⟩⟩, fun T hst => ?_⟩
      rcases hst.2 with hnone | ⟨u, hu, hb⟩
      · rw [hnone] at h1; cases h1
      · rw [hu] at h1; cases h1
        rcases hb with hb | ⟨t, e, ht⟩
        · rw [hb] at hak; cases hak
        · rcases hdue with e' | ⟨t', e', hr⟩
          · rw [e] at e'; cases e'
          · rw [e] at e'; cases e'; omega
    | _ => exact he.elim

theorem stampGE_stable (T id : Nat) (w : Option Nat) (r : Nat) : Stable T (fun s => StampGE T id w s ∧ s.resend = r) where
  send h hp e := ⟨(stampGE_entry T id w).send h hp.1 e, by obtain ⟨-, rfl⟩ := SendRel.sendMessage_ok e; exact hp.2⟩
  flush seq avail now hT hi hp :=
    ⟨(stampGE_entry T id w).flush seq avail now hT hi hp.1, (SendRel.getPackets_keeps (tuple4_eta _)).2.2.2.2.1.trans hp.2⟩
  msgAck h hp e := ⟨(stampGE_entry T id w).msgAck h hp.1 e, (SI.SendRel.processMessageAck_mem e).2.2.1.trans hp.2⟩
  sliceAck h hp e := ⟨(stampGE_entry T id w).sliceAck h hp.1 e, (SI.SendRel.processSliceAck_mem e).2.2.1.trans hp.2⟩

theorem stamp_flush {T id ch : Nat} {w : Option Nat} {c c' : Conn} {bs : List Bytes} (hg : Good c) (hT : T ≤ c.now)
    (hh : Holds (StampGE T id w) c ch) (hr : c.getPacketsToSend = .ok (c', bs)) :
    Holds (StampGE T id w) c' ch ∧
    ∀ s, SMap.find? c.sendRel ch = some s → ∀ p ∈ System.flushPk c, Emits ch id w p → s.resend ≤ c.now - T := by
  obtain ⟨s0, hs0, hp0⟩ := hh
  obtain ⟨⟨s', hs', hp'⟩, h2⟩ := holds_flush (stampGE_stable T id w s0.resend)
    (Q := fun p => Emits ch id w p → s0.resend ≤ c.now - T)
    (fun s seq avail hi hp p hmem he => hp.2 ▸ (stampGE_emitted hi seq avail c.now hmem he).2.2 T hp.1)
    (fun p hn he => absurd he.relOn hn) hg hT ⟨s0, hs0, hp0, rfl⟩ hr
  exact ⟨⟨s', hs', hp'.1⟩, fun s hs p hp he => by rw [hs0] at hs; cases hs; exact h2 p hp he⟩

/-- the channel loop: once a packet in `E` has been appended, channel `ch` satisfies `S` -/
theorem chanLoop_emit (now ch : Nat) (E : Packet → Prop) (S : SendRel → Prop)
    (hE : ∀ ch' (s : SendRel) seq avail, s.Inv → s.ch = ch' → ∀ p ∈ (s.getPackets seq avail now).2.1, E p →
      ch' = ch ∧ S (s.getPackets seq avail now).1)
    (hS : ∀ (s : SendRel) seq avail, s.Inv → S s → S (s.getPackets seq avail now).1)
    (hU : ∀ (s : SendUnrel) seq avail, ∀ p ∈ (s.getPackets seq avail).2.1, ¬ E p)
    {ord : List (Bool × Nat)} {st st' : RenetVerif.ChanSt} (h : Conn.chanLoop now ord st = .ok st') (hc : ChansOK st.1)
    (hq : (∃ p ∈ st.2.2.1, E p) → ∃ s, SMap.find? st.1 ch = some s ∧ S s) :
    (∃ p ∈ st'.2.2.1, E p) → ∃ s, SMap.find? st'.1 ch = some s ∧ S s := by
  refine ((chanLoop_rel (fun a b => ChansOK a.1 → ChansOK b.1 ∧
      (((∃ p ∈ a.2.2.1, E p) → ∃ s, SMap.find? a.1 ch = some s ∧ S s) →
        (∃ p ∈ b.2.2.1, E p) → ∃ s, SMap.find? b.1 ch = some s ∧ S s))
    (fun _ hc => ⟨hc, fun hq => hq⟩)
    (fun _ _ _ h1 h2 hc => ⟨(h2 (h1 hc).1).1, fun hq => (h2 (h1 hc).1).2 ((h1 hc).2 hq)⟩) now ?_ ?_ ord st st' h) hc).2 hq
  · intro sr su pk seq avail ch1 s hf hc
    obtain ⟨hi, hch⟩ := hc ch1 s hf
    obtain ⟨a, b, -⟩ := SI.SendRel.getPackets_spec hi seq avail now
    refine ⟨hc.update a (b.1.trans hch), ?_⟩
    rintro hq ⟨p, hp, he⟩
    show ∃ s', SMap.find? (SMap.insert sr ch1 _) ch = some s' ∧ S s'
    rw [SMap.find?_insert]
    rcases List.mem_append.mp hp with hp | hp
    · obtain ⟨s2, hs2, hS2⟩ := hq ⟨p, hp, he⟩
      by_cases cc : ch1 = ch
      · subst cc
        rw [if_pos rfl]
        rw [show SMap.find? sr ch1 = some s from hf] at hs2; cases hs2
        exact ⟨_, rfl, hS s seq avail hi hS2⟩
      · rw [if_neg cc]; exact ⟨s2, hs2, hS2⟩
    · obtain ⟨cc, hS2⟩ := hE ch1 s seq avail hi hch p hp he
      subst cc
      rw [if_pos rfl]
      exact ⟨_, rfl, hS2⟩
  · intro sr su pk seq avail ch1 s hf hc
    refine ⟨hc, ?_⟩
    rintro hq ⟨p, hp, he⟩
    rcases List.mem_append.mp hp with hp | hp
    · exact hq ⟨p, hp, he⟩
    · exact absurd he (hU s seq avail p hp)

theorem stamp_emit_flush {id ch : Nat} {w : Option Nat} {c c' : Conn} {bs : List Bytes} (hg : Good c)
    (hr : c.getPacketsToSend = .ok (c', bs)) {p : Packet} (hp : p ∈ System.flushPk c) (he : Emits ch id w p) :
    Holds (StampGE c.now id w) c' ch := by
  rcases Conn.flush_cases hr with ⟨hd, -, -⟩ | ⟨pk0, seq0, avail, o⟩
  · rw [System.flushPk_dead hd] at hp; cases hp
  · have key := chanLoop_emit c.now ch (Emits ch id w) (StampGE c.now id w)
      (fun ch' s seq avail hi hc p hmem he => by
        obtain ⟨h1, h2, -⟩ := stampGE_emitted hi seq avail c.now hmem he
        exact ⟨hc.symm.trans h1, h2⟩)
      (fun s seq avail hi hS => (stampGE_entry c.now id w).flush seq avail c.now (Nat.le_refl _) hi hS)
      (fun su seq avail p hmem he =>
        absurd he.relOn (not_relOn_of_not_rel (System.unrel_not_rel su seq avail p hmem)))
      o.loop hg.1.chans (fun ⟨_, h, _⟩ => by cases h)
    exact o.forall_flushPk (Q := fun p => Emits ch id w p → Holds (StampGE c.now id w) c' ch)
      (fun p hp he => key ⟨p, hp, he⟩) (fun _ he => by cases w <;> exact he.elim) p hp he

def _root_.RenetVerif.SrcConnSystem.COp.dt : COp → Nat
  | .update d => d
  | _ => 0

theorem now_step {t t' : MTr} {op : COp} (hs : t.step op = some t') : t'.c.now = t.c.now + op.dt := by
  cases MTr.Step.of hs with
  | send hm => exact (SL.Conn.sendMessage_frame hm).2.2.2.2.2.2.1
  | recv hm => exact (SL.Conn.receiveMessage_frame hm).2.2.2.2.1
  | update hm => exact (Conn.update_frame hm).now
  | flush hm => exact Live.flush_frame hm
  | process hm => exact (SL.Conn.processPacket_fixed hm).1.1
  | setConnected => obtain ⟨st, e⟩ := t.c.setConnected_eq; dsimp only; rw [e]; rfl
  | setConnecting => obtain ⟨st, e⟩ := t.c.setConnecting_eq; dsimp only; rw [e]; rfl
  | disconnect => obtain ⟨st, e⟩ := t.c.disconnectWith_eq .byClient; dsimp only; rw [e]; rfl
  | disconnectTransport => obtain ⟨st, e⟩ := t.c.disconnectWith_eq .transport; dsimp only; rw [e]; rfl

theorem now_run : ∀ (ops : List COp) (t t' : MTr), t.run ops = some t' →
    t'.c.now = t.c.now + (ops.map COp.dt).sum
  | [], t, t', hr => by cases hr; simp
  | op :: ops, t, t', hr => by
    obtain ⟨t1, hs, hr⟩ := MTr.run_cons hr
    rw [now_run ops t1 t' hr, now_step hs]
    simp only [List.map_cons, List.sum_cons]; omega

def RStamp (T id : Nat) (w : Option Nat) (ch : Nat) (c : Conn) : Prop :=
  Good c ∧ T ≤ c.now ∧ Holds (StampGE T id w) c ch

theorem rstamp_step {T id ch : Nat} {w : Option Nat} {t t' : MTr} {op : COp} (h : RStamp T id w ch t.c)
    (hs : t.step op = some t') : RStamp T id w ch t'.c := by
  obtain ⟨hg, hT, s0, hs0, hp0⟩ := h
  obtain ⟨s', hs', hp'⟩ := holds_apply (stampGE_stable T id w s0.resend) hg hT ⟨s0, hs0, hp0, rfl⟩ (mtr_step_conn hs)
  exact ⟨good_apply hg (mtr_step_conn hs), by rw [now_step hs]; omega, s', hs', hp'.1⟩

theorem flush_step_inv {t t' : MTr} (hs : t.step .flush = some t') :
    ∃ bs, t.c.getPacketsToSend = .ok (t'.c, bs) ∧ t'.flushes = t.flushes ++ [bs] := by
  cases MTr.Step.of hs with
  | flush hm => exact ⟨_, hm, rfl⟩

/-- **C15, NOT EARLY, on traces (model level).**  Two flushes of a trace — ANY operations `mid` between them — both hand
    out a datagram from which the decoder reads a transmission of the same slot (small message `id`, or slice `i` of message
    `id`, of reliable channel `ch`).  Then the channel's `resend_time` is at most the clock difference between the two
    flushes. -/
theorem mtr_not_early {t t1 t2 t3 : MTr} {mid : List COp} (hg : Good t.c) (h1 : t.step .flush = some t1)
    (h2 : t1.run mid = some t2) (h3 : t2.step .flush = some t3)
    (hk1 : ∀ ch s, SMap.find? t.c.sendRel ch = some s → ch < 256)
    (hk2 : ∀ ch s, SMap.find? t2.c.sendRel ch = some s → ch < 256) (ch id : Nat) (w : Option Nat) :
    ∃ bs1 bs2, t1.flushes = t.flushes ++ [bs1] ∧ t3.flushes = t2.flushes ++ [bs2] ∧
      ∀ b1 ∈ bs1, ∀ b2 ∈ bs2, ∀ p1 p2, Packet.fromBytes b1 = .ok p1 → Packet.fromBytes b2 = .ok p2 →
        Emits ch id w p1 → Emits ch id w p2 →
        ∀ s, SMap.find? t2.c.sendRel ch = some s → s.resend ≤ t2.c.now - t.c.now := by
  obtain ⟨bs1, e1, l1⟩ := flush_step_inv h1
  obtain ⟨bs2, e3, l3⟩ := flush_step_inv h3
  refine ⟨bs1, bs2, l1, l3, ?_⟩
  intro b1 hb1 b2 hb2 p1 p2 d1 d2 em1 em2 s hs
  obtain ⟨q1, hq1, he1⟩ := System.enc_mem (System.flush_facts e1).1 hb1
  have emq1 := emits_faithful (dec_enc_cut he1 d1) (flush_chan_lt hg hk1 e1 q1 hq1) em1
  have hst := stamp_emit_flush hg e1 hq1 emq1
  have hg1 : Good t1.c := good_apply hg (mtr_step_conn h1)
  have hn1 : t1.c.now = t.c.now := Live.flush_frame e1
  have hR := MTr.run_induction (I := fun t' _ => RStamp t.c.now id w ch t'.c) (fun _ _ _ _ h hs => rstamp_step h hs) mid t1 t2
    ⟨hg1, by omega, hst⟩ h2
  obtain ⟨hg2, hT2, hh2⟩ := hR
  obtain ⟨q2, hq2, he2⟩ := System.enc_mem (System.flush_facts e3).1 hb2
  have emq2 := emits_faithful (dec_enc_cut he2 d2) (flush_chan_lt hg2 hk2 e3 q2 hq2) em2
  exact (stamp_flush hg2 hT2 hh2 e3).2 s hs q2 hq2 emq2

/-- `Emits` on the generated type -/
def GEmits (ch id : Nat) : Option Nat → Src.renet.packet.Packet → Prop
  | none, .SmallReliable _ c msgs => c = ch ∧ ∃ x ∈ msgs, x.1 = id
  | some i, .ReliableSlice _ c sl => c = ch ∧ sl.message_id = id ∧ sl.slice_index = i
  | _, _ => False

instance (ch id : Nat) (w : Option Nat) (p : Src.renet.packet.Packet) : Decidable (GEmits ch id w p) := by
  cases w <;> cases p <;> simp only [GEmits] <;> infer_instance

theorem gemits_repr (ch id : Nat) (w : Option Nat) (p : Packet) : GEmits ch id w (reprPacket p) ↔ Emits ch id w p := by
  cases w with
  | none =>
    cases p with
    | smallReliable s c m => exact gcarriesMsg_repr ch id (.smallReliable s c m)
    | reliableSlice s c sl => simp only [reprPacket, GEmits, Emits]
    | smallUnreliable s c m => simp only [reprPacket, GEmits, Emits]
    | unreliableSlice s c sl => simp only [reprPacket, GEmits, Emits]
    | ack s r => simp only [reprPacket, GEmits, Emits]
  | some i => cases p <;> simp only [reprPacket, GEmits, Emits, reprSlice]

/-! ## C14 through the decoder: the payload the decoder reads from an encoding -/

theorem sum_take_le {α : Type} (f : α → Nat) (l : List α) (k : Nat) : ((l.take k).map f).sum ≤ (l.map f).sum := by
  conv => rhs; rw [← List.take_append_drop k l]
  rw [List.map_append, List.sum_append]
  omega

theorem dec_enc_payload {p p' : Packet} (h : Cut p p') : payloadBytes p' ≤ payloadBytes p := by
  cases h with
  | smallReliable => exact sum_take_le _ _ _
  | smallUnreliable => exact sum_take_le _ _ _
  | reliableSlice => exact Nat.le_refl _
  | unreliableSlice => exact Nat.le_refl _
  | ack => exact Nat.zero_le _

def decPay (b : Bytes) : Nat :=
  match Packet.fromBytes b with
  | .ok p => payloadBytes p
  | .error _ => 0

theorem decPay_sum_le : ∀ (pk : List Packet) (bs : List Bytes), pk.map encO = bs.map some →
    (bs.map decPay).sum ≤ payloadSum pk
  | [], [], _ => by simp
  | [], _ :: _, h => by simp at h
  | _ :: _, [], h => by simp at h
  | p :: pk, b :: bs, h => by
    simp only [List.map_cons, List.cons.injEq] at h
    obtain ⟨h1, h2⟩ := h
    have ih := decPay_sum_le pk bs h2
    have : decPay b ≤ payloadBytes p := by
      unfold decPay
      cases hd : Packet.fromBytes b with
      | ok p' => exact dec_enc_payload (dec_enc_cut (encO_some h1) hd)
      | error e => exact Nat.zero_le _
    simp only [List.map_cons, List.sum_cons, payloadSum_cons]
    omega

def gPayloadBytes : Src.renet.packet.Packet → Nat
  | .SmallReliable _ _ msgs => (msgs.map (fun x => x.2.length)).sum
  | .SmallUnreliable _ _ msgs => (msgs.map List.length).sum
  | .ReliableSlice _ _ sl => sl.payload.length
  | .UnreliableSlice _ _ sl => sl.payload.length
  | .Ack _ _ => 0

def gDecPay (b : GBytes) : Nat :=
  match Src.renet.packet.Packet.from_bytes (RustSem.Octets.with_slice b) with
  | .ok (_, p) => gPayloadBytes p
  | _ => 0

theorem gPayloadBytes_repr (p : Packet) : gPayloadBytes (reprPacket p) = payloadBytes p := by
  cases p with
  | smallReliable s c m =>
    simp only [reprPacket, gPayloadBytes, payloadBytes, List.map_map]
    congr 1
    apply List.map_congr_left
    intro x _; simp [toNats_length]
  | smallUnreliable s c m =>
    simp only [reprPacket, gPayloadBytes, payloadBytes, List.map_map]
    congr 1
    apply List.map_congr_left
    intro x _; simp [toNats_length]
  | reliableSlice s c sl => simp only [reprPacket, gPayloadBytes, payloadBytes, reprSlice, toNats_length]
  | unreliableSlice s c sl => simp only [reprPacket, gPayloadBytes, payloadBytes, reprSlice, toNats_length]
  | ack s r => rfl

theorem gDecPay_toNats (b : Bytes) : gDecPay (toNats b) = decPay b := by
  have := SrcTie.packet_from_bytes_fresh b
  unfold gDecPay decPay
  cases hf : Packet.fromBytes b with
  | ok p =>
    obtain ⟨cur, hc⟩ := gdecodes_of_fromBytes hf
    rw [hc]
    exact gPayloadBytes_repr p
  | error e =>
    rw [hf] at this
    cases hx : Src.renet.packet.Packet.from_bytes (RustSem.Octets.with_slice (toNats b)) with
    | ok v => rw [hx] at this; simp [Res.forget, mapRes] at this
    | err e => rfl
    | panic m => rfl

theorem gDecPay_of_decodes {b : GBytes} {gp : Src.renet.packet.Packet} (h : GDecodes b gp) : gDecPay b = gPayloadBytes gp := by
  obtain ⟨cur, h⟩ := h
  simp only [gDecPay, h]

end RenetVerif.SrcConnC15
