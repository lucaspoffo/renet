/-
  The invariant `CliInv` of the netcode client that instantiates the abstract hypothesis `NcCInv` of the client transport
  ties (`TrClient.lean`): it implies the per-call hypotheses of the `NetcodeClient` ties and every operation the transport
  calls keeps it.  The instances themselves (`NcCInv a CliInv`, and `NcInv a NS.ServerInv` for the connection-table invariant
  of `Lemmas/NcTable.lean` / `NcTablePP.lean`) are `Props/SrcTieTrInv.lean`.
-/
import RenetVerif.Lemmas.SrcEquiv.TrServer
import RenetVerif.Lemmas.SrcEquiv.TrClient
import RenetVerif.Lemmas.NcAead
namespace RenetVerif.SrcEquiv
open RenetVerif RenetVerif.RustSem RenetVerif.Netcode RenetVerif.Transport

/-- the netcode client: the token's time-out is an `i32`; the address index is at most 32, and below 32 while the client
    is not disconnected (a time-out moves to the next address and disconnects at the 32nd) -/
structure CliInv (c : Netcode.NetcodeClient) : Prop where
  tmo : c.connectToken.timeoutSeconds < 2 ^ 31
  idx : c.serverAddrIndex ≤ C.NETCODE_TOKEN_MAX_ADDRESSES
  live : c.isDisconnected = false → c.serverAddrIndex < C.NETCODE_TOKEN_MAX_ADDRESSES

structure CliFrame (c c' : Netcode.NetcodeClient) : Prop where
  tok : c'.connectToken = c.connectToken
  idx : c'.serverAddrIndex = c.serverAddrIndex
  dead : c.isDisconnected = true → c'.isDisconnected = true

theorem CliInv.frame {c c' : Netcode.NetcodeClient} (h : CliInv c) (f : CliFrame c c') : CliInv c' := by
  refine ⟨by rw [f.tok]; exact h.tmo, by rw [f.idx]; exact h.idx, fun hl => ?_⟩
  rw [f.idx]
  apply h.live
  cases hd : c.isDisconnected with
  | false => rfl
  | true => rw [f.dead hd] at hl; cases hl

theorem cli_pp_frame {a : AEAD} {c c' : Netcode.NetcodeClient} {buf : Bytes} {p : Option Bytes}
    (h : c.processPacket a buf = .ok (p, c')) : CliFrame c c' := by
  obtain ⟨st, _, _, _, _, _, _, rfl, -, -, hd⟩ := NcAead.Cl.recv_frame h
  refine ⟨rfl, rfl, fun hc => ?_⟩
  have e := hd (NcAead.Cl.isDisc_iff.2 hc)
  subst e
  exact hc

theorem CliInv.of_dead {c c' : Netcode.NetcodeClient} (h : CliInv c) (ht : c'.connectToken = c.connectToken)
    (hx : c'.serverAddrIndex ≤ C.NETCODE_TOKEN_MAX_ADDRESSES) (hd : c'.isDisconnected = true) : CliInv c' :=
  ⟨by rw [ht]; exact h.tmo, hx, fun hl => by rw [hd] at hl; cases hl⟩

theorem cli_uis_inv {c c' : Netcode.NetcodeClient} {dt : Nat} {e : Option NetcodeError} (hi : CliInv c)
    (h : c.updateInternalState dt = .ok (e, c')) : CliInv c' := by
  obtain ⟨ht, -, -, hd, hx | ⟨hx, hl, hn⟩, -⟩ := NcAead.Cl.uis_post c dt _ h
  · exact hi.frame ⟨ht, hx, fun hc => NcAead.Cl.isDisc_iff.1 (hd (NcAead.Cl.isDisc_iff.2 hc)).2⟩
  · have hlt := hi.live (by simpa [NcAead.Cl.isDisc_iff] using hl)
    refine ⟨by rw [ht]; exact hi.tmo, by rw [hx]; omega, fun hl' => ?_⟩
    rw [hx]
    exact hn.resolve_left fun hd' => by rw [NcAead.Cl.isDisc_iff.1 hd'] at hl'; cases hl'

theorem cli_gen_frame {a : AEAD} {c c' : Netcode.NetcodeClient} {o : Option (Bytes × Addr)}
    (h : c.generatePacket a = .ok (o, c')) : CliFrame c c' := by
  obtain ⟨-, -, ⟨sq, tm, rfl⟩, -, -⟩ := NcAead.Cl.gen_spec h
  exact ⟨rfl, rfl, fun hd => hd⟩

theorem cli_update_inv {a : AEAD} {c c' : Netcode.NetcodeClient} {dt : Nat} {r : Option (Bytes × Addr)} (hi : CliInv c)
    (h : c.update a dt = .ok (r, c')) : CliInv c' := by
  obtain ⟨e, c1, h1, ⟨-, -, rfl⟩ | ⟨-, hg⟩⟩ := NcAead.Cl.update_eq h
  · exact cli_uis_inv hi h1
  · exact (cli_uis_inv hi h1).frame (cli_gen_frame hg)

theorem cli_gpp_frame {a : AEAD} {c c' : Netcode.NetcodeClient} {p : Bytes} {r : Addr × Bytes}
    (h : c.generatePayloadPacket a p = .ok (r, c')) : CliFrame c c' := by
  obtain ⟨-, -, rfl, -⟩ := NcAead.Cl.payload_spec h
  exact ⟨rfl, rfl, fun hd => hd⟩

end RenetVerif.SrcEquiv
