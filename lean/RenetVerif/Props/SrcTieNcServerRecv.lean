/-
  Source tie, group NcServerRecv: `renetcode/src/server.rs` `find_client_mut_by_addr`,
  `NetcodeServer::{new, handle_connection_request, process_packet_internal, process_packet}` ↔
  `findClientByAddr`, `NetcodeServer.{new, handleConnectionRequest, processPacketInternal, processPacket}` of
  `Netcode/Server.lean`.  The AEAD is a parameter on both sides (see `SrcTieNcCodec.lean`); with the groups NcServerTypes,
  NcServerQuery, TokenTable, NcServerSend the whole of `NetcodeServer` is under the tie.

  * `NetcodeServer::new` calls `generate_random_bytes()` (crypto.rs, external): the generated definition takes the fresh
    bytes as the explicit parameter `rand1` (manifest `RANDOM_SOURCES`; the model takes `challengeKey`).
    `ServerConfig` is passed by value; `ServerAuthentication` ↔ the model's `secure` flag + private key (`reprAuth`).
  * `find_client_mut_by_addr` is a finder returning `Option<(usize, &mut Connection)>`: the generated definition returns
    the position; `if let Some((slot, client)) = ..` binds `slot` to it and makes `client` an alias of `clients[slot]`.
  * `process_packet_internal(&mut self, addr, buffer: &'a mut [u8])` decrypts in place: the buffer is returned with the
    result (also inside an `Err`); `ServerResult::Payload`'s `&'a [u8]` (a slice of `buffer`) and the `&'s mut [u8]`
    payloads (slices of `self.out`) are by value (manifest `BORROWED_FIELDS_OK`).  The theorems leave the buffer's and
    the scratch buffer's contents existentially quantified (`∃ out' buf'`, `out'.length = NETCODE_MAX_PACKET_BYTES`);
    the `_len` variants add `buf'.length = buffer.length` (decrypting in place keeps the buffer's length — used by the
    transport's receive loop).
  * `Packet::decode(buffer, .., Some(&client.receive_key), Some(&mut client.replay_protection))?` with `client` an alias
    of an indexed / map element: the callee's `Err` state is written back into that element (the translator reads the
    intermediate places into temporaries before the call: the reads the argument evaluation performs anyway).
  * Hypotheses: `a.Laws` (lengths only); `out.length = NETCODE_MAX_PACKET_BYTES`; the connect-token entry table is not
    empty (`new` makes 2048 entries; needed by `find_or_add_connect_token_entry`, group TokenTable);
    `buffer.length + 16 < 2^64`.  `handle_connection_request` alone also needs its `data: [u8; 1024]` to have that length
    (inside `process_packet_internal` this follows from `Packet::read`: `NcAead.Packet.decode_wf`).
-/
import RenetVerif.Lemmas.SrcEquiv.NcServerRecv
import RenetVerif.Props.SrcTieNcServerSend
namespace RenetVerif.SrcTie
open RenetVerif RenetVerif.SrcEquiv RenetVerif.RustSem RenetVerif.Netcode
open Src.renetcode.server

theorem nc_find_client_mut_by_addr {ε : Type} (clients : List (Option Netcode.Connection)) (addr : Addr) :
    (find_client_mut_by_addr (clients.map (Option.map reprNConn)) (reprAddr addr) : Res ε _)
      = .ok ((findClientByAddr clients addr).map (·.1)) := by
  unfold find_client_mut_by_addr findClientByAddr RustSem.find_some_idx
  simp only [Exec.pure_eq, Exec.run_val, find_addr_idx_go]
theorem nc_find_client_by_addr_slot {clients : List (Option Netcode.Connection)} {addr : Addr} {i : Nat} {c : Netcode.Connection}
    (h : findClientByAddr clients addr = some (i, c)) : clients[i]? = some (some c) :=
  (NS.findAddr_some h).1

/-- `NetcodeServer::new`: panics above `NETCODE_MAX_CLIENTS`; `max_clients` empty slots, 2048 empty token entries, no pending
    client, `global_sequence = 1 << 63`, zeroed scratch buffer, the given random bytes as challenge key -/
theorem nc_server_new {ε : Type} (ct mc pid : Nat) (addrs : List Addr) (secure : Bool) (pk ck : Bytes) :
    SameOutcome (Src.renetcode.server.NetcodeServer.new ⟨ct, mc, pid, addrs.map reprAddr, reprAuth secure pk⟩ (toNats ck) : Res ε _)
      (mapRes (reprNS (List.replicate C.NETCODE_MAX_PACKET_BYTES 0)) (fun e => nomatch e)
        (Netcode.NetcodeServer.new ct mc pid addrs secure pk ck)) := by
  unfold Src.renetcode.server.NetcodeServer.new Netcode.NetcodeServer.new
  have hK : Src.renetcode.NETCODE_MAX_CLIENTS = C.NETCODE_MAX_CLIENTS := rfl
  simp only [Exec.bind_eq, Exec.pure_eq, hK]
  by_cases hmc : mc > C.NETCODE_MAX_CLIENTS
  · simp only [hmc, decide_true, if_true, Exec.bind_panic', Exec.run_panic, mapRes, SameOutcome]
  simp only [hmc, decide_false, if_false, Bool.false_eq_true, Exec.bind_val']
  have hmul : (RustSem.mul 64 C.NETCODE_MAX_CLIENTS 2 "renetcode/src/server.rs:NetcodeServer::new: NETCODE_MAX_CLIENTS * 2"
      : Exec ε SNetcodeServer Nat) = .val C.NETCODE_TOKEN_ENTRIES := by
    rw [mul_val (by decide)]; rfl
  have hshl : (RustSem.shl 64 1 63 "renetcode/src/server.rs:NetcodeServer::new: 1 << 63" : Exec ε SNetcodeServer Nat)
      = .val C.NETCODE_GLOBAL_SEQUENCE_START := by
    rw [shl_val (by decide)]; rfl
  cases secure with
  | false =>
    simp only [reprAuth, Bool.false_eq_true, if_false, Exec.bind_val', hmul, hshl, Exec.run_val, mapRes, SameOutcome]
    simp [reprNS, RustSem.repeat_, toNats_replicate]
    exact ⟨rfl, rfl⟩
  | true =>
    simp only [reprAuth, if_true, Exec.bind_val', hmul, hshl, Exec.run_val, mapRes, SameOutcome]
    simp [reprNS, RustSem.repeat_]
    rfl

set_option maxRecDepth 10000 in
/-- `handle_connection_request`: version / protocol / expiry checks, token decode, host list (secure servers only),
    already-connected and pending-limit checks, token-entry table, `ConnectionDenied` when full, else challenge + (re)started
    pending connection; every `Err` with the state it leaves behind. -/
theorem nc_server_handle_connection_request (a : AEAD) (hl : a.Laws) (out : List Nat)
    (hout : out.length = C.NETCODE_MAX_PACKET_BYTES) (s : Netcode.NetcodeServer) (hent : 0 < s.connectTokenEntries.length)
    (addr : Addr) (v : Bytes) (pid exp : Nat) (x d : Bytes) (hd : d.length = C.NETCODE_CONNECT_TOKEN_PRIVATE_BYTES) :
    SrvOut (s.handleConnectionRequest a addr v pid exp x d)
      (@NetcodeServer.handle_connection_request (aeadOf a) (reprNS out s) (reprAddr addr) (toNats v) pid exp (toNats x) (toNats d)) := by
  unfold NetcodeServer.handle_connection_request Netcode.NetcodeServer.handleConnectionRequest
  have hsecs : ∀ t, RustSem.Duration.as_secs t = asSecs t := fun _ => rfl
  simp only [Exec.bind_eq, Exec.pure_eq, version_info_eq, toNats_ne_iff]
  rw [reprNS_protocol_id, reprNS_current_time, hsecs]
  generalize hfa : Netcode.NetcodeServer.findOrAddConnectTokenEntry s _ = fa
  by_cases hver : v ≠ C.NETCODE_VERSION_INFO
  · rw [if_pos (decide_eq_true hver), if_pos hver]
    exact Exists.intro out ⟨hout, rfl⟩
  rw [if_neg (mt of_decide_eq_true hver), if_neg hver, Exec.bind_val']
  by_cases hp : pid ≠ s.protocolId
  · rw [if_pos (decide_eq_true hp), if_pos hp]
    exact Exists.intro out ⟨hout, rfl⟩
  rw [if_neg (mt of_decide_eq_true hp), if_neg hp, Exec.bind_val']
  by_cases hexp : asSecs s.currentTime ≥ exp
  · rw [if_pos (decide_eq_true hexp), if_pos hexp]
    exact Exists.intro out ⟨hout, rfl⟩
  rw [if_neg (mt of_decide_eq_true hexp), if_neg hexp, Exec.bind_val', reprNS_connect_key]
  refine (nc_private_token_decode a hl d hd s.protocolId exp x s.connectKey).map_elim (fun e hm hg => ?_) (fun mm msg hm hg => ?_)
    (fun ct hm hg => ?_)
  · rw [hm, hg]
    exact Exists.intro out ⟨hout, rfl⟩
  · rw [hm, hg]
    exact Exists.intro msg rfl
  · rw [hm, hg, Exec.callFrom_ok, Exec.bind_val']
    simp only []
    have hsa : (reprPTok ct).server_addresses = reprAddrs ct.serverAddresses := rfl
    have hcid : (reprPTok ct).client_id = ct.clientId := rfl
    rw [reprNS_secure, reprNS_public_addresses, hsa, hcid]
    generalize hih : (List.any ct.serverAddresses _) = ihl
    have hin : List.any (List.filterMap (fun host => host) (reprAddrs ct.serverAddresses))
        (fun x => RustSem.contains (s.publicAddresses.map reprAddr) x) = ihl := by
      rw [← hih, in_host_list_eq]; rfl
    rw [hin]
    by_cases hhl : s.secure = true ∧ (!ihl) = true
    · rw [if_pos hhl.1, if_pos hhl.2, if_pos hhl]
      exact Exists.intro out ⟨hout, rfl⟩
    rw [Exec.bind_skip (ite (s.secure = true) _ _) _ () ?hhost, if_neg hhl]
    case hhost =>
      by_cases hs : s.secure = true
      · rw [if_pos hs, if_neg fun h => hhl ⟨hs, h⟩]; rfl
      · rw [if_neg hs]
    rw [reprNS_clients, nc_find_client_mut_by_addr, nc_find_client_mut_by_id, Exec.call_ok, Exec.call_ok, Exec.bind_val',
      Exec.bind_val', NS.findSlot_isSome, Option.isSome_map]
    by_cases hconn : (findClientById s.clients ct.clientId).isSome = true ∨ (findClientByAddr s.clients addr).isSome = true
    · simp only [Bool.or_eq_true, hconn, if_true]
      exact Exists.intro out ⟨hout, rfl⟩
    simp only [Bool.or_eq_true, hconn, if_false]
    rw [Exec.bind_val', reprNS_pending_clients, amap_contains, len_pendR]
    have hKp : Src.renetcode.NETCODE_MAX_PENDING_CLIENTS = C.NETCODE_MAX_PENDING_CLIENTS := rfl
    rw [hKp]
    have hiff : ((!(pendingFind s.pendingClients addr).isSome && decide (s.pendingClients.length ≥ C.NETCODE_MAX_PENDING_CLIENTS)) = true)
        = ((pendingFind s.pendingClients addr).isNone = true ∧ s.pendingClients.length ≥ C.NETCODE_MAX_PENDING_CLIENTS) := by
      rw [Bool.and_eq_true, decide_eq_true_eq, Option.not_isSome]
    simp only [hiff]
    by_cases hpend : (pendingFind s.pendingClients addr).isNone = true ∧ s.pendingClients.length ≥ C.NETCODE_MAX_PENDING_CLIENTS
    · rw [if_pos hpend, if_pos hpend]
      exact Exists.intro out ⟨hout, rfl⟩
    rw [if_neg hpend, if_neg hpend, Exec.bind_val']
    have hKpriv : Src.renetcode.NETCODE_CONNECT_TOKEN_PRIVATE_BYTES = C.NETCODE_CONNECT_TOKEN_PRIVATE_BYTES := rfl
    have hKmac : Src.renetcode.NETCODE_MAC_BYTES = C.NETCODE_MAC_BYTES := rfl
    rw [hKpriv, hKmac, sub_val (by decide), Exec.bind_val', show RustSem.len (toNats d) = d.length from toNats_length d, slice_drop d _ (by rw [hd]; decide), Exec.bind_val',
      copy_whole _ _ _ (by rw [toNats_length, List.length_drop, hd, RustSem.repeat_, List.length_replicate]; decide), Exec.bind_val']
    have hent' : ∀ m : List Nat, ({ time := s.currentTime, address := reprAddr addr, mac := m } : Src.renetcode.server.ConnectTokenEntry)
        = ⟨s.currentTime, reprAddr addr, m⟩ := fun _ => rfl
    have hent'' : (⟨s.currentTime, reprAddr addr, toNats (List.drop (C.NETCODE_CONNECT_TOKEN_PRIVATE_BYTES - C.NETCODE_MAC_BYTES) d)⟩ : Src.renetcode.server.ConnectTokenEntry)
        = reprEntry ⟨s.currentTime, addr, List.drop (C.NETCODE_CONNECT_TOKEN_PRIVATE_BYTES - C.NETCODE_MAC_BYTES) d⟩ := rfl
    rw [hent', hent'', ns_find_or_add_eq out s _ hent, hfa, Exec.call_ok, Exec.bind_val']
    obtain ⟨s1, added⟩ := fa
    simp only []
    have hs2c : (reprPTok ct).server_to_client_key = toNats ct.serverToClientKey := rfl
    cases added with
    | false => exact Exists.intro out ⟨hout, rfl⟩
    | true =>
      simp only [Bool.not_true, Bool.false_eq_true, if_false]
      rw [Exec.bind_val', reprNS_clients, count_connected_eq, reprNS_max_clients]
      by_cases hfull : countConnected s1.clients ≥ s1.maxClients
      · rw [if_pos (decide_eq_true hfull), if_pos hfull, reprNS_out, reprNS_protocol_id, reprNS_global_sequence, hs2c,
          reprNS_pending_clients, amap_remove]
        refine (enc_out_as a hl .connectionDenied .ConnectionDenied rfl out hout s1.protocolId s1.globalSequence
            ct.serverToClientKey).elim (fun bytes buf' hme hge htake hblen => ?_)
          (fun e st hme hge hst => ?_) (fun mm msg hme hge => ?_)
        · rw [hme, hge, Exec.callFrom_ok, Exec.bind_val', NS.lift_ok, Res.bind_ok]
          refine incU64_elim s1.globalSequence (fun hgi hmi => ?_) (fun hgi hmi => ?_)
          · rw [hgi, hmi]
            exact Exists.intro _ rfl
          · rw [hgi, hmi, Exec.bind_val', Exec.bind_skip (RustSem.slice _ _ _ _) _ _ (slice_of_take buf' bytes htake _)]
            exact Exists.intro buf' ⟨hblen, rfl⟩
        · rw [hme, hge]
          exact Exists.intro st ⟨hst, rfl⟩
        · rw [hme, hge]
          exact Exists.intro msg rfl
      rw [if_neg (mt of_decide_eq_true hfull), if_neg hfull, Exec.bind_val', reprNS_challenge_sequence]
      refine incU64_elim s1.challengeSequence (fun hgi hmi => ?_) (fun hgi hmi => ?_)
      · rw [hgi, hmi]
        exact Exists.intro _ rfl
      rw [hgi, hmi, Exec.bind_val', Res.bind_ok]
      have hud : (reprPTok ct).user_data = toNats ct.userData := rfl
      rw [reprNS_challenge_key, hud]
      refine (nc_generate_challenge a ct.clientId ct.userData (s1.challengeSequence + 1) s1.challengeKey).map_elim
        (fun e hmg hg => ?_) (fun mm msg hmg hg => ?_) (fun p hmg hg => ?_)
      · rw [hmg, hg]
        exact Exists.intro out ⟨hout, rfl⟩
      · rw [hmg, hg]
        exact Exists.intro msg rfl
      · rw [hmg, hg, Exec.callFrom_ok, Exec.bind_val', NS.lift_ok, Res.bind_ok, reprNS_out, reprNS_protocol_id,
          reprNS_global_sequence, hs2c]
        refine (enc_out a hl p out hout s1.protocolId s1.globalSequence ct.serverToClientKey).elim (fun bytes buf' hme hge htake hblen => ?_)
          (fun e st hme hge hst => ?_) (fun mm msg hme hge => ?_)
        · rw [hme, hge, Exec.callFrom_ok, Exec.bind_val', NS.lift_ok, Res.bind_ok]
          refine incU64_elim s1.globalSequence (fun hgi2 hmi2 => ?_) (fun hgi2 hmi2 => ?_)
          · rw [hgi2, hmi2]
            exact Exists.intro _ rfl
          rw [hgi2, hmi2, Exec.bind_val', Res.bind_ok, rp_new_eq, Exec.call_ok, Exec.bind_val',
            Exec.bind_skip (RustSem.slice _ _ _ _) _ _ (slice_of_take buf' bytes htake _)]
          refine Exists.intro buf' ⟨hblen, ?_⟩
          let c0 : Netcode.Connection :=
            { confirmed := false, clientId := ct.clientId, state := .pendingResponse,
              sendKey := ct.serverToClientKey, receiveKey := ct.clientToServerKey, userData := ct.userData,
              addr := addr, lastPacketReceivedTime := s1.currentTime, lastPacketSendTime := s1.currentTime,
              timeoutSeconds := ct.timeoutSeconds, sequence := 0, expireTimestamp := exp, replayProtection := RP.new }
          let s2 : Netcode.NetcodeServer := { s1 with challengeSequence := s1.challengeSequence + 1,
                                                      globalSequence := s1.globalSequence + 1 }
          exact congrArg (fun pc => (Res.ok (({ (reprNS buf' s2) with pending_clients := pc } : SNetcodeServer),
              Src.renetcode.server.ServerResult.PacketToSend (reprAddr addr) (toNats bytes))
              : Res (SNErr × SNetcodeServer) (SNetcodeServer × SServerResult))) (amap_insert addr c0 s1.pendingClients)
        · rw [hme, hge]
          exact Exists.intro st ⟨hst, rfl⟩
        · rw [hme, hge]
          exact Exists.intro msg rfl

set_option maxRecDepth 10000 in
theorem nc_server_process_packet_internal_len (a : AEAD) (hl : a.Laws) (out : List Nat)
    (hout : out.length = C.NETCODE_MAX_PACKET_BYTES) (s : Netcode.NetcodeServer) (hent : 0 < s.connectTokenEntries.length)
    (addr : Addr) (buffer : Bytes) (hbl : buffer.length + 16 < 2 ^ 64) :
    RecvOutL buffer.length (s.processPacketInternal a addr buffer)
      (@NetcodeServer.process_packet_internal (aeadOf a) (reprNS out s) (reprAddr addr) (toNats buffer)) := by
  unfold NetcodeServer.process_packet_internal Netcode.NetcodeServer.processPacketInternal
  have hKmac : Src.renetcode.NETCODE_MAC_BYTES = C.NETCODE_MAC_BYTES := rfl
  have hlen : RustSem.len (toNats buffer) = buffer.length := toNats_length buffer
  simp only [Exec.bind_eq, Exec.pure_eq]
  rw [hKmac, add_val (by decide), Exec.bind_val', hlen]
  by_cases hsmall : buffer.length < 2 + C.NETCODE_MAC_BYTES
  · rw [if_pos (decide_eq_true hsmall), if_pos hsmall]
    exact Exists.intro out (Exists.intro _ ⟨hout, toNats_length _, rfl⟩)
  rw [if_neg (mt of_decide_eq_true hsmall), if_neg hsmall, Exec.bind_val', reprNS_clients, nc_find_client_mut_by_addr, Exec.call_ok,
    Exec.bind_val']
  cases hfa : findClientByAddr s.clients addr with
  | some sc =>
    obtain ⟨slot, client⟩ := sc
    have hi := nc_find_client_by_addr_slot hfa
    have hilt := lt_of_getElem? hi
    have hdec := nc_packet_decode_len a hl buffer hbl s.protocolId (some client.receiveKey) (some client.replayProtection)
    obtain ⟨w', hw⟩ := NS.decode_rp_some a buffer s.protocolId (some client.receiveKey) client.replayProtection
    simp only [Option.map_some] at hdec ⊢
    generalize Netcode.Packet.decode a buffer s.protocolId (some client.receiveKey) (some client.replayProtection) = M at hdec hw ⊢
    obtain ⟨r, rp⟩ := M
    cases hw
    simp only [slot_bind hi, reprNS_protocol_id, reprNConn_receive_key, reprNConn_replay_protection, Option.getD_some]
    have hlt1 : ∀ x, slot < (s.clients.set slot x).length := fun x => by simpa using hilt
    cases r with
    | panic m =>
      obtain ⟨msg, hg⟩ := hdec
      rw [hg]
      exact Exists.intro msg rfl
    | err e =>
      obtain ⟨buf', hbl', hg⟩ := hdec
      rw [hg]
      exact Exists.intro out (Exists.intro buf' ⟨hout, hbl', congrArg (fun x => Res.err (reprNErr e, (x, buf')))
        (reprNS_set_client out s slot (some { client with replayProtection := w' }))⟩)
    | ok v =>
      obtain ⟨sq, packet⟩ := v
      obtain ⟨buf', hbl', hg⟩ := hdec
      rw [hg, Exec.callFrom_ok, Exec.bind_val']
      simp only [Option.map_some, unwrap_some, Exec.bind_val']
      erw [set_some_bind hilt { client with replayProtection := w' }]
      rw [slot_bind (List.getElem?_set_self hilt), reprNConn_state]
      simp only []
      cases hcs : client.state with
      | disconnected | pendingResponse => exact Exists.intro out (Exists.intro buf' ⟨hout, hbl', rfl⟩)
      | connected =>
        cases packet with
        | connectionRequest v0 p0 e0 x0 d0 | connectionDenied | challenge s0 d0 | response s0 d0 =>
          exact Exists.intro out (Exists.intro buf' ⟨hout, hbl', rfl⟩)
        | disconnect =>
          simp only [reprCS, reprNP]
          rw [slot_bind (List.getElem?_set_self hilt)]
          erw [set_some_bind (hlt1 _) { client with replayProtection := w', state := .disconnected }]
          rw [slot_bind (List.getElem?_set_self (hlt1 _)), set_none_bind _ _ (by simpa using hilt)]
          simp only [List.set_set]
          exact Exists.intro out (Exists.intro buf' ⟨hout, hbl', rfl⟩)
        | payload pl | keepAlive i0 m0 =>
          simp only [reprCS, reprNP]
          rw [slot_bind (List.getElem?_set_self hilt), reprNS_current_time]
          erw [set_some_bind (hlt1 _) { client with replayProtection := w', state := .connected, lastPacketReceivedTime := s.currentTime }]
          simp only [List.set_set]
          rw [slot_bind (List.getElem?_set_self hilt), reprNConn_confirmed]
          simp only []
          cases hcf : client.confirmed with
          | true =>
            simp only [Bool.not_true, Bool.false_eq_true, if_false, Exec.bind_val', slot_bind (List.getElem?_set_self hilt)]
            exact Exists.intro out (Exists.intro buf' ⟨hout, hbl', rfl⟩)
          | false =>
            simp only [Bool.not_false, if_true]
            rw [slot_bind (List.getElem?_set_self hilt)]
            erw [set_some_bind (hlt1 _)
              { client with replayProtection := w', state := .connected, lastPacketReceivedTime := s.currentTime, confirmed := true }]
            simp only [Exec.bind_val', List.set_set, slot_bind (List.getElem?_set_self hilt)]
            exact Exists.intro out (Exists.intro buf' ⟨hout, hbl', rfl⟩)
  | none =>
    simp only [Option.map_none]
    rw [Exec.bind_val']
    simp only []
    rw [reprNS_pending_clients, amap_contains]
    cases hpf : pendingFind s.pendingClients addr with
    | none =>
      simp only [Option.isSome_none, Bool.false_eq_true, if_false]
      rw [Exec.bind_val']
      simp only []
      have hdec := nc_packet_decode_len a hl buffer hbl s.protocolId none none
      simp only [Option.map_none] at hdec
      generalize hM : Netcode.Packet.decode a buffer s.protocolId none none = M at hdec ⊢
      obtain ⟨r, rp⟩ := M
      rw [reprNS_protocol_id]
      cases r with
      | panic m =>
        obtain ⟨msg, hg⟩ := hdec
        rw [hg]
        exact Exists.intro msg rfl
      | err e =>
        obtain ⟨buf', hbl', hg⟩ := hdec
        rw [hg]
        exact Exists.intro out (Exists.intro buf' ⟨hout, hbl', rfl⟩)
      | ok v =>
        obtain ⟨sq, packet⟩ := v
        obtain ⟨buf', hbl', hg⟩ := hdec
        rw [hg, Exec.callFrom_ok, Exec.bind_val']
        have hwf : packet.WF := (NcAead.Packet.decode_wf hM).1
        cases packet with
        | connectionRequest v0 p0 e0 x0 d0 =>
          simp only [reprNP]
          rcases hcr_cases (ρ := SNetcodeServer × List Nat × SServerResult)
              (nc_server_handle_connection_request a hl out hout s hent addr v0 p0 e0 x0 d0 hwf.2.2.2.2) buf' with
            ⟨r, s', out', hol, hm, hgc⟩ | ⟨e, s', out', hol, hm, hgc⟩ | ⟨mm, msg, hm, hgc⟩
          · rw [hm, hgc]
            exact Exists.intro out' (Exists.intro buf' ⟨hol, hbl', rfl⟩)
          · rw [hm, hgc]
            exact Exists.intro out' (Exists.intro buf' ⟨hol, hbl', rfl⟩)
          · rw [hm, hgc]
            exact Exists.intro msg rfl
        | _ => exact Exists.intro _ rfl
    | some pending =>
      simp only [Option.isSome_some, if_true, amap_index hpf, Exec.bind_val', reprNS_protocol_id, reprNConn_receive_key,
        reprNConn_replay_protection]
      have hdec := nc_packet_decode_len a hl buffer hbl s.protocolId (some pending.receiveKey) (some pending.replayProtection)
      obtain ⟨w', hw⟩ := NS.decode_rp_some a buffer s.protocolId (some pending.receiveKey) pending.replayProtection
      simp only [Option.map_some] at hdec
      generalize hM : Netcode.Packet.decode a buffer s.protocolId (some pending.receiveKey) (some pending.replayProtection) = M
        at hdec hw ⊢
      obtain ⟨r, rp⟩ := M
      cases hw
      simp only [Option.getD_some]
      cases r with
      | panic m =>
        obtain ⟨msg, hg⟩ := hdec
        rw [hg]
        exact Exists.intro msg rfl
      | err e =>
        obtain ⟨buf', hbl', hg⟩ := hdec
        rw [hg]
        exact Exists.intro out (Exists.intro buf' ⟨hout, hbl', congrArg (fun x => Res.err (reprNErr e, (x, buf')))
          (reprNS_insert_pending out s addr { pending with replayProtection := w' })⟩)
      | ok v =>
        obtain ⟨sq, packet⟩ := v
        obtain ⟨buf', hbl', hg⟩ := hdec
        have hwf : packet.WF := (NcAead.Packet.decode_wf hM).1
        rw [hg, Exec.callFrom_ok, Exec.bind_val']
        simp only [Option.map_some, unwrap_some, Exec.bind_val']
        erw [amap_insert addr { pending with replayProtection := w' }]
        rw [amap_index (pendingFind_set addr _ _), Exec.bind_val', reprNS_current_time]
        erw [amap_insert addr { pending with replayProtection := w', lastPacketReceivedTime := s.currentTime },
          reprNS_with_pending out s]
        have hfind2 : pendingFind (pendingSet (pendingSet s.pendingClients addr { pending with replayProtection := w' }) addr
            { pending with replayProtection := w', lastPacketReceivedTime := s.currentTime }) addr
            = some { pending with replayProtection := w', lastPacketReceivedTime := s.currentTime } := pendingFind_set addr _ _
        generalize pendingSet (pendingSet s.pendingClients addr { pending with replayProtection := w' }) addr
            { pending with replayProtection := w', lastPacketReceivedTime := s.currentTime } = l2 at hfind2 ⊢
        cases packet with
        | connectionRequest v0 p0 e0 x0 d0 =>
          simp only [reprNP]
          rcases hcr_cases (ρ := SNetcodeServer × List Nat × SServerResult)
              (nc_server_handle_connection_request a hl out hout { s with pendingClients := l2 } hent addr v0 p0 e0 x0 d0 hwf.2.2.2.2) buf' with
            ⟨r, s', out', hol, hm, hgc⟩ | ⟨e, s', out', hol, hm, hgc⟩ | ⟨mm, msg, hm, hgc⟩
          · rw [hm, hgc]
            exact Exists.intro out' (Exists.intro buf' ⟨hol, hbl', rfl⟩)
          · rw [hm, hgc]
            exact Exists.intro out' (Exists.intro buf' ⟨hol, hbl', rfl⟩)
          · rw [hm, hgc]
            exact Exists.intro msg rfl
        | connectionDenied | challenge s0 d0 | keepAlive i0 m0 | payload pl | disconnect =>
          exact Exists.intro out (Exists.intro buf' ⟨hout, hbl', rfl⟩)
        | response ts td =>
          simp only [reprNP]
          rw [reprNS_challenge_key]
          refine (nc_challenge_token_decode a hl td hwf.2 ts s.challengeKey).map_elim (fun e hmc hg2 => ?_) (fun mm msg hmc hg2 => ?_)
            (fun ct hmc hg2 => ?_)
          · rw [hmc, hg2]
            exact Exists.intro out (Exists.intro buf' ⟨hout, hbl', rfl⟩)
          · rw [hmc, hg2]
            exact Exists.intro msg rfl
          · rw [hmc, hg2, Exec.callFrom_ok, Exec.bind_val', NS.lift_ok, Res.bind_ok]
            simp only [amap_index hfind2, Exec.bind_val', amap_find, hfind2, Option.map_some, unwrap_some]
            rw [show (reprCT ct).client_id = ct.clientId from rfl, show (reprCT ct).user_data = toNats ct.userData from rfl,
              reprNConn_client_id, reprNConn_user_data]
            simp only [reprNConn_send_key, reprNConn_sequence, toNats_ne_iff, amap_remove, reprNS_clients, reprNS_out,
              reprNS_global_sequence, reprNS_max_clients, nc_find_client_slot_by_id, Exec.call_ok, find_free_eq]
            by_cases hid : ct.clientId ≠ pending.clientId
            · rw [if_pos (decide_eq_true hid), Exec.bind_val', if_pos rfl, if_pos (Or.inl hid)]
              exact Exists.intro out (Exists.intro buf' ⟨hout, hbl', rfl⟩)
            rw [if_neg (mt of_decide_eq_true hid), Exec.bind_val']
            by_cases hud : ct.userData ≠ pending.userData
            · rw [if_pos (decide_eq_true hud), if_pos (Or.inr hud)]
              exact Exists.intro out (Exists.intro buf' ⟨hout, hbl', rfl⟩)
            rw [if_neg (mt of_decide_eq_true hud), if_neg (not_or.mpr ⟨hid, hud⟩), Exec.bind_val', Exec.bind_val']
            by_cases hdup : (findClientSlotById s.clients ct.clientId).isSome = true
            · rw [if_pos hdup, if_pos hdup]
              exact Exists.intro out (Exists.intro buf' ⟨hout, hbl', rfl⟩)
            rw [if_neg hdup, if_neg hdup, Exec.bind_val']
            cases hff : firstFreeSlot s.clients with
            | none =>
              simp only []
              refine (enc_out_as a hl .connectionDenied .ConnectionDenied rfl out hout s.protocolId s.globalSequence
                  pending.sendKey).elim (fun bytes buf2 hme hge htake hblen => ?_)
                (fun e st hme hge hst => ?_) (fun mm msg hme hge => ?_)
              · rw [hme, hge, Exec.callFrom_ok, Exec.bind_val', NS.lift_ok, Res.bind_ok]
                refine incU64_elim s.globalSequence (fun hgi hmi => ?_) (fun hgi hmi => ?_)
                · rw [hgi, hmi]
                  exact Exists.intro _ rfl
                · rw [hgi, hmi, Exec.bind_val', Exec.bind_skip (RustSem.slice _ _ _ _) _ _ (slice_of_take buf2 bytes htake _)]
                  exact Exists.intro buf2 (Exists.intro buf' ⟨hblen, hbl', rfl⟩)
              · rw [hme, hge]
                exact Exists.intro st (Exists.intro buf' ⟨hst, hbl', rfl⟩)
              · rw [hme, hge]
                exact Exists.intro msg rfl
            | some idx =>
              simp only []
              refine (enc_out_as a hl (.keepAlive (idx % 2 ^ 32) (s.maxClients % 2 ^ 32))
                  (.KeepAlive (RustSem.cast 32 idx) (RustSem.cast 32 s.maxClients)) rfl out hout s.protocolId pending.sequence
                  pending.sendKey).elim (fun bytes buf2 hme hge htake hblen => ?_)
                (fun e st hme hge hst => ?_) (fun mm msg hme hge => ?_)
              · rw [hme, hge, Exec.callFrom_ok, Exec.bind_val', NS.lift_ok, Res.bind_ok]
                refine incU64_elim pending.sequence (fun hgi hmi => ?_) (fun hgi hmi => ?_)
                · rw [hgi, hmi]
                  exact Exists.intro _ rfl
                · rw [hgi, hmi, Exec.bind_val']
                  erw [set_some_bind (first_free_lt hff)
                    { pending with
                      replayProtection := w', lastPacketReceivedTime := s.currentTime, state := .connected,
                      userData := ct.userData, lastPacketSendTime := s.currentTime, sequence := pending.sequence + 1 }]
                  rw [Exec.bind_skip (RustSem.slice _ _ _ _) _ _ (slice_of_take buf2 bytes htake _)]
                  exact Exists.intro buf2 (Exists.intro buf' ⟨hblen, hbl', rfl⟩)
              · rw [hme, hge]
                exact Exists.intro st (Exists.intro buf' ⟨hst, hbl', rfl⟩)
              · rw [hme, hge]
                exact Exists.intro msg rfl

/-- `process_packet_internal` for EVERY byte sequence from every address: connected client (replay window written back
    also on `Err`; Disconnect / Payload / KeepAlive), pending client (connection request restart, challenge response →
    `ClientConnected` in the first free slot or `ConnectionDenied`), unknown address (connection request only;
    `unreachable!` otherwise — never reached: `decode` without key only yields connection requests). -/
theorem nc_server_process_packet_internal (a : AEAD) (hl : a.Laws) (out : List Nat)
    (hout : out.length = C.NETCODE_MAX_PACKET_BYTES) (s : Netcode.NetcodeServer) (hent : 0 < s.connectTokenEntries.length)
    (addr : Addr) (buffer : Bytes) (hbl : buffer.length + 16 < 2 ^ 64) :
    RecvOut (s.processPacketInternal a addr buffer)
      (@NetcodeServer.process_packet_internal (aeadOf a) (reprNS out s) (reprAddr addr) (toNats buffer)) := by
  have h := nc_server_process_packet_internal_len a hl out hout s hent addr buffer hbl
  unfold RecvOut
  unfold RecvOutL at h
  split at h
  · obtain ⟨o, b, ho, _, hg⟩ := h; exact ⟨o, b, ho, hg⟩
  · obtain ⟨o, b, ho, _, hg⟩ := h; exact ⟨o, b, ho, hg⟩
  · exact h

theorem nc_server_process_packet_len {ε : Type} (a : AEAD) (hl : a.Laws) (out : List Nat)
    (hout : out.length = C.NETCODE_MAX_PACKET_BYTES) (s : Netcode.NetcodeServer) (hent : 0 < s.connectTokenEntries.length)
    (addr : Addr) (buffer : Bytes) (hbl : buffer.length + 16 < 2 ^ 64) :
    PktOutL buffer.length (s.processPacket a addr buffer)
      (@NetcodeServer.process_packet (aeadOf a) ε (reprNS out s) (reprAddr addr) (toNats buffer)) := by
  unfold NetcodeServer.process_packet Netcode.NetcodeServer.processPacket
  have h := nc_server_process_packet_internal_len a hl out hout s hent addr buffer hbl
  cases hm : s.processPacketInternal a addr buffer with
  | ok v | err v =>
    rw [hm] at h
    obtain ⟨out', buf', hol, hbl', hg⟩ := h
    rw [hg]
    exact Exists.intro out' (Exists.intro buf' ⟨hol, hbl', rfl⟩)
  | panic m =>
    rw [hm] at h
    obtain ⟨msg, hg⟩ := h
    rw [hg]
    exact Exists.intro msg rfl

/-- `process_packet`: an error becomes `ServerResult::None` and keeps the state changes made before it -/
theorem nc_server_process_packet {ε : Type} (a : AEAD) (hl : a.Laws) (out : List Nat)
    (hout : out.length = C.NETCODE_MAX_PACKET_BYTES) (s : Netcode.NetcodeServer) (hent : 0 < s.connectTokenEntries.length)
    (addr : Addr) (buffer : Bytes) (hbl : buffer.length + 16 < 2 ^ 64) :
    PktOut (s.processPacket a addr buffer)
      (@NetcodeServer.process_packet (aeadOf a) ε (reprNS out s) (reprAddr addr) (toNats buffer)) := by
  have h := nc_server_process_packet_len (ε := ε) a hl out hout s hent addr buffer hbl
  unfold PktOut
  unfold PktOutL at h
  split at h
  · obtain ⟨o, b, ho, _, hg⟩ := h; exact ⟨o, b, ho, hg⟩
  · exact h
  · exact h
/-! ### the generated definitions on concrete values (toy AEAD: the tag is 16 zero bytes) -/

example : (match (Src.renetcode.server.NetcodeServer.new ⟨5, 2, 9, [.v4 [1, 2, 3, 4] 5], .Unsecure⟩ [1, 2, 3] : Res Empty _) with
    | .ok s => (s.clients, s.connect_token_entries.length, s.global_sequence, s.challenge_key, s.out.length, s.secure,
        s.connect_key.length) == ([none, none], 2048, 2 ^ 63, [1, 2, 3], 1400, false, 32)
    | _ => false) = true := by decide +kernel
example : (Src.renetcode.server.NetcodeServer.new ⟨5, 1025, 9, [], .Unsecure⟩ [1, 2, 3] : Res Empty _) =
    .panic "renetcode/src/server.rs:NetcodeServer::new: panic!('The max clients allowed is {}', NETCODE_MAX_CLIENTS)" := by
  decide +kernel

/-- client 4, connected from 10.0.0.1:7, in slot 1 of 3 (fresh replay window), t = 4 s -/
def exRConn : SConnection :=
  ⟨true, 4, .Connected, List.replicate 32 1, List.replicate 32 2, [3], .v4 [10, 0, 0, 1] 7, 0, 0, 5, 6, 0, reprRP RP.new⟩
def exRSrv : SNetcodeServer :=
  ⟨[none, some exRConn, none], [], [none, none], 9, [], 3, 0, [], [], 4000000000, 0, false, [7]⟩
/-- what an example shows of the result: the `ServerResult`, per slot (state, last receive time, replay high-water mark) -/
def exShow (r : Res Empty (SNetcodeServer × List Nat × SServerResult)) :
    Option (SServerResult × List (Option (Src.renetcode.server.ConnectionState × Nat × Nat))) :=
  match r with
  | .ok (s, _, r) => some (r, s.clients.map (Option.map fun c => (c.state, c.last_packet_received_time,
      c.replay_protection.most_recent_sequence)))
  | _ => none

example : (find_client_mut_by_addr exRSrv.clients (.v4 [10, 0, 0, 1] 7) : Res Empty _) = .ok (some 1) := by decide +kernel
/-- a `Payload` packet (sequence 6) from the connected client: delivered, receive time and replay window advance -/
example : exShow (@NetcodeServer.process_packet (aeadOf AEAD.toy) Empty exRSrv (.v4 [10, 0, 0, 1] 7)
      ([21, 6, 9, 8, 7] ++ List.replicate 16 0)) =
    some (.Payload 4 [9, 8, 7], [none, some (.Connected, 4000000000, 6), none]) := by decide +kernel
/-- a `Disconnect` packet: the slot is emptied -/
example : exShow (@NetcodeServer.process_packet (aeadOf AEAD.toy) Empty exRSrv (.v4 [10, 0, 0, 1] 7)
      ([22, 6] ++ List.replicate 16 0)) =
    some (.ClientDisconnected 4 (.v4 [10, 0, 0, 1] 7) none, [none, none, none]) := by decide +kernel
/-- too short (`PacketTooSmall`, swallowed) / an encrypted packet from an unknown address (`UnavailablePrivateKey`, swallowed) -/
example : exShow (@NetcodeServer.process_packet (aeadOf AEAD.toy) Empty exRSrv (.v4 [10, 0, 0, 1] 7) [21, 6, 9]) =
    some (.None, [none, some (.Connected, 0, 0), none]) := by decide +kernel
example : exShow (@NetcodeServer.process_packet (aeadOf AEAD.toy) Empty exRSrv (.v4 [10, 0, 0, 2] 7)
      ([21, 6, 9, 8, 7] ++ List.replicate 16 0)) =
    some (.None, [none, some (.Connected, 0, 0), none]) := by decide +kernel

end RenetVerif.SrcTie
