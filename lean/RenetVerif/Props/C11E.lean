/-
  C11, END TO END with several clients — "A message sent to one client is obtained only by that client, a broadcast
  is obtained exactly once by every currently connected client (minus the excluded one for broadcast_except), and a
  message a client sent is obtained only under that client's id.  Misbehaviour, disconnection or a stalled ordered
  stream of one client or channel never delays, drops or corrupts traffic of other clients or other channels."

  Props/C11.lean proves the SERVER-TABLE level (which slot an operation touches).  Props/C01S.lean proves the
  two-endpoint system (one sender, one receiver, adversarial network).  This file composes them: the system `MSys`
  of Lemmas/MultiSystem.lean —

      ONE `Server` (Renet/Server.lean) + for every client id a `Link`: the remote endpoint (a `Conn`), the emission
      history server → id (`outS`) and id → server (`outC`), and ghost logs (`subS`/`subSU`: what the server
      application addressed to the id and the reliable / unreliable channel took; `obtC`: what the client application
      obtained; `subC`/`subCU`/`obtS`: the same for the other direction; `delivC`/`delivS`: which datagrams were
      handed over; `tainted`: hostile bytes were handed to the server under this id).

  A run is ANY list of `MOp`:
      addClient id | remove id | srvDisconnect id | cliDisconnect id
      srvSend id ch m | broadcast ch m | broadcastExcept ex ch m | srvRecv id ch | cliSend id ch m | cliRecv id ch
      srvUpdate dt | cliUpdate id dt | srvFlush id | cliFlush id
      deliverToCli id k | deliverToSrv id k      (the k-th datagram EVER emitted on that link in that direction: never
                                                  chosen = loss, twice = duplication, late = delay / reordering;
                                                  a datagram of link id can only be handed to the ends of link id)
      hostile id bytes                            (arbitrary bytes handed to the server as coming from id)
  so every number of clients, every interleaving, an independent fault schedule per client, hostile packets on any
  subset of ids.  `addClient id` on an id that is not in the table starts a NEW SESSION (fresh server-side connection,
  fresh remote endpoint, empty histories and logs) — renet itself has no notion of sessions; keeping datagrams of an
  earlier session away from the new connection is the transport's job (netcode: C17/C20), and at this level a stale
  datagram of an old session is a `hostile` delivery.

  HOW IT IS PROVED.  `MSys.view m i` = (table slot of `i`, link of `i`).  `step_view`: the view of `i` after a step is
  a function (`LV.apply`, of the local action `op.act i`) of the view of `i` before — nothing else is read.  The view
  projects onto TWO states of the two-endpoint system `System.Sys`: `projDown` (A = server-side connection, B =
  client) and `projUp` (A = client, B = server-side connection).  `sim`: every local action is, for both projections,
  a `VStep`: an operation of `System.Sys`, or a stutter, or one of the endpoint-local operations that `System.Sys`
  lacks because it is one-directional (`recvA`: the submitting side also calls `receive_message`; `sendB`: the
  obtaining side also calls `send_message`; `discA`/`discB`: an application-level disconnect; `fresh`: new session).
  `vstep_closed`: whatever the operations of `System.Sys` and the `System.Idle` moves keep — so the four system
  invariants of `System.system_inv` — is kept by every `VStep` (the extra operations are `System.Idle` moves: they do
  not touch the fields the invariants mention).  Hence `Good` — literally the conclusion of `System.system_inv` — holds
  for both projections of every untainted link of every reachable state, and every theorem of Props/C01S is available
  per client and per direction.

  Hypothesis `CountersOK` (as in C01S, on the state at hand, per direction): channel ids are bytes, the submitting
  side's `packet_sequence` and per-channel message count are ≤ 2^62, no submitted message exceeds 1.2 GB.
  `l.tainted = false`: no hostile bytes were handed to the server under THIS id in the current session (for a
  tainted id nothing can be claimed: forged data / forged acks are accepted by renet itself — authenticity is the
  transport's job, C17); hostile bytes under OTHER ids are unrestricted.
-/
import RenetVerif.Lemmas.MultiSystem
namespace RenetVerif.C11E
open RenetVerif C RenetVerif.System RenetVerif.MultiSystem

structure At (P : Params) (ops : List MOp) (m : MSys) (i : Nat) (l : Link) : Prop where
  run : (MSys.init P).run ops = some m
  link : m.links i = some l
  clean : l.tainted = false

def projDown (m : MSys) (i : Nat) (l : Link) : Sys := down (m.view i) l
def projUp (m : MSys) (i : Nat) (l : Link) : Sys := up (m.view i) l

theorem At.ok {P : Params} {ops : List MOp} {m : MSys} {i : Nat} {l : Link} (h : At P ops m i l) :
    LinkOK Good P i ops (m.view i) l :=
  reach P ops m h.run i l h.link h.clean

theorem good_obtained_mem {cfg : Cfg} {s : Sys} (hg : Good cfg s) (hc : CountersOK cfg s) (ch : Nat)
    (hk : cfg.Ordered ch ∨ cfg.Unordered ch ∨ cfg.Unreliable ch) {adr : List Bytes} (h4 : (s.submitted ch).Sublist adr)
    (h5 : (s.submittedU ch).Sublist adr) {x : Bytes} (hx : x ∈ s.obtained ch) : x ∈ adr := by
  have g := (good_guarantees hg hc).integrity
  rcases hk with ho | hu | hn
  · exact h4.subset (g.1 ch (Or.inl ho) x hx)
  · exact h4.subset (g.1 ch (Or.inr hu) x hx)
  · exact h5.subset (g.2 ch hn x hx)

theorem good_count_le {cfg : Cfg} {s : Sys} (hg : Good cfg s) (hc : CountersOK cfg s) (ch : Nat)
    (hk : cfg.Ordered ch ∨ cfg.Unordered ch) {adr : List Bytes} (h4 : (s.submitted ch).Sublist adr) (x : Bytes) :
    (s.obtained ch).count x ≤ adr.count x := by
  refine Nat.le_trans ?_ (h4.count_le x)
  rcases hk with ho | hu
  · exact ((good_guarantees hg hc).1 ch ho).sublist.count_le x
  · obtain ⟨ids, hn, he⟩ := (good_guarantees hg hc).2.1 ch hu
    exact DataPath.once_count hn he x

section Theorems
variable {P : Params} {ops : List MOp} {m : MSys} {i : Nat} {l : Link}

/-- **All of C01S per client.**  Both directions of every untainted link of every reachable state satisfy exactly
    what `System.system_inv` gives for the two-endpoint system. -/
theorem per_client_system_inv (h : At P ops m i l) :
    (∃ pkA, Inv1 P.down (projDown m i l) pkA ∧ (CountersOK P.down (projDown m i l) → Inv2 P.down (projDown m i l) pkA) ∧
      InvR P.down (projDown m i l) pkA ∧ InvU P.down (projDown m i l) pkA) ∧
    (∃ pkA, Inv1 P.up (projUp m i l) pkA ∧ (CountersOK P.up (projUp m i l) → Inv2 P.up (projUp m i l) pkA) ∧
      InvR P.up (projUp m i l) pkA ∧ InvU P.up (projUp m i l) pkA) :=
  ⟨h.ok.goodD, h.ok.goodU⟩

theorem mem_addressed_iff (op : MOp) (i ch : Nat) (x : Bytes) :
    x ∈ op.addressed i ch ↔
      op = .srvSend i ch x ∨ op = .broadcast ch x ∨ ∃ ex, ex ≠ i ∧ op = .broadcastExcept ex ch x := by
  cases op with
  | srvSend id c y => simp [MOp.addressed]; grind
  | broadcast c y => simp [MOp.addressed]; grind
  | broadcastExcept ex c y =>
    simp only [MOp.addressed]
    constructor
    · intro h
      split at h
      · rename_i hc
        simp only [List.mem_singleton] at h
        subst h
        obtain ⟨h1, rfl⟩ := hc
        exact Or.inr (Or.inr ⟨ex, fun e => h1 e.symm, rfl⟩)
      · cases h
    · rintro (h | h | ⟨ex', hne, h⟩)
      · cases h
      · cases h
      · cases h
        have : i ≠ ex := fun e => hne e.symm
        simp [this]
  | _ => simp [MOp.addressed]

theorem mem_submittedBy_iff (op : MOp) (i ch : Nat) (x : Bytes) :
    x ∈ op.submittedBy i ch ↔ op = .cliSend i ch x := by
  cases op <;> simp [MOp.submittedBy] <;> grind

/-- **1. A message sent to one client is obtained only by that client.**  In every reachable state, for every client
    `i` (untainted link) and every channel `ch` of the server → client configuration:
    * ReliableOrdered: what `i`'s application obtained is a PREFIX of `subS ch`;
    * ReliableUnordered: it is `subS ch` read at pairwise distinct positions (each at most once, intact);
    * Unreliable: every obtained message is in `subSU ch`;
    and `subS ch`, `subSU ch` are sub-sequences (order preserved) of `addressedTo i ch ops` — exactly the messages the
    server application addressed to `i` on `ch`: `send_message(i, ch, ·)`, `broadcast_message(ch, ·)`,
    `broadcast_message_except(ex, ch, ·)` with `ex ≠ i` (`mem_addressed_iff`), in the order of the op list.  (They are
    sub-sequences, not the whole list, because a message addressed to an id that is not in the table, or to a
    disconnected connection, or refused by a full channel, is dropped by `send_message` itself.) -/
theorem to_one_only_one (h : At P ops m i l) (hc : CountersOK P.down (projDown m i l)) (ch : Nat) :
    (P.down.Ordered ch → l.obtC ch <+: l.subS ch) ∧
    (P.down.Unordered ch →
      ∃ ids : List Nat, ids.Nodup ∧ (l.obtC ch).map some = ids.map (fun k => (l.subS ch)[k]?)) ∧
    (P.down.Unreliable ch → ∀ x ∈ l.obtC ch, x ∈ l.subSU ch) ∧
    (l.subS ch).Sublist (addressedTo i ch ops) ∧ (l.subSU ch).Sublist (addressedTo i ch ops) :=
  let g := good_guarantees h.ok.goodD hc
  ⟨g.1 ch, g.2.1 ch, g.2.2 ch, h.ok.subS ch, h.ok.subSU ch⟩

/-- … on an ordered channel therefore: obtained, in order, a sub-sequence of what was addressed to `i` -/
theorem ordered_in_submission_order (h : At P ops m i l) (hc : CountersOK P.down (projDown m i l)) (ch : Nat)
    (ho : P.down.Ordered ch) : (l.obtC ch).Sublist (addressedTo i ch ops) :=
  let t := to_one_only_one h hc ch
  (t.1 ho).sublist.trans t.2.2.2.1

/-- … and on every kind of channel: whatever `i` obtains was addressed to `i` by some operation of the run -/
theorem obtained_only_if_addressed (h : At P ops m i l) (hc : CountersOK P.down (projDown m i l)) (ch : Nat)
    (hk : P.down.Ordered ch ∨ P.down.Unordered ch ∨ P.down.Unreliable ch) (x : Bytes) (hx : x ∈ l.obtC ch) :
    ∃ op ∈ ops, op = .srvSend i ch x ∨ op = .broadcast ch x ∨ ∃ ex, ex ≠ i ∧ op = .broadcastExcept ex ch x := by
  obtain ⟨op, hop, hm⟩ := List.mem_flatMap.mp (good_obtained_mem h.ok.goodD hc ch hk (h.ok.subS ch) (h.ok.subSU ch) hx)
  exact ⟨op, hop, (mem_addressed_iff op i ch x).mp hm⟩

/-- … in particular a message that the run addresses only to OTHER clients (`send_message(j, ..)` with `j ≠ i`,
    `broadcast_message_except(i, ..)`) never appears at `i` -/
theorem addressed_to_others_never_obtained (h : At P ops m i l) (hc : CountersOK P.down (projDown m i l)) (ch : Nat)
    (hk : P.down.Ordered ch ∨ P.down.Unordered ch ∨ P.down.Unreliable ch) (x : Bytes)
    (hno : ∀ op ∈ ops, op ≠ .srvSend i ch x ∧ op ≠ .broadcast ch x ∧ ∀ ex, ex ≠ i → op ≠ .broadcastExcept ex ch x) :
    x ∉ l.obtC ch := by
  intro hx
  obtain ⟨op, hop, h1 | h2 | ⟨ex, hne, h3⟩⟩ := obtained_only_if_addressed h hc ch hk x hx
  · exact (hno op hop).1 h1
  · exact (hno op hop).2.1 h2
  · exact (hno op hop).2.2 ex hne h3

/-- the same with the (decidable) hypothesis on the list `addressedTo i ch ops` -/
theorem not_addressed_never_obtained (h : At P ops m i l) (hc : CountersOK P.down (projDown m i l)) (ch : Nat)
    (hk : P.down.Ordered ch ∨ P.down.Unordered ch ∨ P.down.Unreliable ch) (x : Bytes)
    (hno : x ∉ addressedTo i ch ops) : x ∉ l.obtC ch := by
  intro hx
  obtain ⟨op, hop, hh⟩ := obtained_only_if_addressed h hc ch hk x hx
  exact hno (List.mem_flatMap.mpr ⟨op, hop, (mem_addressed_iff op i ch x).mpr hh⟩)

/-- **2. A message a client sent is obtained only under that client's id.**  What the server application obtains
    under id `i` on channel `ch` of the client → server configuration is a prefix of (unordered: distinct positions
    of; unreliable: contained in) the log of what CLIENT `i`'s application submitted, and that log is a sub-sequence
    of `sentBy i ch ops` = the `cliSend i ch ·` operations of the run (`mem_submittedBy_iff`). -/
theorem from_one_under_its_id (h : At P ops m i l) (hc : CountersOK P.up (projUp m i l)) (ch : Nat) :
    (P.up.Ordered ch → l.obtS ch <+: l.subC ch) ∧
    (P.up.Unordered ch →
      ∃ ids : List Nat, ids.Nodup ∧ (l.obtS ch).map some = ids.map (fun k => (l.subC ch)[k]?)) ∧
    (P.up.Unreliable ch → ∀ x ∈ l.obtS ch, x ∈ l.subCU ch) ∧
    (l.subC ch).Sublist (sentBy i ch ops) ∧ (l.subCU ch).Sublist (sentBy i ch ops) :=
  let g := good_guarantees h.ok.goodU hc
  ⟨g.1 ch, g.2.1 ch, g.2.2 ch, h.ok.subC ch, h.ok.subCU ch⟩

/-- … so whatever is obtained under id `i` was submitted by client `i` itself, by a `cliSend i ch x` of the run -/
theorem obtained_under_id_only_if_sent_by_it (h : At P ops m i l) (hc : CountersOK P.up (projUp m i l)) (ch : Nat)
    (hk : P.up.Ordered ch ∨ P.up.Unordered ch ∨ P.up.Unreliable ch) (x : Bytes) (hx : x ∈ l.obtS ch) :
    MOp.cliSend i ch x ∈ ops := by
  obtain ⟨op, hop, hm⟩ := List.mem_flatMap.mp (good_obtained_mem h.ok.goodU hc ch hk (h.ok.subC ch) (h.ok.subCU ch) hx)
  rw [(mem_submittedBy_iff op i ch x).mp hm] at hop
  exact hop

/-- **3. A broadcast is obtained at most once per client** (reliable kinds).  No message is obtained by `i` more often
    than the server application addressed it to `i`: a message broadcast once (and not otherwise sent to `i`) is
    obtained at most once by every client, whatever the networks duplicate or replay.

    PARTIAL: this is the "at most once" half.  The "at least once" half (with a lossless round on the link of `i`, every
    broadcast issued while `i` was connected is obtained by `i`, irrespective of the other clients' fates) is
    Props/C11L.lean (`broadcast_exactly_once`, `broadcast_exactly_once_unordered`): Props/C01L (`round_delivers`) read
    through the projection, from any reachable state.  Here towards it: `faults_are_local` /
    `non_interference` below — the fate of other clients cannot change anything on the link of `i` — and the concrete
    run `Ex` (exactly once at every live client). -/
theorem broadcast_exactly_once_partial (h : At P ops m i l) (hc : CountersOK P.down (projDown m i l)) (ch : Nat)
    (hk : P.down.Ordered ch ∨ P.down.Unordered ch) (x : Bytes) :
    (l.obtC ch).count x ≤ (addressedTo i ch ops).count x :=
  good_count_le h.ok.goodD hc ch hk (h.ok.subS ch) x

/-- the same for the other direction: nothing is obtained under id `i` more often than client `i` submitted it -/
theorem from_one_at_most_once (h : At P ops m i l) (hc : CountersOK P.up (projUp m i l)) (ch : Nat)
    (hk : P.up.Ordered ch ∨ P.up.Unordered ch) (x : Bytes) :
    (l.obtS ch).count x ≤ (sentBy i ch ops).count x :=
  good_count_le h.ok.goodU hc ch hk (h.ok.subC ch) x

/-! ### 4. faults are local -/

def target : MOp → Option Nat
  | .addClient id | .remove id | .srvDisconnect id | .cliDisconnect id | .srvSend id _ _ | .srvRecv id _
  | .cliSend id _ _ | .cliRecv id _ | .cliUpdate id _ | .srvFlush id | .cliFlush id | .deliverToCli id _
  | .deliverToSrv id _ | .hostile id _ => some id
  | .broadcast .. | .broadcastExcept .. | .srvUpdate _ => none

theorem act_skip_of_target {op : MOp} {i j : Nat} (ht : target op = some j) (hne : j ≠ i) : op.act i = .skip := by
  cases op <;> simp only [target, Option.some.injEq, reduceCtorEq] at ht <;> subst ht <;> simp [MOp.act, hne]

/-- **The simulation.**  Every step of the multi-client system is, for every client `i` whose link is untainted
    afterwards and for BOTH directions of that link, a step `VStep` of the (bidirectional) two-endpoint system — an
    operation of `System.Sys`, an endpoint-local operation of the opposite direction, or a stutter — or the start of
    a fresh session of `i`.  (`vstep_closed`: every `VStep` preserves the invariants of `System.system_inv`.) -/
theorem step_simulates {m m' : MSys} {op : MOp} (hw : m.WF P) (hs : m.step op = some m') (i : Nat) (l' : Link)
    (hl' : m'.links i = some l') (ht : l'.tainted = false) :
    (m'.view i = LV.fresh P ∧ l' = Link.fresh P) ∨
    ∃ l, m.links i = some l ∧ l.tainted = false ∧ VStep P.down (projDown m i l) (projDown m' i l') ∧
      VStep P.up (projUp m i l) (projUp m' i l') := by
  rcases sim (step_view hw hs i) hl' ht with h | ⟨l, h1, h2, h3, h4, -⟩
  · exact Or.inl h
  · exact Or.inr ⟨l, h1, h2, h3, h4⟩

/-- **Faults are local (one step).**  An operation addressed to client `j` — hostile bytes in `j`'s name, any delivery
    (loss, duplication, reordering) on `j`'s network, `j`'s disconnection or removal, `j`'s own traffic — leaves
    EVERYTHING the system holds about any other client `i` unchanged: its slot in the server table, its remote
    endpoint, both emission histories, every ghost log; so both projections of `i` stutter. -/
theorem faults_are_local {m m' : MSys} {op : MOp} (hw : m.WF P) (hs : m.step op = some m') {i j : Nat}
    (htg : target op = some j) (hne : j ≠ i) :
    m'.view i = m.view i ∧ ∀ l, projDown m' i l = projDown m i l ∧ projUp m' i l = projUp m i l := by
  have h := step_view hw hs i
  rw [act_skip_of_target htg hne] at h
  have e : m'.view i = m.view i := (Option.some.inj h).symm
  exact ⟨e, fun l => by unfold projDown projUp; rw [e]; exact ⟨rfl, rfl⟩⟩

/-- **Non-interference (whole runs).**  Take two runs from the empty server whose LOCAL TRACES for client `i` coincide
    (`trace i ops` = the operations addressed to `i`, the broadcasts that include `i`, the server's `update`s — in
    order; everything addressed to other clients erased).  Then the two final states agree on everything about
    client `i`: the fault schedules, hostile packets, disconnections and traffic of all other clients may differ
    arbitrarily between the two runs — client `i` cannot tell. -/
theorem non_interference {ops1 ops2 : List MOp} {m1 m2 : MSys} (i : Nat) (h1 : (MSys.init P).run ops1 = some m1)
    (h2 : (MSys.init P).run ops2 = some m2) (ht : trace i ops1 = trace i ops2) :
    m1.view i = m2.view i ∧ ∀ l, projDown m1 i l = projDown m2 i l ∧ projUp m1 i l = projUp m2 i l := by
  have e := run_agree i (wf_init P) (wf_init P) rfl h1 h2 ht
  exact ⟨e, fun l => by unfold projDown projUp; rw [e]; exact ⟨rfl, rfl⟩⟩

/-- … in particular: a run extended by ANY operations addressed to other clients (continuing from ANY reachable
    state) ends with the same view of `i` -/
theorem faults_are_local_run {pre ops' : List MOp} {m m' : MSys} (i : Nat) (h1 : (MSys.init P).run pre = some m)
    (h2 : m.run ops' = some m') (hall : ∀ op ∈ ops', ∃ j, target op = some j ∧ j ≠ i) : m'.view i = m.view i := by
  have hw := reach_wf P pre m h1
  have ht : trace i ops' = trace i [] := by
    unfold trace
    rw [List.map_nil, List.filter_nil, List.filter_eq_nil_iff]
    intro a ha
    obtain ⟨op, hop, rfl⟩ := List.mem_map.mp ha
    obtain ⟨j, hj, hne⟩ := hall op hop
    rw [act_skip_of_target hj hne]
    decide
  exact run_agree i hw hw rfl h2 (rfl : m.run [] = some m) ht

/-- C08 per client (server → client direction; the other direction likewise from `per_client_system_inv`): the
    server-side connection of `i` releases message `id` of channel `ch` only after every packet needed to rebuild it
    was handed to client `i` — by `i`'s own network; acks forged in another client's name cannot touch it. -/
theorem release_only_after_delivery_per_client (h : At P ops m i l) (hc : CountersOK P.down (projDown m i l))
    (ch : Nat) (sA : SendRel) (hf : SMap.find? (projDown m i l).a.sendRel ch = some sA) (id : Nat)
    (hid : id < sA.nextId) (hrel : SMap.find? sA.unacked id = none) :
    ∃ x, (l.subS ch)[id]? = some x ∧
      (x.length ≤ SLICE_SIZE → ∃ k ∈ l.delivC, ∃ bytes sq msgs, l.outS[k]? = some bytes ∧
          Packet.fromBytes bytes = .ok (.smallReliable sq ch msgs) ∧ (id, x) ∈ msgs) ∧
      (SLICE_SIZE < x.length → ∀ j, j < divCeil x.length SLICE_SIZE → ∃ k ∈ l.delivC, ∃ bytes sq,
          l.outS[k]? = some bytes ∧
          Packet.fromBytes bytes = .ok (.reliableSlice sq ch
            ⟨id, j, divCeil x.length SLICE_SIZE, sliceBytes x (divCeil x.length SLICE_SIZE) j⟩)) :=
  good_release h.ok.goodD hc ch sA hf id hid hrel

end Theorems

/-! ## non-vacuity: a concrete run with three clients, evaluated by the kernel

  Server → client channels: 0 ReliableOrdered, 1 ReliableUnordered; client → server channel 0 ReliableOrdered.
  Clients 1, 2, 3 connect.  The server application sends [10] to client 1 only, [20] by `broadcast_except(2)`, [30] by
  broadcast on channel 0, [40] by broadcast and [41] to client 3 only on channel 1.  Clients 3, 1, 2 submit [33], [11],
  [22].  Then garbage (`[255]`) arrives at the server in client 2's name: slot 2 is disconnected (its flush is empty).
  Everybody flushes.  Client 3's network delivers `outS[1]`, `outS[0]`, `outS[1]` (reordered, duplicated); client 1's
  delivers in order; the clients' packets reach the server (client 2's hits a dead slot).  The applications drain
  their channels.  The server removes client 2, sends [50] to it (dropped: not in the table) and broadcasts [60];
  it flushes for 1 and 3; the datagram for client 1 is LOST, client 3's arrives. -/
namespace Ex

def P : Params := ⟨60000, [⟨0, .ordered, 100000, 100⟩, ⟨1, .unordered, 100000, 100⟩], [⟨0, .ordered, 100000, 100⟩]⟩
def ops : List MOp :=
  [.addClient 1, .addClient 2, .addClient 3,
   .srvSend 1 0 [10], .broadcastExcept 2 0 [20], .broadcast 0 [30], .broadcast 1 [40], .srvSend 3 1 [41],
   .cliSend 3 0 [33], .cliSend 1 0 [11], .cliSend 2 0 [22],
   .hostile 2 [255],
   .srvFlush 1, .srvFlush 2, .srvFlush 3, .cliFlush 1, .cliFlush 2, .cliFlush 3,
   .deliverToCli 3 1, .deliverToCli 3 0, .deliverToCli 3 1, .deliverToCli 1 0, .deliverToCli 1 1,
   .deliverToSrv 1 0, .deliverToSrv 3 0, .deliverToSrv 2 0,
   .cliRecv 1 0, .cliRecv 1 0, .cliRecv 1 0, .cliRecv 1 0, .cliRecv 1 1, .cliRecv 1 1,
   .cliRecv 3 0, .cliRecv 3 0, .cliRecv 3 0, .cliRecv 3 1, .cliRecv 3 1, .cliRecv 3 1,
   .cliRecv 2 0, .cliRecv 2 1,
   .srvRecv 1 0, .srvRecv 1 0, .srvRecv 3 0, .srvRecv 2 0,
   .remove 2, .srvSend 2 0 [50], .broadcast 0 [60],
   .srvFlush 1, .srvFlush 3, .deliverToCli 3 2, .cliRecv 3 0, .cliRecv 1 0]

def fin : MSys := ((MSys.init P).run ops).getD (MSys.init P)
def l1 : Link := (fin.links 1).getD (Link.fresh P)
def l2 : Link := (fin.links 2).getD (Link.fresh P)
def l3 : Link := (fin.links 3).getD (Link.fresh P)

/-- the run in one kernel evaluation: it returns normally and every client has a link; clients 1 and 3 are untainted
    (client 2 is not: `facts.2.1`); the counter hypotheses of both directions of the links of clients 1 and 3 -/
theorem all :
    (((MSys.init P).run ops).isSome = true ∧ (fin.links 1).isSome = true ∧ (fin.links 2).isSome = true ∧
      (fin.links 3).isSome = true ∧ l1.tainted = false ∧ l3.tainted = false) ∧
    (CountersOK P.down (projDown fin 1 l1) ∧ CountersOK P.down (projDown fin 3 l3)) ∧
    (CountersOK P.up (projUp fin 1 l1) ∧ CountersOK P.up (projUp fin 3 l3)) := by
  decide +kernel

theorem run : (MSys.init P).run ops = some fin := some_getD all.1.1 _
theorem link1 : fin.links 1 = some l1 := some_getD all.1.2.1 _
theorem link2 : fin.links 2 = some l2 := some_getD all.1.2.2.1 _
theorem link3 : fin.links 3 = some l3 := some_getD all.1.2.2.2.1 _
theorem at1 : At P ops fin 1 l1 := ⟨run, link1, all.1.2.2.2.2.1⟩
theorem at3 : At P ops fin 3 l3 := ⟨run, link3, all.1.2.2.2.2.2⟩

theorem countersD1 : CountersOK P.down (projDown fin 1 l1) := all.2.1.1
theorem countersD3 : CountersOK P.down (projDown fin 3 l3) := all.2.1.2
theorem countersU1 : CountersOK P.up (projUp fin 1 l1) := all.2.2.1
theorem countersU3 : CountersOK P.up (projUp fin 3 l3) := all.2.2.2

abbrev obs (l : Link) (i : Nat) :=
  ([l.obtC 0, l.obtC 1, l.subS 0, l.subS 1, l.obtS 0, l.subC 0], l.tainted, l.outS.length,
    (conn? fin.server i).map (·.status))

theorem facts :
    obs l1 1 = ([[[10], [20], [30]], [[40]], [[10], [20], [30], [60]], [[40]], [[11]], [[11]]], false, 4, some .connected) ∧
    obs l2 2 = ([[], [], [[30]], [[40]], [], [[22]]], true, 0, none) ∧
    obs l3 3 = ([[[20], [30], [60]], [[40], [41]], [[20], [30], [60]], [[40], [41]], [[33]], [[33]]], false, 4,
      some .connected) ∧
    l3.delivC = [1, 0, 1, 2] ∧ l1.delivC = [0, 1] := by
  decide +kernel

theorem ordered0 : P.down.Ordered 0 := by unfold Cfg.Ordered; decide
theorem unordered1 : P.down.Unordered 1 := by unfold Cfg.Unordered; decide
theorem upOrdered0 : P.up.Ordered 0 := by unfold Cfg.Ordered; decide

example : l1.obtC 0 <+: l1.subS 0 ∧ (l1.subS 0).Sublist (addressedTo 1 0 ops) :=
  let t := to_one_only_one at1 countersD1 0; ⟨t.1 ordered0, t.2.2.2.1⟩
example : l3.obtC 0 <+: l3.subS 0 ∧ (l3.subS 0).Sublist (addressedTo 3 0 ops) :=
  let t := to_one_only_one at3 countersD3 0; ⟨t.1 ordered0, t.2.2.2.1⟩
example : ∃ ids : List Nat, ids.Nodup ∧ (l3.obtC 1).map some = ids.map (fun k => (l3.subS 1)[k]?) :=
  (to_one_only_one at3 countersD3 1).2.1 unordered1
example : [10] ∉ l3.obtC 0 :=
  not_addressed_never_obtained at3 countersD3 0 (Or.inl ordered0) [10] (by decide)
example : [41] ∉ l1.obtC 1 :=
  not_addressed_never_obtained at1 countersD1 1 (Or.inr (Or.inl unordered1)) [41] (by decide)
example : l1.obtS 0 <+: l1.subC 0 ∧ (l1.subC 0).Sublist (sentBy 1 0 ops) :=
  let t := from_one_under_its_id at1 countersU1 0; ⟨t.1 upOrdered0, t.2.2.2.1⟩
example : MOp.cliSend 3 0 [33] ∈ ops := by
  have e : l3.obtS 0 = [[33]] := congrArg (fun t => t.1[4]!) facts.2.2.1
  exact obtained_under_id_only_if_sent_by_it at3 countersU3 0 (Or.inl upOrdered0) [33]
    (by rw [e]; exact List.mem_singleton.mpr rfl)
example : (l1.obtC 0).count [30] ≤ (addressedTo 1 0 ops).count [30] ∧
    (l3.obtC 0).count [30] ≤ (addressedTo 3 0 ops).count [30] :=
  ⟨broadcast_exactly_once_partial at1 countersD1 0 (Or.inl ordered0) [30],
   broadcast_exactly_once_partial at3 countersD3 0 (Or.inl ordered0) [30]⟩
/-- what happened to the broadcast [30]: exactly once at the two live clients although client 3's network duplicated and
    reordered; client 1 got exactly [10], [20], [30] and [40] ([60] was lost so far: a strict prefix of its log);
    client 3 exactly [20], [30], [60] and [40], [41]; client 2 — fed garbage, disconnected, removed — got nothing,
    nothing was obtained under its id, the message sent to it after its removal was dropped; under ids 1 and 3 the
    server obtained [11] resp. [33] -/
example : (addressedTo 1 0 ops).count [30] = 1 ∧ (addressedTo 3 0 ops).count [30] = 1 := by decide
example :
    obs l1 1 = ([[[10], [20], [30]], [[40]], [[10], [20], [30], [60]], [[40]], [[11]], [[11]]], false, 4, some .connected) ∧
    obs l2 2 = ([[], [], [[30]], [[40]], [], [[22]]], true, 0, none) ∧
    obs l3 3 = ([[[20], [30], [60]], [[40], [41]], [[20], [30], [60]], [[40], [41]], [[33]], [[33]]], false, 4,
      some .connected) ∧
    l3.delivC = [1, 0, 1, 2] ∧ l1.delivC = [0, 1] := facts

/-- 4. the garbage in client 2's name is a stutter for clients 1 and 3: `pre` = the run up to it -/
def pre : List MOp := ops.take 11
def mid : MSys := ((MSys.init P).run pre).getD (MSys.init P)
def mid' : MSys := (mid.step (.hostile 2 [255])).getD mid
/-- the run up to the garbage, the step that takes it in, and client 2's slot before and after -/
theorem hostileStep :
    ((MSys.init P).run pre).isSome = true ∧ (mid.step (.hostile 2 [255])).isSome = true ∧
    ((conn? mid'.server 2).map (·.isDisconnected), (conn? mid.server 2).map (·.isDisconnected)) =
      (some true, some false) := by
  decide +kernel
theorem runPre : (MSys.init P).run pre = some mid := some_getD hostileStep.1 _
theorem stepHostile : mid.step (.hostile 2 [255]) = some mid' := some_getD hostileStep.2.1 _
example : mid'.view 1 = mid.view 1 ∧ mid'.view 3 = mid.view 3 :=
  ⟨(faults_are_local (reach_wf P pre mid runPre) stepHostile (j := 2) rfl (by decide)).1,
   (faults_are_local (reach_wf P pre mid runPre) stepHostile (j := 2) rfl (by decide)).1⟩
example : ((conn? mid'.server 2).map (·.isDisconnected), (conn? mid.server 2).map (·.isDisconnected)) =
    (some true, some false) := hostileStep.2.2

/-- non-interference: the same run WITHOUT client 2 altogether (never added, no garbage, nothing of its traffic) —
    clients 1 and 3 end in exactly the same state -/
def opsNo2 : List MOp := ops.filter (fun op => target op != some 2)
def finNo2 : MSys := ((MSys.init P).run opsNo2).getD (MSys.init P)
theorem runNo2 : (MSys.init P).run opsNo2 = some finNo2 := some_getD (by decide +kernel) _
example : fin.view 1 = finNo2.view 1 ∧ fin.view 3 = finNo2.view 3 :=
  ⟨(non_interference 1 run runNo2 (by decide)).1, (non_interference 3 run runNo2 (by decide)).1⟩

example : ∀ l', mid'.links 3 = some l' → l'.tainted = false → ∀ m'', mid'.step (.srvFlush 3) = some m'' → ∀ l'',
    m''.links 3 = some l'' → l''.tainted = false →
    (m''.view 3 = LV.fresh P ∧ l'' = Link.fresh P) ∨
    ∃ l, mid'.links 3 = some l ∧ l.tainted = false ∧ VStep P.down (projDown mid' 3 l) (projDown m'' 3 l'') ∧
      VStep P.up (projUp mid' 3 l) (projUp m'' 3 l'') :=
  fun _ _ _ _ hs l'' hl ht =>
    step_simulates (step_wf (reach_wf P pre mid runPre) stepHostile) hs 3 l'' hl ht

end Ex

end RenetVerif.C11E
