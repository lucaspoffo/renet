/-
  Source tie: the Lean definitions that /verif/translator derives from the CURRENT Rust text
  (`RenetVerif/Generated/Src.lean`, namespace `RenetVerif.Src`, regenerated on every check run) compute
  exactly what the hand-written model computes.  If one of these Rust functions is edited, the
  regenerated text changes and these theorems are re-checked against it.

  Conventions: generated integers are `Nat`s (a `uN` argument is assumed `< 2^N` where it matters, stated
  as a hypothesis), arrays/`Vec`s/slices are `List`s.  `absSC` is the abstraction function generated type → model
  type, `reprSC`/`toNats` its (right-)inverses on well-formed values; `WfSC`, `BytesOk` are decidable.  `SameOutcome`
  compares `ok`/`err` values exactly and panics up to the text of the site.
-/
import RenetVerif.Lemmas.SrcEquiv.Slice
namespace RenetVerif.SrcTie
open RenetVerif RenetVerif.SrcEquiv

/-! ## C. `renet/src/channel/slice_constructor.rs` ↔ `SliceCtor` -/
section C
open Src.renet.channel.slice_constructor

open RustSem in
/-- `SliceConstructor::new`: without `usize` overflow of `num_slices * SLICE_SIZE` it is the model's constructor -/
theorem slice_constructor_new {ε : Type} (message_id num_slices : Nat) (h : num_slices * C.SLICE_SIZE < 2 ^ 64) :
    (SliceConstructor.new message_id num_slices : Res ε SliceConstructor) = .ok (reprSC message_id (SliceCtor.new num_slices)) := by
  unfold SliceConstructor.new
  simp only [Src.renet.packet.SLICE_SIZE, mul_val (show num_slices * 1200 < 2 ^ 64 from h), Exec.bind_val, Exec.pure_eq, Exec.run_val,
    reprSC, SliceCtor.new, RustSem.repeat_, toNats_replicate, C.SLICE_SIZE]

open RustSem in
/-- … and with overflow it panics (debug-profile multiplication) -/
theorem slice_constructor_new_overflow {ε : Type} (message_id num_slices : Nat) (h : ¬ num_slices * C.SLICE_SIZE < 2 ^ 64) :
    ∃ site, (SliceConstructor.new message_id num_slices : Res ε SliceConstructor) = .panic site := by
  unfold SliceConstructor.new
  simp only [Src.renet.packet.SLICE_SIZE, mul_panic (show ¬ num_slices * 1200 < 2 ^ 64 from h), Exec.bind_panic, Exec.run_panic]
  exact ⟨_, rfl⟩

open RustSem in
/-- `process_slice` for every model state and message id: same new state and payload, same `InvalidSliceMessage` error,
    and a panic exactly when the model panics -/
theorem slice_constructor_process_slice' (message_id : Nat) (c : SliceCtor) (slice_index : Nat) (bytes : Bytes)
    (hn : c.numSlices * C.SLICE_SIZE < 2 ^ 64) (hr : c.numReceived + 1 < 2 ^ 64) :
    SameOutcome (SliceConstructor.process_slice (reprSC message_id c) slice_index (toNats bytes))
      (mapRes (fun r => (reprSC message_id r.1, r.2.map toNats)) (fun e => (reprCE e, reprSC message_id c)) (c.processSlice slice_index bytes)) := by
  obtain ⟨n, nr, rc, d⟩ := c
  simp only [C.SLICE_SIZE] at hn hr
  unfold SliceConstructor.process_slice SliceCtor.processSlice
  simp only [reprSC, Src.renet.packet.SLICE_SIZE, C.SLICE_SIZE, RustSem.len, toNats_length, Exec.pure_eq, Exec.bind_eq]
  by_cases h1 : slice_index ≥ n
  · simp only [h1, decide_true, if_true, Exec.bind_err', Exec.run_err, mapRes, SameOutcome, reprCE]
  have hn1 : 1 ≤ n := by omega
  simp only [h1, decide_false, Bool.false_eq_true, if_false, Exec.bind_val', sub_val hn1, beq_iff_eq]
  by_cases hbad : (slice_index = n - 1 ∧ bytes.length > 1200) ∨ (¬ slice_index = n - 1 ∧ bytes.length ≠ 1200)
  · rcases hbad with ⟨hl, hb⟩ | ⟨hl, hb⟩ <;>
      simp [hl, hb, Exec.bind_err', Exec.run_err, mapRes, SameOutcome, reprCE]
  rw [not_or] at hbad
  -- the length fits the position of the slice: both checks pass, and no offset leaves `usize`
  have hlen : bytes.length ≤ 1200 ∧ (¬ slice_index = n - 1 → bytes.length = 1200) := by omega
  have hck : ∀ E : Exec (SChannelError × SliceConstructor) (SliceConstructor × Option (List Nat)) Unit,
      (if decide (slice_index = n - 1) = true then
          (if decide (bytes.length > 1200) = true then E else Exec.val ()).bind fun _ => Exec.val ()
        else if decide (bytes.length ≠ 1200) = true then E else Exec.val ()) = Exec.val () := by
    intro E
    by_cases hl : slice_index = n - 1
    · simp [hl, Nat.not_lt.mpr hlen.1, Exec.bind_val']
    · simp [hl, hlen.2 hl]
  have har : (n - 1) * 1200 < 2 ^ 64 ∧ (n - 1) * 1200 + bytes.length < 2 ^ 64 ∧ slice_index * 1200 < 2 ^ 64 ∧
      slice_index + 1 < 2 ^ 64 ∧ (slice_index + 1) * 1200 < 2 ^ 64 := by omega
  have hfin : ∀ (nr' : Nat) (rc' : List Bool) (x : Bytes),
      SameOutcome
        (((if decide (nr' = n) = true then
            (Exec.ret (({ message_id := message_id, num_slices := n, num_received_slices := nr', received := rc', sliced_data := [] } : SliceConstructor),
              some (toNats x)) : Exec (SChannelError × SliceConstructor) _ SliceConstructor)
          else Exec.val ({ message_id := message_id, num_slices := n, num_received_slices := nr', received := rc', sliced_data := toNats x } : SliceConstructor)).bind
            fun self => Exec.val (self, none)).run)
        (mapRes (fun r => (reprSC message_id r.1, r.2.map toNats)) (fun e => (reprCE e, reprSC message_id ⟨n, nr, rc, d⟩))
          (if nr' = n then (pure (({ numSlices := n, numReceived := nr', received := rc', data := [] } : SliceCtor), some x) : Res ChanErr _)
           else pure (({ numSlices := n, numReceived := nr', received := rc', data := x } : SliceCtor), none))) := by
    intro nr' rc' x
    by_cases h : nr' = n <;> simp [h, Exec.bind, Exec.run, mapRes, SameOutcome, reprSC, toNats]
  simp only [reprSC] at hfin
  rw [hck, Exec.bind_val', if_neg hbad.1, if_neg hbad.2]
  cases hg : rc[slice_index]? with
  | none => simp only [index_panic hg, Exec.bind_panic', Exec.run_panic, mapRes, SameOutcome]
  | some got =>
    cases got with
    | true =>
      simp only [index_val hg, Exec.bind_val', Bool.not_true, Bool.false_eq_true, if_false, if_true, Res.bind_ok, Res.pure_eq]
      exact hfin nr rc d
    | false =>
      simp only [index_val hg, Exec.bind_val', Exec.bind_assoc', Bool.not_false, Bool.false_eq_true, if_true, if_false,
        set_val (List.getElem?_eq_some_iff.mp hg).1, add_val hr, mul_val har.2.2.1]
      -- `end` is `start + bytes.len()` for the last slice by its definition, for any other because the slice is full
      by_cases hl : slice_index = n - 1
      · simp only [hl, decide_true, if_true, mul_val har.1, add_val har.2.1, Exec.bind_val', sub_val hn1, ← toNats_resize]
        refine copy_setRange _ _ _ _ _ _ _ _ _ (fun x => ?_)
        simp only [Res.bind_ok, Res.pure_eq]
        exact hfin (nr + 1) (rc.set (n - 1) true) x
      · simp only [hl, decide_false, Bool.false_eq_true, if_false, Exec.bind_val', sub_val hn1, add_val har.2.2.2.1,
          mul_val har.2.2.2.2, show (slice_index + 1) * 1200 = slice_index * 1200 + bytes.length by omega]
        refine copy_setRange _ _ _ _ _ _ _ _ _ (fun x => ?_)
        simp only [Res.bind_ok, Res.pure_eq]
        exact hfin (nr + 1) (rc.set slice_index true) x

/-- the same statement from the generated side: for a well-formed state and a byte slice -/
theorem slice_constructor_process_slice (st : SliceConstructor) (hst : WfSC st) (slice_index : Nat) (bytes : List Nat)
    (hb : BytesOk bytes) :
    SameOutcome (SliceConstructor.process_slice st slice_index bytes)
      (mapRes (fun r => (reprSC st.message_id r.1, r.2.map toNats)) (fun e => (reprCE e, st))
        ((absSC st).processSlice slice_index (ofNats bytes))) := by
  have := slice_constructor_process_slice' st.message_id (absSC st) slice_index (ofNats bytes) hst.2.1 hst.2.2
  rwa [reprSC_absSC st hst.1, toNats_ofNats hb] at this

/-- a 1-slice message of 3 bytes completes at once -/
example :
    (SliceConstructor.new 9 1 >>= fun st => SliceConstructor.process_slice st 0 [1, 2, 3]) =
      .ok (⟨9, 1, 1, [true], []⟩, some [1, 2, 3]) := by decide +kernel
/-- a wrong slice index is an error; the error carries the (unchanged) constructor -/
example :
    (SliceConstructor.new 9 1 >>= fun st => SliceConstructor.process_slice st 1 [1, 2, 3]) =
      .err (.InvalidSliceMessage, ⟨9, 1, 0, [false], List.replicate 1200 0⟩) := by decide +kernel
end C

end RenetVerif.SrcTie
