/-
  CLOSING THE PER-ROUND SIDE CONDITIONS of the k-round liveness bound — helper lemmas for Props/C01KC.lean.

  Lemmas/LivenessK.lean iterates full lossless rounds under per-round side conditions `Rounds cfg ch Sched s rs`.
  Here the side conditions that are facts about the CODE's state (counter ranges, B's pending-ack list non-empty and
  below the cap) are derived from SCHEDULE facts (`RoundsSched`) and HEAD-ROOM on the initial state (`HeadRoom`).

  `flushSeq_le`: a flush that emits something has `flushSeq ≤ packetSeq + |flush| + 1` — no counter hypothesis needed
  (this breaks the circle "no serialisation failure needs the counters in range").  `rounds_of_round`: the induction
  over the rounds that every theorem `… → Rounds …` of this and the following files goes through (`rounds_of_sched`
  itself is a corollary of `rounds_of_sched2`, in Lemmas/LivenessKClosed2.lean).
-/
import RenetVerif.Lemmas.LivenessK
namespace RenetVerif.LiveKC
open RenetVerif C RenetVerif.System RenetVerif.DataPath RenetVerif.Live RenetVerif.LiveK

/-! ## Part 1 — a round that hands B a datagram -/

theorem mem_ne_nil {x : Nat} : ∀ {l : List AckRange}, Acks.Mem x l → l ≠ []
  | [], h => by simp [Acks.Mem] at h
  | _ :: _, _ => by simp

theorem flushPk_ne_of_ks {s : Sys} {ks : List Nat} (hne : ks ≠ []) (hks2 : ∀ k ∈ ks, k ∈ newIdx s) :
    ∃ p, p ∈ flushPk s.a := by
  cases ks with
  | nil => exact absurd rfl hne
  | cons k r =>
    have := hks2 k (List.mem_cons_self ..)
    unfold newIdx at this
    rw [List.mem_range'_1] at this
    cases hf : flushPk s.a with
    | nil => rw [hf] at this; simp only [List.length_nil] at this; omega
    | cons p _ => exact ⟨p, List.mem_cons_self ..⟩

/-! ## Part 2 — the counters a flush needs, split into a STATIC part and the packet sequence

  `Conn.CountersOK` = `StaticOK` (message-id counters and memory limits of the send channels: nothing in a round
  raises them — only `send_message` does) + `flushSeq ≤ 2^62`. -/

structure StaticOK (c : Conn) : Prop where
  rel : ∀ ch s, SMap.find? c.sendRel ch = some s → s.nextId ≤ Varint.MAX + 1 ∧ s.maxMem ≤ Varint.MAX
  unrel : ∀ ch s, SMap.find? c.sendUnrel ch = some s →
    s.slicedId + s.queue.length ≤ Varint.MAX + 1 ∧ s.maxMem ≤ Varint.MAX

theorem countersOK_of_static {c : Conn} (h : StaticOK c) (hs : c.flushSeq ≤ Varint.MAX + 1) : c.CountersOK :=
  ⟨h.rel, h.unrel, hs⟩

theorem static_of_countersOK {c : Conn} (h : c.CountersOK) : StaticOK c := ⟨h.rel, h.unrel⟩

/-- a property of a connection that `get_packets_to_send` and `process_packet` keep, and that depends on the send channels
    and their order only (`update` and `receive_message` leave those alone): every operation of the two-endpoint
    system keeps it at B, every operation but `sendA` at A (`KeptC.step`, `KeptC.run`) -/
structure KeptC (Q : Conn → Prop) : Prop where
  congr : ∀ {c c' : Conn}, c'.sendRel = c.sendRel → c'.sendUnrel = c.sendUnrel → c'.order = c.order → Q c → Q c'
  flush : ∀ {c c' : Conn} {out : List Bytes}, c.getPacketsToSend = .ok (c', out) → Q c → Q c'
  packet : ∀ {c c' : Conn} {bytes : Bytes}, c.SendInv → c.processPacket bytes = .ok c' → Q c → Q c'


theorem ack_fields {s s' : SendRel} {id : Nat} (h : s.processMessageAck id = .ok s' ∨ ∃ idx, s.processSliceAck id idx = .ok s') :
    s'.nextId = s.nextId ∧ s'.maxMem = s.maxMem ∧ (s.unacked = [] → s' = s) := by
  rcases h with h | ⟨idx, h⟩
  · rcases SendRel.processMessageAck_cases h with ⟨-, rfl⟩ | ⟨m, ls, hf, -, rfl⟩
    · exact ⟨rfl, rfl, fun _ => rfl⟩
    · exact ⟨rfl, rfl, fun h0 => by rw [h0] at hf; cases hf⟩
  · rcases SendRel.processSliceAck_cases h with
      ⟨-, rfl⟩ | ⟨m, n, k, nx, ak, ls, hf, ⟨-, rfl⟩ | ⟨-, -, -, rfl⟩ | ⟨-, -, rfl⟩⟩
    · exact ⟨rfl, rfl, fun _ => rfl⟩
    · exact ⟨rfl, rfl, fun _ => rfl⟩
    · exact ⟨rfl, rfl, fun h0 => by rw [h0] at hf; cases hf⟩
    · exact ⟨rfl, rfl, fun h0 => by rw [h0] at hf; cases hf⟩

/-- a flush leaves `nextId` and `maxMem` alone and empties the unreliable queues, raising `slicedId` by at most one per
    queued message -/
theorem kept_static : ChanKept .noSend (fun _ s => s.nextId ≤ Varint.MAX + 1 ∧ s.maxMem ≤ Varint.MAX)
    (fun _ s => s.slicedId + s.queue.length ≤ Varint.MAX + 1 ∧ s.maxMem ≤ Varint.MAX) where
  flush {_ s} seq avail now _ h := by
    obtain ⟨-, -, e1, -, -, e2⟩ := SendRel.getPackets_keeps (tuple4_eta (s.getPackets seq avail now))
    rw [e1, e2]; exact h
  flushU {_ s} seq avail _ _ h := by
    have h1 := SendUnrel.getPackets_slicedId (tuple4_eta (s.getPackets seq avail))
    obtain ⟨e1, -, -, e2⟩ := SendUnrel.getPackets_drains (tuple4_eta (s.getPackets seq avail))
    rw [e1, e2]
    exact ⟨by simp only [List.length_nil]; omega, h.2⟩
  msgAck _ h hm := by
    obtain ⟨e1, e2, -⟩ := ack_fields (Or.inl hm)
    rw [e1, e2]; exact h
  sliceAck _ h hm := by
    obtain ⟨e1, e2, -⟩ := ack_fields (Or.inr ⟨_, hm⟩)
    rw [e1, e2]; exact h

theorem _root_.RenetVerif.ChanKept.keptC {Ir : SendRel → Prop} {Iu : SendUnrel → Prop}
    (k : ChanKept .noSend (fun _ => Ir) (fun _ => Iu)) {Q : Conn → Prop}
    (hQ : ∀ c, Q c ↔ SendAll (fun _ => Ir) (fun _ => Iu) c) : KeptC Q :=
  ⟨fun h1 h2 _ h => (hQ _).mpr (by unfold SendAll; rw [h1, h2]; exact (hQ _).mp h),
    fun h q => (hQ _).mpr (k.all.getPacketsToSend trivial ((hQ _).mp q) h),
    fun _ h q => (hQ _).mpr (k.all.processPacket trivial ((hQ _).mp q) h)⟩

theorem keptC_static : KeptC StaticOK := kept_static.keptC (fun _ => ⟨fun h => ⟨h.rel, h.unrel⟩, fun h => ⟨h.1, h.2⟩⟩)

def RelSame (sr sr' : SMap SendRel) : Prop :=
  ∀ ch s', SMap.find? sr' ch = some s' → ∃ s, SMap.find? sr ch = some s ∧ s'.nextId = s.nextId ∧ s'.maxMem = s.maxMem

theorem RelSame.insert {sr : SMap SendRel} {ch : Nat} {s s' : SendRel} (hf : SMap.find? sr ch = some s)
    (h1 : s'.nextId = s.nextId) (h2 : s'.maxMem = s.maxMem) : RelSame sr (SMap.insert sr ch s') := by
  intro k x hx
  rw [SMap.find?_insert] at hx
  split at hx
  · next e => subst e; cases hx; exact ⟨s, hf, h1, h2⟩
  · exact ⟨x, hx, rfl, rfl⟩

def UnrelLe (su su' : SMap SendUnrel) : Prop :=
  ∀ ch s', SMap.find? su' ch = some s' → ∃ s, SMap.find? su ch = some s ∧
    s'.slicedId + s'.queue.length ≤ s.slicedId + s.queue.length ∧ s'.maxMem = s.maxMem

theorem UnrelLe.insert {su : SMap SendUnrel} {ch : Nat} {s s' : SendUnrel} (hf : SMap.find? su ch = some s)
    (h1 : s'.slicedId + s'.queue.length ≤ s.slicedId + s.queue.length) (h2 : s'.maxMem = s.maxMem) :
    UnrelLe su (SMap.insert su ch s') := by
  intro k x hx
  rw [SMap.find?_insert] at hx
  split at hx
  · next e => subst e; cases hx; exact ⟨s, hf, h1, h2⟩
  · exact ⟨x, hx, Nat.le_refl _, rfl⟩

theorem flushSeq_cases (c : Conn) :
    (c.flushSeq = 0 ∧ flushPk c = []) ∨ ∃ sr su pk0 av,
      Conn.chanLoop c.now c.order (c.sendRel, c.sendUnrel, [], c.packetSeq, c.budget) =
        .ok (sr, su, pk0, c.packetSeq + pk0.length, av) ∧ c.flushSeq = c.packetSeq + pk0.length + 1 ∧
      (flushPk c = [] ∨ flushPk c = withAck pk0 (c.packetSeq + pk0.length) c.pendingAcks) := by
  unfold flushPk Conn.flushSeq
  cases hl : Conn.chanLoop c.now c.order (c.sendRel, c.sendUnrel, [], c.packetSeq, c.budget) with
  | ok r =>
    obtain ⟨sr, su, pk0, seq0, avail⟩ := r
    obtain ⟨ps, hps, -, rfl⟩ := chanLoop_numbering hl
    cases List.nil_append _ ▸ hps
    refine Or.inr ⟨sr, su, pk0, avail, rfl, rfl, ?_⟩
    dsimp only
    split
    · exact Or.inl rfl
    · split
      · exact Or.inr rfl
      · exact Or.inl rfl
  | err e => exact e.elim
  | panic m => exact Or.inl ⟨rfl, by split <;> rfl⟩
theorem flushSeq_le {c : Conn} (hinv : c.SendInv) (hne : flushPk c ≠ []) :
    c.flushSeq ≤ c.packetSeq + (flushPk c).length + 1 := by
  rcases flushSeq_cases c with ⟨-, h⟩ | ⟨_, _, pk0, _, -, hs, h | h⟩
  · exact absurd h hne
  · exact absurd h hne
  · rw [hs, h]
    unfold withAck
    split <;> simp <;> omega

/-! ## Part 3 — frames of the operations of a round, at system level -/

theorem KeptC.step {Q : Conn → Prop} (k : KeptC Q) {cfg : Cfg} {s s' : Sys} {pk : List Packet} {op : SysOp}
    (h1 : Inv1 cfg s pk) (hs : s.step op = some s') :
    ((∀ ch m, op ≠ .sendA ch m) → Q s.a → Q s'.a) ∧ (Q s.b → Q s'.b) := by
  cases stepped hs with
  | sendA _ => exact ⟨fun hop => absurd rfl (hop _ _), id⟩
  | updA hm =>
    obtain ⟨x1, x2, -, x4, -⟩ := Conn.update_frame hm
    exact ⟨fun _ => k.congr x1 x2 x4, id⟩
  | flushA hm => exact ⟨fun _ => k.flush hm, id⟩
  | deliverToA _ hm => exact ⟨fun _ => k.packet h1.invA.1 hm, id⟩
  | recvB hm =>
    obtain ⟨hsame, -⟩ := SI.Conn.receiveMessage_same hm
    exact ⟨fun _ => id, k.congr hsame.1 hsame.2.1 hsame.2.2.2.2⟩
  | updB hm =>
    obtain ⟨x1, x2, -, x4, -⟩ := Conn.update_frame hm
    exact ⟨fun _ => id, k.congr x1 x2 x4⟩
  | flushB hm => exact ⟨fun _ => id, k.flush hm⟩
  | deliverToB _ hm => exact ⟨fun _ => id, k.packet h1.invB.1 hm⟩

theorem KeptC.run {Q : Conn → Prop} (k : KeptC Q) (cfg : Cfg) (ops : List SysOp) (s s' : Sys) (pk : List Packet)
    (h1 : Inv1 cfg s pk) (h : s.run ops = some s') :
    ((∀ op ∈ ops, ∀ ch m, op ≠ .sendA ch m) → Q s.a → Q s'.a) ∧ (Q s.b → Q s'.b) :=
  (run_induction (I := fun _ x => (∃ pk, Inv1 cfg x pk) ∧
      ((∀ op ∈ ops, ∀ ch m, op ≠ .sendA ch m) → Q s.a → Q x.a) ∧ (Q s.b → Q x.b)) ops 0
    (fun hop ⟨⟨_, h1⟩, b1, b2⟩ hs => ⟨⟨_, inv1_step h1 hs⟩, fun hn q => (k.step h1 hs).1 (hn _ hop) (b1 hn q),
      fun q => (k.step h1 hs).2 (b2 q)⟩) ⟨⟨pk, h1⟩, fun _ => id, id⟩ h).2

theorem step_frame {s s' : Sys} {op : SysOp} (hs : s.step op = some s') (hop : ∀ ch m, op ≠ .sendA ch m) :
    (op ≠ .flushA → s'.a.packetSeq = s.a.packetSeq) ∧ (op ≠ .flushB → s'.b.packetSeq = s.b.packetSeq) ∧
    ((∀ k, op ≠ .deliverToB k) → s'.b.pendingAcks = s.b.pendingAcks) := by
  cases stepped hs with
  | sendA _ => exact absurd rfl (hop _ _)
  | updA hm => exact ⟨fun _ => (Conn.update_frame hm).packetSeq, fun _ => rfl, fun _ => rfl⟩
  | flushA _ => exact ⟨fun h => absurd rfl h, fun _ => rfl, fun _ => rfl⟩
  | deliverToA _ hm => exact ⟨fun _ => (SL.Conn.processPacket_fixed hm).2.2, fun _ => rfl, fun _ => rfl⟩
  | recvB hm =>
    obtain ⟨hsame, hp⟩ := SI.Conn.receiveMessage_same hm
    exact ⟨fun _ => rfl, fun _ => hsame.2.2.2.1, fun _ => hp⟩
  | updB hm =>
    obtain ⟨-, -, x3, -, x5, -⟩ := Conn.update_frame hm
    exact ⟨fun _ => rfl, fun _ => x3, fun _ => x5⟩
  | flushB hm => exact ⟨fun _ => rfl, fun h => absurd rfl h, fun _ => (flush_facts hm).2.2.2.2.2.1⟩
  | deliverToB _ hm => exact ⟨fun _ => rfl, fun _ => (SL.Conn.processPacket_fixed hm).2.2, fun h => absurd rfl (h _)⟩

theorem run_frame (ops : List SysOp) (s s' : Sys) (h : s.run ops = some s')
    (hno : ∀ op ∈ ops, ∀ ch m, op ≠ .sendA ch m) :
    s'.submitted = s.submitted ∧ s'.submittedU = s.submittedU ∧
    ((∀ op ∈ ops, op ≠ .flushA) → s'.a.packetSeq = s.a.packetSeq) ∧
    ((∀ op ∈ ops, op ≠ .flushB) → s'.b.packetSeq = s.b.packetSeq) ∧
    ((∀ op ∈ ops, ∀ k, op ≠ .deliverToB k) → s'.b.pendingAcks = s.b.pendingAcks) := by
  refine run_induction (I := fun _ x => x.submitted = s.submitted ∧ x.submittedU = s.submittedU ∧
      ((∀ op ∈ ops, op ≠ .flushA) → x.a.packetSeq = s.a.packetSeq) ∧
      ((∀ op ∈ ops, op ≠ .flushB) → x.b.packetSeq = s.b.packetSeq) ∧
      ((∀ op ∈ ops, ∀ k, op ≠ .deliverToB k) → x.b.pendingAcks = s.b.pendingAcks)) ops 0
    (fun hop ⟨b3, b4, b5, b6, b7⟩ hs => ?_) ⟨rfl, rfl, fun _ => rfl, fun _ => rfl, fun _ => rfl⟩ h
  obtain ⟨a3, a4⟩ := (step_leaves hs).2.2.1 (hno _ hop)
  obtain ⟨a5, a6, a7⟩ := step_frame hs (hno _ hop)
  exact ⟨a3.trans b3, a4.trans b4, fun hn => (a5 (hn _ hop)).trans (b5 hn),
    fun hn => (a6 (hn _ hop)).trans (b6 hn), fun hn => (a7 (hn _ hop)).trans (b7 hn)⟩

theorem flush_seq_le {c c' : Conn} {bs : List Bytes} (hinv : c.Inv) (hcnt : c.CountersOK)
    (h : c.getPacketsToSend = .ok (c', bs)) : c'.packetSeq ≤ c.flushSeq := by
  obtain ⟨c2, bs2, e, -, -, hle⟩ := Conn.getPacketsToSend_fits c (CI.flushInv_of hinv hcnt) hcnt.seq
  cases e.symm.trans h
  exact hle

theorem roundOps_nosend (ch : Nat) (ks : List Nat) (n : Nat) :
    (∀ op ∈ roundOps ch ks n, ∀ c m, op ≠ .sendA c m) ∧ ∀ op ∈ roundOps ch ks n, op ≠ .flushB := by
  refine ⟨?_, ?_⟩
  · intro op hop c m e
    subst e
    simp [roundOps] at hop
  · intro op hop e
    subst e
    simp [roundOps] at hop

/-- **the counters across one full round** `s —updA→ su —roundOps→ u —flushB ; deliverToA→ v`; `R`: the round from `su` -/
theorem round_headroom (cfg : Cfg) (ops : List SysOp) (s : Sys) (hr : (Sys.init cfg).run ops = some s)
    (dt : Nat) (su : Sys) (hsu : s.step (.updA dt) = some su) {pkA : List Packet} {ch n : Nat} {ks : List Nat} {a1 : Conn}
    {bs : List Bytes} {t u : Sys} (R : Round cfg su pkA ch ks n a1 bs t u) :
    u.b.packetSeq = s.b.packetSeq ∧ (StaticOK s.b → StaticOK u.b) ∧
    ∀ (ai : Nat) (v : Sys), u.run [.flushB, .deliverToA ai] = some v → u.b.CountersOK →
      v.a.packetSeq ≤ su.a.flushSeq ∧ v.b.packetSeq ≤ u.b.flushSeq ∧ v.b.pendingAcks = u.b.pendingAcks ∧
      (StaticOK s.a → StaticOK v.a) ∧ (StaticOK s.b → StaticOK v.b) ∧
      v.submitted = s.submitted ∧ v.submittedU = s.submittedU := by
  obtain ⟨pk, h1, -⟩ := system_inv cfg ops s hr
  have h1u := R.inv0.i1
  have h1U := R.invU.i1
  have hu := R.run_u
  obtain ⟨a3, a4⟩ := (step_leaves hsu).2.2.1 (by intro c m e; cases e)
  obtain ⟨-, a6, -⟩ := step_frame hsu (by intro c m e; cases e)
  obtain ⟨sa1, sa2⟩ := keptC_static.step h1 hsu
  obtain ⟨n1, n2⟩ := roundOps_nosend ch ks n
  obtain ⟨b3, b4, -, b6, -⟩ := run_frame _ su u hu n1
  obtain ⟨-, sb2⟩ := keptC_static.run cfg _ su u _ h1u hu
  refine ⟨(b6 n2).trans (a6 (by intro e; cases e)), fun x => sb2 (sa2 x), ?_⟩
  intro ai v hv hcB
  -- A: its flush is the round's; the way back: B's flush, then A takes in a datagram
  have hle1 : u.a.packetSeq ≤ su.a.flushSeq := by
    rw [R.ua]; exact flush_seq_le (reach_conn h1u.reachA).1 R.cntA R.flush
  have hstA : StaticOK s.a → StaticOK u.a := fun x => by
    rw [R.ua]; exact keptC_static.flush R.flush (sa1 (by intro c m e; cases e) x)
  obtain ⟨sc1, sc2⟩ := keptC_static.run cfg _ u v _ h1U hv
  have hns : ∀ op ∈ [SysOp.flushB, .deliverToA ai], ∀ c m, op ≠ .sendA c m := by
    intro op hop c m e; subst e; simp at hop
  obtain ⟨f3, f4, f5, -, f7⟩ := run_frame _ u v hv hns
  -- B's flush, then a datagram for A, which leaves B's counter alone
  obtain ⟨w, hs2, hv⟩ := run_cons hv
  obtain ⟨v', hs3, hv⟩ := run_cons hv
  cases run_nil hv
  have hle2 : w.b.packetSeq ≤ u.b.flushSeq := by
    cases stepped hs2 with
    | flushB e => exact flush_seq_le (reach_conn h1U.reachB).1 hcB e
  have x6 := (step_frame hs3 (by intro c m e; cases e)).2.1 (by intro e; cases e)
  exact ⟨by rw [f5 (by simp)]; exact hle1, by omega, f7 (by simp), fun x => sc1 hns (hstA x), fun x => sc2 (sb2 (sa2 x)),
    by rw [f3, b3, a3], by rw [f4, b4, a4]⟩

/-! ## Part 4 — schedule facts + head-room on the initial state ⟹ `Rounds` -/

/-- what the environment does in one round, seen from the state `su` A's flush starts from: SCHEDULE FACTS only -/
structure TickSched (ch : Nat) (Sched : Sys → Prop) (su : Sys) (r : RoundP) : Prop where
  /-- the scheduling hypothesis of the theorem at hand (H2 / H4) -/
  sched : Sched su
  /-- lossless: every datagram of this flush is handed to B … -/
  all : ∀ k ∈ newIdx su, k ∈ r.ks
  /-- … and nothing else -/
  exact : ∀ k ∈ r.ks, k ∈ newIdx su
  /-- the round hands B at least one datagram (with `exact`: A's flush emitted something) -/
  nonempty : r.ks ≠ []
  /-- the way back: B's flush is ONE datagram (B's application has no traffic of its own — the mirror image of H4;
      the system model has no `sendB`), and it is the one handed to A -/
  back : ∀ u, su.run (roundOps ch r.ks r.n) = some u → r.ai = ackIdx u ∧ (flushPk u.b).length = 1

structure RoundSched (ch : Nat) (Sched : Sys → Prop) (s : Sys) (r : RoundP) : Prop where
  /-- the clock advances by at least the resend time of the channel -/
  timer : ∀ sA, SMap.find? s.a.sendRel ch = some sA → sA.resend ≤ r.dt
  /-- B's application asks often enough -/
  drain : (s.submitted ch).length ≤ (s.obtained ch).length + r.n
  tick : ∀ su, s.step (.updA r.dt) = some su → TickSched ch Sched su r

/-- the schedule facts hold for every round of `rs`, each in the state the previous rounds lead to -/
def RoundsSched (ch : Nat) (Sched : Sys → Prop) : Sys → List RoundP → Prop
  | _, [] => True
  | s, r :: rs => RoundSched ch Sched s r ∧ ∀ v, s.run (r.ops ch) = some v → RoundsSched ch Sched v rs

/-- number of datagrams the schedule hands to B over the rounds `rs` (repetitions counted) -/
def kTotal : List RoundP → Nat
  | [] => 0
  | r :: rs => r.ks.length + kTotal rs

/-- **HEAD-ROOM on the state the first round starts from** (with the schedule's datagram count `kTotal rs`):
    the system counters are in range, the static counters of both endpoints are in range, A's packet sequence can
    grow by one per datagram handed over plus one per round, B's by two per round, and B's pending-ack list has room
    for one more range per datagram handed over. -/
structure HeadRoom (cfg : Cfg) (s : Sys) (rs : List RoundP) : Prop where
  sys : CountersOK cfg s
  staticA : StaticOK s.a
  staticB : StaticOK s.b
  seqA : s.a.packetSeq + kTotal rs + rs.length ≤ Varint.MAX + 1
  seqB : s.b.packetSeq + 2 * rs.length ≤ Varint.MAX + 1
  acks : s.b.pendingAcks.length + kTotal rs < ACK_RANGE_CAP

theorem newIdx_length_le {su : Sys} {ks : List Nat} (hall : ∀ k ∈ newIdx su, k ∈ ks) :
    (flushPk su.a).length ≤ ks.length := by
  have := List.Nodup.length_le_of_subset (l₁ := newIdx su) (by unfold newIdx; exact List.nodup_range') hall
  unfold newIdx at this
  rw [List.length_range'] at this
  exact this

/-- `P s rs` — whatever is known of the schedule `rs` and of the state
    `s` its first round starts from — gives the side conditions of the first round and holds again, for the remaining
    rounds, in the state that round leads to: then it gives `Rounds`.  (The state after a round is live, with room at
    B, by `full_round_inv` with nothing covered; `hS`: the scheduling hypothesis yields H4.) -/
theorem rounds_of_round (cfg : Cfg) (ch : Nat) (ord : Bool) (ho : KindOf cfg ch ord) (Sched : Sys → Prop)
    (hS : ∀ ops' su, (Sys.init cfg).run ops' = some su → Sched su → ∀ p ∈ flushPk su.a, OnlyCh ch p)
    (P : Sys → List RoundP → Prop)
    (hP : ∀ (r : RoundP) (rs : List RoundP) (ops : List SysOp) (s : Sys) (sA : SendRel) (rB : RecvRel),
      (Sys.init cfg).run ops = some s → Standing cfg ch s sA rB →
      P s (r :: rs) → RoundOK cfg ch Sched s r ∧ ∀ v, s.run (r.ops ch) = some v → P v rs) :
    ∀ (rs : List RoundP) (ops : List SysOp) (s : Sys) (sA : SendRel) (rB : RecvRel),
      (Sys.init cfg).run ops = some s → Standing cfg ch s sA rB → P s rs → Rounds cfg ch Sched s rs
  | [], _, _, _, _, _, _, _ => trivial
  | r :: rs, ops, s, sA, rB, hr, hst, hp => by
    obtain ⟨hok, hnext⟩ := hP r rs ops s sA rB hr hst hp
    refine ⟨hok, fun v hv => ?_⟩
    obtain ⟨pk, h1, -⟩ := system_inv cfg ops s hr
    obtain ⟨su, hsu⟩ := updA_step h1 r.dt
    have tk := hok.tick su hsu
    obtain ⟨v', sA', rB', hv', -, hst', -⟩ :=
      full_round_inv hst ord ho r.dt (hok.timer sA hst.findA) su hsu tk.counters tk.countersA 0
        (by simp only [List.take_zero, backlog_nil]; exact Nat.zero_le _) (hS _ su (run_snoc hr hsu) tk.sched) r.ks tk.all
        tk.exact r.n hok.drain tk.cap r.ai tk.back
    cases Option.some.inj (hv'.symm.trans hv)
    exact rounds_of_round cfg ch ord ho Sched hS P hP rs (ops ++ r.ops ch) v sA' rB' (by rw [Sys.run_append, hr]; exact hv) hst'
      (hnext v hv)

/-! ## Part 5 — the schedule facts and the head-room are decidable (the concrete example checks them by evaluation) -/

instance (c : Conn) : Decidable (StaticOK c) :=
  decidable_of_iff (_ ∧ _) ⟨fun h => ⟨h.1, h.2⟩, fun h => ⟨h.rel, h.unrel⟩⟩

instance (cfg : Cfg) (s : Sys) (rs : List RoundP) : Decidable (HeadRoom cfg s rs) :=
  decidable_of_iff (_ ∧ _ ∧ _ ∧ _ ∧ _ ∧ _)
    ⟨fun h => ⟨h.1, h.2.1, h.2.2.1, h.2.2.2.1, h.2.2.2.2.1, h.2.2.2.2.2⟩,
     fun h => ⟨h.sys, h.staticA, h.staticB, h.seqA, h.seqB, h.acks⟩⟩

section
variable {ch : Nat} {Sched : Sys → Prop} [DecidablePred Sched]

instance (su : Sys) (r : RoundP) : Decidable (TickSched ch Sched su r) :=
  decidable_of_iff (_ ∧ _ ∧ _ ∧ _ ∧ _)
    ⟨fun h => ⟨h.1, h.2.1, h.2.2.1, h.2.2.2.1, h.2.2.2.2⟩, fun h => ⟨h.sched, h.all, h.exact, h.nonempty, h.back⟩⟩

instance (s : Sys) (r : RoundP) : Decidable (RoundSched ch Sched s r) :=
  decidable_of_iff (_ ∧ _ ∧ _) ⟨fun h => ⟨h.1, h.2.1, h.2.2⟩, fun h => ⟨h.timer, h.drain, h.tick⟩⟩

instance RoundsSched.dec : ∀ (s : Sys) (rs : List RoundP), Decidable (RoundsSched ch Sched s rs)
  | _, [] => isTrue trivial
  | s, r :: rs =>
    have := fun v => RoundsSched.dec v rs
    inferInstanceAs (Decidable (RoundSched ch Sched s r ∧ ∀ v, s.run (r.ops ch) = some v → RoundsSched ch Sched v rs))

end

end RenetVerif.LiveKC
