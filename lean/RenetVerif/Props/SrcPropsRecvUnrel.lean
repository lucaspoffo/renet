/-
  C09 (memory accounting returns on the receive side) stated DIRECTLY about the generated
  `ReceiveChannelUnreliable::{process_message, receive_message}` of `Generated/Src/RecvUnrel.lean` (derived from
  `renet/src/channel/unreliable.rs`).  The model (`RecvUnrel`) appears only in the proofs:
  `SrcTieRecvUnrel` (generated = model) ∘ `Props/C09` (`unreliable_receive_returns_bytes`,
  `receive_nothing_changes_nothing`).

  `WfRU c` is intrinsic: queued bytes are bytes, and every stored slice constructor carries its map key as `message_id`
  and holds bytes (what `process_slice` inserts).
-/
import RenetVerif.Props.SrcTieRecvUnrel
import RenetVerif.Props.C09
import RenetVerif.Lemmas.SrcCorollaries
namespace RenetVerif.SrcCor
open RenetVerif RenetVerif.SrcEquiv RenetVerif.SrcTie RenetVerif.RustSem
open Src.renet.channel.unreliable

def absRU (c : ReceiveChannelUnreliable) : RecvUnrel :=
  ⟨c.channel_id, c.messages.map ofNats, c.slices.map (fun p => (p.1, absSC p.2)), c.slices_last_received,
   c.max_memory_usage_bytes, c.memory_usage_bytes⟩

def WfRU (c : ReceiveChannelUnreliable) : Prop :=
  (∀ m ∈ c.messages, BytesOk m) ∧ ∀ p ∈ c.slices, p.2.message_id = p.1 ∧ BytesOk p.2.sliced_data

theorem reprSlices_abs (l : RustSem.Map SSliceCtor) (h : ∀ p ∈ l, p.2.message_id = p.1 ∧ BytesOk p.2.sliced_data) :
    reprSlices (l.map fun p => (p.1, absSC p.2)) = l :=
  map_map_cancel l fun ⟨k, st⟩ hp => by
    obtain ⟨rfl, hb⟩ : st.message_id = k ∧ BytesOk st.sliced_data := h _ hp
    exact congrArg (Prod.mk _) (reprSC_absSC st hb)

theorem reprRU_absRU (c : ReceiveChannelUnreliable) (h : WfRU c) : reprRU (absRU c) = c := by
  cases c with
  | mk ch msgs sl lr mx mem =>
    simp only [reprRU, absRU]
    rw [map_toNats_ofNats msgs h.1, reprSlices_abs sl h.2]

/-- what C09 leaves unsaid about `receive`: `none` only from an empty queue; channel id and slice timestamps stay -/
theorem receive_frame {r r' : RecvUnrel} {o : Option Bytes} (h : r.receive = .ok (r', o)) :
    (o = none → r.messages = []) ∧ r'.lastReceived = r.lastReceived ∧ r'.ch = r.ch := by
  unfold RecvUnrel.receive at h
  cases hm : r.messages with
  | nil =>
    rw [hm] at h
    obtain ⟨rfl, _⟩ := Prod.mk.inj (Res.ok.inj h)
    exact ⟨fun _ => rfl, rfl, rfl⟩
  | cons m rest =>
    rw [hm] at h
    simp only [Res.csub] at h
    split at h
    · simp only [Res.bind_ok, Res.pure_eq] at h
      obtain ⟨rfl, rfl⟩ := Prod.mk.inj (Res.ok.inj h)
      exact ⟨nofun, rfl, rfl⟩
    · cases h

end RenetVerif.SrcCor

namespace RenetVerif.SrcProps
open RenetVerif RenetVerif.SrcEquiv RenetVerif.SrcTie RenetVerif.SrcCor RenetVerif.RustSem
open Src.renet.channel.unreliable

/-- **C09, `receive_message` returns exactly the bytes it hands out.**  Whenever the generated `receive_message`
    returns `Some(m)`, `m` was the oldest queued message, it has been removed from the queue, and
    `memory_usage_bytes` has decreased by exactly `m.len()`; the limit and the slice table are untouched.  When it
    returns `None` the queue was empty and the channel is unchanged. -/
theorem recv_unrel_receive_accounting {ε : Type} (c : ReceiveChannelUnreliable) (h : WfRU c)
    (c' : ReceiveChannelUnreliable) (o : Option (List Nat))
    (hr : (ReceiveChannelUnreliable.receive_message c : Res ε _) = .ok (c', o)) :
    (o = none → c' = c ∧ c.messages = []) ∧
    (∀ m, o = some m → c.messages = m :: c'.messages ∧ c.memory_usage_bytes = c'.memory_usage_bytes + m.length ∧
        c'.max_memory_usage_bytes = c.max_memory_usage_bytes ∧ c'.slices = c.slices ∧
        c'.slices_last_received = c.slices_last_received ∧ c'.channel_id = c.channel_id) := by
  have hc := reprRU_absRU c h
  rw [← hc] at hr ⊢
  generalize absRU c = r at hr ⊢
  rw [recv_unrel_receive_message] at hr
  cases hrec : r.receive with
  | err e => exact nomatch e
  | panic s => rw [hrec] at hr; cases hr
  | ok x =>
    obtain ⟨r', o'⟩ := x
    rw [hrec] at hr
    obtain ⟨rfl, rfl⟩ := Prod.mk.inj (Res.ok.inj hr)
    obtain ⟨f1, f2, f3⟩ := receive_frame hrec
    cases o' with
    | none =>
      obtain rfl := (C09.receive_nothing_changes_nothing (RecvRel.new 0 false) (RecvRel.new 0 false) r r').2 hrec
      exact ⟨fun _ => ⟨rfl, by simp [reprRU, f1 rfl]⟩, fun m hm => by cases hm⟩
    | some m =>
      refine ⟨fun hn => (by cases hn), fun m' hm' => ?_⟩
      obtain rfl := Option.some.inj hm'
      obtain ⟨e1, e2, e3, e4⟩ := C09.unreliable_receive_returns_bytes r r' m hrec
      simp only [reprRU, e4, List.map_cons, toNats_length, e1, e2, e3, f2, f3, and_self]

/-- **C09, `receive_message` never panics while the counter covers the queue** (`Σ queued lengths ≤
    memory_usage_bytes`, which every reachable state satisfies with equality up to the slice reservations) -/
theorem recv_unrel_receive_total {ε : Type} (c : ReceiveChannelUnreliable) (h : WfRU c)
    (hcov : (c.messages.map List.length).sum ≤ c.memory_usage_bytes) :
    ∃ c' o, (ReceiveChannelUnreliable.receive_message c : Res ε _) = .ok (c', o) := by
  have hc := reprRU_absRU c h
  have hcov' : ((absRU c).messages.map List.length).sum ≤ (absRU c).mem := by
    simpa [absRU, Function.comp_def, ofNats] using hcov
  rw [← hc]
  generalize absRU c = r at hcov' ⊢
  rw [recv_unrel_receive_message]
  unfold RecvUnrel.receive
  cases hm : r.messages with
  | nil => exact ⟨_, _, rfl⟩
  | cons m rest =>
    rw [hm] at hcov'
    simp only [List.map_cons, List.sum_cons] at hcov'
    simp only [Res.csub, if_pos (show m.length ≤ r.mem by omega), Res.bind_ok, Res.pure_eq]
    exact ⟨_, _, rfl⟩

/-- **C09, `process_message` keeps the counter exact**: it queues the message and adds its length, or (memory limit)
    leaves the channel unchanged; then `receive_message` gives the bytes back (previous theorem). -/
theorem recv_unrel_process_message_accounting {ε : Type} (c : ReceiveChannelUnreliable) (h : WfRU c) (m : List Nat)
    (hm : BytesOk m) (hfit : c.memory_usage_bytes + m.length < 2 ^ 64) :
    ∃ c1, (ReceiveChannelUnreliable.process_message c m : Res ε _) = .ok (c1, ()) ∧
      (c1 = c ∨ (c1 = { c with messages := c.messages ++ [m], memory_usage_bytes := c.memory_usage_bytes + m.length } ∧
                 c.memory_usage_bytes + m.length ≤ c.max_memory_usage_bytes)) := by
  have he := recv_unrel_process_message (ε := ε) (absRU c) (ofNats m)
    (by simpa [absRU, ofNats] using hfit)
  rw [reprRU_absRU c h, toNats_ofNats hm] at he
  refine ⟨_, he, ?_⟩
  unfold RecvUnrel.processMessage
  have hl : (ofNats m).length = m.length := by simp [ofNats]
  by_cases hlim : (absRU c).mem + (ofNats m).length > (absRU c).maxMem
  · rw [if_pos hlim, reprRU_absRU c h]; exact .inl rfl
  · rw [if_neg hlim]
    right
    simp only [absRU, hl] at hlim
    refine ⟨?_, by omega⟩
    have hc := reprRU_absRU c h
    cases c with
    | mk ch msgs sl lr mx mem =>
      simp only [reprRU, absRU] at hc ⊢
      simp only [ReceiveChannelUnreliable.mk.injEq] at hc
      simp only [List.map_append, List.map_cons, List.map_nil, toNats_ofNats hm, hc.2.1, hc.2.2.1, hl]

example : (ReceiveChannelUnreliable.receive_message ⟨0, [[1], [2, 3]], [], [], 10, 3⟩ : Res Empty _) =
    .ok (⟨0, [[2, 3]], [], [], 10, 2⟩, some [1]) := by decide +kernel
/-- process two messages, receive both: the counter goes 0 → 1 → 3 → 2 → 0 -/
example : ((ReceiveChannelUnreliable.new 0 10 >>= fun c => ReceiveChannelUnreliable.process_message c [1] >>= fun r =>
    ReceiveChannelUnreliable.process_message r.1 [2, 3] >>= fun r =>
    ReceiveChannelUnreliable.receive_message r.1 >>= fun r =>
    ReceiveChannelUnreliable.receive_message r.1 >>= fun r => .ok (r.1.memory_usage_bytes, r.2)) : Res Empty _) =
    .ok (0, some [2, 3]) := by decide +kernel
example : ([[1], [2, 3]] : List (List Nat)) = [1] :: [[2, 3]] ∧ 3 = 2 + [1].length :=
  have := (recv_unrel_receive_accounting (ε := Empty) ⟨0, [[1], [2, 3]], [], [], 10, 3⟩
    ⟨by decide, by intro p hp; cases hp⟩ ⟨0, [[2, 3]], [], [], 10, 2⟩ (some [1]) (by decide +kernel)).2 [1] rfl
  ⟨this.1, this.2.1⟩

end RenetVerif.SrcProps
