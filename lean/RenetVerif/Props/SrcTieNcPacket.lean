/-
  Source tie, group NcPacket: `renetcode/src/packet.rs` `Packet::{packet_type, id, write, read}` (the netcode
  `Packet<'a>`; it shares its simple name with renet's `Packet`, the translator keys it `renetcode::Packet`)
  ↔ `Netcode.Packet.{packetType, id, write, read}` of `Netcode/Wire.lean`.

  `reprNP` / `reprPT` map model packets / packet types to the generated enums (byte strings via `toNats`).
  `write` is stated over the write-cursor model of group NcSerialize: `wcur w tail` is the `Cursor<&mut [u8]>` after the
  model writer `w` (`WrOk` ties the buffer size to `w.cap`); `WOut` says: the cursor of the model's final writer, or
  some `io::Error` exactly when a `write_all` of the model fails.  `read` (with `Cursor::new(src)` and the array lengths
  of `read_bytes` inferred from the variant fields) returns the model's packet, `io::Error` exactly when the model reader
  hits the end of the input, and reaches `unreachable!()` exactly for the `Payload` type the model also marks unreachable.
-/
import RenetVerif.Lemmas.SrcEquiv.NcPacket
import RenetVerif.Props.SrcTieNcSerialize
namespace RenetVerif.SrcTie
open RenetVerif RenetVerif.SrcEquiv RenetVerif.RustSem

theorem nc_packet_packet_type {ε : Type} (p : Netcode.Packet) :
    (Src.renetcode.packet.Packet.packet_type (reprNP p) : Res ε _) = .ok (reprPT p.packetType) := by
  cases p <;> rfl

theorem nc_packet_id {ε : Type} (p : Netcode.Packet) :
    (Src.renetcode.packet.Packet.id (reprNP p) : Res ε Nat) = .ok p.id := by
  cases p <;> rfl

theorem nc_packet_write {w : Netcode.Wr} {tail : List Nat} (h : WrOk w tail) (p : Netcode.Packet) :
    WOut w tail (p.write w) (Src.renetcode.packet.Packet.write (reprNP p) (wcur w tail)) :=
  (np_write_x h p).wout

theorem nc_packet_read (ty : Netcode.PacketType) (src : Bytes) :
    SameOutcome (Src.renetcode.packet.Packet.read (reprPT ty) (toNats src))
      (mapRes reprNP (fun _ => IoError.opaque) (Netcode.Packet.read ty src)) := by
  unfold Src.renetcode.packet.Packet.read Netcode.Packet.read
  have hsuf : src <:+ src := List.suffix_refl _
  cases ty with
  | payload | connectionDenied | disconnect => exact rfl
  | keepAlive =>
    simp only [reprPT, Exec.bind_eq, Exec.pure_eq, Exec.bind_val', rcur_new, reduceCtorEq, if_false, (nc_read_uN _ _ hsuf).2.1]
    refine read_step (fun _ _ => readU_suffix) hsuf _ _ fun i r1 hs1 => ?_
    simp only [(nc_read_uN _ _ hs1).2.1]
    refine read_step (fun _ _ => readU_suffix) hs1 _ _ fun m r2 _ => ?_
    exact rfl
  | challenge | response =>
    simp only [reprPT, Exec.bind_eq, Exec.pure_eq, Exec.bind_val', rcur_new, reduceCtorEq, if_false, (nc_read_uN _ _ hsuf).1]
    refine read_step (fun _ _ => readU_suffix) hsuf _ _ fun sq r1 hs1 => ?_
    simp only [nc_read_bytes _ _ hs1]
    refine read_step (fun _ _ => readN_suffix) hs1 _ _ fun d r2 _ => ?_
    exact rfl
  | connectionRequest =>
    simp only [reprPT, Exec.bind_eq, Exec.pure_eq, Exec.bind_val', rcur_new, reduceCtorEq, if_false, nc_read_bytes _ _ hsuf]
    refine read_step (fun _ _ => readN_suffix) hsuf _ _ fun v r1 hs1 => ?_
    simp only [(nc_read_uN _ _ hs1).1]
    refine read_step (fun _ _ => readU_suffix) hs1 _ _ fun pid r2 hs2 => ?_
    simp only [(nc_read_uN _ _ hs2).1]
    refine read_step (fun _ _ => readU_suffix) hs2 _ _ fun e r3 hs3 => ?_
    simp only [nc_read_bytes _ _ hs3]
    refine read_step (fun _ _ => readN_suffix) hs3 _ _ fun x r4 hs4 => ?_
    simp only [nc_read_bytes _ _ hs4]
    refine read_step (fun _ _ => readN_suffix) hs4 _ _ fun d r5 _ => ?_
    exact rfl

example : Src.renetcode.packet.Packet.write (.KeepAlive 1 258) ⟨List.replicate 10 0, 1⟩ =
    .ok (⟨[0, 1, 0, 0, 0, 2, 1, 0, 0, 0], 9⟩, ()) := by decide +kernel
/-- the second `write_all` does not fit: `Err` with the cursor std leaves behind (buffer filled to its end) -/
example : Src.renetcode.packet.Packet.write (.KeepAlive 1 258) ⟨List.replicate 6 0, 0⟩ =
    .err (.opaque, ⟨[1, 0, 0, 0, 2, 1], 6⟩) := by decide +kernel
/-- the or-pattern `Challenge {..} | Response {..}`: both are written the same way -/
example : Src.renetcode.packet.Packet.write (.Challenge 7 [9, 9]) ⟨List.replicate 10 0, 0⟩ =
    Src.renetcode.packet.Packet.write (.Response 7 [9, 9]) ⟨List.replicate 10 0, 0⟩ := by decide +kernel
example : Src.renetcode.packet.Packet.read .KeepAlive [1, 0, 0, 0, 2, 1, 0, 0, 77] = .ok (.KeepAlive 1 258) := by
  decide +kernel
example : Src.renetcode.packet.Packet.read .KeepAlive [1, 0, 0, 0, 2, 1, 0] = .err .opaque := by decide +kernel
example : Src.renetcode.packet.Packet.read .Payload [1, 2, 3] = .ok (.Payload [1, 2, 3]) := by decide +kernel
/-- a challenge body is the sequence and `NETCODE_CHALLENGE_TOKEN_BYTES` = 300 token bytes (length inferred from the
    variant field) -/
example : Src.renetcode.packet.Packet.read .Challenge ([5, 0, 0, 0, 0, 0, 0, 0] ++ List.replicate 300 7) =
    .ok (.Challenge 5 (List.replicate 300 7)) := by decide +kernel
example : Src.renetcode.packet.Packet.read .Challenge ([5, 0, 0, 0, 0, 0, 0, 0] ++ List.replicate 299 7) = .err .opaque := by
  decide +kernel

end RenetVerif.SrcTie
