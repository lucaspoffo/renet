/-
  E. pending-ack bookkeeping: generated `RenetClient::{add_pending_ack, acked_largest}` (of the struct `RenetClient` only
  `pending_acks`) agree with `Acks.add 64` / `Acks.ackedLargest`.
  The ties themselves are in `Props/SrcTieAcks.lean`.
-/
import RenetVerif.Generated.Src.Acks
import RenetVerif.Lemmas.SrcEquiv.Prims
import RenetVerif.Lemmas.SrcEquiv.Loops
import RenetVerif.Renet.Acks
namespace RenetVerif.SrcEquiv
open RenetVerif RenetVerif.RustSem

section Acks
open Src.renet.remote_connection

/-- model range ↦ generated `Range<u64>` -/
def ackR (r : AckRange) : RustSem.Range := ⟨r.1, r.2⟩
/-- model pending-ack list ↦ generated struct: `base` with these pending acks (the two functions touch no other field) -/
def reprAcks (base : RenetClient) (l : List AckRange) : RenetClient := { base with pending_acks := l.map ackR }
/-- generated ↦ model -/
def absAcks (c : RenetClient) : List AckRange := c.pending_acks.map fun r => (r.start, r.«end»)

theorem absAcks_reprAcks (base : RenetClient) (l : List AckRange) : absAcks (reprAcks base l) = l := by
  simp [absAcks, reprAcks, ackR, Function.comp_def]
theorem reprAcks_absAcks (c : RenetClient) : reprAcks c (absAcks c) = c := by
  cases c; simp [absAcks, reprAcks, ackR, Function.comp_def]

variable {base : RenetClient}

section lists
variable {α : Type}
theorem getElem?_mid (pre : List α) (x : α) (rest : List α) : (pre ++ x :: rest)[pre.length]? = some x := by
  simp
theorem set_mid (pre : List α) (x y : α) (rest : List α) : (pre ++ x :: rest).set pre.length y = pre ++ y :: rest := by
  simp
theorem getElem?_mid1 (pre : List α) (x y : α) (rest : List α) : (pre ++ x :: y :: rest)[pre.length + 1]? = some y := by
  rw [List.getElem?_append_right (by omega)]; simp
theorem eraseIdx_mid1 (pre : List α) (x y : α) (rest : List α) :
    (pre ++ x :: y :: rest).eraseIdx (pre.length + 1) = pre ++ x :: rest := by
  rw [List.eraseIdx_append_of_length_le (by omega)]; simp
theorem take_drop_mid (pre suf : List α) (z : α) :
    (pre ++ suf).take pre.length ++ z :: (pre ++ suf).drop pre.length = pre ++ z :: suf := by
  simp
end lists

theorem set_val0 {ε ρ α : Type} (x y : α) (r : List α) (site : String) :
    (RustSem.set (x :: r) 0 y site : Exec ε ρ _) = .val (y :: r) := by
  simp [RustSem.set]
theorem remove_val0 {ε ρ α : Type} (x : α) (r : List α) (site : String) :
    (RustSem.vec_remove (x :: r) 0 site : Exec ε ρ _) = .val r := by
  simp [RustSem.vec_remove]
theorem remove_val {ε ρ α : Type} {l : List α} {i : Nat} {site : String} (h : i < l.length) :
    (RustSem.vec_remove l i site : Exec ε ρ _) = .val (l.eraseIdx i) := by
  simp [RustSem.vec_remove, h]
theorem index_val0 {ε ρ α : Type} (x : α) (r : List α) (site : String) :
    (RustSem.index (x :: r) 0 site : Exec ε ρ _) = .val x := by
  simp [RustSem.index]

theorem acked_largest_eq {ε : Type} (l : List AckRange) (largest : Nat) (hl : ∀ r ∈ l, r.2 < 2 ^ 64)
    (hfit : l.length + 1 < 2 ^ 64) :
    (RenetClient.acked_largest (reprAcks base l) largest : Res ε _) = .ok (reprAcks base (Acks.ackedLargest largest l), ()) := by
  unfold RenetClient.acked_largest
  have hlen : RustSem.len (reprAcks base l).pending_acks = l.length := by simp [RustSem.len, reprAcks]
  simp only [hlen, add_val hfit, Exec.bind_eq, Exec.pure_eq, Exec.bind_val']
  refine whileFuel_elim (fun t l => t = reprAcks base l ∧ ∀ r ∈ l, r.2 < 2 ^ 64) (Acks.ackedLargest largest) List.length _ _ _ _
    l ⟨rfl, hl⟩ (Nat.lt_succ_self _) ?_
  rintro _ l' ⟨rfl, hl'⟩ _
  cases l' with
  | nil => exact .inr ⟨trivial, rfl⟩
  | cons x rest =>
    obtain ⟨s, e⟩ := x
    have he : e < 2 ^ 64 := hl' (s, e) (by simp)
    simp only [reprAcks, List.map_cons, RustSem.is_empty, List.isEmpty_cons, Bool.not_false, if_true, index_val0,
      Exec.bind_val', ackR, Acks.ackedLargest]
    by_cases h1 : largest < s
    · simp only [h1, decide_true, if_true, Exec.bind_ret']
      exact .inr ⟨trivial, rfl⟩
    simp only [h1, decide_false, Bool.false_eq_true, if_false, Exec.bind_val']
    by_cases h2 : e ≤ largest
    · simp only [h2, decide_true, if_true, remove_val0, Exec.bind_val', Exec.bind_ret']
      exact .inl ⟨_, rest, goesOn_cont _, ⟨rfl, fun r hr => hl' r (List.mem_cons_of_mem _ hr)⟩, Nat.lt_succ_self _, rfl⟩
    have h3 : largest + 1 < 2 ^ 64 := by omega
    simp only [h2, decide_false, Bool.false_eq_true, if_false, Exec.bind_val', add_val h3, set_val0, index_val0,
      RustSem.Range.is_empty]
    by_cases h4 : largest + 1 ≥ e
    · have : ¬ largest + 1 < e := by omega
      simp only [this, not_false_eq_true, decide_true, if_true, remove_val0, Exec.bind_val', h4]
      exact .inr ⟨trivial, rfl⟩
    · have : largest + 1 < e := by omega
      simp only [this, not_true_eq_false, decide_false, Bool.false_eq_true, if_false, Exec.bind_val', h4]
      exact .inr ⟨trivial, rfl⟩


/-- what one round of the `for index` loop does with the range at `index` (`none` = next round) -/
def addHead (seq : Nat) (x : AckRange) (rest : List AckRange) : Option (List AckRange) :=
  if x.1 ≤ seq ∧ seq < x.2 then some (x :: rest)
  else if x.1 = seq + 1 then some ((seq, x.2) :: rest)
  else if x.2 = seq then
    match rest with
    | (s2, e2) :: rest2 => if seq + 1 = s2 then some ((x.1, e2) :: rest2) else some ((x.1, seq + 1) :: rest)
    | [] => some [(x.1, seq + 1)]
  else if x.1 > seq + 1 then some ((seq, seq + 1) :: x :: rest)
  else none

theorem addAux_cons (seq : Nat) (x : AckRange) (rest : List AckRange) :
    Acks.addAux seq (x :: rest) =
      match addHead seq x rest with
      | some r => some r
      | none => (Acks.addAux seq rest).map (x :: ·) := by
  obtain ⟨s, e⟩ := x
  simp only [Acks.addAux, addHead]
  split
  · rfl
  · split
    · rfl
    · split
      · cases rest with
        | nil => rfl
        | cons y r => obtain ⟨s2, e2⟩ := y; simp only; split <;> rfl
      · split <;> rfl

theorem add_loop {ε : Type} (seq : Nat)
    (body : Nat → RenetClient → Exec ε (RenetClient × Unit) RenetClient)
    (hbody : ∀ (pre : List AckRange) (x : AckRange) (rest : List AckRange), (pre ++ x :: rest).length ≤ 64 →
      body pre.length (reprAcks base (pre ++ x :: rest)) =
        match addHead seq x rest with
        | some suf' => .ret (reprAcks base (Acks.capFront 64 (pre ++ suf')), ())
        | none => .val (reprAcks base (pre ++ x :: rest))) :
    ∀ (suf pre : List AckRange), (pre ++ suf).length ≤ 64 →
      RustSem.forRange.loop body suf.length pre.length (reprAcks base (pre ++ suf)) =
        match Acks.addAux seq suf with
        | some suf' => .ret (reprAcks base (Acks.capFront 64 (pre ++ suf')), ())
        | none => .val (reprAcks base (pre ++ suf)) := by
  intro suf
  induction suf with
  | nil => intro pre _; simp [RustSem.forRange.loop, Acks.addAux]
  | cons x rest ih =>
    intro pre hlen
    rw [List.length_cons, RustSem.forRange.loop, hbody pre x rest hlen, addAux_cons]
    cases hh : addHead seq x rest with
    | some r => rfl
    | none =>
      simp only [Exec.bind_val']
      have e1 : pre ++ x :: rest = (pre ++ [x]) ++ rest := by simp
      have e2 : pre.length + 1 = (pre ++ [x]).length := by simp
      rw [e1, e2, ih (pre ++ [x]) (by rw [← e1]; exact hlen)]
      cases Acks.addAux seq rest with
      | none => rfl
      | some suf' => simp

theorem reprAcks_mid (pre : List AckRange) (x : AckRange) (rest : List AckRange) :
    reprAcks base (pre ++ x :: rest) = { base with pending_acks := pre.map ackR ++ ackR x :: rest.map ackR } := by
  simp [reprAcks]

theorem add_pending_ack_eq {ε : Type} (l : List AckRange) (seq : Nat) (hs : seq + 1 < 2 ^ 64) (hlen : l.length ≤ 64) :
    (RenetClient.add_pending_ack (reprAcks base l) seq : Res ε _) = .ok (reprAcks base (Acks.add 64 seq l), ()) := by
  unfold RenetClient.add_pending_ack
  cases l with
  | nil =>
    simp only [reprAcks, List.map_nil, RustSem.is_empty, List.isEmpty_nil, if_true, add_val hs, Exec.bind_eq, Exec.bind_val',
      Exec.bind_ret', Exec.run_ret, Acks.add, RustSem.push, List.nil_append, List.map_cons, ackR]
  | cons y ys =>
    have hne : RustSem.is_empty (reprAcks base (y :: ys)).pending_acks = false := by simp [reprAcks, RustSem.is_empty]
    have hl : RustSem.len (reprAcks base (y :: ys)).pending_acks = (y :: ys).length := by simp [reprAcks, RustSem.len]
    simp only [hne, Bool.false_eq_true, if_false, Exec.bind_eq, Exec.pure_eq, Exec.bind_val', hl, RustSem.forRange,
      Nat.sub_zero]
    show ((RustSem.forRange.loop _ (y :: ys).length ([] : List AckRange).length (reprAcks base ([] ++ y :: ys))).bind _).run = _
    rw [add_loop (ε := ε) seq _ ?hbody (y :: ys) [] hlen]
    case hbody =>
      intro pre x rest hlen'
      obtain ⟨s, e⟩ := x
      have hcap : ∀ l : List AckRange, l.length ≤ 64 → Acks.capFront 64 l = l := by
        intro l h; unfold Acks.capFront; rw [if_neg (by omega)]
      have hback : ∀ suf : List AckRange, reprAcks base (pre ++ suf) = { base with pending_acks := pre.map ackR ++ suf.map ackR } := by
        intro suf; simp [reprAcks]
      have hplen : pre.length + 1 < 2 ^ 64 := by
        simp only [List.length_append, List.length_cons] at hlen'; omega
      rw [reprAcks_mid]
      have hP : pre.length = (pre.map ackR).length := by simp
      rw [hP] at hplen ⊢
      generalize pre.map ackR = P at *
      simp only [index_val (getElem?_mid P _ _), Exec.bind_val', RustSem.Range.contains, ackR, add_val hs]
      unfold addHead
      simp only
      by_cases hA : s ≤ seq ∧ seq < e
      · simp only [hA, and_self, decide_true, if_true, Exec.bind_ret', hcap _ hlen', hback, List.map_cons, ackR]
      simp only [hA, decide_false, Bool.false_eq_true, if_false, Exec.bind_val']
      by_cases hB : s = seq + 1
      · have hl2 : (pre ++ (seq, e) :: rest).length ≤ 64 := by simpa using hlen'
        simp only [hB, decide_true, if_true, set_val (show P.length < (P ++ _ :: _).length by simp), set_mid,
          Exec.bind_val', hcap _ hl2, hback, List.map_cons, ackR]
      simp only [hB, decide_false, Bool.false_eq_true, if_false]
      by_cases hC : e = seq
      · simp only [hC, decide_true, if_true, set_val (show P.length < (P ++ _ :: _).length by simp), set_mid,
          Exec.bind_val', add_val hplen, RustSem.len]
        cases rest with
        | nil =>
          have hl2 : (pre ++ [(s, seq + 1)]).length ≤ 64 := by simpa using hlen'
          have : ¬ P.length + 1 < (P ++ [({ start := s, «end» := seq + 1 } : RustSem.Range)]).length := by simp
          simp only [List.map_nil, this, decide_false, Bool.false_eq_true, if_false, Exec.bind_val', hcap _ hl2, hback,
            List.map_cons, ackR]
        | cons z rest2 =>
          obtain ⟨s2, e2⟩ := z
          have hlt : P.length + 1 < (P ++ ({ start := s, «end» := seq + 1 } : RustSem.Range) :: (((s2, e2) :: rest2).map ackR)).length := by
            simp
          simp only [List.map_cons, ackR] at hlt ⊢
          simp only [hlt, decide_true, if_true, index_val (getElem?_mid P _ _), index_val (getElem?_mid1 P _ _ _),
            Exec.bind_val']
          by_cases hM : seq + 1 = s2
          · have hl2 : (pre ++ (s, e2) :: rest2).length ≤ 64 := by
              simp only [List.length_append, List.length_cons] at hlen' ⊢; omega
            simp only [hM, decide_true, if_true,
              Exec.bind_val', remove_val (show P.length + 1 < (P ++ _ :: _ :: _).length by simp), eraseIdx_mid1,
              hcap _ hl2, hback, List.map_cons, ackR]
          · have hl2 : (pre ++ (s, seq + 1) :: (s2, e2) :: rest2).length ≤ 64 := by simpa using hlen'
            simp only [hM, decide_false, Bool.false_eq_true, if_false, Exec.bind_val', hcap _ hl2, hback,
              List.map_cons, ackR]
      simp only [hC, decide_false, Bool.false_eq_true, if_false]
      by_cases hD : s > seq + 1
      · simp only [hD, decide_true, if_true, RustSem.vec_insert, List.length_append, List.length_cons,
          Nat.le_add_right, take_drop_mid, Exec.bind_val', RustSem.len, RustSem.vec_remove]
        have hmap : ∀ suf : List AckRange, (pre ++ suf).map ackR = P ++ suf.map ackR :=
          fun suf => congrArg RenetClient.pending_acks (hback suf)
        have hlenD : (pre ++ (seq, seq + 1) :: (s, e) :: rest).length = P.length + ((List.map ackR rest).length + 1 + 1) := by
          simp [hP]
        unfold Acks.capFront
        rw [hlenD]
        by_cases hbig : P.length + ((List.map ackR rest).length + 1 + 1) > 64
        · rw [if_pos (by simpa using hbig), if_pos (by omega), if_pos hbig]
          simp only [Exec.bind_val', List.eraseIdx_zero, reprAcks, List.map_tail, hmap, List.map_cons, ackR]
        · rw [if_neg (by simpa using hbig), if_neg hbig]
          simp only [Exec.bind_val', hback, List.map_cons, ackR]
      · simp only [hD, decide_false, Bool.false_eq_true, if_false]
    simp only [Acks.add, List.nil_append]
    cases Acks.addAux seq (y :: ys) with
    | some suf' => rfl
    | none =>
      simp only [Exec.bind_val', add_val hs]
      unfold Acks.capFront
      have hpush : RustSem.push (reprAcks base (y :: ys)).pending_acks ({ start := seq, «end» := seq + 1 } : RustSem.Range)
          = (y :: ys ++ [(seq, seq + 1)]).map ackR := by simp [RustSem.push, reprAcks, ackR]
      have hlen2 : RustSem.len ((y :: ys ++ [(seq, seq + 1)]).map ackR) = (y :: ys ++ [(seq, seq + 1)]).length := by
        simp [RustSem.len]
      simp only [hpush, hlen2]
      by_cases hbig : (y :: ys ++ [(seq, seq + 1)]).length > 64
      · simp only [hbig, decide_true, if_true,
          remove_val (show 0 < ((y :: ys ++ [(seq, seq + 1)]).map ackR).length by simp), Exec.bind_val', Exec.run_val,
          List.eraseIdx_zero, reprAcks, List.map_tail]
      · simp only [hbig, decide_false, Bool.false_eq_true, if_false, Exec.bind_val', Exec.run_val, reprAcks]

end Acks
end RenetVerif.SrcEquiv
