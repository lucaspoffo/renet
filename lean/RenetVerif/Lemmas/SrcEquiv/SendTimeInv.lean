/-
  The model-level invariant `TInv` of a connection: every recorded time stamp lies in the past and the slice cursor of a
  sliced unacked message is inside the message —
    * reliable send channels: `last_sent` of a small message, every `last_sent[i]` of a sliced one `≤ now`; `next_slice ≤ n`;
    * `sent_packets`: the send time of every recorded packet `≤ now`;
    * unreliable receive channels: every `slices_last_received` stamp `≤ now`.
  Established by `from_channels` (`tinv_fromChannels`), kept by every operation of the connection (through the slice loop
  of `SendRel.getPackets`): `tinv_kept` (an instance of `Kept`, Lemmas/Kept.lean) and `tinv_update`.  These are the clauses
  the model invariants `Conn.InvP` / `Conn.SendInv` do not have and the hypotheses `UWf` / `UpdateOk` of the source ties need.
-/
import RenetVerif.Lemmas.ConnInv
import RenetVerif.Lemmas.Kept
import RenetVerif.Lemmas.ResMonad
namespace RenetVerif.SrcEquiv
open RenetVerif RenetVerif.C

/-- a property `E` of the single entries of `unacked` is kept by every call into the channel when it holds of what
    `send_message` stores and survives the stamping by a flush and the ack bit of a slice: the ack of a whole message only
    erases, a flush changes an entry `u` into `u.sent` -/
theorem _root_.RenetVerif.SendRelStep.entries {O : Calls} {E : Unacked → Prop} {now : Nat} {s s' : SendRel}
    (hnew : ∀ m, O.send m → E (if m.length > SLICE_SIZE then Unacked.newSliced m else .small m none))
    (hsent : ∀ resend id a u, E u → E (u.sent now (greedy (u.cands now resend id) a)))
    (hbit : ∀ m n k nx ak ls idx, E (.sliced m n k nx ak ls) → E (.sliced m n (k + 1) nx (ak.set idx true) ls))
    (hs : SendRelStep O now s s') (h : ∀ x ∈ s.unacked, E x.2) : s'.ch = s.ch ∧ ∀ x ∈ s'.unacked, E x.2 := by
  cases hs with
  | send hA hs =>
    obtain ⟨-, rfl⟩ := SendRel.sendMessage_ok hs
    exact ⟨rfl, SMap.forall_mem_insert h _ (hnew _ hA)⟩
  | ackMsgs _ ha =>
    refine Conn.ackMsgLoop_rel (fun s s' => (∀ x ∈ s.unacked, E x.2) → s'.ch = s.ch ∧ ∀ x ∈ s'.unacked, E x.2)
      (fun _ h => ⟨rfl, h⟩) (fun h1 h2 h => ⟨(h2 (h1 h).2).1.trans (h1 h).1, (h2 (h1 h).2).2⟩) (fun e h => ?_) _ ha h
    obtain ⟨hch, -, -, -, hm⟩ := SI.SendRel.processMessageAck_mem e
    exact ⟨hch, fun x hx => h x (hm x hx)⟩
  | ackSlice _ ha =>
    obtain ⟨hch, -, -, -, hm⟩ := SI.SendRel.processSliceAck_mem ha
    refine ⟨hch, fun x hx => ?_⟩
    rcases hm x hx with hx | ⟨m, n, k, nx, ak, ls, hy, rfl⟩
    · exact h x hx
    · exact hbit _ _ _ _ _ _ _ (h _ hy)
  | flush seq avail _ =>
    rw [SendRel.getPackets_scan]
    refine ⟨rfl, fun x hx => ?_⟩
    obtain ⟨id, u, a', hu, rfl⟩ := mem_relSent hx
    exact hsent _ _ _ _ (h _ hu)

def UTOk (now : Nat) : Unacked → Prop
  | .small _ ls => ∀ t, ls = some t → t ≤ now
  | .sliced _ n _ nx _ ls => nx ≤ n ∧ ∀ t ∈ ls, ∀ t', t = some t' → t' ≤ now

theorem UTOk.mono {now now' : Nat} (hle : now ≤ now') {u : Unacked} (h : UTOk now u) : UTOk now' u := by
  cases u with
  | small m ls => exact fun t ht => Nat.le_trans (h t ht) hle
  | sliced m n a nx acked ls => exact ⟨h.1, fun t ht t' he => Nat.le_trans (h.2 t ht t' he) hle⟩

def RelTOk (now : Nat) (s : SendRel) : Prop := ∀ x ∈ s.unacked, UTOk now x.2

theorem utok_newSliced (now : Nat) (m : Bytes) : UTOk now (Unacked.newSliced m) := by
  unfold Unacked.newSliced
  refine ⟨Nat.zero_le _, fun t ht t' he => ?_⟩
  rw [List.eq_of_mem_replicate ht] at he; cases he

theorem relTOk_new (now ch resend maxMem : Nat) : RelTOk now (SendRel.new ch resend maxMem) := by
  intro x hx; cases hx

theorem cursor_le {i n : Nat} (h : i < n) : i + 1 % n ≤ n := by
  by_cases h1 : n = 1
  · subst h1; omega
  · have : 1 % n = 1 := Nat.mod_eq_of_lt (by omega)
    omega

theorem foldl_cursor_le {n : Nat} : ∀ (T : List Tx) (nx : Nat), (∀ t ∈ T, t.idx < n) → nx ≤ n →
    T.foldl (fun _ t => t.idx + 1 % n) nx ≤ n
  | [], _, _, h => h
  | t :: T, _, hT, _ =>
    foldl_cursor_le T _ (fun t' ht' => hT t' (List.mem_cons_of_mem _ ht')) (cursor_le (hT t (List.mem_cons_self ..)))

theorem mem_foldl_set {α : Type} (v : α) {x : α} : ∀ (T : List Tx) (l : List α),
    x ∈ T.foldl (fun l t => l.set t.idx v) l → x ∈ l ∨ x = v
  | [], _, h => Or.inl h
  | t :: T, l, h => by
    rcases mem_foldl_set v T (l.set t.idx v) h with h | h
    · exact List.mem_or_eq_of_mem_set h
    · exact Or.inr h

/-- an entry stamped where the scan took an item of it: the stamps written are `now`, the cursor follows a slice index -/
theorem UTOk.sent {now resend id a : Nat} : ∀ {u : Unacked}, UTOk now u → UTOk now (u.sent now (greedy (u.cands now resend id) a))
  | .small m ls, h => by
    show ∀ t, (if (greedy (Unacked.cands now resend id (.small m ls)) a).isEmpty then ls else some now) = some t → t ≤ now
    intro t ht
    split at ht
    · exact h t ht
    · cases ht
      exact Nat.le_refl _
  | .sliced m n na nx ak ls, h => by
    have hidx : ∀ t ∈ greedy (Unacked.cands now resend id (.sliced m n na nx ak ls)) a, t.idx < n := by
      intro t ht
      obtain ⟨i0, hi0, rfl, -⟩ := mem_sliceCands (mem_greedy ht)
      exact Nat.mod_lt _ (Nat.lt_of_le_of_lt (Nat.zero_le _) (List.mem_range.mp hi0))
    refine ⟨foldl_cursor_le _ _ hidx h.1, fun t ht t' he => ?_⟩
    rcases mem_foldl_set (some now) _ _ ht with ht | rfl
    · exact h.2 t ht t' he
    · cases he
      exact Nat.le_refl _

def RuTOk (now : Nat) (r : RecvUnrel) : Prop := ∀ q ∈ r.lastReceived, q.2 ≤ now

theorem ruTOk_processMessage {now : Nat} {r : RecvUnrel} (h : RuTOk now r) (m : Bytes) : RuTOk now (r.processMessage m) := by
  unfold RecvUnrel.processMessage; split <;> exact h

theorem leaves_ok {ε σ : Type} {s s' : σ} (h : Leaves (.ok s : Res (ε × σ) σ) s') : s' = s := by
  rcases h with h | ⟨e, h⟩ <;> cases h
  rfl

theorem leaves_err {ε σ : Type} {e : ε} {s s' : σ} (h : Leaves (.err (e, s) : Res (ε × σ) σ) s') : s' = s := by
  rcases h with h | ⟨e, h⟩ <;> cases h
  rfl

theorem leaves_panic {ε σ : Type} {m : String} {s' : σ} (h : Leaves (.panic m : Res (ε × σ) σ) s') : False := by
  rcases h with h | ⟨e, h⟩ <;> cases h

/-- the second half of `processSlice` writes no stamp but `now` -/
theorem ruTOk_sliceStep {now : Nat} {r r' : RecvUnrel} {sl : Slice} (h : RuTOk now r)
    (hr : Leaves (r.sliceStep sl now) r') : RuTOk now r' := by
  unfold RecvUnrel.sliceStep at hr
  split at hr
  · exact (leaves_panic hr).elim
  · rename_i c _
    split at hr
    · rw [leaves_err hr]; exact h
    split at hr
    · exact (leaves_panic hr).elim
    · rw [leaves_err hr]; exact h
    · unfold Res.csub at hr
      split at hr
      · rw [leaves_ok hr]
        exact fun q hq => h q (SMap.mem_erase hq)
      · exact (leaves_panic hr).elim
    · rw [leaves_ok hr]
      exact SMap.forall_mem_insert (Q := fun t : Nat => t ≤ now) h _ (Nat.le_refl _)

theorem ruTOk_processSlice {now : Nat} {r r' : RecvUnrel} {sl : Slice} (h : RuTOk now r)
    (hr : r.processSlice sl now = .ok r' ∨ ∃ e, r.processSlice sl now = .err (e, r')) : RuTOk now r' := by
  rw [RecvUnrel.processSlice_eq] at hr
  split at hr
  · exact ruTOk_sliceStep h hr
  · split at hr
    · rw [leaves_ok hr]; exact h
    · refine ruTOk_sliceStep ?_ hr
      exact h

theorem ruTOk_discardLoop {now : Nat} : ∀ (lost : List Nat) {r r' : RecvUnrel}, RuTOk now r → discardLoop lost r = .ok r' →
    RuTOk now r' := by
  intro lost
  induction lost with
  | nil => intro r r' h hr; cases hr; exact h
  | cons id rest ih =>
    intro r r' h hr
    unfold discardLoop at hr
    split at hr
    · cases hr
    · rw [Res.bind_ok_iff] at hr
      obtain ⟨mem, _, hr⟩ := hr
      exact ih (fun q hq => h q (SMap.mem_erase hq)) hr

theorem ruTOk_discardOld {now t : Nat} {r r' : RecvUnrel} (h : RuTOk now r) (hr : r.discardOld t = .ok r') : RuTOk now r' :=
  ruTOk_discardLoop _ h hr

theorem ruTOk_receive {now : Nat} {r r' : RecvUnrel} {o : Option Bytes} (h : RuTOk now r) (hr : r.receive = .ok (r', o)) :
    RuTOk now r' := by
  unfold RecvUnrel.receive at hr
  split at hr
  · cases hr; exact h
  · rw [Res.bind_ok_iff] at hr
    obtain ⟨mem, _, hr⟩ := hr
    cases hr; exact h

structure TInv (c : Conn) : Prop where
  rel : ∀ x ∈ c.sendRel, RelTOk c.now x.2
  sent : ∀ x ∈ c.sent, x.2.1 ≤ c.now
  unrel : ∀ x ∈ c.recvUnrel, RuTOk c.now x.2

theorem relTOk_step {O : Calls} {now : Nat} {s s' : SendRel} (h : RelTOk now s) (hs : SendRelStep O now s s') :
    RelTOk now s' := by
  refine (hs.entries (E := UTOk now) (fun m _ => ?_) (fun _ _ _ _ hu => hu.sent) (fun _ _ _ _ _ _ _ hu => hu) h).2
  split
  · exact utok_newSliced now m
  · intro t ht; cases ht

theorem ruTOk_step {now : Nat} {r r' : RecvUnrel} (h : RuTOk now r) (hs : RecvUnrelStep now r r') : RuTOk now r' := by
  cases hs with
  | receive hr => exact ruTOk_receive h hr
  | msgs l => exact DataPath.foldl_inv _ (RuTOk now) (fun _ => True) (fun _ m h _ => ruTOk_processMessage h m) l _ h fun _ _ => trivial
  | slice hl => exact ruTOk_processSlice h hl

theorem tinv_fromChannels (budget : Nat) (send recv : List ChanCfg) : TInv (Conn.fromChannels budget send recv) := by
  refine ⟨?_, fun x hx => (by cases hx), ?_⟩
  · exact SMap.forall_mem_foldl_insert _ _ (Q := RelTOk 0) (fun b => relTOk_new 0 _ _ _) _ (fun x hx => by cases hx)
  · exact SMap.forall_mem_foldl_insert _ _ (Q := RuTOk 0) (fun b q hq => by cases hq) _ (fun x hx => by cases hx)

theorem tinv_kept : Kept .all TInv where
  frame h h1 _ _ h3 h2 h4 _ _ := ⟨by rw [h1, h4]; exact h.rel, by rw [h2, h4]; exact h.sent, by rw [h3, h4]; exact h.unrel⟩
  sendRel h hf hs :=
    ⟨SMap.forall_mem_insert (Q := RelTOk _) h.rel _ (relTOk_step (h.rel _ (SMap.mem_of_find? hf)) hs), h.sent, h.unrel⟩
  sendUnrel h _ _ := ⟨h.rel, h.sent, h.unrel⟩
  recvRel h _ _ := ⟨h.rel, h.sent, h.unrel⟩
  recvUnrel h hf hs :=
    ⟨h.rel, h.sent, SMap.forall_mem_insert (Q := RuTOk _) h.unrel _ (ruTOk_step (h.unrel _ (SMap.mem_of_find? hf)) hs)⟩
  eraseSent _ h := ⟨h.rel, fun x hx => h.sent x (SMap.mem_erase hx), h.unrel⟩
  insertSent _ _ h := ⟨h.rel, SMap.forall_mem_insert (Q := fun v : Nat × SentInfo => v.1 ≤ _) h.sent _ (Nat.le_refl _), h.unrel⟩

theorem TInv.disconnectWith {c : Conn} (h : TInv c) (r : Reason) : TInv (c.disconnectWith r) :=
  tinv_kept.disconnectWith h r
theorem TInv.setConnected {c : Conn} (h : TInv c) : TInv c.setConnected := tinv_kept.setConnected h
theorem TInv.setConnecting {c : Conn} (h : TInv c) : TInv c.setConnecting := tinv_kept.setConnecting h

theorem discardAll_tok {now t : Nat} : ∀ (m m' : SMap RecvUnrel), (∀ x ∈ m, RuTOk now x.2) → Conn.discardAll t m = .ok m' →
    ∀ x ∈ m', RuTOk now x.2 := by
  intro m
  induction m with
  | nil => intro m' _ hr; cases hr; intro x hx; cases hx
  | cons p rest ih =>
    intro m' h hr
    obtain ⟨k, r⟩ := p
    unfold Conn.discardAll at hr
    rw [Res.bind_ok_iff] at hr
    obtain ⟨r', h1, hr⟩ := hr
    rw [Res.bind_ok_iff] at hr
    obtain ⟨rest', h2, hr⟩ := hr
    cases hr
    intro x hx
    rcases List.mem_cons.mp hx with he | he
    · rw [he]; exact ruTOk_discardOld (h (k, r) (by simp)) h1
    · exact ih rest' (fun y hy => h y (List.mem_cons_of_mem _ hy)) h2 x he

theorem tinv_update {c c' : Conn} {dt : Nat} (h : TInv c) (hr : c.update dt = .ok c') : TInv c' := by
  obtain ⟨ru, h1, rfl⟩ := Conn.update_outcome hr
  have hle : c.now ≤ c.now + dt := Nat.le_add_right _ _
  refine ⟨fun x hx u hu => (h.rel x hx u hu).mono hle, ?_, ?_⟩
  · intro x hx
    have hm : x ∈ c.sent := (List.dropWhile_sublist _).subset hx
    exact Nat.le_trans (h.sent x hm) hle
  · have h0 : ∀ x ∈ c.recvUnrel, RuTOk (c.now + dt) x.2 := fun x hx q hq => Nat.le_trans (h.unrel x hx q hq) hle
    exact discardAll_tok _ _ h0 h1

end RenetVerif.SrcEquiv
