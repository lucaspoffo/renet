/-
  HISTORY-LEVEL netcode theorems on the GENERATED code (`Generated/Src/NcServer*.lean`, translated from
  `renetcode/src/server.rs`).  Every theorem has a GENERATED RUN in its hypothesis — `GReach a g`: `g` (generated
  `NetcodeServer` struct + ghost logs) is reached by `GNc.exec` (generated `NetcodeServer::new`, then any list of generated
  `process_packet` / `update` / `update_client` / `disconnect` / `set_max_clients` / `generate_payload_packet` calls with
  arbitrary arguments, `Lemmas/SrcEquiv/SrcNcSystem.lean`) under the range side condition `OpsInRange` — and concludes about
  the generated state, the generated query functions or the logged outputs of the generated functions.  Each is proved by
  transporting the model theorem along the simulation `run_sim_conv` (`greach_model`).
-/
import RenetVerif.Lemmas.SrcEquiv.SrcNcSystem
import RenetVerif.Lemmas.SrcCorollariesNc
import RenetVerif.Props.SrcPropsNcServer
import RenetVerif.Props.C10
import RenetVerif.Props.C05H
import RenetVerif.Props.C18T
import RenetVerif.Props.C18V
import RenetVerif.Props.C19
import RenetVerif.Props.SrcNcServerRuns
namespace RenetVerif.SrcPropsNcHistory
open RenetVerif RenetVerif.SrcEquiv RenetVerif.RustSem RenetVerif.Netcode RenetVerif.Netcode.NS RenetVerif.SrcNcSystem
open Src.renetcode.server
open RenetVerif.SrcCor
open RenetVerif.SrcCorNc (SrvRepr slot_of_repr slot_to_repr find_by_addr_none process_packet_tie reprNSR_clientConnected
  reprNSR_payload reprNSR_clientDisconnected)

/-- **`g` is reached by a generated run**: from the generated `NetcodeServer::new` (`exec`), or from a generated struct that
    represents an empty model server (`fromEmpty`; `NetcodeServer::new` returns such a struct with 2048 token entries —
    this constructor also admits other table sizes, used by the kernel-evaluated examples), by any list of operations in
    range. -/
inductive GReach (a : AEAD) : GNc → Prop
  | exec {c : NcCfg} {ops : List Op} {g : GNc} : OpsInRange ops → GNc.exec a c ops = some g → GReach a g
  | fromEmpty {s0 : Netcode.NetcodeServer} {out : List Nat} {ops : List Op} {g : GNc} : EmptyServer s0 →
      out.length = Netcode.C.NETCODE_MAX_PACKET_BYTES → OpsInRange ops →
      GNc.run a ⟨reprNS out s0, [], []⟩ ops = some g → GReach a g

theorem greach_model {a : AEAD} (hl : a.Laws) {g : GNc} (h : GReach a g) : ∃ m, MGood a m ∧ SimNc m g := by
  cases h with
  | exec hr hg =>
    obtain ⟨m, hm, hsim⟩ := run_sim_conv a hl _ _ g hr hg
    exact ⟨m, mgood_exec hm, hsim⟩
  | @fromEmpty s0 out ops g he ho hr hg =>
    have hsim0 : SimNc ⟨s0, [], []⟩ ⟨reprNS out s0, [], []⟩ := ⟨⟨out, ho, rfl⟩, rfl, .nil⟩
    obtain ⟨m, hm, hsim⟩ := run_sim_conv_of a hl ops (m := ⟨s0, [], []⟩) he.inv hsim0 hr hg
    exact ⟨m, mgood_run ops (mgood_empty a he) hm, hsim⟩

theorem ginit_model {c : NcCfg} {g0 : GNc} (h : GNc.init c = some g0) :
    ∃ s, Netcode.NetcodeServer.new c.currentTime c.maxClients c.protocolId c.publicAddresses c.secure c.privateKey
        c.challengeKey = .ok s ∧ SimNc ⟨s, [], []⟩ g0 := by
  have h0 := init_sim c
  cases hm : MNc.init c with
  | none => rw [hm, h] at h0; cases h0
  | some m0 =>
    rw [hm, h] at h0
    obtain ⟨g0', e, hsim⟩ := h0
    cases e
    unfold MNc.init at hm
    split at hm
    · rename_i s hs; cases hm; exact ⟨s, hs, hsim⟩
    · cases hm

theorem exec_append {a : AEAD} {c : NcCfg} {ops0 ops : List Op} {g : GNc} (hg : GNc.exec a c ops0 = some g) :
    GNc.exec a c (ops0 ++ ops) = g.run a ops := by
  unfold GNc.exec at hg ⊢
  cases h0 : GNc.init c with
  | none => rw [h0] at hg; cases hg
  | some g0 =>
    rw [h0] at hg
    simp only [GNc.run_append, hg, Option.bind_some]

theorem opsInRange_append_mk {ops1 ops2 : List Op} (h1 : OpsInRange ops1) (h2 : OpsInRange ops2) :
    OpsInRange (ops1 ++ ops2) :=
  fun o ho => (List.mem_append.mp ho).elim (h1 o) (h2 o)

theorem GReach.run {a : AEAD} {g g' : GNc} {ops : List Op} (h : GReach a g) (hr : OpsInRange ops)
    (hg : g.run a ops = some g') : GReach a g' := by
  cases h with
  | exec hr0 hg0 => exact .exec (opsInRange_append_mk hr0 hr) (by rw [exec_append hg0]; exact hg)
  | fromEmpty he ho hr0 hg0 =>
    exact .fromEmpty he ho (opsInRange_append_mk hr0 hr) (by simp only [GNc.run_append, hg0, Option.bind_some, hg])

theorem _root_.RenetVerif.SrcNcSystem.SimNc.repr {m : MNc} {g : GNc} (h : SimNc m g) : SrvRepr g.srv m.srv := by
  obtain ⟨out, ho, hs⟩ := h.srv
  rw [hs]; exact ⟨ho, rfl⟩

/-! ## (a) C10: the connection table in every state reachable by a generated run -/

/-- **C10 `distinct` / `count_le_slots` on the generated struct** (transports `NS.Reach.inv` = `C10.inv_new` +
    `C10.inv_step`, read as in `C10.distinct`, `C10.count_le_slots`).  In every state reachable by a generated run the
    occupied slots of the generated `clients: Box<[Option<Connection>]>` hold pairwise distinct `client_id`s, pairwise
    distinct `addr`s, all in state `Connected`; the occupied slots number at most the slots; `max_clients` is at most the
    number of slots, which is at most `NETCODE_MAX_CLIENTS` = 1024.  No hypothesis on the model side. -/
theorem table_inv {a : AEAD} (hl : a.Laws) {g : GNc} (h : GReach a g) :
    (∀ (i j : Nat) (ci cj : SConnection), g.srv.clients[i]? = some (some ci) → g.srv.clients[j]? = some (some cj) →
      ci.client_id = cj.client_id → i = j) ∧
    (∀ (i j : Nat) (ci cj : SConnection), g.srv.clients[i]? = some (some ci) → g.srv.clients[j]? = some (some cj) →
      ci.addr = cj.addr → i = j) ∧
    (∀ (i : Nat) (c : SConnection), g.srv.clients[i]? = some (some c) →
      c.state = Src.renetcode.server.ConnectionState.Connected) ∧
    (g.srv.clients.filter Option.isSome).length ≤ g.srv.clients.length ∧
    g.srv.max_clients ≤ g.srv.clients.length ∧ g.srv.clients.length ≤ 1024 := by
  obtain ⟨m, hg, hsim⟩ := greach_model hl h
  exact SrcPropsNc.Server.table_distinct ⟨m.srv, hsim.repr, hg.reach.inv⟩

/-- **C10 `distinct` through the generated query functions**: in every state reachable by a generated run, the generated
    `clients_id()` returns a list without repetition, the generated `connected_clients()` returns at most the number of
    slots, and two ids for which the generated `client_addr(id)` returns the same address are equal.
    (Transports `C10.distinct`, `C10.count_le_slots` via `nc_server_clients_id`, `nc_server_connected_clients`,
    `nc_server_client_addr`.) -/
theorem table_inv_queries {a : AEAD} (hl : a.Laws) {g : GNc} (h : GReach a g) :
    (∃ ids, (NetcodeServer.clients_id g.srv : Res Empty _) = .ok ids ∧ ids.Nodup) ∧
    (∃ n, (NetcodeServer.connected_clients g.srv : Res Empty _) = .ok n ∧ n ≤ g.srv.clients.length) ∧
    (∀ id1 id2 ad, (NetcodeServer.client_addr g.srv id1 : Res Empty _) = .ok (some ad) →
      (NetcodeServer.client_addr g.srv id2 : Res Empty _) = .ok (some ad) → id1 = id2) := by
  obtain ⟨m, hg, ⟨out, ho, hs⟩, -, -⟩ := greach_model hl h
  have hi := hg.reach.inv
  rw [hs]
  refine ⟨⟨_, SrcTie.nc_server_clients_id out m.srv, clientsId_nodup hi.slots⟩,
    ⟨_, SrcTie.nc_server_connected_clients out m.srv, ?_⟩, fun id1 id2 ad h1 h2 => ?_⟩
  · show countConnected m.srv.clients ≤ (m.srv.clients.map (Option.map reprNConn)).length
    rw [List.length_map]; exact count_le_length _
  · rw [SrcTie.nc_server_client_addr] at h1 h2
    simp only [Res.ok.injEq, Option.map_eq_some_iff] at h1 h2
    obtain ⟨a1, e1, r1⟩ := h1
    obtain ⟨a2, e2, r2⟩ := h2
    have ea : a1 = a2 := reprAddr_inj (r1.trans r2.symm)
    subst ea
    obtain ⟨i, c1, at1, id1e, ad1⟩ := (clientAddr_iff hi.slots).mp e1
    obtain ⟨j, c2, at2, id2e, ad2⟩ := (clientAddr_iff hi.slots).mp e2
    have hij := hi.slots.addrs i j c1 c2 at1 at2 (ad1.trans ad2.symm)
    subst hij
    have := at_inj at1 at2
    subst this
    exact id1e.symm.trans id2e

def GNoLower (a : AEAD) : GNc → List Op → Prop
  | _, [] => True
  | g, op :: ops => (∀ n, op = .setMaxClients n → g.srv.max_clients ≤ n) ∧
      match g.step a op with
      | some g' => GNoLower a g' ops
      | none => True

theorem reachNL_run (a : AEAD) (hl : a.Laws) : ∀ (ops : List Op) (m : MNc) (g g' : GNc), ServerInv m.srv → SimNc m g →
    ReachNL a m.srv → OpsInRange ops → GNoLower a g ops → g.run a ops = some g' →
    ∃ m', SimNc m' g' ∧ ReachNL a m'.srv := by
  intro ops
  induction ops with
  | nil => intro m g g' _ hsim hnl _ _ hg; cases hg; exact ⟨m, hsim, hnl⟩
  | cons op ops ih =>
    intro m g g' hi hsim hnl hr hno hg
    have hstep := step_sim a hl hi hsim op (hr op List.mem_cons_self)
    simp only [GNc.run] at hg
    obtain ⟨hlow, hrest⟩ := hno
    cases hs : m.step a op with
    | none =>
      rw [hs] at hstep
      rw [hstep] at hg; cases hg
    | some m1 =>
      rw [hs] at hstep
      obtain ⟨g1, e, hsim1⟩ := hstep
      rw [e] at hg hrest
      obtain ⟨r, hns, -, -⟩ := mstep_inv hs
      obtain ⟨out, _, hsrv⟩ := hsim.srv
      have hnl1 : ReachNL a m1.srv := .step hnl hns (fun n hn => by
        have := hlow n hn
        rw [hsrv] at this
        exact this)
      exact ih m1 g1 g' (step_inv hi hns) hsim1 hnl1 (fun o ho => hr o (List.mem_cons_of_mem _ ho)) hrest hg

/-- **C10 `count_le_max` over a generated run**: if along a generated execution from the generated `NetcodeServer::new` the
    limit is never lowered (`GNoLower`: read off the `max_clients` field of the generated struct before each
    `set_max_clients`), then the generated `connected_clients()` is at most the generated `max_clients()`, and there are
    exactly `max_clients` slots.  (Transports `NS.ReachNL.count_le_max` = `C10.count_le_max`.) -/
theorem count_le_max {a : AEAD} (hl : a.Laws) {c : NcCfg} {ops : List Op} {g0 g : GNc} (hr : OpsInRange ops)
    (h0 : GNc.init c = some g0) (hg : g0.run a ops = some g) (hno : GNoLower a g0 ops) :
    ∃ n k, (NetcodeServer.connected_clients g.srv : Res Empty _) = .ok n ∧
      (NetcodeServer.max_clients' g.srv : Res Empty _) = .ok k ∧ n ≤ k ∧ g.srv.clients.length = k := by
  obtain ⟨s0, hs0, hsim0⟩ := ginit_model h0
  have hn := new_inv hs0
  obtain ⟨m, hsim, hnl⟩ := reachNL_run a hl ops ⟨s0, [], []⟩ g0 g hn.1 hsim0 (.init hn.2.2.2.2.2.1) hr hno hg
  obtain ⟨out, _, hs⟩ := hsim.srv
  have hc := hnl.count_le_max
  rw [hs]
  refine ⟨_, _, SrcTie.nc_server_connected_clients out m.srv, SrcTie.nc_server_max_clients out m.srv, hc.2, ?_⟩
  show (m.srv.clients.map (Option.map reprNConn)).length = m.srv.maxClients
  rw [List.length_map]; exact hc.1

/-- what the application sees of the connection table, over the generated types -/
inductive GEvent where
  | connected (id : Nat) (addr : RustSem.SocketAddr) (userData : List Nat)
  | disconnected (id : Nat) (addr : RustSem.SocketAddr)
  deriving DecidableEq, Repr

/-- mirror of `NS.eventOf` -/
def gEventOf : SServerResult → List GEvent
  | .ClientConnected id ad ud _ => [.connected id ad ud]
  | .ClientDisconnected id ad _ => [.disconnected id ad]
  | _ => []

/-- the `ClientConnected` / `ClientDisconnected` results the generated functions returned so far -/
def _root_.RenetVerif.SrcNcSystem.GNc.events (g : GNc) : List GEvent := g.results.flatMap gEventOf

def reprEvent : Event → GEvent
  | .connected id ad ud => .connected id (reprAddr ad) (toNats ud)
  | .disconnected id ad => .disconnected id (reprAddr ad)

theorem reprEvent_inj {x y : Event} (h : reprEvent x = reprEvent y) : x = y := by
  cases x <;> cases y <;> simp only [reprEvent, GEvent.connected.injEq, GEvent.disconnected.injEq, reduceCtorEq] at h
  · obtain ⟨rfl, h2, h3⟩ := h; rw [reprAddr_inj h2, toNats_inj h3]
  · obtain ⟨rfl, h2⟩ := h; rw [reprAddr_inj h2]

theorem gEventOf_repr (r : Netcode.ServerResult) : gEventOf (reprNSR r) = (eventOf r).map reprEvent := by
  cases r <;> rfl

theorem events_sim {m : MNc} {g : GNc} (h : SimNc m g) : g.events = m.events.map reprEvent := by
  unfold GNc.events MNc.events
  rw [h.results]
  generalize m.results = l
  induction l with
  | nil => rfl
  | cons r rest ih =>
    simp only [List.map_cons, List.flatMap_cons, List.map_append, ih, gEventOf_repr]

theorem not_mem_map_repr {e : Event} {l : List Event} (h : e ∉ l) : reprEvent e ∉ l.map reprEvent := by
  intro hm
  obtain ⟨x, hx, he⟩ := List.mem_map.mp hm
  rw [reprEvent_inj he] at hx
  exact h hx

theorem reprEvent_disconnected {e : Event} {id : Nat} {ad : RustSem.SocketAddr} (h : reprEvent e = .disconnected id ad) :
    ∃ ad0, e = .disconnected id ad0 ∧ ad = reprAddr ad0 := by
  cases e <;> simp only [reprEvent, GEvent.disconnected.injEq, reduceCtorEq] at h
  obtain ⟨rfl, rfl⟩ := h
  exact ⟨_, rfl, rfl⟩

theorem map_eq_split2 {α β : Type} {f : α → β} {l : List α} {pre mid post : List β} {x y : β}
    (h : l.map f = pre ++ x :: (mid ++ y :: post)) :
    ∃ pre' e mid' e' post', l = pre' ++ e :: (mid' ++ e' :: post') ∧ pre'.map f = pre ∧ f e = x ∧ mid'.map f = mid ∧
      f e' = y ∧ post'.map f = post := by
  obtain ⟨pre', rest, rfl, hpre, hrest⟩ := List.map_eq_append_iff.mp h
  obtain ⟨e, rest2, rfl, he, hrest2⟩ := List.map_eq_cons_iff.mp hrest
  obtain ⟨mid', rest3, rfl, hmid, hrest3⟩ := List.map_eq_append_iff.mp hrest2
  obtain ⟨e', post', rfl, he', hpost⟩ := List.map_eq_cons_iff.mp hrest3
  exact ⟨pre', e, mid', e', post', rfl, hpre, he, hmid, he', hpost⟩

/-- **C10 `disconnected_only_after_connected` over a generated run**: in the event log of a generated run every
    `ClientDisconnected id addr` is preceded by a `ClientConnected id addr _` (same id AND same address) with no
    `ClientDisconnected id addr` in between.  (Transports `C10.disconnected_only_after_connected`; no model-side
    hypothesis.) -/
theorem disconnected_only_after_connected {a : AEAD} (hl : a.Laws) {g : GNc} (h : GReach a g) {pre post : List GEvent}
    {id : Nat} {ad : RustSem.SocketAddr} (he : g.events = pre ++ .disconnected id ad :: post) :
    ∃ ud l1 l2, pre = l1 ++ .connected id ad ud :: l2 ∧ GEvent.disconnected id ad ∉ l2 := by
  obtain ⟨m, hg, hsim⟩ := greach_model hl h
  rw [events_sim hsim] at he
  obtain ⟨pre', rest', hsplit, hpre, hrest⟩ := List.map_eq_append_iff.mp he
  obtain ⟨e, post', hrest', hee, hpost⟩ := List.map_eq_cons_iff.mp hrest
  obtain ⟨ad0, rfl, rfl⟩ := reprEvent_disconnected hee
  have hr := hg.reach
  rw [hsplit, hrest'] at hr
  obtain ⟨ud, l1, l2, hp, hn⟩ := C10.disconnected_only_after_connected hr
  refine ⟨toNats ud, l1.map reprEvent, l2.map reprEvent, ?_, not_mem_map_repr hn⟩
  rw [← hpre, hp]; simp only [List.map_append, List.map_cons, reprEvent]

/-- **C10 `at_most_one_disconnected` over a generated run**: between two `ClientDisconnected id _` of the event log of a
    generated run lies a `ClientConnected id addr' _` with the address the second one names.  (Transports
    `C10.at_most_one_disconnected`.) -/
theorem at_most_one_disconnected {a : AEAD} (hl : a.Laws) {g : GNc} (h : GReach a g) {pre mid post : List GEvent}
    {id : Nat} {ad ad' : RustSem.SocketAddr}
    (he : g.events = pre ++ .disconnected id ad :: (mid ++ .disconnected id ad' :: post)) :
    ∃ ud, GEvent.connected id ad' ud ∈ mid := by
  obtain ⟨m, hg, hsim⟩ := greach_model hl h
  rw [events_sim hsim] at he
  obtain ⟨pre', e, mid', e', post', hsplit, -, hee, rfl, hee', -⟩ := map_eq_split2 he
  obtain ⟨ad1, rfl, rfl⟩ := reprEvent_disconnected hee
  obtain ⟨ad2, rfl, rfl⟩ := reprEvent_disconnected hee'
  have hr := hg.reach
  rw [hsplit] at hr
  obtain ⟨ud, hmem⟩ := C10.at_most_one_disconnected hr
  exact ⟨toNats ud, List.mem_map.mpr ⟨_, hmem, rfl⟩⟩

/-! ## (b) C05 / C05H: `ClientConnected` only after an accepted request from the same address -/

theorem greach_pp {a : AEAD} (hl : a.Laws) {g : GNc} (h : GReach a g) {addr : Addr} {buf : Bytes}
    (hb : buf.length + 16 < 2 ^ 64) {srv' : SNetcodeServer} {buf' : List Nat} {R : SServerResult}
    (hp : @NetcodeServer.process_packet (aeadOf a) Empty g.srv (reprAddr addr) (toNats buf) = .ok (srv', buf', R)) :
    ∃ m, MGood a m ∧ SimNc m g ∧ ∃ out, out.length = Netcode.C.NETCODE_MAX_PACKET_BYTES ∧ g.srv = reprNS out m.srv ∧
      ∃ r s', m.srv.processPacket a addr buf = .ok (r, s') ∧ R = reprNSR r := by
  obtain ⟨m, hg, hsim⟩ := greach_model hl h
  obtain ⟨out, ho, hs⟩ := hsim.srv
  obtain ⟨⟨r, s'⟩, hm, -, hR⟩ := (process_packet_tie a hl hsim.repr hg.reach.inv.entriesPos addr buf hb).pull_ok hp
  exact ⟨m, hg, hsim, out, ho, hs, r, s', hm, hR⟩

theorem sinv_of {s : Netcode.NetcodeServer} {out : List Nat} (hi : ServerInv s)
    (hgs : (reprNS out s).global_sequence < 2 ^ 64 - 1) (hcs : (reprNS out s).challenge_sequence < 2 ^ 64 - 1) :
    NetcodeServer.SInv 1 s := by
  refine ⟨?_, ?_, fun x hx => ?_⟩
  · have : s.globalSequence < 2 ^ 64 - 1 := hgs
    show s.globalSequence + 1 ≤ 2 ^ 64 - 1
    omega
  · have : s.challengeSequence < 2 ^ 64 - 1 := hcs
    show s.challengeSequence + 1 ≤ 2 ^ 64 - 1
    omega
  · rw [(hi.pend x hx).seq]; decide

/-- **C05 `connected_only_after_request` over a generated run.**  `g` is reached by a generated run; the generated
    `process_packet` on `g.srv`, for a datagram `buf` from `addr`, returns `ClientConnected id addr' ud ka`.  Then
    `addr' = addr`, and the arrival log of the generated run contains an EARLIER datagram `ga` from the same address, which met
    a generated state `ga.srv` representing a model state `ar.s` (`ArrRel`), such that — stated on the related model values
    `ar`, `s` — it decodes to a connection request that was `Accepted` in `ar.s` (token authentic under the server's key and
    protocol id, unexpired, lists a server address) while fewer than `max_clients` were connected; the reported id and user
    data are exactly those sealed in that token; and the present datagram is a response under that token's client-to-server
    key echoing a challenge token that opens under the server's challenge key to that id and user data.
    (Transports `C05.connected_only_after_request`.) -/
theorem connected_only_after_request {a : AEAD} (hl : a.Laws) {g : GNc} (h : GReach a g) {addr : Addr} {buf : Bytes}
    (hb : buf.length + 16 < 2 ^ 64) {srv' : SNetcodeServer} {buf' : List Nat} {id : Nat} {addr' : RustSem.SocketAddr}
    {ud ka : List Nat}
    (hp : @NetcodeServer.process_packet (aeadOf a) Empty g.srv (reprAddr addr) (toNats buf) =
      .ok (srv', buf', .ClientConnected id addr' ud ka)) :
    addr' = reprAddr addr ∧
    ∃ s, (∃ out, out.length = Netcode.C.NETCODE_MAX_PACKET_BYTES ∧ g.srv = reprNS out s) ∧
    ∃ ga ∈ g.arrivals, ga.addr = reprAddr addr ∧ ∃ ar, ArrRel ga ar ∧ ar.addr = addr ∧
      ∃ v pid expire xnonce data t,
        (Netcode.Packet.decode a ar.buf ar.s.protocolId none none).1 = .ok (0, .connectionRequest v pid expire xnonce data) ∧
        Accepted a ar.s addr v pid expire xnonce data t ∧ countConnected ar.s.clients < ar.s.maxClients ∧
        t.clientId = id ∧ toNats t.userData = ud ∧
        ∃ sq ts td w' rk, Netcode.Packet.decode a buf s.protocolId (some t.clientToServerKey) (some rk) =
            (.ok (sq, .response ts td), some w') ∧
          Netcode.ChallengeToken.decode a td ts s.challengeKey = .ok ⟨id, t.userData⟩ := by
  obtain ⟨m, hg, hsim, out, ho, hs, r, s', hm, hR⟩ := greach_pp hl h hb hp
  obtain ⟨ad0, ud0, ka0, rfl, rfl, rfl, rfl⟩ := reprNSR_clientConnected hR.symm
  obtain ⟨hadr, ar, har, hax, v, pid, expire, xnonce, data, t, hd, hacc, hcnt, hid, hud, sq, ts, td, w', rk, hdec, hch⟩ :=
    C05.connected_only_after_request hg.reachH hm
  subst hadr
  obtain ⟨ga, hga, hrel⟩ := forall2_mem_right hsim.arrivals har
  refine ⟨rfl, m.srv, ⟨out, ho, hs⟩, ga, hga, by rw [hrel.2.1, hax], ar, hrel, hax, v, pid, expire, xnonce, data, t, hd, hacc,
    hcnt, hid, by rw [hud], sq, ts, td, w', rk, hdec, by rw [hud]; exact hch⟩

/-- **C05H `connected_from_first_presenter` over a generated run.**  As above, and in addition: if (model-side hypothesis,
    stated on every model arrival list related entry by entry to the generated arrival log) at most as many distinct token
    MACs were registered along the run as the token-entry table has entries (`Covered`; `L.length ≤
    connect_token_entries.len()` is read off the generated struct), then there is a model history `hist` related entry by
    entry to the generated arrival log in which EVERY arrival that registered that token's MAC came from `addr` — the client
    is connected from the address that first validly presented the token.
    (Transports `C05H.connected_from_first_presenter`.) -/
theorem connected_from_first_presenter {a : AEAD} (hl : a.Laws) {g : GNc} (h : GReach a g) {L : List Bytes}
    (hcov : ∀ hist, Forall₂ ArrRel g.arrivals hist → NcBinding.Covered a hist L)
    (hlen : L.length ≤ g.srv.connect_token_entries.length) {addr : Addr} {buf : Bytes}
    (hb : buf.length + 16 < 2 ^ 64) {srv' : SNetcodeServer} {buf' : List Nat} {id : Nat} {addr' : RustSem.SocketAddr}
    {ud ka : List Nat}
    (hp : @NetcodeServer.process_packet (aeadOf a) Empty g.srv (reprAddr addr) (toNats buf) =
      .ok (srv', buf', .ClientConnected id addr' ud ka)) :
    addr' = reprAddr addr ∧
    ∃ hist, Forall₂ ArrRel g.arrivals hist ∧ ∃ ar ∈ hist, ar.addr = addr ∧
      ∃ v pid expire xnonce data t,
        (Netcode.Packet.decode a ar.buf ar.s.protocolId none none).1 = .ok (0, .connectionRequest v pid expire xnonce data) ∧
        Accepted a ar.s addr v pid expire xnonce data t ∧ t.clientId = id ∧ toNats t.userData = ud ∧
        ∀ ar' ∈ hist, NcBinding.Registers a ar'.s ar'.addr ar'.buf (tokenMac data) → ar'.addr = addr := by
  obtain ⟨m, hg, hsim, out, ho, hs, r, s', hm, hR⟩ := greach_pp hl h hb hp
  obtain ⟨ad0, ud0, ka0, rfl, rfl, rfl, rfl⟩ := reprNSR_clientConnected hR.symm
  have hlen' : L.length ≤ m.srv.connectTokenEntries.length := by
    rw [hs] at hlen
    have e : (reprNS out m.srv).connect_token_entries.length = m.srv.connectTokenEntries.length := by
      show (m.srv.connectTokenEntries.map (Option.map reprEntry)).length = _
      rw [List.length_map]
    rw [e] at hlen; exact hlen
  obtain ⟨hadr, ar, har, hax, v, pid, expire, xnonce, data, t, hd, hacc, hid, hud, hall⟩ :=
    C05H.connected_from_first_presenter hg.reachH (hcov _ hsim.arrivals) hlen' hm
  subst hadr
  exact ⟨rfl, m.arrivals, hsim.arrivals, ar, har, hax, v, pid, expire, xnonce, data, t, hd, hacc, hid, by rw [hud], hall⟩

/-! ## (d) C18T: a fresh session is never timed out, over every generated server trace -/

theorem mrun_runOps {a : AEAD} : ∀ (ops : List Op) {m m' : MNc}, m.run a ops = some m' →
    ∃ rs, NcLive2.runOps a m.srv ops = some (rs, m'.srv) ∧ m'.results = m.results ++ rs := by
  intro ops
  induction ops with
  | nil => intro m m' h; cases h; exact ⟨[], rfl, by simp⟩
  | cons op ops ih =>
    intro m m' h
    simp only [MNc.run] at h
    cases hs : m.step a op with
    | none => rw [hs] at h; cases h
    | some m1 =>
      rw [hs] at h
      obtain ⟨r, hns, hres, -⟩ := mstep_inv hs
      obtain ⟨rs, hro, hres'⟩ := ih h
      refine ⟨r :: rs, ?_, ?_⟩
      · simp only [NcLive2.runOps, hns, hro, Option.map_some]
      · rw [hres', hres, List.append_assoc]; rfl

/-- mirror of `NS.ident` -/
def gIdent (c : SConnection) : Nat × RustSem.SocketAddr × List Nat × List Nat × List Nat × Int × Nat :=
  (c.client_id, c.addr, c.user_data, c.send_key, c.receive_key, c.timeout_seconds, c.expire_timestamp)

theorem gIdent_repr {c c' : Netcode.Connection} (h : ident c' = ident c) : gIdent (reprNConn c') = gIdent (reprNConn c) :=
  congrArg SrcCorNc.reprIdent h

/-- **C18T `never_timed_out` over every generated server trace** (from any pair of related states).  The generated state
    `g` represents the model state `m` (`SimNc`, e.g. by `run_sim` / `greach_model`), which satisfies `NS.ServerInv` and holds
    the session `cn` of client `id` in slot `i`.  `ops` is ANY generated trace (in range) that runs to its end (`g.run a ops =
    some g'`).  The trace hypothesis `Fresh` is stated on the related model state: at every `update_client id` the token's
    timeout is not positive or `now ≤ last + timeout` (`last`: the time of the most recent authentic datagram of that
    session), nobody calls `disconnect id`, no datagram is an authentic Disconnect packet of that session; everything else
    (forged / replayed / foreign datagrams, other clients, `set_max_clients`, any `update`) is unconstrained.
    Then in the generated final state slot `i` still holds a session with the same identity, the generated
    `is_client_connected(id)` returns `true`, and none of the generated calls of the trace returned
    `ClientDisconnected id ..`.  (Transports `C18T.never_timed_out`.) -/
theorem never_timed_out {a : AEAD} (hl : a.Laws) {m : MNc} {g g' : GNc} (hi : ServerInv m.srv) (hsim : SimNc m g)
    {ops : List Op} (hr : OpsInRange ops) (hrun : g.run a ops = some g') {id i : Nat} {cn : Netcode.Connection}
    (hc : At m.srv.clients i cn) (hid : cn.clientId = id) (hfresh : NcLive2.Fresh a id m.srv cn.lastPacketReceivedTime ops) :
    g.srv.clients[i]? = some (some (reprNConn cn)) ∧
    (∃ gc', g'.srv.clients[i]? = some (some gc') ∧ gIdent gc' = gIdent (reprNConn cn)) ∧
    (NetcodeServer.is_client_connected g'.srv id : Res Empty _) = .ok true ∧
    (∀ ad o, Src.renetcode.server.ServerResult.ClientDisconnected id ad o ∉ g'.results.drop g.results.length) := by
  obtain ⟨m', hm', hsim'⟩ := run_sim_conv_of a hl ops hi hsim hr hrun
  obtain ⟨rs, hro, hres⟩ := mrun_runOps ops hm'
  obtain ⟨⟨c', hc', hident⟩, hconn, hnd, -⟩ := C18T.never_timed_out a hi hc hid hfresh hro
  obtain ⟨out, _, hs⟩ := hsim.srv
  obtain ⟨out', _, hs'⟩ := hsim'.srv
  refine ⟨slot_to_repr hsim.repr hc, ⟨_, slot_to_repr hsim'.repr hc', gIdent_repr hident⟩, ?_, ?_⟩
  · rw [hs', SrcTie.nc_server_is_client_connected, hconn]
  · intro ad o hmem
    rw [hsim'.results, hsim.results, hres, List.map_append, List.length_map, List.drop_left' (List.length_map _)] at hmem
    obtain ⟨r, hr', he⟩ := List.mem_map.mp hmem
    obtain ⟨ad0, o0, rfl, -⟩ := reprNSR_clientDisconnected he
    exact hnd ad0 o0 hr'

/-- **… from the generated `NetcodeServer::new`**: the generated execution of `ops0` reaches `g`, the model execution of the
    same operations reaches `m` (so `m` and `g` are related by the simulation); then as above for every continuation. -/
theorem never_timed_out_exec {a : AEAD} (hl : a.Laws) {c : NcCfg} {ops0 ops : List Op} {m : MNc} {g g' : GNc}
    (hm : MNc.exec a c ops0 = some m) (hg : GNc.exec a c ops0 = some g) (hr0 : OpsInRange ops0) (hr : OpsInRange ops)
    (hrun : g.run a ops = some g') {id i : Nat} {cn : Netcode.Connection}
    (hc : At m.srv.clients i cn) (hid : cn.clientId = id) (hfresh : NcLive2.Fresh a id m.srv cn.lastPacketReceivedTime ops) :
    g.srv.clients[i]? = some (some (reprNConn cn)) ∧
    (∃ gc', g'.srv.clients[i]? = some (some gc') ∧ gIdent gc' = gIdent (reprNConn cn)) ∧
    (NetcodeServer.is_client_connected g'.srv id : Res Empty _) = .ok true ∧
    (∀ ad o, Src.renetcode.server.ServerResult.ClientDisconnected id ad o ∉ g'.results.drop g.results.length) := by
  obtain ⟨g2, e, hsim⟩ := run_sim a hl c ops0 m hr0 hm
  rw [hg] at e; cases e
  exact never_timed_out hl (mgood_exec hm).reach.inv hsim hr hrun hc hid hfresh

/-! ## (f) C19: the shape of a reply, after any generated run -/

/-- mirror of `ServerResult.datagram` -/
def gDatagram : SServerResult → Option (List Nat)
  | .PacketToSend _ out => some out
  | .ClientConnected _ _ _ out => some out
  | .ClientDisconnected _ _ out => out
  | _ => none

theorem gDatagram_repr (r : Netcode.ServerResult) : gDatagram (reprNSR r) = r.datagram.map toNats := by
  cases r <;> rfl

/-- **C19 `reply_to_same_address` / `reply_strictly_smaller` after any generated run.**  `g` is reached by a generated run;
    the two `u64` counters `global_sequence`, `challenge_sequence` of the generated struct have not reached `u64::MAX`
    (otherwise the debug-profile arithmetic check unwinds); the generated finder `find_client_mut_by_addr` finds no connected
    client with the source address.  Then whatever datagram the generated `process_packet` answers with — for ANY bytes — is
    addressed to the source address (as `PacketToSend` or inside `ClientConnected`) and is STRICTLY SHORTER than the datagram
    received: no amplification.  (Transports `C19.reply_to_same_address`, `C19.reply_strictly_smaller`; their hypothesis
    `SInv 1` follows from the two counter bounds and `NS.ServerInv` — pending connections have sequence 0.) -/
theorem reply_shape {a : AEAD} (hl : a.Laws) {g : GNc} (h : GReach a g) (hgs : g.srv.global_sequence < 2 ^ 64 - 1)
    (hcs : g.srv.challenge_sequence < 2 ^ 64 - 1) {addr : Addr} {buf : Bytes} (hb : buf.length + 16 < 2 ^ 64)
    (hf : (find_client_mut_by_addr g.srv.clients (reprAddr addr) : Res Empty _) = .ok none)
    {srv' : SNetcodeServer} {buf' : List Nat} {R : SServerResult}
    (hp : @NetcodeServer.process_packet (aeadOf a) Empty g.srv (reprAddr addr) (toNats buf) = .ok (srv', buf', R))
    {out : List Nat} (ho : gDatagram R = some out) :
    (R = .PacketToSend (reprAddr addr) out ∨ ∃ id ud, R = .ClientConnected id (reprAddr addr) ud out) ∧
      out.length < buf.length := by
  obtain ⟨m, hg, hsim, o, ho', hs, r, s', hm, rfl⟩ := greach_pp hl h hb hp
  rw [hs] at hgs hcs
  have hinv : NetcodeServer.SInv (0 + 1) m.srv := sinv_of hg.reach.inv hgs hcs
  have hf' := (find_by_addr_none hsim.repr).1 hf
  rw [gDatagram_repr, Option.map_eq_some_iff] at ho
  obtain ⟨out0, hd, rfl⟩ := ho
  refine ⟨?_, ?_⟩
  · rcases C19.reply_to_same_address a hinv hf' hm hd with rfl | ⟨id, ud, rfl⟩
    · exact Or.inl rfl
    · exact Or.inr ⟨id, toNats ud, rfl⟩
  · rw [toNats_length]
    exact C19.reply_strictly_smaller a hl hinv hf' hm hd

/-- **C10 `payload_routing_in` after any generated run**: a `Payload id p` surfaced by the generated `process_packet` from
    a datagram of source `addr` carries the id for which the generated `client_addr(id)` returns `addr`.
    (Transports `C10.payload_routing_in`.) -/
theorem payload_routing_in {a : AEAD} (hl : a.Laws) {g : GNc} (h : GReach a g) {addr : Addr} {buf : Bytes}
    (hb : buf.length + 16 < 2 ^ 64) {srv' : SNetcodeServer} {buf' : List Nat} {id : Nat} {p : List Nat}
    (hp : @NetcodeServer.process_packet (aeadOf a) Empty g.srv (reprAddr addr) (toNats buf) = .ok (srv', buf', .Payload id p)) :
    (NetcodeServer.client_addr g.srv id : Res Empty _) = .ok (some (reprAddr addr)) := by
  obtain ⟨m, hg, hsim, o, ho', hs, r, s', hm, hR⟩ := greach_pp hl h hb hp
  obtain ⟨p0, rfl, rfl⟩ := reprNSR_payload hR.symm
  rw [hs, SrcTie.nc_server_client_addr, (C10.payload_routing_in hg.reach hm).1]
  rfl

/-- **C10 `lookups` after any generated run**: if the generated `client_addr(id)` and `user_data(id)` answer `ad` and `ud`, then
    the generated `is_client_connected(id)` is `true` and the event log of the generated run contains `ClientConnected id ad ud`
    with no `ClientDisconnected id ad` after it.  (Transports `C10.lookups`.) -/
theorem lookups {a : AEAD} (hl : a.Laws) {g : GNc} (h : GReach a g) {id : Nat} {ad : RustSem.SocketAddr} {ud : List Nat}
    (h1 : (NetcodeServer.client_addr g.srv id : Res Empty _) = .ok (some ad))
    (h2 : (NetcodeServer.user_data g.srv id : Res Empty _) = .ok (some ud)) :
    (NetcodeServer.is_client_connected g.srv id : Res Empty _) = .ok true ∧
    ∃ l1 l2, g.events = l1 ++ .connected id ad ud :: l2 ∧ GEvent.disconnected id ad ∉ l2 := by
  obtain ⟨m, hg, hsim⟩ := greach_model hl h
  obtain ⟨o, ho', hs⟩ := hsim.srv
  rw [hs] at h1 h2 ⊢
  rw [SrcTie.nc_server_client_addr] at h1
  rw [SrcTie.nc_server_user_data] at h2
  simp only [Res.ok.injEq, Option.map_eq_some_iff] at h1 h2
  obtain ⟨ad0, e1, rfl⟩ := h1
  obtain ⟨ud0, e2, rfl⟩ := h2
  obtain ⟨hc, l1, l2, hlog, hn⟩ := C10.lookups hg.reach e1 e2
  refine ⟨by rw [SrcTie.nc_server_is_client_connected, hc], l1.map reprEvent, l2.map reprEvent, ?_, not_mem_map_repr hn⟩
  rw [events_sim hsim, hlog]
  simp only [List.map_append, List.map_cons, reprEvent]

/-- the model-side hypotheses of `never_timed_out_exec` as one decidable check -/
def freshAfterB (a : AEAD) (c : NcCfg) (ops0 : List Op) (i id : Nat) (ops : List Op) : Bool :=
  match MNc.exec a c ops0 with
  | some m => match m.srv.clients[i]? with
    | some (some cn) => decide (cn.clientId = id) && NcLive2.freshB a id m.srv cn.lastPacketReceivedTime ops
    | _ => false
  | none => false

theorem never_timed_out_check {a : AEAD} (hl : a.Laws) {c : NcCfg} {ops0 ops : List Op} {i id : Nat}
    (hB : freshAfterB a c ops0 i id ops = true) (hr0 : OpsInRange ops0) (hr : OpsInRange ops)
    (hsome : (GNc.exec a c (ops0 ++ ops)).isSome = true) :
    ∃ g g', GNc.exec a c ops0 = some g ∧ GNc.exec a c (ops0 ++ ops) = some g' ∧
      (NetcodeServer.is_client_connected g'.srv id : Res Empty _) = .ok true ∧
      (∀ ad o, Src.renetcode.server.ServerResult.ClientDisconnected id ad o ∉ g'.results.drop g.results.length) := by
  unfold freshAfterB at hB
  split at hB
  · rename_i m hm
    split at hB
    · rename_i cn hc
      simp only [Bool.and_eq_true, decide_eq_true_eq] at hB
      obtain ⟨g, hg, -⟩ := run_sim a hl c ops0 m hr0 hm
      obtain ⟨g', hg'⟩ := Option.isSome_iff_exists.mp hsome
      have hrun : g.run a ops = some g' := by rw [← exec_append hg]; exact hg'
      have := never_timed_out_exec hl hm hg hr0 hr hrun (i := i) hc hB.1 hB.2
      exact ⟨g, g', hg, hg', this.2.2.1, this.2.2.2⟩
    · cases hB
  · cases hB

/-! ## non-vacuity: concrete generated runs (world of `Lemmas/NcExamples.lean`, toy AEAD `Ex.a` with `Netcode.NS.Ex.laws_a`)

  The generated `NetcodeServer::new(now 0, max_clients 2, protocol 42, [srvAddr], Secure{key})` (2048 token entries), then:
  client A's connection request, a hostile datagram from another address, A's response (→ `ClientConnected 11`), a payload
  from A, its replay, a payload to A, a clock step, `update_client 11`, a hostile datagram from A's address,
  `disconnect 11` (→ `ClientDisconnected 11`).  For `count_le_max` and `never_timed_out`: the handshake alone (`hsOps`), then
  `C18T.traceA` (with a `set_max_clients 3`).  The generated runs are evaluated by the kernel.

  Configuration and operation lists: `Props/SrcNcServerRuns.lean`.  The runs of `Props/SrcPropsNcPayloadOnce.lean` and
  `Props/SrcPropsNcNonces.lean` start from the same `new` with the same request, whose scan of the 2048 token entries is most
  of a run's evaluation: `ex_all` evaluates them with the runs above. -/
section Examples
open Ex SrcNcSeal

def shape : SServerResult → String × Nat
  | .None => ("None", 0)
  | .PacketToSend _ p => ("PacketToSend", p.length)
  | .Payload id p => ("Payload", id * 1000 + p.length)
  | .ClientConnected id _ _ _ => ("ClientConnected", id)
  | .ClientDisconnected id _ _ => ("ClientDisconnected", id)

def okOr {α : Type} (d : α) : Res Empty α → α
  | .ok x => x
  | _ => d

def isConnA : Res Empty (SNetcodeServer × List Nat × SServerResult) → Bool
  | .ok (_, _, .ClientConnected id ad ud _) => id == 11 && ad == reprAddr addrA && ud == toNats udA
  | _ => false

def replyHypB (g : GNc) (addr : Addr) : Bool :=
  decide (g.srv.global_sequence < 2 ^ 64 - 1) && decide (g.srv.challenge_sequence < 2 ^ 64 - 1) &&
    match (find_client_mut_by_addr g.srv.clients (reprAddr addr) : Res Empty _) with
    | .ok none => true
    | _ => false

theorem replyHypB_spec {g : GNc} {addr : Addr} (h : replyHypB g addr = true) :
    g.srv.global_sequence < 2 ^ 64 - 1 ∧ g.srv.challenge_sequence < 2 ^ 64 - 1 ∧
      (find_client_mut_by_addr g.srv.clients (reprAddr addr) : Res Empty _) = .ok none := by
  unfold replyHypB at h
  simp only [Bool.and_eq_true, decide_eq_true_eq] at h
  obtain ⟨⟨h1, h2⟩, h3⟩ := h
  refine ⟨h1, h2, ?_⟩
  cases hf : (find_client_mut_by_addr g.srv.clients (reprAddr addr) : Res Empty _) with
  | ok o =>
    rw [hf] at h3
    cases o with
    | none => rfl
    | some k => cases h3
  | err e => exact nomatch e
  | panic msg => rw [hf] at h3; cases h3

instance decGNoLower (a : AEAD) : ∀ (g : GNc) (ops : List Op), Decidable (GNoLower a g ops)
  | _, [] => isTrue trivial
  | g, op :: ops => by
    unfold GNoLower
    have d1 : Decidable (∀ n, op = .setMaxClients n → g.srv.max_clients ≤ n) := by
      cases op with
      | setMaxClients k =>
        exact decidable_of_iff (g.srv.max_clients ≤ k)
          ⟨fun h n hn => by cases hn; exact h, fun h => h k rfl⟩
      | _ => exact isTrue (fun n hn => by cases hn)
    have d2 : Decidable (match g.step a op with | some g' => GNoLower a g' ops | none => True) := by
      cases g.step a op with
      | none => exact isTrue trivial
      | some g' => exact decGNoLower a g' ops
    infer_instance

def nlB : Bool := match GNc.init exCfg with
  | some g0 => decide (GNoLower Ex.a g0 (hsOps ++ C18T.traceA)) && (g0.run Ex.a (hsOps ++ C18T.traceA)).isSome
  | none => false

set_option maxRecDepth 100000 in
/-- everything the instantiations below read off the generated code, in one kernel evaluation.
    The run of `exOps` succeeds and returns these results — challenge (333 bytes), nothing for the hostile datagram,
    `ClientConnected 11`, `Payload 11 [1,2,3]`, NOTHING for its replay, the sealed payload for A, …, `ClientDisconnected 11` —,
    the generated `clients_id()` is empty at the end; its event log; it agrees with the model run, result by result (both
    evaluated; `run_sim` proves this for every run).
    After `exOps1` (A's request and a hostile datagram) the generated `process_packet` answers A's response with
    `ClientConnected 11`, and the hypotheses of `reply_shape` hold there.
    The run of `hsOps ++ C18T.traceA` succeeds and never lowers the limit; in the model execution of the handshake from `new`,
    A (id 11) is in slot 0 and `C18T.traceA` is `Fresh` for it.
    The run of `SrcPropsNcPayloadOnce.exOps` returns the images of `exResults`: `Payload 11 [1,2,3]` once, NOTHING for its
    replay, `Payload 11 [4,5]` for sequence 3, NOTHING for the modified copy carrying sequence 2 again.
    The ghost log of `SrcPropsNcNonces.nOps` (kind 0 handshake / 1 session, slot, sequence number, datagram length): two Challenges under 2^63, 2^63 + 1; then slot 0: connect keep-alive 0, payloads
    1, 2, keep-alive 3, payload 4, keep-alive 5, Disconnect 6; and the hypotheses `exHypB` — a second time with `exHypB`
    unfolded, the form its instantiation takes apart: the kernel compares `exHypB` with its body only by evaluating both.
    All datagrams are in range. -/
theorem ex_all :
    ((GNc.exec Ex.a exCfg exOps).map (fun g => (g.results.map shape, okOr [7] (NetcodeServer.clients_id g.srv))) =
        some ([("PacketToSend", 333), ("None", 0), ("ClientConnected", 11), ("Payload", 11003), ("None", 0),
          ("PacketToSend", 20), ("None", 0), ("PacketToSend", 26), ("None", 0), ("ClientDisconnected", 11)], []) ∧
      (GNc.exec Ex.a exCfg exOps).map (·.events) =
        some [.connected 11 (reprAddr addrA) (toNats udA), .disconnected 11 (reprAddr addrA)] ∧
      (GNc.exec Ex.a exCfg exOps).map (·.results) = (MNc.exec Ex.a exCfg exOps).map (fun m => m.results.map reprNSR)) ∧
    ((match GNc.exec Ex.a exCfg exOps1 with
        | some g => isConnA (@NetcodeServer.process_packet (aeadOf Ex.a) Empty g.srv (reprAddr addrA) (toNats respA))
        | none => false) = true ∧
      (match GNc.exec Ex.a exCfg exOps1 with
        | some g => replyHypB g addrA
        | none => false) = true) ∧
    (nlB = true ∧ (GNc.exec Ex.a exCfg (hsOps ++ C18T.traceA)).isSome = true ∧
      freshAfterB Ex.a exCfg hsOps 0 11 C18T.traceA = true) ∧
    (OpsInRange exOps ∧ OpsInRange (hsOps ++ C18T.traceA)) ∧
    ((GNc.exec Ex.a exCfg SrcPropsNcPayloadOnce.exOps).map (·.results) = some (SrcPropsNcPayloadOnce.exResults.map reprNSR) ∧
      OpsInRange SrcPropsNcPayloadOnce.exOps) ∧
    (GNc.init exCfg).map (fun g0 => (gtrace Ex.a g0 SrcPropsNcNonces.nOps).map fun
        | .hs q out => (0, 0, q, out.length)
        | .sess i r out => (1, i, r.seq, out.length)) =
      some [(0, 0, 2 ^ 63, 333), (0, 0, 2 ^ 63 + 1, 333), (1, 0, 0, 26), (1, 0, 1, 20), (1, 0, 2, 19), (1, 0, 3, 26),
        (1, 0, 4, 19), (1, 0, 5, 26), (1, 0, 6, 18)] ∧
    (SrcPropsNcNonces.exHypB = true ∧
      (match GNc.init exCfg with
        | some g0 =>
          match g0.run Ex.a (SrcPropsNcNonces.nOps.take 2) with
          | some g =>
            match gstep Ex.a g (.packet addrA respA) with
            | some (g', evs) =>
              decide (gsv g.srv 0 = none ∧ gsv g'.srv 0 = some (SrcPropsNcNonces.kA, 1) ∧
                gsessRecs 0 evs = [⟨SrcPropsNcNonces.kA, 0⟩] ∧
                (gsessLog Ex.a 0 g' (SrcPropsNcNonces.nOps.drop 3)).map (·.seq) = [1, 2, 3, 4, 5, 6])
            | none => false
          | none => false
        | none => false) = true) ∧
    OpsInRange SrcPropsNcNonces.nOps := by
  decide +kernel

set_option maxRecDepth 100000 in
theorem ex_run : (GNc.exec Ex.a exCfg exOps).map (fun g => (g.results.map shape, okOr [7] (NetcodeServer.clients_id g.srv))) =
    some ([("PacketToSend", 333), ("None", 0), ("ClientConnected", 11), ("Payload", 11003), ("None", 0), ("PacketToSend", 20),
      ("None", 0), ("PacketToSend", 26), ("None", 0), ("ClientDisconnected", 11)], []) := ex_all.1.1

set_option maxRecDepth 100000 in
theorem ex_events : (GNc.exec Ex.a exCfg exOps).map (·.events) =
    some [.connected 11 (reprAddr addrA) (toNats udA), .disconnected 11 (reprAddr addrA)] := ex_all.1.2.1

set_option maxRecDepth 100000 in
theorem ex_agree : (GNc.exec Ex.a exCfg exOps).map (·.results) =
    (MNc.exec Ex.a exCfg exOps).map (fun m => m.results.map reprNSR) := ex_all.1.2.2

theorem exOps_inRange : OpsInRange exOps := ex_all.2.2.2.1.1
theorem exOps1_inRange : OpsInRange exOps1 := (opsInRange_append exOps_inRange).1

theorem ex_g : ∃ g, GNc.exec Ex.a exCfg exOps = some g ∧
    g.events = [.connected 11 (reprAddr addrA) (toNats udA), .disconnected 11 (reprAddr addrA)] := by
  have h := ex_events
  cases hg : GNc.exec Ex.a exCfg exOps with
  | none => rw [hg] at h; cases h
  | some g => rw [hg] at h; exact ⟨g, rfl, Option.some.inj h⟩

theorem ex_greach : ∃ g, GReach Ex.a g ∧
    g.events = [.connected 11 (reprAddr addrA) (toNats udA), .disconnected 11 (reprAddr addrA)] := by
  obtain ⟨g, hg, he⟩ := ex_g
  exact ⟨g, .exec exOps_inRange hg, he⟩

/-- `table_inv`, `table_inv_queries`, `disconnected_only_after_connected` instantiated -/
example : ∃ g, GReach Ex.a g ∧ (∃ ids, (NetcodeServer.clients_id g.srv : Res Empty _) = .ok ids ∧ ids.Nodup) ∧
    g.srv.max_clients ≤ g.srv.clients.length ∧
    ∃ ud l1 l2, ([] : List GEvent) ++ [GEvent.connected 11 (reprAddr addrA) (toNats udA)] =
        l1 ++ .connected 11 (reprAddr addrA) ud :: l2 ∧ GEvent.disconnected 11 (reprAddr addrA) ∉ l2 := by
  obtain ⟨g, hr, he⟩ := ex_greach
  exact ⟨g, hr, (table_inv_queries Netcode.NS.Ex.laws_a hr).1, (table_inv Netcode.NS.Ex.laws_a hr).2.2.2.2.1,
    disconnected_only_after_connected Netcode.NS.Ex.laws_a hr (pre := [.connected 11 (reprAddr addrA) (toNats udA)]) (post := []) he⟩

theorem hsOps_inRange : OpsInRange hsOps := (opsInRange_append ex_all.2.2.2.1.2).1
theorem traceA_inRange : OpsInRange C18T.traceA := (opsInRange_append ex_all.2.2.2.1.2).2
theorem respA_inRange : respA.length + 16 < 2 ^ 64 := hsOps_inRange (.packet addrA respA) (.tail _ (.head _))

set_option maxRecDepth 100000 in
theorem ex_resp : (match GNc.exec Ex.a exCfg exOps1 with
    | some g => isConnA (@NetcodeServer.process_packet (aeadOf Ex.a) Empty g.srv (reprAddr addrA) (toNats respA))
    | none => false) = true := ex_all.2.1.1

theorem ex_resp_ok : ∃ g srv' buf' ka, GNc.exec Ex.a exCfg exOps1 = some g ∧
    @NetcodeServer.process_packet (aeadOf Ex.a) Empty g.srv (reprAddr addrA) (toNats respA) =
      .ok (srv', buf', .ClientConnected 11 (reprAddr addrA) (toNats udA) ka) := by
  have h := ex_resp
  cases hg : GNc.exec Ex.a exCfg exOps1 with
  | none => rw [hg] at h; cases h
  | some g =>
    rw [hg] at h
    simp only at h
    cases hp : @NetcodeServer.process_packet (aeadOf Ex.a) Empty g.srv (reprAddr addrA) (toNats respA) with
    | err e => exact nomatch e
    | panic msg => rw [hp] at h; cases h
    | ok x =>
      obtain ⟨srv', buf', R⟩ := x
      rw [hp] at h
      cases R with
      | ClientConnected id ad ud ka =>
        simp only [isConnA, Bool.and_eq_true, beq_iff_eq] at h
        obtain ⟨⟨rfl, rfl⟩, rfl⟩ := h
        exact ⟨g, srv', buf', ka, rfl, hp⟩
      | _ => cases h

/-- `connected_only_after_request` instantiated: the hypothesis (a generated `process_packet` returning `ClientConnected`
    after a generated run) holds for A's response after A's request and a hostile datagram -/
example : ∃ ga : GArrival, ga.addr = reprAddr addrA ∧ ∃ ar, ArrRel ga ar ∧
    ∃ v pid expire xnonce data t, Accepted Ex.a ar.s addrA v pid expire xnonce data t ∧ t.clientId = 11 := by
  obtain ⟨g, srv', buf', ka, hg, hp⟩ := ex_resp_ok
  obtain ⟨-, s, -, ga, -, hga, ar, hrel, -, v, pid, expire, xnonce, data, t, -, hacc, -, hid, -⟩ :=
    connected_only_after_request Netcode.NS.Ex.laws_a (.exec exOps1_inRange hg) respA_inRange hp
  exact ⟨ga, hga, ar, hrel, v, pid, expire, xnonce, data, t, hacc, hid⟩

set_option maxRecDepth 100000 in
theorem ex_reply_hyp : (match GNc.exec Ex.a exCfg exOps1 with
    | some g => replyHypB g addrA
    | none => false) = true := ex_all.2.1.2

/-- `reply_shape` instantiated: the keep-alive inside the `ClientConnected` answering A's response (325 bytes) is shorter -/
example : ∃ g srv' buf' R out, GNc.exec Ex.a exCfg exOps1 = some g ∧
    @NetcodeServer.process_packet (aeadOf Ex.a) Empty g.srv (reprAddr addrA) (toNats respA) = .ok (srv', buf', R) ∧
    gDatagram R = some out ∧ out.length < respA.length := by
  obtain ⟨g, srv', buf', ka, hg, hp⟩ := ex_resp_ok
  have h' := ex_reply_hyp
  rw [hg] at h'
  obtain ⟨h1, h2, h3⟩ := replyHypB_spec h'
  exact ⟨g, srv', buf', _, ka, hg, hp, rfl,
    (reply_shape Netcode.NS.Ex.laws_a (.exec exOps1_inRange hg) h1 h2 respA_inRange h3 hp (out := ka) rfl).2⟩

set_option maxRecDepth 100000 in
theorem nlB_true : nlB = true := ex_all.2.2.1.1

/-- `count_le_max` instantiated: a generated run from `new` that never lowers the limit -/
example : ∃ g n k, GNc.exec Ex.a exCfg (hsOps ++ C18T.traceA) = some g ∧
    (NetcodeServer.connected_clients g.srv : Res Empty _) = .ok n ∧
    (NetcodeServer.max_clients' g.srv : Res Empty _) = .ok k ∧ n ≤ k := by
  have h := nlB_true
  unfold nlB at h
  cases h0 : GNc.init exCfg with
  | none => rw [h0] at h; cases h
  | some g0 =>
    rw [h0] at h
    simp only [Bool.and_eq_true, decide_eq_true_eq] at h
    obtain ⟨hnl, hsome⟩ := h
    cases hg : g0.run Ex.a (hsOps ++ C18T.traceA) with
    | none => rw [hg] at hsome; cases hsome
    | some g =>
      obtain ⟨n, k, h1, h2, h3, -⟩ := count_le_max Netcode.NS.Ex.laws_a ex_all.2.2.2.1.2 h0 hg hnl
      exact ⟨g, n, k, by simp only [GNc.exec, h0, hg], h1, h2, h3⟩

set_option maxRecDepth 100000 in
theorem ex_fresh : freshAfterB Ex.a exCfg hsOps 0 11 C18T.traceA = true := ex_all.2.2.1.2.2
set_option maxRecDepth 100000 in
theorem ex_trace_runs : (GNc.exec Ex.a exCfg (hsOps ++ C18T.traceA)).isSome = true := ex_all.2.2.1.2.1

/-- `never_timed_out_exec` instantiated: after the generated handshake, the generated run of `C18T.traceA` (clock steps up to the
    time-out boundary, an authentic and a forged keep-alive, another client's request, a payload, `disconnect 12`,
    `set_max_clients 3`, three `update_client 11`) keeps client 11 connected -/
example : ∃ g g', GNc.exec Ex.a exCfg hsOps = some g ∧ GNc.exec Ex.a exCfg (hsOps ++ C18T.traceA) = some g' ∧
    (NetcodeServer.is_client_connected g'.srv 11 : Res Empty _) = .ok true ∧
    (∀ ad o, Src.renetcode.server.ServerResult.ClientDisconnected 11 ad o ∉ g'.results.drop g.results.length) :=
  never_timed_out_check Netcode.NS.Ex.laws_a ex_fresh hsOps_inRange traceA_inRange ex_trace_runs

end Examples

end RenetVerif.SrcPropsNcHistory

/-
  Elsewhere: (c) C04 at-most-once / authenticity over a whole generated server run: `Props/SrcPropsNcPayloadOnce.lean`
  (transporting `Props/C04H.lean`); (e) C17 nonce uniqueness over a generated run: `Props/SrcPropsNcNonces.lean`
  (`session_nonces_strict`, `handshake_nonces_disjoint`); the client trace system: `Props/SrcPropsNcClientHistory.lean`;
  C10 `no_second_connected`, `log_replays` and the per-call C04 server statements: `Props/SrcPropsNcHistoryMore.lean`.
-/
