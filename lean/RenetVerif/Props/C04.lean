/-
  C04 — Netcode payloads: only authentic ones surface, each at most once (anti-replay).

  "A netcode endpoint surfaces a payload only if it is byte-identical to one its session peer passed to
   generate_payload_packet for the same protocol id and session keys, attributes it to that peer's client id, and
   surfaces each generated packet at most once however often, late or out of order the datagram (or any modification
   of it) is presented.  Conversely a genuine packet is surfaced the first time it arrives on a connected session
   provided its sequence number is less than 256 behind the highest one already accepted."

  Proofs: Lemmas/NcWire.lean.  Layers:
    1. the replay window (`replay_protection.rs`), pure;
    2. `Packet::decode` with a key and a window (the discipline: replay check, open, advance, parse);
       a session's receive side as a run of `decode` calls (`Recv.run`);
    3. `NetcodeServer::process_packet` / `NetcodeClient::process_packet`, one call.

  What "authentic" means here: the AEAD opened the body under the session key with nonce = the datagram's sequence
  number and additional data = version ‖ protocol id ‖ prefix byte.  That this implies "the peer sealed exactly this"
  is the per-run hypothesis `NoForgery` (never an AEAD law).

  Excluded point (documented, proven): sequence 2^64-1 equals the window's EMPTY marker and is accepted again
  (`sentinel_collision`); an honest sender reaches it after 2^64-1 packets.
  Not covered: replay of a datagram into a *later* session that reuses the same keys (the window is per connection;
  recorded as known finding K1).  The per-session statements over arbitrary interleavings of server API calls:
  Props/C04H.lean (`session_payload_once`, `payload_once_per_session`).
-/
import RenetVerif.Lemmas.NcWire
namespace RenetVerif.C04
open RenetVerif RenetVerif.Netcode RenetVerif.Netcode.Packet

/-- closed form of `already_received` (a total function: for `sequence + 256 > u64::MAX` the `checked_add` merely
    switches the first test off) -/
theorem alreadyReceived_closed_form (rp : RP) (s : Nat) :
    rp.alreadyReceived s = true ↔
      (s + 256 ≤ 2 ^ 64 - 1 ∧ s + 256 ≤ rp.mostRecent) ∨ (rp.at s ≠ Replay.EMPTY ∧ s ≤ rp.at s) :=
  RP.alreadyReceived_iff rp s

/-- The invariant `RP.Inv rp accepted` (`accepted` = ghost list of every sequence the window was advanced with):
    `mostRecent < 2^64`; every accepted `s ≤ mostRecent`; `mostRecent` is 0 or accepted (so it is the maximum);
    every entry is EMPTY or an accepted sequence congruent to its index mod 256; every accepted `s ≠ 2^64-1` is at
    least 256 behind `mostRecent` or covered by a non-EMPTY entry `≥ s`.  It holds initially … -/
theorem window_inv_new : RP.Inv RP.new [] := RP.inv_new

/-- … and is preserved by the discipline of `decode`: `advance` only after `already_received` said no. -/
theorem window_inv_advance {rp : RP} {accepted : List Nat} {s : Nat} (h : RP.Inv rp accepted) (hs : s < 2 ^ 64)
    (hf : rp.alreadyReceived s = false) : RP.Inv (rp.advance s) (s :: accepted) :=
  RP.inv_advance h hs hf

/-- an accepted sequence is rejected for ever after -/
theorem no_reaccept {rp : RP} {accepted : List Nat} {s : Nat} (h : RP.Inv rp accepted) (hs : s ∈ accepted)
    (hne : s ≠ 2 ^ 64 - 1) : rp.alreadyReceived s = true :=
  RP.no_reaccept h hs hne

/-- a sequence never accepted and less than 256 behind the highest accepted one is not rejected -/
theorem fresh_accept {rp : RP} {accepted : List Nat} {s : Nat} (h : RP.Inv rp accepted) (hs : s ∉ accepted)
    (hw : rp.mostRecent < s + 256) : rp.alreadyReceived s = false :=
  RP.fresh_accept h hs hw

/-- the excluded point: `2^64-1` is accepted, and accepted again -/
theorem sentinel_collision :
    RP.new.alreadyReceived (2 ^ 64 - 1) = false ∧ (RP.new.advance (2 ^ 64 - 1)).alreadyReceived (2 ^ 64 - 1) = false :=
  RP.sentinel_collision

/-- `decode` returns a payload only if the datagram's body opened under the key, with the nonce and additional data
    its own header determines, to exactly that payload; the window (if any) had not seen the sequence number and
    is advanced with it. -/
theorem payload_surfaced_only_if_opened {a : AEAD} {buf : Bytes} {proto : Nat} {key : Option Bytes}
    {rp rp' : Option RP} {seq : Nat} {p : Bytes}
    (h : decode a buf proto key rp = (.ok (seq, .payload p), rp')) :
    ∃ k, key = some k ∧ seq = wireSeq buf ∧ SealedOpen a buf proto k .payload p ∧
      (∀ w, rp = some w → w.alreadyReceived seq = false) ∧ rp' = rp.map (·.advance seq) := by
  rcases decode_ok h with ⟨_, _, _, _, hpt, _, _⟩ | ⟨k, ty, plain, hk, hso, hd, hs, hr, hw⟩
  · cases hpt
  · obtain ⟨_, hpt, _, hpl⟩ := read_ok hr
    have hty : ty = .payload := hpt.symm
    subst hty
    cases hpl rfl
    refine ⟨k, hk, hs, hso, ?_, ?_⟩
    · intro w hw'; subst hw'; rw [isDup_some] at hd; simpa [PacketType.applyReplayProtection] using hd
    · rw [hw]; exact stepWindow_protected rfl _ _

/-- the error results of `decode` leave the window alone, except: an authentic keep-alive whose plaintext is shorter
    than 8 bytes advances it (the window moves before the body is parsed) and the call returns `IoError`. -/
theorem decode_error_window {a : AEAD} {buf : Bytes} {proto : Nat} {key : Option Bytes} {rp rp' : Option RP}
    {e : NetcodeError} (h : decode a buf proto key rp = (.err e, rp')) :
    rp' = rp ∨
    (∃ k plain, key = some k ∧ SealedOpen a buf proto k .keepAlive plain ∧
      isDup .keepAlive (wireSeq buf) rp = false ∧ plain.length < 8 ∧ e = .ioError ∧
      rp' = rp.map (·.advance (wireSeq buf))) :=
  decode_err h

/-- Per-run authenticity hypothesis: whichever of the presented datagrams opens under `key` (with the nonce and
    additional data its header determines) was sealed by the session peer: `sealed seq prefix plaintext`. -/
def NoForgery (a : AEAD) (proto : Nat) (key : Bytes) (presented : List Bytes)
    (sealed : Nat → UInt8 → Bytes → Prop) : Prop :=
  ∀ buf ∈ presented, ∀ plain,
    a.open key (nonce (wireSeq buf)) (additionalData (wirePrefix buf) proto) (wireBody buf) = some plain →
    sealed (wireSeq buf) (wirePrefix buf) plain

/-- Every payload a session's receive side surfaces, over any sequence of datagrams, is byte-identical to a plaintext
    the peer sealed with that sequence number under a payload prefix. -/
theorem payloads_authentic {a : AEAD} {proto : Nat} {key : Bytes} {bufs : List Bytes}
    {sealed : Nat → UInt8 → Bytes → Prop} (hnf : NoForgery a proto key bufs sealed) {seq : Nat} {p : Bytes}
    (h : (seq, Packet.payload p) ∈ (Recv.run a proto key bufs).surfaced) :
    ∃ pfx, PacketType.fromU8 (pfx.toNat % 16) = .ok .payload ∧ sealed seq pfx p := by
  obtain ⟨buf, plain, hb, hs, hso, hr⟩ := (Recv.good_run a proto key bufs).surf _ h (by intro h; cases h)
  cases (read_ok hr).2.2.2 rfl
  dsimp only at hs
  refine ⟨wirePrefix buf, hso.kind, ?_⟩
  rw [← hs]
  exact hnf buf hb p hso.opened

/-- At most once: over any sequence of datagrams presented to a session (same key, window starting from `new`), the
    sequence numbers of the surfaced replay-protected packets (payload, keep-alive, disconnect; `2^64-1` excluded)
    are pairwise distinct.  A surfaced packet's sequence number is `wireSeq` of its datagram, so no datagram, replay
    of it, or modification keeping its sequence bytes is surfaced twice. -/
theorem payload_at_most_once (a : AEAD) (proto : Nat) (key : Bytes) (bufs : List Bytes) :
    (protectedSeqs (Recv.run a proto key bufs).surfaced).Nodup :=
  (Recv.good_run a proto key bufs).nodup

/-- the ghost list of the run is what the window invariant speaks about -/
theorem run_window_inv (a : AEAD) (proto : Nat) (key : Bytes) (bufs : List Bytes) :
    RP.Inv (Recv.run a proto key bufs).window (Recv.run a proto key bufs).accepted :=
  (Recv.good_run a proto key bufs).inv

/-- "first time it arrives": a sequence number is in the accepted list only if some presented datagram carrying it
    opened under the key -/
theorem accepted_only_if_presented {a : AEAD} {proto : Nat} {key : Bytes} {bufs : List Bytes} {seq : Nat}
    (h : seq ∈ (Recv.run a proto key bufs).accepted) :
    ∃ buf ty plain, buf ∈ bufs ∧ wireSeq buf = seq ∧ SealedOpen a buf proto key ty plain :=
  let ⟨buf, ty, plain, hb, hs, hso, _⟩ := (Recv.good_run a proto key bufs).auth seq h
  ⟨buf, ty, plain, hb, hs, hso⟩

theorem not_accepted_of_not_presented {a : AEAD} {proto : Nat} {key : Bytes} {bufs : List Bytes} {seq : Nat}
    (h : ∀ buf ∈ bufs, wireSeq buf ≠ seq) : seq ∉ (Recv.run a proto key bufs).accepted := by
  intro hm
  obtain ⟨buf, _, _, hb, hs, _⟩ := accepted_only_if_presented hm
  exact h buf hb hs

/-- Converse, wire level: what `encode` makes of a payload decodes, under the same protocol id and key, to that payload
    on any window that does not reject the sequence number. -/
theorem genuine_accepted (a : AEAD) (hl : a.Laws) (p : Bytes) (proto : Nat) {seq : Nat} (hs : seq < 2 ^ 64)
    (key : Bytes) (cap : Nat) (hc : 1 + 8 + p.length + 16 ≤ cap) (rp : RP) (hf : rp.alreadyReceived seq = false) :
    ∃ d, encode a (.payload p) cap proto (some (seq, key)) = .ok d ∧
      decode a d proto (some key) (some rp) = (.ok (seq, .payload p), some (rp.advance seq)) := by
  refine ⟨sealedBytes a (.payload p) proto seq key, ?_, ?_⟩
  · exact (encode_sealed_ok a hl (.payload p) cap proto seq key (by intro h; cases h) (by simp only [body]; omega)).1
  · rw [decode_sealedBytes a (.payload p) proto seq key hl hs (by intro h; cases h) trivial (some rp)
      (by rw [isDup_some, hf]; rfl)]
    rfl

/-- Converse, session level: after any history of datagrams (replays, forgeries, reordering …), a genuine payload packet
    whose sequence number was not accepted before and is less than 256 behind the highest accepted one is surfaced. -/
theorem genuine_accepted_after_history (a : AEAD) (hl : a.Laws) (proto : Nat) (key : Bytes) (bufs : List Bytes)
    (p : Bytes) {seq : Nat} (hs : seq < 2 ^ 64) (hfresh : seq ∉ (Recv.run a proto key bufs).accepted)
    (hw : (Recv.run a proto key bufs).window.mostRecent < seq + 256) :
    (Recv.run a proto key (bufs ++ [sealedBytes a (.payload p) proto seq key])).surfaced =
      (seq, .payload p) :: (Recv.run a proto key bufs).surfaced := by
  have hf := RP.fresh_accept (Recv.good_run a proto key bufs).inv hfresh hw
  have hdec := decode_sealedBytes a (.payload p) proto seq key hl hs (by intro h; cases h) trivial
    (some (Recv.run a proto key bufs).window) (by rw [isDup_some, hf]; rfl)
  simp only [Recv.run, List.foldl_append, List.foldl_cons, List.foldl_nil]
  simp only [Recv.run] at hdec
  simp only [Recv.step, hdec]

open NetcodeServer in
/-- Server: a payload surfaces only from the address of a connected client, attributed to that client's id, only if the
    datagram opened under that client's receive key to exactly that payload and its sequence number was not rejected
    by the client's window; the window stored afterwards is advanced with it.  (`SInv 1` — the server's packet counters
    are below `u64::MAX`, see C07 — plays no part: the call is given as having returned.) -/
theorem server_payload_only_if_opened (a : AEAD) {s s' : NetcodeServer} (hinv : SInv 1 s) {addr : Addr} {buf : Bytes}
    {cid : Nat} {p : Bytes} (h : processPacket a s addr buf = .ok (.payload cid p, s')) :
    ∃ slot c, findClientByAddr s.clients addr = some (slot, c) ∧ c.state = .connected ∧ cid = c.clientId ∧
      SealedOpen a buf s.protocolId c.receiveKey .payload p ∧
      c.replayProtection.alreadyReceived (wireSeq buf) = false ∧
      s' = setClient s slot (some (c.received (c.replayProtection.advance (wireSeq buf)) s.currentTime)) := by
  obtain ⟨slot, c, seq, rp', hf, hst, hcid, hdec, hs'⟩ := processPacket_payload_inv a h
  obtain ⟨k, hk, hseq, hso, hfresh, hrp⟩ := payload_surfaced_only_if_opened hdec
  cases hk
  subst hseq
  refine ⟨slot, c, hf, hst, hcid, hso, hfresh _ rfl, ?_⟩
  rw [hs', hrp]; rfl

open NetcodeServer in
/-- Server: once the client's window reports a sequence number as received, no datagram carrying it surfaces a payload
    (with `RP.alreadyReceived_advance_self` and `no_reaccept`: the accepted datagram, any copy, any modification that
    keeps the sequence bytes). -/
theorem server_replay_rejected (a : AEAD) {s : NetcodeServer} (hinv : SInv 1 s) {addr : Addr} {buf : Bytes}
    {slot : Nat} {c : Connection} (hf : findClientByAddr s.clients addr = some (slot, c))
    (hdup : c.replayProtection.alreadyReceived (wireSeq buf) = true) (cid : Nat) (p : Bytes) (s' : NetcodeServer) :
    processPacket a s addr buf ≠ .ok (.payload cid p, s') := by
  intro h
  obtain ⟨slot', c', hf', _, _, _, hfresh, _⟩ := server_payload_only_if_opened a hinv h
  rw [hf] at hf'; cases hf'
  rw [hdup] at hfresh; cases hfresh

open NetcodeServer in
/-- Server, converse: a genuine payload packet for a connected client is surfaced, attributed to it, if the client's
    window does not reject its sequence number (`fresh_accept`: never accepted, less than 256 behind). -/
theorem server_genuine_accepted (a : AEAD) (hl : a.Laws) (s : NetcodeServer) (addr : Addr) {slot : Nat}
    {c : Connection} (hf : findClientByAddr s.clients addr = some (slot, c)) (hst : c.state = .connected)
    (p : Bytes) {seq : Nat} (hseq : seq < 2 ^ 64) (hfresh : c.replayProtection.alreadyReceived seq = false) :
    processPacket a s addr (sealedBytes a (.payload p) s.protocolId seq c.receiveKey) =
      .ok (.payload c.clientId p, setClient s slot (some (c.received (c.replayProtection.advance seq) s.currentTime))) := by
  have hdec := Packet.decode_sealedBytes a (.payload p) s.protocolId seq c.receiveKey hl hseq (by intro h; cases h) trivial
    (some c.replayProtection) (by rw [Packet.isDup_some, hfresh]; rfl)
  rw [NS.pp_from_connected hf hst hdec]
  simp only [setClient, Connection.received, Packet.stepWindow, Packet.packetType, PacketType.applyReplayProtection,
    Option.map_some, if_true]

open NetcodeClient in
/-- Client: the same three statements. -/
theorem client_payload_only_if_opened (a : AEAD) {c c' : NetcodeClient} {buf p : Bytes}
    (h : processPacket a c buf = .ok (some p, c')) :
    c.state = .connected ∧
      SealedOpen a buf c.connectToken.protocolId c.connectToken.serverToClientKey .payload p ∧
      c.replayProtection.alreadyReceived (wireSeq buf) = false ∧
      c' = { c.withWindow (c.replayProtection.advance (wireSeq buf)) with lastPacketReceivedTime := c.currentTime } := by
  obtain ⟨hst, seq, rp', hdec, hc'⟩ := processPacket_payload_inv a h
  obtain ⟨k, hk, hseq, hso, hfresh, hrp⟩ := payload_surfaced_only_if_opened hdec
  cases hk
  subst hseq
  refine ⟨hst, hso, hfresh _ rfl, ?_⟩
  rw [hc', hrp]; rfl

open NetcodeClient in
theorem client_replay_rejected (a : AEAD) {c : NetcodeClient} {buf : Bytes}
    (hdup : c.replayProtection.alreadyReceived (wireSeq buf) = true) (p : Bytes) (c' : NetcodeClient) :
    processPacket a c buf ≠ .ok (some p, c') := by
  intro h
  obtain ⟨_, _, hfresh, _⟩ := client_payload_only_if_opened a h
  rw [hdup] at hfresh; cases hfresh

open NetcodeClient in
theorem client_genuine_accepted (a : AEAD) (hl : a.Laws) (c : NetcodeClient) (hst : c.state = .connected)
    (p : Bytes) {seq : Nat} (hseq : seq < 2 ^ 64) (hfresh : c.replayProtection.alreadyReceived seq = false) :
    processPacket a c (sealedBytes a (.payload p) c.connectToken.protocolId seq c.connectToken.serverToClientKey) =
      .ok (some p, { c.withWindow (c.replayProtection.advance seq) with lastPacketReceivedTime := c.currentTime }) := by
  have hdec := Packet.decode_sealedBytes a (.payload p) c.connectToken.protocolId seq c.connectToken.serverToClientKey
    hl hseq (by intro h; cases h) trivial (some c.replayProtection) (by rw [Packet.isDup_some, hfresh]; rfl)
  unfold processPacket
  rw [hdec]
  dsimp only
  rw [hst]
  simp only [withWindow, hst, Packet.stepWindow, Packet.packetType, PacketType.applyReplayProtection,
    Option.map_some, Option.getD_some, if_true]

/-! ### non-vacuity (toy AEAD: identity cipher, constant tag; `AEAD.toy_laws`) -/
section examples

def key : Bytes := List.replicate 32 7
/-- two genuine payload datagrams (protocol id 42, sequences 0 and 1) -/
def d0 : Bytes := sealedBytes AEAD.toy (.payload [1, 2, 3]) 42 0 key
def d1 : Bytes := sealedBytes AEAD.toy (.payload [9]) 42 1 key
/-- a payload-shaped forgery: prefix 0x15 (payload, one sequence byte), sequence 3, a body the AEAD rejects -/
def forged : Bytes := 0x15 :: 3 :: List.replicate 20 0xFF

/-- a window that accepted 5, then 300 -/
def w2 : RP := (RP.new.advance 5).advance 300
theorem w2_inv : RP.Inv w2 [300, 5] :=
  window_inv_advance (window_inv_advance window_inv_new (by decide) (by decide +kernel)) (by decide) (by decide +kernel)

example : w2.alreadyReceived 5 = true := no_reaccept w2_inv (by simp) (by decide)
example : w2.alreadyReceived 300 = true := no_reaccept w2_inv (by simp) (by decide)
/-- 45 is 255 behind 300: still accepted; 44 is 256 behind: rejected -/
example : w2.alreadyReceived 45 = false := fresh_accept w2_inv (by simp) (by decide +kernel)
example : w2.alreadyReceived 44 = true := by decide +kernel
/-- 261 shares slot 5 with the accepted 5 and is fresh -/
example : w2.alreadyReceived 261 = false := fresh_accept w2_inv (by simp) (by decide +kernel)

/-- replays, reordering and a forgery: each genuine packet surfaces once -/
example : (Recv.run AEAD.toy 42 key [d1, d0, forged, d0, d1, d0]).surfaced =
    [(0, Packet.payload [1, 2, 3]), (1, Packet.payload [9])] := by decide +kernel
example : protectedSeqs (Recv.run AEAD.toy 42 key [d1, d0, forged, d0, d1, d0]).surfaced = [0, 1] := by decide +kernel
example : (protectedSeqs (Recv.run AEAD.toy 42 key [d1, d0, forged, d0, d1, d0]).surfaced).Nodup :=
  payload_at_most_once _ _ _ _
/-- the same datagram under another protocol id or another session's window state: additional data differ, but the
    toy cipher ignores them — with the real AEAD this is where `CryptoError` comes from; here only the shape -/
example : (decode AEAD.toy forged 42 (some key) (some RP.new)).1 = .err .cryptoError := by decide +kernel

/-- `NoForgery` for the datagrams of that run and the peer's two sealed packets -/
example : NoForgery AEAD.toy 42 key [d1, d0, forged, d0, d1, d0]
    (fun seq pfx p => (seq, pfx, p) ∈ [(0, (0x15 : UInt8), [1, 2, 3]), (1, 0x15, [9])]) := by
  intro buf hb plain h
  have e0 : AEAD.toy.open key (nonce (wireSeq d0)) (additionalData (wirePrefix d0) 42) (wireBody d0) = some [1, 2, 3] := by
    decide +kernel
  have e1 : AEAD.toy.open key (nonce (wireSeq d1)) (additionalData (wirePrefix d1) 42) (wireBody d1) = some [9] := by
    decide +kernel
  have ef : AEAD.toy.open key (nonce (wireSeq forged)) (additionalData (wirePrefix forged) 42) (wireBody forged) = none := by
    decide +kernel
  simp only [List.mem_cons, List.mem_nil_iff, or_false] at hb
  rcases hb with rfl | rfl | rfl | rfl | rfl | rfl
  all_goals first
    | (rw [e0] at h; cases h; decide +kernel)
    | (rw [e1] at h; cases h; decide +kernel)
    | (rw [ef] at h; cases h)

/-- `genuine_accepted` on a fresh window, and on `w2` for sequence 261 -/
example : ∃ d, encode AEAD.toy (.payload [1, 2, 3]) 1400 42 (some (0, key)) = .ok d ∧
    decode AEAD.toy d 42 (some key) (some RP.new) = (.ok (0, .payload [1, 2, 3]), some (RP.new.advance 0)) :=
  genuine_accepted AEAD.toy AEAD.toy_laws [1, 2, 3] 42 (by decide) key 1400 (by decide) RP.new (by decide +kernel)
example : ∃ d, encode AEAD.toy (.payload [1, 2, 3]) 1400 42 (some (261, key)) = .ok d ∧
    decode AEAD.toy d 42 (some key) (some w2) = (.ok (261, .payload [1, 2, 3]), some (w2.advance 261)) :=
  genuine_accepted AEAD.toy AEAD.toy_laws [1, 2, 3] 42 (by decide) key 1400 (by decide) w2
    (fresh_accept w2_inv (by simp) (by decide +kernel))
/-- the side condition matters: sequence 0 is more than 256 behind 300 and is rejected by `w2` -/
example : (decode AEAD.toy d0 42 (some key) (some w2)).1 = .err .duplicatedSequence := by decide +kernel

/-- `genuine_accepted_after_history`: after replays and a forgery, sequence 2 is new and surfaces -/
example : (Recv.run AEAD.toy 42 key ([d1, d0, forged, d0] ++ [sealedBytes AEAD.toy (.payload [4, 4]) 42 2 key])).surfaced =
    (2, Packet.payload [4, 4]) :: (Recv.run AEAD.toy 42 key [d1, d0, forged, d0]).surfaced :=
  genuine_accepted_after_history AEAD.toy AEAD.toy_laws 42 key [d1, d0, forged, d0] [4, 4] (by decide)
    (not_accepted_of_not_presented (by decide +kernel)) (by decide +kernel)

/-! a server with one connected client (id 77) -/
def cliAddr : Addr := .v4 [10, 0, 0, 2] 4000
def conn : Connection :=
  { confirmed := true, clientId := 77, state := .connected, sendKey := List.replicate 32 4, receiveKey := key,
    userData := [], addr := cliAddr, lastPacketReceivedTime := 0, lastPacketSendTime := 0, timeoutSeconds := 15,
    sequence := 0, expireTimestamp := 30, replayProtection := RP.new }
def srv : NetcodeServer :=
  { clients := [none, some conn], pendingClients := [], connectTokenEntries := [none, none], protocolId := 42,
    connectKey := List.replicate 32 1, maxClients := 2, challengeSequence := 0, challengeKey := List.replicate 32 2,
    publicAddresses := [.v4 [127, 0, 0, 1] 5000], currentTime := 1000, globalSequence := 2 ^ 63, secure := true }
theorem srv_inv : NetcodeServer.SInv 1 srv := ⟨by decide, by decide, fun x hx => by cases hx⟩
theorem srv_find : findClientByAddr srv.clients cliAddr = some (1, conn) := rfl

/-- the genuine datagram surfaces … -/
example : NetcodeServer.processPacket AEAD.toy srv cliAddr d0 =
    .ok (.payload 77 [1, 2, 3], NetcodeServer.setClient srv 1 (some (conn.received (RP.new.advance 0) 1000))) :=
  server_genuine_accepted AEAD.toy AEAD.toy_laws srv cliAddr srv_find rfl [1, 2, 3] (by decide) (by decide +kernel)
/-- … and on the state after it, neither it nor the bit-flipped copy (same sequence bytes) does -/
def srv' : NetcodeServer := NetcodeServer.setClient srv 1 (some (conn.received (RP.new.advance 0) 1000))
example (cid : Nat) (p : Bytes) (s' : NetcodeServer) :
    NetcodeServer.processPacket AEAD.toy srv' cliAddr d0 ≠ .ok (.payload cid p, s') :=
  server_replay_rejected AEAD.toy (s := srv') ⟨by decide, by decide, fun x hx => by cases hx⟩
    (slot := 1) (c := conn.received (RP.new.advance 0) 1000) rfl (by decide +kernel) cid p s'
example : (match NetcodeServer.processPacket AEAD.toy srv' cliAddr d0 with | .ok (r, _) => some r | _ => none)
    = some .none := by decide +kernel

end examples

end RenetVerif.C04
