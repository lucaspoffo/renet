/-
  Bridge for the SEND path: what `SendOk` (hypothesis of `conn_get_packets_to_send`) and `UpdateOk` (of `conn_update`) need of
  the loop over the send channels, from the model invariants `Conn.InvP` (Lemmas/ConnInv.lean) + `TInv` (SendTimeInv.lean) and
  the explicit range condition `SendRange`; `send_ok_of_inv` / `update_ok_of_inv` (`Props/SrcTieTrClosed.lean`) put it together.
-/
import RenetVerif.Lemmas.SrcEquiv.SendTimeInv
import RenetVerif.Lemmas.SrcEquiv.InvBridge
import RenetVerif.Lemmas.SrcEquiv.ConnSend
namespace RenetVerif.SrcEquiv
open RenetVerif RenetVerif.RustSem RenetVerif.C

theorem vmax_eq : Varint.MAX = 2 ^ 62 - 1 := by decide

theorem uwf_of_inv {now : Nat} {s : SendRel} (hi : s.Inv) (ht : RelTOk now s) (hid : s.nextId ≤ 2 ^ 60)
    (hmm : s.maxMem ≤ 2 ^ 60) : ∀ p ∈ s.unacked, UWf now p := by
  intro p hp
  obtain ⟨id, u⟩ := p
  have hk := hi.keys _ hp
  have hok := hi.entries _ hp
  have hlen : u.msg.length ≤ SI.msum s.unacked := SI.msum_ge (SI.mem_find?_of_sorted hi.sorted hp)
  have hb := hi.bound
  have hm := hi.mem
  have htk := ht _ hp
  have hv := vmax_eq
  have hS : C.SLICE_SIZE = 1200 := rfl
  have hS' : SLICE_SIZE = 1200 := rfl
  cases u with
  | small m ls =>
    simp only [Unacked.msg] at hlen
    simp only at hk
    exact ⟨by omega, by omega, htk⟩
  | sliced m n a nx acked ls =>
    simp only [Unacked.msg] at hlen
    obtain ⟨h1, h2, h3, h4, _, _⟩ := hok
    obtain ⟨hnx, htimes⟩ := htk
    rw [hS'] at h1 h2
    unfold divCeil at h2
    refine ⟨h3, h4, ?_, ?_, ?_, ?_, htimes⟩ <;> (try rw [hS]) <;> omega

theorem needR_le_aux : ∀ (m : SMap Unacked), (∀ x ∈ m, x.2.OK) → needR m ≤ m.length + SI.msum m := by
  intro m
  induction m with
  | nil => intro _; simp [needR]
  | cons p r ih =>
    intro h
    obtain ⟨k, u⟩ := p
    have hr := ih (fun x hx => h x (List.mem_cons_of_mem _ hx))
    have hu := h (k, u) (by simp)
    cases u with
    | small m ls => simp only [needR, List.length_cons, SI.msum_cons, Unacked.msg]; omega
    | sliced m n a nx acked ls =>
      obtain ⟨h1, h2, _⟩ := hu
      have hS' : SLICE_SIZE = 1200 := rfl
      rw [hS'] at h1 h2
      unfold divCeil at h2
      simp only [needR, List.length_cons, SI.msum_cons, Unacked.msg]
      omega

theorem needR_le {s : SendRel} (hi : s.Inv) : needR s.unacked ≤ s.nextId + s.mem := by
  have h1 := needR_le_aux s.unacked hi.entries
  have h2 := SMap.sorted_length_le s.nextId (SI.sorted_iff.mp hi.sorted) (lo := 0) (fun x hx => ⟨Nat.zero_le _, hi.keys x hx⟩)
  rw [hi.mem]; omega

theorem qBytes_eq_sumLen : ∀ (l : List Bytes), qBytes l = sumLen l := by
  intro l
  induction l with
  | nil => rfl
  | cons m r ih => simp only [qBytes, List.map_cons, List.sum_cons, sumLen_cons] at ih ⊢; rw [ih]

theorem need_le : ∀ (l : List Bytes), need l ≤ sumLen l + l.length := by
  intro l
  induction l with
  | nil => simp [need]
  | cons m r ih =>
    have hS : C.SLICE_SIZE = 1200 := rfl
    have hd : divCeil m.length C.SLICE_SIZE ≤ m.length := by unfold divCeil; rw [hS]; omega
    simp only [need, List.map_cons, List.sum_cons, sumLen_cons, List.length_cons] at ih ⊢
    omega

/-- what the channel loop needs of the send tables, at every step -/
structure LoopSt (now : Nat) (sr : SMap SendRel) (su : SMap SendUnrel) : Prop where
  rel : ∀ ch s, SMap.find? sr ch = some s → s.Inv ∧ RelTOk now s ∧ s.nextId ≤ 2 ^ 60 ∧ s.maxMem ≤ 2 ^ 60
  unrel : ∀ ch s, SMap.find? su ch = some s → s.Acct ∧ s.slicedId + s.queue.length ≤ 2 ^ 60 ∧ s.maxMem ≤ 2 ^ 60

theorem chanLoopOk_of (now F : Nat) (hF : F ≤ 2 ^ 60) : ∀ (l : List (Bool × Nat)) (sr : SMap SendRel) (su : SMap SendUnrel)
    (pk : List Packet) (seq avail : Nat), LoopSt now sr su →
    (∃ r, Conn.chanLoop now l (sr, su, pk, seq, avail) = .ok r) →
    (∀ sr' su' pk' seq' avail', Conn.chanLoop now l (sr, su, pk, seq, avail) = .ok (sr', su', pk', seq', avail') → seq' ≤ F) →
    ChanLoopOk now l (sr, su, pk, seq, avail) := by
  intro l
  induction l with
  | nil => intro sr su pk seq avail _ _ _; trivial
  | cons o rest ih =>
    intro sr su pk seq avail hst htot hfin
    obtain ⟨b, ch⟩ := o
    have hseqF : seq ≤ F := by
      obtain ⟨⟨sr', su', pk', seq', avail'⟩, hr⟩ := htot
      obtain ⟨ps, -, -, e⟩ := chanLoop_numbering hr
      exact Nat.le_trans (Nat.le.intro e.symm) (hfin _ _ _ _ _ hr)
    cases b with
    | true =>
      intro s hs
      obtain ⟨hinv, htk, hid, hmm⟩ := hst.rel ch s hs
      rw [chanLoop_rel_step, hs] at htot
      have hfin' : ∀ sr' su' pk' seq' avail', Conn.chanLoop now rest (SMap.insert sr ch (s.getPackets seq avail now).1, su,
          pk ++ (s.getPackets seq avail now).2.1, (s.getPackets seq avail now).2.2.1, (s.getPackets seq avail now).2.2.2)
            = .ok (sr', su', pk', seq', avail') → seq' ≤ F := by
        intro sr' su' pk' seq' avail' hr
        apply hfin sr' su' pk' seq' avail'
        rw [chanLoop_rel_step, hs]; exact hr
      refine ⟨uwf_of_inv hinv htk hid hmm, ?_, ih _ _ _ _ _ ?_ htot hfin'⟩
      · have := needR_le hinv
        have := hinv.bound
        omega
      · obtain ⟨i1, _, _, i4, _⟩ := SI.SendRel.getPackets_spec hinv seq avail now
        obtain ⟨_, _, _, _, _, k6⟩ := SendRel.getPackets_keeps (s := s) (s' := (s.getPackets seq avail now).1)
          (ps := (s.getPackets seq avail now).2.1) (seq' := (s.getPackets seq avail now).2.2.1)
          (avail' := (s.getPackets seq avail now).2.2.2) (seq := seq) (avail := avail) (now := now) rfl
        refine ⟨fun ch' s' hf => ?_, hst.unrel⟩
        rw [SMap.find?_insert] at hf
        split at hf
        · cases hf
          exact ⟨i1, relTOk_step (O := .all) htk (.flush seq avail trivial), by rw [i4]; exact hid, by rw [k6]; exact hmm⟩
        · exact hst.rel ch' s' hf
    | false =>
      intro s hs
      obtain ⟨hacct, hsid, hmm⟩ := hst.unrel ch s hs
      rw [chanLoop_unrel_step, hs] at htot
      have hfin' : ∀ sr' su' pk' seq' avail', Conn.chanLoop now rest (sr, SMap.insert su ch (s.getPackets seq avail).1,
          pk ++ (s.getPackets seq avail).2.1, (s.getPackets seq avail).2.2.1, (s.getPackets seq avail).2.2.2)
            = .ok (sr', su', pk', seq', avail') → seq' ≤ F := by
        intro sr' su' pk' seq' avail' hr
        apply hfin sr' su' pk' seq' avail'
        rw [chanLoop_unrel_step, hs]; exact hr
      have hn := need_le s.queue
      have ha1 := hacct.1
      have ha2 := hacct.2
      have g1 : s.mem < 2 ^ 64 := by omega
      have g2 : seq + need s.queue + 1 < 2 ^ 64 := by omega
      have g3 : s.slicedId + s.queue.length < 2 ^ 64 := by omega
      refine ⟨by rw [qBytes_eq_sumLen, ha1]; exact Nat.le_refl _, g1, g2, g3, ih _ _ _ _ _ ?_ htot hfin'⟩
      obtain ⟨a1, a2, a3, a4⟩ := CI.sendUnrel_getPackets_acct hacct seq avail
      have hsl := SendUnrel.getPackets_slicedId (s := s) (s' := (s.getPackets seq avail).1) (ps := (s.getPackets seq avail).2.1)
        (seq' := (s.getPackets seq avail).2.2.1) (avail' := (s.getPackets seq avail).2.2.2) (seq := seq) (avail := avail) rfl
      refine ⟨hst.rel, fun ch' s' hf => ?_⟩
      rw [SMap.find?_insert] at hf
      split at hf
      · cases hf
        refine ⟨a1, ?_, by rw [a4]; exact hmm⟩
        rw [a2]; simp only [List.length_nil]; omega
      · exact hst.unrel ch' s' hf

/-- range conditions for one `get_packets_to_send`: the counters of the send channels and the packet sequence (as it will be
    after this flush, `Conn.flushSeq`) are at most `2^60`, and one flush emits at most `2^50` packets -/
structure SendRange (c : Conn) : Prop where
  rel : ∀ ch s, SMap.find? c.sendRel ch = some s → s.nextId ≤ 2 ^ 60 ∧ s.maxMem ≤ 2 ^ 60
  unrel : ∀ ch s, SMap.find? c.sendUnrel ch = some s → s.slicedId + s.queue.length ≤ 2 ^ 60 ∧ s.maxMem ≤ 2 ^ 60
  seq : c.flushSeq ≤ 2 ^ 60
  burst : c.flushSeq ≤ c.packetSeq + 2 ^ 50

theorem SendRange.counters {c : Conn} (h : SendRange c) : c.CountersOK := by
  have hv := vmax_eq
  refine ⟨fun ch s hs => ?_, fun ch s hs => ?_, ?_⟩
  · have := h.rel ch s hs; omega
  · have := h.unrel ch s hs; omega
  · have := h.seq; omega

theorem chanLoop_len {now : Nat} {l : List (Bool × Nat)} {sr sr' : SMap SendRel} {su su' : SMap SendUnrel}
    {pk pk' : List Packet} {seq avail seq' avail' : Nat}
    (h : Conn.chanLoop now l (sr, su, pk, seq, avail) = .ok (sr', su', pk', seq', avail')) :
    pk'.length + seq = pk.length + seq' := by
  obtain ⟨ps, rfl, -, rfl⟩ := chanLoop_numbering h
  rw [List.length_append]; omega

end RenetVerif.SrcEquiv
