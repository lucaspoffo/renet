/-
  G1b. `renetcode/src/packet.rs` `write_sequence` over the write-cursor model agrees with `Packet.writeSequence`.
  (own group: it is the only byte-level writer that depends on group Prefix, via `sequence_bytes_required`)
  Headline statement in `Props/SrcTieNcSequence.lean`.
-/
import RenetVerif.Generated.Src.NcSequence
import RenetVerif.Lemmas.SrcEquiv.NcSerialize
import RenetVerif.Lemmas.SrcEquiv.Prefix
import RenetVerif.Props.SrcTiePrefix
namespace RenetVerif.SrcEquiv
open RenetVerif RenetVerif.RustSem

section NcSequence
open Netcode

end NcSequence
end RenetVerif.SrcEquiv
