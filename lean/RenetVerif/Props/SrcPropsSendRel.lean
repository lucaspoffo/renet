/-
  C13 (packets fit) and C14 (byte budget) stated DIRECTLY about the generated
  `SendChannelReliable::get_packets_to_send` of `Generated/Src/SendRel.lean` (derived from
  `renet/src/channel/reliable.rs`) and the generated `Packet::to_bytes`.
  The model (`SendRel`, `relLoop`) appears only in the proofs: `SrcTieSendRel` ∘ `Props/C13`, `Props/C14`.

  `WfSR c now seq` is intrinsic: the `BTreeMap` of unacked messages has strictly ascending keys below
  `next_reliable_message_id ≤ 2^62`; a `Small` entry holds at most `SLICE_SIZE` bytes; a `Sliced` entry is what
  `UnackedMessage::new_sliced` builds (`num_slices = ⌈len/SLICE_SIZE⌉`, one flag / timestamp per slice); no
  `last_sent` lies in the future; the packet counter cannot overflow during the flush.
-/
import RenetVerif.Props.SrcTieSendRel
import RenetVerif.Props.SrcPropsPacket
import RenetVerif.Props.SrcPropsSendUnrel
import RenetVerif.Props.C13
import RenetVerif.Props.C14
namespace RenetVerif.SrcCor
open RenetVerif RenetVerif.SrcEquiv RenetVerif.SrcTie RenetVerif.RustSem
open Src.renet.channel.reliable

def absU : SUnacked → Unacked
  | .Small m ls => .small (ofNats m) ls
  | .Sliced m n a nx acked ls => .sliced (ofNats m) n a nx acked ls

def absSR (c : SendChannelReliable) : SendRel :=
  ⟨c.channel_id, c.unacked_messages.map (fun p => (p.1, absU p.2)), c.next_reliable_message_id, c.resend_time,
   c.max_memory_usage_bytes, c.memory_usage_bytes⟩

def msgG : SUnacked → List Nat
  | .Small m _ => m
  | .Sliced m .. => m

def EntryOkG (now : Nat) : SUnacked → Prop
  | .Small m ls => BytesOk m ∧ m.length ≤ C.SLICE_SIZE ∧ ∀ t, ls = some t → t ≤ now
  | .Sliced m n _ nx acked ls => BytesOk m ∧ n = divCeil m.length C.SLICE_SIZE ∧ 0 < m.length ∧
      m.length ≤ Varint.MAX ∧ acked.length = n ∧ ls.length = n ∧ nx + n < 2 ^ 64 ∧
      ∀ t ∈ ls, ∀ t', t = some t' → t' ≤ now

/-- upper bound on the packets one flush emits: one per small message, `num_slices` per sliced one -/
def needRG : List (Nat × SUnacked) → Nat
  | [] => 0
  | (_, .Small ..) :: r => 1 + needRG r
  | (_, .Sliced _ n ..) :: r => n + needRG r

def WfSR (c : SendChannelReliable) (now seq : Nat) : Prop :=
  (c.unacked_messages.map Prod.fst).Pairwise (· < ·) ∧
  (∀ p ∈ c.unacked_messages, p.1 < c.next_reliable_message_id ∧ EntryOkG now p.2) ∧
  c.next_reliable_message_id ≤ Varint.MAX + 1 ∧ seq + needRG c.unacked_messages + 1 < 2 ^ 64

theorem reprU_absU (u : SUnacked) (h : BytesOk (msgG u)) : reprU (absU u) = u := by
  cases u <;> simp only [absU, reprU, msgG] at h ⊢ <;> rw [toNats_ofNats h]

theorem entryOk_bytes {now : Nat} {u : SUnacked} (h : EntryOkG now u) : BytesOk (msgG u) := by
  cases u <;> exact h.1

theorem reprSR_absSR (c : SendChannelReliable) (h : ∀ p ∈ c.unacked_messages, BytesOk (msgG p.2)) :
    reprSR (absSR c) = c := by
  cases c with
  | mk ch um nx rs mx mem =>
    simp only [reprSR, absSR, reprUM]
    congr 1
    exact map_map_cancel um fun p hp => congrArg (Prod.mk p.1) (reprU_absU p.2 (h p hp))

theorem needR_abs : ∀ l : List (Nat × SUnacked), needR (l.map fun p => (p.1, absU p.2)) = needRG l
  | [] => rfl
  | (_, .Small ..) :: r => by
    have ih := needR_abs r
    show 1 + needR (r.map fun p => (p.1, absU p.2)) = 1 + needRG r
    rw [ih]
  | (_, .Sliced _ n ..) :: r => by
    have ih := needR_abs r
    show n + needR (r.map fun p => (p.1, absU p.2)) = n + needRG r
    rw [ih]

theorem uwf_abs {now : Nat} {c : SendChannelReliable} {seq : Nat} (h : WfSR c now seq) :
    ∀ p ∈ (absSR c).unacked, UWf now p := by
  intro p hp
  simp only [absSR, List.mem_map] at hp
  obtain ⟨q, hq, rfl⟩ := hp
  obtain ⟨hid, he⟩ := h.2.1 q hq
  have hnx := h.2.2.1
  obtain ⟨id, u⟩ := q
  have hS : C.SLICE_SIZE = 1200 := rfl
  have hM : Varint.MAX = 4611686018427387903 := rfl
  cases u with
  | Small m ls =>
    obtain ⟨_, h2, h3⟩ := he
    simp only [absU, UWf, ofNats_length, hS, hM] at *
    exact ⟨by omega, by omega, h3⟩
  | Sliced m n a nx acked ls =>
    obtain ⟨_, h2, h3, h4, h5, h6, h7, h8⟩ := he
    simp only [absU, UWf, ofNats_length] at *
    unfold divCeil at h2
    simp only [hS, hM] at *
    exact ⟨h5, h6, by omega, by omega, by omega, h7, h8⟩

theorem wf_abs {now : Nat} {c : SendChannelReliable} {seq : Nat} (h : WfSR c now seq) : (absSR c).WF := by
  refine ⟨?_, ?_, ?_⟩
  · have : SMap.keys (absSR c).unacked = c.unacked_messages.map Prod.fst := by
      simp [SMap.keys, absSR, Function.comp_def]
    rw [this]
    exact h.1.imp (fun hlt => Nat.ne_of_lt hlt)
  · intro id u hm
    simp only [absSR, List.mem_map] at hm
    obtain ⟨q, hq, he⟩ := hm
    cases he
    exact (h.2.1 q hq).1
  · intro id u hm
    simp only [absSR, List.mem_map] at hm
    obtain ⟨q, hq, he⟩ := hm
    cases he
    have he := (h.2.1 q hq).2
    obtain ⟨qid, qu⟩ := q
    cases qu with
    | Small m ls => simpa [absU, Unacked.WF, ofNats_length] using he.2.1
    | Sliced m n a nx acked ls =>
      obtain ⟨_, h2, h3, h4, h5, h6, _⟩ := he
      simp only [absU, Unacked.WF, ofNats_length]
      exact ⟨h2, h3, h4, h5, h6⟩

/-- the tie for an arbitrary well-formed GENERATED state, with the model's result named -/
theorem sr_get_packets' {ε : Type} (c : SendChannelReliable) (seq avail now : Nat) (h : WfSR c now seq) :
    ∃ s' ps seq' avail', (absSR c).getPackets seq avail now = (s', ps, seq', avail') ∧
      (SendChannelReliable.get_packets_to_send c seq avail now : Res ε _) =
        .ok (reprSR s', seq', avail', ps.map reprPacket) := by
  have hb : ∀ p ∈ c.unacked_messages, BytesOk (msgG p.2) := fun p hp => entryOk_bytes (h.2.1 p hp).2
  have := send_rel_get_packets_to_send (ε := ε) (absSR c) seq avail now (uwf_abs h)
    (by simpa [absSR, needR_abs] using h.2.2.2)
  rw [reprSR_absSR c hb] at this
  exact ⟨_, _, _, _, rfl, this⟩

end RenetVerif.SrcCor

namespace RenetVerif.SrcProps
open RenetVerif RenetVerif.SrcEquiv RenetVerif.SrcTie RenetVerif.SrcCor RenetVerif.RustSem
open Src.renet.channel.reliable

/-- message payload bytes a generated packet carries (what `available_bytes` is charged for) -/
def relPayloadBytesG : SPacket → Nat
  | .SmallReliable _ _ msgs => (msgs.map fun x => x.2.length).sum
  | .SmallUnreliable _ _ msgs => (msgs.map List.length).sum
  | .ReliableSlice _ _ sl => sl.payload.length
  | .UnreliableSlice _ _ sl => sl.payload.length
  | .Ack _ _ => 0

theorem relPayloadBytesG_eq : relPayloadBytesG = payloadBytesG := by
  funext p
  cases p <;> rfl

/-- **C13, reliable channel.**  On a well-formed channel the generated `get_packets_to_send` returns normally and —
    provided the returned `*packet_sequence` is at most `2^62` — EVERY packet of the returned list is serialised by the
    generated `to_bytes` into any buffer of at least `NETCODE_MAX_PAYLOAD_BYTES` (1300) bytes, using at most 1300 of
    them: no `Err`, no panic. -/
theorem send_rel_packets_fit {ε : Type} (c : SendChannelReliable) (seq avail now : Nat) (h : WfSR c now seq) :
    ∃ c' seq' avail' ps,
      (SendChannelReliable.get_packets_to_send c seq avail now : Res ε _) = .ok (c', seq', avail', ps) ∧
      (seq' ≤ Varint.MAX + 1 → ∀ gp ∈ ps, ∀ buf : List Nat, C.NETCODE_MAX_PAYLOAD_BYTES ≤ buf.length →
        ∃ b' n, Src.renet.packet.Packet.to_bytes gp (OctetsMut.with_slice buf) = .ok (b', n) ∧
          n ≤ C.NETCODE_MAX_PAYLOAD_BYTES) := by
  obtain ⟨s', ps, seq', avail', hG, hgen⟩ := sr_get_packets' (ε := ε) c seq avail now h
  refine ⟨_, _, _, _, hgen, ?_⟩
  intro hseq gp hgp buf hbuf
  obtain ⟨p, hp, rfl⟩ := List.mem_map.1 hgp
  obtain ⟨b, hb, hsz⟩ := C13.reliable_sizes hG (wf_abs h) h.2.2.1 hseq p hp
  have hle : b.length ≤ C.NETCODE_MAX_PAYLOAD_BYTES := by
    have h1 := C13.small_reliable_bound_fits
    have h2 := C13.slice_bound_fits
    rcases hsz with ⟨_, _, _, hl⟩ | ⟨_, _, _, hl⟩ <;> omega
  obtain ⟨b', hw⟩ := to_bytes_of_enc p b hb buf (by omega)
  exact ⟨b', b.length, hw, hle⟩

def numSlicesG : SUnacked → Nat
  | .Small .. => 0
  | .Sliced _ n .. => n

/-- **C13 + C16, reliable channel: what is sent is what the peer decodes.**  If moreover the channel id is a `u8` and
    no stored message needs more than `MAX_NUM_SLICES` slices (the limit `from_bytes` enforces), then every packet of
    the flush is written by the generated `to_bytes` into at most 1300 bytes AND the generated `from_bytes` on exactly
    those bytes returns that very packet. -/
theorem send_rel_packets_roundtrip {ε : Type} (c : SendChannelReliable) (seq avail now : Nat) (h : WfSR c now seq)
    (hch : c.channel_id < 256) (hbig : ∀ p ∈ c.unacked_messages, numSlicesG p.2 ≤ C.MAX_NUM_SLICES) :
    ∃ c' seq' avail' ps,
      (SendChannelReliable.get_packets_to_send c seq avail now : Res ε _) = .ok (c', seq', avail', ps) ∧
      (seq' ≤ Varint.MAX + 1 → ∀ gp ∈ ps, ∀ buf : List Nat, C.NETCODE_MAX_PAYLOAD_BYTES ≤ buf.length →
        ∃ b' n, Src.renet.packet.Packet.to_bytes gp (OctetsMut.with_slice buf) = .ok (b', n) ∧
          n ≤ C.NETCODE_MAX_PAYLOAD_BYTES ∧
          Src.renet.packet.Packet.from_bytes (Octets.with_slice (b'.buf.take n)) = .ok (⟨b'.buf.take n, n⟩, gp)) := by
  obtain ⟨s', ps, seq', avail', hG, hgen⟩ := sr_get_packets' (ε := ε) c seq avail now h
  refine ⟨_, _, _, _, hgen, ?_⟩
  intro hseq gp hgp buf hbuf
  obtain ⟨p, hp, rfl⟩ := List.mem_map.1 hgp
  obtain ⟨b, hb, hsz⟩ := C13.reliable_sizes hG (wf_abs h) h.2.2.1 hseq p hp
  have hbig' : ∀ id m n na nx ak ls, (id, Unacked.sliced m n na nx ak ls) ∈ (absSR c).unacked → n ≤ C.MAX_NUM_SLICES := by
    intro id m n na nx ak ls hm
    simp only [absSR, List.mem_map] at hm
    obtain ⟨q, hq, he⟩ := hm
    have := hbig q hq
    obtain ⟨qid, qu⟩ := q
    cases qu with
    | Small m' ls' => simp [absU] at he
    | Sliced m' n' a' nx' ak' ls' =>
      simp only [absU, Prod.mk.injEq, Unacked.sliced.injEq] at he
      obtain ⟨_, _, rfl, _⟩ := he
      exact this
  have hpwf : p.WF := C13.reliable_wf hG (wf_abs h) hch h.2.2.1 hseq hbig' p hp
  have hle : b.length ≤ C.NETCODE_MAX_PAYLOAD_BYTES := by
    have h1 := C13.small_reliable_bound_fits
    have h2 := C13.slice_bound_fits
    rcases hsz with ⟨_, _, _, hl⟩ | ⟨_, _, _, hl⟩ <;> omega
  obtain ⟨b', hw⟩ := to_bytes_of_enc p b hb buf (by omega)
  exact ⟨b', b.length, hw, hle, (roundtrip_repr p hpwf buf b' _ hw).2.2.2⟩

/-- **C14, reliable channel: the budget never grows.**  On a well-formed channel the new `*available_bytes` is the old
    one minus exactly the payload bytes of the returned packets; the packets are numbered consecutively from
    `*packet_sequence`; the memory counter is untouched (nothing is released before it is acknowledged). -/
theorem send_rel_budget {ε : Type} (c : SendChannelReliable) (seq avail now : Nat) (h : WfSR c now seq) :
    ∃ c' seq' avail' ps,
      (SendChannelReliable.get_packets_to_send c seq avail now : Res ε _) = .ok (c', seq', avail', ps) ∧
      avail' ≤ avail ∧ (ps.map relPayloadBytesG).sum + avail' = avail ∧ seq' = seq + ps.length ∧
      c'.memory_usage_bytes = c.memory_usage_bytes ∧
      c'.unacked_messages.map Prod.fst = c.unacked_messages.map Prod.fst := by
  obtain ⟨s', ps, seq', avail', hG, hgen⟩ := sr_get_packets' (ε := ε) c seq avail now h
  refine ⟨_, _, _, _, hgen, ?_⟩
  obtain ⟨h1, _, h3, h4, _, h6, h7⟩ := C14.reliable_budget hG (C14.fit_of_wf (wf_abs h))
  refine ⟨h3, by rw [relPayloadBytesG_eq, payloadSumG_repr]; exact h1, by simpa using h4, by simpa [reprSR, absSR] using h7, ?_⟩
  have : SMap.keys (absSR c).unacked = c.unacked_messages.map Prod.fst := by
    simp [SMap.keys, absSR, Function.comp_def]
  rw [← this, ← h6]
  simp [reprSR, reprUM, SMap.keys, Function.comp_def]

/-! ### examples (evaluated on the generated text) -/

/-- a 3-byte small message never sent, and a 1201-byte message in two slices of which slice 0 is acked -/
def exSR : SendChannelReliable :=
  ⟨3, [(5, .Small [1, 2, 3] none), (9, .Sliced (List.replicate 1201 7) 2 1 1 [true, false] [some 0, none])], 10, 100, 5000, 1204⟩

theorem exSR_wf : WfSR exSR 1000 20 := by
  refine ⟨by decide, ?_, by decide, by decide⟩
  intro p hp
  simp only [exSR, List.mem_cons, List.mem_nil_iff, or_false] at hp
  rcases hp with rfl | rfl
  · exact ⟨by decide, by decide, by decide, by intro t ht; cases ht⟩
  · refine ⟨by decide, by decide +kernel, by decide +kernel, by decide +kernel, by decide +kernel, rfl, rfl, by decide, ?_⟩
    intro t ht t' he
    simp only [List.mem_cons, List.mem_nil_iff, or_false] at ht
    rcases ht with rfl | rfl
    · cases he; decide
    · cases he

set_option maxRecDepth 100000 in
example : okSnd (SendChannelReliable.get_packets_to_send exSR 20 5000 1000 : Res Empty _) =
    some (22, 4996, [.ReliableSlice 20 3 ⟨9, 1, 2, [7]⟩, .SmallReliable 21 3 [(5, [1, 2, 3])]]) := by decide +kernel
/-- every packet of that flush serialises into a 1300-byte buffer (instance of the theorem) -/
example : ∃ c' seq' avail' ps,
    (SendChannelReliable.get_packets_to_send exSR 20 5000 1000 : Res Empty _) = .ok (c', seq', avail', ps) ∧
    (seq' ≤ Varint.MAX + 1 → ∀ gp ∈ ps, ∀ buf : List Nat, C.NETCODE_MAX_PAYLOAD_BYTES ≤ buf.length →
      ∃ b' n, Src.renet.packet.Packet.to_bytes gp (OctetsMut.with_slice buf) = .ok (b', n) ∧
        n ≤ C.NETCODE_MAX_PAYLOAD_BYTES) :=
  send_rel_packets_fit exSR 20 5000 1000 exSR_wf
/-- … and is decoded by the peer as itself (instance of the round-trip theorem) -/
example : ∃ c' seq' avail' ps,
    (SendChannelReliable.get_packets_to_send exSR 20 5000 1000 : Res Empty _) = .ok (c', seq', avail', ps) ∧
    (seq' ≤ Varint.MAX + 1 → ∀ gp ∈ ps, ∀ buf : List Nat, C.NETCODE_MAX_PAYLOAD_BYTES ≤ buf.length →
      ∃ b' n, Src.renet.packet.Packet.to_bytes gp (OctetsMut.with_slice buf) = .ok (b', n) ∧
        n ≤ C.NETCODE_MAX_PAYLOAD_BYTES ∧
        Src.renet.packet.Packet.from_bytes (Octets.with_slice (b'.buf.take n)) = .ok (⟨b'.buf.take n, n⟩, gp)) :=
  send_rel_packets_roundtrip exSR 20 5000 1000 exSR_wf (by decide) (by decide)
/-- a full slice: 1200 payload bytes + 9 header bytes ≤ 1300 -/
example : okSnd (Src.renet.packet.Packet.to_bytes (.ReliableSlice 20 3 ⟨9, 0, 2, List.replicate 1200 7⟩)
    (OctetsMut.with_slice (List.replicate 1300 0))) = some 1208 := by decide +kernel

end RenetVerif.SrcProps
