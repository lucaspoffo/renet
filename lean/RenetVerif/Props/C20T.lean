/-
  C20T : the SERVER transport never unwinds (completes `C20.server_update_panic_partial` and
  `C20.server_send_packets_panic_partial`, which assumed the netcode calls; counterpart of `C20.client_update_total`).

  Model: `Transport/Glue.lean` (`serverUpdate`, `serverSendPackets`, `serverDisconnectAll` = renet_netcode/src/server.rs
  `NetcodeServerTransport::{update, send_packets, disconnect_all}`; `Res.panic` = the Rust code would unwind).

  Invariants (all re-established by every call):
    * `NS.ServerInv ns`   the netcode connection-table invariant of Lemmas/NcTable.lean (distinct ids / addresses, timers
                          not in the future, time-outs fit an `i32`, pending map keyed by address with sequence 0, …);
                          `NetcodeServer::new` establishes it (`NS.new_inv`)
    * `g.renet.Inv`       the renet server invariant (`Server.InvP SliceCtor.WInv`, Lemmas/ConnInv.lean)
    * `Sorted conns`      the renet connection table is keyed without repetition (`HashMap`)
  Range hypotheses (consumed):
    * `Room k ns`         each `u64` sequence counter of the netcode server — `global_sequence`, `challenge_sequence`,
                          `client.sequence` of every connected client — is ≤ `u64::MAX - k`
    * the netcode clock after the step is ≤ `Duration::MAX` − 2^31 s (`TMO_MAX_NS`, the largest `timeout_seconds`)
    * for `send_packets`: `Conn.CountersOK` (renet message ids / packet sequence below 2^62 — what
      `RenetClient::get_packets_to_send` needs, C13) for the connections reported connected

  Theorems
    * `server_update_total`        `update` returns `Ok` for EVERY inbox if the counters have room for one increment per
                                   slot + one per queued datagram; room `n` is left over
    * `server_send_packets_total`  `send_packets` returns `Ok` if the counters have room for the packets renet has to
                                   send (`sendBudget`)
    * `server_disconnect_all_total`
    * `server_run_total`, `server_run_total_fresh`   any finite sequence of transport + application calls stays `Ok` as
                                   long as each step is in range in the state it is applied to (`TPre`, checker `tpreb`)
  The necessity of the two kinds of range hypotheses is witnessed by the unwinding examples of C20.lean (clock at
  `Duration::MAX`: `exG1late`; `client.sequence = u64::MAX`: `exG1ov`), restated below against `Room` / the clock bound.
-/
import RenetVerif.Lemmas.GlueTotal
import RenetVerif.Props.C20
namespace RenetVerif.C20T
open RenetVerif RenetVerif.Netcode RenetVerif.Transport RenetVerif.GI RenetVerif.GlueTotal RenetVerif.C20

/-- **`NetcodeServerTransport::update` never unwinds**, whatever datagrams (from whatever addresses) are queued at
    the socket. -/
theorem server_update_total (a : AEAD) {g : ServerGlue} (d : Nat) (inbox : List Dgram) {n : Nat}
    (hnc : NS.ServerInv g.netcode)
    (hroom : Room (n + g.netcode.clients.length + inbox.length) g.netcode)
    (hclock : g.netcode.currentTime + d + TMO_MAX_NS ≤ DURATION_MAX)
    (hi : g.renet.Inv) (hs : SL.SMap.Sorted g.renet.conns) :
    ∃ g' out, serverUpdate a g d inbox = .ok (g', out) ∧
      NS.ServerInv g'.netcode ∧ Room n g'.netcode ∧ g'.netcode.currentTime = g.netcode.currentTime + d ∧
      g'.netcode.clients.length = g.netcode.clients.length ∧ g'.renet.Inv ∧ SL.SMap.Sorted g'.renet.conns := by
  obtain ⟨g', out, e, k, r⟩ := serverUpdate_total goodP_winv a d inbox hnc hroom hclock ⟨hi, hs⟩
  exact ⟨g', out, e, k.inv, k.room, k.time, k.len, r.inv, r.sorted⟩

/-! ### instance: client 7 connected, hostile inbox -/

theorem exNs0_inv : NS.ServerInv exNs0 := NS.EmptyServer.inv ⟨rfl, by decide, rfl, 2, by decide, rfl⟩

theorem exNs1_inv : NS.ServerInv exNs1 := by
  have hno : ∀ j cj, ¬ NS.At exNs0.clients j cj := by
    intro j cj h
    have := NS.at_mem h
    simp [exNs0] at this
  exact exNs0_inv.connect (ad := exAddr) (i := 0) (c := exConn7) (fun j cj h => absurd h (hno j cj))
    (fun j cj h => absurd h (hno j cj)) rfl rfl ⟨by decide, by decide, by decide⟩

theorem exNs1_room (n : Nat) (h : n ≤ U64_MAX) : Room n exNs1 := by
  refine ⟨by simpa [exNs1, exNs0] using h, by simpa [exNs1, exNs0] using h, fun i c hc => ?_⟩
  have := NS.at_mem hc
  simp only [exNs1, exNs0, List.mem_cons, Option.some.injEq, List.not_mem_nil, or_false, reduceCtorEq] at this
  subst this
  simpa [exConn7] using h

example (junk : List Dgram) (hj : 2 + junk.length ≤ U64_MAX) :
    ∃ g' out, serverUpdate toyAead exG1 16000000 junk = .ok (g', out) ∧ NS.ServerInv g'.netcode ∧ g'.renet.Inv := by
  obtain ⟨g', out, e, h1, _, _, _, h2, _⟩ := server_update_total toyAead (g := exG1) 16000000 junk (n := 0) exNs1_inv
    (exNs1_room _ (by rw [Nat.zero_add]; exact hj)) (by decide) exG1_inv exG1_lockstep.sorted
  exact ⟨g', out, e, h1, h2⟩

/-- the clock hypothesis fails for C20's unwinding example -/
example : ¬ (exG1late.netcode.currentTime + DURATION_MAX + TMO_MAX_NS ≤ DURATION_MAX) := by decide

/-- **`NetcodeServerTransport::send_packets` never unwinds.** -/
theorem server_send_packets_total (a : AEAD) {g : ServerGlue} {n : Nat}
    (hnc : NS.ServerInv g.netcode) (hroom : Room (n + sendBudget g.renet) g.netcode)
    (hi : g.renet.Inv) (hs : SL.SMap.Sorted g.renet.conns)
    (hcnt : ∀ id ∈ g.renet.clientsId, ∀ c, SMap.find? g.renet.conns id = some c → c.CountersOK) :
    ∃ g' out, serverSendPackets a g = .ok (g', out) ∧
      NS.ServerInv g'.netcode ∧ Room n g'.netcode ∧ g'.netcode.currentTime = g.netcode.currentTime ∧
      g'.netcode.clients.length = g.netcode.clients.length ∧ g'.renet.Inv ∧ SL.SMap.Sorted g'.renet.conns := by
  obtain ⟨g', out, e, k, r⟩ := serverSendPackets_total (P := SliceCtor.WInv) a (g := g) (n := n)
    ⟨hnc, hroom, rfl, rfl⟩ ⟨hi, hs⟩ hcnt
  exact ⟨g', out, e, k.inv, k.room, k.time, k.len, r.inv, r.sorted⟩

/-! ### instance: client 7 with one message queued -/

theorem exG1m_ok : exG1m.netcode = exNs1 ∧ exG1m.renet.Inv ∧ SL.SMap.Sorted exG1m.renet.conns := by
  obtain ⟨s', e, i⟩ := CI.server_sendMessage_totalP exG1_inv 7 1 [1, 2, 3] (by decide)
  have q := (SL.Server.sendMessage_spec e).2.1
  have : exG1m = ⟨exNs1, s'⟩ := by unfold exG1m; rw [e]
  rw [this]
  exact ⟨rfl, i, q.sorted exG1_lockstep.sorted⟩

theorem exG1m_budget : sendBudget exG1m.renet = 1 := by decide +kernel

example : ∃ g' out, serverSendPackets toyAead exG1m = .ok (g', out) ∧ NS.ServerInv g'.netcode ∧ g'.renet.Inv := by
  obtain ⟨hn, hi, hs⟩ := exG1m_ok
  obtain ⟨g', out, e, h1, _, _, _, h2, _⟩ := server_send_packets_total toyAead (g := exG1m) (n := 0)
    (by rw [hn]; exact exNs1_inv) (by rw [hn, exG1m_budget]; exact exNs1_room _ (by decide)) hi hs
    (fun id _ c hc => counters_of_b (rs := exG1m.renet) (by decide +kernel) id c hc)
  exact ⟨g', out, e, h1, h2⟩

/-- the counter hypothesis fails for C20's unwinding example (`client.sequence = u64::MAX`, one packet to send) -/
example : ¬ Room 1 exG1ov.netcode := by
  intro h
  have := h.seqs 0 { exConn7 with sequence := U64_MAX } rfl
  exact absurd this (by decide)

/-- `disconnect_all` never unwinds and keeps all invariants (the renet half is `C20.server_disconnect_all_total`) -/
theorem server_disconnect_all_total (a : AEAD) {g : ServerGlue} (hnc : NS.ServerInv g.netcode) (hi : g.renet.Inv)
    (hs : SL.SMap.Sorted g.renet.conns) :
    ∃ g' out, serverDisconnectAll a g = .ok (g', out) ∧ NS.ServerInv g'.netcode ∧ g'.renet.Inv ∧
      SL.SMap.Sorted g'.renet.conns := by
  obtain ⟨g', out, e, k, r⟩ := serverDisconnectAll_inv goodP_winv a hnc ⟨hi, hs⟩
  exact ⟨g', out, e, k, r.inv, r.sorted⟩

example : ∃ g' out, serverDisconnectAll toyAead exG1 = .ok (g', out) ∧ NS.ServerInv g'.netcode ∧ g'.renet.Inv := by
  obtain ⟨g', out, e, h1, h2, _⟩ := server_disconnect_all_total toyAead (g := exG1) exNs1_inv exG1_inv exG1_lockstep.sorted
  exact ⟨g', out, e, h1, h2⟩

/-- **Any finite sequence of server-side calls stays `Ok`** — transport calls (`update` with any inbox,
    `send_packets`, `disconnect_all`) and application calls on the `RenetServer` — from any state satisfying the
    invariants, provided each call is in range in the state it is applied to (`TPre`: `opValid` = application calls
    name existing channels; `opRange` = clock / counter room for that call).  The invariants hold at the end. -/
theorem server_run_total (a : AEAD) (ops : List GlueOp) (st : GState) (hnc : NS.ServerInv st.1.netcode)
    (hi : st.1.renet.Inv) (hs : SL.SMap.Sorted st.1.renet.conns) (hpre : TPre a st ops) :
    ∃ st', runGlue a st ops = .ok st' ∧ NS.ServerInv st'.1.netcode ∧ st'.1.renet.Inv ∧
      SL.SMap.Sorted st'.1.renet.conns := by
  obtain ⟨st', e, k, r⟩ := runGlue_total goodP_winv a ops st ⟨hnc, hi, hs⟩ hpre
  exact ⟨st', e, k, r.inv, r.sorted⟩

/-- the same from a fresh `NetcodeServer::new` + `RenetServer::new`; the two tables also end in lock-step (C20) -/
theorem server_run_total_fresh (a : AEAD) {now maxClients pid : Nat} {addrs : List Addr} {secure : Bool} {pk ck : Bytes}
    {ns : NetcodeServer} (hnew : NetcodeServer.new now maxClients pid addrs secure pk ck = .ok ns) (budget : Nat)
    (sc cc : List ChanCfg) (ops : List GlueOp)
    (hpre : TPre a ({ netcode := ns, renet := Server.new budget sc cc }, []) ops) :
    ∃ st', runGlue a ({ netcode := ns, renet := Server.new budget sc cc }, []) ops = .ok st' ∧
      NS.ServerInv st'.1.netcode ∧ st'.1.renet.Inv ∧ LockStep st'.1 := by
  obtain ⟨st', e, k, r⟩ := runGlue_total goodP_winv a ops _ (tInv_fresh hnew budget sc cc) hpre
  have h2 := runGlue_inv2 a ops _ st' e (tpre_gpre a ops _ hpre) (gInv2_fresh (fresh_netcode hnew) budget sc cc)
  exact ⟨st', e, k, r.inv, h2.1.1⟩

/-- instance: the full handshake run of C20 (`hsOps`: request, response, a message, `send_packets`, a server-side
    disconnect, …) from the fresh two-slot server; the range conditions are among what `C20.hs_all` reads off that run -/
example : ∃ st', runGlue toyAead (exG0, []) hsOps = .ok st' ∧ NS.ServerInv st'.1.netcode ∧ st'.1.renet.Inv := by
  obtain ⟨st', e, h1, h2, _⟩ := server_run_total toyAead hsOps (exG0, []) exNs0_inv (CI.server_new_invP _ _ _)
    SL.SMap.sorted_nil (tpre_of_b toyAead hsOps (exG0, []) hs_tpre)
  exact ⟨st', e, h1, h2⟩

/-- instance: junk, application calls and `disconnect_all` with client 7 connected -/
example : ∃ st', runGlue toyAead (exG1, []) exOps = .ok st' ∧ NS.ServerInv st'.1.netcode ∧ st'.1.renet.Inv := by
  obtain ⟨st', e, h1, h2, _⟩ := server_run_total toyAead exOps (exG1, []) exNs1_inv exG1_inv exG1_lockstep.sorted
    (tpre_of_b toyAead exOps (exG1, []) (by decide +kernel))
  exact ⟨st', e, h1, h2⟩

end RenetVerif.C20T
