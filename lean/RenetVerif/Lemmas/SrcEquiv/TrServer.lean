/-
  `renet_netcode/src/server.rs` (group TrServer): the server transport against `Transport/Glue.lean`.
  The `UdpSocket` is the semantic-model socket `RustSem.UdpSocket` (inbox script, outbox log).
  What the transport needs from the `RenetServer` it drives is an abstract simulation (`RnSim`): the relation between the
  model server and the generated one is a parameter, closed under the operations the transport calls (the theorems of
  `Props/SrcTieServer.lean` establish each of them under their per-call hypotheses).
  Each tie is proved for `RnSimOn P`, where the two clauses with range conditions carry a premise `P`, under an invariant of
  the model loop that supplies `P` wherever the loop makes such a call (`HandleInv`, `SendInv`); `RnSim` is the case of the
  trivial premise and invariant (`Props/SrcTieTrServer.lean`, with `new`, the accessors and the socket-error arms),
  `TrLocal.lean` has the predicates for the case of one call's own run (`Props/SrcTieTrLocal.lean`).
-/
import RenetVerif.Generated.Src.TrServer
import RenetVerif.Transport.Glue
import RenetVerif.Lemmas.SrcEquiv.TrSocket
import RenetVerif.Lemmas.SrcEquiv.Server
import RenetVerif.Props.SrcTieNcServerRecv
import RenetVerif.Props.SrcTieServer
set_option linter.unusedVariables false
namespace RenetVerif.SrcEquiv
open RenetVerif RenetVerif.RustSem RenetVerif.Netcode RenetVerif.Transport

section TrServer
open Src.renet_netcode.server

abbrev SRenetServer := Src.renet.server.RenetServer
abbrev SServerTransport := Src.renet_netcode.server.NetcodeServerTransport

/-- the simulation the transport needs from the renet server: `R` relates the model server and the generated one and is
    kept by the operations the transport calls, with the model's results -/
structure RnSim (R : Server → SRenetServer → Prop) : Prop where
  ppf : ∀ {s : Server} {g : SRenetServer}, R s g → ∀ (payload : Bytes) (id : Nat),
    match s.processPacketFrom payload id with
    | .ok (s', _) => ∃ g', R s' g' ∧
        (Src.renet.server.RenetServer.process_packet_from g (toNats payload) id = .ok (g', ()) ∨
         ∃ e, Src.renet.server.RenetServer.process_packet_from g (toNats payload) id = .err (e, g'))
    | .panic _ => ∃ m, Src.renet.server.RenetServer.process_packet_from g (toNats payload) id = .panic m
    | .err e => nomatch e
  add : ∀ {s : Server} {g : SRenetServer}, R s g → ∀ (id : Nat), ∃ g', R (s.addConnection id) g' ∧
    ∀ ε : Type, (Src.renet.server.RenetServer.add_connection g id : Res ε _) = .ok (g', ())
  remove : ∀ {s : Server} {g : SRenetServer}, R s g → ∀ (id : Nat), ∃ g', R (s.removeConnection id) g' ∧
    ∀ ε : Type, (Src.renet.server.RenetServer.remove_connection g id : Res ε _) = .ok (g', ())
  cids : ∀ {s : Server} {g : SRenetServer}, R s g →
    ∀ ε : Type, (Src.renet.server.RenetServer.clients_id g : Res ε _) = .ok s.clientsId
  dids : ∀ {s : Server} {g : SRenetServer}, R s g →
    ∀ ε : Type, (Src.renet.server.RenetServer.disconnections_id g : Res ε _) = .ok s.disconnectionsId
  gpts : ∀ {s : Server} {g : SRenetServer}, R s g → ∀ (id : Nat),
    match s.getPacketsToSend id with
    | .ok (s', some ps) => ∃ g', R s' g' ∧ Src.renet.server.RenetServer.get_packets_to_send g id = .ok (g', ps.map toNats)
    | .ok (s', none) => ∃ g' e, Src.renet.server.RenetServer.get_packets_to_send g id = .err (e, g')
    | .panic _ => ∃ m, Src.renet.server.RenetServer.get_packets_to_send g id = .panic m
    | .err e => nomatch e

/-- `RnSim` with a premise `P s id` on the two clauses that carry range conditions (`process_packet_from`,
    `get_packets_to_send`): a transport call needs them only at the states its own loops reach.  `RnSim` is the case of the
    trivial premise. -/
structure RnSimOn (P : Server → Nat → Prop) (R : Server → SRenetServer → Prop) : Prop where
  ppf : ∀ {s : Server} {g : SRenetServer}, R s g → ∀ (payload : Bytes) (id : Nat), P s id →
    match s.processPacketFrom payload id with
    | .ok (s', _) => ∃ g', R s' g' ∧
        (Src.renet.server.RenetServer.process_packet_from g (toNats payload) id = .ok (g', ()) ∨
         ∃ e, Src.renet.server.RenetServer.process_packet_from g (toNats payload) id = .err (e, g'))
    | .panic _ => ∃ m, Src.renet.server.RenetServer.process_packet_from g (toNats payload) id = .panic m
    | .err e => nomatch e
  add : ∀ {s : Server} {g : SRenetServer}, R s g → ∀ (id : Nat), ∃ g', R (s.addConnection id) g' ∧
    ∀ ε : Type, (Src.renet.server.RenetServer.add_connection g id : Res ε _) = .ok (g', ())
  remove : ∀ {s : Server} {g : SRenetServer}, R s g → ∀ (id : Nat), ∃ g', R (s.removeConnection id) g' ∧
    ∀ ε : Type, (Src.renet.server.RenetServer.remove_connection g id : Res ε _) = .ok (g', ())
  cids : ∀ {s : Server} {g : SRenetServer}, R s g →
    ∀ ε : Type, (Src.renet.server.RenetServer.clients_id g : Res ε _) = .ok s.clientsId
  dids : ∀ {s : Server} {g : SRenetServer}, R s g →
    ∀ ε : Type, (Src.renet.server.RenetServer.disconnections_id g : Res ε _) = .ok s.disconnectionsId
  gpts : ∀ {s : Server} {g : SRenetServer}, R s g → ∀ (id : Nat), P s id →
    match s.getPacketsToSend id with
    | .ok (s', some ps) => ∃ g', R s' g' ∧ Src.renet.server.RenetServer.get_packets_to_send g id = .ok (g', ps.map toNats)
    | .ok (s', none) => ∃ g' e, Src.renet.server.RenetServer.get_packets_to_send g id = .err (e, g')
    | .panic _ => ∃ m, Src.renet.server.RenetServer.get_packets_to_send g id = .panic m
    | .err e => nomatch e

theorem RnSim.on {R : Server → SRenetServer → Prop} (h : RnSim R) : RnSimOn (fun _ _ => True) R :=
  ⟨fun hr payload id _ => h.ppf hr payload id, h.add, h.remove, h.cids, h.dids, fun hr id _ => h.gpts hr id⟩

theorem RnSimOn.closed {R : Server → SRenetServer → Prop} (h : RnSimOn (fun _ _ => True) R) : RnSim R :=
  ⟨fun hr payload id => h.ppf hr payload id trivial, h.add, h.remove, h.cids, h.dids, fun hr id => h.gpts hr id trivial⟩

/-- the invariant the transport needs from the netcode server: the per-call hypotheses of the `NetcodeServer` ties
    (`SrcTieNcServerQuery/Send/Recv`) follow from `I`, and the model's operations keep `I` -/
structure NcInv (a : AEAD) (I : Netcode.NetcodeServer → Prop) : Prop where
  ent : ∀ {s : Netcode.NetcodeServer}, I s → 0 < s.connectTokenEntries.length
  to : ∀ {s : Netcode.NetcodeServer}, I s → ∀ c, some c ∈ s.clients → c.timeoutSeconds < 2 ^ 31
  pend : ∀ {s : Netcode.NetcodeServer}, I s → ∀ p ∈ s.pendingClients, p.2.state ≠ .disconnected
  update : ∀ {s s' : Netcode.NetcodeServer} (dt : Nat), I s → s.update dt = .ok s' → I s'
  pp : ∀ {s s' : Netcode.NetcodeServer} {r : Netcode.ServerResult} (addr : Addr) (buf : Bytes), I s →
    s.processPacket a addr buf = .ok (r, s') → I s'
  uc : ∀ {s s' : Netcode.NetcodeServer} {r : Netcode.ServerResult} (id : Nat), I s → s.updateClient a id = .ok (r, s') → I s'
  disc : ∀ {s s' : Netcode.NetcodeServer} {r : Netcode.ServerResult} (id : Nat), I s → s.disconnect a id = .ok (r, s') → I s'
  gen : ∀ {s s' : Netcode.NetcodeServer} {r : Addr × Bytes} (id : Nat) (p : Bytes), I s →
    s.generatePayloadPacket a id p = .ok (r, s') → I s'

/-- outcome of a glue step on (renet server, outbox): the generated code leaves the socket with the model's log -/
def GlueOut {ε : Type} (R : Server → SRenetServer → Prop) (inbox : List Dgram) (m : Res Empty (Server × Array Dgram))
    (g : Res ε (RustSem.UdpSocket × SRenetServer × Unit)) : Prop :=
  match m with
  | .ok (rs', out') => ∃ g', R rs' g' ∧ g = .ok (sockR inbox out', g', ())
  | .err e => nomatch e
  | .panic _ => ∃ msg, g = .panic msg

theorem handle_server_result_on {ε : Type} {P : Server → Nat → Prop} {R : Server → SRenetServer → Prop} (hsim : RnSimOn P R)
    {rs : Server} {g : SRenetServer} (h : R rs g) (r : Netcode.ServerResult) (hok : ∀ id p, r = .payload id p → P rs id)
    (inbox : List Dgram) (out : Array Dgram) :
    GlueOut R inbox (handleServerResult r rs out) (handle_server_result (reprNSR r) (sockR inbox out) g : Res ε _) := by
  unfold handle_server_result handleServerResult
  cases r with
  | none =>
    simp only [reprNSR, Exec.bind_eq, Exec.pure_eq, Exec.bind_val', Exec.run_val, GlueOut, Res.pure_eq]
    exact ⟨g, h, rfl⟩
  | packetToSend addr p =>
    simp only [reprNSR, Exec.bind_eq, Exec.pure_eq, send_to_eq, Exec.attempt, Exec.bind_val', Exec.run_val, GlueOut, Res.pure_eq]
    exact ⟨g, h, rfl⟩
  | payload id p =>
    simp only [reprNSR, Exec.bind_eq, Exec.pure_eq]
    have hp := hsim.ppf h p id (hok id p rfl)
    cases hm : rs.processPacketFrom p id with
    | panic m =>
      rw [hm] at hp
      obtain ⟨m', hg⟩ := hp
      rw [hg]
      simp only [Exec.attempt, Exec.bind_panic', Exec.run_panic, Res.bind_panic, GlueOut]; exact ⟨_, rfl⟩
    | err e => exact nomatch e
    | ok v =>
      obtain ⟨rs', b⟩ := v
      rw [hm] at hp
      obtain ⟨g', hR, hg | ⟨e, hg⟩⟩ := hp
      · rw [hg]
        simp only [Exec.attempt, Exec.bind_val', Exec.run_val, Res.bind_ok, Res.pure_eq, GlueOut]
        exact ⟨g', hR, rfl⟩
      · rw [hg]
        simp only [Exec.attempt, Exec.bind_val', Exec.run_val, Res.bind_ok, Res.pure_eq, GlueOut]
        exact ⟨g', hR, rfl⟩
  | clientConnected id addr ud p =>
    simp only [reprNSR, Exec.bind_eq, Exec.pure_eq]
    obtain ⟨g', hR, hg⟩ := hsim.add h id
    rw [hg]
    simp only [Exec.call_ok, Exec.bind_val', send_to_eq, Exec.attempt, Exec.run_val, GlueOut, Res.pure_eq]
    exact ⟨g', hR, rfl⟩
  | clientDisconnected id addr p =>
    simp only [reprNSR, Exec.bind_eq, Exec.pure_eq]
    obtain ⟨g', hR, hg⟩ := hsim.remove h id
    rw [hg]
    cases p with
    | none =>
      simp only [Option.map_none, Exec.call_ok, Exec.bind_val', Exec.run_val, GlueOut, Res.pure_eq]
      exact ⟨g', hR, rfl⟩
    | some p =>
      simp only [Option.map_some, Exec.call_ok, Exec.bind_val', send_to_eq, Exec.attempt, Exec.run_val, GlueOut, Res.pure_eq]
      exact ⟨g', hR, rfl⟩

/-! ### `for client_id in ids { handle_server_result(f(client_id)) }` -/

/-- the transport (socket script `inbox`, log `out`; netcode server with scratch buffer `o`; receive buffer `buf`) -/
def trR (inbox : List Dgram) (out : Array Dgram) (o : List Nat) (ns : Netcode.NetcodeServer) (buf : List Nat) : SServerTransport :=
  ⟨sockR inbox out, reprNS o ns, buf⟩

/-- the body of the three id loops, over the netcode call `fg` -/
def idBody {ε ρ : Type} (fg : SNetcodeServer → Nat → Res ε (SNetcodeServer × SServerResult)) :
    Nat → SServerTransport × SRenetServer → Exec ε ρ (SServerTransport × SRenetServer) :=
  fun client_id (self, server) => (do
    let t2 ← Exec.call (fg self.netcode_server client_id)
    let self := { self with netcode_server := t2.1 }
    let server_result := t2.2
    let t3 ← Exec.call (handle_server_result server_result self.socket server)
    let self := { self with socket := t3.1 }
    let server := t3.2.1
    pure (self, server))

/-- outcome of a loop of the transport: the model's glue state and log; scratch buffers are some buffers of their length -/
def LoopOut {ε ρ : Type} (R : Server → SRenetServer → Prop) (I : Netcode.NetcodeServer → Prop) (inbox : List Dgram) (bl : Nat)
    (m : Res Empty (ServerGlue × Array Dgram)) (g : Exec ε ρ (SServerTransport × SRenetServer)) : Prop :=
  match m with
  | .ok (g', out') => ∃ o' buf' gr', o'.length = C.NETCODE_MAX_PACKET_BYTES ∧ buf'.length = bl ∧ I g'.netcode ∧ R g'.renet gr' ∧
      g = .val (trR inbox out' o' g'.netcode buf', gr')
  | .err e => nomatch e
  | .panic _ => ∃ msg, g = .panic msg

/-- `Q` is an invariant of a model loop `for x in l { handle_server_result(f(netcode, x)) }` that gives the premise `P` for
    the connection of every payload the loop hands to renet -/
structure HandleInv {α : Type} (P : Server → Nat → Prop)
    (f : Netcode.NetcodeServer → α → Res Empty (Netcode.ServerResult × Netcode.NetcodeServer))
    (Q : ServerGlue → List α → Array Dgram → Prop) : Prop where
  prem : ∀ {g : ServerGlue} {x : α} {rest : List α} {out : Array Dgram} {r : Netcode.ServerResult} {ns : Netcode.NetcodeServer},
    Q g (x :: rest) out → f g.netcode x = .ok (r, ns) → ∀ id p, r = .payload id p → P g.renet id
  next : ∀ {g : ServerGlue} {x : α} {rest : List α} {out out' : Array Dgram} {r : Netcode.ServerResult}
    {ns : Netcode.NetcodeServer} {rs' : Server}, Q g (x :: rest) out → f g.netcode x = .ok (r, ns) →
    handleServerResult r g.renet out = .ok (rs', out') → Q { netcode := ns, renet := rs' } rest out'

theorem handleInv_true {α : Type} (f : Netcode.NetcodeServer → α → Res Empty (Netcode.ServerResult × Netcode.NetcodeServer)) :
    HandleInv (fun _ _ => True) f (fun _ _ _ => True) :=
  ⟨fun _ _ _ _ _ => trivial, fun _ _ _ => trivial⟩

theorem idLoop_on {ε ρ : Type} {P : Server → Nat → Prop} {R : Server → SRenetServer → Prop} (hsim : RnSimOn P R)
    (I : Netcode.NetcodeServer → Prop)
    (f : Netcode.NetcodeServer → Nat → Res Empty (Netcode.ServerResult × Netcode.NetcodeServer))
    (fg : SNetcodeServer → Nat → Res ε (SNetcodeServer × SServerResult))
    (hf : ∀ s o id, I s → o.length = C.NETCODE_MAX_PACKET_BYTES → NsOut (f s id) (fg (reprNS o s) id))
    (hI : ∀ s id r s', I s → f s id = .ok (r, s') → I s') {Q : ServerGlue → List Nat → Array Dgram → Prop}
    (hQ : HandleInv P f Q) (inbox : List Dgram) (buf : List Nat) :
    ∀ (ids : List Nat) (g : ServerGlue) (out : Array Dgram) (o : List Nat) (gr : SRenetServer),
      I g.netcode → R g.renet gr → o.length = C.NETCODE_MAX_PACKET_BYTES → Q g ids out →
      LoopOut (ε := ε) (ρ := ρ) R I inbox buf.length (serverIdLoop f g ids out)
        (RustSem.forEach ids (trR inbox out o g.netcode buf, gr) (idBody fg)) := by
  intro ids
  induction ids with
  | nil =>
    intro g out o gr hi hr ho _
    simp only [serverIdLoop, RustSem.forEach, LoopOut, Res.pure_eq]
    exact ⟨o, buf, gr, ho, rfl, hi, hr, rfl⟩
  | cons id rest ih =>
    intro g out o gr hi hr ho hq
    simp only [serverIdLoop, RustSem.forEach]
    have hfs := hf g.netcode o id hi ho
    cases hm : f g.netcode id with
    | err e => exact nomatch e
    | panic m =>
      rw [hm] at hfs
      obtain ⟨msg, hg⟩ := hfs
      simp only [idBody, trR, Exec.bind_eq, hg, Exec.call_panic, Exec.bind_panic', Res.bind_panic, LoopOut]
      exact ⟨_, rfl⟩
    | ok v =>
      obtain ⟨r, ns⟩ := v
      rw [hm] at hfs
      obtain ⟨o', ho', hg⟩ := hfs
      have hh := handle_server_result_on (ε := ε) hsim hr r (hQ.prem hq hm) inbox out
      simp only [Res.bind_ok]
      cases hm2 : handleServerResult r g.renet out with
      | err e => exact nomatch e
      | panic m =>
        rw [hm2] at hh
        obtain ⟨msg, hg2⟩ := hh
        simp only [idBody, trR, Exec.bind_eq, hg, Exec.call_ok, Exec.bind_val', hg2, Exec.call_panic, Exec.bind_panic',
          Res.bind_panic, LoopOut]
        exact ⟨_, rfl⟩
      | ok v2 =>
        obtain ⟨rs', out'⟩ := v2
        rw [hm2] at hh
        obtain ⟨gr', hr', hg2⟩ := hh
        simp only [idBody, trR, Exec.bind_eq, hg, Exec.call_ok, Exec.bind_val', hg2, Exec.pure_eq, Res.bind_ok]
        exact ih { netcode := ns, renet := rs' } out' o' gr' (hI _ _ _ _ hi hm) hr' ho' (hQ.next hq hm hm2)

/-- outcome of a transport method returning `()` -/
def TrOut {ε : Type} (R : Server → SRenetServer → Prop) (I : Netcode.NetcodeServer → Prop) (inbox : List Dgram) (bl : Nat)
    (m : Res Empty (ServerGlue × Array Dgram)) (g : Res ε (SServerTransport × SRenetServer × Unit)) : Prop :=
  match m with
  | .ok (g', out') => ∃ o' buf' gr', o'.length = C.NETCODE_MAX_PACKET_BYTES ∧ buf'.length = bl ∧ I g'.netcode ∧ R g'.renet gr' ∧
      g = .ok (trR inbox out' o' g'.netcode buf', gr', ())
  | .err e => nomatch e
  | .panic _ => ∃ msg, g = .panic msg

/-- a loop that is the last statement before `Ok(())` -/
theorem LoopOut.trOut {ε : Type} {R : Server → SRenetServer → Prop} {I : Netcode.NetcodeServer → Prop} {inbox : List Dgram} {bl : Nat}
    {m : Res Empty (ServerGlue × Array Dgram)} {g : Exec ε (SServerTransport × SRenetServer × Unit) (SServerTransport × SRenetServer)}
    (h : LoopOut R I inbox bl m g) : TrOut R I inbox bl m (Exec.run (g.bind fun x => Exec.val (x.1, x.2, ()))) := by
  cases m with
  | err e => exact nomatch e
  | panic s =>
    obtain ⟨msg, hg⟩ := h
    rw [hg, Exec.bind_panic']
    exact ⟨_, rfl⟩
  | ok v =>
    obtain ⟨g', out'⟩ := v
    obtain ⟨o', buf', gr', ho', hb', hi', hr', hg⟩ := h
    rw [hg, Exec.bind_val']
    exact ⟨o', buf', gr', ho', hb', hi', hr', rfl⟩

theorem disconnect_all_unfold [RustSem.Aead] {ε : Type} (self : SServerTransport) (server : SRenetServer) :
    (NetcodeServerTransport.disconnect_all self server : Res ε _) = Exec.run
      ((Exec.call (Src.renetcode.server.NetcodeServer.clients_id self.netcode_server)).bind fun t1 =>
        (RustSem.forEach t1 (self, server) (idBody (fun s id => Src.renetcode.server.NetcodeServer.disconnect s id))).bind
          fun x => Exec.val (x.1, x.2, ())) := rfl

theorem disconnectLoop_on {ε ρ : Type} (a : AEAD) (hl : a.Laws) {P : Server → Nat → Prop} {R : Server → SRenetServer → Prop}
    (hsim : RnSimOn P R) {I : Netcode.NetcodeServer → Prop} (hinv : NcInv a I)
    {Q : ServerGlue → List Nat → Array Dgram → Prop} (hQ : HandleInv P (fun ns id => ns.disconnect a id) Q)
    (inbox : List Dgram) (buf : List Nat) (ids : List Nat) (g : ServerGlue) (out : Array Dgram) (o : List Nat) (gr : SRenetServer)
    (hi : I g.netcode) (hr : R g.renet gr) (ho : o.length = C.NETCODE_MAX_PACKET_BYTES) (hq : Q g ids out) :
    LoopOut (ε := ε) (ρ := ρ) R I inbox buf.length (serverIdLoop (fun ns id => ns.disconnect a id) g ids out)
      (RustSem.forEach ids (trR inbox out o g.netcode buf, gr)
        (idBody (fun s id => @Src.renetcode.server.NetcodeServer.disconnect (aeadOf a) ε s id))) :=
  idLoop_on hsim I _ _ (fun s o id _ ho => SrcTie.nc_server_disconnect a hl o ho s id) (fun _ id _ _ hi h => hinv.disc id hi h) hQ inbox buf
    ids g out o gr hi hr ho hq

/-- `disconnect_all` from a socket whose log is `out` -/
theorem tr_disconnect_all_on {ε : Type} (a : AEAD) (hl : a.Laws) {P : Server → Nat → Prop} {R : Server → SRenetServer → Prop}
    (hsim : RnSimOn P R) {I : Netcode.NetcodeServer → Prop} (hinv : NcInv a I)
    {Q : ServerGlue → List Nat → Array Dgram → Prop} (hQ : HandleInv P (fun ns id => ns.disconnect a id) Q)
    (g : ServerGlue) (gr : SRenetServer) (hi : I g.netcode) (hr : R g.renet gr) (inbox : List Dgram) (out : Array Dgram)
    (o buf : List Nat) (ho : o.length = C.NETCODE_MAX_PACKET_BYTES) (hq : Q g g.netcode.clientsId out) :
    TrOut (ε := ε) R I inbox buf.length (serverIdLoop (fun ns id => ns.disconnect a id) g g.netcode.clientsId out)
      (@NetcodeServerTransport.disconnect_all (aeadOf a) ε (trR inbox out o g.netcode buf) gr) := by
  rw [@disconnect_all_unfold (aeadOf a)]
  have hcid : (Src.renetcode.server.NetcodeServer.clients_id (trR inbox out o g.netcode buf).netcode_server
      : Res ε _) = .ok g.netcode.clientsId := SrcTie.nc_server_clients_id o g.netcode
  rw [hcid, Exec.call_ok, Exec.bind_val']
  exact (disconnectLoop_on a hl hsim hinv hQ inbox buf g.netcode.clientsId g out o gr hi hr ho hq).trOut

abbrev TrErr := Src.renet_netcode.NetcodeTransportError × (SServerTransport × SRenetServer)

/-- the body of the `loop { match self.socket.recv_from(&mut self.buffer) { … } }` of `update` (the text of the generated
    definition; `update_unfold` is by `rfl`) -/
def recvBody [RustSem.Aead] : SServerTransport × SRenetServer →
    Exec TrErr (RustSem.LoopExit (SServerTransport × SRenetServer × Unit) (SServerTransport × SRenetServer)) (SServerTransport × SRenetServer) :=
  (fun (self, server) => (if true then (do
        let t5 ← Exec.attempt2 (RustSem.UdpSocket.recv_from self.socket self.buffer)
        let self := { self with socket := t5.1.1 }
        let self := { self with buffer := t5.1.2 }
        let scrut_t4 := t5.2
        let (self, server) ←
          (match scrut_t4 with
          | Except.ok (len, addr) => (do
            let t6 ← RustSem.slice self.buffer 0 len "renet_netcode/src/server.rs:NetcodeServerTransport::update: self.buffer[..len]"
            let t7 ← Exec.call (Src.renetcode.server.NetcodeServer.process_packet self.netcode_server addr t6)
            let self := { self with netcode_server := t7.1 }
            let t8 ← RustSem.splice self.buffer 0 len t7.2.1 "renet_netcode/src/server.rs:NetcodeServerTransport::update: self.buffer[..len]"
            let self := { self with buffer := t8 }
            let server_result := t7.2.2
            let t9 ← Exec.call (handle_server_result server_result self.socket server)
            let self := { self with socket := t9.1 }
            let server := t9.2.1
            pure (self, server))
          | Except.error e => (do
            let _ ←
              ((if (decide ((RustSem.IoError.kind e) = RustSem.ErrorKind.WouldBlock)) then Exec.ret (RustSem.LoopExit.brk (self, server))
              else (if (decide ((RustSem.IoError.kind e) = RustSem.ErrorKind.Interrupted)) then Exec.ret (RustSem.LoopExit.brk (self, server))
              else (if (decide ((RustSem.IoError.kind e) = RustSem.ErrorKind.ConnectionReset)) then Exec.ret (RustSem.LoopExit.cont (self, server))
              else (do
                let t10 ← Exec.call (Src.renet_netcode.NetcodeTransportError.from_Error e)
                Exec.err (t10, (self, server)))))) : Exec _ _ Unit)
            pure (self, server)))
        pure (self, server))
      else Exec.ret (RustSem.LoopExit.brk (self, server))))

theorem update_unfold [RustSem.Aead] (self : SServerTransport) (duration : Nat) (server : SRenetServer) :
    NetcodeServerTransport.update self duration server = Exec.run
      ((Exec.call (Src.renetcode.server.NetcodeServer.update self.netcode_server duration)).bind fun t1 =>
        (Exec.call (RustSem.UdpSocket.pending ({ self with netcode_server := t1.1 } : SServerTransport).socket)).bind fun t2 =>
        (RustSem.add 64 t2 1 "renet_netcode/src/server.rs:NetcodeServerTransport::update: self.socket.pending() + 1").bind fun t3 =>
        (RustSem.whileFuel t3 "renet_netcode/src/server.rs:NetcodeServerTransport::update: fuel exhausted"
          (({ self with netcode_server := t1.1 } : SServerTransport), server) recvBody).bind fun x =>
        (Exec.call (Src.renetcode.server.NetcodeServer.clients_id x.1.netcode_server)).bind fun t11 =>
        (RustSem.forEach t11 x (idBody (fun s id => Src.renetcode.server.NetcodeServer.update_client s id))).bind fun y =>
        (Exec.call (Src.renet.server.RenetServer.disconnections_id y.2)).bind fun t14 =>
        (RustSem.forEach t14 y (idBody (fun s id => Src.renetcode.server.NetcodeServer.disconnect s id))).bind fun z =>
        Exec.val (z.1, z.2, ())) := rfl

theorem recvBody_empty [RustSem.Aead] (out : Array Dgram) (o : List Nat) (ns : Netcode.NetcodeServer) (buf : List Nat)
    (gr : SRenetServer) :
    recvBody (trR [] out o ns buf, gr) = .ret (.brk (trR [] out o ns buf, gr)) := by
  unfold recvBody
  simp only [trR, if_true, Exec.bind_eq, Exec.pure_eq, recv_from_empty, Exec.attempt2, Exec.bind_val']
  rfl

/-- the receive loop: every queued datagram (cut to the buffer's size) goes through `process_packet` (decrypting in the
    receive buffer) and `handle_server_result`, in order; the fuel `pending() + 1` is never exhausted -/
theorem recvLoop_on (a : AEAD) (hl : a.Laws) {P : Server → Nat → Prop} {R : Server → SRenetServer → Prop} (hsim : RnSimOn P R)
    {I : Netcode.NetcodeServer → Prop} (hinv : NcInv a I) {Q : ServerGlue → List Dgram → Array Dgram → Prop}
    (hQ : HandleInv P (fun ns d => ns.processPacket a d.1 d.2) Q) (site : String) (cap : Nat) (hcap : cap + 16 < 2 ^ 64) :
    ∀ (inbox : List Dgram) (g : ServerGlue) (gr : SRenetServer) (out : Array Dgram) (o buf : List Nat) (fuel : Nat),
      inbox.length < fuel → I g.netcode → R g.renet gr → o.length = C.NETCODE_MAX_PACKET_BYTES → buf.length = cap →
      Q g (inbox.map (recvFrom cap)) out →
      LoopOut (ρ := SServerTransport × SRenetServer × Unit) R I [] cap (serverRecvLoop a g (inbox.map (recvFrom cap)) out)
        (RustSem.whileFuel fuel site (trR inbox out o g.netcode buf, gr) (@recvBody (aeadOf a))) := by
  intro inbox
  induction inbox with
  | nil =>
    intro g gr out o buf fuel hf hi hr ho hb _
    obtain ⟨n, rfl⟩ : ∃ n, fuel = n + 1 := ⟨fuel - 1, by simp at hf; omega⟩
    rw [whileFuel_step, @recvBody_empty (aeadOf a)]
    simp only [List.map_nil, serverRecvLoop, LoopOut, Res.pure_eq]
    exact ⟨o, buf, gr, ho, hb, hi, hr, rfl⟩
  | cons d rest ih =>
    intro g gr out o buf fuel hf hi hr ho hb hq
    obtain ⟨addr, b⟩ := d
    obtain ⟨n, rfl⟩ : ∃ n, fuel = n + 1 := ⟨fuel - 1, by simp at hf; omega⟩
    subst hb
    rw [List.map_cons] at hq
    have hbl : (b.take buf.length).length + 16 < 2 ^ 64 := by
      rw [List.length_take]; omega
    have hpp := SrcTie.nc_server_process_packet_len (ε := TrErr) a hl o ho g.netcode (hinv.ent hi) addr (b.take buf.length) hbl
    rw [whileFuel_step]
    unfold recvBody
    simp only [List.map_cons, recvFrom, serverRecvLoop, trR, if_true, Exec.bind_eq, Exec.pure_eq, recv_from_dgram, Exec.attempt2,
      Exec.bind_val', slice_prefix]
    cases hm : g.netcode.processPacket a addr (b.take buf.length) with
    | err e => exact nomatch e
    | panic m =>
      rw [hm] at hpp
      obtain ⟨msg, hg⟩ := hpp
      simp only [hg, Exec.call_panic, Exec.bind_panic', Res.bind_panic, LoopOut]
      exact ⟨_, rfl⟩
    | ok v =>
      obtain ⟨r, ns⟩ := v
      rw [hm] at hpp
      obtain ⟨o', buf', ho', hb', hg⟩ := hpp
      have hh := handle_server_result_on (ε := TrErr) hsim hr r (hQ.prem hq hm) rest out
      simp only [hg, Exec.call_ok, Exec.bind_val', splice_prefix, Res.bind_ok]
      cases hm2 : handleServerResult r g.renet out with
      | err e => exact nomatch e
      | panic m =>
        rw [hm2] at hh
        obtain ⟨msg, hg2⟩ := hh
        simp only [hg2, Exec.call_panic, Exec.bind_panic', Res.bind_panic, LoopOut]
        exact ⟨_, rfl⟩
      | ok v2 =>
        obtain ⟨rs', out'⟩ := v2
        rw [hm2] at hh
        obtain ⟨gr', hr', hg2⟩ := hh
        simp only [hg2, Exec.call_ok, Exec.bind_val', Res.bind_ok]
        refine ih { netcode := ns, renet := rs' } gr' out' o' (buf' ++ buf.drop (toNats (b.take buf.length)).length) n
          (by simp at hf; omega) (hinv.pp addr _ hi hm) hr' ho' ?_ (hQ.next hq hm hm2)
        rw [List.length_append, hb', List.length_drop, toNats_length, List.length_take]
        omega

/-- `Transport.serverUpdate` started with `out` already in the socket's log (`serverUpdate` is the case `#[]`) -/
def serverUpdateFrom (a : AEAD) (g : ServerGlue) (duration : Nat) (inbox : List Dgram) (out : Array Dgram) :
    Res Empty (ServerGlue × Array Dgram) := do
  let ns ← g.netcode.update duration
  let g := { g with netcode := ns }
  let (g, out) ← serverRecvLoop a g inbox out
  let (g, out) ← serverIdLoop (fun ns id => ns.updateClient a id) g g.netcode.clientsId out
  serverIdLoop (fun ns id => ns.disconnect a id) g g.renet.disconnectionsId out

theorem serverUpdate_eq_from (a : AEAD) (g : ServerGlue) (duration : Nat) (inbox : List Dgram) :
    serverUpdate a g duration inbox = serverUpdateFrom a g duration inbox #[] := rfl

/-- `update`: the netcode clock, the receive loop over every queued datagram, `update_client` for every connected client
    (slot order), `disconnect` for every disconnected renet connection (key order); never `Err` without socket errors.
    Each of the three loops has its invariant; `hq` starts each where the model's run gets there. -/
theorem tr_update_on (a : AEAD) (hl : a.Laws) {P : Server → Nat → Prop} {R : Server → SRenetServer → Prop} (hsim : RnSimOn P R)
    {I : Netcode.NetcodeServer → Prop} (hinv : NcInv a I) {Qr : ServerGlue → List Dgram → Array Dgram → Prop}
    {Qu Qd : ServerGlue → List Nat → Array Dgram → Prop} (hQr : HandleInv P (fun ns d => ns.processPacket a d.1 d.2) Qr)
    (hQu : HandleInv P (fun ns id => ns.updateClient a id) Qu) (hQd : HandleInv P (fun ns id => ns.disconnect a id) Qd)
    (g : ServerGlue) (gr : SRenetServer) (hi : I g.netcode)
    (hr : R g.renet gr) (duration : Nat) (inbox : List Dgram) (hin : inbox.length + 1 < 2 ^ 64) (out : Array Dgram)
    (o buf : List Nat) (ho : o.length = C.NETCODE_MAX_PACKET_BYTES) (hb : buf.length = C.TRANSPORT_SERVER_BUFFER)
    (hq : ∀ ns, g.netcode.update duration = .ok ns →
      Qr { g with netcode := ns } (inbox.map (recvFrom C.TRANSPORT_SERVER_BUFFER)) out ∧
      ∀ g1 out1, serverRecvLoop a { g with netcode := ns } (inbox.map (recvFrom C.TRANSPORT_SERVER_BUFFER)) out = .ok (g1, out1) →
        Qu g1 g1.netcode.clientsId out1 ∧
        ∀ g2 out2, serverIdLoop (fun ns id => ns.updateClient a id) g1 g1.netcode.clientsId out1 = .ok (g2, out2) →
          Qd g2 g2.renet.disconnectionsId out2) :
    TrOut R I [] C.TRANSPORT_SERVER_BUFFER
      (serverUpdateFrom a g duration (inbox.map (recvFrom C.TRANSPORT_SERVER_BUFFER)) out)
      (@NetcodeServerTransport.update (aeadOf a) (trR inbox out o g.netcode buf) duration gr) := by
  rw [@update_unfold (aeadOf a)]
  unfold serverUpdateFrom
  have hu := SrcTie.nc_server_update (ε := TrErr) o g.netcode duration (hinv.pend hi)
  have hu' : SameOutcome (Src.renetcode.server.NetcodeServer.update (trR inbox out o g.netcode buf).netcode_server duration : Res TrErr _)
      (mapRes (fun s' => (reprNS o s', ())) (fun e => nomatch e) (g.netcode.update duration)) := hu
  cases hm : g.netcode.update duration with
  | err e => exact nomatch e
  | panic m =>
    rw [hm] at hu'
    obtain ⟨msg, hg⟩ := hu'.panics
    rw [hg, Exec.call_panic, Exec.bind_panic']
    exact ⟨_, rfl⟩
  | ok ns =>
    obtain ⟨hqr, hq⟩ := hq ns hm
    rw [hm] at hu'
    rw [hu'.eq_ok, Exec.call_ok, Exec.bind_val']
    have hpend : (RustSem.UdpSocket.pending ({ trR inbox out o g.netcode buf with netcode_server := (reprNS o ns, ()).1 } : SServerTransport).socket
        : Res TrErr Nat) = .ok inbox.length := pending_sockR inbox out
    rw [hpend, Exec.call_ok, Exec.bind_val', add_val hin, Exec.bind_val']
    have hloop := recvLoop_on a hl hsim hinv hQr "renet_netcode/src/server.rs:NetcodeServerTransport::update: fuel exhausted"
      C.TRANSPORT_SERVER_BUFFER (by decide) inbox { g with netcode := ns } gr out o buf (inbox.length + 1) (Nat.lt_succ_self _)
      (hinv.update duration hi hm) hr ho hb hqr
    have hst : (({ trR inbox out o g.netcode buf with netcode_server := (reprNS o ns, ()).1 } : SServerTransport), gr)
        = (trR inbox out o ns buf, gr) := rfl
    rw [hst]
    simp only [Res.bind_ok]
    cases hm1 : serverRecvLoop a { g with netcode := ns } (inbox.map (recvFrom C.TRANSPORT_SERVER_BUFFER)) out with
    | err e => exact nomatch e
    | panic m =>
      rw [hm1] at hloop
      obtain ⟨msg, hg⟩ := hloop
      rw [hg, Exec.bind_panic']
      exact ⟨_, rfl⟩
    | ok v1 =>
      obtain ⟨g1, out1⟩ := v1
      obtain ⟨hqu, hq⟩ := hq g1 out1 hm1
      rw [hm1] at hloop
      obtain ⟨o1, buf1, gr1, ho1, hb1, hi1, hr1, hg⟩ := hloop
      rw [hg, Exec.bind_val']
      have hcid : (Src.renetcode.server.NetcodeServer.clients_id (trR [] out1 o1 g1.netcode buf1, gr1).1.netcode_server
          : Res TrErr _) = .ok g1.netcode.clientsId := SrcTie.nc_server_clients_id o1 g1.netcode
      rw [hcid, Exec.call_ok, Exec.bind_val']
      have hloop2 := idLoop_on (ε := TrErr) (ρ := SServerTransport × SRenetServer × Unit) hsim I (fun ns id => ns.updateClient a id)
        (fun s id => @Src.renetcode.server.NetcodeServer.update_client (aeadOf a) TrErr s id)
        (fun s o id hi ho => SrcTie.nc_server_update_client a hl o ho s (hinv.to hi) id) (fun s id r s' hi h => hinv.uc id hi h) hQu [] buf1
        g1.netcode.clientsId g1 out1 o1 gr1 hi1 hr1 ho1 hqu
      simp only [Res.bind_ok]
      cases hm2 : serverIdLoop (fun ns id => ns.updateClient a id) g1 g1.netcode.clientsId out1 with
      | err e => exact nomatch e
      | panic m =>
        rw [hm2] at hloop2
        obtain ⟨msg, hg⟩ := hloop2
        rw [hg, Exec.bind_panic']
        exact ⟨_, rfl⟩
      | ok v2 =>
        obtain ⟨g2, out2⟩ := v2
        rw [hm2] at hloop2
        obtain ⟨o2, buf2, gr2, ho2, hb2, hi2, hr2, hg⟩ := hloop2
        rw [hg, Exec.bind_val']
        have hdid : (Src.renet.server.RenetServer.disconnections_id (trR [] out2 o2 g2.netcode buf2, gr2).2 : Res TrErr _)
            = .ok g2.renet.disconnectionsId := hsim.dids hr2 TrErr
        rw [hdid, Exec.call_ok, Exec.bind_val', ← hb1, ← hb2]
        exact (disconnectLoop_on a hl hsim hinv hQd [] buf2 g2.renet.disconnectionsId g2 out2 o2 gr2 hi2 hr2 ho2
          (hq g2 out2 hm2)).trOut

/-- the body of `for packet in packets` (the text of the generated definition; `send_packets_unfold` is by `rfl`) -/
def sendBody [RustSem.Aead] {ε ρ : Type} (client_id : Nat) (server : SRenetServer) :
    List Nat → SServerTransport → Exec ε (RustSem.LoopExit ρ (SServerTransport × SRenetServer)) SServerTransport :=
  (fun packet self => (do
            let t4 ← Exec.attempt (Src.renetcode.server.NetcodeServer.generate_payload_packet self.netcode_server client_id packet)
            let self := { self with netcode_server := t4.1 }
            let self ←
              (match t4.2 with
              | Except.ok (addr, payload) => (do
                let t5 ← Exec.attempt (RustSem.UdpSocket.send_to self.socket payload addr)
                let self := { self with socket := t5.1 }
                let self ←
                  (match t5.2 with
                  | Except.error e => Exec.ret (RustSem.LoopExit.cont (self, server))
                  | _ => pure self)
                pure self)
              | Except.error e => Exec.ret (RustSem.LoopExit.cont (self, server)))
            pure self))

/-- the body of `for client_id in server.clients_id()` -/
def sendOuter [RustSem.Aead] {ε ρ : Type} : Nat → SServerTransport × SRenetServer →
    Exec ε (RustSem.LoopExit ρ (SServerTransport × SRenetServer)) (SServerTransport × SRenetServer) :=
  (fun client_id (self, server) => (do
        let t2 ← Exec.attempt (Src.renet.server.RenetServer.get_packets_to_send server client_id)
        let server := t2.1
        let t3 ← RustSem.unwrap_ok t2.2 "renet_netcode/src/server.rs:NetcodeServerTransport::send_packets: server.get_packets_to_send(client_id).unwrap()"
        let packets := t3
        let self ← RustSem.forEach packets self (sendBody client_id server)
        pure (self, server)))

theorem send_packets_unfold [RustSem.Aead] {ε : Type} (self : SServerTransport) (server : SRenetServer) :
    (NetcodeServerTransport.send_packets self server : Res ε _) = Exec.run
      ((Exec.call (Src.renet.server.RenetServer.clients_id server)).bind fun t1 =>
        (RustSem.forEachExit t1 (self, server) sendOuter).bind fun x => Exec.val (x.1, x.2, ())) := rfl

/-- the packets of one client: each goes through `generate_payload_packet` and `send_to`; the first error abandons the
    rest (`continue 'clients`) -/
theorem sendClient_eq {ε ρ : Type} (a : AEAD) (hl : a.Laws) {I : Netcode.NetcodeServer → Prop} (hinv : NcInv a I) (id : Nat)
    (gr : SRenetServer) (inbox : List Dgram) (buf : List Nat) :
    ∀ (ps : List Bytes) (ns : Netcode.NetcodeServer) (out : Array Dgram) (o : List Nat), I ns →
      o.length = C.NETCODE_MAX_PACKET_BYTES →
      match serverSendClient a ns id ps out with
      | .ok (ns', out') => ∃ o', o'.length = C.NETCODE_MAX_PACKET_BYTES ∧ I ns' ∧
          ((RustSem.forEach (ps.map toNats) (trR inbox out o ns buf) (@sendBody (aeadOf a) ε ρ id gr)
              = .val (trR inbox out' o' ns' buf)) ∨
           (RustSem.forEach (ps.map toNats) (trR inbox out o ns buf) (@sendBody (aeadOf a) ε ρ id gr)
              = .ret (.cont (trR inbox out' o' ns' buf, gr))))
      | .err e => nomatch e
      | .panic _ => ∃ msg, RustSem.forEach (ps.map toNats) (trR inbox out o ns buf) (@sendBody (aeadOf a) ε ρ id gr) = .panic msg := by
  intro ps
  induction ps with
  | nil =>
    intro ns out o hi ho
    simp only [serverSendClient, List.map_nil, RustSem.forEach, Res.pure_eq]
    exact ⟨o, ho, hi, Or.inl rfl⟩
  | cons p rest ih =>
    intro ns out o hi ho
    have hgen := SrcTie.nc_server_generate_payload_packet a hl o ho ns id p
    simp only [serverSendClient, List.map_cons, RustSem.forEach]
    cases hm : ns.generatePayloadPacket a id p with
    | panic m =>
      rw [hm] at hgen
      obtain ⟨msg, hg⟩ := hgen
      simp only [sendBody, trR, Exec.bind_eq, hg, attempt_panic', Exec.bind_panic']
      exact ⟨_, rfl⟩
    | err e =>
      rw [hm] at hgen
      obtain ⟨o', ho', hg⟩ := hgen
      simp only [sendBody, trR, Exec.bind_eq, hg, attempt_err', Exec.bind_val', Exec.bind_ret', Res.pure_eq]
      exact ⟨o', ho', hi, Or.inr rfl⟩
    | ok v =>
      obtain ⟨⟨addr, d⟩, ns'⟩ := v
      rw [hm] at hgen
      obtain ⟨o', ho', hg⟩ := hgen
      have hi' := hinv.gen id p hi hm
      have hrec := ih ns' (out.push (addr, d)) o' hi' ho'
      simp only [sendBody, trR, Exec.bind_eq, Exec.pure_eq, hg, attempt_ok', Exec.bind_val', send_to_eq]
      exact hrec

/-- `Q` is an invariant of the model's `serverSendLoop` that gives the premise `P` for the connection flushed in each round -/
structure SendInv (P : Server → Nat → Prop) (a : AEAD) (Q : ServerGlue → List Nat → Array Dgram → Prop) : Prop where
  prem : ∀ {g : ServerGlue} {id : Nat} {rest : List Nat} {out : Array Dgram}, Q g (id :: rest) out → P g.renet id
  next : ∀ {g : ServerGlue} {id : Nat} {rest : List Nat} {out out' : Array Dgram} {rs : Server} {ps : List Bytes}
    {ns : Netcode.NetcodeServer}, Q g (id :: rest) out → g.renet.getPacketsToSend id = .ok (rs, some ps) →
    serverSendClient a g.netcode id ps out = .ok (ns, out') → Q { netcode := ns, renet := rs } rest out'

theorem sendLoop_on {ε ρ : Type} (a : AEAD) (hl : a.Laws) {P : Server → Nat → Prop} {R : Server → SRenetServer → Prop}
    (hsim : RnSimOn P R) {I : Netcode.NetcodeServer → Prop} (hinv : NcInv a I) {Q : ServerGlue → List Nat → Array Dgram → Prop}
    (hQ : SendInv P a Q) (inbox : List Dgram) (buf : List Nat) :
    ∀ (ids : List Nat) (g : ServerGlue) (out : Array Dgram) (o : List Nat) (gr : SRenetServer),
      I g.netcode → R g.renet gr → o.length = C.NETCODE_MAX_PACKET_BYTES → Q g ids out →
      LoopOut (ε := ε) (ρ := ρ) R I inbox buf.length (serverSendLoop a g ids out)
        (RustSem.forEachExit ids (trR inbox out o g.netcode buf, gr) (@sendOuter (aeadOf a) ε ρ)) := by
  intro ids
  induction ids with
  | nil =>
    intro g out o gr hi hr ho _
    simp only [serverSendLoop, RustSem.forEachExit, LoopOut, Res.pure_eq]
    exact ⟨o, buf, gr, ho, rfl, hi, hr, rfl⟩
  | cons id rest ih =>
    intro g out o gr hi hr ho hq
    have hgp := hsim.gpts hr id (hQ.prem hq)
    rw [forEachExit_cons]
    simp only [serverSendLoop]
    cases hm : g.renet.getPacketsToSend id with
    | err e => exact nomatch e
    | panic m =>
      rw [hm] at hgp
      obtain ⟨msg, hg⟩ := hgp
      simp only [sendOuter, Exec.bind_eq, hg, attempt_panic', Exec.bind_panic', Res.bind_panic, LoopOut]
      exact ⟨_, rfl⟩
    | ok v =>
      obtain ⟨rs', ops⟩ := v
      rw [hm] at hgp
      cases ops with
      | none =>
        obtain ⟨g', e, hg⟩ := hgp
        simp only [sendOuter, Exec.bind_eq, hg, attempt_err', Exec.bind_val', RustSem.unwrap_ok, Exec.bind_panic',
          Res.bind_ok, LoopOut]
        exact ⟨_, rfl⟩
      | some ps =>
        obtain ⟨g', hr', hg⟩ := hgp
        have hin := sendClient_eq (ε := ε) (ρ := ρ) a hl hinv id g' inbox buf ps g.netcode out o hi ho
        simp only [Res.bind_ok]
        cases hm2 : serverSendClient a g.netcode id ps out with
        | err e => exact nomatch e
        | panic m =>
          rw [hm2] at hin
          obtain ⟨msg, hg2⟩ := hin
          simp only [sendOuter, Exec.bind_eq, hg, attempt_ok', Exec.bind_val', RustSem.unwrap_ok, hg2, Exec.bind_panic',
            Res.bind_panic, LoopOut]
          exact ⟨_, rfl⟩
        | ok v2 =>
          obtain ⟨ns', out'⟩ := v2
          rw [hm2] at hin
          obtain ⟨o', ho', hi', hg2 | hg2⟩ := hin
          · simp only [sendOuter, Exec.bind_eq, Exec.pure_eq, hg, attempt_ok', Exec.bind_val', RustSem.unwrap_ok, hg2, Res.bind_ok]
            exact ih { netcode := ns', renet := rs' } out' o' g' hi' hr' ho' (hQ.next hq hm hm2)
          · simp only [sendOuter, Exec.bind_eq, Exec.pure_eq, hg, attempt_ok', Exec.bind_val', RustSem.unwrap_ok, hg2,
              Exec.bind_ret', Res.bind_ok]
            exact ih { netcode := ns', renet := rs' } out' o' g' hi' hr' ho' (hQ.next hq hm hm2)

/-- `send_packets` from a socket whose log is `out` (`Transport.serverSendPackets` is the case `#[]`) -/
theorem tr_send_packets_on {ε : Type} (a : AEAD) (hl : a.Laws) {P : Server → Nat → Prop} {R : Server → SRenetServer → Prop}
    (hsim : RnSimOn P R) {I : Netcode.NetcodeServer → Prop} (hinv : NcInv a I) {Q : ServerGlue → List Nat → Array Dgram → Prop}
    (hQ : SendInv P a Q) (g : ServerGlue) (gr : SRenetServer) (hi : I g.netcode) (hr : R g.renet gr) (inbox : List Dgram)
    (out : Array Dgram) (o buf : List Nat) (ho : o.length = C.NETCODE_MAX_PACKET_BYTES) (hq : Q g g.renet.clientsId out) :
    TrOut (ε := ε) R I inbox buf.length (serverSendLoop a g g.renet.clientsId out)
      (@NetcodeServerTransport.send_packets (aeadOf a) ε (trR inbox out o g.netcode buf) gr) := by
  rw [@send_packets_unfold (aeadOf a)]
  rw [hsim.cids hr ε, Exec.call_ok, Exec.bind_val']
  exact (sendLoop_on a hl hsim hinv hQ inbox buf g.renet.clientsId g out o gr hi hr ho hq).trOut

/-- an invariant `Inv` of the model server that implies the per-call hypotheses of `SrcTieServer` (sorted keys, `CfgOk`, and,
    under the premise `P`, `ProcOk` / `SendOk` for the connection reached) and is kept by the four operations gives the
    simulation `Inv s ∧ g = reprServer mrss s` (for some ghost `mrss`) -/
theorem rnSimOn_of_inv (Inv : Server → Prop) (P : Server → Nat → Prop) (hsort : ∀ s, Inv s → MSorted s.conns)
    (hcfg : ∀ s, Inv s → CfgOk s)
    (hproc : ∀ s, Inv s → ∀ bytes id c, P s id → SMap.find? s.conns id = some c → ProcOk c bytes)
    (hsend : ∀ s, Inv s → ∀ id c, P s id → SMap.find? s.conns id = some c → SendOk c)
    (hppf : ∀ s, Inv s → ∀ bytes id s' b, s.processPacketFrom bytes id = .ok (s', b) → Inv s')
    (hadd : ∀ s, Inv s → ∀ id, Inv (s.addConnection id)) (hrem : ∀ s, Inv s → ∀ id, Inv (s.removeConnection id))
    (hgp : ∀ s, Inv s → ∀ id s' ps, s.getPacketsToSend id = .ok (s', ps) → Inv s') :
    RnSimOn P (fun s g => Inv s ∧ ∃ mrss, g = reprServer mrss s) where
  ppf := by
    rintro s g ⟨hi, mrss, rfl⟩ payload id hp
    obtain ⟨mrss', h⟩ := SrcTie.server_process_packet_from mrss s payload id (hsort s hi) (fun c => hproc s hi payload id c hp)
    cases hm : s.processPacketFrom payload id with
    | err e => exact nomatch e
    | panic m =>
      rw [hm] at h
      exact h.panics
    | ok v =>
      obtain ⟨s', b⟩ := v
      rw [hm] at h
      cases b with
      | true => exact ⟨_, ⟨hppf s hi _ _ _ _ hm, mrss', rfl⟩, Or.inl (h.eq_ok)⟩
      | false => exact ⟨_, ⟨hppf s hi _ _ _ _ hm, mrss', rfl⟩, Or.inr ⟨_, h.eq_err⟩⟩
  add := by
    rintro s g ⟨hi, mrss, rfl⟩ id
    exact ⟨_, ⟨hadd s hi id, _, rfl⟩, fun ε => SrcTie.server_add_connection mrss s id (hcfg s hi) (hsort s hi)⟩
  remove := by
    rintro s g ⟨hi, mrss, rfl⟩ id
    exact ⟨_, ⟨hrem s hi id, _, rfl⟩, fun ε => SrcTie.server_remove_connection mrss s id⟩
  cids := by
    rintro s g ⟨hi, mrss, rfl⟩ ε
    exact SrcTie.server_clients_id_key_order mrss s
  dids := by
    rintro s g ⟨hi, mrss, rfl⟩ ε
    exact SrcTie.server_disconnections_id_key_order mrss s
  gpts := by
    rintro s g ⟨hi, mrss, rfl⟩ id hp
    have h := SrcTie.server_get_packets_to_send mrss s id (hsort s hi) (fun c => hsend s hi id c hp)
    cases hm : s.getPacketsToSend id with
    | err e => exact nomatch e
    | panic m =>
      rw [hm] at h
      exact h.panics
    | ok v =>
      obtain ⟨s', ops⟩ := v
      rw [hm] at h
      cases ops with
      | some ps => exact ⟨_, ⟨hgp s hi _ _ _ hm, mrss, rfl⟩, h.eq_ok⟩
      | none => exact ⟨_, _, h.eq_err⟩

end TrServer
end RenetVerif.SrcEquiv
