/-
  Source tie, group SendRel: `renet/src/channel/reliable.rs`
  `UnackedMessage::new_sliced`, `SendChannelReliable::{new, available_memory, can_send_message, send_message,
  get_packets_to_send, process_message_ack, process_slice_message_ack}`
  ↔ `SendRel` of `Renet/Channels.lean` (`Unacked.newSliced`, `SendRel.new/available/canSend/sendMessage/getPackets/
  processMessageAck/processSliceAck`).

  `reprSR` maps a model state to the generated struct; the `BTreeMap<u64, UnackedMessage>` is an association list sorted
  by key on both sides (`RustSem.Map` / `SMap`; `MSorted` = strictly ascending keys), `reprU` maps the two variants.
  `send_message` is a `&mut self` method returning `Result`: its `Err` carries the (untouched) state.
  `get_packets_to_send` is the `'messages` loop over `iter_mut()` with its `continue`s, the slice loop with
  `continue 'messages`, the shadowed loop variable `i` and the literal `i + 1 % *num_slices`.  Its hypotheses
  (`UWf`, `needR`) say that the integer types are wide enough and that a sliced entry has `num_slices` flags /
  timestamps over a payload of that many slices — what `new_sliced` constructs (`send_rel_uwf_new_sliced`).
  `SameOutcome` compares `ok` / `err` values exactly and panics up to the text of the site.
-/
import RenetVerif.Lemmas.SrcEquiv.SendRel
namespace RenetVerif.SrcTie
open RenetVerif RenetVerif.SrcEquiv RenetVerif.RustSem
open Src.renet.channel.reliable

theorem send_rel_new {ε : Type} (channelId resend maxMem : Nat) :
    (SendChannelReliable.new channelId resend maxMem : Res ε _) = .ok (reprSR (SendRel.new channelId resend maxMem)) := rfl

theorem send_rel_available_memory {ε : Type} (s : SendRel) (h : s.mem ≤ s.maxMem) :
    (SendChannelReliable.available_memory (reprSR s) : Res ε Nat) = .ok s.available := by
  unfold SendChannelReliable.available_memory
  simp only [reprSR, sub_val h, Exec.run_val, SendRel.available]

theorem send_rel_can_send_message {ε : Type} (s : SendRel) (n : Nat) (h : n + s.mem < 2 ^ 64) :
    (SendChannelReliable.can_send_message (reprSR s) n : Res ε Bool) = .ok (s.canSend n) := by
  unfold SendChannelReliable.can_send_message
  simp only [reprSR, add_val h, Exec.bind_eq, Exec.bind_val', Exec.pure_eq, Exec.run_val, SendRel.canSend]
  congr

theorem send_rel_new_sliced {ε : Type} (m : Bytes) :
    (UnackedMessage.new_sliced (toNats m) : Res ε _) = .ok (reprU (Unacked.newSliced m)) := by
  unfold UnackedMessage.new_sliced
  have hl : RustSem.len (toNats m) = m.length := by simp [RustSem.len, toNats]
  simp only [hl, show Src.renet.packet.SLICE_SIZE = C.SLICE_SIZE from rfl, div_ceil_1200, Exec.bind_eq, Exec.bind_val',
    Exec.pure_eq, Exec.run_val, Unacked.newSliced, reprU, RustSem.repeat_]

theorem send_rel_send_message (s : SendRel) (m : Bytes) (h : s.mem + m.length < 2 ^ 64) (hid : s.nextId + 1 < 2 ^ 64) :
    SendChannelReliable.send_message (reprSR s) (toNats m) =
      match s.sendMessage m with
      | .ok s' => .ok (reprSR s', ())
      | .error e => .err (reprCE e, reprSR s) := by
  unfold SendChannelReliable.send_message SendRel.sendMessage
  have hl : RustSem.len (toNats m) = m.length := by simp [RustSem.len, toNats]
  simp only [reprSR, hl, add_val h, Exec.bind_eq, Exec.bind_val', Exec.pure_eq,
    show Src.renet.packet.SLICE_SIZE = C.SLICE_SIZE from rfl]
  by_cases hm : s.mem + m.length > s.maxMem
  · simp only [hm, decide_true, if_true, Exec.bind_err', Exec.run_err, reprCE]
  · simp only [hm, decide_false, Bool.false_eq_true, if_false, Exec.bind_val']
    by_cases hs : m.length > C.SLICE_SIZE
    · simp only [hs, decide_true, if_true, send_rel_new_sliced, Exec.call_ok, Exec.bind_val', insert_reprUM, add_val hid,
        Exec.run_val]
    · simp only [hs, decide_false, Bool.false_eq_true, if_false, Exec.bind_val', add_val hid, Exec.run_val,
        show UnackedMessage.Small (toNats m) none = reprU (.small m none) from rfl, insert_reprUM]

/-- `get_packets_to_send`: new channel state, `*packet_sequence`, `*available_bytes` and the packets of the model -/
theorem send_rel_get_packets_to_send {ε : Type} (s : SendRel) (seq avail now : Nat)
    (hwf : ∀ p ∈ s.unacked, UWf now p) (hseq : seq + needR s.unacked + 1 < 2 ^ 64) :
    (SendChannelReliable.get_packets_to_send (reprSR s) seq avail now : Res ε _) =
      .ok (reprSR (s.getPackets seq avail now).1, (s.getPackets seq avail now).2.2.1,
           (s.getPackets seq avail now).2.2.2, (s.getPackets seq avail now).2.1.map reprPacket) := by
  unfold SendChannelReliable.get_packets_to_send
  have hemp : RustSem.is_empty (reprSR s).unacked_messages = s.unacked.isEmpty := by
    cases h : s.unacked <;> simp [reprSR, reprUM, RustSem.is_empty, h]
  have hlen : RustSem.len (reprSR s).unacked_messages = s.unacked.length := by simp [reprSR, reprUM, RustSem.len]
  rw [hemp]
  cases hE : s.unacked.isEmpty with
  | true =>
    rw [if_pos rfl, Exec.bind_ret, Exec.run_ret]
    simp [SendRel.getPackets, hE]
  | false =>
    simp only [hlen, Exec.bind_eq, Exec.pure_eq, Bool.false_eq_true, if_false, Exec.bind_val', RustSem.forRangeExit,
      Nat.sub_zero]
    have h0 : ((avail, seq, ([] : List SPacket), reprSR s, ([] : List (Nat × List Nat)), 0) : SigO)
        = outerSt s ([] ++ s.unacked) ⟨[], [], 0, seq, avail⟩ := rfl
    rw [h0, rel_loop s now _ ?hb s.unacked [] _ 0 rfl hwf ⟨hseq, by simp⟩]
    case hb =>
      intro pre p post gp hp hinv
      obtain ⟨id, u⟩ := p
      obtain ⟨i1, i2⟩ := hinv
      cases u with
      | small m ls =>
        obtain ⟨w1, w2, w3⟩ := hp
        simp only [needR] at i1
        have hm64 : m.length < 2 ^ 64 := by unfold Varint.MAX at w2; omega
        dsimp +instances only [outerSt, chanOf]
        simp only [index_reprUM_at, Exec.bind_val', reprU, UnackedMessage.Small.message?,
          UnackedMessage.Small.last_sent?, UnackedMessage.Small.set_last_sent, RustSem.unwrap, RustSem.len, toNats_length,
          cast_of_lt hm64, set_reprUM_small, show Src.renet.packet.SLICE_SIZE = C.SLICE_SIZE from rfl,
          due_check now s.resend ls _ _ _ w3, relStep]
        by_cases hA : gp.avail < m.length
        · simp only [hA, decide_true, if_true, true_or, Exec.bind_ret', goesOn_cont]
        by_cases hdue : dueAt now s.resend ls = false
        · simp only [hA, hdue, decide_false, Bool.false_eq_true, if_false, if_true, or_true, Exec.bind_val', Exec.bind_ret',
            goesOn_cont]
        have hv1 := varintLen_le m.length
        have hv2 := varintLen_le id
        unfold Varint.MAX at w2
        have ha1 : m.length + varintLen m.length < 2 ^ 64 := by omega
        have ha2 : m.length + varintLen m.length + varintLen id < 2 ^ 64 := by omega
        have ha3 : gp.smallBytes + (m.length + varintLen m.length + varintLen id) < 2 ^ 64 := by omega
        have ha4 : 0 + (m.length + varintLen m.length + varintLen id) < 2 ^ 64 := by omega
        have hs1 : gp.seq + 1 < 2 ^ 64 := by omega
        simp only [hA, hdue, decide_false, Bool.false_eq_true, if_false, Exec.bind_val',
          sub_val (Nat.le_of_not_lt hA), varint_len_eq _ w2, varint_len_eq _ w1, Exec.call_ok, add_val ha1, add_val ha2,
          add_val ha3]
        by_cases hF : gp.smallBytes + (m.length + varintLen m.length + varintLen id) > C.SLICE_SIZE
        · simp [hF, add_val hs1, add_val ha4, Exec.bind_val', Exec.bind_ret', flushSmall, RustSem.push, reprPacket, goesOn_cont]
        · simp [hF, add_val ha3, Exec.bind_val', Exec.bind_ret', RustSem.push, goesOn_cont]
      | sliced m n a nx acked ls =>
        obtain ⟨w1, w2, w3, w4, w5, w6, w7⟩ := hp
        simp only [needR] at i1
        dsimp +instances only [outerSt, chanOf]
        simp only [index_reprUM_at, Exec.bind_val', reprU, acc_next, acc_num, unwrap_some,
          show Src.renet.packet.SLICE_SIZE = C.SLICE_SIZE from rfl]
        have hinit : SInv now n (gp.seq + n) gp.small gp.smallBytes n (ls, nx, gp) :=
          ⟨w2, w7, Nat.le_refl _, rfl, rfl⟩
        have hI : ((gp.avail, gp.seq, List.map reprPacket gp.packets,
            ({ channel_id := s.ch, unacked_messages := reprUM (pre ++ (id, Unacked.sliced m n a nx acked ls) :: post),
               next_reliable_message_id := s.nextId, resend_time := s.resend, max_memory_usage_bytes := s.maxMem,
               memory_usage_bytes := s.mem } : SendChannelReliable)) : SigI)
            = innerSt s pre id m n a acked post (ls, nx, gp) := rfl
        rw [hI, sliced_loop s pre post id now m n a nx acked (gp.seq + n) gp.small gp.smallBytes _ ?hbi n 0 (ls, nx, gp)
          (by omega) hinit]
        case hbi =>
          intro i0 k st hi hinv
          obtain ⟨ls', nx', gp'⟩ := st
          obtain ⟨v1, v2, v3, v4, v5⟩ := hinv
          simp only at v1 v2 v3 v4 v5
          dsimp +instances only [innerSt, tableAt, chanOf, outerSt]
          simp only [cast_of_lt (show C.SLICE_SIZE < 2 ^ 64 by decide)]
          constructor
          · intro hav
            simp only [hav, decide_true, if_true, Exec.bind_ret', v4, v5]
          · intro hav
            have hn0 : n ≠ 0 := by omega
            have hadd : nx + i0 < 2 ^ 64 := by omega
            simp only [slStep, hav, decide_false, Bool.false_eq_true, if_false, Exec.bind_val', add_val hadd,
              index_reprUM_at, reprU, acc_num, acc_acked, acc_last, acc_msg, unwrap_some, rem_val hn0]
            have hilt : (nx + i0) % n < n := Nat.mod_lt _ (by omega)
            generalize (nx + i0) % n = i at hilt ⊢
            rw [index_val (getElem?_getD false (by omega)), Exec.bind_val']
            by_cases hack : acked.getD i false = true
            · simp only [hack, if_true, Exec.bind_ret', goesOn_cont]
            have hli : ls'[i]? = some (ls'.getD i none) := getElem?_getD none (by omega)
            have hpast : ∀ t, ls'.getD i none = some t → t ≤ now := fun t ht =>
              v2 _ (List.mem_of_getElem? (ht ▸ hli)) t rfl
            simp only [hack, Bool.false_eq_true, if_false, Exec.bind_val', index_val hli,
              due_check now s.resend _ _ _ _ hpast]
            by_cases hdue : dueAt now s.resend (ls'.getD i none) = false
            · simp only [hdue, if_true, Exec.bind_ret', goesOn_cont]
            obtain ⟨hm1, h2, h3, hnx⟩ := slice_bounds hilt w5
            have hpl := sliceBytes_len_le m n i hilt w4
            have hpl64 : (sliceBytes m n i).length < 2 ^ 64 := Nat.lt_of_le_of_lt hpl (by decide)
            have hpa : (sliceBytes m n i).length ≤ gp'.avail := by omega
            have hseq1 : gp'.seq + 1 < 2 ^ 64 := by omega
            simp only [hdue, Bool.true_eq_false, if_false, Exec.bind_val', mul_val hm1, sub_val (Nat.one_le_iff_ne_zero.mpr hn0),
              add_val h2, mul_val h3, ite_val, decide_eq_true_eq, RustSem.len, toNats_length,
              slice_sliceBytes m n i _ hilt w3, cast_of_lt hpl64, sub_val hpa, add_val hseq1,
              set_val (show i < ls'.length by omega), UnackedMessage.Sliced.set_last_sent, set_reprUM_sliced,
              index_reprUM_at, reprU, acc_num, unwrap_some, rem_val hn0, add_val hnx,
              UnackedMessage.Sliced.set_next_slice_to_send, RustSem.push, List.map_append, List.map_cons, List.map_nil,
              reprPacket, reprSlice, goesOn_val]
        have hfin := slicedLoop_inv s.ch id s.resend m nx acked (List.range n) (ls, nx, gp)
          (by simpa using hinit)
        simp only [← List.range_eq_range']
        cases slicedExit s.ch id now s.resend m n nx acked (List.range n) (ls, nx, gp) with
        | true =>
          simp only [if_true, Exec.bind_ret', relStep, outerSt, tableAt, chanOf, goesOn_cont]
        | false =>
          simp only [Bool.false_eq_true, if_false, Exec.bind_val', relStep, innerSt, tableAt, chanOf, hfin.small,
            hfin.smallBytes, goesOn_val]
    have hfin := RInv_loop s.ch s.resend s.unacked ⟨[], [], 0, seq, avail⟩ hwf ⟨hseq, by simp⟩
    simp only [List.nil_append, Exec.bind_val', outerSt, chanOf, SendRel.getPackets, hE, Bool.false_eq_true, if_false]
    generalize relLoop s.ch now s.resend s.unacked ⟨[], [], 0, seq, avail⟩ = r at hfin
    obtain ⟨un, g⟩ := r
    have hs1 : g.seq + 1 < 2 ^ 64 := by have := hfin.seq; simp only [needR] at this; omega
    have hemp2 : RustSem.is_empty (List.map (fun x : Nat × Bytes => (x.fst, toNats x.snd)) g.small) = g.small.isEmpty := by
      cases g.small <;> rfl
    simp only [hemp2]
    cases hsm : g.small.isEmpty with
    | true => simp [Exec.bind_val', Exec.run_val, reprSR]
    | false => simp [Exec.bind_val', Exec.run_val, reprSR, add_val hs1, RustSem.push, reprPacket, flushSmall]

theorem send_rel_uwf_new_sliced (now id : Nat) (m : Bytes) (hm : m.length > C.SLICE_SIZE)
    (h64 : m.length + C.SLICE_SIZE < 2 ^ 64) : UWf now (id, Unacked.newSliced m) := by
  have hS : C.SLICE_SIZE = 1200 := rfl
  simp only [Unacked.newSliced, UWf, List.length_replicate, true_and, Nat.zero_add]
  unfold divCeil
  simp only [hS] at *
  refine ⟨by omega, by omega, by omega, by omega, ?_⟩
  intro t ht t' ht'
  rw [List.eq_of_mem_replicate ht] at ht'
  cases ht'

theorem send_rel_process_message_ack {ε : Type} (s : SendRel) (id : Nat) :
    SameOutcome (SendChannelReliable.process_message_ack (reprSR s) id : Res ε _)
      (mapRes (fun s' => (reprSR s', ())) (fun e => nomatch e) (s.processMessageAck id)) := by
  unfold SendChannelReliable.process_message_ack SendRel.processMessageAck
  simp only [reprSR, contains_reprUM, find_reprUM, remove_reprUM, Exec.bind_eq, Exec.pure_eq]
  cases hf : SMap.find? s.unacked id with
  | none => simp [Exec.bind_val', Exec.run_val, mapRes, SameOutcome]
  | some u =>
    cases u with
    | small m ls =>
      have hl : RustSem.len (toNats m) = m.length := by simp [RustSem.len, toNats]
      simp only [Option.isSome_some, if_true, Option.map_some, RustSem.unwrap, reprU, Exec.bind_val', hl]
      by_cases hm : m.length ≤ s.mem
      · simp [sub_val hm, Exec.bind_val', Exec.run_val, Res.csub, hm, mapRes, SameOutcome]
      · simp [sub_panic hm, Exec.bind_panic', Exec.run_panic, Res.csub, hm, mapRes, SameOutcome]
    | sliced m n a nx acked ls =>
      simp [RustSem.unwrap, reprU, Exec.bind_val', Exec.bind_panic', Exec.run_panic, mapRes, SameOutcome]

/-- `process_slice_message_ack` on a sorted table whose acked-slices counter cannot overflow -/
theorem send_rel_process_slice_message_ack {ε : Type} (s : SendRel) (id idx : Nat) (hs : MSorted s.unacked)
    (hna : ∀ m n a nx acked ls, SMap.find? s.unacked id = some (.sliced m n a nx acked ls) → a + 1 < 2 ^ 64) :
    SameOutcome (SendChannelReliable.process_slice_message_ack (reprSR s) id idx : Res ε _)
      (mapRes (fun s' => (reprSR s', ())) (fun e => nomatch e) (s.processSliceAck id idx)) := by
  unfold SendChannelReliable.process_slice_message_ack SendRel.processSliceAck
  simp only [reprSR, contains_reprUM, RustSem.Map.index, find_reprUM, Exec.bind_eq, Exec.pure_eq]
  cases hf : SMap.find? s.unacked id with
  | none => simp only [Option.isSome_none, Bool.false_eq_true, reduceIte, Exec.run_ret, mapRes, SameOutcome]
  | some u =>
    cases u with
    | small m ls =>
      simp only [Option.isSome_some, reduceIte, Option.map_some, reprU, Exec.bind_val', Exec.run_panic, mapRes, SameOutcome]
    | sliced m n a nx acked ls =>
      have ha := hna m n a nx acked ls hf
      simp only [Option.isSome_some, if_true, Option.map_some, reprU, Exec.bind_val', UnackedMessage.Sliced.acked?,
        RustSem.unwrap]
      cases hg : acked[idx]? with
      | none => simp only [index_panic hg, Exec.bind_panic', Exec.run_panic, mapRes, SameOutcome]
      | some b =>
        have hlt : idx < acked.length := by
          rcases Nat.lt_or_ge idx acked.length with h | h
          · exact h
          · rw [List.getElem?_eq_none h] at hg; cases hg
        rw [index_val hg, Exec.bind_val']
        cases b with
        | true => simp only [reduceIte, Exec.bind_ret', Exec.run_ret, mapRes, SameOutcome]
        | false =>
          simp only [Bool.false_eq_true, if_false, Exec.bind_val', set_val hlt, UnackedMessage.Sliced.set_acked,
            insert_reprUM_sliced, find_reprUM, SMap.find?_insert_self, Option.map_some, reprU, UnackedMessage.Sliced.num_acked_slices?,
            add_val ha, UnackedMessage.Sliced.set_num_acked_slices,
            SMap.insert_insert, UnackedMessage.Sliced.num_slices?, UnackedMessage.Sliced.message?]
          have hl : RustSem.len (toNats m) = m.length := by simp [RustSem.len, toNats]
          by_cases hn : a + 1 = n
          · simp only [hn, decide_true, if_true, hl, remove_reprUM, SMap.erase_insert ((msorted_iff _).mp hs)]
            by_cases hm : m.length ≤ s.mem
            · simp only [sub_val hm, Exec.bind_val', Exec.run_val, Res.csub, hm, reduceIte, Res.pure_eq, Res.bind_ok, mapRes,
                SameOutcome]
            · simp only [sub_panic hm, Exec.bind_panic', Exec.run_panic, Res.csub, hm, reduceIte, Res.pure_eq, Res.bind_panic,
                mapRes, SameOutcome]
          · simp only [hn, decide_false, Bool.false_eq_true, reduceIte, Exec.bind_val', Exec.run_val, Res.pure_eq, mapRes,
              SameOutcome]

/-- memory limit: `Err` with the unchanged channel -/
example : SendChannelReliable.send_message ⟨0, [], 5, 100, 2, 0⟩ [1, 2, 3] =
    .err (.ReliableChannelMaxMemoryReached, ⟨0, [], 5, 100, 2, 0⟩) := by decide +kernel
example : SendChannelReliable.send_message ⟨0, [], 5, 100, 10, 0⟩ [1, 2, 3] =
    .ok (⟨0, [(5, .Small [1, 2, 3] none)], 6, 100, 10, 3⟩, ()) := by decide +kernel
/-- two small messages, the second one sent 40 ns ago with a resend time of 100 ns: only the first is packed -/
example : (SendChannelReliable.get_packets_to_send
      ⟨3, [(5, .Small [1, 2, 3] none), (6, .Small [4] (some 960))], 7, 100, 10, 4⟩ 20 5000 1000 : Res Empty _) =
    .ok (⟨3, [(5, .Small [1, 2, 3] (some 1000)), (6, .Small [4] (some 960))], 7, 100, 10, 4⟩, 21, 4997,
         [.SmallReliable 20 3 [(5, [1, 2, 3])]]) := by decide +kernel
/-- a two-slice message whose slice 0 is acked, starting at `next_slice_to_send = 1`: slice 1 is sent once, and
    `*next_slice_to_send = i + 1 % *num_slices` stores `1 + (1 % 2) = 2` (not `(1 + 1) % 2 = 0`) -/
example : (SendChannelReliable.get_packets_to_send
      ⟨3, [(9, .Sliced (List.replicate 1201 7) 2 1 1 [true, false] [some 0, none])], 10, 100, 5000, 1201⟩ 20 5000 1000
        : Res Empty _) =
    .ok (⟨3, [(9, .Sliced (List.replicate 1201 7) 2 1 2 [true, false] [some 0, some 1000])], 10, 100, 5000, 1201⟩,
         21, 4999, [.ReliableSlice 20 3 ⟨9, 1, 2, [7]⟩]) := by decide +kernel
/-- budget below one slice: `continue 'messages` leaves the sliced entry untouched, the small one behind it is sent -/
example : (SendChannelReliable.get_packets_to_send
      ⟨3, [(9, .Sliced (List.replicate 1201 7) 2 0 0 [false, false] [none, none]), (10, .Small [4] none)], 11, 100, 5000, 1202⟩
        20 1199 1000 : Res Empty _) =
    .ok (⟨3, [(9, .Sliced (List.replicate 1201 7) 2 0 0 [false, false] [none, none]), (10, .Small [4] (some 1000))],
           11, 100, 5000, 1202⟩, 21, 1198, [.SmallReliable 20 3 [(10, [4])]]) := by decide +kernel
example : (SendChannelReliable.process_message_ack ⟨0, [(5, .Small [1, 2, 3] none)], 6, 100, 10, 3⟩ 5 : Res Empty _) =
    .ok (⟨0, [], 6, 100, 10, 0⟩, ()) := by decide +kernel
/-- the last missing slice is acked: the entry is removed and its bytes released -/
example : (SendChannelReliable.process_slice_message_ack
      ⟨0, [(9, .Sliced (List.replicate 1201 7) 2 1 0 [true, false] [none, none])], 10, 100, 5000, 1201⟩ 9 1 : Res Empty _) =
    .ok (⟨0, [], 10, 100, 5000, 0⟩, ()) := by decide +kernel

end RenetVerif.SrcTie
